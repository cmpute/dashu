import Dashu.Model.Int.Bits
/-
  The number of trailing zeros, `IsTz n k` (`2 ^ k ∣ n` with an odd quotient, `Model/Int/Bits.lean`).  The model counts
  trailing zeros in nine places (`Model.tzAux`, `Gen.BitScans.trailing_zeros`, `Model.trailingZeros`, `NT.tzLoop`,
  `Ratio.tz`, `Serde.tz`, `Conv.trailingZeros`, `Float.tzAux`, `Mem.trailingZeros`), each a copy of the code's
  `trailing_zeros`: every one of them is 0 on an odd number and one more than its value at the half on an even one, which
  is all `IsTz.of_halving` / `IsTz.of_fuel` ask for; `IsTz.unique` then makes any two of them equal.
  Everything follows from `isTz_iff`.  Core Lean only.
-/
namespace Dashu.Model

theorem isTz_iff {n k : Nat} : IsTz n k ↔ ∃ j, n = 2 ^ k * (2 * j + 1) := by
  constructor
  · rintro ⟨h1, h2⟩
    refine ⟨n / 2 ^ k / 2, ?_⟩
    rw [Nat.mul_comm 2, ← h2, Nat.div_add_mod']
    exact (Nat.mul_div_cancel' (Nat.dvd_of_mod_eq_zero h1)).symm
  · rintro ⟨j, rfl⟩
    exact ⟨Nat.mul_mod_right _ _, by rw [Nat.mul_div_cancel_left _ (Nat.two_pow_pos k)]; omega⟩

theorem IsTz.zero_of_odd {n : Nat} (h : n % 2 = 1) : IsTz n 0 :=
  isTz_iff.2 ⟨n / 2, by omega⟩

theorem IsTz.double {j k : Nat} (h : IsTz j k) : IsTz (2 * j) (k + 1) := by
  obtain ⟨i, rfl⟩ := isTz_iff.1 h
  exact isTz_iff.2 ⟨i, by rw [Nat.pow_succ, Nat.mul_comm (2 ^ k) 2, Nat.mul_assoc]⟩

theorem IsTz.dvd {n k : Nat} (h : IsTz n k) : 2 ^ k ∣ n := Nat.dvd_of_mod_eq_zero h.1

theorem IsTz.not_dvd_succ {n k : Nat} (h : IsTz n k) : ¬ 2 ^ (k + 1) ∣ n := by
  rintro ⟨c, hc⟩
  have h2 := h.2
  rw [hc, Nat.pow_succ, Nat.mul_assoc, Nat.mul_div_cancel_left _ (Nat.two_pow_pos k)] at h2
  omega

theorem IsTz.unique {n k k' : Nat} (h : IsTz n k) (h' : IsTz n k') : k = k' := by
  -- for `a < b` the power `2 ^ (a + 1)` divides `2 ^ b`
  have key : ∀ {a b : Nat}, IsTz n a → IsTz n b → ¬ a < b := fun ha hb hab =>
    ha.not_dvd_succ (Nat.dvd_trans (Nat.pow_dvd_pow 2 hab) hb.dvd)
  exact Nat.le_antisymm (Nat.le_of_not_lt (key h' h)) (Nat.le_of_not_lt (key h h'))

/-- a count that is 0 on odd numbers and one more than the count of the half on even ones is the number of trailing zeros -/
theorem IsTz.of_halving {f : Nat → Nat} (hodd : ∀ n, n % 2 = 1 → f n = 0)
    (heven : ∀ n, n ≠ 0 → n % 2 = 0 → f n = f (n / 2) + 1) (n : Nat) (hn : n ≠ 0) : IsTz n (f n) := by
  induction n using Nat.strongRecOn with
  | _ n ih =>
    by_cases ho : n % 2 = 1
    · rw [hodd n ho]; exact IsTz.zero_of_odd ho
    · have := (ih (n / 2) (by omega) (by omega)).double
      rwa [show 2 * (n / 2) = n by omega, ← heven n hn (by omega)] at this

/-- the same for a count that carries fuel: `n < 2 ^ fuel` is enough fuel -/
theorem IsTz.of_fuel {g : Nat → Nat → Nat} (hodd : ∀ f n, n % 2 = 1 → g (f + 1) n = 0)
    (heven : ∀ f n, n ≠ 0 → n % 2 = 0 → g (f + 1) n = g f (n / 2) + 1) :
    ∀ f n, n ≠ 0 → n < 2 ^ f → IsTz n (g f n)
  | 0, n, hn, hlt => by omega
  | f + 1, n, hn, hlt => by
    by_cases ho : n % 2 = 1
    · rw [hodd f n ho]; exact IsTz.zero_of_odd ho
    · have := (IsTz.of_fuel hodd heven f (n / 2) (by omega) (by rw [Nat.pow_succ] at hlt; omega)).double
      rwa [show 2 * (n / 2) = n by omega, ← heven f n hn (by omega)] at this

end Dashu.Model
