/-
  A loop with fuel as the iteration of a step function: a step fails, returns (`inl`) or goes on (`inr`).  Whatever is said
  of what such a loop returns needs one induction on the fuel, done here: `returns` (an invariant indexed by the number of
  steps taken, a condition on the returning step), `mono` (more fuel never changes a result), `terminates` (an invariant
  that excludes failure and forces the return before step `N`).  Core Lean only.
-/
namespace Dashu.Proofs.Gen

structure Fuelled {α β ε : Type} (L : Nat → α → Except ε (Option β)) (step : α → Except ε (β ⊕ α)) : Prop where
  zero : ∀ a, L 0 a = .ok none
  succ : ∀ f a, L (f + 1) a =
    match step a with
    | .error e => .error e
    | .ok (.inl b) => .ok (some b)
    | .ok (.inr a') => L f a'

namespace Fuelled
variable {α β ε : Type} {L : Nat → α → Except ε (Option β)} {step : α → Except ε (β ⊕ α)}

/-- a value returned from a state that satisfies `I n` was returned by a step numbered `m`, `n ≤ m < n + fuel`, from a
    state that satisfies `I m` -/
theorem returns (h : Fuelled L step) (I : Nat → α → Prop) (Q : Nat → β → Prop)
    (hstep : ∀ n a, I n a → (∀ b, step a = .ok (.inl b) → Q n b) ∧ (∀ a', step a = .ok (.inr a') → I (n + 1) a')) :
    ∀ f n a b, I n a → L f a = .ok (some b) → ∃ m, n ≤ m ∧ m < n + f ∧ Q m b
  | 0, n, a, b, _, hL => by rw [h.zero] at hL; cases hL
  | f + 1, n, a, b, hI, hL => by
    rw [h.succ] at hL
    obtain ⟨h1, h2⟩ := hstep n a hI
    cases hs : step a with
    | error e => rw [hs] at hL; cases hL
    | ok v =>
      rw [hs] at hL
      cases v with
      | inl b' => cases hL; exact ⟨n, Nat.le_refl n, by omega, h1 _ hs⟩
      | inr a' =>
        obtain ⟨m, hm1, hm2, hQ⟩ := returns h I Q hstep f (n + 1) a' b (h2 _ hs) hL
        exact ⟨m, by omega, by omega, hQ⟩

theorem mono (h : Fuelled L step) : ∀ f g a b, f ≤ g → L f a = .ok (some b) → L g a = .ok (some b)
  | 0, _, a, b, _, hL => by rw [h.zero] at hL; cases hL
  | f + 1, 0, _, _, hfg, _ => by omega
  | f + 1, g + 1, a, b, hfg, hL => by
    rw [h.succ] at hL ⊢
    revert hL
    cases step a with
    | error e => exact id
    | ok v =>
      cases v with
      | inl b' => exact id
      | inr a' => exact mono h f g a' b (by omega)

/-- the loop returns, by a step numbered below `N`, if from a state that satisfies `I n` with `n < N` a step does not fail,
    and goes on only to a state that satisfies `I (n + 1)` with `n + 1 < N` -/
theorem terminates (h : Fuelled L step) (I : Nat → α → Prop) (Q : Nat → β → Prop) (N : Nat)
    (hstep : ∀ n a, I n a → n < N → match step a with
      | .error _ => False
      | .ok (.inl b) => Q n b
      | .ok (.inr a') => I (n + 1) a' ∧ n + 1 < N) :
    ∀ f n a, I n a → n < N → N ≤ n + f → ∃ b m, L f a = .ok (some b) ∧ n ≤ m ∧ m < N ∧ Q m b
  | 0, _, _, _, hn, hf => by omega
  | f + 1, n, a, hI, hn, hf => by
    have hs := hstep n a hI hn
    rw [h.succ]
    cases hv : step a with
    | error e => rw [hv] at hs; exact hs.elim
    | ok v =>
      rw [hv] at hs
      cases v with
      | inl b => exact ⟨b, n, rfl, Nat.le_refl n, hn, hs⟩
      | inr a' =>
        obtain ⟨b, m, hb, hm1, hm2, hQ⟩ := terminates h I Q N hstep f (n + 1) a' hs.1 hs.2 (by omega)
        exact ⟨b, m, hb, by omega, hm2, hQ⟩

end Fuelled
end Dashu.Proofs.Gen
