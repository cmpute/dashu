import Dashu.Model.GluePrelude.Ext
/-
  Lemmas and tactics for the theorems about REGENERATED decision bodies (`Props/Gen*.lean`).

  The proofs must not depend on the literal shape of the generated text: a behaviour-preserving rewrite of
  the Rust source (negated test with swapped arms, reordered match arms, commuted operands, `a >= b` written
  `!(a < b)`) has to leave them checking.  Two things provide that:
  * the translator writes a canonical text (`vlib/extract.py`: comparisons oriented as `<` / `<=`, negations of
    comparisons folded, `if !c` arms swapped, operands of commutative integer operators and closed match arms
    sorted), and
  * the operators of the source text are rewritten to their meaning on `Int` (`le_int` … `sign_int`), and
    `gcases h : atom` cases on an atom of the decision logic, brings sums to one operand order (`gac`) and
    evaluates both sides with it (`gprune`), in whatever polarity and arm order the text has the test.
  Core Lean only.
-/
namespace Dashu.Proofs.Gen
open Dashu Dashu.GluePrelude

/-! ### the operators of the source text on `Int` -/

@[simp] theorem ge_int (a b : Int) : ge_ a b = decide (b ≤ a) := by
  unfold ge_; rw [Bool.eq_iff_iff, bne_iff_ne, decide_eq_true_eq]; exact Int.compare_ne_lt

@[simp] theorem le_int (a b : Int) : le_ a b = decide (a ≤ b) := by
  unfold le_; rw [Bool.eq_iff_iff, bne_iff_ne, decide_eq_true_eq]; exact Int.compare_ne_gt

@[simp] theorem gt_int (a b : Int) : gt_ a b = decide (b < a) := by
  unfold gt_; rw [Bool.eq_iff_iff, beq_iff_eq, decide_eq_true_eq]; exact Int.compare_eq_gt

@[simp] theorem lt_int (a b : Int) : lt_ a b = decide (a < b) := by
  unfold lt_; rw [Bool.eq_iff_iff, beq_iff_eq, decide_eq_true_eq]; exact Int.compare_eq_lt

theorem eq_def {α} [DecidableEq α] (a b : α) : eq_ a b = decide (a = b) := rfl
theorem ne_def {α} [DecidableEq α] (a b : α) : ne_ a b = !decide (a = b) := rfl
@[simp] theorem eq_int (a b : Int) : eq_ a b = decide (a = b) := rfl
@[simp] theorem ne_int (a b : Int) : ne_ a b = !decide (a = b) := rfl
@[simp] theorem cmp_int (a b : Int) : cmp a b = compare a b := rfl
@[simp] theorem add_int (a b : Int) : add_ a b = a + b := rfl
@[simp] theorem sub_int (a b : Int) : sub_ a b = a - b := rfl
@[simp] theorem mul_int (a b : Int) : mul_ a b = a * b := rfl
@[simp] theorem neg_int (a : Int) : neg_ a = -a := rfl
@[simp] theorem is_zero_int (a : Int) : is_zero a = decide (a = 0) := rfl
@[simp] theorem sign_int (a : Int) : sign a = if a < 0 then Sign.Negative else Sign.Positive := rfl

/-! ### `compare` decided by arithmetic -/

theorem compare_natCast (a b : Nat) : compare (a : Int) (b : Int) = compare a b := by
  rw [Int.compare_eq_ite_lt, Nat.compare_eq_ite_lt]; simp only [Int.ofNat_lt]

theorem compare_natCast_succ (a b : Nat) : compare (a : Int) ((b : Int) + 1) = compare a (b + 1) := by
  rw [← compare_natCast]; simp

theorem compare_self_int (a : Int) : compare a a = Ordering.eq := Int.compare_eq_eq.mpr rfl
theorem compare_self_nat (a : Nat) : compare a a = Ordering.eq := Nat.compare_eq_eq.mpr rfl

theorem nat_tri (a b : Nat) :
    (a < b ∧ ¬ a = b ∧ ¬ b < a ∧ ¬ b ≤ a ∧ a ≤ b ∧ compare a b = Ordering.lt) ∨
    (¬ a < b ∧ a = b ∧ ¬ b < a ∧ b ≤ a ∧ a ≤ b ∧ compare a b = Ordering.eq) ∨
    (¬ a < b ∧ ¬ a = b ∧ b < a ∧ b ≤ a ∧ ¬ a ≤ b ∧ compare a b = Ordering.gt) := by
  rcases Nat.lt_trichotomy a b with h | h | h
  · left; exact ⟨h, by omega, by omega, by omega, by omega, Nat.compare_eq_lt.mpr h⟩
  · right; left; exact ⟨by omega, h, by omega, by omega, by omega, Nat.compare_eq_eq.mpr h⟩
  · right; right; exact ⟨by omega, by omega, h, by omega, by omega, Nat.compare_eq_gt.mpr h⟩

/-! ### tactics -/

theorem zero_eq_int (x : Int) : ((0 : Int) = x) = (x = 0) := propext ⟨Eq.symm, Eq.symm⟩
theorem one_eq_int (x : Int) : ((1 : Int) = x) = (x = 1) := propext ⟨Eq.symm, Eq.symm⟩
theorem zero_eq_nat (x : Nat) : ((0 : Nat) = x) = (x = 0) := propext ⟨Eq.symm, Eq.symm⟩

/-- prune both sides of a goal with the hypotheses in scope: rewrites with every hypothesis, evaluates
    `decide`, boolean connectives, `if`s and matches on constructors (syntactic; fast). -/
syntax "gprune" (" [" term,* "]")? : tactic
macro_rules
  | `(tactic| gprune) => `(tactic| gprune [if_true])
  | `(tactic| gprune [$ls:term,*]) => do
    let xs := ls.getElems
    `(tactic| simp only [*, $[$xs:term],*, decide_true, decide_false, Bool.and_true, Bool.true_and,
      Bool.and_false, Bool.false_and, Bool.or_true, Bool.true_or, Bool.or_false, Bool.false_or, Bool.not_true,
      Bool.not_false, beq_self_eq_true, bne_self_eq_false, Bool.false_eq_true, if_true, if_false, beq_iff_eq,
      bne_iff_ne, ne_eq, not_true_eq_false, not_false_eq_true, reduceIte, reduceCtorEq, Bool.and_eq_true,
      Bool.or_eq_true, and_self, and_true, true_and, and_false, false_and, or_true, true_or, or_false, false_or,
      decide_eq_true_eq, Bool.not_eq_true', decide_eq_false_iff_not, Classical.not_not, Int.natCast_eq_zero, ge_iff_le, gt_iff_lt,
      Int.lt_irrefl, Int.le_refl, Nat.lt_irrefl, Nat.le_refl, Bool.true_eq_false, Bool.decide_eq_true,
      Bool.not_eq_true, Bool.not_eq_false, compare_self_int, compare_self_nat,
      le_int, lt_int, ge_int, gt_int, eq_int, ne_int, add_int, sub_int, mul_int, neg_int, is_zero_int, cmp_int])

/-- put sums into a fixed order (ordered rewriting with the permutation lemmas of `+`): after it, `a + b < c` and
    `b + a < c` are the same term, in the goal and in a hypothesis alike -/
syntax "gac" (" at " ident)? : tactic
macro_rules
  | `(tactic| gac) => `(tactic| try simp only [Int.add_comm, Int.add_left_comm, Int.add_assoc, Int.mul_comm, Int.mul_left_comm,
      Int.mul_assoc])
  | `(tactic| gac at $h:ident) => `(tactic| try simp only [Int.add_comm, Int.add_left_comm, Int.add_assoc, Int.mul_comm,
      Int.mul_left_comm, Int.mul_assoc] at $h:ident)

/-- close a leaf: both sides are the same up to the order of operands -/
syntax "gclose" : tactic
macro_rules
  | `(tactic| gclose) => `(tactic| (gac; first | done | rfl | omega | (simp_all; done)))

/-- case on an atom of the decision logic and prune; does nothing when the goal is not affected by it.
    The atom is brought to the same normal form as the goal (`gac`), so it may be written in any operand order. -/
syntax "gcases " ("[" term,* "] ")? ident " : " term : tactic
macro_rules
  | `(tactic| gcases $h:ident : $t:term) => `(tactic| (gac; first | (by_cases $h:ident : $t <;> (gac at $h) <;> gprune) | skip))
  | `(tactic| gcases [$ls:term,*] $h:ident : $t:term) =>
    `(tactic| (gac; first | (by_cases $h:ident : $t <;> (gac at $h) <;> gprune [$ls,*]) | skip))

end Dashu.Proofs.Gen
