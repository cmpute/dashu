/-
  The bit length `if n = 0 then 0 else Nat.log2 n + 1`.  The model defines it nine times (`NT.bitLen`, `Cross.bitLen`,
  `Conv.bitLen`, `Text.bitLen`, `Trans.bitLen`, `Model.bitLen`, `Model.bitLenNat`, `GluePrelude.MachInt.bitLength`,
  `Spec.Panics.bitLen`), each a copy of the code's `bit_len`; all unfold to `blen`, so every lemma here is, as it
  stands, a proof of the same statement about any of them.  Everything follows from `blen_le_iff`.
  Core Lean only.
-/
namespace Dashu.Proofs.Gen

abbrev blen (n : Nat) : Nat := if n = 0 then 0 else Nat.log2 n + 1

theorem blen_le_iff {n k : Nat} : blen n ≤ k ↔ n < 2 ^ k := by
  unfold blen
  split
  · subst n; exact ⟨fun _ => Nat.two_pow_pos k, fun _ => Nat.zero_le k⟩
  · rename_i h; exact Nat.log2_lt h

theorem lt_blen_iff {n k : Nat} : k < blen n ↔ 2 ^ k ≤ n := by
  rw [← Nat.not_le, blen_le_iff, Nat.not_lt]

theorem lt_two_pow_blen (n : Nat) : n < 2 ^ blen n := blen_le_iff.1 (Nat.le_refl _)

theorem blen_pos {n : Nat} (h : n ≠ 0) : 0 < blen n :=
  lt_blen_iff.2 (Nat.pos_of_ne_zero h)

theorem two_pow_blen_le {n : Nat} (h : n ≠ 0) : 2 ^ (blen n - 1) ≤ n :=
  lt_blen_iff.1 (Nat.sub_lt (blen_pos h) Nat.one_pos)

theorem blen_mono {m n : Nat} (h : m ≤ n) : blen m ≤ blen n :=
  blen_le_iff.2 (Nat.lt_of_le_of_lt h (lt_two_pow_blen n))

theorem blen_eq_of_bounds {n k : Nat} (h1 : 2 ^ k ≤ n) (h2 : n < 2 ^ (k + 1)) : blen n = k + 1 :=
  Nat.le_antisymm (blen_le_iff.2 h2) (lt_blen_iff.2 h1)

/-- `⌈b / W⌉` units of `W` hold `b` (the word count `(bit_len + W − 1) / W` of a bit length) -/
theorem le_mul_ceil {W : Nat} (hW : 0 < W) (b : Nat) : b ≤ W * ((b + W - 1) / W) := by
  have := Nat.div_add_mod (b + W - 1) W
  have := Nat.mod_lt (b + W - 1) hW
  generalize (b + W - 1) / W = q at *
  generalize (b + W - 1) % W = t at *
  omega

end Dashu.Proofs.Gen
