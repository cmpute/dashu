import Dashu.Model.GluePrelude.MachInt
/-
  The checked machine operations of `Model/GluePrelude/MachInt.lean` on operands for which they succeed: one equation per
  operation, with the side condition the Rust operation has (`a + b` fits, `b ≤ a`, `b ≠ 0`, shift count below the width).
  A proof about a regenerated body names, per operation of the body, the fact that keeps it from overflowing.
  Core Lean only.
-/
namespace Dashu.GluePrelude.MachInt

theorem add_ok {U a b : Nat} (h : a + b < 2 ^ U) : add U a b = some (a + b) := if_pos h
theorem sub_ok {U a b : Nat} (h : b ≤ a) : sub U a b = some (a - b) := if_pos h
theorem mul_ok {U a b : Nat} (h : a * b < 2 ^ U) : mul U a b = some (a * b) := if_pos h
theorem div_ok {U a b : Nat} (h : b ≠ 0) : div U a b = some (a / b) := if_neg h
theorem rem_ok {U a b : Nat} (h : b ≠ 0) : rem U a b = some (a % b) := if_neg h
theorem shr_ok {U a s : Nat} (h : s < U) : shr U a s = some (a / 2 ^ s) := if_pos h

/-- a left shift that loses no bit -/
theorem shl_ok {U a s : Nat} (h : s < U) (hfit : a * 2 ^ s < 2 ^ U) : shl U a s = some (a * 2 ^ s) := by
  rw [shl, if_pos h, Nat.mod_eq_of_lt hfit]

theorem one_shl {U s : Nat} (h : s < U) : shl U 1 s = some (2 ^ s) := by
  rw [shl_ok h (by rw [Nat.one_mul]; exact Nat.pow_lt_pow_right (by decide) h), Nat.one_mul]

theorem cast_ok {U a : Nat} (h : a < 2 ^ U) : cast U a = a := Nat.mod_eq_of_lt h

/-- a bit index inside a word survives the cast to a type that can count a word's bits (`(n % WORD_BITS) as u32`) -/
theorem cast_mod {U W n : Nat} (hW : 0 < W) (hU : W ≤ 2 ^ U) : cast U (n % W) = n % W :=
  cast_ok (Nat.lt_of_lt_of_le (Nat.mod_lt n hW) hU)

end Dashu.GluePrelude.MachInt
