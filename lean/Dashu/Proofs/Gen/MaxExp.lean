import Dashu.Proofs.Gen.BitLen
/-
  `math::max_exp_in_word(base)`: the largest `k` with `base^k ≤ Word::MAX`, and `base^k`.  The model mirrors it three
  times (`Model.maxExpInWord`, `Text.maxExpInWord`, `Panic.maxExpInWord`, each with its `maxExpLoop`); the statements
  here are about any loop with the two defining equations, which each of the three has by `rfl`.  (`NT.maxExpInWord`
  and `Mem.maxExpInWord` run the same loop from `(1, base)` without the shortcut: `maxExpLoop_spec` fits their `go`,
  `maxExpInWord_spec` does not.)  Core Lean only.
-/
namespace Dashu.Proofs.Gen

variable {W base : Nat} {loop : Nat → Nat → Nat → Nat × Nat}

/-- the `while let Some(prod) = pow.checked_mul(base)` loop from `(e, base^e)`, a word: it returns `(k, base^k)`, a word,
    with `k ≥ e`; and if the fuel was enough for `W` doublings, one more factor would not fit -/
theorem maxExpLoop_spec (h0 : ∀ e p, loop 0 e p = (e, p))
    (hs : ∀ f e p, loop (f + 1) e p = if p * base < 2 ^ W then loop f (e + 1) (p * base) else (e, p)) :
    ∀ (fuel e p : Nat), p = base ^ e → p < 2 ^ W →
      (loop fuel e p).2 = base ^ (loop fuel e p).1 ∧ (loop fuel e p).2 < 2 ^ W ∧ e ≤ (loop fuel e p).1 ∧
      (2 ≤ base → W ≤ e + fuel → 2 ^ W ≤ (loop fuel e p).2 * base) := by
  intro fuel
  induction fuel with
  | zero =>
    intro e p hp hlt
    rw [h0]
    refine ⟨hp, hlt, Nat.le_refl _, fun hb hf => ?_⟩
    have h1 : 2 ^ e ≤ base ^ e := Nat.pow_le_pow_left hb e
    have h2 : 2 ^ W ≤ 2 ^ e := Nat.pow_le_pow_right (by omega) (by omega)
    omega
  | succ fuel ih =>
    intro e p hp hlt
    rw [hs]
    by_cases h : p * base < 2 ^ W
    · simp only [h, if_true]
      have := ih (e + 1) (p * base) (by rw [hp, Nat.pow_succ]) h
      exact ⟨this.1, this.2.1, by omega, fun hb hf => this.2.2.2 hb (by omega)⟩
    · simp only [h, if_false]
      exact ⟨hp, hlt, Nat.le_refl _, fun _ _ => by omega⟩

/-- `max_exp_in_word` for `2 ≤ base ≤ Word::MAX`: the shortcut `base > ones_word(W/2)`, else the loop started at
    `W / bit_len(base)`.  The result is `(k, base^k)` with `k ≥ 1` and `base^k` a word, and `k` is maximal when `W` is even -/
theorem maxExpInWord_spec (h0 : ∀ e p, loop 0 e p = (e, p))
    (hs : ∀ f e p, loop (f + 1) e p = if p * base < 2 ^ W then loop f (e + 1) (p * base) else (e, p))
    (hb : 2 ≤ base) (hbW : base < 2 ^ W) :
    let r := if base > 2 ^ (W / 2) - 1 then (1, base) else loop W (W / blen base) (base ^ (W / blen base))
    r.2 = base ^ r.1 ∧ r.2 < 2 ^ W ∧ 1 ≤ r.1 ∧ (2 ∣ W → 2 ^ W ≤ r.2 * base) := by
  by_cases h : base > 2 ^ (W / 2) - 1
  · simp only [h, if_true]
    refine ⟨(Nat.pow_one base).symm, hbW, Nat.le_refl _, ?_⟩
    intro ⟨k, hk⟩
    have h1 : 2 ^ (W / 2) ≤ base := by omega
    have : W / 2 = k := by omega
    rw [this] at h1
    calc 2 ^ W = 2 ^ k * 2 ^ k := by rw [hk, ← Nat.pow_add]; congr 1; omega
      _ ≤ base * base := Nat.mul_le_mul h1 h1
  · simp only [h, if_false]
    have hpos : 0 < 2 ^ (W / 2) := Nat.two_pow_pos _
    have hbl : blen base ≤ W / 2 := blen_le_iff.2 (by omega)
    have hbl1 : 1 ≤ blen base := blen_pos (by omega)
    have hexp : 1 ≤ W / blen base := by
      apply (Nat.le_div_iff_mul_le (by omega)).mpr
      have : W / 2 ≤ W := Nat.div_le_self _ _
      omega
    have hpow : base ^ (W / blen base) < 2 ^ W := by
      have h2 : base ^ (W / blen base) < (2 ^ blen base) ^ (W / blen base) :=
        Nat.pow_lt_pow_left (lt_two_pow_blen base) (by omega)
      have h3 : (2 ^ blen base) ^ (W / blen base) ≤ 2 ^ W := by
        rw [← Nat.pow_mul]
        exact Nat.pow_le_pow_right (by omega) (Nat.mul_div_le W (blen base))
      omega
    have := maxExpLoop_spec h0 hs W (W / blen base) (base ^ (W / blen base)) rfl hpow
    exact ⟨this.1, this.2.1, by omega, fun _ => this.2.2.2 hb (by omega)⟩

end Dashu.Proofs.Gen
