import Dashu.Proofs.NT.PrimRootU32
/-
  C12: the per-top-half check of the `u32` cube root (`cbrtU32OkH`) holds on every normalised top half.

  The estimate is `c = wmul16_hi(r, wmul16_hi(r, h)) >> 2` where `h` is the top half of the operand and the
  reciprocal `r` is computed from `adjust`, the table entry and `n16 = h >> 3·adjust` alone (`rcbrtU32`).  The floors only
  lower `c`, so `c · 2^34 ≤ r² · h`, and `r^6 · h² ≤ 2^16 · (2^34)³` then gives `c³ ≤ h · 2^16`: one test per value of `n16`
  (at the largest `h` that shares it) instead of one per operand or per top half, the table walked once (`allTab`).
-/
namespace Dashu.Model.NT
open Dashu.Model

/-- the reciprocal stage of `estCbrtU32`: everything between the table lookup and the final product, as a function of
    `adjust`, the table entry and `n16` -/
def rcbrtU32 (a t n16 : Nat) : Option Nat := do
  let r : Nat := 0x100 ||| t
  let r3 ← ck 32 (r * r)
  let r3 ← ck 32 (r3 * r)
  let r3 : Nat := r3 / 2 ^ 11
  let t ← ck 16 ((4 * 2 ^ 11 : Int) - wmulHi 16 n16 (r3 % 2 ^ 16))
  let rt ← ck 32 (r * t)
  let r : Nat := rt / 3 / 2 ^ 4 % 2 ^ 16
  let r : Nat := r / 2 ^ a
  ck 16 ((r : Int) - 10)

theorem estCbrtU32_eq (n : Nat) :
    estCbrtU32 n = (tabAt RCBRT_TAB (n / 2 ^ (16 + 3 * (if n ≥ 2 ^ 30 then 1 else 0)) % 2 ^ 16 / 2 ^ 8) 8).bind fun t =>
      (rcbrtU32 (if n ≥ 2 ^ 30 then 1 else 0) t (n / 2 ^ (16 + 3 * (if n ≥ 2 ^ 30 then 1 else 0)) % 2 ^ 16)).bind
        fun r => some (wmulHi 16 r (wmulHi 16 r (n / 2 ^ 16 % 2 ^ 16)) / 2 ^ 2) := by
  simp only [estCbrtU32, rcbrtU32, Option.bind_eq_bind, Option.bind_assoc, Option.pure_def]

/-- the two floors and the shift only lower the estimate -/
theorem cbrtEst_le (r h : Nat) : wmulHi 16 r (wmulHi 16 r h) / 2 ^ 2 * 2 ^ 34 ≤ r * r * h := by
  unfold wmulHi
  have h1 : r * h / 2 ^ 16 * 2 ^ 16 ≤ r * h := Nat.div_mul_le_self _ _
  generalize r * h / 2 ^ 16 = u at *
  have h2 : r * u / 2 ^ 16 * 2 ^ 16 ≤ r * u := Nat.div_mul_le_self _ _
  generalize r * u / 2 ^ 16 = v at *
  have h3 : v / 2 ^ 2 * 2 ^ 2 ≤ v := Nat.div_mul_le_self _ _
  generalize v / 2 ^ 2 = c at *
  calc c * 2 ^ 34 = c * 2 ^ 2 * 2 ^ 16 * 2 ^ 16 := by ring
    _ ≤ v * 2 ^ 16 * 2 ^ 16 := Nat.mul_le_mul_right _ (Nat.mul_le_mul_right _ h3)
    _ ≤ r * u * 2 ^ 16 := Nat.mul_le_mul_right _ h2
    _ = r * (u * 2 ^ 16) := by ring
    _ ≤ r * (r * h) := Nat.mul_le_mul_left _ h1
    _ = r * r * h := by ring

theorem cube_le_of_scaled {P r h c : Nat} (hP : 0 < P) (hc : c * P ≤ r * r * h) (hb : r ^ 6 * h ^ 2 ≤ 65536 * P ^ 3) :
    c * c * c ≤ h * 65536 := by
  have h3 : (c * P) ^ 3 ≤ (r * r * h) ^ 3 := Nat.pow_le_pow_left hc 3
  have hb' : r ^ 6 * h ^ 2 * h ≤ 65536 * P ^ 3 * h := Nat.mul_le_mul_right h hb
  have e1 : (c * P) ^ 3 = c * c * c * P ^ 3 := by ring
  have e2 : (r * r * h) ^ 3 = r ^ 6 * h ^ 2 * h := by ring
  have e3 : 65536 * P ^ 3 * h = h * 65536 * P ^ 3 := by ring
  rw [e1, e2] at h3
  exact Nat.le_of_mul_le_mul_right (e3 ▸ Nat.le_trans h3 hb') (Nat.pow_pos hP)

/-- the test for one value of `n16` served by the table entry `t`: the reciprocal stage answers, and its result is small
    enough for the largest top half `h` with `h >> 3a = n16` -/
def cbrtU32OkR (a t n16 : Nat) : Bool :=
  (rcbrtU32 a t n16).any fun r => decide (r ^ 6 * (n16 * 2 ^ (3 * a) + (2 ^ (3 * a) - 1)) ^ 2 ≤ 65536 * (2 ^ 34) ^ 3)

theorem cbrt_u32_rblocks :
    allTab (cbrtU32OkR 0) 256 ((RCBRT_TAB.drop 24).take 32) (256 * (8 + 24)) = true ∧
    allTab (cbrtU32OkR 1) 256 ((RCBRT_TAB.drop 0).take 24) (256 * (8 + 0)) = true := by
  decide +kernel

theorem cbrt_u32_okH (h : Nat) (h1 : 8192 ≤ h) (h2 : h < 65536) : cbrtU32OkH h = true := by
  obtain ⟨a, ha, hk⟩ : ∃ a, (if h * 65536 ≥ 2 ^ 30 then 1 else 0) = a ∧
      (tabAt RCBRT_TAB (h / 2 ^ (3 * a) / 256) 8).any (fun t => cbrtU32OkR a t (h / 2 ^ (3 * a))) = true := by
    by_cases hc : h * 65536 ≥ 2 ^ 30
    · exact ⟨1, if_pos hc, allTab_tabAt (by decide) cbrt_u32_rblocks.2 (by decide) (by omega) (by omega)⟩
    · exact ⟨0, if_neg hc, allTab_tabAt (by decide) cbrt_u32_rblocks.1 (by decide) (by omega) (by omega)⟩
  rw [Option.any_eq_true] at hk
  obtain ⟨t, htab, hk⟩ := hk
  unfold cbrtU32OkR at hk
  rw [Option.any_eq_true] at hk
  obtain ⟨r, hr, hb⟩ := hk
  rw [decide_eq_true_eq] at hb
  have hp : 0 < 2 ^ (3 * a) := Nat.two_pow_pos _
  have hdm := Nat.div_add_mod h (2 ^ (3 * a))
  have hml := Nat.mod_lt h hp
  have hhb : r ^ 6 * h ^ 2 ≤ 65536 * (2 ^ 34) ^ 3 :=
    Nat.le_trans (Nat.mul_le_mul_left _ (Nat.pow_le_pow_left (by rw [Nat.mul_comm]; omega) 2)) hb
  have e16 : h * 65536 / 2 ^ (16 + 3 * a) % 2 ^ 16 = h / 2 ^ (3 * a) := by
    rw [Nat.pow_add, ← Nat.div_div_eq_div_mul, show (2 : Nat) ^ 16 = 65536 from rfl, Nat.mul_div_cancel _ (by decide)]
    exact Nat.mod_eq_of_lt (Nat.lt_of_le_of_lt (Nat.div_le_self _ _) h2)
  have eh : h * 65536 / 2 ^ 16 % 2 ^ 16 = h := by
    rw [show (2 : Nat) ^ 16 = 65536 from rfl, Nat.mul_div_cancel _ (by decide)]; exact Nat.mod_eq_of_lt h2
  have hcube := cube_le_of_scaled (Nat.two_pow_pos 34) (cbrtEst_le r h) hhb
  unfold cbrtU32OkH
  rw [estCbrtU32_eq, ha, e16, eh, show (2 : Nat) ^ 8 = 256 from rfl, htab, obind_some, hr, obind_some, Option.any_some, Bool.and_eq_true, decide_eq_true_eq, decide_eq_true_eq]
  refine ⟨hcube, ?_⟩
  -- `c³ ≤ h·2^16 < 2^32` bounds `c`
  generalize wmulHi 16 r (wmulHi 16 r h) / 2 ^ 2 = c at *
  by_contra hge
  have : 2048 * 2048 * 2048 ≤ c * c * c := Nat.mul_le_mul (Nat.mul_le_mul (by omega) (by omega)) (by omega)
  omega

end Dashu.Model.NT
