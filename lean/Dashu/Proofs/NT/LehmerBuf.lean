import Dashu.Proofs.NT.LehmerExt
import Dashu.Proofs.NT.LehmerWords
/-
  C12: `lehmer::gcd_ext_in_place` — the buffer-length claims at the head of EVERY iteration (`lehmerExtIter`).  The loop
  keeps `t1·x + t0·y = lhs` (`HeadInv`, `Proofs/NT/LehmerExt`), so the coefficient of a positive value is at most `lhs`:
  the tracked coefficients fit the `lhs_len` words (`+1` spare) the code reserves.  The claims that rest on this — the
  slice `t0[..qt1_len]` of the Euclidean fallback, the carry words of the `lehmer_ext_step` word loop, the returned
  `|b|` — are proved in `Props/C12`.
-/
namespace Dashu.Model.NT
open Dashu.Model

/-- **every iteration**: at the head of the `k`-th iteration of the main loop of `gcd_ext_in_place(lhs, rhs)`,
    `rhs ≤ lhs`, `t1·x + t0·y = lhs` and `y ≤ x`; whenever the loop goes on from there (`y` has more than one word),
    `t0` and `t1` are below `2^(W·lhs_len)` — so are the operands `t0`, `t1` of every `lehmer_ext_step` /
    `add_signed_mul` call and its results (the coefficients at the head of the next iteration) -/
theorem lehmerExt_every_iteration_fits (W : Nat) (hW : 0 < W) (lhs rhs : Nat) (hlr : rhs ≤ lhs) (k : Nat)
    (x y t0 t1 : Nat) (sw : Bool) (h : lehmerExtIter W k (lhs, rhs, 0, 1, false) = some (x, y, t0, t1, sw)) :
    t1 * x + t0 * y = lhs ∧ y ≤ x ∧
    (0 < y → t0 < 2 ^ (W * wordLen W lhs) ∧ t1 < 2 ^ (W * wordLen W lhs)) := by
  obtain ⟨_, hinv, hord, _⟩ := lehmerExtIter_inv hW h (headInv_init hlr)
  have hl := lt_two_pow_wordLen hW lhs
  have := coeff_le_of_comb hinv
  exact ⟨hinv, hord, fun hy => ⟨by have := this.2 hy; omega, by have := this.1 (by omega); omega⟩⟩

/-- a product below `2^(W·L)` of two positive numbers: their word counts add up to at most `L + 1` -/
theorem wordLen_add_le_of_mul_lt {W L q t : Nat} (hW : 0 < W) (hq : 0 < q) (ht : 0 < t) (h : q * t < 2 ^ (W * L)) :
    wordLen W q + wordLen W t ≤ L + 1 := by
  have h1 := two_pow_le_of_wordLen hW (Nat.pos_iff_ne_zero.1 hq)
  have h2 := two_pow_le_of_wordLen hW (Nat.pos_iff_ne_zero.1 ht)
  have h3 : 2 ^ (W * (wordLen W q - 1)) * 2 ^ (W * (wordLen W t - 1)) ≤ q * t := Nat.mul_le_mul h1 h2
  rw [← Nat.pow_add] at h3
  have h4 : 2 ^ (W * (wordLen W q - 1) + W * (wordLen W t - 1)) < 2 ^ (W * L) := Nat.lt_of_le_of_lt h3 h
  have h5 : W * (wordLen W q - 1) + W * (wordLen W t - 1) < W * L := (Nat.pow_lt_pow_iff_right (by decide)).1 h4
  have h6 : W * ((wordLen W q - 1) + (wordLen W t - 1)) < W * L := by rw [Nat.mul_add]; exact h5
  have h7 : (wordLen W q - 1) + (wordLen W t - 1) < L := Nat.lt_of_mul_lt_mul_left h6
  omega

end Dashu.Model.NT
