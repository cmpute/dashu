import Dashu.Proofs.NT.PrimRootU32A
import Dashu.Proofs.NT.PrimRootU32B
import Dashu.Proofs.NT.PrimRootU32Cbrt
/-
  C12: the `u32` primitive roots answer on all 2^32 values (with the soundness theorems of PrimRoot.lean: exactly).
-/
namespace Dashu.Model.NT

theorem sqrt_u32_okH (h : Nat) (h1 : 16384 ≤ h) (h2 : h < 65536) : sqrtU32OkH h = true := by
  have hk : (h - 16384) / 12288 = 0 ∨ (h - 16384) / 12288 = 1 ∨ (h - 16384) / 12288 = 2 ∨ (h - 16384) / 12288 = 3 := by omega
  rw [sqrtU32OkH_eq]
  rcases hk with hk | hk | hk | hk
  · exact allTab_tabAt (by decide) sqrt_u32_t0 (by decide) (by omega) (by omega)
  · exact allTab_tabAt (by decide) sqrt_u32_t1 (by decide) (by omega) (by omega)
  · exact allTab_tabAt (by decide) sqrt_u32_t2 (by decide) (by omega) (by omega)
  · exact allTab_tabAt (by decide) sqrt_u32_t3 (by decide) (by omega) (by omega)

/-- **`u32::sqrt_rem` never overflows**: the mirrored routine (table lookup, Newton steps in wrapping / checked `u16` / `u32`
    arithmetic, `saturating_mul`, `fix_sqrt_error!`, normalising wrapper) answers on every value of the type -/
theorem sqrtRemU32_total {x : Nat} (hx : x < 2 ^ 32) : ∃ r, sqrtRemPrimBits 32 x = some r :=
  sqrtRemU32_total_of sqrt_u32_okH hx

/-- **`u32::cbrt_rem` never overflows** -/
theorem cbrtRemU32_total {x : Nat} (hx : x < 2 ^ 32) : ∃ r, cbrtRemPrimBits 32 x = some r :=
  cbrtRemU32_total_of cbrt_u32_okH hx

end Dashu.Model.NT
