import Dashu.Proofs.NT.Lehmer
/-
  C12: the mirrored `lehmer::gcd_in_place` loop always returns — no committed step goes negative and
  every iteration decreases `x + y` — and what it returns is the gcd.
-/
namespace Dashu.Model.NT
open Dashu.Model

/-- the loop of `gcd_in_place` returns the gcd from every state the loop of `gcd_ext_in_place` can be in: no
    committed step goes negative and every pass decreases `x + y` (`lehmerExtStep_spec`) -/
theorem lehmerGcdLoop_correct (W : Nat) (hW : 0 < W) {lhs rhs : Nat} :
    ∀ (fuel : Nat) (s : ExtState), s.1 + s.2.1 < fuel → HeadInv lhs rhs s →
      lehmerGcdLoop W fuel s.1 s.2.1 = .ok (Nat.gcd lhs rhs) := by
  intro fuel
  induction fuel with
  | zero => intro s h; omega
  | succ n ih =>
    intro s hfuel hinv
    obtain ⟨x, y, t0, t1, sw⟩ := s
    rw [lehmerGcdLoop_succ W n x y t0 t1 sw]
    split
    · rename_i hlen
      obtain ⟨s', hs', hinv', hlt⟩ := lehmerExtStep_spec hW (s := (x, y, t0, t1, sw)) (by simp only []; omega) hinv
      rw [hs']
      exact ih s' (Nat.lt_of_lt_of_le hlt (Nat.le_of_lt_succ hfuel)) hinv'
    · obtain ⟨⟨hg, _, _⟩, _⟩ := hinv
      split
      · rename_i hy0
        rw [← hg, hy0, Nat.gcd_zero_right]
      · rw [gcdPrim_spec, if_neg (by omega), Nat.gcd_comm, gcd_mod_right, hg]

/-- **`gcd::gcd_in_place` is correct**: for `rhs ≤ lhs` the mirrored Lehmer loop returns, and what it
    returns is the gcd -/
theorem lehmerGcd_correct (W : Nat) (hW : 0 < W) (lhs rhs : Nat) (h : rhs ≤ lhs) :
    lehmerGcd W lhs rhs = .ok (Nat.gcd lhs rhs) :=
  lehmerGcdLoop_correct W hW _ (lhs, rhs, 0, 1, false) (by simp) (headInv_init h)

/-- `impl Gcd for TypedReprRef` with the Lehmer loop mirrored is the dispatch with the loop replaced by its
    specification -/
theorem gcdReprM_eq (W : Nat) (hW : 0 < W) (a b : Nat) : gcdReprM W a b = gcdRepr W a b := by
  unfold gcdReprM gcdRepr
  simp only []
  by_cases ha : a < 2 ^ (2 * W) <;> by_cases hb : b < 2 ^ (2 * W) <;> simp only [ha, hb, decide_true, decide_false]
  unfold gcdLargeM gcdLarge lehmerGcdFrontier
  split
  · rfl
  · split
    · exact lehmerGcd_correct W hW a b (by omega)
    · exact lehmerGcd_correct W hW b a (by omega)

/-- `impl Gcd for TypedReprRef`, every kernel mirrored -/
theorem gcdReprM_spec (W : Nat) (hW : 0 < W) (a b : Nat) :
    gcdReprM W a b = if a = 0 ∧ b = 0 then .error .gcdZeroZero else .ok (Nat.gcd a b) :=
  gcdReprM_eq W hW a b ▸ gcdRepr_spec W gcdPrim_spec a b

end Dashu.Model.NT
