import Dashu.Proofs.NT.Gcd
/-
  C12: composition theorems for `gcd` / `gcd_ext` (dispatch over inline / heap operands, signs), and that
  `lehmer_step` with a matrix of determinant 1 keeps the gcd.
-/
namespace Dashu.Model.NT
open Dashu.Model

def IsBezout (a b : Nat) (res : Nat × Int × Int) : Prop :=
  res.1 = Nat.gcd a b ∧ (a : Int) * res.2.1 + (b : Int) * res.2.2 = res.1

theorem IsBezout.swap {a b g : Nat} {s t : Int} (h : IsBezout b a (g, t, s)) : IsBezout a b (g, s, t) :=
  ⟨h.1.trans (Nat.gcd_comm _ _), (add_comm _ _).trans h.2⟩

theorem IsXgcd.bezout {a b : Nat} {res : Nat × Int × Int} (h : IsXgcd a b res) : IsBezout a b res :=
  ⟨h.1, h.2.1.symm⟩

/-- `gcd_ext_word` / `gcd_ext_dword`: gcd, the coefficient `a` of the long operand and the recovered
    coefficient `b = ±|b|` of the short one satisfy Bezout's identity -/
theorem gcdExtSmall_spec (W : Nat) (buffer rhs : Nat) (hrpos : 0 < rhs) :
    ∃ g a bMag bNeg, gcdExtSmall W buffer rhs = .ok (g, a, bMag, bNeg) ∧
      IsBezout buffer rhs (g, a, if bNeg then -(bMag : Int) else (bMag : Int)) := by
  unfold gcdExtSmall
  simp only []
  have hdm := Nat.div_add_mod buffer rhs
  by_cases h0 : buffer % rhs = 0
  · rw [if_pos h0]
    refine ⟨_, _, _, _, rfl, ?_⟩
    simp only [IsBezout, Bool.false_eq_true, if_false]
    refine ⟨?_, by push_cast; ring⟩
    rw [Nat.gcd_eq_right (Nat.dvd_of_mod_eq_zero h0)]
  · rw [if_neg h0]
    rw [xgcdPrimWide_eq_xgcdPrim, ite_self]
    obtain ⟨res, hres, hx⟩ := (xgcdPrim_spec rhs (buffer % rhs)).2 (by omega)
    obtain ⟨r, s, t⟩ := res
    rw [hres]
    simp only []
    refine ⟨_, _, _, _, rfl, ?_⟩
    obtain ⟨h1, h2, h3⟩ := hx
    simp only [] at h1 h2 h3
    have hst : ¬ (s = 0 ∧ t = 0) := by
      rintro ⟨hs, ht⟩
      rw [hs, ht] at h2
      have : r = 0 := by simpa using h2
      rw [this] at h1
      have := Nat.gcd_pos_of_pos_left (buffer % rhs) hrpos
      omega
    have hb' := recover_b (q := buffer / rhs) h3 hst
    simp only [IsBezout]
    refine ⟨?_, ?_⟩
    · rw [h1, gcd_mod_right]
    · rw [hb', h2]
      have : (buffer : Int) = rhs * (buffer / rhs : Nat) + (buffer % rhs : Nat) := by
        exact_mod_cast hdm.symm
      rw [this]; ring

/-- `gcd_ext_large_dword` -/
theorem gcdExtLargeDword_spec (W : Nat) (buffer rhs : Nat) (_hb : 0 < buffer) :
    ∃ res, gcdExtLargeDword W buffer rhs = .ok res ∧ IsBezout buffer rhs res := by
  unfold gcdExtLargeDword
  split
  · rename_i h; subst h
    exact ⟨_, rfl, by simp [IsBezout]⟩
  · rename_i hr
    obtain ⟨g, a, bMag, bNeg, h1, h2⟩ := gcdExtSmall_spec W buffer rhs (Nat.pos_of_ne_zero hr)
    rw [h1]
    exact ⟨_, rfl, h2⟩

/-- `gcd_ext_large` with any kernel meeting the contract of `gcd_ext_in_place` -/
theorem gcdExtLarge_spec (kernel : Nat → Nat → Nat × Nat × Bool)
    (hk : ∀ l r, 0 < r → r < l → LehmerExtContract l r (kernel l r)) (lhs rhs : Nat)
    (hl : 0 < lhs) (hr : 0 < rhs) : IsBezout lhs rhs (gcdExtLarge kernel lhs rhs) := by
  unfold gcdExtLarge
  split
  · rename_i h; subst h; simp [IsBezout]
  · split
    · rename_i hne hgt
      exact gcdExtPost_bezout hl _ (hk lhs rhs hr hgt)
    · rename_i hne hgt
      have hlt : lhs < rhs := by omega
      have := gcdExtPost_bezout hr _ (hk rhs lhs hl hlt)
      generalize gcdExtPost rhs lhs (kernel rhs lhs) = res at this
      obtain ⟨g, a, b⟩ := res
      exact IsBezout.swap this

/-- `impl ExtendedGcd for TypedReprRef`: for every pair of magnitudes, every size class -/
theorem gcdExtRepr_spec (W : Nat) (kernel : Nat → Nat → Nat × Nat × Bool)
    (hk : ∀ l r, 0 < r → r < l → LehmerExtContract l r (kernel l r)) (a b : Nat) :
    (a = 0 ∧ b = 0 → gcdExtRepr W kernel a b = .error .gcdZeroZero) ∧
    (¬ (a = 0 ∧ b = 0) → ∃ res, gcdExtRepr W kernel a b = .ok res ∧ IsBezout a b res) := by
  have hp : 0 < 2 ^ (2 * W) := Nat.two_pow_pos _
  constructor
  · rintro ⟨rfl, rfl⟩
    simp [gcdExtRepr, hp, (xgcdPrimWide_spec W 0 0).1 ⟨rfl, rfl⟩]
  · intro h
    unfold gcdExtRepr
    simp only []
    by_cases ha : a < 2 ^ (2 * W) <;> by_cases hb : b < 2 ^ (2 * W) <;> simp only [ha, hb, decide_true, decide_false]
    · obtain ⟨res, h1, h2⟩ := (xgcdPrimWide_spec W a b).2 h
      exact ⟨res, h1, h2.bezout⟩
    · obtain ⟨res, h1, h2⟩ := gcdExtLargeDword_spec W b a (by omega)
      obtain ⟨g, s, t⟩ := res
      rw [h1]
      exact ⟨_, rfl, h2.swap⟩
    · exact gcdExtLargeDword_spec W a b (by omega)
    · exact ⟨_, rfl, gcdExtLarge_spec kernel hk a b (by omega) (by omega)⟩

/-- `impl_ibig_gcd_ext` (and the mixed UBig/IBig forms): `s·a + t·b = g` for signed operands -/
theorem gcdExtInt_spec (W : Nat) (kernel : Nat → Nat → Nat × Nat × Bool)
    (hk : ∀ l r, 0 < r → r < l → LehmerExtContract l r (kernel l r)) (a b : Int) :
    (a = 0 ∧ b = 0 → gcdExtInt W kernel a b = .error .gcdZeroZero) ∧
    (¬ (a = 0 ∧ b = 0) → ∃ g s t, gcdExtInt W kernel a b = .ok (g, s, t) ∧
        g = Int.gcd a b ∧ s * a + t * b = g) := by
  obtain ⟨h0, h1⟩ := gcdExtRepr_spec W kernel hk a.natAbs b.natAbs
  constructor
  · rintro ⟨rfl, rfl⟩
    have := h0 ⟨rfl, rfl⟩
    simp only [Int.natAbs_zero] at this
    simp [gcdExtInt, this]
  · intro h
    obtain ⟨res, hres, hg, hbz⟩ := h1 (by omega)
    obtain ⟨g, s, t⟩ := res
    unfold gcdExtInt
    rw [hres]
    refine ⟨g, _, _, rfl, ?_, ?_⟩
    · simpa [Int.gcd] using hg
    · simp only [] at hbz
      have ea : (a.natAbs : Int) = a.sign * a := by
        rw [Int.sign_mul_self_eq_natAbs]
      have eb : (b.natAbs : Int) = b.sign * b := by
        rw [Int.sign_mul_self_eq_natAbs]
      rw [ea, eb] at hbz
      linarith [hbz]

/-- `gcd_large_dword`, given the contract of the primitive binary gcd (`hprim`) -/
theorem gcdLargeDword_spec
    (hprim : ∀ x y, gcdPrim x y = if x = 0 ∧ y = 0 then .error .gcdZeroZero else .ok (Nat.gcd x y))
    {buf : Nat} (r : Nat) (hbuf : 0 < buf) : gcdLargeDword buf r = .ok (Nat.gcd buf r) := by
  unfold gcdLargeDword
  split
  · rename_i h; subst h; simp
  · rename_i h
    simp only []
    split
    · rename_i h0
      rw [Nat.gcd_eq_right (Nat.dvd_of_mod_eq_zero h0)]
    · rw [hprim, if_neg (by omega), Nat.gcd_comm, gcd_mod_right]

/-- `impl Gcd for TypedReprRef`, given the contract of the primitive binary gcd (`hprim`).  On two multi-word operands
    `gcdRepr` calls `lehmerGcdFrontier`, which IS `Nat.gcd`: the dispatch over the mirrored `gcd_in_place` is
    `gcdReprM_spec` (`Proofs/NT/LehmerComplete`). -/
theorem gcdRepr_spec (W : Nat)
    (hprim : ∀ x y, gcdPrim x y = if x = 0 ∧ y = 0 then .error .gcdZeroZero else .ok (Nat.gcd x y))
    (a b : Nat) :
    gcdRepr W a b = if a = 0 ∧ b = 0 then .error .gcdZeroZero else .ok (Nat.gcd a b) := by
  have hp : 0 < 2 ^ (2 * W) := Nat.two_pow_pos _
  unfold gcdRepr
  simp only []
  by_cases ha : a < 2 ^ (2 * W) <;> by_cases hb : b < 2 ^ (2 * W) <;> simp only [ha, hb, decide_true, decide_false]
  · exact hprim a b
  · rw [gcdLargeDword_spec hprim a (by omega), if_neg (by omega), Nat.gcd_comm]
  · rw [gcdLargeDword_spec hprim b (by omega), if_neg (by omega)]
  · rw [if_neg (by omega)]
    unfold gcdLarge lehmerGcdFrontier
    split
    · rename_i h; subst h; simp
    · split
      · rfl
      · rw [Nat.gcd_comm]

-- ---------------------------------------------------------------- Lehmer step

/-- determinant 1 ⇒ `lehmer_step` preserves the gcd (as `Int.gcd`, signs irrelevant) -/
theorem lehmerStep_gcd (x y : Int) (a b c d : Nat) (hdet : (a : Int) * d - b * c = 1) :
    Int.gcd (lehmerStep x y a b c d).1 (lehmerStep x y a b c d).2 = Int.gcd x y := by
  unfold lehmerStep
  simp only []
  have hx : x = (d : Int) * ((a : Int) * x - b * y) + b * ((d : Int) * y - c * x) := by
    have : ((a : Int) * d - b * c) * x = x := by rw [hdet]; ring
    linarith [this]
  have hy : y = (c : Int) * ((a : Int) * x - b * y) + a * ((d : Int) * y - c * x) := by
    have : ((a : Int) * d - b * c) * y = y := by rw [hdet]; ring
    linarith [this]
  generalize hX : (a : Int) * x - b * y = X' at hx hy
  generalize hY : (d : Int) * y - c * x = Y' at hx hy
  apply Nat.dvd_antisymm
  · -- every common divisor of the new pair divides x = d·x' + b·y' and y = c·x' + a·y'
    apply Int.natCast_dvd_natCast.1
    apply Int.dvd_coe_gcd
    · have h1 : (Int.gcd X' Y' : Int) ∣ (d : Int) * X' + b * Y' :=
        Int.dvd_add (Dvd.dvd.mul_left (Int.gcd_dvd_left _ _) _) (Dvd.dvd.mul_left (Int.gcd_dvd_right _ _) _)
      rwa [← hx] at h1
    · have h1 : (Int.gcd X' Y' : Int) ∣ (c : Int) * X' + a * Y' :=
        Int.dvd_add (Dvd.dvd.mul_left (Int.gcd_dvd_left _ _) _) (Dvd.dvd.mul_left (Int.gcd_dvd_right _ _) _)
      rwa [← hy] at h1
  · apply Int.natCast_dvd_natCast.1
    apply Int.dvd_coe_gcd
    · rw [← hX]
      exact Int.dvd_sub (Dvd.dvd.mul_left (Int.gcd_dvd_left _ _) _) (Dvd.dvd.mul_left (Int.gcd_dvd_right _ _) _)
    · rw [← hY]
      exact Int.dvd_sub (Dvd.dvd.mul_left (Int.gcd_dvd_right _ _) _) (Dvd.dvd.mul_left (Int.gcd_dvd_left _ _) _)

/-- … and so does the step on naturals that the loops take when neither result is negative -/
theorem lehmerStep_gcd_toNat {x y a b c d : Nat} (hdet : (a : Int) * d - b * c = 1)
    (hx : 0 ≤ (a : Int) * x - (b : Int) * y) (hy : 0 ≤ (d : Int) * y - (c : Int) * x) :
    Nat.gcd ((a : Int) * x - (b : Int) * y).toNat ((d : Int) * y - (c : Int) * x).toNat = Nat.gcd x y := by
  have e1 : ((a : Int) * x - (b : Int) * y).toNat = ((a : Int) * x - (b : Int) * y).natAbs := by omega
  have e2 : ((d : Int) * y - (c : Int) * x).toNat = ((d : Int) * y - (c : Int) * x).natAbs := by omega
  rw [e1, e2]
  exact lehmerStep_gcd (x : Int) (y : Int) a b c d hdet

end Dashu.Model.NT
