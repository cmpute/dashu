import Dashu.Proofs.NT.ModPowLarge
import Dashu.Proofs.NT.ModInv
import Mathlib.Data.Int.ModEq
/-
  C13: from "raw = (value mod m)·2^k" to the homomorphism statements over `Int`: the residue `res`, `reduce` as an
  element `⟨r, res m a · 2^k⟩`, and each operation on elements of that shape.
-/
namespace Dashu.Model.NT
open Dashu.Model

/-- the canonical residue of an integer: `Int.emod` as a natural number -/
def res (m : Nat) (a : Int) : Nat := (a % (m : Int)).toNat

theorem res_cast {m : Nat} (hm : 0 < m) (a : Int) : ((res m a : Nat) : Int) = a % (m : Int) := by
  unfold res
  exact Int.toNat_of_nonneg (Int.emod_nonneg _ (by omega))

theorem res_lt {m : Nat} (hm : 0 < m) (a : Int) : res m a < m := by
  have h1 := res_cast hm a
  have h2 := Int.emod_lt_of_pos a (show (0 : Int) < m by omega)
  omega

theorem res_modEq {m : Nat} (hm : 0 < m) (a : Int) : ((res m a : Nat) : Int) ≡ a [ZMOD m] := by
  rw [res_cast hm]; exact Int.mod_modEq _ _

theorem res_unique {m : Nat} (hm : 0 < m) {x : Nat} {y : Int} (hx : x < m)
    (h : (x : Int) ≡ y [ZMOD m]) : x = res m y := by
  unfold Int.ModEq at h
  rw [Int.emod_eq_of_lt (by omega) (by omega)] at h
  unfold res
  rw [← h]; simp

theorem res_natCast {m : Nat} (hm : 0 < m) (x : Nat) : res m (x : Int) = x % m := by
  symm
  apply res_unique hm (Nat.mod_lt _ hm)
  rw [Int.natCast_mod]
  exact Int.mod_modEq _ _

theorem mod_eq_res {m : Nat} (hm : 0 < m) (f : Nat) {y : Int} (h : (f : Int) ≡ y [ZMOD m]) :
    f % m = res m y := by
  apply res_unique hm (Nat.mod_lt _ hm)
  rw [Int.natCast_mod]
  exact (Int.mod_modEq _ _).trans h

theorem Ring.new_ok {W id m : Nat} (hm : m ≠ 0) : ∃ r, Ring.new W id m = .ok r ∧ r.m = m ∧ r.id = id := by
  unfold Ring.new
  rw [if_neg hm]
  split
  · exact ⟨_, rfl, rfl, rfl⟩
  · split
    · exact ⟨_, rfl, rfl, rfl⟩
    · exact ⟨_, rfl, rfl, rfl⟩

theorem Ring.new_m {W id m : Nat} {r : Ring} (h : Ring.new W id m = .ok r) : r.m = m ∧ r.id = id := by
  unfold Ring.new at h
  split at h
  · cases h
  · split at h
    · cases h; exact ⟨rfl, rfl⟩
    · split at h <;> (cases h; exact ⟨rfl, rfl⟩)

/-- a reduced integer as an element: its ring and the canonical residue, pre-shifted -/
theorem reduceInt_eq {W : Nat} {r : Ring} (hwf : r.WF W) (a : Int) :
    reduceInt W r a = ⟨r, res r.m a * 2 ^ r.k⟩ := by
  have hm := hwf.mpos
  unfold reduceInt
  simp only []
  rw [rawOfNat_eq hwf]
  split
  · rename_i hneg
    rw [negRaw_eq (Nat.mod_lt _ hm)]
    congr 2
    apply mod_eq_res hm
    have hle : a.natAbs % r.m ≤ r.m := Nat.le_of_lt (Nat.mod_lt _ hm)
    rw [Nat.cast_sub hle, Int.natCast_mod]
    have hab : (a.natAbs : Int) = -a := by omega
    rw [hab]
    have h1 : (-a) % (r.m : Int) ≡ -a [ZMOD r.m] := Int.mod_modEq _ _
    have h2 : ((r.m : Int) - (-a) % (r.m : Int)) ≡ (r.m : Int) - (-a) [ZMOD r.m] :=
      Int.ModEq.sub (Int.ModEq.refl _) h1
    have h3 : (r.m : Int) - (-a) ≡ a [ZMOD r.m] := by
      have : (r.m : Int) - (-a) = a + r.m := by ring
      rw [this]
      exact Int.add_modEq_right
    exact h2.trans h3
  · rename_i hpos
    congr 2
    have hab : (a.natAbs : Int) = a := by omega
    rw [← res_natCast hm, hab]

theorem residue_of_raw (r : Ring) (v : Nat) : (⟨r, v * 2 ^ r.k⟩ : Elem).residue = v := by
  simp [Elem.residue, Nat.mul_div_cancel _ (Nat.two_pow_pos r.k)]

/-! The operations on elements `⟨r, u·2^k⟩` with `u < m`: the result is again of that shape. -/
section mk
variable {W : Nat} {r : Ring} {u v : Nat}

theorem add_mk (hu : u < r.m) (hv : v < r.m) :
    (⟨r, u * 2 ^ r.k⟩ : Elem).add ⟨r, v * 2 ^ r.k⟩ = .ok ⟨r, (u + v) % r.m * 2 ^ r.k⟩ := by
  simp only [Elem.add, sameRing, decide_true, if_true, addRaw_eq hu hv]

theorem sub_mk (hu : u < r.m) (hv : v < r.m) :
    (⟨r, u * 2 ^ r.k⟩ : Elem).sub ⟨r, v * 2 ^ r.k⟩ = .ok ⟨r, (u + (r.m - v)) % r.m * 2 ^ r.k⟩ := by
  simp only [Elem.sub, sameRing, decide_true, if_true, subRaw_eq hu hv]

theorem mul_mk (hwf : r.WF W) (hu : u < r.m) (hv : v < r.m) :
    (⟨r, u * 2 ^ r.k⟩ : Elem).mul W ⟨r, v * 2 ^ r.k⟩ = .ok ⟨r, u * v % r.m * 2 ^ r.k⟩ := by
  simp only [Elem.mul, sameRing, decide_true, if_true, mulRaw_eq hwf hu hv]

theorem neg_mk (hu : u < r.m) : (⟨r, u * 2 ^ r.k⟩ : Elem).neg = ⟨r, (r.m - u) % r.m * 2 ^ r.k⟩ :=
  congrArg _ (negRaw_eq hu)

theorem dbl_mk (hu : u < r.m) : (⟨r, u * 2 ^ r.k⟩ : Elem).dbl = ⟨r, (u + u) % r.m * 2 ^ r.k⟩ :=
  congrArg _ (addRaw_eq hu hu)

theorem sqr_mk (hwf : r.WF W) (hu : u < r.m) :
    (⟨r, u * 2 ^ r.k⟩ : Elem).sqr W = ⟨r, u * u % r.m * 2 ^ r.k⟩ :=
  congrArg _ (sqrRaw_eq hwf hu)

theorem pow_mk (hwf : r.WF W) (hu : u < r.m) (e : Nat) :
    (⟨r, u * 2 ^ r.k⟩ : Elem).pow W e = ⟨r, u ^ e % r.m * 2 ^ r.k⟩ := by
  unfold Elem.pow powRaw
  cases r.kind
  · exact congrArg _ (powSD_eq hwf hu e)
  · exact congrArg _ (powSD_eq hwf hu e)
  · exact congrArg _ (powL_eq hwf hu e)

theorem inv_mk (hwf : r.WF W) (u : Nat) :
    (⟨r, u * 2 ^ r.k⟩ : Elem).inv = (invm u r.m).map fun t => ⟨r, t * 2 ^ r.k⟩ := by
  unfold Elem.inv
  rw [invRaw_eq hwf]
  exact Option.map_map ..

/-- an element `⟨r, (f mod m)·2^k⟩` is valid, and over `Int` its residue is that of any `y ≡ f` -/
theorem mk_mod_spec (hwf : r.WF W) (f : Nat) {y : Int} (h : (f : Int) ≡ y [ZMOD r.m]) :
    Valid r (⟨r, f % r.m * 2 ^ r.k⟩ : Elem).raw ∧
      ((⟨r, f % r.m * 2 ^ r.k⟩ : Elem).residue : Int) = y % (r.m : Int) :=
  ⟨valid_of_lt (Nat.mod_lt _ hwf.mpos), by rw [residue_of_raw, Int.natCast_mod]; exact h⟩

end mk

theorem sub_add_mod {m u v : Nat} (hu : u < m) (hv : v < m) : ((u + (m - v)) % m + v) % m = u := by
  rw [Nat.mod_add_mod, show u + (m - v) + v = u + m by omega, Nat.add_mod_right, Nat.mod_eq_of_lt hu]

theorem neg_add_mod {m u : Nat} (hu : u < m) : ((m - u) % m + u) % m = 0 := by
  rw [Nat.mod_add_mod, show m - u + u = m by omega, Nat.mod_self]

theorem res_neg_modEq {m : Nat} (hm : 0 < m) (a : Int) : ((m - res m a : Nat) : Int) ≡ -a [ZMOD m] := by
  rw [Nat.cast_sub (res_lt hm a).le, ← zero_sub a]
  exact (Int.modEq_zero_iff_dvd.2 dvd_rfl).sub (res_modEq hm a)

end Dashu.Model.NT
