import Dashu.Model.NT.ModInvm
import Dashu.Proofs.NT.ModInv
import Dashu.Proofs.NT.ModInvLarge
import Mathlib.Tactic.Ring
import Mathlib.Tactic.Zify
import Mathlib.Tactic.LinearCombination
/-
  C13: num-modular's `invm` on the primitive types (`Model/NT/ModInvm.lean`: checked `+ - *`, wrapping
  `wrapping_*`, `udouble::widening_mul`, `udouble::div_rem_2by1`, `Rem<u128> for udouble`, `u128::mulm`,
  the `u8..u64` `mulm` through the next wider type, `subm`, `negm`, the Euclid loop) never overflows and
  equals the `Nat`-level `invm` of `Model/NT/Modular.lean`.  All statements for every half width `H ≥ 1`
  (`umax` = `2H` bits; the real `u128` is `H = 64`) and every primitive width `T`.
-/
namespace Dashu.Model.NT.NMPrim
open Dashu.Model Dashu.Model.NT

theorem cadd_ok {bits a b : Nat} (h : a + b < 2 ^ bits) : cadd bits a b = .ok (a + b) := by simp [cadd, h]
theorem cmul_ok {bits a b : Nat} (h : a * b < 2 ^ bits) : cmul bits a b = .ok (a * b) := by simp [cmul, h]
theorem csub_ok {a b : Nat} (h : b ≤ a) : csub a b = .ok (a - b) := by simp [csub, h]
theorem cdiv_ok {a b : Nat} (h : 0 < b) : cdiv a b = .ok (a / b) := by simp [cdiv]; omega
theorem crem_ok {a b : Nat} (h : 0 < b) : crem a b = .ok (a % b) := by simp [crem]; omega

theorem or_shift_eq_add {H z0 z1 : Nat} (h0 : z0 < 2 ^ H) : z0 ||| z1 * 2 ^ H = z0 + z1 * 2 ^ H := by
  rw [Nat.or_comm, ← Nat.shiftLeft_eq, ← Nat.shiftLeft_add_eq_or_of_lt h0, Nat.add_comm]

/-- **`udouble::widening_mul`**: no intermediate overflows, the result is the exact double-width product -/
theorem wideningMul_spec (H lhs rhs : Nat) (hl : lhs < 2 ^ (2 * H)) (hr : rhs < 2 ^ (2 * H)) :
    wideningMul H lhs rhs = .ok ⟨lhs * rhs / 2 ^ (2 * H), lhs * rhs % 2 ^ (2 * H)⟩ := by
  simp only [wideningMul, split]
  have hBB := two_pow_two_mul H
  have hB : 0 < 2 ^ H := Nat.two_pow_pos H
  generalize hBdef : 2 ^ H = B at *
  have hl' : lhs < B * B := by omega
  have hr' : rhs < B * B := by omega
  have hx1 : lhs / B < B := (Nat.div_lt_iff_lt_mul hB).2 hl'
  have hy1 : rhs / B < B := (Nat.div_lt_iff_lt_mul hB).2 hr'
  have hx0 : lhs % B < B := Nat.mod_lt _ hB
  have hy0 : rhs % B < B := Nat.mod_lt _ hB
  have el := Nat.div_add_mod lhs B
  have er := Nat.div_add_mod rhs B
  generalize lhs / B = x1 at *
  generalize lhs % B = x0 at *
  generalize rhs / B = y1 at *
  generalize rhs % B = y0 at *
  have hx1y1 : x1 * y1 < B * B := by have := mul_add_lt_sq hx1 hy1 hB; omega
  have hx0y0 : x0 * y0 < B * B := by have := mul_add_lt_sq hx0 hy0 hB; omega
  rw [cmul_ok (by omega : x1 * y1 < 2 ^ (2 * H)), cmul_ok (by omega : x0 * y0 < 2 ^ (2 * H))]
  simp only [bind, Except.bind]
  -- first carry step
  have e0 := Nat.div_add_mod (x0 * y0) B
  have hz0 : (x0 * y0) % B < B := Nat.mod_lt _ hB
  have hc0 : (x0 * y0) / B < B := (Nat.div_lt_iff_lt_mul hB).2 hx0y0
  generalize (x0 * y0) / B = c0 at *
  generalize (x0 * y0) % B = z0 at *
  have hp1 : x1 * y0 + c0 < B * B := mul_add_lt_sq hx1 hy0 hc0
  rw [cmul_ok (by omega : x1 * y0 < 2 ^ (2 * H))]
  simp only [bind, Except.bind]
  rw [cadd_ok (by omega : x1 * y0 + c0 < 2 ^ (2 * H))]
  simp only [bind, Except.bind]
  have e1 := Nat.div_add_mod (x1 * y0 + c0) B
  have hz1 : (x1 * y0 + c0) % B < B := Nat.mod_lt _ hB
  have hc1 : (x1 * y0 + c0) / B < B := (Nat.div_lt_iff_lt_mul hB).2 hp1
  generalize (x1 * y0 + c0) / B = c1 at *
  generalize (x1 * y0 + c0) % B = z1 at *
  have hp2 : x0 * y1 + z1 < B * B := mul_add_lt_sq hx0 hy1 hz1
  have e2 := Nat.div_add_mod (x0 * y1 + z1) B
  have hz1' : (x0 * y1 + z1) % B < B := Nat.mod_lt _ hB
  have hc1' : (x0 * y1 + z1) / B < B := (Nat.div_lt_iff_lt_mul hB).2 hp2
  have key : ∀ c1' z1', B * c1' + z1' = x0 * y1 + z1 →
      (x1 * y1 + c1 + c1') * (B * B) + (z0 + z1' * B) = lhs * rhs := by
    intro c1' z1' e2
    rw [← el, ← er]
    zify at e0 e1 e2 ⊢
    linear_combination e0 + (B : ℤ) * e1 + (B : ℤ) * e2
  have hprod : lhs * rhs < (B * B) * (B * B) := Nat.mul_lt_mul'' hl' hr'
  have hz2 : x1 * y1 + c1 < B * B := mul_add_lt_sq hx1 hy1 hc1
  rw [cadd_ok (by omega : x1 * y1 + c1 < 2 ^ (2 * H))]
  simp only [bind, Except.bind]
  rw [cmul_ok (by omega : x0 * y1 < 2 ^ (2 * H))]
  simp only [bind, Except.bind]
  rw [cadd_ok (by omega : x0 * y1 + z1 < 2 ^ (2 * H))]
  simp only [bind, Except.bind]
  have k := key _ _ e2
  generalize (x0 * y1 + z1) / B = c1' at *
  generalize (x0 * y1 + z1) % B = z1' at *
  have hhi : x1 * y1 + c1 + c1' < B * B := by
    by_contra hc
    have : (B * B) * (B * B) ≤ (x1 * y1 + c1 + c1') * (B * B) :=
      Nat.mul_le_mul_right _ (by omega)
    exact absurd (Nat.lt_of_le_of_lt (Nat.le_trans this (Nat.le.intro k)) hprod) (Nat.lt_irrefl _)
  rw [cadd_ok (by omega : x1 * y1 + c1 + c1' < 2 ^ (2 * H))]
  simp only [bind, Except.bind, pure, Except.pure]
  have hlo : z0 + z1' * B < B * B := by rw [Nat.add_comm]; exact digit_pair_lt hz1' hz0
  have hdiv : lhs * rhs / (B * B) = x1 * y1 + c1 + c1' := by
    rw [← k, Nat.add_comm, Nat.add_mul_div_right _ _ (Nat.mul_pos hB hB), Nat.div_eq_of_lt hlo, Nat.zero_add]
  have hmod : lhs * rhs % (B * B) = z0 + z1' * B := by
    rw [← k, Nat.add_comm, Nat.add_mul_mod_self_right, Nat.mod_eq_of_lt hlo]
  rw [hBB, hdiv, hmod, Nat.mod_eq_of_lt (by omega : z1' * B < B * B)]
  congr 2
  rw [← hBdef] at hz0 ⊢
  exact or_shift_eq_add hz0

/-- the `wrapping_mul(B).wrapping_add(nx).wrapping_sub(q.wrapping_mul(d))` remainder is the true
    difference whenever that difference is a `bits`-bit number -/
theorem wrap_sub {M a b c : Nat} (hM : 0 < M) (hle : c ≤ a + b) (hlt : a + b - c < M) :
    ((a % M + b) % M + M - c % M % M) % M = a + b - c := by
  rw [Nat.mod_mod, Nat.mod_add_mod]
  have hY : c % M < M := Nat.mod_lt _ hM
  have hme : ((a + b) % M + M - c % M) ≡ (a + b - c) [MOD M] := by
    apply Nat.ModEq.add_right_cancel' (c % M)
    rw [Nat.sub_add_cancel (by omega)]
    unfold Nat.ModEq
    rw [Nat.add_mod_right, Nat.mod_mod, Nat.add_mod_mod, Nat.sub_add_cancel hle]
  have := hme
  unfold Nat.ModEq at this
  rw [this, Nat.mod_eq_of_lt hlt]

theorem adjCond_ok {H d0 nx q rhat : Nat} (hd0 : d0 < 2 ^ H) (hnx : nx < 2 ^ H) (hrh : rhat < 2 ^ H) :
    adjCond H d0 nx q rhat =
      .ok (decide (q ≥ 2 ^ H ∨ q * d0 > 2 ^ H * rhat + nx)) := by
  unfold adjCond
  have hBB := two_pow_two_mul H
  have hB : 0 < 2 ^ H := Nat.two_pow_pos H
  generalize 2 ^ H = B at *
  by_cases hq : q ≥ B
  · simp [hq]; rfl
  · rw [if_neg hq]
    have h1 : q * d0 < B * B := by have := mul_add_lt_sq (Nat.lt_of_not_ge hq) hd0 hB; omega
    have h2 : B * rhat + nx < B * B := by rw [Nat.mul_comm]; exact digit_pair_lt hrh hnx
    rw [cmul_ok (by omega : q * d0 < 2 ^ (2 * H))]
    simp only [bind, Except.bind]
    rw [cmul_ok (by omega : B * rhat < 2 ^ (2 * H))]
    simp only [bind, Except.bind]
    rw [cadd_ok (by omega : B * rhat + nx < 2 ^ (2 * H))]
    simp only [bind, Except.bind, pure, Except.pure]
    simp [hq]

/-- **the correction loop of one quotient digit**: started from any estimate `q ≥ ⌊N/d⌋`, `q ≤ B + 1`,
    with `q·d1 + rhat = n_hi`, it never overflows and ends at the true digit `⌊N/d⌋`,
    `N = n_hi·B + nx`, `d = d1·B + d0` -/
theorem adjLoop_spec {H d1 d0 nx nhi : Nat} (hd0 : d0 < 2 ^ H) (hd1 : d1 < 2 ^ H) (hnx : nx < 2 ^ H)
    (hlt : nhi < d1 * 2 ^ H + d0) :
    ∀ (q rhat : Nat), q * d1 + rhat = nhi → rhat < 2 ^ H →
      (nhi * 2 ^ H + nx) / (d1 * 2 ^ H + d0) ≤ q → q ≤ 2 ^ H + 1 →
      ∃ rh, adjLoop H d1 d0 nx q rhat = .ok ((nhi * 2 ^ H + nx) / (d1 * 2 ^ H + d0), rh) := by
  have hBB := two_pow_two_mul H
  have hB : 0 < 2 ^ H := Nat.two_pow_pos H
  have hcond := fun q rhat (h : rhat < 2 ^ H) => adjCond_ok (H := H) (d0 := d0) (nx := nx) (q := q) hd0 hnx h
  have hcadd := fun a b (h : a + b < 2 ^ (2 * H)) => cadd_ok (bits := 2 * H) h
  generalize hBdef : 2 ^ H = B at *
  have hdpos : 0 < d1 * B + d0 := by omega
  -- the true digit is below B
  have hqs : (nhi * B + nx) / (d1 * B + d0) < B := by
    apply (Nat.div_lt_iff_lt_mul hdpos).2
    have : (nhi + 1) * B ≤ (d1 * B + d0) * B := Nat.mul_le_mul_right _ (by omega)
    have e : (nhi + 1) * B = nhi * B + B := by ring
    rw [Nat.mul_comm B]; omega
  generalize hQ : (nhi * B + nx) / (d1 * B + d0) = Q at *
  -- the loop test is `q·d > N`
  have htest : ∀ q rhat, q * d1 + rhat = nhi →
      (q * d0 > B * rhat + nx ↔ q * (d1 * B + d0) > nhi * B + nx) := by
    intro q rhat e
    have : q * (d1 * B + d0) = (q * d1) * B + q * d0 := by ring
    have e2 : nhi * B = (q * d1) * B + B * rhat := by rw [← e]; ring
    rw [this, e2]; omega
  have hgt : ∀ q, q * (d1 * B + d0) > nhi * B + nx → Q < q := by
    intro q h
    rw [← hQ]
    apply (Nat.div_lt_iff_lt_mul hdpos).2
    exact h
  have hle : ∀ q, q * (d1 * B + d0) ≤ nhi * B + nx → q ≤ Q := by
    intro q h
    rw [← hQ]
    exact (Nat.le_div_iff_mul_le hdpos).2 h
  intro q
  induction q with
  | zero =>
    intro rhat e hr hQq _
    refine ⟨rhat, ?_⟩
    have : Q = 0 := by omega
    subst this
    unfold adjLoop
    rw [hcond 0 rhat hr]
    simp only [bind, Except.bind]
    have : ¬ (0 ≥ B ∨ 0 * d0 > B * rhat + nx) := by omega
    simp only [this, decide_false, Bool.false_eq_true, if_false]
    rfl
  | succ q ih =>
    intro rhat e hr hQq hqB
    unfold adjLoop
    rw [hcond (q + 1) rhat hr]
    simp only [bind, Except.bind, hBdef]
    by_cases hc : (q + 1 ≥ B ∨ (q + 1) * d0 > B * rhat + nx)
    · have hQlt : Q < q + 1 := by
        rcases hc with h | h
        · omega
        · exact hgt _ ((htest _ _ e).1 h)
      simp only [hc, decide_true, if_true]
      have h2B : rhat + d1 < B * B := by
        have := digit_pair_lt hd1 hr
        have := Nat.le_mul_of_pos_right d1 hB
        omega
      rw [hcadd rhat d1 (by omega)]
      simp only [bind, Except.bind]
      have e' : q * d1 + (rhat + d1) = nhi := by rw [← e]; ring
      by_cases hbrk : rhat + d1 ≥ B
      · rw [if_pos hbrk]
        refine ⟨rhat + d1, ?_⟩
        have hqQ : q ≤ Q := by
          apply hle
          have e3 : nhi * B = (q * d1) * B + (rhat + d1) * B := by rw [← e']; ring
          have e4 : q * (d1 * B + d0) = (q * d1) * B + q * d0 := by ring
          have h5 : B * B ≤ (rhat + d1) * B := Nat.mul_le_mul_right _ hbrk
          have h6 : q * d0 ≤ B * d0 := Nat.mul_le_mul_right _ (by omega)
          have h7 : B * d0 < B * B := Nat.mul_lt_mul_of_pos_left hd0 hB
          omega
        have : q = Q := by omega
        subst this
        rfl
      · rw [if_neg hbrk]
        exact ih (rhat + d1) e' (by omega) (by omega) (by omega)
    · simp only [hc, decide_false, Bool.false_eq_true, if_false]
      refine ⟨rhat, ?_⟩
      have hq1 : q + 1 ≤ Q := by
        apply hle
        have h1 : ¬ ((q + 1) * d0 > B * rhat + nx) := fun h => hc (Or.inr h)
        have := (htest _ _ e).not.1 h1
        omega
      have : q + 1 = Q := by omega
      subst this
      rfl

/-- **one quotient digit of `div_rem_2by1`** (`div_rem(n_hi, d1)`, correction loop, wrapping remainder):
    for a normalised two-digit divisor `d` and `n_hi < d` the digit and the remainder are exact -/
theorem divDigit_spec {H d nhi nx : Nat} (hH : 1 ≤ H) (hd : d < 2 ^ (2 * H)) (hnorm : 2 ^ (2 * H) ≤ 2 * d)
    (hn : nhi < d) (hnx : nx < 2 ^ H) :
    divDigit H d nhi nx = .ok ((nhi * 2 ^ H + nx) / d, (nhi * 2 ^ H + nx) % d) := by
  have hBB := two_pow_two_mul H
  have hB : 0 < 2 ^ H := Nat.two_pow_pos H
  have hBeven : 2 ^ H = 2 * 2 ^ (H - 1) := by
    rw [← Nat.pow_succ']; congr 1; omega
  have hadj := @adjLoop_spec H (d / 2 ^ H) (d % 2 ^ H) nx nhi
  have hws := @wrap_sub (2 ^ (2 * H)) (nhi * 2 ^ H) nx
  unfold divDigit split
  simp only [wsub, wadd, wmul]
  generalize hBdef : 2 ^ H = B at *
  generalize 2 ^ (H - 1) = b at *
  have hdd := Nat.div_add_mod d B
  have hd0 : d % B < B := Nat.mod_lt _ hB
  have hd1 : d / B < B := (Nat.div_lt_iff_lt_mul hB).2 (by omega)
  have hd1b : b ≤ d / B := by
    apply (Nat.le_div_iff_mul_le hB).2
    have : (2 * b) * (2 * b) = 2 * (b * (2 * b)) := by ring
    rw [hBeven]; rw [hBeven] at hBB; omega
  generalize d / B = d1 at *
  generalize d % B = d0 at *
  have hd1pos : 0 < d1 := by
    have : 0 < b := by omega
    omega
  have hdeq : d = d1 * B + d0 := by rw [← hdd]; ring
  rw [cdiv_ok hd1pos, crem_ok hd1pos]
  simp only [bind, Except.bind]
  -- the initial estimate
  have hq0 := Nat.div_add_mod nhi d1
  have hr0 : nhi % d1 < d1 := Nat.mod_lt _ hd1pos
  have hqlt : nhi < d1 * (nhi / d1 + 1) := Nat.lt_mul_div_succ nhi hd1pos
  have hdpos : 0 < d := by omega
  have hQle : (nhi * B + nx) / d ≤ nhi / d1 := by
    apply Nat.le_of_lt_succ
    apply (Nat.div_lt_iff_lt_mul hdpos).2
    show nhi * B + nx < (nhi / d1 + 1) * d
    calc nhi * B + nx < nhi * B + B := by omega
      _ = (nhi + 1) * B := by ring
      _ ≤ (d1 * (nhi / d1 + 1)) * B := Nat.mul_le_mul_right _ hqlt
      _ = (nhi / d1 + 1) * (d1 * B) := by ring
      _ ≤ (nhi / d1 + 1) * d := Nat.mul_le_mul_left _ (by omega)
  have hqB : nhi / d1 ≤ B + 1 := by
    apply Nat.le_of_lt_succ
    apply (Nat.div_lt_iff_lt_mul hd1pos).2
    show nhi < (B + 1 + 1) * d1
    have e : (B + 1 + 1) * d1 = d1 * B + 2 * d1 := by ring
    rw [e]; omega
  obtain ⟨rh, hrun⟩ := hadj hd0 hd1 hnx (by omega) (nhi / d1) (nhi % d1)
    (by rw [Nat.mul_comm]; exact hq0) (by omega) (by rw [← hdeq]; exact hQle) hqB
  rw [← hdeq] at hrun
  rw [hrun]
  simp only [pure, Except.pure]
  congr 2
  have hle := Nat.div_mul_le_self (nhi * B + nx) d
  have hmod := Nat.mod_lt (nhi * B + nx) hdpos
  have hdef : (nhi * B + nx) % d = nhi * B + nx - (nhi * B + nx) / d * d := by
    have := Nat.div_add_mod (nhi * B + nx) d
    rw [Nat.mul_comm] at this; omega
  rw [hdef]
  exact hws (Nat.two_pow_pos _) hle (by omega)

/-- **`udouble::shl_u32`** by `s < umax::BITS` when nothing is shifted out -/
theorem shlU32_spec {U s : Nat} {x : UDouble} (hs : s < U) (hlo : x.lo < 2 ^ U) (hhi : x.hi * 2 ^ s < 2 ^ U) :
    (shlU32 U x s).hi * 2 ^ U + (shlU32 U x s).lo = (x.hi * 2 ^ U + x.lo) * 2 ^ s ∧
    (shlU32 U x s).lo < 2 ^ U := by
  unfold shlU32
  by_cases h0 : s = 0
  · subst h0; simp [hlo]
  · rw [if_neg h0, if_neg (by omega)]
    simp only []
    have eU : 2 ^ U = 2 ^ (U - s) * 2 ^ s := by rw [← Nat.pow_add]; congr 1; omega
    have hP : 0 < 2 ^ (U - s) := Nat.two_pow_pos _
    have hS : 0 < 2 ^ s := Nat.two_pow_pos _
    have hq : x.lo / 2 ^ (U - s) < 2 ^ s := (Nat.div_lt_iff_lt_mul hP).2 (by rw [Nat.mul_comm, ← eU]; exact hlo)
    have hor : x.hi * 2 ^ s ||| x.lo / 2 ^ (U - s) = x.hi * 2 ^ s + x.lo / 2 ^ (U - s) := by
      rw [← Nat.shiftLeft_eq, ← Nat.shiftLeft_add_eq_or_of_lt hq]
    rw [Nat.mod_eq_of_lt hhi, hor]
    have hlo2 : x.lo * 2 ^ s % 2 ^ U = (x.lo % 2 ^ (U - s)) * 2 ^ s := by
      rw [eU, Nat.mul_mod_mul_right]
    rw [hlo2]
    have hdm := Nat.div_add_mod x.lo (2 ^ (U - s))
    refine ⟨?_, ?_⟩
    · rw [eU]
      generalize 2 ^ (U - s) = P at *
      generalize 2 ^ s = S at *
      generalize x.lo / P = a at *
      generalize x.lo % P = b at *
      rw [← hdm]; ring
    · rw [eU]
      exact Nat.mul_lt_mul_of_pos_right (Nat.mod_lt _ hP) hS

/-- **`udouble::div_rem_2by1`** (`udiv_qrnnd`): for `0 < other`, `self.hi < other` the two wrapping
    digit steps never overflow and return the exact quotient and remainder of the double-width value -/
theorem divRem2by1_spec {H other : Nat} {x : UDouble} (hH : 1 ≤ H) (ho : 0 < other) (hoU : other < 2 ^ (2 * H))
    (hhi : x.hi < other) (hlo : x.lo < 2 ^ (2 * H)) :
    divRem2by1 H x other =
      .ok ((x.hi * 2 ^ (2 * H) + x.lo) / other, (x.hi * 2 ^ (2 * H) + x.lo) % other) := by
  have hone : other ≠ 0 := by omega
  have hbl := bitLen_le_of_lt hoU
  have hbp := bitLen_pos hone
  obtain ⟨hdlt, hdge⟩ := norm_shift hone hbl
  have hs : 2 * H - bitLen other < 2 * H := by omega
  unfold divRem2by1
  simp only [split]
  generalize hsdef : 2 * H - bitLen other = s at *
  have hS : 0 < 2 ^ s := Nat.two_pow_pos _
  have hhis : x.hi * 2 ^ s < 2 ^ (2 * H) :=
    Nat.lt_trans (Nat.mul_lt_mul_of_pos_right hhi hS) hdlt
  obtain ⟨hn, hnlo⟩ := shlU32_spec (x := x) hs hlo hhis
  rw [Nat.mod_eq_of_lt hdlt]
  generalize shlU32 (2 * H) x s = n at *
  have hBB := two_pow_two_mul H
  have hB : 0 < 2 ^ H := Nat.two_pow_pos H
  have hdig := fun nhi nx (h1 : nhi < other * 2 ^ s) (h2 : nx < 2 ^ H) =>
    @divDigit_spec H (other * 2 ^ s) nhi nx hH hdlt hdge h1 h2
  have hcm := fun a b (h : a * b < 2 ^ (2 * H)) => cmul_ok (bits := 2 * H) h
  have hca := fun a b (h : a + b < 2 ^ (2 * H)) => cadd_ok (bits := 2 * H) h
  generalize hX : x.hi * 2 ^ (2 * H) + x.lo = X at *
  have hXlt : X < other * 2 ^ (2 * H) := by
    have : (x.hi + 1) * 2 ^ (2 * H) ≤ other * 2 ^ (2 * H) := Nat.mul_le_mul_right _ hhi
    have e : (x.hi + 1) * 2 ^ (2 * H) = x.hi * 2 ^ (2 * H) + 2 ^ (2 * H) := by ring
    omega
  generalize hdd : other * 2 ^ s = d at *
  generalize 2 ^ H = B at *
  generalize 2 ^ (2 * H) = UU at *
  subst hBB
  have hdpos : 0 < d := by omega
  have hnhi : n.hi < d := by
    have h1 : n.hi * (B * B) ≤ X * 2 ^ s := by omega
    have h2 : X * 2 ^ s < (other * (B * B)) * 2 ^ s := Nat.mul_lt_mul_of_pos_right hXlt hS
    have e : (other * (B * B)) * 2 ^ s = d * (B * B) := by rw [← hdd]; ring
    rw [e] at h2
    exact Nat.lt_of_mul_lt_mul_right (Nat.lt_of_le_of_lt h1 h2)
  have hn1 : n.lo / B < B := (Nat.div_lt_iff_lt_mul hB).2 hnlo
  have hn0 : n.lo % B < B := Nat.mod_lt _ hB
  have hnl := Nat.div_add_mod n.lo B
  rw [hdig n.hi (n.lo / B) hnhi hn1]
  simp only [bind, Except.bind]
  have hr21 : (n.hi * B + n.lo / B) % d < d := Nat.mod_lt _ hdpos
  rw [hdig _ (n.lo % B) hr21 hn0]
  simp only [bind, Except.bind]
  -- the digits are below B
  have hdigit_lt : ∀ nhi nx, nhi < d → nx < B → (nhi * B + nx) / d < B := by
    intro nhi nx h1 h2
    apply (Nat.div_lt_iff_lt_mul hdpos).2
    have : (nhi + 1) * B ≤ d * B := Nat.mul_le_mul_right _ h1
    have e : (nhi + 1) * B = nhi * B + B := by ring
    rw [Nat.mul_comm B]; omega
  have hq1 := hdigit_lt _ _ hnhi hn1
  have hq0 := hdigit_lt _ _ hr21 hn0
  have e1 := Nat.div_add_mod (n.hi * B + n.lo / B) d
  have e0 := Nat.div_add_mod ((n.hi * B + n.lo / B) % d * B + n.lo % B) d
  have hrr : ((n.hi * B + n.lo / B) % d * B + n.lo % B) % d < d := Nat.mod_lt _ hdpos
  generalize (n.hi * B + n.lo / B) / d = q1 at *
  generalize (n.hi * B + n.lo / B) % d = r21 at *
  generalize (r21 * B + n.lo % B) / d = q0 at *
  generalize (r21 * B + n.lo % B) % d = r at *
  have hq1B : q1 * B + q0 < B * B := digit_pair_lt hq1 hq0
  rw [hcm q1 B (by omega)]
  simp only [bind, Except.bind]
  rw [hca (q1 * B) q0 hq1B]
  simp only [bind, Except.bind, pure, Except.pure]
  -- X·2^s = (q1·B + q0)·d + r
  have key : r + d * (q1 * B + q0) = X * 2 ^ s := by
    rw [← hn]
    generalize n.lo / B = n1 at *
    generalize n.lo % B = n0 at *
    rw [← hnl]
    zify at e1 e0 ⊢
    linear_combination e0 + (B : ℤ) * e1
  obtain ⟨kd, km⟩ := (Nat.div_mod_unique hdpos).2 ⟨key, hrr⟩
  rw [← hdd] at kd km
  rw [Nat.mul_div_mul_right _ _ hS] at kd
  rw [Nat.mul_mod_mul_right] at km
  rw [← kd, ← km, Nat.mul_div_cancel _ hS]

/-- **`impl Rem<u128> for udouble`** -/
theorem udoubleRem_spec {H rhs : Nat} {x : UDouble} (hH : 1 ≤ H) (hr : 0 < rhs) (hrU : rhs < 2 ^ (2 * H))
    (hlo : x.lo < 2 ^ (2 * H)) :
    udoubleRem H x rhs = .ok ((x.hi * 2 ^ (2 * H) + x.lo) % rhs) := by
  unfold udoubleRem
  by_cases h : x.hi < rhs
  · rw [if_pos h, divRem2by1_spec hH hr hrU h hlo]; rfl
  · rw [if_neg h, crem_ok hr]
    simp only [bind, Except.bind]
    rw [divRem2by1_spec (x := ⟨x.hi % rhs, x.lo⟩) hH hr hrU (Nat.mod_lt _ hr) hlo]
    simp only [pure, Except.pure]
    congr 1
    rw [Nat.add_mod, Nat.mul_mod, Nat.mod_mod, ← Nat.mul_mod, ← Nat.add_mod]

/-- **`u128::mulm`** (`checked_mul`, else `widening_mul` and `udouble % m`) `= a·b mod m` -/
theorem mulmMax_spec {H a b m : Nat} (hH : 1 ≤ H) (ha : a < 2 ^ (2 * H)) (hb : b < 2 ^ (2 * H))
    (hm : 0 < m) (hmU : m < 2 ^ (2 * H)) : mulmMax H a b m = .ok (a * b % m) := by
  unfold mulmMax
  by_cases h : a * b < 2 ^ (2 * H)
  · rw [if_pos h, crem_ok hm]
  · rw [if_neg h, wideningMul_spec H a b ha hb]
    simp only [bind, Except.bind]
    rw [udoubleRem_spec hH hm hmU (Nat.mod_lt _ (Nat.two_pow_pos _))]
    simp only []
    rw [Nat.mul_comm (a * b / 2 ^ (2 * H)), Nat.div_add_mod]

/-- **`mulm` of `u8 … u64`** (through the next wider primitive, truncating cast back) `= a·b mod m` -/
theorem mulmWide_spec {T a b m : Nat} (ha : a < 2 ^ T) (hb : b < 2 ^ T) (hm : 0 < m) (hmT : m < 2 ^ T) :
    mulmWide T a b m = .ok (a * b % m) := by
  unfold mulmWide
  have : a * b < 2 ^ (2 * T) := by
    rw [two_pow_two_mul]; exact Nat.mul_lt_mul'' ha hb
  rw [cmul_ok this]
  simp only [bind, Except.bind]
  rw [crem_ok hm]
  simp only [bind, Except.bind, pure, Except.pure]
  rw [Nat.mod_eq_of_lt (Nat.lt_trans (Nat.mod_lt _ hm) hmT)]

theorem mulmOf_spec {T a b m : Nat} (ha : a < 2 ^ T) (hb : b < 2 ^ T) (hm : 0 < m) (hmT : m < 2 ^ T) :
    mulmOf T a b m = .ok (a * b % m) := by
  unfold mulmOf
  by_cases h : T = 128
  · subst h
    rw [if_pos rfl]
    exact mulmMax_spec (H := 64) (by decide) ha hb hm hmT
  · rw [if_neg h]; exact mulmWide_spec ha hb hm hmT

/-- **`subm` / `negm`** on the primitive type `= subm` of the `Nat`-level model -/
theorem submP_spec {a b m : Nat} (hm : 0 < m) : submP a b m = .ok (subm a b m) := by
  unfold submP subm negmP
  by_cases h : a ≥ b
  · rw [if_pos h, if_pos h, csub_ok h]
    simp only [bind, Except.bind]
    rw [crem_ok hm]
  · rw [if_neg h, if_neg h, csub_ok (by omega)]
    simp only [bind, Except.bind]
    rw [crem_ok hm]
    simp only [bind, Except.bind]
    rw [crem_ok hm, Nat.mod_mod]
    simp only [bind, Except.bind]
    by_cases h0 : (b - a) % m = 0
    · simp [h0]; rfl
    · simp only [h0, if_false]
      rw [csub_ok (Nat.le_of_lt (Nat.mod_lt _ hm))]

/-- the Euclid loop of `invm` on the primitive type = the `Nat`-level loop, provided `mulm` is exact on
    operands of the type -/
theorem invmLoopP_spec {T m : Nat} {mulm : Nat → Nat → Nat → Except PanicKind Nat} (hm : 0 < m) (hmT : m < 2 ^ T)
    (hmul : ∀ a b, a < 2 ^ T → b < 2 ^ T → mulm a b m = .ok (a * b % m)) :
    ∀ (fuel lastR r lastT t : Nat), lastR < 2 ^ T → r < 2 ^ T → t < 2 ^ T →
      invmLoopP mulm m fuel lastR r lastT t = .ok (invmLoop m fuel lastR r lastT t) := by
  intro fuel
  induction fuel with
  | zero => intro lastR r lastT t _ _ _; rfl
  | succ fuel ih =>
    intro lastR r lastT t hR hrT ht
    unfold invmLoopP invmLoop
    by_cases h0 : r = 0
    · rw [if_pos h0, if_pos h0]
    · rw [if_neg h0, if_neg h0]
      have hr : 0 < r := Nat.pos_of_ne_zero h0
      rw [cdiv_ok hr, crem_ok hr]
      simp only [bind, Except.bind]
      rw [hmul _ _ (Nat.lt_of_le_of_lt (Nat.div_le_self _ _) hR) ht]
      simp only [bind, Except.bind]
      rw [submP_spec hm]
      simp only [bind, Except.bind]
      exact ih r (lastR % r) t _ hrT (Nat.lt_trans (Nat.mod_lt _ hr) hrT) (Nat.lt_trans (subm_lt hm) hmT)

/-- **`invm` on a primitive type = the `Nat`-level `invm`** (no overflow, no zero divisor) -/
theorem invmP_spec {T x m : Nat} {mulm : Nat → Nat → Nat → Except PanicKind Nat} (hm : 0 < m) (hmT : m < 2 ^ T)
    (hx : x < 2 ^ T)
    (hmul : ∀ a b, a < 2 ^ T → b < 2 ^ T → mulm a b m = .ok (a * b % m)) :
    invmP mulm x m = .ok (invm x m) := by
  unfold invmP invm
  have h1T : 1 < 2 ^ T := by omega
  by_cases h : x ≥ m
  · rw [if_pos h, if_pos h, crem_ok hm]
    simp only [bind, Except.bind]
    rw [invmLoopP_spec hm hmT hmul _ _ _ _ _ hmT (Nat.lt_trans (Nat.mod_lt _ hm) hmT) h1T]
    rfl
  · rw [if_neg h, if_neg h]
    simp only [bind, Except.bind, pure, Except.pure]
    rw [invmLoopP_spec hm hmT hmul _ _ _ _ _ hmT hx h1T]

end Dashu.Model.NT.NMPrim

namespace Dashu.Model.NT
open Dashu.Model NMPrim

/-- **`PreMulInv2by1::inv` / `PreMulInv3by2::inv` on the primitive types = the `%`-level `inv`** of
    single- and double-word rings, on valid (pre-shifted, reduced) operands -/
theorem invSDP_eq {W : Nat} {r : Ring} (hwf : r.WF W) (hk : r.kind ≠ .large) {u : Nat} (hu : u < r.m) :
    invSDP W r (u * 2 ^ r.k) = .ok (invRaw r (u * 2 ^ r.k)) := by
  have hP : 0 < 2 ^ r.k := Nat.two_pow_pos _
  have hT : r.M < 2 ^ (if r.kind = .single then W else 2 * W) := by
    have := hwf.Mlt
    cases hkk : r.kind with
    | single => rw [hwf.kind_n.1 hkk] at this; simpa using this
    | double => rw [hwf.kind_n.2.1 hkk] at this; simpa [Nat.mul_comm] using this
    | large => exact absurd hkk hk
  have hmT : r.m < 2 ^ (if r.kind = .single then W else 2 * W) := by
    have : r.m ≤ r.M := by unfold Ring.M; exact Nat.le_mul_of_pos_right _ hP
    omega
  unfold invSDP
  simp only []
  rw [M_div, Nat.mul_div_cancel _ hP]
  rw [invmP_spec hwf.mpos hmT (Nat.lt_trans hu hmT) (fun a b ha hb => mulmOf_spec ha hb hwf.mpos hmT)]
  simp only [bind, Except.bind, pure, Except.pure]
  rw [invRaw_eq hwf]
  congr 1
  cases hi : invm u r.m with
  | none => rfl
  | some v =>
    simp only [Option.map]
    congr 1
    have hv := ((invm_spec (x := u) hwf.mpos).1 v hi).2
    exact Nat.mod_eq_of_lt (Nat.lt_trans (raw_lt_M hv) hT)

/-- `Reduced::inv` with num-modular's `invm` at the machine level = `Reduced::inv` with the `Nat`-level `invm` (`invRawK`) -/
theorem invRawKP_eq {W : Nat} {r : Ring} (hwf : r.WF W) {u : Nat} (hu : u < r.m) :
    invRawKP W r (u * 2 ^ r.k) = invRawK W r (u * 2 ^ r.k) := by
  unfold invRawKP invRawK
  cases hk : r.kind with
  | large => rfl
  | single => simp only []; exact invSDP_eq hwf (by rw [hk]; decide) hu
  | double => simp only []; exact invSDP_eq hwf (by rw [hk]; decide) hu

end Dashu.Model.NT
