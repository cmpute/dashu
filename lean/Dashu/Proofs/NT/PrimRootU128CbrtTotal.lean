import Dashu.Proofs.NT.PrimRootU128Cbrt
/-
  C12: `<u128 as NormalizedRootRem>::normalized_cbrt_rem` adds NO overflow of its own: `u128::cbrt_rem` (and `u64::cbrt_rem`)
  answer on every operand if the `u64` routine answers on normalised operands.
-/
namespace Dashu.Model.NT
open Dashu.Model

/-- **`<u128 as NormalizedRootRem>::normalized_cbrt_rem` answers wherever the `u64` routine does** -/
theorem normCbrtU128_total_of_u64 {n : Nat} (hlo : 2 ^ 125 ≤ n) (hhi : n < 2 ^ 128)
    (h64 : ∀ y, 2 ^ 61 ≤ y → y < 2 ^ 64 → ∃ r, normCbrtU64 y = some r) : ∃ res, normCbrtU128 n = some res := by
  -- the operand handed to the `u64` routine is normalised in either branch
  obtain ⟨cr, hcr⟩ : ∃ cr, normCbrtU64 (if n < 2 ^ 127 then n / 2 ^ 63 % 2 ^ 64 else n / 2 ^ 66 % 2 ^ 64) = some cr := by
    split
    · exact h64 _ (by simp only [Nat.reducePow] at hlo ⊢; omega) (Nat.mod_lt _ (Nat.two_pow_pos _))
    · exact h64 _ (by simp only [Nat.reducePow] at hhi ⊢; omega) (Nat.mod_lt _ (Nat.two_pow_pos _))
  obtain ⟨res, h, _⟩ := normCbrtU128_spec hlo hhi hcr
  exact ⟨res, h⟩

/-- **`u128::cbrt_rem` answers wherever the `u64` routine does** -/
theorem cbrtRemU128_total_of_u64 (h64 : ∀ y, 2 ^ 61 ≤ y → y < 2 ^ 64 → ∃ r, normCbrtU64 y = some r)
    {x : Nat} (hx : x < 2 ^ 128) : ∃ r, cbrtRemPrimBits 128 x = some r :=
  (cbrtRemNorm_spec (bits := 128) (fun _ h1 h2 _ h3 => normCbrtU128_sound h1 h2 h3) hx).2
    fun _ hy1 hy2 => normCbrtU128_total_of_u64 hy1 hy2 h64

/-- `u64::cbrt_rem` answers on every operand if the normalised routine answers on normalised operands -/
theorem cbrtRemU64_total_of_norm (h64 : ∀ y, 2 ^ 61 ≤ y → y < 2 ^ 64 → ∃ r, normCbrtU64 y = some r)
    {x : Nat} (hx : x < 2 ^ 64) : ∃ r, cbrtRemPrimBits 64 x = some r :=
  (cbrtRemNorm_spec (bits := 64) (fun y _ _ => normCbrtU64_sound y) hx).2 h64

end Dashu.Model.NT
