import Dashu.Proofs.NT.Zimmermann
import Dashu.Proofs.NT.PrimRoot
/-
  C12: `<u128 as NormalizedRootRem>::normalized_sqrt_rem` (one Karatsuba step over the `u64` routine, the
  operands packed into `u64`s with KBITS = 32): on every normalised value on whose high half the `u64`
  routine answers it answers, without overflow, with the floor square root and the remainder.  Hence
  `u128::sqrt_rem` is sound; that it answers wherever the `u64` routine does is in `PrimRootU128Total.lean`.
-/
namespace Dashu.Model.NT
open Dashu.Model

theorem guardO_some {b : Bool} {u : Unit} (h : guardO b = some u) : b = true := by
  unfold guardO at h
  cases b <;> simp at h ⊢

theorem guardO_true : guardO true = some () := rfl

/-- a signed remainder `0 ≤ c·M + r ≤ 2s` with `r < M`, returned as `c.toNat·M + r` -/
theorem isRoot_of_signed {M n s r : Nat} {c : Int} (hr : r < M) (hid : (n : Int) = (s * s : Nat) + (c * M + r))
    (h0 : 0 ≤ c * M + r) (hle : c * M + r ≤ 2 * s) : IsRoot n 2 s ∧ s ^ 2 + (c.toNat * M + r) = n := by
  have hc : 0 ≤ c := Int.not_lt.1 fun h => absurd ((neg_iff_carry hr).1 h) (Int.not_lt.2 h0)
  have hR : ((c.toNat * M + r : Nat) : Int) = c * M + r := by push_cast; rw [Int.toNat_of_nonneg hc]
  rw [← hR] at hid h0 hle
  have h1 : s * s + (c.toNat * M + r) = n := by omega
  exact ⟨isRoot_of_rem h1 (by omega), by rw [Nat.pow_two]; exact h1⟩

/-- **one Karatsuba step over the `u64` routine**: on a normalised value on whose high half the `u64` routine
    answers, `<u128>::normalized_sqrt_rem` answers without overflow, with the floor square root and the remainder -/
theorem normSqrtU128_spec {n : Nat} (hlo : 2 ^ 126 ≤ n) (hhi : n < 2 ^ 128) {s1 r1 : Nat}
    (h64 : normSqrtU64 (n / 2 ^ 64) = some (s1, r1)) :
    ∃ res, normSqrtU128 n = some res ∧ IsRoot n 2 res.1 ∧ res.1 ^ 2 + res.2 = n := by
  obtain ⟨hroot, hrem⟩ := normSqrtU64_sound _ _ h64
  have hr1 := rem_le_of_isRoot hroot
  simp only [Nat.pow_two] at hrem hr1
  have hpr : r1 ≤ 2 * s1 := by omega
  unfold normSqrtU128
  extract_lets a b
  have h64 : normSqrtU64 a = some (s1, r1) := h64
  simp (config := {zeta := false}) only [Option.bind_eq_bind, Option.pure_def, h64, obind_some]
  extract_lets r0 q0 u0 qu
  have hndm : 2 ^ 64 * a + b = n := Nat.div_add_mod n (2 ^ 64)
  have hn : a * (2 ^ 32 * 2 ^ 32) + b / 2 ^ 32 * 2 ^ 32 + b % 2 ^ 32 = n := by omega
  have hblt : b < 2 ^ 64 := Nat.mod_lt n (Nat.two_pow_pos _)
  have hrem : s1 * s1 + r1 = a := hrem
  have ha : 2 ^ 62 ≤ a ∧ a < 2 ^ 64 := by omega
  clear_value a b
  clear hlo hhi hr1 hroot
  have hs1lt : s1 < 2 ^ 32 := root_lt (M := 2 ^ 32) hrem (by omega)
  have hs1n : 2 ^ 32 ≤ 2 * s1 := by
    have := root_normalised (Mhh := 2 ^ 31) hrem hpr (by omega)
    omega
  have hs1ne : decide (s1 ≠ 0) = true := decide_eq_true (by omega)
  rw [hs1ne, guardO_true, obind_some]
  -- the halved dividend and its division by `s1`
  have hr0 : 2 * r0 + b / 2 ^ 32 % 2 = r1 * 2 ^ 32 + b / 2 ^ 32 := by
    have : r0 = r1 * 2 ^ 31 + b / 2 ^ 33 := by
      simp only [r0]
      rw [Nat.mod_eq_of_lt (by omega), mul_two_pow_or rfl _ (by omega)]
    clear * - this
    omega
  have hdm : s1 * q0 + u0 = r0 := Nat.div_add_mod r0 s1
  have hu0 : u0 < s1 := Nat.mod_lt _ (by omega)
  clear_value r0 q0 u0
  have ha1 : b / 2 ^ 32 < 2 ^ 32 := by omega
  have ha0 : b % 2 ^ 32 < 2 ^ 32 := by omega
  have hq0 : q0 ≤ 2 ^ 32 := sqrt42_quot_le (r0 := r0) hpr hs1n ha1 (by omega) (by omega)
  obtain ⟨q, u, hqu, hq, hu⟩ : ∃ q u, qu = some (q, u) ∧ q = (if q0 < 2 ^ 32 then q0 else q0 - 1) ∧
      u = (if q0 < 2 ^ 32 then u0 else u0 + s1) := by
    by_cases hlt : q0 < 2 ^ 32
    · exact ⟨_, _, if_neg (by omega), (if_pos hlt).symm, (if_pos hlt).symm⟩
    · refine ⟨_, _, ?_, (if_neg hlt).symm, (if_neg hlt).symm⟩
      simp only [qu]
      rw [if_pos (by omega), ck_eq (m := u0 + s1) (by push_cast; rfl) (by omega), obind_some]
  rw [hqu, obind_some]
  clear_value qu
  have hqlt : q < 2 ^ 32 := by rw [hq]; split <;> omega
  have hult : u < 2 * s1 := by rw [hu]; split <;> omega
  have hqq : q * q ≤ (2 ^ 32 - 1) * (2 ^ 32 - 1) := Nat.mul_le_mul (by omega) (by omega)
  obtain ⟨hid, hle, hneg⟩ := sqrt42_cand (a0 := b % 2 ^ 32) hrem hpr hs1n ha1 ha0 hr0 hdm hu0 hq hu
  clear hrem hpr hs1n ha1 ha0 hr0 hdm hu0 hq hu hq0 ha hndm hblt
  simp (config := {zeta := false}) only []
  extract_lets s x
  rw [ck_eq (m := q * q) (by push_cast; rfl) (by omega), obind_some]
  extract_lets c r t1
  -- the packed operands of the subtraction
  have hs : s = s1 * 2 ^ 32 + q := by
    simp only [s]
    rw [Nat.mod_eq_of_lt (by omega), mul_two_pow_or rfl _ hqlt]
  have hx : x + 2 ^ 64 * (u / 2 ^ 31) = (u * 2 + b / 2 ^ 32 % 2) * 2 ^ 32 + b % 2 ^ 32 ∧ x < 2 ^ 64 := by
    have : x = u % 2 ^ 31 * 2 ^ 33 + b % 2 ^ 33 := by
      simp only [x]
      rw [show (2 : Nat) ^ 64 = 2 ^ 31 * 2 ^ 33 by norm_num, Nat.mul_mod_mul_right, mul_two_pow_or rfl _ (Nat.mod_lt _ (Nat.two_pow_pos _))]
    clear * - this
    omega
  obtain ⟨M, hM⟩ : ∃ M : Nat, M = 2 ^ 64 := ⟨_, rfl⟩
  have hrlt : r < M := hM ▸ Nat.mod_lt _ (Nat.two_pow_pos _)
  have hrc : c * (M : Int) + r
      = (((u * 2 + b / 2 ^ 32 % 2) * 2 ^ 32 + b % 2 ^ 32 : Nat) : Int) - (q * q : Nat) := by
    have h := sub_borrow_val hx.2 (show q * q ≤ 2 ^ 64 by omega)
    simp only [c, r]
    rw [h, ← hx.1, Nat.mod_eq_of_lt (show u / 2 ^ 31 < 2 ^ 8 by omega), ← hM]
    generalize (if x < q * q then (1 : Int) else 0) = bw
    push_cast; ring
  rw [← hrc] at hid hle hneg
  rw [hn, ← hs] at hid
  rw [← hs] at hle hneg
  clear_value s x c r
  rw [← hM]
  by_cases hc : c < 0
  · have hV := (neg_iff_carry hrlt).1 hc
    obtain ⟨h0, hq1⟩ := hneg hV
    have hs1 : 1 ≤ s := by omega
    obtain ⟨hid', hle'⟩ := signed_fix hid hV h0 hs1
    rw [if_pos hc, ck_eq (m := s - 1) (by omega) (by omega), obind_some]
    extract_lets t2 c'
    have hacc : c' * (M : Int) + (t2 % M : Nat) = c * (M : Int) + r + 2 * s - 1 := add_twice_val hs1
    rw [← hacc] at hid' hle' h0
    have ht2 : t2 % M < M := Nat.mod_lt _ (by omega)
    have hc' : ¬ c' < 0 := fun h => absurd ((neg_iff_carry ht2).1 h) (Int.not_lt.2 h0)
    rw [if_neg hc']
    exact ⟨_, rfl, isRoot_of_signed ht2 hid' h0 hle'⟩
  · rw [if_neg hc]
    exact ⟨_, rfl, isRoot_of_signed hrlt hid (Int.not_lt.1 fun h => hc ((neg_iff_carry hrlt).2 h)) hle⟩

theorem normSqrtU128_sound {n : Nat} (hlo : 2 ^ 126 ≤ n) (hhi : n < 2 ^ 128) {res : Nat × Nat}
    (h : normSqrtU128 n = some res) : IsRoot n 2 res.1 ∧ res.1 ^ 2 + res.2 = n := by
  rcases h64 : normSqrtU64 (n / 2 ^ 64) with _ | ⟨s1, r1⟩
  · unfold normSqrtU128 at h
    simp only [Option.bind_eq_bind, h64, Option.bind_none] at h
    exact absurd h (by simp)
  · obtain ⟨res', h', hr⟩ := normSqrtU128_spec hlo hhi h64
    rw [h] at h'
    injection h' with h'
    subst h'
    exact hr

/-- **`u128::sqrt_rem` is sound** on every value of the type -/
theorem sqrtRemU128_sound {x : Nat} (hx : x < 2 ^ 128) {r : Nat × Nat} (h : sqrtRemPrimBits 128 x = some r) :
    IsRoot x 2 r.1 ∧ r.1 ^ 2 + r.2 = x :=
  (sqrtRemNorm_spec (bits := 128) (fun _ h1 h2 _ h3 => normSqrtU128_sound h1 h2 h3) hx).1 r h

end Dashu.Model.NT
