import Dashu.Proofs.NT.Basic
/-
  C13 helper lemmas: every `raw` the model produces is `(value mod m)·2^k`.
-/
namespace Dashu.Model.NT
open Dashu.Model

theorem shift_mod (r : Ring) (x : Nat) : (x * 2 ^ r.k) % r.M = (x % r.m) * 2 ^ r.k :=
  Nat.mul_mod_mul_right _ _ _

theorem mod_M_mod_m (r : Ring) (x : Nat) : x % r.M % r.m = x % r.m :=
  Nat.mod_mul_right_mod _ _ _

theorem M_of_k0 {r : Ring} (h : r.k = 0) : r.M = r.m := by simp [Ring.M, h]

theorem M_div (r : Ring) : r.M / 2 ^ r.k = r.m := Nat.mul_div_cancel _ (Nat.two_pow_pos _)

theorem valid_of_lt {r : Ring} {v : Nat} (h : v < r.m) : Valid r (v * 2 ^ r.k) := ⟨v, h, rfl⟩

theorem valid_mk {r : Ring} (hm : 0 < r.m) (x : Nat) : Valid r ((x % r.m) * 2 ^ r.k) :=
  valid_of_lt (Nat.mod_lt _ hm)

theorem raw_lt_M {r : Ring} {v : Nat} (h : v < r.m) : v * 2 ^ r.k < r.M :=
  Nat.mul_lt_mul_of_pos_right h (Nat.two_pow_pos _)

theorem valid_lt_M {r : Ring} {z : Nat} : Valid r z → z < r.M := fun ⟨_, hv, hz⟩ => hz ▸ raw_lt_M hv

theorem add_mul_mod_mod (a b c M : Nat) : (a + b * (c % M)) % M = (a + b * c) % M := by
  rw [Nat.add_mod, Nat.mul_mod, Nat.mod_mod, ← Nat.mul_mod, ← Nat.add_mod]

theorem remWordS_eq (r : Ring) (x : Nat) : remWordS r x = (x % r.m) * 2 ^ r.k := by
  unfold remWordS
  split
  · rename_i h; rw [M_of_k0 h, h]; simp
  · exact shift_mod r x

theorem remDwordS_eq {W : Nat} {r : Ring} (hwf : r.WF W) (hn : r.n = 1) {x : Nat}
    (hx : x < 2 ^ (2 * W)) : remDwordS W r x = (x % r.m) * 2 ^ r.k := by
  unfold remDwordS
  split
  · rename_i h
    have hM := M_of_k0 h
    have h2 := hwf.Mge
    rw [hn, Nat.mul_one] at h2
    have hhi : x / 2 ^ W < 2 ^ W := by
      apply (Nat.div_lt_iff_lt_mul (Nat.two_pow_pos W)).2
      rw [← Nat.pow_add]; have : W + W = 2 * W := by omega
      rw [this]; exact hx
    simp only []
    have hr1 : (if x / 2 ^ W < r.M then x / 2 ^ W else x / 2 ^ W - r.M) = (x / 2 ^ W) % r.M := by
      split
      · rename_i hlt; rw [Nat.mod_eq_of_lt hlt]
      · rename_i hge; rw [Nat.mod_eq_sub_mod (by omega), Nat.mod_eq_of_lt (by omega)]
    rw [hr1, add_mul_mod_mod, Nat.mod_add_div, hM, h]; simp
  · simp only []
    rw [add_mul_mod_mod, Nat.mod_add_div, shift_mod]

theorem remLargeSD_eq (r : Ring) (x : Nat) : remLargeSD r x = (x % r.m) * 2 ^ r.k := by
  unfold remLargeSD
  simp only []
  split
  · rw [shift_mod, mod_M_mod_m]
  · rename_i h
    have h : r.k = 0 := by omega
    rw [M_of_k0 h, h]; simp

theorem remDwordD_eq {W : Nat} {r : Ring} (hwf : r.WF W) (hn : r.n = 2) {x : Nat}
    (hx : x < 2 ^ (2 * W)) : remDwordD r x = (x % r.m) * 2 ^ r.k := by
  unfold remDwordD
  split
  · rename_i h
    have hM := M_of_k0 h
    have h2 := hwf.Mge
    rw [hn, Nat.mul_comm W 2, hM] at h2
    rw [hM, h]
    split
    · rename_i hlt; rw [Nat.mod_eq_of_lt hlt]; simp
    · rename_i hge
      have : x % r.m = x - r.m := by
        rw [Nat.mod_eq_sub_mod (by omega), Nat.mod_eq_of_lt (by omega)]
      rw [this]; simp
  · exact shift_mod r x

theorem remReprL_eq {W : Nat} {r : Ring} (hwf : r.WF W) (hk : r.kind = .large) (x : Nat) :
    remReprL W r x = (x % r.m) * 2 ^ r.k := by
  unfold remReprL
  split
  · rename_i hlt
    have := hwf.m_large hk
    rw [Nat.mod_eq_of_lt (by omega)]
  · simp only []
    split
    · exact shift_mod r x
    · rename_i hlen
      have hlt : wordLen W (x * 2 ^ r.k) ≤ r.n - 1 := by omega
      have h1 := lt_two_pow_wordLen hwf.hW (x * 2 ^ r.k)
      have h2 : 2 ^ (W * wordLen W (x * 2 ^ r.k)) ≤ 2 ^ (W * (r.n - 1)) :=
        Nat.pow_le_pow_right (by decide) (Nat.mul_le_mul_left W hlt)
      have h3 := hwf.Mge
      have hn := hwf.kind_n.2.2 hk
      have hW := hwf.hW
      have e : 2 ^ (W * r.n) = 2 ^ W * 2 ^ (W * (r.n - 1)) := by
        rw [← Nat.pow_add]; congr 1
        have : r.n = (r.n - 1) + 1 := by omega
        conv => lhs; rw [this, Nat.mul_succ]
        omega
      have h4 : 2 ≤ 2 ^ W := by
        calc 2 = 2 ^ 1 := rfl
          _ ≤ 2 ^ W := Nat.pow_le_pow_right (by decide) hW
      have h5 : 2 * 2 ^ (W * (r.n - 1)) ≤ 2 ^ W * 2 ^ (W * (r.n - 1)) := Nat.mul_le_mul_right _ h4
      have hltM : x * 2 ^ r.k < r.M := by omega
      rw [← shift_mod, Nat.mod_eq_of_lt hltM]

/-- `ConstDivisor::reduce` of a natural number stores `(x mod m)·2^k` -/
theorem rawOfNat_eq {W : Nat} {r : Ring} (hwf : r.WF W) (x : Nat) :
    rawOfNat W r x = (x % r.m) * 2 ^ r.k := by
  unfold rawOfNat
  cases hk : r.kind with
  | single =>
    simp only []
    split
    · exact remWordS_eq r x
    · split
      · rename_i h2; exact remDwordS_eq hwf (hwf.kind_n.1 hk) h2
      · exact remLargeSD_eq r x
  | double =>
    simp only []
    split
    · rename_i h; exact remDwordD_eq hwf (hwf.kind_n.2.1 hk) h
    · exact remLargeSD_eq r x
  | large => exact remReprL_eq hwf hk x

-- ---------------------------------------------------------------- neg / add / sub on pre-shifted residues

theorem negRaw_eq {r : Ring} {v : Nat} (hv : v < r.m) :
    negRaw r (v * 2 ^ r.k) = ((r.m - v) % r.m) * 2 ^ r.k := by
  unfold negRaw
  have hp : 0 < 2 ^ r.k := Nat.two_pow_pos _
  split
  · rename_i h0
    have : v = 0 := by
      rcases Nat.mul_eq_zero.1 h0 with h | h
      · exact h
      · omega
    subst this; simp
  · rename_i h0
    have hv0 : v ≠ 0 := by intro h; subst h; simp at h0
    rw [Nat.mod_eq_of_lt (by omega), Ring.M, Nat.sub_mul]

theorem addRaw_eq {r : Ring} {u v : Nat} (hu : u < r.m) (hv : v < r.m) :
    addRaw r (u * 2 ^ r.k) (v * 2 ^ r.k) = ((u + v) % r.m) * 2 ^ r.k := by
  unfold addRaw
  have hp : 0 < 2 ^ r.k := Nat.two_pow_pos _
  simp only [← Nat.add_mul, Ring.M]
  split
  · rename_i h
    have h' : r.m ≤ u + v := Nat.le_of_mul_le_mul_right h hp
    rw [← Nat.sub_mul]
    congr 1
    rw [Nat.mod_eq_sub_mod h', Nat.mod_eq_of_lt (by omega)]
  · rename_i h
    have h' : u + v < r.m := by
      apply Nat.lt_of_not_le; intro hle; exact h (Nat.mul_le_mul_right _ hle)
    rw [Nat.mod_eq_of_lt h']

theorem subRaw_eq {r : Ring} {u v : Nat} (hu : u < r.m) (hv : v < r.m) :
    subRaw r (u * 2 ^ r.k) (v * 2 ^ r.k) = ((u + (r.m - v)) % r.m) * 2 ^ r.k := by
  unfold subRaw
  have hp : 0 < 2 ^ r.k := Nat.two_pow_pos _
  split
  · rename_i h
    have h' : v ≤ u := Nat.le_of_mul_le_mul_right h hp
    rw [← Nat.sub_mul]
    congr 1
    have : u + (r.m - v) = (u - v) + r.m := by omega
    rw [this, Nat.add_mod_right, Nat.mod_eq_of_lt (by omega)]
  · rename_i h
    have h' : u < v := by
      apply Nat.lt_of_not_le; intro hle; exact h (Nat.mul_le_mul_right _ hle)
    rw [Ring.M, ← Nat.sub_mul, ← Nat.sub_mul]
    congr 1
    rw [Nat.mod_eq_of_lt (by omega)]
    omega

-- ---------------------------------------------------------------- mul / sqr

/-- the pre-shifted product `(u·2^k)·(v·2^k) >> k` -/
theorem mul_shift_div (u v k : Nat) : (u * 2 ^ k) * (v * 2 ^ k) / 2 ^ k = u * (v * 2 ^ k) := by
  rw [Nat.mul_right_comm, Nat.mul_div_cancel _ (Nat.two_pow_pos k)]

theorem mulSD_eq (r : Ring) (u v : Nat) :
    ((u * 2 ^ r.k) / 2 ^ r.k * (v * 2 ^ r.k)) % r.M = ((u * v) % r.m) * 2 ^ r.k := by
  rw [Nat.mul_div_cancel _ (Nat.two_pow_pos _), ← Nat.mul_assoc, shift_mod]

theorem sqrSD_eq (r : Ring) (u : Nat) :
    ((u * 2 ^ r.k) * (u * 2 ^ r.k) / 2 ^ r.k) % r.M = ((u * u) % r.m) * 2 ^ r.k := by
  rw [mul_shift_div, ← Nat.mul_assoc, shift_mod]

theorem mulNormalized_eq {W : Nat} {r : Ring} (hwf : r.WF W) {u v : Nat} (hu : u < r.m) (hv : v < r.m) :
    mulNormalized W r (u * 2 ^ r.k) (v * 2 ^ r.k) = ((u * v) % r.m) * 2 ^ r.k := by
  unfold mulNormalized
  have hp : 0 < 2 ^ r.k := Nat.two_pow_pos _
  simp only [mul_shift_div, ← Nat.mul_assoc u]
  split
  · exact shift_mod r _
  · rename_i hlen
    -- the shifted product has at most n words, hence is below 2M
    have ha := lt_two_pow_wordLen hwf.hW (u * 2 ^ r.k)
    have hb := lt_two_pow_wordLen hwf.hW (v * 2 ^ r.k)
    have hab : (u * 2 ^ r.k) * (v * 2 ^ r.k) < 2 ^ (W * r.n) := by
      calc (u * 2 ^ r.k) * (v * 2 ^ r.k)
          < 2 ^ (W * wordLen W (u * 2 ^ r.k)) * 2 ^ (W * wordLen W (v * 2 ^ r.k)) :=
            Nat.mul_lt_mul'' ha hb
        _ = 2 ^ (W * (wordLen W (u * 2 ^ r.k) + wordLen W (v * 2 ^ r.k))) := by
            rw [← Nat.pow_add, Nat.mul_add]
        _ ≤ 2 ^ (W * r.n) := Nat.pow_le_pow_right (by decide) (Nat.mul_le_mul_left W (by omega))
    have hprod : (u * v) * 2 ^ r.k < 2 * r.M := by
      have h1 : (u * v) * 2 ^ r.k ≤ (u * 2 ^ r.k) * (v * 2 ^ r.k) := by
        have : (u * 2 ^ r.k) * (v * 2 ^ r.k) = ((u * v) * 2 ^ r.k) * 2 ^ r.k := by ring
        rw [this]; exact Nat.le_mul_of_pos_right _ hp
      have := hwf.Mge
      omega
    rw [← shift_mod]
    split
    · rename_i hge
      rw [Nat.mod_eq_sub_mod hge, Nat.mod_eq_of_lt (by omega)]
    · rename_i hlt
      rw [Nat.mod_eq_of_lt (by omega)]

theorem mulRaw_eq {W : Nat} {r : Ring} (hwf : r.WF W) {u v : Nat} (hu : u < r.m) (hv : v < r.m) :
    mulRaw W r (u * 2 ^ r.k) (v * 2 ^ r.k) = ((u * v) % r.m) * 2 ^ r.k := by
  unfold mulRaw
  cases r.kind <;> simp only []
  · exact mulSD_eq r u v
  · exact mulSD_eq r u v
  · exact mulNormalized_eq hwf hu hv

theorem sqrRaw_eq {W : Nat} {r : Ring} (hwf : r.WF W) {u : Nat} (hu : u < r.m) :
    sqrRaw W r (u * 2 ^ r.k) = ((u * u) % r.m) * 2 ^ r.k := by
  unfold sqrRaw
  cases r.kind <;> simp only []
  · exact sqrSD_eq r u
  · exact sqrSD_eq r u
  · exact mulNormalized_eq hwf hu hu

end Dashu.Model.NT
