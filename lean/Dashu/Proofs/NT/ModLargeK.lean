import Dashu.Model.NT.ModLargeK
import Dashu.Proofs.NT.ModKernels
import Dashu.Proofs.Int.Div
import Dashu.Proofs.Int.PowBuf
/-
  C13 ↔ C02 link: the word-list mirrors of `ConstLargeDivisor::rem_large/rem_repr` and
  `mul_normalized/sqr_normalized` (`Model/NT/ModLargeK.lean`), which run C02's mirrored
  `div::div_rem_in_place`, never fail and equal the `%`-level definitions of `Model/NT/Modular.lean`.
  The exactness of the division is C02's theorem `divRemInPlace_spec` (Knuth D + Burnikel–Ziegler over
  C01's proved multiplication; `4 ≤ W` comes from there), used by import — nothing is re-proved.
-/
namespace Dashu.Model.NT
open Dashu.Model Dashu.Model.Div

/-- the normalised modulus needs all of its `n` words: `2^(W·(n−1)) ≤ M`, from `2^(W·n) ≤ 2·M` -/
theorem Ring.WF.M_ge_words {W : Nat} {r : Ring} (hwf : r.WF W) : 2 ^ (W * (r.n - 1)) ≤ r.M := by
  have hn := hwf.n_pos
  have e : 2 ^ (W * r.n) = 2 ^ W * 2 ^ (W * (r.n - 1)) := by
    rw [← Nat.pow_add, Nat.add_comm, ← Nat.mul_succ]; congr 2; omega
  have h2W : 1 < 2 ^ W := Nat.one_lt_two_pow (by have := hwf.hW; omega)
  have h5 : 2 * 2 ^ (W * (r.n - 1)) ≤ 2 ^ W * 2 ^ (W * (r.n - 1)) := Nat.mul_le_mul_right _ h2W
  have := hwf.Mge
  omega

/-- `sub_same_len_in_place` of a number from one at least as large: no borrow, the exact difference -/
theorem subSameLen_of_le {W : Nat} {as bs : List Nat} (ha : IsWords W as) (hb : IsWords W bs)
    (hl : as.length = bs.length) (hle : val W bs ≤ val W as) :
    ∃ out, subSameLen W as bs 0 = (out, 0) ∧ out.length = as.length ∧ IsWords W out ∧
      val W out = val W as - val W bs := by
  have ⟨t1, t2, t3, t4⟩ := subSameLen_spec W as bs 0 ha hb hl (by omega)
  generalize subSameLen W as bs 0 = q at t1 t2 t3 t4
  obtain ⟨out, bw⟩ := q
  simp only at t1 t2 t3 t4
  have hlt := val_lt W out t3
  rw [t2] at hlt
  generalize 2 ^ (W * as.length) = P at t1 hlt
  have hb0 : bw = 0 := by
    rcases Nat.eq_zero_or_pos bw with h | h
    · exact h
    · have : bw = 1 := by omega
      subst this; omega
  subst hb0
  exact ⟨out, rfl, t2, t3, by omega⟩

/-- the normalised divisor of a well-formed ring occupies exactly `n` words, top bit set -/
theorem ndWords_spec {W : Nat} {r : Ring} (hwf : r.WF W) :
    (r.ndWords W).length = r.n ∧ IsWords W (r.ndWords W) ∧ val W (r.ndWords W) = r.M := by
  have hW := hwf.hW
  obtain ⟨hval, hwords, hlast⟩ := natWords_spec W hW r.M
  unfold Ring.ndWords
  refine ⟨?_, hwords, hval⟩
  have hlo := natWords_len_ge hW hwf.M_ge_words
  have hne : natWords W r.M ≠ [] := by
    intro h; rw [h] at hlo; simp at hlo
  have hhi := val_ge_of_getLast W _ hne hlast
  rw [hval] at hhi
  by_contra hc
  have : 2 ^ (W * r.n) ≤ 2 ^ (W * ((natWords W r.M).length - 1)) :=
    Nat.pow_le_pow_right (by decide) (Nat.mul_le_mul_left W (by omega))
  have := hwf.Mlt
  omega

/-- **`ConstLargeDivisor::rem_large` on buffers** never fails and leaves `(words << shift) mod M` -/
theorem remLargeWordsL_spec {W : Nat} {r : Ring} (hwf : r.WF W) (hW4 : 4 ≤ W) (hk : r.kind = .large)
    (hkW : r.k < W) (words : List Nat) (hws : IsWords W words) :
    ∃ out, remLargeWordsL W (r.ndWords W) r.k (highestDword W (r.ndWords W)) words = .ok out ∧
      val W out = (val W words * 2 ^ r.k) % r.M := by
  have hW := hwf.hW
  have hn3 := hwf.kind_n.2.2 hk
  obtain ⟨hlen, hndw, hndv⟩ := ndWords_spec hwf
  have sp := Div.shlInPlace_spec W r.k (by omega) words hws
  generalize hsh : Div.shlInPlace W words r.k = p at sp
  obtain ⟨w1, carry⟩ := p
  simp only at sp
  obtain ⟨s1, s2, s3, s4⟩ := sp
  have hcW : carry < 2 ^ W :=
    Nat.lt_of_lt_of_le s4 (Nat.pow_le_pow_right (by decide) (by omega))
  have hw2 : IsWords W (w1 ++ [carry]) := s3.append (by intro x hx; simp at hx; subst hx; exact hcW)
  have hv2 : val W (w1 ++ [carry]) = val W words * 2 ^ r.k := by
    rw [val_append_one, s2]; exact s1
  unfold remLargeWordsL
  rw [hsh]
  simp only []
  by_cases hge : (w1 ++ [carry]).length ≥ (r.ndWords W).length
  · rw [if_pos hge]
    have hnorm : 2 ^ (W * (r.ndWords W).length) ≤ 2 * val W (r.ndWords W) := by
      rw [hlen, hndv]; exact hwf.Mge
    obtain ⟨out, c, e, _, _, o3, o4⟩ :=
      divRemInPlace_spec W hW hW4 (w1 ++ [carry]) (r.ndWords W) (by omega) hge hw2 hndw hnorm
    refine ⟨out.take (r.ndWords W).length, ?_, ?_⟩
    · simp only [e, bind, Except.bind, pure, Except.pure]
    · rw [hndv] at o3 o4
      rw [← hv2, ← o4, Nat.add_comm, Nat.add_mul_mod_self_right, Nat.mod_eq_of_lt o3]
  · rw [if_neg hge]
    refine ⟨_, rfl, ?_⟩
    rw [hv2]
    symm
    apply Nat.mod_eq_of_lt
    rw [← hv2]
    have h1 := val_lt W _ hw2
    have h2 : 2 ^ (W * (w1 ++ [carry]).length) ≤ 2 ^ (W * (r.n - 1)) :=
      Nat.pow_le_pow_right (by decide) (Nat.mul_le_mul_left W (by omega))
    have := hwf.M_ge_words
    omega

/-- **`ConstLargeDivisor::rem_repr` on buffers = the `%`-level `rem_repr`** -/
theorem remReprLK_eq {W : Nat} {r : Ring} (hwf : r.WF W) (hW4 : 4 ≤ W) (hk : r.kind = .large)
    (hkW : r.k < W) (x : Nat) : remReprLK W r x = .ok (remReprL W r x) := by
  rw [remReprL_eq hwf hk]
  unfold remReprLK
  split
  · rename_i hlt
    have := hwf.m_large hk
    rw [Nat.mod_eq_of_lt (by omega)]
  · obtain ⟨hval, hwords, _⟩ := natWords_spec W hwf.hW x
    obtain ⟨out, e, hv⟩ := remLargeWordsL_spec hwf hW4 hk hkW (natWords W x) hwords
    simp only [e, bind, Except.bind, pure, Except.pure]
    rw [hv, hval, shift_mod]

/-- `from_ubig` with every division kernel mirrored = the `%`-level model -/
theorem rawOfNatKL_eq {W id m : Nat} {r : Ring} (hW : 0 < W) (hW4 : r.kind = .large → 4 ≤ W)
    (hnew : Ring.new W id m = .ok r) (x : Nat) : rawOfNatKL W r x = rawOfNat W r x := by
  have hwf := Ring.new_wf hW hnew
  rw [← rawOfNatK_eq hW hnew]
  unfold rawOfNatKL
  cases hk : r.kind with
  | large =>
    simp only []
    rw [remReprLK_eq hwf (hW4 hk) hk (Ring.new_k_lt hW hnew)]
    unfold rawOfNatK; rw [hk]; rfl
  | single => rfl
  | double => rfl

theorem reduceIntKL_eq {W id m : Nat} {r : Ring} (hW : 0 < W) (hW4 : r.kind = .large → 4 ≤ W)
    (hnew : Ring.new W id m = .ok r) (a : Int) : reduceIntKL W r a = reduceInt W r a := by
  unfold reduceIntKL reduceInt; rw [rawOfNatKL_eq hW hW4 hnew]

-- ---------------------------------------------------------------- mul_normalized / sqr_normalized

theorem natWords_len_le {W : Nat} (hW : 1 ≤ W) {x j : Nat} (hx : x < 2 ^ (W * j)) :
    (natWords W x).length ≤ j := by
  obtain ⟨h1, _, h3⟩ := natWords_spec W hW x
  by_cases hne : natWords W x = []
  · rw [hne]; simp
  · have h := val_ge_of_getLast W _ hne h3
    rw [h1] at h
    by_contra hc
    have : 2 ^ (W * j) ≤ 2 ^ (W * ((natWords W x).length - 1)) :=
      Nat.pow_le_pow_right (by decide) (Nat.mul_le_mul_left W (by omega))
    omega

theorem wordsPad_spec {W : Nat} (hW : 1 ≤ W) {len v : Nat} (hv : v < 2 ^ (W * len)) :
    (wordsPad W len v).length = len ∧ IsWords W (wordsPad W len v) ∧ val W (wordsPad W len v) = v := by
  obtain ⟨h1, h2, _⟩ := natWords_spec W hW v
  have hl := natWords_len_le hW hv
  unfold wordsPad
  refine ⟨by simp; omega, h2.append ?_, ?_⟩
  · intro x hx
    rw [List.mem_replicate] at hx
    rw [hx.2]; exact Nat.two_pow_pos _
  · rw [val_append, val_replicate_zero, h1]; simp

theorem natWords_length {W : Nat} (hW : 1 ≤ W) (x : Nat) : (natWords W x).length = wordLen W x := by
  by_cases h0 : x = 0
  · subst h0
    have : wordLen W 0 = 0 := by
      have := wordLen_le_of_lt (W := W) (n := 0) (j := 0) hW (by simp)
      omega
    rw [this, natWords_zero]; rfl
  · have h1 := natWords_len_le hW (lt_two_pow_wordLen hW x)
    have h2 := natWords_len_ge hW (two_pow_le_of_wordLen hW h0)
    have : 0 < wordLen W x := by
      by_contra hc
      have hz : wordLen W x = 0 := by omega
      have := lt_two_pow_wordLen hW x
      rw [hz] at this; simp at this; exact h0 this
    omega

/-- **the product buffer** (`extend_word` product, C01's mirrored `sqr::sqr`, C01's mirrored `mul::multiply` with
    its `debug_assert_zero!`) holds the exact product in exactly `na + nb` words — by C01's theorems
    `addSignedMul_contract` / `sqrBuffer_spec`, imported -/
theorem productLow_spec {W : Nat} (hW4 : 4 ≤ W) (sq : Bool) (a b : Nat) (hsq : sq = true → a = b)
    (hnz : wordLen W a ||| wordLen W b ≠ 0) :
    ∃ low, productLow W sq a b = .ok low ∧ low.length = wordLen W a + wordLen W b ∧ IsWords W low ∧
      val W low = a * b := by
  have hW : 1 ≤ W := by omega
  obtain ⟨hva, hwa, _⟩ := natWords_spec W hW a
  obtain ⟨hvb, hwb, _⟩ := natWords_spec W hW b
  have hla := natWords_length hW a
  have hlb := natWords_length hW b
  have h1 := lt_two_pow_wordLen hW a
  have h2 := lt_two_pow_wordLen hW b
  unfold productLow
  simp only [hla, hlb]
  by_cases hab : sq = true
  · have := hsq hab
    subst this
    rw [if_pos hab]
    by_cases h1w : wordLen W a = 1
    · rw [if_pos h1w]
      have hp : a * a < 2 ^ (W * 2) := by
        rw [h1w, Nat.mul_one] at h1
        have := Nat.mul_lt_mul'' h1 h1
        rwa [← Nat.pow_add, ← Nat.mul_two] at this
      obtain ⟨pl, pw, pv⟩ := wordsPad_spec hW hp
      exact ⟨_, rfl, by rw [pl, h1w], pw, pv⟩
    · rw [if_neg h1w]
      have hne : natWords W a ≠ [] := by
        intro h
        have : wordLen W a = 0 := by rw [← hla, h]; rfl
        rw [this] at hnz; simp at hnz
      obtain ⟨sl, sw, sv⟩ := sqrBuffer_spec W hW4 _ hwa hne
      refine ⟨_, rfl, ?_, sw, by rw [sv, hva]⟩
      rw [sl, hla]; omega
  · rw [if_neg hab]
    by_cases h11 : wordLen W a = 1 ∧ wordLen W b = 1
    · rw [if_pos h11]
      have hp : a * b < 2 ^ (W * 2) := by
        rw [h11.1, Nat.mul_one] at h1
        rw [h11.2, Nat.mul_one] at h2
        have := Nat.mul_lt_mul'' h1 h2
        rwa [← Nat.pow_add, ← Nat.mul_two] at this
      obtain ⟨pl, pw, pv⟩ := wordsPad_spec hW hp
      exact ⟨_, rfl, by rw [pl, h11.1, h11.2], pw, pv⟩
    · rw [if_neg h11]
      have hc := addSignedMul_contract W hW4 (wordLen W a + wordLen W b)
        (List.replicate (wordLen W a + wordLen W b) 0) false (natWords W a) (natWords W b)
        (by simp [hla, hlb]) (isWords_replicate_zero W _) hwa hwb
      obtain ⟨⟨k3, k4, k2⟩, k0⟩ := hc.zeros hwa hwb (by simp [hla, hlb])
      generalize addSignedMul W (wordLen W a + wordLen W b) (List.replicate (wordLen W a + wordLen W b) 0) false
        (natWords W a) (natWords W b) = res at *
      obtain ⟨c, carry⟩ := res
      simp only at k0 k2 k3 k4 ⊢
      subst k0
      refine ⟨c, by simp, k3, k4, by rw [k2, hva, hvb]⟩

/-- a right shift of a multiple of `2^s` shifts nothing out -/
theorem shr_exact {v s k' x : Nat} (hk : k' < 2 ^ s) (h : v * 2 ^ s + k' = x * 2 ^ s) : k' = 0 ∧ v = x := by
  have hm : (v * 2 ^ s + k') % 2 ^ s = 0 := by rw [h]; exact Nat.mul_mod_left _ _
  rw [Nat.add_comm, Nat.add_mul_mod_self_right, Nat.mod_eq_of_lt hk] at hm
  subst hm
  exact ⟨rfl, Nat.eq_of_mul_eq_mul_right (Nat.two_pow_pos s) (by simpa using h)⟩

/-- `debug_assert_zero!(shr_in_place(buffer of x·2^s, s))` holds and leaves `x`, in a buffer of the same length -/
theorem shrInPlace_exact {W s : Nat} (hs : s ≤ W) {ws : List Nat} (hw : IsWords W ws) {x : Nat} (hv : val W ws = x * 2 ^ s) :
    (Div.shrInPlace W ws s).2 = 0 ∧ val W (Div.shrInPlace W ws s).1 = x ∧
      (Div.shrInPlace W ws s).1.length = ws.length ∧ IsWords W (Div.shrInPlace W ws s).1 := by
  obtain ⟨k', s1, s2, s3, s4, s5⟩ := shrInPlace_spec W s hs ws hw
  rw [hv] at s3
  obtain ⟨h0, hx⟩ := shr_exact s2 s3
  subst h0
  exact ⟨by rw [s1]; simp, hx, s4, s5⟩

/-- **`mul_normalized` / `sqr_normalized` on buffers = the `%`-level `mul_normalized`**, for pre-shifted
    operands (`2^k ∣ a`, which `Valid` gives): C01's mirrored multiplication fills the buffer with the exact
    product, the `debug_assert_zero!`s (multiply carry, right shift) hold, C02's `div_rem_in_place` never
    fails, `&product[..n]` is the remainder -/
theorem mulNormalizedWordsL_eq {W : Nat} {r : Ring} (hwf : r.WF W) (hW4 : 4 ≤ W) (hk : r.kind = .large)
    (hkW : r.k < W) (sq : Bool) (u b : Nat) (hsq : sq = true → u * 2 ^ r.k = b) :
    mulNormalizedWordsL W r sq (u * 2 ^ r.k) b = .ok (mulNormalized W r (u * 2 ^ r.k) b) := by
  have hW := hwf.hW
  have hn3 := hwf.kind_n.2.2 hk
  obtain ⟨hlen, hndw, hndv⟩ := ndWords_spec hwf
  generalize ha : u * 2 ^ r.k = a at hsq ⊢
  unfold mulNormalizedWordsL mulNormalized
  simp only [hlen]
  by_cases hz : wordLen W a ||| wordLen W b = 0
  · rw [if_pos hz]
    obtain ⟨hza, hzb⟩ := Nat.or_eq_zero_iff.mp hz
    have h1 := lt_two_pow_wordLen hW a
    rw [hza] at h1
    have : a = 0 := by simpa using h1
    subst this
    have hMpos := Ring.M_pos hwf
    simp [hza, hzb]
  · rw [if_neg hz]
    obtain ⟨low, elow, llen, lw, lv⟩ := productLow_spec hW4 sq a b hsq hz
    rw [elow]
    simp only [bind, Except.bind]
    have pl : (low ++ List.replicate (max r.n (wordLen W a + wordLen W b) - low.length) 0).length
        = max r.n (wordLen W a + wordLen W b) := by
      rw [List.length_append, List.length_replicate, llen]
      have := Nat.le_max_right r.n (wordLen W a + wordLen W b)
      omega
    have pw : IsWords W (low ++ List.replicate (max r.n (wordLen W a + wordLen W b) - low.length) 0) :=
      lw.append (isWords_replicate_zero W _)
    have pv : val W (low ++ List.replicate (max r.n (wordLen W a + wordLen W b) - low.length) 0) = a * b := by
      rw [val_append, val_replicate_zero, lv]; simp
    have hd : a * b = (u * b) * 2 ^ r.k := by rw [← ha, Nat.mul_right_comm]
    have sp := shrInPlace_exact (s := r.k) (by omega) pw (pv.trans hd)
    generalize hsh : Div.shrInPlace W (low ++ List.replicate (max r.n (wordLen W a + wordLen W b) - low.length) 0) r.k = p at sp
    obtain ⟨p1, c⟩ := p
    simp only at sp
    obtain ⟨hc0, hp1, s4, s5⟩ := sp
    replace hp1 : val W p1 = a * b / 2 ^ r.k := by
      rw [hd, Nat.mul_div_cancel _ (Nat.two_pow_pos r.k)]; exact hp1
    simp only [hc0, ne_eq, not_true_eq_false, if_false]
    by_cases hgt : wordLen W a + wordLen W b > r.n
    · rw [if_pos hgt, if_pos hgt]
      have hnorm : 2 ^ (W * (r.ndWords W).length) ≤ 2 * val W (r.ndWords W) := by
        rw [hlen, hndv]; exact hwf.Mge
      have hm : (r.ndWords W).length ≤ p1.length := by
        rw [hlen, s4, pl]; exact Nat.le_max_left _ _
      obtain ⟨out, c', e, _, _, o3, o4⟩ :=
        divRemInPlace_spec W hW hW4 p1 (r.ndWords W) (by omega) hm s5 hndw hnorm
      rw [hlen, hndv] at o3 o4
      simp only [e, bind, Except.bind, pure, Except.pure]
      congr 1
      rw [← hp1, ← o4, Nat.add_comm, Nat.add_mul_mod_self_right, Nat.mod_eq_of_lt o3]
    · rw [if_neg hgt, if_neg hgt]
      have hl : p1.length = (r.ndWords W).length := by
        rw [hlen, s4, pl]; exact Nat.max_eq_left (by omega)
      rw [Div.cmpSameLen_spec W p1 (r.ndWords W) hl s5 hndw, hndv, hp1]
      by_cases hge : a * b / 2 ^ r.k ≥ r.M
      · have hc : compare (a * b / 2 ^ r.k) r.M ≠ .lt := fun h => by
          have := Nat.compare_eq_lt.1 h; omega
        rw [if_pos hc, if_pos hge]
        obtain ⟨p2, e2, _, _, v2⟩ := subSameLen_of_le s5 hndw hl (by rw [hndv, hp1]; exact hge)
        rw [e2]
        simp only [ne_eq, not_true_eq_false, if_false]
        rw [v2, hndv, hp1]
      · have hc : ¬ compare (a * b / 2 ^ r.k) r.M ≠ .lt := fun h => h (Nat.compare_eq_lt.2 (by omega))
        rw [if_neg hc, if_neg hge]

theorem mulRawKL_eq {W : Nat} {r : Ring} (hwf : r.WF W) (hW4 : r.kind = .large → 4 ≤ W)
    (hkW : r.k < W) (u b : Nat) :
    mulRawKL W r (u * 2 ^ r.k) b = mulRawK W r (u * 2 ^ r.k) b := by
  unfold mulRawKL
  cases hk : r.kind with
  | large =>
    simp only []
    rw [mulNormalizedWordsL_eq hwf (hW4 hk) hk hkW _ _ _ (by simp)]
    unfold mulRawK; rw [hk]; rfl
  | single => rfl
  | double => rfl

theorem sqrRawKL_eq {W : Nat} {r : Ring} (hwf : r.WF W) (hW4 : r.kind = .large → 4 ≤ W)
    (hkW : r.k < W) (u : Nat) :
    sqrRawKL W r (u * 2 ^ r.k) = sqrRawK W r (u * 2 ^ r.k) := by
  unfold sqrRawKL
  cases hk : r.kind with
  | large =>
    simp only []
    rw [mulNormalizedWordsL_eq hwf (hW4 hk) hk hkW _ _ _ (fun _ => rfl)]
    unfold sqrRawK; rw [hk]; rfl
  | single => rfl
  | double => rfl

end Dashu.Model.NT
