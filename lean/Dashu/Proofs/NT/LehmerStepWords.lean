import Dashu.Model.NT.LehmerStepWords
import Dashu.Proofs.Int.Word
import Mathlib.Tactic.Ring
import Mathlib.Tactic.LinearCombination
/-
  C12: the zip loop of `lehmer::lehmer_step` on word lists (`lehmerStepWords`).  One signed accumulation
  `a·x − b·y + carry` stays a signed double word whose high word is a signed word again (`step_acc_bound`), so the loop
  returns and leaves `a·X − b·Y`, `d·Y − c·X` with their signed carries (`lehmerStepWords_spec`).
-/
namespace Dashu.Model.NT
open Dashu.Model

/-- one signed accumulation `a·x − b·y + carry`: in range, and its high word is a signed word again -/
theorem step_acc_bound {H B : Int} {a b x y cx : Int} (hB : B = 2 * H) (hH : 1 ≤ H)
    (ha0 : 0 ≤ a) (ha : a < H) (hb0 : 0 ≤ b) (hb : b < H) (hx0 : 0 ≤ x) (hx : x < B) (hy0 : 0 ≤ y) (hy : y < B)
    (hc0 : -H ≤ cx) (hc : cx < H) :
    -(H * B) ≤ a * x - b * y + cx ∧ a * x - b * y + cx < H * B ∧
    -H ≤ (a * x - b * y + cx) / B ∧ (a * x - b * y + cx) / B < H := by
  have hBpos : 0 < B := by omega
  have h1 : a * x ≤ (H - 1) * (B - 1) := mul_le_mul (by omega) (by omega) hx0 (by omega)
  have h2 : b * y ≤ (H - 1) * (B - 1) := mul_le_mul (by omega) (by omega) hy0 (by omega)
  have h3 : 0 ≤ a * x := mul_nonneg ha0 hx0
  have h4 : 0 ≤ b * y := mul_nonneg hb0 hy0
  have e : (H - 1) * (B - 1) = H * B - H - B + 1 := by ring
  have lo : -(H * B) ≤ a * x - b * y + cx := by omega
  have hi : a * x - b * y + cx < H * B := by omega
  refine ⟨lo, hi, ?_, ?_⟩
  · apply Int.le_ediv_of_mul_le hBpos
    have : -H * B = -(H * B) := by ring
    omega
  · exact Int.ediv_lt_of_lt_mul hBpos hi

theorem pow_two_mul_pred (W : Nat) (hW : 1 ≤ W) : (2 : Int) ^ (2 * W - 1) = 2 ^ (W - 1) * 2 ^ W := by
  rw [← pow_add]; congr 1; omega

theorem pow_succ_pred (W : Nat) (hW : 1 ≤ W) : (2 : Int) ^ W = 2 * 2 ^ (W - 1) := by
  have : W = (W - 1) + 1 := by omega
  conv => lhs; rw [this, pow_succ]
  ring

/-- the low word of a signed double word, as the natural number the code stores -/
theorem emod_toNat_word (v : Int) (W : Nat) :
    (((v % 2 ^ W).toNat : Nat) : Int) = v % 2 ^ W ∧ (v % 2 ^ W).toNat < 2 ^ W := by
  have hBpos : (0 : Int) < 2 ^ W := by positivity
  have h0 := Int.emod_nonneg v (ne_of_gt hBpos)
  have h1 := Int.emod_lt_of_pos v hBpos
  have e := Int.toNat_of_nonneg h0
  refine ⟨e, ?_⟩
  have : (((v % 2 ^ W).toNat : Nat) : Int) < ((2 ^ W : Nat) : Int) := by rw [e]; push_cast; exact h1
  exact_mod_cast this

/-- **`lehmer_step` zip loop**: word operands, cofactors at most `SignedWord::MAX`, incoming carries signed words
    (`0, 0` in the code), `y` not longer than `x`: no signed double-word accumulation overflows (the loop returns), lengths
    kept, results are words, words of `x` beyond `y.len()` untouched, outgoing carries are signed words, and with
    `n = y.len()`: `x'[..n] + 2^(W·n)·x_carry = a·x[..n] − b·y + cx`, `y' + 2^(W·n)·y_carry = d·y − c·x[..n] + cy`. -/
theorem lehmerStepWords_spec (W a b c d : Nat) (hW : 1 ≤ W) (ha : a < 2 ^ (W - 1)) (hb : b < 2 ^ (W - 1))
    (hc : c < 2 ^ (W - 1)) (hd : d < 2 ^ (W - 1)) :
    ∀ (y x : List Nat) (cx cy : Int), IsWords W x → IsWords W y →
      -(2 ^ (W - 1) : Int) ≤ cx → cx < 2 ^ (W - 1) → -(2 ^ (W - 1) : Int) ≤ cy → cy < 2 ^ (W - 1) → y.length ≤ x.length →
      ∃ x' y' cx' cy', lehmerStepWords W a b c d x y cx cy = some (x', y', cx', cy') ∧
        x'.length = x.length ∧ y'.length = y.length ∧ IsWords W x' ∧ IsWords W y' ∧
        -(2 ^ (W - 1) : Int) ≤ cx' ∧ cx' < 2 ^ (W - 1) ∧ -(2 ^ (W - 1) : Int) ≤ cy' ∧ cy' < 2 ^ (W - 1) ∧
        x'.drop y.length = x.drop y.length ∧
        (val W (x'.take y.length) : Int) + 2 ^ (W * y.length) * cx' = (a : Int) * val W (x.take y.length) - (b : Int) * val W y + cx ∧
        (val W y' : Int) + 2 ^ (W * y.length) * cy' = (d : Int) * val W y - (c : Int) * val W (x.take y.length) + cy := by
  intro y
  induction y with
  | nil =>
    intro x cx cy hx hy h1 h2 h3 h4 _
    refine ⟨x, [], cx, cy, ?_, rfl, rfl, hx, hy, h1, h2, h3, h4, rfl, ?_, ?_⟩
    · cases x <;> rfl
    · simp [val]
    · simp [val]
  | cons y0 ys ih =>
    intro x cx cy hx hy h1 h2 h3 h4 hl
    match x, hx, hl with
    | x0 :: xs, hx, hl =>
      have hx0 := hx.head
      have hy0 := hy.head
      have hBH := pow_succ_pred W hW
      have hHB := pow_two_mul_pred W hW
      have hH1 : (1 : Int) ≤ 2 ^ (W - 1) := by exact_mod_cast Nat.one_le_two_pow
      have cast_lt : ∀ {n : Nat}, n < 2 ^ (W - 1) → ((n : Nat) : Int) < 2 ^ (W - 1) := by intro n h; exact_mod_cast h
      have cast_ltB : ∀ {n : Nat}, n < 2 ^ W → ((n : Nat) : Int) < 2 ^ W := by intro n h; exact_mod_cast h
      obtain ⟨bx1, bx2, bx3, bx4⟩ := step_acc_bound (H := 2 ^ (W - 1)) (B := 2 ^ W) (a := a) (b := b) (x := x0) (y := y0) (cx := cx)
        hBH hH1 (Int.natCast_nonneg _) (cast_lt ha) (Int.natCast_nonneg _) (cast_lt hb) (Int.natCast_nonneg _) (cast_ltB hx0)
        (Int.natCast_nonneg _) (cast_ltB hy0) h1 h2
      obtain ⟨by1, by2, by3, by4⟩ := step_acc_bound (H := 2 ^ (W - 1)) (B := 2 ^ W) (a := d) (b := c) (x := y0) (y := x0) (cx := cy)
        hBH hH1 (Int.natCast_nonneg _) (cast_lt hd) (Int.natCast_nonneg _) (cast_lt hc) (Int.natCast_nonneg _) (cast_ltB hy0)
        (Int.natCast_nonneg _) (cast_ltB hx0) h3 h4
      obtain ⟨xs', ys', cx', cy', hrec, hlx', hly', hwx', hwy', c1, c2, c3, c4, hdx, hvx, hvy⟩ :=
        ih xs _ _ hx.tail hy.tail bx3 bx4 by3 by4 (by simpa using hl)
      set vx : Int := (a : Int) * x0 - (b : Int) * y0 + cx with hvxdef
      set vy : Int := (d : Int) * y0 - (c : Int) * x0 + cy with hvydef
      obtain ⟨tx, wx⟩ := emod_toNat_word vx W
      obtain ⟨ty, wy⟩ := emod_toNat_word vy W
      refine ⟨(vx % 2 ^ W).toNat :: xs', (vy % 2 ^ W).toNat :: ys', cx', cy', ?_, ?_, ?_, ?_, ?_, c1, c2, c3, c4, ?_, ?_, ?_⟩
      · have hcond : -(2 ^ (2 * W - 1) : Int) ≤ vx ∧ vx < 2 ^ (2 * W - 1) ∧ -(2 ^ (2 * W - 1) : Int) ≤ vy ∧ vy < 2 ^ (2 * W - 1) := by
          rw [hHB]
          exact ⟨bx1, bx2, by1, by2⟩
        simp only [lehmerStepWords]
        rw [if_pos hcond, hrec]
      · simp [hlx']
      · simp [hly']
      · exact IsWords.cons wx hwx'
      · exact IsWords.cons wy hwy'
      · simpa using hdx
      · simp only [List.length_cons, List.take_succ_cons, val]
        have hpow : (2 : Int) ^ (W * (ys.length + 1)) = 2 ^ W * 2 ^ (W * ys.length) := by
          rw [← pow_add]; congr 1; ring
        have ed := Int.emod_add_mul_ediv vx (2 ^ W)
        push_cast
        rw [tx, hpow]
        have := hvx
        linear_combination (2 : Int) ^ W * this + ed
      · simp only [List.length_cons, List.take_succ_cons, val]
        have hpow : (2 : Int) ^ (W * (ys.length + 1)) = 2 ^ W * 2 ^ (W * ys.length) := by
          rw [← pow_add]; congr 1; ring
        have ed := Int.emod_add_mul_ediv vy (2 ^ W)
        push_cast
        rw [ty, hpow]
        have := hvy
        linear_combination (2 : Int) ^ W * this + ed

end Dashu.Model.NT
