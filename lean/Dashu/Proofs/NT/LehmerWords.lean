import Dashu.Model.NT.LehmerWords
import Dashu.Gen.RootTables
import Dashu.Proofs.Int.Word
import Mathlib.Tactic.Ring
/-
  C12: the word loop of `lehmer::lehmer_ext_step` (`lehmerExtStepWords`): with `a + b < 2^W` one accumulation
  `a·x + b·y + carry` is a double word (`ext_acc_bound`), so the loop returns and leaves `a·X + b·Y`, `c·X + d·Y` with
  their carries (`lehmerExtStepWords_spec`); then Tie A for the two accumulation expressions.
-/
namespace Dashu.Model.NT
open Dashu.Model

/-- one accumulation `a·x + b·y + carry` stays below `2^(2W)` and its high word below `2^W`, for word operands and
    cofactors with `a + b < 2^W` (the code asserts `a, b ≤ SignedWord::MAX`) -/
theorem ext_acc_bound {W a b x y cx : Nat} (hab : a + b < 2 ^ W) (hx : x < 2 ^ W) (hy : y < 2 ^ W) (hc : cx < 2 ^ W) :
    a * x + b * y + cx < 2 ^ (2 * W) ∧ (a * x + b * y + cx) / 2 ^ W < 2 ^ W := by
  have hB : 2 ^ (2 * W) = 2 ^ W * 2 ^ W := by rw [two_mul, Nat.pow_add]
  have h1 : a * x ≤ a * (2 ^ W - 1) := Nat.mul_le_mul_left _ (by omega)
  have h2 : b * y ≤ b * (2 ^ W - 1) := Nat.mul_le_mul_left _ (by omega)
  have h3 : a * (2 ^ W - 1) + b * (2 ^ W - 1) = (a + b) * (2 ^ W - 1) := by ring
  have h4 : (a + b) * (2 ^ W - 1) ≤ (2 ^ W - 1) * (2 ^ W - 1) := Nat.mul_le_mul_right _ (by omega)
  have hp : 0 < 2 ^ W := Nat.two_pow_pos W
  have h5 : (2 ^ W - 1) * (2 ^ W - 1) + (2 ^ W - 1) = (2 ^ W - 1) * 2 ^ W := by
    have : (2 ^ W - 1) * 2 ^ W = (2 ^ W - 1) * ((2 ^ W - 1) + 1) := by congr 1; omega
    rw [this]; ring
  have h6 : (2 ^ W - 1) * 2 ^ W < 2 ^ W * 2 ^ W := Nat.mul_lt_mul_of_pos_right (by omega) hp
  have hlt : a * x + b * y + cx < 2 ^ W * 2 ^ W := by omega
  refine ⟨by rw [hB]; exact hlt, ?_⟩
  exact Nat.div_lt_of_lt_mul hlt

/-- one more low word of a carried accumulation: `a·x0 + b·y0 + c` is split at `B`, its high part carried on -/
theorem ext_acc_step {B P a b x0 y0 c X Y V C : Nat}
    (hv : V + P * C = a * X + b * Y + (a * x0 + b * y0 + c) / B) :
    (a * x0 + b * y0 + c) % B + B * V + B * P * C = a * (x0 + B * X) + b * (y0 + B * Y) + c := by
  have e := Nat.mod_add_div (a * x0 + b * y0 + c) B
  calc (a * x0 + b * y0 + c) % B + B * V + B * P * C
      = (a * x0 + b * y0 + c) % B + B * (V + P * C) := by ring
    _ = ((a * x0 + b * y0 + c) % B + B * ((a * x0 + b * y0 + c) / B)) + B * (a * X + b * Y) := by rw [hv]; ring
    _ = a * (x0 + B * X) + b * (y0 + B * Y) + c := by rw [e]; ring

/-- **`lehmer_ext_step` word loop**: on word operands, with `a + b < 2^W`, `c + d < 2^W` and incoming carries that are
    words, no double-word accumulation overflows (the loop returns), the buffers keep their lengths and stay words,
    the words beyond `len` are untouched, the carries are words, and
    `x'[..len] + 2^(W·len)·x_carry = a·x[..len] + b·y[..len] + cx` (likewise for `y'` with `c`, `d`). -/
theorem lehmerExtStepWords_spec (W a b c d : Nat) (hab : a + b < 2 ^ W) (hcd : c + d < 2 ^ W) :
    ∀ (len : Nat) (x y : List Nat) (cx cy : Nat), IsWords W x → IsWords W y → cx < 2 ^ W → cy < 2 ^ W →
      len ≤ x.length → len ≤ y.length →
      ∃ x' y' cx' cy', lehmerExtStepWords W a b c d len x y cx cy = some (x', y', cx', cy') ∧
        x'.length = x.length ∧ y'.length = y.length ∧ IsWords W x' ∧ IsWords W y' ∧ cx' < 2 ^ W ∧ cy' < 2 ^ W ∧
        x'.drop len = x.drop len ∧ y'.drop len = y.drop len ∧
        val W (x'.take len) + 2 ^ (W * len) * cx' = a * val W (x.take len) + b * val W (y.take len) + cx ∧
        val W (y'.take len) + 2 ^ (W * len) * cy' = c * val W (x.take len) + d * val W (y.take len) + cy := by
  intro len
  induction len with
  | zero =>
    intro x y cx cy hx hy hcx hcy _ _
    refine ⟨x, y, cx, cy, ?_, rfl, rfl, hx, hy, hcx, hcy, rfl, rfl, ?_, ?_⟩
    · cases x <;> cases y <;> rfl
    · simp
    · simp
  | succ n ih =>
    intro x y cx cy hx hy hcx hcy hlx hly
    match x, y, hx, hy, hlx, hly with
    | x0 :: xs, y0 :: ys, hx, hy, hlx, hly =>
      have hx0 := hx.head
      have hy0 := hy.head
      obtain ⟨hsx, hsxc⟩ := ext_acc_bound hab hx0 hy0 hcx
      obtain ⟨hsy, hsyc⟩ := ext_acc_bound hcd hx0 hy0 hcy
      obtain ⟨xs', ys', cx', cy', hrec, hlx', hly', hwx', hwy', hcx', hcy', hdx, hdy, hvx, hvy⟩ :=
        ih xs ys _ _ hx.tail hy.tail hsxc hsyc (by simpa using hlx) (by simpa using hly)
      have hp : 0 < 2 ^ W := Nat.two_pow_pos W
      refine ⟨(a * x0 + b * y0 + cx) % 2 ^ W :: xs', (c * x0 + d * y0 + cy) % 2 ^ W :: ys', cx', cy', ?_, ?_, ?_, ?_, ?_,
        hcx', hcy', ?_, ?_, ?_, ?_⟩
      · simp only [lehmerExtStepWords, hsx, hsy, and_self, if_true, hrec]
      · simp [hlx']
      · simp [hly']
      · exact IsWords.cons (Nat.mod_lt _ hp) hwx'
      · exact IsWords.cons (Nat.mod_lt _ hp) hwy'
      · simpa using hdx
      · simpa using hdy
      · simp only [List.take_succ_cons, val]
        rw [pow_mul_succ W n]
        exact ext_acc_step hvx
      · simp only [List.take_succ_cons, val]
        rw [pow_mul_succ W n]
        exact ext_acc_step hvy

/-! ### The two accumulations are the source's

`Gen.lehmer_ext_step_acc_x / _acc_y` are regenerated from the `split_dword(…)` arguments of `lehmer_ext_step`
(vlib/extract_roottabs.py; the rest of the function — asserts, zip/take(len) loop, carry hand-over, stores, returned
pair — is compared token for token and fails closed). -/

/-- `lehmerExtStepWords` over the regenerated accumulation expressions -/
def lehmerExtStepWordsG (W a b c d : Nat) : Nat → List Nat → List Nat → Nat → Nat → Option (List Nat × List Nat × Nat × Nat)
  | len + 1, x :: xs, y :: ys, cx, cy =>
    let sx := Gen.lehmer_ext_step_acc_x a b c d x y cx cy
    let sy := Gen.lehmer_ext_step_acc_y a b c d x y cx cy
    if sx < 2 ^ (2 * W) ∧ sy < 2 ^ (2 * W) then
      match lehmerExtStepWordsG W a b c d len xs ys (sx / 2 ^ W) (sy / 2 ^ W) with
      | some (xs', ys', cx', cy') => some (sx % 2 ^ W :: xs', sy % 2 ^ W :: ys', cx', cy')
      | none => none
    else none
  | _, xs, ys, cx, cy => some (xs, ys, cx, cy)

theorem lehmerExtStepWords_regenerated (W a b c d : Nat) :
    ∀ (len : Nat) (x y : List Nat) (cx cy : Nat),
      lehmerExtStepWords W a b c d len x y cx cy = lehmerExtStepWordsG W a b c d len x y cx cy := by
  intro len
  induction len with
  | zero => intro x y cx cy; cases x <;> cases y <;> rfl
  | succ n ih =>
    intro x y cx cy
    cases x with
    | nil => cases y <;> rfl
    | cons x0 xs =>
      cases y with
      | nil => rfl
      | cons y0 ys =>
        simp only [lehmerExtStepWords, lehmerExtStepWordsG, Gen.lehmer_ext_step_acc_x, Gen.lehmer_ext_step_acc_y, ih]
        by_cases hc : a * x0 + b * y0 + cx < 2 ^ (2 * W) ∧ c * x0 + d * y0 + cy < 2 ^ (2 * W)
        · simp only [hc, and_self, if_true]
          generalize lehmerExtStepWordsG W a b c d n xs ys ((a * x0 + b * y0 + cx) / 2 ^ W) ((c * x0 + d * y0 + cy) / 2 ^ W) = r
          rcases r with _ | ⟨_, _, _, _⟩ <;> rfl
        · simp only [hc, if_false]

end Dashu.Model.NT
