import Dashu.Proofs.NT.Modular
import Dashu.Proofs.Int.NumModular
/-
  C13: the `%` by the normalised divisor that the ring model uses for single- and double-word rings is
  what num-modular's mirrored `div_rem_2by1 / 4by2` (Möller–Granlund;
  `Dashu.Model.NumModular`, proved equal to floor division under the crate's precondition) return at
  exactly the arguments dashu passes — in particular the precondition "high part < divisor" holds at
  every such call site.
-/
namespace Dashu.Model.NT
open Dashu.Model

theorem single_facts {W : Nat} {r : Ring} (hwf : r.WF W) (hn : r.n = 1) :
    2 ^ W ≤ 2 * r.M ∧ r.M < 2 ^ W ∧ r.m ≤ r.M ∧ 2 ^ r.k ≤ r.M := by
  have h1 := hwf.Mlt; have h2 := hwf.Mge
  rw [hn, Nat.mul_one] at h1 h2
  have hp : 0 < 2 ^ r.k := Nat.two_pow_pos _
  refine ⟨h2, h1, ?_, ?_⟩
  · exact Nat.le_mul_of_pos_right _ hp
  · have := hwf.mpos; unfold Ring.M; exact Nat.le_mul_of_pos_left _ this

/-- single-word ring: `rem_word` (shift ≠ 0), `mul` and `sqr` call `div_rem_2by1` inside its
    precondition, and the mirrored algorithm returns the remainder the model uses -/
theorem single_ring_calls {W : Nat} {r : Ring} (hwf : r.WF W) (hn : r.n = 1) :
    (∀ x, x < 2 ^ W →
        (NumModular.div2by1 W r.M (NumModular.invertWord W r.M) (x * 2 ^ r.k)).2 = (x * 2 ^ r.k) % r.M) ∧
    (∀ u v, u < r.m → v < r.m →
        (NumModular.div2by1 W r.M (NumModular.invertWord W r.M) ((u * 2 ^ r.k) / 2 ^ r.k * (v * 2 ^ r.k))).2
          = ((u * 2 ^ r.k) / 2 ^ r.k * (v * 2 ^ r.k)) % r.M) ∧
    (∀ u, u < r.m →
        (NumModular.div2by1 W r.M (NumModular.invertWord W r.M) ((u * 2 ^ r.k) * (u * 2 ^ r.k) / 2 ^ r.k)).2
          = ((u * 2 ^ r.k) * (u * 2 ^ r.k) / 2 ^ r.k) % r.M) := by
  obtain ⟨hd1, hd2, hmM, hkM⟩ := single_facts hwf hn
  have hW : 1 ≤ W := hwf.hW
  have hp : 0 < 2 ^ r.k := Nat.two_pow_pos _
  have hpW : 0 < 2 ^ W := Nat.two_pow_pos _
  -- a reduced factor times a pre-shifted residue has its high word below `M`
  have key : ∀ u v, u < r.m → v < r.m →
      (NumModular.div2by1 W r.M (NumModular.invertWord W r.M) (u * (v * 2 ^ r.k))).2 = (u * (v * 2 ^ r.k)) % r.M := by
    intro u v hu hv
    rw [NumModular.div2by1_spec W r.M _ hW hd1 hd2]
    rw [Nat.div_lt_iff_lt_mul hpW]
    calc u * (v * 2 ^ r.k) < 2 ^ W * r.M := Nat.mul_lt_mul'' (by omega) (raw_lt_M hv)
      _ = r.M * 2 ^ W := Nat.mul_comm _ _
  refine ⟨fun x hx => ?_, fun u v hu hv => ?_, fun u hu => ?_⟩
  · rw [NumModular.div2by1_spec W r.M _ hW hd1 hd2]
    apply Nat.lt_of_lt_of_le _ hkM
    rw [Nat.div_lt_iff_lt_mul hpW, Nat.mul_comm (2 ^ r.k)]
    exact Nat.mul_lt_mul_of_pos_right hx hp
  · rw [Nat.mul_div_cancel _ hp]
    exact key u v hu hv
  · rw [mul_shift_div]
    exact key u u hu hu

/-- double-word ring: `mul` and `sqr` call `div_rem_4by2(lo, hi)` with `hi < M` -/
theorem double_ring_calls {W : Nat} {r : Ring} (hwf : r.WF W) (hn : r.n = 2) :
    (∀ u v, u < r.m → v < r.m →
        let p := (u * 2 ^ r.k) / 2 ^ r.k * (v * 2 ^ r.k)
        (NumModular.div4by2 W r.M (NumModular.invertDoubleWord W r.M) (p % 2 ^ (2 * W)) (p / 2 ^ (2 * W))).2
          = p % r.M) ∧
    (∀ u, u < r.m →
        let p := (u * 2 ^ r.k) * (u * 2 ^ r.k) / 2 ^ r.k
        (NumModular.div4by2 W r.M (NumModular.invertDoubleWord W r.M) (p % 2 ^ (2 * W)) (p / 2 ^ (2 * W))).2
          = p % r.M) := by
  have h1 := hwf.Mlt; have h2 := hwf.Mge
  rw [hn, Nat.mul_comm W 2] at h1 h2
  have hW : 1 ≤ W := hwf.hW
  have hp : 0 < 2 ^ r.k := Nat.two_pow_pos _
  have hp2 : 0 < 2 ^ (2 * W) := Nat.two_pow_pos _
  have hmM : r.m ≤ r.M := Nat.le_mul_of_pos_right _ hp
  have key : ∀ u x, u < r.m → x < r.M →
      (NumModular.div4by2 W r.M (NumModular.invertDoubleWord W r.M) ((u * x) % 2 ^ (2 * W)) ((u * x) / 2 ^ (2 * W))).2
        = (u * x) % r.M := by
    intro u x hu hx
    have hhi : (u * x) / 2 ^ (2 * W) < r.M := by
      rw [Nat.div_lt_iff_lt_mul hp2]
      calc u * x < 2 ^ (2 * W) * r.M := Nat.mul_lt_mul'' (by omega) hx
        _ = r.M * 2 ^ (2 * W) := Nat.mul_comm _ _
    rw [NumModular.div4by2_spec W r.M _ _ hW h2 h1 (Nat.mod_lt _ hp2) hhi, Nat.mod_add_div]
  refine ⟨fun u v hu hv => ?_, fun u hu => ?_⟩
  · simp only [Nat.mul_div_cancel _ hp]
    exact key u _ hu (raw_lt_M hv)
  · simp only [mul_shift_div]
    exact key u _ hu (raw_lt_M hu)

end Dashu.Model.NT
