import Dashu.Proofs.NT.PrimRootU128
/-
  C12: `<u128 as NormalizedRootRem>::normalized_cbrt_rem` (the B = 2^22 cube-root step over the `u64`
  routine, then the `while r < 0` descent): on every normalised value on whose high part the `u64` routine answers it
  answers, without overflow, with the floor cube root and the remainder (the descent needs at most 8 steps).  Hence
  `u128::cbrt_rem` is sound; that it answers wherever the `u64` routine does is in `PrimRootU128CbrtTotal.lean`.
-/
namespace Dashu.Model.NT
open Dashu.Model

theorem pow3 (t : Nat) : t ^ 3 = t * t * t := by ring

/-- the floor cube root of `a / 8` is half the floor cube root of `a` (the `c >>= 1` of the 127-bit branch) -/
theorem isRoot3_half {a c : Nat} (h : IsRoot a 3 c) : IsRoot (a / 8) 3 (c / 2) := by
  obtain ⟨h1, h2⟩ := h
  have hdm := Nat.div_add_mod c 2
  have hm := Nat.mod_lt c (show 0 < 2 by decide)
  constructor
  · have : (c / 2 * 2) ^ 3 ≤ c ^ 3 := Nat.pow_le_pow_left (by omega) 3
    rw [Nat.mul_pow] at this
    have h8 : (2 : Nat) ^ 3 = 8 := by norm_num
    rw [h8] at this
    rw [Nat.le_div_iff_mul_le (by decide)]
    exact Nat.le_trans this h1
  · have : (c + 1) ^ 3 ≤ ((c / 2 + 1) * 2) ^ 3 := Nat.pow_le_pow_left (by omega) 3
    rw [Nat.mul_pow] at this
    have h8 : (2 : Nat) ^ 3 = 8 := by norm_num
    rw [h8] at this
    rw [Nat.div_lt_iff_lt_mul (by decide)]
    exact Nat.lt_of_lt_of_le h2 this

/-- the `while r < 0 { r += 3 * (c - 1) * c + 1; c -= 1 }` descent: from an over-estimate `s ≤ c ≤ s + fuel` with the exact
    signed remainder it stops at the floor root -/
theorem cbrtDownLoop_spec {n s : Nat} (hs : IsRoot n 3 s) : ∀ (fuel c : Nat) (r : Int),
    ((c : Int) ^ 3 + r = n) → s ≤ c → c ≤ s + fuel →
    ∃ rf : Int, cbrtDownLoop fuel c r = some (s, rf) ∧ (s : Int) ^ 3 + rf = n ∧ 0 ≤ rf := by
  have stop : ∀ (c : Nat) (r : Int), ((c : Int) ^ 3 + r = n) → s ≤ c → ¬ r < 0 → c = s := by
    intro c r hinv hsc hr
    have hle : c ^ 3 ≤ n := by
      have : ((c ^ 3 : Nat) : Int) ≤ n := by push_cast; omega
      exact_mod_cast this
    by_contra hne
    have : s + 1 ≤ c := by omega
    have := Nat.pow_le_pow_left this 3
    have := hs.2
    omega
  have down : ∀ (c : Nat) (r : Int), ((c : Int) ^ 3 + r = n) → r < 0 → s < c := by
    intro c r hinv hr
    by_contra hle
    have h1 : c ^ 3 ≤ s ^ 3 := Nat.pow_le_pow_left (by omega) 3
    have h2 := hs.1
    have : ((c ^ 3 : Nat) : Int) ≤ n := by exact_mod_cast Nat.le_trans h1 h2
    push_cast at this
    omega
  intro fuel
  induction fuel with
  | zero =>
    intro c r hinv hsc hcs
    have hr : ¬ r < 0 := fun hr => by have := down c r hinv hr; omega
    obtain rfl : c = s := by omega
    unfold cbrtDownLoop
    rw [if_neg hr]
    exact ⟨r, rfl, hinv, by omega⟩
  | succ fuel ih =>
    intro c r hinv hsc hcs
    unfold cbrtDownLoop
    by_cases hr : r < 0
    · have hlt := down c r hinv hr
      rw [if_pos hr, if_neg (by omega)]
      refine ih (c - 1) _ ?_ (by omega) (by omega)
      have e : ((c - 1 : Nat) : Int) = (c : Int) - 1 := by omega
      rw [e, ← hinv]; ring
    · obtain rfl := stop c r hinv hsc hr
      rw [if_neg hr]
      exact ⟨r, rfl, hinv, by omega⟩

/-- the high part: when the `u64` routine answers on its operand, both branches hand over, without overflow, `(c1, r1)`
    with `c1³ + r1 = n / 2^66` and `c1` the floor cube root of it -/
theorem normCbrtU128_high {n : Nat} (hhi : n < 2 ^ 128) {cr : Nat × Nat}
    (h64 : normCbrtU64 (if n < 2 ^ 127 then n / 2 ^ 63 % 2 ^ 64 else n / 2 ^ 66 % 2 ^ 64) = some cr) :
    ∃ c1 r1, (if n < 2 ^ 127 then do
            let a : Nat := n / 2 ^ 63 % 2 ^ 64
            let (c, _) ← normCbrtU64 a
            let c : Nat := c / 2
            let c3 ← ck 64 (c * c)
            let c3 ← ck 64 (c3 * c)
            let r ← ck 64 (((a / 2 ^ 3 : Nat) : Int) - c3)
            pure (c, r)
          else normCbrtU64 (n / 2 ^ 66 % 2 ^ 64)) = some (c1, r1) ∧
      IsRoot (n / 2 ^ 66) 3 c1 ∧ c1 ^ 3 + r1 = n / 2 ^ 66 := by
  obtain ⟨c, r0⟩ := cr
  obtain ⟨hroot, hrem⟩ := normCbrtU64_sound _ _ h64
  simp only [] at hroot hrem
  by_cases hlt : n < 2 ^ 127
  · rw [if_pos hlt] at h64 hroot ⊢
    have ha : n / 2 ^ 63 % 2 ^ 64 = n / 2 ^ 63 := by
      simp only [Nat.reducePow] at hlt ⊢; omega
    have ha8 : n / 2 ^ 63 / 2 ^ 3 = n / 2 ^ 66 := by rw [Nat.div_div_eq_div_mul, ← Nat.pow_add]
    rw [ha] at hroot
    have hh := isRoot3_half hroot
    rw [show (8 : Nat) = 2 ^ 3 by norm_num, ha8] at hh
    have h3 := cube_le_of_isRoot hh
    have hq2 := sq_le_cube (c / 2)
    have h8 : n / 2 ^ 66 < 2 ^ 64 := by
      rw [Nat.div_lt_iff_lt_mul (Nat.two_pow_pos _), ← Nat.pow_add]
      exact Nat.lt_of_lt_of_le hhi (Nat.pow_le_pow_right (by decide) (by decide))
    simp only [Option.bind_eq_bind, h64, obind_some]
    rw [ha, ha8]
    generalize n / 2 ^ 66 = A at *
    generalize c / 2 = c1 at *
    rw [ck_eq (m := c1 * c1) (by push_cast; ring) (by omega), obind_some,
      ck_eq (m := c1 * c1 * c1) (by push_cast; ring) (by omega), obind_some,
      ck_eq (m := A - c1 * c1 * c1) (by omega) (by omega), obind_some]
    exact ⟨_, _, rfl, hh, by rw [pow3]; omega⟩
  · rw [if_neg hlt] at h64 hroot hrem ⊢
    have ha : n / 2 ^ 66 % 2 ^ 64 = n / 2 ^ 66 := by
      simp only [Nat.reducePow] at hhi ⊢; omega
    rw [ha] at h64 hroot hrem ⊢
    exact ⟨_, _, h64, hroot, hrem⟩

/-- the arithmetic core of the cube-root step: with `A = c1³ + r1`, `r1·B + b2 = 3c1²·q + u`, `u < 3c1²`, the candidate
    `c = c1·B + q` has the exact signed remainder `u·B² + low − (3·c1·B + q)·q²`, and it is never below the root
    (`n < (c + 1)³`) -/
theorem cbrt_step {A b2 low c1 r1 q u B n : Nat} (hn : n = A * B ^ 3 + b2 * B ^ 2 + low) (hA : c1 ^ 3 + r1 = A)
    (hlow : low < B ^ 2) (hdiv : r1 * B + b2 = 3 * c1 ^ 2 * q + u) (hu : u < 3 * c1 ^ 2) :
    ((n : Int) - ((c1 * B + q : Nat) : Int) ^ 3 = ((u * B ^ 2 + low : Nat) : Int) - (((3 * c1 * B + q) * q ^ 2 : Nat) : Int)) ∧
    n < (c1 * B + q + 1) ^ 3 := by
  constructor
  · have hdiv' : (r1 : Int) * B + b2 = 3 * (c1 : Int) ^ 2 * q + u := by exact_mod_cast hdiv
    subst hn; subst hA
    push_cast
    linear_combination (B : Int) ^ 2 * hdiv'
  · have e : (c1 * B + q + 1) ^ 3 = c1 ^ 3 * B ^ 3 + 3 * c1 ^ 2 * (q + 1) * B ^ 2 + (3 * c1 * B * (q + 1) ^ 2 + (q + 1) ^ 3) := by ring
    have h1 : r1 * B + b2 + 1 ≤ 3 * c1 ^ 2 * (q + 1) := by
      have : 3 * c1 ^ 2 * (q + 1) = 3 * c1 ^ 2 * q + 3 * c1 ^ 2 := by ring
      omega
    have h2 := Nat.mul_le_mul_right (B ^ 2) h1
    have e2 : (c1 ^ 3 + r1) * B ^ 3 + b2 * B ^ 2 + B ^ 2 = c1 ^ 3 * B ^ 3 + (r1 * B + b2 + 1) * B ^ 2 := by ring
    rw [e, hn, ← hA]
    omega

/-- the candidate is at most 8 above the root: `(c1·B + q')³ ≤ c1³·B³ + 3·c1²·B²·(q' + 8)` for `q' ≤ B ≤ 7·c1`, `c1 ≥ 3` -/
theorem cbrt_descent_bound {c1 B q' : Nat} (hB : B ≤ 7 * c1) (hc : 3 ≤ c1) (hq : q' ≤ B) :
    (c1 * B + q') ^ 3 ≤ c1 ^ 3 * B ^ 3 + 3 * c1 ^ 2 * B ^ 2 * (q' + 8) := by
  have h1 : q' ^ 2 ≤ B ^ 2 := Nat.pow_le_pow_left hq 2
  have h2 : q' ^ 3 ≤ B ^ 3 := Nat.pow_le_pow_left hq 3
  -- `B·(3c1 + 1) ≤ 7c1·(3c1 + 1) = 21c1² + 7c1 ≤ 24c1²`
  have h3 : B * (3 * c1 + 1) ≤ 24 * c1 ^ 2 := by
    have a1 : B * (3 * c1 + 1) ≤ 7 * c1 * (3 * c1 + 1) := Nat.mul_le_mul_right _ hB
    have a2 : 7 * c1 * (3 * c1 + 1) = 21 * c1 ^ 2 + 7 * c1 := by ring
    have a3 : 3 * c1 ≤ c1 * c1 := Nat.mul_le_mul_right _ hc
    rw [Nat.pow_two] at a2 ⊢
    omega
  have h4 : 3 * c1 * B * q' ^ 2 ≤ 3 * c1 * B * B ^ 2 := Nat.mul_le_mul_left _ h1
  have h5 : B ^ 2 * (B * (3 * c1 + 1)) ≤ B ^ 2 * (24 * c1 ^ 2) := Nat.mul_le_mul_left _ h3
  have e1 : (c1 * B + q') ^ 3 = c1 ^ 3 * B ^ 3 + 3 * c1 ^ 2 * B ^ 2 * q' + (3 * c1 * B * q' ^ 2 + q' ^ 3) := by ring
  have e2 : 3 * c1 ^ 2 * B ^ 2 * (q' + 8) = 3 * c1 ^ 2 * B ^ 2 * q' + B ^ 2 * (24 * c1 ^ 2) := by ring
  have e3 : 3 * c1 * B * B ^ 2 + B ^ 3 = B ^ 2 * (B * (3 * c1 + 1)) := by ring
  rw [e1, e2]
  omega

/-- with a quotient `q ≤ B + 8` the candidate `c1·B + q` of the cube-root step is at most 8 above the root `s` -/
theorem cbrt_step_near {A b2 low c1 r1 q u B n s : Nat} (hn : n = A * B ^ 3 + b2 * B ^ 2 + low) (hA : c1 ^ 3 + r1 = A)
    (hdiv : r1 * B + b2 = 3 * c1 ^ 2 * q + u) (hB : B ≤ 7 * c1) (hc : 3 ≤ c1) (hq : q ≤ B + 8) (hs : IsRoot n 3 s) :
    c1 * B + q ≤ s + 8 := by
  have hA3 : c1 ^ 3 * B ^ 3 + (r1 * B + b2) * B ^ 2 ≤ n := by
    have e : (c1 ^ 3 + r1) * B ^ 3 + b2 * B ^ 2 = c1 ^ 3 * B ^ 3 + (r1 * B + b2) * B ^ 2 := by ring
    rw [hn, ← hA, e]
    exact Nat.le_add_right _ _
  have h5 := hs.2
  by_contra hgt
  rcases Nat.lt_or_ge q 8 with hq8 | hq8
  · have h4 : (s + 1) ^ 3 ≤ (c1 * B) ^ 3 := Nat.pow_le_pow_left (by omega) 3
    rw [Nat.mul_pow] at h4
    omega
  · have hb := cbrt_descent_bound (q' := q - 8) hB hc (by omega)
    rw [show q - 8 + 8 = q by omega] at hb
    have h3 : 3 * c1 ^ 2 * B ^ 2 * q ≤ (r1 * B + b2) * B ^ 2 := by
      rw [hdiv]
      calc 3 * c1 ^ 2 * B ^ 2 * q = 3 * c1 ^ 2 * q * B ^ 2 := by ring
        _ ≤ (3 * c1 ^ 2 * q + u) * B ^ 2 := Nat.mul_le_mul_right _ (Nat.le_add_right _ _)
    have h4 : (s + 1) ^ 3 ≤ (c1 * B + (q - 8)) ^ 3 := Nat.pow_le_pow_left (by omega) 3
    omega

/-- the `B = 2^22` step of `normalized_cbrt_rem` for `u128`, after the high part `(c1, r1)`: with `q, u` the quotient and
    remainder of `r0 = r1·B + b2` by `d = 3·c1²`, no shift loses a bit, the candidate `c1·B + q` carries the exact signed
    remainder `t1 − (3·c1·B + q)·q²` and is not below the root; on a normalised `n` it is at most 8 above it -/
theorem normCbrtU128_step {n c1 r1 r0 d : Nat} (hhi : n < 2 ^ 128) (hroot1 : IsRoot (n / 2 ^ 66) 3 c1)
    (hrem1 : c1 ^ 3 + r1 = n / 2 ^ 66) (hd : d = 3 * (c1 * c1)) (hc1 : c1 ≠ 0)
    (hr0 : r0 = (r1 * 2 ^ 22 % 2 ^ 128 ||| n / 2 ^ 44 % 2 ^ 22)) :
    c1 < 2 ^ 21 ∧ r0 / d < 3 * 2 ^ 22 ∧ (r0 % d * 2 ^ 44 % 2 ^ 128 ||| n % 2 ^ 44) < 2 ^ 127 ∧
    ((c1 * 2 ^ 22 + r0 / d : Nat) : Int) ^ 3 + (((r0 % d * 2 ^ 44 % 2 ^ 128 ||| n % 2 ^ 44 : Nat) : Int)
      - (((3 * c1 * 2 ^ 22 + r0 / d) * (r0 / d * (r0 / d)) : Nat) : Int)) = n ∧
    iroot n 3 ≤ c1 * 2 ^ 22 + r0 / d ∧
    (2 ^ 125 ≤ n → r0 / d < 2 ^ 22 + 8 ∧ c1 * 2 ^ 22 + r0 / d ≤ iroot n 3 + 8) := by
  -- sizes of the high root and its remainder
  have hAlt : n / 2 ^ 66 < 2 ^ 62 := by
    rw [Nat.div_lt_iff_lt_mul (Nat.two_pow_pos _), ← Nat.pow_add]; exact hhi
  have hAge : 2 ^ 125 ≤ n → 2 ^ 59 ≤ n / 2 ^ 66 := fun hlo => by
    rw [Nat.le_div_iff_mul_le (Nat.two_pow_pos _), ← Nat.pow_add]; exact hlo
  have hc1lt : c1 < 2 ^ 21 := by
    by_contra hge
    have h1 : (2 ^ 21) ^ 3 ≤ c1 ^ 3 := Nat.pow_le_pow_left (by omega) 3
    have h2 := hroot1.1
    rw [← Nat.pow_mul] at h1
    omega
  have hc1ge : 2 ^ 125 ≤ n → 600000 ≤ c1 := fun hlo => by
    by_contra hlt
    have h1 : (c1 + 1) ^ 3 ≤ 600000 ^ 3 := Nat.pow_le_pow_left (by omega) 3
    have h2 := hroot1.2
    have := hAge hlo
    omega
  have hsplit : n = n / 2 ^ 66 * (2 ^ 22) ^ 3 + n / 2 ^ 44 % 2 ^ 22 * (2 ^ 22) ^ 2 + n % 2 ^ 44 := by
    simp only [Nat.reducePow]; omega
  have hb2lt : n / 2 ^ 44 % 2 ^ 22 < 2 ^ 22 := Nat.mod_lt _ (Nat.two_pow_pos _)
  have hlowlt : n % 2 ^ 44 < 2 ^ 44 := Nat.mod_lt _ (Nat.two_pow_pos _)
  have hs := iroot_spec n 3 (by decide)
  -- from here on only the three parts `A·B³ + b2·B² + low` of `n` matter
  clear hhi hAlt hAge
  generalize n / 2 ^ 66 = A at *
  generalize n / 2 ^ 44 % 2 ^ 22 = b2 at *
  generalize n % 2 ^ 44 = low at *
  have hc1pos : 0 < c1 := Nat.pos_of_ne_zero hc1
  have hcc1 : c1 ≤ c1 * c1 := Nat.le_mul_self c1
  have hcc2 : c1 * c1 ≤ 2097151 * 2097151 := Nat.mul_le_mul (by omega) (by omega)
  have hr1le : r1 ≤ 3 * (c1 * c1) + 3 * c1 := by
    have h2 := hroot1.2
    have e : (c1 + 1) ^ 3 = c1 ^ 3 + (3 * (c1 * c1) + 3 * c1 + 1) := by ring
    omega
  have e1 : r1 * 2 ^ 22 % 2 ^ 128 = 2 ^ 22 * r1 := by omega
  rw [e1, ← Nat.two_pow_add_eq_or_of_lt hb2lt] at hr0
  -- the quotient is below `3·B`, and below `B + 8` when `c1` is large
  have hdpos : 0 < d := by omega
  have hqlt : r0 / d < 3 * 2 ^ 22 := (Nat.div_lt_iff_lt_mul hdpos).2 (by rw [hr0, hd]; omega)
  have hqlt8 : 600000 ≤ c1 → r0 / d < 2 ^ 22 + 8 := fun hge =>
    (Nat.div_lt_iff_lt_mul hdpos).2 (by
      have := Nat.mul_le_mul_right c1 hge
      rw [hr0, hd]; omega)
  have hdm := Nat.div_add_mod r0 d
  have hult := Nat.mod_lt r0 hdpos
  generalize r0 / d = q at *
  generalize r0 % d = u at *
  have e2 : u * 2 ^ 44 % 2 ^ 128 = 2 ^ 44 * u := by
    rw [Nat.mul_comm]
    exact Nat.mod_eq_of_lt (Nat.lt_of_lt_of_le (Nat.mul_lt_mul_of_pos_left (show u < 2 ^ 44 by omega) (Nat.two_pow_pos _))
      (by rw [← Nat.pow_add]; exact Nat.pow_le_pow_right (by decide) (by decide)))
  rw [e2, ← Nat.two_pow_add_eq_or_of_lt hlowlt]
  -- the arithmetic core
  have hdiv : r1 * 2 ^ 22 + b2 = 3 * c1 ^ 2 * q + u := by
    rw [Nat.pow_two, ← hd]; omega
  have hu' : u < 3 * c1 ^ 2 := by rw [Nat.pow_two, ← hd]; exact hult
  obtain ⟨hid, hup⟩ := cbrt_step hsplit hrem1 (by rw [← Nat.pow_mul]; exact hlowlt) hdiv hu'
  refine ⟨hc1lt, hqlt, by omega, ?_, ?_, fun hlo => ?_⟩
  · have e3 : 2 ^ 44 * u + low = u * (2 ^ 22) ^ 2 + low := by rw [← Nat.pow_mul, Nat.mul_comm]
    rw [e3, ← Nat.pow_two q, ← hid]; ring
  · by_contra hlt
    have h1 : (c1 * 2 ^ 22 + q + 1) ^ 3 ≤ iroot n 3 ^ 3 := Nat.pow_le_pow_left (by omega) 3
    exact absurd (Nat.lt_of_lt_of_le hup (Nat.le_trans h1 hs.1)) (Nat.lt_irrefl _)
  · have hge := hc1ge hlo
    have hq8 := hqlt8 hge
    exact ⟨hq8, cbrt_step_near hsplit hrem1 hdiv (by omega) (by omega) (by omega) hs⟩

/-- no checked operation of the `B = 2^22` step overflows once `c1 < 2^21` and `q < B + 8` -/
theorem normCbrtU128_step_fits {c1 q : Nat} (hc1 : c1 < 2 ^ 21) (hq : q < 2 ^ 22 + 8) :
    3 * (c1 * c1) < 2 ^ 128 ∧ c1 * 2 ^ 22 + q < 2 ^ 64 ∧ q * q < 2 ^ 128 ∧ 3 * c1 * 2 ^ 22 + q < 2 ^ 128 ∧
    (3 * c1 * 2 ^ 22 + q) * (q * q) < 2 ^ 127 := by
  have hcc : c1 * c1 ≤ 2097151 * 2097151 := Nat.mul_le_mul (by omega) (by omega)
  have hqq : q * q ≤ 4194311 * 4194311 := Nat.mul_le_mul (by omega) (by omega)
  have hfq : (3 * c1 * 2 ^ 22 + q) * (q * q) ≤ 26388283260928 * (4194311 * 4194311) :=
    Nat.mul_le_mul (by omega) hqq
  exact ⟨by omega, by omega, by omega, by omega, by omega⟩

/-- **the `B = 2^22` cube-root step over the `u64` routine**: on a normalised value on whose high part the `u64` routine
    answers, `<u128>::normalized_cbrt_rem` answers without overflow, with the floor cube root and the remainder -/
theorem normCbrtU128_spec {n : Nat} (hlo : 2 ^ 125 ≤ n) (hhi : n < 2 ^ 128) {cr : Nat × Nat}
    (h64 : normCbrtU64 (if n < 2 ^ 127 then n / 2 ^ 63 % 2 ^ 64 else n / 2 ^ 66 % 2 ^ 64) = some cr) :
    ∃ res, normCbrtU128 n = some res ∧ IsRoot n 3 res.1 ∧ res.1 ^ 3 + res.2 = n := by
  obtain ⟨c1, r1, hcr, hroot1, hrem1⟩ := normCbrtU128_high hhi h64
  simp only [Option.bind_eq_bind] at hcr
  unfold normCbrtU128
  simp only [Option.bind_eq_bind]
  rw [hcr]
  simp only [obind_some]
  clear hcr h64
  have hAge : 2 ^ 59 ≤ n / 2 ^ 66 := by
    rw [Nat.le_div_iff_mul_le (Nat.two_pow_pos _), ← Nat.pow_add]; exact hlo
  have hc1 : c1 ≠ 0 := by
    rintro rfl
    exact absurd (Nat.lt_of_le_of_lt hAge hroot1.2) (by decide)
  obtain ⟨hc1lt, _, ht1, hinv, hsc, hnear⟩ := normCbrtU128_step hhi hroot1 hrem1 rfl hc1 rfl
  obtain ⟨hqlt, hcs⟩ := hnear hlo
  have hs := iroot_spec n 3 (by decide)
  have hd0 : 3 * (c1 * c1) ≠ 0 := Nat.mul_ne_zero (by decide) (Nat.mul_ne_zero hc1 hc1)
  -- the `2^125 ≤ n < 2^128` have done their work; the checked steps need only `c1 < 2^21`, `q < B + 8`
  clear hlo hhi hAge hroot1 hrem1 hnear
  obtain ⟨f1, f2, f3, f4, f5⟩ := normCbrtU128_step_fits hc1lt hqlt
  rw [ck_eq (m := 3 * (c1 * c1)) (by push_cast; ring) f1]
  simp only [obind_some]
  rw [decide_eq_true hd0, guardO_true]
  simp only [obind_some]
  generalize (r1 * 2 ^ 22 % 2 ^ 128 ||| n / 2 ^ 44 % 2 ^ 22) / (3 * (c1 * c1)) = q at *
  generalize (r1 * 2 ^ 22 % 2 ^ 128 ||| n / 2 ^ 44 % 2 ^ 22) % (3 * (c1 * c1)) = u at *
  rw [ck_eq (m := c1 * 2 ^ 22 + q) (by omega) f2]
  simp only [obind_some]
  rw [ck_eq (m := q * q) (by push_cast; ring) f3]
  simp only [obind_some]
  rw [ck_eq (m := 3 * c1 * 2 ^ 22 + q) (by omega) f4]
  simp only [obind_some]
  rw [ck_eq (m := (3 * c1 * 2 ^ 22 + q) * (q * q)) (by push_cast; ring) (Nat.lt_trans f5 (by decide))]
  simp only [obind_some]
  rw [decide_eq_true (And.intro ht1 f5), guardO_true]
  simp only [obind_some]
  -- the descent ends at the floor root
  obtain ⟨rf, hres, hrfinv, hrf0⟩ := cbrtDownLoop_spec hs 8 _ _ hinv hsc hcs
  rw [hres]
  refine ⟨_, rfl, hs, ?_⟩
  have : ((iroot n 3 ^ 3 + rf.toNat : Nat) : Int) = n := by
    push_cast; rw [Int.toNat_of_nonneg hrf0]; exact hrfinv
  exact_mod_cast this

/-- **`<u128 as NormalizedRootRem>::normalized_cbrt_rem` is sound** on every normalised value -/
theorem normCbrtU128_sound {n : Nat} (hlo : 2 ^ 125 ≤ n) (hhi : n < 2 ^ 128) {res : Nat × Nat}
    (h : normCbrtU128 n = some res) : IsRoot n 3 res.1 ∧ res.1 ^ 3 + res.2 = n := by
  rcases h64 : normCbrtU64 (if n < 2 ^ 127 then n / 2 ^ 63 % 2 ^ 64 else n / 2 ^ 66 % 2 ^ 64) with _ | cr
  · unfold normCbrtU128 at h
    by_cases hlt : n < 2 ^ 127
    · rw [if_pos hlt] at h64
      simp only [Option.bind_eq_bind, if_pos hlt, h64, Option.bind_none] at h
      exact absurd h (by simp)
    · rw [if_neg hlt] at h64
      simp only [Option.bind_eq_bind, if_neg hlt, h64, Option.bind_none] at h
      exact absurd h (by simp)
  · obtain ⟨res', h', hr⟩ := normCbrtU128_spec hlo hhi h64
    rw [h] at h'
    injection h' with h'
    subst h'
    exact hr

/-- **`u128::cbrt_rem` is sound** on every value of the type -/
theorem cbrtRemU128_sound {x : Nat} (hx : x < 2 ^ 128) {r : Nat × Nat} (h : cbrtRemPrimBits 128 x = some r) :
    IsRoot x 3 r.1 ∧ r.1 ^ 3 + r.2 = x :=
  (cbrtRemNorm_spec (bits := 128) (fun _ h1 h2 _ h3 => normCbrtU128_sound h1 h2 h3) hx).1 r h

end Dashu.Model.NT
