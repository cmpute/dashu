import Dashu.Model.NT.ModAddK
import Dashu.Proofs.NT.ModLargeK
/-
  C13 ↔ C01 link for `integer/src/modular/add.rs`: the buffer-level `negate_in_place`, `add_in_place`,
  `dbl_in_place`, `sub_in_place`, `sub_in_place_swap` of `Model/NT/ModAddK.lean` never trip a `debug_assert` on
  residues below the normalised modulus and leave `negRaw` / `addRaw` / `subRaw`.  The word loops' contracts are
  C01's `addSameLen_spec` / `subSameLen_spec` / `subSameLenSwap_eq` and C02's `shlInPlace_spec` / `cmpSameLen_spec`,
  imported — nothing is re-proved.
-/
namespace Dashu.Model.NT
open Dashu.Model Dashu.Model.Div

theorem all_zero_iff (W : Nat) (ws : List Nat) : ws.all (fun w => w == 0) = true ↔ val W ws = 0 := by
  induction ws with
  | nil => simp
  | cons a as ih =>
    have hp : 0 < 2 ^ W := Nat.two_pow_pos _
    simp only [List.all_cons, Bool.and_eq_true, beq_iff_eq, val_cons, ih]
    constructor
    · intro ⟨h1, h2⟩; rw [h1, h2]; simp
    · intro h
      have h1 : a = 0 := by omega
      have h2 : 2 ^ W * val W as = 0 := by omega
      rcases Nat.mul_eq_zero.1 h2 with h3 | h3
      · omega
      · exact ⟨h1, h3⟩

/-- the residue buffer: exactly `n` words holding `x` -/
theorem rawWords_spec {W : Nat} {r : Ring} (hwf : r.WF W) {x : Nat} (hx : x < r.M) :
    (r.rawWords W x).length = r.n ∧ IsWords W (r.rawWords W x) ∧ val W (r.rawWords W x) = x :=
  wordsPad_spec hwf.hW (Nat.lt_trans hx hwf.Mlt)

/-- `negate_in_place` on buffers -/
theorem negateInPlaceL_spec {W : Nat} {nd raw : List Nat} (hnd : IsWords W nd) (hraw : IsWords W raw)
    (hl : nd.length = raw.length) (hle : val W raw ≤ val W nd) :
    ∃ out, negateInPlaceL W nd raw = .ok out ∧ out.length = raw.length ∧ IsWords W out ∧
      val W out = if val W raw = 0 then 0 else val W nd - val W raw := by
  unfold negateInPlaceL subFromModulusL
  by_cases hz : raw.all (fun w => w == 0) = true
  · rw [if_pos hz]
    have := (all_zero_iff W raw).1 hz
    exact ⟨raw, rfl, rfl, hraw, by rw [if_pos this, this]⟩
  · rw [if_neg hz]
    have hnz : val W raw ≠ 0 := fun h => hz ((all_zero_iff W raw).2 h)
    rw [subSameLenSwap_eq W nd raw 0 hl]
    obtain ⟨out, e, s2, s3, v⟩ := subSameLen_of_le hnd hraw hl hle
    rw [e]
    exact ⟨out, by simp, by omega, s3, by rw [if_neg hnz, v]⟩

/-- the conditional subtraction shared by `add_in_place` / `dbl_in_place`: the sum `s = val l1 + P·c < 2·M` -/
theorem condSubL_spec {W : Nat} {nd l1 : List Nat} {c : Nat} {overflow : Bool} (hnd : IsWords W nd) (hl1 : IsWords W l1)
    (hl : l1.length = nd.length) (hc : c ≤ 1) (hov : overflow = decide (c ≠ 0))
    (hM : val W nd < 2 ^ (W * nd.length))
    (hs : val W l1 + 2 ^ (W * nd.length) * c < 2 * val W nd) :
    ∃ out, condSubL W nd l1 overflow = .ok out ∧ out.length = nd.length ∧ IsWords W out ∧
      val W out = (if val W l1 + 2 ^ (W * nd.length) * c ≥ val W nd
                   then val W l1 + 2 ^ (W * nd.length) * c - val W nd else val W l1 + 2 ^ (W * nd.length) * c) := by
  unfold condSubL subModulusL
  rw [Div.cmpSameLen_spec W l1 nd hl hl1 hnd]
  have hl1lt := val_lt W l1 hl1
  rw [hl] at hl1lt
  generalize hP : 2 ^ (W * nd.length) = P at *
  by_cases hcond : (overflow = true ∨ compare (val W l1) (val W nd) ≠ .lt)
  · rw [if_pos hcond]
    have hge : val W l1 + P * c ≥ val W nd := by
      rcases hcond with h | h
      · subst hov; simp at h
        have : c = 1 := by omega
        subst this; omega
      · have : ¬ val W l1 < val W nd := fun hh => h (Nat.compare_eq_lt.2 hh)
        have : 0 ≤ P * c := Nat.zero_le _
        omega
    have ⟨s1, s2, s3, s4⟩ := subSameLen_spec W l1 nd 0 hl1 hnd hl (by omega)
    generalize subSameLen W l1 nd 0 = p at s1 s2 s3 s4
    obtain ⟨l2, c2⟩ := p
    simp only at s1 s2 s3 s4 ⊢
    have hl2lt := val_lt W l2 s3
    rw [s2, hl, hP] at hl2lt
    rw [hl, hP] at s1
    have hcc : c2 = c := by
      rcases Nat.eq_zero_or_pos c with h0 | h0 <;> rcases Nat.eq_zero_or_pos c2 with h2 | h2
      · omega
      · have : c2 = 1 := by omega
        subst this; subst h0; omega
      · have : c = 1 := by omega
        subst this; subst h2; omega
      · omega
    subst hcc
    have hne : (overflow != decide (c2 ≠ 0)) = false := by subst hov; simp
    rw [hne]
    refine ⟨l2, by simp, by omega, s3, ?_⟩
    rw [if_pos hge]
    rcases Nat.eq_zero_or_pos c2 with h0 | h0
    · subst h0; omega
    · have : c2 = 1 := by omega
      subst this; omega
  · rw [if_neg hcond]
    have h1 : overflow = false := by
      cases overflow
      · rfl
      · exact absurd (Or.inl rfl) hcond
    have h2 : val W l1 < val W nd := by
      apply Classical.byContradiction
      intro hh
      apply hcond; right
      intro hlt
      exact hh (Nat.compare_eq_lt.1 hlt)
    have hc0 : c = 0 := by
      subst hov; simpa using h1
    subst hc0
    refine ⟨l1, rfl, hl, hl1, ?_⟩
    rw [if_neg (by omega)]; simp

/-- the conditional addition shared by `sub_in_place` / `sub_in_place_swap`: `val l1 + t = u + P·c` is what the
    subtraction loop left -/
theorem condAddL_spec {W : Nat} {nd l1 : List Nat} {c u t : Nat} (hnd : IsWords W nd) (hl1 : IsWords W l1)
    (hl : l1.length = nd.length) (hc : c ≤ 1)
    (ht : t ≤ val W nd)
    (hs : val W l1 + t = u + 2 ^ (W * nd.length) * c) :
    ∃ out, condAddL W nd l1 c = .ok out ∧ out.length = nd.length ∧ IsWords W out ∧
      val W out = (if u ≥ t then u - t else val W nd - (t - u)) := by
  unfold condAddL addModulusL
  have hl1lt := val_lt W l1 hl1
  rw [hl] at hl1lt
  by_cases hc0 : c = 0
  · subst hc0
    simp only [ne_eq, not_true_eq_false, if_false]
    refine ⟨l1, rfl, hl, hl1, ?_⟩
    simp only [Nat.mul_zero, Nat.add_zero] at hs
    rw [if_pos (by omega)]; omega
  · rw [if_pos hc0]
    have hc1 : c = 1 := by omega
    subst hc1
    have ⟨s1, s2, s3, s4⟩ := addSameLen_spec W l1 nd 0 hl1 hnd hl (by omega)
    generalize addSameLen W l1 nd 0 = p at s1 s2 s3 s4
    obtain ⟨l2, c2⟩ := p
    simp only at s1 s2 s3 s4 ⊢
    have hl2lt := val_lt W l2 s3
    rw [s2, hl] at hl2lt
    rw [hl] at s1
    generalize 2 ^ (W * nd.length) = P at *
    have hc2 : c2 = 1 := by
      rcases Nat.eq_zero_or_pos c2 with h0 | h0
      · subst h0; omega
      · omega
    subst hc2
    rw [if_neg (by omega)]
    refine ⟨l2, rfl, by omega, s3, ?_⟩
    rw [if_neg (by omega)]; omega

/-! The five operations of `add.rs` on ANY `n`-word buffers below an `n`-word modulus `nd`: no `debug_assert` fails,
    the length is kept, and the value is that of `addRaw` / `subRaw` / `negRaw` with `val nd` for the modulus. -/
section buffers
variable {W : Nat} {nd lhs rhs : List Nat} (hnd : IsWords W nd) (hl : IsWords W lhs) (hr : IsWords W rhs)
  (hll : lhs.length = nd.length) (hrl : rhs.length = nd.length) (ha : val W lhs < val W nd) (hb : val W rhs < val W nd)
include hnd hl hll ha

include hr hrl hb in
theorem addInPlaceL_spec : ∃ out, addInPlaceL W nd lhs rhs = .ok out ∧ out.length = nd.length ∧
    val W out = if val W lhs + val W rhs ≥ val W nd then val W lhs + val W rhs - val W nd else val W lhs + val W rhs := by
  have hM := val_lt W nd hnd
  unfold addInPlaceL
  have ⟨s1, s2, s3, s4⟩ := addSameLen_spec W lhs rhs 0 hl hr (by omega) (by omega)
  generalize addSameLen W lhs rhs 0 = p at s1 s2 s3 s4
  obtain ⟨l1, c⟩ := p
  simp only at s1 s2 s3 s4 ⊢
  rw [hll, Nat.add_zero] at s1
  obtain ⟨out, ho, h1, _, hv⟩ := condSubL_spec (overflow := decide (c ≠ 0)) hnd s3 (by omega) s4 rfl hM (by omega)
  exact ⟨out, ho, h1, by rw [hv, s1]⟩

theorem dblInPlaceL_spec (hW : 1 ≤ W) : ∃ out, dblInPlaceL W nd lhs = .ok out ∧ out.length = nd.length ∧
    val W out = if val W lhs + val W lhs ≥ val W nd then val W lhs + val W lhs - val W nd else val W lhs + val W lhs := by
  have hM := val_lt W nd hnd
  unfold dblInPlaceL
  have ⟨s1, s2, s3, s4⟩ := Div.shlInPlace_spec W 1 hW _ hl
  generalize Div.shlInPlace W lhs 1 = p at s1 s2 s3 s4
  obtain ⟨l1, c⟩ := p
  simp only at s1 s2 s3 s4 ⊢
  rw [hll, Nat.pow_one, Nat.mul_two] at s1
  obtain ⟨out, ho, h1, _, hv⟩ := condSubL_spec (overflow := decide (c > 0)) (c := c) hnd s3 (by omega) (by omega)
    (by simp [Nat.pos_iff_ne_zero]) hM (by omega)
  exact ⟨out, ho, h1, by rw [hv, s1]⟩

omit ha in
include hr hrl hb in
theorem subInPlaceL_spec : ∃ out, subInPlaceL W nd lhs rhs = .ok out ∧ out.length = nd.length ∧
    val W out = if val W lhs ≥ val W rhs then val W lhs - val W rhs else val W nd - (val W rhs - val W lhs) := by
  unfold subInPlaceL
  have ⟨s1, s2, s3, s4⟩ := subSameLen_spec W lhs rhs 0 hl hr (by omega) (by omega)
  generalize subSameLen W lhs rhs 0 = p at s1 s2 s3 s4
  obtain ⟨l1, c⟩ := p
  simp only at s1 s2 s3 s4 ⊢
  rw [hll, Nat.add_zero] at s1
  obtain ⟨out, ho, h1, _, hv⟩ := condAddL_spec (u := val W lhs) (t := val W rhs) hnd s3 (by omega) s4 (by omega) s1
  exact ⟨out, ho, h1, hv⟩

theorem negateInPlaceL_spec' : ∃ out, negateInPlaceL W nd lhs = .ok out ∧ out.length = nd.length ∧
    val W out = if val W lhs = 0 then 0 else val W nd - val W lhs := by
  obtain ⟨out, ho, h1, _, hv⟩ := negateInPlaceL_spec hnd hl (by omega) (by omega)
  exact ⟨out, ho, by omega, hv⟩

end buffers

/-- `sub_in_place_swap` runs the same word loop with the result in the other buffer -/
theorem subInPlaceSwapL_eq (W : Nat) (nd : List Nat) {lhs rhs : List Nat} (h : lhs.length = rhs.length) :
    subInPlaceSwapL W nd lhs rhs = subInPlaceL W nd lhs rhs := by
  unfold subInPlaceSwapL subInPlaceL
  rw [subSameLenSwap_eq W _ _ 0 h]

section ring
variable {W : Nat} {r : Ring}

/-- a buffer result of known value, read back as the driver reads it -/
theorem unwrapWords_of_spec {x : Except PanicKind (List Nat)} {n v : Nat}
    (h : ∃ out, x = .ok out ∧ out.length = n ∧ val W out = v) : unwrapWords W r x = v := by
  obtain ⟨out, rfl, _, hv⟩ := h
  exact hv

/-- the buffers of a multi-word ring meet the hypotheses of the buffer-level theorems -/
theorem large_bufs (hwf : r.WF W) {a : Nat} (ha : a < r.M) :
    IsWords W (r.ndWords W) ∧ val W (r.ndWords W) = r.M ∧ IsWords W (r.rawWords W a) ∧
      (r.rawWords W a).length = (r.ndWords W).length ∧ val W (r.rawWords W a) = a := by
  obtain ⟨hlen, hndw, hndv⟩ := ndWords_spec hwf
  obtain ⟨la, wa, va⟩ := rawWords_spec hwf ha
  exact ⟨hndw, hndv, wa, by omega, va⟩

theorem addRawKL_eq (hwf : r.WF W) {a b : Nat} (ha : a < r.M) (hb : b < r.M) :
    addRawKL W r a b = addRaw r a b := by
  unfold addRawKL
  cases hkind : r.kind with
  | single => rfl
  | double => rfl
  | large =>
    obtain ⟨hnd, hM, wa, la, va⟩ := large_bufs hwf ha
    obtain ⟨-, -, wb, lb, vb⟩ := large_bufs hwf hb
    rw [unwrapWords_of_spec (addInPlaceL_spec hnd wa wb la lb (by omega) (by omega)), va, vb, hM]
    rfl

theorem dblRawKL_eq (hwf : r.WF W) {a : Nat} (ha : a < r.M) :
    dblRawKL W r a = addRaw r a a := by
  unfold dblRawKL
  cases hkind : r.kind with
  | single => rfl
  | double => rfl
  | large =>
    obtain ⟨hnd, hM, wa, la, va⟩ := large_bufs hwf ha
    rw [unwrapWords_of_spec (dblInPlaceL_spec hnd wa la (by omega) hwf.hW), va, hM]
    rfl

theorem subRawKL_eq (hwf : r.WF W) {a b : Nat} (ha : a < r.M) (hb : b < r.M) :
    subRawKL W r a b = subRaw r a b := by
  unfold subRawKL
  cases hkind : r.kind with
  | single => rfl
  | double => rfl
  | large =>
    obtain ⟨hnd, hM, wa, la, va⟩ := large_bufs hwf ha
    obtain ⟨-, -, wb, lb, vb⟩ := large_bufs hwf hb
    rw [unwrapWords_of_spec (subInPlaceL_spec hnd wa wb la lb (by omega)), va, vb, hM]
    rfl

theorem subSwapRawKL_eq (hwf : r.WF W) {a b : Nat} (ha : a < r.M) (hb : b < r.M) :
    subSwapRawKL W r a b = subRaw r a b := by
  rw [← subRawKL_eq hwf ha hb]
  unfold subSwapRawKL subRawKL
  cases hkind : r.kind with
  | single => rfl
  | double => rfl
  | large =>
    obtain ⟨-, -, -, la, -⟩ := large_bufs hwf ha
    obtain ⟨-, -, -, lb, -⟩ := large_bufs hwf hb
    rw [subInPlaceSwapL_eq W _ (by omega)]

theorem negRawKL_eq (hwf : r.WF W) {a : Nat} (ha : a < r.M) :
    negRawKL W r a = negRaw r a := by
  unfold negRawKL
  cases hkind : r.kind with
  | single => rfl
  | double => rfl
  | large =>
    obtain ⟨hnd, hM, wa, la, va⟩ := large_bufs hwf ha
    rw [unwrapWords_of_spec (negateInPlaceL_spec' hnd wa la (by omega)), va, hM]
    rfl

end ring

/-- `IntoRing for IBig` with every division kernel and the negation on buffers = the `%`-level model -/
theorem reduceIntKA_eq {W id m : Nat} {r : Ring} (hW : 0 < W) (hW4 : r.kind = .large → 4 ≤ W)
    (hnew : Ring.new W id m = .ok r) (a : Int) : reduceIntKA W r a = reduceInt W r a := by
  have hwf := Ring.new_wf hW hnew
  unfold reduceIntKA reduceInt
  rw [rawOfNatKL_eq hW hW4 hnew]
  have hlt : rawOfNat W r a.natAbs < r.M := by
    rw [rawOfNat_eq hwf]
    exact raw_lt_M (Nat.mod_lt _ hwf.mpos)
  simp only [negRawKL_eq hwf hlt]

theorem subBothKL_eq {W id m : Nat} {r : Ring} (hW : 0 < W) (hnew : Ring.new W id m = .ok r)
    (a b : Elem) (ha : a.ring = r) (hva : a.raw < r.M) (hvb : b.raw < r.M) :
    a.subBothKL W b = a.sub b := by
  have hwf := Ring.new_wf hW hnew
  subst ha
  unfold Elem.subBothKL Elem.subKL Elem.subSwapKL Elem.sub
  by_cases hs : sameRing a b = true
  · simp only [hs, if_true, subRawKL_eq hwf hva hvb, subSwapRawKL_eq hwf hva hvb]
  · simp only [hs]; rfl

end Dashu.Model.NT
