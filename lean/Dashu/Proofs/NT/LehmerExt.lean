import Dashu.Proofs.NT.GcdExt
import Dashu.Proofs.NT.LehmerAlign
import Mathlib.Tactic.LinearCombination
/-
  C12: the mirrored `lehmer::gcd_ext_in_place` (Lehmer's loop with cofactor tracking) always returns
  and meets `LehmerExtContract` — the extended gcd of multi-word operands has no assumed kernel.

  `lehmerExtStep` is the body of one iteration of `lehmerExtLoop` (Model/NT/Lehmer.lean); the loop is the iteration
  of that step while `y` has more than one word (`lehmerExtLoop_succ`, `lehmerExtLoop_iter`).  The step is analysed
  once (`lehmerExtStep_spec`): it returns, keeps `HeadInv` — the congruences of the contract together with
  `t1·x + t0·y = lhs`, on which the buffer-length claims of `Proofs/NT/LehmerBuf` rest — and decreases `x + y`.
-/
namespace Dashu.Model.NT
open Dashu.Model

/-- sign carried by the `swapped` flag -/
def extSigma (sw : Bool) : Int := if sw then -1 else 1

theorem extSigma_not (sw : Bool) : extSigma (!sw) = - extSigma sw := by
  cases sw <;> simp [extSigma]

/-- loop invariant of `gcd_ext_in_place`: `x ≡ −σ·t0·rhs`, `y ≡ σ·t1·rhs (mod lhs)` -/
def ExtInv (lhs rhs x y t0 t1 : Nat) (sw : Bool) : Prop :=
  Nat.gcd x y = Nat.gcd lhs rhs ∧
  (lhs : Int) ∣ x + extSigma sw * t0 * rhs ∧
  (lhs : Int) ∣ y - extSigma sw * t1 * rhs

theorem mod_cast_eq (x y : Nat) : ((x % y : Nat) : Int) = x - ((x / y : Nat) : Int) * y := by
  push_cast [Int.emod_def]; ring

/-- `lehmer_step` with `lehmer_ext_step` keeps `t1·x + t0·y`: the matrix applied to `(t0, t1)` is the transposed
    inverse of the one applied to `(x, y)` up to the determinant 1 -/
theorem lehmerExt_comb {a b c d x y X Y : Nat} (hdet : (a : Int) * d - b * c = 1)
    (hX : (X : Int) = (a : Int) * x - (b : Int) * y) (hY : (Y : Int) = (d : Int) * y - (c : Int) * x) (t0 t1 : Nat) :
    (c * t0 + d * t1) * X + (a * t0 + b * t1) * Y = t1 * x + t0 * y := by
  have : (((c * t0 + d * t1) * X + (a * t0 + b * t1) * Y : Nat) : Int) = ((t1 * x + t0 * y : Nat) : Int) := by
    push_cast; rw [hX, hY]
    linear_combination ((t1 : Int) * x + (t0 : Int) * y) * hdet
  exact_mod_cast this

theorem coeff_le_of_comb {t1 x t0 y L : Nat} (h : t1 * x + t0 * y = L) : (0 < x → t1 ≤ L) ∧ (0 < y → t0 ≤ L) :=
  ⟨fun hx => by have := Nat.le_mul_of_pos_right t1 hx; omega,
   fun hy => by have := Nat.le_mul_of_pos_right t0 hy; omega⟩

/-- the Euclidean step `(x, y, t0, t1) := (y, x mod y, t1, t0 + q·t1)` keeps it too -/
theorem euclid_comb (x y t0 t1 : Nat) : (t0 + x / y * t1) * y + t1 * (x % y) = t1 * x + t0 * y := by
  have e : (t0 + x / y * t1) * y + t1 * (x % y) = t0 * y + t1 * (y * (x / y) + x % y) := by ring
  rw [e, Nat.div_add_mod, Nat.add_comm]

/-- the state of the main loop of `gcd_ext_in_place`: `(x, y, t0, t1, swapped)` -/
abbrev ExtState := Nat × Nat × Nat × Nat × Bool

/-- the body of one iteration of the `while` loop of `lehmer::gcd_ext_in_place` (entered when `y` has more than
    one word): Euclidean fallback or `lehmer_step` + `lehmer_ext_step`, then the swap -/
def lehmerExtStep (W : Nat) (s : ExtState) : Except PanicKind ExtState :=
  match s with
  | (x, y, t0, t1, sw) =>
    let (a, b, c, d) := lehmerCofactors W x y
    if b = 0 then .ok (y, x % y, t1, t0 + x / y * t1, !sw)
    else
      let x' : Int := (a : Int) * x - (b : Int) * y
      let y' : Int := (d : Int) * y - (c : Int) * x
      if x' < 0 ∨ y' < 0 then .error (.undocumented "lehmer.rs lehmer_step: negative result (debug_assert on the carry)")
      else
        let t0' := a * t0 + b * t1
        let t1' := c * t0 + d * t1
        if x'.toNat ≤ y'.toNat then .ok (y'.toNat, x'.toNat, t1', t0', !sw)
        else .ok (x'.toNat, y'.toNat, t0', t1', sw)

/-- the loop is: while `y` has more than one word, do the step -/
theorem lehmerExtLoop_succ (W fuel x y t0 t1 : Nat) (sw : Bool) :
    lehmerExtLoop W (fuel + 1) x y t0 t1 sw =
      if wordLen W y > 1 then
        (match lehmerExtStep W (x, y, t0, t1, sw) with
         | .error k => .error k
         | .ok s => lehmerExtLoop W fuel s.1 s.2.1 s.2.2.1 s.2.2.2.1 s.2.2.2.2)
      else .ok (x, y, t0, t1, sw) := by
  rw [lehmerExtLoop]
  simp only [lehmerExtStep]
  rcases hc : lehmerCofactors W x y with ⟨a, b, c, d⟩
  simp only []
  by_cases hy : wordLen W y > 1
  · simp only [hy, if_true]
    by_cases hb : b = 0
    · simp only [hb, if_true]
    · simp only [hb, if_false]
      by_cases hn : (a : Int) * x - (b : Int) * y < 0 ∨ (d : Int) * y - (c : Int) * x < 0
      · simp only [hn, if_true]
      · simp only [hn, if_false]
        by_cases hle : ((a : Int) * x - (b : Int) * y).toNat ≤ ((d : Int) * y - (c : Int) * x).toNat
        · simp only [hle, if_true]
        · simp only [hle, if_false]
  · simp only [hy, if_false]

/-- the state at the head of the `k`-th iteration (`none`: the loop has ended or panicked before) -/
def lehmerExtIter (W : Nat) : Nat → ExtState → Option ExtState
  | 0, s => some s
  | k + 1, s =>
    if wordLen W s.2.1 > 1 then
      (match lehmerExtStep W s with
       | .error _ => none
       | .ok s' => lehmerExtIter W k s')
    else none

/-- what the loop returns is the state at the head of some iteration, the first one at which `y` has at most one word -/
theorem lehmerExtLoop_iter (W : Nat) :
    ∀ (fuel : Nat) (s res : ExtState), lehmerExtLoop W fuel s.1 s.2.1 s.2.2.1 s.2.2.2.1 s.2.2.2.2 = .ok res →
      ∃ k, k < fuel ∧ lehmerExtIter W k s = some res ∧ wordLen W res.2.1 ≤ 1 := by
  intro fuel
  induction fuel with
  | zero => intro s res h; simp [lehmerExtLoop] at h
  | succ n ih =>
    intro s res h
    obtain ⟨x, y, t0, t1, sw⟩ := s
    rw [lehmerExtLoop_succ] at h
    split at h
    · rename_i hy
      generalize hst : lehmerExtStep W (x, y, t0, t1, sw) = st at h
      match st, h with
      | .ok s', h =>
        obtain ⟨k, hk, hit, hw⟩ := ih s' res h
        refine ⟨k + 1, Nat.succ_lt_succ hk, ?_, hw⟩
        simp only [lehmerExtIter, hy, if_true, hst]
        exact hit
    · rename_i hy
      injection h with h
      subst h
      exact ⟨0, by omega, rfl, by simpa using hy⟩

/-- whatever a returning step keeps holds at the head of every iteration reached -/
theorem lehmerExtIter_induct {W : Nat} {P : ExtState → Prop}
    (step : ∀ s s', 1 < wordLen W s.2.1 → lehmerExtStep W s = .ok s' → P s → P s') :
    ∀ (k : Nat) (s s' : ExtState), lehmerExtIter W k s = some s' → P s → P s' := by
  intro k
  induction k with
  | zero => intro s s' h hP; simp only [lehmerExtIter] at h; cases h; exact hP
  | succ n ih =>
    intro s s' h hP
    simp only [lehmerExtIter] at h
    split at h
    · rename_i hy
      generalize hst : lehmerExtStep W s = st at h
      match st, h with
      | .ok s1, h => exact ih s1 s' h (step s s1 hy hst hP)
    · exact absurd h (by simp)

/-- a step that returns keeps the gcd and `t1·x + t0·y`, for WHATEVER quotients the guess committed (only the
    determinant of the cofactor matrix is used) and whatever the order of the operands -/
theorem lehmerExtStep_keeps {W : Nat} {s s' : ExtState} (hs : lehmerExtStep W s = .ok s') :
    Nat.gcd s'.1 s'.2.1 = Nat.gcd s.1 s.2.1 ∧
    s'.2.2.2.1 * s'.1 + s'.2.2.1 * s'.2.1 = s.2.2.2.1 * s.1 + s.2.2.1 * s.2.1 := by
  obtain ⟨x, y, t0, t1, sw⟩ := s
  unfold lehmerExtStep at hs
  simp only [] at hs
  have hdet := lehmerCofactors_det W x y
  generalize lehmerCofactors W x y = cof at hs hdet
  obtain ⟨a, b, c, d⟩ := cof
  simp only [] at hs hdet
  split at hs
  · cases hs
    exact ⟨gcd_mod_right x y, euclid_comb x y t0 t1⟩
  · split at hs
    · cases hs
    · rename_i hneg
      have hx : 0 ≤ (a : Int) * x - (b : Int) * y := by omega
      have hy : 0 ≤ (d : Int) * y - (c : Int) * x := by omega
      have hg := lehmerStep_gcd_toNat hdet hx hy
      have hc := lehmerExt_comb hdet (Int.toNat_of_nonneg hx) (Int.toNat_of_nonneg hy) t0 t1
      split at hs
      · cases hs
        exact ⟨(Nat.gcd_comm _ _).trans hg, (Nat.add_comm _ _).trans hc⟩
      · cases hs
        exact ⟨hg, hc⟩

/-- what holds at the head of every iteration of `gcd_ext_in_place(lhs, rhs)`, `rhs ≤ lhs`: the congruences, the
    combination `t1·x + t0·y = lhs` (so the coefficient of a positive value is at most `lhs`), the order, and that
    `t0` is either still the initial `0` (no step taken) or strictly between `0` and `lhs`: every step makes it a
    positive coefficient of a value `≥ 1` next to another positive term; `y = 0` can only come out of a Euclidean
    step, whose new `t0` is the old `t1` and whose new `t1` is `t0 + q·t1` with `q ≥ 1` -/
def HeadInv (lhs rhs : Nat) : ExtState → Prop
  | (x, y, t0, t1, sw) =>
    ExtInv lhs rhs x y t0 t1 sw ∧ t1 * x + t0 * y = lhs ∧ y ≤ x ∧ 0 < t1 ∧ ((t0 = 0 ∧ x = lhs) ∨ (0 < t0 ∧ t0 < lhs)) ∧
    (y = 0 → t0 ≤ t1)

theorem headInv_init {lhs rhs : Nat} (h : rhs ≤ lhs) : HeadInv lhs rhs (lhs, rhs, 0, 1, false) :=
  ⟨⟨rfl, ⟨1, by simp [extSigma]⟩, ⟨0, by simp [extSigma]⟩⟩, by simp, h, Nat.one_pos, .inl ⟨rfl, rfl⟩, fun _ => Nat.zero_le _⟩

theorem coeff_lt_of_comb {t1 x t0 y L : Nat} (h : t1 * x + t0 * y = L) (ht1 : 0 < t1) (hx : 0 < x) (hy : 0 < y) :
    t0 < L := by
  have := Nat.mul_le_mul ht1 hx
  have := Nat.le_mul_of_pos_right t0 hy
  omega

/-- one pass of the loop body, entered with `y` of more than one word: it returns (no committed step goes
    negative), keeps the invariant and decreases `x + y` -/
theorem lehmerExtStep_spec {W : Nat} (hW : 0 < W) {lhs rhs : Nat} {s : ExtState} (hlen : 1 < wordLen W s.2.1)
    (h : HeadInv lhs rhs s) :
    ∃ s', lehmerExtStep W s = .ok s' ∧ HeadInv lhs rhs s' ∧ s'.1 + s'.2.1 < s.1 + s.2.1 := by
  obtain ⟨x, y, t0, t1, sw⟩ := s
  obtain ⟨⟨hg, ⟨u, hu⟩, ⟨v, hv⟩⟩, hcomb, hxy, ht1, _⟩ := h
  simp only [] at hlen ⊢
  have hy0 : 0 < y := pos_of_lt_wordLen hW hlen
  have hcom := lehmer_committed_values W hW x y hxy hlen
  have hdet := lehmerCofactors_det W x y
  unfold lehmerExtStep
  simp only []
  generalize lehmerCofactors W x y = cof at hcom hdet ⊢
  obtain ⟨a, b, c, d⟩ := cof
  simp only [] at hcom hdet ⊢
  split
  · -- Euclidean step: the new `t0` is the old `t1`, a coefficient of `x ≥ 1`
    have hmod : x % y ≤ x - y := by
      rw [Nat.mod_eq_sub_mod hxy]; exact Nat.mod_le _ _
    have hq : 1 * t1 ≤ x / y * t1 := Nat.mul_le_mul_right t1 (Nat.div_pos hxy hy0)
    -- `y` has two words, so `x ≥ 2` and `2·t1 ≤ t1·x ≤ lhs`
    have hy2 := Nat.lt_of_lt_of_le (Nat.one_lt_two_pow (Nat.mul_ne_zero (by omega) (by omega : wordLen W y - 1 ≠ 0)))
      (two_pow_le_of_wordLen hW (by omega : y ≠ 0))
    have ht2 : t1 * 2 ≤ t1 * x := Nat.mul_le_mul_left t1 (by omega)
    refine ⟨_, rfl, ⟨⟨?_, ?_, ?_⟩, (euclid_comb x y t0 t1).trans hcomb, Nat.le_of_lt (Nat.mod_lt _ hy0), by omega,
      .inr ⟨ht1, by omega⟩, fun _ => by omega⟩, by simp only []; omega⟩
    · rw [← hg, gcd_mod_right]
    · rw [extSigma_not]
      exact ⟨v, by linear_combination hv⟩
    · rw [extSigma_not]
      have hxm := mod_cast_eq x y
      generalize x / y = q at hxm ⊢
      refine ⟨u - (q : Int) * v, ?_⟩
      rw [hxm]; push_cast
      linear_combination hu - (q : Int) * hv
  · -- a committed step leaves both values positive
    rename_i hb
    obtain ⟨hxpos, hypos, hsum, _⟩ := hcom hb
    rw [if_neg (by omega)]
    have e1 := Int.toNat_of_nonneg (le_of_lt hxpos)
    have e2 := Int.toNat_of_nonneg (le_of_lt hypos)
    have hnat := lehmerStep_gcd_toNat hdet (le_of_lt hxpos) (le_of_lt hypos)
    have hc := (lehmerExt_comb hdet e1 e2 t0 t1).trans hcomb
    have dx : (lhs : Int) ∣ (((a : Int) * x - (b : Int) * y).toNat : Int)
        + extSigma sw * ((a * t0 + b * t1 : Nat) : Int) * rhs := by
      refine ⟨a * u - b * v, ?_⟩
      rw [e1]; push_cast
      linear_combination (a : Int) * hu - (b : Int) * hv
    have dy : (lhs : Int) ∣ (((d : Int) * y - (c : Int) * x).toNat : Int)
        - extSigma sw * ((c * t0 + d * t1 : Nat) : Int) * rhs := by
      refine ⟨d * v - c * u, ?_⟩
      rw [e2]; push_cast
      linear_combination (d : Int) * hv - (c : Int) * hu
    -- `d = 0` would make the determinant `−b·c ≤ 0`
    have hd1 : 1 ≤ d := Nat.pos_of_ne_zero fun h0 => by
      subst h0
      have : (0 : Int) ≤ (b : Int) * c := by positivity
      simp at hdet
      omega
    have h1 : 1 * 1 ≤ b * t1 := Nat.mul_le_mul (Nat.pos_of_ne_zero hb) ht1
    have h2 : 1 * 1 ≤ d * t1 := Nat.mul_le_mul hd1 ht1
    have hc' := (Nat.add_comm _ _).trans hc
    split
    · rename_i hle
      refine ⟨_, rfl, ⟨⟨by rw [Nat.gcd_comm, hnat, hg], ?_, ?_⟩, hc', hle, by omega,
        .inr ⟨by omega, coeff_lt_of_comb hc' (by omega) (by omega) (by omega)⟩, fun h0 => by omega⟩, by simp only []; omega⟩
      · rw [extSigma_not]
        obtain ⟨w, hw⟩ := dy
        exact ⟨w, by linear_combination hw⟩
      · rw [extSigma_not]
        obtain ⟨w, hw⟩ := dx
        exact ⟨w, by linear_combination hw⟩
    · exact ⟨_, rfl, ⟨⟨by rw [hnat, hg], dx, dy⟩, hc, by omega, by omega,
        .inr ⟨by omega, coeff_lt_of_comb hc (by omega) (by omega) (by omega)⟩, fun h0 => by omega⟩, by simp only []; omega⟩

theorem lehmerExtIter_inv {W : Nat} (hW : 0 < W) {lhs rhs k : Nat} {s s' : ExtState}
    (h : lehmerExtIter W k s = some s') (hinv : HeadInv lhs rhs s) : HeadInv lhs rhs s' := by
  refine lehmerExtIter_induct (fun s s1 hy hst hP => ?_) k s s' h hinv
  obtain ⟨s2, hs2, hP2, _⟩ := lehmerExtStep_spec hW hy hP
  rw [hst] at hs2
  cases hs2
  exact hP2

/-- the loop returns, at a state with `y` of at most one word that meets the invariant -/
theorem lehmerExtLoop_correct (W : Nat) (hW : 0 < W) (lhs rhs : Nat) :
    ∀ (fuel : Nat) (s : ExtState), s.1 + s.2.1 < fuel → HeadInv lhs rhs s →
      ∃ res, lehmerExtLoop W fuel s.1 s.2.1 s.2.2.1 s.2.2.2.1 s.2.2.2.2 = .ok res ∧
        wordLen W res.2.1 ≤ 1 ∧ HeadInv lhs rhs res := by
  intro fuel
  induction fuel with
  | zero => intro s h; omega
  | succ n ih =>
    intro s hfuel hinv
    obtain ⟨x, y, t0, t1, sw⟩ := s
    rw [lehmerExtLoop_succ]
    split
    · rename_i hlen
      obtain ⟨s', hs', hinv', hlt⟩ := lehmerExtStep_spec hW hlen hinv
      rw [hs']
      exact ih s' (Nat.lt_of_lt_of_le hlt (Nat.le_of_lt_succ hfuel)) hinv'
    · rename_i hlen
      exact ⟨_, rfl, Nat.le_of_not_lt hlen, hinv⟩

/-- **`gcd::gcd_ext_in_place` is correct**: for `0 < rhs < lhs` the mirrored loop (with the final
    single-word `gcd_ext`) returns, and the result satisfies the contract the post-processing uses -/
theorem lehmerExt_correct (W : Nat) (hW : 0 < W) (lhs rhs : Nat) (h0 : 0 < rhs) (hlt : rhs < lhs) :
    ∃ res, lehmerExt W lhs rhs = .ok res ∧ LehmerExtContract lhs rhs res := by
  obtain ⟨⟨x, y, t0, t1, sw⟩, hloop, hlen, ⟨hg, ⟨u, hu⟩, ⟨v, hv⟩⟩, _, hyx, _⟩ :=
    lehmerExtLoop_correct W hW lhs rhs (lhs + rhs + 1) (lhs, rhs, 0, 1, false) (by simp) (headInv_init (Nat.le_of_lt hlt))
  have hsign : ∀ (s : Bool) (N : Int), (if s = true then -N else N) = extSigma s * N := fun s N => by
    cases s <;> simp [extSigma]
  unfold lehmerExt
  simp only [] at hloop hlen
  rw [hloop]
  simp only []
  split
  · rename_i hy; subst hy
    refine ⟨_, rfl, ?_⟩
    apply contract_of_dvd (by rw [← hg, Nat.gcd_zero_right]) h0 hlt
    rw [hsign, extSigma_not]
    exact ⟨u, by linear_combination hu⟩
  · rename_i hy
    obtain ⟨pr, hpr, hx1, hx2, hx3⟩ := (xgcdPrim_spec (x % y) y).2 (by omega)
    rw [hpr]
    obtain ⟨g, cx, cy⟩ := pr
    simp only [] at hx1 hx2 hx3 ⊢
    refine ⟨_, rfl, ?_⟩
    have hgg : g = Nat.gcd lhs rhs := by
      rw [hx1, ← hg, Nat.gcd_comm, gcd_mod_right]
    apply contract_of_dvd hgg h0 hlt
    have hxm := mod_cast_eq x y
    rw [hxm] at hx2
    generalize x / y = q at hx2 ⊢
    -- g = (x − q·y)·cx + y·cy with x = lhs·u − σ·t0·rhs, y = lhs·v + σ·t1·rhs; the flag says which of `cx`, `cy` is
    -- the negative one
    rw [hsign]
    by_cases hf : cx < 0 ∨ (cx = 0 ∧ cy > 0)
    · have hcx : |cx| = -cx := abs_of_nonpos (by omega)
      have hcy : |cy| = cy := abs_of_nonneg (by omega)
      have hflag : (decide (cx < 0) || (decide (cx = 0) && decide (cy > 0))) = true := by
        rcases hf with h1 | ⟨h1, h2⟩
        · simp [h1]
        · simp [h1, h2]
      rw [hflag, Bool.bne_true, Bool.not_not]
      push_cast; rw [hcx, hcy, hx2]
      exact ⟨cx * u - q * cx * v + cy * v, by linear_combination cx * hu - (q * cx) * hv + cy * hv⟩
    · have hcx : |cx| = cx := abs_of_nonneg (by omega)
      have hcy : |cy| = -cy := abs_of_nonpos (by omega)
      have hflag : (decide (cx < 0) || (decide (cx = 0) && decide (cy > 0))) = false := by
        by_cases h1 : cx < 0
        · exact absurd (Or.inl h1) hf
        · by_cases h2 : cx = 0
          · have : ¬ cy > 0 := fun h3 => hf (Or.inr ⟨h2, h3⟩)
            simp [h2, this]
          · simp [h1, h2]
      rw [hflag, Bool.bne_false, extSigma_not]
      push_cast; rw [hcx, hcy, hx2]
      exact ⟨cx * u - q * cx * v + cy * v, by linear_combination cx * hu - (q * cx) * hv + cy * hv⟩

/-- **the coefficient `|b|` returned by `gcd_ext_in_place(lhs, rhs)`**, `rhs ≤ lhs`, at every exit of the main loop:
    `|b|·g ≤ lhs`, so it fits the `lhs_len` words of `lhs`, and `|b| < lhs` unless `lhs ≤ 1`.  The loop ends with
    `t1·x + t0·y = lhs` (`HeadInv`).  On `y = 0` the result is `(x, t0)` with `t0 ≤ t1`.  Otherwise one more division
    gives `T0·y + t1·(x mod y) = lhs` with `T0 = t0 + q·t1 ≥ t1`, and `|b| = |cx|·T0 + |cy|·t1` for the single-word
    `gcd_ext(x mod y, y) = (g, cx, cy)`: this is `(y, 0, 1)` if `y` divides `x`, and has `2·|cx|·g ≤ y`,
    `2·|cy|·g ≤ x mod y` if not (`xgcdPrim_bounded`), so that `2·|b|·g ≤ lhs`. -/
theorem lehmerExt_coeff_bound (W : Nat) (hW : 0 < W) (lhs rhs : Nat) (hle : rhs ≤ lhs) {g bb : Nat} {neg : Bool}
    (h : lehmerExt W lhs rhs = .ok (g, bb, neg)) : bb * g ≤ lhs ∧ bb ≤ lhs ∧ (1 < lhs → bb < lhs) := by
  obtain ⟨⟨x, y, t0, t1, sw⟩, hloop, _, _, hJ, hyx, ht1, hor, hz⟩ :=
    lehmerExtLoop_correct W hW lhs rhs (lhs + rhs + 1) (lhs, rhs, 0, 1, false) (by simp) (headInv_init hle)
  unfold lehmerExt at h
  simp only [] at hloop h
  rw [hloop] at h
  simp only [] at h
  split at h
  · rename_i hy
    simp only [Except.ok.injEq, Prod.mk.injEq] at h
    rw [← h.1, ← h.2.1]
    have := Nat.mul_le_mul_right x (hz hy)
    rw [hy, Nat.mul_zero, Nat.add_zero] at hJ
    exact ⟨by omega, by omega, fun _ => by omega⟩
  · rename_i hy
    have hy0 : 0 < y := Nat.pos_of_ne_zero hy
    have hq : 1 * t1 ≤ x / y * t1 := Nat.mul_le_mul_right t1 (Nat.div_pos hyx hy0)
    have hJ2 := (euclid_comb x y t0 t1).trans hJ
    generalize hT : t0 + x / y * t1 = T0 at h hJ2
    by_cases hxw : x % y = 0
    · have hp : xgcdPrim (x % y) y = .ok (y, 0, 1) := by
        rw [hxw]; unfold xgcdPrim
        rw [if_neg (by omega), if_pos rfl]
      rw [hp] at h
      simp only [Except.ok.injEq, Prod.mk.injEq, Int.natAbs_zero, Nat.zero_mul, Nat.zero_add, Int.natAbs_one,
        Nat.one_mul] at h
      rw [← h.1, ← h.2.1]
      rw [hxw, Nat.mul_zero, Nat.add_zero] at hJ2
      have h1 : t1 * y ≤ T0 * y := Nat.mul_le_mul_right y (by omega)
      have h2 : T0 * 1 ≤ T0 * y := Nat.mul_le_mul_left T0 hy0
      refine ⟨by omega, by omega, fun hl => ?_⟩
      rcases hor with ⟨h0, hx⟩ | ⟨h0, _⟩
      · -- no step was taken: `t1·lhs = lhs`
        subst h0 hx
        have : t1 * x = 1 * x := by omega
        have := Nat.eq_of_mul_eq_mul_right (by omega : 0 < x) this
        omega
      · exact coeff_lt_of_comb ((Nat.add_comm _ _).trans hJ) h0 hy0 (by omega)
    · have hml := Nat.mod_lt x hy0
      obtain ⟨pr, hpr, ⟨hg, _⟩, b1, b2⟩ :=
        xgcdPrim_bounded (k := 2) (Nat.le_refl 2) (Nat.pos_of_ne_zero hxw) hy0 (fun _ => by omega)
      rw [hpr] at h
      obtain ⟨g₀, cx, cy⟩ := pr
      cases h
      simp only [Int.abs_eq_natAbs] at hg b1 b2
      have c1 : 2 * (cx.natAbs * g) ≤ y := by exact_mod_cast b1
      have c2 : 2 * (cy.natAbs * g) ≤ x % y := by exact_mod_cast b2
      have hgpos : 0 < g := by rw [hg]; exact Nat.gcd_pos_of_pos_right _ hy0
      have m1 := Nat.mul_le_mul_right T0 c1
      have m2 := Nat.mul_le_mul_right t1 c2
      have e : 2 * ((cx.natAbs * T0 + cy.natAbs * t1) * g) = 2 * (cx.natAbs * g) * T0 + 2 * (cy.natAbs * g) * t1 := by
        ring
      have e1 : y * T0 = T0 * y := Nat.mul_comm _ _
      have e2 : x % y * t1 = t1 * (x % y) := Nat.mul_comm _ _
      have := Nat.le_mul_of_pos_right (cx.natAbs * T0 + cy.natAbs * t1) hgpos
      exact ⟨by omega, by omega, fun _ => by omega⟩

end Dashu.Model.NT
