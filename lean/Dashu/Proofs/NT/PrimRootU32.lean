import Dashu.Proofs.NT.PrimRoot
import Dashu.Proofs.NT.Sweep
/-
  C12: TOTALITY (no arithmetic overflow, every `-` stays non-negative, every estimate is an
  under-estimate) of the `u32` table/Newton roots of `base/src/ring/root.rs`, on every value of the type,
  reduced to one Boolean check per value `h` of the top 16 bits of the operand.

  * `normalized_cbrt_rem`: the estimate stage reads only the top 16 bits of the operand
    (`estCbrtU32_top`), so the check of `h` (`cbrtU32OkH`) decides all 2^16 operands that share it;
    PrimRootU32Cbrt proves the check for every normalised `h`.
  * `normalized_sqrt_rem`: the low 16 bits enter only through `b = wmul32_hi(self, r³) >> 11` (at most two
    values per `h`) and through `e = self − s²`; `sqrtU32OkB h t b` checks, for the interval `[NA, NB]` of
    operands with top bits `h` and this `b`, that no step overflows and that both possible values of
    `(e >> 16)` lead to an under-estimate (`estSqrtU32_total_of_okB`); the kernel evaluates `sqrtU32OkH`
    for every normalised `h`, walking the table (`allTab sqrtU32OkT`; PrimRootU32A, PrimRootU32B).
-/
namespace Dashu.Model.NT
open Dashu.Model

-- ---------------------------------------------------------------- u32 cbrt: the estimate depends on the top 16 bits only

/-- what is evaluated for every value `h` of the top 16 bits of a normalised `u32`: the estimate stage of
    `normalized_cbrt_rem` answers (no `ck` fails) with an under-estimate -/
def cbrtU32OkH (h : Nat) : Bool :=
  (estCbrtU32 (h * 65536)).any (fun c => decide (c * c * c ≤ h * 65536) && decide (c < 2048))

theorem estCbrtU32_top (h lo : Nat) (hh : h < 65536) (hlo : lo < 65536) :
    estCbrtU32 (h * 65536 + lo) = estCbrtU32 (h * 65536) := by
  unfold estCbrtU32
  simp only [Nat.reducePow]
  by_cases hc0 : h ≥ 16384
  · obtain ⟨hc, hc'⟩ : h * 65536 ≥ 1073741824 ∧ h * 65536 + lo ≥ 1073741824 := ⟨by omega, by omega⟩
    simp only [if_pos hc, if_pos hc', Nat.reducePow, Nat.reduceMul, Nat.reduceAdd]
    have e1 : (h * 65536 + lo) / 524288 = h * 65536 / 524288 := by omega
    have e2 : (h * 65536 + lo) / 65536 = h * 65536 / 65536 := by omega
    rw [e1, e2]
  · obtain ⟨hc, hc'⟩ : ¬ (h * 65536 ≥ 1073741824) ∧ ¬ (h * 65536 + lo ≥ 1073741824) := ⟨by omega, by omega⟩
    simp only [if_neg hc, if_neg hc', Nat.reducePow, Nat.reduceMul, Nat.reduceAdd]
    have e2 : (h * 65536 + lo) / 65536 = h * 65536 / 65536 := by omega
    rw [e2]

theorem cbrt_elim_fits {c : Nat} (hc : c < 2048) : 3 * (c * c + c) + 1 < 2 ^ 32 := by
  have hc2 : c * c ≤ 2047 * 2047 := Nat.mul_le_mul (by omega) (by omega)
  simp only [Nat.reducePow]; omega

/-- `<u32 as NormalizedRootRem>::normalized_cbrt_rem` answers on `n` whenever the check of its top 16 bits passed -/
theorem normCbrtU32_total_of_ok {n : Nat} (hn : n < 2 ^ 32) (hok : cbrtU32OkH (n / 65536) = true) :
    ∃ r, normCbrtU32 n = some r := by
  have hdm := Nat.div_add_mod n 65536
  have hlo := Nat.mod_lt n (show 0 < 65536 by decide)
  have hh : n / 65536 < 65536 := Nat.div_lt_of_lt_mul (by simpa using hn)
  unfold cbrtU32OkH at hok
  rw [Option.any_eq_true] at hok
  obtain ⟨c, hc, hok⟩ := hok
  simp only [Bool.and_eq_true, decide_eq_true_eq] at hok
  have hest : estCbrtU32 n = some c := by
    have e := estCbrtU32_top (n / 65536) (n % 65536) hh hlo
    rw [hc] at e
    have hn' : n / 65536 * 65536 + n % 65536 = n := by omega
    rw [hn'] at e; exact e
  obtain ⟨r, hr⟩ := fixCbrtError_total (bits := 32) (Nat.le_trans hok.1 (Nat.div_mul_le_self n 65536)) hn (cbrt_elim_fits hok.2)
  refine ⟨r, ?_⟩
  show (estCbrtU32 n).bind (fixCbrtError 32 n) = some r
  rw [hest, Option.bind_some]; exact hr

/-- the check evaluated for the top 16 bits `h`, the table entry `t` and a candidate `b` for
    `wmul32_hi(self, r*r*r) >> 11` (which takes at most two values while the low 16 bits vary) -/
def sqrtU32OkB (h t b : Nat) : Bool :=
  let r := 0x100 ||| t
  let r3 := r * r * r
  let NA := max (h * 65536) ((b * 8796093022208 + r3 - 1) / r3)
  let NB := min (h * 65536 + 65535) (((b + 1) * 8796093022208 - 1) / r3)
  let a := 3 * r * 32
  let rr := (a - b) * 2 % 65536
  let sat := min (rr * h / 65536 * 2) 65535
  let s0 := sat - 4
  let E0 := NA - s0 * s0
  let k0 := E0 / 65536
  let l1 := 65536 - E0 % 65536
  let d0 := k0 * rr / 65536
  let d1 := (k0 + 1) * rr / 65536
  decide (r < 512) && decide (0 < r) && decide (b ≤ a) && decide (4 ≤ sat) && decide (s0 * s0 ≤ NA)
    && decide (s0 + d0 < 65536) && decide ((s0 + d0) * (s0 + d0) ≤ NA)
    && (decide (NB < NA + l1) || (decide (s0 + d1 < 65536) && decide ((s0 + d1) * (s0 + d1) ≤ NA + l1)))

/-- the operands `n` with `n·R / K = b` lie between `⌈b·K / R⌉` and `⌊((b+1)·K − 1) / R⌋` -/
theorem quot_interval {n R K : Nat} (hR : 0 < R) (hK : 0 < K) :
    (n * R / K * K + R - 1) / R ≤ n ∧ n ≤ ((n * R / K + 1) * K - 1) / R := by
  have h1 : n * R / K * K ≤ n * R := Nat.div_mul_le_self _ _
  have h2 : n * R < K * (n * R / K + 1) := Nat.lt_mul_div_succ _ hK
  generalize n * R / K = b at *
  constructor
  · rw [Nat.div_le_iff_le_mul_add_pred hR, Nat.mul_comm R n]; omega
  · rw [Nat.le_div_iff_mul_le hR, Nat.mul_comm (b + 1) K]; omega

/-- while the operand moves from `NA` up by less than `2^16`, `(n − S) >> 16` keeps its value at `NA` or, from
    `NA + (2^16 − (NA − S) % 2^16)` on, exceeds it by one -/
theorem shr16_step {S NA n : Nat} (h1 : S ≤ NA) (h2 : NA ≤ n) (h3 : n < NA + 65536) :
    (n - S) / 65536 = (NA - S) / 65536 ∨
      ((n - S) / 65536 = (NA - S) / 65536 + 1 ∧ NA + (65536 - (NA - S) % 65536) ≤ n) := by
  omega

theorem estSqrtU32_total_of_okB {n h t : Nat} (hn1 : h * 65536 ≤ n) (hn2 : n < h * 65536 + 65536) (hh : h < 65536)
    (htab : tabAt RSQRT_TAB (h / 512) 32 = some t)
    (hok : sqrtU32OkB h t (n * ((0x100 ||| t) * (0x100 ||| t) * (0x100 ||| t)) / 8796093022208) = true) :
    ∃ s, estSqrtU32 n = some s ∧ s * s ≤ n ∧ s < 65536 := by
  unfold sqrtU32OkB at hok
  simp only [Bool.and_eq_true, Bool.or_eq_true, decide_eq_true_eq] at hok
  obtain ⟨⟨⟨⟨⟨⟨⟨hr, hr0⟩, hba⟩, hsat⟩, hs0⟩, hd0⟩, hd0sq⟩, hk1⟩ := hok
  have e16 : n / 65536 % 65536 = h := by omega
  unfold estSqrtU32
  simp only [Nat.reducePow, Nat.reduceSub, e16, htab, Option.bind_eq_bind, obind_some, wmulHi]
  generalize 256 ||| t = r at *
  -- the reciprocal stage: `3r`, `r²`, `r³` fit, and `b = n·r³ >> 43` confines `n` to `[xA, yB]`
  have hr2 : r * r ≤ 511 * 511 := Nat.mul_le_mul (by omega) (by omega)
  have hr3 : r * r * r ≤ 511 * 511 * 511 := Nat.mul_le_mul hr2 (by omega)
  have hr3p : 0 < r * r * r := Nat.mul_pos (Nat.mul_pos hr0 hr0) hr0
  rw [ck_eq (m := 3 * r) (by omega) (by omega), obind_some,
    ck_eq (m := r * r) (by push_cast; ring) (by omega), obind_some,
    ck_eq (m := r * r * r) (by push_cast; ring) (by omega), obind_some,
    Nat.div_div_eq_div_mul, show 4294967296 * 2048 = 8796093022208 from rfl]
  obtain ⟨hxA, hyB⟩ := quot_interval (n := n) hr3p (show 0 < 8796093022208 by decide)
  clear hr2 hr3 hr3p e16
  generalize n * (r * r * r) / 8796093022208 = b at *
  generalize r * r * r = R3 at *
  generalize (b * 8796093022208 + R3 - 1) / R3 = xA at *
  generalize ((b + 1) * 8796093022208 - 1) / R3 = yB at *
  have hNA : max (h * 65536) xA ≤ n := Nat.max_le.2 ⟨hn1, hxA⟩
  have hNB : n ≤ min (h * 65536 + 65535) yB := Nat.le_min.2 ⟨by omega, hyB⟩
  have hNAh : n < max (h * 65536) xA + 65536 := Nat.lt_of_lt_of_le hn2 (Nat.add_le_add_right (Nat.le_max_left _ _) _)
  generalize max (h * 65536) xA = NA at *
  generalize min (h * 65536 + 65535) yB = NB at *
  clear hxA hyB
  -- the first estimate `s0` and its error `e = n − s0²`
  rw [ck_eq (m := 3 * r * 32 - b) (by omega) (by omega), obind_some]
  generalize (3 * r * 32 - b) * 2 % 65536 = rr at *
  generalize min (rr * h / 65536 * 2) 65535 = sat at *
  rw [ck_eq (m := sat - 4) (by omega) (by omega), obind_some]
  clear hba hr hr0
  generalize sat - 4 = s0 at *
  have hS : s0 * s0 ≤ n := Nat.le_trans hs0 hNA
  rw [ck_eq (m := s0 * s0) (by push_cast; ring) (by omega), obind_some]
  have hk := shr16_step hs0 hNA hNAh
  generalize s0 * s0 = S at *
  rw [ck_eq (m := n - S) (by omega) (by omega), obind_some,
    Nat.mod_eq_of_lt (show (n - S) / 65536 < 65536 by omega)]
  -- the second Newton step adds `d0` or `d1`, according to `(e >> 16)`
  rcases hk with hk | ⟨hk, hl1⟩
  · rw [hk]
    exact ⟨_, ck_eq (by push_cast; rfl) (by omega), Nat.le_trans hd0sq hNA, hd0⟩
  · rw [hk]
    rcases hk1 with hk1 | ⟨hd1, hd1sq⟩
    · omega
    · exact ⟨_, ck_eq (by push_cast; rfl) (by omega), Nat.le_trans hd1sq hl1, hd1⟩

/-- the check for one value `h` of the top 16 bits: every candidate `b` between its value at the lowest and at the
    highest operand of the block passes `sqrtU32OkB` -/
def sqrtU32OkH (h : Nat) : Bool :=
  (tabAt RSQRT_TAB (h / 512) 32).any (fun t =>
    allFrom (sqrtU32OkB h t)
      ((h * 65536 + 65535) * ((0x100 ||| t) * (0x100 ||| t) * (0x100 ||| t)) / 8796093022208
        - h * 65536 * ((0x100 ||| t) * (0x100 ||| t) * (0x100 ||| t)) / 8796093022208 + 1)
      (h * 65536 * ((0x100 ||| t) * (0x100 ||| t) * (0x100 ||| t)) / 8796093022208))

/-- `sqrtU32OkH` for a top half `h` whose table entry is `t` -/
def sqrtU32OkT (t h : Nat) : Bool :=
  allFrom (sqrtU32OkB h t)
    ((h * 65536 + 65535) * ((0x100 ||| t) * (0x100 ||| t) * (0x100 ||| t)) / 8796093022208
      - h * 65536 * ((0x100 ||| t) * (0x100 ||| t) * (0x100 ||| t)) / 8796093022208 + 1)
    (h * 65536 * ((0x100 ||| t) * (0x100 ||| t) * (0x100 ||| t)) / 8796093022208)

theorem sqrtU32OkH_eq (h : Nat) : sqrtU32OkH h = (tabAt RSQRT_TAB (h / 512) 32).any fun t => sqrtU32OkT t h := rfl

theorem sqrt_elim_fits {s : Nat} (hs : s < 65536) : 2 * s + 1 < 2 ^ 32 := by
  simp only [Nat.reducePow]; omega

/-- `<u32 as NormalizedRootRem>::normalized_sqrt_rem` answers on `n` whenever the check of its top 16 bits passed -/
theorem normSqrtU32_total_of_ok {n : Nat} (hn : n < 2 ^ 32) (hok : sqrtU32OkH (n / 65536) = true) :
    ∃ r, normSqrtU32 n = some r := by
  have hh : n / 65536 < 65536 := Nat.div_lt_of_lt_mul (by simpa using hn)
  have hn1 : n / 65536 * 65536 ≤ n := Nat.div_mul_le_self n 65536
  have hn2 : n < n / 65536 * 65536 + 65536 := by
    have := Nat.lt_mul_div_succ n (show 0 < 65536 by decide)
    omega
  unfold sqrtU32OkH at hok
  rw [Option.any_eq_true] at hok
  obtain ⟨t, htab, hall⟩ := hok
  generalize n / 65536 = h at *
  generalize hR : (0x100 ||| t) * (0x100 ||| t) * (0x100 ||| t) = R3 at *
  have hlo : h * 65536 * R3 / 8796093022208 ≤ n * R3 / 8796093022208 :=
    Nat.div_le_div_right (Nat.mul_le_mul_right _ hn1)
  have hhi : n * R3 / 8796093022208 ≤ (h * 65536 + 65535) * R3 / 8796093022208 :=
    Nat.div_le_div_right (Nat.mul_le_mul_right _ (by omega))
  have hb := allFrom_spec _ _ _ hall (n * R3 / 8796093022208) hlo (by omega)
  rw [← hR] at hb
  obtain ⟨s, hs, hsq, hslt⟩ := estSqrtU32_total_of_okB hn1 hn2 hh htab hb
  obtain ⟨r, hr⟩ := fixSqrtError_total (bits := 32) hsq hn (sqrt_elim_fits hslt)
  refine ⟨r, ?_⟩
  show (estSqrtU32 n).bind (fixSqrtError 32 n) = some r
  rw [hs, obind_some]; exact hr

-- ---------------------------------------------------------------- what the per-top-half checks establish

/-- the `u32` square root never overflows, given the per-`h` checks on all normalised top halves -/
theorem sqrtRemU32_total_of (hall : ∀ h, 16384 ≤ h → h < 65536 → sqrtU32OkH h = true) {x : Nat} (hx : x < 2 ^ 32) :
    ∃ r, sqrtRemPrimBits 32 x = some r :=
  (sqrtRemNorm_spec (bits := 32) (fun y _ _ => normSqrtU32_sound y) hx).2 fun y hy1 hy2 => by
    refine normSqrtU32_total_of_ok hy2 (hall _ ?_ (Nat.div_lt_of_lt_mul (by simpa using hy2)))
    rw [Nat.le_div_iff_mul_le (by decide)]
    simpa using hy1

/-- the `u32` cube root never overflows, given the per-`h` checks on all normalised top halves -/
theorem cbrtRemU32_total_of (hall : ∀ h, 8192 ≤ h → h < 65536 → cbrtU32OkH h = true) {x : Nat} (hx : x < 2 ^ 32) :
    ∃ r, cbrtRemPrimBits 32 x = some r :=
  (cbrtRemNorm_spec (bits := 32) (fun y _ _ => normCbrtU32_sound y) hx).2 fun y hy1 hy2 => by
    refine normCbrtU32_total_of_ok hy2 (hall _ ?_ (Nat.div_lt_of_lt_mul (by simpa using hy2)))
    rw [Nat.le_div_iff_mul_le (by decide)]
    simpa using hy1

end Dashu.Model.NT
