import Dashu.Proofs.NT.ModInvLargeB
import Dashu.Proofs.Int.Repr
import Dashu.Proofs.Int.Bits
import Dashu.Proofs.Int.Cmp
/-
  C13 <-> C01 link for `integer/src/modular/reducer.rs`: `impl Reducer<UBig> for ConstDivisor` —
  `check`, `reduce_once`, `reduce_negate`, `add`, `dbl`, `sub`, `neg` written on C01's MIRRORED `UBig` representation
  (`TRepr`: `UBig + UBig` = `TRepr.add`, `UBig - UBig` = `TRepr.sub` with the `NegativeUBig` panic as a value,
  `UBig << 1` = `TRepr.shl`, `Ord` = `TRepr.cmp`; the multi-word arms call `sub_large`, `sub_large_dword`,
  `sub_large_ref_val`, `cmp_in_place` directly, as the code does).  Proved here: `check`, `reduce_once` and
  `reduce_negate` on canonical operands are `rCheck`, `reduceOnce` and `M − target` of `Model/NT/Modular.lean`, without a
  panic (`rCheckU_eq`, `reduceOnceU_spec`, `reduceNegateU_spec`).  From these `Props/C13Reducer` (`reducer_ubig_link`)
  has that on checked (`Valid`) operands no subtraction of the four operations panics and the results are canonical
  with the values `rAdd / rSub / rNeg` (what the driver executes and `Props.C13.reducer_ops` is about).  These
  definitions are NOT executed by the driver; they are tied to the executed ones by that theorem only.
-/
namespace Dashu.Model.NT
open Dashu.Model

/-- `Reducer::check(&self, target: &UBig)` on the representation: `(Single, RefSmall)` = `shrink_dword` then the word check,
    `(Single | Double, RefLarge)` = false, `(Large, RefSmall)` = true, `(Large, RefLarge)` =
    `cmp_in_place(words, &d.normalized_divisor).is_lt() && words[0] & ones_word(d.shift) == 0` -/
def rCheckU (W : Nat) (r : Ring) (t : TRepr) : Bool :=
  match r.kind, t with
  | .single, .small dw => decide (dw < 2 ^ W) && rCheck r dw
  | .single, .large _ => false
  | .double, .small dw => rCheck r dw
  | .double, .large _ => false
  | .large, .small _ => true
  | .large, .large ws => cmpInPlace ws (r.ndWords W) == .lt && ws.headD 0 % 2 ^ r.k == 0

/-- `reduce_once(&self, target: UBig)` -/
def reduceOnceU (W : Nat) (r : Ring) (t : TRepr) : Except PanicKind TRepr :=
  if rCheckU W r t then .ok t
  else match r.kind with
    | .large =>
      match t with
      | .small s => .ok (.small s)                          -- UBig::from_dword(s): "no need to reduce"
      | .large s => subLarge W s (r.ndWords W)              -- UBig(sub_large(s, &d.normalized_divisor))
    | _ => t.sub W (ofNat W r.M)                            -- target - d.normalized_divisor()

/-- `reduce_negate(&self, target: UBig)` -/
def reduceNegateU (W : Nat) (r : Ring) (t : TRepr) : Except PanicKind TRepr :=
  match r.kind with
  | .large =>
    match t with
    | .small s => .ok (subLargeDword W (r.ndWords W) s)     -- sub_large_dword(d.normalized_divisor.as_ref().into(), s)
    | .large s => subLargeRefVal W (r.ndWords W) s          -- sub_large_ref_val(&d.normalized_divisor, s)
  | _ => (ofNat W r.M).sub W t                              -- d.normalized_divisor() - target

/-- `Reducer::add`: `self.reduce_once(lhs + rhs)` (`&UBig + &UBig`) -/
def rAddU (W : Nat) (r : Ring) (a b : TRepr) : Except PanicKind TRepr := reduceOnceU W r (a.add W b 0)

/-- `Reducer::dbl`: `self.reduce_once(target << 1)` -/
def rDblU (W : Nat) (r : Ring) (a : TRepr) : Except PanicKind TRepr := reduceOnceU W r (a.shl W 1)

/-- `Reducer::sub`: `if lhs >= rhs { lhs - rhs } else { self.reduce_negate(rhs - lhs) }` -/
def rSubU (W : Nat) (r : Ring) (a b : TRepr) : Except PanicKind TRepr :=
  if a.cmp b != .lt then a.sub W b
  else match b.sub W a with
    | .error e => .error e
    | .ok d => reduceNegateU W r d

/-- `Reducer::neg`: `if target.is_zero() { target } else { self.reduce_negate(target) }` -/
def rNegU (W : Nat) (r : Ring) (a : TRepr) : Except PanicKind TRepr :=
  if a.isZero then .ok a else reduceNegateU W r a

theorem ofNat_M_large {W : Nat} {r : Ring} (hwf : r.WF W) (hk : r.kind = .large) :
    ofNat W r.M = .large (r.ndWords W) := by
  have h1 := hwf.m_large hk
  have h2 : r.m ≤ r.M := Nat.le_mul_of_pos_right _ (Nat.two_pow_pos _)
  unfold ofNat Ring.ndWords
  rw [if_neg (by omega)]

theorem two_mul_comm_pow (W : Nat) : 2 ^ (W * 2) = 2 ^ (2 * W) := by rw [Nat.mul_comm]

/-- `check` on the representation decides `target < M ∧ low shift bits zero` on canonical values whose low bits are zero -/
theorem rCheckU_eq {W : Nat} {r : Ring} (hwf : r.WF W) (hkW : r.k ≤ W) {t : TRepr} (ht : t.Canon W)
    (h0 : t.value W % 2 ^ r.k = 0) : rCheckU W r t = rCheck r (t.value W) := by
  have hW : 1 ≤ W := hwf.hW
  have hMlt := hwf.Mlt
  obtain ⟨k1, k2, k3⟩ := hwf.kind_n
  unfold rCheckU rCheck
  cases hk : r.kind with
  | single =>
    have hn := k1 hk
    rw [hn, Nat.mul_one] at hMlt
    cases t with
    | small dw =>
      simp only [TRepr.value] at h0 ⊢
      by_cases h : dw < r.M
      · have : dw < 2 ^ W := by omega
        simp [h, this, h0]
      · simp [h]
    | large ws =>
      have hge := ht.large_ge
      have : 2 ^ W ≤ 2 ^ (2 * W) := Nat.pow_le_pow_right (by omega) (by omega)
      simp only [TRepr.value]
      have : ¬ val W ws < r.M := by omega
      simp [this]
  | double =>
    have hn := k2 hk
    rw [hn, two_mul_comm_pow] at hMlt
    cases t with
    | small dw => rfl
    | large ws =>
      have hge := ht.large_ge
      simp only [TRepr.value]
      have : ¬ val W ws < r.M := by omega
      simp [this]
  | large =>
    have hm := hwf.m_large hk
    have h2 : r.m ≤ r.M := Nat.le_mul_of_pos_right _ (Nat.two_pow_pos _)
    cases t with
    | small dw =>
      have hd : dw < 2 ^ (2 * W) := ht
      simp only [TRepr.value] at h0 ⊢
      have : dw < r.M := by omega
      simp [this, h0]
    | large ws =>
      have hc : (TRepr.large (r.ndWords W)).Canon W := by
        rw [← ofNat_M_large hwf hk]; exact ofNat_canon W hW r.M
      have hv : val W (r.ndWords W) = r.M := (ndWords_spec hwf).2.2
      have e := TRepr.cmp_spec W (.large ws) (.large (r.ndWords W)) ht hc
      simp only [TRepr.cmp, TRepr.value, hv] at e
      simp only [TRepr.value] at h0 ⊢
      rw [e, head_mod hkW ws]
      by_cases h : val W ws < r.M
      · simp [h, h0, compare_lt_iff_lt.mpr h]
      · have : compare (val W ws) r.M ≠ .lt := fun c => h (compare_lt_iff_lt.mp c)
        simp [h, this, h0]

/-- whenever `check` fails, `reduce_once` is C01's `UBig - UBig` against the normalised divisor -/
theorem reduceOnceU_spec {W : Nat} {r : Ring} (hwf : r.WF W) (hkW : r.k ≤ W) {t : TRepr} (ht : t.Canon W)
    (h0 : t.value W % 2 ^ r.k = 0) (hlt : t.value W < 2 * r.M) :
    ∃ c, reduceOnceU W r t = .ok c ∧ c.Canon W ∧ c.value W = reduceOnce r (t.value W) := by
  have hW : 1 ≤ W := hwf.hW
  unfold reduceOnceU reduceOnce
  rw [rCheckU_eq hwf hkW ht h0]
  by_cases hc : rCheck r (t.value W) = true
  · rw [if_pos hc, if_pos hc]; exact ⟨t, rfl, ht, rfl⟩
  · rw [if_neg hc, if_neg hc]
    have hge : r.M ≤ t.value W := by
      unfold rCheck at hc
      by_contra h
      exact hc (by simp [Nat.lt_of_not_le h, h0])
    have hsub : ∃ c, t.sub W (ofNat W r.M) false = .ok c ∧ c.Canon W ∧ c.value W = t.value W - r.M := by
      obtain ⟨c, e1, e2, e3⟩ := TRepr.sub_ok W t (ofNat W r.M) false ht (ofNat_canon W hW r.M)
        (by rw [ofNat_value W hW]; exact hge)
      rw [ofNat_value W hW] at e2
      exact ⟨c, e1, e3, by omega⟩
    cases hk : r.kind with
    | single => exact hsub
    | double => exact hsub
    | large =>
      cases t with
      | small s =>
        exfalso
        have hm := hwf.m_large hk
        have h2 : r.m ≤ r.M := Nat.le_mul_of_pos_right _ (Nat.two_pow_pos _)
        have hd : s < 2 ^ (2 * W) := ht
        simp only [TRepr.value] at hge
        omega
      | large s =>
        rw [ofNat_M_large hwf hk] at hsub
        exact hsub

/-- `reduce_negate` is C01's `UBig - UBig` from the normalised divisor; it does not panic on `target ≤ M` -/
theorem reduceNegateU_spec {W : Nat} {r : Ring} (hwf : r.WF W) {t : TRepr} (ht : t.Canon W) (hle : t.value W ≤ r.M) :
    ∃ c, reduceNegateU W r t = .ok c ∧ c.Canon W ∧ c.value W = r.M - t.value W := by
  have hW : 1 ≤ W := hwf.hW
  have hsub : ∀ rv, ∃ c, (ofNat W r.M).sub W t rv = .ok c ∧ c.Canon W ∧ c.value W = r.M - t.value W := by
    intro rv
    obtain ⟨c, e1, e2, e3⟩ := TRepr.sub_ok W (ofNat W r.M) t rv (ofNat_canon W hW r.M) ht
      (by rw [ofNat_value W hW]; exact hle)
    rw [ofNat_value W hW] at e2
    exact ⟨c, e1, e3, by omega⟩
  unfold reduceNegateU
  cases hk : r.kind with
  | single => exact hsub false
  | double => exact hsub false
  | large =>
    have h := hsub true
    rw [ofNat_M_large hwf hk] at h
    cases t with
    | small s => exact h
    | large s => exact h

end Dashu.Model.NT
