import Dashu.Proofs.NT.PrimRoot
import Dashu.Proofs.NT.Sweep
/-
  C12: the `u16` primitive roots answer on every value of the type.

  Both estimate stages have the form `R·n / D − 1` with `R` read from a table entry that is fixed on a block
  of operands (512 or 4096 consecutive values).  On a block the quotient takes a handful of values, and for each
  of them the smallest operand that produces it is known, so one small test per block (`linEstOk`) shows
  that the estimate handed to `fix_*_error!` is an under-estimate; the kernel evaluates the test for the
  96 + 56 table blocks.
-/
namespace Dashu.Model.NT
open Dashu.Model

/-- the estimate `R·n / D − 1` is a `p`-th-root under-estimate for every `lo ≤ n ≤ hi`: for each value `q` of the
    quotient on the block, `q·D ≤ R·n`, so `(q − 1)^p · R ≤ q·D` gives `(q − 1)^p ≤ n` (the alternative
    `(q − 1)^p ≤ lo` serves the first `q`, whose smallest operand may lie below the block) -/
def linEstOk (p R D lo hi : Nat) : Bool :=
  decide (1 ≤ R * lo / D) &&
  allFrom (fun q => decide ((q - 1) ^ p ≤ lo) || decide ((q - 1) ^ p * R ≤ q * D))
    (R * hi / D - R * lo / D + 1) (R * lo / D)

theorem linEst_under {p R D lo hi n : Nat} (hok : linEstOk p R D lo hi = true) (h1 : lo ≤ n) (h2 : n ≤ hi) :
    1 ≤ R * n / D ∧ R * n / D ≤ R * hi / D ∧ (R * n / D - 1) ^ p ≤ n := by
  unfold linEstOk at hok
  simp only [Bool.and_eq_true, decide_eq_true_eq] at hok
  have hR : 0 < R := by
    rcases Nat.eq_zero_or_pos R with h | h
    · rw [h] at hok; simp at hok
    · exact h
  have hlo : R * lo / D ≤ R * n / D := Nat.div_le_div_right (Nat.mul_le_mul_left R h1)
  have hhi : R * n / D ≤ R * hi / D := Nat.div_le_div_right (Nat.mul_le_mul_left R h2)
  have hq := allFrom_spec _ _ _ hok.2 (R * n / D) hlo (by omega)
  simp only [Bool.or_eq_true, decide_eq_true_eq] at hq
  refine ⟨by omega, hhi, ?_⟩
  rcases hq with hq | hq
  · omega
  · have hqD : R * n / D * D ≤ R * n := Nat.div_mul_le_self _ _
    exact Nat.le_of_mul_le_mul_right (by rw [Nat.mul_comm n R]; omega) hR

-- ---------------------------------------------------------------- square root

/-- the test for the block of operands `n` with `n / 512 = k` -/
def sqrtU16OkK (k : Nat) : Bool :=
  (tabAt RSQRT_TAB k 32).any fun t =>
    decide ((0x100 ||| t) * (512 * k + 511) / 65536 ≤ 256) &&
    linEstOk 2 (0x100 ||| t) 65536 (512 * k) (512 * k + 511)

theorem sqrt_u16_blocks : allFrom sqrtU16OkK 96 32 = true := by decide +kernel

theorem estSqrtU16_under {n : Nat} (h1 : 2 ^ 14 ≤ n) (h2 : n < 2 ^ 16) :
    ∃ s, estSqrtU16 n = some s ∧ s * s ≤ n ∧ s < 256 := by
  have hok := allFrom_spec _ _ _ sqrt_u16_blocks (n / 512) (by omega) (by omega)
  unfold sqrtU16OkK at hok
  rw [Option.any_eq_true] at hok
  obtain ⟨t, htab, hok⟩ := hok
  simp only [Bool.and_eq_true, decide_eq_true_eq] at hok
  obtain ⟨hq1, hqhi, hsq⟩ := linEst_under (n := n) hok.2 (by omega) (by omega)
  unfold estSqrtU16
  simp only [Nat.reducePow, htab, Option.bind_eq_bind, obind_some]
  generalize 256 ||| t = r at *
  have hrn : r * n / 65536 * 65536 ≤ r * n := Nat.div_mul_le_self _ _
  rw [ck_eq (m := r * n) (by push_cast; rfl) (by omega)]
  simp only [obind_some]
  rw [ck_eq (m := r * n / 65536 - 1) (by omega) (by omega)]
  refine ⟨_, rfl, ?_, ?_⟩ <;> rw [Nat.mod_eq_of_lt (by omega)]
  · rw [← Nat.pow_two]; exact hsq
  · omega

theorem normSqrtU16_total {n : Nat} (h1 : 2 ^ 14 ≤ n) (h2 : n < 2 ^ 16) : ∃ r, normSqrtU16 n = some r := by
  obtain ⟨s, hs, hsq, hlt⟩ := estSqrtU16_under h1 h2
  obtain ⟨r, hr⟩ := fixSqrtError_total (bits := 16) hsq h2 (by omega)
  exact ⟨r, by rw [normSqrtU16, hs, obind_some, hr]⟩

theorem sqrtRemU16_total {x : Nat} (hx : x < 2 ^ 16) : ∃ r, sqrtRemPrimBits 16 x = some r :=
  (sqrtRemNorm_spec (bits := 16) (fun y _ _ => normSqrtU16_sound y) hx).2 fun _ h1 h2 => normSqrtU16_total h1 h2

-- ---------------------------------------------------------------- cube root

/-- the test for the block of operands `n` with `n / 2^(9 + 3a) = k`, where `a` is the routine's `adjust` -/
def cbrtU16OkK (a k : Nat) : Bool :=
  (tabAt RCBRT_TAB k 8).any fun t =>
    let r := 0x100 ||| t
    let R := r * r / 2 ^ (2 + 2 * a)
    let lo := k * 2 ^ (9 + 3 * a)
    let hi := lo + (2 ^ (9 + 3 * a) - 1)
    decide (r * r < 2 ^ 32) && decide (R * hi < 2 ^ 32) && decide (R * hi / 2 ^ 24 ≤ 41) && linEstOk 3 R (2 ^ 24) lo hi

theorem cbrt_u16_blocks : allFrom (cbrtU16OkK 0) 48 16 = true ∧ allFrom (cbrtU16OkK 1) 8 8 = true := by
  decide +kernel

theorem estCbrtU16_under {n : Nat} (h1 : 2 ^ 13 ≤ n) (h2 : n < 2 ^ 16) :
    ∃ c, estCbrtU16 n = some c ∧ c * c * c ≤ n ∧ c ≤ 40 := by
  obtain ⟨a, ha, hk⟩ : ∃ a, (if n ≥ 2 ^ 15 then 1 else 0) = a ∧ cbrtU16OkK a (n / 2 ^ (9 + 3 * a)) = true := by
    by_cases h : n ≥ 2 ^ 15
    · exact ⟨1, if_pos h, allFrom_spec _ _ _ cbrt_u16_blocks.2 _ (by omega) (by omega)⟩
    · exact ⟨0, if_neg h, allFrom_spec _ _ _ cbrt_u16_blocks.1 _ (by omega) (by omega)⟩
  unfold cbrtU16OkK at hk
  rw [Option.any_eq_true] at hk
  obtain ⟨t, htab, hok⟩ := hk
  simp only [Bool.and_eq_true, decide_eq_true_eq] at hok
  obtain ⟨⟨⟨hrr, hRhi⟩, hq41⟩, hlin⟩ := hok
  have hp : 0 < 2 ^ (9 + 3 * a) := Nat.two_pow_pos _
  have hdm := Nat.div_add_mod n (2 ^ (9 + 3 * a))
  have hml := Nat.mod_lt n hp
  obtain ⟨hq1, hqhi, hcube⟩ := linEst_under (n := n) hlin (by rw [Nat.mul_comm]; omega) (by rw [Nat.mul_comm]; omega)
  unfold estCbrtU16
  simp only [ha, htab, Option.bind_eq_bind, obind_some]
  generalize 256 ||| t = r at *
  rw [ck_eq (m := r * r) (by push_cast; rfl) hrr]
  simp only [obind_some]
  generalize r * r / 2 ^ (2 + 2 * a) = R at *
  have hRn : R * n ≤ R * (n / 2 ^ (9 + 3 * a) * 2 ^ (9 + 3 * a) + (2 ^ (9 + 3 * a) - 1)) :=
    Nat.mul_le_mul_left R (by rw [Nat.mul_comm]; omega)
  rw [ck_eq (m := R * n) (by push_cast; rfl) (by omega)]
  simp only [obind_some]
  rw [ck_eq (m := R * n / 2 ^ 24 - 1) (by omega) (by omega)]
  have hc : R * n / 2 ^ 24 - 1 ≤ 40 := by omega
  refine ⟨_, rfl, ?_, ?_⟩ <;> rw [Nat.mod_eq_of_lt (by omega)]
  · rw [Nat.mul_assoc, ← Nat.pow_two, ← Nat.pow_succ']; exact hcube
  · exact hc

theorem normCbrtU16_total {n : Nat} (h1 : 2 ^ 13 ≤ n) (h2 : n < 2 ^ 16) : ∃ r, normCbrtU16 n = some r := by
  obtain ⟨c, hc, hcube, hle⟩ := estCbrtU16_under h1 h2
  have hcc : c * c ≤ 40 * 40 := Nat.mul_le_mul hle hle
  obtain ⟨r, hr⟩ := fixCbrtError_total (bits := 16) hcube h2 (by omega)
  exact ⟨r, by rw [normCbrtU16, hc, obind_some, hr]⟩

theorem cbrtRemU16_total {x : Nat} (hx : x < 2 ^ 16) : ∃ r, cbrtRemPrimBits 16 x = some r :=
  (cbrtRemNorm_spec (bits := 16) (fun y _ _ => normCbrtU16_sound y) hx).2 fun _ h1 h2 => normCbrtU16_total h1 h2

end Dashu.Model.NT
