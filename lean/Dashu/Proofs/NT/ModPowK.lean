import Dashu.Model.NT.ModPowK
import Dashu.Proofs.NT.ModLargeK
import Dashu.Proofs.NT.ModPowLarge
/-
  C13: `large::pow` on buffers (`powLK`) = the `%`-level `powL` on valid operands.
-/
namespace Dashu.Model.NT
open Dashu.Model

/-- **`large::pow` on buffers = the `%`-level windowed loop** on a valid base: both are the loop `powLG` over a
    squaring and a product that compute the residues (`powLG_spec`) -/
theorem powLK_eq {W : Nat} {r : Ring} (hwf : r.WF W) (hW4 : 4 ≤ W) (hk : r.kind = .large) (hkW : r.k < W)
    {raw : Nat} (hraw : Valid r raw) (exp : Nat) : powLK W r raw exp = powL W r raw exp := by
  obtain ⟨b, hb, rfl⟩ := hraw
  rw [powL_eq hwf hb]
  refine powLG_spec (fun u hu => ?_) (fun u v hu hv => ?_) hwf hb exp
  · rw [mulNormalizedWordsL_eq hwf hW4 hk hkW true u _ (fun _ => rfl)]
    exact mulNormalized_eq hwf hu hu
  · rw [mulNormalizedWordsL_eq hwf hW4 hk hkW false u _ (fun h => by cases h)]
    exact mulNormalized_eq hwf hu hv

theorem powRawKL_eq {W : Nat} {r : Ring} (hwf : r.WF W) (hW4 : r.kind = .large → 4 ≤ W)
    (hkW : r.k < W) {raw : Nat} (hraw : Valid r raw) (exp : Nat) :
    powRawKL W r raw exp = powRawK W r raw exp := by
  unfold powRawKL powRawK
  cases hk : r.kind with
  | large =>
    simp only []
    split
    · exact powLK_eq hwf (hW4 hk) hk hkW hraw exp
    · rfl
  | single => rfl
  | double => rfl

end Dashu.Model.NT
