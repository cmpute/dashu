import Dashu.Model.NT.Root
import Dashu.Proofs.NT.Basic
import Mathlib.Tactic.Ring
import Mathlib.Tactic.Linarith
import Mathlib.Tactic.Positivity
/-
  C12: integer roots — the bitwise specification `iroot`, the Newton iteration of `nth_root` and the
  (de)normalisation wrapper of `sqrt_rem_large`.
-/
namespace Dashu.Model.NT
open Dashu.Model

/-- `s` is the floor of the `n`-th root of `x` -/
def IsRoot (x n s : Nat) : Prop := s ^ n ≤ x ∧ x < (s + 1) ^ n

theorem IsRoot.unique {x n s t : Nat} (hn : 0 < n) (hs : IsRoot x n s) (ht : IsRoot x n t) : s = t := by
  rcases Nat.lt_trichotomy s t with h | h | h
  · exfalso
    have : (s + 1) ^ n ≤ t ^ n := Nat.pow_le_pow_left (by omega) n
    have := hs.2; have := ht.1; omega
  · exact h
  · exfalso
    have : (t + 1) ^ n ≤ s ^ n := Nat.pow_le_pow_left (by omega) n
    have := hs.1; have := ht.2; omega

/-- a pair with `s² + r = a`, `r ≤ 2s` is the floor square root and its remainder -/
theorem isRoot_of_rem {a s r : Nat} (h : s * s + r = a) (hr : r ≤ 2 * s) : IsRoot a 2 s := by
  refine ⟨by rw [Nat.pow_two]; omega, ?_⟩
  rw [Nat.pow_two]
  have : (s + 1) * (s + 1) = s * s + 2 * s + 1 := by ring
  omega

theorem rem_le_of_isRoot {a s : Nat} (h : IsRoot a 2 s) : a - s * s ≤ 2 * s ∧ s * s ≤ a := by
  obtain ⟨h1, h2⟩ := h
  rw [Nat.pow_two] at h1 h2
  have : (s + 1) * (s + 1) = s * s + 2 * s + 1 := by ring
  omega

-- ---------------------------------------------------------------- the bitwise specification

theorem irootBits_spec (x n : Nat) :
    ∀ (i s : Nat), s ^ n ≤ x → x < (s + 2 ^ i) ^ n → IsRoot x n (irootBits x n i s) := by
  intro i
  induction i with
  | zero => intro s h1 h2; exact ⟨by simpa [irootBits] using h1, by simpa [irootBits] using h2⟩
  | succ k ih =>
    intro s h1 h2
    unfold irootBits
    split
    · rename_i h
      apply ih _ h
      have : s + 2 ^ k + 2 ^ k = s + 2 ^ (k + 1) := by rw [Nat.pow_succ]; omega
      rw [this]; exact h2
    · rename_i h
      exact ih s h1 (by omega)

/-- the executable spec used for frontier kernels and in the driver is the floor root -/
theorem iroot_spec (x n : Nat) (hn : 0 < n) : IsRoot x n (iroot x n) := by
  unfold iroot
  apply irootBits_spec
  · simp [Nat.zero_pow hn]
  · have h1 := lt_two_pow_bitLen x
    have h2 : bitLen x < (bitLen x / n + 1) * n := by
      have := Nat.div_add_mod (bitLen x) n
      have := Nat.mod_lt (bitLen x) hn
      rw [Nat.add_mul, Nat.one_mul, Nat.mul_comm]
      omega
    rw [Nat.zero_add, ← Nat.pow_mul]
    exact Nat.lt_of_lt_of_le h1 (Nat.pow_le_pow_right (by decide) (Nat.le_of_lt h2))

theorem exists_root (x n : Nat) (hn : 0 < n) : ∃ r, IsRoot x n r := ⟨_, iroot_spec x n hn⟩

-- ---------------------------------------------------------------- Newton iteration

/-- integer AM–GM in the form Newton's method needs: `r^(k+1) + k·g^(k+1) ≥ (k+1)·r·g^k` -/
theorem amgm_int (r g : Int) (hr : 0 ≤ r) (hg : 0 ≤ g) :
    ∀ k : Nat, ((k : Int) + 1) * r * g ^ k ≤ r ^ (k + 1) + k * g ^ (k + 1) := by
  intro k
  induction k with
  | zero => simp
  | succ k ih =>
    have key : r ^ (k + 1 + 1) + ((k + 1 : Nat) : Int) * g ^ (k + 1 + 1) - (((k + 1 : Nat) : Int) + 1) * r * g ^ (k + 1)
        = r * (r ^ (k + 1) + k * g ^ (k + 1) - ((k : Int) + 1) * r * g ^ k) + ((k : Int) + 1) * g ^ k * (r - g) ^ 2 := by
      push_cast; ring
    have h1 : 0 ≤ r * (r ^ (k + 1) + k * g ^ (k + 1) - ((k : Int) + 1) * r * g ^ k) :=
      mul_nonneg hr (by linarith)
    have h2 : 0 ≤ ((k : Int) + 1) * g ^ k * (r - g) ^ 2 := by positivity
    linarith

theorem amgm_nat (r g k : Nat) : (k + 1) * r * g ^ k ≤ r ^ (k + 1) + k * g ^ (k + 1) := by
  have := amgm_int r g (Int.natCast_nonneg _) (Int.natCast_nonneg _) k
  exact_mod_cast this

/-- one Newton step from any positive guess lands at or above the floor root -/
theorem newtonNext_ge {x k r g : Nat} (hr : r ^ (k + 1) ≤ x) (hg : 0 < g) :
    r ≤ newtonNext x (k + 1) g := by
  unfold newtonNext
  rw [Nat.add_sub_cancel, Nat.le_div_iff_mul_le (by omega)]
  -- (k+1)·r ≤ x / g^k + g·k
  by_cases h : r * (k + 1) ≤ g * k
  · have := Nat.zero_le (x / g ^ k); omega
  · have hpos : 0 < g ^ k := pow_pos hg k
    have h2 : r * (k + 1) - g * k ≤ x / g ^ k := by
      rw [Nat.le_div_iff_mul_le hpos]
      have h3 := amgm_nat r g k
      have h4 : (r * (k + 1) - g * k) * g ^ k + k * g ^ (k + 1) = (k + 1) * r * g ^ k := by
        have : g * k * g ^ k = k * g ^ (k + 1) := by rw [Nat.pow_succ]; ring
        rw [Nat.sub_mul, this]
        have hle : k * g ^ (k + 1) ≤ r * (k + 1) * g ^ k := by
          rw [← this]; exact Nat.mul_le_mul_right _ (by omega)
        have : r * (k + 1) * g ^ k = (k + 1) * r * g ^ k := by ring
        omega
      omega
    omega

/-- above the floor root a Newton step strictly decreases -/
theorem newtonNext_lt {x k r g : Nat} (hr : x < (r + 1) ^ (k + 1)) (hg : r < g) :
    newtonNext x (k + 1) g < g := by
  unfold newtonNext
  rw [Nat.add_sub_cancel, Nat.div_lt_iff_lt_mul (by omega)]
  have hgpos : 0 < g := by omega
  have hpos : 0 < g ^ k := pow_pos hgpos k
  have h1 : (r + 1) ^ (k + 1) ≤ g ^ (k + 1) := Nat.pow_le_pow_left (by omega) _
  have h2 : x / g ^ k < g := by
    rw [Nat.div_lt_iff_lt_mul hpos, ← Nat.pow_succ']; exact Nat.lt_of_lt_of_le hr h1
  have : g * (k + 1) = g + g * k := by ring
  omega

/-- all guesses stay `≤ x` -/
theorem newtonNext_le {x k g : Nat} (hg : 0 < g) (hgx : g ≤ x) : newtonNext x (k + 1) g ≤ x := by
  unfold newtonNext
  rw [Nat.add_sub_cancel]
  apply Nat.div_le_of_le_mul
  have : x / g ^ k ≤ x := Nat.div_le_self _ _
  have : g * k ≤ x * k := Nat.mul_le_mul_right _ hgx
  have : (k + 1) * x = x + x * k := by ring
  omega

/-- "go up": ends with a guess at or above the floor root whose next step does not increase -/
theorem newtonUp_spec {x k r : Nat} (hroot : IsRoot x (k + 1) r) :
    ∀ (fuel guess : Nat), 0 < guess → guess ≤ x →
      (r + 1 - guess < fuel ∨ newtonNext x (k + 1) guess ≤ guess) →
      let res := newtonUp x (k + 1) fuel guess (newtonNext x (k + 1) guess)
      res.2 = newtonNext x (k + 1) res.1 ∧ res.2 ≤ res.1 ∧ r ≤ res.1 ∧ res.1 ≤ x ∧ 0 < res.1 := by
  intro fuel
  induction fuel with
  | zero =>
    intro guess hg hgx h
    have h' : newtonNext x (k + 1) guess ≤ guess := by omega
    refine ⟨rfl, h', ?_, hgx, hg⟩
    by_contra hlt
    have := newtonNext_ge hroot.1 hg
    simp only [newtonUp] at *
    omega
  | succ n ih =>
    intro guess hg hgx h
    unfold newtonUp
    split
    · rename_i hgt
      -- still going up: guess ≤ r
      have hle : guess ≤ r := by
        by_contra hc
        have := newtonNext_lt hroot.2 (show r < guess by omega)
        omega
      have hpos : 0 < newtonNext x (k + 1) guess := by omega
      exact ih _ hpos (newtonNext_le hg hgx) (by left; omega)
    · rename_i hle
      have h' : newtonNext x (k + 1) guess ≤ guess := by omega
      refine ⟨rfl, h', ?_, hgx, hg⟩
      by_contra hlt
      have := newtonNext_ge hroot.1 hg
      omega

/-- "go down": from any guess at or above the floor root, ends exactly at the floor root -/
theorem newtonDown_spec {x k r : Nat} (hroot : IsRoot x (k + 1) r) (hr : 0 < r) :
    ∀ (fuel guess : Nat), r ≤ guess →
      (guess - r < fuel ∨ guess ≤ newtonNext x (k + 1) guess) →
      (newtonDown x (k + 1) fuel guess (newtonNext x (k + 1) guess)).1 = r := by
  intro fuel
  induction fuel with
  | zero =>
    intro guess hge h
    have h' : guess ≤ newtonNext x (k + 1) guess := by omega
    simp only [newtonDown]
    by_contra hne
    have := newtonNext_lt hroot.2 (show r < guess by omega)
    omega
  | succ n ih =>
    intro guess hge h
    unfold newtonDown
    split
    · rename_i hlt
      have hge' := newtonNext_ge hroot.1 (show 0 < guess by omega)
      exact ih _ hge' (by left; omega)
    · rename_i hnlt
      simp only []
      by_contra hne
      have := newtonNext_lt hroot.2 (show r < guess by omega)
      omega

/-- the Newton part of `nth_root` with fuel `x + 2` returns the floor root, for every `n ≥ 2`
    and every radicand with more than `n` bits -/
theorem nthRootNewton_spec (x k : Nat) (hk : 0 < k) (hbits : k + 1 < bitLen x) :
    IsRoot x (k + 1) (nthRootNewton x (k + 1) (x + 2)) := by
  obtain ⟨r, hroot⟩ := exists_root x (k + 1) (by omega)
  have hx : x ≠ 0 := by intro h; subst h; simp [bitLen] at hbits
  -- the radicand has more than n bits, so the root is at least 2 > 0
  have hrpos : 0 < r := by
    by_contra h0
    have : r = 0 := by omega
    subst this
    have h2 := hroot.2
    simp at h2
    have := two_pow_bitLen_le hx
    have : 2 ^ 1 ≤ 2 ^ (bitLen x - 1) := Nat.pow_le_pow_right (by decide) (by omega)
    omega
  -- the start value 2^⌈bits/n⌉ is positive and at most x
  have hg0 : 0 < 2 ^ ((bitLen x + (k + 1) - 1) / (k + 1)) := Nat.two_pow_pos _
  have hg0x : 2 ^ ((bitLen x + (k + 1) - 1) / (k + 1)) ≤ x := by
    have h1 := two_pow_bitLen_le hx
    have h2 : (bitLen x + (k + 1) - 1) / (k + 1) ≤ bitLen x - 1 := by
      apply Nat.le_of_lt_succ
      rw [Nat.div_lt_iff_lt_mul (by omega)]
      have : bitLen x * 2 ≤ bitLen x * (k + 1) := Nat.mul_le_mul_left _ (by omega)
      have : (bitLen x - 1).succ = bitLen x := by omega
      rw [this]; omega
    exact Nat.le_trans (Nat.pow_le_pow_right (by decide) h2) h1
  have hrx : r ≤ x := by
    have := hroot.1
    have : r ≤ r ^ (k + 1) := Nat.le_self_pow (by omega) r
    omega
  have hup := newtonUp_spec hroot (x + 2) _ hg0 hg0x (by left; omega)
  unfold nthRootNewton
  simp only []
  generalize newtonUp x (k + 1) (x + 2) (2 ^ ((bitLen x + (k + 1) - 1) / (k + 1)))
    (newtonNext x (k + 1) (2 ^ ((bitLen x + (k + 1) - 1) / (k + 1)))) = res at hup
  obtain ⟨G, F⟩ := res
  obtain ⟨h1, h2, h3, h4, h5⟩ := hup
  simp only [] at h1 h2 h3 h4 h5 ⊢
  rw [h1, newtonDown_spec hroot hrpos (x + 2) G h3 (by left; omega)]
  exact hroot

-- ---------------------------------------------------------------- sqrt_rem_large

/-- de-normalisation of a `k`-th root: the root of `x·(2^h)^k`, shifted right by `h`, is the root of `x` -/
theorem root_denormalise {x k h c : Nat} (hk : 0 < k) (hc : IsRoot (x * (2 ^ h) ^ k) k c) :
    IsRoot x k (c / 2 ^ h) := by
  obtain ⟨h1, h2⟩ := hc
  have hp : 0 < 2 ^ h := Nat.two_pow_pos _
  have hpk : 0 < (2 ^ h) ^ k := Nat.pow_pos hp
  have hdm := Nat.div_add_mod c (2 ^ h)
  have hlt := Nat.mod_lt c hp
  constructor
  · -- (q·P)^k ≤ c^k ≤ x·P^k
    have : (c / 2 ^ h * 2 ^ h) ^ k ≤ c ^ k := Nat.pow_le_pow_left (by rw [Nat.mul_comm]; omega) k
    rw [Nat.mul_pow] at this
    exact Nat.le_of_mul_le_mul_right (Nat.le_trans this h1) hpk
  · -- x·P^k < (c+1)^k ≤ ((q+1)·P)^k
    have : (c + 1) ^ k ≤ ((c / 2 ^ h + 1) * 2 ^ h) ^ k := Nat.pow_le_pow_left (by rw [Nat.add_mul, Nat.mul_comm]; omega) k
    rw [Nat.mul_pow] at this
    exact Nat.lt_of_mul_lt_mul_right (Nat.lt_of_lt_of_le h2 this)

/-- de-normalisation of root and remainder: if the kernel returns the floor square root `s` and
    the remainder of `x·4^h`, then `s >> h` is the floor square root of `x` and
    `(r + 2·s·s0 − s0²) >> 2h` its remainder (`s0 = s mod 2^h`). -/
theorem sqrt_denormalise {x h s : Nat} (hs : IsRoot (x * 4 ^ h) 2 s) :
    IsRoot x 2 (s / 2 ^ h) ∧
    (x * 4 ^ h - s * s + 2 * (s % 2 ^ h) * s - (s % 2 ^ h) * (s % 2 ^ h)) / 4 ^ h
      = x - (s / 2 ^ h) * (s / 2 ^ h) := by
  have h4 : (4 : Nat) ^ h = (2 ^ h) ^ 2 := by
    rw [show (4 : Nat) = 2 ^ 2 by rfl, ← Nat.pow_mul, ← Nat.pow_mul, Nat.mul_comm]
  rw [h4] at hs ⊢
  have hroot := root_denormalise (by decide) hs
  refine ⟨hroot, ?_⟩
  have hq := hroot.1
  have h1 := hs.1
  have hp : 0 < 2 ^ h := Nat.two_pow_pos _
  have hdm := Nat.div_add_mod s (2 ^ h)
  generalize s / 2 ^ h = q at *
  generalize s % 2 ^ h = s0 at *
  generalize 2 ^ h = P at *
  subst hdm
  simp only [Nat.pow_two] at hq h1 ⊢
  -- the numerator is exactly (x − q²)·P²
  have hnum : x * (P * P) - (P * q + s0) * (P * q + s0) + 2 * s0 * (P * q + s0) - s0 * s0
      = (x - q * q) * (P * P) := by
    have e1 : (P * q + s0) * (P * q + s0) = q * q * (P * P) + 2 * s0 * (P * q) + s0 * s0 := by ring
    have e2 : 2 * s0 * (P * q + s0) = 2 * s0 * (P * q) + 2 * (s0 * s0) := by ring
    have e3 : (x - q * q) * (P * P) = x * (P * P) - q * q * (P * P) := Nat.sub_mul _ _ _
    have e4 : q * q * (P * P) ≤ x * (P * P) := Nat.mul_le_mul_right _ hq
    rw [e1, e2, e3]
    omega
  rw [hnum, Nat.mul_div_cancel _ (Nat.mul_pos hp hp)]

/-- contract of `root::sqrt_rem` (and of the frontier that stands for it) -/
def SqrtKernelContract (kernel : Nat → Nat × Nat) : Prop :=
  ∀ a, IsRoot a 2 (kernel a).1 ∧ (kernel a).2 = a - (kernel a).1 * (kernel a).1

theorem sqrtRemKernelFrontier_contract : SqrtKernelContract sqrtRemKernelFrontier := by
  intro a
  exact ⟨iroot_spec a 2 (by decide), rfl⟩

theorem wordLen_lt_bitLen {W : Nat} (hW : 0 < W) (x : Nat) : W * wordLen W x < bitLen x + W := by
  unfold wordLen
  have := Nat.div_add_mod (bitLen x + W - 1) W
  have := Nat.mod_lt (bitLen x + W - 1) hW
  generalize (bitLen x + W - 1) / W = q at *
  generalize (bitLen x + W - 1) % W = t at *
  omega

/-- `sqrt_rem_large` (as the property requires it, `fixed = true`): for every even word size and any
    kernel meeting the contract, the returned pair is the floor square root and its remainder -/
theorem sqrtRemLarge_spec (W : Nat) (hW : 0 < W) (hWe : W % 2 = 0) (kernel : Nat → Nat × Nat)
    (hk : SqrtKernelContract kernel) (x : Nat) :
    IsRoot x 2 (sqrtRemLarge W kernel true x).1 ∧
    (sqrtRemLarge W kernel true x).1 * (sqrtRemLarge W kernel true x).1 + (sqrtRemLarge W kernel true x).2 = x := by
  unfold sqrtRemLarge
  simp only []
  have hle := bitLen_le_wordLen hW x
  have hlt := wordLen_lt_bitLen hW x
  generalize hsh : W * (wordLen W x % 2) + (W * wordLen W x - bitLen x) / 2 * 2 = shift
  -- the shift is even and below two words
  have hev : shift % 2 = 0 := by
    have h1 : (W * (wordLen W x % 2)) % 2 = 0 := by
      rw [Nat.mul_mod, hWe]; simp
    omega
  have hlt2 : shift < 2 * W := by
    have : wordLen W x % 2 ≤ 1 := by omega
    have : W * (wordLen W x % 2) ≤ W * 1 := Nat.mul_le_mul_left W this
    omega
  obtain ⟨h, rfl⟩ : ∃ h, shift = 2 * h := ⟨shift / 2, by omega⟩
  have h4 : (2 : Nat) ^ (2 * h) = 4 ^ h := by rw [Nat.pow_mul]
  obtain ⟨hroot, hrem⟩ := hk (x * 2 ^ (2 * h))
  generalize kernel (x * 2 ^ (2 * h)) = res at hroot hrem
  obtain ⟨s, r⟩ := res
  simp only [] at hroot hrem ⊢
  have hh : 2 * h / 2 = h := by omega
  split
  · rename_i hne
    simp only [if_true, hh]
    rw [h4] at hroot hrem
    obtain ⟨hr, hq⟩ := sqrt_denormalise hroot
    have hdiv : ∀ v : Nat, (if decide (2 * h ≥ W) = true then v / 2 ^ W / 2 ^ (2 * h % W) else v / 2 ^ (2 * h % W))
        = v / 4 ^ h := by
      intro v
      rw [← h4]
      by_cases hge : 2 * h ≥ W
      · simp only [hge, decide_true, if_true]
        rw [Nat.div_div_eq_div_mul, ← Nat.pow_add]
        have : W + 2 * h % W = 2 * h := by
          have := Nat.mod_eq_sub_mod hge
          rw [this, Nat.mod_eq_of_lt (by omega)]; omega
        rw [this]
      · simp only [hge, decide_false, Bool.false_eq_true, if_false]
        rw [Nat.mod_eq_of_lt (by omega)]
    rw [hdiv, hrem, hq]
    refine ⟨hr, ?_⟩
    have := hr.1
    simp only [Nat.pow_two] at this
    omega
  · rename_i he
    have h0 : h = 0 := by omega
    subst h0
    simp only [Nat.mul_zero, Nat.pow_zero, Nat.mul_one] at hroot hrem
    refine ⟨hroot, ?_⟩
    show s * s + r = x
    rw [hrem]
    have := hroot.1
    simp only [Nat.pow_two] at this
    omega

end Dashu.Model.NT
