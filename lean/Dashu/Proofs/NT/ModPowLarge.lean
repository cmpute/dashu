import Dashu.Model.NT.ModPowK
import Dashu.Proofs.NT.ModPow
import Dashu.Proofs.NT.Log
/-
  C13: the windowed exponentiation of multi-word rings (`large::pow`, `pow_nontrivial`,
  `choose_pow_window_len`) computes `b^e mod m` for every exponent.  Proved once, for the loop over ANY squaring and
  product that return the pre-shifted residue of the square resp. product on pre-shifted residues (`powLG_spec`);
  the `%`-level `mulNormalized` (`powL_eq`) and the buffer-level `mul_normalized` (`Proofs/NT/ModPowK`) are two such.
-/
namespace Dashu.Model.NT
open Dashu.Model

-- ---------------------------------------------------------------- repeated squaring, the table

theorem getD_append_left' (l l' : List Nat) (i : Nat) (h : i < l.length) : (l ++ l').getD i 0 = l.getD i 0 := by
  rw [List.getD_eq_getElem?_getD, List.getD_eq_getElem?_getD, List.getElem?_append_left h]

theorem getD_append_right' (l l' : List Nat) (i : Nat) (h : l.length ≤ i) :
    (l ++ l').getD i 0 = l'.getD (i - l.length) 0 := by
  rw [List.getD_eq_getElem?_getD, List.getD_eq_getElem?_getD, List.getElem?_append_right h]

section generic
variable {W : Nat} {r : Ring} {sqr : Nat → Nat} {mul : Nat → Nat → Nat}
  (hsq : ∀ u, u < r.m → sqr (u * 2 ^ r.k) = (u * u % r.m) * 2 ^ r.k)
  (hmu : ∀ u v, u < r.m → v < r.m → mul (u * 2 ^ r.k) (v * 2 ^ r.k) = (u * v % r.m) * 2 ^ r.k)

include hsq in
theorem sqrIter_eq (hwf : r.WF W) :
    ∀ (c u : Nat), u < r.m →
      (List.range c).foldl (fun v _ => sqr v) (u * 2 ^ r.k)
        = ((u ^ (2 ^ c)) % r.m) * 2 ^ r.k := by
  intro c
  induction c with
  | zero => intro u hu; simp [Nat.mod_eq_of_lt hu]
  | succ n ih =>
    intro u hu
    rw [List.range_succ, List.foldl_append, ih u hu]
    simp only [List.foldl_cons, List.foldl_nil]
    have hlt := Nat.mod_lt (u ^ 2 ^ n) hwf.mpos
    rw [hsq _ hlt]
    congr 1
    rw [← Nat.mul_mod, ← Nat.pow_two, ← Nat.pow_mul, ← Nat.pow_succ]

include hmu in
theorem oddPowTable_spec (hwf : r.WF W) {b : Nat} (hb : b < r.m) :
    ∀ cnt, (oddPowTableG mul (b * 2 ^ r.k) (((b * b) % r.m) * 2 ^ r.k) cnt).length = cnt ∧
      ∀ i, i < cnt → (oddPowTableG mul (b * 2 ^ r.k) (((b * b) % r.m) * 2 ^ r.k) cnt).getD i 0
        = ((b ^ (2 * i + 1)) % r.m) * 2 ^ r.k := by
  intro cnt
  induction cnt with
  | zero => exact ⟨rfl, fun i hi => by omega⟩
  | succ n ih =>
    obtain ⟨hlen, hent⟩ := ih
    unfold oddPowTableG
    simp only []
    generalize ht : oddPowTableG mul (b * 2 ^ r.k) (b * b % r.m * 2 ^ r.k) n = t at hlen hent
    refine ⟨by simp [hlen], ?_⟩
    intro i hi
    by_cases hin : i < n
    · rw [getD_append_left' _ _ _ (by omega)]
      exact hent i hin
    · have hi' : i = n := by omega
      subst hi'
      rw [getD_append_right' _ _ _ (by omega), hlen, Nat.sub_self]
      simp only [List.getD_cons_zero]
      cases i with
      | zero =>
        have : t = [] := List.eq_nil_of_length_eq_zero hlen
        subst this
        simp [Nat.mod_eq_of_lt hb]
      | succ j =>
        have hlast : t.getLast? = some (t.getD j 0) := by
          rw [List.getLast?_eq_getElem?, hlen]
          simp only [Nat.add_sub_cancel]
          have hj : j < t.length := by omega
          rw [List.getD_eq_getElem?_getD, List.getElem?_eq_getElem hj]
          rfl
        rw [hlast]
        simp only []
        rw [hent j (by omega), hmu _ _ (Nat.mod_lt _ hwf.mpos) (Nat.mod_lt _ hwf.mpos)]
        congr 1
        rw [← Nat.mul_mod]
        congr 1
        have : 2 * (j + 1) + 1 = (2 * j + 1) + 2 := by omega
        rw [this, Nat.pow_add]; ring

-- ---------------------------------------------------------------- window extraction (pure arithmetic)

/-- the window the loop takes at a set bit: `k = numBits` bits ending at `bit`, odd, and the
    exponent prefix grows by exactly these bits -/
theorem window_extract {e wl bit : Nat} (hwl : 0 < wl) (hbit : (e / 2 ^ bit) % 2 = 1) :
    let window := (e * 2 ^ wl / 2 ^ (bit + 1)) % 2 ^ wl
    let k := wl - trailingZeros window
    let w' := window / 2 ^ (wl - k)
    0 < k ∧ k ≤ wl ∧ k ≤ bit + 1 ∧ w' % 2 = 1 ∧ w' < 2 ^ k ∧
      e / 2 ^ (bit + 1 - k) = (e / 2 ^ (bit + 1)) * 2 ^ k + w' := by
  intro window k w'
  have hp : ∀ n, 0 < 2 ^ n := fun n => Nat.two_pow_pos n
  -- the top bit of the window is the bit being consumed
  have htop : window / 2 ^ (wl - 1) = 1 := by
    have e1 : 2 ^ wl = 2 ^ (wl - 1) * 2 := by rw [← Nat.pow_succ]; congr 1; omega
    show (e * 2 ^ wl / 2 ^ (bit + 1)) % 2 ^ wl / 2 ^ (wl - 1) = 1
    rw [e1, Nat.mod_mul_right_div_self, Nat.div_div_eq_div_mul, ← Nat.pow_add, ← e1]
    have : bit + 1 + (wl - 1) = bit + wl := by omega
    rw [this, Nat.pow_add, Nat.mul_div_mul_right _ _ (hp wl)]
    exact hbit
  have hwpos : 0 < window := by
    by_contra h0
    have : window = 0 := by omega
    rw [this] at htop; simp at htop
  have hwlt : window < 2 ^ wl := Nat.mod_lt _ (hp wl)
  -- so the window is not zero and has fewer than `wl` trailing zeros: `0 < k ≤ wl`
  have hdvd : 2 ^ trailingZeros window ∣ window := two_pow_tz_dvd hwpos
  have hodd := tz_odd hwpos
  have htzlt : trailingZeros window < wl := by
    have : 2 ^ trailingZeros window ≤ window := Nat.le_of_dvd hwpos hdvd
    exact (Nat.pow_lt_pow_iff_right (by decide)).1 (Nat.lt_of_le_of_lt this hwlt)
  have hk : wl - k = trailingZeros window := by show wl - (wl - trailingZeros window) = _; omega
  have hkpos : 0 < k := by show 0 < wl - trailingZeros window; omega
  have hkle : k ≤ wl := Nat.sub_le _ _
  -- the window never reaches below bit 0
  have hkbit : k ≤ bit + 1 := by
    by_cases hge : wl ≤ bit + 1
    · omega
    · have hc : 2 ^ (wl - (bit + 1)) ∣ window := by
        have e2 : 2 ^ wl = 2 ^ (bit + 1) * 2 ^ (wl - (bit + 1)) := by
          rw [← Nat.pow_add]; congr 1; omega
        show 2 ^ (wl - (bit + 1)) ∣ (e * 2 ^ wl / 2 ^ (bit + 1)) % 2 ^ wl
        have e3 : e * 2 ^ wl / 2 ^ (bit + 1) = e * 2 ^ (wl - (bit + 1)) := by
          rw [e2, ← Nat.mul_assoc, Nat.mul_comm e, Nat.mul_assoc, Nat.mul_div_cancel_left _ (hp _)]
        rw [e3, e2, Nat.mul_mod_mul_right]
        exact Nat.dvd_mul_left _ _
      have := tz_maximal hwpos hc
      show wl - trailingZeros window ≤ bit + 1
      omega
  -- the shifted window is odd and has k bits
  have hw'odd : w' % 2 = 1 := by show (window / 2 ^ (wl - k)) % 2 = 1; rw [hk]; exact hodd
  have hw'lt : w' < 2 ^ k := by
    show window / 2 ^ (wl - k) < 2 ^ k
    rw [hk, Nat.div_lt_iff_lt_mul (hp _), ← Nat.pow_add]
    have : k + trailingZeros window = wl := by show wl - trailingZeros window + _ = wl; omega
    rw [this]; exact hwlt
  -- the shifted window is the k bits of e ending at `bit`
  have hw'eq : w' = (e / 2 ^ (bit + 1 - k)) % 2 ^ k := by
    show (e * 2 ^ wl / 2 ^ (bit + 1)) % 2 ^ wl / 2 ^ (wl - k) = _
    have e4 : 2 ^ wl = 2 ^ (wl - k) * 2 ^ k := by rw [← Nat.pow_add]; congr 1; omega
    have e5 : e * 2 ^ wl / 2 ^ (bit + 1) / 2 ^ (wl - k) = e / 2 ^ (bit + 1 - k) := by
      rw [Nat.div_div_eq_div_mul, ← Nat.pow_add]
      have : bit + 1 + (wl - k) = (bit + 1 - k) + wl := by omega
      rw [this, Nat.pow_add, Nat.mul_div_mul_right _ _ (hp wl)]
    generalize e * 2 ^ wl / 2 ^ (bit + 1) = X at e5 ⊢
    rw [e4, Nat.mod_mul_right_div_self, e5]
  refine ⟨hkpos, hkle, hkbit, hw'odd, hw'lt, ?_⟩
  -- so the exponent prefix grows by exactly these bits
  rw [hw'eq]
  have := Nat.div_add_mod (e / 2 ^ (bit + 1 - k)) (2 ^ k)
  rw [Nat.div_div_eq_div_mul, ← Nat.pow_add] at this
  have e5 : bit + 1 - k + k = bit + 1 := by omega
  rw [e5] at this
  rw [Nat.mul_comm]; omega

-- ---------------------------------------------------------------- the window loop

include hsq hmu in
theorem powWindowLoop_eq (hwf : r.WF W) {b : Nat}
    (e wl : Nat) (hwl : 0 < wl) (table : List Nat)
    (htab : ∀ i, i < 2 ^ (wl - 1) → table.getD i 0 = ((b ^ (2 * i + 1)) % r.m) * 2 ^ r.k) :
    ∀ (fuel bit E : Nat), bit < fuel → E = 2 * (e / 2 ^ (bit + 1)) →
      powWindowLoopG sqr mul e wl table fuel bit (((b ^ E) % r.m) * 2 ^ r.k) = ((b ^ e) % r.m) * 2 ^ r.k := by
  have hm := hwf.mpos
  intro fuel
  induction fuel with
  | zero => intro bit E h; omega
  | succ n ih =>
    intro bit E hfuel hE
    unfold powWindowLoopG
    -- the state after the window step: (bit', b^(e / 2^bit'))
    have hstep : ∃ bit' , bit' ≤ bit ∧
        (if e.testBit bit = true then
          (bit - (wl - trailingZeros ((e * 2 ^ wl / 2 ^ (bit + 1)) % 2 ^ wl) - 1),
           mul
            ((List.range (wl - trailingZeros ((e * 2 ^ wl / 2 ^ (bit + 1)) % 2 ^ wl) - 1)).foldl
              (fun v _ => sqr v) (((b ^ E) % r.m) * 2 ^ r.k))
            (table.getD ((e * 2 ^ wl / 2 ^ (bit + 1)) % 2 ^ wl /
              2 ^ (wl - (wl - trailingZeros ((e * 2 ^ wl / 2 ^ (bit + 1)) % 2 ^ wl))) / 2) 0))
         else (bit, ((b ^ E) % r.m) * 2 ^ r.k))
        = (bit', ((b ^ (e / 2 ^ bit')) % r.m) * 2 ^ r.k) := by
      have hsplit := Nat.div_add_mod (e / 2 ^ bit) 2
      rw [Nat.div_div_eq_div_mul, ← Nat.pow_succ] at hsplit
      by_cases htb : e.testBit bit = true
      · rw [if_pos htb]
        have hbit : (e / 2 ^ bit) % 2 = 1 := by
          rw [testBit_eq] at htb; exact of_decide_eq_true htb
        obtain ⟨hk0, hk1, hk2, hodd, hlt, hval⟩ := window_extract (e := e) (wl := wl) (bit := bit) hwl hbit
        generalize hkdef : wl - trailingZeros ((e * 2 ^ wl / 2 ^ (bit + 1)) % 2 ^ wl) = k at *
        generalize hwdef : (e * 2 ^ wl / 2 ^ (bit + 1)) % 2 ^ wl / 2 ^ (wl - k) = w' at *
        refine ⟨bit + 1 - k, by omega, ?_⟩
        have hb1 : bit - (k - 1) = bit + 1 - k := by omega
        rw [hb1, sqrIter_eq hsq hwf (k - 1) _ (Nat.mod_lt _ hm)]
        have hidx : w' / 2 < 2 ^ (wl - 1) := by
          have h1 : w' < 2 ^ wl := Nat.lt_of_lt_of_le hlt (Nat.pow_le_pow_right (by decide) hk1)
          have e1 : 2 ^ wl = 2 ^ (wl - 1) * 2 := by rw [← Nat.pow_succ]; congr 1; omega
          rw [Nat.div_lt_iff_lt_mul (by decide), ← e1]; exact h1
        rw [htab _ hidx, hmu _ _ (Nat.mod_lt _ hm) (Nat.mod_lt _ hm)]
        congr 2
        -- exponents: (b^E)^(2^(k-1)) * b^(2(w'/2)+1) = b^(e / 2^(bit+1-k))
        have hw2 : 2 * (w' / 2) + 1 = w' := by have := Nat.div_add_mod w' 2; omega
        rw [hw2]
        have hmm : ((b ^ E % r.m) ^ 2 ^ (k - 1) % r.m * (b ^ w' % r.m)) % r.m
            = ((b ^ E) ^ 2 ^ (k - 1) * b ^ w') % r.m := by
          rw [← Nat.pow_mod, ← Nat.mul_mod]
        rw [hmm, ← Nat.pow_mul, ← Nat.pow_add, hval, hE]
        congr 3
        have : 2 * 2 ^ (k - 1) = 2 ^ k := by rw [← Nat.pow_succ']; congr 1; omega
        calc 2 * (e / 2 ^ (bit + 1)) * 2 ^ (k - 1) = e / 2 ^ (bit + 1) * (2 * 2 ^ (k - 1)) := by ring
          _ = e / 2 ^ (bit + 1) * 2 ^ k := by rw [this]
      · rw [if_neg htb]
        refine ⟨bit, Nat.le_refl _, ?_⟩
        have hbit : (e / 2 ^ bit) % 2 = 0 := by
          rw [testBit_eq] at htb
          have : ¬ (e / 2 ^ bit % 2 = 1) := by simpa using htb
          omega
        have h1 : e / 2 ^ (bit + 1) = e / 2 ^ bit / 2 := by
          rw [Nat.div_div_eq_div_mul, ← Nat.pow_succ]
        have : E = e / 2 ^ bit := by rw [hE, h1]; omega
        rw [this]
    obtain ⟨bit', hle, hst⟩ := hstep
    simp only [] at hst ⊢
    rw [hst]
    simp only []
    split
    · rename_i h0
      rw [h0]; simp
    · rename_i h0
      rw [hsq _ (Nat.mod_lt _ hm)]
      have : (b ^ (e / 2 ^ bit') % r.m * (b ^ (e / 2 ^ bit') % r.m)) % r.m
          = (b ^ (2 * (e / 2 ^ bit'))) % r.m := by
        rw [← Nat.mul_mod, ← Nat.pow_add]; congr 2; omega
      rw [this]
      apply ih (bit' - 1) _ (by omega)
      have : bit' - 1 + 1 = bit' := by omega
      rw [this]

theorem chooseWindowLen_pos (W n : Nat) : 0 < chooseWindowLen W n := by
  unfold chooseWindowLen
  simp only []
  have : ∀ (cost : Nat → Nat) fuel ws, 0 < ws → 0 < chooseWindowLen.go W cost fuel ws := by
    intro cost fuel
    induction fuel with
    | zero => intro ws h; simpa [chooseWindowLen.go] using h
    | succ k ih =>
      intro ws h
      unfold chooseWindowLen.go
      split
      · split
        · exact h
        · exact ih _ (by omega)
      · exact h
  exact this _ W 1 (by decide)

include hsq hmu in
/-- `large::pow` for every exponent, over any squaring and product that compute the residues -/
theorem powLG_spec (hwf : r.WF W) {b : Nat} (hb : b < r.m) (e : Nat) :
    powLG W r sqr mul (b * 2 ^ r.k) e = ((b ^ e) % r.m) * 2 ^ r.k := by
  unfold powLG
  split
  · rename_i h; subst h; simpa using oneRaw_eq hwf
  · split
    · rename_i h0 h1; subst h1; simp [Nat.mod_eq_of_lt hb]
    · rename_i h0 h1
      simp only []
      have he2 : 2 ≤ e := by omega
      have hwl := chooseWindowLen_pos W (bitLen e)
      generalize chooseWindowLen W (bitLen e) = wl at hwl
      rw [hsq _ hb]
      obtain ⟨_, htab⟩ := oddPowTable_spec hmu hwf hb (2 ^ (wl - 1))
      have hbl : 2 ≤ bitLen e := by
        have := lt_bitLen_of_le (show 2 ^ 1 ≤ e by simpa using he2)
        omega
      have htop := top_bit_split (show e ≠ 0 by omega)
      have hlt := lt_two_pow_bitLen e
      have hE : 2 = 2 * (e / 2 ^ (bitLen e - 2 + 1)) := by
        have : bitLen e - 2 + 1 = bitLen e - 1 := by omega
        rw [this]
        have h1 : e / 2 ^ (bitLen e - 1) = 1 := by
          have hp := Nat.two_pow_pos (bitLen e - 1)
          have e2 : 2 ^ bitLen e = 2 ^ (bitLen e - 1) * 2 := by rw [← Nat.pow_succ]; congr 1; omega
          apply Nat.le_antisymm
          · apply Nat.le_of_lt_succ
            rw [Nat.div_lt_iff_lt_mul hp]; omega
          · rw [Nat.le_div_iff_mul_le hp]; have := two_pow_bitLen_le (show e ≠ 0 by omega); omega
        rw [h1]
      have := powWindowLoop_eq hsq hmu hwf e wl hwl _ htab (bitLen e) (bitLen e - 2) 2 (by omega) hE
      have h2 : (b ^ 2) % r.m = (b * b) % r.m := by rw [Nat.pow_two]
      rw [h2] at this
      exact this

end generic

theorem oddPowTableG_value (W : Nat) (r : Ring) (raw sq : Nat) :
    ∀ cnt, oddPowTableG (mulNormalized W r) raw sq cnt = oddPowTable W r raw sq cnt := by
  intro cnt
  induction cnt with
  | zero => rfl
  | succ cnt ih =>
    simp only [oddPowTableG, oddPowTable, ih]
    generalize (oddPowTable W r raw sq cnt).getLast? = o
    cases o <;> rfl

theorem powWindowLoopG_value (W : Nat) (r : Ring) (exp wl : Nat) (table : List Nat) :
    ∀ fuel bit val, powWindowLoopG (fun v => mulNormalized W r v v) (mulNormalized W r) exp wl table fuel bit val
      = powWindowLoop W r exp wl table fuel bit val := by
  intro fuel
  induction fuel with
  | zero => intro bit val; rfl
  | succ fuel ih =>
    intro bit val
    simp only [powWindowLoopG, powWindowLoop, ih]

/-- instantiated with the `%`-level product, the generic loop IS `powL` -/
theorem powLG_value (W : Nat) (r : Ring) (raw exp : Nat) :
    powLG W r (fun v => mulNormalized W r v v) (mulNormalized W r) raw exp = powL W r raw exp := by
  unfold powLG powL
  simp only [oddPowTableG_value, powWindowLoopG_value]

/-- `large::pow` for every exponent -/
theorem powL_eq {W : Nat} {r : Ring} (hwf : r.WF W) {b : Nat} (hb : b < r.m) (e : Nat) :
    powL W r (b * 2 ^ r.k) e = ((b ^ e) % r.m) * 2 ^ r.k :=
  powLG_value W r _ e ▸ powLG_spec (fun _ hu => mulNormalized_eq hwf hu hu) (fun _ _ => mulNormalized_eq hwf) hwf hb e

end Dashu.Model.NT
