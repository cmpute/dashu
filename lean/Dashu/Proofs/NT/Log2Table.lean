import Dashu.Model.NT.Log
import Dashu.Proofs.NT.Sweep
import Dashu.Proofs.NT.Basic
/-
  C12: the no_std table estimator of `base/src/math/log.rs`.  For every `u16` value `n ≥ 256`:
  `log2_fp8(n)/256 ≤ log2 n ≤ ceil_log2_fp8(n)/256`, stated without logarithms as
  `2^log2_fp8(n) ≤ n^256` and `n^256 ≤ 2^ceil_log2_fp8(n)` (no axioms).

  Both estimators are `table entry of the leading bits + 256 · exponent`: for an operand `n` of `e + 11` bits
  with top 11 bits `t = n / 2^e`, `ceilLog2Fp8 n` is a function of `t` plus `256 · e` (`ceilLog2Fp8_top`) and
  `log2Fp8 n` is at most one (`log2Fp8_top_le`: the finer of the two rounding rules its branches use).  Since
  `t · 2^e ≤ n < (t + 1) · 2^e`, the enclosure of `n` follows from `2^lowTop t ≤ t^256` and
  `(t + 1)^256 ≤ 2^ceilTop t`, scaled by `(2^e)^256`; these are facts about the table, which the kernel evaluates
  for the 1024 values of `t`.  Below 11 bits the estimators have branches of their own and the 768 operands are
  evaluated one by one.
-/
namespace Dashu.Model.NT

theorem top_bounds {n e : Nat} (h : bitLen n = e + 11) : 1024 * 2 ^ e ≤ n ∧ n < 2048 * 2 ^ e := by
  have hn : n ≠ 0 := by rintro rfl; rw [bitLen_zero] at h; omega
  have hlo := two_pow_bitLen_le hn
  have hhi := lt_two_pow_bitLen n
  rw [h, Nat.add_comm, Nat.pow_add] at hhi
  rw [h, show e + 11 - 1 = 10 + e by omega, Nat.pow_add] at hlo
  exact ⟨hlo, hhi⟩

theorem bit_le_bit {p q : Prop} [Decidable p] [Decidable q] (h : p → q) :
    (if p then 1 else 0) ≤ (if q then 1 else 0 : Nat) := by
  split
  · rw [if_pos (h ‹p›)]
  · exact Nat.zero_le _

/-- bounds for the leading bits `n / 2^e` carry over to `n`, the exponent of two growing by `c · e` -/
theorem pow_scale_le {a e n c : Nat} (h : 2 ^ a ≤ (n / 2 ^ e) ^ c) : 2 ^ (a + c * e) ≤ n ^ c :=
  calc 2 ^ (a + c * e) = 2 ^ a * (2 ^ e) ^ c := by rw [Nat.pow_add, Nat.pow_mul']
    _ ≤ (n / 2 ^ e) ^ c * (2 ^ e) ^ c := Nat.mul_le_mul_right _ h
    _ = (n / 2 ^ e * 2 ^ e) ^ c := (Nat.mul_pow ..).symm
    _ ≤ n ^ c := Nat.pow_le_pow_left (Nat.div_mul_le_self n _) c

theorem scale_pow_le {b e n c : Nat} (h : (n / 2 ^ e + 1) ^ c ≤ 2 ^ b) : (n + 1) ^ c ≤ 2 ^ (b + c * e) :=
  calc (n + 1) ^ c ≤ ((n / 2 ^ e + 1) * 2 ^ e) ^ c :=
        Nat.pow_le_pow_left (by rw [Nat.add_mul, Nat.one_mul]; exact Nat.lt_div_mul_add (Nat.two_pow_pos e)) c
    _ = (n / 2 ^ e + 1) ^ c * (2 ^ e) ^ c := Nat.mul_pow ..
    _ ≤ 2 ^ b * (2 ^ e) ^ c := Nat.mul_le_mul_right _ h
    _ = 2 ^ (b + c * e) := by rw [Nat.pow_add, Nat.pow_mul']

/-- `log2Fp8 n - 256 * e` on operands of `e + 11` bits with top bits `t`, in the finer of its two roundings -/
def lowTop (t : Nat) : Nat := log2Tab (t / 8 - 0x80) + 2560 + if 5 ≤ t % 8 then 1 else 0

/-- `ceilLog2Fp8 n - 256 * e` on operands of `e + 11` bits with top bits `t` -/
def ceilTop (t : Nat) : Nat :=
  if t / 8 = 255 then 0x100 + 2560
  else log2Tab (t / 8 + 1 - 0x80) + 2560 + 1 - if t / 2 % 4 = 0 then 1 else 0

/-- Below `0x4080` the mask is `t / 2` and `log2Fp8` adds one for `mask % 4 = 3`, i.e. `t % 8 ∈ {6, 7}`; from
    `0x4080` on the mask has 15 bits, `t = mask / 16`, and it adds one for `mask % 128 ≥ 80`, i.e.
    `t % 8 ∈ {5, 6, 7}`.  The lookup is at `t / 8` in both. -/
theorem log2Fp8_top_le {n e t : Nat} (hk : bitLen n = e + 11) (ht : n / 2 ^ e = t) :
    log2Fp8 n ≤ lowTop t + 256 * e := by
  obtain ⟨hlo, hhi⟩ := top_bounds hk
  have hJ := Nat.two_pow_pos e
  simp only [log2Fp8, lowTop, hk]
  rw [if_neg (by omega : ¬n < 0x200)]
  split
  · rw [show e + 11 - 8 - 2 = e + 1 by omega, Nat.pow_succ, ← Nat.div_div_eq_div_mul, ht,
      show t / 2 / 4 = t / 8 by omega]
    have := bit_le_bit (p := t / 2 % 4 = 3) (q := 5 ≤ t % 8) (by omega)
    omega
  · have he : 4 ≤ e := Nat.le_of_not_lt fun h => by
      have : 2 ^ e ≤ 2 ^ 3 := Nat.pow_le_pow_right (by decide) (Nat.le_of_lt_succ h)
      omega
    have hm : n / 2 ^ (e + 11 - 8 - 7) / 16 = t := by
      rw [Nat.div_div_eq_div_mul, ← Nat.pow_add 2 _ 4, show e + 11 - 8 - 7 + 4 = e by omega, ht]
    generalize n / 2 ^ (e + 11 - 8 - 7) = mask at hm
    rw [show mask / 128 = t / 8 by omega]
    have := bit_le_bit (p := mask % 128 ≥ 80) (q := 5 ≤ t % 8) (by omega)
    omega

theorem ceilLog2Fp8_top {n e t : Nat} (hk : bitLen n = e + 11) (ht : n / 2 ^ e = t) :
    ceilLog2Fp8 n = ceilTop t + 256 * e := by
  obtain ⟨hlo, -⟩ := top_bounds hk
  have hJ := Nat.two_pow_pos e
  simp only [ceilLog2Fp8, ceilTop, hk]
  rw [if_neg (by omega : ¬n < 0x80), if_neg (by omega : ¬n < 0x200),
    show e + 11 - 8 - 2 = e + 1 by omega, Nat.pow_succ, ← Nat.div_div_eq_div_mul, ht,
    show t / 2 / 4 = t / 8 by omega]
  by_cases h : t / 8 = 255
  · rw [if_pos h, if_pos h]; omega
  · rw [if_neg h, if_neg h]; split <;> omega

def topOk (t : Nat) : Bool := decide (2 ^ lowTop t ≤ t ^ 256) && decide ((t + 1) ^ 256 ≤ 2 ^ ceilTop t)

theorem top_all : allFrom topOk 1024 1024 = true := by decide +kernel

/-- from 11 bits on, at every size: the lower estimate is sound and the ceiling also covers `n + 1` -/
theorem log2_fp8_enclose (n : Nat) (h : 1024 ≤ n) :
    2 ^ log2Fp8 n ≤ n ^ 256 ∧ (n + 1) ^ 256 ≤ 2 ^ ceilLog2Fp8 n := by
  obtain ⟨e, hk⟩ : ∃ e, bitLen n = e + 11 :=
    ⟨bitLen n - 11, by have := lt_bitLen_of_le (k := 10) h; omega⟩
  obtain ⟨hlo, hhi⟩ := top_bounds hk
  have hJ := Nat.two_pow_pos e
  have ht1 : 1024 ≤ n / 2 ^ e := by rw [Nat.le_div_iff_mul_le hJ]; omega
  have ht2 : n / 2 ^ e < 2048 := by rw [Nat.div_lt_iff_lt_mul hJ]; omega
  have hc := allFrom_spec topOk 1024 1024 top_all _ ht1 (by omega)
  simp only [topOk, Bool.and_eq_true, decide_eq_true_eq] at hc
  constructor
  · exact Nat.le_trans (Nat.pow_le_pow_right (by decide) (log2Fp8_top_le hk rfl)) (pow_scale_le hc.1)
  · rw [ceilLog2Fp8_top hk rfl]
    exact scale_pow_le hc.2

/-- the check for one value (`ceil_log2_fp8` is only called on non powers of two) -/
def log2Fp8Ok (n : Nat) : Bool :=
  decide (2 ^ log2Fp8 n ≤ n ^ 256) &&
  (n == 2 ^ (bitLen n - 1) || decide (n ^ 256 ≤ 2 ^ ceilLog2Fp8 n))

theorem table_small : allFrom log2Fp8Ok 768 256 = true := by decide +kernel

/-- the table theorem: for all `u16` values above `0xff` -/
theorem log2_fp8_sound (n : Nat) (h1 : 256 ≤ n) (h2 : n < 65536) :
    2 ^ log2Fp8 n ≤ n ^ 256 ∧ (n ≠ 2 ^ (bitLen n - 1) → n ^ 256 ≤ 2 ^ ceilLog2Fp8 n) := by
  rcases Nat.lt_or_ge n 1024 with h | h
  · have hn := allFrom_spec log2Fp8Ok 768 256 table_small n h1 (by omega)
    simp only [log2Fp8Ok, Bool.and_eq_true, Bool.or_eq_true, decide_eq_true_eq, beq_iff_eq] at hn
    exact ⟨hn.1, fun hne => hn.2.resolve_left hne⟩
  · have ⟨hl, hu⟩ := log2_fp8_enclose n h
    exact ⟨hl, fun _ => Nat.le_trans (Nat.pow_le_pow_left (Nat.le_succ n) _) hu⟩

end Dashu.Model.NT
