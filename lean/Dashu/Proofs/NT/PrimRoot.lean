import Dashu.Model.NT.PrimRoot
import Dashu.Proofs.NT.Root
import Mathlib.Tactic.Ring
/-
  C12: the primitive roots of `base/src/ring/root.rs`.
  * `fix_sqrt_error!` / `fix_cbrt_error!`: from ANY start value they accept they end at the floor root
    and its remainder (all inputs, all widths) — so every table/Newton routine that ends in them
    (`u16`, `u32`, `u64`) is *sound*: whatever it returns without overflow is the floor root.
  * the `sqrt_rem` / `cbrt_rem` wrappers (normalising shift, de-normalisation) preserve that.
  * totality: `fix_*_error!` answers from every under-estimate that fits the type, and the wrappers answer
    whenever the normalised kernel is sound and answers on normalised values — so a routine is total as soon
    as its estimate stage is shown to under-estimate (`u8`: start value 0, in Props/C12; `u16`: PrimRootU16; `u32`:
    PrimRootU32 … PrimRootU32All; `u64`, `u128`: the totality of the `u64` estimate stays a hypothesis, PrimRootU128*).
-/
namespace Dashu.Model.NT
open Dashu.Model

theorem ck_some {bits : Nat} {v : Int} {r : Nat} (h : ck bits v = some r) : (r : Int) = v ∧ r < 2 ^ bits := by
  unfold ck at h
  split at h
  · rename_i hc
    injection h with h
    subst h
    refine ⟨Int.toNat_of_nonneg hc.1, ?_⟩
    have := hc.2
    have h2 : ((v.toNat : Nat) : Int) = v := Int.toNat_of_nonneg hc.1
    exact_mod_cast (h2 ▸ this)
  · exact absurd h (by simp)

-- ---------------------------------------------------------------- fix_sqrt_error!

theorem fixSqrtLoop_spec (n : Nat) : ∀ (fuel s e : Nat), e < fuel → s * s + e = n →
    let r := fixSqrtLoop fuel s e (2 * s + 1)
    r.1 * r.1 + r.2 = n ∧ r.2 < 2 * r.1 + 1 := by
  intro fuel
  induction fuel with
  | zero => intro s e h; omega
  | succ fuel ih =>
    intro s e hf hinv
    unfold fixSqrtLoop
    split
    · rename_i hge
      have := ih (s + 1) (e - (2 * s + 1)) (by omega) (by
        have : (s + 1) * (s + 1) = s * s + (2 * s + 1) := by ring
        omega)
      have e2 : 2 * s + 1 + 2 = 2 * (s + 1) + 1 := by ring
      rw [e2]; exact this
    · rename_i hlt
      exact ⟨hinv, by omega⟩

/-- **`fix_sqrt_error!` is sound** for every width and every start value it accepts -/
theorem fixSqrtError_sound {bits n s : Nat} {r : Nat × Nat} (h : fixSqrtError bits n s = some r) :
    IsRoot n 2 r.1 ∧ r.1 * r.1 + r.2 = n := by
  unfold fixSqrtError at h
  simp only [Option.bind_eq_bind, Option.bind_eq_some_iff, Option.pure_def, Option.some.injEq] at h
  obtain ⟨s2, hs2, e, he, elim, helim, hr⟩ := h
  obtain ⟨hs2v, _⟩ := ck_some hs2
  obtain ⟨hev, _⟩ := ck_some he
  obtain ⟨helimv, _⟩ := ck_some helim
  have hs2' : s2 = s * s := by exact_mod_cast hs2v
  have helim' : elim = 2 * s + 1 := by exact_mod_cast helimv
  have hinv : s * s + e = n := by
    have : (e : Int) = (n : Int) - (s * s : Nat) := by rw [hev, hs2']
    omega
  subst helim'
  have := fixSqrtLoop_spec n (e + 1) s e (by omega) hinv
  rw [hr] at this
  exact ⟨isRoot_of_rem this.1 (by omega), this.1⟩

-- ---------------------------------------------------------------- fix_cbrt_error!

theorem fixCbrtLoop_spec (n : Nat) : ∀ (fuel c e : Nat), e < fuel → c * c * c + e = n →
    let r := fixCbrtLoop fuel c e (3 * (c * c + c) + 1)
    r.1 * r.1 * r.1 + r.2 = n ∧ r.2 < 3 * (r.1 * r.1 + r.1) + 1 := by
  intro fuel
  induction fuel with
  | zero => intro c e h; omega
  | succ fuel ih =>
    intro c e hf hinv
    unfold fixCbrtLoop
    split
    · rename_i hge
      have := ih (c + 1) (e - (3 * (c * c + c) + 1)) (by omega) (by
        have : (c + 1) * (c + 1) * (c + 1) = c * c * c + (3 * (c * c + c) + 1) := by ring
        omega)
      have e2 : 3 * (c * c + c) + 1 + 6 * (c + 1) = 3 * ((c + 1) * (c + 1) + (c + 1)) + 1 := by ring
      rw [e2]; exact this
    · rename_i hlt
      exact ⟨hinv, by show e < 3 * (c * c + c) + 1; omega⟩

/-- **`fix_cbrt_error!` is sound** for every width and every start value it accepts -/
theorem fixCbrtError_sound {bits n c : Nat} {r : Nat × Nat} (h : fixCbrtError bits n c = some r) :
    IsRoot n 3 r.1 ∧ r.1 ^ 3 + r.2 = n := by
  unfold fixCbrtError at h
  simp only [Option.bind_eq_bind, Option.bind_eq_some_iff, Option.pure_def, Option.some.injEq] at h
  obtain ⟨cc, hcc, c3, hc3, e, he, elim, helim, hr⟩ := h
  obtain ⟨hccv, _⟩ := ck_some hcc
  obtain ⟨hc3v, _⟩ := ck_some hc3
  obtain ⟨hev, _⟩ := ck_some he
  obtain ⟨helimv, _⟩ := ck_some helim
  have hcc' : cc = c * c := by exact_mod_cast hccv
  subst hcc'
  have hc3' : c3 = c * c * c := by exact_mod_cast hc3v
  have helim' : elim = 3 * (c * c + c) + 1 := by exact_mod_cast helimv
  have hinv : c * c * c + e = n := by
    have : (e : Int) = (n : Int) - (c * c * c : Nat) := by rw [hev, hc3']
    omega
  subst helim'
  have := fixCbrtLoop_spec n (e + 1) c e (by omega) hinv
  rw [hr] at this
  obtain ⟨h1, h2⟩ := this
  have e3 : r.1 ^ 3 = r.1 * r.1 * r.1 := by ring
  refine ⟨⟨by rw [e3]; omega, ?_⟩, by rw [e3]; exact h1⟩
  have : (r.1 + 1) ^ 3 = r.1 * r.1 * r.1 + (3 * (r.1 * r.1 + r.1) + 1) := by ring
  omega

-- ---------------------------------------------------------------- the table / Newton routines are sound

theorem normSqrt_sound {bits n : Nat} {est : Option Nat} {r : Nat × Nat}
    (h : est.bind (fixSqrtError bits n) = some r) : IsRoot n 2 r.1 ∧ r.1 * r.1 + r.2 = n := by
  rw [Option.bind_eq_some_iff] at h
  obtain ⟨s, _, hs⟩ := h
  exact fixSqrtError_sound hs

theorem normCbrt_sound {bits n : Nat} {est : Option Nat} {r : Nat × Nat}
    (h : est.bind (fixCbrtError bits n) = some r) : IsRoot n 3 r.1 ∧ r.1 ^ 3 + r.2 = n := by
  rw [Option.bind_eq_some_iff] at h
  obtain ⟨s, _, hs⟩ := h
  exact fixCbrtError_sound hs

/-- a routine is *sound* when every answer it gives is the floor `k`-th root and the remainder -/
def RootSound (k : Nat) (f : Nat → Option (Nat × Nat)) : Prop :=
  ∀ n r, f n = some r → IsRoot n k r.1 ∧ r.1 ^ k + r.2 = n

theorem normSqrtU16_sound : RootSound 2 normSqrtU16 := fun _ _ h => by
  have := normSqrt_sound h; rw [Nat.pow_two]; exact this
theorem normSqrtU32_sound : RootSound 2 normSqrtU32 := fun _ _ h => by
  have := normSqrt_sound h; rw [Nat.pow_two]; exact this
theorem normSqrtU64_sound : RootSound 2 normSqrtU64 := fun _ _ h => by
  have := normSqrt_sound h; rw [Nat.pow_two]; exact this
theorem normCbrtU16_sound : RootSound 3 normCbrtU16 := fun _ _ h => normCbrt_sound h
theorem normCbrtU32_sound : RootSound 3 normCbrtU32 := fun _ _ h => normCbrt_sound h
theorem normCbrtU64_sound : RootSound 3 normCbrtU64 := fun _ _ h => normCbrt_sound h

theorem shifted_lt {bits x shift : Nat} (hx : x < 2 ^ bits) (hs : shift ≤ lzOf bits x) : x * 2 ^ shift < 2 ^ bits := by
  unfold lzOf at hs
  have h1 := lt_two_pow_bitLen x
  have hb : bitLen x ≤ bits := bitLen_le_of_lt hx
  have : x * 2 ^ shift < 2 ^ bitLen x * 2 ^ shift := Nat.mul_lt_mul_of_pos_right h1 (Nat.two_pow_pos _)
  rw [← Nat.pow_add] at this
  exact Nat.lt_of_lt_of_le this (Nat.pow_le_pow_right (by decide) (by omega))

/-- `Option.bind_some`, stated so that `simp` rewrites with it by a proper proof step instead of a definitional
    unfolding the kernel would have to re-check on the whole routine -/
theorem obind_some {α β : Type} (a : α) (f : α → Option β) : (some a).bind f = f a := by
  have h : (some a).bind f = f a := rfl
  exact h

-- ---------------------------------------------------------------- totality: the checked steps answer

theorem ck_eq {bits : Nat} {v : Int} {m : Nat} (hv : v = (m : Int)) (hm : m < 2 ^ bits) : ck bits v = some m := by
  unfold ck
  subst hv
  have : (0 : Int) ≤ (m : Int) ∧ (m : Int) < 2 ^ bits := ⟨by omega, by exact_mod_cast hm⟩
  rw [if_pos this]; simp

/-- `fix_sqrt_error!` answers from every under-estimate whose `2s + 1` fits the type -/
theorem fixSqrtError_total {bits n s : Nat} (h2 : s * s ≤ n) (hn : n < 2 ^ bits) (he : 2 * s + 1 < 2 ^ bits) :
    ∃ r, fixSqrtError bits n s = some r := by
  unfold fixSqrtError
  rw [ck_eq (m := s * s) (by push_cast; ring) (by omega)]
  simp only [Option.bind_eq_bind, Option.bind_some]
  rw [ck_eq (m := n - s * s) (by omega) (by omega)]
  simp only [Option.bind_some]
  rw [ck_eq (m := 2 * s + 1) (by push_cast; ring) he]
  exact ⟨_, rfl⟩

/-- `fix_cbrt_error!` answers from every under-estimate whose `3(c² + c) + 1` fits the type -/
theorem fixCbrtError_total {bits n c : Nat} (h3 : c * c * c ≤ n) (hn : n < 2 ^ bits) (he : 3 * (c * c + c) + 1 < 2 ^ bits) :
    ∃ r, fixCbrtError bits n c = some r := by
  unfold fixCbrtError
  rw [ck_eq (m := c * c) (by push_cast; ring) (by omega)]
  simp only [Option.bind_eq_bind, Option.bind_some]
  rw [ck_eq (m := c * c * c) (by push_cast; ring) (by omega)]
  simp only [Option.bind_some]
  rw [ck_eq (m := n - c * c * c) (by omega) (by omega)]
  simp only [Option.bind_some]
  rw [ck_eq (m := 3 * (c * c + c) + 1) (by push_cast; ring) he]
  exact ⟨_, rfl⟩

-- ---------------------------------------------------------------- the wrappers: sound, and answering when the normalised kernel does

/-- a value shifted left until at most `k` leading zeros remain is at least `2^(bits − k − 1)` -/
theorem shifted_norm_ge {bits x shift k : Nat} (hx0 : x ≠ 0) (hk : bits ≤ bitLen x + shift + k) :
    2 ^ (bits - (k + 1)) ≤ x * 2 ^ shift := by
  have h1 := two_pow_bitLen_le hx0
  have hp := bitLen_pos hx0
  have h2 : 2 ^ (bitLen x - 1) * 2 ^ shift ≤ x * 2 ^ shift := Nat.mul_le_mul_right _ h1
  rw [← Nat.pow_add] at h2
  exact Nat.le_trans (Nat.pow_le_pow_right (by decide) (by omega)) h2

theorem cube_le_of_isRoot {x s : Nat} (h : IsRoot x 3 s) : s * s * s ≤ x := by
  have := h.1
  have e : s ^ 3 = s * s * s := by ring
  rwa [e] at this

theorem sq_le_cube (s : Nat) : s * s ≤ s * s * s := by
  rcases Nat.eq_zero_or_pos s with h | h
  · subst h; simp
  · exact Nat.le_mul_of_pos_right _ h

/-- what `impl_rootrem_using_normalized!` does for either root: shift left by `t·k` bits, take the normalised root,
    shift it back by `t` bits and recompute the remainder with the checked `k`-th power `pw` -/
def rootRemShift (bits k t : Nat) (pw : Nat → Option Nat) (norm : Nat → Option (Nat × Nat)) (x : Nat) :
    Option (Nat × Nat) := do
  let (root, rem) ← norm (x * 2 ^ (t * k) % 2 ^ bits)
  if t * k ≠ 0 then do
    let root : Nat := root / 2 ^ t
    let p ← pw root
    let rem ← ck bits ((x : Int) - p)
    pure (root, rem)
  else pure (root, rem)

theorem sqrtRemNorm_eq (bits : Nat) (norm : Nat → Option (Nat × Nat)) {x : Nat} (h0 : x ≠ 0) :
    sqrtRemNorm bits norm x = rootRemShift bits 2 (lzOf bits x / 2) (fun c => ck bits (c * c)) norm x := by
  unfold sqrtRemNorm rootRemShift
  simp only [if_neg h0, Nat.mul_div_cancel _ (show 0 < 2 by decide)]

theorem cbrtRemNorm_eq (bits : Nat) (norm : Nat → Option (Nat × Nat)) {x : Nat} (h0 : x ≠ 0) :
    cbrtRemNorm bits norm x = rootRemShift bits 3 (lzOf bits x / 3)
      (fun c => (ck bits (c * c)).bind fun r2 => ck bits (r2 * c)) norm x := by
  unfold cbrtRemNorm rootRemShift
  have e : lzOf bits x - lzOf bits x % 3 = lzOf bits x / 3 * 3 := by omega
  simp only [if_neg h0, e, Nat.mul_div_cancel _ (show 0 < 3 by decide), Option.bind_eq_bind, Option.bind_assoc]

/-- the wrapper turns an exact answer of the normalised routine on `x·2^(t·k)` into the exact answer on `x` -/
theorem rootRemShift_spec {bits k t : Nat} {pw : Nat → Option Nat} {norm : Nat → Option (Nat × Nat)} {x : Nat}
    {r : Nat × Nat} (hk : 0 < k) (hpw : ∀ c, c ^ k < 2 ^ bits → pw c = some (c ^ k))
    (hx : x < 2 ^ bits) (hlt : x * 2 ^ (t * k) < 2 ^ bits) (hnorm : norm (x * 2 ^ (t * k)) = some r)
    (hroot : IsRoot (x * 2 ^ (t * k)) k r.1) (hrem : r.1 ^ k + r.2 = x * 2 ^ (t * k)) :
    ∃ r', rootRemShift bits k t pw norm x = some r' ∧ IsRoot x k r'.1 ∧ r'.1 ^ k + r'.2 = x := by
  unfold rootRemShift
  rw [Nat.mod_eq_of_lt hlt, hnorm]
  obtain ⟨root, rem⟩ := r
  simp only [Option.bind_eq_bind, obind_some] at hroot hrem ⊢
  by_cases hs0 : t * k ≠ 0
  · rw [if_pos hs0]
    rw [Nat.pow_mul] at hroot
    have hd := root_denormalise hk hroot
    generalize root / 2 ^ t = c at *
    have hc : c ^ k ≤ x := hd.1
    rw [hpw c (by omega), obind_some, ck_eq (m := x - c ^ k) (by omega) (by omega), obind_some]
    exact ⟨_, rfl, hd, by simp only []; omega⟩
  · rw [if_neg hs0]
    have : t * k = 0 := by omega
    rw [this, Nat.pow_zero, Nat.mul_one] at hroot hrem
    exact ⟨_, rfl, hroot, hrem⟩

/-- soundness and totality of the wrapper, from soundness of the normalised routine on the one value it is handed -/
theorem rootRemShift_sound_total {bits k t : Nat} {pw : Nat → Option Nat} {norm : Nat → Option (Nat × Nat)} {x : Nat}
    (hk : 0 < k) (hpw : ∀ c, c ^ k < 2 ^ bits → pw c = some (c ^ k)) (hx : x < 2 ^ bits)
    (hlt : x * 2 ^ (t * k) < 2 ^ bits)
    (hs : ∀ r, norm (x * 2 ^ (t * k)) = some r → IsRoot (x * 2 ^ (t * k)) k r.1 ∧ r.1 ^ k + r.2 = x * 2 ^ (t * k)) :
    (∀ r, rootRemShift bits k t pw norm x = some r → IsRoot x k r.1 ∧ r.1 ^ k + r.2 = x) ∧
    ((∃ r, norm (x * 2 ^ (t * k)) = some r) → ∃ r, rootRemShift bits k t pw norm x = some r) := by
  rcases hnorm : norm (x * 2 ^ (t * k)) with _ | r0
  · refine ⟨fun r h => ?_, fun ⟨_, h⟩ => nomatch h⟩
    unfold rootRemShift at h
    rw [Nat.mod_eq_of_lt hlt, hnorm] at h
    exact nomatch h
  · obtain ⟨r', hr', hres⟩ := rootRemShift_spec hk hpw hx hlt hnorm (hs _ hnorm).1 (hs _ hnorm).2
    exact ⟨fun r h => by rw [hr'] at h; cases h; exact hres, fun _ => ⟨_, hr'⟩⟩

/-- the checked square of `sqrt_rem` -/
theorem ck_sq {bits : Nat} (c : Nat) (h : c ^ 2 < 2 ^ bits) : ck bits ((c : Int) * c) = some (c ^ 2) :=
  ck_eq (by push_cast; ring) h

/-- the checked cube of `cbrt_rem`: the square fits because the cube does -/
theorem ck_cube {bits : Nat} (c : Nat) (h : c ^ 3 < 2 ^ bits) :
    ((ck bits ((c : Int) * c)).bind fun r2 => ck bits ((r2 : Int) * c)) = some (c ^ 3) := by
  have e : c ^ 3 = c * c * c := by ring
  have := sq_le_cube c
  rw [ck_eq (m := c * c) (by push_cast; ring) (by omega), obind_some]
  exact ck_eq (by push_cast; ring) h

theorem isRoot_zero (k : Nat) (hk : 0 < k) : IsRoot 0 k 0 ∧ 0 ^ k + 0 = 0 := by
  simp [IsRoot, Nat.zero_pow hk]

/-- **either wrapper of `impl_rootrem_using_normalized!`** (`wrap` is `rootRemShift` by `lz / k` on non-zero values) over
    a kernel whose answers are exact on NORMALISED inputs (fewer than `k` leading zero bits), the only inputs it is
    handed: every answer of the wrapper is exact, and it answers whenever the kernel answers on normalised inputs -/
theorem rootRemNorm_spec {bits k : Nat} {pw : Nat → Option Nat} {wrap norm : Nat → Option (Nat × Nat)} (hk : 0 < k)
    (hpw : ∀ c, c ^ k < 2 ^ bits → pw c = some (c ^ k)) (h0 : wrap 0 = some (0, 0))
    (heq : ∀ x, x ≠ 0 → wrap x = rootRemShift bits k (lzOf bits x / k) pw norm x)
    (hs : ∀ y, 2 ^ (bits - k) ≤ y → y < 2 ^ bits → ∀ r, norm y = some r → IsRoot y k r.1 ∧ r.1 ^ k + r.2 = y)
    {x : Nat} (hx : x < 2 ^ bits) :
    (∀ r, wrap x = some r → IsRoot x k r.1 ∧ r.1 ^ k + r.2 = x) ∧
    ((∀ y, 2 ^ (bits - k) ≤ y → y < 2 ^ bits → ∃ r, norm y = some r) → ∃ r, wrap x = some r) := by
  by_cases hx0 : x = 0
  · subst hx0
    rw [h0]
    exact ⟨fun r h => by cases h; exact isRoot_zero k hk, fun _ => ⟨_, rfl⟩⟩
  · rw [heq x hx0]
    have hb := bitLen_le_of_lt hx
    have hdm := Nat.div_add_mod (lzOf bits x) k
    have hml := Nat.mod_lt (lzOf bits x) hk
    rw [Nat.mul_comm] at hdm
    have hlt := shifted_lt hx (show lzOf bits x / k * k ≤ lzOf bits x by omega)
    have hge := shifted_norm_ge (k := k - 1) hx0 (show bits ≤ bitLen x + lzOf bits x / k * k + (k - 1) by
      unfold lzOf at hdm hml ⊢; omega)
    rw [Nat.sub_add_cancel hk] at hge
    obtain ⟨h1, h2⟩ := rootRemShift_sound_total hk hpw hx hlt (hs _ hge hlt)
    exact ⟨h1, fun ht => h2 (ht _ hge hlt)⟩

/-- **`sqrt_rem` of `u16 … u128`** over a kernel exact on normalised inputs (at most one leading zero bit) -/
theorem sqrtRemNorm_spec {bits : Nat} {norm : Nat → Option (Nat × Nat)}
    (hs : ∀ y, 2 ^ (bits - 2) ≤ y → y < 2 ^ bits → ∀ r, norm y = some r → IsRoot y 2 r.1 ∧ r.1 ^ 2 + r.2 = y)
    {x : Nat} (hx : x < 2 ^ bits) :
    (∀ r, sqrtRemNorm bits norm x = some r → IsRoot x 2 r.1 ∧ r.1 ^ 2 + r.2 = x) ∧
    ((∀ y, 2 ^ (bits - 2) ≤ y → y < 2 ^ bits → ∃ r, norm y = some r) → ∃ r, sqrtRemNorm bits norm x = some r) :=
  rootRemNorm_spec (by decide) ck_sq rfl (fun _ => sqrtRemNorm_eq bits norm) hs hx

/-- **`cbrt_rem` of `u16 … u128`** over a kernel exact on normalised inputs (at most two leading zero bits) -/
theorem cbrtRemNorm_spec {bits : Nat} {norm : Nat → Option (Nat × Nat)}
    (hs : ∀ y, 2 ^ (bits - 3) ≤ y → y < 2 ^ bits → ∀ r, norm y = some r → IsRoot y 3 r.1 ∧ r.1 ^ 3 + r.2 = y)
    {x : Nat} (hx : x < 2 ^ bits) :
    (∀ r, cbrtRemNorm bits norm x = some r → IsRoot x 3 r.1 ∧ r.1 ^ 3 + r.2 = x) ∧
    ((∀ y, 2 ^ (bits - 3) ≤ y → y < 2 ^ bits → ∃ r, norm y = some r) → ∃ r, cbrtRemNorm bits norm x = some r) :=
  rootRemNorm_spec (by decide) ck_cube rfl (fun _ => cbrtRemNorm_eq bits norm) hs hx

end Dashu.Model.NT
