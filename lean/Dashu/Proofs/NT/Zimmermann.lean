import Dashu.Model.NT.Zimmermann
import Dashu.Proofs.NT.Root
import Mathlib.Tactic.Ring
import Mathlib.Tactic.LinearCombination
/-
  C12: Zimmermann's Karatsuba square root (`integer/src/root.rs`): the mirrored `sqrt_rem_42` and the
  recursive `sqrt_rem` return the floor square root and the remainder (with its carry).
-/
namespace Dashu.Model.NT
open Dashu.Model

/-- **The Karatsuba square-root step** (Zimmermann 1999), over the integers: from the root and
    remainder of the high part, one division by `2·s1` gives a root candidate `s = s1·B + q` whose
    remainder `r = U·B + b0 − q²` is exact; `q ≤ B`; `r ≤ 2s`; a negative `r` is repaired by one
    decrement; and `q = B` always needs the repair. -/
theorem karatsuba_step {s1 R1 B b1 b0 q U hi : Nat}
    (hhi : hi = s1 * s1 + R1) (hR1 : R1 ≤ 2 * s1) (hB : B ≤ 2 * s1) (hb1 : b1 < B) (hb0 : b0 < B)
    (hdiv : R1 * B + b1 = 2 * q * s1 + U) (hU : U < 2 * s1) :
    ((hi * (B * B) + b1 * B + b0 : Nat) : Int) = ((s1 * B + q) * (s1 * B + q) : Nat) + ((U * B + b0 : Nat) - (q * q : Nat) : Int) ∧
    q ≤ B ∧
    ((U * B + b0 : Nat) : Int) - (q * q : Nat) ≤ 2 * ((s1 * B + q : Nat) : Int) ∧
    (((U * B + b0 : Nat) : Int) - (q * q : Nat) < 0 →
        0 ≤ ((U * B + b0 : Nat) : Int) - (q * q : Nat) + 2 * ((s1 * B + q : Nat) : Int) - 1 ∧ 1 ≤ q) ∧
    (q = B → ((U * B + b0 : Nat) : Int) - (q * q : Nat) < 0) := by
  have hqB : q ≤ B := by
    by_contra hc
    have h1 : (B + 1) * s1 ≤ q * s1 := Nat.mul_le_mul_right _ (by omega)
    have h2 : R1 * B ≤ 2 * s1 * B := Nat.mul_le_mul_right _ hR1
    rw [Nat.succ_mul] at h1
    rw [Nat.mul_assoc, Nat.mul_comm s1 B] at h2
    rw [Nat.mul_assoc] at hdiv
    omega
  have hq2 : q * q ≤ B * B := Nat.mul_le_mul hqB hqB
  have hBB : B * B ≤ 2 * (s1 * B) := by
    have := Nat.mul_le_mul_right B hB
    rwa [Nat.mul_assoc] at this
  have hUB : U * B + B ≤ 2 * (s1 * B) := by
    have := Nat.mul_le_mul_right B (show U + 1 ≤ 2 * s1 from hU)
    rwa [Nat.succ_mul, Nat.mul_assoc] at this
  refine ⟨?_, hqB, by omega, fun hneg => ?_, ?_⟩
  · subst hhi
    have hd : ((R1 * B + b1 : Nat) : Int) = ((2 * q * s1 + U : Nat) : Int) := by rw [hdiv]
    push_cast at hd ⊢
    linear_combination (B : Int) * hd
  · rcases Nat.eq_zero_or_pos q with rfl | hq1
    · omega
    · omega
  · intro hq
    subst hq
    -- U ≤ b1 < q
    have h2 : R1 * q ≤ 2 * s1 * q := Nat.mul_le_mul_right _ hR1
    rw [Nat.mul_right_comm 2 s1 q] at h2
    have hUq : (U + 1) * q ≤ q * q := Nat.mul_le_mul_right _ (by omega)
    rw [Nat.succ_mul] at hUq
    omega

-- ---------------------------------------------------------------- in-place primitives on values

theorem sub_mod_val {M x y : Nat} (hx : x < M) (hy : y ≤ M) :
    (x + M - y) % M = if x < y then x + M - y else x - y := by
  split
  · rw [Nat.mod_eq_of_lt (by omega)]
  · have : x + M - y = (x - y) + M := by omega
    rw [this, Nat.add_mod_right, Nat.mod_eq_of_lt (by omega)]

theorem div_lt_two {M t : Nat} (hM : 0 < M) (ht : t < 2 * M) : t / M = if t < M then 0 else 1 := by
  split
  · exact Nat.div_eq_of_lt ‹_›
  · have h1 : t / M < 2 := by rw [Nat.div_lt_iff_lt_mul hM]; omega
    have h2 : 1 ≤ t / M := by rw [Nat.le_div_iff_mul_le hM]; omega
    omega

theorem mod_lt_two {M t : Nat} (hM : 0 < M) (ht : t < 2 * M) : t % M = if t < M then t else t - M := by
  have h := Nat.div_add_mod t M
  rw [div_lt_two hM ht] at h
  split <;> rename_i hc <;> simp only [hc, if_true, if_false] at h <;> omega

/-- a wrapping subtraction together with its borrow is the exact signed difference -/
theorem sub_borrow_val {M x y : Nat} (hx : x < M) (hy : y ≤ M) :
    (((x + M - y) % M : Nat) : Int) = x - y + (if x < y then 1 else 0) * M := by
  rw [sub_mod_val hx hy]
  split <;> omega

/-- result of `kDiv`: the true quotient `q = qlo + q_top·B` and remainder `U = u + c·Mh` of the
    division of `R1·B + b1` by `2·s1` -/
theorem kDiv_spec {B Bh Mh s1 r1 b1 k : Nat} {r1top : Bool}
    (hBh : Bh = 2 ^ k) (hB : B = 2 * Bh) (hs1 : s1 < Mh) (hn : Mh ≤ 2 * s1) (hr1 : r1 < Mh)
    (hR1 : r1 + (if r1top then Mh else 0) ≤ 2 * s1) (hb1 : b1 < B) :
    ∃ qlo qtop u c0, kDiv B Bh Mh s1 r1 r1top b1 = (qlo, qtop, u, ((c0 : Nat) : Int)) ∧
      qlo < B ∧ u < Mh ∧ c0 ≤ 1 ∧ u + c0 * Mh < 2 * s1 ∧
      (r1 + (if r1top then Mh else 0)) * B + b1 = 2 * (qlo + (if qtop then B else 0)) * s1 + (u + c0 * Mh) := by
  have hs1pos : 0 < s1 := by omega
  have hMh : 0 < Mh := by omega
  have hBhpos : 0 < Bh := by rw [hBh]; exact Nat.two_pow_pos k
  -- stage 1: the conditional subtraction
  obtain ⟨r1', hr1'def, hr1'lt, hr1'val⟩ : ∃ v, v = (if r1top then (r1 + Mh - s1) % Mh else r1) ∧ v < Mh ∧
      v + (if r1top then s1 else 0) = r1 + (if r1top then Mh else 0) := by
    refine ⟨_, rfl, ?_, ?_⟩
    · cases r1top
      · simpa using hr1
      · simp only [if_true]; exact Nat.mod_lt _ hMh
    · cases r1top
      · simp
      · simp only [if_true] at hR1 ⊢
        rw [Nat.mod_eq_of_lt (by omega)]; omega
  -- stage 2: the division
  have hdm := Nat.div_add_mod (r1' * B + b1) s1
  have hult := Nat.mod_lt (r1' * B + b1) hs1pos
  have hQlt : (r1' * B + b1) / s1 < 2 * B := by
    rw [Nat.div_lt_iff_lt_mul hs1pos]
    have h1 : (r1' + 1) * B ≤ Mh * B := Nat.mul_le_mul_right _ (by omega)
    have h2 : Mh * B ≤ 2 * s1 * B := Nat.mul_le_mul_right _ hn
    have e1 : (r1' + 1) * B = r1' * B + B := by ring
    have e2 : 2 * B * s1 = 2 * s1 * B := by ring
    omega
  unfold kDiv
  simp only []
  rw [← hr1'def]
  generalize (r1' * B + b1) / s1 = Q at *
  generalize (r1' * B + b1) % s1 = u at *
  have hBpos : 0 < B := by omega
  have hQlolt : Q % B < B := Nat.mod_lt _ hBpos
  have hQs := Nat.mod_add_div Q B
  have hcylt : Q / B < 2 := by rw [Nat.div_lt_iff_lt_mul hBpos]; omega
  have hpar := Nat.div_add_mod (Q % B) 2
  have hparlt : Q % B % 2 < 2 := Nat.mod_lt _ (by decide)
  generalize Q % B % 2 = par at *
  generalize Q % B / 2 = qh at *
  generalize Q % B = Qlo at *
  generalize Q / B = cy at *
  have hqh : qh < Bh := by omega
  have hor : ∀ x : Bool, (qh ||| (if x then Bh else 0)) = qh + (if x then Bh else 0) := by
    intro x
    cases x
    · simp
    · simp only [if_true]
      have := Nat.two_pow_add_eq_or_of_lt (i := k) (b := qh) (by rw [← hBh]; exact hqh) 1
      rw [Nat.mul_one, ← hBh] at this
      rw [Nat.or_comm, ← this, Nat.add_comm]
  rw [hor]
  have hm := Nat.mod_add_div (u + s1) Mh
  have hc0 : (u + s1) / Mh < 2 := by rw [Nat.div_lt_iff_lt_mul hMh]; omega
  have hu' := Nat.mod_lt (u + s1) hMh
  generalize (u + s1) % Mh = u' at *
  generalize (u + s1) / Mh = c0 at *
  subst hB
  have hcy : cy = 0 ∨ cy = 1 := by omega
  have hpr : par = 0 ∨ par = 1 := by omega
  -- the two top quotient bits are the 2-bit sum of `r1_top` and the carry of the division
  have htop : (if (r1top != decide (cy > 0)) = true then Bh else 0) + (if (r1top && decide (cy > 0)) = true then 2 * Bh else 0)
      = ((if r1top then 1 else 0) + cy) * Bh := by
    rcases hcy with rfl | rfl <;> cases r1top <;> simp
  have hX1 : (if (r1top != decide (cy > 0)) = true then Bh else 0) ≤ Bh := by split <;> omega
  have hd1 : (if r1top then Mh else 0) = (if r1top then 1 else 0) * Mh := by cases r1top <;> simp
  have hd2 : (if r1top then s1 else 0) = (if r1top then 1 else 0) * s1 := by cases r1top <;> simp
  rw [hd2] at hr1'val
  rw [hd1] at hr1'val ⊢
  obtain ⟨qtop, hqtop⟩ : ∃ qtop, qtop = (r1top && decide (cy > 0)) := ⟨_, rfl⟩
  rw [← hqtop] at htop ⊢
  generalize (if r1top then 1 else 0 : Nat) = t at *
  generalize (if (r1top != decide (cy > 0)) = true then Bh else 0) = X1 at *
  generalize hX2 : (if qtop = true then 2 * Bh else 0) = X2 at htop
  have hc0' : c0 * Mh = Mh * c0 := Nat.mul_comm _ _
  have hqlo : qh + X1 < 2 * Bh := by omega
  clear hn hr1 hR1 hb1 hQlt hQlolt hcylt hparlt hcy hr1'lt hqh hX1 hor hBpos hBhpos hs1pos
  -- in both cases the remainder is `u + par·s1`
  have key : (r1 + t * Mh) * (2 * Bh) + b1 = 2 * (qh + X1 + X2) * s1 + (u + par * s1) := by
    zify at hr1'val hdm hQs hpar htop ⊢
    linear_combination (-(2 * Bh : Int)) * hr1'val - hdm - (s1 : Int) * hQs - (s1 : Int) * hpar - 2 * (s1 : Int) * htop
  rcases hpr with rfl | rfl
  · rw [if_neg (by decide)]
    refine ⟨_, _, u, 0, rfl, hqlo, Nat.lt_trans hult hs1, Nat.zero_le 1, by omega, ?_⟩
    rw [hX2, key, Nat.zero_mul, Nat.zero_mul]
  · rw [if_pos rfl]
    refine ⟨_, _, u', c0, rfl, hqlo, hu', by omega, by omega, ?_⟩
    rw [hX2, key, hc0', hm, Nat.one_mul]

theorem carry01 {c : Int} {Mn alo : Nat} (h0 : 0 ≤ c * Mn + alo) (h1 : c * Mn + alo < 2 * Mn)
    (halo : alo < Mn) : c = 0 ∨ c = 1 := by
  have hM : (0 : Int) ≤ (Mn : Int) := Int.natCast_nonneg _
  have ha : ((alo : Nat) : Int) < Mn := by exact_mod_cast halo
  have ha0 : (0 : Int) ≤ (alo : Int) := Int.natCast_nonneg _
  by_contra hc
  rcases Int.lt_or_le c 0 with h | h
  · have : c * Mn ≤ (-1) * Mn := Int.mul_le_mul_of_nonneg_right (by omega) hM
    omega
  · have : 2 * (Mn : Int) ≤ c * Mn := Int.mul_le_mul_of_nonneg_right (by omega) hM
    omega

theorem neg_iff_carry {c : Int} {Mn alo : Nat} (halo : alo < Mn) : c < 0 ↔ c * Mn + alo < 0 := by
  have hM : (0 : Int) ≤ (Mn : Int) := Int.natCast_nonneg _
  have ha : ((alo : Nat) : Int) < Mn := by exact_mod_cast halo
  have ha0 : (0 : Int) ≤ (alo : Int) := Int.natCast_nonneg _
  constructor
  · intro h
    have : c * Mn ≤ (-1) * Mn := Int.mul_le_mul_of_nonneg_right (by omega) hM
    omega
  · intro h
    by_contra hc
    have : 0 * (Mn : Int) ≤ c * Mn := Int.mul_le_mul_of_nonneg_right (by omega) hM
    omega

/-- result of `kSub`: `c·Mn + a_lo` is the exact (signed) remainder `U·B + b0 − q²` -/
theorem kSub_spec {B Mh Mn E qlo u c0 b0 : Nat} {odd qtop : Bool}
    (hMn : Mn = Mh * B) (hE : Mn = B * B * E) (hEpos : 0 < E) (hodd : odd = false → E = 1)
    (hu : u < Mh) (hb0 : b0 < B) (hq : qlo + (if qtop then B else 0) ≤ B) :
    ∃ alo c, kSub B Mn odd qlo qtop u ((c0 : Nat) : Int) b0 = (alo, c) ∧ alo < Mn ∧
      c * Mn + alo = (((u + c0 * Mh) * B + b0 : Nat) : Int)
        - (((qlo + (if qtop then B else 0)) * (qlo + (if qtop then B else 0)) : Nat) : Int) := by
  have halo : u * B + b0 < Mn := by
    have : (u + 1) * B ≤ Mh * B := Nat.mul_le_mul_right _ (by omega)
    have e : (u + 1) * B = u * B + B := by ring
    omega
  have hBB : B * B ≤ Mn := by rw [hE]; exact Nat.le_mul_of_pos_right _ hEpos
  unfold kSub
  simp only []
  refine ⟨_, _, rfl, Nat.mod_lt _ (by omega), ?_⟩
  cases qtop
  · simp only [Bool.false_eq_true, if_false, Nat.add_zero, Int.sub_zero] at hq ⊢
    have hqq : qlo * qlo ≤ B * B := Nat.mul_le_mul hq hq
    have hahi : (if odd = true then qlo * qlo else qlo * qlo) = qlo * qlo := by split <;> rfl
    have hc : (if odd = true then ((c0 : Nat) : Int) else (c0 : Int)) = c0 := by split <;> rfl
    rw [hahi, hc, sub_mod_val halo (by omega)]
    split
    · rename_i hlt
      have : ((u * B + b0 + Mn - qlo * qlo : Nat) : Int) = (u * B + b0 + Mn : Nat) - (qlo * qlo : Nat) :=
        Int.ofNat_sub (by omega)
      rw [this, hMn]; push_cast; ring
    · rename_i hge
      have : ((u * B + b0 - qlo * qlo : Nat) : Int) = (u * B + b0 : Nat) - (qlo * qlo : Nat) :=
        Int.ofNat_sub (by omega)
      rw [this, hMn]; push_cast; ring
  · simp only [if_true] at hq ⊢
    have hq0 : qlo = 0 := by omega
    subst hq0
    cases odd
    · have hE1 := hodd rfl
      subst hE1
      simp only [Bool.false_eq_true, if_false, Nat.zero_add, Nat.mul_one] at hE ⊢
      rw [sub_mod_val halo (by omega)]
      simp only [Nat.not_lt_zero, if_false, Nat.sub_zero, Int.sub_zero]
      have e1 : ((Mn : Nat) : Int) = (B : Int) * B := by rw [hE]; push_cast; ring
      have e2 : ((Mh * B : Nat) : Int) = (B : Int) * B := by rw [← hMn, e1]
      push_cast at e2 ⊢
      rw [e1]; linear_combination (-(c0 : Int)) * e2
    · simp only [if_true, Nat.zero_add]
      rw [sub_mod_val halo hBB]
      split
      · rename_i hlt
        have : ((u * B + b0 + Mn - B * B : Nat) : Int) = (u * B + b0 + Mn : Nat) - (B * B : Nat) :=
          Int.ofNat_sub (by omega)
        rw [this, hMn]; push_cast; ring
      · rename_i hge
        have : ((u * B + b0 - B * B : Nat) : Int) = (u * B + b0 : Nat) - (B * B : Nat) :=
          Int.ofNat_sub (by omega)
        rw [this, hMn]; push_cast; ring

/-- what `sqrt_rem` promises for its three outputs on a `2n`-word value `a` (`Mn = 2^(W·n)`) -/
def KOut (Mn a : Nat) (res : Nat × Nat × Bool) : Prop :=
  res.1 * res.1 + (res.2.1 + (if res.2.2 then Mn else 0)) = a ∧
  res.2.1 + (if res.2.2 then Mn else 0) ≤ 2 * res.1 ∧ res.2.1 < Mn

/-- a non-negative signed remainder `c·M + r` below `2M` has carry `c ∈ {0, 1}`: it is the output triple -/
theorem KOut.of_signed {M a s r : Nat} {c : Int} (hr : r < M) (hs : s < M)
    (hid : (a : Int) = (s * s : Nat) + (c * M + r)) (h0 : 0 ≤ c * M + r) (h1 : c * M + r ≤ 2 * s) :
    KOut M a (s, r, decide (c > 0)) := by
  rcases carry01 h0 (by omega) hr with rfl | rfl
  · exact ⟨by simp at hid ⊢; omega, by simp at h1 ⊢; omega, hr⟩
  · refine ⟨?_, ?_, hr⟩ <;> simp only [show (1 : Int) > 0 by decide, decide_true, if_true] <;> omega

/-- the repair of a negative signed remainder `V ≥ −(2s − 1)`: the root drops by one and `V` grows by `2s − 1` -/
theorem signed_fix {n s : Nat} {V : Int} (hid : (n : Int) = (s * s : Nat) + V) (hneg : V < 0)
    (h0 : 0 ≤ V + 2 * s - 1) (hs : 1 ≤ s) :
    (n : Int) = ((s - 1) * (s - 1) : Nat) + (V + 2 * s - 1) ∧ V + 2 * s - 1 ≤ 2 * ((s - 1 : Nat) : Int) := by
  obtain ⟨t, rfl⟩ : ∃ t, s = t + 1 := ⟨s - 1, by omega⟩
  refine ⟨?_, by omega⟩
  rw [hid, Nat.add_sub_cancel]; push_cast; ring

/-- `r.overflowing_add(s)` then `.overflowing_add(s − 1)`, both carries added to `c`: the signed remainder
    grows by `2s − 1` -/
theorem add_twice_val {M s r : Nat} {c : Int} (hs : 1 ≤ s) :
    (c + ((r + s) / M : Nat) + (((r + s) % M + (s - 1)) / M : Nat)) * M + (((r + s) % M + (s - 1)) % M : Nat)
      = c * M + r + 2 * s - 1 := by
  have e1 := Nat.mod_add_div (r + s) M
  have e2 := Nat.mod_add_div ((r + s) % M + (s - 1)) M
  generalize (r + s) % M = t1 at *
  generalize (r + s) / M = k1 at *
  generalize (t1 + (s - 1)) % M = t2 at *
  generalize (t1 + (s - 1)) / M = k2 at *
  zify [hs] at e1 e2
  linear_combination e1 + e2

/-- result of `kFix`: from a candidate `s = s1·B + q` with signed remainder `r = c·Mn + a_lo`
    (`r ≤ 2s`, one decrement repairs a negative `r`, `q_top` forces the repair) the final triple -/
theorem kFix_spec {B Mh Mn s1 qlo alo n : Nat} {qtop : Bool} {c : Int}
    (hMn : Mn = Mh * B) (hs1 : s1 < Mh) (hqlo : qlo < B) (hq : qlo + (if qtop then B else 0) ≤ B)
    (halo : alo < Mn)
    (hid : (n : Int) = ((s1 * B + (qlo + (if qtop then B else 0))) * (s1 * B + (qlo + (if qtop then B else 0))) : Nat)
      + (c * Mn + alo))
    (h1 : c * Mn + alo ≤ 2 * ((s1 * B + (qlo + (if qtop then B else 0)) : Nat) : Int))
    (h2 : c * Mn + alo < 0 → 0 ≤ c * Mn + alo + 2 * ((s1 * B + (qlo + (if qtop then B else 0)) : Nat) : Int) - 1 ∧
        1 ≤ qlo + (if qtop then B else 0))
    (h3 : qtop = true → c * Mn + alo < 0) :
    KOut Mn n (kFix B Mh Mn s1 qlo qtop alo c) := by
  have hsB : (s1 + 1) * B ≤ Mh * B := Nat.mul_le_mul_right _ hs1
  rw [Nat.succ_mul, ← hMn] at hsB
  unfold kFix
  by_cases hc : c < 0
  · have hV := (neg_iff_carry halo).1 hc
    obtain ⟨h0, hq1⟩ := h2 hV
    rw [if_pos hc]
    extract_lets t ov b t2 c1 alo3 c2 alo4 bf
    have hMhpos : 0 < Mh := by omega
    have hMnpos : 0 < Mn := by omega
    -- `add_word_in_place(b[split..], q_top)`: the root is `b + ov·Mn`
    have hov : t % Mh + Mh * ov = t := Nat.mod_add_div t Mh
    have ht : t % Mh < Mh := Nat.mod_lt _ hMhpos
    have hovlt : ov < 2 := (Nat.div_lt_iff_lt_mul hMhpos).2 (by simp only [t]; split <;> omega)
    have e1 : t * B = s1 * B + (if qtop then B else 0) := by
      simp only [t]; cases qtop <;> simp [Nat.add_mul]
    clear_value t ov
    have hs : s1 * B + (qlo + (if qtop then B else 0)) = b + ov * Mn := by
      have e2 : (t % Mh + Mh * ov) * B = t % Mh * B + ov * Mn := by rw [hMn]; ring
      rw [hov, e1] at e2
      omega
    have hb : b < Mn := by
      have : (t % Mh + 1) * B ≤ Mh * B := Nat.mul_le_mul_right _ ht
      rw [Nat.succ_mul, ← hMn] at this
      omega
    have hsle : s1 * B + (qlo + (if qtop then B else 0)) ≤ Mn := by omega
    generalize s1 * B + (qlo + (if qtop then B else 0)) = s at *
    have hs1 : 1 ≤ s := by omega
    obtain ⟨hid', hle'⟩ := signed_fix hid hV h0 hs1
    -- `add_mul_word_in_place(a_lo, 2, b)`, then the two `sub_one_in_place`
    have ht2 : alo3 + Mn * (t2 / Mn) = alo + 2 * b := Nat.mod_add_div t2 Mn
    have halo3 : alo3 < Mn := Nat.mod_lt _ hMnpos
    have halo4 : alo4 < Mn := Nat.mod_lt _ hMnpos
    have hbf : bf = s - 1 := by
      simp only [bf]
      rw [sub_mod_val hb hMnpos]
      clear * - hs hsle hs1 hovlt
      have : ov = 0 ∨ ov = 1 := by omega
      rcases this with rfl | rfl <;> split <;> omega
    have hacc : c2 * Mn + alo4 = c * Mn + alo + 2 * s - 1 := by
      have h4 := sub_borrow_val halo3 hMnpos
      have e : (if alo3 = 0 then (1 : Int) else 0) = if alo3 < 1 then 1 else 0 := by
        by_cases h : alo3 = 0 <;> simp [h]
      simp only [c2, c1, alo4]
      rw [h4, e]
      generalize (if alo3 < 1 then (1 : Int) else 0) = bw
      generalize t2 / Mn = k2 at *
      zify at ht2 hs
      linear_combination ht2 - 2 * hs
    clear_value c2 alo4 bf alo3 t2 b
    subst hbf
    rw [← hacc] at hid' hle' h0
    exact KOut.of_signed halo4 (by omega) hid' h0 hle'
  · have hqt : qtop = false := by
      cases qtop
      · rfl
      · exact absurd (h3 rfl) (fun h => hc ((neg_iff_carry halo).2 h))
    subst hqt
    rw [if_neg hc]
    simp only [Bool.false_eq_true, if_false, Nat.add_zero] at hid h1
    exact KOut.of_signed halo (by omega) hid (Int.not_lt.1 fun h => hc ((neg_iff_carry halo).2 h)) h1

/-- **one level of `root::sqrt_rem` is correct**: from the root and remainder (with carry) of the high
    `2h` words, `kStep` returns the root and remainder (with carry) of all `2n` words -/
theorem kStep_spec {B Bh Mh Mn E s1 r1 b1 b0 hi k : Nat} {odd r1top : Bool}
    (hBh : Bh = 2 ^ k) (hB : B = 2 * Bh) (hMn : Mn = Mh * B) (hE : Mn = B * B * E) (hEpos : 0 < E)
    (hodd : odd = false → E = 1) (hnorm : Mh ≤ 2 * s1) (hb1 : b1 < B) (hb0 : b0 < B)
    (hrec : KOut Mh hi (s1, r1, r1top)) (hs1 : s1 < Mh) :
    KOut Mn (hi * (B * B) + b1 * B + b0) (kStep B Bh Mh Mn odd s1 r1 r1top b1 b0) := by
  obtain ⟨hval, hle, hr1⟩ := hrec
  simp only [] at hval hle hr1
  have hBpos : 0 < B := by
    have : 0 < Bh := by rw [hBh]; exact Nat.two_pow_pos k
    omega
  have hBle : B ≤ 2 * s1 := by
    have : B ≤ Mh := by
      by_contra hc
      have h1 : Mh * B ≤ B * B := Nat.mul_le_mul_right _ (by omega)
      have h2 : B * B ≤ B * B * E := Nat.le_mul_of_pos_right _ hEpos
      have h3 : Mh * B < B * B := Nat.mul_lt_mul_of_pos_right (by omega) hBpos
      omega
    omega
  obtain ⟨qlo, qtop, u, c0, hkd, hqlo, hu, hc0, hU, hdiv⟩ :=
    kDiv_spec (r1top := r1top) hBh hB hs1 hnorm hr1 hle hb1
  obtain ⟨hid, hqB, hr2s, hneg, hqtopneg⟩ :=
    karatsuba_step (hi := hi) (b0 := b0) hval.symm hle hBle hb1 hb0 hdiv hU
  obtain ⟨alo, c, hks, halo, hacc⟩ :=
    kSub_spec (odd := odd) (qtop := qtop) (qlo := qlo) (c0 := c0) hMn hE hEpos hodd hu hb0 hqB
  have hacc' : c * Mn + alo = (((u + c0 * Mh) * B + b0 : Nat) : Int)
      - (((qlo + (if qtop then B else 0)) * (qlo + (if qtop then B else 0)) : Nat) : Int) := hacc
  unfold kStep
  rw [hkd]
  simp only []
  rw [hks]
  exact kFix_spec hMn hs1 hqlo hqB halo (by rw [hacc']; exact hid) (by rw [hacc']; exact hr2s)
    (by rw [hacc']; exact hneg)
    (by
      intro hq
      rw [hacc']
      apply hqtopneg
      subst hq
      simp only [if_true] at hqB ⊢
      omega)

/-- a floor square root of a value `≥ (M/2)²` is at least `M/2` -/
theorem root_normalised {hi s1 r Mhh : Nat} (hval : s1 * s1 + r = hi) (hr : r ≤ 2 * s1)
    (hn : Mhh * Mhh ≤ hi) : 2 * Mhh ≤ 2 * s1 := by
  by_contra hc
  have h1 : s1 + 1 ≤ Mhh := by omega
  have h2 : (s1 + 1) * (s1 + 1) ≤ Mhh * Mhh := Nat.mul_le_mul h1 h1
  have e : (s1 + 1) * (s1 + 1) = s1 * s1 + 2 * s1 + 1 := by ring
  omega

theorem root_lt {a s r M : Nat} (hval : s * s + r = a) (ha : a < M * M) : s < M := by
  by_contra hc
  have : M * M ≤ s * s := Nat.mul_le_mul (by omega) (by omega)
  omega

/-- contract of the double-word square root `sqrt_rem_42` starts from (`DoubleWord::sqrt_rem` on a
    normalised value) -/
def PrimSqrtContract (W : Nat) (prim : Nat → Nat × Nat) : Prop :=
  ∀ x, 2 ^ (W - 1) * 2 ^ (W - 1) ≤ x → x < 2 ^ W * 2 ^ W →
    (prim x).1 * (prim x).1 + (prim x).2 = x ∧ (prim x).2 ≤ 2 * (prim x).1

theorem split3 (a B : Nat) :
    a = a / (B * B) * (B * B) + a / B % B * B + a % B := by
  have h1 := Nat.div_add_mod a B
  have h2 := Nat.div_add_mod (a / B) B
  rw [Nat.div_div_eq_div_mul] at h2
  have e : a / (B * B) * (B * B) = B * (B * (a / (B * B))) := by ring
  have e2 : B * (B * (a / (B * B)) + a / B % B) = B * (B * (a / (B * B))) + a / B % B * B := by ring
  rw [← h2, e2] at h1
  omega

theorem two_pow_pred {k : Nat} (hk : 0 < k) : 2 ^ k = 2 * 2 ^ (k - 1) := by
  have : k = (k - 1) + 1 := by omega
  conv => lhs; rw [this, Nat.pow_succ]
  omega

theorem mul_two_pow_or {k Bh y : Nat} (hBh : Bh = 2 ^ k) (x : Nat) (hy : y < Bh) : (x * Bh ||| y) = x * Bh + y := by
  subst hBh
  rw [Nat.mul_comm, Nat.two_pow_add_eq_or_of_lt hy]

/-- the halved dividend `(r1·B + a1) / 2` of `sqrt_rem_42`, assembled from words -/
theorem halve_words {k Bh r1 a1 : Nat} (hBh : Bh = 2 ^ k) (hr1 : r1 / (2 * Bh) < 2) (ha1 : a1 < 2 * Bh) :
    2 * ((r1 / (2 * Bh) % (2 * Bh) * Bh % (2 * Bh) ||| r1 % (2 * Bh) / 2) * (2 * Bh)
        + (r1 % (2 * Bh) * Bh % (2 * Bh) ||| a1 / 2)) + a1 % 2 = r1 * (2 * Bh) + a1 := by
  have hBhpos : 0 < Bh := by rw [hBh]; exact Nat.two_pow_pos k
  have hlo := Nat.mod_lt r1 (show 0 < 2 * Bh by omega)
  have hs := Nat.mod_add_div r1 (2 * Bh)
  generalize r1 % (2 * Bh) = lo at *
  generalize r1 / (2 * Bh) = top at *
  have e1 : top * Bh % (2 * Bh) = top * Bh := by
    apply Nat.mod_eq_of_lt
    have : top = 0 ∨ top = 1 := by omega
    rcases this with rfl | rfl <;> omega
  rw [Nat.mod_eq_of_lt (show top < 2 * Bh by omega), e1, Nat.mul_mod_mul_right,
    mul_two_pow_or hBh _ (by omega), mul_two_pow_or hBh _ (by omega), ← hs]
  have hl := Nat.div_add_mod lo 2
  have ha := Nat.div_add_mod a1 2
  generalize lo / 2 = lh at *
  generalize lo % 2 = lp at *
  generalize a1 / 2 = ah at *
  generalize a1 % 2 = ap at *
  rw [← hl, ← ha]
  ring

/-- the quotient of the halved dividend by `s1` is at most `B` -/
theorem sqrt42_quot_le {B s1 r1 a1 r0 q0 : Nat} (hpr : r1 ≤ 2 * s1) (hn : B ≤ 2 * s1) (ha1 : a1 < B)
    (hr0 : 2 * r0 ≤ r1 * B + a1) (hq0 : s1 * q0 ≤ r0) : q0 ≤ B := by
  by_contra hc
  have h1 : s1 * (B + 1) ≤ s1 * q0 := Nat.mul_le_mul_left _ (by omega)
  have h2 : r1 * B ≤ 2 * s1 * B := Nat.mul_le_mul_right _ hpr
  rw [Nat.mul_succ] at h1
  rw [Nat.mul_assoc] at h2
  omega

/-- the candidate of `sqrt_rem_42`: the halved dividend `r0` is divided by `s1`, and a quotient `B` is lowered to
    `B − 1` with `s1` added to the remainder.  The root `s1·B + q` then has the signed remainder
    `U·B + a0 − q²` (`U = 2u + a1 mod 2`) of `karatsuba_step`; for the lowered quotient it is the repaired
    remainder of `q = B`, so no further repair falls due. -/
theorem sqrt42_cand {B s1 r1 hi a1 a0 r0 q0 u0 q u : Nat}
    (hpv : s1 * s1 + r1 = hi) (hpr : r1 ≤ 2 * s1) (hn : B ≤ 2 * s1) (ha1 : a1 < B) (ha0 : a0 < B)
    (hr0 : 2 * r0 + a1 % 2 = r1 * B + a1) (hdm : s1 * q0 + u0 = r0) (hu0 : u0 < s1)
    (hq : q = if q0 < B then q0 else q0 - 1) (hu : u = if q0 < B then u0 else u0 + s1) :
    ((hi * (B * B) + a1 * B + a0 : Nat) : Int)
      = ((s1 * B + q) * (s1 * B + q) : Nat) + (((u * 2 + a1 % 2) * B + a0 : Nat) - (q * q : Nat) : Int) ∧
    ((u * 2 + a1 % 2) * B + a0 : Nat) - (q * q : Nat) ≤ 2 * ((s1 * B + q : Nat) : Int) ∧
    ((((u * 2 + a1 % 2) * B + a0 : Nat) : Int) - (q * q : Nat) < 0 →
      0 ≤ (((u * 2 + a1 % 2) * B + a0 : Nat) : Int) - (q * q : Nat) + 2 * ((s1 * B + q : Nat) : Int) - 1 ∧ 1 ≤ q) := by
  have hq0 : q0 ≤ B := sqrt42_quot_le (r0 := r0) hpr hn ha1 (by omega) (by omega)
  have hp : a1 % 2 < 2 := Nat.mod_lt _ (by decide)
  have hdiv : r1 * B + a1 = 2 * q0 * s1 + (u0 * 2 + a1 % 2) := by
    rw [← hr0, ← hdm]; ring
  obtain ⟨hid, _, h3, h4, h5⟩ := karatsuba_step (b0 := a0) hpv.symm hpr hn ha1 ha0 hdiv (by omega)
  by_cases hlt : q0 < B
  · rw [if_pos hlt] at hq hu
    subst hq; subst hu
    exact ⟨hid, h3, h4⟩
  · -- the lowered quotient `B − 1`: its remainder is the repaired one of `q0 = B`
    rw [if_neg hlt] at hq hu
    obtain rfl : q0 = B := by omega
    subst hq; subst hu
    obtain ⟨h6, _⟩ := h4 (h5 rfl)
    have hneg := h5 rfl
    obtain ⟨t, rfl⟩ : ∃ t, q0 = t + 1 := ⟨q0 - 1, by omega⟩
    rw [Nat.add_sub_cancel]
    have eV : ((((u0 + s1) * 2 + a1 % 2) * (t + 1) + a0 : Nat) : Int) - (t * t : Nat)
        = (((u0 * 2 + a1 % 2) * (t + 1) + a0 : Nat) : Int) - ((t + 1) * (t + 1) : Nat)
          + 2 * ((s1 * (t + 1) + (t + 1) : Nat) : Int) - 1 := by
      push_cast; ring
    have es : ((s1 * (t + 1) + t : Nat) : Int) = ((s1 * (t + 1) + (t + 1) : Nat) : Int) - 1 := by
      push_cast; ring
    rw [eV, es]
    refine ⟨?_, by omega, fun h => by omega⟩
    rw [hid]; push_cast; ring

/-- **`sqrt_rem_42` is correct** on every normalised 4-word value, for every double-word square root
    meeting its contract -/
theorem sqrtRem42_spec {W : Nat} (hW : 2 ≤ W) {prim : Nat → Nat × Nat} (hprim : PrimSqrtContract W prim)
    {a : Nat} (hlo : 2 ^ (W - 1) * 2 ^ (W - 1) * (2 ^ W * 2 ^ W) ≤ a) (hhi : a < 2 ^ W * 2 ^ W * (2 ^ W * 2 ^ W)) :
    KOut (2 ^ W * 2 ^ W) a (sqrtRem42 W prim a) := by
  have hBdef : 2 ^ W = 2 * 2 ^ (W - 1) := two_pow_pred (by omega)
  have hBh2 : 2 ^ 1 ≤ 2 ^ (W - 1) := Nat.pow_le_pow_right (by decide) (by omega)
  have hBpos := Nat.two_pow_pos W
  have hhilt : a / (2 ^ W * 2 ^ W) < 2 ^ W * 2 ^ W := by
    rw [Nat.div_lt_iff_lt_mul (Nat.mul_pos hBpos hBpos)]; exact hhi
  have hhige : 2 ^ (W - 1) * 2 ^ (W - 1) ≤ a / (2 ^ W * 2 ^ W) := by
    rw [Nat.le_div_iff_mul_le (Nat.mul_pos hBpos hBpos)]; exact hlo
  obtain ⟨hpv, hpr⟩ := hprim _ hhige hhilt
  rcases hp : prim (a / (2 ^ W * 2 ^ W)) with ⟨s1, r1⟩
  rw [hp] at hpv hpr
  simp only [] at hpv hpr
  have hs1lt : s1 < 2 ^ W := root_lt hpv hhilt
  have hs1n : 2 * 2 ^ (W - 1) ≤ 2 * s1 := root_normalised hpv hpr hhige
  have hr1 : r1 / (2 * 2 ^ (W - 1)) < 2 := by rw [Nat.div_lt_iff_lt_mul (by omega)]; omega
  have hr0w := halve_words (a1 := a / 2 ^ W % 2 ^ W) rfl hr1 (by rw [← hBdef]; exact Nat.mod_lt _ hBpos)
  rw [← hBdef] at hs1n hr0w
  unfold sqrtRem42
  extract_lets B a0 a1
  rw [hp]
  simp (config := {zeta := false}) only []
  extract_lets s1' r1lo r1hi r0hi r0lo r0 q0 u0 U q ulo uhi s q2 x borrow r c t1 sm t2 c'
  -- the words of `a`, the halved dividend and the division, as facts about variables
  have hsplit : a = a / (B * B) * (B * B) + a1 * B + a0 := split3 a B
  have ha0 : a0 < B := Nat.mod_lt _ hBpos
  have ha1 : a1 < B := Nat.mod_lt _ hBpos
  have hr0 : 2 * r0 + a1 % 2 = r1 * B + a1 := hr0w
  have hs1' : s1' = s1 := Nat.mod_eq_of_lt hs1lt
  have hdm : s1' * q0 + u0 = r0 := Nat.div_add_mod r0 s1'
  have hu0 : u0 < s1' := Nat.mod_lt _ (by omega)
  have hB4 : 4 ≤ B := by omega
  have hBW : B = 2 ^ W := rfl
  clear_value q0 u0 r0 a1 a0 s1' B
  clear hr0w hr1 hp hhige hlo hhi hBh2 hBdef r0lo r0hi r1hi r1lo
  subst hs1'
  rw [← hBW] at hpv hs1lt hs1n hBpos ⊢
  have hBB : 4 * B ≤ B * B := Nat.mul_le_mul_right B hB4
  -- the quotient, lowered to `B − 1` when it is `B`, and the doubled remainder
  have hq0 : q0 ≤ B := sqrt42_quot_le (r0 := r0) hpr hs1n ha1 (by omega) (by omega)
  obtain ⟨u, hu, hq, hU⟩ : ∃ u, u = (if q0 < B then u0 else u0 + s1') ∧ q = (if q0 < B then q0 else q0 - 1) ∧
      U = u * 2 + a1 % 2 := by
    refine ⟨_, rfl, ?_⟩
    have hp2 : a1 % 2 < 2 := Nat.mod_lt _ (by decide)
    by_cases hlt : q0 < B
    · have h0 : ¬ q0 / B > 0 := by rw [Nat.div_eq_of_lt hlt]; decide
      simp only [q, U, if_neg h0, if_pos hlt]
      rw [Nat.mod_eq_of_lt hlt, Nat.mod_eq_of_lt (show u0 * 2 < B * B by omega), mul_two_pow_or (k := 1) (Bh := 2) rfl _ hp2]
      exact ⟨rfl, rfl⟩
    · simp only [q, U, if_pos (Nat.div_pos (Nat.le_of_not_lt hlt) hBpos), if_neg hlt]
      rw [Nat.mod_eq_of_lt (show q0 - 1 < B by omega), Nat.mod_eq_of_lt (show u0 + s1' < B * B by omega),
        Nat.mod_eq_of_lt (show (u0 + s1') * 2 < B * B by omega), mul_two_pow_or (k := 1) (Bh := 2) rfl _ hp2]
      exact ⟨rfl, rfl⟩
  have hUs : ulo + B * uhi = U := Nat.mod_add_div U B
  have hulo : ulo < B := Nat.mod_lt _ hBpos
  clear_value q U ulo uhi
  obtain ⟨hid, hle, hneg⟩ := sqrt42_cand hpv hpr hs1n ha1 ha0 hr0 hdm hu0 hq hu
  clear hpv hpr hs1n ha1 hr0 hdm hu0 hu hhilt
  -- the wrapping subtraction: `c·B² + r` is the signed remainder
  have hqq : q * q ≤ B * B := by
    have : q ≤ B := by rw [hq]; split <;> omega
    exact Nat.mul_le_mul this this
  have hx : x < B * B := by
    have : (ulo + 1) * B ≤ B * B := Nat.mul_le_mul_right B hulo
    rw [Nat.succ_mul] at this
    exact Nat.lt_of_lt_of_le (Nat.add_lt_add_left ha0 _) this
  have hrlt : r < B * B := Nat.mod_lt _ (by omega)
  have hrc : c * ((B * B : Nat) : Int) + r = ((U * B + a0 : Nat) : Int) - (q * q : Nat) := by
    have h := sub_borrow_val hx hqq
    simp only [c, r, borrow, q2, decide_eq_true_eq]
    rw [h, ← hUs]
    generalize (if x < q * q then (1 : Int) else 0) = bw
    simp only [x]; push_cast; ring
  rw [← hU, ← hrc] at hid hle hneg
  rw [← hsplit] at hid
  have hslt : s < B * B := by
    have : (s1' + 1) * B ≤ B * B := Nat.mul_le_mul_right B hs1lt
    rw [Nat.succ_mul] at this
    have : q < B := by rw [hq]; split <;> omega
    omega
  have hs : s = s1' * B + q := rfl
  clear_value x s
  rw [← hs] at hid hle hneg
  by_cases hc : c < 0
  · rw [if_pos hc]
    have hV := (neg_iff_carry hrlt).1 hc
    obtain ⟨h0, hq1⟩ := hneg hV
    have hs1 : 1 ≤ s := by omega
    obtain ⟨hid', hle'⟩ := signed_fix hid hV h0 hs1
    have hacc : c' * ((B * B : Nat) : Int) + (t2 % (B * B) : Nat) = c * ((B * B : Nat) : Int) + r + 2 * s - 1 :=
      add_twice_val hs1
    rw [← hacc] at hid' hle' h0
    exact KOut.of_signed (Nat.mod_lt _ (by omega)) (by omega) hid' h0 hle'
  · rw [if_neg hc]
    exact KOut.of_signed hrlt hslt hid (Int.not_lt.1 fun h => hc ((neg_iff_carry hrlt).2 h)) hle

/-- **`root::sqrt_rem` is correct**: on every normalised value of `2n` words (`n ≥ 2`) the mirrored
    recursion returns the floor square root, the low `n` words of the remainder and its carry -/
theorem sqrtRemRec_spec {W : Nat} (hW : 2 ≤ W) {prim : Nat → Nat × Nat} (hprim : PrimSqrtContract W prim) :
    ∀ (fuel n a : Nat), 2 ≤ n → n ≤ fuel → 2 ^ (W * n - 1) * 2 ^ (W * n - 1) ≤ a →
      a < 2 ^ (W * n) * 2 ^ (W * n) → KOut (2 ^ (W * n)) a (sqrtRemRec W prim fuel n a) := by
  intro fuel
  induction fuel with
  | zero => intro n a h2 hf; omega
  | succ fuel ih =>
    intro n a h2 hf hlo hhi
    unfold sqrtRemRec
    by_cases hn2 : n ≤ 2
    · rw [if_pos hn2]
      have hn : n = 2 := by omega
      subst hn
      have e1 : 2 ^ (W * 2) = 2 ^ W * 2 ^ W := by rw [Nat.mul_two, Nat.pow_add]
      have e2 : 2 ^ (W * 2 - 1) = 2 ^ (W - 1) * 2 ^ W := by
        rw [← Nat.pow_add]; congr 1; omega
      rw [e1] at hhi ⊢
      rw [e2] at hlo
      apply sqrtRem42_spec hW hprim
      · rw [Nat.mul_mul_mul_comm]; exact hlo
      · exact hhi
    · rw [if_neg hn2]
      extract_lets sp h B
      obtain ⟨hsp, hhs, hnn, hh2, hhf⟩ : 1 ≤ sp ∧ sp ≤ h ∧ n = h + sp ∧ 2 ≤ h ∧ h ≤ fuel := by
        simp only [sp, h]; omega
      have hB : B = 2 ^ (W * sp) := rfl
      clear_value B h sp
      subst hnn
      have hBpos : 0 < B := hB ▸ Nat.two_pow_pos _
      have hBB := Nat.mul_pos hBpos hBpos
      have hWs : 0 < W * sp := Nat.mul_pos (by omega) hsp
      have hWh : 0 < W * h := Nat.mul_pos (by omega) (by omega)
      have eMn : 2 ^ (W * (h + sp)) = 2 ^ (W * h) * B := by rw [hB, Nat.mul_add, Nat.pow_add]
      have eMn1 : 2 ^ (W * (h + sp) - 1) = 2 ^ (W * h - 1) * B := by
        rw [hB, ← Nat.pow_add, Nat.mul_add]; congr 1; omega
      have eE : 2 ^ (W * (h + sp)) = B * B * 2 ^ (W * (h - sp)) := by
        rw [hB, ← Nat.pow_add, ← Nat.pow_add, ← Nat.mul_add, ← Nat.mul_add]; congr 2; omega
      -- the high part is normalised
      have hhilo : 2 ^ (W * h - 1) * 2 ^ (W * h - 1) ≤ a / (B * B) := by
        rw [Nat.le_div_iff_mul_le hBB, Nat.mul_mul_mul_comm, ← eMn1]; exact hlo
      have hhihi : a / (B * B) < 2 ^ (W * h) * 2 ^ (W * h) := by
        rw [Nat.div_lt_iff_lt_mul hBB, Nat.mul_mul_mul_comm, ← eMn]; exact hhi
      have hrec := ih h (a / (B * B)) hh2 hhf hhilo hhihi
      generalize sqrtRemRec W prim fuel h (a / (B * B)) = res at hrec ⊢
      obtain ⟨s1, r1, r1top⟩ := res
      simp only []
      have ⟨hval, hle, _⟩ := hrec
      simp only [] at hval hle
      have hnorm : 2 ^ (W * h) ≤ 2 * s1 := by
        rw [two_pow_pred hWh]; exact root_normalised hval hle hhilo
      conv => lhs; rw [split3 a B]
      exact kStep_spec (k := W * sp - 1) rfl (hB ▸ two_pow_pred hWs) eMn eE (Nat.two_pow_pos _)
        (fun hodd => by
          have : h - sp = 0 := by have := of_decide_eq_false hodd; omega
          rw [this, Nat.mul_zero, Nat.pow_zero])
        hnorm (Nat.mod_lt _ hBpos) (Nat.mod_lt _ hBpos) hrec (root_lt hval hhihi)

/-- on a normalised value of `2n` words the mirrored kernel returns what the specification returns -/
theorem sqrtRemKernel_eq_frontier {W : Nat} (hW : 2 ≤ W) {prim : Nat → Nat × Nat} (hprim : PrimSqrtContract W prim)
    {n a : Nat} (hn : 2 ≤ n) (hlo : 2 ^ (W * n - 1) * 2 ^ (W * n - 1) ≤ a) (hhi : a < 2 ^ (W * n) * 2 ^ (W * n)) :
    sqrtRemKernel W prim a = sqrtRemKernelFrontier a := by
  have hWn : 1 ≤ W * n := Nat.mul_pos (by omega) (by omega)
  have hb1 : W * n - 1 + (W * n - 1) < bitLen a := lt_bitLen_of_le (by rw [Nat.pow_add]; exact hlo)
  have hb2 : bitLen a ≤ W * n + W * n := bitLen_le_of_lt (by rw [Nat.pow_add]; exact hhi)
  have hwl : wordLen W a = 2 * n := by
    unfold wordLen
    have e : 2 * n * W = W * n + W * n := by ring
    have e2 : (2 * n + 1) * W = W * n + W * n + W := by ring
    apply Nat.div_eq_of_lt_le
    · rw [e]; omega
    · show bitLen a + W - 1 < (2 * n + 1) * W
      rw [e2]; omega
  unfold sqrtRemKernel
  simp only []
  rw [hwl, show (2 * n + 1) / 2 = n by omega]
  have h := sqrtRemRec_spec hW hprim n n a hn (Nat.le_refl n) hlo hhi
  generalize sqrtRemRec W prim n n a = res at h
  obtain ⟨s, r, top⟩ := res
  obtain ⟨h1, h2, _⟩ := h
  simp only [] at h1 h2 ⊢
  have hroot := isRoot_of_rem h1 h2
  have hu := IsRoot.unique (by decide) hroot (iroot_spec a 2 (by decide))
  unfold sqrtRemKernelFrontier
  simp only []
  rw [← hu]
  congr 1
  omega

/-- the value `sqrt_rem_large` hands to `root::sqrt_rem` is normalised, of `2·((len+1)/2)` words -/
theorem shift_normalised {W : Nat} (hW : 2 ≤ W) (hWe : W % 2 = 0) {x : Nat} (hx : 2 ^ (2 * W) ≤ x)
    (len shift n : Nat) (hlen : len = wordLen W x)
    (hshift : shift = W * (len % 2) + (W * len - bitLen x) / 2 * 2) (hndef : n = (len + 1) / 2) :
    2 ≤ n ∧ 2 ^ (W * n - 1) * 2 ^ (W * n - 1) ≤ x * 2 ^ shift ∧ x * 2 ^ shift < 2 ^ (W * n) * 2 ^ (W * n) := by
  have hW0 : 0 < W := by omega
  have hle := bitLen_le_wordLen hW0 x
  have hlt := wordLen_lt_bitLen hW0 x
  rw [← hlen] at hle hlt
  have hx0 : x ≠ 0 := by
    have := Nat.two_pow_pos (2 * W); omega
  have hbx : 2 * W < bitLen x := lt_bitLen_of_le hx
  have hlen3 : 3 ≤ len := by
    by_contra hc
    have : W * len ≤ W * 2 := Nat.mul_le_mul_left W (by omega)
    omega
  have hn2 : 2 ≤ n := by omega
  -- total bit length after the shift: 2·W·n − (lz mod 2)
  have hT : bitLen x + shift + (W * len - bitLen x) % 2 = W * n + W * n := by
    have e : W * n + W * n = W * len + W * (len % 2) := by
      rw [← Nat.mul_add, ← Nat.mul_add]; congr 1; omega
    have := Nat.div_add_mod (W * len - bitLen x) 2
    omega
  have hmod : (W * len - bitLen x) % 2 < 2 := Nat.mod_lt _ (by decide)
  have h1 := two_pow_bitLen_le hx0
  have h2 := lt_two_pow_bitLen x
  refine ⟨hn2, ?_, ?_⟩
  · rw [← Nat.pow_add]
    have : 2 ^ (W * n - 1 + (W * n - 1)) ≤ 2 ^ (bitLen x - 1 + shift) := Nat.pow_le_pow_right (by decide) (by omega)
    rw [Nat.pow_add 2 (bitLen x - 1) shift] at this
    exact Nat.le_trans this (Nat.mul_le_mul_right _ h1)
  · rw [← Nat.pow_add]
    have : 2 ^ (bitLen x + shift) ≤ 2 ^ (W * n + W * n) := Nat.pow_le_pow_right (by decide) (by omega)
    rw [Nat.pow_add 2 (bitLen x) shift] at this
    exact Nat.lt_of_lt_of_le (Nat.mul_lt_mul_of_pos_right h2 (Nat.two_pow_pos _)) this

/-- `sqrt_rem_large` over the mirrored `root::sqrt_rem` equals `sqrt_rem_large` over its specification -/
theorem sqrtRemLarge_mirrored {W : Nat} (hW : 2 ≤ W) (hWe : W % 2 = 0) {prim : Nat → Nat × Nat}
    (hprim : PrimSqrtContract W prim) (fixed : Bool) {x : Nat} (hx : 2 ^ (2 * W) ≤ x) :
    sqrtRemLarge W (sqrtRemKernel W prim) fixed x = sqrtRemLarge W sqrtRemKernelFrontier fixed x := by
  obtain ⟨hn, hlo, hhi⟩ := shift_normalised hW hWe hx _ _ _ rfl rfl rfl
  have hk := sqrtRemKernel_eq_frontier hW hprim hn hlo hhi
  unfold sqrtRemLarge
  simp only []
  rw [hk]

/-- a primitive square root is *exact* on a range when it returns the floor root and the remainder -/
def PrimSqrtExact (bound : Nat) (prim : Nat → Nat × Nat) : Prop :=
  ∀ x, x < bound → prim x = sqrtRemPrimFrontier x

theorem PrimSqrtExact.contract {W : Nat} {prim : Nat → Nat × Nat} (h : PrimSqrtExact (2 ^ (2 * W)) prim) :
    PrimSqrtContract W prim := by
  intro x _ hx
  rw [h x (by rw [Nat.two_mul, Nat.pow_add]; exact hx)]
  unfold sqrtRemPrimFrontier
  simp only []
  have := rem_le_of_isRoot (iroot_spec x 2 (by decide))
  omega

/-- **`sqrt_rem` with every kernel mirrored equals its specification** -/
theorem sqrtRemReprM_eq {W : Nat} (hW : 2 ≤ W) (hWe : W % 2 = 0) {primW primD : Nat → Nat × Nat}
    (hpW : PrimSqrtExact (2 ^ W) primW) (hpD : PrimSqrtExact (2 ^ (2 * W)) primD) (fixed : Bool) (x : Nat) :
    sqrtRemReprM W primW primD fixed x = sqrtRemRepr W fixed x := by
  unfold sqrtRemReprM sqrtRemRepr
  by_cases h1 : x < 2 ^ W
  · have : x < 2 ^ (2 * W) := Nat.lt_of_lt_of_le h1 (Nat.pow_le_pow_right (by decide) (by omega))
    rw [if_pos h1, if_pos this, hpW x h1]
  · rw [if_neg h1]
    by_cases h2 : x < 2 ^ (2 * W)
    · rw [if_pos h2, if_pos h2, hpD x h2]
    · rw [if_neg h2, if_neg h2, sqrtRemLarge_mirrored hW hWe hpD.contract fixed (by omega)]

end Dashu.Model.NT
