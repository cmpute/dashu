import Dashu.Proofs.NT.PrimRootU128
/-
  C12: `<u128 as NormalizedRootRem>::normalized_sqrt_rem` adds NO overflow of its own: it answers on every
  normalised value on which the `u64` routine answers on the high half.  (Totality of `u128::sqrt_rem` is thereby
  reduced to totality of the `u64` Newton routine.)
-/
namespace Dashu.Model.NT
open Dashu.Model

theorem normSqrtU128_total_of_u64 {n : Nat} (hlo : 2 ^ 126 ≤ n) (hhi : n < 2 ^ 128)
    (h64 : ∃ r, normSqrtU64 (n / 2 ^ 64) = some r) : ∃ res, normSqrtU128 n = some res := by
  obtain ⟨⟨s1, r1⟩, h64⟩ := h64
  obtain ⟨res, h, _⟩ := normSqrtU128_spec hlo hhi h64
  exact ⟨res, h⟩

/-- **`u128::sqrt_rem` answers wherever the `u64` routine does**: if `<u64>::normalized_sqrt_rem` never overflows on
    normalised operands, `u128::sqrt_rem` never overflows on any operand -/
theorem sqrtRemU128_total_of_u64 (h64 : ∀ y, 2 ^ 62 ≤ y → y < 2 ^ 64 → ∃ r, normSqrtU64 y = some r)
    {x : Nat} (hx : x < 2 ^ 128) : ∃ r, sqrtRemPrimBits 128 x = some r :=
  (sqrtRemNorm_spec (bits := 128) (fun _ hy1 hy2 _ hr => normSqrtU128_sound hy1 hy2 hr) hx).2
    fun y hy1 hy2 => normSqrtU128_total_of_u64 hy1 hy2 (h64 _
      (by rw [Nat.le_div_iff_mul_le (Nat.two_pow_pos _), ← Nat.pow_add]; exact hy1)
      (by rw [Nat.div_lt_iff_lt_mul (Nat.two_pow_pos _), ← Nat.pow_add]; exact hy2))

/-- `u64::sqrt_rem` answers on every operand if the normalised routine answers on normalised operands -/
theorem sqrtRemU64_total_of_norm (h64 : ∀ y, 2 ^ 62 ≤ y → y < 2 ^ 64 → ∃ r, normSqrtU64 y = some r)
    {x : Nat} (hx : x < 2 ^ 64) : ∃ r, sqrtRemPrimBits 64 x = some r :=
  (sqrtRemNorm_spec (bits := 64) (fun y _ _ => normSqrtU64_sound y) hx).2 h64

end Dashu.Model.NT
