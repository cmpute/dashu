import Dashu.Model.NT.Lehmer
import Dashu.Proofs.NT.Basic
import Dashu.Proofs.NT.LehmerGuess
/-
  C12: the cofactors `lehmer::gcd_in_place` / `gcd_ext_in_place` use.  `highest_word_normalized` and
  `highest_dword_normalized` return both operands truncated at one common bit position, so
  `lehmerCofactors W x y` is `lehmer_guess` of such a truncation and inherits every invariant of the guess
  loop (`Proofs/NT/LehmerGuess`) for the full operands.
-/
namespace Dashu.Model.NT
open Dashu.Model

theorem div_two_pow_shift {a s W : Nat} (hs : s ≤ W) : a * 2 ^ s / 2 ^ W = a / 2 ^ (W - s) := by
  have : 2 ^ W = 2 ^ (W - s) * 2 ^ s := by rw [← Nat.pow_add]; congr 1; omega
  rw [this, Nat.mul_div_mul_right _ _ (Nat.two_pow_pos s)]

theorem div_two_pow_of_wordLen_le {W y j : Nat} (hW : 0 < W) (hj : wordLen W y ≤ j) : y / 2 ^ (W * j) = 0 :=
  Nat.div_eq_of_lt (Nat.lt_of_lt_of_le (lt_two_pow_wordLen hW y)
    (Nat.pow_le_pow_right (by decide) (Nat.mul_le_mul_left W hj)))

theorem div_two_pow_lt {T n s w : Nat} (h : T < 2 ^ n) (hn : n ≤ s + w) : T / 2 ^ s < 2 ^ w := by
  rw [Nat.div_lt_iff_lt_mul (Nat.two_pow_pos s), ← Nat.pow_add]
  exact Nat.lt_of_lt_of_le h (Nat.pow_le_pow_right (by decide) (by omega))

/-- the leading `m` words of a number of `l + m` words -/
theorem top_words_bounds {W x l m : Nat} (hW : 0 < W) (hm : 0 < m) (hlx : wordLen W x = l + m) :
    2 ^ (W * (m - 1)) ≤ x / 2 ^ (W * l) ∧ x / 2 ^ (W * l) < 2 ^ (W * m) := by
  have hx0 : 0 < x := pos_of_lt_wordLen hW (j := 0) (by omega)
  have hxge := two_pow_le_of_wordLen hW (Nat.pos_iff_ne_zero.1 hx0)
  have hxlt := lt_two_pow_wordLen hW x
  rw [hlx] at hxge hxlt
  constructor
  · rw [Nat.le_div_iff_mul_le (Nat.two_pow_pos _), ← Nat.pow_add, ← Nat.mul_add]
    exact Nat.le_trans (Nat.pow_le_pow_right (by decide) (Nat.mul_le_mul_left W (by omega))) hxge
  · exact div_two_pow_lt hxlt (Nat.le_of_eq (Nat.mul_add W l m))

/-- for `x ≥ y`, `x` of at least two words: the pair is `(x / 2^k, y / 2^k)` for the bit position
    `k = W·(len x − 1) − leading_zeros(top double word of x)` -/
theorem highestWordNormalized_eq {W x y : Nat} (hW : 0 < W) (hxy : y ≤ x) (hlen : 2 ≤ wordLen W x) :
    ∃ k, highestWordNormalized W x y = (x / 2 ^ k, y / 2 ^ k) := by
  have hylen : wordLen W y ≤ wordLen W x := wordLen_mono hW hxy
  generalize hlx : wordLen W x = lx at *
  obtain ⟨l2, rfl⟩ : ∃ l2, lx = l2 + 2 := ⟨lx - 2, by omega⟩
  obtain ⟨hhi_ge, hhi_lt⟩ := top_words_bounds hW (by decide : 0 < 2) hlx
  -- y's double word at the same position, whatever the length gap `g`
  have hyhi : yHighDword W (l2 + 2) y = y / 2 ^ (W * l2) := by
    unfold yHighDword
    simp only []
    obtain ⟨g, hg⟩ : ∃ g, l2 + 2 = wordLen W y + g := ⟨_, (Nat.add_sub_cancel' hylen).symm⟩
    rw [hg, Nat.add_sub_cancel_left]
    match g, hg with
    | 0, hg =>
      show y / 2 ^ (W * (wordLen W y - 2)) = _
      rw [show wordLen W y - 2 = l2 by omega]
    | 1, hg =>
      show y / 2 ^ (W * (wordLen W y - 1)) = _
      rw [show wordLen W y - 1 = l2 by omega]
    | g + 2, hg => exact (div_two_pow_of_wordLen_le hW (by omega)).symm
  unfold highestWordNormalized
  simp only [hlx]
  rw [show l2 + 2 - 2 = l2 by omega, hyhi]
  generalize hxh : x / 2 ^ (W * l2) = xh at *
  have hyh_le : y / 2 ^ (W * l2) ≤ xh := by rw [← hxh]; exact Nat.div_le_div_right hxy
  -- the left shift by the leading zeros of the double word, then `>> W`, is a right shift that leaves `W` bits
  have hbl1 : W < bitLen xh := lt_bitLen_of_le (by simpa using hhi_ge)
  have hbl2 : bitLen xh ≤ 2 * W := bitLen_le_of_lt (by rwa [Nat.mul_comm] at hhi_lt)
  generalize hsh : 2 * W - bitLen xh = sh
  have hshW : sh ≤ W := by omega
  have hxs : xh / 2 ^ (W - sh) < 2 ^ W := div_two_pow_lt (lt_two_pow_bitLen xh) (by omega)
  have hys := Nat.lt_of_le_of_lt (Nat.div_le_div_right hyh_le) hxs
  refine ⟨W * l2 + (W - sh), ?_⟩
  rw [div_two_pow_shift hshW, div_two_pow_shift hshW, Nat.mod_eq_of_lt hxs, Nat.mod_eq_of_lt hys,
    ← hxh, Nat.div_div_eq_div_mul, Nat.div_div_eq_div_mul, ← Nat.pow_add]

/-- `(hi·2^(2W) + lo) >> (W − sh)` written as the code does it (`hi << (sh + W) | lo >> (W − sh)`) -/
theorem triple_shift {W sh hi lo : Nat} (hsh : sh ≤ W) :
    hi * 2 ^ (sh + W) + lo / 2 ^ (W - sh) = (hi * 2 ^ (2 * W) + lo) / 2 ^ (W - sh) := by
  have e : 2 ^ (2 * W) = 2 ^ (sh + W) * 2 ^ (W - sh) := by rw [← Nat.pow_add]; congr 1; omega
  rw [e, ← Nat.mul_assoc, Nat.add_comm (hi * 2 ^ (sh + W) * 2 ^ (W - sh)),
    Nat.add_mul_div_right _ _ (Nat.two_pow_pos _), Nat.add_comm]

theorem highestDwordNormalized_eq {W x y : Nat} (hW : 0 < W) (hxy : y ≤ x) (hlen : 3 ≤ wordLen W x) :
    ∃ k, highestDwordNormalized W x y = (x / 2 ^ k, y / 2 ^ k) := by
  have hylen : wordLen W y ≤ wordLen W x := wordLen_mono hW hxy
  generalize hlx : wordLen W x = lx at *
  obtain ⟨l3, rfl⟩ : ∃ l3, lx = l3 + 3 := ⟨lx - 3, by omega⟩
  have hT_lt := (top_words_bounds hW (by decide : 0 < 3) hlx).2
  have hp2 : 0 < 2 ^ (2 * W) := Nat.two_pow_pos _
  -- the top word of a triple
  have hdd : ∀ z, z / 2 ^ (W * (l3 + 2)) = z / 2 ^ (W * l3) / 2 ^ (2 * W) := fun z => by
    rw [Nat.div_div_eq_div_mul, ← Nat.pow_add, Nat.mul_add, Nat.mul_comm W 2]
  -- y's triple at the same position, whatever the length gap `g`
  have hyT : yHighTriple W (l3 + 3) y
      = (y / 2 ^ (W * l3) / 2 ^ (2 * W), y / 2 ^ (W * l3) % 2 ^ (2 * W)) := by
    -- a `y` of at most `l3 + 2` words has no top word here
    have hlow : wordLen W y ≤ l3 + 2 →
        (y / 2 ^ (W * l3) / 2 ^ (2 * W), y / 2 ^ (W * l3) % 2 ^ (2 * W)) = (0, y / 2 ^ (W * l3)) := fun h => by
      have := Nat.mul_le_mul_left W h
      rw [Nat.mul_add] at this
      rw [← hdd, div_two_pow_of_wordLen_le hW h,
        Nat.mod_eq_of_lt (div_two_pow_lt (lt_two_pow_wordLen hW y) (by omega))]
    unfold yHighTriple
    simp only []
    obtain ⟨g, hg⟩ : ∃ g, l3 + 3 = wordLen W y + g := ⟨_, (Nat.add_sub_cancel' hylen).symm⟩
    rw [hg, Nat.add_sub_cancel_left]
    match g, hg with
    | 0, hg =>
      show (y / 2 ^ (W * (wordLen W y - 1)), y / 2 ^ (W * (wordLen W y - 3)) % 2 ^ (2 * W)) = _
      rw [show wordLen W y - 1 = l3 + 2 by omega, show wordLen W y - 3 = l3 by omega, hdd]
    | 1, hg =>
      show (0, y / 2 ^ (W * (wordLen W y - 2))) = _
      rw [show wordLen W y - 2 = l3 by omega, hlow (by omega)]
    | 2, hg =>
      show (0, y / 2 ^ (W * (wordLen W y - 1))) = _
      rw [show wordLen W y - 1 = l3 by omega, hlow (by omega)]
    | g + 3, hg =>
      show (0, 0) = _
      rw [hlow (by omega), div_two_pow_of_wordLen_le hW (by omega)]
  unfold highestDwordNormalized
  simp only [hlx]
  rw [hyT, show l3 + 3 - 1 = l3 + 2 by omega, hdd, show l3 + 3 - 3 = l3 by omega]
  simp only []
  generalize hTx : x / 2 ^ (W * l3) = Tx at *
  generalize hTy : y / 2 ^ (W * l3) = Ty
  have hTle : Ty ≤ Tx := by rw [← hTx, ← hTy]; exact Nat.div_le_div_right hxy
  -- leading zeros of the top word `x0`: `Tx < 2^(2W + bitLen x0)`, so `Tx >> (W − sh)` has `2W` bits
  have hbl : bitLen (Tx / 2 ^ (2 * W)) ≤ W := bitLen_le_of_lt (div_two_pow_lt hT_lt (by omega))
  generalize hsh : W - bitLen (Tx / 2 ^ (2 * W)) = sh
  have hshW : sh ≤ W := by omega
  have hTxs : Tx / 2 ^ (W - sh) < 2 ^ (2 * W) := by
    have h1 := lt_two_pow_bitLen (Tx / 2 ^ (2 * W))
    rw [Nat.div_lt_iff_lt_mul hp2, ← Nat.pow_add] at h1
    exact div_two_pow_lt h1 (by omega)
  have hTys := Nat.lt_of_le_of_lt (Nat.div_le_div_right hTle) hTxs
  have dx := Nat.div_add_mod Tx (2 ^ (2 * W))
  have dy := Nat.div_add_mod Ty (2 ^ (2 * W))
  refine ⟨W * l3 + (W - sh), ?_⟩
  rw [triple_shift hshW, triple_shift hshW,
    Nat.mul_comm (Tx / 2 ^ (2 * W)), Nat.mul_comm (Ty / 2 ^ (2 * W)), dx, dy,
    Nat.mod_eq_of_lt hTxs, Nat.mod_eq_of_lt hTys, ← hTx, ← hTy,
    Nat.div_div_eq_div_mul, Nat.div_div_eq_div_mul, ← Nat.pow_add]

-- ---------------------------------------------------------------- the cofactors are a guess on truncated operands

/-- the cofactors used for `(x, y)` are `lehmer_guess` of the operands truncated at a common bit -/
theorem lehmerCofactors_aligned {W x y : Nat} (hW : 0 < W) (hxy : y ≤ x) (hx : 2 ≤ wordLen W x) :
    ∃ n k, lehmerCofactors W x y = lehmerGuess (2 ^ (W - 1) - 1) (n + 1) (x / 2 ^ k) (y / 2 ^ k) 1 0 0 1 := by
  unfold lehmerCofactors
  simp only []
  split
  · obtain ⟨k, hk⟩ := highestWordNormalized_eq hW hxy hx
    rw [hk]; exact ⟨W + 1, k, rfl⟩
  · rename_i h300
    obtain ⟨k, hk⟩ := highestDwordNormalized_eq hW hxy (by unfold minDwordGuessLen at h300; omega)
    rw [hk]; exact ⟨2 * W + 1, k, rfl⟩

/-- … hence they satisfy the invariant of the guess loop for the full operands -/
theorem lehmerCofactors_prog {W x y : Nat} (hW : 0 < W) (hxy : y ≤ x) (hy : 1 < wordLen W y) :
    ∃ k xb yb, GuessProg x y k xb yb (lehmerCofactors W x y).1 (lehmerCofactors W x y).2.1
      (lehmerCofactors W x y).2.2.1 (lehmerCofactors W x y).2.2.2 := by
  obtain ⟨n, k, hcof⟩ := lehmerCofactors_aligned hW hxy (by have := wordLen_mono hW hxy; omega)
  rw [hcof]
  exact ⟨k, lehmerGuess_prog _ x y k _ _ _ 1 0 0 1 (GuessProg.init k hxy)⟩

theorem lehmerCofactors_det (W x y : Nat) :
    let r := lehmerCofactors W x y
    (r.1 : Int) * r.2.2.2 - r.2.1 * r.2.2.1 = 1 := by
  unfold lehmerCofactors
  simp only []
  split
  · exact lehmerGuess_det _ _ _ _ 1 0 0 1 (by norm_num)
  · exact lehmerGuess_det _ _ _ _ 1 0 0 1 (by norm_num)

/-- every entry of the matrix `lehmer_guess(_dword)` commits is at most `SignedWord::MAX = 2^(W−1) − 1` — the
    `debug_assert!`s at the head of `lehmer_ext_step` (`W ≥ 2`: for a one-bit word `SignedWord::MAX = 0`) -/
theorem lehmerCofactors_le_signed_max (W x y : Nat) (hW : 2 ≤ W) :
    (lehmerCofactors W x y).1 < 2 ^ (W - 1) ∧ (lehmerCofactors W x y).2.1 < 2 ^ (W - 1) ∧
    (lehmerCofactors W x y).2.2.1 < 2 ^ (W - 1) ∧ (lehmerCofactors W x y).2.2.2 < 2 ^ (W - 1) := by
  have hp : 0 < 2 ^ (W - 1) := Nat.two_pow_pos _
  have hlim : 2 ^ (W - 1) - 1 < 2 ^ (W - 1) := by omega
  have h1 : 1 < 2 ^ (W - 1) := Nat.one_lt_two_pow (by omega)
  unfold lehmerCofactors
  simp only []
  split
  · exact lehmerGuess_entries_lt _ _ hlim _ _ _ 1 0 0 1 h1 hp hp h1
  · exact lehmerGuess_entries_lt _ _ hlim _ _ _ 1 0 0 1 h1 hp hp h1

/-- no step of the real operands goes negative: `a·x − b·y ≥ 0`, `d·y − c·x ≥ 0` -/
theorem lehmerCofactors_nonneg {W x y : Nat} (hW : 0 < W) (hxy : y ≤ x) (hy : 2 < wordLen W y) :
    let r := lehmerCofactors W x y
    0 ≤ (r.1 : Int) * x - (r.2.1 : Int) * y ∧ 0 ≤ (r.2.2.2 : Int) * y - (r.2.2.1 : Int) * x := by
  obtain ⟨k, xb, yb, h⟩ := lehmerCofactors_prog hW hxy (by omega)
  exact guessInv_nonneg h.1

/-- what a committed Lehmer guess (`b ≠ 0`) guarantees about the two combined values, for `y ≤ x`, `y` of more than
    one word: both strictly positive, their sum at most `x` (so `a·x − b·y ≤ x`), and `a ≥ 1` -/
theorem lehmer_committed_values (W : Nat) (hW : 0 < W) (x y : Nat) (hxy : y ≤ x) (hlen : 1 < wordLen W y)
    (hb : (lehmerCofactors W x y).2.1 ≠ 0) :
    0 < ((lehmerCofactors W x y).1 : Int) * x - ((lehmerCofactors W x y).2.1 : Int) * y ∧
    0 < ((lehmerCofactors W x y).2.2.2 : Int) * y - ((lehmerCofactors W x y).2.2.1 : Int) * x ∧
    (((lehmerCofactors W x y).1 : Int) * x - ((lehmerCofactors W x y).2.1 : Int) * y) +
      (((lehmerCofactors W x y).2.2.2 : Int) * y - ((lehmerCofactors W x y).2.2.1 : Int) * x) ≤ x ∧
    1 ≤ (lehmerCofactors W x y).1 := by
  have hy0 : 0 < y := pos_of_lt_wordLen hW hlen
  obtain ⟨k, xb, yb, hinv, _, hsum, _⟩ := lehmerCofactors_prog hW hxy hlen
  obtain ⟨hxpos, hypos⟩ := guessInv_pos hinv hb hy0
  refine ⟨hxpos, hypos, hsum hb, Nat.pos_of_ne_zero fun h0 => ?_⟩
  -- `a = 0` would make the determinant `−b·c ≤ 0`
  have hdet := hinv.1
  rw [h0] at hdet
  have : (0 : Int) ≤ ((lehmerCofactors W x y).2.1 : Int) * ((lehmerCofactors W x y).2.2.1 : Int) := by positivity
  simp only [Nat.cast_zero, zero_mul, zero_sub] at hdet
  omega

/-- the second combined value never exceeds `y` (committed or not) -/
theorem lehmer_committed_y_le (W : Nat) (hW : 0 < W) (x y : Nat) (hxy : y ≤ x) (hlen : 1 < wordLen W y) :
    ((lehmerCofactors W x y).2.2.2 : Int) * y - ((lehmerCofactors W x y).2.2.1 : Int) * x ≤ y := by
  obtain ⟨k, xb, yb, h⟩ := lehmerCofactors_prog hW hxy hlen
  exact h.2.1

/-- what the step `(x, y) ↦ (a·x − b·y, d·y − c·x)` of a committed guess guarantees: determinant 1, both values
    positive, together at most `x`, the second at most `y`, and `a ≥ 1` -/
structure Committed (x y a b c d : Nat) : Prop where
  det : (a : Int) * d - b * c = 1
  xpos : 0 < (a : Int) * x - (b : Int) * y
  ypos : 0 < (d : Int) * y - (c : Int) * x
  sum : ((a : Int) * x - (b : Int) * y) + ((d : Int) * y - (c : Int) * x) ≤ x
  yle : (d : Int) * y - (c : Int) * x ≤ y
  a1 : 1 ≤ a

theorem lehmerCofactors_committed {W x y : Nat} (hW : 0 < W) (hxy : y ≤ x) (hlen : 1 < wordLen W y)
    (hb : (lehmerCofactors W x y).2.1 ≠ 0) :
    Committed x y (lehmerCofactors W x y).1 (lehmerCofactors W x y).2.1 (lehmerCofactors W x y).2.2.1
      (lehmerCofactors W x y).2.2.2 :=
  have h := lehmer_committed_values W hW x y hxy hlen hb
  ⟨lehmerCofactors_det W x y, h.1, h.2.1, h.2.2.1, lehmer_committed_y_le W hW x y hxy hlen, h.2.2.2⟩

-- ---------------------------------------------------------------- a committed guess needs operands of like length

/-- truncating both operands at any common bit position keeps the quotient above `2^W` when `y` is two words shorter -/
theorem gap_quotient {W x y k : Nat} (hW : 0 < W) (hgap : wordLen W y + 2 ≤ wordLen W x) :
    y / 2 ^ k = 0 ∨ 2 ^ W ≤ x / 2 ^ k / (y / 2 ^ k) := by
  by_cases h0 : y / 2 ^ k = 0
  · exact Or.inl h0
  · right
    have hx0 : x ≠ 0 := Nat.pos_iff_ne_zero.1 (pos_of_lt_wordLen hW (j := 1) (by omega))
    have hxge := two_pow_le_of_wordLen hW hx0
    have hylt := lt_two_pow_wordLen hW y
    have hpos : 0 < y / 2 ^ k := Nat.pos_of_ne_zero h0
    -- y < 2^(W·(lx − 2)), 2^W · 2^(W·(lx − 2)) ≤ x
    have hy2 : y < 2 ^ (W * (wordLen W x - 2)) :=
      Nat.lt_of_lt_of_le hylt (Nat.pow_le_pow_right (by decide) (Nat.mul_le_mul_left W (by omega)))
    have e : 2 ^ (W * (wordLen W x - 1)) = 2 ^ W * 2 ^ (W * (wordLen W x - 2)) := by
      rw [← Nat.pow_add]; congr 1
      have : wordLen W x - 1 = (wordLen W x - 2) + 1 := by omega
      rw [this, Nat.mul_succ]; omega
    have hx2 : 2 ^ W * y ≤ x := by
      calc 2 ^ W * y ≤ 2 ^ W * 2 ^ (W * (wordLen W x - 2)) := Nat.mul_le_mul_left _ (Nat.le_of_lt hy2)
        _ = 2 ^ (W * (wordLen W x - 1)) := e.symm
        _ ≤ x := hxge
    have hyk : y / 2 ^ k * 2 ^ k ≤ y := Nat.div_mul_le_self y (2 ^ k)
    rw [Nat.le_div_iff_mul_le hpos, Nat.le_div_iff_mul_le (Nat.two_pow_pos k)]
    calc 2 ^ W * (y / 2 ^ k) * 2 ^ k = 2 ^ W * (y / 2 ^ k * 2 ^ k) := Nat.mul_assoc _ _ _
      _ ≤ 2 ^ W * y := Nat.mul_le_mul_left _ hyk
      _ ≤ x := hx2

/-- **`y` two or more words shorter than `x`: the guess does not commit** (either estimator) -/
theorem lehmerCofactors_gap (W x y : Nat) (hW : 0 < W) (hxy : y ≤ x) (hgap : wordLen W y + 2 ≤ wordLen W x) :
    lehmerCofactors W x y = (1, 0, 0, 1) := by
  have hlim : 2 ^ (W - 1) - 1 < 2 ^ W := by
    have : 2 ^ (W - 1) ≤ 2 ^ W := Nat.pow_le_pow_right (by decide) (by omega)
    have := Nat.two_pow_pos (W - 1)
    omega
  obtain ⟨n, k, hcof⟩ := lehmerCofactors_aligned hW hxy (by omega)
  rw [hcof]
  exact lehmerGuess_fail_first _ n _ _ ((gap_quotient (k := k) hW hgap).imp_right (Nat.lt_of_lt_of_le hlim))

/-- **a committed guess (`b ≠ 0`) happens only on operands of equal length or with `x` one word longer** -/
theorem lehmerCofactors_commit_shape (W x y : Nat) (hW : 0 < W) (hxy : y ≤ x)
    (hb : (lehmerCofactors W x y).2.1 ≠ 0) :
    wordLen W y ≤ wordLen W x ∧ wordLen W x ≤ wordLen W y + 1 := by
  refine ⟨wordLen_le_of_lt hW (Nat.lt_of_le_of_lt hxy (lt_two_pow_wordLen hW x)), ?_⟩
  apply Nat.le_of_not_lt
  intro h
  apply hb
  rw [lehmerCofactors_gap W x y hW hxy (by omega)]

end Dashu.Model.NT
