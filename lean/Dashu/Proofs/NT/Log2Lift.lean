import Dashu.Proofs.NT.Log2Table
/-
  C12: the other no_std estimators of `base/src/math/log.rs`: `u8` (the operand powered into the `u16` range; its 252
  values are evaluated) and the wider integers (top 16 bits + shift, from the table theorem `log2_fp8_enclose`, whose
  ceiling also covers the discarded low bits).
-/
namespace Dashu.Model.NT

/-- the `u8` estimator (values 5 … 255 that are not powers of two, 3 is a literal): the operand is
    raised to the 4th power below 16 and squared from 16 on; `k` is that power -/
def u8Ok (i : Nat) : Bool :=
  let k := if i < 16 then 4 else 2
  i == 2 ^ (bitLen i - 1) || i == 3 ||
    (decide (2 ^ log2Fp8 (i ^ k) ≤ i ^ (256 * k)) && decide (i ^ (256 * k) ≤ 2 ^ ceilLog2Fp8 (i ^ k))
      && decide (256 ≤ i ^ k) && decide (i ^ k < 65536))

theorem u8_all : allFrom u8Ok 252 4 = true := by decide +kernel

theorem log2_u8_sound (i : Nat) (h1 : 4 ≤ i) (h2 : i < 256) (hp : i ≠ 2 ^ (bitLen i - 1)) (h3 : i ≠ 3) :
    let k := if i < 16 then 4 else 2
    2 ^ log2Fp8 (i ^ k) ≤ i ^ (256 * k) ∧ i ^ (256 * k) ≤ 2 ^ ceilLog2Fp8 (i ^ k) := by
  have h := allFrom_spec u8Ok 252 4 u8_all i h1 (by omega)
  simp only [u8Ok, Bool.or_eq_true, beq_iff_eq, Bool.and_eq_true, decide_eq_true_eq] at h
  rcases h with (h | h) | h
  · exact absurd h hp
  · exact absurd h h3
  · exact ⟨h.1.1.1, h.1.1.2⟩

/-- wider integers: top 16 bits `hi = x >> shift` with `shift = bits − 16`; the lower estimate of `hi`
    plus `shift`, and the ceiling of `hi` (or `15 + 1/256` when `hi = 2^15`) plus `shift`, enclose
    `log2 x` — in 8-bit fixed point: `2^(lb + 256·shift) ≤ x^256 ≤ 2^(ub + 256·shift)` -/
theorem log2_wide_sound (x : Nat) (hbits : 16 < bitLen x) :
    let shift := bitLen x - 16
    let hi := x / 2 ^ shift
    let ub := if hi = 2 ^ 15 then 15 * 256 + 1 else ceilLog2Fp8 hi
    2 ^ (log2Fp8 hi + 256 * shift) ≤ x ^ 256 ∧ x ^ 256 ≤ 2 ^ (ub + 256 * shift) := by
  intro shift hi ub
  have hx : x ≠ 0 := by rintro rfl; rw [bitLen_zero] at hbits; omega
  have hp : 0 < 2 ^ shift := Nat.two_pow_pos _
  have hhi : 2 ^ 15 ≤ hi := by
    have hlo := two_pow_bitLen_le hx
    rw [show bitLen x - 1 = 15 + shift by omega, Nat.pow_add] at hlo
    exact (Nat.le_div_iff_mul_le hp).2 hlo
  constructor
  · exact pow_scale_le (log2_fp8_enclose hi (by omega)).1
  · have hc : (hi + 1) ^ 256 ≤ 2 ^ ub := by
      show (hi + 1) ^ 256 ≤ 2 ^ (if hi = 2 ^ 15 then 15 * 256 + 1 else ceilLog2Fp8 hi)
      split
      · rename_i h; rw [h]; decide +kernel
      · exact (log2_fp8_enclose hi (by omega)).2
    exact Nat.le_trans (Nat.pow_le_pow_left (Nat.le_succ x) _) (scale_pow_le hc)

end Dashu.Model.NT
