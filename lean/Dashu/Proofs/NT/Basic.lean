import Dashu.Model.NT.Modular
import Dashu.Proofs.Gen.BitLen
import Mathlib.Tactic.Ring
import Mathlib.Tactic.Linarith
/-
  C12 / C13: `bitLen` and `wordLen` (instances of the lemmas of `Proofs/Gen/BitLen`), and `Ring.WF`, what
  every ring that `Ring.new` builds satisfies.
-/
namespace Dashu.Model.NT
open Dashu.Model

theorem gcd_mod_right (x y : Nat) : Nat.gcd y (x % y) = Nat.gcd x y := by
  rw [Nat.gcd_comm x y, Nat.gcd_rec y x, Nat.gcd_comm]

theorem bitLen_zero : bitLen 0 = 0 := by simp [bitLen]

theorem lt_two_pow_bitLen (n : Nat) : n < 2 ^ bitLen n := Dashu.Proofs.Gen.lt_two_pow_blen n

theorem two_pow_bitLen_le {n : Nat} (h : n ≠ 0) : 2 ^ (bitLen n - 1) ≤ n := Dashu.Proofs.Gen.two_pow_blen_le h

theorem bitLen_pos {n : Nat} (h : n ≠ 0) : 0 < bitLen n := Dashu.Proofs.Gen.blen_pos h

theorem bitLen_le_of_lt {n k : Nat} (h : n < 2 ^ k) : bitLen n ≤ k := Dashu.Proofs.Gen.blen_le_iff.2 h

theorem lt_bitLen_of_le {n k : Nat} (h : 2 ^ k ≤ n) : k < bitLen n := Dashu.Proofs.Gen.lt_blen_iff.2 h

theorem bitLen_le_wordLen {W : Nat} (hW : 0 < W) (x : Nat) : bitLen x ≤ W * wordLen W x :=
  Dashu.Proofs.Gen.le_mul_ceil hW _

theorem lt_two_pow_wordLen {W : Nat} (hW : 0 < W) (n : Nat) : n < 2 ^ (W * wordLen W n) :=
  Nat.lt_of_lt_of_le (lt_two_pow_bitLen n) (Nat.pow_le_pow_right (by decide) (bitLen_le_wordLen hW n))

theorem wordLen_le_of_lt {W n j : Nat} (hW : 0 < W) (h : n < 2 ^ (W * j)) : wordLen W n ≤ j := by
  have h1 := bitLen_le_of_lt h
  unfold wordLen
  apply Nat.le_of_lt_succ
  apply (Nat.div_lt_iff_lt_mul hW).2
  rw [Nat.succ_mul, Nat.mul_comm j W]
  omega

theorem wordLen_mono {W a b : Nat} (hW : 0 < W) (h : a ≤ b) : wordLen W a ≤ wordLen W b :=
  wordLen_le_of_lt hW (Nat.lt_of_le_of_lt h (lt_two_pow_wordLen hW b))

theorem wordLen_zero {W : Nat} (hW : 0 < W) : wordLen W 0 = 0 :=
  Nat.le_zero.1 (wordLen_le_of_lt (j := 0) hW (by simp))

theorem pos_of_lt_wordLen {W n j : Nat} (hW : 0 < W) (h : j < wordLen W n) : 0 < n :=
  Nat.pos_of_ne_zero fun h0 => by rw [h0, wordLen_zero hW] at h; omega

theorem two_pow_le_of_wordLen {W n : Nat} (hW : 0 < W) (hn : n ≠ 0) :
    2 ^ (W * (wordLen W n - 1)) ≤ n := by
  apply Nat.le_of_not_lt
  intro h
  have := wordLen_le_of_lt hW h
  have hb := bitLen_pos hn
  have : 0 < wordLen W n := by
    unfold wordLen
    apply Nat.div_pos <;> omega
  omega

/-- what every constructed ring satisfies: the normalised divisor has exactly `n` words and its top
    bit set; `n` matches the variant -/
structure Ring.WF (W : Nat) (r : Ring) : Prop where
  hW : 0 < W
  mpos : 0 < r.m
  Mlt : r.M < 2 ^ (W * r.n)
  Mge : 2 ^ (W * r.n) ≤ 2 * r.M
  kind_n : (r.kind = .single → r.n = 1) ∧ (r.kind = .double → r.n = 2) ∧ (r.kind = .large → 3 ≤ r.n)
  m_large : r.kind = .large → 2 ^ (2 * W) ≤ r.m

theorem Ring.M_pos {W : Nat} {r : Ring} (h : r.WF W) : 0 < r.M :=
  Nat.mul_pos h.mpos (Nat.two_pow_pos _)

theorem Ring.WF.n_pos {W : Nat} {r : Ring} (h : r.WF W) : 1 ≤ r.n := by
  obtain ⟨k1, k2, k3⟩ := h.kind_n
  cases hk : r.kind
  · have := k1 hk; omega
  · have := k2 hk; omega
  · have := k3 hk; omega

/-- normalising shift: `m << (L - bit_len m)` has its top bit at position `L - 1` -/
theorem norm_shift {m L : Nat} (hm : m ≠ 0) (hL : bitLen m ≤ L) :
    m * 2 ^ (L - bitLen m) < 2 ^ L ∧ 2 ^ L ≤ 2 * (m * 2 ^ (L - bitLen m)) := by
  have h1 := lt_two_pow_bitLen m
  have h2 := two_pow_bitLen_le hm
  have hb := bitLen_pos hm
  have e : 2 ^ L = 2 ^ bitLen m * 2 ^ (L - bitLen m) := by
    rw [← Nat.pow_add]; congr 1; omega
  have e2 : 2 ^ bitLen m = 2 * 2 ^ (bitLen m - 1) := by
    rw [← Nat.pow_succ']; congr 1; omega
  have hp : 0 < 2 ^ (L - bitLen m) := Nat.two_pow_pos _
  constructor
  · rw [e]; exact Nat.mul_lt_mul_of_pos_right h1 hp
  · rw [e, e2, Nat.mul_assoc]
    exact Nat.mul_le_mul_left 2 (Nat.mul_le_mul_right _ h2)

theorem Ring.new_wf {W id m : Nat} {r : Ring} (hW : 0 < W) (h : Ring.new W id m = .ok r) : r.WF W := by
  unfold Ring.new at h
  split at h
  · cases h
  rename_i hm
  split at h
  · rename_i hlt
    cases h
    have := norm_shift hm (bitLen_le_of_lt hlt)
    exact ⟨hW, Nat.pos_of_ne_zero hm, by simpa [Ring.M] using this.1, by simpa [Ring.M] using this.2,
      ⟨fun _ => rfl, fun h => (by cases h), fun h => (by cases h)⟩, fun h => (by cases h)⟩
  split at h
  · rename_i hlt
    cases h
    have := norm_shift hm (bitLen_le_of_lt hlt)
    have e : W * 2 = 2 * W := Nat.mul_comm _ _
    exact ⟨hW, Nat.pos_of_ne_zero hm, by simpa [Ring.M, e] using this.1, by simpa [Ring.M, e] using this.2,
      ⟨fun h => (by cases h), fun _ => rfl, fun h => (by cases h)⟩, fun h => (by cases h)⟩
  · rename_i h1 h2
    cases h
    have := norm_shift hm (bitLen_le_wordLen hW m)
    have h3 : 3 ≤ wordLen W m := by
      apply Nat.le_of_not_lt
      intro hlt
      have hle : wordLen W m ≤ 2 := by omega
      have := lt_two_pow_wordLen hW m
      have : 2 ^ (W * wordLen W m) ≤ 2 ^ (2 * W) :=
        Nat.pow_le_pow_right (by decide) (by rw [Nat.mul_comm 2 W]; exact Nat.mul_le_mul_left W hle)
      omega
    exact ⟨hW, Nat.pos_of_ne_zero hm, by simpa [Ring.M] using this.1, by simpa [Ring.M] using this.2,
      ⟨fun h => (by cases h), fun h => (by cases h), fun _ => h3⟩, fun _ => Nat.le_of_not_lt h2⟩

end Dashu.Model.NT
