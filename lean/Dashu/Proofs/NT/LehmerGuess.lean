import Dashu.Model.NT.Gcd
import Mathlib.Tactic.Ring
import Mathlib.Tactic.Linarith
import Mathlib.Tactic.LinearCombination
/-
  C12: the cofactor loop `lehmer_guess`.  Every fact about the committed matrix `(a, b, c, d)` is an
  invariant of the half rounds (`lehmerGuess_induct`): determinant 1, entries at most `COEFF_LIMIT`,
  and — for leading words that are the operands truncated at a common bit — the two combinations
  `a·x − b·y`, `d·y − c·x` of the full operands stay non-negative and only decrease.
-/
namespace Dashu.Model.NT
open Dashu.Model

/-- Induction over the half rounds of `lehmer_guess`: a predicate on the loop state that survives every
    committed half round holds of the returned cofactors (with some leading words).  A half round hands
    over the tests it passed: the new entries are at most `lim`, the new remainder is at least the new
    error budget.  (No invariant below needs the other test, `t + r ≤ ybar − c`.) -/
theorem lehmerGuess_induct (lim : Nat) {P : Nat → Nat → Nat → Nat → Nat → Nat → Prop}
    (first : ∀ {xbar ybar a b c d q : Nat}, P xbar ybar a b c d → ybar ≠ 0 → xbar / ybar = q →
      a + q * c ≤ lim → b + q * d ≤ lim → b + q * d ≤ xbar - q * ybar →
      P (xbar - q * ybar) ybar (a + q * c) (b + q * d) c d)
    (second : ∀ {xbar ybar a b c d q : Nat}, P xbar ybar a b c d → b < xbar → ybar / xbar = q →
      d + q * b ≤ lim → c + q * a ≤ lim → c + q * a ≤ ybar - q * xbar →
      P xbar (ybar - q * xbar) a b (c + q * a) (d + q * b)) :
    ∀ (fuel xbar ybar a b c d : Nat), P xbar ybar a b c d →
      ∃ xb yb, P xb yb (lehmerGuess lim fuel xbar ybar a b c d).1 (lehmerGuess lim fuel xbar ybar a b c d).2.1
        (lehmerGuess lim fuel xbar ybar a b c d).2.2.1 (lehmerGuess lim fuel xbar ybar a b c d).2.2.2 := by
  intro fuel
  induction fuel with
  | zero => intro xbar ybar a b c d h; exact ⟨xbar, ybar, h⟩
  | succ n ih =>
    intro xbar ybar a b c d h
    unfold lehmerGuess
    simp only []
    have keep : ∃ xb yb, P xb yb a b c d := ⟨_, _, h⟩
    by_cases h0 : ybar = 0
    · rw [if_pos h0]; exact keep
    rw [if_neg h0]
    by_cases h1 : xbar / ybar > lim
    · rw [if_pos h1]; exact keep
    rw [if_neg h1]
    by_cases h2 : a + xbar / ybar * c > lim ∨ b + xbar / ybar * d > lim
    · rw [if_pos h2]; exact keep
    rw [if_neg h2]
    by_cases h3 : xbar - xbar / ybar * ybar < b + xbar / ybar * d ∨
        xbar - xbar / ybar * ybar + (a + xbar / ybar * c) > ybar - c
    · rw [if_pos h3]; exact keep
    rw [if_neg h3]
    have h' := first h h0 rfl (by omega) (by omega) (by omega)
    generalize xbar - xbar / ybar * ybar = x1, a + xbar / ybar * c = a1, b + xbar / ybar * d = b1 at *
    have keep' : ∃ xb yb, P xb yb a1 b1 c d := ⟨_, _, h'⟩
    by_cases h4 : x1 = b1
    · rw [if_pos h4]; exact keep'
    rw [if_neg h4]
    by_cases h5 : ybar / x1 > lim
    · rw [if_pos h5]; exact keep'
    rw [if_neg h5]
    by_cases h6 : d + ybar / x1 * b1 > lim ∨ c + ybar / x1 * a1 > lim
    · rw [if_pos h6]; exact keep'
    rw [if_neg h6]
    by_cases h7 : ybar - ybar / x1 * x1 < c + ybar / x1 * a1 ∨
        ybar - ybar / x1 * x1 + (d + ybar / x1 * b1) > x1 - c
    · rw [if_pos h7]; exact keep'
    rw [if_neg h7]
    have h'' := second h' (by omega) rfl (by omega) (by omega) (by omega)
    by_cases h8 : ybar - ybar / x1 * x1 = c + ybar / x1 * a1
    · rw [if_pos h8]; exact ⟨_, _, h''⟩
    rw [if_neg h8]
    exact ih _ _ _ _ _ _ h''

/-- a half round keeps the determinant `a·d − b·c = 1`, whatever the quotients are -/
theorem lehmerGuess_det (lim : Nat) :
    ∀ (fuel xbar ybar a b c d : Nat), (a : Int) * d - b * c = 1 →
      let r := lehmerGuess lim fuel xbar ybar a b c d
      (r.1 : Int) * r.2.2.2 - r.2.1 * r.2.2.1 = 1 := by
  intro fuel xbar ybar a b c d h
  obtain ⟨_, _, h'⟩ := lehmerGuess_induct lim (P := fun _ _ a b c d => (a : Int) * d - b * c = 1)
    (fun h _ _ _ _ _ => by push_cast; linear_combination h)
    (fun h _ _ _ _ _ => by push_cast; linear_combination h) fuel xbar ybar a b c d h
  exact h'

/-- every committed entry has passed the test against `lim` -/
theorem lehmerGuess_entries_lt (lim L : Nat) (hL : lim < L) :
    ∀ (fuel xbar ybar a b c d : Nat), a < L → b < L → c < L → d < L →
      (lehmerGuess lim fuel xbar ybar a b c d).1 < L ∧ (lehmerGuess lim fuel xbar ybar a b c d).2.1 < L ∧
      (lehmerGuess lim fuel xbar ybar a b c d).2.2.1 < L ∧ (lehmerGuess lim fuel xbar ybar a b c d).2.2.2 < L := by
  intro fuel xbar ybar a b c d ha hb hc hd
  obtain ⟨_, _, h'⟩ := lehmerGuess_induct lim (P := fun _ _ a b c d => a < L ∧ b < L ∧ c < L ∧ d < L)
    (fun h _ _ h1 h2 _ => ⟨by omega, by omega, h.2.2⟩)
    (fun h _ _ h1 h2 _ => ⟨h.1, h.2.1, by omega, by omega⟩) fuel xbar ybar a b c d ⟨ha, hb, hc, hd⟩
  exact h'

/-- the first test of `lehmer_guess` fails: nothing is committed -/
theorem lehmerGuess_fail_first (lim n xh yh : Nat) (h : yh = 0 ∨ lim < xh / yh) :
    lehmerGuess lim (n + 1) xh yh 1 0 0 1 = (1, 0, 0, 1) := by
  unfold lehmerGuess
  by_cases h0 : yh = 0
  · rw [if_pos h0]
  · rw [if_neg h0, if_pos (h.resolve_left h0)]

/-- invariant of `lehmer_guess` in terms of the *initial* leading words `X0, Y0`: determinant 1, and
    the current leading words are the committed combinations, each at least its own "error budget"
    (`xbar ≥ b`, `ybar ≥ c`) -/
def GuessInv (X0 Y0 xbar ybar a b c d : Nat) : Prop :=
  (a : Int) * d - b * c = 1 ∧
  (xbar : Int) = a * X0 - b * Y0 ∧ (ybar : Int) = d * Y0 - c * X0 ∧ b ≤ xbar ∧ c ≤ ybar

theorem GuessInv.init (X0 Y0 : Nat) : GuessInv X0 Y0 X0 Y0 1 0 0 1 :=
  ⟨by norm_num, by simp, by simp, Nat.zero_le _, Nat.zero_le _⟩

/-- the two half rounds are mirror images: exchange the operands and transpose the matrix -/
theorem GuessInv.swap {X0 Y0 xbar ybar a b c d : Nat} (h : GuessInv X0 Y0 xbar ybar a b c d) :
    GuessInv Y0 X0 ybar xbar d c b a :=
  ⟨by linear_combination h.1, h.2.2.1, h.2.1, h.2.2.2.2, h.2.2.2.1⟩

theorem GuessInv.first {X0 Y0 xbar ybar a b c d q : Nat} (h : GuessInv X0 Y0 xbar ybar a b c d)
    (hq : xbar / ybar = q) (hs : b + q * d ≤ xbar - q * ybar) :
    GuessInv X0 Y0 (xbar - q * ybar) ybar (a + q * c) (b + q * d) c d := by
  obtain ⟨hdet, hx, hy, _, hcy⟩ := h
  have hqle : q * ybar ≤ xbar := hq ▸ Nat.div_mul_le_self _ _
  refine ⟨?_, ?_, hy, hs, hcy⟩
  · push_cast; linear_combination hdet
  · rw [Nat.cast_sub hqle]; push_cast; linear_combination hx - (q : Int) * hy

theorem GuessInv.second {X0 Y0 xbar ybar a b c d q : Nat} (h : GuessInv X0 Y0 xbar ybar a b c d)
    (hq : ybar / xbar = q) (hs : c + q * a ≤ ybar - q * xbar) :
    GuessInv X0 Y0 xbar (ybar - q * xbar) a b (c + q * a) (d + q * b) :=
  (h.swap.first hq hs).swap

theorem lehmerGuess_inv (lim X0 Y0 : Nat) :
    ∀ (fuel xbar ybar a b c d : Nat), GuessInv X0 Y0 xbar ybar a b c d →
      let r := lehmerGuess lim fuel xbar ybar a b c d
      ∃ xb yb, GuessInv X0 Y0 xb yb r.1 r.2.1 r.2.2.1 r.2.2.2 :=
  lehmerGuess_induct lim (fun h _ hq _ _ hs => h.first hq hs) (fun h _ hq _ _ hs => h.second hq hs)

/-- why a combination that is at least its error budget survives truncation: with `x = P·X0 + rx`,
    `y = P·Y0 + ry`, `P = 2^k`, `a·x − b·y = P·(xb − b) + a·rx + b·(P − ry)` and `ry < P` -/
theorem comb_truncated {x y k xb a b : Nat}
    (hx : (xb : Int) = a * (x / 2 ^ k : Nat) - b * (y / 2 ^ k : Nat)) (hb : b ≤ xb) :
    0 ≤ (a : Int) * x - (b : Int) * y ∧ (b ≠ 0 → 0 < (a : Int) * x - (b : Int) * y) := by
  have ex : ((2 ^ k : Nat) : Int) * (x / 2 ^ k : Nat) + (x % 2 ^ k : Nat) = x := by
    exact_mod_cast Nat.div_add_mod x (2 ^ k)
  have ey : ((2 ^ k : Nat) : Int) * (y / 2 ^ k : Nat) + (y % 2 ^ k : Nat) = y := by
    exact_mod_cast Nat.div_add_mod y (2 ^ k)
  have hry : (1 : Int) ≤ (2 ^ k : Nat) - (y % 2 ^ k : Nat) := by
    have := Nat.mod_lt y (Nat.two_pow_pos k); omega
  have h1 : (0 : Int) ≤ (2 ^ k : Nat) * ((xb : Int) - b) :=
    mul_nonneg (Int.natCast_nonneg _) (by omega)
  have h2 : (0 : Int) ≤ a * (x % 2 ^ k : Nat) := mul_nonneg (Int.natCast_nonneg _) (Int.natCast_nonneg _)
  have e : (a : Int) * x - b * y
      = (2 ^ k : Nat) * ((xb : Int) - b) + a * (x % 2 ^ k : Nat) + b * ((2 ^ k : Nat) - (y % 2 ^ k : Nat)) := by
    linear_combination -((2 ^ k : Nat) : Int) * hx - (a : Int) * ex + (b : Int) * ey
  rw [e]
  refine ⟨add_nonneg (add_nonneg h1 h2) (mul_nonneg (Int.natCast_nonneg _) (by omega)), fun hb0 => ?_⟩
  have : (0 : Int) < b * ((2 ^ k : Nat) - (y % 2 ^ k : Nat)) := mul_pos (by omega) (by omega)
  omega

/-- no combination of the full operands goes negative -/
theorem guessInv_nonneg {x y k xb yb a b c d : Nat} (h : GuessInv (x / 2 ^ k) (y / 2 ^ k) xb yb a b c d) :
    0 ≤ (a : Int) * x - (b : Int) * y ∧ 0 ≤ (d : Int) * y - (c : Int) * x :=
  ⟨(comb_truncated h.2.1 h.2.2.2.1).1, (comb_truncated h.2.2.1 h.2.2.2.2).1⟩

/-- strict version of `guessInv_nonneg` once a quotient has been committed -/
theorem guessInv_pos {x y k xb yb a b c d : Nat} (h : GuessInv (x / 2 ^ k) (y / 2 ^ k) xb yb a b c d)
    (hb : b ≠ 0) (hy : 0 < y) :
    0 < (a : Int) * x - (b : Int) * y ∧ 0 < (d : Int) * y - (c : Int) * x := by
  refine ⟨(comb_truncated h.2.1 h.2.2.2.1).2 hb, ?_⟩
  by_cases hc : c = 0
  · -- `c = 0`: the determinant gives `d = 1`, the combination is `y` itself
    have had : (a : Int) * d = 1 := by have := h.1; rw [hc] at this; simpa using this
    have hd : d = 1 := Nat.eq_one_of_mul_eq_one_left (by exact_mod_cast had)
    rw [hc, hd]; simpa using hy
  · exact (comb_truncated h.2.2.1 h.2.2.2.2).2 hc

/-- **no step goes negative**: if the leading words handed to `lehmer_guess` are the operands
    truncated at a common bit position `k` (what `highest_(d)word_normalized` produce), then the
    committed cofactors give `a·x − b·y ≥ 0` and `d·y − c·x ≥ 0` for the full operands -/
theorem lehmerGuess_step_nonneg (lim fuel x y k : Nat) :
    let r := lehmerGuess lim fuel (x / 2 ^ k) (y / 2 ^ k) 1 0 0 1
    0 ≤ (r.1 : Int) * x - (r.2.1 : Int) * y ∧ 0 ≤ (r.2.2.2 : Int) * y - (r.2.2.1 : Int) * x := by
  obtain ⟨xb, yb, h⟩ := lehmerGuess_inv lim _ _ fuel _ _ 1 0 0 1 (GuessInv.init (x / 2 ^ k) (y / 2 ^ k))
  exact guessInv_nonneg h

/-- invariant with progress, for operands `y ≤ x`: the second combination never exceeds `y`, and as soon as a
    step has been committed (`b ≠ 0`) the two combinations sum to at most `x`; until then the matrix is
    the identity and the leading words are still ordered -/
def GuessProg (x y k xbar ybar a b c d : Nat) : Prop :=
  GuessInv (x / 2 ^ k) (y / 2 ^ k) xbar ybar a b c d ∧
  (d : Int) * y - c * x ≤ y ∧
  (b ≠ 0 → ((a : Int) * x - b * y) + ((d : Int) * y - c * x) ≤ x) ∧
  (b = 0 → a = 1 ∧ c = 0 ∧ d = 1 ∧ ybar ≤ xbar)

theorem GuessProg.init {x y : Nat} (k : Nat) (hxy : y ≤ x) :
    GuessProg x y k (x / 2 ^ k) (y / 2 ^ k) 1 0 0 1 :=
  ⟨GuessInv.init _ _, by simp, fun h => absurd rfl h, fun _ => ⟨rfl, rfl, rfl, Nat.div_le_div_right hxy⟩⟩

/-- a first half round turns `(X, Y)` into `(X − q·Y, Y)`, a second one into `(X, Y − q·X)`, and the
    very first quotient is at least 1 -/
theorem lehmerGuess_prog (lim x y k : Nat) :
    ∀ (fuel xbar ybar a b c d : Nat), GuessProg x y k xbar ybar a b c d →
      let r := lehmerGuess lim fuel xbar ybar a b c d
      ∃ xb yb, GuessProg x y k xb yb r.1 r.2.1 r.2.2.1 r.2.2.2 := by
  refine lehmerGuess_induct lim ?_ ?_
  · intro xbar ybar a b c d q ⟨hinv, hyle, hsum, hb0⟩ h0 hq _ _ hs
    have hqY : (0 : Int) ≤ q * ((d : Int) * y - c * x) :=
      mul_nonneg (Int.natCast_nonneg q) (guessInv_nonneg hinv).2
    have hq1 : b = 0 → 1 ≤ q := fun hb => hq ▸ Nat.div_pos (hb0 hb).2.2.2 (Nat.pos_of_ne_zero h0)
    refine ⟨hinv.first hq hs, hyle, fun _ => ?_, fun hb' => ?_⟩
    · by_cases hb : b = 0
      · -- from the identity matrix: `(x − q·y) + y ≤ x` as `q ≥ 1`
        obtain ⟨rfl, rfl, rfl, _⟩ := hb0 hb
        subst hb
        have hqI : (1 : Int) ≤ q := by exact_mod_cast hq1 rfl
        have := mul_nonneg (sub_nonneg.2 hqI) (Int.natCast_nonneg y)
        push_cast; linarith
      · push_cast; linarith [hsum hb]
    · have hb : b = 0 := by omega
      obtain ⟨_, _, rfl, _⟩ := hb0 hb
      have := hq1 hb
      omega
  · intro xbar ybar a b c d q ⟨hinv, hyle, hsum, hb0⟩ _ hq _ _ hs
    have hqX : (0 : Int) ≤ q * ((a : Int) * x - b * y) :=
      mul_nonneg (Int.natCast_nonneg q) (guessInv_nonneg hinv).1
    have hY : ((d + q * b : Nat) : Int) * y - ((c + q * a : Nat) : Int) * x
        = ((d : Int) * y - c * x) - q * ((a : Int) * x - b * y) := by push_cast; ring
    refine ⟨hinv.second hq hs, by rw [hY]; linarith, fun hb => by rw [hY]; linarith [hsum hb], fun hb => ?_⟩
    -- nothing committed yet and `ybar ≤ xbar`: the test `q ≤ ybar − q·xbar` forces `q = 0`
    obtain ⟨rfl, rfl, rfl, hle⟩ := hb0 hb
    have hq0 : q = 0 := by
      rcases Nat.eq_zero_or_pos q with h | h
      · exact h
      · have : xbar ≤ q * xbar := Nat.le_mul_of_pos_left _ h
        omega
    subst hq0
    exact ⟨rfl, by simp, by simp, by simpa using hle⟩

end Dashu.Model.NT
