import Dashu.Proofs.NT.Log
import Mathlib.Data.Nat.GCD.Basic
/-
  C12: the binary gcd of the primitives (`base/src/ring/gcd.rs`: `unchecked_gcd`, `impl Gcd for $U`)
  computes `Nat.gcd`.
-/
namespace Dashu.Model.NT
open Dashu.Model

theorem coprime_two_pow_of_odd {n : Nat} (h : n % 2 = 1) (d : Nat) : Nat.Coprime (2 ^ d) n := by
  apply Nat.Coprime.pow_left
  unfold Nat.Coprime
  rw [Nat.gcd_rec, h]; rfl

/-- the odd part `n / 2^tz(n)` of a positive number -/
theorem odd_part {n : Nat} (hn : 0 < n) :
    ∃ o, n = o * 2 ^ trailingZeros n ∧ o % 2 = 1 ∧ n / 2 ^ trailingZeros n = o ∧ 0 < o ∧ o ≤ n := by
  obtain ⟨o, ho⟩ := two_pow_tz_dvd hn
  have hodd := tz_odd hn
  generalize trailingZeros n = t at ho hodd ⊢
  have hp : 0 < 2 ^ t := Nat.two_pow_pos _
  have hdiv : n / 2 ^ t = o := by rw [ho, Nat.mul_div_cancel_left _ hp]
  rw [hdiv] at hodd
  refine ⟨o, by rw [ho, Nat.mul_comm], hodd, hdiv, by omega, ?_⟩
  rw [ho]; exact Nat.le_mul_of_pos_left _ hp

/-- stripping the factors of two of one operand does not change the gcd with an odd number -/
theorem gcd_strip_left {x b : Nat} (hx : 0 < x) (hb : b % 2 = 1) :
    Nat.gcd (x / 2 ^ trailingZeros x) b = Nat.gcd x b := by
  obtain ⟨o, h1, _, h3, _, _⟩ := odd_part hx
  rw [h3]
  conv => rhs; rw [h1]
  exact (Nat.Coprime.gcd_mul_right_cancel o (coprime_two_pow_of_odd hb _)).symm

theorem gcd_strip_right {a x : Nat} (hx : 0 < x) (ha : a % 2 = 1) :
    Nat.gcd a (x / 2 ^ trailingZeros x) = Nat.gcd a x := by
  rw [Nat.gcd_comm, gcd_strip_left hx ha, Nat.gcd_comm]

/-- `unchecked_gcd`: the subtract-and-shift loop on odd operands -/
theorem binGcdLoop_spec : ∀ (fuel a b : Nat), a % 2 = 1 → b % 2 = 1 → a + b ≤ fuel →
    binGcdLoop fuel a b = Nat.gcd a b := by
  intro fuel
  induction fuel with
  | zero => intro a b ha hb h; omega
  | succ n ih =>
    intro a b ha hb hfuel
    unfold binGcdLoop
    split
    · rename_i h; subst h; simp
    · rename_i hne
      split
      · rename_i hgt
        simp only []
        have hpos : 0 < a - b := by omega
        obtain ⟨o, _, hodd, hdiv, hopos, hole⟩ := odd_part hpos
        rw [ih _ b (by rw [hdiv]; exact hodd) hb (by rw [hdiv]; omega), gcd_strip_left hpos hb,
          Nat.gcd_sub_self_left (by omega)]
      · rename_i hle
        simp only []
        have hpos : 0 < b - a := by omega
        obtain ⟨o, _, hodd, hdiv, hopos, hole⟩ := odd_part hpos
        rw [ih a _ ha (by rw [hdiv]; exact hodd) (by rw [hdiv]; omega), gcd_strip_right hpos ha,
          Nat.gcd_sub_self_right (by omega)]

/-- common powers of two factor out of the gcd of the odd parts -/
theorem gcd_odd_parts {a b : Nat} (ha : 0 < a) (hb : 0 < b) :
    Nat.gcd a b = Nat.gcd (a / 2 ^ trailingZeros a) (b / 2 ^ trailingZeros b) *
      2 ^ min (trailingZeros a) (trailingZeros b) := by
  obtain ⟨oa, ha1, ha2, ha3, _, _⟩ := odd_part ha
  obtain ⟨ob, hb1, hb2, hb3, _, _⟩ := odd_part hb
  rw [ha3, hb3]
  generalize trailingZeros a = ta at ha1
  generalize trailingZeros b = tb at hb1
  rw [ha1, hb1]
  rcases Nat.le_total ta tb with h | h
  · rw [Nat.min_eq_left h]
    have : ob * 2 ^ tb = (ob * 2 ^ (tb - ta)) * 2 ^ ta := by
      rw [Nat.mul_assoc, ← Nat.pow_add]; congr 2; omega
    rw [this, Nat.gcd_mul_right]
    congr 1
    exact Nat.Coprime.gcd_mul_right_cancel_right ob (coprime_two_pow_of_odd ha2 _)
  · rw [Nat.min_eq_right h]
    have : oa * 2 ^ ta = (oa * 2 ^ (ta - tb)) * 2 ^ tb := by
      rw [Nat.mul_assoc, ← Nat.pow_add]; congr 2; omega
    rw [this, Nat.gcd_mul_right]
    congr 1
    exact Nat.Coprime.gcd_mul_right_cancel oa (coprime_two_pow_of_odd hb2 _)

/-- `impl Gcd for $U` (u8 … u128): panics exactly for `(0, 0)`, otherwise `Nat.gcd` — including the
    one-division shortcut when the operands differ by more than 3 (resp. 4) bits -/
theorem gcdPrim_spec (a b : Nat) :
    gcdPrim a b = if a = 0 ∧ b = 0 then .error .gcdZeroZero else .ok (Nat.gcd a b) := by
  unfold gcdPrim
  by_cases h0 : a = 0 ∨ b = 0
  · rw [if_pos h0]
    by_cases h00 : a = 0 ∧ b = 0
    · rw [if_pos h00, if_pos h00]
    · rw [if_neg h00, if_neg h00]
      rcases h0 with h | h
      · subst h; simp
      · subst h; simp
  · have hne : ¬ (a = 0 ∧ b = 0) := by omega
    rw [if_neg h0, if_neg hne]
    have ha : 0 < a := by omega
    have hb : 0 < b := by omega
    simp only []
    rw [gcd_odd_parts ha hb, tz_or ha hb]
    obtain ⟨oa, _, ha2, ha3, hapos, _⟩ := odd_part ha
    obtain ⟨ob, _, hb2, hb3, hbpos, _⟩ := odd_part hb
    rw [ha3, hb3]
    generalize min (trailingZeros a) (trailingZeros b) = sh
    by_cases hc1 : bitLen ob > bitLen oa + 3
    · -- b much longer: one division first
      rw [if_pos hc1]
      by_cases hr : ob % oa = 0
      · rw [if_pos hr]
        rw [Nat.gcd_eq_left (Nat.dvd_of_mod_eq_zero hr)]
      · rw [if_neg hr]
        have hrpos : 0 < ob % oa := Nat.pos_of_ne_zero hr
        obtain ⟨o, _, hodd, hdiv, _, hole⟩ := odd_part hrpos
        have hlt : ob % oa < oa := Nat.mod_lt _ hapos
        have hle : ob % oa ≤ ob := Nat.mod_le _ _
        congr 2
        rw [binGcdLoop_spec _ _ _ ha2 (by rw [hdiv]; exact hodd) (by rw [hdiv]; omega),
          gcd_strip_right hrpos ha2, gcd_mod_right, Nat.gcd_comm]
    · rw [if_neg hc1]
      by_cases hc2 : bitLen oa > bitLen ob + 4
      · rw [if_pos hc2]
        by_cases hr : oa % ob = 0
        · rw [if_pos hr]
          rw [Nat.gcd_eq_right (Nat.dvd_of_mod_eq_zero hr)]
        · rw [if_neg hr]
          have hrpos : 0 < oa % ob := Nat.pos_of_ne_zero hr
          obtain ⟨o, _, hodd, hdiv, _, hole⟩ := odd_part hrpos
          have hlt : oa % ob < ob := Nat.mod_lt _ hbpos
          have hle : oa % ob ≤ oa := Nat.mod_le _ _
          congr 2
          rw [binGcdLoop_spec _ _ _ (by rw [hdiv]; exact hodd) hb2 (by rw [hdiv]; omega),
            gcd_strip_left hrpos hb2, Nat.gcd_comm oa ob, Nat.gcd_rec ob oa]
      · rw [if_neg hc2]
        congr 2
        exact binGcdLoop_spec _ _ _ ha2 hb2 (Nat.le_refl _)

end Dashu.Model.NT
