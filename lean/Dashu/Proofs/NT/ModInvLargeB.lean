import Dashu.Model.NT.ModInvLargeB
import Dashu.Proofs.NT.ModInvLarge
import Dashu.Proofs.NT.ModAddK
/-
  C13: the buffer plumbing of `inv_large` (`Model/NT/ModInvLargeB.lean`) never trips a `debug_assert` on a valid residue and
  returns what `invLarge` returns: the two right shifts are exact (`debug_assert_zero!`), the cofactor `|b| < modulus` (the range
  theorems `gcdExtSmall_range` / `lehmerExt_range`) shifted back fits the buffer without carry and satisfies
  `ReducedLarge::is_valid`, the buffer-level `negate_in_place` leaves `negRaw`.  Word-loop contracts: C02's `shrInPlace_spec` /
  `shlInPlace_spec` / `cmpSameLen_spec`, C01's `subSameLen_spec` (through `negateInPlaceL_spec`), imported.
-/
namespace Dashu.Model.NT
open Dashu.Model Dashu.Model.Div

theorem head_mod {W k : Nat} (hk : k ≤ W) (ws : List Nat) : ws.headD 0 % 2 ^ k = val W ws % 2 ^ k := by
  cases ws with
  | nil => simp
  | cons w rest =>
    simp only [List.headD_cons, val_cons]
    have : 2 ^ W = 2 ^ k * 2 ^ (W - k) := by rw [← Nat.pow_add]; congr 1; omega
    rw [this, Nat.mul_assoc, Nat.add_mul_mod_self_left]

/-- **tail of `inv_large` on buffers**: for a cofactor magnitude in range, `shl_in_place` has no carry, `is_valid` holds, and the
    (possibly negated) buffer holds what the value-level tail returns -/
theorem invLargeFinishB_eq {W : Nat} {r : Ring} (hwf : r.WF W) (hkW : r.k ≤ W) (isGOne : Bool) {bMag : Nat}
    (hb : bMag < r.m) (bNeg : Bool) :
    invLargeFinishB W r isGOne bMag bNeg = .ok (invLargeFinish r isGOne bMag bNeg) := by
  unfold invLargeFinishB invLargeFinish
  cases isGOne
  · rfl
  · simp only [Bool.not_true, Bool.false_eq_true, if_false]
    obtain ⟨hlen, hndw, hndv⟩ := ndWords_spec hwf
    have hp : 0 < 2 ^ r.k := Nat.two_pow_pos _
    have hbM := raw_lt_M hb
    have hbP : bMag < 2 ^ (W * r.n) := by
      have : bMag * 1 ≤ bMag * 2 ^ r.k := Nat.mul_le_mul_left _ hp
      have := hwf.Mlt
      omega
    obtain ⟨pl, pw, pv⟩ := wordsPad_spec (W := W) (len := r.n) hwf.hW hbP
    have ⟨s1, s2, s3, s4⟩ := Div.shlInPlace_spec W r.k hkW _ pw
    generalize Div.shlInPlace W (wordsPad W r.n bMag) r.k = p at s1 s2 s3 s4
    obtain ⟨inv, carry⟩ := p
    simp only at s1 s2 s3 s4 ⊢
    rw [pl, pv] at s1
    have hc : carry = 0 := by
      rcases Nat.eq_zero_or_pos carry with h | h
      · exact h
      · have : 2 ^ (W * r.n) * 1 ≤ 2 ^ (W * r.n) * carry := Nat.mul_le_mul_left _ h
        have := hwf.Mlt
        omega
    subst hc
    have hv : val W inv = bMag * 2 ^ r.k := by omega
    have hvalid : isValidL W (r.ndWords W) r.k inv = true := by
      unfold isValidL
      rw [Div.cmpSameLen_spec W inv (r.ndWords W) (by rw [s2, pl, hlen]) s3 hndw, hv, hndv, head_mod hkW, hv]
      simp [s2, pl, hlen, Nat.compare_eq_lt.2 hbM]
    rw [hvalid]
    simp only [Bool.not_true, Bool.false_eq_true, if_false]
    cases bNeg
    · simp only [Bool.false_eq_true, if_false, hv]
    · simp only [if_true]
      obtain ⟨out, ho, _, _, hov⟩ := negateInPlaceL_spec hndw s3 (by rw [hlen, s2, pl]) (by rw [hv, hndv]; omega)
      rw [ho]
      simp only [Except.map, hov, hv, hndv, negRaw]

/-- **`inv_large` with its buffer plumbing = the value-level mirror `invLarge`** on every valid residue (the ring need not be multi-word for this) -/
theorem invLargeB_eq {W : Nat} {r : Ring} (hwf : r.WF W) (hkW : r.k < W) {u : Nat} (hu : u < r.m) :
    invLargeB W r (u * 2 ^ r.k) = invLarge W r (u * 2 ^ r.k) := by
  have hW := hwf.hW
  have hp : 0 < 2 ^ r.k := Nat.two_pow_pos _
  obtain ⟨hlen, hndw, hndv⟩ := ndWords_spec hwf
  have huM := raw_lt_M hu
  obtain ⟨la, wa, va⟩ := rawWords_spec hwf huM
  obtain ⟨m1, m2, -⟩ := shrInPlace_exact (s := r.k) (x := r.m) (by omega) hndw (by rw [hndv]; rfl)
  obtain ⟨r1, r2, -⟩ := shrInPlace_exact (s := r.k) (x := u) (by omega) wa va
  unfold invLargeB invLarge
  simp only [m1, m2, r1, r2, M_div, Nat.mul_div_cancel _ hp, ne_eq, not_true_eq_false, if_false]
  by_cases h0 : wordLen W u = 0
  · rw [if_pos h0, if_pos h0]
  · rw [if_neg h0, if_neg h0]
    have hupos : 0 < u := by
      apply Nat.pos_of_ne_zero; intro h; subst h
      exact h0 (wordLen_zero hW)
    by_cases h2 : wordLen W u ≤ 2
    · rw [if_pos h2, if_pos h2]
      obtain ⟨g, a, bMag, bNeg, heq, _⟩ := gcdExtSmall_spec W r.m u hupos
      have hrange := gcdExtSmall_range W hupos hu heq
      rw [heq]
      exact invLargeFinishB_eq hwf (by omega) _ hrange _
    · rw [if_neg h2, if_neg h2]
      obtain ⟨res, heq, _⟩ := lehmerExt_correct W hW r.m u hupos hu
      have hrange := lehmerExt_range W hW r.m u hupos hu res heq
      obtain ⟨g, bMag, bNeg⟩ := res
      rw [heq]
      exact invLargeFinishB_eq hwf (by omega) _ hrange _

theorem invRawKB_eq {W : Nat} {r : Ring} (hwf : r.WF W) (hkW : r.k < W) {u : Nat} (hu : u < r.m) :
    invRawKB W r (u * 2 ^ r.k) = invRawKP W r (u * 2 ^ r.k) := by
  unfold invRawKB
  cases hk : r.kind with
  | large =>
    simp only []
    rw [invLargeB_eq hwf hkW hu]
    unfold invRawKP; rw [hk]
  | single => rfl
  | double => rfl

end Dashu.Model.NT
