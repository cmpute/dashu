import Dashu.Model.NT.PrimRoot
/-
  Bounded universal quantification as a Boolean, for the finite table checks that the kernel evaluates.
-/
namespace Dashu.Model.NT

/-- `p` holds on `lo, lo+1, …, lo+k−1` -/
def allFrom (p : Nat → Bool) : Nat → Nat → Bool
  | 0, _ => true
  | k + 1, lo => p lo && allFrom p k (lo + 1)

theorem allFrom_spec (p : Nat → Bool) : ∀ k lo, allFrom p k lo = true → ∀ n, lo ≤ n → n < lo + k → p n = true := by
  intro k
  induction k with
  | zero => intro lo _ n h1 h2; omega
  | succ k ih =>
    intro lo h n h1 h2
    simp only [allFrom, Bool.and_eq_true] at h
    by_cases hn : n = lo
    · subst hn; exact h.1
    · exact ih (lo + 1) h.2 n (by omega) (by omega)

/-- `p t n` holds for every entry `t` of the table `ts` and each of the `blk` values `n` it serves, entry number `i`
    serving `lo + blk·i, …, lo + blk·i + blk − 1`.  The list is walked once; a check that fetches `tab[n / blk]?` for
    every `n` walks it once per value. -/
def allTab (p : Nat → Nat → Bool) (blk : Nat) : List Nat → Nat → Bool
  | [], _ => true
  | t :: ts, lo => allFrom (p t) blk lo && allTab p blk ts (lo + blk)

theorem allTab_spec (p : Nat → Nat → Bool) (blk : Nat) : ∀ ts lo, allTab p blk ts lo = true →
    ∀ i t n, ts[i]? = some t → lo + blk * i ≤ n → n < lo + blk * i + blk → p t n = true := by
  intro ts
  induction ts with
  | nil => intro _ _ i t n hi; simp at hi
  | cons a ts ih =>
    intro lo h i t n hi h1 h2
    rw [allTab, Bool.and_eq_true] at h
    cases i with
    | zero =>
      rw [List.getElem?_cons_zero, Option.some.injEq] at hi
      subst hi
      exact allFrom_spec _ blk lo h.1 n (by omega) (by omega)
    | succ i =>
      rw [List.getElem?_cons_succ] at hi
      rw [Nat.mul_succ] at h1 h2
      exact ih _ h.2 i t n hi (by omega) (by omega)

/-- the walk over the `m` entries of `tab` from number `d` on, read against the lookup `tabAt tab (n / blk) off` of the
    routines: it establishes `p` at the looked-up entry for every `n` these entries serve -/
theorem allTab_tabAt {p : Nat → Nat → Bool} {blk off d m n : Nat} {tab : List Nat} (hb : 0 < blk)
    (hok : allTab p blk ((tab.drop d).take m) (blk * (off + d)) = true) (hlen : d + m ≤ tab.length)
    (h1 : blk * (off + d) ≤ n) (h2 : n < blk * (off + d + m)) :
    (tabAt tab (n / blk) off).any (fun t => p t n) = true := by
  have hlo : off + d ≤ n / blk := (Nat.le_div_iff_mul_le hb).2 (by rw [Nat.mul_comm]; exact h1)
  have hhi : n / blk < off + d + m := (Nat.div_lt_iff_lt_mul hb).2 (by rw [Nat.mul_comm]; exact h2)
  obtain ⟨i, hi⟩ : ∃ i, n / blk - off = d + i := ⟨n / blk - off - d, by omega⟩
  obtain ⟨t, ht⟩ : ∃ t, tab[d + i]? = some t := ⟨_, List.getElem?_eq_getElem (show d + i < tab.length by omega)⟩
  have hdm := Nat.div_add_mod n blk
  have hml := Nat.mod_lt n hb
  have hq : blk * (n / blk) = blk * off + blk * d + blk * i := by
    rw [show n / blk = off + (d + i) by omega, Nat.mul_add, Nat.mul_add, Nat.add_assoc]
  unfold tabAt
  rw [if_neg (by omega), hi, ht, Option.any_some]
  refine allTab_spec p blk _ _ hok i t n ?_ (by rw [Nat.mul_add]; omega) (by rw [Nat.mul_add]; omega)
  rw [List.getElem?_take, if_pos (by omega), List.getElem?_drop, ht]

end Dashu.Model.NT
