import Dashu.Model.NT.Log
import Dashu.Proofs.NT.Basic
import Dashu.Proofs.NT.Gcd
import Mathlib.Tactic.Ring
/-
  C12: integer logarithm — the correction loops end at the floor logarithm for every admissible
  first guess; `remove` returns the exact multiplicity.
-/
namespace Dashu.Model.NT
open Dashu.Model

/-- `(e, p)` is the floor logarithm of `x` in base `b` together with `b^e` -/
def IsLog (x b : Nat) (res : Nat × Nat) : Prop := res.2 = b ^ res.1 ∧ res.2 ≤ x ∧ x < res.2 * b

/-- the up-loop of `log_dword` / `log_large` from any power `base^est ≤ target` -/
theorem logUpLoop_spec {target base ovf : Nat} (hb : 2 ≤ base) (hovf : ovf = 0 ∨ target < ovf) :
    ∀ (fuel est estPow : Nat), estPow = base ^ est → estPow ≤ target → target < estPow * 2 ^ fuel →
      IsLog target base (logUpLoop target base ovf fuel est estPow) := by
  intro fuel
  induction fuel with
  | zero => intro est estPow _ h2 h3; simp at h3; omega
  | succ n ih =>
    intro est estPow h1 h2 h3
    have hpos : 0 < estPow := by rw [h1]; exact pow_pos (by omega) _
    have hnext : estPow * base = base ^ (est + 1) := by rw [h1, Nat.pow_succ]
    have h2x : estPow * 2 ≤ estPow * base := Nat.mul_le_mul_left _ hb
    unfold logUpLoop
    simp only []
    split
    · rename_i hov
      refine ⟨h1, h2, ?_⟩
      show target < estPow * base
      rcases hovf with h | h
      · exact absurd h hov.1
      · omega
    · split
      · rename_i hlt
        apply ih _ _ hnext (Nat.le_of_lt hlt)
        calc target < estPow * 2 ^ (n + 1) := h3
          _ = estPow * 2 * 2 ^ n := by rw [Nat.pow_succ]; ring
          _ ≤ estPow * base * 2 ^ n := Nat.mul_le_mul_right _ h2x
      · split
        · rename_i heq
          refine ⟨hnext, Nat.le_of_eq heq, ?_⟩
          simp only []
          have : 0 < estPow * base := by omega
          calc target = estPow * base := heq.symm
            _ < estPow * base * 2 := by omega
            _ ≤ estPow * base * base := Nat.mul_le_mul_left _ hb
        · refine ⟨h1, h2, ?_⟩
          simp only []; omega

theorem lt_mul_two_pow_bitLen {t p : Nat} (hp : 0 < p) : t < p * 2 ^ (bitLen t + 1) := by
  have := lt_two_pow_bitLen t
  have h2 : 2 ^ bitLen t ≤ 2 ^ (bitLen t + 1) := Nat.pow_le_pow_right (by decide) (by omega)
  calc t < 2 ^ (bitLen t + 1) := by omega
    _ ≤ p * 2 ^ (bitLen t + 1) := Nat.le_mul_of_pos_left _ hp

/-- `log_dword`: zero target panics; otherwise, for **any** first guess with `base^est ≤ target`
    (what the code asserts) the result is the floor logarithm -/
theorem logDword_spec (W : Nat) {target base : Nat} (hb : 2 ≤ base) (ht : target < 2 ^ (2 * W)) (est : Nat) :
    (target = 0 → logDword W target base est = .error .logInvalid) ∧
    (0 < target → base ^ est ≤ target →
        ∃ res, logDword W target base est = .ok res ∧ IsLog target base res) := by
  constructor
  · intro h; simp [logDword, h]
  · intro hpos hest
    unfold logDword
    rw [if_neg (by omega)]
    split
    · rename_i h1; exact ⟨_, rfl, by simp [IsLog, h1]; omega⟩
    · split
      · rename_i h1 h2; exact ⟨_, rfl, by simp [IsLog]; omega⟩
      · split
        · rename_i h1 h2 h3
          refine ⟨_, rfl, ?_⟩
          simp only [IsLog, Nat.pow_one, true_and]
          subst h3
          exact ⟨Nat.le_refl _, Nat.lt_mul_self_iff.2 hb⟩
        · simp only []
          rw [if_neg (by omega)]
          exact ⟨_, rfl, logUpLoop_spec hb (Or.inr ht) _ _ _ rfl hest
            (lt_mul_two_pow_bitLen (pow_pos (by omega) _))⟩

/-- `log_large`: for any first guess whose `max(est, 1)`-th power is `≤ target` -/
theorem logLarge_spec {target base : Nat} (hb : 2 ≤ base) (est : Nat) (hest : base ^ max est 1 ≤ target) :
    ∃ res, logLarge target base est = .ok res ∧ IsLog target base res := by
  unfold logLarge
  simp only []
  rw [if_neg (by omega)]
  exact ⟨_, rfl, logUpLoop_spec hb (Or.inl rfl) _ _ _ rfl hest
    (lt_mul_two_pow_bitLen (pow_pos (by omega) _))⟩

/-- second loop of `log_word_base`: from a power that is `≤ target`, or one factor too large -/
theorem logWordFix_spec {target base : Nat} (hb : 2 ≤ base) :
    ∀ (n est estPow : Nat), estPow = base ^ est →
      (target < estPow → 0 < est ∧ base ^ (est - 1) ≤ target) →
      target < estPow * 2 ^ n →
      IsLog target base (logWordFix target base (n + 1) est estPow) := by
  intro n
  induction n with
  | zero =>
    intro est estPow h1 h2 h3
    simp only [Nat.pow_zero, Nat.mul_one] at h3
    obtain ⟨hpos, hle⟩ := h2 h3
    have hsplit : estPow = base ^ (est - 1) * base := by
      rw [h1, ← Nat.pow_succ]; congr 1; omega
    unfold logWordFix
    rw [if_neg (by omega), if_neg (by omega)]
    refine ⟨?_, ?_, ?_⟩
    · simp only []; rw [hsplit, Nat.mul_div_cancel _ (by omega)]
    · simp only []; rw [hsplit, Nat.mul_div_cancel _ (by omega)]; exact hle
    · simp only []; rw [hsplit, Nat.mul_div_cancel _ (by omega), ← hsplit]; exact h3
  | succ n ih =>
    intro est estPow h1 h2 h3
    have hnext : estPow * base = base ^ (est + 1) := by rw [h1, Nat.pow_succ]
    have hpos : 0 < estPow := by rw [h1]; exact pow_pos (by omega) _
    unfold logWordFix
    split
    · rename_i hlt
      apply ih _ _ hnext
      · intro _; exact ⟨by omega, by simpa [← h1] using Nat.le_of_lt hlt⟩
      · calc target < estPow * 2 ^ (n + 1) := h3
          _ = estPow * 2 * 2 ^ n := by rw [Nat.pow_succ]; ring
          _ ≤ estPow * base * 2 ^ n := Nat.mul_le_mul_right _ (Nat.mul_le_mul_left _ hb)
    · split
      · rename_i h4 heq
        refine ⟨h1, Nat.le_of_eq heq, ?_⟩
        simp only []
        calc target = estPow := heq.symm
          _ < estPow * 2 := by omega
          _ ≤ estPow * base := Nat.mul_le_mul_left _ hb
      · rename_i h4 h5
        have hgt : target < estPow := by omega
        obtain ⟨hp, hle⟩ := h2 hgt
        have hsplit : estPow = base ^ (est - 1) * base := by
          rw [h1, ← Nat.pow_succ]; congr 1; omega
        refine ⟨?_, ?_, ?_⟩
        · simp only []; rw [hsplit, Nat.mul_div_cancel _ (by omega)]
        · simp only []; rw [hsplit, Nat.mul_div_cancel _ (by omega)]; exact hle
        · simp only []; rw [hsplit, Nat.mul_div_cancel _ (by omega), ← hsplit]; exact hgt

/-- `max_exp_in_word`: returns `(e, base^e)` with `e ≥ 1` -/
theorem maxExpInWord_spec (W base : Nat) :
    (maxExpInWord W base).2 = base ^ (maxExpInWord W base).1 ∧ 0 < (maxExpInWord W base).1 := by
  unfold maxExpInWord
  have : ∀ (fuel e p : Nat), p = base ^ e → 0 < e →
      (maxExpInWord.go W base fuel e p).2 = base ^ (maxExpInWord.go W base fuel e p).1 ∧
      0 < (maxExpInWord.go W base fuel e p).1 := by
    intro fuel
    induction fuel with
    | zero => intro e p h1 h2; exact ⟨h1, h2⟩
    | succ n ih =>
      intro e p h1 h2
      unfold maxExpInWord.go
      split
      · exact ih _ _ (by rw [h1, Nat.pow_succ]) (by omega)
      · exact ⟨h1, h2⟩
  exact this W 1 base (by simp) (by decide)

/-- first loop of `log_word_base`: stepping by whole word-powers never passes the target -/
theorem logWordStep_spec {W target base wbase wexp : Nat} (hW : 0 < W) (hb : 2 ≤ base)
    (hw : wbase = base ^ wexp) (hwlt : wbase < 2 ^ W) :
    ∀ (fuel est estPow : Nat), estPow = base ^ est → estPow ≤ target → 0 < estPow →
      (logWordStep W target wbase wexp fuel est estPow).2 = base ^ (logWordStep W target wbase wexp fuel est estPow).1 ∧
      (logWordStep W target wbase wexp fuel est estPow).2 ≤ target ∧
      0 < (logWordStep W target wbase wexp fuel est estPow).2 := by
  have hwpos : 0 < wbase := by rw [hw]; exact pow_pos (by omega) _
  intro fuel
  induction fuel with
  | zero => intro est estPow h1 h2 h3; exact ⟨h1, h2, h3⟩
  | succ n ih =>
    intro est estPow h1 h2 h3
    unfold logWordStep
    split
    · rename_i hlen
      simp only []
      generalize hstopdef : (if wordLen W estPow = wordLen W target - 1 then
          decide ((estPow / 2 ^ (W * (wordLen W estPow - 1)) + 1) * wbase >
            target / 2 ^ (W * (wordLen W target - 2))) else false) = stop
      cases stop with
      | true => exact ⟨h1, h2, h3⟩
      | false =>
        simp only [Bool.false_eq_true, if_false]
        have hnext : estPow * wbase = base ^ (est + wexp) := by rw [h1, hw, Nat.pow_add]
        have htpos : target ≠ 0 := by omega
        have hle : estPow * wbase ≤ target := by
          have he := lt_two_pow_wordLen hW estPow
          have ht := two_pow_le_of_wordLen hW htpos
          by_cases hadj : wordLen W estPow = wordLen W target - 1
          · -- one word shorter: the overestimate test passed
            rw [if_pos hadj] at hstopdef
            have hs : ¬ ((estPow / 2 ^ (W * (wordLen W estPow - 1)) + 1) * wbase >
                target / 2 ^ (W * (wordLen W target - 2))) := by simpa using hstopdef
            have e : wordLen W estPow - 1 = wordLen W target - 2 := by omega
            rw [e] at hs
            have hs : (estPow / 2 ^ (W * (wordLen W target - 2)) + 1) * wbase ≤
                target / 2 ^ (W * (wordLen W target - 2)) := by omega
            have hP : 0 < 2 ^ (W * (wordLen W target - 2)) := Nat.two_pow_pos _
            generalize 2 ^ (W * (wordLen W target - 2)) = P at hs hP
            have h5 : estPow < (estPow / P + 1) * P := by
              have := Nat.div_add_mod estPow P
              have := Nat.mod_lt estPow hP
              rw [Nat.add_mul, Nat.one_mul, Nat.mul_comm]; omega
            have h6 : target / P * P ≤ target := Nat.div_mul_le_self _ _
            calc estPow * wbase ≤ (estPow / P + 1) * P * wbase := Nat.mul_le_mul_right _ (Nat.le_of_lt h5)
              _ = (estPow / P + 1) * wbase * P := by ring
              _ ≤ target / P * P := Nat.mul_le_mul_right _ hs
              _ ≤ target := h6
          · -- at least two words shorter
            have hlen2 : wordLen W estPow + 1 ≤ wordLen W target - 1 := by omega
            have h5 : estPow * wbase < 2 ^ (W * wordLen W estPow) * 2 ^ W :=
              Nat.mul_lt_mul'' he hwlt
            have h6 : 2 ^ (W * wordLen W estPow) * 2 ^ W = 2 ^ (W * (wordLen W estPow + 1)) := by
              rw [← Nat.pow_add, Nat.mul_succ]
            have h7 : 2 ^ (W * (wordLen W estPow + 1)) ≤ 2 ^ (W * (wordLen W target - 1)) :=
              Nat.pow_le_pow_right (by decide) (Nat.mul_le_mul_left W hlen2)
            omega
        exact ih _ _ hnext hle (Nat.mul_pos h3 hwpos)
    · exact ⟨h1, h2, h3⟩

theorem maxExpInWord_lt (W base : Nat) (hb : base < 2 ^ W) : (maxExpInWord W base).2 < 2 ^ W := by
  unfold maxExpInWord
  have : ∀ (fuel e p : Nat), p < 2 ^ W → (maxExpInWord.go W base fuel e p).2 < 2 ^ W := by
    intro fuel
    induction fuel with
    | zero => intro e p h; exact h
    | succ n ih =>
      intro e p h
      unfold maxExpInWord.go
      split
      · rename_i hlt; exact ih _ _ hlt
      · exact h
  exact this W 1 base hb

/-- `log_word_base`: for any first guess with `base^est ≤ target` -/
theorem logWordBase_spec {W target base : Nat} (hW : 0 < W) (hb : 2 ≤ base) (hbw : base < 2 ^ W)
    (est : Nat) (hest : base ^ est ≤ target) :
    ∃ res, logWordBase W target base est = .ok res ∧ IsLog target base res := by
  unfold logWordBase
  obtain ⟨hw1, _⟩ := maxExpInWord_spec W base
  have hw2 := maxExpInWord_lt W base hbw
  generalize maxExpInWord W base = we at hw1 hw2
  obtain ⟨wexp, wbase⟩ := we
  simp only [] at hw1 hw2 ⊢
  rw [if_neg (by omega)]
  obtain ⟨h1, h2, h3⟩ := logWordStep_spec (target := target) hW hb hw1 hw2 (wordLen W target + 1) est
    (base ^ est) rfl hest (pow_pos (by omega) _)
  generalize logWordStep W target wbase wexp (wordLen W target + 1) est (base ^ est) = st at h1 h2 h3
  obtain ⟨e', p'⟩ := st
  simp only [] at h1 h2 h3 ⊢
  exact ⟨_, rfl, logWordFix_spec hb (bitLen target + 1) e' p' h1 (fun h => by omega)
    (lt_mul_two_pow_bitLen h3)⟩

/-- `TypedReprRef::log` as the property requires it (`fixed = true`): panics exactly for a zero
    target or a base below 2, otherwise — for every estimator whose guess the code's assertion
    accepts — returns the floor logarithm and the corresponding power -/
theorem logRepr_spec (W : Nat) (hW : 0 < W) (estF : Nat → Nat → Nat) (x base : Nat)
    (hest : base ≤ x → base ^ max (estF x base) 1 ≤ x) :
    ((x = 0 ∨ base < 2) → logRepr W true estF x base = .error .logInvalid) ∧
    (0 < x → 2 ≤ base → ∃ res, logRepr W true estF x base = .ok res ∧ IsLog x base res) := by
  constructor
  · intro h
    unfold logRepr
    by_cases hb : base < 2
    · have : base < 2 ^ (2 * W) := Nat.lt_of_lt_of_le hb (by
        calc 2 = 2 ^ 1 := rfl
          _ ≤ 2 ^ (2 * W) := Nat.pow_le_pow_right (by decide) (by omega))
      simp [hb, this]
    · have hx : x = 0 := by omega
      simp [hx]; omega
  · intro hx hb
    have hxb : 2 ^ (bitLen x - 1) ≤ x := two_pow_bitLen_le (by omega)
    have hxu := lt_two_pow_bitLen x
    have hbl := bitLen_pos (show x ≠ 0 by omega)
    have hestle : base ≤ x → base ^ estF x base ≤ x := by
      intro h
      exact Nat.le_trans (Nat.pow_le_pow_right (by omega) (Nat.le_max_left _ _)) (hest h)
    unfold logRepr
    rw [if_neg (by omega)]
    by_cases hsmall : base < 2 ^ (2 * W)
    · rw [if_pos hsmall, if_neg (by omega)]
      by_cases h2 : base = 2
      · -- base 2
        subst h2
        rw [if_pos rfl, if_neg (by omega)]
        refine ⟨_, rfl, rfl, hxb, ?_⟩
        show x < 2 ^ (bitLen x - 1) * 2
        rw [← Nat.pow_succ]
        have : (bitLen x - 1).succ = bitLen x := by omega
        rw [this]; exact hxu
      · rw [if_neg h2]
        by_cases hpow : base = 2 ^ (bitLen base - 1)
        · -- a power of two
          rw [if_pos hpow, if_neg (by omega)]
          simp only []
          have hj : 0 < bitLen base - 1 := by
            by_contra h0
            have : bitLen base - 1 = 0 := by omega
            rw [this] at hpow; omega
          generalize bitLen base - 1 = j at hpow hj
          refine ⟨_, rfl, ?_, ?_, ?_⟩
          · show 2 ^ ((bitLen x - 1) / j * j) = base ^ ((bitLen x - 1) / j)
            rw [hpow, ← Nat.pow_mul, Nat.mul_comm]
          · show 2 ^ ((bitLen x - 1) / j * j) ≤ x
            exact Nat.le_trans (Nat.pow_le_pow_right (by decide) (Nat.div_mul_le_self _ _)) hxb
          · show x < 2 ^ ((bitLen x - 1) / j * j) * base
            rw [hpow, ← Nat.pow_add]
            have hdm := Nat.div_add_mod (bitLen x - 1) j
            have hml := Nat.mod_lt (bitLen x - 1) hj
            have : bitLen x ≤ (bitLen x - 1) / j * j + j := by
              rw [Nat.mul_comm]; omega
            exact Nat.lt_of_lt_of_le hxu (Nat.pow_le_pow_right (by decide) this)
        · rw [if_neg hpow]
          by_cases hxs : x < 2 ^ (2 * W)
          · rw [if_pos hxs]
            -- log_dword: shortcuts first
            by_cases hle : base ≤ x
            · exact (logDword_spec W hb hxs _).2 hx (hestle hle)
            · -- target < base: the estimate is not consulted
              unfold logDword
              rw [if_neg (by omega)]
              split
              · rename_i h1; exact ⟨_, rfl, by simp [IsLog, h1]; omega⟩
              · rw [if_pos (by omega)]
                exact ⟨_, rfl, by simp [IsLog]; omega⟩
          · rw [if_neg hxs]
            have hbx : base ≤ x := by omega
            by_cases hbw : base < 2 ^ W
            · rw [if_pos hbw]
              exact logWordBase_spec hW hb hbw _ (hestle hbx)
            · rw [if_neg hbw]
              exact logLarge_spec hb _ (hest hbx)
    · rw [if_neg hsmall]
      by_cases h1 : x < 2 ^ (2 * W)
      · rw [if_pos h1]
        exact ⟨_, rfl, by simp [IsLog]; omega⟩
      · rw [if_neg h1]
        by_cases h2 : x < base
        · rw [if_pos h2]
          exact ⟨_, rfl, by simp [IsLog]; omega⟩
        · rw [if_neg h2]
          by_cases h3 : x = base
          · subst h3
            rw [if_pos rfl]
            refine ⟨_, rfl, ?_⟩
            simp only [IsLog, Nat.pow_one, true_and]
            exact ⟨Nat.le_refl _, Nat.lt_mul_self_iff.2 hb⟩
          · rw [if_neg h3]
            exact logLarge_spec hb _ (hest (by omega))

/-- the driver's estimator (`est = 1`) is admissible: the unconditional corollary -/
theorem logRepr_estOne (W : Nat) (hW : 0 < W) (x base : Nat) (hx : 0 < x) (hb : 2 ≤ base) :
    ∃ res, logRepr W true (fun _ _ => 1) x base = .ok res ∧ IsLog x base res :=
  (logRepr_spec W hW (fun _ _ => 1) x base (by intro h; simpa using h)).2 hx hb

-- ---------------------------------------------------------------- remove

/-- second stage of `remove`: walking down the tower `f^(2^L), …, f^2` (highest first) divides out
    every remaining power whose exponent bit is set; afterwards `f^2 ∤ q` -/
theorem removeDown_spec {f : Nat} (hf : 2 ≤ f) :
    ∀ (pows : List Nat) (q exp x : Nat), 0 < q →
      (∀ i, i < pows.length → pows.getD i 0 = f ^ (2 ^ (pows.length - i))) →
      x = q * f ^ exp → ¬ (f ^ (2 ^ (pows.length + 1)) ∣ q) →
      let res := removeDown pows q exp
      x = res.1 * f ^ res.2 ∧ 0 < res.1 ∧ ¬ (f ^ 2 ∣ res.1) := by
  intro pows
  induction pows with
  | nil =>
    intro q exp x hq _ hx hnd
    exact ⟨hx, hq, by simpa [removeDown] using hnd⟩
  | cons last rest ih =>
    intro q exp x hq hp hx hnd
    have hlast : last = f ^ (2 ^ (rest.length + 1)) := by
      have := hp 0 (by simp)
      simpa using this
    have hrest : ∀ i, i < rest.length → rest.getD i 0 = f ^ (2 ^ (rest.length - i)) := by
      intro i hi
      have := hp (i + 1) (by simp; omega)
      simpa using this
    have hfpos : 0 < last := by rw [hlast]; exact pow_pos (by omega) _
    unfold removeDown
    split
    · rename_i hdiv
      have hq' : q = q / last * last := by
        have := Nat.div_add_mod q last
        rw [hdiv] at this; rw [Nat.mul_comm]; omega
      apply ih (q / last) _ x
      · apply Nat.pos_of_ne_zero; intro h0; rw [h0] at hq'; omega
      · exact hrest
      · rw [hx, Nat.pow_add, ← hlast]
        calc q * f ^ exp = q / last * last * f ^ exp := by rw [← hq']
          _ = q / last * (f ^ exp * last) := by ring
      · intro hd
        apply hnd
        have : f ^ (2 ^ (rest.length + 1 + 1)) = last * last := by
          rw [hlast, ← Nat.pow_add]; congr 1; rw [Nat.pow_succ]; omega
        simp only [List.length_cons]
        rw [this, hq']
        exact Nat.mul_dvd_mul (by rw [hlast] at hd ⊢; exact hd) (Nat.dvd_refl _)
    · rename_i hdiv
      apply ih q exp x hq hrest hx
      intro hd
      apply hdiv
      rw [hlast]
      exact Nat.mod_eq_zero_of_dvd hd

/-- first stage of `remove`: the squaring tower grows while the quotient stays divisible -/
theorem removeUp_spec {f x : Nat} (hf : 2 ≤ f) :
    ∀ (fuel q exp : Nat) (pows : List Nat), 0 < q → q < 2 ^ fuel → pows ≠ [] →
      (∀ i, i < pows.length → pows.getD i 0 = f ^ (2 ^ (pows.length - i))) →
      x = q * f ^ exp →
      let res := removeUp fuel q exp pows
      x = res.1 * f ^ res.2.1 ∧ 0 < res.1 ∧
      (∀ i, i < res.2.2.length → res.2.2.getD i 0 = f ^ (2 ^ (res.2.2.length - i))) ∧
      ¬ (f ^ (2 ^ (res.2.2.length + 1)) ∣ res.1) := by
  intro fuel
  induction fuel with
  | zero => intro q _ _ hq h; simp at h; omega
  | succ n ih =>
    intro q exp pows hq hlt hne hp hx
    unfold removeUp
    cases pows with
    | nil => exact absurd rfl hne
    | cons last rest =>
      simp only []
      have hlast : last = f ^ (2 ^ (rest.length + 1)) := by
        have := hp 0 (by simp)
        simpa using this
      have h4 : 4 ≤ last := by
        rw [hlast]
        calc 4 = 2 ^ 2 := rfl
          _ ≤ f ^ 2 := Nat.pow_le_pow_left hf 2
          _ ≤ f ^ (2 ^ (rest.length + 1)) := Nat.pow_le_pow_right (by omega) (by
              calc 2 = 2 ^ 1 := rfl
                _ ≤ 2 ^ (rest.length + 1) := Nat.pow_le_pow_right (by decide) (by omega))
      split
      · rename_i hnd
        refine ⟨hx, hq, hp, ?_⟩
        intro hd
        apply hnd
        have : f ^ 2 ^ ((last :: rest).length + 1) = last * last := by
          rw [hlast, ← Nat.pow_add]; congr 1; simp [Nat.pow_succ]; omega
        rw [this] at hd
        exact Nat.mod_eq_zero_of_dvd (Nat.dvd_trans (Nat.dvd_mul_right _ _) hd)
      · rename_i hdiv
        have hdiv : q % last = 0 := by omega
        have hq' : q = q / last * last := by
          have := Nat.div_add_mod q last
          rw [hdiv] at this; rw [Nat.mul_comm]; omega
        have hqpos : 0 < q / last := by
          apply Nat.pos_of_ne_zero; intro h0; rw [h0] at hq'; omega
        apply ih (q / last) _ (last * last :: last :: rest) hqpos
        · have : q / last ≤ q / 2 := Nat.div_le_div_left (by omega) (by decide)
          rw [Nat.pow_succ] at hlt; omega
        · simp
        · intro i hi
          cases i with
          | zero =>
            simp only [List.getD_cons_zero, List.length_cons, Nat.sub_zero]
            rw [hlast, ← Nat.pow_add]; congr 1; have := Nat.pow_succ 2 (rest.length + 1); omega
          | succ i =>
            have := hp i (by simp at hi ⊢; omega)
            simp only [List.getD_cons_succ, List.length_cons] at this ⊢
            rw [this]; congr 2; omega
        · rw [hx, Nat.pow_add]
          have : f ^ 2 ^ (last :: rest).length = last := by rw [hlast]; simp
          rw [this]
          calc q * f ^ exp = q / last * last * f ^ exp := by rw [← hq']
            _ = q / last * (f ^ exp * last) := by ring

/-- `UBig::remove`: `None` exactly for `x = 0` or `factor < 2`; otherwise the exact multiplicity
    `e` and the cofactor `q` with `x = q·f^e`, `f ∤ q` -/
theorem removeRepr_spec (x f : Nat) :
    ((x = 0 ∨ f < 2) → removeRepr x f = none) ∧
    (0 < x → 2 ≤ f → ∃ e q, removeRepr x f = some (e, q) ∧ x = q * f ^ e ∧ ¬ (f ∣ q)) := by
  constructor
  · intro h
    unfold removeRepr
    rw [if_pos (by omega)]
  · intro hx hf
    unfold removeRepr
    rw [if_neg (by omega)]
    split
    · -- power-of-two factor
      rename_i hpow
      simp only []
      have hj : 0 < bitLen f - 1 := by
        by_contra h0
        have : bitLen f - 1 = 0 := by omega
        rw [this] at hpow; omega
      generalize bitLen f - 1 = j at hpow hj
      have hdvd := two_pow_tz_dvd hx
      have hodd := tz_odd hx
      generalize trailingZeros x = t at hdvd hodd
      obtain ⟨o, ho⟩ := hdvd
      have hp : 0 < 2 ^ t := Nat.two_pow_pos _
      have ho' : x / 2 ^ t = o := by rw [ho, Nat.mul_div_cancel_left _ hp]
      rw [ho'] at hodd
      have hdm := Nat.div_add_mod t j
      have hml := Nat.mod_lt t hj
      have hsplit : 2 ^ t = 2 ^ (t / j * j) * 2 ^ (t % j) := by
        rw [← Nat.pow_add]; congr 1; rw [Nat.mul_comm]; omega
      have hq : x / 2 ^ (t / j * j) = o * 2 ^ (t % j) := by
        rw [ho, hsplit]
        have : 2 ^ (t / j * j) * 2 ^ (t % j) * o = 2 ^ (t / j * j) * (o * 2 ^ (t % j)) := by ring
        rw [this, Nat.mul_div_cancel_left _ (Nat.two_pow_pos _)]
      refine ⟨_, _, rfl, ?_, ?_⟩
      · rw [hq, hpow, ← Nat.pow_mul, Nat.mul_comm j, ho, hsplit]; ring
      · rw [hq, hpow]
        intro ⟨c, hc⟩
        have e2 : 2 ^ j = 2 ^ (t % j) * 2 ^ (j - t % j) := by
          rw [← Nat.pow_add]; congr 1; omega
        rw [e2] at hc
        have : o = 2 ^ (j - t % j) * c := by
          apply Nat.eq_of_mul_eq_mul_left (Nat.two_pow_pos (t % j))
          rw [Nat.mul_comm _ o, hc]; ring
        have h2 : 2 ∣ 2 ^ (j - t % j) := by
          have : j - t % j = (j - t % j - 1) + 1 := by omega
          rw [this, Nat.pow_succ]; exact Nat.dvd_mul_left _ _
        have : 2 ∣ o := by rw [this]; exact Nat.dvd_trans h2 (Nat.dvd_mul_right _ _)
        omega
    · rename_i hpow
      split
      · rename_i hnd
        refine ⟨0, x, rfl, by simp, ?_⟩
        intro hd; exact hnd (Nat.mod_eq_zero_of_dvd hd)
      · rename_i hdiv
        have hdiv : x % f = 0 := by omega
        have hq' : x = x / f * f := by
          have := Nat.div_add_mod x f
          rw [hdiv] at this; rw [Nat.mul_comm]; omega
        have hqpos : 0 < x / f := by
          apply Nat.pos_of_ne_zero; intro h0; rw [h0] at hq'; omega
        have hup := removeUp_spec (x := x) hf (bitLen x) (x / f) 1 [f * f] hqpos
          (Nat.lt_of_le_of_lt (Nat.div_le_self _ _) (lt_two_pow_bitLen x)) (by simp)
          (by intro i hi; simp at hi; subst hi; simp [Nat.pow_two])
          (by simpa using hq')
        generalize removeUp (bitLen x) (x / f) 1 [f * f] = r1 at hup
        obtain ⟨q1, e1, p1⟩ := r1
        simp only [] at hup ⊢
        obtain ⟨h1, h2, h3, h4⟩ := hup
        have hdown := removeDown_spec hf p1 q1 e1 x h2 h3 h1 h4
        generalize removeDown p1 q1 e1 = r2 at hdown
        obtain ⟨q2, e2⟩ := r2
        simp only [] at hdown ⊢
        obtain ⟨g1, g2, g3⟩ := hdown
        split
        · rename_i hd
          have hq2 : q2 = q2 / f * f := by
            have := Nat.div_add_mod q2 f
            rw [hd] at this; rw [Nat.mul_comm]; omega
          refine ⟨_, _, rfl, ?_, ?_⟩
          · rw [g1, Nat.pow_succ]
            calc q2 * f ^ e2 = q2 / f * f * f ^ e2 := by rw [← hq2]
              _ = q2 / f * (f ^ e2 * f) := by ring
          · intro ⟨c, hc⟩
            apply g3
            refine ⟨c, ?_⟩
            rw [hq2, hc, Nat.pow_two]; ring
        · rename_i hd
          exact ⟨_, _, rfl, g1, fun h => hd (Nat.mod_eq_zero_of_dvd h)⟩

end Dashu.Model.NT
