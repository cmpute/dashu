import Dashu.Model.NT.LehmerStepWords
import Dashu.Gen.RootTables
/-
  C12, Tie A: the two signed accumulations of the mirrored `lehmer_step` zip loop are the source's:
  `Gen.lehmer_step_acc_x / _acc_y` are regenerated from the `split_signed_dword(…)` arguments (vlib/extract_roottabs.py;
  every other token of the function, incl. the `x_top` fix-up, is compared literally and fails closed).
-/
namespace Dashu.Model.NT
open Dashu.Model

/-- `lehmerStepWords` over the regenerated accumulation expressions -/
def lehmerStepWordsG (W a b c d : Nat) : List Nat → List Nat → Int → Int → Option (List Nat × List Nat × Int × Int)
  | x :: xs, y :: ys, cx, cy =>
    let vx : Int := Gen.lehmer_step_acc_x a b c d x y cx cy
    let vy : Int := Gen.lehmer_step_acc_y a b c d x y cx cy
    if -(2 ^ (2 * W - 1) : Int) ≤ vx ∧ vx < 2 ^ (2 * W - 1) ∧ -(2 ^ (2 * W - 1) : Int) ≤ vy ∧ vy < 2 ^ (2 * W - 1) then
      match lehmerStepWordsG W a b c d xs ys (vx / 2 ^ W) (vy / 2 ^ W) with
      | some (xs', ys', cx', cy') => some ((vx % 2 ^ W).toNat :: xs', (vy % 2 ^ W).toNat :: ys', cx', cy')
      | none => none
    else none
  | xs, ys, cx, cy => some (xs, ys, cx, cy)

theorem lehmerStepWords_regenerated (W a b c d : Nat) :
    ∀ (y x : List Nat) (cx cy : Int),
      lehmerStepWords W a b c d x y cx cy = lehmerStepWordsG W a b c d x y cx cy := by
  intro y
  induction y with
  | nil => intro x cx cy; cases x <;> rfl
  | cons y0 ys ih =>
    intro x cx cy
    cases x with
    | nil => rfl
    | cons x0 xs =>
      simp only [lehmerStepWords, lehmerStepWordsG, Gen.lehmer_step_acc_x, Gen.lehmer_step_acc_y, ih]
      by_cases hc : -(2 ^ (2 * W - 1) : Int) ≤ (a : Int) * x0 - (b : Int) * y0 + cx ∧ (a : Int) * x0 - (b : Int) * y0 + cx < 2 ^ (2 * W - 1) ∧
          -(2 ^ (2 * W - 1) : Int) ≤ (d : Int) * y0 - (c : Int) * x0 + cy ∧ (d : Int) * y0 - (c : Int) * x0 + cy < 2 ^ (2 * W - 1)
      · simp only [hc, and_self, if_true]
        generalize lehmerStepWordsG W a b c d xs ys (((a : Int) * x0 - (b : Int) * y0 + cx) / 2 ^ W) (((d : Int) * y0 - (c : Int) * x0 + cy) / 2 ^ W) = r
        rcases r with _ | ⟨_, _, _, _⟩ <;> rfl
      · simp only [hc, if_false]

end Dashu.Model.NT
