import Dashu.Model.NT.Gcd
import Dashu.Proofs.NT.Basic
import Dashu.Proofs.Gen.Tz
import Mathlib.Data.Int.GCD
import Mathlib.Tactic.Ring
import Mathlib.Tactic.Linarith
import Mathlib.Tactic.LinearCombination
/-
  C12: the Euclid loop with cofactors of the primitive `gcd_ext` (`base/src/ring/gcd.rs`) over the invariant `XgcdInv`,
  with the size of the cofactors (`IsXgcdBounded`); `trailing_zeros`; the coefficient recovery of
  `gcd_ext_word/_dword` and the Bezout post-processing of `gcd_ext_large`; the two-width loop of `u128` is the plain
  loop.
-/
namespace Dashu.Model.NT
open Dashu.Model

/-- a result triple of an extended gcd: value, Bezout identity, opposite signs -/
def IsXgcd (a b : Nat) (res : Nat × Int × Int) : Prop :=
  res.1 = Nat.gcd a b ∧ (res.1 : Int) = a * res.2.1 + b * res.2.2 ∧
  ((res.2.1 ≤ 0 ∧ 0 ≤ res.2.2) ∨ (0 ≤ res.2.1 ∧ res.2.2 ≤ 0))

/-- … whose cofactors are at most the `k`-th part of the other operand over the gcd: `k·|s|·g ≤ b`, `k·|t|·g ≤ a`
    (`k = 1` always, `k = 2` for operands that differ) -/
def IsXgcdBounded (k a b : Nat) (res : Nat × Int × Int) : Prop :=
  IsXgcd a b res ∧ k * (|res.2.1| * res.1) ≤ b ∧ k * (|res.2.2| * res.1) ≤ a

/-- state of `unchecked_gcd_ext`'s loop on inputs `(A, B)`: both remainders are the stated combinations
    of the inputs, the gcd is preserved, the cofactors alternate in sign, and
    `|lastS|·r + |s|·lastR = B`, `|lastT|·r + |t|·lastR = A` (the determinant of the cofactor matrix is `±1`) -/
structure XgcdInv (A B lastR r : Nat) (lastS s lastT t : Int) : Prop where
  le : r ≤ lastR
  lastR_eq : (lastR : Int) = A * lastS + B * lastT
  r_eq : (r : Int) = A * s + B * t
  gcd_eq : Nat.gcd lastR r = Nat.gcd A B
  sign : (0 ≤ lastS ∧ s ≤ 0 ∧ lastT ≤ 0 ∧ 0 ≤ t) ∨ (lastS ≤ 0 ∧ 0 ≤ s ∧ 0 ≤ lastT ∧ t ≤ 0)
  boundS : |lastS| * r + |s| * lastR = B
  boundT : |lastT| * r + |t| * lastR = A

/-- the loop as the code starts it (`a ≥ b`) -/
theorem XgcdInv.init {a b : Nat} (hba : b ≤ a) : XgcdInv a b a b 1 0 0 1 :=
  ⟨hba, by ring, by ring, rfl, Or.inl ⟨by decide, by decide, by decide, by decide⟩,
    by rw [abs_of_pos Int.one_pos, abs_zero]; ring, by rw [abs_of_pos Int.one_pos, abs_zero]; ring⟩

private theorem sub_div_mul (n d : Nat) : n - n / d * d = n % d := by
  rw [Nat.mod_def, Nat.mul_comm]

/-- subtracting a multiple of a number of the opposite sign adds up the magnitudes -/
theorem abs_sub_mul_opp {u v q : Int} (hq : 0 ≤ q) (h : (0 ≤ u ∧ v ≤ 0) ∨ (u ≤ 0 ∧ 0 ≤ v)) :
    |u - q * v| = |u| + q * |v| := by
  rcases h with ⟨hu, hv⟩ | ⟨hu, hv⟩
  · have := mul_nonneg hq (neg_nonneg.2 hv)
    rw [abs_of_nonneg hu, abs_of_nonpos hv, abs_of_nonneg (by linarith)]; ring
  · have := mul_nonneg hq hv
    rw [abs_of_nonpos hu, abs_of_nonneg hv, abs_of_nonpos (by linarith)]; ring

/-- one division step `(lastR, r) := (r, lastR mod r)` with its cofactor updates -/
theorem XgcdInv.step {A B lastR r : Nat} {lastS s lastT t : Int} (h : XgcdInv A B lastR r lastS s lastT t)
    (hr : 0 < r) :
    XgcdInv A B r (lastR % r) s (lastS - ↑(lastR / r) * s) t (lastT - ↑(lastR / r) * t) := by
  have hq : (0 : Int) ≤ ((lastR / r : Nat) : Int) := Int.natCast_nonneg _
  have hR : (lastR : Int) = ((lastR / r : Nat) : Int) * r + ((lastR % r : Nat) : Int) := by
    have := Nat.div_add_mod lastR r
    rw [Nat.mul_comm] at this
    exact_mod_cast this.symm
  have hsS : (0 ≤ lastS ∧ s ≤ 0) ∨ (lastS ≤ 0 ∧ 0 ≤ s) := h.sign.imp (fun h => ⟨h.1, h.2.1⟩) (fun h => ⟨h.1, h.2.1⟩)
  have hsT : (0 ≤ lastT ∧ t ≤ 0) ∨ (lastT ≤ 0 ∧ 0 ≤ t) :=
    h.sign.symm.imp (fun h => ⟨h.2.2.1, h.2.2.2⟩) (fun h => ⟨h.2.2.1, h.2.2.2⟩)
  refine ⟨Nat.le_of_lt (Nat.mod_lt _ hr), h.r_eq, ?_, ?_, ?_, ?_, ?_⟩
  · linear_combination h.lastR_eq - hR - ((lastR / r : Nat) : Int) * h.r_eq
  · rw [← h.gcd_eq, gcd_mod_right]
  · rcases h.sign with ⟨_, h2, _, h4⟩ | ⟨_, h2, _, h4⟩
    · have := mul_nonneg hq (neg_nonneg.2 h2); have := mul_nonneg hq h4
      exact Or.inr ⟨h2, by linarith, h4, by linarith⟩
    · have := mul_nonneg hq h2; have := mul_nonneg hq (neg_nonneg.2 h4)
      exact Or.inl ⟨h2, by linarith, h4, by linarith⟩
  · rw [abs_sub_mul_opp hq hsS]; linear_combination h.boundS - |s| * hR
  · rw [abs_sub_mul_opp hq hsT]; linear_combination h.boundT - |t| * hR

/-- the loop stops when the next remainder is zero: `r` is the gcd and `(s, t)` its cofactors; `lastR` is a multiple
    of `r`, and with `k·r ≤ lastR` the size identities give `k·|s|·r ≤ B`, `k·|t|·r ≤ A` -/
theorem XgcdInv.done {A B lastR r k : Nat} {lastS s lastT t : Int} (h : XgcdInv A B lastR r lastS s lastT t)
    (h0 : lastR % r = 0) (hk : k * r ≤ lastR) : IsXgcdBounded k A B (r, s, t) := by
  have hle : (k : Int) * r ≤ lastR := by exact_mod_cast hk
  have hr0 : (0 : Int) ≤ r := Int.natCast_nonneg _
  refine ⟨⟨?_, h.r_eq, ?_⟩, ?_, ?_⟩
  · show r = Nat.gcd A B
    rw [← h.gcd_eq, Nat.gcd_eq_right (Nat.dvd_of_mod_eq_zero h0)]
  · exact h.sign.imp (fun h => ⟨h.2.1, h.2.2.2⟩) (fun h => ⟨h.2.1, h.2.2.2⟩)
  · have := mul_le_mul_of_nonneg_left hle (abs_nonneg s)
    have := mul_nonneg (abs_nonneg lastS) hr0
    have := h.boundS
    show (k : Int) * (|s| * (r : Int)) ≤ B
    linarith
  · have := mul_le_mul_of_nonneg_left hle (abs_nonneg t)
    have := mul_nonneg (abs_nonneg lastT) hr0
    have := h.boundT
    show (k : Int) * (|t| * (r : Int)) ≤ A
    linarith

/-- a proper multiple of `r` is at least `2·r` -/
theorem factor_le_of_dvd {k r lastR : Nat} (hk : k ≤ 2) (hle : r ≤ lastR) (hlt : 1 < k → r < lastR)
    (h0 : lastR % r = 0) : k * r ≤ lastR := by
  by_cases h1 : 1 < k
  · have hk2 : k = 2 := by omega
    subst hk2
    obtain ⟨q, hq⟩ := Nat.dvd_of_mod_eq_zero h0
    have := hlt h1
    have hq2 : r * 2 ≤ r * q := Nat.mul_le_mul_left r (by
      by_contra hc
      have : r * q ≤ r * 1 := Nat.mul_le_mul_left r (by omega)
      omega)
    omega
  · have : k * r ≤ 1 * r := Nat.mul_le_mul_right r (by omega)
    omega

/-- the loop from any state of the invariant; for `k = 2` the state must be a proper one (`r < lastR`), as it is
    from the first division on -/
theorem xgcdLoop_spec {A B k : Nat} (hk : k ≤ 2) :
    ∀ (fuel lastR r : Nat) (lastS s lastT t : Int), r < fuel → 0 < r → (1 < k → r < lastR) →
      XgcdInv A B lastR r lastS s lastT t → IsXgcdBounded k A B (xgcdLoop fuel lastR r lastS s lastT t) := by
  intro fuel
  induction fuel with
  | zero => intro lastR r _ _ _ _ h; omega
  | succ n ih =>
    intro lastR r lastS s lastT t hfuel hr hlt h
    unfold xgcdLoop
    simp only [sub_div_mul]
    have := Nat.mod_lt lastR hr
    split
    · exact h.done ‹_› (factor_le_of_dvd hk h.le hlt ‹_›)
    · exact ih _ _ _ _ _ _ (by omega) (Nat.pos_of_ne_zero ‹_›) (fun _ => this) (h.step hr)

/-- the loop started as the code starts it (`a ≥ b ≥ 1`) -/
theorem xgcdLoop_init {a b k : Nat} (hk : k ≤ 2) (hb : 0 < b) (hba : b ≤ a) (hne : 1 < k → a ≠ b) :
    IsXgcdBounded k a b (xgcdLoop (b + 1) a b 1 0 0 1) :=
  xgcdLoop_spec hk (b + 1) a b 1 0 0 1 (by omega) hb (fun h => by have := hne h; omega) (XgcdInv.init hba)

-- ---------------------------------------------------------------- trailing zeros

/-- `trailing_zeros` is the count that `IsTz` specifies (the fuel `n` is enough: `n < 2 ^ n`) -/
theorem trailingZeros_isTz {n : Nat} (hn : 0 < n) : IsTz n (trailingZeros n) :=
  IsTz.of_fuel (g := tzLoop) (fun _ _ h => by simp [tzLoop, h])
    (fun _ n h0 h => by simp [tzLoop, h0, show ¬ n % 2 = 1 by omega]) n n (by omega) Nat.lt_two_pow_self

theorem two_pow_tz_dvd {n : Nat} (hn : 0 < n) : 2 ^ trailingZeros n ∣ n := (trailingZeros_isTz hn).dvd

theorem tz_odd {n : Nat} (hn : 0 < n) : n / 2 ^ trailingZeros n % 2 = 1 := (trailingZeros_isTz hn).2

theorem tz_maximal {w c : Nat} (hw : 0 < w) (hc : 2 ^ c ∣ w) : c ≤ trailingZeros w := by
  by_contra hlt
  exact (trailingZeros_isTz hw).not_dvd_succ (Nat.dvd_trans (Nat.pow_dvd_pow 2 (by omega)) hc)

/-- characterisation of `trailing_zeros`: the exponent `t` with `2^t ∣ n` and `n / 2^t` odd -/
theorem tz_unique {n t : Nat} (hn : 0 < n) (hd : 2 ^ t ∣ n) (hodd : (n / 2 ^ t) % 2 = 1) :
    trailingZeros n = t :=
  (trailingZeros_isTz hn).unique ⟨Nat.mod_eq_zero_of_dvd hd, hodd⟩

/-- `(a | b).trailing_zeros() = min(a.trailing_zeros(), b.trailing_zeros())` for non-zero operands -/
theorem tz_or {a b : Nat} (ha : 0 < a) (hb : 0 < b) :
    trailingZeros (a ||| b) = min (trailingZeros a) (trailingZeros b) := by
  have hda : 2 ^ trailingZeros a ∣ a := two_pow_tz_dvd ha
  have hdb : 2 ^ trailingZeros b ∣ b := two_pow_tz_dvd hb
  have hoa := tz_odd ha
  have hob := tz_odd hb
  generalize trailingZeros a = ta at *
  generalize trailingZeros b = tb at *
  have hpos : 0 < a ||| b := by
    apply Nat.pos_of_ne_zero
    intro h
    have := Nat.or_eq_zero_iff.1 h
    omega
  have hmin_a : 2 ^ min ta tb ∣ a := Nat.dvd_trans (Nat.pow_dvd_pow 2 (Nat.min_le_left _ _)) hda
  have hmin_b : 2 ^ min ta tb ∣ b := Nat.dvd_trans (Nat.pow_dvd_pow 2 (Nat.min_le_right _ _)) hdb
  apply tz_unique hpos
  · apply Nat.dvd_of_mod_eq_zero
    rw [Nat.or_mod_two_pow, Nat.mod_eq_zero_of_dvd hmin_a, Nat.mod_eq_zero_of_dvd hmin_b]; rfl
  · rw [← Nat.shiftRight_eq_div_pow, Nat.shiftRight_or_distrib, Nat.shiftRight_eq_div_pow,
      Nat.shiftRight_eq_div_pow, Nat.or_mod_two_eq_one]
    rcases Nat.le_total ta tb with h | h
    · left; rw [Nat.min_eq_left h]; exact hoa
    · right; rw [Nat.min_eq_right h]; exact hob

theorem two_pow_min_tz_dvd {a b : Nat} (ha : 0 < a) (hb : 0 < b) :
    2 ^ min (trailingZeros a) (trailingZeros b) ∣ a ∧ 2 ^ min (trailingZeros a) (trailingZeros b) ∣ b :=
  ⟨Nat.dvd_trans (Nat.pow_dvd_pow 2 (Nat.min_le_left _ _)) (two_pow_tz_dvd ha),
   Nat.dvd_trans (Nat.pow_dvd_pow 2 (Nat.min_le_right _ _)) (two_pow_tz_dvd hb)⟩

-- ---------------------------------------------------------------- primitive gcd_ext

/-- scaling an extended gcd of the odd parts back by the common power of two -/
theorem IsXgcd.scale {a b sh : Nat} {g : Nat} {s t : Int} (h : IsXgcd a b (g, s, t)) :
    IsXgcd (a * 2 ^ sh) (b * 2 ^ sh) (g * 2 ^ sh, s, t) := by
  obtain ⟨h1, h2, h3⟩ := h
  simp only [] at h1 h2 h3
  refine ⟨?_, ?_, h3⟩
  · simp only []; rw [h1, Nat.gcd_mul_right]
  · simp only []; push_cast; rw [h2]; ring

theorem IsXgcd.swap {a b g : Nat} {s t : Int} (h : IsXgcd b a (g, t, s)) : IsXgcd a b (g, s, t) :=
  ⟨h.1.trans (Nat.gcd_comm _ _), h.2.1.trans (add_comm _ _), h.2.2.symm.imp And.symm And.symm⟩

theorem IsXgcdBounded.scale {k a b sh : Nat} {g : Nat} {s t : Int} (h : IsXgcdBounded k a b (g, s, t)) :
    IsXgcdBounded k (a * 2 ^ sh) (b * 2 ^ sh) (g * 2 ^ sh, s, t) := by
  obtain ⟨h1, h2, h3⟩ := h
  have hp : (0 : Int) ≤ 2 ^ sh := by positivity
  refine ⟨h1.scale, ?_, ?_⟩
  · have := mul_le_mul_of_nonneg_right h2 hp
    simp only [] at this ⊢; push_cast; linarith
  · have := mul_le_mul_of_nonneg_right h3 hp
    simp only [] at this ⊢; push_cast; linarith

theorem IsXgcdBounded.swap {k a b g : Nat} {s t : Int} (h : IsXgcdBounded k b a (g, t, s)) :
    IsXgcdBounded k a b (g, s, t) :=
  ⟨h.1.swap, h.2.2, h.2.1⟩

/-- the shortcut `b == 1` -/
theorem IsXgcdBounded.one {k a : Nat} (hk : k ≤ 1 ∨ k ≤ a) (ha : 0 < a) : IsXgcdBounded k a 1 (1, 0, 1) := by
  refine ⟨⟨by simp, by simp, Or.inl ⟨le_refl _, by decide⟩⟩, by simp, ?_⟩
  rw [abs_of_pos Int.one_pos]
  have : k ≤ a := by omega
  simp only [Nat.cast_one, mul_one]
  exact_mod_cast this

/-- the primitive `gcd_ext` on non-zero operands: an extended gcd whose cofactors have opposite signs and satisfy
    `k·|s|·g ≤ b`, `k·|t|·g ≤ a` — for `k = 1`, and for `k = 2` if the operands differ.  The bound of the loop on the
    operands with the common power of two divided out survives the shortcuts, the exchange and the scaling back. -/
theorem xgcdPrim_bounded {a b k : Nat} (hk : k ≤ 2) (ha : 0 < a) (hb : 0 < b) (hne : 1 < k → a ≠ b) :
    ∃ res, xgcdPrim a b = .ok res ∧ IsXgcdBounded k a b res := by
  unfold xgcdPrim
  rw [if_neg (by omega), if_neg (by omega), if_neg (by omega)]
  simp only []
  -- divide out the common power of two: `a = ca·2^sh`, `b = cb·2^sh`
  obtain ⟨⟨ca, hca⟩, ⟨cb, hcb⟩⟩ := two_pow_min_tz_dvd ha hb
  rw [tz_or ha hb]
  generalize min (trailingZeros a) (trailingZeros b) = sh at hca hcb
  have hp : 0 < 2 ^ sh := Nat.two_pow_pos _
  rw [Nat.mul_comm] at hca hcb
  subst hca hcb
  rw [Nat.mul_div_cancel _ hp, Nat.mul_div_cancel _ hp]
  have hcapos : 0 < ca := Nat.pos_of_mul_pos_right ha
  have hcbpos : 0 < cb := Nat.pos_of_mul_pos_right hb
  have hne' : 1 < k → ca ≠ cb := fun h e => hne h (by rw [e])
  split
  · rename_i hge
    split
    · rename_i h1
      subst h1
      exact ⟨_, rfl, by simpa using (IsXgcdBounded.one (k := k) (by have := hne'; omega) hcapos).scale (sh := sh)⟩
    · have := xgcdLoop_init hk hcbpos hge hne'
      generalize xgcdLoop (cb + 1) ca cb 1 0 0 1 = res at this
      obtain ⟨g, s, t⟩ := res
      exact ⟨_, rfl, this.scale⟩
  · rename_i hlt
    split
    · rename_i h1
      subst h1
      exact ⟨_, rfl, by simpa using (IsXgcdBounded.one (k := k) (by have := hne'; omega) hcbpos).swap.scale (sh := sh)⟩
    · have := xgcdLoop_init hk hcapos (by omega : ca ≤ cb) (fun h e => hne' h e.symm)
      generalize xgcdLoop (ca + 1) cb ca 1 0 0 1 = res at this
      obtain ⟨g, s, t⟩ := res
      exact ⟨_, rfl, this.swap.scale⟩

/-- `impl ExtendedGcd for $U`: panics only for `(0, 0)`, otherwise an extended gcd whose cofactors
    have opposite signs (or one of them is zero) -/
theorem xgcdPrim_spec (a b : Nat) :
    (a = 0 ∧ b = 0 → xgcdPrim a b = .error .gcdZeroZero) ∧
    (¬ (a = 0 ∧ b = 0) → ∃ res, xgcdPrim a b = .ok res ∧ IsXgcd a b res) := by
  refine ⟨fun h => by simp [xgcdPrim, h], fun h => ?_⟩
  by_cases ha : a = 0
  · subst ha
    have hb : b ≠ 0 := fun hb => h ⟨rfl, hb⟩
    exact ⟨(b, 0, 1), by simp [xgcdPrim, hb], by simp [IsXgcd]⟩
  by_cases hb : b = 0
  · subst hb
    exact ⟨(a, 1, 0), by simp [xgcdPrim, ha], by simp [IsXgcd]⟩
  exact (xgcdPrim_bounded (k := 0) (by decide) (Nat.pos_of_ne_zero ha) (Nat.pos_of_ne_zero hb) (by omega)).imp
    fun _ h => ⟨h.1, h.2.1⟩

/-- `gcd_ext_word` / `gcd_ext_dword`: with `(r, s, t)` an extended gcd of `(rhs, rem)` whose
    cofactors have opposite signs, `|b| = q·|t| + |s|` with the stated sign is `s − t·q`. -/
theorem recover_b {s t : Int} {q : Nat} (hsign : (s ≤ 0 ∧ 0 ≤ t) ∨ (0 ≤ s ∧ t ≤ 0)) (hst : ¬ (s = 0 ∧ t = 0)) :
    (if (if s.natAbs = 0 then !(decide (t < 0)) else decide (s < 0)) then
        -((q * t.natAbs + s.natAbs : Nat) : Int) else ((q * t.natAbs + s.natAbs : Nat) : Int))
      = s - t * q := by
  have hq : (0 : Int) ≤ (q : Int) := Int.natCast_nonneg _
  have cast : ((q * t.natAbs + s.natAbs : Nat) : Int) = q * |t| + |s| := by
    push_cast; rfl
  rw [cast]
  rcases hsign with ⟨hs, ht⟩ | ⟨hs, ht⟩
  · -- s ≤ 0 ≤ t : b = s − t·q ≤ 0
    have e1 : |s| = -s := abs_of_nonpos hs
    have e2 : |t| = t := abs_of_nonneg ht
    by_cases hs0 : s.natAbs = 0
    · have hs' : s = 0 := by omega
      have ht' : ¬ t < 0 := by omega
      simp only [hs0, if_true, ht', decide_false, Bool.not_false]
      rw [e2, e1, hs']; ring
    · have hs' : s < 0 := by omega
      simp only [hs0, if_false, hs', decide_true, if_true]
      rw [e1, e2]; ring
  · have e1 : |s| = s := abs_of_nonneg hs
    have e2 : |t| = -t := abs_of_nonpos ht
    by_cases hs0 : s.natAbs = 0
    · have hs' : s = 0 := by omega
      have ht' : t < 0 := by
        rcases lt_or_eq_of_le ht with h | h
        · exact h
        · exact absurd ⟨hs', h⟩ hst
      simp only [hs0, if_true, ht', decide_true, Bool.not_true]
      rw [e2, e1, hs']; simp; ring
    · have hs' : ¬ s < 0 := by omega
      simp only [hs0, if_false, hs', decide_false, Bool.false_eq_true]
      rw [e1, e2]; ring

/-- Bezout post-processing of `gcd_ext_large`: for any kernel result meeting the contract the
    quotient `(g − rhs·b)/lhs` is exact and `lhs·a + rhs·b = g`. -/
theorem gcdExtPost_bezout {lhs rhs : Nat} (hl : 0 < lhs) (k : Nat × Nat × Bool)
    (hk : LehmerExtContract lhs rhs k) :
    let res := gcdExtPost lhs rhs k
    res.1 = Nat.gcd lhs rhs ∧ (lhs : Int) * res.2.1 + (rhs : Int) * res.2.2 = res.1 := by
  obtain ⟨g, bMag, bNeg⟩ := k
  obtain ⟨hg, hc⟩ := hk
  simp only [] at hg hc
  unfold gcdExtPost
  simp only []
  refine ⟨hg, ?_⟩
  cases bNeg with
  | true =>
    simp only [if_true] at hc ⊢
    obtain ⟨c, hc⟩ := hc
    rw [hc, Nat.mul_div_cancel_left _ hl]
    have : ((rhs * bMag + g : Nat) : Int) = ((lhs * c : Nat) : Int) := by rw [hc]
    push_cast at this ⊢
    linarith
  | false =>
    simp only [Bool.false_eq_true, if_false] at hc ⊢
    obtain ⟨hle, c, hc⟩ := hc
    rw [hc, Nat.mul_div_cancel_left _ hl]
    have h2 : rhs * bMag = lhs * c + g := by omega
    have : ((rhs * bMag : Nat) : Int) = ((lhs * c + g : Nat) : Int) := by rw [h2]
    push_cast at this ⊢
    linarith

/-- from the congruence `g ≡ ±B·rhs (mod lhs)` to the contract of the kernel -/
theorem contract_of_dvd {lhs rhs g B : Nat} {neg : Bool} (hg : g = Nat.gcd lhs rhs) (h0 : 0 < rhs)
    (hlt : rhs < lhs) (hd : (lhs : Int) ∣ g - (if neg then -(B : Int) else B) * rhs) :
    LehmerExtContract lhs rhs (g, B, neg) := by
  refine ⟨hg, ?_⟩
  have hgle : g ≤ rhs := by rw [hg]; exact Nat.gcd_le_right _ h0
  cases neg
  · simp only [Bool.false_eq_true, if_false] at hd ⊢
    have hle : g ≤ rhs * B := by
      by_contra hcon
      have hpos : 0 < g - rhs * B := by omega
      have : (lhs : Int) ∣ ((g - rhs * B : Nat) : Int) := by
        rw [Nat.cast_sub (by omega)]; push_cast
        obtain ⟨w, hw⟩ := hd
        exact ⟨w, by linear_combination hw⟩
      have := Nat.le_of_dvd hpos (Int.natCast_dvd_natCast.mp this)
      omega
    refine ⟨hle, ?_⟩
    apply Int.natCast_dvd_natCast.mp
    rw [Nat.cast_sub hle]; push_cast
    obtain ⟨w, hw⟩ := hd
    exact ⟨-w, by linear_combination -hw⟩
  · simp only [if_true] at hd ⊢
    apply Int.natCast_dvd_natCast.mp
    push_cast
    obtain ⟨w, hw⟩ := hd
    exact ⟨w, by linear_combination hw⟩

/-- the frontier kernel (plain Euclid) meets the contract of `gcd_ext_in_place` -/
theorem lehmerExtFrontier_contract {lhs rhs : Nat} (hr : 0 < rhs) (hlt : rhs < lhs) :
    LehmerExtContract lhs rhs (lehmerExtFrontier lhs rhs) := by
  obtain ⟨h1, h2, _⟩ := (xgcdLoop_init (k := 0) (by decide) (a := lhs) hr (Nat.le_of_lt hlt) (by omega)).1
  unfold lehmerExtFrontier
  generalize xgcdLoop (rhs + 1) lhs rhs 1 0 0 1 = res at h1 h2
  obtain ⟨g, s, t⟩ := res
  simp only [] at h1 h2 ⊢
  apply contract_of_dvd h1 hr hlt
  -- the reported magnitude and sign are those of `t`, and `g − t·rhs = lhs·s`
  have e : (if decide (t < 0) = true then -(t.natAbs : Int) else t.natAbs) = t := by
    by_cases ht : t < 0
    · simp only [ht, decide_true, if_true]; omega
    · simp only [ht, decide_false, Bool.false_eq_true, if_false]; omega
  rw [e]
  exact ⟨s, by linear_combination h2⟩

-- ---------------------------------------------------------------- the two-width Euclid of u128

/-- fuel beyond `r` is never used -/
theorem xgcdLoop_fuel : ∀ (fuel fuel' lastR r : Nat) (lastS s lastT t : Int), 0 < r → r < fuel → r < fuel' →
    xgcdLoop fuel lastR r lastS s lastT t = xgcdLoop fuel' lastR r lastS s lastT t := by
  intro fuel
  induction fuel with
  | zero => intro _ _ r _ _ _ _ _ h; omega
  | succ n ih =>
    intro fuel' lastR r lastS s lastT t hr h1 h2
    obtain ⟨m, rfl⟩ : ∃ m, fuel' = m + 1 := ⟨fuel' - 1, by omega⟩
    unfold xgcdLoop
    simp only [sub_div_mul]
    have := Nat.mod_lt lastR hr
    split
    · rfl
    · exact ih m _ _ _ _ _ _ (Nat.pos_of_ne_zero ‹_›) (by omega) (by omega)

/-- the cofactor recurrence is linear in its starting values -/
theorem xgcdLoop_linear (S S' T T' : Int) : ∀ (fuel lastR r : Nat) (ls s lt t : Int),
    xgcdLoop fuel lastR r (ls * S + lt * S') (s * S + t * S') (ls * T + lt * T') (s * T + t * T') =
      ((xgcdLoop fuel lastR r ls s lt t).1,
       (xgcdLoop fuel lastR r ls s lt t).2.1 * S + (xgcdLoop fuel lastR r ls s lt t).2.2 * S',
       (xgcdLoop fuel lastR r ls s lt t).2.1 * T + (xgcdLoop fuel lastR r ls s lt t).2.2 * T') := by
  intro fuel
  induction fuel with
  | zero => intro lastR r ls s lt t; rfl
  | succ n ih =>
    intro lastR r ls s lt t
    unfold xgcdLoop
    simp only []
    by_cases h : lastR - lastR / r * r = 0
    · simp only [h, if_true]
    · simp only [h, if_false]
      rw [← ih]
      congr 1 <;> ring

/-- the two-width loop returns what the plain loop returns: once the remainder fits the half width it runs the same
    Euclid sequence from the cofactors `1 0 0 1`, and its recombination `cx·s + cy·new_s` is `xgcdLoop_linear` -/
theorem xgcdLoopWide_eq (H : Nat) : ∀ (fuel lastR r : Nat) (lastS s lastT t : Int), 0 < r → r < fuel →
    xgcdLoopWide H fuel lastR r lastS s lastT t = xgcdLoop fuel lastR r lastS s lastT t := by
  intro fuel
  induction fuel with
  | zero => intro _ r _ _ _ _ _ h; omega
  | succ n ih =>
    intro lastR r lastS s lastT t hr hfuel
    unfold xgcdLoopWide
    conv_rhs => unfold xgcdLoop
    simp only [sub_div_mul]
    have hlt := Nat.mod_lt lastR hr
    by_cases h0 : lastR % r = 0
    · simp only [h0, if_true, ite_self]
    · simp only [h0, if_false]
      split
      · exact ih _ _ _ _ _ _ (Nat.pos_of_ne_zero h0) (by omega)
      · have hlin := xgcdLoop_linear s (lastS - ↑(lastR / r) * s) t (lastT - ↑(lastR / r) * t)
          (lastR % r + 1) r (lastR % r) 1 0 0 1
        simp only [one_mul, zero_mul, add_zero, zero_add] at hlin
        rw [xgcdLoop_fuel n (lastR % r + 1) _ _ _ _ _ _ (Nat.pos_of_ne_zero h0) (by omega) (by omega), hlin]

/-- `impl ExtendedGcd for u128` returns what the single-width routine returns -/
theorem xgcdPrimWide_eq_xgcdPrim (H a b : Nat) : xgcdPrimWide H a b = xgcdPrim a b := by
  unfold xgcdPrimWide xgcdPrim
  by_cases ha : a = 0
  · simp only [ha, if_true]
  by_cases hb : b = 0
  · simp only [hb, if_true]
  simp only [ha, hb, false_and, if_false]
  -- the loops are entered on the operands with the common power of two divided out, which are positive
  obtain ⟨hda, hdb⟩ := two_pow_min_tz_dvd (Nat.pos_of_ne_zero ha) (Nat.pos_of_ne_zero hb)
  rw [← tz_or (Nat.pos_of_ne_zero ha) (Nat.pos_of_ne_zero hb)] at hda hdb
  have hpa := Nat.div_pos (Nat.le_of_dvd (Nat.pos_of_ne_zero ha) hda) (Nat.two_pow_pos _)
  have hpb := Nat.div_pos (Nat.le_of_dvd (Nat.pos_of_ne_zero hb) hdb) (Nat.two_pow_pos _)
  generalize a / 2 ^ trailingZeros (a ||| b) = ca at hpa ⊢
  generalize b / 2 ^ trailingZeros (a ||| b) = cb at hpb ⊢
  rw [xgcdLoopWide_eq H _ _ _ _ _ _ _ hpb (Nat.lt_succ_self _), xgcdLoopWide_eq H _ _ _ _ _ _ _ hpa (Nat.lt_succ_self _)]

/-- `impl ExtendedGcd for u128` -/
theorem xgcdPrimWide_spec (H a b : Nat) :
    (a = 0 ∧ b = 0 → xgcdPrimWide H a b = .error .gcdZeroZero) ∧
    (¬ (a = 0 ∧ b = 0) → ∃ res, xgcdPrimWide H a b = .ok res ∧ IsXgcd a b res) :=
  xgcdPrimWide_eq_xgcdPrim H a b ▸ xgcdPrim_spec a b

end Dashu.Model.NT
