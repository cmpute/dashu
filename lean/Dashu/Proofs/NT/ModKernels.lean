import Dashu.Model.NT.ModKernels
import Dashu.Proofs.NT.ModContracts
import Dashu.Proofs.NT.ModPow
import Dashu.Proofs.Int.Repr
import Mathlib.Tactic.Ring
/-
  C13: the mirrored division kernels of `ConstDivisor::reduce` and of the single- and double-word
  ring multiplications (`Model/NT/ModKernels.lean`: `rem_word`, `rem_dword`, `rem_large`,
  `fast_rem_by_normalized_word/_dword`, `PreMulInv*::mul/sqr` through num-modular's mirrored
  Möller–Granlund dividers) equal the `%`-level model for every ring `ConstDivisor::new` builds.
-/
namespace Dashu.Model.NT
open Dashu.Model

theorem digit_pair_lt {B hi lo : Nat} (hhi : hi < B) (hlo : lo < B) : hi * B + lo < B * B := by
  have := Nat.mul_le_mul_right B (Nat.succ_le_of_lt hhi)
  rw [Nat.succ_mul] at this
  omega

theorem remCmpSub_eq {d a : Nat} (hd : 0 < d) (ha : a < 2 * d) : remCmpSub d a = a % d := by
  unfold remCmpSub
  split
  · rename_i h; rw [Nat.mod_eq_of_lt h]
  · rename_i h; rw [Nat.mod_eq_sub_mod (by omega), Nat.mod_eq_of_lt (by omega)]

/-- `fast_rem_by_normalized_word`: the word loop returns the remainder of the whole number, for every
    number of words (normalised divisor `d`, reciprocal `invert_word(d)`) -/
theorem fastRemByNormalizedWord_spec (W d : Nat) (hW : 1 ≤ W) (hd1 : 2 ^ W ≤ 2 * d) (hd2 : d < 2 ^ W) :
    ∀ ws : List Nat, ws ≠ [] → IsWords W ws →
      fastRemByNormalizedWord W d (NumModular.invertWord W d) ws = val W ws % d := by
  have hd : 0 < d := by have := Nat.two_pow_pos W; omega
  have hB : 0 < 2 ^ W := Nat.two_pow_pos W
  intro ws
  induction ws with
  | nil => intro h; exact absurd rfl h
  | cons w rest ih =>
    intro _ hws
    cases rest with
    | nil =>
      have hw := hws.head
      simp only [fastRemByNormalizedWord, val_cons, val_nil, Nat.mul_zero, Nat.add_zero]
      exact remCmpSub_eq hd (by omega)
    | cons w' rest' =>
      have hw := hws.head
      have ih' := ih (by simp) hws.tail
      simp only [fastRemByNormalizedWord]
      rw [ih']
      have hr : val W (w' :: rest') % d < d := Nat.mod_lt _ hd
      have hhi : (w + 2 ^ W * (val W (w' :: rest') % d)) / 2 ^ W = val W (w' :: rest') % d := by
        rw [Nat.add_comm, Nat.mul_add_div hB, Nat.div_eq_of_lt hw, Nat.add_zero]
      rw [NumModular.div2by1_spec W d _ hW hd1 hd2 (by rw [hhi]; exact hr)]
      simp only [val_cons]
      exact add_mul_mod_mod _ _ _ _

/-- the pair loop of `fast_rem_by_normalized_dword` on `2n + 2` words -/
theorem fastRemDwordPairs_spec (W d : Nat) (hW : 1 ≤ W) (hd1 : 2 ^ (2 * W) ≤ 2 * d) (hd2 : d < 2 ^ (2 * W)) :
    ∀ (n : Nat) (ws : List Nat), ws.length = 2 * n + 2 → IsWords W ws →
      fastRemDwordPairs W d (NumModular.invertDoubleWord W d) ws = val W ws % d := by
  have hd : 0 < d := by have := Nat.two_pow_pos (2 * W); omega
  have hB : 0 < 2 ^ W := Nat.two_pow_pos W
  have hsq := two_pow_two_mul W
  have hpair : ∀ a b, a < 2 ^ W → b < 2 ^ W → a + 2 ^ W * b < 2 ^ (2 * W) := by
    intro a b ha hb
    rw [hsq, Nat.add_comm, Nat.mul_comm]
    exact digit_pair_lt hb ha
  intro n
  induction n with
  | zero =>
    intro ws hlen hws
    match ws, hlen with
    | [w0, w1], _ =>
      have h0 := hws.head; have h1 := hws.tail.head
      simp only [fastRemDwordPairs, val_cons, val_nil, Nat.mul_zero, Nat.add_zero]
      exact remCmpSub_eq hd (by have := hpair w0 w1 h0 h1; omega)
  | succ n ih =>
    intro ws hlen hws
    match ws, hlen with
    | w0 :: w1 :: w2 :: rest, hlen =>
      have h0 := hws.head; have h1 := hws.tail.head
      have ih' := ih (w2 :: rest) (by simp only [List.length_cons] at hlen ⊢; omega) hws.tail.tail
      simp only [fastRemDwordPairs]
      rw [ih']
      rw [NumModular.div4by2_spec W d _ _ hW hd1 hd2 (hpair w0 w1 h0 h1) (Nat.mod_lt _ hd)]
      simp only []
      rw [add_mul_mod_mod]
      congr 1
      simp only [val_cons]
      rw [hsq]; ring

/-- `fast_rem_by_normalized_dword`: remainder of the whole number for every `words.len() ≥ 2` -/
theorem fastRemByNormalizedDword_spec (W d : Nat) (hW : 1 ≤ W) (hd1 : 2 ^ (2 * W) ≤ 2 * d)
    (hd2 : d < 2 ^ (2 * W)) (ws : List Nat) (hlen : 2 ≤ ws.length) (hws : IsWords W ws) :
    fastRemByNormalizedDword W d (NumModular.invertDoubleWord W d) ws = val W ws % d := by
  have hd : 0 < d := by have := Nat.two_pow_pos (2 * W); omega
  unfold fastRemByNormalizedDword
  split
  · rename_i hev
    exact fastRemDwordPairs_spec W d hW hd1 hd2 (ws.length / 2 - 1) ws (by omega) hws
  · rename_i hodd
    match ws, hlen, hodd with
    | w0 :: rest, hlen, hodd =>
      simp only [List.length_cons] at hlen hodd
      have hp := fastRemDwordPairs_spec W d hW hd1 hd2 (rest.length / 2 - 1) rest (by omega) hws.tail
      simp only []
      rw [hp, NumModular.div3by2_spec W d w0 _ hW hd1 hd2 hws.head (Nat.mod_lt _ hd)]
      simp only [val_cons]
      exact add_mul_mod_mod _ _ _ _

-- ---------------------------------------------------------------- the rings `ConstDivisor::new` builds

/-- every ring `ConstDivisor::new` builds has a shift below one word: the shift is the number of leading zeros of
    the top word of the modulus -/
theorem Ring.new_k_lt {W id m : Nat} {r : Ring} (hW : 0 < W) (h : Ring.new W id m = .ok r) : r.k < W := by
  unfold Ring.new at h
  split at h
  · cases h
  rename_i hm
  have hb := bitLen_pos hm
  split at h
  · cases h; simp only []; omega
  rename_i h1
  have hb1 := lt_bitLen_of_le (Nat.le_of_not_lt h1)
  split at h
  · cases h; simp only []; omega
  · cases h
    simp only []
    have h2 : (bitLen m + W - 1) / W * W ≤ bitLen m + W - 1 := Nat.div_mul_le_self _ _
    unfold wordLen
    rw [Nat.mul_comm W]
    omega

/-- with a shift below one word, the modulus of a double-word ring has two words -/
theorem Ring.WF.double_m {W : Nat} {r : Ring} (hwf : r.WF W) (hn : r.n = 2) (hkW : r.k < W) : 2 ^ W ≤ r.m := by
  have h := hwf.Mge
  rw [hn, Nat.mul_two, Nat.pow_add] at h
  unfold Ring.M at h
  have hk : 2 * 2 ^ r.k ≤ 2 ^ W := by rw [← Nat.pow_succ']; exact Nat.pow_le_pow_right (by decide) hkW
  have : 2 * (r.m * 2 ^ r.k) ≤ r.m * 2 ^ W := by
    rw [Nat.mul_left_comm]; exact Nat.mul_le_mul_left _ hk
  exact Nat.le_of_mul_le_mul_right (Nat.le_trans h this) (Nat.two_pow_pos W)

theorem natWords_len_ge {W : Nat} (hW : 1 ≤ W) {x j : Nat} (hx : 2 ^ (W * j) ≤ x) :
    j + 1 ≤ (natWords W x).length := by
  obtain ⟨h1, h2, _⟩ := natWords_spec W hW x
  have := val_lt W _ h2
  rw [h1] at this
  by_contra hc
  have : 2 ^ (W * (natWords W x).length) ≤ 2 ^ (W * j) :=
    Nat.pow_le_pow_right (by decide) (Nat.mul_le_mul_left W (by omega))
  omega

theorem remWordSK_eq {W : Nat} {r : Ring} (hwf : r.WF W) (hn : r.n = 1) {x : Nat} (hx : x < 2 ^ W) :
    remWordSK W r x = remWordS r x := by
  obtain ⟨hd1, hd2, _, _⟩ := single_facts hwf hn
  unfold remWordSK remWordS
  split
  · exact remCmpSub_eq (Ring.M_pos hwf) (by omega)
  · exact (single_ring_calls hwf hn).1 x hx

theorem remDwordSK_eq {W : Nat} {r : Ring} (hwf : r.WF W) (hn : r.n = 1) {x : Nat}
    (hx : x < 2 ^ (2 * W)) : remDwordSK W r x = remDwordS W r x := by
  obtain ⟨hd1, hd2, _, hkM⟩ := single_facts hwf hn
  have hW : 1 ≤ W := hwf.hW
  have hB : 0 < 2 ^ W := Nat.two_pow_pos W
  have hMpos := Ring.M_pos hwf
  have hsq := two_pow_two_mul W
  have step : ∀ lo r1, lo < 2 ^ W → r1 < r.M →
      (NumModular.div2by1 W r.M (NumModular.invertWord W r.M) (lo + 2 ^ W * r1)).2 = (lo + 2 ^ W * r1) % r.M := by
    intro lo r1 hlo hr1
    rw [NumModular.div2by1_spec W r.M _ hW hd1 hd2 (by
      rw [Nat.add_comm, Nat.mul_add_div hB, Nat.div_eq_of_lt hlo, Nat.add_zero]; exact hr1)]
  unfold remDwordSK remDwordS
  simp only []
  split
  · have hhi : x / 2 ^ W < 2 ^ W := by
      rw [Nat.div_lt_iff_lt_mul hB, ← hsq]; exact hx
    have e : remCmpSub r.M (x / 2 ^ W) = (if x / 2 ^ W < r.M then x / 2 ^ W else x / 2 ^ W - r.M) := rfl
    rw [← e]
    have hr1 : remCmpSub r.M (x / 2 ^ W) < r.M := by
      rw [remCmpSub_eq hMpos (by omega)]; exact Nat.mod_lt _ hMpos
    exact step _ _ (Nat.mod_lt _ hB) hr1
  · have hs : x * 2 ^ r.k / 2 ^ W / 2 ^ W < r.M := by
      apply Nat.lt_of_lt_of_le _ hkM
      rw [Nat.div_div_eq_div_mul, ← hsq, Nat.div_lt_iff_lt_mul (Nat.two_pow_pos _), Nat.mul_comm (2 ^ r.k)]
      exact Nat.mul_lt_mul_of_pos_right hx (Nat.two_pow_pos _)
    rw [NumModular.div2by1_spec W r.M _ hW hd1 hd2 hs]
    exact step _ _ (Nat.mod_lt _ hB) (Nat.mod_lt _ hMpos)

theorem remLargeSK_eq {W : Nat} {r : Ring} (hwf : r.WF W) (hn : r.n = 1) {x : Nat}
    (hx : 2 ^ (2 * W) ≤ x) : remLargeSK W r x = remLargeSD r x := by
  obtain ⟨hd1, hd2, _, hkM⟩ := single_facts hwf hn
  have hW : 1 ≤ W := hwf.hW
  have hB : 0 < 2 ^ W := Nat.two_pow_pos W
  have hMpos := Ring.M_pos hwf
  obtain ⟨hval, hwords, _⟩ := natWords_spec W hW x
  have hne : natWords W x ≠ [] := by
    intro h; rw [h] at hval; simp at hval
    have := Nat.two_pow_pos (2 * W); omega
  unfold remLargeSK remLargeSD
  simp only []
  rw [fastRemByNormalizedWord_spec W r.M hW hd1 hd2 _ hne hwords, hval]
  split
  · rw [NumModular.div2by1_spec W r.M _ hW hd1 hd2 (by
      apply Nat.lt_of_lt_of_le _ hkM
      rw [Nat.div_lt_iff_lt_mul hB, Nat.mul_comm (2 ^ r.k)]
      exact Nat.mul_lt_mul_of_pos_right (Nat.lt_trans (Nat.mod_lt _ hMpos) hd2) (Nat.two_pow_pos _))]
  · rfl

theorem remDwordDK_eq {W : Nat} {r : Ring} (hwf : r.WF W) (hn : r.n = 2) (hmW : 2 ^ W ≤ r.m) {x : Nat}
    (hx : x < 2 ^ (2 * W)) : remDwordDK W r x = remDwordD r x := by
  have h1 := hwf.Mlt; have h2 := hwf.Mge
  rw [hn, Nat.mul_comm W 2] at h1 h2
  have hW : 1 ≤ W := hwf.hW
  have hB : 0 < 2 ^ W := Nat.two_pow_pos W
  have hsq := two_pow_two_mul W
  unfold remDwordDK remDwordD
  split
  · rfl
  · simp only []
    have hhi : x * 2 ^ r.k / 2 ^ W < r.M := by
      rw [Nat.div_lt_iff_lt_mul hB]
      have hxm : x < r.m * 2 ^ W := by
        have : 2 ^ W * 2 ^ W ≤ r.m * 2 ^ W := Nat.mul_le_mul_right _ hmW
        omega
      calc x * 2 ^ r.k < (r.m * 2 ^ W) * 2 ^ r.k := Nat.mul_lt_mul_of_pos_right hxm (Nat.two_pow_pos _)
        _ = r.M * 2 ^ W := by unfold Ring.M; ring
    rw [NumModular.div3by2_spec W r.M _ _ hW h2 h1 (Nat.mod_lt _ hB) hhi, Nat.mod_add_div]

theorem remLargeDK_eq {W : Nat} {r : Ring} (hwf : r.WF W) (hn : r.n = 2) (hkW : r.k ≤ W) {x : Nat}
    (hx : 2 ^ (2 * W) ≤ x) : remLargeDK W r x = remLargeSD r x := by
  have h1 := hwf.Mlt; have h2 := hwf.Mge
  rw [hn, Nat.mul_comm W 2] at h1 h2
  have hW : 1 ≤ W := hwf.hW
  have hB : 0 < 2 ^ W := Nat.two_pow_pos W
  have hMpos := Ring.M_pos hwf
  obtain ⟨hval, hwords, _⟩ := natWords_spec W hW x
  have hlen : 2 ≤ (natWords W x).length := by
    have := natWords_len_ge hW (x := x) (j := 2) (by rw [Nat.mul_comm]; exact hx)
    omega
  unfold remLargeDK remLargeSD
  simp only []
  rw [fastRemByNormalizedDword_spec W r.M hW h2 h1 _ hlen hwords, hval]
  split
  · have hhi : x % r.M * 2 ^ r.k / 2 ^ W < r.M := by
      rw [Nat.div_lt_iff_lt_mul hB]
      calc x % r.M * 2 ^ r.k < r.M * 2 ^ r.k :=
            Nat.mul_lt_mul_of_pos_right (Nat.mod_lt _ hMpos) (Nat.two_pow_pos _)
        _ ≤ r.M * 2 ^ W := Nat.mul_le_mul_left _ (Nat.pow_le_pow_right (by decide) hkW)
    rw [NumModular.div3by2_spec W r.M _ _ hW h2 h1 (Nat.mod_lt _ hB) hhi, Nat.mod_add_div]
  · rfl

/-- **`ConstDivisor::reduce` with the mirrored kernels** (`rem_word`, the two-step `rem_dword`,
    `fast_rem_by_normalized_word/_dword` + the final shift step of `rem_large`) stores exactly what the
    `%`-level model stores — for every ring `ConstDivisor::new` builds and every natural number -/
theorem rawOfNatK_eq {W id m : Nat} {r : Ring} (hW : 0 < W) (hnew : Ring.new W id m = .ok r) (x : Nat) :
    rawOfNatK W r x = rawOfNat W r x := by
  have hwf := Ring.new_wf hW hnew
  unfold rawOfNatK rawOfNat
  cases hk : r.kind with
  | single =>
    have hn := hwf.kind_n.1 hk
    simp only []
    split
    · rename_i h; exact remWordSK_eq hwf hn h
    · split
      · rename_i h2; exact remDwordSK_eq hwf hn h2
      · rename_i h2; exact remLargeSK_eq hwf hn (by omega)
  | double =>
    have hn := hwf.kind_n.2.1 hk
    have hkW := Ring.new_k_lt hW hnew
    have hmW := hwf.double_m hn hkW
    simp only []
    split
    · rename_i h; exact remDwordDK_eq hwf hn hmW h
    · rename_i h; exact remLargeDK_eq hwf hn (by omega) (by omega)
  | large => rfl

theorem reduceIntK_eq {W id m : Nat} {r : Ring} (hW : 0 < W) (hnew : Ring.new W id m = .ok r) (a : Int) :
    reduceIntK W r a = reduceInt W r a := by
  unfold reduceIntK reduceInt; rw [rawOfNatK_eq hW hnew]

/-- `PreMulInv2by1::mul` / `PreMulInv3by2::mul` through the mirrored `div_rem_2by1 / 4by2` on valid
    (pre-shifted, reduced) operands = the `%`-level product -/
theorem mulRawK_eq {W : Nat} {r : Ring} (hwf : r.WF W) {u v : Nat} (hu : u < r.m) (hv : v < r.m) :
    mulRawK W r (u * 2 ^ r.k) (v * 2 ^ r.k) = mulRaw W r (u * 2 ^ r.k) (v * 2 ^ r.k) := by
  unfold mulRawK mulRaw
  cases hk : r.kind with
  | single => exact (single_ring_calls hwf (hwf.kind_n.1 hk)).2.1 u v hu hv
  | double => exact (double_ring_calls hwf (hwf.kind_n.2.1 hk)).1 u v hu hv
  | large => rfl

theorem sqrRawK_eq {W : Nat} {r : Ring} (hwf : r.WF W) {u : Nat} (hu : u < r.m) :
    sqrRawK W r (u * 2 ^ r.k) = sqrRaw W r (u * 2 ^ r.k) := by
  unfold sqrRawK sqrRaw
  cases hk : r.kind with
  | single => exact (single_ring_calls hwf (hwf.kind_n.1 hk)).2.2 u hu
  | double => exact (double_ring_calls hwf (hwf.kind_n.2.1 hk)).2 u hu
  | large => rfl

-- ---------------------------------------------------------------- pow of single- and double-word rings on the mirrored products

theorem powHelperK_eq {W : Nat} {r : Ring} (hwf : r.WF W) {b : Nat} (hb : b < r.m) (exp : Nat) :
    ∀ (bits c : Nat), c < r.m →
      powHelperK W r (b * 2 ^ r.k) exp bits (c * 2 ^ r.k) = powHelper W r (b * 2 ^ r.k) exp bits (c * 2 ^ r.k) := by
  intro bits
  induction bits with
  | zero => intro c _; rfl
  | succ n ih =>
    intro c hc
    have hm := hwf.mpos
    unfold powHelperK powHelper
    simp only []
    rw [sqrRawK_eq hwf hc, sqrRaw_eq hwf hc]
    have hc2 : (c * c) % r.m < r.m := Nat.mod_lt _ hm
    by_cases hbit : exp.testBit n = true
    · rw [if_pos hbit, if_pos hbit, mulRawK_eq hwf hc2 hb, mulRaw_eq hwf hc2 hb]
      exact ih _ (Nat.mod_lt _ hm)
    · rw [if_neg hbit, if_neg hbit]
      exact ih _ hc2

theorem powWordK_eq {W : Nat} {r : Ring} (hwf : r.WF W) {b : Nat} (hb : b < r.m) (e : Nat) :
    powWordK W r (b * 2 ^ r.k) e = powWord W r (b * 2 ^ r.k) e := by
  match e with
  | 0 => rfl
  | 1 => rfl
  | 2 => exact sqrRawK_eq hwf hb
  | n + 3 => exact powHelperK_eq hwf hb (n + 3) _ b hb

theorem foldl_powHelperK_eq {W : Nat} {r : Ring} (hwf : r.WF W) {b : Nat} (hb : b < r.m) :
    ∀ (ws : List Nat) (c : Nat), c < r.m →
      ws.foldl (fun res w => powHelperK W r (b * 2 ^ r.k) w W res) (c * 2 ^ r.k)
        = ws.foldl (fun res w => powHelper W r (b * 2 ^ r.k) w W res) (c * 2 ^ r.k) := by
  intro ws
  induction ws with
  | nil => intro c _; rfl
  | cons w ws ih =>
    intro c hc
    rw [List.foldl_cons, List.foldl_cons, powHelperK_eq hwf hb w W c hc, powHelper_eq hwf hb w W c hc]
    exact ih _ (Nat.mod_lt _ hwf.mpos)

/-- `single::pow` / `double::pow` with every product through the mirrored `div_rem_2by1 / 4by2` -/
theorem powSDK_eq {W : Nat} {r : Ring} (hwf : r.WF W) {b : Nat} (hb : b < r.m) (e : Nat) :
    powSDK W r (b * 2 ^ r.k) e = powSD W r (b * 2 ^ r.k) e := by
  unfold powSDK powSD
  cases (natWords W e).reverse with
  | nil => exact powWordK_eq hwf hb 0
  | cons top rest =>
    simp only []
    rw [powWordK_eq hwf hb top, powWord_eq hwf hb top]
    exact foldl_powHelperK_eq hwf hb rest _ (Nat.mod_lt _ hwf.mpos)

theorem powRawK_eq {W : Nat} {r : Ring} (hwf : r.WF W) {b : Nat} (hb : b < r.m) (e : Nat) :
    powRawK W r (b * 2 ^ r.k) e = powRaw W r (b * 2 ^ r.k) e := by
  unfold powRawK powRaw
  cases r.kind with
  | large => rfl
  | single => exact powSDK_eq hwf hb e
  | double => exact powSDK_eq hwf hb e

end Dashu.Model.NT
