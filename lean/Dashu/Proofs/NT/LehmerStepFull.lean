import Dashu.Model.NT.LehmerStepFull
import Dashu.Proofs.NT.LehmerStepWords
import Dashu.Proofs.NT.LehmerAlign
/-
  C12: `lehmer::lehmer_step` in full at the word level (zip loop, then the fix-up of the top word of `x`): under value
  hypotheses on the two results; then on the cofactors of a COMMITTED guess, where no value hypothesis is left (on
  TRIMMED slices the shape `x.len() - y.len() ∈ {0, 1}`, the function's first `debug_assert!`, is derived too: `Props/C12`).
-/
namespace Dashu.Model.NT
open Dashu.Model

/-- the zip loop stops at the end of `y` and leaves the rest of `x` in place -/
theorem lehmerStepWords_append (W a b c d : Nat) (r : List Nat) :
    ∀ (y xl : List Nat) (cx cy : Int), xl.length = y.length →
      lehmerStepWords W a b c d (xl ++ r) y cx cy =
        (lehmerStepWords W a b c d xl y cx cy).map (fun p => (p.1 ++ r, p.2.1, p.2.2.1, p.2.2.2)) := by
  intro y
  induction y with
  | nil =>
    intro xl cx cy hl
    have : xl = [] := List.length_eq_zero_iff.1 hl
    subst this
    cases r <;> rfl
  | cons y0 ys ih =>
    intro xl cx cy hl
    match xl, hl with
    | x0 :: xs, hl =>
      have hl' : xs.length = ys.length := by simpa using hl
      simp only [List.cons_append, lehmerStepWords]
      split
      · rw [ih xs _ _ hl']
        generalize lehmerStepWords W a b c d xs ys _ _ = q
        rcases q with _ | ⟨_, _, _, _⟩ <;> rfl
      · rfl

/-- uniqueness of the split `value = low + P·carry` with `0 ≤ low < P` -/
theorem carry_unique {P r c v : Int} (hP : 0 < P) (hr0 : 0 ≤ r) (hr : r < P) (h : r + P * c = v) (hv0 : 0 ≤ v) (hv : v < P) :
    c = 0 := by
  rcases lt_trichotomy c 0 with hc | hc | hc
  · have : P * c ≤ P * (-1) := mul_le_mul_of_nonneg_left (by omega) (le_of_lt hP)
    omega
  · exact hc
  · have : P * 1 ≤ P * c := mul_le_mul_of_nonneg_left (by omega) (le_of_lt hP)
    omega

theorem signed_zero_bounds (W : Nat) : -(2 ^ (W - 1) : Int) ≤ 0 ∧ (0 : Int) < 2 ^ (W - 1) := by
  have : (0 : Int) < 2 ^ (W - 1) := by positivity
  omega

/-- the zip loop over operands of equal length, from zero carries: each result is `n = y.len()` words and a signed carry -/
theorem lehmerStepWords_eqlen (W a b c d : Nat) (hW : 1 ≤ W) (ha : a < 2 ^ (W - 1)) (hb : b < 2 ^ (W - 1))
    (hc : c < 2 ^ (W - 1)) (hd : d < 2 ^ (W - 1)) (x y : List Nat) (hx : IsWords W x) (hy : IsWords W y)
    (hl : x.length = y.length) :
    ∃ x' y' cx cy, lehmerStepWords W a b c d x y 0 0 = some (x', y', cx, cy) ∧ x'.length = x.length ∧ y'.length = y.length ∧
      IsWords W x' ∧ IsWords W y' ∧ (val W x' : Int) < 2 ^ (W * y.length) ∧ (val W y' : Int) < 2 ^ (W * y.length) ∧
      (val W x' : Int) + 2 ^ (W * y.length) * cx = (a : Int) * val W x - (b : Int) * val W y ∧
      (val W y' : Int) + 2 ^ (W * y.length) * cy = (d : Int) * val W y - (c : Int) * val W x := by
  obtain ⟨z1, z2⟩ := signed_zero_bounds W
  obtain ⟨x', y', cx, cy, hrun, hlx, hly, hwx, hwy, _, _, _, _, _, hvx, hvy⟩ :=
    lehmerStepWords_spec W a b c d hW ha hb hc hd y x 0 0 hx hy z1 z2 z1 z2 (by omega)
  have tx : x.take y.length = x := List.take_of_length_le (by omega)
  have tx' : x'.take y.length = x' := List.take_of_length_le (by omega)
  rw [tx, tx', add_zero] at hvx
  rw [tx, add_zero] at hvy
  have lx : (val W x' : Int) < 2 ^ (W * y.length) := by
    have := val_lt W x' hwx; rw [hlx, hl] at this; exact_mod_cast this
  have ly : (val W y' : Int) < 2 ^ (W * y.length) := by
    have := val_lt W y' hwy; rw [hly] at this; exact_mod_cast this
  exact ⟨x', y', cx, cy, hrun, hlx, hly, hwx, hwy, lx, ly, hvx, hvy⟩

/-- **`lehmer_step`, operands of equal length**: if the two results `a·X − b·Y`, `d·Y − c·X` are non-negative and fit
    the `n = y.len()` words, the function returns exactly them (both loop carries are zero, no fix-up) -/
theorem lehmerStepFull_eqlen (W a b c d : Nat) (hW : 1 ≤ W) (ha : a < 2 ^ (W - 1)) (hb : b < 2 ^ (W - 1))
    (hc : c < 2 ^ (W - 1)) (hd : d < 2 ^ (W - 1)) (x y : List Nat) (hx : IsWords W x) (hy : IsWords W y)
    (hl : x.length = y.length)
    (h1 : 0 ≤ (a : Int) * val W x - (b : Int) * val W y) (h2 : (a : Int) * val W x - (b : Int) * val W y < 2 ^ (W * y.length))
    (h3 : 0 ≤ (d : Int) * val W y - (c : Int) * val W x) (h4 : (d : Int) * val W y - (c : Int) * val W x < 2 ^ (W * y.length)) :
    ∃ x' y', lehmerStepFull W a b c d x y = some (x', y') ∧ x'.length = x.length ∧ y'.length = y.length ∧
      IsWords W x' ∧ IsWords W y' ∧
      (val W x' : Int) = (a : Int) * val W x - (b : Int) * val W y ∧
      (val W y' : Int) = (d : Int) * val W y - (c : Int) * val W x := by
  obtain ⟨x', y', cx, cy, hrun, hlx, hly, hwx, hwy, lx, ly, hvx, hvy⟩ :=
    lehmerStepWords_eqlen W a b c d hW ha hb hc hd x y hx hy hl
  have hP : (0 : Int) < 2 ^ (W * y.length) := by positivity
  have hcx : cx = 0 := carry_unique hP (Int.natCast_nonneg _) lx hvx h1 h2
  have hcy : cy = 0 := carry_unique hP (Int.natCast_nonneg _) ly hvy h3 h4
  subst hcx; subst hcy
  refine ⟨x', y', ?_, hlx, hly, hwx, hwy, by simpa using hvx, by simpa using hvy⟩
  simp only [lehmerStepFull, hrun]
  simp

/-- **`lehmer_step`, `x` one word longer than `y`** (`x = xl ++ [x_top]`): if `0 ≤ a·X − b·Y ≤ X` (the step does not
    increase `x`), `0 ≤ d·Y − c·X < 2^(W·n)` and `a ≥ 1`, the function returns exactly the two results: the assertion
    `y_carry = c·x_top` holds, the fix-up `a·x_top + x_carry` is a single word with zero carry (`debug_assert_eq!(cx, 0)`),
    and when the loop leaves NO carry the untouched top word is already right (`a·x_top = x_top`) -/
theorem lehmerStepFull_longer (W a b c d : Nat) (hW : 1 ≤ W) (ha : a < 2 ^ (W - 1)) (hb : b < 2 ^ (W - 1))
    (hc : c < 2 ^ (W - 1)) (hd : d < 2 ^ (W - 1)) (ha1 : 1 ≤ a) (xl : List Nat) (xt : Nat) (y : List Nat)
    (hx : IsWords W xl) (hxt : xt < 2 ^ W) (hy : IsWords W y) (hl : xl.length = y.length)
    (h1 : 0 ≤ (a : Int) * val W (xl ++ [xt]) - (b : Int) * val W y)
    (h2 : (a : Int) * val W (xl ++ [xt]) - (b : Int) * val W y ≤ val W (xl ++ [xt]))
    (h3 : 0 ≤ (d : Int) * val W y - (c : Int) * val W (xl ++ [xt]))
    (h4 : (d : Int) * val W y - (c : Int) * val W (xl ++ [xt]) < 2 ^ (W * y.length)) :
    ∃ x' y', lehmerStepFull W a b c d (xl ++ [xt]) y = some (x', y') ∧ x'.length = xl.length + 1 ∧ y'.length = y.length ∧
      IsWords W x' ∧ IsWords W y' ∧
      (val W x' : Int) = (a : Int) * val W (xl ++ [xt]) - (b : Int) * val W y ∧
      (val W y' : Int) = (d : Int) * val W y - (c : Int) * val W (xl ++ [xt]) := by
  obtain ⟨x', y', cx, cy, hrun, hlx, hly, hwx, hwy, lx, ly, hvx, hvy⟩ :=
    lehmerStepWords_eqlen W a b c d hW ha hb hc hd xl y hx hy hl
  have hrun2 := lehmerStepWords_append W a b c d [xt] y xl 0 0 hl
  rw [hrun] at hrun2
  simp only [Option.map_some] at hrun2
  have hX : (val W (xl ++ [xt]) : Int) = val W xl + 2 ^ (W * y.length) * xt := by
    rw [val_append, hl]; simp [val]
  rw [hX] at h1 h2 h3 h4 ⊢
  have hP : (0 : Int) < 2 ^ (W * y.length) := by positivity
  have hBpos : (0 : Int) < 2 ^ W := by positivity
  have lxl : (val W xl : Int) < 2 ^ (W * y.length) := by
    have := val_lt W xl hx; rw [hl] at this; exact_mod_cast this
  have hxtI : (xt : Int) < 2 ^ W := by exact_mod_cast hxt
  have hxt0 : (0 : Int) ≤ xt := Int.natCast_nonneg _
  have hApp : ∀ (l : List Nat) (t : Nat), l.length = y.length → (val W (l ++ [t]) : Int) = val W l + 2 ^ (W * y.length) * t := by
    intro l t h; rw [val_append, h]; simp [val]
  have hpow : (2 : Int) ^ W ≤ 2 ^ (2 * W - 1) := pow_le_pow_right₀ (by norm_num) (by omega)
  generalize (2 : Int) ^ (W * y.length) = P at *
  generalize (val W xl : Int) = Xl at *
  generalize (val W y : Int) = Y at *
  have hx'0 : (0 : Int) ≤ val W x' := Int.natCast_nonneg _
  have hy'0 : (0 : Int) ≤ val W y' := Int.natCast_nonneg _
  -- y carry
  have hcy : cy - (c : Int) * xt = 0 := by
    apply carry_unique hP hy'0 ly (v := (d : Int) * Y - (c : Int) * (Xl + P * xt)) _ h3 h4
    linear_combination hvy
  have hcy' : cy = (c : Int) * xt := by omega
  -- top word of x
  have hv : (val W x' : Int) + P * ((a : Int) * xt + cx) = (a : Int) * (Xl + P * xt) - (b : Int) * Y := by
    linear_combination hvx
  have hv0 : 0 ≤ (a : Int) * xt + cx := by
    by_contra hneg
    have : P * ((a : Int) * xt + cx) ≤ P * (-1) := mul_le_mul_of_nonneg_left (by omega) (le_of_lt hP)
    omega
  have hvB : (a : Int) * xt + cx < 2 ^ W := by
    have h5 : P * ((a : Int) * xt + cx) < P * 2 ^ W := by
      have : P * (xt + 1) ≤ P * 2 ^ W := mul_le_mul_of_nonneg_left (by omega) (le_of_lt hP)
      have e : P * ((xt : Int) + 1) = P * xt + P := by ring
      omega
    exact lt_of_mul_lt_mul_left h5 (le_of_lt hP)
  have hyres : (val W y' : Int) = (d : Int) * Y - (c : Int) * (Xl + P * xt) := by
    rw [hcy'] at hvy; linear_combination hvy
  by_cases hcx : cx = 0
  · -- no carry: the top word stays, and it is right
    subst hcx
    have haxt : (a : Int) * xt = xt := by
      have h6 : P * ((a : Int) * xt) < P * (xt + 1) := by
        have e : P * ((xt : Int) + 1) = P * xt + P := by ring
        have e2 : P * ((a : Int) * xt + 0) = P * ((a : Int) * xt) := by ring
        omega
      have h7 : (a : Int) * xt < xt + 1 := lt_of_mul_lt_mul_left h6 (le_of_lt hP)
      have h8 : (1 : Int) * xt ≤ (a : Int) * xt := mul_le_mul_of_nonneg_right (by exact_mod_cast ha1) hxt0
      omega
    refine ⟨x' ++ [xt], y', ?_, by simp [hlx], hly, hwx.append (IsWords.cons hxt (IsWords.nil W)), hwy, ?_, hyres⟩
    · simp only [lehmerStepFull, hrun2]; simp
    · rw [hApp x' xt (by omega)]
      linear_combination hv - P * haxt
  · have hdiv : ((a : Int) * xt + cx) / 2 ^ W = 0 := Int.ediv_eq_zero_of_lt hv0 hvB
    have hmod : ((a : Int) * xt + cx) % 2 ^ W = (a : Int) * xt + cx := Int.emod_eq_of_lt hv0 hvB
    have hrange : -(2 ^ (2 * W - 1) : Int) ≤ (a : Int) * xt + cx ∧ (a : Int) * xt + cx < 2 ^ (2 * W - 1) := by
      have : (0 : Int) < 2 ^ (2 * W - 1) := by positivity
      omega
    have hw : ((a : Int) * xt + cx).toNat < 2 ^ W := by
      have : ((((a : Int) * xt + cx).toNat : Nat) : Int) < ((2 ^ W : Nat) : Int) := by
        rw [Int.toNat_of_nonneg hv0]; push_cast; exact hvB
      exact_mod_cast this
    refine ⟨x' ++ [((a : Int) * xt + cx).toNat], y', ?_, by simp [hlx], hly, hwx.append (IsWords.cons hw (IsWords.nil W)), hwy, ?_, hyres⟩
    · simp only [lehmerStepFull, hrun2]
      simp [hcx, hcy', hdiv, hmod, hrange]
    · rw [hApp x' _ (by omega), Int.toNat_of_nonneg hv0]
      linear_combination hv

/-- **`lehmer_step` in full on a committed matrix**, `x` as long as `y` or one word longer (the two shapes its first
    `debug_assert!` admits): the two combined values, exactly and in place -/
theorem lehmerStepFull_committed {W a b c d : Nat} (hW : 1 ≤ W)
    (hlt : a < 2 ^ (W - 1) ∧ b < 2 ^ (W - 1) ∧ c < 2 ^ (W - 1) ∧ d < 2 ^ (W - 1))
    {x y : List Nat} (hx : IsWords W x) (hy : IsWords W y) (hl : y.length ≤ x.length) (hl' : x.length ≤ y.length + 1)
    (h : Committed (val W x) (val W y) a b c d) :
    ∃ x' y', lehmerStepFull W a b c d x y = some (x', y') ∧ x'.length = x.length ∧ y'.length = y.length ∧
      IsWords W x' ∧ IsWords W y' ∧
      (val W x' : Int) = (a : Int) * val W x - (b : Int) * val W y ∧
      (val W y' : Int) = (d : Int) * val W y - (c : Int) * val W x ∧
      0 < val W x' ∧ 0 < val W y' ∧ val W x' + val W y' ≤ val W x ∧ val W y' ≤ val W y := by
  obtain ⟨ha, hb, hc, hd⟩ := hlt
  obtain ⟨-, p1, p2, ps, pyle, pa⟩ := h
  have hylt : (val W y : Int) < 2 ^ (W * y.length) := by exact_mod_cast val_lt W y hy
  -- either shape returns the two values; they are the committed ones
  suffices ∃ x' y', lehmerStepFull W a b c d x y = some (x', y') ∧ x'.length = x.length ∧ y'.length = y.length ∧
      IsWords W x' ∧ IsWords W y' ∧ (val W x' : Int) = (a : Int) * val W x - (b : Int) * val W y ∧
      (val W y' : Int) = (d : Int) * val W y - (c : Int) * val W x by
    obtain ⟨x', y', hrun, h1, h2, h3, h4, h5, h6⟩ := this
    exact ⟨x', y', hrun, h1, h2, h3, h4, h5, h6, by omega, by omega, by omega, by omega⟩
  rcases Nat.lt_or_ge y.length x.length with hlong | hshort
  · -- `x = xl ++ [x_top]`
    obtain ⟨xl, xt, rfl⟩ : ∃ xl xt, x = xl ++ [xt] :=
      ⟨_, _, (List.dropLast_concat_getLast (List.ne_nil_of_length_pos (by omega))).symm⟩
    have hll : xl.length = y.length := by simp at hl'; simp at hlong; omega
    have hxl : IsWords W xl := fun w hw => hx w (List.mem_append_left _ hw)
    have hxt : xt < 2 ^ W := hx xt (by simp)
    obtain ⟨x', y', hrun, h1, r⟩ := lehmerStepFull_longer W a b c d hW ha hb hc hd pa xl xt y hxl hxt hy hll
      (le_of_lt p1) (by linarith) (le_of_lt p2) (by linarith)
    exact ⟨x', y', hrun, by simpa using h1, r⟩
  · have hll : x.length = y.length := by omega
    have hxlt : (val W x : Int) < 2 ^ (W * y.length) := by rw [← hll]; exact_mod_cast val_lt W x hx
    exact lehmerStepFull_eqlen W a b c d hW ha hb hc hd x y hx hy hll (le_of_lt p1) (by linarith) (le_of_lt p2)
      (by linarith)

/-- a trimmed word list (non-zero top word) has exactly `len` significant words -/
theorem wordLen_val_trimmed (W : Nat) (hW : 0 < W) (l : List Nat) (t : Nat) (hl : IsWords W l) (ht : t < 2 ^ W)
    (ht0 : t ≠ 0) : wordLen W (val W (l ++ [t])) = l.length + 1 := by
  have hw : IsWords W (l ++ [t]) := by
    apply IsWords.append hl
    intro w hw'; simp at hw'; subst hw'; exact ht
  have hlt := val_lt W (l ++ [t]) hw
  rw [List.length_append, List.length_singleton] at hlt
  have hle : wordLen W (val W (l ++ [t])) ≤ l.length + 1 := wordLen_le_of_lt hW hlt
  have hge : 2 ^ (W * l.length) ≤ val W (l ++ [t]) := by
    rw [val_append]; simp only [val, Nat.mul_zero, Nat.add_zero]
    have : 2 ^ (W * l.length) * 1 ≤ 2 ^ (W * l.length) * t := Nat.mul_le_mul_left _ (by omega)
    omega
  have hlt2 := lt_two_pow_wordLen hW (val W (l ++ [t]))
  have h3 : 2 ^ (W * l.length) < 2 ^ (W * wordLen W (val W (l ++ [t]))) := Nat.lt_of_le_of_lt hge hlt2
  have h4 : W * l.length < W * wordLen W (val W (l ++ [t])) := (Nat.pow_lt_pow_iff_right (by decide)).mp h3
  have h5 : l.length < wordLen W (val W (l ++ [t])) := Nat.lt_of_mul_lt_mul_left h4
  omega

end Dashu.Model.NT
