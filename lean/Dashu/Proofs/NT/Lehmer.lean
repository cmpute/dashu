import Dashu.Proofs.NT.LehmerExt
import Dashu.Proofs.NT.BinGcd
/-
  C12: the mirrored `lehmer::gcd_in_place` loop.  Its body is the body of `gcd_ext_in_place` (`lehmerExtStep`,
  `Proofs/NT/LehmerExt`) with the coefficients forgotten (`lehmerGcdLoop_succ`), so soundness — whatever cofactors
  `lehmer_guess` commits, every value the loop returns is the gcd — is `lehmerExtStep_keeps`, and that it returns
  (`Proofs/NT/LehmerComplete`) is `lehmerExtStep_spec`.
-/
namespace Dashu.Model.NT
open Dashu.Model

/-- one pass of the loop of `gcd_in_place` is one pass of the loop of `gcd_ext_in_place` on the same values, whatever
    the coefficients `t0`, `t1`, `sw` are -/
theorem lehmerGcdLoop_succ (W fuel x y t0 t1 : Nat) (sw : Bool) :
    lehmerGcdLoop W (fuel + 1) x y =
      if wordLen W y > 2 then
        (match lehmerExtStep W (x, y, t0, t1, sw) with
         | .error k => .error k
         | .ok s => lehmerGcdLoop W fuel s.1 s.2.1)
      else if y = 0 then .ok x else gcdPrim (x % y) y := by
  rw [lehmerGcdLoop]
  simp only [lehmerExtStep]
  rcases lehmerCofactors W x y with ⟨a, b, c, d⟩
  simp only []
  by_cases hy : wordLen W y > 2
  · simp only [hy, if_true]
    by_cases hb : b = 0
    · simp only [hb, if_true]
    · simp only [hb, if_false]
      by_cases hn : (a : Int) * x - (b : Int) * y < 0 ∨ (d : Int) * y - (c : Int) * x < 0
      · simp only [hn, if_true]
      · simp only [hn, if_false]
        by_cases hle : ((a : Int) * x - (b : Int) * y).toNat ≤ ((d : Int) * y - (c : Int) * x).toNat
        · simp only [hle, if_true]
        · simp only [hle, if_false]
  · simp only [hy, if_false]

theorem lehmerGcdLoop_sound (W : Nat) :
    ∀ (fuel x y g : Nat), lehmerGcdLoop W fuel x y = .ok g → g = Nat.gcd x y := by
  intro fuel
  induction fuel with
  | zero => intro x y g h; simp [lehmerGcdLoop] at h
  | succ n ih =>
    intro x y g h
    rw [lehmerGcdLoop_succ W n x y 0 1 false] at h
    split at h
    · generalize hst : lehmerExtStep W (x, y, 0, 1, false) = st at h
      match st, h with
      | .ok s', h => rw [ih _ _ _ h, (lehmerExtStep_keeps hst).1]
    · split at h
      · rename_i hy0
        cases h
        rw [hy0, Nat.gcd_zero_right]
      · rw [gcdPrim_spec, if_neg (by omega)] at h
        cases h
        rw [Nat.gcd_comm, gcd_mod_right]

end Dashu.Model.NT
