import Dashu.Model.NT.ModInvLarge
import Dashu.Proofs.NT.LehmerExt
import Dashu.Proofs.NT.ModInv
import Dashu.Proofs.NT.ModKernels
import Mathlib.Tactic.Ring
import Mathlib.Tactic.LinearCombination
/-
  C13: the RANGE CLAIM of `inv_large` — the cofactor magnitude `|b|` that
  `gcd::gcd_ext_word/_dword/_in_place` leave in the modulus buffer is `< modulus`
  (`debug_assert!(inv.is_valid(ring))` in `integer/src/modular/div.rs`) — and, from it and C12's
  `lehmerExt_correct` / `gcdExtSmall_spec`, that the mirrored `inv_large` returns the inverse the
  `%`-level model (num-modular's `invm`) specifies.

  The range claim of `gcd_ext_in_place` is `lehmerExt_coeff_bound` (`Proofs/NT/LehmerExt`), that of
  `gcd_ext_word/_dword` rests on the half-size bounds of the primitive `gcd_ext` (`xgcdPrim_bounded`, `k = 2`).
-/
namespace Dashu.Model.NT
open Dashu.Model

-- ---------------------------------------------------------------- cofactor sizes of the primitive `gcd_ext`

/-- `impl ExtendedGcd for $U` (and `for u128`, `xgcdPrimWide_eq_xgcdPrim`) on two different positive values: each
    cofactor is at most half the other operand (`2·|ca| ≤ b`, `2·|cb| ≤ a`) -/
theorem xgcdPrim_half_bound {a b : Nat} (ha : 0 < a) (hb : 0 < b) (hne : a ≠ b) :
    ∃ res, xgcdPrim a b = .ok res ∧ 2 * res.2.1.natAbs ≤ b ∧ 2 * res.2.2.natAbs ≤ a := by
  obtain ⟨⟨g, s, t⟩, hres, ⟨hg, _⟩, h1, h2⟩ := xgcdPrim_bounded (k := 2) (Nat.le_refl 2) ha hb (fun _ => hne)
  simp only [Int.abs_eq_natAbs] at hg h1 h2
  have c1 : 2 * (s.natAbs * g) ≤ b := by exact_mod_cast h1
  have c2 : 2 * (t.natAbs * g) ≤ a := by exact_mod_cast h2
  have hgpos : 0 < g := by rw [hg]; exact Nat.gcd_pos_of_pos_left _ ha
  have := Nat.le_mul_of_pos_right s.natAbs hgpos
  have := Nat.le_mul_of_pos_right t.natAbs hgpos
  exact ⟨_, hres, by show 2 * s.natAbs ≤ b; omega, by show 2 * t.natAbs ≤ a; omega⟩

-- ---------------------------------------------------------------- `gcd_ext_in_place`

/-- **the range claim** of `gcd::gcd_ext_in_place`: the cofactor magnitude it returns is below `lhs` -/
theorem lehmerExt_range (W : Nat) (hW : 0 < W) (lhs rhs : Nat) (h0 : 0 < rhs) (hlt : rhs < lhs)
    (res : Nat × Nat × Bool) (h : lehmerExt W lhs rhs = .ok res) : res.2.1 < lhs :=
  (lehmerExt_coeff_bound W hW lhs rhs (Nat.le_of_lt hlt) (g := res.1) (bb := res.2.1) (neg := res.2.2) h).2.2 (by omega)

-- ---------------------------------------------------------------- `gcd_ext_word` / `gcd_ext_dword`

/-- **range claim of `gcd_ext_word` / `gcd_ext_dword`**: the recovered `|b| = q·|t| + |s|` is below `lhs` -/
theorem gcdExtSmall_range (W : Nat) {lhs rhs : Nat} (h0 : 0 < rhs) (hlt : rhs < lhs)
    {g : Nat} {a : Int} {bMag : Nat} {bNeg : Bool} (h : gcdExtSmall W lhs rhs = .ok (g, a, bMag, bNeg)) :
    bMag < lhs := by
  unfold gcdExtSmall at h
  simp only [] at h
  split at h
  · cases h; omega
  · rename_i hrem
    have hml := Nat.mod_lt lhs h0
    have hdm := Nat.div_add_mod lhs rhs
    rw [xgcdPrimWide_eq_xgcdPrim, ite_self] at h
    obtain ⟨res, hres, hb1, hb2⟩ := xgcdPrim_half_bound h0 (Nat.pos_of_ne_zero hrem) (by omega)
    rw [hres] at h
    obtain ⟨r, s, t⟩ := res
    simp only [] at h hb1 hb2
    have f1 : lhs / rhs * (2 * t.natAbs) ≤ lhs / rhs * rhs := Nat.mul_le_mul_left _ hb2
    have f2 : lhs / rhs * (2 * t.natAbs) = 2 * (lhs / rhs * t.natAbs) := by ring
    have f3 : lhs / rhs * rhs = rhs * (lhs / rhs) := Nat.mul_comm _ _
    cases h
    omega

-- ---------------------------------------------------------------- `inv_large` = the specified inverse

theorem inv_unique {m u t t' : Nat} (hco : Nat.gcd u m = 1) (ht : t < m) (ht' : t' < m)
    (h1 : t * u ≡ 1 [MOD m]) (h2 : t' * u ≡ 1 [MOD m]) : t' = t := by
  have h : t' * u ≡ t * u [MOD m] := h2.trans h1.symm
  have hc : Nat.gcd m u = 1 := by rw [Nat.gcd_comm]; exact hco
  exact Nat.ModEq.eq_of_lt_of_lt (Nat.ModEq.cancel_right_of_coprime hc h) ht' ht

/-- tail of `inv_large`: given the gcd, a cofactor magnitude **in range** and the congruence the
    extended-gcd kernels guarantee, the value returned is the one `invm` specifies -/
theorem invLargeFinish_eq {W : Nat} {r : Ring} (hwf : r.WF W) (hk : r.kind = .large) {u g B : Nat} {neg : Bool}
    (hg : g = Nat.gcd r.m u) (hB : B < r.m)
    (hd : (r.m : Int) ∣ g - (if neg then -(B : Int) else B) * u) :
    invLargeFinish r (g == 1) B neg = (invm u r.m).map (· * 2 ^ r.k) := by
  have hm := hwf.mpos
  have hm2 : 1 < r.m := by
    have := hwf.m_large hk
    have : 1 < 2 ^ (2 * W) := Nat.one_lt_two_pow (by have := hwf.hW; omega)
    omega
  obtain ⟨hsome, hiff⟩ := invm_spec (x := u) hm
  unfold invLargeFinish
  by_cases hg1 : g = 1
  · have hco : Nat.gcd u r.m = 1 := by rw [Nat.gcd_comm, ← hg, hg1]
    have his := hiff.2 hco
    cases hinv : invm u r.m with
    | none => rw [hinv] at his; simp at his
    | some t =>
      obtain ⟨ht1, ht2⟩ := hsome t hinv
      subst hg1
      simp only [beq_self_eq_true, Bool.not_true, Bool.false_eq_true, if_false, Option.map_some]
      congr 1
      cases neg
      · simp only [Bool.false_eq_true, if_false] at hd ⊢
        have hB1 : B * u ≡ 1 [MOD r.m] := by
          apply (Nat.modEq_iff_dvd).2
          obtain ⟨w, hw⟩ := hd
          exact ⟨w, by push_cast at hw ⊢; linear_combination hw⟩
        rw [inv_unique hco ht2 hB ht1 hB1]
      · simp only [if_true] at hd ⊢
        rw [negRaw_eq hB]
        congr 1
        have hBpos : 0 < B := by
          apply Nat.pos_of_ne_zero; intro h0; subst h0
          obtain ⟨w, hw⟩ := hd
          simp at hw
          have h1 : (r.m : Int) ∣ 1 := ⟨w, hw⟩
          have := Int.eq_one_of_dvd_one (Int.natCast_nonneg _) h1
          omega
        rw [Nat.mod_eq_of_lt (by omega)]
        have hB1 : (r.m - B) * u ≡ 1 [MOD r.m] := by
          apply (Nat.modEq_iff_dvd).2
          obtain ⟨w, hw⟩ := hd
          refine ⟨w - u, ?_⟩
          push_cast [Nat.cast_sub (Nat.le_of_lt hB)] at hw ⊢
          linear_combination hw
        exact inv_unique hco ht2 (by omega) ht1 hB1
  · have hne : (g == 1) = false := by simpa using hg1
    rw [hne]
    simp only [Bool.not_false, if_true]
    cases hinv : invm u r.m with
    | none => rfl
    | some t =>
      exfalso
      have : (invm u r.m).isSome := by rw [hinv]; rfl
      have := hiff.1 this
      rw [Nat.gcd_comm, ← hg] at this
      exact hg1 this

/-- **`inv_large` is a corollary of the extended-gcd kernels + the range claim**: on a valid residue of a
    multi-word ring the mirrored `inv_large` (C12's `gcd_ext_word/_dword` and Lehmer `gcd_ext_in_place`)
    never fails and returns exactly what the `%`-level model (`invm`, the unique inverse) specifies -/
theorem invLarge_eq {W : Nat} {r : Ring} (hwf : r.WF W) (hk : r.kind = .large) {u : Nat} (hu : u < r.m) :
    invLarge W r (u * 2 ^ r.k) = .ok (invRaw r (u * 2 ^ r.k)) := by
  have hW := hwf.hW
  have hp : 0 < 2 ^ r.k := Nat.two_pow_pos _
  rw [invRaw_eq hwf]
  unfold invLarge
  simp only [M_div, Nat.mul_div_cancel _ hp]
  by_cases h0 : wordLen W u = 0
  · rw [if_pos h0]
    have : u = 0 := by
      have := lt_two_pow_wordLen hW u
      rw [h0] at this; simpa using this
    have h1 : 1 < 2 ^ (2 * W) := Nat.one_lt_two_pow (by omega)
    rw [this, invm_zero (Nat.lt_of_lt_of_le h1 (hwf.m_large hk))]
    rfl
  · rw [if_neg h0]
    have hupos : 0 < u := by
      apply Nat.pos_of_ne_zero; intro h; subst h
      exact h0 (wordLen_zero hW)
    by_cases h2 : wordLen W u ≤ 2
    · rw [if_pos h2]
      obtain ⟨g, a, bMag, bNeg, heq, hbz⟩ := gcdExtSmall_spec W r.m u hupos
      have hrange := gcdExtSmall_range W hupos hu heq
      rw [heq]
      simp only []
      congr 1
      obtain ⟨hg, hb⟩ := hbz
      simp only [] at hg hb
      apply invLargeFinish_eq hwf hk hg hrange
      exact ⟨a, by cases bNeg <;> simp only [Bool.false_eq_true, if_false, if_true] at hb ⊢ <;> linear_combination -hb⟩
    · rw [if_neg h2]
      obtain ⟨res, heq, hc⟩ := lehmerExt_correct W hW r.m u hupos hu
      have hrange := lehmerExt_range W hW r.m u hupos hu res heq
      obtain ⟨g, bMag, bNeg⟩ := res
      rw [heq]
      simp only [] at hrange hc ⊢
      congr 1
      obtain ⟨hg, hc2⟩ := hc
      simp only [] at hg hc2
      apply invLargeFinish_eq hwf hk hg hrange
      cases bNeg
      · simp only [Bool.false_eq_true, if_false] at hc2 ⊢
        obtain ⟨hle, w, hw⟩ := hc2
        have hw' : ((u * bMag - g : Nat) : Int) = (r.m : Int) * w := by exact_mod_cast hw
        rw [Nat.cast_sub hle] at hw'
        exact ⟨-w, by push_cast at hw'; linear_combination -hw'⟩
      · simp only [if_true] at hc2 ⊢
        obtain ⟨w, hw⟩ := hc2
        have hw' : ((u * bMag + g : Nat) : Int) = (r.m : Int) * w := by exact_mod_cast hw
        exact ⟨w, by push_cast at hw'; linear_combination hw'⟩

/-- `Reduced::inv` with the mirrored `inv_large`, on every valid element of every well-formed ring -/
theorem invRawK_eq {W : Nat} {r : Ring} (hwf : r.WF W) {u : Nat} (hu : u < r.m) :
    invRawK W r (u * 2 ^ r.k) = .ok (invRaw r (u * 2 ^ r.k)) := by
  unfold invRawK
  cases hk : r.kind with
  | large => exact invLarge_eq hwf hk hu
  | single => rfl
  | double => rfl

end Dashu.Model.NT
