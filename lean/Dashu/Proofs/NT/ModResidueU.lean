import Dashu.Proofs.NT.ModReducerU
/-
  C13 <-> C02 / C01 link for `Reducer<UBig>::residue` and `Reducer<UBig>::is_zero` (`integer/src/modular/reducer.rs`):
  the function that takes a pre-shifted `UBig` back to the residue, written on C01's MIRRORED `UBig` representation
  (`TRepr`, `Repr::from_word / from_dword` = inline, `Repr::from_buffer` = `fromBuffer`) and C02's MIRRORED
  `shift::shr_in_place` (`Div.shrInPlace`), with `shrink_dword(dw).unwrap()`, the overflow check of `>>`,
  `debug_assert_zero!(shr_in_place(..))` and `unreachable!()` as error values.  The driver prints the residue as
  `t / 2 ^ r.k`; this definition is tied to that value by the theorem only (`rResidueU_spec`; composed with the
  operations in `Props/C13Reducer`, `reducer_residue_link`).
-/
namespace Dashu.Model.NT
open Dashu.Model

/-- `Reducer::residue(&self, target: UBig)`:
    `Small(dw)` ⇒ `Single: from_word(shrink_dword(dw).unwrap() >> shift)`, `Double | Large: from_dword(dw >> shift)`;
    `Large(buffer)` ⇒ in a multi-word ring `debug_assert_zero!(shr_in_place(&mut buffer, d.shift)); from_buffer(buffer)`,
    otherwise `unreachable!()`.  `>>` by at least the bit width is an overflow panic. -/
def rResidueU (W : Nat) (r : Ring) (t : TRepr) : Except PanicKind TRepr :=
  match t with
  | .small dw =>
    match r.kind with
    | .single =>
      if dw < 2 ^ W then
        if r.k < W then .ok (.small (dw / 2 ^ r.k)) else .error (.undocumented "reducer.rs: word >> shift overflows")
      else .error (.undocumented "reducer.rs: shrink_dword(dw).unwrap() on None")
    | _ =>
      if r.k < 2 * W then .ok (.small (dw / 2 ^ r.k)) else .error (.undocumented "reducer.rs: dword >> shift overflows")
  | .large buffer =>
    match r.kind with
    | .large =>
      let (ws, c) := Div.shrInPlace W buffer r.k
      if c = 0 then .ok (fromBuffer W ws) else .error (.undocumented "reducer.rs: debug_assert_zero!(shr_in_place)")
    | _ => .error (.undocumented "reducer.rs: unreachable!()")

/-- `Reducer::is_zero(&self, target: &UBig)`: `target.is_zero()` -/
def rIsZeroU (t : TRepr) : Bool := t.isZero

theorem Ring.k_lt_bits {W : Nat} {r : Ring} (hwf : r.WF W) : r.k < W * r.n := by
  have h1 : 2 ^ r.k ≤ r.M := Nat.le_mul_of_pos_left _ hwf.mpos
  have h2 := hwf.Mlt
  exact (Nat.pow_lt_pow_iff_right (by omega : 1 < 2)).mp (Nat.lt_of_le_of_lt h1 h2)

/-- `residue` on the representation: no `unwrap`, shift overflow, shifted-out bit or `unreachable!()` on a checked operand;
    the result is canonical and is the quotient by `2^shift` -/
theorem rResidueU_spec {W : Nat} {r : Ring} (hwf : r.WF W) (hkW : r.k ≤ W) {t : TRepr} (ht : t.Canon W)
    (hv : Valid r (t.value W)) :
    ∃ c, rResidueU W r t = .ok c ∧ c.Canon W ∧ c.value W = t.value W / 2 ^ r.k := by
  have hW : 1 ≤ W := hwf.hW
  have hMlt := hwf.Mlt
  have hkb := Ring.k_lt_bits hwf
  obtain ⟨k1, k2, k3⟩ := hwf.kind_n
  have hlt := valid_lt_M hv
  obtain ⟨u, hu, eu⟩ := hv
  have hp : 0 < 2 ^ r.k := Nat.two_pow_pos _
  have hpw : 2 ^ W ≤ 2 ^ (2 * W) := Nat.pow_le_pow_right (by omega) (by omega)
  unfold rResidueU
  cases t with
  | small dw =>
    have hd : dw < 2 ^ (2 * W) := ht
    simp only [TRepr.value] at hlt eu ⊢
    have hq : dw / 2 ^ r.k < 2 ^ (2 * W) := Nat.lt_of_le_of_lt (Nat.div_le_self _ _) hd
    cases hk : r.kind with
    | single =>
      have hn := k1 hk
      rw [hn, Nat.mul_one] at hMlt hkb
      have : dw < 2 ^ W := by omega
      simp only [this, hkb, if_true]
      exact ⟨_, rfl, hq, rfl⟩
    | double =>
      have hn := k2 hk
      rw [hn, Nat.mul_comm] at hkb
      simp only [hkb, if_true]
      exact ⟨_, rfl, hq, rfl⟩
    | large =>
      have : r.k < 2 * W := by omega
      simp only [this, if_true]
      exact ⟨_, rfl, hq, rfl⟩
  | large ws =>
    have hge := ht.large_ge
    simp only [TRepr.value] at hlt eu
    cases hk : r.kind with
    | single =>
      exfalso
      have hn := k1 hk
      rw [hn, Nat.mul_one] at hMlt
      omega
    | double =>
      exfalso
      have hn := k2 hk
      rw [hn, two_mul_comm_pow] at hMlt
      omega
    | large =>
      obtain ⟨hc, hval, -, e5⟩ := shrInPlace_exact hkW ht.2.1 eu
      simp only [hc, if_true]
      have hq : val W ws / 2 ^ r.k = u := by rw [eu, Nat.mul_div_cancel _ hp]
      exact ⟨_, rfl, fromBuffer_canon W _ e5, by rw [fromBuffer_value, hval]; exact hq.symm⟩

end Dashu.Model.NT
