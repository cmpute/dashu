import Dashu.Proofs.NT.PrimRootU32
/-
  C12: the per-top-half check of the `u32` square root (`sqrtU32OkH`: no overflow, under-estimate) holds for
  every normalised top half — kernel evaluation, 24 table entries (12288 values of `h`) per theorem; part 1 of 2.
-/
namespace Dashu.Model.NT
theorem sqrt_u32_t0 : allTab sqrtU32OkT 512 ((RSQRT_TAB.drop 0).take 24) (512 * (32 + 0)) = true := by decide +kernel
theorem sqrt_u32_t1 : allTab sqrtU32OkT 512 ((RSQRT_TAB.drop 24).take 24) (512 * (32 + 24)) = true := by decide +kernel

end Dashu.Model.NT
