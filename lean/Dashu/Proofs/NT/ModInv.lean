import Dashu.Proofs.NT.Modular
import Mathlib.Data.Nat.ModEq
/-
  C13: the mirrored extended Euclid `invm` returns `some t` exactly when `gcd(x, m) = 1`, and then
  `t·x ≡ 1 (mod m)` with `t < m`.
-/
namespace Dashu.Model.NT
open Dashu.Model

theorem subm_lt {a b m : Nat} (hm : 0 < m) : subm a b m < m := by
  unfold subm
  split
  · exact Nat.mod_lt _ hm
  · simp only []
    split
    · exact hm
    · have := Nat.mod_lt (b - a) hm; omega

/-- `subm a b m ≡ a - b`, stated additively -/
theorem subm_modEq {a b m : Nat} (hm : 0 < m) : subm a b m + b ≡ a [MOD m] := by
  unfold subm Nat.ModEq
  split
  · rename_i h
    rw [Nat.mod_add_mod]; congr 1; omega
  · rename_i h
    simp only []
    have hd := Nat.div_add_mod (b - a) m
    have hx := Nat.mod_lt (b - a) hm
    generalize hq : (b - a) / m = q at hd
    generalize hxx : (b - a) % m = x at hd hx
    split
    · rename_i h0
      have : b = a + m * q := by omega
      rw [this, Nat.zero_add, Nat.add_mul_mod_self_left]
    · rename_i h0
      have : m - x + b = a + m * (q + 1) := by rw [Nat.mul_add]; omega
      rw [this, Nat.add_mul_mod_self_left]

theorem invmLoop_spec {m x : Nat} (hm : 0 < m) :
    ∀ (fuel lastR r lastT t : Nat), r < fuel →
      lastT * x ≡ lastR [MOD m] → t * x ≡ r [MOD m] → lastT < m → t < m →
      (invmLoop m fuel lastR r lastT t).1 = Nat.gcd lastR r ∧
      (invmLoop m fuel lastR r lastT t).2 * x ≡ Nat.gcd lastR r [MOD m] ∧
      (invmLoop m fuel lastR r lastT t).2 < m := by
  intro fuel
  induction fuel with
  | zero => intro lastR r lastT t h; omega
  | succ n ih =>
    intro lastR r lastT t hfuel h1 h2 hl ht
    unfold invmLoop
    split
    · rename_i hr
      subst hr
      simp only [Nat.gcd_zero_right]
      exact ⟨trivial, h1, hl⟩
    · rename_i hr
      simp only []
      have hrem : lastR % r < r := Nat.mod_lt _ (Nat.pos_of_ne_zero hr)
      have hg : Nat.gcd r (lastR % r) = Nat.gcd lastR r := by
        rw [Nat.gcd_comm lastR r, Nat.gcd_rec r lastR, Nat.gcd_comm]
      have hnew : subm lastT (lastR / r * t % m) m * x ≡ lastR % r [MOD m] := by
        -- (newT + q·t) ≡ lastT, so newT·x + q·r ≡ lastR = q·r + rem
        have e1 : subm lastT (lastR / r * t % m) m + lastR / r * t % m ≡ lastT [MOD m] := subm_modEq hm
        have e2 : lastR / r * t % m ≡ lastR / r * t [MOD m] := Nat.mod_modEq _ _
        have e3 : subm lastT (lastR / r * t % m) m + lastR / r * t ≡ lastT [MOD m] :=
          (Nat.ModEq.add_left _ e2.symm).trans e1
        have e4 : (subm lastT (lastR / r * t % m) m + lastR / r * t) * x ≡ lastR [MOD m] :=
          (e3.mul_right x).trans h1
        have e5 : lastR / r * t * x ≡ lastR / r * r [MOD m] := by
          rw [Nat.mul_assoc]; exact h2.mul_left _
        have e6 : subm lastT (lastR / r * t % m) m * x + lastR / r * r ≡ lastR % r + lastR / r * r [MOD m] := by
          have : lastR % r + lastR / r * r = lastR := by
            rw [Nat.mul_comm]; exact Nat.mod_add_div lastR r
          rw [this]
          rw [Nat.add_mul] at e4
          exact (Nat.ModEq.add_left _ e5.symm).trans e4
        exact Nat.ModEq.add_right_cancel' _ e6
      have := ih r (lastR % r) t (subm lastT (lastR / r * t % m) m) (by omega) h2 hnew ht (subm_lt hm)
      rw [hg] at this
      exact this

/-- the remainder-sequence argument: fuel `m + 1` suffices -/
theorem invm_spec {x m : Nat} (hm : 0 < m) :
    (∀ t, invm x m = some t → t * x ≡ 1 [MOD m] ∧ t < m) ∧
    ((invm x m).isSome ↔ Nat.gcd x m = 1) := by
  -- the reduced operand
  have hx' : ∃ x', x' < m ∧ x' ≡ x [MOD m] ∧ (if x ≥ m then x % m else x) = x' := by
    by_cases h : x ≥ m
    · exact ⟨x % m, Nat.mod_lt _ hm, Nat.mod_modEq _ _, by simp [h]⟩
    · exact ⟨x, by omega, Nat.ModEq.refl _, by simp [h]⟩
  obtain ⟨x', hlt, hcong, hdef⟩ := hx'
  have hgcd : Nat.gcd m x' = Nat.gcd x m := by
    rw [Nat.gcd_comm x m]
    have : x' = x % m := by
      have := hcong; unfold Nat.ModEq at this; rw [Nat.mod_eq_of_lt hlt] at this; exact this
    rw [this, Nat.gcd_comm m (x % m), ← Nat.gcd_rec]
  by_cases hm1 : m = 1
  · -- the ring with one element
    subst hm1
    have hx0 : x' = 0 := by omega
    have hinv : invm x 1 = some 0 := by
      unfold invm
      simp only [hdef, hx0]
      rfl
    refine ⟨?_, ?_⟩
    · intro t ht; rw [hinv] at ht; cases ht
      exact ⟨Nat.modEq_one, by decide⟩
    · rw [hinv]; simp
  · have hm2 : 1 < m := by omega
    have hs := invmLoop_spec (x := x') hm (m + 1) m x' 0 1 (by omega)
      (by simpa using (Nat.modEq_zero_iff_dvd.2 (Nat.dvd_refl m)).symm) (by simp [Nat.ModEq]) hm hm2
    rw [hgcd] at hs
    obtain ⟨h1, h2, h3⟩ := hs
    have hunf : invm x m = if (invmLoop m (m + 1) m x' 0 1).1 > 1 then none
        else some (invmLoop m (m + 1) m x' 0 1).2 := by
      unfold invm; simp only [hdef]
    have hgpos : 0 < Nat.gcd x m := Nat.gcd_pos_of_pos_right _ hm
    refine ⟨?_, ?_⟩
    · intro t ht
      rw [hunf] at ht
      split at ht
      · cases ht
      · rename_i hg
        cases ht
        have hg1 : Nat.gcd x m = 1 := by omega
        rw [hg1] at h2
        exact ⟨(h2.symm.trans (Nat.ModEq.mul_left _ hcong.symm).symm).symm.trans (Nat.ModEq.refl _) |>.symm |>.symm, h3⟩
    · rw [hunf, h1]
      split
      · rename_i hg; simp; omega
      · rename_i hg; simp; omega

theorem invm_zero {m : Nat} (hm : 1 < m) : invm 0 m = none := by
  refine Option.not_isSome_iff_eq_none.1 fun h => ?_
  have := (invm_spec (x := 0) (by omega)).2.1 h
  rw [Nat.gcd_zero_left] at this
  omega

/-- `Reduced::inv` on a pre-shifted residue is `invm` on the residue, in every ring (the `raw_len = 0` arm of
    `inv_large` returns `None` without asking: so does `invm`, a multi-word modulus being above 1) -/
theorem invRaw_eq {W : Nat} {r : Ring} (hwf : r.WF W) (u : Nat) :
    invRaw r (u * 2 ^ r.k) = (invm u r.m).map (· * 2 ^ r.k) := by
  unfold invRaw
  rw [Nat.mul_div_cancel _ (Nat.two_pow_pos _)]
  cases hk : r.kind with
  | large =>
    simp only []
    split
    · rename_i h0
      have := hwf.m_large hk
      have : 1 < 2 ^ (2 * W) := Nat.one_lt_two_pow (by have := hwf.hW; omega)
      rw [h0, invm_zero (by omega)]
      rfl
    · rfl
  | single => rfl
  | double => rfl

end Dashu.Model.NT
