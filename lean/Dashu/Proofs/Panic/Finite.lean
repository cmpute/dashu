import Dashu.Spec.Panics
/-
  C16: what "finite" means for a float argument `signif · base^exp` of `Dashu.Spec.Panics` (an infinity is `signif = 0`
  with a non-zero exponent).  Core Lean only: the hand-written guards (`Proofs/Panic/Guards`) and the regenerated ones
  (`Props/GenGuards`) both read their operands through it.
-/
namespace Dashu.Proofs.Panic
open Dashu.Spec.Panics

theorem finite_iff (a : FArg) : a.isInf = false ↔ (a.signif = 0 → a.exp = 0) := by
  unfold FArg.isInf
  simp only [decide_eq_false_iff_not, ne_eq, not_and, Classical.not_not]

end Dashu.Proofs.Panic
