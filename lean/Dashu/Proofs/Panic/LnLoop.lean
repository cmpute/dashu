import Dashu.Model.Panic.Loops
import Mathlib.Algebra.Order.Field.Rat
import Mathlib.Algebra.Order.Field.Basic
import Mathlib.Tactic.Linarith
import Mathlib.Tactic.Positivity
import Mathlib.Tactic.Ring
/-
  C16 (3b): the series loop of `ln_internal` (float/src/log.rs:289-300).

  The loop stops only through the magnitude test `|z^k / k| ≤ sub_ulp(sum)`.  The code guards the input with
  `assert_finite` and `assert_limited_precision` and NOTHING ELSE (the `debug_assert!(x_scaled >= 1)` exists in
  debug builds only).
    * For `x > 0` the scaling gives `1 ≤ x_scaled < 2`, hence `0 ≤ z < 1/3`, `z² ≤ 1/9`: the terms shrink by a
      factor 9 per iteration and the loop stops after logarithmically many iterations (`lnLoop_terminates`).
    * For `x < 0` the same scaling gives `-2 ≤ x_scaled < -1`, hence `z ≥ 2`: every term is at least 2 and the
      stopping test is never satisfied (`lnLoop_diverges`, `lnSeries_diverges`): the release build hangs — the
      finding recorded for C16; the missing guard is `x > 0`.
-/
namespace Dashu.Proofs.Panic
open Dashu.Model.Panic

/-- TERMINATION for `0 ≤ z² ≤ 1/9`: `n + 1` iterations suffice as soon as `pow ≤ 9^(n+1) · eps` -/
theorem lnLoop_terminates (z2 eps : Rat) (hz0 : 0 ≤ z2) (hz : z2 ≤ 1 / 9) (he : 0 < eps) :
    ∀ (n : Nat) (pow sum : Rat) (k : Nat), 0 ≤ pow → 1 ≤ k → pow ≤ 9 ^ (n + 1) * eps →
      lnLoop z2 eps (n + 1) pow sum k ≠ none := by
  intro n
  induction n with
  | zero =>
    intro pow sum k hp hk hb
    have hk' : (1 : Rat) ≤ (k : Rat) := by exact_mod_cast hk
    have hp' : 0 ≤ pow * z2 := mul_nonneg hp hz0
    have hb' : pow ≤ 9 * eps := by simpa using hb
    have hm : pow * z2 ≤ pow * (1 / 9) := mul_le_mul_of_nonneg_left hz hp
    have hinc : pow * z2 / (k : Rat) ≤ pow * z2 := div_le_self hp' hk'
    have hinc0 : 0 ≤ pow * z2 / (k : Rat) := div_nonneg hp' (by linarith)
    simp only [lnLoop]
    rw [if_pos ⟨by linarith, by linarith⟩]
    exact Option.some_ne_none _
  | succ n ih =>
    intro pow sum k hp hk hb
    have hm : pow * z2 ≤ pow * (1 / 9) := mul_le_mul_of_nonneg_left hz hp
    simp only [lnLoop]
    split
    · exact Option.some_ne_none _
    · exact ih (pow * z2) _ (k + 2) (mul_nonneg hp hz0) (by omega) (by rw [pow_succ] at hb; linarith)

/-- NON-TERMINATION for `z² ≥ 4`: with `k ≤ 2·pow` every term `pow·z²/k` is at least 2, and the invariant is
    preserved, so the magnitude test (against any `eps < 1`) never succeeds -/
theorem lnLoop_diverges (z2 eps : Rat) (hz : 4 ≤ z2) (he : eps < 1) :
    ∀ (fuel : Nat) (pow sum : Rat) (k : Nat), 1 ≤ k → (k : Rat) ≤ 2 * pow →
      lnLoop z2 eps fuel pow sum k = none := by
  intro fuel
  induction fuel with
  | zero => intro pow sum k _ _; rfl
  | succ n ih =>
    intro pow sum k hk hb
    have hk' : (1 : Rat) ≤ (k : Rat) := by exact_mod_cast hk
    have hkpos : (0 : Rat) < (k : Rat) := by linarith
    have hpow : 0 < pow := by linarith
    have h2k : 2 * (k : Rat) ≤ pow * z2 := by
      have : pow * 4 ≤ pow * z2 := mul_le_mul_of_nonneg_left hz hpow.le
      linarith
    have hinc : 2 ≤ pow * z2 / (k : Rat) := by
      rw [le_div_iff₀ hkpos]; linarith
    simp only [lnLoop]
    have hno : ¬ (pow * z2 / (k : Rat) ≤ eps ∧ -(pow * z2 / (k : Rat)) ≤ eps) := by
      intro h; linarith [h.1]
    simp only [hno, if_false]
    apply ih _ _ (k + 2) (by omega)
    push_cast
    linarith

/-- negative input (the guard the code does not have): after the same scaling `-2 ≤ x_scaled < -1`, the stopping
    test is never satisfied — for EVERY amount of fuel the loop is still running -/
theorem lnSeries_diverges (x eps : Rat) (h1 : -2 ≤ x) (h2 : x < -1) (he : eps < 1) :
    ∀ fuel, lnSeries x eps fuel = none := by
  intro fuel
  unfold lnSeries
  have hx1 : x + 1 < 0 := by linarith
  have hz : 2 ≤ (x - 1) / (x + 1) := by
    rw [le_div_iff_of_neg hx1]; linarith
  apply lnLoop_diverges _ eps _ he fuel _ _ 3 (by omega)
  · push_cast; linarith
  · calc (4 : Rat) = 2 * 2 := by norm_num
      _ ≤ (x - 1) / (x + 1) * ((x - 1) / (x + 1)) := mul_le_mul hz hz (by norm_num) (by linarith)

end Dashu.Proofs.Panic
