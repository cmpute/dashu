import Dashu.Proofs.Panic.AllocGuards
import Dashu.Model.Panic.Guards5
import Dashu.Proofs.Gen.MaxExp
/-
  C16: lemmas for the size reservations of pow / from_chunks and for the folds (theorems in `Dashu.Props.C16`).
  The reservations are UPPER BOUNDS of the result size, so what holds between them and the documentation is
    (S1) documented AllocTooMuch  →  the reservation is refused (with AllocTooMuch), and
    (S2) reservation refused      →  the documentation does not say `returns`
  (the code never hangs or computes where the result cannot exist, and never refuses a result that fits) — plus
  counterexamples showing that the converse of (S1) fails (recorded findings pow_dword_estimate,
  from_chunks_size_arithmetic) and that a base of ≥ 3 words has no reservation at all (pow_large_base_no_precheck).
-/
namespace Dashu.Proofs.Panic
open Dashu.Spec.Panics Dashu.Model.Panic

-- ------------------------------------------------------------------ arithmetic helpers

theorem pow_bitLen_le (n : Nat) (h : n ≠ 0) : 2 ^ (bitLen n - 1) ≤ n := Gen.two_pow_blen_le h

theorem alloc_returns (W bits : Nat) (h : alloc W bits = .returns) : bits ≤ memLoBits := by
  unfold alloc at h
  split at h
  · cases h
  · split at h
    · cases h
    · split at h
      · assumption
      · cases h

theorem allocRange_atm (W lo hi : Nat) (h : allocRange W lo hi = .panics .allocTooMuch) :
    alloc W lo = .panics .allocTooMuch := by
  unfold allocRange at h
  split at h
  · exact h
  · cases h

theorem allocRange_returns (W lo hi : Nat) (h : allocRange W lo hi = .returns) : alloc W lo = .returns := by
  unfold allocRange at h
  split at h
  · exact h
  · cases h

-- ------------------------------------------------------------------ max_exp_in_word

/-- `max_exp_in_word(base) = (k, base^k)` with `base^k ≤ Word::MAX` and `k ≥ 1`, for `2 ≤ base ≤ Word::MAX` -/
theorem maxExpInWord_spec (W base : Nat) (hb : 2 ≤ base) (hW : base < 2 ^ W) :
    (maxExpInWord W base).2 = base ^ (maxExpInWord W base).1 ∧ (maxExpInWord W base).2 < 2 ^ W ∧
    1 ≤ (maxExpInWord W base).1 :=
  have h := Dashu.Proofs.Gen.maxExpInWord_spec (loop := maxExpLoop W base) (fun _ _ => rfl) (fun _ _ _ => rfl) hb hW
  ⟨h.1, h.2.1, h.2.2.1⟩

/-- the exponent that fits a word times the bit length of the base minus one stays below the word size -/
theorem maxExp_mul_lt (W base : Nat) (hb : 2 ≤ base) (hW : base < 2 ^ W) :
    (bitLen base - 1) * (maxExpInWord W base).1 < W := by
  have hs := maxExpInWord_spec W base hb hW
  have h1 : 2 ^ (bitLen base - 1) ≤ base := pow_bitLen_le base (by omega)
  have h2 : (2 ^ (bitLen base - 1)) ^ (maxExpInWord W base).1 ≤ base ^ (maxExpInWord W base).1 :=
    Nat.pow_le_pow_left h1 _
  rw [← Nat.pow_mul] at h2
  have h3 : 2 ^ ((bitLen base - 1) * (maxExpInWord W base).1) < 2 ^ W := by
    rw [← hs.1] at h2; omega
  exact (Nat.pow_lt_pow_iff_right (by decide)).mp h3

-- ------------------------------------------------------------------ pow: word base

/-- (S1), arithmetic core: `k·wexp < 64` and a lower bound `k·e + 1` bits of the result beyond MAX_CAPACITY words
    force the reservation `e / wexp + 1` beyond MAX_CAPACITY -/
theorem word_request_exceeds (k wexp e : Nat) (hk : 1 ≤ k) (hw : 1 ≤ wexp) (hkw : k * wexp < 64)
    (hdoc : (k * e + 1 + 64 - 1) / 64 > 288230376151711743) :
    ¬ (e < 2 * wexp) ∧ e / wexp + 1 > 288230376151711743 := by
  have h1 : 64 * 288230376151711743 ≤ k * e := by omega
  have h2 : 288230376151711743 * wexp ≤ e := by
    apply Nat.le_of_not_lt
    intro hlt
    have h3 : k * e < k * (288230376151711743 * wexp) := Nat.mul_lt_mul_of_pos_left hlt (by omega)
    have h4 : k * (288230376151711743 * wexp) = 288230376151711743 * (k * wexp) := by
      rw [Nat.mul_left_comm]
    have h5 : 288230376151711743 * (k * wexp) ≤ 288230376151711743 * 63 := Nat.mul_le_mul_left _ (by omega)
    omega
  have h6 : 288230376151711743 ≤ e / wexp := (Nat.le_div_iff_mul_le (by omega)).mpr h2
  constructor
  · intro hlt
    have : 2 * wexp ≤ 288230376151711743 * wexp := Nat.mul_le_mul_right _ (by decide)
    omega
  · omega

theorem tz2_odd (n : Nat) (h : n % 2 = 1) : tz2 n = 0 := by
  unfold tz2 tz2Aux
  have : ¬ (n % 2 = 0 ∧ n ≠ 0) := by omega
  simp [this]

theorem powVerdict_atm_cases (W mag e : Nat) (hodd : mag >>> tz2 mag ≠ 1)
    (h : powVerdict W mag e = .panics .allocTooMuch) :
    alloc W ((bitLen (mag >>> tz2 mag) - 1) * e + 1) = .panics .allocTooMuch ∨
    alloc W ((bitLen (mag >>> tz2 mag) - 1) * e + 1 + tz2 mag * e) = .panics .allocTooMuch := by
  unfold powVerdict at h
  split at h
  · cases h
  · simp only [hodd, if_false] at h
    split at h
    · exact Or.inr (allocRange_atm _ _ _ h)
    · exact Or.inl (allocRange_atm _ _ _ h)

theorem powVerdict_returns_lo (W mag e : Nat) (hm : ¬ (mag ≤ 1 ∨ e ≤ 1)) (hodd : mag >>> tz2 mag ≠ 1)
    (h : powVerdict W mag e = .returns) :
    alloc W ((bitLen (mag >>> tz2 mag) - 1) * e + 1) = .returns := by
  unfold powVerdict at h
  simp only [hm, hodd, if_false] at h
  split at h
  · rename_i h1; exact allocRange_returns _ _ _ h1
  · exact allocRange_returns _ _ _ h

theorem verdict_uPow (W x e : Nat) :
    verdict W .uPow [.int x, .dec e] = some (powVerdict W x e) := by
  have hn : ¬ ((x:Int) < 0 ∨ (e:Int) < 0) := by omega
  dsimp only [verdict]
  rw [if_neg hn, Int.toNat_natCast, Int.natAbs_natCast]

theorem bitLen_ge (x k : Nat) (h : 2 ^ k ≤ x) : k + 1 ≤ bitLen x := Gen.lt_blen_iff.2 h

/-- documentation side for an odd base `b ≥ 3`, `e > 2`: the lower bound `(L−1)·e + 1` bits of the result decides both
    AllocTooMuch (more than MAX_CAPACITY words) and `returns` (at most `memLoBits`) -/
theorem pow_odd_doc (b e : Nat) (hb3 : 3 ≤ b) (hodd : b % 2 = 1) (he : 2 < e) :
    (documented 64 .uPow [.int b, .dec e] = some .allocTooMuch →
      ((bitLen b - 1) * e + 1 + 64 - 1) / 64 > 288230376151711743) ∧
    (verdict 64 .uPow [.int b, .dec e] = some .returns → (bitLen b - 1) * e + 1 ≤ 1073741824) := by
  have hz := tz2_odd b hodd
  have hsh : b >>> tz2 b = b := by rw [hz]; rfl
  have hne : b >>> tz2 b ≠ 1 := by rw [hsh]; omega
  rw [documented_iff, verdict_uPow, Option.some.injEq, Option.some.injEq]
  constructor
  · intro hdoc
    have hc := powVerdict_atm_cases 64 b e hne hdoc
    rwa [hsh, hz, Nat.zero_mul, Nat.add_zero, or_self, alloc_atm, maxCap64] at hc
  · intro hr
    have hlo := alloc_returns _ _ (powVerdict_returns_lo 64 b e (by omega) hne hr)
    rwa [hsh] at hlo

/-- guard side: an odd base is its own odd part, and the reservation is refused iff the request exceeds MAX_CAPACITY -/
theorem guardPowOdd_atm (b e : Nat) (hodd : b % 2 = 1) (r : Option Nat) (hr : typedPowRequest 64 b e = r) :
    guardPowOdd 64 b e = .error .allocTooMuch ↔ ∃ n, r = some n ∧ n > 288230376151711743 := by
  have hsh : b >>> tz2 b = b := by rw [tz2_odd b hodd]; rfl
  unfold guardPowOdd
  rw [hsh, hr]
  cases r with
  | none => simp [guardRequest]
  | some n => simp [guardRequest, guardAllocWords_atm, maxCap64]

theorem typedPowRequest_word (b e : Nat) (hb3 : 3 ≤ b) (hbW : b < 2 ^ 64) (he : 2 < e) :
    typedPowRequest 64 b e = powWordRequest 64 b e := by
  unfold typedPowRequest
  rw [if_neg (by omega), if_pos hbW, if_neg (by omega)]

theorem typedPowRequest_dword (b e : Nat) (hlo : 2 ^ 64 ≤ b) (hhi : b < 2 ^ 128) (he : 2 < e) :
    typedPowRequest 64 b e = some (2 * e) := by
  unfold typedPowRequest
  rw [if_neg (by omega), if_neg (by omega), if_pos hhi]
  rfl

-- ------------------------------------------------------------------ from_chunks

theorem foldl_max_ge_init (l : List Nat) : ∀ a, a ≤ l.foldl max a := by
  induction l with
  | nil => intro a; exact Nat.le_refl _
  | cons x r ih => intro a; exact Nat.le_trans (Nat.le_max_left a x) (ih (max a x))

theorem foldl_max_mono (l : List Nat) : ∀ a b, a ≤ b → l.foldl max a ≤ l.foldl max b := by
  induction l with
  | nil => intro a b h; exact h
  | cons x r ih => intro a b h; exact ih _ _ (by omega)

theorem foldl_max_ge_mem (l : List Nat) : ∀ a x, x ∈ l → x ≤ l.foldl max a := by
  induction l with
  | nil => intro a x h; cases h
  | cons y r ih =>
    intro a x h
    rcases List.mem_cons.mp h with h | h
    · subst h; exact Nat.le_trans (Nat.le_max_right a x) (foldl_max_ge_init r _)
    · exact ih _ _ h

theorem bitLen_le_wordLen (n : Nat) : bitLen n ≤ 64 * wordLen 64 n :=
  Dashu.Proofs.Gen.le_mul_ceil (by decide) _

/-- chunk `j` of the list starts at bit `k·(i+j)`: the total is at least `k·(i + len − 1)` and at most that plus the
    longest chunk -/
theorem chunksBits_bounds (k m : Nat) : ∀ (l : List Int) (i : Nat), l ≠ [] →
    k * (i + l.length - 1) ≤ chunksBits k i l ∧
    ((∀ c ∈ l, wordLen 64 c.natAbs ≤ m) → chunksBits k i l ≤ k * (i + l.length - 1) + 64 * m) := by
  intro l
  induction l with
  | nil => intro i h; exact absurd rfl h
  | cons c r ih =>
    intro i _
    have hc : (∀ c' ∈ c :: r, wordLen 64 c'.natAbs ≤ m) → bitLen c.natAbs ≤ 64 * m := fun hm =>
      Nat.le_trans (bitLen_le_wordLen _) (Nat.mul_le_mul_left _ (hm c (List.mem_cons_self ..)))
    unfold chunksBits
    by_cases hr : r = []
    · subst hr
      simp only [chunksBits, List.length_singleton, Nat.add_sub_cancel, Nat.max_zero]
      exact ⟨by omega, fun hm => by have := hc hm; omega⟩
    · obtain ⟨ihl, ihu⟩ := ih (i + 1) hr
      have hlen : i + 1 + r.length - 1 = i + (c :: r).length - 1 := by rw [List.length_cons]; omega
      rw [hlen] at ihl ihu
      have hki : k * i ≤ k * (i + (c :: r).length - 1) := Nat.mul_le_mul_left _ (by simp)
      refine ⟨by omega, fun hm => ?_⟩
      have := hc hm
      have := ihu fun c' hc' => hm c' (List.mem_cons_of_mem _ hc')
      omega

theorem verdict_uFromChunks (W k : Nat) (l : List Nat) (hk : k ≠ 0) :
    verdict W .uFromChunks (.dec k :: l.map (fun (c : Nat) => Arg.int (c : Int))) =
      some (alloc W (chunksBits k 0 (l.map (fun (c : Nat) => (c : Int))))) := by
  have ha : ∀ l : List Nat, allInts (l.map (fun (c : Nat) => Arg.int (c : Int))) = some (l.map (fun (c : Nat) => (c : Int))) := by
    intro l; induction l with
    | nil => rfl
    | cons c r ih => simp [allInts, ih]
  dsimp only [verdict]
  rw [ha]
  have hn : ¬ ((k:Int) < 0 ∨ (l.map (fun (c : Nat) => (c : Int))).any (· < 0) = true) := by
    intro h
    rcases h with h | h
    · omega
    · simp at h
      obtain ⟨x, _, hx⟩ := h
      omega
  have hk' : ¬ ((k:Int) = 0) := by omega
  simp only [hn, hk', if_false, Int.toNat_natCast]

theorem fromChunks_words_le (k : Nat) (l : List Nat) (hl : l ≠ []) :
    (chunksBits k 0 (l.map (fun (c : Nat) => (c : Int))) + 64 - 1) / 64 < fromChunksLen 64 k l := by
  have hne : l.map (fun (c : Nat) => (c : Int)) ≠ [] := by simpa using hl
  have hm : ∀ c ∈ l.map (fun (c : Nat) => (c : Int)), wordLen 64 c.natAbs ≤ (l.map (wordLen 64)).foldl max 0 := by
    intro c hc
    rcases List.mem_map.mp hc with ⟨n, hn, rfl⟩
    rw [Int.natAbs_natCast]
    exact foldl_max_ge_mem _ 0 _ (List.mem_map.mpr ⟨n, hn, rfl⟩)
  have h := (chunksBits_bounds k _ (l.map (fun (c : Nat) => (c : Int))) 0 hne).2 hm
  unfold fromChunksLen
  rw [List.length_map, Nat.zero_add] at h
  rw [Nat.mul_comm (l.length - 1) k]
  generalize k * (l.length - 1) = X at *
  generalize (l.map (wordLen 64)).foldl max 0 = Y at *
  omega

-- ------------------------------------------------------------------ folds

theorem allFlts_map (l : List FArg) : allFlts (l.map Arg.flt) = some l := by
  induction l with
  | nil => rfl
  | cons a r ih => simp [allFlts, ih]

/-- the fold stops at the first infinite element -/
theorem failKind_guardFFold (l : List FArg) :
    failKind (guardFFold l) = if l.any (·.isInf) then some .infinite else none := by
  induction l with
  | nil => rfl
  | cons a r ih =>
    unfold guardFFold assertFinite
    rw [List.any_cons]
    exact (failKind_bind _ _ _ fun _ => ih).trans (by cases a.isInf <;> rfl)

end Dashu.Proofs.Panic
