import Dashu.Proofs.Panic.Guards
import Dashu.Proofs.Gen.BitLen
/-
  C16: the ALLOCATION guards.  Since fixes 52b4fc5 / ada6bea `Buffer::allocate(n)` and `Buffer::reallocate(n)`
  panic with AllocTooMuch iff `n > MAX_CAPACITY`.  The documentation's rule is about the RESULT: more than
  `MAX_CAPACITY` words.  These theorems relate the number of words the code REQUESTS (mirrored in
  `onesRequest / setBitRequest / shlRequest`) to the result size, for 64-bit words: the request exceeds the result
  by at most 2 words, so the guard fires iff the documentation says AllocTooMuch — except in the band of at most
  two word counts right below `MAX_CAPACITY` (hypothesis `hband`; there the code reports AllocTooMuch for a result
  that would merely be out of memory).
-/
namespace Dashu.Proofs.Panic
open Dashu.Spec.Panics Dashu.Model.Panic

theorem maxCap64 : maxCapacity 64 = 288230376151711743 := by decide

theorem alloc_atm (W bits : Nat) :
    alloc W bits = .panics .allocTooMuch ↔ (bits + W - 1) / W > maxCapacity W := by
  unfold alloc
  by_cases h : (bits + W - 1) / W > maxCapacity W
  · simp [h]
  · simp only [h, if_false, iff_false]
    split
    · simp
    · split <;> simp

theorem guardAllocWords_atm (W r : Nat) :
    guardAllocWords W r = .error .allocTooMuch ↔ r > maxCapacity W := by
  unfold guardAllocWords
  by_cases h : r > maxCapacity W <;> simp [h]

/-- a request is refused iff it is a number of words above `MAX_CAPACITY` (no request counts as 0 words) -/
theorem guardRequest_atm (r : Option Nat) :
    guardRequest 64 r = .error .allocTooMuch ↔ r.getD 0 > 288230376151711743 := by
  cases r with
  | none => simp [guardRequest]
  | some n => simp [guardRequest, guardAllocWords_atm, maxCap64]

theorem bitLen_pos (x : Nat) (h : x ≠ 0) : 1 ≤ bitLen x := Gen.blen_pos h

theorem bitLen_le (x k : Nat) (h : x < 2 ^ k) : bitLen x ≤ k := Gen.blen_le_iff.2 h

/-- `UBig << n` / `IBig << n` (`x ≠ 0`): outside the band of two word counts below `MAX_CAPACITY` -/
theorem shl_alloc_guard (x n : Nat) (hx0 : x ≠ 0)
    (hband : (bitLen x + n + 63) / 64 + 2 ≤ maxCapacity 64 ∨ (bitLen x + n + 63) / 64 > maxCapacity 64) :
    guardRequest 64 (shlRequest 64 x n) = .error .allocTooMuch ↔
      documented 64 .uShl [.int x, .dec n] = some .allocTooMuch := by
  have hn : ¬ ((x:Int) < 0 ∨ (n:Int) < 0) := by omega
  have hx0' : ¬ ((x:Int) = 0) := by omega
  rw [documented_iff]
  dsimp only [verdict]
  rw [if_neg hn, if_neg hx0', Int.toNat_natCast, Int.natAbs_natCast, Option.some.injEq, alloc_atm]
  rw [maxCap64] at *
  have hL1 := bitLen_pos x hx0
  rw [guardRequest_atm]
  unfold shlRequest isSmall
  by_cases hs : x < 2 ^ (2 * 64)
  · have hL := bitLen_le x (2 * 64) hs
    simp only [hs, decide_true, if_true]
    split
    · rw [Option.getD_none]; omega
    · split
      · rename_i h1
        have : bitLen x = 1 := by subst h1; decide
        rw [Option.getD_some]; omega
      · rw [Option.getD_some]; omega
  · simp only [hs, decide_false, Bool.false_eq_true, if_false]
    rw [Option.getD_some]; omega

end Dashu.Proofs.Panic
