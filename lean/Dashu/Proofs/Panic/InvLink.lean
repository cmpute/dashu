import Dashu.Proofs.Panic.AllocGuards
import Dashu.Props.C13
/-
  C16 — link theorem: the `NonInvertible` guard of `Reduced ÷ Reduced` (C16 takes `inv()` at its
  specification "Some iff gcd(residue, modulus) = 1") decides exactly what C13's MODELLED `inv` / `div`
  (extended-gcd kernels, proved in Props/C13 `inv_spec`, `div_spec`) do — for every word size, every modulus
  (single / double / multi-word ring), every operand.
-/
namespace Dashu.Proofs.Panic.InvLink
open Dashu.Model Dashu.Model.Panic Dashu.Model.NT Dashu.Spec.Panics

theorem ring_new_m {W id m : Nat} {r : Ring} (h : Ring.new W id m = .ok r) : r.m = m ∧ m ≠ 0 := by
  unfold Ring.new at h
  split at h
  · cases h
  rename_i hm
  split at h
  · cases h; exact ⟨rfl, hm⟩
  split at h
  · cases h; exact ⟨rfl, hm⟩
  · cases h; exact ⟨rfl, hm⟩

theorem natAbs_emod_eq_res (m : Nat) (hm : m ≠ 0) (b : Int) : (b % (m : Int)).natAbs = res m b := by
  unfold res
  have h0 : 0 ≤ b % (m : Int) := Int.emod_nonneg _ (by omega)
  omega

theorem guardCdNew_ok (W m : Nat) (hm : m ≠ 0) : guardCdNew W m = .ok () := by
  rw [guardCdNew_eq, if_neg hm]

theorem guardCdNew_zero (W : Nat) : guardCdNew W 0 = .error .divideByZero := by
  rw [guardCdNew_eq, if_pos rfl]

theorem guardMSame_div_eq (W m : Nat) (hm : m ≠ 0) (b : Int) :
    guardMSame W "div" m b = (if Nat.gcd (res m b) m = 1 then .ok () else .error .nonInvertible) := by
  unfold guardMSame
  rw [guardCdNew_ok W m hm, natAbs_emod_eq_res m hm b]
  rfl

/-- the constructor half: the guard reports DivideByZero exactly when C13's `ConstDivisor::new` does -/
theorem ctor_link (W id m : Nat) (f : String) (b : Int) :
    guardMSame W f m b = .error .divideByZero ↔ Ring.new W id m = .error .divideByZero := by
  by_cases hm : m = 0
  · subst hm
    constructor
    · intro _; simp [Ring.new]
    · intro _; unfold guardMSame; rw [guardCdNew_zero]; rfl
  · constructor
    · intro h
      unfold guardMSame at h
      rw [guardCdNew_ok W m hm] at h
      simp only [bind, Except.bind] at h
      split at h
      · split at h <;> cases h
      · cases h
    · intro h
      unfold Ring.new at h
      rw [if_neg hm] at h
      split at h
      · cases h
      split at h <;> cases h

/-- the `inv` half: guard passes ⇔ the modelled `inv()` returns `Some`;
    guard says NonInvertible ⇔ the modelled `/` ends in `NonInvertible` (whatever the dividend) -/
theorem inv_link (W id m : Nat) (hW : 0 < W) (r : Ring) (hr : Ring.new W id m = .ok r) (x b : Int) :
    (guardMSame W "div" m b = .ok () ↔ ((reduceInt W r b).inv).isSome) ∧
    (guardMSame W "div" m b = .error .nonInvertible ↔
        (reduceInt W r x).div W (reduceInt W r b) = .error .nonInvertible) ∧
    (guardMSame W "div" m b = .ok () ↔ ∃ q, (reduceInt W r x).div W (reduceInt W r b) = .ok q) := by
  have hwf := Ring.new_wf hW hr
  obtain ⟨hrm, hm⟩ := ring_new_m hr
  have hinv := (Dashu.Props.C13.inv_spec W r hwf b).1
  obtain ⟨hd1, hd2⟩ := Dashu.Props.C13.div_spec W r hwf x b
  rw [hrm] at hinv hd1 hd2
  rw [guardMSame_div_eq W m hm b]
  by_cases hg : Nat.gcd (res m b) m = 1
  · rw [if_pos hg]
    obtain ⟨q, hq, _⟩ := hd2 hg
    refine ⟨⟨fun _ => hinv.2 hg, fun _ => rfl⟩, ⟨(fun h => by cases h), fun h => ?_⟩, ⟨fun _ => ⟨q, hq⟩, fun _ => rfl⟩⟩
    rw [hq] at h; cases h
  · rw [if_neg hg]
    have hd := hd1 hg
    refine ⟨⟨(fun h => by cases h), fun h => absurd (hinv.1 h) hg⟩, ⟨fun _ => hd, fun _ => rfl⟩,
      ⟨(fun h => by cases h), fun ⟨q, hq⟩ => ?_⟩⟩
    rw [hd] at hq; cases hq

/-- guard passes ⇔ the documentation names no panic (from the `∀ k` equivalence `guardMSame_iff`) -/
theorem guardMSame_ok_iff (W : Nat) (f : String) (m : Nat) (x b : Int)
    (hf : f ∈ ["add", "sub", "mul", "div", "eq"]) (hm : m ≠ 1) :
    guardMSame W f m b = .ok () ↔ documented W .mSame [.fn f, .int m, .int x, .int b] = none := by
  have key := fun k => Dashu.Proofs.Panic.guardMSame_iff W f m x b k hf hm
  constructor
  · intro h
    cases hdoc : documented W .mSame [.fn f, .int m, .int x, .int b] with
    | none => rfl
    | some k => have := (key k).2 hdoc; rw [h] at this; cases this
  · intro h
    cases hg : guardMSame W f m b with
    | ok u => rfl
    | error k => have := (key k).1 hg; rw [h] at this; cases this

/-- documentation ⇔ C13's modelled code, for `Reduced ÷ Reduced` in one ring of any size (modulus ≠ 1):
    the rustdoc names `NonInvertible` exactly when the modelled `/` (extended-gcd `inv` kernels, then `mul`) ends in
    `NonInvertible`; it names no panic exactly when the modelled `/` returns a value; it names `DivideByZero`
    exactly when the modelled constructor refuses the modulus. -/
theorem documented_div_link (W id m : Nat) (hW : 0 < W) (hm1 : m ≠ 1) (x b : Int) :
    (documented W .mSame [.fn "div", .int m, .int x, .int b] = some .divideByZero ↔
        Ring.new W id m = .error .divideByZero) ∧
    (∀ r, Ring.new W id m = .ok r →
      (documented W .mSame [.fn "div", .int m, .int x, .int b] = some .nonInvertible ↔
          (reduceInt W r x).div W (reduceInt W r b) = .error .nonInvertible) ∧
      (documented W .mSame [.fn "div", .int m, .int x, .int b] = none ↔
          ∃ q, (reduceInt W r x).div W (reduceInt W r b) = .ok q)) := by
  have hf : "div" ∈ ["add", "sub", "mul", "div", "eq"] := by decide
  refine ⟨?_, fun r hr => ?_⟩
  · rw [← Dashu.Proofs.Panic.guardMSame_iff W "div" m x b _ hf hm1]; exact ctor_link W id m "div" b
  · obtain ⟨_, h2, h3⟩ := inv_link W id m hW r hr x b
    exact ⟨by rw [← Dashu.Proofs.Panic.guardMSame_iff W "div" m x b _ hf hm1]; exact h2,
           by rw [← guardMSame_ok_iff W "div" m x b hf hm1]; exact h3⟩

/-- non-vacuity (single-word ring, 12 | gcd 3): the documentation names NonInvertible, hence the modelled `/` panics so -/
example : ∃ r, Ring.new 64 0 12 = .ok r ∧
    (reduceInt 64 r 5).div 64 (reduceInt 64 r 3) = .error .nonInvertible :=
  ⟨_, rfl, ((documented_div_link 64 0 12 (by decide) (by decide) 5 3).2 _ rfl).1.1 (by decide +kernel)⟩
/-- non-vacuity (3-word ring 2^190+7, divisor 3 coprime): no panic documented, hence the modelled `/` returns -/
example : ∃ r, Ring.new 64 0 (2 ^ 190 + 7) = .ok r ∧ r.kind = .large ∧
    ∃ q, (reduceInt 64 r (-5)).div 64 (reduceInt 64 r 3) = .ok q :=
  ⟨_, rfl, rfl, ((documented_div_link 64 0 (2 ^ 190 + 7) (by decide) (by decide) (-5) 3).2 _ rfl).2.1 (by decide +kernel)⟩
/-- non-vacuity (modulus 0): DivideByZero on both sides -/
example : Ring.new 64 0 0 = .error .divideByZero ∧
    documented 64 .mSame [.fn "div", .int (0 : Nat), .int 5, .int 3] = some .divideByZero :=
  ⟨rfl, (documented_div_link 64 0 0 (by decide) (by decide) 5 3).1.2 rfl⟩

end Dashu.Proofs.Panic.InvLink
