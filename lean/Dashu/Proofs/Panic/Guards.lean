import Dashu.Model.Panic.Guards
import Dashu.Proofs.Panic.Finite
import Dashu.Model.Panic.GuardsMore
import Dashu.Model.Panic.GuardsMore3
import Dashu.Model.Int.Repr
import Mathlib.Tactic.Linarith
/-
  C16 (2): the lemmas by which `Dashu.Props.C16` compares an entry guard mirrored from the code with the documentation.
  Both sides are read as a kind (`failKind` of the guard, `kindOf` of the documented verdict: `iff_documented`) and compared
  test by test (`failKind_bind`, `failKind_ite`, `failKind_one` against `kindOf_cons` / `doc_form`); the guards of the
  integer dispatch are given as equations.
-/
namespace Dashu.Proofs.Panic
open Dashu.Spec.Panics Dashu.Model.Panic

-- ------------------------------------------------------------------ (1) the transcription only names documented kinds

theorem kind_mem_all (k : Kind) : k ∈ Kind.all := by
  cases k <;> simp [Kind.all]

theorem kind_name_injective : ∀ a b : Kind, a.name = b.name → a = b := by
  intro a b; cases a <;> cases b <;> simp [Kind.name]

/-- the kinds shared with the integer model's `PanicKind` print identically -/
def Kind.toPanicKind? : Kind → Option Dashu.Model.PanicKind
  | .divideByZero => some .divideByZero | .negativeUBig => some .negativeUBig | .gcdZeroZero => some .gcdZeroZero
  | .rootZeroth => some .rootZeroth | .rootNegative => some .rootNegative | .logInvalid => some .logInvalid
  | .infinite => some .infinite | .unlimitedPrecision => some .unlimitedPrecision | .invalidRadix => some .invalidRadix
  | .allocTooMuch => some .allocTooMuch | .differentRings => some .differentRings | .nonInvertible => some .nonInvertible
  | .powNegativeBase => some .powNegativeBase
  | _ => none

-- ------------------------------------------------------------------ (2) guards ↔ documentation

theorem documented_iff (W : Nat) (op : Op) (args : List Arg) (k : Kind) :
    documented W op args = some k ↔ verdict W op args = some (.panics k) := by
  unfold documented
  split <;> simp_all

theorem firstOf_one (c : Bool) (k0 k : Kind) : firstOf [(c, k0)] = .panics k ↔ (c = true ∧ k0 = k) := by
  cases c <;> simp [firstOf]

-- ---- both sides as a kind: a guard fails with a kind or passes, the documentation names a kind or none

/-- the kind a guard fails with -/
def failKind : G → Option Kind
  | .error k => some k
  | .ok _ => none

/-- the kind a verdict names (`documented` is this function of `verdict`) -/
def kindOf : Option Verdict → Option Kind
  | some (.panics k) => some k
  | _ => none

theorem documented_eq (W : Nat) (op : Op) (args : List Arg) : documented W op args = kindOf (verdict W op args) := by
  unfold documented kindOf
  rfl

/-- guard = documentation, for all kinds at once: the guard fails with the kind the documented verdict names -/
theorem iff_documented {g : G} {W : Nat} {op : Op} {args : List Arg} (h : failKind g = kindOf (verdict W op args))
    (k : Kind) : g = .error k ↔ documented W op args = some k := by
  rw [documented_eq, ← h]
  cases g <;> simp [failKind]

theorem failKind_test (c : Prop) {_ : Decidable c} (k0 : Kind) :
    failKind (if c then .error k0 else .ok ()) = if c then some k0 else none := by
  split <;> rfl

/-- a test followed by further guards `g` in an `if … else` chain: once the test passes, `g` is compared with the rest `o` -/
theorem failKind_ite (c : Prop) {_ : Decidable c} (k0 : Kind) (g : G) {o : Option Kind} (h : ¬ c → failKind g = o) :
    failKind (if c then .error k0 else g) = if c then some k0 else o := by
  by_cases hc : c
  · rw [if_pos hc, if_pos hc]; rfl
  · rw [if_neg hc, if_neg hc, h hc]

/-- the same where the code runs the test as a statement of its own (`assert_…(x); g`) -/
theorem failKind_bind (c : Prop) {_ : Decidable c} (k0 : Kind) (g : G) {o : Option Kind} (h : ¬ c → failKind g = o) :
    failKind ((if c then (.error k0 : G) else .ok ()) >>= fun _ => g) = if c then some k0 else o := by
  by_cases hc : c
  · rw [if_pos hc, if_pos hc]; rfl
  · rw [if_neg hc, if_neg hc, ← h hc]; rfl

/-- a shortcut that returns before a test it excludes changes nothing -/
theorem ok_shortcut (s c : Prop) [Decidable s] [Decidable c] (k0 : Kind) (h : s → ¬ c) :
    (if s then (.ok () : G) else if c then .error k0 else .ok ()) = if c then .error k0 else .ok () := by
  by_cases hs : s
  · simp [hs, h hs]
  · simp [hs]

theorem kindOf_cons (c : Bool) (k0 : Kind) (r : List (Bool × Kind)) :
    kindOf (some (firstOf ((c, k0) :: r))) = if c then some k0 else kindOf (some (firstOf r)) := by
  cases c <;> rfl

theorem kindOf_nil : kindOf (some (firstOf [])) = none := rfl

theorem kindOf_ite (c : Prop) {_ : Decidable c} (x y : Option Verdict) :
    kindOf (if c then x else y) = if c then kindOf x else kindOf y := by
  split <;> rfl

theorem kindOf_some_ite (c : Prop) {_ : Decidable c} (u v : Verdict) :
    kindOf (some (if c then u else v)) = if c then kindOf (some u) else kindOf (some v) := by
  split <;> rfl

theorem kindOf_panics (k : Kind) : kindOf (some (.panics k)) = some k := rfl
theorem kindOf_returns : kindOf (some .returns) = none := rfl
theorem kindOf_unspecified : kindOf (some .unspecified) = none := rfl
theorem kindOf_none : kindOf none = none := rfl

/-- a guard that is one test, against a documentation that lists one condition `b` saying the same -/
theorem failKind_one (c : Prop) {_ : Decidable c} (b : Bool) (k0 : Kind) (h : c ↔ b = true) :
    failKind (if c then .error k0 else .ok ()) = kindOf (some (firstOf [(b, k0)])) := by
  rw [failKind_test, kindOf_cons, kindOf_nil]
  exact if_congr h rfl rfl

/-- the documentation's clause as a chain `if c then some k else …`: a `firstOf` list test by test, an explicit chain
    branch by branch; branches that return or leave the outcome open name no kind -/
macro "doc_form" : tactic =>
  `(tactic| simp only [kindOf_ite, kindOf_some_ite, kindOf_cons, kindOf_nil, kindOf_panics, kindOf_returns, kindOf_unspecified, kindOf_none,
      ite_self, decide_eq_true_eq])

/-- `documented W op args = none`: every branch of the documentation's clause returns, leaves the outcome open, or is
    no call at all -/
macro "no_panic" : tactic => `(tactic| (rw [documented_eq]; dsimp only [verdict]; doc_form))

/-- the zero test of a divisor -/
theorem failKind_divZero (x : Int) :
    failKind (if x = 0 then .error .divideByZero else .ok ()) = kindOf (some (divZero x)) :=
  failKind_one _ _ _ decide_eq_true_iff.symm

theorem failKind_divZero_nat (x : Nat) :
    failKind (if x = 0 then .error .divideByZero else .ok ()) = kindOf (some (divZero (x : Int))) :=
  failKind_one _ _ _ (by rw [decide_eq_true_eq, Int.natCast_eq_zero])

theorem natCast_not_ge_pow (x n : Nat) (h : x < 2 ^ n) : ¬ ((x : Int) ≥ 2 ^ n) := by
  have : ((x : Nat) : Int) < ((2 ^ n : Nat) : Int) := by exact_mod_cast h
  push_cast at this; omega

theorem pow2W_pos (W : Nat) : 0 < 2 ^ (2 * W) := Nat.pow_pos (by decide)

/-- a `Large` divisor is not zero -/
theorem guardDivByZero_eq (W b : Nat) :
    guardDivByZero W b = if b = 0 then .error .divideByZero else .ok () := by
  have hp := pow2W_pos W
  unfold guardDivByZero isSmall
  by_cases h : b < 2 ^ (2 * W)
  · simp [h]
  · have : b ≠ 0 := by omega
    simp [h, this]

theorem guardCdNew_eq (W m : Nat) :
    guardCdNew W m = if m = 0 then .error .divideByZero else .ok () :=
  guardDivByZero_eq W m

/-- a `Large` operand is not zero -/
theorem guardGcd_eq (W a b : Nat) :
    guardGcd W a b = if a = 0 ∧ b = 0 then .error .gcdZeroZero else .ok () := by
  have hp := pow2W_pos W
  unfold guardGcd isSmall
  by_cases ha : a < 2 ^ (2 * W) <;> by_cases hb : b < 2 ^ (2 * W) <;> simp [ha, hb] <;> omega

/-- a `Large` base is at least 2 -/
theorem guardIlog_eq (W x b : Nat) (hW : 1 ≤ W) :
    guardIlog W x b = if x = 0 ∨ b < 2 then .error .logInvalid else .ok () := by
  have hp : 2 ^ 2 ≤ 2 ^ (2 * W) := Nat.pow_le_pow_right (by decide) (by omega)
  unfold guardIlog isSmall
  by_cases hx : x = 0
  · simp [hx]
  · have : (decide (b < 2 ^ (2 * W)) = true ∧ (b = 0 ∨ b = 1)) ↔ b < 2 := by
      rw [decide_eq_true_eq]; omega
    simp only [hx, if_false, false_or, this]

theorem radix_test (r : Nat) : ¬ (2 ≤ r ∧ r ≤ 36) ↔ (!radixOk r) = true := by
  unfold radixOk
  rw [Bool.not_eq_true', decide_eq_false_iff_not]
  omega

-- ---- floats: the guards run in the order of the code; the documentation lists the same conditions

theorem isZero_of_finite (a : FArg) (h : a.isInf = false) : a.isZero = true ↔ a.signif = 0 := by
  rw [finite_iff] at h
  unfold FArg.isZero
  simp only [decide_eq_true_eq]
  exact ⟨fun h1 => h1.1, fun h1 => ⟨h1, h h1⟩⟩

theorem isNeg_of_finite (a : FArg) (h : a.isInf = false) : a.isNeg = true ↔ a.signif < 0 := by
  rw [finite_iff] at h
  unfold FArg.isNeg
  simp only [decide_eq_true_eq]
  constructor
  · rintro (h1 | ⟨h1, h2⟩)
    · exact h1
    · have := h h1; omega
  · intro h1; exact Or.inl h1

theorem not_inf_of (a : FArg) (h : ¬ a.isInf = true) : a.isInf = false := by
  cases h' : a.isInf <;> simp_all

/-- the integer division's zero test on the significand of a finite divisor -/
theorem failKind_divByZero_signif (W : Nat) (b : FArg) (hb : b.isInf = false) :
    failKind (guardDivByZero W b.signif.natAbs) = kindOf (some (firstOf [(b.isZero, .divideByZero)])) := by
  rw [guardDivByZero_eq]
  exact failKind_one _ _ _ (by rw [isZero_of_finite b hb, Int.natAbs_eq_zero])

theorem canonical_base (a : FArg) (h : a.canonical = true) : a.base = 2 ∨ a.base = 10 := by
  unfold FArg.canonical at h
  simp only [Bool.and_eq_true, Bool.or_eq_true, decide_eq_true_eq] at h
  rcases h.1 with h1 | h1
  · exact Or.inl h1.1
  · exact Or.inr h1.1

-- ---- guards that serve two operations, each against the part of the documentation the two share

/-- `exp` and `exp_m1` differ only in what the documentation says from `2^66` on (`t`) -/
theorem failKind_guardFExp (a : FArg) (t : Option Verdict)
    (h66 : a.magAtLeastPow2 66 = false) (h61 : a.magAtMostPow2 61 = true) :
    failKind (guardFExp a) =
      kindOf (if a.isInf then some (.panics .infinite)
       else if a.prec = 0 then some (.panics .unlimitedPrecision)
       else if a.magAtLeastPow2 66 then t
       else if a.magAtMostPow2 61 then some .returns else some .unspecified) := by
  simp only [h66, h61, Bool.false_eq_true, if_false, if_true]
  doc_form
  exact failKind_bind _ _ _ fun _ => failKind_test _ _

theorem two_pow_lt_ten (p : Nat) : 2 ^ p < 10 ↔ p ≤ 3 := by
  constructor
  · intro h
    by_cases hp : p ≤ 3
    · exact hp
    · exfalso
      have : 2 ^ 4 ≤ 2 ^ p := Nat.pow_le_pow_right (by decide) (by omega)
      omega
  · intro h
    have : p = 0 ∨ p = 1 ∨ p = 2 ∨ p = 3 := by omega
    rcases this with h | h | h | h <;> subst h <;> decide

theorem ten_pow_lt_two (p : Nat) : 10 ^ p < 2 ↔ p = 0 := by
  constructor
  · intro h
    by_cases hp : p = 0
    · exact hp
    · exfalso
      have : 10 ^ 1 ≤ 10 ^ p := Nat.pow_le_pow_right (by decide) (by omega)
      omega
  · intro h; subst h; decide

/-- `convert_base` to `nb`, given what "the target precision is 0" means for the source base -/
theorem failKind_guardFConvertBase (a : FArg) (nb : Nat) (he : a.exp.natAbs ≤ 2 ^ 20)
    (hq : a.base ≠ nb → (a.base ^ a.prec < nb ↔ a.prec = 0)) :
    failKind (guardFConvertBase a nb) =
      kindOf (if a.isInf then some .returns
       else if a.exp.natAbs > 2 ^ 20 then some .unspecified
       else some (firstOf [(a.base ≠ nb ∧ a.prec = 0, .unlimitedPrecision)])) := by
  unfold guardFConvertBase
  doc_form
  by_cases hb : a.base = nb
  · simp [hb, failKind]
  · have he' : ¬ (a.exp.natAbs > 2 ^ 20) := by omega
    simp only [hb, he', if_false, hq hb]
    by_cases h1 : a.isInf = true
    · simp [h1, failKind]
    · simp only [h1, Bool.false_eq_true, if_false]
      rw [failKind_test]
      exact if_congr (by simp [hb]) rfl rfl

/-- operators on two `Reduced` values of the SAME ring (modulus ≥ 2): DivideByZero never, NonInvertible exactly when
    the divisor shares a factor with the modulus -/
theorem guardMSame_iff (W : Nat) (f : String) (m : Nat) (x b : Int) (k : Kind)
    (hf : f ∈ ["add", "sub", "mul", "div", "eq"]) (hm : m ≠ 1) :
    guardMSame W f m b = .error k ↔ documented W .mSame [.fn f, .int m, .int x, .int b] = some k := by
  have hn : ¬ ((m:Int) < 0 ∨ ¬ (f ∈ ["add", "sub", "mul", "div", "eq"])) := by
    intro h; rcases h with h | h
    · omega
    · exact h hf
  refine iff_documented ?_ k
  dsimp only [verdict]
  rw [if_neg hn]
  unfold guardMSame
  rw [guardCdNew_eq]
  by_cases h0 : m = 0
  · simp [h0, bind, Except.bind, failKind, kindOf]
  · have h0' : ¬ ((m:Int) = 0) := by omega
    have h1' : ¬ ((m:Int) = 1) := by omega
    simp only [h0, h0', h1', if_false, bind, Except.bind, Int.natAbs_natCast]
    by_cases hd : f = "div"
    · simp only [hd, if_true]
      by_cases hg : Nat.gcd (b % (m:Int)).natAbs m = 1 <;> simp [hg, failKind, kindOf, firstOf]
    · simp [hd, failKind, kindOf]

end Dashu.Proofs.Panic
