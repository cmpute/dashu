import Dashu.Model.Panic.Loops2
import Mathlib.Algebra.Order.Field.Rat
import Mathlib.Algebra.Order.Field.Basic
import Mathlib.Algebra.Order.AbsoluteValue.Basic
import Mathlib.Tactic.Linarith
import Mathlib.Tactic.Positivity
import Mathlib.Tactic.Ring
/-
  C16: termination of the loops of `Dashu.Model.Panic.Loops2`, each under the condition the CODE
  establishes before entering the loop.
-/
namespace Dashu.Proofs.Panic
open Dashu.Model.Panic

-- ------------------------------------------------------------------ exp: Maclaurin loop

/-- one pass of the Maclaurin loop halves the bound relative to the factorial: `|pow| ≤ 2·c·f` gives `|pow·r| ≤ c·(f·k)` -/
theorem exp_step (r f pow c : Rat) (k : Nat) (hr : |r| ≤ 1 / 2) (hc : 0 ≤ c) (hf : 0 < f) (hk : 1 ≤ k)
    (hb : |pow| ≤ 2 * c * f) : |pow * r| ≤ c * (f * (k : Rat)) := by
  have hk' : (1 : Rat) ≤ (k : Rat) := by exact_mod_cast hk
  have hpow : |pow * r| ≤ |pow| * (1 / 2) := by
    rw [abs_mul]; exact mul_le_mul_of_nonneg_left hr (abs_nonneg _)
  have hle : c * f ≤ c * (f * (k : Rat)) :=
    mul_le_mul_of_nonneg_left (le_mul_of_one_le_right hf.le hk') hc
  linarith

/-- `exp_internal` reduces the argument to `|r| < B^-n ≤ 1/2` before the loop; then every term is at most half the
    previous one and `n + 1` iterations suffice once `|pow| ≤ 2^(n+1) · eps · factorial` -/
theorem expLoop_terminates (r eps : Rat) (hr : |r| ≤ 1 / 2) (he : 0 < eps) :
    ∀ (n : Nat) (factorial pow sum : Rat) (k : Nat), 0 < factorial → 1 ≤ k →
      |pow| ≤ 2 ^ (n + 1) * eps * factorial →
      expLoop r eps (n + 1) factorial pow sum k ≠ none := by
  intro n
  induction n with
  | zero =>
    intro factorial pow sum k hf hk hb
    have hf' : 0 < factorial * (k : Rat) := mul_pos hf (by exact_mod_cast hk)
    have h9 := exp_step r factorial pow eps k hr he.le hf hk (by simpa using hb)
    -- the increase is at most `eps`: the loop stops
    have hinc : |pow * r / (factorial * (k : Rat))| ≤ eps := by
      rw [abs_div, abs_of_pos hf', div_le_iff₀ hf']; exact h9
    have h2 := abs_le.mp hinc
    simp only [expLoop]
    rw [if_pos ⟨h2.2, by linarith [h2.1]⟩]
    exact Option.some_ne_none _
  | succ n ih =>
    intro factorial pow sum k hf hk hb
    have hf' : 0 < factorial * (k : Rat) := mul_pos hf (by exact_mod_cast hk)
    have h9 := exp_step r factorial pow (2 ^ (n + 1) * eps) k hr (by positivity) hf hk
      (by rw [pow_succ] at hb; linarith)
    simp only [expLoop]
    split
    · exact Option.some_ne_none _
    · exact ih (factorial * (k : Rat)) (pow * r) _ (k + 1) hf' (by omega) h9

-- ------------------------------------------------------------------ iacoth

theorem iacothLoop_terminates (inv2 eps : Rat) (h0 : 0 ≤ inv2) (h4 : inv2 ≤ 1 / 4) (he : 0 < eps) :
    ∀ (n : Nat) (pow sum : Rat) (k : Nat), 0 ≤ pow → 1 ≤ k → pow < 4 ^ (n + 1) * eps →
      iacothLoop inv2 eps (n + 1) pow sum k ≠ none := by
  intro n
  induction n with
  | zero =>
    intro pow sum k hp hk hb
    have hk' : (1 : Rat) ≤ (k : Rat) := by exact_mod_cast hk
    have hm : pow * inv2 ≤ pow * (1 / 4) := mul_le_mul_of_nonneg_left h4 hp
    have hinc : pow * inv2 / (k : Rat) ≤ pow * inv2 := div_le_self (mul_nonneg hp h0) hk'
    have hb' : pow < 4 * eps := by simpa using hb
    simp only [iacothLoop]
    rw [if_pos (by linarith)]
    exact Option.some_ne_none _
  | succ n ih =>
    intro pow sum k hp hk hb
    have hm : pow * inv2 ≤ pow * (1 / 4) := mul_le_mul_of_nonneg_left h4 hp
    simp only [iacothLoop]
    split
    · exact Option.some_ne_none _
    · exact ih (pow * inv2) _ (k + 2) (mul_nonneg hp h0) (by omega) (by rw [pow_succ] at hb; linarith)
-- ------------------------------------------------------------------ integer log: estimate fixing

theorem logFixLoop_succ (target base : Nat) (ovf : Option Nat) (fuel est estPow : Nat) :
    logFixLoop target base ovf (fuel + 1) est estPow =
      if ovfHit ovf (estPow * base) = true then some (est, estPow)
      else if estPow * base < target then logFixLoop target base ovf fuel (est + 1) (estPow * base)
      else if estPow * base = target then some (est + 1, estPow * base)
      else some (est, estPow) := rfl

theorem logFixLoop_terminates (target base : Nat) (ovf : Option Nat) (hb : 2 ≤ base) :
    ∀ (k est estPow : Nat), 0 < estPow → target < estPow * base ^ k →
      logFixLoop target base ovf (k + 1) est estPow ≠ none := by
  intro k
  induction k with
  | zero =>
    intro est estPow hp ht
    -- `target < estPow ≤ estPow·base`: the loop does not go on
    have h2 : ¬ (estPow * base < target) := by
      have : estPow ≤ estPow * base := Nat.le_mul_of_pos_right _ (by omega)
      simp at ht; omega
    rw [logFixLoop_succ, if_neg h2]
    split
    · simp
    · split <;> simp
  | succ k ih =>
    intro est estPow hp ht
    rw [logFixLoop_succ]
    split
    · simp
    · split
      · exact ih (est + 1) (estPow * base) (Nat.mul_pos hp (by omega))
          (by rwa [Nat.pow_succ, Nat.mul_comm (base ^ k), ← Nat.mul_assoc] at ht)
      · split <;> simp

-- ------------------------------------------------------------------ remove: first stage

theorem two_le_sq (p : Nat) (h : 2 ≤ p) : 2 ≤ p * p :=
  Nat.le_trans h (Nat.le_mul_of_pos_right p (by omega))

theorem removeUpLoop_terminates :
    ∀ (fuel q exp : Nat) (pows : List Nat), 0 < q → q < 2 ^ fuel → (∀ p ∈ pows, 2 ≤ p) →
      removeUpLoop fuel q exp pows ≠ none := by
  intro fuel
  induction fuel with
  | zero => intro q exp pows hq h; simp at h; omega
  | succ n ih =>
    intro q exp pows hq hlt hp
    cases pows with
    | nil => simp [removeUpLoop]
    | cons last rest =>
      simp only [removeUpLoop]
      split
      · simp
      · rename_i hdiv
        have hl : 2 ≤ last := hp last (by simp)
        have hdvd : q % last = 0 := by
          by_contra h; exact hdiv h
        have hq' : 0 < q / last := by
          apply Nat.div_pos
          · exact Nat.le_of_dvd hq (Nat.dvd_of_mod_eq_zero hdvd)
          · omega
        have hle : q / last ≤ q / 2 := Nat.div_le_div_left hl (by decide)
        have hlt' : q / last < 2 ^ n := by
          have : q < 2 * 2 ^ n := by rw [Nat.pow_succ] at hlt; omega
          omega
        apply ih (q / last) _ _ hq' hlt'
        intro p hpm
        simp at hpm
        rcases hpm with h | h | h
        · subst h; exact two_le_sq last hl
        · subst h; exact hl
        · exact hp p (by simp [h])

-- ------------------------------------------------------------------ binary exponentiation

theorem powBitLoop_succ (exp fuel p sq mu : Nat) :
    powBitLoop exp (fuel + 1) p (sq, mu) =
      if p = 0 then some (sq, if exp.testBit p then mu + 1 else mu)
      else powBitLoop exp fuel (p - 1) (sq + 1, if exp.testBit p then mu + 1 else mu) := rfl

/-- the bit loop of `pow` / `powi` runs exactly `p + 1` times -/
theorem powBitLoop_terminates (exp : Nat) : ∀ (p : Nat) (acc : Nat × Nat), powBitLoop exp (p + 1) p acc ≠ none := by
  intro p
  induction p with
  | zero => intro acc; obtain ⟨sq, mu⟩ := acc; rw [powBitLoop_succ]; simp
  | succ p ih =>
    intro acc
    obtain ⟨sq, mu⟩ := acc
    rw [powBitLoop_succ, if_neg (Nat.succ_ne_zero p), Nat.add_sub_cancel]
    exact ih _

end Dashu.Proofs.Panic
