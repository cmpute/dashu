/-
  C16 (4): the float parser `Repr::from_str_native` (float/src/parse.rs:27-140) slices its input by BYTE offsets:
  `&src[pos + 1..]`, `&src[..pos]` (pos = `rfind` of a scale marker `e E @ p P b B o O h H`), `&src[..dot]`,
  `&src[dot + 1..]` (dot = `find('.')`), `&src[2..]` / `&int_str[2..]` (after `starts_with("0x" | "0X")`).
  `str` slicing panics when an offset is not a char boundary.  Every offset used is `p` or `p + 1` for a position
  `p` that holds an ASCII byte; this file proves that in well-formed UTF-8 such offsets are always char boundaries
  (Rust's `str::is_char_boundary`), so the slicing cannot panic on arbitrary (multi-byte) input.
  Core Lean only.
-/
namespace Dashu.Proofs.Panic

/-- a UTF-8 continuation byte `10xxxxxx` -/
def isCont (b : UInt8) : Prop := 128 ≤ b.toNat ∧ b.toNat < 192

instance (b : UInt8) : Decidable (isCont b) := by unfold isCont; infer_instance

/-- well-formed UTF-8 (a superset: lead bytes are only required to be ≥ 0xC0 / 0xE0 / 0xF0) -/
inductive Utf8 : List UInt8 → Prop
  | nil : Utf8 []
  | c1 (b : UInt8) (rest : List UInt8) : b.toNat < 128 → Utf8 rest → Utf8 (b :: rest)
  | c2 (b0 b1 : UInt8) (rest : List UInt8) : 192 ≤ b0.toNat → isCont b1 → Utf8 rest → Utf8 (b0 :: b1 :: rest)
  | c3 (b0 b1 b2 : UInt8) (rest : List UInt8) :
      224 ≤ b0.toNat → isCont b1 → isCont b2 → Utf8 rest → Utf8 (b0 :: b1 :: b2 :: rest)
  | c4 (b0 b1 b2 b3 : UInt8) (rest : List UInt8) :
      240 ≤ b0.toNat → isCont b1 → isCont b2 → isCont b3 → Utf8 rest → Utf8 (b0 :: b1 :: b2 :: b3 :: rest)

/-- `str::is_char_boundary(i)`: `i == 0 || i == len || (bytes[i] as i8) >= -0x40` -/
def isCharBoundary (bs : List UInt8) (i : Nat) : Prop :=
  i = 0 ∨ i = bs.length ∨ ∃ b, bs[i]? = some b ∧ ¬ isCont b

/-- the first byte of a well-formed string is not a continuation byte -/
theorem utf8_head (bs : List UInt8) (h : Utf8 bs) (b : UInt8) (hb : bs[0]? = some b) : ¬ isCont b := by
  cases h with
  | nil => simp at hb
  | c1 b' rest h1 _ => simp at hb; subst hb; unfold isCont; omega
  | c2 b0 b1 rest h1 _ _ => simp at hb; subst hb; unfold isCont; omega
  | c3 b0 b1 b2 rest h1 _ _ _ => simp at hb; subst hb; unfold isCont; omega
  | c4 b0 b1 b2 b3 rest h1 _ _ _ _ => simp at hb; subst hb; unfold isCont; omega

/-- one character `ch` (a single byte, or bytes none of which is ASCII) in front of a string for which the claim
    holds: an ASCII byte is the last byte of `ch`, followed by the head of `rest`, or it lies in `rest` -/
theorem after_ascii_step (ch rest : List UInt8) (hrest : Utf8 rest)
    (hch : ch.length = 1 ∨ ∀ x ∈ ch, 128 ≤ x.toNat)
    (ih : ∀ (p : Nat) (b : UInt8), rest[p]? = some b → b.toNat < 128 →
      p + 1 = rest.length ∨ ∃ c, rest[p + 1]? = some c ∧ ¬ isCont c)
    (p : Nat) (b : UInt8) (hb : (ch ++ rest)[p]? = some b) (hlt : b.toNat < 128) :
    p + 1 = (ch ++ rest).length ∨ ∃ c, (ch ++ rest)[p + 1]? = some c ∧ ¬ isCont c := by
  rcases Nat.lt_trichotomy (p + 1) ch.length with hp | hp | hp
  · rcases hch with h1 | hna
    · omega
    · rw [List.getElem?_append_left (by omega)] at hb
      have := hna b (List.mem_of_getElem? hb)
      omega
  · cases hr : rest with
    | nil => left; simp [hp]
    | cons c rest' => exact Or.inr ⟨c, by simp [hp], utf8_head rest hrest c (by simp [hr])⟩
  · obtain ⟨q, rfl⟩ : ∃ q, p = ch.length + q := ⟨p - ch.length, by omega⟩
    rw [List.getElem?_append_right (by omega), Nat.add_sub_cancel_left] at hb
    rcases ih q b hb hlt with h | ⟨c, hc, hnc⟩
    · left; rw [List.length_append]; omega
    · right
      refine ⟨c, ?_, hnc⟩
      rw [Nat.add_assoc, List.getElem?_append_right (by omega), Nat.add_sub_cancel_left]
      exact hc

/-- after an ASCII byte at position `p` a new character starts (or the string ends) -/
theorem after_ascii (bs : List UInt8) (h : Utf8 bs) :
    ∀ (p : Nat) (b : UInt8), bs[p]? = some b → b.toNat < 128 →
      p + 1 = bs.length ∨ ∃ c, bs[p + 1]? = some c ∧ ¬ isCont c := by
  induction h with
  | nil => intro p b hb; simp at hb
  | c1 b' rest _ hrest ih => exact after_ascii_step [b'] rest hrest (Or.inl rfl) ih
  | c2 b0 b1 rest h0 h1 hrest ih =>
    exact after_ascii_step [b0, b1] rest hrest (Or.inr (by simpa using ⟨by omega, h1.1⟩)) ih
  | c3 b0 b1 b2 rest h0 h1 h2 hrest ih =>
    exact after_ascii_step [b0, b1, b2] rest hrest (Or.inr (by simpa using ⟨by omega, h1.1, h2.1⟩)) ih
  | c4 b0 b1 b2 b3 rest h0 h1 h2 h3 hrest ih =>
    exact after_ascii_step [b0, b1, b2, b3] rest hrest (Or.inr (by simpa using ⟨by omega, h1.1, h2.1, h3.1⟩)) ih

/-- both cut offsets around an ASCII byte are char boundaries: `&src[..p]`, `&src[p..]`, `&src[..p+1]`,
    `&src[p+1..]` cannot panic -/
theorem ascii_cuts_are_boundaries (bs : List UInt8) (h : Utf8 bs) (p : Nat) (b : UInt8)
    (hb : bs[p]? = some b) (hlt : b.toNat < 128) :
    isCharBoundary bs p ∧ isCharBoundary bs (p + 1) := by
  refine ⟨Or.inr (Or.inr ⟨b, hb, by unfold isCont; omega⟩), ?_⟩
  rcases after_ascii bs h p b hb hlt with h1 | ⟨c, hc, hnc⟩
  · exact Or.inr (Or.inl h1)
  · exact Or.inr (Or.inr ⟨c, hc, hnc⟩)

/-- first index `≥ i` (offset `i` = position of the head) whose byte satisfies `p`: `str::find` for an ASCII pattern -/
def findFrom (p : UInt8 → Bool) : List UInt8 → Nat → Option Nat
  | [], _ => none
  | b :: r, i => if p b then some i else findFrom p r (i + 1)

/-- last such index: `str::rfind` for ASCII patterns -/
def rfindFrom (p : UInt8 → Bool) : List UInt8 → Nat → Option Nat → Option Nat
  | [], _, last => last
  | b :: r, i, last => rfindFrom p r (i + 1) (if p b then some i else last)

theorem findFrom_spec (p : UInt8 → Bool) :
    ∀ (bs : List UInt8) (i j : Nat), findFrom p bs i = some j → i ≤ j ∧ ∃ b, bs[j - i]? = some b ∧ p b = true := by
  intro bs
  induction bs with
  | nil => intro i j h; simp [findFrom] at h
  | cons b r ih =>
    intro i j h
    unfold findFrom at h
    by_cases hp : p b = true
    · simp [hp] at h; subst h; exact ⟨Nat.le_refl _, b, by simp, hp⟩
    · simp [hp] at h
      obtain ⟨hle, c, hc, hpc⟩ := ih (i + 1) j h
      refine ⟨by omega, c, ?_, hpc⟩
      have : j - i = (j - (i + 1)) + 1 := by omega
      rw [this]; simpa using hc

theorem rfindFrom_spec (p : UInt8 → Bool) :
    ∀ (bs : List UInt8) (i : Nat) (last : Option Nat) (j : Nat),
      rfindFrom p bs i last = some j →
      (last = some j) ∨ (i ≤ j ∧ ∃ b, bs[j - i]? = some b ∧ p b = true) := by
  intro bs
  induction bs with
  | nil => intro i last j h; left; simpa [rfindFrom] using h
  | cons b r ih =>
    intro i last j h
    unfold rfindFrom at h
    rcases ih (i + 1) _ j h with h1 | ⟨hle, c, hc, hpc⟩
    · by_cases hp : p b = true
      · simp [hp] at h1; subst h1; right; exact ⟨Nat.le_refl _, b, by simp, hp⟩
      · simp [hp] at h1; left; exact h1
    · right
      refine ⟨by omega, c, ?_, hpc⟩
      have : j - i = (j - (i + 1)) + 1 := by omega
      rw [this]; simpa using hc

/-- the scale markers of all bases and the radix point: all ASCII -/
def isMarker (b : UInt8) : Bool :=
  b = 101 || b = 69 || b = 64 || b = 112 || b = 80 || b = 98 || b = 66 || b = 111 || b = 79 || b = 104 || b = 72

def isDot (b : UInt8) : Bool := b = 46

theorem marker_ascii (b : UInt8) (h : isMarker b = true) : b.toNat < 128 := by
  unfold isMarker at h
  simp only [Bool.or_eq_true, decide_eq_true_eq] at h
  rcases h with ((((((((((h | h) | h) | h) | h) | h) | h) | h) | h) | h) | h) <;> subst h <;> decide

theorem dot_ascii (b : UInt8) (h : isDot b = true) : b.toNat < 128 := by
  unfold isDot at h; simp only [decide_eq_true_eq] at h; subst h; decide

/-- the byte offsets at which `from_str_native` cuts its input: around the last scale marker (`rfind`), around
    the first `.` (`find`), and after a `0x`/`0X` prefix -/
def parserCuts (bs : List UInt8) : List Nat :=
  (match findFrom isDot bs 0 with | some d => [d, d + 1] | none => []) ++
  (match rfindFrom isMarker bs 0 none with | some m => [m, m + 1] | none => []) ++
  (if bs[0]? = some 48 ∧ (bs[1]? = some 120 ∨ bs[1]? = some 88) then [2] else [])

end Dashu.Proofs.Panic
