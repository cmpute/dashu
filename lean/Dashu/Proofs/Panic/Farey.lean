import Dashu.Model.Panic.Loops
import Mathlib.Tactic.Ring
import Mathlib.Tactic.Linarith
/-
  C16 (3a): `RBig::farey_neighbors` terminates, within `limit` iterations — and needs that many.
  The code checks nothing but `next.denominator > limit`; the proof needs the Farey invariant
  `right.num · left.den − left.num · right.den = 1` (true for the two starting intervals), which makes every
  mediant already reduced, so that the denominators' sum grows by at least 1 per iteration.
-/
namespace Dashu.Proofs.Panic
open Dashu.Model.Panic

/-- the Farey-neighbour invariant of the interval `(l, r)` -/
def FareyInv (l r : Fr) : Prop :=
  r.num * l.den - l.num * r.den = 1 ∧ 1 ≤ l.den ∧ 1 ≤ r.den

theorem fareyStart_inv (x : Fr) : FareyInv (fareyStart x).1 (fareyStart x).2 := by
  unfold fareyStart FareyInv
  split <;> simp

/-- under the invariant the mediant is in lowest terms: `reduce` does nothing -/
theorem mediant_reduced (l r : Fr) (h : FareyInv l r) :
    (⟨l.num + r.num, l.den + r.den⟩ : Fr).reduce = ⟨l.num + r.num, l.den + r.den⟩ := by
  obtain ⟨hdet, hl, hr⟩ := h
  have hg : Int.gcd (l.num + r.num) ((l.den + r.den : Nat) : Int) = 1 := by
    generalize hg : Int.gcd (l.num + r.num) ((l.den + r.den : Nat) : Int) = g
    have h1 : (g : Int) ∣ l.num + r.num := hg ▸ Int.gcd_dvd_left _ _
    have h2 : (g : Int) ∣ ((l.den + r.den : Nat) : Int) := hg ▸ Int.gcd_dvd_right _ _
    -- a common divisor divides the determinant, which is 1
    have h3 : (g : Int) ∣ (l.num + r.num) * l.den - l.num * ((l.den + r.den : Nat) : Int) :=
      Int.dvd_sub (Dvd.dvd.mul_right h1 _) (Dvd.dvd.mul_left h2 _)
    rw [show (l.num + r.num) * l.den - l.num * ((l.den + r.den : Nat) : Int) = 1 by push_cast; linarith] at h3
    exact_mod_cast Int.eq_one_of_dvd_one (Int.natCast_nonneg _) h3
  unfold Fr.reduce
  simp only [hg]
  simp

theorem inv_left (l r : Fr) (h : FareyInv l r) : FareyInv l ⟨l.num + r.num, l.den + r.den⟩ := by
  obtain ⟨hdet, hl, hr⟩ := h
  refine ⟨?_, hl, by simp; omega⟩
  simp only; push_cast; linarith [hdet]

theorem inv_right (l r : Fr) (h : FareyInv l r) : FareyInv ⟨l.num + r.num, l.den + r.den⟩ r := by
  obtain ⟨hdet, hl, hr⟩ := h
  refine ⟨?_, by simp; omega, hr⟩
  simp only; push_cast; linarith [hdet]

/-- one iteration, given the invariant: either it returns, or it continues on an interval that satisfies the
    invariant and whose denominators' sum is strictly larger -/
theorem fareyLoop_step (x : Fr) (limit n : Nat) (l r : Fr) (h : FareyInv l r) :
    (limit < l.den + r.den ∧ fareyLoop x limit (n + 1) l r = some (l, r)) ∨
    (l.den + r.den ≤ limit ∧
      (fareyLoop x limit (n + 1) l r = fareyLoop x limit n l ⟨l.num + r.num, l.den + r.den⟩ ∨
       fareyLoop x limit (n + 1) l r = fareyLoop x limit n ⟨l.num + r.num, l.den + r.den⟩ r)) := by
  by_cases hd : limit < l.den + r.den
  · left
    refine ⟨hd, ?_⟩
    simp only [fareyLoop, mediant_reduced l r h]
    simp [hd]
  · right
    refine ⟨by omega, ?_⟩
    simp only [fareyLoop, gt_iff_lt, hd, if_false]
    by_cases hg : (⟨l.num + r.num, l.den + r.den⟩ : Fr).gt x = true
    · left; simp [hg]
    · right; simp [hg]

/-- TERMINATION: under the Farey invariant, `limit + 2 − (left.den + right.den)` iterations are enough
    (at least one) -/
theorem fareyLoop_terminates (x : Fr) (limit : Nat) :
    ∀ (n : Nat) (l r : Fr), FareyInv l r → limit + 1 ≤ n + (l.den + r.den) →
      fareyLoop x limit (n + 1) l r ≠ none := by
  intro n
  induction n with
  | zero =>
    intro l r h hf
    rcases fareyLoop_step x limit 0 l r h with ⟨_, hs⟩ | ⟨hle, _⟩
    · rw [hs]; simp
    · omega
  | succ n ih =>
    intro l r h hf
    rcases fareyLoop_step x limit (n + 1) l r h with ⟨_, hs⟩ | ⟨hle, hs | hs⟩
    · rw [hs]; simp
    · rw [hs]
      exact ih l _ (inv_left l r h) (by have := h.2.1; simp only; omega)
    · rw [hs]
      exact ih _ r (inv_right l r h) (by have := h.2.2; simp only; omega)

/-- … and the bound is sharp: on `x = 1/(limit+1)` the walk visits `1/1, 1/2, …, 1/limit`; with fewer than
    `limit` iterations it has not returned.  The running time of `nearest` / `next_up` / `next_down` is therefore
    LINEAR in `limit` (exponential in its bit length): the finding recorded for C16. -/
theorem farey_walk_linear (L : Nat) :
    ∀ (fuel k : Nat), fuel + k < L →
      fareyLoop ⟨1, L + 1⟩ L fuel ⟨0, 1⟩ ⟨1, k + 1⟩ = none := by
  intro fuel
  induction fuel with
  | zero => intro k _; rfl
  | succ n ih =>
    intro k hk
    have h1 : ¬ (1 + (k + 1) > L) := by omega
    simp only [fareyLoop, h1, if_false]
    have hg : (⟨(0:Int) + 1, 1 + (k + 1)⟩ : Fr).gt ⟨1, L + 1⟩ = true := by
      unfold Fr.gt; simp; omega
    simp only [hg, if_true]
    have := ih (k + 1) (by omega)
    simpa [Nat.add_comm, Nat.add_left_comm, Nat.add_assoc] using this

end Dashu.Proofs.Panic
