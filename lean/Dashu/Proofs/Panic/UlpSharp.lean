import Dashu.Proofs.Panic.Guards
/-
  C16: `FBig::ulp` — the hypothesis `precision ≤ 2^62` of `fbig_ulp_guard_partial` weakened to the weakest one
  possible.  `FBig::ulp` (float/src/fbig.rs) checks only `precision = 0`; the documentation (transcribed in
  `Spec/Panics.lean`, op `fUlp`) additionally names ExponentOverflow when the exponent of the unit in the last place,
  `exp + digits − precision`, is below `isize::MIN`.  So the guard is equivalent to the documentation EXACTLY on the
  inputs on which that clause is silent (`ulpClauseSilent`), and on every other canonical moderate input the two differ
  (guard `ok`, documentation ExponentOverflow) — the class of finding float_precision_isize_cast (f.ulp half), as a theorem.
-/
namespace Dashu.Proofs.Panic
open Dashu.Spec.Panics Dashu.Model.Panic

/-- the documented underflow clause of `ulp` does not apply: unlimited precision (reported first), an infinity, or the
    exponent of the ulp stays inside `isize` -/
def ulpClauseSilent (a : FArg) : Prop :=
  a.prec = 0 ∨ a.isInf = true ∨ isizeMin ≤ a.exp + (a.digits : Int) - (a.prec : Int)

instance (a : FArg) : Decidable (ulpClauseSilent a) := by unfold ulpClauseSilent; exact inferInstance

private theorem verdict_fUlp (W : Nat) (a : FArg) (hc : a.canonical) (hm : a.moderate) :
    verdict W .fUlp [.flt a] =
      some (firstOf [(a.prec = 0, .unlimitedPrecision),
                     (¬ a.isInf ∧ a.exp + (a.digits : Int) - (a.prec : Int) < isizeMin, .exponentOverflow)]) := by
  dsimp only [verdict]
  rw [if_neg (by simpa using hc), if_neg (by simpa using hm)]

/-- SHARP form of `guardFUlp_iff`: every precision up to `usize::MAX`, hypothesis = the clause is silent -/
theorem guardFUlp_iff_sharp (W : Nat) (a : FArg) (k : Kind) (hc : a.canonical) (hm : a.moderate)
    (hs : ulpClauseSilent a) :
    guardFUlp a = .error k ↔ documented W .fUlp [.flt a] = some k := by
  refine iff_documented ?_ k
  rw [verdict_fUlp W a hc hm, kindOf_cons]
  simp only [decide_eq_true_eq]
  refine failKind_ite _ _ _ fun h0 => ?_
  have hno : (decide (¬ a.isInf = true ∧ a.exp + (a.digits : Int) - (a.prec : Int) < isizeMin)) = false := by
    rw [decide_eq_false_iff_not]
    intro ⟨hfin, hlt⟩
    rcases hs with h | h | h
    · exact h0 h
    · exact hfin h
    · omega
  rw [hno]
  rfl

/-- the hypothesis of `guardFUlp_iff_sharp` is NECESSARY on every input (not only at one witness): outside it the code
    returns (no check) where ExponentOverflow is documented -/
theorem guardFUlp_not_silent (W : Nat) (a : FArg) (hc : a.canonical) (hm : a.moderate) (hs : ¬ ulpClauseSilent a) :
    guardFUlp a = .ok () ∧ documented W .fUlp [.flt a] = some .exponentOverflow := by
  unfold ulpClauseSilent at hs
  have h0 : ¬ a.prec = 0 := fun h => hs (Or.inl h)
  have hfin : ¬ a.isInf = true := fun h => hs (Or.inr (Or.inl h))
  have hlt : a.exp + (a.digits : Int) - (a.prec : Int) < isizeMin := by
    have : ¬ isizeMin ≤ a.exp + (a.digits : Int) - (a.prec : Int) := fun h => hs (Or.inr (Or.inr h))
    omega
  constructor
  · unfold guardFUlp; simp [h0]
  · rw [documented_iff, verdict_fUlp W a hc hm]
    have hyes : (decide (¬ a.isInf = true ∧ a.exp + (a.digits : Int) - (a.prec : Int) < isizeMin)) = true := by
      rw [decide_eq_true_eq]; exact ⟨hfin, hlt⟩
    simp only [firstOf, hyes]
    simp [h0]

/-- the two together: on canonical moderate operands, guard ≡ documentation (for all kinds) iff the clause is silent -/
theorem guardFUlp_iff_exactly (W : Nat) (a : FArg) (hc : a.canonical) (hm : a.moderate) :
    (∀ k : Kind, guardFUlp a = .error k ↔ documented W .fUlp [.flt a] = some k) ↔ ulpClauseSilent a := by
  constructor
  · intro h
    by_cases hs : ulpClauseSilent a
    · exact hs
    · obtain ⟨hok, hdoc⟩ := guardFUlp_not_silent W a hc hm hs
      have := (h .exponentOverflow).mpr hdoc
      rw [hok] at this
      exact absurd this (by simp)
  · intro hs k
    exact guardFUlp_iff_sharp W a k hc hm hs

/-- a closed-form sufficient bound: moderate exponent (≥ −2^61) and precision ≤ 2^63 − 2^61 = 3·2^61 (`fbig_ulp_guard_partial` asks for 2^62) -/
theorem ulpClauseSilent_of_prec_le (a : FArg) (hm : a.moderate) (hp : a.prec ≤ 3 * 2 ^ 61) : ulpClauseSilent a := by
  unfold ulpClauseSilent
  unfold FArg.moderate at hm
  simp only [Bool.or_eq_true, Bool.and_eq_true, decide_eq_true_eq] at hm
  rcases hm with hinf | ⟨h1, _⟩
  · exact Or.inr (Or.inl hinf)
  · refine Or.inr (Or.inr ?_)
    have : isizeMin = -(2 ^ 63) := rfl
    rw [this]
    have hd : (0 : Int) ≤ (a.digits : Int) := Int.natCast_nonneg _
    have hp' : (a.prec : Int) ≤ 3 * 2 ^ 61 := by exact_mod_cast hp
    omega

/-- `FBig::ulp`, precisions up to `2^62` -/
theorem guardFUlp_iff (W : Nat) (a : FArg) (k : Kind) (hc : a.canonical) (hm : a.moderate) (hp : a.prec ≤ 2 ^ 62) :
    guardFUlp a = .error k ↔ documented W .fUlp [.flt a] = some k :=
  guardFUlp_iff_sharp W a k hc hm (ulpClauseSilent_of_prec_le a hm (by omega))

end Dashu.Proofs.Panic
