import Mathlib.Algebra.Order.Field.Rat
import Mathlib.Algebra.Order.Ring.Abs
import Mathlib.Tactic.Linarith
import Mathlib.Tactic.Positivity
import Mathlib.Tactic.Ring
import Mathlib.Tactic.FieldSimp
/-
  Propagation of relative rounding errors (over ℚ) through products, squarings, reciprocals and sums of non-negative
  terms: the error bounds of `Context::powi` and of the series loops of exp/ln count roundings with it (DESIGN §8 C11).

  `Approx ε k a b` : `a = b · f` with `(1 − ε)^k ≤ f ≤ (1 + ε)^k` — `a` approximates `b` with `k`
  accumulated relative errors of size `ε` (`0 ≤ ε ≤ 1`).
-/
namespace Dashu.Model.Trans

def Approx (ε : ℚ) (k : ℕ) (a b : ℚ) : Prop :=
  ∃ f : ℚ, a = b * f ∧ (1 - ε) ^ k ≤ f ∧ f ≤ (1 + ε) ^ k

theorem Approx.refl (ε : ℚ) (a : ℚ) : Approx ε 0 a a := ⟨1, by ring, by simp, by simp⟩

/-- one rounding with relative error `ε` -/
theorem approx_of_near {ε r x : ℚ} (hε : 0 ≤ ε) (h : |r - x| ≤ ε * |x|) : Approx ε 1 r x := by
  by_cases hx : x = 0
  · subst hx
    have h0 : |r - 0| ≤ 0 := by simpa using h
    have h1 : |r - 0| = 0 := le_antisymm h0 (abs_nonneg _)
    have hr : r = 0 := by simpa using abs_eq_zero.mp h1
    exact ⟨1, by simp [hr], by simp only [pow_one]; linarith, by simp only [pow_one]; linarith⟩
  · have hxpos : 0 < |x| := abs_pos.mpr hx
    have hq : |r / x - 1| ≤ ε := by
      have e1 : r / x - 1 = (r - x) / x := by field_simp
      rw [e1, abs_div, div_le_iff₀ hxpos]; exact h
    obtain ⟨h1, h2⟩ := abs_le.mp hq
    exact ⟨r / x, by field_simp, by simp only [pow_one]; linarith, by simp only [pow_one]; linarith⟩

theorem Approx.mono {ε a b : ℚ} {k k' : ℕ} (hε : 0 ≤ ε) (hε1 : ε ≤ 1) (hk : k ≤ k') (h : Approx ε k a b) :
    Approx ε k' a b := by
  obtain ⟨f, hf, hf1, hf2⟩ := h
  refine ⟨f, hf, le_trans ?_ hf1, le_trans hf2 ?_⟩
  · exact pow_le_pow_of_le_one (by linarith) (by linarith) hk
  · exact pow_le_pow_right₀ (by linarith) hk

theorem approx_trans {ε a b c : ℚ} {i j : ℕ} (hε1 : ε ≤ 1)
    (h1 : Approx ε i a b) (h2 : Approx ε j b c) : Approx ε (i + j) a c := by
  obtain ⟨f, hf, hf1, hf2⟩ := h1
  obtain ⟨g, hg, hg1, hg2⟩ := h2
  have hl0 : 0 ≤ (1 - ε) ^ i := pow_nonneg (by linarith) i
  have hl0' : 0 ≤ (1 - ε) ^ j := pow_nonneg (by linarith) j
  have hf0 : 0 ≤ f := le_trans hl0 hf1
  have hg0 : 0 ≤ g := le_trans hl0' hg1
  have e1 : (1 - ε) ^ (i + j) = (1 - ε) ^ j * (1 - ε) ^ i := by ring
  have e2 : (1 + ε) ^ (i + j) = (1 + ε) ^ j * (1 + ε) ^ i := by ring
  refine ⟨g * f, by rw [hf, hg]; ring, ?_, ?_⟩
  · rw [e1]; exact mul_le_mul hg1 hf1 hl0 hg0
  · rw [e2]; exact mul_le_mul hg2 hf2 hf0 (le_trans hg0 hg2)

theorem approx_mul {ε a b c d : ℚ} {i j : ℕ} (hε1 : ε ≤ 1) (h1 : Approx ε i a b) (h2 : Approx ε j c d) :
    Approx ε (i + j) (a * c) (b * d) := by
  obtain ⟨f, hf, hf1, hf2⟩ := h1
  obtain ⟨g, hg, hg1, hg2⟩ := h2
  have hl0 : 0 ≤ (1 - ε) ^ i := pow_nonneg (by linarith) i
  have hl0' : 0 ≤ (1 - ε) ^ j := pow_nonneg (by linarith) j
  have hf0 : 0 ≤ f := le_trans hl0 hf1
  have hg0 : 0 ≤ g := le_trans hl0' hg1
  refine ⟨f * g, by rw [hf, hg]; ring, ?_, ?_⟩
  · rw [pow_add]; exact mul_le_mul hf1 hg1 hl0' hf0
  · rw [pow_add]; exact mul_le_mul hf2 hg2 hg0 (le_trans hf0 hf2)

/-- a rounded squaring: `2k + 1` accumulated errors -/
theorem Approx.sqr {ε a b r : ℚ} {k : ℕ} (hε : 0 ≤ ε) (hε1 : ε ≤ 1) (h : Approx ε k a b)
    (hr : |r - a * a| ≤ ε * |a * a|) : Approx ε (2 * k + 1) r (b * b) :=
  (show 1 + (k + k) = 2 * k + 1 by omega) ▸ approx_trans hε1 (approx_of_near hε hr) (approx_mul hε1 h h)

/-- a rounded multiplication by an exact factor: `k + 1` accumulated errors -/
theorem Approx.mul_exact {ε a b c r : ℚ} {k : ℕ} (hε : 0 ≤ ε) (hε1 : ε ≤ 1) (h : Approx ε k a b)
    (hr : |r - a * c| ≤ ε * |a * c|) : Approx ε (k + 1) r (b * c) :=
  (show 1 + (k + 0) = k + 1 by omega) ▸ approx_trans hε1 (approx_of_near hε hr) (approx_mul hε1 h (Approx.refl ε c))

theorem approx_mono_eps {ε ε' a b : ℚ} {k : ℕ} (hε : 0 ≤ ε) (hle : ε ≤ ε') (hε1 : ε' ≤ 1) (h : Approx ε k a b) :
    Approx ε' k a b := by
  obtain ⟨f, hf, hf1, hf2⟩ := h
  refine ⟨f, hf, le_trans ?_ hf1, le_trans hf2 ?_⟩
  · exact pow_le_pow_left₀ (by linarith) (by linarith) k
  · exact pow_le_pow_left₀ (by linarith) (by linarith) k

/-- the sum of approximations of two non-negative quantities approximates their sum (no new error) -/
theorem approx_add {ε a b s t : ℚ} {K : ℕ} (hε : 0 ≤ ε) (hε1 : ε ≤ 1) (hs : 0 ≤ s) (ht : 0 ≤ t)
    (ha : Approx ε K a s) (hb : Approx ε K b t) : Approx ε K (a + b) (s + t) := by
  obtain ⟨f, hf, hf1, hf2⟩ := ha
  obtain ⟨g, hg, hg1, hg2⟩ := hb
  by_cases h0 : s + t = 0
  · have hs0 : s = 0 := by linarith
    have ht0 : t = 0 := by linarith
    refine ⟨1, by rw [hf, hg, hs0, ht0]; ring, ?_, ?_⟩
    · exact pow_le_one₀ (by linarith) (by linarith)
    · exact one_le_pow₀ (by linarith)
  · have hpos : 0 < s + t := lt_of_le_of_ne (by linarith) (Ne.symm h0)
    have h1 := mul_le_mul_of_nonneg_left hf1 hs
    have h2 := mul_le_mul_of_nonneg_left hg1 ht
    have h3 := mul_le_mul_of_nonneg_left hf2 hs
    have h4 := mul_le_mul_of_nonneg_left hg2 ht
    refine ⟨(s * f + t * g) / (s + t), ?_, ?_, ?_⟩
    · rw [hf, hg]; field_simp
    · rw [le_div_iff₀ hpos]; linarith
    · rw [div_le_iff₀ hpos]; linarith

theorem pow_le_linear {ε : ℚ} (hε : 0 ≤ ε) : ∀ K : ℕ, 2 * (K : ℚ) * ε ≤ 1 → (1 + ε) ^ K ≤ 1 + 2 * (K : ℚ) * ε := by
  intro K
  induction K with
  | zero => intro _; simp
  | succ K ih =>
    intro h
    have hK : 2 * (K : ℚ) * ε ≤ 1 := by push_cast at h; linarith
    have := ih hK
    rw [pow_succ]
    push_cast at h ⊢
    have h1 : (1 + ε) ^ K * (1 + ε) ≤ (1 + 2 * (K : ℚ) * ε) * (1 + ε) :=
      mul_le_mul_of_nonneg_right this (by linarith)
    linarith [mul_le_mul_of_nonneg_right hK hε]

/-- Bernoulli's inequality -/
theorem one_sub_mul_le_pow {ε : ℚ} (hε : 0 ≤ ε) (hε1 : ε ≤ 1) : ∀ K : ℕ, 1 - (K : ℚ) * ε ≤ (1 - ε) ^ K := by
  intro K
  induction K with
  | zero => simp
  | succ K ih =>
    rw [pow_succ]
    push_cast
    have h0 : 0 ≤ (1 - ε) ^ K := pow_nonneg (by linarith) K
    have h1 : (1 - (K : ℚ) * ε) * (1 - ε) ≤ (1 - ε) ^ K * (1 - ε) :=
      mul_le_mul_of_nonneg_right ih (by linarith)
    linarith [mul_nonneg (mul_nonneg (Nat.cast_nonneg K : (0:ℚ) ≤ K) hε) hε]

/-- the reciprocal costs one more error as long as `2kε ≤ 1`: with `q = ((1−ε)(1+ε))^k`, `q·(1−ε) ≤ 1 ≤ q·(1+ε)`,
    the second because `q ≥ 1 − kε²` -/
theorem approx_inv {ε a b : ℚ} {k : ℕ} (hε : 0 ≤ ε) (hε1 : ε ≤ 1) (hk : 2 * (k : ℚ) * ε ≤ 1) (h : Approx ε k a b) :
    Approx ε (k + 1) (1 / a) (1 / b) := by
  obtain ⟨f, hf, hf1, hf2⟩ := h
  have hP : (1 : ℚ) / 2 ≤ (1 - ε) ^ k := le_trans (by linarith) (one_sub_mul_le_pow hε hε1 k)
  have hfpos : 0 < f := by linarith
  have hQ : 0 ≤ (1 + ε) ^ k := pow_nonneg (by linarith) k
  have hεε : ε * ε ≤ 1 := mul_le_one₀ hε1 hε hε1
  have hq : (1 - ε) ^ k * (1 + ε) ^ k = (1 - ε * ε) ^ k := by rw [← mul_pow]; congr 1; ring
  have hq1 : (1 - ε * ε) ^ k ≤ 1 := pow_le_one₀ (by linarith) (by linarith [mul_nonneg hε hε])
  have hq2 := one_sub_mul_le_pow (mul_nonneg hε hε) hεε k
  refine ⟨1 / f, by rw [hf, one_div, one_div, one_div, mul_inv], ?_, ?_⟩
  · rw [le_div_iff₀ hfpos, pow_succ]
    have h1 : (1 - ε) ^ k * (1 - ε) * f ≤ (1 - ε) ^ k * (1 - ε) * (1 + ε) ^ k :=
      mul_le_mul_of_nonneg_left hf2 (mul_nonneg (by linarith) (by linarith))
    have h2 : (1 - ε * ε) ^ k * (1 - ε) ≤ 1 * (1 - ε) := mul_le_mul_of_nonneg_right hq1 (by linarith)
    linarith [hq ▸ (show (1 - ε) ^ k * (1 - ε) * (1 + ε) ^ k = (1 - ε) ^ k * (1 + ε) ^ k * (1 - ε) by ring)]
  · rw [div_le_iff₀ hfpos, pow_succ]
    have h1 : (1 + ε) ^ k * (1 + ε) * (1 - ε) ^ k ≤ (1 + ε) ^ k * (1 + ε) * f :=
      mul_le_mul_of_nonneg_left hf1 (mul_nonneg hQ (by linarith))
    have h2 : (1 - (k : ℚ) * (ε * ε)) * (1 + ε) ≤ (1 - ε * ε) ^ k * (1 + ε) :=
      mul_le_mul_of_nonneg_right hq2 (by linarith)
    have e : (1 + ε) ^ k * (1 + ε) * (1 - ε) ^ k = (1 - ε) ^ k * (1 + ε) ^ k * (1 + ε) := by ring
    rw [e, hq] at h1
    -- `(1 − kε²)(1 + ε) = 1 + ε·(1 − kε − kε·ε) ≥ 1`
    have h3 : (k : ℚ) * ε * ε ≤ 1 / 2 * ε := mul_le_mul_of_nonneg_right (by linarith) hε
    have h4 : (k : ℚ) * ε * ε * ε ≤ 1 / 2 * ε * ε := mul_le_mul_of_nonneg_right h3 hε
    have h5 : 1 / 2 * ε * ε ≤ 1 / 2 * ε * 1 := mul_le_mul_of_nonneg_left hε1 (by linarith)
    linarith

/-- the accumulated error as a plain relative bound -/
theorem Approx.abs_sub_le {ε a b : ℚ} {K : ℕ} (hε : 0 ≤ ε) (hε1 : ε ≤ 1) (hK : 2 * (K : ℚ) * ε ≤ 1)
    (h : Approx ε K a b) : |a - b| ≤ 2 * (K : ℚ) * ε * |b| := by
  obtain ⟨f, hf, hf1, hf2⟩ := h
  have h1 := pow_le_linear hε K hK
  have h2 := one_sub_mul_le_pow hε hε1 K
  have hKε : 0 ≤ (K : ℚ) * ε := mul_nonneg (Nat.cast_nonneg K) hε
  have hf' : |f - 1| ≤ 2 * (K : ℚ) * ε := by
    rw [abs_le]; constructor <;> linarith
  have e : a - b = b * (f - 1) := by rw [hf]; ring
  rw [e, abs_mul, mul_comm]
  exact mul_le_mul_of_nonneg_right hf' (abs_nonneg b)

end Dashu.Model.Trans
