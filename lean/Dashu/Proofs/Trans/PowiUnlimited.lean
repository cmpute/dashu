import Dashu.Proofs.Trans.Powi
import Dashu.Proofs.Float.Arith
/-
  C11 — `Context::powi` with a NON-negative exponent `n ≥ 2` at UNLIMITED precision
  (`self.precision = 0`): the `else` arm `Context::<R>::new(0)` of `let work_context = if self.is_limited() {…}`
  (`float/src/exp.rs`) runs the same binary-powering loop at working precision 0, where `Context::sqr` /
  `Context::mul` / `with_precision` do not round (`repr_round`: `if p = 0 then (r, none)`; the pre-shrink of
  `mul.rs` is guarded by `p ≠ 0`).  So the mirrored loop `powLoop … 0 …` returns EXACTLY `base^n`, every step and
  the final `with_precision(0)` flagged `Exact`.
-/
namespace Dashu.Model.Trans
open Dashu.Model.Float

/-- `Context::new(0).sqr(f)`: the exact square, flagged Exact (with or without the pre-shrink) -/
theorem ctxSqr_unlimited (fixed : Bool) (B : Nat) (hB : 0 < B) (m : Mode) (c : Coarse) (f : FRepr) :
    (ctxSqr fixed B m c 0 f).1.toRat B = f.toRat B * f.toRat B ∧ (ctxSqr fixed B m c 0 f).2 = none := by
  have h2 : (2 : Int) * f.exp = f.exp + f.exp := by omega
  cases fixed <;> simp [ctxSqr, preShrink, reprRound, h2, toRat_mul B hB]

/-- `Context::new(0).mul(a, b)`: the exact product, flagged Exact -/
theorem ctxMul_unlimited (fixed : Bool) (B : Nat) (hB : 0 < B) (m : Mode) (c : Coarse) (a b : FRepr) :
    (ctxMul fixed B m c 0 a b).1.toRat B = a.toRat B * b.toRat B ∧ (ctxMul fixed B m c 0 a b).2 = none := by
  cases fixed <;> simp [ctxMul, preShrink, reprRound, toRat_mul B hB]

/-- invariant of the loop at working precision 0: no error is ever introduced -/
theorem powLoop_unlimited (fixed : Bool) (B : Nat) (hB : 0 < B) (m : Mode) (c : Coarse) (base : FRepr) :
    ∀ (bs : List Bool) (cur : FRepr) (acc : Nat), cur.toRat B = (base.toRat B) ^ acc →
      (powLoop fixed B m c 0 base bs cur).toRat B = (base.toRat B) ^ (bitsVal bs acc) := by
  intro bs
  induction bs with
  | nil => intro cur acc h; simpa [powLoop, bitsVal] using h
  | cons b bs ih =>
    intro cur acc h
    simp only [powLoop, bitsVal]
    apply ih
    cases b with
    | false =>
      simp only [Bool.false_eq_true, if_false, Nat.add_zero]
      rw [(ctxSqr_unlimited fixed B hB m c cur).1, h]; ring
    | true =>
      simp only [if_true]
      rw [(ctxMul_unlimited fixed B hB m c _ base).1, (ctxSqr_unlimited fixed B hB m c cur).1, h]; ring

/-- non-vacuity / the loop as run: `(3·10⁻¹)^5 = 243·10⁻⁵` at precision 0, mode Down, code as it is -/
example : powLoop false 10 .down coarseNone 0 ⟨3, -1⟩ (lowBits 5) ⟨3, -1⟩ = ⟨243, -5⟩ := by decide +kernel

end Dashu.Model.Trans
