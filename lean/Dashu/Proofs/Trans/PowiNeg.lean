import Dashu.Model.Trans.PowiNeg
import Dashu.Proofs.Trans.Powi
import Dashu.Proofs.Float.Div
/-
  Error bound of `Context::powi` with a NEGATIVE exponent (reversed context, inner non-negative power,
  reciprocal, final rounding), from the C03 contracts and `powi_nonneg_error`.
-/
namespace Dashu.Model.Trans
open Dashu.Model.Float

theorem bpowQ_neg5_le (B : Nat) (hB : 2 ≤ B) : bpowQ B (-5) ≤ 1 / 32 := by
  rw [bpowQ_eq_zpow]
  have hB2 : (2 : ℚ) ≤ (B : ℚ) := by exact_mod_cast hB
  have h5 : (32 : ℚ) ≤ (B : ℚ) ^ (5 : ℕ) := by
    calc (32 : ℚ) = 2 ^ 5 := by norm_num
      _ ≤ (B : ℚ) ^ 5 := pow_le_pow_left₀ (by norm_num) hB2 5
  have hpos : (0 : ℚ) < (B : ℚ) ^ (5 : ℕ) := by positivity
  rw [show (-5 : Int) = -((5 : ℕ) : Int) from rfl, zpow_neg, zpow_natCast, one_div]
  exact inv_anti₀ (by norm_num) h5

theorem toRat_ne_zero (B : Nat) (hB : 2 ≤ B) (r : FRepr) (h : r.signif ≠ 0) : r.toRat B ≠ 0 := by
  unfold FRepr.toRat
  exact mul_ne_zero (by exact_mod_cast h) (bpowQ_pos B (by omega) _).ne'

theorem signif_ne_zero_of_toRat (B : Nat) (r : FRepr) (h : r.toRat B ≠ 0) : r.signif ≠ 0 := by
  intro h0; apply h; unfold FRepr.toRat; simp [h0]

/-- **Error of `powi` with a negative exponent `-n`** (`n ≥ 1`, `p ≥ 2`, base ≠ 0): the value `inv` handed to the
    final rounding is within relative distance `8·B^(1 − p − 2·bit_len p)` of `base^(-n)`, and the result is the
    correct mode-`m` rounding of `inv` to `p` digits. -/
theorem powi_neg_error (B : Nat) (hB : 2 ≤ B) (m : Mode) (c : Coarse) (hc : CoarseSound c) (p : Nat) (hp : 2 ≤ p)
    (base : FRepr) (hn : Normalized B base) (hb0 : base.signif ≠ 0) (n : Nat) (hn1 : 1 ≤ n)
    (hbase : base.digits B ≤ 2 * powiWorkPrec (powiNegPrec p) (lowBits n)) :
    ∃ pow inv out, powiNeg false B m c p base n = .ok (pow, inv, out) ∧
      |inv.toRat B - 1 / (base.toRat B) ^ n|
        ≤ 8 * bpowQ B (1 - (powiNegPrec p : Int)) * |1 / (base.toRat B) ^ n| ∧
      Contract B m p (inv.toRat B) (out.1.toRat B) out.2 := by
  have hB0 : 0 < B := by omega
  have hbl : 2 ≤ bitLen p := by
    unfold bitLen
    have : p ≠ 0 := by omega
    simp only [this, if_false]
    have : 1 ≤ p.log2 := by
      have h2 : 2 ^ 1 ≤ p := by omega
      exact (Nat.le_log2 (by omega)).mpr h2
    omega
  set p' := powiNegPrec p with hp'
  have hp'6 : 6 ≤ p' := by rw [hp']; unfold powiNegPrec; omega
  have hp'1 : 1 ≤ p' := by omega
  obtain ⟨h1, h2⟩ := Dashu.Model.Trans.powi_nonneg_error B hB (revMode m) c hc p' hp'1 base hn (lowBits n) hbase
  rw [bitsVal_lowBits n hn1] at h1
  have hX0 : (base.toRat B) ^ n ≠ 0 := pow_ne_zero n (toRat_ne_zero B hB base hb0)
  set pow := (powiNonneg false B (revMode m) c p' base (lowBits n)).2.1 with hpow
  -- with `ε = B^(1−p') ≤ 1/32`: `pow` is `X = base^n` up to 2 errors `ε`, `1/pow` is `1/X` up to 3, its rounding `inv` up to 4
  obtain ⟨ε, hε, hε0, hε32⟩ : ∃ ε, ε = bpowQ B (1 - (p' : Int)) ∧ 0 ≤ ε ∧ ε ≤ 1 / 32 :=
    ⟨_, rfl, (bpowQ_pos B hB0 _).le, le_trans (bpowQ_mono B hB _ _ (by omega)) (bpowQ_neg5_le B hB)⟩
  have hε1 : ε ≤ 1 := by linarith
  have hyX := le_trans h1 (mul_le_mul_of_nonneg_right
    (bpowQ_mono B hB _ (1 - (p' : Int)) (by have := bitLen_pos p' hp'1; omega)) (abs_nonneg _))
  have hpy := near_of_contract B hB (revMode m) p' _ _ _ h2
  rw [← hε] at hyX hpy ⊢
  have hpX := approx_trans hε1 (approx_of_near hε0 hpy) (approx_of_near hε0 hyX)
  have hpow0 : pow.toRat B ≠ 0 := by
    obtain ⟨f, hf, hf1, _⟩ := hpX
    have hfpos : 0 < f := lt_of_lt_of_le (pow_pos (by linarith) _) hf1
    rw [hf]; exact mul_ne_zero hX0 hfpos.ne'
  obtain ⟨rdiv, hdiv, hcdiv⟩ := reprDiv_contract B hB (revMode m) p' hp'1 ⟨1, 0⟩ pow
    (signif_ne_zero_of_toRat B pow hpow0)
  have hone : (⟨1, 0⟩ : FRepr).toRat B = 1 := by
    unfold FRepr.toRat; simp [bpowQ]
  rw [hone] at hcdiv
  have hinv1 := near_of_contract B hB (revMode m) p' _ _ _ hcdiv
  rw [← hε] at hinv1
  have hinv := approx_trans hε1 (approx_of_near hε0 hinv1)
    (approx_inv hε0 hε1 (by push_cast; linarith) hpX)
  refine ⟨pow, rdiv.1, reprRound B m c p rdiv.1, ?_, ?_, ?_⟩
  · unfold powiNeg
    simp only []
    rw [← hp', ← hpow, hdiv]
  · have := Approx.abs_sub_le hε0 hε1 (by push_cast; linarith) hinv
    push_cast at this
    linarith
  · exact reprRound_contract B hB m c hc p (by omega) _ (reprDiv_keeps (FRepr.new_normalized B hB) hdiv)

end Dashu.Model.Trans
