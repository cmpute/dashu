import Dashu.Proofs.Trans.Log
import Mathlib.Analysis.SpecialFunctions.Pow.Real
/-
  `acothL n = L(n) = atanh(1/n) = ½·log((n+1)/(n−1))`, the function `Context::iacoth` sums, in which `Props/C11Formulas` states
  the closed formulas of `float/src/exp.rs` and `float/src/log.rs`.
-/
namespace Dashu.Model.Trans
open Real

noncomputable def acothL (n : ℝ) : ℝ := (Real.log (n + 1) - Real.log (n - 1)) / 2

theorem acothL_eq_atanhL (n : ℝ) (hn : 1 < n) : acothL n = atanhL (1 / n) / 2 := by
  unfold acothL atanhL
  have hn0 : (0 : ℝ) < n := by linarith
  have e1 : 1 + 1 / n = (n + 1) / n := by field_simp
  have e2 : 1 - 1 / n = (n - 1) / n := by field_simp
  rw [e1, e2, Real.log_div (by linarith) hn0.ne', Real.log_div (by linarith) hn0.ne']
  ring

end Dashu.Model.Trans
