import Dashu.Proofs.Trans.StopTest
import Dashu.Props.C14
/-
  C11 — link of the stop tests of the series loops to C14's proved comparison kernel.
  The mirror of exp_internal / ln_internal writes `increase.abs_cmp(&sum.sub_ulp())` as `reprAbsCmp` (value order, decided by
  the digit positions when they differ).  C14 proves that the CODE's `AbsOrd for FBig` (`repr_cmp_same_base::<B, true>` with
  its exponent+precision / exponent+digits shortcuts, `reprCmpSameBase`) is the order of the magnitudes for every sound
  estimate oracle.  Here: C14's SPECIFICATION of `AbsOrd` / `Ord` on the two operands of a stop test is the same inequality of
  values that `reprAbsCmp` / `reprCmp` decide (`SeriesBound.reprAbsCmp_ne_gt_iff`, `reprCmp_lt_iff`); `Props/C11Link` composes
  the two: the stop test decides the same whichever of the two is evaluated.
-/
namespace Dashu.Proofs.Trans.StopLink
open Dashu.Model.Float Dashu.Model.Trans Dashu.Model.Cross

/-- C14's specification of `AbsOrd` on the two operands of the stop test, read as the same inequality -/
theorem absCmp_spec_ne_gt_iff (B : Nat) (hB : 2 ≤ B) (a : FRepr) (e : Int) (h0 : 0 < a.signif) (pa pb : Nat) :
    XVal.absCmp (Num.fbig B a.signif a.exp pa).value (Num.fbig B 1 e pb).value ≠ some .gt
      ↔ a.toRat B ≤ bpowQ B e := by
  have hB0 : 0 < B := by omega
  have hs : a.signif ≠ 0 := by omega
  have h1 : (1 : Int) ≠ 0 := by omega
  simp only [Num.value, if_neg hs, if_neg h1, XVal.absCmp, XVal.abs]
  rw [Ne, Dashu.Props.C14.spec_gt (floatFrac_den_pos hB _ _) (floatFrac_den_pos hB _ _),
    Dashu.Props.C14.abs_value_rat, Dashu.Props.C14.abs_value_rat,
    Dashu.Props.C14.float_value_rat hB, Dashu.Props.C14.float_value_rat hB, not_lt]
  have hbp : (0 : ℚ) < (B : ℚ) := by exact_mod_cast hB0
  have hp1 : (0 : ℚ) < (B : ℚ) ^ e := zpow_pos hbp e
  have hp2 : (0 : ℚ) < (B : ℚ) ^ a.exp := zpow_pos hbp _
  have hsq : (0 : ℚ) < (a.signif : ℚ) := by exact_mod_cast h0
  rw [abs_of_pos (mul_pos hsq hp2), Int.cast_one, one_mul, abs_of_pos hp1]
  unfold FRepr.toRat
  rw [bpowQ_eq_zpow, bpowQ_eq_zpow]

/-- C14's specification of `Ord` on the two operands of iacoth's stop test `increase < sum.sub_ulp()` -/
theorem cmp_spec_lt_iff (B : Nat) (hB : 2 ≤ B) (a : FRepr) (e : Int) (hs : a.signif ≠ 0) (pa pb : Nat) :
    XVal.cmp (Num.fbig B a.signif a.exp pa).value (Num.fbig B 1 e pb).value = some .lt
      ↔ a.toRat B < bpowQ B e := by
  have h1 : (1 : Int) ≠ 0 := by omega
  simp only [Num.value, if_neg hs, if_neg h1]
  rw [Dashu.Props.C14.spec_lt (floatFrac_den_pos hB _ _) (floatFrac_den_pos hB _ _),
    Dashu.Props.C14.float_value_rat hB, Dashu.Props.C14.float_value_rat hB, Int.cast_one, one_mul]
  unfold FRepr.toRat
  rw [bpowQ_eq_zpow, bpowQ_eq_zpow]

end Dashu.Proofs.Trans.StopLink
