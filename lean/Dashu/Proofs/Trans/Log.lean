import Dashu.Proofs.Trans.Grid
import Mathlib.Analysis.SpecialFunctions.Log.Deriv
import Mathlib.Analysis.SpecialFunctions.Log.Basic
import Mathlib.Analysis.SpecificLimits.Basic
/-
  Soundness of the logarithm enclosure `lnEncl` of `Dashu/Model/Trans/Encl.lean`:

      (lnEncl x n).1 ≤ Real.log x ≤ (lnEncl x n).2      for every rational x > 0, every n.
-/
namespace Dashu.Model.Trans

open Finset

/-! ### analytic part: `L z = log (1+z) - log (1-z) = 2 atanh z` -/

noncomputable def atanhL (z : ℝ) : ℝ := Real.log (1 + z) - Real.log (1 - z)

/-- partial sum `Σ_{j<N} z^(2j+1)/(2j+1)` of the `atanh` series -/
def atanhSum {K : Type} [Field K] (z : K) (N : ℕ) : K :=
  ∑ j ∈ range N, z ^ (2 * j + 1) / ((2 * j + 1 : ℕ) : K)

theorem atanhSum_succ {K : Type} [Field K] (z : K) (N : ℕ) :
    atanhSum z (N + 1) = atanhSum z N + z ^ (2 * N + 1) / ((2 * N + 1 : ℕ) : K) := by
  unfold atanhSum; rw [sum_range_succ]

theorem atanhSum_cast (z : ℚ) (N : ℕ) : ((atanhSum z N : ℚ) : ℝ) = atanhSum (z : ℝ) N := by
  unfold atanhSum; push_cast; rfl

theorem atanhSum_term_eq (z : ℝ) (N : ℕ) :
    ∑ k ∈ range N, (2 : ℝ) * (1 / (2 * k + 1)) * z ^ (2 * k + 1) = 2 * atanhSum z N := by
  unfold atanhSum
  rw [mul_sum]
  apply sum_congr rfl
  intro k _
  push_cast
  ring

/-- (a) partial sums are lower bounds -/
theorem atanhSum_le_L {z : ℝ} (h0 : 0 ≤ z) (h1 : z < 1) (N : ℕ) : 2 * atanhSum z N ≤ atanhL z := by
  have h := Real.hasSum_log_sub_log_of_abs_lt_one (x := z) (by rw [abs_of_nonneg h0]; exact h1)
  have := sum_le_hasSum (range N) (fun i _ => by positivity) h
  rw [atanhSum_term_eq] at this
  exact this

/-- (b) partial sum plus geometric tail is an upper bound -/
theorem L_le_atanhSum_add {z : ℝ} (h0 : 0 ≤ z) (h1 : z < 1) (N : ℕ) :
    atanhL z ≤ 2 * atanhSum z N + 2 * z ^ (2 * N + 1) / (((2 * N + 1 : ℕ) : ℝ) * (1 - z ^ 2)) := by
  have h := Real.hasSum_log_sub_log_of_abs_lt_one (x := z) (by rw [abs_of_nonneg h0]; exact h1)
  have h' := (hasSum_nat_add_iff' N).mpr h
  rw [atanhSum_term_eq] at h'
  have hz2 : z ^ 2 < 1 := pow_lt_one₀ h0 h1 two_ne_zero
  have hz2' : 0 ≤ z ^ 2 := by positivity
  have geo := (hasSum_geometric_of_lt_one hz2' hz2).mul_left (2 * z ^ (2 * N + 1) / ((2 * N + 1 : ℕ) : ℝ))
  have hle := hasSum_le (fun i => ?_) h' geo
  · have e : 2 * z ^ (2 * N + 1) / ((2 * N + 1 : ℕ) : ℝ) * (1 - z ^ 2)⁻¹
        = 2 * z ^ (2 * N + 1) / (((2 * N + 1 : ℕ) : ℝ) * (1 - z ^ 2)) := by
      have hne : (1 - z ^ 2) ≠ 0 := (sub_pos.2 hz2).ne'
      have hne' : ((2 * N + 1 : ℕ) : ℝ) ≠ 0 := by positivity
      field_simp
    rw [e] at hle
    show Real.log (1 + z) - Real.log (1 - z) ≤ _
    linarith only [hle]
  · -- termwise comparison
    have hp : z ^ (2 * (i + N) + 1) = z ^ (2 * N + 1) * (z ^ 2) ^ i := by
      rw [← pow_mul, ← pow_add]; congr 1; ring
    rw [hp]
    have hN : (0 : ℝ) < ((2 * N + 1 : ℕ) : ℝ) := by positivity
    have hd : (1 : ℝ) / (2 * ((i + N : ℕ) : ℝ) + 1) ≤ 1 / ((2 * N + 1 : ℕ) : ℝ) := by
      apply one_div_le_one_div_of_le hN
      push_cast
      have : (0 : ℝ) ≤ (i : ℝ) := Nat.cast_nonneg i
      linarith only [this]
    have hnn : (0 : ℝ) ≤ z ^ (2 * N + 1) * (z ^ 2) ^ i := by positivity
    calc 2 * (1 / (2 * ((i + N : ℕ) : ℝ) + 1)) * (z ^ (2 * N + 1) * (z ^ 2) ^ i)
        ≤ 2 * (1 / ((2 * N + 1 : ℕ) : ℝ)) * (z ^ (2 * N + 1) * (z ^ 2) ^ i) := by
          apply mul_le_mul_of_nonneg_right _ hnn
          linarith only [hd]
      _ = 2 * z ^ (2 * N + 1) / ((2 * N + 1 : ℕ) : ℝ) * (z ^ 2) ^ i := by ring

/-- (c) monotonicity on `[0, 1)` -/
theorem atanhL_mono {a b : ℝ} (ha : 0 ≤ a) (hab : a ≤ b) (hb : b < 1) : atanhL a ≤ atanhL b := by
  unfold atanhL
  have h1 : Real.log (1 + a) ≤ Real.log (1 + b) := Real.log_le_log (by linarith) (by linarith)
  have h2 : Real.log (1 - b) ≤ Real.log (1 - a) := Real.log_le_log (by linarith) (by linarith)
  linarith

/-- (d) `log t = L ((t-1)/(t+1))` -/
theorem atanhL_eq_log {t : ℝ} (ht : 1 ≤ t) : atanhL ((t - 1) / (t + 1)) = Real.log t := by
  unfold atanhL
  have hp : (0 : ℝ) < t + 1 := by linarith
  have e1 : 1 + (t - 1) / (t + 1) = 2 * t / (t + 1) := by field_simp; ring
  have e2 : 1 - (t - 1) / (t + 1) = 2 / (t + 1) := by field_simp; ring
  have ht0 : t ≠ 0 := by linarith
  rw [e1, e2, ← Real.log_div (by positivity) (by positivity)]
  congr 1
  field_simp

/-! ### the rounded series -/

theorem atanhSeries_inv (m : ℕ) (zl zu zl2 zu2 : ℚ) (hzl : 0 ≤ zl) (hzu : 0 ≤ zu)
    (hl2 : 0 ≤ zl2) (hl2' : zl2 ≤ zl ^ 2) (hu2 : zu ^ 2 ≤ zu2) :
    ∀ (f i : ℕ) (pl pu sl su : ℚ), 0 ≤ pl → pl ≤ zl ^ (2 * i + 1) → zu ^ (2 * i + 1) ≤ pu →
      sl ≤ atanhSum zl i → atanhSum zu i ≤ su →
      (atanhSeries m zl2 zu2 f i pl pu sl su).1 ≤ atanhSum zl (i + f) ∧
      atanhSum zu (i + f) ≤ (atanhSeries m zl2 zu2 f i pl pu sl su).2.1 ∧
      zu ^ (2 * (i + f) + 1) ≤ (atanhSeries m zl2 zu2 f i pl pu sl su).2.2 := by
  intro f
  induction f with
  | zero =>
    intro i pl pu sl su _ _ hpu hsl hsu
    simp only [atanhSeries, Nat.add_zero]
    exact ⟨hsl, hsu, hpu⟩
  | succ f ih =>
    intro i pl pu sl su hpl0 hpl hpu hsl hsu
    have hpu0 : 0 ≤ pu := le_trans (by positivity) hpu
    have hzu2 : 0 ≤ zu2 := le_trans (by positivity) hu2
    have hi : (0 : ℚ) < ((2 * i + 1 : ℕ) : ℚ) := by positivity
    have e : i + (f + 1) = (i + 1) + f := by omega
    rw [e]
    simp only [atanhSeries]
    apply ih
    · exact rdn_nonneg m (mul_nonneg hpl0 hl2)
    · calc rdn m (pl * zl2) ≤ pl * zl2 := rdn_le _ _
        _ ≤ zl ^ (2 * i + 1) * zl ^ 2 := mul_le_mul hpl hl2' hl2 (by positivity)
        _ = zl ^ (2 * (i + 1) + 1) := by rw [← pow_add]; congr 1
    · calc zu ^ (2 * (i + 1) + 1) = zu ^ (2 * i + 1) * zu ^ 2 := by rw [← pow_add]; congr 1
        _ ≤ pu * zu2 := mul_le_mul hpu hu2 (by positivity) hpu0
        _ ≤ rup m (pu * zu2) := le_rup _ _
    · rw [atanhSum_succ]
      exact add_le_add hsl (le_trans (rdn_le _ _) (div_le_div_of_nonneg_right hpl hi.le))
    · rw [atanhSum_succ]
      exact add_le_add hsu (le_trans (div_le_div_of_nonneg_right hpu hi.le) (le_rup _ _))

/-- the core of `lnGe1`, with the heuristic parameters abstracted -/
theorem lnGe1_core (m N : ℕ) (z zl zu zl2 zu2 : ℚ) (hz0 : 0 ≤ z)
    (hzl0 : 0 ≤ zl) (hzl : zl ≤ z) (hzu : z ≤ zu)
    (hl2 : 0 ≤ zl2) (hl2' : zl2 ≤ zl ^ 2) (hu2 : zu ^ 2 ≤ zu2) (hu1 : zu2 < 1) :
    ((2 * (atanhSeries m zl2 zu2 N 0 zl zu 0 0).1 : ℚ) : ℝ) ≤ atanhL (z : ℝ) ∧
    atanhL (z : ℝ) ≤ ((2 * ((atanhSeries m zl2 zu2 N 0 zl zu 0 0).2.1 +
      rup m ((atanhSeries m zl2 zu2 N 0 zl zu 0 0).2.2 / (((2 * N + 1 : ℕ) : ℚ) * (1 - zu2)))) : ℚ) : ℝ) := by
  have hzu0 : 0 ≤ zu := le_trans hz0 hzu
  have hzu1 : zu < 1 := (pow_lt_one_iff_of_nonneg hzu0 two_ne_zero).1 (lt_of_le_of_lt hu2 hu1)
  have hz1 : z < 1 := lt_of_le_of_lt hzu hzu1
  obtain ⟨h1, h2, h3⟩ := atanhSeries_inv m zl zu zl2 zu2 hzl0 hzu0 hl2 hl2' hu2 N 0 zl zu 0 0
    hzl0 (by simp) (by simp) (by simp [atanhSum]) (by simp [atanhSum])
  rw [Nat.zero_add] at h1 h2 h3
  generalize atanhSeries m zl2 zu2 N 0 zl zu 0 0 = r at h1 h2 h3 ⊢
  have hzR0 : (0 : ℝ) ≤ (z : ℝ) := by exact_mod_cast hz0
  have hzlR0 : (0 : ℝ) ≤ (zl : ℝ) := by exact_mod_cast hzl0
  have hzlR : (zl : ℝ) ≤ (z : ℝ) := by exact_mod_cast hzl
  have hzuR : (z : ℝ) ≤ (zu : ℝ) := by exact_mod_cast hzu
  have hzuR1 : (zu : ℝ) < 1 := by exact_mod_cast hzu1
  have hzR1 : (z : ℝ) < 1 := by exact_mod_cast hz1
  constructor
  · have a := atanhSum_le_L hzlR0 (lt_of_le_of_lt hzlR hzR1) N
    have c := atanhL_mono hzlR0 hzlR hzR1
    have h1R : (r.1 : ℝ) ≤ atanhSum (zl : ℝ) N := by
      rw [← atanhSum_cast]; exact_mod_cast h1
    push_cast
    linarith only [a, c, h1R]
  · have b := L_le_atanhSum_add (le_trans hzR0 hzuR) hzuR1 N
    have c := atanhL_mono hzR0 hzuR hzuR1
    have h2R : atanhSum (zu : ℝ) N ≤ (r.2.1 : ℝ) := by
      rw [← atanhSum_cast]; exact_mod_cast h2
    -- tail in ℚ
    have hN : (0 : ℚ) < ((2 * N + 1 : ℕ) : ℚ) := by positivity
    have hd1 : 0 < 1 - zu2 := by linarith
    have hd2 : 1 - zu2 ≤ 1 - zu ^ 2 := by linarith
    have hp0 : 0 ≤ zu ^ (2 * N + 1) := by positivity
    have htail : zu ^ (2 * N + 1) / (((2 * N + 1 : ℕ) : ℚ) * (1 - zu ^ 2))
        ≤ rup m (r.2.2 / (((2 * N + 1 : ℕ) : ℚ) * (1 - zu2))) := by
      refine le_trans ?_ (le_rup _ _)
      apply div_le_div₀ (le_trans hp0 h3) h3 (mul_pos hN hd1)
      exact mul_le_mul_of_nonneg_left hd2 hN.le
    have htailR : (zu : ℝ) ^ (2 * N + 1) / (((2 * N + 1 : ℕ) : ℝ) * (1 - (zu : ℝ) ^ 2))
        ≤ ((rup m (r.2.2 / (((2 * N + 1 : ℕ) : ℚ) * (1 - zu2))) : ℚ) : ℝ) := by
      have := (Rat.cast_le (K := ℝ)).mpr htail
      push_cast at this ⊢
      exact this
    rw [mul_div_assoc] at b
    push_cast at b htailR ⊢
    linarith only [b, c, h2R, htailR]

theorem lnGe1_sound (t : ℚ) (n : ℕ) (ht : 1 ≤ t) :
    ((lnGe1 t n).1 : ℝ) ≤ Real.log (t : ℝ) ∧ Real.log (t : ℝ) ≤ ((lnGe1 t n).2 : ℝ) := by
  have htR : (1 : ℝ) ≤ (t : ℝ) := by exact_mod_cast ht
  unfold lnGe1
  dsimp only
  have hp : (0 : ℚ) < t + 1 := by linarith
  have hz0 : 0 ≤ (t - 1) / (t + 1) := div_nonneg (by linarith) hp.le
  have hL : atanhL (((t - 1) / (t + 1) : ℚ) : ℝ) = Real.log (t : ℝ) := by
    rw [← atanhL_eq_log htR]; push_cast; rfl
  split_ifs with h hb <;> first
  | (rw [← hL]
     apply lnGe1_core _ _ ((t - 1) / (t + 1)) _ _ _ _ hz0
     · exact le_max_left _ _
     · exact max_le hz0 (rdn_le _ _)
     · exact le_rup _ _
     · exact rdn_nonneg _ (mul_nonneg (le_max_left _ _) (le_max_left _ _))
     · rw [pow_two]; exact rdn_le _ _
     · rw [pow_two]; exact le_rup _ _
     · exact h)
  | (constructor
     · simpa using Real.log_nonneg htR
     · have := Real.log_le_sub_one_of_pos (lt_of_lt_of_le one_pos htR)
       push_cast
       exact this)

theorem lnPos_sound (t : ℚ) (n : ℕ) (ht : 0 < t) :
    ((lnPos t n).1 : ℝ) ≤ Real.log (t : ℝ) ∧ Real.log (t : ℝ) ≤ ((lnPos t n).2 : ℝ) := by
  unfold lnPos
  split_ifs with h
  · exact lnGe1_sound t n h
  · have h : t < 1 := not_le.mp h
    have h1 : 1 ≤ 1 / t := by rw [le_div_iff₀ ht]; linarith
    obtain ⟨a, b⟩ := lnGe1_sound (1 / t) n h1
    have e : Real.log (((1 / t : ℚ)) : ℝ) = - Real.log (t : ℝ) := by
      push_cast; rw [one_div, Real.log_inv]
    rw [e] at a b
    dsimp only
    push_cast
    constructor <;> linarith

/-! ### argument reduction by powers of two -/

theorem log_scale2 (x : ℚ) (s : ℤ) (hx : 0 < x) :
    0 < scale2 x s ∧
    Real.log (x : ℝ) = (s : ℝ) * Real.log 2 + Real.log ((scale2 x s : ℚ) : ℝ) := by
  have hxr : (0 : ℝ) < (x : ℝ) := by exact_mod_cast hx
  unfold scale2
  split_ifs with h
  · obtain ⟨k, rfl⟩ := Int.eq_ofNat_of_zero_le h
    simp only [Int.toNat_natCast]
    constructor
    · positivity
    · push_cast
      rw [Real.log_div hxr.ne' (by positivity), Real.log_pow]; ring
  · obtain ⟨k, hk⟩ := Int.eq_ofNat_of_zero_le (by omega : 0 ≤ -s)
    have hs : s = -(k : ℤ) := by omega
    subst hs
    simp only [neg_neg, Int.toNat_natCast]
    constructor
    · positivity
    · push_cast
      rw [Real.log_mul hxr.ne' (by positivity), Real.log_pow]; ring

theorem scaleInt_sound (s : ℤ) (e : ℚ × ℚ) (v : ℝ) (h1 : (e.1 : ℝ) ≤ v) (h2 : v ≤ (e.2 : ℝ)) :
    ((scaleInt s e).1 : ℝ) ≤ (s : ℝ) * v ∧ (s : ℝ) * v ≤ ((scaleInt s e).2 : ℝ) := by
  unfold scaleInt
  split_ifs with h
  · have hs : (0 : ℝ) ≤ (s : ℝ) := by exact_mod_cast h
    push_cast
    exact ⟨mul_le_mul_of_nonneg_left h1 hs, mul_le_mul_of_nonneg_left h2 hs⟩
  · have hs : (s : ℝ) ≤ 0 := by
      have : s ≤ 0 := by omega
      exact_mod_cast this
    push_cast
    exact ⟨mul_le_mul_of_nonpos_left h2 hs, mul_le_mul_of_nonpos_left h1 hs⟩

theorem lnEncl_sound (x : ℚ) (n : ℕ) (hx : 0 < x) :
    ((lnEncl x n).1 : ℝ) ≤ Real.log (x : ℝ) ∧ Real.log (x : ℝ) ≤ ((lnEncl x n).2 : ℝ) := by
  unfold lnEncl
  dsimp only
  generalize lnShift x = s
  obtain ⟨hpos, hlog⟩ := log_scale2 x s hx
  obtain ⟨a, b⟩ := lnPos_sound (scale2 x s) (n + 2) hpos
  split_ifs with h
  · subst h
    simp only [Int.cast_zero, zero_mul, zero_add] at hlog
    rw [hlog]
    exact ⟨a, b⟩
  · obtain ⟨c, d⟩ := lnGe1_sound 2 (n + s.natAbs.log2 + 3) (by norm_num)
    have e2 : (((2 : ℚ)) : ℝ) = 2 := by norm_num
    rw [e2] at c d
    obtain ⟨c', d'⟩ := scaleInt_sound s _ _ c d
    dsimp only
    push_cast
    rw [hlog]
    constructor <;> linarith

end Dashu.Model.Trans
