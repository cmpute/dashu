import Dashu.Model.Trans.Powi
import Dashu.Proofs.Trans.RelErr
import Dashu.Proofs.Float.Closing
import Dashu.Proofs.Float.Keeps
import Dashu.Proofs.Gen.BitLen
/-
  Error bound of the non-negative branch of `Context::powi` (DESIGN §8 C11 item 2), from the C03
  contracts of `sqr` / `mul` / `repr_round` (`Dashu/Proofs/Float`): the square-and-multiply loop counts its roundings
  in `Approx` (`errCount`); in the nearest modes a correct rounding of a working value within relative distance `κ` of
  the true one, `3κB^p ≤ 1`, is less than one ulp off (`half_lt_ulp`).
-/
namespace Dashu.Model.Trans
open Dashu.Model.Float

/-- number of accumulated errors: `2k+1` per squaring, one more per multiplication -/
def errCount : List Bool → Nat → Nat
  | [], k => k
  | b :: bs, k => errCount bs (2 * k + 1 + (if b then 1 else 0))

theorem errCount_le : ∀ (bs : List Bool) (k : Nat), errCount bs k + 2 ≤ 2 ^ bs.length * (k + 2) := by
  intro bs
  induction bs with
  | nil => intro k; simp [errCount]
  | cons b bs ih =>
    intro k
    simp only [errCount, List.length_cons, pow_succ]
    have := ih (2 * k + 1 + (if b then 1 else 0))
    have hb : (if b then 1 else 0) ≤ 1 := by split <;> omega
    calc errCount bs (2 * k + 1 + (if b then 1 else 0)) + 2
        ≤ 2 ^ bs.length * (2 * k + 1 + (if b then 1 else 0) + 2) := this
      _ ≤ 2 ^ bs.length * (2 * (k + 2)) := Nat.mul_le_mul_left _ (by omega)
      _ = 2 ^ bs.length * 2 * (k + 2) := by ring

/-- invariant of the loop -/
theorem powLoop_approx (B : Nat) (hB : 2 ≤ B) (m : Mode) (c : Coarse) (hc : CoarseSound c) (q : Nat) (hq : 1 ≤ q)
    (base : FRepr) :
    ∀ (bs : List Bool) (cur : FRepr) (k acc : Nat),
      Approx (bpowQ B (1 - (q : Int))) k (cur.toRat B) ((base.toRat B) ^ acc) →
      Approx (bpowQ B (1 - (q : Int))) (errCount bs k)
        ((powLoop true B m c q base bs cur).toRat B) ((base.toRat B) ^ (bitsVal bs acc)) := by
  have hB0 : 0 < B := by omega
  have hε0 : 0 ≤ bpowQ B (1 - (q : Int)) := (bpowQ_pos B hB0 _).le
  have hε1 := bpow_eps_le_one B hB q hq
  intro bs
  induction bs with
  | nil => intro cur k acc h; simpa [powLoop, errCount, bitsVal] using h
  | cons b bs ih =>
    intro cur k acc h
    simp only [powLoop, errCount, bitsVal]
    have hs := near_of_contract B hB m q _ _ _ (ctxSqr_contract B hB m c hc q hq cur)
    have hsq := Approx.sqr hε0 hε1 h hs
    cases b with
    | false =>
      simp only [if_false, Bool.false_eq_true, Nat.add_zero]
      apply ih
      have e : (base.toRat B) ^ (2 * acc) = (base.toRat B) ^ acc * (base.toRat B) ^ acc := by
        rw [two_mul, pow_add]
      rw [e]; exact hsq
    | true =>
      simp only [if_true]
      apply ih
      have hm := near_of_contract B hB m q _ _ _
        (opMul_contract B hB m c hc q hq (ctxSqr true B m c q cur).1 base)
      have hmul := Approx.mul_exact hε0 hε1 hsq hm
      have e : (base.toRat B) ^ (2 * acc + 1) = (base.toRat B) ^ acc * (base.toRat B) ^ acc * base.toRat B := by
        rw [pow_succ, two_mul, pow_add]
      rw [e]
      exact hmul

/-- the code as it is (with the pre-shrink of over-long operands) runs the same loop as long as the base has
    at most `2q` digits (always true for an `FBig`, whose digits do not exceed its precision `≤ q`) -/
theorem powLoop_asis (B : Nat) (hB : 2 ≤ B) (m : Mode) (c : Coarse) (q : Nat) (hq : 1 ≤ q) (base : FRepr)
    (hbase : base.digits B ≤ 2 * q) :
    ∀ (bs : List Bool) (cur : FRepr), cur.digits B ≤ 2 * q →
      powLoop false B m c q base bs cur = powLoop true B m c q base bs cur := by
  intro bs
  induction bs with
  | nil => intro cur _; rfl
  | cons b bs ih =>
    intro cur hcur
    simp only [powLoop]
    rw [ctxSqr_asis B m c q cur hcur]
    have hs : (ctxSqr true B m c q cur).1.digits B ≤ q := ctxSqr_digits_le true B hB m c q hq cur
    cases b with
    | false =>
      simp only [Bool.false_eq_true, if_false]
      exact ih _ (by omega)
    | true =>
      simp only [if_true]
      rw [ctxMul_asis B m c q _ base (by omega) hbase]
      exact ih _ (by have := ctxMul_digits_le true B hB m c q hq (ctxSqr true B m c q cur).1 base; omega)

theorem bitLen_pos (p : Nat) (hp : 1 ≤ p) : 1 ≤ bitLen p := Dashu.Proofs.Gen.blen_pos (Nat.ne_of_gt hp)

/-- **Error bound of `powi` with a non-negative exponent** `n = bitsVal bs 1` (bit length `L = bs.length + 1`),
    precision `p ≥ 1`, working precision `p + L + bit_len p` as in the source:
    the working value `y` is within relative distance `B^(2 − p − bit_len p)` of `base^n`, and the result is the
    correct mode-`m` rounding of `y` to `p` digits (C03 contract). -/
theorem powi_nonneg_error (B : Nat) (hB : 2 ≤ B) (m : Mode) (c : Coarse) (hc : CoarseSound c) (p : Nat) (hp : 1 ≤ p)
    (base : FRepr) (hn : Normalized B base) (bs : List Bool)
    (hbase : base.digits B ≤ 2 * powiWorkPrec p bs) :
    |(powiNonneg false B m c p base bs).1.toRat B - (base.toRat B) ^ (bitsVal bs 1)|
        ≤ bpowQ B (2 - (p : Int) - (bitLen p : Int)) * |(base.toRat B) ^ (bitsVal bs 1)| ∧
    Contract B m p ((powiNonneg false B m c p base bs).1.toRat B)
      ((powiNonneg false B m c p base bs).2.1.toRat B) (powiNonneg false B m c p base bs).2.2 := by
  have hB0 : 0 < B := by omega
  set q := powiWorkPrec p bs with hq
  have hq1 : 1 ≤ q := by rw [hq]; unfold powiWorkPrec; omega
  have hbl := bitLen_pos p hp
  unfold powiNonneg
  simp only []
  rw [← hq, powLoop_asis B hB m c q hq1 base hbase bs base hbase]
  constructor
  · have h0 : Approx (bpowQ B (1 - (q : Int))) 0 (base.toRat B) ((base.toRat B) ^ 1) := by
      simpa using Approx.refl _ (base.toRat B)
    have hA := powLoop_approx B hB m c hc q hq1 base bs base 0 1 h0
    have hε0 : 0 ≤ bpowQ B (1 - (q : Int)) := (bpowQ_pos B hB0 _).le
    have hε1 := bpow_eps_le_one B hB q hq1
    -- 2·K·ε ≤ B^(2 − p − bl p)
    have hK : errCount bs 0 + 2 ≤ 2 ^ bs.length * 2 := by simpa using errCount_le bs 0
    have hKq : (2 : ℚ) * (errCount bs 0 : ℚ) ≤ (2 : ℚ) ^ (bs.length + 2) := by
      have : 2 * errCount bs 0 ≤ 2 ^ (bs.length + 2) := by
        rw [pow_succ, pow_succ]; omega
      exact_mod_cast this
    have h2B : (2 : ℚ) ^ (bs.length + 2) ≤ (B : ℚ) ^ (bs.length + 2) :=
      pow_le_pow_left₀ (by norm_num) (by exact_mod_cast hB) _
    have hsplit : bpowQ B (2 - (p : Int) - (bitLen p : Int)) =
        bpowQ B ((bs.length + 2 : ℕ) : Int) * bpowQ B (1 - (q : Int)) := by
      rw [← bpowQ_add B hB0]; congr 1
      rw [hq]; unfold powiWorkPrec; push_cast; ring
    have hnat : bpowQ B ((bs.length + 2 : ℕ) : Int) = (B : ℚ) ^ (bs.length + 2) := by
      rw [bpowQ_nat]; push_cast; rfl
    have hbound : 2 * (errCount bs 0 : ℚ) * bpowQ B (1 - (q : Int)) ≤ bpowQ B (2 - (p : Int) - (bitLen p : Int)) := by
      rw [hsplit, hnat]
      exact mul_le_mul_of_nonneg_right (le_trans hKq h2B) hε0
    have hle1 : bpowQ B (2 - (p : Int) - (bitLen p : Int)) ≤ 1 := by
      rw [bpowQ_eq_zpow]
      have hB1 : (1 : ℚ) ≤ (B : ℚ) := by exact_mod_cast (by omega : 1 ≤ B)
      exact zpow_le_one_of_nonpos₀ hB1 (by omega)
    have := Approx.abs_sub_le hε0 hε1 (le_trans hbound hle1) hA
    exact le_trans this (mul_le_mul_of_nonneg_right hbound (abs_nonneg _))
  · exact reprRound_contract B hB m c hc p hp _ (powLoop_keeps (FRepr.new_normalized B hB) true m c q base bs hn)

/-- a nearest-mode rounding to `p` digits errs by at most half of any unit `B^E` with `|r| < B^(E+p)`: a coarser unit
    `B^e` of the contract would put `|r|`, a point of its grid below `B^(e+p−1) ≤ |y|`, a whole unit below `|y|` -/
theorem _root_.Dashu.Model.Float.Contract.half_err_le {B : Nat} (hB : 2 ≤ B) {m : Mode} (hm : m.isHalf = true) {p : Nat} (hp : 1 ≤ p)
    {y r : ℚ} {flag : Option Rounding} (hc : Contract B m p y r flag) {E : Int} (hE : |r| < bpowQ B (E + p)) :
    |r - y| ≤ bpowQ B E / 2 := by
  have hB0 : 0 < B := by omega
  by_cases hne : r = y
  · rw [hne, sub_self, abs_zero]; exact (half_pos (bpowQ_pos B hB0 E)).le
  obtain ⟨e, h1, h2, h3, t, ht⟩ := hc.unit hB0 hne
  have hepos := bpowQ_pos B hB0 e
  refine le_trans (h3 hm) (div_le_div_of_nonneg_right (bpowQ_mono B hB _ _ ?_) (by norm_num))
  by_contra hlt
  have hsplit := bpowQ_split B hB e (e + p - 1) (by omega)
  have hr : |r| = ((|t| : Int) : ℚ) * bpowQ B e := by rw [ht, abs_mul, abs_of_pos hepos, Int.cast_abs]
  have hgrid := grid_succ_le hepos (s := |t|) (t := ((B ^ (e + p - 1 - e).toNat : Nat) : Int))
    (by rw [← hr, ← hsplit]; exact lt_of_lt_of_le hE (bpowQ_mono B hB _ _ (by omega)))
  have := abs_sub_abs_le_abs_sub y r
  rw [abs_sub_comm y r, hr] at this
  rw [← hsplit] at hgrid
  linarith

/-- a value `r` within half a unit `u` of `y`, itself within relative distance `κ` of `X`, is less than one unit from
    `X` when `|r| < P·u` and `3κP ≤ 1`: then `κ|X| < u/2` -/
theorem lt_unit_of_half_of_near {u P κ r y X : ℚ} (hu : 0 < u) (hP : 2 ≤ P) (hκ0 : 0 ≤ κ)
    (hθ : 3 * (κ * P) ≤ 1) (hry : |r - y| ≤ u / 2) (hyX : |y - X| ≤ κ * |X|) (hr : |r| < P * u) :
    |r - X| < u := by
  have hκ6 : κ ≤ 1 / 6 := by linarith [mul_le_mul_of_nonneg_left hP hκ0]
  have h1 : |X| - |y| ≤ |y - X| := by rw [abs_sub_comm]; exact abs_sub_abs_le_abs_sub X y
  have h2 : |y| - |r| ≤ |r - y| := by rw [abs_sub_comm]; exact abs_sub_abs_le_abs_sub y r
  have hκX : κ * |X| < u / 2 := by
    rcases hκ0.eq_or_lt with h0 | hpos
    · rw [← h0, zero_mul]; exact half_pos hu
    · -- `κ(|X| − κ|X|) < κ(P·u + u/2) ≤ (1/3 + 1/12)·u` and `κ|X|·(5/6) ≤ κ(|X| − κ|X|)`
      have a := mul_lt_mul_of_pos_left (show |X| - κ * |X| < P * u + u / 2 by linarith) hpos
      have b := mul_le_mul_of_nonneg_right hθ hu.le
      have c := mul_le_mul_of_nonneg_right hκ6 hu.le
      have d := mul_le_mul_of_nonneg_left hκ6 (mul_nonneg hκ0 (abs_nonneg X))
      linarith
  calc |r - X| = |(r - y) + (y - X)| := by ring_nf
    _ ≤ |r - y| + |y - X| := abs_add_le _ _
    _ < u := by linarith

/-- Nearest modes: a correct half-mode rounding `r` of a working value `y` that is within relative distance
    `κ` of the true value `X`, with `3·κ·B^p ≤ 1`, is LESS THAN ONE ULP from `X` — for every unit `B^E` that is
    an ulp of `r` or coarser (`|r| < B^(E+p)`; `E = r.exp + digits r − p` is dashu's `ulp()`). -/
theorem half_lt_ulp (B : Nat) (hB : 2 ≤ B) (m : Mode) (hm : m.isHalf = true) (p : Nat) (hp : 1 ≤ p)
    (y r X κ : ℚ) (flag : Option Rounding) (hc : Contract B m p y r flag)
    (hκ0 : 0 ≤ κ) (hyX : |y - X| ≤ κ * |X|) (hθ : 3 * (κ * (B : ℚ) ^ p) ≤ 1)
    (E : Int) (hE : |r| < bpowQ B (E + p)) : |r - X| < bpowQ B E := by
  have hB0 : 0 < B := by omega
  have hB1 : (1 : ℚ) ≤ (B : ℚ) := by exact_mod_cast (by omega : 1 ≤ B)
  have hP : (2 : ℚ) ≤ (B : ℚ) ^ p :=
    le_trans (by exact_mod_cast hB) (le_self_pow₀ hB1 (by omega))
  have hEp : bpowQ B (E + p) = (B : ℚ) ^ p * bpowQ B E := by
    rw [bpowQ_add B hB0, bpowQ_nat, mul_comm]; push_cast; rfl
  exact lt_unit_of_half_of_near (bpowQ_pos B hB0 E) hP hκ0 hθ (hc.half_err_le hB hm hp hE) hyX (hEp ▸ hE)

theorem toRat_abs_lt (B : Nat) (hB : 2 ≤ B) (r : FRepr) :
    |r.toRat B| < bpowQ B (r.exp + (r.digits B : Int)) := by
  have hB0 : 0 < B := by omega
  unfold FRepr.toRat
  rw [abs_mul, abs_of_pos (bpowQ_pos B hB0 _), add_comm, bpowQ_add B hB0, bpowQ_nat]
  apply mul_lt_mul_of_pos_right _ (bpowQ_pos B hB0 _)
  have := digitsI_abs_lt B hB r.signif
  unfold FRepr.digits
  have h2 : ((|r.signif| : ℤ) : ℚ) < (((B ^ digitsI B r.signif : ℕ) : ℤ) : ℚ) := by exact_mod_cast this
  simpa using h2

/-- **`powi`, non-negative exponent, nearest modes: less than one ulp.**  With the guard digits of the source
    (`exp.bit_len + precision.bit_len`) and `3·B^(2 − bit_len p) ≤ 1` (`p ≥ 8` in base 2, `p ≥ 4` otherwise)
    the result is less than one `ulp()` of itself away from `base^n`. -/
theorem powi_nonneg_half_lt_ulp (B : Nat) (hB : 2 ≤ B) (m : Mode) (hm : m.isHalf = true) (c : Coarse)
    (hc : CoarseSound c) (p : Nat) (hp : 1 ≤ p) (hθ : 3 * bpowQ B (2 - (bitLen p : Int)) ≤ 1)
    (base : FRepr) (hn : Normalized B base) (bs : List Bool)
    (hbase : base.digits B ≤ 2 * powiWorkPrec p bs) :
    let r := (powiNonneg false B m c p base bs).2.1
    |r.toRat B - (base.toRat B) ^ (bitsVal bs 1)| < bpowQ B (r.exp + (r.digits B : Int) - (p : Int)) := by
  intro r
  have hB0 : 0 < B := by omega
  obtain ⟨h1, h2⟩ := powi_nonneg_error B hB m c hc p hp base hn bs hbase
  have hκθ : bpowQ B (2 - (p : Int) - (bitLen p : Int)) * (B : ℚ) ^ p = bpowQ B (2 - (bitLen p : Int)) := by
    have : (B : ℚ) ^ p = bpowQ B (p : Int) := by rw [bpowQ_nat]; push_cast; rfl
    rw [this, ← bpowQ_add B hB0]; congr 1; ring
  refine half_lt_ulp B hB m hm p hp _ _ _ _ _ h2 (bpowQ_pos B hB0 _).le h1 (by rw [hκθ]; exact hθ) _ ?_
  have := toRat_abs_lt B hB r
  have e : r.exp + (r.digits B : Int) - (p : Int) + (p : Int) = r.exp + (r.digits B : Int) := by ring
  rw [e]; exact this

/-! ### the bit list of an exponent -/

theorem bitsVal_range (n : Nat) : ∀ (k acc : Nat),
    bitsVal (((List.range k).reverse).map fun i => n.testBit i) acc = acc * 2 ^ k + n % 2 ^ k := by
  intro k
  induction k with
  | zero => intro acc; simp [bitsVal, Nat.mod_one]
  | succ k ih =>
    intro acc
    rw [List.range_succ, List.reverse_append]
    simp only [List.reverse_cons, List.reverse_nil, List.nil_append, List.singleton_append, List.map_cons, bitsVal]
    rw [ih, Nat.mod_pow_succ, Nat.testBit_eq_decide_div_mod_eq]
    have h2 : n / 2 ^ k % 2 = 0 ∨ n / 2 ^ k % 2 = 1 := by omega
    rcases h2 with h | h <;> simp [h, pow_succ] <;> ring

theorem bitsVal_lowBits (n : Nat) (hn : 1 ≤ n) : bitsVal (lowBits n) 1 = n := by
  unfold lowBits
  rw [bitsVal_range]
  unfold bitLen
  have hn0 : n ≠ 0 := by omega
  simp only [hn0, if_false, Nat.add_sub_cancel]
  have h1 := Nat.log2_self_le hn0
  have h2 : n < 2 ^ (n.log2 + 1) := Nat.lt_log2_self
  have h3 : n / 2 ^ n.log2 = 1 := by
    apply Nat.div_eq_of_lt_le
    · simpa using h1
    · rw [pow_succ] at h2; omega
  have := Nat.div_add_mod n (2 ^ n.log2)
  rw [h3] at this
  omega

theorem lowBits_length (n : Nat) : (lowBits n).length + 1 = max (bitLen n) 1 := by
  unfold lowBits; simp; omega

end Dashu.Model.Trans
