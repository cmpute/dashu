import Dashu.Proofs.Trans.SumStage
import Dashu.Proofs.Trans.Exp
/-
  C11 — the partial sum the Maclaurin loop of `exp_internal` returns, against the REAL exponential:
  accumulated rounding error (`SumStage.expLoop_result_error`) + truncation error of the series (Mathlib's
  `Real.exp_bound'`, `Real.sum_le_exp_of_nonneg`).
-/
namespace Dashu.Proofs.Trans.SumExp
open Dashu.Model.Float Dashu.Model.Trans Dashu.Proofs.Trans.SeriesBound Dashu.Proofs.Trans.SumStage
open Finset

theorem expPartial_eq_sum (r : ℚ) : ∀ i, expPartial r i = ∑ j ∈ range (i + 2), r ^ j / (j.factorial : ℚ) := by
  intro i
  induction i with
  | zero => simp [expPartial, sum_range_succ]
  | succ i ih =>
    have e : i + 1 + 2 = (i + 2) + 1 := by omega
    rw [expPartial, ih, e, sum_range_succ _ (i + 2)]

/-- the exact partial sum lies below `exp r` (`r ≥ 0`) -/
theorem expPartial_le_exp (r : ℚ) (hr : 0 ≤ r) (i : Nat) : ((expPartial r i : ℚ) : ℝ) ≤ Real.exp (r : ℝ) := by
  rw [expPartial_eq_sum]
  have hs : ((∑ j ∈ range (i + 2), r ^ j / (j.factorial : ℚ) : ℚ) : ℝ) =
      ∑ j ∈ range (i + 2), (r : ℝ) ^ j / (j.factorial : ℝ) := by push_cast; rfl
  rw [hs]
  exact Real.sum_le_exp_of_nonneg (by exact_mod_cast hr) _

/-- … and `exp r` exceeds it by at most twice the first omitted term (`0 ≤ r ≤ 1`) -/
theorem exp_le_expPartial (r : ℚ) (hr : 0 ≤ r) (hr1 : r ≤ 1) (i : Nat) :
    Real.exp (r : ℝ) ≤ ((expPartial r i : ℚ) : ℝ) + ((2 * (r ^ (i + 2) / ((i + 2).factorial : ℚ)) : ℚ) : ℝ) := by
  rw [expPartial_eq_sum]
  have hs : ((∑ j ∈ range (i + 2), r ^ j / (j.factorial : ℚ) : ℚ) : ℝ) =
      ∑ j ∈ range (i + 2), (r : ℝ) ^ j / (j.factorial : ℝ) := by push_cast; rfl
  have ht : ((2 * (r ^ (i + 2) / ((i + 2).factorial : ℚ)) : ℚ) : ℝ) =
      2 * ((r : ℝ) ^ (i + 2) / ((i + 2).factorial : ℝ)) := by push_cast; rfl
  rw [hs, ht]
  have hr' : (0 : ℝ) ≤ (r : ℝ) := by exact_mod_cast hr
  have hr1' : (r : ℝ) ≤ 1 := by exact_mod_cast hr1
  exact exp_le_sum_add_two hr' hr1' (by omega : 0 < i + 2)

/-- **the sum the Maclaurin loop of `exp_internal` returns, against `exp r`** (reduced argument `0 < r ≤ 1` held at
    `w ≥ 1` digits; `K = 2(k−2)+2` rounding errors with `2Kε ≤ 1`, `ε = B^(1−w)`):
    `|sum − exp r| ≤ 2Kε·exp r + 2·r^k/k!` — rounding part + truncation part -/
theorem expLoop_result_vs_exp (E : Env) (hB : 2 ≤ E.B) (hc : CoarseSound E.c) (hdub : DubSound E.B E.est.dub) (r : FBigM)
    (w : Nat) (hw : 1 ≤ w) (hrp : r.prec = w) (hr0 : 0 < r.repr.signif) (hr1 : val E.B r ≤ 1)
    (fuel : Nat) (res : FBigM × Nat) (h : expLoop E r fuel 1 r (fAddSub E FBigM.one r 1) 2 = .ok (some res))
    (hK : 2 * ((2 * (res.2 - 2) + 2 : ℕ) : ℚ) * bpowQ E.B (1 - (w : Int)) ≤ 1) :
    |((val E.B res.1 : ℚ) : ℝ) - Real.exp ((val E.B r : ℚ) : ℝ)| ≤
      ((2 * ((2 * (res.2 - 2) + 2 : ℕ) : ℚ) * bpowQ E.B (1 - (w : Int)) : ℚ) : ℝ) * Real.exp ((val E.B r : ℚ) : ℝ)
        + ((2 * ((val E.B r) ^ res.2 / (res.2.factorial : ℚ)) : ℚ) : ℝ) := by
  have hB0 : 0 < E.B := by omega
  have hε0 : 0 ≤ bpowQ E.B (1 - (w : Int)) := (bpowQ_pos E.B hB0 _).le
  have hε1 := bpow_eps_le_one E.B hB w hw
  have hrv : 0 < val E.B r := val_pos_of_signif E.B hB _ hr0
  obtain ⟨hk2, _, hA⟩ := expLoop_result_error E hB hc hdub r w hw hrp hr0 fuel res h
  obtain ⟨j, hj⟩ : ∃ j, res.2 = j + 2 := ⟨res.2 - 2, by omega⟩
  rw [hj] at hA hK ⊢
  simp only [Nat.add_sub_cancel] at hA hK ⊢
  have hP0 := expPartial_nonneg (val E.B r) hrv.le j
  have habs := Approx.abs_sub_le hε0 hε1 hK hA
  rw [abs_of_nonneg hP0] at habs
  have habsR : |((val E.B res.1 : ℚ) : ℝ) - ((expPartial (val E.B r) j : ℚ) : ℝ)| ≤
      ((2 * ((2 * j + 2 : ℕ) : ℚ) * bpowQ E.B (1 - (w : Int)) : ℚ) : ℝ) * ((expPartial (val E.B r) j : ℚ) : ℝ) := by
    exact_mod_cast habs
  have hlo := expPartial_le_exp (val E.B r) hrv.le j
  have hhi := exp_le_expPartial (val E.B r) hrv.le hr1 j
  have hc0 : (0 : ℝ) ≤ ((2 * ((2 * j + 2 : ℕ) : ℚ) * bpowQ E.B (1 - (w : Int)) : ℚ) : ℝ) := by
    have : (0 : ℚ) ≤ 2 * ((2 * j + 2 : ℕ) : ℚ) * bpowQ E.B (1 - (w : Int)) :=
      mul_nonneg (mul_nonneg (by norm_num) (Nat.cast_nonneg _)) hε0
    exact_mod_cast this
  have hcP := mul_le_mul_of_nonneg_left hlo hc0
  obtain ⟨ha1, ha2⟩ := abs_le.mp habsR
  rw [abs_le]
  constructor <;> linarith only [ha1, ha2, hlo, hhi, hcP]

end Dashu.Proofs.Trans.SumExp
