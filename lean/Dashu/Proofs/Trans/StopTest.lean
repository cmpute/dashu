import Dashu.Proofs.Trans.SumExp
/-
  C11 — the stop test of the Maclaurin loop composed with the rounding and truncation errors:
  when the loop returns, the first omitted term is at most `sub_ulp(sum)`, hence the truncation error is a small multiple of
  `B^(−w)·sum`.
-/
namespace Dashu.Proofs.Trans.StopTest
open Dashu.Model.Float Dashu.Model.Trans Dashu.Proofs.Trans.SeriesBound Dashu.Proofs.Trans.SumStage
open Dashu.Proofs.Trans.SumExp

/-- the stop test `|increase| <= threshold` against a power of the base, read as an inequality of values -/
theorem val_le_of_reprAbsCmp_ne_gt (B : Nat) (hB : 2 ≤ B) (a : FRepr) (e : Int) (h0 : 0 < a.signif)
    (h : reprAbsCmp B a ⟨1, e⟩ ≠ .gt) : a.toRat B ≤ bpowQ B e :=
  (SeriesBound.reprAbsCmp_ne_gt_iff B hB a e h0).1 h

/-- **one bound for the Maclaurin stage of `exp_internal`**: for a reduced argument `0 < r ≤ 1` held at `w ≥ 1` digits, a
    sound `digits_lb`/`digits_ub`/coarse test, the returned `(sum, k)` with `K = 2(k−2)+2`, `2Kε ≤ 1` and `kε ≤ 1/2`
    (`ε = B^(1−w)`) satisfies `|sum − exp r| ≤ 2Kε·exp r + 4·B^(−w)·sum`: all roundings of the loop, the truncation of the
    series and the stop test `|increase| ≤ sum.sub_ulp()` composed -/
theorem expLoop_stage_error (E : Env) (hB : 2 ≤ E.B) (hc : CoarseSound E.c) (hdub : DubSound E.B E.est.dub)
    (hdlb : DlbSound E.B E.est.dlb) (r : FBigM)
    (w : Nat) (hw : 1 ≤ w) (hrp : r.prec = w) (hr0 : 0 < r.repr.signif) (hr1 : val E.B r ≤ 1)
    (fuel : Nat) (res : FBigM × Nat) (h : expLoop E r fuel 1 r (fAddSub E FBigM.one r 1) 2 = .ok (some res))
    (hK : 2 * ((2 * (res.2 - 2) + 2 : ℕ) : ℚ) * bpowQ E.B (1 - (w : Int)) ≤ 1)
    (hk : (res.2 : ℚ) * bpowQ E.B (1 - (w : Int)) ≤ 1 / 2) :
    |((val E.B res.1 : ℚ) : ℝ) - Real.exp ((val E.B r : ℚ) : ℝ)| ≤
      ((2 * ((2 * (res.2 - 2) + 2 : ℕ) : ℚ) * bpowQ E.B (1 - (w : Int)) : ℚ) : ℝ) * Real.exp ((val E.B r : ℚ) : ℝ)
        + ((4 * bpowQ E.B (-(w : Int)) * val E.B res.1 : ℚ) : ℝ) := by
  have hB0 : 0 < E.B := by omega
  have hε0 : 0 ≤ bpowQ E.B (1 - (w : Int)) := (bpowQ_pos E.B hB0 _).le
  have hε1 := bpow_eps_le_one E.B hB w hw
  have hrv : 0 < val E.B r := val_pos_of_signif E.B hB _ hr0
  have hmain := expLoop_result_vs_exp E hB hc hdub r w hw hrp hr0 hr1 fuel res h hK
  refine le_trans hmain ?_
  -- it remains to bound the truncation term by the stop test
  obtain ⟨j, inc, _, hinc, hstop, hres⟩ := expLoop_stop E r fuel 0 res h
  subst hres
  simp only at hk ⊢
  obtain ⟨h1, hwS, _⟩ := expSum_error E hB hc hdub r w hw hrp hr0 j
  obtain ⟨inc', hinc', hT, hpos⟩ := expInc_tracks E hB hc r w hw hrp j
  obtain rfl : inc = inc' := Except.ok.inj (hinc.symm.trans hinc')
  obtain ⟨f, hf, hf1, _⟩ := hT.approx
  -- f ≥ (1-ε)^(j+2) ≥ 1 - (j+2)ε ≥ 1/2
  have hb := one_sub_mul_le_pow hε0 hε1 (j + 2)
  have hf2 : (1 : ℚ) / 2 ≤ f := by
    have : ((j + 2 : ℕ) : ℚ) * bpowQ E.B (1 - (w : Int)) ≤ 1 / 2 := hk
    linarith
  set T : ℚ := (val E.B r) ^ (j + 2) / ((j + 2).factorial : ℚ) with hTdef
  have hTpos : 0 < T := div_pos (pow_pos hrv _) (by exact_mod_cast Nat.factorial_pos _)
  -- T ≤ 2·inc
  have hTinc : T ≤ 2 * val E.B inc := by
    rw [hf]; linarith [mul_le_mul_of_nonneg_left hf2 hTpos.le]
  -- inc ≤ sub_ulp(sum) ≤ B^(−w)·sum
  have hincpos : 0 < inc.repr.signif := signif_pos_of_val E.B hB _ (hpos hr0)
  obtain ⟨_, hsu⟩ := Dashu.Proofs.Trans.Series.fSubUlp_le E hdlb (expSumState E r j)
  have hsub : (fSubUlp E (expSumState E r j)) = ⟨1, (fSubUlp E (expSumState E r j)).exp⟩ := rfl
  rw [hsub] at hstop
  have hle := val_le_of_reprAbsCmp_ne_gt E.B hB inc.repr _ hincpos hstop
  have hSsig : 0 < (expSumState E r j).repr.signif := signif_pos_of_val E.B hB _ (lt_of_lt_of_le one_pos h1)
  have hSge := toRat_ge E.B hB (expSumState E r j).repr hSsig
  have hwSz : ((w : Nat) : Int) ≤ ((expSumState E r j).prec : Int) := by exact_mod_cast hwS
  have hchain : bpowQ E.B (fSubUlp E (expSumState E r j)).exp ≤
      bpowQ E.B (-(w : Int)) * bpowQ E.B ((expSumState E r j).repr.exp +
        (digitsI E.B (expSumState E r j).repr.signif : Int) - 1) := by
    rw [← bpowQ_add E.B hB0]
    exact bpowQ_mono E.B hB _ _ (by omega)
  have hwpos := bpowQ_pos E.B hB0 (-(w : Int))
  have hfin : 2 * T ≤ 4 * bpowQ E.B (-(w : Int)) * val E.B (expSumState E r j) := by
    have : bpowQ E.B (-(w : Int)) * bpowQ E.B ((expSumState E r j).repr.exp +
        (digitsI E.B (expSumState E r j).repr.signif : Int) - 1) ≤ bpowQ E.B (-(w : Int)) * val E.B (expSumState E r j) :=
      mul_le_mul_of_nonneg_left hSge hwpos.le
    have hv : val E.B inc ≤ bpowQ E.B (-(w : Int)) * val E.B (expSumState E r j) := le_trans hle (le_trans hchain this)
    linarith
  have hfinR : ((2 * T : ℚ) : ℝ) ≤ ((4 * bpowQ E.B (-(w : Int)) * val E.B (expSumState E r j) : ℚ) : ℝ) := by
    exact_mod_cast hfin
  linarith

end Dashu.Proofs.Trans.StopTest
