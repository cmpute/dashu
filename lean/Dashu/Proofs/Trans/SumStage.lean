import Dashu.Proofs.Trans.SeriesBound
/-
  C11 — the ACCUMULATED error of the partial sum the Maclaurin loop of `exp_internal` returns.

  * `expSumState`: the partial sums the loop's recursion passes; `expLoop_result`: a returned sum is one of them;
  * `expSum_error`: the partial sum before the step with index `i + 2` is `Σ_{k ≤ i+1} r^k/k!` up to `2i + 2` accumulated
    relative errors `B^(1−w)`.
-/
namespace Dashu.Proofs.Trans.SumStage
open Dashu.Model.Float Dashu.Model.Trans Dashu.Proofs.Trans.SeriesBound

/-! ### the partial sums of the Maclaurin loop -/

/-- the term `increase` the loop forms at the step with index `i + 2` -/
def expInc (E : Env) (r : FBigM) (i : Nat) : Except String FBigM :=
  fDiv E (fMul E (expState E r i).2 r) (fOfInt E.B ((expState E r i).1 * ((i + 2 : Nat) : Int)))

/-- the partial sums the loop's recursion passes: `sum` before the step with index `i + 2`
    (`1 + r`, then `sum += increase`) -/
def expSumState (E : Env) (r : FBigM) : Nat → FBigM
  | 0 => fAddSub E FBigM.one r 1
  | i + 1 =>
    match expInc E r i with
    | .ok inc => fAddSub E (expSumState E r i) inc 1
    | .error _ => expSumState E r i

/-- the exact partial sums `Σ_{k ≤ i+1} r^k / k!` -/
def expPartial (r : ℚ) : Nat → ℚ
  | 0 => 1 + r
  | i + 1 => expPartial r i + r ^ (i + 2) / ((i + 2).factorial : ℚ)

theorem expPartial_nonneg (r : ℚ) (hr : 0 ≤ r) : ∀ i, 0 ≤ expPartial r i := by
  intro i
  induction i with
  | zero => simp only [expPartial]; linarith
  | succ i ih =>
    simp only [expPartial]
    have : 0 ≤ r ^ (i + 2) / ((i + 2).factorial : ℚ) := div_nonneg (pow_nonneg hr _) (Nat.cast_nonneg _)
    linarith

/-- what the Maclaurin loop returns, WITH the stop test that made it return: the term `increase` of that step did not
    exceed `sum.sub_ulp()` -/
theorem expLoop_stop (E : Env) (r : FBigM) (fuel i : Nat) (res : FBigM × Nat)
    (h : expLoop E r fuel (expState E r i).1 (expState E r i).2 (expSumState E r i) (i + 2) = .ok (some res)) :
    ∃ j inc, i ≤ j ∧ expInc E r j = .ok inc ∧
      reprAbsCmp E.B inc.repr (fSubUlp E (expSumState E r j)) ≠ .gt ∧ res = (expSumState E r j, j + 2) := by
  -- the states the loop passes are those of the trajectory
  obtain ⟨m, hm, _, inc, h1, h2, h3⟩ := (Series.expLoop_fuelled E r).returns
    (fun n a => a = ((expState E r n).1, (expState E r n).2, expSumState E r n, n + 2))
    (fun n b => ∃ inc, expInc E r n = .ok inc ∧
      reprAbsCmp E.B inc.repr (fSubUlp E (expSumState E r n)) ≠ .gt ∧ b = (expSumState E r n, n + 2))
    (fun n a hI => by
      subst hI
      refine ⟨fun b hb => Series.expStep_inl hb, fun a' ha => ?_⟩
      obtain ⟨inc, hd, rfl⟩ := Series.expStep_inr ha
      simp only [expSumState, expInc, hd, expState])
    fuel i _ res rfl h
  exact ⟨m, inc, hm, h1, h2, h3⟩

/-- a value the Maclaurin loop returns (from a state of its own trajectory) is one of the `expSumState`s, with the
    matching term index -/
theorem expLoop_result (E : Env) (r : FBigM) (fuel i : Nat) (res : FBigM × Nat)
    (h : expLoop E r fuel (expState E r i).1 (expState E r i).2 (expSumState E r i) (i + 2) = .ok (some res)) :
    ∃ j, i ≤ j ∧ res = (expSumState E r j, j + 2) := by
  obtain ⟨j, _, hj, _, _, hres⟩ := expLoop_stop E r fuel i res h
  exact ⟨j, hj, hres⟩

/-- **accumulated error of the partial sum of the Maclaurin loop of `exp_internal`** (reduced argument `r > 0` held at
    the working precision `w ≥ 1`; every mode; sound `digits_ub` and coarse test): the sum the loop holds before the step
    with index `k = i + 2` is `≥ 1` and equals `Σ_{k ≤ i+1} r^k/k!` up to `2i + 2` accumulated relative errors `B^(1−w)` -/
theorem expSum_error (E : Env) (hB : 2 ≤ E.B) (hc : CoarseSound E.c) (hdub : DubSound E.B E.est.dub) (r : FBigM)
    (w : Nat) (hw : 1 ≤ w) (hrp : r.prec = w) (hr0 : 0 < r.repr.signif) (i : Nat) :
    1 ≤ val E.B (expSumState E r i) ∧ w ≤ (expSumState E r i).prec ∧
      Approx (bpowQ E.B (1 - (w : Int))) (2 * i + 2) (val E.B (expSumState E r i)) (expPartial (val E.B r) i) := by
  have hone : val E.B FBigM.one = 1 := by simp only [val, FBigM.one, FRepr.toRat, bpowQ_zero]; norm_num
  induction i with
  | zero =>
    have hwP : w ≤ ctxMaxP FBigM.one.prec r.prec := by rw [← hrp]; exact Series.ctxMaxP_ge_right _ _
    have h := fAddSub_pos_error E hB hc hdub FBigM.one r (le_trans hw hwP) (by decide) hr0
    rw [hone] at h
    exact ⟨fAddSub_keeps E hB hc hdub FBigM.one r (le_trans hw hwP) (by rw [hone]) hr0, hwP,
      approx_mono_eps (bpowQ_pos E.B (by omega) _).le (bpowQ_eps_le E.B hB _ _ hwP) (bpow_eps_le_one E.B hB w hw) h⟩
  | succ i ih =>
    obtain ⟨h1, hwS, hA⟩ := ih
    obtain ⟨inc, hinc, hT, hpos⟩ := expInc_tracks E hB hc r w hw hrp i
    have hS : expSumState E r (i + 1) = fAddSub E (expSumState E r i) inc 1 := by simp only [expSumState, expInc, hinc]
    have hadd := (Tracks.mk hwS hA).add hB hc hw hdub hT le_rfl (by omega : i + 2 ≤ 2 * i + 2)
      (lt_of_lt_of_le one_pos h1) (hpos hr0)
    rw [hS, show 2 * (i + 1) + 2 = 2 + (2 * i + 2) by ring]
    exact ⟨fAddSub_keeps E hB hc hdub _ _ (le_trans hw hadd.prec) h1 (signif_pos_of_val E.B hB _ (hpos hr0)),
      hadd.prec, hadd.approx⟩

/-- **what the Maclaurin loop returns**: run from its entry state (`factorial = 1`, `pow = r`, `sum = 1 + r`, `k = 2`)
    with any fuel, a returned `(sum, k)` has `k ≥ 2` and `sum = Σ_{j < k} r^j/j!` up to `2(k−2) + 2` accumulated relative
    errors `B^(1−w)` (the error of the truncated series itself is bounded by the stop test, not here) -/
theorem expLoop_result_error (E : Env) (hB : 2 ≤ E.B) (hc : CoarseSound E.c) (hdub : DubSound E.B E.est.dub) (r : FBigM)
    (w : Nat) (hw : 1 ≤ w) (hrp : r.prec = w) (hr0 : 0 < r.repr.signif) (fuel : Nat) (res : FBigM × Nat)
    (h : expLoop E r fuel 1 r (fAddSub E FBigM.one r 1) 2 = .ok (some res)) :
    2 ≤ res.2 ∧ 1 ≤ val E.B res.1 ∧
      Approx (bpowQ E.B (1 - (w : Int))) (2 * (res.2 - 2) + 2) (val E.B res.1) (expPartial (val E.B r) (res.2 - 2)) := by
  obtain ⟨j, _, hres⟩ := expLoop_result E r fuel 0 res h
  subst hres
  have := expSum_error E hB hc hdub r w hw hrp hr0 j
  refine ⟨by simp, this.1, ?_⟩
  simpa only [Nat.add_sub_cancel] using this.2.2

/-- `repr_round` leaves an operand that fits the precision as it is -/
theorem reprRound_fits (B : Nat) (m : Mode) (c : Coarse) (p : Nat) (r : FRepr) (h : r.digits B ≤ p) :
    (reprRound B m c p r).1 = r := by
  unfold reprRound
  split
  · rfl
  · simp only
    split
    · omega
    · rfl

end Dashu.Proofs.Trans.SumStage
