import Dashu.Proofs.Trans.Grid
import Mathlib.Analysis.Complex.Exponential
import Mathlib.Analysis.SpecialFunctions.Exp
/-
  Soundness of the exponential enclosure `expEncl` of `Dashu/Model/Trans/Encl.lean`:

      (expEncl x n).1 ≤ Real.exp x ≤ (expEncl x n).2      for every rational x and every n.
-/
namespace Dashu.Model.Trans
open Finset

/-- one step of the term recurrence -/
theorem term_succ (y : ℚ) (i : ℕ) :
    y ^ i / (i.factorial : ℚ) * y / ((i + 1 : ℕ) : ℚ) = y ^ (i + 1) / ((i + 1).factorial : ℚ) := by
  have h1 : ((i.factorial : ℕ) : ℚ) ≠ 0 := by exact_mod_cast i.factorial_ne_zero
  have h2 : ((i + 1 : ℕ) : ℚ) ≠ 0 := by exact_mod_cast Nat.succ_ne_zero i
  rw [Nat.factorial_succ]
  push_cast
  field_simp
  ring

/-- invariant of `expSeries` (in ℚ) -/
theorem expSeries_inv (m : ℕ) (yl yu : ℚ) (hyl : 0 ≤ yl) (hyu : 0 ≤ yu) :
    ∀ (f i : ℕ) (tl tu sl su : ℚ),
      0 ≤ tl → tl ≤ yl ^ i / (i.factorial : ℚ) → yu ^ i / (i.factorial : ℚ) ≤ tu →
      sl ≤ ∑ j ∈ range i, yl ^ j / (j.factorial : ℚ) →
      ∑ j ∈ range i, yu ^ j / (j.factorial : ℚ) ≤ su →
      (expSeries m yl yu f i tl tu sl su).1 ≤ ∑ j ∈ range (i + f), yl ^ j / (j.factorial : ℚ) ∧
      ∑ j ∈ range (i + f), yu ^ j / (j.factorial : ℚ) + 2 * (yu ^ (i + f) / ((i + f).factorial : ℚ))
        ≤ (expSeries m yl yu f i tl tu sl su).2 := by
  intro f
  induction f with
  | zero =>
    intro i tl tu sl su _ _ htu hsl hsu
    simp only [expSeries, Nat.add_zero]
    exact ⟨hsl, add_le_add hsu (mul_le_mul_of_nonneg_left htu zero_le_two)⟩
  | succ f ih =>
    intro i tl tu sl su htl0 htl htu hsl hsu
    have hi : (0 : ℚ) < ((i + 1 : ℕ) : ℚ) := by exact_mod_cast Nat.succ_pos i
    have hfac : (0 : ℚ) < (i.factorial : ℚ) := by exact_mod_cast i.factorial_pos
    have htu0 : 0 ≤ tu := le_trans (by positivity) htu
    have e : i + (f + 1) = (i + 1) + f := by omega
    simp only [expSeries]
    rw [e]
    apply ih (i + 1)
    · exact rdn_nonneg m (div_nonneg (mul_nonneg htl0 hyl) hi.le)
    · refine le_trans (rdn_le m _) ?_
      rw [← term_succ]
      apply div_le_div_of_nonneg_right _ hi.le
      exact mul_le_mul_of_nonneg_right htl hyl
    · refine le_trans ?_ (le_rup m _)
      rw [← term_succ]
      apply div_le_div_of_nonneg_right _ hi.le
      exact mul_le_mul_of_nonneg_right htu hyu
    · rw [sum_range_succ]; exact add_le_add hsl htl
    · rw [sum_range_succ]; exact add_le_add hsu htu

theorem expSeries_nonneg (m : ℕ) (yl yu : ℚ) (hyl : 0 ≤ yl) :
    ∀ (f i : ℕ) (tl tu sl su : ℚ), 0 ≤ tl → 0 ≤ sl → 0 ≤ (expSeries m yl yu f i tl tu sl su).1 := by
  intro f
  induction f with
  | zero => intro i tl tu sl su _ h; simpa [expSeries] using h
  | succ f ih =>
    intro i tl tu sl su h1 h2
    simp only [expSeries]
    apply ih
    · exact rdn_nonneg m (div_nonneg (mul_nonneg h1 hyl) (by positivity))
    · linarith

/-- Mathlib's `Real.exp_bound'` with the remainder factor `(N+1)/N` replaced by `2` -/
theorem exp_le_sum_add_two {x : ℝ} (h0 : 0 ≤ x) (h1 : x ≤ 1) {N : ℕ} (hN : 0 < N) :
    Real.exp x ≤ ∑ j ∈ range N, x ^ j / (j.factorial : ℝ) + 2 * (x ^ N / (N.factorial : ℝ)) := by
  refine le_trans (Real.exp_bound' h0 h1 hN) (add_le_add_right ?_ _)
  have hNr : (1 : ℝ) ≤ (N : ℝ) := by exact_mod_cast hN
  have hfac : (0 : ℝ) < (N.factorial : ℝ) := by exact_mod_cast N.factorial_pos
  rw [mul_div_mul_comm, mul_comm 2]
  exact mul_le_mul_of_nonneg_left ((div_le_iff₀ (by linarith only [hNr])).2 (by linarith only [hNr]))
    (div_nonneg (pow_nonneg h0 N) hfac.le)

/-- the rounded Taylor evaluation encloses `exp y` whenever `0 ≤ yl ≤ y ≤ yu ≤ 1` -/
theorem expSeries_sound (m : ℕ) (yl yu : ℚ) (y : ℝ) (N : ℕ) (hN : 0 < N)
    (hyl : 0 ≤ yl) (hly : (yl : ℝ) ≤ y) (hyu : y ≤ (yu : ℝ)) (hu1 : yu ≤ 1) :
    0 ≤ (expSeries m yl yu N 0 1 1 0 0).1 ∧
    ((expSeries m yl yu N 0 1 1 0 0).1 : ℝ) ≤ Real.exp y ∧
    Real.exp y ≤ ((expSeries m yl yu N 0 1 1 0 0).2 : ℝ) := by
  have hyl' : (0 : ℝ) ≤ (yl : ℝ) := by exact_mod_cast hyl
  have hyu0 : 0 ≤ yu := by
    have : (0 : ℝ) ≤ (yu : ℝ) := le_trans (le_trans hyl' hly) hyu
    exact_mod_cast this
  have hyu' : (0 : ℝ) ≤ (yu : ℝ) := by exact_mod_cast hyu0
  have hu1' : (yu : ℝ) ≤ 1 := by exact_mod_cast hu1
  obtain ⟨h1, h2⟩ := expSeries_inv m yl yu hyl hyu0 N 0 1 1 0 0 (by norm_num) (by simp) (by simp)
    (by simp) (by simp)
  rw [Nat.zero_add] at h1 h2
  refine ⟨?_, ?_, ?_⟩
  · exact expSeries_nonneg m yl yu hyl N 0 1 1 0 0 (by norm_num) (le_refl 0)
  · have hs : ((∑ j ∈ range N, yl ^ j / (j.factorial : ℚ) : ℚ) : ℝ)
        = ∑ j ∈ range N, (yl : ℝ) ^ j / (j.factorial : ℝ) := by push_cast; rfl
    have h1' : ((expSeries m yl yu N 0 1 1 0 0).1 : ℝ) ≤ ((∑ j ∈ range N, yl ^ j / (j.factorial : ℚ) : ℚ) : ℝ) := by
      exact_mod_cast h1
    rw [hs] at h1'
    exact le_trans h1' (le_trans (Real.sum_le_exp_of_nonneg hyl' N) (Real.exp_le_exp.mpr hly))
  · have hs : ((∑ j ∈ range N, yu ^ j / (j.factorial : ℚ) + 2 * (yu ^ N / (N.factorial : ℚ)) : ℚ) : ℝ)
        = ∑ j ∈ range N, (yu : ℝ) ^ j / (j.factorial : ℝ) + 2 * ((yu : ℝ) ^ N / (N.factorial : ℝ)) := by
      push_cast; rfl
    have h2' : ((∑ j ∈ range N, yu ^ j / (j.factorial : ℚ) + 2 * (yu ^ N / (N.factorial : ℚ)) : ℚ) : ℝ)
        ≤ ((expSeries m yl yu N 0 1 1 0 0).2 : ℝ) := by exact_mod_cast h2
    rw [hs] at h2'
    exact le_trans (Real.exp_le_exp.mpr hyu) (le_trans (exp_le_sum_add_two hyu' hu1' hN) h2')

/-- `k` rounded squarings enclose `E^(2^k)` -/
theorem sqrIter_sound (m : ℕ) :
    ∀ (k : ℕ) (e : ℚ × ℚ) (E : ℝ), 0 ≤ e.1 → (e.1 : ℝ) ≤ E → E ≤ (e.2 : ℝ) →
      0 ≤ (sqrIter m k e).1 ∧ ((sqrIter m k e).1 : ℝ) ≤ E ^ (2 ^ k) ∧ E ^ (2 ^ k) ≤ ((sqrIter m k e).2 : ℝ) := by
  intro k
  induction k with
  | zero => intro e E h0 h1 h2; simpa [sqrIter] using ⟨h0, h1, h2⟩
  | succ k ih =>
    intro e E h0 h1 h2
    have h0' : (0 : ℝ) ≤ (e.1 : ℝ) := by exact_mod_cast h0
    have hE : 0 ≤ E := le_trans h0' h1
    simp only [sqrIter]
    have e2 : E ^ (2 ^ (k + 1)) = (E ^ 2) ^ (2 ^ k) := by rw [← pow_mul, pow_succ, mul_comm]
    rw [e2]
    apply ih
    · exact rdn_nonneg m (mul_nonneg h0 h0)
    · refine le_trans (rdn_le_real m _) ?_
      rw [Rat.cast_mul, sq]
      exact mul_le_mul h1 h1 h0' hE
    · refine le_trans ?_ (le_rup_real m _)
      rw [Rat.cast_mul, sq]
      exact mul_le_mul h2 h2 hE (le_trans hE h2)

theorem lt_floorNat_succ (x : ℚ) (hx : 0 ≤ x) : x < ((floorNat x + 1 : ℕ) : ℚ) := by
  unfold floorNat
  have hd : (0 : ℤ) < (x.den : ℤ) := by exact_mod_cast x.den_pos
  have hn : 0 ≤ x.num := Rat.num_nonneg.mpr hx
  have hq : 0 ≤ x.num / (x.den : ℤ) := Int.ediv_nonneg hn hd.le
  have h1 : x.num < (x.num / (x.den : ℤ) + 1) * (x.den : ℤ) := Int.lt_ediv_add_one_mul_self _ hd
  have hc : (((x.num / (x.den : ℤ)).toNat + 1 : ℕ) : ℚ) = ((x.num / (x.den : ℤ) + 1 : ℤ) : ℚ) := by
    push_cast
    rw [show (((x.num / (x.den : ℤ)).toNat : ℕ) : ℚ) = (((x.num / (x.den : ℤ)).toNat : ℤ) : ℚ) from by push_cast; rfl,
      Int.toNat_of_nonneg hq]
  rw [hc]
  have hdq : (0 : ℚ) < (x.den : ℚ) := by exact_mod_cast x.den_pos
  have h2 : (x.num : ℚ) < ((x.num / (x.den : ℤ) + 1 : ℤ) : ℚ) * (x.den : ℚ) := by exact_mod_cast h1
  calc x = (x.num : ℚ) / (x.den : ℚ) := (Rat.num_div_den x).symm
    _ < ((x.num / (x.den : ℤ) + 1 : ℤ) : ℚ) := by rw [div_lt_iff₀ hdq]; exact h2

theorem expNonneg_sound (x : ℚ) (n : ℕ) (hx : 0 ≤ x) :
    0 ≤ (expNonneg x n).1 ∧ ((expNonneg x n).1 : ℝ) ≤ Real.exp (x : ℝ) ∧
      Real.exp (x : ℝ) ≤ ((expNonneg x n).2 : ℝ) := by
  unfold expNonneg
  simp only []
  set k0 := (floorNat x + 1).log2 + 1 with hk0
  set k := k0 + Nat.sqrt n with hk
  set m := n + k + 2 * n.log2 + 8
  set y : ℚ := x / ((2 ^ k : ℕ) : ℚ) with hy
  have hpow : (0 : ℚ) < ((2 ^ k : ℕ) : ℚ) := by positivity
  have hy0 : 0 ≤ y := div_nonneg hx hpow.le
  have hxk : x < ((2 ^ k : ℕ) : ℚ) := by
    have h1 := lt_floorNat_succ x hx
    have h2 : floorNat x + 1 < 2 ^ k0 := Nat.lt_log2_self
    have h3 : 2 ^ k0 ≤ 2 ^ k := Nat.pow_le_pow_right (by norm_num) (by omega)
    have h4 : ((floorNat x + 1 : ℕ) : ℚ) < ((2 ^ k : ℕ) : ℚ) := by exact_mod_cast lt_of_lt_of_le h2 h3
    exact lt_trans h1 h4
  have hy1 : y ≤ 1 := by rw [hy, div_le_one hpow]; exact hxk.le
  have hexp : Real.exp (x : ℝ) = Real.exp (y : ℝ) ^ (2 ^ k) := by
    rw [← Real.exp_nat_mul]
    congr 1
    rw [hy]; push_cast; field_simp
  rw [hexp]
  have hS := expSeries_sound m (max 0 (rdn m y)) (min 1 (rup m y)) (y : ℝ) ((n + k) / (Nat.sqrt n + 1) + 2)
    (Nat.succ_pos _) (le_max_left _ _)
    (by exact_mod_cast max_le hy0 (rdn_le m y))
    (by exact_mod_cast le_min hy1 (le_rup m y))
    (min_le_left _ _)
  exact sqrIter_sound m k _ _ hS.1 hS.2.1 hS.2.2

theorem two_pow_le_exp (k : ℕ) : (2 : ℝ) ^ k ≤ Real.exp (k : ℝ) := by
  have h2 : (2 : ℝ) ≤ Real.exp 1 := by have := Real.add_one_le_exp 1; linarith
  have : Real.exp (k : ℝ) = Real.exp 1 ^ k := by rw [← Real.exp_nat_mul]; simp
  rw [this]
  exact pow_le_pow_left₀ (by norm_num) h2 k

/-- **Soundness of the exponential enclosure**, for every rational argument and every effort `n`. -/
theorem expEncl_sound (x : ℚ) (n : ℕ) :
    ((expEncl x n).1 : ℝ) ≤ Real.exp (x : ℝ) ∧ Real.exp (x : ℝ) ≤ ((expEncl x n).2 : ℝ) := by
  unfold expEncl
  by_cases hx : 0 ≤ x
  · rw [if_pos hx]
    exact (expNonneg_sound x n hx).2
  · rw [if_neg hx]
    by_cases hbig : x < -((16 * n + 4096 : ℕ) : ℚ)
    · rw [if_pos hbig]
      refine ⟨by simpa using (Real.exp_pos _).le, ?_⟩
      have hb : (x : ℝ) < -((16 * n + 4096 : ℕ) : ℝ) := by exact_mod_cast hbig
      have hk : (x : ℝ) ≤ -((n + 64 : ℕ) : ℝ) := by
        have : ((n + 64 : ℕ) : ℝ) ≤ ((16 * n + 4096 : ℕ) : ℝ) := by
          exact_mod_cast (by omega : n + 64 ≤ 16 * n + 4096)
        linarith
      have h1 : Real.exp (x : ℝ) ≤ Real.exp (-((n + 64 : ℕ) : ℝ)) := Real.exp_le_exp.mpr hk
      have h2 := two_pow_le_exp (n + 64)
      have hpos : (0 : ℝ) < (2 : ℝ) ^ (n + 64) := by positivity
      rw [Real.exp_neg] at h1
      refine le_trans h1 ?_
      push_cast at h2 ⊢
      rw [one_div]
      exact inv_anti₀ hpos h2
    rw [if_neg hbig]
    have hx' : 0 ≤ -x := by linarith [not_le.mp hx]
    obtain ⟨h0, h1, h2⟩ := expNonneg_sound (-x) n hx'
    have hcast : ((-x : ℚ) : ℝ) = -(x : ℝ) := by push_cast; rfl
    rw [hcast] at h1 h2
    have hE : Real.exp (x : ℝ) = (Real.exp (-(x : ℝ)))⁻¹ := by
      rw [← Real.exp_neg]; simp
    have hpos : 0 < Real.exp (-(x : ℝ)) := Real.exp_pos _
    simp only []
    constructor
    · -- 1 / hi ≤ 1 / exp(-x)
      rw [hE]
      push_cast
      rw [one_div]
      exact inv_anti₀ hpos h2
    · by_cases hl : 0 < (expNonneg (-x) n).1
      · rw [if_pos hl, hE]
        have hl' : (0 : ℝ) < ((expNonneg (-x) n).1 : ℝ) := by exact_mod_cast hl
        push_cast
        rw [one_div]
        exact inv_anti₀ hl' h1
      · rw [if_neg hl]
        have : Real.exp (x : ℝ) ≤ 1 := by
          rw [← Real.exp_zero]; apply Real.exp_le_exp.mpr
          exact_mod_cast (le_of_lt (not_le.mp hx))
        exact_mod_cast this

end Dashu.Model.Trans
