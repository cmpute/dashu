import Dashu.Proofs.Trans.Series
import Dashu.Proofs.Trans.Powi
import Mathlib.Data.Nat.Factorial.Basic
/-
  C11 — what the step bounds and the error analysis of the series loops (`Props/C11Series`) rest on, from the C03 contracts of
  `*`, `/` and `repr_round_sum` (no operand-length hypothesis): a contract does not cross a power of the base, so `pow *= r` and
  `pow / factorial` keep power-of-base bounds and `sum += increase` (same-sign `FBig + FBig`, operands of ANY length) never takes
  a sum `≥ B^L` below `B^L`; `sub_ulp` under an explicit TWO-SIDED hypothesis on the `digits_lb` estimate; the stop tests as
  inequalities of values; `Tracks`, the rounded operations as arithmetic with an error counter.
-/
namespace Dashu.Proofs.Trans.SeriesBound
open Dashu.Model.Float Dashu.Model.Trans

/-! ### the operators of the series keep the power-of-base bounds -/

abbrev val (B : Nat) (x : FBigM) : ℚ := x.repr.toRat B

theorem fMul_bound (E : Env) (hB : 2 ≤ E.B) (hc : CoarseSound E.c) (x y : FBigM)
    (hp : 1 ≤ ctxMaxP x.prec y.prec) (a b : Int) (hx0 : 0 ≤ val E.B x) (hxa : val E.B x ≤ bpowQ E.B a)
    (hy0 : 0 ≤ val E.B y) (hyb : val E.B y ≤ bpowQ E.B b) :
    0 ≤ val E.B (fMul E x y) ∧ val E.B (fMul E x y) ≤ bpowQ E.B (a + b) := by
  have hB0 : 0 < E.B := by omega
  have hcon := opMul_contract E.B hB E.m E.c hc _ hp x.repr y.repr
  have hprod : x.repr.toRat E.B * y.repr.toRat E.B ≤ bpowQ E.B (a + b) := by
    rw [bpowQ_add E.B hB0]
    exact mul_le_mul hxa hyb hy0 (bpowQ_pos E.B hB0 a).le
  exact contract_le_pow hB hp hcon (mul_nonneg hx0 hy0) _ hprod

theorem fOfInt_val (B : Nat) (hB : 2 ≤ B) (F : Int) : val B (fOfInt B F) = (F : ℚ) := by
  simp only [val, fOfInt]
  rw [FRepr.new_value B (by omega), bpowQ_zero]; ring

theorem fOfInt_signif_ne (B : Nat) (hB : 2 ≤ B) (F : Int) (hF : F ≠ 0) : (fOfInt B F).repr.signif ≠ 0 := by
  intro h
  have hv := fOfInt_val B hB F
  simp only [val, FRepr.toRat, h] at hv
  have : (F : ℚ) = 0 := by rw [← hv]; simp
  exact hF (by exact_mod_cast this)

/-- `pow / factorial`: the quotient is at most `B^(a − (digits F − 1))` -/
theorem fDiv_int_bound (E : Env) (hB : 2 ≤ E.B) (x : FBigM) (F : Int) (hF : 1 ≤ F) (a : Int)
    (hx0 : 0 ≤ val E.B x) (hxa : val E.B x ≤ bpowQ E.B a) :
    ∃ inc, fDiv E x (fOfInt E.B F) = .ok inc ∧ inc.prec = ctxMaxP x.prec (max (digitsI E.B F) 1) ∧
      0 ≤ val E.B inc ∧ val E.B inc ≤ bpowQ E.B (a - ((digitsI E.B F : Int) - 1)) := by
  have hB0 : 0 < E.B := by omega
  have hF0 : F ≠ 0 := by omega
  have hp : 1 ≤ ctxMaxP x.prec (fOfInt E.B F).prec := by
    have hM : 1 ≤ max (digitsI E.B F) 1 := le_max_right _ _
    exact le_trans hM (Series.ctxMaxP_ge_right _ _)
  obtain ⟨r, hr, hcon⟩ := reprDiv_contract E.B hB E.m _ hp x.repr (fOfInt E.B F).repr (fOfInt_signif_ne E.B hB F hF0)
  refine ⟨⟨r.1, ctxMaxP x.prec (fOfInt E.B F).prec⟩, ?_, rfl, ?_⟩
  · simp only [fDiv, hr]
  · have hv : (fOfInt E.B F).repr.toRat E.B = (F : ℚ) := fOfInt_val E.B hB F
    rw [hv] at hcon
    obtain ⟨_, hlo, _⟩ := digitsI_spec E.B hB F hF0
    rw [abs_of_pos (by omega : 0 < F)] at hlo
    have hFq : (((E.B ^ (digitsI E.B F - 1) : Nat) : Int) : ℚ) ≤ (F : ℚ) := by exact_mod_cast hlo
    have hFpos : (0 : ℚ) < (F : ℚ) := by exact_mod_cast (by omega : 0 < F)
    have hD : (0 : Int) < digitsI E.B F := by
      have := (digitsI_spec E.B hB F hF0).1; omega
    have hq0 : 0 ≤ x.repr.toRat E.B / (F : ℚ) := div_nonneg hx0 hFpos.le
    have hq : x.repr.toRat E.B / (F : ℚ) ≤ bpowQ E.B (a - ((digitsI E.B F : Int) - 1)) := by
      rw [div_le_iff₀ hFpos]
      have e : a = (a - ((digitsI E.B F : Int) - 1)) + ((digitsI E.B F - 1 : Nat) : Int) := by omega
      have h1 : bpowQ E.B a = bpowQ E.B (a - ((digitsI E.B F : Int) - 1)) *
          (((E.B ^ (digitsI E.B F - 1) : Nat) : Int) : ℚ) := by
        conv_lhs => rw [e]
        rw [bpowQ_add E.B hB0, bpowQ_nat]; push_cast; ring
      calc x.repr.toRat E.B ≤ bpowQ E.B a := hxa
        _ = bpowQ E.B (a - ((digitsI E.B F : Int) - 1)) * (((E.B ^ (digitsI E.B F - 1) : Nat) : Int) : ℚ) := h1
        _ ≤ bpowQ E.B (a - ((digitsI E.B F : Int) - 1)) * (F : ℚ) :=
            mul_le_mul_of_nonneg_left hFq (bpowQ_pos E.B hB0 _).le
    exact contract_le_pow hB hp hcon hq0 _ hq

/-! ### the stop test -/

theorem digitsI_one (B : Nat) (hB : 2 ≤ B) : digitsI B 1 = 1 := by
  obtain ⟨h0, h1, _⟩ := digitsI_spec B hB 1 (by decide)
  by_contra hc
  have h2 : 2 ≤ digitsI B 1 := by omega
  have h3 : B ^ 1 ≤ B ^ (digitsI B 1 - 1) := Nat.pow_le_pow_right (by omega) (by omega)
  have h4 : ((B ^ 1 : Nat) : Int) ≤ ((B ^ (digitsI B 1 - 1) : Nat) : Int) := by exact_mod_cast h3
  simp at h4 h1
  omega

/-- `reprCmp` puts both operands on the grid of the smaller exponent: an integer comparison, scaled by one positive unit -/
theorem reprCmp_scaled (B : Nat) (hB : 2 ≤ B) (a b : FRepr) :
    ∃ (x y : Int) (g : ℚ), 0 < g ∧ reprCmp B a b = compare x y ∧ a.toRat B = x * g ∧ b.toRat B = y * g := by
  refine ⟨_, _, bpowQ B (min a.exp b.exp), bpowQ_pos B (by omega) _, rfl, ?_, ?_⟩
  · unfold FRepr.toRat; rw [bpowQ_split B hB _ _ (min_le_left a.exp b.exp)]; push_cast; ring
  · unfold FRepr.toRat; rw [bpowQ_split B hB _ _ (min_le_right a.exp b.exp)]; push_cast; ring

theorem reprCmp_lt_iff (B : Nat) (hB : 2 ≤ B) (a b : FRepr) : reprCmp B a b = .lt ↔ a.toRat B < b.toRat B := by
  obtain ⟨x, y, g, hg, hc, ha, hb⟩ := reprCmp_scaled B hB a b
  rw [hc, ha, hb, compare_lt_iff_lt, mul_lt_mul_iff_of_pos_right hg, Int.cast_lt]

theorem reprCmp_gt_iff (B : Nat) (hB : 2 ≤ B) (a b : FRepr) : reprCmp B a b = .gt ↔ b.toRat B < a.toRat B := by
  obtain ⟨x, y, g, hg, hc, ha, hb⟩ := reprCmp_scaled B hB a b
  rw [hc, ha, hb, compare_gt_iff_gt, mul_lt_mul_iff_of_pos_right hg, Int.cast_lt]

/-- the stop test `|increase| <= sub_ulp` against `sub_ulp = ⟨1, e⟩` is the inequality of the values: decided by the
    digit positions when they differ, by `reprCmp` otherwise -/
theorem reprAbsCmp_ne_gt_iff (B : Nat) (hB : 2 ≤ B) (a : FRepr) (e : Int) (h0 : 0 < a.signif) :
    reprAbsCmp B a ⟨1, e⟩ ≠ .gt ↔ a.toRat B ≤ bpowQ B e := by
  have hge := toRat_ge B hB a h0
  have hlt := toRat_abs_lt B hB a
  rw [abs_of_pos (lt_of_lt_of_le (bpowQ_pos B (by omega) _) hge)] at hlt
  unfold FRepr.digits at hlt
  unfold reprAbsCmp
  rw [if_neg (show ¬ (a.signif = 0 ∨ (1 : Int) = 0) by omega)]
  simp only [digitsI_one B hB, Nat.cast_one]
  split_ifs with h1 h2
  · exact ⟨fun _ => le_trans hlt.le (bpowQ_mono B hB _ _ (by omega)), fun _ => by decide⟩
  · refine ⟨fun h => absurd rfl h, fun h => ?_⟩
    have h3 := bpowQ_le_bpowQ B hB _ _ (le_trans hge h)
    omega
  · rw [Ne, reprCmp_gt_iff B hB, not_lt, Int.natAbs_of_nonneg h0.le]
    simp only [FRepr.toRat, Int.natAbs_one, Nat.cast_one, Int.cast_one, one_mul]

/-- `|increase| <= sub_ulp` holds as soon as the value of `increase ≥ 0` is at most the power `B^e` -/
theorem reprAbsCmp_pow_ne_gt (B : Nat) (hB : 2 ≤ B) (a : FRepr) (e : Int) (h0 : 0 ≤ a.signif)
    (h : a.toRat B ≤ bpowQ B e) : reprAbsCmp B a ⟨1, e⟩ ≠ .gt := by
  by_cases ha : a.signif = 0
  · unfold reprAbsCmp
    rw [if_pos (Or.inl ha), ha]; simp only [Int.natAbs_zero, Int.natAbs_one]; decide
  · exact (reprAbsCmp_ne_gt_iff B hB a e (by omega)).2 h

theorem digitsI_mul_ge (B : Nat) (hB : 2 ≤ B) (F : Int) (k : Nat) (hk : 1 ≤ k) :
    digitsI B F ≤ digitsI B (F * (k : Int)) := by
  unfold digitsI
  apply digits_mono B hB
  rw [Int.natAbs_mul]
  have : 1 ≤ ((k : Int)).natAbs := by simp; omega
  calc F.natAbs = F.natAbs * 1 := by ring
    _ ≤ F.natAbs * ((k : Int)).natAbs := Nat.mul_le_mul_left _ this

/-! ### the sign of a value is the sign of its significand -/

theorem val_pos_of_signif (B : Nat) (hB : 2 ≤ B) (a : FRepr) (h : 0 < a.signif) : 0 < a.toRat B := by
  unfold FRepr.toRat
  exact mul_pos (by exact_mod_cast h) (bpowQ_pos B (by omega) _)

theorem signif_pos_of_val (B : Nat) (hB : 2 ≤ B) (a : FRepr) (h : 0 < a.toRat B) : 0 < a.signif := by
  unfold FRepr.toRat at h
  exact_mod_cast (pos_iff_pos_of_mul_pos h).2 (bpowQ_pos B (by omega) a.exp)

theorem signif_nonneg_of_val (B : Nat) (hB : 2 ≤ B) (a : FRepr) (h : 0 ≤ a.toRat B) : 0 ≤ a.signif := by
  unfold FRepr.toRat at h
  exact_mod_cast nonneg_of_mul_nonneg_left h (bpowQ_pos B (by omega) a.exp)

theorem isZero_of_signif_pos {a : FRepr} (h : 0 < a.signif) : a.isZero = false := by
  have : (a.signif == 0) = false := by simp; omega
  simp [FRepr.isZero, this]

/-- the explicit TWO-SIDED quality hypothesis on `digits_lb`: never more than `cS` digits below the exact count
    (the other side, `DlbSound`, is what makes `sub_ulp` smaller than an ulp) -/
def DlbTight (B : Nat) (dlb : Int → Nat) (cS : Nat) : Prop := ∀ v : Int, digitsI B v ≤ dlb v + cS

/-- `sum.sub_ulp()` of a sum `≥ B^L` is at least `B^(L − cS − precision)` -/
theorem subUlp_ge_pow (E : Env) (hB : 2 ≤ E.B) (cS : Nat) (hd : DlbTight E.B E.est.dlb cS) (sm : FBigM) (L : Int)
    (h1 : bpowQ E.B L ≤ val E.B sm) : L - (cS : Int) - (sm.prec : Int) ≤ (fSubUlp E sm).exp := by
  have hlt := toRat_abs_lt E.B hB sm.repr
  have h0 : bpowQ E.B L < bpowQ E.B (sm.repr.exp + (sm.repr.digits E.B : Int)) := by
    have : val E.B sm ≤ |sm.repr.toRat E.B| := le_abs_self _
    exact lt_of_le_of_lt (le_trans h1 this) hlt
  have hT := bpowQ_lt_bpowQ E.B hB _ _ h0
  have := hd sm.repr.signif
  unfold FRepr.digits at hT
  simp only [fSubUlp]
  omega

/-- the case `L = 0`: `sum.sub_ulp()` of a sum `≥ 1` is at least `B^(−cS − precision)` -/
theorem subUlp_ge (E : Env) (hB : 2 ≤ E.B) (cS : Nat) (hd : DlbTight E.B E.est.dlb cS) (sm : FBigM)
    (h1 : 1 ≤ val E.B sm) : -(cS : Int) - (sm.prec : Int) ≤ (fSubUlp E sm).exp := by
  have := subUlp_ge_pow E hB cS hd sm 0 (by rw [bpowQ_zero]; exact h1)
  omega

/-! ### `sum += increase` -/

theorem sgn_pos (v : Int) (h : 0 < v) : sgn v = 1 := by
  unfold sgn; split_ifs <;> omega

theorem aligned_value (B : Nat) (hB : 0 < B) (lhs rhs : FRepr) (E : Nat) (hE : (E : Int) = lhs.exp - rhs.exp) :
    ((lhs.signif * ((B ^ E : Nat) : Int) + rhs.signif : Int) : ℚ) * bpowQ B rhs.exp = lhs.toRat B + rhs.toRat B := by
  unfold FRepr.toRat
  have h := bpowQ_shift B hB lhs.exp E
  have e1 : lhs.exp - (E : Int) = rhs.exp := by omega
  rw [e1] at h
  rw [← h]; push_cast; ring

/-- the far-apart branch: the small operand is replaced by a sticky unit `B^(lhs.exp − lk)` before the rounding -/
theorem addLargeSmall_far (B : Nat) (hB : 2 ≤ B) (m : Mode) (c : Coarse) (hc : CoarseSound c) (dub : Int → Nat)
    (p : Nat) (hp : 1 ≤ p) (lhs rhs : FRepr) (hl : 0 < lhs.signif) (hr : 0 < rhs.signif)
    (hfar : dub rhs.signif + 1 < (lhs.exp - rhs.exp).toNat ∧
          dub rhs.signif + 1 + p < lhs.digits B + (lhs.exp - rhs.exp).toNat) :
    ∃ lk : Nat, 2 ≤ lk ∧ p ≤ lk + lhs.digits B ∧
      Contract B m p (lhs.toRat B + bpowQ B (lhs.exp - (lk : Int)))
        ((reprAddLargeSmall B m c dub p lhs rhs 1).1.toRat B) (reprAddLargeSmall B m c dub p lhs rhs 1).2 := by
  have hB0 : 0 < B := by omega
  have hp0 : p ≠ 0 := by omega
  unfold reprAddLargeSmall
  simp only [sgn_pos _ hl, sgn_pos _ hr, one_mul, ne_eq, not_true_eq_false, decide_false,
    Bool.false_eq_true, if_false, Nat.add_zero, hp0, not_false_eq_true, true_and]
  rw [if_pos hfar]
  generalize hlk : (if FRepr.digits B lhs ≥ p then 2 else p - FRepr.digits B lhs + 2) = lk
  have hlk2 : 2 ≤ lk := by rw [← hlk]; split_ifs <;> omega
  have hlkp : p ≤ lk + FRepr.digits B lhs := by rw [← hlk]; split_ifs <;> omega
  have hcon := reprRoundSum_contract B hB m c hc p hp lhs.signif lhs.exp 1 lk false
    (by
      have : 1 < B ^ lk := Nat.one_lt_pow (by omega) (by omega)
      have h2 : (1 : Int) < ((B ^ lk : Nat) : Int) := by exact_mod_cast this
      simpa using h2)
    (by omega) (fun _ => ⟨fun _ => by omega, fun h => by omega⟩) (fun h => by simp at h)
  refine ⟨lk, hlk2, hlkp, ?_⟩
  have hX : (((lhs.signif * ((B ^ lk : Nat) : Int) + 1 : Int) : ℚ)) * bpowQ B (lhs.exp - (lk : Int)) =
      lhs.toRat B + bpowQ B (lhs.exp - (lk : Int)) := by
    have h := bpowQ_shift B hB0 lhs.exp lk
    unfold FRepr.toRat
    rw [← h]; push_cast; ring
  rw [hX] at hcon
  exact hcon

theorem addLargeSmall_pos (B : Nat) (hB : 2 ≤ B) (m : Mode) (c : Coarse) (hc : CoarseSound c) (dub : Int → Nat)
    (p : Nat) (hp : 1 ≤ p) (lhs rhs : FRepr) (hl : 0 < lhs.signif) (hr : 0 < rhs.signif) (hgt : rhs.exp < lhs.exp) :
    ∃ X : ℚ, Contract B m p X ((reprAddLargeSmall B m c dub p lhs rhs 1).1.toRat B)
        (reprAddLargeSmall B m c dub p lhs rhs 1).2 ∧ lhs.toRat B ≤ X ∧
      (¬ (dub rhs.signif + 1 < (lhs.exp - rhs.exp).toNat ∧
          dub rhs.signif + 1 + p < lhs.digits B + (lhs.exp - rhs.exp).toNat) → X = lhs.toRat B + rhs.toRat B) := by
  have hB0 : 0 < B := by omega
  have hp0 : p ≠ 0 := by omega
  have hrq : (0 : ℚ) ≤ rhs.toRat B := (val_pos_of_signif B hB rhs hr).le
  by_cases hfar : dub rhs.signif + 1 < (lhs.exp - rhs.exp).toNat ∧
      dub rhs.signif + 1 + p < lhs.digits B + (lhs.exp - rhs.exp).toNat
  · obtain ⟨lk, _, _, hcon⟩ := addLargeSmall_far B hB m c hc dub p hp lhs rhs hl hr hfar
    exact ⟨_, hcon, by linarith [bpowQ_pos B hB0 (lhs.exp - (lk : Int))], fun h => absurd hfar h⟩
  unfold reprAddLargeSmall
  simp only [shlDigits_eq, sgn_pos _ hl, sgn_pos _ hr, one_mul, ne_eq, not_true_eq_false, decide_false,
    Bool.false_eq_true, if_false, Nat.add_zero, hp0, not_false_eq_true, true_and]
  have hEv : (((lhs.exp - rhs.exp).toNat : Nat) : Int) = lhs.exp - rhs.exp := Int.toNat_of_nonneg (by omega)
  generalize (lhs.exp - rhs.exp).toNat = E at hEv hfar ⊢
  generalize hd : FRepr.digits B lhs = d at hfar ⊢
  · rw [if_neg hfar]
    obtain ⟨hsplit, hlt, hpos, _⟩ := splitDigits_spec B hB rhs.signif E
    by_cases h2 : d ≥ p
    · rw [if_pos h2]
      have h1 := (hpos hr.le)
      have hcon := reprRoundSum_contract B hB m c hc p hp (lhs.signif + (splitDigits B rhs.signif E).1) lhs.exp
        (splitDigits B rhs.signif E).2 E false hlt (by omega) (fun _ => ⟨fun _ => h1.1, fun h => by omega⟩)
        (fun h => by simp at h)
      have hX : (lhs.signif + (splitDigits B rhs.signif E).1) * ((B ^ E : Nat) : Int) + (splitDigits B rhs.signif E).2 =
          lhs.signif * ((B ^ E : Nat) : Int) + rhs.signif := by
        conv_rhs => rw [hsplit]
        ring
      rw [hX, show lhs.exp - (E : Int) = rhs.exp by omega, aligned_value B hB0 lhs rhs E hEv] at hcon
      exact ⟨_, hcon, by linarith, fun _ => rfl⟩
    · rw [if_neg h2]
      by_cases h3 : E + d > p
      · rw [if_pos h3]
        generalize hls : p - d = lsh
        obtain ⟨hsplit', hlt', hpos', _⟩ := splitDigits_spec B hB rhs.signif (E - lsh)
        have h1 := (hpos' hr.le)
        have hDl := natpow_pos B hB0 lsh
        have hcon := reprRoundSum_contract B hB m c hc p hp
          (lhs.signif * ((B ^ lsh : Nat) : Int) + (splitDigits B rhs.signif (E - lsh)).1) (lhs.exp - (lsh : Int))
          (splitDigits B rhs.signif (E - lsh)).2 (E - lsh) false hlt'
          (by have := Int.mul_pos hl hDl; omega) (fun _ => ⟨fun _ => h1.1, fun h => by
            have := Int.mul_pos hl hDl; omega⟩)
          (fun h => by simp at h)
        have hpow : ((B ^ E : Nat) : Int) = ((B ^ lsh : Nat) : Int) * ((B ^ (E - lsh) : Nat) : Int) := by
          rw [← natpow_add]; congr 2; omega
        have hX : (lhs.signif * ((B ^ lsh : Nat) : Int) + (splitDigits B rhs.signif (E - lsh)).1) *
              ((B ^ (E - lsh) : Nat) : Int) + (splitDigits B rhs.signif (E - lsh)).2 =
            lhs.signif * ((B ^ E : Nat) : Int) + rhs.signif := by
          conv_rhs => rw [hsplit', hpow]
          ring
        have he : lhs.exp - (lsh : Int) - ((E - lsh : Nat) : Int) = rhs.exp := by omega
        rw [hX, he, aligned_value B hB0 lhs rhs E hEv] at hcon
        exact ⟨_, hcon, by linarith, fun _ => rfl⟩
      · rw [if_neg h3]
        have hcon := reprRoundSum_nolow_contract B hB m c hc p hp
          (lhs.signif * ((B ^ E : Nat) : Int) + rhs.signif) rhs.exp false
        rw [aligned_value B hB0 lhs rhs E hEv] at hcon
        exact ⟨_, hcon, by linarith, fun _ => rfl⟩

/-- `repr_add_large_small` on two positive operands (`lhs.exponent > rhs.exponent`, any lengths) is one rounding of a value
    `X` that is at least either operand and is the exact sum up to one relative error `B^(1−p)`: the sum itself in the three
    aligned branches; in the far-apart branch the small operand is replaced by a sticky unit before the rounding -/
theorem addLargeSmall_sum (B : Nat) (hB : 2 ≤ B) (m : Mode) (c : Coarse) (hc : CoarseSound c) (dub : Int → Nat)
    (hdub : DubSound B dub) (p : Nat) (hp : 1 ≤ p) (lhs rhs : FRepr) (hl : 0 < lhs.signif) (hr : 0 < rhs.signif)
    (hgt : rhs.exp < lhs.exp) :
    ∃ X, Contract B m p X ((reprAddLargeSmall B m c dub p lhs rhs 1).1.toRat B) (reprAddLargeSmall B m c dub p lhs rhs 1).2 ∧
      lhs.toRat B ≤ X ∧ rhs.toRat B ≤ X ∧ Approx (bpowQ B (1 - (p : Int))) 1 X (lhs.toRat B + rhs.toRat B) := by
  have hB0 : 0 < B := by omega
  have hε0 := (bpowQ_pos B hB0 (1 - (p : Int))).le
  have hε1 := bpow_eps_le_one B hB p hp
  have hLpos := val_pos_of_signif B hB lhs hl
  have hRpos := val_pos_of_signif B hB rhs hr
  by_cases hfar : dub rhs.signif + 1 < (lhs.exp - rhs.exp).toNat ∧
          dub rhs.signif + 1 + p < lhs.digits B + (lhs.exp - rhs.exp).toNat
  · obtain ⟨lk, hlk2, hlkp, hcon⟩ := addLargeSmall_far B hB m c hc dub p hp lhs rhs hl hr hfar
    -- the rounded value `X = lhs + B^(lhs.exp − lk)` against the exact sum
    have hL := toRat_ge B hB lhs hl
    have hR := toRat_abs_lt B hB rhs
    rw [abs_of_pos hRpos] at hR
    have hd := hdub rhs.signif
    have hEv : (((lhs.exp - rhs.exp).toNat : Nat) : Int) = lhs.exp - rhs.exp := Int.toNat_of_nonneg (by omega)
    have hf1 := hfar.1
    have hf2 := hfar.2
    unfold FRepr.digits at hf2 hlkp hR
    -- g = B^(lhs.exp + d − p) = ε · B^(lhs.exp + d − 1)
    have hg : bpowQ B (lhs.exp + (digitsI B lhs.signif : Int) - (p : Int)) =
        bpowQ B (1 - (p : Int)) * bpowQ B (lhs.exp + (digitsI B lhs.signif : Int) - 1) := by
      rw [← bpowQ_add B hB0]; congr 1; ring
    have hXg : bpowQ B (lhs.exp - (lk : Int)) ≤ bpowQ B (lhs.exp + (digitsI B lhs.signif : Int) - (p : Int)) :=
      bpowQ_mono B hB _ _ (by omega)
    have hRg : rhs.toRat B ≤ bpowQ B (lhs.exp + (digitsI B lhs.signif : Int) - (p : Int)) :=
      le_trans hR.le (bpowQ_mono B hB _ _ (by omega))
    have hXpos := bpowQ_pos B hB0 (lhs.exp - (lk : Int))
    -- the small operand lies entirely below the large one
    have hRL : rhs.toRat B ≤ lhs.toRat B :=
      le_trans hR.le (le_trans (bpowQ_mono B hB _ lhs.exp (by omega))
        (le_mul_of_one_le_left (bpowQ_pos B hB0 _).le (by exact_mod_cast hl)))
    refine ⟨_, hcon, by linarith, by linarith, approx_of_near hε0 ?_⟩
    rw [abs_of_pos (by linarith : 0 < lhs.toRat B + rhs.toRat B)]
    have hεL : bpowQ B (1 - (p : Int)) * bpowQ B (lhs.exp + (digitsI B lhs.signif : Int) - 1) ≤
        bpowQ B (1 - (p : Int)) * (lhs.toRat B + rhs.toRat B) :=
      mul_le_mul_of_nonneg_left (by linarith) hε0
    rw [abs_le]; constructor <;> linarith
  · obtain ⟨X, hcon, _, hXeq⟩ := addLargeSmall_pos B hB m c hc dub p hp lhs rhs hl hr hgt
    rw [hXeq hfar] at hcon
    exact ⟨_, hcon, by linarith, by linarith, Approx.mono hε0 hε1 (Nat.zero_le 1) (Approx.refl _ _)⟩

/-- **`sum += increase`**: `FBig + FBig` (`fAddSub … 1`) of two positive operands of ANY length (the quotient `increase` may
    carry `p+1` digits), at the max context `P ≥ 1`, every mode, every sound `digits_ub` estimate, is one rounding at `P` digits
    of a value `X` that is at least either operand and is the exact sum up to one relative error `B^(1−P)` -/
theorem fAddSub_pos_sum (E : Env) (hB : 2 ≤ E.B) (hc : CoarseSound E.c) (hdub : DubSound E.B E.est.dub) (x y : FBigM)
    (hp : 1 ≤ ctxMaxP x.prec y.prec) (hx : 0 < x.repr.signif) (hy : 0 < y.repr.signif) :
    ∃ X fl, Contract E.B E.m (ctxMaxP x.prec y.prec) X (val E.B (fAddSub E x y 1)) fl ∧ val E.B x ≤ X ∧ val E.B y ≤ X ∧
      Approx (bpowQ E.B (1 - (ctxMaxP x.prec y.prec : Int))) 1 X (val E.B x + val E.B y) := by
  have hB0 : 0 < E.B := by omega
  have hε0 := (bpowQ_pos E.B hB0 (1 - (ctxMaxP x.prec y.prec : Int))).le
  have hε1 := bpow_eps_le_one E.B hB _ hp
  have hxq := val_pos_of_signif E.B hB _ hx
  have hyq := val_pos_of_signif E.B hB _ hy
  simp only [val, fAddSub, isZero_of_signif_pos hx, isZero_of_signif_pos hy, Bool.false_eq_true, if_false, one_mul]
  by_cases heq : x.repr.exp = y.repr.exp
  · rw [if_pos heq]
    have hcon := reprRound_contract E.B hB E.m E.c hc _ hp _
      (FRepr.new_normalized E.B hB (x.repr.signif + y.repr.signif) x.repr.exp)
    rw [FRepr.new_value E.B hB0] at hcon
    have e : ((x.repr.signif + y.repr.signif : Int) : ℚ) * bpowQ E.B x.repr.exp =
        x.repr.toRat E.B + y.repr.toRat E.B := by
      unfold FRepr.toRat; rw [← heq]; push_cast; ring
    rw [e] at hcon
    exact ⟨_, _, hcon, by linarith, by linarith, Approx.mono hε0 hε1 (Nat.zero_le 1) (Approx.refl _ _)⟩
  · rw [if_neg heq]
    by_cases hgt : x.repr.exp > y.repr.exp
    · rw [if_pos hgt]
      obtain ⟨X, h⟩ := addLargeSmall_sum E.B hB E.m E.c hc E.est.dub hdub _ hp x.repr y.repr hx hy hgt
      exact ⟨X, _, h⟩
    · rw [if_neg hgt]
      obtain ⟨X, hcon, hX1, hX2, hA⟩ := addLargeSmall_sum E.B hB E.m E.c hc E.est.dub hdub _ hp
        ⟨y.repr.signif, y.repr.exp⟩ x.repr hy hx (by show x.repr.exp < y.repr.exp; omega)
      rw [add_comm] at hA
      exact ⟨X, _, hcon, hX2, hX1, hA⟩

/-- … so a sum `≥ B^L` stays at or above `B^L`: a contract does not cross a power of the base -/
theorem fAddSub_keeps_pow (E : Env) (hB : 2 ≤ E.B) (hc : CoarseSound E.c) (hdub : DubSound E.B E.est.dub) (x y : FBigM)
    (hp : 1 ≤ ctxMaxP x.prec y.prec) (L : Int) (hx : bpowQ E.B L ≤ val E.B x) (hy : 0 < y.repr.signif) :
    bpowQ E.B L ≤ val E.B (fAddSub E x y 1) := by
  obtain ⟨X, _, hcon, hX, _, _⟩ := fAddSub_pos_sum E hB hc hdub x y hp
    (signif_pos_of_val E.B hB _ (lt_of_lt_of_le (bpowQ_pos E.B (by omega) L) hx)) hy
  exact contract_ge_pow hB hp hcon _ (le_trans hx hX)

/-- … and is the exact sum up to two relative errors `B^(1−P)` -/
theorem fAddSub_pos_error (E : Env) (hB : 2 ≤ E.B) (hc : CoarseSound E.c) (hdub : DubSound E.B E.est.dub) (x y : FBigM)
    (hp : 1 ≤ ctxMaxP x.prec y.prec) (hx : 0 < x.repr.signif) (hy : 0 < y.repr.signif) :
    Approx (bpowQ E.B (1 - (ctxMaxP x.prec y.prec : Int))) 2 (val E.B (fAddSub E x y 1)) (val E.B x + val E.B y) := by
  obtain ⟨X, _, hcon, _, _, hA⟩ := fAddSub_pos_sum E hB hc hdub x y hp hx hy
  -- elaborated on its own: against the expected type the unifier unfolds `fAddSub`
  have h := approx_trans (bpow_eps_le_one E.B hB _ hp)
    (approx_of_near (bpowQ_pos E.B (by omega) _).le (near_of_contract E.B hB E.m _ _ _ _ hcon)) hA
  exact h

/-- the case `L = 0`: a sum `≥ 1` stays at or above one -/
theorem fAddSub_keeps (E : Env) (hB : 2 ≤ E.B) (hc : CoarseSound E.c) (hdub : DubSound E.B E.est.dub) (x y : FBigM)
    (hp : 1 ≤ ctxMaxP x.prec y.prec) (hx : 1 ≤ val E.B x) (hy : 0 < y.repr.signif) :
    1 ≤ val E.B (fAddSub E x y 1) := by
  have := fAddSub_keeps_pow E hB hc hdub x y hp 0
  rw [bpowQ_zero] at this
  exact this hx hy

/-! ### error propagation through one stage of the Maclaurin loop -/

/-- a contract at `p ≥ w` digits is one relative error `B^(1−w)` -/
theorem contract_approx {B : Nat} (hB : 2 ≤ B) {m : Mode} {p w : Nat} {x r : ℚ} {fl : Option Rounding} (hw : 1 ≤ w)
    (hwp : w ≤ p) (h : Contract B m p x r fl) : Approx (bpowQ B (1 - (w : Int))) 1 r x :=
  approx_mono_eps (bpowQ_pos B (by omega) _).le (bpowQ_eps_le B hB _ _ hwp) (bpow_eps_le_one B hB w hw)
    (approx_of_near (bpowQ_pos B (by omega) _).le (near_of_contract B hB m p _ _ _ h))

/-- `x`, held at `w` digits or more, is `t` up to `k` relative errors `B^(1−w)` -/
structure Tracks (E : Env) (w k : Nat) (x : FBigM) (t : ℚ) : Prop where
  prec : w ≤ x.prec
  approx : Approx (bpowQ E.B (1 - (w : Int))) k (val E.B x) t

theorem Tracks.refl {E : Env} {w : Nat} {x : FBigM} (hp : w ≤ x.prec) : Tracks E w 0 x (val E.B x) := ⟨hp, Approx.refl _ _⟩

section
variable {E : Env} (hB : 2 ≤ E.B) (hc : CoarseSound E.c) {w : Nat} (hw : 1 ≤ w) {i j : Nat} {x y : FBigM} {s t : ℚ}
include hB hw

theorem Tracks.mono (h : Tracks E w i x s) (hij : i ≤ j) : Tracks E w j x s :=
  ⟨h.prec, Approx.mono (bpowQ_pos E.B (by omega) _).le (bpow_eps_le_one E.B hB w hw) hij h.approx⟩

theorem Tracks.tpos (h : Tracks E w i x s) (hx : 0 < val E.B x) : 0 < s := by
  obtain ⟨f, hf, hf1, _⟩ := h.approx
  have hf0 : 0 ≤ f := le_trans (pow_nonneg (sub_nonneg.2 (bpow_eps_le_one E.B hB w hw)) i) hf1
  rw [hf] at hx
  exact (pos_iff_pos_of_mul_pos hx).2 (lt_of_le_of_ne hf0 (by rintro rfl; simp at hx))

include hc

/-- `x * y`: one more error than the factors carry together; positive for positive factors -/
theorem Tracks.mul (hx : Tracks E w i x s) (hy : Tracks E w j y t) :
    Tracks E w (1 + (i + j)) (fMul E x y) (s * t) ∧ (0 < val E.B x → 0 < val E.B y → 0 < val E.B (fMul E x y)) := by
  have hwp : w ≤ ctxMaxP x.prec y.prec := le_trans hx.prec (Series.ctxMaxP_ge_left _ _)
  have hcon := opMul_contract E.B hB E.m E.c hc _ (le_trans hw hwp) x.repr y.repr
  have hε1 := bpow_eps_le_one E.B hB w hw
  exact ⟨⟨hwp, approx_trans hε1 (contract_approx hB hw hwp hcon) (approx_mul hε1 hx.approx hy.approx)⟩,
    fun h1 h2 => contract_pos hB (le_trans hw hwp) hcon (mul_pos h1 h2)⟩

omit hc in
/-- `x / y` for a divisor whose reciprocal is known up to `j` errors -/
theorem Tracks.div (hx : Tracks E w i x s) (hy : val E.B y ≠ 0)
    (hI : Approx (bpowQ E.B (1 - (w : Int))) j (1 / val E.B y) (1 / t)) :
    ∃ q, fDiv E x y = .ok q ∧ q.prec = ctxMaxP x.prec y.prec ∧ Tracks E w (1 + (i + j)) q (s / t) ∧
      (0 < val E.B x → 0 < val E.B y → 0 < val E.B q) := by
  have hwp : w ≤ ctxMaxP x.prec y.prec := le_trans hx.prec (Series.ctxMaxP_ge_left _ _)
  have hp := le_trans hw hwp
  obtain ⟨q, hq, hcon⟩ := reprDiv_contract E.B hB E.m _ hp x.repr y.repr
    (fun h => hy (by simp [val, FRepr.toRat, h]))
  have hε1 := bpow_eps_le_one E.B hB w hw
  refine ⟨⟨q.1, ctxMaxP x.prec y.prec⟩, by simp only [fDiv, hq], rfl, ⟨hwp, ?_⟩,
    fun h1 h2 => contract_pos hB hp hcon (div_pos h1 h2)⟩
  rw [div_eq_mul_one_div] at hcon ⊢
  exact approx_trans hε1 (contract_approx hB hw hwp hcon) (approx_mul hε1 hx.approx hI)

/-- `x + y` of positive values: two more errors than the worse of the operands -/
theorem Tracks.add (hdub : DubSound E.B E.est.dub) {K : Nat}
    (hx : Tracks E w i x s) (hy : Tracks E w j y t)
    (hi : i ≤ K) (hj : j ≤ K) (hx0 : 0 < val E.B x) (hy0 : 0 < val E.B y) :
    Tracks E w (2 + K) (fAddSub E x y 1) (s + t) := by
  have hwp : w ≤ ctxMaxP x.prec y.prec := le_trans hx.prec (Series.ctxMaxP_ge_left _ _)
  have hε0 := (bpowQ_pos E.B (by omega) (1 - (w : Int))).le
  have hε1 := bpow_eps_le_one E.B hB w hw
  have h := fAddSub_pos_error E hB hc hdub x y (le_trans hw hwp) (signif_pos_of_val E.B hB _ hx0)
    (signif_pos_of_val E.B hB _ hy0)
  exact ⟨hwp, approx_trans hε1 (approx_mono_eps (bpowQ_pos E.B (by omega) _).le (bpowQ_eps_le E.B hB _ _ hwp) hε1 h)
    (approx_add hε0 hε1 (hx.tpos hB hw hx0).le (hy.tpos hB hw hy0).le ((hx.mono hB hw hi).approx)
      ((hy.mono hB hw hj).approx))⟩

end

/-- **one stage of the Maclaurin loop** (`pow *= &r; increase = &pow / &factorial`), working precision `w ≥ 1`,
    `ε = B^(1−w)`: if `pow` carries `j` accumulated relative errors of size `ε` against `t`, then the new `pow` carries
    `j + 1` against `t·r` and the term `increase` carries `j + 2` against `t·r / factorial` (the quotient is rounded at
    `max(w, digits factorial) ≥ w` digits) — for every mode, operands of any length -/
theorem expStage_error (E : Env) (hB : 2 ≤ E.B) (hc : CoarseSound E.c) (r pw : FBigM) (w : Nat) (hw : 1 ≤ w)
    (hrp : r.prec = w) (hpp : pw.prec = w) (F : Int) (hF : 1 ≤ F) (j : Nat) (t : ℚ)
    (h : Approx (bpowQ E.B (1 - (w : Int))) j (val E.B pw) t) :
    Approx (bpowQ E.B (1 - (w : Int))) (j + 1) (val E.B (fMul E pw r)) (t * val E.B r) ∧
    ∃ inc, fDiv E (fMul E pw r) (fOfInt E.B F) = .ok inc ∧
      Approx (bpowQ E.B (1 - (w : Int))) (j + 2) (val E.B inc) (t * val E.B r * (1 / (F : ℚ))) := by
  have hm := ((Tracks.mk hpp.ge h).mul hB hc hw (Tracks.refl hrp.ge)).1
  have hv := fOfInt_val E.B hB F
  obtain ⟨inc, hinc, -, hT, -⟩ := hm.div hB hw (y := fOfInt E.B F) (t := (F : ℚ)) (j := 0)
    (by rw [hv]; exact_mod_cast (by omega : F ≠ 0)) (by rw [hv]; exact Approx.refl _ _)
  rw [div_eq_mul_one_div] at hT
  exact ⟨(hm.mono hB hw (by omega)).approx, inc, hinc, (hT.mono hB hw (by omega)).approx⟩

/-- the states the loop passes through: `(factorial, pow)` before the step with index `i + 2` -/
def expState (E : Env) (r : FBigM) : Nat → Int × FBigM
  | 0 => (1, r)
  | i + 1 => ((expState E r i).1 * ((i + 2 : Nat) : Int), fMul E (expState E r i).2 r)

theorem expState_prec (E : Env) (r : FBigM) : ∀ i, (expState E r i).2.prec = r.prec := by
  intro i
  induction i with
  | zero => rfl
  | succ i ih => simp only [expState, fMul, ih, Series.ctxMaxP_self]

theorem expState_fact (E : Env) (r : FBigM) : ∀ i, (expState E r i).1 = ((i + 1).factorial : Int) := by
  intro i
  induction i with
  | zero => simp [expState]
  | succ i ih =>
    simp only [expState, ih]
    rw [Nat.factorial_succ (i + 1)]; push_cast; ring

section
variable (E : Env) (hB : 2 ≤ E.B) (hc : CoarseSound E.c) (r : FBigM) (w : Nat) (hw : 1 ≤ w) (hrp : r.prec = w)
include hB hc hw hrp

/-- `pow` before the step `i + 2` is `r^(i+1)` up to `i` errors -/
theorem expState_tracks : ∀ i, Tracks E w i (expState E r i).2 (val E.B r ^ (i + 1))
  | 0 => by simpa [expState] using Tracks.refl (E := E) hrp.ge
  | i + 1 => by
    have := ((expState_tracks i).mul hB hc hw (Tracks.refl hrp.ge)).1
    rw [← pow_succ] at this
    exact this.mono hB hw (by omega)

theorem expState_pos (hr0 : 0 < r.repr.signif) : ∀ i, 0 < val E.B (expState E r i).2
  | 0 => val_pos_of_signif E.B hB _ hr0
  | i + 1 => ((expState_tracks E hB hc r w hw hrp i).mul hB hc hw (Tracks.refl hrp.ge)).2 (expState_pos hr0 i)
      (val_pos_of_signif E.B hB _ hr0)

/-- the term of the step `i + 2` is `r^(i+2)/(i+2)!` up to `i + 2` errors, positive for a positive `r` -/
theorem expInc_tracks (i : Nat) :
    ∃ inc, fDiv E (fMul E (expState E r i).2 r) (fOfInt E.B ((expState E r i).1 * ((i + 2 : Nat) : Int))) = .ok inc ∧
      Tracks E w (i + 2) inc (val E.B r ^ (i + 2) / ((i + 2).factorial : ℚ)) ∧
      (0 < r.repr.signif → 0 < val E.B inc) := by
  have hm := (expState_tracks E hB hc r w hw hrp i).mul hB hc hw (Tracks.refl (E := E) hrp.ge)
  have hv : val E.B (fOfInt E.B ((expState E r i).1 * ((i + 2 : Nat) : Int))) = ((i + 2).factorial : ℚ) := by
    rw [fOfInt_val E.B hB, expState_fact, Nat.factorial_succ (i + 1)]; push_cast; ring
  have hFpos : (0 : ℚ) < ((i + 2).factorial : ℚ) := by exact_mod_cast Nat.factorial_pos _
  obtain ⟨inc, hinc, -, hT, hpos⟩ := hm.1.div hB hw (j := 0) (t := ((i + 2).factorial : ℚ))
    (y := fOfInt E.B ((expState E r i).1 * ((i + 2 : Nat) : Int))) (by rw [hv]; exact hFpos.ne')
    (by rw [hv]; exact Approx.refl _ _)
  rw [← pow_succ] at hT
  refine ⟨inc, hinc, hT.mono hB hw (by omega), fun hr0 => hpos ?_ (by rw [hv]; exact hFpos)⟩
  exact hm.2 (expState_pos E hB hc r w hw hrp hr0 i) (val_pos_of_signif E.B hB _ hr0)

end

/-! ### the loop of `Context::iacoth` (all terms positive) -/

/-- `convert_int(k)` at `w ≥ 1` digits is at least `1` for `k ≥ 1` -/
theorem fConvertInt_ge_one (E : Env) (hB : 2 ≤ E.B) (hc : CoarseSound E.c) (w : Nat) (hw : 1 ≤ w) (k : Int) (hk : 1 ≤ k) :
    1 ≤ val E.B (fConvertInt E w k) := by
  have hB0 : 0 < E.B := by omega
  have hcon := reprRound_contract E.B hB E.m E.c hc w hw _ (FRepr.new_normalized E.B hB k 0)
  rw [FRepr.new_value E.B hB0, bpowQ_zero] at hcon
  have h1 : bpowQ E.B 0 ≤ (k : ℚ) * 1 := by
    rw [bpowQ_zero]
    have : (1 : ℚ) ≤ (k : ℚ) := by exact_mod_cast hk
    linarith
  have := contract_ge_pow hB hw hcon 0 h1
  rw [bpowQ_zero] at this
  simpa [val, fConvertInt] using this

/-- `pow / convert_int(k)`: the quotient does not exceed a power-of-base bound of `pow` -/
theorem fDiv_conv_bound (E : Env) (hB : 2 ≤ E.B) (hc : CoarseSound E.c) (x : FBigM) (w : Nat) (hw : 1 ≤ w) (k : Int)
    (hk : 1 ≤ k) (a : Int) (hx0 : 0 ≤ val E.B x) (hxa : val E.B x ≤ bpowQ E.B a) :
    ∃ inc, fDiv E x (fConvertInt E w k) = .ok inc ∧ inc.prec = ctxMaxP x.prec w ∧
      0 ≤ val E.B inc ∧ val E.B inc ≤ bpowQ E.B a := by
  have hB0 : 0 < E.B := by omega
  have hc1 := fConvertInt_ge_one E hB hc w hw k hk
  have hcs : (fConvertInt E w k).repr.signif ≠ 0 := by
    intro h
    simp only [val, FRepr.toRat, h] at hc1
    norm_num at hc1
  have hp : 1 ≤ ctxMaxP x.prec (fConvertInt E w k).prec := le_trans hw (Series.ctxMaxP_ge_right _ _)
  obtain ⟨r, hr, hcon⟩ := reprDiv_contract E.B hB E.m _ hp x.repr (fConvertInt E w k).repr hcs
  refine ⟨⟨r.1, ctxMaxP x.prec (fConvertInt E w k).prec⟩, by simp only [fDiv, hr], rfl, ?_⟩
  have hcpos : (0 : ℚ) < (fConvertInt E w k).repr.toRat E.B := lt_of_lt_of_le one_pos hc1
  have hq0 : 0 ≤ x.repr.toRat E.B / (fConvertInt E w k).repr.toRat E.B := div_nonneg hx0 hcpos.le
  have hq : x.repr.toRat E.B / (fConvertInt E w k).repr.toRat E.B ≤ bpowQ E.B a :=
    le_trans (div_le_self hx0 hc1) hxa
  exact contract_le_pow hB hp hcon hq0 _ hq

end Dashu.Proofs.Trans.SeriesBound
