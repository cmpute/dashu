import Dashu.Model.Trans.Encl
import Mathlib.Data.Rat.Lemmas
import Mathlib.Algebra.Order.Field.Rat
import Mathlib.Tactic.Linarith
import Mathlib.Tactic.Positivity
import Mathlib.Tactic.FieldSimp
import Mathlib.Tactic.Ring
import Mathlib.Data.Real.Basic
/-
  The dyadic grid roundings `rdn` / `rup` of `Dashu/Model/Trans/Encl.lean` bracket their argument.
-/
namespace Dashu.Model.Trans

theorem rdn_le (m : ℕ) (q : ℚ) : rdn m q ≤ q := by
  unfold rdn
  have hd : (0 : ℚ) < (q.den : ℚ) := by exact_mod_cast q.den_pos
  have hp : (0 : ℚ) < ((2 ^ m : ℕ) : ℚ) := by positivity
  rw [Rat.mkRat_eq_div]
  have hq : q = (q.num : ℚ) / (q.den : ℚ) := (Rat.num_div_den q).symm
  have h1 : ((q.num * ((2 ^ m : ℕ) : ℤ)) / (q.den : ℤ)) * (q.den : ℤ) ≤ q.num * ((2 ^ m : ℕ) : ℤ) :=
    Int.ediv_mul_le _ (by exact_mod_cast q.den_ne_zero)
  have h2 : (((q.num * ((2 ^ m : ℕ) : ℤ)) / (q.den : ℤ) : ℤ) : ℚ) * (q.den : ℚ)
      ≤ (q.num : ℚ) * ((2 ^ m : ℕ) : ℚ) := by exact_mod_cast h1
  rw [div_le_iff₀ (by exact_mod_cast hp)]
  calc (((q.num * ((2 ^ m : ℕ) : ℤ)) / (q.den : ℤ) : ℤ) : ℚ)
      = (((q.num * ((2 ^ m : ℕ) : ℤ)) / (q.den : ℤ) : ℤ) : ℚ) * (q.den : ℚ) / (q.den : ℚ) := by
        field_simp
    _ ≤ (q.num : ℚ) * ((2 ^ m : ℕ) : ℚ) / (q.den : ℚ) := by
        apply div_le_div_of_nonneg_right h2 hd.le
    _ = q * (((2 ^ m : ℕ) : ℤ) : ℚ) := by
        conv_rhs => rw [hq]
        push_cast; ring

theorem le_rup (m : ℕ) (q : ℚ) : q ≤ rup m q := by
  have h := rdn_le m (-q)
  have e : rup m q = - rdn m (-q) := by
    unfold rup rdn
    rw [Rat.mkRat_eq_div, Rat.mkRat_eq_div]
    simp only [Rat.num_neg_eq_neg_num, Rat.den_neg_eq_den, neg_mul]
    push_cast
    ring
  rw [e]; linarith

theorem rdn_nonneg (m : ℕ) {q : ℚ} (h : 0 ≤ q) : 0 ≤ rdn m q := by
  unfold rdn
  rw [Rat.mkRat_eq_div]
  apply div_nonneg
  · have : (0 : ℤ) ≤ (q.num * ((2 ^ m : ℕ) : ℤ)) / (q.den : ℤ) :=
      Int.ediv_nonneg (mul_nonneg (Rat.num_nonneg.mpr h) (by positivity)) (by positivity)
    exact_mod_cast this
  · positivity

theorem rup_nonneg (m : ℕ) {q : ℚ} (h : 0 ≤ q) : 0 ≤ rup m q := le_trans h (le_rup m q)

theorem rdn_le_real (m : ℕ) (q : ℚ) : ((rdn m q : ℚ) : ℝ) ≤ (q : ℝ) := by exact_mod_cast rdn_le m q
theorem le_rup_real (m : ℕ) (q : ℚ) : (q : ℝ) ≤ ((rup m q : ℚ) : ℝ) := by exact_mod_cast le_rup m q

end Dashu.Model.Trans
