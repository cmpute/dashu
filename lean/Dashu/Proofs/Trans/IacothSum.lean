import Dashu.Proofs.Trans.SumStage
/-
  C11 — error propagation through the loop of `Context::iacoth`
  (`pow *= &inv2; increase = &pow / k; if increase < sum.sub_ulp() { return sum }; sum += increase; k += 2`):
  the terms and the ACCUMULATED partial sum, relative to the values `inv`, `inv2` the loop holds.
-/
namespace Dashu.Proofs.Trans.IacothSum
open Dashu.Model.Float Dashu.Model.Trans Dashu.Proofs.Trans.SeriesBound Dashu.Proofs.Trans.SumStage

theorem bpow_eps_le_half (B : Nat) (hB : 2 ≤ B) (w : Nat) (hw : 2 ≤ w) : bpowQ B (1 - (w : Int)) ≤ 1 / 2 := by
  have h1 : bpowQ B (1 - (w : Int)) ≤ bpowQ B (-1) := bpowQ_mono B hB _ _ (by omega)
  have h2 : bpowQ B (-1) = ((B : ℚ))⁻¹ := by rw [bpowQ_eq_zpow, zpow_neg_one]
  have hB2 : (2 : ℚ) ≤ (B : ℚ) := by exact_mod_cast hB
  have h3 : ((B : ℚ))⁻¹ ≤ (2 : ℚ)⁻¹ := inv_anti₀ (by norm_num) hB2
  rw [h2] at h1
  calc bpowQ B (1 - (w : Int)) ≤ ((B : ℚ))⁻¹ := h1
    _ ≤ (2 : ℚ)⁻¹ := h3
    _ = 1 / 2 := by norm_num

/-! ### the states of the loop -/

/-- `pow` after `i` multiplications by `inv2` -/
def iaPow (E : Env) (inv inv2 : FBigM) : Nat → FBigM
  | 0 => inv
  | i + 1 => fMul E (iaPow E inv inv2 i) inv2

/-- the term `increase` of the step with `k = 2i + 3` -/
def iaInc (E : Env) (w : Nat) (inv inv2 : FBigM) (i : Nat) : Except String FBigM :=
  fDiv E (iaPow E inv inv2 (i + 1)) (fConvertInt E w ((2 * i + 3 : Nat) : Int))

/-- `sum` before the step with `k = 2i + 3` -/
def iaSum (E : Env) (w : Nat) (inv inv2 : FBigM) : Nat → FBigM
  | 0 => inv
  | i + 1 =>
    match iaInc E w inv inv2 i with
    | .ok inc => fAddSub E (iaSum E w inv inv2 i) inc 1
    | .error _ => iaSum E w inv inv2 i

/-- the exact partial sums `Σ_{j ≤ i} v·q^j/(2j+1)` -/
def iaPartial (v q : ℚ) : Nat → ℚ
  | 0 => v
  | i + 1 => iaPartial v q i + v * q ^ (i + 1) / ((2 * i + 3 : Nat) : ℚ)

theorem iaPartial_nonneg (v q : ℚ) (hv : 0 ≤ v) (hq : 0 ≤ q) : ∀ i, 0 ≤ iaPartial v q i := by
  intro i
  induction i with
  | zero => simpa only [iaPartial] using hv
  | succ i ih =>
    simp only [iaPartial]
    have : 0 ≤ v * q ^ (i + 1) / ((2 * i + 3 : Nat) : ℚ) :=
      div_nonneg (mul_nonneg hv (pow_nonneg hq _)) (Nat.cast_nonneg _)
    linarith

theorem iaPow_prec (E : Env) (inv inv2 : FBigM) (w : Nat) (h1 : inv.prec = w) (h2 : inv2.prec = w) :
    ∀ i, (iaPow E inv inv2 i).prec = w := by
  intro i
  induction i with
  | zero => exact h1
  | succ i ih => simp only [iaPow, fMul, ih, h2, Series.ctxMaxP_self]

/-- `convert_int(k)` at `w` digits is `k` up to one error -/
theorem fConvertInt_tracks (E : Env) (hB : 2 ≤ E.B) (hc : CoarseSound E.c) (w : Nat) (hw : 1 ≤ w) (k : Int) :
    Tracks E w 1 (fConvertInt E w k) (k : ℚ) := by
  have hcon := reprRound_contract E.B hB E.m E.c hc w hw _ (FRepr.new_normalized E.B hB k 0)
  rw [FRepr.new_value E.B (by omega), bpowQ_zero, mul_one] at hcon
  exact ⟨le_rfl, contract_approx hB hw le_rfl hcon⟩

section
variable (E : Env) (hB : 2 ≤ E.B) (hc : CoarseSound E.c) (inv inv2 : FBigM) (w : Nat) (hw : 1 ≤ w)
  (h1 : inv.prec = w) (h2 : inv2.prec = w) (hi : 0 < inv.repr.signif) (hi2 : 0 < inv2.repr.signif)
include hB hc hw h1 h2 hi hi2

/-- `pow` is positive and is `inv·inv2^i` up to `i` relative errors -/
theorem iaPow_error : ∀ i, 0 < val E.B (iaPow E inv inv2 i) ∧
    Approx (bpowQ E.B (1 - (w : Int))) i (val E.B (iaPow E inv inv2 i)) (val E.B inv * (val E.B inv2) ^ i) := by
  intro i
  induction i with
  | zero => exact ⟨val_pos_of_signif E.B hB _ hi, by simpa [iaPow] using (Tracks.refl (E := E) h1.ge).approx⟩
  | succ i ih =>
    have hm := (Tracks.mk (iaPow_prec E inv inv2 w h1 h2 i).ge ih.2).mul hB hc hw (Tracks.refl (E := E) h2.ge)
    rw [mul_assoc, ← pow_succ] at hm
    exact ⟨hm.2 ih.1 (val_pos_of_signif E.B hB _ hi2), (hm.1.mono hB hw (by omega)).approx⟩

/-- the term of the step `k = 2i + 3`: positive, at precision `w`, and `inv·inv2^(i+1)/(2i+3)` up to `i + 4` errors
    (`w ≥ 2`: the divisor `convert_int(k)` is itself rounded to `w` digits) -/
theorem iaInc_spec (hw2 : 2 ≤ w) (i : Nat) : ∃ inc, iaInc E w inv inv2 i = .ok inc ∧ inc.prec = w ∧ 0 < val E.B inc ∧
    Approx (bpowQ E.B (1 - (w : Int))) (i + 4) (val E.B inc)
      (val E.B inv * (val E.B inv2) ^ (i + 1) / ((2 * i + 3 : Nat) : ℚ)) := by
  obtain ⟨hpos, hA⟩ := iaPow_error E hB hc inv inv2 w hw h1 h2 hi hi2 (i + 1)
  have hpw := iaPow_prec E inv inv2 w h1 h2 (i + 1)
  have hk1 : (1 : Int) ≤ ((2 * i + 3 : Nat) : Int) := by push_cast; omega
  have hc1 := fConvertInt_ge_one E hB hc w hw _ hk1
  have hkI := approx_inv (bpowQ_pos E.B (by omega) _).le (bpow_eps_le_one E.B hB w hw)
    (by have := bpow_eps_le_half E.B hB w hw2; push_cast; linarith)
    (fConvertInt_tracks E hB hc w hw ((2 * i + 3 : Nat) : Int)).approx
  obtain ⟨inc, hinc, hp, hT, hpos'⟩ := (Tracks.mk hpw.ge hA).div hB hw (by linarith) hkI
  rw [Int.cast_natCast] at hT
  refine ⟨inc, hinc, ?_, hpos' hpos (by linarith), (hT.mono hB hw (by omega)).approx⟩
  rw [hp, hpw]; exact Series.ctxMaxP_self w

/-- **accumulated error of the partial sum of `iacoth`**: `sum` before the step `k = 2i + 3` is at least the power of the
    base below `inv`, is held at `w` digits and is `Σ_{j ≤ i} inv·inv2^j/(2j+1)` up to `2i + 4` relative errors `B^(1−w)` -/
theorem iaSum_error (hdub : DubSound E.B E.est.dub) (hw2 : 2 ≤ w) : ∀ i,
    bpowQ E.B (inv.repr.exp + (digitsI E.B inv.repr.signif : Int) - 1) ≤ val E.B (iaSum E w inv inv2 i) ∧
    (iaSum E w inv inv2 i).prec = w ∧
    Approx (bpowQ E.B (1 - (w : Int))) (2 * i + 4) (val E.B (iaSum E w inv inv2 i))
      (iaPartial (val E.B inv) (val E.B inv2) i) := by
  intro i
  induction i with
  | zero =>
    exact ⟨toRat_ge E.B hB inv.repr hi, h1, ((Tracks.refl (E := E) h1.ge).mono hB hw (by omega)).approx⟩
  | succ i ih =>
    obtain ⟨hsL, hsp, hA⟩ := ih
    obtain ⟨inc, hinc, hincw, hincpos, hT⟩ := iaInc_spec E hB hc inv inv2 w hw h1 h2 hi hi2 hw2 i
    have hS : iaSum E w inv inv2 (i + 1) = fAddSub E (iaSum E w inv inv2 i) inc 1 := by simp only [iaSum, hinc]
    have hPw : ctxMaxP (iaSum E w inv inv2 i).prec inc.prec = w := by rw [hsp, hincw, Series.ctxMaxP_self]
    rw [hS, show 2 * (i + 1) + 4 = 2 + (2 * i + 4) by ring]
    exact ⟨fAddSub_keeps_pow E hB hc hdub _ _ (by rw [hPw]; exact hw) _ hsL (signif_pos_of_val E.B hB _ hincpos), hPw,
      ((Tracks.mk hsp.ge hA).add hB hc hw hdub (Tracks.mk hincw.ge hT) le_rfl (by omega)
        (lt_of_lt_of_le (bpowQ_pos E.B (by omega) _) hsL) hincpos).approx⟩

end

section
variable {L : Nat → FBigM × FBigM × Nat → Except String (Option (FBigM × Nat))} {E : Env} {w : Nat} {inv2 : FBigM}
  {stop : FRepr → FRepr → Bool} (hL : Dashu.Proofs.Gen.Fuelled L (Series.atanhStep E w inv2 stop))
include hL

/-- whatever an iteration of `atanhStep` (the loop of `iacoth`, the atanh loop of `ln_internal`) returns from a state of its
    own trajectory is one of the `iaSum`s, with the matching `k`: for every stop test -/
theorem atanh_result (inv : FBigM) (fuel i : Nat) (res : FBigM × Nat)
    (h : L fuel (iaPow E inv inv2 i, iaSum E w inv inv2 i, 2 * i + 3) = .ok (some res)) :
    ∃ j, i ≤ j ∧ res = (iaSum E w inv inv2 j, 2 * j + 3) := by
  obtain ⟨m, hm, _, hQ⟩ := hL.returns
    (fun n a => a = (iaPow E inv inv2 n, iaSum E w inv inv2 n, 2 * n + 3))
    (fun n b => b = (iaSum E w inv inv2 n, 2 * n + 3))
    (fun n a hI => by
      subst hI
      refine ⟨fun b hb => Series.atanhStep_inl hb, fun a' ha => ?_⟩
      obtain ⟨inc, hd, rfl⟩ := Series.atanhStep_inr ha
      simp only [iaSum, iaInc, iaPow, hd]; rfl)
    fuel i _ res rfl h
  exact ⟨m, hm, hQ⟩

/-- **what the loop returns** from its entry state (`pow = sum = inv`, `k = 3`), any fuel: `k = 2j + 3` and
    `sum = Σ_{l ≤ j} inv·inv2^l/(2l+1)` up to `2j + 4` accumulated relative errors `B^(1−w)` -/
theorem atanh_result_error (hB : 2 ≤ E.B) (hc : CoarseSound E.c) (hdub : DubSound E.B E.est.dub)
    (inv : FBigM) (hw2 : 2 ≤ w) (h1 : inv.prec = w) (h2 : inv2.prec = w) (hi : 0 < inv.repr.signif)
    (hi2 : 0 < inv2.repr.signif) (fuel : Nat) (res : FBigM × Nat)
    (h : L fuel (inv, inv, 3) = .ok (some res)) :
    ∃ j, res.2 = 2 * j + 3 ∧ 0 < val E.B res.1 ∧
      Approx (bpowQ E.B (1 - (w : Int))) (2 * j + 4) (val E.B res.1) (iaPartial (val E.B inv) (val E.B inv2) j) := by
  obtain ⟨j, _, hres⟩ := atanh_result hL inv fuel 0 res h
  subst hres
  have := iaSum_error E hB hc inv inv2 w (by omega) h1 h2 hi hi2 hdub hw2 j
  exact ⟨j, rfl, lt_of_lt_of_le (bpowQ_pos E.B (by omega) _) this.1, this.2.2⟩

end

end Dashu.Proofs.Trans.IacothSum
