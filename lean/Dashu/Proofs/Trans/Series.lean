import Dashu.Model.Trans.Series
import Dashu.Proofs.Gen.Fuelled
import Dashu.Proofs.Float.Core
/-
  The mirrored series (`Model/Trans/Series.lean`), core Lean only: each of the three fuelled loops (`exp_internal`,
  `Context::iacoth`, the atanh loop of `ln_internal`) is the iteration of a step function (`Proofs/Gen/Fuelled`), so the
  analyses reason about one pass; which flags and precisions the bodies of exp/ln/powf return.
-/
namespace Dashu.Proofs.Trans.Series
open Dashu.Model.Float Dashu.Model.Trans

theorem ctxMaxP_ge_left (a b : Nat) : a ≤ ctxMaxP a b := by unfold ctxMaxP; split <;> omega
theorem ctxMaxP_ge_right (a b : Nat) : b ≤ ctxMaxP a b := by unfold ctxMaxP; split <;> omega
theorem ctxMaxP_le (a b c : Nat) (ha : a ≤ c) (hb : b ≤ c) : ctxMaxP a b ≤ c := by unfold ctxMaxP; split <;> omega
theorem ctxMaxP_self (a : Nat) : ctxMaxP a a = a := by unfold ctxMaxP; split <;> rfl

/-! ### the flag-tracking powering loop has the value of the loop of `Model/Trans/Powi` -/

theorem powLoopF_value (B : Nat) (m : Mode) (c : Coarse) (q : Nat) (base : FRepr) :
    ∀ (bs : List Bool) (cur : Rounded FRepr),
      (powLoopF B m c q base bs cur).1 = powLoop false B m c q base bs cur.1 := by
  intro bs
  induction bs with
  | nil => intro cur; rfl
  | cons b bs ih =>
    intro cur
    simp only [powLoopF, powLoop]
    rw [ih]
    cases b <;> rfl

theorem powiNonnegF_value (E : Env) (p : Nat) (base : FRepr) (n : Nat) :
    (powiNonnegF E p base n).1 = (powiNonneg false E.B E.m E.c p base (lowBits n)).2.1 := by
  simp only [powiNonnegF, powiNonneg]
  rw [powLoopF_value]

/-! ### the series loops as iterations of a step (`Proofs/Gen/Fuelled`) -/

/-- one pass of the Maclaurin loop of `exp_internal` from `(factorial, pow, sum, k)` -/
def expStep (E : Env) (r : FBigM) : Int × FBigM × FBigM × Nat → Except String ((FBigM × Nat) ⊕ (Int × FBigM × FBigM × Nat))
  | (fa, pw, sm, k) =>
    match fDiv E (fMul E pw r) (fOfInt E.B (fa * (k : Int))) with
    | .error e => .error e
    | .ok inc =>
      if reprAbsCmp E.B inc.repr (fSubUlp E sm) ≠ .gt then .ok (.inl (sm, k))
      else .ok (.inr (fa * (k : Int), fMul E pw r, fAddSub E sm inc 1, k + 1))

theorem expLoop_fuelled (E : Env) (r : FBigM) :
    Dashu.Proofs.Gen.Fuelled (fun f a => expLoop E r f a.1 a.2.1 a.2.2.1 a.2.2.2) (expStep E r) where
  zero _ := rfl
  succ f a := by
    obtain ⟨fa, pw, sm, k⟩ := a
    simp only [expLoop, expStep]
    cases fDiv E (fMul E pw r) (fOfInt E.B (fa * (k : Int))) with
    | error e => rfl
    | ok inc => dsimp only; split <;> rfl

/-- a pass returns `(sum, k)` when the stop test holds of the term … -/
theorem expStep_inl {E : Env} {r : FBigM} {fa : Int} {pw sm : FBigM} {k : Nat} {b : FBigM × Nat}
    (h : expStep E r (fa, pw, sm, k) = .ok (.inl b)) :
    ∃ inc, fDiv E (fMul E pw r) (fOfInt E.B (fa * (k : Int))) = .ok inc ∧
      reprAbsCmp E.B inc.repr (fSubUlp E sm) ≠ .gt ∧ b = (sm, k) := by
  simp only [expStep] at h
  split at h
  · cases h
  · next inc hd =>
    split at h
    · next hc => cases h; exact ⟨inc, hd, hc, rfl⟩
    · cases h

/-- … and otherwise goes on with `(factorial·k, pow·r, sum + term, k + 1)` -/
theorem expStep_inr {E : Env} {r : FBigM} {fa : Int} {pw sm : FBigM} {k : Nat} {a' : Int × FBigM × FBigM × Nat}
    (h : expStep E r (fa, pw, sm, k) = .ok (.inr a')) :
    ∃ inc, fDiv E (fMul E pw r) (fOfInt E.B (fa * (k : Int))) = .ok inc ∧
      a' = (fa * (k : Int), fMul E pw r, fAddSub E sm inc 1, k + 1) := by
  simp only [expStep] at h
  split at h
  · cases h
  · next inc hd => split at h <;> cases h; exact ⟨inc, hd, rfl⟩

/-- one pass of the loop of `Context::iacoth` and of the atanh loop of `ln_internal` from `(pow, sum, k)`: the two differ
    in the stop test only -/
def atanhStep (E : Env) (w : Nat) (q : FBigM) (stop : FRepr → FRepr → Bool) :
    FBigM × FBigM × Nat → Except String ((FBigM × Nat) ⊕ (FBigM × FBigM × Nat))
  | (pw, sm, k) =>
    match fDiv E (fMul E pw q) (fConvertInt E w (k : Int)) with
    | .error e => .error e
    | .ok inc =>
      if stop inc.repr (fSubUlp E sm) then .ok (.inl (sm, k))
      else .ok (.inr (fMul E pw q, fAddSub E sm inc 1, k + 2))

theorem iacothLoop_fuelled (E : Env) (w : Nat) (inv2 : FBigM) :
    Dashu.Proofs.Gen.Fuelled (fun f a => iacothLoop E w inv2 f a.1 a.2.1 a.2.2) (atanhStep E w inv2 fun a b => reprCmp E.B a b = .lt) where
  zero _ := rfl
  succ f a := by
    obtain ⟨pw, sm, k⟩ := a
    simp only [iacothLoop, atanhStep]
    cases fDiv E (fMul E pw inv2) (fConvertInt E w (k : Int)) with
    | error e => rfl
    | ok inc => dsimp only; by_cases hc : reprCmp E.B inc.repr (fSubUlp E sm) = .lt <;> simp [hc]

theorem lnLoop_fuelled (E : Env) (w : Nat) (z2 : FBigM) :
    Dashu.Proofs.Gen.Fuelled (fun f a => lnLoop E w z2 f a.1 a.2.1 a.2.2) (atanhStep E w z2 fun a b => reprAbsCmp E.B a b ≠ .gt) where
  zero _ := rfl
  succ f a := by
    obtain ⟨pw, sm, k⟩ := a
    simp only [lnLoop, atanhStep]
    cases fDiv E (fMul E pw z2) (fConvertInt E w (k : Int)) with
    | error e => rfl
    | ok inc => dsimp only; by_cases hc : reprAbsCmp E.B inc.repr (fSubUlp E sm) ≠ .gt <;> simp [hc]

theorem atanhStep_inl {E : Env} {w : Nat} {q : FBigM} {stop : FRepr → FRepr → Bool} {pw sm : FBigM} {k : Nat}
    {b : FBigM × Nat} (h : atanhStep E w q stop (pw, sm, k) = .ok (.inl b)) : b = (sm, k) := by
  simp only [atanhStep] at h
  split at h
  · cases h
  · split at h <;> cases h; rfl

theorem atanhStep_inr {E : Env} {w : Nat} {q : FBigM} {stop : FRepr → FRepr → Bool} {pw sm : FBigM} {k : Nat}
    {a' : FBigM × FBigM × Nat} (h : atanhStep E w q stop (pw, sm, k) = .ok (.inr a')) :
    ∃ inc, fDiv E (fMul E pw q) (fConvertInt E w (k : Int)) = .ok inc ∧
      a' = (fMul E pw q, fAddSub E sm inc 1, k + 2) := by
  simp only [atanhStep] at h
  split at h
  · cases h
  · next inc hd => split at h <;> cases h; exact ⟨inc, hd, rfl⟩

/-! ### flags, precisions, `sub_ulp` -/

theorem markInexact_ne_none (f : Option Rounding) : markInexact f ≠ none := by
  cases f <;> simp [markInexact]

theorem fSubUlp_le (E : Env) (h : DlbSound E.B E.est.dlb) (x : FBigM) :
    (fSubUlp E x).signif = 1 ∧
      (fSubUlp E x).exp ≤ x.repr.exp + (digitsI E.B x.repr.signif : Int) - (x.prec : Int) - 1 := by
  refine ⟨rfl, ?_⟩
  have := h x.repr.signif
  simp only [fSubUlp]
  omega

/-- `exp_internal` behind its guards never reports `Exact` (`mark_inexact`) -/
theorem expBody_flag (fuel : Nat) (E : Env) (p : Nat) (x : FRepr) (minusOne : Bool)
    (v : FBigM) (fl : Option Rounding) (tr : Trace)
    (h : expBody fuel E p x minusOne = .ok ((v, fl), tr)) : fl ≠ none := by
  unfold expBody expTail at h
  simp only [bind, Except.bind, pure, Except.pure] at h
  repeat' split at h
  all_goals (try (simp at h))
  all_goals (try (obtain ⟨⟨_, rfl⟩, _⟩ := h; exact markInexact_ne_none _))

/-- `ln_internal` behind its guards never reports `Exact` -/
theorem lnBody_flag (fuel : Nat) (E : Env) (p : Nat) (x : FRepr) (onePlus : Bool)
    (v : FBigM) (fl : Option Rounding) (tr : Trace)
    (h : lnBody fuel E p x onePlus = .ok ((v, fl), tr)) : fl ≠ none := by
  unfold lnBody at h
  simp only [bind, Except.bind, pure, Except.pure] at h
  repeat' split at h
  all_goals (try (simp at h))
  all_goals (try (obtain ⟨⟨_, rfl⟩, _⟩ := h; exact markInexact_ne_none _))

theorem andThenFlag_ne_none (a b : Option Rounding) (h : a ≠ none) : andThenFlag a b ≠ none :=
  fun h' => h (andThenFlag_eq_none a b h').1

/-- `ln_internal` with its guards: `Exact` only from the shortcuts `ln 1`, `ln_1p 0` -/
theorem lnFull_flag (fuel : Nat) (E : Env) (p : Nat) (x : FRepr) (onePlus : Bool)
    (v : FBigM) (tr : Trace) (h : lnFull fuel E p x onePlus = .ok ((v, none), tr)) :
    ((onePlus && x.isZero) || (!onePlus && x.signif == 1 && x.exp == 0)) = true := by
  unfold lnFull at h
  split at h
  · assumption
  · repeat' split at h
    all_goals first
      | exact absurd rfl (lnBody_flag _ _ _ _ _ _ _ _ h)
      | (simp at h)

theorem fShl_prec (x : FBigM) (k : Int) : (fShl x k).prec = x.prec := by
  unfold fShl; split <;> rfl

/-- the result of the mirrored `exp_internal` carries the precision of the context -/
theorem expBody_prec (fuel : Nat) (E : Env) (p : Nat) (x : FRepr) (minusOne : Bool)
    (v : FBigM) (fl : Option Rounding) (tr : Trace)
    (h : expBody fuel E p x minusOne = .ok ((v, fl), tr)) : v.prec = p := by
  unfold expBody expTail at h
  simp only [bind, Except.bind, pure, Except.pure] at h
  repeat' split at h
  all_goals (try (simp at h))
  all_goals (try (obtain ⟨⟨rfl, _⟩, _⟩ := h; first | exact fWithPrecision_prec _ _ _ _ _ | exact fShl_prec _ _))

theorem lnBody_prec (fuel : Nat) (E : Env) (p : Nat) (x : FRepr) (onePlus : Bool)
    (v : FBigM) (fl : Option Rounding) (tr : Trace)
    (h : lnBody fuel E p x onePlus = .ok ((v, fl), tr)) : v.prec = p := by
  unfold lnBody at h
  simp only [bind, Except.bind, pure, Except.pure] at h
  repeat' split at h
  all_goals (try (simp at h))
  all_goals (try (obtain ⟨⟨rfl, _⟩, _⟩ := h; exact fWithPrecision_prec _ _ _ _ _))

theorem powfBody_prec (fuel : Nat) (E : Env) (p : Nat) (base exp : FRepr)
    (v : FBigM) (fl : Option Rounding) (tr : Trace)
    (h : powfBody fuel E p base exp = .ok ((v, fl), tr)) : v.prec = p := by
  unfold powfBody at h
  simp only [bind, Except.bind, pure, Except.pure] at h
  repeat' split at h
  all_goals (try (simp at h))
  all_goals (try (obtain ⟨⟨rfl, _⟩, _⟩ := h; exact fWithPrecision_prec _ _ _ _ _))

end Dashu.Proofs.Trans.Series
