import Dashu.Proofs.Macro.Grammar
import Dashu.Proofs.Text.FloatGrammar
/-
  C20 — float literals: value and precision of a literal of the documented plain grammar, through the
  parser model the macro model runs (`Text.fromStrNativeRaw`, C08's `literal_exact`).
-/
namespace Dashu.Model.Macro
open Dashu.Model.Serde Dashu.Model.Text Dashu.Model.Float

/-- a float literal of the documented plain grammar (optional sign, digits of base `B`, optional
    fraction, optional `@`-exponent) — what `fbig!` / `dbig!` hand to the parser — denotes exactly
    `± digits · B^(scale − #fraction digits)`, and its precision is the number of digits written;
    `floatParse` (the function the macro model and driver run) returns it whenever the normalised
    exponent is an `isize` -/
theorem floatParse_literal (B : Nat) (hB : validRadix B = true) (up : Bool)
    (sign : Option Bool) (di : List Nat) (frac : Option (List Nat)) (scale : Option Int)
    (hdi : ∀ d ∈ di, d < B) (hdf : ∀ d ∈ frac.getD [], d < B) (hne : di ≠ [] ∨ frac.getD [] ≠ [])
    (hs : ∀ z, scale = some z → -(2 ^ 63 : Int) ≤ z ∧ z < (2 ^ 63 : Int)) :
    ∃ r : FRepr, r.toRat B = (if sign = some true then -1 else 1) * (ofDigits B (di ++ frac.getD []) : ℚ) *
        bpowQ B (scale.getD 0 - ((frac.getD []).length : Int)) ∧
      (inIsize r.exp → floatParse B (renderLiteral up sign di frac scale) =
        some (⟨r.signif, r.exp⟩, di.length + (frac.getD []).length)) := by
  obtain ⟨r, hparse, hv⟩ := literal_exact 64 (by norm_num) B hB up sign di frac scale hdi hdf hne hs
  refine ⟨r, hv, ?_⟩
  intro hin
  unfold floatParse parseF
  unfold fromStrNative at hparse
  cases hraw : fromStrNativeRaw 64 B (renderLiteral up sign di frac scale) with
  | error e => rw [hraw] at hparse; simp [Except.map] at hparse
  | ok t =>
    obtain ⟨sig, e, nd⟩ := t
    rw [hraw] at hparse
    simp [Except.map] at hparse
    obtain ⟨h1, h2⟩ := hparse
    simp only [h1, hin, if_true, h2]

end Dashu.Model.Macro
