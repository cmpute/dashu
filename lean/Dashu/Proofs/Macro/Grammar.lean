import Dashu.Model.Macro.Literal
import Dashu.Proofs.Serde.Text
/-
  C20 — on the documented token shapes the macro's token loop followed by the unsigned run-time
  parser is the signed run-time parser on the concatenated text; accepted rational literals are
  reduced; accepted float literals are normalised; counterexamples outside the grammar.
-/
namespace Dashu.Model.Macro
open Dashu.Model.Serde Dashu.Model.Text

/-- the macro's and serde's copies of the sign renderer and the sign stripper are the text model's -/
theorem signText_eq : signText = signChars := by
  funext sg; rcases sg with _ | _ | _ <;> rfl

theorem stripSign_eq : stripSign = stripSignF := funext fun _ => rfl

/-- the sign token's character in front of a value token is what `splitSign` takes off again -/
theorem splitSign_signText (sg : Option Bool) (val : Bytes) (h : NoSign val) :
    splitSign true (signText sg ++ val) = (sg == some true, val) := by
  rw [signText_eq, splitSign_true]
  exact stripSignF_sign sg val fun _ => h

/-- magnitude parsers used by the macro, as functions of the value token and the base token -/
def parseMag (val : Bytes) (base : Option Bytes) : Option Nat :=
  match base with
  | none => (ubigPrefixOpt val 10).map (·.1)
  | some b => (parseU32 b).bind fun r => ubigRadixOpt val r

def signToks : Option Bool → List Tok
  | none => []
  | some true => [.punct 45]
  | some false => [.punct 43]

def baseToks : Option Bytes → List Tok
  | none => []
  | some b => [.ident baseKw, .lit b]

def isValTok : Tok → Option Bytes
  | .lit s => some s
  | .ident s => some s
  | _ => none

/-- the documented integer literal: optional single sign (signed macros only), one value token,
    optional `base N` -/
def docInt (sg : Option Bool) (vt : Tok) (base : Option Bytes) : List Tok :=
  signToks sg ++ [vt] ++ baseToks base

/-- the token loop of the code before /repo e26a9db on a documented literal ends in the state that holds its three parts -/
theorem intLoop_doc (signed : Bool) (sg : Option Bool) (vt : Tok) (val : Bytes) (base : Option Bytes)
    (hv : isValTok vt = some val) (hs : sg = none ∨ signed = true) :
    intLoop signed {} (docInt sg vt base) =
      some { val := some val, neg := sg == some true, baseMarked := base.isSome, base := base } := by
  have hsigned : sg ≠ none → signed = true := hs.resolve_left
  cases vt with
  | punct c | group g => cases hv
  | lit s | ident s =>
    obtain rfl : s = val := Option.some.inj hv
    rcases sg with _ | _ | _
    · cases base <;> rfl
    · obtain rfl := hsigned nofun; cases base <;> rfl
    · obtain rfl := hsigned nofun; cases base <;> rfl

theorem intAsIs_doc (signed : Bool) (sg : Option Bool) (vt : Tok) (val : Bytes) (base : Option Bytes)
    (hv : isValTok vt = some val) (hs : sg = none ∨ signed = true) :
    intAsIs signed (docInt sg vt base) = (parseMag val base).map fun m => (sg == some true, m) := by
  unfold intAsIs parseMag
  rw [intLoop_doc signed sg vt val base hv hs]
  cases base with
  | none => cases h : ubigPrefixOpt val 10 <;> simp [h]
  | some b =>
    cases h : parseU32 b with
    | none => simp [h]
    | some r => cases h2 : ubigRadixOpt val r <;> simp [h, h2]

theorem intShape_doc (sg : Option Bool) (vt : Tok) (val : Bytes) (base : Option Bytes)
    (hv : isValTok vt = some val) : intShape (docInt sg vt base) = some (signText sg ++ val, base) := by
  cases vt with
  | punct c | group g => cases hv
  | lit s | ident s =>
    obtain rfl : s = val := Option.some.inj hv
    rcases sg with _ | _ | _ <;> cases base <;> rfl

/-- `parseDefaultSpec` after the sign has been split off -/
def pdCore (neg : Bool) (rest : Bytes) (d : Nat) : Except ParseError (Int × Nat) :=
  if !validRadix (splitPrefix d rest).1 then .error .unsupportedRadix
  else (parseBodySpec (splitPrefix d rest).1 (splitPrefix d rest).2).map
    fun n => (applySign neg n, (splitPrefix d rest).1)

theorem parseDefaultSpec_eq (signed : Bool) (s : Bytes) (d : Nat) :
    parseDefaultSpec signed s d = pdCore (splitSign signed s).1 (splitSign signed s).2 d := by
  unfold parseDefaultSpec pdCore
  rfl

def optOk {α : Type} : Except ParseError α → Option α
  | .ok v => some v
  | .error _ => none

theorem ubigPrefixOpt_eq (s : Bytes) (d : Nat) :
    ubigPrefixOpt s d = (optOk (parseDefaultSpec false s d)).map fun p => (p.1.toNat, p.2) := by
  unfold ubigPrefixOpt optOk
  cases parseDefaultSpec false s d <;> simp

theorem ibigPrefixOpt_eq (s : Bytes) (d : Nat) : ibigPrefixOpt s d = optOk (parseDefaultSpec true s d) := by
  unfold ibigPrefixOpt optOk
  cases parseDefaultSpec true s d <;> simp

theorem pdCore_full (neg : Bool) (rest : Bytes) (d : Nat) :
    optOk (pdCore neg rest d) =
      (optOk (pdCore false rest d)).map fun p => (signedVal neg p.1.toNat, p.2) := by
  unfold pdCore
  by_cases hv : Text.validRadix (Text.splitPrefix d rest).1 = true
  · simp only [hv, Bool.not_true, Bool.false_eq_true, if_false]
    cases Text.parseBodySpec (Text.splitPrefix d rest).1 (Text.splitPrefix d rest).2 with
    | error e => rfl
    | ok n => cases neg <;> simp [Except.map, optOk, Text.applySign, signedVal]
  · simp [hv, optOk]

/-- the run-time parser on `sign ++ val` in terms of the unsigned parse of `val`: signed run-time parse of `sign ++ val` = unsigned parse of `val` with the sign applied, same radix -/
theorem ibigPrefix_sign_full (sg : Option Bool) (val : Bytes) (h : NoSign val) (d : Nat) :
    ibigPrefixOpt (signText sg ++ val) d =
      (ubigPrefixOpt val d).map fun p => (signedVal (optSign sg) p.1, p.2) := by
  rw [ibigPrefixOpt_eq, ubigPrefixOpt_eq, parseDefaultSpec_eq, parseDefaultSpec_eq, splitSign_noSign false val h,
    splitSign_signText sg val h, pdCore_full, Option.map_map]
  rfl

theorem ibigPrefix_sign (sg : Option Bool) (val : Bytes) (h : NoSign val) (d : Nat) :
    (ibigPrefixOpt (signText sg ++ val) d).map (·.1) =
      (ubigPrefixOpt val d).map fun p => signedVal (sg == some true) p.1 := by
  rw [ibigPrefix_sign_full sg val h d, Option.map_map]
  rfl

def prCore (neg : Bool) (body : Bytes) (r : Nat) : Except ParseError Int :=
  if !validRadix r then .error .unsupportedRadix else (parseBodySpec r body).map (applySign neg)

theorem parseRadixSpec_eq (signed : Bool) (s : Bytes) (r : Nat) :
    parseRadixSpec signed s r = prCore (splitSign signed s).1 (splitSign signed s).2 r := by
  unfold parseRadixSpec prCore
  rfl

theorem prCore_val (neg : Bool) (body : Bytes) (r : Nat) :
    optOk (prCore neg body r) = (optOk (prCore false body r)).map fun v => signedVal neg v.toNat := by
  unfold prCore
  by_cases hv : validRadix r = true
  · simp only [hv, Bool.not_true, Bool.false_eq_true, if_false]
    cases parseBodySpec r body with
    | error e => simp [Except.map, optOk]
    | ok n => cases neg <;> simp [Except.map, optOk, applySign, signedVal]
  · simp [hv, optOk]

theorem ibigRadix_sign (sg : Option Bool) (val : Bytes) (h : NoSign val) (r : Nat) :
    ibigRadixOpt (signText sg ++ val) r = (ubigRadixOpt val r).map fun m => signedVal (sg == some true) m := by
  have e1 : ∀ s, ibigRadixOpt s r = optOk (parseRadixSpec true s r) := by
    intro s; unfold ibigRadixOpt optOk; cases parseRadixSpec true s r <;> rfl
  have e2 : ubigRadixOpt val r = (optOk (parseRadixSpec false val r)).map fun v => v.toNat := by
    unfold ubigRadixOpt optOk; cases parseRadixSpec false val r <;> rfl
  rw [e1, e2, parseRadixSpec_eq, parseRadixSpec_eq, splitSign_noSign false val h, splitSign_signText sg val h,
    prCore_val, Option.map_map]
  rfl

/-- the run-time parser's answer on a documented literal -/
theorem rtInt_doc (signed : Bool) (sg : Option Bool) (vt : Tok) (val : Bytes) (base : Option Bytes)
    (hv : isValTok vt = some val) (hn : NoSign val) (hs : sg = none ∨ signed = true) :
    rtInt signed (docInt sg vt base) = some ((parseMag val base).map (signedVal (sg == some true))) := by
  unfold rtInt
  rw [intShape_doc sg vt val base hv]
  simp only [Option.map_some]
  cases signed with
  | true =>
    cases base with
    | none =>
      simp only [if_true, parseMag]
      rw [ibigPrefix_sign sg val hn 10]
      cases ubigPrefixOpt val 10 <;> simp
    | some b =>
      simp only [parseMag]
      cases parseU32 b with
      | none => simp
      | some r => simp [ibigRadix_sign sg val hn r]
  | false =>
    have hsg : sg = none := by
      rcases hs with h | h
      · exact h
      · cases h
    subst hsg
    cases base with
    | none =>
      simp [parseMag, signText]
      cases ubigPrefixOpt val 10 <;> simp [signedVal]
    | some b =>
      simp only [parseMag]
      cases parseU32 b with
      | none => simp
      | some r => simp [signText]; cases ubigRadixOpt val r <;> simp [signedVal]

/-- **documented grammar**: the macro accepts exactly when the run-time parser accepts the same
    text, with the same value — nothing is filtered by `intLiteral` -/
theorem intLiteral_doc (signed : Bool) (sg : Option Bool) (vt : Tok) (val : Bytes) (base : Option Bytes)
    (hv : isValTok vt = some val) (hn : NoSign val) (hs : sg = none ∨ signed = true) :
    intLiteral signed (docInt sg vt base) = (parseMag val base).map (signedVal (sg == some true)) ∧
    rtInt signed (docInt sg vt base) = some (intLiteral signed (docInt sg vt base)) := by
  have h1 := intAsIs_doc signed sg vt val base hv hs
  have h2 := rtInt_doc signed sg vt val base hv hn hs
  unfold intLiteral
  rw [h1, h2]
  cases parseMag val base <;> simp

-- ---------------------------------------------------------------- rationals

/-- how both parsers store an accepted fraction: zero denominator refused, then `qreduce` resp. `qreduce2` -/
theorem qstore_canonical (n : Int) (d : Nat) (rel : Bool) (q : QVal) (relaxed : Bool)
    (h : (if d = 0 then none else some (if rel then qreduce2 n d else qreduce n d, rel)) = some (q, relaxed)) :
    relaxed = rel ∧ (relaxed = false → QReduced q) ∧ (relaxed = true → QRelaxed q) := by
  by_cases hd : d = 0
  · rw [if_pos hd] at h; cases h
  · rw [if_neg hd, Option.some.injEq, Prod.mk.injEq] at h
    obtain ⟨rfl, rfl⟩ := h
    refine ⟨rfl, ?_, ?_⟩
    · rintro rfl; exact qreduce_reduced _ d (by omega)
    · rintro rfl; exact qreduce2_relaxed _ d (by omega)
/-- an accepted rational literal is stored reduced (`rbig!(a/b)`) resp. without a common factor 2
    (`rbig!(~a/b)`) — the precondition of the `transmute` in `static_rbig!` -/
theorem ratAsIs_canonical (toks : List Tok) (q : QVal) (relaxed : Bool) (h : ratAsIs toks = some (q, relaxed)) :
    (relaxed = false → QReduced q) ∧ (relaxed = true → QRelaxed q) := by
  unfold ratAsIs at h
  cases h1 : ratLoop {} toks with
  | none => simp [h1] at h
  | some st =>
    simp only [h1, Option.bind_eq_bind, Option.bind_some] at h
    cases h2 : st.numVal with
    | none => simp [h2] at h
    | some nv =>
      simp only [h2, Option.bind_some] at h
      cases hnd : ratParts st nv with
      | none => simp [hnd] at h
      | some p =>
        simp only [hnd, Option.bind_some] at h
        exact (qstore_canonical _ p.2 _ q relaxed h).2

theorem rtRat_canonical (toks : List Tok) (q : QVal) (relaxed : Bool) (h : rtRat toks = some (some (q, relaxed))) :
    (relaxed = false → QReduced q) ∧ (relaxed = true → QRelaxed q) := by
  unfold rtRat at h
  cases h1 : ratShape toks with
  | none => simp [h1] at h
  | some sh =>
    simp only [h1, Option.map_some, Option.some.injEq] at h
    cases hraw : ratRaw sh.2.1 sh.2.2 with
    | none => simp [hraw] at h
    | some p =>
      simp only [hraw, Option.bind_some] at h
      exact (qstore_canonical _ p.2 _ q relaxed h).2

/-- an accepted rational literal has the run-time parser's value -/
theorem ratLiteralByShape_sound (toks : List Tok) (v : QVal × Bool) (h : ratLiteralByShape toks = some v) :
    rtRat toks = some (some v) := by
  unfold ratLiteralByShape at h
  by_cases hs : ratDocShape toks = true
  · simp only [hs, if_true] at h
    cases h2 : rtRat toks with
    | none => simp [h2] at h
    | some b =>
      cases b with
      | none => simp [h2] at h
      | some b => simp [h2] at h; rw [h]
  · simp [hs] at h

theorem ratLiteralByShape_canonical (toks : List Tok) (q : QVal) (relaxed : Bool) (h : ratLiteralByShape toks = some (q, relaxed)) :
    (relaxed = false → QReduced q) ∧ (relaxed = true → QRelaxed q) :=
  rtRat_canonical toks q relaxed (ratLiteralByShape_sound toks (q, relaxed) h)

-- ---------------------------------------------------------------- floats

/-- an accepted float literal has exactly the run-time parser's representation and precision
    (= number of digits written), and the representation is normalised -/
theorem floatLiteral_spec (binary : Bool) (toks : List Tok) (v : FPVal) (h : floatLiteral binary toks = some v) :
    rtFloat binary toks = some v ∧ FCanon (if binary then 2 else 10) ⟨v.signif, v.exp⟩ := by
  unfold floatLiteral at h
  by_cases hc : (binary && fbigSecondSign toks) = true
  · rw [if_pos hc] at h; cases h
  rw [if_neg hc] at h
  cases h1 : (if binary = true then fbigAsIs toks else dbigAsIs toks) with
  | none => simp [h1] at h
  | some a =>
    obtain ⟨neg, mag, e, nd⟩ := a
    cases h2 : rtFloat binary toks with
    | none => simp [h1, h2] at h
    | some w =>
      simp only [h1, h2] at h
      by_cases c : signedVal neg mag = w.signif ∧ e = w.exp ∧ nd = w.prec
      · simp only [c, and_self, if_true] at h
        simp at h; subst h
        refine ⟨rfl, ?_⟩
        -- the run-time parser normalises
        unfold rtFloat at h2
        cases h3 : floatParse (if binary = true then 2 else 10)
            (if binary = true then fbigRtText (concatToks toks) else concatToks toks) with
        | none => simp [h3] at h2
        | some p =>
          obtain ⟨fv, k⟩ := p
          simp [h3] at h2
          have hB : 2 ≤ (if binary = true then 2 else 10) := by split <;> omega
          have := parseF_canonical _ hB _ fv k h3
          rw [← h2]; exact this
      · simp [c] at h

end Dashu.Model.Macro
