import Dashu.Proofs.Macro.Grammar
/-
  C20 — the token loop of `parse_ratio_with_error` as it is since /repo e26a9db, and the proof that it
  accepts exactly the documented grammar  `[~] [sign] value [/ [sign] value] [base N]`:
    * `ratLoopNew_sound`     whatever the loop accepts is the rendering of its final state (so it has
                             that shape, in that order, nothing repeated or misplaced);
    * `ratLoopNew_complete`  every well-formed state's rendering is accepted, reaching that state.
-/
namespace Dashu.Model.Macro
open Dashu.Model.Serde

theorem WF_init : WF {} := by
  unfold WF; simp

theorem signTok_none : signTok none = [] := rfl

/-! The eight moves of `ratStepNew`, each under the test the code guards it with: the invariant is kept
    and the token is appended to the rendering. -/

theorem step_nVal (st : RS) (t : Tok) (hv : isVal t = true) (wf : WF st) (c : st.nVal = none ∧ st.marked = false) :
    WF { st with nVal := some t } ∧ render { st with nVal := some t } = render st ++ [t] := by
  obtain ⟨w1, w2, w3, w4, w5, w6⟩ := wf
  refine ⟨⟨nofun, w2, w3, w4, fun _ e => Option.some.inj e ▸ hv, w6⟩, ?_⟩
  simp [render, c.1, c.2, (w1 c.1).2]

theorem step_dVal (st : RS) (t : Tok) (hv : isVal t = true) (wf : WF st)
    (c : (st.dVal = none ∧ st.marked = true) ∧ st.baseMarked = false) :
    WF { st with dVal := some t } ∧ render { st with dVal := some t } = render st ++ [t] := by
  obtain ⟨w1, w2, w3, w4, w5, w6⟩ := wf
  obtain ⟨⟨c1, c2⟩, c3⟩ := c
  refine ⟨⟨w1, fun (e : st.marked = false) => by simp [e] at c2, w3, fun _ _ => nofun, w5,
    fun _ e => Option.some.inj e ▸ hv⟩, ?_⟩
  simp [render, c1, c2, c3]

theorem step_base (st : RS) (s : Bytes) (wf : WF st) (c : st.base = none ∧ st.baseMarked = true) :
    WF { st with base := some s } ∧ render { st with base := some s } = render st ++ [.lit s] := by
  obtain ⟨w1, w2, w3, w4, w5, w6⟩ := wf
  obtain ⟨c1, c2⟩ := c
  refine ⟨⟨w1, w2, fun (e : st.baseMarked = false) => by simp [e] at c2, w4, w5, w6⟩, ?_⟩
  simp [render, c1, c2]

/-- `base` is the keyword only when no value is awaited (`c1`, `c2`: the two value moves do not apply) -/
theorem step_baseKw (st : RS) (wf : WF st) (c1 : ¬ (st.nVal = none ∧ st.marked = false))
    (c2 : ¬ ((st.dVal = none ∧ st.marked = true) ∧ st.baseMarked = false))
    (c : st.base = none ∧ st.baseMarked = false) :
    WF { st with baseMarked := true } ∧ render { st with baseMarked := true } = render st ++ [.ident baseKw] := by
  obtain ⟨w1, w2, w3, w4, w5, w6⟩ := wf
  refine ⟨⟨fun e => absurd ⟨e, (w1 e).1⟩ c1, w2, (fun (e : true = false) => nomatch e),
    fun _ hm hd => c2 ⟨⟨hd, hm⟩, c.2⟩, w5, w6⟩, ?_⟩
  simp [render, c.1, c.2]

theorem step_slash (st : RS) (wf : WF st) (c : (st.nVal.isSome = true ∧ st.marked = false) ∧ st.baseMarked = false) :
    WF { st with marked := true } ∧ render { st with marked := true } = render st ++ [.punct 47] := by
  obtain ⟨w1, w2, w3, w4, w5, w6⟩ := wf
  obtain ⟨⟨c1, c2⟩, c3⟩ := c
  refine ⟨⟨fun (e : st.nVal = none) => by simp [e] at c1, (fun (e : true = false) => nomatch e), w3,
    fun (e : st.baseMarked = true) => by simp [e] at c3, w5, w6⟩, ?_⟩
  simp [render, c2, c3, w2 c2, signTok]

theorem step_tilde (st : RS) (wf : WF st)
    (c : ((st.rel = false ∧ st.nSign = none) ∧ st.nVal = none) ∧ st.marked = false) :
    WF { st with rel := true } ∧ render { st with rel := true } = render st ++ [.punct 126] := by
  obtain ⟨⟨⟨c1, c2⟩, c3⟩, c4⟩ := c
  refine ⟨wf, ?_⟩
  simp [render, c1, c2, c3, c4, (wf.1 c3).2, signTok]

theorem step_nSign (st : RS) (sg : Bool) (wf : WF st) (c : (st.nVal = none ∧ st.marked = false) ∧ st.nSign = none) :
    WF { st with nSign := some sg } ∧ render { st with nSign := some sg } = render st ++ signTok (some sg) := by
  refine ⟨wf, ?_⟩
  simp [render, c.1.1, c.1.2, c.2, (wf.1 c.1.1).2, signTok]

theorem step_dSign (st : RS) (sg : Bool) (wf : WF st) (c : (st.marked = true ∧ st.dVal = none) ∧ st.dSign = none) :
    WF { st with dSign := some sg } ∧ render { st with dSign := some sg } = render st ++ signTok (some sg) := by
  obtain ⟨w1, w2, w3, w4, w5, w6⟩ := wf
  obtain ⟨⟨c1, c2⟩, c3⟩ := c
  -- no `base` yet: it is only taken once the denominator is there
  have hb : st.baseMarked = false := by
    cases h : st.baseMarked
    · rfl
    · exact absurd c2 (w4 h c1)
  refine ⟨⟨w1, fun (e : st.marked = false) => by simp [e] at c1, w3, w4, w5, w6⟩, ?_⟩
  simp [render, c1, c2, c3, hb, signTok]

theorem signTok_punct (c : Nat) (h : ¬ (c ≠ 45 ∧ c ≠ 43)) : signTok (some (c == 45)) = [.punct c] := by
  have : c = 45 ∨ c = 43 := by omega
  rcases this with rfl | rfl <;> rfl

/-- one accepted token: the invariant is kept and the token is appended to the rendering -/
theorem step_spec (st st' : RS) (t : Tok) (h : ratStepNew st t = some st') (wf : WF st) :
    WF st' ∧ render st' = render st ++ [t] := by
  cases t with
  | group g => cases h
  | lit s =>
    simp only [ratStepNew, Bool.and_eq_true, Option.isNone_iff_eq_none, Bool.not_eq_true'] at h
    split_ifs at h with c1 c2 c3 <;> obtain rfl := Option.some.inj h
    · exact step_nVal st _ rfl wf c1
    · exact step_dVal st _ rfl wf c2
    · exact step_base st s wf c3
  | ident s =>
    simp only [ratStepNew, Bool.and_eq_true, Option.isNone_iff_eq_none, Bool.not_eq_true', beq_iff_eq] at h
    split_ifs at h with c1 c2 c3 <;> obtain rfl := Option.some.inj h
    · exact step_nVal st _ rfl wf c1
    · exact step_dVal st _ rfl wf c2
    · rw [c3.2]
      exact step_baseKw st wf c1 c2 c3.1
  | punct c =>
    simp only [ratStepNew, Bool.and_eq_true, Option.isNone_iff_eq_none, Bool.not_eq_true', beq_iff_eq, bne_iff_ne] at h
    split_ifs at h with c1 c2 c3 c4 c5 c6 c7 <;> obtain rfl := Option.some.inj h
    · rw [c1]; exact step_slash st wf c2
    · rw [c3]; exact step_tilde st wf c4
    · rw [← signTok_punct c c5]; exact step_nSign st _ wf c6
    · rw [← signTok_punct c c5]; exact step_dSign st _ wf c7

theorem loop_spec (toks : List Tok) : ∀ (st st' : RS), ratLoopNew st toks = some st' → WF st →
    WF st' ∧ render st' = render st ++ toks := by
  induction toks with
  | nil => intro st st' h wf; simp [ratLoopNew] at h; subst h; exact ⟨wf, by simp⟩
  | cons t ts ih =>
    intro st st' h wf
    simp only [ratLoopNew] at h
    cases h1 : ratStepNew st t with
    | none => simp [h1] at h
    | some s1 =>
      simp [h1] at h
      obtain ⟨wf1, r1⟩ := step_spec st s1 t h1 wf
      obtain ⟨wf2, r2⟩ := ih s1 st' h wf1
      exact ⟨wf2, by rw [r2, r1]; simp⟩

/-- **soundness**: an accepted token list is the rendering of the final state — sign, value, slash,
    `~` and `base N` each occur at most once and in the documented order -/
theorem ratLoopNew_sound (toks : List Tok) (st : RS) (h : ratLoopNew {} toks = some st) :
    toks = render st ∧ WF st := by
  obtain ⟨wf, r⟩ := loop_spec toks {} st h WF_init
  refine ⟨?_, wf⟩
  rw [r]; simp [render, signTok]

theorem ratLoopNew_append (a b : List Tok) : ∀ st, ratLoopNew st (a ++ b) = (ratLoopNew st a).bind fun s => ratLoopNew s b := by
  induction a with
  | nil => intro st; simp [ratLoopNew]
  | cons t ts ih =>
    intro st
    simp only [List.cons_append, ratLoopNew]
    cases ratStepNew st t with
    | none => simp
    | some s1 => simp [ih s1]

theorem baseKw_beq : (baseKw == baseKw) = true := by decide

/-! Completeness goes segment by segment along `render`: from the state in which exactly the parts
    before a segment are present, the loop over that segment (present or not) adds that part. -/

theorem loop_tilde (r : Bool) :
    ratLoopNew {} (if r then [.punct 126] else []) = some { rel := r } := by
  cases r <;> rfl

theorem loop_nSign (r : Bool) (sg : Option Bool) :
    ratLoopNew { rel := r } (signTok sg) = some { rel := r, nSign := sg } := by
  rcases sg with _ | _ | _ <;> rfl

theorem loop_nVal (r : Bool) (sg : Option Bool) (v : Option Tok) (hv : ∀ t, v = some t → isVal t = true) :
    ratLoopNew { rel := r, nSign := sg } v.toList = some { rel := r, nSign := sg, nVal := v } := by
  cases v with
  | none => rfl
  | some t =>
    cases t with
    | lit _ | ident _ => rfl
    | punct _ | group _ => exact absurd (hv _ rfl) Bool.false_ne_true

theorem loop_den (r : Bool) (sg : Option Bool) (v : Option Tok) (m : Bool) (ds : Option Bool) (dv : Option Tok)
    (h1 : v = none → m = false) (h2 : m = false → ds = none ∧ dv = none)
    (hv : ∀ t, dv = some t → isVal t = true) :
    ratLoopNew { rel := r, nSign := sg, nVal := v } (if m then [.punct 47] ++ signTok ds ++ dv.toList else []) =
      some { rel := r, nSign := sg, nVal := v, marked := m, dSign := ds, dVal := dv } := by
  cases m with
  | false => obtain ⟨rfl, rfl⟩ := h2 rfl; rfl
  | true =>
    cases v with
    | none => exact absurd (h1 rfl) Bool.noConfusion
    | some t =>
      cases dv with
      | none => rcases ds with _ | _ | _ <;> rfl
      | some d =>
        cases d with
        | lit _ | ident _ => rcases ds with _ | _ | _ <;> rfl
        | punct _ | group _ => exact absurd (hv _ rfl) Bool.false_ne_true

/-- `base` is only taken as the keyword when no value is awaited: a numerator is there (`h1`) and,
    after `/`, a denominator (`h4`) -/
theorem loop_base (r : Bool) (sg : Option Bool) (v : Option Tok) (m : Bool) (ds : Option Bool) (dv : Option Tok)
    (bm : Bool) (b : Option Bytes)
    (h1 : v = none → bm = false) (h3 : bm = false → b = none) (h4 : bm = true → m = true → dv ≠ none) :
    ratLoopNew { rel := r, nSign := sg, nVal := v, marked := m, dSign := ds, dVal := dv }
        (if bm then [.ident baseKw] ++ (b.map Tok.lit).toList else []) =
      some { rel := r, nSign := sg, nVal := v, marked := m, dSign := ds, dVal := dv, baseMarked := bm, base := b } := by
  cases bm with
  | false => obtain rfl := h3 rfl; rfl
  | true =>
    cases v with
    | none => exact absurd (h1 rfl) Bool.noConfusion
    | some t =>
      cases m with
      | false => cases dv <;> cases b <;> rfl
      | true =>
        cases dv with
        | none => exact absurd rfl (h4 rfl rfl)
        | some d => cases b <;> rfl

/-- **completeness**: the rendering of any well-formed state is accepted and leads to that state -/
theorem ratLoopNew_complete (st : RS) (wf : WF st) : ratLoopNew {} (render st) = some st := by
  obtain ⟨w1, w2, w3, w4, w5, w6⟩ := wf
  simp only [render, ratLoopNew_append]
  rw [loop_tilde, Option.bind_some, loop_nSign, Option.bind_some, loop_nVal _ _ _ w5, Option.bind_some,
    loop_den _ _ _ _ _ _ (fun h => (w1 h).1) w2 w6, Option.bind_some,
    loop_base _ _ _ _ _ _ _ _ (fun h => (w1 h).2) w3 w4]

-- ================================================================ the value computed after the loop

/-- the value tokens are single Literal / Ident tokens: no sign character in front, no `/` inside -/
def TokOK (st : RS) : Prop :=
  (∀ t, st.nVal = some t → NoSign t.text ∧ 47 ∉ t.text) ∧ (∀ t, st.dVal = some t → NoSign t.text ∧ 47 ∉ t.text)

/-- `parseQRaw` through `ibigPrefixOpt`, the form in which `ibigPrefix_sign_full` applies -/
theorem parseQRaw_eq (s : Bytes) : parseQRaw s =
    match splitAt1 47 s with
    | some (a, b) => (ibigPrefixOpt a 10).bind fun p => (ibigPrefixOpt b p.2).bind fun q =>
        if p.2 = q.2 then some (if q.1 < 0 then -p.1 else p.1, q.1.natAbs) else none
    | none => (ibigPrefixOpt s 10).map fun p => (p.1, 1) := by
  unfold parseQRaw ibigPrefixOpt
  cases splitAt1 47 s with
  | none => cases Text.parseDefaultSpec true s 10 <;> rfl
  | some ab =>
    cases h1 : Text.parseDefaultSpec true ab.1 10 with
    | error e => simp [h1]
    | ok p => cases h2 : Text.parseDefaultSpec true ab.2 p.2 <;> simp [h1, h2]

theorem signText_no_slash (sg : Option Bool) : 47 ∉ signText sg := by
  rcases sg with _ | _ | _ <;> simp [signText]

theorem signedVal_neg_iff (b : Bool) (m : Nat) : signedVal b m < 0 ↔ (b = true ∧ m ≠ 0) := by
  unfold signedVal; cases b <;> simp <;> omega

theorem signedVal_natAbs (b : Bool) (m : Nat) : (signedVal b m).natAbs = m := by
  unfold signedVal; cases b <;> simp

theorem signedVal_combine (a b : Bool) (n m : Nat) (hm : m ≠ 0) :
    (if signedVal b m < 0 then -(signedVal a n) else signedVal a n) = signedVal (a != b) n := by
  unfold signedVal
  cases a <;> cases b <;> simp <;> omega

/-- **the value**: on an accepted literal the macro's own computation (unsigned parses of the value
    tokens, signs from the sign tokens, `from_parts_signed`) is the run-time parser on the text -/
theorem ratFinishNew_eq_runtime (st : RS) (wf : WF st) (tok : TokOK st) (fin : finalOK st) :
    ratFinishNew st = ratRuntime st.rel (ratText st) st.base := by
  obtain ⟨w1, w2, w3, w4, w5, w6⟩ := wf
  obtain ⟨t1, t2⟩ := tok
  obtain ⟨f1, f2, f3⟩ := fin
  obtain ⟨rel, nSign, nVal, marked, dSign, dVal, baseMarked, base⟩ := st
  simp only at w1 w2 w3 w4 w5 w6 t1 t2 f1 f2 f3
  cases nVal with
  | none => exact absurd rfl f1
  | some nt =>
    obtain ⟨ns, nslash⟩ := t1 nt rfl
    cases marked with
    | false =>
      obtain ⟨c, d⟩ := w2 rfl; subst c; subst d
      have hsplit : splitAt1 47 (signText nSign ++ nt.text) = none :=
        splitAt1_none 47 _ (by
          intro h; rcases List.mem_append.mp h with h | h
          · exact signText_no_slash nSign h
          · exact nslash h)
      cases base with
      | some b =>
        simp only [ratFinishNew, ratRuntime, ratText, ratRaw, tokText, Bool.false_and, Bool.false_eq_true,
          if_false, List.append_nil, parseQRadixRaw, hsplit]
        cases parseU32 b with
        | none => simp
        | some r =>
          simp only [Option.bind_some]
          rw [ibigRadix_sign nSign nt.text ns r]
          cases ubigRadixOpt nt.text r with
          | none => simp
          | some n => simp [optSign, signedVal]
      | none =>
        have hb : baseMarked = false := by
          by_contra hb
          exact f3 (by simpa using hb) rfl
        subst hb
        simp only [ratFinishNew, ratRuntime, ratText, ratRaw, tokText, Bool.false_and, Bool.false_eq_true,
          if_false, List.append_nil, parseQRaw_eq, hsplit, ibigPrefix_sign_full nSign nt.text ns 10]
        cases ubigPrefixOpt nt.text 10 <;> simp [optSign, signedVal]
    | true =>
      cases dVal with
      | none => exact absurd rfl (f2 rfl)
      | some dt =>
        obtain ⟨ds, dslash⟩ := t2 dt rfl
        have hsplit : splitAt1 47 (signText nSign ++ nt.text ++ ([47] ++ signText dSign ++ dt.text)) =
            some (signText nSign ++ nt.text, signText dSign ++ dt.text) := by
          have : signText nSign ++ nt.text ++ ([47] ++ signText dSign ++ dt.text) =
              (signText nSign ++ nt.text) ++ 47 :: (signText dSign ++ dt.text) := by simp
          rw [this]
          exact splitAt1_append 47 _ _ (by
            intro h; rcases List.mem_append.mp h with h | h
            · exact signText_no_slash nSign h
            · exact nslash h)
        cases base with
        | some b =>
          simp only [ratFinishNew, ratRuntime, ratText, ratRaw, tokText, Option.isNone_some, Bool.and_false,
            Bool.false_eq_true, if_false, if_true, parseQRadixRaw, hsplit]
          cases parseU32 b with
          | none => simp
          | some r =>
            simp only [Option.bind_some]
            rw [ibigRadix_sign nSign nt.text ns r, ibigRadix_sign dSign dt.text ds r]
            cases ubigRadixOpt nt.text r with
            | none => simp
            | some n =>
              cases ubigRadixOpt dt.text r with
              | none => simp
              | some d =>
                by_cases hd : d = 0
                · subst hd; simp [signedVal_natAbs]
                · simp [hd, signedVal_natAbs, optSign]
                  rw [signedVal_combine _ _ n d hd]
        | none =>
          have hb : baseMarked = false := by
            by_contra hb
            exact f3 (by simpa using hb) rfl
          subst hb
          simp only [ratFinishNew, ratRuntime, ratText, ratRaw, tokText, Option.isNone_some, Bool.and_false,
            Bool.false_eq_true, if_false, if_true, parseQRaw_eq, hsplit, ibigPrefix_sign_full nSign nt.text ns 10]
          cases ubigPrefixOpt nt.text 10 with
          | none => simp
          | some p =>
            simp only [Option.map_some, Option.bind_some, ibigPrefix_sign_full dSign dt.text ds p.2]
            cases ubigPrefixOpt dt.text p.2 with
            | none => simp
            | some q =>
              by_cases hr : p.2 = q.2
              · by_cases hd : q.1 = 0
                · simp [hr, hd, signedVal_natAbs]
                · simp [hr, hd, signedVal_natAbs]
                  rw [signedVal_combine (optSign nSign) (optSign dSign) p.1 q.1 hd]
              · simp [hr]

theorem ratFinishNew_not_final (st : RS) (h : ¬ finalOK st) : ratFinishNew st = none := by
  obtain ⟨rel, nSign, nVal, marked, dSign, dVal, baseMarked, base⟩ := st
  unfold finalOK at h
  simp only at h
  cases nVal with
  | none => simp [ratFinishNew]
  | some nt =>
    by_cases hm : marked = true ∧ dVal = none
    · obtain ⟨a, b⟩ := hm; subst a; subst b; simp [ratFinishNew]
    · have hb : baseMarked = true ∧ base = none := by
        by_contra hc
        apply h
        refine ⟨by simp, ?_, ?_⟩
        · intro a b; exact hm ⟨a, b⟩
        · intro a b; exact hc ⟨a, b⟩
      obtain ⟨a, b⟩ := hb; subst a; subst b
      simp only [ratFinishNew]
      split <;> simp

theorem mem_render_nVal (st : RS) (t : Tok) (h : st.nVal = some t) : t ∈ render st := by
  unfold render; simp [h]

theorem mem_render_dVal (st : RS) (wf : WF st) (t : Tok) (h : st.dVal = some t) : t ∈ render st := by
  have hm : st.marked = true := by
    by_contra hc
    have := (wf.2.1 (by simpa using hc)).2
    rw [h] at this; cases this
  unfold render; simp [h, hm]

theorem ratRuntime_canonical (rel : Bool) (text : Bytes) (base : Option Bytes) (q : QVal) (relaxed : Bool)
    (h : ratRuntime rel text base = some (q, relaxed)) :
    relaxed = rel ∧ (relaxed = false → QReduced q) ∧ (relaxed = true → QRelaxed q) := by
  unfold ratRuntime at h
  cases hraw : ratRaw text base with
  | none => simp [hraw] at h
  | some p =>
    simp only [hraw, Option.bind_some] at h
    exact qstore_canonical _ p.2 _ q relaxed h

end Dashu.Model.Macro
