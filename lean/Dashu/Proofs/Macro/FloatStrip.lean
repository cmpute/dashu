import Dashu.Proofs.Macro.Grammar
import Dashu.Proofs.Text.FloatGrammar
import Dashu.Proofs.Float.Closing
/-
  C20 — `fbig!`'s own sign / underscore stripping (macros/src/parse/float.rs `parse_binary_float`):
  the mirror of the code (`fbigNew`) equals the run-time parser on the text without the macro-only
  `_`, for EVERY token list; the same for `dbig!` (`dbigAsIs`).
-/
namespace Dashu.Model.Macro
open Dashu.Model.Serde Dashu.Model.Text Dashu.Model.Float

/-- a sign in front of an unsigned text: `-` negates the significand the parser returns, `+` does nothing -/
theorem raw_sign (W B : Nat) (sg : Option Bool) (rest : Bytes) (h : NoSign rest) :
    fromStrNativeRaw W B (signChars sg ++ rest) =
      (match fromStrNativeRaw W B rest with
        | .ok t => .ok (if sg == some true then -t.1 else t.1, t.2.1, t.2.2)
        | .error e => .error e) := by
  unfold fromStrNativeRaw
  rw [stripSignF_sign sg rest fun _ => h, stripSignF_noSign rest h]
  dsimp only
  cases splitScale B (hasHexPrefix rest) rest with
  | error e => rfl
  | ok t =>
    obtain ⟨scale, pm, body⟩ := t
    dsimp only
    cases parseBodyF W B (hasHexPrefix rest) pm body with
    | error e => rfl
    | ok u => obtain ⟨mag, dec, nd⟩ := u; rcases sg with _ | _ | _ <;> simp

/-- an unsigned text never parses to a negative significand -/
theorem raw_nonneg (W B : Nat) (rest : Bytes) (h : NoSign rest) (t : Int × Int × Nat)
    (hr : fromStrNativeRaw W B rest = .ok t) : 0 ≤ t.1 := by
  unfold fromStrNativeRaw at hr
  rw [stripSignF_noSign rest h] at hr
  dsimp only at hr
  cases hs : splitScale B (hasHexPrefix rest) rest with
  | error e => rw [hs] at hr; cases hr
  | ok q =>
    obtain ⟨scale, pm, body⟩ := q
    rw [hs] at hr
    dsimp only at hr
    cases hb : parseBodyF W B (hasHexPrefix rest) pm body with
    | error e => rw [hb] at hr; cases hr
    | ok u =>
      obtain ⟨mag, dec, nd⟩ := u
      rw [hb] at hr
      simp at hr
      rw [← hr]; simp

def negF (p : FVal × Nat) : FVal × Nat := (⟨-p.1.signif, p.1.exp⟩, p.2)

theorem parseF_sign (B : Nat) (sg : Option Bool) (rest : Bytes) (h : NoSign rest) :
    parseF B (signChars sg ++ rest) = (parseF B rest).map (if sg == some true then negF else id) := by
  unfold parseF
  rw [raw_sign 64 B sg rest h]
  cases fromStrNativeRaw 64 B rest with
  | error e => rfl
  | ok t =>
    obtain ⟨sig, e, nd⟩ := t
    by_cases hs : sg = some true
    · subst hs
      dsimp only
      rw [beq_self_eq_true, if_pos rfl, if_pos rfl, new_neg]
      by_cases hin : inIsize (FRepr.new B sig e).exp
      · simp [FRepr.neg, hin, negF]
      · simp [FRepr.neg, hin]
    · have hb : (sg == some true) = false := by simpa using hs
      simp only [hb, Bool.false_eq_true, if_false, Option.map_id_fun, id]

/-- normalisation keeps the sign of the significand (the value `s · B^e` is kept and `B^e > 0`) -/
theorem new_signif_nonneg (B : Nat) (hB : 0 < B) (s e : Int) (hs : 0 ≤ s) : 0 ≤ (FRepr.new B s e).signif := by
  have h : (0 : ℚ) ≤ (s : ℚ) * bpowQ B e := mul_nonneg (by exact_mod_cast hs) (bpowQ_pos B hB e).le
  rw [← FRepr.new_value B hB, FRepr.toRat, mul_nonneg_iff_of_pos_right (bpowQ_pos B hB _)] at h
  exact_mod_cast h

theorem parseF_nonneg (B : Nat) (hB : 0 < B) (rest : Bytes) (h : NoSign rest) (v : FVal) (nd : Nat)
    (hp : parseF B rest = some (v, nd)) : 0 ≤ v.signif := by
  unfold parseF at hp
  cases hr : fromStrNativeRaw 64 B rest with
  | error e => rw [hr] at hp; cases hp
  | ok t =>
    obtain ⟨sig, e, k⟩ := t
    rw [hr] at hp
    dsimp only at hp
    split at hp
    · simp at hp
      rw [← hp.1]
      exact new_signif_nonneg B hB sig e (raw_nonneg 64 B rest h _ hr)
    · cases hp

-- ---------------------------------------------------------------- a second sign is never accepted

def IsSign (c : Nat) : Prop := c = 45 ∨ c = 43

theorem digitOf_sign (r c : Nat) (h : IsSign c) : digitOf r c = none := by
  rcases h with h | h <;> subst h <;> simp [digitOf, alnumVal]

theorem chkDigits_sign (r c : Nat) (u : List Nat) (ae : Bool) (h : IsSign c) :
    chkDigits r (c :: u) ae = .error .invalidDigit := by
  have h95 : c ≠ 95 := by rcases h with h | h <;> omega
  unfold chkDigits digitsOnly
  simp only [List.cons_ne_nil, if_false, List.all_cons]
  have : (c == 95) = false := by simpa using h95
  simp only [this, Bool.false_and, Bool.false_eq_true, if_false]
  have hf : (c :: u).filter (· ≠ 95) = c :: u.filter (· ≠ 95) := by simp [h95]
  rw [hf]
  unfold digitValues
  rw [digitOf_sign r c h]

theorem specBody_sign (B : Nat) (neg : Bool) (scale : Int) (c : Nat) (u : List Nat) (h : IsSign c) :
    ∃ e, specBody B false neg scale (c :: u) = .error e := by
  have h46 : (c == 46) = false := by rcases h with h | h <;> subst h <;> rfl
  unfold specBody
  simp only [Bool.false_eq_true, if_false]
  split
  · exact ⟨_, rfl⟩
  · have hp1 : ∃ u', (splitAtDot (c :: u)).1 = c :: u' := by
      unfold splitAtDot
      rw [List.findIdx?_cons]
      simp only [h46, Bool.false_eq_true, if_false]
      cases List.findIdx? (· == 46) u with
      | none => exact ⟨u, rfl⟩
      | some d => exact ⟨u.take d, by simp⟩
    obtain ⟨u', hu⟩ := hp1
    rw [hu, chkDigits_sign _ c u' _ h]
    exact ⟨_, rfl⟩

theorem isScaleMarker_sign (B : Nat) (hp : Bool) (c : Nat) (h : IsSign c) : isScaleMarker B hp c = false :=
  isScaleMarker_lt B hp (by unfold IsSign at h; omega)

/-- the documented grammar has no literal with two signs -/
theorem spec_second_sign (B : Nat) (s : Bytes) (c : Nat) (u : Bytes) (hs : (stripSignF s).2 = c :: u) (h : IsSign c) :
    ∃ e, parseFloatSpec B s = .error e := by
  have hhex : (B == 2 && hasHexPrefix (c :: u)) = false := by
    have : hasHexPrefix (c :: u) = false := by
      rcases h with h | h <;> subst h <;> cases u <;> simp [hasHexPrefix]
    simp [this]
  rw [parseFloatSpec_stages, hs, hhex]
  cases hsp : splitScale B false (c :: u) with
  | error e => exact ⟨e, rfl⟩
  | ok t =>
    obtain ⟨v, pm, body⟩ := t
    rcases (splitScale_ok_iff _ _ _ _ _ _).mp hsp with ⟨_, _, _, rfl⟩ | ⟨pos, hr, _, _, rfl⟩
    · exact specBody_sign B _ _ c u h
    · obtain ⟨_, hm⟩ := rfindIdx_some hr
      match pos, hm with
      | 0, hm =>
        simp only [List.getD_cons_zero] at hm
        rw [isScaleMarker_sign B _ c h] at hm; cases hm
      | n + 1, _ =>
        rw [List.take_succ_cons]
        exact specBody_sign B _ _ c _ h

theorem parseF_second_sign (B : Nat) (hB : validRadix B = true) (s : Bytes) (c : Nat) (u : Bytes)
    (hs : (stripSignF s).2 = c :: u) (h : IsSign c) : parseF B s = none := by
  obtain ⟨e, he⟩ := spec_second_sign B s c u hs h
  rw [← fromStrNative_eq_spec 64 (by norm_num) B hB] at he
  unfold fromStrNative at he
  unfold parseF
  cases hr : fromStrNativeRaw 64 B s with
  | error e => rfl
  | ok t => rw [hr] at he; simp [Except.map] at he

-- ---------------------------------------------------------------- fbig!'s stripping

def toFP (p : FVal × Nat) : FPVal := ⟨p.1.signif, p.1.exp, p.2⟩

theorem rtFloat_eq (binary : Bool) (toks : List Tok) :
    rtFloat binary toks = (floatParse (if binary then 2 else 10)
      (if binary then fbigRtText (concatToks toks) else concatToks toks)).map toFP := rfl

/-- the macro-only `_` is removed behind the sign -/
theorem fbigRtText_sign (sg : Option Bool) (u : Bytes) (h : sg = none → NoSign u) :
    fbigRtText (signChars sg ++ u) = signChars sg ++ stripUs u := by
  rcases sg with _ | _ | _
  · have h := h rfl
    show fbigRtText u = stripUs u
    unfold fbigRtText
    split
    · exact absurd rfl h.2
    · exact absurd rfl h.1
    · rfl
  · rfl
  · rfl

theorem secondSign_iff (u : Bytes) : (u.head? == some 45 || u.head? == some 43) = false ↔ NoSign u := by
  unfold NoSign
  cases u with
  | nil => simp
  | cons c t => simp; omega

/-- the value the macro computes from an unsigned text `u` and the stripped sign -/
theorem fbig_core (neg : Bool) (u : Bytes) (h : NoSign u) :
    (fbigFinish neg (floatParse 2 u)).map fpOfParts =
    (floatParse 2 u).map (fun p => toFP (if neg then negF p else p)) := by
  unfold floatParse
  cases hp : parseF 2 u with
  | none => rfl
  | some p =>
    obtain ⟨v, nd⟩ := p
    have h0 := parseF_nonneg 2 (by norm_num) u h v nd hp
    have hn : ¬ v.signif < 0 := by omega
    simp only [fbigFinish, hn, if_false, Option.map_some]
    have e : ((v.signif.natAbs : Nat) : Int) = v.signif := Int.natAbs_of_nonneg h0
    cases neg <;> simp [fpOfParts, signedVal, toFP, negF, e]

/-- **`fbig!`'s own sign / underscore stripping, on every token list**: `parse_binary_float` (sign
    stripped, one `_` stripped, second sign refused, `FBig::from_str` of the rest, sign re-attached by
    `IBig::from_parts`) yields exactly what the run-time parser yields on the text without the
    macro-only `_` — and nothing when a sign follows the stripped prefix -/
theorem fbigNew_eq (toks : List Tok) :
    (fbigNew toks).map fpOfParts = (if fbigSecondSign toks then none else rtFloat true toks) := by
  rw [rtFloat_eq]
  simp only [if_true]
  unfold fbigNew fbigAsIs
  cases hc : fbigSecondSign toks with
  | true => simp
  | false =>
    unfold fbigSecondSign at hc
    generalize concatToks toks = s at *
    obtain ⟨sg, r, rfl, hr⟩ := exists_sign_split s
    rw [stripSign_eq, stripSignF_sign sg r hr] at hc ⊢
    dsimp only at hc ⊢
    have hns := (secondSign_iff _).mp hc
    simp only [Bool.false_eq_true, if_false]
    rw [fbig_core _ _ hns, fbigRtText_sign sg r hr]
    unfold floatParse
    rw [parseF_sign 2 sg _ hns]
    by_cases hs : sg = some true <;> simp [hs, Option.map_map, Function.comp_def]

/-- soundness: whatever `fbig!` accepts has the run-time parser's value and precision -/
theorem fbigNew_sound (toks : List Tok) (p : Bool × Nat × Int × Nat) (h : fbigNew toks = some p) :
    rtFloat true toks = some (fpOfParts p) := by
  have e := fbigNew_eq toks
  rw [h] at e
  split at e
  · cases e
  · exact e.symm

/-- the mirror of the code decides exactly what the model prescribes (`floatLiteral`) -/
theorem fbigNew_eq_literal (toks : List Tok) : (fbigNew toks).map fpOfParts = floatLiteral true toks := by
  have e := fbigNew_eq toks
  unfold floatLiteral
  simp only [Bool.true_and, if_true]
  cases hc : fbigSecondSign toks with
  | true => simp [fbigNew, hc]
  | false =>
    rw [hc] at e
    simp only [Bool.false_eq_true, if_false] at e ⊢
    have hn : fbigNew toks = fbigAsIs toks := by simp [fbigNew, hc]
    rw [hn] at e ⊢
    cases ha : fbigAsIs toks with
    | none => rfl
    | some a =>
      obtain ⟨neg, mag, ex, nd⟩ := a
      rw [ha] at e
      simp only [Option.map_some] at e ⊢
      rw [← e]
      simp [fpOfParts]

/-- `dbig!` hands the concatenated text to the run-time parser and re-assembles sign and magnitude -/
theorem dbig_eq (toks : List Tok) : (dbigAsIs toks).map fpOfParts = rtFloat false toks := by
  rw [rtFloat_eq]
  unfold dbigAsIs
  simp only [Bool.false_eq_true, if_false]
  cases floatParse 10 (concatToks toks) with
  | none => rfl
  | some p =>
    obtain ⟨v, nd⟩ := p
    simp only [Option.map_some, fpOfParts, toFP, signedVal]
    by_cases h : v.signif < 0
    · have e : ((v.signif.natAbs : Nat) : Int) = -v.signif := by omega
      simp only [h, decide_true, if_true, e, Int.neg_neg]
    · have e : ((v.signif.natAbs : Nat) : Int) = v.signif := by omega
      simp only [h, decide_false, Bool.false_eq_true, if_false, e]

theorem dbig_eq_literal (toks : List Tok) : (dbigAsIs toks).map fpOfParts = floatLiteral false toks := by
  have e := dbig_eq toks
  unfold floatLiteral
  simp only [Bool.false_and, Bool.false_eq_true, if_false]
  cases ha : dbigAsIs toks with
  | none => rfl
  | some a =>
    obtain ⟨neg, mag, ex, nd⟩ := a
    rw [ha] at e
    simp only [Option.map_some] at e ⊢
    rw [← e]
    simp [fpOfParts]

end Dashu.Model.Macro
