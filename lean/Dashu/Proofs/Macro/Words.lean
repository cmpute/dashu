import Dashu.Model.Macro.Literal
import Dashu.Proofs.Serde.Wire
import Dashu.Proofs.Gen.BitLen
/-
  C20 — the three code generators denote the parsed value.
-/
namespace Dashu.Model.Macro
open Dashu.Model.Serde

theorem bytesToWords_nil (k : Nat) : bytesToWords k [] = [] := by rw [bytesToWords]; simp

theorem bytesToWords_zero (bs : Bytes) : bytesToWords 0 bs = [] := by rw [bytesToWords]; simp

theorem bytesToWords_cons {k : Nat} {bs : Bytes} (hk : k ≠ 0) (hb : bs ≠ []) :
    bytesToWords k bs = ofLeBytes (bs.take k) :: bytesToWords k (bs.drop k) := by
  rw [bytesToWords]; simp [hk, hb]

theorem ofLeBytes_take_drop (k : Nat) (bs : Bytes) :
    ofLeBytes bs = ofLeBytes (bs.take k) + 256 ^ (min k bs.length) * ofLeBytes (bs.drop k) := by
  simp only [ofLeBytes_eq_ofLeBytesSpec]; exact Dashu.Model.Text.ofDigitsLE_take_add_drop 256 k bs

/-- the word array of `8k`-bit words denotes the same number as the bytes -/
theorem valWords_bytesToWords (k : Nat) (hk : 0 < k) (bs : Bytes) :
    valWords (8 * k) (bytesToWords k bs) = ofLeBytes bs := by
  induction h : bs.length using Nat.strongRecOn generalizing bs with
  | _ n ih =>
    by_cases hb : bs = []
    · subst hb; rw [bytesToWords_nil]; rfl
    · rw [bytesToWords_cons (by omega) hb, valWords]
      have hlen : 0 < bs.length := List.length_pos_iff.mpr hb
      have hd : (bs.drop k).length < n := by rw [List.length_drop]; omega
      rw [ih _ hd (bs.drop k) rfl, ofLeBytes_take_drop k bs]
      by_cases hle : k ≤ bs.length
      · rw [Nat.min_eq_left hle]
        have : (2 : Nat) ^ (8 * k) = 256 ^ k := by
          rw [Nat.pow_mul]
        rw [this]
      · have hdrop : bs.drop k = [] := List.drop_eq_nil_of_le (by omega)
        rw [hdrop]; simp [ofLeBytes]

theorem bytesToWords_length (k : Nat) (hk : 0 < k) (bs : Bytes) :
    (bytesToWords k bs).length = (bs.length + k - 1) / k := by
  induction h : bs.length using Nat.strongRecOn generalizing bs with
  | _ n ih =>
    subst h
    by_cases hb : bs = []
    · subst hb; rw [bytesToWords_nil]
      simp
      exact (Nat.div_eq_of_lt (by omega)).symm
    · rw [bytesToWords_cons (by omega) hb, List.length_cons]
      have hlen : 0 < bs.length := List.length_pos_iff.mpr hb
      have hd : (bs.drop k).length < bs.length := by rw [List.length_drop]; omega
      rw [ih _ hd (bs.drop k) rfl, List.length_drop]
      by_cases hle : k ≤ bs.length
      · have e : bs.length + k - 1 = (bs.length - k + k - 1) + k := by omega
        rw [e, Nat.add_div_right _ hk]
      · have e1 : bs.length - k = 0 := by omega
        rw [e1]
        have e2 : (0 + k - 1) / k = 0 := Nat.div_eq_of_lt (by omega)
        have e3 : (bs.length + k - 1) / k = 1 := by
          apply Nat.div_eq_of_lt_le <;> omega
        omega

theorem ofLeBytes_pos_of_getLast (bs : Bytes) (hb : bs ≠ []) (h : bs.getLast? ≠ some 0) : 0 < ofLeBytes bs := by
  obtain ⟨top, htop⟩ := Option.isSome_iff_exists.mp (List.getLast?_isSome.mpr hb)
  have h0 : top ≠ 0 := fun e => h (e ▸ htop)
  have hpos : 0 < top * 256 ^ (bs.length - 1) := Nat.mul_pos (Nat.pos_of_ne_zero h0) (Nat.pow_pos (by omega))
  rw [ofLeBytes_eq_ofLeBytesSpec]
  exact Nat.lt_of_lt_of_le hpos (Dashu.Model.Text.ofDigitsLE_ge_top 256 bs top htop).1

/-- the normalisation assertion of `from_static_words`: the last word is not zero -/
theorem bytesToWords_getLast (k : Nat) (hk : 0 < k) (bs : Bytes) (h : bs.getLast? ≠ some 0) :
    (bytesToWords k bs).getLast? ≠ some 0 := by
  induction hn : bs.length using Nat.strongRecOn generalizing bs with
  | _ n ih =>
    by_cases hb : bs = []
    · subst hb; rw [bytesToWords_nil]; simp
    · rw [bytesToWords_cons (by omega) hb]
      have hlen : 0 < bs.length := List.length_pos_iff.mpr hb
      by_cases hd : bs.drop k = []
      · rw [hd, bytesToWords_nil]
        have ht : bs.take k = bs := by
          have := List.take_append_drop k bs
          rw [hd, List.append_nil] at this; exact this
        rw [ht]
        have := ofLeBytes_pos_of_getLast bs hb h
        simp; omega
      · have hw : bytesToWords k (bs.drop k) ≠ [] := by
          rw [bytesToWords_cons (by omega) hd]; simp
        rw [List.getLast?_cons_of_ne_nil hw]
        have hdl : (bs.drop k).length < n := by rw [List.length_drop]; omega
        apply ih _ hdl (bs.drop k) _ rfl
        rw [List.getLast?_drop]
        have : ¬ (bs.length ≤ k) := by
          intro hc; exact hd (List.drop_eq_nil_of_le hc)
        simp [this]; exact h

/-- `LEN ≤ max_len`: the padded arrays are long enough for every selector of at least 2 bytes -/
theorem len_le_maxLen (k : Nat) (hk : 2 ≤ k) (len : Nat) : (len + k - 1) / k ≤ (len + 1) / 2 := by
  have h1 : (len + k - 1) / k ≤ (len + 1) / 2 := by
    rw [Nat.div_le_iff_le_mul_add_pred (by omega)]
    have : 2 * ((len + 1) / 2) + 1 ≥ len + 1 := by omega
    calc len + k - 1 ≤ k * ((len + 1) / 2) + (k - 1) := by
          have h2 : len ≤ 2 * ((len + 1) / 2) := by omega
          have h3 : 2 * ((len + 1) / 2) ≤ k * ((len + 1) / 2) := Nat.mul_le_mul_right _ hk
          omega
      _ = k * ((len + 1) / 2) + (k - 1) := rfl
  exact h1

/-- **static path**: for every selector (`k` = 2, 4, 8 bytes per word, in fact any `k ≥ 2`) the data
    `&DATA[..LEN]` handed to `from_static_words` passes its assertion and denotes `n` -/
theorem staticValue_leBytes (k : Nat) (hk : 2 ≤ k) (n : Nat) : staticValue k (leBytes n) = some n := by
  unfold staticValue quoteWords Dashu.Gen.Macro.quote_words_max_len
  simp only
  rw [List.take_left']
  · have hl := bytesToWords_getLast k (by omega) (leBytes n) (leBytes_getLast_ne_zero n)
    simp only [hl, if_false]
    rw [valWords_bytesToWords k (by omega), ofLeBytes_leBytes]
  · rfl

/-- the padding really is `max_len - LEN ≥ 0` zeros and the arrays have the common length -/
theorem quoteWords_length (k : Nat) (hk : 2 ≤ k) (bs : Bytes) :
    (quoteWords k bs).2.length = (bs.length + 1) / 2 ∧ (quoteWords k bs).1 ≤ (bs.length + 1) / 2 := by
  unfold quoteWords Dashu.Gen.Macro.quote_words_max_len
  simp only [List.length_append, List.length_replicate]
  have := bytesToWords_length k (by omega) bs
  have h2 := len_le_maxLen k hk bs.length
  omega

-- ---------------------------------------------------------------- const path

theorem bitLen_le_lt (m b : Nat) (h : Dashu.Model.Text.bitLen m ≤ b) : m < 2 ^ b := Dashu.Proofs.Gen.blen_le_iff.1 h

/-- **const path**: taken only for magnitudes that a `u32` holds, hence also a `DoubleWord` of any
    supported word size -/
theorem const_path_guard (m : Nat) (h : intPath false m = .const) :
    m < 2 ^ 32 ∧ m % 2 ^ 32 = m ∧ ∀ W, 16 ≤ W → m < 2 ^ (2 * W) := by
  unfold intPath Dashu.Gen.Macro.int_const_guard at h
  have hb : Dashu.Model.Text.bitLen m ≤ 32 := by
    by_contra hc
    simp [hc] at h
  have hlt := bitLen_le_lt m 32 hb
  refine ⟨hlt, Nat.mod_eq_of_lt hlt, fun W hW => ?_⟩
  calc m < 2 ^ 32 := hlt
    _ ≤ 2 ^ (2 * W) := Nat.pow_le_pow_right (by omega) (by omega)

end Dashu.Model.Macro
