import Dashu.Proofs.Macro.RatLoop
/-
  C20 — the token loop of `parse_integer_with_error` since /repo e26a9db accepts exactly
  `[sign] value [base N]` (sign only for the signed macros).
-/
namespace Dashu.Model.Macro
open Dashu.Model.Serde

/-- an integer-literal state as the rational machine's state: numerator only, no `~`, no `/` -/
def IS.toRS (s : IS) : RS := { nSign := s.sign, nVal := s.val, baseMarked := s.baseMarked, base := s.base }

/-- the tokens the integer machine looks at: no `/`, no `~`, a sign only for the signed macros -/
def intTok (signed : Bool) : Tok → Bool
  | .punct c => signed && (c == 45 || c == 43)
  | _ => true

theorem IS.toRS_inj {a b : IS} (h : a.toRS = b.toRS) : a = b := by
  cases a; cases b; simp only [IS.toRS, RS.mk.injEq] at h; simp [h]

/-- one step of the integer machine is one step of the rational machine, on the tokens it looks at -/
theorem intStepNew_toRS (signed : Bool) (st : IS) (t : Tok) :
    (intStepNew signed st t).map IS.toRS = if intTok signed t then ratStepNew st.toRS t else none := by
  cases t with
  | lit s | ident s | group s =>
    simp only [intStepNew, ratStepNew, intTok, IS.toRS, apply_ite (Option.map IS.toRS), Option.map_some, Option.map_none,
      Bool.not_false, Bool.and_true, Bool.and_false, Bool.false_and, Bool.false_eq_true, if_true, if_false] <;> rfl
  | punct c =>
    simp only [intStepNew, ratStepNew, intTok, IS.toRS, apply_ite (Option.map IS.toRS), Option.map_some, Option.map_none]
    by_cases hs : signed = true <;> by_cases h45 : c = 45 <;> by_cases h43 : c = 43 <;> simp [hs, h45, h43]

theorem intLoopNew_toRS (signed : Bool) (toks : List Tok) (st : IS) :
    (intLoopNew signed st toks).map IS.toRS =
      if toks.all (intTok signed) then ratLoopNew st.toRS toks else none := by
  induction toks generalizing st with
  | nil => rfl
  | cons t ts ih =>
    have hs := intStepNew_toRS signed st t
    simp only [intLoopNew, ratLoopNew, List.all_cons, Bool.and_eq_true]
    by_cases h1 : intTok signed t = true
    · simp only [h1, if_true, true_and] at hs ⊢
      rw [← hs]
      cases intStepNew signed st t with
      | none => simp
      | some s1 => exact ih s1
    · simp only [h1] at hs ⊢
      cases h : intStepNew signed st t with
      | none => rfl
      | some s1 => rw [h] at hs; cases hs

theorem render_toRS (st : IS) : render st.toRS = renderInt st := by
  simp [render, renderInt, IS.toRS]; rfl

/-- the rational machine's invariant on an embedded state, plus "a sign only for the signed macros" -/
theorem IWF_iff (signed : Bool) (st : IS) :
    IWF signed st ↔ WF st.toRS ∧ (renderInt st).all (intTok signed) = true := by
  obtain ⟨sign, val, bm, base⟩ := st
  unfold IWF WF IS.toRS renderInt
  dsimp only
  constructor
  · rintro ⟨w1, w2, w3, w4⟩
    refine ⟨⟨fun h => ⟨rfl, w1 h⟩, fun _ => ⟨rfl, rfl⟩, w2, fun _ h => Bool.noConfusion h, w4, nofun⟩, ?_⟩
    simp only [List.all_append, Bool.and_eq_true]
    refine ⟨⟨?_, ?_⟩, ?_⟩
    · rcases sign with _ | _ | _
      · rfl
      all_goals obtain rfl := w3 nofun; rfl
    · cases val with
      | none => rfl
      | some t =>
        cases t with
        | lit _ | ident _ => rfl
        | punct _ | group _ => exact nomatch w4 _ rfl
    · cases bm <;> cases base <;> rfl
  · rintro ⟨⟨v1, -, v3, -, v5, -⟩, hall⟩
    simp only [List.all_append, Bool.and_eq_true] at hall
    refine ⟨fun h => (v1 h).2, v3, fun h => ?_, v5⟩
    cases signed with
    | true => rfl
    | false =>
      rcases sign with _ | _ | _
      · exact absurd rfl h
      all_goals exact hall.1.1

/-- **soundness**: an accepted token list is `[sign] value [base [N]]`, the sign only for signed macros -/
theorem intLoopNew_sound (signed : Bool) (toks : List Tok) (st : IS) (h : intLoopNew signed {} toks = some st) :
    toks = renderInt st ∧ IWF signed st := by
  have hs := intLoopNew_toRS signed toks {}
  rw [h] at hs
  split_ifs at hs with hall
  · obtain ⟨hr, wf⟩ := ratLoopNew_sound toks st.toRS hs.symm
    rw [render_toRS] at hr
    exact ⟨hr, (IWF_iff signed st).mpr ⟨wf, hr ▸ hall⟩⟩
  · cases hs

theorem signTok_eq_signToks (sg : Option Bool) : signTok sg = signToks sg := by
  rcases sg with _ | _ | _ <;> rfl

/-- what the loop accepts, and the code after it does not reject (`val.unwrap()`, `base` without a
    radix literal), is a documented literal `docInt sign value base` — to which
    `int_literal_is_runtime_parse` applies -/
theorem intLoopNew_accepts_documented (signed : Bool) (toks : List Tok) (st : IS) (vt : Tok)
    (h : intLoopNew signed {} toks = some st) (hv : st.val = some vt) (hb : st.baseMarked = true → st.base ≠ none) :
    toks = docInt st.sign vt st.base ∧ (∃ val, isValTok vt = some val) ∧ (st.sign = none ∨ signed = true) := by
  obtain ⟨hr, wf⟩ := intLoopNew_sound signed toks st h
  obtain ⟨w1, w2, w3, w4⟩ := wf
  refine ⟨?_, ?_, ?_⟩
  · rw [hr]
    unfold renderInt docInt
    rw [signTok_eq_signToks, hv]
    cases hbm : st.baseMarked with
    | false => simp [w2 hbm, baseToks]
    | true =>
      cases hbase : st.base with
      | none => exact absurd hbase (hb hbm)
      | some b => simp [baseToks]
  · have := w4 vt hv
    cases vt <;> simp [isVal] at this <;> simp [isValTok]
  · by_cases hs : st.sign = none
    · exact Or.inl hs
    · exact Or.inr (w3 hs)

end Dashu.Model.Macro
