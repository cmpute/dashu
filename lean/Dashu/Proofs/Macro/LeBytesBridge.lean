import Dashu.Proofs.Text.BytesModel
import Dashu.Proofs.Text.Digits
import Dashu.Proofs.Serde.Wire
/-
  C20 ↔ C07 bridge: the value-level byte functions of the macro model (`Serde.leBytes`, `Serde.ofLeBytes`)
  are C07's positional specifications (`leBytesSpec`, `ofLeBytesSpec`), hence — by C07's `toLeBytes_eq` /
  `fromLeBytes_eq` — its word-level mirrors of `to_le_bytes` / `from_le_bytes`.  (Proved from `Proofs/Text`
  alone, so that the closure of Props/C20Link does not hold the Props files of C01/C02/C07/C09/C12;
  `Props/C19.serde_bytes_word_size_independent` states the same for C19 from here.)
-/
namespace Dashu.Model.Macro
open Dashu.Model.Serde Dashu.Model.Text

/-- C07's word-level `to_le_bytes`, any word size that is a multiple of 8 -/
theorem toLeBytes_eq_leBytes (W : Nat) (h8 : 8 ∣ W) (hW : 8 ≤ W) (n : Nat) : toLeBytes W n = leBytes n := by
  rw [toLeBytes_eq W n h8 hW, leBytes_eq_leBytesSpec]

/-- C07's word-level `from_le_bytes`, any word size that is a multiple of 8, any byte string -/
theorem fromLeBytes_eq_ofLeBytes' (W : Nat) (h8 : 8 ∣ W) (hW : 8 ≤ W) (bs : Bytes) : fromLeBytes W bs = ofLeBytes bs := by
  rw [fromLeBytes_eq W h8 hW, ofLeBytes_eq_ofLeBytesSpec]

end Dashu.Model.Macro
