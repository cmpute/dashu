import Dashu.Proofs.Macro.FloatStrip
/-
  C20 — the hexadecimal float forms of `fbig!` (`[sign] 0x int [. frac] [p exponent]`, base 2):
  the literal denotes `± (hex digits) · 2^(exponent − 4·#fraction digits)` exactly, with precision
  4 bits per written hexadecimal digit; through the documented grammar `parseFloatSpec`
  (= `from_str_native` on every byte string, C08) and the parser the macro model runs.
-/
namespace Dashu.Model.Macro
open Dashu.Model.Serde Dashu.Model.Text Dashu.Model.Float

/-- the exponent part behind a marker byte `m` (`p`, `P` or `@`) -/
def pScaleChars (m : Nat) : Option Int → List Nat
  | none => []
  | some z => m :: printSpecInt 10 false z

/-- a hexadecimal literal of base 2: optional sign, `0x` / `0X`, hexadecimal integer digits,
    optional `.` + hexadecimal fraction digits, optional marker + signed decimal binary exponent -/
def renderHex (up : Bool) (x m : Nat) (sign : Option Bool) (di : List Nat) (frac : Option (List Nat))
    (scale : Option Int) : List Nat :=
  signChars sign ++ (48 :: x :: ((chars up di ++ fracChars up frac) ++ pScaleChars m scale))

/-- **hexadecimal float literal = the number written**: `[sign] 0x int [. frac] [p exponent]` denotes
    `± (hex digits int ++ frac) · 2^(exponent − 4·|frac|)` exactly, and its precision is four bits per
    hexadecimal digit written; `floatParse 2` (the parser the macro model and the driver run) returns it
    whenever the normalised exponent is an `isize` -/
theorem floatParse_hex (up : Bool) (x m : Nat) (hx : x = 120 ∨ x = 88) (hm : m = 112 ∨ m = 80 ∨ m = 64)
    (sign : Option Bool) (di : List Nat) (frac : Option (List Nat)) (scale : Option Int)
    (hdi : ∀ d ∈ di, d < 16) (hdf : ∀ d ∈ frac.getD [], d < 16) (hne : di ≠ [] ∨ frac.getD [] ≠ [])
    (hs : ∀ z, scale = some z → -(2 ^ 63 : Int) ≤ z ∧ z < (2 ^ 63 : Int)) :
    ∃ r : FRepr,
      r.toRat 2 = (if sign = some true then -1 else 1) * (ofDigits 16 (di ++ frac.getD []) : ℚ) *
        bpowQ 2 (scale.getD 0 - ((4 * (frac.getD []).length : Nat) : Int)) ∧
      (inIsize r.exp → floatParse 2 (renderHex up x m sign di frac scale) =
        some (⟨r.signif, r.exp⟩, 4 * (di.length + (frac.getD []).length))) := by
  have hmk : isScaleMarker 2 true m = true := by rcases hm with rfl | rfl | rfl <;> decide
  obtain ⟨r, hparse, hv⟩ := literal_parse 64 (by norm_num) 2 (by decide) up true (fun _ => rfl) x hx sign di frac
    (scale.map (fun z => (m, z))) hdi hdf hne
    (by
      intro c z hcz
      cases scale with
      | none => cases hcz
      | some z' => cases hcz; exact ⟨hmk, hs _ rfl⟩)
  have hsc : scaleText (scale.map (fun z => (m, z))) = pScaleChars m scale := by cases scale <;> rfl
  have hz : ((scale.map (fun z => (m, z))).map (·.2)).getD 0 = scale.getD 0 := by cases scale <;> rfl
  rw [hsc] at hparse
  rw [hz] at hv
  have htext : signChars sign ++ ((if true then [48, x] else []) ++ (chars up di ++ fracChars up frac) ++
      pScaleChars m scale) = renderHex up x m sign di frac scale := by
    unfold renderHex; simp
  rw [htext] at hparse
  refine ⟨r, ?_, ?_⟩
  · rw [hv]; simp [Nat.mul_comm]
  · intro hin
    unfold floatParse parseF
    unfold fromStrNative at hparse
    cases hraw : fromStrNativeRaw 64 2 (renderHex up x m sign di frac scale) with
    | error e => rw [hraw] at hparse; simp [Except.map] at hparse
    | ok t =>
      obtain ⟨sig, e, nd⟩ := t
      rw [hraw] at hparse
      simp only [Except.map, Except.ok.injEq, Prod.mk.injEq] at hparse
      dsimp only
      rw [hparse.1]
      simp only [hin, if_true]
      rw [hparse.2]
      simp [Nat.mul_comm]

-- ---------------------------------------------------------------- through the macro

theorem noSign_us (us : Bool) (t : Bytes) (ht : NoSign t) : NoSign ((if us then [95] else []) ++ t) := by
  cases us
  · simpa using ht
  · simp [NoSign]

theorem fbigRtText_signChars (sign : Option Bool) (us : Bool) (t : Bytes) (ht : NoSign t) (h95 : t.head? ≠ some 95) :
    fbigRtText (signChars sign ++ ((if us then [95] else []) ++ t)) = signChars sign ++ t := by
  have hu : stripUs ((if us then [95] else []) ++ t) = t := by
    cases us
    · simp only [Bool.false_eq_true, if_false, List.nil_append]
      unfold stripUs
      split
      · simp at h95
      · rfl
    · rfl
  rw [fbigRtText_sign sign _ fun _ => noSign_us us t ht, hu]

/-- **`fbig!` on a hexadecimal float literal** (`fbig!(-0xae1fp-8)`, `fbig!(-_0xae.1f)`,
    `fbig!(0x03.efp-2)` …): whenever the tokens spell `[sign] [_] 0x int [. frac] [p exponent]`, the
    macro's own stripping followed by the parser yields exactly `± hex digits · 2^(exponent − 4·|frac|)`
    with precision 4 bits per hexadecimal digit — both as the code computes it (`fbigNew`) and as the
    model prescribes (`floatLiteral`) -/
theorem fbig_hex_literal (toks : List Tok) (us up : Bool) (x m : Nat) (hx : x = 120 ∨ x = 88)
    (hm : m = 112 ∨ m = 80 ∨ m = 64) (sign : Option Bool) (di : List Nat) (frac : Option (List Nat))
    (scale : Option Int) (hdi : ∀ d ∈ di, d < 16) (hdf : ∀ d ∈ frac.getD [], d < 16)
    (hne : di ≠ [] ∨ frac.getD [] ≠ []) (hs : ∀ z, scale = some z → -(2 ^ 63 : Int) ≤ z ∧ z < (2 ^ 63 : Int))
    (htext : concatToks toks = signChars sign ++ ((if us then [95] else []) ++
      (48 :: x :: ((chars up di ++ fracChars up frac) ++ pScaleChars m scale)))) :
    ∃ r : FRepr,
      r.toRat 2 = (if sign = some true then -1 else 1) * (ofDigits 16 (di ++ frac.getD []) : ℚ) *
        bpowQ 2 (scale.getD 0 - ((4 * (frac.getD []).length : Nat) : Int)) ∧
      (inIsize r.exp →
        (fbigNew toks).map fpOfParts = some ⟨r.signif, r.exp, 4 * (di.length + (frac.getD []).length)⟩ ∧
        floatLiteral true toks = some ⟨r.signif, r.exp, 4 * (di.length + (frac.getD []).length)⟩) := by
  obtain ⟨r, hv, hp⟩ := floatParse_hex up x m hx hm sign di frac scale hdi hdf hne hs
  refine ⟨r, hv, ?_⟩
  intro hin
  have hp := hp hin
  generalize hbody : (48 :: x :: ((chars up di ++ fracChars up frac) ++ pScaleChars m scale)) = t at htext
  have ht : NoSign t := by rw [← hbody]; simp [NoSign]
  have h95 : t.head? ≠ some 95 := by rw [← hbody]; simp
  have hrt : fbigRtText (concatToks toks) = renderHex up x m sign di frac scale := by
    rw [htext, fbigRtText_signChars sign us t ht h95, ← hbody]; rfl
  have hsec : fbigSecondSign toks = false := by
    unfold fbigSecondSign
    rw [htext]
    rw [stripSign_eq, stripSignF_sign sign _ fun _ => noSign_us us t ht]
    dsimp only
    cases us
    · simp only [Bool.false_eq_true, if_false, List.nil_append]
      have : stripUs t = t := by rw [← hbody]; rfl
      rw [this, ← hbody]; rfl
    · show ((stripUs (95 :: t)).head? == some 45 || (stripUs (95 :: t)).head? == some 43) = false
      have : stripUs (95 :: t) = t := rfl
      rw [this, ← hbody]; rfl
  have hnew := fbigNew_eq toks
  rw [hsec] at hnew
  simp only [Bool.false_eq_true, if_false] at hnew
  have hr : rtFloat true toks = some ⟨r.signif, r.exp, 4 * (di.length + (frac.getD []).length)⟩ := by
    rw [rtFloat_eq]
    simp only [if_true]
    rw [hrt, hp]; rfl
  refine ⟨by rw [hnew, hr], ?_⟩
  rw [← fbigNew_eq_literal, hnew, hr]

/-- non-vacuity: `fbig!(-_0xae.1f)` — tokens `-`, `_0xae` (identifier), `.`, `1f` -/
example : concatToks [.punct 45, .ident [95, 48, 120, 97, 101], .punct 46, .lit [49, 102]] =
    signChars (some true) ++ ((if true then [95] else []) ++
      (48 :: 120 :: ((chars false [10, 14] ++ fracChars false (some [1, 15])) ++ pScaleChars 112 none))) ∧
    (fbigNew [.punct 45, .ident [95, 48, 120, 97, 101], .punct 46, .lit [49, 102]]).map fpOfParts =
      some ⟨-0xae1f, -8, 16⟩ := by
  refine ⟨by decide, by decide⟩

-- ---------------------------------------------------------------- every accepted literal, any form

/-- **whatever form an accepted float literal has** (underscores, any scale marker, hexadecimal with
    `fbig!`): its value is `± (its digits) · B^(scale − #fraction digits·k)` for digits of radix `B`
    (`k = 1`) or hexadecimal digits (`k = 4`, `fbig!` only), and its precision is `k` times the number
    of digits written -/
theorem floatLiteral_denotes (binary : Bool) (toks : List Tok) (v : FPVal) (h : floatLiteral binary toks = some v) :
    ∃ (neg hex : Bool) (di df : List Nat) (scale : Int), (hex = true → binary = true) ∧
      (∀ d ∈ di ++ df, d < (if hex then 16 else (if binary then 2 else 10))) ∧ di ++ df ≠ [] ∧
      v.prec = (di.length + df.length) * (if hex then 4 else 1) ∧
      (FRepr.mk v.signif v.exp).toRat (if binary then 2 else 10) =
        (if neg then -1 else 1) * (ofDigits (if hex then 16 else (if binary then 2 else 10)) (di ++ df) : ℚ) *
          bpowQ (if binary then 2 else 10) (scale - ((df.length * (if hex then 4 else 1) : Nat) : Int)) := by
  obtain ⟨hrt, _⟩ := floatLiteral_spec binary toks v h
  rw [rtFloat_eq] at hrt
  generalize hB : (if binary = true then 2 else 10) = B at *
  have hBv : validRadix B = true := by rw [← hB]; cases binary <;> decide
  generalize (if binary = true then fbigRtText (concatToks toks) else concatToks toks) = text at hrt
  unfold floatParse parseF at hrt
  cases hraw : fromStrNativeRaw 64 B text with
  | error e => rw [hraw] at hrt; simp at hrt
  | ok t =>
    obtain ⟨sig, e, nd⟩ := t
    rw [hraw] at hrt
    dsimp only at hrt
    split at hrt
    · simp only [Option.map_some, Option.some.injEq] at hrt
      have hspec : parseFloatSpec B text = .ok (FRepr.new B sig e, nd) := by
        rw [← fromStrNative_eq_spec 64 (by norm_num) B hBv]
        unfold fromStrNative; rw [hraw]; rfl
      obtain ⟨neg, hex, di, df, scale, hh, hlt, hne, hp, hval⟩ := spec_ok_denotes B hBv text _ _ hspec
      refine ⟨neg, hex, di, df, scale, ?_, hlt, hne, ?_, ?_⟩
      · intro hx
        have := hh hx
        cases binary
        · simp at hB; omega
        · rfl
      · rw [← hrt]; exact hp
      · rw [← hrt]; exact hval
    · simp at hrt

-- ---------------------------------------------------------------- the constructors of the expansion reproduce the parsed repr

theorem parseF_zero_exp (B : Nat) (hB : 0 < B) (s : Bytes) (v : FVal) (nd : Nat) (h : parseF B s = some (v, nd))
    (h0 : v.signif = 0) : v.exp = 0 := by
  unfold parseF at h
  split at h
  next sig e k hraw =>
    dsimp only at h
    split at h
    · cases h
      show (FRepr.new B sig e).exp = 0
      rw [new_zero_exp B hB sig e h0]
    · cases h
  · cases h

end Dashu.Model.Macro
