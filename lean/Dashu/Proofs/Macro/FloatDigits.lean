import Dashu.Proofs.Macro.FloatHex
/-
  C20 — an accepted float literal never has more significant digits than its precision (the number
  of digits written, ×4 for hexadecimal digits): `FBig::from_repr`'s `debug_assert!(digits ≤ precision)`
  in the heap expansion cannot fire.
-/
namespace Dashu.Model.Macro
open Dashu.Model.Serde Dashu.Model.Text Dashu.Model.Float

theorem ofDigits_lt_pow (r : Nat) (ds : List Nat) (h : ∀ d ∈ ds, d < r) : ofDigits r ds < r ^ ds.length := by
  induction ds with
  | nil => simp [ofDigits]
  | cons d t ih =>
    have hd : d < r := h d (by simp)
    have ht := ih (fun x hx => h x (by simp [hx]))
    rw [ofDigits_cons, List.length_cons, Nat.pow_succ]
    calc d * r ^ t.length + ofDigits r t < d * r ^ t.length + r ^ t.length := by omega
      _ = (d + 1) * r ^ t.length := by ring
      _ ≤ r * r ^ t.length := Nat.mul_le_mul_right _ hd
      _ = r ^ t.length * r := Nat.mul_comm _ _

/-- the raw significand of a literal is below `B^(precision)` -/
theorem literalValue_digits (B radix k : Nat) (hB : 2 ≤ B) (hrk : radix = B ^ k) (hk : 1 ≤ k) (neg : Bool)
    (di df : List Nat) (scale : Int) (hlt : ∀ d ∈ di ++ df, d < radix) (hne : di ++ df ≠ []) :
    (literalValue B radix k neg di df scale).1.digits B ≤ (literalValue B radix k neg di df scale).2 := by
  unfold literalValue
  simp only
  have hi := ofDigits_lt_pow radix di (fun d hd => hlt d (List.mem_append_left _ hd))
  have hf := ofDigits_lt_pow radix df (fun d hd => hlt d (List.mem_append_right _ hd))
  have hlen : 1 ≤ di.length + df.length := by
    cases di with
    | nil => cases df with
      | nil => exact absurd rfl hne
      | cons _ _ => simp
    | cons _ _ => simp; omega
  have hq : 1 ≤ (di.length + df.length) * k := Nat.mul_le_mul hlen hk
  have hpi : radix ^ di.length = B ^ (di.length * k) := by rw [hrk, ← Nat.pow_mul, Nat.mul_comm]
  have hpf : radix ^ df.length = B ^ (df.length * k) := by rw [hrk, ← Nat.pow_mul, Nat.mul_comm]
  rw [hpi] at hi
  rw [hpf] at hf
  have hsum : B ^ ((di.length + df.length) * k) = B ^ (di.length * k) * B ^ (df.length * k) := by
    rw [Nat.add_mul, Nat.pow_add]
  have hBpos : 0 < B ^ (df.length * k) := Nat.pow_pos (by omega)
  -- the magnitude
  have hmag : (if ofDigits radix df = 0 then ofDigits radix di else ofDigits radix di * B ^ (df.length * k) + ofDigits radix df)
      < B ^ ((di.length + df.length) * k) := by
    rw [hsum]
    split
    · calc ofDigits radix di < B ^ (di.length * k) := hi
        _ ≤ B ^ (di.length * k) * B ^ (df.length * k) := Nat.le_mul_of_pos_right _ hBpos
    · calc ofDigits radix di * B ^ (df.length * k) + ofDigits radix df
          < ofDigits radix di * B ^ (df.length * k) + B ^ (df.length * k) := by omega
        _ = (ofDigits radix di + 1) * B ^ (df.length * k) := by ring
        _ ≤ B ^ (di.length * k) * B ^ (df.length * k) := Nat.mul_le_mul_right _ hi
  apply new_digits_le_digits B hB _ _ _ hq
  generalize (if ofDigits radix df = 0 then ofDigits radix di else ofDigits radix di * B ^ (df.length * k) + ofDigits radix df) = mag at hmag
  cases neg
  · simp only [Bool.false_eq_true, if_false]
    rw [abs_of_nonneg (by positivity)]
    exact_mod_cast hmag
  · simp only [if_true]
    rw [abs_neg, abs_of_nonneg (by positivity)]
    exact_mod_cast hmag

/-- every string the documented grammar accepts: digits of the value ≤ precision -/
theorem spec_ok_digits (B : Nat) (hB : validRadix B = true) (s : List Nat) (r : FRepr) (p : Nat)
    (h : parseFloatSpec B s = .ok (r, p)) : r.digits B ≤ p := by
  have hr := validRadix_iff.mp hB
  obtain ⟨scale, body, hk⟩ := parseFloatSpec_ok_body h
  obtain ⟨di, df, hlt, hne, hres⟩ := specBody_ok hk
  generalize hhex : (B == 2 && hasHexPrefix (stripSignF s).2) = hex at *
  have hB2 : hex = true → B = 2 := by
    intro hx; subst hx; simp at hhex; exact hhex.1
  have hrk : (if hex then 16 else B) = B ^ (if hex then 4 else 1) := by
    cases hex
    · simp
    · rw [hB2 rfl]; rfl
  have hk1 : 1 ≤ (if hex then 4 else 1) := by split <;> omega
  have := literalValue_digits B _ _ hr.1 hrk hk1 (stripSignF s).1 di df scale hlt hne
  rw [← hres] at this
  exact this

/-- **digits ≤ precision for every accepted float literal**: the `debug_assert!` of `FBig::from_repr`
    (heap path) holds for the expansion -/
theorem floatLiteral_digits_le_prec (binary : Bool) (toks : List Tok) (v : FPVal) (h : floatLiteral binary toks = some v) :
    (FRepr.mk v.signif v.exp).digits (if binary then 2 else 10) ≤ v.prec := by
  obtain ⟨hrt, _⟩ := floatLiteral_spec binary toks v h
  rw [rtFloat_eq] at hrt
  generalize hB : (if binary = true then 2 else 10) = B at *
  have hBv : validRadix B = true := by rw [← hB]; cases binary <;> decide
  generalize (if binary = true then fbigRtText (concatToks toks) else concatToks toks) = text at hrt
  unfold floatParse parseF at hrt
  cases hraw : fromStrNativeRaw 64 B text with
  | error e => rw [hraw] at hrt; simp at hrt
  | ok t =>
    obtain ⟨sig, e, nd⟩ := t
    rw [hraw] at hrt
    dsimp only at hrt
    split at hrt
    · simp only [Option.map_some, Option.some.injEq] at hrt
      have hspec : parseFloatSpec B text = .ok (FRepr.new B sig e, nd) := by
        rw [← fromStrNative_eq_spec 64 (by norm_num) B hBv]
        unfold fromStrNative; rw [hraw]; rfl
      have := spec_ok_digits B hBv text _ _ hspec
      rw [← hrt]
      exact this
    · simp at hrt

end Dashu.Model.Macro
