import Dashu.Proofs.Cross.Filter
import Dashu.Proofs.Int.Cmp
import Dashu.Proofs.Cross.SameText
import Dashu.Model.Cross.Pre
import Dashu.Proofs.Gen.BitLen
/-
  C14 proofs — the comparison functions that use BIT LENGTHS as stand-ins for log₂
  (integer/float/rational `third_party/num_order.rs` against f32/f64, rational/src/cmp.rs).
  The steps that the code before the C14 fixes (`Model/Cross/Pre.lean`) and the current code share are
  proved once (`ibig_steps35`, `rat_vs_dec_sep`, `reprNumOrdFloat_fin`); then the code before the fixes:
  outside the recorded defect classes (`defectA`, `defectF`) it returns the order of the exact values.
  The current code is `Fixed.lean`.
-/
namespace Dashu.Model.Cross

-- ------------------------------------------------------------------ bit length

theorem bitLen_zero : bitLen 0 = 0 := rfl

theorem bitLen_of_ne {n : Nat} (h : n ≠ 0) : bitLen n = Nat.log2 n + 1 := if_neg h

theorem lt_two_pow_bitLen (n : Nat) : n < 2 ^ bitLen n := Dashu.Proofs.Gen.lt_two_pow_blen n

theorem two_pow_bitLen_le {n : Nat} (h : n ≠ 0) : 2 ^ (bitLen n - 1) ≤ n := Dashu.Proofs.Gen.two_pow_blen_le h

theorem bitLen_pos {n : Nat} (h : n ≠ 0) : 0 < bitLen n := Dashu.Proofs.Gen.blen_pos h

theorem bitLen_eq_zero_iff {n : Nat} : bitLen n = 0 ↔ n = 0 := by
  constructor
  · intro h; by_contra hn; have := bitLen_pos hn; omega
  · rintro rfl; rfl

theorem bitLen_le_of_lt_two_pow {n k : Nat} (h : n < 2 ^ k) : bitLen n ≤ k := Dashu.Proofs.Gen.blen_le_iff.2 h

theorem lt_bitLen_of_two_pow_le {n k : Nat} (h : 2 ^ k ≤ n) : k < bitLen n := Dashu.Proofs.Gen.lt_blen_iff.2 h

theorem bitLen_mono {m n : Nat} (h : m ≤ n) : bitLen m ≤ bitLen n := Dashu.Proofs.Gen.blen_mono h

theorem bitLen_eq_of_bounds {n k : Nat} (h1 : 2 ^ k ≤ n) (h2 : n < 2 ^ (k + 1)) : bitLen n = k + 1 :=
  Dashu.Proofs.Gen.blen_eq_of_bounds h1 h2

-- ------------------------------------------------------------------ range of a decoded float

/-- a decoded finite float is below `2 ^ MAX_EXP` in magnitude (in bit-length terms) -/
def Decoded.InRange (t : FloatTy) : Decoded → Prop
  | .fin m e => (bitLen m.natAbs : Int) + e ≤ (t.maxExp : Int)
  | _ => True

theorem natAbs_ite_neg (c : Prop) [Decidable c] (m : Nat) :
    (if c then -(m : Int) else (m : Int)).natAbs = m := by
  split <;> simp

/-- what `decode` returns for a finite pattern: a mantissa of at most `mantBits + 1` bits and an exponent between those of
    the subnormals and of the largest finite binade -/
theorem decode_fin {t : FloatTy} {bits : Nat} {m e : Int} (h : decode t bits = .fin m e) :
    bitLen m.natAbs ≤ t.mantBits + 1 ∧ 1 - (t.bias : Int) - t.mantBits ≤ e ∧
      e + t.bias + t.mantBits + 2 ≤ 2 ^ t.expBits := by
  unfold decode at h
  dsimp only at h
  have hmant : bits % 2 ^ t.mantBits < 2 ^ t.mantBits := Nat.mod_lt _ (Nat.pow_pos (by omega))
  have hexlt : (bits >>> t.mantBits) % 2 ^ t.expBits < 2 ^ t.expBits := Nat.mod_lt _ (Nat.pow_pos (by omega))
  generalize (bits >>> t.mantBits) % 2 ^ t.expBits = ex at *
  generalize bits % 2 ^ t.mantBits = mant at *
  split at h
  · split at h <;> cases h
  · rename_i hex
    injection h with hm he
    subst hm he
    rw [natAbs_ite_neg]
    have hm : (if ex = 0 then mant else mant + 2 ^ t.mantBits) < 2 ^ (t.mantBits + 1) := by
      rw [Nat.pow_succ]; split <;> omega
    refine ⟨bitLen_le_of_lt_two_pow hm, ?_, ?_⟩ <;> split <;> cases t <;>
      simp only [FloatTy.mantBits, FloatTy.bias, FloatTy.expBits] at * <;> omega

/-- every bit pattern decodes to a value in range: `bit_len(mantissa) + exponent ≤ MAX_EXP` -/
theorem decode_inRange (t : FloatTy) (bits : Nat) : (decode t bits).InRange t := by
  cases h : decode t bits with
  | fin m e =>
    obtain ⟨h1, _, h3⟩ := decode_fin h
    show (bitLen m.natAbs : Int) + e ≤ t.maxExp
    cases t <;> simp only [FloatTy.mantBits, FloatTy.bias, FloatTy.maxExp, FloatTy.expBits] at * <;> omega
  | _ => trivial

-- ------------------------------------------------------------------ magnitudes and separation

theorem cmp_of_mag_lt {n1 n2 : Int} {d1 d2 : Nat} (hd1 : 0 < d1) (hd2 : 0 < d2) {sg : Sign}
    (hs : signMatch (Sign.ofInt n1) (Sign.ofInt n2) = .inl sg)
    (h : |(n1 : ℝ)| / (d1 : ℝ) < |(n2 : ℝ)| / (d2 : ℝ)) :
    compare (n1 * (d2 : Int)) (n2 * (d1 : Int)) = sg.app .lt :=
  cmp_cross_of_abs_lt hs (abs_cross_of_real hd1 hd2 h)

theorem cmp_of_mag_gt {n1 n2 : Int} {d1 d2 : Nat} (hd1 : 0 < d1) (hd2 : 0 < d2) {sg : Sign}
    (hs : signMatch (Sign.ofInt n1) (Sign.ofInt n2) = .inl sg)
    (h : |(n2 : ℝ)| / (d2 : ℝ) < |(n1 : ℝ)| / (d1 : ℝ)) :
    compare (n1 * (d2 : Int)) (n2 * (d1 : Int)) = sg.app .gt :=
  cmp_cross_of_abs_gt hs (abs_cross_of_real hd2 hd1 h)

/-- magnitude of a decoded float `man · 2^exp`, `man ≠ 0` -/
theorem decMag_encl {man : Int} (hm : man ≠ 0) (exp : Int) :
    IEncl (fltMag 2 man exp) ((bitLen man.natAbs : Int) - 1 + exp) ((bitLen man.natAbs : Int) + exp) := by
  unfold fltMag
  rw [Nat.cast_ofNat]
  exact (IEncl.int hm).mul le_rfl le_rfl

/-- the magnitude of the fraction `floatFrac 2 man exp` -/
theorem decFrac_mag (man exp : Int) :
    |(((floatFrac 2 man exp).1 : Int) : ℝ)| / (((floatFrac 2 man exp).2 : Nat) : ℝ) = fltMag 2 man exp :=
  (fltMag_eq_frac (le_refl 2) man exp).symm

theorem floatFrac_zero_num (B : Nat) (e : Int) : (floatFrac B 0 e).1 = 0 := by
  unfold floatFrac; split <;> simp

theorem floatFrac_num_ne {B : Nat} (hB : 2 ≤ B) {s : Int} (hs : s ≠ 0) (e : Int) :
    (floatFrac B s e).1 ≠ 0 := by
  rcases lt_or_gt_of_ne hs with h | h
  · have := floatFrac_num_neg hB e h; omega
  · unfold floatFrac
    split
    · exact hs
    · have : (0 : Int) < (B : Int) ^ e.toNat := pow_pos (by exact_mod_cast (by omega : 0 < B)) _
      have := mul_pos h this
      simp only; omega

theorem floatFrac_num_pos {B : Nat} (hB : 2 ≤ B) {s : Int} (e : Int) (hs : 0 < s) :
    0 < (floatFrac B s e).1 := by
  unfold floatFrac
  split
  · exact hs
  · exact mul_pos hs (pow_pos (by exact_mod_cast (by omega : 0 < B)) _)

/-- comparison against a zero right-hand side -/
theorem cmp_zero_right {n1 d2 z : Int} (hd2 : 0 < d2) (hz : z = 0) (d1 : Int) :
    compare (n1 * d2) (z * d1) = if n1 = 0 then .eq else (Sign.ofInt n1).app .gt := by
  subst hz
  rw [zero_mul]
  split
  · rename_i h; subst h; simp
  · rename_i h
    rcases lt_or_gt_of_ne h with h | h
    · rw [Sign.ofInt_neg.2 h]
      exact Int.compare_eq_lt.2 (mul_neg_of_neg_of_pos h hd2)
    · rw [Sign.ofInt_pos.2 h.le]
      exact Int.compare_eq_gt.2 (mul_pos h hd2)

theorem intMag_encl {x : Int} (h : x ≠ 0) :
    IEncl (|(x : ℝ)| / ((1 : Nat) : ℝ)) ((bitLen x.natAbs : Int) - 1) (bitLen x.natAbs) := by
  rw [Nat.cast_one, div_one]; exact IEncl.int h

-- ------------------------------------------------------------------ defect class A, unpacked

/-- outside defect class A a zero left operand meets a positive mantissa only above the bit-length shortcut -/
theorem defectA_zero {k : Kind} {man exp : Int} (h : defectA k man exp = false) (hz : k.isZero = true)
    (hm : 0 < man) :
    match k with
    | .rat _ _ _ => -2 ≤ (bitLen man.natAbs : Int) + exp - 1
    | _ => 0 ≤ (bitLen man.natAbs : Int) + exp := by
  unfold defectA at h
  rw [hz, decide_eq_true hm, Bool.true_and, Bool.true_and] at h
  cases k <;> exact not_lt.1 (of_decide_eq_false h)

-- ------------------------------------------------------------------ integer × float

/-- the `lb`/`ub` cascade of the float and rational `impl_num_ord_with_float` (steps 3–5) -/
theorem lu_skeleton {n1 n2 : Int} {d1 d2 : Nat} (hd1 : 0 < d1) (hd2 : 0 < d2) {sg : Sign}
    (hs : signMatch (Sign.ofInt n1) (Sign.ofInt n2) = .inl sg) {lb ub ol K : Int} {ex : Ordering}
    (hK : ol ≤ K)
    (hgt : lb > ol → |(n2 : ℝ)| / (d2 : ℝ) < |(n1 : ℝ)| / (d1 : ℝ))
    (hlt : ub < ol → |(n1 : ℝ)| / (d1 : ℝ) < |(n2 : ℝ)| / (d2 : ℝ))
    (hex : ex = compare (n1 * (d2 : Int)) (n2 * (d1 : Int))) :
    (if lb > K then some (sg.app .gt)
     else if lb > ol then some (sg.app .gt)
     else if ub < ol then some (sg.app .lt)
     else some ex) = some (compare (n1 * (d2 : Int)) (n2 * (d1 : Int))) := by
  by_cases h1 : lb > ol
  · have := cmp_of_mag_gt hd1 hd2 hs (hgt h1)
    rw [this]; split <;> simp
  · have hK' : ¬ lb > K := by omega
    by_cases h2 : ub < ol
    · have := cmp_of_mag_lt hd1 hd2 hs (hlt h2)
      rw [this]; simp [hK', h1, h2]
    · simp [hK', h1, h2, hex]

theorem maxExp_le (t : FloatTy) : (t.maxExp : Int) ≤ ((t.mantDigits + t.maxExp : Nat) : Int) := by
  omega

theorem int_exact_eq (x man exp : Int) :
    (if exp ≥ 0 then some (compare x (man * 2 ^ exp.toNat))
      else some (compare (x * 2 ^ (-exp).toNat) man))
    = some (compare (x * ((floatFrac 2 man exp).2 : Int)) ((floatFrac 2 man exp).1 * ((1 : Nat) : Int))) := by
  unfold floatFrac
  by_cases h : exp < 0
  · have : ¬ exp ≥ 0 := by omega
    simp [h, this]
  · have : exp ≥ 0 := by omega
    simp [h, this]

/-- steps 3–5 of `impl_num_ord_ibig_with_float`, before and after the fix alike: every exit that answers `Greater` implies
    `other_bits < self_bits`.  Sound once a zero `x` does not reach the `other_bits < 0` exit (`hx`): the code before the fix
    needs the input outside defect class A for that, the code after it tests `x = 0` first. -/
theorem ibig_steps35 (t : FloatTy) (x : Int) {man : Int} (h0 : man ≠ 0) (exp : Int)
    (hr : (bitLen man.natAbs : Int) + exp ≤ t.maxExp) {sg : Sign}
    (hm : signMatch (Sign.ofInt x) (Sign.ofInt (floatFrac 2 man exp).1) = .inl sg)
    (hx : x = 0 → 0 ≤ (bitLen man.natAbs : Int) + exp) :
    (if (bitLen x.natAbs : Int) > (t.mantDigits + t.maxExp : Nat) then some (sg.app .gt)
     else if (bitLen man.natAbs : Int) + exp < 0 then some (sg.app .gt)
     else if (bitLen x.natAbs : Int) > (bitLen man.natAbs : Int) + exp then some (sg.app .gt)
     else if (bitLen x.natAbs : Int) < (bitLen man.natAbs : Int) + exp then some (sg.app .lt)
     else if exp ≥ 0 then some (compare x (man * 2 ^ exp.toNat))
     else some (compare (x * 2 ^ (-exp).toNat) man))
      = some (compare (x * ((floatFrac 2 man exp).2 : Int)) ((floatFrac 2 man exp).1 * ((1 : Nat) : Int))) := by
  have hd2 := floatFrac_den_pos (le_refl 2) man exp
  have hdec := decMag_encl h0 exp
  rw [← decFrac_mag] at hdec
  have h00 : bitLen (0 : Int).natAbs = 0 := rfl
  have hgt : (bitLen man.natAbs : Int) + exp < bitLen x.natAbs → some (sg.app .gt)
      = some (compare (x * ((floatFrac 2 man exp).2 : Int)) ((floatFrac 2 man exp).1 * ((1 : Nat) : Int))) := fun h => by
    have hx0 : x ≠ 0 := fun hz => by have := hx hz; rw [hz, h00] at h; omega
    rw [cmp_of_mag_gt Nat.one_pos hd2 hm (hdec.sep (intMag_encl hx0) (by omega))]
  have hlt : (bitLen x.natAbs : Int) < (bitLen man.natAbs : Int) + exp → some (sg.app .lt)
      = some (compare (x * ((floatFrac 2 man exp).2 : Int)) ((floatFrac 2 man exp).1 * ((1 : Nat) : Int))) := fun h => by
    refine congrArg some (cmp_of_mag_lt Nat.one_pos hd2 hm ?_).symm
    by_cases hx0 : x = 0
    · rw [hx0]; simpa using hdec.pos
    · exact (intMag_encl hx0).sep hdec (by omega)
  have hK := maxExp_le t
  by_cases c1 : (bitLen x.natAbs : Int) > (t.mantDigits + t.maxExp : Nat)
  · rw [if_pos c1]; exact hgt (by omega)
  rw [if_neg c1]
  by_cases c2 : (bitLen man.natAbs : Int) + exp < 0
  · rw [if_pos c2]; exact hgt (by omega)
  rw [if_neg c2]
  by_cases c3 : (bitLen x.natAbs : Int) > (bitLen man.natAbs : Int) + exp
  · rw [if_pos c3]; exact hgt c3
  rw [if_neg c3]
  by_cases c4 : (bitLen x.natAbs : Int) < (bitLen man.natAbs : Int) + exp
  · rw [if_pos c4]; exact hlt c4
  rw [if_neg c4]
  exact int_exact_eq x man exp

/-- steps 0–1 of `impl_num_ord_{ibig,float,rational}_with_float`: a zero mantissa, then operands of different sign.  `x` is
    the value whose sign the code tests, `n1 / d1` the left operand; what is left (`rest`) is entered with a nonzero
    mantissa, matching signs and, for `x = 0`, a positive mantissa -/
theorem numOrd_steps01 {x n1 : Int} {d1 : Nat} (hd1 : 0 < d1) (hsx : Sign.ofInt n1 = Sign.ofInt x) (man exp : Int)
    {z : Prop} [Decidable z] (hz : z ↔ n1 = 0) {rest : Sign → Option Ordering}
    (hrest : man ≠ 0 → ∀ sg, signMatch (Sign.ofInt n1) (Sign.ofInt (floatFrac 2 man exp).1) = .inl sg →
      (x = 0 → 0 < man) →
      rest sg = some (compare (n1 * ((floatFrac 2 man exp).2 : Int)) ((floatFrac 2 man exp).1 * (d1 : Int)))) :
    (if man = 0 then (if z then some .eq else some ((Sign.ofInt x).app .gt))
     else match signMatch (Sign.ofInt x) (Sign.ofInt man) with
       | .inr ord => some ord
       | .inl sign => rest sign)
      = some (compare (n1 * ((floatFrac 2 man exp).2 : Int)) ((floatFrac 2 man exp).1 * (d1 : Int))) := by
  have hd2 := floatFrac_den_pos (le_refl 2) man exp
  by_cases h0 : man = 0
  · subst h0
    rw [if_pos rfl, cmp_zero_right (by exact_mod_cast hd2) (floatFrac_zero_num 2 exp), hsx, apply_ite some]
    exact if_congr hz rfl rfl
  · rw [if_neg h0]
    cases hm : signMatch (Sign.ofInt x) (Sign.ofInt man) with
    | inr o =>
      dsimp only
      rw [← floatFrac_sign (le_refl 2) man exp, ← hsx] at hm
      rw [cmp_cross_of_signs (by exact_mod_cast hd1) (by exact_mod_cast hd2) hm]
    | inl sg =>
      dsimp only
      have hzero : x = 0 → 0 < man := by
        intro hx
        rcases signMatch_inl hm with ⟨_, _, h2⟩ | ⟨_, h1, _⟩ <;> omega
      rw [← floatFrac_sign (le_refl 2) man exp, ← hsx] at hm
      exact hrest h0 sg hm hzero

/-- `NumOrd<f32/f64> for IBig` returns the order of the exact values outside defect classes A, F -/
theorem ibigNumOrdFloatPre_partial (t : FloatTy) (x : Int) (d : Decoded) (hr : d.InRange t)
    (hA : ∀ man exp, d = .fin man exp → defectA (.int x) man exp = false)
    (hF : ∀ neg, d = .inf neg → defectF (.int x) neg = false) :
    ibigNumOrdFloatPre t x d = XVal.cmp (.fin x 1) (decodedValue d) := by
  cases d with
  | nan => rfl
  | inf neg =>
    have hF' := hF neg rfl
    unfold ibigNumOrdFloatPre
    by_cases hx : x < 0
    · have hn : neg = false := by simpa [defectF, hx] using hF'
      subst hn
      rw [Sign.ofInt_neg.2 hx]; rfl
    · have hn : neg = true := by simpa [defectF, hx] using hF'
      subst hn
      rw [Sign.ofInt_pos.2 (by omega)]; rfl
  | fin man exp =>
    unfold ibigNumOrdFloatPre
    exact numOrd_steps01 (x := x) Nat.one_pos rfl man exp Iff.rfl fun h0 sg hm hzero =>
      ibig_steps35 t x h0 exp hr hm fun hx => defectA_zero (hA man exp rfl) (by simp [Kind.isZero, hx]) (hzero hx)

/-- `NumOrd<f32/f64> for UBig` returns the order of the exact values outside defect class A: against a finite float the
    pre-fix code is the pre-fix `IBig` code at a non-negative operand (against `+∞` it is not: defect F is the `IBig` impl's alone) -/
theorem ubigNumOrdFloatPre_partial (t : FloatTy) (x : Nat) (d : Decoded) (hr : d.InRange t)
    (hA : ∀ man exp, d = .fin man exp → defectA (.nat x) man exp = false) :
    ubigNumOrdFloatPre t x d = XVal.cmp (.fin (x : Int) 1) (decodedValue d) := by
  cases d with
  | nan => rfl
  | inf neg => cases neg <;> rfl
  | fin man exp =>
    rw [← ibigNumOrdFloatPre_partial t x _ hr (fun _ _ he => by cases he; simpa [defectA, Kind.isZero] using hA _ _ rfl)
      (fun _ he => by cases he)]
    unfold ubigNumOrdFloatPre ibigNumOrdFloatPre
    rw [Sign.ofInt_pos.2 (Int.natCast_nonneg x)]
    dsimp only
    simp only [Int.natAbs_natCast, Int.natCast_eq_zero]
    by_cases h0 : man = 0
    · rw [if_pos h0, if_pos h0]; rfl
    · rw [if_neg h0, if_neg h0]
      rcases lt_or_ge man 0 with h | h
      · rw [if_pos h, Sign.ofInt_neg.2 h]; rfl
      · rw [if_neg (not_lt.2 h), Sign.ofInt_pos.2 h, Int.natAbs_of_nonneg h]; rfl

-- ------------------------------------------------------------------ rational/src/cmp.rs `repr_cmp`

/-- `repr_cmp::<false>` (Ord for RBig/Relaxed, NumOrd RBig × Relaxed) is the order of the exact values -/
theorem ratReprCmp_spec (n1 : Int) {d1 : Nat} (h1 : 0 < d1) (n2 : Int) {d2 : Nat} (h2 : 0 < d2) :
    some (ratReprCmp false n1 d1 n2 d2) = XVal.cmp (.fin n1 d1) (.fin n2 d2) :=
  congrArg some ((ratReprCmp_eq_reprCmp n1 d1 n2 d2).trans (Model.reprCmp_spec ⟨n1, d1⟩ ⟨n2, d2⟩ h1 h2))

/-- `repr_cmp::<true>` is `repr_cmp::<false>` on the magnitudes of the numerators -/
theorem ratReprCmp_abs_eq (n1 : Int) (d1 : Nat) (n2 : Int) (d2 : Nat) :
    ratReprCmp true n1 d1 n2 d2 = ratReprCmp false |n1| d1 |n2| d2 := by
  unfold ratReprCmp
  simp only [if_true, Bool.false_eq_true, if_false, signMatch_nonneg (abs_nonneg n1) (abs_nonneg n2),
    absCmpInt_eq, abs_eq_zero, Int.natAbs_abs, abs_mul, Nat.abs_cast]

/-- `repr_cmp::<true>` (AbsOrd between RBig/Relaxed) is the order of the exact magnitudes -/
theorem ratReprCmp_abs_spec (n1 : Int) {d1 : Nat} (h1 : 0 < d1) (n2 : Int) {d2 : Nat} (h2 : 0 < d2) :
    some (ratReprCmp true n1 d1 n2 d2) = XVal.absCmp (.fin n1 d1) (.fin n2 d2) := by
  rw [ratReprCmp_abs_eq, ratReprCmp_spec |n1| h1 |n2| h2, abs_value_cmp]
  rfl

-- ------------------------------------------------------------------ rational × float

theorem rat_exact_eq (n : Int) (dn : Nat) (man exp : Int) :
    compare (if exp < 0 then n * 2 ^ (-exp).toNat else n)
        (if exp < 0 then man * (dn : Int) else man * (dn : Int) * 2 ^ exp.toNat)
      = compare (n * ((floatFrac 2 man exp).2 : Int)) ((floatFrac 2 man exp).1 * (dn : Int)) := by
  unfold floatFrac
  by_cases h : exp < 0
  · simp [h]
  · simp [h]; congr 1; ring

/-- what steps 3–4 of the rational `impl_num_ord_with_float` rest on, before and after the fix alike; a zero numerator must
    not meet the `lb > other_log2` exit (`hz`): the code before the fix needs the input outside defect class A for that, the
    code after it tests `n = 0` first -/
theorem rat_vs_dec_sep {n : Int} {dn : Nat} (hd : 0 < dn) {man : Int} (h0 : man ≠ 0) (exp : Int)
    (hz : n = 0 → -2 ≤ (bitLen man.natAbs : Int) + exp - 1) :
    ((bitLen n.natAbs : Int) - bitLen dn - 1 > (bitLen man.natAbs : Int) + exp - 1 →
      |(((floatFrac 2 man exp).1 : Int) : ℝ)| / (((floatFrac 2 man exp).2 : Nat) : ℝ) < |(n : ℝ)| / (dn : ℝ)) ∧
    ((bitLen n.natAbs : Int) - bitLen dn + 1 < (bitLen man.natAbs : Int) + exp - 1 →
      |(n : ℝ)| / (dn : ℝ) < |(((floatFrac 2 man exp).1 : Int) : ℝ)| / (((floatFrac 2 man exp).2 : Nat) : ℝ)) := by
  have hdec := decMag_encl h0 exp
  rw [← decFrac_mag] at hdec
  constructor
  · intro h
    have hn : n ≠ 0 := by
      intro hx
      have h1 := hz hx
      have h2 : 0 < bitLen dn := bitLen_pos (by omega)
      have h00 : bitLen (0 : Int).natAbs = 0 := rfl
      rw [hx, h00] at h
      omega
    exact hdec.sep (IEncl.rat hn hd) (by omega)
  · intro h
    by_cases hn : n = 0
    · rw [hn]; simpa using hdec.pos
    · exact (IEncl.rat hn hd).sep hdec (by omega)

/-- `NumOrd<f32/f64> for RBig/Relaxed` returns the order of the exact values outside defect class A -/
theorem ratNumOrdFloatPre_partial (t : FloatTy) (n : Int) {dn : Nat} (hd : 0 < dn) (d : Decoded)
    (hr : d.InRange t)
    (hA : ∀ man exp, d = .fin man exp → defectA (.rat true n dn) man exp = false) :
    ratNumOrdFloatPre t n dn d = XVal.cmp (.fin n dn) (decodedValue d) := by
  cases d with
  | nan => rfl
  | inf neg => cases neg <;> rfl
  | fin man exp =>
    have hr' : (bitLen man.natAbs : Int) + exp ≤ t.maxExp := hr
    unfold ratNumOrdFloatPre
    refine numOrd_steps01 (x := n) hd rfl man exp Iff.rfl fun h0 sg hm hzero => ?_
    obtain ⟨sgt, slt⟩ := rat_vs_dec_sep hd h0 exp fun hx => defectA_zero (hA man exp rfl) (by simp [Kind.isZero, hx]) (hzero hx)
    exact lu_skeleton hd (floatFrac_den_pos (le_refl 2) man exp) hm (by have := maxExp_le t; omega) sgt slt
      (rat_exact_eq n dn man exp)

-- ------------------------------------------------------------------ float (any base) × f32/f64

theorem base_pow_bounds {B : Nat} (hB : 2 ≤ B) (k : Nat) :
    (2 : ℝ) ^ (((bitLen B : Int) - 1) * k) ≤ (B : ℝ) ^ k ∧ (B : ℝ) ^ k ≤ (2 : ℝ) ^ ((bitLen B : Int) * k) := by
  obtain ⟨h1, h2⟩ := IEncl.nat (n := B) (by omega)
  have h2 := h2.le
  constructor
  · rw [zpow_mul, zpow_natCast]; exact pow_le_pow_left₀ (two_zpow_pos _).le h1 k
  · rw [zpow_mul, zpow_natCast]; exact pow_le_pow_left₀ (Nat.cast_nonneg B) h2 k

/-- `B^e` between powers of two given by the bit length of `B` (roles swap for `e < 0`) -/
theorem base_zpow_bounds {B : Nat} (hB : 2 ≤ B) (e : Int) :
    (2 : ℝ) ^ (if e ≥ 0 then ((bitLen B : Int) - 1) * e else (bitLen B : Int) * e) ≤ (B : ℝ) ^ e ∧
    (B : ℝ) ^ e ≤ (2 : ℝ) ^ (if e ≥ 0 then (bitLen B : Int) * e else ((bitLen B : Int) - 1) * e) := by
  by_cases he : e ≥ 0
  · rw [if_pos he, if_pos he]
    obtain ⟨k, rfl⟩ := Int.eq_ofNat_of_zero_le he
    rw [zpow_natCast]; exact base_pow_bounds hB k
  · rw [if_neg he, if_neg he]
    obtain ⟨k, hk⟩ : ∃ k : Nat, e = -(k : Int) := ⟨(-e).toNat, by omega⟩
    subst hk
    obtain ⟨h1, h2⟩ := base_pow_bounds hB k
    have hBk : (0 : ℝ) < (B : ℝ) ^ k := pow_pos (by exact_mod_cast (by omega : 0 < B)) k
    rw [zpow_neg, zpow_natCast, mul_neg, mul_neg, zpow_neg, zpow_neg]
    constructor
    · exact inv_anti₀ hBk h2
    · exact inv_anti₀ (two_zpow_pos _) h1

/-- the `lb`/`ub` of `impl_num_ord_with_float` (float crate) enclose `log₂ |s·B^e|` -/
theorem fltMag_encl {B : Nat} (hB : 2 ≤ B) {s : Int} (hs : s ≠ 0) (e : Int) :
    IEncl (fltMag B s e)
      ((if e ≥ 0 then (bitLen s.natAbs : Int) + (bitLen B : Int) * e - e
        else (bitLen s.natAbs : Int) + (bitLen B : Int) * e) - 1)
      (if e ≥ 0 then (bitLen s.natAbs : Int) + (bitLen B : Int) * e
        else (bitLen s.natAbs : Int) + (bitLen B : Int) * e - e) := by
  have h := (IEncl.int hs).mul (base_zpow_bounds hB e).1 (base_zpow_bounds hB e).2
  unfold fltMag
  by_cases he : e ≥ 0
  · simp only [if_pos he] at h ⊢
    rwa [show (bitLen s.natAbs : Int) + (bitLen B : Int) * e - e - 1
      = (bitLen s.natAbs : Int) - 1 + ((bitLen B : Int) - 1) * e by ring]
  · simp only [if_neg he] at h ⊢
    rwa [show (bitLen s.natAbs : Int) + (bitLen B : Int) * e - 1 = (bitLen s.natAbs : Int) - 1 + (bitLen B : Int) * e by ring,
      show (bitLen s.natAbs : Int) + (bitLen B : Int) * e - e = (bitLen s.natAbs : Int) + ((bitLen B : Int) - 1) * e by ring]

theorem fSign_fin {s e : Int} (h : fIsInf s e = false) : fSign s e = Sign.ofInt s := by
  unfold fSign
  by_cases hs : s = 0
  · subst hs
    have he : e = 0 := by simpa [fIsInf] using h
    subst he
    rfl
  · rw [if_neg hs]

theorem repr_exact_eq (B : Nat) (s e man exp : Int) :
    compare
      (if exp < 0 then (if e < 0 then s else shlDigits B s e.toNat) * 2 ^ (-exp).toNat
        else (if e < 0 then s else shlDigits B s e.toNat))
      (if exp < 0 then (if e < 0 then shlDigits B man (-e).toNat else man)
        else (if e < 0 then shlDigits B man (-e).toNat else man) * 2 ^ exp.toNat)
      = compare ((floatFrac B s e).1 * ((floatFrac 2 man exp).2 : Int))
                ((floatFrac 2 man exp).1 * ((floatFrac B s e).2 : Int)) := by
  unfold floatFrac shlDigits
  by_cases h1 : e < 0 <;> by_cases h2 : exp < 0 <;> (simp [h1, h2]; try (congr 1; ring))

/-- `impl_num_ord_with_float` (float crate) against a finite float, with the early return for a zero left operand as a
    variable (`fix`): `fix = false` is the text before the fix, correct outside defect class A, `fix = true` the text after it -/
theorem reprNumOrdFloat_fin (fix : Bool) (t : FloatTy) {B : Nat} (hB : 2 ≤ B) (s e : Int) (p : Nat) (man exp : Int)
    (hr : (bitLen man.natAbs : Int) + exp ≤ t.maxExp)
    (hA : fix = false → defectA (.flt B s e p) man exp = false) :
    (if man = 0 then
      (if fIsZero s e then some .eq else some ((fSign s e).app .gt))
    else
      match signMatch (fSign s e) (Sign.ofInt man) with
      | .inr ord => some ord
      | .inl sign =>
        if fIsInf s e then some (sign.app .gt)
        else if fix && fIsZero s e then some .lt
        else
          let selfSignifLog2 : Int := bitLen s.natAbs
          let selfLog2 : Int := selfSignifLog2 + (bitLen B : Int) * e
          let lb : Int := if e ≥ 0 then selfLog2 - e else selfLog2
          let ub : Int := if e ≥ 0 then selfLog2 else selfLog2 - e
          if lb > (t.mantDigits + t.maxExp : Nat) then some (sign.app .gt)
          else
            let otherLog2 : Int := (bitLen man.natAbs : Int) + exp
            if lb > otherLog2 then some (sign.app .gt)
            else if ub < otherLog2 then some (sign.app .lt)
            else
              let lhs1 := if e < 0 then s else shlDigits B s e.toNat
              let rhs1 := if e < 0 then shlDigits B man (-e).toNat else man
              let lhs2 := if exp < 0 then lhs1 * 2 ^ (-exp).toNat else lhs1
              let rhs2 := if exp < 0 then rhs1 else rhs1 * 2 ^ exp.toNat
              some (compare lhs2 rhs2))
      = XVal.cmp (Num.fbig B s e p).value (decodedValue (.fin man exp)) := by
  cases hinf : fIsInf s e
  · rw [fbig_value_fin p hinf]
    show _ = some (compare ((floatFrac B s e).1 * ((floatFrac 2 man exp).2 : Int))
      ((floatFrac 2 man exp).1 * ((floatFrac B s e).2 : Int)))
    have hd1 := floatFrac_den_pos hB s e
    have hd2 := floatFrac_den_pos (le_refl 2) man exp
    have hse : s = 0 → e = 0 := by
      intro hs; subst hs; simpa [fIsInf] using hinf
    dsimp only
    rw [fSign_fin hinf]
    have hz : fIsZero s e = true ↔ (floatFrac B s e).1 = 0 := by
      constructor
      · intro h
        have hs : s = 0 := by simp [fIsZero] at h; exact h.1
        subst hs; exact floatFrac_zero_num B e
      · intro h
        by_contra hc
        exact floatFrac_num_ne hB (fun hs => hc (by simp [fIsZero, hs, hse hs])) e h
    refine numOrd_steps01 (x := s) hd1 (floatFrac_sign hB s e) man exp hz fun h0 sg hm hzero => ?_
    simp only [Bool.false_eq_true, if_false]
    by_cases hfz : (fix && fIsZero s e) = true
    · have hs : s = 0 := by simp [fIsZero] at hfz; exact hfz.2.1
      rw [if_pos hfz, hz.1 (Bool.and_eq_true_iff.1 hfz).2, zero_mul]
      exact congrArg some
        (Int.compare_eq_lt.2 (mul_pos (floatFrac_num_pos le_rfl exp (hzero hs)) (Int.natCast_pos.2 hd1))).symm
    rw [if_neg hfz]
    have hdec := decMag_encl h0 exp
    refine lu_skeleton (n1 := (floatFrac B s e).1) (n2 := (floatFrac 2 man exp).1) hd1 hd2 hm
      (le_trans hr (maxExp_le t)) ?_ ?_ (repr_exact_eq B s e man exp)
    · intro h
      rw [decFrac_mag, ← fltMag_eq_frac hB]
      have hs : s ≠ 0 := by
        intro hx
        have he := hse hx
        subst hx; subst he
        have hfix : fix = false := by simpa [fIsZero] using hfz
        have h1 : 0 ≤ (bitLen man.natAbs : Int) + exp := defectA_zero (hA hfix) rfl (hzero rfl)
        have h00 : bitLen (0 : Int).natAbs = 0 := rfl
        rw [h00] at h
        simp at h
        omega
      exact hdec.sep (fltMag_encl hB hs e) (by omega)
    · intro h
      rw [decFrac_mag, ← fltMag_eq_frac hB]
      by_cases hs : s = 0
      · subst hs
        have : fltMag B 0 e = 0 := by simp [fltMag]
        rw [this]
        exact hdec.pos
      · exact (fltMag_encl hB hs e).sep hdec (by omega)
  · -- an infinite left operand is placed by its sign alone
    rw [fbig_value_inf p hinf]
    obtain ⟨rfl, he⟩ : s = 0 ∧ e ≠ 0 := by simpa [fIsInf] using hinf
    have hz : fIsZero 0 e = false := by simp [fIsZero, he]
    rw [hz]
    unfold fSign
    rw [if_pos rfl]
    by_cases h : e > 0
    · rw [if_pos h, if_pos (show e ≥ 0 by omega)]
      by_cases h0 : man = 0
      · rw [if_pos h0]; rfl
      · rw [if_neg h0]
        by_cases hm : man < 0
        · rw [Sign.ofInt_neg.2 hm]; rfl
        · rw [Sign.ofInt_pos.2 (by omega)]; rfl
    · rw [if_neg h, if_neg (show ¬ e ≥ 0 by omega)]
      by_cases h0 : man = 0
      · rw [if_pos h0]; rfl
      · rw [if_neg h0]
        by_cases hm : man < 0
        · rw [Sign.ofInt_neg.2 hm]; rfl
        · rw [Sign.ofInt_pos.2 (by omega)]; rfl

/-- `NumOrd<f32/f64> for FBig/Repr<B>` returns the order of the exact values outside defect class A -/
theorem reprNumOrdFloatPre_partial (t : FloatTy) {B : Nat} (hB : 2 ≤ B) (s e : Int) (p : Nat) (d : Decoded)
    (hr : d.InRange t)
    (hA : ∀ man exp, d = .fin man exp → defectA (.flt B s e p) man exp = false) :
    reprNumOrdFloatPre t B s e d = XVal.cmp (Num.fbig B s e p).value (decodedValue d) := by
  cases d with
  | nan => show none = XVal.cmp _ XVal.nan; cases (Num.fbig B s e p).value <;> rfl
  | fin man exp => exact reprNumOrdFloat_fin false t hB s e p man exp hr fun _ => hA man exp rfl
  | inf neg =>
    unfold reprNumOrdFloatPre
    dsimp only
    cases hinf : fIsInf s e
    · rw [fbig_value_fin p hinf, fSign_fin hinf]
      by_cases hs : s < 0
      · rw [Sign.ofInt_neg.2 hs]; cases neg <;> rfl
      · rw [Sign.ofInt_pos.2 (by omega)]; cases neg <;> rfl
    · rw [fbig_value_inf p hinf]
      obtain ⟨rfl, he⟩ : s = 0 ∧ e ≠ 0 := by simpa [fIsInf] using hinf
      unfold fSign
      rw [if_pos rfl]
      by_cases h : e > 0
      · rw [if_pos h, if_pos (show e ≥ 0 by omega)]; cases neg <;> rfl
      · rw [if_neg h, if_neg (show ¬ e ≥ 0 by omega)]; cases neg <;> rfl

-- ------------------------------------------------------------------ rational/src/cmp.rs `repr_eq`

/-- `repr_eq::<true>` is `repr_eq::<false>` on the magnitudes of the numerators -/
theorem ratReprEq_abs_eq (n1 : Int) (d1 : Nat) (n2 : Int) (d2 : Nat) :
    ratReprEq true n1 d1 n2 d2 = ratReprEq false |n1| d1 |n2| d2 := by
  unfold ratReprEq
  have hs : Sign.ofInt |n1| = Sign.ofInt |n2| := by
    rw [Sign.ofInt_pos.2 (abs_nonneg n1), Sign.ofInt_pos.2 (abs_nonneg n2)]
  have hz : (|n2| == 0) = (n2 == 0) := by rw [Bool.eq_iff_iff, beq_iff_eq, beq_iff_eq, abs_eq_zero]
  simp only [Bool.not_true, Bool.false_and, Bool.false_eq_true, if_false, hs, bne_self_eq_false, Bool.and_false,
    abs_eq_zero, Int.natAbs_abs, Int.natAbs_mul, Int.natAbs_natCast, hz]

/-- `repr_eq::<ABS>` (PartialEq / NumEq / AbsEq for RBig, Relaxed) holds exactly when the exact
    values (`ABS`: magnitudes) compare equal — Bool-equation form -/
theorem ratReprEq_spec (abs : Bool) (n1 : Int) {d1 : Nat} (h1 : 0 < d1) (n2 : Int) {d2 : Nat} (h2 : 0 < d2) :
    ratReprEq abs n1 d1 n2 d2 =
      ((if abs then XVal.absCmp (.fin n1 d1) (.fin n2 d2) else XVal.cmp (.fin n1 d1) (.fin n2 d2))
        == some .eq) := by
  have key : ∀ m1 m2 : Int, ratReprEq false m1 d1 m2 d2 = (XVal.cmp (.fin m1 d1) (.fin m2 d2) == some .eq) := by
    intro m1 m2
    rw [ratReprEq_eq_reprEq, Model.reprEq_spec ⟨m1, d1⟩ ⟨m2, d2⟩ h1 h2, Bool.eq_iff_iff]
    simp only [Model.specQEq, XVal.cmp, beq_iff_eq, Option.some.injEq, Int.compare_eq_eq]
  cases abs
  · exact key n1 n2
  · rw [ratReprEq_abs_eq, key, if_pos rfl, abs_value_cmp]; rfl

-- ------------------------------------------------------------------ the defect hypotheses are needed

/-- defect A (IBig): `0` against `2^-5` answers `Greater`; the exact order is `Less` -/
theorem ibigNumOrdFloatPre_counterexample :
    ibigNumOrdFloatPre .f64 0 (.fin (2 ^ 52) (-57)) = some .gt ∧
      XVal.cmp (.fin 0 1) (decodedValue (.fin (2 ^ 52) (-57))) = some .lt ∧
      defectA (.int 0) (2 ^ 52) (-57) = true ∧ (Decoded.fin (2 ^ 52) (-57)).InRange .f64 := by
  refine ⟨by decide, by decide, by decide, ?_⟩
  show ((bitLen ((2 : Int) ^ 52).natAbs : Nat) : Int) + (-57) ≤ ((FloatTy.f64.maxExp : Nat) : Int)
  decide

/-- defect F (IBig), negative side: `-5` against `-∞` answers `Less`; the exact order is `Greater` -/
theorem ibigNumOrdFloatPre_ninf_counterexample :
    ibigNumOrdFloatPre .f64 (-5) (.inf true) = some .lt ∧
      XVal.cmp (.fin (-5) 1) (decodedValue (.inf true)) = some .gt ∧
      defectF (.int (-5)) true = true := by
  decide

/-- defect A (FBig): the zero float against `2^-5` answers `Greater`; the exact order is `Less` -/
theorem reprNumOrdFloatPre_counterexample :
    reprNumOrdFloatPre .f64 2 0 0 (.fin (2 ^ 52) (-57)) = some .gt ∧
      XVal.cmp (Num.fbig 2 0 0 53).value (decodedValue (.fin (2 ^ 52) (-57))) = some .lt ∧
      defectA (.flt 2 0 0 53) (2 ^ 52) (-57) = true := by
  decide

/-- defect A (RBig/Relaxed): `0/1` against `2^-5` answers `Greater`; the exact order is `Less` -/
theorem ratNumOrdFloatPre_counterexample :
    ratNumOrdFloatPre .f64 0 1 (.fin (2 ^ 52) (-57)) = some .gt ∧
      XVal.cmp (.fin 0 1) (decodedValue (.fin (2 ^ 52) (-57))) = some .lt ∧
      defectA (.rat true 0 1) (2 ^ 52) (-57) = true := by
  decide

/-- `defectA` does not look at the `reduced` flag of a rational operand -/
theorem defectA_rat_flag (b : Bool) (n : Int) (dn : Nat) (man exp : Int) :
    defectA (.rat b n dn) man exp = defectA (.rat true n dn) man exp := rfl

/-- the range hypothesis is needed as well: against an (undecodable) `1·2^200` step 3 answers
    `Greater` for `2^160`; it is only sound because every decoded f32/f64 is below `2^MAX_EXP` -/
theorem ubigNumOrdFloatPre_range_counterexample :
    ubigNumOrdFloatPre .f32 (2 ^ 160) (.fin 1 200) = some .gt ∧
      XVal.cmp (.fin ((2 ^ 160 : Nat) : Int) 1) (decodedValue (.fin 1 200)) = some .lt ∧
      defectA (.nat (2 ^ 160)) 1 200 = false := by
  decide

end Dashu.Model.Cross
