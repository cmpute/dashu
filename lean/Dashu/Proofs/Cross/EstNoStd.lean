import Dashu.Model.Cross.EstNoStd
import Dashu.Proofs.Cross.Encl
import Dashu.Proofs.Cross.Basic
import Dashu.Proofs.Cross.OracleSound
import Dashu.Proofs.Cross.BitLen
import Dashu.Proofs.NT.Log2Lift
import Mathlib.Analysis.Complex.ExponentialBounds
/-
  C14 — the no_std (table-driven) `log2_bounds` estimators of the big integers and of the rational `Repr`
  (`Model/Cross/EstNoStd.lean`: mirrored over ℚ with the three binary32 operations they use as parameters,
  `fl` = round-to-nearest of a real result, `nd` = `next_down`, `nu` = `next_up`) satisfy the enclosure hypothesis `Encl`
  (`Proofs/Cross/Encl.lean`) under the IEEE-754 facts `F32.Ax`.  No assumption about libm: the table part is
  `log2_fp8_sound` (`Proofs/NT/Log2Table.lean`), `log2_wide_sound` and `log2_u8_sound` (`Proofs/NT/Log2Lift.lean`),
  proved for all inputs.
-/
namespace Dashu.Model.Cross.EstNoStd
open Dashu.Model.Cross
open Dashu.Model (NT.log2Fp8 NT.ceilLog2Fp8)

/-- the IEEE-754 binary32 facts used (all results here are 0 or in `[2^-10, 2^71]`: normal range,
    no overflow): `next_down`/`next_up` move outward; the rounding of `x` is one of the two
    neighbours of `x` (so stepping outward passes `x`); relative error `≤ 2^-24`; values `k·2^-j` with
    `k < 2^24` are representable. -/
structure F32.Ax (F : F32) : Prop where
  nd_le : ∀ y, F.nd y ≤ y
  le_nu : ∀ y, y ≤ F.nu y
  nd_nonneg : ∀ y, 0 < y → 0 ≤ F.nd y
  nd_fl : ∀ x, F.nd (F.fl x) ≤ x
  fl_nu : ∀ x, x ≤ F.nu (F.fl x)
  fl_lo : ∀ x, 0 ≤ x → x * (1 - u) ≤ F.fl x
  fl_hi : ∀ x, 0 ≤ x → F.fl x ≤ x * (1 + u)
  fl_fix : ∀ k j : ℕ, k < 2 ^ 24 → F.fl ((k : ℚ) / 2 ^ j) = (k : ℚ) / 2 ^ j

theorem bitLen_eq_nt (n : Nat) : bitLen n = Dashu.Model.NT.bitLen n := rfl

theorem u_nonneg : (0 : ℚ) ≤ u := by norm_num [u]

theorem F32.Ax.fl_nonneg {F : F32} (hF : F.Ax) {x : ℚ} (hx : 0 ≤ x) : 0 ≤ F.fl x :=
  le_trans (mul_nonneg hx (by norm_num [u])) (hF.fl_lo x hx)

theorem F32.Ax.fl_pos {F : F32} (hF : F.Ax) {x : ℚ} (hx : 0 < x) : 0 < F.fl x :=
  lt_of_lt_of_le (mul_pos hx (by norm_num [u])) (hF.fl_lo x hx.le)

theorem ratCast_le {a b : ℚ} (h : a ≤ b) : (a : ℝ) ≤ (b : ℝ) := by exact_mod_cast h

/-- enclosure from rational bounds of the real logarithm -/
theorem encl_of_logb {x : Nat} (hx : 0 < x) {lo hi : ℚ} (h1 : (lo : ℝ) ≤ Real.logb 2 x)
    (h2 : Real.logb 2 x ≤ (hi : ℝ)) : Encl (x : ℝ) (.fin lo, .fin hi) :=
  (encl_iff_logb (by exact_mod_cast hx) lo hi).2 ⟨h1, h2⟩

theorem encl_fin_logb {x : Nat} (hx : 0 < x) {lo hi : ℚ} (h : Encl (x : ℝ) (.fin lo, .fin hi)) :
    (lo : ℝ) ≤ Real.logb 2 x ∧ Real.logb 2 x ≤ (hi : ℝ) :=
  (encl_iff_logb (by exact_mod_cast hx) lo hi).1 h

theorem logb_two_pow (n : Nat) : Real.logb 2 ((2 : ℝ) ^ n) = n := by
  rw [Real.logb_pow, Real.logb_self_eq_one (by norm_num), mul_one]

/-- the fixed-point form in which the table theorems are stated: `2^L ≤ x^(2^j) ≤ 2^U` encloses
    `log₂ x` in `[L/2^j, U/2^j]` -/
theorem encl_of_pow {x L U m j : Nat} (hx : 0 < x) (hm : m = 2 ^ j) (h1 : 2 ^ L ≤ x ^ m)
    (h2 : x ^ m ≤ 2 ^ U) : Encl (x : ℝ) (.fin ((L : ℚ) / 2 ^ j), .fin ((U : ℚ) / 2 ^ j)) := by
  subst hm
  have hx' : (0 : ℝ) < x := by exact_mod_cast hx
  have hj : (0 : ℝ) < 2 ^ j := by positivity
  have l1 := Real.logb_le_logb_of_le (b := 2) (by norm_num) (by positivity)
    (show (2 : ℝ) ^ L ≤ (x : ℝ) ^ 2 ^ j by exact_mod_cast h1)
  have l2 := Real.logb_le_logb_of_le (b := 2) (by norm_num) (by positivity)
    (show (x : ℝ) ^ 2 ^ j ≤ (2 : ℝ) ^ U by exact_mod_cast h2)
  rw [logb_two_pow, Real.logb_pow] at l1
  rw [logb_two_pow, Real.logb_pow] at l2
  push_cast at l1 l2
  refine encl_of_logb hx ?_ ?_
  · push_cast; rwa [div_le_iff₀ hj, mul_comm]
  · push_cast; rwa [le_div_iff₀ hj, mul_comm]

theorem encl_pow2 {x k : Nat} (h : x = 2 ^ k) : Encl (x : ℝ) (.fin (k : ℚ), .fin (k : ℚ)) := by
  have := encl_of_pow (x := x) (L := k) (U := k) (m := 1) (j := 0) (by rw [h]; exact Nat.two_pow_pos k) rfl
    (by rw [h, Nat.pow_one]) (by rw [h, Nat.pow_one])
  simpa using this

theorem isPow2_eq {x : Nat} (h : isPow2 x = true) : x = 2 ^ (bitLen x - 1) := by
  simpa [isPow2] using h

theorem q8_eq {F : F32} (hF : F.Ax) {n : Nat} (hn : n < 2 ^ 24) : q8 F n = (n : ℚ) / 2 ^ 8 :=
  hF.fl_fix n 8 hn

/-- `(n as f32 / 256.0) / 2^j` is exact -/
theorem fl_q8_div {F : F32} (hF : F.Ax) {n : Nat} (hn : n < 2 ^ 24) (j : Nat) {d : ℚ} (hd : d = 2 ^ j) :
    F.fl (q8 F n / d) = (n : ℚ) / 2 ^ (8 + j) := by
  rw [q8_eq hF hn, hd, div_div, ← pow_add]
  exact hF.fl_fix n (8 + j) hn

theorem three_bounds : 2 ^ 13295629 ≤ 3 ^ (2 ^ 23) ∧ 3 ^ (2 ^ 23) ≤ 2 ^ 13295630 := by decide +kernel

theorem log2Tab_lt (i : Nat) : Dashu.Model.NT.log2Tab i < 256 := by
  unfold Dashu.Model.NT.log2Tab; split
  · exact Nat.mod_lt _ (by norm_num)
  · norm_num

theorem ceil_lt (n : Nat) (hn : n < 65536) : NT.ceilLog2Fp8 n < 2 ^ 13 := by
  have hb : Dashu.Model.NT.bitLen n ≤ 16 := Dashu.Model.NT.bitLen_le_of_lt (by simpa using hn)
  unfold Dashu.Model.NT.ceilLog2Fp8
  simp only
  have t := log2Tab_lt
  split
  · have := t (n * 2 ^ (8 - Dashu.Model.NT.bitLen n) - 0x80); omega
  · split
    · have := t (n / 2 ^ (Dashu.Model.NT.bitLen n - 8) - 0x80)
      split <;> omega
    · split
      · omega
      · have := t (n / 2 ^ (Dashu.Model.NT.bitLen n - 8 - 2) / 4 + 1 - 0x80)
        split <;> omega

theorem fp8_lt (n : Nat) (h1 : 256 ≤ n) (hn : n < 65536) : NT.log2Fp8 n < 2 ^ 13 := by
  have h := (Dashu.Model.NT.log2_fp8_sound n h1 hn).1
  have h2 : n ^ 256 < (2 ^ 16) ^ 256 := Nat.pow_lt_pow_left (by simpa using hn) (by norm_num)
  rw [← Nat.pow_mul] at h2
  have := (Nat.pow_lt_pow_iff_right (a := 2) (by norm_num)).1 (Nat.lt_of_le_of_lt h h2)
  omega

theorem encl_zero : Encl ((0 : Nat) : ℝ) (.ninf, .ninf) := by
  unfold Encl EB.le2 EB.ge2; simp

/-- the two table branches of the `u8` estimator: `i^k` (`k = 2^j`) is looked up and the result divided
    by `k`, all exactly -/
theorem u8_table {F : F32} (hF : F.Ax) {i k j : Nat} (hpos : 0 < i) (hk : k = 2 ^ j) {d : ℚ} (hd : d = 2 ^ j)
    (hr1 : 256 ≤ i ^ k) (hr2 : i ^ k < 65536)
    (hs : 2 ^ NT.log2Fp8 (i ^ k) ≤ i ^ (256 * k) ∧ i ^ (256 * k) ≤ 2 ^ NT.ceilLog2Fp8 (i ^ k)) :
    Encl (i : ℝ) (.fin (F.fl (q8 F (NT.log2Fp8 (i ^ k)) / d)), .fin (F.fl (q8 F (NT.ceilLog2Fp8 (i ^ k)) / d))) := by
  have bL := fp8_lt _ hr1 hr2
  have bU := ceil_lt _ hr2
  rw [fl_q8_div hF (by omega) j hd, fl_q8_div hF (by omega) j hd]
  exact encl_of_pow hpos (by rw [hk, Nat.pow_add]) hs.1 hs.2

theorem u8NoStd_sound {F : F32} (hF : F.Ax) (i : Nat) (hi : i < 256) : Encl (i : ℝ) (u8NoStd F i) := by
  unfold u8NoStd
  split
  · rename_i h; subst h; exact encl_zero
  split
  · rename_i h; subst h; simpa using encl_pow2 (x := 1) (k := 0) rfl
  split
  · rename_i h; exact encl_pow2 (isPow2_eq h)
  rename_i h0 h1 hp
  have hp' : i ≠ 2 ^ (Dashu.Model.NT.bitLen i - 1) := by
    intro h; apply hp; simp only [isPow2, beq_iff_eq]; exact h
  split
  · rename_i h3; subst h3
    simpa using encl_of_pow (x := 3) (by norm_num) rfl three_bounds.1 three_bounds.2
  rename_i h3
  have h4 : 4 ≤ i := by
    rcases Nat.lt_or_ge i 4 with h | h
    · exfalso
      have : i = 2 := by omega
      subst this; exact hp' (by decide)
    · exact h
  have hs := Dashu.Model.NT.log2_u8_sound i h4 hi hp' h3
  split
  · rename_i h16
    simp only [h16, if_true] at hs
    exact u8_table hF (by omega) (k := 4) (j := 2) rfl (by norm_num)
      (le_trans (by norm_num) (Nat.pow_le_pow_left h4 4))
      (lt_of_lt_of_le (Nat.pow_lt_pow_left h16 (by norm_num)) (by norm_num)) hs
  · rename_i h16
    simp only [h16, if_false] at hs
    exact u8_table hF (by omega) (k := 2) (j := 1) rfl (by norm_num)
      (le_trans (by norm_num) (Nat.pow_le_pow_left (Nat.le_of_not_lt h16) 2))
      (lt_of_lt_of_le (Nat.pow_lt_pow_left hi (by norm_num)) (by norm_num)) hs

/-- the top 16 bits of a wider value: `(L + 256·shift)/256 ≤ log₂ x ≤ (U + 256·shift)/256` with the table
    values `L`, `U` of `hi = x >> shift` (before any binary32 operation) -/
theorem wide_encl (x : Nat) (hbits : 16 < bitLen x) :
    let shift := bitLen x - 16
    let hi := x / 2 ^ shift
    let U := if hi = 2 ^ 15 then 15 * 256 + 1 else NT.ceilLog2Fp8 hi
    Encl (x : ℝ) (.fin ((NT.log2Fp8 hi : ℚ) / 2 ^ 8 + shift), .fin ((U : ℚ) / 2 ^ 8 + shift)) ∧
      256 ≤ hi ∧ hi < 65536 := by
  dsimp only
  have hx0 : x ≠ 0 := by intro h; subst h; simp [bitLen] at hbits
  have hs := Dashu.Model.NT.log2_wide_sound x hbits
  have e : ∀ a s : ℕ, ((a + 256 * s : ℕ) : ℚ) / 2 ^ 8 = (a : ℚ) / 2 ^ 8 + s := by
    intro a s; push_cast; ring
  have := encl_of_pow (j := 8) (Nat.pos_of_ne_zero hx0) rfl hs.1 hs.2
  rw [e, e] at this
  refine ⟨this, ?_, ?_⟩
  · refine (Nat.le_div_iff_mul_le (Nat.two_pow_pos _)).2 (le_trans ?_ (two_pow_bitLen_le hx0))
    rw [show 256 = 2 ^ 8 from rfl, ← Nat.pow_add]
    exact Nat.pow_le_pow_right (by norm_num) (by omega)
  · refine Nat.div_lt_of_lt_mul (lt_of_lt_of_eq (lt_two_pow_bitLen x) ?_)
    rw [show 65536 = 2 ^ 16 from rfl, ← Nat.pow_add]; congr 1; omega

/-- on values of more than 16 bits the estimator returns finite bounds that are not negative -/
theorem primNoStd_wide {F : F32} (hF : F.Ax) {x : Nat} (hb : 16 < bitLen x) :
    ∃ hl hu : ℚ, primNoStd F x = (.fin hl, .fin hu) ∧ 0 ≤ hl ∧ 0 ≤ hu := by
  have h255 : ¬ x ≤ 0xff := fun h => by
    have := bitLen_le_of_lt_two_pow (show x < 2 ^ 8 by omega); omega
  unfold primNoStd
  rw [if_neg h255]
  split
  · exact ⟨_, _, rfl, Nat.cast_nonneg _, Nat.cast_nonneg _⟩
  · rw [if_neg (by omega)]
    have q0 : ∀ n, 0 ≤ q8 F n := fun n => hF.fl_nonneg (by positivity)
    refine ⟨_, _, rfl, hF.nd_nonneg _ (hF.fl_pos (add_pos_of_nonneg_of_pos (q0 _) ?_)),
      le_trans (hF.fl_nonneg (add_nonneg (q0 _) (Nat.cast_nonneg _))) (hF.le_nu _)⟩
    exact_mod_cast (show 0 < bitLen x - 16 by omega)

/-- `u16 … u128 / usize` (no_std): the estimator encloses `log₂ x` — for EVERY `x` (the top-16-bit
    reduction does not depend on the width of the type) -/
theorem primNoStd_sound {F : F32} (hF : F.Ax) (x : Nat) : Encl (x : ℝ) (primNoStd F x) := by
  unfold primNoStd
  split
  · rename_i h; exact u8NoStd_sound hF x (by omega)
  rename_i h255
  split
  · rename_i h; exact encl_pow2 (isPow2_eq h)
  rename_i hp
  have hp' : x ≠ 2 ^ (Dashu.Model.NT.bitLen x - 1) := by
    intro h; apply hp; simp only [isPow2, beq_iff_eq]; exact h
  split
  · rename_i hb
    have hx2 : x < 65536 := lt_of_lt_of_le (lt_two_pow_bitLen x) (Nat.pow_le_pow_right (by norm_num) hb)
    have hs := Dashu.Model.NT.log2_fp8_sound x (by omega) hx2
    have bL := fp8_lt x (by omega) hx2
    have bU := ceil_lt x hx2
    rw [q8_eq hF (by omega), q8_eq hF (by omega)]
    exact encl_of_pow (by omega) rfl hs.1 (hs.2 hp')
  · rename_i hb
    obtain ⟨w, w3, w4⟩ := wide_encl x (by omega)
    have bL := fp8_lt _ w3 w4
    have bU : (if x / 2 ^ (bitLen x - 16) = 2 ^ 15 then 15 * 256 + 1 else NT.ceilLog2Fp8 (x / 2 ^ (bitLen x - 16))) < 2 ^ 13 := by
      split
      · norm_num
      · exact ceil_lt _ w4
    simp only
    rw [q8_eq hF (by omega), q8_eq hF (by omega)]
    exact w.mono_fin (hF.nd_fl _) (hF.fl_nu _)

-- ------------------------------------------------------------------ heap integers: `log2_bounds_large`

/-- the lower bound of `log2_bounds_large` does not exceed the exact sum: the three roundings gain at most
    `(1+u)³`, which the factor `1 − 4u` undoes -/
theorem lb_relax {F : F32} (hF : F.Ax) {h r : ℚ} (h0 : 0 ≤ h) (hr : 0 ≤ r) :
    F.fl (F.fl (h + F.fl r) * (1 - 4 * u)) ≤ h + r := by
  have k1 : (0 : ℚ) ≤ 1 + u := by norm_num [u]
  have k4 : (0 : ℚ) ≤ 1 - 4 * u := by norm_num [u]
  have s0 : 0 ≤ h + F.fl r := add_nonneg h0 (hF.fl_nonneg hr)
  have a1 : h + F.fl r ≤ (h + r) * (1 + u) := by
    linarith [hF.fl_hi r hr, mul_nonneg h0 u_nonneg]
  have a2 : F.fl (h + F.fl r) ≤ (h + r) * (1 + u) * (1 + u) :=
    (hF.fl_hi _ s0).trans (mul_le_mul_of_nonneg_right a1 k1)
  calc F.fl (F.fl (h + F.fl r) * (1 - 4 * u))
      ≤ F.fl (h + F.fl r) * (1 - 4 * u) * (1 + u) := hF.fl_hi _ (mul_nonneg (hF.fl_nonneg s0) k4)
    _ ≤ (h + r) * (1 + u) * (1 + u) * (1 - 4 * u) * (1 + u) :=
      mul_le_mul_of_nonneg_right (mul_le_mul_of_nonneg_right a2 k4) k1
    _ = (h + r) * ((1 + u) * (1 + u) * (1 - 4 * u) * (1 + u)) := by ring
    _ ≤ (h + r) * 1 := mul_le_mul_of_nonneg_left (by norm_num [u]) (add_nonneg h0 hr)
    _ = h + r := mul_one _

/-- the upper bound keeps a margin `u/2`: the three roundings lose at most `(1−u)³` against `1 + 4u` -/
theorem ub_relax {F : F32} (hF : F.Ax) {h r : ℚ} (h0 : 0 ≤ h) (hr : 0 ≤ r) :
    (h + r) * (1 + u / 2) ≤ F.fl (F.fl (h + F.fl r) * (1 + 4 * u)) := by
  have k4 : (0 : ℚ) ≤ 1 + 4 * u := by norm_num [u]
  have km : (0 : ℚ) ≤ 1 - u := by norm_num [u]
  have s0 : 0 ≤ h + F.fl r := add_nonneg h0 (hF.fl_nonneg hr)
  have a1 : (h + r) * (1 - u) ≤ h + F.fl r := by
    linarith [hF.fl_lo r hr, mul_nonneg h0 u_nonneg]
  have a2 : (h + r) * (1 - u) * (1 - u) ≤ F.fl (h + F.fl r) :=
    (mul_le_mul_of_nonneg_right a1 km).trans (hF.fl_lo _ s0)
  calc (h + r) * (1 + u / 2)
      ≤ (h + r) * ((1 - u) * (1 - u) * (1 + 4 * u) * (1 - u)) :=
        mul_le_mul_of_nonneg_left (by norm_num [u]) (add_nonneg h0 hr)
    _ = (h + r) * (1 - u) * (1 - u) * (1 + 4 * u) * (1 - u) := by ring
    _ ≤ F.fl (h + F.fl r) * (1 + 4 * u) * (1 - u) :=
      mul_le_mul_of_nonneg_right (mul_le_mul_of_nonneg_right a2 k4) km
    _ ≤ F.fl (F.fl (h + F.fl r) * (1 + 4 * u)) := hF.fl_lo _ (mul_nonneg (hF.fl_nonneg s0) k4)

theorem logb_succ_le (a : ℝ) (ha : 0 < a) : Real.logb 2 (a + 1) ≤ Real.logb 2 a + 2 / a := by
  have hl2 : (1 : ℝ) / 2 < Real.log 2 := by have := Real.log_two_gt_d9; linarith
  have hl2p : (0 : ℝ) < Real.log 2 := by linarith
  have h1 : Real.log (a + 1) ≤ Real.log a + 1 / a := by
    have e : a + 1 = a * (1 + 1 / a) := by field_simp
    have hp : (0 : ℝ) < 1 + 1 / a := by positivity
    rw [e, Real.log_mul (ne_of_gt ha) (ne_of_gt hp)]
    have := Real.log_le_sub_one_of_pos hp
    linarith
  unfold Real.logb
  rw [div_add' _ _ _ (ne_of_gt hl2p), div_le_div_iff_of_pos_right hl2p]
  have : 1 / a ≤ 2 / a * Real.log 2 := by
    rw [div_mul_eq_mul_div, div_le_div_iff_of_pos_right ha]; linarith
  linarith

/-- a value and its top part `hi = x >> rem`: `log₂ hi + rem ≤ log₂ x ≤ log₂ hi + 2/hi + rem` -/
theorem logb_top {x hi rem : Nat} (hhi : 0 < hi) (h1 : hi * 2 ^ rem ≤ x) (h2 : x < (hi + 1) * 2 ^ rem) :
    Real.logb 2 hi + rem ≤ Real.logb 2 x ∧ Real.logb 2 x ≤ Real.logb 2 hi + 2 / hi + rem := by
  have hh : (0 : ℝ) < hi := by exact_mod_cast hhi
  have hx : (0 : ℝ) < x := by exact_mod_cast lt_of_lt_of_le (Nat.mul_pos hhi (Nat.two_pow_pos rem)) h1
  have e : ∀ a : ℝ, 0 < a → Real.logb 2 (a * 2 ^ rem) = Real.logb 2 a + rem := fun a ha => by
    rw [Real.logb_mul ha.ne' (by positivity), logb_two_pow]
  constructor
  · rw [← e _ hh]
    exact Real.logb_le_logb_of_le (by norm_num) (by positivity) (by exact_mod_cast h1)
  · have := Real.logb_le_logb_of_le (b := 2) (by norm_num) hx
      (show (x : ℝ) ≤ ((hi : ℝ) + 1) * 2 ^ rem by exact_mod_cast h2.le)
    rw [e _ (by positivity)] at this
    linarith [logb_succ_le _ hh]

/-- the top double word of a heap value (`rem = (len − 2)·W` bits lie below it) has more than `W` bits -/
theorem large_top (W x : Nat) (hW : 1 ≤ W) (hx : 2 ^ (2 * W) ≤ x) :
    2 ^ W ≤ x / 2 ^ ((wordLen W x - 2) * W) := by
  have hb : 2 * W < bitLen x := lt_bitLen_of_two_pow_le hx
  have hx0 : x ≠ 0 := by have := Nat.two_pow_pos (2 * W); omega
  have r1 : W + (wordLen W x - 2) * W < bitLen x := by
    have := Nat.div_mul_le_self (bitLen x + W - 1) W
    unfold wordLen; rw [Nat.sub_mul]; omega
  rw [Nat.le_div_iff_mul_le (Nat.two_pow_pos _), ← Nat.pow_add]
  exact le_trans (Nat.pow_le_pow_right (by norm_num) (by omega)) (two_pow_bitLen_le hx0)

/-- **`log2_bounds_large` encloses `log₂ x`** for every heap value (at least three words of `W ≥ 32`
    bits): the two `f32` additions and the multiplication are covered by the `1 ∓ 2ε` factors, and so is
    the part of `x` below the top double word (at most `2/2^32` in the logarithm, against a margin of
    `32·u/2`) -/
theorem largeNoStd_sound {F : F32} (hF : F.Ax) (W x : Nat) (hW : 32 ≤ W) (hx : 2 ^ (2 * W) ≤ x) :
    Encl (x : ℝ) (largeNoStd F W x) := by
  have hxpos : 0 < x := lt_of_lt_of_le (Nat.two_pow_pos _) hx
  have h32 : 2 ^ 32 ≤ x / 2 ^ ((wordLen W x - 2) * W) :=
    le_trans (Nat.pow_le_pow_right (by norm_num) hW) (large_top W x (by omega) hx)
  unfold largeNoStd
  simp only
  generalize (wordLen W x - 2) * W = rem at h32 ⊢
  have hhi : 0 < x / 2 ^ rem := lt_of_lt_of_le (Nat.two_pow_pos _) h32
  obtain ⟨t1, t2⟩ := logb_top hhi (Nat.div_mul_le_self x _)
    ((Nat.div_lt_iff_lt_mul (Nat.two_pow_pos rem)).1 (Nat.lt_succ_self _))
  obtain ⟨hl, hu, hp, hl0, hu0⟩ := primNoStd_wide hF (x := x / 2 ^ rem)
    (by have := lt_bitLen_of_two_pow_le h32; omega)
  obtain ⟨a1, a2⟩ := encl_fin_logb hhi (hp ▸ primNoStd_sound hF (x / 2 ^ rem))
  have h32r : (2 : ℝ) ^ 32 ≤ ((x / 2 ^ rem : ℕ) : ℝ) := by exact_mod_cast h32
  have l32 : (32 : ℝ) ≤ Real.logb 2 ((x / 2 ^ rem : ℕ) : ℝ) := by
    have := Real.logb_le_logb_of_le (b := 2) (by norm_num) (by positivity) h32r
    rwa [logb_two_pow] at this
  have hrem : (0 : ℚ) ≤ rem := Nat.cast_nonneg _
  rw [hp]
  refine encl_of_logb hxpos (le_trans (ratCast_le (lb_relax hF hl0 hrem)) ?_)
    (le_trans ?_ (ratCast_le (ub_relax hF hu0 hrem)))
  · push_cast; linarith only [a1, t1]
  · have t3 : (2 : ℝ) / ((x / 2 ^ rem : ℕ) : ℝ) ≤ 2 / 2 ^ 32 :=
      div_le_div_of_nonneg_left (by norm_num) (by positivity) h32r
    have hrem' : (0 : ℝ) ≤ rem := Nat.cast_nonneg _
    have hu : ((u : ℚ) : ℝ) = 1 / 2 ^ 24 := by simp [u]
    push_cast
    rw [hu]
    linarith only [a2, t2, t3, l32, hrem']

/-- **`UBig::log2_bounds` / `IBig::log2_bounds` (no_std) satisfy the enclosure hypothesis** for every
    value, for word sizes `W ≥ 32` -/
theorem natNoStd_sound {F : F32} (hF : F.Ax) (W : Nat) (hW : 32 ≤ W) (x : Nat) :
    Encl (x : ℝ) (natNoStd F W x) := by
  unfold natNoStd
  split
  · exact primNoStd_sound hF x
  · rename_i h; exact largeNoStd_sound hF W x hW (by omega)

-- ------------------------------------------------------------------ rational `Repr::log2_bounds`

/-- **the rational estimator (no_std) satisfies the enclosure hypothesis**: each of the two `f32`
    subtractions is rounded to a neighbour of the exact difference and then stepped outward -/
theorem ratNoStd_sound {F : F32} (hF : F.Ax) (W : Nat) (hW : 32 ≤ W) (n : Int) (d : Nat) (hd : 0 < d) :
    Encl (ratMag n d) (ratNoStd F W n d) := by
  unfold ratNoStd
  split
  · rename_i h; subst h
    unfold ratMag Encl EB.le2 EB.ge2; simp
  rename_i hn
  have hnp : 0 < n.natAbs := Int.natAbs_pos.2 hn
  have e1 := natNoStd_sound hF W hW n.natAbs
  have e2 := natNoStd_sound hF W hW d
  split
  · rename_i nl nh dl dh h1 h2
    rw [h1] at e1; rw [h2] at e2
    have hmag : ratMag n d = ((n.natAbs : ℕ) : ℝ) / (d : ℝ) := by
      unfold ratMag; rw [Nat.cast_natAbs, Int.cast_abs]
    rw [hmag]
    exact (Encl.div (by exact_mod_cast hnp) (by exact_mod_cast hd) e1 e2).mono_fin (hF.nd_fl _) (hF.fl_nu _)
  · unfold Encl EB.le2 EB.ge2; simp

/-- the enclosure hypothesis `Oracle.Sound` of every C14 theorem, for an oracle whose integer and rational
    estimators are the no_std table code: only the float estimator (`Repr<B>::log2_bounds`, computed in `f64`
    and cast) and `digits_ub` remain hypotheses -/
theorem noStd_oracle_sound {F : F32} (hF : F.Ax) (W : Nat) (hW : 32 ≤ W)
    (flt : Nat → Int → Int → EB × EB) (dub : Nat → Int → Nat)
    (hflt : ∀ (B : Nat) (s e : Int), 2 ≤ B → Encl (fltMag B s e) (flt B s e))
    (hdub : ∀ (B : Nat) (s : Int), 2 ≤ B → s.natAbs < B ^ dub B s) :
    ({ nat := natNoStd F W, flt := flt, rat := ratNoStd F W, digitsUb := dub } : Oracle).Sound :=
  ⟨natNoStd_sound hF W hW, hflt, ratNoStd_sound hF W hW, hdub⟩

/-- the IEEE facts are satisfiable: exact arithmetic meets all of them -/
theorem exact_ax : F32.exact.Ax := by
  refine ⟨fun _ => le_refl _, fun _ => le_refl _, fun _ h => le_of_lt h, fun _ => le_refl _, fun _ => le_refl _,
    fun x hx => ?_, fun x hx => ?_, fun _ _ _ => rfl⟩
  · show x * (1 - u) ≤ x
    have : (0 : ℚ) ≤ u := by norm_num [u]
    nlinarith
  · show x ≤ x * (1 + u)
    have : (0 : ℚ) ≤ u := by norm_num [u]
    nlinarith

end Dashu.Model.Cross.EstNoStd
