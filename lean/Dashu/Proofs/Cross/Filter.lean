import Dashu.Proofs.Cross.Basic
/-
  C14 proofs — the comparison functions that consult the log₂ oracle (float/src/cmp.rs,
  float/src/third_party/num_order.rs `NumOrd<Repr<B2>> for Repr<B1>`, rational/src/cmp.rs):
  for EVERY oracle satisfying the enclosure hypothesis the mirrored code returns the order of the
  exact values.
-/
namespace Dashu.Model.Cross

/-- "case 3 + case 4" of every filtered comparison: log₂-bound filter, then the exact comparison.
    Whatever the (sound) bounds are, the result is the exact comparison. -/
theorem filter_skeleton {n1 n2 : Int} {d1 d2 : Nat} (hd1 : 0 < d1) (hd2 : 0 < d2) {sg : Sign}
    (hs : signMatch (Sign.ofInt n1) (Sign.ofInt n2) = .inl sg) {b1 b2 : EB × EB}
    (h1 : Encl (|(n1 : ℝ)| / (d1 : ℝ)) b1) (h2 : Encl (|(n2 : ℝ)| / (d2 : ℝ)) b2)
    {exact : Ordering} (hex : exact = compare (n1 * (d2 : Int)) (n2 * (d1 : Int))) :
    (if EB.lt b2.2 b1.1 then sg.app .gt else if EB.lt b1.2 b2.1 then sg.app .lt else exact)
      = compare (n1 * (d2 : Int)) (n2 * (d1 : Int)) := by
  split
  · rename_i h
    have := Encl.sep h2 h1 h
    exact (cmp_cross_of_abs_gt hs (abs_cross_of_real hd2 hd1 this)).symm
  · split
    · rename_i h
      have := Encl.sep h1 h2 h
      exact (cmp_cross_of_abs_lt hs (abs_cross_of_real hd1 hd2 this)).symm
    · exact hex

theorem signMatch_nonneg {a b : Int} (ha : 0 ≤ a) (hb : 0 ≤ b) :
    signMatch (Sign.ofInt a) (Sign.ofInt b) = .inl .pos := by
  rw [Sign.ofInt_pos.2 ha, Sign.ofInt_pos.2 hb]; rfl

/-- SPEC with the `ABS` const generic of the code as a variable: the order of the values, or of their magnitudes -/
def XVal.cmpA (abs : Bool) (a b : XVal) : Option Ordering := if abs then XVal.absCmp a b else XVal.cmp a b

/-- cross-multiplied comparison of `n1/d1` and `n2/d2` (`abs`: of their magnitudes) -/
def crossCmp (abs : Bool) (n1 : Int) (d1 : Nat) (n2 : Int) (d2 : Nat) : Ordering :=
  if abs then compare (|n1| * (d2 : Int)) (|n2| * (d1 : Int)) else compare (n1 * (d2 : Int)) (n2 * (d1 : Int))

/-- cases 2–4 of every comparison that consults the oracle: sign match (skipped for `ABS`), log₂ filter, exact step -/
theorem route_skeleton (abs : Bool) {n1 n2 : Int} {d1 d2 : Nat} (hd1 : 0 < d1) (hd2 : 0 < d2) {b1 b2 : EB × EB}
    (h1 : Encl (|(n1 : ℝ)| / (d1 : ℝ)) b1) (h2 : Encl (|(n2 : ℝ)| / (d2 : ℝ)) b2) {exact : Ordering}
    (hex : exact = crossCmp abs n1 d1 n2 d2) :
    (match (if abs then Sum.inl Sign.pos else signMatch (Sign.ofInt n1) (Sign.ofInt n2)) with
     | .inr ord => ord
     | .inl sign => if EB.lt b2.2 b1.1 then sign.app .gt else if EB.lt b1.2 b2.1 then sign.app .lt else exact)
      = crossCmp abs n1 d1 n2 d2 := by
  cases abs
  · cases hm : signMatch (Sign.ofInt n1) (Sign.ofInt n2) with
    | inr ord => exact (cmp_cross_of_signs (by exact_mod_cast hd1) (by exact_mod_cast hd2) hm).symm
    | inl sg => exact filter_skeleton hd1 hd2 hm h1 h2 hex
  · -- magnitudes: the skeleton at `|n1|`, `|n2|`, whose signs agree
    have e1 : |((|n1| : Int) : ℝ)| = |(n1 : ℝ)| := by push_cast; exact abs_abs _
    have e2 : |((|n2| : Int) : ℝ)| = |(n2 : ℝ)| := by push_cast; exact abs_abs _
    exact filter_skeleton hd1 hd2 (signMatch_nonneg (abs_nonneg n1) (abs_nonneg n2))
      (by rw [e1]; exact h1) (by rw [e2]; exact h2) hex

theorem floatFrac_num_neg {B : Nat} (hB : 2 ≤ B) {s : Int} (e : Int) (hs : s < 0) :
    (floatFrac B s e).1 < 0 := by
  unfold floatFrac
  split
  · exact hs
  · exact mul_neg_of_neg_of_pos hs (pow_pos (by exact_mod_cast (by omega : 0 < B)) _)

theorem floatFrac_num_nonneg {B : Nat} {s : Int} (e : Int) (hs : 0 ≤ s) :
    0 ≤ (floatFrac B s e).1 := by
  unfold floatFrac
  split
  · exact hs
  · exact mul_nonneg hs (pow_nonneg (by exact_mod_cast Nat.zero_le B) _)

theorem floatFrac_sign {B : Nat} (hB : 2 ≤ B) (s e : Int) :
    Sign.ofInt (floatFrac B s e).1 = Sign.ofInt s := by
  rcases lt_or_ge s 0 with h | h
  · rw [Sign.ofInt_neg.2 h, Sign.ofInt_neg.2 (floatFrac_num_neg hB e h)]
  · rw [Sign.ofInt_pos.2 h, Sign.ofInt_pos.2 (floatFrac_num_nonneg e h)]

/-- well-formed `Repr<B>`: a zero significand carries exponent 0 (zero) or ±1 (±∞), as every
    public constructor guarantees (`Repr::new` normalises, `infinity()/neg_infinity()` use ±1) -/
def FWf (s e : Int) : Prop := s = 0 → (e = 0 ∨ e = 1 ∨ e = -1)

theorem fbig_value_fin {B : Nat} {s e : Int} (p : Nat) (h : fIsInf s e = false) :
    (Num.fbig B s e p).value = .fin (floatFrac B s e).1 (floatFrac B s e).2 := by
  unfold Num.value
  by_cases hs : s = 0
  · subst hs
    have he : e = 0 := by simpa [fIsInf] using h
    subst he
    simp [floatFrac]
  · simp [hs]

theorem fbig_value_inf {B : Nat} {s e : Int} (p : Nat) (h : fIsInf s e = true) :
    (Num.fbig B s e p).value = if e > 0 then .pinf else .ninf := by
  unfold Num.value
  have : s = 0 ∧ e ≠ 0 := by simpa [fIsInf] using h
  simp [this.1, this.2]

/-- case 1 of the FBig × FBig comparisons (`repr_cmp_same_base`, `NumOrd<Repr<B2>> for Repr<B1>`):
    an infinite operand is placed by the sign of its exponent -/
theorem fbig_inf_cases {B1 B2 : Nat} {s1 e1 s2 e2 : Int} (p1 p2 : Nat) (w1 : FWf s1 e1) (w2 : FWf s2 e2)
    {X : Ordering}
    (hfin : fIsInf s1 e1 = false → fIsInf s2 e2 = false →
      some X = XVal.cmp (Num.fbig B1 s1 e1 p1).value (Num.fbig B2 s2 e2 p2).value) :
    some (if fIsInf s1 e1 && fIsInf s2 e2 then compare e1 e2
          else if fIsInf s2 e2 then (if e2 ≥ 0 then .lt else .gt)
          else if fIsInf s1 e1 then (if e1 ≥ 0 then .gt else .lt)
          else X)
      = XVal.cmp (Num.fbig B1 s1 e1 p1).value (Num.fbig B2 s2 e2 p2).value := by
  cases hi1 : fIsInf s1 e1 <;> cases hi2 : fIsInf s2 e2
  · simp only [Bool.false_eq_true, Bool.and_self, if_false]
    exact hfin hi1 hi2
  · rw [fbig_value_fin p1 hi1, fbig_value_inf p2 hi2]
    have h2 : s2 = 0 ∧ e2 ≠ 0 := by simpa [fIsInf] using hi2
    simp only [Bool.false_and, Bool.false_eq_true, if_false, if_true]
    by_cases he : e2 > 0
    · have : e2 ≥ 0 := by omega
      simp [he, this, XVal.cmp]
    · have : ¬ e2 ≥ 0 := by omega
      simp [he, this, XVal.cmp]
  · rw [fbig_value_inf p1 hi1, fbig_value_fin p2 hi2]
    have h1 : s1 = 0 ∧ e1 ≠ 0 := by simpa [fIsInf] using hi1
    simp only [Bool.and_false, Bool.false_eq_true, if_false, if_true]
    by_cases he : e1 > 0
    · have : e1 ≥ 0 := by omega
      simp [he, this, XVal.cmp]
    · have : ¬ e1 ≥ 0 := by omega
      simp [he, this, XVal.cmp]
  · -- both infinite: exponents are ±1
    rw [fbig_value_inf p1 hi1, fbig_value_inf p2 hi2]
    have h1 : s1 = 0 ∧ e1 ≠ 0 := by simpa [fIsInf] using hi1
    have h2 : s2 = 0 ∧ e2 ≠ 0 := by simpa [fIsInf] using hi2
    simp only [Bool.and_self, if_true]
    rcases w1 h1.1 with h | h | h <;> rcases w2 h2.1 with h' | h' | h' <;>
      first | (exfalso; omega) | (subst h; subst h'; simp [XVal.cmp]; try decide)

theorem absCmpInt_eq (a b : Int) : absCmpInt a b = compare |a| |b| := by
  unfold absCmpInt
  rw [cmpN_cast, Int.natCast_natAbs, Int.natCast_natAbs]

theorem abs_value_cmp (n1 : Int) (d1 : Nat) (n2 : Int) (d2 : Nat) :
    XVal.absCmp (.fin n1 d1) (.fin n2 d2) = some (compare (|n1| * (d2 : Int)) (|n2| * (d1 : Int))) := by
  simp [XVal.absCmp, XVal.abs, XVal.cmp, Int.natCast_natAbs]

theorem XVal.cmpA_fin (abs : Bool) (n1 : Int) (d1 : Nat) (n2 : Int) (d2 : Nat) :
    XVal.cmpA abs (.fin n1 d1) (.fin n2 d2) = some (crossCmp abs n1 d1 n2 d2) := by
  cases abs
  · rfl
  · exact abs_value_cmp n1 d1 n2 d2

/-- an infinite float against a finite value, and a finite value against an infinite float -/
theorem cmpA_inf_fin (abs : Bool) {B : Nat} {s e : Int} (p : Nat) (hinf : fIsInf s e = true) (n : Int) (d : Nat) :
    XVal.cmpA abs (Num.fbig B s e p).value (.fin n d) = some (if e > 0 || abs then .gt else .lt) ∧
    XVal.cmpA abs (.fin n d) (Num.fbig B s e p).value = some (if abs || e > 0 then .lt else .gt) := by
  rw [fbig_value_inf p hinf]
  cases abs <;> by_cases he : e > 0 <;> simp [he, XVal.cmpA, XVal.absCmp, XVal.abs, XVal.cmp]

-- ------------------------------------------------------------------ float/src/cmp.rs

/-- the exact step of `repr_cmp_ubig/ibig::<B, ABS>` is the cross-multiplied comparison of the values (`ABS`: magnitudes) -/
theorem float_exactA (abs : Bool) (B : Nat) (s e r : Int) :
    (if e < 0 then (if abs then absCmpInt s (shlDigits B r (-e).toNat) else compare s (shlDigits B r (-e).toNat))
     else (if abs then absCmpInt (shlDigits B s e.toNat) r else compare (shlDigits B s e.toNat) r))
      = crossCmp abs (floatFrac B s e).1 (floatFrac B s e).2 r 1 := by
  have hB : (0 : Int) ≤ (B : Int) := by positivity
  unfold crossCmp floatFrac shlDigits
  cases abs
  · split <;> simp
  · split <;> simp [absCmpInt_eq, abs_mul, abs_pow, abs_of_nonneg hB]

theorem int_mag (r : Int) : |(r : ℝ)| = |(r : ℝ)| / ((1 : Nat) : ℝ) := by simp

theorem natAbs_mag (r : Int) : ((r.natAbs : Nat) : ℝ) = |(r : ℝ)| / ((1 : Nat) : ℝ) := by
  simp [Nat.cast_natAbs]

/-- `repr_cmp_ibig::<B, ABS>` (NumOrd / AbsOrd between FBig/Repr and IBig, signed primitives): the order of the exact
    values (`ABS`: magnitudes), for every sound oracle -/
theorem floatReprCmpIbig_specA {o : Oracle} (ho : o.Sound) {B : Nat} (hB : 2 ≤ B) (abs : Bool) (s e r : Int)
    (p : Nat) :
    some (floatReprCmpIbig o abs B s e r) = XVal.cmpA abs (Num.fbig B s e p).value (Num.ibig r).value := by
  unfold floatReprCmpIbig
  cases hinf : fIsInf s e
  · rw [fbig_value_fin p hinf, Num.value, XVal.cmpA_fin, if_neg Bool.false_ne_true, ← floatFrac_sign hB s e]
    have h1 := ho.flt B s e hB
    have h2 := ho.nat r.natAbs
    rw [fltMag_eq_frac hB] at h1
    rw [natAbs_mag] at h2
    exact congrArg some (route_skeleton abs (floatFrac_den_pos hB s e) Nat.one_pos h1 h2 (float_exactA abs B s e r))
  · rw [if_pos rfl]; exact (cmpA_inf_fin abs p hinf r 1).1.symm

/-- `repr_cmp_ubig` is `repr_cmp_ibig` at a non-negative right operand -/
theorem floatReprCmpUbig_eq_ibig (o : Oracle) (abs : Bool) (B : Nat) (s e : Int) (r : Nat) :
    floatReprCmpUbig o abs B s e r = floatReprCmpIbig o abs B s e r := by
  unfold floatReprCmpUbig floatReprCmpIbig
  rw [Int.natAbs_natCast, Sign.ofInt_pos.2 (Int.natCast_nonneg r)]
  cases abs <;> cases Sign.ofInt s <;> rfl

/-- `repr_cmp_ubig::<B, ABS>` (NumOrd / AbsOrd between FBig/Repr and UBig, unsigned primitives) -/
theorem floatReprCmpUbig_specA {o : Oracle} (ho : o.Sound) {B : Nat} (hB : 2 ≤ B) (abs : Bool) (s e : Int)
    (r p : Nat) :
    some (floatReprCmpUbig o abs B s e r) = XVal.cmpA abs (Num.fbig B s e p).value (Num.ubig r).value := by
  rw [floatReprCmpUbig_eq_ibig]; exact floatReprCmpIbig_specA ho hB abs s e r p

-- ------------------------------------------------------------------ float/src/third_party/num_order.rs

theorem reprNumCmp_exact_eq (B1 : Nat) (s1 e1 : Int) (B2 : Nat) (s2 e2 : Int) :
    (let lhs1 := if e1 < 0 then s1 else shlDigits B1 s1 e1.toNat
     let rhs1 := if e1 < 0 then shlDigits B1 s2 (-e1).toNat else s2
     let lhs2 := if e2 < 0 then shlDigits B2 lhs1 (-e2).toNat else lhs1
     let rhs2 := if e2 < 0 then rhs1 else shlDigits B2 rhs1 e2.toNat
     compare lhs2 rhs2)
      = compare ((floatFrac B1 s1 e1).1 * ((floatFrac B2 s2 e2).2 : Int))
                ((floatFrac B2 s2 e2).1 * ((floatFrac B1 s1 e1).2 : Int)) := by
  unfold floatFrac shlDigits
  by_cases h1 : e1 < 0 <;> by_cases h2 : e2 < 0 <;> simp [h1, h2] <;> congr 1 <;> ring

/-- `impl NumOrd<Repr<B2>> for Repr<B1>` (FBig × FBig in any two bases): the order of the exact
    values, for every sound oracle -/
theorem reprNumCmp_spec {o : Oracle} (ho : o.Sound) {B1 B2 : Nat} (hB1 : 2 ≤ B1) (hB2 : 2 ≤ B2)
    (s1 e1 s2 e2 : Int) (p1 p2 : Nat) (w1 : FWf s1 e1) (w2 : FWf s2 e2) :
    some (reprNumCmp o B1 s1 e1 B2 s2 e2)
      = XVal.cmp (Num.fbig B1 s1 e1 p1).value (Num.fbig B2 s2 e2 p2).value := by
  unfold reprNumCmp
  refine fbig_inf_cases p1 p2 w1 w2 fun hi1 hi2 => ?_
  rw [fbig_value_fin p1 hi1, fbig_value_fin p2 hi2]
  simp only [XVal.cmp]
  congr 1
  rw [← floatFrac_sign hB1 s1 e1, ← floatFrac_sign hB2 s2 e2]
  have h1 := ho.flt B1 s1 e1 hB1
  have h2 := ho.flt B2 s2 e2 hB2
  rw [fltMag_eq_frac hB1] at h1
  rw [fltMag_eq_frac hB2] at h2
  exact route_skeleton false (floatFrac_den_pos hB1 s1 e1) (floatFrac_den_pos hB2 s2 e2) h1 h2
    (reprNumCmp_exact_eq B1 s1 e1 B2 s2 e2)

-- ------------------------------------------------------------------ rational/src/cmp.rs

/-- rational `repr_cmp_ibig::<ABS>` (NumOrd / AbsOrd RBig/Relaxed × IBig, signed primitives) -/
theorem ratReprCmpIbig_specA {o : Oracle} (ho : o.Sound) (abs : Bool) (n : Int) {d : Nat} (hd : 0 < d) (r : Int) :
    some (ratReprCmpIbig o abs n d r) = XVal.cmpA abs (.fin n d) (.fin r 1) := by
  unfold ratReprCmpIbig
  rw [XVal.cmpA_fin]
  have h2 := ho.nat r.natAbs
  rw [natAbs_mag] at h2
  refine congrArg some (route_skeleton abs hd Nat.one_pos (ho.rat n d hd) h2 ?_)
  cases abs
  · simp [crossCmp]
  · simp [crossCmp, absCmpInt_eq, abs_mul]

theorem absCmpInt_of_nonneg {a b : Int} (ha : 0 ≤ a) (hb : 0 ≤ b) : absCmpInt a b = compare a b := by
  rw [absCmpInt_eq, abs_of_nonneg ha, abs_of_nonneg hb]

/-- rational `repr_cmp_ubig` is `repr_cmp_ibig` at a non-negative right operand (its exact step compares magnitudes
    also for `ABS = false`, where both sides are non-negative) -/
theorem ratReprCmpUbig_eq_ibig (o : Oracle) (abs : Bool) (n : Int) (d r : Nat) :
    ratReprCmpUbig o abs n d r = ratReprCmpIbig o abs n d r := by
  unfold ratReprCmpUbig ratReprCmpIbig
  rw [Int.natAbs_natCast, Sign.ofInt_pos.2 (Int.natCast_nonneg r)]
  cases abs
  · rcases lt_or_ge n 0 with h | h
    · rw [Sign.ofInt_neg.2 h]; rfl
    · rw [Sign.ofInt_pos.2 h, ← absCmpInt_of_nonneg h (by positivity)]; rfl
  · rfl

/-- rational `repr_cmp_ubig::<ABS>` (NumOrd / AbsOrd RBig/Relaxed × UBig, unsigned primitives) -/
theorem ratReprCmpUbig_specA {o : Oracle} (ho : o.Sound) (abs : Bool) (n : Int) {d : Nat} (hd : 0 < d) (r : Nat) :
    some (ratReprCmpUbig o abs n d r) = XVal.cmpA abs (.fin n d) (.fin (r : Int) 1) := by
  rw [ratReprCmpUbig_eq_ibig]; exact ratReprCmpIbig_specA ho abs n hd r

/-- the exact step of `with_float::repr_cmp_fbig::<B, ABS>` -/
theorem ratFbig_exactA (abs : Bool) (n : Int) (d : Nat) (B : Nat) (s e : Int) :
    (if abs then absCmpInt (if e < 0 then n * (B : Int) ^ (-e).toNat else n)
              (if e < 0 then s * (d : Int) else s * d * (B : Int) ^ e.toNat)
     else compare (if e < 0 then n * (B : Int) ^ (-e).toNat else n)
              (if e < 0 then s * (d : Int) else s * d * (B : Int) ^ e.toNat))
      = crossCmp abs n d (floatFrac B s e).1 (floatFrac B s e).2 := by
  have hB : (0 : Int) ≤ (B : Int) := by positivity
  unfold crossCmp floatFrac
  cases abs
  · by_cases h : e < 0 <;> simp [h] <;> congr 1 <;> ring
  · rw [if_pos rfl, if_pos rfl, absCmpInt_eq]
    by_cases h : e < 0
    · simp [h, abs_mul, abs_pow, abs_of_nonneg hB]
    · simp [h, abs_mul, abs_pow, abs_of_nonneg hB]; congr 1; ring

/-- `with_float::repr_cmp_fbig::<B, ABS>` (NumOrd / AbsOrd RBig/Relaxed × FBig) -/
theorem ratReprCmpFbig_specA {o : Oracle} (ho : o.Sound) (abs : Bool) (n : Int) {d : Nat} (hd : 0 < d) {B : Nat}
    (hB : 2 ≤ B) (s e : Int) (p : Nat) :
    some (ratReprCmpFbig o abs n d B s e) = XVal.cmpA abs (.fin n d) (Num.fbig B s e p).value := by
  unfold ratReprCmpFbig
  cases hinf : fIsInf s e
  · rw [fbig_value_fin p hinf, XVal.cmpA_fin, if_neg Bool.false_ne_true, ← floatFrac_sign hB s e]
    have h2 := ho.flt B s e hB
    rw [fltMag_eq_frac hB] at h2
    exact congrArg some (route_skeleton abs hd (floatFrac_den_pos hB s e) (ho.rat n d hd) h2
      (ratFbig_exactA abs n d B s e))
  · rw [if_pos rfl, (cmpA_inf_fin abs p hinf n d).2]

end Dashu.Model.Cross
