import Dashu.Proofs.Cross.Fixed
import Dashu.Proofs.Cross.SameBase
/-
  C14 proofs — the dispatch tables (`numPartialCmpK`, `absCmpK`): every implemented type pair
  returns the order of the exact values.
-/
namespace Dashu.Model.Cross

def Kind.value : Kind → XVal
  | .nat n => .fin n 1
  | .int i => .fin i 1
  | .flt B s e p => (Num.fbig B s e p).value
  | .rat _ n d => .fin n d
  | .pf _ dec => decodedValue dec

/-- well-formed operand: base ≥ 2 and a canonical zero/∞ encoding for floats, a positive
    denominator for rationals, a float that was actually decoded from an f32/f64 -/
def Kind.WF : Kind → Prop
  | .flt B s e _ => 2 ≤ B ∧ FWf s e
  | .rat _ _ d => 0 < d
  | .pf t dec => dec.InRange t
  | _ => True

def Num.WF : Num → Prop
  | .fbig B s e _ => 2 ≤ B ∧ FWf s e
  | .rbig _ d => 0 < d
  | .relaxed _ d => 0 < d
  | .pint t v => t.inRange v = true
  | _ => True

theorem Num.kind_wf {x : Num} (h : x.WF) : x.kind.WF := by
  cases x with
  | pint t v => by_cases hs : t.signed = true <;> simp [Num.kind, hs, Kind.WF]
  | pfloat t b => exact decode_inRange _ _
  | _ => simpa [Num.kind, Kind.WF, Num.WF] using h

theorem Num.kind_value {x : Num} (h : x.WF) : x.kind.value = x.value := by
  cases x with
  | pint t v =>
    simp only [Num.WF] at h
    by_cases hs : t.signed = true
    · simp [Num.kind, hs, Kind.value, Num.value]
    · have hs' : t.signed = false := by simpa using hs
      have : 0 ≤ v := by
        simp only [PrimInt.inRange, hs', Bool.false_eq_true, if_false, Bool.and_eq_true,
          decide_eq_true_eq] at h
        exact h.1
      simp only [Num.kind, hs', Bool.false_eq_true, if_false, Kind.value, Num.value]
      congr 1
      omega
  | _ => rfl

theorem XVal.cmp_swap (a b : XVal) : (XVal.cmp a b).map Ordering.swap = XVal.cmp b a := by
  cases a <;> cases b <;> simp [XVal.cmp, Int.compare_swap] <;> rfl

theorem swapO_eq {r : Option Ordering} {a b : XVal} (h : r = XVal.cmp a b) : swapO r = XVal.cmp b a := by
  rw [h]; exact XVal.cmp_swap a b

theorem swap_some_eq {r : Ordering} {a b : XVal} (h : some r = XVal.cmp a b) :
    some r.swap = XVal.cmp b a := by
  have := swapO_eq h
  simpa [swapO] using this

theorem XVal.absCmp_swap (a b : XVal) : (XVal.absCmp a b).map Ordering.swap = XVal.absCmp b a :=
  XVal.cmp_swap _ _

theorem swap_some_abs_eq {r : Ordering} {a b : XVal} (h : some r = XVal.absCmp a b) :
    some r.swap = XVal.absCmp b a := by
  have : (some r).map Ordering.swap = XVal.absCmp b a := by rw [h]; exact XVal.absCmp_swap a b
  simpa using this

theorem ubigCmpIbig_spec (a : Nat) (b : Int) :
    some (ubigCmpIbig a b) = XVal.cmp (.fin (a : Int) 1) (.fin b 1) := by
  unfold ubigCmpIbig
  simp only [XVal.cmp]
  congr 1
  rcases lt_or_ge b 0 with h | h
  · rw [Sign.ofInt_neg.2 h]
    exact (Int.compare_eq_gt.2 (by simp; omega)).symm
  · rw [Sign.ofInt_pos.2 h, cmpN_cast, Int.natCast_natAbs, abs_of_nonneg h]
    simp

theorem ibigCmpUbig_spec (a : Int) (b : Nat) :
    some (ibigCmpUbig a b) = XVal.cmp (.fin a 1) (.fin (b : Int) 1) := by
  unfold ibigCmpUbig
  simp only [XVal.cmp]
  congr 1
  rcases lt_or_ge a 0 with h | h
  · rw [Sign.ofInt_neg.2 h]
    exact (Int.compare_eq_lt.2 (by simp; omega)).symm
  · rw [Sign.ofInt_pos.2 h, cmpN_cast, Int.natCast_natAbs, abs_of_nonneg h]
    simp

/-- NumOrd over the whole table of implemented pairs (operand kinds): the order of the exact
    values for every sound oracle. -/
theorem numPartialCmpK_spec {o : Oracle} (ho : o.Sound) (k1 k2 : Kind) (w1 : k1.WF) (w2 : k2.WF)
    {r : Option Ordering} (h : numPartialCmpK o k1 k2 = some r) :
    r = XVal.cmp k1.value k2.value := by
  cases k1 <;> cases k2 <;> simp only [numPartialCmpK, Option.some.injEq] at h <;>
    simp only [Kind.value, Kind.WF] at * <;> try subst h
  · -- nat nat
    rename_i a b
    simp [XVal.cmp, cmpN_cast]
  · exact ubigCmpIbig_spec _ _
  · -- nat flt
    rename_i r B s e p
    exact swap_some_eq (floatReprCmpUbig_specA ho w2.1 false s e r p)
  · -- nat rat
    rename_i r b n d
    exact swap_some_eq (ratReprCmpUbig_specA ho false n w2 r)
  · -- nat pf
    rename_i x t dec
    exact ubigNumOrdFloat_spec t x dec w2
  · exact ibigCmpUbig_spec _ _
  · -- int int
    simp [XVal.cmp]
  · rename_i r B s e p
    exact swap_some_eq (floatReprCmpIbig_specA ho w2.1 false s e r p)
  · rename_i r b n d
    exact swap_some_eq (ratReprCmpIbig_specA ho false n w2 r)
  · rename_i x t dec
    exact ibigNumOrdFloat_spec t x dec w2
  · rename_i B s e p r
    exact floatReprCmpUbig_specA ho w1.1 false s e r p
  · rename_i B s e p r
    exact floatReprCmpIbig_specA ho w1.1 false s e r p
  · rename_i B1 s1 e1 p1 B2 s2 e2 p2
    exact reprNumCmp_spec ho w1.1 w2.1 s1 e1 s2 e2 p1 p2 w1.2 w2.2
  · rename_i B s e p b n d
    exact swap_some_eq (ratReprCmpFbig_specA ho false n w2 w1.1 s e p)
  · rename_i B s e p t dec
    exact reprNumOrdFloat_spec t w1.1 s e p dec w2
  · rename_i b n d r
    exact ratReprCmpUbig_specA ho false n w1 r
  · rename_i b n d r
    exact ratReprCmpIbig_specA ho false n w1 r
  · rename_i b n d B s e p
    exact ratReprCmpFbig_specA ho false n w1 w2.1 s e p
  · -- rat rat
    rename_i b1 n1 d1 b2 n2 d2
    split at h
    · simp only [Option.some.injEq] at h
      subst h
      exact ratReprCmp_spec n1 w1 n2 w2
    · exact absurd h (by simp)
  · rename_i b n d t dec
    rw [ratNumOrdFloat_spec t n w1 dec w2]
  · rename_i t dec x
    exact swapO_eq (ubigNumOrdFloat_spec t x dec w1)
  · rename_i t dec x
    exact swapO_eq (ibigNumOrdFloat_spec t x dec w1)
  · rename_i t dec B s e p
    exact swapO_eq (reprNumOrdFloat_spec t w2.1 s e p dec w1)
  · rename_i t dec b n d
    exact swapO_eq (ratNumOrdFloat_spec t n w2 dec w1)
  · exact absurd h (by simp)

/-- NumOrd on protocol numbers: `num_partial_cmp` (and hence every derived method) returns the
    order of the exact values — `none` exactly for NaN — for every sound oracle. -/
theorem numPartialCmp_spec {o : Oracle} (ho : o.Sound) (x y : Num) (wx : x.WF) (wy : y.WF)
    {r : Option Ordering} (h : numPartialCmp o x y = some r) :
    r = XVal.cmp x.value y.value := by
  unfold numPartialCmp at h
  split at h
  · exact absurd h (by simp)
  · rw [← Num.kind_value wx, ← Num.kind_value wy]
    exact numPartialCmpK_spec ho _ _ (Num.kind_wf wx) (Num.kind_wf wy) h

/-- limited precision bounds the digits (needed by the same-base shortcut only) -/
def Kind.PrecOK : Kind → Prop
  | .flt B s _ p => Dashu.Model.Cross.PrecOK B s p
  | _ => True

def Num.PrecOK : Num → Prop
  | .fbig B s _ p => Dashu.Model.Cross.PrecOK B s p
  | _ => True

theorem Num.kind_precOK {x : Num} (h : x.PrecOK) : x.kind.PrecOK := by
  cases x with
  | pint t v => by_cases hs : t.signed = true <;> simp [Num.kind, hs, Kind.PrecOK]
  | _ => simpa [Num.kind, Kind.PrecOK, Num.PrecOK] using h

/-- AbsOrd over the whole table of implemented pairs (operand kinds): the order of the magnitudes
    for every sound oracle. -/
theorem absCmpK_spec {o : Oracle} (ho : o.Sound) (k1 k2 : Kind) (w1 : k1.WF) (w2 : k2.WF)
    (p1 : k1.PrecOK) (p2 : k2.PrecOK) {r : Ordering}
    (h : absCmpK o k1 k2 = some r) : some r = XVal.absCmp k1.value k2.value := by
  cases k1 <;> cases k2 <;> simp only [absCmpK, Option.some.injEq] at h <;>
    simp only [Kind.value, Kind.WF, Kind.PrecOK] at * <;> try subst h
  · rename_i a b
    simp [XVal.absCmp, XVal.abs, XVal.cmp, cmpN_cast]
  · rename_i a b
    simp [XVal.absCmp, XVal.abs, XVal.cmp, cmpN_cast]
  · rename_i r B s e p
    exact swap_some_abs_eq (floatReprCmpUbig_specA ho w2.1 true s e r p)
  · rename_i r b n d
    exact swap_some_abs_eq (ratReprCmpUbig_specA ho true n w2 r)
  · exact absurd h (by simp)
  · rename_i a b
    simp [XVal.absCmp, XVal.abs, XVal.cmp, cmpN_cast]
  · rename_i a b
    simp [XVal.absCmp, XVal.abs, XVal.cmp, cmpN_cast]
  · rename_i r B s e p
    exact swap_some_abs_eq (floatReprCmpIbig_specA ho w2.1 true s e r p)
  · rename_i r b n d
    exact swap_some_abs_eq (ratReprCmpIbig_specA ho true n w2 r)
  · exact absurd h (by simp)
  · rename_i B s e p r
    exact floatReprCmpUbig_specA ho w1.1 true s e r p
  · rename_i B s e p r
    exact floatReprCmpIbig_specA ho w1.1 true s e r p
  · rename_i B1 s1 e1 q1 B2 s2 e2 q2
    split at h
    · rename_i hB
      subst hB
      simp only [Option.some.injEq] at h
      subst h
      exact reprCmpSameBase_abs_spec ho w1.1 s1 e1 s2 e2 q1 q2 p1 p2
    · exact absurd h (by simp)
  · rename_i B s e p b n d
    exact swap_some_abs_eq (ratReprCmpFbig_specA ho true n w2 w1.1 s e p)
  · exact absurd h (by simp)
  · rename_i b n d r
    exact ratReprCmpUbig_specA ho true n w1 r
  · rename_i b n d r
    exact ratReprCmpIbig_specA ho true n w1 r
  · rename_i b n d B s e p
    exact ratReprCmpFbig_specA ho true n w1 w2.1 s e p
  · rename_i b1 n1 d1 b2 n2 d2
    exact ratReprCmp_abs_spec n1 w1 n2 w2
  all_goals exact absurd h (by simp)

end Dashu.Model.Cross
