import Dashu.Proofs.Cross.Filter
import Dashu.Proofs.Cross.Spec
import Dashu.Proofs.Cross.SameText
import Dashu.Proofs.Int.FloatValue
/-
  C14 proofs — `repr_cmp_same_base::<B, ABS>` (float/src/cmp.rs): `Ord`/`PartialOrd` of two FBigs
  of one base and `AbsOrd for FBig`.  The case analysis (zero operands, exponent+precision and exponent+digits
  shortcuts) is `Model.sameBase_cases` of `Proofs/Int/Cmp.lean`, over the integers; here the exact comparison after
  aligning the exponents, signed and of magnitudes, is shown to be that of the cross-multiplied fractions of `XVal.cmp`
  (both decide the order of `signif · B^exp` in ℚ).
-/
namespace Dashu.Model.Cross

/-- two answers that decide the same linear order are the same answer -/
theorem ordering_eq_of_decides {α : Type} [LinearOrder α] {x y : α} {c c' : Ordering}
    (h : (c = .lt ↔ x < y) ∧ (c = .eq ↔ x = y) ∧ (c = .gt ↔ y < x))
    (h' : (c' = .lt ↔ x < y) ∧ (c' = .eq ↔ x = y) ∧ (c' = .gt ↔ y < x)) : c = c' := by
  rcases lt_trichotomy x y with l | e | g
  · rw [h.1.mpr l, h'.1.mpr l]
  · rw [h.2.1.mpr e, h'.2.1.mpr e]
  · rw [h.2.2.mpr g, h'.2.2.mpr g]

/-- the exact step (case 6), signed: comparing after aligning the exponents is comparing the cross-multiplied fractions.
    Both decide the order of `signif · B^exp` in ℚ (`specFCmp_value`; `cross_lt_iff`, `floatFrac_cast`). -/
theorem sameBase_cross {B : Nat} (hB : 2 ≤ B) {ls le rs re : Int} (f1 : ls = 0 → le = 0) (f2 : rs = 0 → re = 0) :
    cmpCase6 B ls le rs re
      = compare ((floatFrac B ls le).1 * ((floatFrac B rs re).2 : Int)) ((floatFrac B rs re).1 * ((floatFrac B ls le).2 : Int)) := by
  have i1 : (FRepr.mk ls le).isInfinite = false := by
    simp only [FRepr.isInfinite, Bool.and_eq_false_imp, beq_iff_eq, bne_eq_false_iff_eq]; exact f1
  have i2 : (FRepr.mk rs re).isInfinite = false := by
    simp only [FRepr.isInfinite, Bool.and_eq_false_imp, beq_iff_eq, bne_eq_false_iff_eq]; exact f2
  rw [← specFCmp_finite B ⟨ls, le⟩ ⟨rs, re⟩ i1 i2]
  have d1 := floatFrac_den_pos hB ls le
  have d2 := floatFrac_den_pos hB rs re
  have v1 : fracQ (floatFrac B ls le).1 (floatFrac B ls le).2 = (FRepr.mk ls le).val B := floatFrac_cast B ls le
  have v2 : fracQ (floatFrac B rs re).1 (floatFrac B rs re).2 = (FRepr.mk rs re).val B := floatFrac_cast B rs re
  refine ordering_eq_of_decides (specFCmp_value B hB _ _ i1 i2) ⟨?_, ?_, ?_⟩
  · rw [Int.compare_eq_lt, cross_lt_iff d1 d2, v1, v2]
  · rw [Int.compare_eq_eq, cross_eq_iff d1 d2, v1, v2]
  · rw [Int.compare_eq_gt, cross_lt_iff d2 d1, v1, v2]

theorem floatFrac_abs (B : Nat) (s e : Int) :
    floatFrac B |s| e = (|(floatFrac B s e).1|, (floatFrac B s e).2) := by
  unfold floatFrac
  split
  · rfl
  · rw [abs_mul, abs_pow, Nat.abs_cast]

/-- the exact step (case 6), magnitudes -/
theorem sameBase_abs_cross {B : Nat} (hB : 2 ≤ B) {ls le rs re : Int} (f1 : ls = 0 → le = 0) (f2 : rs = 0 → re = 0) :
    (if le = re then absCmpInt ls rs
     else if le > re then absCmpInt (shlDigits B ls (le - re).toNat) rs
     else absCmpInt ls (shlDigits B rs (re - le).toNat))
      = compare (|(floatFrac B ls le).1| * ((floatFrac B rs re).2 : Int)) (|(floatFrac B rs re).1| * ((floatFrac B ls le).2 : Int)) := by
  have key := sameBase_cross hB (ls := |ls|) (le := le) (rs := |rs|) (re := re)
    (fun h => f1 (abs_eq_zero.mp h)) (fun h => f2 (abs_eq_zero.mp h))
  rw [floatFrac_abs, floatFrac_abs] at key
  rw [← key]
  simp only [cmpCase6, absCmpInt_eq, shlDigits, abs_mul, abs_pow, Nat.abs_cast]

/-- the exact step on magnitudes compares the two sides of `MagLt` -/
theorem absExact_eq (B : Nat) (ls le rs re : Int) :
    (if le = re then absCmpInt ls rs
     else if le > re then absCmpInt (shlDigits B ls (le - re).toNat) rs
     else absCmpInt ls (shlDigits B rs (re - le).toNat))
      = compare (ls.natAbs * B ^ (le - min le re).toNat) (rs.natAbs * B ^ (re - min le re).toNat) := by
  unfold absCmpInt shlDigits
  rcases Int.lt_trichotomy le re with h | h | h
  · rw [if_neg (by omega), if_neg (by omega), Int.min_eq_left (by omega), Int.sub_self, Int.toNat_zero, Nat.pow_zero,
      Nat.mul_one, Int.natAbs_mul, Int.natAbs_pow, Int.natAbs_natCast]
  · rw [if_pos h, h, Int.min_self, Int.sub_self, Int.toNat_zero, Nat.pow_zero, Nat.mul_one, Nat.mul_one]
  · rw [if_neg (by omega), if_pos h, Int.min_eq_right (by omega), Int.sub_self, Int.toNat_zero, Nat.pow_zero,
      Nat.mul_one, Int.natAbs_mul, Int.natAbs_pow, Int.natAbs_natCast]

/-- a finite float is `0·B^e` only for `e = 0` -/
theorem fIsInf_false {s e : Int} (h : fIsInf s e = false) (hs : s = 0) : e = 0 := by
  simpa [fIsInf, hs] using h

/-- well-formed precision: a limited precision bounds the digit count of the significand (with the
    one digit of slack the documentation of `Repr` allows).  Case 4 of `repr_cmp_same_base` clamps
    the precision to `isize::MAX` (/repo ee43486), so the bound is stated for the clamped
    precision: for `p ≤ isize::MAX` this is `|s| < B^(p+1)`; for a larger `p` it says the
    significand has at most `2^63` digits — the Nat/usize gap: no `Repr` in memory has more (a word
    buffer holds < 2^64 bits), the model's `Int` significand is unbounded. -/
def PrecOK (B : Nat) (s : Int) (p : Nat) : Prop := p ≠ 0 → s.natAbs < B ^ (min p isizeMax + 1)

theorem PrecOK_of_le {B : Nat} {s : Int} {p : Nat} (hp : p ≤ isizeMax) (h : p ≠ 0 → s.natAbs < B ^ (p + 1)) :
    PrecOK B s p := by
  intro h0; rw [Nat.min_eq_left hp]; exact h h0

/-- the specification order of C05 is the order of the exact values of C14 -/
theorem specFCmp_xcmp {B : Nat} (hB : 2 ≤ B) {ls le rs re : Int} (lp rp : Nat) (w1 : FWf ls le) (w2 : FWf rs re) :
    some (specFCmp B ⟨ls, le⟩ ⟨rs, re⟩) = XVal.cmp (Num.fbig B ls le lp).value (Num.fbig B rs re rp).value := by
  refine fbig_inf_cases lp rp w1 w2 fun hi1 hi2 => ?_
  rw [fbig_value_fin lp hi1, fbig_value_fin rp hi2]
  exact congrArg some ((cmpCase6_eq B ls le rs re).symm.trans (sameBase_cross hB (fIsInf_false hi1) (fIsInf_false hi2)))

/-- `repr_cmp_same_base::<B, false>` with `Some(precisions)`: `Ord`/`PartialOrd` for FBig.  The function is C05's
    (`reprCmpSameBase_eq_c05`), so is the theorem. -/
theorem reprCmpSameBase_spec {o : Oracle} (ho : o.Sound) {B : Nat} (hB : 2 ≤ B)
    (ls le rs re : Int) (lp rp : Nat) (w1 : FWf ls le) (w2 : FWf rs re)
    (hp1 : PrecOK B ls lp) (hp2 : PrecOK B rs rp) :
    some (reprCmpSameBase o false B ls le rs re (some (lp, rp)))
      = XVal.cmp (Num.fbig B ls le lp).value (Num.fbig B rs re rp).value := by
  rw [reprCmpSameBase_eq_c05, Dashu.Model.reprCmpSameBase_spec B hB (o.digitsUb B) (fun s => ho.digits B s hB) ⟨ls, le⟩ ⟨rs, re⟩
    (some (lp, rp)) (fun _ _ h => by cases h; exact ⟨hp1, hp2⟩)]
  exact specFCmp_xcmp hB lp rp w1 w2

/-- `repr_cmp_same_base::<B, true>` with `Some(precisions)`: `AbsOrd for FBig` -/
theorem reprCmpSameBase_abs_spec {o : Oracle} (ho : o.Sound) {B : Nat} (hB : 2 ≤ B)
    (ls le rs re : Int) (lp rp : Nat) (hp1 : PrecOK B ls lp) (hp2 : PrecOK B rs rp) :
    some (reprCmpSameBase o true B ls le rs re (some (lp, rp)))
      = XVal.absCmp (Num.fbig B ls le lp).value (Num.fbig B rs re rp).value := by
  unfold reprCmpSameBase
  cases hi1 : fIsInf ls le <;> cases hi2 : fIsInf rs re
  · rw [fbig_value_fin lp hi1, fbig_value_fin rp hi2, abs_value_cmp]
    simp only [Bool.false_eq_true, Bool.and_self, if_false, if_true]
    congr 1
    rw [← sameBase_abs_cross hB (fIsInf_false hi1) (fIsInf_false hi2)]
    refine sameBase_cases hB (o.digitsUb B) (fun s => ho.digits B s hB) (fIsInf_false hi1) (fIsInf_false hi2)
      (some (lp, rp)) (fun _ _ h => by cases h; exact ⟨hp1, hp2⟩) false _ (fun _ => rfl) ?_ ?_ ?_
    · intro h1 h2
      rw [absExact_eq, h1, h2, Int.natAbs_zero, Nat.zero_mul, Nat.zero_mul]; rfl
    · intro h
      rw [absExact_eq, Int.min_comm]; exact Nat.compare_eq_gt.mpr h
    · intro h
      rw [absExact_eq]; exact Nat.compare_eq_lt.mpr h
  · rw [fbig_value_fin lp hi1, fbig_value_inf rp hi2]
    simp only [Bool.false_and, Bool.false_eq_true, if_false, if_true, Bool.true_or]
    by_cases he : re > 0 <;> simp [he, XVal.absCmp, XVal.abs, XVal.cmp]
  · rw [fbig_value_inf lp hi1, fbig_value_fin rp hi2]
    simp only [Bool.and_false, Bool.false_eq_true, if_false, if_true, Bool.true_or]
    by_cases he : le > 0 <;> simp [he, XVal.absCmp, XVal.abs, XVal.cmp]
  · rw [fbig_value_inf lp hi1, fbig_value_inf rp hi2]
    simp only [Bool.and_self, if_true]
    by_cases he : le > 0 <;> by_cases he' : re > 0 <;> simp [he, he', XVal.absCmp, XVal.abs, XVal.cmp]

end Dashu.Model.Cross
