import Dashu.Proofs.Cross.OracleSound
import Dashu.Proofs.Cross.Filter
import Dashu.Model.Cross.Pre
/-
  C14 proofs — AS-IS statements about the code BEFORE fix 2670e13 (`Model/Cross/Pre.lean`): concrete
  inputs on which the pre-fix `AbsOrd` between FBig and UBig/IBig, run with a SOUND oracle, contradicts
  the specification (corpus/C14/float_abs_negative.case reproduced them on the real code).
-/
namespace Dashu.Model.Cross

/-- `FBig(-5).abs_cmp(UBig 5)` was `Less` also with the bit-length oracle the driver uses: the estimates of 5 and -5 overlap -/
theorem floatReprCmpUbigPre_abs_counterexample_coarse :
    Oracle.coarse.Sound ∧ floatReprCmpUbigPre Oracle.coarse true 2 (-5) 0 5 = .lt :=
  ⟨Oracle.coarse_sound, by decide +kernel⟩

end Dashu.Model.Cross
