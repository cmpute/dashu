import Dashu.Model.Cross.Hash
import Mathlib.NumberTheory.LucasLehmer
import Mathlib.FieldTheory.Finite.Basic
import Mathlib.Data.ZMod.Basic
import Mathlib.Tactic.Ring
/-
  C14 proofs — `NumHash`: numerically equal numbers feed the same `i128` to the hasher.

  Everything is reduced to one closed formula, `hashQ n d` ("sign of `n` times the residue of
  `|n| / d` in the field `ZMod (2^127 - 1)`"), which is a function of the value `n / d` as soon as
  `M127 ∤ d` (`hashQ_welldef`).  Each impl of the model is shown to be `hashQ` of the exact value
  (`numHashFeedPre_eq_hashQ`), which gives `numHashPre_value`.  The last section is the
  `M127 ∣ denominator` corner: the stored-parts rational hash is NOT a function of the value
  (`ratHashPre_corner_counterexample`), the canonical one is (`ratHash_value`), hence `numHash_value` for rationals with
  any positive denominator.
-/
namespace Dashu.Model.Cross

/-! ## the modulus -/

theorem M127_eq : M127 = 2 ^ 127 - 1 := rfl

/-- `M127 = 2^127 - 1` is prime (Lucas–Lehmer). -/
theorem M127_prime : Nat.Prime M127 := by
  have h : (mersenne 127).Prime := lucas_lehmer_sufficiency _ (by simp) (by norm_num)
  exact h

instance M127_fact : Fact (Nat.Prime M127) := ⟨M127_prime⟩

theorem M127_pos : 0 < M127 := M127_prime.pos
theorem M127_two_le : 2 ≤ M127 := M127_prime.two_le
theorem M127_val : M127 = 170141183460469231731687303715884105727 := by decide
theorem M127_cast : (M127 : Int) = 2 ^ 127 - 1 := by
  rw [M127_val]; norm_num

/-! ## `powMod`, `invMod` -/

theorem powMod_eq (a e m : Nat) : powMod a e m = a ^ e % m := by
  induction e using Nat.strong_induction_on with
  | _ e ih =>
    rw [powMod]
    by_cases h0 : e = 0
    · simp [h0]
    · have hk := ih (e / 2) (by omega)
      have hpow : a ^ e = a ^ (e / 2) * a ^ (e / 2) * a ^ (e % 2) := by
        rw [← pow_add, ← pow_add]; congr 1; omega
      simp only [h0, if_false, hk]
      by_cases h1 : e % 2 = 1
      · simp only [h1, if_true]
        rw [hpow, h1, pow_one]
        simp [Nat.mul_mod]
      · have h2 : e % 2 = 0 := by omega
        simp only [h1, if_false]
        rw [hpow, h2, pow_zero, mul_one]
        simp [Nat.mul_mod]

theorem invMod_eq (a : Nat) : invMod a = a ^ (M127 - 2) % M127 := powMod_eq _ _ _

theorem invMod_lt (a : Nat) : invMod a < M127 := by
  rw [invMod_eq]; exact Nat.mod_lt _ M127_pos

/-- in the field `ZMod M127`, `invMod` is the inverse (also at `0`, where both sides are `0`) -/
theorem invMod_cast (a : Nat) : ((invMod a : Nat) : ZMod M127) = ((a : Nat) : ZMod M127)⁻¹ := by
  rw [invMod_eq, ZMod.natCast_mod, Nat.cast_pow]
  by_cases ha : ((a : Nat) : ZMod M127) = 0
  · rw [ha, inv_zero, zero_pow]
    have := M127_val; omega
  · apply eq_inv_of_mul_eq_one_left
    rw [← pow_succ]
    have h : M127 - 2 + 1 = M127 - 1 := by have := M127_val; omega
    rw [h]
    exact ZMod.pow_card_sub_one_eq_one ha

/-- `invMod a` is the inverse of `a` modulo `M127` (Fermat). -/
theorem invMod_spec {a : Nat} (h : a % M127 ≠ 0) : a * invMod a % M127 = 1 := by
  have ha : ((a : Nat) : ZMod M127) ≠ 0 := by
    rw [Ne, ZMod.natCast_eq_zero_iff, Nat.dvd_iff_mod_eq_zero]; exact h
  have h1 : ((a * invMod a : Nat) : ZMod M127) = ((1 : Nat) : ZMod M127) := by
    rw [Nat.cast_mul, invMod_cast, Nat.cast_one, mul_inv_cancel₀ ha]
  rw [ZMod.natCast_eq_natCast_iff'] at h1
  rw [h1]; exact Nat.mod_eq_of_lt M127_prime.one_lt

/-! ## signed residues -/

/-- `±` the canonical representative of a residue -/
def sres (neg : Prop) [Decidable neg] (z : ZMod M127) : Int :=
  (if neg then -1 else 1) * ((z.val : Nat) : Int)

theorem mod_eq_val (x : Nat) : x % M127 = ((x : Nat) : ZMod M127).val :=
  (ZMod.val_natCast _ _).symm

theorem sres_congr {p q : Prop} [Decidable p] [Decidable q] {z : ZMod M127}
    (h : (p ↔ q) ∨ z = 0) : sres p z = sres q z := by
  rcases h with h | h
  · unfold sres; simp only [h]
  · subst h; simp [sres]

theorem sres_zero {p : Prop} [Decidable p] : sres p 0 = 0 := by simp [sres]

theorem natCast_ne_zero {b : Nat} (h : ¬ M127 ∣ b) : ((b : Nat) : ZMod M127) ≠ 0 := by
  rwa [Ne, ZMod.natCast_eq_zero_iff]

theorem natCast_ne_zero_of_lt {b : Nat} (h0 : 0 < b) (h : b < M127) :
    ((b : Nat) : ZMod M127) ≠ 0 :=
  natCast_ne_zero fun hd => absurd (Nat.le_of_dvd h0 hd) (by omega)

/-- `i128::num_hash` is the identity strictly inside `(-M127, M127)` -/
theorem i128NumHash_of_lt {v : Int} (h1 : -(M127 : Int) < v) (h2 : v < (M127 : Int)) :
    i128NumHash v = v := by
  rw [M127_cast] at h1 h2
  unfold i128NumHash
  rw [if_neg (by omega), if_neg (by omega)]

/-- a signed reduced residue passes through `i128::num_hash` unchanged -/
theorem i128NumHash_signed (c : Prop) [Decidable c] (x : Nat) :
    i128NumHash (if c then -((x % M127 : Nat) : Int) else ((x % M127 : Nat) : Int))
      = sres c ((x : Nat) : ZMod M127) := by
  have hlt : x % M127 < M127 := Nat.mod_lt _ M127_pos
  rw [i128NumHash_of_lt (by split <;> omega) (by split <;> omega)]
  unfold sres
  rw [← mod_eq_val]
  split <;> simp

/-- truncated remainder by `M127`: sign of the dividend times `|dividend| mod M127` -/
theorem tmod_M127 (s : Int) :
    Int.tmod s (M127 : Int) = (if s < 0 then -1 else 1) * ((s.natAbs % M127 : Nat) : Int) := by
  rcases s with n | n
  · have : ¬ (Int.ofNat n < 0) := by simp
    simp only [this, if_false, one_mul]
    rfl
  · have : (Int.negSucc n < 0) := Int.negSucc_lt_zero n
    simp only [this, if_true]
    show -((((n + 1) % M127 : Nat)) : Int) = _
    simp

/-! ## the canonical hash of a fraction -/

/-- canonical hash of the fraction `n / d`: the sign of `n` times the representative in `[0, M127)`
    of `|n| · d⁻¹ (mod M127)` -/
def hashQ (n : Int) (d : Nat) : Int :=
  (if n < 0 then -1 else 1) * (((n.natAbs % M127) * invMod (d % M127) % M127 : Nat) : Int)

theorem hashQ_val (n : Int) (d : Nat) :
    hashQ n d = sres (n < 0) (((n.natAbs : Nat) : ZMod M127) * ((d : Nat) : ZMod M127)⁻¹) := by
  unfold hashQ sres
  rw [mod_eq_val (_ * _)]
  simp only [Nat.cast_mul, ZMod.natCast_mod, invMod_cast]

theorem hashQ_one (n : Int) : hashQ n 1 = (if n < 0 then -1 else 1) * ((n.natAbs % M127 : Nat) : Int) := by
  rw [hashQ_val]; unfold sres
  rw [Nat.cast_one, inv_one, mul_one, ← mod_eq_val]

/-- `hashQ` is a function of the value `n / d` on fractions whose denominator is prime to `M127`. -/
theorem hashQ_welldef {n1 n2 : Int} {d1 d2 : Nat} (h1 : ¬ M127 ∣ d1) (h2 : ¬ M127 ∣ d2)
    (h : n1 * d2 = n2 * d1) : hashQ n1 d1 = hashQ n2 d2 := by
  have hd1 : 0 < d1 := Nat.pos_of_ne_zero fun h0 => h1 (h0 ▸ dvd_zero _)
  have hd2 : 0 < d2 := Nat.pos_of_ne_zero fun h0 => h2 (h0 ▸ dvd_zero _)
  have z1 := natCast_ne_zero h1
  have z2 := natCast_ne_zero h2
  have hd1' : (0 : Int) < d1 := by exact_mod_cast hd1
  have hd2' : (0 : Int) < d2 := by exact_mod_cast hd2
  have hsign : n1 < 0 ↔ n2 < 0 := by
    rw [← not_le, ← not_le, ← mul_nonneg_iff_of_pos_right hd2', h, mul_nonneg_iff_of_pos_right hd1']
  have habs : n1.natAbs * d2 = n2.natAbs * d1 := by
    have := congrArg Int.natAbs h
    simpa [Int.natAbs_mul] using this
  have hz : ((n1.natAbs : Nat) : ZMod M127) * ((d2 : Nat) : ZMod M127)
      = ((n2.natAbs : Nat) : ZMod M127) * ((d1 : Nat) : ZMod M127) := by
    exact_mod_cast congrArg (Nat.cast : Nat → ZMod M127) habs
  rw [hashQ_val, hashQ_val, sres_congr (Or.inl hsign)]
  congr 1
  rw [mul_inv_eq_iff_eq_mul₀ z1, mul_right_comm, eq_mul_inv_iff_mul_eq₀ z2]
  exact hz

/-! ## each impl feeds `hashQ` of the value -/

theorem natAbs_sg_mul (s : Int) (x : Nat) :
    ((if s < 0 then -1 else 1) * (x : Int)).natAbs = x := by
  split <;> simp

/-- `UBig` feeds `hashQ` of its value. -/
theorem ubigHash_eq (n : Nat) : ubigHash n = hashQ n 1 := by
  rw [hashQ_one]; unfold ubigHash
  have : ¬ ((n : Int) < 0) := by omega
  simp [this]

/-- `IBig` feeds `hashQ` of its value. -/
theorem ibigHash_eq (i : Int) : ibigHash i = hashQ i 1 := by
  rw [hashQ_one]; exact tmod_M127 i

theorem two_pow_127 : (2 : ZMod M127) ^ 127 = 1 := by
  have h : (2 ^ 127 : Nat) = M127 + 1 := by rw [M127_val]; norm_num
  have := congrArg (Nat.cast : Nat → ZMod M127) h
  rwa [Nat.cast_pow, Nat.cast_ofNat, Nat.cast_add, ZMod.natCast_self, zero_add, Nat.cast_one]
    at this

theorem two_ne_zero_M127 : (2 : ZMod M127) ≠ 0 := by
  have := natCast_ne_zero_of_lt (b := 2) (by norm_num) (by rw [M127_val]; norm_num)
  simpa using this

theorem two_zpow_emod (e : Int) : (2 : ZMod M127) ^ (e % 127) = 2 ^ e := by
  conv_rhs => rw [← Int.emod_add_mul_ediv e 127]
  rw [zpow_add₀ two_ne_zero_M127, zpow_mul]
  have : (2 : ZMod M127) ^ (127 : Int) = 1 := by exact_mod_cast two_pow_127
  rw [this, one_zpow, mul_one]

/-- the base-2 exponent hash `2^(e mod 127) mod M127` is `2^e` in the field -/
theorem two_pow_emod_cast (e : Int) :
    (((2 ^ (e % 127).toNat) % M127 : Nat) : ZMod M127) = (2 : ZMod M127) ^ e := by
  rw [ZMod.natCast_mod, Nat.cast_pow, Nat.cast_ofNat, ← two_zpow_emod e, ← zpow_natCast,
    Int.toNat_of_nonneg (Int.emod_nonneg _ (by norm_num))]

/-- the `expHash` of `floatHash` -/
def floatExpHash (B : Nat) (e : Int) : Nat :=
  if B = 2 then (2 ^ (e % 127).toNat) % M127
  else if e < 0 then invMod (powMod (B % M127) (-e).toNat M127)
  else powMod (B % M127) e.toNat M127

theorem floatHash_unfold (B : Nat) (s e : Int) : floatHash B s e =
    i128NumHash (if Int.tmod s (M127 : Int) < 0
      then -(((Int.tmod s (M127 : Int)).natAbs * floatExpHash B e % M127 : Nat) : Int)
      else (((Int.tmod s (M127 : Int)).natAbs * floatExpHash B e % M127 : Nat) : Int)) := rfl

theorem floatExpHash_cast (B : Nat) (e : Int) :
    ((floatExpHash B e : Nat) : ZMod M127) = ((B : Nat) : ZMod M127) ^ e := by
  unfold floatExpHash
  by_cases h2 : B = 2
  · subst h2
    simp only [if_true]
    rw [two_pow_emod_cast, Nat.cast_ofNat]
  · simp only [h2, if_false]
    by_cases he : e < 0
    · simp only [he, if_true]
      rw [invMod_cast, powMod_eq, ZMod.natCast_mod, Nat.cast_pow, ZMod.natCast_mod]
      have : e = -(((-e).toNat : Nat) : Int) := by omega
      conv_rhs => rw [this, zpow_neg, zpow_natCast]
    · simp only [he, if_false]
      rw [powMod_eq, ZMod.natCast_mod, Nat.cast_pow, ZMod.natCast_mod]
      have : e = ((e.toNat : Nat) : Int) := by omega
      conv_rhs => rw [this, zpow_natCast]

theorem sres_congr' {p q : Prop} [Decidable p] [Decidable q] {z : ZMod M127}
    (h : z ≠ 0 → (p ↔ q)) : sres p z = sres q z := by
  apply sres_congr
  by_cases hz : z = 0
  · exact Or.inr hz
  · exact Or.inl (h hz)

theorem floatHash_sres (B : Nat) (s e : Int) :
    floatHash B s e = sres (s < 0) (((s.natAbs : Nat) : ZMod M127) * ((B : Nat) : ZMod M127) ^ e) := by
  rw [floatHash_unfold, i128NumHash_signed, tmod_M127, natAbs_sg_mul, Nat.cast_mul,
    ZMod.natCast_mod, floatExpHash_cast]
  apply sres_congr'
  intro hz
  have hx : s.natAbs % M127 ≠ 0 := by
    intro hx
    apply hz
    have : ((s.natAbs : Nat) : ZMod M127) = 0 := by
      rw [ZMod.natCast_eq_zero_iff, Nat.dvd_iff_mod_eq_zero]; exact hx
    rw [this, zero_mul]
  by_cases hs : s < 0
  · simp only [hs, if_true, iff_true]; omega
  · simp only [hs, if_false, iff_false]; omega

theorem hashQ_floatFrac {B : Nat} (hB : 0 < B) (s e : Int) :
    hashQ (floatFrac B s e).1 (floatFrac B s e).2
      = sres (s < 0) (((s.natAbs : Nat) : ZMod M127) * ((B : Nat) : ZMod M127) ^ e) := by
  unfold floatFrac
  by_cases he : e < 0
  · simp only [he, if_true]
    rw [hashQ_val, Nat.cast_pow]
    have : e = -(((-e).toNat : Nat) : Int) := by omega
    conv_rhs => rw [this, zpow_neg, zpow_natCast]
  · simp only [he, if_false]
    rw [hashQ_val, Nat.cast_one, inv_one, mul_one]
    have hp : (0 : Int) < (B : Int) ^ e.toNat := pow_pos (by exact_mod_cast hB) _
    have hs : s * (B : Int) ^ e.toNat < 0 ↔ s < 0 := by
      rw [← not_le, ← not_le, mul_nonneg_iff_of_pos_right hp]
    rw [sres_congr (Or.inl hs)]
    congr 1
    rw [Int.natAbs_mul, Int.natAbs_pow, Int.natAbs_natCast, Nat.cast_mul, Nat.cast_pow]
    have : e = ((e.toNat : Nat) : Int) := by omega
    conv_rhs => rw [this, zpow_natCast]

set_option linter.unusedVariables false in
/-- `FBig`/`Repr<B>` feeds `hashQ` of its value `s · B^e`. -/
theorem floatHash_eq {B : Nat} (hB : 2 ≤ B) (hBM : B < M127) (s e : Int) :
    floatHash B s e = hashQ (floatFrac B s e).1 (floatFrac B s e).2 := by
  rw [floatHash_sres, hashQ_floatFrac (by omega)]

theorem not_dvd_one : ¬ M127 ∣ 1 := fun h => absurd (Nat.le_of_dvd Nat.one_pos h) (by
  have := M127_two_le; omega)

/-- the denominator of a float's value is prime to `M127` -/
theorem floatFrac_den_not_dvd {B : Nat} (hB : 2 ≤ B) (hBM : B < M127) (s e : Int) :
    ¬ M127 ∣ (floatFrac B s e).2 := by
  unfold floatFrac
  split
  · intro h
    have := M127_prime.dvd_of_dvd_pow h
    have := Nat.le_of_dvd (by omega) this
    omega
  · exact not_dvd_one

/-- `RBig`/`Relaxed` feed `hashQ` of the stored fraction when `M127 ∤ den`. -/
theorem ratHashPre_eq {n : Int} {d : Nat} (h : ¬ M127 ∣ d) : ratHashPre n d = hashQ n d := by
  have hub : d % M127 ≠ 0 := by rwa [Ne, ← Nat.dvd_iff_mod_eq_zero]
  unfold ratHashPre
  simp only [hub, if_false]
  rw [i128NumHash_signed, hashQ_val, tmod_M127, natAbs_sg_mul, Nat.cast_mul, ZMod.natCast_mod,
    invMod_cast, ZMod.natCast_mod]

/-- below `M127` in magnitude `hashQ · 1` is the identity -/
theorem hashQ_one_of_lt {v : Int} (h : v.natAbs < M127) : hashQ v 1 = v := by
  rw [hashQ_one, Nat.mod_eq_of_lt h]; split <;> omega

/-- primitive integers feed `hashQ` of their value. -/
theorem pintHash_eq (t : PrimInt) (v : Int) (h : t.inRange v = true) :
    numHashFeedPre (.pint t v) = hashQ v 1 := by
  by_cases h64 : t.bits ≤ 64
  · -- at most 64 bits: the value itself is written, and it is below `M127` in magnitude
    have hv : v.natAbs < 2 ^ 64 := by
      have h1 : (2 : Int) ^ (t.bits - 1) ≤ 2 ^ 63 := pow_le_pow_right₀ (by norm_num) (by omega)
      have h2 : (2 : Int) ^ t.bits ≤ 2 ^ 64 := pow_le_pow_right₀ (by norm_num) h64
      unfold PrimInt.inRange at h
      split at h <;> simp only [Bool.and_eq_true, decide_eq_true_eq] at h <;> omega
    have hf : numHashFeedPre (.pint t v) = v := by
      cases t <;> first | rfl | exact absurd h64 (by decide)
    rw [hf, hashQ_one_of_lt (lt_trans hv (by rw [M127_val]; norm_num))]
  · -- `u128`, `i128`: the special values of the two implementations, one by one
    rw [hashQ_one, M127_val]
    cases t <;> try exact absurd (by decide) h64
    all_goals
      simp only [PrimInt.inRange, PrimInt.signed, PrimInt.bits, Bool.and_eq_true, if_true, if_false,
        Bool.false_eq_true] at h
      have h1 := of_decide_eq_true h.1
      have h2 := of_decide_eq_true h.2
      simp only [numHashFeedPre, i128NumHash, u128NumHash, M127_val]
      split_ifs <;> omega

set_option linter.unusedVariables false in
/-- `f32`/`f64` feed `hashQ` of their exact value (num-order shifts a subnormal mantissa left by one
    and keeps the exponent one lower than IEEE; same value). -/
theorem primFloatHash_eq (t : FloatTy) (bits : Nat) (hb : bits < 2 ^ (t.mantBits + t.expBits + 1))
    {m e : Int} (h : decode t bits = .fin m e) :
    primFloatHash t bits = hashQ (floatFrac 2 m e).1 (floatFrac 2 m e).2 := by
  unfold decode at h
  unfold primFloatHash
  simp only [] at h ⊢
  have hsb2 : (bits >>> (t.mantBits + t.expBits)) % 2 < 2 := Nat.mod_lt _ (by norm_num)
  generalize (bits >>> (t.mantBits + t.expBits)) % 2 = sb at h hsb2 ⊢
  generalize (bits >>> t.mantBits) % 2 ^ t.expBits = ex at h ⊢
  have hmant : bits % 2 ^ t.mantBits < 2 ^ t.mantBits := Nat.mod_lt _ (Nat.two_pow_pos _)
  generalize bits % 2 ^ t.mantBits = mant at h hmant ⊢
  by_cases hinf : ex = 2 ^ t.expBits - 1
  · rw [if_pos hinf] at h
    split at h <;> cases h
  · rw [if_neg hinf] at h ⊢
    injection h with hm he
    -- the two sides as signed residues
    have hsb : (sb = 0) ↔ ¬ (sb = 1) := by omega
    simp only [hsb, ite_not]
    rw [i128NumHash_signed, hashQ_floatFrac (by norm_num), Nat.cast_mul, ZMod.natCast_mod,
      two_pow_emod_cast, Nat.cast_ofNat]
    -- the residues agree
    have hz : (((if ex = 0 then mant <<< 1 else mant ||| 2 ^ t.mantBits : Nat) : Nat) : ZMod M127)
        * (2 : ZMod M127) ^ ((ex : Int) - ((t.bias + t.mantBits : Nat) : Int))
        = ((m.natAbs : Nat) : ZMod M127) * (2 : ZMod M127) ^ e := by
      have hna : m.natAbs = if ex = 0 then mant else mant + 2 ^ t.mantBits := by
        rw [← hm]; split <;> simp only [Int.natAbs_neg, Int.natAbs_natCast]
      rw [hna, ← he]
      by_cases h0 : ex = 0
      · simp only [h0, if_true]
        have hee : (1 : Int) - (t.bias : Int) - (t.mantBits : Int)
            = (((0 : Nat) : Int) - ((t.bias + t.mantBits : Nat) : Int)) + 1 := by
          push_cast; ring
        rw [hee, zpow_add_one₀ two_ne_zero_M127, Nat.shiftLeft_eq, pow_one, Nat.cast_mul,
          Nat.cast_ofNat]
        ring
      · simp only [h0, if_false]
        rw [Nat.or_two_pow_eq_add_of_lt hmant]
        congr 2
        push_cast; ring
    rw [hz]
    apply sres_congr'
    intro hne
    have hm0 : m.natAbs ≠ 0 := by
      intro hx; apply hne; rw [hx, Nat.cast_zero, zero_mul]
    generalize (if ex = 0 then mant else mant + 2 ^ t.mantBits : Nat) = mm at hm
    subst hm
    by_cases h1 : sb = 1
    · simp only [h1, if_true, true_iff] at hm0 ⊢; omega
    · simp only [h1, if_false, false_iff] at hm0 ⊢; omega

/-! ## equal values feed equal `i128`s -/

/-- well-formedness of a protocol number for hashing (type invariants of the Rust side, plus
    `M127 ∤ den` for the rationals — see the last section for what happens without it) -/
def Num.HashOKPre : Num → Prop
  | .fbig B _ _ _ => 2 ≤ B ∧ B < M127
  | .rbig _ d => 0 < d ∧ ¬ M127 ∣ d
  | .relaxed _ d => 0 < d ∧ ¬ M127 ∣ d
  | .pint t v => t.inRange v = true
  | .pfloat t bits => bits < 2 ^ (t.mantBits + t.expBits + 1)
  | _ => True

/-- every well-formed finite number feeds `hashQ` of its exact value, whose denominator is prime
    to `M127` -/
theorem numHashFeedPre_eq_hashQ {x : Num} (hx : x.HashOKPre) {n : Int} {d : Nat}
    (vx : x.value = .fin n d) : numHashFeedPre x = hashQ n d ∧ ¬ M127 ∣ d := by
  cases x with
  | ubig a =>
    simp only [Num.value, XVal.fin.injEq] at vx
    obtain ⟨rfl, rfl⟩ := vx
    exact ⟨ubigHash_eq a, not_dvd_one⟩
  | ibig i =>
    simp only [Num.value, XVal.fin.injEq] at vx
    obtain ⟨rfl, rfl⟩ := vx
    exact ⟨ibigHash_eq i, not_dvd_one⟩
  | fbig B s e p =>
    obtain ⟨hB, hBM⟩ := hx
    simp only [Num.value] at vx
    by_cases hs : s = 0
    · subst hs
      simp only [if_true] at vx
      by_cases he : e = 0
      · subst he
        simp only [if_true, XVal.fin.injEq] at vx
        obtain ⟨rfl, rfl⟩ := vx
        refine ⟨?_, not_dvd_one⟩
        have h := floatHash_eq hB hBM 0 0
        have hf : floatFrac B 0 0 = (0, 1) := by simp [floatFrac]
        rw [hf] at h
        exact h
      · simp only [he, if_false] at vx
        split at vx <;> cases vx
    · simp only [hs, if_false, XVal.fin.injEq] at vx
      obtain ⟨rfl, rfl⟩ := vx
      exact ⟨floatHash_eq hB hBM s e, floatFrac_den_not_dvd hB hBM s e⟩
  | rbig a b =>
    simp only [Num.value, XVal.fin.injEq] at vx
    obtain ⟨rfl, rfl⟩ := vx
    exact ⟨ratHashPre_eq hx.2, hx.2⟩
  | relaxed a b =>
    simp only [Num.value, XVal.fin.injEq] at vx
    obtain ⟨rfl, rfl⟩ := vx
    exact ⟨ratHashPre_eq hx.2, hx.2⟩
  | pint t v =>
    simp only [Num.value, XVal.fin.injEq] at vx
    obtain ⟨rfl, rfl⟩ := vx
    exact ⟨pintHash_eq t v hx, not_dvd_one⟩
  | pfloat t b =>
    simp only [Num.value] at vx
    cases hdec : decode t b with
    | nan => rw [hdec] at vx; cases vx
    | inf neg =>
      rw [hdec] at vx
      simp only [decodedValue] at vx
      split at vx <;> cases vx
    | fin m e =>
      rw [hdec] at vx
      simp only [decodedValue, XVal.fin.injEq] at vx
      obtain ⟨rfl, rfl⟩ := vx
      exact ⟨primFloatHash_eq t b hx hdec,
        floatFrac_den_not_dvd (le_refl 2) (by rw [M127_val]; norm_num) m e⟩

/-- two numbers well-formed in the sense of `HashOKPre` (rationals: `M127 ∤ den`) with the same finite value feed the
    same `i128` to the hasher through the stored-parts feed `numHashFeedPre`. -/
theorem numHashPre_value {x y : Num} (hx : x.HashOKPre) (hy : y.HashOKPre) {n1 n2 : Int} {d1 d2 : Nat}
    (vx : x.value = .fin n1 d1) (vy : y.value = .fin n2 d2) (h : n1 * d2 = n2 * d1) :
    numHashFeedPre x = numHashFeedPre y := by
  obtain ⟨e1, nd1⟩ := numHashFeedPre_eq_hashQ hx vx
  obtain ⟨e2, nd2⟩ := numHashFeedPre_eq_hashQ hy vy
  rw [e1, e2]
  exact hashQ_welldef nd1 nd2 h

/-! ## the `M127 ∣ denominator` corner -/

/-- when `M127 ∣ den` the stored-parts rational hash is the constant `0` (both `±INF` constants of
    num-order collapse under `i128::num_hash`) -/
theorem ratHashPre_of_dvd {d : Nat} (h : M127 ∣ d) (n : Int) : ratHashPre n d = 0 := by
  have hub : d % M127 = 0 := Nat.mod_eq_zero_of_dvd h
  unfold ratHashPre
  simp only [hub, if_true]
  unfold i128NumHash
  split <;> simp

theorem ratHashPre_zero (d : Nat) : ratHashPre 0 d = 0 := by
  by_cases h : M127 ∣ d
  · exact ratHashPre_of_dvd h 0
  · rw [ratHashPre_eq h, hashQ_val, Int.natAbs_zero, Nat.cast_zero, zero_mul, sres_zero]

/-- The stored-parts hash is NOT a function of the value: `1/1` and the non-reduced `Relaxed`
    `M127/M127` have the same value (`(1 : Int) * M127 = M127 * 1`) and feed `1` resp. `0`. -/
theorem ratHashPre_corner_counterexample :
    numHashFeedPre (.rbig 1 1) ≠ numHashFeedPre (.relaxed (M127 : Int) M127) := by
  have h1 : numHashFeedPre (.rbig 1 1) = 1 := by
    show ratHashPre 1 1 = 1
    rw [ratHashPre_eq not_dvd_one, hashQ_one, M127_val]
    decide
  have h2 : numHashFeedPre (.relaxed (M127 : Int) M127) = 0 := by
    show ratHashPre (M127 : Int) M127 = 0
    exact ratHashPre_of_dvd (dvd_refl _) _
  rw [h1, h2]
  exact one_ne_zero

/-- the two numbers of `ratHashPre_corner_counterexample` have equal values -/
theorem ratHashPre_corner_same_value :
    (Num.rbig 1 1).value = .fin 1 1 ∧ (Num.relaxed (M127 : Int) M127).value = .fin M127 M127 ∧
      (1 : Int) * (M127 : Nat) = (M127 : Int) * (1 : Nat) :=
  ⟨rfl, rfl, by rw [Nat.cast_one, one_mul, mul_one]⟩

theorem stripM_value' (fuel : Nat) (n : Int) (d : Nat) (hd : 0 < d) :
    (stripM fuel n d).1 * d = n * (stripM fuel n d).2 ∧ 0 < (stripM fuel n d).2 := by
  induction fuel generalizing n d with
  | zero => exact ⟨rfl, hd⟩
  | succ k ih =>
    simp only [stripM]
    split
    · rename_i hc
      obtain ⟨_, hdm, hnm⟩ := hc
      have hdM : d = d / M127 * M127 := (Nat.div_mul_cancel (Nat.dvd_of_mod_eq_zero hdm)).symm
      have hdI : (d : Int) = ((d / M127 : Nat) : Int) * (M127 : Int) := by exact_mod_cast hdM
      have hnM : n = n / (M127 : Int) * (M127 : Int) :=
        (Int.ediv_mul_cancel (Int.dvd_of_emod_eq_zero hnm)).symm
      have hd' : 0 < d / M127 :=
        Nat.div_pos (Nat.le_of_dvd hd (Nat.dvd_of_mod_eq_zero hdm)) M127_pos
      obtain ⟨e1, e2⟩ := ih (n / (M127 : Int)) (d / M127) hd'
      refine ⟨?_, e2⟩
      generalize stripM k (n / (M127 : Int)) (d / M127) = p at e1 e2 ⊢
      generalize n / (M127 : Int) = n' at e1 hnM
      linear_combination (M127 : Int) * e1 + p.1 * hdI - (p.2 : Int) * hnM
    · exact ⟨rfl, hd⟩

/-- stripping common factors `M127` keeps the value (and a positive denominator) -/
theorem stripM_value (fuel : Nat) (n : Int) (d : Nat) (hd : 0 < d) :
    let p := stripM fuel n d; p.1 * d = n * p.2 ∧ 0 < p.2 :=
  stripM_value' fuel n d hd

theorem stripM_done' (fuel : Nat) (n : Int) (d : Nat) (hd : 0 < d) (hf : d < 2 ^ fuel) :
    ¬ ((stripM fuel n d).1 ≠ 0 ∧ M127 ∣ (stripM fuel n d).2 ∧
        (M127 : Int) ∣ (stripM fuel n d).1) := by
  induction fuel generalizing n d with
  | zero => simp only [pow_zero] at hf; omega
  | succ k ih =>
    simp only [stripM]
    split
    · rename_i hc
      obtain ⟨_, hdm, _⟩ := hc
      apply ih
      · exact Nat.div_pos (Nat.le_of_dvd hd (Nat.dvd_of_mod_eq_zero hdm)) M127_pos
      · apply Nat.div_lt_of_lt_mul
        have h2 : 2 * 2 ^ k ≤ M127 * 2 ^ k := Nat.mul_le_mul_right _ M127_two_le
        rw [pow_succ] at hf
        omega
    · rename_i hc
      rintro ⟨h1, h2, h3⟩
      exact hc ⟨h1, Nat.mod_eq_zero_of_dvd h2, Int.emod_eq_zero_of_dvd h3⟩

/-- with `bitLen d` fuel no common factor `M127` is left -/
theorem stripM_done {n : Int} {d : Nat} (hd : 0 < d) :
    let p := stripM (bitLen d) n d; ¬ (p.1 ≠ 0 ∧ M127 ∣ p.2 ∧ (M127 : Int) ∣ p.1) := by
  apply stripM_done' _ n d hd
  unfold bitLen
  rw [if_neg (by omega)]
  exact Nat.lt_log2_self

/-- between two fully stripped representations of one value, `M127` divides one denominator only
    if the value is `0` -/
theorem stripped_dvd_key {a a' : Int} {b b' : Nat} (hb : 0 < b)
    (hd : ¬ (a ≠ 0 ∧ M127 ∣ b ∧ (M127 : Int) ∣ a)) (h : a * b' = a' * b)
    (h1 : M127 ∣ b) (h2 : ¬ M127 ∣ b') : a = 0 ∧ a' = 0 := by
  have ha : a = 0 := by
    by_contra ha
    have hna : ¬ M127 ∣ a.natAbs := fun hh => hd ⟨ha, h1, Int.natCast_dvd.mpr hh⟩
    have habs : a.natAbs * b' = a'.natAbs * b := by
      have := congrArg Int.natAbs h
      simpa [Int.natAbs_mul] using this
    have : M127 ∣ a.natAbs * b' := habs ▸ Dvd.dvd.mul_left h1 _
    rcases (Nat.Prime.dvd_mul M127_prime).mp this with h' | h'
    · exact hna h'
    · exact h2 h'
  refine ⟨ha, ?_⟩
  subst ha
  rw [zero_mul] at h
  have hb' : (b : Int) ≠ 0 := by exact_mod_cast hb.ne'
  rcases mul_eq_zero.mp h.symm with h' | h'
  · exact h'
  · exact absurd h' hb'

theorem ratHashPre_value_of_done {a1 a2 : Int} {b1 b2 : Nat} (hb1 : 0 < b1) (hb2 : 0 < b2)
    (hd1 : ¬ (a1 ≠ 0 ∧ M127 ∣ b1 ∧ (M127 : Int) ∣ a1))
    (hd2 : ¬ (a2 ≠ 0 ∧ M127 ∣ b2 ∧ (M127 : Int) ∣ a2))
    (h : a1 * b2 = a2 * b1) : ratHashPre a1 b1 = ratHashPre a2 b2 := by
  by_cases m1 : M127 ∣ b1 <;> by_cases m2 : M127 ∣ b2
  · rw [ratHashPre_of_dvd m1, ratHashPre_of_dvd m2]
  · obtain ⟨rfl, rfl⟩ := stripped_dvd_key hb1 hd1 h m1 m2
    rw [ratHashPre_zero, ratHashPre_zero]
  · obtain ⟨rfl, rfl⟩ := stripped_dvd_key hb2 hd2 h.symm m2 m1
    rw [ratHashPre_zero, ratHashPre_zero]
  · rw [ratHashPre_eq m1, ratHashPre_eq m2]
    exact hashQ_welldef m1 m2 h

/-- the canonical rational hash is a function of the value, for ALL rationals -/
theorem ratHash_value {n1 n2 : Int} {d1 d2 : Nat} (h1 : 0 < d1) (h2 : 0 < d2)
    (h : n1 * d2 = n2 * d1) : ratHash n1 d1 = ratHash n2 d2 := by
  unfold ratHash
  simp only []
  obtain ⟨e1, p1⟩ := stripM_value' (bitLen d1) n1 d1 h1
  obtain ⟨e2, p2⟩ := stripM_value' (bitLen d2) n2 d2 h2
  have q1 := stripM_done (n := n1) h1
  have q2 := stripM_done (n := n2) h2
  simp only [] at q1 q2
  generalize stripM (bitLen d1) n1 d1 = s1 at e1 p1 q1 ⊢
  generalize stripM (bitLen d2) n2 d2 = s2 at e2 p2 q2 ⊢
  apply ratHashPre_value_of_done p1 p2 q1 q2
  have hdd : ((d1 : Int) * (d2 : Int)) ≠ 0 := by
    have a1 : (d1 : Int) ≠ 0 := by exact_mod_cast h1.ne'
    have a2 : (d2 : Int) ≠ 0 := by exact_mod_cast h2.ne'
    exact mul_ne_zero a1 a2
  apply mul_right_cancel₀ hdd
  linear_combination ((s2.2 : Int) * d2) * e1 - ((s1.2 : Int) * d1) * e2 + ((s1.2 : Int) * s2.2) * h

theorem stripM_id {n : Int} {d : Nat} (h : ¬ (M127 ∣ d ∧ (M127 : Int) ∣ n ∧ n ≠ 0)) (fuel : Nat) :
    stripM fuel n d = (n, d) := by
  cases fuel with
  | zero => rfl
  | succ k =>
    simp only [stripM]
    rw [if_neg]
    rintro ⟨h1, h2, h3⟩
    exact h ⟨Nat.dvd_of_mod_eq_zero h2, Int.dvd_of_emod_eq_zero h3, h1⟩

/-- the canonical rational hash is the stored-parts one unless `M127` divides both stored parts -/
theorem ratHash_eq_ratHashPre {n : Int} {d : Nat}
    (h : ¬ (M127 ∣ d ∧ (M127 : Int) ∣ n ∧ n ≠ 0)) : ratHash n d = ratHashPre n d := by
  unfold ratHash
  simp only [stripM_id h]

/-- well-formedness for the canonical feed: as `Num.HashOKPre`, but any positive denominator -/
def Num.HashOK : Num → Prop
  | .rbig _ d => 0 < d
  | .relaxed _ d => 0 < d
  | x => x.HashOKPre

theorem numHashFeed_eq {x : Num} (hx : x.HashOK) {n : Int} {d : Nat}
    (vx : x.value = .fin n d) : numHashFeed x = ratHash n d ∧ 0 < d := by
  have other : ∀ {y : Num}, y.HashOKPre → y.value = .fin n d → numHashFeed y = numHashFeedPre y →
      numHashFeed y = ratHash n d ∧ 0 < d := by
    intro y hy vy hc
    obtain ⟨e, nd⟩ := numHashFeedPre_eq_hashQ hy vy
    refine ⟨?_, Nat.pos_of_ne_zero fun h0 => nd (h0 ▸ dvd_zero _)⟩
    rw [hc, e, ratHash_eq_ratHashPre (fun hh => nd hh.1), ratHashPre_eq nd]
  cases x with
  | rbig a b =>
    simp only [Num.value, XVal.fin.injEq] at vx
    obtain ⟨rfl, rfl⟩ := vx
    exact ⟨rfl, hx⟩
  | relaxed a b =>
    simp only [Num.value, XVal.fin.injEq] at vx
    obtain ⟨rfl, rfl⟩ := vx
    exact ⟨rfl, hx⟩
  | ubig a => exact other hx vx rfl
  | ibig a => exact other hx vx rfl
  | fbig B s e p => exact other hx vx rfl
  | pint t v => exact other hx vx rfl
  | pfloat t b => exact other hx vx rfl

/-- the canonical feed: two well-formed numbers — rationals with ANY positive denominator —
    with the same finite value feed the same `i128`. -/
theorem numHash_value {x y : Num} (hx : x.HashOK) (hy : y.HashOK)
    {n1 n2 : Int} {d1 d2 : Nat} (vx : x.value = .fin n1 d1) (vy : y.value = .fin n2 d2)
    (h : n1 * d2 = n2 * d1) : numHashFeed x = numHashFeed y := by
  obtain ⟨e1, p1⟩ := numHashFeed_eq hx vx
  obtain ⟨e2, p2⟩ := numHashFeed_eq hy vy
  rw [e1, e2]
  exact ratHash_value p1 p2 h

end Dashu.Model.Cross
