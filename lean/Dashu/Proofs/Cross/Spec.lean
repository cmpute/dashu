import Dashu.Proofs.Cross.Basic
import Mathlib.Algebra.Order.Field.Rat
import Mathlib.Tactic.FieldSimp
/-
  C14 proofs — the specification side (`XVal.cmp`, cross-multiplied fractions) IS the order of the
  exact rationals: `fin n d` denotes `n / d ∈ ℚ` (for floats see `floatFrac_cast`).
-/
namespace Dashu.Model.Cross

/-- the rational denoted by `fin n d` -/
def fracQ (n : Int) (d : Nat) : ℚ := (n : ℚ) / (d : ℚ)

theorem cross_lt_iff {n1 n2 : Int} {d1 d2 : Nat} (h1 : 0 < d1) (h2 : 0 < d2) :
    n1 * (d2 : Int) < n2 * (d1 : Int) ↔ fracQ n1 d1 < fracQ n2 d2 := by
  have p1 : (0 : ℚ) < d1 := by exact_mod_cast h1
  have p2 : (0 : ℚ) < d2 := by exact_mod_cast h2
  unfold fracQ
  rw [div_lt_div_iff₀ p1 p2]
  constructor
  · intro h; exact_mod_cast h
  · intro h; exact_mod_cast h

theorem cross_eq_iff {n1 n2 : Int} {d1 d2 : Nat} (h1 : 0 < d1) (h2 : 0 < d2) :
    n1 * (d2 : Int) = n2 * (d1 : Int) ↔ fracQ n1 d1 = fracQ n2 d2 := by
  have p1 : (d1 : ℚ) ≠ 0 := by exact_mod_cast h1.ne'
  have p2 : (d2 : ℚ) ≠ 0 := by exact_mod_cast h2.ne'
  unfold fracQ
  rw [div_eq_div_iff p1 p2]
  constructor
  · intro h; exact_mod_cast h
  · intro h; exact_mod_cast h

end Dashu.Model.Cross
