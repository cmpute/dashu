import Dashu.Model.Cross.Ord
import Dashu.Proofs.Gen.BitLen
import Mathlib.Analysis.SpecialFunctions.Pow.Real
import Mathlib.Analysis.SpecialFunctions.Log.Base
/-
  C14 proofs — the enclosure hypothesis on the estimate oracle (`lb ≤ log₂ v ≤ ub`, with
  `log₂ 0 = -∞`) and the only fact the comparison code uses about it: bounds that do not overlap
  order the magnitudes.  `IEncl`: the half-open enclosure between two powers of two that bit lengths give.
-/
namespace Dashu.Model.Cross

/-- `2^b ≤ v` -/
def EB.le2 : EB → ℝ → Prop
  | .ninf, _ => True
  | .fin q, v => (2 : ℝ) ^ (q : ℝ) ≤ v
  | .pinf, _ => False

/-- `v ≤ 2^b` -/
def EB.ge2 : EB → ℝ → Prop
  | .ninf, v => v ≤ 0
  | .fin q, v => v ≤ (2 : ℝ) ^ (q : ℝ)
  | .pinf, _ => True

/-- ENCLOSURE HYPOTHESIS: `b.1 ≤ log₂ v ≤ b.2` for a magnitude `v ≥ 0` (`log₂ 0 = -∞`), written
    multiplicatively so that `v = 0` needs no special case. -/
def Encl (v : ℝ) (b : EB × EB) : Prop := b.1.le2 v ∧ b.2.ge2 v

/-- for positive `v` and finite bounds the enclosure is literally `lo ≤ log₂ v ≤ hi` -/
theorem encl_iff_logb {v : ℝ} (hv : 0 < v) (lo hi : ℚ) :
    Encl v (.fin lo, .fin hi) ↔ (lo : ℝ) ≤ Real.logb 2 v ∧ Real.logb 2 v ≤ (hi : ℝ) := by
  unfold Encl EB.le2 EB.ge2
  simp only
  rw [Real.le_logb_iff_rpow_le (by norm_num) hv, Real.logb_le_iff_le_rpow (by norm_num) hv]

/-- finite bounds may be moved outward -/
theorem Encl.mono_fin {v : ℝ} {lo hi lo' hi' : ℚ} (h : Encl v (.fin lo, .fin hi)) (h1 : lo' ≤ lo)
    (h2 : hi ≤ hi') : Encl v (.fin lo', .fin hi') :=
  ⟨le_trans (Real.rpow_le_rpow_of_exponent_le (by norm_num) (by exact_mod_cast h1)) h.1,
   le_trans h.2 (Real.rpow_le_rpow_of_exponent_le (by norm_num) (by exact_mod_cast h2))⟩

/-- a zero magnitude is enclosed exactly by a lower bound `-∞` (what `log2_bounds` returns) -/
theorem encl_zero_iff (b : EB × EB) : Encl 0 b ↔ b.1 = .ninf ∧ b.2.ge2 0 := by
  unfold Encl
  constructor
  · rintro ⟨h1, h2⟩
    refine ⟨?_, h2⟩
    cases hb : b.1 with
    | ninf => rfl
    | fin q => rw [hb] at h1; exact absurd h1 (not_le.2 (Real.rpow_pos_of_pos (by norm_num) _))
    | pinf => rw [hb] at h1; exact h1.elim
  · rintro ⟨h1, h2⟩
    exact ⟨by rw [h1]; trivial, h2⟩

/-- THE filter fact: if the upper bound of one magnitude is below the lower bound of another,
    the magnitudes are ordered that way. -/
theorem Encl.sep {v1 v2 : ℝ} {b1 b2 : EB × EB} (h1 : Encl v1 b1) (h2 : Encl v2 b2)
    (h : EB.lt b1.2 b2.1 = true) : v1 < v2 := by
  obtain ⟨_, hhi⟩ := h1
  obtain ⟨hlo, _⟩ := h2
  cases hb1 : b1.2 with
  | ninf =>
    rw [hb1] at hhi h
    cases hb2 : b2.1 with
    | ninf => rw [hb2] at h; simp [EB.lt] at h
    | fin q =>
      rw [hb2] at hlo
      exact lt_of_le_of_lt hhi (lt_of_lt_of_le (Real.rpow_pos_of_pos (by norm_num) _) hlo)
    | pinf => rw [hb2] at hlo; exact hlo.elim
  | fin a =>
    rw [hb1] at hhi h
    cases hb2 : b2.1 with
    | ninf => rw [hb2] at h; simp [EB.lt] at h
    | fin q =>
      rw [hb2] at hlo h
      have hq : a < q := by simpa [EB.lt] using h
      have : (2 : ℝ) ^ (a : ℝ) < (2 : ℝ) ^ (q : ℝ) :=
        Real.rpow_lt_rpow_of_exponent_lt (by norm_num) (by exact_mod_cast hq)
      exact lt_of_le_of_lt hhi (lt_of_lt_of_le this hlo)
    | pinf => rw [hb2] at hlo; exact hlo.elim
  | pinf =>
    rw [hb1] at h
    cases hb2 : b2.1 <;> rw [hb2] at h <;> simp [EB.lt] at h

theorem two_zpow_pos (L : Int) : (0 : ℝ) < (2 : ℝ) ^ L := zpow_pos (by norm_num) L

theorem two_zpow_mono {a b : Int} (h : a ≤ b) : (2 : ℝ) ^ a ≤ (2 : ℝ) ^ b :=
  zpow_le_zpow_right₀ (by norm_num) h

theorem two_zpow_add (a b : Int) : (2 : ℝ) ^ (a + b) = (2 : ℝ) ^ a * (2 : ℝ) ^ b :=
  zpow_add₀ (by norm_num) a b

/-- `2^lo ≤ v < 2^hi`: what bit lengths say about a magnitude.  Half-open: the bit-length shortcuts of the code test
    `hi₁ ≤ lo₂`, not `hi₁ < lo₂`, and are sound for that reason only. -/
def IEncl (v : ℝ) (lo hi : Int) : Prop := (2 : ℝ) ^ lo ≤ v ∧ v < (2 : ℝ) ^ hi

namespace IEncl
variable {v v1 v2 a b : ℝ} {lo hi l1 u1 l2 u2 : Int}

theorem pos (h : IEncl v lo hi) : 0 < v := lt_of_lt_of_le (two_zpow_pos lo) h.1

/-- enclosures that do not overlap order the magnitudes -/
theorem sep (h1 : IEncl v1 l1 u1) (h2 : IEncl v2 l2 u2) (h : u1 ≤ l2) : v1 < v2 :=
  lt_of_lt_of_le h1.2 (le_trans (two_zpow_mono h) h2.1)

theorem nat {n : Nat} (h : n ≠ 0) : IEncl (n : ℝ) ((bitLen n : Int) - 1) (bitLen n) := by
  have hp : 0 < bitLen n := Dashu.Proofs.Gen.blen_pos h
  have e : ((bitLen n : Int) - 1) = ((bitLen n - 1 : Nat) : Int) := by omega
  rw [IEncl, e, zpow_natCast, zpow_natCast]
  exact ⟨by exact_mod_cast Dashu.Proofs.Gen.two_pow_blen_le h, by exact_mod_cast Dashu.Proofs.Gen.lt_two_pow_blen n⟩

theorem int {s : Int} (h : s ≠ 0) : IEncl |(s : ℝ)| ((bitLen s.natAbs : Int) - 1) (bitLen s.natAbs) := by
  rw [← Int.cast_abs, Int.abs_eq_natAbs, Int.cast_natCast]
  exact nat (Int.natAbs_ne_zero.2 h)

/-- scaling by a factor between two powers of two (either bound may be attained) -/
theorem mul (h : IEncl a l1 u1) {c : ℝ} (h1 : (2 : ℝ) ^ l2 ≤ c) (h2 : c ≤ (2 : ℝ) ^ u2) :
    IEncl (a * c) (l1 + l2) (u1 + u2) := by
  have hc : 0 < c := lt_of_lt_of_le (two_zpow_pos l2) h1
  rw [IEncl, two_zpow_add, two_zpow_add]
  exact ⟨mul_le_mul h.1 h1 (two_zpow_pos _).le h.pos.le, mul_lt_mul h.2 h2 hc (two_zpow_pos _).le⟩

theorem div (h1 : IEncl a l1 u1) (h2 : IEncl b l2 u2) : IEncl (a / b) (l1 - u2) (u1 - l2) := by
  rw [div_eq_mul_inv, sub_eq_add_neg, sub_eq_add_neg]
  refine h1.mul ?_ ?_
  · rw [zpow_neg]; exact inv_anti₀ h2.pos h2.2.le
  · rw [zpow_neg]; exact inv_anti₀ (two_zpow_pos _) h2.1

/-- a fraction `|n| / d`: the bounds of `ratBounds`, and of step 3 of `repr_cmp` -/
theorem rat {n : Int} (hn : n ≠ 0) {d : Nat} (hd : 0 < d) :
    IEncl (|(n : ℝ)| / (d : ℝ)) ((bitLen n.natAbs : Int) - 1 - bitLen d)
      ((bitLen n.natAbs : Int) - ((bitLen d : Int) - 1)) :=
  (int hn).div (nat (by omega))

/-- as an enclosure of `log₂` in the oracle's sense -/
theorem toEncl (h : IEncl v lo hi) : Encl v (.fin lo, .fin hi) := by
  unfold Encl EB.le2 EB.ge2
  simp only [Rat.cast_intCast, Real.rpow_intCast]
  exact ⟨h.1, h.2.le⟩

end IEncl

/-- quotient of two enclosed magnitudes -/
theorem Encl.div {a b : ℝ} {l1 u1 l2 u2 : ℚ} (ha : 0 < a) (hb : 0 < b) (h1 : Encl a (.fin l1, .fin u1))
    (h2 : Encl b (.fin l2, .fin u2)) : Encl (a / b) (.fin (l1 - u2), .fin (u1 - l2)) := by
  rw [encl_iff_logb ha] at h1
  rw [encl_iff_logb hb] at h2
  rw [encl_iff_logb (div_pos ha hb), Real.logb_div ha.ne' hb.ne']
  push_cast
  constructor <;> linarith [h1.1, h1.2, h2.1, h2.2]

end Dashu.Model.Cross
