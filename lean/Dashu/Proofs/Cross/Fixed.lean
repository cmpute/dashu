import Dashu.Proofs.Cross.BitLen
/-
  C14 proofs — `NumOrd<f32/f64>` for UBig, IBig, Repr<B> (FBig) and rational Repr in the CURRENT code
  (after fixes 8a8c152, d12bb0c, 318bce3): full correctness.  The steps the current code shares with the
  pre-fix code (`Model/Cross/Pre.lean`) are proved once in `BitLen.lean` (`ibig_steps35`, `rat_vs_dec_sep`,
  `reprNumOrdFloat_fin`); here the early return for a zero operand, which the fixes added, is the one further case.
-/
namespace Dashu.Model.Cross

/-- `NumOrd<f32/f64> for IBig`: the order of the exact values (`none` iff NaN) -/
theorem ibigNumOrdFloat_spec (t : FloatTy) (x : Int) (d : Decoded) (hr : d.InRange t) :
    ibigNumOrdFloat t x d = XVal.cmp (.fin x 1) (decodedValue d) := by
  cases d with
  | nan => rfl
  | inf neg =>
    rcases lt_or_ge x 0 with hx | hx
    · cases neg <;> simp [ibigNumOrdFloat, signMatch, Sign.ofInt_neg.2 hx, decodedValue, XVal.cmp, Sign.app]
    · cases neg <;> simp [ibigNumOrdFloat, signMatch, Sign.ofInt_pos.2 hx, decodedValue, XVal.cmp, Sign.app]
  | fin man exp =>
    unfold ibigNumOrdFloat
    refine numOrd_steps01 (x := x) Nat.one_pos rfl man exp Iff.rfl fun h0 sg hm hzero => ?_
    by_cases hx : x = 0
    · rw [if_pos hx, hx, zero_mul]
      exact congrArg some
        (Int.compare_eq_lt.2 (mul_pos (floatFrac_num_pos le_rfl exp (hzero hx)) (Int.natCast_pos.2 Nat.one_pos))).symm
    · rw [if_neg hx]; exact ibig_steps35 t x h0 exp hr hm fun h => absurd h hx

/-- `NumOrd<f32/f64> for UBig` is the `IBig` impl at a non-negative left operand -/
theorem ubigNumOrdFloat_eq_ibig (t : FloatTy) (x : Nat) (d : Decoded) :
    ubigNumOrdFloat t x d = ibigNumOrdFloat t x d := by
  unfold ubigNumOrdFloat ibigNumOrdFloat
  rw [Sign.ofInt_pos.2 (Int.natCast_nonneg x)]
  cases d with
  | nan => rfl
  | inf neg => cases neg <;> rfl
  | fin man exp =>
    dsimp only
    simp only [Int.natAbs_natCast, Int.natCast_eq_zero]
    by_cases h0 : man = 0
    · rw [if_pos h0, if_pos h0]; rfl
    · rw [if_neg h0, if_neg h0]
      rcases lt_or_ge man 0 with h | h
      · rw [if_pos h, Sign.ofInt_neg.2 h]; rfl
      · rw [if_neg (not_lt.2 h), Sign.ofInt_pos.2 h, Int.natAbs_of_nonneg h]; rfl

/-- `NumOrd<f32/f64> for UBig`: the order of the exact values (`none` iff NaN) -/
theorem ubigNumOrdFloat_spec (t : FloatTy) (x : Nat) (d : Decoded) (hr : d.InRange t) :
    ubigNumOrdFloat t x d = XVal.cmp (.fin (x : Int) 1) (decodedValue d) := by
  rw [ubigNumOrdFloat_eq_ibig]; exact ibigNumOrdFloat_spec t x d hr

/-- `NumOrd<f32/f64> for Repr<B>` (FBig): the order of the exact values (`none` iff NaN) -/
theorem reprNumOrdFloat_spec (t : FloatTy) {B : Nat} (hB : 2 ≤ B) (s e : Int) (p : Nat) (d : Decoded)
    (hr : d.InRange t) :
    reprNumOrdFloat t B s e d = XVal.cmp (Num.fbig B s e p).value (decodedValue d) := by
  cases d with
  | nan => exact reprNumOrdFloatPre_partial t hB s e p _ hr (fun m e' he => by cases he)
  | inf neg => exact reprNumOrdFloatPre_partial t hB s e p _ hr (fun m e' he => by cases he)
  | fin man exp => exact reprNumOrdFloat_fin true t hB s e p man exp hr fun h => absurd h (by decide)

/-- `NumOrd<f32/f64> for Repr` (RBig, Relaxed): the order of the exact values (`none` iff NaN) -/
theorem ratNumOrdFloat_spec (t : FloatTy) (n : Int) {dn : Nat} (hd : 0 < dn) (d : Decoded)
    (hr : d.InRange t) :
    ratNumOrdFloat t n dn d = XVal.cmp (.fin n dn) (decodedValue d) := by
  cases d with
  | nan => rfl
  | inf neg => cases neg <;> rfl
  | fin man exp =>
    have hr' : (bitLen man.natAbs : Int) + exp ≤ t.maxExp := hr
    unfold ratNumOrdFloat
    refine numOrd_steps01 (x := n) hd rfl man exp Iff.rfl fun h0 sg hm hzero => ?_
    by_cases hx : n = 0
    · rw [if_pos hx, hx, zero_mul]
      exact congrArg some (Int.compare_eq_lt.2 (mul_pos (floatFrac_num_pos le_rfl exp (hzero hx)) (Int.natCast_pos.2 hd))).symm
    · rw [if_neg hx]
      obtain ⟨sgt, slt⟩ := rat_vs_dec_sep hd h0 exp fun h => absurd h hx
      exact lu_skeleton hd (floatFrac_den_pos (le_refl 2) man exp) hm (by have := maxExp_le t; omega) sgt slt
        (rat_exact_eq n dn man exp)

end Dashu.Model.Cross
