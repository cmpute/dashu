import Dashu.Proofs.Cross.Basic
import Dashu.Proofs.Gen.BitLen
import Dashu.Model.Cross.Oracle
/-
  C14 proofs — the two oracles the driver instantiates satisfy the enclosure hypothesis
  (`Oracle.Sound`), so the theorems of `Props/C14` apply to what the driver runs.
-/
namespace Dashu.Model.Cross
open Real

theorem logb_bitLen {n : Nat} (h : n ≠ 0) :
    ((bitLen n : ℝ) - 1) ≤ logb 2 (n : ℝ) ∧ logb 2 (n : ℝ) ≤ (bitLen n : ℝ) := by
  have := (encl_iff_logb (IEncl.nat h).pos _ _).1 (IEncl.nat h).toEncl
  push_cast at this
  exact this

theorem natBounds_encl (n : Nat) : Encl (n : ℝ) (natBounds n) := by
  unfold natBounds
  split
  · subst_vars; simp [Encl, EB.le2, EB.ge2]
  · rename_i h; exact_mod_cast (IEncl.nat h).toEncl

theorem ratBounds_encl (n : Int) (d : Nat) (hd : 0 < d) : Encl (ratMag n d) (ratBounds n d) := by
  unfold ratBounds ratMag
  split
  · subst_vars; simp [Encl, EB.le2, EB.ge2]
  · rename_i h; exact_mod_cast (IEncl.rat h hd).toEncl

/-- `(L-1)/P ≤ log₂ B ≤ L/P` for `L = bitLen (B^P)` -/
theorem log2BaseBounds_spec {B : Nat} (hB : 2 ≤ B) :
    ((log2BaseBounds B).1 : ℝ) ≤ logb 2 (B : ℝ) ∧ logb 2 (B : ℝ) ≤ ((log2BaseBounds B).2 : ℝ) := by
  unfold log2BaseBounds
  have hP : (0 : ℝ) < (logBPrec : ℝ) := by unfold logBPrec; norm_num
  have hne : B ^ logBPrec ≠ 0 := by positivity
  have h := logb_bitLen hne
  have hpow : logb 2 (((B ^ logBPrec : Nat)) : ℝ) = (logBPrec : ℝ) * logb 2 (B : ℝ) := by
    push_cast
    rw [logb_pow]
  rw [hpow] at h
  push_cast
  constructor
  · rw [div_le_iff₀ hP]; linarith [h.1]
  · rw [le_div_iff₀ hP]; linarith [h.2]

theorem fltBounds_encl (B : Nat) (s e : Int) (hB : 2 ≤ B) : Encl (fltMag B s e) (fltBounds B s e) := by
  unfold fltBounds fltMag
  split
  · subst_vars; simp [Encl, EB.le2, EB.ge2]
  · rename_i h
    have hs0 : s.natAbs ≠ 0 := by simpa using h
    have hs : (0 : ℝ) < |(s : ℝ)| := by positivity
    have hBpos : (0 : ℝ) < B := by exact_mod_cast (by omega : 0 < B)
    have hpow : (0 : ℝ) < (B : ℝ) ^ e := zpow_pos hBpos e
    have hlog : logb 2 (|(s : ℝ)| * (B : ℝ) ^ e) = logb 2 |(s : ℝ)| + (e : ℝ) * logb 2 (B : ℝ) := by
      rw [logb_mul hs.ne' hpow.ne']
      congr 1
      simp only [logb, log_zpow]
      ring
    have h1 := logb_bitLen hs0
    rw [Nat.cast_natAbs, Int.cast_abs] at h1
    obtain ⟨hl, hu⟩ := log2BaseBounds_spec hB
    split
    · rename_i he
      have he' : (0 : ℝ) ≤ (e : ℝ) := by exact_mod_cast he
      rw [encl_iff_logb (by positivity), hlog]
      push_cast
      have a := mul_le_mul_of_nonneg_left hl he'
      have b := mul_le_mul_of_nonneg_left hu he'
      constructor <;> linarith [h1.1, h1.2]
    · rename_i he
      have he' : (e : ℝ) ≤ 0 := by exact_mod_cast (by omega : e ≤ 0)
      rw [encl_iff_logb (by positivity), hlog]
      push_cast
      have a := mul_le_mul_of_nonpos_left hl he'
      have b := mul_le_mul_of_nonpos_left hu he'
      constructor <;> linarith [h1.1, h1.2]

theorem digitsUbCoarse_spec (B : Nat) (s : Int) (hB : 2 ≤ B) : s.natAbs < B ^ digitsUbCoarse B s := by
  unfold digitsUbCoarse
  have hBne : B ≠ 0 := by omega
  have hw : 1 ≤ bitLen B - 1 := by
    have : 2 ^ 1 ≤ B := by simpa using hB
    have h2 := Dashu.Proofs.Gen.lt_two_pow_blen B
    have : 1 < bitLen B := (Nat.pow_lt_pow_iff_right (by norm_num : 1 < 2)).1 (lt_of_le_of_lt this h2)
    omega
  set w := bitLen B - 1 with hwdef
  set bl := bitLen s.natAbs with hbl
  set k := (bl + w - 1) / w with hk
  have hkw : bl ≤ w * k := by
    have h1 := Nat.div_add_mod (bl + w - 1) w
    have h2 := Nat.mod_lt (bl + w - 1) (by omega : 0 < w)
    rw [← hk] at h1
    omega
  calc s.natAbs < 2 ^ bl := Dashu.Proofs.Gen.lt_two_pow_blen _
    _ ≤ 2 ^ (w * k) := Nat.pow_le_pow_right (by norm_num) hkw
    _ = (2 ^ w) ^ k := by rw [pow_mul]
    _ ≤ B ^ k := Nat.pow_le_pow_left (Dashu.Proofs.Gen.two_pow_blen_le hBne) k

/-- the bit-length oracle used by the driver satisfies the enclosure hypothesis -/
theorem Oracle.coarse_sound : Oracle.coarse.Sound where
  nat := natBounds_encl
  flt := fun B s e hB => fltBounds_encl B s e hB
  rat := fun n d hd => ratBounds_encl n d hd
  digits := fun B s hB => digitsUbCoarse_spec B s hB

/-- the never-filtering oracle (exact path only) satisfies the enclosure hypothesis -/
theorem Oracle.noFilter_sound : Oracle.noFilter.Sound where
  nat := fun _ => by simp [Oracle.noFilter, Encl, EB.le2, EB.ge2]
  flt := fun _ _ _ _ => by simp [Oracle.noFilter, Encl, EB.le2, EB.ge2]
  rat := fun _ _ _ => by simp [Oracle.noFilter, Encl, EB.le2, EB.ge2]
  digits := fun B s hB => by
    show s.natAbs < B ^ (bitLen s.natAbs + 1)
    calc s.natAbs < 2 ^ bitLen s.natAbs := Dashu.Proofs.Gen.lt_two_pow_blen _
      _ ≤ 2 ^ (bitLen s.natAbs + 1) := Nat.pow_le_pow_right (by norm_num) (by omega)
      _ ≤ B ^ (bitLen s.natAbs + 1) := Nat.pow_le_pow_left hB _

end Dashu.Model.Cross
