import Dashu.Model.Cross.Ord
import Dashu.Model.Int.Cmp
/-
  C05 and C14 each model the same-type comparisons of `float/src/cmp.rs` and `rational/src/cmp.rs` (`Model/Int/Cmp.lean` without
  the `ABS` flag, `Model/Cross/Ord.lean` with it).  At `ABS = false` the two texts are the same function, for all inputs: the
  theorems of C05 carry over to C14 (`Proofs/Cross/BitLen.lean`, `SameBase.lean`), and one regenerated text is tied to both (`Props/GenRatCmp`,
  `Props/GenFloatCmp`).  Core Lean only.
-/
namespace Dashu.Model.Cross

/-- `repr_cmp::<false>` (rational): the four sign cases, then the same text -/
theorem ratReprCmp_eq_reprCmp (n1 : Int) (d1 : Nat) (n2 : Int) (d2 : Nat) :
    ratReprCmp false n1 d1 n2 d2 = Model.reprCmp ⟨n1, d1⟩ ⟨n2, d2⟩ := by
  unfold ratReprCmp Model.reprCmp
  by_cases h1 : n1 < 0 <;> by_cases h2 : n2 < 0 <;>
    simp only [h1, h2, signMatch, Sign.ofInt, decide_true, decide_false, Bool.not_true, Bool.not_false, Bool.and_self,
      Bool.and_true, Bool.and_false, Bool.false_eq_true, if_true, if_false] <;> rfl

/-- `repr_eq::<false>` -/
theorem ratReprEq_eq_reprEq (n1 : Int) (d1 : Nat) (n2 : Int) (d2 : Nat) :
    ratReprEq false n1 d1 n2 d2 = Model.reprEq ⟨n1, d1⟩ ⟨n2, d2⟩ := by
  unfold ratReprEq Model.reprEq
  by_cases h1 : n1 < 0 <;> by_cases h2 : n2 < 0 <;>
    simp only [h1, h2, Sign.ofInt, decide_true, decide_false, Bool.not_false, Bool.true_and, bne_self_eq_false,
      Bool.false_eq_true, if_true, if_false, reduceCtorEq, bne_iff_ne, ne_eq, not_false_eq_true,
      Bool.bne_true, Bool.bne_false] <;> rfl

/-- `repr_cmp_same_base::<B, false>` -/
theorem reprCmpSameBase_eq_c05 (o : Oracle) (B : Nat) (ls le rs re : Int) (prec : Option (Nat × Nat)) :
    reprCmpSameBase o false B ls le rs re prec
      = Model.reprCmpSameBase B (o.digitsUb B) ⟨ls, le⟩ ⟨rs, re⟩ prec := by
  unfold reprCmpSameBase Model.reprCmpSameBase
  simp only [show ∀ s e, FRepr.isInfinite ⟨s, e⟩ = fIsInf s e from fun _ _ => rfl,
    show ∀ s e, FRepr.isZero ⟨s, e⟩ = fIsZero s e from fun _ _ => rfl, show cmpIsizeMax = isizeMax from rfl,
    cmpCase4, cmpCase56, cmpCase6, shlDigits, Bool.false_eq_true, if_false, Bool.false_or, decide_eq_true_eq]
  cases fIsInf ls le <;> cases fIsInf rs re <;>
    simp only [Bool.and_true, Bool.and_false, Bool.and_self, if_true, if_false, Bool.false_eq_true]
  -- equal signs leave the same text on both sides
  by_cases h5 : ls < 0 <;> by_cases h6 : rs < 0 <;>
    simp only [h5, h6, signMatch, Sign.ofInt, Sign.app, mulOrd, decide_true, decide_false, Bool.not_true,
      Bool.not_false, Bool.and_self, Bool.and_false, Bool.and_true, Bool.false_eq_true, if_true, if_false]
  all_goals rfl

end Dashu.Model.Cross
