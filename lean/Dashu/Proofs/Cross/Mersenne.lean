import Dashu.Proofs.Cross.HashProofs
import Dashu.Model.Cross.Mersenne
/-
  C14 proofs — the executable mirror of `num_modular::FixedMersenneInt<127, 1>`
  (`Model/Cross/Mersenne.lean`) computes exactly the specification-level residue arithmetic of
  `Model/Cross/Hash.lean`:

  * `reduce_single` is `% M127` for every input; the two unrolled folds of the `udouble`
    `reduce_double` suffice below `2^254` (and no intermediate sum leaves `u128`);
  * `mul`, `sqr`, binary `pow` are the modular product / square / power on reduced operands;
  * `u128::invm` (extended Euclid) returns THE inverse in `[0, M127)`, `None` exactly at `0`;
  * hence the `NumHash` impls expressed through these operations (`…M`) never panic on well-formed
    input and feed exactly the `i128` of the specification-level `numHashFeed`.

  Trap: `inv_zero` below is `Dashu.Model.Cross.inv_zero`; inside that namespace it hides Mathlib's `inv_zero`
  (`0⁻¹ = 0`, which `HashProofs.lean` uses): write `_root_.inv_zero` there.
-/
namespace Dashu.Model.Cross
open Mersenne

/-! ## constants -/

theorem modulus_eq_M127 : Mersenne.MODULUS = M127 := rfl
theorem TWO_P_val : Mersenne.TWO_P = 2 ^ 127 := rfl
theorem TWO_P_eq : Mersenne.TWO_P = M127 + 1 := by
  unfold Mersenne.TWO_P M127; omega

/-! ## `reduce_single` -/

/-- the fold loop keeps `(hi * 2^127 + lo) mod M127` (because `2^127 ≡ 1`) and ends below `2^127` -/
theorem foldLoop_spec (lo hi : Nat) : lo < 2 ^ 127 →
    Mersenne.foldLoop lo hi < 2 ^ 127 ∧
      Mersenne.foldLoop lo hi % M127 = (hi * 2 ^ 127 + lo) % M127 := by
  induction lo, hi using Mersenne.foldLoop.induct with
  | case1 lo =>
    intro hlo
    rw [Mersenne.foldLoop, if_pos rfl]
    exact ⟨hlo, by simp⟩
  | case2 lo hi h ih =>
    intro _
    rw [Mersenne.foldLoop, if_neg h]
    have h1 : (hi + lo) % TWO_P < 2 ^ 127 := by unfold TWO_P; omega
    obtain ⟨i1, i2⟩ := ih h1
    refine ⟨i1, ?_⟩
    rw [i2]
    unfold TWO_P M127
    omega

/-- the final conditional subtraction maps `[0, 2^127)` onto the canonical residues -/
theorem finish_spec {l : Nat} (hl : l < 2 ^ 127) : Mersenne.finish l = l % M127 := by
  unfold Mersenne.finish Mersenne.MODULUS M127
  split <;> omega

/-- `reduce_single` is reduction modulo `M127`, for every input. -/
theorem reduceSingle_eq (v : Nat) : Mersenne.reduceSingle v = v % M127 := by
  unfold Mersenne.reduceSingle
  have h1 : v % TWO_P < 2 ^ 127 := by unfold TWO_P; omega
  obtain ⟨i1, i2⟩ := foldLoop_spec (v % TWO_P) (v / TWO_P) h1
  rw [finish_spec i1, i2]
  unfold TWO_P M127
  omega

theorem reduceSingle_lt (v : Nat) : Mersenne.reduceSingle v < M127 := by
  rw [reduceSingle_eq]; exact Nat.mod_lt _ M127_pos

theorem reduceSingle_of_lt {v : Nat} (h : v < M127) : Mersenne.reduceSingle v = v := by
  rw [reduceSingle_eq, Nat.mod_eq_of_lt h]

/-! ## `reduce_double` -/

/-- phase 1 (`while hi.hi > 0`) does nothing when the high word fits `u128` -/
theorem phase1_noop {lo hi : Nat} (h : hi < 2 ^ 128) : Mersenne.phase1 lo hi = (lo, hi) := by
  rw [Mersenne.phase1, if_pos h]

/-- machine-overflow freedom of `reduce_double` below `2^254`: phase 1 is not entered, both
    unrolled sums fit `u128` (indeed `s1 ≤ 2^128 - 2`, and `s2 < 2^127`: the carry after the second
    fold is `0`, so two folds suffice) -/
theorem reduceDouble_no_overflow {v : Nat} (hv : v < 2 ^ 254) :
    let lo := v % Mersenne.TWO_P
    let hi := v / Mersenne.TWO_P
    let s1 := hi + lo
    let s2 := s1 / Mersenne.TWO_P + s1 % Mersenne.TWO_P
    lo < 2 ^ 127 ∧ hi < 2 ^ 127 ∧ Mersenne.phase1 lo hi = (lo, hi) ∧
      s1 ≤ 2 ^ 128 - 2 ∧ s1 < 2 ^ 128 ∧ s1 / Mersenne.TWO_P ≤ 1 ∧ s2 < 2 ^ 127 ∧
      s2 / Mersenne.TWO_P = 0 := by
  intro lo hi s1 s2
  -- once `lo, hi < 2^127` are known, `v` plays no further part
  have hlo : lo < 2 ^ 127 := Nat.mod_lt _ (Nat.two_pow_pos 127)
  have hhi : hi < 2 ^ 127 := Nat.div_lt_of_lt_mul hv
  have e3 : s1 = hi + lo := rfl
  have e4 : s2 = s1 / 2 ^ 127 + s1 % 2 ^ 127 := rfl
  have hp : Mersenne.phase1 lo hi = (lo, hi) := phase1_noop (by omega)
  rw [TWO_P_val]
  clear_value s2 s1 hi lo
  refine ⟨hlo, hhi, hp, ?_, ?_, ?_, ?_, ?_⟩ <;> omega

/-- the `udouble` `reduce_double` (two unrolled folds) is reduction modulo `M127` below `2^254`. -/
theorem reduceDouble_eq {v : Nat} (hv : v < 2 ^ 254) : Mersenne.reduceDouble v = v % M127 := by
  obtain ⟨_, _, hp, _, _, _, hs2, _⟩ := reduceDouble_no_overflow hv
  unfold Mersenne.reduceDouble
  simp only [hp]
  have hs2' : ((v / TWO_P + v % TWO_P) / TWO_P + (v / TWO_P + v % TWO_P) % TWO_P) % TWO_P
      = (v / TWO_P + v % TWO_P) / TWO_P + (v / TWO_P + v % TWO_P) % TWO_P := by
    apply Nat.mod_eq_of_lt
    rw [TWO_P_val] at hs2 ⊢
    exact hs2
  rw [hs2', finish_spec hs2]
  unfold TWO_P M127
  omega

theorem reduceDouble_lt {v : Nat} (hv : v < 2 ^ 254) : Mersenne.reduceDouble v < M127 := by
  rw [reduceDouble_eq hv]; exact Nat.mod_lt _ M127_pos

/-! ## `mul`, `sqr` -/

theorem mul_lt_254 {a b : Nat} (ha : a < M127) (hb : b < M127) : a * b < 2 ^ 254 := by
  have h1 : a * b < M127 * M127 := Nat.mul_lt_mul'' ha hb
  have h2 : M127 * M127 < 2 ^ 254 := by decide
  omega

/-- `Reducer::mul` on reduced operands -/
theorem mul_eq {a b : Nat} (ha : a < M127) (hb : b < M127) : Mersenne.mul a b = a * b % M127 :=
  reduceDouble_eq (mul_lt_254 ha hb)

/-- `Reducer::sqr` on a reduced operand -/
theorem sqr_eq {a : Nat} (ha : a < M127) : Mersenne.sqr a = a * a % M127 :=
  reduceDouble_eq (mul_lt_254 ha ha)

theorem mul_lt {a b : Nat} (ha : a < M127) (hb : b < M127) : Mersenne.mul a b < M127 := by
  rw [mul_eq ha hb]; exact Nat.mod_lt _ M127_pos

theorem sqr_lt {a : Nat} (ha : a < M127) : Mersenne.sqr a < M127 := by
  rw [sqr_eq ha]; exact Nat.mod_lt _ M127_pos

/-! ## `pow` -/

/-- loop invariant of the binary power -/
theorem powLoop_spec (multi exp result : Nat) : multi < M127 → result < M127 →
    Mersenne.powLoop multi exp result = result * multi ^ exp % M127 := by
  induction multi, exp, result using Mersenne.powLoop.induct with
  | case1 multi result =>
    intro _ hr
    rw [Mersenne.powLoop, if_pos rfl, pow_zero, mul_one, Nat.mod_eq_of_lt hr]
  | case2 multi exp result h ih =>
    intro hm hr
    rw [Mersenne.powLoop, if_neg h]
    have hr' : (if exp % 2 = 1 then Mersenne.mul result multi else result) < M127 := by
      split
      · exact mul_lt hr hm
      · exact hr
    simp only [dite_eq_ite] at ih
    rw [ih (sqr_lt hm) hr', sqr_eq hm]
    have hpow : multi ^ exp = (multi * multi) ^ (exp / 2) * multi ^ (exp % 2) := by
      rw [← pow_two, ← pow_mul, ← pow_add]; congr 1; omega
    rw [hpow]
    by_cases h1 : exp % 2 = 1
    · rw [if_pos h1, mul_eq hr hm, h1, pow_one]
      conv_lhs => rw [Nat.mul_mod, Nat.mod_mod, Nat.pow_mod, Nat.mod_mod, ← Nat.pow_mod, ← Nat.mul_mod]
      congr 1
      ring
    · have h2 : exp % 2 = 0 := by omega
      rw [if_neg h1, h2, pow_zero, mul_one]
      conv_lhs => rw [Nat.mul_mod, Nat.pow_mod, Nat.mod_mod, ← Nat.pow_mod, ← Nat.mul_mod]

/-- `Reducer::pow` on a reduced base (with its `exp = 1`, `exp = 2` shortcuts) -/
theorem pow_eq {b : Nat} (hb : b < M127) (e : Nat) : Mersenne.pow b e = b ^ e % M127 := by
  unfold Mersenne.pow
  by_cases h1 : e = 1
  · rw [if_pos h1, h1, pow_one, Nat.mod_eq_of_lt hb]
  · rw [if_neg h1]
    by_cases h2 : e = 2
    · rw [if_pos h2, h2, sqr_eq hb, pow_two]
    · rw [if_neg h2]
      have one_lt : 1 < M127 := M127_prime.one_lt
      rw [reduceSingle_of_lt one_lt, powLoop_spec b e 1 hb one_lt, one_mul]

theorem pow_lt {b : Nat} (hb : b < M127) (e : Nat) : Mersenne.pow b e < M127 := by
  rw [pow_eq hb]; exact Nat.mod_lt _ M127_pos

/-! ## `inv` (`u128::invm`, extended Euclid) -/

theorem negm_lt (x : Nat) {m : Nat} (hm : 0 < m) : Mersenne.negm x m < m := by
  unfold Mersenne.negm
  split
  · exact hm
  · omega

/-- `u128::subm` lands in `[0, m)` -/
theorem subm_lt (a b : Nat) {m : Nat} (hm : 0 < m) : Mersenne.subm a b m < m := by
  unfold Mersenne.subm
  split
  · exact Nat.mod_lt _ hm
  · exact negm_lt _ hm

theorem negm_cast (x : Nat) :
    ((Mersenne.negm x M127 : Nat) : ZMod M127) = -((x : Nat) : ZMod M127) := by
  unfold Mersenne.negm
  split
  · rename_i h0
    have : ((x : Nat) : ZMod M127) = 0 := by
      rw [ZMod.natCast_eq_zero_iff, Nat.dvd_iff_mod_eq_zero]; exact h0
    rw [this, Nat.cast_zero, neg_zero]
  · have hle : x % M127 ≤ M127 := (Nat.mod_lt _ M127_pos).le
    rw [Nat.cast_sub hle, ZMod.natCast_self, ZMod.natCast_mod, zero_sub]

/-- `u128::subm` is subtraction modulo `M127` -/
theorem subm_cast (a b : Nat) :
    ((Mersenne.subm a b M127 : Nat) : ZMod M127) = ((a : Nat) : ZMod M127) - ((b : Nat) : ZMod M127) := by
  unfold Mersenne.subm
  split
  · rename_i h
    rw [ZMod.natCast_mod, Nat.cast_sub h]
  · rename_i h
    have hba : a ≤ b := by omega
    rw [negm_cast, ZMod.natCast_mod, Nat.cast_sub hba, neg_sub]

theorem mulm_cast (a b : Nat) :
    ((Mersenne.mulm a b M127 : Nat) : ZMod M127) = ((a : Nat) : ZMod M127) * ((b : Nat) : ZMod M127) := by
  unfold Mersenne.mulm
  rw [ZMod.natCast_mod, Nat.cast_mul]

/-- invariant of the extended-Euclid loop: Bézout congruences `lastT * x ≡ lastR`, `t * x ≡ r`
    (mod `M127`), coefficients in `[0, M127)`, and the gcd of the remainder pair -/
theorem invLoop_spec (x : Nat) (lastR r lastT t : Nat) :
    ((lastT : Nat) : ZMod M127) * ((x : Nat) : ZMod M127) = ((lastR : Nat) : ZMod M127) →
    ((t : Nat) : ZMod M127) * ((x : Nat) : ZMod M127) = ((r : Nat) : ZMod M127) →
    lastT < M127 → t < M127 →
    (Mersenne.invLoop M127 lastR r lastT t).1 = Nat.gcd lastR r ∧
      (((Mersenne.invLoop M127 lastR r lastT t).2 : Nat) : ZMod M127) * ((x : Nat) : ZMod M127)
        = (((Mersenne.invLoop M127 lastR r lastT t).1 : Nat) : ZMod M127) ∧
      (Mersenne.invLoop M127 lastR r lastT t).2 < M127 := by
  induction lastR, r, lastT, t using Mersenne.invLoop.induct (m := M127) with
  | case1 lastR lastT t =>
    intro h1 _ h3 _
    rw [Mersenne.invLoop, if_pos rfl]
    exact ⟨(Nat.gcd_zero_right _).symm, h1, h3⟩
  | case2 lastR r lastT t h ih =>
    intro h1 h2 _ h4
    rw [Mersenne.invLoop, if_neg h]
    have hdm : ((r : Nat) : ZMod M127) * (((lastR / r : Nat)) : ZMod M127)
        + (((lastR % r : Nat)) : ZMod M127) = ((lastR : Nat) : ZMod M127) := by
      exact_mod_cast congrArg (Nat.cast : Nat → ZMod M127) (Nat.div_add_mod lastR r)
    have hstep : ((Mersenne.subm lastT (Mersenne.mulm (lastR / r) t M127) M127 : Nat) : ZMod M127)
        * ((x : Nat) : ZMod M127) = (((lastR % r : Nat)) : ZMod M127) := by
      rw [subm_cast, mulm_cast]
      linear_combination h1 - (((lastR / r : Nat)) : ZMod M127) * h2 - hdm
    obtain ⟨i1, i2, i3⟩ := ih h2 hstep h4 (subm_lt _ _ M127_pos)
    refine ⟨?_, i2, i3⟩
    rw [i1, Nat.gcd_comm r, ← Nat.gcd_rec, Nat.gcd_comm]

/-- two canonical residues with the same class are equal -/
theorem eq_of_cast_eq {a b : Nat} (ha : a < M127) (hb : b < M127)
    (h : ((a : Nat) : ZMod M127) = ((b : Nat) : ZMod M127)) : a = b := by
  rw [ZMod.natCast_eq_natCast_iff', Nat.mod_eq_of_lt ha, Nat.mod_eq_of_lt hb] at h
  exact h

/-- `Reducer::inv` on a non-zero reduced operand returns THE inverse in `[0, M127)`. -/
theorem inv_eq {a : Nat} (ha : a < M127) (h0 : a ≠ 0) : Mersenne.inv a = some (invMod a) := by
  unfold Mersenne.inv Mersenne.invm
  rw [modulus_eq_M127]
  have hx : (if a ≥ M127 then a % M127 else a) = a := if_neg (by omega)
  simp only [hx]
  obtain ⟨i1, i2, i3⟩ := invLoop_spec a M127 a 0 1
    (by rw [Nat.cast_zero, zero_mul, ZMod.natCast_self])
    (by rw [Nat.cast_one, one_mul]) M127_pos M127_prime.one_lt
  have hg : Nat.gcd M127 a = 1 :=
    (Nat.Prime.coprime_iff_not_dvd M127_prime).mpr fun hd =>
      absurd (Nat.le_of_dvd (Nat.pos_of_ne_zero h0) hd) (by omega)
  rw [hg] at i1
  rw [i1, Nat.cast_one] at i2
  rw [if_neg (by omega)]
  congr 1
  apply eq_of_cast_eq i3 (invMod_lt a)
  rw [invMod_cast]
  exact eq_inv_of_mul_eq_one_left i2

/-- `Reducer::inv` of `0` is `None`. -/
theorem inv_zero : Mersenne.inv 0 = none := by
  unfold Mersenne.inv Mersenne.invm
  rw [modulus_eq_M127]
  have hx : (if 0 ≥ M127 then 0 % M127 else 0) = 0 := if_neg (by have := M127_pos; omega)
  simp only [hx]
  rw [Mersenne.invLoop, if_pos rfl]
  exact if_pos M127_prime.one_lt

/-! ## the `NumHash` impls through `FixedMersenneInt<127, 1>` -/

theorem mul_mod_eq (a b : Nat) :
    Mersenne.mul (a % M127) (b % M127) = (a % M127) * (b % M127) % M127 :=
  mul_eq (Nat.mod_lt _ M127_pos) (Nat.mod_lt _ M127_pos)

/-- the residue of the significand / numerator is already reduced -/
theorem natAbs_tmod_lt (s : Int) : (Int.tmod s (M127 : Int)).natAbs < M127 := by
  rw [tmod_M127, natAbs_sg_mul]; exact Nat.mod_lt _ M127_pos

theorem floatExpHash_lt (B : Nat) (e : Int) : floatExpHash B e < M127 := by
  unfold floatExpHash
  split
  · exact Nat.mod_lt _ M127_pos
  · split
    · exact invMod_lt _
    · rw [powMod_eq]; exact Nat.mod_lt _ M127_pos

/-- a power of a base in `[2, M127)` is a unit modulo the prime `M127` -/
theorem pow_mod_ne_zero {B : Nat} (hB : 2 ≤ B) (hBM : B < M127) (k : Nat) : B ^ k % M127 ≠ 0 := by
  intro h
  have h1 : M127 ∣ B ^ k := Nat.dvd_of_mod_eq_zero h
  have h2 : M127 ∣ B := M127_prime.dvd_of_dvd_pow h1
  have := Nat.le_of_dvd (by omega) h2
  omega

/-- the exponent hash of the float impl: the `inv().unwrap()` never panics for `2 ≤ B < M127` -/
theorem floatExpHashM_eq {B : Nat} (hB : 2 ≤ B) (hBM : B < M127) (e : Int) :
    (if B = 2 then some (Mersenne.reduceSingle (2 ^ (e % 127).toNat))
      else if e < 0 then Mersenne.inv (Mersenne.pow (Mersenne.reduceSingle B) (-e).toNat)
      else some (Mersenne.pow (Mersenne.reduceSingle B) e.toNat)) = some (floatExpHash B e) := by
  unfold floatExpHash
  by_cases h2 : B = 2
  · rw [if_pos h2, if_pos h2, reduceSingle_eq]
  · rw [if_neg h2, if_neg h2, reduceSingle_of_lt hBM, Nat.mod_eq_of_lt hBM]
    by_cases he : e < 0
    · rw [if_pos he, if_pos he, pow_eq hBM, powMod_eq,
        inv_eq (Nat.mod_lt _ M127_pos) (pow_mod_ne_zero hB hBM _)]
    · rw [if_neg he, if_neg he, pow_eq hBM, powMod_eq]

/-- the float impl through `FixedMersenneInt` never panics for `2 ≤ B < M127` and feeds
    `floatHash`. -/
theorem floatHashM_eq {B : Nat} (hB : 2 ≤ B) (hBM : B < M127) (s e : Int) :
    floatHashM B s e = some (floatHash B s e) := by
  unfold floatHashM
  simp only []
  rw [floatExpHashM_eq hB hBM e, Option.map_some, reduceSingle_of_lt (natAbs_tmod_lt s),
    mul_eq (natAbs_tmod_lt s) (floatExpHash_lt B e), floatHash_unfold]

/-- the rational impl (stored parts) through `FixedMersenneInt` never panics and feeds
    `ratHashPre`. -/
theorem ratHashPreM_eq (n : Int) (d : Nat) : ratHashPreM n d = some (ratHashPre n d) := by
  unfold ratHashPreM ratHashPre
  simp only []
  by_cases h : d % M127 = 0
  · rw [if_pos h, if_pos h]
  · have hlt : d % M127 < M127 := Nat.mod_lt _ M127_pos
    rw [if_neg h, if_neg h, reduceSingle_of_lt hlt, inv_eq hlt h, Option.map_some,
      reduceSingle_of_lt (natAbs_tmod_lt n), mul_eq (natAbs_tmod_lt n) (invMod_lt _)]

/-- the rational impl (current code) through `FixedMersenneInt` never panics and feeds `ratHash`. -/
theorem ratHashM_eq (n : Int) (d : Nat) : ratHashM n d = some (ratHash n d) := by
  unfold ratHashM ratHash
  exact ratHashPreM_eq _ _

/-- the `f32`/`f64` impl through `FixedMersenneInt` feeds `primFloatHash`. -/
theorem primFloatHashM_eq (t : FloatTy) (bits : Nat) :
    primFloatHashM t bits = primFloatHash t bits := by
  unfold primFloatHashM primFloatHash
  simp only [reduceSingle_eq, mul_mod_eq]

/-- on well-formed input the mirrored `num_hash` never panics and feeds exactly `numHashFeed`. -/
theorem numHashFeedM_eq {x : Num} (hx : x.HashOK) : numHashFeedM x = some (numHashFeed x) := by
  cases x with
  | ubig a => rfl
  | ibig a => rfl
  | fbig B s e p => exact floatHashM_eq hx.1 hx.2 s e
  | rbig a b => exact ratHashM_eq a b
  | relaxed a b => exact ratHashM_eq a b
  | pint t v => rfl
  | pfloat t b => exact congrArg some (primFloatHashM_eq t b)

end Dashu.Model.Cross
