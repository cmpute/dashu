import Dashu.Proofs.Cross.HashProofs
/-
  C14 proofs — zero and the infinities feed 0: num-order's `HASH_INF` / `HASH_NEGINF` are `±(2^127 − 1) = ±M127`, which
  `i128::num_hash` reduces to 0.
-/
namespace Dashu.Model.Cross

theorem i128NumHash_zero : i128NumHash 0 = 0 := by decide
theorem i128NumHash_inf : i128NumHash ((2 : Int) ^ 127 - 1) = 0 := by decide
theorem i128NumHash_neginf : i128NumHash (-((2 : Int) ^ 127 - 1)) = 0 := by decide

/-- an FBig with zero significand (zero, `+∞`, `-∞`) feeds 0 -/
theorem floatHash_zero_signif (B : Nat) (e : Int) : floatHash B 0 e = 0 := by
  unfold floatHash
  simp [i128NumHash_zero]

/-- an infinite f32/f64 feeds 0 (num-order's `HASH_INF`/`HASH_NEGINF` are mapped to 0 by
    `i128::num_hash`) -/
theorem primFloatHash_inf (t : FloatTy) (bits : Nat) {neg : Bool} (h : decode t bits = .inf neg) :
    primFloatHash t bits = 0 := by
  unfold decode at h
  unfold primFloatHash
  simp only at h ⊢
  split at h
  · rename_i hex
    split at h
    · exact absurd h (by simp)
    · rename_i hm
      simp only [hex, if_true]
      have hm' : bits % 2 ^ t.mantBits = 0 := by simpa using hm
      simp only [hm', ne_eq, not_true_eq_false, if_false]
      split <;> first | exact i128NumHash_neginf | exact i128NumHash_inf
  · exact absurd h (by simp)

end Dashu.Model.Cross
