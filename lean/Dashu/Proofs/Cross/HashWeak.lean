import Dashu.Proofs.Cross.HashProofs
/-
  C14 proofs — the weakest input hypothesis under which the code's `NumHash` is a function of the
  value: no rational argument has BOTH stored parts divisible by `M = 2^127 - 1`.
-/
namespace Dashu.Model.Cross

/-- well-formed for hashing, excluding only the defect class C (a non-reduced fraction carrying the
    factor `M` in numerator and denominator) -/
def Num.HashOKWeak : Num → Prop
  | .rbig n d => 0 < d ∧ ¬ (M127 ∣ d ∧ (M127 : Int) ∣ n ∧ n ≠ 0)
  | .relaxed n d => 0 < d ∧ ¬ (M127 ∣ d ∧ (M127 : Int) ∣ n ∧ n ≠ 0)
  | x => x.HashOKPre

theorem Num.HashOKWeak.canon {x : Num} (h : x.HashOKWeak) : x.HashOK := by
  cases x <;> simp only [Num.HashOKWeak, Num.HashOK, Num.HashOKPre] at * <;> first | exact h | exact h.1

theorem numHashFeed_eq_feed {x : Num} (h : x.HashOKWeak) : numHashFeed x = numHashFeedPre x := by
  cases x <;> simp only [numHashFeed, numHashFeedPre, Num.HashOKWeak] at * <;>
    first | rfl | exact ratHash_eq_ratHashPre h.2

end Dashu.Model.Cross
