import Dashu.Proofs.Cross.Encl
import Mathlib.Tactic.Ring
import Mathlib.Tactic.Linarith
import Mathlib.Tactic.Positivity
import Mathlib.Order.Compare
import Mathlib.Algebra.Order.Ring.Int
/-
  C14 proofs — basic facts: `compare` on `Int`/`Nat`, the sign table, cross-multiplied fractions,
  the soundness hypothesis on an oracle.
-/
namespace Dashu.Model.Cross

/-- two integer comparisons agree as soon as their `<` and `=` agree -/
theorem cmpI_congr {a b c d : Int} (hlt : a < b ↔ c < d) (hgt : b < a ↔ d < c) :
    compare a b = compare c d := by
  rcases lt_trichotomy a b with h | h | h
  · rw [Int.compare_eq_lt.2 h, Int.compare_eq_lt.2 (hlt.1 h)]
  · have h1 : ¬ c < d := fun hc => by have := hlt.2 hc; omega
    have h2 : ¬ d < c := fun hc => by have := hgt.2 hc; omega
    rw [Int.compare_eq_eq.2 h, Int.compare_eq_eq.2 (by omega)]
  · rw [Int.compare_eq_gt.2 h, Int.compare_eq_gt.2 (hgt.1 h)]

theorem cmpN_cast (a b : Nat) : compare a b = compare (a : Int) (b : Int) := by
  rcases lt_trichotomy a b with h | h | h
  · rw [Nat.compare_eq_lt.2 h, Int.compare_eq_lt.2 (by exact_mod_cast h)]
  · rw [Nat.compare_eq_eq.2 h, Int.compare_eq_eq.2 (by exact_mod_cast h)]
  · rw [Nat.compare_eq_gt.2 h, Int.compare_eq_gt.2 (by exact_mod_cast h)]

theorem cmpI_neg (a b : Int) : compare (-a) (-b) = compare b a :=
  cmpI_congr (by constructor <;> intro h <;> omega) (by constructor <;> intro h <;> omega)

theorem cmpI_mul_pos {a b c : Int} (hc : 0 < c) : compare (a * c) (b * c) = compare a b :=
  cmpI_congr ⟨fun h => lt_of_mul_lt_mul_right h hc.le, fun h => mul_lt_mul_of_pos_right h hc⟩
    ⟨fun h => lt_of_mul_lt_mul_right h hc.le, fun h => mul_lt_mul_of_pos_right h hc⟩

theorem Sign.ofInt_pos {i : Int} : Sign.ofInt i = .pos ↔ 0 ≤ i := by
  unfold Sign.ofInt; split <;> simp <;> omega
theorem Sign.ofInt_neg {i : Int} : Sign.ofInt i = .neg ↔ i < 0 := by
  unfold Sign.ofInt; split <;> simp <;> omega

theorem signMatch_inl {a b : Int} {sg : Sign} (h : signMatch (Sign.ofInt a) (Sign.ofInt b) = .inl sg) :
    (sg = .pos ∧ 0 ≤ a ∧ 0 ≤ b) ∨ (sg = .neg ∧ a < 0 ∧ b < 0) := by
  unfold signMatch at h
  rcases ha : Sign.ofInt a with _ | _ <;> rcases hb : Sign.ofInt b with _ | _ <;> rw [ha, hb] at h <;>
    simp at h
  · exact Or.inl ⟨h.symm, Sign.ofInt_pos.1 ha, Sign.ofInt_pos.1 hb⟩
  · exact Or.inr ⟨h.symm, Sign.ofInt_neg.1 ha, Sign.ofInt_neg.1 hb⟩

theorem signMatch_inr {a b : Int} {o : Ordering} (h : signMatch (Sign.ofInt a) (Sign.ofInt b) = .inr o) :
    (o = .gt ∧ 0 ≤ a ∧ b < 0) ∨ (o = .lt ∧ a < 0 ∧ 0 ≤ b) := by
  unfold signMatch at h
  rcases ha : Sign.ofInt a with _ | _ <;> rcases hb : Sign.ofInt b with _ | _ <;> rw [ha, hb] at h <;>
    simp at h
  · exact Or.inl ⟨h.symm, Sign.ofInt_pos.1 ha, Sign.ofInt_neg.1 hb⟩
  · exact Or.inr ⟨h.symm, Sign.ofInt_neg.1 ha, Sign.ofInt_pos.1 hb⟩

/-- signs alone decide -/
theorem cmp_cross_of_signs {n1 n2 : Int} {d1 d2 : Int} {o : Ordering} (hd1 : 0 < d1) (hd2 : 0 < d2)
    (h : signMatch (Sign.ofInt n1) (Sign.ofInt n2) = .inr o) :
    compare (n1 * d2) (n2 * d1) = o := by
  rcases signMatch_inr h with ⟨rfl, h1, h2⟩ | ⟨rfl, h1, h2⟩
  · apply Int.compare_eq_gt.2
    have a : n2 * d1 < 0 := mul_neg_of_neg_of_pos h2 hd1
    have b : 0 ≤ n1 * d2 := mul_nonneg h1 hd2.le
    omega
  · apply Int.compare_eq_lt.2
    have a : n1 * d2 < 0 := mul_neg_of_neg_of_pos h1 hd2
    have b : 0 ≤ n2 * d1 := mul_nonneg h2 hd1.le
    omega

/-- equal signs and ordered magnitudes -/
theorem cmp_cross_of_abs_lt {n1 n2 : Int} {d1 d2 : Int} {sg : Sign}
    (hs : signMatch (Sign.ofInt n1) (Sign.ofInt n2) = .inl sg) (h : |n1| * d2 < |n2| * d1) :
    compare (n1 * d2) (n2 * d1) = sg.app .lt := by
  rcases signMatch_inl hs with ⟨rfl, h1, h2⟩ | ⟨rfl, h1, h2⟩
  · rw [abs_of_nonneg h1, abs_of_nonneg h2] at h
    exact Int.compare_eq_lt.2 h
  · rw [abs_of_neg h1, abs_of_neg h2] at h
    show _ = Ordering.gt
    apply Int.compare_eq_gt.2
    linarith

theorem cmp_cross_of_abs_gt {n1 n2 : Int} {d1 d2 : Int} {sg : Sign}
    (hs : signMatch (Sign.ofInt n1) (Sign.ofInt n2) = .inl sg) (h : |n2| * d1 < |n1| * d2) :
    compare (n1 * d2) (n2 * d1) = sg.app .gt := by
  rcases signMatch_inl hs with ⟨rfl, h1, h2⟩ | ⟨rfl, h1, h2⟩
  · rw [abs_of_nonneg h1, abs_of_nonneg h2] at h
    exact Int.compare_eq_gt.2 h
  · rw [abs_of_neg h1, abs_of_neg h2] at h
    show _ = Ordering.lt
    apply Int.compare_eq_lt.2
    linarith

/-- a real inequality between magnitudes `|n|/d`, cross-multiplied in `Int` -/
theorem abs_cross_of_real {n1 n2 : Int} {d1 d2 : Nat} (hd1 : 0 < d1) (hd2 : 0 < d2)
    (h : |(n1 : ℝ)| / (d1 : ℝ) < |(n2 : ℝ)| / (d2 : ℝ)) : |n1| * (d2 : Int) < |n2| * (d1 : Int) := by
  have h1 : (0 : ℝ) < d1 := by exact_mod_cast hd1
  have h2 : (0 : ℝ) < d2 := by exact_mod_cast hd2
  rw [div_lt_div_iff₀ h1 h2] at h
  have : ((|n1| * (d2 : Int) : Int) : ℝ) < ((|n2| * (d1 : Int) : Int) : ℝ) := by
    push_cast; exact h
  exact_mod_cast this

/-- magnitude of the float `s · B^e` -/
noncomputable def fltMag (B : Nat) (s e : Int) : ℝ := |(s : ℝ)| * (B : ℝ) ^ e
/-- magnitude of the rational `n / d` -/
noncomputable def ratMag (n : Int) (d : Nat) : ℝ := |(n : ℝ)| / (d : ℝ)

/-- ENCLOSURE HYPOTHESIS on an oracle: every `log2_bounds` result encloses `log₂` of the magnitude
    it is asked about, and `digits_ub` is an upper bound of the digit count. -/
structure Oracle.Sound (o : Oracle) : Prop where
  nat : ∀ n : Nat, Encl (n : ℝ) (o.nat n)
  flt : ∀ (B : Nat) (s e : Int), 2 ≤ B → Encl (fltMag B s e) (o.flt B s e)
  rat : ∀ (n : Int) (d : Nat), 0 < d → Encl (ratMag n d) (o.rat n d)
  digits : ∀ (B : Nat) (s : Int), 2 ≤ B → s.natAbs < B ^ o.digitsUb B s

/-- the fraction `floatFrac B s e` denotes `s · B^e`, in any field -/
theorem floatFrac_cast {K : Type*} [DivisionRing K] (B : Nat) (s e : Int) :
    (((floatFrac B s e).1 : Int) : K) / (((floatFrac B s e).2 : Nat) : K) = (s : K) * (B : K) ^ e := by
  unfold floatFrac
  split
  · rename_i he
    have : e = -((-e).toNat : Int) := by omega
    conv_rhs => rw [this]
    rw [zpow_neg, zpow_natCast, div_eq_mul_inv]
    push_cast; rfl
  · rename_i he
    have : e = (e.toNat : Int) := by omega
    conv_rhs => rw [this]
    rw [zpow_natCast]
    push_cast; simp

theorem fltMag_eq_frac {B : Nat} (hB : 2 ≤ B) (s e : Int) :
    fltMag B s e = |(((floatFrac B s e).1 : Int) : ℝ)| / (((floatFrac B s e).2 : Nat) : ℝ) := by
  have h := congrArg abs (floatFrac_cast (K := ℝ) B s e)
  rw [abs_div, abs_mul, abs_zpow, Nat.abs_cast, Nat.abs_cast] at h
  exact h.symm

theorem floatFrac_den_pos {B : Nat} (hB : 2 ≤ B) (s e : Int) : 0 < (floatFrac B s e).2 := by
  unfold floatFrac
  split
  · exact Nat.pow_pos (by omega)
  · simp

end Dashu.Model.Cross
