import Dashu.Proofs.Conv.Spec
/-
  C06 — `encode` (repaired constants and subnormal branch) computes the IEEE specification,
  for every format whose constants are `Compatible` (in particular `f32Fixed`, `f64Fixed`).
-/
namespace Dashu.Model.Conv

/-- the relations between the literal constants of an `encode` body and the format that make it
    correct -/
structure Compatible (c : EncConsts) (F : Ieee) : Prop where
  ok : F.Ok
  hN : c.N = F.EB + F.MB + 1
  ovf : c.ovf = F.emax + 1
  unf : c.unf = F.qmin
  subTop : c.subTop = F.emin + 1 ∨ c.subTop = F.emin
  subAdd : c.subAdd = -F.qmin
  bias : c.bias = F.bias
  mantShr : c.mantShr = F.EB + 1
  rbShr : c.rbShr + 2 = c.mantShr
  sticky : c.stickyMask = 2 ^ (c.rbShr + 1) - 1
  expShl : c.expShl = F.MB
  signShl : c.signShl = F.EB + F.MB
  inf : c.inf = F.infBits

theorem f32Fixed_compatible : Compatible f32Fixed .binary32 := by
  refine ⟨Ieee.binary32_ok, ?_, ?_, ?_, ?_, ?_, ?_, ?_, ?_, ?_, ?_, ?_, ?_⟩ <;> decide

theorem f64Fixed_compatible : Compatible f64Fixed .binary64 := by
  refine ⟨Ieee.binary64_ok, ?_, ?_, ?_, ?_, ?_, ?_, ?_, ?_, ?_, ?_, ?_, ?_⟩ <;> decide

theorem shl_or (x i y : Nat) (h : y < 2 ^ i) : (x <<< i) ||| y = x * 2 ^ i + y := by
  rw [← Nat.shiftLeft_add_eq_or_of_lt h, Nat.shiftLeft_eq]

/-- `mantissa <<= zeros + 1` drops the top bit and left-aligns the rest -/
theorem norm_mant (N a : Nat) (ha : a ≠ 0) (hL : bitLen a ≤ N) :
    (if a = 1 then 0 else (a <<< (N - bitLen a + 1)) % 2 ^ N) =
      (a - 2 ^ (bitLen a - 1)) * 2 ^ (N - bitLen a + 1) := by
  have h1 := bitLen_pos ha
  have hge := bitLen_le ha
  have hlt := @bitLen_lt a
  have hp := two_pow_pred (bitLen a) h1
  have key : (a <<< (N - bitLen a + 1)) % 2 ^ N = (a - 2 ^ (bitLen a - 1)) * 2 ^ (N - bitLen a + 1) := by
    rw [Nat.shiftLeft_eq]
    have hN : 2 ^ N = 2 ^ (bitLen a - 1) * 2 ^ (N - bitLen a + 1) := by
      rw [← pow_add]; congr 1; omega
    have : a * 2 ^ (N - bitLen a + 1) =
        (a - 2 ^ (bitLen a - 1)) * 2 ^ (N - bitLen a + 1) + 2 ^ N * 1 := by
      rw [hN, Nat.mul_one, ← Nat.add_mul]; congr 1; omega
    rw [this, Nat.add_mul_mod_self_left]
    apply Nat.mod_eq_of_lt
    rw [hN]
    apply Nat.mul_lt_mul_of_pos_right _ (Nat.two_pow_pos _)
    omega
  split
  · rename_i h; subst h
    have : bitLen 1 = 1 := by decide
    simp [this]
  · exact key

/-- magnitude and sign assembled: what every branch has to produce -/
def attachSign (F : Ieee) (sign : Nat) (r : Nat × Flag) : Nat × Flag :=
  (sign * 2 ^ (F.EB + F.MB) + r.1, r.2.flipIf (decide (sign > 0)))

/-- the word of the normal branch: the fields `sign`, `x` above the top `MB` bits of a left-aligned fraction
    `y`, rounded to nearest even on the `EB + 1` bits that fall off -/
theorem normal_tail (sign x y EB MB : Nat) (hEB : 2 ≤ EB) (hx : x < 2 ^ EB) (hy : y < 2 ^ (MB + (EB + 1))) :
    finish sign ((sign <<< (EB + MB)) ||| (x <<< MB) ||| (y / 2 ^ (EB + 1)))
        (((y / 2 ^ (EB - 1)) &&& 6) ||| (if y % 2 ^ EB ≠ 0 then 1 else 0)) =
      ((sign * 2 ^ EB + x) * 2 ^ MB + rneDiv y (2 ^ (EB + 1)),
        (flagOf (rneDiv y (2 ^ (EB + 1))) (2 ^ (EB + 1)) y).flipIf (decide (sign > 0))) := by
  have hxl : x <<< MB < 2 ^ (EB + MB) := by
    rw [Nat.shiftLeft_eq, pow_add]; exact Nat.mul_lt_mul_of_pos_right hx (Nat.two_pow_pos _)
  have hfr : y / 2 ^ (EB + 1) < 2 ^ MB := by
    rw [Nat.div_lt_iff_lt_mul (Nat.two_pow_pos _), ← pow_add]; exact hy
  have hS : (sign <<< (EB + MB)) ||| (x <<< MB) = (sign * 2 ^ EB + x) <<< MB := by
    rw [shl_or _ _ _ hxl, Nat.shiftLeft_eq, Nat.shiftLeft_eq, pow_add]; ring
  have h4 : y / 2 ^ (EB - 1) / 4 = y / 2 ^ (EB + 1) := by
    rw [Nat.div_div_eq_div_mul, show EB + 1 = EB - 1 + 2 by omega, pow_add]; rfl
  have h2 : y / 2 ^ (EB - 1) / 2 = y / 2 ^ EB := by
    rw [Nat.div_div_eq_div_mul, Nat.mul_comm, ← two_pow_pred EB (by omega)]
  rw [hS, shl_or _ _ _ hfr, ite_not]
  exact finish_rne sign _ (y / 2 ^ (EB - 1)) y (EB + 1) (by omega) h4 (by rw [h2]; rfl)

theorem encodeNormal_correct (c : EncConsts) (F : Ieee) (hc : Compatible c F) (sign a w : Nat) (e : Int)
    (ha : a ≠ 0) (hL : bitLen a ≤ c.N)
    (ht : (bitLen a : Int) + e = F.qmin + F.prec + w) (hw : w + 3 ≤ 2 * F.B) :
    encodeNormal c sign a (c.N - bitLen a) e = attachSign F sign (ieeeRoundMag F a e) := by
  have hok := hc.ok
  have hEB := hok.hEB
  have hN := hc.hN
  have hL1 := bitLen_pos ha
  have hprec : F.prec = F.MB + 1 := rfl
  -- the specification rounds `a·2^j / 2^k`, where one of `j`, `k` is zero
  obtain ⟨j, k, hjk, hsp⟩ : ∃ j k, bitLen a + j = F.prec + k ∧ ieeeRoundMag F a e =
      (w * 2 ^ F.MB + rneDiv (a * 2 ^ j) (2 ^ k),
        flagOf (rneDiv (a * 2 ^ j) (2 ^ k)) (2 ^ k) (a * 2 ^ j)) := by
    by_cases hcase : bitLen a ≤ F.prec
    · refine ⟨F.prec - bitLen a, 0, by omega, ?_⟩
      rw [spec_norm_exact F hok a (F.prec - bitLen a) w e (by omega) ht hw, pow_zero, rneDiv_one,
        flagOf_exact (Nat.mul_one _)]
    · refine ⟨0, bitLen a - F.prec, by omega, ?_⟩
      rw [spec_norm_round F hok a (bitLen a - F.prec) w e (by omega) (by omega) ht hw, pow_zero, Nat.mul_one]
  -- the code: exponent field `w + 1` above the fraction `g` (`a` without its top bit), left-aligned
  have hexpo : (e + c.bias + c.N).toNat - (c.N - bitLen a) - 1 = w + 1 := by
    rw [hc.bias, F.bias_eq]
    have := F.qmin_eq
    omega
  have hrb : c.rbShr = F.EB - 1 := by have := hc.rbShr; have := hc.mantShr; omega
  unfold encodeNormal
  simp only [hexpo, norm_mant c.N a ha hL, hc.mantShr, hc.expShl, hc.signShl, hc.sticky, hrb,
    Nat.and_two_pow_sub_one_eq_mod, Nat.shiftRight_eq_div_pow, show F.EB - 1 + 1 = F.EB by omega]
  generalize hg : a - 2 ^ (bitLen a - 1) = g
  have hglt : g < 2 ^ (bitLen a - 1) := by
    have := two_pow_pred (bitLen a) hL1
    have := @bitLen_lt a
    omega
  have hag : a = 2 ^ (bitLen a - 1) + g := by have := bitLen_le ha; omega
  generalize hs : c.N - bitLen a + 1 = s
  have hy : g * 2 ^ s < 2 ^ (F.MB + (F.EB + 1)) :=
    calc g * 2 ^ s < 2 ^ (bitLen a - 1) * 2 ^ s := Nat.mul_lt_mul_of_pos_right hglt (Nat.two_pow_pos _)
      _ = 2 ^ (F.MB + (F.EB + 1)) := by rw [← pow_add]; congr 1; omega
  rw [normal_tail sign (w + 1) (g * 2 ^ s) F.EB F.MB hEB (by rw [F.two_B hok]; omega) hy, hsp]
  -- both roundings are that of `g·2^j / 2^k`, the specification's on top of `2^MB`
  have hp := round_pow_pair g 1 s (F.EB + 1) j k (by omega)
  simp only [Nat.one_mul] at hp
  have hak : a * 2 ^ j = 2 ^ F.MB * 2 ^ k + g * 2 ^ j := by
    rw [hag, Nat.add_mul, ← pow_add, ← pow_add]; congr 2; omega
  have heven : 2 ^ F.MB % 2 = 0 := by
    rw [two_pow_pred F.MB hok.hMB]; exact Nat.mul_mod_right _ _
  rw [hp.1, hp.2, hak, rneDiv_add_mul _ _ _ (Nat.two_pow_pos k) heven, flagOf_add_mul]
  refine Prod.ext ?_ rfl
  show _ = sign * 2 ^ (F.EB + F.MB) + _
  rw [pow_add]; ring

theorem finish_zero (sign bits : Nat) : finish sign bits 0 = (bits, .exact) := by
  simp [finish]

/-- the subnormal branch of the repaired `encode`, `k ≥ 1` bits shifted out -/
theorem subRound_correct (F : Ieee) (hok : F.Ok) (sign a k : Nat) (e : Int)
    (he : e + k = F.qmin) (hk : 1 ≤ k) (hL : bitLen a ≤ F.prec + k) (ha2 : a ≤ 2 ^ (F.EB + F.MB)) :
    (let wide := a <<< 2
     let q := wide >>> k
     let sticky : Nat := if q &&& 1 ≠ 0 ∨ wide &&& ((1 <<< k) - 1) ≠ 0 then 1 else 0
     finish sign ((sign <<< (F.EB + F.MB)) ||| (q >>> 2)) ((q &&& 0b110) ||| sticky)) =
      attachSign F sign (ieeeRoundMag F a e) := by
  rw [spec_sub_round F hok a k e he hk hL]
  simp only [Nat.and_one_is_mod, Nat.one_shiftLeft, Nat.and_two_pow_sub_one_eq_mod,
    Nat.shiftRight_eq_div_pow]
  have hw : a <<< 2 = 4 * a := by rw [Nat.shiftLeft_eq]; omega
  obtain ⟨hx1, hx2, hx3⟩ := two_extra_bits a k hk
  have hkept : a / 2 ^ k < 2 ^ (F.EB + F.MB) := by
    have h2k : 2 ^ 1 ≤ 2 ^ k := pow_le_pow2 hk
    have hp := Nat.two_pow_pos (F.EB + F.MB)
    have : a / 2 ^ k ≤ a / 2 := Nat.div_le_div_left h2k (by decide)
    omega
  rw [hw, show (2 : Nat) ^ 2 = 4 from rfl, hx1, shl_or _ _ _ hkept]
  simp only [hx3, ite_not]
  exact finish_rne sign _ (4 * a / 2 ^ k) a k hk hx1 hx2

/-- **`encode` is correct** (generic): with compatible constants the repaired `encode` returns the
    IEEE round-to-nearest-even result and the sign of the error, for every mantissa that fits the
    signed mantissa type and EVERY exponent. -/
theorem encodeFixed_correct (c : EncConsts) (F : Ieee) (hc : Compatible c F) (m e : Int)
    (hm : m.natAbs ≤ 2 ^ (c.N - 1)) :
    encodeFixed c m e = .ok (ieeeRound F m e) := by
  have hok := hc.ok
  have hB := F.B_ge hok
  have hEB := hok.hEB
  have hMB := hok.hMB
  have hN := hc.hN
  unfold encodeFixed ieeeRound
  by_cases hm0 : m = 0
  · simp [hm0]
  simp only [hm0, if_false]
  have ha : m.natAbs ≠ 0 := by omega
  generalize hadef : m.natAbs = a at *
  have haN : a ≤ 2 ^ (F.EB + F.MB) := by rw [hN] at hm; simpa using hm
  have haN' : a < 2 ^ c.N := by
    rw [hN, pow_succ]; have := Nat.two_pow_pos (F.EB + F.MB); omega
  have hL : bitLen a ≤ c.N := bitLen_le_of_lt haN'
  have hL1 := bitLen_pos ha
  have hzz : c.N - (c.N - bitLen a) = bitLen a := by omega
  rw [hzz]
  -- the sign
  generalize hsdef : (if m < 0 then (1 : Nat) else 0) = sign
  have hs2 : sign < 2 := by rw [← hsdef]; split <;> decide
  have hspec : ((if m < 0 then F.signBit else 0) + (ieeeRoundMag F a e).1,
      (ieeeRoundMag F a e).2.flipIf (decide (m < 0))) = attachSign F sign (ieeeRoundMag F a e) := by
    unfold attachSign Ieee.signBit
    rw [← hsdef]
    by_cases hneg : m < 0 <;> simp [hneg]
  rw [hspec]
  have hqm := F.qmin_eq
  have hem := F.emax_eq
  have hen := F.emin_eq
  have hprec : F.prec = F.MB + 1 := rfl
  have hinf : F.infBits < 2 ^ (F.EB + F.MB) := infBits_lt_signBit F hok
  have hsgn : sign = 0 ∨ sign = 1 := by omega
  by_cases hov : (bitLen a : Int) + e > c.ovf
  · -- overflow
    simp only [hov, if_true]
    rw [spec_over F hok a e ha (by rw [hc.ovf] at hov; omega), hc.inf, hc.signShl]
    rcases hsgn with rfl | rfl
    · simp [attachSign, Flag.flipIf]
    · simp only [one_ne_zero, if_false]
      rw [shl_or _ _ _ hinf]
      simp [attachSign, Flag.flipIf]
  simp only [hov, if_false]
  by_cases hun : (bitLen a : Int) + e < c.unf
  · -- underflow
    simp only [hun, if_true]
    rw [spec_under F hok a e ha (by rw [hc.unf] at hun; omega), hc.signShl]
    rcases hsgn with rfl | rfl
    · simp [attachSign, Flag.flipIf]
    · simp [attachSign, Flag.flipIf, Nat.shiftLeft_eq]
  simp only [hun, if_false]
  rw [hc.unf] at hun
  rw [hc.ovf] at hov
  by_cases hsub : (bitLen a : Int) + e ≤ c.subTop
  · simp only [hsub, if_true]
    have hsub' : (bitLen a : Int) + e ≤ F.emin + 1 := by
      rcases hc.subTop with h | h <;> omega
    rw [hc.subAdd, hc.signShl]
    by_cases hsh : e + -F.qmin ≥ 0
    · simp only [hsh, if_true]
      obtain ⟨j, hj⟩ : ∃ j : Nat, e = F.qmin + j := ⟨(e - F.qmin).toNat, by omega⟩
      have hjt : (e + -F.qmin).toNat = j := by omega
      rw [hjt, spec_sub_exact F hok a j e hj (by omega), finish_zero, Nat.shiftLeft_eq a j]
      have hlt : a * 2 ^ j < 2 ^ (F.EB + F.MB) := by
        calc a * 2 ^ j < 2 ^ bitLen a * 2 ^ j :=
              Nat.mul_lt_mul_of_pos_right bitLen_lt (Nat.two_pow_pos j)
          _ = 2 ^ (bitLen a + j) := by rw [pow_add]
          _ ≤ 2 ^ (F.EB + F.MB) := pow_le_pow2 (by omega)
      rw [shl_or _ _ _ hlt]
      simp [attachSign, flipIf_exact]
    · simp only [hsh, if_false]
      obtain ⟨k, hk⟩ : ∃ k : Nat, e + k = F.qmin := ⟨(F.qmin - e).toNat, by omega⟩
      have hkt : (-(e + -F.qmin)).toNat = k := by omega
      rw [hkt]
      have := subRound_correct F hok sign a k e hk (by omega) (by omega) haN
      simp only at this
      rw [this]
  · simp only [hsub, if_false]
    have hsub' : F.emin ≤ (bitLen a : Int) + e - 1 := by
      rcases hc.subTop with h | h <;> omega
    obtain ⟨w, hw⟩ : ∃ w : Nat, (bitLen a : Int) + e = F.qmin + F.prec + w :=
      ⟨((bitLen a : Int) + e - F.qmin - F.prec).toNat, by omega⟩
    rw [encodeNormal_correct c F hc sign a w e ha hL hw (by omega)]

end Dashu.Model.Conv
