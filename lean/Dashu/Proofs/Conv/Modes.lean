import Dashu.Proofs.Conv.TryTo
/-
  C06 — `FBig::<R, 2>::to_f32` for EVERY rounding mode R: the specification the driver evaluates
  (`ieeeRoundRat F R`, the single rounding of the exact value in mode R) in significand/exponent form, regime by
  regime, and the region `ModeBad` outside which the result equals it (proved in ModeFlag.lean): there the result
  is subnormal and `encode`'s round-to-nearest of the first-rounded value differs from the mode-R rounding at the
  subnormal quantum.
-/
namespace Dashu.Model.Conv
open Dashu.Model Dashu.Model.Float

/-- the driver's specification for a binary float `±a·2^e` in mode `mode` is `ieeeRoundMagM` -/
theorem ieeeRoundRatMag_float (F : Ieee) (mode : Mode) (neg : Bool) (a : Nat) (e : Int) (ha : a ≠ 0) :
    ieeeRoundRatMag F mode neg (if e ≥ 0 then a * 2 ^ e.toNat else a) (if e ≥ 0 then 1 else 2 ^ (-e).toNat) =
      ieeeRoundMagM F mode neg a e := by
  by_cases he : e ≥ 0
  · simp only [he, if_true]
    have h1 := ieeeRoundRatMag_dyadic_M F mode neg (a * 2 ^ e.toNat) 0
      (Nat.mul_ne_zero ha (by positivity))
    simp only [pow_zero, Nat.cast_zero, neg_zero] at h1
    rw [h1, ieeeRoundMagM_scale F mode neg a e.toNat 0 ha]
    congr 1; omega
  · simp only [he, if_false]
    rw [ieeeRoundRatMag_dyadic_M F mode neg a (-e).toNat ha]
    congr 1; omega

/-! ### the mode-generic specification in each regime: the instances of `with_*` -/

theorem roundMagMode_isRound (mode : Mode) (neg : Bool) :
    IsRound fun num den => (roundMagMode mode neg num den).1 :=
  ⟨roundMagMode_one mode neg, fun n d => (roundMagMode_bounds mode neg n d).1,
    fun n d => (roundMagMode_bounds mode neg n d).2⟩

theorem ieeeRoundMagM_sub_exact (F : Ieee) (h : F.Ok) (mode : Mode) (neg : Bool) (a j : Nat) (e : Int)
    (he : e = F.qmin + j) (hL : bitLen a + j ≤ F.prec) :
    ieeeRoundMagM F mode neg a e = (a * 2 ^ j, .exact) :=
  with_sub_exact (roundMagMode_isRound mode neg) F h a j e he hL

theorem ieeeRoundMagM_sub_round (F : Ieee) (h : F.Ok) (mode : Mode) (neg : Bool) (a k : Nat) (e : Int)
    (he : e + k = F.qmin) (hk : 1 ≤ k) (hL : bitLen a ≤ F.prec + k) :
    ieeeRoundMagM F mode neg a e =
      ((roundMagMode mode neg a (2 ^ k)).1, flagOf (roundMagMode mode neg a (2 ^ k)).1 (2 ^ k) a) :=
  with_sub_round (roundMagMode_isRound mode neg) F h a k e he hk hL

theorem ieeeRoundMagM_norm_exact (F : Ieee) (h : F.Ok) (mode : Mode) (neg : Bool) (a j w : Nat) (e : Int)
    (hL : bitLen a + j = F.prec) (ht : (bitLen a : Int) + e = F.qmin + F.prec + w) (hw : w + 3 ≤ 2 * F.B) :
    ieeeRoundMagM F mode neg a e = (w * 2 ^ F.MB + a * 2 ^ j, .exact) :=
  with_norm_exact (roundMagMode_isRound mode neg) F h a j w e hL ht hw

theorem ieeeRoundMagM_norm_round (F : Ieee) (h : F.Ok) (mode : Mode) (neg : Bool) (a k w : Nat) (e : Int)
    (hL : bitLen a = F.prec + k) (hk : 1 ≤ k) (ht : (bitLen a : Int) + e = F.qmin + F.prec + w)
    (hw : w + 3 ≤ 2 * F.B) :
    ieeeRoundMagM F mode neg a e =
      (w * 2 ^ F.MB + (roundMagMode mode neg a (2 ^ k)).1,
        flagOf (roundMagMode mode neg a (2 ^ k)).1 (2 ^ k) a) :=
  with_norm_round (roundMagMode_isRound mode neg) F h a k w e hL hk ht hw

/-- above the overflow threshold the specification is `+∞`, flagged "above" -/
theorem ieeeRoundMagM_over (F : Ieee) (h : F.Ok) (mode : Mode) (neg : Bool) (a : Nat) (e : Int) (ha : a ≠ 0)
    (ht : F.emax + 1 < (bitLen a : Int) + e) :
    ieeeRoundMagM F mode neg a e = (F.infBits, .pos) :=
  with_over (roundMagMode_isRound mode neg) F h a e ha ht

open Dashu Dashu.Model Dashu.Model.Float

/-- **the failing region of `FBig::<R,2>::to_f32` for an arbitrary mode `R`** on `±a·2^e`: a SUBNORMAL
    result for which re-rounding the (at most) `prec`-bit value HALF-EVEN — what `encode` does — differs from
    rounding the original once in mode `R`.  (`k1 = bitLen a - prec` bits go in the first rounding, `k2` more
    in `encode`; with `k1 = 0` the first rounding is the identity.) -/
def ModeBad (F : Ieee) (mode : Mode) (neg : Bool) (a : Nat) (e : Int) : Prop :=
  (bitLen a : Int) + e < F.qmin + F.prec ∧
    rneDiv (roundMagMode mode neg a (2 ^ (bitLen a - F.prec))).1
        (2 ^ (F.qmin - e - ((bitLen a - F.prec : Nat) : Int)).toNat) ≠
      (roundMagMode mode neg a (2 ^ (bitLen a - F.prec + (F.qmin - e - ((bitLen a - F.prec : Nat) : Int)).toNat))).1

instance (F : Ieee) (mode : Mode) (neg : Bool) (a : Nat) (e : Int) : Decidable (ModeBad F mode neg a e) := by
  unfold ModeBad; infer_instance

/-- the driver's specification of `f.to_f32` (the rational `s·2^e` rounded ONCE in the given mode) in
    significand/exponent form -/
theorem ieeeRoundRat_float (F : Ieee) (mode : Mode) (s e : Int) (hs : s ≠ 0) :
    ieeeRoundRat F mode (floatAsRat 2 s e).1 (floatAsRat 2 s e).2 =
      ((if s < 0 then F.signBit else 0) + (ieeeRoundMagM F mode (decide (s < 0)) s.natAbs e).1,
        (ieeeRoundMagM F mode (decide (s < 0)) s.natAbs e).2.flipIf (decide (s < 0))) := by
  have ha : s.natAbs ≠ 0 := by omega
  have key := ieeeRoundRatMag_float F mode (decide (s < 0)) s.natAbs e ha
  unfold floatAsRat ieeeRoundRat
  by_cases he : e ≥ 0
  · simp only [he, if_true] at key ⊢
    have hp : (0 : Int) < ((2 : Nat) : Int) ^ e.toNat := by positivity
    have hne : s * ((2 : Nat) : Int) ^ e.toNat ≠ 0 := Int.mul_ne_zero hs (by omega)
    have hneg : decide (s * ((2 : Nat) : Int) ^ e.toNat < 0) = decide (s < 0) := by
      congr 1
      apply propext
      constructor
      · intro h; by_contra h2
        have : 0 ≤ s * ((2 : Nat) : Int) ^ e.toNat := Int.mul_nonneg (by omega) (by omega)
        omega
      · intro h; exact Int.mul_neg_of_neg_of_pos h hp
    have hab : (s * ((2 : Nat) : Int) ^ e.toNat).natAbs = s.natAbs * 2 ^ e.toNat := by
      rw [Int.natAbs_mul, Int.natAbs_pow]; rfl
    simp only [hne, if_false, hneg, hab, key, decide_eq_true_eq]
  · simp only [he, if_false] at key ⊢
    simp only [hs, if_false, key, decide_eq_true_eq]

theorem ieeeRoundRat_float_fst (F : Ieee) (mode : Mode) (s e : Int) (hs : s ≠ 0) :
    (ieeeRoundRat F mode (floatAsRat 2 s e).1 (floatAsRat 2 s e).2).1 =
      (if s < 0 then F.signBit else 0) + (ieeeRoundMagM F mode (decide (s < 0)) s.natAbs e).1 :=
  congrArg Prod.fst (ieeeRoundRat_float F mode s e hs)

end Dashu.Model.Conv
