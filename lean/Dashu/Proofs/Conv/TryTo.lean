import Dashu.Model.Conv.Base
import Dashu.Proofs.Conv.Fast
import Dashu.Proofs.Gen.Tz
import Mathlib.Data.Nat.Prime.Basic
/-
  C06 — `TryFrom<RBig> for f32/f64` (current tree): COMPLETENESS and the KIND of a refusal.  Every rational (in lowest
  terms) that the format represents exactly is accepted, with exactly that bit pattern; together with
  `ratTryToFloat_sound` the conversion succeeds iff the value is representable.  The mirrored conversion equals the
  value-level specification `ratTryToFloatSpec` (which the driver prints as the required result) for every rational in
  lowest terms; corollaries: an `OutOfBounds` refusal is truthful (the value rounds to ±∞), and every dyadic value of
  magnitude `≥ 2^(emax+1)` is refused with `OutOfBounds`.  At the end: `TryFrom<FBig<_,2>> for f32/f64`, a success is exact.
-/
namespace Dashu.Model.Conv
open Dashu.Model Dashu.Model.Float

theorem flagOf_exact_iff (n D a : Nat) : flagOf n D a = .exact ↔ n * D = a := by
  unfold flagOf
  by_cases h : n * D = a
  · simp [h]
  · simp only [h, if_false, false_iff]
    split <;> simp

/-- an odd significand is represented exactly only if it has at most `prec` bits and the value lies in
    the format's range -/
theorem odd_exact_bits (F : Ieee) (hF : F.Ok) (a : Nat) (e : Int) (hodd : a % 2 = 1)
    (hex : (ieeeRoundMag F a e).2 = .exact) :
    bitLen a ≤ F.prec ∧ F.qmin ≤ (bitLen a : Int) + e ∧ (bitLen a : Int) + e ≤ F.emax + 1 := by
  have ha : a ≠ 0 := by omega
  have hB := F.B_ge hF
  have hqm := F.qmin_eq
  have hem := F.emax_eq
  have hprec : F.prec = F.MB + 1 := rfl
  have hL1 := bitLen_pos ha
  have hnodiv : ∀ k n : Nat, 1 ≤ k → n * 2 ^ k ≠ a := by
    intro k n hk h
    rw [two_pow_pred k hk] at h
    have : a % 2 = 0 := by rw [← h, ← Nat.mul_assoc, Nat.mul_comm n 2, Nat.mul_assoc]; exact Nat.mul_mod_right _ _
    omega
  have hover : (bitLen a : Int) + e ≤ F.emax + 1 := by
    by_contra hc
    rw [spec_over F hF a e ha (by omega)] at hex
    cases hex
  have hunder : F.qmin ≤ (bitLen a : Int) + e := by
    by_contra hc
    rw [spec_under F hF a e ha (by omega)] at hex
    cases hex
  refine ⟨?_, hunder, hover⟩
  by_contra hgt
  have hgt' : F.prec < bitLen a := by omega
  by_cases hsub : (bitLen a : Int) + e < F.qmin + F.prec
  · obtain ⟨k, hk⟩ : ∃ k : Nat, e + k = F.qmin := ⟨(F.qmin - e).toNat, by omega⟩
    rw [spec_sub_round F hF a k e hk (by omega) (by omega)] at hex
    exact hnodiv k _ (by omega) ((flagOf_exact_iff _ _ _).mp hex)
  · obtain ⟨w, hw⟩ : ∃ w : Nat, (bitLen a : Int) + e = F.qmin + F.prec + w :=
      ⟨((bitLen a : Int) + e - F.qmin - F.prec).toNat, by omega⟩
    obtain ⟨k, hk⟩ : ∃ k, bitLen a = F.prec + k := ⟨bitLen a - F.prec, by omega⟩
    rw [spec_norm_round F hF a k w e hk (by omega) hw (by omega)] at hex
    exact hnodiv k _ (by omega) ((flagOf_exact_iff _ _ _).mp hex)

/-- a rational in lowest terms that rounds exactly has a power of two as denominator -/
theorem coprime_exact_dyadic (F : Ieee) (neg : Bool) (a d : Nat) (hd : d ≠ 0) (hco : Nat.Coprime a d)
    (hex : (ieeeRoundRatMag F .halfEven neg a d).2 = .exact) : ∃ j, d = 2 ^ j := by
  unfold ieeeRoundRatMag at hex
  simp only at hex
  split at hex
  · cases hex
  · simp only at hex
    have h := (flagOf_exact_iff _ _ _).mp hex
    generalize (roundMagMode Mode.halfEven neg _ _).1 = n at h
    generalize (max (ratTop a d - F.prec) F.qmin) = q at h
    -- d divides a·2^k, hence 2^k
    have hdvd : d ∣ a * 2 ^ (-q).toNat := ⟨n * 2 ^ q.toNat, by rw [← h]; ring⟩
    have hdvd2 : d ∣ 2 ^ (-q).toNat := (Nat.Coprime.symm hco).dvd_of_dvd_mul_left hdvd
    obtain ⟨j, _, hj⟩ := (Nat.dvd_prime_pow Nat.prime_two).mp hdvd2
    exact ⟨j, hj⟩

theorem trailingZeros_odd : ∀ fuel n : Nat, n ≠ 0 → n < 2 ^ fuel → (n / 2 ^ trailingZeros fuel n) % 2 = 1 :=
  fun fuel n hn hlt =>
    (IsTz.of_fuel (g := trailingZeros) (fun _ n h => by simp [trailingZeros, show ¬ n % 2 = 0 by omega])
      (fun _ _ h0 h => by simp [trailingZeros, h0, h, Nat.add_comm]) fuel n hn hlt).2

theorem flipIf_eq_exact (f : Flag) (b : Bool) (h : f.flipIf b = .exact) : f = .exact := by
  cases f <;> cases b <;> simp [Flag.flipIf] at h ⊢

theorem ieeeRound_exact_mag (F : Ieee) (n : Int) (e : Int) (hn : n ≠ 0) (bits : Nat)
    (h : ieeeRound F n e = (bits, .exact)) : (ieeeRoundMag F n.natAbs e).2 = .exact := by
  unfold ieeeRound at h
  simp only [hn, if_false, Prod.mk.injEq] at h
  exact flipIf_eq_exact _ _ h.2

/-- the last steps of `TryFrom<RBig> for fNN` on `n·2^x` with an odd `n` whose value is exactly representable -/
theorem tryTo_tail (c : EncConsts) (F : Ieee) (hc : Compatible c F) (hfit : F.prec ≤ c.N - 1) (n x : Int)
    (hodd : n.natAbs % 2 = 1) (bits : Nat) (hex : ieeeRound F n x = (bits, .exact)) :
    (-(2 ^ (c.N - 1) : Int) ≤ n ∧ n < 2 ^ (c.N - 1)) ∧ encodeFixed c n x = .ok (bits, .exact) ∧
      F.qmin ≤ (bitLen n.natAbs : Int) + x ∧ (bitLen n.natAbs : Int) + x ≤ F.emax + 1 := by
  have hn : n ≠ 0 := by intro h; subst h; simp at hodd
  have hmag := ieeeRound_exact_mag F n x hn bits hex
  obtain ⟨hb, hlo, hhi⟩ := odd_exact_bits F hc.ok n.natAbs x hodd hmag
  have hlt : n.natAbs < 2 ^ (c.N - 1) :=
    lt_of_lt_of_le bitLen_lt (pow_le_pow2 (le_trans hb hfit))
  have hc2 : ((2 ^ (c.N - 1) : Nat) : Int) = (2 : Int) ^ (c.N - 1) := by push_cast; rfl
  have hlt' : ((n.natAbs : Nat) : Int) < ((2 ^ (c.N - 1) : Nat) : Int) := by exact_mod_cast hlt
  rw [hc2] at hlt'
  refine ⟨by omega, ?_, hlo, hhi⟩
  rw [encodeFixed_correct c F hc n x (by omega), hex]

/-- **completeness of `TryFrom<RBig> for f32/f64`**: a rational in lowest terms that the format represents
    exactly is accepted with exactly that bit pattern -/
theorem ratTryToFloat_complete (c : EncConsts) (F : Ieee) (hc : Compatible c F) (hfit : F.prec ≤ c.N - 1)
    (lb ub : Int) (hlb : lb = F.qmin) (hub : ub = F.emax + 1) (num : Int) (den : Nat) (hden : den ≠ 0)
    (hco : Nat.Coprime num.natAbs den) (bits : Nat)
    (hex : ieeeRoundRat F .halfEven num den = (bits, .exact)) :
    ratTryToFloat c lb ub num den = .ok (.ok bits) := by
  by_cases h0 : num = 0
  · subst h0
    simp [ieeeRoundRat] at hex
    simp [ratTryToFloat, hex]
  have ha0 : num.natAbs ≠ 0 := by omega
  -- the denominator is a power of two
  have hmagR : (ieeeRoundRatMag F .halfEven (decide (num < 0)) num.natAbs den).2 = .exact := by
    unfold ieeeRoundRat at hex
    simp only [h0, if_false, Prod.mk.injEq] at hex
    exact flipIf_eq_exact _ _ hex.2
  obtain ⟨j, rfl⟩ := coprime_exact_dyadic F _ num.natAbs den hden hco hmagR
  rw [ratTryToFloat_dyadic c F hc lb ub num j h0, hex]
  -- the mantissa handed to `encode` is odd, so exactness bounds its length and its binade
  obtain ⟨z, hz, hx, hz0, hzt⟩ := tryPair_decomp num j
  have habs : num.natAbs = (tryPair num j).1.natAbs * 2 ^ z := by
    simpa [Int.natAbs_mul, Int.natAbs_pow] using (congrArg Int.natAbs hz).symm
  have hodd : (tryPair num j).1.natAbs % 2 = 1 := by
    by_cases hj0 : j = 0
    · have hq := trailingZeros_odd _ _ ha0 (@bitLen_lt num.natAbs)
      rw [← hzt hj0] at hq
      rwa [habs, Nat.mul_div_cancel _ (Nat.two_pow_pos z)] at hq
    · rw [hz0 hj0, pow_zero, Nat.mul_one] at habs
      rw [← habs]
      by_contra hc'
      have := Nat.dvd_gcd (Nat.dvd_of_mod_eq_zero (by omega : num.natAbs % 2 = 0)) (dvd_pow_self 2 hj0)
      rw [hco] at this
      omega
  obtain ⟨hfits, -, hlo, hhi⟩ := tryTo_tail c F hc hfit _ _ hodd bits (by rw [tryPair_spec]; exact hex)
  have hbl : (bitLen num.natAbs : Int) = (bitLen (tryPair num j).1.natAbs : Int) + z := by
    rw [habs, bitLen_mul_pow _ z (by omega)]; push_cast; ring
  rw [if_neg (by omega), if_neg (by omega), if_neg (not_not.mpr hfits), if_pos rfl]

/-- **`TryFrom<RBig> for f32/f64` succeeds iff the rational is exactly representable** (lowest terms),
    and then returns exactly that float -/
theorem ratTryToFloat_iff (c : EncConsts) (F : Ieee) (hc : Compatible c F) (hfit : F.prec ≤ c.N - 1)
    (lb ub : Int) (hlb : lb = F.qmin) (hub : ub = F.emax + 1) (num : Int) (den : Nat) (hden : den ≠ 0)
    (hco : Nat.Coprime num.natAbs den) (bits : Nat) :
    ratTryToFloat c lb ub num den = .ok (.ok bits) ↔ ieeeRoundRat F .halfEven num den = (bits, .exact) :=
  ⟨ratTryToFloat_sound c F hc lb ub num den bits,
   ratTryToFloat_complete c F hc hfit lb ub hlb hub num den hden hco bits⟩

/-- **`TryFrom<RBig> for f32/f64`, value and refusal kind**: for every rational in lowest terms the mirrored
    conversion returns exactly what the specification says (never panics) -/
theorem ratTryToFloat_kind (c : EncConsts) (F : Ieee) (hc : Compatible c F) (hfit : F.prec ≤ c.N - 1)
    (lb ub : Int) (hlb : lb = F.qmin) (hub : ub = F.emax + 1) (num : Int) (den : Nat) (hden : den ≠ 0)
    (hco : Nat.Coprime num.natAbs den) :
    ratTryToFloat c lb ub num den = .ok (ratTryToFloatSpec F c.N num den) := by
  by_cases hex : (ieeeRoundRat F .halfEven num den).2 = .exact
  · rw [ratTryToFloat_complete c F hc hfit lb ub hlb hub num den hden hco _ (Prod.ext rfl hex)]
    unfold ratTryToFloatSpec
    simp only [hex, if_true]
  · have h0 : num ≠ 0 := by
      intro h; apply hex; subst h; simp [ieeeRoundRat]
    unfold ratTryToFloatSpec
    simp only [hex, if_false]
    by_cases hpow : den ≠ 0 ∧ 2 ^ Nat.log2 den = den
    · -- the specification's decisions are the closed form's, with `den = 1` for `j = 0`
      obtain ⟨j, rfl⟩ : ∃ j, den = 2 ^ j := ⟨_, hpow.2.symm⟩
      have hd1 : ((2 : Nat) ^ j = 1) ↔ j = 0 := by
        constructor
        · intro h; exact Nat.pow_right_injective (le_refl 2) (by show 2 ^ j = 2 ^ 0; rw [h])
        · intro h; rw [h]; rfl
      subst hlb hub
      rw [ratTryToFloat_dyadic c F hc _ _ num j h0]
      simp only [if_false, log2_two_pow, hex, hd1]
      -- same decisions: the specification tests fit and ±∞ together, the code one after the other
      unfold tryPair
      simp only [if_neg (not_not.mpr (And.intro hden trivial)), apply_ite Prod.fst, ite_not, ite_and]
    · rw [ratTryToFloat_nondyadic c lb ub num den h0 hpow]
      simp [hpow]

/-- a dyadic value of magnitude `≥ 2^(emax+1)` rounds to ±∞ -/
theorem dyadic_over_inf (F : Ieee) (hF : F.Ok) (num : Int) (j : Nat) (h0 : num ≠ 0)
    (ht : F.emax + 1 < (bitLen num.natAbs : Int) - (j : Int)) :
    (ieeeRoundRat F .halfEven num (2 ^ j)).1 % F.signBit = F.infBits := by
  rw [ieeeRoundRat_dyadic F num j, ieeeRound_fst F num _ h0,
    spec_over F hF num.natAbs (-(j : Int)) (by omega) (by omega)]
  have hlt := infBits_lt_signBit F hF
  simp only
  split
  · rw [Nat.add_mod_left, Nat.mod_eq_of_lt hlt]
  · rw [Nat.zero_add, Nat.mod_eq_of_lt hlt]

/-- **an `OutOfBounds` refusal is truthful**: it is only returned for a value whose IEEE rounding is ±∞ (the
    magnitude exceeds every finite float by at least half an ulp), never for a value inside the finite range -/
theorem ratTryToFloat_outOfBounds_truthful (c : EncConsts) (F : Ieee) (hc : Compatible c F) (hfit : F.prec ≤ c.N - 1)
    (lb ub : Int) (hlb : lb = F.qmin) (hub : ub = F.emax + 1) (num : Int) (den : Nat) (hden : den ≠ 0)
    (hco : Nat.Coprime num.natAbs den) (h : ratTryToFloat c lb ub num den = .ok (.error .outOfBounds)) :
    (ieeeRoundRat F .halfEven num den).1 % F.signBit = F.infBits ∧ (ieeeRoundRat F .halfEven num den).2 ≠ .exact := by
  rw [ratTryToFloat_kind c F hc hfit lb ub hlb hub num den hden hco] at h
  simp only [Except.ok.injEq] at h
  unfold ratTryToFloatSpec at h
  simp only at h
  -- walk down the specification's decisions: only two of its arms refuse with `OutOfBounds`
  by_cases hex : (ieeeRoundRat F .halfEven num den).2 = .exact
  · rw [if_pos hex] at h; cases h
  rw [if_neg hex] at h
  refine ⟨?_, hex⟩
  by_cases hpow : den ≠ 0 ∧ 2 ^ Nat.log2 den = den
  swap
  · rw [if_pos hpow] at h; cases h
  rw [if_neg (not_not.mpr hpow)] at h
  by_cases htop : (bitLen num.natAbs : Int) - (Nat.log2 den : Int) > F.emax + 1
  · have h0 : num ≠ 0 := by
      intro h0; apply hex; subst h0; simp [ieeeRoundRat]
    have := dyadic_over_inf F hc.ok num (Nat.log2 den) h0 (by omega)
    rwa [hpow.2] at this
  rw [if_neg htop] at h
  by_cases hlow : (bitLen num.natAbs : Int) - (Nat.log2 den : Int) < F.qmin
  · rw [if_pos hlow] at h; cases h
  rw [if_neg hlow] at h
  by_contra hne
  rw [if_neg (fun hh => hne hh.2)] at h
  cases h

/-- **every dyadic value of magnitude `≥ 2^(emax+1)` is refused with `OutOfBounds`** (a non-dyadic one with
    `LossOfPrecision`: the denominator test comes first) -/
theorem ratTryToFloat_large_dyadic (c : EncConsts) (F : Ieee) (hc : Compatible c F)
    (lb ub : Int) (hub : ub = F.emax + 1) (num : Int) (j : Nat) (h0 : num ≠ 0)
    (ht : F.emax + 1 < (bitLen num.natAbs : Int) - (j : Int)) :
    ratTryToFloat c lb ub num (2 ^ j) = .ok (.error .outOfBounds) := by
  rw [ratTryToFloat_dyadic c F hc lb ub num j h0, if_pos (by omega)]

theorem intoFlag_eq_none (k : IntoConsts) (neg : Bool) (x : Int) (fl : Flag) (h : intoFlag k neg x fl = none) :
    fl = .exact := by
  unfold intoFlag at h
  split at h
  · cases h
  · split at h
    · cases h
    · cases fl <;> simp at h ⊢

/-- **`TryFrom<FBig<_,2>> / TryFrom<Repr<2>> for f32/f64`: a success is exact** -/
theorem fbigTryToFloat_sound (k : IntoConsts) (hk : IntoCompat k) (c : Coarse) (hc : CoarseSound c)
    (s e : Int) (hodd : s % 2 = 1) (bits : Nat) (h : fbigTryToFloat k c ⟨s, e⟩ = .ok (.ok bits)) :
    ieeeRound k.F s e = (bits, .exact) := by
  have hs0 : s ≠ 0 := by intro h0; subst h0; simp at hodd
  unfold fbigTryToFloat at h
  have hinf : FRepr.isInfinite ⟨s, e⟩ = false := by simp [FRepr.isInfinite, hs0]
  simp only [hinf, Bool.false_eq_true, if_false] at h
  have hn := fbigToFloat_normal k hk .halfEven c hc s e hodd
  simp only at hn
  obtain ⟨b0, fl, hb0⟩ : ∃ b0 fl, fbigToFloat k .halfEven c ⟨s, e⟩ = .ok (b0, fl) := ⟨_, _, hn⟩
  have hpair := hn.symm.trans hb0
  simp only [Except.ok.injEq, Prod.mk.injEq] at hpair
  obtain ⟨hbits0, hfl⟩ := hpair
  rw [hb0] at h
  cases fl with
  | some r => simp only at h; split at h <;> cases h
  | none =>
    simp only [Except.ok.injEq] at h
    subst h
    obtain ⟨h1, h2⟩ := andThenFlag_eq_none _ _ hfl
    have hex := intoFlag_eq_none _ _ _ _ h2
    -- the first rounding did nothing
    have hfit : bitLen s.natAbs ≤ k.F.prec := by
      by_contra hc'
      simp only [firstRound, hc', if_false] at h1
      cases h1
    have hfr : firstRound k.F.prec .halfEven (decide (s < 0)) s.natAbs e = (s.natAbs, e, none) := by
      simp only [firstRound, hfit, if_true]
    rw [hfr] at hex hbits0
    simp only at hex hbits0
    unfold ieeeRound
    simp only [hs0, if_false]
    rw [hex, ← hbits0]
    simp [flipIf_exact]

end Dashu.Model.Conv
