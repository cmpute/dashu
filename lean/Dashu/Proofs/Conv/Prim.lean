import Dashu.Proofs.Conv.IntFloat
import Dashu.Proofs.Int.Repr
/-
  C06 — primitive integers ↔ big integers: the width/sign checks succeed exactly on the values the
  target type holds and return that value; round trips.  At the end `to_f32_small` / `to_f64_small` (an integer of at
  most two words through the hardware cast): the IEEE rounding of the integer with the true error sign.
-/
namespace Dashu.Model.Conv
open Dashu.Model

/-- `try_from_sign_magnitude`: succeeds iff `±mag` is an `iN`, and returns it -/
theorem tryFromSignMagnitude_spec (bits : Nat) (hb : 1 ≤ bits) (neg : Bool) (mag : Nat) (hm : mag < 2 ^ bits) :
    tryFromSignMagnitude bits neg mag =
      intoRangeSpec (-(2 ^ (bits - 1) : Int)) (2 ^ (bits - 1) - 1) (if neg then -(mag : Int) else mag) := by
  have hp := two_pow_pred bits hb
  have hpos : 0 < 2 ^ (bits - 1) := Nat.two_pow_pos _
  unfold tryFromSignMagnitude intoRangeSpec asSigned
  generalize hP : 2 ^ (bits - 1) = P at *
  have hPi : (2 : Int) ^ (bits - 1) = (P : Int) := by rw [← hP]; norm_cast
  have hBi : (2 : Int) ^ bits = 2 * (P : Int) := by
    have : ((2 ^ bits : Nat) : Int) = ((2 * P : Nat) : Int) := by rw [hp]
    push_cast at this; exact this
  rw [hp] at hm ⊢
  rw [hPi, hBi]
  cases neg
  · simp only [Bool.not_false, if_true, Bool.false_eq_true, if_false]
    by_cases h : mag < P
    · have : (-(P : Int) ≤ (mag : Int) ∧ (mag : Int) ≤ (P : Int) - 1) := by omega
      rw [if_pos h, if_pos this]
    · have : ¬ (-(P : Int) ≤ (mag : Int) ∧ (mag : Int) ≤ (P : Int) - 1) := by omega
      rw [if_neg h, if_neg this]
  · simp only [Bool.not_true, Bool.false_eq_true, if_false, if_true]
    by_cases h0 : mag = 0
    · subst h0
      have e1 : (2 * P - 0) % (2 * P) = 0 := by simp
      have : (-(P : Int) ≤ -((0 : Nat) : Int) ∧ -((0 : Nat) : Int) ≤ (P : Int) - 1) := by omega
      rw [e1, if_pos hpos, if_pos this]
      simp
    · have e1 : (2 * P - mag) % (2 * P) = 2 * P - mag := Nat.mod_eq_of_lt (by omega)
      rw [e1]
      by_cases h : mag ≤ P
      · have h1 : ¬ (2 * P - mag < P) := by omega
        have h2 : (((2 * P - mag : Nat) : Int) - 2 * (P : Int)) = -(mag : Int) := by omega
        have h3 : (-(P : Int) ≤ -(mag : Int) ∧ -(mag : Int) ≤ (P : Int) - 1) := by omega
        rw [if_neg h1, h2, if_pos h3]
        have : -(mag : Int) ≤ 0 := by omega
        rw [if_pos this]
      · have h1 : 2 * P - mag < P := by omega
        have h3 : ¬ (-(P : Int) ≤ -(mag : Int) ∧ -(mag : Int) ≤ (P : Int) - 1) := by omega
        rw [if_pos h1, if_neg h3]
        have : ¬ (((2 * P - mag : Nat) : Int) ≤ 0) := by omega
        rw [if_neg this]

/-- `try_to_unsigned::<T>` on a canonical magnitude: succeeds iff the value fits `bits`
    (`bits` a multiple of the word size or at most one word, as the code asserts) -/
theorem tryToUnsigned_spec (W bits : Nat) (hW : 8 ≤ W) (hW8 : W % 8 = 0) (hb8 : bits % 8 = 0)
    (hbits : bits ≤ W ∨ bits % W = 0) (r : TRepr) (hr : r.Canon W) :
    tryToUnsigned W bits r = if r.value W < 2 ^ bits then .ok (r.value W) else .error .outOfBounds := by
  cases r with
  | small d => by_cases h : d < 2 ^ bits <;> simp [tryToUnsigned, TRepr.value, h]
  | large ws =>
    have hlen := hr.large_len
    have hwords := hr.large_words
    have hge := hr.large_ge
    have hlt := val_lt W ws hwords
    obtain ⟨h3, _, hl⟩ := hr
    have hne : ws ≠ [] := by intro e; subst e; simp at h3
    have hge2 := val_ge_of_getLast W ws hne hl
    simp only [tryToUnsigned, unsignedFromWords, TRepr.value]
    -- words of the target type
    have htw : bits / 8 / (W / 8) = bits / W := by
      rw [Nat.div_div_eq_div_mul]
      congr 1
      omega
    rw [htw]
    by_cases hc : bits / W ≤ 1 ∨ ws.length > bits / W
    · simp only [hc, if_true]
      have : ¬ (val W ws < 2 ^ bits) := by
        have hb : bits ≤ W * (ws.length - 1) := by
          rcases hbits with hle | hmod
          · calc bits ≤ W * 1 := by omega
              _ ≤ W * (ws.length - 1) := Nat.mul_le_mul_left _ (by omega)
          · have hmul : bits = W * (bits / W) := (Nat.mul_div_cancel' (Nat.dvd_of_mod_eq_zero hmod)).symm
            have hq : bits / W ≤ ws.length - 1 := by omega
            calc bits = W * (bits / W) := hmul
              _ ≤ W * (ws.length - 1) := Nat.mul_le_mul_left _ hq
        have : 2 ^ bits ≤ 2 ^ (W * (ws.length - 1)) := pow_le_pow2 hb
        omega
      simp [this]
    · simp only [hc, if_false]
      have hc' : 2 ≤ bits / W ∧ ws.length ≤ bits / W := by omega
      have hmul : bits = W * (bits / W) := by
        rcases hbits with h | h
        · exfalso
          have : bits / W ≤ 1 := by
            rcases Nat.lt_or_ge bits W with h' | h'
            · rw [Nat.div_eq_of_lt h']; omega
            · have : bits = W := by omega
              rw [this, Nat.div_self (by omega)]
          omega
        · exact (Nat.mul_div_cancel' (Nat.dvd_of_mod_eq_zero h)).symm
      have : val W ws < 2 ^ bits := by
        calc val W ws < 2 ^ (W * ws.length) := hlt
          _ ≤ 2 ^ (W * (bits / W)) := pow_le_pow2 (Nat.mul_le_mul_left _ hc'.2)
          _ = 2 ^ bits := by rw [← hmul]
      simp [this]

/-- `from_unsigned` keeps the value and is canonical -/
theorem fromUnsigned_spec (W x : Nat) (hW : 1 ≤ W) :
    (fromUnsigned W x).value W = x ∧ ((fromUnsigned W x).value W < 2 ^ (2 * W) → ∃ d, fromUnsigned W x = .small d) := by
  unfold fromUnsigned
  by_cases h : x < 2 ^ (2 * W)
  · simp [h, TRepr.value]
  · simp only [h, if_false]
    refine ⟨?_, ?_⟩
    · rw [fromBuffer_value]
      -- value of the word decomposition
      have : ∀ n, val W (natWords W n) = n := by
        intro n
        induction n using Nat.strong_induction_on with
        | _ n ih =>
          unfold natWords
          by_cases h0 : n = 0
          · simp [h0]
          · have hW0 : ¬ W = 0 := by omega
            simp only [h0, hW0, dif_neg, not_false_eq_true]
            rw [val_cons, ih (n / 2 ^ W) (Nat.div_lt_self (Nat.pos_of_ne_zero h0) (Nat.one_lt_two_pow hW0))]
            have := Nat.div_add_mod n (2 ^ W)
            omega
      exact this x
    · intro hlt
      exfalso
      rw [fromBuffer_value] at hlt
      have : ∀ n, val W (natWords W n) = n := by
        intro n
        induction n using Nat.strong_induction_on with
        | _ n ih =>
          unfold natWords
          by_cases h0 : n = 0
          · simp [h0]
          · have hW0 : ¬ W = 0 := by omega
            simp only [h0, hW0, dif_neg, not_false_eq_true]
            rw [val_cons, ih (n / 2 ^ W) (Nat.div_lt_self (Nat.pos_of_ne_zero h0) (Nat.one_lt_two_pow hW0))]
            have := Nat.div_add_mod n (2 ^ W)
            omega
      rw [this x] at hlt
      exact h hlt

/-- `to_sign_magnitude` of an `iN` in range returns its sign and absolute value -/
theorem toSignMagnitude_spec (bits : Nat) (hb : 1 ≤ bits) (x : Int)
    (hx : -(2 ^ (bits - 1) : Int) ≤ x ∧ x ≤ 2 ^ (bits - 1) - 1) :
    toSignMagnitude bits x = (decide (x < 0), x.natAbs) := by
  have hp := two_pow_pred bits hb
  unfold toSignMagnitude
  generalize hP : 2 ^ (bits - 1) = P at *
  have hPi : (2 : Int) ^ (bits - 1) = (P : Int) := by rw [← hP]; norm_cast
  rw [hPi] at hx
  by_cases h : x ≥ 0
  · have : ¬ (x < 0) := by omega
    simp only [h, if_true, this, decide_false]
    congr 1
    omega
  · have hn : x < 0 := by omega
    simp only [h, if_false, hn, decide_true]
    congr 1
    have hBi : ((2 ^ bits : Nat) : Int) = 2 * (P : Int) := by rw [hp]; push_cast; ring
    have hm : x % ((2 ^ bits : Nat) : Int) = x + 2 * (P : Int) := by
      rw [hBi]
      have h1 : 0 ≤ x + 2 * (P : Int) := by omega
      have h2 : x + 2 * (P : Int) < 2 * (P : Int) := by omega
      rw [← Int.add_mul_emod_self_left x (2 * (P : Int)) 1, Int.mul_one]
      exact Int.emod_eq_of_lt h1 h2
    have hcast : ((2 : Int) ^ bits) = ((2 ^ bits : Nat) : Int) := by norm_cast
    rw [hcast, hm, hp]
    have e : (x + 2 * (P : Int)).toNat = 2 * P - x.natAbs := by omega
    rw [e]
    have : 2 * P - (2 * P - x.natAbs) = x.natAbs := by omega
    rw [this]
    exact Nat.mod_eq_of_lt (by omega)

/-- `to_f64_small` (repaired) and `to_f32_small`: the hardware cast plus the comparison with the cast
    back give the IEEE rounding of the integer and the true error sign -/
theorem toSmall_correct (F : Ieee) (W d : Nat) (hd : d < 2 ^ (2 * W)) :
    (match castToFloat F d with
     | (bits, none) => (bits, Flag.pos)
     | (bits, some v) => if v ≥ 2 ^ (2 * W) then (bits, Flag.pos) else (bits, flagOfCompare v d)) =
    ieeeRound F (d : Int) 0 := by
  by_cases h0 : d = 0
  · subst h0
    simp [castToFloat, ieeeRound, flagOfCompare]
  rw [ieeeRound_nonneg F d 0 h0]
  unfold castToFloat ieeeRoundMag
  simp only [h0, if_false]
  by_cases hov : 2 ^ (F.emax + 1 - F.qmin).toNat ≤ (roundMag F d 0).n * 2 ^ ((roundMag F d 0).q - F.qmin).toNat
  · simp only [hov, if_true]
  · simp only [hov, if_false]
    unfold roundMag
    simp only
    generalize hq : max ((bitLen d : Int) + 0 - F.prec) F.qmin = q
    by_cases hq0 : q ≤ 0
    · have hq1 : ¬ (q > 0) := by omega
      simp only [hq0, if_true, hq1, if_false, rneDiv_one]
      have : ¬ (d ≥ 2 ^ (2 * W)) := by omega
      simp [this, flagOfCompare, flagOf]
    · have hq1 : q > 0 := by omega
      simp only [hq0, if_false, hq1, if_true]
      have hqn : (q - 0).toNat = q.toNat := by simp
      rw [hqn]
      unfold flagOfCompare flagOf
      generalize rneDiv d (2 ^ q.toNat) * 2 ^ q.toNat = v
      split_ifs <;> first | rfl | (exfalso; omega)

theorem toF64Small_fixed_correct (W d : Nat) (hd : d < 2 ^ (2 * W)) :
    toF64SmallFixed W d = ieeeRound .binary64 (d : Int) 0 := by
  rw [← toSmall_correct .binary64 W d hd]
  unfold toF64SmallFixed
  rfl

/-- a finite result of the cast is below `2^(emax+1)` -/
theorem castToFloat_lt (F : Ieee) (hF : F.Ok) (d bits v : Nat) (W : Nat) (hd : d < 2 ^ (2 * W))
    (hW : (F.emax + 1).toNat ≤ 2 * W) (h : castToFloat F d = (bits, some v)) : v < 2 ^ (2 * W) := by
  unfold castToFloat at h
  by_cases h0 : d = 0
  · simp [h0] at h
    have := Nat.two_pow_pos (2 * W)
    omega
  simp only [h0, if_false] at h
  have hB := F.B_ge hF
  have hqm := F.qmin_eq
  have hem := F.emax_eq
  split at h
  · simp at h
  · rename_i hov
    simp only [Prod.mk.injEq, Option.some.injEq] at h
    obtain ⟨-, hv⟩ := h
    by_cases hq : (roundMag F d 0).q > 0
    · rw [if_pos hq] at hv
      generalize (roundMag F d 0).n = n at *
      generalize (roundMag F d 0).q = q at *
      obtain ⟨qn, hqn⟩ : ∃ qn : Nat, q = qn := ⟨q.toNat, by omega⟩
      obtain ⟨mq, hmq⟩ : ∃ mq : Nat, -F.qmin = mq := ⟨(-F.qmin).toNat, by omega⟩
      have e1 : (q - F.qmin).toNat = qn + mq := by omega
      have e2 : (F.emax + 1 - F.qmin).toNat = (F.emax + 1).toNat + mq := by omega
      have e3 : q.toNat = qn := by omega
      rw [e1, e2, pow_add, pow_add, ← Nat.mul_assoc] at hov
      rw [e3] at hv
      have hlt : n * 2 ^ qn < 2 ^ (F.emax + 1).toNat := by
        by_contra hc
        exact hov (Nat.mul_le_mul_right _ (by omega))
      have := pow_le_pow2 hW
      omega
    · rw [if_neg hq] at hv; omega

theorem toF32Small_correct (W d : Nat) (hW : 64 ≤ W) (hd : d < 2 ^ (2 * W)) :
    toF32Small W d = ieeeRound .binary32 (d : Int) 0 := by
  rw [← toSmall_correct .binary32 W d hd]
  unfold toF32Small
  rcases h : castToFloat .binary32 d with ⟨bits, _ | v⟩
  · rfl
  · simp only
    have hv := castToFloat_lt .binary32 Ieee.binary32_ok d bits v W hd
      (by have : (Ieee.binary32.emax + 1).toNat = 128 := by decide
          omega) h
    have hmin : min v (2 ^ (2 * W) - 1) = v := by omega
    have hnot : ¬ (v ≥ 2 ^ (2 * W)) := by omega
    rw [hmin, if_neg hnot]

end Dashu.Model.Conv
