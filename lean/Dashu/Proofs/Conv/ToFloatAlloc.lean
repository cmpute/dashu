import Dashu.Model.Int.PowGuard
/-
  C06 — the up-front allocation refusal of `Repr::to_float` when the digit shift is at least
  `2^64 − 64` (the driver's transcribed `AllocTooMuch`) DERIVED from the guarded kernels the integer properties own
  (`Model/Int/PowGuard.lean`: `TRepr.shlChecked` = `TypedRepr << n` with `Buffer::allocate`'s capacity check;
  `ubigPowGuarded` = `UBig::pow` with its checked `exp * shift`, its result-buffer allocation and its final shift).
  `to_float` scales the numerator by `&numerator << shift` (B = 2) or `&numerator * base.pow(shift)` (B ≠ 2).  Core Lean only.
-/
namespace Dashu.Model.Conv
open Dashu Dashu.Model

theorem shl_refused (r : TRepr) (hr : r ≠ .small 0) (n : Nat) (hn : 2 ^ 64 - 64 ≤ n) :
    r.shlChecked 64 n = .error .allocTooMuch := by
  cases r with
  | small d =>
    have hd : d ≠ 0 := fun h => hr (by rw [h])
    have hb : ¬ n ≤ 2 * 64 - bitLenNat d := by omega
    have hc : (2 ^ usizeBits - 1) / 64 < n / 64 + 1 := by unfold usizeBits; omega
    have hc3 : (2 ^ usizeBits - 1) / 64 < n / 64 + 3 := by unfold usizeBits; omega
    by_cases h2 : d = 1
    · subst h2
      simp [TRepr.shlChecked, shlAllocateWords, bufMaxCapacity, hb, hc]
    · simp [TRepr.shlChecked, shlAllocateWords, bufMaxCapacity, hd, h2, hb, hc3]
  | large ws =>
    have hc : (2 ^ usizeBits - 1) / 64 < n / 64 + ws.length + 1 := by unfold usizeBits; omega
    simp [TRepr.shlChecked, shlAllocateWords, bufMaxCapacity, hc]

theorem pow_refused_16 (n : Nat) (hn : 2 ^ 64 - 64 ≤ n) :
    ubigPowGuarded 64 (.small 16) n = .error .allocTooMuch := by
  have h1 : TRepr.trailingZeros 64 (.small 16) = .ok (some 4) := rfl
  have h2 : 2 ^ usizeBits ≤ n * 4 := by unfold usizeBits; omega
  simp [ubigPowGuarded, h1, h2, bind, Except.bind]

theorem powBuf_refused_5 (n : Nat) (hn : 2 ^ 64 - 64 ≤ n) : powBufAllocPanics 64 (.small 5) n = true := by
  have h1 : maxExpInWord 64 5 = (27, 7450580596923828125) := by decide +kernel
  have h2 : bufMaxCapacity 64 < n / 27 + 1 := by unfold bufMaxCapacity usizeBits; omega
  have h3 : ¬ n < 2 * 27 := by omega
  have h4 : isPow2 5 = false := by decide
  have h5 : ¬ (n = 0 ∨ n = 1 ∨ n = 2) := by omega
  simp [powBufAllocPanics, h1, h2, h3, h4, h5]

theorem powBuf_refused_3 (n : Nat) (hn : 2 ^ 64 - 64 ≤ n) : powBufAllocPanics 64 (.small 3) n = true := by
  have h1 : maxExpInWord 64 3 = (40, 12157665459056928801) := by decide +kernel
  have h2 : bufMaxCapacity 64 < n / 40 + 1 := by unfold bufMaxCapacity usizeBits; omega
  have h3 : ¬ n < 2 * 40 := by omega
  have h4 : isPow2 3 = false := by decide
  have h5 : ¬ (n = 0 ∨ n = 1 ∨ n = 2) := by omega
  simp [powBufAllocPanics, h1, h2, h3, h4, h5]

theorem pow_refused_10 (n : Nat) (hn : 2 ^ 64 - 64 ≤ n) :
    ubigPowGuarded 64 (.small 10) n = .error .allocTooMuch := by
  have h1 : TRepr.trailingZeros 64 (.small 10) = .ok (some 1) := rfl
  have h2 : (TRepr.small 10).shr 64 1 true = .small 5 := by decide
  simp [ubigPowGuarded, h1, h2, bind, Except.bind, TRepr.powBufG, powBuf_refused_5 n hn]

theorem pow_refused_3 (n : Nat) (hn : 2 ^ 64 - 64 ≤ n) :
    ubigPowGuarded 64 (.small 3) n = .error .allocTooMuch := by
  have h1 : TRepr.trailingZeros 64 (.small 3) = .ok (some 0) := rfl
  simp [ubigPowGuarded, h1, bind, Except.bind, TRepr.powBufG, powBuf_refused_3 n hn]

/-- the threshold is sharp for the numerator 1: below it (and past the double word) `1 << n` is not refused up front -/
theorem shl_one_not_refused (n : Nat) (h1 : 128 ≤ n) (h2 : n < 2 ^ 64 - 64) :
    (TRepr.small 1).shlChecked 64 n = .ok ((TRepr.small 1).shl 64 n) := by
  have hb : ¬ n ≤ 2 * 64 - bitLenNat 1 := by
    have : bitLenNat 1 = 1 := by decide
    omega
  have hc : ¬ (2 ^ usizeBits - 1) / 64 < n / 64 + 1 := by unfold usizeBits; omega
  simp [TRepr.shlChecked, shlAllocateWords, bufMaxCapacity, hb, hc]

end Dashu.Model.Conv
