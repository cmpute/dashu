import Dashu.Proofs.Conv.Prim
import Dashu.Proofs.Conv.Decode
import Dashu.Model.Conv.Ratio
/-
  C06 — what `Props/C06` needs beside the main theorems: `ieeeRound` of a negative integer, the unsigned round trip
  primitive → big → primitive, and `TryFrom<UBig> for f32/f64` (a success is exact).
-/
namespace Dashu.Model.Conv
open Dashu.Model

theorem ieeeRound_neg (F : Ieee) (x : Nat) (e : Int) (hx : x ≠ 0) :
    ieeeRound F (-(x : Int)) e = signedApx F true (ieeeRound F (x : Int) e) := by
  rw [ieeeRound_nonneg F x e hx]
  unfold ieeeRound signedApx
  have h0 : ¬ (-(x : Int) = 0) := by omega
  have hn : (-(x : Int)) < 0 := by omega
  simp [h0, hx, Nat.pos_of_ne_zero hx]

/-- primitive → big → primitive gives the value back -/
theorem unsigned_roundtrip (W bits x : Nat) (hx : x < 2 ^ bits) (hb : bits ≤ 2 * W) :
    tryToUnsigned W bits (fromUnsigned W x) = .ok x := by
  have : x < 2 ^ (2 * W) := lt_of_lt_of_le hx (pow_le_pow2 hb)
  simp [fromUnsigned, this, tryToUnsigned, hx]

theorem castToFloat_bits (F : Ieee) (x : Nat) (hx : x ≠ 0) :
    (castToFloat F x).1 = (ieeeRoundMag F x 0).1 := by
  unfold castToFloat ieeeRoundMag
  simp only [hx, if_false]
  split <;> rfl

/-- `TryFrom<UBig> for f32/f64`: whenever the bit-length rule lets a value through, the cast is exact
    (the rule is conservative: e.g. `2^25` is refused for `f32` although representable) -/
theorem ubigTryToFloat_sound (F : Ieee) (hF : F.Ok) (hB : F.prec + 1 ≤ F.B) (x b : Nat)
    (h : ubigTryToFloat F x = .ok b) : ieeeRound F (x : Int) 0 = (b, .exact) := by
  unfold ubigTryToFloat at h
  simp only at h
  split at h
  · cases h
  · rename_i hc
    simp only [Except.ok.injEq] at h
    by_cases hx : x = 0
    · subst hx
      simp [castToFloat] at h
      simp [ieeeRound, h]
    rw [ieeeRound_nonneg F x 0 hx]
    rw [castToFloat_bits F x hx] at h
    have hL1 := bitLen_pos hx
    have hqm := F.qmin_eq
    have hprec : F.prec = F.MB + 1 := rfl
    have hBge := F.B_ge hF
    -- quantum offset w = L + B - 3
    obtain ⟨w, hw⟩ : ∃ w : Nat, w + 3 = bitLen x + F.B := ⟨bitLen x + F.B - 3, by omega⟩
    have ht : (bitLen x : Int) + 0 = F.qmin + F.prec + w := by rw [hqm]; omega
    by_cases hle : bitLen x ≤ F.prec
    · obtain ⟨j, hj⟩ : ∃ j, bitLen x + j = F.prec := ⟨F.prec - bitLen x, by omega⟩
      have hs := spec_norm_exact F hF x j w 0 hj ht (by omega)
      rw [hs] at h ⊢
      simp only at h
      rw [h]
    · have hL : bitLen x = F.prec + 1 := by omega
      have hpow : x = 2 ^ (bitLen x - 1) := by
        by_contra hne
        exact hc (Or.inr ⟨hL, hne⟩)
      have hs := spec_norm_round F hF x 1 w 0 hL (by omega) ht (by omega)
      have hx2 : x = 2 ^ F.prec := by rw [hpow, hL]; simp
      have hr : rneDiv x (2 ^ 1) = 2 ^ (F.prec - 1) := by
        rw [hx2]
        unfold rneDiv
        have e : 2 ^ F.prec = 2 ^ (F.prec - 1) * 2 ^ 1 := by
          rw [← pow_add]; congr 1 <;> omega
        have hd : 2 ^ F.prec / 2 ^ 1 = 2 ^ (F.prec - 1) :=
          Nat.div_eq_of_eq_mul_left (by decide) e
        have hm : 2 ^ F.prec % 2 ^ 1 = 0 := by
          rw [e, Nat.mul_mod_left]
        simp only [hd, hm]
        norm_num
      have hfl : flagOf (2 ^ (F.prec - 1)) (2 ^ 1) x = .exact := by
        unfold flagOf
        have : 2 ^ (F.prec - 1) * 2 ^ 1 = x := by
          rw [hx2, ← pow_add]; congr 1 <;> omega
        rw [if_pos this]
      rw [hr, hfl] at hs
      rw [hs] at h ⊢
      simp only at h
      rw [h]

end Dashu.Model.Conv
