import Dashu.Proofs.Conv.DoubleRound
import Dashu.Proofs.Conv.Exact
/-
  C06 — `FBig/Repr::to_f32 / to_f64` for base 2: the first rounding (`repr_round_ref` to 24/53 bits) in
  terms of magnitude rounding, the normal form of the whole conversion, and the regions (`ToFloatBad`,
  `ToFloatFlagBad`) outside which the two roundings are one; the theorems about them are in `Modes` / `ModeFlag`.
-/
namespace Dashu.Model.Conv
open Dashu Dashu.Model Dashu.Model.Float

def convMode : Float.Mode → Mode
  | .zero => .zero | .away => .away | .up => .up | .down => .down | .halfEven => .halfEven | .halfAway => .halfAway

/-- dashu's adjustment flag of a magnitude rounding: nothing added ⇒ NoOp, else away from zero -/
def adjOfUp (up neg : Bool) : Float.Rounding :=
  if !up then .NoOp else if neg then .SubOne else .AddOne

/-- the "round the magnitude up" decision of `roundMagMode` for a non-zero remainder -/
def upMag (mode : Mode) (neg : Bool) (q r den : Nat) : Bool :=
  match mode with
  | .zero => false
  | .away => true
  | .up => !neg
  | .down => neg
  | .halfEven => decide (den < 2 * r) || (decide (2 * r = den) && decide (q % 2 = 1))
  | .halfAway => decide (den ≤ 2 * r)

theorem roundMagMode_eq (mode : Mode) (neg : Bool) (num den : Nat) (hr : num % den ≠ 0) :
    roundMagMode mode neg num den =
      (num / den + (if upMag mode neg (num / den) (num % den) den then 1 else 0),
       upMag mode neg (num / den) (num % den) den) := by
  unfold roundMagMode upMag
  simp only [hr, if_false]
  cases mode <;> simp <;> (try (split <;> rfl))

open Dashu.Props.GenRound in
/-- the magnitude decision of `roundMagMode` is the arithmetic description `Moves` of the regenerated tables, read on
    `±q ± r/D` -/
theorem moves_iff_upMag (m : Float.Mode) (neg : Bool) (q r D : Nat) (hr : 0 < r) :
    Moves m ((if neg then -1 else 1) * (q : Int)) ((if neg then -1 else 1) * (r : Int)) (D : Int) ↔
      upMag (convMode m) neg q r D = true := by
  have habs : |(r : Int)| = r := abs_of_nonneg (Int.natCast_nonneg r)
  cases neg <;> cases m <;> simp [Moves, upMag, convMode, habs] <;> omega

open Dashu.Props.GenRound in
/-- the six regenerated tables on an integer part `±q` and a non-zero low part `±r/D` of the same sign -/
theorem table_mag (m : Float.Mode) (neg : Bool) (q r D : Nat) (hr : 0 < r) :
    roundLowPart m ((if neg then -1 else 1) * (q : Int)) (signOf ((if neg then -1 else 1) * (r : Int)))
        (compare (2 * |(if neg then -1 else 1) * (r : Int)|) (D : Int)) =
      adjOfUp (upMag (convMode m) neg q r D) neg := by
  have hf0 : (if neg then -1 else 1) * (r : Int) ≠ 0 := by cases neg <;> simp <;> omega
  have hb := (bump_iff m _ _ (D : Int) hf0).trans (moves_iff_upMag m neg q r D hr)
  rw [roundLowPart_eq]
  -- `signOf` and the comparison are `lowSign` and `halfTest` by definition
  change (if bump m _ (lowSign _) (halfTest _ _) = true then dirOf (lowSign _) else Rounding.NoOp) = _
  cases hu : upMag (convMode m) neg q r D
  · rw [if_neg (by rw [hb, hu]; decide)]; rfl
  · rw [if_pos (hb.mpr hu)]
    cases neg
    · rw [show lowSign ((if false = true then -1 else 1) * (r : Int)) = .Positive from if_neg (by simp)]; rfl
    · rw [show lowSign ((if true = true then -1 else 1) * (r : Int)) = .Negative from if_pos (by simp; omega)]; rfl

/-- base-2 digit count is the bit length -/
theorem digits_two (a : Nat) : digits 2 a = bitLen a := by
  by_cases ha : a = 0
  · subst ha; rw [digits_zero]; rfl
  · exact digits_unique 2 (by decide) a (bitLen a) (bitLen_le ha) bitLen_lt (bitLen_pos ha)

theorem tdiv_tmod_nat (a D : Nat) :
    Int.tdiv (a : Int) (D : Int) = ((a / D : Nat) : Int) ∧ Int.tmod (a : Int) (D : Int) = ((a % D : Nat) : Int) := by
  constructor
  · exact (Int.ofNat_tdiv a D).symm
  · rw [Int.tmod_eq_emod_of_nonneg (by omega)]; exact (Int.natCast_mod a D).symm

theorem rInt_adjOfUp (up neg : Bool) :
    rInt (adjOfUp up neg) = (if neg then -1 else 1) * (if up then 1 else 0) := by
  cases up <;> cases neg <;> rfl

/-- **the first rounding of `to_f32/to_f64`** (`repr_round_ref` in base 2 on a normalised, non-zero
    significand): nothing happens when the significand fits; otherwise the magnitude is rounded to `p`
    bits in the mode of the type and the flag says whether the magnitude grew. -/
theorem reprRound_two (m : Float.Mode) (c : Coarse) (hc : CoarseSound c) (p : Nat) (hp : 1 ≤ p) (s e : Int)
    (hodd : s % 2 = 1) :
    reprRound 2 m c p ⟨s, e⟩ =
      if bitLen s.natAbs ≤ p then (⟨s, e⟩, none)
      else
        let k := bitLen s.natAbs - p
        let rm := roundMagMode (convMode m) (decide (s < 0)) s.natAbs (2 ^ k)
        (FRepr.new 2 ((if s < 0 then -1 else 1) * (rm.1 : Int)) (e + (k : Int)), some (adjOfUp rm.2 (decide (s < 0)))) := by
  unfold reprRound
  have hp0 : p ≠ 0 := by omega
  simp only [hp0, if_false]
  have hdig : FRepr.digits 2 ⟨s, e⟩ = bitLen s.natAbs := by
    unfold FRepr.digits digitsI; exact digits_two _
  rw [hdig]
  by_cases hfit : bitLen s.natAbs ≤ p
  · have : ¬ (bitLen s.natAbs > p) := by omega
    simp only [this, hfit, if_false, if_true]
  · have hgt : bitLen s.natAbs > p := by omega
    simp only [hgt, hfit, if_true, if_false]
    generalize hk : bitLen s.natAbs - p = k
    have hk1 : 1 ≤ k := by omega
    rw [splitDigits_eq]
    unfold splitSpec
    simp only
    generalize ha : s.natAbs = a
    -- the discarded part is not zero: the significand is odd
    have haodd : a % 2 = 1 := by rw [← ha]; omega
    have hr0 : a % 2 ^ k ≠ 0 := mod_two_pow_ne_zero_of_odd hk1 haodd
    rw [roundMagMode_eq _ _ _ _ hr0]
    simp only
    -- sign and magnitude: `s = ±a`, and truncated division acts on the magnitude
    obtain ⟨neg, hneg, hs⟩ : ∃ neg : Bool, decide (s < 0) = neg ∧ s = (if neg then -1 else 1) * (a : Int) := by
      by_cases h : s < 0
      · exact ⟨true, by simp [h], by simp; omega⟩
      · exact ⟨false, by simp [h], by simp; omega⟩
    have hsg : (if s < 0 then (-1 : Int) else 1) = if neg then -1 else 1 := by
      rw [← hneg]; by_cases h : s < 0 <;> simp [h]
    obtain ⟨ht1, ht2⟩ := tdiv_tmod_nat a (2 ^ k)
    have hdm : Int.tdiv s ((2 ^ k : Nat) : Int) = (if neg then -1 else 1) * ((a / 2 ^ k : Nat) : Int) ∧
        Int.tmod s ((2 ^ k : Nat) : Int) = (if neg then -1 else 1) * ((a % 2 ^ k : Nat) : Int) := by
      rw [hs, ← ht1, ← ht2]
      cases neg <;> simp [Int.neg_tdiv, Int.neg_tmod]
    have hlo : (if neg then -1 else 1) * ((a % 2 ^ k : Nat) : Int) ≠ 0 :=
      mul_ne_zero (by cases neg <;> decide) (by exact_mod_cast hr0)
    rw [hneg, hsg, hdm.1, hdm.2, roundFract_eq 2 m c hc _ _ k hlo,
      table_mag m neg (a / 2 ^ k) (a % 2 ^ k) (2 ^ k) (by omega)]
    refine Prod.ext ?_ rfl
    simp only
    congr 1
    rw [rInt_adjOfUp]
    cases neg <;> split <;> push_cast <;> ring

/-! ### `Repr::new` moves powers of the base into the exponent -/

theorem stripAux_decomp (B : Nat) : ∀ fuel (s e : Int),
    ∃ z : Nat, s = (stripAux B fuel s e).1 * (B : Int) ^ z ∧ (stripAux B fuel s e).2 = e + z := by
  intro fuel
  induction fuel with
  | zero => intro s e; exact ⟨0, by simp [stripAux], by simp [stripAux]⟩
  | succ n ih =>
    intro s e
    unfold stripAux
    by_cases h : s % (B : Int) = 0
    · simp only [h, if_true]
      obtain ⟨z, h1, h2⟩ := ih (s / (B : Int)) (e + 1)
      refine ⟨z + 1, ?_, ?_⟩
      · have hs : s = (s / (B : Int)) * B := by
          have := Int.mul_ediv_add_emod s B; rw [h] at this; linarith
        conv_lhs => rw [hs, h1]
        rw [pow_succ]; ring
      · rw [h2]; push_cast; ring
    · simp only [h, if_false]
      exact ⟨0, by simp, by simp⟩

theorem new_decomp (B : Nat) (s e : Int) (hs : s ≠ 0) :
    ∃ z : Nat, s = (FRepr.new B s e).signif * (B : Int) ^ z ∧ (FRepr.new B s e).exp = e + z := by
  unfold FRepr.new
  simp only [hs, if_false]
  exact stripAux_decomp B _ s e

/-! ### `into_f32_internal / into_f64_internal` -/

structure IntoCompat (k : IntoConsts) : Prop where
  enc : Compatible k.enc k.F
  prec : k.prec = k.F.prec
  inf : k.infExp = k.F.emax + 1
  zero : k.zeroExp = k.F.qmin - k.F.prec
  fit : k.F.prec ≤ k.enc.N - 1

theorem into32_compat : IntoCompat into32 := ⟨f32Fixed_compatible, rfl, by decide, by decide, by decide⟩
theorem into64_compat : IntoCompat into64 := ⟨f64Fixed_compatible, rfl, by decide, by decide, by decide⟩

/-- the flag `into_fNN_internal` attaches, given the (magnitude) error flag of rounding `v` to the format -/
def intoFlag (k : IntoConsts) (neg : Bool) (vexp : Int) (fl : Flag) : Option Float.Rounding :=
  if vexp ≥ k.infExp then some (if neg then .SubOne else .AddOne)
  else if vexp < k.zeroExp then some .NoOp
  else match fl with
    | .exact => none
    | _ => some .NoOp

/-- `into_fNN_internal` on a value `±n·2^x` with at most `prec` significant bits: the bits are the IEEE
    rounding of that value in every branch (the two early exits agree with the rounding) -/
theorem intoFloatInternal_eq (k : IntoConsts) (hk : IntoCompat k) (sg : Int) (n : Nat) (x : Int)
    (hn : n ≠ 0) (hsg : sg = 1 ∨ sg = -1) (hbits : bitLen n ≤ k.F.prec) :
    intoFloatInternal k ⟨sg * n, x⟩ =
      .ok ((if sg < 0 then k.F.signBit else 0) + (ieeeRoundMag k.F n x).1,
           intoFlag k (decide (sg < 0)) x (ieeeRoundMag k.F n x).2) := by
  have hF := hk.enc.ok
  have hB := k.F.B_ge hF
  have hL1 := bitLen_pos hn
  have hneg : (sg * (n : Int) < 0) ↔ sg < 0 := by
    rcases hsg with rfl | rfl
    · simp
    · simp; omega
  unfold intoFloatInternal intoFlag
  simp only [hneg]
  by_cases h1 : x ≥ k.infExp
  · simp only [h1, if_true]
    have hov := spec_over k.F hF n x hn (by have := hk.inf; omega)
    rw [hov]
    by_cases hs : sg < 0 <;> simp [hs]
  · simp only [h1, if_false]
    by_cases h2 : x < k.zeroExp
    · simp only [h2, if_true]
      have hun := spec_under k.F hF n x hn (by have := hk.zero; omega)
      rw [hun]
      by_cases hs : sg < 0 <;> simp [hs]
    · simp only [h2, if_false]
      have hfit : (sg * (n : Int)).natAbs ≤ 2 ^ (k.enc.N - 1) := by
        have hlt : n < 2 ^ bitLen n := bitLen_lt
        have h2p : 2 ^ bitLen n ≤ 2 ^ (k.enc.N - 1) := pow_le_pow2 (le_trans hbits hk.fit)
        have : (sg * (n : Int)).natAbs = n := by
          rcases hsg with rfl | rfl <;> simp
        rw [this]; omega
      rw [encodeFixed_correct k.enc k.F hk.enc _ _ hfit]
      have hsigned : sg * (n : Int) = if decide (sg < 0) then -(n : Int) else (n : Int) := by
        rcases hsg with rfl | rfl <;> simp
      rw [hsigned, ieeeRound_signed k.F (decide (sg < 0)) n x hn]
      generalize ieeeRoundMag k.F n x = res
      obtain ⟨b, fl⟩ := res
      by_cases hs : sg < 0
      · cases fl <;> simp [hs, Flag.flipIf]
      · cases fl <;> simp [hs, Flag.flipIf]

theorem sg_neg_iff (s : Int) : ((if s < 0 then (-1 : Int) else 1) < 0) ↔ s < 0 := by
  by_cases h : s < 0
  · rw [if_pos h]; simp [h]
  · rw [if_neg h]; simp [h]

/-- the value that reaches `encode`: the first rounding of `±a·2^e` to `p` bits in mode `m` -/
def firstRound (p : Nat) (m : Float.Mode) (neg : Bool) (a : Nat) (e : Int) : Nat × Int × Option Float.Rounding :=
  if bitLen a ≤ p then (a, e, none)
  else
    let k := bitLen a - p
    let rm := roundMagMode (convMode m) neg a (2 ^ k)
    (rm.1, e + (k : Int), some (adjOfUp rm.2 neg))

theorem roundMagMode_bounds (mode : Mode) (neg : Bool) (num den : Nat) :
    num / den ≤ (roundMagMode mode neg num den).1 ∧ (roundMagMode mode neg num den).1 ≤ num / den + 1 := by
  by_cases hr : num % den = 0
  · unfold roundMagMode; simp [hr]
  · rw [roundMagMode_eq mode neg num den hr]
    simp only
    split <;> omega

/-- `Repr::new` on `±n1·2^e1` with `0 < n1 ≤ 2^p` (what a rounding to `p` bits returns): the normalised repr `v` has the
    sign of `s`, an odd significand of at most `p` bits, and `z` factors of two went into the exponent -/
theorem new_two (p : Nat) (hp : 1 ≤ p) (s : Int) (n1 : Nat) (e1 : Int) (hn1 : n1 ≠ 0) (hle : n1 ≤ 2 ^ p) :
    let v := FRepr.new 2 ((if s < 0 then -1 else 1) * (n1 : Int)) e1
    v.signif.natAbs ≠ 0 ∧ bitLen v.signif.natAbs ≤ p ∧ (v.signif < 0 ↔ s < 0) ∧
      ∃ z : Nat, n1 = v.signif.natAbs * 2 ^ z ∧ v.exp = e1 + z := by
  intro v
  have hsn : (if s < 0 then (-1 : Int) else 1) * (n1 : Int) ≠ 0 := by split <;> omega
  obtain ⟨z, hz1, hz2⟩ := new_decomp 2 ((if s < 0 then -1 else 1) * (n1 : Int)) e1 hsn
  have hnorm := FRepr.new_normalized 2 (by decide) ((if s < 0 then -1 else 1) * (n1 : Int)) e1
  change _ = v.signif * _ at hz1
  change v.exp = _ at hz2
  change Normalized 2 v at hnorm
  push_cast at hz1
  have hvs0 : v.signif ≠ 0 := by
    intro h0; rw [h0] at hz1; simp at hz1
    split at hz1 <;> omega
  have hvodd : v.signif % 2 ≠ 0 := by
    rcases hnorm with h | h
    · exact absurd h hvs0
    · exact h
  have hmag : n1 = v.signif.natAbs * 2 ^ z := by
    have h1 : ((if s < 0 then (-1 : Int) else 1) * (n1 : Int)).natAbs = n1 := by split <;> simp
    have h2 : (v.signif * (2 : Int) ^ z).natAbs = v.signif.natAbs * 2 ^ z := by
      rw [Int.natAbs_mul, Int.natAbs_pow]; rfl
    rw [← h1, hz1]; exact h2
  have hpz : (0 : Int) < (2 : Int) ^ z := by positivity
  refine ⟨by omega, ?_, ⟨fun h => ?_, fun h => ?_⟩, z, hmag, hz2⟩
  · -- an odd number below `2^p + 1` is below `2^p`
    apply bitLen_le_of_lt
    have hle' : v.signif.natAbs ≤ n1 := by
      rw [hmag]; exact Nat.le_mul_of_pos_right _ (Nat.two_pow_pos z)
    by_contra hc'
    have heq : v.signif.natAbs = 2 ^ p := by omega
    have : (2 ^ p) % 2 = 0 := by
      rw [show p = (p - 1) + 1 by omega, pow_succ]; omega
    omega
  · by_contra hc'
    simp only [hc', if_false, Int.one_mul] at hz1
    have : v.signif * 2 ^ z < 0 := mul_neg_of_neg_of_pos h hpz
    omega
  · by_contra hc'
    simp only [h, if_true] at hz1
    have : 0 ≤ v.signif * 2 ^ z := mul_nonneg (by omega) (le_of_lt hpz)
    omega

/-- … and the specification does not see the normalisation -/
theorem new_facts (F : Ieee) (hp : 1 ≤ F.prec) (s : Int) (n1 : Nat) (e1 : Int) (hn1 : n1 ≠ 0) (hle : n1 ≤ 2 ^ F.prec) :
    let v := FRepr.new 2 ((if s < 0 then -1 else 1) * (n1 : Int)) e1
    v.signif.natAbs ≠ 0 ∧ bitLen v.signif.natAbs ≤ F.prec ∧
      ieeeRoundMag F v.signif.natAbs v.exp = ieeeRoundMag F n1 e1 := by
  obtain ⟨h0, hb, -, z, hmag, hz2⟩ := new_two F.prec hp s n1 e1 hn1 hle
  refine ⟨h0, hb, ?_⟩
  rw [hz2]
  conv_rhs => rw [hmag]
  exact (ieeeRoundMag_scale F _ z e1 h0).symm

/-- the repr that reaches `into_fNN_internal` -/
def reachedRepr (F : Ieee) (m : Float.Mode) (s e : Int) : FRepr :=
  let fr := firstRound F.prec m (decide (s < 0)) s.natAbs e
  if bitLen s.natAbs ≤ F.prec then ⟨s, e⟩
  else FRepr.new 2 ((if s < 0 then -1 else 1) * (fr.1 : Int)) fr.2.1

theorem reprRound_reached (F : Ieee) (m : Float.Mode) (c : Coarse) (hc : CoarseSound c) (hp : 1 ≤ F.prec) (s e : Int)
    (hodd : s % 2 = 1) :
    reprRound 2 m c F.prec ⟨s, e⟩ =
      (reachedRepr F m s e, (firstRound F.prec m (decide (s < 0)) s.natAbs e).2.2) := by
  rw [reprRound_two m c hc F.prec hp s e hodd]
  unfold reachedRepr firstRound
  split <;> rfl

/-- the reached repr has the sign of `s` and at most `prec` bits, and rounds like the first-rounded pair -/
theorem reached_facts (F : Ieee) (hp : 1 ≤ F.prec) (m : Float.Mode) (s e : Int) (hs : s ≠ 0) :
    (reachedRepr F m s e).signif.natAbs ≠ 0 ∧ bitLen (reachedRepr F m s e).signif.natAbs ≤ F.prec ∧
      ((reachedRepr F m s e).signif < 0 ↔ s < 0) ∧
      ieeeRoundMag F (reachedRepr F m s e).signif.natAbs (reachedRepr F m s e).exp =
        ieeeRoundMag F (firstRound F.prec m (decide (s < 0)) s.natAbs e).1
          (firstRound F.prec m (decide (s < 0)) s.natAbs e).2.1 := by
  have ha0 : s.natAbs ≠ 0 := by omega
  unfold reachedRepr firstRound
  by_cases hfit : bitLen s.natAbs ≤ F.prec
  · simp only [if_pos hfit]
    exact ⟨ha0, hfit, trivial, trivial⟩
  · simp only [if_neg hfit]
    have hb := roundMagMode_bounds (convMode m) (decide (s < 0)) s.natAbs (2 ^ (bitLen s.natAbs - F.prec))
    generalize roundMagMode (convMode m) (decide (s < 0)) s.natAbs (2 ^ (bitLen s.natAbs - F.prec)) = rm at *
    obtain ⟨hlo, hle, -, -⟩ := rounded_top F.prec (bitLen s.natAbs - F.prec) s.natAbs rm.1 hp ha0 (by omega) hb
    have hpos : rm.1 ≠ 0 := by have := Nat.two_pow_pos (F.prec - 1); omega
    obtain ⟨h0, hbits, hsign, -⟩ := new_two F.prec hp s rm.1 (e + ((bitLen s.natAbs - F.prec : Nat) : Int)) hpos hle
    exact ⟨h0, hbits, hsign, (new_facts F hp s rm.1 _ hpos hle).2.2⟩

/-- **normal form of `FBig::<R,2>::to_f32`, `FBig::to_f64`, `Repr::to_f32/to_f64`** on a normalised non-zero
    float `s·2^e` (`s` odd): the bits are the IEEE rounding of the FIRST-ROUNDED value `n1·2^e1`; the flag is
    the first rounding's flag unless `into_fNN_internal` reports its own. -/
theorem fbigToFloat_normal (k : IntoConsts) (hk : IntoCompat k) (m : Float.Mode) (c : Coarse) (hc : CoarseSound c)
    (s e : Int) (hodd : s % 2 = 1) :
    let neg := decide (s < 0)
    let fr := firstRound k.F.prec m neg s.natAbs e
    let v := if bitLen s.natAbs ≤ k.F.prec then (⟨s, e⟩ : FRepr)
             else FRepr.new 2 ((if s < 0 then -1 else 1) * (fr.1 : Int)) fr.2.1
    fbigToFloat k m c ⟨s, e⟩ =
      .ok ((if s < 0 then k.F.signBit else 0) + (ieeeRoundMag k.F fr.1 fr.2.1).1,
           andThenFlag fr.2.2 (intoFlag k neg v.exp (ieeeRoundMag k.F fr.1 fr.2.1).2)) := by
  intro neg fr v
  have hp1 : 1 ≤ k.F.prec := by unfold Ieee.prec; omega
  have hs0 : s ≠ 0 := by intro h; subst h; simp at hodd
  obtain ⟨hn0, hbits, hsign, hscale⟩ := reached_facts k.F hp1 m s e hs0
  rw [show v = reachedRepr k.F m s e from rfl, show fr = firstRound k.F.prec m (decide (s < 0)) s.natAbs e from rfl]
  unfold fbigToFloat
  rw [hk.prec, reprRound_reached k.F m c hc hp1 s e hodd]
  generalize reachedRepr k.F m s e = w at *
  have hws : w.signif = (if s < 0 then (-1 : Int) else 1) * (w.signif.natAbs : Int) := by
    split <;> omega
  have hwrepr : w = ⟨(if s < 0 then (-1 : Int) else 1) * (w.signif.natAbs : Int), w.exp⟩ := by
    conv_rhs => rw [← hws]
  have hint := intoFloatInternal_eq k hk (if s < 0 then -1 else 1) w.signif.natAbs w.exp hn0 (sign_unit s) hbits
  rw [← hwrepr] at hint
  simp only [hint, hscale, sg_neg_iff s, neg]

/-- **the failing region of the value** of `FBig::to_f64`, `Repr::to_f32/to_f64`, `FBig<HalfEven>::to_f32` on
    `±a·2^e`: more than `prec` bits, a SUBNORMAL result (`bitLen a + e < qmin + prec`), and the first rounding
    lands on a midpoint of the subnormal grid that is then resolved to the wrong side. -/
def ToFloatBad (F : Ieee) (a : Nat) (e : Int) : Prop :=
  F.prec < bitLen a ∧ (bitLen a : Int) + e < F.qmin + F.prec ∧
    DoubleRoundBad a (bitLen a - F.prec) (F.qmin - e - ((bitLen a - F.prec : Nat) : Int)).toNat

instance (F : Ieee) (a : Nat) (e : Int) : Decidable (ToFloatBad F a e) := by
  unfold ToFloatBad; infer_instance

theorem rneDiv_pow_self (p : Nat) (hp : 1 ≤ p) : rneDiv (2 ^ p) (2 ^ 1) = 2 ^ (p - 1) := by
  unfold rneDiv
  have e : 2 ^ p = 2 ^ (p - 1) * 2 ^ 1 := by rw [← pow_add]; congr 1 <;> omega
  have hd : 2 ^ p / 2 ^ 1 = 2 ^ (p - 1) := Nat.div_eq_of_eq_mul_left (by decide) e
  have hm : 2 ^ p % 2 ^ 1 = 0 := by rw [e, Nat.mul_mod_left]
  simp only [hd, hm]
  norm_num

/-- error sign of a value rounded twice: the second rounding decides unless it was exact -/
def composeFlag (f1 f2 : Flag) : Flag :=
  match f2 with
  | .exact => f1
  | f => f

/-- dashu's `Rounding` flag that tells the truth about a magnitude error sign -/
def adjOfMag (neg : Bool) : Flag → Option Float.Rounding
  | .exact => none
  | .pos => some (if neg then .SubOne else .AddOne)
  | .neg => some .NoOp

/-- when does the flag of `into_fNN_internal` tell the truth about the rounding it performed -/
theorem intoFlag_truth (k : IntoConsts) (hk : IntoCompat k) (neg : Bool) (n : Nat) (x : Int) (hn : n ≠ 0)
    (hbits : bitLen n ≤ k.F.prec) :
    intoFlag k neg x (ieeeRoundMag k.F n x).2 = adjOfMag neg (ieeeRoundMag k.F n x).2 ↔
      ¬ ((ieeeRoundMag k.F n x).2 = .pos ∧ x < k.infExp) := by
  have hF := hk.enc.ok
  have hB := k.F.B_ge hF
  have hL1 := bitLen_pos hn
  unfold intoFlag
  by_cases h1 : x ≥ k.infExp
  · have hov := spec_over k.F hF n x hn (by have := hk.inf; omega)
    rw [hov]
    simp only [h1, if_true, adjOfMag]
    constructor
    · intro _ h; omega
    · intro _; trivial
  · simp only [h1, if_false]
    by_cases h2 : x < k.zeroExp
    · have hun := spec_under k.F hF n x hn (by have := hk.zero; omega)
      rw [hun]
      simp [h2, adjOfMag]
    · simp only [h2, if_false]
      generalize (ieeeRoundMag k.F n x).2 = fl
      have hx : x < k.infExp := by omega
      cases fl <;> simp [adjOfMag, hx] <;> cases neg <;> simp

/-- **the failing region of the flag**: the rounding inside `encode` increased the magnitude and
    `into_fNN_internal` did not take its overflow exit — the flag is `NoOp` although the result is larger
    in magnitude than the exact value -/
def ToFloatFlagBad (k : IntoConsts) (m : Float.Mode) (s e : Int) : Prop :=
  let fr := firstRound k.F.prec m (decide (s < 0)) s.natAbs e
  (ieeeRoundMag k.F fr.1 fr.2.1).2 = .pos ∧ (reachedRepr k.F m s e).exp < k.infExp

instance (k : IntoConsts) (m : Float.Mode) (s e : Int) : Decidable (ToFloatFlagBad k m s e) := by
  unfold ToFloatFlagBad; infer_instance

theorem ieeeRound_fst (F : Ieee) (s e : Int) (hs : s ≠ 0) :
    (ieeeRound F s e).1 = (if s < 0 then F.signBit else 0) + (ieeeRoundMag F s.natAbs e).1 := by
  unfold ieeeRound; simp [hs]

theorem andThen_adj (neg : Bool) (f1 f2 : Flag) :
    andThenFlag (adjOfMag neg f1) (adjOfMag neg f2) = adjOfMag neg (composeFlag f1 f2) := by
  cases f1 <;> cases f2 <;> rfl

end Dashu.Model.Conv
