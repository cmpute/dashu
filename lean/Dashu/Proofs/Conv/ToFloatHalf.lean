import Dashu.Proofs.Conv.ToFloat
/-
  C06 — `Repr::to_float` rounds twice (quotient → integer → `precision` digits): the composition argument
  `ratToFloat_contract_core`, which reads both roundings through what `ModeSpec` gives in every mode (`modeSpec_*`,
  Proofs/Float/ModeSpec.lean) and takes the one fact the mode families differ in as a hypothesis (`directed_compose`,
  ToFloat.lean: two roundings in the same directed mode are one; `nearest_compose`: HalfEven / HalfAway in an even base
  when the second rounding is not an exact tie).  Its two instances are `Props.C06.rbig_to_float_directed_correct` and
  `rbig_to_float_nearest_correct_unless_second_tie`.
-/
namespace Dashu.Model.Conv
open Dashu Dashu.Model Dashu.Model.Float Dashu.Props.GenRound

/-- a rounding of `hi·K + lo` at unit `K` is off by the non-zero low part -/
theorem rInt_round_ne (hi lo K : Int) (a : Rounding) (h0 : lo ≠ 0) (hlt : |lo| < K) :
    (hi + rInt a) * K ≠ hi * K + lo := by
  intro h
  have g : rInt a * K = lo := by linarith [add_mul hi (rInt a) K]
  have := abs_lt.mp hlt
  cases a <;> simp only [rInt, zero_mul, one_mul, neg_mul] at g <;> omega

/-- … and, unless the low part is exactly half a unit, not by half a unit -/
theorem rInt_round_no_tie (hi lo K : Int) (a : Rounding) (hK : 0 < K) (hlt : |lo| < K) (hnt : 2 * |lo| ≠ K) :
    |2 * (hi * K + lo) - 2 * ((hi + rInt a) * K)| ≠ K := by
  intro h
  rw [abs_eq hK.le, add_mul] at h
  rcases abs_cases lo with ⟨e1, _⟩ | ⟨e1, _⟩ <;> rw [e1] at hnt hlt <;>
    cases a <;> simp only [rInt, zero_mul, one_mul, neg_mul] at h <;> omega

/-- `N` within one unit `D` of `n1·D`, of the sign of `n1 = s·E`, is at least `(|s| - 1)·E·D` in magnitude -/
theorem ulp_le_of_within (s P E n1 D N : Int) (hE : 0 < E) (hD : 0 < D) (hn1 : n1 = s * E) (hP : P + 1 ≤ |s|)
    (hw1 : (n1 - 1) * D < N) (hw2 : N < (n1 + 1) * D) (hsp : 0 < N → 0 < n1) (hsn : N < 0 → n1 < 0)
    (hN0 : N ≠ 0) : P * E * D ≤ |N| := by
  have h1 : (|n1| - 1) * D ≤ |N| := by
    rcases lt_or_gt_of_ne hN0 with h | h
    · rw [abs_of_neg h, abs_of_neg (hsn h)]; linarith
    · rw [abs_of_pos h, abs_of_pos (hsp h)]; linarith
  have h2 : P * E + 1 ≤ |n1| := by
    rw [hn1, abs_mul, abs_of_pos hE]
    have := mul_le_mul_of_nonneg_right hP hE.le
    linarith
  exact le_trans (mul_le_mul_of_nonneg_right (by linarith) hD.le) h1

/-! ### the nearest modes -/

def Nearest : Float.Mode → Prop
  | .halfEven | .halfAway => True
  | _ => False

/-- two nearest roundings compose when the coarser unit is even and the second rounding is not an exact tie (then the
    composed error is strictly below half a coarse unit: no tie remains to be broken) -/
theorem nearest_compose (m : Float.Mode) (hm : Nearest m) (N D n1 M n2 : Int) (hD : 0 < D) (_hM : 0 < M)
    (h1 : ModeSpec m N D n1) (h2 : ModeSpec m n1 M n2) (hev : M % 2 = 0) (hnt : |2 * n1 - 2 * (n2 * M)| ≠ M) :
    ModeSpec m N (D * M) n2 := by
  have hh : m.isHalf = true := by cases m <;> simp only [Nearest] at hm <;> rfl
  have a1 := abs_le.mp (modeSpec_half m N D n1 hh h1)
  have a2 := modeSpec_half m n1 M n2 hh h2
  obtain ⟨c, hc⟩ : ∃ c : Int, 2 * n1 - 2 * (n2 * M) = 2 * c := ⟨n1 - n2 * M, by ring⟩
  rw [hc] at a2 hnt
  have hb : -(M - 2) ≤ 2 * c ∧ 2 * c ≤ M - 2 := by
    rcases abs_cases (2 * c) with ⟨e, _⟩ | ⟨e, _⟩ <;> rw [e] at a2 hnt <;> omega
  have k1 : D * (2 * c) ≤ D * (M - 2) := mul_le_mul_of_nonneg_left hb.2 (le_of_lt hD)
  have k2 : D * (-(M - 2)) ≤ D * (2 * c) := mul_le_mul_of_nonneg_left hb.1 (le_of_lt hD)
  have e : 2 * N - 2 * (n2 * (D * M)) = (2 * N - 2 * (n1 * D)) + D * (2 * c) := by rw [← hc]; ring
  have e3 : D * (M - 2) = D * M - 2 * D := by ring
  have e4 : D * (-(M - 2)) = -(D * M) + 2 * D := by ring
  have hstrict : |2 * N - 2 * (n2 * (D * M))| < D * M := by
    rw [e, abs_lt]
    constructor <;> omega
  cases m <;> simp only [Nearest] at hm <;> simp only [ModeSpec, IsNearestEven, IsNearestAway] <;>
    exact ⟨le_of_lt hstrict, fun h => absurd h (ne_of_lt hstrict)⟩

/-- the two roundings of `Repr::to_float` with the one fact the mode families differ in as a hypothesis: when two
    roundings in mode `m` compose into one (`Hcomp`: for the directed modes always, for the nearest modes in an even
    base when the second rounding is not an exact tie).  `Q` is what the composition needs to know about the coarser
    unit `B^k·B^z`; `Hcomp` is also told that, if the digits dropped by the second rounding are not exactly half a
    unit, the rounded value is not half a coarse unit from the first one -/
theorem ratToFloat_contract_core (B : Nat) (hB : 2 ≤ B) (m : Float.Mode) (c : Coarse)
    (hc : CoarseSound c) (num : Int) (den p : Nat) (hn : num ≠ 0) (hd : 0 < den) (hp : 1 ≤ p)
    (hov : p + ilogB B (den : Int) < 2 ^ 64) (Q : Int → Prop)
    (hQ : ∀ k z : Nat, 1 ≤ k → Q (((B ^ k : Nat) : Int) * (B : Int) ^ z))
    (Hcomp : ∀ N D n1 M n2 : Int, 0 < D → 0 < M → ModeSpec m N D n1 → ModeSpec m n1 M n2 → (0 ≤ N ↔ 0 ≤ n1) → Q M →
        ((∀ k : Nat, k = (FRepr.new B (toFloatN1 B m num den p) 0).digits B - p →
            2 * |(splitDigits B (FRepr.new B (toFloatN1 B m num den p) 0).signif k).2| ≠ ((B ^ k : Nat) : Int)) →
          |2 * n1 - 2 * (n2 * M)| ≠ M) → ModeSpec m N (D * M) n2) :
    ∃ r, ratToFloat B m c num den p = .ok r ∧
      Contract B m p ((num : ℚ) / (den : ℚ)) (r.1.toRat B) r.2 := by
  by_cases hfit : (FRepr.new B (toFloatN1 B m num den p) 0).digits B ≤ p
  · exact ratToFloat_contract_of_fits B hB m c num den p hn hd hp hov hfit
  have hB0 : 0 < B := by omega
  have hp0 : p ≠ 0 := by omega
  obtain ⟨hdec, hlt, hulp⟩ := toFloatQuot_spec B hB num den p hn hd hp hov
  -- the no-tie condition stays a name while its text follows the values through the generalisations below
  generalize hNT : (∀ k : Nat, k = (FRepr.new B (toFloatN1 B m num den p) 0).digits B - p →
      2 * |(splitDigits B (FRepr.new B (toFloatN1 B m num den p) 0).signif k).2| ≠ ((B ^ k : Nat) : Int)) = NT
    at Hcomp
  have Hnotie : NT → ∀ k : Nat, k = (FRepr.new B (toFloatN1 B m num den p) 0).digits B - p →
      2 * |(splitDigits B (FRepr.new B (toFloatN1 B m num den p) 0).signif k).2| ≠ ((B ^ k : Nat) : Int) :=
    fun h => hNT ▸ h
  clear hNT
  unfold toFloatN1 at hfit Hnotie
  unfold ratToFloat
  simp only [hp0, hn, if_false]
  refine ⟨_, rfl, ?_⟩
  generalize toFloatQuot B num den p = t at *
  have hD : (0 : Int) < (den : Int) := by exact_mod_cast hd
  -- the scaled numerator
  obtain ⟨N, hNdef⟩ : ∃ N : Int, N = num * ((B ^ t.1 : Nat) : Int) := ⟨_, rfl⟩
  rw [← hNdef] at hdec
  have hPpos : (0 : Int) < ((B ^ t.1 : Nat) : Int) := by
    have : 0 < B ^ t.1 := Nat.pow_pos hB0
    exact_mod_cast this
  have hN0 : N ≠ 0 := by rw [hNdef]; exact Int.mul_ne_zero hn (ne_of_gt hPpos)
  have hulpN : ((den : Nat) : Int) * ((B ^ (p - 1) : Nat) : Int) ≤ |N| := by
    rw [hNdef, abs_mul, abs_of_nonneg (le_of_lt hPpos), ← Int.natCast_natAbs num]
    exact_mod_cast hulp
  have hbig : ((den : Nat) : Int) ≤ |N| := by
    have h1 : (1 : Int) ≤ ((B ^ (p - 1) : Nat) : Int) := by
      have : 0 < B ^ (p - 1) := Nat.pow_pos hB0
      exact_mod_cast this
    have : ((den : Nat) : Int) * 1 ≤ ((den : Nat) : Int) * ((B ^ (p - 1) : Nat) : Int) :=
      mul_le_mul_of_nonneg_left h1 (le_of_lt hD)
    omega
  -- the first rounding
  obtain ⟨n1, hn1def⟩ : ∃ n1 : Int, n1 = (toFloatFirst m den t.2.1 t.2.2).1 := ⟨_, rfl⟩
  have h1 : ModeSpec m N (den : Int) n1 := by
    rw [hn1def]; unfold toFloatFirst
    by_cases hr : t.2.2 = 0
    · simp only [hr, if_true]
      have : N = t.2.1 * (den : Int) := by rw [hdec, hr, add_zero]
      rw [this]
      exact modeSpec_exact m _ _ hD
    · simp only [hr, if_false]
      exact (toFloatFirst_spec m N (den : Int) t.2.1 t.2.2 hD hdec hlt hr).1
  rw [← hn1def] at hfit Hnotie ⊢
  obtain ⟨hsp, hsn⟩ := modeSpec_sign_strict m N (den : Int) n1 hD h1 hbig
  have hn10 : n1 ≠ 0 := by
    rcases lt_or_gt_of_ne hN0 with h | h
    · have := hsn h; omega
    · have := hsp h; omega
  have hs : 0 ≤ N ↔ 0 ≤ n1 := by
    constructor
    · intro h; have := hsp (by omega); omega
    · intro h; by_contra hc2; have := hsn (by omega); omega
  obtain ⟨hw1, hw2⟩ := modeSpec_within m N (den : Int) n1 hD h1
  -- `Repr::new(n1, 0)`
  obtain ⟨z, hz1, hz2⟩ := new_decomp B n1 0 hn10
  have hnorm := FRepr.new_normalized B hB n1 0
  generalize FRepr.new B n1 0 = v0 at *
  have Hnt := fun h => Hnotie h (v0.digits B - p) rfl
  have hE : (0 : Int) < (B : Int) ^ z := by
    have : (0 : Int) < (B : Int) := by exact_mod_cast hB0
    exact pow_pos this z
  have hs0 : v0.signif ≠ 0 := by
    intro h; rw [h, zero_mul] at hz1; exact hn10 hz1
  -- the second rounding happens
  have hd2 : v0.digits B > p := by omega
  unfold reprRound
  simp only [hp0, hd2, if_false, if_true, andThenFlag]
  obtain ⟨hsplit, hllt, _, _⟩ := splitDigits_spec B hB v0.signif (v0.digits B - p)
  obtain ⟨_, hdlo, _⟩ := digitsI_spec B hB v0.signif hs0
  have hsm : v0.signif % (B : Int) ≠ 0 := by
    rcases hnorm with h | h
    · exact absurd h hs0
    · exact h
  have hlo0 : (splitDigits B v0.signif (v0.digits B - p)).2 ≠ 0 :=
    fract_part_ne_zero B _ _ _ _ (by omega) hsplit hsm
  have hspec2 := splitRound_modeSpec B hB m c hc v0.signif (v0.digits B - p)
  obtain ⟨a, hadef⟩ : ∃ a : Rounding, a = roundFract B m c (splitDigits B v0.signif (v0.digits B - p)).1
      (splitDigits B v0.signif (v0.digits B - p)).2 (v0.digits B - p) := ⟨_, rfl⟩
  rw [← hadef] at hspec2 ⊢
  generalize splitDigits B v0.signif (v0.digits B - p) = hl at *
  obtain ⟨k, hkdef⟩ : ∃ k : Nat, k = v0.digits B - p := ⟨_, rfl⟩
  rw [← hkdef] at hspec2 hsplit hllt Hnt ⊢
  have hK : (0 : Int) < ((B ^ k : Nat) : Int) := by
    have : 0 < B ^ k := Nat.pow_pos hB0
    exact_mod_cast this
  have hKE : (0 : Int) < ((B ^ k : Nat) : Int) * (B : Int) ^ z := Int.mul_pos hK hE
  have hE1 : (1 : Int) ≤ (B : Int) ^ z := by omega
  -- compose the two roundings
  have hsc := modeSpec_scale m v0.signif _ (hl.1 + rInt a) _ hE hspec2
  rw [← hz1] at hsc
  have hl2' := abs_lt.mp hllt
  have hnt1 : NT → |2 * v0.signif - 2 * ((hl.1 + rInt a) * ((B ^ k : Nat) : Int))| ≠ ((B ^ k : Nat) : Int) := by
    intro hnt
    rw [hsplit]
    exact rInt_round_no_tie hl.1 hl.2 _ a hK hllt (Hnt hnt)
  have hnt2 : NT → |2 * n1 - 2 * ((hl.1 + rInt a) * (((B ^ k : Nat) : Int) * (B : Int) ^ z))| ≠
      ((B ^ k : Nat) : Int) * (B : Int) ^ z := by
    intro hnt h
    apply hnt1 hnt
    have e : 2 * n1 - 2 * ((hl.1 + rInt a) * (((B ^ k : Nat) : Int) * (B : Int) ^ z)) =
        (2 * v0.signif - 2 * ((hl.1 + rInt a) * ((B ^ k : Nat) : Int))) * (B : Int) ^ z := by rw [hz1]; ring
    rw [e, abs_mul, abs_of_pos hE] at h
    exact mul_right_cancel₀ (ne_of_gt hE) h
  have hk1 : 1 ≤ k := by rw [hkdef]; omega
  have hcomp := Hcomp N (den : Int) n1 _ (hl.1 + rInt a) hD hKE h1 hsc hs (hQ k z hk1) hnt2
  have hl2 := abs_lt.mp hllt
  have hadd : a = .AddOne → N < (hl.1 + rInt a) * ((den : Int) * (((B ^ k : Nat) : Int) * (B : Int) ^ z)) := by
    intro ha
    apply lift_gt v0.signif _ _ n1 _ N _ hE1 hD hz1 _ hw2
    rw [ha]; simp only [rInt]
    have : (hl.1 + 1) * ((B ^ k : Nat) : Int) = hl.1 * ((B ^ k : Nat) : Int) + ((B ^ k : Nat) : Int) := by ring
    omega
  have hsub : a = .SubOne → (hl.1 + rInt a) * ((den : Int) * (((B ^ k : Nat) : Int) * (B : Int) ^ z)) < N := by
    intro ha
    apply lift_lt v0.signif _ _ n1 _ N _ hE1 hD hz1 _ hw1
    rw [ha]; simp only [rInt]
    have : (hl.1 + -1) * ((B ^ k : Nat) : Int) = hl.1 * ((B ^ k : Nat) : Int) - ((B ^ k : Nat) : Int) := by ring
    omega
  have hne : (hl.1 + rInt a) * ((den : Int) * (((B ^ k : Nat) : Int) * (B : Int) ^ z)) ≠ N := by
    intro heq
    have e1 : (hl.1 + rInt a) * ((den : Int) * (((B ^ k : Nat) : Int) * (B : Int) ^ z)) =
        ((hl.1 + rInt a) * ((B ^ k : Nat) : Int) * (B : Int) ^ z) * (den : Int) := by ring
    rw [e1] at heq
    rw [← heq] at hw1 hw2
    have g1 := lt_of_mul_lt_mul_right hw1 (le_of_lt hD)
    have g2 := lt_of_mul_lt_mul_right hw2 (le_of_lt hD)
    have g3 : (hl.1 + rInt a) * ((B ^ k : Nat) : Int) * (B : Int) ^ z = v0.signif * (B : Int) ^ z := by omega
    have g4 := mul_right_cancel₀ (ne_of_gt hE) g3
    exact rInt_round_ne hl.1 hl.2 _ a hlo0 hllt (g4.trans hsplit)
  have hic := icontract_of_modeSpec m _ N (hl.1 + rInt a) (Int.mul_pos hD hKE) hcomp hne a hadd hsub
  -- the unit of the result is not coarser than the ulp of the exact value
  have hulp2 : ((den : Int) * (((B ^ k : Nat) : Int) * (B : Int) ^ z)) * ((B ^ (p - 1) : Nat) : Int) ≤ |N| := by
    have hpow : ((B ^ k : Nat) : Int) * ((B ^ (p - 1) : Nat) : Int) = ((B ^ (digitsI B v0.signif - 1) : Nat) : Int) := by
      have : B ^ k * B ^ (p - 1) = B ^ (digitsI B v0.signif - 1) := by
        rw [← Nat.pow_add]; congr 1; unfold FRepr.digits at *; omega
      rw [← this]; push_cast; rfl
    have hstrict : ((B ^ (digitsI B v0.signif - 1) : Nat) : Int) + 1 ≤ |v0.signif| := by
      have hne2 : ((B ^ (digitsI B v0.signif - 1) : Nat) : Int) ≠ |v0.signif| := by
        intro he
        apply hsm
        have hdv : (B : Int) ∣ |v0.signif| := by
          rw [← he]
          have hk2 : digitsI B v0.signif - 1 = (digitsI B v0.signif - 2) + 1 := by unfold FRepr.digits at *; omega
          rw [hk2, Nat.pow_succ]; push_cast
          exact Dvd.intro_left _ rfl
        exact Int.emod_eq_zero_of_dvd ((dvd_abs _ _).mp hdv)
      omega
    have e2 : ((den : Int) * (((B ^ k : Nat) : Int) * (B : Int) ^ z)) * ((B ^ (p - 1) : Nat) : Int) =
        ((B ^ (digitsI B v0.signif - 1) : Nat) : Int) * (B : Int) ^ z * (den : Int) := by
      rw [← hpow]; ring
    rw [e2]
    exact ulp_le_of_within v0.signif _ _ n1 _ N hE hD hz1 hstrict hw1 hw2 hsp hsn hN0
  -- to rationals
  have hDq : ((den : Nat) : ℚ) ≠ 0 := by exact_mod_cast (Nat.pos_iff_ne_zero.mp hd)
  have hBq : (B : ℚ) ≠ 0 := by exact_mod_cast (Nat.pos_iff_ne_zero.mp hB0)
  have hu : (0 : ℚ) < 1 / ((den : ℚ) * ((B ^ t.1 : Nat) : ℚ)) := by
    apply div_pos one_pos
    apply mul_pos
    · exact_mod_cast hd
    · exact_mod_cast hPpos
  have hexp : bpowQ B ((((z + k : Nat) : Int)) + (-(t.1 : Int))) = (B : ℚ) ^ z * (B : ℚ) ^ k * (1 / ((B ^ t.1 : Nat) : ℚ)) := by
    rw [bpowQ_add B hB0, bpowQ_nat, bpowQ_neg_nat B hB0]; push_cast; rw [pow_add]
  have hunit : ((((den : Int) * (((B ^ k : Nat) : Int) * (B : Int) ^ z)) : Int) : ℚ) * (1 / ((den : ℚ) * ((B ^ t.1 : Nat) : ℚ))) =
      bpowQ B ((((z + k : Nat) : Int)) + (-(t.1 : Int))) := by
    rw [hexp]; push_cast; field_simp
  have key := contract_of_icontract' B hB m p hp _ _ _ (Int.mul_pos hD hKE) _ _ hu _ hunit hic ⟨_, rfl⟩ hulp2
  have hv1 : ((N : Int) : ℚ) * (1 / ((den : ℚ) * ((B ^ t.1 : Nat) : ℚ))) = (num : ℚ) / (den : ℚ) := by
    rw [hNdef]; push_cast; field_simp
  have hv2 : ((((hl.1 + rInt a) * ((den : Int) * (((B ^ k : Nat) : Int) * (B : Int) ^ z))) : Int) : ℚ) *
      (1 / ((den : ℚ) * ((B ^ t.1 : Nat) : ℚ))) =
      (fbigShr (FRepr.new B (hl.1 + rInt a) (v0.exp + (k : Int))) (t.1 : Int)).toRat B := by
    rw [fbigShr_value B hB0, FRepr.new_value B hB0, hz2, mul_assoc, ← bpowQ_add B hB0,
      show (0 : Int) + (z : Int) + (k : Int) + -(t.1 : Int) = (((z + k : Nat) : Int)) + (-(t.1 : Int)) by push_cast; ring, hexp]
    push_cast; field_simp
  rw [hv1, hv2] at key
  exact key

end Dashu.Model.Conv
