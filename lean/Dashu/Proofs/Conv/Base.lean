import Dashu.Model.Conv.Base
import Dashu.Proofs.Conv.FloatTo
import Dashu.Proofs.Text.ConvDigits
/-
  C06 — `FBig::<R,B>::to_f32/to_f64`, `Repr::<B>::to_f32/to_f64` for `B ≠ 2` on the mirrored branches of
  `convert_base::<B,2>`: normal form (the bits are the IEEE rounding of the value `convert_base` produced, which is
  the exact value rounded to 24/53 bits under the mode — `convertBase_contract` of Proofs/Text/ConvDiv.lean), and the exact
  region of the debug-assertion panic (`repr_div` returned `precision + 1` bits).
-/
namespace Dashu.Model.Conv
open Dashu Dashu.Model Dashu.Model.Float Dashu.Model.Text

theorem repr_sign_form (v : FRepr) :
    v = ⟨(if v.signif < 0 then (-1 : Int) else 1) * (v.signif.natAbs : Int), v.exp⟩ := by
  have : v.signif = (if v.signif < 0 then (-1 : Int) else 1) * (v.signif.natAbs : Int) := by
    split <;> omega
  conv_lhs => rw [show v = ⟨v.signif, v.exp⟩ from rfl, this]

/-- `into_fNN_internal` never fails on a significand of at most `prec` bits -/
theorem intoFloatInternal_ok (k : IntoConsts) (hk : IntoCompat k) (v : FRepr) (hb : bitLen v.signif.natAbs ≤ k.F.prec) :
    ∃ res, intoFloatInternal k v = .ok res := by
  by_cases h0 : v.signif = 0
  · unfold intoFloatInternal
    simp only [h0]
    split
    · exact ⟨_, rfl⟩
    · split
      · exact ⟨_, rfl⟩
      · rw [encodeFixed_correct k.enc k.F hk.enc 0 v.exp (by simp)]
        generalize ieeeRound k.F 0 v.exp = res
        obtain ⟨b, fl⟩ := res
        cases fl <;> exact ⟨_, rfl⟩
  · have hn : v.signif.natAbs ≠ 0 := by omega
    have := intoFloatInternal_eq k hk (if v.signif < 0 then -1 else 1) v.signif.natAbs v.exp hn
      (sign_unit v.signif) hb
    rw [← repr_sign_form v] at this
    exact ⟨_, this⟩

/-- **normal form, base `B ≠ 2`** (every branch of `convert_base` except `ln`/`exp`): a returned float is the IEEE
    rounding of the value `v` that `convert_base::<B,2>` produced; `v` is the exact value `signif·B^exp` rounded to
    `prec` = 24/53 significant bits under the mode of the type (rounding contract: truthful flag, < 1 ulp, ≤ ½ ulp
    for the nearest modes, on the mode's side) and has at most `prec` bits; the flag is `convert_base`'s unless
    `into_fNN_internal` reports its own. -/
theorem fbigToFloatBase_normal (k : IntoConsts) (hk : IntoCompat k) (site : String) (W B : Nat) (hB : 2 ≤ B)
    (m : Float.Mode) (r : FRepr) (bits : Nat) (fl : Option Float.Rounding)
    (h : fbigToFloatBase k site W B m r = some (.ok (bits, fl))) :
    ∃ (v : FRepr) (f1 : Option Float.Rounding),
      convertBase W B 2 m k.prec r = .ok (v, f1) ∧
      Contract 2 m k.prec (r.toRat B) (v.toRat 2) f1 ∧
      bitLen v.signif.natAbs ≤ k.prec ∧
      (v.signif ≠ 0 →
        bits = (if v.signif < 0 then k.F.signBit else 0) + (ieeeRoundMag k.F v.signif.natAbs v.exp).1 ∧
        fl = andThenFlag f1 (intoFlag k (decide (v.signif < 0)) v.exp (ieeeRoundMag k.F v.signif.natAbs v.exp).2)) := by
  have hp1 : 1 ≤ k.prec := by rw [hk.prec]; unfold Ieee.prec; omega
  unfold fbigToFloatBase at h
  generalize hcb : convertBase W B 2 m k.prec r = cb at h
  cases cb with
  | lnExp => simp at h
  | unlimitedPrecision => simp at h
  | ok rr =>
    obtain ⟨v, f1⟩ := rr
    simp only at h
    unfold intoFloatInternalChecked at h
    by_cases hwide : bitLen v.signif.natAbs > k.prec
    · simp [hwide] at h
    · simp only [hwide, if_false] at h
      have hb : bitLen v.signif.natAbs ≤ k.prec := by omega
      refine ⟨v, f1, rfl, convertBase_contract W B 2 hB (by decide) m k.prec hp1 r (v, f1) hcb, hb, ?_⟩
      intro hv0
      have hn : v.signif.natAbs ≠ 0 := by omega
      have hint := intoFloatInternal_eq k hk (if v.signif < 0 then -1 else 1) v.signif.natAbs v.exp hn
        (sign_unit v.signif) (by rw [← hk.prec]; exact hb)
      rw [← repr_sign_form v] at hint
      rw [hint] at h
      simp only [Option.some.injEq, Except.ok.injEq, Prod.mk.injEq] at h
      have h1 := sg_neg_iff v.signif
      simp only [h1] at h
      exact ⟨h.1.symm, h.2.symm⟩

/-- **the panic region, base `B ≠ 2`**: the conversion panics (debug build: `debug_assert!(bit_len <= 24|53)`; a
    release build rounds a second time inside `encode`) EXACTLY when `convert_base` returns a significand of more
    than `prec` bits — which is then exactly `prec + 1` bits, the extra quotient digit of `repr_div` — the closed
    form of the recorded finding "non-binary base". -/
theorem fbigToFloatBase_panic_iff (k : IntoConsts) (hk : IntoCompat k) (site : String) (W B : Nat) (hB : 2 ≤ B)
    (hne : B ≠ 2) (m : Float.Mode) (r : FRepr) :
    fbigToFloatBase k site W B m r = some (.error (.undocumented site)) ↔
      ∃ (v : FRepr) (f1 : Option Float.Rounding), convertBase W B 2 m k.prec r = .ok (v, f1) ∧
        bitLen v.signif.natAbs = k.prec + 1 := by
  have hp1 : 1 ≤ k.prec := by rw [hk.prec]; unfold Ieee.prec; omega
  unfold fbigToFloatBase
  generalize hcb : convertBase W B 2 m k.prec r = cb
  cases cb with
  | lnExp => simp
  | unlimitedPrecision => simp
  | ok rr =>
    obtain ⟨v, f1⟩ := rr
    have hdig := convertBase_digits_le W B 2 hB (by decide) (Ne.symm hne) m k.prec hp1 r (v, f1) hcb
    have hd2 : bitLen v.signif.natAbs ≤ k.prec + 1 := by
      have : FRepr.digits 2 v = bitLen v.signif.natAbs := by
        unfold FRepr.digits digitsI; exact digits_two _
      rw [← this]; exact hdig
    simp only
    unfold intoFloatInternalChecked
    by_cases hwide : bitLen v.signif.natAbs > k.prec
    · simp only [hwide, if_true]
      constructor
      · intro _; exact ⟨v, f1, rfl, by omega⟩
      · intro _; trivial
    · simp only [hwide, if_false]
      obtain ⟨res, hres⟩ := intoFloatInternal_ok k hk v (by rw [← hk.prec]; omega)
      rw [hres]
      obtain ⟨b, f⟩ := res
      simp only
      constructor
      · intro h; simp at h
      · rintro ⟨v', f1', hv', hbl⟩
        simp only [ConvResult.ok.injEq, Prod.mk.injEq] at hv'
        rw [← hv'.1] at hbl
        omega

end Dashu.Model.Conv
