import Dashu.Model.Conv.Ieee
import Mathlib.Tactic.Ring
import Mathlib.Tactic.Linarith
import Mathlib.Tactic.SplitIfs
/-
  C06 — rounding lemmas: `rneDiv` is the nearest integer with ties to even, and rounding a
  quotient by a power of two is decided by (last kept bit, round bit, sticky bit).
-/
namespace Dashu.Model.Conv

/-- magnitude-level rounding decision from (kept part, round bit, sticky bit) -/
def roundByBits (kept rb st : Nat) : Nat × Flag :=
  if rb = 0 ∧ st = 0 then (kept, .exact)
  else if rb = 1 ∧ (st = 1 ∨ kept % 2 = 1) then (kept + 1, .pos)
  else (kept, .neg)

theorem two_pow_pred (bits : Nat) (h : 1 ≤ bits) : 2 ^ bits = 2 * 2 ^ (bits - 1) := by
  conv_lhs => rw [show bits = (bits - 1) + 1 by omega, pow_succ]
  ring

/-- an odd number leaves a remainder modulo every proper power of two -/
theorem mod_two_pow_ne_zero_of_odd {a k : Nat} (hk : 1 ≤ k) (ha : a % 2 = 1) : a % 2 ^ k ≠ 0 := by
  intro h0
  have h2 : a % 2 ^ k % 2 = a % 2 := by
    rw [two_pow_pred k hk]; exact Nat.mod_mul_right_mod _ _ _
  omega

theorem rneDiv_one (y : Nat) : rneDiv y 1 = y := by
  simp [rneDiv, Nat.mod_one]

/-- decomposition of `y` at bit positions `k-1` and `k` -/
theorem split_at (y k : Nat) (hk : 1 ≤ k) :
    y = 2 ^ k * (y / 2 ^ k) + 2 ^ (k - 1) * ((y / 2 ^ (k - 1)) % 2) + y % 2 ^ (k - 1) := by
  obtain ⟨j, rfl⟩ : ∃ j, k = j + 1 := ⟨k - 1, by omega⟩
  simp only [Nat.add_sub_cancel]
  have h1 : y = 2 ^ j * (y / 2 ^ j) + y % 2 ^ j := (Nat.div_add_mod _ _).symm
  have h3 : y / 2 ^ j / 2 = y / 2 ^ (j + 1) := by rw [Nat.div_div_eq_div_mul, pow_succ]
  have h2 : y / 2 ^ j = 2 * (y / 2 ^ (j + 1)) + (y / 2 ^ j) % 2 := by
    rw [← h3]; exact (Nat.div_add_mod _ _).symm
  calc y = 2 ^ j * (y / 2 ^ j) + y % 2 ^ j := h1
    _ = 2 ^ j * (2 * (y / 2 ^ (j + 1)) + (y / 2 ^ j) % 2) + y % 2 ^ j := by rw [← h2]
    _ = 2 ^ (j + 1) * (y / 2 ^ (j + 1)) + 2 ^ j * ((y / 2 ^ j) % 2) + y % 2 ^ j := by ring

theorem rneDiv_of_lt {num den : Nat} (h : 2 * (num % den) < den) : rneDiv num den = num / den :=
  if_pos h

theorem rneDiv_of_gt {num den : Nat} (h : den < 2 * (num % den)) :
    rneDiv num den = num / den + 1 := by
  unfold rneDiv
  rw [if_neg (by omega), if_pos h]

theorem rneDiv_of_tie {num den : Nat} (h : 2 * (num % den) = den) :
    rneDiv num den = if num / den % 2 = 0 then num / den else num / den + 1 := by
  unfold rneDiv
  rw [if_neg (by omega), if_neg (by omega)]

theorem flagOf_exact {n den num : Nat} (h : n * den = num) : flagOf n den num = .exact := if_pos h

theorem flagOf_pos {n den num : Nat} (h : num < n * den) : flagOf n den num = .pos := by
  unfold flagOf
  rw [if_neg (by omega), if_pos h]

theorem flagOf_neg {n den num : Nat} (h : n * den < num) : flagOf n den num = .neg := by
  unfold flagOf
  rw [if_neg (by omega), if_neg (by omega)]

theorem rne_core (y H K rb lo : Nat) (hH : 0 < H) (hrb : rb < 2) (hlo : lo < H)
    (hs : y = 2 * H * K + H * rb + lo) :
    (rneDiv y (2 * H), flagOf (rneDiv y (2 * H)) (2 * H) y) =
      roundByBits K rb (if lo = 0 then 0 else 1) := by
  obtain ⟨hq, hr⟩ : y / (2 * H) = K ∧ y % (2 * H) = H * rb + lo := by
    have : H * rb ≤ H * 1 := Nat.mul_le_mul_left H (by omega)
    rw [Nat.div_mod_unique (by omega)]
    exact ⟨by rw [hs]; ring, by omega⟩
  -- `omega` is to see `P` and `H` only
  obtain ⟨P, hP⟩ : ∃ P, P = H * K := ⟨_, rfl⟩
  have e1 : K * (2 * H) = 2 * P := by rw [hP]; ring
  have e2 : (K + 1) * (2 * H) = 2 * P + 2 * H := by rw [hP]; ring
  have hy : y = 2 * P + H * rb + lo := by rw [hs, hP]; ring
  obtain rfl | rfl : rb = 0 ∨ rb = 1 := by omega
  · -- round bit clear: down, and exact iff nothing lies below
    rw [rneDiv_of_lt (by omega), hq]
    by_cases hl : lo = 0
    · rw [if_pos hl, flagOf_exact (by omega)]; rfl
    · rw [if_neg hl, flagOf_neg (by omega)]; rfl
  · by_cases hl : lo = 0
    · -- a tie goes to the even neighbour
      rw [if_pos hl, rneDiv_of_tie (by omega), hq]
      by_cases hK : K % 2 = 0
      · rw [if_pos hK, flagOf_neg (by omega)]; simp [roundByBits, hK]
      · rw [if_neg hK, flagOf_pos (by omega)]; simp [roundByBits, hK]
    · rw [if_neg hl, rneDiv_of_gt (by omega), hq, flagOf_pos (by omega)]; rfl

theorem rneDiv_pow (y k : Nat) (hk : 1 ≤ k) :
    (rneDiv y (2 ^ k), flagOf (rneDiv y (2 ^ k)) (2 ^ k) y) =
      roundByBits (y / 2 ^ k) ((y / 2 ^ (k - 1)) % 2) (if y % 2 ^ (k - 1) = 0 then 0 else 1) := by
  have hk2 := two_pow_pred k hk
  have hs := split_at y k hk
  have h := rne_core y (2 ^ (k - 1)) (y / 2 ^ k) ((y / 2 ^ (k - 1)) % 2) (y % 2 ^ (k - 1))
    (Nat.two_pow_pos _) (Nat.mod_lt _ (by decide)) (Nat.mod_lt _ (Nat.two_pow_pos _))
    (by rw [← hk2]; exact hs)
  rw [← hk2] at h
  exact h

/-- `rneDiv` is a nearest integer: it is within half a unit of the quotient (`rneDiv_unique`, DoubleRound.lean, is the
    converse) -/
theorem rneDiv_half (num den : Nat) (hd : 0 < den) :
    2 * (rneDiv num den * den) ≤ 2 * num + den ∧ 2 * num ≤ 2 * (rneDiv num den * den) + den := by
  have hdm := Nat.div_add_mod num den
  have hr := Nat.mod_lt num hd
  unfold rneDiv
  simp only
  generalize num / den = q at *
  generalize num % den = r at *
  obtain ⟨P, hP⟩ : ∃ P, P = den * q := ⟨_, rfl⟩
  have e1 : q * den = P := by rw [hP]; ring
  have e2 : (q + 1) * den = P + den := by rw [hP]; ring
  rw [← hP] at hdm
  split_ifs <;> simp only [e1, e2] <;> omega

/-! ### the rounding kernel is a function of the quotient -/

theorem rneDiv_scale (c x y : Nat) (hc : 0 < c) : rneDiv (c * x) (c * y) = rneDiv x y := by
  unfold rneDiv
  simp only [Nat.mul_div_mul_left _ _ hc, Nat.mul_mod_mul_left, Nat.mul_left_comm 2 c,
    Nat.mul_lt_mul_left hc]

theorem flagOf_scale (c n x y : Nat) (hc : 0 < c) : flagOf n (c * y) (c * x) = flagOf n y x := by
  unfold flagOf
  simp only [Nat.mul_left_comm n c, Nat.mul_lt_mul_left hc, Nat.mul_right_inj hc.ne']

/-- a function of the quotient takes the same value at `(a·2^i, b·2^j)` and `(a·2^i', b·2^j')` when
    `i - j = i' - j'` -/
theorem pow_pair_of_scale {α : Type} (f : Nat → Nat → α)
    (hf : ∀ c x y, 0 < c → f (c * x) (c * y) = f x y) (a b i j i' j' : Nat) (h : i + j' = i' + j) :
    f (a * 2 ^ i) (b * 2 ^ j) = f (a * 2 ^ i') (b * 2 ^ j') := by
  -- both sides are `f (a·2^(i+i'), b·2^(j+i'))`
  have e1 : ∀ x s t : Nat, 2 ^ t * (x * 2 ^ s) = x * 2 ^ (s + t) := fun x s t => by rw [pow_add]; ring
  rw [← hf (2 ^ i') _ _ (Nat.two_pow_pos _), ← hf (2 ^ i) (a * 2 ^ i') _ (Nat.two_pow_pos _),
    e1, e1, e1, e1, Nat.add_comm i' i, Nat.add_comm j' i, h, Nat.add_comm i' j]

theorem round_pow_pair (a b i j i' j' : Nat) (h : i + j' = i' + j) :
    rneDiv (a * 2 ^ i) (b * 2 ^ j) = rneDiv (a * 2 ^ i') (b * 2 ^ j') ∧
    ∀ n, flagOf n (b * 2 ^ j) (a * 2 ^ i) = flagOf n (b * 2 ^ j') (a * 2 ^ i') :=
  ⟨pow_pair_of_scale rneDiv rneDiv_scale a b i j i' j' h,
    fun n => pow_pair_of_scale (fun x y => flagOf n y x) (fun c x y => flagOf_scale c n x y) a b i j i' j' h⟩

/-- an even multiple of the divisor passes through the rounding -/
theorem rneDiv_add_mul (X g D : Nat) (hD : 0 < D) (hX : X % 2 = 0) :
    rneDiv (X * D + g) D = X + rneDiv g D := by
  unfold rneDiv
  simp only [Nat.add_comm (X * D), Nat.add_mul_div_right _ _ hD, Nat.add_mul_mod_self_right]
  split_ifs <;> omega

theorem flagOf_add_mul (X n g D : Nat) : flagOf (X + n) D (X * D + g) = flagOf n D g := by
  unfold flagOf
  simp only [Nat.add_mul, Nat.add_left_cancel_iff, Nat.add_lt_add_iff_left]

end Dashu.Model.Conv
