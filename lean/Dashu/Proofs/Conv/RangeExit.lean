import Dashu.Proofs.Conv.FloatTo
import Dashu.Proofs.Conv.Modes
import Dashu.Model.Conv.Base
/-
  C06 — /repo 1349a4b: the range test `Repr::exponent_out_of_range` in front of `FBig/Repr::to_f32 / to_f64`
  is UNOBSERVABLE in base 2: whenever it decides, the general path (`repr_round_ref` to 24/53 bits, then
  `into_fNN_internal`) returns the very same bits and flag.  So every theorem about `fbigToFloat` is a theorem about the
  code as it is (`fbigToFloatCode`), and the test's only effect is to keep the `isize` exponent arithmetic in range.
-/
namespace Dashu.Model.Conv
open Dashu Dashu.Model Dashu.Model.Float

theorem andThenFlag_some (f : Option Float.Rounding) (x : Float.Rounding) : andThenFlag f (some x) = some x := rfl

/-- overflow exit of `into_fNN_internal` -/
theorem intoFloatInternal_over (k : IntoConsts) (v : FRepr) (h : v.exp ≥ k.infExp) :
    intoFloatInternal k v =
      .ok (if v.signif < 0 then (k.F.signBit + k.F.infBits, some .SubOne) else (k.F.infBits, some .AddOne)) := by
  unfold intoFloatInternal
  by_cases hs : v.signif < 0 <;> simp [h, hs]

/-- underflow exit of `into_fNN_internal` -/
theorem intoFloatInternal_under (k : IntoConsts) (v : FRepr) (h1 : ¬ v.exp ≥ k.infExp) (h2 : v.exp < k.zeroExp) :
    intoFloatInternal k v = .ok ((if v.signif < 0 then k.F.signBit else 0), some .NoOp) := by
  unfold intoFloatInternal
  by_cases hs : v.signif < 0 <;> simp [h1, h2, hs]

/-- the first rounding (`repr_round_ref` to `p` bits, base 2) of a normalised significand longer than `p` bits keeps
    the sign, stays non-zero, never lowers the exponent and raises it by at most the bit length -/
theorem reprRound_two_long (m : Float.Mode) (c : Coarse) (hc : CoarseSound c) (p : Nat) (hp : 1 ≤ p) (s e : Int)
    (hodd : s % 2 = 1) (hlong : ¬ bitLen s.natAbs ≤ p) :
    ∃ (v : FRepr) (fl : Float.Rounding), reprRound 2 m c p ⟨s, e⟩ = (v, some fl) ∧
      (v.signif < 0 ↔ s < 0) ∧ e ≤ v.exp ∧ v.exp ≤ e + (bitLen s.natAbs : Int) := by
  rw [reprRound_two m c hc p hp s e hodd]
  simp only [hlong, if_false]
  have hs0 : s ≠ 0 := by intro h; subst h; simp at hodd
  have ha0 : s.natAbs ≠ 0 := by omega
  generalize hkk : bitLen s.natAbs - p = kk
  generalize hrm : roundMagMode (convMode m) (decide (s < 0)) s.natAbs (2 ^ kk) = rm
  have hb := roundMagMode_bounds (convMode m) (decide (s < 0)) s.natAbs (2 ^ kk)
  rw [hrm] at hb
  obtain ⟨hrm0, hrm2, -, -⟩ := rounded_top p kk s.natAbs rm.1 hp ha0 (by omega) hb
  obtain ⟨hv0, -, hsign, z, hmag, hz2⟩ := new_two p hp s rm.1 (e + (kk : Int))
    (by have := Nat.two_pow_pos (p - 1); omega) hrm2
  refine ⟨_, _, rfl, hsign, by rw [hz2]; omega, ?_⟩
  -- `2^z ≤ rm.1 ≤ 2^p`
  have h2 : 2 ^ z ≤ rm.1 :=
    calc 2 ^ z ≤ _ * 2 ^ z := Nat.le_mul_of_pos_left _ (Nat.pos_of_ne_zero hv0)
      _ = rm.1 := hmag.symm
  have hzp : z ≤ p := (Nat.pow_le_pow_iff_right (by decide : 1 < 2)).mp (le_trans h2 hrm2)
  rw [hz2]; omega

/-- **the range test is unobservable** (base 2, normalised non-zero input `s·2^e`, `s` odd; every mode, both formats):
    `FBig::<R,2>::to_fNN` / `Repr::<2>::to_fNN` with the test in front return what the general path returns. -/
theorem fbigToFloatCode_eq (k : IntoConsts) (hk : IntoCompat k) (hinf : 0 ≤ k.infExp) (hzero : k.zeroExp ≤ 0)
    (m : Float.Mode) (c : Coarse) (hc : CoarseSound c) (s e : Int) (hodd : s % 2 = 1) :
    fbigToFloatCode k m c ⟨s, e⟩ = fbigToFloat k m c ⟨s, e⟩ := by
  have hp1 : 1 ≤ k.F.prec := by unfold Ieee.prec; omega
  have hs0 : s ≠ 0 := by intro h; subst h; simp at hodd
  unfold fbigToFloatCode rangeExit exponentOutOfRange Dashu.Gen.Conv.exponent_out_of_range
  simp only [hs0, decide_false, Bool.false_eq_true, if_false]
  by_cases h1 : e ≥ k.infExp
  · -- decided: overflow
    simp only [h1, if_true]
    unfold fbigToFloat
    rw [hk.prec]
    by_cases hfit : bitLen s.natAbs ≤ k.F.prec
    · rw [reprRound_two m c hc k.F.prec hp1 s e hodd]
      simp only [hfit, if_true]
      rw [intoFloatInternal_over k ⟨s, e⟩ h1]
      by_cases hs : s < 0 <;> simp [hs, andThenFlag]
    · obtain ⟨v, fl, hv, hsign, hlo, _⟩ := reprRound_two_long m c hc k.F.prec hp1 s e hodd hfit
      rw [hv]
      simp only
      rw [intoFloatInternal_over k v (by omega)]
      by_cases hs : s < 0
      · have := hsign.mpr hs; simp [hs, this, andThenFlag]
      · have : ¬ v.signif < 0 := fun h => hs (hsign.mp h); simp [hs, this, andThenFlag]
  · simp only [h1, if_false]
    by_cases h2 : e < 0 ∧ e < k.zeroExp - (bitLen s.natAbs : Int)
    · -- decided: underflow
      simp only [h2, and_self, if_true]
      unfold fbigToFloat
      rw [hk.prec]
      by_cases hfit : bitLen s.natAbs ≤ k.F.prec
      · rw [reprRound_two m c hc k.F.prec hp1 s e hodd]
        simp only [hfit, if_true]
        rw [intoFloatInternal_under k ⟨s, e⟩ h1 (by show e < k.zeroExp; omega)]
        by_cases hs : s < 0 <;> simp [hs, andThenFlag]
      · obtain ⟨v, fl, hv, hsign, _, hhi⟩ := reprRound_two_long m c hc k.F.prec hp1 s e hodd hfit
        rw [hv]
        simp only
        rw [intoFloatInternal_under k v (by omega) (by omega)]
        by_cases hs : s < 0
        · have := hsign.mpr hs; simp [hs, this, andThenFlag]
        · have : ¬ v.signif < 0 := fun h => hs (hsign.mp h); simp [hs, this, andThenFlag]
    · -- undecided: the general path itself
      simp only [h2, if_false]

/-- zero is never decided by the range test -/
theorem fbigToFloatCode_zero (k : IntoConsts) (m : Float.Mode) (c : Coarse) (e : Int) :
    fbigToFloatCode k m c ⟨0, e⟩ = fbigToFloat k m c ⟨0, e⟩ := by
  unfold fbigToFloatCode rangeExit exponentOutOfRange Dashu.Gen.Conv.exponent_out_of_range
  simp

/-- the exact-or-refused conversions inherit it -/
theorem fbigTryToFloatCode_eq (k : IntoConsts) (hk : IntoCompat k) (hinf : 0 ≤ k.infExp) (hzero : k.zeroExp ≤ 0)
    (c : Coarse) (hc : CoarseSound c) (s e : Int) (hodd : s % 2 = 1) :
    fbigTryToFloatCode k c ⟨s, e⟩ = fbigTryToFloat k c ⟨s, e⟩ := by
  unfold fbigTryToFloatCode fbigTryToFloat
  rw [fbigToFloatCode_eq k hk hinf hzero .halfEven c hc s e hodd]
  rfl

/-! ### the decided overflow is the REQUIRED result in every base -/

/-- the specification (single rounding of the exact rational value, any mode) of a float `s·B^e` of ANY base `B ≥ 2`
    with `e ≥ emax + 1` (128 / 1024 — the `Some(true)` arm of the range test) is `±∞`, flagged above (`+`) resp. below
    (`−`) the exact value: `|s|·B^e ≥ 2^e`.  Also the
    justification of the driver's exponent clamp on the overflow side: the required bits do not depend on `e`. -/
theorem spec_over_any_base (F : Ieee) (hF : F.Ok) (B : Nat) (hB : 2 ≤ B) (mode : Mode) (s e : Int) (hs : s ≠ 0)
    (he : F.emax + 1 ≤ e) :
    ieeeRoundRat F mode (floatAsRat B s e).1 (floatAsRat B s e).2 =
      ((if s < 0 then F.signBit else 0) + F.infBits, Flag.pos.flipIf (decide (s < 0))) := by
  have hemax : 0 ≤ F.emax := by
    unfold Ieee.emax Ieee.bias
    have : (0 : Int) < 2 ^ (F.EB - 1) := by positivity
    omega
  have he0 : e ≥ 0 := by omega
  obtain ⟨n, rfl⟩ : ∃ n : Nat, e = n := ⟨e.toNat, by omega⟩
  unfold floatAsRat
  simp only [he0, if_true, Int.toNat_natCast]
  have hB0 : (0 : Int) < (B : Int) := by exact_mod_cast (by omega : 0 < B)
  have hBn : (0 : Int) < (B : Int) ^ n := pow_pos hB0 n
  have hnum : s * (B : Int) ^ n ≠ 0 := mul_ne_zero hs (ne_of_gt hBn)
  have hneg : (s * (B : Int) ^ n < 0) ↔ s < 0 := by
    constructor
    · intro h
      by_contra hh
      have : 0 ≤ s * (B : Int) ^ n := mul_nonneg (by omega) (le_of_lt hBn)
      omega
    · intro h; exact mul_neg_of_neg_of_pos h hBn
  unfold ieeeRoundRat
  simp only [hnum, if_false, hneg]
  have ha : (s * (B : Int) ^ n).natAbs ≠ 0 := by omega
  have h1 := ieeeRoundRatMag_dyadic_M F mode (decide (s < 0)) (s * (B : Int) ^ n).natAbs 0 ha
  simp only [Nat.pow_zero] at h1
  rw [h1]
  have hge : 2 ^ n ≤ (s * (B : Int) ^ n).natAbs := by
    rw [Int.natAbs_mul, Int.natAbs_pow, Int.natAbs_natCast]
    calc 2 ^ n ≤ B ^ n := Nat.pow_le_pow_left hB n
      _ = 1 * B ^ n := (Nat.one_mul _).symm
      _ ≤ s.natAbs * B ^ n := Nat.mul_le_mul_right _ (by omega)
  have hbl : n + 1 ≤ bitLen (s * (B : Int) ^ n).natAbs := by
    by_contra hc
    have h2 : (s * (B : Int) ^ n).natAbs < 2 ^ bitLen (s * (B : Int) ^ n).natAbs := bitLen_lt
    have h3 : 2 ^ bitLen (s * (B : Int) ^ n).natAbs ≤ 2 ^ n := Nat.pow_le_pow_right (by decide) (by omega)
    omega
  rw [ieeeRoundMagM_over F hF mode _ _ _ ha (by push_cast; omega)]
  by_cases hsn : s < 0 <;> simp [hsn]

/-- **the `Some(true)` arm returns the required result** — every base `B ≥ 2`, every mode, both formats: bits `±∞`,
    and the label `AddOne` (positive: result above the exact value, `Flag.pos`) / `SubOne` (negative: below, `Flag.neg`)
    is the truthful one -/
theorem rangeExit_over_required (k : IntoConsts) (hk : IntoCompat k) (B : Nat) (hB : 2 ≤ B) (mode : Mode) (s e : Int)
    (hs : s ≠ 0) (h : exponentOutOfRange ⟨s, e⟩ k.infExp k.zeroExp = some true) :
    rangeExit k ⟨s, e⟩ =
        some (if s < 0 then (k.F.signBit + k.F.infBits, some .SubOne) else (k.F.infBits, some .AddOne)) ∧
      ieeeRoundRat k.F mode (floatAsRat B s e).1 (floatAsRat B s e).2 =
        ((if s < 0 then k.F.signBit else 0) + k.F.infBits, Flag.pos.flipIf (decide (s < 0))) := by
  have he : e ≥ k.infExp := by
    unfold exponentOutOfRange Dashu.Gen.Conv.exponent_out_of_range at h
    simp only [hs, decide_false, Bool.false_eq_true, if_false] at h
    by_contra hc
    simp only [hc, if_false] at h
    split at h <;> simp at h
  constructor
  · unfold rangeExit
    rw [h]
  · exact spec_over_any_base k.F hk.enc.ok B hB mode s e hs (by have := hk.inf; omega)

end Dashu.Model.Conv
