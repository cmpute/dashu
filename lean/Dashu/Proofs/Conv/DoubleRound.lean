import Dashu.Proofs.Conv.Ratio
/-
  C06 — rounding twice to nearest-even: `RNE_{k2}(RNE_{k1}(a))` equals `RNE_{k1+k2}(a)` except on an
  explicitly described set (the first rounding is inexact and lands exactly on a midpoint of the second
  grid, whose tie rule then goes to the wrong side).  This is the arithmetic behind the subnormal
  double rounding of `FBig::to_f32/to_f64`.
-/
namespace Dashu.Model.Conv

/-- `m` is the nearest integer to `A/D` with ties to even ⇒ `m = rneDiv A D` -/
theorem rneDiv_unique (A D m : Nat) (hD : 0 < D)
    (h1 : 2 * (m * D) ≤ 2 * A + D) (h2 : 2 * A ≤ 2 * (m * D) + D)
    (t1 : 2 * A = 2 * (m * D) + D → m % 2 = 0) (t2 : 2 * (m * D) = 2 * A + D → m % 2 = 0) :
    rneDiv A D = m := by
  have hdm := Nat.div_add_mod A D
  have hr := Nat.mod_lt A hD
  -- `m` is the quotient or its successor
  obtain ⟨P, hP⟩ : ∃ P, P = D * (A / D) := ⟨_, rfl⟩
  rw [← hP] at hdm
  have hlo : A / D ≤ m := by
    by_contra hc
    have := Nat.mul_le_mul_right D (show m + 1 ≤ A / D by omega)
    rw [Nat.add_mul, Nat.mul_comm (A / D), ← hP] at this
    omega
  have hhi : m ≤ A / D + 1 := by
    by_contra hc
    have := Nat.mul_le_mul_right D (show A / D + 2 ≤ m by omega)
    rw [Nat.add_mul, Nat.mul_comm (A / D), ← hP] at this
    omega
  obtain rfl | rfl : m = A / D ∨ m = A / D + 1 := by omega
  · rw [Nat.mul_comm (A / D), ← hP] at h1 h2 t1 t2
    rcases Nat.lt_trichotomy (2 * (A % D)) D with h | h | h
    · exact rneDiv_of_lt h
    · rw [rneDiv_of_tie h, if_pos (t1 (by omega))]
    · omega
  · rw [Nat.add_mul, Nat.mul_comm (A / D), ← hP] at h1 h2 t1 t2
    rcases Nat.lt_trichotomy (2 * (A % D)) D with h | h | h
    · omega
    · rw [rneDiv_of_tie h, if_neg (by have := t2 (by omega); omega)]
    · exact rneDiv_of_gt h

/-- strictly nearer than half a unit: no tie to decide -/
theorem rneDiv_near (A D m : Nat) (h1 : 2 * (m * D) < 2 * A + D) (h2 : 2 * A < 2 * (m * D) + D) :
    rneDiv A D = m :=
  rneDiv_unique A D m (by omega) (by omega) (by omega) (by omega) (by omega)

/-- Rounding twice: any nearest integer `n` to `a / D₁`, rounded again to nearest-even by `2·H`, against
    the direct rounding of `a` by `D₁·2·H`.  They differ only when `n` sits on a midpoint of the coarse
    grid while `a` does not: `a` then lies strictly on one side, and the tie rule may pick the other. -/
theorem rneDiv_twice (a D₁ H n : Nat) (hD : 0 < D₁) (hH : 0 < H)
    (h1 : 2 * (n * D₁) ≤ 2 * a + D₁) (h2 : 2 * a ≤ 2 * (n * D₁) + D₁) :
    rneDiv n (2 * H) = rneDiv a (D₁ * (2 * H)) ↔
      ¬ (n % (2 * H) = H ∧
        ((a < n * D₁ ∧ n / (2 * H) % 2 = 1) ∨ (n * D₁ < a ∧ n / (2 * H) % 2 = 0))) := by
  have hdm := Nat.div_add_mod n (2 * H)
  have hr := Nat.mod_lt n (show 0 < 2 * H by omega)
  generalize hq : n / (2 * H) = q at *
  generalize hr' : n % (2 * H) = r at *
  -- in units of `D₁`: `X` the coarse grid point below, `Y` the offset of `n`, `M` half a coarse step
  obtain ⟨X, hX⟩ : ∃ X, X = q * (D₁ * (2 * H)) := ⟨_, rfl⟩
  obtain ⟨Y, hY⟩ : ∃ Y, Y = r * D₁ := ⟨_, rfl⟩
  obtain ⟨M, hM⟩ : ∃ M, M = H * D₁ := ⟨_, rfl⟩
  have hn : n * D₁ = X + Y := by rw [← hdm, hX, hY]; ring
  have hX1 : (q + 1) * (D₁ * (2 * H)) = X + 2 * M := by rw [hX, hM]; ring
  have hDM : D₁ * (2 * H) = 2 * M := by rw [hM]; ring
  have hMD : D₁ ≤ M := by rw [hM]; exact Nat.le_mul_of_pos_left _ hH
  rw [hn] at h1 h2 ⊢
  rcases Nat.lt_trichotomy r H with hlt | heq | hgt
  · -- below the coarse midpoint by at least `D₁`: both go down
    have : Y + D₁ ≤ M := by
      have := Nat.mul_le_mul_right D₁ (show r + 1 ≤ H from hlt)
      rw [Nat.add_mul, Nat.one_mul, ← hY, ← hM] at this
      exact this
    rw [rneDiv_of_lt (by omega), rneDiv_near a _ q (by rw [← hX, hDM]; omega) (by rw [← hX, hDM]; omega)]
    omega
  · obtain rfl : H = r := heq.symm
    rw [← hM] at hY
    subst hY
    rw [rneDiv_of_tie (by omega)]
    rcases Nat.lt_trichotomy a (X + Y) with ha | ha | ha
    · rw [rneDiv_near a _ q (by rw [← hX, hDM]; omega) (by rw [← hX, hDM]; omega)]
      split <;> omega
    · -- the first rounding was exact: the second is the direct one
      have : rneDiv a (D₁ * (2 * H)) = rneDiv n (2 * H) := by
        rw [ha, ← hn, Nat.mul_comm n]
        exact rneDiv_scale D₁ n (2 * H) hD
      rw [this, rneDiv_of_tie (by omega)]
      omega
    · rw [rneDiv_near a _ (q + 1) (by rw [hX1, hDM]; omega) (by rw [hX1, hDM]; omega)]
      split <;> omega
  · have : M + D₁ ≤ Y := by
      have := Nat.mul_le_mul_right D₁ (show H + 1 ≤ r from hgt)
      rw [Nat.add_mul, Nat.one_mul, ← hY, ← hM] at this
      exact this
    have : Y < 2 * M := by
      have := Nat.mul_lt_mul_of_pos_right hr hD
      rw [← hY, Nat.mul_assoc, ← hM] at this
      exact this
    rw [rneDiv_of_gt (by omega),
      rneDiv_near a _ (q + 1) (by rw [hX1, hDM]; omega) (by rw [hX1, hDM]; omega)]
    omega

/-- the failing set of a double rounding to nearest-even (`k1` bits first, then `k2` more) -/
def DoubleRoundBad (a k1 k2 : Nat) : Prop :=
  let n1 := rneDiv a (2 ^ k1)
  n1 % 2 ^ k2 = 2 ^ (k2 - 1) ∧
    ((a < n1 * 2 ^ k1 ∧ (n1 / 2 ^ k2) % 2 = 1) ∨ (n1 * 2 ^ k1 < a ∧ (n1 / 2 ^ k2) % 2 = 0))

instance (a k1 k2 : Nat) : Decidable (DoubleRoundBad a k1 k2) := by
  unfold DoubleRoundBad; infer_instance

/-- **double rounding lemma** -/
theorem double_rne (a k1 k2 : Nat) (hk2 : 1 ≤ k2) :
    rneDiv (rneDiv a (2 ^ k1)) (2 ^ k2) = rneDiv a (2 ^ (k1 + k2)) ↔ ¬ DoubleRoundBad a k1 k2 := by
  obtain ⟨j, rfl⟩ : ∃ j, k2 = j + 1 := ⟨k2 - 1, by omega⟩
  obtain ⟨h1, h2⟩ := rneDiv_half a (2 ^ k1) (Nat.two_pow_pos k1)
  have := rneDiv_twice a (2 ^ k1) (2 ^ j) _ (Nat.two_pow_pos k1) (Nat.two_pow_pos j) h1 h2
  rw [Nat.mul_comm 2 (2 ^ j), ← pow_succ, ← pow_add] at this
  exact this

end Dashu.Model.Conv
