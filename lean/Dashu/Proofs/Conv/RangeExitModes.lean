import Dashu.Proofs.Conv.RangeExit
/-
  C06 — the `Some(false)` arm of the range test in EVERY mode: the specification of a float `s·B^e` below the range is `±0` when the
  mode does not round this sign's magnitude up, and the least subnormal `±2^qmin` (bits `sign + 1`), flagged away from
  zero, when it does (`Away`; `Up` for positive, `Down` for negative values) — whatever `e`.
-/
namespace Dashu.Model.Conv
open Dashu Dashu.Model Dashu.Model.Float

/-- a non-zero magnitude below half a unit: only a mode that rounds this sign away from zero reaches 1 -/
theorem roundMagMode_small (mode : Mode) (neg : Bool) (num den : Nat) (h0 : num ≠ 0) (hlt : 2 * num < den) :
    roundMagMode mode neg num den =
      if mode = .away ∨ (mode = .up ∧ neg = false) ∨ (mode = .down ∧ neg = true) then (1, true)
      else (0, false) := by
  have c1 : ¬ den < 2 * num := by omega
  have c2 : ¬ 2 * num = den := by omega
  have c3 : ¬ den ≤ 2 * num := by omega
  unfold roundMagMode
  simp only [Nat.div_eq_of_lt (show num < den by omega), Nat.mod_eq_of_lt (show num < den by omega), h0,
    if_false]
  cases mode <;> cases neg <;> simp [c1, c2, c3]

/-- the `Some(false)` arm of the range test, read off -/
theorem exponentOutOfRange_some_false (s e infExp zeroExp : Int) (hs : s ≠ 0)
    (h : exponentOutOfRange ⟨s, e⟩ infExp zeroExp = some false) :
    e < 0 ∧ e < zeroExp - (bitLen s.natAbs : Int) := by
  unfold exponentOutOfRange Dashu.Gen.Conv.exponent_out_of_range at h
  simp only [hs, decide_false, Bool.false_eq_true, if_false] at h
  split at h
  · simp at h
  · split at h
    · rename_i _ hcond; simpa using hcond
    · simp at h

/-- the specification (single rounding of the exact rational value) of `s·B^e`, ANY base `B ≥ 2`, EVERY mode, with
    `e < 0 ∧ e < (qmin − prec) − bit_len s` (the `Some(false)` arm of the range test):
    `|s|·B^e < 2^(bit_len + e) < 2^(qmin − prec) ≤ 2^(qmin − 1)`, below half of the least subnormal.  Also the
    justification of the driver's exponent clamp on the underflow side: the required bits do not depend on `e`. -/
theorem spec_under_any_base_every_mode (F : Ieee) (hF : F.Ok) (B : Nat) (hB : 2 ≤ B) (mode : Mode)
    (s e : Int) (hs : s ≠ 0) (he0 : e < 0) (he : e < F.qmin - F.prec - (bitLen s.natAbs : Int)) :
    ieeeRoundRat F mode (floatAsRat B s e).1 (floatAsRat B s e).2 =
      if mode = .away ∨ (mode = .up ∧ ¬ s < 0) ∨ (mode = .down ∧ s < 0)
      then ((if s < 0 then F.signBit else 0) + 1, Flag.pos.flipIf (decide (s < 0)))
      else ((if s < 0 then F.signBit else 0), Flag.neg.flipIf (decide (s < 0))) := by
  have hFB := F.B_ge hF
  have hqm := F.qmin_eq
  have hem := F.emax_eq
  have hprec : 1 ≤ F.prec := by unfold Ieee.prec; omega
  obtain ⟨n, rfl⟩ : ∃ n : Nat, e = -(n : Int) := ⟨(-e).toNat, by omega⟩
  obtain ⟨g, hg⟩ : ∃ g : Nat, F.qmin = -(g : Int) := ⟨(-F.qmin).toNat, by omega⟩
  have hne0 : ¬ (-(n : Int) ≥ 0) := by omega
  unfold floatAsRat
  simp only [hne0, if_false, neg_neg, Int.toNat_natCast]
  unfold ieeeRoundRat
  simp only [hs, if_false]
  have ha : s.natAbs ≠ 0 := by omega
  generalize hL : bitLen s.natAbs = L at he
  have haL : s.natAbs < 2 ^ L := by rw [← hL]; exact bitLen_lt
  -- `B^n ≥ 2^n` has at least `n + 1` bits, so the binade is far below the subnormal range: `q = qmin`
  have hbn : 2 ^ n ≤ B ^ n := Nat.pow_le_pow_left hB n
  have hblb : n + 1 ≤ bitLen (B ^ n) := lt_bitLen_of_le hbn
  have htop : ratTop s.natAbs (B ^ n) ≤ (L : Int) - n := by
    unfold ratTop
    rw [hL]
    simp only
    split <;> omega
  have hq : max (ratTop s.natAbs (B ^ n) - F.prec) F.qmin = F.qmin := by omega
  unfold ieeeRoundRatMag
  simp only [hq]
  have e1 : (-F.qmin).toNat = g := by omega
  have e2 : F.qmin.toNat = 0 := by omega
  have e3 : (F.qmin - F.qmin).toNat = 0 := by omega
  rw [e1, e2, e3]
  simp only [Nat.pow_zero, Nat.mul_one, Nat.zero_mul, Nat.zero_add]
  have hlt : 2 * (s.natAbs * 2 ^ g) < B ^ n := by
    have h1 : 2 * (s.natAbs * 2 ^ g) < 2 ^ (L + g + 1) := by
      have : s.natAbs * 2 ^ g < 2 ^ L * 2 ^ g := Nat.mul_lt_mul_of_pos_right haL (Nat.two_pow_pos g)
      rw [Nat.pow_succ, Nat.pow_add]; omega
    have h2 : 2 ^ (L + g + 1) ≤ 2 ^ n := Nat.pow_le_pow_right (by decide) (by omega)
    omega
  have hnum0 : s.natAbs * 2 ^ g ≠ 0 := Nat.mul_ne_zero ha (Nat.two_pow_pos g).ne'
  -- the finite branch: 0 or 1 unit is below 2^(emax+1-qmin)
  obtain ⟨w, hw⟩ : ∃ w : Nat, (F.emax + 1 - F.qmin).toNat = w + 1 :=
    ⟨(F.emax + 1 - F.qmin).toNat - 1, by omega⟩
  have hpos1 : ¬ (2 ^ (w + 1) ≤ 1) := by
    have : 0 < 2 ^ w := Nat.two_pow_pos _
    rw [Nat.pow_succ]; omega
  rw [hw, roundMagMode_small mode _ _ _ hnum0 hlt]
  simp only [decide_eq_true_eq, decide_eq_false_iff_not]
  by_cases hup : mode = .away ∨ (mode = .up ∧ ¬ s < 0) ∨ (mode = .down ∧ s < 0)
  · simp only [if_pos hup, if_neg hpos1, flagOf_pos (show s.natAbs * 2 ^ g < 1 * B ^ n by omega)]
  · have hpos0 : ¬ (2 ^ (w + 1) ≤ 0) := (Nat.two_pow_pos _).not_ge
    simp only [if_neg hup, if_neg hpos0, flagOf_neg (show 0 * B ^ n < s.natAbs * 2 ^ g by omega)]
    by_cases hsn : s < 0 <;> simp [hsn]

/-- **the `Some(false)` arm in every mode** — every base `B ≥ 2`, both formats: the code returns `±0`, `NoOp`; the
    specification is `±0` flagged toward zero unless the mode rounds this sign's magnitude up, where it is the least
    subnormal flagged away from zero; hence the returned BITS are the required ones IFF the mode is not one of those. -/
theorem rangeExit_under_every_mode (k : IntoConsts) (hk : IntoCompat k) (B : Nat) (hB : 2 ≤ B) (mode : Mode) (s e : Int)
    (hs : s ≠ 0) (h : exponentOutOfRange ⟨s, e⟩ k.infExp k.zeroExp = some false) :
    rangeExit k ⟨s, e⟩ = some ((if s < 0 then k.F.signBit else 0), some .NoOp) ∧
      ieeeRoundRat k.F mode (floatAsRat B s e).1 (floatAsRat B s e).2 =
        (if mode = .away ∨ (mode = .up ∧ ¬ s < 0) ∨ (mode = .down ∧ s < 0)
         then ((if s < 0 then k.F.signBit else 0) + 1, Flag.pos.flipIf (decide (s < 0)))
         else ((if s < 0 then k.F.signBit else 0), Flag.neg.flipIf (decide (s < 0)))) ∧
      ((ieeeRoundRat k.F mode (floatAsRat B s e).1 (floatAsRat B s e).2).1 = (if s < 0 then k.F.signBit else 0) ↔
        ¬ (mode = .away ∨ (mode = .up ∧ ¬ s < 0) ∨ (mode = .down ∧ s < 0))) := by
  have he := exponentOutOfRange_some_false s e _ _ hs h
  have hspec := spec_under_any_base_every_mode k.F hk.enc.ok B hB mode s e hs he.1 (by have := hk.zero; omega)
  refine ⟨?_, hspec, ?_⟩
  · unfold rangeExit
    rw [h]
  · rw [hspec]
    by_cases hup : mode = .away ∨ (mode = .up ∧ ¬ s < 0) ∨ (mode = .down ∧ s < 0)
    · rw [if_pos hup]
      simp only [hup, not_true_eq_false, iff_false]
      generalize (if s < 0 then k.F.signBit else 0) = z
      omega
    · rw [if_neg hup]
      simp only [hup, not_false_eq_true]

/-- **the `Some(false)` arm returns the required result** in `HalfEven` / `HalfAway` / `Zero` — every base `B ≥ 2`, both
    formats: bits `±0`, label `NoOp` (toward zero: the magnitude shrank, `Flag.neg` on the magnitude) -/
theorem rangeExit_under_required (k : IntoConsts) (hk : IntoCompat k) (B : Nat) (hB : 2 ≤ B) (mode : Mode)
    (hm : mode = .halfEven ∨ mode = .halfAway ∨ mode = .zero) (s e : Int)
    (hs : s ≠ 0) (h : exponentOutOfRange ⟨s, e⟩ k.infExp k.zeroExp = some false) :
    rangeExit k ⟨s, e⟩ = some ((if s < 0 then k.F.signBit else 0), some .NoOp) ∧
      ieeeRoundRat k.F mode (floatAsRat B s e).1 (floatAsRat B s e).2 =
        ((if s < 0 then k.F.signBit else 0), Flag.neg.flipIf (decide (s < 0))) := by
  obtain ⟨h1, h2, -⟩ := rangeExit_under_every_mode k hk B hB mode s e hs h
  exact ⟨h1, by rw [h2, if_neg (by rcases hm with rfl | rfl | rfl <;> simp)]⟩

end Dashu.Model.Conv
