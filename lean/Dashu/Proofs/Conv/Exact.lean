import Dashu.Proofs.Conv.Ratio
import Dashu.Proofs.Float.RoundOps
import Dashu.Model.Conv.Exact
/-
  C06 — exact-or-refused conversions between RBig, FBig, integers and primitive floats.  `TryFrom<RBig> for f32/f64`
  has its closed form here (`ratTryToFloat_dyadic`: the pair `tryPair` handed to `encode` denotes the rational, so the
  code is four tests on the specification's answer); soundness, completeness (TryTo.lean) and the refusal kind are read off it.
-/
namespace Dashu.Model.Conv
open Dashu.Model Dashu.Model.Float Dashu.Props.GenRound

/-! ### RBig → integers -/

/-- for a rational in lowest terms: an integer iff the denominator is one -/
theorem coprime_int_iff (num : Int) (den : Nat) (hden : den ≠ 0) (hco : Nat.Coprime num.natAbs den) :
    ((den : Int) ∣ num) ↔ den = 1 := by
  constructor
  · intro h
    have h1 : den ∣ num.natAbs := Int.natCast_dvd.mp h
    have h2 : den ∣ Nat.gcd num.natAbs den := Nat.dvd_gcd h1 (Nat.dvd_refl _)
    rw [hco] at h2
    exact Nat.dvd_one.mp h2
  · intro h; subst h; simp

/-- **`TryFrom<RBig> for IBig`**: Ok exactly when the value is an integer, and then that integer -/
theorem ratTryToIBig_spec (num : Int) (den : Nat) (hden : den ≠ 0) (hco : Nat.Coprime num.natAbs den) :
    ratTryToIBig num den = if (den : Int) ∣ num then .ok (num / den) else .error .lossOfPrecision := by
  unfold ratTryToIBig
  by_cases h : den = 1
  · subst h; simp
  · have : ¬ ((den : Int) ∣ num) := fun hd => h ((coprime_int_iff num den hden hco).mp hd)
    rw [if_neg h, if_neg this]

/-! ### FBig → integers / rationals -/

theorem pow_cast (B k : Nat) : ((B : Int) ^ k) = ((B ^ k : Nat) : Int) := by push_cast; rfl

/-- a normalised float with a negative exponent is not an integer -/
theorem not_int_of_neg_exp (B : Nat) (hB : 2 ≤ B) (r : FRepr) (hn : Normalized B r) (hs : r.signif ≠ 0)
    (he : r.exp < 0) (v : Int) : r.toRat B ≠ (v : ℚ) := by
  intro hv
  have h1 := toRat_neg_exp B hB r he
  rw [hv] at h1
  have h2 : v * pointUnit B r = r.signif := by exact_mod_cast h1
  rcases hn with h | h
  · exact hs h
  · apply h
    obtain ⟨k, hk⟩ : ∃ k : Nat, (-r.exp).toNat = k + 1 := ⟨(-r.exp).toNat - 1, by omega⟩
    unfold pointUnit at h2
    rw [hk, pow_succ] at h2
    rw [← h2]
    push_cast
    rw [← mul_assoc]
    exact Int.mul_emod_left _ _

theorem toRat_nonneg_exp (B : Nat) (r : FRepr) (he : 0 ≤ r.exp) :
    r.toRat B = ((r.signif * (B : Int) ^ r.exp.toNat : Int) : ℚ) := by
  unfold FRepr.toRat bpowQ
  have : r.exp ≥ 0 := he
  simp only [this, if_true]
  push_cast; ring

/-! ### primitive floats → RBig / FBig -/

theorem fbigFromFloat_nan (d : DecConsts) (bits : Nat) (h : decode d bits = .error .nan) :
    fbigFromFloat d bits = .error .outOfBounds := by
  unfold fbigFromFloat; rw [h]

/-! ### the specification is invariant under moving powers of two between mantissa and exponent -/

theorem ieeeRoundMag_scale (F : Ieee) (a z : Nat) (e : Int) (ha : a ≠ 0) :
    ieeeRoundMag F (a * 2 ^ z) e = ieeeRoundMag F a (e + z) := by
  rw [← ieeeRoundMagM_halfEven F false, ieeeRoundMagM_scale F .halfEven false a z e ha, ieeeRoundMagM_halfEven]

theorem ieeeRound_scale (F : Ieee) (n : Int) (z : Nat) (e : Int) :
    ieeeRound F (n * 2 ^ z) e = ieeeRound F n (e + z) := by
  unfold ieeeRound
  by_cases h0 : n = 0
  · simp [h0]
  · have hp : (2 : Int) ^ z ≠ 0 := by positivity
    have h1 : n * 2 ^ z ≠ 0 := mul_ne_zero h0 hp
    simp only [h0, h1, if_false]
    have habs : (n * 2 ^ z).natAbs = n.natAbs * 2 ^ z := by
      rw [Int.natAbs_mul, Int.natAbs_pow]; rfl
    have hneg : (n * 2 ^ z < 0) ↔ n < 0 := by
      have hpp : (0 : Int) < 2 ^ z := by positivity
      constructor
      · intro h; by_contra hc; have : 0 ≤ n * 2 ^ z := mul_nonneg (by omega) (le_of_lt hpp); omega
      · intro h; exact mul_neg_of_neg_of_pos h hpp
    rw [habs, ieeeRoundMag_scale F n.natAbs z e (by omega)]
    simp only [hneg]

theorem trailingZeros_dvd : ∀ fuel n : Nat, 2 ^ trailingZeros fuel n ∣ n := by
  intro fuel
  induction fuel with
  | zero => intro n; simp [trailingZeros]
  | succ k ih =>
    intro n
    unfold trailingZeros
    by_cases h : n % 2 = 0 ∧ n ≠ 0
    · simp only [h, and_self, ne_eq, not_false_eq_true, if_true]
      rw [Nat.add_comm, pow_succ]
      have h2 := Nat.mul_dvd_mul (ih (n / 2)) (Nat.dvd_refl 2)
      have hn : n / 2 * 2 = n := by omega
      rwa [hn] at h2
    · simp [h]

/-! ### `TryFrom<RBig> for f32/f64` -/

theorem fits_natAbs (N : Nat) (n : Int) (h : -(2 ^ (N - 1) : Int) ≤ n ∧ n < 2 ^ (N - 1)) :
    n.natAbs ≤ 2 ^ (N - 1) := by
  have h3 : ((n.natAbs : Nat) : Int) ≤ ((2 ^ (N - 1) : Nat) : Int) := by
    rw [Nat.cast_pow, Nat.cast_ofNat]; omega
  exact_mod_cast h3

theorem log2_two_pow (j : Nat) : Nat.log2 (2 ^ j) = j := by
  have h1 : bitLen (2 ^ j) = j + 1 := bitLen_two_pow j
  unfold bitLen at h1
  have : 2 ^ j ≠ 0 := by positivity
  simp only [this, if_false] at h1
  omega

/-- what `TryFrom<RBig> for fNN` hands to `encode` for `num / 2^j`: an integer loses its trailing zeros to the
    exponent, a proper fraction is taken as it is -/
def tryPair (num : Int) (j : Nat) : Int × Int :=
  if j = 0 then (Int.tdiv num (2 ^ trailingZeros (bitLen num.natAbs) num.natAbs),
    (trailingZeros (bitLen num.natAbs) num.natAbs : Int))
  else (num, -(j : Int))

/-- the pair denotes `num / 2^j`: mantissa times `2^exponent`, with `z = 0` for a proper fraction -/
theorem tryPair_decomp (num : Int) (j : Nat) :
    ∃ z : Nat, (tryPair num j).1 * 2 ^ z = num ∧ (tryPair num j).2 = (z : Int) - j ∧ (j ≠ 0 → z = 0) ∧
      (j = 0 → z = trailingZeros (bitLen num.natAbs) num.natAbs) := by
  unfold tryPair
  by_cases hj0 : j = 0
  · rw [if_pos hj0]
    refine ⟨_, ?_, by simp [hj0], fun h => absurd hj0 h, fun _ => rfl⟩
    have hdvd := trailingZeros_dvd (bitLen num.natAbs) num.natAbs
    have : ((2 ^ trailingZeros (bitLen num.natAbs) num.natAbs : Nat) : Int) ∣ num := Int.natCast_dvd.mpr hdvd
    exact Int.tdiv_mul_cancel (by simpa using this)
  · rw [if_neg hj0]
    exact ⟨0, by simp, by simp, fun _ => rfl, fun h => absurd h hj0⟩

theorem tryPair_spec (F : Ieee) (num : Int) (j : Nat) :
    ieeeRound F (tryPair num j).1 (tryPair num j).2 = ieeeRoundRat F .halfEven num (2 ^ j) := by
  obtain ⟨z, hz, hx, -, -⟩ := tryPair_decomp num j
  rw [ieeeRoundRat_dyadic, hx, show ((z : Int) - j) = -(j : Int) + z by ring, ← ieeeRound_scale, hz]

/-- **the closed form of `TryFrom<RBig> for fNN` on a dyadic rational** (any numerator, not only lowest terms):
    the two range tests on `top_bit`, the `iN` fit test on the mantissa, and then the specification's answer sorted
    into `Ok` / `OutOfBounds` (it is ±∞) / `LossOfPrecision` -/
theorem ratTryToFloat_dyadic (c : EncConsts) (F : Ieee) (hc : Compatible c F) (lb ub : Int) (num : Int) (j : Nat)
    (h0 : num ≠ 0) :
    ratTryToFloat c lb ub num (2 ^ j) = .ok
      (if (bitLen num.natAbs : Int) - (j : Int) > ub then .error .outOfBounds
       else if (bitLen num.natAbs : Int) - (j : Int) < lb then .error .lossOfPrecision
       else if ¬ (-(2 ^ (c.N - 1) : Int) ≤ (tryPair num j).1 ∧ (tryPair num j).1 < 2 ^ (c.N - 1)) then
         .error .lossOfPrecision
       else if (ieeeRoundRat F .halfEven num (2 ^ j)).2 = .exact then .ok (ieeeRoundRat F .halfEven num (2 ^ j)).1
       else if (ieeeRoundRat F .halfEven num (2 ^ j)).1 % F.signBit = F.infBits then .error .outOfBounds
       else .error .lossOfPrecision) := by
  have hpow : (2 ^ j ≠ 0 ∧ 2 ^ Nat.log2 (2 ^ j) = 2 ^ j) := ⟨by positivity, by rw [log2_two_pow]⟩
  have hsb : F.signBit = 2 ^ c.signShl := by unfold Ieee.signBit; rw [hc.signShl]
  unfold ratTryToFloat
  simp only [h0, if_false, hpow, and_self, ne_eq, not_false_eq_true, if_true, log2_two_pow]
  split
  · rfl
  split
  · rfl
  rw [← tryPair_spec F num j, ← tryPair.eq_1 num j]
  generalize tryPair num j = p
  obtain ⟨n, x⟩ := p
  simp only
  by_cases hfits : (-(2 ^ (c.N - 1) : Int) ≤ n ∧ n < 2 ^ (c.N - 1))
  · simp only [hfits, not_true_eq_false, if_false, and_self]
    rw [encodeFixed_correct c F hc n x (fits_natAbs c.N n hfits)]
    generalize ieeeRound F n x = res
    obtain ⟨b, fl⟩ := res
    cases fl <;> simp [hsb, hc.inf] <;> (split <;> rfl)
  · simp [hfits]

/-- anything else than a power of two below a non-zero numerator is refused at once -/
theorem ratTryToFloat_nondyadic (c : EncConsts) (lb ub : Int) (num : Int) (den : Nat) (h0 : num ≠ 0)
    (hpow : ¬ (den ≠ 0 ∧ 2 ^ Nat.log2 den = den)) :
    ratTryToFloat c lb ub num den = .ok (.error .lossOfPrecision) := by
  unfold ratTryToFloat
  simp only [h0, if_false, hpow]

/-- **soundness**: whenever the conversion succeeds, the float is exactly the rational (the IEEE
    rounding of the rational is that bit pattern with error flag `Exact`) -/
theorem ratTryToFloat_sound (c : EncConsts) (F : Ieee) (hc : Compatible c F) (lb ub : Int) (num : Int) (den : Nat)
    (bits : Nat) (h : ratTryToFloat c lb ub num den = .ok (.ok bits)) :
    ieeeRoundRat F .halfEven num den = (bits, .exact) := by
  by_cases h0 : num = 0
  · subst h0
    simp only [ratTryToFloat, if_true, Except.ok.injEq] at h
    subst h
    simp [ieeeRoundRat]
  by_cases hpow : den ≠ 0 ∧ 2 ^ Nat.log2 den = den
  · rw [← hpow.2] at h ⊢
    rw [ratTryToFloat_dyadic c F hc lb ub num _ h0] at h
    simp only [Except.ok.injEq] at h
    -- the only `Ok` arm is the exact one
    iterate 3 (split at h; · cases h)
    split at h
    · rename_i hex
      simp only [Except.ok.injEq] at h
      exact Prod.ext h hex
    · split at h <;> cases h
  · rw [ratTryToFloat_nondyadic c lb ub num den h0 hpow] at h
    cases h

end Dashu.Model.Conv
