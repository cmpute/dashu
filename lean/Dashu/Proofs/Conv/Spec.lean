import Dashu.Proofs.Conv.Bits
/-
  C06 — the specification `ieeeRoundMag` evaluated in each regime (underflow, subnormal, normal,
  overflow), in terms of natural-number offsets from `qmin`.  The regimes are proved once, for the specification with
  any integer rounding `rd` of quotients that is `IsRound` (`ieeeRoundMagWith`, `with_*`); `spec_*` are the instances
  at `rneDiv`, and `ieeeRoundMagM_*` (Modes.lean) those at the rounding of each mode.
-/
namespace Dashu.Model.Conv

/-- well-formed format: at least 2 exponent bits, at least one mantissa bit -/
structure Ieee.Ok (F : Ieee) : Prop where
  hEB : 2 ≤ F.EB
  hMB : 1 ≤ F.MB

theorem Ieee.binary32_ok : Ieee.binary32.Ok := ⟨by decide, by decide⟩
theorem Ieee.binary64_ok : Ieee.binary64.Ok := ⟨by decide, by decide⟩

/-- `B = 2^(EB-1)`: bias + 1 -/
def Ieee.B (F : Ieee) : Nat := 2 ^ (F.EB - 1)

theorem Ieee.B_ge (F : Ieee) (h : F.Ok) : 2 ≤ F.B := by
  unfold Ieee.B
  have : 1 ≤ F.EB - 1 := by have := h.hEB; omega
  calc 2 = 2 ^ 1 := rfl
    _ ≤ 2 ^ (F.EB - 1) := Nat.pow_le_pow_right (by decide) this

theorem Ieee.two_B (F : Ieee) (h : F.Ok) : 2 ^ F.EB = 2 * F.B := by
  unfold Ieee.B
  have : F.EB = (F.EB - 1) + 1 := by have := h.hEB; omega
  conv_lhs => rw [this, pow_succ]
  ring

theorem Ieee.bias_eq (F : Ieee) : F.bias = (F.B : Int) - 1 := by
  unfold Ieee.bias Ieee.B; push_cast; rfl

theorem Ieee.qmin_eq (F : Ieee) : F.qmin = 2 - (F.B : Int) - F.MB := by
  unfold Ieee.qmin Ieee.emin; rw [F.bias_eq]; ring

theorem Ieee.emax_eq (F : Ieee) : F.emax + 1 = (F.B : Int) := by
  unfold Ieee.emax; rw [F.bias_eq]; ring

theorem Ieee.emin_eq (F : Ieee) : F.emin = F.qmin + F.MB := by
  unfold Ieee.qmin; ring

theorem Ieee.range_toNat (F : Ieee) (h : F.Ok) :
    (F.emax + 1 - F.qmin).toNat = 2 * F.B - 2 + F.MB := by
  rw [F.emax_eq, F.qmin_eq]
  have := F.B_ge h
  omega

theorem Ieee.infBits_eq (F : Ieee) (h : F.Ok) : F.infBits = (2 * F.B - 1) * 2 ^ F.MB := by
  unfold Ieee.infBits; rw [F.two_B h]

theorem infBits_lt_signBit (F : Ieee) (_hF : F.Ok) : F.infBits < F.signBit := by
  unfold Ieee.infBits Ieee.signBit
  rw [pow_add]
  have h1 : 0 < 2 ^ F.EB := Nat.two_pow_pos _
  exact Nat.mul_lt_mul_of_pos_right (by omega) (Nat.two_pow_pos _)

theorem rneDiv_bounds (num den : Nat) : num / den ≤ rneDiv num den ∧ rneDiv num den ≤ num / den + 1 := by
  unfold rneDiv; simp only; split_ifs <;> omega

theorem pow_lt_pow2 {m n : Nat} (h : m < n) : 2 ^ m < 2 ^ n := Nat.pow_lt_pow_right (by decide) h
theorem pow_le_pow2 {m n : Nat} (h : m ≤ n) : 2 ^ m ≤ 2 ^ n := Nat.pow_le_pow_right (by decide) h

/-! ### the specification with the integer rounding as a parameter

`ieeeRoundMag` and its mode-generic form differ only in how a quotient is rounded to an integer; the regimes
below need no more of that rounding than `IsRound`. -/

/-- an integer rounding of quotients: the quotient or its successor, and integers are left alone -/
structure IsRound (rd : Nat → Nat → Nat) : Prop where
  one : ∀ x, rd x 1 = x
  lo : ∀ num den, num / den ≤ rd num den
  hi : ∀ num den, rd num den ≤ num / den + 1

theorem rneDiv_isRound : IsRound rneDiv :=
  ⟨rneDiv_one, fun n d => (rneDiv_bounds n d).1, fun n d => (rneDiv_bounds n d).2⟩

/-- `ieeeRoundMag` with `rneDiv` replaced by `rd` -/
def ieeeRoundMagWith (rd : Nat → Nat → Nat) (F : Ieee) (a : Nat) (e : Int) : Nat × Flag :=
  let t : Int := (bitLen a : Int) + e
  let q : Int := max (t - F.prec) F.qmin
  let num := if q ≤ e then a * 2 ^ (e - q).toNat else a
  let den := if q ≤ e then 1 else 2 ^ (q - e).toNat
  let n := rd num den
  let units := n * 2 ^ (q - F.qmin).toNat
  if 2 ^ (F.emax + 1 - F.qmin).toNat ≤ units then (F.infBits, .pos)
  else ((q - F.qmin).toNat * 2 ^ F.MB + n, flagOf n den num)

/-- quantum exponent `qmin + w`, reached from above: the quotient is the integer `a·2^j` -/
theorem with_up {rd : Nat → Nat → Nat} (hr : IsRound rd) (F : Ieee) (h : F.Ok) (a j w : Nat) (e : Int)
    (hq : max ((bitLen a : Int) + e - F.prec) F.qmin = F.qmin + w) (he : e = F.qmin + w + j) :
    ieeeRoundMagWith rd F a e =
      if 2 ^ (2 * F.B - 2 + F.MB) ≤ a * 2 ^ j * 2 ^ w then (F.infBits, .pos)
      else (w * 2 ^ F.MB + a * 2 ^ j, .exact) := by
  have hqe : F.qmin + w ≤ e := by omega
  have hd : (e - (F.qmin + w)).toNat = j := by omega
  have hw' : (F.qmin + (w : Int) - F.qmin).toNat = w := by omega
  unfold ieeeRoundMagWith
  simp only [hq, hqe, if_true, hd, hw', hr.one, F.range_toNat h, flagOf_exact (Nat.mul_one _)]

/-- quantum exponent `qmin + w`, reached from below: `k ≥ 1` bits are discarded -/
theorem with_down (rd : Nat → Nat → Nat) (F : Ieee) (h : F.Ok) (a k w : Nat) (e : Int)
    (hq : max ((bitLen a : Int) + e - F.prec) F.qmin = F.qmin + w) (he : e + k = F.qmin + w) (hk : 1 ≤ k) :
    ieeeRoundMagWith rd F a e =
      if 2 ^ (2 * F.B - 2 + F.MB) ≤ rd a (2 ^ k) * 2 ^ w then (F.infBits, .pos)
      else (w * 2 ^ F.MB + rd a (2 ^ k), flagOf (rd a (2 ^ k)) (2 ^ k) a) := by
  have hqe : ¬ (F.qmin + w ≤ e) := by omega
  have hd : (F.qmin + w - e).toNat = k := by omega
  have hw' : (F.qmin + (w : Int) - F.qmin).toNat = w := by omega
  unfold ieeeRoundMagWith
  simp only [hq, hqe, if_false, hd, hw', F.range_toNat h]

theorem prec_lt_range (F : Ieee) (h : F.Ok) : 2 ^ F.prec < 2 ^ (2 * F.B - 2 + F.MB) := by
  have := F.B_ge h
  apply pow_lt_pow2; unfold Ieee.prec; omega

theorem mul_pow_lt_of_bitLen {a j n : Nat} (hL : bitLen a + j ≤ n) : a * 2 ^ j < 2 ^ n :=
  calc a * 2 ^ j < 2 ^ bitLen a * 2 ^ j := Nat.mul_lt_mul_of_pos_right bitLen_lt (Nat.two_pow_pos j)
    _ = 2 ^ (bitLen a + j) := by rw [pow_add]
    _ ≤ 2 ^ n := pow_le_pow2 hL

theorem div_pow_lt_of_bitLen {a k n : Nat} (hL : bitLen a ≤ n + k) : a / 2 ^ k < 2 ^ n := by
  rw [Nat.div_lt_iff_lt_mul (Nat.two_pow_pos k), ← pow_add]
  exact lt_of_lt_of_le bitLen_lt (pow_le_pow2 hL)

/-- quantum exponent at `qmin` and an integral quotient (`e ≥ qmin`) -/
theorem with_sub_exact {rd : Nat → Nat → Nat} (hr : IsRound rd) (F : Ieee) (h : F.Ok) (a j : Nat) (e : Int)
    (he : e = F.qmin + j) (hL : bitLen a + j ≤ F.prec) :
    ieeeRoundMagWith rd F a e = (a * 2 ^ j, .exact) := by
  have hn := mul_pow_lt_of_bitLen hL
  have hlim := prec_lt_range F h
  rw [with_up hr F h a j 0 e (by omega) (by omega), if_neg (by omega)]
  simp only [Nat.zero_mul, Nat.zero_add]

/-- quantum exponent at `qmin` and `k ≥ 1` discarded bits (`e < qmin`) -/
theorem with_sub_round {rd : Nat → Nat → Nat} (hr : IsRound rd) (F : Ieee) (h : F.Ok) (a k : Nat) (e : Int)
    (he : e + k = F.qmin) (hk : 1 ≤ k) (hL : bitLen a ≤ F.prec + k) :
    ieeeRoundMagWith rd F a e = (rd a (2 ^ k), flagOf (rd a (2 ^ k)) (2 ^ k) a) := by
  have hdiv := div_pow_lt_of_bitLen hL
  have hn := hr.hi a (2 ^ k)
  have hlim := prec_lt_range F h
  rw [with_down rd F h a k 0 e (by omega) (by omega) hk, if_neg (by omega)]
  simp only [Nat.zero_mul, Nat.zero_add]

/-- normal range, mantissa short enough to be exact -/
theorem with_norm_exact {rd : Nat → Nat → Nat} (hr : IsRound rd) (F : Ieee) (h : F.Ok) (a j w : Nat) (e : Int)
    (hL : bitLen a + j = F.prec) (ht : (bitLen a : Int) + e = F.qmin + F.prec + w)
    (hw : w + 3 ≤ 2 * F.B) :
    ieeeRoundMagWith rd F a e = (w * 2 ^ F.MB + a * 2 ^ j, .exact) := by
  have hlim : a * 2 ^ j * 2 ^ w < 2 ^ (2 * F.B - 2 + F.MB) :=
    calc a * 2 ^ j * 2 ^ w < 2 ^ F.prec * 2 ^ w :=
          Nat.mul_lt_mul_of_pos_right (mul_pow_lt_of_bitLen hL.le) (Nat.two_pow_pos w)
      _ = 2 ^ (F.prec + w) := by rw [pow_add]
      _ ≤ 2 ^ (2 * F.B - 2 + F.MB) := by apply pow_le_pow2; unfold Ieee.prec; omega
  rw [with_up hr F h a j w e (by omega) (by omega), if_neg (by omega)]

/-- normal range with `k ≥ 1` discarded bits; when the rounding carries out of the largest
    binade the same formula yields the bit pattern of infinity -/
theorem with_norm_round {rd : Nat → Nat → Nat} (hr : IsRound rd) (F : Ieee) (h : F.Ok) (a k w : Nat) (e : Int)
    (hL : bitLen a = F.prec + k) (hk : 1 ≤ k) (ht : (bitLen a : Int) + e = F.qmin + F.prec + w)
    (hw : w + 3 ≤ 2 * F.B) :
    ieeeRoundMagWith rd F a e = (w * 2 ^ F.MB + rd a (2 ^ k), flagOf (rd a (2 ^ k)) (2 ^ k) a) := by
  have hlt : a < 2 ^ (F.prec + k) := by rw [← hL]; exact bitLen_lt
  have hdiv := div_pow_lt_of_bitLen hL.le
  have hn := hr.hi a (2 ^ k)
  rw [with_down rd F h a k w e (by omega) (by omega) hk]
  generalize rd a (2 ^ k) = n at *
  split
  · -- only possible for n = 2^prec in the top binade
    rename_i hov
    have hB := F.B_ge h
    have hpw : 2 ^ F.prec * 2 ^ w = 2 ^ (F.prec + w) := by rw [pow_add]
    have hn2 : n = 2 ^ F.prec := by
      by_contra hne
      have := Nat.mul_lt_mul_of_pos_right (show n < 2 ^ F.prec by omega) (Nat.two_pow_pos w)
      have : 2 ^ (F.prec + w) ≤ 2 ^ (2 * F.B - 2 + F.MB) := by apply pow_le_pow2; unfold Ieee.prec; omega
      omega
    have hw2 : w = 2 * F.B - 3 := by
      by_contra hne
      have : 2 ^ (F.prec + w) < 2 ^ (2 * F.B - 2 + F.MB) := by apply pow_lt_pow2; unfold Ieee.prec; omega
      rw [hn2, hpw] at hov
      omega
    rw [hn2, F.infBits_eq h, flagOf_pos (by rw [← pow_add]; exact hlt)]
    refine Prod.ext ?_ rfl
    show (2 * F.B - 1) * 2 ^ F.MB = w * 2 ^ F.MB + 2 ^ (F.MB + 1)
    rw [pow_succ, hw2, show 2 * F.B - 1 = (2 * F.B - 3) + 2 by omega]; ring
  · rfl

/-- at or above `2^(emax+1)`: infinity, from above -/
theorem with_over {rd : Nat → Nat → Nat} (hr : IsRound rd) (F : Ieee) (h : F.Ok) (a : Nat) (e : Int)
    (ha : a ≠ 0) (ht : F.emax + 1 < (bitLen a : Int) + e) :
    ieeeRoundMagWith rd F a e = (F.infBits, .pos) := by
  have hB := F.B_ge h
  have hL1 := bitLen_pos ha
  rw [F.emax_eq] at ht
  have hqm := F.qmin_eq
  -- quantum exponent is t - prec = qmin + w
  obtain ⟨w, hw⟩ : ∃ w : Nat, (bitLen a : Int) + e = F.qmin + F.prec + w :=
    ⟨((bitLen a : Int) + e - F.qmin - F.prec).toNat, by unfold Ieee.prec; omega⟩
  have hwl : 2 * F.B - 2 ≤ w := by unfold Ieee.prec at hw; omega
  -- a significand of at least 2^(prec-1) overflows
  have key : ∀ n, 2 ^ (F.prec - 1) ≤ n → 2 ^ (2 * F.B - 2 + F.MB) ≤ n * 2 ^ w := fun n hge =>
    calc 2 ^ (2 * F.B - 2 + F.MB) ≤ 2 ^ (F.prec - 1 + w) := by
            apply pow_le_pow2; unfold Ieee.prec; omega
      _ = 2 ^ (F.prec - 1) * 2 ^ w := by rw [pow_add]
      _ ≤ n * 2 ^ w := Nat.mul_le_mul_right _ hge
  have hge : 2 ^ (bitLen a - 1) ≤ a := bitLen_le ha
  by_cases hqe : F.qmin + w ≤ e
  · obtain ⟨j, hj⟩ : ∃ j : Nat, bitLen a + j = F.prec := ⟨F.prec - bitLen a, by omega⟩
    rw [with_up hr F h a j w e (by omega) (by omega), if_pos]
    apply key
    calc 2 ^ (F.prec - 1) = 2 ^ (bitLen a - 1) * 2 ^ j := by rw [← pow_add]; congr 1; omega
      _ ≤ a * 2 ^ j := Nat.mul_le_mul_right _ hge
  · obtain ⟨k, hk⟩ : ∃ k : Nat, bitLen a = F.prec + k := ⟨bitLen a - F.prec, by omega⟩
    rw [with_down rd F h a k w e (by omega) (by omega) (by omega), if_pos]
    apply key
    refine le_trans ?_ (hr.lo a (2 ^ k))
    rw [Nat.le_div_iff_mul_le (Nat.two_pow_pos k), ← pow_add,
      show F.prec - 1 + k = bitLen a - 1 by unfold Ieee.prec at *; omega]
    exact hge

/-! ### `ieeeRoundMag` in each regime -/

/-- the spec with the quantum exponent at `qmin` and an integral quotient (`e ≥ qmin`) -/
theorem spec_sub_exact (F : Ieee) (h : F.Ok) (a j : Nat) (e : Int)
    (he : e = F.qmin + j) (hL : bitLen a + j ≤ F.prec) :
    ieeeRoundMag F a e = (a * 2 ^ j, .exact) :=
  with_sub_exact rneDiv_isRound F h a j e he hL

/-- the spec with the quantum exponent at `qmin` and `k ≥ 1` discarded bits (`e < qmin`) -/
theorem spec_sub_round (F : Ieee) (h : F.Ok) (a k : Nat) (e : Int)
    (he : e + k = F.qmin) (hk : 1 ≤ k) (hL : bitLen a ≤ F.prec + k) :
    ieeeRoundMag F a e = (rneDiv a (2 ^ k), flagOf (rneDiv a (2 ^ k)) (2 ^ k) a) :=
  with_sub_round rneDiv_isRound F h a k e he hk hL

/-- below half of the least subnormal everything rounds to zero, from below -/
theorem spec_under (F : Ieee) (h : F.Ok) (a : Nat) (e : Int) (ha : a ≠ 0)
    (ht : (bitLen a : Int) + e < F.qmin) :
    ieeeRoundMag F a e = (0, .neg) := by
  obtain ⟨k, hk⟩ : ∃ k : Nat, e + k = F.qmin := ⟨(F.qmin - e).toNat, by omega⟩
  have hk1 : bitLen a + 1 ≤ k := by omega
  rw [spec_sub_round F h a k e hk (by omega) (by omega)]
  have hlt : 2 * a < 2 ^ k := by
    calc 2 * a < 2 * 2 ^ bitLen a := by have := @bitLen_lt a; omega
      _ = 2 ^ (bitLen a + 1) := by rw [pow_succ]; ring
      _ ≤ 2 ^ k := pow_le_pow2 hk1
  have hm : a % 2 ^ k = a := Nat.mod_eq_of_lt (by omega)
  rw [rneDiv_of_lt (by omega), Nat.div_eq_of_lt (by omega), flagOf_neg (by omega)]

/-- normal range, mantissa short enough to be exact -/
theorem spec_norm_exact (F : Ieee) (h : F.Ok) (a j w : Nat) (e : Int)
    (hL : bitLen a + j = F.prec) (ht : (bitLen a : Int) + e = F.qmin + F.prec + w)
    (hw : w + 3 ≤ 2 * F.B) :
    ieeeRoundMag F a e = (w * 2 ^ F.MB + a * 2 ^ j, .exact) :=
  with_norm_exact rneDiv_isRound F h a j w e hL ht hw

/-- normal range with `k ≥ 1` discarded bits; when the rounding carries out of the largest
    binade the same formula yields the bit pattern of infinity -/
theorem spec_norm_round (F : Ieee) (h : F.Ok) (a k w : Nat) (e : Int)
    (hL : bitLen a = F.prec + k) (hk : 1 ≤ k) (ht : (bitLen a : Int) + e = F.qmin + F.prec + w)
    (hw : w + 3 ≤ 2 * F.B) :
    ieeeRoundMag F a e = (w * 2 ^ F.MB + rneDiv a (2 ^ k), flagOf (rneDiv a (2 ^ k)) (2 ^ k) a) :=
  with_norm_round rneDiv_isRound F h a k w e hL hk ht hw

/-- at or above `2^(emax+1)`: infinity, from above -/
theorem spec_over (F : Ieee) (h : F.Ok) (a : Nat) (e : Int) (ha : a ≠ 0)
    (ht : F.emax + 1 < (bitLen a : Int) + e) :
    ieeeRoundMag F a e = (F.infBits, .pos) :=
  with_over rneDiv_isRound F h a e ha ht

end Dashu.Model.Conv
