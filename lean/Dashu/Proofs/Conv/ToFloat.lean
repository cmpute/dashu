import Dashu.Model.Conv.ToFloat
import Dashu.Proofs.Float.Div
import Dashu.Proofs.Conv.FloatTo
/-
  C06 — `Repr::to_float` (`RBig::to_float`, `Relaxed::to_float`): the quotient stage, the first rounding, and the
  result against the rounding contract of C03 (`Dashu.Model.Float.Contract`) for the exact rational `num / den` when
  the rounded quotient fits the precision, so that the second rounding does nothing (`ratToFloat_contract_of_fits`;
  `fits_of_short` is a sufficient condition on the input).  When it does not fit, two roundings compose
  (ToFloatHalf.lean); `directed_compose` here is why they are one rounding in every directed mode.
  `new_int_value` serves `From<Repr> for FBig` (Props/C06).
-/
namespace Dashu.Model.Conv
open Dashu Dashu.Model Dashu.Model.Float Dashu.Props.GenRound

/-! ### the quotient stage -/

theorem natAbs_natCast_int (n : Nat) : ((n : Int)).natAbs = n := Int.natAbs_natCast n

/-- /repo 43925c0: below the saturation point of `precision.saturating_add(den_digits)` the regenerated
    decisions are the plain ones: `num_digits >= precision + den_digits`, `(precision + den_digits) - num_digits` -/
theorem to_float_decisions_unsaturated (nd dd p : Nat) (hov : p + dd < 2 ^ 64) :
    Dashu.Gen.ConvToFloat.to_float_no_shift nd dd p = decide (nd ≥ p + dd) ∧
    Dashu.Gen.ConvToFloat.to_float_shift nd dd p = (p + dd) - nd := by
  have e : Dashu.Gen.ConvToFloat.to_float_need_digits dd p = p + dd := by
    unfold Dashu.Gen.ConvToFloat.to_float_need_digits
    exact Nat.min_eq_left (by omega)
  unfold Dashu.Gen.ConvToFloat.to_float_no_shift Dashu.Gen.ConvToFloat.to_float_shift
  rw [e]
  exact ⟨rfl, rfl⟩

/-- `Repr::to_float`, quotient stage: `num·B^shift = q·den + r`, `|r| < den`, and the scaled quotient has at least
    `precision` digits (`den·B^(p-1) ≤ |num|·B^shift`).  `hov`: the digit sum does not saturate (`usize`; a saturated
    sum asks for a shift of `usize::MAX − num_digits` digits, which no allocation can hold). -/
theorem toFloatQuot_spec (B : Nat) (hB : 2 ≤ B) (num : Int) (den p : Nat) (hn : num ≠ 0) (hd : 0 < den) (hp : 1 ≤ p)
    (hov : p + ilogB B (den : Int) < 2 ^ 64) :
    num * ((B ^ (toFloatQuot B num den p).1 : Nat) : Int) =
        (toFloatQuot B num den p).2.1 * (den : Int) + (toFloatQuot B num den p).2.2 ∧
      |(toFloatQuot B num den p).2.2| < (den : Int) ∧
      den * B ^ (p - 1) ≤ num.natAbs * B ^ (toFloatQuot B num den p).1 := by
  have hB0 : 0 < B := by omega
  have hdi : ((den : Nat) : Int) ≠ 0 := by exact_mod_cast (Nat.pos_iff_ne_zero.mp hd)
  have hdabs : |((den : Nat) : Int)| = (den : Int) := abs_of_nonneg (Int.natCast_nonneg _)
  obtain ⟨hnlo, hnpos⟩ := digitsI_lower B hB num hn
  have hdup := digits_lt_pow B hB (den : Int).natAbs
  rw [natAbs_natCast_int] at hdup
  obtain ⟨_, hdpos⟩ := digitsI_lower B hB (den : Int) hdi
  -- den · B^(p-1) < B^(p - 1 + digits den)
  have hden_lt : den * B ^ (p - 1) < B ^ (p + (digitsI B (den : Int) - 1)) := by
    have e : p + (digitsI B (den : Int) - 1) = digitsI B (den : Int) + (p - 1) := by omega
    rw [e, Nat.pow_add]
    exact Nat.mul_lt_mul_of_pos_right hdup (Nat.pow_pos hB0)
  obtain ⟨hns, hsh⟩ := to_float_decisions_unsaturated (digitsI B num - 1) (digitsI B (den : Int) - 1) p
    (by unfold ilogB at hov; exact hov)
  unfold toFloatQuot ilogB
  simp only [hns, hsh]
  by_cases h : digitsI B num - 1 ≥ p + (digitsI B (den : Int) - 1)
  · simp only [h, decide_true, if_true]
    obtain ⟨hdec, hlt⟩ := tdiv_tmod_nz num (den : Int) hdi
    rw [hdabs] at hlt
    refine ⟨by simpa using hdec, hlt, ?_⟩
    have : B ^ (p + (digitsI B (den : Int) - 1)) ≤ B ^ (digitsI B num - 1) := Nat.pow_le_pow_right hB0 h
    simp only [Nat.pow_zero, Nat.mul_one]
    omega
  · simp only [h, decide_false, if_false, Bool.false_eq_true]
    have hn' : (if B = 2 then ishl num (p + (digitsI B (den : Int) - 1) - (digitsI B num - 1))
        else num * ((B ^ (p + (digitsI B (den : Int) - 1) - (digitsI B num - 1)) : Nat) : Int)) =
        num * ((B ^ (p + (digitsI B (den : Int) - 1) - (digitsI B num - 1)) : Nat) : Int) := by
      split
      · rename_i h2; subst h2; rfl
      · rfl
    rw [hn']
    obtain ⟨hdec, hlt⟩ := tdiv_tmod_nz (num * ((B ^ (p + (digitsI B (den : Int) - 1) - (digitsI B num - 1)) : Nat) : Int))
      (den : Int) hdi
    rw [hdabs] at hlt
    refine ⟨hdec, hlt, ?_⟩
    have e : B ^ (digitsI B num - 1) * B ^ (p + (digitsI B (den : Int) - 1) - (digitsI B num - 1)) =
        B ^ (p + (digitsI B (den : Int) - 1)) := by
      rw [← Nat.pow_add]; congr 1; omega
    have : B ^ (digitsI B num - 1) * B ^ (p + (digitsI B (den : Int) - 1) - (digitsI B num - 1)) ≤
        num.natAbs * B ^ (p + (digitsI B (den : Int) - 1) - (digitsI B num - 1)) :=
      Nat.mul_le_mul_right _ hnlo
    omega

/-! ### the first rounding -/

/-- `R::round_ratio(&q, r, den)` names the neighbour of `N / D` of the mode, and meets the integer contract -/
theorem toFloatFirst_spec (m : Float.Mode) (N D q r : Int) (hD : 0 < D) (hdec : N = q * D + r) (hlt : |r| < D)
    (hr : r ≠ 0) :
    ModeSpec m N D (q + rInt (roundRatio m q r D)) ∧
      IContract m D N ((q + rInt (roundRatio m q r D)) * D) (some (roundRatio m q r D)) := by
  have hspec := roundRatio_spec m q r D (ne_of_gt hD) hr (by rwa [abs_of_pos hD])
  rw [abs_of_pos hD, Int.sign_eq_one_of_pos hD, mul_one, ← hdec] at hspec
  refine ⟨hspec, ?_⟩
  have := icontract_of_spec m q r D hD hr hlt (roundRatio m q r D) (by rw [← hdec]; exact hspec)
  rw [← hdec] at this
  exact this

/-! ### values -/

theorem bpowQ_neg_nat (B : Nat) (_hB : 0 < B) (k : Nat) : bpowQ B (-(k : Int)) = 1 / ((B ^ k : Nat) : ℚ) := by
  rw [bpowQ_eq_zpow, zpow_neg, zpow_natCast]; push_cast; rw [one_div]

/-- `FBig >> shift` divides the value by `B^shift` -/
theorem fbigShr_value (B : Nat) (hB : 0 < B) (v : FRepr) (sh : Int) :
    (fbigShr v sh).toRat B = v.toRat B * bpowQ B (-sh) := by
  unfold fbigShr
  by_cases hz : v.isZero = true
  · simp only [hz, if_true]
    have : v.signif = 0 := by
      unfold FRepr.isZero at hz
      simp only [Bool.and_eq_true, beq_iff_eq] at hz
      exact hz.1
    unfold FRepr.toRat; rw [this]; simp
  · simp only [hz, if_false, Bool.false_eq_true]
    unfold FRepr.toRat
    simp only
    rw [show v.exp - sh = v.exp + -sh by ring, bpowQ_add B hB]; ring

/-- the rounding contract does not see a shift by a power of the base (`FBig >> shift`): the admissible unit moves with
    the value -/
theorem contract_shift (B : Nat) (hB : 0 < B) (m : Float.Mode) (p : Nat) (x r : ℚ) (fl : Option Rounding) (j : Int)
    (h : Contract B m p x r fl) : Contract B m p (x * bpowQ B j) (r * bpowQ B j) fl := by
  have hs := bpowQ_pos B hB j
  have habs : ∀ y : ℚ, absQ (y * bpowQ B j) = absQ y * bpowQ B j := fun y => by
    rw [absQ_eq, absQ_eq, abs_mul, abs_of_pos hs]
  refine ⟨?_, ?_, ?_, fun hf => mul_lt_mul_of_pos_right (h.addOne hf) hs,
    fun hf => mul_lt_mul_of_pos_right (h.subOne hf) hs⟩
  · rw [h.exact_iff]
    exact ⟨fun e => by rw [e], fun e => mul_right_cancel₀ (ne_of_gt hs) e⟩
  · intro hrx
    obtain ⟨e, h1, h2, t, ht⟩ := h.err (fun e => hrx (by rw [e]))
    refine ⟨e + j, ?_, ?_, t, by rw [ht, mul_assoc, ← bpowQ_add B hB]⟩
    · rw [show e + j + (p : Int) - 1 = (e + p - 1) + j by ring, bpowQ_add B hB, habs]
      exact mul_le_mul_of_nonneg_right h1 hs.le
    · unfold errOk at h2 ⊢
      rw [← sub_mul, habs, bpowQ_add B hB]
      by_cases hm : m.isHalf = true
      · rw [if_pos hm] at h2 ⊢
        rw [← mul_assoc]; exact mul_le_mul_of_nonneg_right h2 hs.le
      · rw [if_neg hm] at h2 ⊢
        exact mul_lt_mul_of_pos_right h2 hs
  · have hside := h.side
    unfold sideOk at hside ⊢
    cases m <;> simp only [habs] at hside ⊢
    · exact mul_le_mul_of_nonneg_right hside hs.le
    · exact mul_le_mul_of_nonneg_right hside hs.le
    · exact mul_le_mul_of_nonneg_right hside hs.le
    · exact mul_le_mul_of_nonneg_right hside hs.le

/-- the first-rounded quotient, as the model computes it -/
def toFloatN1 (B : Nat) (m : Float.Mode) (num : Int) (den p : Nat) : Int :=
  (toFloatFirst m den (toFloatQuot B num den p).2.1 (toFloatQuot B num den p).2.2).1

/-- **`RBig::to_float` is ONE correct rounding whenever the first-rounded quotient fits the precision** (after
    `Repr::new` stripped its trailing zero digits): every base `≥ 2`, every mode, every non-zero rational, every
    precision `≥ 1` below the `usize` overflow; the result meets the rounding contract of C03 for the exact value
    `num / den` — error below one unit (half a unit for the nearest modes) of the last of `p` digits, the side
    condition of the directed modes, `Exact` iff nothing was lost, `AddOne`/`SubOne` only when the result is
    above/below the exact value. -/
theorem ratToFloat_contract_of_fits (B : Nat) (hB : 2 ≤ B) (m : Float.Mode) (c : Coarse) (num : Int) (den p : Nat)
    (hn : num ≠ 0) (hd : 0 < den) (hp : 1 ≤ p) (hov : p + ilogB B (den : Int) < 2 ^ 64)
    (hfit : (FRepr.new B (toFloatN1 B m num den p) 0).digits B ≤ p) :
    ∃ r, ratToFloat B m c num den p = .ok r ∧
      Contract B m p ((num : ℚ) / (den : ℚ)) (r.1.toRat B) r.2 := by
  have hB0 : 0 < B := by omega
  have hp0 : p ≠ 0 := by omega
  obtain ⟨hdec, hlt, hulp⟩ := toFloatQuot_spec B hB num den p hn hd hp hov
  unfold toFloatN1 at hfit
  unfold ratToFloat
  simp only [hp0, hn, if_false]
  rw [reprRound_exact_of_fits B m c p _ hfit]
  refine ⟨_, rfl, ?_⟩
  simp only [andThenFlag]
  rw [fbigShr_value B hB0, FRepr.new_value B hB0]
  generalize toFloatQuot B num den p = t at *
  have hD : (0 : Int) < (den : Int) := by exact_mod_cast hd
  have hDq : ((den : Nat) : ℚ) ≠ 0 := by exact_mod_cast (Nat.pos_iff_ne_zero.mp hd)
  have hPq : (((B ^ t.1 : Nat) : Nat) : ℚ) ≠ 0 := by
    have : 0 < B ^ t.1 := Nat.pow_pos hB0
    exact_mod_cast (Nat.pos_iff_ne_zero.mp this)
  have hdecq : (num : ℚ) * ((B ^ t.1 : Nat) : ℚ) = (t.2.1 : ℚ) * (den : ℚ) + (t.2.2 : ℚ) := by exact_mod_cast hdec
  have hb0 : bpowQ B 0 = 1 := by rw [bpowQ_eq_zpow]; simp
  rw [bpowQ_neg_nat B hB0, hb0, mul_one]
  unfold toFloatFirst
  by_cases hr : t.2.2 = 0
  · simp only [hr, if_true]
    have : (num : ℚ) / (den : ℚ) = (t.2.1 : ℚ) * (1 / ((B ^ t.1 : Nat) : ℚ)) := by
      rw [hr] at hdecq
      simp only [Int.cast_zero, add_zero] at hdecq
      field_simp
      linarith
    rw [this]
    exact contract_exact B m p _
  · simp only [hr, if_false]
    obtain ⟨_, hic⟩ := toFloatFirst_spec m _ (den : Int) t.2.1 t.2.2 hD hdec hlt hr
    have hu : (0 : ℚ) < 1 / ((den : ℚ) * ((B ^ t.1 : Nat) : ℚ)) := by
      apply div_pos one_pos
      apply mul_pos
      · exact_mod_cast hd
      · have : 0 < B ^ t.1 := Nat.pow_pos hB0
        exact_mod_cast this
    have hunit : (((den : Nat) : Int) : ℚ) * (1 / ((den : ℚ) * ((B ^ t.1 : Nat) : ℚ))) = bpowQ B (-(t.1 : Int)) := by
      rw [bpowQ_neg_nat B hB0]
      push_cast
      field_simp
    have hulp' : ((den : Nat) : Int) * ((B ^ (p - 1) : Nat) : Int) ≤ |num * ((B ^ t.1 : Nat) : Int)| := by
      rw [abs_mul, abs_of_nonneg (Int.natCast_nonneg (B ^ t.1)), ← Int.natCast_natAbs num]
      exact_mod_cast hulp
    have key := contract_of_icontract' B hB m p hp _ _ _ hD _ _ hu (-(t.1 : Int)) hunit hic ⟨_, rfl⟩ hulp'
    have hv1 : ((num * ((B ^ t.1 : Nat) : Int) : Int) : ℚ) * (1 / ((den : ℚ) * ((B ^ t.1 : Nat) : ℚ))) = (num : ℚ) / (den : ℚ) := by
      push_cast
      field_simp
    have hv2 : (((t.2.1 + rInt (roundRatio m t.2.1 t.2.2 (den : Int))) * ((den : Nat) : Int) : Int) : ℚ) *
        (1 / ((den : ℚ) * ((B ^ t.1 : Nat) : ℚ))) =
        ((t.2.1 + rInt (roundRatio m t.2.1 t.2.2 (den : Int)) : Int) : ℚ) * (1 / ((B ^ t.1 : Nat) : ℚ)) := by
      push_cast
      field_simp
    rw [hv1, hv2] at key
    exact key

/-! ### directed modes: the second rounding composes with the first -/

theorem floor_floor (N D n1 M n2 : Int) (hD : 0 < D) (_hM : 0 < M) (h1 : IsFloor N D n1) (h2 : IsFloor n1 M n2) :
    IsFloor N (D * M) n2 := by
  unfold IsFloor at *
  have a : n2 * M * D ≤ n1 * D := mul_le_mul_of_nonneg_right h2.1 (le_of_lt hD)
  have b : (n1 + 1) * D ≤ (n2 + 1) * M * D := mul_le_mul_of_nonneg_right (Int.add_one_le_iff.mpr h2.2) (le_of_lt hD)
  constructor
  · calc n2 * (D * M) = n2 * M * D := by ring
      _ ≤ n1 * D := a
      _ ≤ N := h1.1
  · calc N < (n1 + 1) * D := h1.2
      _ ≤ (n2 + 1) * M * D := b
      _ = (n2 + 1) * (D * M) := by ring

theorem ceil_ceil (N D n1 M n2 : Int) (hD : 0 < D) (_hM : 0 < M) (h1 : IsCeil N D n1) (h2 : IsCeil n1 M n2) :
    IsCeil N (D * M) n2 := by
  unfold IsCeil at *
  have a : n1 * D ≤ n2 * M * D := mul_le_mul_of_nonneg_right h2.2 (le_of_lt hD)
  have b : (n2 - 1) * M * D ≤ (n1 - 1) * D := by
    apply mul_le_mul_of_nonneg_right _ (le_of_lt hD)
    have := h2.1
    omega
  constructor
  · calc (n2 - 1) * (D * M) = (n2 - 1) * M * D := by ring
      _ ≤ (n1 - 1) * D := b
      _ < N := h1.1
  · calc N ≤ n1 * D := h1.2
      _ ≤ n2 * M * D := a
      _ = n2 * (D * M) := by ring

/-- the four directed modes -/
def Directed : Float.Mode → Prop
  | .zero | .away | .up | .down => True
  | _ => False

/-- **two roundings in the same directed mode are one rounding in that mode** (onto the coarser grid), provided
    the intermediate value kept the sign of the exact one -/
theorem directed_compose (m : Float.Mode) (hm : Directed m) (N D n1 M n2 : Int) (hD : 0 < D) (hM : 0 < M)
    (h1 : ModeSpec m N D n1) (h2 : ModeSpec m n1 M n2) (hs : 0 ≤ N ↔ 0 ≤ n1) : ModeSpec m N (D * M) n2 := by
  cases m <;> simp only [Directed] at hm <;> simp only [ModeSpec, IsTowardZero, IsAwayFromZero] at *
  · by_cases hN : 0 ≤ N
    · have := hs.mp hN
      simp only [hN, this, if_true] at *
      exact floor_floor N D n1 M n2 hD hM h1 h2
    · have : ¬ 0 ≤ n1 := fun h => hN (hs.mpr h)
      simp only [hN, this, if_false] at *
      exact ceil_ceil N D n1 M n2 hD hM h1 h2
  · by_cases hN : 0 ≤ N
    · have := hs.mp hN
      simp only [hN, this, if_true] at *
      exact ceil_ceil N D n1 M n2 hD hM h1 h2
    · have : ¬ 0 ≤ n1 := fun h => hN (hs.mpr h)
      simp only [hN, this, if_false] at *
      exact floor_floor N D n1 M n2 hD hM h1 h2
  · exact ceil_ceil N D n1 M n2 hD hM h1 h2
  · exact floor_floor N D n1 M n2 hD hM h1 h2

theorem lift_gt (s K E n1 D N n2 : Int) (hE : 1 ≤ E) (hD : 0 < D) (hn1 : n1 = s * E) (h : s < n2 * K)
    (hN : N < (n1 + 1) * D) : N < n2 * (D * (K * E)) := by
  have a : (s + 1) * E ≤ n2 * K * E := mul_le_mul_of_nonneg_right (Int.add_one_le_iff.mpr h) (by omega)
  have b : (s + 1) * E = n1 + E := by rw [hn1]; ring
  have c : n1 + 1 ≤ n2 * K * E := by omega
  have d : (n1 + 1) * D ≤ n2 * K * E * D := mul_le_mul_of_nonneg_right c (le_of_lt hD)
  calc N < (n1 + 1) * D := hN
    _ ≤ n2 * K * E * D := d
    _ = n2 * (D * (K * E)) := by ring

theorem lift_lt (s K E n1 D N n2 : Int) (hE : 1 ≤ E) (hD : 0 < D) (hn1 : n1 = s * E) (h : n2 * K < s)
    (hN : (n1 - 1) * D < N) : n2 * (D * (K * E)) < N := by
  have a : n2 * K * E ≤ (s - 1) * E := mul_le_mul_of_nonneg_right (by omega) (by omega)
  have b : (s - 1) * E = n1 - E := by rw [hn1]; ring
  have c : n2 * K * E ≤ n1 - 1 := by omega
  have d : n2 * K * E * D ≤ (n1 - 1) * D := mul_le_mul_of_nonneg_right c (le_of_lt hD)
  calc n2 * (D * (K * E)) = n2 * K * E * D := by ring
    _ ≤ (n1 - 1) * D := d
    _ < N := hN

/-! ### `Repr::new(n, 0)` denotes `n` (`From<UBig | IBig> for FBig`; `From<Repr> for FBig` divides two such floats) -/

theorem new_int_value (B : Nat) (hB : 0 < B) (n : Int) : (FRepr.new B n 0).toRat B = (n : ℚ) := by
  rw [FRepr.new_value B hB]
  have : bpowQ B 0 = 1 := by rw [bpowQ_eq_zpow]; simp
  rw [this, mul_one]

/-! ### an input-level sufficient condition for "fits" -/

theorem toFloatQuot_quot_le (B : Nat) (num : Int) (den p : Nat) :
    (toFloatQuot B num den p).2.1.natAbs * den ≤ num.natAbs * B ^ (toFloatQuot B num den p).1 := by
  have hn' : ∀ sh : Nat, (if B = 2 then ishl num sh else num * ((B ^ sh : Nat) : Int)) = num * ((B ^ sh : Nat) : Int) := by
    intro sh
    split
    · rename_i h2; subst h2; rfl
    · rfl
  unfold toFloatQuot
  simp only [hn']
  by_cases h : Dashu.Gen.ConvToFloat.to_float_no_shift (ilogB B num) (ilogB B (den : Int)) p = true
  · simp only [h, if_true]
    have := natAbs_tdiv_mul_le num (den : Int)
    rw [natAbs_natCast_int] at this
    simpa using this
  · simp only [h, if_false, Bool.false_eq_true]
    have := natAbs_tdiv_mul_le (num * ((B ^ (Dashu.Gen.ConvToFloat.to_float_shift (ilogB B num) (ilogB B (den : Int)) p) : Nat) : Int)) (den : Int)
    rw [natAbs_natCast_int, Int.natAbs_mul, natAbs_natCast_int] at this
    exact this

/-- when the scaled quotient is below `B^p` (it has exactly `p` digits) the first-rounded quotient fits the precision -/
theorem fits_of_short (B : Nat) (hB : 2 ≤ B) (m : Float.Mode) (num : Int) (den p : Nat) (hd : 0 < den) (hp : 1 ≤ p)
    (hshort : num.natAbs * B ^ (toFloatQuot B num den p).1 < den * B ^ p) :
    (FRepr.new B (toFloatN1 B m num den p) 0).digits B ≤ p := by
  have hB0 : 0 < B := by omega
  have hq := toFloatQuot_quot_le B num den p
  unfold toFloatN1
  generalize toFloatQuot B num den p = t at *
  have hq1 : t.2.1.natAbs < B ^ p := by
    have : t.2.1.natAbs * den < B ^ p * den := by rw [Nat.mul_comm (B ^ p)]; omega
    exact Nat.lt_of_mul_lt_mul_right this
  have hn1 : (toFloatFirst m den t.2.1 t.2.2).1.natAbs ≤ B ^ p := by
    unfold toFloatFirst
    split
    · simp only; omega
    · simp only
      cases roundRatio m t.2.1 t.2.2 (den : Int) <;> simp only [rInt] <;> omega
  generalize (toFloatFirst m den t.2.1 t.2.2).1 = n1 at *
  by_cases h0 : n1 = 0
  · subst h0
    have : FRepr.new B 0 0 = ⟨0, 0⟩ := by simp [FRepr.new]
    rw [this]; unfold FRepr.digits; simp [digitsI_zero]
  obtain ⟨z, hz1, _⟩ := new_decomp B n1 0 h0
  have hnorm := FRepr.new_normalized B hB n1 0
  generalize FRepr.new B n1 0 = v0 at *
  have hs0 : v0.signif ≠ 0 := by
    intro h; rw [h, zero_mul] at hz1; exact h0 hz1
  have hsm : v0.signif % (B : Int) ≠ 0 := by
    rcases hnorm with h | h
    · exact absurd h hs0
    · exact h
  -- |s| ≤ |n1|
  have hle : v0.signif.natAbs ≤ n1.natAbs := by
    rw [hz1, Int.natAbs_mul]
    have : 0 < ((B : Int) ^ z).natAbs := by
      apply Int.natAbs_pos.mpr
      have : (0 : Int) < (B : Int) := by exact_mod_cast hB0
      exact ne_of_gt (pow_pos this z)
    exact Nat.le_mul_of_pos_right _ this
  have hne : v0.signif.natAbs ≠ B ^ p := by
    intro he
    apply hsm
    have hdv : (B : Int) ∣ ((v0.signif.natAbs : Nat) : Int) := by
      rw [he, show p = (p - 1) + 1 by omega, Nat.pow_succ]; push_cast
      exact Dvd.intro_left _ rfl
    rw [Int.natCast_natAbs] at hdv
    exact Int.emod_eq_zero_of_dvd ((dvd_abs _ _).mp hdv)
  have hlt : v0.signif.natAbs < B ^ p := by omega
  obtain ⟨hlo, _⟩ := digitsI_lower B hB v0.signif hs0
  unfold FRepr.digits
  by_contra hc
  have : B ^ p ≤ B ^ (digitsI B v0.signif - 1) := Nat.pow_le_pow_right hB0 (by omega)
  omega

end Dashu.Model.Conv
