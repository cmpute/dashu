import Dashu.Proofs.Conv.Encode
import Dashu.Proofs.Conv.RatSpec
/-
  C06 — integers to floats: correctness of `to_f32/to_f64` of big integers from `encodeFixed_correct` and the
  sticky-bit lemma `sticky_round` (RatSpec.lean).
-/
namespace Dashu.Model.Conv

theorem ieeeRound_nonneg (F : Ieee) (x : Nat) (e : Int) (hx : x ≠ 0) :
    ieeeRound F (x : Int) e = ieeeRoundMag F x e := by
  unfold ieeeRound
  have hn : ¬ ((x : Int) < 0) := by omega
  simp [hx, hn, Flag.flipIf]

/-- `to_f64_nontrivial` / `to_f32_nontrivial` with a correct `encode`: the IEEE rounding of the integer -/
theorem toFloatNontrivial_correct (c : EncConsts) (F : Ieee) (hc : Compatible c F) (limit topBits : Nat) (x : Nat)
    (hlimit : (limit : Int) = F.emax + 1) (htb : topBits + 1 = c.N) (hprec : F.prec + 2 ≤ topBits)
    (hx : topBits < bitLen x) :
    toFloatNontrivial (encodeFixed c) c.inf limit topBits x = .ok (ieeeRound F (x : Int) 0) := by
  have hF := hc.ok
  have hx0 : x ≠ 0 := by
    intro h; subst h
    have hz : bitLen 0 = 0 := rfl
    rw [hz] at hx; omega
  unfold toFloatNontrivial
  simp only
  rw [ieeeRound_nonneg F x 0 hx0]
  by_cases hbig : bitLen x > limit
  · simp only [hbig, if_true]
    rw [spec_over F hF x 0 hx0 (by omega), hc.inf]
  · simp only [hbig, if_false]
    obtain ⟨s, hs⟩ : ∃ s, bitLen x = topBits + s := ⟨bitLen x - topBits, by omega⟩
    have hs1 : 1 ≤ s := by omega
    have hsub : bitLen x - topBits = s := by omega
    rw [hsub, Nat.shiftRight_eq_div_pow]
    have hbl := bitLen_or_bit (x / 2 ^ s) (if x % 2 ^ s ≠ 0 then 1 else 0) (by split <;> decide)
      (le_trans (show 2 ^ 1 ≤ 2 ^ (topBits - 1) from pow_le_pow2 (by have := hc.ok.hMB; unfold Ieee.prec at hprec; omega))
        (by rw [Nat.le_div_iff_mul_le (Nat.two_pow_pos s), ← pow_add, show topBits - 1 + s = bitLen x - 1 by omega]
            exact bitLen_le hx0))
    rw [bitLen_div_pow x s (by omega)] at hbl
    generalize hmdef : (x / 2 ^ s) ||| (if x % 2 ^ s ≠ 0 then 1 else 0) = m at hbl
    have hm0 : m ≠ 0 := by
      intro h0
      have hz : bitLen 0 = 0 := rfl
      rw [h0, hz] at hbl; omega
    have hmlt : m < 2 ^ topBits := by
      have h := @bitLen_lt m
      rw [hbl, show bitLen x - s = topBits by omega] at h
      exact h
    have hfit : (m : Int).natAbs ≤ 2 ^ (c.N - 1) := by
      have : c.N - 1 = topBits := by omega
      rw [this]; simp; omega
    rw [encodeFixed_correct c F hc (m : Int) (s : Int) hfit, ieeeRound_nonneg F m s hm0]
    have := sticky_round F x s 0 hx0 (by omega)
    rw [hmdef] at this
    simp only [Int.zero_add] at this
    rw [this]

end Dashu.Model.Conv
