import Dashu.Proofs.Conv.FloatTo
/-
  C06 — `RBig::to_f32_fast / to_f64_fast` (rational/src/convert.rs): the truncated operands (`fastNum`, `fastDen`,
  each within one unit of the scaled exact operand: `trunc_bounds`), the error of their rounded quotient
  (`quotient_error`: below 4.5 units in its last place) and the normal form of the conversion (`ratToFloatFast_main`:
  `encode` then rounds that quotient correctly, `encodeFixed_correct`).  `Props.C06.rbig_to_float_fast_quotient_bound`
  puts them together: this is the bounded error the method promises — the doc comment's "off by one bit" is too
  optimistic: 2 and 3 units are observed.
-/
namespace Dashu.Model.Conv
open Dashu.Model Dashu.Model.Float

/-- the rounding written out in `to_fNN_fast` is `rneDiv` -/
theorem fast_round_eq (N D : Nat) :
    (if D < 2 * (N % D) ∨ (2 * (N % D) = D ∧ N / D % 2 = 1) then N / D + 1 else N / D) = rneDiv N D := by
  unfold rneDiv
  simp only
  split_ifs <;> first | rfl | omega

/-- abstract error bound: `u ∈ (N-1, N+1)`, `w ∈ [D, D+1)`, `m` nearest to `N/D`, `N ≤ 4·D²` ⇒
    `|m - u/w| < 9/2` -/
theorem quotient_error (N D m : Nat) (u w : ℚ) (hD : 0 < D) (hN : N ≤ 4 * D * D)
    (hu1 : (N : ℚ) - 1 < u) (hu2 : u < (N : ℚ) + 1) (hw1 : (D : ℚ) ≤ w) (hw2 : w < (D : ℚ) + 1)
    (hm1 : 2 * (m * D) ≤ 2 * N + D) (hm2 : 2 * N ≤ 2 * (m * D) + D) :
    |(m : ℚ) - u / w| < 9 / 2 := by
  have hDq : (0 : ℚ) < D := by exact_mod_cast hD
  have hD1 : (1 : ℚ) ≤ D := by exact_mod_cast hD
  have hwpos : 0 < w := lt_of_lt_of_le hDq hw1
  have hm0 : (0 : ℚ) ≤ m := Nat.cast_nonneg m
  have hm1q : 2 * ((m : ℚ) * D) ≤ 2 * N + D := by exact_mod_cast hm1
  have hm2q : 2 * (N : ℚ) ≤ 2 * ((m : ℚ) * D) + D := by exact_mod_cast hm2
  have hNq : (N : ℚ) ≤ 4 * D * D := by exact_mod_cast hN
  have hmD : (m : ℚ) ≤ 4 * D + 1 / 2 :=
    le_of_mul_le_mul_right (by linarith : (m : ℚ) * D ≤ (4 * D + 1 / 2) * D) hDq
  -- clear the quotient; each side then needs one product of two of the given signs
  rw [abs_lt]
  constructor
  · rw [neg_lt_sub_iff_lt_add, div_lt_iff₀ hwpos]
    have := mul_nonneg (by linarith : (0 : ℚ) ≤ m + 9 / 2) (sub_nonneg.mpr hw1)
    linarith
  · rw [sub_lt_comm, lt_div_iff₀ hwpos]
    rcases le_total (m : ℚ) (9 / 2) with h | h
    · have := mul_nonneg (sub_nonneg.mpr h) (sub_nonneg.mpr hw1)
      linarith
    · have := mul_nonneg (sub_nonneg.mpr h) (by linarith : (0 : ℚ) ≤ D + 1 - w)
      linarith

/-- truncated numerator of `to_fNN_fast` (`2p` bits; a negative numerator is floored by the `IBig` shift,
    i.e. its magnitude is rounded up) -/
def fastNum (p a : Nat) (neg : Bool) : Nat :=
  let numShift : Int := (bitLen a : Int) - 2 * p
  if numShift ≥ 0 then (a >>> numShift.toNat) + (if neg ∧ a % 2 ^ numShift.toNat ≠ 0 then 1 else 0)
  else a <<< (-numShift).toNat

/-- truncated denominator (`p` bits) -/
def fastDen (p den : Nat) : Nat :=
  let denShift : Int := (bitLen den : Int) - p
  if denShift ≥ 0 then den >>> denShift.toNat else den <<< (-denShift).toNat

def fastExp (p a den : Nat) : Int := ((bitLen a : Int) - 2 * p) - ((bitLen den : Int) - p)

theorem two_zpow (e : Int) : bpowQ 2 e = (2 : ℚ) ^ e := by
  have := bpowQ_eq_zpow 2 e; simpa using this

/-- truncation of `x ≠ 0` to `t` bits, which both operands of `to_fNN_fast` undergo: the shifted value is the
    floor of `x / 2^s`, `s = bitLen x - t` (below it exactly when bits are lost), and has `t` bits -/
theorem trunc_bounds (t x : Nat) (hx : x ≠ 0) (s : Int) (hst : (bitLen x : Int) = s + t) :
    let v := if s ≥ 0 then x >>> s.toNat else x <<< (-s).toNat
    (v : ℚ) ≤ (x : ℚ) / (2 : ℚ) ^ s ∧ (x : ℚ) / (2 : ℚ) ^ s < (v : ℚ) + 1 ∧
      (x % 2 ^ s.toNat ≠ 0 → (v : ℚ) < (x : ℚ) / (2 : ℚ) ^ s) ∧ (1 ≤ t → 2 ^ (t - 1) ≤ v) ∧ v < 2 ^ t := by
  have hle := bitLen_le hx
  have hL := bitLen_pos hx
  by_cases hs : s ≥ 0
  · obtain ⟨k, rfl⟩ : ∃ k : Nat, s = k := ⟨s.toNat, by omega⟩
    simp only [hs, if_true, Int.toNat_natCast, Nat.shiftRight_eq_div_pow, zpow_natCast]
    have hpos : (0 : ℚ) < (2 : ℚ) ^ k := by positivity
    have hcast : (x : ℚ) = (2 : ℚ) ^ k * ((x / 2 ^ k : Nat) : ℚ) + ((x % 2 ^ k : Nat) : ℚ) := by
      exact_mod_cast (Nat.div_add_mod x (2 ^ k)).symm
    have hrq : ((x % 2 ^ k : Nat) : ℚ) < (2 : ℚ) ^ k := by
      exact_mod_cast Nat.mod_lt x (Nat.two_pow_pos k)
    have hr0 : (0 : ℚ) ≤ ((x % 2 ^ k : Nat) : ℚ) := by positivity
    refine ⟨?_, ?_, fun hr => ?_, fun ht => ?_, div_pow_lt_of_bitLen (by omega)⟩
    · rw [le_div_iff₀ hpos]; linarith
    · rw [div_lt_iff₀ hpos]; linarith
    · have : (0 : ℚ) < ((x % 2 ^ k : Nat) : ℚ) := by exact_mod_cast Nat.pos_of_ne_zero hr
      rw [lt_div_iff₀ hpos]; linarith
    · rw [Nat.le_div_iff_mul_le (Nat.two_pow_pos _), ← pow_add, show t - 1 + k = bitLen x - 1 by omega]
      exact hle
  · obtain ⟨k, rfl⟩ : ∃ k : Nat, s = -(k : Int) := ⟨(-s).toNat, by omega⟩
    have hval : (x : ℚ) / (2 : ℚ) ^ (-(k : Int)) = ((x * 2 ^ k : Nat) : ℚ) := by
      rw [zpow_neg, zpow_natCast]; push_cast; field_simp
    have h0 : (-(k : Int)).toNat = 0 := by omega
    simp only [hs, if_false, neg_neg, Int.toNat_natCast, Nat.shiftLeft_eq, hval, h0, pow_zero, Nat.mod_one]
    refine ⟨le_refl _, by linarith, fun hr => absurd rfl hr, fun ht => ?_, mul_pow_lt_of_bitLen (by omega)⟩
    calc 2 ^ (t - 1) = 2 ^ (bitLen x - 1) * 2 ^ k := by rw [← pow_add]; congr 1; omega
      _ ≤ x * 2 ^ k := Nat.mul_le_mul_right _ hle

theorem fastNum_bounds (p a : Nat) (neg : Bool) (ha : a ≠ 0) :
    ((fastNum p a neg : ℚ) - 1 < (a : ℚ) / (2 : ℚ) ^ ((bitLen a : Int) - 2 * p)) ∧
    ((a : ℚ) / (2 : ℚ) ^ ((bitLen a : Int) - 2 * p) < (fastNum p a neg : ℚ) + 1) ∧
    fastNum p a neg ≤ 2 ^ (2 * p) := by
  obtain ⟨h1, h2, h3, -, h5⟩ := trunc_bounds (2 * p) a ha ((bitLen a : Int) - 2 * p) (by push_cast; ring)
  unfold fastNum
  simp only at h1 h2 h3 h5 ⊢
  by_cases hs : (bitLen a : Int) - 2 * p ≥ 0
  · simp only [hs, if_true] at h1 h2 h3 h5 ⊢
    -- a negative numerator with bits lost is rounded up in magnitude
    by_cases hadj : neg = true ∧ a % 2 ^ ((bitLen a : Int) - 2 * p).toNat ≠ 0
    · have := h3 hadj.2
      rw [if_pos hadj]; push_cast
      exact ⟨by linarith, by linarith, h5⟩
    · rw [if_neg hadj, Nat.add_zero]
      exact ⟨by linarith, by linarith, h5.le⟩
  · simp only [hs, if_false] at h1 h2 h5 ⊢
    exact ⟨by linarith, by linarith, h5.le⟩

theorem fastDen_bounds (p den : Nat) (hp : 1 ≤ p) (hd : den ≠ 0) :
    ((fastDen p den : ℚ) ≤ (den : ℚ) / (2 : ℚ) ^ ((bitLen den : Int) - p)) ∧
    ((den : ℚ) / (2 : ℚ) ^ ((bitLen den : Int) - p) < (fastDen p den : ℚ) + 1) ∧
    2 ^ (p - 1) ≤ fastDen p den :=
  have ⟨h1, h2, _, h4, _⟩ := trunc_bounds p den hd ((bitLen den : Int) - p) (by ring)
  ⟨h1, h2, h4 hp⟩

/-- `to_fNN_fast` outside its two early exits: the bits are the (correct) IEEE rounding of
    `±m'·2^x` with `m' = rneDiv (fastNum) (fastDen)`, `x = fastExp` -/
theorem ratToFloatFast_main (c : RatConsts) (ec : EncConsts) (h : RatCompat c ec) (num : Int) (den : Nat)
    (hnum : num ≠ 0) (hden : den ≠ 0)
    (h1 : ¬ (fastExp c.prec num.natAbs den ≥ c.infShift))
    (h2 : ¬ (fastExp c.prec num.natAbs den < c.zeroShift - (if c.prec = 53 then 1 else 0))) :
    ratToFloatFast c (encodeFixed ec) num den =
      .ok (ieeeRound c.F
        (if decide (num < 0) then -((rneDiv (fastNum c.prec num.natAbs (decide (num < 0))) (fastDen c.prec den) : Nat) : Int)
         else ((rneDiv (fastNum c.prec num.natAbs (decide (num < 0))) (fastDen c.prec den) : Nat) : Int))
        (fastExp c.prec num.natAbs den)).1 := by
  have hp : 1 ≤ c.prec := by rw [h.prec]; unfold Ieee.prec; omega
  have ha : num.natAbs ≠ 0 := by omega
  obtain ⟨_, _, hN⟩ := fastNum_bounds c.prec num.natAbs (decide (num < 0)) ha
  obtain ⟨_, _, hDlo⟩ := fastDen_bounds c.prec den hp hden
  have hDpos : 0 < fastDen c.prec den := lt_of_lt_of_le (Nat.two_pow_pos _) hDlo
  -- the rounded quotient fits the mantissa type
  have hm : rneDiv (fastNum c.prec num.natAbs (decide (num < 0))) (fastDen c.prec den) ≤ 2 ^ (ec.N - 1) := by
    have hb := (rneDiv_bounds (fastNum c.prec num.natAbs (decide (num < 0))) (fastDen c.prec den)).2
    have hq : fastNum c.prec num.natAbs (decide (num < 0)) / fastDen c.prec den ≤ 2 ^ (c.prec + 1) := by
      apply Nat.div_le_of_le_mul
      calc fastNum c.prec num.natAbs (decide (num < 0)) ≤ 2 ^ (2 * c.prec) := hN
        _ = 2 ^ (c.prec - 1) * 2 ^ (c.prec + 1) := by rw [← pow_add]; congr 1; omega
        _ ≤ fastDen c.prec den * 2 ^ (c.prec + 1) := Nat.mul_le_mul_right _ hDlo
    have h3 : 2 ^ (c.prec + 1) + 1 ≤ 2 ^ (c.prec + 3) := by
      have : 2 ^ (c.prec + 3) = 4 * 2 ^ (c.prec + 1) := by rw [show c.prec + 3 = (c.prec + 1) + 2 by omega, pow_add]; ring
      have := Nat.two_pow_pos (c.prec + 1)
      omega
    have h4 : 2 ^ (c.prec + 3) ≤ 2 ^ (ec.N - 1) := pow_le_pow2 (by have := h.fit; rw [h.prec]; omega)
    omega
  unfold ratToFloatFast
  simp only [hnum, if_false]
  -- the truncated operands and the exponent are the named ones
  have hnumT : (if (bitLen num.natAbs : Int) - 2 * c.prec ≥ 0 then
        (num.natAbs >>> ((bitLen num.natAbs : Int) - 2 * c.prec).toNat) +
          (if decide (num < 0) = true ∧ num.natAbs % 2 ^ ((bitLen num.natAbs : Int) - 2 * c.prec).toNat ≠ 0 then 1 else 0)
      else num.natAbs <<< (-((bitLen num.natAbs : Int) - 2 * c.prec)).toNat) = fastNum c.prec num.natAbs (decide (num < 0)) := rfl
  have hdenT : (if (bitLen den : Int) - c.prec ≥ 0 then den >>> ((bitLen den : Int) - c.prec).toNat
      else den <<< (-((bitLen den : Int) - c.prec)).toNat) = fastDen c.prec den := rfl
  have hexp : ((bitLen num.natAbs : Int) - 2 * c.prec) - ((bitLen den : Int) - c.prec) = fastExp c.prec num.natAbs den := rfl
  rw [hnumT, hdenT, hexp]
  simp only [h1, h2, if_false, fast_round_eq]
  have hfit : (if decide (num < 0) = true then
      -((rneDiv (fastNum c.prec num.natAbs (decide (num < 0))) (fastDen c.prec den) : Nat) : Int)
      else ((rneDiv (fastNum c.prec num.natAbs (decide (num < 0))) (fastDen c.prec den) : Nat) : Int)).natAbs
      ≤ 2 ^ (ec.N - 1) := by
    split <;> simpa using hm
  rw [encodeFixed_correct ec c.F h.enc _ _ hfit]

end Dashu.Model.Conv
