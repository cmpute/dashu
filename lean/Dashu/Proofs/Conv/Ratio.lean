import Dashu.Proofs.Conv.Misc
/-
  C06 — `RBig::to_f32 / to_f64` (current tree: guard bits + sticky, one rounding in `encode`) compute
  the IEEE rounding of the rational number, for every numerator and denominator.
-/
namespace Dashu.Model.Conv
open Dashu.Model

/-- with `shift = bitLen a - bitLen b - (P + 2)` the scaled quotient has `P + 2` or `P + 3` bits -/
theorem rat_shift_bits (a b P : Nat) (ha : a ≠ 0) (hb : b ≠ 0) (i j : Nat)
    (hij : (j : Int) - i = (bitLen a : Int) - bitLen b - (P + 2)) :
    2 ^ (P + 1) * (b * 2 ^ j) ≤ a * 2 ^ i ∧ a * 2 ^ i < 2 ^ (P + 3) * (b * 2 ^ j) := by
  have hal := Nat.mul_le_mul_right (2 ^ i) (bitLen_le ha)
  have hah := Nat.mul_lt_mul_of_pos_right (@bitLen_lt a) (Nat.two_pow_pos i)
  have hbl := Nat.mul_le_mul_left (2 ^ (P + 3)) (Nat.mul_le_mul_right (2 ^ j) (bitLen_le hb))
  have hbh := Nat.mul_lt_mul_of_pos_left (Nat.mul_lt_mul_of_pos_right (@bitLen_lt b) (Nat.two_pow_pos j))
    (Nat.two_pow_pos (P + 1))
  have hla := bitLen_pos ha
  have hlb := bitLen_pos hb
  rw [← pow_add] at hal hah
  rw [← pow_add, ← pow_add] at hbl hbh
  rw [show P + 1 + (bitLen b + j) = bitLen a - 1 + i by omega] at hbh
  rw [show P + 3 + (bitLen b - 1 + j) = bitLen a + i by omega] at hbl
  exact ⟨by omega, by omega⟩

/-- relations between the constants of one `Repr::to_fNN` body, the `encode` it calls and the format -/
structure RatCompat (c : RatConsts) (ec : EncConsts) : Prop where
  enc : Compatible ec c.F
  prec : c.prec = c.F.prec
  /-- `shift >= infShift` is certain overflow -/
  inf : c.F.emax - c.F.prec ≤ c.infShift
  /-- `shift < zeroShift - 3` is certainly below half of the least subnormal -/
  zero : c.zeroShift ≤ c.F.qmin - c.F.prec
  /-- the quotient with its guard bits fits the signed mantissa type -/
  fit : c.F.prec + 3 ≤ ec.N - 1

theorem rat32_compat : RatCompat rat32 f32Fixed :=
  ⟨f32Fixed_compatible, by decide, by decide, by decide, by decide⟩
theorem rat64_compat : RatCompat rat64 f64Fixed :=
  ⟨f64Fixed_compatible, by decide, by decide, by decide, by decide⟩

theorem ieeeRound_signed (F : Ieee) (neg : Bool) (m : Nat) (e : Int) (hm : m ≠ 0) :
    ieeeRound F (if neg then -(m : Int) else m) e =
      ((if neg then F.signBit else 0) + (ieeeRoundMag F m e).1, (ieeeRoundMag F m e).2.flipIf neg) := by
  cases neg
  · simp only [Bool.false_eq_true, if_false]
    rw [ieeeRound_nonneg F m e hm]
    simp [Flag.flipIf]
  · simp only [if_true]
    rw [ieeeRound_neg F m e hm, ieeeRound_nonneg F m e hm]
    simp [signedApx]

theorem ratToFloatFixed_correct (c : RatConsts) (ec : EncConsts) (h : RatCompat c ec) (num : Int) (den : Nat)
    (hden : den ≠ 0) :
    ratToFloatFixed c (encodeFixed ec) num den = .ok (ieeeRoundRat c.F .halfEven num den) := by
  have hF := h.enc.ok
  unfold ratToFloatFixed ieeeRoundRat
  by_cases h0 : num = 0
  · simp [h0]
  simp only [h0, if_false]
  have ha : num.natAbs ≠ 0 := by omega
  generalize num.natAbs = a at *
  generalize hneg : decide (num < 0) = neg
  rw [h.prec]
  generalize hshift : (bitLen a : Int) - bitLen den - ((c.F.prec : Int) + 2) = shift
  -- the operands of the division as a·2^i and den·2^j
  obtain ⟨i, j, hij, hNi, hDj⟩ : ∃ i j : Nat, (j : Int) - i = shift ∧
      (if shift ≥ 0 then a else a * 2 ^ (-shift).toNat) = a * 2 ^ i ∧
      (if shift ≥ 0 then den * 2 ^ shift.toNat else den) = den * 2 ^ j := by
    by_cases hs : shift ≥ 0
    · exact ⟨0, shift.toNat, by omega, by simp [hs], by simp [hs]⟩
    · exact ⟨(-shift).toNat, 0, by omega, by simp [hs], by simp [hs]⟩
  rw [hNi, hDj]
  obtain ⟨hα, hβ⟩ := rat_shift_bits a den c.F.prec ha hden i j (by rw [hij, ← hshift])
  have hD : 0 < den * 2 ^ j := Nat.mul_pos (Nat.pos_of_ne_zero hden) (Nat.two_pow_pos j)
  -- the quotient has `prec + 2` or `prec + 3` bits, so the sticky theorem applies and `encode` has room
  have hLlo := lt_bitLen_of_le ((Nat.le_div_iff_mul_le hD).mpr hα)
  have hLhi := bitLen_le_of_lt ((Nat.div_lt_iff_lt_mul hD).mpr hβ)
  have hmain := sticky_spec c.F neg (a * 2 ^ i) (den * 2 ^ j) hD shift hLlo
  rw [ieeeRoundRatMag_congr c.F _ neg (a' := a) (b' := den)
    (Nat.mul_ne_zero (Nat.mul_ne_zero ha (Nat.two_pow_pos _).ne') (Nat.two_pow_pos _).ne')
    (Nat.mul_ne_zero hD.ne' (Nat.two_pow_pos _).ne') hden
    (by rw [Nat.mul_assoc a, Nat.mul_assoc den, ← pow_add, ← pow_add,
          show i + shift.toNat = j + (-shift).toNat by omega]; ring)] at hmain
  rw [← hmain]
  have hst2 : (if a * 2 ^ i % (den * 2 ^ j) ≠ 0 then 1 else 0) < 2 := by split <;> decide
  have hblm := bitLen_or_bit (a * 2 ^ i / (den * 2 ^ j)) _ hst2
    (le_trans (show 2 ^ 1 ≤ 2 ^ (c.F.prec + 1) from pow_le_pow2 (by omega)) ((Nat.le_div_iff_mul_le hD).mpr hα))
  generalize (a * 2 ^ i / (den * 2 ^ j)) ||| (if a * 2 ^ i % (den * 2 ^ j) ≠ 0 then 1 else 0) = m at hblm ⊢
  rw [← hblm] at hLlo hLhi
  have hm0 : m ≠ 0 := by
    rintro rfl
    have hz0 : bitLen 0 = 0 := rfl
    omega
  have hqm := c.F.qmin_eq
  have hem := c.F.emax_eq
  have hB := c.F.B_ge hF
  have hprec : c.F.prec = c.F.MB + 1 := rfl
  by_cases hov : shift ≥ c.infShift
  · -- certain overflow
    simp only [hov, if_true]
    have := h.inf
    rw [spec_over c.F hF m shift hm0 (by omega)]
  simp only [hov, if_false]
  by_cases hun : shift < c.zeroShift - 3
  · simp only [hun, if_true]
    have := h.zero
    rw [spec_under c.F hF m shift hm0 (by omega)]
    cases neg <;> simp [Flag.flipIf]
  simp only [hun, if_false]
  -- one rounding, in encode
  have hfit : (if neg then -(m : Int) else (m : Int)).natAbs ≤ 2 ^ (ec.N - 1) := by
    have hmlt := lt_of_lt_of_le (@bitLen_lt m) (pow_le_pow2 (show bitLen m ≤ ec.N - 1 by have := h.fit; omega))
    have habs : (if neg then -(m : Int) else (m : Int)).natAbs = m := by cases neg <;> simp
    rw [habs]; omega
  rw [encodeFixed_correct ec c.F h.enc (if neg then -(m : Int) else (m : Int)) shift hfit,
    ieeeRound_signed c.F neg m shift hm0]

/-- a `(p + k)`-bit number with `k` bits rounded off (to the quotient or its successor) keeps `p` bits, unless the
    rounding carried to `2^p` -/
theorem rounded_top (p k a n : Nat) (hp : 1 ≤ p) (ha : a ≠ 0) (hL : bitLen a = p + k)
    (hb : a / 2 ^ k ≤ n ∧ n ≤ a / 2 ^ k + 1) :
    2 ^ (p - 1) ≤ n ∧ n ≤ 2 ^ p ∧ (n < 2 ^ p → bitLen n = p) ∧ (n = 2 ^ p → bitLen n = p + 1) := by
  have hqlo : 2 ^ (p - 1) ≤ a / 2 ^ k := by
    rw [Nat.le_div_iff_mul_le (Nat.two_pow_pos _), ← pow_add, show p - 1 + k = bitLen a - 1 by omega]
    exact bitLen_le ha
  have hqhi : a / 2 ^ k < 2 ^ p := div_pow_lt_of_bitLen hL.le
  refine ⟨by omega, by omega, fun h => ?_, fun h => h ▸ bitLen_two_pow p⟩
  have := bitLen_eq_of (n := p - 1) (show 2 ^ (p - 1) ≤ n by omega)
    (by rw [show p - 1 + 1 = p by omega]; exact h)
  omega

/-- `ieeeRoundRatMag_dyadic` with the sign: `num / 2^j` in the rational spec is `num·2^(-j)` in the spec of `encode` -/
theorem ieeeRoundRat_dyadic (F : Ieee) (num : Int) (j : Nat) :
    ieeeRoundRat F .halfEven num (2 ^ j) = ieeeRound F num (-(j : Int)) := by
  unfold ieeeRoundRat ieeeRound
  by_cases h0 : num = 0
  · simp [h0]
  · simp only [h0, if_false]
    have ha : num.natAbs ≠ 0 := by omega
    rw [ieeeRoundRatMag_dyadic F _ num.natAbs j ha]
    by_cases hn : num < 0 <;> simp [hn]

end Dashu.Model.Conv
