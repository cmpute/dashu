import Dashu.Proofs.Conv.Modes
/-
  C06 — VALUE and FLAG of `FBig::<R, 2>::to_f32` for EVERY rounding mode R (directed modes, HalfAway, HalfEven): the
  value is the single rounding in mode R exactly outside `ModeBad`, and where
  the value is right (outside `ModeBad`), the returned `Rounding` tells the truth about the single rounding in
  mode R exactly outside `ToFloatFlagBad` (the rounding inside `encode` increased the magnitude and
  `into_f32_internal` did not take its overflow exit).  At the end, HalfEven (`FBig::to_f64`, `Repr::to_f32/to_f64`):
  there `ModeBad` is the failing set of the double rounding lemma.
-/
namespace Dashu.Model.Conv
open Dashu Dashu.Model Dashu.Model.Float

/-! ### composing the error signs of two roundings, any first rounding within one unit -/

/-- the error sign of `n2·D1·D2` against `a`, when `n1·D1` is within ONE unit `D1` of `a` (any rounding mode) -/
theorem flag_compose_any (a n1 n2 D1 D2 : Nat)
    (h1 : n1 * D1 < a + D1) (h2 : a < n1 * D1 + D1) :
    flagOf n2 (D1 * D2) a = composeFlag (flagOf n1 D1 a) (flagOf n2 D2 n1) := by
  unfold flagOf composeFlag
  have hR : n2 * (D1 * D2) = (n2 * D2) * D1 := by ring
  rw [hR]
  generalize n2 * D2 = Q
  by_cases he : Q = n1
  · subst he
    simp only [if_true]
  · simp only [he, if_false]
    rcases Nat.lt_or_ge n1 Q with hlt | hge
    · have h5 : (n1 + 1) * D1 ≤ Q * D1 := Nat.mul_le_mul_right _ hlt
      have e1 : (n1 + 1) * D1 = n1 * D1 + D1 := by ring
      rw [e1] at h5
      simp only [hlt, if_true]
      generalize n1 * D1 = P at *
      generalize Q * D1 = R at *
      have h3 : ¬ (R = a) := by omega
      have h4 : a < R := by omega
      simp [h3, h4]
    · have hlt : Q < n1 := by omega
      have h5 : (Q + 1) * D1 ≤ n1 * D1 := Nat.mul_le_mul_right _ hlt
      have e1 : (Q + 1) * D1 = Q * D1 + D1 := by ring
      rw [e1] at h5
      have hn : ¬ (n1 < Q) := by omega
      simp only [hn, if_false]
      generalize n1 * D1 = P at *
      generalize Q * D1 = R at *
      have h3 : ¬ (R = a) := by omega
      have h4 : ¬ (a < R) := by omega
      simp [h3, h4]

/-- every mode's rounding of `a / D` stays within one unit of `a` -/
theorem roundMagMode_within (mode : Mode) (neg : Bool) (a D : Nat) (hD : 0 < D) :
    (roundMagMode mode neg a D).1 * D < a + D ∧ a < (roundMagMode mode neg a D).1 * D + D := by
  have hdm := Nat.div_add_mod a D
  have hrlt := Nat.mod_lt a hD
  by_cases hr : a % D = 0
  · have : (roundMagMode mode neg a D).1 = a / D := by unfold roundMagMode; simp [hr]
    rw [this]
    have e1 : a / D * D = D * (a / D) := Nat.mul_comm _ _
    omega
  · have hb := roundMagMode_bounds mode neg a D
    generalize (roundMagMode mode neg a D).1 = n at *
    have h1 : n * D ≤ (a / D + 1) * D := Nat.mul_le_mul_right _ hb.2
    have h2 : a / D * D ≤ n * D := Nat.mul_le_mul_right _ hb.1
    have e1 : (a / D + 1) * D = D * (a / D) + D := by ring
    have e2 : a / D * D = D * (a / D) := Nat.mul_comm _ _
    have hpos : 0 < a % D := Nat.pos_of_ne_zero hr
    omega

/-- the error sign of the first rounding (`.exact` where nothing is rounded and `firstRound` reports `none`) -/
def firstFlag (p : Nat) (m : Float.Mode) (neg : Bool) (a : Nat) : Flag :=
  if bitLen a ≤ p then .exact
  else flagOf (roundMagMode (convMode m) neg a (2 ^ (bitLen a - p))).1 (2 ^ (bitLen a - p)) a

/-- **value and flag, every mode**: rounding to `prec` bits in mode `m` and letting `encode` round again
    (half-even) gives the bits of ONE rounding in mode `m` exactly outside `ModeBad`; and there the true error sign
    of that single rounding is the composition of the first rounding's sign and the sign of the rounding inside
    `encode` -/
theorem modes_pair (F : Ieee) (hF : F.Ok) (m : Float.Mode) (neg : Bool) (a : Nat) (e : Int) (ha : a ≠ 0) :
    ((ieeeRoundMag F (firstRound F.prec m neg a e).1 (firstRound F.prec m neg a e).2.1).1 =
        (ieeeRoundMagM F (convMode m) neg a e).1 ↔ ¬ ModeBad F (convMode m) neg a e) ∧
      (¬ ModeBad F (convMode m) neg a e →
        (ieeeRoundMagM F (convMode m) neg a e).2 =
          composeFlag (firstFlag F.prec m neg a)
            (ieeeRoundMag F (firstRound F.prec m neg a e).1 (firstRound F.prec m neg a e).2.1).2) := by
  have hB := F.B_ge hF
  have hqm := F.qmin_eq
  have hem := F.emax_eq
  have hprec : F.prec = F.MB + 1 := rfl
  have hMB := hF.hMB
  unfold ModeBad firstRound firstFlag
  by_cases hfit : bitLen a ≤ F.prec
  · -- nothing is discarded first: both sides are the same rounding of `a`
    have hce : ∀ f : Flag, composeFlag .exact f = f := by intro f; cases f <;> rfl
    simp only [hfit, if_true, hce]
    rw [show bitLen a - F.prec = 0 by omega]
    simp only [pow_zero, roundMagMode_one, Nat.cast_zero, sub_zero, Nat.zero_add]
    by_cases hover : F.emax + 1 < (bitLen a : Int) + e
    · rw [spec_over F hF a e ha hover, ieeeRoundMagM_over F hF _ neg a e ha hover]
      refine ⟨?_, fun _ => rfl⟩
      simp only [true_iff]
      intro h; omega
    by_cases hsub : (bitLen a : Int) + e < F.qmin + F.prec
    · by_cases hq : F.qmin ≤ e
      · obtain ⟨j, hj⟩ : ∃ j : Nat, e = F.qmin + j := ⟨(e - F.qmin).toNat, by omega⟩
        rw [spec_sub_exact F hF a j e hj (by omega), ieeeRoundMagM_sub_exact F hF _ neg a j e hj (by omega),
          show (F.qmin - e).toNat = 0 by omega]
        simp [rneDiv_one, roundMagMode_one]
      · obtain ⟨k, hk⟩ : ∃ k : Nat, e + k = F.qmin := ⟨(F.qmin - e).toNat, by omega⟩
        rw [spec_sub_round F hF a k e hk (by omega) (by omega),
          ieeeRoundMagM_sub_round F hF _ neg a k e hk (by omega) (by omega),
          show (F.qmin - e).toNat = k by omega]
        simp only [hsub, true_and, not_not]
        intro hgood
        rw [hgood]
    · obtain ⟨w, hw⟩ : ∃ w : Nat, (bitLen a : Int) + e = F.qmin + F.prec + w :=
        ⟨((bitLen a : Int) + e - F.qmin - F.prec).toNat, by omega⟩
      have hwB : w + 3 ≤ 2 * F.B := by omega
      obtain ⟨j, hj⟩ : ∃ j : Nat, bitLen a + j = F.prec := ⟨F.prec - bitLen a, by omega⟩
      rw [spec_norm_exact F hF a j w e hj hw hwB, ieeeRoundMagM_norm_exact F hF _ neg a j w e hj hw hwB]
      exact ⟨by simp only [hsub, false_and, not_false_eq_true], fun _ => rfl⟩
  simp only [hfit, if_false]
  generalize hk1 : bitLen a - F.prec = k1
  have hk1p : 1 ≤ k1 := by omega
  have hL : bitLen a = F.prec + k1 := by omega
  have hwithin := roundMagMode_within (convMode m) neg a (2 ^ k1) (Nat.two_pow_pos _)
  have hb := roundMagMode_bounds (convMode m) neg a (2 ^ k1)
  generalize hn1 : (roundMagMode (convMode m) neg a (2 ^ k1)).1 = n1 at hwithin hb ⊢
  obtain ⟨hn1lo, hn1hi, hbl1, hbl2⟩ := rounded_top F.prec k1 a n1 (by omega) ha hL hb
  have hn10 : n1 ≠ 0 := by have := Nat.two_pow_pos (F.prec - 1); omega
  have hbn : F.prec ≤ bitLen n1 ∧ bitLen n1 ≤ F.prec + 1 := by
    rcases Nat.lt_or_ge n1 (2 ^ F.prec) with h | h
    · rw [hbl1 h]; omega
    · rw [hbl2 (by omega)]; omega
  have hpp := two_pow_pred F.prec (by omega)
  by_cases hover : F.emax + 1 < (bitLen a : Int) + e
  · rw [ieeeRoundMagM_over F hF (convMode m) neg a e ha hover,
      spec_over F hF n1 (e + (k1 : Int)) hn10 (by omega)]
    refine ⟨?_, fun _ => rfl⟩
    simp only [true_iff]
    intro h; omega
  by_cases hsub : (bitLen a : Int) + e < F.qmin + F.prec
  · -- subnormal: `k1` bits go first, `k2 ≥ 1` more inside `encode`
    obtain ⟨k, hk⟩ : ∃ k : Nat, e + k = F.qmin := ⟨(F.qmin - e).toNat, by omega⟩
    obtain ⟨k2, hkk, hk21⟩ : ∃ k2 : Nat, k = k1 + k2 ∧ 1 ≤ k2 := ⟨k - k1, by omega, by omega⟩
    rw [ieeeRoundMagM_sub_round F hF (convMode m) neg a k e hk (by omega) (by omega),
      spec_sub_round F hF n1 k2 (e + (k1 : Int)) (by omega) hk21 (by omega),
      show (F.qmin - e - (k1 : Int)).toNat = k2 by omega, hkk]
    simp only [hsub, true_and, not_not]
    intro hgood
    rw [← hgood, pow_add]
    exact flag_compose_any a n1 (rneDiv n1 (2 ^ k2)) (2 ^ k1) (2 ^ k2) hwithin.1 hwithin.2
  · -- normal: `encode` has nothing to round unless the first rounding carried to `2^prec`
    obtain ⟨w, hw⟩ : ∃ w : Nat, (bitLen a : Int) + e = F.qmin + F.prec + w :=
      ⟨((bitLen a : Int) + e - F.qmin - F.prec).toNat, by omega⟩
    have hwB : w + 3 ≤ 2 * F.B := by omega
    rw [ieeeRoundMagM_norm_round F hF (convMode m) neg a k1 w e hL hk1p hw hwB, hn1]
    simp only [hsub, false_and, not_false_eq_true, iff_true, true_implies]
    rcases Nat.lt_or_ge n1 (2 ^ F.prec) with hlt | hge
    · rw [spec_norm_exact F hF n1 0 w (e + (k1 : Int)) (by rw [hbl1 hlt, Nat.add_zero])
        (by rw [hbl1 hlt]; omega) hwB]
      exact ⟨by simp, rfl⟩
    · have hn1e : n1 = 2 ^ F.prec := by omega
      by_cases hwtop : w + 4 ≤ 2 * F.B
      · rw [spec_norm_round F hF n1 1 (w + 1) (e + (k1 : Int)) (hbl2 hn1e) (by omega)
          (by rw [hbl2 hn1e]; push_cast; omega) (by omega), hn1e, rneDiv_pow_self F.prec (by omega)]
        constructor
        · simp only
          rw [hpp, show F.prec - 1 = F.MB by omega]; ring
        · have hfl : flagOf (2 ^ (F.prec - 1)) (2 ^ 1) (2 ^ F.prec) = .exact :=
            if_pos (by rw [← pow_add]; congr 1)
          rw [hfl]; rfl
      · rw [spec_over F hF n1 (e + (k1 : Int)) hn10 (by rw [hbl2 hn1e]; push_cast; omega), hn1e,
          F.infBits_eq hF]
        constructor
        · simp only
          rw [show w = 2 * F.B - 3 by omega, hpp, show F.prec - 1 = F.MB by omega,
            show 2 * F.B - 1 = (2 * F.B - 3) + 2 by omega]
          ring
        · have hlt : a < 2 ^ F.prec * 2 ^ k1 := by rw [← pow_add, ← hL]; exact bitLen_lt
          simp [composeFlag, flagOf, hlt.ne', hlt]

/-- **flag theorem, every mode**: the second half of `modes_pair` -/
theorem modes_flag (F : Ieee) (hF : F.Ok) (m : Float.Mode) (neg : Bool) (a : Nat) (e : Int) (ha : a ≠ 0)
    (hgood : ¬ ModeBad F (convMode m) neg a e) :
    (ieeeRoundMagM F (convMode m) neg a e).2 =
      composeFlag (firstFlag F.prec m neg a)
        (ieeeRoundMag F (firstRound F.prec m neg a e).1 (firstRound F.prec m neg a e).2.1).2 :=
  (modes_pair F hF m neg a e ha).2 hgood

/-- **`FBig::<R,2>::to_f32` for EVERY rounding mode `R`: the value is the once-rounded one (mode `R`)
    exactly outside `ModeBad`** -/
theorem fbigToFloat_value_iff_modes (k : IntoConsts) (hk : IntoCompat k) (m : Float.Mode) (c : Coarse)
    (hc : CoarseSound c) (s e : Int) (hodd : s % 2 = 1) (bits : Nat) (fl : Option Float.Rounding)
    (h : fbigToFloat k m c ⟨s, e⟩ = .ok (bits, fl)) :
    bits = (ieeeRoundRat k.F (convMode m) (floatAsRat 2 s e).1 (floatAsRat 2 s e).2).1 ↔
      ¬ ModeBad k.F (convMode m) (decide (s < 0)) s.natAbs e := by
  have hs0 : s ≠ 0 := by intro h0; subst h0; simp at hodd
  have hn := fbigToFloat_normal k hk m c hc s e hodd
  simp only at hn
  rw [hn] at h
  simp only [Except.ok.injEq, Prod.mk.injEq] at h
  rw [← h.1, ieeeRoundRat_float_fst k.F _ s e hs0, Nat.add_left_cancel_iff]
  exact (modes_pair k.F hk.enc.ok m (decide (s < 0)) s.natAbs e (by omega)).1

/-- the error sign of the driver's specification of `f.to_f32` (the rational `s·2^e` rounded ONCE in the given mode)
    in significand/exponent form -/
theorem ieeeRoundRat_float_snd (F : Ieee) (mode : Mode) (s e : Int) (hs : s ≠ 0) :
    (ieeeRoundRat F mode (floatAsRat 2 s e).1 (floatAsRat 2 s e).2).2 =
      (ieeeRoundMagM F mode (decide (s < 0)) s.natAbs e).2.flipIf (decide (s < 0)) :=
  congrArg Prod.snd (ieeeRoundRat_float F mode s e hs)

/-- the first rounding's flag as dashu reports it -/
theorem firstRound_flag (p : Nat) (m : Float.Mode) (neg : Bool) (a : Nat) (e : Int) (hodd : a % 2 = 1) :
    (firstRound p m neg a e).2.2 = adjOfMag neg (firstFlag p m neg a) := by
  unfold firstRound firstFlag
  by_cases hfit : bitLen a ≤ p
  · simp only [hfit, if_true, adjOfMag]
  · simp only [hfit, if_false]
    generalize hk1 : bitLen a - p = k1
    have hk1p : 1 ≤ k1 := by omega
    have hr0 : a % 2 ^ k1 ≠ 0 := mod_two_pow_ne_zero_of_odd hk1p hodd
    have hrm := roundMagMode_eq (convMode m) neg a (2 ^ k1) hr0
    generalize roundMagMode (convMode m) neg a (2 ^ k1) = rm at *
    generalize upMag (convMode m) neg (a / 2 ^ k1) (a % 2 ^ k1) (2 ^ k1) = up at *
    have hrm1 : rm.1 = a / 2 ^ k1 + (if up then 1 else 0) := by rw [hrm]
    have hrm2 : rm.2 = up := by rw [hrm]
    have hdm := Nat.div_add_mod a (2 ^ k1)
    have hrlt := Nat.mod_lt a (Nat.two_pow_pos k1)
    rw [hrm1, hrm2]
    unfold flagOf
    generalize a / 2 ^ k1 = q at *
    generalize a % 2 ^ k1 = r at *
    generalize 2 ^ k1 = D at *
    cases up
    · have e1 : (q + (if false = true then 1 else 0)) * D = D * q := by simp; ring
      rw [e1]
      have h3 : ¬ (D * q = a) := by omega
      have h4 : ¬ (a < D * q) := by omega
      simp [h3, h4, adjOfMag, adjOfUp]
    · have e1 : (q + (if true = true then 1 else 0)) * D = D * q + D := by simp; ring
      rw [e1]
      have h3 : ¬ (D * q + D = a) := by omega
      have h4 : a < D * q + D := by omega
      simp [h3, h4, adjOfMag, adjOfUp]

/-- **flag theorem, every mode**: where the value of `FBig::<R,2>::to_f32` is the once-rounded one (outside
    `ModeBad`) the returned `Rounding` tells the truth about that single rounding in mode `R` exactly outside
    `ToFloatFlagBad` -/
theorem fbigToFloat_flag_iff_modes (k : IntoConsts) (hk : IntoCompat k) (m : Float.Mode) (c : Coarse)
    (hc : CoarseSound c) (s e : Int) (hodd : s % 2 = 1) (bits : Nat) (fl : Option Float.Rounding)
    (h : fbigToFloat k m c ⟨s, e⟩ = .ok (bits, fl))
    (hgood : ¬ ModeBad k.F (convMode m) (decide (s < 0)) s.natAbs e) :
    fl = adjOfMag (decide (s < 0)) (ieeeRoundMagM k.F (convMode m) (decide (s < 0)) s.natAbs e).2 ↔
      ¬ ToFloatFlagBad k m s e := by
  have hF := hk.enc.ok
  have hp1 : 1 ≤ k.F.prec := by unfold Ieee.prec; omega
  have hs0 : s ≠ 0 := by intro h0; subst h0; simp at hodd
  have ha0 : s.natAbs ≠ 0 := by omega
  have hodd' : s.natAbs % 2 = 1 := by omega
  have hn := fbigToFloat_normal k hk m c hc s e hodd
  simp only at hn
  rw [hn] at h
  simp only [Except.ok.injEq, Prod.mk.injEq] at h
  rw [← h.2, modes_flag k.F hF m (decide (s < 0)) s.natAbs e ha0 hgood, ← andThen_adj,
    firstRound_flag k.F.prec m (decide (s < 0)) s.natAbs e hodd']
  unfold ToFloatFlagBad
  simp only
  -- the repr that reaches `into_fNN_internal` and the truthfulness of its own flag
  obtain ⟨hv0, hvb, -, hvs⟩ := reached_facts k.F hp1 m s e hs0
  have htruth := intoFlag_truth k hk (decide (s < 0)) _ (reachedRepr k.F m s e).exp hv0 hvb
  rw [hvs] at htruth
  rw [show (if bitLen s.natAbs ≤ k.F.prec then (⟨s, e⟩ : FRepr)
      else FRepr.new 2 ((if s < 0 then -1 else 1) * ((firstRound k.F.prec m (decide (s < 0)) s.natAbs e).1 : Int))
        (firstRound k.F.prec m (decide (s < 0)) s.natAbs e).2.1) = reachedRepr k.F m s e from rfl]
  generalize reachedRepr k.F m s e = v at htruth ⊢
  generalize (ieeeRoundMag k.F (firstRound k.F.prec m (decide (s < 0)) s.natAbs e).1
    (firstRound k.F.prec m (decide (s < 0)) s.natAbs e).2.1).2 = M at *
  generalize adjOfMag (decide (s < 0)) (firstFlag k.F.prec m (decide (s < 0)) s.natAbs) = f1 at *
  cases M
  · have h1 : ¬ (Flag.exact = Flag.pos ∧ v.exp < k.infExp) := by simp
    rw [htruth.mpr h1]
    simp
  · simp only [true_and] at htruth ⊢
    constructor
    · intro hfl
      apply htruth.mp
      unfold intoFlag at hfl ⊢
      split at hfl <;> simp_all [andThenFlag, adjOfMag]
    · intro hx
      rw [htruth.mpr hx]
  · have h1 : ¬ (Flag.neg = Flag.pos ∧ v.exp < k.infExp) := by simp
    rw [htruth.mpr h1]
    simp

/-! ### round-half-even (`FBig::to_f64`, `Repr::to_f32/to_f64`, `FBig<HalfEven>::to_f32`): `ModeBad` in closed form -/

/-- for round-half-even the failing region is the one of the double rounding lemma -/
theorem modeBad_halfEven (F : Ieee) (neg : Bool) (a : Nat) (e : Int) :
    ModeBad F .halfEven neg a e ↔ ToFloatBad F a e := by
  unfold ModeBad ToFloatBad
  simp only [roundMagMode_halfEven neg a _ (Nat.two_pow_pos _)]
  generalize hk2 : (F.qmin - e - ((bitLen a - F.prec : Nat) : Int)).toNat = k2
  by_cases hgt : F.prec < bitLen a
  · by_cases hsub : (bitLen a : Int) + e < F.qmin + F.prec
    · have := double_rne a (bitLen a - F.prec) k2 (by omega)
      simp only [hgt, hsub, true_and, ne_eq]
      rw [this, not_not]
    · simp only [hsub, false_and, and_false]
  · -- nothing is discarded first: one rounding
    rw [show bitLen a - F.prec = 0 by omega]
    simp only [pow_zero, rneDiv_one, Nat.zero_add, ne_eq, not_true_eq_false, and_false, hgt, false_and]

/-- **`FBig::to_f64`, `Repr::to_f32/to_f64`, `FBig<HalfEven>::to_f32` (base 2): the value is the correctly
    rounded one exactly outside `ToFloatBad`** -/
theorem fbigToFloat_value_iff (k : IntoConsts) (hk : IntoCompat k) (c : Coarse) (hc : CoarseSound c)
    (s e : Int) (hodd : s % 2 = 1) (bits : Nat) (fl : Option Float.Rounding)
    (h : fbigToFloat k .halfEven c ⟨s, e⟩ = .ok (bits, fl)) :
    bits = (ieeeRound k.F s e).1 ↔ ¬ ToFloatBad k.F s.natAbs e := by
  have hs0 : s ≠ 0 := by intro h0; subst h0; simp at hodd
  have := fbigToFloat_value_iff_modes k hk .halfEven c hc s e hodd bits fl h
  rwa [show convMode .halfEven = Mode.halfEven from rfl, ieeeRoundRat_float_fst k.F _ s e hs0,
    ieeeRoundMagM_halfEven, ← ieeeRound_fst k.F s e hs0, modeBad_halfEven] at this

/-- **flag theorem**: outside `ToFloatBad` the returned `Rounding` tells the truth about the result
    exactly outside `ToFloatFlagBad` -/
theorem fbigToFloat_flag_iff (k : IntoConsts) (hk : IntoCompat k) (c : Coarse) (hc : CoarseSound c)
    (s e : Int) (hodd : s % 2 = 1) (bits : Nat) (fl : Option Float.Rounding)
    (h : fbigToFloat k .halfEven c ⟨s, e⟩ = .ok (bits, fl)) (hgood : ¬ ToFloatBad k.F s.natAbs e) :
    fl = adjOfMag (decide (s < 0)) (ieeeRoundMag k.F s.natAbs e).2 ↔ ¬ ToFloatFlagBad k .halfEven s e := by
  have := fbigToFloat_flag_iff_modes k hk .halfEven c hc s e hodd bits fl h
    (by rwa [show convMode .halfEven = Mode.halfEven from rfl, modeBad_halfEven])
  rwa [show convMode .halfEven = Mode.halfEven from rfl, ieeeRoundMagM_halfEven] at this

end Dashu.Model.Conv
