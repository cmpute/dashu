import Dashu.Proofs.Conv.Round
import Dashu.Proofs.Gen.BitLen
import Mathlib.Tactic.IntervalCases
/-
  C06 — from the literal masks and shifts of `encode` to arithmetic.
-/
namespace Dashu.Model.Conv

theorem bitLen_pos {a : Nat} (ha : a ≠ 0) : 1 ≤ bitLen a := Dashu.Proofs.Gen.blen_pos ha

theorem bitLen_lt {a : Nat} : a < 2 ^ bitLen a := Dashu.Proofs.Gen.lt_two_pow_blen a

theorem bitLen_le {a : Nat} (ha : a ≠ 0) : 2 ^ (bitLen a - 1) ≤ a := Dashu.Proofs.Gen.two_pow_blen_le ha

theorem bitLen_le_of_lt {a n : Nat} (h : a < 2 ^ n) : bitLen a ≤ n := Dashu.Proofs.Gen.blen_le_iff.2 h

/-- `(u & 0b110) | sticky` as a number -/
theorem roundBits_eq (u st : Nat) (hst : st < 2) :
    (u &&& 6) ||| st = 4 * ((u / 4) % 2) + 2 * ((u / 2) % 2) + st := by
  have table : ∀ v < 8, ∀ s < 2, (v &&& 6) ||| s = 4 * ((v / 4) % 2) + 2 * ((v / 2) % 2) + s := by decide
  have h8 : (u &&& 6) < 2 ^ 3 := Nat.and_lt_two_pow u (by decide)
  have hm : (u &&& 6) % 2 ^ 3 = (u % 2 ^ 3) &&& (6 % 2 ^ 3) := Nat.and_mod_two_pow
  rw [Nat.mod_eq_of_lt h8] at hm
  have h6 : (6 : Nat) % 2 ^ 3 = 6 := by decide
  rw [h6] at hm
  rw [hm, table (u % 2 ^ 3) (Nat.mod_lt _ (by decide)) st hst]
  have : (2 : Nat) ^ 3 = 8 := by decide
  omega

theorem finish_eq (sign bits l r s : Nat) (hl : l < 2) (hr : r < 2) (hs : s < 2) :
    finish sign bits (4 * l + 2 * r + s) =
      if r = 0 ∧ s = 0 then (bits, .exact)
      else if r = 1 ∧ (s = 1 ∨ l = 1) then (bits + 1, Flag.flipIf .pos (decide (sign > 0)))
      else (bits, Flag.flipIf .neg (decide (sign > 0))) := by
  interval_cases l <;> interval_cases r <;> interval_cases s <;>
    simp [finish, roundToEvenAdjustment]

theorem flipIf_exact (b : Bool) : Flag.flipIf .exact b = .exact := by
  cases b <;> rfl

/-- the tail of `encode` performs exactly the (kept, round, sticky) decision, on top of any
    higher fields `S` -/
theorem finish_round (sign S kept rb st : Nat) (hr : rb < 2) (hs : st < 2) :
    finish sign (S + kept) (4 * (kept % 2) + 2 * rb + st) =
      (S + (roundByBits kept rb st).1, (roundByBits kept rb st).2.flipIf (decide (sign > 0))) := by
  rw [finish_eq sign (S + kept) (kept % 2) rb st (Nat.mod_lt _ (by decide)) hr hs]
  unfold roundByBits
  split_ifs <;> simp_all [flipIf_exact, Nat.add_assoc]

/-- the tail of `encode` on a word `u` that carries `y / 2^k` above two extra bits, together with the sticky
    bit of `y`: round-to-nearest-even of `y / 2^k` on top of any higher fields `S` -/
theorem finish_rne (sign S u y k : Nat) (hk : 1 ≤ k) (h4 : u / 4 = y / 2 ^ k)
    (h2 : u / 2 % 2 = y / 2 ^ (k - 1) % 2) :
    finish sign (S + y / 2 ^ k) ((u &&& 6) ||| (if y % 2 ^ (k - 1) = 0 then 0 else 1)) =
      (S + rneDiv y (2 ^ k), (flagOf (rneDiv y (2 ^ k)) (2 ^ k) y).flipIf (decide (sign > 0))) := by
  have hsp := rneDiv_pow y k hk
  have hst : (if y % 2 ^ (k - 1) = 0 then 0 else 1) < 2 := by split <;> decide
  generalize (if y % 2 ^ (k - 1) = 0 then 0 else 1) = st at hsp hst ⊢
  rw [roundBits_eq u st hst, h4, h2, finish_round sign S _ _ st (Nat.mod_lt _ (by decide)) hst, ← hsp]

/-- extracting (kept, round bit, sticky) from a value carrying two extra bits -/
theorem two_extra_bits (y k : Nat) (hk : 1 ≤ k) :
    (4 * y / 2 ^ k) / 4 = y / 2 ^ k ∧
    ((4 * y / 2 ^ k) / 2) % 2 = (y / 2 ^ (k - 1)) % 2 ∧
    (((4 * y / 2 ^ k) % 2 ≠ 0 ∨ (4 * y) % 2 ^ k ≠ 0) ↔ y % 2 ^ (k - 1) ≠ 0) := by
  obtain ⟨j, rfl⟩ : ∃ j, k = j + 1 := ⟨k - 1, by omega⟩
  simp only [Nat.add_sub_cancel]
  have e1 : 4 * y / 2 ^ (j + 1) = 2 * y / 2 ^ j := by
    rw [pow_succ, show 4 * y = (2 * y) * 2 by ring, Nat.mul_div_mul_right _ _ (by decide : 0 < 2)]
  have e2 : 4 * y % 2 ^ (j + 1) = 2 * (2 * y % 2 ^ j) := by
    rw [pow_succ, show 4 * y = (2 * y) * 2 by ring, Nat.mul_mod_mul_right]; ring
  rw [e1, e2]
  rcases j with _ | i
  · simp only [pow_zero, Nat.div_one, Nat.mod_one]
    refine ⟨by omega, by omega, by omega⟩
  · have e3 : 2 * y / 2 ^ (i + 1) = y / 2 ^ i := by
      rw [pow_succ, Nat.mul_comm 2 y, Nat.mul_div_mul_right _ _ (by decide : 0 < 2)]
    have e4 : 2 * y % 2 ^ (i + 1) = 2 * (y % 2 ^ i) := by
      rw [pow_succ, Nat.mul_comm 2 y, Nat.mul_mod_mul_right]; ring
    rw [e3, e4]
    have d1 : y / 2 ^ i / 4 = y / 2 ^ (i + 1 + 1) := by
      rw [Nat.div_div_eq_div_mul]; congr 1; ring
    have d2 : y / 2 ^ i / 2 = y / 2 ^ (i + 1) := by
      rw [Nat.div_div_eq_div_mul]; congr 1
    have d3 : y % 2 ^ (i + 1) = y % 2 ^ i + 2 ^ i * (y / 2 ^ i % 2) := Nat.mod_pow_succ
    refine ⟨d1, by rw [d2], ?_⟩
    rw [d3]
    have hp : 0 < 2 ^ i := Nat.two_pow_pos i
    constructor
    · intro h
      rcases h with h | h
      · have : y / 2 ^ i % 2 = 1 := by omega
        rw [this]; omega
      · omega
    · intro h
      by_cases h0 : y % 2 ^ i = 0
      · left
        rw [h0] at h
        intro hc
        rw [hc] at h
        simp at h
      · right; omega

end Dashu.Model.Conv
