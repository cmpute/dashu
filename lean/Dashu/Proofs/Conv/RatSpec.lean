import Dashu.Proofs.Conv.Spec
import Dashu.Model.Conv.Ratio
/-
  C06 — the rational specification `ieeeRoundRatMag` as the hub: it is a function of the value `a/b`
  (`ieeeRoundRatMag_congr`; the binade `ratTop` is characterised by `ratTop_eq_of` / `ratTop_bounds`), the dyadic
  specifications `ieeeRoundMag` / `ieeeRoundMagM` are its restrictions to `a·2^e`, and one sticky theorem
  (`sticky_spec`) says that a quotient truncated to at least `prec + 2` bits with a sticky bit rounds like the exact
  value.  Integers → float and rationals → float are its two instances.
-/
namespace Dashu.Model.Conv
open Dashu.Model

/-! ### bit lengths -/

theorem lt_bitLen_of_le {a n : Nat} (h : 2 ^ n ≤ a) : n < bitLen a := Dashu.Proofs.Gen.lt_blen_iff.2 h

theorem bitLen_eq_of {a n : Nat} (h1 : 2 ^ n ≤ a) (h2 : a < 2 ^ (n + 1)) : bitLen a = n + 1 :=
  Dashu.Proofs.Gen.blen_eq_of_bounds h1 h2

theorem bitLen_two_pow (j : Nat) : bitLen (2 ^ j) = j + 1 :=
  bitLen_eq_of (Nat.le_refl _) (pow_lt_pow2 (Nat.lt_succ_self j))

theorem bitLen_mul_pow (a z : Nat) (ha : a ≠ 0) : bitLen (a * 2 ^ z) = bitLen a + z := by
  have h1 := bitLen_le ha
  have h2 := @bitLen_lt a
  have hL := bitLen_pos ha
  have := bitLen_eq_of (a := a * 2 ^ z) (n := bitLen a - 1 + z)
    (by rw [pow_add]; exact Nat.mul_le_mul_right _ h1)
    (by rw [show bitLen a - 1 + z + 1 = bitLen a + z by omega, pow_add]
        exact Nat.mul_lt_mul_of_pos_right h2 (Nat.two_pow_pos z))
  omega

theorem bitLen_div_pow (x s : Nat) (hs : s < bitLen x) : bitLen (x / 2 ^ s) = bitLen x - s := by
  have hx : x ≠ 0 := by rintro rfl; exact Nat.not_lt_zero s hs
  have := bitLen_eq_of (a := x / 2 ^ s) (n := bitLen x - s - 1)
    (by rw [Nat.le_div_iff_mul_le (Nat.two_pow_pos s), ← pow_add, show bitLen x - s - 1 + s = bitLen x - 1 by omega]
        exact bitLen_le hx)
    (by rw [Nat.div_lt_iff_lt_mul (Nat.two_pow_pos s), ← pow_add, show bitLen x - s - 1 + 1 + s = bitLen x by omega]
        exact bitLen_lt)
  omega

theorem bitLen_or_bit (Q st : Nat) (hst : st < 2) (hQ : 2 ≤ Q) : bitLen (Q ||| st) = bitLen Q := by
  have hQ0 : Q ≠ 0 := by omega
  have h1 := bitLen_le hQ0
  have h2 := @bitLen_lt Q
  obtain ⟨n, hn⟩ : ∃ n, bitLen Q = n + 2 := by
    have : 2 ≤ bitLen Q := by
      have := lt_bitLen_of_le (show 2 ^ 1 ≤ Q from hQ)
      omega
    exact ⟨bitLen Q - 2, by omega⟩
  rw [hn] at h1 h2 ⊢
  have hstlt : st < 2 ^ (n + 2) := by
    have : 2 ≤ 2 ^ (n + 2) := by
      calc 2 = 2 ^ 1 := rfl
        _ ≤ 2 ^ (n + 2) := pow_le_pow2 (by omega)
    omega
  have hlt := Nat.or_lt_two_pow h2 hstlt
  have hle : Q ≤ Q ||| st := Nat.left_le_or
  have : n + 2 - 1 = n + 1 := by omega
  rw [this] at h1
  exact bitLen_eq_of (le_trans h1 hle) hlt

/-! ### the sticky bit on the rounding kernel -/

theorem or_bit (y st : Nat) (hst : st < 2) : y ||| st = 2 * (y / 2) + ((y % 2) ||| st) := by
  have hy : y = (y / 2) <<< 1 + y % 2 := by rw [Nat.shiftLeft_eq]; omega
  have hb : y % 2 < 2 ^ 1 := Nat.mod_lt _ (by decide)
  have h1 : (y / 2) <<< 1 + y % 2 = (y / 2) <<< 1 ||| y % 2 := Nat.shiftLeft_add_eq_or_of_lt hb _
  have hb2 : (y % 2) ||| st < 2 ^ 1 := Nat.or_lt_two_pow hb (by simpa using hst)
  have h2 : (y / 2) <<< 1 + ((y % 2) ||| st) = (y / 2) <<< 1 ||| ((y % 2) ||| st) :=
    Nat.shiftLeft_add_eq_or_of_lt hb2 _
  calc y ||| st = ((y / 2) <<< 1 ||| y % 2) ||| st := by rw [← h1, ← hy]
    _ = (y / 2) <<< 1 ||| ((y % 2) ||| st) := Nat.or_assoc _ _ _
    _ = (y / 2) <<< 1 + ((y % 2) ||| st) := h2.symm
    _ = 2 * (y / 2) + ((y % 2) ||| st) := by rw [Nat.shiftLeft_eq]; omega

theorem or_bit_lt (b st : Nat) (hb : b < 2) (hst : st < 2) : (b ||| st) < 2 ∧ (st = 1 → (b ||| st) = 1) ∧
    (st = 0 → (b ||| st) = b) := by
  have : ∀ b < 2, ∀ s < 2, (b ||| s) < 2 ∧ (s = 1 → (b ||| s) = 1) ∧ (s = 0 → (b ||| s) = b) := by decide
  exact this b hb st hst

/-- **sticky lemma for quotients**: rounding `N / (D·2^k)` (`k ≥ 2`) equals rounding
    `(⌊N/D⌋ | [N mod D ≠ 0]) / 2^k`, with the same error sign -/
theorem rat_sticky_core (N D k : Nat) (hD : 0 < D) (hk : 2 ≤ k) (m : Nat)
    (hm : m = (N / D) ||| (if N % D ≠ 0 then 1 else 0)) :
    (rneDiv m (2 ^ k), flagOf (rneDiv m (2 ^ k)) (2 ^ k) m) =
      (rneDiv N (D * 2 ^ k), flagOf (rneDiv N (D * 2 ^ k)) (D * 2 ^ k) N) := by
  obtain ⟨j, rfl⟩ : ∃ j, k = j + 2 := ⟨k - 2, by omega⟩
  rw [rneDiv_pow m (j + 2) (by omega)]
  have e1 : j + 2 - 1 = j + 1 := by omega
  rw [e1]
  generalize hQ : N / D = Q at hm
  generalize hR : N % D = R at hm
  have hND : N = D * Q + R := by rw [← hQ, ← hR]; exact (Nat.div_add_mod N D).symm
  have hRlt : R < D := by rw [← hR]; exact Nat.mod_lt _ hD
  generalize hstdef : (if R ≠ 0 then 1 else 0) = st at hm
  have hst2 : st < 2 := by rw [← hstdef]; split <;> decide
  have hm' : m = 2 * (Q / 2) + ((Q % 2) ||| st) := by rw [hm]; exact or_bit Q st hst2
  obtain ⟨hb2, hb1, hb0⟩ := or_bit_lt (Q % 2) st (Nat.mod_lt _ (by decide)) hst2
  have hhalf : m / 2 = Q / 2 := by rw [hm']; omega
  have hdiv : ∀ i, m / 2 ^ (i + 1) = Q / 2 ^ (i + 1) := by
    intro i
    rw [pow_succ, Nat.mul_comm, ← Nat.div_div_eq_div_mul, ← Nat.div_div_eq_div_mul, hhalf]
  -- the right-hand side through `rne_core` with H = D·2^(j+1)
  have hsplit := split_at Q (j + 2) (by omega)
  rw [e1] at hsplit
  generalize hK : Q / 2 ^ (j + 2) = K at *
  generalize hrb : Q / 2 ^ (j + 1) % 2 = rb at *
  generalize hlo : Q % 2 ^ (j + 1) = lo at *
  have hrb2 : rb < 2 := by rw [← hrb]; exact Nat.mod_lt _ (by decide)
  have hlolt : lo < 2 ^ (j + 1) := by rw [← hlo]; exact Nat.mod_lt _ (Nat.two_pow_pos _)
  have hp : 2 ^ (j + 2) = 2 * 2 ^ (j + 1) := by rw [pow_succ]; ring
  have hH : 0 < D * 2 ^ (j + 1) := Nat.mul_pos hD (Nat.two_pow_pos _)
  have hlow : D * lo + R < D * 2 ^ (j + 1) := by
    have : D * lo + D ≤ D * 2 ^ (j + 1) := by
      have : lo + 1 ≤ 2 ^ (j + 1) := hlolt
      calc D * lo + D = D * (lo + 1) := by ring
        _ ≤ D * 2 ^ (j + 1) := Nat.mul_le_mul_left _ this
    omega
  have hy : N = 2 * (D * 2 ^ (j + 1)) * K + (D * 2 ^ (j + 1)) * rb + (D * lo + R) := by
    rw [hND, hsplit, hp]; ring
  have hcore := rne_core N (D * 2 ^ (j + 1)) K rb (D * lo + R) hH hrb2 hlow hy
  have h2H : 2 * (D * 2 ^ (j + 1)) = D * 2 ^ (j + 2) := by rw [hp]; ring
  rw [h2H] at hcore
  rw [hcore, hdiv (j + 1), hK, hdiv j, hrb]
  -- sticky bits agree
  have hsticky : (m % 2 ^ (j + 1) = 0) ↔ (D * lo + R = 0) := by
    have hpj : 2 ^ (j + 1) = 2 * 2 ^ j := by rw [pow_succ]; ring
    by_cases hst0 : st = 0
    · have hR0 : R = 0 := by
        by_contra hne
        rw [if_pos hne] at hstdef; omega
      have : m = Q := by rw [hm', hb0 hst0]; omega
      rw [this, hlo, hR0, Nat.add_zero]
      constructor
      · intro h; rw [h]; simp
      · intro h
        rcases Nat.mul_eq_zero.mp h with h | h
        · omega
        · exact h
    · have hst1 : st = 1 := by omega
      have hR1 : R ≠ 0 := by
        intro h0
        have : ¬ (R ≠ 0) := by simp [h0]
        rw [if_neg this] at hstdef; omega
      have hodd : m % 2 = 1 := by rw [hm', hb1 hst1]; omega
      constructor
      · intro h
        exfalso
        have : m % 2 ^ (j + 1) % 2 = m % 2 := by
          rw [hpj]; exact Nat.mod_mul_right_mod _ _ _
        omega
      · intro h; omega
  by_cases hz : D * lo + R = 0
  · rw [if_pos hz, if_pos (hsticky.mpr hz)]
  · rw [if_neg hz, if_neg (fun h => hz (hsticky.mp h))]

/-! ### the binade of a quotient -/

/-- comparisons of `a·2^i` with `b·2^j` depend on `i - j` only -/
theorem le_pow_pair (a b i j i' j' : Nat) (h : i + j' = i' + j) :
    b * 2 ^ j ≤ a * 2 ^ i ↔ b * 2 ^ j' ≤ a * 2 ^ i' :=
  iff_of_eq (pow_pair_of_scale (fun x y => y ≤ x) (fun _ _ _ hc => propext (Nat.mul_le_mul_left_iff hc))
    a b i j i' j' h)

/-- **the binade is unique**: `2^(t-1) ≤ a/b < 2^t` with `t = i - j` in cross-multiplied form determines `ratTop` -/
theorem ratTop_eq_of {a b : Nat} (ha : a ≠ 0) (hb : b ≠ 0) (i j : Nat)
    (hlo : b * 2 ^ i ≤ a * 2 ^ (j + 1)) (hhi : a * 2 ^ j < b * 2 ^ i) : ratTop a b = (i : Int) - j := by
  -- bit lengths confine `t` to `d` or `d + 1`, `d = bitLen a - bitLen b`
  have h1 : bitLen a + j ≤ bitLen b + i := by
    have := lt_of_le_of_lt (Nat.mul_le_mul_right (2 ^ j) (bitLen_le ha))
      (lt_trans hhi (Nat.mul_lt_mul_of_pos_right (@bitLen_lt b) (Nat.two_pow_pos i)))
    rw [← pow_add, ← pow_add] at this
    have := (Nat.pow_lt_pow_iff_right (by decide)).mp this
    have := bitLen_pos ha
    omega
  have h2 : bitLen b + i ≤ bitLen a + j + 1 := by
    have := lt_of_le_of_lt (le_trans (Nat.mul_le_mul_right (2 ^ i) (bitLen_le hb)) hlo)
      (Nat.mul_lt_mul_of_pos_right (@bitLen_lt a) (Nat.two_pow_pos (j + 1)))
    rw [← pow_add, ← pow_add] at this
    have := (Nat.pow_lt_pow_iff_right (by decide)).mp this
    have := bitLen_pos hb
    omega
  unfold ratTop
  simp only
  generalize hd : (bitLen a : Int) - bitLen b = d
  rcases Nat.lt_or_ge (bitLen a + j) (bitLen b + i) with h | h
  · -- `t = d + 1`: the test is `hlo`
    rw [if_pos ((le_pow_pair a b (-d).toNat d.toNat (j + 1) i (by omega)).mpr hlo)]; omega
  · -- `t = d`: the test is the negation of `hhi`
    rw [if_neg (fun hc => absurd ((le_pow_pair a b (-d).toNat d.toNat j i (by omega)).mp hc) (by omega))]; omega

/-- … and `ratTop` does lie in it -/
theorem ratTop_bounds {a b : Nat} (ha : a ≠ 0) (hb : b ≠ 0) :
    ∃ i j : Nat, ratTop a b = (i : Int) - j ∧ b * 2 ^ i ≤ a * 2 ^ (j + 1) ∧ a * 2 ^ j < b * 2 ^ i := by
  have hal := bitLen_le ha
  have hah := @bitLen_lt a
  have hbl := bitLen_le hb
  have hbh := @bitLen_lt b
  have hla := bitLen_pos ha
  have hlb := bitLen_pos hb
  unfold ratTop
  simp only
  generalize hd : (bitLen a : Int) - bitLen b = d
  split
  · rename_i hc
    refine ⟨d.toNat + 1, (-d).toNat, by omega,
      by rw [pow_succ, pow_succ, ← Nat.mul_assoc, ← Nat.mul_assoc]; exact Nat.mul_le_mul_right 2 hc, ?_⟩
    calc a * 2 ^ (-d).toNat < 2 ^ bitLen a * 2 ^ (-d).toNat := Nat.mul_lt_mul_of_pos_right hah (Nat.two_pow_pos _)
      _ = 2 ^ (bitLen b - 1) * 2 ^ (d.toNat + 1) := by rw [← pow_add, ← pow_add]; congr 1; omega
      _ ≤ b * 2 ^ (d.toNat + 1) := Nat.mul_le_mul_right _ hbl
  · rename_i hc
    refine ⟨d.toNat, (-d).toNat, by omega, ?_, by omega⟩
    calc b * 2 ^ d.toNat ≤ 2 ^ bitLen b * 2 ^ d.toNat := Nat.mul_le_mul_right _ hbh.le
      _ = 2 ^ (bitLen a - 1) * 2 ^ ((-d).toNat + 1) := by rw [← pow_add, ← pow_add]; congr 1; omega
      _ ≤ a * 2 ^ ((-d).toNat + 1) := Nat.mul_le_mul_right _ hal

theorem ratTop_scale (c a b : Nat) (hc : 0 < c) (ha : a ≠ 0) (hb : b ≠ 0) : ratTop (c * a) (c * b) = ratTop a b := by
  obtain ⟨i, j, ht, hlo, hhi⟩ := ratTop_bounds ha hb
  rw [ht]
  exact ratTop_eq_of (Nat.mul_ne_zero hc.ne' ha) (Nat.mul_ne_zero hc.ne' hb) i j
    (by rw [Nat.mul_assoc, Nat.mul_assoc]; exact Nat.mul_le_mul_left c hlo)
    (by rw [Nat.mul_assoc, Nat.mul_assoc]; exact Nat.mul_lt_mul_of_pos_left hhi hc)

theorem ratTop_dyadic (a j : Nat) (ha : a ≠ 0) : ratTop a (2 ^ j) = (bitLen a : Int) - j :=
  ratTop_eq_of ha (Nat.two_pow_pos j).ne' (bitLen a) j
    (calc 2 ^ j * 2 ^ bitLen a = 2 * 2 ^ (bitLen a - 1) * 2 ^ j := by rw [two_pow_pred _ (bitLen_pos ha)]; ring
      _ ≤ 2 * a * 2 ^ j := Nat.mul_le_mul_right _ (Nat.mul_le_mul_left 2 (bitLen_le ha))
      _ = a * 2 ^ (j + 1) := by rw [pow_succ]; ring)
    (by rw [Nat.mul_comm (2 ^ j)]; exact Nat.mul_lt_mul_of_pos_right bitLen_lt (Nat.two_pow_pos j))

theorem roundMagMode_halfEven (neg : Bool) (num den : Nat) (hd : 0 < den) :
    (roundMagMode .halfEven neg num den).1 = rneDiv num den := by
  unfold roundMagMode rneDiv
  simp only
  have hr := Nat.mod_lt num hd
  generalize num / den = q at *
  generalize num % den = r at *
  by_cases h0 : r = 0
  · subst h0; simp [hd]
  · simp only [h0, if_false]
    by_cases h1 : 2 * r < den
    · have : ¬ (den < 2 * r) := by omega
      have h2 : ¬ (2 * r = den) := by omega
      simp [h1, this, h2]
    · by_cases h2 : den < 2 * r
      · simp [h1, h2]
      · have h3 : 2 * r = den := by omega
        by_cases h4 : q % 2 = 0
        · have : ¬ (q % 2 = 1) := by omega
          simp [h1, h2, h3, h4]
        · have : q % 2 = 1 := by omega
          simp [h1, h2, h3, h4, this]

/-! ### mode-generic integer-exponent specification (`ieeeRoundMag` with the rounding of mode `mode`) -/

def ieeeRoundMagM (F : Ieee) (mode : Mode) (neg : Bool) (a : Nat) (e : Int) : Nat × Flag :=
  let t : Int := (bitLen a : Int) + e
  let q : Int := max (t - F.prec) F.qmin
  let num := if q ≤ e then a * 2 ^ (e - q).toNat else a
  let den := if q ≤ e then 1 else 2 ^ (q - e).toNat
  let n := (roundMagMode mode neg num den).1
  let units := n * 2 ^ (q - F.qmin).toNat
  if 2 ^ (F.emax + 1 - F.qmin).toNat ≤ units then (F.infBits, .pos)
  else ((q - F.qmin).toNat * 2 ^ F.MB + n, flagOf n den num)

theorem roundMagMode_one (mode : Mode) (neg : Bool) (x : Nat) : (roundMagMode mode neg x 1).1 = x := by
  unfold roundMagMode; simp [Nat.mod_one]

theorem ieeeRoundMagM_halfEven (F : Ieee) (neg : Bool) (a : Nat) (e : Int) :
    ieeeRoundMagM F .halfEven neg a e = ieeeRoundMag F a e := by
  unfold ieeeRoundMagM ieeeRoundMag roundMag
  simp only
  generalize max ((bitLen a : Int) + e - F.prec) F.qmin = q
  by_cases h : q ≤ e
  · simp only [h, if_true, roundMagMode_halfEven neg _ 1 (by decide)]
  · simp only [h, if_false, roundMagMode_halfEven neg _ _ (Nat.two_pow_pos _)]

theorem roundMagMode_scale (mode : Mode) (neg : Bool) (c x y : Nat) (hc : 0 < c) :
    roundMagMode mode neg (c * x) (c * y) = roundMagMode mode neg x y := by
  unfold roundMagMode
  simp only [Nat.mul_div_mul_left _ _ hc, Nat.mul_mod_mul_left, Nat.mul_left_comm 2 c,
    Nat.mul_lt_mul_left hc, Nat.mul_le_mul_left_iff hc, Nat.mul_right_inj hc.ne', Nat.mul_eq_zero, hc.ne',
    false_or]

theorem round_pow_pair_M (mode : Mode) (neg : Bool) (a b i j i' j' : Nat) (h : i + j' = i' + j) :
    roundMagMode mode neg (a * 2 ^ i) (b * 2 ^ j) = roundMagMode mode neg (a * 2 ^ i') (b * 2 ^ j') :=
  pow_pair_of_scale _ (roundMagMode_scale mode neg) a b i j i' j' h

/-- numerator and denominator of `a·2^e / 2^q` without the case distinction -/
theorem dyadic_num (a : Nat) (q e : Int) :
    (if q ≤ e then a * 2 ^ (e - q).toNat else a) = a * 2 ^ (e - q).toNat := by
  split
  · rfl
  · rw [show (e - q).toNat = 0 by omega, pow_zero, Nat.mul_one]

theorem dyadic_den (q e : Int) : (if q ≤ e then 1 else 2 ^ (q - e).toNat) = 2 ^ (q - e).toNat := by
  split
  · rw [show (q - e).toNat = 0 by omega, pow_zero]
  · rfl

/-- the rational specification of the driver on a dyadic rational, every mode -/
theorem ieeeRoundRatMag_dyadic_M (F : Ieee) (mode : Mode) (neg : Bool) (a j : Nat) (ha : a ≠ 0) :
    ieeeRoundRatMag F mode neg a (2 ^ j) = ieeeRoundMagM F mode neg a (-(j : Int)) := by
  unfold ieeeRoundRatMag ieeeRoundMagM
  simp only [ratTop_dyadic a j ha, dyadic_num, dyadic_den]
  have ht : (bitLen a : Int) + -(j : Int) = (bitLen a : Int) - j := by ring
  rw [ht]
  generalize max ((bitLen a : Int) - j - F.prec) F.qmin = q
  have hp := round_pow_pair_M mode neg a 1 (-q).toNat (j + q.toNat) (-(j : Int) - q).toNat
    (q - -(j : Int)).toNat (by omega)
  have hf := round_pow_pair a 1 (-q).toNat (j + q.toNat) (-(j : Int) - q).toNat (q - -(j : Int)).toNat (by omega)
  simp only [Nat.one_mul] at hp hf
  rw [pow_add] at hp hf
  rw [hp, hf.2]

theorem ieeeRoundMagM_scale (F : Ieee) (mode : Mode) (neg : Bool) (a z : Nat) (e : Int) (ha : a ≠ 0) :
    ieeeRoundMagM F mode neg (a * 2 ^ z) e = ieeeRoundMagM F mode neg a (e + z) := by
  unfold ieeeRoundMagM
  simp only [bitLen_mul_pow a z ha, dyadic_num, dyadic_den]
  have ht : ((bitLen a + z : Nat) : Int) + e = (bitLen a : Int) + (e + z) := by push_cast; ring
  rw [ht]
  generalize max ((bitLen a : Int) + (e + z) - F.prec) F.qmin = q
  have hp := round_pow_pair_M mode neg a 1 (z + (e - q).toNat) (q - e).toNat (e + z - q).toNat
    (q - (e + z)).toNat (by omega)
  have hf := round_pow_pair a 1 (z + (e - q).toNat) (q - e).toNat (e + z - q).toNat (q - (e + z)).toNat (by omega)
  simp only [Nat.one_mul] at hp hf
  rw [show a * 2 ^ z * 2 ^ (e - q).toNat = a * 2 ^ (z + (e - q).toNat) by rw [Nat.mul_assoc, ← pow_add],
    hp, hf.2]

/-- **the rational specification is a function of the value** -/
theorem ieeeRoundRatMag_scale (F : Ieee) (mode : Mode) (neg : Bool) (c a b : Nat) (hc : 0 < c) (ha : a ≠ 0)
    (hb : b ≠ 0) : ieeeRoundRatMag F mode neg (c * a) (c * b) = ieeeRoundRatMag F mode neg a b := by
  unfold ieeeRoundRatMag
  simp only [ratTop_scale c a b hc ha hb, Nat.mul_assoc, roundMagMode_scale mode neg c _ _ hc, flagOf_scale c _ _ _ hc]

theorem ieeeRoundRatMag_congr (F : Ieee) (mode : Mode) (neg : Bool) {a b a' b' : Nat} (ha : a ≠ 0) (hb : b ≠ 0)
    (hb' : b' ≠ 0) (h : a * b' = a' * b) :
    ieeeRoundRatMag F mode neg a b = ieeeRoundRatMag F mode neg a' b' := by
  have ha' : a' ≠ 0 := by
    rintro rfl
    exact Nat.mul_ne_zero ha hb' (by rw [h, Nat.zero_mul])
  rw [← ieeeRoundRatMag_scale F mode neg b' a b (by omega) ha hb,
    ← ieeeRoundRatMag_scale F mode neg b a' b' (by omega) ha' hb', Nat.mul_comm b' a, h, Nat.mul_comm a' b,
    Nat.mul_comm b' b]

/-- the rational specification extends the dyadic one: `a / 2^j` rounds like `a·2^(-j)` -/
theorem ieeeRoundRatMag_dyadic (F : Ieee) (neg : Bool) (a j : Nat) (ha : a ≠ 0) :
    ieeeRoundRatMag F .halfEven neg a (2 ^ j) = ieeeRoundMag F a (-(j : Int)) := by
  rw [ieeeRoundRatMag_dyadic_M F .halfEven neg a j ha, ieeeRoundMagM_halfEven]

/-- **sticky theorem**: a quotient `N / D` with at least two bits below the precision, compressed to
    (integer part | "remainder non-zero") with exponent `x`, rounds like the exact value `N / D · 2^x`, error sign
    included.  Integers (`D = 2^s`), rationals and their truncations are its instances. -/
theorem sticky_spec (F : Ieee) (neg : Bool) (N D : Nat) (hD : 0 < D) (x : Int)
    (hQ : F.prec + 2 ≤ bitLen (N / D)) :
    ieeeRoundMag F ((N / D) ||| (if N % D ≠ 0 then 1 else 0)) x =
      ieeeRoundRatMag F .halfEven neg (N * 2 ^ x.toNat) (D * 2 ^ (-x).toNat) := by
  generalize hL : bitLen (N / D) = L at hQ
  have hprec : F.prec = F.MB + 1 := rfl
  have hQ0 : N / D ≠ 0 := by
    intro h0; rw [h0] at hL; have : bitLen 0 = 0 := rfl; omega
  have hQlo := bitLen_le hQ0
  have hQhi := @bitLen_lt (N / D)
  rw [hL] at hQlo hQhi
  have hQ2 : 2 ≤ N / D := le_trans (show 2 ^ 1 ≤ 2 ^ (L - 1) from pow_le_pow2 (by omega)) hQlo
  have hst2 : (if N % D ≠ 0 then 1 else 0) < 2 := by split <;> decide
  generalize hm : (N / D) ||| (if N % D ≠ 0 then 1 else 0) = m
  have hblm : bitLen m = L := by rw [← hm, bitLen_or_bit _ _ hst2 hQ2, hL]
  -- the binade of the exact value is the one the quotient shows
  have hNlo : 2 ^ (L - 1) * D ≤ N := (Nat.le_div_iff_mul_le hD).mp hQlo
  have hNhi : N < 2 ^ L * D := (Nat.div_lt_iff_lt_mul hD).mp hQhi
  have hN0 : N ≠ 0 := by rintro rfl; exact hQ0 (Nat.zero_div D)
  have hP : 0 < 2 ^ x.toNat * 2 ^ (-x).toNat := Nat.mul_pos (Nat.two_pow_pos _) (Nat.two_pow_pos _)
  have htop : ratTop (N * 2 ^ x.toNat) (D * 2 ^ (-x).toNat) = (L : Int) + x := by
    rw [ratTop_eq_of (Nat.mul_ne_zero hN0 (Nat.two_pow_pos _).ne')
      (Nat.mul_ne_zero hD.ne' (Nat.two_pow_pos _).ne') (L + x.toNat) (-x).toNat]
    · omega
    · calc D * 2 ^ (-x).toNat * 2 ^ (L + x.toNat)
          = 2 * (2 ^ (L - 1) * D) * (2 ^ x.toNat * 2 ^ (-x).toNat) := by
            rw [pow_add, two_pow_pred L (by omega)]; ring
        _ ≤ 2 * N * (2 ^ x.toNat * 2 ^ (-x).toNat) := Nat.mul_le_mul_right _ (Nat.mul_le_mul_left 2 hNlo)
        _ = N * 2 ^ x.toNat * 2 ^ ((-x).toNat + 1) := by rw [pow_succ]; ring
    · calc N * 2 ^ x.toNat * 2 ^ (-x).toNat = N * (2 ^ x.toNat * 2 ^ (-x).toNat) := by ring
        _ < 2 ^ L * D * (2 ^ x.toNat * 2 ^ (-x).toNat) := Nat.mul_lt_mul_of_pos_right hNhi hP
        _ = D * 2 ^ (-x).toNat * 2 ^ (L + x.toNat) := by rw [pow_add]; ring
  unfold ieeeRoundMag ieeeRoundRatMag roundMag
  simp only [hblm, htop]
  generalize hq : max ((L : Int) + x - F.prec) F.qmin = q
  -- at least two bits of `m` are discarded
  obtain ⟨k, hqk, hk2⟩ : ∃ k : Nat, q = x + k ∧ 2 ≤ k := ⟨(q - x).toNat, by omega, by omega⟩
  simp only [show ¬ (q ≤ x) by omega, if_false, show (q - x).toNat = k by omega]
  have hcore := rat_sticky_core N D k hD hk2 m hm.symm
  have hpair := round_pow_pair N D 0 k (x.toNat + (-q).toNat) ((-x).toNat + q.toNat) (by omega)
  rw [pow_zero, Nat.mul_one, pow_add, pow_add, ← Nat.mul_assoc, ← Nat.mul_assoc] at hpair
  rw [roundMagMode_halfEven neg _ _ (Nat.mul_pos (Nat.mul_pos hD (Nat.two_pow_pos _)) (Nat.two_pow_pos _)),
    ← hpair.1, ← hpair.2, ← (Prod.mk.inj hcore).2, ← (Prod.mk.inj hcore).1]

/-- **sticky-bit lemma** for the specification, the integer instance of `sticky_spec` (`D = 2^s`): a value with at
    least two bits below the precision may be compressed to (top bits | sticky) without changing the rounded result or
    the error sign -/
theorem sticky_round (F : Ieee) (x s : Nat) (e : Int) (hx : x ≠ 0) (hlen : F.prec + 2 + s ≤ bitLen x) :
    ieeeRoundMag F ((x / 2 ^ s) ||| (if x % 2 ^ s ≠ 0 then 1 else 0)) (e + s) = ieeeRoundMag F x e := by
  rw [sticky_spec F false x (2 ^ s) (Nat.two_pow_pos s) (e + s) (by rw [bitLen_div_pow x s (by omega)]; omega),
    ← pow_add, ieeeRoundRatMag_dyadic_M F _ _ _ _ (Nat.mul_ne_zero hx (Nat.two_pow_pos _).ne'),
    ieeeRoundMagM_scale F _ _ x _ _ hx, ieeeRoundMagM_halfEven]
  congr 1; push_cast; omega

end Dashu.Model.Conv
