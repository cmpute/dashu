import Dashu.Proofs.Serde.Num
import Dashu.Proofs.Text.Digits
import Dashu.Proofs.Text.FloatGrammar
/-
  C19 — the human-readable medium: decimal text of UBig / IBig survives `Display` → JSON string →
  `from_str_with_radix_prefix`; text decoders of rationals and floats return canonical values.
-/
namespace Dashu.Model.Serde
open Dashu.Model.Text

def isDecDigits (l : Bytes) : Prop := ∀ c ∈ l, 48 ≤ c ∧ c ≤ 57

theorem printSpec_dec (n : Nat) : isDecDigits (printSpec 10 false n) := printSpec10_chars n

theorem parseBodySpec_print (n : Nat) : parseBodySpec 10 (printSpec 10 false n) = .ok n :=
  parseBodySpec_printSpec 10 false n (by omega) (by omega)

theorem splitPrefix_dec (l : Bytes) (h : isDecDigits l) : splitPrefix 10 l = (10, l) := by
  unfold splitPrefix
  split
  · rename_i rest; have := h 98 (by simp); omega
  · rename_i rest; have := h 111 (by simp); omega
  · rename_i rest; have := h 120 (by simp); omega
  · rfl

theorem printSpec_ne_nil (n : Nat) : printSpec 10 false n ≠ [] := by
  unfold printSpec
  simpa using digits_ne_nil 10 n (by omega)

/-- the decimal text of an integer parses back, as signed text always and as unsigned text when it
    has no sign -/
theorem parseDefault_textI (signed : Bool) (z : Int) (hs : z < 0 → signed = true) :
    parseDefaultSpec signed (textI z) 10 = .ok (z, 10) := by
  unfold parseDefaultSpec textI
  rw [splitSign_printSpecInt signed 10 false z hs]
  dsimp only
  rw [splitPrefix_dec _ (printSpec_dec _)]
  dsimp only
  rw [parseBodySpec_print]
  simp only [validRadix, Except.map, applySign_natAbs]
  rfl

/-- the bytes of decimal integer text: a minus sign or a digit -/
theorem textI_chars (z : Int) : ∀ c ∈ textI z, c = 45 ∨ (48 ≤ c ∧ c ≤ 57) := by
  intro c hc
  unfold textI printSpecInt at hc
  rcases List.mem_append.mp hc with h | h
  · split at h
    · exact Or.inl (List.mem_singleton.mp h)
    · cases h
  · exact Or.inr (printSpec_dec _ c h)

theorem textI_plain (z : Int) : ∀ c ∈ textI z, plainChar c := by
  intro c hc
  unfold plainChar
  have := textI_chars z c hc
  omega

-- ---------------------------------------------------------------- rational text round trip

theorem splitAt1_none (c : Nat) (a : Bytes) (h : c ∉ a) : splitAt1 c a = none := by
  induction a with
  | nil => rfl
  | cons x xs ih =>
    have hx : x ≠ c := fun e => h (by simp [e])
    have hxs : c ∉ xs := fun e => h (by simp [e])
    simp [splitAt1, hx, ih hxs]

theorem splitAt1_append (c : Nat) (a b : Bytes) (h : c ∉ a) : splitAt1 c (a ++ c :: b) = some (a, b) := by
  induction a with
  | nil => simp [splitAt1]
  | cons x xs ih =>
    have hx : x ≠ c := fun e => h (by simp [e])
    have hxs : c ∉ xs := fun e => h (by simp [e])
    simp [splitAt1, hx, ih hxs]

theorem textI_no_slash (z : Int) : 47 ∉ textI z := fun hc => by
  have := textI_chars z 47 hc
  omega

theorem parseQRaw_textQ (q : QVal) : parseQRaw (textQ q) = some (q.num, q.den) := by
  unfold textQ
  split
  next h1 =>
    unfold parseQRaw
    rw [splitAt1_none 47 _ (textI_no_slash q.num)]
    simp only [parseDefault_textI true q.num (fun _ => rfl), h1]
  next h1 =>
    unfold parseQRaw
    rw [List.append_assoc, List.singleton_append, splitAt1_append 47 _ _ (textI_no_slash q.num)]
    simp only [parseDefault_textI true _ (fun _ => rfl)]
    have hneg : ¬ ((q.den : Int) < 0) := by omega
    simp [hneg]

theorem textQ_plain (q : QVal) : ∀ c ∈ textQ q, plainChar c := by
  intro c hc
  unfold textQ at hc
  split at hc
  · exact textI_plain _ c hc
  · rw [List.append_assoc, List.mem_append, List.mem_append, List.mem_singleton] at hc
    rcases hc with h | rfl | h
    · exact textI_plain _ c h
    · unfold plainChar; omega
    · exact textI_plain _ c h

/-- the common shape of `parseQ` and `parseX`: the raw fraction, a zero denominator refused, then
    the reduction `red` -/
def parseRat (red : Int → Nat → QVal) (s : Bytes) : Option QVal := do
  let (n, d) ← parseQRaw s
  if d = 0 then none else pure (red n d)

theorem parseRat_jsonQ (red : Int → Nat → QVal) (q : QVal) (hd : 0 < q.den) (hred : red q.num q.den = q) :
    (jsonUnquote (jsonQ q)).bind (parseRat red) = some q := by
  have hd0 : q.den ≠ 0 := Nat.ne_of_gt hd
  unfold jsonQ parseRat
  rw [jsonUnquote_jsonQuote _ (textQ_plain q), Option.bind_some, parseQRaw_textQ q]
  simp only [Option.bind_eq_bind, Option.bind_some]
  rw [if_neg hd0, hred]
  rfl

theorem parseRat_some (red : Int → Nat → QVal) {s : Bytes} {q : QVal}
    (h : (jsonUnquote s).bind (parseRat red) = some q) : ∃ n d, 0 < d ∧ q = red n d := by
  simp only [parseRat, Option.bind_eq_bind, Option.bind_eq_some_iff, Prod.exists] at h
  obtain ⟨t, -, n, d, -, h⟩ := h
  split at h
  · cases h
  next hd => cases h; exact ⟨n, d, Nat.pos_of_ne_zero hd, rfl⟩

-- ---------------------------------------------------------------- canonicity of the text decoders

-- ---------------------------------------------------------------- float text (on the model of `Model/Text/Float.lean`)

section FloatText
open Dashu.Model.Float

theorem toRat_eq_zero (B : Nat) (hB : 0 < B) (x : FRepr) : x.toRat B = 0 ↔ x.signif = 0 := by
  unfold FRepr.toRat
  rw [mul_eq_zero, or_iff_left (ne_of_gt (bpowQ_pos B hB x.exp)), Int.cast_eq_zero]

/-- a normalised non-zero representation has the largest exponent among those of its value -/
theorem normalized_exp_le (B : Nat) (hB : 0 < B) (x y : FRepr) (hx : Normalized B x) (hx0 : x.signif ≠ 0)
    (hle : x.exp ≤ y.exp) (h : x.toRat B = y.toRat B) : x = y := by
  obtain ⟨k, hk⟩ : ∃ k : Nat, y.exp = x.exp + k := ⟨(y.exp - x.exp).toNat, by omega⟩
  unfold FRepr.toRat at h
  rw [hk, bpowQ_add B hB, bpowQ_nat] at h
  have h2 : (x.signif : ℚ) = (y.signif : ℚ) * ((B ^ k : Nat) : ℚ) :=
    mul_right_cancel₀ (ne_of_gt (bpowQ_pos B hB x.exp)) (by rw [h]; ring)
  have h3 : x.signif = y.signif * ((B ^ k : Nat) : Int) := by exact_mod_cast h2
  cases k with
  | zero =>
    rw [Nat.pow_zero, Int.natCast_one, Int.mul_one] at h3
    rw [Int.natCast_zero, Int.add_zero] at hk
    cases x; cases y; simp_all
  | succ j =>
    -- a positive exponent difference makes `B` divide the significand of `x`
    refine absurd ?_ (hx.resolve_left hx0)
    rw [h3, Nat.pow_succ, Int.natCast_mul, ← Int.mul_assoc]
    exact Int.mul_emod_left _ _

/-- two normalised representations of the same number coincide -/
theorem normalized_unique (B : Nat) (hB : 2 ≤ B) (a b : FRepr) (ha : Normalized B a) (hb : Normalized B b)
    (hza : a.signif = 0 → a.exp = 0) (hzb : b.signif = 0 → b.exp = 0)
    (hv : a.toRat B = b.toRat B) : a = b := by
  have hB0 : 0 < B := by omega
  have h0 : a.signif = 0 ↔ b.signif = 0 := by
    rw [← toRat_eq_zero B hB0 a, ← toRat_eq_zero B hB0 b, hv]
  by_cases ha0 : a.signif = 0
  · have hb0 := h0.mp ha0
    have hae := hza ha0
    have hbe := hzb hb0
    cases a; cases b; simp_all
  · rcases Int.le_total a.exp b.exp with h | h
    · exact normalized_exp_le B hB0 a b ha ha0 h hv
    · exact (normalized_exp_le B hB0 b a hb (mt h0.mpr ha0) h hv.symm).symm

/-- the two ways of saying that the base does not divide a significand -/
theorem natAbs_emod_eq_zero (s : Int) (B : Nat) : s.natAbs % B = 0 ↔ s % (B : Int) = 0 := by
  rw [← Nat.dvd_iff_mod_eq_zero, ← Int.natCast_dvd, Int.dvd_iff_emod_eq_zero]

theorem new_zero_exp (B : Nat) (hB : 0 < B) (s e : Int) (h : (FRepr.new B s e).signif = 0) :
    FRepr.new B s e = ⟨0, 0⟩ := by
  have hv := (toRat_eq_zero B hB _).mpr h
  rw [FRepr.new_value B hB s e] at hv
  have hs : s = 0 := (toRat_eq_zero B hB ⟨s, e⟩).mp hv
  subst hs
  simp [FRepr.new]

/-- `FCanon`'s condition on a non-zero significand is `Normalized` -/
theorem normalized_iff (B : Nat) (s e : Int) : Normalized B ⟨s, e⟩ ↔ (s ≠ 0 → s.natAbs % B ≠ 0) := by
  simp only [Normalized, ne_eq, natAbs_emod_eq_zero, or_iff_not_imp_left]

/-- `Display` (no precision option) followed by `from_str_native` returns the representation itself,
    for every finite canonical `Repr<B>`, every base 2..36 -/
theorem parseF_textF (B : Nat) (hB : validRadix B = true) (v : FVal) (hc : FCanon B v)
    (hfin : v.signif = 0 → v.exp = 0) : ∃ nd, parseF B (textF B v) = some (v, nd) := by
  have hr := validRadix_iff.mp hB
  have hB0 : 0 < B := by omega
  have hninf : ¬ (v.signif = 0 ∧ v.exp ≠ 0) := fun h => h.2 (hfin h.1)
  unfold textF
  rw [if_neg hninf]
  obtain ⟨r', n, hparse, hval⟩ := display_parse_round_trip 64 (by norm_num) B hB .zero ⟨v.signif, v.exp⟩
  unfold fromStrNative at hparse
  unfold parseF
  cases hraw : fromStrNativeRaw 64 B (fmtRound B .zero {} none ⟨v.signif, v.exp⟩) with
  | error e => rw [hraw] at hparse; cases hparse
  | ok t =>
    obtain ⟨sig, e, nd⟩ := t
    rw [hraw] at hparse
    cases hparse
    -- both are normalised representations of the value that was printed
    have heq : FRepr.new B sig e = ⟨v.signif, v.exp⟩ :=
      normalized_unique B hr.1 _ _ (FRepr.new_normalized B hr.1 sig e) ((normalized_iff B _ _).mpr hc.2.1)
        (fun h0 => by rw [new_zero_exp B hB0 sig e h0]) hfin hval
    have hin : inIsize v.exp := hc.2.2
    exact ⟨nd, by simp only [heq, hin, if_true]⟩

theorem digitChar_plain (d : Nat) (hd : d < 36) : plainChar (digitChar false d) := by
  unfold digitChar plainChar
  split
  · omega
  · simp only [Bool.false_eq_true, if_false]; omega

theorem fmtRound_plain (B : Nat) (hB : validRadix B = true) (m : Mode) (r : FRepr) :
    ∀ c ∈ fmtRound B m {} none r, plainChar c := by
  have hr := validRadix_iff.mp hB
  obtain ⟨di, frac, htext, hdi, hdf, _, _⟩ := display_is_literal B hr.1 m r
  rw [htext]
  intro c hc
  unfold renderLiteral at hc
  rcases List.mem_append.mp hc with h | h
  · -- sign
    split at h
    · have : c = 45 := by simpa [signChars] using h
      subst this; unfold plainChar; omega
    · simp [signChars] at h
  · rcases List.mem_append.mp h with h | h
    · rcases List.mem_append.mp h with h | h
      · obtain ⟨d, hd, rfl⟩ := chars_mem h
        exact digitChar_plain d (by have := hdi d hd; omega)
      · cases frac with
        | none => simp [fracChars] at h
        | some df =>
          simp only [fracChars, List.mem_cons] at h
          rcases h with h | h
          · subst h; unfold plainChar; omega
          · obtain ⟨d, hd, rfl⟩ := chars_mem h
            exact digitChar_plain d (by have := hdf d (by simpa using hd); omega)
    · simp [scaleChars] at h

theorem parseF_canonical (B : Nat) (hB : 2 ≤ B) (s : Bytes) (v : FVal) (nd : Nat)
    (h : parseF B s = some (v, nd)) : FCanon B v := by
  unfold parseF at h
  split at h
  next sig e k hraw =>
    dsimp only at h
    split at h
    next hin =>
      cases h
      refine ⟨fun h0 => ?_, (normalized_iff B _ _).mp (FRepr.new_normalized B hB sig e), hin⟩
      dsimp only at h0 ⊢
      rw [new_zero_exp B (by omega) sig e h0]
      exact Or.inl rfl
    · cases h
  · cases h

/-- the text of a finite canonical `Repr<B>` survives the JSON string and parses back to it -/
theorem parseF_jsonR (B : Nat) (hB : validRadix B = true) (v : FVal) (hc : FCanon B v)
    (hfin : v.signif = 0 → v.exp = 0) : ∃ nd, (jsonUnquote (jsonR B v)).bind (parseF B) = some (v, nd) := by
  have hninf : ¬ (v.signif = 0 ∧ v.exp ≠ 0) := fun h => h.2 (hfin h.1)
  have hplain : ∀ c ∈ textF B v, plainChar c := by
    unfold textF; rw [if_neg hninf]
    exact fmtRound_plain B hB .zero _
  unfold jsonR
  rw [jsonUnquote_jsonQuote _ hplain]
  exact parseF_textF B hB v hc hfin

/-- Repr<B>: `Display` → JSON string → `from_str_native` is the identity on finite canonical
    representations, every base 2..36 -/
theorem unjsonR_jsonR (B : Nat) (hB : validRadix B = true) (v : FVal) (hc : FCanon B v)
    (hfin : v.signif = 0 → v.exp = 0) : unjsonR B (jsonR B v) = some v := by
  obtain ⟨nd, h⟩ := parseF_jsonR B hB v hc hfin
  unfold unjsonR
  rw [h]; rfl

/-- FBig: the same text; the precision read back is the number of digits written -/
theorem unjsonF_jsonR (B : Nat) (hB : validRadix B = true) (v : FVal) (hc : FCanon B v)
    (hfin : v.signif = 0 → v.exp = 0) : ∃ nd, unjsonF B (jsonR B v) = some ⟨v.signif, v.exp, nd⟩ := by
  obtain ⟨nd, h⟩ := parseF_jsonR B hB v hc hfin
  unfold unjsonF
  exact ⟨nd, by rw [h]; rfl⟩

end FloatText

end Dashu.Model.Serde
