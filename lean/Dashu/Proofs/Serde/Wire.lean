import Dashu.Model.Serde.Wire
import Dashu.Proofs.Text.Digits
import Mathlib.Tactic.Ring
import Mathlib.Tactic.Linarith
/-
  C19 — lemmas about the media: little-endian bytes, postcard varints / zig-zag / byte strings,
  JSON string quoting.
-/
namespace Dashu.Model.Serde

-- ---------------------------------------------------------------- little-endian bytes

theorem leBytes_zero : leBytes 0 = [] := by rw [leBytes]; simp

theorem leBytes_pos {n : Nat} (h : n ≠ 0) : leBytes n = n % 256 :: leBytes (n / 256) := by
  rw [leBytes]; simp [h]

/-- the minimal bytes are the base-256 digits of C07's positional specification -/
theorem leBytes_eq_leBytesSpec (n : Nat) : leBytes n = Text.leBytesSpec n := by
  unfold Text.leBytesSpec
  induction n using Nat.strongRecOn with
  | _ n ih =>
    by_cases h : n = 0
    · subst h; rw [leBytes_zero, Text.digitsAux_zero]; rfl
    · rw [leBytes_pos h, Text.digitsAux_succ (by omega) h, List.reverse_append,
        ih (n / 256) (Nat.div_lt_self (by omega) (by omega))]
      simp

/-- the value of a byte string is its positional value in base 256 -/
theorem ofLeBytes_eq_ofLeBytesSpec (bs : Bytes) : ofLeBytes bs = Text.ofLeBytesSpec bs := by
  unfold Text.ofLeBytesSpec
  induction bs with
  | nil => rfl
  | cons b t ih => rw [ofLeBytes, Text.ofDigitsLE, ih]

/-- `from_le_bytes (to_le_bytes n) = n` -/
theorem ofLeBytes_leBytes (n : Nat) : ofLeBytes (leBytes n) = n := by
  rw [leBytes_eq_leBytesSpec, ofLeBytes_eq_ofLeBytesSpec, Text.ofLeBytesSpec, Text.leBytesSpec, Text.ofDigitsLE_reverse]
  exact Text.ofDigits_digitsAux (by omega) n

theorem leBytes_isBytes (n : Nat) : isBytes (leBytes n) := by
  intro b hb
  rw [leBytes_eq_leBytesSpec, Text.leBytesSpec, List.mem_reverse] at hb
  exact Text.digitsAux_lt (by omega) n b hb

/-- the encoding is minimal: the most significant byte is not zero -/
theorem leBytes_getLast_ne_zero (n : Nat) : (leBytes n).getLast? ≠ some 0 := by
  rw [leBytes_eq_leBytesSpec, Text.leBytesSpec, List.getLast?_reverse]
  exact Text.digitsAux_head_ne_zero (by omega) n

theorem ofLeBytes_append (a b : Bytes) : ofLeBytes (a ++ b) = ofLeBytes a + 256 ^ a.length * ofLeBytes b := by
  simp only [ofLeBytes_eq_ofLeBytesSpec]; exact Text.ofDigitsLE_append 256 a b

/-- zero bytes at the most significant end do not change the value (`from_le_bytes` accepts them) -/
theorem ofLeBytes_append_zero (a : Bytes) : ofLeBytes (a ++ [0]) = ofLeBytes a := by
  rw [ofLeBytes_append]; simp [ofLeBytes]

-- ---------------------------------------------------------------- varints

theorem varintEnc_small {n : Nat} (h : n < 128) : varintEnc n = [n] := by
  rw [varintEnc]; simp [h]

theorem varintEnc_big {n : Nat} (h : ¬ n < 128) : varintEnc n = (n % 128 + 128) :: varintEnc (n / 128) := by
  rw [varintEnc]; simp [h]

theorem varintDecAux_enc (rest : Bytes) :
    ∀ (f i out n : Nat), i + f = 10 → 1 ≤ f → n < 2 ^ (64 - 7 * i) →
      varintDecAux f i out (varintEnc n ++ rest) = some (out + n * 2 ^ (7 * i), rest) := by
  intro f
  induction f with
  | zero => intro i out n _ h; omega
  | succ f ih =>
    intro i out n hif _ hn
    -- for the tenth byte only one bit is left
    have h9 : f = 0 → n < 2 := by
      intro hf
      have hi : i = 9 := by omega
      subst hi
      simpa using hn
    by_cases hs : n < 128
    · have hlast : ¬ (f = 0 ∧ n > 1) := fun ⟨hf, h1⟩ => by have := h9 hf; omega
      rw [varintEnc_small hs]
      simp only [List.singleton_append, varintDecAux]
      rw [if_pos hs, if_neg hlast, Nat.mod_eq_of_lt hs]
    · have hf : f ≠ 0 := fun hf => by have := h9 hf; omega
      have hn' : n / 128 < 2 ^ (64 - 7 * (i + 1)) := by
        rw [show 64 - 7 * i = (64 - 7 * (i + 1)) + 7 by omega, Nat.pow_add] at hn
        exact Nat.div_lt_of_lt_mul (by simpa [Nat.mul_comm] using hn)
      rw [varintEnc_big hs]
      simp only [List.cons_append, varintDecAux]
      rw [if_neg (by omega), ih (i + 1) _ (n / 128) (by omega) (by omega) hn',
        show (n % 128 + 128) % 128 = n % 128 by omega, show 7 * (i + 1) = 7 * i + 7 by omega, Nat.pow_add]
      congr 2
      conv_rhs => rw [← Nat.div_add_mod n 128]
      generalize 2 ^ (7 * i) = p
      ring

/-- reading back a length / precision written by postcard -/
theorem varintDec_varintEnc (n : Nat) (rest : Bytes) (h : n < 2 ^ 64) :
    varintDec (varintEnc n ++ rest) = some (n, rest) := by
  unfold varintDec
  rw [varintDecAux_enc rest 10 0 0 n (by omega) (by omega) (by simpa using h)]
  simp

theorem unzigzag_zigzag (z : Int) : unzigzag (zigzag z) = z := by
  unfold zigzag unzigzag
  by_cases h : z < 0
  · rw [if_pos h, if_neg (by omega)]; omega
  · rw [if_neg h, if_pos (by omega)]; omega

theorem zigzag_lt (z : Int) (h : inI64 z) : zigzag z < 2 ^ 64 := by
  unfold inI64 at h
  unfold zigzag
  have e63 : (2 : Int) ^ 63 = 9223372036854775808 := by norm_num
  have e64 : (2 : Nat) ^ 64 = 18446744073709551616 := by norm_num
  rw [e63] at h
  rw [e64]
  split <;> omega

theorem pcTakeI64_pcI64 (z : Int) (rest : Bytes) (h : inI64 z) : pcTakeI64 (pcI64 z ++ rest) = some (z, rest) := by
  unfold pcTakeI64 pcI64
  rw [varintDec_varintEnc _ _ (zigzag_lt z h)]
  simp [unzigzag_zigzag]

theorem pcTakeU64_pcU64 (n : Nat) (rest : Bytes) (h : n < 2 ^ 64) : pcTakeU64 (pcU64 n ++ rest) = some (n, rest) :=
  varintDec_varintEnc n rest h

/-- `deserialize_bytes ∘ serialize_bytes`: the payload comes back and exactly the rest is left -/
theorem pcTakeBytes_pcBytes (bs rest : Bytes) (h : bs.length < 2 ^ 64) :
    pcTakeBytes (pcBytes bs ++ rest) = some (bs, rest) := by
  unfold pcTakeBytes pcBytes
  rw [List.append_assoc, varintDec_varintEnc _ _ h]
  simp

-- ---------------------------------------------------------------- JSON

theorem jsonStrBody_plain (c : Nat) (rest acc : Bytes) (h : plainChar c) :
    jsonStrBody (c :: rest) acc = jsonStrBody rest (c :: acc) := by
  obtain ⟨h1, h2, h3⟩ := h
  -- the fall-through equation of `jsonStrBody`; its side conditions say that `c` is neither `"` nor `\`
  rw [jsonStrBody.eq_13, if_neg (Nat.not_lt.2 h1)]
  all_goals intros; omega

theorem jsonStrBody_plain_list (s rest acc : Bytes) (h : ∀ c ∈ s, plainChar c) :
    jsonStrBody (s ++ 34 :: rest) acc = some (acc.reverse ++ s, rest) := by
  induction s generalizing acc with
  | nil => simp [jsonStrBody]
  | cons c cs ih =>
    rw [List.cons_append, jsonStrBody_plain c _ _ (h c (by simp))]
    rw [ih (c :: acc) (fun x hx => h x (by simp [hx]))]
    simp

theorem jsonEscapeChar_plain (c : Nat) (h : plainChar c) : jsonEscapeChar c = [c] := by
  obtain ⟨h1, h2, h3⟩ := h
  unfold jsonEscapeChar
  have : c ≠ 8 ∧ c ≠ 9 ∧ c ≠ 10 ∧ c ≠ 12 ∧ c ≠ 13 ∧ ¬ c < 32 := by omega
  simp [h2, h3, this]

theorem flatMap_escape_plain (s : Bytes) (h : ∀ c ∈ s, plainChar c) : s.flatMap jsonEscapeChar = s := by
  induction s with
  | nil => rfl
  | cons c cs ih =>
    rw [List.flatMap_cons, jsonEscapeChar_plain c (h c (by simp)), ih (fun x hx => h x (by simp [hx]))]
    rfl

/-- a text made of plain characters survives quoting and unquoting -/
theorem jsonUnquote_jsonQuote (s : Bytes) (h : ∀ c ∈ s, plainChar c) : jsonUnquote (jsonQuote s) = some s := by
  unfold jsonUnquote jsonQuote
  rw [flatMap_escape_plain s h]
  have : List.dropWhile jsonWs (34 :: s ++ [34]) = 34 :: (s ++ [34]) := by
    rw [List.cons_append, List.dropWhile_cons]; simp [jsonWs]
  rw [this]
  simp only
  rw [jsonStrBody_plain_list s [] [] h]
  simp

end Dashu.Model.Serde
