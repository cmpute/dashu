import Dashu.Model.Serde.Num
import Dashu.Proofs.Serde.Wire
import Dashu.Proofs.Gen.Tz
/-
  C19 — round trips and canonicity of dashu's serde impls (binary medium), as modelled in
  `Model/Serde/Num.lean`.
-/
namespace Dashu.Model.Serde

-- ---------------------------------------------------------------- UBig / IBig

theorem decU_encU (n : Nat) (rest : Bytes) (h : (leBytes n).length < 2 ^ 64) :
    decU (encU n ++ rest) = some (n, rest) := by
  unfold decU encU
  rw [pcTakeBytes_pcBytes _ _ h, Option.map_some]
  simp only [ofLeBytes_leBytes]

/-- the padding byte does not change the magnitude -/
theorem ofLeBytes_ibigPayload (z : Int) : ofLeBytes (ibigPayload z) = z.natAbs := by
  unfold ibigPayload
  split
  next h0 => rw [h0]; rfl
  next h0 =>
    dsimp only
    split
    · rw [ofLeBytes_append_zero, ofLeBytes_leBytes]
    · exact ofLeBytes_leBytes _

/-- the sign is in the parity of the length -/
theorem ibigPayload_length_odd (z : Int) : (ibigPayload z).length % 2 = 1 ↔ z < 0 := by
  unfold ibigPayload
  split
  next h0 => rw [h0]; decide
  next h0 =>
    dsimp only
    split
    next hp => rw [List.length_append, List.length_singleton]; omega
    next hp => omega

theorem ibigOfPayload_ibigPayload (z : Int) : ibigOfPayload (ibigPayload z) = z := by
  unfold ibigOfPayload
  rw [ofLeBytes_ibigPayload]
  have hs := ibigPayload_length_odd z
  split <;> omega

theorem decI_encI (z : Int) (rest : Bytes) (h : (ibigPayload z).length < 2 ^ 64) :
    decI (encI z ++ rest) = some (z, rest) := by
  unfold decI encI
  rw [pcTakeBytes_pcBytes _ _ h, Option.map_some]
  simp only [ibigOfPayload_ibigPayload]

/-- "negative zero" cannot be constructed: an odd-length payload of zero bytes is the number 0 -/
theorem ibig_no_negative_zero (b : Bytes) (h : ofLeBytes b = 0) : ibigOfPayload b = 0 := by
  unfold ibigOfPayload; split <;> simp [h]

-- ---------------------------------------------------------------- rationals

theorem qreduce_of_reduced (q : QVal) (h : QReduced q) : qreduce q.num q.den = q := by
  obtain ⟨hd, hg⟩ := h
  unfold qreduce
  split
  next h0 =>
    rw [h0, Int.natAbs_zero, Nat.gcd_zero_left] at hg
    cases q; simp_all
  next h0 => rw [hg]; cases q; simp

theorem tz_zero : tz 0 = 0 := by rw [tz]; simp
theorem tz_odd {n : Nat} (h : n % 2 = 1) : tz n = 0 := by rw [tz]; simp [h]
theorem tz_even {n : Nat} (h0 : n ≠ 0) (h : n % 2 = 0) : tz n = tz (n / 2) + 1 := by
  rw [tz, dif_neg (by omega)]

/-- `2^(tz n)` divides `n` and the quotient is odd (for `n ≠ 0`) -/
theorem tz_spec (n : Nat) (h : n ≠ 0) : 2 ^ tz n ∣ n ∧ (n / 2 ^ tz n) % 2 = 1 :=
  have ht := IsTz.of_halving (fun _ => tz_odd) (fun _ => tz_even) n h
  ⟨ht.dvd, ht.2⟩

theorem tz_pos_of_even {n : Nat} (h0 : n ≠ 0) (h : n % 2 = 0) : 0 < tz n := by
  rw [tz_even h0 h]; omega

/-- the common power of two that `reduce2` removes divides both and leaves one quotient odd -/
theorem tz_min_spec {a b : Nat} (ha : a ≠ 0) (hb : b ≠ 0) :
    2 ^ min (tz a) (tz b) ∣ a ∧ 2 ^ min (tz a) (tz b) ∣ b ∧
      ((a / 2 ^ min (tz a) (tz b)) % 2 = 1 ∨ (b / 2 ^ min (tz a) (tz b)) % 2 = 1) := by
  obtain ⟨ha1, ha2⟩ := tz_spec a ha
  obtain ⟨hb1, hb2⟩ := tz_spec b hb
  refine ⟨Nat.dvd_trans (Nat.pow_dvd_pow 2 (Nat.min_le_left ..)) ha1,
    Nat.dvd_trans (Nat.pow_dvd_pow 2 (Nat.min_le_right ..)) hb1, ?_⟩
  rcases Nat.le_total (tz a) (tz b) with h | h
  · rw [Nat.min_eq_left h]; exact Or.inl ha2
  · rw [Nat.min_eq_right h]; exact Or.inr hb2

theorem qreduce2_of_relaxed (q : QVal) (h : QRelaxed q) : qreduce2 q.num q.den = q := by
  obtain ⟨n, d⟩ := q
  obtain ⟨-, hg, hz⟩ := h
  dsimp only at hg hz ⊢
  unfold qreduce2
  split
  next h0 => rw [h0, hz h0]
  next h0 =>
    -- one of the two is odd, so nothing is removed
    have hmin : min (tz n.natAbs) (tz d) = 0 := by
      by_cases hd2 : d % 2 = 1
      · rw [tz_odd hd2, Nat.min_zero]
      · rw [tz_odd (n := n.natAbs) (by omega), Nat.zero_min]
    rw [hmin]
    simp

theorem qreduce_reduced (n : Int) (d : Nat) (hd : 0 < d) : QReduced (qreduce n d) := by
  unfold qreduce
  split
  next h0 => exact ⟨Nat.one_pos, Nat.gcd_one_right _⟩
  next h0 =>
    have hg : 0 < Nat.gcd n.natAbs d := Nat.gcd_pos_of_pos_right _ hd
    refine ⟨Nat.div_pos (Nat.gcd_le_right _ hd) hg, ?_⟩
    show Nat.gcd (n / ((Nat.gcd n.natAbs d : Nat) : Int)).natAbs (d / Nat.gcd n.natAbs d) = 1
    rw [Int.natAbs_ediv_of_dvd (Int.natCast_dvd.mpr (Nat.gcd_dvd_left ..)), Int.natAbs_natCast]
    exact Nat.coprime_div_gcd_div_gcd hg

theorem qreduce2_relaxed (n : Int) (d : Nat) (hd : 0 < d) : QRelaxed (qreduce2 n d) := by
  unfold qreduce2
  split
  next h0 => exact ⟨Nat.one_pos, by decide, fun _ => rfl⟩
  next h0 =>
    obtain ⟨hzn, hzd, hodd⟩ := tz_min_spec (Int.natAbs_ne_zero.mpr h0) (Nat.ne_of_gt hd)
    generalize min (tz n.natAbs) (tz d) = z at hzn hzd hodd
    have hpos : 0 < 2 ^ z := Nat.two_pow_pos z
    have habs : (n / ((2 ^ z : Nat) : Int)).natAbs = n.natAbs / 2 ^ z := by
      rw [Int.natAbs_ediv_of_dvd (Int.natCast_dvd.mpr hzn), Int.natAbs_natCast]
    have hq1 : 0 < n.natAbs / 2 ^ z := Nat.div_pos (Nat.le_of_dvd (by omega) hzn) hpos
    refine ⟨Nat.div_pos (Nat.le_of_dvd hd hzd) hpos, ?_, ?_⟩
    · show ¬ ((n / ((2 ^ z : Nat) : Int)) % 2 = 0 ∧ (d / 2 ^ z) % 2 = 0)
      omega
    · show n / ((2 ^ z : Nat) : Int) = 0 → d / 2 ^ z = 1
      omega

/-- the common shape of `decQ` and `decX`: numerator, denominator, a zero denominator refused,
    then the reduction `red` -/
def decRat (red : Int → Nat → QVal) (s : Bytes) : Option (QVal × Bytes) := do
  let (n, r1) ← decI s
  let (d, r2) ← decU r1
  if d = 0 then none else pure (red n d, r2)

theorem decRat_encQ (red : Int → Nat → QVal) (q : QVal) (rest : Bytes) (hd : 0 < q.den)
    (hred : red q.num q.den = q)
    (h1 : (ibigPayload q.num).length < 2 ^ 64) (h2 : (leBytes q.den).length < 2 ^ 64) :
    decRat red (encQ q ++ rest) = some (q, rest) := by
  unfold decRat encQ
  rw [List.append_assoc, decI_encI _ _ h1]
  simp only [Option.bind_eq_bind, Option.bind_some]
  rw [decU_encU _ _ h2]
  simp only [Option.bind_some]
  rw [if_neg (Nat.ne_of_gt hd), hred]; rfl

theorem decRat_some (red : Int → Nat → QVal) {s r : Bytes} {q : QVal} (h : decRat red s = some (q, r)) :
    ∃ n d, 0 < d ∧ q = red n d := by
  simp only [decRat, Option.bind_eq_bind, Option.bind_eq_some_iff, Prod.exists] at h
  obtain ⟨n, r1, -, d, r2, -, h⟩ := h
  split at h
  · cases h
  next hd => cases h; exact ⟨n, d, Nat.pos_of_ne_zero hd, rfl⟩

theorem decQ_encQ (q : QVal) (rest : Bytes) (hq : QReduced q)
    (h1 : (ibigPayload q.num).length < 2 ^ 64) (h2 : (leBytes q.den).length < 2 ^ 64) :
    decQ (encQ q ++ rest) = some (q, rest) :=
  decRat_encQ qreduce q rest hq.1 (qreduce_of_reduced q hq) h1 h2

-- ---------------------------------------------------------------- floats

theorem stripB_stop {B m k : Nat} (h : B < 2 ∨ m = 0 ∨ m % B ≠ 0) : stripB B m k = (m, k) := by
  rw [stripB]; simp [h]

theorem stripB_step {B m k : Nat} (h : ¬ (B < 2 ∨ m = 0 ∨ m % B ≠ 0)) : stripB B m k = stripB B (m / B) (k + 1) := by
  rw [stripB]; simp [h]

theorem stripB_spec (B : Nat) (hB : 2 ≤ B) (m k : Nat) (hm : m ≠ 0) :
    (stripB B m k).1 ≠ 0 ∧ (stripB B m k).1 % B ≠ 0 ∧ k ≤ (stripB B m k).2 := by
  induction m using Nat.strongRecOn generalizing k with
  | _ m ih =>
    by_cases h : B < 2 ∨ m = 0 ∨ m % B ≠ 0
    · rw [stripB_stop h]
      refine ⟨hm, ?_, Nat.le_refl _⟩
      rcases h with h | h | h
      · omega
      · exact absurd h hm
      · exact h
    · rw [stripB_step h]
      have hdiv : m % B = 0 := by
        by_contra hc; exact h (Or.inr (Or.inr hc))
      have hlt : m / B < m := Nat.div_lt_self (by omega) (by omega)
      have hne : m / B ≠ 0 := by
        intro e
        have := Nat.div_add_mod m B
        rw [e, hdiv] at this; omega
      obtain ⟨a, b, c⟩ := ih (m / B) hlt (k + 1) hne
      exact ⟨a, b, by omega⟩

theorem fnew_canon (B : Nat) (hB : 2 ≤ B) (s e : Int) (v : FVal) (h : fnew B s e = some v) : FCanon B v := by
  unfold fnew at h
  split at h
  next h0 =>
    cases h
    exact ⟨fun _ => Or.inl rfl, fun hc => absurd rfl hc, by decide⟩
  next h0 =>
    obtain ⟨a, b, _⟩ := stripB_spec B hB s.natAbs 0 (Int.natAbs_ne_zero.mpr h0)
    dsimp only at h
    split at h
    next hr =>
      cases h
      refine ⟨fun hc => ?_, fun _ => ?_, hr⟩
      · dsimp only at hc
        split at hc <;> omega
      · dsimp only
        split <;> simpa using b
    · cases h

theorem fnew_of_canon (B : Nat) (s e : Int) (h : FCanon B ⟨s, e⟩) (hfin : s = 0 → e = 0) :
    fnew B s e = some ⟨s, e⟩ := by
  obtain ⟨-, h2, h3⟩ := h
  dsimp only at h2 h3
  unfold fnew
  split
  next h0 => rw [h0, hfin h0]
  next h0 =>
    rw [stripB_stop (Or.inr (Or.inr (h2 h0)))]
    dsimp only
    rw [Int.natCast_zero, Int.add_zero, if_pos h3]
    congr 2
    split <;> omega

theorem fread_of_canon (B : Nat) (s e : Int) (h : FCanon B ⟨s, e⟩) : fread B s e = some ⟨s, e⟩ := by
  unfold fread
  split
  next hi => rw [hi.1]
  next hi =>
    refine fnew_of_canon B s e h fun h0 => ?_
    rcases h.1 h0 with e0 | e1 | e1
    · exact e0
    · exact absurd ⟨h0, Or.inl e1⟩ hi
    · exact absurd ⟨h0, Or.inr e1⟩ hi

theorem fread_canon (B : Nat) (hB : 2 ≤ B) (s e : Int) (v : FVal) (h : fread B s e = some v) : FCanon B v := by
  unfold fread at h
  split at h
  next hi =>
    cases h
    refine ⟨fun _ => Or.inr hi.2, fun hc => absurd rfl hc, ?_⟩
    show inIsize e
    rcases hi.2 with rfl | rfl <;> decide
  next hi => exact fnew_canon B hB s e v h

theorem decF_encF (B : Nat) (v : FPVal) (rest : Bytes) (hv : FPCanon B v)
    (h1 : (ibigPayload v.signif).length < 2 ^ 64) (hp : v.prec < 2 ^ 64) :
    decF B (encF v ++ rest) = some (v, rest) := by
  simp only [decF, encF, List.append_assoc, decI_encI _ _ h1, pcTakeI64_pcI64 _ _ hv.1.2.2,
    pcTakeU64_pcU64 _ _ hp, fread_of_canon B v.signif v.exp hv.1, Option.bind_eq_bind, Option.bind_some,
    if_pos hv.2]
  rfl

theorem ndigits_12345 : ndigits 10 12345 = 5 := by
  simp [ndigits, Dashu.Model.Text.digits, Dashu.Model.Text.digitsAux]

/-- the code as it is turns a serialized infinity into the number zero -/
theorem decRAsIs_infinity : decRAsIs 2 [0, 2] = some (⟨0, 0⟩, []) := by decide

theorem encR_infinity : encR ⟨0, 1⟩ = [0, 2] := by
  simp [encR, encI, ibigPayload, pcBytes, pcI64, zigzag, varintEnc]

end Dashu.Model.Serde
