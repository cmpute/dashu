import Dashu.Model.Serde.NumW
import Dashu.Proofs.Int.Div
import Dashu.Proofs.Macro.LeBytesBridge
import Dashu.Proofs.Text.BytesModel
import Dashu.Proofs.NT.LehmerComplete
import Mathlib.Tactic.Ring
/-
  C19 clause (3): the word-level serde encoders / decoders of `Model/Serde/NumW.lean` (what a build
  with `W`-bit words executes) equal the `W`-free ones of `Model/Serde/Num.lean`, for every word
  size that is a multiple of 8.  Composition of C07 (`words_to_le_bytes`, `from_le_bytes`), C12
  (mirrored gcd), C02 (mirrored division), C01 (`ofNat`).
-/
namespace Dashu.Model.Serde
open Dashu.Model Dashu.Model.Text

theorem ubigPayloadW_eq (W : Nat) (h8 : 8 ∣ W) (hW : 8 ≤ W) (n : Nat) : ubigPayloadW W n = leBytes n := by
  unfold ubigPayloadW asWords
  by_cases h : n = 0
  · subst h; rw [if_pos rfl, leBytes_zero]
  · rw [if_neg h, wordsToLeBytes_eq W n h8 hW h, leBytes_eq_leBytesSpec]

theorem encUW_eq (W : Nat) (h8 : 8 ∣ W) (hW : 8 ≤ W) (n : Nat) : encUW W n = encU n := by
  unfold encUW encU; rw [ubigPayloadW_eq W h8 hW]

theorem ibigPayloadW_eq (W : Nat) (h8 : 8 ∣ W) (hW : 8 ≤ W) (z : Int) : ibigPayloadW W z = ibigPayload z := by
  unfold ibigPayloadW ibigPayload asWords
  by_cases h : z = 0
  · rw [if_pos h, if_pos h]
  · have hn : z.natAbs ≠ 0 := by omega
    rw [if_neg h, if_neg h, wordsToLeBytes_eq W _ h8 hW hn, ← leBytes_eq_leBytesSpec]

theorem encIW_eq (W : Nat) (h8 : 8 ∣ W) (hW : 8 ≤ W) (z : Int) : encIW W z = encI z := by
  unfold encIW encI; rw [ibigPayloadW_eq W h8 hW]

theorem decUW_eq (W : Nat) (h8 : 8 ∣ W) (hW : 8 ≤ W) (s : Bytes) : decUW W s = decU s := by
  unfold decUW decU
  cases pcTakeBytes s with
  | none => rfl
  | some p => simp [Macro.fromLeBytes_eq_ofLeBytes' W h8 hW]

theorem ibigOfPayloadW_eq (W : Nat) (h8 : 8 ∣ W) (hW : 8 ≤ W) (b : Bytes) : ibigOfPayloadW W b = ibigOfPayload b := by
  unfold ibigOfPayloadW ibigOfPayload; rw [Macro.fromLeBytes_eq_ofLeBytes' W h8 hW]

theorem decIW_eq (W : Nat) (h8 : 8 ∣ W) (hW : 8 ≤ W) (s : Bytes) : decIW W s = decI s := by
  unfold decIW decI
  cases pcTakeBytes s with
  | none => rfl
  | some p => simp [ibigOfPayloadW_eq W h8 hW]

theorem encQW_eq (W : Nat) (h8 : 8 ∣ W) (hW : 8 ≤ W) (q : QVal) : encQW W q = encQ q := by
  unfold encQW encQ; rw [encIW_eq W h8 hW, encUW_eq W h8 hW]

theorem encRW_eq (W : Nat) (h8 : 8 ∣ W) (hW : 8 ≤ W) (v : FVal) : encRW W v = encR v := by
  unfold encRW encR; rw [encIW_eq W h8 hW]

theorem encFW_eq (W : Nat) (h8 : 8 ∣ W) (hW : 8 ≤ W) (v : FPVal) : encFW W v = encF v := by
  unfold encFW encF; rw [encIW_eq W h8 hW]

/-- exact signed division by a positive divisor of the magnitude -/
theorem int_div_of_dvd_natAbs (n : Int) (g : Nat) (hg : 0 < g) (hd : g ∣ n.natAbs) :
    n / (g : Int) = if n < 0 then -((n.natAbs / g : Nat) : Int) else ((n.natAbs / g : Nat) : Int) := by
  obtain ⟨k, hk⟩ := hd
  have hgz : (g : Int) ≠ 0 := by omega
  have hq : n.natAbs / g = k := by rw [hk, Nat.mul_div_cancel_left k hg]
  rw [hq]
  by_cases hneg : n < 0
  · rw [if_pos hneg]
    have : n = (g : Int) * (-(k : Int)) := by
      have : (n.natAbs : Int) = -n := by omega
      have h2 : ((g * k : Nat) : Int) = -n := by rw [← hk]; exact this
      push_cast at h2
      have : n = -((g : Int) * k) := by omega
      rw [this]; ring
    rw [this, Int.mul_ediv_cancel_left _ hgz]
  · rw [if_neg hneg]
    have : n = (g : Int) * (k : Int) := by
      have : (n.natAbs : Int) = n := by omega
      have h2 : ((g * k : Nat) : Int) = n := by rw [← hk]; exact this
      push_cast at h2
      omega
    rw [this, Int.mul_ediv_cancel_left _ hgz]

/-- `Repr::reduce` over the mirrored gcd (C12) and the mirrored division (C02) is the reduction to
    lowest terms, for every word size ≥ 4 bits and every positive denominator -/
theorem qreduceW_eq (W : Nat) (hW : 4 ≤ W) (n : Int) (d : Nat) (hd : 0 < d) :
    qreduceW W n d = some (qreduce n d) := by
  unfold qreduceW qreduce
  by_cases h0 : n = 0
  · rw [if_pos h0, if_pos h0]
  · rw [if_neg h0, if_neg h0]
    rw [NT.gcdReprM_spec W (by omega), if_neg (by omega)]
    have hg : 0 < Nat.gcd n.natAbs d := Nat.gcd_pos_of_pos_right _ hd
    have v := ofNat_value W (by omega)
    have c := ofNat_canon W (by omega)
    have e1 := (Div.repr_eq W (by omega) hW _ _ (c n.natAbs) (c (Nat.gcd n.natAbs d))).2.1
    have e2 := (Div.repr_eq W (by omega) hW _ _ (c d) (c (Nat.gcd n.natAbs d))).2.1
    rw [v, v, if_neg (by omega)] at e1 e2
    simp only [e1, e2]
    rw [v, v, int_div_of_dvd_natAbs n _ hg (Nat.gcd_dvd_left _ _)]

theorem decQW_eq (W : Nat) (h8 : 8 ∣ W) (hW : 8 ≤ W) (s : Bytes) : decQW W s = decQ s := by
  unfold decQW decQ
  rw [decIW_eq W h8 hW]
  cases decI s with
  | none => rfl
  | some p =>
    obtain ⟨n, r1⟩ := p
    simp only [Option.bind_eq_bind, Option.bind_some, decUW_eq W h8 hW]
    cases decU r1 with
    | none => rfl
    | some p2 =>
      obtain ⟨d, r2⟩ := p2
      simp only [Option.bind_some]
      by_cases hd : d = 0
      · simp [hd]
      · simp [hd, qreduceW_eq W (by omega) n d (by omega)]

theorem decXW_eq (W : Nat) (h8 : 8 ∣ W) (hW : 8 ≤ W) (s : Bytes) : decXW W s = decX s := by
  unfold decXW decX
  rw [decIW_eq W h8 hW]
  cases decI s with
  | none => rfl
  | some p =>
    obtain ⟨n, r1⟩ := p
    simp only [Option.bind_eq_bind, Option.bind_some, decUW_eq W h8 hW]

theorem decRW_eq (W B : Nat) (h8 : 8 ∣ W) (hW : 8 ≤ W) (s : Bytes) : decRW W B s = decR B s := by
  unfold decRW decR
  rw [decIW_eq W h8 hW]

theorem decFW_eq (W B : Nat) (h8 : 8 ∣ W) (hW : 8 ≤ W) (s : Bytes) : decFW W B s = decF B s := by
  unfold decFW decF
  rw [decIW_eq W h8 hW]

end Dashu.Model.Serde
