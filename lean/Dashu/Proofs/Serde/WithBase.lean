import Dashu.Proofs.Text.Float
/-
  C19 — `FBig::with_base` picks its precision independently of the word size and equal to the documented
  maximum (on the model `Text.withBasePrecision`, which mirrors the code since /repo fa3b7b8).
-/
namespace Dashu.Model.Text

theorem pow_window_unique (N T q q' : Nat) (hN : 2 ≤ N) (h1 : N ^ q ≤ T) (h2 : T < N ^ (q + 1))
    (h1' : N ^ q' ≤ T) (h2' : T < N ^ (q' + 1)) : q = q' := by
  have mono : ∀ a b : Nat, N ^ a < N ^ b → a < b := by
    intro a b h
    by_contra hc
    have : N ^ b ≤ N ^ a := Nat.pow_le_pow_right (by omega) (by omega)
    omega
  have a := mono q (q' + 1) (by omega)
  have b := mono q' (q + 1) (by omega)
  omega

/-- `with_base`'s precision is the documented maximum `max {q | NewB^q ≤ B^p}` in all three branches
    (`p·n` when `B = NewB^n`, `p / n` when `NewB = B^n`, the exact integer logarithm otherwise) — as long as
    `p·n` is a `usize` (beyond that the product saturates: `saturating_mul`, /repo 38e3075) -/
theorem withBasePrecision_eq_spec (W B NewB p : Nat) (hB : 1 ≤ B) (hN : 2 ≤ NewB)
    (hp : p * ilogExact B NewB ≤ 2 ^ 64 - 1) :
    withBasePrecision W B NewB p = withBasePrecisionSpec B NewB p := by
  obtain ⟨s1, s2⟩ := withBasePrecisionSpec_max B NewB p hB hN
  unfold withBasePrecision
  simp only
  by_cases hd : ilogExact B NewB > 1
  · simp only [hd, if_true]
    rw [Nat.min_eq_left hp]
    have hb : B = NewB ^ ilogExact B NewB := ilogExact_spec B NewB _ rfl (by omega)
    generalize ilogExact B NewB = n at *
    apply pow_window_unique NewB (B ^ p) _ _ hN _ _ s1 s2
    · rw [hb, ← Nat.pow_mul, Nat.mul_comm]
    · rw [hb, ← Nat.pow_mul, Nat.mul_comm n p]
      exact Nat.pow_lt_pow_right (by omega) (by omega)
  · simp only [hd, if_false]
    by_cases hu : ilogExact NewB B > 1
    · simp only [hu, if_true]
      have hn : NewB = B ^ ilogExact NewB B := ilogExact_spec NewB B _ rfl (by omega)
      generalize ilogExact NewB B = n at *
      have hB2 : 2 ≤ B := by
        by_contra hc
        have : B = 1 := by omega
        rw [this] at hn; simp at hn; omega
      apply pow_window_unique NewB (B ^ p) _ _ hN _ _ s1 s2
      · rw [hn, ← Nat.pow_mul]
        exact Nat.pow_le_pow_right (by omega) (Nat.mul_div_le p n)
      · rw [hn, ← Nat.pow_mul]
        apply Nat.pow_lt_pow_right (by omega)
        have := Nat.div_add_mod p n
        have hm := Nat.mod_lt p (by omega : n > 0)
        have e : n * (p / n + 1) = n * (p / n) + n := by ring
        omega
    · simp only [hu, if_false]

/-- …and it does not depend on the word size -/
theorem withBasePrecision_word_size (W₁ W₂ B NewB p : Nat) :
    withBasePrecision W₁ B NewB p = withBasePrecision W₂ B NewB p := rfl

end Dashu.Model.Text
