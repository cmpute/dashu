import Dashu.Proofs.Int.Div
/-
  C19 clause (1), a corollary of the for-all-W theorem behind C02 (division): the same mathematical inputs give
  the same quotient and remainder (or the same panic) in any two word sizes; with the instance on the two word
  sizes the builds use.
-/
namespace Dashu.Model.Serde.WordSize
open Dashu.Model Dashu.Model.Div

/-- UBig `/`, `%`, `div_rem`: same quotient and remainder, or the same `DivideByZero` panic -/
theorem word_size_independent_u_div_rem (W₁ W₂ : Nat) (h₁ : 8 ≤ W₁) (h₂ : 8 ≤ W₂) (x y : Nat) :
    (y = 0 → divRemRepr W₁ (ofNat W₁ x) (ofNat W₁ y) = .error .divideByZero ∧
             divRemRepr W₂ (ofNat W₂ x) (ofNat W₂ y) = .error .divideByZero) ∧
    (y ≠ 0 → ∃ q₁ r₁ q₂ r₂, divRemRepr W₁ (ofNat W₁ x) (ofNat W₁ y) = .ok (q₁, r₁) ∧
        divRemRepr W₂ (ofNat W₂ x) (ofNat W₂ y) = .ok (q₂, r₂) ∧
        q₁.value W₁ = q₂.value W₂ ∧ r₁.value W₁ = r₂.value W₂ ∧ q₁.value W₁ = x / y ∧ r₁.value W₁ = x % y) := by
  have a := (repr_eq W₁ (by omega) (by omega) _ _ (ofNat_canon W₁ (by omega) x) (ofNat_canon W₁ (by omega) y)).1
  have b := (repr_eq W₂ (by omega) (by omega) _ _ (ofNat_canon W₂ (by omega) x) (ofNat_canon W₂ (by omega) y)).1
  simp only [ofNat_value W₁ (by omega)] at a
  simp only [ofNat_value W₂ (by omega)] at b
  have v₁ := ofNat_value W₁ (by omega)
  have v₂ := ofNat_value W₂ (by omega)
  exact ⟨fun h => ⟨a.trans (if_pos h), b.trans (if_pos h)⟩, fun h =>
    ⟨_, _, _, _, a.trans (if_neg h), b.trans (if_neg h), by rw [v₁, v₂], by rw [v₁, v₂], v₁ _, v₁ _⟩⟩

example : ∃ q₁ r₁ q₂ r₂, divRemRepr 64 (ofNat 64 (2 ^ 200 + 7)) (ofNat 64 (2 ^ 70 + 1)) = .ok (q₁, r₁) ∧
    divRemRepr 32 (ofNat 32 (2 ^ 200 + 7)) (ofNat 32 (2 ^ 70 + 1)) = .ok (q₂, r₂) ∧ q₁.value 64 = q₂.value 32 := by
  obtain ⟨q₁, r₁, q₂, r₂, e₁, e₂, hq, _, _, _⟩ :=
    (word_size_independent_u_div_rem 64 32 (by decide) (by decide) (2 ^ 200 + 7) (2 ^ 70 + 1)).2 (by positivity)
  exact ⟨q₁, r₁, q₂, r₂, e₁, e₂, hq⟩

end Dashu.Model.Serde.WordSize
