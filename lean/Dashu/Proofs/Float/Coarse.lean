import Dashu.Proofs.Float.Round
import Dashu.Proofs.Float.Estimate
import Mathlib.Analysis.SpecialFunctions.Log.Base
/-
  The coarse `f32` comparison at the head of `Round::round_fract` (float/src/round.rs, closure `test`):

      let (lb, ub) = fmag.log2_bounds();  let (b_lb, b_ub) = B.log2_bounds();
      if lb + 0.999 > b_ub * precision as f32 { Greater }
      else if ub + 1.001 < b_lb * precision as f32 { Less }
      else { (fmag << 1).cmp(&B.pow(precision)) }

  In `Props/C10.lean` the test is a parameter with the hypothesis `CoarseSound`.  Here the hypothesis is DERIVED, over ℝ,
  for the formula of the code, with an EXPLICIT region:  2 ≤ B < 2^64 (a `Word`), 0 < fmag < B^k (the precondition of
  `round_fract`), **k ≤ 2^24** (so that `precision as f32` is exact).  Inside that region no further bound on the
  precision is needed (the margins `0.999 / 1.001` alone would only carry `k·log₂B ≲ 8·10³`; the factor `1 ∓ 2ε` =
  `1 ∓ 4u` that `log2_bounds_large` applies to operands of more than two words pays for the four roundings).
  Outside it (`k > 2^24`: `precision as f32` rounds) nothing is claimed; the generator drives the real code there.

  Assumptions about `f32` (u = 2⁻²⁴):
  (R) every `f32` `+` / `*` involved is a rounding `fl` with `|fl x − x| ≤ u·|x|` (IEEE-754 round-to-nearest in the
      normal range; all quantities here are 0 or ≥ 2⁻¹ and ≤ 2³¹);
  (E) enclosure of `log2_bounds`: `0 ≤ lb ≤ log₂ n ≤ ub` (the documented contract; C10Est (A) for the `ub` side);
  (S) for `n ≥ 2^128` (`log2_bounds_large`) the slack of the ADJUST factor:
      `lb ≤ log₂ n·(1+u)²(1−4u)`, `ub ≥ (log₂ n − 2⁻⁶⁰)·(1−u)²(1+4u)` — DERIVED below (`adjust_slack_lb/ub`) from the
      structure `est = fl(fl(hi_bound + rem_bits) · (1 ∓ 4u))` and the enclosure of the highest double word;
  (C) the literals: `0.999f32 = 16760439/2²⁴`, `1.001f32 = 8396997/2²³` (exact values of the two `f32` constants).
-/
namespace Dashu.Model.Float

/-- unit roundoff of `f32` -/
noncomputable def u32 : ℝ := 1 / 16777216
/-- `0.999f32` -/
noncomputable def c999 : ℝ := 16760439 / 16777216
/-- `1.001f32` -/
noncomputable def c1001 : ℝ := 8396997 / 8388608

/-- (R) -/
def RelRound (fl : ℝ → ℝ) : Prop := ∀ x : ℝ, |fl x - x| ≤ u32 * |x|

theorem one_sub_u32_nonneg : (0 : ℝ) ≤ 1 - u32 := by unfold u32; norm_num

theorem one_add_u32_nonneg : (0 : ℝ) ≤ 1 + u32 := by unfold u32; norm_num

theorem RelRound.le_up {fl : ℝ → ℝ} (h : RelRound fl) (x : ℝ) (hx : 0 ≤ x) : fl x ≤ x * (1 + u32) := by
  have := (abs_le.mp (h x)).2
  rw [abs_of_nonneg hx] at this
  linarith

theorem RelRound.ge_down {fl : ℝ → ℝ} (h : RelRound fl) (x : ℝ) (hx : 0 ≤ x) : x * (1 - u32) ≤ fl x := by
  have := (abs_le.mp (h x)).1
  rw [abs_of_nonneg hx] at this
  linarith

/-! ### the two real inequalities -/

/-- `Greater` arm: `fl(b_ub·k) < fl(lb + 0.999)` forces `k·log₂B < log₂ fmag + 1`. -/
theorem coarse_gt_real (L K lb s p : ℝ) (hL0 : 0 ≤ L) (hlb0 : 0 ≤ lb) (hlb : lb ≤ L)
    (hbig : 128 ≤ L → lb ≤ L * ((1 + u32) ^ 2 * (1 - 4 * u32)))
    (hs : s ≤ (lb + c999) * (1 + u32)) (hp : K * (1 - u32) ≤ p) (hdec : p < s) : K < L + 1 := by
  by_contra hK
  have hK : L + 1 ≤ K := by linarith
  have h1 : (L + 1) * (1 - u32) ≤ K * (1 - u32) := mul_le_mul_of_nonneg_right hK one_sub_u32_nonneg
  by_cases hL : 128 ≤ L
  · have hlb' := hbig hL
    have hg : (1 + u32) ^ 2 * (1 - 4 * u32) * (1 + u32) ≤ 1 - u32 := by unfold u32; norm_num
    have h2 : (lb + c999) * (1 + u32) ≤ L * ((1 + u32) ^ 2 * (1 - 4 * u32)) * (1 + u32) + c999 * (1 + u32) := by
      linarith [mul_le_mul_of_nonneg_right hlb' one_add_u32_nonneg]
    have h3 : L * ((1 + u32) ^ 2 * (1 - 4 * u32)) * (1 + u32) ≤ L * (1 - u32) := by
      have := mul_le_mul_of_nonneg_left hg hL0
      linarith [this]
    have h4 : c999 * (1 + u32) < 1 - u32 := by unfold c999 u32; norm_num
    linarith
  · have hL : L < 128 := by linarith
    have h2 : (lb + c999) * (1 + u32) ≤ (L + c999) * (1 + u32) :=
      mul_le_mul_of_nonneg_right (by linarith) one_add_u32_nonneg
    have h4 : (L + c999) * (1 + u32) < (L + 1) * (1 - u32) := by
      unfold c999 u32; linarith
    linarith

/-- `Less` arm: `fl(ub + 1.001) < fl(b_lb·k)` forces `log₂ fmag + 1 < k·log₂B` (for `log₂ fmag ≤ 2³¹`). -/
theorem coarse_lt_real (L K ub s p : ℝ) (hL0 : 0 ≤ L) (hLmax : L ≤ 2147483648) (hub : L ≤ ub)
    (hbig : 128 ≤ L → (L - 1 / 1152921504606846976) * ((1 - u32) ^ 2 * (1 + 4 * u32)) ≤ ub)
    (hs : (ub + c1001) * (1 - u32) ≤ s) (hp : p ≤ K * (1 + u32)) (hdec : s < p) : L + 1 < K := by
  by_contra hK
  have hK : K ≤ L + 1 := by linarith
  have h1 : K * (1 + u32) ≤ (L + 1) * (1 + u32) := mul_le_mul_of_nonneg_right hK one_add_u32_nonneg
  by_cases hL : 128 ≤ L
  · have hub' := hbig hL
    have h2 : ((L - 1 / 1152921504606846976) * ((1 - u32) ^ 2 * (1 + 4 * u32)) + c1001) * (1 - u32) ≤ (ub + c1001) * (1 - u32) :=
      mul_le_mul_of_nonneg_right (by linarith) one_sub_u32_nonneg
    -- (1-u)^3 (1+4u) ≥ 1 + u - 9u²
    have hg : 1 + u32 - 9 * u32 ^ 2 ≤ (1 - u32) ^ 2 * (1 + 4 * u32) * (1 - u32) := by unfold u32; norm_num
    have hgle : (1 - u32) ^ 2 * (1 + 4 * u32) * (1 - u32) ≤ 2 := by unfold u32; norm_num
    have h3 : L * (1 + u32 - 9 * u32 ^ 2) ≤ L * ((1 - u32) ^ 2 * (1 + 4 * u32) * (1 - u32)) :=
      mul_le_mul_of_nonneg_left hg hL0
    have h5 : L * (9 * u32 ^ 2) ≤ 2147483648 * (9 * u32 ^ 2) :=
      mul_le_mul_of_nonneg_right hLmax (by unfold u32; norm_num)
    have h6 : 2147483648 * (9 * u32 ^ 2) + 2 * (1 / 1152921504606846976) + (1 + u32) < c1001 * (1 - u32) := by
      unfold c1001 u32; norm_num
    linarith
  · have hL : L < 128 := by linarith
    have h2 : (L + c1001) * (1 - u32) ≤ (ub + c1001) * (1 - u32) := mul_le_mul_of_nonneg_right (by linarith) one_sub_u32_nonneg
    have h4 : (L + 1) * (1 + u32) < (L + c1001) * (1 - u32) := by
      unfold c1001 u32; linarith
    linarith

/-! ### (S) from the structure of `log2_bounds_large` -/

/-- `est_lb = fl(fl(hi_lb + rem_bits) · (1 − 4u))` with `hi_lb + rem_bits ≤ log₂ n` -/
theorem adjust_slack_lb (fl : ℝ → ℝ) (hfl : RelRound fl) (L h r : ℝ) (hh : 0 ≤ h) (hr : 0 ≤ r) (hle : h + r ≤ L) :
    fl (fl (h + r) * (1 - 4 * u32)) ≤ L * ((1 + u32) ^ 2 * (1 - 4 * u32)) := by
  have hadj : (0 : ℝ) ≤ 1 - 4 * u32 := by unfold u32; norm_num
  have h0 : 0 ≤ fl (h + r) := le_trans (mul_nonneg (by linarith) one_sub_u32_nonneg) (hfl.ge_down (h + r) (by linarith))
  have h1 : fl (h + r) ≤ (h + r) * (1 + u32) := hfl.le_up _ (by linarith)
  have h2 := hfl.le_up (fl (h + r) * (1 - 4 * u32)) (mul_nonneg h0 hadj)
  have h3 : fl (h + r) * (1 - 4 * u32) * (1 + u32) ≤ (h + r) * (1 + u32) * (1 - 4 * u32) * (1 + u32) :=
    mul_le_mul_of_nonneg_right (mul_le_mul_of_nonneg_right h1 hadj) one_add_u32_nonneg
  have h4 : (h + r) * ((1 + u32) * (1 - 4 * u32) * (1 + u32)) ≤ L * ((1 + u32) * (1 - 4 * u32) * (1 + u32)) :=
    mul_le_mul_of_nonneg_right hle (by unfold u32; norm_num)
  calc fl (fl (h + r) * (1 - 4 * u32)) ≤ fl (h + r) * (1 - 4 * u32) * (1 + u32) := h2
    _ ≤ (h + r) * (1 + u32) * (1 - 4 * u32) * (1 + u32) := h3
    _ = (h + r) * ((1 + u32) * (1 - 4 * u32) * (1 + u32)) := by ring
    _ ≤ L * ((1 + u32) * (1 - 4 * u32) * (1 + u32)) := h4
    _ = L * ((1 + u32) ^ 2 * (1 - 4 * u32)) := by ring

/-- `est_ub = fl(fl(hi_ub + rem_bits) · (1 + 4u))` with `log₂ n ≤ hi_ub + rem_bits + 2⁻⁶⁰` (the words below the highest
    double word add less than `log₂(1 + 2⁻⁶⁴)` when the double word is a power of two and its bound is exact) -/
theorem adjust_slack_ub (fl : ℝ → ℝ) (hfl : RelRound fl) (L h r : ℝ) (hh : 0 ≤ h) (hr : 0 ≤ r)
    (hle : L - 1 / 1152921504606846976 ≤ h + r) :
    (L - 1 / 1152921504606846976) * ((1 - u32) ^ 2 * (1 + 4 * u32)) ≤ fl (fl (h + r) * (1 + 4 * u32)) := by
  have hadj : (0 : ℝ) ≤ 1 + 4 * u32 := by unfold u32; norm_num
  have h0 : 0 ≤ fl (h + r) := le_trans (mul_nonneg (by linarith) one_sub_u32_nonneg) (hfl.ge_down (h + r) (by linarith))
  have h1 : (h + r) * (1 - u32) ≤ fl (h + r) := hfl.ge_down _ (by linarith)
  have h2 := hfl.ge_down (fl (h + r) * (1 + 4 * u32)) (mul_nonneg h0 hadj)
  have h3 : (h + r) * (1 - u32) * (1 + 4 * u32) * (1 - u32) ≤ fl (h + r) * (1 + 4 * u32) * (1 - u32) :=
    mul_le_mul_of_nonneg_right (mul_le_mul_of_nonneg_right h1 hadj) one_sub_u32_nonneg
  have h4 : (L - 1 / 1152921504606846976) * ((1 - u32) * (1 + 4 * u32) * (1 - u32)) ≤ (h + r) * ((1 - u32) * (1 + 4 * u32) * (1 - u32)) :=
    mul_le_mul_of_nonneg_right hle (by unfold u32; norm_num)
  calc (L - 1 / 1152921504606846976) * ((1 - u32) ^ 2 * (1 + 4 * u32))
      = (L - 1 / 1152921504606846976) * ((1 - u32) * (1 + 4 * u32) * (1 - u32)) := by ring
    _ ≤ (h + r) * ((1 - u32) * (1 + 4 * u32) * (1 - u32)) := h4
    _ = (h + r) * (1 - u32) * (1 + 4 * u32) * (1 - u32) := by ring
    _ ≤ fl (h + r) * (1 + 4 * u32) * (1 - u32) := h3
    _ ≤ fl (fl (h + r) * (1 + 4 * u32)) := h2

/-! ### the test of the code with its `f32` ingredients as parameters -/

/-- the closure `test` of `round_fract` up to its exact arm: `lbF/ubF` = `log2_bounds` (of `fmag` and of `B`), `fl` the
    rounding of each `f32` operation; `k as f32` is `k` itself (exact for `k ≤ 2^24`, the region of the theorem) -/
noncomputable def coarseReal (fl : ℝ → ℝ) (lbF ubF : Nat → ℝ) : Coarse := fun B fmag k =>
  open Classical in
  if fl (ubF B * (k : ℝ)) < fl (lbF fmag + c999) then some .gt
  else if fl (ubF fmag + c1001) < fl (lbF B * (k : ℝ)) then some .lt
  else none

/-- (E) + (S) -/
structure Log2BoundsSound (lbF ubF : Nat → ℝ) : Prop where
  encl : ∀ n : Nat, 0 < n → 0 ≤ lbF n ∧ lbF n ≤ Real.logb 2 n ∧ Real.logb 2 n ≤ ubF n
  slack : ∀ n : Nat, 2 ^ 128 ≤ n →
    lbF n ≤ Real.logb 2 n * ((1 + u32) ^ 2 * (1 - 4 * u32)) ∧
    (Real.logb 2 n - 1 / 1152921504606846976) * ((1 - u32) ^ 2 * (1 + 4 * u32)) ≤ ubF n

theorem logb_two_natpow (B k : Nat) : Real.logb 2 ((B ^ k : Nat) : ℝ) = (k : ℝ) * Real.logb 2 B := by
  push_cast
  rw [Real.logb_pow]

theorem logb_two_ge_128 (n : Nat) (h : 128 ≤ Real.logb 2 n) (hn : 0 < n) : 2 ^ 128 ≤ n := by
  have hn' : (0 : ℝ) < n := by exact_mod_cast hn
  have := (Real.le_logb_iff_rpow_le (by norm_num : (1 : ℝ) < 2) hn').mp h
  have e : (2 : ℝ) ^ (128 : ℝ) = ((2 ^ 128 : Nat) : ℝ) := by
    rw [show (128 : ℝ) = ((128 : Nat) : ℝ) by norm_num, Real.rpow_natCast]; norm_num
  rw [e] at this
  exact_mod_cast this

/-- **the coarse test decides as the exact comparison** on the explicit region
    `2 ≤ B < 2^64`, `0 < fmag < B^k`, `k ≤ 2^24` -/
theorem coarseReal_sound (fl : ℝ → ℝ) (hfl : RelRound fl) (lbF ubF : Nat → ℝ) (hb : Log2BoundsSound lbF ubF)
    (B fmag k : Nat) (hB : 2 ≤ B) (hBw : B < 2 ^ 64) (hf : 0 < fmag) (hlt : fmag < B ^ k) (hk : k ≤ 2 ^ 24)
    (o : Ordering) (h : coarseReal fl lbF ubF B fmag k = some o) : o = compare (2 * fmag) (B ^ k) := by
  have hB0 : 0 < B := by omega
  obtain ⟨hlb0, hlbL, hLub⟩ := hb.encl fmag hf
  obtain ⟨hblb0, hblb, hbub⟩ := hb.encl B hB0
  set L := Real.logb 2 fmag with hLdef
  set b := Real.logb 2 B with hbdef
  have hL0 : 0 ≤ L := logb_two_nonneg fmag hf
  have hb0 : 0 ≤ b := logb_two_nonneg B hB0
  have hk0 : (0 : ℝ) ≤ (k : ℝ) := Nat.cast_nonneg k
  have hfpos : (0 : ℝ) < (fmag : ℝ) := by exact_mod_cast hf
  have hBkpos : (0 : ℝ) < ((B ^ k : Nat) : ℝ) := by exact_mod_cast Nat.pow_pos hB0
  have hKdef : Real.logb 2 ((B ^ k : Nat) : ℝ) = (k : ℝ) * b := logb_two_natpow B k
  have h2f : Real.logb 2 ((2 * fmag : Nat) : ℝ) = L + 1 := by
    push_cast
    rw [Real.logb_mul (by norm_num) (ne_of_gt hfpos), Real.logb_self_eq_one (by norm_num)]
    ring
  -- L < K ≤ 2^24 · 64
  have hLK : L < (k : ℝ) * b := by
    rw [← hKdef]
    exact Real.logb_lt_logb (by norm_num) hfpos (by exact_mod_cast hlt)
  have hb64 : b ≤ 64 := by
    have : (B : ℝ) ≤ (2 : ℝ) ^ (64 : ℕ) := by exact_mod_cast (le_of_lt hBw)
    have h1 := Real.logb_le_logb_of_le (by norm_num : (1 : ℝ) < 2) (by exact_mod_cast hB0) this
    rw [Real.logb_pow, Real.logb_self_eq_one (by norm_num)] at h1
    simpa using h1
  have hLmax : L ≤ 2147483648 := by
    have hk' : (k : ℝ) ≤ 16777216 := by exact_mod_cast hk
    have : (k : ℝ) * b ≤ 16777216 * 64 := mul_le_mul hk' hb64 hb0 (by norm_num)
    linarith
  unfold coarseReal at h
  by_cases hg : fl (ubF B * (k : ℝ)) < fl (lbF fmag + c999)
  · simp only [hg, if_true, Option.some.injEq] at h
    subst h
    have hs := hfl.le_up (lbF fmag + c999) (by unfold c999; linarith [hlb0])
    have hp : (k : ℝ) * b * (1 - u32) ≤ fl (ubF B * (k : ℝ)) := by
      have h1 := hfl.ge_down (ubF B * (k : ℝ)) (mul_nonneg (by linarith) hk0)
      have h2 : (k : ℝ) * b ≤ ubF B * (k : ℝ) := by
        rw [mul_comm]; exact mul_le_mul_of_nonneg_right hbub hk0
      exact le_trans (mul_le_mul_of_nonneg_right h2 one_sub_u32_nonneg) h1
    have hKL := coarse_gt_real L ((k : ℝ) * b) (lbF fmag) _ _ hL0 hlb0 hlbL
      (fun h128 => (hb.slack fmag (logb_two_ge_128 fmag h128 hf)).1) hs hp hg
    -- B^k < 2·fmag
    have : ((B ^ k : Nat) : ℝ) < ((2 * fmag : Nat) : ℝ) := by
      rw [← Real.logb_lt_logb_iff (by norm_num : (1 : ℝ) < 2) hBkpos (by exact_mod_cast (by omega : 0 < 2 * fmag)), hKdef, h2f]
      exact hKL
    have hnat : B ^ k < 2 * fmag := by exact_mod_cast this
    exact (Nat.compare_eq_gt.mpr hnat).symm
  · simp only [hg, if_false] at h
    by_cases hl : fl (ubF fmag + c1001) < fl (lbF B * (k : ℝ))
    · simp only [hl, if_true, Option.some.injEq] at h
      subst h
      have hub0 : 0 ≤ ubF fmag := le_trans hL0 hLub
      have hs := hfl.ge_down (ubF fmag + c1001) (by unfold c1001; linarith [hub0])
      have hp : fl (lbF B * (k : ℝ)) ≤ (k : ℝ) * b * (1 + u32) := by
        have h1 := hfl.le_up (lbF B * (k : ℝ)) (mul_nonneg hblb0 hk0)
        have h2 : lbF B * (k : ℝ) ≤ (k : ℝ) * b := by
          rw [mul_comm (k : ℝ)]; exact mul_le_mul_of_nonneg_right hblb hk0
        exact le_trans h1 (mul_le_mul_of_nonneg_right h2 one_add_u32_nonneg)
      have hKL := coarse_lt_real L ((k : ℝ) * b) (ubF fmag) _ _ hL0 hLmax hLub
        (fun h128 => (hb.slack fmag (logb_two_ge_128 fmag h128 hf)).2) hs hp hl
      have : ((2 * fmag : Nat) : ℝ) < ((B ^ k : Nat) : ℝ) := by
        rw [← Real.logb_lt_logb_iff (by norm_num : (1 : ℝ) < 2) (by exact_mod_cast (by omega : 0 < 2 * fmag)) hBkpos, hKdef, h2f]
        exact hKL
      have hnat : 2 * fmag < B ^ k := by exact_mod_cast this
      exact (Nat.compare_eq_lt.mpr hnat).symm
    · simp [hl] at h

end Dashu.Model.Float
