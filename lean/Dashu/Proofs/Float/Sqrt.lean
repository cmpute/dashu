import Dashu.Proofs.Float.Div
import Mathlib.Data.Nat.Sqrt
/-
  C03: `Context::sqrt` (as repaired by 92fc29e) honours the contract `ContractSqrt` — every
  comparison of the result with `√x` is stated on squares.
-/
namespace Dashu.Model.Float
open Dashu.Props.GenRound

theorem then_lt (o : Ordering) : Ordering.lt.then o = .lt := rfl
theorem then_gt (o : Ordering) : Ordering.gt.then o = .gt := rfl
theorem then_eq (o : Ordering) : Ordering.eq.then o = o := rfl

/-- the half test of `sqrt`: `rem.cmp(root).then(4·low .cmp(B^k))` is the comparison of
    `4·(S·D + low)` with `(2·root+1)²·D`, i.e. of `√(S + low/D)` with `root + ½` -/
theorem sqrt_half_test (root rem low D : Int) (hD : 0 < D) (hl0 : 0 ≤ low) (hlk : low < D) (hrem : 0 ≤ rem) :
    (compare rem root).then (compare (low * 4) D) =
      compare (4 * ((root * root + rem) * D + low)) ((2 * root + 1) * (2 * root + 1) * D) := by
  have e1 : 4 * ((root * root + rem) * D + low) = 4 * (root * root * D) + 4 * (rem * D) + 4 * low := by ring
  have e2 : (2 * root + 1) * (2 * root + 1) * D = 4 * (root * root * D) + 4 * (root * D) + D := by ring
  rw [e1, e2]
  rcases lt_trichotomy rem root with h | h | h
  · rw [Int.compare_eq_lt.mpr h, then_lt]
    have : (rem + 1) * D ≤ root * D := Int.mul_le_mul_of_nonneg_right (by omega) (le_of_lt hD)
    have e3 : (rem + 1) * D = rem * D + D := by ring
    rw [e3] at this
    exact (Int.compare_eq_lt.mpr (by omega)).symm
  · subst h
    rw [Int.compare_eq_eq.mpr rfl, then_eq]
    rcases lt_trichotomy (low * 4) D with h2 | h2 | h2
    · rw [Int.compare_eq_lt.mpr h2]; exact (Int.compare_eq_lt.mpr (by omega)).symm
    · rw [Int.compare_eq_eq.mpr h2]; exact (Int.compare_eq_eq.mpr (by omega)).symm
    · rw [Int.compare_eq_gt.mpr h2]; exact (Int.compare_eq_gt.mpr (by omega)).symm
  · rw [Int.compare_eq_gt.mpr h, then_gt]
    have : (root + 1) * D ≤ rem * D := Int.mul_le_mul_of_nonneg_right (by omega) (le_of_lt hD)
    have e3 : (root + 1) * D = root * D + D := by ring
    rw [e3] at this
    exact (Int.compare_eq_gt.mpr (by omega)).symm

/-- the six regenerated tables on a non-negative integer part and a positive low part -/
theorem table_positive_facts (m : Mode) (n : Int) (hn : 0 ≤ n) (t : Ordering) :
    roundLowPart m n .Positive t ≠ .SubOne ∧
    (roundLowPart m n .Positive t = .NoOp ∨ roundLowPart m n .Positive t = .AddOne) ∧
    ((m = .zero ∨ m = .down) → roundLowPart m n .Positive t = .NoOp) ∧
    ((m = .up ∨ m = .away) → roundLowPart m n .Positive t = .AddOne) ∧
    (m.isHalf = true → (roundLowPart m n .Positive t = .NoOp → t ≠ .gt) ∧
      (roundLowPart m n .Positive t = .AddOne → t ≠ .lt)) := by
  have hnn : ¬ n < 0 := by omega
  simp only [roundLowPart_eq]
  cases m <;> cases t <;> simp [bump, dirOf, Mode.isHalf, hn, hnn] <;> split <;> simp <;> omega

theorem cmp_ne_gt {a b : Int} (h : compare a b ≠ .gt) : a ≤ b := by
  by_contra hc
  exact h (Int.compare_eq_gt.mpr (by omega))

theorem cmp_ne_lt {a b : Int} (h : compare a b ≠ .lt) : b ≤ a := by
  by_contra hc
  exact h (Int.compare_eq_lt.mpr (by omega))

/-- what the rounding step of `sqrt` returns for `root²·D ≤ Y < (root+1)²·D`: `root` flagged exact when `Y = root²·D`,
    otherwise `root + a` with `a = 0` (`NoOp`) or `a = 1` (`AddOne`) as the mode prescribes -/
def SqrtRounded (m : Mode) (D Y root ρ : Int) (flag : Option Rounding) : Prop :=
  (flag = none ∧ ρ = root ∧ Y = root * root * D) ∨
  (∃ adj : Rounding, flag = some adj ∧ ρ = root + rInt adj ∧ (adj = .NoOp ∨ adj = .AddOne) ∧
    root * root * D < Y ∧ ((m = .zero ∨ m = .down) → adj = .NoOp) ∧ ((m = .up ∨ m = .away) → adj = .AddOne) ∧
    (m.isHalf = true → (adj = .NoOp → 4 * Y ≤ (2 * root + 1) * (2 * root + 1) * D) ∧
      (adj = .AddOne → (2 * root + 1) * (2 * root + 1) * D ≤ 4 * Y)))

/-- integer-level specification of the rounding step of `sqrt` (`Y = S·D + low`, `D = B^k`) -/
theorem sqrtRound_spec (B : Nat) (hB : 2 ≤ B) (m : Mode) (sr : Nat → Nat × Nat) (hsr : SqrtRemOk sr)
    (S low : Int) (k : Nat) (hS : 0 ≤ S) (hl0 : 0 ≤ low)
    (hlk : low < ((B ^ k : Nat) : Int)) :
    ∃ root : Int, 0 ≤ root ∧
      root * root * ((B ^ k : Nat) : Int) ≤ S * ((B ^ k : Nat) : Int) + low ∧
      S * ((B ^ k : Nat) : Int) + low < (root + 1) * (root + 1) * ((B ^ k : Nat) : Int) ∧
      SqrtRounded m ((B ^ k : Nat) : Int) (S * ((B ^ k : Nat) : Int) + low) root
        (sqrtRound B m sr S low k).1 (sqrtRound B m sr S low k).2 := by
  have hD := natpow_pos B (by omega) k
  unfold sqrtRound
  dsimp only
  generalize ((B ^ k : Nat) : Int) = D at *
  have hSn : ((S.natAbs : Nat) : Int) = S := by omega
  obtain ⟨c1, c2, c3⟩ := hsr S.natAbs
  have h1 : (((sr S.natAbs).1 * (sr S.natAbs).1 : Nat) : Int) ≤ ((S.natAbs : Nat) : Int) := by
    exact_mod_cast c1
  have h2 : ((S.natAbs : Nat) : Int) < ((((sr S.natAbs).1 + 1) * ((sr S.natAbs).1 + 1) : Nat) : Int) := by
    exact_mod_cast c2
  have h3 : ((((sr S.natAbs).1 * (sr S.natAbs).1 + (sr S.natAbs).2 : Nat)) : Int) = ((S.natAbs : Nat) : Int) := by
    exact_mod_cast c3
  push_cast at h1 h2 h3
  rw [abs_of_nonneg hS] at h1 h2 h3
  generalize hroot : (((sr S.natAbs).1 : Nat) : Int) = root at *
  have hremv : (((sr S.natAbs).2 : Nat) : Int) = S - root * root := by omega
  have hr0 : 0 ≤ root := by rw [← hroot]; exact Int.natCast_nonneg _
  have hlow : root * root * D ≤ S * D + low := by
    have := Int.mul_le_mul_of_nonneg_right h1 (le_of_lt hD); omega
  have hupp : S * D + low < (root + 1) * (root + 1) * D := by
    have h2' : S + 1 ≤ (root + 1) * (root + 1) := by omega
    have := Int.mul_le_mul_of_nonneg_right h2' (le_of_lt hD)
    have e : (S + 1) * D = S * D + D := by ring
    omega
  refine ⟨root, hr0, hlow, hupp, ?_⟩
  simp only [hremv]
  have hrem0 : 0 ≤ S - root * root := by omega
  by_cases hex : S - root * root = 0 ∧ low = 0
  · left
    simp only [hex, and_self, if_true, true_and]
    have : S = root * root := by omega
    rw [this]; ring
  · right
    simp only [hex, if_false]
    have htest := sqrt_half_test root (S - root * root) low D hD hl0 hlk hrem0
    have hY : (root * root + (S - root * root)) * D + low = S * D + low := by ring
    rw [hY] at htest
    rw [htest]
    have hstrict : root * root * D < S * D + low := by
      by_cases hz : S - root * root = 0
      · have hl : low ≠ 0 := fun h => hex ⟨hz, h⟩
        have : S = root * root := by omega
        rw [this]; omega
      · have : root * root + 1 ≤ S := by omega
        have := Int.mul_le_mul_of_nonneg_right this (le_of_lt hD)
        have e : (root * root + 1) * D = root * root * D + D := by ring
        omega
    obtain ⟨_, f2, f3, f4, f5⟩ := table_positive_facts m root hr0
      (compare (4 * (S * D + low)) ((2 * root + 1) * (2 * root + 1) * D))
    refine ⟨_, rfl, rfl, f2, hstrict, f3, f4, ?_⟩
    intro hh
    obtain ⟨g1, g2⟩ := f5 hh
    exact ⟨fun h => cmp_ne_gt (g1 h), fun h => cmp_ne_lt (g2 h)⟩

theorem tdiv_two_mul (j : Int) : Int.tdiv (2 * j) 2 = j := Int.mul_tdiv_cancel_left j (by omega)

/-- the scaling step of `sqrt`: `x · D = (S·D + low) · (B^e)²` with `D = B^k`, `0 ≤ low < D`, and for `x ≠ 0`
    the scaled significand `S` has `2p−1` or `2p` digits -/
theorem sqrtScale_spec (B : Nat) (hB : 2 ≤ B) (p : Nat) (hp : 1 ≤ p) (x : FRepr) (hs : 0 ≤ x.signif) :
    0 ≤ (sqrtScale B p x).1 ∧ 0 ≤ (sqrtScale B p x).2.1 ∧
    (sqrtScale B p x).2.1 < ((B ^ (sqrtScale B p x).2.2.1 : Nat) : Int) ∧
    x.toRat B * ((B ^ (sqrtScale B p x).2.2.1 : Nat) : ℚ) =
      (((sqrtScale B p x).1 * ((B ^ (sqrtScale B p x).2.2.1 : Nat) : Int) + (sqrtScale B p x).2.1 : Int) : ℚ) *
        (bpowQ B (sqrtScale B p x).2.2.2 * bpowQ B (sqrtScale B p x).2.2.2) ∧
    (x.signif ≠ 0 → ((B ^ (2 * p - 2) : Nat) : Int) ≤ (sqrtScale B p x).1 ∧
      (sqrtScale B p x).1 < ((B ^ (2 * p) : Nat) : Int)) ∧
    (x.signif = 0 → (sqrtScale B p x).1 = 0 ∧ (sqrtScale B p x).2.1 = 0) := by
  have hB0 : 0 < B := by omega
  unfold sqrtScale
  try simp only [shlDigits_eq, shrDigits_eq]
  obtain ⟨d, hd⟩ : ∃ d, digitsI B x.signif = d := ⟨_, rfl⟩
  simp only [FRepr.digits, hd]
  -- the exponent after scaling is even
  obtain ⟨j, hj⟩ : ∃ j : Int, x.exp - ((p : Int) * 2 - (d : Int) - ((x.exp - (d : Int)) % 2)) = 2 * j :=
    ⟨(x.exp - (d : Int)) / 2 + d + (x.exp - (d : Int)) % 2 - p, by omega⟩
  have ht : (x.exp - (d : Int)) % 2 = 0 ∨ (x.exp - (d : Int)) % 2 = 1 := by omega
  rw [hj, tdiv_two_mul]
  have huu : bpowQ B j * bpowQ B j = bpowQ B (x.exp - ((p : Int) * 2 - (d : Int) - ((x.exp - (d : Int)) % 2))) := by
    rw [← bpowQ_add B hB0, hj]; congr 1; ring
  by_cases hsh : (p : Int) * 2 - (d : Int) - ((x.exp - (d : Int)) % 2) > 0
  · simp only [hsh, if_true]
    generalize hsn : ((p : Int) * 2 - (d : Int) - ((x.exp - (d : Int)) % 2)).toNat = sh
    have hshv : ((sh : Nat) : Int) = (p : Int) * 2 - (d : Int) - ((x.exp - (d : Int)) % 2) := by
      rw [← hsn]; exact Int.toNat_of_nonneg (by omega)
    have hpow := natpow_pos B hB0 sh
    refine ⟨Int.mul_nonneg hs (le_of_lt hpow), le_refl _, by simp, ?_, ?_, ?_⟩
    · simp only [pow_zero, Nat.cast_one, mul_one, add_zero]
      rw [huu, ← hshv]
      unfold FRepr.toRat
      have : bpowQ B x.exp = ((B ^ sh : Nat) : ℚ) * bpowQ B (x.exp - (sh : Int)) := by
        rw [← bpowQ_nat, ← bpowQ_add B hB0]; congr 1; ring
      rw [this]; push_cast; ring
    · intro hs0
      obtain ⟨hdpos, hlo, hhi⟩ := digitsI_spec B hB x.signif hs0
      rw [hd, abs_of_nonneg hs] at hlo hhi
      rw [hd] at hdpos
      constructor
      · have h1 : 2 * p - 2 ≤ (d - 1) + sh := by omega
        calc ((B ^ (2 * p - 2) : Nat) : Int) ≤ ((B ^ ((d - 1) + sh) : Nat) : Int) := pow_le_pow_int B hB0 _ _ h1
          _ = ((B ^ (d - 1) : Nat) : Int) * ((B ^ sh : Nat) : Int) := by rw [Nat.pow_add]; push_cast; ring
          _ ≤ x.signif * ((B ^ sh : Nat) : Int) := Int.mul_le_mul_of_nonneg_right hlo (le_of_lt hpow)
      · have h1 : d + sh ≤ 2 * p := by omega
        calc x.signif * ((B ^ sh : Nat) : Int) < ((B ^ d : Nat) : Int) * ((B ^ sh : Nat) : Int) :=
              Int.mul_lt_mul_of_pos_right hhi hpow
          _ = ((B ^ (d + sh) : Nat) : Int) := by rw [Nat.pow_add]; push_cast; ring
          _ ≤ ((B ^ (2 * p) : Nat) : Int) := pow_le_pow_int B hB0 _ _ h1
    · intro hs0; rw [hs0]; simp
  · simp only [hsh, if_false]
    generalize hkn : (-((p : Int) * 2 - (d : Int) - ((x.exp - (d : Int)) % 2))).toNat = k
    have hkv : ((k : Nat) : Int) = -((p : Int) * 2 - (d : Int) - ((x.exp - (d : Int)) % 2)) := by
      rw [← hkn]; exact Int.toNat_of_nonneg (by omega)
    obtain ⟨hsplit, hlt, hpos, _⟩ := splitDigits_spec B hB x.signif k
    have hnn := hpos hs
    have hpow := natpow_pos B hB0 k
    have hs0 : x.signif ≠ 0 := by
      intro h0
      have : d = 0 := by rw [← hd, h0, digitsI_zero]
      omega
    refine ⟨hnn.2, hnn.1, (abs_lt.mp hlt).2, ?_, ?_, fun h => absurd h hs0⟩
    · rw [← hsplit, huu]
      unfold FRepr.toRat
      have : bpowQ B (x.exp - ((p : Int) * 2 - (d : Int) - ((x.exp - (d : Int)) % 2))) =
          ((B ^ k : Nat) : ℚ) * bpowQ B x.exp := by
        rw [← bpowQ_nat, ← bpowQ_add B hB0]; congr 1; rw [hkv]; ring
      rw [this]; ring
    · intro _
      obtain ⟨hdpos, hlo, hhi⟩ := digitsI_spec B hB x.signif hs0
      rw [hd, abs_of_nonneg hs] at hlo hhi
      rw [hd] at hdpos
      have hkd : k + 1 ≤ d := by omega
      constructor
      · -- B^(d-1) ≤ s < (hi+1)·B^k
        have h1 : ((B ^ (d - 1 - k) : Nat) : Int) * ((B ^ k : Nat) : Int) = ((B ^ (d - 1) : Nat) : Int) := by
          rw [← Nat.cast_mul, ← Nat.pow_add]; congr 2; omega
        have h2 : ((B ^ (d - 1 - k) : Nat) : Int) * ((B ^ k : Nat) : Int) <
            ((splitDigits B x.signif k).1 + 1) * ((B ^ k : Nat) : Int) := by
          rw [h1]
          have e : ((splitDigits B x.signif k).1 + 1) * ((B ^ k : Nat) : Int) =
              (splitDigits B x.signif k).1 * ((B ^ k : Nat) : Int) + ((B ^ k : Nat) : Int) := by ring
          have := (abs_lt.mp hlt).2
          omega
        have h3 := lt_of_mul_lt_mul_right h2 (le_of_lt hpow)
        have h4 : 2 * p - 2 ≤ d - 1 - k := by omega
        have := pow_le_pow_int B hB0 _ _ h4
        omega
      · have h1 : ((B ^ (d - k) : Nat) : Int) * ((B ^ k : Nat) : Int) = ((B ^ d : Nat) : Int) := by
          rw [← Nat.cast_mul, ← Nat.pow_add]; congr 2; omega
        have h2 : (splitDigits B x.signif k).1 * ((B ^ k : Nat) : Int) < ((B ^ (d - k) : Nat) : Int) * ((B ^ k : Nat) : Int) := by
          rw [h1]; omega
        have h3 := lt_of_mul_lt_mul_right h2 (le_of_lt hpow)
        have h4 : d - k ≤ 2 * p := by omega
        have := pow_le_pow_int B hB0 _ _ h4
        omega

/-! ### squares over `Rat` from integer inequalities: `x · D = Y · u²`, a candidate `z = (c/2)·u` -/

section
variable (c Y D : Int) (u xq : ℚ) (hu : 0 < u) (hD : 0 < D) (hx : xq * (D : ℚ) = (Y : ℚ) * (u * u))
include hu hD hx

/-- both sides of a comparison of `z²` with `x` are integer multiples of `u² / (4·D) > 0` -/
theorem sq_scale : 0 < u * u / (4 * (D : ℚ)) ∧
    ((c : ℚ) / 2 * u) * ((c : ℚ) / 2 * u) = ((c * c * D : Int) : ℚ) * (u * u / (4 * (D : ℚ))) ∧
    xq = ((4 * Y : Int) : ℚ) * (u * u / (4 * (D : ℚ))) := by
  have hDq : (0 : ℚ) < (D : ℚ) := by exact_mod_cast hD
  refine ⟨by positivity, ?_, ?_⟩
  · push_cast; field_simp; ring
  · rw [eq_div_of_mul_eq (ne_of_gt hDq) hx]; push_cast; field_simp

theorem sq_le_x (h : c * c * D ≤ 4 * Y) : ((c : ℚ) / 2 * u) * ((c : ℚ) / 2 * u) ≤ xq := by
  obtain ⟨hk, e1, e2⟩ := sq_scale c Y D u xq hu hD hx
  rw [e1, e2]; exact mul_le_mul_of_nonneg_right (by exact_mod_cast h) hk.le

theorem sq_lt_x (h : c * c * D < 4 * Y) : ((c : ℚ) / 2 * u) * ((c : ℚ) / 2 * u) < xq := by
  obtain ⟨hk, e1, e2⟩ := sq_scale c Y D u xq hu hD hx
  rw [e1, e2]; exact mul_lt_mul_of_pos_right (by exact_mod_cast h) hk

theorem x_le_sq (h : 4 * Y ≤ c * c * D) : xq ≤ ((c : ℚ) / 2 * u) * ((c : ℚ) / 2 * u) := by
  obtain ⟨hk, e1, e2⟩ := sq_scale c Y D u xq hu hD hx
  rw [e1, e2]; exact mul_le_mul_of_nonneg_right (by exact_mod_cast h) hk.le

theorem x_lt_sq (h : 4 * Y < c * c * D) : xq < ((c : ℚ) / 2 * u) * ((c : ℚ) / 2 * u) := by
  obtain ⟨hk, e1, e2⟩ := sq_scale c Y D u xq hu hD hx
  rw [e1, e2]; exact mul_lt_mul_of_pos_right (by exact_mod_cast h) hk

end

/-- `ContractSqrt` over `Rat` from its integer-scaled form: `x · D = Y · u²` with `u = B^e`, result `ρ · u`;
    every clause is the comparison of `(c/2 · u)²` with `x` for `c = 2ρ, 2ρ ± 1, 2ρ ± 2`, i.e. of `c²·D` with `4·Y` -/
theorem contractSqrt_of_int (B : Nat) (hB : 2 ≤ B) (m : Mode) (p : Nat) (hp : 1 ≤ p)
    (D Y ρ : Int) (hD : 0 < D) (u xq : ℚ) (hu : 0 < u) (e : Int) (he : bpowQ B e = u)
    (hx : xq * (D : ℚ) = (Y : ℚ) * (u * u)) (hρ0 : 0 ≤ ρ) (flag : Option Rounding)
    (hex : flag = none ↔ ρ * ρ * D = Y)
    (hdig : ρ * ρ * D ≠ Y → ((B ^ (p - 1) : Nat) : Int) * ((B ^ (p - 1) : Nat) : Int) * D ≤ Y)
    (herr : ρ * ρ * D ≠ Y → if m.isHalf then
        (ρ = 0 ∨ (2 * ρ - 1) * (2 * ρ - 1) * D ≤ 4 * Y) ∧ 4 * Y ≤ (2 * ρ + 1) * (2 * ρ + 1) * D
      else (ρ = 0 ∨ (2 * ρ - 2) * (2 * ρ - 2) * D < 4 * Y) ∧ 4 * Y < (2 * ρ + 2) * (2 * ρ + 2) * D)
    (hside : match m with
      | .zero | .down => ρ * ρ * D ≤ Y
      | .away | .up => Y ≤ ρ * ρ * D
      | _ => True)
    (hadd : flag = some .AddOne → Y < ρ * ρ * D) (hsub : flag = some .SubOne → ρ * ρ * D < Y) :
    ContractSqrt B m p xq ((ρ : ℚ) * u) flag := by
  have hB0 : 0 < B := by omega
  have hr : (ρ : ℚ) * u = ((2 * ρ : Int) : ℚ) / 2 * u := by push_cast; ring
  have x0 : (2 * ρ) * (2 * ρ) * D = 4 * (ρ * ρ * D) := by ring
  have hρu : 0 ≤ (ρ : ℚ) * u := mul_nonneg (by exact_mod_cast hρ0) hu.le
  have hle : ρ * ρ * D ≤ Y → (ρ : ℚ) * u * ((ρ : ℚ) * u) ≤ xq := fun h => by
    rw [hr]; exact sq_le_x _ Y D u xq hu hD hx (by rw [x0]; omega)
  have hge : Y ≤ ρ * ρ * D → xq ≤ (ρ : ℚ) * u * ((ρ : ℚ) * u) := fun h => by
    rw [hr]; exact x_le_sq _ Y D u xq hu hD hx (by rw [x0]; omega)
  have hlt : ρ * ρ * D < Y → (ρ : ℚ) * u * ((ρ : ℚ) * u) < xq := fun h => by
    rw [hr]; exact sq_lt_x _ Y D u xq hu hD hx (by rw [x0]; omega)
  have hgt : Y < ρ * ρ * D → xq < (ρ : ℚ) * u * ((ρ : ℚ) * u) := fun h => by
    rw [hr]; exact x_lt_sq _ Y D u xq hu hD hx (by rw [x0]; omega)
  have hne : (ρ : ℚ) * u * ((ρ : ℚ) * u) ≠ xq → ρ * ρ * D ≠ Y := fun hq h =>
    hq (le_antisymm (hle (le_of_eq h)) (hge (le_of_eq h.symm)))
  refine ⟨hρu, ⟨fun hf => by_contra fun hq => hne hq (hex.mp hf), fun hq => hex.mpr ?_⟩,
    fun hq => ⟨e, ?_, ?_, ρ, by rw [he]⟩, ?_, fun hf => hgt (hadd hf), fun hf => hlt (hsub hf)⟩
  · by_contra hn
    rcases lt_or_gt_of_ne hn with h | h
    · exact ne_of_lt (hlt h) hq
    · exact ne_of_gt (hgt h) hq
  · have e1 : e + p - 1 = ((p - 1 : Nat) : Int) + e := by push_cast; omega
    have e2 : bpowQ B (e + p - 1) = ((2 * ((B ^ (p - 1) : Nat) : Int) : Int) : ℚ) / 2 * u := by
      rw [e1, bpowQ_add B hB0, bpowQ_nat, he]; push_cast; ring
    have e3 : (2 * ((B ^ (p - 1) : Nat) : Int)) * (2 * ((B ^ (p - 1) : Nat) : Int)) * D =
        4 * (((B ^ (p - 1) : Nat) : Int) * ((B ^ (p - 1) : Nat) : Int) * D) := by ring
    rw [e2]
    exact sq_le_x _ Y D u xq hu hD hx (by rw [e3]; have := hdig (hne hq); omega)
  · have hrm : (ρ : ℚ) * u - u / 2 = ((2 * ρ - 1 : Int) : ℚ) / 2 * u := by push_cast; ring
    have hrp : (ρ : ℚ) * u + u / 2 = ((2 * ρ + 1 : Int) : ℚ) / 2 * u := by push_cast; ring
    have hrm2 : (ρ : ℚ) * u - u = ((2 * ρ - 2 : Int) : ℚ) / 2 * u := by push_cast; ring
    have hrp2 : (ρ : ℚ) * u + u = ((2 * ρ + 2 : Int) : ℚ) / 2 * u := by push_cast; ring
    have herr' := herr (hne hq)
    unfold errSqrtOk leSqrt geSqrt ltSqrt gtSqrt
    rw [he]
    by_cases hh : m.isHalf = true
    · rw [if_pos hh] at herr' ⊢
      refine ⟨?_, add_nonneg hρu (half_pos hu).le, ?_⟩
      · rcases herr'.1 with h0 | h
        · left; rw [h0, Int.cast_zero, zero_mul, zero_sub]; exact neg_nonpos.mpr (half_pos hu).le
        · right; rw [hrm]; exact sq_le_x _ Y D u xq hu hD hx h
      · rw [hrp]; exact x_le_sq _ Y D u xq hu hD hx herr'.2
    · rw [if_neg hh] at herr' ⊢
      refine ⟨?_, add_nonneg hρu hu.le, ?_⟩
      · rcases herr'.1 with h0 | h
        · left; rw [h0, Int.cast_zero, zero_mul, zero_sub]; exact neg_neg_of_pos hu
        · right; rw [hrm2]; exact sq_lt_x _ Y D u xq hu hD hx h
      · rw [hrp2]; exact x_lt_sq _ Y D u xq hu hD hx herr'.2
  · unfold sideSqrtOk
    cases m
    · exact hle hside
    · exact hge hside
    · exact hge hside
    · exact hle hside
    · trivial
    · trivial

/-- from the integer-level facts about `root`, `Y = S·D + low`, to `ContractSqrt` over `Rat`: the result
    is `root` (exact, or `NoOp`) or `root + 1` (`AddOne`) -/
theorem contractSqrt_assemble (B : Nat) (hB : 2 ≤ B) (m : Mode) (p : Nat) (hp : 1 ≤ p)
    (D Y root : Int) (hD : 0 < D) (u xq : ℚ) (hu : 0 < u) (e : Int) (he : bpowQ B e = u)
    (hx : xq * (D : ℚ) = (Y : ℚ) * (u * u))
    (hr0 : 0 ≤ root) (hlow : root * root * D ≤ Y) (hupp : Y < (root + 1) * (root + 1) * D)
    (hdig : Y ≠ 0 → ((B ^ (p - 1) : Nat) : Int) * ((B ^ (p - 1) : Nat) : Int) * D ≤ Y)
    (flag : Option Rounding) (ρ : Int) (h : SqrtRounded m D Y root ρ flag) :
    ContractSqrt B m p xq ((ρ : ℚ) * u) flag := by
  -- the integer arithmetic below is linear in `root²·D`, `root·D` and `D`
  have hb0 : 0 ≤ root * D := Int.mul_nonneg hr0 hD.le
  have hb1 : root ≠ 0 → D ≤ root * D := fun h => by
    have := Int.mul_le_mul_of_nonneg_right (show 1 ≤ root by omega) hD.le; omega
  have ha0 : 0 ≤ root * root * D := Int.mul_nonneg (Int.mul_nonneg hr0 hr0) hD.le
  have xu : (root + 1) * (root + 1) * D = root * root * D + 2 * (root * D) + D := by ring
  have xp1 : (2 * root + 1) * (2 * root + 1) * D = 4 * (root * root * D) + 4 * (root * D) + D := by ring
  rw [xu] at hupp
  rcases h with ⟨rfl, rfl, hY⟩ | ⟨adj, rfl, hρ, hadj, hstrict, hzd, hua, hhalf⟩
  · refine contractSqrt_of_int B hB m p hp D Y ρ hD u xq hu e he hx hr0 none (iff_of_true rfl hY.symm)
      (fun h => absurd hY.symm h) (fun h => absurd hY.symm h) ?_ (fun h => by cases h) (fun h => by cases h)
    cases m <;> simp only <;> omega
  · rcases hadj with rfl | rfl
    · -- `NoOp`: `ρ = root`, `ρ² < x`
      obtain rfl : ρ = root := by rw [hρ]; exact add_zero _
      have xm1 : (2 * ρ - 1) * (2 * ρ - 1) * D = 4 * (ρ * ρ * D) - 4 * (ρ * D) + D := by ring
      have xm2 : (2 * ρ - 2) * (2 * ρ - 2) * D = 4 * (ρ * ρ * D) - 8 * (ρ * D) + 4 * D := by ring
      have xp2 : (2 * ρ + 2) * (2 * ρ + 2) * D = 4 * (ρ * ρ * D) + 8 * (ρ * D) + 4 * D := by ring
      refine contractSqrt_of_int B hB m p hp D Y ρ hD u xq hu e he hx hr0 _
        ⟨fun h => (nomatch h), fun h => absurd h (ne_of_lt hstrict)⟩ (fun _ => hdig (by omega)) (fun _ => ?_) ?_
        (fun h => by cases h) (fun h => by cases h)
      · by_cases hh : m.isHalf = true
        · rw [if_pos hh]
          exact ⟨(eq_or_ne ρ 0).imp_right fun h0 => by have := hb1 h0; omega, ((hhalf hh).1 rfl)⟩
        · rw [if_neg hh]
          exact ⟨(eq_or_ne ρ 0).imp_right fun h0 => by have := hb1 h0; omega, by omega⟩
      · cases m <;> simp only
        · exact hstrict.le
        · exact absurd (hua (Or.inr rfl)) (by decide)
        · exact absurd (hua (Or.inl rfl)) (by decide)
        · exact hstrict.le
    · -- `AddOne`: `ρ = root + 1`, `x < ρ²`
      obtain rfl : ρ = root + 1 := hρ
      have xm1 : (2 * (root + 1) - 1) * (2 * (root + 1) - 1) * D = 4 * (root * root * D) + 4 * (root * D) + D := by ring
      have xq1 : (2 * (root + 1) + 1) * (2 * (root + 1) + 1) * D = 4 * (root * root * D) + 12 * (root * D) + 9 * D := by ring
      have xm2 : (2 * (root + 1) - 2) * (2 * (root + 1) - 2) * D = 4 * (root * root * D) := by ring
      have xp2 : (2 * (root + 1) + 2) * (2 * (root + 1) + 2) * D = 4 * (root * root * D) + 16 * (root * D) + 16 * D := by ring
      refine contractSqrt_of_int B hB m p hp D Y (root + 1) hD u xq hu e he hx (by omega) _
        ⟨fun h => (nomatch h), fun h => by omega⟩ (fun _ => hdig (by omega)) (fun _ => ?_) ?_
        (fun _ => by omega) (fun h => by cases h)
      · by_cases hh : m.isHalf = true
        · rw [if_pos hh]
          have := (hhalf hh).2 rfl
          exact ⟨Or.inr (by omega), by omega⟩
        · rw [if_neg hh]
          exact ⟨Or.inr (by omega), by omega⟩
      · cases m <;> simp only
        · exact absurd (hzd (Or.inl rfl)) (by decide)
        · omega
        · omega
        · exact absurd (hzd (Or.inr rfl)) (by decide)

/-! ### the result of the rounding step fits `p` digits, so the final `repr_round` is the identity -/

/-- the floor root of a `2p`-digit significand has at most `p` digits -/
theorem sqrt_root_lt (B : Nat) (p : Nat) (S low D root : Int) (hD : 0 < D) (hr0 : 0 ≤ root)
    (hlow : root * root * D ≤ S * D + low) (hlk : low < D) (hS : S < ((B ^ (2 * p) : Nat) : Int)) :
    root < ((B ^ p : Nat) : Int) := by
  by_contra hc
  have hge : ((B ^ p : Nat) : Int) ≤ root := by omega
  have hpp : ((B ^ (2 * p) : Nat) : Int) = ((B ^ p : Nat) : Int) * ((B ^ p : Nat) : Int) := by
    rw [two_mul, natpow_add]
  have hsq : ((B ^ p : Nat) : Int) * ((B ^ p : Nat) : Int) ≤ root * root :=
    Int.mul_le_mul hge hge (Int.natCast_nonneg _) hr0
  have h5 : (S + 1) * D ≤ root * root * D := Int.mul_le_mul_of_nonneg_right (by omega) hD.le
  rw [add_mul, one_mul] at h5
  omega

/-- the root has at most `p` digits, so the closing `repr_round` of `Context::sqrt` is the identity: the
    result is the normalised output of the rounding step, with its flag -/
theorem ctxSqrt_eq (B : Nat) (hB : 2 ≤ B) (m : Mode) (c : Coarse) (sr : Nat → Nat × Nat) (hsr : SqrtRemOk sr)
    (p : Nat) (hp : 1 ≤ p) (x : FRepr) (hs : 0 ≤ x.signif) :
    ctxSqrt B m c sr p x = .ok
      (FRepr.new B (sqrtRound B m sr (sqrtScale B p x).1 (sqrtScale B p x).2.1 (sqrtScale B p x).2.2.1).1
        (sqrtScale B p x).2.2.2,
       (sqrtRound B m sr (sqrtScale B p x).1 (sqrtScale B p x).2.1 (sqrtScale B p x).2.2.1).2) := by
  have hB0 : 0 < B := by omega
  obtain ⟨hS0, hl0, hlk, -, hdig, hzero⟩ := sqrtScale_spec B hB p hp x hs
  obtain ⟨root, hr0, hlow, -, hres⟩ :=
    sqrtRound_spec B hB m sr hsr _ _ _ hS0 hl0 hlk
  have hSlt : (sqrtScale B p x).1 < ((B ^ (2 * p) : Nat) : Int) := by
    by_cases hs0 : x.signif = 0
    · rw [(hzero hs0).1]; exact natpow_pos B hB0 _
    · exact (hdig hs0).2
  have hrootlt := sqrt_root_lt B p _ _ _ root (natpow_pos B hB0 _) hr0 hlow hlk hSlt
  have hrange : 0 ≤ (sqrtRound B m sr (sqrtScale B p x).1 (sqrtScale B p x).2.1 (sqrtScale B p x).2.2.1).1 ∧
      (sqrtRound B m sr (sqrtScale B p x).1 (sqrtScale B p x).2.1 (sqrtScale B p x).2.2.1).1 ≤ ((B ^ p : Nat) : Int) := by
    rcases hres with ⟨-, h, -⟩ | ⟨adj, -, h, hadj, -⟩
    · rw [h]; exact ⟨hr0, hrootlt.le⟩
    · rw [h]; rcases hadj with rfl | rfl <;> simp only [rInt] <;> constructor <;> omega
  unfold ctxSqrt
  rw [if_neg (by omega), if_neg (by omega)]
  simp only [reprRound_exact_of_fits B m c p _ (new_digits_le B hB p hp _ _ hrange.1 hrange.2), andThenFlag_none_right]

/-- **`Context::sqrt` honours the contract** (`p ≥ 1`, non-negative operand of any length): the result
    `r ≥ 0` is flagged `Exact` iff `r² = x`; otherwise `√x` is within one ulp (half an ulp for the nearest
    modes) of `r` on the side the mode prescribes — all comparisons on squares. -/
theorem ctxSqrt_contract (B : Nat) (hB : 2 ≤ B) (m : Mode) (c : Coarse) (sr : Nat → Nat × Nat) (hsr : SqrtRemOk sr)
    (p : Nat) (hp : 1 ≤ p) (x : FRepr) (hs : 0 ≤ x.signif) :
    ∃ r, ctxSqrt B m c sr p x = .ok r ∧ ContractSqrt B m p (x.toRat B) (r.1.toRat B) r.2 := by
  have hB0 : 0 < B := by omega
  refine ⟨_, ctxSqrt_eq B hB m c sr hsr p hp x hs, ?_⟩
  obtain ⟨hS0, hl0, hlk, hval, hdig, hzero⟩ := sqrtScale_spec B hB p hp x hs
  generalize sqrtScale B p x = sc at *
  obtain ⟨root, hr0, hlow, hupp, hres⟩ := sqrtRound_spec B hB m sr hsr sc.1 sc.2.1 sc.2.2.1 hS0 hl0 hlk
  have hD := natpow_pos B hB0 sc.2.2.1
  have hu := bpowQ_pos B hB0 sc.2.2.2
  have hdig' : sc.1 * ((B ^ sc.2.2.1 : Nat) : Int) + sc.2.1 ≠ 0 →
      ((B ^ (p - 1) : Nat) : Int) * ((B ^ (p - 1) : Nat) : Int) * ((B ^ sc.2.2.1 : Nat) : Int) ≤
        sc.1 * ((B ^ sc.2.2.1 : Nat) : Int) + sc.2.1 := by
    intro hne
    have hs0 : x.signif ≠ 0 := by
      intro h0
      obtain ⟨h1, h2⟩ := hzero h0
      rw [h1, h2] at hne; simp at hne
    obtain ⟨h1, _⟩ := hdig hs0
    rw [show 2 * p - 2 = (p - 1) + (p - 1) by omega, natpow_add] at h1
    have := Int.mul_le_mul_of_nonneg_right h1 hD.le
    omega
  dsimp only
  rw [FRepr.new_value B hB0]
  exact contractSqrt_assemble B hB m p hp _ _ root hD _ _ hu sc.2.2.2 rfl hval hr0 hlow hupp hdig' _ _ hres

/-- core `Nat.sqrt` (what the driver runs) meets the `sqrt_rem` contract -/
theorem natSqrtRem_ok : SqrtRemOk natSqrtRem := by
  intro n
  unfold natSqrtRem
  dsimp only
  have h1 := Nat.sqrt_le n
  have h2 := Nat.lt_succ_sqrt' n
  simp only [Nat.succ_eq_add_one, Nat.pow_two] at h2
  exact ⟨h1, h2, by omega⟩

end Dashu.Model.Float
