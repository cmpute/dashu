import Dashu.Proofs.Float.Contract
import Mathlib.Algebra.Order.Field.Power
import Mathlib.Tactic.Positivity
import Mathlib.Tactic.FieldSimp
/-
  Values over `Rat`: `bpowQ` is `B^e`, `Repr::new` (normalisation) keeps the value and delivers a
  significand not divisible by the base, and the step from the integer-scaled contract to
  `Contract` over `Rat`.
-/
namespace Dashu.Model.Float

theorem bpowQ_eq_zpow (B : Nat) (e : Int) : bpowQ B e = (B : ℚ) ^ e := by
  unfold bpowQ
  by_cases h : e ≥ 0
  · simp only [h, if_true]
    conv_rhs => rw [← Int.toNat_of_nonneg h]
    rw [zpow_natCast]; push_cast; rfl
  · simp only [h, if_false]
    have h' : 0 ≤ -e := by omega
    have : e = -((-e).toNat : Int) := by rw [Int.toNat_of_nonneg h']; ring
    conv_rhs => rw [this]
    rw [zpow_neg, zpow_natCast]; push_cast; rw [one_div]

theorem bpowQ_pos (B : Nat) (hB : 0 < B) (e : Int) : 0 < bpowQ B e := by
  rw [bpowQ_eq_zpow]; exact zpow_pos (by exact_mod_cast hB) e

theorem bpowQ_add (B : Nat) (hB : 0 < B) (a b : Int) : bpowQ B (a + b) = bpowQ B a * bpowQ B b := by
  simp only [bpowQ_eq_zpow]
  exact zpow_add₀ (by exact_mod_cast (Nat.pos_iff_ne_zero.mp hB)) a b

theorem bpowQ_nat (B k : Nat) : bpowQ B (k : Int) = ((B ^ k : Nat) : ℚ) := by
  rw [bpowQ_eq_zpow, zpow_natCast]; push_cast; rfl

theorem bpowQ_shift (B : Nat) (hB : 0 < B) (e : Int) (k : Nat) :
    ((B ^ k : Nat) : ℚ) * bpowQ B (e - (k : Int)) = bpowQ B e := by
  rw [← bpowQ_nat, ← bpowQ_add B hB]; congr 1; omega

theorem absQ_eq (x : ℚ) : absQ x = |x| := by
  unfold absQ
  split
  · rw [abs_of_neg ‹_›]
  · rw [abs_of_nonneg (by linarith)]

theorem bpowQ_mono (B : Nat) (hB : 2 ≤ B) (a b : Int) (h : a ≤ b) : bpowQ B a ≤ bpowQ B b := by
  rw [bpowQ_eq_zpow, bpowQ_eq_zpow]
  have h1 : (1 : ℚ) ≤ (B : ℚ) := by exact_mod_cast (by omega : 1 ≤ B)
  exact zpow_le_zpow_right₀ h1 h

theorem bpowQ_le_bpowQ (B : Nat) (hB : 2 ≤ B) (a b : Int) (h : bpowQ B a ≤ bpowQ B b) : a ≤ b := by
  by_contra hc
  have hlt : b < a := by omega
  rw [bpowQ_eq_zpow, bpowQ_eq_zpow] at h
  have h1 : (1 : ℚ) < (B : ℚ) := by exact_mod_cast (by omega : 1 < B)
  have := zpow_lt_zpow_right₀ h1 hlt
  linarith

theorem bpowQ_zero (B : Nat) : bpowQ B 0 = 1 := by
  rw [bpowQ_eq_zpow]; simp

/-- `B^b` is an integer multiple of `B^a` for `a ≤ b` -/
theorem bpowQ_split (B : Nat) (hB : 2 ≤ B) (a b : Int) (h : a ≤ b) :
    bpowQ B b = (((B ^ (b - a).toNat : Nat) : Int) : ℚ) * bpowQ B a := by
  have hB0 : 0 < B := by omega
  have e : b = ((b - a).toNat : Int) + a := by rw [Int.toNat_of_nonneg (by omega)]; ring
  conv_lhs => rw [e]
  rw [bpowQ_add B hB0, bpowQ_nat]; push_cast; ring

theorem bpow_eps_le_one (B : Nat) (hB : 2 ≤ B) (q : Nat) (hq : 1 ≤ q) : bpowQ B (1 - (q : Int)) ≤ 1 := by
  rw [bpowQ_eq_zpow]
  have hB1 : (1 : ℚ) ≤ (B : ℚ) := by exact_mod_cast (by omega : 1 ≤ B)
  exact zpow_le_one_of_nonpos₀ hB1 (by omega)

theorem bpowQ_eps_le (B : Nat) (hB : 2 ≤ B) (w P : Nat) (h : w ≤ P) :
    bpowQ B (1 - (P : Int)) ≤ bpowQ B (1 - (w : Int)) := bpowQ_mono B hB _ _ (by omega)

/-! ### `Repr::new` -/

theorem stripAux_value (B : Nat) (hB : 0 < B) : ∀ fuel (s e : Int),
    ((stripAux B fuel s e).1 : ℚ) * bpowQ B (stripAux B fuel s e).2 = (s : ℚ) * bpowQ B e := by
  intro fuel
  induction fuel with
  | zero => intro s e; rfl
  | succ fuel ih =>
    intro s e
    unfold stripAux
    by_cases h : s % (B : Int) = 0
    · simp only [h, if_true]
      rw [ih]
      have hs : s = (B : Int) * (s / (B : Int)) := by
        have := Int.mul_ediv_add_emod s B; omega
      rw [bpowQ_add B hB, show bpowQ B 1 = (B : ℚ) by rw [show (1 : Int) = ((1 : Nat) : Int) by rfl, bpowQ_nat]; simp]
      conv_rhs => rw [hs]
      push_cast; ring
    · simp only [h, if_false]

theorem FRepr.new_value (B : Nat) (hB : 0 < B) (s e : Int) :
    (FRepr.new B s e).toRat B = (s : ℚ) * bpowQ B e := by
  unfold FRepr.new FRepr.toRat
  by_cases h : s = 0
  · subst h; simp
  · simp only [h, if_false]
    exact stripAux_value B hB _ s e

/-- a significand that is zero or not divisible by the base (the invariant `Repr::new` establishes) -/
def Normalized (B : Nat) (r : FRepr) : Prop := r.signif = 0 ∨ r.signif % (B : Int) ≠ 0

theorem stripAux_norm (B : Nat) (hB : 2 ≤ B) : ∀ fuel (s e : Int), s ≠ 0 → s.natAbs < 2 ^ fuel →
    (stripAux B fuel s e).1 % (B : Int) ≠ 0 := by
  intro fuel
  induction fuel with
  | zero => intro s e hs h; simp at h; omega
  | succ fuel ih =>
    intro s e hs hlt
    unfold stripAux
    by_cases h : s % (B : Int) = 0
    · simp only [h, if_true]
      have hsB : s = (B : Int) * (s / (B : Int)) := by
        have := Int.mul_ediv_add_emod s B; omega
      have hq0 : s / (B : Int) ≠ 0 := by
        intro hq; rw [hq] at hsB; simp at hsB; exact hs hsB
      apply ih _ _ hq0
      have hab : s.natAbs = B * (s / (B : Int)).natAbs := by
        conv_lhs => rw [hsB]
        rw [Int.natAbs_mul]; simp
      have : 2 * (s / (B : Int)).natAbs ≤ s.natAbs := by
        rw [hab]; exact Nat.mul_le_mul_right _ hB
      rw [Nat.pow_succ] at hlt
      omega
    · simp only [h, if_false]
      exact h

theorem FRepr.new_normalized (B : Nat) (hB : 2 ≤ B) (s e : Int) : Normalized B (FRepr.new B s e) := by
  unfold FRepr.new Normalized
  by_cases h : s = 0
  · subst h; simp
  · simp only [h, if_false]
    right
    exact stripAux_norm B hB _ s e h Nat.lt_log2_self

/-! ### from the integer-scaled contract to `Contract` -/

/-- from the integer-scaled contract with unit `D > 0` to `Contract`: the scale `u > 0` makes `D · u = B^e` -/
theorem contract_of_icontract' (B : Nat) (hB : 2 ≤ B) (m : Mode) (p : Nat) (hp : 1 ≤ p) (D X R : Int) (hD : 0 < D)
    (flag : Option Rounding) (u : ℚ) (hu : 0 < u) (e : Int) (hunit : (D : ℚ) * u = bpowQ B e)
    (h : IContract m D X R flag) (hR : ∃ t : Int, R = t * D)
    (hulp : D * ((B ^ (p - 1) : Nat) : Int) ≤ |X|) :
    Contract B m p ((X : ℚ) * u) ((R : ℚ) * u) flag := by
  have hB0 : 0 < B := by omega
  have hne : (R : ℚ) * u ≠ (X : ℚ) * u := by
    intro heq
    have := mul_right_cancel₀ (ne_of_gt hu) heq
    exact h.ne (by exact_mod_cast this)
  refine ⟨?_, ?_, ?_, ?_, ?_⟩
  · constructor
    · intro hf; exact absurd hf h.flag_some
    · intro hr; exact absurd hr hne
  · intro _
    refine ⟨e, ?_, ?_, ?_⟩
    rotate_left 2
    · obtain ⟨t, ht⟩ := hR
      refine ⟨t, ?_⟩
      rw [← hunit, ht]; push_cast; ring
    · have e1 : e + p - 1 = ((p - 1 : Nat) : Int) + e := by push_cast; omega
      rw [e1, bpowQ_add B hB0, bpowQ_nat, ← hunit, absQ_eq, abs_mul, abs_of_pos hu]
      have : ((B ^ (p - 1) : Nat) : ℚ) * ((D : ℚ) * u) = (((D * ((B ^ (p - 1) : Nat) : Int) : Int)) : ℚ) * u := by
        push_cast; ring
      rw [this]
      apply mul_le_mul_of_nonneg_right _ (le_of_lt hu)
      rw [← Int.cast_abs]
      exact_mod_cast hulp
    · unfold errOk
      rw [← hunit, absQ_eq, ← sub_mul, abs_mul, abs_of_pos hu]
      have herr := h.err
      by_cases hh : m.isHalf = true
      · simp only [hh, if_true] at herr ⊢
        have : 2 * |((R : ℚ) - X)| ≤ (D : ℚ) := by
          have hab : 2 * |R - X| ≤ D := by
            rw [show (2 : Int) * |R - X| = |2 * (R - X)| by rw [abs_mul]; simp]
            exact abs_le.mpr herr
          have : ((2 * |R - X| : Int) : ℚ) ≤ ((D : Int) : ℚ) := by exact_mod_cast hab
          push_cast at this
          simpa using this
        calc 2 * (|(R : ℚ) - X| * u) = (2 * |(R : ℚ) - X|) * u := by ring
          _ ≤ (D : ℚ) * u := mul_le_mul_of_nonneg_right this (le_of_lt hu)
      · simp only [hh, if_false, Bool.false_eq_true] at herr ⊢
        have : |((R : ℚ) - X)| < (D : ℚ) := by
          have hab : |R - X| < D := abs_lt.mpr herr
          have : ((|R - X| : Int) : ℚ) < ((D : Int) : ℚ) := by exact_mod_cast hab
          push_cast at this
          simpa using this
        exact mul_lt_mul_of_pos_right this hu
  · have hs := h.side
    unfold sideOk
    cases m <;> simp only at hs ⊢
    · rw [absQ_eq, absQ_eq, abs_mul, abs_mul, abs_of_pos hu]
      apply mul_le_mul_of_nonneg_right _ (le_of_lt hu)
      have : |R| ≤ |X| := by
        rcases le_total 0 X with hx | hx
        · have := hs.1 hx; rw [abs_of_nonneg this.1, abs_of_nonneg hx]; exact this.2
        · have := hs.2 hx; rw [abs_of_nonpos this.2, abs_of_nonpos hx]; linarith [this.1]
      have : ((|R| : Int) : ℚ) ≤ ((|X| : Int) : ℚ) := by exact_mod_cast this
      simpa using this
    · rw [absQ_eq, absQ_eq, abs_mul, abs_mul, abs_of_pos hu]
      apply mul_le_mul_of_nonneg_right _ (le_of_lt hu)
      have : |X| ≤ |R| := by
        rcases le_total 0 X with hx | hx
        · have := hs.1 hx; rw [abs_of_nonneg hx, abs_of_nonneg (by linarith)]; exact this
        · have := hs.2 hx; rw [abs_of_nonpos hx, abs_of_nonpos (by linarith)]; linarith
      have : ((|X| : Int) : ℚ) ≤ ((|R| : Int) : ℚ) := by exact_mod_cast this
      simpa using this
    · exact mul_le_mul_of_nonneg_right (by exact_mod_cast hs) (le_of_lt hu)
    · exact mul_le_mul_of_nonneg_right (by exact_mod_cast hs) (le_of_lt hu)
  · intro hf
    exact mul_lt_mul_of_pos_right (by exact_mod_cast h.addOne hf) hu
  · intro hf
    exact mul_lt_mul_of_pos_right (by exact_mod_cast h.subOne hf) hu

/-- the unit a power of the base, the scale `B^e` -/
theorem contract_of_icontract (B : Nat) (hB : 2 ≤ B) (m : Mode) (p k : Nat) (hp : 1 ≤ p) (X R : Int)
    (flag : Option Rounding) (e : Int)
    (h : IContract m ((B ^ k : Nat) : Int) X R flag) (hR : ∃ t : Int, R = t * ((B ^ k : Nat) : Int))
    (hulp : ((B ^ k : Nat) : Int) * ((B ^ (p - 1) : Nat) : Int) ≤ |X|) :
    Contract B m p ((X : ℚ) * bpowQ B e) ((R : ℚ) * bpowQ B e) flag :=
  have hB0 : 0 < B := by omega
  contract_of_icontract' B hB m p hp _ X R (natpow_pos B hB0 k) flag _ (bpowQ_pos B hB0 e) (k + e)
    (by rw [bpowQ_add B hB0, bpowQ_nat, Int.cast_natCast]) h hR hulp

theorem contract_exact (B : Nat) (m : Mode) (p : Nat) (x : ℚ) : Contract B m p x x none := by
  refine ⟨by simp, fun h => absurd rfl h, ?_, by simp, by simp⟩
  unfold sideOk
  cases m <;> simp

end Dashu.Model.Float
