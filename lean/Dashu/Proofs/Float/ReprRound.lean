import Dashu.Proofs.Float.Value
/-
  `Context::repr_round` honours the rounding contract, and what is built directly on it.
-/
namespace Dashu.Model.Float

theorem digitsI_spec (B : Nat) (hB : 2 ≤ B) (v : Int) (hv : v ≠ 0) :
    0 < digitsI B v ∧ ((B ^ (digitsI B v - 1) : Nat) : Int) ≤ |v| ∧ |v| < ((B ^ digitsI B v : Nat) : Int) := by
  have hpos : 0 < v.natAbs := Int.natAbs_pos.mpr hv
  obtain ⟨h0, h1, h2⟩ := digits_spec B hB v.natAbs hpos
  unfold digitsI
  refine ⟨h0, ?_, ?_⟩
  · rw [← Int.natCast_natAbs]; exact_mod_cast h1
  · rw [← Int.natCast_natAbs]; exact_mod_cast h2

theorem digitsI_zero (B : Nat) : digitsI B 0 = 0 := by simp [digitsI, digits_zero]

theorem abs_lt_pow_of_digits (B : Nat) (hB : 2 ≤ B) (v : Int) (p : Nat) (h : digitsI B v ≤ p) :
    |v| < ((B ^ p : Nat) : Int) := by
  have h1 : v.natAbs < B ^ digitsI B v := digits_lt_pow B hB _
  have h2 : B ^ digitsI B v ≤ B ^ p := Nat.pow_le_pow_right (by omega) h
  rw [← Int.natCast_natAbs]
  exact_mod_cast lt_of_lt_of_le h1 h2

/-- a value shorter than `k` digits has no high part -/
theorem splitDigits_small (B : Nat) (hB : 2 ≤ B) (s : Int) (k : Nat) (h : |s| < ((B ^ k : Nat) : Int)) :
    splitDigits B s k = (0, s) := by
  rw [splitDigits_eq, splitSpec]
  obtain ⟨e1, e2⟩ := tdiv_unique s _ 0 s (natpow_pos B (by omega) k) (by ring) h (fun h => h) (fun h => h)
  rw [← e1, ← e2]

/-- the exact sum `lhs ± rhs` over the smaller exponent (`E = lhs.exp − rhs.exp ≥ 0`) -/
theorem toRat_add_aligned (B : Nat) (hB : 0 < B) (lhs rhs : FRepr) (rs : Int) (E : Nat)
    (hE : (E : Int) = lhs.exp - rhs.exp) :
    lhs.toRat B + (rs : ℚ) * rhs.toRat B =
      ((lhs.signif * ((B ^ E : Nat) : Int) + rs * rhs.signif : Int) : ℚ) * bpowQ B rhs.exp := by
  unfold FRepr.toRat
  have : bpowQ B lhs.exp = ((B ^ E : Nat) : ℚ) * bpowQ B rhs.exp := by
    rw [← bpowQ_nat, ← bpowQ_add B hB, hE, sub_add_cancel]
  rw [this]; push_cast; ring

/-- rounding a significand `s = hi·B^k + lo` (`0 < |lo| < B^k`, `hi, lo` any signs) at digit `k`:
    the heart of `repr_round`, `repr_round_sum` and the integer roundings -/
theorem round_at_contract (B : Nat) (hB : 2 ≤ B) (m : Mode) (c : Coarse) (hc : CoarseSound c)
    (p : Nat) (hp : 1 ≤ p) (hi lo : Int) (k : Nat) (e : Int)
    (hlo : lo ≠ 0) (hlt : |lo| < ((B ^ k : Nat) : Int))
    (hulp : ((B ^ k : Nat) : Int) * ((B ^ (p - 1) : Nat) : Int) ≤ |hi * ((B ^ k : Nat) : Int) + lo|) :
    Contract B m p (((hi * ((B ^ k : Nat) : Int) + lo : Int) : ℚ) * bpowQ B e)
      ((FRepr.new B (hi + rInt (roundFract B m c hi lo k)) (e + k)).toRat B)
      (some (roundFract B m c hi lo k)) := by
  have hB0 : 0 < B := by omega
  have hD := natpow_pos B hB0 k
  have hspec := roundFract_spec B (by omega) m c hc hi lo k hlo hlt
  have hic := icontract_of_spec m hi lo _ hD hlo hlt _ hspec
  have := contract_of_icontract B hB m p k hp _ _ _ e hic ⟨_, rfl⟩ hulp
  rw [FRepr.new_value B hB0, bpowQ_add B hB0, bpowQ_nat]
  have e1 : ((hi + rInt (roundFract B m c hi lo k) : Int) : ℚ) * (bpowQ B e * ((B ^ k : Nat) : ℚ)) =
      (((hi + rInt (roundFract B m c hi lo k)) * ((B ^ k : Nat) : Int) : Int) : ℚ) * bpowQ B e := by
    push_cast; ring
  rw [e1]
  exact this

/-- **`Context::repr_round` / `repr_round_ref` honour the rounding contract** for every base `≥ 2`,
    every precision `≥ 1`, every mode, every normalised operand and every sound coarse test. -/
theorem reprRound_contract (B : Nat) (hB : 2 ≤ B) (m : Mode) (c : Coarse) (hc : CoarseSound c)
    (p : Nat) (hp : 1 ≤ p) (r : FRepr) (hn : Normalized B r) :
    Contract B m p (r.toRat B) ((reprRound B m c p r).1.toRat B) (reprRound B m c p r).2 := by
  unfold reprRound
  have hp0 : p ≠ 0 := by omega
  simp only [hp0, if_false]
  by_cases hd : r.digits B > p
  · simp only [hd, if_true]
    have hs0 : r.signif ≠ 0 := by
      intro h; unfold FRepr.digits at hd; rw [h, digitsI_zero] at hd; omega
    obtain ⟨_, hlo, hhi⟩ := digitsI_spec B hB r.signif hs0
    obtain ⟨hsplit, hlt, _, _⟩ := splitDigits_spec B hB r.signif (r.digits B - p)
    have hB0 : 0 < B := by omega
    -- the low part is non-zero because the significand is not divisible by the base
    have hlo0 : (splitDigits B r.signif (r.digits B - p)).2 ≠ 0 := by
      intro h0
      rw [h0, add_zero] at hsplit
      have hk : r.digits B - p = (r.digits B - p - 1) + 1 := by omega
      have hdiv : r.signif % (B : Int) = 0 := by
        rw [hsplit, hk, Nat.pow_succ]
        push_cast
        rw [← mul_assoc]
        exact Int.mul_emod_left _ _
      rcases hn with h | h
      · exact hs0 h
      · exact h hdiv
    have hulp : ((B ^ (r.digits B - p) : Nat) : Int) * ((B ^ (p - 1) : Nat) : Int) ≤
        |(splitDigits B r.signif (r.digits B - p)).1 * ((B ^ (r.digits B - p) : Nat) : Int) +
          (splitDigits B r.signif (r.digits B - p)).2| := by
      rw [← hsplit]
      have : B ^ (r.digits B - p) * B ^ (p - 1) = B ^ (digitsI B r.signif - 1) := by
        rw [← Nat.pow_add]; congr 1; unfold FRepr.digits at *; omega
      calc ((B ^ (r.digits B - p) : Nat) : Int) * ((B ^ (p - 1) : Nat) : Int)
          = ((B ^ (digitsI B r.signif - 1) : Nat) : Int) := by rw [← this]; push_cast; rfl
        _ ≤ |r.signif| := hlo
    have key := round_at_contract B hB m c hc p hp _ _ (r.digits B - p) r.exp hlo0 hlt hulp
    rw [← hsplit] at key
    exact key
  · simp only [hd, if_false]
    exact contract_exact B m p _

theorem reprRound_unlimited (B : Nat) (m : Mode) (c : Coarse) (r : FRepr) : reprRound B m c 0 r = (r, none) := by
  simp [reprRound]

theorem reprRound_exact_of_fits (B : Nat) (m : Mode) (c : Coarse) (p : Nat) (r : FRepr) (h : r.digits B ≤ p) :
    reprRound B m c p r = (r, none) := by
  unfold reprRound
  by_cases hp : p = 0
  · simp [hp]
  · have : ¬ r.digits B > p := by omega
    simp [hp, this]

theorem stripAux_int (B : Nat) : ∀ fuel (s e : Int), ∃ j : Nat, s = (stripAux B fuel s e).1 * ((B ^ j : Nat) : Int) := by
  intro fuel
  induction fuel with
  | zero => intro s e; exact ⟨0, by simp [stripAux]⟩
  | succ fuel ih =>
    intro s e
    unfold stripAux
    by_cases h : s % (B : Int) = 0
    · simp only [h, if_true]
      obtain ⟨j, hj⟩ := ih (s / (B : Int)) (e + 1)
      refine ⟨j + 1, ?_⟩
      have hs : s = (B : Int) * (s / (B : Int)) := by
        have := Int.mul_ediv_add_emod s B; omega
      conv_lhs => rw [hs, hj]
      rw [Nat.pow_succ]; push_cast; ring
    · simp only [h, if_false]
      exact ⟨0, by simp⟩

/-- `Repr::new` of `0 ≤ t ≤ B^p` has at most `p` digits (`B^p` itself normalises to `1`) -/
theorem new_digits_le (B : Nat) (hB : 2 ≤ B) (p : Nat) (hp : 1 ≤ p) (t e : Int) (h0 : 0 ≤ t)
    (hle : t ≤ ((B ^ p : Nat) : Int)) : (FRepr.new B t e).digits B ≤ p := by
  have hB0 : 0 < B := by omega
  unfold FRepr.digits
  by_cases ht : t = 0
  · subst ht; simp [FRepr.new, digitsI_zero]
  · have hnorm := FRepr.new_normalized B hB t e
    unfold FRepr.new at hnorm ⊢
    simp only [ht, if_false] at hnorm ⊢
    obtain ⟨j, hj⟩ := stripAux_int B (t.natAbs.log2 + 1) t e
    generalize (stripAux B (t.natAbs.log2 + 1) t e).1 = n at *
    have hpowj := natpow_pos B hB0 j
    have hn0 : 0 < n := by
      by_contra hc
      have : n ≤ 0 := by omega
      have : n * ((B ^ j : Nat) : Int) ≤ 0 := Int.mul_nonpos_of_nonpos_of_nonneg this (le_of_lt hpowj)
      omega
    have hnle : n ≤ t := by
      have : 1 ≤ ((B ^ j : Nat) : Int) := by omega
      have := Int.mul_le_mul_of_nonneg_left this (le_of_lt hn0)
      omega
    have hnmod : n % (B : Int) ≠ 0 := by
      rcases hnorm with h | h
      · simp only at h; omega
      · exact h
    unfold digitsI
    by_cases hlt : t < ((B ^ p : Nat) : Int)
    · apply digits_le_of_lt_pow B hB
      have : ((n.natAbs : Nat) : Int) < ((B ^ p : Nat) : Int) := by omega
      exact_mod_cast this
    · have hteq : t = ((B ^ p : Nat) : Int) := by omega
      -- n · B^j = B^p with B ∤ n forces n = 1
      have hnat : n.natAbs * B ^ j = B ^ p := by
        have : ((n.natAbs * B ^ j : Nat) : Int) = ((B ^ p : Nat) : Int) := by
          push_cast; rw [abs_of_pos hn0]
          have := hj; rw [hteq] at this; push_cast at this; exact this.symm
        exact_mod_cast this
      have hjp : j ≤ p := by
        by_contra hc
        have h1 : B ^ p < B ^ j := Nat.pow_lt_pow_right (by omega) (by omega)
        have h2 : B ^ j ≤ n.natAbs * B ^ j := Nat.le_mul_of_pos_left _ (by omega)
        omega
      have hn1 : n.natAbs = B ^ (p - j) := by
        have : B ^ p = B ^ (p - j) * B ^ j := by rw [← Nat.pow_add]; congr 1; omega
        rw [this] at hnat
        exact Nat.eq_of_mul_eq_mul_right (Nat.pow_pos hB0) hnat
      have hpj : p - j = 0 := by
        by_contra hc
        have : p - j = (p - j - 1) + 1 := by omega
        rw [this, Nat.pow_succ] at hn1
        apply hnmod
        have hnn : n = ((B ^ (p - j - 1) * B : Nat) : Int) := by
          rw [← hn1, Int.natCast_natAbs, abs_of_pos hn0]
        rw [hnn]; push_cast
        exact Int.mul_emod_left _ _
      rw [hpj] at hn1
      rw [hn1]
      simp only [pow_zero]
      have : digits B 1 = 1 := digits_unique B hB 1 1 (by simp) (by simp; omega) (by omega)
      omega

end Dashu.Model.Float
