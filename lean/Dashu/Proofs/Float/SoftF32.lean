import Dashu.Proofs.Float.F32
import Dashu.Model.Float.SoftF32
/-
  The executable soft-float model (`Model/Float/SoftF32.lean`, integer arithmetic) denotes the rounding function `rne32`
  on ℝ (`Proofs/Float/F32.lean`): `rnePos num den` is `rne32 (num / den)`, hence every soft operation is `rne32` of the exact
  result.  This is what lets the per-case comparison "machine f32 = soft model" stand for the hypothesis "(IEEE) the machine
  operation is `rne32` of the exact result" of `Props/C10F32.lean`.
-/
namespace Dashu.Model.Float.SoftF32

/-- the real number a value denotes -/
noncomputable def Val.toReal (v : Val) : ℝ := (v.m : ℝ) * (2 : ℝ) ^ (v.e - 23)

theorem log2_bounds_real (n : Nat) (hn : 0 < n) :
    (2 : ℝ) ^ ((n.log2 : ℕ) : ℤ) ≤ (n : ℝ) ∧ (n : ℝ) < (2 : ℝ) ^ (((n.log2 : ℕ) : ℤ) + 1) := by
  have h1 : 2 ^ n.log2 ≤ n := Nat.log2_self_le (by omega)
  have h2 : n < 2 ^ (n.log2 + 1) := Nat.lt_log2_self
  constructor
  · rw [zpow_natCast]; exact_mod_cast h1
  · rw [show ((n.log2 : ℕ) : ℤ) + 1 = ((n.log2 + 1 : ℕ) : ℤ) by push_cast; ring, zpow_natCast]; exact_mod_cast h2

theorem shiftLeft_real (a k : Nat) : ((a <<< k : Nat) : ℝ) = (a : ℝ) * (2 : ℝ) ^ ((k : ℕ) : ℤ) := by
  rw [Nat.shiftLeft_eq, zpow_natCast]; push_cast; ring

/-- `ilog2Q num den = ⌊log₂ (num/den)⌋` -/
theorem ilog2Q_spec (num den : Nat) (hn : 0 < num) (hd : 0 < den) :
    (2 : ℝ) ^ (ilog2Q num den) ≤ (num : ℝ) / den ∧ (num : ℝ) / den < (2 : ℝ) ^ (ilog2Q num den + 1) := by
  obtain ⟨a1, a2⟩ := log2_bounds_real num hn
  obtain ⟨b1, b2⟩ := log2_bounds_real den hd
  have hdR : (0 : ℝ) < (den : ℝ) := by exact_mod_cast hd
  set A : ℤ := ((num.log2 : ℕ) : ℤ) with hA
  set Bd : ℤ := ((den.log2 : ℕ) : ℤ) with hBd
  have two_ne : (2 : ℝ) ≠ 0 := by norm_num
  -- 2^(e0−1) < num/den < 2^(e0+1)
  have lo : (2 : ℝ) ^ (A - Bd - 1) < (num : ℝ) / den := by
    rw [lt_div_iff₀ hdR]
    calc (2 : ℝ) ^ (A - Bd - 1) * den < (2 : ℝ) ^ (A - Bd - 1) * (2 : ℝ) ^ (Bd + 1) :=
          mul_lt_mul_of_pos_left b2 (by positivity)
      _ = (2 : ℝ) ^ A := by rw [← zpow_add₀ two_ne]; congr 1; ring
      _ ≤ num := a1
  have hi : (num : ℝ) / den < (2 : ℝ) ^ (A - Bd + 1) := by
    rw [div_lt_iff₀ hdR]
    calc (num : ℝ) < (2 : ℝ) ^ (A + 1) := a2
      _ = (2 : ℝ) ^ (A - Bd + 1) * (2 : ℝ) ^ Bd := by rw [← zpow_add₀ two_ne]; congr 1; ring
      _ ≤ (2 : ℝ) ^ (A - Bd + 1) * den := mul_le_mul_of_nonneg_left b1 (by positivity)
  -- the test of the code is `num/den < 2^e0`
  have test : ∀ c : Prop, (c ↔ (num : ℝ) / den < (2 : ℝ) ^ (A - Bd)) → [Decidable c] →
      (2 : ℝ) ^ ((if c then A - Bd - 1 else A - Bd : ℤ)) ≤ (num : ℝ) / den ∧
      (num : ℝ) / den < (2 : ℝ) ^ ((if c then A - Bd - 1 else A - Bd : ℤ) + 1) := by
    intro c hc _
    by_cases h : c
    · simp only [h, if_true]
      exact ⟨le_of_lt lo, by rw [show A - Bd - 1 + 1 = A - Bd by ring]; exact hc.mp h⟩
    · simp only [h, if_false]
      exact ⟨not_lt.mp (fun hh => h (hc.mpr hh)), hi⟩
  unfold ilog2Q
  simp only [← hA, ← hBd]
  by_cases h0 : 0 ≤ A - Bd
  · simp only [h0, if_true]
    apply test
    have hk : (((A - Bd).toNat : ℕ) : ℤ) = A - Bd := Int.toNat_of_nonneg h0
    rw [div_lt_iff₀ hdR, mul_comm, ← hk, ← shiftLeft_real]
    exact_mod_cast Iff.rfl
  · simp only [h0, if_false]
    apply test
    have hk : (((-(A - Bd)).toNat : ℕ) : ℤ) = -(A - Bd) := Int.toNat_of_nonneg (by omega)
    have e : (2 : ℝ) ^ (A - Bd) = ((2 : ℝ) ^ (((-(A - Bd)).toNat : ℕ) : ℤ))⁻¹ := by rw [hk, zpow_neg, inv_inv]
    have hp : (0 : ℝ) < (2 : ℝ) ^ (((-(A - Bd)).toNat : ℕ) : ℤ) := by positivity
    rw [e, div_lt_iff₀ hdR, inv_mul_eq_div, lt_div_iff₀ hp, ← shiftLeft_real]
    exact_mod_cast Iff.rfl

/-- `rheQ N D` is round-half-even of the real quotient -/
theorem rheQ_eq (N D : Nat) (hD : 0 < D) : ((rheQ N D : Nat) : ℤ) = rhe ((N : ℝ) / D) := by
  have hDR : (0 : ℝ) < (D : ℝ) := by exact_mod_cast hD
  have hdm := (Nat.div_add_mod N D).symm
  have hrlt := Nat.mod_lt N hD
  unfold rheQ
  simp only
  generalize N / D = q at *
  generalize N % D = r at *
  have hN : (N : ℝ) = (D : ℝ) * (q : ℝ) + (r : ℝ) := by exact_mod_cast hdm
  have hr : (r : ℝ) < D := by exact_mod_cast hrlt
  have ht : (N : ℝ) / D = ((q : ℤ) : ℝ) + (r : ℝ) / D := by
    rw [hN, add_div, mul_div_cancel_left₀ _ hDR.ne', Int.cast_natCast]
  have hfl : ⌊(N : ℝ) / D⌋ = (q : ℤ) := by
    rw [ht, Int.floor_intCast_add,
      Int.floor_eq_zero_iff.mpr ⟨div_nonneg (Nat.cast_nonneg r) hDR.le, (div_lt_one hDR).mpr hr⟩, add_zero]
  have hfr : (N : ℝ) / D - ((⌊(N : ℝ) / D⌋ : ℤ) : ℝ) = (r : ℝ) / D := by
    rw [hfl, ht, add_sub_cancel_left]
  have c1 : (2 * r < D) ↔ (r : ℝ) / D < 1 / 2 := by
    rw [div_lt_div_iff₀ hDR two_pos, one_mul, mul_comm (r : ℝ) 2]
    exact_mod_cast Iff.rfl
  have c2 : (D < 2 * r) ↔ 1 / 2 < (r : ℝ) / D := by
    rw [div_lt_div_iff₀ two_pos hDR, one_mul, mul_comm (r : ℝ) 2]
    exact_mod_cast Iff.rfl
  have c3 : (q % 2 = 0) ↔ Even (q : ℤ) := by
    rw [Int.even_coe_nat, Nat.even_iff]
  unfold rhe
  rw [hfr, hfl]
  by_cases h1 : 2 * r < D
  · rw [if_pos h1, if_pos (c1.mp h1)]
  · rw [if_neg h1, if_neg (fun h => h1 (c1.mpr h))]
    by_cases h2 : D < 2 * r
    · rw [if_pos h2, if_pos (c2.mp h2)]; push_cast; ring
    · rw [if_neg h2, if_neg (fun h => h2 (c2.mpr h))]
      by_cases h3 : q % 2 = 0
      · rw [if_pos h3, if_pos (c3.mp h3)]
      · rw [if_neg h3, if_neg (fun h => h3 (c3.mpr h))]; push_cast; ring

/-- **the integer algorithm computes `rne32`**: for every positive fraction -/
theorem rnePos_eq (num den : Nat) (hn : 0 < num) (hd : 0 < den) :
    (rnePos num den).toReal = rne32 ((num : ℝ) / den) := by
  have hnR : (0 : ℝ) < (num : ℝ) := by exact_mod_cast hn
  have hdR : (0 : ℝ) < (den : ℝ) := by exact_mod_cast hd
  have hx : (0 : ℝ) < (num : ℝ) / den := div_pos hnR hdR
  obtain ⟨l1, l2⟩ := ilog2Q_spec num den hn hd
  have hlog := intLog_eq _ hx _ l1 l2
  set e := ilog2Q num den with he
  have hm : ∀ m : Nat, ((m : Nat) : ℤ) = rhe ((num : ℝ) / den / (2 : ℝ) ^ (e - 23)) →
      (if m = 16777216 then (⟨8388608, e + 1⟩ : Val) else ⟨m, e⟩).toReal = rne32 ((num : ℝ) / den) := by
    intro m hmz
    unfold rne32
    rw [if_pos hx]
    unfold rneAbs ulp32
    rw [hlog, ← hmz]
    by_cases h : m = 16777216
    · rw [if_pos h, h]
      unfold Val.toReal
      simp only
      rw [show e + 1 - 23 = 1 + (e - 23) by ring, zpow_add₀ (by norm_num : (2 : ℝ) ≠ 0)]
      push_cast; norm_num; ring
    · rw [if_neg h]
      unfold Val.toReal
      simp only
      push_cast; ring
  unfold rnePos
  simp only [← he]
  by_cases hs : 0 ≤ e - 23
  · simp only [hs, if_true]
    apply hm
    rw [rheQ_eq _ _ (by rw [Nat.shiftLeft_eq]; positivity)]
    congr 1
    have hk : (((e - 23).toNat : ℕ) : ℤ) = e - 23 := Int.toNat_of_nonneg hs
    rw [shiftLeft_real, hk, div_div]
  · simp only [hs, if_false]
    apply hm
    rw [rheQ_eq _ _ hd]
    congr 1
    have hk : (((-(e - 23)).toNat : ℕ) : ℤ) = -(e - 23) := Int.toNat_of_nonneg (by omega)
    rw [shiftLeft_real, hk, zpow_neg]
    field_simp

theorem rne_eq (num den : Nat) (hd : 0 < den) : (rne num den).toReal = rne32 ((num : ℝ) / den) := by
  unfold rne
  by_cases h : num = 0
  · subst h; simp [zero, Val.toReal, rne32]
  · rw [if_neg h]; exact rnePos_eq num den (Nat.pos_of_ne_zero h) hd

/-- the fraction returned by `toQ` denotes the value, with a positive denominator -/
theorem toQ_spec (v : Val) : 0 < (toQ v).2 ∧ ((toQ v).1 : ℝ) / ((toQ v).2 : ℝ) = v.toReal := by
  unfold toQ Val.toReal
  simp only
  by_cases hs : 0 ≤ v.e - 23
  · simp only [hs, if_true]
    have hk : (((v.e - 23).toNat : ℕ) : ℤ) = v.e - 23 := Int.toNat_of_nonneg hs
    refine ⟨by norm_num, ?_⟩
    rw [shiftLeft_real, hk]; simp
  · simp only [hs, if_false]
    have hk : (((-(v.e - 23)).toNat : ℕ) : ℤ) = -(v.e - 23) := Int.toNat_of_nonneg (by omega)
    refine ⟨by rw [Nat.shiftLeft_eq]; positivity, ?_⟩
    rw [shiftLeft_real, hk, zpow_neg]
    field_simp
    push_cast; ring

/-- `n as f32` -/
theorem ofNat_eq (n : Nat) : (ofNat n).toReal = rne32 (n : ℝ) := by
  have := rne_eq n 1 (by norm_num)
  simpa [ofNat] using this

/-- `a + b` is the exact sum rounded -/
theorem add_eq (a b : Val) : (add a b).toReal = rne32 (a.toReal + b.toReal) := by
  obtain ⟨ha, ea⟩ := toQ_spec a
  obtain ⟨hb, eb⟩ := toQ_spec b
  unfold add
  have h1 : ((toQ a).2 : ℝ) ≠ 0 := by exact_mod_cast ha.ne'
  have h2 : ((toQ b).2 : ℝ) ≠ 0 := by exact_mod_cast hb.ne'
  rw [rne_eq _ _ (Nat.mul_pos ha hb), ← ea, ← eb, div_add_div _ _ h1 h2]
  congr 1
  push_cast
  ring

/-- `a * b` is the exact product rounded -/
theorem mul_eq (a b : Val) : (mul a b).toReal = rne32 (a.toReal * b.toReal) := by
  obtain ⟨ha, ea⟩ := toQ_spec a
  obtain ⟨hb, eb⟩ := toQ_spec b
  unfold mul
  rw [rne_eq _ _ (Nat.mul_pos ha hb), ← ea, ← eb]
  congr 1
  push_cast
  rw [div_mul_div_comm]

/-- `a / b` is the exact quotient rounded -/
theorem div_eq (a b r : Val) (h : div a b = some r) : r.toReal = rne32 (a.toReal / b.toReal) := by
  obtain ⟨ha, ea⟩ := toQ_spec a
  obtain ⟨hb, eb⟩ := toQ_spec b
  unfold div at h
  simp only at h
  by_cases h0 : (toQ b).1 = 0
  · simp [h0] at h
  · rw [if_neg h0] at h
    injection h with h
    rw [← h, rne_eq _ _ (Nat.mul_pos ha (Nat.pos_of_ne_zero h0)), ← ea, ← eb]
    congr 1
    push_cast
    rw [div_div_div_eq]

/-- `a − b` (for `b ≤ a`) is the exact difference rounded -/
theorem sub_eq (a b r : Val) (h : sub a b = some r) : r.toReal = rne32 (a.toReal - b.toReal) := by
  obtain ⟨ha, ea⟩ := toQ_spec a
  obtain ⟨hb, eb⟩ := toQ_spec b
  unfold sub at h
  simp only at h
  by_cases h0 : (toQ a).1 * (toQ b).2 < (toQ b).1 * (toQ a).2
  · simp [h0] at h
  · rw [if_neg h0] at h
    injection h with h
    have h1 : ((toQ a).2 : ℝ) ≠ 0 := by exact_mod_cast ha.ne'
    have h2 : ((toQ b).2 : ℝ) ≠ 0 := by exact_mod_cast hb.ne'
    rw [← h, rne_eq _ _ (Nat.mul_pos ha hb), ← ea, ← eb, div_sub_div _ _ h1 h2, Nat.cast_sub (not_lt.mp h0)]
    congr 1
    push_cast
    ring

end Dashu.Model.Float.SoftF32
