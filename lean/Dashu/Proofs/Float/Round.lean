import Dashu.Proofs.Float.Digits
import Dashu.Proofs.Float.Core
import Dashu.Props.GenRound
/-
  The rounding primitives against the definition of each mode, on top of the theorems about the
  REGENERATED tables (`Props/GenRound.lean`).

  `ModeSpec m N d r` (defined there) : `r` is the integer the mode `m` names for the rational `N / d` (`d > 0`),
  in the relational, integer-scaled form of `GenRound` (`IsFloor`, `IsCeil`, `IsTowardZero`, …).
-/
namespace Dashu.Model.Float
open Dashu.Props.GenRound

theorem rInt_eq_adj (r : Rounding) : rInt r = adj r := by cases r <;> rfl

theorem signOf_eq_lowSign : signOf = lowSign := rfl

/-- the six regenerated tables: `hi + adj` is the neighbour of `(hi·D + lo) / D` the mode names -/
theorem roundLowPart_spec (m : Mode) (hi lo D : Int) (hD : 0 < D) (hlo : lo ≠ 0) (hlt : |lo| < D) :
    ModeSpec m (hi * D + lo) D (hi + rInt (roundLowPart m hi (signOf lo) (compare (2 * |lo|) D))) := by
  rw [rInt_eq_adj, signOf_eq_lowSign]
  exact roundLowPart_correct hi lo D hD hlo hlt m

theorem natCmp_eq (a b : Nat) : compare a b = compare (a : Int) (b : Int) := by
  simp only [compare, compareOfLessAndEq, Nat.cast_lt, Nat.cast_inj]

theorem coarseNone_sound : CoarseSound coarseNone := by intro _ _ _ _ h; cases h

/-- soundness of the coarse test at the one operand it is asked about is all `round_fract` needs (so a test that is sound
    only on a region, as the `f32` tests of `Props/C10Coarse`, `C10F32`, `C10Libm` are, may be dropped on that region) -/
theorem roundFract_coarse_at (B : Nat) (m : Mode) (c : Coarse) (n f : Int) (k : Nat)
    (h : 0 < f.natAbs → ∀ o, c B f.natAbs k = some o → o = compare (2 * f.natAbs) (B ^ k)) :
    roundFract B m c n f k = roundFract B m coarseNone n f k := by
  unfold roundFract
  by_cases hf : f = 0
  · simp only [hf, if_true]
  · simp only [hf, if_false, coarseNone]
    cases hc : c B f.natAbs k with
    | none => rfl
    | some o => simp only [h (Int.natAbs_pos.mpr hf) o hc]

/-- `round_fract`: whatever the coarse estimate does (as long as it is sound), the result is the table
    applied to the exact comparison of `2|fract|` with `B^k` -/
theorem roundFract_eq (B : Nat) (m : Mode) (c : Coarse) (hc : CoarseSound c) (n f : Int) (k : Nat)
    (hf : f ≠ 0) :
    roundFract B m c n f k = roundLowPart m n (signOf f) (compare (2 * |f|) ((B ^ k : Nat) : Int)) := by
  unfold roundFract
  simp only [hf, if_false]
  have e : compare (2 * f.natAbs) (B ^ k) = compare (2 * |f|) ((B ^ k : Nat) : Int) := by
    rw [natCmp_eq]; congr 1; push_cast; first | rfl | rw [Int.natCast_natAbs]
  cases hco : c B f.natAbs k with
  | none => simp only [e]
  | some o => simp only [hc B f.natAbs k o hco, e]

/-- **`Round::round_fract` follows the definition of the mode**: for every base, every integer `n`,
    every non-zero fraction `|f| < B^k` and every sound coarse test, `n + adjustment` is the
    neighbour of `n + f / B^k` that the mode names. -/
theorem roundFract_spec (B : Nat) (hB : 1 ≤ B) (m : Mode) (c : Coarse) (hc : CoarseSound c) (n f : Int) (k : Nat)
    (hf : f ≠ 0) (hlt : |f| < ((B ^ k : Nat) : Int)) :
    ModeSpec m (n * ((B ^ k : Nat) : Int) + f) ((B ^ k : Nat) : Int) (n + rInt (roundFract B m c n f k)) := by
  rw [roundFract_eq B m c hc n f k hf]
  have hD := natpow_pos B (by omega) k
  exact roundLowPart_spec m n f _ hD hf hlt

theorem roundFract_zero (B : Nat) (m : Mode) (c : Coarse) (n : Int) (k : Nat) :
    roundFract B m c n 0 k = .NoOp := by simp [roundFract]

theorem sign_mul_pos (s : Sign) : s * Sign.Positive = s := by cases s <;> rfl

theorem cmp_swap_neg (a b : Int) : compare a (-b) = compare b (-a) := by
  rcases lt_trichotomy a (-b) with h | h | h
  · rw [Int.compare_eq_lt.mpr h, Int.compare_eq_lt.mpr (by linarith)]
  · rw [Int.compare_eq_eq.mpr h, Int.compare_eq_eq.mpr (by linarith)]
  · rw [Int.compare_eq_gt.mpr h, Int.compare_eq_gt.mpr (by linarith)]

/-- **`Round::round_ratio` follows the definition of the mode**: for `den ≠ 0`, `0 < |num| < |den|`,
    `n + adjustment` is the neighbour of `n + num / den`; the fraction is put over the positive
    denominator `|den|` as `(num · sign den) / |den|`. -/
theorem roundRatio_spec (m : Mode) (n num den : Int) (hden : den ≠ 0) (hnum : num ≠ 0) (hlt : |num| < |den|) :
    ModeSpec m (n * |den| + num * Int.sign den) |den| (n + rInt (roundRatio m n num den)) := by
  unfold roundRatio
  simp only [hnum, if_false]
  have hnm : ((num.natAbs : Nat) : Int) = |num| := Int.natCast_natAbs num
  rw [hnm]
  rcases lt_or_gt_of_ne hden with hneg | hpos
  · -- den < 0 : f = -num, d = -den
    have hs : Int.sign den = -1 := Int.sign_eq_neg_one_of_neg hneg
    have hnp : ¬ (0 < den) := by omega
    have hab : |den| = -den := abs_of_neg hneg
    simp only [hnp, if_false, hs, hab]
    have hD : (0 : Int) < -den := by omega
    have hf : num * -1 ≠ 0 := by omega
    have hflt : |num * -1| < -den := by
      have : num * -1 = -num := by ring
      rw [this, abs_neg, ← hab]; exact hlt
    have key := roundLowPart_spec m n (num * -1) (-den) hD hf hflt
    have e1 : signOf (num * -1) = signOf num * signOf den := by
      have hd : signOf den = Sign.Negative := by unfold signOf; rw [if_pos hneg]
      rw [hd]
      rcases lt_or_gt_of_ne hnum with h | h
      · have a : signOf (num * -1) = Sign.Positive := by unfold signOf; rw [if_neg (by omega)]
        have b : signOf num = Sign.Negative := by unfold signOf; rw [if_pos h]
        rw [a, b]; rfl
      · have a : signOf (num * -1) = Sign.Negative := by unfold signOf; rw [if_pos (by omega)]
        have b : signOf num = Sign.Positive := by unfold signOf; rw [if_neg (by omega)]
        rw [a, b]; rfl
    have e2 : compare (2 * |num * -1|) (-den) = compare den (-(2 * |num|)) := by
      have : num * -1 = -num := by ring
      rw [this, abs_neg, cmp_swap_neg]
    rw [e1, e2] at key
    exact key
  · have hs : Int.sign den = 1 := Int.sign_eq_one_of_pos hpos
    have hab : |den| = den := abs_of_pos hpos
    simp only [hpos, if_true, hs, hab, mul_one]
    have hflt : |num| < den := by rw [← hab]; exact hlt
    have key := roundLowPart_spec m n num den hpos hnum hflt
    have e1 : signOf num = signOf num * signOf den := by
      have : signOf den = Sign.Positive := by
        unfold signOf; have : ¬ den < 0 := by omega
        simp [this]
      rw [this, sign_mul_pos]
    rw [e1] at key
    exact key

theorem roundRatio_zero (m : Mode) (n den : Int) : roundRatio m n 0 den = .NoOp := by simp [roundRatio]

end Dashu.Model.Float
