import Dashu.Proofs.Float.Log2Lb
/-
  `TypedReprRef::log2_bounds` (integer/src/log.rs, 64-bit words) as a whole, with the concrete binary32 rounding:
  inline values (< 2¹²⁸) through the std `u128` routine (`log2LbStd` / `log2UbStd`), heap values through

      fn log2_bounds_large(words) { let hi = highest_dword(words); let rem_bits = (words.len() - 2) * 64;
          let (hi_lb, hi_ub) = hi.log2_bounds();
          ((hi_lb + rem_bits as f32) * (1. - ADJUST), (hi_ub + rem_bits as f32) * (1. + ADJUST)) }     // ADJUST = 2·EPSILON = 4u

  and the proof of the hypothesis `Log2BoundsSound` ((E) enclosure + (S) slack of the ADJUST factor) of
  `Props/C10Coarse.coarse_test_sound` from the hypothesis (LIBM) about `log2f` ALONE, for every operand of at most `2³⁰` bits
  (`rem_bits as f32` is exact there; the region of the coarse-test theorem, `fmag < B^k ≤ 2^(64·2²⁴)`, lies inside).
-/
namespace Dashu.Model.Float

/-- (LIBM): both halves -/
structure Log2fSound (log2f : ℝ → ℝ) : Prop where
  upper : Log2fUpper log2f
  lower : Log2fLower log2f

/-- number of 64-bit words of `n` -/
def wordLen (n : Nat) : Nat := (Nat.log2 n + 1 + 63) / 64

/-- `log2_bounds(n).0` -/
noncomputable def log2LbModel (log2f : ℝ → ℝ) (n : Nat) : ℝ :=
  if n < 2 ^ 128 then log2LbStd log2f n
  else
    let rem := (wordLen n - 2) * 64
    rne32 (rne32 (log2LbStd log2f (n / 2 ^ rem) + rne32 ((rem : Nat) : ℝ)) * (1 - 4 * u32))

/-- `log2_bounds(n).1` -/
noncomputable def log2UbModel (log2f : ℝ → ℝ) (n : Nat) : ℝ :=
  if n < 2 ^ 128 then log2UbStd log2f n
  else
    let rem := (wordLen n - 2) * 64
    rne32 (rne32 (log2UbStd log2f (n / 2 ^ rem) + rne32 ((rem : Nat) : ℝ)) * (1 + 4 * u32))

/-- `log₂ (h + 1) − log₂ h ≤ 2⁻⁶⁰` for `h ≥ 2⁶⁴` -/
theorem logb_succ_le (h : Nat) (hh : 2 ^ 64 ≤ h) :
    Real.logb 2 ((h + 1 : Nat) : ℝ) ≤ Real.logb 2 (h : ℝ) + 1 / 1152921504606846976 := by
  have hhR : (18446744073709551616 : ℝ) ≤ (h : ℝ) := by exact_mod_cast hh
  have hpos : (0 : ℝ) < (h : ℝ) := by linarith
  have hlog2 : (1 / 2 : ℝ) ≤ Real.log 2 := by
    have h := Real.log_le_sub_one_of_pos (by norm_num : (0 : ℝ) < 1 / 2)
    have e : Real.log (1 / 2) = -Real.log 2 := by rw [one_div, Real.log_inv]
    rw [e] at h; linarith
  have e : ((h + 1 : Nat) : ℝ) = (h : ℝ) * (1 + 1 / (h : ℝ)) := by
    push_cast; field_simp
  rw [e, Real.logb_mul (ne_of_gt hpos) (by positivity)]
  have hx : (0 : ℝ) < 1 + 1 / (h : ℝ) := by positivity
  have h1 : Real.log (1 + 1 / (h : ℝ)) ≤ 1 / (h : ℝ) := by
    have := Real.log_le_sub_one_of_pos hx
    linarith
  have h2 : (1 : ℝ) / (h : ℝ) ≤ 1 / 18446744073709551616 := one_div_le_one_div_of_le (by norm_num) hhR
  have h3 : Real.logb 2 (1 + 1 / (h : ℝ)) ≤ 1 / 1152921504606846976 := by
    unfold Real.logb
    rw [div_le_iff₀ (by linarith)]
    calc Real.log (1 + 1 / (h : ℝ)) ≤ 1 / 18446744073709551616 := le_trans h1 h2
      _ ≤ 1 / 1152921504606846976 * (1 / 2) := by norm_num
      _ ≤ 1 / 1152921504606846976 * Real.log 2 := by
          apply mul_le_mul_of_nonneg_left hlog2 (by norm_num)
  linarith

/-- the highest double word and the remaining bits of a heap value of at most `2³⁰` bits -/
theorem large_split (n : Nat) (h128 : 2 ^ 128 ≤ n) (hbits : Nat.log2 n + 1 ≤ 2 ^ 30) :
    let rem := (wordLen n - 2) * 64
    let hi := n / 2 ^ rem
    2 ^ 64 ≤ hi ∧ hi < 2 ^ 128 ∧ hi * 2 ^ rem ≤ n ∧ n < (hi + 1) * 2 ^ rem ∧ wordLen n - 2 ≤ 2 ^ 24 := by
  have hn : 0 < n := lt_of_lt_of_le (by positivity) h128
  have h1 : 2 ^ Nat.log2 n ≤ n := Nat.log2_self_le (by omega)
  have h2 : n < 2 ^ (Nat.log2 n + 1) := Nat.lt_log2_self
  have hlog : 128 ≤ Nat.log2 n := by
    by_contra hcon
    have : 2 ^ (Nat.log2 n + 1) ≤ 2 ^ 128 := Nat.pow_le_pow_right (by norm_num) (by omega)
    omega
  intro rem hi
  have hpow : 0 < 2 ^ rem := by positivity
  -- (len − 1)·64 < bitlen ≤ len·64
  have hw1 : (wordLen n - 1) * 64 < Nat.log2 n + 1 := by unfold wordLen; omega
  have hw2 : Nat.log2 n + 1 ≤ wordLen n * 64 := by unfold wordLen; omega
  have hw3 : 3 ≤ wordLen n := by unfold wordLen; omega
  have hrem1 : rem + 64 ≤ Nat.log2 n := by show (wordLen n - 2) * 64 + 64 ≤ Nat.log2 n; omega
  have hrem2 : Nat.log2 n + 1 ≤ rem + 128 := by show Nat.log2 n + 1 ≤ (wordLen n - 2) * 64 + 128; omega
  refine ⟨?_, ?_, Nat.div_mul_le_self n (2 ^ rem), (Nat.div_lt_iff_lt_mul hpow).mp (Nat.lt_succ_self _), ?_⟩
  · show 2 ^ 64 ≤ n / 2 ^ rem
    rw [Nat.le_div_iff_mul_le hpow, ← Nat.pow_add]
    exact le_trans (Nat.pow_le_pow_right (by norm_num) (by omega)) h1
  · show n / 2 ^ rem < 2 ^ 128
    rw [Nat.div_lt_iff_lt_mul hpow, ← Nat.pow_add]
    exact lt_of_lt_of_le h2 (Nat.pow_le_pow_right (by norm_num) (by omega))
  · unfold wordLen; omega

/-- **(E) + (S) for `log2_bounds` from (LIBM) alone**, for every operand of at most `2³⁰` bits -/
theorem log2Model_sound (log2f : ℝ → ℝ) (h : Log2fSound log2f) (n : Nat) (hn : 0 < n) (hbits : Nat.log2 n + 1 ≤ 2 ^ 30) :
    (0 ≤ log2LbModel log2f n ∧ log2LbModel log2f n ≤ Real.logb 2 n ∧ Real.logb 2 n ≤ log2UbModel log2f n) ∧
    (2 ^ 128 ≤ n →
      log2LbModel log2f n ≤ Real.logb 2 n * ((1 + u32) ^ 2 * (1 - 4 * u32)) ∧
      (Real.logb 2 n - 1 / 1152921504606846976) * ((1 - u32) ^ 2 * (1 + 4 * u32)) ≤ log2UbModel log2f n) := by
  by_cases hsm : n < 2 ^ 128
  · have hb24 : Nat.log2 n + 1 ≤ 2 ^ 24 := by
      have : Nat.log2 n < 128 := (Nat.log2_lt (by omega)).mpr hsm
      omega
    have hl := log2LbStd_sound log2f h.lower n hn hb24
    have hu := log2UbStd_sound log2f h.upper n hn hb24
    unfold log2LbModel log2UbModel
    rw [if_pos hsm, if_pos hsm]
    exact ⟨⟨hl.1, hl.2.1, hu⟩, fun hge => absurd hsm (not_lt.mpr hge)⟩
  · have h128 : 2 ^ 128 ≤ n := not_lt.mp hsm
    obtain ⟨hhi1, hhi2, hmul1, hmul2, hwl⟩ := large_split n h128 hbits
    set rem := (wordLen n - 2) * 64 with hrem
    set hi := n / 2 ^ rem with hhi
    have hhipos : 0 < hi := lt_of_lt_of_le (by positivity) hhi1
    have hb24 : Nat.log2 hi + 1 ≤ 2 ^ 24 := by
      have : Nat.log2 hi < 128 := (Nat.log2_lt (by omega)).mpr hhi2
      omega
    have hl := log2LbStd_sound log2f h.lower hi hhipos hb24
    have hu := log2UbStd_sound log2f h.upper hi hhipos hb24
    -- `rem_bits as f32` is exact
    have hremfix : rne32 ((rem : Nat) : ℝ) = (rem : ℝ) := by
      have := rne32_nat_mul_pow (wordLen n - 2) 6 hwl
      have e : ((rem : Nat) : ℝ) = ((wordLen n - 2 : Nat) : ℝ) * (2 : ℝ) ^ 6 := by rw [hrem]; push_cast; ring
      rw [e]; exact this
    have hrem0 : (0 : ℝ) ≤ (rem : ℝ) := Nat.cast_nonneg _
    -- logarithms
    have hnR : (0 : ℝ) < (n : ℝ) := by exact_mod_cast hn
    have hhiR : (0 : ℝ) < (hi : ℝ) := by exact_mod_cast hhipos
    have hpowR : (0 : ℝ) < ((2 ^ rem : Nat) : ℝ) := by positivity
    have a1 : Real.logb 2 (hi : ℝ) + rem ≤ Real.logb 2 n := by
      have e : Real.logb 2 ((hi * 2 ^ rem : Nat) : ℝ) = Real.logb 2 (hi : ℝ) + rem := by
        push_cast
        rw [Real.logb_mul (ne_of_gt hhiR) (by positivity), Real.logb_pow, Real.logb_self_eq_one (by norm_num), mul_one]
      rw [← e]
      exact Real.logb_le_logb_of_le (by norm_num) (by exact_mod_cast Nat.mul_pos hhipos (by positivity)) (by exact_mod_cast hmul1)
    have a2 : Real.logb 2 n ≤ Real.logb 2 ((hi + 1 : Nat) : ℝ) + rem := by
      have e : Real.logb 2 (((hi + 1) * 2 ^ rem : Nat) : ℝ) = Real.logb 2 ((hi + 1 : Nat) : ℝ) + rem := by
        push_cast
        rw [Real.logb_mul (by positivity) (by positivity), Real.logb_pow, Real.logb_self_eq_one (by norm_num), mul_one]
      rw [← e]
      exact Real.logb_le_logb_of_le (by norm_num) hnR (by exact_mod_cast (le_of_lt hmul2))
    have a3 := logb_succ_le hi hhi1
    have hL128 : (128 : ℝ) ≤ Real.logb 2 n := by
      have : Real.logb 2 ((2 ^ 128 : Nat) : ℝ) ≤ Real.logb 2 n :=
        Real.logb_le_logb_of_le (by norm_num) (by positivity) (by exact_mod_cast h128)
      rw [logb_two_pow] at this
      exact_mod_cast this
    set L := Real.logb 2 n with hLdef
    have hu0 : 0 ≤ log2UbStd log2f hi := le_trans (logb_two_nonneg hi hhipos) hu
    -- the two slack statements
    have sl := adjust_slack_lb rne32 rne32_relRound L (log2LbStd log2f hi) rem hl.1 hrem0
      (le_trans (add_le_add_left hl.2.1 _) a1)
    have su := adjust_slack_ub rne32 rne32_relRound L (log2UbStd log2f hi) rem hu0 hrem0
      (by linarith only [a2, a3, hu])
    have elb : log2LbModel log2f n = rne32 (rne32 (log2LbStd log2f hi + rem) * (1 - 4 * u32)) := by
      unfold log2LbModel; rw [if_neg hsm]; simp only [← hrem, ← hhi, hremfix]
    have eub : log2UbModel log2f n = rne32 (rne32 (log2UbStd log2f hi + rem) * (1 + 4 * u32)) := by
      unfold log2UbModel; rw [if_neg hsm]; simp only [← hrem, ← hhi, hremfix]
    rw [elb, eub]
    have hc1 : (1 + u32) ^ 2 * (1 - 4 * u32) ≤ 1 := by unfold u32; norm_num
    have hc2 : 1 + u32 ≤ (1 - u32) ^ 2 * (1 + 4 * u32) := by unfold u32; norm_num
    have hu32 : u32 = 1 / 16777216 := rfl
    refine ⟨⟨?_, ?_, ?_⟩, fun _ => ⟨sl, su⟩⟩
    · apply zero_le_rne32
      apply mul_nonneg _ (by unfold u32; norm_num)
      exact zero_le_rne32 (add_nonneg hl.1 hrem0)
    · calc rne32 (rne32 (log2LbStd log2f hi + rem) * (1 - 4 * u32)) ≤ L * ((1 + u32) ^ 2 * (1 - 4 * u32)) := sl
        _ ≤ L * 1 := mul_le_mul_of_nonneg_left hc1 (by linarith only [hL128])
        _ = L := mul_one L
    · -- (L − δ)·c ≥ (L − δ)(1 + u) ≥ L
      have hδ : (0 : ℝ) ≤ L - 1 / 1152921504606846976 := by linarith only [hL128]
      have step : (L - 1 / 1152921504606846976) * (1 + u32) ≤
          (L - 1 / 1152921504606846976) * ((1 - u32) ^ 2 * (1 + 4 * u32)) := mul_le_mul_of_nonneg_left hc2 hδ
      have : L ≤ (L - 1 / 1152921504606846976) * (1 + u32) := by
        rw [hu32]; linarith only [hL128]
      exact le_trans (le_trans this step) su

end Dashu.Model.Float
