import Dashu.Model.Float.Spec
import Mathlib.Tactic.Ring
import Mathlib.Tactic.Linarith
/-
  Digit-level lemmas for the float model: `digits` (`utils::digit_len`), `splitDigits`
  (`utils::split_digits`, all three code paths), truncating division facts.
-/
namespace Dashu.Model.Float

theorem natpow_pos (B : Nat) (hB : 0 < B) (k : Nat) : (0 : Int) < ((B ^ k : Nat) : Int) :=
  Int.natCast_pos.mpr (Nat.pow_pos hB)

theorem natpow_add (B a b : Nat) : ((B ^ (a + b) : Nat) : Int) = ((B ^ a : Nat) : Int) * ((B ^ b : Nat) : Int) := by
  rw [Nat.pow_add, Nat.cast_mul]

theorem digitsAux_zero (B fuel : Nat) : digitsAux B fuel 0 = 0 := by
  cases fuel <;> simp [digitsAux]

theorem digitsAux_spec (B : Nat) (hB : 2 ≤ B) : ∀ fuel n, 0 < n → n < 2 ^ fuel →
    0 < digitsAux B fuel n ∧ B ^ (digitsAux B fuel n - 1) ≤ n ∧ n < B ^ (digitsAux B fuel n) := by
  intro fuel
  induction fuel with
  | zero => intro n h0 h1; simp at h1; omega
  | succ fuel ih =>
    intro n h0 h1
    have hB0 : 0 < B := by omega
    have hq : n / B < 2 ^ fuel := Nat.div_lt_of_lt_mul
      (lt_of_lt_of_le h1 (by rw [Nat.pow_succ, Nat.mul_comm]; exact Nat.mul_le_mul_right _ hB))
    rw [digitsAux, if_neg (by omega), Nat.add_sub_cancel_left, Nat.add_comm 1, Nat.pow_succ]
    rcases Nat.eq_zero_or_pos (n / B) with hm | hm
    · refine ⟨Nat.succ_pos _, ?_, (Nat.div_lt_iff_lt_mul hB0).mp ?_⟩ <;> rw [hm, digitsAux_zero]
      · exact h0
      · exact Nat.one_pos
    · obtain ⟨hd, hlo, hhi⟩ := ih (n / B) hm hq
      refine ⟨Nat.succ_pos _, ?_, (Nat.div_lt_iff_lt_mul hB0).mp hhi⟩
      calc B ^ digitsAux B fuel (n / B) = B ^ (digitsAux B fuel (n / B) - 1) * B := by
            rw [← Nat.pow_succ]; congr 1; omega
        _ ≤ n := (Nat.le_div_iff_mul_le hB0).mp hlo

theorem digits_zero (B : Nat) : digits B 0 = 0 := digitsAux_zero B _

/-- `digit_len`: `B^(k-1) ≤ n < B^k` for `n > 0` -/
theorem digits_spec (B : Nat) (hB : 2 ≤ B) (n : Nat) (hn : 0 < n) :
    0 < digits B n ∧ B ^ (digits B n - 1) ≤ n ∧ n < B ^ (digits B n) :=
  digitsAux_spec B hB _ n hn Nat.lt_log2_self

theorem digits_lt_pow (B : Nat) (hB : 2 ≤ B) (n : Nat) : n < B ^ (digits B n) := by
  rcases Nat.eq_zero_or_pos n with h | h
  · subst h; exact Nat.pow_pos (by omega)
  · exact (digits_spec B hB n h).2.2

theorem digits_pos_iff (B : Nat) (hB : 2 ≤ B) (n : Nat) : 0 < digits B n ↔ 0 < n := by
  constructor
  · intro h
    apply Nat.pos_of_ne_zero
    rintro rfl
    rw [digits_zero] at h; omega
  · intro h; exact (digits_spec B hB n h).1

theorem digits_unique (B : Nat) (hB : 2 ≤ B) (n k : Nat) (hlo : B ^ (k - 1) ≤ n) (hhi : n < B ^ k) (hk : 0 < k) :
    digits B n = k := by
  have hn : 0 < n := lt_of_lt_of_le (Nat.pow_pos (by omega)) hlo
  obtain ⟨hd, h1, h2⟩ := digits_spec B hB n hn
  have hB1 : 1 < B := by omega
  have a : digits B n - 1 < k := (Nat.pow_lt_pow_iff_right hB1).mp (lt_of_le_of_lt h1 hhi)
  have b : k - 1 < digits B n := (Nat.pow_lt_pow_iff_right hB1).mp (lt_of_le_of_lt hlo h2)
  omega

/-! ### truncating division -/

/-- truncating division works on the magnitude and puts the sign back -/
theorem tdiv_tmod_sign_mul (s : Int) (hs : s = 1 ∨ s = -1) (x d : Nat) :
    Int.tdiv (s * x) d = s * ((x / d : Nat) : Int) ∧ Int.tmod (s * x) d = s * ((x % d : Nat) : Int) := by
  rcases hs with rfl | rfl
  · rw [one_mul, one_mul, one_mul]; exact ⟨(Int.ofNat_tdiv x d).symm, (Int.ofNat_tmod x d).symm⟩
  · rw [neg_one_mul, neg_one_mul, neg_one_mul, Int.neg_tdiv, Int.neg_tmod]
    exact ⟨congrArg _ (Int.ofNat_tdiv x d).symm, congrArg _ (Int.ofNat_tmod x d).symm⟩

/-- the sign factor `split_bits` and `shr_ref` put on both parts -/
theorem sign_unit (v : Int) :
    (if v < 0 then (-1 : Int) else 1) = 1 ∨ (if v < 0 then (-1 : Int) else 1) = -1 := by
  split <;> simp

theorem sign_mul_natAbs (v : Int) : (if v < 0 then -1 else 1) * (v.natAbs : Int) = v := by
  split <;> omega

theorem tdiv_tmod_abs (v : Int) (d : Int) (hd : 0 < d) :
    v = Int.tdiv v d * d + Int.tmod v d ∧ |Int.tmod v d| < d ∧
    (0 ≤ v → 0 ≤ Int.tmod v d ∧ 0 ≤ Int.tdiv v d) ∧ (v ≤ 0 → Int.tmod v d ≤ 0 ∧ Int.tdiv v d ≤ 0) := by
  refine ⟨by rw [Int.mul_comm]; exact (Int.mul_tdiv_add_tmod v d).symm, ?_, ?_, ?_⟩
  · have h1 := Int.tmod_lt_of_pos v hd
    have h2 := Int.tmod_lt_of_pos (-v) hd
    rw [Int.neg_tmod] at h2
    exact abs_lt.mpr ⟨by omega, h1⟩
  · intro hv
    exact ⟨Int.tmod_nonneg d hv, Int.tdiv_nonneg hv (le_of_lt hd)⟩
  · intro hv
    have a := Int.tmod_nonneg d (Int.neg_nonneg_of_nonpos hv)
    have b := Int.tdiv_nonneg (Int.neg_nonneg_of_nonpos hv) (le_of_lt hd)
    rw [Int.neg_tmod] at a
    rw [Int.neg_tdiv] at b
    constructor <;> omega

/-- uniqueness of truncating division: a decomposition with a remainder of the dividend's sign -/
theorem tdiv_unique (v d a b : Int) (hd : 0 < d) (h : v = a * d + b) (hb : |b| < d)
    (hpos : 0 ≤ v → 0 ≤ b) (hneg : v ≤ 0 → b ≤ 0) : a = Int.tdiv v d ∧ b = Int.tmod v d := by
  obtain ⟨h1, h2, h3, h4⟩ := tdiv_tmod_abs v d hd
  rw [abs_lt] at hb h2
  -- both remainders have the sign of `v`, so they differ by less than `d`, and by a multiple of `d`
  have hr : Int.tmod v d - b = 0 := by
    apply Int.eq_zero_of_abs_lt_dvd (m := d) ⟨a - Int.tdiv v d, by linarith⟩
    rw [abs_lt]
    rcases le_total 0 v with hv | hv
    · have := hpos hv; have := (h3 hv).1; constructor <;> omega
    · have := hneg hv; have := (h4 hv).1; constructor <;> omega
  have hb' : b = Int.tmod v d := by omega
  rw [hb'] at h
  exact ⟨Int.eq_of_mul_eq_mul_right (ne_of_gt hd) (by omega), hb'⟩

/-- dividing in two steps, as the base-10 paths do (`2^k`, then `5^k`) -/
theorem tdiv_tdiv_tmod (v : Int) (a b : Nat) :
    Int.tdiv (Int.tdiv v a) b = Int.tdiv v ((a * b : Nat) : Int) ∧
    Int.tmod (Int.tdiv v a) b * a + Int.tmod v a = Int.tmod v ((a * b : Nat) : Int) := by
  -- on the magnitude `x`: `x / a / b = x / (a·b)` and `x % (a·b) = x % a + a·(x / a % b)`
  obtain ⟨a1, a2⟩ := tdiv_tmod_sign_mul _ (sign_unit v) v.natAbs a
  obtain ⟨b1, b2⟩ := tdiv_tmod_sign_mul _ (sign_unit v) (v.natAbs / a) b
  obtain ⟨c1, c2⟩ := tdiv_tmod_sign_mul _ (sign_unit v) v.natAbs (a * b)
  rw [sign_mul_natAbs] at a1 a2 c1 c2
  rw [a1, a2, b1, b2, c1, c2, Nat.div_div_eq_div_mul, Nat.mod_mul]
  exact ⟨rfl, by push_cast; ring⟩

theorem ten_pow (k : Nat) : 10 ^ k = 2 ^ k * 5 ^ k := by rw [← Nat.mul_pow]

theorem splitBits_spec (v : Int) (n : Nat) :
    splitBits v n = (Int.tdiv v ((2 ^ n : Nat) : Int), Int.tmod v ((2 ^ n : Nat) : Int)) := by
  obtain ⟨e1, e2⟩ := tdiv_tmod_sign_mul _ (sign_unit v) v.natAbs (2 ^ n)
  rw [sign_mul_natAbs] at e1 e2
  rw [splitBits, Nat.shiftRight_eq_div_pow, e1, e2]

theorem isPow2_spec (B : Nat) (h : isPow2 B = true) : B = 2 ^ B.log2 := by
  simpa [isPow2] using h

/-- in a power-of-two base, `k` digits are `k · log2 B` bits -/
theorem isPow2_pow (B : Nat) (h : isPow2 B = true) (k : Nat) : 2 ^ (k * B.log2) = B ^ k := by
  conv_rhs => rw [isPow2_spec B h]
  rw [← Nat.pow_mul, Nat.mul_comm]

/-- `split_digits` / `split_digits_ref`: the base-10 two-step path, the power-of-two bit path and the
    generic `div_rem` path all compute the truncating quotient and remainder by `B^pos`. -/
theorem splitDigits_eq (B : Nat) (v : Int) (pos : Nat) : splitDigits B v pos = splitSpec B v pos := by
  unfold splitDigits splitSpec
  by_cases h0 : pos = 0
  · subst h0; simp
  · rw [if_neg h0]
    by_cases h10 : B = 10
    · subst h10
      rw [if_pos rfl, splitBits_spec, ten_pow]
      exact Prod.ext (tdiv_tdiv_tmod v _ _).1 (tdiv_tdiv_tmod v _ _).2
    · rw [if_neg h10]
      by_cases hp : isPow2 B = true
      · rw [if_pos hp, splitBits_spec, isPow2_pow B hp]
      · rw [if_neg hp]

/-- **`shl_digits` / `shl_digits_in_place`**: the base-2, base-10, power-of-two and generic paths all
    multiply by `B^k` -/
@[simp] theorem shlDigits_eq (B : Nat) (v : Int) (k : Nat) : shlDigits B v k = v * ((B ^ k : Nat) : Int) := by
  unfold shlDigits ishl
  by_cases h0 : k = 0
  · subst h0; simp
  · rw [if_neg h0]
    by_cases h2 : B = 2
    · rw [if_pos h2, h2]
    · rw [if_neg h2]
      by_cases h10 : B = 10
      · rw [if_pos h10, h10, ten_pow]; push_cast; ring
      · rw [if_neg h10]
        by_cases hp : isPow2 B = true
        · rw [if_pos hp, isPow2_pow B hp]
        · rw [if_neg hp]

theorem shrRef_eq (v : Int) (n : Nat) : shrRef v n = Int.tdiv v ((2 ^ n : Nat) : Int) :=
  congrArg Prod.fst (splitBits_spec v n)

/-- **`shr_digits`**: the base-2, base-10, power-of-two and generic paths all divide by `B^k` toward zero -/
@[simp] theorem shrDigits_eq (B : Nat) (v : Int) (k : Nat) : shrDigits B v k = Int.tdiv v ((B ^ k : Nat) : Int) := by
  unfold shrDigits
  by_cases h0 : k = 0
  · subst h0; simp
  · rw [if_neg h0]
    by_cases h2 : B = 2
    · rw [if_pos h2, h2]; exact shrRef_eq v k
    · rw [if_neg h2]
      by_cases h10 : B = 10
      · rw [if_pos h10, h10, shrRef_eq, ten_pow]; exact (tdiv_tdiv_tmod v _ _).1
      · rw [if_neg h10]
        by_cases hp : isPow2 B = true
        · rw [if_pos hp, shrRef_eq, isPow2_pow B hp]
        · rw [if_neg hp]

/-- the decomposition delivered by `split_digits` -/
theorem splitDigits_spec (B : Nat) (hB : 2 ≤ B) (v : Int) (pos : Nat) :
    v = (splitDigits B v pos).1 * ((B ^ pos : Nat) : Int) + (splitDigits B v pos).2 ∧
    |(splitDigits B v pos).2| < ((B ^ pos : Nat) : Int) ∧
    (0 ≤ v → 0 ≤ (splitDigits B v pos).2 ∧ 0 ≤ (splitDigits B v pos).1) ∧
    (v ≤ 0 → (splitDigits B v pos).2 ≤ 0 ∧ (splitDigits B v pos).1 ≤ 0) := by
  rw [splitDigits_eq]
  exact tdiv_tmod_abs v _ (natpow_pos B (by omega) pos)

theorem pow_le_pow_int (B : Nat) (hB : 0 < B) (a b : Nat) (h : a ≤ b) : ((B ^ a : Nat) : Int) ≤ ((B ^ b : Nat) : Int) := by
  exact_mod_cast Nat.pow_le_pow_right hB h

theorem digits_mono (B : Nat) (hB : 2 ≤ B) (a b : Nat) (h : a ≤ b) : digits B a ≤ digits B b := by
  rcases Nat.eq_zero_or_pos a with ha | ha
  · subst ha; rw [digits_zero]; omega
  · obtain ⟨_, h1, _⟩ := digits_spec B hB a ha
    have hb := digits_lt_pow B hB b
    have : B ^ (digits B a - 1) < B ^ digits B b := lt_of_le_of_lt h1 (lt_of_le_of_lt h hb)
    have := (Nat.pow_lt_pow_iff_right (by omega : 1 < B)).mp this
    omega

theorem digits_le_of_lt_pow (B : Nat) (hB : 2 ≤ B) (n p : Nat) (h : n < B ^ p) : digits B n ≤ p := by
  rcases Nat.eq_zero_or_pos n with hn | hn
  · subst hn; rw [digits_zero]; omega
  · obtain ⟨_, h1, _⟩ := digits_spec B hB n hn
    have : B ^ (digits B n - 1) < B ^ p := lt_of_le_of_lt h1 h
    have := (Nat.pow_lt_pow_iff_right (by omega : 1 < B)).mp this
    omega

end Dashu.Model.Float
