import Dashu.Proofs.Float.FBigOps
import Dashu.Proofs.Float.Arith
/-
  The operator forms `a + b`, `a - b` agree with `Context::add` / `sub` (after fix 164990d: for all operands).
-/
namespace Dashu.Model.Float
open Dashu Dashu.Props.GenRound

/-! ### operator forms of `+` / `-` (`add_val_val`, `add_val_ref`, `add_ref_val`, `add_ref_ref`) -/

/-- the four ownership forms of `FBig + FBig` / `FBig - FBig` at `Context::max` precision `p` (float/src/add.rs
    `add_val_val` / `add_val_ref` / `add_ref_val` / `add_ref_ref` as of fix 164990d): a zero operand returns the other
    one (sign applied for `0 - b`) ROUNDED to the result precision (`context.repr_round(..).value()`), otherwise the
    same alignment code as `Context::add` / `sub`; only the value is returned.
    (Before 164990d the zero-operand arms returned the other operand unrounded — finding C15/C05 "zero operand
    unrounded", now a `fixed:` line.) -/
def opAddSub (B : Nat) (m : Mode) (c : Coarse) (dub : Int → Nat) (p : Nat) (lhs rhs : FRepr) (rs : Int) : FRepr :=
  if lhs.isZero then (reprRound B m c p ⟨rs * rhs.signif, rhs.exp⟩).1
  else if rhs.isZero then (reprRound B m c p lhs).1
  else (ctxAddSub B m c dub p lhs rhs rs).1

/-- the operators return the value of the `Context` method — for ALL operands (since fix 164990d no bound on
    the operands' digits is needed) -/
theorem opAddSub_eq_ctx_all (B : Nat) (m : Mode) (c : Coarse) (dub : Int → Nat) (p : Nat) (lhs rhs : FRepr) (rs : Int)
    (hrs : rs = 1 ∨ rs = -1) :
    opAddSub B m c dub p lhs rhs rs = (ctxAddSub B m c dub p lhs rhs rs).1 := by
  unfold opAddSub ctxAddSub
  by_cases hlz : lhs.isZero = true
  · simp only [hlz, if_true]
    rcases hrs with h | h <;> subst h
    · simp only [if_true, one_mul]
    · have hne : ¬ ((-1 : Int) = 1) := by omega
      simp only [hne, if_false]
      unfold FRepr.neg; simp
  · simp only [hlz, if_false, Bool.false_eq_true]
    by_cases hrz : rhs.isZero = true
    · simp only [hrz, if_true]
    · simp only [hrz, if_false, Bool.false_eq_true]

/-- the case of operands that fit the precision -/
theorem opAddSub_eq_ctx (B : Nat) (m : Mode) (c : Coarse) (dub : Int → Nat) (p : Nat) (lhs rhs : FRepr) (rs : Int)
    (hrs : rs = 1 ∨ rs = -1) (_hld : lhs.digits B ≤ p) (_hrd : rhs.digits B ≤ p) :
    opAddSub B m c dub p lhs rhs rs = (ctxAddSub B m c dub p lhs rhs rs).1 :=
  opAddSub_eq_ctx_all B m c dub p lhs rhs rs hrs

end Dashu.Model.Float
