import Dashu.Proofs.Float.Arith
/-
  C03: `Context::repr_div` (and `div` for dividends that are not pre-shrunk, `inv`) honours the
  rounding contract.
-/
namespace Dashu.Model.Float

/-- truncating division by a non-zero divisor of either sign -/
theorem tdiv_tmod_nz (v b : Int) (hb : b ≠ 0) :
    v = Int.tdiv v b * b + Int.tmod v b ∧ |Int.tmod v b| < |b| := by
  have h1 : Int.tdiv v b * b + Int.tmod v b = v := by
    rw [Int.mul_comm]; exact Int.mul_tdiv_add_tmod v b
  refine ⟨h1.symm, ?_⟩
  rcases lt_or_gt_of_ne hb with hneg | hpos
  · have := (tdiv_tmod_abs v (-b) (by omega)).2.1
    rw [Int.tmod_neg] at this
    rw [abs_of_neg hneg]; exact this
  · have := (tdiv_tmod_abs v b hpos).2.1
    rw [abs_of_pos hpos]; exact this

theorem natAbs_tdiv_mul_le (a b : Int) : (Int.tdiv a b).natAbs * b.natAbs ≤ a.natAbs := by
  rw [Int.natAbs_tdiv]; exact Nat.div_mul_le_self _ _

theorem digitsI_lower (B : Nat) (hB : 2 ≤ B) (v : Int) (hv : v ≠ 0) : B ^ (digitsI B v - 1) ≤ v.natAbs ∧ 0 < digitsI B v := by
  have hpos : 0 < v.natAbs := Int.natAbs_pos.mpr hv
  obtain ⟨h0, h1, _⟩ := digits_spec B hB v.natAbs hpos
  exact ⟨h1, h0⟩

/-- the re-alignment of `repr_div` for `a = q·b + r`, `0 < |r| < |b|`: afterwards `a·B^shift = q'·b + r'` with
    `|r'| < |b|`, the exponent is lowered by `shift`, and the scaled dividend has at least `p` digits more than
    the divisor's unit -/
theorem divAlign_spec (B : Nat) (hB : 2 ≤ B) (p : Nat) (hp : 1 ≤ p) (a b q r : Int) (hb : b ≠ 0) (e : Int)
    (hdec : a = q * b + r) (hrlt : |r| < |b|) (hqb : q.natAbs * b.natAbs ≤ a.natAbs) (hr : r ≠ 0) :
    ∃ shift : Nat,
      a * ((B ^ shift : Nat) : Int) = (divAlign B p b q r e).1 * b + (divAlign B p b q r e).2.1 ∧
      |(divAlign B p b q r e).2.1| < |b| ∧
      (divAlign B p b q r e).2.2 = e - shift ∧
      b.natAbs * B ^ (p - 1) ≤ a.natAbs * B ^ shift := by
  have hB0 : 0 < B := by omega
  unfold divAlign
  simp only [shlDigits_eq]
  split
  · next hq =>
    -- dividend shorter than the divisor: `r = a`, and `a` has at most as many digits as `b`
    subst hq
    rw [zero_mul, zero_add] at hdec
    subst hdec
    have hbup := digits_lt_pow B hB b.natAbs
    have hrlt' : a.natAbs < b.natAbs := by
      rw [← Int.natCast_natAbs, ← Int.natCast_natAbs] at hrlt
      exact_mod_cast hrlt
    obtain ⟨halo, hapos⟩ := digitsI_lower B hB a hr
    have hrd : digitsI B a - 1 < digitsI B b :=
      (Nat.pow_lt_pow_iff_right (by omega : 1 < B)).mp (lt_of_le_of_lt halo (lt_trans hrlt' hbup))
    obtain ⟨h1, h2⟩ := tdiv_tmod_nz (a * ((B ^ (digitsI B b + p - digitsI B a) : Nat) : Int)) b hb
    refine ⟨_, h1, h2, rfl, ?_⟩
    calc b.natAbs * B ^ (p - 1) ≤ B ^ digitsI B b * B ^ (p - 1) := Nat.mul_le_mul_right _ hbup.le
      _ = B ^ (digitsI B a - 1) * B ^ (digitsI B b + p - digitsI B a) := by
          rw [← Nat.pow_add, ← Nat.pow_add]; congr 1; omega
      _ ≤ a.natAbs * B ^ (digitsI B b + p - digitsI B a) := Nat.mul_le_mul_right _ halo
  · next hq =>
    -- `|q·b| ≤ |a|` and `q` has `dq` digits: a shift by `p - dq` (zero for a long quotient) is enough
    obtain ⟨hqlo, hqpos⟩ := digitsI_lower B hB q hq
    have hulp : b.natAbs * B ^ (p - 1) ≤ a.natAbs * B ^ (p - digitsI B q) :=
      calc b.natAbs * B ^ (p - 1) ≤ b.natAbs * (B ^ (digitsI B q - 1) * B ^ (p - digitsI B q)) := by
            rw [← Nat.pow_add]; exact Nat.mul_le_mul_left _ (Nat.pow_le_pow_right hB0 (by omega))
        _ = B ^ (digitsI B q - 1) * b.natAbs * B ^ (p - digitsI B q) := by ring
        _ ≤ q.natAbs * b.natAbs * B ^ (p - digitsI B q) :=
            Nat.mul_le_mul_right _ (Nat.mul_le_mul_right _ hqlo)
        _ ≤ a.natAbs * B ^ (p - digitsI B q) := Nat.mul_le_mul_right _ hqb
    split
    · next hsh =>
      have hs : digitsI B b + p - (digitsI B q + digitsI B b) = p - digitsI B q := by omega
      rw [hs]
      obtain ⟨h1, h2⟩ := tdiv_tmod_nz (r * ((B ^ (p - digitsI B q) : Nat) : Int)) b hb
      refine ⟨_, ?_, h2, rfl, hulp⟩
      rw [add_mul, add_assoc, ← h1, hdec]
      ring
    · next hsh =>
      have hs : p - digitsI B q = 0 := by omega
      rw [hs] at hulp
      exact ⟨0, by simpa using hdec, hrlt, by simp, hulp⟩

theorem toRat_div (B : Nat) (hB : 0 < B) (l r : FRepr) (hr : r.signif ≠ 0) :
    l.toRat B / r.toRat B = ((l.signif : ℚ) / (r.signif : ℚ)) * bpowQ B (l.exp - r.exp) := by
  unfold FRepr.toRat
  have hu := bpowQ_pos B hB r.exp
  have hrs : (r.signif : ℚ) ≠ 0 := by exact_mod_cast hr
  have : bpowQ B l.exp = bpowQ B (l.exp - r.exp) * bpowQ B r.exp := by
    rw [← bpowQ_add B hB]; congr 1; ring
  rw [this]
  field_simp

/-- rounding a quotient `A / b = q + r / b` (`0 < |r| < |b|`, any signs) with `round_ratio`: what
    `round_at_contract` is for `round_fract`, with the unit `|b|` in place of a power of the base -/
theorem roundRatio_contract (B : Nat) (hB : 2 ≤ B) (m : Mode) (p : Nat) (hp : 1 ≤ p) (A b q r e : Int)
    (hb : b ≠ 0) (hr : r ≠ 0) (hA : A = q * b + r) (hlt : |r| < |b|)
    (hulp : |b| * ((B ^ (p - 1) : Nat) : Int) ≤ |A|) :
    Contract B m p ((A : ℚ) / (b : ℚ) * bpowQ B e) ((FRepr.new B (q + rInt (roundRatio m q r b)) e).toRat B)
      (some (roundRatio m q r b)) := by
  have hB0 : 0 < B := by omega
  have habs : (0 : Int) < |b| := abs_pos.mpr hb
  have hbq : (b : ℚ) ≠ 0 := by exact_mod_cast hb
  have hDq : ((|b| : Int) : ℚ) ≠ 0 := by exact_mod_cast habs.ne'
  have hsb : Int.sign b * b = |b| := Int.sign_mul_self_eq_abs b
  have hlo0 : r * Int.sign b ≠ 0 := mul_ne_zero hr (by rwa [ne_eq, Int.sign_eq_zero_iff_zero])
  have hlolt : |r * Int.sign b| < |b| := by rwa [abs_mul, Int.abs_sign_of_ne_zero hb, mul_one]
  have hic := icontract_of_spec m q (r * Int.sign b) |b| habs hlo0 hlolt _ (roundRatio_spec m q r b hb hr hlt)
  -- over the positive unit `|b|` the exact value is `sign b · A`
  have hX : q * |b| + r * Int.sign b = Int.sign b * A := by rw [hA, ← hsb]; ring
  have hulp' : |b| * ((B ^ (p - 1) : Nat) : Int) ≤ |q * |b| + r * Int.sign b| := by
    rwa [hX, abs_mul, Int.abs_sign_of_ne_zero hb, one_mul]
  have hunit : ((|b| : Int) : ℚ) * (bpowQ B e / ((|b| : Int) : ℚ)) = bpowQ B e := mul_div_cancel₀ _ hDq
  have key := contract_of_icontract' B hB m p hp |b| _ _ habs _ _
    (div_pos (bpowQ_pos B hB0 e) (by exact_mod_cast habs)) e hunit hic ⟨_, rfl⟩ hulp'
  have hv1 : ((q * |b| + r * Int.sign b : Int) : ℚ) * (bpowQ B e / ((|b| : Int) : ℚ)) =
      (A : ℚ) / (b : ℚ) * bpowQ B e := by
    have : (A : ℚ) / (b : ℚ) = ((q * |b| + r * Int.sign b : Int) : ℚ) / ((|b| : Int) : ℚ) := by
      rw [div_eq_div_iff hbq hDq]
      exact_mod_cast (by rw [hX, ← hsb]; ring : A * |b| = (q * |b| + r * Int.sign b) * b)
    rw [this]; ring
  rw [hv1, Int.cast_mul, mul_assoc, hunit, ← FRepr.new_value B hB0] at key
  exact key

/-- **`Context::repr_div` honours the rounding contract** (`p ≥ 1`, divisor ≠ 0; dividends of any
    length — `Context::div` additionally pre-shrinks over-long ones, which is the recorded finding) -/
theorem reprDiv_contract (B : Nat) (hB : 2 ≤ B) (m : Mode) (p : Nat) (hp : 1 ≤ p) (lhs rhs : FRepr)
    (hb : rhs.signif ≠ 0) :
    ∃ r, reprDiv B m p lhs rhs = .ok r ∧ Contract B m p (lhs.toRat B / rhs.toRat B) (r.1.toRat B) r.2 := by
  have hB0 : 0 < B := by omega
  have hp0 : p ≠ 0 := by omega
  have hbq : (rhs.signif : ℚ) ≠ 0 := by exact_mod_cast hb
  obtain ⟨hdec, hrlt⟩ := tdiv_tmod_nz lhs.signif rhs.signif hb
  unfold reprDiv
  simp only [hp0, hb, if_false]
  rw [toRat_div B hB0 lhs rhs hb]
  split
  · next hr0 =>
    refine ⟨_, rfl, ?_⟩
    rw [hr0, add_zero] at hdec
    rw [FRepr.new_value B hB0, div_eq_of_eq_mul hbq (c := ((Int.tdiv lhs.signif rhs.signif : Int) : ℚ)) (by exact_mod_cast hdec)]
    exact contract_exact B m p _
  · next hr0 =>
    obtain ⟨shift, hA, hlt, hexp, hulp⟩ := divAlign_spec B hB p hp lhs.signif rhs.signif _ _ hb (lhs.exp - rhs.exp) hdec hrlt
      (natAbs_tdiv_mul_le _ _) hr0
    generalize divAlign B p rhs.signif (Int.tdiv lhs.signif rhs.signif) (Int.tmod lhs.signif rhs.signif)
      (lhs.exp - rhs.exp) = t at *
    -- the quotient with the dividend scaled by `B^shift` and the exponent lowered by `shift`
    have hval : (lhs.signif : ℚ) / (rhs.signif : ℚ) * bpowQ B (lhs.exp - rhs.exp) =
        ((lhs.signif * ((B ^ shift : Nat) : Int) : Int) : ℚ) / (rhs.signif : ℚ) * bpowQ B t.2.2 := by
      have : lhs.exp - rhs.exp = (shift : Int) + t.2.2 := by omega
      rw [this, bpowQ_add B hB0, bpowQ_nat]
      push_cast; ring
    rw [hval]
    split
    · next ht0 =>
      refine ⟨_, rfl, ?_⟩
      rw [ht0, add_zero] at hA
      rw [FRepr.new_value B hB0, div_eq_of_eq_mul hbq (c := (t.1 : ℚ)) (by exact_mod_cast hA)]
      exact contract_exact B m p _
    · next ht0 =>
      refine ⟨_, rfl, roundRatio_contract B hB m p hp _ _ _ _ _ hb ht0 hA hlt ?_⟩
      rw [abs_mul, abs_of_nonneg (Int.natCast_nonneg _), ← Int.natCast_natAbs, ← Int.natCast_natAbs]
      exact_mod_cast hulp

/-- `Context::div` on a dividend that is not longer than `rhs.digits() + p` (in particular every
    dividend that fits `p`): no pre-shrink, whatever the two digit estimates say -/
theorem ctxDiv_noshrink (B : Nat) (m : Mode) (c : Coarse) (dub dlb : Int → Nat) (p : Nat) (lhs rhs : FRepr)
    (h : lhs.digits B ≤ rhs.digits B + p) : ctxDiv B m c dub dlb p lhs rhs = reprDiv B m p lhs rhs := by
  unfold ctxDiv
  rw [reprRound_exact_of_fits B m c _ lhs h]
  simp

end Dashu.Model.Float
