import Dashu.Proofs.Float.Digits
import Mathlib.Analysis.SpecialFunctions.Log.Base
/-
  The `f32` digit estimate `Repr::digits_ub` (float/src/repr.rs, std path of `log2_bounds`):
  the precise assumptions under which `digits ≤ digits_ub`, and the proof of that implication over ℝ.

      digits_ub(n) = match B { 2 => ub, 10 => ub * LOG10_2, _ => ub / log2_bounds(B).0 } as usize + 1
      where ub = log2_bounds(n).1

  Assumptions (each is about one `f32` ingredient):
  (A) `ub` is an upper bound: `log₂ n ≤ ub`.  For `n < 2^24` the code computes `ub = next_up(log2f(n))`,
      so (A) is exactly "`log2f` is not more than one ulp too small: `log₂ x ≤ next_up(log2f x)`".
  (B) the one `f32` operation applied to `ub` (`*` or `/`) is a monotone rounding `fl` that leaves the
      small integers (`≤ 2^24`, all representable) fixed — true of IEEE round-to-nearest.  No relative
      error bound is needed: `t ≥ k` with `k` representable gives `fl t ≥ k`.
  (C) the two constants are on the safe side: `LOG10_2 ≥ log₁₀ 2` (the `f32` literal is
      0.30103001… > 0.30102999…) and `0 < log2_bounds(B).0 ≤ log₂ B`.
  Under (A)–(C) `digits B n ≤ digits_ub` for every base; for `B = 2` only (A) is used, and for bases
  that are powers of two (C) holds with equality (`log2_bounds(2^t) = (t, t)` exactly).
-/
namespace Dashu.Model.Float

/-- `digits_ub` with the `f32` ingredients as parameters: `ub`, the constants `L = LOG10_2` and
    `lbB = log2_bounds(B).0`, and the rounding `fl` of the single multiplication / division;
    `as usize` of a non-negative finite value is the floor -/
noncomputable def digitsUbReal (B : Nat) (fl : ℝ → ℝ) (ub L lbB : ℝ) : Nat :=
  if B = 2 then ⌊ub⌋₊ + 1 else if B = 10 then ⌊fl (ub * L)⌋₊ + 1 else ⌊fl (ub / lbB)⌋₊ + 1

theorem digits_sub_one_le_logb (B : Nat) (hB : 2 ≤ B) (n : Nat) (hn : 0 < n) :
    ((digits B n - 1 : Nat) : ℝ) ≤ Real.logb B n := by
  obtain ⟨_, h1, _⟩ := digits_spec B hB n hn
  have hB1 : (1 : ℝ) < (B : ℝ) := by exact_mod_cast (by omega : 1 < B)
  have hpos : (0 : ℝ) < ((B : ℝ) ^ (digits B n - 1)) := by positivity
  have hle : ((B : ℝ) ^ (digits B n - 1)) ≤ (n : ℝ) := by exact_mod_cast h1
  have := Real.logb_le_logb_of_le hB1 hpos hle
  rw [Real.logb_pow, Real.logb_self_eq_one hB1, mul_one] at this
  exact this

/-- the core of `log as usize + 1`: any real `t ≥ log_B n`, after a monotone rounding that fixes the
    small integers, still floors to at least `digits − 1` -/
theorem digits_le_floor_add_one (B : Nat) (hB : 2 ≤ B) (n : Nat) (hn : 0 < n) (fl : ℝ → ℝ) (hmono : Monotone fl)
    (hfix : ∀ k : Nat, k ≤ 2 ^ 24 → fl k = k) (hsmall : digits B n - 1 ≤ 2 ^ 24)
    (t : ℝ) (ht : Real.logb B n ≤ t) : digits B n ≤ ⌊fl t⌋₊ + 1 := by
  have h1 := digits_sub_one_le_logb B hB n hn
  have h2 : ((digits B n - 1 : Nat) : ℝ) ≤ fl t := by
    rw [← hfix _ hsmall]
    exact hmono (le_trans h1 ht)
  have := Nat.le_floor h2
  omega

theorem logb_two_nonneg (n : Nat) (hn : 0 < n) : 0 ≤ Real.logb 2 n := by
  apply Real.logb_nonneg (by norm_num)
  exact_mod_cast hn

/-- change of base, as `digits_ub` / `digits_lb` take it: through `LOG10_2` for base 10, through `log₂ B` otherwise -/
theorem logb_ten_eq (x : ℝ) : Real.logb (10 : ℕ) x = Real.logb 2 x * Real.logb 10 2 := by
  have hlog2 : (0 : ℝ) < Real.log 2 := Real.log_pos (by norm_num)
  have hlog10 : (0 : ℝ) < Real.log 10 := Real.log_pos (by norm_num)
  unfold Real.logb; push_cast; field_simp

theorem logb_eq_div (B : Nat) (hB : 2 ≤ B) (x : ℝ) : Real.logb B x = Real.logb 2 x / Real.logb 2 B := by
  have hlog2 : (0 : ℝ) < Real.log 2 := Real.log_pos (by norm_num)
  have hlogB : (0 : ℝ) < Real.log B := Real.log_pos (by exact_mod_cast (by omega : 1 < B))
  unfold Real.logb; field_simp

/-- **`digits ≤ digits_ub` under the assumptions (A), (B), (C)** -/
theorem digits_le_digitsUb (B : Nat) (hB : 2 ≤ B) (n : Nat) (hn : 0 < n) (fl : ℝ → ℝ) (ub L lbB : ℝ)
    (hA : Real.logb 2 n ≤ ub)
    (hmono : Monotone fl) (hfix : ∀ k : Nat, k ≤ 2 ^ 24 → fl k = k) (hsmall : digits B n - 1 ≤ 2 ^ 24)
    (hL : Real.logb 10 2 ≤ L) (hlb : 0 < lbB ∧ lbB ≤ Real.logb 2 B) :
    digits B n ≤ digitsUbReal B fl ub L lbB := by
  have hn0 := logb_two_nonneg n hn
  unfold digitsUbReal
  by_cases h2 : B = 2
  · subst h2
    simp only [if_true]
    have := digits_le_floor_add_one 2 (by omega) n hn id monotone_id (fun _ _ => rfl) hsmall ub (by exact_mod_cast hA)
    simpa using this
  · simp only [h2, if_false]
    by_cases h10 : B = 10
    · subst h10
      simp only [if_true]
      apply digits_le_floor_add_one 10 (by omega) n hn fl hmono hfix hsmall
      have hl0 : 0 ≤ Real.logb 10 2 := Real.logb_nonneg (by norm_num) (by norm_num)
      rw [logb_ten_eq]
      calc Real.logb 2 n * Real.logb 10 2 ≤ ub * Real.logb 10 2 := mul_le_mul_of_nonneg_right hA hl0
        _ ≤ ub * L := mul_le_mul_of_nonneg_left hL (le_trans hn0 hA)
    · simp only [h10, if_false]
      apply digits_le_floor_add_one B hB n hn fl hmono hfix hsmall
      rw [logb_eq_div B hB]
      have hLB : 0 < Real.logb 2 B := lt_of_lt_of_le hlb.1 hlb.2
      calc Real.logb 2 n / Real.logb 2 B ≤ Real.logb 2 n / lbB :=
            div_le_div_of_nonneg_left hn0 hlb.1 hlb.2
        _ ≤ ub / lbB := div_le_div_of_nonneg_right hA (le_of_lt hlb.1)

/-- `Repr::smaller_than_one` / the shortcuts of `round`, `trunc`, … need exactly `digits ≤ digits_ub`
    (`DubSound`); so (A)–(C) for every significand give `DubSound` for the estimator built from them -/
theorem dubSound_of_assumptions (B : Nat) (hB : 2 ≤ B) (fl : ℝ → ℝ) (ub : Nat → ℝ) (L lbB : ℝ)
    (hA : ∀ n : Nat, 0 < n → Real.logb 2 n ≤ ub n)
    (hmono : Monotone fl) (hfix : ∀ k : Nat, k ≤ 2 ^ 24 → fl k = k)
    (hsmall : ∀ n : Nat, digits B n - 1 ≤ 2 ^ 24)
    (hL : Real.logb 10 2 ≤ L) (hlb : 0 < lbB ∧ lbB ≤ Real.logb 2 B) :
    DubSound B (fun v => if v = 0 then 0 else digitsUbReal B fl (ub v.natAbs) L lbB) := by
  intro v
  by_cases hv : v = 0
  · subst hv; simp [digitsI, digits_zero]
  · simp only [hv, if_false]
    exact digits_le_digitsUb B hB v.natAbs (Int.natAbs_pos.mpr hv) fl _ L lbB (hA _ (Int.natAbs_pos.mpr hv))
      hmono hfix (hsmall _) hL hlb

theorem logb_two_mul_pow (m s : Nat) (hm : 0 < m) : Real.logb 2 ((m * 2 ^ s : Nat) : ℝ) = Real.logb 2 m + s := by
  have : (0 : ℝ) < m := by exact_mod_cast hm
  push_cast
  rw [Real.logb_mul (by positivity) (by positivity), Real.logb_pow, Real.logb_self_eq_one (by norm_num), mul_one]

end Dashu.Model.Float
