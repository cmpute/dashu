import Dashu.Proofs.Float.Log2Ub
/-
  The LOWER `log2_bounds` estimate of the std path (`base/src/math/log.rs`, `impl_log2_bounds_for_uint!`) with the concrete
  binary32 rounding, and the proof that it is a non-negative lower bound of `log₂ n` from a hypothesis about libm's `log2f`
  alone (the mirror image of `Proofs/Float/Log2Ub.lean`):

      if n.is_power_of_two()        { trailing_zeros as f32 }
      else if nbits <= 24           { next_down((n as f32).log2()) }
      else { shifted = (n >> (nbits-24)) as f32;  next_down(shifted.log2() + (nbits-24) as f32) }

  (LIBM↓)  for every integer `2 ≤ m ≤ 2²⁴`: `0 < next_down(log2f m) ≤ log₂ m`, and for `2²³ ≤ m < 2²⁴` the result is a
           binary32 number of `[16, 32)`.
  Also proved here: rounding commutes with scaling by a power of two (`rne32 (k·2^j) = k·2^j` for `k ≤ 2²⁴`: `rem_bits as f32`
  is exact for every multiple of 64 below `2³⁰`), and the lower grid fact `next_down(fl(est + s)) ≤ next_down(est) + s`.
-/
namespace Dashu.Model.Float
open Real

/-- `k·2^j` with `k ≤ 2²⁴` is a binary32 number (`rem_bits as f32` for `rem_bits = 64·w`, `w ≤ 2²⁴`) -/
theorem rne32_nat_mul_pow (k j : Nat) (hk : k ≤ 2 ^ 24) : rne32 ((k : ℝ) * (2 : ℝ) ^ j) = (k : ℝ) * (2 : ℝ) ^ j := by
  rcases Nat.eq_zero_or_pos k with h0 | hpos
  · subst h0; simp [rne32]
  have hk0 : (0 : ℝ) < (k : ℝ) := by exact_mod_cast hpos
  have hfix := rne32_natCast k hk
  rw [rne32_of_pos hk0] at hfix
  rw [rne32_of_pos (by positivity), ← zpow_natCast, rneAbs_mul_zpow _ hk0, hfix]

/-! ### `next_down` -/

/-- `f32::next_down` of a positive binary32 number (half a spacing at the bottom of a binade) -/
noncomputable def nextDown32 (x : ℝ) : ℝ :=
  if x = (2 : ℝ) ^ (Int.log 2 x) then x - ulp32 x / 2 else x - ulp32 x

theorem nextDown32_le (x : ℝ) : nextDown32 x ≤ x - ulp32 x / 2 := by
  have := ulp32_pos x
  unfold nextDown32; split_ifs <;> linarith

theorem nextDown32_ge (x : ℝ) : x - ulp32 x ≤ nextDown32 x := by
  have := ulp32_pos x
  unfold nextDown32; split_ifs <;> linarith

theorem nextDown32_pos (x : ℝ) (hx : 0 < x) : 0 < nextDown32 x := by
  have := nextDown32_ge x
  have := (scaled_range x hx).1
  have := ulp32_pos x
  linarith

/-- a rounded value is at most half a spacing `σ` of the argument's binade `[2^e, 2^(e+1))` away, and `next_down` subtracts
    a whole spacing of the result's binade, except at its bottom, where it subtracts half of one -/
theorem nextDown32_rneAbs_le (y : ℝ) (hy : 0 < y) : nextDown32 (rneAbs y) ≤ y - ulp32 y / 2 := by
  have herr := (abs_le.mp (rneAbs_abs_err y)).2
  obtain ⟨hlow, -⟩ := rneAbs_binade y hy
  have hrpos := rneAbs_pos y hy
  have hσ := zpow_le_ulp32 _ hrpos _ hlow
  have hu : ulp32 y = (2 : ℝ) ^ (Int.log 2 y - 23) := rfl
  rw [hu] at herr ⊢
  unfold nextDown32
  split_ifs with hp
  · rcases hlow.eq_or_lt with heq | hlt
    · -- the result is the bottom `2^e ≤ y` of the argument's binade
      have := (intLog_spec y hy).1
      linarith
    · -- the result is a power of two above `2^e`, so at least `2^(e+1)`, where the spacing is `2σ`
      have hlt' : (2 : ℝ) ^ Int.log 2 y < (2 : ℝ) ^ Int.log 2 (rneAbs y) := by rw [← hp]; exact hlt
      have hle : Int.log 2 y + 1 ≤ Int.log 2 (rneAbs y) := (zpow_lt_zpow_iff_right₀ (by norm_num : (1 : ℝ) < 2)).mp hlt'
      have h2 := zpow_le_ulp32 _ hrpos _ ((zpow_le_zpow_right₀ (by norm_num) hle).trans_eq hp.symm)
      rw [show Int.log 2 y + 1 - 23 = Int.log 2 y - 23 + 1 by ring, zpow_add_one₀ (by norm_num : (2 : ℝ) ≠ 0)] at h2
      linarith
  · linarith

/-- **lower grid fact**: `est = z·2⁻¹⁹ ∈ [16, 32)` a binary32 number, `s ≥ 1`: `next_down(fl(est + s)) ≤ next_down(est) + s`.
    Below 32 the sum is exact, on the same grid and not a power of two; from 32 on the spacing at least doubles. -/
theorem grid_fact_lower (z : ℤ) (s : Nat) (hs : 1 ≤ s) (h1 : 8388608 ≤ z) (h2 : z < 16777216) :
    nextDown32 (rne32 ((z : ℝ) * (2 : ℝ) ^ (-19 : ℤ) + s)) ≤ nextDown32 ((z : ℝ) * (2 : ℝ) ^ (-19 : ℤ)) + s := by
  obtain ⟨he1, he2⟩ := grid_16_32 z h1 h2
  have hs1 : (1 : ℝ) ≤ (s : ℝ) := by exact_mod_cast hs
  have hG := grid_add z s h1 h2
  set est := (z : ℝ) * (2 : ℝ) ^ (-19 : ℤ)
  have hy : 0 < est + s := by linarith
  have hl := nextDown32_ge est
  rw [ulp32_16_32 _ he1 he2] at hl
  rw [rne32_of_pos hy]
  rcases hG with ⟨hlt, hex⟩ | hu
  · have hne : est + s ≠ (2 : ℝ) ^ Int.log 2 (est + s) := by
      rw [intLog_16_32 _ (by linarith) hlt]
      exact ne_of_gt (by norm_num; linarith)
    have hd : nextDown32 (est + s) = est + s - (2 : ℝ) ^ (-19 : ℤ) := by
      unfold nextDown32
      rw [if_neg hne, ulp32_16_32 _ (by linarith) hlt]
    rw [hex, hd]
    linarith
  · have := nextDown32_rneAbs_le _ hy
    rw [show (2 : ℝ) ^ (-18 : ℤ) = 2 * (2 : ℝ) ^ (-19 : ℤ) by norm_num] at hu
    linarith

/-! ### the lower estimate of the std path -/

/-- the hypothesis about libm's `log2f` (lower side) -/
structure Log2fLower (log2f : ℝ → ℝ) : Prop where
  acc : ∀ m : Nat, 2 ≤ m → m ≤ 2 ^ 24 → 0 < nextDown32 (log2f m) ∧ nextDown32 (log2f m) ≤ Real.logb 2 m
  grid : ∀ m : Nat, 2 ^ 23 ≤ m → m < 2 ^ 24 →
    ∃ z : ℤ, 8388608 ≤ z ∧ z < 16777216 ∧ log2f m = (z : ℝ) * (2 : ℝ) ^ (-19 : ℤ)

/-- `log2_bounds(n).0` of the std path, every `f32` operation an `rne32` -/
noncomputable def log2LbStd (log2f : ℝ → ℝ) (n : Nat) : ℝ :=
  let nbits := Nat.log2 n + 1
  if n = 2 ^ (nbits - 1) then rne32 ((nbits - 1 : Nat) : ℝ)
  else if nbits ≤ 24 then nextDown32 (log2f (rne32 (n : ℝ)))
  else nextDown32 (rne32 (log2f (rne32 ((n / 2 ^ (nbits - 24) : Nat) : ℝ)) + rne32 ((nbits - 24 : Nat) : ℝ)))

/-- **`0 ≤ lb ≤ log₂ n` (and `0 < lb` for `n ≥ 2`) for every inline significand from the libm hypothesis alone** -/
theorem log2LbStd_sound (log2f : ℝ → ℝ) (h : Log2fLower log2f) (n : Nat) (hn : 0 < n) (hbits : Nat.log2 n + 1 ≤ 2 ^ 24) :
    0 ≤ log2LbStd log2f n ∧ log2LbStd log2f n ≤ Real.logb 2 n ∧ (2 ≤ n → 0 < log2LbStd log2f n) := by
  have h1 : 2 ^ Nat.log2 n ≤ n := Nat.log2_self_le (by omega)
  have h2 : n < 2 ^ (Nat.log2 n + 1) := Nat.lt_log2_self
  unfold log2LbStd
  simp only [Nat.add_sub_cancel]
  by_cases hp : n = 2 ^ Nat.log2 n
  · rw [if_pos hp, rne32_natCast _ (by omega)]
    refine ⟨Nat.cast_nonneg _, ?_, ?_⟩
    · conv_rhs => rw [hp]
      exact le_of_eq (logb_two_pow _).symm
    · intro hn2
      have : 1 ≤ Nat.log2 n := by
        by_contra hcon
        have h0 : Nat.log2 n = 0 := by omega
        rw [h0] at h2; omega
      exact_mod_cast this
  · rw [if_neg hp]
    by_cases h24 : Nat.log2 n + 1 ≤ 24
    · rw [if_pos h24]
      have hlt : n < 2 ^ 24 := lt_of_lt_of_le h2 (Nat.pow_le_pow_right (by norm_num) h24)
      rw [rne32_natCast n (le_of_lt hlt)]
      have hn2 : 2 ≤ n := by
        by_contra hcon
        have : n = 1 := by omega
        subst this
        exact hp (le_antisymm (Nat.one_le_two_pow) h1)
      obtain ⟨a, b⟩ := h.acc n hn2 (le_of_lt hlt)
      exact ⟨le_of_lt a, b, fun _ => a⟩
    · rw [if_neg h24]
      obtain ⟨s, hs⟩ : ∃ s, Nat.log2 n + 1 = s + 24 := ⟨Nat.log2 n + 1 - 24, by omega⟩
      rw [show Nat.log2 n + 1 - 24 = s by omega]
      obtain ⟨hlo, hhi⟩ := shifted_bounds n s (by omega) (by omega)
      set shifted := n / 2 ^ s
      rw [rne32_natCast shifted hhi.le, rne32_natCast s (by omega)]
      obtain ⟨z, hz1, hz2, hz⟩ := h.grid shifted hlo hhi
      obtain ⟨-, hacc⟩ := h.acc shifted (by omega) hhi.le
      rw [hz] at hacc ⊢
      -- log₂ shifted + s = log₂ (shifted·2^s) ≤ log₂ n
      have a1 : Real.logb 2 ((shifted * 2 ^ s : Nat) : ℝ) ≤ Real.logb 2 n :=
        Real.logb_le_logb_of_le (by norm_num) (by exact_mod_cast Nat.mul_pos (by omega) (by positivity))
          (by exact_mod_cast Nat.div_mul_le_self n (2 ^ s))
      rw [logb_two_mul_pow shifted s (by omega)] at a1
      have hrpos : 0 < rne32 ((z : ℝ) * (2 : ℝ) ^ (-19 : ℤ) + s) := by
        have hy := lt_of_lt_of_le (by norm_num : (0 : ℝ) < 16) ((grid_16_32 z hz1 hz2).1.trans (le_add_of_nonneg_right (Nat.cast_nonneg s)))
        rw [rne32_of_pos hy]
        exact rneAbs_pos _ hy
      have hpos := nextDown32_pos _ hrpos
      exact ⟨hpos.le, (grid_fact_lower z s (by omega) hz1 hz2).trans ((add_le_add hacc le_rfl).trans a1), fun _ => hpos⟩

end Dashu.Model.Float
