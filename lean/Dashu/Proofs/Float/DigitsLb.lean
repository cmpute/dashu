import Dashu.Proofs.Float.Estimate
import Dashu.Proofs.Float.F32
/-
  The LOWER `f32` digit estimate `Repr::digits_lb` (float/src/repr.rs):

      digits_lb(n) = match B { 2 => lb, 10 => lb * LOG10_2, _ => lb / log2_bounds(B).1 } as usize
      where lb = log2_bounds(n).0

  and the enclosure `digits_lb ≤ digits` (hypothesis `DlbSound` of `Model/Float/Repr.lean`, carried by the theorems about
  `Context::div`'s pre-shrink and `sub_ulp`).  Differences to the upper estimate (`Proofs/Float/Estimate.lean`):
  * the constant `LOG10_2` is on the UNSAFE side for a lower bound (`LOG10_2 > log₁₀ 2`, by a relative `< 2⁻²²`), and the product
    is rounded to nearest, so for base 10 `digits_lb ≤ digits − 1` does NOT follow from `lb ≤ log₂ n`; what does follow (and what
    `DlbSound` asks) is `digits_lb ≤ digits`, using the relative error bound of the rounding and `digits ≤ 2²¹`;
  * for the other bases monotonicity + small integers fixed suffices (`t < digits ⇒ fl t ≤ digits`).
-/
namespace Dashu.Model.Float
open Real

/-- `digits_lb` with the `f32` ingredients as parameters: `lb = log2_bounds(n).0`, `L = LOG10_2`, `ubB = log2_bounds(B).1`,
    `fl` the rounding of the single multiplication / division; `as usize` of a non-negative finite value is the floor -/
noncomputable def digitsLbReal (B : Nat) (fl : ℝ → ℝ) (lb L ubB : ℝ) : Nat :=
  if B = 2 then ⌊lb⌋₊ else if B = 10 then ⌊fl (lb * L)⌋₊ else ⌊fl (lb / ubB)⌋₊

theorem logb_lt_digits (B : Nat) (hB : 2 ≤ B) (n : Nat) (hn : 0 < n) : Real.logb B n < (digits B n : ℝ) := by
  obtain ⟨_, _, h2⟩ := digits_spec B hB n hn
  have hB1 : (1 : ℝ) < (B : ℝ) := by exact_mod_cast (by omega : 1 < B)
  have hn0 : (0 : ℝ) < (n : ℝ) := by exact_mod_cast hn
  have hlt : (n : ℝ) < (B : ℝ) ^ (digits B n) := by exact_mod_cast h2
  have := Real.logb_lt_logb hB1 hn0 hlt
  rw [Real.logb_pow, Real.logb_self_eq_one hB1, mul_one] at this
  exact this

/-- the other side of the constant: `LOG10_2 ≤ log₁₀ 2 · (1 + 2⁻²²)` (through `10^643 ≤ 2^2136`) -/
theorem log10_2_f32_le : log10_2_f32 ≤ Real.logb 10 2 * (1 + 1 / 4194304) := by
  have hnat : (10 : ℕ) ^ 643 ≤ 2 ^ 2136 := by decide +kernel
  have hreal : (10 : ℝ) ^ (643 : ℕ) ≤ (2 : ℝ) ^ (2136 : ℕ) := by exact_mod_cast hnat
  have hlog := Real.log_le_log (by positivity) hreal
  rw [Real.log_pow, Real.log_pow] at hlog
  have h10 : (0 : ℝ) < Real.log 10 := Real.log_pos (by norm_num)
  have h : (643 : ℝ) / 2136 ≤ Real.logb 10 2 := by
    unfold Real.logb
    rw [div_le_div_iff₀ (by norm_num) h10]
    push_cast at hlog
    linarith
  unfold log10_2_f32
  have : (10100891 : ℝ) / 33554432 ≤ 643 / 2136 * (1 + 1 / 4194304) := by norm_num
  have h2 : (643 : ℝ) / 2136 * (1 + 1 / 4194304) ≤ Real.logb 10 2 * (1 + 1 / 4194304) :=
    mul_le_mul_of_nonneg_right h (by norm_num)
  linarith

/-- **`digits_lb ≤ digits`** under: `0 ≤ lb ≤ log₂ n`; `fl` monotone, fixing the integers `≤ 2²⁴`, of relative error `≤ 2⁻²⁴`;
    `L ≤ log₁₀ 2 · (1 + 2⁻²²)`; `log₂ B ≤ ubB`; `digits ≤ 2²¹` -/
theorem digitsLb_le_digits (B : Nat) (hB : 2 ≤ B) (n : Nat) (hn : 0 < n) (fl : ℝ → ℝ) (lb L ubB : ℝ)
    (hlb0 : 0 ≤ lb) (hlb : lb ≤ Real.logb 2 n)
    (hmono : Monotone fl) (hfix : ∀ k : Nat, k ≤ 2 ^ 24 → fl k = k) (hrel : RelRound fl)
    (hsmall : digits B n ≤ 2 ^ 21)
    (hL0 : 0 ≤ L) (hL : L ≤ Real.logb 10 2 * (1 + 1 / 4194304)) (hub : Real.logb 2 B ≤ ubB) :
    digitsLbReal B fl lb L ubB ≤ digits B n := by
  have hlt := logb_lt_digits B hB n hn
  have hd24 : digits B n ≤ 2 ^ 24 := le_trans hsmall (by norm_num)
  unfold digitsLbReal
  by_cases h2 : B = 2
  · subst h2
    simp only [if_true]
    apply Nat.floor_le_of_le
    have : Real.logb ((2 : ℕ) : ℝ) n = Real.logb 2 n := by norm_num
    rw [this] at hlt
    linarith
  · simp only [h2, if_false]
    by_cases h10 : B = 10
    · subst h10
      simp only [if_true]
      have hcb := logb_ten_eq n
      have hl0 : 0 ≤ Real.logb 10 2 := Real.logb_nonneg (by norm_num) (by norm_num)
      have hn0 : 0 ≤ Real.logb 2 n := le_trans hlb0 hlb
      -- t = lb * L ≤ log₁₀ n · (1 + 2⁻²²)
      have ht0 : 0 ≤ lb * L := mul_nonneg hlb0 hL0
      have ht : lb * L ≤ Real.logb (10 : ℕ) n * (1 + 1 / 4194304) := by
        rw [hcb]
        calc lb * L ≤ Real.logb 2 n * L := mul_le_mul_of_nonneg_right hlb hL0
          _ ≤ Real.logb 2 n * (Real.logb 10 2 * (1 + 1 / 4194304)) := mul_le_mul_of_nonneg_left hL hn0
          _ = Real.logb 2 n * Real.logb 10 2 * (1 + 1 / 4194304) := by ring
      have hfl := hrel.le_up (lb * L) ht0
      have hdR : ((digits 10 n : Nat) : ℝ) ≤ 2097152 := by exact_mod_cast hsmall
      have hu : u32 = 1 / 16777216 := rfl
      have hlt' : fl (lb * L) < ((digits 10 n : Nat) : ℝ) + 1 := by
        have a1 : lb * L < ((digits 10 n : Nat) : ℝ) * (1 + 1 / 4194304) := by
          have : Real.logb (10 : ℕ) n * (1 + 1 / 4194304) < ((digits 10 n : Nat) : ℝ) * (1 + 1 / 4194304) :=
            mul_lt_mul_of_pos_right hlt (by norm_num)
          linarith
        have a2 : lb * L * (1 + u32) < ((digits 10 n : Nat) : ℝ) * (1 + 1 / 4194304) * (1 + u32) :=
          mul_lt_mul_of_pos_right a1 (by rw [hu]; norm_num)
        have a3 : ((digits 10 n : Nat) : ℝ) * (1 + 1 / 4194304) * (1 + u32) ≤ ((digits 10 n : Nat) : ℝ) + 1 := by
          rw [hu]
          linarith only [hdR]
        linarith
      have hfl0 : 0 ≤ fl (lb * L) := by
        have := hmono ht0
        have h0 : fl ((0 : Nat) : ℝ) = ((0 : Nat) : ℝ) := hfix 0 (by norm_num)
        simp only [Nat.cast_zero] at h0
        rw [h0] at this
        exact this
      have : ⌊fl (lb * L)⌋₊ < digits 10 n + 1 := by
        rw [Nat.floor_lt hfl0]
        push_cast
        exact hlt'
      omega
    · simp only [h10, if_false]
      have hB1 : (1 : ℝ) < (B : ℝ) := by exact_mod_cast (by omega : 1 < B)
      have hcb := logb_eq_div B hB n
      have hLB : 0 < Real.logb 2 B := Real.logb_pos (by norm_num) hB1
      have ht : lb / ubB ≤ ((digits B n : Nat) : ℝ) := by
        have h1 : lb / ubB ≤ lb / Real.logb 2 B := div_le_div_of_nonneg_left hlb0 hLB hub
        have h2' : lb / Real.logb 2 B ≤ Real.logb 2 n / Real.logb 2 B := div_le_div_of_nonneg_right hlb (le_of_lt hLB)
        rw [hcb] at hlt
        linarith
      have := hmono ht
      rw [hfix _ hd24] at this
      exact Nat.floor_le_of_le this

/-- the enclosure hypothesis `DlbSound` for the estimator built from sound ingredients -/
theorem dlbSound_of_assumptions (B : Nat) (hB : 2 ≤ B) (fl : ℝ → ℝ) (lb : Nat → ℝ) (L ubB : ℝ)
    (hA : ∀ n : Nat, 0 < n → 0 ≤ lb n ∧ lb n ≤ Real.logb 2 n)
    (hmono : Monotone fl) (hfix : ∀ k : Nat, k ≤ 2 ^ 24 → fl k = k) (hrel : RelRound fl)
    (hsmall : ∀ n : Nat, digits B n ≤ 2 ^ 21)
    (hL0 : 0 ≤ L) (hL : L ≤ Real.logb 10 2 * (1 + 1 / 4194304)) (hub : Real.logb 2 B ≤ ubB) :
    DlbSound B (fun v => if v = 0 then 0 else digitsLbReal B fl (lb v.natAbs) L ubB) := by
  intro v
  by_cases hv : v = 0
  · subst hv; simp
  · simp only [hv, if_false]
    have hp := Int.natAbs_pos.mpr hv
    exact digitsLb_le_digits B hB v.natAbs hp fl _ L ubB (hA _ hp).1 (hA _ hp).2 hmono hfix hrel (hsmall _) hL0 hL hub

/-- non-vacuity: decimal `1001` (the doc example of `digits_lb`) meets the size hypotheses -/
example : Nat.log2 1001 + 1 ≤ 2 ^ 30 ∧ digits 10 1001 ≤ 2 ^ 21 := by decide

end Dashu.Model.Float
