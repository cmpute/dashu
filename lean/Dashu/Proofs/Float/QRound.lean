import Dashu.Proofs.Float.RoundOps
import Dashu.Model.Float.QRound
/-
  `rational/src/round.rs`: the mirrored `Repr::{split_at_point, ceil, floor, trunc, fract, round}` name the neighbour
  their definition prescribes, `fract` keeps value and type invariant (`RBig`: lowest terms; `Relaxed`: not both even).
-/
namespace Dashu.Model.Float

theorem QRepr.trunc_eq (x : QRepr) : x.trunc = qTrunc x.num x.den := rfl

theorem QRepr.ceil_eq (x : QRepr) : x.ceil = qCeil x.num x.den := rfl

theorem QRepr.floor_eq (x : QRepr) : x.floor = qFloor x.num x.den := rfl

theorem QRepr.round_eq (x : QRepr) : x.round = qRound x.num x.den := by
  unfold QRepr.round QRepr.divRem qRound
  simp only [Nat.shiftLeft_eq, pow_one]
  have e : ∀ a : Nat, a * 2 = 2 * a := fun a => Nat.mul_comm a 2
  rw [e]
  by_cases h : x.num < 0
  · have h' : ¬ x.num ≥ 0 := by omega
    simp [h, h']
  · have h' : x.num ≥ 0 := by omega
    simp [h, h']

theorem QRepr.splitAtPoint_eq (x : QRepr) : x.splitAtPoint = (x.trunc, x.fract) := rfl

/-- the fraction's numerator is the truncating remainder, whichever representation of zero is chosen -/
theorem QRepr.fract_num (x : QRepr) : x.fract.num = Int.tmod x.num x.den := by
  unfold QRepr.fract
  simp only
  split
  · next h => simp [QRepr.zero, h]
  · rfl

theorem QRepr.fract_den (x : QRepr) : x.fract.den = if Int.tmod x.num x.den = 0 then 1 else x.den := by
  unfold QRepr.fract
  simp only
  split <;> simp [QRepr.zero]

/-- `x = trunc(x) + fract(x)` as a cross-multiplied identity (`fract = fn / fd`):
    `num · fd = (trunc · fd + fn) · den` -/
theorem QRepr.trunc_add_fract (x : QRepr) :
    x.num * (x.fract.den : Int) = (x.trunc * (x.fract.den : Int) + x.fract.num) * (x.den : Int) := by
  have h := Int.mul_tdiv_add_tmod x.num x.den
  rw [QRepr.fract_num, QRepr.fract_den]
  unfold QRepr.trunc
  split
  · next h0 =>
    rw [h0] at h ⊢
    simp only [Nat.cast_one, mul_one, add_zero] at h ⊢
    linarith
  · generalize Int.tdiv x.num x.den = q at h ⊢
    generalize Int.tmod x.num x.den = r at h ⊢
    rw [← h]
    ring

/-- `RBig::fract` / `split_at_point` return a valid `RBig` ("no need to reduce here"): lowest terms are kept -/
theorem QRepr.fract_isRBig (x : QRepr) (h : x.IsRBig) : x.fract.IsRBig := by
  obtain ⟨hd, hg⟩ := h
  unfold QRepr.fract
  simp only
  split
  · exact ⟨by decide, by simp [QRepr.zero]⟩
  · refine ⟨hd, ?_⟩
    show Nat.gcd (Int.tmod x.num x.den).natAbs x.den = 1
    -- a common divisor of `r` and `den` divides `num = q·den + r`
    have hdec := Int.mul_tdiv_add_tmod x.num x.den
    apply Nat.eq_one_of_dvd_one
    rw [← hg]
    apply Nat.dvd_gcd
    · have h1 : ((Nat.gcd (Int.tmod x.num x.den).natAbs x.den : Nat) : Int) ∣ Int.tmod x.num x.den := by
        rw [Int.natCast_dvd]; exact Nat.gcd_dvd_left _ _
      have h2 : ((Nat.gcd (Int.tmod x.num x.den).natAbs x.den : Nat) : Int) ∣ (x.den : Int) := by
        exact_mod_cast Nat.gcd_dvd_right _ _
      have h3 : ((Nat.gcd (Int.tmod x.num x.den).natAbs x.den : Nat) : Int) ∣ x.num := by
        have := dvd_add (Dvd.dvd.mul_right h2 (Int.tdiv x.num x.den)) h1
        rwa [hdec] at this
      rw [Int.natCast_dvd] at h3
      exact h3
    · exact Nat.gcd_dvd_right _ _

/-- `Relaxed::fract` / `split_at_point` return a valid `Relaxed`: zero is `0/1`, never both parts even -/
theorem QRepr.fract_isRelaxed (x : QRepr) (h : x.IsRelaxed) : x.fract.IsRelaxed := by
  obtain ⟨hd, _, hpar⟩ := h
  unfold QRepr.fract
  simp only
  split
  · exact ⟨by decide, fun _ => rfl, by simp [QRepr.zero]⟩
  · next hr =>
    refine ⟨hd, fun h0 => absurd h0 hr, ?_⟩
    rintro ⟨h1, h2⟩
    apply hpar
    refine ⟨?_, h2⟩
    have hdec := Int.mul_tdiv_add_tmod x.num x.den
    show x.num % 2 = 0
    have h2' : ((x.den : Nat) : Int) % 2 = 0 := by exact_mod_cast h2
    have h1' : Int.tmod x.num x.den % 2 = 0 := h1
    generalize Int.tdiv x.num x.den = q at *
    generalize Int.tmod x.num x.den = r at *
    generalize (x.den : Int) = d at *
    have : (d * q) % 2 = 0 := by
      rw [Int.mul_emod, h2']; simp
    omega

end Dashu.Model.Float
