import Dashu.Proofs.Float.Coarse
import Dashu.Proofs.Float.Estimate
import Mathlib.Data.Int.Log
import Mathlib.Algebra.Order.Floor.Ring
import Mathlib.Tactic.Linarith
import Mathlib.Tactic.NormNum
/-
  IEEE-754 binary32 round-to-nearest, ties-to-even, as a concrete function on ℝ (`rne32`), and the facts about it that the
  C10 theorems about the `f32` estimators use as hypotheses — here PROVED from the definition:

    (R)  relative error:        |rne32 x − x| ≤ 2⁻²⁴·|x|                (`RelRound rne32`)
    (B1) monotone:              x ≤ y → rne32 x ≤ rne32 y
    (B2) small integers fixed:  k ≤ 2²⁴ → rne32 k = k
    (C)  the literals:          rne32 (999/1000) = 16760439/2²⁴, rne32 (1001/1000) = 8396997/2²³,
                                LOG10_2 of core::f32::consts = 10100891/2²⁵ ≥ log₁₀ 2
                                (that `1. ∓ ADJUST` is exact: `Props/C10F32.adjust_factors_exact`)
    (G)  grid fact of `Props/C10Est.ub_wide`: next_up(rne32(est + s)) ≥ next_up(est) + s for est on the binary32 grid
         of [16, 32)

  `rne32` has the 24-bit significand of binary32 and an UNBOUNDED exponent: it is the IEEE operation wherever neither
  overflow nor subnormal results occur (`rne32_in_normal_range`: 2⁻¹²⁶ ≤ |x| ≤ 2¹²⁷ ⇒ 2⁻¹²⁶ ≤ |rne32 x| ≤ 2¹²⁷); every
  quantity the estimators compute is 0 or lies in [2⁻¹, 2³²].
-/
namespace Dashu.Model.Float
open Real

/-! ### round-half-even to an integer -/

/-- round to the nearest integer, ties to the even one -/
noncomputable def rhe (t : ℝ) : ℤ :=
  if t - ⌊t⌋ < 1 / 2 then ⌊t⌋ else if 1 / 2 < t - ⌊t⌋ then ⌊t⌋ + 1 else if Even ⌊t⌋ then ⌊t⌋ else ⌊t⌋ + 1

theorem rhe_intCast (z : ℤ) : rhe (z : ℝ) = z := by
  unfold rhe
  simp

/-- `rhe t` is whichever of `⌊t⌋`, `⌊t⌋ + 1` is nearer, and the even one at a tie -/
theorem rhe_cases (t : ℝ) :
    rhe t = ⌊t⌋ ∧ t - ⌊t⌋ ≤ 1 / 2 ∧ (t - ⌊t⌋ = 1 / 2 → Even ⌊t⌋) ∨
    rhe t = ⌊t⌋ + 1 ∧ 1 / 2 ≤ t - ⌊t⌋ ∧ (t - ⌊t⌋ = 1 / 2 → ¬Even ⌊t⌋) := by
  unfold rhe
  split_ifs with a b c
  · exact Or.inl ⟨rfl, a.le, fun h => absurd h a.ne⟩
  · exact Or.inr ⟨rfl, b.le, fun h => absurd h.symm b.ne⟩
  · exact Or.inl ⟨rfl, not_lt.mp b, fun _ => c⟩
  · exact Or.inr ⟨rfl, not_lt.mp a, fun _ => c⟩

theorem rhe_err (t : ℝ) : |(rhe t : ℝ) - t| ≤ 1 / 2 := by
  have h1 := Int.floor_le t
  have h2 := Int.lt_floor_add_one t
  rw [abs_le]
  rcases rhe_cases t with ⟨h, h3, -⟩ | ⟨h, h3, -⟩
  · rw [h]; constructor <;> linarith
  · rw [h]; push_cast; constructor <;> linarith

theorem rhe_mono : Monotone rhe := by
  intro s t hst
  have hf : ⌊s⌋ ≤ ⌊t⌋ := Int.floor_mono hst
  rcases rhe_cases s with ⟨hs, -⟩ | ⟨hs, s1, s2⟩
  · rcases rhe_cases t with ⟨ht, -⟩ | ⟨ht, -⟩
    · omega
    · omega
  rcases rhe_cases t with ⟨ht, t1, t2⟩ | ⟨ht, -⟩
  · rcases hf.lt_or_eq with hlt | heq
    · omega
    · -- `s` rounded up, `t ≥ s` with the same floor rounded down: both are ties, and the parity decides both ways
      rw [← heq] at t1 t2
      exact absurd (t2 (le_antisymm t1 (by linarith))) (s2 (le_antisymm (by linarith) s1))
  · omega

/-- an integer closer than `1/2` is the rounding -/
theorem rhe_of_near (t : ℝ) (z : ℤ) (h : |t - z| < 1 / 2) : rhe t = z := by
  have h1 : |(rhe t : ℝ) - z| < 1 :=
    calc |(rhe t : ℝ) - z| ≤ |(rhe t : ℝ) - t| + |t - z| := abs_sub_le _ _ _
      _ < 1 / 2 + 1 / 2 := add_lt_add_of_le_of_lt (rhe_err t) h
      _ = 1 := by norm_num
  have h2 : |rhe t - z| < 1 := by exact_mod_cast h1
  exact sub_eq_zero.mp (Int.abs_lt_one_iff.mp h2)

/-! ### binary32 rounding of a real (24-bit significand, unbounded exponent) -/

/-- the spacing of binary32 numbers in the binade of `x > 0`: `2^(⌊log₂ x⌋ − 23)` -/
noncomputable def ulp32 (x : ℝ) : ℝ := (2 : ℝ) ^ (Int.log 2 x - 23)

/-- rounding of a positive real -/
noncomputable def rneAbs (x : ℝ) : ℝ := (rhe (x / ulp32 x) : ℝ) * ulp32 x

/-- IEEE-754 binary32 round-to-nearest-even (sign-symmetric) -/
noncomputable def rne32 (x : ℝ) : ℝ := if 0 < x then rneAbs x else if x < 0 then -rneAbs (-x) else 0

theorem rne32_of_pos {x : ℝ} (hx : 0 < x) : rne32 x = rneAbs x := if_pos hx

theorem rne32_of_neg {x : ℝ} (hx : x < 0) : rne32 x = -rneAbs (-x) := by
  unfold rne32
  rw [if_neg (not_lt.mpr hx.le), if_pos hx]

theorem rne32_zero : rne32 0 = 0 := by simp [rne32]

theorem ulp32_pos (x : ℝ) : 0 < ulp32 x := by unfold ulp32; positivity

theorem two_zpow_split (e : ℤ) : (2 : ℝ) ^ e = 8388608 * (2 : ℝ) ^ (e - 23) := by
  rw [show (8388608 : ℝ) = (2 : ℝ) ^ (23 : ℤ) by norm_num, ← zpow_add₀ (by norm_num : (2 : ℝ) ≠ 0)]; congr 1; ring

theorem two_zpow_split' (e : ℤ) : (2 : ℝ) ^ (e + 1) = 16777216 * (2 : ℝ) ^ (e - 23) := by
  rw [zpow_add_one₀ (by norm_num : (2 : ℝ) ≠ 0), two_zpow_split e]; ring

theorem intLog_spec (x : ℝ) (hx : 0 < x) : (2 : ℝ) ^ Int.log 2 x ≤ x ∧ x < (2 : ℝ) ^ (Int.log 2 x + 1) := by
  exact_mod_cast And.intro (Int.zpow_log_le_self (b := 2) (by norm_num) hx) (Int.lt_zpow_succ_log_self (b := 2) (by norm_num) x)

theorem intLog_eq (x : ℝ) (hx : 0 < x) (e : ℤ) (h1 : (2 : ℝ) ^ e ≤ x) (h2 : x < (2 : ℝ) ^ (e + 1)) : Int.log 2 x = e := by
  apply le_antisymm
  · have := (Int.lt_zpow_iff_log_lt (b := 2) (by norm_num) hx).mp (by push_cast; exact h2)
    omega
  · exact (Int.zpow_le_iff_le_log (b := 2) (by norm_num) hx).mp (by push_cast; exact h1)

/-- the spacing is monotone in the binade -/
theorem zpow_le_ulp32 (x : ℝ) (hx : 0 < x) (e : ℤ) (h : (2 : ℝ) ^ e ≤ x) : (2 : ℝ) ^ (e - 23) ≤ ulp32 x := by
  have := (Int.zpow_le_iff_le_log (b := 2) (by norm_num) hx).mp (by push_cast; exact h)
  exact zpow_le_zpow_right₀ (by norm_num) (by omega)

theorem ulp32_mono (x y : ℝ) (hx : 0 < x) (hxy : x ≤ y) : ulp32 x ≤ ulp32 y :=
  zpow_le_ulp32 y (hx.trans_le hxy) _ ((intLog_spec x hx).1.trans hxy)

/-- the scaled significand `x / ulp32 x` lies in `[2²³, 2²⁴)` -/
theorem scaled_range (x : ℝ) (hx : 0 < x) : 8388608 * ulp32 x ≤ x ∧ x < 16777216 * ulp32 x := by
  have h := intLog_spec x hx
  rw [two_zpow_split, two_zpow_split'] at h
  exact h

theorem rhe_scaled_range (x : ℝ) (hx : 0 < x) :
    (8388608 : ℝ) ≤ (rhe (x / ulp32 x) : ℝ) ∧ (rhe (x / ulp32 x) : ℝ) ≤ 16777216 := by
  obtain ⟨h1, h2⟩ := scaled_range x hx
  have hq := ulp32_pos x
  have a : rhe ((8388608 : ℤ) : ℝ) ≤ rhe (x / ulp32 x) := rhe_mono (by push_cast; exact (le_div_iff₀ hq).mpr h1)
  have b : rhe (x / ulp32 x) ≤ rhe ((16777216 : ℤ) : ℝ) := rhe_mono (by push_cast; exact (div_le_iff₀ hq).mpr h2.le)
  rw [rhe_intCast] at a b
  exact ⟨by exact_mod_cast a, by exact_mod_cast b⟩

/-- the result stays in the closed binade: `2^e ≤ rneAbs x ≤ 2^(e+1)` -/
theorem rneAbs_binade (x : ℝ) (hx : 0 < x) :
    (2 : ℝ) ^ (Int.log 2 x) ≤ rneAbs x ∧ rneAbs x ≤ (2 : ℝ) ^ (Int.log 2 x + 1) := by
  obtain ⟨h1, h2⟩ := rhe_scaled_range x hx
  have hq := (ulp32_pos x).le
  rw [two_zpow_split, two_zpow_split']
  exact ⟨mul_le_mul_of_nonneg_right h1 hq, mul_le_mul_of_nonneg_right h2 hq⟩

theorem rneAbs_pos (x : ℝ) (hx : 0 < x) : 0 < rneAbs x :=
  lt_of_lt_of_le (by positivity) (rneAbs_binade x hx).1

/-- absolute error at most half a spacing … -/
theorem rneAbs_abs_err (x : ℝ) : |rneAbs x - x| ≤ ulp32 x / 2 := by
  have hq := ulp32_pos x
  have e : rneAbs x - x = ((rhe (x / ulp32 x) : ℝ) - x / ulp32 x) * ulp32 x := by
    unfold rneAbs; field_simp
  rw [e, abs_mul, abs_of_pos hq]
  calc |(rhe (x / ulp32 x) : ℝ) - x / ulp32 x| * ulp32 x ≤ 1 / 2 * ulp32 x :=
        mul_le_mul_of_nonneg_right (rhe_err _) hq.le
    _ = ulp32 x / 2 := by ring

/-- … which is at most `2⁻²⁴·x` -/
theorem rneAbs_err (x : ℝ) (hx : 0 < x) : |rneAbs x - x| ≤ u32 * x := by
  have h := rneAbs_abs_err x
  have := (scaled_range x hx).1
  unfold u32
  linarith

theorem rneAbs_mono (x y : ℝ) (hx : 0 < x) (hxy : x ≤ y) : rneAbs x ≤ rneAbs y := by
  have hy : 0 < y := lt_of_lt_of_le hx hxy
  have hl := Int.log_mono_right (b := 2) hx hxy
  rcases lt_or_eq_of_le hl with hlt | heq
  · calc rneAbs x ≤ (2 : ℝ) ^ (Int.log 2 x + 1) := (rneAbs_binade x hx).2
      _ ≤ (2 : ℝ) ^ (Int.log 2 y) := zpow_le_zpow_right₀ (by norm_num) (by omega)
      _ ≤ rneAbs y := (rneAbs_binade y hy).1
  · have hu : ulp32 x = ulp32 y := by unfold ulp32; rw [heq]
    unfold rneAbs
    rw [hu]
    apply mul_le_mul_of_nonneg_right _ (le_of_lt (ulp32_pos y))
    have : x / ulp32 y ≤ y / ulp32 y := div_le_div_of_nonneg_right hxy (le_of_lt (ulp32_pos y))
    exact_mod_cast rhe_mono this

theorem zero_le_rne32 {x : ℝ} (hx : 0 ≤ x) : 0 ≤ rne32 x := by
  rcases hx.eq_or_lt with rfl | h
  · rw [rne32_zero]
  · rw [rne32_of_pos h]; exact (rneAbs_pos x h).le

/-- **(B1)** binary32 rounding is monotone -/
theorem rne32_mono : Monotone rne32 := by
  intro x y hxy
  by_cases hx : 0 < x
  · rw [rne32_of_pos hx, rne32_of_pos (hx.trans_le hxy)]; exact rneAbs_mono x y hx hxy
  rcases lt_or_ge y 0 with hy | hy
  · rw [rne32_of_neg hy, rne32_of_neg (hxy.trans_lt hy)]
    exact neg_le_neg (rneAbs_mono (-y) (-x) (neg_pos.mpr hy) (neg_le_neg hxy))
  · -- x ≤ 0 ≤ y
    have h0 : rne32 x ≤ 0 := by
      rcases (not_lt.mp hx).eq_or_lt with rfl | h
      · rw [rne32_zero]
      · rw [rne32_of_neg h]; exact (neg_neg_of_pos (rneAbs_pos _ (neg_pos.mpr h))).le
    exact h0.trans (zero_le_rne32 hy)

/-- **(R)** relative error at most `u = 2⁻²⁴` -/
theorem rne32_relRound : RelRound rne32 := by
  intro x
  rcases lt_trichotomy 0 x with hx | rfl | hx
  · rw [rne32_of_pos hx, abs_of_pos hx]; exact rneAbs_err x hx
  · simp [rne32_zero]
  · rw [rne32_of_neg hx, abs_of_neg hx, show -rneAbs (-x) - x = -(rneAbs (-x) - -x) by ring, abs_neg]
    exact rneAbs_err (-x) (neg_pos.mpr hx)

/-! ### scaling by powers of two; the binary32 numbers -/

theorem intLog_mul_zpow (x : ℝ) (hx : 0 < x) (j : ℤ) : Int.log 2 (x * (2 : ℝ) ^ j) = Int.log 2 x + j := by
  obtain ⟨h1, h2⟩ := intLog_spec x hx
  have hp : (0 : ℝ) < (2 : ℝ) ^ j := by positivity
  apply intLog_eq _ (by positivity)
  · rw [zpow_add₀ (by norm_num : (2 : ℝ) ≠ 0)]
    exact mul_le_mul_of_nonneg_right h1 (le_of_lt hp)
  · rw [show Int.log 2 x + j + 1 = (Int.log 2 x + 1) + j by ring, zpow_add₀ (by norm_num : (2 : ℝ) ≠ 0)]
    exact mul_lt_mul_of_pos_right h2 hp

/-- binary32 rounding commutes with multiplication by `2^j` (unbounded exponent) -/
theorem rneAbs_mul_zpow (x : ℝ) (hx : 0 < x) (j : ℤ) : rneAbs (x * (2 : ℝ) ^ j) = rneAbs x * (2 : ℝ) ^ j := by
  unfold rneAbs ulp32
  rw [intLog_mul_zpow x hx j]
  have e : (2 : ℝ) ^ (Int.log 2 x + j - 23) = (2 : ℝ) ^ (Int.log 2 x - 23) * (2 : ℝ) ^ j := by
    rw [← zpow_add₀ (by norm_num : (2 : ℝ) ≠ 0)]; congr 1; ring
  rw [e]
  have hq : (2 : ℝ) ^ (Int.log 2 x - 23) ≠ 0 := by positivity
  have hj : (2 : ℝ) ^ j ≠ 0 := by positivity
  have : x * (2 : ℝ) ^ j / ((2 : ℝ) ^ (Int.log 2 x - 23) * (2 : ℝ) ^ j) = x / (2 : ℝ) ^ (Int.log 2 x - 23) := by
    field_simp
  rw [this]; ring

/-- a value `z·2^(e−23)` with `2²³ ≤ z < 2²⁴` is a binary32 number: rounding leaves it fixed (an integer of `[2²³, 2²⁴)` has
    spacing 1, and rounding commutes with the scaling) -/
theorem rneAbs_of_scaled (z : ℤ) (j : ℤ) (h1 : 8388608 ≤ z) (h2 : z < 16777216) :
    rneAbs ((z : ℝ) * (2 : ℝ) ^ j) = (z : ℝ) * (2 : ℝ) ^ j := by
  have hz : (0 : ℝ) < (z : ℝ) := by exact_mod_cast (by omega : 0 < z)
  have hlog : Int.log 2 (z : ℝ) = 23 :=
    intLog_eq _ hz 23 (by norm_num; exact_mod_cast h1) (by norm_num; exact_mod_cast h2)
  rw [rneAbs_mul_zpow _ hz]
  unfold rneAbs ulp32
  rw [hlog, sub_self, zpow_zero, div_one, mul_one, rhe_intCast]

/-- **(B2)** every natural number up to `2²⁴` is a binary32 number: `k as f32` and roundings of such values are exact -/
theorem rne32_natCast (k : Nat) (hk : k ≤ 2 ^ 24) : rne32 (k : ℝ) = k := by
  rcases Nat.eq_zero_or_pos k with h0 | hpos
  · subst h0; simp [rne32]
  rw [rne32_of_pos (by exact_mod_cast hpos)]
  rcases Nat.lt_or_ge k (2 ^ 24) with hlt | hge
  · -- e = ⌊log₂ k⌋ ≤ 23, k = (k·2^(23−e))·2^(e−23)
    have he1 : 2 ^ Nat.log 2 k ≤ k := Nat.pow_log_le_self 2 (by omega)
    have he2 : k < 2 ^ (Nat.log 2 k + 1) := Nat.lt_pow_succ_log_self (by norm_num) k
    have he : Nat.log 2 k ≤ 23 := by
      by_contra hcon
      have : 2 ^ 24 ≤ 2 ^ Nat.log 2 k := Nat.pow_le_pow_right (by norm_num) (by omega)
      omega
    obtain ⟨d, hd⟩ : ∃ d, Nat.log 2 k + d = 23 := ⟨23 - Nat.log 2 k, by omega⟩
    have hz1 : 8388608 ≤ ((k * 2 ^ d : Nat) : ℤ) := by
      have : 2 ^ Nat.log 2 k * 2 ^ d ≤ k * 2 ^ d := Nat.mul_le_mul_right _ he1
      rw [← Nat.pow_add, hd] at this
      exact_mod_cast this
    have hz2 : ((k * 2 ^ d : Nat) : ℤ) < 16777216 := by
      have : k * 2 ^ d < 2 ^ (Nat.log 2 k + 1) * 2 ^ d := Nat.mul_lt_mul_of_pos_right he2 (by positivity)
      rw [← Nat.pow_add, show Nat.log 2 k + 1 + d = 24 by omega] at this
      exact_mod_cast this
    have key := rneAbs_of_scaled ((k * 2 ^ d : Nat) : ℤ) (-(d : ℤ)) hz1 hz2
    have e : (((k * 2 ^ d : Nat) : ℤ) : ℝ) * (2 : ℝ) ^ (-(d : ℤ)) = (k : ℝ) := by
      push_cast
      rw [zpow_neg, zpow_natCast]
      field_simp
    rw [e] at key
    exact key
  · have : k = 2 ^ 24 := le_antisymm hk hge
    subst this
    have key := rneAbs_of_scaled 8388608 1 (by norm_num) (by norm_num)
    have e : ((8388608 : ℤ) : ℝ) * (2 : ℝ) ^ (1 : ℤ) = ((2 ^ 24 : Nat) : ℝ) := by norm_num
    rw [e] at key
    exact key

/-! ### values that are not representable: the rounded literal -/

/-- the rounding of `x` in binade `e` is the multiple `z·2^(e−23)` of the spacing that is closer than half a spacing -/
theorem rneAbs_eq_of_near (x : ℝ) (e z : ℤ) (h1 : (2 : ℝ) ^ e ≤ x) (h2 : x < (2 : ℝ) ^ (e + 1))
    (hz : |x - (z : ℝ) * (2 : ℝ) ^ (e - 23)| < (2 : ℝ) ^ (e - 23) / 2) : rneAbs x = (z : ℝ) * (2 : ℝ) ^ (e - 23) := by
  have hx : 0 < x := lt_of_lt_of_le (by positivity) h1
  have hq : (0 : ℝ) < (2 : ℝ) ^ (e - 23) := by positivity
  unfold rneAbs ulp32
  rw [intLog_eq x hx e h1 h2]
  congr 1
  norm_cast
  apply rhe_of_near
  have e1 : x / (2 : ℝ) ^ (e - 23) - (z : ℝ) = (x - (z : ℝ) * (2 : ℝ) ^ (e - 23)) / (2 : ℝ) ^ (e - 23) := by
    field_simp
  rw [e1, abs_div, abs_of_pos hq, div_lt_iff₀ hq]
  linarith

/-- **(C)** `0.999f32` (the correctly rounded literal) is `16760439 / 2²⁴` -/
theorem rne32_c999 : rne32 (999 / 1000) = c999 := by
  have h := rneAbs_eq_of_near (999 / 1000) (-1) 16760439 (by norm_num) (by norm_num)
    (by rw [abs_lt]; constructor <;> norm_num)
  rw [rne32_of_pos (by norm_num), h]; unfold c999; norm_num

/-- **(C)** `1.001f32` is `8396997 / 2²³` -/
theorem rne32_c1001 : rne32 (1001 / 1000) = c1001 := by
  have h := rneAbs_eq_of_near (1001 / 1000) 0 8396997 (by norm_num) (by norm_num)
    (by rw [abs_lt]; constructor <;> norm_num)
  rw [rne32_of_pos (by norm_num), h]; unfold c1001; norm_num

/-- `core::f32::consts::LOG10_2` as a real number (bit pattern `0x3E9A209B`) -/
noncomputable def log10_2_f32 : ℝ := 10100891 / 33554432

/-- **(C)** the rounded constant is on the safe side: `log₁₀ 2 ≤ LOG10_2` (through `2^13301 ≤ 10^4004`) -/
theorem logb_10_2_le : Real.logb 10 2 ≤ log10_2_f32 := by
  have hnat : (2 : ℕ) ^ 13301 ≤ 10 ^ 4004 := by decide +kernel
  have hreal : (2 : ℝ) ^ (13301 : ℕ) ≤ (10 : ℝ) ^ (4004 : ℕ) := by exact_mod_cast hnat
  have hlog := Real.log_le_log (by positivity) hreal
  rw [Real.log_pow, Real.log_pow] at hlog
  have h10 : (0 : ℝ) < Real.log 10 := Real.log_pos (by norm_num)
  have : Real.logb 10 2 ≤ 4004 / 13301 := by
    unfold Real.logb
    rw [div_le_div_iff₀ h10 (by norm_num)]
    push_cast at hlog
    linarith
  unfold log10_2_f32
  linarith [show (4004 : ℝ) / 13301 ≤ 10100891 / 33554432 by norm_num]

/-! ### the exponent range of binary32 is not left -/

/-- for `2⁻¹²⁶ ≤ x ≤ 2¹²⁷` the result is a NORMAL finite binary32 number (no underflow to subnormals, no overflow), so
    `rne32` with its unbounded exponent is the IEEE operation there -/
theorem rne32_in_normal_range (x : ℝ) (h1 : (2 : ℝ) ^ (-126 : ℤ) ≤ x) (h2 : x ≤ (2 : ℝ) ^ (127 : ℤ)) :
    (2 : ℝ) ^ (-126 : ℤ) ≤ rne32 x ∧ rne32 x ≤ (2 : ℝ) ^ (127 : ℤ) := by
  have hx : 0 < x := lt_of_lt_of_le (by positivity) h1
  have a := rneAbs_of_scaled 8388608 (-126 - 23) (by norm_num) (by norm_num)
  have b := rneAbs_of_scaled 8388608 (127 - 23) (by norm_num) (by norm_num)
  rw [Int.cast_ofNat, ← two_zpow_split] at a b
  rw [rne32_of_pos hx]
  constructor
  · rw [← a]; exact rneAbs_mono _ _ (by positivity) h1
  · rw [← b]; exact rneAbs_mono _ _ hx h2

/-! ### (G): the grid fact used by `ub_wide` -/

/-- `f32::next_up` of a positive binary32 number -/
noncomputable def nextUp32 (x : ℝ) : ℝ := x + ulp32 x

/-- a rounded value is at most half a spacing away, and `next_up` adds a whole spacing of the result's binade -/
theorem le_nextUp32_rneAbs (y : ℝ) (hy : 0 < y) : y + ulp32 y / 2 ≤ nextUp32 (rneAbs y) := by
  have herr := (abs_le.mp (rneAbs_abs_err y)).1
  have hm : ulp32 y ≤ ulp32 (rneAbs y) := zpow_le_ulp32 _ (rneAbs_pos y hy) _ (rneAbs_binade y hy).1
  unfold nextUp32
  linarith

theorem intLog_16_32 (x : ℝ) (h1 : 16 ≤ x) (h2 : x < 32) : Int.log 2 x = 4 :=
  intLog_eq x (by linarith) 4 (by norm_num; linarith) (by norm_num; linarith)

theorem ulp32_16_32 (x : ℝ) (h1 : 16 ≤ x) (h2 : x < 32) : ulp32 x = (2 : ℝ) ^ (-19 : ℤ) := by
  unfold ulp32
  rw [intLog_16_32 x h1 h2]
  norm_num

/-- the binary32 numbers of `[16, 32)` are the `z·2⁻¹⁹` with `2²³ ≤ z < 2²⁴` -/
theorem grid_16_32 (z : ℤ) (h1 : 8388608 ≤ z) (h2 : z < 16777216) :
    (16 : ℝ) ≤ (z : ℝ) * (2 : ℝ) ^ (-19 : ℤ) ∧ (z : ℝ) * (2 : ℝ) ^ (-19 : ℤ) < 32 := by
  have hz1 : (8388608 : ℝ) ≤ (z : ℝ) := by exact_mod_cast h1
  have hz2 : (z : ℝ) < 16777216 := by exact_mod_cast h2
  rw [show (2 : ℝ) ^ (-19 : ℤ) = 1 / 524288 by norm_num]
  constructor <;> linarith

/-- `est = z·2⁻¹⁹ ∈ [16, 32)` a binary32 number, `s` a shift count.  Below 32 the sum `est + s` is on the same grid, hence
    exact; from 32 on the spacing is at least `2⁻¹⁸`. -/
theorem grid_add (z : ℤ) (s : Nat) (h1 : 8388608 ≤ z) (h2 : z < 16777216) :
    (z : ℝ) * (2 : ℝ) ^ (-19 : ℤ) + s < 32 ∧
      rneAbs ((z : ℝ) * (2 : ℝ) ^ (-19 : ℤ) + s) = (z : ℝ) * (2 : ℝ) ^ (-19 : ℤ) + s ∨
    (2 : ℝ) ^ (-18 : ℤ) ≤ ulp32 ((z : ℝ) * (2 : ℝ) ^ (-19 : ℤ) + s) := by
  obtain ⟨he1, -⟩ := grid_16_32 z h1 h2
  have e : ((z + (s : ℤ) * 524288 : ℤ) : ℝ) * (2 : ℝ) ^ (-19 : ℤ) = (z : ℝ) * (2 : ℝ) ^ (-19 : ℤ) + s := by
    push_cast; norm_num; ring
  have hs0 : (0 : ℝ) ≤ (s : ℝ) := Nat.cast_nonneg s
  set est := (z : ℝ) * (2 : ℝ) ^ (-19 : ℤ)
  rcases lt_or_ge (est + s) 32 with hlt | hge
  · refine Or.inl ⟨hlt, ?_⟩
    rw [← e] at hlt ⊢
    apply rneAbs_of_scaled
    · have := Int.natCast_nonneg s
      omega
    · rw [show (2 : ℝ) ^ (-19 : ℤ) = 1 / 524288 by norm_num] at hlt
      have : ((z + (s : ℤ) * 524288 : ℤ) : ℝ) < 16777216 := by linarith
      exact_mod_cast this
  · have h := zpow_le_ulp32 (est + s) (by linarith) 5 (by norm_num; linarith)
    rw [show (5 : ℤ) - 23 = -18 by norm_num] at h
    exact Or.inr h

/-- **(G)** `est` a binary32 number in `[16, 32)` (the value of `log2f` on a 24-bit operand lies in `(23, 24]`), `s` a
    shift count: `next_up(fl(est + s)) ≥ next_up(est) + s`.  Below 32 the sum is exact and on the same grid; from 32 on
    the spacing at least doubles, so the half spacing lost by the rounding is returned by `next_up`. -/
theorem grid_fact (z : ℤ) (s : Nat) (h1 : 8388608 ≤ z) (h2 : z < 16777216) :
    nextUp32 ((z : ℝ) * (2 : ℝ) ^ (-19 : ℤ)) + s ≤ nextUp32 (rne32 ((z : ℝ) * (2 : ℝ) ^ (-19 : ℤ) + s)) := by
  obtain ⟨he1, he2⟩ := grid_16_32 z h1 h2
  have hs0 : (0 : ℝ) ≤ (s : ℝ) := Nat.cast_nonneg s
  have hG := grid_add z s h1 h2
  set est := (z : ℝ) * (2 : ℝ) ^ (-19 : ℤ)
  have hy : 0 < est + s := by linarith
  have hl : nextUp32 est = est + (2 : ℝ) ^ (-19 : ℤ) := by unfold nextUp32; rw [ulp32_16_32 _ he1 he2]
  rw [rne32_of_pos hy, hl]
  rcases hG with ⟨hlt, hex⟩ | hu
  · rw [hex]
    unfold nextUp32
    rw [ulp32_16_32 _ (by linarith) hlt]
    linarith
  · have := le_nextUp32_rneAbs _ hy
    rw [show (2 : ℝ) ^ (-18 : ℤ) = 2 * (2 : ℝ) ^ (-19 : ℤ) by norm_num] at hu
    linarith

end Dashu.Model.Float
