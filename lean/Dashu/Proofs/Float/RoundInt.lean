import Dashu.Proofs.Float.ModeSpec
import Dashu.Model.Float.Spec
import Mathlib.Data.Rat.Floor
import Mathlib.Tactic.FieldSimp
/-
  `roundInt` (Model/Float/Spec.lean: the definition of the six modes as a function on `Rat`) against the relational
  specification: as a plain case table over `⌊x⌋`, and `roundInt m (N / D)` is the integer `ModeSpec m N D` names.
  With `modeSpec_unique` this characterises `roundInt`: the case table is read here only, and the window form of the
  ratio theorems (`Proofs/Ratio/FBigRound`, `FBigWindow`: `roundInt_neg`, `roundInt_pos_sound`) rests on `roundInt_modeSpec`.
-/
namespace Dashu.Model.Float
open Dashu.Props.GenRound

theorem floorQ_eq (x : ℚ) : floorQ x = ⌊x⌋ := by
  unfold floorQ; rw [Rat.floor_def']

/-- `roundInt` in terms of floor, as a plain case table -/
theorem roundInt_eq (m : Mode) (x : ℚ) :
    roundInt m x =
      if (⌊x⌋ : ℚ) = x then ⌊x⌋ else
      match m with
      | .down => ⌊x⌋
      | .up => ⌊x⌋ + 1
      | .zero => if x < 0 then ⌊x⌋ + 1 else ⌊x⌋
      | .away => if x < 0 then ⌊x⌋ else ⌊x⌋ + 1
      | .halfAway =>
        if 2 * (x - ⌊x⌋) < 1 then ⌊x⌋ else if 2 * (x - ⌊x⌋) = 1 then (if x < 0 then ⌊x⌋ else ⌊x⌋ + 1)
        else ⌊x⌋ + 1
      | .halfEven =>
        if 2 * (x - ⌊x⌋) < 1 then ⌊x⌋ else if 2 * (x - ⌊x⌋) = 1 then (if ⌊x⌋ % 2 = 0 then ⌊x⌋ else ⌊x⌋ + 1)
        else ⌊x⌋ + 1 := by
  unfold roundInt cmpQ
  simp only [floorQ_eq]
  split
  · rfl
  · cases m <;> simp only <;> (try rfl)
    all_goals
      by_cases h1 : 2 * (x - (⌊x⌋ : ℚ)) < 1
      · simp only [if_pos h1]
      · by_cases h2 : 2 * (x - (⌊x⌋ : ℚ)) = 1
        · simp only [if_neg h1, if_pos h2]
        · simp only [if_neg h1, if_neg h2]

theorem scale_cmp (x f : ℚ) (D N F : Int) (hD : 0 < D) (hx : x * (D : ℚ) = (N : ℚ)) (hF : f * (D : ℚ) = (F : ℚ)) :
    (2 * (x - f) < 1 ↔ 2 * (N - F) < D) ∧ (2 * (x - f) = 1 ↔ 2 * (N - F) = D) := by
  have hDq : (0 : ℚ) < (D : ℚ) := by exact_mod_cast hD
  have key : 2 * (x - f) * (D : ℚ) = ((2 * (N - F) : Int) : ℚ) := by
    have : 2 * (x - f) * (D : ℚ) = 2 * (x * D) - 2 * (f * D) := by ring
    rw [this, hx, hF]; push_cast; ring
  constructor
  · rw [← mul_lt_mul_iff_of_pos_right hDq, key, one_mul]
    exact_mod_cast Iff.rfl
  · constructor
    · intro h
      have : 2 * (x - f) * (D : ℚ) = 1 * (D : ℚ) := by rw [h]
      rw [key, one_mul] at this
      exact_mod_cast this
    · intro h
      have h2 : ((2 * (N - F) : Int) : ℚ) = (D : ℚ) := by exact_mod_cast h
      rw [← key] at h2
      have : 2 * (x - f) * (D : ℚ) = 1 * (D : ℚ) := by rw [h2, one_mul]
      exact mul_right_cancel₀ (ne_of_gt hDq) this

/-- **`roundInt` meets the relational specification of every mode**: for integers `N`, `D > 0` the
    integer `roundInt m (N / D)` is the neighbour of `N / D` that `ModeSpec m N D` names -/
theorem roundInt_modeSpec (m : Mode) (N D : Int) (hD : 0 < D) :
    ModeSpec m N D (roundInt m ((N : ℚ) / (D : ℚ))) := by
  have hDq : (0 : ℚ) < (D : ℚ) := by exact_mod_cast hD
  generalize hx : (N : ℚ) / (D : ℚ) = x
  have hxD : x * (D : ℚ) = (N : ℚ) := by rw [← hx]; field_simp
  -- floor facts, as integers
  have h1 : (⌊x⌋ : ℚ) * (D : ℚ) ≤ (N : ℚ) := by
    rw [← hxD]; exact mul_le_mul_of_nonneg_right (Int.floor_le x) (le_of_lt hDq)
  have h2 : (N : ℚ) < ((⌊x⌋ : ℚ) + 1) * (D : ℚ) := by
    rw [← hxD]; exact mul_lt_mul_of_pos_right (Int.lt_floor_add_one x) hDq
  have i1 : ⌊x⌋ * D ≤ N := by exact_mod_cast h1
  have i2 : N < (⌊x⌋ + 1) * D := by exact_mod_cast h2
  have hint : ((⌊x⌋ : ℚ) = x) ↔ ⌊x⌋ * D = N := by
    constructor
    · intro h
      have : (⌊x⌋ : ℚ) * (D : ℚ) = (N : ℚ) := by rw [h, hxD]
      exact_mod_cast this
    · intro h
      have : (⌊x⌋ : ℚ) * (D : ℚ) = x * (D : ℚ) := by rw [hxD]; exact_mod_cast h
      exact mul_right_cancel₀ (ne_of_gt hDq) this
  have hneg : x < 0 ↔ N < 0 := by
    constructor
    · intro h
      have : x * (D : ℚ) < 0 := mul_neg_of_neg_of_pos h hDq
      rw [hxD] at this; exact_mod_cast this
    · intro h
      by_contra hc; rw [not_lt] at hc
      have : 0 ≤ x * (D : ℚ) := mul_nonneg hc (le_of_lt hDq)
      rw [hxD] at this
      have : (0 : Int) ≤ N := by exact_mod_cast this
      omega
  obtain ⟨hlt, heq⟩ := scale_cmp x (⌊x⌋ : ℚ) D N (⌊x⌋ * D) hD hxD (by push_cast; ring)
  -- every test `roundInt` makes on `x` is a test on the integers `N`, `F = ⌊x⌋·D`, `D`
  rw [roundInt_eq]
  simp only [hint, hneg, hlt, heq]
  generalize ⌊x⌋ = f at *
  rw [add_mul, one_mul] at i2
  generalize hF : f * D = F at *
  -- and with `F ≤ N < F + D` each mode's condition on the chosen neighbour is linear arithmetic
  have habs : ∀ a : Int, (|a| ≤ D ↔ -D ≤ a ∧ a ≤ D) ∧ (|a| = D ↔ a = D ∨ a = -D) :=
    fun a => ⟨abs_le, abs_eq (le_of_lt hD)⟩
  cases m <;>
    simp only [ModeSpec, IsTowardZero, IsAwayFromZero, IsNearestEven, IsNearestAway, IsFloor, IsCeil, habs, abs_lt_abs_iff,
      ite_mul, add_mul, sub_mul, one_mul, hF]
  case zero => split <;> omega
  case away => split <;> omega
  all_goals omega

end Dashu.Model.Float
