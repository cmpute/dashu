import Dashu.Model.Float.RoundOps
/-
  Lemmas about definitions of `Model/Float` that need core Lean only, so that the core-only proof files
  (`Proofs/Trans/Series.lean`) share them with the files that build on Mathlib.
-/
namespace Dashu.Model.Float

/-! ### `andThenFlag`: the later flag, unless it is `Exact` -/

theorem andThenFlag_none_right (f : Option Rounding) : andThenFlag f none = f := rfl

theorem andThenFlag_none_left (f : Option Rounding) : andThenFlag none f = f := by cases f <;> rfl

theorem andThenFlag_eq_none (a b : Option Rounding) (h : andThenFlag a b = none) : a = none ∧ b = none := by
  cases b with
  | none => exact ⟨h, rfl⟩
  | some e => cases h

/-! ### `FBig::with_precision` -/

theorem fWithPrecision_prec (B : Nat) (m : Mode) (c : Coarse) (x : FBigM) (p : Nat) :
    (fWithPrecision B m c x p).1.prec = p := by
  unfold fWithPrecision; split <;> rfl

end Dashu.Model.Float
