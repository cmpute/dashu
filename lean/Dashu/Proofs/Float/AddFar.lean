import Dashu.Proofs.Float.Arith
import Dashu.Proofs.Float.RoundOps
/-
  C03: the far-apart branch of `Context::add` / `sub` (`repr_add_large_small`, first alignment
  branch): the small operand is replaced by a sticky stand-in `±1`; the result is nevertheless the
  rounding of the EXACT sum at the same position, hence honours the contract.
-/
namespace Dashu.Model.Float

theorem sgn_cases (v : Int) (hv : v ≠ 0) : (sgn v = 1 ∧ 0 < v) ∨ (sgn v = -1 ∧ v < 0) := by
  unfold sgn
  rcases lt_or_gt_of_ne hv with h | h
  · right; simp [h]
  · left
    have h1 : ¬ v < 0 := by omega
    simp [h1, hv, h]

theorem sgn_eq_sign (v : Int) : sgn v = Int.sign v := by
  unfold sgn
  rcases lt_trichotomy v 0 with h | h | h
  · rw [if_pos h, Int.sign_eq_neg_one_of_neg h]
  · rw [h]; rfl
  · rw [if_neg (by omega), if_neg (by omega), Int.sign_eq_one_of_pos h]

theorem sgn_mul_sign (rs r : Int) (hrs : rs = 1 ∨ rs = -1) : sgn (rs * r) = rs * sgn r := by
  rw [sgn_eq_sign, sgn_eq_sign, Int.sign_mul]
  rcases hrs with h | h <;> rw [h] <;> rfl

theorem signOf_sgn (v : Int) : signOf (sgn v) = signOf v := by
  unfold signOf sgn
  split_ifs <;> first | rfl | omega

theorem abs_sign_mul (rs r : Int) (hrs : rs = 1 ∨ rs = -1) : |rs * r| = |r| := by
  rcases hrs with h | h <;> subst h <;> simp

/-- an addition in the sense of `is_sub = false`: the large operand and the signed small one have the same sign -/
theorem same_sign_of_not_sub (l r rs : Int) (hrs : rs = 1 ∨ rs = -1) (hl : l ≠ 0)
    (h : decide (sgn l ≠ rs * sgn r) = false) : (0 < l ∧ 0 ≤ rs * r) ∨ (l < 0 ∧ rs * r ≤ 0) := by
  have hsame : sgn l = sgn (rs * r) := by rw [sgn_mul_sign rs r hrs]; simpa using h
  unfold sgn at hsame
  split_ifs at hsame <;> omega

/-- `repr_round_sum` on the far-apart stand-in: the significand is padded to `rnd_precision` digits and
    rounded with the two-digit stand-in `±1/B²` -/
theorem reprRoundSum_far (B : Nat) (hB : 2 ≤ B) (m : Mode) (c : Coarse) (p : Nat) (hp : 1 ≤ p) (l e σ : Int)
    (isSub : Bool) (rndP : Nat) (hrnd : p + (if isSub = true then 1 else 0) = rndP) (hσ : σ = 1 ∨ σ = -1)
    (hld : digitsI B l ≤ rndP) :
    reprRoundSum B m c p l e (σ, if digitsI B l ≥ rndP then 2 else (rndP - digitsI B l) + 2) isSub =
      (FRepr.new B
          (l * ((B ^ (rndP - digitsI B l) : Nat) : Int) +
            rInt (roundFract B m c (l * ((B ^ (rndP - digitsI B l) : Nat) : Int)) σ 2))
          (e - ((rndP - digitsI B l : Nat) : Int)),
        some (roundFract B m c (l * ((B ^ (rndP - digitsI B l) : Nat) : Int)) σ 2)) := by
  have hp0 : p ≠ 0 := by omega
  have hσ0 : σ ≠ 0 := by omega
  unfold reprRoundSum
  rw [if_neg hp0, hrnd]
  by_cases h1 : digitsI B l = rndP
  · simp only [h1, if_true, hσ0, if_false, ge_iff_le, le_refl, Nat.sub_self, pow_zero, Nat.cast_one, mul_one,
      Nat.cast_zero, sub_zero]
  · have hlt : ¬ digitsI B l > rndP := by omega
    have hge : ¬ digitsI B l ≥ rndP := by omega
    have hmin : min (rndP - digitsI B l + 2) (rndP - digitsI B l) = rndP - digitsI B l := by omega
    have hsub : rndP - digitsI B l + 2 - (rndP - digitsI B l) = 2 := by omega
    have hsplit : splitDigits B σ 2 = (0, σ) :=
      splitDigits_small B hB σ 2 (by have := four_le_sq B hB; rw [abs_lt]; omega)
    simp only [h1, hlt, hge, if_false, ne_eq, hσ0, not_false_eq_true, if_true, shlDigits_eq, hmin, hsub, hsplit,
      add_zero]

/-- a low part with the sign of `hi` only adds to the magnitude -/
theorem abs_same_sign_bound (hi lo D : Int) (hD : 0 < D) (hsg : (0 ≤ hi ∧ 0 ≤ lo) ∨ (hi ≤ 0 ∧ lo ≤ 0)) :
    |hi| * D ≤ |hi * D + lo| := by
  rcases hsg with ⟨h, hl⟩ | ⟨h, hl⟩
  · have h2 : 0 ≤ hi * D := Int.mul_nonneg h hD.le
    rw [abs_of_nonneg h, abs_of_nonneg (by omega)]; omega
  · have h2 : hi * D ≤ 0 := Int.mul_nonpos_of_nonpos_of_nonneg h hD.le
    rw [abs_of_nonpos h, abs_of_nonpos (by omega), Int.neg_mul]; omega

/-- one guard digit: with `|hi| ≥ B^p` and `|lo| < D` the value `hi·D + lo` still has `p` digits above `D`,
    whatever the sign of `lo` (`B^p·D − D ≥ B^(p-1)·D` because `B ≥ 2`) -/
theorem guard_bound (B : Nat) (hB : 2 ≤ B) (p : Nat) (hp : 1 ≤ p) (hi lo D : Int) (hD : 0 < D) (hlo : |lo| < D)
    (hhi : ((B ^ p : Nat) : Int) ≤ |hi|) : D * ((B ^ (p - 1) : Nat) : Int) ≤ |hi * D + lo| := by
  have h1 : |hi * D| - |lo| ≤ |hi * D + lo| := by
    have := abs_sub_abs_le_abs_sub (hi * D) (-lo)
    rwa [abs_neg, sub_neg_eq_add] at this
  rw [abs_mul, abs_of_pos hD] at h1
  have hpm := natpow_pos B (by omega) (p - 1)
  have hpp : ((B ^ p : Nat) : Int) = ((B ^ (p - 1) : Nat) : Int) * (B : Int) := by
    rw [← Nat.cast_mul, ← Nat.pow_succ, Nat.succ_eq_add_one, Nat.sub_add_cancel hp]
  -- `2·B^(p-1)·D ≤ B^p·D ≤ |hi|·D` and `D ≤ B^(p-1)·D`
  have h6 : ((B ^ (p - 1) : Nat) : Int) * 2 * D ≤ |hi| * D :=
    Int.mul_le_mul_of_nonneg_right
      (le_trans (Int.mul_le_mul_of_nonneg_left (by exact_mod_cast hB) hpm.le) (hpp ▸ hhi)) hD.le
  have h9 : 1 * D ≤ ((B ^ (p - 1) : Nat) : Int) * D := Int.mul_le_mul_of_nonneg_right (by omega) hD.le
  have e1 : ((B ^ (p - 1) : Nat) : Int) * 2 * D = 2 * (D * ((B ^ (p - 1) : Nat) : Int)) := by ring
  have e2 : ((B ^ (p - 1) : Nat) : Int) * D = D * ((B ^ (p - 1) : Nat) : Int) := by ring
  omega

/-- what `repr_round_sum` rounds keeps `p` digits above the rounding position `D`: a significand `hi` of
    `rnd_precision` digits and `|lo| < D`, where a subtraction has one guard digit and the low part of an
    addition has the sign of `hi` -/
theorem ulp_bound (B : Nat) (hB : 2 ≤ B) (p : Nat) (hp : 1 ≤ p) (isSub : Bool) (rndP : Nat)
    (hrnd : p + (if isSub = true then 1 else 0) = rndP) (hi lo D : Int) (hD : 0 < D) (hlo : |lo| < D)
    (hhi : ((B ^ (rndP - 1) : Nat) : Int) ≤ |hi|)
    (hsg : isSub = false → (0 ≤ hi ∧ 0 ≤ lo) ∨ (hi ≤ 0 ∧ lo ≤ 0)) :
    D * ((B ^ (p - 1) : Nat) : Int) ≤ |hi * D + lo| := by
  subst hrnd
  cases isSub
  · calc D * ((B ^ (p - 1) : Nat) : Int) = ((B ^ (p - 1) : Nat) : Int) * D := mul_comm _ _
      _ ≤ |hi| * D := Int.mul_le_mul_of_nonneg_right hhi hD.le
      _ ≤ |hi * D + lo| := abs_same_sign_bound hi lo D hD (hsg rfl)
  · exact guard_bound B hB p hp hi lo D hD hlo hhi

/-- **the far-apart branch of `repr_add_large_small`** (small operand more than `digits_ub + 1` digits
    below the large one and below the rounding position): for every large operand of at most `p` digits
    and every small operand, the result computed from the sticky stand-in `±1` is the rounding of the
    exact sum and honours the contract.  (`dub` is any sound over-estimate of the digit count.) -/
theorem reprAddLargeSmall_far_contract (B : Nat) (hB : 2 ≤ B) (m : Mode) (c : Coarse) (hc : CoarseSound c)
    (dub : Int → Nat) (hdub : DubSound B dub) (p : Nat) (hp : 1 ≤ p) (lhs rhs : FRepr) (rs : Int)
    (hrs : rs = 1 ∨ rs = -1) (hgt : rhs.exp < lhs.exp) (hl0 : lhs.signif ≠ 0) (hr0 : rhs.signif ≠ 0)
    (hld : lhs.digits B ≤ p)
    (hfar : dub rhs.signif + 1 < (lhs.exp - rhs.exp).toNat ∧
      dub rhs.signif + 1 + (p + if decide (sgn lhs.signif ≠ rs * sgn rhs.signif) = true then 1 else 0) <
        lhs.digits B + (lhs.exp - rhs.exp).toNat) :
    Contract B m p (lhs.toRat B + (rs : ℚ) * rhs.toRat B)
      ((reprAddLargeSmall B m c dub p lhs rhs rs).1.toRat B) (reprAddLargeSmall B m c dub p lhs rhs rs).2 := by
  have hB0 : 0 < B := by omega
  have hp0 : p ≠ 0 := by omega
  have hsame := same_sign_of_not_sub lhs.signif rhs.signif rs hrs hl0
  unfold reprAddLargeSmall
  simp only [hp0, ne_eq, not_false_eq_true, true_and, hfar, and_self, if_true]
  generalize decide (sgn lhs.signif ≠ rs * sgn rhs.signif) = isSub at *
  unfold FRepr.digits at *
  generalize hrnd : p + (if isSub = true then 1 else 0) = rndP at *
  -- the stand-in is the sign of the small operand `lo`
  rw [← sgn_mul_sign rs rhs.signif hrs]
  have hlo0 : rs * rhs.signif ≠ 0 := mul_ne_zero (by omega) hr0
  have hrabs : |rs * rhs.signif| < ((B ^ dub rhs.signif : Nat) : Int) := by
    rw [abs_sign_mul rs _ hrs]
    exact abs_lt_pow_of_digits B hB _ _ (hdub _)
  rw [toRat_add_aligned B hB0 lhs rhs rs _ (Int.toNat_of_nonneg (by omega))]
  generalize rs * rhs.signif = lo at *
  have hσ := (sgn_cases lo hlo0).imp And.left And.left
  rw [reprRoundSum_far B hB m c p hp lhs.signif lhs.exp _ isSub rndP hrnd hσ (by omega)]
  generalize hE : (lhs.exp - rhs.exp).toNat = E at *
  have hEv : (E : Int) = lhs.exp - rhs.exp := by rw [← hE]; exact Int.toNat_of_nonneg (by omega)
  obtain ⟨hdpos, hllo, _⟩ := digitsI_spec B hB lhs.signif hl0
  generalize digitsI B lhs.signif = ld at *
  -- the padded significand `H` has `rndP` digits; `K = E - sh` digits of the exact sum lie below it
  generalize hsh : rndP - ld = sh at *
  have hshE : sh + (E - sh) = E := by omega
  have hK : dub rhs.signif + 2 ≤ E - sh := by omega
  generalize E - sh = K at *
  have hBsh := natpow_pos B hB0 sh
  have hD := natpow_pos B hB0 K
  have hHabs : ((B ^ (rndP - 1) : Nat) : Int) ≤ |lhs.signif * ((B ^ sh : Nat) : Int)| := by
    have : rndP - 1 = ld - 1 + sh := by omega
    rw [this, natpow_add, abs_mul, abs_of_pos hBsh]
    exact Int.mul_le_mul_of_nonneg_right hllo hBsh.le
  -- `4·|lo| < B^dub · B² ≤ B^K`
  have h4lo : 4 * |lo| < ((B ^ K : Nat) : Int) := by
    have h1 : ((B ^ dub rhs.signif : Nat) : Int) * ((B ^ 2 : Nat) : Int) ≤ ((B ^ K : Nat) : Int) := by
      rw [← natpow_add]; exact_mod_cast Nat.pow_le_pow_right hB0 hK
    have h2 := Int.mul_le_mul_of_nonneg_left (four_le_sq B hB) (natpow_pos B hB0 (dub rhs.signif)).le
    omega
  have hlolt : |lo| < ((B ^ K : Nat) : Int) := by
    have := abs_nonneg lo
    omega
  -- both low parts are non-zero, of the same sign and below one half: the adjustment is the same
  have hadj : roundFract B m c (lhs.signif * ((B ^ sh : Nat) : Int)) (sgn lo) 2 =
      roundFract B m c (lhs.signif * ((B ^ sh : Nat) : Int)) lo K := by
    have h1 : 2 * |sgn lo| < ((B ^ 2 : Nat) : Int) := by
      have h1 : |sgn lo| = 1 := by rcases hσ with h | h <;> rw [h] <;> simp
      have := four_le_sq B hB
      omega
    rw [roundFract_eq B m c hc _ _ 2 (by omega), roundFract_eq B m c hc _ lo K hlo0, Int.compare_eq_lt.mpr h1,
      Int.compare_eq_lt.mpr (by omega : 2 * |lo| < ((B ^ K : Nat) : Int)), signOf_sgn]
  rw [hadj]
  have hulp := ulp_bound B hB p hp isSub rndP hrnd _ lo _ hD hlolt hHabs fun h => (hsame h).imp
    (fun a => ⟨(Int.mul_pos a.1 hBsh).le, a.2⟩) (fun a => ⟨(Int.mul_neg_of_neg_of_pos a.1 hBsh).le, a.2⟩)
  have key := round_at_contract B hB m c hc p hp _ lo K rhs.exp hlo0 hlolt hulp
  have hexp : lhs.exp - (sh : Int) = rhs.exp + (K : Int) := by omega
  have hEsplit : lhs.signif * ((B ^ E : Nat) : Int) = lhs.signif * ((B ^ sh : Nat) : Int) * ((B ^ K : Nat) : Int) := by
    rw [mul_assoc, ← natpow_add, hshE]
  rw [hexp, hEsplit]
  exact key

end Dashu.Model.Float
