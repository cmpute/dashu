import Dashu.Proofs.Float.Log2Large
/-
  Non-vacuity of the hypothesis (LIBM) = `Log2fSound`: the CORRECTLY ROUNDED logarithm `x ↦ rne32 (log₂ x)` satisfies it
  (`Props/C10F32.libm_hypothesis_satisfiable`; glibc's `log2f` is not claimed to be correctly rounded, the hypothesis only
  asks for an error of at most one ulp).  Here the two facts its `grid` clauses need: `2^a ≤ m ≤ 2^b` puts `log₂ m` in
  `[a, b]`, and a value of `[16, 24]` rounds onto the grid `2⁻¹⁹·ℤ`.
-/
namespace Dashu.Model.Float

/-- a value of `[16, 32)` rounds onto the grid `2⁻¹⁹·ℤ` with a 24-bit multiplier, as long as it is at most 24 -/
theorem rne32_grid_16_24 (t : ℝ) (h1 : 16 ≤ t) (h2 : t ≤ 24) :
    ∃ z : ℤ, 8388608 ≤ z ∧ z < 16777216 ∧ rne32 t = (z : ℝ) * (2 : ℝ) ^ (-19 : ℤ) := by
  have ht : 0 < t := by linarith
  have hu := ulp32_16_32 t h1 (by linarith)
  refine ⟨rhe (t / ulp32 t), ?_, ?_, ?_⟩
  · have := (rhe_scaled_range t ht).1
    exact_mod_cast this
  · have hp19 : (2 : ℝ) ^ (-19 : ℤ) = 1 / 524288 := by norm_num
    have hle : t / ulp32 t ≤ ((12582912 : ℤ) : ℝ) := by
      rw [hu, hp19]; push_cast; rw [div_le_iff₀ (by norm_num)]; linarith
    have := rhe_mono hle
    rw [rhe_intCast] at this
    omega
  · rw [rne32_of_pos ht]; unfold rneAbs; rw [hu]

theorem logb_two_nat_bounds (m a b : Nat) (h1 : 2 ^ a ≤ m) (h2 : m ≤ 2 ^ b) :
    (a : ℝ) ≤ Real.logb 2 m ∧ Real.logb 2 m ≤ b := by
  have hm : (0 : ℝ) < (m : ℝ) := by exact_mod_cast lt_of_lt_of_le (by positivity) h1
  constructor
  · have := Real.logb_le_logb_of_le (b := 2) (by norm_num) (by positivity) (show ((2 ^ a : Nat) : ℝ) ≤ m by exact_mod_cast h1)
    rwa [logb_two_pow] at this
  · have := Real.logb_le_logb_of_le (b := 2) (by norm_num) hm (show (m : ℝ) ≤ ((2 ^ b : Nat) : ℝ) by exact_mod_cast h2)
    rwa [logb_two_pow] at this

end Dashu.Model.Float
