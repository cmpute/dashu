import Dashu.Proofs.Float.Sqrt
/-
  C03: the exactness FLAG of `Context::sqrt` as a structural statement about the code path —
  the flag is the one `sqrtRound` computes from `(rem, low)` (the closing `repr_round` never rounds because the
  root has at most `p` digits), hence `Exact` iff the integer remainder AND the digits discarded by the
  scaling are both zero.  (Before 92fc29e the code looked at the remainder only.)
-/
namespace Dashu.Model.Float

/-- the flag of the rounding step is `Exact` iff remainder and discarded low digits are both zero -/
theorem sqrtRound_flag_none_iff (B : Nat) (m : Mode) (sr : Nat → Nat × Nat) (S low : Int) (k : Nat) :
    (sqrtRound B m sr S low k).2 = none ↔ ((sr S.natAbs).2 = 0 ∧ low = 0) := by
  unfold sqrtRound
  by_cases h : (((sr S.natAbs).2 : Nat) : Int) = 0 ∧ low = 0
  · have h' : (sr S.natAbs).2 = 0 ∧ low = 0 := ⟨by exact_mod_cast h.1, h.2⟩
    simp [h, h']
  · have h' : ¬ ((sr S.natAbs).2 = 0 ∧ low = 0) := by
      intro hh; apply h; exact ⟨by exact_mod_cast hh.1, hh.2⟩
    simp [h, h']

/-- the flag `Context::sqrt` returns is the flag of its rounding step: the closing `repr_round` is the identity -/
theorem ctxSqrt_flag (B : Nat) (hB : 2 ≤ B) (m : Mode) (c : Coarse) (sr : Nat → Nat × Nat) (hsr : SqrtRemOk sr)
    (p : Nat) (hp : 1 ≤ p) (x : FRepr) (hs : 0 ≤ x.signif) :
    ∃ r, ctxSqrt B m c sr p x = .ok r ∧
      r.2 = (sqrtRound B m sr (sqrtScale B p x).1 (sqrtScale B p x).2.1 (sqrtScale B p x).2.2.1).2 :=
  ⟨_, ctxSqrt_eq B hB m c sr hsr p hp x hs, rfl⟩

end Dashu.Model.Float
