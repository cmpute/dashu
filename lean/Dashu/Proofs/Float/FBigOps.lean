import Dashu.Proofs.Float.Unobservable
/-
  `FBig::{floor, ceil, round, to_int}` and `Repr::to_int`: the returned integer is the neighbour of `s / D`
  (`D = B^(-exp)`) that the definition names.  Said once, of the general path (`splitRound_modeSpec` of RoundOps.lean, `roundGen_spec`);
  every method is its general path (Unobservable.lean), so `Props/C10` reads each specification off `roundGen_spec`.
-/
namespace Dashu.Model.Float
open Dashu.Props.GenRound

section
variable (B : Nat) (hB : 2 ≤ B) (c : Coarse) (hc : CoarseSound c) (dub : Int → Nat) (hdub : DubSound B dub)
  (x : FBigM) (he : x.repr.exp < 0)
include hB hc

/-- the general path of `floor` / `ceil` / `round`; each method IS this path (`fFloor_eq_gen`, …) -/
theorem roundGen_spec (m : Mode) :
    ∃ t : Int, (roundGen B m c x).repr.toRat B = (t : ℚ) ∧ ModeSpec m x.repr.signif (pointUnit B x.repr) t :=
  ⟨_, new_int_value B hB _, splitRound_modeSpec B hB m c hc _ _⟩

include hdub he in
/-- `FBig::to_int` in the mode of the type: the integer the mode names, flagged
    inexact with the adjustment relative to the integral part -/
theorem fToInt_spec (m : Mode) :
    ModeSpec m x.repr.signif (pointUnit B x.repr) (fToInt B m c dub x).1 ∧
    (fToInt B m c dub x).2 ≠ none := by
  rw [fToInt_eq_gen B hB dub hdub x m c he]
  exact ⟨splitRound_modeSpec B hB m c hc _ _, Option.some_ne_none _⟩

end

/-- `FBig::to_int` / `Repr::to_int` of a float without fractional digits: exact -/
theorem fToInt_int (B : Nat) (m : Mode) (c : Coarse) (dub : Int → Nat) (x : FBigM) (he : 0 ≤ x.repr.exp) :
    fToInt B m c dub x = (x.repr.signif * ((B ^ x.repr.exp.toNat : Nat) : Int), none) := by
  unfold fToInt
  try simp only [shlDigits_eq, shrDigits_eq]
  have : x.repr.exp ≥ 0 := he
  simp [this]

theorem int_value (B : Nat) (r : FRepr) (he : 0 ≤ r.exp) :
    r.toRat B = ((r.signif * ((B ^ r.exp.toNat : Nat) : Int) : Int) : ℚ) := by
  unfold FRepr.toRat
  have : bpowQ B r.exp = ((B ^ r.exp.toNat : Nat) : ℚ) := by
    rw [← bpowQ_nat, Int.toNat_of_nonneg he]
  rw [this]; push_cast; ring

/-- `Repr::to_int` (toward zero) -/
theorem reprToInt_spec (B : Nat) (hB : 2 ≤ B) (dub : Int → Nat) (hdub : DubSound B dub) (r : FRepr) (he : r.exp < 0) :
    IsTowardZero r.signif (pointUnit B r) (reprToInt B dub r).1 ∧ (reprToInt B dub r).2 = some .NoOp := by
  have hne : ¬ r.exp ≥ 0 := by omega
  unfold reprToInt
  simp only [hne, if_false, shrDigits_eq]
  split
  · next hsm =>
    have hlt := smaller_lt B hB dub hdub r (smaller_of dub r hsm)
    exact ⟨isTowardZero_of_rem _ 0 _ _ (by ring) hlt id id, rfl⟩
  · exact ⟨tdiv_isTowardZero _ _ (pointUnit_pos B hB r), rfl⟩

/-! ### `trunc(x) + fract(x) = x`, `split_at_point = (trunc, fract)` -/

theorem trunc_add_fract (B : Nat) (hB : 2 ≤ B) (dub : Int → Nat) (x : FBigM) :
    (fTrunc B dub x).repr.toRat B + (fFract B dub x).repr.toRat B = x.repr.toRat B := by
  have hB0 : 0 < B := by omega
  unfold fTrunc fFract splitAtPointInternal
  try simp only [shlDigits_eq, shrDigits_eq]
  by_cases he : x.repr.exp ≥ 0
  · simp [he, FBigM.zero, FRepr.toRat]
  · simp only [he, if_false]
    by_cases hsm : smallerThanOne dub x.repr = true
    · simp [hsm, FBigM.zero, FRepr.toRat]
    · simp only [hsm, if_false, Bool.false_eq_true, true_and, false_and]
      rw [splitDigits_eq, splitSpec, FRepr.new_value B hB0, FRepr.new_value B hB0]
      have hdm := Int.mul_tdiv_add_tmod x.repr.signif ((B ^ (-x.repr.exp).toNat : Nat) : Int)
      have hu : bpowQ B 0 = ((B ^ (-x.repr.exp).toNat : Nat) : ℚ) * bpowQ B x.repr.exp := by
        rw [← bpowQ_nat, ← bpowQ_add B hB0, Int.toNat_of_nonneg (by omega)]
        congr 1; ring
      unfold FRepr.toRat
      rw [hu]
      have : (x.repr.signif : ℚ) = ((B ^ (-x.repr.exp).toNat : Nat) : ℚ) *
          (Int.tdiv x.repr.signif ((B ^ (-x.repr.exp).toNat : Nat) : Int) : ℚ) +
          (Int.tmod x.repr.signif ((B ^ (-x.repr.exp).toNat : Nat) : Int) : ℚ) := by
        exact_mod_cast hdm.symm
      conv_rhs => rw [this]
      ring

end Dashu.Model.Float
