import Dashu.Proofs.Float.RoundSum
import Dashu.Proofs.Float.Sqrt
/-
  C03: the two splitting alignment branches of `repr_add_large_small` for operands that fit the
  precision, and the assembled theorem for `Context::add` / `sub`.
-/
namespace Dashu.Model.Float

/-- the split of `r` carries over to `rs·r` (`rs = ±1`) -/
theorem splitDigits_signed (B : Nat) (hB : 2 ≤ B) (r rs : Int) (K : Nat) (hrs : rs = 1 ∨ rs = -1) :
    rs * r = rs * (splitDigits B r K).1 * ((B ^ K : Nat) : Int) + rs * (splitDigits B r K).2 ∧
    |rs * (splitDigits B r K).2| < ((B ^ K : Nat) : Int) ∧
    (0 ≤ rs * r → 0 ≤ rs * (splitDigits B r K).2 ∧ 0 ≤ rs * (splitDigits B r K).1) ∧
    (rs * r ≤ 0 → rs * (splitDigits B r K).2 ≤ 0 ∧ rs * (splitDigits B r K).1 ≤ 0) := by
  obtain ⟨hsplit, hlt, hpos, hneg⟩ := splitDigits_spec B hB r K
  refine ⟨by rw [mul_assoc, ← mul_add, ← hsplit], by rwa [abs_sign_mul rs _ hrs], ?_⟩
  rcases hrs with h | h <;> subst h
  · simpa only [one_mul] using ⟨hpos, hneg⟩
  · constructor
    · intro h
      have := hneg (by omega)
      omega
    · intro h
      have := hpos (by omega)
      omega

/-- the common core of the two splitting branches: the large operand `Lp` padded to exactly `p`
    digits, the (signed) small operand `r = hi·B^K + lo` (fewer than `p+1` digits) split `K ≥ 1` digits
    from its end -/
theorem split_branch_contract (B : Nat) (hB : 2 ≤ B) (m : Mode) (c : Coarse) (hc : CoarseSound c)
    (p : Nat) (hp : 1 ≤ p) (Lp r hi lo e : Int) (K : Nat) (isSub : Bool)
    (hLlo : ((B ^ (p - 1) : Nat) : Int) ≤ |Lp|) (hr : |r| < ((B ^ p : Nat) : Int)) (hK : 1 ≤ K)
    (hsplit : r = hi * ((B ^ K : Nat) : Int) + lo) (hlt : |lo| < ((B ^ K : Nat) : Int))
    (hpos : 0 ≤ r → 0 ≤ lo ∧ 0 ≤ hi) (hneg : r ≤ 0 → lo ≤ 0 ∧ hi ≤ 0)
    (hsame : isSub = false → (0 < Lp ∧ 0 ≤ r) ∨ (Lp < 0 ∧ r ≤ 0)) :
    Contract B m p (((Lp * ((B ^ K : Nat) : Int) + r : Int) : ℚ) * bpowQ B (e - K))
      ((reprRoundSum B m c p (Lp + hi) e (lo, K) isSub).1.toRat B)
      (reprRoundSum B m c p (Lp + hi) e (lo, K) isSub).2 := by
  have hB0 : 0 < B := by omega
  have hDK := natpow_pos B hB0 K
  have hpm := natpow_pos B hB0 (p - 1)
  have hB2 : (2 : Int) ≤ (B : Int) := by exact_mod_cast hB
  have hpp : ((B ^ p : Nat) : Int) = ((B ^ (p - 1) : Nat) : Int) * (B : Int) := by
    rw [← Nat.cast_mul, ← Nat.pow_succ, Nat.succ_eq_add_one, Nat.sub_add_cancel hp]
  have hBK : (B : Int) ≤ ((B ^ K : Nat) : Int) := by
    exact_mod_cast Nat.le_self_pow (by omega) B
  -- |hi| < B^(p-1), since |hi|·B ≤ |hi|·B^K ≤ |r| < B^p
  have hhi : |hi| < ((B ^ (p - 1) : Nat) : Int) := by
    have h1 : |hi| * ((B ^ K : Nat) : Int) ≤ |r| := by
      rw [hsplit]
      exact abs_same_sign_bound hi lo _ hDK
        ((le_total 0 r).imp (fun h => ⟨(hpos h).2, (hpos h).1⟩) (fun h => ⟨(hneg h).2, (hneg h).1⟩))
    have h3 : |hi| * (B : Int) ≤ |hi| * ((B ^ K : Nat) : Int) :=
      Int.mul_le_mul_of_nonneg_left hBK (abs_nonneg _)
    have h4 : |hi| * (B : Int) < ((B ^ (p - 1) : Nat) : Int) * (B : Int) := by rw [← hpp]; omega
    exact lt_of_mul_lt_mul_right h4 (by omega)
  -- the aligned significand is non-zero and has the sign of Lp
  have hh := abs_lt.mp hhi
  have hssign : (0 < Lp → 0 < Lp + hi) ∧ (Lp < 0 → Lp + hi < 0) := by
    constructor
    · intro h; rw [abs_of_pos h] at hLlo; omega
    · intro h; rw [abs_of_neg h] at hLlo; omega
  have hs0 : Lp + hi ≠ 0 := by
    rcases lt_trichotomy Lp 0 with h | h | h
    · have := hssign.2 h; omega
    · rw [h, abs_zero] at hLlo; omega
    · have := hssign.1 h; omega
  have hX : (Lp + hi) * ((B ^ K : Nat) : Int) + lo = Lp * ((B ^ K : Nat) : Int) + r := by
    rw [hsplit]; ring
  rw [← hX]
  apply reprRoundSum_contract B hB m c hc p hp _ e _ K isSub hlt hs0
  · intro hsub
    rcases hsame hsub with ⟨h1, h2⟩ | ⟨h1, h2⟩
    · have := hssign.1 h1
      exact ⟨fun _ => (hpos h2).1, fun h => by omega⟩
    · have := hssign.2 h1
      exact ⟨fun h => by omega, fun _ => (hneg h2).1⟩
  · -- the guard digit suffices
    intro _ hd hlk
    rw [hX]
    obtain ⟨hdpos, _, _⟩ := digitsI_spec B hB _ hs0
    generalize digitsI B (Lp + hi) = d at *
    have hexp : K - (p + 1 - d) + (p - 1) = K + d - 2 := by omega
    rw [← natpow_add, hexp]
    -- |X| ≥ |Lp|·B^K − |r|
    have h1 : |Lp * ((B ^ K : Nat) : Int)| - |r| ≤ |Lp * ((B ^ K : Nat) : Int) + r| := by
      have := abs_sub_abs_le_abs_sub (Lp * ((B ^ K : Nat) : Int)) (-r)
      rwa [abs_neg, sub_neg_eq_add] at this
    rw [abs_mul, abs_of_pos hDK] at h1
    have h2 : ((B ^ (p - 1) : Nat) : Int) * ((B ^ K : Nat) : Int) ≤ |Lp| * ((B ^ K : Nat) : Int) :=
      Int.mul_le_mul_of_nonneg_right hLlo (le_of_lt hDK)
    -- B^(p-1+K) = B · B^(K+p-2) ≥ 2·B^(K+p-2),  B^p ≤ B^(K+p-2),  B^(K+d-2) ≤ B^(K+p-2)
    have e1 : ((B ^ (p - 1) : Nat) : Int) * ((B ^ K : Nat) : Int) = (B : Int) * ((B ^ (K + p - 2) : Nat) : Int) := by
      have : B ^ (p - 1) * B ^ K = B * B ^ (K + p - 2) := by
        rw [← Nat.pow_add, ← Nat.pow_succ']; congr 1; omega
      exact_mod_cast this
    have h3 : ((B ^ p : Nat) : Int) ≤ ((B ^ (K + p - 2) : Nat) : Int) := pow_le_pow_int B hB0 _ _ (by omega)
    have h4 : ((B ^ (K + d - 2) : Nat) : Int) ≤ ((B ^ (K + p - 2) : Nat) : Int) := pow_le_pow_int B hB0 _ _ (by omega)
    have h5 : 2 * ((B ^ (K + p - 2) : Nat) : Int) ≤ (B : Int) * ((B ^ (K + p - 2) : Nat) : Int) :=
      Int.mul_le_mul_of_nonneg_right hB2 (le_of_lt (natpow_pos B hB0 _))
    rw [e1] at h2
    omega

/-- **`repr_add_large_small` for operands that fit the precision** (all four alignment branches) -/
theorem reprAddLargeSmall_fits_contract (B : Nat) (hB : 2 ≤ B) (m : Mode) (c : Coarse) (hc : CoarseSound c)
    (dub : Int → Nat) (hdub : DubSound B dub) (p : Nat) (hp : 1 ≤ p) (lhs rhs : FRepr) (rs : Int)
    (hrs : rs = 1 ∨ rs = -1) (hgt : rhs.exp < lhs.exp) (hl0 : lhs.signif ≠ 0) (hr0 : rhs.signif ≠ 0)
    (hld : lhs.digits B ≤ p) (hrd : rhs.digits B ≤ p) :
    Contract B m p (lhs.toRat B + (rs : ℚ) * rhs.toRat B)
      ((reprAddLargeSmall B m c dub p lhs rhs rs).1.toRat B) (reprAddLargeSmall B m c dub p lhs rhs rs).2 := by
  have hB0 : 0 < B := by omega
  have hp0 : p ≠ 0 := by omega
  by_cases hfar : dub rhs.signif + 1 < (lhs.exp - rhs.exp).toNat ∧
      dub rhs.signif + 1 + (p + if decide (sgn lhs.signif ≠ rs * sgn rhs.signif) = true then 1 else 0) <
        lhs.digits B + (lhs.exp - rhs.exp).toNat
  · exact reprAddLargeSmall_far_contract B hB m c hc dub hdub p hp lhs rhs rs hrs hgt hl0 hr0 hld hfar
  · by_cases hkeep : (lhs.exp - rhs.exp).toNat + lhs.digits B ≤ p
    · exact reprAddLargeSmall_aligned B hB m c hc dub p hp lhs rhs rs hgt hkeep
    · -- one of the two splitting branches
      have hE1 : 1 ≤ (lhs.exp - rhs.exp).toNat := by omega
      have hEv : (((lhs.exp - rhs.exp).toNat : Nat) : Int) = lhs.exp - rhs.exp := Int.toNat_of_nonneg (by omega)
      have hrabs : |rs * rhs.signif| < ((B ^ p : Nat) : Int) := by
        rw [abs_sign_mul rs _ hrs]; exact abs_lt_pow_of_digits B hB _ p hrd
      obtain ⟨hdpos, hllo, _⟩ := digitsI_spec B hB lhs.signif hl0
      unfold reprAddLargeSmall
      simp only [shlDigits_eq]
      have hfar' : ¬ (p ≠ 0 ∧ dub rhs.signif + 1 < (lhs.exp - rhs.exp).toNat ∧
          dub rhs.signif + 1 + (p + if decide (sgn lhs.signif ≠ rs * sgn rhs.signif) = true then 1 else 0) <
            lhs.digits B + (lhs.exp - rhs.exp).toNat) := fun h => hfar h.2
      simp only [hfar', if_false]
      have hsame := same_sign_of_not_sub lhs.signif rhs.signif rs hrs hl0
      generalize decide (sgn lhs.signif ≠ rs * sgn rhs.signif) = isSub at *
      unfold FRepr.digits at *
      generalize hE : (lhs.exp - rhs.exp).toNat = E at *
      -- both branches pad the large operand to `p` digits (`lsh = 0` if it has them) and split the small one
      -- `E - lsh` digits from its end
      generalize hls : p - digitsI B lhs.signif = lsh
      have hDl := natpow_pos B hB0 lsh
      have hLlo : ((B ^ (p - 1) : Nat) : Int) ≤ |lhs.signif * ((B ^ lsh : Nat) : Int)| := by
        rw [abs_mul, abs_of_pos hDl]
        have : p - 1 = (digitsI B lhs.signif - 1) + lsh := by omega
        rw [this, natpow_add]
        exact Int.mul_le_mul_of_nonneg_right hllo (le_of_lt hDl)
      obtain ⟨hs1, hs2, hs3, hs4⟩ := splitDigits_signed B hB rhs.signif rs (E - lsh) hrs
      have key := split_branch_contract B hB m c hc p hp (lhs.signif * ((B ^ lsh : Nat) : Int)) (rs * rhs.signif) _ _
        (lhs.exp - lsh) (E - lsh) isSub hLlo hrabs (by omega) hs1 hs2 hs3 hs4 fun h => (hsame h).imp
          (fun a => ⟨Int.mul_pos a.1 hDl, a.2⟩) (fun a => ⟨Int.mul_neg_of_neg_of_pos a.1 hDl, a.2⟩)
      have hval : ((lhs.signif * ((B ^ lsh : Nat) : Int) * ((B ^ (E - lsh) : Nat) : Int) + rs * rhs.signif : Int) : ℚ) *
          bpowQ B (lhs.exp - (lsh : Int) - ((E - lsh : Nat) : Int)) = lhs.toRat B + (rs : ℚ) * rhs.toRat B := by
        rw [toRat_add_aligned B hB0 lhs rhs rs E hEv, mul_assoc, ← natpow_add, show lsh + (E - lsh) = E by omega]
        congr 2; omega
      rw [hval] at key
      by_cases h2 : digitsI B lhs.signif ≥ p
      · have h2' : p ≠ 0 ∧ digitsI B lhs.signif ≥ p := ⟨hp0, h2⟩
        simp only [h2', and_self, if_true]
        simp only [and_true, ne_eq, hp0, not_false_eq_true, if_true]
        have : lsh = 0 := by omega
        subst this
        simp only [pow_zero, Nat.cast_one, mul_one, Nat.sub_zero, Nat.cast_zero, sub_zero] at key
        exact key
      · have h2' : ¬ (p ≠ 0 ∧ digitsI B lhs.signif ≥ p) := fun h => h2 h.2
        have h3 : p ≠ 0 ∧ E + digitsI B lhs.signif > p := ⟨hp0, by omega⟩
        simp only [h2', h3, and_self, if_false, if_true]
        simp only [and_true, ne_eq, hp0, not_false_eq_true, if_true]
        exact key

/-- a well-formed value (zero has exponent 0) that `is_zero` rejects has a non-zero significand -/
theorem signif_ne_zero (r : FRepr) (hw : r.signif = 0 → r.exp = 0) (hz : ¬ r.isZero = true) : r.signif ≠ 0 := by
  intro h0; apply hz; unfold FRepr.isZero; simp [h0, hw h0]

/-- **`Context::add` / `Context::sub` honour the rounding contract for all operands that fit the
    precision** (every sign, every exponent gap, cancellation, carries), for every sound `digits_ub`
    estimator and every sound coarse test. -/
theorem addSub_fits_contract (B : Nat) (hB : 2 ≤ B) (m : Mode) (c : Coarse) (hc : CoarseSound c)
    (dub : Int → Nat) (hdub : DubSound B dub) (p : Nat) (hp : 1 ≤ p) (lhs rhs : FRepr) (rs : Int)
    (hrs : rs = 1 ∨ rs = -1) (hl : Normalized B lhs) (hr : Normalized B rhs)
    (hwl : lhs.signif = 0 → lhs.exp = 0) (hwr : rhs.signif = 0 → rhs.exp = 0)
    (hld : lhs.digits B ≤ p) (hrd : rhs.digits B ≤ p) :
    Contract B m p (lhs.toRat B + (rs : ℚ) * rhs.toRat B)
      ((ctxAddSub B m c dub p lhs rhs rs).1.toRat B) (ctxAddSub B m c dub p lhs rhs rs).2 := by
  by_cases hs : lhs.isZero = true ∨ rhs.isZero = true ∨ lhs.exp = rhs.exp
  · exact addSub_simple_contract B hB m c hc dub p hp lhs rhs rs hrs hl hr hs
  · have hlz : ¬ lhs.isZero = true := fun h => hs (Or.inl h)
    have hrz : ¬ rhs.isZero = true := fun h => hs (Or.inr (Or.inl h))
    have hne : ¬ lhs.exp = rhs.exp := fun h => hs (Or.inr (Or.inr h))
    have hl0 := signif_ne_zero lhs hwl hlz
    have hr0 := signif_ne_zero rhs hwr hrz
    rcases lt_or_gt_of_ne hne with hlt | hgt
    · obtain ⟨heq, hv, hdig, hb0⟩ := ctxAddSub_swapped B m c dub p lhs rhs rs hrs hlz hrz hlt
      rw [heq, ← hv]
      exact reprAddLargeSmall_fits_contract B hB m c hc dub hdub p hp ⟨rs * rhs.signif, rhs.exp⟩ lhs 1
        (Or.inl rfl) hlt (hb0 hr0) hl0 (by rw [hdig]; exact hrd) hld
    · rw [ctxAddSub_large B m c dub p lhs rhs rs hlz hrz hgt]
      exact reprAddLargeSmall_fits_contract B hB m c hc dub hdub p hp lhs rhs rs hrs hgt hl0 hr0 hld hrd

end Dashu.Model.Float
