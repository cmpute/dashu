import Dashu.Proofs.Float.AddFar
/-
  C03: `Context::repr_round_sum` with a real low part — the re-alignment (shrink / pad) always ends in
  one rounding of the exact value `signif·B^lk + low`, and the contract holds as soon as the rounded
  significand keeps enough digits (the guard-digit hypothesis `hguard`, which is what fails for
  operands longer than the precision).
-/
namespace Dashu.Model.Float
open Dashu Dashu.Props.GenRound

/-- value of `X · B^(e − lk)` re-split at `k'` digits: `X = hi·B^k' + lo` -/
theorem value_resplit (B : Nat) (hB : 0 < B) (X hi lo : Int) (k' lk : Nat) (e e' : Int)
    (hX : X = hi * ((B ^ k' : Nat) : Int) + lo) (he : e' + lk = e + k') :
    ((hi * ((B ^ k' : Nat) : Int) + lo : Int) : ℚ) * bpowQ B (e' - k') = (X : ℚ) * bpowQ B (e - lk) := by
  rw [← hX]
  congr 2
  omega

/-- appending a digit block: `|a| < D` and `|b| < E` give `|a + b·D| < D·E` -/
theorem abs_concat_lt (a b D E : Int) (ha : |a| < D) (hb : |b| < E) : |a + b * D| < D * E := by
  have hD : 0 < D := lt_of_le_of_lt (abs_nonneg a) ha
  have h1 : |a + b * D| ≤ |a| + |b| * D := by
    rw [← abs_of_pos hD, ← abs_mul, abs_of_pos hD]; exact abs_add_le _ _
  have h2 : (|b| + 1) * D ≤ E * D := Int.mul_le_mul_of_nonneg_right (by omega) hD.le
  linarith

/-- the high part of a split `v = hi·D + lo`, `|lo| < D`, is as long as `v` allows: `M·D ≤ |v|` gives `M ≤ |hi|` -/
theorem abs_hi_ge (v hi lo D M : Int) (hD : 0 < D) (hv : v = hi * D + lo) (hlo : |lo| < D) (hM : M * D ≤ |v|) :
    M ≤ |hi| := by
  have h1 : |v| ≤ |hi| * D + |lo| := by
    rw [hv, ← abs_of_pos hD, ← abs_mul, abs_of_pos hD]; exact abs_add_le _ _
  have h2 : M * D < (|hi| + 1) * D := by linarith
  have := lt_of_mul_lt_mul_right h2 hD.le
  omega

/-- the last step of `repr_round_sum`: nothing to round when the low part is zero, one `round_fract` otherwise -/
def sumFinish (B : Nat) (m : Mode) (c : Coarse) (s' e' lo' : Int) (k' : Nat) : Rounded FRepr :=
  if lo' = 0 then (FRepr.new B s' e', none)
  else (FRepr.new B (s' + rInt (roundFract B m c s' lo' k')) e', some (roundFract B m c s' lo' k'))

/-- … on the re-aligned `(s', e', (lo', k'))` with `X = s'·B^k' + lo'`: one rounding of `X` at digit `k'` -/
theorem roundSum_finish (B : Nat) (hB : 2 ≤ B) (m : Mode) (c : Coarse) (hc : CoarseSound c) (p : Nat) (hp : 1 ≤ p)
    (X : Int) (lk : Nat) (e s' lo' e' : Int) (k' : Nat)
    (hX : X = s' * ((B ^ k' : Nat) : Int) + lo') (he : e' + lk = e + k') (hlt : |lo'| < ((B ^ k' : Nat) : Int))
    (hulp : lo' ≠ 0 → ((B ^ k' : Nat) : Int) * ((B ^ (p - 1) : Nat) : Int) ≤ |X|) :
    Contract B m p ((X : ℚ) * bpowQ B (e - lk)) ((sumFinish B m c s' e' lo' k').1.toRat B)
      (sumFinish B m c s' e' lo' k').2 := by
  unfold sumFinish
  have hB0 : 0 < B := by omega
  rw [← value_resplit B hB0 X s' lo' k' lk e e' hX he]
  by_cases h0 : lo' = 0
  · rw [if_pos h0, FRepr.new_value B hB0, h0, add_zero]
    have hb : bpowQ B e' = ((B ^ k' : Nat) : ℚ) * bpowQ B (e' - k') := by
      rw [← bpowQ_nat, ← bpowQ_add B hB0, add_sub_cancel]
    have hv : ((s' * ((B ^ k' : Nat) : Int) : Int) : ℚ) * bpowQ B (e' - k') = (s' : ℚ) * bpowQ B e' := by
      rw [hb]; push_cast; ring
    rw [hv]
    exact contract_exact B m p _
  · rw [if_neg h0]
    have key := round_at_contract B hB m c hc p hp s' lo' k' (e' - k') h0 hlt (hX ▸ hulp h0)
    rwa [sub_add_cancel] at key

/-- `repr_round_sum(signif, exp, (low, lk), is_sub)` honours the contract for the exact value
    `(signif·B^lk + low)·B^(exp − lk)`, provided
    * `|low| < B^lk`, `signif ≠ 0`;
    * for an addition (`is_sub = false`) the low part has the sign of the significand (or is zero);
    * `hguard`: for a subtraction that cancelled leading digits and cannot be padded back completely, the
      exact value still has `p` digits above the final rounding position. -/
theorem reprRoundSum_contract (B : Nat) (hB : 2 ≤ B) (m : Mode) (c : Coarse) (hc : CoarseSound c)
    (p : Nat) (hp : 1 ≤ p) (s e lv : Int) (lk : Nat) (isSub : Bool)
    (hA : |lv| < ((B ^ lk : Nat) : Int)) (hs0 : s ≠ 0)
    (hsign : isSub = false → (0 ≤ s → 0 ≤ lv) ∧ (s ≤ 0 → lv ≤ 0))
    (hguard : isSub = true → digitsI B s < p + 1 → p + 1 - digitsI B s < lk →
      ((B ^ (lk - (p + 1 - digitsI B s)) : Nat) : Int) * ((B ^ (p - 1) : Nat) : Int) ≤
        |s * ((B ^ lk : Nat) : Int) + lv|) :
    Contract B m p (((s * ((B ^ lk : Nat) : Int) + lv : Int) : ℚ) * bpowQ B (e - lk))
      ((reprRoundSum B m c p s e (lv, lk) isSub).1.toRat B) (reprRoundSum B m c p s e (lv, lk) isSub).2 := by
  have hB0 : 0 < B := by omega
  have hp0 : p ≠ 0 := by omega
  obtain ⟨hdpos, hslo, _⟩ := digitsI_spec B hB s hs0
  have hDk := natpow_pos B hB0 lk
  have hsg : isSub = false → (0 ≤ s ∧ 0 ≤ lv) ∨ (s ≤ 0 ∧ lv ≤ 0) := fun h =>
    (le_total 0 s).imp (fun h0 => ⟨h0, (hsign h).1 h0⟩) (fun h0 => ⟨h0, (hsign h).2 h0⟩)
  unfold reprRoundSum
  rw [if_neg hp0]
  generalize hrnd : p + (if isSub = true then 1 else 0) = rndP at *
  by_cases h1 : digitsI B s = rndP
  · -- no re-alignment
    simp only [h1, if_true]
    refine roundSum_finish B hB m c hc p hp _ lk e s lv e lk rfl rfl hA fun _ => ?_
    exact ulp_bound B hB p hp isSub rndP hrnd s lv _ hDk hA (h1 ▸ hslo) hsg
  · by_cases h2 : digitsI B s > rndP
    · -- shrink: more digits than rnd_precision
      simp only [h1, h2, if_true, if_false, shlDigits_eq]
      obtain ⟨hsplit, hlt, hpos, hneg⟩ := splitDigits_spec B hB s (digitsI B s - rndP)
      generalize hsh : digitsI B s - rndP = sh at *
      generalize splitDigits B s sh = hl at *
      have hDs := natpow_pos B hB0 sh
      -- X = hi·B^(lk+sh) + (lv + lo·B^lk)
      have hX : s * ((B ^ lk : Nat) : Int) + lv =
          hl.1 * ((B ^ (lk + sh) : Nat) : Int) + (lv + hl.2 * ((B ^ lk : Nat) : Int)) := by
        rw [natpow_add]; conv_lhs => rw [hsplit]
        ring
      have hlow : |lv + hl.2 * ((B ^ lk : Nat) : Int)| < ((B ^ (lk + sh) : Nat) : Int) := by
        rw [natpow_add]; exact abs_concat_lt _ _ _ _ hA hlt
      have hhi : ((B ^ (rndP - 1) : Nat) : Int) ≤ |hl.1| := by
        apply abs_hi_ge s hl.1 hl.2 _ _ hDs hsplit hlt
        rw [← natpow_add]
        have hd : rndP - 1 + sh = digitsI B s - 1 := by omega
        rw [hd]; exact hslo
      refine roundSum_finish B hB m c hc p hp _ lk e hl.1 _ (e + sh) (lk + sh) hX (by push_cast; ring) hlow
        fun _ => ?_
      rw [hX]
      refine ulp_bound B hB p hp isSub rndP hrnd hl.1 _ _ (natpow_pos B hB0 _) hlow hhi fun hsub => ?_
      exact (hsg hsub).imp
        (fun h => ⟨(hpos h.1).2, Int.add_nonneg h.2 (Int.mul_nonneg (hpos h.1).1 hDk.le)⟩)
        (fun h => ⟨(hneg h.1).2, Int.add_nonpos h.2 (Int.mul_nonpos_of_nonpos_of_nonneg (hneg h.1).1 hDk.le)⟩)
    · -- pad: fewer digits than rnd_precision
      by_cases hl0 : lv = 0
      · simp only [h1, h2, hl0, ne_eq, not_true_eq_false, if_false]
        exact roundSum_finish B hB m c hc p hp _ lk e s 0 e lk rfl rfl (hl0 ▸ hA) fun h => absurd rfl h
      · simp only [h1, h2, hl0, ne_eq, not_false_eq_true, if_true, if_false, shlDigits_eq]
        generalize hshift : min lk (rndP - digitsI B s) = sh at *
        obtain ⟨hsplit, hlt, hpos, hneg⟩ := splitDigits_spec B hB lv (lk - sh)
        generalize splitDigits B lv (lk - sh) = pl at *
        have hDs := natpow_pos B hB0 sh
        have hDr := natpow_pos B hB0 (lk - sh)
        have hlksplit : ((B ^ lk : Nat) : Int) = ((B ^ sh : Nat) : Int) * ((B ^ (lk - sh) : Nat) : Int) := by
          rw [← natpow_add]; congr 2; omega
        -- X = (s·B^sh + pad)·B^(lk-sh) + rest
        have hX : s * ((B ^ lk : Nat) : Int) + lv =
            (s * ((B ^ sh : Nat) : Int) + pl.1) * ((B ^ (lk - sh) : Nat) : Int) + pl.2 := by
          rw [hlksplit]; conv_lhs => rw [hsplit]
          ring
        refine roundSum_finish B hB m c hc p hp _ lk e _ pl.2 (e - sh) (lk - sh) hX (by omega) hlt fun hr0 => ?_
        -- a rest remains, so the padding was complete: sh = rndP - d < lk
        have hshlt : sh < lk := by
          by_contra hge
          have : lk - sh = 0 := by omega
          rw [this] at hlt; simp at hlt; omega
        have hsheq : sh = rndP - digitsI B s := by omega
        by_cases hsub : isSub = true
        · have hr1 : rndP = p + 1 := by rw [← hrnd, if_pos hsub]
          have hg := hguard hsub (by omega) (by omega)
          have : lk - (p + 1 - digitsI B s) = lk - sh := by omega
          rwa [this] at hg
        · -- the padded significand has the sign of `s` and `p` digits
          have hsub' : isSub = false := by simpa using hsub
          have hpad : (0 ≤ s ∧ 0 ≤ pl.1 ∧ 0 ≤ pl.2) ∨ (s ≤ 0 ∧ pl.1 ≤ 0 ∧ pl.2 ≤ 0) :=
            (hsg hsub').imp (fun h => ⟨h.1, (hpos h.2).2, (hpos h.2).1⟩) (fun h => ⟨h.1, (hneg h.2).2, (hneg h.2).1⟩)
          have hd : rndP - 1 = (digitsI B s - 1) + sh := by omega
          rw [hX]
          refine ulp_bound B hB p hp isSub rndP hrnd _ pl.2 _ hDr hlt ?_ fun _ => ?_
          · rw [hd, natpow_add]
            exact le_trans (Int.mul_le_mul_of_nonneg_right hslo hDs.le)
              (abs_same_sign_bound s pl.1 _ hDs (hpad.imp (fun h => ⟨h.1, h.2.1⟩) (fun h => ⟨h.1, h.2.1⟩)))
          · exact hpad.imp
              (fun h => ⟨Int.add_nonneg (Int.mul_nonneg h.1 hDs.le) h.2.1, h.2.2⟩)
              (fun h => ⟨Int.add_nonpos (Int.mul_nonpos_of_nonpos_of_nonneg h.1 hDs.le) h.2.1, h.2.2⟩)

end Dashu.Model.Float
