import Dashu.Proofs.Float.RoundOps
/-
  The `f32` estimate `smaller_than_one` / `digits_ub` is NOT observable through
  `trunc`, `fract`, `split_at_point`, `floor`, `ceil`, `round`, `to_int`: for every sound estimator the
  result (value AND precision) equals that of the general path, which does not consult the estimate.
  (/repo since fix 0ac7547, the change of proposed_fixes/c10-roundops-estimate-observable.diff; before it the shortcuts
  returned `ZERO`/`ONE`/`self` with a different context, which made std vs no_std builds differ.)
-/
namespace Dashu.Model.Float
open Dashu Dashu.Props.GenRound

/-- the general paths, without any estimate -/
def fTruncGen (B : Nat) (x : FBigM) : FBigM :=
  if x.repr.exp ≥ 0 then x
  else ⟨FRepr.new B (shrDigits B x.repr.signif (-x.repr.exp).toNat) 0, x.prec - (-x.repr.exp).toNat⟩

def fFractGen (B : Nat) (x : FBigM) : FBigM :=
  if x.repr.exp ≥ 0 then FBigM.zero
  else ⟨FRepr.new B (splitDigits B x.repr.signif (-x.repr.exp).toNat).2 x.repr.exp, (-x.repr.exp).toNat⟩

def roundGen (B : Nat) (m : Mode) (c : Coarse) (x : FBigM) : FBigM :=
  let hl := splitDigits B x.repr.signif (-x.repr.exp).toNat
  ⟨FRepr.new B (hl.1 + rInt (roundFract B m c hl.1 hl.2 (-x.repr.exp).toNat)) 0, x.prec - (-x.repr.exp).toNat⟩

theorem new_zero (B : Nat) (e : Int) : FRepr.new B 0 e = ⟨0, 0⟩ := by simp [FRepr.new]

/-- a normalised non-zero significand is a fixed point of `Repr::new` -/
theorem new_fixed (B : Nat) (s e : Int) (hs : s ≠ 0) (hn : s % (B : Int) ≠ 0) : FRepr.new B s e = ⟨s, e⟩ := by
  unfold FRepr.new
  simp only [hs, if_false]
  unfold stripAux
  simp [hn]

theorem roundFract_down (B : Nat) (c : Coarse) (n f : Int) (k : Nat) :
    roundFract B .down c n f k = if f < 0 then .SubOne else .NoOp := by
  unfold roundFract
  by_cases h0 : f = 0
  · subst h0; simp
  · rw [if_neg h0]
    simp only [roundLowPart_eq, bump, signOf]
    by_cases h : f < 0 <;> simp [h, dirOf]

theorem roundFract_up (B : Nat) (c : Coarse) (n f : Int) (k : Nat) :
    roundFract B .up c n f k = if 0 < f then .AddOne else .NoOp := by
  unfold roundFract
  by_cases h0 : f = 0
  · subst h0; simp
  · rw [if_neg h0]
    simp only [roundLowPart_eq, bump, signOf]
    by_cases h : f < 0
    · simp [h, dirOf, h.le.not_gt]
    · simp [h, dirOf, lt_of_le_of_ne (not_lt.mp h) (Ne.symm h0)]

theorem roundFract_halfAway_small (B : Nat) (c : Coarse) (hc : CoarseSound c) (n f : Int) (k : Nat)
    (h : 2 * |f| < ((B ^ k : Nat) : Int)) : roundFract B .halfAway c n f k = .NoOp := by
  by_cases h0 : f = 0
  · subst h0; exact roundFract_zero B _ c n k
  · rw [roundFract_eq B .halfAway c hc n f k h0, Int.compare_eq_lt.mpr h, roundLowPart_eq]
    simp [bump]

theorem unit_mod_ne (B : Nat) (hB : 2 ≤ B) (u : Int) (hu : u.natAbs = 1) : u % (B : Int) ≠ 0 := by
  intro h
  have := Int.natAbs_dvd_natAbs.mpr (Int.dvd_of_emod_eq_zero h)
  rw [hu, Int.natAbs_natCast] at this
  have := Nat.le_of_dvd Nat.one_pos this
  omega

theorem fSplit_eq (B : Nat) (dub : Int → Nat) (x : FBigM) :
    fSplitAtPoint B dub x = (fTrunc B dub x, fFract B dub x) := by
  unfold fSplitAtPoint fTrunc fFract splitAtPointInternal
  try simp only [shlDigits_eq, shrDigits_eq]
  by_cases he : x.repr.exp ≥ 0
  · simp [he]
  · simp only [he, if_false]
    by_cases hsm : smallerThanOne dub x.repr = true
    · simp [hsm]
    · simp only [hsm, if_false, Bool.false_eq_true, true_and, false_and]
      rw [splitDigits_eq]
      rfl

section
variable (B : Nat) (hB : 2 ≤ B) (dub : Int → Nat) (hdub : DubSound B dub) (x : FBigM)
include hB hdub

/-- on the shortcut's path the plain digit split finds no integral digits either -/
theorem smaller_split (hsm : x.repr.exp + (dub x.repr.signif : Int) < -1) :
    splitDigits B x.repr.signif (-x.repr.exp).toNat = (0, x.repr.signif) :=
  splitDigits_small B hB _ _ (smaller_lt B hB dub hdub x.repr hsm)

/-- `split_at_point_internal` is the plain digit split, whether or not its shortcut fires -/
theorem splitInternal_eq (he : x.repr.exp < 0) :
    splitAtPointInternal B dub x =
      ((splitDigits B x.repr.signif (-x.repr.exp).toNat).1, (splitDigits B x.repr.signif (-x.repr.exp).toNat).2,
        (-x.repr.exp).toNat) := by
  unfold splitAtPointInternal
  by_cases hsm : smallerThanOne dub x.repr = true
  · simp only [hsm, if_true]
    rw [smaller_split B hB dub hdub x (smaller_of dub x.repr hsm)]
  · simp only [hsm, if_false, Bool.false_eq_true]

/-- **`trunc` does not depend on the estimate** -/
theorem fTrunc_eq_gen : fTrunc B dub x = fTruncGen B x := by
  unfold fTrunc fTruncGen
  by_cases he : x.repr.exp ≥ 0
  · simp [he]
  · simp only [he, if_false]
    by_cases hsm : smallerThanOne dub x.repr = true
    · simp only [hsm, if_true]
      have h := smaller_split B hB dub hdub x (smaller_of dub x.repr hsm)
      have h1 : shrDigits B x.repr.signif (-x.repr.exp).toNat = 0 := by
        rw [shrDigits_eq]
        have := congrArg Prod.fst h
        rw [splitDigits_eq, splitSpec] at this
        exact this
      rw [h1, new_zero]
    · simp only [hsm, if_false, Bool.false_eq_true]

/-- **`fract` does not depend on the estimate** (operand in normal form, as built by `Repr::new`) -/
theorem fFract_eq_gen (hfix : FRepr.new B x.repr.signif x.repr.exp = x.repr) : fFract B dub x = fFractGen B x := by
  unfold fFract fFractGen
  by_cases he : x.repr.exp ≥ 0
  · simp [he]
  · simp only [he, if_false]
    have he' : x.repr.exp < 0 := by omega
    by_cases hsm : smallerThanOne dub x.repr = true
    · simp only [hsm, if_true]
      rw [smaller_split B hB dub hdub x (smaller_of dub x.repr hsm)]
      simp only [hfix]
    · simp only [hsm, if_false, Bool.false_eq_true]
      rw [splitInternal_eq B hB dub hdub x he']

/-- **`split_at_point` does not depend on the estimate** -/
theorem fSplit_eq_gen (hfix : FRepr.new B x.repr.signif x.repr.exp = x.repr) :
    fSplitAtPoint B dub x = (fTruncGen B x, fFractGen B x) := by
  rw [fSplit_eq, fTrunc_eq_gen B hB dub hdub x, fFract_eq_gen B hB dub hdub x hfix]

/-- **`to_int` does not depend on the estimate** -/
theorem fToInt_eq_gen (m : Mode) (c : Coarse) (he : x.repr.exp < 0) :
    fToInt B m c dub x =
      ((splitDigits B x.repr.signif (-x.repr.exp).toNat).1 +
          rInt (roundFract B m c (splitDigits B x.repr.signif (-x.repr.exp).toNat).1
            (splitDigits B x.repr.signif (-x.repr.exp).toNat).2 (-x.repr.exp).toNat),
        some (roundFract B m c (splitDigits B x.repr.signif (-x.repr.exp).toNat).1
            (splitDigits B x.repr.signif (-x.repr.exp).toNat).2 (-x.repr.exp).toNat)) := by
  unfold fToInt
  have hne : ¬ x.repr.exp ≥ 0 := by omega
  simp only [hne, if_false, splitInternal_eq B hB dub hdub x he]

/-- **`floor` does not depend on the estimate** -/
theorem fFloor_eq_gen (c : Coarse) (he : x.repr.exp < 0) : fFloor B c dub x = roundGen B .down c x := by
  unfold fFloor roundGen
  have hne : ¬ x.repr.exp ≥ 0 := by omega
  simp only [hne, if_false]
  by_cases hsm : smallerThanOne dub x.repr = true
  · simp only [hsm, if_true]
    rw [smaller_split B hB dub hdub x (smaller_of dub x.repr hsm)]
    simp only [roundFract_down]
    by_cases hs : x.repr.signif ≥ 0
    · have : ¬ x.repr.signif < 0 := by omega
      simp [hs, this, rInt, new_zero]
    · have h1 : x.repr.signif < 0 := by omega
      simp only [hs, if_false, h1, if_true, rInt]
      rw [new_fixed B (0 + -1) 0 (by omega) (unit_mod_ne B hB _ rfl)]
      simp
  · simp only [hsm, if_false, Bool.false_eq_true, splitInternal_eq B hB dub hdub x he]

/-- **`ceil` does not depend on the estimate** (non-zero operand) -/
theorem fCeil_eq_gen (c : Coarse) (he : x.repr.exp < 0) (hs0 : x.repr.signif ≠ 0) :
    fCeil B c dub x = roundGen B .up c x := by
  unfold fCeil roundGen
  have hne : ¬ x.repr.exp ≥ 0 := by omega
  have hz : x.repr.isZero = false := by simp [FRepr.isZero, hs0]
  simp only [hne, hz, or_false, if_false, Bool.false_eq_true]
  by_cases hsm : smallerThanOne dub x.repr = true
  · simp only [hsm, if_true]
    rw [smaller_split B hB dub hdub x (smaller_of dub x.repr hsm)]
    simp only [roundFract_up]
    by_cases hs : x.repr.signif ≥ 0
    · have h1 : 0 < x.repr.signif := by omega
      simp only [hs, if_true, h1, rInt]
      rw [new_fixed B (0 + 1) 0 (by omega) (unit_mod_ne B hB _ rfl)]
      simp
    · have h1 : ¬ 0 < x.repr.signif := by omega
      simp [hs, h1, rInt, new_zero]
  · simp only [hsm, if_false, Bool.false_eq_true, splitInternal_eq B hB dub hdub x he]

/-- **`round` does not depend on the estimate** (any sound coarse test) -/
theorem fRound_eq_gen (c : Coarse) (hc : CoarseSound c) (he : x.repr.exp < 0) :
    fRound B c dub x = roundGen B .halfAway c x := by
  unfold fRound roundGen
  have hne : ¬ x.repr.exp ≥ 0 := by omega
  simp only [hne, if_false]
  by_cases hsm : x.repr.exp + (dub x.repr.signif : Int) < -2
  · simp only [hsm, if_true]
    have hq : 4 * |x.repr.signif| < ((B ^ (-x.repr.exp).toNat : Nat) : Int) :=
      smaller_quarter B hB dub hdub x.repr (by omega)
    rw [smaller_split B hB dub hdub x (by omega)]
    have h2 : 2 * |x.repr.signif| < ((B ^ (-x.repr.exp).toNat : Nat) : Int) := by
      have := abs_nonneg x.repr.signif
      omega
    simp only [roundFract_halfAway_small B c hc 0 _ _ h2, rInt, add_zero, new_zero]
  · simp only [hsm, if_false, splitInternal_eq B hB dub hdub x he]

end

end Dashu.Model.Float
