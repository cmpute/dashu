import Dashu.Proofs.Float.ModeSpec
/-
  From the mode specifications (integer-scaled, `Props/GenRound.lean`) to the rounding contract.

  `IContract m D X R flag` : the contract for an inexact rounding, stated on integers scaled by a
  common power of the base: `X` exact value, `R` result, `D` the unit of the last kept digit.
-/
namespace Dashu.Model.Float
open Dashu.Props.GenRound

structure IContract (m : Mode) (D X R : Int) (flag : Option Rounding) : Prop where
  ne : R ≠ X
  flag_some : flag ≠ none
  err : if m.isHalf then (-D ≤ 2 * (R - X) ∧ 2 * (R - X) ≤ D) else (-D < R - X ∧ R - X < D)
  side : match m with
    | .zero => (0 ≤ X → 0 ≤ R ∧ R ≤ X) ∧ (X ≤ 0 → X ≤ R ∧ R ≤ 0)
    | .away => (0 ≤ X → X ≤ R) ∧ (X ≤ 0 → R ≤ X)
    | .up => X ≤ R
    | .down => R ≤ X
    | _ => True
  addOne : flag = some .AddOne → X < R
  subOne : flag = some .SubOne → R < X

theorem mult_gt_neg (r D : Int) (hD : 0 < D) (h : -D < r * D) : 0 ≤ r * D := by
  have : -1 < r := lt_of_mul_lt_mul_right (by rwa [neg_one_mul]) hD.le
  exact Int.mul_nonneg (by omega) hD.le

theorem mult_lt_pos (r D : Int) (hD : 0 < D) (h : r * D < D) : r * D ≤ 0 := by
  have : r < 1 := lt_of_mul_lt_mul_right (by rwa [one_mul]) hD.le
  exact Int.mul_nonpos_of_nonpos_of_nonneg (by omega) hD.le

theorem icontract_of_modeSpec (m : Mode) (D X n : Int) (hD : 0 < D) (h : ModeSpec m X D n) (hne : n * D ≠ X)
    (a : Rounding) (hadd : a = .AddOne → X < n * D) (hsub : a = .SubOne → n * D < X) :
    IContract m D X (n * D) (some a) := by
  obtain ⟨w1, w2⟩ := modeSpec_within m X D n hD h
  rw [sub_one_mul] at w1; rw [add_one_mul] at w2
  have hp1 := mult_gt_neg n D hD
  have hp2 := mult_lt_pos n D hD
  refine ⟨hne, by simp, ?_, ?_, fun hf => hadd (by simpa using hf), fun hf => hsub (by simpa using hf)⟩
  · by_cases hh : m.isHalf = true
    · rw [if_pos hh]
      have := abs_le.mp (modeSpec_half m X D n hh h)
      constructor <;> omega
    · rw [if_neg hh]
      constructor <;> omega
  · -- the side a directed mode rounds to is the side its floor / ceiling clause names
    cases m <;> simp only [ModeSpec, IsTowardZero, IsAwayFromZero, IsFloor, IsCeil] at h <;> try trivial
    · split at h <;> refine ⟨fun hx => ⟨?_, ?_⟩, fun hx => ⟨?_, ?_⟩⟩ <;> omega
    · split at h <;> refine ⟨fun hx => ?_, fun hx => ?_⟩ <;> omega
    · exact h.2
    · exact h.1

/-- the table result satisfies the integer-scaled contract -/
theorem icontract_of_spec (m : Mode) (hi lo D : Int) (hD : 0 < D) (hlo : lo ≠ 0) (hlt : |lo| < D)
    (a : Rounding) (h : ModeSpec m (hi * D + lo) D (hi + rInt a)) :
    IContract m D (hi * D + lo) ((hi + rInt a) * D) (some a) := by
  have hl := abs_lt.mp hlt
  refine icontract_of_modeSpec m D _ _ hD h ?_ a ?_ ?_ <;> rw [add_mul]
  · cases a <;> simp only [rInt, zero_mul, one_mul, neg_mul] <;> omega
  · rintro rfl; rw [rInt, one_mul]; omega
  · rintro rfl; rw [rInt, neg_mul, one_mul]; omega

end Dashu.Model.Float
