import Dashu.Proofs.Float.Round
import Mathlib.Algebra.Order.Ring.Abs
/-
  The lemmas of `ModeSpec` and of the six relational specifications of `Props/GenRound.lean` (`IsFloor`, `IsCeil`,
  `IsTowardZero`, `IsAwayFromZero`, `IsNearestEven`, `IsNearestAway`): how they are established from a decomposition
  `N = q·D + r`, and what `ModeSpec m N D n` gives in every mode (`n·D` is less than one unit from `N`, at most half a
  unit in the two nearest modes, on the side of zero `N` is on; the specification is invariant under scaling and
  determines `n`).
-/
namespace Dashu.Model.Float
open Dashu.Props.GenRound

/-! ### the neighbours of `N / D` read off a decomposition `N = q·D + r`, `|r| < D` -/

theorem isFloor_of_rem (N q r D : Int) (hN : N = q * D + r) (h0 : 0 ≤ r) (hlt : r < D) : IsFloor N D q := by
  rw [IsFloor, add_one_mul]
  omega

theorem isFloor_pred_of_rem (N q r D : Int) (hN : N = q * D + r) (h0 : r < 0) (hlt : -D < r) :
    IsFloor N D (q - 1) := by
  rw [IsFloor, sub_add_cancel, sub_one_mul]
  omega

theorem isCeil_of_rem (N q r D : Int) (hN : N = q * D + r) (h0 : r ≤ 0) (hlt : -D < r) : IsCeil N D q := by
  rw [IsCeil, sub_one_mul]
  omega

theorem isCeil_succ_of_rem (N q r D : Int) (hN : N = q * D + r) (h0 : 0 < r) (hlt : r < D) :
    IsCeil N D (q + 1) := by
  rw [IsCeil, add_sub_cancel_right, add_one_mul]
  omega

theorem isTowardZero_of_rem (N q r D : Int) (hN : N = q * D + r) (hlt : |r| < D) (hp : 0 ≤ N → 0 ≤ r)
    (hn : N ≤ 0 → r ≤ 0) : IsTowardZero N D q := by
  have hr := abs_lt.mp hlt
  unfold IsTowardZero
  split
  · next h => exact isFloor_of_rem N q r D hN (hp h) hr.2
  · next h => exact isCeil_of_rem N q r D hN (hn (not_le.mp h).le) hr.1

theorem isNearestAway_of_rem (N q r D : Int) (hN : N = q * D + r) (h : 2 * |r| < D) : IsNearestAway N D q := by
  have e : 2 * N - 2 * (q * D) = 2 * r := by omega
  rw [IsNearestAway, e, abs_mul, abs_two]
  exact ⟨h.le, fun h' => absurd h' h.ne⟩

theorem isNearestAway_succ_of_rem (N q r D : Int) (hN : N = q * D + r) (h0 : 0 ≤ N) (hlt : r < D)
    (hge : D ≤ 2 * r) : IsNearestAway N D (q + 1) := by
  rw [IsNearestAway, add_one_mul, abs_of_nonneg h0]
  exact ⟨abs_le.mpr ⟨by omega, by omega⟩, fun _ => lt_of_lt_of_le (by omega) (le_abs_self _)⟩

theorem isNearestAway_pred_of_rem (N q r D : Int) (hN : N = q * D + r) (h0 : N ≤ 0) (hlt : -D < r)
    (hge : D ≤ -(2 * r)) : IsNearestAway N D (q - 1) := by
  rw [IsNearestAway, sub_one_mul, abs_of_nonpos h0]
  exact ⟨abs_le.mpr ⟨by omega, by omega⟩, fun _ => lt_of_lt_of_le (by omega) (neg_le_abs _)⟩

theorem tdiv_isTowardZero (v D : Int) (hD : 0 < D) : IsTowardZero v D (Int.tdiv v D) := by
  obtain ⟨a, b, c, d⟩ := tdiv_tmod_abs v D hD
  exact isTowardZero_of_rem v _ _ D a b (fun h => (c h).1) (fun h => (d h).1)

theorem modeSpec_exact (m : Mode) (hi D : Int) (hD : 0 < D) : ModeSpec m (hi * D) D hi := by
  have hf : IsFloor (hi * D) D hi := isFloor_of_rem _ hi 0 D (add_zero _).symm le_rfl hD
  have hc : IsCeil (hi * D) D hi := isCeil_of_rem _ hi 0 D (add_zero _).symm le_rfl (neg_lt_zero.mpr hD)
  cases m
  · show if _ then _ else _
    split
    exacts [hf, hc]
  · show if _ then _ else _
    split
    exacts [hc, hf]
  · exact hc
  · exact hf
  · show _ ∧ _
    rw [sub_self, abs_zero]
    exact ⟨hD.le, fun h => absurd h hD.ne⟩
  · exact isNearestAway_of_rem _ hi 0 D (add_zero _).symm (by simpa using hD)

/-! ### what the specification gives in every mode -/

theorem modeSpec_within (m : Mode) (N D n : Int) (hD : 0 < D) (h : ModeSpec m N D n) :
    (n - 1) * D < N ∧ N < (n + 1) * D := by
  rw [sub_one_mul, add_one_mul]
  cases m <;> simp only [ModeSpec, IsTowardZero, IsAwayFromZero, IsFloor, IsCeil, IsNearestEven, IsNearestAway,
    sub_one_mul, add_one_mul] at h
  · split at h <;> constructor <;> omega
  · split at h <;> constructor <;> omega
  · constructor <;> omega
  · constructor <;> omega
  · have := abs_le.mp h.1; constructor <;> omega
  · have := abs_le.mp h.1; constructor <;> omega

theorem modeSpec_near (m : Mode) (N D R : Int) (hD : 0 < D) (h : ModeSpec m N D R) : |N - R * D| < D := by
  obtain ⟨h1, h2⟩ := modeSpec_within m N D R hD h
  rw [sub_one_mul] at h1; rw [add_one_mul] at h2
  exact abs_lt.mpr ⟨by omega, by omega⟩

theorem modeSpec_half (m : Mode) (N D n : Int) (hm : m.isHalf = true) (h : ModeSpec m N D n) :
    |2 * N - 2 * (n * D)| ≤ D := by
  cases m <;> simp [Mode.isHalf] at hm <;> exact h.1

theorem modeSpec_sign (m : Mode) (N D R : Int) (hD : 0 < D) (h : ModeSpec m N D R) :
    (N ≤ 0 → R ≤ 0) ∧ (0 ≤ N → 0 ≤ R) := by
  obtain ⟨h1, h2⟩ := abs_lt.mp (modeSpec_near m N D R hD h)
  constructor <;> intro hN <;> by_contra hc <;> rw [not_le] at hc
  · have : D ≤ R * D := le_mul_of_one_le_left hD.le hc
    omega
  · have : R * D ≤ -D := by nlinarith
    omega

theorem modeSpec_ne_zero (m : Mode) (N D R : Int) (hD : 0 < D) (h : ModeSpec m N D R) (hN : D ≤ |N|) : R ≠ 0 := by
  rintro rfl
  have := modeSpec_near m N D 0 hD h
  rw [zero_mul, sub_zero] at this
  omega

theorem modeSpec_sign_strict (m : Mode) (N D n : Int) (hD : 0 < D) (h : ModeSpec m N D n) (hbig : D ≤ |N|) :
    (0 < N → 0 < n) ∧ (N < 0 → n < 0) := by
  have h0 := modeSpec_ne_zero m N D n hD h hbig
  obtain ⟨h1, h2⟩ := modeSpec_sign m N D n hD h
  exact ⟨fun hN => lt_of_le_of_ne (h2 hN.le) h0.symm, fun hN => lt_of_le_of_ne (h1 hN.le) h0⟩

theorem modeSpec_scale (m : Mode) (s K n E : Int) (hE : 0 < E) (h : ModeSpec m s K n) :
    ModeSpec m (s * E) (K * E) n := by
  have fl : IsFloor s K n → IsFloor (s * E) (K * E) n := fun h =>
    ⟨by rw [← mul_assoc]; exact mul_le_mul_of_nonneg_right h.1 hE.le,
     by rw [← mul_assoc]; exact mul_lt_mul_of_pos_right h.2 hE⟩
  have ce : IsCeil s K n → IsCeil (s * E) (K * E) n := fun h =>
    ⟨by rw [← mul_assoc]; exact mul_lt_mul_of_pos_right h.1 hE,
     by rw [← mul_assoc]; exact mul_le_mul_of_nonneg_right h.2 hE.le⟩
  have sg : 0 ≤ s * E ↔ 0 ≤ s := ⟨fun h => nonneg_of_mul_nonneg_left h hE, fun h => mul_nonneg h hE.le⟩
  have hab : |2 * (s * E) - 2 * (n * (K * E))| = |2 * s - 2 * (n * K)| * E := by
    rw [← abs_of_pos hE, ← abs_mul, abs_of_pos hE]; congr 1; ring
  have near : |2 * s - 2 * (n * K)| ≤ K → |2 * (s * E) - 2 * (n * (K * E))| ≤ K * E := fun h1 => by
    rw [hab]; exact mul_le_mul_of_nonneg_right h1 hE.le
  have tie : |2 * (s * E) - 2 * (n * (K * E))| = K * E → |2 * s - 2 * (n * K)| = K := fun ht => by
    rw [hab] at ht; exact mul_right_cancel₀ hE.ne' ht
  cases m <;> simp only [ModeSpec, IsTowardZero, IsAwayFromZero, sg] at h ⊢
  · split <;> rename_i h0 <;> simp only [h0, if_true, if_false] at h
    exacts [fl h, ce h]
  · split <;> rename_i h0 <;> simp only [h0, if_true, if_false] at h
    exacts [ce h, fl h]
  · exact ce h
  · exact fl h
  · exact ⟨near h.1, fun ht => h.2 (tie ht)⟩
  · refine ⟨near h.1, fun ht => ?_⟩
    rw [← mul_assoc, abs_mul, abs_mul, abs_of_pos hE]
    exact mul_lt_mul_of_pos_right (h.2 (tie ht)) hE

/-! ### the specification determines its result -/

theorem isCeil_unique (N d r r' : Int) (hd : 0 < d) (h : IsCeil N d r) (h' : IsCeil N d r') : r = r' := by
  unfold IsCeil at *
  have h1 : (r - 1) * d < r' * d := by linarith
  have h2 : (r' - 1) * d < r * d := by linarith
  have := lt_of_mul_lt_mul_right h1 (le_of_lt hd)
  have := lt_of_mul_lt_mul_right h2 (le_of_lt hd)
  omega

/-- two different nearest integers are adjacent and the quotient is exactly half-way between them -/
theorem nearest_step (N D r r' : Int) (hD : 0 < D) (h : r < r') (h1 : |2 * N - 2 * (r * D)| ≤ D)
    (h2 : |2 * N - 2 * (r' * D)| ≤ D) :
    r' = r + 1 ∧ 2 * N - 2 * (r * D) = D ∧ 2 * N - 2 * (r' * D) = -D := by
  have hk : 0 ≤ (r' - r - 1) * D := mul_nonneg (by omega) (le_of_lt hD)
  have e : (r' - r - 1) * D = r' * D - r * D - D := by ring
  rw [e] at hk
  obtain ⟨a1, a2⟩ := abs_le.mp h1
  obtain ⟨b1, b2⟩ := abs_le.mp h2
  have hz : r' * D - r * D - D = 0 := by omega
  rw [← e] at hz
  have : r' - r - 1 = 0 := by
    rcases mul_eq_zero.mp hz with h0 | h0
    · exact h0
    · omega
  refine ⟨by omega, by omega, by omega⟩

theorem nearest_tie_absurd_even (N D r r' : Int) (hD : 0 < D) (h : r < r')
    (h1 : IsNearestEven N D r) (h2 : IsNearestEven N D r') : False := by
  obtain ⟨e1, e2, e3⟩ := nearest_step N D r r' hD h h1.1 h2.1
  have a := h1.2 (by rw [e2]; exact abs_of_pos hD)
  have b := h2.2 (by rw [e3, abs_neg]; exact abs_of_pos hD)
  omega

theorem nearest_tie_absurd_away (N D r r' : Int) (hD : 0 < D) (h : r < r')
    (h1 : IsNearestAway N D r) (h2 : IsNearestAway N D r') : False := by
  obtain ⟨e1, e2, e3⟩ := nearest_step N D r r' hD h h1.1 h2.1
  have a := (abs_lt_abs_iff _ _).mp (h1.2 (by rw [e2]; exact abs_of_pos hD))
  have b := (abs_lt_abs_iff _ _).mp (h2.2 (by rw [e3, abs_neg]; exact abs_of_pos hD))
  -- `N` lies half-way between the multiples `r·D` and `r·D + D`, which have the same sign
  have hmult : r * D ≤ -D ∨ 0 ≤ r * D := by
    rcases le_or_gt r (-1) with hr | hr
    · left; nlinarith
    · right; exact mul_nonneg (by omega) (le_of_lt hD)
  subst e1
  rw [add_mul, one_mul] at b
  generalize r * D = F at *
  omega

theorem modeSpec_unique (m : Mode) (N D R R' : Int) (hD : 0 < D) (h : ModeSpec m N D R) (h' : ModeSpec m N D R') :
    R = R' := by
  cases m <;> simp only [ModeSpec, IsTowardZero, IsAwayFromZero] at h h'
  · split at h
    · rename_i hN; rw [if_pos hN] at h'; exact isFloor_unique N D R R' hD h h'
    · rename_i hN; rw [if_neg hN] at h'; exact isCeil_unique N D R R' hD h h'
  · split at h
    · rename_i hN; rw [if_pos hN] at h'; exact isCeil_unique N D R R' hD h h'
    · rename_i hN; rw [if_neg hN] at h'; exact isFloor_unique N D R R' hD h h'
  · exact isCeil_unique N D R R' hD h h'
  · exact isFloor_unique N D R R' hD h h'
  · rcases lt_trichotomy R R' with hlt | heq | hgt
    · exact absurd (nearest_tie_absurd_even N D R R' hD hlt h h') id
    · exact heq
    · exact absurd (nearest_tie_absurd_even N D R' R hD hgt h' h) id
  · rcases lt_trichotomy R R' with hlt | heq | hgt
    · exact absurd (nearest_tie_absurd_away N D R R' hD hlt h h') id
    · exact heq
    · exact absurd (nearest_tie_absurd_away N D R' R hD hgt h' h) id

end Dashu.Model.Float
