import Dashu.Proofs.Float.AddSplit
/-
  The two closing clauses of C03:
  * "when `x` is representable in `p` digits the result is exactly `x`" — a consequence of the
    contract (the result lies on the grid of the error unit), `Contract.representable_exact`,
    `ContractSqrt.representable_exact`;
  * "no result carries more than `p+1` significant digits" — digit-length lemmas per operation,
    saying exactly when the `p+1`-st digit can occur.
  After them, what else a contract gives (`near_of_contract`: a relative error; `contract_le_pow` / `contract_ge_pow`:
  no crossing of a power of the base) and `FBig::with_precision`.
-/
namespace Dashu.Model.Float

theorem bpowQ_lt_bpowQ (B : Nat) (hB : 2 ≤ B) (a b : Int) (h : bpowQ B a < bpowQ B b) : a < b := by
  rw [bpowQ_eq_zpow, bpowQ_eq_zpow] at h
  have h1 : (1 : ℚ) < (B : ℚ) := by exact_mod_cast (by omega : 1 < B)
  exact (zpow_lt_zpow_iff_right₀ h1).mp h

/-- a representable non-zero `x` with `B^(e+p-1) ≤ |x|` is an integer multiple of `B^e` -/
theorem representable_on_grid (B : Nat) (hB : 2 ≤ B) (p : Nat) (x : ℚ) (e : Int)
    (hrep : Representable B p x) (hulp : bpowQ B (e + p - 1) ≤ |x|) : ∃ N : Int, x = (N : ℚ) * bpowQ B e := by
  have hB0 : 0 < B := by omega
  obtain ⟨M, j, hM, hx⟩ := hrep
  have hu := bpowQ_pos B hB0 j
  have hlt : |x| < bpowQ B ((p : Int) + j) := by
    rw [hx, abs_mul, abs_of_pos hu, bpowQ_add B hB0, bpowQ_nat]
    apply mul_lt_mul_of_pos_right _ hu
    have : ((M.natAbs : Nat) : ℚ) < ((B ^ p : Nat) : ℚ) := by exact_mod_cast hM
    rw [← Int.cast_abs, ← Int.natCast_natAbs]
    exact_mod_cast this
  have hej : e + p - 1 < p + j := bpowQ_lt_bpowQ B hB _ _ (lt_of_le_of_lt hulp hlt)
  have hje : j = ((j - e).toNat : Int) + e := by
    rw [Int.toNat_of_nonneg (by omega)]; ring
  refine ⟨M * ((B ^ (j - e).toNat : Nat) : Int), ?_⟩
  rw [hx]
  conv_lhs => rw [hje]
  rw [bpowQ_add B hB0, bpowQ_nat]; push_cast; ring

/-- two multiples of `u > 0` closer than `u` are equal -/
theorem grid_eq (t N : Int) (u : ℚ) (hu : 0 < u) (h : |(t : ℚ) * u - (N : ℚ) * u| < u) : (t : ℚ) * u = (N : ℚ) * u := by
  have h1 : |((t - N : Int) : ℚ)| * u < 1 * u := by
    have : (t : ℚ) * u - (N : ℚ) * u = ((t - N : Int) : ℚ) * u := by push_cast; ring
    rw [this, abs_mul, abs_of_pos hu] at h
    linarith
  have h2 := lt_of_mul_lt_mul_right h1 (le_of_lt hu)
  have h3 : |t - N| < 1 := by
    have : ((|t - N| : Int) : ℚ) < ((1 : Int) : ℚ) := by rw [Int.cast_abs]; simpa using h2
    exact_mod_cast this
  have h4 : t - N = 0 := by
    have := abs_nonneg (t - N)
    have : |t - N| = 0 := by omega
    exact abs_eq_zero.mp this
  have : t = N := by omega
  rw [this]

/-- **first closing clause**: under the contract, a true result that is representable in `p` digits is
    returned exactly and flagged `Exact` -/
theorem Contract.representable_exact {B : Nat} {m : Mode} {p : Nat} {x r : ℚ} {flag : Option Rounding}
    (hB : 2 ≤ B) (h : Contract B m p x r flag) (hrep : Representable B p x) : r = x ∧ flag = none := by
  have hB0 : 0 < B := by omega
  by_cases hne : r = x
  · exact ⟨hne, h.exact_iff.mpr hne⟩
  · exfalso
    obtain ⟨e, hulp, herr, t, ht⟩ := h.err hne
    rw [absQ_eq] at hulp
    obtain ⟨N, hN⟩ := representable_on_grid B hB p x e hrep hulp
    have hu := bpowQ_pos B hB0 e
    apply hne
    rw [ht, hN]
    apply grid_eq t N _ hu
    rw [← ht, ← hN]
    unfold errOk at herr
    rw [absQ_eq] at herr
    by_cases hh : m.isHalf = true
    · simp only [hh, if_true] at herr
      have := abs_nonneg (r - x)
      linarith
    · simp only [hh, if_false, Bool.false_eq_true] at herr
      exact herr

theorem le_of_sq_le {a b : ℚ} (hb : 0 ≤ b) (h : a * a ≤ b * b) : a ≤ b :=
  le_of_not_gt fun hc => not_lt.mpr h (mul_self_lt_mul_self hb hc)

/-- the same for the square root: if `√v` is a number `w ≥ 0` representable in `p` digits, the result is `w`
    and it is flagged `Exact` -/
theorem ContractSqrt.representable_exact {B : Nat} {m : Mode} {p : Nat} {v r : ℚ} {flag : Option Rounding}
    (hB : 2 ≤ B) (h : ContractSqrt B m p v r flag) (w : ℚ) (hw0 : 0 ≤ w) (hrep : Representable B p w)
    (hwv : w * w = v) : r = w ∧ flag = none := by
  have hB0 : 0 < B := by omega
  by_cases hne : r * r = v
  · exact ⟨(mul_self_inj h.nonneg hw0).mp (hne.trans hwv.symm), h.exact_iff.mpr hne⟩
  · exfalso
    obtain ⟨e, hulp, herr, t, ht⟩ := h.err hne
    have hu := bpowQ_pos B hB0 e
    rw [← hwv] at hulp herr
    -- every comparison on squares is a comparison with `w ≥ 0`
    have hulp' : bpowQ B (e + p - 1) ≤ |w| := by
      rw [abs_of_nonneg hw0]; exact le_of_sq_le hw0 hulp
    obtain ⟨N, hN⟩ := representable_on_grid B hB p w e hrep hulp'
    apply hne
    have hrw : r = w := by
      rw [ht, hN]
      apply grid_eq t N _ hu
      rw [← ht, ← hN, abs_lt]
      unfold errSqrtOk leSqrt geSqrt ltSqrt gtSqrt at herr
      by_cases hh : m.isHalf = true
      · rw [if_pos hh] at herr
        have a : r - bpowQ B e / 2 ≤ w := herr.1.elim (fun h1 => le_trans h1 hw0) (le_of_sq_le hw0)
        have b : w ≤ r + bpowQ B e / 2 := le_of_sq_le herr.2.1 herr.2.2
        constructor <;> linarith
      · rw [if_neg hh] at herr
        have a : r - bpowQ B e < w :=
          herr.1.elim (fun h1 => lt_of_lt_of_le h1 hw0) (lt_of_mul_self_lt_mul_self₀ hw0)
        have b : w < r + bpowQ B e := lt_of_mul_self_lt_mul_self₀ herr.2.1 herr.2.2
        constructor <;> linarith
    rw [hrw, hwv]

/-! ### second closing clause: digit lengths -/

theorem neg_emod_zero_iff (s : Int) (B : Nat) : (-s) % (B : Int) = 0 ↔ s % (B : Int) = 0 := by
  constructor
  · intro h; exact Int.emod_eq_zero_of_dvd ((Int.dvd_neg).mp (Int.dvd_of_emod_eq_zero h))
  · intro h; exact Int.emod_eq_zero_of_dvd ((Int.dvd_neg).mpr (Int.dvd_of_emod_eq_zero h))

theorem stripAux_neg (B : Nat) : ∀ fuel (s e : Int),
    stripAux B fuel (-s) e = (-(stripAux B fuel s e).1, (stripAux B fuel s e).2) := by
  intro fuel
  induction fuel with
  | zero => intro s e; rfl
  | succ fuel ih =>
    intro s e
    unfold stripAux
    by_cases h : s % (B : Int) = 0
    · have h' : (-s) % (B : Int) = 0 := (neg_emod_zero_iff s B).mpr h
      simp only [h, h', if_true]
      rw [Int.neg_ediv_of_dvd (Int.dvd_of_emod_eq_zero h)]
      exact ih _ _
    · have h' : ¬ (-s) % (B : Int) = 0 := fun hc => h ((neg_emod_zero_iff s B).mp hc)
      simp only [h, h', if_false]

theorem new_neg (B : Nat) (t e : Int) : FRepr.new B (-t) e = (FRepr.new B t e).neg := by
  unfold FRepr.new FRepr.neg
  by_cases h : t = 0
  · subst h; simp
  · have h' : ¬ -t = 0 := by omega
    simp only [h, h', if_false, Int.natAbs_neg, stripAux_neg]

theorem digits_neg (B : Nat) (r : FRepr) : r.neg.digits B = r.digits B := by
  unfold FRepr.digits FRepr.neg digitsI; simp

/-- `Repr::new` of `|t| ≤ B^q` has at most `q` digits (`±B^q` normalises to `±1`) -/
theorem new_digits_le_abs (B : Nat) (hB : 2 ≤ B) (q : Nat) (hq : 1 ≤ q) (t e : Int)
    (h : |t| ≤ ((B ^ q : Nat) : Int)) : (FRepr.new B t e).digits B ≤ q := by
  rcases le_total 0 t with h0 | h0
  · rw [abs_of_nonneg h0] at h
    exact new_digits_le B hB q hq t e h0 h
  · rw [abs_of_nonpos h0] at h
    have := new_digits_le B hB q hq (-t) e (by omega) h
    rw [new_neg, digits_neg] at this
    exact this

theorem rInt_abs_le (a : Rounding) : |rInt a| ≤ 1 := by cases a <;> simp [rInt]

/-- the high part of `split_digits` : `|hi|·B^k ≤ |v|` -/
theorem split_hi_abs_le (B : Nat) (hB : 2 ≤ B) (v : Int) (k : Nat) :
    |(splitDigits B v k).1| * ((B ^ k : Nat) : Int) ≤ |v| := by
  obtain ⟨hsplit, _, hpos, hneg⟩ := splitDigits_spec B hB v k
  have := abs_same_sign_bound _ (splitDigits B v k).2 _ (natpow_pos B (by omega) k)
    ((le_total 0 v).imp (fun h => ⟨(hpos h).2, (hpos h).1⟩) (fun h => ⟨(hneg h).2, (hneg h).1⟩))
  rwa [← hsplit] at this

/-- splitting a number of `q + k` digits `k` digits from the end leaves fewer than `q+1` digits -/
theorem split_hi_lt (B : Nat) (hB : 2 ≤ B) (v : Int) (k q : Nat) (h : |v| < ((B ^ (q + k) : Nat) : Int)) :
    |(splitDigits B v k).1| < ((B ^ q : Nat) : Int) := by
  have h1 := split_hi_abs_le B hB v k
  have hD := natpow_pos B (by omega) k
  rw [natpow_add] at h
  exact lt_of_mul_lt_mul_right (lt_of_le_of_lt h1 h) (le_of_lt hD)

theorem abs_add_rInt_le (x : Int) (a : Rounding) (N : Int) (h : |x| < N) : |x + rInt a| ≤ N := by
  have h1 := abs_add_le x (rInt a)
  have h2 := rInt_abs_le a
  omega

theorem digitsI_abs_lt (B : Nat) (hB : 2 ≤ B) (v : Int) : |v| < ((B ^ digitsI B v : Nat) : Int) :=
  abs_lt_pow_of_digits B hB v _ le_rfl

/-- **`repr_round` never returns more than `p` digits** (any operand, normalised or not) -/
theorem reprRound_digits_le (B : Nat) (hB : 2 ≤ B) (m : Mode) (c : Coarse) (p : Nat) (hp : 1 ≤ p) (r : FRepr) :
    (reprRound B m c p r).1.digits B ≤ p := by
  unfold reprRound
  have hp0 : p ≠ 0 := by omega
  simp only [hp0, if_false]
  by_cases hd : r.digits B > p
  · simp only [hd, if_true]
    apply new_digits_le_abs B hB p hp
    apply abs_add_rInt_le
    apply split_hi_lt B hB
    have := digitsI_abs_lt B hB r.signif
    have e : p + (r.digits B - p) = digitsI B r.signif := by unfold FRepr.digits at *; omega
    rw [e]; exact this
  · simp only [hd, if_false]; omega

/-- `Repr::new` never has more digits than its argument -/
theorem new_digits_le_digits (B : Nat) (hB : 2 ≤ B) (t e : Int) (q : Nat) (hq : 1 ≤ q)
    (h : |t| < ((B ^ q : Nat) : Int)) : (FRepr.new B t e).digits B ≤ q :=
  new_digits_le_abs B hB q hq t e (le_of_lt h)

theorem sumFinish_digits_le (B : Nat) (hB : 2 ≤ B) (m : Mode) (c : Coarse) (q : Nat) (hq : 1 ≤ q)
    (s' e' lo' : Int) (k' : Nat) (h : |s'| < ((B ^ q : Nat) : Int)) :
    (sumFinish B m c s' e' lo' k').1.digits B ≤ q := by
  unfold sumFinish
  split
  · exact new_digits_le_digits B hB _ _ q hq h
  · exact new_digits_le_abs B hB q hq _ _ (abs_add_rInt_le _ _ _ h)

/-- **`repr_round_sum` returns at most `rnd_precision = p (+1 for a subtraction)` digits** -/
theorem reprRoundSum_digits_le (B : Nat) (hB : 2 ≤ B) (m : Mode) (c : Coarse) (p : Nat) (hp : 1 ≤ p)
    (s e lv : Int) (lk : Nat) (isSub : Bool) (hA : |lv| < ((B ^ lk : Nat) : Int)) :
    (reprRoundSum B m c p s e (lv, lk) isSub).1.digits B ≤ p + (if isSub = true then 1 else 0) := by
  have hB0 : 0 < B := by omega
  have hp0 : p ≠ 0 := by omega
  have hsd := digitsI_abs_lt B hB s
  unfold reprRoundSum
  simp only [shlDigits_eq]
  simp only [hp0, if_false]
  generalize hrnd : p + (if isSub = true then 1 else 0) = rndP at *
  have hr1 : 1 ≤ rndP := by rw [← hrnd]; omega
  by_cases h1 : digitsI B s = rndP
  · simp only [h1, if_true]
    rw [h1] at hsd
    exact sumFinish_digits_le B hB m c rndP hr1 _ _ _ _ hsd
  · simp only [h1, if_false]
    by_cases h2 : digitsI B s > rndP
    · simp only [h2, if_true]
      have hhi : |(splitDigits B s (digitsI B s - rndP)).1| < ((B ^ rndP : Nat) : Int) := by
        apply split_hi_lt B hB
        have e1 : rndP + (digitsI B s - rndP) = digitsI B s := by omega
        rw [e1]; exact hsd
      exact sumFinish_digits_le B hB m c rndP hr1 _ _ _ _ hhi
    · simp only [h2, if_false]
      by_cases hl0 : lv = 0
      · simp only [hl0, ne_eq, not_true_eq_false, if_false, if_true]
        apply new_digits_le_digits B hB _ _ rndP hr1
        have : ((B ^ digitsI B s : Nat) : Int) ≤ ((B ^ rndP : Nat) : Int) := pow_le_pow_int B hB0 _ _ (by omega)
        omega
      · simp only [hl0, ne_eq, not_false_eq_true, if_true]
        generalize hshift : min lk (rndP - digitsI B s) = sh at *
        have hshle : sh ≤ lk := by rw [← hshift]; omega
        have hshd : digitsI B s + sh ≤ rndP := by rw [← hshift]; omega
        -- |pad| < B^sh
        have hpad : |(splitDigits B lv (lk - sh)).1| < ((B ^ sh : Nat) : Int) := by
          apply split_hi_lt B hB
          have e1 : sh + (lk - sh) = lk := by omega
          rw [e1]; exact hA
        generalize splitDigits B lv (lk - sh) = pl at *
        have hDs := natpow_pos B hB0 sh
        -- |s·B^sh + pad| < B^(d+sh) ≤ B^rndP
        have hS : |s * ((B ^ sh : Nat) : Int) + pl.1| < ((B ^ rndP : Nat) : Int) := by
          have h3 : |s * ((B ^ sh : Nat) : Int) + pl.1| ≤ |s| * ((B ^ sh : Nat) : Int) + |pl.1| := by
            have := abs_add_le (s * ((B ^ sh : Nat) : Int)) pl.1
            rw [abs_mul, abs_of_pos hDs] at this; exact this
          have h4 : (|s| + 1) * ((B ^ sh : Nat) : Int) ≤ ((B ^ digitsI B s : Nat) : Int) * ((B ^ sh : Nat) : Int) :=
            Int.mul_le_mul_of_nonneg_right (by omega) (le_of_lt hDs)
          have e4 : (|s| + 1) * ((B ^ sh : Nat) : Int) = |s| * ((B ^ sh : Nat) : Int) + ((B ^ sh : Nat) : Int) := by ring
          have h5 : ((B ^ digitsI B s : Nat) : Int) * ((B ^ sh : Nat) : Int) ≤ ((B ^ rndP : Nat) : Int) := by
            rw [← natpow_add]; exact pow_le_pow_int B hB0 _ _ hshd
          omega
        exact sumFinish_digits_le B hB m c rndP hr1 _ _ _ _ hS

theorem two_le_ite (c : Prop) [Decidable c] (n : Nat) : 2 ≤ if c then 2 else n + 2 := by
  split <;> omega

theorem sgn_abs_one (v : Int) (hv : v ≠ 0) : |sgn v| = 1 := by
  rcases sgn_cases v hv with ⟨h, _⟩ | ⟨h, _⟩ <;> rw [h] <;> simp

/-- `repr_add_large_small`: at most `p` digits for an addition of magnitudes, `p+1` for a subtraction -/
theorem reprAddLargeSmall_digits_le (B : Nat) (hB : 2 ≤ B) (m : Mode) (c : Coarse) (dub : Int → Nat)
    (p : Nat) (hp : 1 ≤ p) (lhs rhs : FRepr) (rs : Int) (hrs : rs = 1 ∨ rs = -1) (hr0 : rhs.signif ≠ 0) :
    (reprAddLargeSmall B m c dub p lhs rhs rs).1.digits B ≤
      p + (if decide (sgn lhs.signif ≠ rs * sgn rhs.signif) = true then 1 else 0) := by
  have hB0 : 0 < B := by omega
  unfold reprAddLargeSmall
  simp only [shlDigits_eq]
  generalize decide (sgn lhs.signif ≠ rs * sgn rhs.signif) = isSub
  have hrsabs : ∀ v : Int, |rs * v| = |v| := fun v => abs_sign_mul rs v hrs
  try dsimp only
  by_cases h1 : p ≠ 0 ∧ dub rhs.signif + 1 < (lhs.exp - rhs.exp).toNat ∧
      dub rhs.signif + 1 + (p + if isSub = true then 1 else 0) < lhs.digits B + (lhs.exp - rhs.exp).toNat
  · rw [if_pos h1]
    -- far apart: stand-in ±1 with at least 2 digits
    apply reprRoundSum_digits_le B hB m c p hp
    rw [hrsabs, sgn_abs_one _ hr0]
    have h4 := four_le_sq B hB
    have : ((B ^ 2 : Nat) : Int) ≤ ((B ^ (if lhs.digits B ≥ p + (if isSub = true then 1 else 0) then 2
        else p + (if isSub = true then 1 else 0) - lhs.digits B + 2) : Nat) : Int) := by
      apply pow_le_pow_int B hB0
      exact two_le_ite _ _
    omega
  · rw [if_neg h1]
    by_cases h2 : p ≠ 0 ∧ lhs.digits B ≥ p
    · rw [if_pos h2]
      apply reprRoundSum_digits_le B hB m c p hp
      rw [hrsabs]
      exact (splitDigits_spec B hB rhs.signif _).2.1
    · rw [if_neg h2]
      by_cases h3 : p ≠ 0 ∧ (lhs.exp - rhs.exp).toNat + lhs.digits B > p
      · rw [if_pos h3]
        apply reprRoundSum_digits_le B hB m c p hp
        rw [hrsabs]
        exact (splitDigits_spec B hB rhs.signif _).2.1
      · rw [if_neg h3]
        apply reprRoundSum_digits_le B hB m c p hp
        simp

/-- **`Context::add` / `sub`: at most `p+1` digits, and at most `p` unless the operation is an effective
    subtraction (operands of opposite effective sign) of operands with different exponents** -/
theorem ctxAddSub_digits_le (B : Nat) (hB : 2 ≤ B) (m : Mode) (c : Coarse) (dub : Int → Nat)
    (p : Nat) (hp : 1 ≤ p) (lhs rhs : FRepr) (rs : Int) (hrs : rs = 1 ∨ rs = -1)
    (hwl : lhs.signif = 0 → lhs.exp = 0) (hwr : rhs.signif = 0 → rhs.exp = 0) :
    (ctxAddSub B m c dub p lhs rhs rs).1.digits B ≤ p + 1 ∧
    ((lhs.isZero = true ∨ rhs.isZero = true ∨ lhs.exp = rhs.exp ∨ sgn lhs.signif = rs * sgn rhs.signif) →
      (ctxAddSub B m c dub p lhs rhs rs).1.digits B ≤ p) := by
  unfold ctxAddSub
  by_cases hlz : lhs.isZero = true
  · simp only [hlz, if_true]
    have h1 : ∀ r, (reprRound B m c p r).1.digits B ≤ p := reprRound_digits_le B hB m c p hp
    constructor
    · split <;> exact Nat.le_succ_of_le (h1 _)
    · intro _; split <;> exact h1 _
  · simp only [hlz, if_false, Bool.false_eq_true]
    by_cases hrz : rhs.isZero = true
    · simp only [hrz, if_true]
      have := reprRound_digits_le B hB m c p hp lhs
      exact ⟨by omega, fun _ => this⟩
    · simp only [hrz, if_false, Bool.false_eq_true]
      have hl0 := signif_ne_zero lhs hwl hlz
      have hr0 := signif_ne_zero rhs hwr hrz
      by_cases he : lhs.exp = rhs.exp
      · simp only [he, if_true]
        have := reprRound_digits_le B hB m c p hp (FRepr.new B (lhs.signif + rs * rhs.signif) rhs.exp)
        exact ⟨by omega, fun _ => this⟩
      · simp only [he, if_false]
        by_cases hgt : lhs.exp > rhs.exp
        · simp only [hgt, if_true]
          have key := reprAddLargeSmall_digits_le B hB m c dub p hp lhs rhs rs hrs hr0
          constructor
          · split at key <;> omega
          · intro h  -- the first three alternatives have become `False`
            have hs : sgn lhs.signif = rs * sgn rhs.signif :=
              ((h.resolve_left not_false).resolve_left not_false).resolve_left not_false
            simpa [hs] using key
        · simp only [hgt, if_false]
          have key := reprAddLargeSmall_digits_le B hB m c dub p hp ⟨rs * rhs.signif, rhs.exp⟩ lhs 1 (Or.inl rfl) hl0
          simp only [one_mul, sgn_mul_sign rs rhs.signif hrs] at key
          constructor
          · split at key <;> omega
          · intro h
            have hs : rs * sgn rhs.signif = sgn lhs.signif :=
              (((h.resolve_left not_false).resolve_left not_false).resolve_left not_false).symm
            simpa [hs] using key

/-! ### division -/

theorem abs_tdiv_mul_le (a b : Int) : |Int.tdiv a b| * |b| ≤ |a| := by
  have := natAbs_tdiv_mul_le a b
  have h : (((Int.tdiv a b).natAbs * b.natAbs : Nat) : Int) ≤ ((a.natAbs : Nat) : Int) := by exact_mod_cast this
  push_cast at h
  simpa using h

theorem abs_tdiv_lt (r b D : Int) (hb : b ≠ 0) (hD : 0 < D) (hr : |r| < |b|) : |Int.tdiv (r * D) b| < D := by
  have h1 := abs_tdiv_mul_le (r * D) b
  rw [abs_mul, abs_of_pos hD] at h1
  have hbp : 0 < |b| := abs_pos.mpr hb
  have h2 : |r| * D < |b| * D := Int.mul_lt_mul_of_pos_right hr hD
  have h3 : |Int.tdiv (r * D) b| * |b| < D * |b| := by
    have : |b| * D = D * |b| := by ring
    omega
  exact lt_of_mul_lt_mul_right h3 (le_of_lt hbp)

/-- `|q|·|b| < B^(digits b + p)` leaves `q` fewer than `p+2` digits, since `B^(digits b − 1) ≤ |b|` -/
theorem quot_lt_of_mul_lt (B : Nat) (hB : 2 ≤ B) (p : Nat) (q b : Int) (hb : b ≠ 0)
    (hq : |q| * |b| < ((B ^ (digitsI B b + p) : Nat) : Int)) : |q| < ((B ^ (p + 1) : Nat) : Int) := by
  obtain ⟨hbdpos, hblo, _⟩ := digitsI_spec B hB b hb
  have e1 : ((B ^ (digitsI B b + p) : Nat) : Int) = ((B ^ (p + 1) : Nat) : Int) * ((B ^ (digitsI B b - 1) : Nat) : Int) := by
    rw [← natpow_add]; congr 2; omega
  have h2 : |q| * ((B ^ (digitsI B b - 1) : Nat) : Int) ≤ |q| * |b| := Int.mul_le_mul_of_nonneg_left hblo (abs_nonneg _)
  rw [e1] at hq
  exact lt_of_mul_lt_mul_right (lt_of_le_of_lt h2 hq) (le_of_lt (natpow_pos B (by omega) _))

/-- the integer quotient of a dividend of at most `digits b + p` digits has at most `p+1` digits -/
theorem tdiv_abs_lt (B : Nat) (hB : 2 ≤ B) (p : Nat) (a b : Int) (hb : b ≠ 0)
    (hfit : digitsI B a ≤ digitsI B b + p) : |Int.tdiv a b| < ((B ^ (p + 1) : Nat) : Int) :=
  quot_lt_of_mul_lt B hB p _ b hb
    (lt_of_le_of_lt (abs_tdiv_mul_le a b) (abs_lt_pow_of_digits B hB a _ hfit))

/-- the aligned quotient of `repr_div` has at most `p+1` digits when the dividend has at most
    `rhs.digits + p` digits, and at most `p` when the first quotient is non-zero and below `B^p` -/
theorem divAlign_quot_bound (B : Nat) (hB : 2 ≤ B) (p : Nat) (a b e : Int) (hb : b ≠ 0)
    (hfit : digitsI B a ≤ digitsI B b + p) (hr : Int.tmod a b ≠ 0) :
    |(divAlign B p b (Int.tdiv a b) (Int.tmod a b) e).1| < ((B ^ (p + 1) : Nat) : Int) ∧
    (Int.tdiv a b ≠ 0 → |Int.tdiv a b| < ((B ^ p : Nat) : Int) →
      |(divAlign B p b (Int.tdiv a b) (Int.tmod a b) e).1| < ((B ^ p : Nat) : Int)) := by
  have hB0 : 0 < B := by omega
  obtain ⟨hdec, hrlt⟩ := tdiv_tmod_nz a b hb
  have ha := digitsI_abs_lt B hB a
  have hq0 := tdiv_abs_lt B hB p a b hb hfit
  unfold divAlign
  simp only [shlDigits_eq]
  by_cases hq : Int.tdiv a b = 0
  · simp only [hq, if_true, ne_eq, not_true_eq_false, false_implies, and_true]
    have har : Int.tmod a b = a := by rw [hq] at hdec; omega
    rw [har] at hr hrlt ⊢
    obtain ⟨hadpos, halo, _⟩ := digitsI_spec B hB a hr
    have hrd : digitsI B a ≤ digitsI B b := by
      have h1 : ((B ^ (digitsI B a - 1) : Nat) : Int) < ((B ^ digitsI B b : Nat) : Int) := by
        have := digitsI_abs_lt B hB b; omega
      have h2 : B ^ (digitsI B a - 1) < B ^ digitsI B b := by exact_mod_cast h1
      have := (Nat.pow_lt_pow_iff_right (by omega : 1 < B)).mp h2
      omega
    apply quot_lt_of_mul_lt B hB p _ b hb
    have h1 := abs_tdiv_mul_le (a * ((B ^ (digitsI B b + p - digitsI B a) : Nat) : Int)) b
    rw [abs_mul, abs_of_pos (natpow_pos B hB0 _)] at h1
    have h2 : |a| * ((B ^ (digitsI B b + p - digitsI B a) : Nat) : Int) <
        ((B ^ digitsI B a : Nat) : Int) * ((B ^ (digitsI B b + p - digitsI B a) : Nat) : Int) :=
      Int.mul_lt_mul_of_pos_right ha (natpow_pos B hB0 _)
    have e2 : ((B ^ digitsI B a : Nat) : Int) * ((B ^ (digitsI B b + p - digitsI B a) : Nat) : Int) =
        ((B ^ (digitsI B b + p) : Nat) : Int) := by
      rw [← natpow_add]; congr 2; omega
    omega
  · simp only [hq, if_false]
    obtain ⟨hqdpos, hqlo, _⟩ := digitsI_spec B hB _ hq
    have hqhi := digitsI_abs_lt B hB (Int.tdiv a b)
    by_cases hsh : digitsI B (Int.tdiv a b) + digitsI B b < digitsI B b + p
    · simp only [hsh, if_true]
      have hs : digitsI B b + p - (digitsI B (Int.tdiv a b) + digitsI B b) = p - digitsI B (Int.tdiv a b) := by omega
      rw [hs]
      generalize hsn : p - digitsI B (Int.tdiv a b) = sh
      have hDs := natpow_pos B hB0 sh
      have hsmall : |Int.tdiv a b * ((B ^ sh : Nat) : Int) + Int.tdiv (Int.tmod a b * ((B ^ sh : Nat) : Int)) b| <
          ((B ^ p : Nat) : Int) := by
        have h1 := abs_add_le (Int.tdiv a b * ((B ^ sh : Nat) : Int)) (Int.tdiv (Int.tmod a b * ((B ^ sh : Nat) : Int)) b)
        rw [abs_mul, abs_of_pos hDs] at h1
        have h2 := abs_tdiv_lt (Int.tmod a b) b _ hb hDs hrlt
        have h3 : (|Int.tdiv a b| + 1) * ((B ^ sh : Nat) : Int) ≤
            ((B ^ digitsI B (Int.tdiv a b) : Nat) : Int) * ((B ^ sh : Nat) : Int) :=
          Int.mul_le_mul_of_nonneg_right (by omega) (le_of_lt hDs)
        have e3 : (|Int.tdiv a b| + 1) * ((B ^ sh : Nat) : Int) = |Int.tdiv a b| * ((B ^ sh : Nat) : Int) + ((B ^ sh : Nat) : Int) := by ring
        have e4 : ((B ^ digitsI B (Int.tdiv a b) : Nat) : Int) * ((B ^ sh : Nat) : Int) = ((B ^ p : Nat) : Int) := by
          rw [← natpow_add]; congr 2; omega
        omega
      have hpp : ((B ^ p : Nat) : Int) ≤ ((B ^ (p + 1) : Nat) : Int) := pow_le_pow_int B hB0 _ _ (by omega)
      exact ⟨by omega, fun _ _ => hsmall⟩
    · simp only [hsh, if_false]
      exact ⟨hq0, fun _ h => h⟩

/-- **`repr_div` returns at most `p+1` digits** for a dividend of at most `rhs.digits + p` digits, and at most
    `p` digits whenever the integer quotient of the significands is non-zero and below `B^p` — so for
    operands that fit `p` the `p+1`-st digit appears only when `|lhs.signif| < |rhs.signif|`. -/
theorem reprDiv_digits_le (B : Nat) (hB : 2 ≤ B) (m : Mode) (p : Nat) (hp : 1 ≤ p) (lhs rhs : FRepr)
    (hb : rhs.signif ≠ 0) (hfit : lhs.digits B ≤ rhs.digits B + p) :
    ∃ r, reprDiv B m p lhs rhs = .ok r ∧ r.1.digits B ≤ p + 1 ∧
      (Int.tdiv lhs.signif rhs.signif ≠ 0 → |Int.tdiv lhs.signif rhs.signif| < ((B ^ p : Nat) : Int) →
        r.1.digits B ≤ p) := by
  have hB0 : 0 < B := by omega
  have hp0 : p ≠ 0 := by omega
  unfold FRepr.digits at hfit
  unfold reprDiv
  simp only [hp0, hb, if_false]
  have hq0 := tdiv_abs_lt B hB p lhs.signif rhs.signif hb hfit
  by_cases hr0 : Int.tmod lhs.signif rhs.signif = 0
  · simp only [hr0, if_true]
    exact ⟨_, rfl, new_digits_le_digits B hB _ _ (p + 1) (by omega) hq0,
      fun _ h => new_digits_le_digits B hB _ _ p hp h⟩
  · simp only [hr0, if_false]
    obtain ⟨h1, h2⟩ := divAlign_quot_bound B hB p lhs.signif rhs.signif (lhs.exp - rhs.exp) hb hfit hr0
    generalize divAlign B p rhs.signif (Int.tdiv lhs.signif rhs.signif) (Int.tmod lhs.signif rhs.signif)
      (lhs.exp - rhs.exp) = t at *
    by_cases ht0 : t.2.1 = 0
    · simp only [ht0, if_true]
      exact ⟨_, rfl, new_digits_le_digits B hB _ _ (p + 1) (by omega) h1,
        fun a b => new_digits_le_digits B hB _ _ p hp (h2 a b)⟩
    · simp only [ht0, if_false]
      exact ⟨_, rfl, new_digits_le_abs B hB (p + 1) (by omega) _ _ (abs_add_rInt_le _ _ _ h1),
        fun a b => new_digits_le_abs B hB p hp _ _ (abs_add_rInt_le _ _ _ (h2 a b))⟩

/-! ### the operations that end in `repr_round`: at most `p` digits -/

theorem ctxMul_digits_le (fixed : Bool) (B : Nat) (hB : 2 ≤ B) (m : Mode) (c : Coarse) (p : Nat) (hp : 1 ≤ p)
    (a b : FRepr) : (ctxMul fixed B m c p a b).1.digits B ≤ p := by
  unfold ctxMul; exact reprRound_digits_le B hB m c p hp _

theorem ctxSqr_digits_le (fixed : Bool) (B : Nat) (hB : 2 ≤ B) (m : Mode) (c : Coarse) (p : Nat) (hp : 1 ≤ p)
    (a : FRepr) : (ctxSqr fixed B m c p a).1.digits B ≤ p := by
  unfold ctxSqr; exact reprRound_digits_le B hB m c p hp _

theorem ctxCubic_digits_le (fixed : Bool) (B : Nat) (hB : 2 ≤ B) (m : Mode) (c : Coarse) (p : Nat) (hp : 1 ≤ p)
    (a : FRepr) : (ctxCubic fixed B m c p a).1.digits B ≤ p := by
  unfold ctxCubic; exact reprRound_digits_le B hB m c p hp _

theorem ctxSqrt_digits_le (B : Nat) (hB : 2 ≤ B) (m : Mode) (c : Coarse) (sr : Nat → Nat × Nat) (p : Nat) (hp : 1 ≤ p)
    (x : FRepr) (hs : 0 ≤ x.signif) : ∃ r, ctxSqrt B m c sr p x = .ok r ∧ r.1.digits B ≤ p := by
  have hp0 : p ≠ 0 := by omega
  have hneg : ¬ x.signif < 0 := by omega
  unfold ctxSqrt
  simp only [hp0, hneg, if_false]
  exact ⟨_, rfl, reprRound_digits_le B hB m c p hp _⟩

/-! ### what a contract gives: relative error, and no crossing of a power of the base -/

/-- on the grid `g·ℤ`, strictly below is at least one unit below -/
theorem grid_succ_le {g : ℚ} (hg : 0 < g) {s t : Int} (h : (s : ℚ) * g < (t : ℚ) * g) :
    (s : ℚ) * g + g ≤ (t : ℚ) * g := by
  have hst : s < t := by exact_mod_cast lt_of_mul_lt_mul_right h hg.le
  have : ((s + 1 : Int) : ℚ) ≤ (t : ℚ) := by exact_mod_cast Int.add_one_le_iff.2 hst
  calc (s : ℚ) * g + g = ((s + 1 : Int) : ℚ) * g := by push_cast; ring
    _ ≤ (t : ℚ) * g := mul_le_mul_of_nonneg_right this hg.le

/-- the error clause of a contract over `|·|`: a unit `B^e` with `B^(e+p−1) ≤ |x|`, the result on its grid, less than
    one unit away, and at most half a unit in the two nearest modes -/
theorem Contract.unit {B : Nat} {m : Mode} {p : Nat} {x r : ℚ} {flag : Option Rounding} (hB0 : 0 < B)
    (h : Contract B m p x r flag) (hne : r ≠ x) :
    ∃ e : Int, bpowQ B (e + p - 1) ≤ |x| ∧ |r - x| < bpowQ B e ∧
      (m.isHalf = true → |r - x| ≤ bpowQ B e / 2) ∧ ∃ t : Int, r = (t : ℚ) * bpowQ B e := by
  obtain ⟨e, h1, h2, ht⟩ := h.err hne
  rw [absQ_eq] at h1
  have hpos := bpowQ_pos B hB0 e
  unfold errOk at h2
  rw [absQ_eq] at h2
  refine ⟨e, h1, ?_, fun hm => ?_, ht⟩
  · split_ifs at h2
    · linarith [abs_nonneg (r - x)]
    · exact h2
  · rw [if_pos hm] at h2; linarith

/-- a C03 contract at precision `q` is a relative error of at most `B^(1−q)` -/
theorem near_of_contract (B : Nat) (hB : 2 ≤ B) (m : Mode) (q : Nat) (x r : ℚ) (flag : Option Rounding)
    (h : Contract B m q x r flag) : |r - x| ≤ bpowQ B (1 - (q : Int)) * |x| := by
  have hB0 : 0 < B := by omega
  have hq := (bpowQ_pos B hB0 (1 - (q : Int))).le
  by_cases hrx : r = x
  · rw [hrx, sub_self, abs_zero]
    exact mul_nonneg hq (abs_nonneg _)
  · obtain ⟨e, h1, h2, _⟩ := h.unit hB0 hrx
    have hsplit : bpowQ B e = bpowQ B (1 - (q : Int)) * bpowQ B (e + q - 1) := by
      rw [← bpowQ_add B hB0]; congr 1; ring
    exact le_trans h2.le (hsplit ▸ mul_le_mul_of_nonneg_left h1 hq)

/-- what the error clause of a contract gives for a positive exact value: the unit `B^e ≤ x`, the result on its grid,
    strictly closer than one unit -/
theorem contract_unit {B : Nat} {m : Mode} {p : Nat} {x r : ℚ} {flag : Option Rounding} (hB : 2 ≤ B)
    (h : Contract B m p x r flag) (hx : 0 ≤ x) (hne : r ≠ x) :
    ∃ e : Int, bpowQ B (e + p - 1) ≤ x ∧ |r - x| < bpowQ B e ∧ ∃ t : Int, r = (t : ℚ) * bpowQ B e := by
  obtain ⟨e, h1, h2, _, ht⟩ := h.unit (by omega) hne
  exact ⟨e, abs_of_nonneg hx ▸ h1, h2, ht⟩

/- Both directions: `B^u` lies on the grid of the unit `B^e` of the contract, so a result strictly beyond it would be a
   whole unit beyond it, hence a unit away from `x`. -/

theorem contract_le_pow {B : Nat} {m : Mode} {p : Nat} {x r : ℚ} {flag : Option Rounding} (hB : 2 ≤ B) (hp : 1 ≤ p)
    (h : Contract B m p x r flag) (hx : 0 ≤ x) (u : Int) (hu : x ≤ bpowQ B u) : 0 ≤ r ∧ r ≤ bpowQ B u := by
  have hB0 : 0 < B := by omega
  by_cases hne : r = x
  · rw [hne]; exact ⟨hx, hu⟩
  · obtain ⟨e, h1, h2, t, ht⟩ := contract_unit hB h hx hne
    have hpe := bpowQ_pos B hB0 e
    have hee : bpowQ B e ≤ bpowQ B (e + p - 1) := bpowQ_mono B hB _ _ (by omega)
    obtain ⟨h2a, h2b⟩ := abs_lt.mp h2
    refine ⟨by linarith, ?_⟩
    have heu : e + p - 1 ≤ u := bpowQ_le_bpowQ B hB _ _ (le_trans h1 hu)
    have hsplit := bpowQ_split B hB e u (by omega)
    by_contra hc
    have := grid_succ_le hpe (s := ((B ^ (u - e).toNat : Nat) : Int)) (t := t) (by rw [← ht, ← hsplit]; exact lt_of_not_ge hc)
    rw [← ht, ← hsplit] at this
    linarith

theorem contract_ge_pow {B : Nat} {m : Mode} {p : Nat} {x r : ℚ} {flag : Option Rounding} (hB : 2 ≤ B) (hp : 1 ≤ p)
    (h : Contract B m p x r flag) (j : Int) (hj : bpowQ B j ≤ x) : bpowQ B j ≤ r := by
  have hB0 : 0 < B := by omega
  have hx : 0 ≤ x := le_trans (bpowQ_pos B hB0 j).le hj
  by_cases hne : r = x
  · rw [hne]; exact hj
  · obtain ⟨e, h1, h2, t, ht⟩ := contract_unit hB h hx hne
    have hpe := bpowQ_pos B hB0 e
    have hee : bpowQ B e ≤ bpowQ B (e + p - 1) := bpowQ_mono B hB _ _ (by omega)
    obtain ⟨h2a, h2b⟩ := abs_lt.mp h2
    rcases le_or_gt j e with hje | hje
    · have := grid_succ_le hpe (s := 0) (t := t) (by rw [← ht, Int.cast_zero, zero_mul]; linarith)
      rw [← ht, Int.cast_zero, zero_mul, zero_add] at this
      exact le_trans (bpowQ_mono B hB _ _ hje) this
    · have hsplit := bpowQ_split B hB e j hje.le
      by_contra hc
      have := grid_succ_le hpe (s := t) (t := ((B ^ (j - e).toNat : Nat) : Int)) (by rw [← ht, ← hsplit]; exact lt_of_not_ge hc)
      rw [← ht, ← hsplit] at this
      linarith

/-- a contract rounds a positive value to a positive value -/
theorem contract_pos {B : Nat} {m : Mode} {p : Nat} {x r : ℚ} {flag : Option Rounding} (hB : 2 ≤ B) (hp : 1 ≤ p)
    (h : Contract B m p x r flag) (hx : 0 < x) : 0 < r := by
  by_cases hne : r = x
  · rw [hne]; exact hx
  · obtain ⟨e, h1, h2, _, _⟩ := contract_unit hB h hx.le hne
    have hee : bpowQ B e ≤ bpowQ B (e + p - 1) := bpowQ_mono B hB _ _ (by omega)
    obtain ⟨h2a, _⟩ := abs_lt.mp h2
    linarith

/-- a positive significand: `B^(exp + digits − 1) ≤ value` -/
theorem toRat_ge (B : Nat) (hB : 2 ≤ B) (a : FRepr) (h0 : 0 < a.signif) :
    bpowQ B (a.exp + (digitsI B a.signif : Int) - 1) ≤ a.toRat B := by
  have hB0 : 0 < B := by omega
  obtain ⟨hd, hlo, _⟩ := digitsI_spec B hB a.signif (by omega)
  rw [abs_of_pos h0] at hlo
  have e : a.exp + (digitsI B a.signif : Int) - 1 = ((digitsI B a.signif - 1 : Nat) : Int) + a.exp := by omega
  rw [e, bpowQ_add B hB0, bpowQ_nat]
  unfold FRepr.toRat
  apply mul_le_mul_of_nonneg_right _ (bpowQ_pos B hB0 _).le
  exact_mod_cast hlo

/-! ### `FBig::with_precision`: `repr_round` at `p` when the source precision is larger or unlimited (`0`), else the operand

The precision field is `fWithPrecision_prec` (Core.lean). -/

theorem fWithPrecision_widen (B : Nat) (m : Mode) (c : Coarse) (x : FBigM) (p : Nat)
    (h : p = 0 ∨ (0 < x.prec ∧ x.prec ≤ p)) : fWithPrecision B m c x p = (⟨x.repr, p⟩, none) := by
  unfold fWithPrecision
  rcases h with h | h
  · subst h
    by_cases h0 : x.prec > 0
    · simp [h0, reprRound_unlimited]
    · simp [h0]
  · have : ¬ (x.prec > p ∨ (x.prec = 0 ∧ p > 0)) := by omega
    simp [this]

theorem fWithPrecision_contract (B : Nat) (hB : 2 ≤ B) (m : Mode) (c : Coarse) (hc : CoarseSound c)
    (x : FBigM) (hn : Normalized B x.repr) (p : Nat) (hp : 1 ≤ p) :
    Contract B m p (x.repr.toRat B) ((fWithPrecision B m c x p).1.repr.toRat B) (fWithPrecision B m c x p).2 := by
  unfold fWithPrecision
  split
  · exact reprRound_contract B hB m c hc p hp x.repr hn
  · exact contract_exact B m p _

/-- at most `p` digits (never `p + 1`), unless an operand of smaller limited precision is passed through with more -/
theorem fWithPrecision_digits_le (B : Nat) (hB : 2 ≤ B) (m : Mode) (c : Coarse) (x : FBigM) (p : Nat) (hp : 1 ≤ p)
    (h : x.prec > p ∨ x.prec = 0 ∨ x.repr.digits B ≤ p) : (fWithPrecision B m c x p).1.repr.digits B ≤ p := by
  unfold fWithPrecision
  split
  · exact reprRound_digits_le B hB m c p hp x.repr
  · next hk =>
    show x.repr.digits B ≤ p
    omega

end Dashu.Model.Float
