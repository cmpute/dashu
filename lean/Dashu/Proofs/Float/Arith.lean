import Dashu.Proofs.Float.ReprRound
/-
  C03: `Context::mul/sqr/cubic`, the operator `*`, and the parts of `Context::add/sub` that reduce to
  one rounding of the exact result.
-/
namespace Dashu.Model.Float

theorem toRat_mul (B : Nat) (hB : 0 < B) (a b : FRepr) :
    (FRepr.new B (a.signif * b.signif) (a.exp + b.exp)).toRat B = a.toRat B * b.toRat B := by
  rw [FRepr.new_value B hB, bpowQ_add B hB]
  unfold FRepr.toRat
  push_cast; ring

/-- `Context::mul` without the pre-shrink = the operator `*`: one rounding of the exact product -/
theorem ctxMul_fixed_eq_op (B : Nat) (m : Mode) (c : Coarse) (p : Nat) (a b : FRepr) :
    ctxMul true B m c p a b = opMul B m c p a b := rfl

theorem opMul_contract (B : Nat) (hB : 2 ≤ B) (m : Mode) (c : Coarse) (hc : CoarseSound c) (p : Nat) (hp : 1 ≤ p)
    (a b : FRepr) :
    Contract B m p (a.toRat B * b.toRat B) ((opMul B m c p a b).1.toRat B) (opMul B m c p a b).2 := by
  unfold opMul
  rw [← toRat_mul B (by omega)]
  exact reprRound_contract B hB m c hc p hp _ (FRepr.new_normalized B hB _ _)

/-- the pre-shrink is the identity in an unlimited context and on operands of at most `k·p` digits -/
theorem preShrink_fits (B : Nat) (m : Mode) (c : Coarse) (p k : Nat) (f : FRepr) (h : p = 0 ∨ f.digits B ≤ k * p) :
    preShrink B m c p k f = f := by
  unfold preShrink
  have : ¬ (p ≠ 0 ∧ f.digits B > k * p) := by omega
  simp [this]

theorem ctxMul_asis (B : Nat) (m : Mode) (c : Coarse) (p : Nat) (a b : FRepr)
    (ha : a.digits B ≤ 2 * p) (hb : b.digits B ≤ 2 * p) : ctxMul false B m c p a b = ctxMul true B m c p a b := by
  unfold ctxMul
  simp [preShrink_fits B m c p 2 a (.inr ha), preShrink_fits B m c p 2 b (.inr hb)]

theorem ctxSqr_contract (B : Nat) (hB : 2 ≤ B) (m : Mode) (c : Coarse) (hc : CoarseSound c) (p : Nat) (hp : 1 ≤ p)
    (a : FRepr) :
    Contract B m p (a.toRat B * a.toRat B) ((ctxSqr true B m c p a).1.toRat B) (ctxSqr true B m c p a).2 := by
  unfold ctxSqr
  simp only [if_true]
  have : (2 : Int) * a.exp = a.exp + a.exp := by ring
  rw [this, ← toRat_mul B (by omega)]
  exact reprRound_contract B hB m c hc p hp _ (FRepr.new_normalized B hB _ _)

theorem ctxSqr_asis (B : Nat) (m : Mode) (c : Coarse) (p : Nat) (a : FRepr) (ha : a.digits B ≤ 2 * p) :
    ctxSqr false B m c p a = ctxSqr true B m c p a := by
  unfold ctxSqr
  simp [preShrink_fits B m c p 2 a (.inr ha)]

theorem ctxCubic_contract (B : Nat) (hB : 2 ≤ B) (m : Mode) (c : Coarse) (hc : CoarseSound c) (p : Nat) (hp : 1 ≤ p)
    (a : FRepr) :
    Contract B m p (a.toRat B * a.toRat B * a.toRat B) ((ctxCubic true B m c p a).1.toRat B)
      (ctxCubic true B m c p a).2 := by
  unfold ctxCubic
  simp only [if_true]
  have hB0 : 0 < B := by omega
  have hv : (FRepr.new B (a.signif * a.signif * a.signif) (3 * a.exp)).toRat B =
      a.toRat B * a.toRat B * a.toRat B := by
    rw [FRepr.new_value B hB0, show (3 : Int) * a.exp = a.exp + a.exp + a.exp by ring, bpowQ_add B hB0, bpowQ_add B hB0]
    unfold FRepr.toRat
    push_cast; ring
  rw [← hv]
  exact reprRound_contract B hB m c hc p hp _ (FRepr.new_normalized B hB _ _)

theorem ctxCubic_asis (B : Nat) (m : Mode) (c : Coarse) (p : Nat) (a : FRepr) (ha : a.digits B ≤ 3 * p) :
    ctxCubic false B m c p a = ctxCubic true B m c p a := by
  unfold ctxCubic
  simp [preShrink_fits B m c p 3 a (.inr ha)]

/-! ### add / sub -/

theorem toRat_neg (B : Nat) (r : FRepr) : r.neg.toRat B = - r.toRat B := by
  unfold FRepr.neg FRepr.toRat; push_cast; ring

theorem toRat_zero_of_isZero (B : Nat) (r : FRepr) (h : r.isZero = true) : r.toRat B = 0 := by
  unfold FRepr.isZero at h
  have : r.signif = 0 := by
    have := (Bool.and_eq_true _ _).mp h
    simpa using this.1
  unfold FRepr.toRat; rw [this]; simp

theorem neg_normalized (B : Nat) (r : FRepr) (h : Normalized B r) : Normalized B r.neg := by
  unfold Normalized FRepr.neg at *
  rcases h with h | h
  · left; simp [h]
  · right
    intro h2
    apply h
    have h3 : (B : Int) ∣ -r.signif := Int.dvd_of_emod_eq_zero h2
    exact Int.emod_eq_zero_of_dvd ((Int.dvd_neg).mp h3)

/-- `Context::add` / `sub` when one operand is zero or the exponents are equal: one `repr_round` of the
    exact result -/
theorem addSub_simple_contract (B : Nat) (hB : 2 ≤ B) (m : Mode) (c : Coarse) (hc : CoarseSound c)
    (dub : Int → Nat) (p : Nat) (hp : 1 ≤ p) (lhs rhs : FRepr) (rs : Int) (hrs : rs = 1 ∨ rs = -1)
    (hl : Normalized B lhs) (hr : Normalized B rhs)
    (h : lhs.isZero = true ∨ rhs.isZero = true ∨ lhs.exp = rhs.exp) :
    Contract B m p (lhs.toRat B + (rs : ℚ) * rhs.toRat B)
      ((ctxAddSub B m c dub p lhs rhs rs).1.toRat B) (ctxAddSub B m c dub p lhs rhs rs).2 := by
  have hB0 : 0 < B := by omega
  unfold ctxAddSub
  by_cases hlz : lhs.isZero = true
  · simp only [hlz, if_true]
    rw [toRat_zero_of_isZero B lhs hlz, zero_add]
    rcases hrs with h1 | h1
    · subst h1; simp only [if_true]
      have : ((1 : Int) : ℚ) * rhs.toRat B = rhs.toRat B := by simp
      rw [this]
      exact reprRound_contract B hB m c hc p hp rhs hr
    · subst h1
      have hne : ¬ ((-1 : Int) = 1) := by omega
      simp only [hne, if_false]
      have : ((-1 : Int) : ℚ) * rhs.toRat B = rhs.neg.toRat B := by rw [toRat_neg]; simp
      rw [this]
      exact reprRound_contract B hB m c hc p hp rhs.neg (neg_normalized B rhs hr)
  · simp only [hlz, if_false, Bool.false_eq_true]
    by_cases hrz : rhs.isZero = true
    · simp only [hrz, if_true]
      rw [toRat_zero_of_isZero B rhs hrz, mul_zero, add_zero]
      exact reprRound_contract B hB m c hc p hp lhs hl
    · simp only [hrz, if_false, Bool.false_eq_true]
      have he : lhs.exp = rhs.exp := by
        rcases h with h | h | h
        · exact absurd h hlz
        · exact absurd h hrz
        · exact h
      simp only [he, if_true]
      have hv : (FRepr.new B (lhs.signif + rs * rhs.signif) rhs.exp).toRat B =
          lhs.toRat B + (rs : ℚ) * rhs.toRat B := by
        rw [FRepr.new_value B hB0]
        unfold FRepr.toRat
        rw [he]; push_cast; ring
      rw [← hv]
      exact reprRound_contract B hB m c hc p hp _ (FRepr.new_normalized B hB _ _)

/-- `Context::repr_round_sum` without a low part (the alignment kept every digit): one rounding of the
    exact sum at `rnd_precision = p (+1 for a subtraction)` digits — the contract at `p` digits -/
theorem reprRoundSum_nolow_contract (B : Nat) (hB : 2 ≤ B) (m : Mode) (c : Coarse) (hc : CoarseSound c)
    (p : Nat) (hp : 1 ≤ p) (s e : Int) (isSub : Bool) :
    Contract B m p ((s : ℚ) * bpowQ B e) ((reprRoundSum B m c p s e (0, 0) isSub).1.toRat B)
      (reprRoundSum B m c p s e (0, 0) isSub).2 := by
  have hB0 : 0 < B := by omega
  have hp0 : p ≠ 0 := by omega
  unfold reprRoundSum
  try simp only [shlDigits_eq, shrDigits_eq]
  simp only [hp0, if_false]
  generalize hrnd : p + (if isSub = true then 1 else 0) = rndP
  have hrp : p ≤ rndP := by rw [← hrnd]; omega
  by_cases h1 : digitsI B s = rndP
  · simp only [h1, if_true]
    rw [FRepr.new_value B hB0]; exact contract_exact B m p _
  · simp only [h1, if_false]
    by_cases h2 : digitsI B s > rndP
    · simp only [h2, if_true, zero_add, pow_zero, Nat.cast_one, mul_one]
      have hs0 : s ≠ 0 := by
        intro h; rw [h, digitsI_zero] at h2; omega
      obtain ⟨_, hlo, _⟩ := digitsI_spec B hB s hs0
      obtain ⟨hsplit, hlt, _, _⟩ := splitDigits_spec B hB s (digitsI B s - rndP)
      by_cases h3 : (splitDigits B s (digitsI B s - rndP)).2 = 0
      · simp only [h3, if_true]
        rw [FRepr.new_value B hB0, bpowQ_add B hB0, bpowQ_nat]
        have hv : ((splitDigits B s (digitsI B s - rndP)).1 : ℚ) * (bpowQ B e * ((B ^ (digitsI B s - rndP) : Nat) : ℚ)) =
            (s : ℚ) * bpowQ B e := by
          rw [h3, add_zero] at hsplit
          conv_rhs => rw [hsplit]
          push_cast; ring
        rw [hv]
        exact contract_exact B m p _
      · simp only [h3, if_false]
        have hulp : ((B ^ (digitsI B s - rndP) : Nat) : Int) * ((B ^ (p - 1) : Nat) : Int) ≤
            |(splitDigits B s (digitsI B s - rndP)).1 * ((B ^ (digitsI B s - rndP) : Nat) : Int) +
              (splitDigits B s (digitsI B s - rndP)).2| := by
          rw [← hsplit]
          have hle : B ^ (digitsI B s - rndP) * B ^ (p - 1) ≤ B ^ (digitsI B s - 1) := by
            rw [← Nat.pow_add]; exact Nat.pow_le_pow_right hB0 (by omega)
          calc ((B ^ (digitsI B s - rndP) : Nat) : Int) * ((B ^ (p - 1) : Nat) : Int)
              ≤ ((B ^ (digitsI B s - 1) : Nat) : Int) := by exact_mod_cast hle
            _ ≤ |s| := hlo
        have key := round_at_contract B hB m c hc p hp _ _ (digitsI B s - rndP) e h3 hlt hulp
        rw [← hsplit] at key
        exact key
    · simp only [h2, if_false, ne_eq, not_true_eq_false, if_true]
      rw [FRepr.new_value B hB0]; exact contract_exact B m p _

/-- `repr_add_large_small` when the aligned operands fit the precision (`ediff + ldigits ≤ p`): the
    alignment keeps every digit and the exact sum is rounded once -/
theorem reprAddLargeSmall_aligned (B : Nat) (hB : 2 ≤ B) (m : Mode) (c : Coarse) (hc : CoarseSound c)
    (dub : Int → Nat) (p : Nat) (hp : 1 ≤ p) (lhs rhs : FRepr) (rs : Int)
    (hgt : rhs.exp < lhs.exp) (hkeep : (lhs.exp - rhs.exp).toNat + lhs.digits B ≤ p) :
    Contract B m p (lhs.toRat B + (rs : ℚ) * rhs.toRat B)
      ((reprAddLargeSmall B m c dub p lhs rhs rs).1.toRat B) (reprAddLargeSmall B m c dub p lhs rhs rs).2 := by
  have hB0 : 0 < B := by omega
  have hed : 1 ≤ (lhs.exp - rhs.exp).toNat := by omega
  unfold reprAddLargeSmall
  try simp only [shlDigits_eq, shrDigits_eq]
  generalize hsub : decide (sgn lhs.signif ≠ rs * sgn rhs.signif) = isSub
  have h1 : ¬ (p ≠ 0 ∧ dub rhs.signif + 1 < (lhs.exp - rhs.exp).toNat ∧
      dub rhs.signif + 1 + (p + if isSub = true then 1 else 0) < lhs.digits B + (lhs.exp - rhs.exp).toNat) := by
    intro h; omega
  have h2 : ¬ (p ≠ 0 ∧ lhs.digits B ≥ p) := by intro h; omega
  have h3 : ¬ (p ≠ 0 ∧ (lhs.exp - rhs.exp).toNat + lhs.digits B > p) := by intro h; omega
  simp only [h1, h2, h3, if_false]
  rw [toRat_add_aligned B hB0 lhs rhs rs _ (Int.toNat_of_nonneg (by omega))]
  exact reprRoundSum_nolow_contract B hB m c hc p hp _ _ isSub

theorem digits_mul_sign (B : Nat) (v rs : Int) (hrs : rs = 1 ∨ rs = -1) : digitsI B (rs * v) = digitsI B v := by
  unfold digitsI
  rcases hrs with h | h <;> subst h <;> simp

/-! ### `Context::add` / `sub` on non-zero operands of different exponents: `repr_add_large_small`, larger exponent first -/

theorem not_isZero_of_signif_ne (r : FRepr) (h : r.signif ≠ 0) : ¬ r.isZero = true := by
  unfold FRepr.isZero; simp [h]

theorem ctxAddSub_large (B : Nat) (m : Mode) (c : Coarse) (dub : Int → Nat) (p : Nat) (lhs rhs : FRepr) (rs : Int)
    (hlz : ¬ lhs.isZero = true) (hrz : ¬ rhs.isZero = true) (hgt : rhs.exp < lhs.exp) :
    ctxAddSub B m c dub p lhs rhs rs = reprAddLargeSmall B m c dub p lhs rhs rs := by
  unfold ctxAddSub
  rw [if_neg hlz, if_neg hrz, if_neg (by omega), if_pos hgt]

/-- the other order: the signed right operand goes first, and what the theorems about `repr_add_large_small` ask of it
    (value of the sum, digits, non-zero) is what they ask of `rhs` -/
theorem ctxAddSub_swapped (B : Nat) (m : Mode) (c : Coarse) (dub : Int → Nat) (p : Nat) (lhs rhs : FRepr) (rs : Int)
    (hrs : rs = 1 ∨ rs = -1) (hlz : ¬ lhs.isZero = true) (hrz : ¬ rhs.isZero = true) (hlt : lhs.exp < rhs.exp) :
    ctxAddSub B m c dub p lhs rhs rs = reprAddLargeSmall B m c dub p ⟨rs * rhs.signif, rhs.exp⟩ lhs 1 ∧
    (⟨rs * rhs.signif, rhs.exp⟩ : FRepr).toRat B + ((1 : Int) : ℚ) * lhs.toRat B =
      lhs.toRat B + (rs : ℚ) * rhs.toRat B ∧
    (⟨rs * rhs.signif, rhs.exp⟩ : FRepr).digits B = rhs.digits B ∧
    (rhs.signif ≠ 0 → rs * rhs.signif ≠ 0) := by
  refine ⟨?_, ?_, digits_mul_sign B _ _ hrs, fun h => ?_⟩
  · unfold ctxAddSub
    rw [if_neg hlz, if_neg hrz, if_neg (by omega), if_neg (by omega)]
  · unfold FRepr.toRat; push_cast; ring
  · rcases hrs with rfl | rfl <;> simpa using h

end Dashu.Model.Float
