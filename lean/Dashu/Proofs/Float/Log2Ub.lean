import Dashu.Proofs.Float.F32
/-
  The UPPER `log2_bounds` estimate of the std path of `base/src/math/log.rs` (`impl_log2_bounds_for_uint!`, every unsigned
  primitive up to `u128`, i.e. every inline significand), written with the concrete binary32 rounding `rne32`, and the proof
  that it is an upper bound of `log₂ n` — assumption (A) of `Props/C10Est.lean` — from a hypothesis about libm's `log2f` ALONE:

      if n.is_power_of_two()        { trailing_zeros as f32 }
      else if nbits <= 24           { next_up((n as f32).log2()) }
      else { shifted = (n >> (nbits-24)) as f32;  next_up((shifted + 1.).log2() + (nbits-24) as f32) }

  (LIBM↑)  for every integer `1 ≤ m ≤ 2²⁴`: `log₂ m ≤ next_up(log2f m)` (at most one ulp too small), and for `2²³ < m ≤ 2²⁴`
           the result is a binary32 number of `[16, 32)` (true of any `log2f` with an error below 7: the exact value is in (23, 24]).
  Everything else — the conversions, `shifted + 1.`, the sum `est + shift`, `next_up` — is IEEE arithmetic and proved.
-/
namespace Dashu.Model.Float

/-- the hypothesis about libm's `log2f` (upper side) -/
structure Log2fUpper (log2f : ℝ → ℝ) : Prop where
  acc : ∀ m : Nat, 1 ≤ m → m ≤ 2 ^ 24 → Real.logb 2 m ≤ nextUp32 (log2f m)
  grid : ∀ m : Nat, 2 ^ 23 < m → m ≤ 2 ^ 24 →
    ∃ z : ℤ, 8388608 ≤ z ∧ z < 16777216 ∧ log2f m = (z : ℝ) * (2 : ℝ) ^ (-19 : ℤ)

/-- `log2_bounds(n).1` of the std path, every `f32` operation an `rne32` -/
noncomputable def log2UbStd (log2f : ℝ → ℝ) (n : Nat) : ℝ :=
  let nbits := Nat.log2 n + 1
  if n = 2 ^ (nbits - 1) then rne32 ((nbits - 1 : Nat) : ℝ)
  else if nbits ≤ 24 then nextUp32 (log2f (rne32 (n : ℝ)))
  else nextUp32 (rne32 (log2f (rne32 (rne32 ((n / 2 ^ (nbits - 24) : Nat) : ℝ) + 1)) + rne32 ((nbits - 24 : Nat) : ℝ)))

theorem logb_two_pow (j : Nat) : Real.logb 2 ((2 ^ j : Nat) : ℝ) = j := by
  push_cast
  rw [Real.logb_pow, Real.logb_self_eq_one (by norm_num), mul_one]

/-- `shifted = n >> (nbits − 24)` has exactly 24 bits -/
theorem shifted_bounds (n s : Nat) (hn : n ≠ 0) (hs : Nat.log2 n = s + 23) : 2 ^ 23 ≤ n / 2 ^ s ∧ n / 2 ^ s < 2 ^ 24 := by
  have h1 : 2 ^ Nat.log2 n ≤ n := Nat.log2_self_le hn
  have h2 : n < 2 ^ (Nat.log2 n + 1) := Nat.lt_log2_self
  have hpow : 0 < 2 ^ s := by positivity
  constructor
  · rw [Nat.le_div_iff_mul_le hpow, ← Nat.pow_add, show 23 + s = Nat.log2 n by omega]
    exact h1
  · rw [Nat.div_lt_iff_lt_mul hpow, ← Nat.pow_add, show 24 + s = Nat.log2 n + 1 by omega]
    exact h2

/-- **(A) for every inline significand from the libm hypothesis alone** -/
theorem log2UbStd_sound (log2f : ℝ → ℝ) (h : Log2fUpper log2f) (n : Nat) (hn : 0 < n) (hbits : Nat.log2 n + 1 ≤ 2 ^ 24) :
    Real.logb 2 n ≤ log2UbStd log2f n := by
  have h1 : 2 ^ Nat.log2 n ≤ n := Nat.log2_self_le (by omega)
  have h2 : n < 2 ^ (Nat.log2 n + 1) := Nat.lt_log2_self
  unfold log2UbStd
  simp only [Nat.add_sub_cancel]
  by_cases hp : n = 2 ^ Nat.log2 n
  · rw [if_pos hp, rne32_natCast _ (by omega)]
    conv_lhs => rw [hp]
    exact le_of_eq (logb_two_pow _)
  · rw [if_neg hp]
    by_cases h24 : Nat.log2 n + 1 ≤ 24
    · rw [if_pos h24]
      have hlt : n < 2 ^ 24 := lt_of_lt_of_le h2 (Nat.pow_le_pow_right (by norm_num) h24)
      rw [rne32_natCast n (le_of_lt hlt)]
      exact h.acc n hn (le_of_lt hlt)
    · rw [if_neg h24]
      obtain ⟨s, hs⟩ : ∃ s, Nat.log2 n + 1 = s + 24 := ⟨Nat.log2 n + 1 - 24, by omega⟩
      rw [show Nat.log2 n + 1 - 24 = s by omega]
      obtain ⟨hlo, hhi⟩ := shifted_bounds n s (by omega) (by omega)
      set shifted := n / 2 ^ s
      have hnlt : n < (shifted + 1) * 2 ^ s := (Nat.div_lt_iff_lt_mul (by positivity)).mp (Nat.lt_succ_self _)
      -- the conversions and `shifted + 1.` are exact
      rw [rne32_natCast shifted (le_of_lt hhi), rne32_natCast s (by omega)]
      have e1 : (shifted : ℝ) + 1 = ((shifted + 1 : Nat) : ℝ) := by push_cast; ring
      rw [e1, rne32_natCast (shifted + 1) (by omega)]
      obtain ⟨z, hz1, hz2, hz⟩ := h.grid (shifted + 1) (by omega) (by omega)
      have hacc := h.acc (shifted + 1) (by omega) (by omega)
      rw [hz] at hacc ⊢
      have hG := grid_fact z s hz1 hz2
      -- log₂ n ≤ log₂ ((shifted+1)·2^s) = log₂ (shifted+1) + s
      have hnR : (0 : ℝ) < (n : ℝ) := by exact_mod_cast hn
      have a1 : Real.logb 2 n ≤ Real.logb 2 (((shifted + 1) * 2 ^ s : Nat) : ℝ) :=
        Real.logb_le_logb_of_le (by norm_num) hnR (by exact_mod_cast (le_of_lt hnlt))
      rw [logb_two_mul_pow (shifted + 1) s (by omega)] at a1
      linarith

end Dashu.Model.Float
