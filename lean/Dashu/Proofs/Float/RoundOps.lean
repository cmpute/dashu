import Dashu.Proofs.Float.ReprRound
/-
  What the theorems about `FBig::{trunc, floor, ceil, round, fract, split_at_point, to_int}` and `Repr::to_int`
  (`Unobservable.lean`, `FBigOps.lean`, `Props/C10`) share: a float with a negative exponent is `s / D` with
  `D = B^(-exp)` (`pointUnit`); splitting at the point and adjusting by `round_fract` is the mode's rounding of `s / D`
  (`splitRound_modeSpec`); what `smaller_than_one` guarantees for a sound `digits_ub` (`smaller_*`).  And the rational
  `trunc/floor/ceil/round` against the relational specifications of `Props/GenRound.lean` (`IsFloor num den t`, …).
-/
namespace Dashu.Model.Float
open Dashu.Props.GenRound

/-- the unit of the radix point: `B^(-exp)` -/
def pointUnit (B : Nat) (r : FRepr) : Int := ((B ^ (-r.exp).toNat : Nat) : Int)

theorem pointUnit_pos (B : Nat) (hB : 2 ≤ B) (r : FRepr) : 0 < pointUnit B r := by
  unfold pointUnit
  have : 0 < B ^ (-r.exp).toNat := Nat.pow_pos (by omega)
  exact_mod_cast this

/-- value of a float with negative exponent: `s / D` -/
theorem toRat_neg_exp (B : Nat) (hB : 2 ≤ B) (r : FRepr) (he : r.exp < 0) :
    r.toRat B * (pointUnit B r : ℚ) = (r.signif : ℚ) := by
  unfold FRepr.toRat pointUnit
  have hB0 : 0 < B := by omega
  have h1 : ((B ^ (-r.exp).toNat : Nat) : ℚ) = bpowQ B (-r.exp) := by
    rw [← bpowQ_nat, Int.toNat_of_nonneg (by omega)]
  push_cast at h1 ⊢
  rw [mul_assoc, h1, ← bpowQ_add B hB0]
  simp [bpowQ]

/-- `round_fract` names the right neighbour also when the fraction is zero -/
theorem roundFract_spec' (B : Nat) (hB : 2 ≤ B) (m : Mode) (c : Coarse) (hc : CoarseSound c) (n f : Int) (k : Nat)
    (hlt : |f| < ((B ^ k : Nat) : Int)) :
    ModeSpec m (n * ((B ^ k : Nat) : Int) + f) ((B ^ k : Nat) : Int) (n + rInt (roundFract B m c n f k)) := by
  by_cases hf : f = 0
  · subst hf
    rw [roundFract_zero]
    have hD := natpow_pos B (by omega) k
    simpa [rInt] using modeSpec_exact m n _ hD
  · exact roundFract_spec B (by omega) m c hc n f k hf hlt

/-- dropping `k` digits (`split_digits`) and adjusting by `round_fract` is the mode's rounding of `s / B^k`: the step shared by
    the integer roundings of `FBig`, `to_int` and the printers -/
theorem splitRound_modeSpec (B : Nat) (hB : 2 ≤ B) (m : Mode) (c : Coarse) (hc : CoarseSound c) (s : Int) (k : Nat) :
    ModeSpec m s ((B ^ k : Nat) : Int)
      ((splitDigits B s k).1 + rInt (roundFract B m c (splitDigits B s k).1 (splitDigits B s k).2 k)) := by
  obtain ⟨hsplit, hlt, -⟩ := splitDigits_spec B hB s k
  have h := roundFract_spec' B hB m c hc (splitDigits B s k).1 (splitDigits B s k).2 k hlt
  rwa [← hsplit] at h

/-- a significand not divisible by the base leaves a non-zero low part when at least one digit is split off: `s = hi·B^k + lo`, `lo ≠ 0` -/
theorem fract_part_ne_zero (B : Nat) (s hi lo : Int) (k : Nat) (hk : 1 ≤ k)
    (hs : s = hi * ((B ^ k : Nat) : Int) + lo) (hn : s % (B : Int) ≠ 0) : lo ≠ 0 := by
  intro h0
  apply hn
  rw [hs, h0, add_zero]
  have : k = (k - 1) + 1 := by omega
  rw [this, Nat.pow_succ]; push_cast
  rw [← mul_assoc]
  exact Int.mul_emod_left _ _

/-- what `smaller_than_one` guarantees (for a sound `digits_ub`): `B²·|s| < D`, in particular
    `|x| < 1/4` -/
theorem smaller_bound (B : Nat) (hB : 2 ≤ B) (dub : Int → Nat) (hdub : DubSound B dub) (r : FRepr)
    (hsm : r.exp + (dub r.signif : Int) < -1) :
    ((B ^ 2 : Nat) : Int) * |r.signif| < pointUnit B r := by
  unfold pointUnit
  have hB0 : 0 < B := by omega
  have hd := hdub r.signif
  have hlt : r.signif.natAbs < B ^ digitsI B r.signif := digits_lt_pow B hB _
  have hk : digitsI B r.signif + 2 ≤ (-r.exp).toNat := by omega
  have : B ^ 2 * r.signif.natAbs < B ^ (-r.exp).toNat := by
    calc B ^ 2 * r.signif.natAbs < B ^ 2 * B ^ digitsI B r.signif :=
          Nat.mul_lt_mul_of_pos_left hlt (Nat.pow_pos hB0)
      _ = B ^ (digitsI B r.signif + 2) := by rw [Nat.add_comm, Nat.pow_add]
      _ ≤ B ^ (-r.exp).toNat := Nat.pow_le_pow_right hB0 hk
  rw [← Int.natCast_natAbs]
  exact_mod_cast this

theorem four_le_sq (B : Nat) (hB : 2 ≤ B) : (4 : Int) ≤ ((B ^ 2 : Nat) : Int) := by
  have : 4 ≤ B ^ 2 := Nat.pow_le_pow_left hB 2
  exact_mod_cast this

/-- `|s| < D / 4` on the smaller-than-one path -/
theorem smaller_quarter (B : Nat) (hB : 2 ≤ B) (dub : Int → Nat) (hdub : DubSound B dub) (r : FRepr)
    (hsm : r.exp + (dub r.signif : Int) < -1) : 4 * |r.signif| < pointUnit B r :=
  lt_of_le_of_lt (Int.mul_le_mul_of_nonneg_right (four_le_sq B hB) (abs_nonneg _)) (smaller_bound B hB dub hdub r hsm)

/-- on the smaller-than-one path the whole significand is fraction -/
theorem smaller_lt (B : Nat) (hB : 2 ≤ B) (dub : Int → Nat) (hdub : DubSound B dub) (r : FRepr)
    (hsm : r.exp + (dub r.signif : Int) < -1) : |r.signif| < pointUnit B r :=
  lt_of_le_of_lt (le_mul_of_one_le_left (abs_nonneg _) (by norm_num)) (smaller_quarter B hB dub hdub r hsm)

theorem smaller_of (dub : Int → Nat) (r : FRepr) (h : smallerThanOne dub r = true) :
    r.exp + (dub r.signif : Int) < -1 := by simpa [smallerThanOne] using h

theorem new_int_value (B : Nat) (hB : 2 ≤ B) (t : Int) : (FRepr.new B t 0).toRat B = (t : ℚ) := by
  rw [FRepr.new_value B (by omega)]; simp [bpowQ]

/-! ### the rational roundings (`rational/src/round.rs`) -/

theorem qTrunc_spec (num : Int) (den : Nat) (hden : 0 < den) : IsTowardZero num den (qTrunc num den) :=
  tdiv_isTowardZero num den (Int.natCast_pos.mpr hden)

theorem qFloor_spec (num : Int) (den : Nat) (hden : 0 < den) : IsFloor num den (qFloor num den) := by
  obtain ⟨a, b, _, _⟩ := tdiv_tmod_abs num den (Int.natCast_pos.mpr hden)
  have hb := abs_lt.mp b
  unfold qFloor
  simp only
  split
  · next h => exact isFloor_pred_of_rem num _ _ den a h hb.1
  · next h => exact isFloor_of_rem num _ _ den a (not_lt.mp h) hb.2

theorem qCeil_spec (num : Int) (den : Nat) (hden : 0 < den) : IsCeil num den (qCeil num den) := by
  obtain ⟨a, b, _, _⟩ := tdiv_tmod_abs num den (Int.natCast_pos.mpr hden)
  have hb := abs_lt.mp b
  unfold qCeil
  simp only
  split
  · next h => exact isCeil_succ_of_rem num _ _ den a h hb.2
  · next h => exact isCeil_of_rem num _ _ den a (not_lt.mp h) hb.1

theorem qRound_spec (num : Int) (den : Nat) (hden : 0 < den) : IsNearestAway num den (qRound num den) := by
  obtain ⟨a, b, c, d⟩ := tdiv_tmod_abs num den (Int.natCast_pos.mpr hden)
  have hb := abs_lt.mp b
  have hna : ((2 * (Int.tmod num den).natAbs : Nat) : Int) = 2 * |Int.tmod num den| := by
    rw [Nat.cast_mul, Int.natCast_natAbs, Nat.cast_ofNat]
  unfold qRound
  simp only
  split
  · next hge =>
    have hge' : (den : Int) ≤ 2 * |Int.tmod num den| := by rw [← hna]; exact_mod_cast hge
    split
    · next hn =>
      rw [abs_of_nonneg (c hn).1] at hge'
      exact isNearestAway_succ_of_rem num _ _ den a hn hb.2 hge'
    · next hn =>
      have hn' : num ≤ 0 := (not_le.mp hn).le
      rw [abs_of_nonpos (d hn').1] at hge'
      exact isNearestAway_pred_of_rem num _ _ den a hn' hb.1 (by omega)
  · next hlt =>
    have hlt' : 2 * |Int.tmod num den| < (den : Int) := by rw [← hna]; exact_mod_cast not_le.mp hlt
    exact isNearestAway_of_rem num _ _ den a hlt'

/-- `trunc + fract = x` for rationals: `num = trunc·den + fractNum` -/
theorem q_trunc_add_fract (num : Int) (den : Nat) : num = qTrunc num den * (den : Int) + qFractNum num den := by
  unfold qTrunc qFractNum
  have := Int.mul_tdiv_add_tmod num den
  linarith

end Dashu.Model.Float
