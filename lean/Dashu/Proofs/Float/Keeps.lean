import Dashu.Model.Trans.PowiNeg
/-
  Every float producer (`repr_round`, `mul`/`sqr`/`cubic`, `add`/`sub`, `repr_div`, `sqrt`, `powi`) ends in `Repr::new`
  or hands an operand through unchanged, so it keeps every property `P` that all outputs of `new` have: C03's
  `Normalized`, C05's `FCanon` and `FFin`, and their conjunctions.  One walk per producer, `P` a variable.  Core Lean only.
-/
namespace Dashu.Model
open Dashu.Model.Float Dashu.Model.Trans

theorem roundSum_stage (B : Nat) (m : Mode) (c : Coarse) (t : Int × Int × (Int × Nat)) :
    ∃ s' e', (if t.2.2.1 = 0 then ((Float.FRepr.new B t.1 t.2.1, none) : Rounded Float.FRepr)
      else (Float.FRepr.new B (t.1 + rInt (roundFract B m c t.1 t.2.2.1 t.2.2.2)) t.2.1,
        some (roundFract B m c t.1 t.2.2.1 t.2.2.2))).1 = Float.FRepr.new B s' e' := by
  split <;> exact ⟨_, _, rfl⟩

theorem reprRoundSum_shape (B : Nat) (m : Mode) (c : Coarse) (p : Nat) (s e : Int) (low : Int × Nat)
    (isSub : Bool) : ∃ s' e', (reprRoundSum B m c p s e low isSub).1 = Float.FRepr.new B s' e' := by
  unfold reprRoundSum
  by_cases hp : p = 0
  · simp only [hp, if_true]; exact ⟨_, _, rfl⟩
  · simp only [hp, if_false]
    exact roundSum_stage B m c _

theorem ite_of_both {α : Sort _} {P : α → Prop} (c : Prop) [Decidable c] {a b : α} (ha : P a) (hb : P b) :
    P (if c then a else b) := by
  split <;> assumption

/-- every branch of `add_large_small` ends in the rounding of a sum -/
theorem reprAddLargeSmall_shape (B : Nat) (m : Mode) (c : Coarse) (dub : Int → Nat) (p : Nat)
    (lhs rhs : Float.FRepr) (rs : Int) :
    ∃ s e l b, reprAddLargeSmall B m c dub p lhs rhs rs = reprRoundSum B m c p s e l b := by
  let P : Rounded Float.FRepr → Prop := fun r => ∃ s e l b, r = reprRoundSum B m c p s e l b
  have hb : ∀ s e l b, P (reprRoundSum B m c p s e l b) := fun s e l b => ⟨s, e, l, b, rfl⟩
  exact ite_of_both (P := P) _ (hb ..) (ite_of_both (P := P) _ (hb ..)
    (ite_of_both (P := P) _ (hb ..) (hb ..)))

theorem reprRound_keeps {B : Nat} {P : Float.FRepr → Prop} (hP : ∀ s e, P (Float.FRepr.new B s e)) (m : Mode)
    (c : Coarse) (p : Nat) {r : Float.FRepr} (hr : P r) : P (reprRound B m c p r).1 := by
  unfold reprRound
  split
  · exact hr
  · dsimp only
    split
    · exact hP _ _
    · exact hr

theorem reprRoundSum_keeps {B : Nat} {P : Float.FRepr → Prop} (hP : ∀ s e, P (Float.FRepr.new B s e)) (m : Mode)
    (c : Coarse) (p : Nat) (s e : Int) (low : Int × Nat) (isSub : Bool) :
    P (reprRoundSum B m c p s e low isSub).1 := by
  obtain ⟨s', e', h⟩ := reprRoundSum_shape B m c p s e low isSub
  rw [h]; exact hP _ _

theorem reprAddLargeSmall_keeps {B : Nat} {P : Float.FRepr → Prop} (hP : ∀ s e, P (Float.FRepr.new B s e)) (m : Mode)
    (c : Coarse) (dub : Int → Nat) (p : Nat) (lhs rhs : Float.FRepr) (rs : Int) :
    P (reprAddLargeSmall B m c dub p lhs rhs rs).1 := by
  obtain ⟨s, e, l, b, h⟩ := reprAddLargeSmall_shape B m c dub p lhs rhs rs
  rw [h]; exact reprRoundSum_keeps hP m c p _ _ _ _

/-- `add`/`sub` return a rounded operand (negated for `0 − x`) or a rounded sum -/
theorem ctxAddSub_keeps {B : Nat} {P : Float.FRepr → Prop} (hP : ∀ s e, P (Float.FRepr.new B s e)) (m : Mode)
    (c : Coarse) (dub : Int → Nat) (p : Nat) {lhs rhs : Float.FRepr} (rs : Int) (hl : P lhs) (hr : P rhs)
    (hn : P rhs.neg) : P (ctxAddSub B m c dub p lhs rhs rs).1 := by
  unfold ctxAddSub
  by_cases h1 : lhs.isZero = true
  · rw [if_pos h1]
    by_cases h2 : rs = 1
    · rw [if_pos h2]; exact reprRound_keeps hP m c p hr
    · rw [if_neg h2]; exact reprRound_keeps hP m c p hn
  · rw [if_neg h1]
    by_cases h2 : rhs.isZero = true
    · rw [if_pos h2]; exact reprRound_keeps hP m c p hl
    · rw [if_neg h2]
      by_cases h3 : lhs.exp = rhs.exp
      · rw [if_pos h3]; exact reprRound_keeps hP m c p (hP _ _)
      · rw [if_neg h3]
        split <;> exact reprAddLargeSmall_keeps hP m c dub p _ _ _

theorem reprDiv_keeps {B : Nat} {P : Float.FRepr → Prop} (hP : ∀ s e, P (Float.FRepr.new B s e)) {m : Mode} {p : Nat}
    {lhs rhs : Float.FRepr} {r : Rounded Float.FRepr} (h : reprDiv B m p lhs rhs = .ok r) : P r.1 := by
  unfold reprDiv at h
  split at h
  · cases h
  · split at h
    · cases h
    · simp only at h
      split at h
      · cases h; exact hP _ _
      · split at h <;> (cases h; exact hP _ _)

theorem ctxSqrt_keeps {B : Nat} {P : Float.FRepr → Prop} (hP : ∀ s e, P (Float.FRepr.new B s e)) {m : Mode}
    {c : Coarse} {sr : Nat → Nat × Nat} {p : Nat} {x : Float.FRepr} {r : Rounded Float.FRepr}
    (h : ctxSqrt B m c sr p x = .ok r) : P r.1 := by
  unfold ctxSqrt at h
  split at h
  · cases h
  · split at h
    · cases h
    · cases h
      exact reprRound_keeps hP m c p (hP _ _)

theorem powLoop_keeps {B : Nat} {P : Float.FRepr → Prop} (hP : ∀ s e, P (Float.FRepr.new B s e)) (fixed : Bool)
    (m : Mode) (c : Coarse) (q : Nat) (base : Float.FRepr) (bs : List Bool) {cur : Float.FRepr} (hc : P cur) :
    P (powLoop fixed B m c q base bs cur) := by
  induction bs generalizing cur with
  | nil => exact hc
  | cons b bs ih =>
    unfold powLoop
    apply ih
    cases b
    · exact reprRound_keeps hP m c q (hP _ _)
    · exact reprRound_keeps hP m c q (hP _ _)

/-- for exponents ≥ 2 at least one `sqr` ran; the statement does not need that -/
theorem powiNonneg_keeps {B : Nat} {P : Float.FRepr → Prop} (hP : ∀ s e, P (Float.FRepr.new B s e)) (fixed : Bool)
    (m : Mode) (c : Coarse) (p : Nat) {base : Float.FRepr} (hb : P base) (bs : List Bool) :
    P (powiNonneg fixed B m c p base bs).2.1 :=
  reprRound_keeps hP m c p (powLoop_keeps hP fixed m c _ base bs hb)

theorem powiNeg_keeps {B : Nat} {P : Float.FRepr → Prop} (hP : ∀ s e, P (Float.FRepr.new B s e)) {fixed : Bool}
    {m : Mode} {c : Coarse} {p : Nat} {base : Float.FRepr} {n : Nat}
    {r : Float.FRepr × Float.FRepr × Rounded Float.FRepr} (h : powiNeg fixed B m c p base n = .ok r) :
    P r.2.2.1 := by
  unfold powiNeg at h
  simp only at h
  split at h
  · cases h
  · rename_i inv hinv
    cases h
    exact reprRound_keeps hP m c p (reprDiv_keeps hP hinv)

end Dashu.Model
