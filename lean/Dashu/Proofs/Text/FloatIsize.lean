import Dashu.Proofs.Text.FloatParse
/-
  C08 — `parseIsize` (the model of `str::parse::<isize>()` used for the scale of a float literal)
  characterised completely: it accepts exactly `[+|-] d+` (ASCII decimal digits) whose value is inside the
  two's-complement range of `bits` bits, answers that value, and otherwise answers `NoDigits` for the empty
  string and `InvalidDigit` for everything else.  The scale split of `Repr::from_str_native` is then stated over
  that grammar (`splitScale_ok_iff`, `splitScale_error_iff`).
-/
namespace Dashu.Model.Text

/-- the documented grammar of `isize::from_str`: optional sign, at least one decimal digit, value in range -/
def IsizeText (bits : Nat) (s : List Nat) (z : Int) : Prop :=
  ∃ (sg ds : List Nat), (sg = [] ∨ sg = [43] ∨ sg = [45]) ∧ ds ≠ [] ∧ (∀ d ∈ ds, d < 10) ∧
    s = sg ++ ds.map (· + 48) ∧
    z = (if sg = [45] then -((ofDigits 10 ds : Nat) : Int) else ((ofDigits 10 ds : Nat) : Int)) ∧
    -(2 ^ (bits - 1) : Int) ≤ z ∧ z < (2 ^ (bits - 1) : Int)

theorem stripSignF_split (s : List Nat) :
    ∃ sg : List Nat, (sg = [] ∨ sg = [43] ∨ sg = [45]) ∧ s = sg ++ (stripSignF s).2 ∧
      ((stripSignF s).1 = true ↔ sg = [45]) := by
  unfold stripSignF
  split
  · exact ⟨[45], by simp, by simp, by simp⟩
  · exact ⟨[43], by simp, by simp, by simp⟩
  · exact ⟨[], by simp, by simp, by simp⟩

theorem all_digit_unmap (r : List Nat) (h : r.all (fun c => 48 ≤ c && c ≤ 57) = true) :
    (r.map (· - 48)).map (· + 48) = r ∧ ∀ d ∈ r.map (· - 48), d < 10 := by
  rw [List.all_eq_true] at h
  constructor
  · rw [List.map_map]
    conv_rhs => rw [← List.map_id r]
    apply List.map_congr_left
    intro c hc
    have := h c hc
    simp at this
    simp; omega
  · intro d hd
    obtain ⟨c, hc, rfl⟩ := List.mem_map.mp hd
    have := h c hc
    simp at this
    omega

theorem stripSignF_signed (sg ds : List Nat) (hsg : sg = [] ∨ sg = [43] ∨ sg = [45]) (hne : ds ≠ [])
    (hd : ∀ d ∈ ds, d < 10) :
    stripSignF (sg ++ ds.map (· + 48)) = (decide (sg = [45]), ds.map (· + 48)) := by
  rcases hsg with rfl | rfl | rfl
  · cases ds with
    | nil => exact absurd rfl hne
    | cons d t =>
      have := hd d (by simp)
      simp only [List.nil_append, List.map_cons]
      rw [stripSignF_noSign _ (.cons (by omega) (by omega))]
      simp
  · rfl
  · rfl

theorem digits_all (ds : List Nat) (hd : ∀ d ∈ ds, d < 10) :
    (ds.map (· + 48)).all (fun c => 48 ≤ c && c ≤ 57) = true := by
  rw [List.all_eq_true]
  intro c hc
  obtain ⟨d, hdm, rfl⟩ := List.mem_map.mp hc
  have := hd d hdm
  simp; omega

theorem map_add_sub (ds : List Nat) : (ds.map (· + 48)).map (· - 48) = ds := by
  rw [List.map_map]
  conv_rhs => rw [← List.map_id ds]
  apply List.map_congr_left
  intro d _
  simp

/-- `parse::<isize>()` accepts exactly the documented grammar, with the value the digits spell -/
theorem parseIsize_ok_iff (bits : Nat) (s : List Nat) (z : Int) :
    parseIsize bits s = .ok z ↔ IsizeText bits s z := by
  constructor
  · intro h
    unfold parseIsize at h
    by_cases hs : s = []
    · rw [if_pos hs] at h; cases h
    · rw [if_neg hs] at h
      simp only at h
      by_cases hr : (stripSignF s).2 = []
      · rw [if_pos hr] at h; cases h
      · rw [if_neg hr] at h
        by_cases ha : (stripSignF s).2.all (fun c => 48 ≤ c && c ≤ 57) = true
        · rw [if_pos ha] at h
          obtain ⟨sg, hsg, hsplit, hneg⟩ := stripSignF_split s
          obtain ⟨hun, hlt⟩ := all_digit_unmap _ ha
          have fin : ∀ zz : Int,
              zz = (if sg = [45] then -((ofDigits 10 ((stripSignF s).2.map (· - 48)) : Nat) : Int)
                    else ((ofDigits 10 ((stripSignF s).2.map (· - 48)) : Nat) : Int)) →
              (if -(2 ^ (bits - 1) : Int) ≤ zz ∧ zz < (2 ^ (bits - 1) : Int) then (Except.ok zz : Except ParseError Int)
                else .error .invalidDigit) = .ok z → IsizeText bits s z := by
            intro zz hzz hif
            by_cases hrange : -(2 ^ (bits - 1) : Int) ≤ zz ∧ zz < (2 ^ (bits - 1) : Int)
            · rw [if_pos hrange] at hif
              injection hif with hz
              subst hz
              refine ⟨sg, (stripSignF s).2.map (· - 48), hsg, ?_, hlt, ?_, hzz, hrange.1, hrange.2⟩
              · intro hnil; exact hr (List.map_eq_nil_iff.mp hnil)
              · rw [hun]; exact hsplit
            · rw [if_neg hrange] at hif; cases hif
          cases hb : (stripSignF s).1 with
          | true =>
            simp only [hb, if_true] at h
            exact fin _ (by rw [if_pos (hneg.mp hb)]) h
          | false =>
            simp only [hb, Bool.false_eq_true, if_false] at h
            have h45 : ¬ sg = [45] := fun h45 => by have := hneg.mpr h45; rw [hb] at this; cases this
            exact fin _ (by rw [if_neg h45]) h
        · rw [if_neg ha] at h; cases h
  · rintro ⟨sg, ds, hsg, hne, hd, rfl, hz, hlo, hhi⟩
    unfold parseIsize
    have hsne : sg ++ ds.map (· + 48) ≠ [] := by
      intro h
      have := (List.append_eq_nil_iff.mp h).2
      exact hne (List.map_eq_nil_iff.mp this)
    rw [if_neg hsne]
    simp only [stripSignF_signed sg ds hsg hne hd]
    rw [if_neg (fun h => hne (List.map_eq_nil_iff.mp h)), if_pos (digits_all ds hd), map_add_sub]
    have hz' : (if decide (sg = [45]) = true then -((ofDigits 10 ds : Nat) : Int) else ((ofDigits 10 ds : Nat) : Int)) = z := by
      rw [hz]; by_cases h45 : sg = [45] <;> simp [h45]
    rw [hz', if_pos ⟨hlo, hhi⟩]

/-- the error kinds of `parse::<isize>()` as the caller sees them: `NoDigits` for the empty string only -/
theorem parseIsize_error (bits : Nat) (s : List Nat) (e : ParseError) (h : parseIsize bits s = .error e) :
    e = if s = [] then .noDigits else .invalidDigit := by
  unfold parseIsize at h
  by_cases hs : s = []
  · rw [if_pos hs] at h; rw [if_pos hs]; injection h with h; exact h.symm
  · rw [if_neg hs] at h; rw [if_neg hs]
    simp only at h
    repeat' split at h
    all_goals first | (injection h with h; exact h.symm) | cases h

/-- the accepted text determines the value (leading zeros and `+` do not matter, nothing else is accepted) -/
theorem IsizeText_unique (bits : Nat) (s : List Nat) (z z' : Int) (h : IsizeText bits s z) (h' : IsizeText bits s z') :
    z = z' := by
  have a := (parseIsize_ok_iff bits s z).mpr h
  have b := (parseIsize_ok_iff bits s z').mpr h'
  rw [a] at b; injection b

/-- the decimal text of an integer inside the range is in the grammar of the scale (so `parse::<isize>()` reads back
    what the scientific printers write as exponent) -/
theorem isizeText_printSpecInt (bits : Nat) (z : Int) (hlo : -(2 ^ (bits - 1) : Int) ≤ z)
    (hhi : z < (2 ^ (bits - 1) : Int)) : IsizeText bits (printSpecInt 10 false z) z := by
  refine ⟨if z < 0 then [45] else [], digits 10 z.natAbs, by split <;> simp, digits_ne_nil 10 _ (by omega),
    digits_lt (by omega) _, ?_, ?_, hlo, hhi⟩
  · unfold printSpecInt printSpec
    congr 1
    exact List.map_congr_left fun d hd => by
      have := digits_lt (r := 10) (by omega) _ d hd; simp [digitChar, this, Nat.add_comm]
  · rw [ofDigits_digits (by omega)]
    by_cases h : z < 0
    · rw [if_pos h, if_pos rfl]; omega
    · rw [if_neg h, if_neg (by simp)]; omega

/-- `parse::<isize>()` reads back the decimal text of every `isize` -/
theorem parseIsize_printSpecInt (bits : Nat) (z : Int) (hlo : -(2 ^ (bits - 1) : Int) ≤ z)
    (hhi : z < (2 ^ (bits - 1) : Int)) : parseIsize bits (printSpecInt 10 false z) = .ok z :=
  (parseIsize_ok_iff bits _ z).mpr (isizeText_printSpecInt bits z hlo hhi)

/-- the scale split of `Repr::from_str_native` (text behind the LAST scale marker handed to `parse::<isize>()`),
    stated over the documented grammar of the scale instead of over `parseIsize` -/
theorem splitScale_ok_iff (B : Nat) (hp : Bool) (src : List Nat) (v : Int) (pm : Bool) (body : List Nat) :
    splitScale B hp src = .ok (v, pm, body) ↔
      (rfindIdx (isScaleMarker B hp) src = none ∧ v = 0 ∧ pm = false ∧ body = src) ∨
      ∃ pos, rfindIdx (isScaleMarker B hp) src = some pos ∧ IsizeText 64 (src.drop (pos + 1)) v ∧
        pm = (B == 2 && (src.getD pos 0 == 112 || src.getD pos 0 == 80)) ∧ body = src.take pos := by
  unfold splitScale
  cases hf : rfindIdx (isScaleMarker B hp) src with
  | none =>
    simp only
    constructor
    · intro h; injection h with h; injection h with h1 h2; injection h2 with h2 h3
      exact Or.inl ⟨by first | rfl | trivial, h1.symm, h2.symm, h3.symm⟩
    · rintro (⟨_, rfl, rfl, rfl⟩ | ⟨pos, hpos, _⟩)
      · rfl
      · cases hpos
  | some pos =>
    simp only
    cases hi : parseIsize 64 (src.drop (pos + 1)) with
    | error e =>
      simp only
      constructor
      · intro h; cases h
      · rintro (⟨h, _⟩ | ⟨pos', hpos, htxt, _⟩)
        · cases h
        · cases hpos
          rw [(parseIsize_ok_iff 64 _ v).mpr htxt] at hi; cases hi
    | ok w =>
      simp only
      constructor
      · intro h; injection h with h; injection h with h1 h2; injection h2 with h2 h3
        subst h1
        exact Or.inr ⟨pos, rfl, (parseIsize_ok_iff 64 _ w).mp hi, h2.symm, h3.symm⟩
      · rintro (⟨h, _⟩ | ⟨pos', hpos, htxt, rfl, rfl⟩)
        · cases h
        · cases hpos
          rw [(parseIsize_ok_iff 64 _ v).mpr htxt] at hi; injection hi with hi; subst hi; rfl

/-- an error of the scale split is an error of `parse::<isize>()` on the text behind the last marker:
    `NoDigits` when nothing follows the marker, `InvalidDigit` otherwise, and only when that text is not in
    the grammar of the scale -/
theorem splitScale_error_iff (B : Nat) (hp : Bool) (src : List Nat) (e : ParseError) :
    splitScale B hp src = .error e ↔
      ∃ pos, rfindIdx (isScaleMarker B hp) src = some pos ∧ (∀ v, ¬ IsizeText 64 (src.drop (pos + 1)) v) ∧
        e = if src.drop (pos + 1) = [] then .noDigits else .invalidDigit := by
  unfold splitScale
  cases hf : rfindIdx (isScaleMarker B hp) src with
  | none =>
    simp only
    constructor
    · intro h; cases h
    · rintro ⟨pos, hpos, _⟩; cases hpos
  | some pos =>
    simp only
    cases hi : parseIsize 64 (src.drop (pos + 1)) with
    | error e' =>
      simp only
      constructor
      · intro h; injection h with h; subst h
        refine ⟨pos, rfl, ?_, parseIsize_error 64 _ _ hi⟩
        intro v hv; rw [(parseIsize_ok_iff 64 _ v).mpr hv] at hi; cases hi
      · rintro ⟨pos', hpos, _, he⟩
        cases hpos
        rw [he, ← parseIsize_error 64 _ _ hi]
    | ok w =>
      simp only
      constructor
      · intro h; cases h
      · rintro ⟨pos', hpos, hno, _⟩
        cases hpos
        exact absurd ((parseIsize_ok_iff 64 _ w).mp hi) (hno w)

end Dashu.Model.Text
