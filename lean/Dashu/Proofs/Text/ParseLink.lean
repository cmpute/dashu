import Dashu.Proofs.Text.CapacityParse
import Dashu.Props.C01
/-
  C07 — link theorem: the accumulation loop of `non_power_two::parse_chunk` run ON WORDS with C01's mirrored
  kernel `mulWordInPlace` (`mul::mul_word_in_place_with_carry`, proved in `Props/C01.mul_word_in_place_exact`)
  and the `if carry != 0 { buffer.push(carry) }` of the source computes exactly the number that the
  Nat-valued loop `parseChunkLoop` of `Model/Text/Parse.lean` (the one the parser theorems are about) computes.
  The proof goes through C01's theorem (imported), not through a re-proof of the kernel.  The second half lifts the
  chunked and the divide-and-conquer route to `UBig`s (`TRepr`) over C01's `u_mul_exact`, `u_add_exact`, `u_pow_exact`.
-/
namespace Dashu.Model.Text
open Dashu.Model

/-- the loop of `parse_chunk` on the word buffer: `carry = mul_word_in_place_with_carry(&mut buffer,
    range_per_word, next); if carry != 0 { buffer.push(carry) }` -/
def parseChunkLoopW (W r rpw : Nat) : List (List Nat) → List Nat → Except ParseError (List Nat)
  | [], buf => .ok buf
  | g :: gs, buf =>
    match parseWord r g with
    | .error e => .error e
    | .ok next =>
      let m := mulWordInPlace W buf rpw next
      parseChunkLoopW W r rpw gs (if m.2 ≠ 0 then m.1 ++ [m.2] else m.1)

/-- `parse_chunk` on words: `Buffer::allocate(groups.len())` starts empty -/
def parseChunkW (W r : Nat) (bytes : List Nat) : Except ParseError (List Nat) :=
  let ri := radixInfo W r
  parseChunkLoopW W r ri.rpw (rchunksRev ri.dpw bytes) []

theorem parseChunkLoopW_spec {W r : Nat} {ri : RadixInfo} (ok : RadixOK W r ri) (gs : List (List Nat))
    (hgs : ∀ g ∈ gs, g.length ≤ ri.dpw) (buf : List Nat) (hb : IsWords W buf) :
    Except.map (val W) (parseChunkLoopW W r ri.rpw gs buf) = parseChunkLoop r ri.rpw gs (val W buf) ∧
    ∀ ws, parseChunkLoopW W r ri.rpw gs buf = .ok ws → IsWords W ws ∧ ws.length ≤ buf.length + gs.length := by
  induction gs generalizing buf with
  | nil =>
    refine ⟨rfl, ?_⟩
    intro ws h
    simp only [parseChunkLoopW] at h
    cases h
    exact ⟨hb, by simp⟩
  | cons g gs ih =>
    have hg := hgs g (by simp)
    simp only [parseChunkLoopW, parseChunkLoop]
    cases hp : parseWord r g with
    | error e => exact ⟨rfl, fun ws h => by simp at h⟩
    | ok next =>
      simp only []
      have hnext : next < ri.rpw := by
        have := parseWordLoop_lt g 0 0 next (by simp) hp
        calc next < r ^ (0 + g.length) := this
          _ ≤ r ^ ri.dpw := Nat.pow_le_pow_right (by have := ok.hr; omega) (by omega)
          _ = ri.rpw := ok.pow.symm
      have hlt := ok.lt
      -- C01's kernel theorem, by import
      obtain ⟨hval, hlen, hw, hc⟩ := Dashu.Props.C01.mul_word_in_place_exact W buf ri.rpw next hb hlt (by omega)
      have hgs' : ∀ x ∈ gs, x.length ≤ ri.dpw := fun x hx => hgs x (by simp [hx])
      by_cases hc0 : (mulWordInPlace W buf ri.rpw next).2 ≠ 0
      · rw [if_pos hc0]
        have hw' : IsWords W ((mulWordInPlace W buf ri.rpw next).1 ++ [(mulWordInPlace W buf ri.rpw next).2]) :=
          IsWords.append hw (by intro x hx; simp at hx; subst hx; exact hc)
        obtain ⟨h1, h2⟩ := ih hgs' _ hw'
        refine ⟨?_, ?_⟩
        · rw [h1, val_append, hlen]
          simp only [val, Nat.mul_zero, Nat.add_zero]
          rw [hval]
        · intro ws h
          obtain ⟨a, b⟩ := h2 ws h
          refine ⟨a, ?_⟩
          simp only [List.length_append, List.length_cons, List.length_nil, hlen] at b ⊢
          omega
      · rw [if_neg hc0]
        have hz : (mulWordInPlace W buf ri.rpw next).2 = 0 := by omega
        obtain ⟨h1, h2⟩ := ih hgs' _ hw
        refine ⟨?_, ?_⟩
        · rw [h1]
          rw [hz] at hval
          simp only [Nat.mul_zero, Nat.add_zero] at hval
          rw [hval]
        · intro ws h
          obtain ⟨a, b⟩ := h2 ws h
          refine ⟨a, ?_⟩
          simp only [List.length_cons, hlen] at b ⊢
          omega

/-- `parse_chunk` on words = `parse_chunk` on numbers, errors included; the result is a word list that
    fits `Buffer::allocate(groups.len())` -/
theorem parseChunkW_spec (W r : Nat) (hr : 2 ≤ r) (hrW : r < 2 ^ W) (bytes : List Nat) :
    Except.map (val W) (parseChunkW W r bytes) = parseChunk W r bytes ∧
    ∀ ws, parseChunkW W r bytes = .ok ws →
      IsWords W ws ∧ ws.length ≤ (rchunksRev (radixInfo W r).dpw bytes).length := by
  have ok := radixInfo_ok W r hr hrW
  have hk : (radixInfo W r).dpw ≠ 0 := by have := ok.dpos; omega
  have := parseChunkLoopW_spec ok _ (rchunksRev_lengths _ hk bytes) [] (by intro x hx; cases hx)
  unfold parseChunkW parseChunk
  simpa using this

-- ---------------------------------------------------------------- UBig level (TypedRepr of C01)

/-- `parse_chunk` up to its `Ok(UBig(Repr::from_buffer(buffer)))` -/
def parseChunkT (W r : Nat) (bytes : List Nat) : Except ParseError TRepr :=
  Except.map (fromBuffer W) (parseChunkW W r bytes)

/-- `parse_large_divide_conquer` on `UBig`s: `res_hi * radix_power + res_lo` are C01's `TRepr.mul` / `TRepr.add` -/
def parseDCT (W r chunkBytes form : Nat) : List TRepr → List Nat → Except ParseError TRepr
  | [], bytes => parseChunkT W r bytes
  | p :: ps, bytes =>
    let loLen := chunkBytes <<< ps.length
    if bytes.length ≤ loLen then parseDCT W r chunkBytes form ps bytes
    else
      match parseDCT W r chunkBytes form ps (bytes.take (bytes.length - loLen)) with
      | .error e => .error e
      | .ok hi =>
        match parseDCT W r chunkBytes form ps (bytes.drop (bytes.length - loLen)) with
        | .error e => .error e
        | .ok lo => .ok (((hi.mul W p).add W lo form))

/-- the `radix_powers` loop on `UBig`s: `new = prev * prev` -/
def parsePowersT (W chunkBytes len : Nat) : Nat → List TRepr → List TRepr
  | 0, ps => ps
  | fuel + 1, ps =>
    match ps with
    | [] => []
    | prev :: _ =>
      if chunkBytes ≤ (len - 1) >>> ps.length then parsePowersT W chunkBytes len fuel (prev.mul W prev :: ps)
      else ps

/-- `parse_large` on `UBig`s: `UBig::from(range_per_word).pow(CHUNK_LEN)`, the tower, the recursion -/
def parseLargeT (W r form : Nat) (bytes : List Nat) : Except ParseError TRepr :=
  let ri := radixInfo W r
  let chunkBytes := parseChunkLen * ri.dpw
  let ps := parsePowersT W chunkBytes bytes.length bytes.length [ubigPow W (ofNat W ri.rpw) parseChunkLen]
  parseDCT W r chunkBytes form ps bytes

theorem parseChunkT_spec (W r : Nat) (hr : 2 ≤ r) (hrW : r < 2 ^ W) (bytes : List Nat) :
    Except.map (TRepr.value W) (parseChunkT W r bytes) = parseChunk W r bytes ∧
    ∀ t, parseChunkT W r bytes = .ok t → t.Canon W := by
  obtain ⟨h1, h2⟩ := parseChunkW_spec W r hr hrW bytes
  unfold parseChunkT
  cases hp : parseChunkW W r bytes with
  | error e => rw [hp] at h1; exact ⟨h1, fun t h => by simp [Except.map] at h⟩
  | ok ws =>
    rw [hp] at h1
    have hw := (h2 ws hp).1
    have hb := Dashu.Props.C01.from_buffer_exact W ws hw
    refine ⟨?_, ?_⟩
    · rw [← h1]; simp only [Except.map]; rw [hb.1]
    · intro t h; simp only [Except.map] at h; cases h; exact hb.2

theorem parseDCT_spec (W r : Nat) (hW : 4 ≤ W) (hr : 2 ≤ r) (hrW : r < 2 ^ W) (chunkBytes form : Nat) (ps : List TRepr)
    (hps : ∀ p ∈ ps, p.Canon W) (bytes : List Nat) :
    Except.map (TRepr.value W) (parseDCT W r chunkBytes form ps bytes) =
      parseDC W r chunkBytes (ps.map (TRepr.value W)) bytes ∧
    ∀ t, parseDCT W r chunkBytes form ps bytes = .ok t → t.Canon W := by
  induction ps generalizing bytes with
  | nil => exact parseChunkT_spec W r hr hrW bytes
  | cons p ps ih =>
    have hps' : ∀ q ∈ ps, q.Canon W := fun q hq => hps q (by simp [hq])
    have hp := hps p (by simp)
    simp only [parseDCT, parseDC, List.map_cons, List.length_map]
    by_cases hle : bytes.length ≤ chunkBytes <<< ps.length
    · rw [if_pos hle, if_pos hle]; exact ih hps' bytes
    · rw [if_neg hle, if_neg hle]
      obtain ⟨a1, a2⟩ := ih hps' (bytes.take (bytes.length - chunkBytes <<< ps.length))
      obtain ⟨b1, b2⟩ := ih hps' (bytes.drop (bytes.length - chunkBytes <<< ps.length))
      cases hhi : parseDCT W r chunkBytes form ps (bytes.take (bytes.length - chunkBytes <<< ps.length)) with
      | error e =>
        rw [hhi] at a1; simp only [Except.map] at a1; rw [← a1]
        exact ⟨rfl, fun t h => by simp at h⟩
      | ok hi =>
        rw [hhi] at a1; simp only [Except.map] at a1; rw [← a1]
        cases hlo : parseDCT W r chunkBytes form ps (bytes.drop (bytes.length - chunkBytes <<< ps.length)) with
        | error e =>
          rw [hlo] at b1; simp only [Except.map] at b1; rw [← b1]
          exact ⟨rfl, fun t h => by simp at h⟩
        | ok lo =>
          rw [hlo] at b1; simp only [Except.map] at b1; rw [← b1]
          have hm := Dashu.Props.C01.u_mul_exact W hW hi p (a2 hi hhi) hp
          have ha := Dashu.Props.C01.u_add_exact W (by omega) (hi.mul W p) lo form hm.2 (b2 lo hlo)
          refine ⟨?_, ?_⟩
          · simp only [Except.map]; rw [ha.1, hm.1]
          · intro t h; cases h; exact ha.2

theorem parsePowersT_spec (W : Nat) (hW : 4 ≤ W) (chunkBytes len fuel : Nat) (ps : List TRepr)
    (hps : ∀ p ∈ ps, p.Canon W) :
    (parsePowersT W chunkBytes len fuel ps).map (TRepr.value W) =
      parsePowers chunkBytes len fuel (ps.map (TRepr.value W)) ∧
    ∀ p ∈ parsePowersT W chunkBytes len fuel ps, p.Canon W := by
  induction fuel generalizing ps with
  | zero => exact ⟨rfl, hps⟩
  | succ fuel ih =>
    cases ps with
    | nil => exact ⟨rfl, by intro p hp; simp [parsePowersT] at hp⟩
    | cons prev rest =>
      simp only [parsePowersT, parsePowers, List.map_cons, List.length_cons, List.length_map]
      by_cases hc : chunkBytes ≤ (len - 1) >>> (rest.length + 1)
      · rw [if_pos hc, if_pos hc]
        have hprev := hps prev (by simp)
        have hm := Dashu.Props.C01.u_mul_exact W hW prev prev hprev hprev
        have := ih (prev.mul W prev :: prev :: rest) (by
          intro q hq
          rcases List.mem_cons.mp hq with h | h
          · subst h; exact hm.2
          · exact hps q h)
        simpa only [List.map_cons, hm.1] using this
      · rw [if_neg hc, if_neg hc]
        exact ⟨rfl, hps⟩

/-- `parse_large` on `UBig`s = `parse_large` on numbers -/
theorem parseLargeT_spec (W r : Nat) (hW : 4 ≤ W) (hr : 2 ≤ r) (hrW : r < 2 ^ W) (form : Nat) (bytes : List Nat) :
    Except.map (TRepr.value W) (parseLargeT W r form bytes) = parseLarge W r bytes ∧
    ∀ t, parseLargeT W r form bytes = .ok t → t.Canon W := by
  have hn := Dashu.Props.C01.of_nat_exact W (by omega) (radixInfo W r).rpw
  have hp := Dashu.Props.C01.u_pow_exact W hW (ofNat W (radixInfo W r).rpw) parseChunkLen hn.2
  have hps := parsePowersT_spec W hW (parseChunkLen * (radixInfo W r).dpw) bytes.length bytes.length
    [ubigPow W (ofNat W (radixInfo W r).rpw) parseChunkLen] (by intro q hq; simp at hq; subst hq; exact hp.2)
  have := parseDCT_spec W r hW hr hrW (parseChunkLen * (radixInfo W r).dpw) form _ hps.2 bytes
  unfold parseLargeT parseLarge
  simp only []
  rw [hps.1] at this
  simpa only [List.map_cons, List.map_nil, hp.1, hn.1] using this

/-- `non_power_two::parse` on `UBig`s: `Ok(parse_word(bytes, radix)?.into())` / `parse_chunk` / `parse_large` -/
def parseNonPow2T (W r form : Nat) (src : List Nat) : Except ParseError TRepr :=
  let ri := radixInfo W r
  let bytes := if src.contains 95 then src.filter (· ≠ 95) else src
  if bytes.length ≤ ri.dpw then Except.map (ofNat W) (parseWord r bytes)
  else if bytes.length ≤ parseChunkLen * ri.dpw then parseChunkT W r bytes
  else parseLargeT W r form bytes

theorem parseNonPow2T_spec (W r : Nat) (hW : 4 ≤ W) (hr : 2 ≤ r) (hrW : r < 2 ^ W) (form : Nat) (src : List Nat) :
    Except.map (TRepr.value W) (parseNonPow2T W r form src) = parseNonPow2 W r src ∧
    ∀ t, parseNonPow2T W r form src = .ok t → t.Canon W := by
  unfold parseNonPow2T parseNonPow2
  simp only []
  generalize (if src.contains 95 then src.filter (· ≠ 95) else src) = bytes
  by_cases h1 : bytes.length ≤ (radixInfo W r).dpw
  · rw [if_pos h1, if_pos h1]
    cases hp : parseWord r bytes with
    | error e => exact ⟨rfl, fun t h => by simp [Except.map] at h⟩
    | ok v =>
      have hn := Dashu.Props.C01.of_nat_exact W (by omega) v
      refine ⟨?_, ?_⟩
      · simp only [Except.map]; rw [hn.1]
      · intro t h; simp only [Except.map] at h; cases h; exact hn.2
  · rw [if_neg h1, if_neg h1]
    by_cases h2 : bytes.length ≤ parseChunkLen * (radixInfo W r).dpw
    · rw [if_pos h2, if_pos h2]; exact parseChunkT_spec W r hr hrW _
    · rw [if_neg h2, if_neg h2]; exact parseLargeT_spec W r hW hr hrW form _

end Dashu.Model.Text
