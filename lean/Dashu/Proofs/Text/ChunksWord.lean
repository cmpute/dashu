import Dashu.Model.Text.ChunksWord
import Dashu.Proofs.Text.Chunks
import Dashu.Proofs.Int.Div
/-
  `to_chunks` with the word-level `shr_in_place` kernel equals the positional specification.
-/
namespace Dashu.Model.Text
open Dashu.Model (val IsWords)
open Dashu.Model.Div (shrInPlace shrInPlace_spec)

theorem getLastD_lt (l : List Nat) (B : Nat) (hB : 0 < B) (h : ∀ y ∈ l, y < B) : l.getLastD 0 < B := by
  rw [List.getLastD_eq_getLast?]
  cases hl : l.getLast? with
  | none => simpa using hB
  | some a => simpa using h a (List.mem_of_getLast? hl)

theorem isWords_chunkCopied (W : Nat) (words : List Nat) (h : IsWords W words) (bl k i : Nat) :
    IsWords W (chunkCopied W words bl k i) := by
  have hp : 0 < 2 ^ W := Nat.pow_pos (by omega)
  have hsub : ∀ a b, ∀ y ∈ (words.drop a).take b, y < 2 ^ W :=
    fun a b y hy => h y (List.mem_of_mem_drop (List.mem_of_mem_take hy))
  unfold chunkCopied
  simp only []
  split
  · intro x hx
    rcases List.mem_append.mp hx with h1 | h1
    · exact hsub _ _ x (List.mem_of_mem_dropLast h1)
    · simp only [List.mem_singleton] at h1
      subst h1
      have hlast := getLastD_lt _ (2 ^ W) hp (hsub (i * k / W) (min bl (i * k + k) / W - i * k / W + 1))
      have hle := Nat.mod_le (((words.drop (i * k / W)).take (min bl (i * k + k) / W - i * k / W + 1)).getLastD 0)
        (2 ^ (min bl (i * k + k) % W))
      omega
  · intro x hx
    exact hsub _ _ x hx

/-- the general path with `shr_in_place` at the word level = the value-level chunk -/
theorem unalignedChunkW_eq (W : Nat) (hW : 1 ≤ W) (words : List Nat) (h : IsWords W words) (bl k i : Nat) :
    unalignedChunkW W words bl k i = unalignedChunk W words bl k i := by
  have hc := isWords_chunkCopied W words h bl k i
  have hs : (i * k) % W ≤ W := Nat.le_of_lt (Nat.mod_lt _ (by omega))
  obtain ⟨k', _, hk', hv, _, _⟩ := shrInPlace_spec W ((i * k) % W) hs _ hc
  have hun : unalignedChunk W words bl k i = val W (chunkCopied W words bl k i) / 2 ^ ((i * k) % W) := by
    unfold unalignedChunk chunkCopied; rfl
  rw [hun]
  unfold unalignedChunkW
  have hp : 0 < 2 ^ ((i * k) % W) := Nat.pow_pos (by omega)
  rw [← hv]
  generalize val W (shrInPlace W (chunkCopied W words bl k i) (i * k % W)).1 = V
  generalize 2 ^ (i * k % W) = P at *
  rw [Nat.mul_comm V P, Nat.mul_add_div hp, Nat.div_eq_of_lt hk', Nat.add_zero]

/-- **`to_chunks` with the word-level kernels = the positional chunks** -/
theorem toChunksW_eq (W n k : Nat) (hW : 1 ≤ W) (hk : 1 ≤ k) : toChunksW W n k = .ok (chunksSpec n k) := by
  rw [← toChunks_eq W n k hW hk]
  unfold toChunksW toChunks
  have hisw : IsWords W (wordsOf W n) := isWords_wordsOf W n hW
  have : (fun i => unalignedChunkW W (wordsOf W n) (bitLen n) k i) = (fun i => unalignedChunk W (wordsOf W n) (bitLen n) k i) := by
    funext i; exact unalignedChunkW_eq W hW _ hisw _ _ _
  simp only [this]

theorem isWords_snoc_zero (W : Nat) (c : List Nat) (h : IsWords W c) : IsWords W (c ++ [0]) := by
  intro x hx
  rcases List.mem_append.mp hx with h1 | h1
  · exact h x h1
  · simp at h1; subst h1; exact Nat.pow_pos (by omega)

end Dashu.Model.Text
