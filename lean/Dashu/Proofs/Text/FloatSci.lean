import Dashu.Proofs.Text.FloatPad
import Dashu.Proofs.Float.Closing
/-
  C08 — the scientific formats (`fmt_round_scientific`, float/src/fmt.rs: `LowerExp`, `UpperExp`,
  `Binary`, `Octal`, `LowerHex`, `UpperHex` incl. the hexadecimal form `0xh.hhhp±e` of base 2):
  * the rounding step: with a precision `p` the significand is rounded — under the type's mode — to
    `p + 1` significant digits (`4p + 4` bits for the hexadecimal form); a carry into a new digit
    (`9.99 → 10.0`) is dropped again without changing the value;
  * the text: one digit, the point, the remaining digits and zeros — exactly `p` of them —, the
    marker and the decimal exponent; it DENOTES the rounded value:
    `(d₀.d₁d₂…)_radix · B^exponent = |rounded significand| · B^exponent'`.
-/
namespace Dashu.Model.Text
open Dashu.Model.Float Dashu.Props.GenRound

-- ---------------------------------------------------------------- the rounding step

/-- the number of significant base-`B` digits kept by `{:.p0e}`: `p0 + 1`, resp. `4·p0 + 4` bits for the
    hexadecimal form -/
def sciDigits (useHex : Bool) (p0 : Nat) : Nat := if useHex then p0 * 4 + 4 else p0 + 1

/-- the number of base-`B` digits dropped by the rounding step -/
def sciShift (B : Nat) (p0 : Nat) (useHex : Bool) (r : FRepr) : Nat :=
  digitsI B r.signif - sciDigits useHex p0

/-- the significand rounded to `sciDigits` digits: an integer multiple of the unit `B^(exp + shift)` -/
def sciRounded (B : Nat) (m : Mode) (p0 : Nat) (useHex : Bool) (r : FRepr) : Int :=
  if digitsI B r.signif > sciDigits useHex p0 then
    let hl := splitDigits B r.signif (sciShift B p0 useHex r)
    hl.1 + rInt (roundFract B m coarseNone hl.1 hl.2 (sciShift B p0 useHex r))
  else r.signif

theorem sciDigits_cast (useHex : Bool) (p0 : Nat) :
    (if useHex then (p0 : Int) * 4 + 4 else (p0 : Int) + 1) = ((sciDigits useHex p0 : Nat) : Int) := by
  unfold sciDigits; cases useHex <;> simp

theorem sciDigits_pos (useHex : Bool) (p0 : Nat) : 1 ≤ sciDigits useHex p0 := by
  unfold sciDigits; cases useHex <;> simp

/-- the pair `fmt_round_scientific` prints, in terms of `sciRounded` -/
theorem sciPair_some (B : Nat) (m : Mode) (p0 : Nat) (useHex : Bool) (r : FRepr) :
    sciPair B m (some p0) useHex r =
      if digitsI B r.signif > sciDigits useHex p0 then
        (if digitsI B (sciRounded B m p0 useHex r) > sciDigits useHex p0 then
          (Int.tdiv (sciRounded B m p0 useHex r) B, r.exp + (sciShift B p0 useHex r : Int) + 1)
        else (sciRounded B m p0 useHex r, r.exp + (sciShift B p0 useHex r : Int)))
      else (r.signif, r.exp) := by
  unfold sciPair sciRounded sciShift
  simp only [sciDigits_cast]
  by_cases h : digitsI B r.signif > sciDigits useHex p0
  · have hd : ((sciDigits useHex p0 : Nat) : Int) - ((digitsI B r.signif : Nat) : Int) < 0 := by omega
    have hs : (-(((sciDigits useHex p0 : Nat) : Int) - ((digitsI B r.signif : Nat) : Int))).toNat =
        digitsI B r.signif - sciDigits useHex p0 := by omega
    simp only [hd, h, if_true, hs]
    have he : r.exp - (((sciDigits useHex p0 : Nat) : Int) - ((digitsI B r.signif : Nat) : Int)) =
        r.exp + ((digitsI B r.signif - sciDigits useHex p0 : Nat) : Int) := by omega
    rw [he]
    simp only [Nat.cast_lt]
  · have hd : ¬ ((sciDigits useHex p0 : Nat) : Int) - ((digitsI B r.signif : Nat) : Int) < 0 := by omega
    simp only [hd, h, if_false]

/-- **the rounding step of the scientific formats is the mode's rounding** of `signif / B^shift`, i.e. of
    the value in units of `B^(exp + shift)` — the last of the `p + 1` digits shown -/
theorem sciRounded_spec (B : Nat) (hB : 2 ≤ B) (m : Mode) (p0 : Nat) (useHex : Bool) (r : FRepr) :
    ModeSpec m r.signif ((B ^ sciShift B p0 useHex r : Nat) : Int) (sciRounded B m p0 useHex r) := by
  unfold sciRounded
  by_cases h : digitsI B r.signif > sciDigits useHex p0
  · simp only [h, if_true]
    exact splitRound_modeSpec B hB m coarseNone coarseNone_sound r.signif _
  · simp only [h, if_false]
    have h0 : sciShift B p0 useHex r = 0 := by unfold sciShift; omega
    rw [h0, pow_zero, Nat.cast_one]
    have := modeSpec_exact m r.signif 1 (by omega)
    rwa [mul_one] at this

/-- the rounded significand has at most one digit more than wanted, and then it is `±B^P` -/
theorem sciRounded_abs_le (B : Nat) (hB : 2 ≤ B) (m : Mode) (p0 : Nat) (useHex : Bool) (r : FRepr)
    (h : digitsI B r.signif > sciDigits useHex p0) :
    |sciRounded B m p0 useHex r| ≤ ((B ^ sciDigits useHex p0 : Nat) : Int) := by
  unfold sciRounded
  simp only [h, if_true]
  apply abs_add_rInt_le
  apply split_hi_lt B hB
  have := digitsI_abs_lt B hB r.signif
  have e : sciDigits useHex p0 + sciShift B p0 useHex r = digitsI B r.signif := by unfold sciShift; omega
  rw [e]; exact this

theorem digitsI_gt_imp (B : Nat) (hB : 2 ≤ B) (v : Int) (P : Nat) (h : digitsI B v > P) :
    ((B ^ P : Nat) : Int) ≤ |v| := by
  by_contra hc
  rw [not_le] at hc
  have : v.natAbs < B ^ P := by
    have : ((v.natAbs : Nat) : Int) < ((B ^ P : Nat) : Int) := by rw [Int.natCast_natAbs]; exact hc
    exact_mod_cast this
  have := digits_le_of_lt_pow B hB v.natAbs P this
  unfold digitsI at h; omega

theorem digitsI_le_of_abs_lt (B : Nat) (hB : 2 ≤ B) (v : Int) (P : Nat) (h : |v| < ((B ^ P : Nat) : Int)) :
    digitsI B v ≤ P := by
  unfold digitsI
  apply digits_le_of_lt_pow B hB
  have : ((v.natAbs : Nat) : Int) < ((B ^ P : Nat) : Int) := by rw [Int.natCast_natAbs]; exact h
  exact_mod_cast this

/-- dropping the last digit of `±B^(P+1)` (the carry of `9.99 → 10.0`): exact, `±B^P`, of the same sign -/
theorem tdiv_of_abs_eq_pow (B P : Nat) (hB : 0 < B) (R : Int) (h : |R| = ((B ^ (P + 1) : Nat) : Int)) :
    Int.tdiv R B * (B : Int) = R ∧ |Int.tdiv R B| = ((B ^ P : Nat) : Int) ∧
      (R < 0 → Int.tdiv R B < 0) ∧ (0 ≤ R → 0 ≤ Int.tdiv R B) := by
  have hpow : ((B ^ (P + 1) : Nat) : Int) = ((B ^ P : Nat) : Int) * (B : Int) := by push_cast; ring
  have hBi : (0 : Int) < (B : Int) := by exact_mod_cast hB
  have hPp := natpow_pos B hB P
  rw [hpow] at h
  rcases abs_cases R with ⟨h1, h0⟩ | ⟨h1, h0⟩
  · have ht : Int.tdiv R B = ((B ^ P : Nat) : Int) := by
      rw [← h1, h]; exact Int.mul_tdiv_cancel _ (by omega)
    rw [ht]
    exact ⟨by omega, abs_of_pos hPp, fun hn => by omega, fun _ => hPp.le⟩
  · have ht : Int.tdiv R B = -((B ^ P : Nat) : Int) := by
      have : R = -(((B ^ P : Nat) : Int) * (B : Int)) := by omega
      rw [this, ← Int.neg_mul]; exact Int.mul_tdiv_cancel _ (by omega)
    rw [ht]
    exact ⟨by rw [Int.neg_mul]; omega, by rw [abs_neg]; exact abs_of_pos hPp, fun _ => by omega, fun hn => by omega⟩

/-- a carry into a new digit: the rounded significand is `±B^P`, `P` the number of digits wanted -/
theorem sciRounded_carry (B : Nat) (hB : 2 ≤ B) (m : Mode) (p0 : Nat) (useHex : Bool) (r : FRepr)
    (h : digitsI B r.signif > sciDigits useHex p0)
    (hc : digitsI B (sciRounded B m p0 useHex r) > sciDigits useHex p0) :
    ∃ P, sciDigits useHex p0 = P + 1 ∧ |sciRounded B m p0 useHex r| = ((B ^ (P + 1) : Nat) : Int) := by
  have hpos := sciDigits_pos useHex p0
  refine ⟨sciDigits useHex p0 - 1, by omega, ?_⟩
  rw [show sciDigits useHex p0 - 1 + 1 = sciDigits useHex p0 by omega]
  exact le_antisymm (sciRounded_abs_le B hB m p0 useHex r h) (digitsI_gt_imp B hB _ _ hc)

/-- **what is printed is the rounded value, in at most `P` digits**: the pair `(S, e)` handed to the
    digit printer satisfies `S · B^e = R · B^(exp + shift)` (`R` the rounded significand — dropping the
    carry digit does not change the value) and `S` has at most `P = p + 1` (`4p + 4`) digits -/
theorem sciPair_value (B : Nat) (hB : 2 ≤ B) (m : Mode) (p0 : Nat) (useHex : Bool) (r : FRepr) :
    ((sciPair B m (some p0) useHex r).1 : ℚ) * bpowQ B (sciPair B m (some p0) useHex r).2 =
        (sciRounded B m p0 useHex r : ℚ) * bpowQ B (r.exp + (sciShift B p0 useHex r : Int)) ∧
      digitsI B (sciPair B m (some p0) useHex r).1 ≤ sciDigits useHex p0 := by
  have hB0 : 0 < B := by omega
  rw [sciPair_some]
  by_cases h : digitsI B r.signif > sciDigits useHex p0
  · simp only [h, if_true]
    by_cases hc : digitsI B (sciRounded B m p0 useHex r) > sciDigits useHex p0
    · simp only [hc, if_true]
      obtain ⟨P, hP, habs⟩ := sciRounded_carry B hB m p0 useHex r h hc
      rw [hP]
      obtain ⟨hmul, hdabs, _, _⟩ := tdiv_of_abs_eq_pow B P hB0 _ habs
      constructor
      · have e1 : r.exp + (sciShift B p0 useHex r : Int) + 1 = 1 + (r.exp + (sciShift B p0 useHex r : Int)) := by ring
        rw [e1, bpowQ_add B hB0]
        have e2 : bpowQ B 1 = (B : ℚ) := by
          have := bpowQ_nat B 1; simpa using this
        rw [e2, ← mul_assoc]
        congr 1
        exact_mod_cast hmul
      · apply digitsI_le_of_abs_lt B hB
        rw [hdabs]
        exact_mod_cast Nat.pow_lt_pow_right (by omega : 1 < B) (Nat.lt_succ_self P)
    · simp only [hc, if_false]
      exact ⟨trivial, by omega⟩
  · simp only [h, if_false]
    have h0 : sciShift B p0 useHex r = 0 := by unfold sciShift; omega
    have hR : sciRounded B m p0 useHex r = r.signif := by unfold sciRounded; simp only [h, if_false]
    rw [h0, hR]
    exact ⟨by simp, by omega⟩

-- ---------------------------------------------------------------- sign and non-vanishing

theorem sciRounded_sign (B : Nat) (hB : 2 ≤ B) (m : Mode) (p0 : Nat) (useHex : Bool) (r : FRepr) :
    (r.signif < 0 → sciRounded B m p0 useHex r < 0) ∧ (0 ≤ r.signif → 0 ≤ sciRounded B m p0 useHex r) := by
  have hD := natpow_pos B (by omega) (sciShift B p0 useHex r)
  have hspec := sciRounded_spec B hB m p0 useHex r
  obtain ⟨h1, h2⟩ := modeSpec_sign m _ _ _ hD hspec
  refine ⟨fun hneg => ?_, h2⟩
  have hle := h1 (by omega)
  have hne : sciRounded B m p0 useHex r ≠ 0 := by
    apply modeSpec_ne_zero m _ _ _ hD hspec
    -- |signif| ≥ B^(n−1) ≥ B^shift
    obtain ⟨hlow, hpos⟩ := digitsI_lower B hB r.signif (by omega)
    have : B ^ sciShift B p0 useHex r ≤ B ^ (digitsI B r.signif - 1) := by
      apply Nat.pow_le_pow_right (by omega)
      unfold sciShift
      have := sciDigits_pos useHex p0
      omega
    have h3 : ((B ^ sciShift B p0 useHex r : Nat) : Int) ≤ ((r.signif.natAbs : Nat) : Int) := by
      exact_mod_cast le_trans this hlow
    rwa [Int.natCast_natAbs] at h3
  omega

/-- the printed significand keeps the sign of the number: negative stays negative, non-negative non-negative -/
theorem sciPair_sign (B : Nat) (hB : 2 ≤ B) (m : Mode) (prec : Option Nat) (useHex : Bool) (r : FRepr) :
    (r.signif < 0 → (sciPair B m prec useHex r).1 < 0) ∧ (0 ≤ r.signif → 0 ≤ (sciPair B m prec useHex r).1) := by
  cases prec with
  | none => exact ⟨fun h => h, fun h => h⟩
  | some p0 =>
    rw [sciPair_some]
    obtain ⟨h1, h2⟩ := sciRounded_sign B hB m p0 useHex r
    by_cases h : digitsI B r.signif > sciDigits useHex p0
    · simp only [h, if_true]
      by_cases hc : digitsI B (sciRounded B m p0 useHex r) > sciDigits useHex p0
      · simp only [hc, if_true]
        obtain ⟨P, _, habs⟩ := sciRounded_carry B hB m p0 useHex r h hc
        obtain ⟨_, _, hn, hp⟩ := tdiv_of_abs_eq_pow B P (by omega) _ habs
        exact ⟨fun hneg => hn (h1 hneg), fun hnn => hp (h2 hnn)⟩
      · simp only [hc, if_false]; exact ⟨h1, h2⟩
    · simp only [h, if_false]; exact ⟨fun h => h, fun h => h⟩

-- ---------------------------------------------------------------- the text

/-- radix of the digits shown (`16` for the hexadecimal form of base 2) and base-`B` digits per shown digit -/
def sciRadix (B : Nat) (useHex : Bool) : Nat := if useHex then 16 else B
def sciK (useHex : Bool) : Nat := if useHex then 4 else 1

theorem sciRadix_eq_pow (B : Nat) (useHex : Bool) (hhex : useHex = true → B = 2) :
    sciRadix B useHex = B ^ sciK useHex := by
  unfold sciRadix sciK
  cases useHex with
  | true => rw [hhex rfl]; rfl
  | false => simp

theorem sciRadix_ge (B : Nat) (hB : 2 ≤ B) (useHex : Bool) : 2 ≤ sciRadix B useHex := by
  unfold sciRadix; cases useHex <;> simp <;> omega

/-- `signif_str` is the digit string of `|S|` in the shown radix -/
theorem sciStr_eq (B : Nat) (hB : 2 ≤ B) (m : Mode) (prec : Option Nat) (upper useHex : Bool) (r : FRepr) :
    sciStr B m prec upper useHex r =
      chars upper (digits (sciRadix B useHex) (sciPair B m prec useHex r).1.natAbs) := by
  obtain ⟨h1, h2⟩ := sciPair_sign B hB m prec useHex r
  unfold sciStr sciRadix printSpecInt printSpec chars
  by_cases h : r.signif < 0
  · have := h1 h
    simp [h, this]
  · have : ¬ (sciPair B m prec useHex r).1 < 0 := by have := h2 (by omega); omega
    simp [h, this]

/-- with a precision `p0` at most `p0 + 1` digits are shown -/
theorem sciStr_length_le (B : Nat) (hB : 2 ≤ B) (m : Mode) (p0 : Nat) (upper useHex : Bool)
    (hhex : useHex = true → B = 2) (r : FRepr) :
    (digits (sciRadix B useHex) (sciPair B m (some p0) useHex r).1.natAbs).length ≤ p0 + 1 := by
  obtain ⟨_, hd⟩ := sciPair_value B hB m p0 useHex r
  apply digits_length_le (sciRadix_ge B hB useHex) (p0 + 1) _ (by omega)
  have h1 := digits_lt_pow B hB (sciPair B m (some p0) useHex r).1.natAbs
  have h2 : B ^ Dashu.Model.Float.digits B (sciPair B m (some p0) useHex r).1.natAbs ≤ B ^ sciDigits useHex p0 :=
    Nat.pow_le_pow_right (by omega) hd
  have h3 : B ^ sciDigits useHex p0 = sciRadix B useHex ^ (p0 + 1) := by
    rw [sciRadix_eq_pow B useHex hhex, ← pow_mul]
    congr 1
    unfold sciDigits sciK; cases useHex <;> simp <;> ring
  omega

/-- the body is one digit, the fraction digits (those of the significand, then zeros up to the
    precision) behind a point — no point if there are none —, the marker and the exponent -/
theorem sciBodyG_chars (up : Bool) (d0 : Nat) (ds expStr : List Nat) (p marker : Nat) :
    sciBodyG (chars up (d0 :: ds)) expStr p marker =
      chars up [d0] ++
        fracChars up (if ds ++ List.replicate (p - ds.length) 0 = [] then none
          else some (ds ++ List.replicate (p - ds.length) 0)) ++ [marker] ++ expStr := by
  unfold sciBodyG
  have h1 : (chars up (d0 :: ds)).take 1 = chars up [d0] := by simp [chars]
  have h2 : (chars up (d0 :: ds)).drop 1 = chars up ds := by simp [chars]
  rw [h1, h2, chars_length, rep_zero_chars up]
  congr 2
  rw [List.append_assoc]
  congr 1
  by_cases hds : ds = []
  · subst hds
    simp only [chars, List.map_nil, ne_eq, not_true_eq_false, if_false, List.nil_append, List.length_nil,
      Nat.sub_zero, if_true]
    by_cases hp : p > 0
    · have : List.replicate p 0 ≠ [] := by
        intro h; have := congrArg List.length h; simp at this; omega
      simp [hp, this, fracChars, chars]
    · have : p = 0 := by omega
      subst this; simp [fracChars]
  · have hc : chars up ds ≠ [] := fun h => hds (chars_eq_nil.mp h)
    have hne : ds ++ List.replicate (p - ds.length) 0 ≠ [] := by
      intro h; exact hds (List.append_eq_nil_iff.mp h).1
    simp only [hc, ne_eq, not_false_eq_true, if_true, if_false, hne]
    unfold fracChars
    simp only [chars_append]
    by_cases hp : p > 0
    · simp [hp]
    · have : p = 0 := by omega
      subst this; simp [chars]

/-- the value the scientific formats show: the exact value without a precision; with precision `p0`
    the significand rounded to `p0 + 1` digits (`4·p0 + 4` bits), i.e. `R · B^(exp + shift)` -/
def sciShown (B : Nat) (m : Mode) (prec : Option Nat) (useHex : Bool) (r : FRepr) : ℚ :=
  match prec with
  | none => r.toRat B
  | some p0 => (sciRounded B m p0 useHex r : ℚ) * bpowQ B (r.exp + (sciShift B p0 useHex r : Int))

theorem sciPair_shown (B : Nat) (hB : 2 ≤ B) (m : Mode) (prec : Option Nat) (useHex : Bool) (r : FRepr) :
    ((sciPair B m prec useHex r).1 : ℚ) * bpowQ B (sciPair B m prec useHex r).2 = sciShown B m prec useHex r := by
  cases prec with
  | none => rfl
  | some p0 => exact (sciPair_value B hB m p0 useHex r).1

/-- `fmtSciCore_denotes` (below) with the exponent named: it is `sciExp`, the `exp_adjust` the code prints -/
theorem fmtSciCore_denotes_exp (B : Nat) (hB : 2 ≤ B) (m : Mode) (prec : Option Nat) (upper useHex : Bool)
    (hhex : useHex = true → B = 2) (marker : Nat) (r : FRepr) :
    ∃ (d0 : Nat) (fd : List Nat),
      fmtSciCore B m prec upper useHex marker r =
        chars upper [d0] ++ fracChars upper (if fd = [] then none else some fd) ++ [marker] ++
          printSpecInt 10 false (sciExp B m prec upper useHex r) ∧
      d0 < sciRadix B useHex ∧ (∀ d ∈ fd, d < sciRadix B useHex) ∧
      (∀ p0, prec = some p0 → fd.length = p0) ∧
      (ofDigits (sciRadix B useHex) (d0 :: fd) : ℚ) *
          bpowQ B (sciExp B m prec upper useHex r - ((fd.length * sciK useHex : Nat) : Int)) =
        |sciShown B m prec useHex r| := by
  have hB0 : 0 < B := by omega
  have hρ := sciRadix_ge B hB useHex
  have hstr := sciStr_eq B hB m prec upper useHex r
  have hshown := sciPair_shown B hB m prec useHex r
  have hlen : ∀ p0, prec = some p0 →
      (digits (sciRadix B useHex) (sciPair B m prec useHex r).1.natAbs).length ≤ p0 + 1 := by
    intro p0 hp; subst hp; exact sciStr_length_le B hB m p0 upper useHex hhex r
  have hE : sciExp B m prec upper useHex r =
      (sciPair B m prec useHex r).2 + (((sciStr B m prec upper useHex r).length - 1 : Nat) : Int) * (sciK useHex : Nat) := by
    have hpos : 0 < (sciStr B m prec upper useHex r).length := by
      rw [hstr, chars_length]; exact List.length_pos_iff.mpr (digits_ne_nil _ _ hρ)
    unfold sciExp sciK
    cases useHex <;> simp <;> omega
  rw [fmtSciCore_eq_bodyG, hE, hstr, chars_length]
  have hDlt := digits_lt hρ (sciPair B m prec useHex r).1.natAbs
  have hDv := ofDigits_digits hρ (sciPair B m prec useHex r).1.natAbs
  have hDne := digits_ne_nil (sciRadix B useHex) (sciPair B m prec useHex r).1.natAbs hρ
  generalize digits (sciRadix B useHex) (sciPair B m prec useHex r).1.natAbs = D at *
  generalize sciPair B m prec useHex r = Se at *
  cases D with
  | nil => exact absurd rfl hDne
  | cons d0 ds =>
    rw [sciBodyG_chars]
    refine ⟨d0, ds ++ List.replicate (prec.getD 0 - ds.length) 0, rfl, hDlt d0 (by simp), ?_, ?_, ?_⟩
    · intro d hd
      rcases List.mem_append.mp hd with h | h
      · exact hDlt d (by simp [h])
      · have := List.eq_of_mem_replicate h; omega
    · intro p0 hp
      have := hlen p0 hp
      subst hp
      simp only [List.length_cons] at this
      simp only [Option.getD_some, List.length_append, List.length_replicate]
      omega
    · have hk : sciRadix B useHex = B ^ sciK useHex := sciRadix_eq_pow B useHex hhex
      generalize prec.getD 0 - ds.length = t at *
      have e1 : d0 :: (ds ++ List.replicate t 0) = (d0 :: ds) ++ List.replicate t 0 := rfl
      rw [e1, ofDigits_append_replicate_zero, hDv, ← hshown, abs_mul, abs_of_pos (bpowQ_pos B hB0 _)]
      simp only [List.length_cons, List.length_append, List.length_replicate, Nat.add_sub_cancel]
      rw [hk, ← pow_mul, Nat.cast_mul, mul_assoc, ← bpowQ_nat, ← bpowQ_add B hB0]
      have : (((Se.1.natAbs : Nat) : ℚ)) = |(Se.1 : ℚ)| := by
        rw [Nat.cast_natAbs, Int.cast_abs]
      rw [this]
      congr 2
      push_cast
      ring

/-- **the scientific text denotes the rounded value**: the core of every scientific format is
    `d₀ [. d₁ … d_n] marker E` — one leading digit, then (behind a point, absent when there are none) the
    remaining digits of the significand followed by zeros, exactly `p0` of them when a precision `p0` is
    given —, all digits below the shown radix (`16` for the hexadecimal form of base 2, else `B`), and
    read as a number it is the magnitude of the shown value:
    `(d₀d₁…d_n)_radix · B^(E − n·k) = |sciShown|` (`k = 4` for hexadecimal digits, else `1`);
    `sciShown` is the exact value without a precision and the mode's rounding to `p0 + 1` significant
    digits with one (`sciRounded_spec`) -/
theorem fmtSciCore_denotes (B : Nat) (hB : 2 ≤ B) (m : Mode) (prec : Option Nat) (upper useHex : Bool)
    (hhex : useHex = true → B = 2) (marker : Nat) (r : FRepr) :
    ∃ (d0 : Nat) (fd : List Nat) (E : Int),
      fmtSciCore B m prec upper useHex marker r =
        chars upper [d0] ++ fracChars upper (if fd = [] then none else some fd) ++ [marker] ++
          printSpecInt 10 false E ∧
      d0 < sciRadix B useHex ∧ (∀ d ∈ fd, d < sciRadix B useHex) ∧
      (∀ p0, prec = some p0 → fd.length = p0) ∧
      (ofDigits (sciRadix B useHex) (d0 :: fd) : ℚ) * bpowQ B (E - ((fd.length * sciK useHex : Nat) : Int)) =
        |sciShown B m prec useHex r| := by
  obtain ⟨d0, fd, h⟩ := fmtSciCore_denotes_exp B hB m prec upper useHex hhex marker r
  exact ⟨d0, fd, _, h⟩

/-- the shown value keeps the sign of the number (`-` is printed iff the significand is negative) -/
theorem sciShown_sign (B : Nat) (hB : 2 ≤ B) (m : Mode) (prec : Option Nat) (useHex : Bool) (r : FRepr) :
    (r.signif < 0 → sciShown B m prec useHex r < 0) ∧ (0 ≤ r.signif → 0 ≤ sciShown B m prec useHex r) := by
  have hB0 : 0 < B := by omega
  rw [← sciPair_shown B hB]
  obtain ⟨h1, h2⟩ := sciPair_sign B hB m prec useHex r
  have hp := bpowQ_pos B hB0 (sciPair B m prec useHex r).2
  constructor
  · intro h
    have : ((sciPair B m prec useHex r).1 : ℚ) < 0 := by exact_mod_cast h1 h
    exact mul_neg_of_neg_of_pos this hp
  · intro h
    have : (0 : ℚ) ≤ ((sciPair B m prec useHex r).1 : ℚ) := by exact_mod_cast h2 h
    exact mul_nonneg this (le_of_lt hp)

end Dashu.Model.Text
