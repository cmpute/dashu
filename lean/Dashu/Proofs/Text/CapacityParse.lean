import Dashu.Proofs.Text.Capacity
import Dashu.Proofs.Text.ParsePow2
/-
  C07 — the parsers never overflow a `Word`, never push beyond the allocated buffer and never hit
  their length assertions: the bounded model of `Model/Text/Capacity.lean` equals the unbounded one.  At the end the
  run of the printers' `DigitWriter` over any sequence of `write` calls (`digitWriterRun_eq`, from `Capacity.DW_write_spec`).
-/
namespace Dashu.Model.Text

/-- a digit appended below `j` digits -/
theorem push_digit_lt {r word d j : Nat} (hw : word < r ^ j) (hd : d < r) : word * r + d < r ^ (j + 1) := by
  rw [pow_succ]
  calc word * r + d < word * r + r := by omega
    _ = (word + 1) * r := by ring
    _ ≤ r ^ j * r := Nat.mul_le_mul_right _ (by omega)

/-- `parse_word`: at most `digits_per_word` digits never overflow the word -/
theorem parseWordLoopC_eq {W r : Nat} {ri : RadixInfo} (ok : RadixOK W r ri) (cs : List Nat) (word j : Nat)
    (hw : word < r ^ j) (hj : j + cs.length ≤ ri.dpw) :
    parseWordLoopC W r cs word = .ok (parseWordLoop r cs word) := by
  induction cs generalizing word j with
  | nil => rfl
  | cons c cs ih =>
    simp only [parseWordLoopC, parseWordLoop]
    cases hd : digitOf r c with
    | none => rfl
    | some d =>
      simp only []
      have hdl := digitOf_lt hd
      simp only [List.length_cons] at hj
      have hnext := push_digit_lt hw hdl
      have hfit : word * r + d < 2 ^ W := by
        calc word * r + d < r ^ (j + 1) := hnext
          _ ≤ r ^ ri.dpw := Nat.pow_le_pow_right (by have := ok.hr; omega) (by omega)
          _ = ri.rpw := ok.pow.symm
          _ < 2 ^ W := ok.lt
      rw [if_neg (by omega)]
      exact ih _ (j + 1) hnext (by omega)

theorem parseWordLoop_lt {r : Nat} (cs : List Nat) (word j v : Nat) (hw : word < r ^ j)
    (h : parseWordLoop r cs word = .ok v) : v < r ^ (j + cs.length) := by
  induction cs generalizing word j with
  | nil => simp [parseWordLoop] at h; subst h; simpa using hw
  | cons c cs ih =>
    simp only [parseWordLoop] at h
    cases hd : digitOf r c with
    | none => simp [hd] at h
    | some d =>
      simp only [hd] at h
      have hdl := digitOf_lt hd
      have hnext := push_digit_lt hw hdl
      have := ih _ (j + 1) hnext h
      simp only [List.length_cons]
      rw [show j + (cs.length + 1) = j + 1 + cs.length from by omega]; exact this

/-- the accumulation loop of `parse_chunk`: carries fit a word and every `push` finds room -/
theorem parseChunkLoopC_eq {W r : Nat} {ri : RadixInfo} (ok : RadixOK W r ri) (cap : Nat) (gs : List (List Nat))
    (hgs : ∀ g ∈ gs, g.length ≤ ri.dpw) (len acc : Nat) (hacc : acc < 2 ^ (W * len)) (hcap : len + gs.length ≤ cap) :
    parseChunkLoopC W r ri.rpw cap gs len acc = .ok (parseChunkLoop r ri.rpw gs acc) := by
  induction gs generalizing len acc with
  | nil => rfl
  | cons g gs ih =>
    have hg := hgs g (by simp)
    simp only [parseChunkLoopC, parseChunkLoop, parseWord]
    rw [parseWordLoopC_eq ok g 0 0 (by simp) (by simpa using hg)]
    cases hp : parseWordLoop r g 0 with
    | error e => rfl
    | ok next =>
      simp only []
      have hnext : next < ri.rpw := by
        have := parseWordLoop_lt g 0 0 next (by simp) hp
        calc next < r ^ (0 + g.length) := this
          _ ≤ r ^ ri.dpw := Nat.pow_le_pow_right (by have := ok.hr; omega) (by omega)
          _ = ri.rpw := ok.pow.symm
      have hlt := ok.lt
      have hpl : 0 < 2 ^ (W * len) := Nat.pow_pos (by omega)
      have hbound : acc * ri.rpw + next < 2 ^ (W * len) * 2 ^ W := by
        calc acc * ri.rpw + next < acc * ri.rpw + ri.rpw := by omega
          _ = (acc + 1) * ri.rpw := by ring
          _ ≤ 2 ^ (W * len) * ri.rpw := Nat.mul_le_mul_right _ (by omega)
          _ ≤ 2 ^ (W * len) * 2 ^ W := Nat.mul_le_mul_left _ (by omega)
      have hcarry : (acc * ri.rpw + next) / 2 ^ (W * len) < 2 ^ W := by
        rw [Nat.div_lt_iff_lt_mul hpl, Nat.mul_comm (2 ^ W)]; exact hbound
      simp only [List.length_cons] at hcap
      rw [if_neg (by omega)]
      by_cases hc0 : (acc * ri.rpw + next) / 2 ^ (W * len) ≠ 0
      · rw [if_pos hc0, if_neg (by omega)]
        apply ih (fun x hx => hgs x (by simp [hx])) (len + 1) _ _ (by omega)
        rw [Nat.mul_add, Nat.mul_one, pow_add]; exact hbound
      · rw [if_neg hc0]
        apply ih (fun x hx => hgs x (by simp [hx])) len _ _ (by omega)
        have : (acc * ri.rpw + next) / 2 ^ (W * len) = 0 := by omega
        exact (Nat.div_eq_zero_iff.mp this).resolve_left (by omega)

theorem rchunksRev_lengths (k : Nat) (hk : k ≠ 0) (l : List Nat) : ∀ g ∈ rchunksRev k l, g.length ≤ k := by
  rcases rchunksRev_spec k hk l with ⟨g0, gs, h⟩
  rcases h with ⟨e, _, hlen⟩ | ⟨e, _⟩
  · intro g hg
    rw [e] at hg
    rcases List.mem_cons.mp hg with h | h
    · -- the first group: `l.take h` with `h = len % k` or a full chunk
      subst h
      unfold rchunksRev at e
      by_cases h0 : l.length % k = 0
      · simp only [h0, if_true] at e
        by_cases hl : l = []
        · subst hl; rw [chunksOf_nil] at e; cases e
        · rw [chunksOf_step hk hl] at e
          have := (List.cons.inj e).1
          rw [← this, List.length_take]; omega
      · simp only [h0, if_false] at e
        have := (List.cons.inj e).1
        rw [← this, List.length_take]
        have := Nat.mod_lt l.length (by omega : 0 < k)
        omega
    · rw [hlen g h]
  · intro g hg; rw [e] at hg; cases hg

/-- `parse_chunk` within its length precondition: no panic, same result -/
theorem parseChunkC_eq (W r : Nat) (hr : 2 ≤ r) (hrW : r < 2 ^ W) (bytes : List Nat)
    (hlen : bytes.length ≤ parseChunkLen * (radixInfo W r).dpw) :
    parseChunkC W r bytes = .ok (parseChunk W r bytes) := by
  have ok := radixInfo_ok W r hr hrW
  unfold parseChunkC parseChunk
  simp only []
  rw [if_neg (by omega)]
  have hk : (radixInfo W r).dpw ≠ 0 := by have := ok.dpos; omega
  apply parseChunkLoopC_eq ok _ _ (rchunksRev_lengths _ hk bytes) 0 0 (by simp)
  unfold defaultCapacity; omega

/-- the divide-and-conquer recursion respects its length assertions down to the leaves -/
theorem parseDCC_eq (W r : Nat) (hr : 2 ≤ r) (hrW : r < 2 ^ W) (ps : List Nat) (bytes : List Nat)
    (hlen : bytes.length ≤ (parseChunkLen * (radixInfo W r).dpw) <<< ps.length) :
    parseDCC W r (parseChunkLen * (radixInfo W r).dpw) ps bytes =
      .ok (parseDC W r (parseChunkLen * (radixInfo W r).dpw) ps bytes) := by
  induction ps generalizing bytes with
  | nil =>
    simp only [List.length_nil, Nat.shiftLeft_zero] at hlen
    simp only [parseDCC, parseDC]
    rw [if_neg (by omega)]
    exact parseChunkC_eq W r hr hrW bytes hlen
  | cons p ps ih =>
    simp only [parseDCC, parseDC]
    simp only [List.length_cons] at hlen
    rw [if_neg (by omega)]
    generalize hcb : parseChunkLen * (radixInfo W r).dpw = cb at *
    by_cases hle : bytes.length ≤ cb <<< ps.length
    · simp only [hle, if_true]; exact ih bytes hle
    · simp only [hle, if_false]
      have h2 : cb <<< (ps.length + 1) = cb <<< ps.length + cb <<< ps.length := by
        simp only [Nat.shiftLeft_eq, pow_succ]; ring
      rw [ih (bytes.take (bytes.length - cb <<< ps.length)) (by rw [List.length_take]; omega),
        ih (bytes.drop (bytes.length - cb <<< ps.length)) (by rw [List.length_drop]; omega)]
      cases parseDC W r cb ps (bytes.take (bytes.length - cb <<< ps.length)) with
      | error e => rfl
      | ok hi =>
        cases parseDC W r cb ps (bytes.drop (bytes.length - cb <<< ps.length)) with
        | error e => rfl
        | ok lo => rfl

/-- the tower of `parse_large` is high enough for the input:
    the loop `while chunk_bytes <= (len - 1) >> radix_powers.len()` ends with `len ≤ chunk_bytes << radix_powers.len()` -/
theorem parsePowers_covers (cb len : Nat) (hcb : 1 ≤ cb) :
    ∀ (fuel : Nat) (ps : List Nat), ps ≠ [] → len ≤ (cb <<< ps.length) * 2 ^ fuel →
      len ≤ cb <<< (parsePowers cb len fuel ps).length := by
  intro fuel
  induction fuel with
  | zero => intro ps _ h; simpa [parsePowers] using h
  | succ fuel ih =>
    intro ps hne h
    cases ps with
    | nil => exact absurd rfl hne
    | cons prev rest =>
      simp only [parsePowers]
      split
      · apply ih _ (by simp)
        simp only [List.length_cons] at h ⊢
        calc len ≤ cb <<< (rest.length + 1) * 2 ^ (fuel + 1) := h
          _ = cb <<< (rest.length + 1 + 1) * 2 ^ fuel := by simp only [Nat.shiftLeft_eq, pow_succ]; ring
      · rename_i hstop
        simp only [List.length_cons] at hstop ⊢
        have hs : (len - 1) >>> (rest.length + 1) < cb := by omega
        rw [Nat.shiftRight_eq_div_pow, Nat.div_lt_iff_lt_mul (Nat.pow_pos (by omega))] at hs
        rw [Nat.shiftLeft_eq]
        omega

theorem parseLargeC_eq (W r : Nat) (hr : 2 ≤ r) (hrW : r < 2 ^ W) (bytes : List Nat) :
    parseLargeC W r bytes = .ok (parseLarge W r bytes) := by
  have ok := radixInfo_ok W r hr hrW
  unfold parseLargeC parseLarge
  simp only []
  apply parseDCC_eq W r hr hrW
  apply parsePowers_covers _ _ (by have := ok.dpos; simp [parseChunkLen, Dashu.Gen.parse_CHUNK_LEN]; omega) _ _ (by simp)
  simp only [List.length_cons, List.length_nil, Nat.shiftLeft_eq]
  have h1 : bytes.length < 2 ^ bytes.length := Nat.lt_two_pow_self
  have h2 : 1 ≤ parseChunkLen * (radixInfo W r).dpw * 2 ^ (0 + 1) := by
    have := ok.dpos; simp [parseChunkLen, Dashu.Gen.parse_CHUNK_LEN]; omega
  calc bytes.length ≤ 1 * 2 ^ bytes.length := by omega
    _ ≤ parseChunkLen * (radixInfo W r).dpw * 2 ^ (0 + 1) * 2 ^ bytes.length := Nat.mul_le_mul_right _ h2

/-- **the non-power-of-two parser never overflows a word, never pushes beyond its buffer and never
    fails a length assertion, for any byte string** -/
theorem parseNonPow2C_eq (W r : Nat) (hr : 2 ≤ r) (hrW : r < 2 ^ W) (src : List Nat) :
    parseNonPow2C W r src = .ok (parseNonPow2 W r src) := by
  have ok := radixInfo_ok W r hr hrW
  unfold parseNonPow2C parseNonPow2
  simp only []
  generalize (if src.contains 95 = true then src.filter (· ≠ 95) else src) = bytes
  by_cases h1 : bytes.length ≤ (radixInfo W r).dpw
  · rw [if_pos h1, if_pos h1]
    exact parseWordLoopC_eq ok _ 0 0 (by simp) (by simpa using h1)
  · rw [if_neg h1, if_neg h1]
    by_cases h2 : bytes.length ≤ parseChunkLen * (radixInfo W r).dpw
    · rw [if_pos h2, if_pos h2]; exact parseChunkC_eq W r hr hrW _ h2
    · rw [if_neg h2, if_neg h2]; exact parseLargeC_eq W r hr hrW _

-- ---------------------------------------------------------------- power-of-two parser

/-- the bounded loop of `power_two::parse_large`: a push always finds room in
    `Buffer::allocate((num_bits - 1) / WORD_BITS + 1)` and no shift amount reaches the word size -/
theorem parsePow2LargeLoopC_eq (W log r cap numBits : Nat) (hlog : 1 ≤ log) (hlW : log < W)
    (hcap : (numBits - 1) / W + 1 ≤ cap) (cs : List Nat) (bits word : Nat) (buf : List Nat)
    (hb : bits < W) (hinv : W * buf.length + bits + log * cs.length ≤ numBits) :
    parsePow2LargeLoopC W log r cap cs bits word buf = .ok (parsePow2LargeLoop W log r cs bits word buf) := by
  induction cs generalizing bits word buf with
  | nil =>
    simp only [parsePow2LargeLoopC, parsePow2LargeLoop]
    by_cases h0 : bits > 0
    · simp only [h0, if_true]
      have : buf.length < cap := by
        simp only [List.length_nil, Nat.mul_zero, Nat.add_zero] at hinv
        have h1 : W * buf.length ≤ numBits - 1 := by omega
        have h2 : buf.length ≤ (numBits - 1) / W := by
          rw [Nat.le_div_iff_mul_le (by omega)]; rw [Nat.mul_comm]; exact h1
        omega
      rw [if_neg (by omega)]
    · simp only [h0, if_false]
  | cons c cs ih =>
    simp only [List.length_cons] at hinv
    have hinv' : W * buf.length + bits + log + log * cs.length ≤ numBits := by
      rw [Nat.mul_add, Nat.mul_one] at hinv; omega
    by_cases hc : c = 95
    · subst hc
      rw [parsePow2LargeLoopC, parsePow2LargeLoop, if_pos rfl, if_pos rfl]
      exact ih bits word buf hb (by omega)
    · rw [parsePow2LargeLoopC, parsePow2LargeLoop, if_neg hc, if_neg hc]
      cases hd : digitOf r c with
      | none => rfl
      | some d =>
        simp only []
        by_cases hge : bits + log ≥ W
        · simp only [hge, if_true]
          have hroom : buf.length < cap := by
            have h1 : W * (buf.length + 1) ≤ numBits := by rw [Nat.mul_add, Nat.mul_one]; omega
            have h2 : W * buf.length ≤ numBits - 1 := by omega
            have h3 : buf.length ≤ (numBits - 1) / W := by
              rw [Nat.le_div_iff_mul_le (by omega)]; rw [Nat.mul_comm]; exact h2
            omega
          have hbits0 : 0 < bits := by omega
          rw [if_neg (by omega), if_neg (by omega)]
          apply ih _ _ _ (by omega)
          simp only [List.length_cons]
          rw [Nat.mul_add, Nat.mul_one]; omega
        · simp only [hge, if_false]
          exact ih _ _ _ (by omega) (by omega)

theorem parsePow2LargeC_eq (W log r : Nat) (hlog : 1 ≤ log) (hlW : log < W) (src : List Nat) :
    parsePow2LargeC W log r src = .ok (parsePow2LargeLoop W log r src.reverse 0 0 []) := by
  unfold parsePow2LargeC
  simp only []
  apply parsePow2LargeLoopC_eq W log r _ (src.length * log) hlog hlW (by unfold defaultCapacity; exact Nat.le_trans (Nat.le_add_right _ _) (Nat.le_add_right _ 2)) _ 0 0 []
    (by omega)
  simp [Nat.mul_comm]

/-- **the power-of-two parser: no digit is shifted out of the word in `parse_word`, no push beyond the
    allocated buffer in `parse_large`** -/
theorem parsePow2C_eq (W r : Nat) (hp : isPow2 r = true) (hr : 2 ≤ r) (hrW : r < 2 ^ W) (src : List Nat) :
    parsePow2C W r src = .ok (parsePow2 W r src) := by
  obtain ⟨hr2, hlog⟩ := isPow2_spec hp hr
  have hlW : Nat.log2 r < W := (Nat.log2_lt (by omega)).mpr hrW
  unfold parsePow2C parsePow2
  simp only []
  generalize hl : Nat.log2 r = log at *
  by_cases hshort : src.length ≤ W / log
  · rw [if_pos hshort, if_pos hshort]
    cases hw : parsePow2Word log r src with
    | error e => rfl
    | ok v =>
      simp only []
      have hv : v < 2 ^ W := by
        rw [hr2, parsePow2Word_spec] at hw
        unfold parseDigitsSpec at hw
        cases hd : digitValues (2 ^ log) (src.filter (· ≠ 95)) with
        | none => rw [hd] at hw; cases hw
        | some ds =>
          rw [hd] at hw
          simp only [Except.ok.injEq] at hw
          have hlen : ds.length ≤ W / log := by
            rw [digitValues_length hd]
            exact Nat.le_trans (List.length_filter_le _ _) hshort
          have hlt := ofDigitsLE_lt (2 ^ log) ds.reverse (fun d hd' => digitValues_lt hd d (List.mem_reverse.mp hd'))
          rw [ofDigitsLE_reverse, List.length_reverse, hw, two_pow_mul] at hlt
          calc v < 2 ^ (log * ds.length) := hlt
            _ ≤ 2 ^ W := Nat.pow_le_pow_right (by omega) (by
                calc log * ds.length ≤ log * (W / log) := Nat.mul_le_mul_left _ hlen
                  _ ≤ W := Nat.mul_div_le W log)
      rw [if_neg (by omega)]
  · rw [if_neg hshort, if_neg hshort, parsePow2LargeC_eq W log r hlog hlW]
    unfold parsePow2Large
    cases parsePow2LargeLoop W log r src.reverse 0 0 [] <;> rfl

-- ---------------------------------------------------------------- both parsers; the `DigitWriter` run

/-- a radix the printers/parsers are called with: a power of two or at least 3 -/
theorem radix_cases (r : Nat) (hr : 2 ≤ r) : isPow2 r = true ∨ 3 ≤ r := by
  by_cases h : r = 2
  · left; subst h; decide
  · right; omega

theorem parseCoreC_eq (W : Nat) (r : Nat) (hr : 2 ≤ r) (hrW : r < 2 ^ W) (src : List Nat) :
    parseCoreC W r src = .ok (if isPow2 r then parsePow2 W r src else parseNonPow2 W r src) := by
  unfold parseCoreC
  by_cases hp : isPow2 r = true
  · rw [if_pos hp, if_pos hp]; exact parsePow2C_eq W r hp hr hrW src
  · rw [if_neg hp, if_neg hp]; exact parseNonPow2C_eq W r hr hrW src

theorem digitWriterLen_pos (W : Nat) (hW : 8 ≤ W) : 1 ≤ digitWriterLen W := by
  unfold digitWriterLen ceilDiv
  have h8 : 1 ≤ W / 8 := (Nat.le_div_iff_mul_le (by omega)).mpr (by omega)
  simp only [show Dashu.Gen.digit_writer_BUFFER_LEN_MIN ≠ 0 from by decide, if_false]
  exact Nat.mul_pos (Nat.succ_pos _) h8

theorem digitWriterRun_go (W : Nat) (hW : 8 ≤ W) (c : DigitCase) (pieces : List (List Nat)) (s : DW)
    (hs : s.pending.length < digitWriterLen W) :
    ∃ s', digitWriterRun.go W c s pieces = .ok s' ∧ s'.pending.length < digitWriterLen W ∧
      s'.out ++ s'.pending.map (rawToAscii c) = s.out ++ s.pending.map (rawToAscii c) ++ pieces.flatten.map (rawToAscii c) := by
  induction pieces generalizing s with
  | nil => exact ⟨s, rfl, hs, by simp⟩
  | cons b bs ih =>
    obtain ⟨s1, h1, h2, h3⟩ := DW_write_spec (digitWriterLen W) (digitWriterLen_pos W hW) c b s hs
    obtain ⟨s2, g1, g2, g3⟩ := ih s1 h2
    refine ⟨s2, ?_, g2, ?_⟩
    · simp only [digitWriterRun.go, h1]; exact g1
    · rw [g3, h3]; simp [List.append_assoc]

/-- the `DigitWriter` delivers exactly the converted digits, in order, whatever the write sizes -/
theorem digitWriterRun_eq (W : Nat) (hW : 8 ≤ W) (c : DigitCase) (pieces : List (List Nat)) :
    digitWriterRun W c pieces = .ok (pieces.flatten.map (rawToAscii c)) := by
  unfold digitWriterRun
  obtain ⟨s', h1, _, h3⟩ := digitWriterRun_go W hW c pieces ⟨[], []⟩
    (by have := digitWriterLen_pos W hW; simp only [List.length_nil]; omega)
  rw [h1]
  simp only [DW.flush]
  simpa using h3

end Dashu.Model.Text
