import Dashu.Proofs.Text.FloatParse
/-
  C08 — `Display` (`Repr::fmt_round`, float/src/fmt.rs) in pieces: the pair printed after the rounding step,
  its digit string, the digits/point/zeros written from them, the width computed and the padding decided,
  put together by `frame`.  What is written from the digit string is its fixed-point text `fpL` with `k`
  fractional places (`bodyG_eq_fpL`); length, literal form and value of the text are read off `fpL`.
-/
namespace Dashu.Model.Text
open Dashu.Model.Float

theorem rep_single (k c : Nat) : rep k [c] = List.replicate k c := by
  unfold rep
  induction k with
  | zero => rfl
  | succ k ih => rw [List.replicate_succ, List.flatten_cons, ih, List.replicate_succ]; rfl

theorem rep_single_length (k c : Nat) : (rep k [c]).length = k := by
  unfold rep
  induction k with
  | zero => rfl
  | succ k ih => rw [List.replicate_succ, List.flatten_cons, List.length_append, ih]; simp; omega

theorem rep_zero (s : List Nat) : rep 0 s = [] := rfl

/-- "print the integral part, at least print a zero" -/
def orZero (l : List Nat) : List Nat := if l = [] then [48] else l

theorem orZero_length (l : List Nat) : (orZero l).length = max l.length 1 := by
  cases l with
  | nil => rfl
  | cons a t => simp [orZero]

theorem orZero_ne (S : List Nat) : orZero S ≠ [] := by unfold orZero; split <;> simp_all

-- ---------------------------------------------------------------- fixed-point text

/-- `fixedPointText` on an arbitrary digit-character string -/
def fpL (S : List Nat) (k : Nat) : List Nat :=
  let ds := List.replicate (k + 1 - S.length) 48 ++ S
  if k = 0 then ds else ds.take (ds.length - k) ++ [46] ++ ds.drop (ds.length - k)

theorem fixedPointText_eq_fpL (B n k : Nat) : fixedPointText B n k = fpL (printSpec B false n) k := by
  unfold fixedPointText fpL
  simp only [rep_single]

/-- the `exp < 0` layout of `fmt_round` (integer part or `0`, point, leading zeros, fraction digits) is the
    fixed-point text of the digit string with `e` fractional positions -/
theorem layout_eq_fpL (S : List Nat) (e : Nat) (he : 1 ≤ e) :
    orZero (S.take (S.length - e)) ++ [46] ++ List.replicate (e - (S.drop (S.length - e)).length) 48 ++
        S.drop (S.length - e) = fpL (orZero S) e := by
  have he0 : e ≠ 0 := by omega
  unfold fpL
  simp only [he0, if_false]
  by_cases hL : S.length > e
  · have hne : S ≠ [] := by intro h; subst h; simp at hL
    have hoz : orZero S = S := by unfold orZero; simp [hne]
    have htk : S.take (S.length - e) ≠ [] := by
      intro h; have := congrArg List.length h; simp at this; omega
    have hoz2 : orZero (S.take (S.length - e)) = S.take (S.length - e) := by unfold orZero; simp [htk]
    rw [hoz, hoz2]
    have h0 : e + 1 - S.length = 0 := by omega
    have h1 : e - (S.drop (S.length - e)).length = 0 := by simp; omega
    rw [h0, h1]
    simp
  · have hLe : S.length ≤ e := by omega
    have h0 : S.length - e = 0 := by omega
    rw [h0, List.take_zero, List.drop_zero]
    have hoz2 : orZero ([] : List Nat) = [48] := rfl
    rw [hoz2]
    by_cases hne : S = []
    · subst hne
      have hoz : orZero ([] : List Nat) = [48] := rfl
      rw [hoz]
      obtain ⟨n, rfl⟩ : ∃ n, e = n + 1 := ⟨e - 1, by omega⟩
      simp only [List.length_nil, Nat.sub_zero, List.append_nil, List.length_cons, Nat.add_sub_cancel,
        List.length_append, List.length_replicate]
      have e1 : n + 1 + 1 - (n + 1) = 1 := by omega
      rw [e1]
      have e2 : List.replicate (n + 1) 48 ++ [48] = 48 :: (List.replicate n 48 ++ [48]) := by
        rw [List.replicate_succ]; rfl
      rw [e2]
      simp only [List.take_succ_cons, List.take_zero, List.drop_succ_cons, List.drop_zero]
      rw [← List.replicate_succ']
    · have hoz : orZero S = S := by unfold orZero; simp [hne]
      rw [hoz]
      obtain ⟨n, hn⟩ : ∃ n, e = S.length + n := ⟨e - S.length, by omega⟩
      have e0 : e + 1 - S.length = n + 1 := by omega
      have e3 : e - S.length = n := by omega
      rw [e0, e3]
      have hlen : (List.replicate (n + 1) 48 ++ S).length - e = 1 := by
        simp only [List.length_append, List.length_replicate]; omega
      rw [hlen, List.replicate_succ]
      simp

theorem fpL_append_zeros (S : List Nat) (e t : Nat) (he : 1 ≤ e) :
    fpL (S ++ List.replicate t 48) (e + t) = fpL S e ++ List.replicate t 48 := by
  unfold fpL
  have h1 : e + t ≠ 0 := by omega
  have h2 : e ≠ 0 := by omega
  simp only [h1, h2, if_false, List.length_append, List.length_replicate]
  have hp : e + t + 1 - (S.length + t) = e + 1 - S.length := by omega
  rw [hp]
  generalize hP : List.replicate (e + 1 - S.length) 48 = P
  have hPl : P.length = e + 1 - S.length := by rw [← hP]; simp
  have hc : e + 1 - S.length + (S.length + t) - (e + t) = e + 1 - S.length + S.length - e := by omega
  rw [hc]
  have hle : e + 1 - S.length + S.length - e ≤ (P ++ S).length := by
    rw [List.length_append, hPl]; omega
  rw [← List.append_assoc P S, List.take_append_of_le_length hle, List.drop_append_of_le_length hle]
  simp

theorem fpL_int_zeros (S : List Nat) (hS : S ≠ []) (t : Nat) :
    fpL (S ++ List.replicate t 48) t = S ++ (if t > 0 then [46] ++ List.replicate t 48 else []) := by
  unfold fpL
  have hL : 1 ≤ S.length := List.length_pos_of_ne_nil hS
  have hp : t + 1 - (S ++ List.replicate t 48).length = 0 := by simp; omega
  rw [hp]
  by_cases ht : t = 0
  · subst ht; simp
  · have : t > 0 := by omega
    simp only [ht, this, if_false, if_true, List.replicate_zero, List.nil_append, List.length_append,
      List.length_replicate, Nat.add_sub_cancel]
    rw [List.take_left' rfl, List.drop_left' rfl]
    simp

theorem fpL_zero (S : List Nat) (hS : S ≠ []) : fpL S 0 = S := by
  unfold fpL
  have : 0 + 1 - S.length = 0 := by have := List.length_pos_of_ne_nil hS; omega
  simp [this]

theorem fpL_all_zero (S : List Nat) (k : Nat) (hS : ∀ c ∈ S, c = 48) (hl : S.length ≤ k + 1) :
    List.replicate (k + 1 - S.length) 48 ++ S = List.replicate (k + 1) 48 := by
  rw [List.eq_replicate_iff]
  refine ⟨by rw [List.length_append, List.length_replicate]; omega, fun c hc => ?_⟩
  rcases List.mem_append.mp hc with h | h
  · exact List.eq_of_mem_replicate h
  · exact hS c h

/-- the fixed-point text of a digit string is a literal body: integer digits (never empty), and behind a
    point exactly `k` fraction digits (no point for `k = 0`); together they are the string, led by zeros -/
theorem fpL_chars (B : Nat) (hB : 0 < B) (D : List Nat) (hD : ∀ d ∈ D, d < B) (k : Nat) :
    ∃ (di : List Nat) (frac : Option (List Nat)),
      fpL (chars false D) k = chars false di ++ fracChars false frac ∧
      (∀ d ∈ di, d < B) ∧ (∀ d ∈ frac.getD [], d < B) ∧ di ≠ [] ∧
      (frac.getD []).length = k ∧ (frac.isSome ↔ 0 < k) ∧
      ofDigits B (di ++ frac.getD []) = ofDigits B D := by
  have hpad : List.replicate (k + 1 - (chars false D).length) 48 ++ chars false D =
      chars false (List.replicate (k + 1 - D.length) 0 ++ D) := by
    rw [chars_append, chars_length]; congr 1; simp [chars, digitChar]
  have hval := ofDigits_replicate_zero_append B (k + 1 - D.length) D
  have hlt : ∀ d ∈ List.replicate (k + 1 - D.length) 0 ++ D, d < B := by
    intro d hd
    rcases List.mem_append.mp hd with h | h
    · rw [List.eq_of_mem_replicate h]; exact hB
    · exact hD d h
  have hlen : k + 1 ≤ (List.replicate (k + 1 - D.length) 0 ++ D).length := by
    rw [List.length_append, List.length_replicate]; omega
  generalize List.replicate (k + 1 - D.length) 0 ++ D = D' at *
  unfold fpL
  simp only [hpad]
  by_cases hk : k = 0
  · subst hk
    refine ⟨D', none, by simp [fracChars], hlt, by simp, ?_, rfl, by simp, by simpa using hval⟩
    intro h; subst h; simp at hlen
  · refine ⟨D'.take (D'.length - k), some (D'.drop (D'.length - k)), ?_, fun d hd => hlt d (List.mem_of_mem_take hd),
      fun d hd => hlt d (List.mem_of_mem_drop hd), ?_, ?_, by simp; omega, ?_⟩
    · simp only [hk, if_false, chars_length, fracChars]
      unfold chars
      rw [List.map_take, List.map_drop]; simp
    · intro h; have := congrArg List.length h; simp at this; omega
    · simp only [Option.getD_some, List.length_drop]; omega
    · rw [Option.getD_some, List.take_append_drop, hval]

-- ---------------------------------------------------------------- the pieces of `fmt_round`

/-- sign text of the float printers -/
def fSign (plus : Bool) (r : FRepr) : List Nat := if r.signif < 0 then [45] else if plus then [43] else []

theorem fSign_length (plus : Bool) (r : FRepr) :
    (fSign plus r).length = if r.signif < 0 || plus then 1 else 0 := by
  unfold fSign
  by_cases h : r.signif < 0
  · simp [h]
  · cases plus <;> simp [h]

/-- the (significand, exponent) pair `fmt_round` prints -/
def dispPair (B : Nat) (m : Mode) (prec : Option Nat) (r : FRepr) : Int × Int :=
  match prec with
  | some p =>
    let diff : Int := (p : Int) + r.exp
    if diff < 0 then
      let shift := (-diff).toNat
      let hl := splitDigits B r.signif shift
      let adj := roundFract B m coarseNone hl.1 hl.2 shift
      (hl.1 + rInt adj, r.exp - diff)
    else (r.signif, r.exp)
  | none => (r.signif, r.exp)

/-- `signif_str`: the digits of the (rounded) significand without the sign -/
def dispStr (B : Nat) (m : Mode) (prec : Option Nat) (r : FRepr) : List Nat :=
  if r.signif < 0 then (printSpecInt B false (dispPair B m prec r).1).drop 1
  else printSpecInt B false (dispPair B m prec r).1

/-- the `width` `fmt_round` computes: from the length `L` of `signif_str`, the
    exponent, the precision option and the sign character count -/
def widthG (L : Nat) (exp : Int) (prec : Option Nat) (hasSign : Nat) : Nat :=
  let len : Int := L
  let leadingZeros := (-(min (exp + len - 1) 0)).toNat
  let trailing0 := (max exp 0).toNat
  let trailingZeros := match prec with
    | some p => let d : Int := (p : Int) + min exp 0; if d > 0 then trailing0 + d.toNat else trailing0
    | none => trailing0
  let signifDigits := if leadingZeros = 0 then max L 1 else L
  let hasPoint : Nat :=
    if exp ≥ 0 then (if prec.getD 0 > 0 then 1 else 0)
    else (if prec ≠ some 0 then 1 else 0)
  signifDigits + hasSign + hasPoint + leadingZeros + trailingZeros

/-- the padding decision of `fmt_round` from the total width -/
def padsG (f : FmtSpec) (width : Nat) : Nat × Nat :=
  match f.width with
  | none => (0, 0)
  | some minWidth =>
    if width ≥ minWidth then (0, 0)
    else if f.zero then (minWidth - width, 0)
    else match f.align with
      | some .left => (0, minWidth - width)
      | some .right | none => (minWidth - width, 0)
      | some .center => let d := minWidth - width; (d / 2, d - d / 2)

/-- digits, point and zeros as `fmt_round` writes them -/
def bodyG (signifStr : List Nat) (exp : Int) (prec : Option Nat) : List Nat :=
  if exp < 0 then
    let e := (-exp).toNat
    let cut := signifStr.length - e
    let int := signifStr.take cut
    let fract := signifStr.drop cut
    let fd := fract.length
    let intOut := orZero int
    match prec with
    | some p =>
      if p ≠ 0 then
        if e ≥ p then intOut ++ [46] ++ rep (p - fd) [48] ++ fract
        else intOut ++ [46] ++ rep (e - fd) [48] ++ fract ++ rep (p - e) [48]
      else intOut
    | none =>
      if fd > 0 then intOut ++ [46] ++ rep (e - fd) [48] ++ fract else intOut
  else
    orZero signifStr ++ rep exp.toNat [48] ++
      (match prec with
       | some p => if p > 0 then [46] ++ rep p [48] else []
       | none => [])

/-- the digits, point and zeros `fmt_round` writes are the fixed-point text, with `k` fractional places, of the
    digit string followed by `k + exp` zeros (`k` the precision, or `-exp` without one) -/
theorem bodyG_eq_fpL (S : List Nat) (exp : Int) (prec : Option Nat)
    (h1 : ∀ p, prec = some p → -exp ≤ (p : Int)) (h2 : prec = none → S ≠ []) :
    bodyG S exp prec =
      fpL (orZero S ++ List.replicate (((prec.getD (-exp).toNat : Nat) : Int) + exp).toNat 48)
        (prec.getD (-exp).toNat) := by
  unfold bodyG
  by_cases he : exp < 0
  · obtain ⟨e, rfl, he1⟩ : ∃ e : Nat, exp = -(e : Int) ∧ 1 ≤ e := ⟨(-exp).toNat, by omega, by omega⟩
    simp only [he, if_true, Int.neg_neg, Int.toNat_natCast, rep_single]
    cases prec with
    | none =>
      have hne := h2 rfl
      have hfd : (S.drop (S.length - e)).length > 0 := by
        have := List.length_pos_of_ne_nil hne; rw [List.length_drop]; omega
      simp only [hfd, if_true, Option.getD_none, Int.add_right_neg, Int.toNat_zero, List.replicate_zero,
        List.append_nil]
      exact layout_eq_fpL S e he1
    | some p =>
      have hp := h1 p rfl
      have hp0 : p ≠ 0 := by omega
      have ht : ((p : Int) + -(e : Int)).toNat = p - e := by omega
      simp only [hp0, ne_eq, not_false_eq_true, if_true, Option.getD_some, ht]
      by_cases hge : e ≥ p
      · obtain rfl : e = p := by omega
        simp only [hge, if_true, Nat.sub_self, List.replicate_zero, List.append_nil]
        exact layout_eq_fpL S e he1
      · simp only [hge, if_false]
        rw [layout_eq_fpL S e he1, ← fpL_append_zeros _ e (p - e) he1]
        congr 1; omega
  · have h0 : (-exp).toNat = 0 := by omega
    simp only [he, if_false, rep_single, h0]
    cases prec with
    | none =>
      simp only [Option.getD_none, List.append_nil, Nat.cast_zero, Int.zero_add]
      rw [fpL_zero _ (by intro h; exact orZero_ne S (List.append_eq_nil_iff.mp h).1)]
    | some p =>
      have ht : ((p : Int) + exp).toNat = exp.toNat + p := by omega
      simp only [Option.getD_some, ht]
      rw [← List.replicate_append_replicate, ← List.append_assoc,
        fpL_int_zeros _ (by intro h; exact orZero_ne S (List.append_eq_nil_iff.mp h).1) p]

/-- `signif_str`, with "at least a zero": the digit string of the magnitude of the printed significand -/
theorem orZero_signStr (B : Nat) (hB : 2 ≤ B) (s s' : Int) (h1 : s < 0 → s' ≤ 0) (h2 : 0 ≤ s → 0 ≤ s') :
    orZero (if s < 0 then (printSpecInt B false s').drop 1 else printSpecInt B false s') =
      printSpec B false s'.natAbs ∧
    (s' ≠ 0 → (if s < 0 then (printSpecInt B false s').drop 1 else printSpecInt B false s') =
      printSpec B false s'.natAbs) := by
  have hne := printSpec_ne_nil B false s'.natAbs hB
  have key : s' ≠ 0 → (if s < 0 then (printSpecInt B false s').drop 1 else printSpecInt B false s') =
      printSpec B false s'.natAbs := by
    intro h0
    by_cases hs : s < 0
    · have : s' < 0 := by have := h1 hs; omega
      simp [hs, printSpecInt, this]
    · have : ¬ s' < 0 := by have := h2 (by omega); omega
      simp [hs, printSpecInt, this]
  refine ⟨?_, key⟩
  by_cases h0 : s' = 0
  · subst h0
    by_cases hs : s < 0
    · simp [hs, printSpecInt, printSpec, digits, orZero, digitChar]
    · simp [hs, printSpecInt, printSpec, digits, orZero, digitChar]
  · rw [key h0]; unfold orZero; simp [hne]

/-- digits, point and zeros of `fmt_round`: independent of the formatter's width, fill, alignment and flags -/
def fmtRoundCore (B : Nat) (m : Mode) (prec : Option Nat) (r : FRepr) : List Nat :=
  let negative := r.signif < 0
  let se : Int × Int := match prec with
    | some p =>
      let diff : Int := (p : Int) + r.exp
      if diff < 0 then
        let shift := (-diff).toNat
        let hl := splitDigits B r.signif shift
        let adj := roundFract B m coarseNone hl.1 hl.2 shift
        (hl.1 + rInt adj, r.exp - diff)
      else (r.signif, r.exp)
    | none => (r.signif, r.exp)
  let signif := se.1
  let exp := se.2
  let full := printSpecInt B false signif
  let signifStr := if negative then full.drop 1 else full
  let len : Int := signifStr.length
  let body : List Nat :=
    if exp < 0 then
      let e := (-exp).toNat
      let cut := signifStr.length - e
      let int := signifStr.take cut
      let fract := signifStr.drop cut
      let fd := fract.length
      let intOut := if int = [] then [48] else int
      match prec with
      | some p =>
        if p ≠ 0 then
          if e ≥ p then intOut ++ [46] ++ rep (p - fd) [48] ++ fract
          else intOut ++ [46] ++ rep (e - fd) [48] ++ fract ++ rep (p - e) [48]
        else intOut
      | none =>
        if fd > 0 then intOut ++ [46] ++ rep (e - fd) [48] ++ fract else intOut
    else
      (if signifStr = [] then [48] else signifStr) ++ rep exp.toNat [48] ++
        (match prec with
         | some p => if p > 0 then [46] ++ rep p [48] else []
         | none => [])
  body

/-- how a printer lays out sign, prefix, body and the two padding amounts: the left amount goes in as fill
    characters before the sign, or — zero flag — as zeros behind sign and prefix -/
def frame (f : FmtSpec) (sign pre body : List Nat) (pads : Nat × Nat) : List Nat :=
  ((if !f.zero then rep pads.1 f.fill else []) ++ sign ++ pre ++ (if f.zero then rep pads.1 [48] else [])) ++
    body ++ rep pads.2 f.fill

theorem fmtRound_eq_frame (B : Nat) (m : Mode) (f : FmtSpec) (prec : Option Nat) (r : FRepr) :
    fmtRound B m f prec r =
      frame f (fSign f.plus r) [] (bodyG (dispStr B m prec r) (dispPair B m prec r).2 prec)
        (padsG f (widthG (dispStr B m prec r).length (dispPair B m prec r).2 prec
          (if r.signif < 0 || f.plus then 1 else 0))) := by
  unfold fmtRound frame fSign bodyG padsG widthG dispStr dispPair orZero
  cases prec <;> simp only [List.append_nil] <;> rfl

theorem fmtRoundCore_eq_bodyG (B : Nat) (m : Mode) (prec : Option Nat) (r : FRepr) :
    fmtRoundCore B m prec r = bodyG (dispStr B m prec r) (dispPair B m prec r).2 prec := by
  unfold fmtRoundCore bodyG dispStr dispPair
  cases prec <;> rfl

theorem padsG_none (f : FmtSpec) (n : Nat) (h : f.width = none) : padsG f n = (0, 0) := by
  unfold padsG; simp only [h]

theorem frame_nopad (f : FmtSpec) (sign pre body : List Nat) : frame f sign pre body (0, 0) = sign ++ pre ++ body := by
  unfold frame; cases f.zero <;> simp [rep_zero]

theorem fmtRound_plain (B : Nat) (m : Mode) (pl : Bool) (prec : Option Nat) (r : FRepr) :
    fmtRound B m { plus := pl } prec r = fSign pl r ++ fmtRoundCore B m prec r := by
  rw [fmtRound_eq_frame, padsG_none _ _ rfl, frame_nopad, fmtRoundCore_eq_bodyG, List.append_nil]

-- ---------------------------------------------------------------- the text as a literal

theorem printSpec_chars (B : Nat) (n : Nat) : printSpec B false n = chars false (digits B n) := rfl

/-- **digits, point and zeros of `fmt_round` are a literal body spelling the printed integer**: for a digit
    string `S` of `n` (empty for a zero behind `-`), integer digits and behind a point exactly `k` fraction
    digits (`k` the precision, or the `-exp` the exponent asks for; no point for `k = 0`); as a number it is
    `n · B^(k + exp)` -/
theorem bodyG_literal (B : Nat) (hB : 2 ≤ B) (S : List Nat) (n : Nat) (hS : orZero S = printSpec B false n)
    (exp : Int) (prec : Option Nat) (h1 : ∀ p, prec = some p → -exp ≤ (p : Int)) (h2 : prec = none → S ≠ []) :
    ∃ (di : List Nat) (frac : Option (List Nat)),
      bodyG S exp prec = chars false di ++ fracChars false frac ∧
      (∀ d ∈ di, d < B) ∧ (∀ d ∈ frac.getD [], d < B) ∧ di ≠ [] ∧
      (frac.getD []).length = prec.getD (-exp).toNat ∧ (frac.isSome ↔ 0 < prec.getD (-exp).toNat) ∧
      ofDigits B (di ++ frac.getD []) = n * B ^ (((prec.getD (-exp).toNat : Nat) : Int) + exp).toNat := by
  have hlt : ∀ d ∈ digits B n ++ List.replicate (((prec.getD (-exp).toNat : Nat) : Int) + exp).toNat 0, d < B := by
    intro d hd
    rcases List.mem_append.mp hd with h | h
    · exact digits_lt hB _ d h
    · rw [List.eq_of_mem_replicate h]; omega
  obtain ⟨di, frac, h, hdi, hdf, hne, hlen, hsome, hval⟩ := fpL_chars B (by omega) _ hlt (prec.getD (-exp).toNat)
  refine ⟨di, frac, ?_, hdi, hdf, hne, hlen, hsome, ?_⟩
  · rw [bodyG_eq_fpL S exp prec h1 h2, hS, printSpec_chars, ← rep_single, rep_zero_chars false, ← chars_append]
    exact h
  · rw [hval, ofDigits_append_replicate_zero, ofDigits_digits hB]

theorem dispStr_none_pos (B : Nat) (hB : 2 ≤ B) (m : Mode) (r : FRepr) : 0 < (dispStr B m none r).length := by
  have : dispStr B m none r = chars false (digits B r.signif.natAbs) := by
    unfold dispStr dispPair
    exact printSpecInt_drop B r.signif
  rw [this, chars_length]
  exact List.length_pos_iff.mpr (digits_ne_nil B _ hB)

/-- the text `Display` produces (no precision, width or `+`) is a plain literal of the grammar -/
theorem display_is_literal (B : Nat) (hB : 2 ≤ B) (m : Mode) (r : FRepr) :
    ∃ (di : List Nat) (frac : Option (List Nat)),
      fmtRound B m {} none r = renderLiteral false (if r.signif < 0 then some true else none) di frac none ∧
      (∀ d ∈ di, d < B) ∧ (∀ d ∈ frac.getD [], d < B) ∧ (di ≠ [] ∨ frac.getD [] ≠ []) ∧
      (ofDigits B (di ++ frac.getD []) : ℚ) * bpowQ B (0 - ((frac.getD []).length : Int)) =
        (r.signif.natAbs : ℚ) * bpowQ B r.exp := by
  obtain ⟨di, frac, hcore, hdi, hdf, hne, hlen, _, hval⟩ :=
    bodyG_literal B hB (dispStr B m none r) r.signif.natAbs
      (orZero_signStr B hB r.signif r.signif (fun h => Int.le_of_lt h) id).1 r.exp none (fun _ h => nomatch h)
      (fun _ => List.ne_nil_of_length_pos (dispStr_none_pos B hB m r))
  refine ⟨di, frac, ?_, hdi, hdf, Or.inl hne, ?_⟩
  · rw [fmtRound_plain, fmtRoundCore_eq_bodyG]
    show _ ++ bodyG (dispStr B m none r) r.exp none = _
    rw [hcore]
    unfold renderLiteral scaleChars fSign
    by_cases h : r.signif < 0 <;> simp [h, signChars]
  · rw [hlen, hval, Option.getD_none, Nat.cast_mul, mul_assoc,
      show (0 : Int) - (((-r.exp).toNat : Nat) : Int) = r.exp - ((((((-r.exp).toNat : Nat) : Int) + r.exp).toNat : Nat) : Int) by omega,
      bpowQ_shift B (by omega)]

end Dashu.Model.Text
