import Dashu.Proofs.Text.ParsePow2
import Dashu.Proofs.Text.Layout
/-
  The entry points: `from_str_radix`, `from_str_with_radix_default` equal the documented grammar
  on every byte string; the formatting traits equal `digits` + `pad_integral` (the round trips of
  `Props/C07` compose the two with the specification-level round trip of `Parse.lean`).
-/
namespace Dashu.Model.Text

theorem validRadix_iff {r : Nat} : validRadix r = true ↔ 2 ≤ r ∧ r ≤ 36 := by
  simp [validRadix]

theorem validRadix_lt_word {r W : Nat} (hv : validRadix r = true) (hW : 8 ≤ W) : r < 2 ^ W := by
  have := validRadix_iff.mp hv
  have : (2 : Nat) ^ 8 ≤ 2 ^ W := Nat.pow_le_pow_right (by omega) hW
  omega

theorem parseCore_spec (W r : Nat) (hr : 2 ≤ r) (hrW : r < 2 ^ W) (t : List Nat) :
    (if isPow2 r then parsePow2 W r t else parseNonPow2 W r t) = parseDigitsSpec r t := by
  split
  · rename_i h; exact parsePow2_spec W r h hr hrW t
  · exact parseNonPow2_spec W r hr hrW t

theorem digitOf_zero {r : Nat} (hr : 0 < r) : digitOf r 48 = some 0 := by
  simp [digitOf, alnumVal, hr]

theorem parseDigitsSpec_stripZeros (r : Nat) (hr : 0 < r) (src : List Nat) :
    parseDigitsSpec r (stripZeros src) = parseDigitsSpec r src := by
  induction src with
  | nil => rfl
  | cons c cs ih =>
    by_cases hc : c = 48
    · subst hc
      rw [stripZeros, ih]
      unfold parseDigitsSpec
      have : (48 :: cs).filter (· ≠ 95) = 48 :: cs.filter (· ≠ 95) := by simp
      rw [this]
      simp only [digitValues, digitOf_zero hr]
      cases digitValues r (cs.filter (· ≠ 95)) with
      | none => rfl
      | some ds => simp [ofDigits_cons]
    · unfold stripZeros
      split
      · rename_i h; simp at h; omega
      · rfl

theorem all_us_iff (src : List Nat) : src.all (· == 95) = true ↔ src.filter (· ≠ 95) = [] := by
  simp [List.filter_eq_nil_iff]

/-- `from_str_radix_no_sign` = the grammar of a number body -/
theorem parseNoSign_spec (W r : Nat) (hr : 2 ≤ r) (hrW : r < 2 ^ W) (src : List Nat) :
    parseNoSign W src r = parseBodySpec r src := by
  unfold parseNoSign parseBodySpec
  by_cases hall : src.all (· == 95) = true
  · rw [if_pos hall, (all_us_iff src).mp hall]; rfl
  · rw [if_neg hall]
    simp only []
    rw [parseCore_spec W r hr hrW, parseDigitsSpec_stripZeros r (by omega)]
    unfold parseDigitsSpec
    have hne : src.filter (· ≠ 95) ≠ [] := fun h => hall ((all_us_iff src).mpr h)
    cases hd : digitValues r (src.filter (· ≠ 95)) with
    | none => rfl
    | some ds =>
      cases ds with
      | nil =>
        exact absurd (List.length_eq_zero_iff.mp (digitValues_length hd).symm) hne
      | cons a t => rfl

/-- **`from_str_radix` (UBig and IBig) is the documented grammar as a total function**: the value
    for well-formed text, `NoDigits` / `InvalidDigit` / `UnsupportedRadix` otherwise -/
theorem parseRadix_spec (W : Nat) (hW : 36 < 2 ^ W) (signed : Bool) (s : List Nat) (r : Nat) :
    parseRadix W signed s r = parseRadixSpec signed s r := by
  unfold parseRadix parseRadixSpec
  by_cases hv : validRadix r = true
  · have := validRadix_iff.mp hv
    simp only [hv, Bool.not_true, Bool.false_eq_true, if_false]
    rw [parseNoSign_spec W r this.1 (by omega)]
  · simp [hv]

theorem parsePrefixNoSign_spec (W : Nat) (hW : 36 < 2 ^ W) (src : List Nat) (dflt : Nat) :
    parsePrefixNoSign W src dflt =
      (if !validRadix (splitPrefix dflt src).1 then .error .unsupportedRadix
       else (parseBodySpec (splitPrefix dflt src).1 (splitPrefix dflt src).2).map
          (fun n => (n, (splitPrefix dflt src).1))) := by
  have h2 : (2 : Nat) < 2 ^ W := by omega
  have h8 : (8 : Nat) < 2 ^ W := by omega
  have h16 : (16 : Nat) < 2 ^ W := by omega
  unfold parsePrefixNoSign
  split
  · simp [splitPrefix, validRadix, parseNoSign_spec W 2 (by omega) h2]
  · simp [splitPrefix, validRadix, parseNoSign_spec W 8 (by omega) h8]
  · simp [splitPrefix, validRadix, parseNoSign_spec W 16 (by omega) h16]
  · rename_i hb ho hx
    have hsp : splitPrefix dflt src = (dflt, src) := by
      unfold splitPrefix
      split
      · exact absurd rfl (hb _)
      · exact absurd rfl (ho _)
      · exact absurd rfl (hx _)
      · rfl
    rw [hsp]
    by_cases hv : validRadix dflt = true
    · have := validRadix_iff.mp hv
      simp only [hv, Bool.not_true, Bool.false_eq_true, if_false]
      rw [parseNoSign_spec W dflt this.1 (by omega)]
    · simp [hv]

/-- **`from_str_with_radix_default` / `_prefix` is the documented grammar** -/
theorem parseDefault_spec (W : Nat) (hW : 36 < 2 ^ W) (signed : Bool) (s : List Nat) (dflt : Nat) :
    parseDefault W signed s dflt = parseDefaultSpec signed s dflt := by
  unfold parseDefault parseDefaultSpec
  simp only []
  rw [parsePrefixNoSign_spec W hW]
  split
  · rfl
  · cases parseBodySpec (splitPrefix dflt (splitSign signed s).2).1 (splitPrefix dflt (splitSign signed s).2).2 <;> rfl

-- ---------------------------------------------------------------- formatting

theorem rawToAscii_eq (c : DigitCase) (up : Bool) (d : Nat)
    (h : c = .noLetters ∧ d < 10 ∨ c = .lower ∧ up = false ∨ c = .upper ∧ up = true) :
    rawToAscii c d = digitChar up d := by
  unfold rawToAscii digitChar
  -- both sides are `48 + d` below ten and `d` plus the letter offset above
  rcases h with ⟨rfl, hd⟩ | ⟨rfl, rfl⟩ | ⟨rfl, rfl⟩ <;>
    simp only [ne_eq, reduceCtorEq, not_true_eq_false, not_false_eq_true, false_and, true_and, DigitCase.offset,
      if_false, Bool.false_eq_true, if_true] <;>
    split_ifs <;> omega

/-- **every formatting trait prints `pad_integral(sign, prefix, digits)`**: exactly the reference
    digits, in the requested letter case, laid out as Rust's primitive integer formatting -/
theorem fmtModel_eq_fmtSpec (W : Nat) (t : FmtTrait) (f : FmtSpec) (z : Int)
    (hv : validRadix t.radix = true) (hW : t.radix < 2 ^ W) :
    fmtModel W t f z = fmtSpec t f z := by
  have hr := validRadix_iff.mp hv
  unfold fmtModel fmtSpec
  simp only []
  rw [rawDigits_eq W t.radix _ hr.1 hW]
  have hlt := digits_lt hr.1 z.natAbs
  have hneg : (0 ≤ z) = ¬ (z < 0) := by simp
  have hb : decide (0 ≤ z) = !decide (z < 0) := by
    by_cases h : z < 0
    · have : ¬ (0 ≤ z) := by omega
      simp [h, this]
    · have : 0 ≤ z := by omega
      simp [h, this]
  rw [hb, ← formatPrepared_eq_padIntegral]
  unfold printSpec
  have e : (if f.alt = true then ([] : List Nat) else []) = [] := by cases f.alt <;> rfl
  cases t with
  | display =>
    simp only [FmtTrait.pfx, FmtTrait.digitCase, FmtTrait.radix] at *
    rw [e]; congr 1
    apply List.map_congr_left; intro d hd
    exact rawToAscii_eq _ _ _ (Or.inl ⟨rfl, by have := hlt d hd; omega⟩)
  | binary =>
    simp only [FmtTrait.pfx, FmtTrait.digitCase, FmtTrait.radix] at *
    congr 1
    apply List.map_congr_left; intro d hd
    exact rawToAscii_eq _ _ _ (Or.inl ⟨rfl, by have := hlt d hd; omega⟩)
  | octal =>
    simp only [FmtTrait.pfx, FmtTrait.digitCase, FmtTrait.radix] at *
    congr 1
    apply List.map_congr_left; intro d hd
    exact rawToAscii_eq _ _ _ (Or.inl ⟨rfl, by have := hlt d hd; omega⟩)
  | lowerHex =>
    simp only [FmtTrait.pfx, FmtTrait.digitCase, FmtTrait.radix] at *
    congr 1
    apply List.map_congr_left; intro d _
    exact rawToAscii_eq _ _ _ (Or.inr (Or.inl ⟨rfl, rfl⟩))
  | upperHex =>
    simp only [FmtTrait.pfx, FmtTrait.digitCase, FmtTrait.radix] at *
    congr 1
    apply List.map_congr_left; intro d _
    exact rawToAscii_eq _ _ _ (Or.inr (Or.inr ⟨rfl, rfl⟩))
  | inRadix r =>
    simp only [FmtTrait.pfx, FmtTrait.digitCase, FmtTrait.radix] at *
    rw [e]; congr 1
    apply List.map_congr_left; intro d hd
    by_cases h10 : r ≤ 10
    · simp only [h10, if_true]
      exact rawToAscii_eq _ _ _ (Or.inl ⟨rfl, by have := hlt d hd; omega⟩)
    · simp only [h10, if_false]
      cases hf : f.alt
      · exact rawToAscii_eq _ _ _ (Or.inr (Or.inl ⟨by simp, rfl⟩))
      · exact rawToAscii_eq _ _ _ (Or.inr (Or.inr ⟨by simp, rfl⟩))

end Dashu.Model.Text
