import Dashu.Proofs.Text.BytesSigned
/-
  convert.rs, signed decoder: `from_signed_le_bytes` (inline path with one-padding, heap path
  `from_le_bytes_large::<true>` with per-word complement and `add_one_in_place`) equals the two's
  complement value `ofSignedLeBytesSpec`, for every byte string.
-/
namespace Dashu.Model.Text
open Dashu.Model (val IsWords addOne addOne_spec val_lt)

/-- `word_from_le_bytes_partial::<true>`: the bytes, then `0xff` up to `nb` bytes -/
theorem wordFromLePartial_true (nb : Nat) (bs : List Nat) :
    wordFromLePartial nb true bs = ofDigitsLE 256 bs + 256 ^ bs.length * (256 ^ (nb - bs.length) - 1) := by
  unfold wordFromLePartial
  simp only [if_true]
  rw [ofDigitsLE_append, ofDigitsLE_replicate 256 _ 255 rfl]

theorem val_map_notWord (W : Nat) (ws : List Nat) (h : IsWords W ws) :
    val W (ws.map (notWord W)) + val W ws + 1 = 2 ^ (W * ws.length) := by
  induction ws with
  | nil => simp [val]
  | cons w ws ih =>
    have hw : w < 2 ^ W := h w (by simp)
    have := ih (fun x hx => h x (by simp [hx]))
    simp only [List.map_cons, val, List.length_cons, notWord]
    have e : 2 ^ (W * (ws.length + 1)) = 2 ^ W * 2 ^ (W * ws.length) := by
      rw [Nat.mul_add, Nat.mul_one, pow_add, Nat.mul_comm]
    rw [e, ← this]
    have hp : 1 ≤ 2 ^ W := Nat.pow_pos (by omega)
    have : 2 ^ W * (val W (List.map (notWord W) ws) + val W ws + 1) =
        2 ^ W * val W (List.map (notWord W) ws) + 2 ^ W * val W ws + 2 ^ W := by ring
    rw [this]; unfold notWord; omega

theorem isWords_map_notWord (W : Nat) (ws : List Nat) : IsWords W (ws.map (notWord W)) := by
  intro x hx
  obtain ⟨w, _, rfl⟩ := List.mem_map.mp hx
  unfold notWord
  have : 1 ≤ 2 ^ W := Nat.pow_pos (by omega)
  omega

/-- value and size of the one-padded words of `from_le_bytes_large::<true>` before the complement -/
theorem padded_words (k : Nat) (hk : 1 ≤ k) (bs : List Nat) (hlt : ∀ b ∈ bs, b < 256) :
    let ws := (chunksOf k bs).map (fun g => wordFromLePartial k true g)
    IsWords (8 * k) ws ∧ bs.length ≤ k * ws.length ∧
    val (8 * k) ws = ofDigitsLE 256 bs + 256 ^ bs.length * (256 ^ (k * ws.length - bs.length) - 1) := by
  induction hn : bs.length using Nat.strong_induction_on generalizing bs with
  | _ n ih =>
    subst hn
    intro ws
    have e256 : (2 : Nat) ^ (8 * k) = 256 ^ k := (pow256 k).symm
    by_cases hl : bs = []
    · subst hl
      have : ws = [] := by show List.map _ (chunksOf k []) = []; rw [chunksOf_nil]; rfl
      rw [this]
      refine ⟨fun x hx => by simp at hx, by simp, by simp [val, ofDigitsLE]⟩
    · have hk0 : k ≠ 0 := by omega
      have hws : ws = wordFromLePartial k true (bs.take k) ::
          (chunksOf k (bs.drop k)).map (fun g => wordFromLePartial k true g) := by
        show List.map _ (chunksOf k bs) = _
        rw [chunksOf_step hk0 hl]; rfl
      have hlen : bs.length ≠ 0 := fun h => hl (List.length_eq_zero_iff.mp h)
      have hd : (bs.drop k).length < bs.length := by rw [List.length_drop]; omega
      obtain ⟨i1, i2, i3⟩ := ih _ hd (bs.drop k) (fun b hb => hlt b (List.mem_of_mem_drop hb)) rfl
      generalize hrest : (chunksOf k (bs.drop k)).map (fun g => wordFromLePartial k true g) = rest at *
      rw [hws]
      have htk : ∀ b ∈ bs.take k, b < 256 := fun b hb => hlt b (List.mem_of_mem_take hb)
      have hvt := ofDigitsLE_lt 256 (bs.take k) htk
      have htl : (bs.take k).length = min k bs.length := List.length_take
      have hsplit : ofDigitsLE 256 bs = ofDigitsLE 256 (bs.take k) + 256 ^ (bs.take k).length * ofDigitsLE 256 (bs.drop k) := by
        conv_lhs => rw [← List.take_append_drop k bs, ofDigitsLE_append]
      by_cases hkl : k ≤ bs.length
      · -- a full first chunk
        have htl' : (bs.take k).length = k := by rw [htl]; omega
        have hw0 : wordFromLePartial k true (bs.take k) = ofDigitsLE 256 (bs.take k) := by
          rw [wordFromLePartial_true, htl']; simp
        rw [htl'] at hvt hsplit
        rw [List.length_drop] at i2 i3
        refine ⟨?_, ?_, ?_⟩
        · intro x hx
          rcases List.mem_cons.mp hx with h | h
          · rw [h, hw0, e256]; exact hvt
          · exact i1 x h
        · simp only [List.length_cons]; rw [Nat.mul_succ]; omega
        · simp only [val, List.length_cons]
          rw [hw0, i3, hsplit, e256]
          have hexp : k * (rest.length + 1) - bs.length = k * rest.length - (bs.length - k) := by
            rw [Nat.mul_succ]; omega
          rw [hexp]
          have hpw : 256 ^ bs.length = 256 ^ k * 256 ^ (bs.length - k) := by rw [← pow_add]; congr 1; omega
          rw [hpw]; ring
      · -- a single, short chunk
        have hdrop : bs.drop k = [] := List.drop_eq_nil_of_le (by omega)
        have htake : bs.take k = bs := List.take_of_length_le (by omega)
        have hrest' : rest = [] := by rw [← hrest, hdrop, chunksOf_nil]; rfl
        rw [hrest', htake]
        have hvb := ofDigitsLE_lt 256 bs hlt
        refine ⟨?_, by simp; omega, ?_⟩
        · intro x hx
          simp only [List.mem_singleton] at hx
          rw [hx, wordFromLePartial_true, e256]
          have hpw : 256 ^ k = 256 ^ bs.length * 256 ^ (k - bs.length) := by rw [← pow_add]; congr 1; omega
          have hp1 : 1 ≤ 256 ^ (k - bs.length) := Nat.pow_pos (by omega)
          rw [hpw]
          calc ofDigitsLE 256 bs + 256 ^ bs.length * (256 ^ (k - bs.length) - 1)
              < 256 ^ bs.length + 256 ^ bs.length * (256 ^ (k - bs.length) - 1) := by omega
            _ = 256 ^ bs.length * (256 ^ (k - bs.length) - 1 + 1) := by ring
            _ = 256 ^ bs.length * 256 ^ (k - bs.length) := by rw [Nat.sub_add_cancel hp1]
        · simp [val, wordFromLePartial_true]

/-- **`IBig::from_le_bytes` (all paths) = the two's complement value of the bytes** -/
theorem fromSignedLeBytes_eq (W : Nat) (h8 : 8 ∣ W) (hW : 8 ≤ W) (bytes : List Nat) (hlt : ∀ b ∈ bytes, b < 256) :
    fromSignedLeBytes W bytes = ofSignedLeBytesSpec bytes := by
  obtain ⟨k, rfl⟩ := h8
  have hk : 1 ≤ k := by omega
  unfold fromSignedLeBytes ofSignedLeBytesSpec
  cases hlast : bytes.getLast? with
  | none => rfl
  | some top =>
    simp only []
    by_cases htop : top < 128
    · rw [if_pos htop, if_pos htop, fromLeBytes_eq (8 * k) ⟨k, rfl⟩ hW]; rfl
    · rw [if_neg htop, if_neg htop]
      obtain ⟨hge, hlen1⟩ := ofDigitsLE_ge_top 256 bytes top hlast
      have hV := ofDigitsLE_lt 256 bytes hlt
      generalize hVdef : ofDigitsLE 256 bytes = V at *
      have hpos : 128 * 256 ^ (bytes.length - 1) ≤ V := by
        calc 128 * 256 ^ (bytes.length - 1) ≤ top * 256 ^ (bytes.length - 1) := Nat.mul_le_mul_right _ (by omega)
          _ ≤ V := hge
      have hp1 : 1 ≤ 256 ^ (bytes.length - 1) := Nat.pow_pos (by omega)
      have hV0 : 1 ≤ V := by omega
      have hres : ∀ x : Nat, x = 256 ^ bytes.length - V → Int.negOfNat x = (V : Int) - (256 : Int) ^ bytes.length := by
        intro x hx
        rw [hx, Int.negOfNat_eq, Int.ofNat_eq_natCast, Nat.cast_sub (by omega)]
        push_cast; ring
      have hK : 2 * (8 * k) / 8 = 2 * k := by omega
      split
      · -- inline path
        rename_i hshort
        apply hres
        rw [hK] at hshort
        rw [hK, wordFromLePartial_true, hVdef]
        obtain ⟨d, hd⟩ : ∃ d, 2 * k = bytes.length + d := ⟨2 * k - bytes.length, by omega⟩
        have e2 : (2 : Nat) ^ (2 * (8 * k)) = 256 ^ bytes.length * 256 ^ d := by
          rw [← pow_add, ← hd, pow256]; congr 1; ring
        have hpd : 1 ≤ 256 ^ d := Nat.pow_pos (by omega)
        have hdd : 2 * k - bytes.length = d := by omega
        unfold notWord
        rw [hdd, e2]
        have hmul : 256 ^ bytes.length * (256 ^ d - 1) = 256 ^ bytes.length * 256 ^ d - 256 ^ bytes.length := by
          rw [Nat.mul_sub, Nat.mul_one]
        have hle : 256 ^ bytes.length ≤ 256 ^ bytes.length * 256 ^ d := Nat.le_mul_of_pos_right _ hpd
        rw [hmul]
        have : 256 ^ bytes.length * 256 ^ d - 1 - (V + (256 ^ bytes.length * 256 ^ d - 256 ^ bytes.length)) + 1 =
            256 ^ bytes.length - V := by omega
        rw [this]
        exact Nat.mod_eq_of_lt (by omega)
      · -- heap path
        apply hres
        unfold fromLeBytesLarge
        simp only [if_true]
        have hK1 : 8 * k / 8 = k := by omega
        rw [hK1]
        obtain ⟨p1, p2, p3⟩ := padded_words k hk bytes hlt
        generalize hws : (chunksOf k bytes).map (fun g => wordFromLePartial k true g) = ws at *
        have hmap : (chunksOf k bytes).map (fun g => notWord (8 * k) (wordFromLePartial k true g)) =
            ws.map (notWord (8 * k)) := by rw [← hws, List.map_map]; rfl
        rw [hmap]
        have hcompl := val_map_notWord (8 * k) ws p1
        have hisw := isWords_map_notWord (8 * k) ws
        obtain ⟨a1, a2, _, a4⟩ := addOne_spec (8 * k) (ws.map (notWord (8 * k))) hisw
        rw [List.length_map] at a1 a2
        rw [hVdef] at p3
        -- 2^(8k·|ws|) = 256^(k·|ws|)
        have e3 : (2 : Nat) ^ (8 * k * ws.length) = 256 ^ bytes.length * 256 ^ (k * ws.length - bytes.length) := by
          rw [← pow_add, pow256]; congr 1
          have : bytes.length + (k * ws.length - bytes.length) = k * ws.length := by omega
          rw [this]; ring
        have hpd : 1 ≤ 256 ^ (k * ws.length - bytes.length) := Nat.pow_pos (by omega)
        have hmul : 256 ^ bytes.length * (256 ^ (k * ws.length - bytes.length) - 1) =
            256 ^ bytes.length * 256 ^ (k * ws.length - bytes.length) - 256 ^ bytes.length := by
          rw [Nat.mul_sub, Nat.mul_one]
        have hle : 256 ^ bytes.length ≤ 256 ^ bytes.length * 256 ^ (k * ws.length - bytes.length) :=
          Nat.le_mul_of_pos_right _ hpd
        rw [e3] at hcompl a1
        rw [hmul] at p3
        have hvl := val_lt (8 * k) _ (show IsWords (8 * k) (addOne (8 * k) (ws.map (notWord (8 * k)))).1 from by
          exact (addOne_spec (8 * k) (ws.map (notWord (8 * k))) hisw).2.2.1)
        rw [a2, e3] at hvl
        generalize (addOne (8 * k) (ws.map (notWord (8 * k)))).2 = c at *
        generalize val (8 * k) (addOne (8 * k) (ws.map (notWord (8 * k)))).1 = R at *
        generalize val (8 * k) (ws.map (notWord (8 * k))) = F at *
        generalize val (8 * k) ws = U at *
        generalize 256 ^ bytes.length * 256 ^ (k * ws.length - bytes.length) = T at *
        have hc : c = 0 := by
          rcases Nat.eq_zero_or_pos c with h | h
          · exact h
          · have : c = 1 := by omega
            subst this; omega
        subst hc
        omega

/-- **two's complement round trip of the model**: `from_le_bytes(to_le_bytes(z)) = z` for every
    integer (in particular `-(2^(8k))`), every word size `8k`; likewise big-endian -/
theorem fromSigned_toSigned (W : Nat) (h8 : 8 ∣ W) (hW : 8 ≤ W) (z : Int) :
    fromSignedLeBytes W (ibigToLeBytes W z) = z ∧ fromSignedBeBytes W (ibigToBeBytes W z) = z := by
  have h1 : fromSignedLeBytes W (ibigToLeBytes W z) = z := by
    rw [ibigToLeBytes_eq W h8 hW, fromSignedLeBytes_eq W h8 hW _ (signedLeBytesSpec_bytes z),
      ofSignedLeBytesSpec_signedLeBytesSpec]
  refine ⟨h1, ?_⟩
  unfold fromSignedBeBytes ibigToBeBytes
  rw [List.reverse_reverse]; exact h1

end Dashu.Model.Text
