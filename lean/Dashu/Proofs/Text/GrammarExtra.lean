import Dashu.Proofs.Text.Grammar
import Dashu.Proofs.Text.Sign
/-
  C07 — what the print-parse round trips of `Props/C07` rest on: without a width `pad_integral` writes
  `signChars sg ++ prefix ++ digits` (`padIntegral_noWidth`), and that text parses back through the documented
  grammar (`parseDefaultSpec_print`; `parseRadixSpec_print` of Parse.lean without prefix), whatever the sign;
  the grammar looks at a body only through its `_`-free part.
-/
namespace Dashu.Model.Text

theorem parseBodySpec_filter (r : Nat) (t : List Nat) :
    parseBodySpec r t = parseBodySpec r (t.filter (· ≠ 95)) := by
  unfold parseBodySpec
  rw [List.filter_filter]
  simp

/-- the prefix and radix of the four radix traits -/
def traitPrefix : FmtTrait → Option (List Nat × Nat)
  | .binary => some ([48, 98], 2)
  | .octal => some ([48, 111], 8)
  | .lowerHex => some ([48, 120], 16)
  | .upperHex => some ([48, 120], 16)
  | _ => none

/-- the sign `pad_integral` writes -/
def padSign (nonneg plus : Bool) : Option Bool := if !nonneg then some true else if plus then some false else none

theorem padIntegral_noWidth (alt plus nonneg : Bool) (pfx buf : List Nat) :
    padIntegral { alt := alt, plus := plus } nonneg pfx buf =
      signChars (padSign nonneg plus) ++ ((if alt then pfx else []) ++ buf) := by
  cases nonneg <;> cases plus <;> simp [padIntegral, padSign, signChars]

theorem applySign_padSign (z : Int) (plus : Bool) :
    applySign (padSign (decide (0 ≤ z)) plus == some true) z.natAbs = z := by
  have : (padSign (decide (0 ≤ z)) plus == some true) = decide (z < 0) := by
    by_cases h : 0 ≤ z <;> cases plus <;> simp [padSign, h] <;> omega
  rw [this, applySign_natAbs]

theorem parseDefaultSpec_print (sg : Option Bool) (pfx0 rad : Nat) (up : Bool) (n : Nat)
    (hsp : ∀ rest, splitPrefix 10 (48 :: pfx0 :: rest) = (rad, rest)) (hv : validRadix rad = true) :
    parseDefaultSpec true (signChars sg ++ 48 :: pfx0 :: printSpec rad up n) 10 =
      .ok (applySign (sg == some true) n, rad) := by
  have hr := validRadix_iff.mp hv
  unfold parseDefaultSpec
  rw [splitSign_sign true sg _ (fun _ => .cons (by omega) (by omega)) (fun _ => rfl)]
  simp only [hsp, hv, Bool.not_true, Bool.false_eq_true, if_false]
  rw [parseBodySpec_printSpec rad up n hr.1 hr.2]
  rfl

end Dashu.Model.Text
