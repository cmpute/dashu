import Dashu.Model.Text.ChunksBuf
import Dashu.Proofs.Text.ChunksWord
/-
  `to_chunks` with bounded chunk buffers (`min(ceil(chunk_bits / W), words.len()) + 1` words each,
  fix 80bcfde): no slice index, subtraction or assertion fails, and the chunks are the positional
  ones — every number, every chunk size `k ≥ 1`, every word size.
-/
namespace Dashu.Model.Text
open Dashu.Model (val val_append)
open Dashu.Model.Div (shrInPlace)

theorem val_append_zeros (W : Nat) (l : List Nat) (m : Nat) : val W (l ++ List.replicate m 0) = val W l := by
  rw [val_append, Dashu.Model.val_replicate_zero]; simp

theorem le_mul_ceilDiv (W k : Nat) (hW : 1 ≤ W) : k ≤ W * ceilDiv k W := by
  unfold ceilDiv
  by_cases h0 : k = 0
  · simp [h0]
  · simp only [h0, if_false]
    have h1 := Nat.div_add_mod (k - 1) W
    have h2 := Nat.mod_lt (k - 1) (show 0 < W by omega)
    rw [Nat.mul_add, Nat.mul_one]
    omega

theorem div_le_ceilDiv (W k : Nat) (hW : 1 ≤ W) : k / W ≤ ceilDiv k W := by
  have h := le_mul_ceilDiv W k hW
  exact Nat.div_le_of_le_mul h

theorem div_add_le (W s k : Nat) (hW : 1 ≤ W) : (s + k) / W ≤ s / W + ceilDiv k W := by
  have h := le_mul_ceilDiv W k hW
  have : (s + k) / W ≤ (s + ceilDiv k W * W) / W := Nat.div_le_div_right (by rw [Nat.mul_comm]; omega)
  rwa [Nat.add_mul_div_right _ _ (show 0 < W by omega)] at this

theorem collectChunks_ok (W : Nat) (f : Nat → Except ChunkBufPanic (List Nat)) (g : Nat → Nat) (l : List Nat)
    (h : ∀ i ∈ l, ∃ buf, f i = .ok buf ∧ val W buf = g i) : collectChunks f W l = .ok (l.map g) := by
  induction l with
  | nil => rfl
  | cons i is ih =>
    obtain ⟨buf, hf, hv⟩ := h i (by simp)
    have ih' := ih (fun j hj => h j (by simp [hj]))
    simp only [collectChunks, hf, ih', hv, List.map_cons]

/-- the buffer is bounded by the number's own length and not by `chunk_bits` alone (fix 80bcfde): at most
    `words.len() + 1` words -/
theorem wordPerChunk_le (W k len : Nat) : wordPerChunk W k len ≤ len ∧ wordPerChunk W k len ≤ ceilDiv k W := by
  unfold wordPerChunk; omega

theorem alignedChunkB_ok (W : Nat) (hW : 1 ≤ W) (words : List Nat) (k i bl : Nat) (hal : k % W = 0)
    (hbl : bl ≤ W * words.length) (hi : i * k < bl) :
    ∃ buf, alignedChunkB words (k / W) (wordPerChunk W k words.length + 1) i = .ok buf ∧
      val W buf = alignedChunk W words (k / W) i := by
  have hkW : k = W * (k / W) := by have := Nat.div_add_mod k W; omega
  generalize hq : k / W = q at *
  generalize hL : words.length = L at *
  have hsL : i * q < L := by
    have h1 : W * (i * q) < W * L := by
      have : W * (i * q) = i * k := by rw [hkW, Nat.mul_left_comm]
      omega
    exact Nat.lt_of_mul_lt_mul_left h1
  have hqc : q ≤ ceilDiv k W := by rw [← hq]; exact div_le_ceilDiv W k hW
  unfold alignedChunkB copyFront
  simp only [hL]
  rw [if_neg (by omega)]
  have hlen : ((words.drop (i * q)).take (min (i * q + q) L - i * q)).length = min (i * q + q) L - i * q := by
    rw [List.length_take, List.length_drop, hL]; omega
  rw [if_pos (by rw [hlen]; unfold wordPerChunk; omega)]
  refine ⟨_, rfl, ?_⟩
  rw [val_append_zeros]
  unfold alignedChunk
  simp only [hL]

theorem unalignedChunkB_ok (W : Nat) (hW : 1 ≤ W) (words : List Nat) (k i bl : Nat) (hk : 1 ≤ k)
    (hbl : bl ≤ W * words.length) (hi : i * k < bl) :
    ∃ buf, unalignedChunkB W words bl k (wordPerChunk W k words.length + 1) i = .ok buf ∧
      val W buf = unalignedChunkW W words bl k i := by
  have hWpos : 0 < W := by omega
  generalize hL : words.length = L at *
  unfold unalignedChunkB
  simp only [hL]
  generalize hs : i * k = s at *
  have hse : s < min bl (s + k) := by omega
  generalize he : min bl (s + k) = e at *
  rw [if_neg (by omega)]
  have hsp : s / W ≤ e / W := Nat.div_le_div_right (by omega)
  have hc : e / W ≤ s / W + ceilDiv k W := by
    have h1 : e / W ≤ (s + k) / W := Nat.div_le_div_right (by omega)
    have h2 := div_add_le W s k hW
    omega
  have heL : e / W ≤ L := Nat.div_le_of_le_mul (by omega)
  have hval : ∀ m, val W ((shrInPlace W (chunkCopied W words bl k i) (s % W)).1 ++ List.replicate m 0)
      = unalignedChunkW W words bl k i := by
    intro m; rw [val_append_zeros]; unfold unalignedChunkW; rw [hs]
  have hwpc : wordPerChunk W k L = min (ceilDiv k W) L := rfl
  generalize wordPerChunk W k L = wpc at *
  by_cases hb : e % W = 0
  · rw [if_neg (by omega)]
    have h1 : s / W < e / W := by
      have hdm := Nat.div_add_mod e W
      rw [Nat.div_lt_iff_lt_mul hWpos, Nat.mul_comm]; omega
    generalize e / W = ep at *
    generalize s / W = sp at *
    rw [if_neg (by omega), if_neg (by omega), if_neg (by omega)]
    exact ⟨_, rfl, hval _⟩
  · rw [if_pos hb]
    have h1 : e / W < L := by
      rw [Nat.div_lt_iff_lt_mul hWpos]
      rcases Nat.lt_or_ge e (W * L) with h2 | h2
      · rw [Nat.mul_comm]; exact h2
      · have : e = W * L := by omega
        rw [this, Nat.mul_mod_right] at hb; exact absurd rfl hb
    generalize e / W = ep at *
    generalize s / W = sp at *
    rw [if_neg (by omega), if_neg (by omega), if_neg (by omega)]
    exact ⟨_, rfl, hval _⟩

/-- **`to_chunks` with bounded chunk buffers: nothing fails, the chunks are the positional ones** -/
theorem toChunksB_eq (W n k : Nat) (hW : 1 ≤ W) (hk : 1 ≤ k) : toChunksB W n k = .ok (chunksSpec n k) := by
  have hw := toChunksW_eq W n k hW hk
  unfold toChunksW at hw
  unfold toChunksB
  rw [if_neg (by omega)] at hw ⊢
  simp only [] at hw ⊢
  have hcount := fun i => mul_lt_of_lt_ceilDiv (bitLen n) k i hk
  have hbl : bitLen n ≤ W * (wordsOf W n).length := by
    rw [wordsOf_length W n hW]; exact bitLen_le_wordLen W hW n
  by_cases hin : n < 2 ^ (2 * W)
  · rw [if_pos hin] at hw ⊢
    by_cases h0 : ceilDiv (bitLen n) k = 0
    · rw [if_pos h0] at hw ⊢; exact congrArg Except.ok (Except.ok.inj hw)
    · rw [if_neg h0] at hw ⊢
      by_cases h1 : ceilDiv (bitLen n) k = 1
      · rw [if_pos h1] at hw ⊢; exact congrArg Except.ok (Except.ok.inj hw)
      · rw [if_neg h1] at hw ⊢; exact congrArg Except.ok (Except.ok.inj hw)
  · rw [if_neg hin] at hw ⊢
    by_cases hal : k % W = 0
    · rw [if_pos hal] at hw ⊢
      rw [collectChunks_ok W _ (alignedChunk W (wordsOf W n) (k / W))]
      · exact congrArg Except.ok (Except.ok.inj hw)
      · intro i hi
        exact alignedChunkB_ok W hW _ k i (bitLen n) hal hbl (hcount i (List.mem_range.mp hi))
    · rw [if_neg hal] at hw ⊢
      rw [collectChunks_ok W _ (unalignedChunkW W (wordsOf W n) (bitLen n) k)]
      · exact congrArg Except.ok (Except.ok.inj hw)
      · intro i hi
        exact unalignedChunkB_ok W hW _ k i (bitLen n) hk hbl (hcount i (List.mem_range.mp hi))

end Dashu.Model.Text
