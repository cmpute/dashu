import Dashu.Proofs.Text.ConvDiv
import Dashu.Proofs.Float.Closing
/-
  C08 — "never more than one digit beyond the target precision": digit count of the result of
  every `convert_base` path that does not go through `ln`/`exp`.
-/
namespace Dashu.Model.Text
open Dashu.Model.Float

/-- the long-dividend path returns at most `p` digits: the split leaves `digits(q) − (digits(q) − p) ≤ p`
    digits of the quotient, and the rounding step adds at most one unit -/
theorem divRoundLong_digits_le (NB : Nat) (hNB : 2 ≤ NB) (m : Mode) (p : Nat) (hp : 1 ≤ p) (num den : FRepr) :
    (divRoundLong NB m p num den).1.digits NB ≤ p := by
  unfold divRoundLong
  dsimp only
  generalize Int.tdiv num.signif den.signif = q
  have hhi : |(splitDigits NB q (digitsI NB q - p)).1| < ((NB ^ p : Nat) : Int) :=
    split_hi_lt NB hNB q _ p (abs_lt_pow_of_digits NB hNB q _ (by omega))
  split
  · exact new_digits_le_digits NB hNB _ _ p hp hhi
  · exact new_digits_le_abs NB hNB p hp _ _ (abs_add_rInt_le _ _ _ hhi)

/-- **never more than one digit beyond the target precision**: every result `convert_base` returns
    without going through `ln`/`exp` has at most `p + 1` digits in the new base — `p` on the rounding
    paths, `p + 1` only from `repr_div` (model as REQUIRED: the same-base result is rounded too) -/
theorem convertBase_digits_le_all (W B NB : Nat) (hB : 2 ≤ B) (hNB : 2 ≤ NB) (m : Mode) (p : Nat) (hp : 1 ≤ p)
    (r : FRepr) (res : Rounded FRepr) (h : convertBase W B NB m p r = .ok res) : res.1.digits NB ≤ p + 1 := by
  rcases convertBase_ok_cases W B NB hB hNB m p r res h with
    ⟨s, e, _, rfl⟩ | ⟨num, den, _, hd, ⟨_, rfl⟩ | ⟨hshort, hdiv⟩⟩
  · exact Nat.le_succ_of_le (reprRound_digits_le NB hNB m coarseNone p hp _)
  · exact Nat.le_succ_of_le (divRoundLong_digits_le NB hNB m p hp num den)
  · obtain ⟨r', hr', hle, _⟩ := reprDiv_digits_le NB hNB m p hp num den (by omega) (by omega)
    rw [hr', Except.ok.injEq] at hdiv
    exact hdiv ▸ hle

theorem convertBase_digits_le (W B NB : Nat) (hB : 2 ≤ B) (hNB : 2 ≤ NB) (_ : NB ≠ B) (m : Mode) (p : Nat)
    (hp : 1 ≤ p) (r : FRepr) (res : Rounded FRepr) (h : convertBase W B NB m p r = .ok res) :
    res.1.digits NB ≤ p + 1 :=
  convertBase_digits_le_all W B NB hB hNB m p hp r res h

end Dashu.Model.Text
