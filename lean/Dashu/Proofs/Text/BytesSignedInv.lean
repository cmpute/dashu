import Dashu.Proofs.Text.BytesDecode
import Dashu.Proofs.Text.BytesBE
/-
  C07: the OTHER direction of "mutually inverse" for the two's complement byte functions.
  `decode(encode(z)) = z` is `ofSignedLeBytesSpec_signedLeBytesSpec`; here: the exact length of the
  encoding, injectivity of the decoder on byte strings of one length, and
  `encode(decode(bs)) = bs` exactly for the byte strings of the encoder's length.
-/
namespace Dashu.Model.Text

/-- number of bytes `IBig::to_le_bytes` produces: none for zero, otherwise `bit_len(|z|) / 8 + 1`
    (magnitude bytes, plus the sign byte iff the top bit of the magnitude's top byte is used) -/
def signedLen (z : Int) : Nat := if z = 0 then 0 else bitLen z.natAbs / 8 + 1

theorem signedLeBytesSpec_length (z : Int) : (signedLeBytesSpec z).length = signedLen z := by
  unfold signedLeBytesSpec signedLen
  simp only []
  by_cases hm : z.natAbs = 0
  · have : z = 0 := Int.natAbs_eq_zero.mp hm
    subst this; simp
  · have hz : z ≠ 0 := fun h => hm (by rw [h]; rfl)
    rw [if_neg hm, if_neg hz]
    have htb := top_bit_iff hm
    have hb1 := bitLen_pos hm
    have hbl : byteLen z.natAbs = (bitLen z.natAbs - 1) / 8 + 1 := by
      have h0 : bitLen z.natAbs ≠ 0 := by omega
      unfold byteLen ceilDiv; rw [if_neg h0]
    by_cases hneg : z < 0
    · rw [if_pos hneg]
      by_cases hx : 2 ^ (8 * byteLen z.natAbs - 1) ≤ z.natAbs
      · rw [if_pos hx, List.length_append, digitsPadLE_length]
        have := htb.mpr hx
        simp only [List.length_cons, List.length_nil]; omega
      · rw [if_neg hx, List.append_nil, digitsPadLE_length]
        have : ¬ bitLen z.natAbs % 8 = 0 := fun h => hx (htb.mp h)
        omega
    · rw [if_neg hneg]
      by_cases hx : 2 ^ (8 * byteLen z.natAbs - 1) ≤ z.natAbs
      · rw [if_pos hx, List.length_append, digitsPadLE_length]
        have := htb.mpr hx
        simp only [List.length_cons, List.length_nil]; omega
      · rw [if_neg hx, List.append_nil, digitsPadLE_length]
        have : ¬ bitLen z.natAbs % 8 = 0 := fun h => hx (htb.mp h)
        omega

theorem ofSignedLeBytesSpec_inj (a b : List Nat) (hl : a.length = b.length)
    (ha : ∀ d ∈ a, d < 256) (hb : ∀ d ∈ b, d < 256)
    (h : ofSignedLeBytesSpec a = ofSignedLeBytesSpec b) : a = b := by
  have hUa := ofDigitsLE_lt 256 a ha
  have hUb := ofDigitsLE_lt 256 b hb
  rw [hl] at hUa
  have hc : (256 : Int) ^ b.length = ((256 ^ b.length : Nat) : Int) := by push_cast; rfl
  apply ofDigitsLE_inj 256 a b hl ha hb
  unfold ofSignedLeBytesSpec at h
  rw [hl, hc] at h
  cases hga : a.getLast? <;> cases hgb : b.getLast? <;> rw [hga, hgb] at h <;> simp only [] at h
  · rw [List.getLast?_eq_none_iff] at hga hgb
    subst hga; subst hgb; rfl
  · rw [List.getLast?_eq_none_iff] at hga
    subst hga
    have : b = [] := List.length_eq_zero_iff.mp hl.symm
    subst this; simp at hgb
  · rw [List.getLast?_eq_none_iff] at hgb
    subst hgb
    have : a = [] := List.length_eq_zero_iff.mp hl
    subst this; simp at hga
  · generalize (256 : Nat) ^ b.length = P at *
    generalize ofDigitsLE 256 a = Ua at *
    generalize ofDigitsLE 256 b = Ub at *
    split at h <;> split at h <;> omega

theorem signedLeBytesSpec_ofSignedLeBytesSpec (bs : List Nat) (hlt : ∀ b ∈ bs, b < 256)
    (hlen : bs.length = signedLen (ofSignedLeBytesSpec bs)) :
    signedLeBytesSpec (ofSignedLeBytesSpec bs) = bs :=
  ofSignedLeBytesSpec_inj _ _ (by rw [signedLeBytesSpec_length, hlen]) (signedLeBytesSpec_bytes _) hlt
    (ofSignedLeBytesSpec_signedLeBytesSpec _)

-- ---------------------------------------------------------------- the encoder's length against the minimal length

theorem eq_pow_of_bitLen_pred {m : Nat} (hm : m ≠ 0) (h : bitLen (m - 1) + 1 = bitLen m) : m = 2 ^ (bitLen m - 1) := by
  have h1 := (bitLen_spec hm).1
  have h2 : m - 1 < 2 ^ bitLen (m - 1) := bitLen_le_iff.mp (Nat.le_refl _)
  have : bitLen (m - 1) = bitLen m - 1 := by omega
  rw [this] at h2
  omega

/-- **the encoder's length is the minimal two's complement length** (`minSignedLen`: smallest `n` with
    `-(2^(8n-1)) ≤ z < 2^(8n-1)`), except for `z = -(2^(8q+7))`, i.e. `-128, -32768, …` -/
theorem signedLen_eq_minSignedLen (z : Int) (hex : ∀ q : Nat, z ≠ -((2 : Int) ^ (8 * q + 7))) :
    signedLen z = minSignedLen z := by
  unfold signedLen minSignedLen
  by_cases hz : z = 0
  · rw [if_pos hz, if_pos hz]
  · rw [if_neg hz, if_neg hz]
    have hm : z.natAbs ≠ 0 := fun h => hz (Int.natAbs_eq_zero.mp h)
    have hb1 := bitLen_pos hm
    by_cases hneg : z < 0
    · rw [if_pos hneg]
      unfold ceilDiv
      rw [if_neg (by omega), Nat.add_sub_cancel]
      obtain ⟨hp1, hp2⟩ := bitLen_pred z.natAbs hm
      by_cases hsame : bitLen (z.natAbs - 1) = bitLen z.natAbs
      · rw [hsame]
      · have hpw := eq_pow_of_bitLen_pred hm (by omega)
        by_cases h8 : bitLen z.natAbs % 8 = 0
        · exfalso
          apply hex (bitLen z.natAbs / 8 - 1)
          have he : 8 * (bitLen z.natAbs / 8 - 1) + 7 = bitLen z.natAbs - 1 := by omega
          rw [he]
          generalize bitLen z.natAbs - 1 = k at hpw ⊢
          have hc : (z.natAbs : Int) = (2 : Int) ^ k := by rw [hpw]; push_cast; rfl
          omega
        · omega
    · rw [if_neg hneg]
      unfold ceilDiv
      rw [if_neg (by omega), Nat.add_sub_cancel]

/-- the exception: for `z = -(2^(8q+7))` the encoder emits `q + 2` bytes (`0x00 … 0x80 0xff`), one more than the
    minimal `q + 1` (`0x00 … 0x80`) -/
theorem signedLen_neg_pow (q : Nat) :
    signedLen (-((2 : Int) ^ (8 * q + 7))) = q + 2 ∧ minSignedLen (-((2 : Int) ^ (8 * q + 7))) = q + 1 := by
  have hp : 0 < 2 ^ (8 * q + 7) := Nat.two_pow_pos _
  have hz : -((2 : Int) ^ (8 * q + 7)) = -(((2 ^ (8 * q + 7) : Nat)) : Int) := by push_cast; rfl
  have hna : (-((2 : Int) ^ (8 * q + 7))).natAbs = 2 ^ (8 * q + 7) := by rw [hz]; simp
  have hne : -((2 : Int) ^ (8 * q + 7)) ≠ 0 := by rw [hz]; omega
  have hlt : -((2 : Int) ^ (8 * q + 7)) < 0 := by rw [hz]; omega
  have hb : bitLen (2 ^ (8 * q + 7)) = 8 * q + 8 :=
    Dashu.Proofs.Gen.blen_eq_of_bounds (k := 8 * q + 7) (Nat.le_refl _) (Nat.pow_lt_pow_right (by omega) (by omega))
  have hb' : bitLen (2 ^ (8 * q + 7) - 1) = 8 * q + 7 :=
    Dashu.Proofs.Gen.blen_eq_of_bounds (k := 8 * q + 6) (by
      have : 2 ^ (8 * q + 7) = 2 ^ (8 * q + 6) * 2 := by rw [← pow_succ]
      have : 0 < 2 ^ (8 * q + 6) := Nat.two_pow_pos _
      omega) (by show _ < 2 ^ (8 * q + 7); omega)
  unfold signedLen minSignedLen
  rw [if_neg hne, if_neg hne, if_pos hlt, hna, hb, hb']
  unfold ceilDiv
  rw [if_neg (by omega)]
  omega

/-- **what `minSignedLen` means**: `n` bytes can hold `z` in two's complement (`z = 0`, or `n ≥ 1` and
    `-(2^(8n-1)) ≤ z < 2^(8n-1)`) iff `minSignedLen z ≤ n` -/
theorem minSignedLen_le_iff (z : Int) (n : Nat) :
    minSignedLen z ≤ n ↔ (z = 0 ∨ (1 ≤ n ∧ -((2 : Int) ^ (8 * n - 1)) ≤ z ∧ z < (2 : Int) ^ (8 * n - 1))) := by
  unfold minSignedLen
  by_cases hz : z = 0
  · rw [if_pos hz]; simp [hz]
  · rw [if_neg hz]
    have hm : z.natAbs ≠ 0 := fun h => hz (Int.natAbs_eq_zero.mp h)
    have hc : (2 : Int) ^ (8 * n - 1) = ((2 ^ (8 * n - 1) : Nat) : Int) := by push_cast; rfl
    rw [hc]
    by_cases hneg : z < 0
    · rw [if_pos hneg]
      unfold ceilDiv
      rw [if_neg (by omega), Nat.add_sub_cancel]
      have key : bitLen (z.natAbs - 1) ≤ 8 * n - 1 ↔ z.natAbs - 1 < 2 ^ (8 * n - 1) := bitLen_le_iff
      generalize 2 ^ (8 * n - 1) = P at *
      generalize bitLen (z.natAbs - 1) = B at *
      constructor
      · intro h
        have := key.mp (by omega)
        omega
      · intro h
        rcases h with h | ⟨h1, h2, h3⟩
        · omega
        · have := key.mpr (by omega)
          omega
    · rw [if_neg hneg]
      unfold ceilDiv
      have hb1 := bitLen_pos hm
      rw [if_neg (by omega), Nat.add_sub_cancel]
      have key : bitLen z.natAbs ≤ 8 * n - 1 ↔ z.natAbs < 2 ^ (8 * n - 1) := bitLen_le_iff
      generalize 2 ^ (8 * n - 1) = P at *
      generalize bitLen z.natAbs = B at *
      constructor
      · intro h
        have := key.mp (by omega)
        omega
      · intro h
        rcases h with h | ⟨h1, h2, h3⟩
        · omega
        · have := key.mpr (by omega)
          omega

end Dashu.Model.Text
