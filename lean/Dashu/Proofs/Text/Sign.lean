import Dashu.Model.Serde.Wire
import Dashu.Model.Text.Spec
import Dashu.Model.Text.Float
/-
  The optional sign in front of a number text.  Every text is `signChars sg ++ u` with `u` not starting with
  a sign (`exists_sign_split`); the strippers take `sg` off again (`stripSignF_sign`) and leave an unsigned
  text alone (`stripSignF_noSign`, `splitSign_noSign`).  `splitSign true` is `stripSignF`.
-/
namespace Dashu.Model.Macro
open Dashu.Model.Serde

/-- a value token never starts with a sign character (it is one Literal or Ident token) -/
def NoSign (s : Bytes) : Prop := s.head? ≠ some 43 ∧ s.head? ≠ some 45

theorem NoSign.nil : NoSign [] := ⟨nofun, nofun⟩

theorem NoSign.cons {c : Nat} {t : List Nat} (h43 : c ≠ 43) (h45 : c ≠ 45) : NoSign (c :: t) :=
  ⟨fun e => h43 (Option.some.inj e), fun e => h45 (Option.some.inj e)⟩

theorem NoSign.of_head {s : List Nat} (h : ∀ c, s.head? = some c → c ≠ 45 ∧ c ≠ 43) : NoSign s :=
  ⟨fun e => (h 43 e).2 rfl, fun e => (h 45 e).1 rfl⟩

end Dashu.Model.Macro

namespace Dashu.Model.Text
open Dashu.Model.Macro (NoSign)

theorem stripSignF_noSign (s : List Nat) (h : NoSign s) : stripSignF s = (false, s) := by
  unfold stripSignF
  split
  · exact absurd rfl h.2
  · exact absurd rfl h.1
  · rfl

/-- a sign character comes off whatever follows it; without one the text must not look signed -/
theorem stripSignF_sign (sign : Option Bool) (u : List Nat) (h : sign = none → NoSign u) :
    stripSignF (signChars sign ++ u) = (sign == some true, u) := by
  rcases sign with _ | _ | _
  · exact stripSignF_noSign u (h rfl)
  · rfl
  · rfl

theorem exists_sign_split (s : List Nat) : ∃ sg u, s = signChars sg ++ u ∧ (sg = none → NoSign u) := by
  by_cases h : NoSign s
  · exact ⟨none, s, rfl, fun _ => h⟩
  · match s with
    | [] => exact absurd .nil h
    | c :: r =>
      by_cases h45 : c = 45
      · exact ⟨some true, r, by rw [h45]; rfl, nofun⟩
      · by_cases h43 : c = 43
        · exact ⟨some false, r, by rw [h43]; rfl, nofun⟩
        · exact absurd (.cons h43 h45) h

theorem splitSign_noSign (signed : Bool) (s : List Nat) (h : NoSign s) : splitSign signed s = (false, s) := by
  unfold splitSign
  split
  · exact absurd rfl h.2
  · exact absurd rfl h.1
  · rfl

/-- the integer parsers' stripper: `+` always comes off, `-` only where the type has a sign -/
theorem splitSign_sign (signed : Bool) (sign : Option Bool) (u : List Nat) (h : sign = none → NoSign u)
    (hs : sign = some true → signed = true) : splitSign signed (signChars sign ++ u) = (sign == some true, u) := by
  rcases sign with _ | _ | _
  · exact splitSign_noSign signed u (h rfl)
  · rfl
  · rw [hs rfl]; rfl

theorem splitSign_true (s : List Nat) : splitSign true s = stripSignF s := by
  obtain ⟨sg, u, rfl, h⟩ := exists_sign_split s
  rw [stripSignF_sign sg u h]
  rcases sg with _ | _ | _
  · exact splitSign_noSign true u (h rfl)
  · rfl
  · rfl

end Dashu.Model.Text
