import Dashu.Proofs.Text.Float
import Dashu.Proofs.Float.Div
import Dashu.Proofs.Float.Closing
/-
  C08 — `Context::convert_base`, small negative exponent: the value `signif / B^(−exp)` is divided out
  in the target base, by `repr_div` (C03's contract) or — when the quotient is longer than the
  precision — by the single-rounding path of fix bd48ef9 (`divRoundLong`), proved here.  With the branches of
  `Float.lean` that gives the contract for every route that avoids `ln`/`exp` (`convertBase_ok_cases`,
  `convertBase_contract`).
-/
namespace Dashu.Model.Text
open Dashu.Model.Float Dashu.Props.GenRound

theorem abs_mul_add_lt {x b r : Int} (hr : |r| < b) : |x * b + r| < (|x| + 1) * b := by
  have hb : 0 < b := lt_of_le_of_lt (abs_nonneg r) hr
  calc |x * b + r| ≤ |x * b| + |r| := abs_add_le _ _
    _ = |x| * b + |r| := by rw [abs_mul, abs_of_pos hb]
    _ < (|x| + 1) * b := by rw [add_mul, one_mul]; exact Int.add_lt_add_left hr _

/-- **the long-dividend path of `convert_base` honours the rounding contract**: the integer quotient
    is split at `digits(q) − p`, the tail and the division remainder together are the fraction handed
    to `round_ratio` — one rounding of the exact quotient -/
theorem divRoundLong_contract (NB : Nat) (hNB : 2 ≤ NB) (m : Mode) (p : Nat) (hp : 1 ≤ p) (num den : FRepr)
    (hd : 0 < den.signif) (hlong : num.digits NB > p + den.digits NB) :
    Contract NB m p (num.toRat NB / den.toRat NB) ((divRoundLong NB m p num den).1.toRat NB)
      (divRoundLong NB m p num den).2 := by
  have hB0 : 0 < NB := by omega
  have hdne : den.signif ≠ 0 := by omega
  have hbq : (den.signif : ℚ) ≠ 0 := by exact_mod_cast hdne
  unfold FRepr.digits at hlong
  have ha0 : num.signif ≠ 0 := by
    intro h; rw [h, digitsI_zero] at hlong; omega
  obtain ⟨_, halo, _⟩ := digitsI_spec NB hNB num.signif ha0
  have hbhi := digitsI_abs_lt NB hNB den.signif
  obtain ⟨hdec, hrlt⟩ := tdiv_tmod_nz num.signif den.signif hdne
  rw [abs_of_pos hd] at hrlt hbhi
  have hqb : |Int.tdiv num.signif den.signif| * den.signif ≤ |num.signif| := by
    have := natAbs_tdiv_mul_le num.signif den.signif
    zify at this
    rwa [abs_of_pos hd] at this
  rw [toRat_div NB hB0 num den hdne]
  unfold divRoundLong
  dsimp only
  generalize Int.tdiv num.signif den.signif = q at *
  generalize Int.tmod num.signif den.signif = r at *
  -- the quotient has more than `p` digits: otherwise `|a| < (|q| + 1)·b ≤ NB^p · NB^db ≤ |a|`
  have hdq : p < digitsI NB q := by
    by_contra hc
    have h1 : |q| + 1 ≤ ((NB ^ p : Nat) : Int) := abs_lt_pow_of_digits NB hNB q p (not_lt.mp hc)
    have h2 : ((NB ^ p : Nat) : Int) * ((NB ^ digitsI NB den.signif : Nat) : Int) ≤ |num.signif| := by
      rw [← natpow_add]
      exact le_trans (by exact_mod_cast Nat.pow_le_pow_right hB0 (by omega)) halo
    have h3 : |num.signif| < (|q| + 1) * den.signif := hdec ▸ abs_mul_add_lt hrlt
    exact absurd (lt_of_lt_of_le h3 (mul_le_mul h1 hbhi.le hd.le (natpow_pos NB hB0 p).le)) (not_lt.mpr h2)
  have hq0 : q ≠ 0 := by
    intro h; rw [h, digitsI_zero] at hdq; omega
  obtain ⟨_, hqlo, _⟩ := digitsI_spec NB hNB q hq0
  generalize hsh : digitsI NB q - p = shift at *
  rw [show digitsI NB q - 1 = (p - 1) + shift by omega, natpow_add] at hqlo
  obtain ⟨hsplit, hlolt, _, _⟩ := splitDigits_spec NB hNB q shift
  generalize splitDigits NB q shift = hl at *
  have hPpos := natpow_pos NB hB0 shift
  have hscale : (0 : Int) < den.signif * ((NB ^ shift : Nat) : Int) := Int.mul_pos hd hPpos
  have hX : num.signif = hl.1 * (den.signif * ((NB ^ shift : Nat) : Int)) + (hl.2 * den.signif + r) := by
    rw [hdec, hsplit]; ring
  have hremlt : |hl.2 * den.signif + r| < den.signif * ((NB ^ shift : Nat) : Int) :=
    calc |hl.2 * den.signif + r| < (|hl.2| + 1) * den.signif := abs_mul_add_lt hrlt
      _ ≤ ((NB ^ shift : Nat) : Int) * den.signif := mul_le_mul_of_nonneg_right hlolt hd.le
      _ = den.signif * ((NB ^ shift : Nat) : Int) := mul_comm _ _
  have hulp : den.signif * ((NB ^ shift : Nat) : Int) * ((NB ^ (p - 1) : Nat) : Int) ≤ |num.signif| :=
    calc den.signif * ((NB ^ shift : Nat) : Int) * ((NB ^ (p - 1) : Nat) : Int)
        = ((NB ^ (p - 1) : Nat) : Int) * ((NB ^ shift : Nat) : Int) * den.signif := by ring
      _ ≤ |q| * den.signif := mul_le_mul_of_nonneg_right hqlo hd.le
      _ ≤ |num.signif| := hqb
  -- one unit of the scaled quotient: `scale · u = NB^(exp + shift)`
  have hval : (num.signif : ℚ) / (den.signif : ℚ) * bpowQ NB (num.exp - den.exp) =
      (num.signif : ℚ) * (bpowQ NB (num.exp - den.exp) / (den.signif : ℚ)) := by
    rw [div_mul_eq_mul_div, mul_div_assoc]
  have hunit : ((den.signif * ((NB ^ shift : Nat) : Int) : Int) : ℚ) * (bpowQ NB (num.exp - den.exp) / (den.signif : ℚ)) =
      bpowQ NB (num.exp - den.exp + shift) := by
    rw [bpowQ_add NB hB0, bpowQ_nat, Int.cast_mul, Int.cast_natCast, mul_comm (den.signif : ℚ), mul_assoc,
      mul_div_cancel₀ _ hbq, mul_comm]
  rw [hval]
  generalize den.signif * ((NB ^ shift : Nat) : Int) = S at *
  generalize hrem : hl.2 * den.signif + r = rem at *
  have hu : (0 : ℚ) < bpowQ NB (num.exp - den.exp) / (den.signif : ℚ) :=
    div_pos (bpowQ_pos NB hB0 _) (by exact_mod_cast hd)
  generalize bpowQ NB (num.exp - den.exp) / (den.signif : ℚ) = u at *
  split
  · next hrem0 =>
    rw [FRepr.new_value NB hB0, hX, hrem0, add_zero, Int.cast_mul, mul_assoc, hunit]
    exact contract_exact NB m p _
  · next hrem0 =>
    have hspec := roundRatio_spec m hl.1 rem S (ne_of_gt hscale) hrem0 (by rwa [abs_of_pos hscale])
    rw [abs_of_pos hscale, Int.sign_eq_one_of_pos hscale, mul_one] at hspec
    have hic := icontract_of_spec m hl.1 rem S hscale hrem0 hremlt _ hspec
    rw [← hX] at hic
    rw [FRepr.new_value NB hB0]
    have key := contract_of_icontract' NB hNB m p hp S _ _ hscale _ u hu _ hunit hic ⟨_, rfl⟩ hulp
    rwa [Int.cast_mul, mul_assoc, hunit] at key

theorem new_signif_pos (NB : Nat) (hNB : 2 ≤ NB) (s e : Int) (hs : 0 < s) : 0 < (FRepr.new NB s e).signif := by
  have hB0 : 0 < NB := by omega
  have h : (0 : ℚ) < (s : ℚ) * bpowQ NB e := mul_pos (by exact_mod_cast hs) (bpowQ_pos NB hB0 e)
  rw [← FRepr.new_value NB hB0, FRepr.toRat, mul_pos_iff_of_pos_right (bpowQ_pos NB hB0 _)] at h
  exact_mod_cast h

/-- the quotient handed to the division branch is the exact value -/
theorem small_neg_value (B NB : Nat) (hNB : 2 ≤ NB) (r : FRepr) (he : r.exp < 0) :
    (FRepr.new NB r.signif 0).toRat NB / (FRepr.new NB ((B ^ (-r.exp).toNat : Nat) : Int) 0).toRat NB =
      r.toRat B := by
  rw [FRepr.new_value NB (by omega), FRepr.new_value NB (by omega)]
  unfold FRepr.toRat
  have h0 : bpowQ NB 0 = 1 := by simp [bpowQ]
  rw [h0, mul_one, mul_one]
  have hk : r.exp = -(((-r.exp).toNat : Nat) : Int) := by omega
  conv_rhs => rw [hk]
  generalize (-r.exp).toNat = k
  rw [bpowQ_eq_zpow, zpow_neg, zpow_natCast]
  push_cast
  rw [div_eq_mul_inv]

/-- the outcomes of `convert_base` that avoid `ln`/`exp`: the exact value, written in the new base, goes
    to `repr_round` (same base; one base a power of the other; small exponent `≥ 0`), or, for a small
    negative exponent, `signif / B^(−exp)` is divided out by `divRoundLong` or `repr_div` -/
theorem convertBase_ok_cases (W B NB : Nat) (hB : 2 ≤ B) (hNB : 2 ≤ NB) (m : Mode) (p : Nat) (r : FRepr)
    (res : Rounded FRepr) (h : convertBase W B NB m p r = .ok res) :
    (∃ s e : Int, (s : ℚ) * bpowQ NB e = r.toRat B ∧ res = reprRound NB m coarseNone p (FRepr.new NB s e)) ∨
    ∃ num den : FRepr, num.toRat NB / den.toRat NB = r.toRat B ∧ 0 < den.signif ∧
      (num.digits NB > p + den.digits NB ∧ res = divRoundLong NB m p num den ∨
        num.digits NB ≤ p + den.digits NB ∧ reprDiv NB m p num den = .ok res) := by
  unfold convertBase at h
  by_cases hsame : NB = B
  · subst hsame
    simp only [if_true, ConvResult.ok.injEq] at h
    exact .inl ⟨_, _, rfl, h.symm⟩
  simp only [hsame, if_false] at h
  by_cases hup : (if NB > B then ilogExact NB B else 0) > 1
  · simp only [hup, if_true, ConvResult.ok.injEq] at h
    have hgt : NB > B := by
      by_contra hc; simp [hc] at hup
    simp only [hgt, if_true] at hup h
    have hv := value_pow_up B (ilogExact NB B) (by omega) (by omega) r.signif r.exp
    rw [← ilogExact_spec NB B _ rfl (by omega)] at hv
    exact .inl ⟨_, _, hv, h.symm⟩
  simp only [hup, if_false] at h
  by_cases hdown : (if NB > B then 0 else ilogExact B NB) > 1
  · simp only [hdown, if_true, ConvResult.ok.injEq] at h
    have hle : ¬ NB > B := by
      intro hc; simp [hc] at hdown
    simp only [hle, if_false] at hdown h
    have hv := value_pow_down NB (ilogExact B NB) r.signif r.exp
    rw [← ilogExact_spec B NB _ rfl (by omega)] at hv
    exact .inl ⟨_, _, hv, h.symm⟩
  simp only [hdown, if_false] at h
  split at h
  · cases h
  split at h
  swap
  · cases h
  by_cases hnn : r.exp ≥ 0
  · simp only [hnn, if_true, ConvResult.ok.injEq] at h
    have hv := value_small_pos B NB r.signif r.exp.toNat
    rw [Int.toNat_of_nonneg hnn] at hv
    exact .inl ⟨_, _, hv, h.symm⟩
  simp only [hnn, if_false] at h
  have hdpos : 0 < (FRepr.new NB ((B ^ (-r.exp).toNat : Nat) : Int) 0).signif :=
    new_signif_pos NB hNB _ _ (by exact_mod_cast Nat.pow_pos (n := (-r.exp).toNat) (by omega : 0 < B))
  refine .inr ⟨_, _, small_neg_value B NB hNB r (by omega), hdpos, ?_⟩
  split at h
  · next hlong => exact .inl ⟨hlong, (ConvResult.ok.inj h).symm⟩
  · next hlong =>
    refine .inr ⟨not_lt.mp hlong, ?_⟩
    split at h
    · next heq => rw [heq, ConvResult.ok.inj h]
    · cases h

/-- **every exact-evaluation branch of `Context::convert_base` meets the rounding contract**: whenever
    the conversion does not go through `ln`/`exp` (same base; one base a power of the other; exponent
    magnitude within the regenerated threshold — multiplication for `exp ≥ 0`, division by `repr_div`
    or the long-dividend path for `exp < 0`), the result is the exact value `signif · B^exp` rounded to
    `p` digits of the new base: exact iff representable (truthful flag), otherwise less than one ulp
    (half an ulp for the nearest modes) on the mode's side -/
theorem convertBase_contract (W B NB : Nat) (hB : 2 ≤ B) (hNB : 2 ≤ NB) (m : Mode) (p : Nat) (hp : 1 ≤ p)
    (r : FRepr) (res : Rounded FRepr) (h : convertBase W B NB m p r = .ok res) :
    Contract NB m p (r.toRat B) (res.1.toRat NB) res.2 := by
  rcases convertBase_ok_cases W B NB hB hNB m p r res h with ⟨s, e, hv, rfl⟩ | ⟨num, den, hv, hd, hres⟩
  · rw [← hv]
    exact round_new_contract NB hNB m p hp s e
  · rw [← hv]
    rcases hres with ⟨hlong, rfl⟩ | ⟨hshort, hdiv⟩
    · exact divRoundLong_contract NB hNB m p hp num den hd hlong
    · obtain ⟨r', hr', hc⟩ := reprDiv_contract NB hNB m p hp num den (by omega)
      rw [hr', Except.ok.injEq] at hdiv
      exact hdiv ▸ hc

end Dashu.Model.Text
