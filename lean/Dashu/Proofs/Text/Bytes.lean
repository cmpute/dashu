import Dashu.Model.Text.Bytes
import Dashu.Proofs.Text.Words
/-
  Byte encodings as positional representations: round trips of the specification side (`leBytesSpec`,
  `signedLeBytesSpec`; the chunk round trip `ofChunksSpec_chunksSpec` is in `Words`).
-/
namespace Dashu.Model.Text

theorem ofLeBytesSpec_leBytesSpec (n : Nat) : ofLeBytesSpec (leBytesSpec n) = n :=
  (ofChunksSpec_eq 8 (chunksSpec n 8)).symm.trans (ofChunksSpec_chunksSpec n 8 (by omega))

theorem leBytesSpec_minimal (n : Nat) :
    (∀ b ∈ leBytesSpec n, b < 256) ∧ (leBytesSpec n).getLast? ≠ some 0 :=
  chunksSpec_bounds n 8 (by omega)

-- ---------------------------------------------------------------- two's complement

theorem digitsPadLE_getLast (r k x : Nat) (hk : 1 ≤ k) :
    (digitsPadLE r k x).getLast? = some (x / r ^ (k - 1) % r) := by
  obtain ⟨j, rfl⟩ : ∃ j, k = j + 1 := ⟨k - 1, by omega⟩
  rw [digitsPadLE_eq_range, List.range_succ, List.map_append]
  simp

theorem byteLen_spec {m : Nat} (hm : m ≠ 0) :
    1 ≤ byteLen m ∧ m < 256 ^ byteLen m ∧ 256 ^ (byteLen m - 1) ≤ m := by
  rw [pow256, pow256]
  exact ⟨wordLen_pos 8 (by omega) m hm, lt_pow_wordLen 8 (by omega) m, pow_wordLen_le 8 (by omega) m hm⟩

/-- **two's complement round trip, every integer** (in particular `-(2^(8k))`) -/
theorem ofSignedLeBytesSpec_signedLeBytesSpec (z : Int) :
    ofSignedLeBytesSpec (signedLeBytesSpec z) = z := by
  unfold signedLeBytesSpec
  simp only []
  by_cases hm : z.natAbs = 0
  · have : z = 0 := Int.natAbs_eq_zero.mp hm
    subst this; simp [ofSignedLeBytesSpec]
  · rw [if_neg hm]
    obtain ⟨hL1, hlt, hge⟩ := byteLen_spec hm
    generalize hLdef : byteLen z.natAbs = L at *
    generalize hmdef : z.natAbs = m at *
    have hp : 0 < 256 ^ L := Nat.pow_pos (by omega)
    have e8 : (256 : Nat) ^ L = 2 ^ (8 * L - 1) * 2 := by
      rw [show (256 : Nat) = 2 ^ 8 from rfl, two_pow_mul, ← pow_succ]; congr 1; omega
    have eL : (256 : Nat) ^ L = 256 ^ (L - 1) * 256 := by rw [← pow_succ]; congr 1; omega
    have hpl : 0 < 256 ^ (L - 1) := Nat.pow_pos (by omega)
    unfold ofSignedLeBytesSpec
    by_cases hz : z < 0
    · rw [if_pos hz]
      have hzm : z = -(m : Int) := by rw [← hmdef]; omega
      have hv : (256 ^ L - m) % 256 ^ L = 256 ^ L - m := Nat.mod_eq_of_lt (by omega)
      by_cases hx : 2 ^ (8 * L - 1) ≤ m
      · rw [if_pos hx, List.getLast?_append]
        simp only [List.getLast?_singleton, Option.some_or, show ¬ (255 < 128) from by omega, if_false]
        rw [ofDigitsLE_append, ofDigitsLE_digitsPadLE, hv, digitsPadLE_length, List.length_append,
          digitsPadLE_length]
        simp only [ofDigitsLE, List.length_cons, List.length_nil]
        rw [hzm, pow_succ]
        push_cast
        rw [Nat.cast_sub (by omega)]
        push_cast; ring
      · rw [if_neg hx, List.append_nil, digitsPadLE_getLast _ _ _ hL1]
        simp only []
        have htop : ¬ ((256 ^ L - m) / 256 ^ (L - 1) % 256 < 128) := by
          have h1 : (256 ^ L - m) / 256 ^ (L - 1) < 256 := by
            rw [Nat.div_lt_iff_lt_mul hpl, Nat.mul_comm, ← eL]; omega
          rw [Nat.mod_eq_of_lt h1]
          have h2 : 128 * 256 ^ (L - 1) ≤ 256 ^ L - m := by
            have : 128 * 256 ^ (L - 1) * 2 = 256 ^ L := by rw [eL]; ring
            omega
          have := (Nat.le_div_iff_mul_le hpl).mpr h2
          omega
        rw [if_neg htop, ofDigitsLE_digitsPadLE, hv, digitsPadLE_length, hzm]
        rw [Nat.cast_sub (by omega)]
        push_cast; ring
    · rw [if_neg hz]
      have hzm : z = (m : Int) := by rw [← hmdef]; omega
      have hv : m % 256 ^ L = m := Nat.mod_eq_of_lt hlt
      by_cases hx : 2 ^ (8 * L - 1) ≤ m
      · rw [if_pos hx, List.getLast?_append]
        simp only [List.getLast?_singleton, Option.some_or, show (0 < 128) from by omega, if_true]
        rw [ofDigitsLE_append, ofDigitsLE_digitsPadLE, hv]
        simp [ofDigitsLE, hzm]
      · rw [if_neg hx, List.append_nil, digitsPadLE_getLast _ _ _ hL1]
        simp only []
        have htop : m / 256 ^ (L - 1) % 256 < 128 := by
          have h1 : m / 256 ^ (L - 1) < 128 := by
            rw [Nat.div_lt_iff_lt_mul hpl]
            have : 128 * 256 ^ (L - 1) * 2 = 256 ^ L := by rw [eL]; ring
            rw [Nat.mul_comm]; omega
          rw [Nat.mod_eq_of_lt (by omega)]; exact h1
        rw [if_pos htop, ofDigitsLE_digitsPadLE, hv, hzm]

theorem signedLeBytesSpec_bytes (z : Int) : ∀ b ∈ signedLeBytesSpec z, b < 256 := by
  unfold signedLeBytesSpec
  simp only []
  intro b hb
  split at hb
  · simp at hb
  · split at hb
    · rcases List.mem_append.mp hb with h | h
      · exact digitsPadLE_lt 256 _ _ (by omega) b h
      · split at h <;> simp at h; omega
    · rcases List.mem_append.mp hb with h | h
      · exact digitsPadLE_lt 256 _ _ (by omega) b h
      · split at h <;> simp at h; omega

end Dashu.Model.Text
