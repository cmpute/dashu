import Dashu.Proofs.Text.FloatPrec
/-
  C08 — width / fill / alignment / zero padding of the float printers never changes the sign, the
  digits, the point or the scale part (one lemma about `frame` and the padding decision `padsG`, for
  `fmt_round` and `fmt_round_scientific` alike); zero-padded (and unpadded) `Display` text parses back,
  with any precision option, to the value printed.
-/
namespace Dashu.Model.Text
open Dashu.Model.Float

/-- the padding decision: the two amounts add up to the missing width (none without a width); the zero flag
    puts everything on the left (after the sign); otherwise left / right (default) / centre (extra character
    on the right) -/
theorem padsG_spec (f : FmtSpec) (n : Nat) :
    (padsG f n).1 + (padsG f n).2 = f.width.getD 0 - n ∧
    (f.zero = true → (padsG f n).2 = 0) ∧
    (f.zero = false →
      (f.align = some .left → (padsG f n).1 = 0) ∧
      ((f.align = some .right ∨ f.align = none) → (padsG f n).2 = 0) ∧
      (f.align = some .center → (padsG f n).1 = (f.width.getD 0 - n) / 2)) := by
  unfold padsG
  obtain ⟨fill, align, plus, alt, zero, width⟩ := f
  cases width with
  | none => simp
  | some w =>
    simp only [Option.getD_some]
    by_cases hge : n ≥ w
    · have h0 : w - n = 0 := by omega
      simp [hge, h0]
    · rcases zero with _ | _ <;> rcases align with _ | (_ | _ | _) <;> simp [hge] <;> omega

/-- **what a printer writes around its body**: with the padding decided for a text of `n` characters by a
    formatter `f'` that is `f` up to the zero flag (`fmt_round`: `f` itself; `fmt_round_scientific` lets the
    alignment decide also under the zero flag), the text is `fill^a ++ sign ++ prefix ++ '0'^b ++ body ++ fill^c`
    with `a + b + c = width − n` (truncated; nothing without a width) -/
theorem frame_padsG (f f' : FmtSpec) (hw : f'.width = f.width) (ha : f'.align = f.align)
    (sign pre body : List Nat) (n : Nat) :
    ∃ a b c : Nat,
      frame f sign pre body (padsG f' n) =
        rep a f.fill ++ sign ++ pre ++ rep b [48] ++ body ++ rep c f.fill ∧
      a + b + c = f.width.getD 0 - n ∧
      (f.zero = true → a = 0) ∧ (f.zero = false → b = 0) ∧ (f'.zero = true → c = 0) ∧
      (f'.zero = false → (f.align = some .left → a + b = 0) ∧
        ((f.align = some .right ∨ f.align = none) → c = 0) ∧
        (f.align = some .center → a + b = (a + b + c) / 2)) := by
  obtain ⟨hsum, hzero, halign⟩ := padsG_spec f' n
  rw [hw] at hsum halign
  rw [ha] at halign
  generalize padsG f' n = pads at *
  cases hz : f.zero with
  | true =>
    refine ⟨0, pads.1, pads.2, ?_, by omega, fun _ => rfl, fun h => Bool.noConfusion h, hzero, fun h => ?_⟩
    · unfold frame; simp [hz, rep_zero]
    · obtain ⟨hl, hr, hc⟩ := halign h
      exact ⟨fun h => by have := hl h; omega, hr, fun h => by have := hc h; omega⟩
  | false =>
    refine ⟨pads.1, 0, pads.2, ?_, by omega, fun h => Bool.noConfusion h, fun _ => rfl, hzero, fun h => ?_⟩
    · unfold frame; simp [hz, rep_zero]
    · obtain ⟨hl, hr, hc⟩ := halign h
      exact ⟨fun h => by have := hl h; omega, hr, fun h => by have := hc h; omega⟩

-- ---------------------------------------------------------------- Display

/-- **padding never changes the digits** (`Display`, with or without a precision): for every
    formatter state the text is `fill^a ++ sign ++ '0'^b ++ core ++ fill^c` where `core` (digits, point,
    zeros) does not depend on width, fill, alignment, `+` or the zero flag; no width — no padding; the
    zero flag only inserts zeros after the sign; without it only fill characters are added outside -/
theorem fmtRound_padding (B : Nat) (m : Mode) (f : FmtSpec) (prec : Option Nat) (r : FRepr) :
    ∃ a b c : Nat,
      fmtRound B m f prec r =
        rep a f.fill ++ fSign f.plus r ++ rep b [48] ++ fmtRoundCore B m prec r ++ rep c f.fill ∧
      (f.width = none → a = 0 ∧ b = 0 ∧ c = 0) ∧ (f.zero = true → a = 0 ∧ c = 0) ∧
      (f.zero = false → b = 0) := by
  rw [fmtRound_eq_frame, ← fmtRoundCore_eq_bodyG]
  generalize widthG _ _ _ _ = n
  obtain ⟨a, b, c, h, hsum, ha, hb, hc, _⟩ :=
    frame_padsG f f rfl rfl (fSign f.plus r) [] (fmtRoundCore B m prec r) n
  refine ⟨a, b, c, by rw [h, List.append_nil], fun hw => ?_, fun hz => ⟨ha hz, hc hz⟩, hb⟩
  rw [hw, Option.getD_none, Nat.zero_sub] at hsum
  omega

/-- the sign of a rendered literal -/
def fSignOpt (plus : Bool) (r : FRepr) : Option Bool :=
  if r.signif < 0 then some true else if plus then some false else none

theorem signChars_fSignOpt (plus : Bool) (r : FRepr) : signChars (fSignOpt plus r) = fSign plus r := by
  unfold fSignOpt fSign
  by_cases h : r.signif < 0
  · simp [h, signChars]
  · cases plus <;> simp [h, signChars]

/-- a literal core (digits + optional fraction) printed behind sign and zero padding is a literal
    with the zeros prepended to the integer digits -/
theorem fmtRound_zero_literal (B : Nat) (m : Mode) (f : FmtSpec) (prec : Option Nat) (r : FRepr)
    (hf : f.zero = true ∨ f.width = none) (di : List Nat) (frac : Option (List Nat))
    (hcore : fmtRoundCore B m prec r = chars false di ++ fracChars false frac) :
    ∃ b : Nat, fmtRound B m f prec r =
      renderLiteral false (fSignOpt f.plus r) (List.replicate b 0 ++ di) frac none := by
  obtain ⟨a, b, c, htext, hnone, hzero, _⟩ := fmtRound_padding B m f prec r
  have hac : a = 0 ∧ c = 0 := by
    rcases hf with h | h
    · exact hzero h
    · exact ⟨(hnone h).1, (hnone h).2.2⟩
  refine ⟨b, ?_⟩
  rw [htext, hac.1, hac.2, hcore]
  unfold renderLiteral scaleChars
  rw [signChars_fSignOpt, rep_zero_chars false, chars_append]
  simp [rep_zero]

theorem fSignOpt_true (plus : Bool) (r : FRepr) : (fSignOpt plus r = some true) ↔ r.signif < 0 := by
  unfold fSignOpt
  by_cases h : r.signif < 0
  · simp [h]
  · cases plus <;> simp [h]

/-- parsing a zero-padded literal: the value is `±(di ++ df) · B^(−|df|)` -/
theorem zero_literal_parse (W : Nat) (hW : 36 < 2 ^ W) (B : Nat) (hB : validRadix B = true)
    (sign : Option Bool) (b : Nat) (di : List Nat) (frac : Option (List Nat))
    (hdi : ∀ d ∈ di, d < B) (hdf : ∀ d ∈ frac.getD [], d < B) (hne : di ≠ [] ∨ frac.getD [] ≠ []) :
    ∃ (r' : FRepr) (n : Nat),
      fromStrNative W B (renderLiteral false sign (List.replicate b 0 ++ di) frac none) = .ok (r', n) ∧
      r'.toRat B = (if sign = some true then -1 else 1) * (ofDigits B (di ++ frac.getD []) : ℚ) *
        bpowQ B (0 - ((frac.getD []).length : Int)) := by
  have hr := validRadix_iff.mp hB
  have hdi' : ∀ d ∈ List.replicate b 0 ++ di, d < B := by
    intro d hd
    rcases List.mem_append.mp hd with h | h
    · have := List.eq_of_mem_replicate h; omega
    · exact hdi d h
  have hne' : List.replicate b 0 ++ di ≠ [] ∨ frac.getD [] ≠ [] := by
    rcases hne with h | h
    · left; intro h0; exact h (List.append_eq_nil_iff.mp h0).2
    · exact Or.inr h
  obtain ⟨r', hparse, hv⟩ := literal_exact W hW B hB false sign _ frac none hdi' hdf hne'
    (by intro z h; cases h)
  refine ⟨r', _, hparse, ?_⟩
  rw [hv, List.append_assoc, ofDigits_replicate_zero_append]
  simp only [Option.getD_none]

/-- **`Display`, read back** (any precision option; no width, or the zero flag): the text parses, in the same
    base, to exactly `s' · B^e'` for the pair `(s', e')` after the rounding step -/
theorem fmtRound_parse (W : Nat) (hW : 36 < 2 ^ W) (B : Nat) (hB : validRadix B = true)
    (m : Mode) (f : FmtSpec) (hf : f.zero = true ∨ f.width = none) (prec : Option Nat) (r : FRepr) :
    ∃ (r' : FRepr) (n : Nat), fromStrNative W B (fmtRound B m f prec r) = .ok (r', n) ∧
      r'.toRat B = ((dispPair B m prec r).1 : ℚ) * bpowQ B (dispPair B m prec r).2 := by
  have hr := validRadix_iff.mp hB
  obtain ⟨di, frac, hcore, hdi, hdf, hne, hlen, _, hval⟩ := fmtRoundCore_literal B hr.1 m prec r
  obtain ⟨b, htext⟩ := fmtRound_zero_literal B m f prec r hf di frac hcore
  obtain ⟨r', n, hparse, hv⟩ := zero_literal_parse W hW B hB (fSignOpt f.plus r) b di frac hdi hdf (Or.inl hne)
  obtain ⟨hs1, hs2⟩ := dispPair_sign B hr.1 m prec r
  refine ⟨r', n, by rw [htext]; exact hparse, ?_⟩
  have hk : -(dispPair B m prec r).2 ≤ ((prec.getD (-(dispPair B m prec r).2).toNat : Nat) : Int) := by
    cases prec with
    | none => simp only [Option.getD_none]; omega
    | some p => exact dispPair_exp_ge B m (some p) r p rfl
  rw [hv, hlen, hval, Nat.cast_mul, mul_assoc, mul_assoc,
    show (0 : Int) - ((prec.getD (-(dispPair B m prec r).2).toNat : Nat) : Int) = (dispPair B m prec r).2 -
      (((((prec.getD (-(dispPair B m prec r).2).toNat : Nat) : Int) + (dispPair B m prec r).2).toNat : Nat) : Int) by omega,
    bpowQ_shift B (by omega), ← mul_assoc, sign_mul_natAbs (fSignOpt_true f.plus r) hs1 hs2]

/-- … and with a precision option: the padded text parses to exactly the rounded value `R · B^(−p)` -/
theorem display_prec_padded_parse (W : Nat) (hW : 36 < 2 ^ W) (B : Nat) (hB : validRadix B = true)
    (m : Mode) (f : FmtSpec) (hf : f.zero = true ∨ f.width = none) (p : Nat) (r : FRepr) :
    ∃ (r' : FRepr) (n : Nat), fromStrNative W B (fmtRound B m f (some p) r) = .ok (r', n) ∧
      r'.toRat B = (precRounded B m p r : ℚ) * bpowQ B (-(p : Int)) := by
  obtain ⟨r', n, h, hv⟩ := fmtRound_parse W hW B hB m f hf (some p) r
  refine ⟨r', n, h, ?_⟩
  rw [hv, dispPair_some]
  split
  · rfl
  · rename_i hd
    unfold precRounded
    simp only [hd, if_false]
    rw [Int.cast_mul, mul_assoc, Int.cast_natCast,
      show -(p : Int) = r.exp - ((((p : Int) + r.exp).toNat : Nat) : Int) by omega,
      bpowQ_shift B (by have := validRadix_iff.mp hB; omega)]

-- ---------------------------------------------------------------- scientific formats

/-- the (significand, exponent) pair `fmt_round_scientific` prints: rounded to `p + 1` significant
    digits (`4p + 4` bits for the hexadecimal form), a carry into a new digit dropped again -/
def sciPair (B : Nat) (m : Mode) (prec : Option Nat) (useHex : Bool) (r : FRepr) : Int × Int :=
  match prec with
  | some p0 =>
    let p : Int := if useHex then (p0 : Int) * 4 + 4 else (p0 : Int) + 1
    let diff : Int := p - (digitsI B r.signif : Int)
    if diff < 0 then
      let shift := (-diff).toNat
      let hl := splitDigits B r.signif shift
      let adj := roundFract B m coarseNone hl.1 hl.2 shift
      let s := hl.1 + rInt adj
      let e := r.exp - diff
      if (digitsI B s : Int) > p then (Int.tdiv s B, e + 1) else (s, e)
    else (r.signif, r.exp)
  | none => (r.signif, r.exp)

/-- `signif_str` of `fmt_round_scientific` -/
def sciStr (B : Nat) (m : Mode) (prec : Option Nat) (upper useHex : Bool) (r : FRepr) : List Nat :=
  if r.signif < 0 then (printSpecInt (if useHex then 16 else B) upper (sciPair B m prec useHex r).1).drop 1
  else printSpecInt (if useHex then 16 else B) upper (sciPair B m prec useHex r).1

/-- `exp_adjust`: the exponent shown, the radix point standing after the first digit -/
def sciExp (B : Nat) (m : Mode) (prec : Option Nat) (upper useHex : Bool) (r : FRepr) : Int :=
  if useHex then (sciPair B m prec useHex r).2 + (((sciStr B m prec upper useHex r).length : Int) - 1) * 4
  else (sciPair B m prec useHex r).2 + ((sciStr B m prec upper useHex r).length : Int) - 1

/-- first digit, point, digits, zeros, marker, exponent as `fmt_round_scientific` writes them -/
def sciBodyG (S expStr : List Nat) (p marker : Nat) : List Nat :=
  S.take 1 ++ (if S.drop 1 ≠ [] then [46] ++ S.drop 1 else []) ++
    (if p > 0 then (if S.drop 1 = [] then [46] else []) ++ rep (p - (S.drop 1).length) [48] else []) ++
    [marker] ++ expStr

/-- the `width` `fmt_round_scientific` computes -/
def sciWidthG (L E p hasSign : Nat) (useHex : Bool) : Nat :=
  let hasPoint := if L > 1 ∨ p > 0 then 1 else 0
  let trailingZeros := if p > L - 1 then p - (L - 1) else 0
  L + E + 1 + hasSign + hasPoint + (if useHex then 2 else 0) + trailingZeros

/-- first digit, point, digits, zeros, marker and exponent of `fmt_round_scientific`: independent of
    the formatter's width, fill, alignment, `+` and zero flag -/
def fmtSciCore (B : Nat) (m : Mode) (prec : Option Nat) (upper useHex : Bool) (marker : Nat) (r : FRepr) : List Nat :=
  let negative := r.signif < 0
  let se : Int × Int := match prec with
    | some p0 =>
      let p : Int := if useHex then (p0 : Int) * 4 + 4 else (p0 : Int) + 1
      let diff : Int := p - (digitsI B r.signif : Int)
      if diff < 0 then
        let shift := (-diff).toNat
        let hl := splitDigits B r.signif shift
        let adj := roundFract B m coarseNone hl.1 hl.2 shift
        let s := hl.1 + rInt adj
        let e := r.exp - diff
        if (digitsI B s : Int) > p then (Int.tdiv s B, e + 1) else (s, e)
      else (r.signif, r.exp)
    | none => (r.signif, r.exp)
  let signif := se.1
  let exp := se.2
  let full := printSpecInt (if useHex then 16 else B) upper signif
  let signifStr := if negative then full.drop 1 else full
  let expAdjust : Int :=
    if useHex then exp + ((signifStr.length : Int) - 1) * 4 else exp + (signifStr.length : Int) - 1
  let expStr : List Nat := printSpecInt 10 false expAdjust
  let p := prec.getD 0
  let int := signifStr.take 1
  let fract := signifStr.drop 1
  let body := int ++ (if fract ≠ [] then [46] ++ fract else []) ++
    (if p > 0 then (if fract = [] then [46] else []) ++ rep (p - fract.length) [48] else []) ++
    [marker] ++ expStr
  body

theorem fmtSciG_eq_frame (B : Nat) (m : Mode) (f : FmtSpec) (prec : Option Nat) (upper useHex : Bool)
    (marker : Nat) (r : FRepr) :
    fmtSciG B m f prec upper useHex marker r =
      frame f (fSign f.plus r) (if useHex then [48, 120] else [])
        (sciBodyG (sciStr B m prec upper useHex r) (printSpecInt 10 false (sciExp B m prec upper useHex r))
          (prec.getD 0) marker)
        (padsG { f with zero := false }
          (sciWidthG (sciStr B m prec upper useHex r).length
            (printSpecInt 10 false (sciExp B m prec upper useHex r)).length (prec.getD 0)
            (if r.signif < 0 || f.plus then 1 else 0) useHex)) := by
  unfold fmtSciG frame fSign sciBodyG padsG sciWidthG sciStr sciExp sciPair
  cases prec <;> rfl

theorem fmtSciCore_eq_bodyG (B : Nat) (m : Mode) (prec : Option Nat) (upper useHex : Bool) (marker : Nat) (r : FRepr) :
    fmtSciCore B m prec upper useHex marker r =
      sciBodyG (sciStr B m prec upper useHex r) (printSpecInt 10 false (sciExp B m prec upper useHex r))
        (prec.getD 0) marker := by
  unfold fmtSciCore sciBodyG sciStr sciExp sciPair
  cases prec <;> rfl

/-- **padding never changes the digits** (`LowerExp`, `UpperExp`, `Binary`, `Octal`, `LowerHex`,
    `UpperHex`): the text is `fill^a ++ sign ++ [0x] ++ '0'^b ++ core ++ fill^c`, `core` (digits,
    point, zeros, marker, exponent) independent of width, fill, alignment, `+` and the zero flag;
    without a width there is no padding -/
theorem fmtSciG_padding (B : Nat) (m : Mode) (f : FmtSpec) (prec : Option Nat) (upper useHex : Bool)
    (marker : Nat) (r : FRepr) :
    ∃ a b c : Nat,
      fmtSciG B m f prec upper useHex marker r =
        rep a f.fill ++ fSign f.plus r ++ (if useHex then [48, 120] else []) ++ rep b [48] ++
          fmtSciCore B m prec upper useHex marker r ++ rep c f.fill ∧
      (f.width = none → a = 0 ∧ b = 0 ∧ c = 0) ∧ (f.zero = true → a = 0) ∧ (f.zero = false → b = 0) := by
  rw [fmtSciG_eq_frame, ← fmtSciCore_eq_bodyG]
  generalize sciWidthG _ _ _ _ _ = n
  obtain ⟨a, b, c, h, hsum, ha, hb, _, _⟩ :=
    frame_padsG f { f with zero := false } rfl rfl (fSign f.plus r) (if useHex then [48, 120] else [])
      (fmtSciCore B m prec upper useHex marker r) n
  refine ⟨a, b, c, h, fun hw => ?_, ha, hb⟩
  rw [hw, Option.getD_none, Nat.zero_sub] at hsum
  omega

end Dashu.Model.Text
