import Dashu.Model.Text.Spec
import Mathlib.Tactic.Ring
import Mathlib.Tactic.Linarith
/-
  Algebra of positional representations used by every C07 proof and by the byte lemmas of `Proofs/Serde`: most significant
  first (`digits`, `digitsPad`, `ofDigits`), least significant first for every base (`digitsPadLE`, `ofDigitsLE`: append, split,
  bound, zeros, all-ones, injectivity, inverse of each other), digit counts and the decimal text `printSpec`.
-/
namespace Dashu.Model.Text

theorem digitsAux_zero (r : Nat) (acc : List Nat) : digitsAux r 0 acc = acc := by
  rw [digitsAux]; simp

theorem digitsAux_step {r n : Nat} (hr : 2 ≤ r) (hn : n ≠ 0) (acc : List Nat) :
    digitsAux r n acc = digitsAux r (n / r) (n % r :: acc) := by
  rw [digitsAux]
  have : ¬(r < 2 ∨ n = 0) := by omega
  simp [this]

theorem digitsAux_acc (r : Nat) (n : Nat) (acc : List Nat) :
    digitsAux r n acc = digitsAux r n [] ++ acc := by
  induction n using Nat.strong_induction_on generalizing acc with
  | _ n ih =>
    by_cases h : r < 2 ∨ n = 0
    · have e : ∀ a, digitsAux r n a = a := by intro a; rw [digitsAux]; simp [h]
      rw [e, e []]; simp
    · have hr : 2 ≤ r := by omega
      have hn : n ≠ 0 := by omega
      rw [digitsAux_step hr hn, digitsAux_step hr hn []]
      have hlt : n / r < n := Nat.div_lt_self (by omega) (by omega)
      rw [ih _ hlt (n % r :: acc), ih _ hlt [n % r]]
      simp

theorem digitsAux_succ {r n : Nat} (hr : 2 ≤ r) (hn : n ≠ 0) :
    digitsAux r n [] = digitsAux r (n / r) [] ++ [n % r] := by
  rw [digitsAux_step hr hn, digitsAux_acc]

theorem ofDigits_nil (r : Nat) : ofDigits r [] = 0 := rfl

theorem ofDigits_append (r : Nat) (a b : List Nat) :
    ofDigits r (a ++ b) = ofDigits r a * r ^ b.length + ofDigits r b := by
  have key : ∀ (b : List Nat) (acc : Nat),
      List.foldl (fun a d => a * r + d) acc b = acc * r ^ b.length + List.foldl (fun a d => a * r + d) 0 b := by
    intro b
    induction b with
    | nil => intro acc; simp
    | cons d b ih =>
      intro acc
      simp only [List.foldl_cons, List.length_cons]
      rw [ih (acc * r + d), ih (0 * r + d)]; ring
  unfold ofDigits
  rw [List.foldl_append, key b]

theorem ofDigits_singleton (r d : Nat) : ofDigits r [d] = d := by simp [ofDigits]

theorem ofDigits_cons (r d : Nat) (ds : List Nat) :
    ofDigits r (d :: ds) = d * r ^ ds.length + ofDigits r ds := by
  have := ofDigits_append r [d] ds
  simpa [ofDigits_singleton] using this

theorem ofDigits_digitsAux {r : Nat} (hr : 2 ≤ r) (n : Nat) : ofDigits r (digitsAux r n []) = n := by
  induction n using Nat.strong_induction_on with
  | _ n ih =>
    by_cases hn : n = 0
    · subst hn; rw [digitsAux_zero]; rfl
    · rw [digitsAux_succ hr hn, ofDigits_append, ih _ (Nat.div_lt_self (by omega) (by omega))]
      simp [ofDigits_singleton]
      have := Nat.div_add_mod n r
      rw [Nat.mul_comm] at this; exact this

theorem ofDigits_digits {r : Nat} (hr : 2 ≤ r) (n : Nat) : ofDigits r (digits r n) = n := by
  unfold digits
  by_cases hn : n = 0
  · simp [hn, ofDigits]
  · simp [hn, ofDigits_digitsAux hr]

theorem digitsAux_lt {r : Nat} (hr : 2 ≤ r) (n : Nat) : ∀ d ∈ digitsAux r n [], d < r := by
  induction n using Nat.strong_induction_on with
  | _ n ih =>
    by_cases hn : n = 0
    · subst hn; rw [digitsAux_zero]; simp
    · rw [digitsAux_succ hr hn]
      intro d hd
      rcases List.mem_append.mp hd with h | h
      · exact ih _ (Nat.div_lt_self (by omega) (by omega)) d h
      · simp at h; subst h; exact Nat.mod_lt _ (by omega)

theorem digits_lt {r : Nat} (hr : 2 ≤ r) (n : Nat) : ∀ d ∈ digits r n, d < r := by
  unfold digits
  by_cases hn : n = 0
  · simp [hn]; omega
  · simp only [hn, if_false]; exact digitsAux_lt hr n

theorem digitsAux_ne_nil {r n : Nat} (hr : 2 ≤ r) (hn : n ≠ 0) : digitsAux r n [] ≠ [] := by
  rw [digitsAux_succ hr hn]; simp

theorem digits_ne_nil (r n : Nat) (hr : 2 ≤ r) : digits r n ≠ [] := by
  unfold digits
  by_cases hn : n = 0
  · simp [hn]
  · simp only [hn, if_false]; exact digitsAux_ne_nil hr hn

/-- no leading zero (except for the number zero itself) -/
theorem digitsAux_head_ne_zero {r : Nat} (hr : 2 ≤ r) (n : Nat) : (digitsAux r n []).head? ≠ some 0 := by
  induction n using Nat.strong_induction_on with
  | _ n ih =>
    by_cases hn : n = 0
    · subst hn; rw [digitsAux_zero]; simp
    · rw [digitsAux_succ hr hn]
      by_cases hq : n / r = 0
      · rw [hq, digitsAux_zero]
        have hlt : n < r := by
          rcases Nat.lt_or_ge n r with h | h
          · exact h
          · have := Nat.div_pos h (by omega : 0 < r); omega
        simp [Nat.mod_eq_of_lt hlt, hn]
      · have hne := digitsAux_ne_nil hr hq
        have := ih (n / r) (Nat.div_lt_self (Nat.pos_of_ne_zero hn) (by omega : 1 < r))
        cases h : digitsAux r (n / r) [] with
        | nil => exact absurd h hne
        | cons a t => rw [h] at this; simpa using this

-- ---------------------------------------------------------------- fixed width

theorem digitsPadLE_length (r k x : Nat) : (digitsPadLE r k x).length = k := by
  induction k generalizing x with
  | zero => rfl
  | succ k ih => simp [digitsPadLE, ih]

theorem digitsPad_length (r k x : Nat) : (digitsPad r k x).length = k := by
  simp [digitsPad, digitsPadLE_length]

theorem digitsPad_zero (r x : Nat) : digitsPad r 0 x = [] := rfl

theorem digitsPad_succ (r k x : Nat) : digitsPad r (k + 1) x = digitsPad r k (x / r) ++ [x % r] := by
  simp [digitsPad, digitsPadLE]

theorem digitsPadLE_mod (r k x : Nat) : digitsPadLE r k (x % r ^ k) = digitsPadLE r k x := by
  induction k generalizing x with
  | zero => rfl
  | succ k ih =>
    simp only [digitsPadLE]
    have h1 : x % r ^ (k + 1) % r = x % r := by
      apply Nat.mod_mod_of_dvd; exact ⟨r ^ k, by ring⟩
    have h2 : x % r ^ (k + 1) / r = (x / r) % r ^ k := by
      rw [pow_succ, Nat.mul_comm]; exact Nat.mod_mul_right_div_self x r (r ^ k)
    rw [h1, h2, ih]

theorem digitsPad_mod (r k x : Nat) : digitsPad r k (x % r ^ k) = digitsPad r k x := by
  simp [digitsPad, digitsPadLE_mod]

theorem digitsPad_add (r a b x : Nat) :
    digitsPad r (a + b) x = digitsPad r a (x / r ^ b) ++ digitsPad r b x := by
  induction b generalizing x with
  | zero => simp [digitsPad_zero]
  | succ b ih =>
    rw [← Nat.add_assoc, digitsPad_succ, digitsPad_succ, ih, List.append_assoc]
    congr 2
    rw [Nat.div_div_eq_div_mul, pow_succ, Nat.mul_comm]

theorem digitsPad_add' (r a b x : Nat) :
    digitsPad r (a + b) x = digitsPad r a (x / r ^ b) ++ digitsPad r b (x % r ^ b) := by
  rw [digitsPad_mod]; exact digitsPad_add r a b x

theorem digitsAux_mul_add {r : Nat} (hr : 2 ≤ r) (k q t : Nat) (hq : q ≠ 0) (ht : t < r ^ k) :
    digitsAux r (q * r ^ k + t) [] = digitsAux r q [] ++ digitsPad r k t := by
  induction k generalizing t with
  | zero => simp at ht; subst ht; simp [digitsPad_zero]
  | succ k ih =>
    have hrp : 0 < r := by omega
    have hn : q * r ^ (k + 1) + t ≠ 0 := by
      have : 0 < q * r ^ (k + 1) := Nat.mul_pos (Nat.pos_of_ne_zero hq) (Nat.pow_pos hrp)
      omega
    rw [digitsAux_succ hr hn, digitsPad_succ]
    have h1 : (q * r ^ (k + 1) + t) % r = t % r := by
      rw [pow_succ, ← Nat.mul_assoc, Nat.add_comm, Nat.add_mul_mod_self_right]
    have h2 : (q * r ^ (k + 1) + t) / r = q * r ^ k + t / r := by
      rw [pow_succ, ← Nat.mul_assoc, Nat.add_comm, Nat.add_mul_div_right _ _ hrp, Nat.add_comm]
    have ht' : t / r < r ^ k := by
      rw [Nat.div_lt_iff_lt_mul hrp]; rw [pow_succ] at ht; exact ht
    rw [h1, h2, ih (t / r) ht', List.append_assoc]

theorem digitsAux_div_mod {r : Nat} (hr : 2 ≤ r) (k x : Nat) (hq : x / r ^ k ≠ 0) :
    digitsAux r x [] = digitsAux r (x / r ^ k) [] ++ digitsPad r k (x % r ^ k) := by
  have hp : 0 < r ^ k := Nat.pow_pos (by omega)
  have := digitsAux_mul_add hr k (x / r ^ k) (x % r ^ k) hq (Nat.mod_lt _ hp)
  rw [← this]; congr 1
  have := Nat.div_add_mod x (r ^ k); rw [Nat.mul_comm] at this; omega

theorem digitsAux_pad {r : Nat} (hr : 2 ≤ r) (k x : Nat) :
    digitsAux r (x / r ^ k) [] ++ digitsPad r k x =
      if x / r ^ k = 0 then digitsPad r k x else digitsAux r x [] := by
  by_cases hq : x / r ^ k = 0
  · simp [hq, digitsAux_zero]
  · simp only [hq, if_false]
    rw [digitsAux_div_mod hr k x hq, digitsPad_mod]

theorem digits_of_ne_zero {r n : Nat} (hn : n ≠ 0) : digits r n = digitsAux r n [] := by
  simp [digits, hn]

theorem digits_eq_digitsPad {r : Nat} (hr : 2 ≤ r) (k n : Nat) (hk : 1 ≤ k)
    (hlo : n = 0 ∧ k = 1 ∨ r ^ (k - 1) ≤ n) (hhi : n < r ^ k) : digits r n = digitsPad r k n := by
  rcases hlo with ⟨h0, h1⟩ | hlo
  · subst h0; subst h1; simp [digits, digitsPad, digitsPadLE]
  · obtain ⟨j, rfl⟩ : ∃ j, k = j + 1 := ⟨k - 1, by omega⟩
    simp only [Nat.add_sub_cancel] at hlo
    have hp : 0 < r ^ j := Nat.pow_pos (by omega)
    have hn : n ≠ 0 := by omega
    have hq : n / r ^ j ≠ 0 := by
      have := (Nat.le_div_iff_mul_le hp).mpr (by simpa using hlo : 1 * r ^ j ≤ n)
      omega
    have hq2 : n / r ^ j < r := by
      rw [Nat.div_lt_iff_lt_mul hp, Nat.mul_comm, ← pow_succ]; exact hhi
    rw [digits_of_ne_zero hn, digitsAux_div_mod hr j n hq, Nat.add_comm j 1, digitsPad_add' r 1 j n]
    congr 1
    rw [digitsAux_succ hr hq]
    have : n / r ^ j / r = 0 := Nat.div_eq_of_lt hq2
    rw [this, digitsAux_zero, digitsPad_succ, digitsPad_zero]

theorem ofDigits_digitsPad {r : Nat} (k x : Nat) : ofDigits r (digitsPad r k x) = x % r ^ k := by
  induction k generalizing x with
  | zero => simp [digitsPad_zero, ofDigits, Nat.mod_one]
  | succ k ih =>
    rw [digitsPad_succ, ofDigits_append, ih, ofDigits_singleton]
    simp only [List.length_cons, List.length_nil]
    have : x % r ^ (k + 1) = x % r + r * (x / r % r ^ k) := by
      rw [pow_succ, Nat.mul_comm (r ^ k) r]; exact Nat.mod_mul
    rw [this]; ring

theorem digitsPadLE_eq_range (r k x : Nat) :
    digitsPadLE r k x = (List.range k).map (fun i => x / r ^ i % r) := by
  induction k generalizing x with
  | zero => rfl
  | succ k ih =>
    rw [digitsPadLE, ih, List.range_succ_eq_map, List.map_cons, List.map_map]
    simp only [pow_zero, Nat.div_one]
    congr 1
    apply List.map_congr_left
    intro i _
    simp only [Function.comp]
    rw [Nat.div_div_eq_div_mul, pow_succ, Nat.mul_comm]

theorem digitsPadLE_succ (r k x : Nat) : digitsPadLE r (k + 1) x = x % r :: digitsPadLE r k (x / r) := rfl

theorem digitsPadLE_add (r a b x : Nat) :
    digitsPadLE r (a + b) x = digitsPadLE r a x ++ digitsPadLE r b (x / r ^ a) := by
  induction a generalizing x with
  | zero => simp [digitsPadLE]
  | succ a ih =>
    rw [Nat.add_right_comm, digitsPadLE_succ, digitsPadLE_succ, ih, List.cons_append]
    congr 2
    rw [Nat.div_div_eq_div_mul, pow_succ, Nat.mul_comm]

theorem digitsPadLE_snoc (r m x : Nat) : digitsPadLE r (m + 1) x = digitsPadLE r m x ++ [x / r ^ m % r] := by
  rw [digitsPadLE_add r m 1 x]; rfl

theorem digitsPadLE_lt (r k x : Nat) (hr : 0 < r) : ∀ b ∈ digitsPadLE r k x, b < r := by
  intro b hb
  rw [digitsPadLE_eq_range] at hb
  obtain ⟨i, _, rfl⟩ := List.mem_map.mp hb
  exact Nat.mod_lt _ hr

-- ---------------------------------------------------------------- little-endian value

theorem ofDigitsLE_append (r : Nat) (a b : List Nat) :
    ofDigitsLE r (a ++ b) = ofDigitsLE r a + r ^ a.length * ofDigitsLE r b := by
  induction a with
  | nil => simp [ofDigitsLE]
  | cons x xs ih => simp only [List.cons_append, ofDigitsLE, ih, List.length_cons, pow_succ]; ring

theorem ofDigitsLE_reverse (r : Nat) (ds : List Nat) : ofDigitsLE r ds.reverse = ofDigits r ds := by
  induction ds with
  | nil => rfl
  | cons d ds ih =>
    rw [ofDigits_cons, List.reverse_cons, ofDigitsLE_append, ih, List.length_reverse]
    simp [ofDigitsLE]; ring

theorem ofDigitsLE_digitsPadLE (r k x : Nat) : ofDigitsLE r (digitsPadLE r k x) = x % r ^ k := by
  have := ofDigits_digitsPad (r := r) k x
  rw [digitsPad, ← ofDigitsLE_reverse, List.reverse_reverse] at this
  exact this

theorem ofDigitsLE_lt (r : Nat) (l : List Nat) (h : ∀ d ∈ l, d < r) : ofDigitsLE r l < r ^ l.length := by
  induction l with
  | nil => simp [ofDigitsLE]
  | cons a l ih =>
    have ha := h a (by simp)
    have := ih (fun d hd => h d (by simp [hd]))
    rw [ofDigitsLE, List.length_cons, pow_succ]
    calc a + r * ofDigitsLE r l < r + r * ofDigitsLE r l := by omega
      _ = r * (ofDigitsLE r l + 1) := by ring
      _ ≤ r * r ^ l.length := Nat.mul_le_mul_left _ this
      _ = r ^ l.length * r := Nat.mul_comm _ _

theorem ofDigitsLE_take_add_drop (r k : Nat) (l : List Nat) :
    ofDigitsLE r l = ofDigitsLE r (l.take k) + r ^ min k l.length * ofDigitsLE r (l.drop k) := by
  conv_lhs => rw [← List.take_append_drop k l, ofDigitsLE_append, List.length_take]

theorem ofDigitsLE_replicate_zero (r k : Nat) : ofDigitsLE r (List.replicate k 0) = 0 := by
  induction k with
  | zero => rfl
  | succ k ih => simp [List.replicate_succ, ofDigitsLE, ih]

theorem ofDigitsLE_replicate (r k d : Nat) (hd : d + 1 = r) : ofDigitsLE r (List.replicate k d) = r ^ k - 1 := by
  induction k with
  | zero => rfl
  | succ k ih =>
    rw [List.replicate_succ, ofDigitsLE, ih, pow_succ]
    have hp : 1 ≤ r ^ k := Nat.pow_pos (by omega)
    have : r * (r ^ k - 1) = r ^ k * r - r := by rw [Nat.mul_sub, Nat.mul_one, Nat.mul_comm]
    have h2 : r ≤ r ^ k * r := Nat.le_mul_of_pos_left _ hp
    omega

theorem ofDigitsLE_ge_top (r : Nat) (l : List Nat) (top : Nat) (h : l.getLast? = some top) :
    top * r ^ (l.length - 1) ≤ ofDigitsLE r l ∧ 1 ≤ l.length := by
  induction l with
  | nil => simp at h
  | cons a l ih =>
    cases l with
    | nil => simp at h; subst h; simp [ofDigitsLE]
    | cons b t =>
      obtain ⟨h1, _⟩ := ih (by simpa [List.getLast?_cons_cons] using h)
      refine ⟨?_, by simp⟩
      rw [ofDigitsLE]
      simp only [List.length_cons, Nat.add_sub_cancel] at h1 ⊢
      calc top * r ^ (t.length + 1) = r * (top * r ^ t.length) := by rw [pow_succ]; ring
        _ ≤ r * ofDigitsLE r (b :: t) := Nat.mul_le_mul_left _ h1
        _ ≤ a + r * ofDigitsLE r (b :: t) := Nat.le_add_left _ _

theorem digitsPadLE_ofDigitsLE (r : Nat) (l : List Nat) (h : ∀ d ∈ l, d < r) :
    digitsPadLE r l.length (ofDigitsLE r l) = l := by
  induction l with
  | nil => rfl
  | cons a l ih =>
    have ha := h a (by simp)
    rw [List.length_cons, digitsPadLE_succ, ofDigitsLE, Nat.add_mul_mod_self_left, Nat.mod_eq_of_lt ha,
      Nat.add_mul_div_left _ _ (by omega), Nat.div_eq_of_lt ha, Nat.zero_add, ih (fun d hd => h d (by simp [hd]))]

theorem ofDigitsLE_inj (r : Nat) (a b : List Nat) (hl : a.length = b.length)
    (ha : ∀ d ∈ a, d < r) (hb : ∀ d ∈ b, d < r) (h : ofDigitsLE r a = ofDigitsLE r b) : a = b := by
  rw [← digitsPadLE_ofDigitsLE r a ha, ← digitsPadLE_ofDigitsLE r b hb, hl, h]

-- ---------------------------------------------------------------- digit counts, trailing zeros, decimal text

theorem digitsAux_length_le {r : Nat} (hr : 2 ≤ r) (k n : Nat) (h : n < r ^ k) : (digitsAux r n []).length ≤ k := by
  induction k generalizing n with
  | zero => have : n = 0 := by simpa using h
            subst this; rw [digitsAux_zero]; simp
  | succ k ih =>
    by_cases hn : n = 0
    · subst hn; rw [digitsAux_zero]; simp
    · rw [digitsAux_succ hr hn, List.length_append]
      have : n / r < r ^ k := by rw [Nat.div_lt_iff_lt_mul (by omega)]; rw [pow_succ] at h; exact h
      have := ih _ this
      simp; omega

theorem digits_length_le {r : Nat} (hr : 2 ≤ r) (k n : Nat) (hk : 1 ≤ k) (h : n < r ^ k) : (digits r n).length ≤ k := by
  unfold digits
  by_cases h0 : n = 0
  · simp [h0]; omega
  · simp only [h0, if_false]; exact digitsAux_length_le hr k n h

/-- a number of at least `r^k` has more than `k` digits: the digits evaluate to it and stay below `r^length` -/
theorem lt_digits_length {r : Nat} (hr : 2 ≤ r) (k n : Nat) (h : r ^ k ≤ n) : k < (digits r n).length := by
  have hlt := ofDigitsLE_lt r (digits r n).reverse (fun d hd => digits_lt hr n d (List.mem_reverse.mp hd))
  rw [ofDigitsLE_reverse, ofDigits_digits hr, List.length_reverse] at hlt
  exact (Nat.pow_lt_pow_iff_right (by omega)).mp (Nat.lt_of_le_of_lt h hlt)

theorem digitsAux_mul_pow {r : Nat} (hr : 2 ≤ r) (n : Nat) (hn : n ≠ 0) (t : Nat) :
    digitsAux r (n * r ^ t) [] = digitsAux r n [] ++ List.replicate t 0 := by
  induction t with
  | zero => simp
  | succ t ih =>
    have hne : n * r ^ (t + 1) ≠ 0 := by
      have : 0 < r ^ (t + 1) := Nat.pow_pos (by omega)
      exact Nat.mul_ne_zero hn (by omega)
    rw [digitsAux_succ hr hne]
    have e1 : n * r ^ (t + 1) / r = n * r ^ t := by
      rw [pow_succ, ← Nat.mul_assoc]; exact Nat.mul_div_cancel _ (by omega)
    have e2 : n * r ^ (t + 1) % r = 0 := by
      rw [pow_succ, ← Nat.mul_assoc]; exact Nat.mul_mod_left _ _
    rw [e1, e2, ih, List.append_assoc, ← List.replicate_succ']

theorem printSpec_mul_pow (B : Nat) (hB : 2 ≤ B) (n : Nat) (hn : n ≠ 0) (t : Nat) :
    printSpec B false (n * B ^ t) = printSpec B false n ++ List.replicate t 48 := by
  have hne : n * B ^ t ≠ 0 := by
    have : 0 < B ^ t := Nat.pow_pos (by omega)
    exact Nat.mul_ne_zero hn (by omega)
  unfold printSpec digits
  simp only [hne, hn, if_false]
  rw [digitsAux_mul_pow hB n hn t, List.map_append]
  congr 1
  simp [digitChar]

theorem printSpec10_chars (n : Nat) : ∀ c ∈ printSpec 10 false n, 48 ≤ c ∧ c ≤ 57 := by
  intro c hc
  unfold printSpec at hc
  obtain ⟨d, hd, rfl⟩ := List.mem_map.mp hc
  have := digits_lt (by omega : 2 ≤ 10) n d hd
  unfold digitChar; simp [this]; omega

theorem ofDigits10_printSpec (n : Nat) : ofDigits 10 ((printSpec 10 false n).map (· - 48)) = n := by
  unfold printSpec
  rw [List.map_map]
  have : (digits 10 n).map ((· - 48) ∘ digitChar false) = digits 10 n := by
    conv_rhs => rw [← List.map_id (digits 10 n)]
    apply List.map_congr_left
    intro d hd
    have := digits_lt (by omega : 2 ≤ 10) n d hd
    simp [digitChar, this]
  rw [this, ofDigits_digits (by omega)]

theorem printSpec_ne_nil (r : Nat) (up : Bool) (n : Nat) (hr : 2 ≤ r) : printSpec r up n ≠ [] := by
  unfold printSpec
  intro h
  exact digits_ne_nil r n hr (List.map_eq_nil_iff.mp h)

end Dashu.Model.Text
