import Dashu.Model.Text.Float
import Dashu.Proofs.Float.ReprRound
/-
  C08 — base conversion, what `ConvDiv.convertBase_contract` and `Proofs/Serde/WithBase` start from: `ilog_exact`
  answers `k ≠ 0` only for `n = base^k`; the value identities by which the branches of `Context::convert_base` for
  power-related bases and for a small exponent `≥ 0` write the exact value in the new base; `repr_round(Repr::new(s, e))`
  meets the rounding contract of C03 (`round_new_contract`); the documented precision of `with_base`.
-/
namespace Dashu.Model.Text
open Dashu.Model.Float

-- ---------------------------------------------------------------- ilog_exact

theorem ilogExact_go_spec (n base : Nat) : ∀ (fuel pow exp k : Nat), pow = base ^ exp →
    ilogExact.go n base fuel pow exp = k → k ≠ 0 → n = base ^ k := by
  intro fuel
  induction fuel with
  | zero => intro pow exp k _ h hk; simp [ilogExact.go] at h; omega
  | succ fuel ih =>
    intro pow exp k hp h hk
    simp only [ilogExact.go] at h
    by_cases h1 : pow < n
    · simp only [h1, if_true] at h
      exact ih (pow * base) (exp + 1) k (by rw [hp, pow_succ]) h hk
    · simp only [h1, if_false] at h
      by_cases h2 : pow = n
      · simp only [h2, if_true] at h
        rw [← h, ← hp, h2]
      · simp only [h2, if_false] at h; omega

/-- `ilog_exact(n, base) = k ≠ 0` only if `n = base^k` -/
theorem ilogExact_spec (n base k : Nat) (h : ilogExact n base = k) (hk : k ≠ 0) : n = base ^ k := by
  unfold ilogExact at h
  split at h
  · omega
  · exact ilogExact_go_spec n base 64 base 1 k (by simp) h hk

-- ---------------------------------------------------------------- values

theorem bpowQ_pow (B n : Nat) (e : Int) : bpowQ (B ^ n) e = bpowQ B ((n : Int) * e) := by
  rw [bpowQ_eq_zpow, bpowQ_eq_zpow]
  push_cast
  rw [← zpow_natCast, ← zpow_mul]

theorem value_pow_up (B n : Nat) (hB : 0 < B) (hn : 0 < n) (s e : Int) :
    ((s * ((B ^ (e % (n : Int)).toNat : Nat) : Int) : Int) : ℚ) * bpowQ (B ^ n) (e / (n : Int)) =
      (s : ℚ) * bpowQ B e := by
  have hn' : (n : Int) ≠ 0 := by omega
  have hrem : 0 ≤ e % (n : Int) := Int.emod_nonneg e hn'
  rw [bpowQ_pow]
  have he : e = (n : Int) * (e / (n : Int)) + e % (n : Int) := (Int.mul_ediv_add_emod e n).symm
  conv_rhs => rw [he, bpowQ_add B hB]
  have : bpowQ B (e % (n : Int)) = ((B ^ (e % (n : Int)).toNat : Nat) : ℚ) := by
    conv_lhs => rw [← Int.toNat_of_nonneg hrem]
    exact bpowQ_nat B _
  rw [this]; push_cast; ring

theorem value_pow_down (NB n : Nat) (s e : Int) :
    (s : ℚ) * bpowQ NB (e * (n : Int)) = (s : ℚ) * bpowQ (NB ^ n) e := by
  rw [bpowQ_pow, Int.mul_comm]

theorem value_small_pos (B NB : Nat) (s : Int) (k : Nat) :
    ((s * ((B ^ k : Nat) : Int) : Int) : ℚ) * bpowQ NB 0 = (s : ℚ) * bpowQ B (k : Int) := by
  rw [bpowQ_nat]; simp [bpowQ]

/-- rounding the exact value: contract of C03 for `repr_round(Repr::new(s, e))` -/
theorem round_new_contract (NB : Nat) (hN : 2 ≤ NB) (m : Mode) (p : Nat) (hp : 1 ≤ p) (s e : Int) :
    Contract NB m p ((s : ℚ) * bpowQ NB e)
      ((reprRound NB m coarseNone p (FRepr.new NB s e)).1.toRat NB)
      (reprRound NB m coarseNone p (FRepr.new NB s e)).2 := by
  have h := reprRound_contract NB hN m coarseNone coarseNone_sound p hp (FRepr.new NB s e)
    (FRepr.new_normalized NB hN s e)
  rw [FRepr.new_value NB (by omega)] at h
  exact h

-- ---------------------------------------------------------------- with_base precision

theorem withBasePrecisionSpec_go (NewB target : Nat) (hN : 2 ≤ NewB) :
    ∀ (fuel q pw : Nat), pw = NewB ^ q → pw ≤ target → target < pw * 2 ^ fuel →
      NewB ^ (withBasePrecisionSpec.go NewB target fuel q pw) ≤ target ∧
      target < NewB ^ (withBasePrecisionSpec.go NewB target fuel q pw + 1) := by
  intro fuel
  induction fuel with
  | zero =>
    intro q pw hpw hle hlt
    simp only [withBasePrecisionSpec.go]
    simp at hlt; omega
  | succ fuel ih =>
    intro q pw hpw hle hlt
    simp only [withBasePrecisionSpec.go]
    by_cases h : pw * NewB ≤ target
    · simp only [h, if_true]
      apply ih (q + 1) (pw * NewB) (by rw [hpw, pow_succ]) h
      calc target < pw * 2 ^ (fuel + 1) := hlt
        _ = pw * 2 * 2 ^ fuel := by rw [pow_succ]; ring
        _ ≤ pw * NewB * 2 ^ fuel := Nat.mul_le_mul_right _ (Nat.mul_le_mul_left _ hN)
    · simp only [h, if_false]
      refine ⟨by rw [← hpw]; exact hle, ?_⟩
      rw [pow_succ, ← hpw]; omega

/-- the documented precision of `with_base`: the max `q` with `NewB^q ≤ B^p` -/
theorem withBasePrecisionSpec_max (B NewB p : Nat) (hB : 1 ≤ B) (hN : 2 ≤ NewB) :
    NewB ^ withBasePrecisionSpec B NewB p ≤ B ^ p ∧ B ^ p < NewB ^ (withBasePrecisionSpec B NewB p + 1) := by
  unfold withBasePrecisionSpec
  have h2 : ¬ NewB < 2 := by omega
  simp only [h2, if_false]
  have hpos : 0 < B ^ p := Nat.pow_pos hB
  apply withBasePrecisionSpec_go NewB (B ^ p) hN _ 0 1 (by simp) hpos
  rw [Nat.one_mul]
  exact Nat.lt_log2_self

end Dashu.Model.Text
