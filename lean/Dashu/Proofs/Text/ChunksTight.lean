import Dashu.Model.Text.ChunksBuf
import Dashu.Proofs.Text.ChunksBuf
/-
  `chunks_to_words` on a result buffer sized in WORDS from the bit offset of the last chunk
  (`max_len + ceil((len − 1)·chunk_bits / WORD_BITS) + 1`, proposed fix
  `c07-from-chunks-result-len-words`): the loop of the code has room for every chunk, loses no carry
  and computes `Σ chunkᵢ · 2^(i·k)`.  The loop theorem has the buffer length as a parameter; the
  current sizing (`max_len + (len − 1)·chunk_bits + 1`, `fromChunksW_eq`) is an instance too.
-/
namespace Dashu.Model.Text
open Dashu.Model (val IsWords addInPlace addInPlace_spec val_append val_lt)
open Dashu.Model.Div (shlInPlace shlInPlace_spec)

theorem carry_eq_zero {V P c X : Nat} (h : V + P * c = X) (hX : X < P) : c = 0 := by
  rcases Nat.eq_zero_or_pos c with h0 | h0
  · exact h0
  · have : P ≤ P * c := Nat.le_mul_of_pos_right _ h0
    omega

/-- the running total after one more chunk -/
theorem total_bound {a b E k : Nat} (hk : 1 ≤ k) (ha : a * 2 ^ k < 2 ^ (E + 1)) (hb : b < 2 ^ E) :
    (a + b) * 2 ^ k < 2 ^ (E + k + 1) := by
  have h1 : b * 2 ^ k < 2 ^ (E + k) := by
    rw [pow_add]; exact Nat.mul_lt_mul_of_pos_right hb (Nat.pow_pos (by omega))
  have h2 : 2 ^ (E + 1) ≤ 2 ^ (E + k) := Nat.pow_le_pow_right (by omega) (by omega)
  rw [Nat.add_mul, pow_succ]; omega

/-- the shift-and-add loop of `chunks_to_words` on a result buffer of ANY length `R` that has room for the last chunk
    (`hR1`, words) and for the total (`hR2`, bits): the result buffer is never too short, no carry is lost, and its value grows
    by `Σ chunk_j · 2^((i+j)·k)` -/
theorem chunksToWords_spec_len (W k : Nat) (hW : 1 ≤ W) (hk : 1 ≤ k) (maxLen cnt R : Nat)
    (hR1 : (cnt - 1) * k / W + maxLen + 1 ≤ R) (hR2 : W * maxLen + (cnt - 1) * k + 1 ≤ W * R) :
    ∀ (cs : List (List Nat)) (i : Nat) (out : List Nat),
      (∀ c ∈ cs, IsWords W c ∧ c.length ≤ maxLen) → IsWords W out →
      out.length = R → i + cs.length = cnt →
      val W out * 2 ^ k < 2 ^ (W * maxLen + i * k + 1) →
      val W (chunksToWords W k i cs out) = val W out + 2 ^ (i * k) * ofChunksSpec k (cs.map (val W)) := by
  intro cs
  induction cs with
  | nil => intro i out _ _ _ _ _; simp [chunksToWords, ofChunksSpec]
  | cons c cs ih =>
    intro i out hcs hout hlen hcnt hbound
    obtain ⟨hcw, hcl⟩ := hcs c (by simp)
    simp only [List.length_cons] at hcnt
    simp only [chunksToWords, List.map_cons, ofChunksSpec]
    have hsW : (i * k) % W < W := Nat.mod_lt _ (by omega)
    have hposle : (i * k) / W ≤ (cnt - 1) * k / W :=
      Nat.div_le_div_right (Nat.mul_le_mul_right _ (by omega))
    have hshift : 2 ^ (W * ((i * k) / W)) * 2 ^ ((i * k) % W) = 2 ^ (i * k) := by
      rw [← pow_add, Nat.div_add_mod]
    generalize (i * k) / W = pos at *
    generalize (i * k) % W = s at *
    -- the shifted chunk: nothing leaves the scratch buffer `c ++ [0]`
    obtain ⟨b1, b2, b3, _⟩ := shlInPlace_spec W s (by omega) (c ++ [0]) (isWords_snoc_zero W c hcw)
    have hclt := val_lt W c hcw
    have hvc : val W (c ++ [0]) = val W c := by rw [val_append]; simp [val]
    simp only [List.length_append, List.length_cons, List.length_nil, hvc] at b1 b2
    have hcarry := carry_eq_zero b1 (by
      rw [Nat.mul_succ, pow_add]
      exact Nat.mul_lt_mul'' hclt (Nat.pow_lt_pow_right (by omega) hsW))
    rw [hcarry, Nat.mul_zero, Nat.add_zero] at b1
    generalize (shlInPlace W (c ++ [0]) s).1 = b at *
    -- the new total `T = val out + val c · 2^(i·k)` and its bound
    have hcik : val W c * 2 ^ (i * k) < 2 ^ (W * maxLen + i * k) := by
      rw [pow_add]
      exact Nat.mul_lt_mul_of_pos_right
        (Nat.lt_of_lt_of_le hclt (Nat.pow_le_pow_right (by omega) (Nat.mul_le_mul_left _ hcl)))
        (Nat.pow_pos (by omega))
    have hS : (val W out + val W c * 2 ^ (i * k)) * 2 ^ k < 2 ^ (W * maxLen + (i + 1) * k + 1) := by
      rw [Nat.succ_mul, ← Nat.add_assoc]; exact total_bound hk hbound hcik
    -- room in the result buffer for the chunk (words) and for the total (bits)
    have hroom : b.length ≤ (out.drop pos).length := by rw [List.length_drop, b2, hlen]; omega
    obtain ⟨a1, a2, a3, _⟩ := addInPlace_spec W (out.drop pos) b (hout.drop pos) b3 hroom
    have htl : (out.take pos).length = pos := by rw [List.length_take, hlen]; omega
    have hsplit : val W out = val W (out.take pos) + 2 ^ (W * pos) * val W (out.drop pos) := by
      conv_lhs => rw [← List.take_append_drop pos out, val_append, htl]
    have hT : 2 ^ (W * pos) * (val W (out.drop pos) + val W b) ≤ val W out + val W c * 2 ^ (i * k) := by
      rw [Nat.mul_add, b1, ← Nat.mul_assoc, Nat.mul_comm (2 ^ (W * pos)) (val W c), Nat.mul_assoc, hshift, hsplit]
      omega
    have hfit : val W out + val W c * 2 ^ (i * k) < 2 ^ (W * pos) * 2 ^ (W * (out.drop pos).length) := by
      rw [← pow_add, ← Nat.mul_add, List.length_drop, hlen, Nat.add_sub_cancel' (by omega : pos ≤ R)]
      refine Nat.lt_of_mul_lt_mul_right (a := 2 ^ k) (Nat.lt_of_lt_of_le hS ?_)
      rw [← pow_add]
      refine Nat.pow_le_pow_right (by omega) ?_
      have : (i + 1) * k ≤ (cnt - 1) * k + k := by
        rw [← Nat.succ_mul]; exact Nat.mul_le_mul_right _ (by omega)
      omega
    have hc2 := carry_eq_zero a1 (Nat.lt_of_mul_lt_mul_left (Nat.lt_of_le_of_lt hT hfit))
    rw [hc2, Nat.mul_zero, Nat.add_zero] at a1
    generalize (addInPlace W (out.drop pos) b).1 = r at *
    have hvnew : val W (out.take pos ++ r) = val W out + val W c * 2 ^ (i * k) := by
      rw [val_append, htl, a1, hsplit, Nat.mul_add, b1, ← Nat.mul_assoc, Nat.mul_comm (2 ^ (W * pos)) (val W c),
        Nat.mul_assoc, hshift, Nat.add_assoc]
    rw [ih (i + 1) (out.take pos ++ r) (fun x hx => hcs x (by simp [hx])) ((hout.take pos).append a3)
      (by rw [List.length_append, htl, a2, List.length_drop, hlen]; omega) (by omega)
      (by rw [hvnew]; exact hS), hvnew]
    rw [Nat.succ_mul, pow_add]; ring

theorem le_foldl_max (l : List Nat) (a : Nat) : a ≤ l.foldl max a := by
  induction l generalizing a with
  | nil => exact Nat.le_refl _
  | cons z l ih => exact Nat.le_trans (Nat.le_max_left a z) (ih _)

theorem foldl_max_ge (l : List Nat) (a : Nat) : ∀ x ∈ l, x ≤ l.foldl max a := by
  induction l generalizing a with
  | nil => intro x hx; cases hx
  | cons y l ih =>
    intro x hx
    rcases List.mem_cons.mp hx with rfl | h
    · exact Nat.le_trans (Nat.le_max_right a x) (le_foldl_max l _)
    · exact ih _ x h

/-- the loop started on `R` zero words, `R` with room for the longest chunk at the last offset -/
theorem chunksToWords_zeros (W k : Nat) (hW : 1 ≤ W) (hk : 1 ≤ k) (chunks : List (List Nat))
    (hc : ∀ c ∈ chunks, IsWords W c) (R : Nat)
    (hR1 : (chunks.length - 1) * k / W + (chunks.map List.length).foldl max 0 + 1 ≤ R)
    (hR2 : W * (chunks.map List.length).foldl max 0 + (chunks.length - 1) * k + 1 ≤ W * R) :
    val W (chunksToWords W k 0 chunks (List.replicate R 0)) = ofChunksSpec k (chunks.map (val W)) := by
  have hz : val W (List.replicate R 0) = 0 := Dashu.Model.val_replicate_zero W R
  rw [chunksToWords_spec_len W k hW hk _ chunks.length R hR1 hR2 chunks 0 (List.replicate R 0)
    (fun c hcm => ⟨hc c hcm, foldl_max_ge _ 0 c.length (List.mem_map.mpr ⟨c, hcm, rfl⟩)⟩)
    (fun x hx => List.eq_of_mem_replicate hx ▸ Nat.pow_pos (by omega))
    List.length_replicate (Nat.zero_add _) (by rw [hz, Nat.zero_mul]; exact Nat.pow_pos (by omega)),
    hz, Nat.zero_mul, pow_zero, Nat.one_mul, Nat.zero_add]

/-- **`from_chunks` with the word-level kernels = `Σ chunkᵢ · 2^(i·k)`**, for word slices of any length
    (result buffer of `max_len + (len − 1)·chunk_bits + 1` words, as the code sizes it) -/
theorem fromChunksW_eq (W k : Nat) (hW : 1 ≤ W) (hk : 1 ≤ k) (chunks : List (List Nat))
    (hc : ∀ c ∈ chunks, IsWords W c) :
    fromChunksW W k chunks = .ok (ofChunksSpec k (chunks.map (val W))) := by
  unfold fromChunksW
  rw [if_neg (by omega)]
  split
  · next hnil => subst hnil; rfl
  · dsimp only
    generalize hX : (chunks.length - 1) * k = X
    have h1 : X / W ≤ X := Nat.div_le_self _ _
    have h2 : X ≤ W * X := Nat.le_mul_of_pos_left _ hW
    rw [chunksToWords_zeros W k hW hk chunks hc _ (by rw [hX]; omega)
      (by rw [hX, Nat.mul_add, Nat.mul_add, Nat.mul_one]; omega)]

/-- on the words of a list of numbers: the chunks handed over as `wordsOf`, as `to_chunks` produces them -/
theorem fromChunksW_wordsOf (W k : Nat) (hW : 1 ≤ W) (hk : 1 ≤ k) (cs : List Nat) :
    fromChunksW W k (cs.map (wordsOf W)) = .ok (ofChunksSpec k cs) := by
  rw [fromChunksW_eq W k hW hk _ (by
    intro c hc
    obtain ⟨x, _, rfl⟩ := List.mem_map.mp hc
    exact isWords_wordsOf W x hW), List.map_map]
  congr 2
  conv_rhs => rw [← List.map_id cs]
  exact List.map_congr_left fun x _ => val_wordsOf W x hW

/-- **`from_chunks` with the result buffer counted in words = `Σ chunkᵢ · 2^(i·k)`**, word slices of any length -/
theorem fromChunksWT_eq (W k : Nat) (hW : 1 ≤ W) (hk : 1 ≤ k) (chunks : List (List Nat))
    (hc : ∀ c ∈ chunks, IsWords W c) :
    fromChunksWT W k chunks = .ok (ofChunksSpec k (chunks.map (val W))) := by
  unfold fromChunksWT
  rw [if_neg (by omega)]
  split
  · next hnil => subst hnil; rfl
  · dsimp only
    generalize hX : (chunks.length - 1) * k = X
    have h1 := div_le_ceilDiv W X hW
    have h2 := le_mul_ceilDiv W X hW
    rw [chunksToWords_zeros W k hW hk chunks hc _ (by rw [hX]; omega)
      (by rw [hX, Nat.mul_add, Nat.mul_add, Nat.mul_one]; omega)]

end Dashu.Model.Text
