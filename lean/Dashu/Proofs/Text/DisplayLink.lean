import Dashu.Proofs.Text.FloatPrec
import Dashu.Proofs.Float.RoundInt
/-
  C08 — link between the executable specification of `Display` with a precision (`displaySpec`:
  `roundInt` of the rational value, the definition of the modes over `Rat` in Model/Float/Spec.lean) and the
  relational specification `ModeSpec` the theorems about the model are stated with: `roundInt m (N / D)` satisfies
  `ModeSpec m N D` (`Proofs/Float/RoundInt.lean`) and `ModeSpec m N D` determines its result (`Proofs/Float/ModeSpec.lean`),
  hence the integer `displaySpec` prints IS the integer `fmt_round` prints (`precRounded`).
-/
namespace Dashu.Model.Text
open Dashu.Model.Float Dashu.Props.GenRound

/-- **the integer the executable specification rounds to IS the integer `fmt_round` prints**:
    `roundInt m (x · B^p) = precRounded B m p r` for the value `x` of `r` — every base, mode, precision -/
theorem roundInt_eq_precRounded (B : Nat) (hB : 2 ≤ B) (m : Mode) (p : Nat) (r : FRepr) :
    roundInt m (ratOfRepr B r * ((B ^ p : Nat) : ℚ)) = precRounded B m p r := by
  have hD : (0 : Int) < ((B ^ (-((p : Int) + r.exp)).toNat : Nat) : Int) := by
    have : 0 < B ^ (-((p : Int) + r.exp)).toNat := Nat.pow_pos (by omega)
    exact_mod_cast this
  have h1 := precRounded_spec B hB m p r
  have h2 := roundInt_modeSpec m (r.signif * ((B ^ ((p : Int) + r.exp).toNat : Nat) : Int))
    ((B ^ (-((p : Int) + r.exp)).toNat : Nat) : Int) hD
  rw [prec_scaled_value B hB p r] at h2
  exact modeSpec_unique m _ _ _ _ hD h2 h1

/-- **`displaySpec` ↔ `ModeSpec`**: with a precision `k` the executable specification of `Display`
    (compared with the model's text on every Display case of the correspondence run) prints the sign
    of the number and the fixed-point text of `|R|` with `k` fractional digits, `R = precRounded` —
    the integer that `ModeSpec m` names for `x · B^k` (`print_precision_rounding`) and whose digits
    the model prints (`print_precision_text`) -/
theorem displaySpec_some (B : Nat) (hB : 2 ≤ B) (m : Mode) (plus : Bool) (k : Nat) (r : FRepr) :
    displaySpec B m plus (some k) r =
      (if r.signif < 0 then [45] else if plus then [43] else []) ++
        fixedPointText B (precRounded B m k r).natAbs k := by
  unfold displaySpec
  simp only
  rw [roundInt_eq_precRounded B hB m k r]

end Dashu.Model.Text
