import Dashu.Proofs.Text.Fmt
import Dashu.Model.Int.Word
/-
  The minimal little-endian base-`2^k` digits of a number and their count.

  The model has three names for one function, `chunksSpec n k` (`to_chunks`), `wordsOf k n` (the words of a
  magnitude) and `leBytesSpec n` (`k = 8`), and three for its length, `ceilDiv (bitLen n) k`, `wordLen k n`
  and `byteLen n`.  Everything the byte, chunk and power-of-two-radix proofs need about them is here:
  the digits are the `wordLen k n` low fixed-width digits (`chunksSpec_eq`), the count is characterised by
  `wordLen_le_iff`, the top digit by `top_digit`.
-/
namespace Dashu.Model.Text

theorem two_pow_mul (log k : Nat) : (2 ^ log) ^ k = 2 ^ (log * k) := (pow_mul 2 log k).symm

theorem two_le_two_pow {W : Nat} (hW : 1 ≤ W) : 2 ≤ 2 ^ W := by
  calc 2 = 2 ^ 1 := rfl
    _ ≤ 2 ^ W := Nat.pow_le_pow_right (by omega) hW

theorem bitLen_pos {n : Nat} (hn : n ≠ 0) : 1 ≤ bitLen n := by simp [bitLen, hn]

theorem pow256 (k : Nat) : (256 : Nat) ^ k = 2 ^ (8 * k) := two_pow_mul 8 k

theorem wordsOf_eq_chunksSpec (W n : Nat) : wordsOf W n = chunksSpec n W := rfl

-- ---------------------------------------------------------------- the digit count

theorem wordLen_le_iff (W : Nat) (hW : 1 ≤ W) (n k : Nat) : wordLen W n ≤ k ↔ n < 2 ^ (W * k) := by
  rw [← bitLen_le_iff]
  unfold wordLen ceilDiv
  by_cases h0 : bitLen n = 0
  · simp [h0]
  · simp only [h0, if_false]
    constructor
    · intro h
      have h1 := Nat.lt_succ_of_le h
      have : (bitLen n - 1) / W < k := by omega
      rw [Nat.div_lt_iff_lt_mul (by omega)] at this
      rw [Nat.mul_comm]; omega
    · intro h
      have : (bitLen n - 1) / W < k := by
        rw [Nat.div_lt_iff_lt_mul (by omega), Nat.mul_comm]; omega
      omega

theorem lt_pow_wordLen (W : Nat) (hW : 1 ≤ W) (n : Nat) : n < 2 ^ (W * wordLen W n) :=
  (wordLen_le_iff W hW n _).mp (Nat.le_refl _)

theorem wordLen_pos (W : Nat) (hW : 1 ≤ W) (n : Nat) (hn : n ≠ 0) : 1 ≤ wordLen W n := by
  by_contra h0
  have : wordLen W n ≤ 0 := by omega
  have := (wordLen_le_iff W hW n 0).mp this
  simp at this; omega

theorem pow_wordLen_le (W : Nat) (hW : 1 ≤ W) (n : Nat) (hn : n ≠ 0) : 2 ^ (W * (wordLen W n - 1)) ≤ n := by
  by_contra h
  have h1 : n < 2 ^ (W * (wordLen W n - 1)) := by omega
  have h2 := (wordLen_le_iff W hW n _).mpr h1
  have h3 := wordLen_pos W hW n hn
  omega

theorem bitLen_div_pow (n s : Nat) : bitLen (n / 2 ^ s) = bitLen n - s := by
  have key : ∀ j, bitLen (n / 2 ^ s) ≤ j ↔ bitLen n - s ≤ j := fun j => by
    rw [bitLen_le_iff, Nat.div_lt_iff_lt_mul (Nat.two_pow_pos s), ← pow_add, ← bitLen_le_iff]; omega
  exact Nat.le_antisymm ((key _).mpr (Nat.le_refl _)) ((key _).mp (Nat.le_refl _))

theorem wordLen_div_pow (W : Nat) (hW : 1 ≤ W) (n j : Nat) : wordLen W (n / 2 ^ (W * j)) = wordLen W n - j := by
  have key : ∀ m, wordLen W (n / 2 ^ (W * j)) ≤ m ↔ wordLen W n - j ≤ m := fun m => by
    rw [wordLen_le_iff W hW, Nat.div_lt_iff_lt_mul (Nat.two_pow_pos _), ← pow_add, ← Nat.mul_add,
      ← wordLen_le_iff W hW]
    omega
  exact Nat.le_antisymm ((key _).mpr (Nat.le_refl _)) ((key _).mp (Nat.le_refl _))

theorem wordLen_mono (W : Nat) (hW : 1 ≤ W) {a b : Nat} (h : a ≤ b) : wordLen W a ≤ wordLen W b :=
  (wordLen_le_iff W hW a _).mpr (Nat.lt_of_le_of_lt h (lt_pow_wordLen W hW b))

-- ---------------------------------------------------------------- the digits

theorem chunksSpec_eq (n k : Nat) (hk : 1 ≤ k) : chunksSpec n k = digitsPadLE (2 ^ k) (wordLen k n) n := by
  unfold chunksSpec
  by_cases hn : n = 0
  · subst hn; simp [digitsAux_zero, wordLen, bitLen, ceilDiv, digitsPadLE]
  · have h := digits_eq_digitsPad (two_le_two_pow hk) (wordLen k n) n (wordLen_pos k hk n hn)
      (Or.inr (by rw [two_pow_mul]; exact pow_wordLen_le k hk n hn)) (by rw [two_pow_mul]; exact lt_pow_wordLen k hk n)
    rw [← digits_of_ne_zero hn, h, digitsPad, List.reverse_reverse]

theorem chunksSpec_length (n k : Nat) (hk : 1 ≤ k) : (chunksSpec n k).length = wordLen k n := by
  rw [chunksSpec_eq n k hk, digitsPadLE_length]

theorem bitLen_le_wordLen (W : Nat) (hW : 1 ≤ W) (n : Nat) : bitLen n ≤ W * wordLen W n :=
  bitLen_le_iff.mpr (lt_pow_wordLen W hW n)

theorem top_digit (n k : Nat) (hk : 1 ≤ k) (hn : n ≠ 0) :
    n / 2 ^ (k * (wordLen k n - 1)) ≠ 0 ∧ n / 2 ^ (k * (wordLen k n - 1)) < 2 ^ k := by
  have hp : 0 < 2 ^ (k * (wordLen k n - 1)) := Nat.two_pow_pos _
  refine ⟨Nat.ne_of_gt ((Nat.le_div_iff_mul_le hp).mpr (by simpa using pow_wordLen_le k hk n hn)), ?_⟩
  have e := Nat.mul_succ k (wordLen k n - 1)
  rw [Nat.succ_eq_add_one, Nat.sub_add_cancel (wordLen_pos k hk n hn)] at e
  rw [Nat.div_lt_iff_lt_mul hp, ← pow_add, Nat.add_comm, ← e]
  exact lt_pow_wordLen k hk n

theorem chunksSpec_snoc (n k : Nat) (hk : 1 ≤ k) (hn : n ≠ 0) :
    chunksSpec n k = digitsPadLE (2 ^ k) (wordLen k n - 1) n ++ [n / 2 ^ (k * (wordLen k n - 1))] := by
  have e : wordLen k n = wordLen k n - 1 + 1 := (Nat.sub_add_cancel (wordLen_pos k hk n hn)).symm
  rw [chunksSpec_eq n k hk]
  conv_lhs => rw [e]
  rw [digitsPadLE_snoc, two_pow_mul, Nat.mod_eq_of_lt (top_digit n k hk hn).2]

theorem wordsOf_length (W n : Nat) (hW : 1 ≤ W) : (wordsOf W n).length = wordLen W n := chunksSpec_length n W hW

theorem wordsOf_getLastD (W n : Nat) (hW : 1 ≤ W) (hn : n ≠ 0) :
    (wordsOf W n).getLastD 0 = n / 2 ^ (W * (wordLen W n - 1)) := by
  rw [wordsOf_eq_chunksSpec, chunksSpec_snoc n W hW hn]; simp

theorem digits_two_pow (log n : Nat) (hlog : 1 ≤ log) :
    digits (2 ^ log) n = digitsPad (2 ^ log) (max (wordLen log n) 1) n := by
  by_cases hn : n = 0
  · subst hn; simp [wordLen, ceilDiv, bitLen, digits, digitsPad, digitsPadLE]
  · rw [Nat.max_eq_left (wordLen_pos log hlog n hn), digitsPad, ← chunksSpec_eq n log hlog, chunksSpec,
      List.reverse_reverse, digits_of_ne_zero hn]

theorem bitLen_top (n k : Nat) (hk : 1 ≤ k) (hn : n ≠ 0) :
    bitLen n = k * (wordLen k n - 1) + bitLen (n / 2 ^ (k * (wordLen k n - 1))) := by
  have h := pow_wordLen_le k hk n hn
  have : k * (wordLen k n - 1) < bitLen n := by
    by_contra hc
    have := bitLen_le_iff.mp (Nat.le_of_not_lt hc); omega
  rw [bitLen_div_pow]; omega

theorem ofChunksSpec_eq (k : Nat) (cs : List Nat) : ofChunksSpec k cs = ofDigitsLE (2 ^ k) cs := by
  induction cs with
  | nil => rfl
  | cons c cs ih => simp [ofChunksSpec, ofDigitsLE, ih]

theorem val_eq_ofDigitsLE (W : Nat) (ws : List Nat) : Dashu.Model.val W ws = ofDigitsLE (2 ^ W) ws := by
  induction ws with
  | nil => rfl
  | cons w ws ih => simp [Dashu.Model.val, ofDigitsLE, ih]

/-- **chunk round trip** for every chunk size `k ≥ 1` (the documented precondition: `k ≠ 0`) -/
theorem ofChunksSpec_chunksSpec (n k : Nat) (hk : 1 ≤ k) : ofChunksSpec k (chunksSpec n k) = n := by
  rw [ofChunksSpec_eq, chunksSpec, ofDigitsLE_reverse]
  exact ofDigits_digitsAux (two_le_two_pow hk) n

theorem chunksSpec_bounds (n k : Nat) (hk : 1 ≤ k) :
    (∀ c ∈ chunksSpec n k, c < 2 ^ k) ∧ (chunksSpec n k).getLast? ≠ some 0 := by
  have h2 := two_le_two_pow hk
  constructor
  · intro c hc
    rw [chunksSpec, List.mem_reverse] at hc
    exact digitsAux_lt h2 n c hc
  · rw [chunksSpec, List.getLast?_reverse]
    exact digitsAux_head_ne_zero h2 n

theorem isWords_wordsOf (W n : Nat) (hW : 1 ≤ W) : Dashu.Model.IsWords W (wordsOf W n) := (chunksSpec_bounds n W hW).1

theorem val_wordsOf (W n : Nat) (hW : 1 ≤ W) : Dashu.Model.val W (wordsOf W n) = n := by
  rw [val_eq_ofDigitsLE, ← ofChunksSpec_eq]; exact ofChunksSpec_chunksSpec n W hW

theorem chunksSpec_zero (k : Nat) : chunksSpec 0 k = [] := by
  simp [chunksSpec, digitsAux_zero]

theorem chunksSpec_ofChunksSpec (k : Nat) (hk : 1 ≤ k) (cs : List Nat) (hlt : ∀ c ∈ cs, c < 2 ^ k)
    (hlast : cs.getLast? ≠ some 0) : chunksSpec (ofChunksSpec k cs) k = cs := by
  have h2 := two_le_two_pow hk
  induction cs with
  | nil => exact chunksSpec_zero k
  | cons c cs ih =>
    have hc : c < 2 ^ k := hlt c (by simp)
    have hdiv : (c + 2 ^ k * ofChunksSpec k cs) / 2 ^ k = ofChunksSpec k cs := by
      rw [Nat.add_mul_div_left _ _ (by omega), Nat.div_eq_of_lt hc, Nat.zero_add]
    have hmod : (c + 2 ^ k * ofChunksSpec k cs) % 2 ^ k = c := by
      rw [Nat.add_mul_mod_self_left, Nat.mod_eq_of_lt hc]
    cases cs with
    | nil =>
      have hc0 : c ≠ 0 := by
        intro h0; apply hlast; simp [h0]
      simp only [ofChunksSpec, Nat.mul_zero, Nat.add_zero, chunksSpec]
      rw [digitsAux_succ h2 hc0, Nat.div_eq_of_lt hc, digitsAux_zero, Nat.mod_eq_of_lt hc]
      rfl
    | cons d t =>
      have ih' := ih (fun x hx => hlt x (by simp [hx])) (by
        intro h; apply hlast; simpa using h)
      have hm : ofChunksSpec k (d :: t) ≠ 0 := by
        intro h0
        rw [h0, chunksSpec_zero] at ih'
        cases ih'
      have hn : c + 2 ^ k * ofChunksSpec k (d :: t) ≠ 0 := by
        intro h0
        have : 2 ^ k * ofChunksSpec k (d :: t) = 0 := by omega
        rcases Nat.mul_eq_zero.mp this with h | h
        · omega
        · exact hm h
      show chunksSpec (c + 2 ^ k * ofChunksSpec k (d :: t)) k = c :: d :: t
      unfold chunksSpec
      rw [digitsAux_succ h2 hn, hdiv, hmod, List.reverse_append]
      simp only [List.reverse_cons, List.reverse_nil, List.nil_append, List.singleton_append]
      congr 1

theorem wordsOf_val (W : Nat) (hW : 1 ≤ W) (ws : List Nat) (h : ∀ w ∈ ws, w < 2 ^ W) (hn : ws.getLast? ≠ some 0) :
    wordsOf W (Dashu.Model.val W ws) = ws := by
  rw [val_eq_ofDigitsLE, ← ofChunksSpec_eq]; exact chunksSpec_ofChunksSpec W hW ws h hn

end Dashu.Model.Text
