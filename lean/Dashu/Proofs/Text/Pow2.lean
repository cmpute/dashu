import Dashu.Proofs.Text.Parse
import Dashu.Proofs.Text.Words
/-
  Power-of-two radices: the printer (`fmt/power_two.rs`, bit slicing across word boundaries on the
  word list) prints `digits (2^log) n`.
-/
namespace Dashu.Model.Text

theorem mod_split (x e b B : Nat) (hB : B < 2 ^ e) :
    (x * 2 ^ e + B) % 2 ^ (b + e) = (x % 2 ^ b) * 2 ^ e + B := by
  have hp : 0 < 2 ^ e := Nat.pow_pos (by omega)
  rw [Nat.add_comm b e, pow_add, Nat.mod_mul, Nat.mul_comm x, Nat.mul_add_mod, Nat.mod_eq_of_lt hB,
    Nat.mul_add_div hp, Nat.div_eq_of_lt hB]
  ring_nf

theorem div_split (x e b B : Nat) (hB : B < 2 ^ e) : (x * 2 ^ e + B) / 2 ^ (b + e) = x / 2 ^ b := by
  have hp : 0 < 2 ^ e := Nat.pow_pos (by omega)
  rw [Nat.add_comm b e, pow_add, ← Nat.div_div_eq_div_mul, Nat.mul_comm x, Nat.mul_add_div hp,
    Nat.div_eq_of_lt hB, Nat.add_zero]

/-- `PreparedWord` / `PreparedDword` of power_two.rs print the reference digits -/
theorem pow2Small_eq (log n : Nat) (hlog : 1 ≤ log) : pow2Small log n = digits (2 ^ log) n := by
  rw [digits_two_pow log n hlog]
  unfold pow2Small digitsPad wordLen
  simp only []
  rw [digitsPadLE_eq_range, ← List.map_reverse]
  apply List.map_congr_left
  intro i _
  rw [Nat.shiftRight_eq_div_pow, two_pow_mul, Nat.mul_comm]

-- ---------------------------------------------------------------- large: the word stream

theorem emitBits_spec (log word : Nat) (hlog : 1 ≤ log) (bits : Nat) :
    emitBits log word bits = (digitsPad (2 ^ log) (bits / log) (word / 2 ^ (bits % log)), bits % log) := by
  induction bits using Nat.strong_induction_on with
  | _ bits ih =>
    by_cases h : log = 0 ∨ bits < log
    · have hlt : bits < log := by omega
      rw [emitBits, dif_pos h, Nat.div_eq_of_lt hlt, Nat.mod_eq_of_lt hlt]; rfl
    · rw [emitBits, dif_neg h]
      have hge : log ≤ bits := by omega
      rw [ih (bits - log) (by omega)]
      have hmod : (bits - log) % log = bits % log := by
        conv => rhs; rw [← Nat.sub_add_cancel hge, Nat.add_mod_right]
      have hdiv : bits / log = (bits - log) / log + 1 := by
        conv => lhs; rw [← Nat.sub_add_cancel hge]
        rw [Nat.add_div_right _ (by omega : 0 < log)]
      simp only [hmod, hdiv]
      rw [Nat.add_comm ((bits - log) / log) 1, digitsPad_add (2 ^ log) 1 ((bits - log) / log)]
      rw [digitsPad_succ, digitsPad_zero, List.nil_append, List.singleton_append]
      congr 2
      rw [Nat.shiftRight_eq_div_pow, two_pow_mul, Nat.div_div_eq_div_mul, ← pow_add]
      congr 3
      have := Nat.div_add_mod (bits - log) log
      omega

/-- value of a most-significant-first word list -/
abbrev valBE (W : Nat) (ws : List Nat) : Nat := ofDigits (2 ^ W) ws

theorem valBE_lt (W : Nat) (ws : List Nat) (h : ∀ w ∈ ws, w < 2 ^ W) : valBE W ws < 2 ^ (W * ws.length) := by
  have := ofDigitsLE_lt (2 ^ W) ws.reverse (fun w hw => h w (List.mem_reverse.mp hw))
  rwa [ofDigitsLE_reverse, List.length_reverse, two_pow_mul] at this

/-- the loop of `PreparedLarge::write` prints the low `bits + W·|rest|` bits of
    `word·2^(W·|rest|) + rest` as fixed-width digits -/
theorem pow2Stream_spec (W log : Nat) (hlog : 1 ≤ log) (hlW : log ≤ W) (rest : List Nat)
    (hrest : ∀ w ∈ rest, w < 2 ^ W) (word bits m : Nat) (hm : bits + W * rest.length = log * m) :
    pow2Stream W log word bits rest =
      digitsPad (2 ^ log) m (word * 2 ^ (W * rest.length) + valBE W rest) := by
  induction rest generalizing word bits m with
  | nil =>
    simp only [pow2Stream, List.length_nil, Nat.mul_zero, Nat.add_zero, pow_zero, Nat.mul_one] at *
    rw [emitBits_spec log word hlog, hm, Nat.mul_mod_right, Nat.mul_div_cancel_left _ (by omega : 0 < log)]
    simp [valBE, ofDigits]
  | cons w rest ih =>
    have hw : w < 2 ^ W := hrest w (by simp)
    have hrest' : ∀ x ∈ rest, x < 2 ^ W := fun x hx => hrest x (by simp [hx])
    simp only [pow2Stream, emitBits_spec log word hlog]
    have hb : bits % log < log := Nat.mod_lt _ (by omega)
    have hdm := Nat.div_add_mod bits log
    generalize hbdef : bits % log = b at *
    generalize hk1 : bits / log = k1 at *
    -- remaining digit count; `e` = extra bits taken from the next word
    obtain ⟨e, he⟩ : ∃ e, log = b + e := ⟨log - b, by omega⟩
    have hbe : log - b = e := by omega
    have he1 : 1 ≤ e := by omega
    have heW : e ≤ W := by omega
    simp only [hbe, List.length_cons]
    simp only [List.length_cons] at hm
    rw [Nat.mul_add, Nat.mul_one] at hm
    have hm' : (W - e) + W * rest.length = log * (m - k1 - 1) := by
      have h1 : log * (m - k1 - 1) = log * m - log * k1 - log := by
        rw [Nat.mul_sub, Nat.mul_sub, Nat.mul_one]
      rw [h1]; omega
    have hmk : m = k1 + 1 + (m - k1 - 1) := by
      have : log * (k1 + 1) ≤ log * m := by rw [Nat.mul_add, Nat.mul_one]; omega
      have := Nat.le_of_mul_le_mul_left this (by omega : 0 < log)
      omega
    rw [ih hrest' w (W - e) (m - k1 - 1) hm']
    have hshape : ∀ (a c : List Nat) (d : Nat), a ++ d :: c = (a ++ [d]) ++ c := by intro a c d; simp
    rw [hshape]
    conv => rhs; rw [hmk, digitsPad_add (2 ^ log) (k1 + 1) (m - k1 - 1)]
    have hWe : 2 ^ W = 2 ^ (W - e) * 2 ^ e := by rw [← pow_add]; congr 1; omega
    -- low parts agree modulo 2^(bits' + W·|rest|)
    have hlow : digitsPad (2 ^ log) (m - k1 - 1) (word * 2 ^ (W * (rest.length + 1)) + valBE W (w :: rest)) =
        digitsPad (2 ^ log) (m - k1 - 1) (w * 2 ^ (W * rest.length) + valBE W rest) := by
      rw [← digitsPad_mod, ← digitsPad_mod (2 ^ log) _ (w * 2 ^ (W * rest.length) + valBE W rest)]
      congr 1
      rw [two_pow_mul, ← hm']
      have e0 : word * 2 ^ (W * (rest.length + 1)) + valBE W (w :: rest) =
          (w * 2 ^ (W * rest.length) + valBE W rest) +
            (word * 2 ^ e) * 2 ^ ((W - e) + W * rest.length) := by
        rw [valBE, ofDigits_cons, two_pow_mul]
        have : 2 ^ (W * (rest.length + 1)) = 2 ^ e * 2 ^ ((W - e) + W * rest.length) := by
          rw [← pow_add]; congr 1; rw [Nat.mul_add, Nat.mul_one]; omega
        rw [this]; ring
      rw [e0, Nat.add_mul_mod_self_right]
    rw [hlow]
    congr 1
    -- the high part: Q = word·2^e + w / 2^bits'
    have hv := valBE_lt W rest hrest'
    have hQ : (word * 2 ^ (W * (rest.length + 1)) + valBE W (w :: rest)) / (2 ^ log) ^ (m - k1 - 1) =
        word * 2 ^ e + w / 2 ^ (W - e) := by
      rw [two_pow_mul, ← hm', valBE, ofDigits_cons, two_pow_mul]
      have hp1 : 0 < 2 ^ (W * rest.length) := Nat.pow_pos (by omega)
      have hp2 : 0 < 2 ^ (W - e) := Nat.pow_pos (by omega)
      rw [Nat.add_comm (W - e) (W * rest.length), pow_add, ← Nat.div_div_eq_div_mul]
      have e1 : word * 2 ^ (W * (rest.length + 1)) + (w * 2 ^ (W * rest.length) + ofDigits (2 ^ W) rest) =
          2 ^ (W * rest.length) * (word * 2 ^ W + w) + ofDigits (2 ^ W) rest := by
        rw [Nat.mul_add W, Nat.mul_one, pow_add]; ring
      rw [e1, Nat.mul_add_div hp1, Nat.div_eq_of_lt hv, Nat.add_zero]
      have e2 : word * 2 ^ W + w = 2 ^ (W - e) * (word * 2 ^ e) + w := by rw [hWe]; ring
      rw [e2, Nat.mul_add_div hp2]
    rw [hQ, digitsPad_succ]
    have hB : w / 2 ^ (W - e) < 2 ^ e := by
      rw [Nat.div_lt_iff_lt_mul (Nat.pow_pos (by omega)), Nat.mul_comm, ← hWe]; exact hw
    subst he
    congr 1
    · -- digits above the straddling one
      congr 1
      rw [div_split _ _ _ _ hB]
    · -- the straddling digit
      congr 1
      have hsh : (word <<< e) % 2 ^ W = (word % 2 ^ (W - e)) <<< e := by
        rw [Nat.shiftLeft_eq, Nat.shiftLeft_eq, hWe, Nat.mul_mod_mul_right]
      rw [hsh, Nat.shiftRight_eq_div_pow, ← Nat.shiftLeft_add_eq_or_of_lt hB, Nat.shiftLeft_eq]
      rw [mod_split _ _ _ _ hB, mod_split _ _ _ _ hB]
      congr 2
      apply Nat.mod_mod_of_dvd
      exact Nat.pow_dvd_pow 2 (by omega)

/-- `PreparedLarge` of power_two.rs on the words of `n` prints the reference digits -/
theorem pow2Large_eq (W log n : Nat) (hlog : 1 ≤ log) (hlW : log ≤ W) (hn : n ≠ 0) :
    pow2Large W log (wordsOf W n) = digits (2 ^ log) n := by
  have hW : 1 ≤ W := by omega
  have htop := (top_digit n W hW hn).2
  have hbl := bitLen_top n W hW hn
  have hwidth : bitLen n ≤ log * ceilDiv (bitLen n) log := bitLen_le_wordLen log hlog n
  have hw1 : 1 ≤ ceilDiv (bitLen n) log := wordLen_pos log hlog n hn
  unfold pow2Large
  rw [wordsOf_eq_chunksSpec, chunksSpec_length n W hW, chunksSpec_snoc n W hW hn]
  obtain ⟨j, hj⟩ : ∃ j, wordLen W n = j + 1 := ⟨_, (Nat.sub_add_cancel (wordLen_pos W hW n hn)).symm⟩
  rw [hj, Nat.add_sub_cancel] at htop hbl ⊢
  have hblW : bitLen (n / 2 ^ (W * j)) ≤ W := bitLen_le_iff.mpr htop
  -- the stream is the top word, then the lower words most significant first
  have hbits : (j + 1) * W - (W - bitLen (n / 2 ^ (W * j))) = bitLen n := by
    rw [Nat.add_mul, Nat.one_mul, Nat.mul_comm j W]; omega
  simp only [List.reverse_append, List.reverse_cons, List.reverse_nil, List.nil_append, List.singleton_append, hbits,
    Nat.max_eq_left hw1]
  have key := pow2Stream_spec W log hlog hlW (digitsPad (2 ^ W) j n)
    (fun w hw => digitsPadLE_lt _ _ _ (Nat.two_pow_pos W) w (List.mem_reverse.mp hw))
    (n / 2 ^ (W * j)) (ceilDiv (bitLen n) log * log - j * W) (ceilDiv (bitLen n) log) (by
      rw [digitsPad_length, Nat.mul_comm j W, Nat.mul_comm _ log]; omega)
  rw [valBE, ofDigits_digitsPad, digitsPad_length, two_pow_mul, Nat.div_add_mod'] at key
  rw [digits_two_pow log n hlog, Nat.max_eq_left (wordLen_pos log hlog n hn)]
  exact key

theorem isPow2_spec {r : Nat} (h : isPow2 r = true) (hr : 2 ≤ r) :
    r = 2 ^ Nat.log2 r ∧ 1 ≤ Nat.log2 r := by
  simp only [isPow2, Bool.and_eq_true, bne_iff_ne, beq_iff_eq] at h
  refine ⟨h.2.symm, ?_⟩
  rcases Nat.eq_zero_or_pos (Nat.log2 r) with h0 | h0
  · rw [h0] at h; omega
  · exact h0

/-- **the power-of-two printer prints the positional representation** -/
theorem fmtPow2_eq (W r n : Nat) (hp : isPow2 r = true) (hr : 2 ≤ r) (hrW : r < 2 ^ W) :
    fmtPow2 W r n = digits r n := by
  obtain ⟨hr2, hlog⟩ := isPow2_spec hp hr
  have hlW : Nat.log2 r ≤ W := by
    have : Nat.log2 r < W := (Nat.log2_lt (by omega)).mpr hrW
    omega
  unfold fmtPow2
  simp only []
  conv => rhs; rw [hr2]
  split
  · exact pow2Small_eq _ n hlog
  · rename_i hn
    have hn0 : n ≠ 0 := by have := Nat.pow_pos (n := 2 * W) (by omega : 0 < 2); omega
    exact pow2Large_eq W _ n hlog hlW hn0

/-- every radix: `InRadixWriter::fmt` produces the reference digits -/
theorem rawDigits_eq (W r n : Nat) (hr : 2 ≤ r) (hrW : r < 2 ^ W) : rawDigits W r n = digits r n := by
  unfold rawDigits
  split
  · rename_i h; exact fmtPow2_eq W r n h hr hrW
  · exact fmtNonPow2_eq W r n hr hrW

end Dashu.Model.Text
