import Dashu.Model.Text.Capacity
import Dashu.Proofs.Text.Pow2
/-
  C07 — no fixed-size buffer of the printers is ever overrun: the bounded-array model of
  `Model/Text/Capacity.lean` never returns a `BufPanic` and computes what the unbounded model
  computes, for every input.  The argument for `PreparedLarge` rests on the soundness of the
  length shortcut `2 * prev.len() - 1 > number.len()  ⇒  prev² > number`.
-/
namespace Dashu.Model.Text

theorem flatMapE_ok {α β ε : Type} (f : α → Except ε (List β)) (g : α → List β) (l : List α)
    (h : ∀ a ∈ l, f a = .ok (g a)) : flatMapE f l = .ok (l.flatMap g) := by
  induction l with
  | nil => rfl
  | cons a l ih =>
    simp only [flatMapE, h a (by simp), ih (fun x hx => h x (by simp [hx])), List.flatMap_cons]

theorem pwLoop_length {r : Nat} (hr : 2 ≤ r) (m w : Nat) (acc : List Nat) :
    (pwLoop r w m acc).length = (digitsAux r (w / r ^ m) []).length + m + acc.length := by
  rw [pwLoop_spec hr]; simp [digitsPad_length]; omega

theorem pwLoop_length_bound {r : Nat} (hr : 2 ≤ r) (m w k : Nat) (hw : w < r ^ k) (hm : m ≤ k) (acc : List Nat) :
    (pwLoop r w m acc).length ≤ k + acc.length := by
  rw [pwLoop_length hr]
  have hp : 0 < r ^ m := Nat.pow_pos (by omega)
  have : w / r ^ m < r ^ (k - m) := by
    rw [Nat.div_lt_iff_lt_mul hp, ← pow_add]
    have : k - m + m = k := by omega
    rw [this]; exact hw
  have := digitsAux_length_le hr _ _ this
  omega

/-- the bounded `PreparedWord` loop: no store outside the array as long as the final digit count fits -/
theorem pwLoopC_eq {r : Nat} (hr : 2 ≤ r) (cap : Nat) (w m : Nat) (acc : List Nat)
    (h : (pwLoop r w m acc).length ≤ cap) : pwLoopC cap r w m acc = .ok (pwLoop r w m acc) := by
  induction hn : w + m using Nat.strong_induction_on generalizing w m acc with
  | _ n ih =>
    subst hn
    by_cases hstop : r < 2 ∨ (m = 0 ∧ w = 0)
    · rw [pwLoopC, pwLoop, dif_pos hstop, dif_pos hstop]
    · rw [pwLoopC, dif_neg hstop]
      rw [pwLoop, dif_neg hstop] at h ⊢
      have hlen : acc.length < cap := by
        have := pwLoop_length hr (m - 1) (w / r) (w % r :: acc)
        rw [this] at h; simp at h; omega
      rw [if_neg (by omega)]
      apply ih _ _ (w / r) (m - 1) (w % r :: acc) h rfl
      by_cases hw : w = 0
      · subst hw; simp; omega
      · have : w / r < w := Nat.div_lt_self (by omega) (by omega)
        omega

-- ---------------------------------------------------------------- the digit-array constants

/-- `MAX_WORD_DIGITS_NON_POW_2 = dpw(3) + 1` covers every word in every radix ≥ 3 (even `W`) -/
theorem maxWordDigits_spec (W : Nat) (hW : 2 ≤ W) (hev : 2 ∣ W) (r : Nat) (hr : 3 ≤ r) (hrW : r < 2 ^ W) :
    2 ^ W ≤ r ^ maxWordDigits W ∧ (radixInfo W r).dpw < maxWordDigits W := by
  have h3W : 3 < 2 ^ W := by
    calc 3 < 2 ^ 2 := by decide
      _ ≤ 2 ^ W := Nat.pow_le_pow_right (by omega) hW
  obtain ⟨e1, e2, e3, e4⟩ := maxExpInWord_spec W 3 (by omega) h3W
  obtain ⟨f1, f2, f3, _⟩ := maxExpInWord_spec W r (by omega) hrW
  unfold maxWordDigits
  have hmax := e4 hev
  rw [e1, ← pow_succ] at hmax
  have hr3 : 2 ^ W ≤ r ^ ((maxExpInWord W 3).1 + 1) :=
    Nat.le_trans hmax (Nat.pow_le_pow_left hr _)
  refine ⟨hr3, ?_⟩
  show (maxExpInWord W r).1 < (maxExpInWord W 3).1 + 1
  by_contra hcon
  have := Nat.le_trans hr3 (Nat.pow_le_pow_right (by omega) (Nat.le_of_not_lt hcon))
  rw [← f1] at this; omega

theorem maxDwordDigits_spec (W : Nat) (hW : 2 ≤ W) (hev : 2 ∣ W) (r : Nat) (hr : 3 ≤ r) :
    2 ^ (2 * W) ≤ r ^ maxDwordDigits W := by
  have h3W : 3 < 2 ^ W := by
    calc 3 < 2 ^ 2 := by decide
      _ ≤ 2 ^ W := Nat.pow_le_pow_right (by omega) hW
  obtain ⟨e1, e2, e3, e4⟩ := maxExpInWord_spec W 3 (by omega) h3W
  have hmax := e4 hev
  unfold maxDwordDigits maxExpInDword
  simp only []
  generalize hp : (maxExpInWord W 3).2 = pw at *
  generalize he : (maxExpInWord W 3).1 = e at *
  have hsq : 2 ^ (2 * W) ≤ (pw * 3) * (pw * 3) := by
    rw [Nat.two_mul, pow_add]; exact Nat.mul_le_mul hmax hmax
  have h3r : ∀ k, 3 ^ k ≤ r ^ k := fun k => Nat.pow_le_pow_left hr k
  split
  · -- one more factor fits
    show 2 ^ (2 * W) ≤ r ^ (2 * e + 1 + 1)
    calc 2 ^ (2 * W) ≤ (pw * 3) * (pw * 3) := hsq
      _ = 3 ^ (2 * e + 1 + 1) := by rw [e1]; ring
      _ ≤ r ^ (2 * e + 1 + 1) := h3r _
  · rename_i hno
    show 2 ^ (2 * W) ≤ r ^ (2 * e + 1)
    calc 2 ^ (2 * W) ≤ pw * pw * 3 := by omega
      _ = 3 ^ (2 * e + 1) := by rw [e1]; ring
      _ ≤ r ^ (2 * e + 1) := h3r _

/-- `PreparedWord::new` never leaves its digit array: for every word, every radix ≥ 3, `min_digits`
    up to `digits_per_word` -/
theorem preparedWordC_eq (W : Nat) (hW : 2 ≤ W) (hev : 2 ∣ W) (r : Nat) (hr : 3 ≤ r) (hrW : r < 2 ^ W)
    (w m : Nat) (hw : w < 2 ^ W) (hm : m ≤ (radixInfo W r).dpw) :
    preparedWordC W r w m = .ok (preparedWord r w m) := by
  obtain ⟨h1, h2⟩ := maxWordDigits_spec W hW hev r hr hrW
  unfold preparedWordC preparedWord
  rw [if_neg (by omega)]
  apply pwLoopC_eq (by omega)
  have := pwLoop_length_bound (by omega : 2 ≤ r) m w (maxWordDigits W) (by omega) (by omega) []
  simpa using this

theorem preparedDwordC_eq (W : Nat) (hW : 2 ≤ W) (hev : 2 ∣ W) (r : Nat) (hr : 3 ≤ r) (hrW : r < 2 ^ W)
    (n : Nat) (hlo : 2 ^ W ≤ n) (hhi : n < 2 ^ (2 * W)) :
    preparedDwordC W r n = .ok (preparedDword W r n) := by
  have ok := radixInfo_ok W r (by omega) hrW
  unfold preparedDwordC
  simp only []
  rw [preparedDword_eq ok n (by have := ok.lt; omega)]
  have hn : n ≠ 0 := by have := Nat.pow_pos (n := W) (by omega : 0 < 2); omega
  rw [digits_of_ne_zero hn]
  have := digitsAux_length_le (by omega : 2 ≤ r) (maxDwordDigits W) n
    (by have := maxDwordDigits_spec W hW hev r hr; omega)
  rw [if_neg (by omega)]

-- ---------------------------------------------------------------- word counts

/-- the regenerated predicate, read over natural numbers -/
theorem fmt_tower_stop_iff (a b : Nat) (ha : 1 ≤ a) :
    Dashu.Gen.fmt_tower_stop (a : Int) (b : Int) = true ↔ 2 * a - 1 > b := by
  unfold Dashu.Gen.fmt_tower_stop Dashu.GluePrelude.gt_ Dashu.GluePrelude.sub_ Dashu.GluePrelude.mul_
  rw [beq_iff_eq, compare_gt_iff_gt]
  omega

/-- **soundness of the length shortcut of `PreparedLarge::new`** — about the predicate regenerated
    from the source (`2 * prev.len() - 1 > number.len()`): whenever it holds, `prev * prev > number` -/
theorem length_shortcut_sound (W : Nat) (hW : 1 ≤ W) (prev n : Nat) (hp : prev ≠ 0)
    (hstop : Dashu.Gen.fmt_tower_stop (wordLen W prev) (wordLen W n) = true) : n < prev * prev := by
  have h := (fmt_tower_stop_iff _ _ (wordLen_pos W hW prev hp)).mp hstop
  have h1 := pow_wordLen_le W hW prev hp
  have h2 : wordLen W n ≤ 2 * (wordLen W prev - 1) := by omega
  have h3 := (wordLen_le_iff W hW n _).mp h2
  calc n < 2 ^ (W * (2 * (wordLen W prev - 1))) := h3
    _ = 2 ^ (W * (wordLen W prev - 1)) * 2 ^ (W * (wordLen W prev - 1)) := by rw [← pow_add]; congr 1; ring
    _ ≤ prev * prev := Nat.mul_le_mul h1 h1

/-- the tower loop ends with a top power whose square exceeds the number -/
theorem buildPowers_top (W : Nat) (hW : 1 ≤ W) (n : Nat) :
    ∀ (fuel : Nat) (prev : Nat) (tl : List Nat), 2 ≤ prev → n < prev * 2 ^ fuel →
      ∃ p rest, buildPowers W n fuel (prev :: tl) = p :: rest ∧ n < p * p := by
  intro fuel
  induction fuel with
  | zero =>
    intro prev tl h2 hlt
    refine ⟨prev, tl, rfl, ?_⟩
    simp at hlt
    calc n < prev := hlt
      _ ≤ prev * prev := Nat.le_mul_self prev
  | succ fuel ih =>
    intro prev tl h2 hlt
    simp only [buildPowers]
    split
    · rename_i hs
      exact ⟨prev, tl, rfl, length_shortcut_sound W hW prev n (by omega) hs⟩
    · split
      · rename_i _ hgt
        exact ⟨prev, tl, rfl, hgt⟩
      · apply ih (prev * prev) (prev :: tl)
        · calc 2 ≤ prev := h2
            _ ≤ prev * prev := Nat.le_mul_self prev
        · calc n < prev * 2 ^ (fuel + 1) := hlt
            _ = prev * 2 * 2 ^ fuel := by rw [pow_succ]; ring
            _ ≤ prev * prev * 2 ^ fuel := Nat.mul_le_mul_right _ (Nat.mul_le_mul_left _ h2)

-- ---------------------------------------------------------------- PreparedMedium, write_chunk

theorem reprToChunkBuffer_ok (W : Nat) (hW : 1 ≤ W) (x : Nat) (h : x < 2 ^ (W * fmtChunkLen)) :
    reprToChunkBuffer W x = .ok x := by
  unfold reprToChunkBuffer
  have := (wordLen_le_iff W hW x fmtChunkLen).mpr h
  rw [if_neg (by omega)]

theorem mediumLoopC_eq {W r : Nat} {ri : RadixInfo} (ok : RadixOK W r ri) (v : Nat) (gs : List Nat)
    (hk : gs.length ≤ fmtChunkLen) (h : v < ri.rpw ^ (fmtChunkLen - gs.length)) :
    mediumLoopC W ri.rpw v gs = .ok (mediumLoop W ri.rpw v gs) := by
  induction v using Nat.strong_induction_on generalizing gs with
  | _ v ih =>
    have h2 := ok.rpw_ge
    have hlt := ok.lt
    by_cases hstop : ri.rpw < 2 ∨ v < 2 ^ W
    · rw [mediumLoopC, mediumLoop, dif_pos hstop, dif_pos hstop]
    · rw [mediumLoopC, mediumLoop, dif_neg hstop, dif_neg hstop]
      have hv : ri.rpw ≤ v := by omega
      -- at least two more groups are available
      have hroom : 2 ≤ fmtChunkLen - gs.length := by
        by_contra hc
        have : fmtChunkLen - gs.length ≤ 1 := by omega
        have := Nat.pow_le_pow_right (by omega : 0 < ri.rpw) this
        simp at this; omega
      rw [if_neg (by omega)]
      apply ih (v / ri.rpw) (Nat.div_lt_self (by omega) (by omega)) (v % ri.rpw :: gs) (by simp; omega)
      rw [Nat.div_lt_iff_lt_mul (by omega), ← pow_succ]
      have : fmtChunkLen - (v % ri.rpw :: gs).length + 1 = fmtChunkLen - gs.length := by simp; omega
      rw [this]; exact h

theorem rpw_pow_lt (W r : Nat) {ri : RadixInfo} (ok : RadixOK W r ri) (k : Nat) (hk : 1 ≤ k) : ri.rpw ^ k < 2 ^ (W * k) := by
  rw [← two_pow_mul]
  exact Nat.pow_lt_pow_left ok.lt (by omega)

/-- `PreparedMedium` stays inside `[Word; 16]` (both the chunk buffer and `low_groups`) whenever the
    number is below `range_per_word^16` -/
theorem preparedMediumC_eq (W : Nat) (hW : 2 ≤ W) (hev : 2 ∣ W) (r : Nat) (hr : 3 ≤ r) (hrW : r < 2 ^ W)
    (n : Nat) (h : n < (radixInfo W r).rpw ^ fmtChunkLen) :
    preparedMediumC W r n = .ok (preparedMedium W r n) := by
  have ok := radixInfo_ok W r (by omega) hrW
  have hb := rpw_pow_lt W r ok fmtChunkLen (by decide)
  unfold preparedMediumC preparedMedium
  simp only []
  rw [reprToChunkBuffer_ok W (by omega) n (by omega)]
  simp only []
  rw [mediumLoopC_eq ok n [] (by simp) (by simpa using h)]
  simp only []
  -- the top word and the groups are words below 2^W / rpw
  have htop : (mediumLoop W (radixInfo W r).rpw n []).1 < 2 ^ W := by
    -- the loop ends only below 2^W
    have : ∀ v gs, (mediumLoop W (radixInfo W r).rpw v gs).1 < 2 ^ W := by
      intro v
      induction v using Nat.strong_induction_on with
      | _ v ih =>
        intro gs
        have h2 := ok.rpw_ge
        by_cases hstop : (radixInfo W r).rpw < 2 ∨ v < 2 ^ W
        · rw [mediumLoop, dif_pos hstop]; simp; omega
        · rw [mediumLoop, dif_neg hstop]
          exact ih _ (Nat.div_lt_self (by omega) (by omega)) _
    exact this n []
  have hgroups : ∀ g ∈ (mediumLoop W (radixInfo W r).rpw n []).2, g < (radixInfo W r).rpw := by
    by_cases hn : n = 0
    · subst hn; rw [mediumLoop]; simp
    · exact (mediumLoop_spec ok n [] hn (by simp)).2
  rw [preparedWordC_eq W hW hev r hr hrW _ 1 htop ok.dpos]
  simp only []
  rw [flatMapE_ok _ (fun g => preparedWord r g (radixInfo W r).dpw) _ (fun g hg =>
    preparedWordC_eq W hW hev r hr hrW g _ (by have := hgroups g hg; have := ok.lt; omega) (Nat.le_refl _))]

theorem chunkGroups_lt (rpw : Nat) (hp : 0 < rpw) (c x : Nat) (acc : List Nat) (hacc : ∀ g ∈ acc, g < rpw) :
    ∀ g ∈ chunkGroups rpw c x acc, g < rpw := by
  induction c generalizing x acc with
  | zero => simpa [chunkGroups] using hacc
  | succ c ih =>
    rw [chunkGroups]
    apply ih
    intro g hg
    rcases List.mem_cons.mp hg with h | h
    · subst h; exact Nat.mod_lt _ hp
    · exact hacc g h

/-- `write_chunk` stays inside its buffers and its `assert_eq!(buffer_len, 0)` holds below `rpw^16` -/
theorem writeChunkC_eq (W : Nat) (hW : 2 ≤ W) (hev : 2 ∣ W) (r : Nat) (hr : 3 ≤ r) (hrW : r < 2 ^ W)
    (x : Nat) (h : x < (radixInfo W r).rpw ^ fmtChunkLen) : writeChunkC W r x = .ok (writeChunk W r x) := by
  have ok := radixInfo_ok W r (by omega) hrW
  have hb := rpw_pow_lt W r ok fmtChunkLen (by decide)
  unfold writeChunkC writeChunk
  simp only []
  rw [reprToChunkBuffer_ok W (by omega) x (by omega)]
  simp only []
  rw [if_neg (by rw [Nat.div_eq_of_lt h]; simp)]
  have hp : 0 < (radixInfo W r).rpw := by have := ok.rpw_ge; omega
  exact flatMapE_ok _ _ _ (fun g hg => preparedWordC_eq W hW hev r hr hrW g _
    (by have := chunkGroups_lt _ hp fmtChunkLen x [] (by simp) g hg; have := ok.lt; omega) (Nat.le_refl _))

/-- `write_big_chunk(i, x)` for `x` below the power of its level -/
theorem writeBigC_eq (W : Nat) (hW : 2 ≤ W) (hev : 2 ∣ W) (r : Nat) (hr : 3 ≤ r) (hrW : r < 2 ^ W)
    (ps : List Nat) (ht : IsTower r (fmtChunkLen * (radixInfo W r).dpw) ps) (x : Nat)
    (h : x < r ^ (fmtChunkLen * (radixInfo W r).dpw * 2 ^ ps.length)) :
    writeBigC W r ps x = .ok (writeBig W r ps x) := by
  have ok := radixInfo_ok W r (by omega) hrW
  induction ps generalizing x with
  | nil =>
    simp only [writeBigC, writeBig]
    apply writeChunkC_eq W hW hev r hr hrW
    rw [ok.pow, ← pow_mul]
    simpa [Nat.mul_comm] using h
  | cons p ps ih =>
    obtain ⟨hp, ht'⟩ := ht
    have hpp : 0 < p := by rw [hp]; exact Nat.pow_pos (by omega)
    have hx : x < p * p := by
      rw [hp, ← pow_add]
      have : fmtChunkLen * (radixInfo W r).dpw * 2 ^ (p :: ps).length =
          fmtChunkLen * (radixInfo W r).dpw * 2 ^ ps.length + fmtChunkLen * (radixInfo W r).dpw * 2 ^ ps.length := by
        simp [pow_succ]; ring
      rw [← this]; exact h
    simp only [writeBigC, writeBig]
    rw [ih ht' (x / p) (by rw [← hp]; exact (Nat.div_lt_iff_lt_mul hpp).mpr hx),
      ih ht' (x % p) (by rw [← hp]; exact Nat.mod_lt _ hpp)]

-- ---------------------------------------------------------------- PreparedLarge

/-- the value bound of a tower level: `ps` the powers below it -/
def levelBound (r K : Nat) (ps : List Nat) : Nat := r ^ (K * 2 ^ ps.length)

theorem levelBound_cons (r K p : Nat) (ps : List Nat) (hp : p = r ^ (K * 2 ^ ps.length)) :
    levelBound r K (p :: ps) = p * p := by
  unfold levelBound
  rw [hp, ← pow_add, List.length_cons, pow_succ]; congr 1; ring

/-- the splitting loop keeps every big chunk below the power of its level and leaves a top part below
    `r^K = range_per_word^16` -/
theorem splitRest_bounds (r K : Nat) (hr : 1 ≤ r) (ps : List Nat) (ht : IsTower r K ps) (x : Nat)
    (acc : List (List Nat × Nat)) (hx : x < levelBound r K ps)
    (hacc : ∀ c ∈ acc, IsTower r K c.1 ∧ c.2 < levelBound r K c.1) :
    (splitRest x ps acc).1 < r ^ K ∧
    ∀ c ∈ (splitRest x ps acc).2, IsTower r K c.1 ∧ c.2 < levelBound r K c.1 := by
  induction ps generalizing x acc with
  | nil => exact ⟨by simpa [levelBound, splitRest] using hx, by simpa [splitRest] using hacc⟩
  | cons p ps ih =>
    obtain ⟨hp, ht'⟩ := ht
    have hpp : 0 < p := by rw [hp]; exact Nat.pow_pos hr
    rw [levelBound_cons r K p ps hp] at hx
    have hpb : levelBound r K ps = p := by unfold levelBound; exact hp.symm
    rw [splitRest]
    by_cases hge : x ≥ p
    · simp only [hge, if_true]
      apply ih ht' (x / p) _ (by rw [hpb]; exact (Nat.div_lt_iff_lt_mul hpp).mpr hx)
      intro c hc
      rcases List.mem_cons.mp hc with h | h
      · subst h; exact ⟨ht', by rw [hpb]; exact Nat.mod_lt _ hpp⟩
      · exact hacc c h
    · simp only [hge, if_false]
      exact ih ht' x acc (by rw [hpb]; omega) hacc

/-- **`PreparedLarge` never overruns a buffer**: the tower is high enough (length shortcut), the
    top part is below `range_per_word^16`, every big chunk is below the power of its level -/
theorem preparedLargeC_eq (W : Nat) (hW : 2 ≤ W) (hev : 2 ∣ W) (r : Nat) (hr : 3 ≤ r) (hrW : r < 2 ^ W) (n : Nat) :
    preparedLargeC W r n = .ok (preparedLarge W r n) := by
  have ok := radixInfo_ok W r (by omega) hrW
  unfold preparedLargeC preparedLarge
  simp only []
  by_cases h : (radixInfo W r).rpw ^ fmtChunkLen > n
  · simp only [h, if_true]
    exact preparedMediumC_eq W hW hev r hr hrW n h
  · simp only [h, if_false]
    have hinit : IsTower r (fmtChunkLen * (radixInfo W r).dpw) [(radixInfo W r).rpw ^ fmtChunkLen] := by
      refine ⟨?_, trivial⟩
      rw [ok.pow, ← pow_mul]; simp [Nat.mul_comm]
    have hcp2 : 2 ≤ (radixInfo W r).rpw ^ fmtChunkLen := by
      calc 2 ≤ (radixInfo W r).rpw := ok.rpw_ge
        _ = (radixInfo W r).rpw ^ 1 := (pow_one _).symm
        _ ≤ (radixInfo W r).rpw ^ fmtChunkLen := Nat.pow_le_pow_right (by have := ok.rpw_ge; omega) (by decide)
    have hfuel : n < (radixInfo W r).rpw ^ fmtChunkLen * 2 ^ bitLen n := by
      have h1 : n < 2 ^ bitLen n := bitLen_le_iff.mp (Nat.le_refl _)
      calc n < 2 ^ bitLen n := h1
        _ ≤ (radixInfo W r).rpw ^ fmtChunkLen * 2 ^ bitLen n := Nat.le_mul_of_pos_left _ (by omega)
    obtain ⟨p, rest, hbp, hsq⟩ := buildPowers_top W (by omega) n (bitLen n) _ [] hcp2 hfuel
    obtain ⟨_, ht, hle⟩ := buildPowers_spec W n r _ (bitLen n) _ (by simp) hinit
      (by intro q hq; simp at hq; subst hq; omega)
    rw [hbp] at ht hle ⊢
    simp only []
    obtain ⟨hp, ht'⟩ := ht
    have hpp : 0 < p := by rw [hp]; exact Nat.pow_pos (by omega)
    have hpb : levelBound r (fmtChunkLen * (radixInfo W r).dpw) rest = p := by unfold levelBound; exact hp.symm
    obtain ⟨hx, hchunks⟩ := splitRest_bounds r (fmtChunkLen * (radixInfo W r).dpw) (by omega) rest ht' (n / p)
      [(rest, n % p)] (by rw [hpb]; exact (Nat.div_lt_iff_lt_mul hpp).mpr hsq)
      (by intro c hc; simp at hc; subst hc; exact ⟨ht', by rw [hpb]; exact Nat.mod_lt _ hpp⟩)
    have hx' : (splitRest (n / p) rest [(rest, n % p)]).1 < (radixInfo W r).rpw ^ fmtChunkLen := by
      rw [ok.pow, ← pow_mul]; simpa [Nat.mul_comm] using hx
    rw [preparedMediumC_eq W hW hev r hr hrW _ hx']
    simp only []
    rw [flatMapE_ok _ (fun c => writeBig W r c.1 c.2) _ (fun c hc =>
      writeBigC_eq W hW hev r hr hrW c.1 (hchunks c hc).1 c.2 (by
        have := (hchunks c hc).2; unfold levelBound at this; exact this))]

/-- **no buffer of the non-power-of-two printer is overrun, for any number** -/
theorem fmtNonPow2C_eq (W : Nat) (hW : 2 ≤ W) (hev : 2 ∣ W) (r : Nat) (hr : 3 ≤ r) (hrW : r < 2 ^ W) (n : Nat) :
    fmtNonPow2C W r n = .ok (fmtNonPow2 W r n) := by
  have ok := radixInfo_ok W r (by omega) hrW
  unfold fmtNonPow2C fmtNonPow2
  split
  · rename_i h; exact preparedWordC_eq W hW hev r hr hrW n 1 h ok.dpos
  · rename_i h1
    split
    · rename_i h2; exact preparedDwordC_eq W hW hev r hr hrW n (by omega) h2
    · simp only []
      split
      · rename_i hmed
        apply preparedMediumC_eq W hW hev r hr hrW
        -- n < 2^(W·len) ≤ (rpw·r)^len = r^((dpw+1)·len) ≤ r^(16·dpw) = rpw^16
        have hmaxr := (maxExpInWord_spec W r (by omega) hrW).2.2.2 hev
        have hmax : 2 ^ W ≤ r ^ ((radixInfo W r).dpw + 1) := by
          rw [pow_succ, ← ok.pow]; exact hmaxr
        calc n < 2 ^ (W * wordLen W n) := lt_pow_wordLen W (by omega) n
          _ = (2 ^ W) ^ wordLen W n := (two_pow_mul W _).symm
          _ ≤ (r ^ ((radixInfo W r).dpw + 1)) ^ wordLen W n := Nat.pow_le_pow_left hmax _
          _ = r ^ (wordLen W n * ((radixInfo W r).dpw + 1)) := by rw [← pow_mul]; congr 1; ring
          _ ≤ r ^ (fmtChunkLen * (radixInfo W r).dpw) := Nat.pow_le_pow_right (by omega) hmed
          _ = (radixInfo W r).rpw ^ fmtChunkLen := by rw [ok.pow, ← pow_mul]; congr 1; ring
      · exact preparedLargeC_eq W hW hev r hr hrW n

-- ---------------------------------------------------------------- power-of-two printer

theorem ceilDiv_le_self (a b : Nat) (hb : 1 ≤ b) : ceilDiv a b ≤ a := by
  unfold ceilDiv
  split
  · omega
  · have := Nat.div_le_self (a - 1) b; omega

theorem fmtPow2C_eq (W r n : Nat) (hW : 1 ≤ W) (hlog : 1 ≤ Nat.log2 r) : fmtPow2C W r n = .ok (fmtPow2 W r n) := by
  unfold fmtPow2C fmtPow2 pow2SmallC
  simp only []
  have hcd := ceilDiv_le_self (bitLen n) (Nat.log2 r) hlog
  split
  · rename_i h
    have hb := bitLen_le_iff.mpr h
    have h2 : n < 2 ^ (2 * W) := by
      calc n < 2 ^ W := h
        _ ≤ 2 ^ (2 * W) := Nat.pow_le_pow_right (by omega) (by omega)
    rw [if_neg (by omega), if_pos h2]
  · split
    · rename_i h2
      have hb := bitLen_le_iff.mpr h2
      rw [if_neg (by omega)]
    · rfl

-- ---------------------------------------------------------------- DigitWriter

/-- `DigitWriter::write` never indexes outside its buffer and loses or reorders nothing: after any
    `write`, (flushed output) ++ (pending, converted) grew by exactly the converted input -/
theorem DW_write_spec (cap : Nat) (hcap : 1 ≤ cap) (c : DigitCase) (buf : List Nat) (s : DW)
    (hs : s.pending.length < cap) :
    ∃ s', DW.write cap c s buf = .ok s' ∧ s'.pending.length < cap ∧
      s'.out ++ s'.pending.map (rawToAscii c) = s.out ++ s.pending.map (rawToAscii c) ++ buf.map (rawToAscii c) := by
  induction hn : buf.length using Nat.strong_induction_on generalizing buf s with
  | _ n ih =>
    subst hn
    by_cases hb : buf = []
    · subst hb; rw [DW.write]; exact ⟨s, by simp, hs, by simp⟩
    · rw [DW.write, dif_neg hb]
      simp only []
      have hlen : buf.length ≠ 0 := fun h => hb (List.length_eq_zero_iff.mp h)
      have hmin : min buf.length (cap - s.pending.length) ≠ 0 := by omega
      rw [if_neg (by omega), if_neg hmin]
      generalize hl : min buf.length (cap - s.pending.length) = len at *
      have hsplit : buf = buf.take len ++ buf.drop len := (List.take_append_drop _ _).symm
      have htl : (buf.take len).length = len := by rw [List.length_take]; omega
      by_cases hfull : (s.pending ++ buf.take len).length = cap
      · simp only [hfull, if_true]
        obtain ⟨s', h1, h2, h3⟩ := ih (buf.drop len).length (by rw [List.length_drop]; omega) (buf.drop len)
          (DW.flush c ⟨s.pending ++ buf.take len, s.out⟩) (by simp [DW.flush]; omega) rfl
        refine ⟨s', h1, h2, ?_⟩
        rw [h3]
        simp only [DW.flush, List.map_nil, List.append_nil, List.map_append]
        conv_rhs => rw [hsplit, List.map_append]
        simp [List.append_assoc]
      · simp only [hfull, if_false]
        have hlt : (s.pending ++ buf.take len).length < cap := by
          rw [List.length_append, htl] at hfull ⊢; omega
        obtain ⟨s', h1, h2, h3⟩ := ih (buf.drop len).length (by rw [List.length_drop]; omega) (buf.drop len)
          ⟨s.pending ++ buf.take len, s.out⟩ hlt rfl
        refine ⟨s', h1, h2, ?_⟩
        rw [h3]
        simp only [List.map_append]
        conv_rhs => rw [hsplit, List.map_append]
        simp [List.append_assoc]

end Dashu.Model.Text
