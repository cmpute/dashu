import Dashu.Proofs.Text.Pow2
import Dashu.Proofs.Int.Word
/-
  Power-of-two radices: the parser (`parse/power_two.rs`, bit packing into words with the word-size
  wrap of `<<`) equals Horner evaluation of the digits.
-/
namespace Dashu.Model.Text
open Dashu.Model (val val_append)

theorem digitValues_reverse (r : Nat) (l : List Nat) :
    digitValues r l.reverse = (digitValues r l).map List.reverse := by
  induction l with
  | nil => rfl
  | cons c cs ih =>
    rw [List.reverse_cons, digitValues_append, ih]
    simp only [digitValues]
    cases digitOf r c <;> cases digitValues r cs <;> simp

theorem filter_cons_us (cs : List Nat) : (95 :: cs).filter (· ≠ 95) = cs.filter (· ≠ 95) := by
  simp

theorem filter_cons_ne {c : Nat} (hc : c ≠ 95) (cs : List Nat) :
    (c :: cs).filter (· ≠ 95) = c :: cs.filter (· ≠ 95) := by
  simp [hc]

-- ---------------------------------------------------------------- parse_word

/-- a digit of `log` bits put on top of `bits` bits -/
theorem add_shift_lt {word d bits log : Nat} (hw : word < 2 ^ bits) (hd : d < 2 ^ log) :
    word + d * 2 ^ bits < 2 ^ (bits + log) := by
  rw [pow_add]
  calc word + d * 2 ^ bits < 2 ^ bits + d * 2 ^ bits := by omega
    _ = (d + 1) * 2 ^ bits := by ring
    _ ≤ 2 ^ log * 2 ^ bits := Nat.mul_le_mul_right _ (by omega)
    _ = 2 ^ bits * 2 ^ log := Nat.mul_comm _ _

theorem parsePow2WordLoop_spec (log : Nat) (cs : List Nat) (bits word : Nat) (hw : word < 2 ^ bits) :
    parsePow2WordLoop log (2 ^ log) cs bits word =
      match digitValues (2 ^ log) (cs.filter (· ≠ 95)) with
      | none => .error .invalidDigit
      | some ds => .ok (word + 2 ^ bits * ofDigitsLE (2 ^ log) ds) := by
  induction cs generalizing bits word with
  | nil => simp [parsePow2WordLoop, digitValues, ofDigitsLE]
  | cons c cs ih =>
    by_cases hc : c = 95
    · subst hc
      rw [parsePow2WordLoop, if_pos rfl, filter_cons_us]
      exact ih bits word hw
    · rw [parsePow2WordLoop, if_neg hc, filter_cons_ne hc]
      simp only [digitValues]
      cases hd : digitOf (2 ^ log) c with
      | none => simp
      | some d =>
        simp only []
        have hdl := digitOf_lt hd
        have hor : word ||| (d <<< bits) = word + d * 2 ^ bits := by
          rw [Nat.or_comm, ← Nat.shiftLeft_add_eq_or_of_lt hw, Nat.shiftLeft_eq, Nat.add_comm]
        have hw' := add_shift_lt hw hdl
        rw [hor, ih (bits + log) _ hw']
        cases digitValues (2 ^ log) (cs.filter (· ≠ 95)) with
        | none => simp
        | some ds =>
          simp only [ofDigitsLE]
          congr 1; rw [pow_add]; ring

theorem parsePow2Word_spec (log : Nat) (src : List Nat) :
    parsePow2Word log (2 ^ log) src = parseDigitsSpec (2 ^ log) src := by
  unfold parsePow2Word parseDigitsSpec
  rw [parsePow2WordLoop_spec log _ 0 0 (by simp), List.filter_reverse, digitValues_reverse]
  cases digitValues (2 ^ log) (src.filter (· ≠ 95)) with
  | none => simp
  | some ds => simp [ofDigitsLE_reverse]

-- ---------------------------------------------------------------- parse_large

theorem val_reverse_cons (W w : Nat) (buf : List Nat) :
    val W (w :: buf).reverse = val W buf.reverse + 2 ^ (W * buf.length) * w := by
  rw [List.reverse_cons, val_append, List.length_reverse]
  simp [val]

theorem parsePow2LargeLoop_spec (W log : Nat) (hlW : log ≤ W) (cs : List Nat) (bits word : Nat) (buf : List Nat)
    (hw : word < 2 ^ bits) (hb : bits < W) :
    (parsePow2LargeLoop W log (2 ^ log) cs bits word buf).map (fun b => val W b.reverse) =
      match digitValues (2 ^ log) (cs.filter (· ≠ 95)) with
      | none => .error .invalidDigit
      | some ds => .ok (val W buf.reverse + 2 ^ (W * buf.length) * (word + 2 ^ bits * ofDigitsLE (2 ^ log) ds)) := by
  induction cs generalizing bits word buf with
  | nil =>
    simp only [parsePow2LargeLoop, List.filter_nil, digitValues, ofDigitsLE, Nat.mul_zero, Nat.add_zero, Except.map]
    by_cases h0 : bits > 0
    · simp only [h0, if_true, val_reverse_cons]
    · have : bits = 0 := by omega
      subst this
      have : word = 0 := by simpa using hw
      subst this
      simp
  | cons c cs ih =>
    by_cases hc : c = 95
    · subst hc
      rw [parsePow2LargeLoop, if_pos rfl, filter_cons_us]
      exact ih bits word buf hw hb
    · rw [parsePow2LargeLoop, if_neg hc, filter_cons_ne hc]
      simp only [digitValues]
      cases hd : digitOf (2 ^ log) c with
      | none => simp [Except.map]
      | some d =>
        simp only []
        have hdl := digitOf_lt hd
        have hWb : 2 ^ W = 2 ^ (W - bits) * 2 ^ bits := by rw [← pow_add]; congr 1; omega
        -- word |= (digit << bits) mod 2^W
        have hor : word ||| ((d <<< bits) % 2 ^ W) = word + (d % 2 ^ (W - bits)) * 2 ^ bits := by
          have e : (d <<< bits) % 2 ^ W = (d % 2 ^ (W - bits)) <<< bits := by
            rw [Nat.shiftLeft_eq, Nat.shiftLeft_eq, hWb, Nat.mul_mod_mul_right]
          rw [e, Nat.or_comm, ← Nat.shiftLeft_add_eq_or_of_lt hw, Nat.shiftLeft_eq, Nat.add_comm]
        rw [hor]
        by_cases hge : bits + log ≥ W
        · simp only [hge, if_true]
          have hnw : d >>> (W - bits) < 2 ^ (bits + log - W) := by
            rw [Nat.shiftRight_eq_div_pow, Nat.div_lt_iff_lt_mul (Nat.pow_pos (by omega)), ← pow_add]
            have : bits + log - W + (W - bits) = log := by omega
            rw [this]; exact hdl
          rw [ih (bits + log - W) _ _ hnw (by omega)]
          cases digitValues (2 ^ log) (cs.filter (· ≠ 95)) with
          | none => rfl
          | some ds =>
            simp only [val_reverse_cons, List.length_cons, ofDigitsLE]
            congr 1
            have hdd := Nat.div_add_mod d (2 ^ (W - bits))
            rw [Nat.shiftRight_eq_div_pow]
            have e1 : 2 ^ (W * (buf.length + 1)) = 2 ^ (W * buf.length) * (2 ^ (W - bits) * 2 ^ bits) := by
              rw [← hWb, ← pow_add]; congr 1
            have e2 : 2 ^ (bits + log - W) * (2 ^ (W - bits) * 2 ^ bits) = 2 ^ bits * 2 ^ log := by
              rw [← pow_add, ← pow_add, ← pow_add]; congr 1; omega
            rw [e1]
            generalize 2 ^ (W - bits) = q at *
            generalize d / q = dq at *
            generalize d % q = dm at *
            subst hdd
            rw [Nat.add_assoc]; congr 1
            calc 2 ^ (W * buf.length) * (word + dm * 2 ^ bits) +
                  2 ^ (W * buf.length) * (q * 2 ^ bits) * (dq + 2 ^ (bits + log - W) * ofDigitsLE (2 ^ log) ds)
                = 2 ^ (W * buf.length) * (word + 2 ^ bits * (q * dq + dm)) +
                  2 ^ (W * buf.length) * ((2 ^ (bits + log - W) * (q * 2 ^ bits)) * ofDigitsLE (2 ^ log) ds) := by ring
              _ = 2 ^ (W * buf.length) * (word + 2 ^ bits * (q * dq + dm + 2 ^ log * ofDigitsLE (2 ^ log) ds)) := by
                rw [e2]; ring
        · simp only [hge, if_false]
          have hsmall : d % 2 ^ (W - bits) = d := by
            apply Nat.mod_eq_of_lt
            calc d < 2 ^ log := hdl
              _ ≤ 2 ^ (W - bits) := Nat.pow_le_pow_right (by omega) (by omega)
          rw [hsmall]
          have hw' := add_shift_lt hw hdl
          rw [ih (bits + log) _ buf hw' (by omega)]
          cases digitValues (2 ^ log) (cs.filter (· ≠ 95)) with
          | none => rfl
          | some ds =>
            simp only [ofDigitsLE]
            congr 2; rw [pow_add]; ring

theorem parsePow2Large_spec (W log : Nat) (hlW : log ≤ W) (hW : 1 ≤ W) (src : List Nat) :
    parsePow2Large W log (2 ^ log) src = parseDigitsSpec (2 ^ log) src := by
  unfold parsePow2Large parseDigitsSpec
  rw [parsePow2LargeLoop_spec W log hlW _ 0 0 [] (by simp) (by omega), List.filter_reverse, digitValues_reverse]
  cases digitValues (2 ^ log) (src.filter (· ≠ 95)) with
  | none => simp
  | some ds => simp [ofDigitsLE_reverse, val]

/-- **the power-of-two parser** equals Horner evaluation of the digits, or `InvalidDigit` -/
theorem parsePow2_spec (W r : Nat) (hp : isPow2 r = true) (hr : 2 ≤ r) (hrW : r < 2 ^ W) (src : List Nat) :
    parsePow2 W r src = parseDigitsSpec r src := by
  obtain ⟨hr2, hlog⟩ := isPow2_spec hp hr
  have hlW : Nat.log2 r < W := (Nat.log2_lt (by omega)).mpr hrW
  unfold parsePow2
  simp only []
  generalize Nat.log2 r = log at *
  subst hr2
  split
  · exact parsePow2Word_spec log src
  · exact parsePow2Large_spec W log (by omega) (by omega) src

end Dashu.Model.Text
