import Dashu.Model.Text.Pieces
import Dashu.Proofs.Text.FmtLow
import Dashu.Proofs.Text.Grammar
/-
  C07 — the recorded `DigitWriter::write` pieces: their concatenation is the digit string of the
  number-level model, the pieces computed with the mirrored reciprocal division are the same pieces,
  their shapes, and the whole path through the mirrored `DigitWriter` prints the reference text.
-/
namespace Dashu.Model.Text

theorem mapE_ok {α β ε : Type} (f : α → Except ε β) (g : α → β) (l : List α)
    (h : ∀ a ∈ l, f a = .ok (g a)) : mapE f l = .ok (l.map g) := by
  induction l with
  | nil => rfl
  | cons a l ih =>
    simp only [mapE, h a (by simp), ih (fun x hx => h x (by simp [hx])), List.map_cons]

-- ---------------------------------------------------------------- concatenation = the digit string

theorem preparedMediumP_flatten (W r n : Nat) : (preparedMediumP W r n).flatten = preparedMedium W r n := by
  simp [preparedMediumP, preparedMedium, List.flatMap_def]

theorem writeChunkP_flatten (W r x : Nat) : (writeChunkP W r x).flatten = writeChunk W r x := by
  simp [writeChunkP, writeChunk, List.flatMap_def]

theorem writeBigP_flatten (W r : Nat) (ps : List Nat) (x : Nat) :
    (writeBigP W r ps x).flatten = writeBig W r ps x := by
  induction ps generalizing x with
  | nil => exact writeChunkP_flatten W r x
  | cons p ps ih => simp only [writeBigP, writeBig, List.flatten_append, ih]

theorem flatten_flatMap {α : Type} (l : List α) (f : α → List (List Nat)) :
    (l.flatMap f).flatten = l.flatMap (fun a => (f a).flatten) := by
  induction l with
  | nil => rfl
  | cons a l ih => simp only [List.flatMap_cons, List.flatten_append, ih]

theorem preparedLargeP_flatten (W r n : Nat) : (preparedLargeP W r n).flatten = preparedLarge W r n := by
  unfold preparedLargeP preparedLarge
  simp only
  by_cases h : (radixInfo W r).rpw ^ fmtChunkLen > n
  · simp only [h, if_true]; exact preparedMediumP_flatten W r n
  · simp only [h, if_false]
    cases hb : buildPowers W n (bitLen n) [(radixInfo W r).rpw ^ fmtChunkLen] with
    | nil => rfl
    | cons p rest =>
      simp only [List.flatten_append, preparedMediumP_flatten, flatten_flatMap, writeBigP_flatten]

theorem fmtNonPow2P_flatten (W r n : Nat) : (fmtNonPow2P W r n).flatten = fmtNonPow2 W r n := by
  unfold fmtNonPow2P fmtNonPow2
  split
  · simp
  · split
    · simp
    · simp only
      split
      · exact preparedMediumP_flatten W r n
      · exact preparedLargeP_flatten W r n

theorem flatten_singletons (l : List Nat) : (l.map (fun d => [d])).flatten = l := by
  induction l with
  | nil => rfl
  | cons a l ih => simp [ih]

theorem fmtPow2P_flatten (W r n : Nat) : (fmtPow2P W r n).flatten = fmtPow2 W r n := by
  unfold fmtPow2P fmtPow2
  simp only
  split
  · simp
  · exact flatten_singletons _

theorem rawPieces_flatten (W r n : Nat) : (rawPieces W r n).flatten = rawDigits W r n := by
  unfold rawPieces rawDigits
  split
  · exact fmtPow2P_flatten W r n
  · exact fmtNonPow2P_flatten W r n

-- ---------------------------------------------------------------- the pieces on the mirrored division

theorem preparedMediumPF_eq (W r n : Nat) (hr : 2 ≤ r) (hrW : r < 2 ^ W) :
    preparedMediumPF W r n = .ok (preparedMediumP W r n) := by
  have ok := radixInfo_ok W r hr hrW
  have hb := mediumLoop_bounds W (radixInfo W r).rpw ok.rpw_ge n [] (by simp)
  unfold preparedMediumPF preparedMediumP
  simp only
  rw [preparedWordF_eq W r hr hrW _ 1 hb.1]
  simp only
  rw [mapE_ok _ (fun g => preparedWord r g (radixInfo W r).dpw) _
    (fun g hg => preparedWordF_eq W r hr hrW g _ (Nat.lt_trans (hb.2 g hg) ok.lt))]

theorem writeChunkPF_eq (W r x : Nat) (hr : 2 ≤ r) (hrW : r < 2 ^ W) :
    writeChunkPF W r x = .ok (writeChunkP W r x) := by
  have ok := radixInfo_ok W r hr hrW
  have hge := ok.rpw_ge
  unfold writeChunkPF writeChunkP
  exact mapE_ok _ _ _ (fun g hg => preparedWordF_eq W r hr hrW g _
    (Nat.lt_trans (chunkGroups_lt _ (by omega) _ _ [] (by simp) g hg) ok.lt))

theorem writeBigPF_eq (W r : Nat) (hr : 2 ≤ r) (hrW : r < 2 ^ W) (ps : List Nat) (x : Nat) :
    writeBigPF W r ps x = .ok (writeBigP W r ps x) := by
  induction ps generalizing x with
  | nil => exact writeChunkPF_eq W r x hr hrW
  | cons p ps ih => simp only [writeBigPF, writeBigP, ih]

theorem preparedLargePF_eq (W r n : Nat) (hr : 2 ≤ r) (hrW : r < 2 ^ W) :
    preparedLargePF W r n = .ok (preparedLargeP W r n) := by
  unfold preparedLargePF preparedLargeP
  simp only
  by_cases h : (radixInfo W r).rpw ^ fmtChunkLen > n
  · simp only [h, if_true]; exact preparedMediumPF_eq W r n hr hrW
  · simp only [h, if_false]
    cases hb : buildPowers W n (bitLen n) [(radixInfo W r).rpw ^ fmtChunkLen] with
    | nil => rfl
    | cons p rest =>
      simp only
      rw [preparedMediumPF_eq W r _ hr hrW]
      simp only
      rw [flatMapE_ok _ (fun c => writeBigP W r c.1 c.2) _ (fun c _ => writeBigPF_eq W r hr hrW c.1 c.2)]

theorem fmtNonPow2PF_eq (W r n : Nat) (hev : 2 ∣ W) (hr : 2 ≤ r) (hrW : r < 2 ^ W) :
    fmtNonPow2PF W r n = .ok (fmtNonPow2P W r n) := by
  unfold fmtNonPow2PF fmtNonPow2P
  by_cases h1 : n < 2 ^ W
  · simp only [h1, if_true, preparedWordF_eq W r hr hrW n 1 h1]; rfl
  · simp only [h1, if_false]
    by_cases h2 : n < 2 ^ (2 * W)
    · simp only [h2, if_true, preparedDwordF_eq W r n hev hr hrW h2]; rfl
    · simp only [h2, if_false]
      by_cases h3 : wordLen W n * ((radixInfo W r).dpw + 1) ≤ fmtChunkLen * (radixInfo W r).dpw
      · simp only [h3, if_true]; exact preparedMediumPF_eq W r n hr hrW
      · simp only [h3, if_false]; exact preparedLargePF_eq W r n hr hrW

theorem rawPiecesF_eq (W r n : Nat) (hev : 2 ∣ W) (hr : 2 ≤ r) (hrW : r < 2 ^ W) :
    rawPiecesF W r n = .ok (rawPieces W r n) := by
  unfold rawPiecesF rawPieces
  by_cases hp : isPow2 r = true
  · simp only [hp, if_true]
  · simp only [hp]; exact fmtNonPow2PF_eq W r n hev hr hrW

/-- the tail the two mirrored formatting paths share: the raw digits, cut into `write` calls in any way, go through
    the mirrored `DigitWriter` and `format_prepared` to the number-level text, which is the reference text -/
theorem writer_path (W : Nat) (h8 : 8 ∣ W) (hW : 8 ≤ W) (t : FmtTrait) (f : FmtSpec) (z : Int)
    (hv : validRadix t.radix = true) (ps : List (List Nat)) (hfl : ps.flatten = rawDigits W t.radix z.natAbs) :
    (match digitWriterRunS W (t.digitCase f) ps with
      | .error e => .error e
      | .ok text => .ok (formatPrepared f (z < 0) (t.pfx f) text)) = Except.ok (ε := BufPanic) (fmtModel W t f z) ∧
    fmtModel W t f z = fmtSpec t f z := by
  have hr := validRadix_iff.mp hv
  have hrW := validRadix_lt_word hv hW
  rw [digitWriterRunS_rawDigits W h8 hW _ _ _ hr.1 hr.2 hrW _ hfl]
  exact ⟨rfl, fmtModel_eq_fmtSpec W t f z hv hrW⟩

-- ---------------------------------------------------------------- shapes of the pieces

theorem preparedWord_pad_length {r : Nat} (hr : 2 ≤ r) (m w : Nat) (hw : w < r ^ m) :
    (preparedWord r w m).length = m := by
  rw [preparedWord_pad hr m w hw, digitsPad_length]

theorem writeChunkP_len (W r x : Nat) (hr : 2 ≤ r) (hrW : r < 2 ^ W) :
    ∀ p ∈ writeChunkP W r x, p.length = (radixInfo W r).dpw := by
  have ok := radixInfo_ok W r hr hrW
  have hge := ok.rpw_ge
  intro p hp
  obtain ⟨g, hg, rfl⟩ := List.mem_map.mp hp
  apply preparedWord_pad_length hr
  rw [← ok.pow]
  exact chunkGroups_lt _ (by omega) _ _ [] (by simp) g hg

theorem writeBigP_len (W r : Nat) (hr : 2 ≤ r) (hrW : r < 2 ^ W) (ps : List Nat) (x : Nat) :
    ∀ p ∈ writeBigP W r ps x, p.length = (radixInfo W r).dpw := by
  induction ps generalizing x with
  | nil => exact writeChunkP_len W r x hr hrW
  | cons q ps ih =>
    intro p hp
    simp only [writeBigP, List.mem_append] at hp
    rcases hp with h | h
    · exact ih _ p h
    · exact ih _ p h

theorem preparedMediumP_tail_len (W r n : Nat) (hr : 2 ≤ r) (hrW : r < 2 ^ W) :
    ∀ p ∈ (preparedMediumP W r n).tail, p.length = (radixInfo W r).dpw := by
  have ok := radixInfo_ok W r hr hrW
  have hb := mediumLoop_bounds W (radixInfo W r).rpw ok.rpw_ge n [] (by simp)
  intro p hp
  simp only [preparedMediumP, List.tail_cons] at hp
  obtain ⟨g, hg, rfl⟩ := List.mem_map.mp hp
  apply preparedWord_pad_length hr
  rw [← ok.pow]
  exact hb.2 g hg

theorem preparedLargeP_tail_len (W r n : Nat) (hr : 2 ≤ r) (hrW : r < 2 ^ W) :
    ∀ p ∈ (preparedLargeP W r n).tail, p.length = (radixInfo W r).dpw := by
  unfold preparedLargeP
  simp only
  by_cases h : (radixInfo W r).rpw ^ fmtChunkLen > n
  · simp only [h, if_true]; exact preparedMediumP_tail_len W r n hr hrW
  · simp only [h, if_false]
    cases hb : buildPowers W n (bitLen n) [(radixInfo W r).rpw ^ fmtChunkLen] with
    | nil => intro p hp; simp at hp
    | cons q rest =>
      intro p hp
      simp only at hp
      rw [List.tail_append_of_ne_nil (by simp [preparedMediumP]), List.mem_append] at hp
      rcases hp with h1 | h1
      · exact preparedMediumP_tail_len W r _ hr hrW p h1
      · obtain ⟨c, _, hc⟩ := List.mem_flatMap.mp h1
        exact writeBigP_len W r hr hrW c.1 c.2 p hc

/-- **shape of the `write` calls of the non-power-of-two printers**: at least one call; every call
    after the first carries exactly `digits_per_word` digits -/
theorem fmtNonPow2P_shape (W r n : Nat) (hr : 2 ≤ r) (hrW : r < 2 ^ W) (hn : n ≠ 0) :
    fmtNonPow2P W r n ≠ [] ∧ ∀ p ∈ (fmtNonPow2P W r n).tail, p.length = (radixInfo W r).dpw := by
  have hfl := fmtNonPow2P_flatten W r n
  rw [fmtNonPow2_eq W r n hr hrW] at hfl
  refine ⟨?_, ?_⟩
  · intro h0
    rw [h0] at hfl
    exact digits_ne_nil r n hr hfl.symm
  · unfold fmtNonPow2P
    by_cases h1 : n < 2 ^ W
    · simp [h1]
    · simp only [h1, if_false]
      by_cases h2 : n < 2 ^ (2 * W)
      · simp [h2]
      · simp only [h2, if_false]
        by_cases h3 : wordLen W n * ((radixInfo W r).dpw + 1) ≤ fmtChunkLen * (radixInfo W r).dpw
        · simp only [h3, if_true]; exact preparedMediumP_tail_len W r n hr hrW
        · simp only [h3, if_false]; exact preparedLargeP_tail_len W r n hr hrW

/-- power-of-two radices: one call for inline values, one call per digit for heap values -/
theorem fmtPow2P_shape (W r n : Nat) :
    (n < 2 ^ (2 * W) → (fmtPow2P W r n).length = 1) ∧
    (2 ^ (2 * W) ≤ n → ∀ p ∈ fmtPow2P W r n, p.length = 1) := by
  unfold fmtPow2P
  simp only
  constructor
  · intro h; simp [h]
  · intro h p hp
    have : ¬ n < 2 ^ (2 * W) := by omega
    simp only [this, if_false] at hp
    obtain ⟨d, _, rfl⟩ := List.mem_map.mp hp
    rfl

end Dashu.Model.Text
