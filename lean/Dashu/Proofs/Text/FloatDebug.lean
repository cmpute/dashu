import Dashu.Proofs.Text.Debug
/-
  C08 — link of the float `Debug` forms (Model/Text/Float.lean: `debugInt`, `debugSignifField`,
  `debugRepr`, `debugFBig`) to C07's proved kernel (`Proofs/Text/Debug.lean`: the mirrored
  `DoubleEnd::fmt` yields `debugSpec`).
-/
namespace Dashu.Proofs.Text.FloatDebug
open Dashu.Model Dashu.Model.Text Dashu.Model.Float

theorem strBytes_digits : strBytes " (digits: " = [32, 40, 100, 105, 103, 105, 116, 115, 58, 32] := by decide +kernel
theorem strBytes_bits : strBytes ", bits: " = [44, 32, 98, 105, 116, 115, 58, 32] := by decide +kernel

/-- the significand printer of the float `Debug` model IS C07's closed form -/
theorem debugInt_eq_debugSpec (W : Nat) (alt plus : Bool) (z : Int) :
    debugInt W alt plus z = debugSpec W alt plus z := by
  unfold debugInt debugSpec
  rw [strBytes_digits, strBytes_bits]

/-- … hence the text the mirrored `DoubleEnd::fmt` (word level) yields -/
theorem doubleEndFmt_eq_debugInt (W est : Nat) (hW : 8 ≤ W) (hev : 2 ∣ W) (alt plus : Bool) (z : Int)
    (hest : 2 ^ (2 * W) ≤ z.natAbs → 10 ^ est ≤ z.natAbs) :
    doubleEndFmt W est alt plus z = .ok (debugInt W alt plus z) := by
  rw [debugInt_eq_debugSpec]; exact doubleEndFmt_eq W est hW hev alt plus z hest

theorem doubleEndFmt_one_eq_debugInt (W : Nat) (hW : 8 ≤ W) (hev : 2 ∣ W) (alt plus : Bool) (z : Int) :
    doubleEndFmt W 1 alt plus z = .ok (debugInt W alt plus z) := by
  apply doubleEndFmt_eq_debugInt W 1 hW hev
  intro h
  have : (2 : Nat) ^ 16 ≤ 2 ^ (2 * W) := Nat.pow_le_pow_right (by omega) (by omega)
  omega

/-- plain `{:?}` text of a two-word significand: sign and ALL decimal digits -/
theorem debugInt_small (W : Nat) (z : Int) (h : z.natAbs < 2 ^ (2 * W)) :
    debugInt W false false z = (if z < 0 then [45] else []) ++ printSpec 10 false z.natAbs := by
  unfold debugInt
  simp [h]

/-- the finite `Debug` forms of `Repr<B>` / `FBig<R, B>`, written over the `DoubleEnd` text `debugInt` of the
    significand (plain, and `{:#?}` for base 10) -/
theorem debug_forms (W B : Nat) (m : Mode) (r : FRepr) (prec : Nat) :
    debugRepr W B false r = debugInt W false false r.signif ++ strBytes " * " ++ printSpec 10 false B ++
        strBytes " ^ " ++ printSpecInt 10 false r.exp ∧
    debugFBig W B m false r prec = debugInt W false false r.signif ++ strBytes " * " ++ printSpec 10 false B ++
        strBytes " ^ " ++ printSpecInt 10 false r.exp ++ strBytes " (prec: " ++ printSpec 10 false prec ++ [41] ∧
    debugSignifField W 10 r.signif = debugInt W true false r.signif ∧
    (B ≠ 10 → debugSignifField W B r.signif = debugInt W false false r.signif ++ strBytes " (" ++
        printSpec 10 false (digitsI B r.signif) ++ strBytes (if B = 2 then " bits)" else " digits)")) := by
  refine ⟨by simp [debugRepr], by simp [debugFBig, debugRepr], by simp [debugSignifField], ?_⟩
  intro hB
  unfold debugSignifField
  by_cases h2 : B = 2 <;> simp [h2, hB]

end Dashu.Proofs.Text.FloatDebug
