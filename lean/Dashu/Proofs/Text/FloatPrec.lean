import Dashu.Proofs.Text.FloatGrammar
import Dashu.Proofs.Float.RoundOps
/-
  C08 — printing with a precision option (`{:.N}`): the printed text is a literal with exactly `N`
  fractional digits whose value is the exact value rounded to `N` fractional digits under the mode.
-/
namespace Dashu.Model.Text
open Dashu.Model.Float Dashu.Props.GenRound

-- ---------------------------------------------------------------- the rounding step of `fmt_round`

/-- the integer `fmt_round` prints for precision `p`: the significand of `x · B^p` rounded to an
    integer (`split_digits` + `round_fract` when digits are dropped, exact otherwise) -/
def precRounded (B : Nat) (m : Mode) (p : Nat) (r : FRepr) : Int :=
  let diff : Int := (p : Int) + r.exp
  if diff < 0 then
    let hl := splitDigits B r.signif (-diff).toNat
    hl.1 + rInt (roundFract B m coarseNone hl.1 hl.2 (-diff).toNat)
  else r.signif * ((B ^ diff.toNat : Nat) : Int)

/-- `x · B^p = N / D` with `N = signif · B^max(p+exp, 0)`, `D = B^max(−(p+exp), 0)` -/
theorem prec_scaled_value (B : Nat) (hB : 2 ≤ B) (p : Nat) (r : FRepr) :
    ((r.signif * ((B ^ ((p : Int) + r.exp).toNat : Nat) : Int) : Int) : ℚ) /
        (((B ^ (-((p : Int) + r.exp)).toNat : Nat) : Int) : ℚ) = r.toRat B * ((B ^ p : Nat) : ℚ) := by
  have hB0 : 0 < B := by omega
  unfold FRepr.toRat
  rw [← bpowQ_nat B p, mul_assoc, ← bpowQ_add B hB0]
  have hBq : (B : ℚ) ≠ 0 := by exact_mod_cast (by omega : B ≠ 0)
  by_cases hd : (p : Int) + r.exp < 0
  · have h1 : ((p : Int) + r.exp).toNat = 0 := by omega
    rw [h1, pow_zero]
    have h2 : r.exp + (p : Int) = -(((-((p : Int) + r.exp)).toNat : Nat) : Int) := by omega
    rw [h2]
    generalize (-((p : Int) + r.exp)).toNat = k
    rw [bpowQ_eq_zpow, zpow_neg, zpow_natCast]
    push_cast
    field_simp
  · have h1 : (-((p : Int) + r.exp)).toNat = 0 := by omega
    rw [h1, pow_zero]
    have h2 : r.exp + (p : Int) = ((((p : Int) + r.exp).toNat : Nat) : Int) := by omega
    rw [h2]
    generalize ((p : Int) + r.exp).toNat = k
    rw [bpowQ_nat]
    push_cast
    simp

/-- **the printed integer is the mode's rounding of `x · B^p`** -/
theorem precRounded_spec (B : Nat) (hB : 2 ≤ B) (m : Mode) (p : Nat) (r : FRepr) :
    ModeSpec m (r.signif * ((B ^ ((p : Int) + r.exp).toNat : Nat) : Int))
      ((B ^ (-((p : Int) + r.exp)).toNat : Nat) : Int) (precRounded B m p r) := by
  unfold precRounded
  by_cases hd : (p : Int) + r.exp < 0
  · simp only [hd, if_true]
    have h1 : ((p : Int) + r.exp).toNat = 0 := by omega
    rw [h1, pow_zero, Nat.cast_one, mul_one]
    exact splitRound_modeSpec B hB m coarseNone coarseNone_sound r.signif _
  · simp only [hd, if_false]
    have h1 : (-((p : Int) + r.exp)).toNat = 0 := by omega
    rw [h1, pow_zero, Nat.cast_one]
    have := modeSpec_exact m (r.signif * ((B ^ ((p : Int) + r.exp).toNat : Nat) : Int)) 1 (by omega)
    rwa [mul_one] at this

theorem precRounded_sign (B : Nat) (hB : 2 ≤ B) (m : Mode) (p : Nat) (r : FRepr) :
    (r.signif < 0 → precRounded B m p r ≤ 0) ∧ (0 ≤ r.signif → 0 ≤ precRounded B m p r) := by
  have hD : (0 : Int) < ((B ^ (-((p : Int) + r.exp)).toNat : Nat) : Int) := by
    have : 0 < B ^ (-((p : Int) + r.exp)).toNat := Nat.pow_pos (by omega)
    exact_mod_cast this
  have hP : (0 : Int) < ((B ^ ((p : Int) + r.exp).toNat : Nat) : Int) := by
    have : 0 < B ^ ((p : Int) + r.exp).toNat := Nat.pow_pos (by omega)
    exact_mod_cast this
  obtain ⟨h1, h2⟩ := modeSpec_sign m _ _ _ hD (precRounded_spec B hB m p r)
  exact ⟨fun h => h1 (mul_nonpos_of_nonpos_of_nonneg h.le hP.le), fun h => h2 (mul_nonneg h hP.le)⟩

-- ---------------------------------------------------------------- the text

theorem dispPair_some (B : Nat) (m : Mode) (p : Nat) (r : FRepr) :
    dispPair B m (some p) r =
      if (p : Int) + r.exp < 0 then (precRounded B m p r, -(p : Int)) else (r.signif, r.exp) := by
  unfold dispPair precRounded
  by_cases h : (p : Int) + r.exp < 0
  · simp only [h, if_true]
    congr 1; omega
  · simp only [h, if_false]

/-- after the rounding step the exponent is not below `-precision` -/
theorem dispPair_exp_ge (B : Nat) (m : Mode) (prec : Option Nat) (r : FRepr) :
    ∀ p, prec = some p → -(dispPair B m prec r).2 ≤ (p : Int) := by
  intro p hp
  subst hp
  rw [dispPair_some]
  split <;> simp only [] <;> omega

theorem dispPair_sign (B : Nat) (hB : 2 ≤ B) (m : Mode) (prec : Option Nat) (r : FRepr) :
    (r.signif < 0 → (dispPair B m prec r).1 ≤ 0) ∧ (0 ≤ r.signif → 0 ≤ (dispPair B m prec r).1) := by
  cases prec with
  | none => exact ⟨fun h => Int.le_of_lt h, id⟩
  | some p =>
    rw [dispPair_some]
    split
    · exact precRounded_sign B hB m p r
    · exact ⟨fun h => Int.le_of_lt h, id⟩

/-- **the core of `Display` is a literal body spelling the printed integer**, for any precision option: integer
    digits, and behind a point exactly `k` fraction digits (`k` the precision, or the `-e'` the exponent asks
    for; no point for `k = 0`); as a number it is `|s'| · B^(k + e')`, `(s', e')` the pair after the rounding step -/
theorem fmtRoundCore_literal (B : Nat) (hB : 2 ≤ B) (m : Mode) (prec : Option Nat) (r : FRepr) :
    ∃ (di : List Nat) (frac : Option (List Nat)),
      fmtRoundCore B m prec r = chars false di ++ fracChars false frac ∧
      (∀ d ∈ di, d < B) ∧ (∀ d ∈ frac.getD [], d < B) ∧ di ≠ [] ∧
      (frac.getD []).length = prec.getD (-(dispPair B m prec r).2).toNat ∧
      (frac.isSome ↔ 0 < prec.getD (-(dispPair B m prec r).2).toNat) ∧
      ofDigits B (di ++ frac.getD []) = (dispPair B m prec r).1.natAbs *
        B ^ (((prec.getD (-(dispPair B m prec r).2).toNat : Nat) : Int) + (dispPair B m prec r).2).toNat := by
  obtain ⟨hs1, hs2⟩ := dispPair_sign B hB m prec r
  rw [fmtRoundCore_eq_bodyG]
  exact bodyG_literal B hB _ _ (orZero_signStr B hB r.signif _ hs1 hs2).1 _ prec (dispPair_exp_ge B m prec r)
    (fun h => by subst h; exact List.ne_nil_of_length_pos (dispStr_none_pos B hB m r))

/-- `{:.p}` prints a literal of the grammar: sign of the value, integer digits and exactly `p`
    fractional digits (no point for `p = 0`), spelling `|R| · B^(−p)` for the rounded integer `R` -/
theorem display_prec_literal (B : Nat) (hB : 2 ≤ B) (m : Mode) (p : Nat) (r : FRepr) :
    ∃ (di : List Nat) (frac : Option (List Nat)),
      fmtRound B m {} (some p) r = renderLiteral false (if r.signif < 0 then some true else none) di frac none ∧
      (∀ d ∈ di, d < B) ∧ (∀ d ∈ frac.getD [], d < B) ∧ di ≠ [] ∧
      (frac.getD []).length = p ∧ (frac.isSome ↔ 0 < p) ∧
      (ofDigits B (di ++ frac.getD []) : ℚ) * bpowQ B (0 - (p : Int)) =
        ((precRounded B m p r).natAbs : ℚ) * bpowQ B (0 - (p : Int)) := by
  obtain ⟨di, frac, hcore, hdi, hdf, hne, hlen, hsome, hval⟩ := fmtRoundCore_literal B hB m (some p) r
  refine ⟨di, frac, ?_, hdi, hdf, hne, hlen, hsome, ?_⟩
  · rw [fmtRound_plain, hcore]
    unfold renderLiteral scaleChars fSign
    by_cases h : r.signif < 0 <;> simp [h, signChars]
  · rw [hval, dispPair_some]
    congr 2
    split
    · simp only [Option.getD_some]
      rw [show ((p : Int) + -(p : Int)).toNat = 0 by omega, pow_zero, Nat.mul_one]
    · rename_i hd
      unfold precRounded
      simp only [hd, if_false, Option.getD_some]
      rw [Int.natAbs_mul, Int.natAbs_natCast]

end Dashu.Model.Text
