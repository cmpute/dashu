import Dashu.Proofs.Text.FloatFixed
import Dashu.Proofs.Text.FloatIsize
/-
  C08 — `Repr::from_str_native` equals the documented grammar `parseFloatSpec` on EVERY byte string:
  all scale markers, the hexadecimal form of base 2, underscores, and every error case.  What a rendered
  literal parses to is then read off the grammar (`spec_literal`), not off the code (`literal_parse`, `literal_exact`);
  with `FloatFixed.display_is_literal` that is the print → parse round trip of `Display`.
-/
namespace Dashu.Model.Text
open Dashu.Model.Float

theorem filter_len (t : List Nat) : (t.filter (· ≠ 95)).length + countUs t = t.length := by
  unfold countUs
  induction t with
  | nil => rfl
  | cons c t ih =>
    by_cases h : c = 95
    · subst h; simp at ih ⊢; omega
    · simp [h] at ih ⊢; omega

theorem digitOf_plus (r : Nat) : digitOf r 43 = none := by simp [digitOf, alnumVal]

/-- `parse_unsigned` (sign rejected, `UBig::from_str_radix`) is the digit-string check of the grammar -/
theorem parseUnsignedPart_eq (W : Nat) (hW : 36 < 2 ^ W) (radix : Nat) (hv : validRadix radix = true) (t : List Nat) :
    parseUnsignedPart W t radix = (chkDigits radix t false).map (ofDigits radix) := by
  have hr := validRadix_iff.mp hv
  unfold parseUnsignedPart chkDigits digitsOnly
  by_cases hnil : t = []
  · subst hnil
    simp only [List.head?_nil, if_true]
    rw [parseRadix_spec W hW]
    simp [parseRadixSpec, hv, splitSign, parseBodySpec, digitValues, Except.map]
  · rw [if_neg hnil]
    cases t with
    | nil => exact absurd rfl hnil
    | cons c t' =>
      by_cases h43 : c = 43
      · subst h43
        have hall : ((43 :: t').all (· == 95)) = false := by simp
        simp only [List.head?_cons, beq_self_eq_true, if_true, hall, Bool.false_eq_true, if_false]
        have : (43 :: t').filter (· ≠ 95) = 43 :: t'.filter (· ≠ 95) := by simp
        rw [this]
        simp [digitValues, digitOf_plus, Except.map]
      · have hhead : ((c :: t').head? == some 43) = false := by simp [h43]
        rw [hhead]
        simp only [Bool.false_eq_true, if_false]
        rw [parseRadix_spec W hW]
        unfold parseRadixSpec
        simp only [hv, Bool.not_true, Bool.false_eq_true, if_false]
        have hsp : splitSign false (c :: t') = (false, c :: t') := by
          unfold splitSign
          split
          · rename_i h; simp at h; rw [h.1, h.2]; rfl
          · rename_i h; simp at h; exact absurd h.1 h43
          · rfl
        rw [hsp]
        simp only []
        unfold parseBodySpec
        by_cases hus : (c :: t').all (· == 95) = true
        · rw [if_pos hus, (all_us_iff _).mp hus]
          simp [digitValues, Except.map]
        · rw [if_neg hus]
          have hne : (c :: t').filter (· ≠ 95) ≠ [] := fun h => hus ((all_us_iff _).mpr h)
          cases hd : digitValues radix ((c :: t').filter (· ≠ 95)) with
          | none => simp [Except.map]
          | some ds =>
            cases ds with
            | nil => exact absurd (List.length_eq_zero_iff.mp (digitValues_length hd).symm) hne
            | cons a l => simp [Except.map, applySign]

/-- an accepted digit string is empty, or has a digit and consists of digits and `_` -/
theorem chkDigits_ok {radix : Nat} {t ds : List Nat} {ae : Bool} (h : chkDigits radix t ae = .ok ds) :
    (t = [] ∧ ds = []) ∨
      (t ≠ [] ∧ t.filter (· ≠ 95) ≠ [] ∧ digitValues radix (t.filter (· ≠ 95)) = some ds) := by
  unfold chkDigits digitsOnly at h
  by_cases hnil : t = []
  · subst hnil
    cases ae <;> simp at h
    exact Or.inl ⟨rfl, h⟩
  · rw [if_neg hnil] at h
    by_cases hus : t.all (· == 95) = true
    · rw [if_pos hus] at h; cases h
    · rw [if_neg hus] at h
      cases hd : digitValues radix (t.filter (· ≠ 95)) with
      | none => rw [hd] at h; cases h
      | some ds' =>
        rw [hd] at h; cases h
        exact Or.inr ⟨hnil, fun h' => hus ((all_us_iff _).mpr h'), rfl⟩

theorem chkDigits_length {radix : Nat} {t ds : List Nat} {ae : Bool} (h : chkDigits radix t ae = .ok ds) :
    ds.length = t.length - countUs t ∧ (ds = [] ↔ t = []) := by
  rcases chkDigits_ok h with ⟨rfl, rfl⟩ | ⟨hnil, hne, hd⟩
  · exact ⟨rfl, Iff.rfl⟩
  · have hl := digitValues_length hd
    have := filter_len t
    refine ⟨by omega, fun h0 => ?_, fun h0 => absurd h0 hnil⟩
    subst h0
    exact absurd (List.length_eq_zero_iff.mp hl.symm) hne

/-- the marker set depends on the prefix only in base 2 -/
theorem isScaleMarker_hex (B : Nat) (hp : Bool) : isScaleMarker B hp = isScaleMarker B (B == 2 && hp) := by
  funext c
  by_cases h2 : B = 2
  · subst h2; simp
  · unfold isScaleMarker; simp [h2]

theorem rfindIdx_some {p : Nat → Bool} {l : List Nat} {i : Nat} (h : rfindIdx p l = some i) :
    i < l.length ∧ p (l.getD i 0) = true := by
  unfold rfindIdx at h
  cases hf : l.reverse.findIdx? p with
  | none => rw [hf] at h; cases h
  | some j =>
    rw [hf] at h
    simp only [Option.some.injEq] at h
    have hj := List.findIdx?_eq_some_iff_getElem.mp hf
    obtain ⟨hjlt, hpj, _⟩ := hj
    rw [List.length_reverse] at hjlt
    have hlt : i < l.length := by omega
    refine ⟨hlt, ?_⟩
    rw [List.getElem_reverse] at hpj
    have : l.length - 1 - j = i := by omega
    rw [List.getD_eq_getElem?_getD, List.getElem?_eq_getElem hlt]
    simp only [Option.getD_some]
    have e : l[l.length - 1 - j]'(by omega) = l[i] := by congr 1
    rw [← e]; exact hpj

theorem chk_ne {r : Nat} {t : List Nat} (a b : Bool) (h : t ≠ []) : chkDigits r t a = chkDigits r t b := by
  unfold chkDigits; simp [h]

theorem chk_nil_true (r : Nat) : chkDigits r [] true = .ok [] := by simp [chkDigits]

/-- the grammar after the sign and the scale part have been removed (the tail of `parseFloatSpec`) -/
def specBody (B : Nat) (hex neg : Bool) (scale : Int) (body : List Nat) : Except ParseError (FRepr × Nat) :=
  let body := if hex then body.drop 2 else body
  let radix := if hex then 16 else B
  let k := if hex then 4 else 1
  let parts := splitAtDot body
  let hasDot := (body.findIdx? (· == 46)).isSome
  if hasDot && body.length = 1 && !hex then .error .noDigits
  else
    match chkDigits radix parts.1 hasDot with
    | .error e => .error e
    | .ok di =>
      match chkDigits radix parts.2 true with
      | .error e => .error e
      | .ok df =>
        if di = [] ∧ df = [] then .error .noDigits
        else .ok (literalValue B radix k neg di df scale)

/-- what `from_str_native` does with the result of the body parser -/
def finishBody (B : Nat) (neg : Bool) (scale : Int) (r : Except ParseError (Nat × Nat × Nat)) :
    Except ParseError (FRepr × Nat) :=
  match r with
  | .error e => .error e
  | .ok (mag, dec, nd) => .ok (FRepr.new B (if neg then -(mag : Int) else (mag : Int)) (scale - (dec : Int)), nd)

theorem validRadix_16 : validRadix 16 = true := by decide

theorem litRadix_valid (B : Nat) (hB : validRadix B = true) (hex : Bool) : validRadix (if hex then 16 else B) = true := by
  cases hex
  · exact hB
  · exact validRadix_16

theorem parseFracPart_eq (W : Nat) (hW : 36 < 2 ^ W) (B : Nat) (hB : validRadix B = true) (hex : Bool)
    (hhex : hex = true → B = 2) (fsrc : List Nat) :
    parseFracPart W B (if hex then 16 else B) fsrc =
      (chkDigits (if hex then 16 else B) fsrc true).map
        (fun df => (ofDigits (if hex then 16 else B) df, df.length * (if hex then 4 else 1))) := by
  have hc : (B == 2 && (if hex then 16 else B) == 16) = hex := by
    cases hex with
    | true => rw [hhex rfl]; rfl
    | false =>
      by_cases h : B = 2
      · subst h; rfl
      · simp [h]
  unfold parseFracPart
  simp only [hc]
  by_cases h0 : fsrc = []
  · subst h0; simp [chk_nil_true, ofDigits_nil, Except.map]
  · rw [if_pos h0, parseUnsignedPart_eq W hW _ (litRadix_valid B hB hex), chk_ne true false h0]
    cases hcd : chkDigits (if hex then 16 else B) fsrc false with
    | error e => simp [Except.map]
    | ok df => cases hex <;> simp [Except.map, (chkDigits_length hcd).1]

/-- the integral part, in either form: the digits stand behind the prefix -/
theorem parseIntPart_eq (W : Nat) (hW : 36 < 2 ^ W) (B : Nat) (hB : validRadix B = true) (hp pm hex : Bool)
    (hhex : (B == 2 && hp) = hex) (hpm : hex = false → pm = false) (body : List Nat) (dot : Nat)
    (hd : dot < body.length) (hd0 : hex = true → dot ≠ 0) :
    parseIntPart W B hp pm body dot =
      (chkDigits (if hex then 16 else B) ((body.take dot).drop (if hex then 2 else 0)) true).map
        (fun di => (ofDigits (if hex then 16 else B) di, (if hex then 4 else 1) * di.length, if hex then 16 else B)) := by
  unfold parseIntPart
  cases hex with
  | true =>
    simp only [hhex, if_true, if_pos (hd0 rfl)]
    by_cases h0 : (body.take dot).drop 2 = []
    · rw [h0]; simp [chk_nil_true, ofDigits_nil, Except.map, countUs]
    · rw [if_neg h0, parseUnsignedPart_eq W hW 16 validRadix_16, chk_ne true false h0]
      cases hc : chkDigits 16 ((body.take dot).drop 2) false with
      | error e => simp [Except.map]
      | ok di => simp [Except.map, (chkDigits_length hc).1]
  | false =>
    simp only [hhex, hpm rfl, Bool.false_eq_true, if_false, Bool.and_false, Bool.false_and, List.drop_zero]
    by_cases h0 : dot = 0
    · subst h0; simp [chk_nil_true, ofDigits_nil, Except.map]
    · have hne : body.take dot ≠ [] := by
        intro h; have := congrArg List.length h
        rw [List.length_take, List.length_nil] at this; omega
      rw [if_pos h0, parseUnsignedPart_eq W hW B hB, chk_ne true false hne]
      cases hc : chkDigits B (body.take dot) false with
      | error e => simp [Except.map]
      | ok di => simp [Except.map, (chkDigits_length hc).1]

/-- **the body parser is the grammar's body**, in the plain form and in the hexadecimal form of base 2
    (`hex`: digits of radix 16 behind a two-byte prefix, four bits each) -/
theorem body_eq (W : Nat) (hW : 36 < 2 ^ W) (B : Nat) (hB : validRadix B = true) (hp pm hex neg : Bool)
    (hhex : (B == 2 && hp) = hex) (hpm : hex = false → pm = false) (scale : Int) (body : List Nat)
    (hpre : hex = true → ∃ x rest, body = 48 :: x :: rest ∧ x ≠ 46) :
    finishBody B neg scale (parseBodyF W B hp pm body) = specBody B hex neg scale body := by
  have hB2 : hex = true → B = 2 := by
    intro h; rw [h] at hhex; simp only [Bool.and_eq_true, beq_iff_eq] at hhex; exact hhex.1
  have hk : 0 < (if hex then 4 else 1) := by cases hex <;> simp
  -- the point is found behind the prefix
  have hfind : body.findIdx? (· == 46) =
      ((body.drop (if hex then 2 else 0)).findIdx? (· == 46)).map (· + (if hex then 2 else 0)) := by
    cases hex with
    | false => simp
    | true =>
      obtain ⟨x, rest, rfl, hx⟩ := hpre rfl
      rw [List.findIdx?_cons, List.findIdx?_cons]
      have h1 : ((48 : Nat) == 46) = false := by decide
      have h3 : (x == 46) = false := by simp [hx]
      simp only [h1, h3, Bool.false_eq_true, if_false, Option.map_map, if_true, List.drop_succ_cons, List.drop_zero]
      congr 1
  have hdrop : (if hex then body.drop 2 else body) = body.drop (if hex then 2 else 0) := by cases hex <;> rfl
  unfold parseBodyF specBody splitAtDot finishBody
  simp only [hdrop, hfind]
  cases hf : (body.drop (if hex then 2 else 0)).findIdx? (· == 46) with
  | none =>
    simp only [Option.map_none, Option.isSome_none, Bool.false_and, Bool.false_eq_true, if_false]
    cases hex with
    | true =>
      simp only [hhex, if_true]
      rw [parseUnsignedPart_eq W hW 16 validRadix_16, chk_nil_true]
      cases hc : chkDigits 16 (body.drop 2) false with
      | error e => simp [Except.map]
      | ok di =>
        have hl := chkDigits_length hc
        have hne : di ≠ [] := fun h0 => by rw [hl.2.mp h0] at hc; simp [chkDigits] at hc
        simp [Except.map, hne, literalValue, ofDigits_nil, hl.1, Nat.mul_comm]
    | false =>
      simp only [hhex, hpm rfl, Bool.false_eq_true, if_false, Bool.and_false, Bool.false_and, List.drop_zero]
      rw [parseUnsignedPart_eq W hW B hB, chk_nil_true]
      cases hc : chkDigits B body false with
      | error e => simp [Except.map]
      | ok di =>
        have hl := chkDigits_length hc
        have hne : di ≠ [] := fun h0 => by rw [hl.2.mp h0] at hc; simp [chkDigits] at hc
        simp [Except.map, hne, literalValue, ofDigits_nil, hl.1]
  | some j =>
    have hj : j < (body.drop (if hex then 2 else 0)).length := (List.findIdx?_eq_some_iff_getElem.mp hf).1
    rw [List.length_drop] at hj
    simp only [Option.map_some, Option.isSome_some, Bool.true_and]
    have hone : (decide ((body.drop (if hex then 2 else 0)).length = 1) && !hex) = decide (body.length = 1) := by
      cases hex with
      | false => simp
      | true => obtain ⟨x, rest, rfl, _⟩ := hpre rfl; simp
    rw [hone]
    by_cases h1 : body.length = 1
    · simp [h1]
    · simp only [h1, if_false, decide_false, Bool.false_eq_true]
      rw [parseIntPart_eq W hW B hB hp pm hex hhex hpm body _ (by omega) (by intro h; simp [h]), List.drop_take,
        Nat.add_sub_cancel]
      cases hci : chkDigits (if hex then 16 else B) ((body.drop (if hex then 2 else 0)).take j) true with
      | error e => simp [Except.map]
      | ok di =>
        simp only [Except.map]
        have hdd : body.drop (j + (if hex then 2 else 0) + 1) = (body.drop (if hex then 2 else 0)).drop (j + 1) := by
          rw [List.drop_drop]; congr 1; omega
        rw [parseFracPart_eq W hW B hB hex hB2, hdd]
        cases hcf : chkDigits (if hex then 16 else B) ((body.drop (if hex then 2 else 0)).drop (j + 1)) true with
        | error e => simp [Except.map]
        | ok df =>
          simp only [Except.map]
          have hz : ((if hex then 4 else 1) * di.length + df.length * (if hex then 4 else 1) = 0) ↔ (di = [] ∧ df = []) := by
            rw [← List.length_eq_zero_iff, ← List.length_eq_zero_iff, Nat.mul_comm, ← Nat.add_mul]
            constructor
            · intro h; have := (Nat.mul_eq_zero.mp h).resolve_right (by omega); omega
            · intro h; rw [h.1, h.2, Nat.zero_mul]
          by_cases hnn : di = [] ∧ df = []
          · rw [if_pos (hz.mpr hnn), if_pos hnn]
          · rw [if_neg (fun h => hnn (hz.mp h)), if_neg hnn]
            unfold literalValue
            have harith : (if hex then 4 else 1) * di.length + df.length * (if hex then 4 else 1) =
                (di.length + df.length) * (if hex then 4 else 1) := by rw [Nat.mul_comm, Nat.add_mul]
            rw [harith]
            by_cases hfv : ofDigits (if hex then 16 else B) df = 0
            · simp [hfv]
            · simp [hfv]

-- ---------------------------------------------------------------- both sides along the scale part

theorem splitScale_hex (B : Nat) (hp : Bool) (src : List Nat) :
    splitScale B hp src = splitScale B (B == 2 && hp) src := by
  unfold splitScale; rw [isScaleMarker_hex]

/-- `from_str_native`: sign, scale part (`splitScale`), body -/
theorem fromStrNative_stages (W B : Nat) (s : List Nat) :
    fromStrNative W B s =
      match splitScale B (hasHexPrefix (stripSignF s).2) (stripSignF s).2 with
      | .error e => .error e
      | .ok (v, pm, body) =>
        finishBody B (stripSignF s).1 v (parseBodyF W B (hasHexPrefix (stripSignF s).2) pm body) := by
  unfold fromStrNative fromStrNativeRaw finishBody
  dsimp only
  cases splitScale B (hasHexPrefix (stripSignF s).2) (stripSignF s).2 with
  | error e => rfl
  | ok t =>
    obtain ⟨v, pm, body⟩ := t
    dsimp only
    cases parseBodyF W B (hasHexPrefix (stripSignF s).2) pm body <;> rfl

/-- the grammar: sign, scale part (the same `splitScale`), body -/
theorem parseFloatSpec_stages (B : Nat) (s : List Nat) :
    parseFloatSpec B s =
      match splitScale B (B == 2 && hasHexPrefix (stripSignF s).2) (stripSignF s).2 with
      | .error e => .error e
      | .ok (v, _, body) => specBody B (B == 2 && hasHexPrefix (stripSignF s).2) (stripSignF s).1 v body := by
  unfold parseFloatSpec splitScale specBody
  dsimp only
  cases rfindIdx (isScaleMarker B (B == 2 && hasHexPrefix (stripSignF s).2)) (stripSignF s).2 with
  | none => rfl
  | some pos =>
    dsimp only
    cases parseIsize 64 ((stripSignF s).2.drop (pos + 1)) <;> rfl

-- ---------------------------------------------------------------- facts about the prefix and the markers

theorem hasHexPrefix_shape {src : List Nat} (h : hasHexPrefix src = true) :
    ∃ x rest, src = 48 :: x :: rest ∧ (x = 120 ∨ x = 88) := by
  unfold hasHexPrefix at h
  match src, h with
  | [], h => simp at h
  | [_], h => simp at h
  | a :: x :: rest, h =>
    simp at h
    refine ⟨x, rest, ?_, ?_⟩
    · rcases h with h | h <;> rw [h.1]
    · rcases h with h | h
      · exact Or.inl h.2
      · exact Or.inr h.2

/-- with the prefix, the last marker (`p P @`) lies behind the prefix -/
theorem marker_after_prefix {x : Nat} {rest : List Nat} (hx : x = 120 ∨ x = 88) {pos : Nat}
    (h : rfindIdx (isScaleMarker 2 true) (48 :: x :: rest) = some pos) : 2 ≤ pos := by
  obtain ⟨_, hp⟩ := rfindIdx_some h
  match pos, hp with
  | 0, hp => simp [isScaleMarker] at hp
  | 1, hp => rcases hx with hx | hx <;> subst hx <;> simp [isScaleMarker] at hp
  | n + 2, _ => omega

/-- the `p` marker only exists with the prefix -/
theorem pmarker_false (B : Nat) (hp : Bool) (hhex : (B == 2 && hp) = false) (src : List Nat) (pos : Nat)
    (h : rfindIdx (isScaleMarker B (B == 2 && hp)) src = some pos) :
    (B == 2 && (src.getD pos 0 == 112 || src.getD pos 0 == 80)) = false := by
  by_cases h2 : B = 2
  · subst h2
    have hpf : hp = false := by simpa using hhex
    subst hpf
    obtain ⟨_, hm⟩ := rfindIdx_some h
    generalize src.getD pos 0 = c at hm ⊢
    simp [isScaleMarker] at hm
    rcases hm with (hm | hm) | hm <;> subst hm <;> rfl
  · simp [h2]

-- ---------------------------------------------------------------- the equivalence

/-- **`from_str_native` is the documented grammar, on every byte string** -/
theorem fromStrNative_eq_spec (W : Nat) (hW : 36 < 2 ^ W) (B : Nat) (hB : validRadix B = true)
    (src0 : List Nat) : fromStrNative W B src0 = parseFloatSpec B src0 := by
  rw [fromStrNative_stages, parseFloatSpec_stages, splitScale_hex]
  generalize (stripSignF src0).2 = src
  generalize (stripSignF src0).1 = neg
  cases h : splitScale B (B == 2 && hasHexPrefix src) src with
  | error e => rfl
  | ok t =>
    obtain ⟨v, pm, body⟩ := t
    have hshape : (B == 2 && hasHexPrefix src) = true → ∃ x rest, src = 48 :: x :: rest ∧ (x = 120 ∨ x = 88) :=
      fun h => hasHexPrefix_shape ((Bool.and_eq_true _ _).mp h).2
    rcases (splitScale_ok_iff _ _ _ _ _ _).mp h with ⟨_, _, rfl, rfl⟩ | ⟨pos, hr, _, rfl, rfl⟩
    · refine body_eq W hW B hB _ false _ neg rfl (fun _ => rfl) v _ (fun h => ?_)
      obtain ⟨x, rest, hs, hx⟩ := hshape h
      exact ⟨x, rest, hs, by rcases hx with h | h <;> omega⟩
    · refine body_eq W hW B hB _ _ _ neg rfl (fun h => pmarker_false B (hasHexPrefix src) h src pos hr) v _
        (fun h => ?_)
      -- with the prefix, the marker stands behind it
      obtain ⟨x, rest, hs, hx⟩ := hshape h
      obtain rfl : B = 2 := by simpa using ((Bool.and_eq_true _ _).mp h).1
      rw [h, hs] at hr
      have hpos := marker_after_prefix hx hr
      obtain ⟨n, rfl⟩ : ∃ n, pos = n + 2 := ⟨pos - 2, by omega⟩
      exact ⟨x, rest.take n, by rw [hs]; rfl, by rcases hx with h | h <;> omega⟩

theorem parseFloatSpec_ok_body {B : Nat} {s : List Nat} {res : FRepr × Nat} (h : parseFloatSpec B s = .ok res) :
    ∃ scale body, specBody B (B == 2 && hasHexPrefix (stripSignF s).2) (stripSignF s).1 scale body = .ok res := by
  rw [parseFloatSpec_stages] at h
  split at h
  · cases h
  · exact ⟨_, _, h⟩

-- ---------------------------------------------------------------- what an accepted literal denotes

theorem chkDigits_lt {radix : Nat} {t ds : List Nat} {ae : Bool} (h : chkDigits radix t ae = .ok ds) :
    ∀ d ∈ ds, d < radix := by
  rcases chkDigits_ok h with ⟨_, rfl⟩ | ⟨_, _, hd⟩
  · simp
  · exact digitValues_lt hd

/-- the value of a literal: `±(digits of int ++ frac in the radix) · B^(scale − |frac|·k)`, exactly -/
theorem literalValue_value (B radix k : Nat) (hB : 2 ≤ B) (hrk : radix = B ^ k) (neg : Bool)
    (di df : List Nat) (scale : Int) :
    (literalValue B radix k neg di df scale).1.toRat B =
        (if neg then -1 else 1) * (ofDigits radix (di ++ df) : ℚ) *
          bpowQ B (scale - ((df.length * k : Nat) : Int)) ∧
      (literalValue B radix k neg di df scale).2 = (di.length + df.length) * k := by
  refine ⟨?_, rfl⟩
  unfold literalValue
  simp only
  rw [FRepr.new_value B (by omega), ofDigits_append]
  have hpow : radix ^ df.length = B ^ (df.length * k) := by
    rw [hrk, ← Nat.pow_mul, Nat.mul_comm]
  rw [hpow]
  by_cases hfv : ofDigits radix df = 0
  · simp only [hfv, if_true, Nat.add_zero]
    have hsplit : scale = ((df.length * k : Nat) : Int) + (scale - ((df.length * k : Nat) : Int)) := by omega
    conv_lhs => rw [hsplit]
    rw [bpowQ_add B (by omega), bpowQ_nat]
    cases neg <;> simp <;> ring
  · simp only [hfv, if_false]
    cases neg <;> simp

theorem specBody_ok {B : Nat} {hex neg : Bool} {scale : Int} {body : List Nat} {res : FRepr × Nat}
    (h : specBody B hex neg scale body = .ok res) :
    ∃ di df : List Nat, (∀ d ∈ di ++ df, d < (if hex then 16 else B)) ∧ di ++ df ≠ [] ∧
      res = literalValue B (if hex then 16 else B) (if hex then 4 else 1) neg di df scale := by
  unfold specBody at h
  cases hex <;> simp only [Bool.false_eq_true, if_false, if_true] at h ⊢
  all_goals
    split at h
    · cases h
    · split at h
      · cases h
      · rename_i di hdi
        split at h
        · cases h
        · rename_i df hdf
          split at h
          · cases h
          · rename_i hne
            simp only [Except.ok.injEq] at h
            refine ⟨di, df, ?_, ?_, h.symm⟩
            · intro d hd
              rcases List.mem_append.mp hd with hd | hd
              · exact chkDigits_lt hdi d hd
              · exact chkDigits_lt hdf d hd
            · intro h0
              exact hne (List.append_eq_nil_iff.mp h0)

/-- every accepted string denotes exactly the number its digits spell, and the precision is the digit
    count (four bits per hexadecimal digit) -/
theorem spec_ok_denotes (B : Nat) (hB : validRadix B = true) (s : List Nat) (r : FRepr) (p : Nat)
    (h : parseFloatSpec B s = .ok (r, p)) :
    ∃ (neg hex : Bool) (di df : List Nat) (scale : Int), (hex = true → B = 2) ∧
      (∀ d ∈ di ++ df, d < (if hex then 16 else B)) ∧ di ++ df ≠ [] ∧
      p = (di.length + df.length) * (if hex then 4 else 1) ∧
      r.toRat B = (if neg then -1 else 1) * (ofDigits (if hex then 16 else B) (di ++ df) : ℚ) *
        bpowQ B (scale - ((df.length * (if hex then 4 else 1) : Nat) : Int)) := by
  have hr := validRadix_iff.mp hB
  obtain ⟨scale, body, hk⟩ := parseFloatSpec_ok_body h
  obtain ⟨di, df, hlt, hne, hres⟩ := specBody_ok hk
  generalize hhex : (B == 2 && hasHexPrefix (stripSignF s).2) = hex at *
  have hB2 : hex = true → B = 2 := by
    intro hx; subst hx; simp at hhex; exact hhex.1
  have hrk : (if hex then 16 else B) = B ^ (if hex then 4 else 1) := by
    cases hex
    · simp
    · rw [hB2 rfl]; rfl
  have hv := literalValue_value B _ _ hr.1 hrk (stripSignF s).1 di df scale
  rw [← hres] at hv
  exact ⟨(stripSignF s).1, hex, di, df, scale, hB2, hlt, hne, hv.2, hv.1⟩

-- ---------------------------------------------------------------- rendered literals

theorem isScaleMarker_hexdigit (up : Bool) (d : Nat) (hd : d < 16) :
    isScaleMarker 2 true (digitChar up d) = false := by
  have hc := digitChar_cases up d (by omega)
  unfold isScaleMarker
  simp; omega

/-- a non-empty string of digit characters is a digit string of the grammar -/
theorem chkDigits_chars (radix : Nat) (hr : radix ≤ 36) (up : Bool) (ds : List Nat) (hds : ∀ d ∈ ds, d < radix)
    (hne : ds ≠ []) (ae : Bool) : chkDigits radix (chars up ds) ae = .ok ds := by
  have h36 : ∀ d ∈ ds, d < 36 := fun d hd => by have := hds d hd; omega
  have hf := filter_us_map up ds h36
  have hcne : chars up ds ≠ [] := fun h => hne (chars_eq_nil.mp h)
  unfold chkDigits digitsOnly
  rw [if_neg hcne]
  have hall : ¬ ((chars up ds).all (· == 95) = true) := by
    rw [all_us_iff]; unfold chars; rw [hf]; exact hcne
  rw [if_neg hall]
  unfold chars
  rw [hf, digitValues_map radix up hr ds hds]

theorem litRadix_le (B : Nat) (hB : B ≤ 36) (hex : Bool) : (if hex then 16 else B) ≤ 36 := by
  cases hex <;> simp <;> omega

/-- text of the scale part: a marker and a decimal exponent -/
def scaleText : Option (Nat × Int) → List Nat
  | none => []
  | some (c, z) => c :: printSpecInt 10 false z

/-- digit characters, none at all where the grammar lets the part be empty -/
theorem chkDigits_chars_opt (radix : Nat) (hr : radix ≤ 36) (up : Bool) (ds : List Nat)
    (hds : ∀ d ∈ ds, d < radix) : chkDigits radix (chars up ds) true = .ok ds := by
  by_cases hne : ds = []
  · subst hne; exact chk_nil_true radix
  · exact chkDigits_chars radix hr up ds hds hne true

/-- the body `[0x] int [. frac]` of a literal, sign and scale part removed -/
theorem specBody_literal (B : Nat) (hB36 : B ≤ 36) (up hex neg : Bool) (x : Nat) (z : Int) (di : List Nat)
    (frac : Option (List Nat))
    (hdi : ∀ d ∈ di, d < (if hex then 16 else B)) (hdf : ∀ d ∈ frac.getD [], d < (if hex then 16 else B))
    (hne : di ≠ [] ∨ frac.getD [] ≠ []) :
    specBody B hex neg z ((if hex then [48, x] else []) ++ (chars up di ++ fracChars up frac)) =
      .ok (literalValue B (if hex then 16 else B) (if hex then 4 else 1) neg di (frac.getD []) z) := by
  have hrad := litRadix_le B hB36 hex
  have hbd : (if hex then ((if hex then [48, x] else []) ++ (chars up di ++ fracChars up frac)).drop 2
      else (if hex then [48, x] else []) ++ (chars up di ++ fracChars up frac)) =
      chars up di ++ fracChars up frac := by
    cases hex <;> rfl
  unfold specBody
  simp only [hbd]
  cases frac with
  | none =>
    have hdine : di ≠ [] := by simpa using hne
    simp only [fracChars, List.append_nil, Option.getD_none]
    have hnd : (chars up di).findIdx? (· == 46) = none := findIdx?_none _ (chars_no_dot up di)
    unfold splitAtDot
    simp only [hnd, Option.isSome_none, Bool.false_and, Bool.false_eq_true, if_false]
    rw [chkDigits_chars _ hrad up di hdi hdine false, chk_nil_true]
    simp only [hdine, false_and, if_false]
  | some df =>
    simp only [Option.getD_some, fracChars] at hdf hne ⊢
    have hnd : (chars up di ++ 46 :: chars up df).findIdx? (· == 46) = some (chars up di).length :=
      findIdx?_append_hit _ 46 _ (chars_no_dot up di) (by simp)
    have hlen : ¬ ((chars up di ++ 46 :: chars up df).length = 1) := by
      simp only [List.length_append, List.length_cons, chars_length]
      rcases hne with h | h <;> have := List.length_pos_of_ne_nil h <;> omega
    unfold splitAtDot
    simp only [hnd, Option.isSome_some, Bool.true_and, hlen, decide_false, Bool.false_and, Bool.false_eq_true,
      if_false]
    have ht : (chars up di ++ 46 :: chars up df).take (chars up di).length = chars up di := List.take_left' rfl
    have hd : (chars up di ++ 46 :: chars up df).drop ((chars up di).length + 1) = chars up df := by
      rw [← List.drop_drop, List.drop_left']; rfl; rfl
    rw [ht, hd, chkDigits_chars_opt _ hrad up di hdi, chkDigits_chars_opt _ hrad up df hdf]
    have hnn : ¬ (di = [] ∧ df = []) := by
      rintro ⟨h1, h2⟩; rcases hne with h | h
      · exact h h1
      · exact h h2
    simp only [hnn, if_false]

/-- the scale split of a rendered literal: the marker written is the last one, the exponent text an `isize` -/
theorem splitScale_literal (B : Nat) (hex : Bool) (pb : List Nat) (scale : Option (Nat × Int))
    (hpb : ∀ x ∈ pb, isScaleMarker B hex x = false)
    (hs : ∀ c z, scale = some (c, z) → isScaleMarker B hex c = true ∧ -(2 ^ 63 : Int) ≤ z ∧ z < (2 ^ 63 : Int)) :
    ∃ pm, splitScale B hex (pb ++ scaleText scale) = .ok ((scale.map (·.2)).getD 0, pm, pb) := by
  cases scale with
  | none =>
    exact ⟨false, (splitScale_ok_iff _ _ _ _ _ _).mpr (.inl ⟨rfindIdx_none _ (by simpa [scaleText] using hpb), rfl, rfl,
      by simp [scaleText]⟩)⟩
  | some p =>
    obtain ⟨c, z⟩ := p
    obtain ⟨hc, hlo, hhi⟩ := hs c z rfl
    refine ⟨_, (splitScale_ok_iff _ _ _ _ _ _).mpr (.inr ⟨pb.length,
      rfindIdx_hit pb c _ (fun x hx => isScaleMarker_dec B hex x (printSpecInt10_chars z x hx)) hc, ?_, rfl,
      (List.take_left' rfl).symm⟩)⟩
    rw [scaleText, ← List.drop_drop, List.drop_left' rfl]
    exact isizeText_printSpecInt 64 z (by simpa using hlo) (by simpa using hhi)

/-- **a literal is read exactly**: `[sign] [0x] int [. frac] [marker decimal]` — `int`, `frac` not both
    empty, digits of the radix (16 behind the prefix, base 2 only; else `B`), `marker` any scale marker of
    the base, the exponent any `isize` — is accepted by the documented grammar with the value
    `literalValue` -/
theorem spec_literal (B : Nat) (hB : validRadix B = true) (up hex : Bool) (hhex : hex = true → B = 2)
    (x : Nat) (hx : x = 120 ∨ x = 88)
    (sign : Option Bool) (di : List Nat) (frac : Option (List Nat)) (scale : Option (Nat × Int))
    (hdi : ∀ d ∈ di, d < (if hex then 16 else B)) (hdf : ∀ d ∈ frac.getD [], d < (if hex then 16 else B))
    (hne : di ≠ [] ∨ frac.getD [] ≠ [])
    (hs : ∀ c z, scale = some (c, z) → isScaleMarker B hex c = true ∧ -(2 ^ 63 : Int) ≤ z ∧ z < (2 ^ 63 : Int)) :
    parseFloatSpec B (signChars sign ++ ((if hex then [48, x] else []) ++
        (chars up di ++ fracChars up frac) ++ scaleText scale)) =
      .ok (literalValue B (if hex then 16 else B) (if hex then 4 else 1) (sign == some true) di (frac.getD [])
        ((scale.map (·.2)).getD 0)) := by
  have hr := validRadix_iff.mp hB
  have hlit := specBody_literal B hr.2 up hex (sign == some true) x ((scale.map (·.2)).getD 0) di frac hdi hdf hne
  generalize hbody : chars up di ++ fracChars up frac = body at hlit ⊢
  generalize hpre : (if hex then [48, x] else ([] : List Nat)) = pre at hlit ⊢
  -- characters of the body: the point or a digit character
  have hbody_chars : ∀ x ∈ body, x = 46 ∨ ∃ d, d < (if hex then 16 else B) ∧ x = digitChar up d := by
    intro x hx; rw [← hbody] at hx
    rcases List.mem_append.mp hx with h | h
    · obtain ⟨d, hd, rfl⟩ := chars_mem h; exact Or.inr ⟨d, hdi d hd, rfl⟩
    · cases frac with
      | none => simp [fracChars] at h
      | some df =>
        simp only [fracChars, List.mem_cons] at h
        rcases h with h | h
        · exact Or.inl h
        · obtain ⟨d, hd, rfl⟩ := chars_mem h; exact Or.inr ⟨d, hdf d (by simpa using hd), rfl⟩
  have hbody_ne : body ≠ [] := by
    rw [← hbody]
    rcases hne with h | h
    · intro h0; exact h (chars_eq_nil.mp (List.append_eq_nil_iff.mp h0).1)
    · cases frac with
      | none => exact absurd rfl h
      | some df => simp [fracChars]
  -- the scale part holds no 'x' 'X'
  have hst_x : ∀ x ∈ scaleText scale, x ≠ 120 ∧ x ≠ 88 := by
    intro x hx
    cases scale with
    | none => simp [scaleText] at hx
    | some p =>
      obtain ⟨c, z⟩ := p
      simp only [scaleText, List.mem_cons] at hx
      rcases hx with h | h
      · rw [h]; exact (isScaleMarker_ge (hs c z rfl).1).2
      · have := printSpecInt10_chars z x h; omega
  have hpb_ge : ∀ x ∈ pre ++ body, 46 ≤ x := by
    intro x hx
    rcases List.mem_append.mp hx with h | h
    · rw [← hpre] at h; cases hex <;> simp at h; omega
    · rcases hbody_chars x h with h | ⟨d, _, h⟩
      · omega
      · have := digitChar_ge up d; omega
  -- the sign
  have hsign := stripSignF_sign sign (pre ++ body ++ scaleText scale) (fun _ => .of_head (by
    intro x hx
    cases hpb : pre ++ body with
    | nil => exact absurd (List.append_eq_nil_iff.mp hpb).2 hbody_ne
    | cons a t =>
      have ha := hpb_ge a (by rw [hpb]; simp)
      rw [hpb] at hx; simp at hx; omega))
  -- the prefix flag
  have hflag : (B == 2 && hasHexPrefix (pre ++ body ++ scaleText scale)) = hex := by
    cases hex with
    | true =>
      rw [hhex rfl, ← hpre]; rcases hx with rfl | rfl <;> rfl
    | false =>
      rw [← hpre]
      by_cases h2 : B = 2
      · subst h2
        simp only [beq_self_eq_true, Bool.true_and]
        apply hasHexPrefix_false
        intro x hx
        rcases List.mem_append.mp hx with h | h
        · rcases hbody_chars x h with h | ⟨d, hd, h⟩
          · omega
          · simp only [Bool.false_eq_true, if_false] at hd
            unfold digitChar at h; have : d < 10 := by omega
            simp [this] at h; omega
        · exact hst_x x h
      · simp [h2]
  -- no marker inside prefix and body
  have hpb : ∀ x ∈ pre ++ body, isScaleMarker B hex x = false := by
    intro x hx
    rcases List.mem_append.mp hx with h | h
    · cases hex with
      | true =>
        rw [← hpre] at h; rw [hhex rfl]
        simp at h; rcases h with h | h
        · subst h; simp [isScaleMarker]
        · subst h; rcases hx with rfl | rfl <;> simp [isScaleMarker]
      | false => rw [← hpre] at h; simp at h
    · rcases hbody_chars x h with h | ⟨d, hd, h⟩
      · subst h; exact isScaleMarker_dot B hex
      · subst h
        cases hex with
        | true => rw [hhex rfl]; exact isScaleMarker_hexdigit up d (by simpa using hd)
        | false => exact isScaleMarker_digitChar B hr.2 up d (by simpa using hd)
  have hsrc : (stripSignF (signChars sign ++ (pre ++ body ++ scaleText scale))).2 = pre ++ body ++ scaleText scale := by
    rw [hsign]
  have hneg : (stripSignF (signChars sign ++ (pre ++ body ++ scaleText scale))).1 = (sign == some true) := by
    rw [hsign]
  obtain ⟨pm, hsp⟩ := splitScale_literal B hex (pre ++ body) scale hpb hs
  rw [parseFloatSpec_stages, hsrc, hneg, hflag, hsp]
  exact hlit

/-- **a rendered literal parses to the number written**, in the plain and in the hexadecimal form: the value is
    `±(int ++ frac)_radix · B^(scale − |frac|·k)`, the precision `(|int| + |frac|)·k` -/
theorem literal_parse (W : Nat) (hW : 36 < 2 ^ W) (B : Nat) (hB : validRadix B = true) (up hex : Bool)
    (hhex : hex = true → B = 2) (x : Nat) (hx : x = 120 ∨ x = 88)
    (sign : Option Bool) (di : List Nat) (frac : Option (List Nat)) (scale : Option (Nat × Int))
    (hdi : ∀ d ∈ di, d < (if hex then 16 else B)) (hdf : ∀ d ∈ frac.getD [], d < (if hex then 16 else B))
    (hne : di ≠ [] ∨ frac.getD [] ≠ [])
    (hs : ∀ c z, scale = some (c, z) → isScaleMarker B hex c = true ∧ -(2 ^ 63 : Int) ≤ z ∧ z < (2 ^ 63 : Int)) :
    ∃ r : FRepr,
      fromStrNative W B (signChars sign ++ ((if hex then [48, x] else []) ++
          (chars up di ++ fracChars up frac) ++ scaleText scale)) =
        .ok (r, (di.length + (frac.getD []).length) * (if hex then 4 else 1)) ∧
      r.toRat B = (if sign = some true then -1 else 1) *
        (ofDigits (if hex then 16 else B) (di ++ frac.getD []) : ℚ) *
        bpowQ B ((scale.map (·.2)).getD 0 - (((frac.getD []).length * (if hex then 4 else 1) : Nat) : Int)) := by
  have hr := validRadix_iff.mp hB
  have hrk : (if hex then 16 else B) = B ^ (if hex then 4 else 1) := by
    cases hex with
    | false => simp
    | true => rw [hhex rfl]; rfl
  obtain ⟨hv, hp⟩ := literalValue_value B _ _ hr.1 hrk (sign == some true) di (frac.getD [])
    ((scale.map (·.2)).getD 0)
  refine ⟨(literalValue B (if hex then 16 else B) (if hex then 4 else 1) (sign == some true) di (frac.getD [])
    ((scale.map (·.2)).getD 0)).1, ?_, ?_⟩
  · rw [fromStrNative_eq_spec W hW B hB, spec_literal B hB up hex hhex x hx sign di frac scale hdi hdf hne hs, ← hp]
  · rw [hv]; simp

/-- **grammar ⇒ exact value, precision = number of written digits.**  A literal
    `[sign] int [. frac] [@ scale]` of base `B` (digits in either letter case; `int`/`frac` not both
    empty; `scale` any `isize`) parses to the float `±(int·B^|frac| + frac)·B^(scale − |frac|)` — as a
    rational number, exactly — and the precision is `|int| + |frac|`. -/
theorem literal_exact (W : Nat) (hW : 36 < 2 ^ W) (B : Nat) (hB : validRadix B = true) (up : Bool)
    (sign : Option Bool) (di : List Nat) (frac : Option (List Nat)) (scale : Option Int)
    (hdi : ∀ d ∈ di, d < B) (hdf : ∀ d ∈ frac.getD [], d < B) (hne : di ≠ [] ∨ frac.getD [] ≠ [])
    (hs : ∀ z, scale = some z → -(2 ^ 63 : Int) ≤ z ∧ z < (2 ^ 63 : Int)) :
    ∃ r : FRepr, fromStrNative W B (renderLiteral up sign di frac scale) =
        .ok (r, di.length + (frac.getD []).length) ∧
      r.toRat B = (if sign = some true then -1 else 1) * (ofDigits B (di ++ frac.getD []) : ℚ) *
        bpowQ B (scale.getD 0 - ((frac.getD []).length : Int)) := by
  obtain ⟨r, hparse, hv⟩ := literal_parse W hW B hB up false (by simp) 120 (Or.inl rfl) sign di frac
    (scale.map (fun z => (64, z))) hdi hdf hne
    (by
      intro c z hcz
      cases scale with
      | none => cases hcz
      | some z' => cases hcz; exact ⟨isScaleMarker_at B false, hs _ rfl⟩)
  have htext : scaleText (scale.map (fun z => (64, z))) = scaleChars scale := by cases scale <;> rfl
  have hsc : ((scale.map (fun z => ((64 : Nat), z))).map (·.2)).getD 0 = scale.getD 0 := by cases scale <;> rfl
  rw [htext] at hparse
  rw [hsc] at hv
  refine ⟨r, ?_, ?_⟩
  · unfold renderLiteral
    simpa using hparse
  · simpa using hv

/-- **print → parse round trip**: the text `Display` prints for a finite float (no precision
    option) parses back, in the same base, to a float with exactly the same value — every base 2..36,
    every rounding mode, every significand and exponent -/
theorem display_parse_round_trip (W : Nat) (hW : 36 < 2 ^ W) (B : Nat) (hB : validRadix B = true)
    (m : Mode) (r : FRepr) :
    ∃ (r' : FRepr) (n : Nat), fromStrNative W B (fmtRound B m {} none r) = .ok (r', n) ∧
      r'.toRat B = r.toRat B := by
  have hr := validRadix_iff.mp hB
  obtain ⟨di, frac, htext, hdi, hdf, hne, hval⟩ := display_is_literal B hr.1 m r
  obtain ⟨r', hparse, hv⟩ := literal_exact W hW B hB false _ di frac none hdi hdf hne (by intro z h; cases h)
  refine ⟨r', _, by rw [htext]; exact hparse, ?_⟩
  rw [hv]
  simp only [Option.getD_none]
  unfold FRepr.toRat
  rw [mul_assoc, hval, ← mul_assoc, sign_mul_natAbs (s := r.signif) (by simp) (fun h => by omega) id]

end Dashu.Model.Text
