import Dashu.Model.Text.FmtLow
import Dashu.Proofs.Text.CapacityParse
/-
  C07 — proofs for `Model/Text/FmtLow.lean`:
  * `PreMulInv1by1::new` never fails a check for `2 ≤ d < 2^W` and `div_rem` is exact floor division
    for every word (Granlund–Montgomery 4.1), no overflow;
  * the SWAR chunk conversion equals the per-byte conversion for every lane and every digit < 36;
  * the `DigitWriter` with the real `flush` equals the per-byte writer;
  * the printers on the mirrored division equal the number-level printers.
-/
namespace Dashu.Model.Text

-- ---------------------------------------------------------------- FastDivideSmall

/-- the arithmetic heart: if `d·M = N·B + k` with `1 ≤ k ≤ N`, then `⌊M·a / (B·N)⌋ = ⌊a/d⌋` for `a < B` -/
theorem premul_key (B N d a M k : Nat) (hd : 0 < d) (hN : 0 < N)
    (hM : d * M = N * B + k) (hkN : k ≤ N) (ha : a < B) :
    M * a / (B * N) = a / d := by
  apply Nat.div_eq_of_lt_le
  · -- (a/d)·(B·N) ≤ M·a
    apply Nat.le_of_mul_le_mul_left _ hd
    have h1 : d * (M * a) = (N * B + k) * a := by rw [← Nat.mul_assoc, hM]
    rw [h1]
    have h2 : d * (a / d) ≤ a := Nat.mul_div_le a d
    calc d * (a / d * (B * N)) = (d * (a / d)) * (B * N) := by ring
      _ ≤ a * (B * N) := Nat.mul_le_mul_right _ h2
      _ = N * B * a := by ring
      _ ≤ (N * B + k) * a := Nat.mul_le_mul_right _ (Nat.le_add_right _ _)
  · -- M·a < (a/d + 1)·(B·N)
    apply Nat.lt_of_mul_lt_mul_left (a := d)
    have h1 : d * (M * a) = (N * B + k) * a := by rw [← Nat.mul_assoc, hM]
    rw [h1]
    have h2 : a < d * (a / d + 1) := by
      have := Nat.div_add_mod a d
      have := Nat.mod_lt a hd
      rw [Nat.mul_add]; omega
    have h3 : k * a < N * B := by
      calc k * a ≤ N * a := Nat.mul_le_mul_right _ hkN
        _ < N * B := Nat.mul_lt_mul_of_pos_left ha hN
    have h4 : a + 1 ≤ d * (a / d + 1) := h2
    calc (N * B + k) * a = N * B * a + k * a := by ring
      _ < N * B * a + N * B := by omega
      _ = N * B * (a + 1) := by ring
      _ ≤ N * B * (d * (a / d + 1)) := Nat.mul_le_mul_left _ h4
      _ = d * ((a / d + 1) * (B * N)) := by ring

/-- `n = bitLen (d − 1)` is `⌈log₂ d⌉`: `2^(n−1) < d ≤ 2^n`, `1 ≤ n ≤ W` -/
theorem ceilLog_bounds (W d : Nat) (hd : 2 ≤ d) (hdW : d < 2 ^ W) :
    let n := bitLen (d - 1)
    1 ≤ n ∧ n ≤ W ∧ 2 ^ (n - 1) < d ∧ d ≤ 2 ^ n := by
  have hne : d - 1 ≠ 0 := by omega
  have hs := bitLen_spec hne
  have hle : bitLen (d - 1) ≤ W := bitLen_le_iff.mpr (by omega)
  have hpos : 1 ≤ bitLen (d - 1) := by simp [bitLen, hne]
  exact ⟨hpos, hle, by omega, by omega⟩

theorem wordOnes_eq (W n : Nat) (hn : n ≤ W) : wordOnes W n = 2 ^ n - 1 := by
  unfold wordOnes
  split
  · next h0 => rw [h0]; rfl
  · apply Nat.eq_of_testBit_eq
    intro i
    rw [Nat.testBit_shiftRight, Nat.testBit_two_pow_sub_one, Nat.testBit_two_pow_sub_one]
    exact decide_eq_decide.mpr (by omega)

/-- the quotient `⌊c·B / d⌋` of a `c < d < B` leaves room for `+ 1` in a word -/
theorem recip_succ_lt (B d c : Nat) (hc : c < d) (hd : d < B) : c * B / d + 1 < B := by
  obtain ⟨d, rfl⟩ : ∃ k, d = k + 1 := ⟨d - 1, by omega⟩
  obtain ⟨B, rfl⟩ : ∃ k, B = k + 1 := ⟨B - 1, by omega⟩
  rw [Nat.add_lt_add_iff_right, Nat.div_lt_iff_lt_mul (Nat.succ_pos d)]
  calc c * (B + 1) ≤ d * (B + 1) := Nat.mul_le_mul_right _ (Nat.le_of_lt_succ hc)
    _ = B * d + d := by ring
    _ < B * d + B := by omega
    _ = B * (d + 1) := by ring

/-- what `PreMulInv1by1::new` returns, in closed form -/
theorem premul_new_eq (W d : Nat) (hd : 2 ≤ d) (hdW : d < 2 ^ W) :
    PreMulInv1by1.new W d =
      .ok ⟨(2 ^ bitLen (d - 1) - d) * 2 ^ W / d + 1, bitLen (d - 1) - 1⟩ ∧
    (2 ^ bitLen (d - 1) - d) * 2 ^ W / d + 1 < 2 ^ W := by
  obtain ⟨hn1, hnW, hlo, hhi⟩ := ceilLog_bounds W d hd hdW
  have hdouble : 2 ^ bitLen (d - 1) = 2 * 2 ^ (bitLen (d - 1) - 1) := by
    rw [← Nat.pow_succ', Nat.succ_eq_add_one, Nat.sub_add_cancel hn1]
  have hq := recip_succ_lt (2 ^ W) d (2 ^ bitLen (d - 1) - d) (by omega) hdW
  refine ⟨?_, hq⟩
  unfold PreMulInv1by1.new leadingZeros
  simp only [Nat.sub_sub_self hnW, wordOnes_eq W _ hnW]
  have e : 2 ^ bitLen (d - 1) - 1 - (d - 1) = 2 ^ bitLen (d - 1) - d := by omega
  have hlt : (2 ^ bitLen (d - 1) - d) * 2 ^ W / d < 2 ^ W := by omega
  rw [if_neg (by omega), if_neg (by omega), e, Nat.div_eq_of_lt hlt, Nat.mod_eq_of_lt hlt,
    if_neg (fun h => h rfl), if_neg (by omega), if_neg (by omega)]

/-- `div_rem` with a multiplier `m` such that `m + 2^W` is a reciprocal of `d` for `N = 2^(shift+1)`
    in the sense of `premul_key`: no check fires and the result is `(a / d, a % d)` -/
theorem PreMulInv1by1.divRem_eq (W m s a d : Nat) (hs : s < W) (ha : a < 2 ^ W) (hm : m < 2 ^ W)
    (hq : (m + 2 ^ W) * a / (2 ^ W * 2 ^ (s + 1)) = a / d) :
    PreMulInv1by1.divRem W ⟨m, s⟩ a d = .ok (a / d, a % d) := by
  have hB : 0 < 2 ^ W := Nat.two_pow_pos W
  -- t = ⌊m·a / B⌋ ≤ a, a + t = ⌊(m + B)·a / B⌋
  have ht : m * a / 2 ^ W ≤ a := Nat.div_le_of_le_mul (Nat.mul_le_mul_right _ (Nat.le_of_lt hm))
  rw [← Nat.div_div_eq_div_mul, Nat.add_mul, Nat.add_mul_div_left _ _ hB] at hq
  unfold PreMulInv1by1.divRem
  simp only
  generalize m * a / 2 ^ W = t at *
  have hsum : t + ((a - t) >>> 1) = (t + a) / 2 := by rw [Nat.shiftRight_eq_div_pow]; omega
  rw [if_neg (by omega), hsum, if_neg (by omega), if_neg (by omega), Nat.shiftRight_eq_div_pow,
    Nat.div_div_eq_div_mul, ← Nat.pow_succ', hq]
  have hle : a / d * d ≤ a := Nat.div_mul_le_self a d
  rw [if_neg (by omega), if_neg (by omega), Nat.sub_eq_of_eq_add (Nat.mod_add_div' a d).symm]

/-- **`FastDivideSmall::div_rem` is exact**: for every word size, every divisor `2 ≤ d < 2^W` (the
    precondition `divisor > 1` of `new`) and every word `a`, no check fires and the result is
    `(a / d, a % d)` -/
theorem fastDivRadix_eq (W d a : Nat) (hd : 2 ≤ d) (hdW : d < 2 ^ W) (ha : a < 2 ^ W) :
    fastDivRadix W d a = .ok (a / d, a % d) := by
  obtain ⟨hnew, hm⟩ := premul_new_eq W d hd hdW
  obtain ⟨hn1, hnW, hlo, hhi⟩ := ceilLog_bounds W d hd hdW
  unfold fastDivRadix
  rw [hnew]
  generalize bitLen (d - 1) = n at *
  apply PreMulInv1by1.divRem_eq W _ _ a d (by omega) ha hm
  rw [Nat.sub_add_cancel hn1]
  -- d·(m + B) = 2^n·B + (d − r₀), where m − 1 and r₀ are quotient and remainder of (2^n − d)·B by d
  have hsplit : (2 ^ n - d) * 2 ^ W + d * 2 ^ W = 2 ^ n * 2 ^ W := by
    rw [← Nat.add_mul, Nat.sub_add_cancel hhi]
  have hdm := Nat.div_add_mod ((2 ^ n - d) * 2 ^ W) d
  have hmod := Nat.mod_lt ((2 ^ n - d) * 2 ^ W) (show 0 < d by omega)
  generalize (2 ^ n - d) * 2 ^ W / d = q0 at *
  generalize (2 ^ n - d) * 2 ^ W % d = r0 at *
  exact premul_key (2 ^ W) (2 ^ n) d a _ (d - r0) (by omega) (Nat.two_pow_pos n)
    (by rw [Nat.mul_add, Nat.mul_add, Nat.mul_one]; omega) (by omega) ha

-- ---------------------------------------------------------------- SWAR digit → ASCII

theorem pack_add_map_mul (l : List Nat) (g : Nat → Nat) (c : Nat) :
    ofDigitsLE 256 l + ofDigitsLE 256 (l.map g) * c = ofDigitsLE 256 (l.map fun d => d + g d * c) := by
  induction l with
  | nil => simp [ofDigitsLE]
  | cons a l ih =>
    simp only [List.map_cons, ofDigitsLE]
    rw [← ih]; ring

theorem ones_aux (l : List Nat) : 255 * ofDigitsLE 256 (l.map fun _ => 1) + 1 = 256 ^ l.length := by
  induction l with
  | nil => simp [ofDigitsLE]
  | cons a l ih =>
    simp only [List.map_cons, ofDigitsLE, List.length_cons, Nat.pow_succ]
    omega

/-- `ALL_ONES = Word::MAX / 0xff` is the word whose lanes are all `0x01` -/
theorem allOnes_eq (l : List Nat) : allOnes (8 * l.length) = ofDigitsLE 256 (l.map fun _ => 1) := by
  unfold allOnes
  simp only [Dashu.Gen.swar_LANE_MAX]
  have h := ones_aux l
  have e : 2 ^ (8 * l.length) = 256 ^ l.length := by rw [Nat.pow_mul]
  rw [e, ← h, Nat.add_sub_cancel, Nat.mul_div_cancel_left _ (by decide : 0 < 255)]

/-- one lane of `x & ALL_ONES`: the low bit of the low byte, the rest recursively -/
theorem and_lane (x u : Nat) : x &&& (1 + 256 * u) = x % 2 + 256 * ((x / 256) &&& u) := by
  have hm : (x &&& (1 + 256 * u)) % 2 ^ 8 = x % 2 := by
    rw [Nat.and_mod_two_pow]
    have : (1 + 256 * u) % 2 ^ 8 = 1 := by omega
    rw [this, Nat.and_one_is_mod]
    omega
  have hd : (x &&& (1 + 256 * u)) / 2 ^ 8 = (x / 256) &&& u := by
    rw [Nat.and_div_two_pow]
    have : (1 + 256 * u) / 2 ^ 8 = u := by omega
    rw [this]
  have := Nat.div_add_mod (x &&& (1 + 256 * u)) (2 ^ 8)
  rw [hm, hd] at this
  omega

/-- **the lane-parallel test**: `(w >> 7) & ALL_ONES` extracts bit 7 of every lane — for any number
    of lanes, provided no lane exceeds a byte -/
theorem pack_shift7_and (l : List Nat) (h : ∀ d ∈ l, d < 256) :
    (ofDigitsLE 256 l >>> 7) &&& ofDigitsLE 256 (l.map fun _ => 1) = ofDigitsLE 256 (l.map (· / 128)) := by
  induction l with
  | nil => simp [ofDigitsLE]
  | cons a l ih =>
    have ha := h a (by simp)
    have ih' := ih (fun d hd => h d (by simp [hd]))
    simp only [List.map_cons, ofDigitsLE]
    rw [Nat.shiftRight_eq_div_pow] at ih' ⊢
    rw [and_lane]
    have e1 : (a + 256 * ofDigitsLE 256 l) / 2 ^ 7 % 2 = a / 128 := by omega
    have e2 : (a + 256 * ofDigitsLE 256 l) / 2 ^ 7 / 256 = ofDigitsLE 256 l / 2 ^ 7 := by omega
    rw [e1, e2, ih']

/-- **`digit_chunk_raw_to_ascii` is the per-byte conversion on every lane**: for every word size
    that is a multiple of 8, every digit case and every chunk of `WORD_BYTES` digits `< 36` (the
    documented precondition), no `Word` operation overflows and byte `i` of the result is
    `rawToAscii` of digit `i` -/
theorem digitChunkRawToAscii_eq (W : Nat) (h8 : 8 ∣ W) (c : DigitCase) (ds : List Nat)
    (hlen : ds.length = W / 8) (hd : ∀ d ∈ ds, d < 36) :
    digitChunkRawToAscii W c ds = .ok (ds.map (rawToAscii c)) := by
  obtain ⟨k, rfl⟩ := h8
  have hk : ds.length = k := by omega
  have hones : allOnes (8 * k) = ofDigitsLE 256 (ds.map fun _ => 1) := by rw [← hk]; exact allOnes_eq ds
  have hpow : 2 ^ (8 * k) = 256 ^ ds.length := by rw [hk, Nat.pow_mul]
  have hlen' : 8 * k / 8 = ds.length := by omega
  unfold digitChunkRawToAscii
  rw [if_neg (by omega)]
  simp only [hones, hpow, hlen', Dashu.Gen.swar_BIAS, Dashu.Gen.swar_SHIFT, Dashu.Gen.swar_ASCII_ZERO]
  -- a final step shared by all digit cases
  have fin : ∀ (g : Nat → Nat), (∀ d ∈ ds, d + g d + 48 < 256) →
      (if ofDigitsLE 256 (ds.map fun d => d + g d) + ofDigitsLE 256 (ds.map fun _ => 1) * 48 ≥ 256 ^ ds.length then
        (.error (.overflow "digit_chunk_raw_to_ascii: word += ALL_ONES * b'0'") : Except BufPanic (List Nat))
       else .ok (digitsPadLE 256 ds.length (ofDigitsLE 256 (ds.map fun d => d + g d) + ofDigitsLE 256 (ds.map fun _ => 1) * 48)))
      = .ok (ds.map fun d => d + g d + 48) := by
    intro g hg
    have e : ofDigitsLE 256 (ds.map fun d => d + g d) + ofDigitsLE 256 (ds.map fun _ => 1) * 48 = ofDigitsLE 256 (ds.map fun d => d + g d + 48) := by
      have := pack_add_map_mul (ds.map fun d => d + g d) (fun _ => 1) 48
      simp only [List.map_map] at this
      rw [show ((fun _ => 1) ∘ fun d => d + g d) = (fun _ : Nat => 1) from rfl] at this
      rw [this]
      congr 1
    have hb : ∀ x ∈ ds.map (fun d => d + g d + 48), x < 256 := by
      intro x hx
      obtain ⟨d, hdm, rfl⟩ := List.mem_map.mp hx
      exact hg d hdm
    have hl := ofDigitsLE_lt 256 _ hb
    rw [List.length_map] at hl
    rw [e, if_neg (by omega)]
    have hp := digitsPadLE_ofDigitsLE 256 _ hb
    rw [List.length_map] at hp
    rw [hp]
  by_cases hc : c = .noLetters
  · subst hc
    simp only [ne_eq, not_true_eq_false, if_false]
    have := fin (fun _ => 0) (by intro d hdm; have := hd d hdm; omega)
    simp only [Nat.add_zero] at this
    rw [show (ds.map fun d => d) = ds by simp] at this
    rw [this]
    apply congrArg
    apply List.map_congr_left
    intro d _
    simp [rawToAscii]
  · simp only [ne_eq, hc, not_false_eq_true, if_true]
    -- 0x76 * ALL_ONES + word, lane by lane
    have e1 : 0x76 * ofDigitsLE 256 (ds.map fun _ => 1) + ofDigitsLE 256 ds = ofDigitsLE 256 (ds.map fun d => d + 1 * 0x76) := by
      rw [Nat.add_comm, Nat.mul_comm]
      exact pack_add_map_mul ds (fun _ => 1) 0x76
    have hb1 : ∀ x ∈ ds.map (fun d => d + 1 * 0x76), x < 256 := by
      intro x hx
      obtain ⟨d, hdm, rfl⟩ := List.mem_map.mp hx
      have := hd d hdm; omega
    have hl1 := ofDigitsLE_lt 256 _ hb1
    rw [List.length_map] at hl1
    rw [e1, if_neg (by omega)]
    -- letters: bit 7 of every lane
    have e2 : (ofDigitsLE 256 (ds.map fun d => d + 1 * 0x76) >>> 7) &&& ofDigitsLE 256 (ds.map fun _ => 1) =
        ofDigitsLE 256 (ds.map fun d => (d + 1 * 0x76) / 128) := by
      have := pack_shift7_and _ hb1
      simp only [List.map_map] at this
      rw [show ((fun _ => 1) ∘ fun d => d + 1 * 0x76) = (fun _ : Nat => 1) from rfl] at this
      rw [this]
      congr 1
    rw [e2]
    -- word += letters * case
    have e3 := pack_add_map_mul ds (fun d => (d + 1 * 0x76) / 128) c.offset
    have hoff : c.offset ≤ 39 := by cases c <;> simp [DigitCase.offset]
    have hb3 : ∀ x ∈ ds.map (fun d => d + (d + 1 * 0x76) / 128 * c.offset), x < 256 := by
      intro x hx
      obtain ⟨d, hdm, rfl⟩ := List.mem_map.mp hx
      have h36 := hd d hdm
      have : (d + 1 * 0x76) / 128 ≤ 1 := by omega
      have : (d + 1 * 0x76) / 128 * c.offset ≤ 1 * 39 := Nat.mul_le_mul this hoff
      omega
    have hl3 := ofDigitsLE_lt 256 _ hb3
    rw [List.length_map] at hl3
    rw [e3, if_neg (by omega)]
    simp only
    have := fin (fun d => (d + 1 * 0x76) / 128 * c.offset) (by
      intro d hdm
      have h36 := hd d hdm
      have h1 : (d + 1 * 0x76) / 128 ≤ 1 := by omega
      have : (d + 1 * 0x76) / 128 * c.offset ≤ 1 * 39 := Nat.mul_le_mul h1 hoff
      omega)
    rw [this]
    apply congrArg
    apply List.map_congr_left
    intro d hdm
    have h36 := hd d hdm
    unfold rawToAscii
    by_cases h10 : 10 ≤ d
    · have : (d + 1 * 0x76) / 128 = 1 := by omega
      simp [hc, h10, this]
    · have : (d + 1 * 0x76) / 128 = 0 := by omega
      simp [h10, this]

-- ---------------------------------------------------------------- DigitWriter with the real flush

theorem ceilDiv_mul_ge (a b : Nat) (hb : 1 ≤ b) : a ≤ ceilDiv a b * b := by
  unfold ceilDiv
  by_cases h : a = 0
  · simp [h]
  · rw [if_neg h, Nat.succ_mul]
    have h1 := Nat.div_add_mod (a - 1) b
    have h2 := Nat.mod_lt (a - 1) (show 0 < b by omega)
    rw [Nat.mul_comm] at h1
    omega

theorem ceilDiv_mul_le (a b m : Nat) (hb : 1 ≤ b) (h : a ≤ m * b) : ceilDiv a b * b ≤ m * b := by
  unfold ceilDiv
  by_cases h0 : a = 0
  · simp [h0]
  · rw [if_neg h0]
    apply Nat.mul_le_mul_right
    have : (a - 1) / b < m := (Nat.div_lt_iff_lt_mul (by omega)).mpr (by omega)
    omega

/-- every chunk of `chunks_exact_mut(DIGIT_CHUNK_LEN)` converted by the SWAR routine: the whole
    buffer converted per byte -/
theorem chunks_swar (W : Nat) (h8 : 8 ∣ W) (hW : 8 ≤ W) (c : DigitCase) :
    ∀ (j fuel : Nat) (b : List Nat), b.length = j * (W / 8) → b.length ≤ fuel → (∀ d ∈ b, d < 36) →
      flatMapE (digitChunkRawToAscii W c) (chunksExact (W / 8) fuel b) = .ok (b.map (rawToAscii c)) := by
  have hcl : 1 ≤ W / 8 := (Nat.le_div_iff_mul_le (by omega)).mpr (by omega)
  intro j
  induction j with
  | zero =>
    intro fuel b hb _ _
    have : b = [] := List.length_eq_zero_iff.mp (by omega)
    subst this
    cases fuel <;> simp [chunksExact, flatMapE]
  | succ j ih =>
    intro fuel b hb hf hd
    have hlen : b.length = j * (W / 8) + W / 8 := by rw [hb, Nat.succ_mul]
    have hne : b ≠ [] := by
      intro h; rw [h] at hlen; simp only [List.length_nil] at hlen; omega
    cases fuel with
    | zero => omega
    | succ fuel =>
      rw [chunksExact, if_neg (by rintro (h | h); exact hne h; omega)]
      simp only [flatMapE]
      rw [digitChunkRawToAscii_eq W h8 c (b.take (W / 8)) (by rw [List.length_take]; omega)
        (fun d hd' => hd d (List.mem_of_mem_take hd'))]
      rw [ih fuel (b.drop (W / 8)) (by rw [List.length_drop]; omega) (by rw [List.length_drop]; omega)
        (fun d hd' => hd d (List.mem_of_mem_drop hd'))]
      simp only
      rw [← List.map_append, List.take_append_drop]

/-- **`DigitWriter::flush`**: the zero fill stays inside the buffer, every chunk is a full
    `[u8; DIGIT_CHUNK_LEN]`, and the first `buffer_len` bytes are the per-byte conversion of the
    pending digits -/
theorem flushSwar_eq (W : Nat) (h8 : 8 ∣ W) (hW : 8 ≤ W) (c : DigitCase) (pending : List Nat)
    (hl : pending.length ≤ digitWriterLen W) (hd : ∀ d ∈ pending, d < 36) :
    flushSwar W c pending = .ok (pending.map (rawToAscii c)) := by
  have hcl : 1 ≤ W / 8 := (Nat.le_div_iff_mul_le (by omega)).mpr (by omega)
  have hr1 := ceilDiv_mul_ge pending.length (W / 8) hcl
  have hr2 : ceilDiv pending.length (W / 8) * (W / 8) ≤ digitWriterLen W :=
    ceilDiv_mul_le pending.length (W / 8) (ceilDiv Dashu.Gen.digit_writer_BUFFER_LEN_MIN (W / 8)) hcl hl
  unfold flushSwar
  simp only
  rw [if_neg (by omega)]
  have hbl : (pending ++ List.replicate (ceilDiv pending.length (W / 8) * (W / 8) - pending.length) 0).length =
      ceilDiv pending.length (W / 8) * (W / 8) := by
    rw [List.length_append, List.length_replicate]; omega
  rw [chunks_swar W h8 hW c (ceilDiv pending.length (W / 8)) _ _ hbl (Nat.le_refl _) (by
    intro d hd'
    rcases List.mem_append.mp hd' with h | h
    · exact hd d h
    · have := List.eq_of_mem_replicate h; omega)]
  simp only [List.map_append]
  rw [List.take_left' (by simp)]

/-- `write` with the real `flush` does exactly what `write` with the per-byte conversion does, and
    keeps the invariant `buffer_len < BUFFER_LEN`, all pending bytes raw digits -/
theorem DW_writeS_spec (W : Nat) (h8 : 8 ∣ W) (hW : 8 ≤ W) (c : DigitCase) (buf : List Nat) (s : DW)
    (hs : s.pending.length < digitWriterLen W) (hp : ∀ d ∈ s.pending, d < 36) (hb : ∀ d ∈ buf, d < 36) :
    ∃ s', DW.writeS W c s buf = .ok s' ∧ DW.write (digitWriterLen W) c s buf = .ok s' ∧
      s'.pending.length < digitWriterLen W ∧ ∀ d ∈ s'.pending, d < 36 := by
  induction hn : buf.length using Nat.strong_induction_on generalizing buf s with
  | _ n ih =>
    subst hn
    by_cases hbe : buf = []
    · subst hbe; rw [DW.writeS, DW.write]; exact ⟨s, by simp, by simp, hs, hp⟩
    · rw [DW.writeS, DW.write, dif_neg hbe, dif_neg hbe]
      simp only []
      have hlen : buf.length ≠ 0 := fun h => hbe (List.length_eq_zero_iff.mp h)
      have hmin : ¬ (min buf.length (digitWriterLen W - s.pending.length) = 0) := by omega
      have hA : ¬ (s.pending.length + min buf.length (digitWriterLen W - s.pending.length) > digitWriterLen W) := by omega
      simp only [hA, hmin, if_false]
      generalize hl : min buf.length (digitWriterLen W - s.pending.length) = len at *
      have htl : (buf.take len).length = len := by rw [List.length_take]; omega
      have hpend : ∀ d ∈ s.pending ++ buf.take len, d < 36 := by
        intro d hd
        rcases List.mem_append.mp hd with h | h
        · exact hp d h
        · exact hb d (List.mem_of_mem_take h)
      by_cases hfull : (s.pending ++ buf.take len).length = digitWriterLen W
      · simp only [hfull, if_true]
        have hf : DW.flushS W c ⟨s.pending ++ buf.take len, s.out⟩ =
            .ok (DW.flush c ⟨s.pending ++ buf.take len, s.out⟩) := by
          unfold DW.flushS DW.flush
          simp only
          rw [flushSwar_eq W h8 hW c _ (by omega) hpend]
        rw [hf]
        simp only
        exact ih (buf.drop len).length (by rw [List.length_drop]; omega) (buf.drop len)
          (DW.flush c ⟨s.pending ++ buf.take len, s.out⟩) (by simp [DW.flush]; omega) (by simp [DW.flush])
          (fun d hd => hb d (List.mem_of_mem_drop hd)) rfl
      · simp only [hfull, if_false]
        have hlt : (s.pending ++ buf.take len).length < digitWriterLen W := by
          rw [List.length_append, htl] at hfull ⊢; omega
        exact ih (buf.drop len).length (by rw [List.length_drop]; omega) (buf.drop len)
          ⟨s.pending ++ buf.take len, s.out⟩ hlt hpend (fun d hd => hb d (List.mem_of_mem_drop hd)) rfl

theorem digitWriterRunS_go (W : Nat) (h8 : 8 ∣ W) (hW : 8 ≤ W) (c : DigitCase) (pieces : List (List Nat)) (s : DW)
    (hs : s.pending.length < digitWriterLen W) (hp : ∀ d ∈ s.pending, d < 36)
    (hb : ∀ b ∈ pieces, ∀ d ∈ b, d < 36) :
    ∃ s', digitWriterRunS.go W c s pieces = .ok s' ∧ digitWriterRun.go W c s pieces = .ok s' ∧
      s'.pending.length < digitWriterLen W ∧ ∀ d ∈ s'.pending, d < 36 := by
  induction pieces generalizing s with
  | nil => exact ⟨s, rfl, rfl, hs, hp⟩
  | cons b bs ih =>
    obtain ⟨s1, h1, h2, h3, h4⟩ := DW_writeS_spec W h8 hW c b s hs hp (hb b (by simp))
    obtain ⟨s2, g1, g2, g3, g4⟩ := ih s1 h3 h4 (fun b' hb' => hb b' (by simp [hb']))
    refine ⟨s2, ?_, ?_, g3, g4⟩
    · simp only [digitWriterRunS.go, h1]; exact g1
    · simp only [digitWriterRun.go, h2]; exact g2

/-- **the buffered `DigitWriter` with the SWAR `flush`** delivers, for any sequence of `write` calls
    with raw digits `< 36` followed by the final `flush`, exactly the per-byte conversion of the
    concatenated input — no index leaves the buffer, no `Word` operation overflows -/
theorem digitWriterRunS_eq (W : Nat) (h8 : 8 ∣ W) (hW : 8 ≤ W) (c : DigitCase) (pieces : List (List Nat))
    (hb : ∀ b ∈ pieces, ∀ d ∈ b, d < 36) :
    digitWriterRunS W c pieces = .ok (pieces.flatten.map (rawToAscii c)) := by
  have hpos := digitWriterLen_pos W hW
  obtain ⟨s', h1, h2, h3, h4⟩ := digitWriterRunS_go W h8 hW c pieces ⟨[], []⟩
    (by simp only [List.length_nil]; omega) (by simp) hb
  have hrun := digitWriterRun_eq W hW c pieces
  unfold digitWriterRun at hrun
  rw [h2] at hrun
  unfold digitWriterRunS
  rw [h1]
  simp only [DW.flushS]
  rw [flushSwar_eq W h8 hW c _ (by omega) h4]
  simpa [DW.flush] using hrun

-- ---------------------------------------------------------------- printers on the mirrored division

theorem pwLoopF_eq (W r : Nat) (hr : 2 ≤ r) (hrW : r < 2 ^ W) :
    ∀ (fuel word minD : Nat) (acc : List Nat), word < 2 ^ W → word + minD < fuel →
      pwLoopF W r fuel word minD acc = .ok (pwLoop r word minD acc) := by
  intro fuel
  induction fuel with
  | zero => intro word minD acc _ h; omega
  | succ fuel ih =>
    intro word minD acc hw hf
    rw [pwLoopF, pwLoop]
    by_cases hc : r < 2 ∨ (minD = 0 ∧ word = 0)
    · rw [if_pos hc, dif_pos hc]
    · rw [if_neg hc, dif_neg hc, fastDivRadix_eq W r word hr hrW hw]
      simp only
      have hle : word / r ≤ word := Nat.div_le_self _ _
      apply ih _ _ _ (by omega)
      by_cases h0 : word = 0
      · have hm : minD ≠ 0 := fun h => hc (Or.inr ⟨h, h0⟩)
        omega
      · have : word / r < word := Nat.div_lt_self (by omega) (by omega)
        omega

theorem preparedWordF_eq (W r : Nat) (hr : 2 ≤ r) (hrW : r < 2 ^ W) (word minD : Nat) (hw : word < 2 ^ W) :
    preparedWordF W r word minD = .ok (preparedWord r word minD) :=
  pwLoopF_eq W r hr hrW _ word minD [] hw (by omega)

theorem takeDigitsF_eq (W r : Nat) (hr : 2 ≤ r) (hrW : r < 2 ^ W) :
    ∀ (c p : Nat) (acc : List Nat), p < 2 ^ W → takeDigitsF W r c p acc = .ok (takeDigits r c p acc) := by
  intro c
  induction c with
  | zero => intro p acc _; rfl
  | succ c ih =>
    intro p acc hp
    rw [takeDigitsF, fastDivRadix_eq W r p hr hrW hp]
    simp only
    rw [takeDigits]
    exact ih _ _ (Nat.lt_of_le_of_lt (Nat.div_le_self _ _) hp)

theorem midDigitsF_eq (W r : Nat) (hr : 2 ≤ r) (hrW : r < 2 ^ W) :
    ∀ (c p1 p2 : Nat) (acc : List Nat), p1 < 2 ^ W →
      midDigitsF W r c p1 p2 acc = .ok (midDigits r c p1 p2 acc) := by
  intro c
  induction c with
  | zero => intro p1 p2 acc _; rfl
  | succ c ih =>
    intro p1 p2 acc hp
    rw [midDigitsF, midDigits]
    by_cases h : p1 = 0 ∧ p2 = 0
    · rw [if_pos h, if_pos h]
    · rw [if_neg h, if_neg h, fastDivRadix_eq W r p1 hr hrW hp]
      simp only
      exact ih _ _ _ (Nat.lt_of_le_of_lt (Nat.div_le_self _ _) hp)

theorem preparedDwordF_eq (W r dword : Nat) (hev : 2 ∣ W) (hr : 2 ≤ r) (hrW : r < 2 ^ W)
    (hd : dword < 2 ^ (2 * W)) : preparedDwordF W r dword = .ok (preparedDword W r dword) := by
  have ok := radixInfo_ok W r hr hrW
  have hge := ok.rpw_ge
  have hlt := ok.lt
  have hsq := radixInfo_sq W r hev hr hrW
  have hp2 : dword / (radixInfo W r).rpw / (radixInfo W r).rpw < 2 ^ W := by
    rw [Nat.div_div_eq_div_mul]
    apply Nat.div_lt_of_lt_mul
    calc dword < 2 ^ (2 * W) := hd
      _ = 2 ^ W * 2 ^ W := by rw [← Nat.pow_add]; congr 1; omega
      _ ≤ (radixInfo W r).rpw * (radixInfo W r).rpw * 2 ^ W := Nat.mul_le_mul_right _ hsq
  unfold preparedDwordF preparedDword
  simp only
  rw [takeDigitsF_eq W r hr hrW _ _ _ (Nat.lt_trans (Nat.mod_lt _ (by omega)) hlt)]
  simp only
  rw [midDigitsF_eq W r hr hrW _ _ _ _ (Nat.lt_trans (Nat.mod_lt _ (by omega)) hlt)]
  simp only
  exact pwLoopF_eq W r hr hrW _ _ 0 _ hp2 (by omega)

theorem mediumLoop_bounds (W rpw : Nat) (h2 : 2 ≤ rpw) (v : Nat) (gs : List Nat) (hgs : ∀ g ∈ gs, g < rpw) :
    (mediumLoop W rpw v gs).1 < 2 ^ W ∧ ∀ g ∈ (mediumLoop W rpw v gs).2, g < rpw := by
  induction v using Nat.strong_induction_on generalizing gs with
  | _ v ih =>
    rw [mediumLoop]
    by_cases h : rpw < 2 ∨ v < 2 ^ W
    · rw [dif_pos h]
      refine ⟨?_, hgs⟩
      rcases h with h | h
      · omega
      · exact h
    · rw [dif_neg h]
      have : 0 < 2 ^ W := Nat.two_pow_pos W
      apply ih (v / rpw) (Nat.div_lt_self (by omega) (by omega))
      intro g hg
      rcases List.mem_cons.mp hg with rfl | hg
      · exact Nat.mod_lt _ (by omega)
      · exact hgs g hg

theorem preparedMediumF_eq (W r n : Nat) (hr : 2 ≤ r) (hrW : r < 2 ^ W) :
    preparedMediumF W r n = .ok (preparedMedium W r n) := by
  have ok := radixInfo_ok W r hr hrW
  have hb := mediumLoop_bounds W (radixInfo W r).rpw ok.rpw_ge n [] (by simp)
  unfold preparedMediumF preparedMedium
  simp only
  rw [preparedWordF_eq W r hr hrW _ 1 hb.1]
  simp only
  rw [flatMapE_ok _ (fun g => preparedWord r g (radixInfo W r).dpw) _
    (fun g hg => preparedWordF_eq W r hr hrW g _ (Nat.lt_trans (hb.2 g hg) ok.lt))]

theorem writeChunkF_eq (W r x : Nat) (hr : 2 ≤ r) (hrW : r < 2 ^ W) :
    writeChunkF W r x = .ok (writeChunk W r x) := by
  have ok := radixInfo_ok W r hr hrW
  have hge := ok.rpw_ge
  unfold writeChunkF writeChunk
  exact flatMapE_ok _ _ _ (fun g hg => preparedWordF_eq W r hr hrW g _
    (Nat.lt_trans (chunkGroups_lt _ (by omega) _ _ [] (by simp) g hg) ok.lt))

theorem writeBigF_eq (W r : Nat) (hr : 2 ≤ r) (hrW : r < 2 ^ W) (ps : List Nat) (x : Nat) :
    writeBigF W r ps x = .ok (writeBig W r ps x) := by
  induction ps generalizing x with
  | nil => exact writeChunkF_eq W r x hr hrW
  | cons p ps ih => simp only [writeBigF, writeBig, ih]

theorem preparedLargeF_eq (W r n : Nat) (hr : 2 ≤ r) (hrW : r < 2 ^ W) :
    preparedLargeF W r n = .ok (preparedLarge W r n) := by
  unfold preparedLargeF preparedLarge
  simp only
  by_cases h : (radixInfo W r).rpw ^ fmtChunkLen > n
  · simp only [h, if_true]; exact preparedMediumF_eq W r n hr hrW
  · simp only [h, if_false]
    cases hb : buildPowers W n (bitLen n) [(radixInfo W r).rpw ^ fmtChunkLen] with
    | nil => rfl
    | cons p rest =>
      simp only
      rw [preparedMediumF_eq W r _ hr hrW]
      simp only
      rw [flatMapE_ok _ (fun c => writeBig W r c.1 c.2) _ (fun c _ => writeBigF_eq W r hr hrW c.1 c.2)]

theorem fmtNonPow2F_eq (W r n : Nat) (hev : 2 ∣ W) (hr : 2 ≤ r) (hrW : r < 2 ^ W) :
    fmtNonPow2F W r n = .ok (fmtNonPow2 W r n) := by
  unfold fmtNonPow2F fmtNonPow2
  by_cases h1 : n < 2 ^ W
  · simp only [h1, if_true]; exact preparedWordF_eq W r hr hrW n 1 h1
  · simp only [h1, if_false]
    by_cases h2 : n < 2 ^ (2 * W)
    · simp only [h2, if_true]; exact preparedDwordF_eq W r n hev hr hrW h2
    · simp only [h2, if_false]
      by_cases h3 : wordLen W n * ((radixInfo W r).dpw + 1) ≤ fmtChunkLen * (radixInfo W r).dpw
      · simp only [h3, if_true]; exact preparedMediumF_eq W r n hr hrW
      · simp only [h3, if_false]; exact preparedLargeF_eq W r n hr hrW

/-- **the printers on the mirrored reciprocal division** print what the number-level printers print:
    every `fast_div_radix.div_rem(word, radix)` gets a word, no check of `FastDivideSmall` fires -/
theorem rawDigitsF_eq (W r n : Nat) (hev : 2 ∣ W) (hr : 2 ≤ r) (hrW : r < 2 ^ W) :
    rawDigitsF W r n = .ok (rawDigits W r n) := by
  unfold rawDigitsF rawDigits
  by_cases hp : isPow2 r = true
  · simp only [hp, if_true]
  · simp only [hp]; exact fmtNonPow2F_eq W r n hev hr hrW

theorem cutPieces_flatten (piece : Nat) :
    ∀ (fuel : Nat) (l : List Nat), l.length ≤ fuel → (cutPieces piece fuel l).flatten = l := by
  intro fuel
  induction fuel with
  | zero =>
    intro l hl
    have : l = [] := List.length_eq_zero_iff.mp (by omega)
    subst this; rfl
  | succ fuel ih =>
    intro l hl
    rw [cutPieces]
    by_cases h : l = [] ∨ piece = 0
    · rw [if_pos h]; simp
    · rw [if_neg h, List.flatten_cons, ih _ (by
        rw [List.length_drop]
        have : l.length ≠ 0 := fun h0 => h (Or.inl (List.length_eq_zero_iff.mp h0))
        omega), List.take_append_drop]

/-- the raw digits, cut into `write` calls in any way, come out converted per byte -/
theorem digitWriterRunS_rawDigits (W : Nat) (h8 : 8 ∣ W) (hW : 8 ≤ W) (c : DigitCase) (r n : Nat)
    (hr : 2 ≤ r) (hr36 : r ≤ 36) (hrW : r < 2 ^ W) (pieces : List (List Nat))
    (hfl : pieces.flatten = rawDigits W r n) :
    digitWriterRunS W c pieces = .ok ((rawDigits W r n).map (rawToAscii c)) := by
  rw [← hfl]
  apply digitWriterRunS_eq W h8 hW
  intro b hb d hd
  have hmem : d ∈ rawDigits W r n := hfl ▸ List.mem_flatten.mpr ⟨b, hb, hd⟩
  rw [rawDigits_eq W r n hr hrW] at hmem
  exact lt_of_lt_of_le (digits_lt hr n d hmem) hr36

end Dashu.Model.Text
