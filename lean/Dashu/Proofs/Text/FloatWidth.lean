import Dashu.Proofs.Text.FloatPad
/-
  C08 — the padding AMOUNTS of `fmt_round` and `fmt_round_scientific` (float/src/fmt.rs): the `width` the
  code computes from the digit count, the exponent and the precision option is exactly the number of
  characters of sign + digits/point/zeros (+ `0x`, marker, exponent), hence the formatter's width is
  honoured exactly: the padding inserted is `min_width − natural length` (none when the text is already
  that long), placed as the alignment / zero flag says.
-/
namespace Dashu.Model.Text
open Dashu.Model.Float

/-- `widthG` with the `Int` arithmetic done: `(-exp).toNat` digits stand after the point -/
theorem widthG_eq (L : Nat) (exp : Int) (prec : Option Nat) (hs : Nat) :
    widthG L exp prec hs = max L ((-exp).toNat + 1) +
      (if exp ≥ 0 then (if prec.getD 0 > 0 then 1 else 0) else (if prec ≠ some 0 then 1 else 0)) +
      exp.toNat + (prec.getD 0 - (-exp).toNat) + hs := by
  have hlead : (if (-(min (exp + L - 1) 0)).toNat = 0 then max L 1 else L) + (-(min (exp + L - 1) 0)).toNat
      = max L ((-exp).toNat + 1) := by split_ifs <;> omega
  unfold widthG
  simp only []
  generalize (if (-(min (exp + L - 1) 0)).toNat = 0 then max L 1 else L) = sd at hlead ⊢
  generalize (if exp ≥ 0 then (if prec.getD 0 > 0 then 1 else 0) else (if prec ≠ some 0 then 1 else 0)) = pt
  cases prec with
  | none => simp only [Option.getD_none, Nat.zero_sub]; omega
  | some p =>
    simp only [Option.getD_some]
    split_ifs <;> omega

/-- with `e` digits after the point, the integral part (at least a `0`), the zeros after the point and the
    fraction digits make `max |S| (e + 1)` characters -/
theorem pointSplit_length (S : List Nat) (e : Nat) :
    (orZero (S.take (S.length - e))).length + (e - (S.drop (S.length - e)).length) +
      (S.drop (S.length - e)).length = max S.length (e + 1) := by
  simp only [orZero_length, List.length_take, List.length_drop]
  omega

/-- **the width `fmt_round` computes is the length of what it prints** (sign + digits/point/zeros), as
    long as the exponent is not below `−precision` (true after the rounding step) and — without a
    precision — the digit string is not empty (true for every integer) -/
theorem widthG_eq_length (S : List Nat) (exp : Int) (prec : Option Nat) (hs : Nat)
    (h1 : ∀ p, prec = some p → -exp ≤ (p : Int)) (h2 : prec = none → 0 < S.length) :
    widthG S.length exp prec hs = (bodyG S exp prec).length + hs := by
  rw [widthG_eq]
  unfold bodyG
  by_cases hexp : exp < 0
  · have hsplit := pointSplit_length S (-exp).toNat
    have hfd := List.length_drop (i := S.length - (-exp).toNat) (l := S)
    rw [if_pos hexp, if_neg (not_le.mpr hexp)]
    cases prec with
    | none =>
      have hL := h2 rfl
      simp only [apply_ite List.length, List.length_append, List.length_cons, List.length_nil, rep_single_length,
        Option.getD_none, ne_eq, reduceCtorEq, not_false_eq_true, if_true]
      split_ifs <;> omega
    | some p =>
      have hp := h1 p rfl
      simp only [apply_ite List.length, List.length_append, List.length_cons, List.length_nil, rep_single_length,
        Option.getD_some, ne_eq, Option.some.injEq]
      split_ifs <;> omega
  · rw [if_neg hexp, if_pos (not_lt.mp hexp)]
    cases prec with
    | none =>
      simp only [List.length_append, List.length_nil, rep_single_length, orZero_length, Option.getD_none,
        Nat.lt_irrefl, if_false]
      omega
    | some p =>
      simp only [apply_ite List.length, List.length_append, List.length_cons, List.length_nil, rep_single_length,
        orZero_length, Option.getD_some]
      split_ifs <;> omega

/-- the width `fmt_round` computes is `|sign| + |core|` -/
theorem widthG_natural (B : Nat) (hB : 2 ≤ B) (m : Mode) (f : FmtSpec) (prec : Option Nat) (r : FRepr) :
    widthG (dispStr B m prec r).length (dispPair B m prec r).2 prec (if r.signif < 0 || f.plus then 1 else 0) =
      (fSign f.plus r).length + (fmtRoundCore B m prec r).length := by
  rw [fmtRoundCore_eq_bodyG, fSign_length,
    widthG_eq_length _ _ _ _ (dispPair_exp_ge B m prec r) (fun h => by subst h; exact dispStr_none_pos B hB m r),
    Nat.add_comm]

-- ---------------------------------------------------------------- scientific formats

/-- **the width `fmt_round_scientific` computes is the length of what it prints** -/
theorem sciWidthG_eq_length (S expStr : List Nat) (p marker hs : Nat) (useHex : Bool) :
    sciWidthG S.length expStr.length p hs useHex =
      hs + (if useHex then 2 else 0) + (sciBodyG S expStr p marker).length := by
  unfold sciWidthG sciBodyG
  generalize (if useHex then 2 else 0) = hx
  simp only [ne_eq, List.drop_eq_nil_iff, not_le, apply_ite List.length, List.length_append, List.length_cons,
    List.length_nil, rep_single_length, List.length_drop, List.length_take]
  split_ifs <;> omega

/-- **the width is honoured exactly (scientific formats)**: with a width `w` the text is
    `fill^a ++ sign ++ [0x] ++ '0'^b ++ core ++ fill^c` with
    `a + b + c = w − (|sign| + |0x| + |core|)`; the left share goes in as zeros after sign and prefix
    under the zero flag and as fill characters before the sign otherwise; left / right (default) /
    centre as the alignment says -/
theorem fmtSciG_width (B : Nat) (m : Mode) (f : FmtSpec) (prec : Option Nat) (upper useHex : Bool)
    (marker : Nat) (r : FRepr) (w : Nat) (hw : f.width = some w) :
    ∃ a b c : Nat,
      fmtSciG B m f prec upper useHex marker r =
        rep a f.fill ++ fSign f.plus r ++ (if useHex then [48, 120] else []) ++ rep b [48] ++
          fmtSciCore B m prec upper useHex marker r ++ rep c f.fill ∧
      a + b + c = w - ((fSign f.plus r).length + (if useHex then 2 else 0) +
        (fmtSciCore B m prec upper useHex marker r).length) ∧
      (f.zero = true → a = 0) ∧ (f.zero = false → b = 0) ∧
      (f.align = some .left → a + b = 0) ∧
      ((f.align = some .right ∨ f.align = none) → c = 0) ∧
      (f.align = some .center → a + b = (a + b + c) / 2) := by
  rw [fmtSciG_eq_frame, sciWidthG_eq_length _ _ _ marker, ← fmtSciCore_eq_bodyG, ← fSign_length]
  obtain ⟨a, b, c, h, hsum, ha, hb, _, hal⟩ :=
    frame_padsG f { f with zero := false } rfl rfl (fSign f.plus r) (if useHex then [48, 120] else [])
      (fmtSciCore B m prec upper useHex marker r)
      ((fSign f.plus r).length + (if useHex then 2 else 0) + (fmtSciCore B m prec upper useHex marker r).length)
  rw [hw, Option.getD_some] at hsum
  obtain ⟨hl, hr, hce⟩ := hal rfl
  exact ⟨a, b, c, h, hsum, ha, hb, hl, hr, hce⟩

end Dashu.Model.Text
