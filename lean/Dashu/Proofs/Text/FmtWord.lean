import Dashu.Model.Text.FmtWord
import Dashu.Proofs.Text.Capacity
import Dashu.Proofs.Int.NumModularContract
/-
  C07 — the word-level divisions of the non-power-of-two printers (the models of
  `fast_div_by_word_in_place` / `div_rem_2by1` / `shl_dword` in Model/Int/Div.lean with their proved contracts) compute
  exactly the `/` and `%` of the number-level model.
-/
namespace Dashu.Model.Text
open Dashu.Model Dashu.Model.Div

-- ---------------------------------------------------------------- trimming zero words

theorem val_all_zero (W : Nat) (z : List Nat) (h : ∀ x ∈ z, x = 0) : val W z = 0 := by
  induction z with
  | nil => rfl
  | cons a t ih =>
    have ha : a = 0 := h a (List.mem_cons_self ..)
    have := ih (fun x hx => h x (List.mem_cons_of_mem _ hx))
    simp [val, ha, this]

theorem val_replicate_zero (W k : Nat) : val W (List.replicate k 0) = 0 :=
  Dashu.Model.val_replicate_zero W k

theorem takeWhile_all {p : Nat → Bool} : ∀ (l : List Nat) (x : Nat), x ∈ l.takeWhile p → p x = true := by
  intro l
  induction l with
  | nil => intro x hx; simp at hx
  | cons a t ih =>
    intro x hx
    rw [List.takeWhile_cons] at hx
    by_cases ha : p a = true
    · rw [if_pos ha] at hx
      rcases List.mem_cons.mp hx with h | h
      · rw [h]; exact ha
      · exact ih x h
    · rw [if_neg ha] at hx; simp at hx

theorem trimZeros_decomp (ws : List Nat) : ∃ z : List Nat, ws = trimZeros ws ++ z ∧ ∀ x ∈ z, x = 0 := by
  refine ⟨(ws.reverse.takeWhile (· == 0)).reverse, ?_, ?_⟩
  · unfold trimZeros
    rw [← List.reverse_append, List.takeWhile_append_dropWhile, List.reverse_reverse]
  · intro x hx
    have := takeWhile_all _ x (List.mem_reverse.mp hx)
    simpa using this

theorem val_trimZeros (W : Nat) (ws : List Nat) : val W (trimZeros ws) = val W ws := by
  obtain ⟨z, hz, h0⟩ := trimZeros_decomp ws
  conv_rhs => rw [hz, val_append, val_all_zero W z h0]
  simp

theorem isWords_trimZeros {W : Nat} {ws : List Nat} (h : IsWords W ws) : IsWords W (trimZeros ws) := by
  obtain ⟨z, hz, _⟩ := trimZeros_decomp ws
  intro x hx
  exact h x (by rw [hz]; exact List.mem_append_left _ hx)

/-- the top word of a trimmed buffer is not zero -/
def Norm (ws : List Nat) : Prop := ws.getLast? ≠ some 0

theorem norm_trimZeros (ws : List Nat) : Norm (trimZeros ws) := by
  unfold Norm trimZeros
  rw [List.getLast?_reverse]
  intro h
  have := List.head?_dropWhile_not (· == 0) ws.reverse
  rw [h] at this
  simp at this

/-- a trimmed buffer is the word list of its value, so its length is the word count of the value -/
theorem norm_len (W : Nat) (hW : 1 ≤ W) (ws : List Nat) (h : IsWords W ws) (hn : Norm ws) :
    ws.length = wordLen W (val W ws) := by
  rw [← chunksSpec_length _ W hW, ← wordsOf_eq_chunksSpec, wordsOf_val W hW ws h hn]

theorem norm_length (W : Nat) (hW : 1 ≤ W) (ws : List Nat) (h : IsWords W ws) (hn : Norm ws) :
    (ws.length ≤ 1 ↔ val W ws < 2 ^ W) ∧ (ws.length ≤ 1 → ws.headD 0 = val W ws) := by
  constructor
  · rw [norm_len W hW ws h hn, wordLen_le_iff W hW, Nat.mul_one]
  · intro hl
    match ws, hl with
    | [], _ => rfl
    | [w], _ => simp [val]

-- ---------------------------------------------------------------- PreparedMedium

/-- `fast_div_by_word_in_place` by `rpw` normalised with its leading zeros: quotient and remainder of
    the value -/
theorem fastDivByWord_divMod (W rpw : Nat) (h2 : 2 ≤ rpw) (hlt : rpw < 2 ^ W) (ws : List Nat)
    (hw : IsWords W ws) :
    ∃ qs, fastDivByWordInPlace W ws (lz W rpw) (rpw * 2 ^ lz W rpw) = .ok (qs, val W ws % rpw) ∧
      val W qs = val W ws / rpw ∧ IsWords W qs := by
  obtain ⟨hs1, hs2, hs3⟩ := lz_spec (bits := W) (by omega : rpw ≠ 0) hlt
  obtain ⟨qs, r, hdiv, hval, hr, _, hq⟩ :=
    fastDivByWordInPlace_spec W rpw (lz W rpw) ws hw (by omega) (by omega) (le_of_lt hs3)
  refine ⟨qs, ?_, ?_, hq⟩
  · rw [hdiv, ← hval, Nat.mul_comm, Nat.mul_add_mod, Nat.mod_eq_of_lt hr]
  · rw [← hval, Nat.mul_comm, Nat.mul_add_div (by omega), Nat.div_eq_of_lt hr, Nat.add_zero]

/-- the word-level loop of `PreparedMedium::new` is the number-level one -/
theorem mediumLoopW_eq (W rpw : Nat) (h2 : 2 ≤ rpw) (hlt : rpw < 2 ^ W) :
    ∀ (fuel : Nat) (ws g : List Nat), IsWords W ws → Norm ws → val W ws < 2 ^ fuel →
      mediumLoopW W rpw (lz W rpw) fuel ws g = .ok (mediumLoop W rpw (val W ws) g) := by
  have hW : 1 ≤ W := Nat.pos_of_ne_zero (fun h => by subst h; omega)
  intro fuel
  induction fuel with
  | zero =>
    intro ws g hw hn hv
    have hv0 : val W ws = 0 := by simpa using hv
    have hl := (norm_length W hW ws hw hn).1.mpr (by rw [hv0]; exact Nat.two_pow_pos W)
    unfold mediumLoopW
    rw [(norm_length W hW ws hw hn).2 hl, hv0, mediumLoop, dif_pos (Or.inr (Nat.two_pow_pos W))]
  | succ fuel ih =>
    intro ws g hw hn hv
    unfold mediumLoopW
    by_cases hl : ws.length ≤ 1
    · rw [if_pos hl, (norm_length W hW ws hw hn).2 hl, mediumLoop,
        dif_pos (Or.inr ((norm_length W hW ws hw hn).1.mp hl))]
    · rw [if_neg hl]
      have hbig : ¬ val W ws < 2 ^ W := fun h => hl ((norm_length W hW ws hw hn).1.mpr h)
      obtain ⟨qs, hdiv, hqv, hq⟩ := fastDivByWord_divMod W rpw h2 hlt ws hw
      rw [hdiv]
      simp only []
      have hdec : val W ws / rpw < 2 ^ fuel := by
        have : val W ws / rpw ≤ val W ws / 2 := Nat.div_le_div_left h2 (by omega)
        have : val W ws / 2 < 2 ^ fuel := by
          rw [Nat.div_lt_iff_lt_mul (by omega)]; rw [Nat.pow_succ] at hv; omega
        omega
      rw [ih (trimZeros qs) _ (isWords_trimZeros hq) (norm_trimZeros qs)
        (by rw [val_trimZeros, hqv]; exact hdec), val_trimZeros, hqv]
      conv_rhs => rw [mediumLoop, dif_neg (by intro h; rcases h with h | h; omega; exact hbig h)]

/-- **`PreparedMedium` on the word buffer** (repeated `fast_div_by_word_in_place`, trimming of zero
    words) prints what the number-level model prints -/
theorem preparedMediumW_eq (W r : Nat) (hW : 1 ≤ W) (hr : 2 ≤ r) (hrW : r < 2 ^ W) (ws : List Nat)
    (hw : IsWords W ws) (hn : Norm ws) :
    preparedMediumW W r ws = .ok (preparedMedium W r (val W ws)) := by
  have ok := radixInfo_ok W r hr hrW
  unfold preparedMediumW preparedMedium
  simp only []
  rw [mediumLoopW_eq W _ ok.rpw_ge ok.lt (W * ws.length + 1) ws [] hw hn
    (lt_of_lt_of_le (val_lt W ws hw) (Nat.pow_le_pow_right (by omega) (by omega)))]

-- ---------------------------------------------------------------- write_chunk

theorem norm_zero_nil (W : Nat) (hW : 1 ≤ W) (ws : List Nat) (h : IsWords W ws) (hn : Norm ws) (hv : val W ws = 0) :
    ws = [] := by
  have := wordsOf_val W hW ws h hn
  rw [hv] at this
  exact this.symm.trans (chunksSpec_zero W)

theorem chunkGroupsW_eq (W rpw : Nat) (h2 : 2 ≤ rpw) (hlt : rpw < 2 ^ W) :
    ∀ (c : Nat) (ws acc : List Nat), IsWords W ws →
      ∃ rest, chunkGroupsW W rpw (lz W rpw) c ws acc = .ok (rest, chunkGroups rpw c (val W ws) acc) ∧
        IsWords W rest ∧ val W rest = val W ws / rpw ^ c ∧ (1 ≤ c → Norm rest) := by
  intro c
  induction c with
  | zero => intro ws acc hw; exact ⟨ws, rfl, hw, by simp, fun h => by omega⟩
  | succ c ih =>
    intro ws acc hw
    unfold chunkGroupsW chunkGroups
    obtain ⟨qs, hdiv, hqv, hq⟩ := fastDivByWord_divMod W rpw h2 hlt ws hw
    rw [hdiv]
    simp only []
    obtain ⟨rest, he, hwr, hvr, hnr⟩ := ih (trimZeros qs) (val W ws % rpw :: acc) (isWords_trimZeros hq)
    rw [val_trimZeros, hqv] at he hvr
    refine ⟨rest, he, hwr, ?_, fun _ => ?_⟩
    · rw [hvr, Nat.div_div_eq_div_mul, Nat.pow_succ, Nat.mul_comm]
    · by_cases hc : 1 ≤ c
      · exact hnr hc
      · have hc0 : c = 0 := by omega
        subst hc0
        simp only [chunkGroupsW, Except.ok.injEq, Prod.mk.injEq] at he
        rw [← he.1]; exact norm_trimZeros qs

/-- **`write_chunk` on the word buffer**: `CHUNK_LEN` divisions by `range_per_word`, the final
    `assert_eq!(buffer_len, 0)` holds whenever the chunk is below `range_per_word^CHUNK_LEN`, and the
    digits are those of the number-level model -/
theorem writeChunkW_eq (W r : Nat) (hr : 2 ≤ r) (hrW : r < 2 ^ W) (ws : List Nat) (hw : IsWords W ws)
    (hfit : val W ws < (radixInfo W r).rpw ^ fmtChunkLen) :
    writeChunkW W r ws = .ok (writeChunk W r (val W ws)) := by
  have ok := radixInfo_ok W r hr hrW
  have hc1 : 1 ≤ fmtChunkLen := by decide
  unfold writeChunkW writeChunk
  simp only []
  obtain ⟨rest, he, hwr, hvr, hnr⟩ := chunkGroupsW_eq W _ ok.rpw_ge ok.lt fmtChunkLen ws [] hw
  rw [he]
  simp only []
  have hrest : rest = [] := norm_zero_nil W (Nat.pos_of_ne_zero (fun h => by subst h; have := ok.rpw_ge; have := ok.lt; omega)) rest hwr (hnr hc1) (by rw [hvr]; exact Nat.div_eq_of_lt hfit)
  simp [hrest]

-- ---------------------------------------------------------------- PreparedDword

/-- **the three-part split of `PreparedDword::new`** (`shl_dword` by the normalising shift, three
    `div_rem_2by1` by the normalised `range_per_word`, shifts back) is `% range_per_word`,
    `/ range_per_word % range_per_word`, `/ range_per_word / range_per_word`; no precondition of
    `div_rem_2by1` fails and `double_word(q0, q1) << shift` does not overflow — for every double word,
    provided `range_per_word² ≥ 2^W` (true for the maximal power of every radix in a word of even size: `radixInfo_sq`) -/
theorem dwordSplitW_eq (W rpw dword : Nat) (hW : 1 ≤ W) (h0 : 0 < rpw) (hlt : rpw < 2 ^ W)
    (hbig : 2 ^ W ≤ rpw * rpw) (hd : dword < 2 ^ (2 * W)) :
    dwordSplitW W rpw dword = .ok (dword % rpw, (dword / rpw) % rpw, dword / rpw / rpw) := by
  obtain ⟨hs1, hs2, hs3⟩ := lz_spec (bits := W) (by omega : rpw ≠ 0) hlt
  obtain ⟨hsum, hlo, hmid, hhi⟩ := shlDword_spec W dword (lz W rpw) (by omega) hd
  unfold dwordSplitW
  simp only []
  generalize lz W rpw = s at *
  generalize hsd : shlDword W dword s = t at *
  obtain ⟨lo, mid, hi⟩ := t
  simp only [] at hsum hlo hmid hhi ⊢
  have hps : 0 < 2 ^ s := Nat.two_pow_pos s
  have hpW : 0 < 2 ^ W := Nat.two_pow_pos W
  have hD : 0 < rpw * 2 ^ s := Nat.mul_pos h0 hps
  -- first division
  have hpre1 : (mid + 2 ^ W * hi) / 2 ^ W < rpw * 2 ^ s := by
    rw [Nat.add_mul_div_left _ _ hpW, Nat.div_eq_of_lt hmid, Nat.zero_add]
    calc hi < 2 ^ s := hhi
      _ ≤ rpw * 2 ^ s := Nat.le_mul_of_pos_left _ h0
  rw [div2by1_ok W _ _ hpre1]
  simp only [bind, Except.bind]
  have hr1 : (mid + 2 ^ W * hi) % (rpw * 2 ^ s) < rpw * 2 ^ s := Nat.mod_lt _ hD
  have hpre2 : (lo + 2 ^ W * ((mid + 2 ^ W * hi) % (rpw * 2 ^ s))) / 2 ^ W < rpw * 2 ^ s := by
    rw [Nat.add_mul_div_left _ _ hpW, Nat.div_eq_of_lt hlo, Nat.zero_add]; exact hr1
  rw [div2by1_ok W _ _ hpre2]
  simp only []
  -- the quotient and remainder of N = dword·2^s by D
  generalize hq1 : (mid + 2 ^ W * hi) / (rpw * 2 ^ s) = q1 at *
  generalize hr1' : (mid + 2 ^ W * hi) % (rpw * 2 ^ s) = r1 at *
  have hdec1 : mid + 2 ^ W * hi = (rpw * 2 ^ s) * q1 + r1 := by
    rw [← hq1, ← hr1']; exact (Nat.div_add_mod _ _).symm
  generalize hq0 : (lo + 2 ^ W * r1) / (rpw * 2 ^ s) = q0 at *
  generalize hp0 : (lo + 2 ^ W * r1) % (rpw * 2 ^ s) = p0s at *
  have hdec0 : lo + 2 ^ W * r1 = (rpw * 2 ^ s) * q0 + p0s := by
    rw [← hq0, ← hp0]; exact (Nat.div_add_mod _ _).symm
  have hp0lt : p0s < rpw * 2 ^ s := by rw [← hp0]; exact Nat.mod_lt _ hD
  have hN : dword * 2 ^ s = (rpw * 2 ^ s) * (q0 + 2 ^ W * q1) + p0s := by
    have e : 2 ^ (2 * W) = 2 ^ W * 2 ^ W := by rw [← Nat.pow_add]; congr 1; omega
    rw [← hsum, e]
    have : lo + 2 ^ W * mid + 2 ^ W * 2 ^ W * hi = lo + 2 ^ W * (mid + 2 ^ W * hi) := by ring
    rw [this, hdec1]
    have : lo + 2 ^ W * (rpw * 2 ^ s * q1 + r1) = (lo + 2 ^ W * r1) + rpw * 2 ^ s * (2 ^ W * q1) := by ring
    rw [this, hdec0]; ring
  have hQ : q0 + 2 ^ W * q1 = dword / rpw ∧ p0s = (dword % rpw) * 2 ^ s := by
    constructor
    · rw [← Nat.mul_div_mul_right dword rpw hps, hN, Nat.mul_add_div hD, Nat.div_eq_of_lt hp0lt, Nat.add_zero]
    · rw [← Nat.mul_mod_mul_right (2 ^ s) dword rpw, hN, Nat.mul_add_mod, Nat.mod_eq_of_lt hp0lt]
  rw [hQ.1, hQ.2]
  -- the quotient shifted back up
  have hQlt : dword / rpw * rpw < 2 ^ (2 * W) := lt_of_le_of_lt (Nat.div_mul_le_self _ _) hd
  have e2W : 2 ^ (2 * W) = 2 ^ W * 2 ^ W := by rw [← Nat.pow_add]; congr 1; omega
  have hslt : 2 ^ s < rpw := by
    by_contra hc
    have : rpw * rpw ≤ rpw * 2 ^ s := Nat.mul_le_mul_left _ (by omega)
    omega
  have hQs : dword / rpw * 2 ^ s < 2 ^ (2 * W) :=
    lt_of_le_of_lt (Nat.mul_le_mul_left _ (le_of_lt hslt)) hQlt
  rw [Nat.mod_eq_of_lt hQs]
  have hpre3 : (dword / rpw * 2 ^ s) / 2 ^ W < rpw * 2 ^ s := by
    rw [Nat.div_lt_iff_lt_mul hpW]
    -- Q < 2^(2W)/rpw ≤ rpw·2^W
    have hQ2 : dword / rpw < rpw * 2 ^ W := by
      by_contra hc
      have h1 : rpw * 2 ^ W * rpw ≤ dword / rpw * rpw := Nat.mul_le_mul_right _ (by omega)
      have h2 : 2 ^ W * 2 ^ W ≤ rpw * 2 ^ W * rpw := by
        calc 2 ^ W * 2 ^ W ≤ (rpw * rpw) * 2 ^ W := Nat.mul_le_mul_right _ hbig
          _ = rpw * 2 ^ W * rpw := by ring
      omega
    calc dword / rpw * 2 ^ s < rpw * 2 ^ W * 2 ^ s := Nat.mul_lt_mul_of_pos_right hQ2 hps
      _ = rpw * 2 ^ s * 2 ^ W := by ring
  rw [div2by1_ok W _ _ hpre3]
  simp only [pure, Except.pure]
  rw [Nat.mul_div_mul_right _ _ hps, Nat.mul_mod_mul_right, Nat.mul_div_cancel _ hps, Nat.mul_div_cancel _ hps]

/-- `PreparedDword::new` with the word-level split prints the number-level digits -/
theorem preparedDwordW_eq (W r dword : Nat) (hW : 1 ≤ W) (hev : 2 ∣ W) (hr : 2 ≤ r) (hrW : r < 2 ^ W)
    (hd : dword < 2 ^ (2 * W)) : preparedDwordW W r dword = .ok (preparedDword W r dword) := by
  have ok := radixInfo_ok W r hr hrW
  unfold preparedDwordW preparedDword
  simp only []
  rw [dwordSplitW_eq W _ dword hW (by have := ok.rpw_ge; omega) ok.lt (radixInfo_sq W r hev hr hrW) hd]

end Dashu.Model.Text
