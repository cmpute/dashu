import Dashu.Proofs.Text.ChunksWord
import Dashu.Model.Text.ChunksGuard
/-
  C07 — the chunk specifications that never form `2^k` for a huge chunk size (`Model/Text/ChunksGuard`) equal
  `chunksSpec` / `ofChunksSpec`; uniqueness of the minimal byte string, from `Words.chunksSpec_ofChunksSpec`.
-/
namespace Dashu.Model.Text

theorem chunksSpecG_eq (n k : Nat) (hk : 1 ≤ k) : chunksSpecG n k = chunksSpec n k := by
  unfold chunksSpecG
  by_cases h : bitLen n ≤ k
  · rw [if_pos h]
    by_cases hn : n = 0
    · subst hn; simp [chunksSpec_zero]
    · rw [if_neg hn]
      have hlt : n < 2 ^ k := bitLen_le_iff.mp h
      have h2 := two_le_two_pow hk
      unfold chunksSpec
      rw [digitsAux_succ h2 hn, Nat.div_eq_of_lt hlt, digitsAux_zero, Nat.mod_eq_of_lt hlt]
      rfl
  · rw [if_neg h]

theorem ofChunksSpecG_eq (k : Nat) (cs : List Nat) : ofChunksSpecG k cs = ofChunksSpec k cs := by
  induction cs with
  | nil => rfl
  | cons c cs ih =>
    simp only [ofChunksSpecG, ofChunksSpec, ih]
    by_cases h : ofChunksSpec k cs = 0
    · simp [h]
    · simp [h]

/-- uniqueness of the little-endian byte string: encoding the value of a canonical byte string
    (every byte `< 256`, top byte non-zero) gives the byte string back -/
theorem leBytesSpec_ofLeBytesSpec (bs : List Nat) (hlt : ∀ b ∈ bs, b < 256) (hlast : bs.getLast? ≠ some 0) :
    leBytesSpec (ofLeBytesSpec bs) = bs := by
  have h := chunksSpec_ofChunksSpec 8 (by omega) bs (by simpa using hlt) hlast
  rw [ofChunksSpec_eq] at h
  exact h

end Dashu.Model.Text
