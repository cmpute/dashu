import Dashu.Proofs.Text.Float
import Dashu.Proofs.Text.Grammar
import Dashu.Proofs.Text.Sign
/-
  C08 — characters, searching and the digit strings of float literals.
-/
namespace Dashu.Model.Text

-- ---------------------------------------------------------------- searching

theorem findIdx?_append_hit {p : Nat → Bool} (a : List Nat) (c : Nat) (b : List Nat)
    (ha : ∀ x ∈ a, p x = false) (hc : p c = true) : (a ++ c :: b).findIdx? p = some a.length := by
  induction a with
  | nil => simp [List.findIdx?_cons, hc]
  | cons x a ih =>
    have hx : p x = false := ha x (by simp)
    rw [List.cons_append, List.findIdx?_cons, hx]
    simp only [Bool.false_eq_true, if_false]
    rw [ih (fun y hy => ha y (by simp [hy]))]
    simp

theorem findIdx?_none {p : Nat → Bool} (a : List Nat) (ha : ∀ x ∈ a, p x = false) : a.findIdx? p = none := by
  induction a with
  | nil => rfl
  | cons x a ih =>
    rw [List.findIdx?_cons, ha x (by simp)]
    simp only [Bool.false_eq_true, if_false]
    rw [ih (fun y hy => ha y (by simp [hy]))]; rfl

theorem rfindIdx_hit {p : Nat → Bool} (a : List Nat) (c : Nat) (b : List Nat)
    (hb : ∀ x ∈ b, p x = false) (hc : p c = true) : rfindIdx p (a ++ c :: b) = some a.length := by
  unfold rfindIdx
  have : (a ++ c :: b).reverse = b.reverse ++ c :: a.reverse := by simp
  rw [this, findIdx?_append_hit _ _ _ (fun x hx => hb x (List.mem_reverse.mp hx)) hc]
  simp only [List.length_reverse, List.length_append, List.length_cons]
  congr 1; omega

theorem rfindIdx_none {p : Nat → Bool} (a : List Nat) (ha : ∀ x ∈ a, p x = false) : rfindIdx p a = none := by
  unfold rfindIdx
  rw [findIdx?_none _ (fun x hx => ha x (List.mem_reverse.mp hx))]

-- ---------------------------------------------------------------- characters

theorem digitChar_cases (up : Bool) (d : Nat) (hd : d < 36) :
    (48 ≤ digitChar up d ∧ digitChar up d ≤ 57 ∧ d < 10) ∨
    (97 ≤ digitChar up d ∧ digitChar up d ≤ 122 ∧ digitChar up d = 87 + d ∧ 10 ≤ d) ∨
    (65 ≤ digitChar up d ∧ digitChar up d ≤ 90 ∧ digitChar up d = 55 + d ∧ 10 ≤ d) := by
  unfold digitChar
  by_cases h : d < 10
  · left; simp [h]; omega
  · cases up <;> simp [h] <;> omega

/-- every scale marker is `@` or a letter other than `x` -/
theorem isScaleMarker_ge {B : Nat} {hp : Bool} {c : Nat} (h : isScaleMarker B hp c = true) :
    64 ≤ c ∧ c ≠ 120 ∧ c ≠ 88 := by
  unfold isScaleMarker at h
  split_ifs at h <;> simp only [Bool.or_eq_true, beq_iff_eq] at h <;> omega

theorem isScaleMarker_lt (B : Nat) (hp : Bool) {c : Nat} (hc : c < 64) : isScaleMarker B hp c = false := by
  cases h : isScaleMarker B hp c
  · rfl
  · have := (isScaleMarker_ge h).1; omega

theorem isScaleMarker_digitChar (B : Nat) (hB : B ≤ 36) (up : Bool) (d : Nat) (hd : d < B) :
    isScaleMarker B false (digitChar up d) = false := by
  rcases digitChar_cases up d (by omega) with h | h
  · exact isScaleMarker_lt B false (by omega)
  · -- a letter, so `B > 10`; the markers `h H` of base 16 are no hexadecimal digits
    simp only [isScaleMarker, if_neg (show B ≠ 10 by omega), if_neg (show B ≠ 2 by omega),
      if_neg (show B ≠ 8 by omega)]
    split_ifs <;> simp only [Bool.or_eq_false_iff, beq_eq_false_iff_ne, ne_eq] <;> omega

theorem isScaleMarker_dot (B : Nat) (hp : Bool) : isScaleMarker B hp 46 = false :=
  isScaleMarker_lt B hp (by decide)

theorem isScaleMarker_at (B : Nat) (hp : Bool) : isScaleMarker B hp 64 = true := by
  simp only [isScaleMarker, beq_self_eq_true, Bool.or_true, ite_self]

theorem isScaleMarker_dec (B : Nat) (hp : Bool) (c : Nat) (hc : c = 45 ∨ (48 ≤ c ∧ c ≤ 57)) :
    isScaleMarker B hp c = false :=
  isScaleMarker_lt B hp (by omega)

-- ---------------------------------------------------------------- digit strings

theorem chars_length (up : Bool) (ds : List Nat) : (chars up ds).length = ds.length := by simp [chars]

theorem chars_mem {up : Bool} {ds : List Nat} {c : Nat} (h : c ∈ chars up ds) : ∃ d ∈ ds, c = digitChar up d := by
  obtain ⟨d, hd, rfl⟩ := List.mem_map.mp h
  exact ⟨d, hd, rfl⟩

theorem countUs_chars (up : Bool) (ds : List Nat) (h : ∀ d ∈ ds, d < 36) : countUs (chars up ds) = 0 := by
  unfold countUs
  rw [List.length_eq_zero_iff, List.filter_eq_nil_iff]
  intro c hc
  obtain ⟨d, hd, rfl⟩ := chars_mem hc
  have := digitChar_ne_us up d (h d hd)
  simpa using this

theorem chars_no_dot (up : Bool) (ds : List Nat) : ∀ c ∈ chars up ds, (c == 46) = false := by
  intro c hc
  obtain ⟨d, _, rfl⟩ := chars_mem hc
  have := digitChar_ge up d
  simp; omega

-- ---------------------------------------------------------------- the whole literal

theorem hasHexPrefix_false (t : List Nat) (h : ∀ c ∈ t, c ≠ 120 ∧ c ≠ 88) : hasHexPrefix t = false := by
  unfold hasHexPrefix
  cases t with
  | nil => rfl
  | cons a t =>
    cases t with
    | nil => simp
    | cons b t =>
      have := h b (by simp)
      simp [List.take, this.1, this.2]

theorem printSpecInt10_chars (z : Int) : ∀ c ∈ printSpecInt 10 false z, c = 45 ∨ (48 ≤ c ∧ c ≤ 57) := by
  intro c hc
  unfold printSpecInt at hc
  rcases List.mem_append.mp hc with h | h
  · split at h <;> simp at h; left; exact h
  · right; exact printSpec10_chars _ c h

-- ---------------------------------------------------------------- digit strings of the printers

theorem rep_zero_chars (up : Bool) (k : Nat) : rep k [48] = chars up (List.replicate k 0) := by
  unfold rep chars
  induction k with
  | zero => rfl
  | succ k ih =>
    rw [List.replicate_succ, List.flatten_cons, ih, List.replicate_succ, List.map_cons]
    simp [digitChar]

theorem ofDigits_replicate_zero_append (B k : Nat) (ds : List Nat) :
    ofDigits B (List.replicate k 0 ++ ds) = ofDigits B ds := by
  induction k with
  | zero => rfl
  | succ k ih => rw [List.replicate_succ, List.cons_append, ofDigits_cons, ih]; simp

theorem ofDigits_append_replicate_zero (B k : Nat) (ds : List Nat) :
    ofDigits B (ds ++ List.replicate k 0) = ofDigits B ds * B ^ k := by
  rw [ofDigits_append, List.length_replicate]
  have : ofDigits B (List.replicate k 0) = 0 := by
    have := ofDigits_replicate_zero_append B k []
    simpa [ofDigits] using this
  rw [this, Nat.add_zero]

theorem printSpecInt_drop (B : Nat) (s : Int) :
    (if s < 0 then (printSpecInt B false s).drop 1 else printSpecInt B false s) = chars false (digits B s.natAbs) := by
  unfold printSpecInt printSpec chars
  by_cases h : s < 0 <;> simp [h]

theorem chars_append (up : Bool) (a b : List Nat) : chars up (a ++ b) = chars up a ++ chars up b := by
  unfold chars; rw [List.map_append]

theorem chars_eq_nil {up : Bool} {D : List Nat} : chars up D = [] ↔ D = [] := by
  unfold chars; simp

/-- the sign character of a literal times the magnitude gives back a number of that sign -/
theorem sign_mul_abs {σ : Option Bool} {s : Int} {x : ℚ} (hσ : σ = some true ↔ s < 0)
    (h1 : s < 0 → x ≤ 0) (h2 : 0 ≤ s → 0 ≤ x) : (if σ = some true then (-1 : ℚ) else 1) * |x| = x := by
  by_cases h : s < 0
  · rw [if_pos (hσ.mpr h), abs_of_nonpos (h1 h), neg_one_mul, neg_neg]
  · rw [if_neg (fun hs => h (hσ.mp hs)), abs_of_nonneg (h2 (by omega)), one_mul]

theorem sign_mul_natAbs {σ : Option Bool} {s x : Int} (hσ : σ = some true ↔ s < 0)
    (h1 : s < 0 → x ≤ 0) (h2 : 0 ≤ s → 0 ≤ x) :
    (if σ = some true then (-1 : ℚ) else 1) * ((x.natAbs : Nat) : ℚ) = (x : ℚ) := by
  rw [Nat.cast_natAbs, Int.cast_abs]
  exact sign_mul_abs hσ (fun h => by exact_mod_cast h1 h) (fun h => by exact_mod_cast h2 h)

end Dashu.Model.Text
