import Dashu.Model.Text.Debug
import Dashu.Model.Text.Float
import Dashu.Proofs.Text.FmtWord
import Dashu.Proofs.Text.Grammar
import Dashu.Proofs.NT.Log
/-
  C07 — `Debug` (`DoubleEnd`): the mirrored word-level algorithm (rem_by_word for the tail;
  log_word_base, division of the power by 10^(dpw-1), normalisation and ONE `div_rem_highest_word`
  for the head) prints exactly the leading and trailing `digits_per_word` decimal digits.
-/
namespace Dashu.Model.Text
open Dashu.Model Dashu.Model.Div

theorem norm_getD {ws : List Nat} (hn : Norm ws) (hne : ws ≠ []) : ws.getD (ws.length - 1) 0 ≠ 0 := by
  have hl : 1 ≤ ws.length := by
    cases ws with
    | nil => exact absurd rfl hne
    | cons a t => simp
  obtain ⟨lo, a, hsplit, hgd, _, _⟩ := split_last1 ws hl
  rw [hgd]
  intro h0
  apply hn
  rw [hsplit, h0]
  simp

theorem norm_wordsOf (W n : Nat) (hW : 1 ≤ W) : Norm (wordsOf W n) := (chunksSpec_bounds n W hW).2

theorem exact_div (q d r P : Nat) (hd : 0 < d) (h : q * d + r = P * d) (hr : r < d) : r = 0 ∧ q = P := by
  have h1 : (q * d + r) % d = r := by
    rw [Nat.mul_comm, Nat.mul_add_mod, Nat.mod_eq_of_lt hr]
  have h2 : (P * d) % d = 0 := Nat.mul_mod_left _ _
  rw [h, h2] at h1
  subst h1
  refine ⟨rfl, ?_⟩
  simp only [Nat.add_zero] at h
  exact Nat.eq_of_mul_eq_mul_right hd h

/-- the decimal-size facts behind `DoubleEnd`: for a heap value `n ≥ 2^(2W)` with `10^e ≤ n < 10^(e+1)` -/
theorem doubleEnd_arith (W k R n e : Nat) (hk : 2 ≤ k) (hR : R = 10 ^ k) (hRlt : R < 2 ^ W)
    (hmax : 2 ^ W ≤ R * 10) (hbig : 2 ^ (2 * W) ≤ n) (hlo : 10 ^ e ≤ n) (hhi : n < 10 ^ (e + 1)) :
    2 * k ≤ e ∧ 2 ^ W ≤ 10 ^ (e + 1 - k) ∧ 10 ^ e = 10 ^ (e + 1 - k) * 10 ^ (k - 1) ∧
    n / 10 ^ (e + 1 - k) < R ∧ 10 * 10 ^ (e + 1 - k) ≤ n ∧ R / 10 = 10 ^ (k - 1) := by
  have h2k : 2 * k ≤ e := by
    have h1 : 10 ^ (2 * k) < 10 ^ (e + 1) := by
      calc 10 ^ (2 * k) = R * R := by rw [hR, ← Nat.pow_add]; congr 1; omega
        _ < 2 ^ W * 2 ^ W := Nat.mul_lt_mul'' hRlt hRlt
        _ = 2 ^ (2 * W) := by rw [← Nat.pow_add]; congr 1; omega
        _ ≤ n := hbig
        _ < 10 ^ (e + 1) := hhi
    have := (Nat.pow_lt_pow_iff_right (a := 10) (by omega)).mp h1
    omega
  have hP1 : 10 ^ (k + 1) ≤ 10 ^ (e + 1 - k) := Nat.pow_le_pow_right (by omega) (by omega)
  have hsplit : 10 ^ e = 10 ^ (e + 1 - k) * 10 ^ (k - 1) := by
    rw [← Nat.pow_add]; congr 1; omega
  have hPpos : 0 < 10 ^ (e + 1 - k) := Nat.pow_pos (by omega)
  refine ⟨h2k, ?_, hsplit, ?_, ?_, ?_⟩
  · calc 2 ^ W ≤ R * 10 := hmax
      _ = 10 ^ (k + 1) := by rw [hR, pow_succ]
      _ ≤ _ := hP1
  · rw [Nat.div_lt_iff_lt_mul hPpos, hR, ← Nat.pow_add]
    have : k + (e + 1 - k) = e + 1 := by omega
    rw [this]; exact hhi
  · calc 10 * 10 ^ (e + 1 - k) ≤ 10 ^ (k - 1) * 10 ^ (e + 1 - k) :=
          Nat.mul_le_mul_right _ (by
            calc 10 = 10 ^ 1 := by norm_num
              _ ≤ 10 ^ (k - 1) := Nat.pow_le_pow_right (by omega) (by omega))
      _ = 10 ^ e := by rw [hsplit, Nat.mul_comm]
      _ ≤ n := hlo
  · rw [hR]
    have : 10 ^ k = 10 ^ (k - 1) * 10 := by rw [← pow_succ]; congr 1; omega
    rw [this, Nat.mul_div_cancel _ (by omega)]

/-- one `div_rem_highest_word` on a window of exactly `n + 1` words is the whole quotient -/
theorem highest_word_quotient (W : Nat) (hW : 1 ≤ W) (lhsTop : Nat) (lo pn : List Nat)
    (hlo : IsWords W lo) (hpn : IsWords W pn) (h2 : 2 ≤ pn.length)
    (hnorm : 2 ^ (W * pn.length) ≤ 2 * val W pn) (hlen : lo.length = pn.length)
    (hA : val W lo + lhsTop * 2 ^ (W * pn.length) < val W pn * 2 ^ W) :
    ∃ rest, divRemHighestWord W lhsTop lo pn (highestDword W pn) =
      .ok ((val W lo + lhsTop * 2 ^ (W * pn.length)) / val W pn, rest) := by
  have hd0 : lo.drop (lo.length - pn.length) = lo := by rw [hlen, Nat.sub_self]; rfl
  obtain ⟨q, win', e, _, _, _, hlt, hq⟩ := divRemHighestWord_spec W hW lhsTop lo pn h2 (by omega) hlo hpn hnorm
    (by rw [hd0]; exact hA)
  rw [hd0] at hq
  have : (val W lo + lhsTop * 2 ^ (W * pn.length)) / val W pn = q := by
    apply Nat.div_eq_of_lt_le
    · omega
    · rw [Nat.add_mul, Nat.one_mul]; omega
  exact ⟨_, by rw [e, this]⟩

theorem two_pow_succ_mul (W L : Nat) : 2 ^ (W * (L + 1)) = 2 ^ (W * L) * 2 ^ W := by
  rw [Nat.mul_succ, Nat.pow_add]

theorem window_len_le (W m L A D : Nat) (hW : 1 ≤ W) (h1 : 2 ^ (W * m) ≤ A) (h2 : A < D * 2 ^ W)
    (h3 : D < 2 ^ (W * L)) : m ≤ L := by
  have h4 : 2 ^ (W * m) < 2 ^ (W * (L + 1)) := by
    rw [two_pow_succ_mul]
    calc 2 ^ (W * m) ≤ A := h1
      _ < D * 2 ^ W := h2
      _ ≤ 2 ^ (W * L) * 2 ^ W := Nat.mul_le_mul_right _ (by omega)
  have h5 := (Nat.pow_lt_pow_iff_right (a := 2) (by omega)).mp h4
  have h6 : m < L + 1 := Nat.lt_of_mul_lt_mul_left h5
  omega

/-- the shifted number `A` (`m + 1` words at most) and the normalised `L`-word divisor `D` of `DoubleEnd`: below its
    top word, the window handed to `div_rem_highest_word` has exactly the divisor's length -/
theorem window_len_eq (W m L A D : Nat) (hW : 1 ≤ W) (h1 : 2 ^ (W * m) ≤ A) (h1' : A < 2 ^ (W * (m + 1)))
    (h2 : A < D * 2 ^ W) (h3 : D < 2 ^ (W * L)) (h4 : 2 ^ (W * L) ≤ 2 * D) (h5 : 2 * D ≤ A) : m = L := by
  apply Nat.le_antisymm (window_len_le W m L A D hW h1 h2 h3)
  have h6 : 2 ^ (W * L) < 2 ^ (W * (m + 1)) := Nat.lt_of_le_of_lt (Nat.le_trans h4 h5) h1'
  have h7 := (Nat.pow_lt_pow_iff_right (a := 2) (by omega)).mp h6
  exact Nat.le_of_lt_succ (Nat.lt_of_mul_lt_mul_left h7)

/-- **the heap arm of `DoubleEnd::fmt_non_power_two` on words**: no `debug_assert!` fails and no
    precondition of a kernel is violated; the head word is `n / 10^(exp+1-dpw)`, the tail word is
    `n % 10^dpw`, and `exp + 1` is the number of decimal digits — for every heap value, every even word
    size `≥ 8` and every first guess `est` that passes `log_word_base`'s own `assert!` -/
theorem doubleEndLarge_eq (W est : Nat) (hW : 8 ≤ W) (hev : 2 ∣ W) (words : List Nat)
    (hw : IsWords W words) (hnm : Norm words) (hbig : 2 ^ (2 * W) ≤ val W words)
    (hest : 10 ^ est ≤ val W words) :
    ∃ exp, 10 ^ exp ≤ val W words ∧ val W words < 10 ^ (exp + 1) ∧ 2 * (radixInfo W 10).dpw ≤ exp ∧
      doubleEndLarge W est words = .ok (val W words / 10 ^ (exp + 1 - (radixInfo W 10).dpw),
        val W words % 10 ^ (radixInfo W 10).dpw, exp) := by
  have h256 : (2 : Nat) ^ 8 ≤ 2 ^ W := Nat.pow_le_pow_right (by omega) hW
  have h10W : 10 < 2 ^ W := by omega
  have hW1 : 1 ≤ W := by omega
  have ok := radixInfo_ok W 10 (by omega) h10W
  have hmax : 2 ^ W ≤ (radixInfo W 10).rpw * 10 := (maxExpInWord_spec W 10 (by omega) h10W).2.2.2 hev
  unfold doubleEndLarge
  generalize radixInfo W 10 = ri at ok hmax ⊢
  have hRpow := ok.pow
  have hRlt := ok.lt
  have hk1 := ok.dpos
  have hk2 : 2 ≤ ri.dpw := by
    by_contra hc
    have : ri.dpw = 1 := by omega
    rw [this] at hRpow
    omega
  have hnpos : 0 < val W words := Nat.lt_of_lt_of_le (Nat.two_pow_pos _) hbig
  have hne : words ≠ [] := by
    intro h0; rw [h0] at hnpos; simp [val] at hnpos
  have hR0 : 0 < ri.rpw := by rw [hRpow]; exact Nat.pow_pos (by omega)
  -- tail
  have e1 := remByWord_spec W ri.rpw words hw hne hR0 hRlt
  -- logarithm
  obtain ⟨⟨exp, pow⟩, e2, hlog1, hlog2, hlog3⟩ :=
    Dashu.Model.NT.logWordBase_spec (W := W) (target := val W words) (base := 10) (by omega) (by omega) h10W est hest
  simp only at hlog1 hlog2 hlog3
  subst hlog1
  rw [← pow_succ] at hlog3
  obtain ⟨h2k, hPW, hsplit, hqR, h10P, hR10⟩ :=
    doubleEnd_arith W ri.dpw ri.rpw (val W words) exp hk2 hRpow hRlt hmax hbig hlog2 hlog3
  generalize hP : 10 ^ (exp + 1 - ri.dpw) = P at *
  have hPpos : 0 < P := by omega
  -- pow / 10^(dpw-1)
  have hd0 : 0 < ri.rpw / 10 := by rw [hR10]; exact Nat.pow_pos (by omega)
  have hdlt : ri.rpw / 10 < 2 ^ W := Nat.lt_of_le_of_lt (Nat.div_le_self _ _) hRlt
  obtain ⟨pq, prem, e3, hv3, hr3, _, hq3⟩ :=
    divByWordInPlace_spec W (ri.rpw / 10) (wordsOf W (10 ^ exp)) (isWords_wordsOf W _ hW1) hd0 hdlt
  rw [val_wordsOf W _ hW1, hsplit, ← hR10] at hv3
  obtain ⟨hprem, hpq⟩ := exact_div _ _ _ _ hd0 hv3 hr3
  subst hprem
  simp only [e1, e2, e3, bind, Except.bind, ne_eq, not_true_eq_false, if_false]
  -- pop_zeros, length
  have hpwv : val W (trimZeros pq) = P := by rw [val_trimZeros, hpq]
  have hpww := isWords_trimZeros hq3
  have hpwn := norm_trimZeros pq
  generalize trimZeros pq = pw at hpwv hpww hpwn ⊢
  have hpwl : ¬ pw.length ≤ 1 := by
    intro hc
    have := ((norm_length W hW1 pw hpww hpwn).1.mp hc)
    omega
  have hpwne : pw ≠ [] := by intro h0; rw [h0] at hpwl; simp at hpwl
  simp only [hpwl, if_false]
  -- normalize
  obtain ⟨pn, shift, e6, hs6, hl6, hw6, hv6, hn6⟩ :=
    normalize_spec W hW1 pw hpww (by omega) (norm_getD hpwn hpwne)
  rw [hpwv] at hv6
  simp only [e6]
  have hpnlt := val_lt W pn hw6
  rw [← hl6] at hn6
  have hPge : 2 ^ (W * (pn.length - 1)) ≤ P := by
    rw [hl6, ← hpwv]; exact val_ge_of_getLast W pw hpwne hpwn
  -- shift the number
  have sp := shlInPlace_spec W shift (by omega) words hw
  generalize hsh : shlInPlace W words shift = p at sp ⊢
  obtain ⟨ws, top⟩ := p
  simp only at sp
  obtain ⟨s1, s2, s3, s4⟩ := sp
  have hnge : 2 ^ (W * (words.length - 1)) ≤ val W words := val_ge_of_getLast W words hne hnm
  have hspos : 0 < 2 ^ shift := Nat.two_pow_pos _
  have hAlt : val W words * 2 ^ shift < val W pn * 2 ^ W := by
    rw [hv6]
    have : val W words < P * ri.rpw := by
      have := (Nat.div_lt_iff_lt_mul hPpos).mp hqR
      rw [Nat.mul_comm]; exact this
    calc val W words * 2 ^ shift < P * ri.rpw * 2 ^ shift := Nat.mul_lt_mul_of_pos_right this hspos
      _ = P * 2 ^ shift * ri.rpw := by ring
      _ ≤ P * 2 ^ shift * 2 ^ W := Nat.mul_le_mul_left _ (by omega)
  have hquot : val W words * 2 ^ shift / val W pn = val W words / P := by
    rw [hv6, Nat.mul_div_mul_right _ _ hspos]
  have hwl1 : 1 ≤ words.length := by
    cases words with
    | nil => exact absurd rfl hne
    | cons a t => simp
  have h2D : 2 * val W pn ≤ val W words * 2 ^ shift := by
    rw [hv6, ← Nat.mul_assoc]; exact Nat.mul_le_mul_right _ (by omega)
  by_cases htop : top = 0
  · -- words_top == 0: split the last word off
    subst htop
    simp only [Nat.mul_zero, Nat.add_zero] at s1
    have hwsne : ws ≠ [] := by intro h0; rw [h0] at s2; simp at s2; omega
    obtain ⟨lo, a, rfl⟩ : ∃ lo a, ws = lo ++ [a] :=
      ⟨ws.dropLast, ws.getLast hwsne, (List.dropLast_append_getLast hwsne).symm⟩
    have hlol : lo.length = words.length - 1 := by simp at s2; omega
    have hlow : IsWords W lo := fun x hx => s3 x (by simp [hx])
    rw [val_append_one] at s1
    have hlen : lo.length = pn.length := by
      apply window_len_eq W lo.length pn.length (val W words * 2 ^ shift) (val W pn) hW1 ?_ ?_ hAlt hpnlt hn6 h2D
      · rw [hlol]
        calc 2 ^ (W * (words.length - 1)) ≤ val W words := hnge
          _ ≤ val W words * 2 ^ shift := Nat.le_mul_of_pos_right _ hspos
      · have := val_lt W (lo ++ [a]) s3
        rw [val_append_one] at this
        simp only [List.length_append, List.length_singleton] at this
        omega
    obtain ⟨rest, e8⟩ := highest_word_quotient W hW1 a lo pn hlow hw6 (by omega) hn6 hlen (by
      rw [← hlen, Nat.mul_comm a, s1]; exact hAlt)
    rw [← hlen, Nat.mul_comm a, s1, hquot] at e8
    refine ⟨exp, hlog2, hlog3, h2k, ?_⟩
    rw [hP]
    simp only [List.getLastD_concat, List.dropLast_concat, if_true, List.append_eq_nil_iff,
      List.cons_ne_self, and_false, if_false, hlen, Nat.lt_irrefl, e8, pure, Except.pure, hRpow]
  · -- words_top != 0: the window is all of `words`
    have htop1 : 1 ≤ top := by omega
    have hlen : ws.length = pn.length := by
      apply window_len_eq W ws.length pn.length (val W words * 2 ^ shift) (val W pn) hW1 ?_ ?_ hAlt hpnlt hn6 h2D
      · rw [← s1, s2]
        calc 2 ^ (W * words.length) = 2 ^ (W * words.length) * 1 := (Nat.mul_one _).symm
          _ ≤ 2 ^ (W * words.length) * top := Nat.mul_le_mul_left _ htop1
          _ ≤ _ := Nat.le_add_left _ _
      · rw [s2, two_pow_succ_mul]
        exact Nat.mul_lt_mul_of_lt_of_le (val_lt W words hw) (Nat.pow_le_pow_right (by omega) (Nat.le_of_succ_le hs6)) (Nat.two_pow_pos W)
    obtain ⟨rest, e8⟩ := highest_word_quotient W hW1 top ws pn s3 hw6 (by omega) hn6 hlen (by
      rw [← hlen, s2, Nat.mul_comm top, s1]; exact hAlt)
    rw [← hlen, s2, Nat.mul_comm top, s1, hquot] at e8
    refine ⟨exp, hlog2, hlog3, h2k, ?_⟩
    rw [hP]
    simp only [htop, if_false, false_and, hlen, Nat.lt_irrefl, e8, pure, Except.pure, hRpow]

-- ---------------------------------------------------------------- the text

theorem map_rawToAscii_digits (m : Nat) :
    (digits 10 m).map (rawToAscii .noLetters) = printSpec 10 false m := by
  unfold printSpec
  apply List.map_congr_left
  intro d hd
  exact rawToAscii_eq .noLetters false d (Or.inl ⟨rfl, digits_lt (by omega) m d hd⟩)

theorem writeUsizeDecimals_eq (u : Nat) : writeUsizeDecimals u = printSpec 10 false u := by
  unfold writeUsizeDecimals
  rw [preparedWord_one (by omega), map_rawToAscii_digits]

theorem digits_head_tail (n e k : Nat) (hk : k ≤ e + 1) (hlo : 10 ^ e ≤ n) (hhi : n < 10 ^ (e + 1)) :
    (digits 10 n).length = e + 1 ∧
    (digits 10 n).take k = digitsPad 10 k (n / 10 ^ (e + 1 - k)) ∧
    (digits 10 n).drop ((digits 10 n).length - k) = digitsPad 10 k (n % 10 ^ k) := by
  have hd : digits 10 n = digitsPad 10 (e + 1) n :=
    digits_eq_digitsPad (by omega) (e + 1) n (by omega) (Or.inr (by simpa using hlo)) hhi
  have hl : (digits 10 n).length = e + 1 := by rw [hd, digitsPad_length]
  refine ⟨hl, ?_, ?_⟩
  · rw [hd]
    have : e + 1 = k + (e + 1 - k) := by omega
    conv_lhs => rw [this, digitsPad_add]
    rw [List.take_left' (digitsPad_length _ _ _)]
  · rw [hl, hd]
    have : e + 1 = (e + 1 - k) + k := by omega
    conv_lhs => rw [this, digitsPad_add]
    rw [← this, List.drop_left' (digitsPad_length _ _ _), digitsPad_mod]

/-- **`Debug` of `UBig` / `IBig` (mirrored `DoubleEnd::fmt_non_power_two` + `format_prepared`) prints
    the specified text**: every even word size `≥ 8`, every integer, every flag combination; `est` is
    the f32 first guess of `log_word_base`, constrained only by that function's own `assert!` (C10) -/
theorem doubleEndFmt_eq (W est : Nat) (hW : 8 ≤ W) (hev : 2 ∣ W) (alt plus : Bool) (z : Int)
    (hest : 2 ^ (2 * W) ≤ z.natAbs → 10 ^ est ≤ z.natAbs) :
    doubleEndFmt W est alt plus z = .ok (debugSpec W alt plus z) := by
  have h10W : 10 < 2 ^ W := validRadix_lt_word (by decide) hW
  have hW1 : 1 ≤ W := by omega
  have ok := radixInfo_ok W 10 (by omega) h10W
  unfold doubleEndFmt debugSpec
  generalize z.natAbs = n at hest ⊢
  have key : ∃ hi lo nd, doubleEndPieces W est n = .ok (hi, lo, nd) ∧
      nd = (if n = 0 then 0 else (printSpec 10 false n).length) ∧
      hi.map (rawToAscii .noLetters) ++ (match lo with
        | none => []
        | some l => [46, 46] ++ l.map (rawToAscii .noLetters)) =
      (if n < 2 ^ (2 * W) then printSpec 10 false n
       else (printSpec 10 false n).take (radixInfo W 10).dpw ++ [46, 46] ++
         (printSpec 10 false n).drop ((printSpec 10 false n).length - (radixInfo W 10).dpw)) := by
    unfold doubleEndPieces
    by_cases h1 : n < 2 ^ W
    · have h2 : n < 2 ^ (2 * W) :=
        Nat.lt_of_lt_of_le h1 (Nat.pow_le_pow_right (by omega) (by omega))
      refine ⟨_, _, _, by rw [if_pos h1], ?_, ?_⟩
      · rw [preparedWord_one (by omega)]; simp [printSpec]
      · rw [if_pos h2, preparedWord_one (by omega), map_rawToAscii_digits]; simp
    · by_cases h2 : n < 2 ^ (2 * W)
      · have hge : (radixInfo W 10).rpw ≤ n := by have := ok.lt; omega
        have hn0 : n ≠ 0 := by have := Nat.two_pow_pos W; omega
        rw [if_neg h1, if_pos h2, preparedDwordW_eq W 10 n hW1 hev (by omega) h10W h2,
          preparedDword_eq ok n hge]
        refine ⟨_, _, _, rfl, ?_, ?_⟩
        · simp [printSpec, hn0]
        · rw [if_pos h2, map_rawToAscii_digits]; simp
      · have hbig : 2 ^ (2 * W) ≤ n := by omega
        have hn0 : n ≠ 0 := by have := Nat.two_pow_pos (2 * W); omega
        have hnorm := norm_wordsOf W n hW1
        have hv := val_wordsOf W n hW1
        obtain ⟨e, hlo, hhi, h2k, eq⟩ := doubleEndLarge_eq W est hW hev (wordsOf W n)
          (isWords_wordsOf W n hW1) hnorm (by rw [hv]; exact hbig) (by rw [hv]; exact hest hbig)
        rw [hv] at hlo hhi eq
        rw [if_neg h1, if_neg h2, eq]
        obtain ⟨hl, htake, hdrop⟩ := digits_head_tail n e (radixInfo W 10).dpw (by omega) hlo hhi
        have hq : n / 10 ^ (e + 1 - (radixInfo W 10).dpw) < 10 ^ (radixInfo W 10).dpw := by
          rw [Nat.div_lt_iff_lt_mul (Nat.pow_pos (by omega)), ← Nat.pow_add]
          have : (radixInfo W 10).dpw + (e + 1 - (radixInfo W 10).dpw) = e + 1 := by omega
          rw [this]; exact hhi
        have hm : n % 10 ^ (radixInfo W 10).dpw < 10 ^ (radixInfo W 10).dpw :=
          Nat.mod_lt _ (Nat.pow_pos (by omega))
        refine ⟨_, _, _, rfl, ?_, ?_⟩
        · simp [printSpec, hn0, hl]
        · rw [if_neg h2, preparedWord_pad (by omega) _ _ hq, preparedWord_pad (by omega) _ _ hm,
            ← htake, ← hdrop]
          simp only [printSpec, List.map_take, List.map_drop, List.length_map]
          have hf : ∀ l : List Nat, (∀ d ∈ l, d < 10) →
              l.map (rawToAscii .noLetters) = l.map (digitChar false) := by
            intro l hl'
            apply List.map_congr_left
            intro d hd
            exact rawToAscii_eq .noLetters false d (Or.inl ⟨rfl, hl' d hd⟩)
          have hdl := digits_lt (r := 10) (by omega) n
          rw [← List.map_take, ← List.map_drop,
            hf _ (fun d hd => hdl d (List.mem_of_mem_take hd)),
            hf _ (fun d hd => hdl d (List.mem_of_mem_drop hd))]
          simp [List.map_take, List.map_drop]
  obtain ⟨hi, lo, nd, e1, e2, e3⟩ := key
  simp only [e1, writeUsizeDecimals_eq]
  rw [e2]
  cases lo with
  | none => simp only [List.append_nil] at e3 ⊢; rw [e3]
  | some l => simp only at e3 ⊢; rw [e3]

end Dashu.Model.Text
