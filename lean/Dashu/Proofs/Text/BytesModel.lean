import Dashu.Proofs.Text.Bytes
import Dashu.Proofs.Text.Parse
/-
  convert.rs, unsigned side: the word-level encoder `to_le_bytes` (inline double word and heap
  `words_to_le_bytes`) equals the positional specification `leBytesSpec`, for every word size that
  is a multiple of 8.
-/
namespace Dashu.Model.Text

theorem take_digitsPadLE (r j k x : Nat) (h : j ≤ k) : (digitsPadLE r k x).take j = digitsPadLE r j x := by
  obtain ⟨d, rfl⟩ : ∃ d, k = j + d := ⟨k - j, by omega⟩
  rw [digitsPadLE_add, List.take_left' (digitsPadLE_length r j x)]

theorem flatMap_digitsPadLE (r k m x : Nat) :
    (digitsPadLE (r ^ k) m x).flatMap (fun w => digitsPadLE r k w) = digitsPadLE r (k * m) x := by
  induction m generalizing x with
  | zero => simp [digitsPadLE]
  | succ m ih =>
    rw [digitsPadLE_succ, List.flatMap_cons, ih, Nat.mul_succ, Nat.add_comm (k * m) k, digitsPadLE_add,
      digitsPadLE_mod]

theorem leBytesSpec_eq (n : Nat) : leBytesSpec n = digitsPadLE 256 (byteLen n) n :=
  chunksSpec_eq n 8 (by omega)

theorem byteLen_eq (K bl : Nat) (h : bl ≤ 8 * K) : K - (8 * K - bl) / 8 = ceilDiv bl 8 := by
  unfold ceilDiv
  by_cases h0 : bl = 0
  · subst h0; simp
  · simp only [h0, if_false]; omega

/-- the bytes kept of a word whose leading zero BYTES are those of `w`: `W/8 − lz(w)/8 = byteLen w` -/
theorem wordLeBytes_take (W w x : Nat) (h8 : 8 ∣ W) (hw : bitLen w ≤ W) :
    (wordLeBytes W x).take (W / 8 - lzWord W w / 8) = digitsPadLE 256 (byteLen w) x := by
  obtain ⟨K, rfl⟩ := h8
  have h := byteLen_eq K (bitLen w) hw
  unfold wordLeBytes lzWord byteLen
  rw [Nat.mul_div_cancel_left K (by omega : 0 < 8), h, take_digitsPadLE _ _ _ _ (by rw [← h]; omega)]

/-- `TypedReprRef::to_le_bytes`, inline (double word) path -/
theorem toLeBytes_small (W n : Nat) (h8 : 8 ∣ W) (hn : n < 2 ^ (2 * W)) :
    (wordLeBytes (2 * W) n).take (2 * W / 8 - lzWord (2 * W) n / 8) = leBytesSpec n := by
  rw [wordLeBytes_take (2 * W) n n (Dvd.dvd.mul_left h8 2) (bitLen_le_iff.mpr hn), leBytesSpec_eq]

theorem byteLen_top (k n : Nat) (hk : 1 ≤ k) (hn : n ≠ 0) :
    byteLen n = k * (wordLen (8 * k) n - 1) + byteLen (n / 2 ^ (8 * k * (wordLen (8 * k) n - 1))) := by
  have h := wordLen_div_pow 8 (by omega) n (k * (wordLen (8 * k) n - 1))
  have h1 := wordLen_pos 8 (by omega) _ (top_digit n (8 * k) (by omega) hn).1
  rw [← Nat.mul_assoc] at h
  show wordLen 8 n = _ + wordLen 8 _
  rw [h] at h1 ⊢
  omega

theorem digitsPadLE_compl (r k x : Nat) (hr : 1 ≤ r) (hx : x < r ^ k) :
    digitsPadLE r k (r ^ k - 1 - x) = (digitsPadLE r k x).map (fun d => r - 1 - d) := by
  induction k generalizing x with
  | zero => rfl
  | succ k ih =>
    rw [digitsPadLE_succ, digitsPadLE_succ, List.map_cons]
    have hp : 0 < r ^ k := Nat.pow_pos hr
    have hxr : x / r < r ^ k := by
      rw [Nat.div_lt_iff_lt_mul hr]; rw [pow_succ] at hx; exact hx
    have hxm := Nat.mod_lt x hr
    have hdm := Nat.div_add_mod x r
    have e : r ^ (k + 1) - 1 - x = r * (r ^ k - 1 - x / r) + (r - 1 - x % r) := by
      have h1 : r ^ (k + 1) = r * r ^ k := by rw [pow_succ, Nat.mul_comm]
      have h2 : r * (r ^ k - 1 - x / r) = r * r ^ k - r - r * (x / r) := by
        rw [Nat.mul_sub, Nat.mul_sub, Nat.mul_one]
      have h3 : r * (x / r) + r ≤ r * r ^ k := by
        have : x / r + 1 ≤ r ^ k := hxr
        calc r * (x / r) + r = r * (x / r + 1) := by ring
          _ ≤ r * r ^ k := Nat.mul_le_mul_left _ this
      rw [h1, h2]; omega
    have hlt : r - 1 - x % r < r := by omega
    rw [e, Nat.mul_add_mod, Nat.mod_eq_of_lt hlt, Nat.mul_add_div hr, Nat.div_eq_of_lt hlt, Nat.add_zero,
      ih _ hxr]

theorem flatMap_map_compl (f : Nat → List Nat) (g : Nat → Nat) (l : List Nat) :
    l.flatMap (fun w => (f w).map g) = (l.flatMap f).map g := by
  induction l with
  | nil => rfl
  | cons a l ih => simp [List.flatMap_cons, ih]

theorem div_pow_pred_lt (r L v : Nat) (hr : 0 < r) (hv : v < r ^ L) : v / r ^ (L - 1) < r := by
  cases L with
  | zero =>
    rw [pow_zero, Nat.lt_one_iff] at hv
    subst hv; simpa using hr
  | succ j => rw [Nat.add_sub_cancel, Nat.div_lt_iff_lt_mul (Nat.pow_pos hr), Nat.mul_comm, ← pow_succ]; exact hv

theorem digitsPadLE_getLastD (r L v : Nat) (hr : 0 < r) (hv : v < r ^ L) :
    (digitsPadLE r L v).getLastD 0 = v / r ^ (L - 1) := by
  cases L with
  | zero =>
    rw [pow_zero, Nat.lt_one_iff] at hv
    subst hv; simp [digitsPadLE]
  | succ j =>
    rw [List.getLastD_eq_getLast?, digitsPadLE_getLast r _ v (by omega), Option.getD_some,
      Nat.mod_eq_of_lt (div_pow_pred_lt r (j + 1) v hr hv)]

/-- **`words_to_le_bytes::<FLIP>` on the `L` words of any `v`**: every byte of the words below the top
    one, then the `byteLen` bytes of the top word — that many low bytes of `v`, complemented when `FLIP` -/
theorem wordsToLeBytes_digitsPadLE (k : Nat) (flip : Bool) (L v : Nat) (hv : v < (2 ^ (8 * k)) ^ L) :
    wordsToLeBytes (8 * k) flip (digitsPadLE (2 ^ (8 * k)) L v) =
      (digitsPadLE 256 (k * (L - 1) + byteLen (v / (2 ^ (8 * k)) ^ (L - 1))) v).map
        (fun d => if flip then 256 - 1 - d else d) := by
  have hK : 8 * k / 8 = k := by omega
  have e256 : (2 : Nat) ^ (8 * k) = 256 ^ k := (pow256 k).symm
  have hp : 0 < 2 ^ (8 * k) := Nat.pow_pos (by omega)
  have hword : ∀ w, w < 2 ^ (8 * k) → wordLeBytes (8 * k) (if flip then notWord (8 * k) w else w) =
      (wordLeBytes (8 * k) w).map (fun d => if flip then 256 - 1 - d else d) := by
    intro w hw
    cases flip
    · simp
    · unfold wordLeBytes notWord
      rw [e256] at hw
      rw [hK, e256]
      exact digitsPadLE_compl 256 k w (by omega) hw
  have hlast := div_pow_pred_lt _ L v hp hv
  unfold wordsToLeBytes
  simp only [digitsPadLE_length, digitsPadLE_getLastD _ L v hp hv]
  rw [flatMap_congr' _ (fun w hw => hword w (digitsPadLE_lt _ _ _ hp w (List.mem_of_mem_take hw))),
    flatMap_map_compl, hword _ hlast, ← List.map_take, ← List.map_append,
    wordLeBytes_take (8 * k) _ _ ⟨k, rfl⟩ (bitLen_le_iff.mpr hlast), take_digitsPadLE _ _ _ _ (by omega)]
  unfold wordLeBytes
  rw [hK, e256, flatMap_digitsPadLE, ← pow_mul, ← digitsPadLE_add]

/-- `words_to_le_bytes::<false>` on the words of `n` (heap path) -/
theorem wordsToLeBytes_eq (W n : Nat) (h8 : 8 ∣ W) (hW : 8 ≤ W) (hn : n ≠ 0) :
    wordsToLeBytes W false (wordsOf W n) = leBytesSpec n := by
  obtain ⟨k, rfl⟩ := h8
  have hW1 : 1 ≤ 8 * k := by omega
  have hlt : n < (2 ^ (8 * k)) ^ wordLen (8 * k) n := by rw [two_pow_mul]; exact lt_pow_wordLen _ hW1 n
  rw [wordsOf_eq_chunksSpec, chunksSpec_eq n _ hW1, wordsToLeBytes_digitsPadLE k false _ n hlt, two_pow_mul,
    ← byteLen_top k n (by omega) hn, leBytesSpec_eq]
  exact List.map_id' _

/-- **`UBig::to_le_bytes` (both paths) = the minimal positional bytes**, every multiple-of-8 word size -/
theorem toLeBytes_eq (W n : Nat) (h8 : 8 ∣ W) (hW : 8 ≤ W) : toLeBytes W n = leBytesSpec n := by
  unfold toLeBytes
  split
  · rename_i h; exact toLeBytes_small W n h8 h
  · rename_i h
    have hn : n ≠ 0 := by have := Nat.pow_pos (n := 2 * W) (by omega : 0 < 2); omega
    exact wordsToLeBytes_eq W n h8 hW hn

theorem toBeBytes_eq (W n : Nat) (h8 : 8 ∣ W) (hW : 8 ≤ W) : toBeBytes W n = (leBytesSpec n).reverse := by
  unfold toBeBytes; rw [toLeBytes_eq W n h8 hW]

-- ---------------------------------------------------------------- decoder

theorem wordFromLePartial_false (nb : Nat) (bs : List Nat) : wordFromLePartial nb false bs = ofDigitsLE 256 bs := by
  unfold wordFromLePartial
  simp [ofDigitsLE_append, ofDigitsLE_replicate_zero]

theorem ofDigitsLE_chunks (k : Nat) (hk : k ≠ 0) (bs : List Nat) :
    ofDigitsLE (256 ^ k) ((chunksOf k bs).map (fun g => ofDigitsLE 256 g)) = ofDigitsLE 256 bs := by
  induction hn : bs.length using Nat.strong_induction_on generalizing bs with
  | _ n ih =>
    by_cases hl : bs = []
    · subst hl; rw [chunksOf_nil]; rfl
    · rw [chunksOf_step hk hl, List.map_cons, ofDigitsLE]
      have hlen : bs.length ≠ 0 := fun h => hl (List.length_eq_zero_iff.mp h)
      have hd : (bs.drop k).length < n := by rw [← hn, List.length_drop]; omega
      rw [ih _ hd (bs.drop k) rfl]
      conv_rhs => rw [ofDigitsLE_take_add_drop 256 k bs]
      by_cases hkl : k ≤ bs.length
      · rw [Nat.min_eq_left hkl]
      · have hdrop : bs.drop k = [] := List.drop_eq_nil_of_le (by omega)
        rw [hdrop]; simp [ofDigitsLE]

/-- **`UBig::from_le_bytes` (both paths) = the positional value of the bytes**, any byte string -/
theorem fromLeBytes_eq (W : Nat) (h8 : 8 ∣ W) (hW : 8 ≤ W) (bytes : List Nat) :
    fromLeBytes W bytes = ofLeBytesSpec bytes := by
  obtain ⟨k, rfl⟩ := h8
  unfold fromLeBytes ofLeBytesSpec
  split
  · exact wordFromLePartial_false _ _
  · unfold fromLeBytesLarge
    simp only [Bool.false_eq_true, if_false]
    have hK : 8 * k / 8 = k := by omega
    rw [hK, val_eq_ofDigitsLE, ← pow256 k]
    have : (chunksOf k bytes).map (fun g => wordFromLePartial k false g) =
        (chunksOf k bytes).map (fun g => ofDigitsLE 256 g) := by
      apply List.map_congr_left; intro g _; exact wordFromLePartial_false k g
    rw [this]
    exact ofDigitsLE_chunks k (by omega) bytes

theorem fromLeBytes_toLeBytes (W n : Nat) (h8 : 8 ∣ W) (hW : 8 ≤ W) : fromLeBytes W (toLeBytes W n) = n := by
  rw [fromLeBytes_eq W h8 hW, toLeBytes_eq W n h8 hW, ofLeBytesSpec_leBytesSpec]

theorem fromBeBytes_toBeBytes (W n : Nat) (h8 : 8 ∣ W) (hW : 8 ≤ W) : fromBeBytes W (toBeBytes W n) = n := by
  unfold fromBeBytes toBeBytes
  rw [List.reverse_reverse]; exact fromLeBytes_toLeBytes W n h8 hW

end Dashu.Model.Text
