import Dashu.Model.Text.Float
import Dashu.Gen.FloatText
/-
  C08 — Tie A: the hand model of float text I/O equals the tables regenerated from /repo
  (`Dashu/Gen/FloatText.lean`, vlib/extract_floattext.py): scale markers and hexadecimal prefix of
  `Repr::from_str_native` (float/src/parse.rs), marker / flag table of the scientific formatting traits
  (float/src/fmt.rs).
-/
namespace Dashu.Model.Text
open Dashu.Model.Float

/-- `isScaleMarker` IS membership in the character set `scale_pos` searches for (regenerated) -/
theorem isScaleMarker_eq_gen (B : Nat) (hp : Bool) (c : Nat) :
    isScaleMarker B hp c = true ↔ c ∈ Dashu.Gen.float_scaleMarkers B hp := by
  unfold isScaleMarker Dashu.Gen.float_scaleMarkers
  by_cases h10 : B = 10
  · simp [h10, or_assoc]
  · by_cases h2 : B = 2
    · subst h2; cases hp <;> simp [or_assoc]
    · by_cases h8 : B = 8
      · simp [h8, or_assoc]
      · by_cases h16 : B = 16
        · simp [h16, or_assoc]
        · simp [h10, h2, h8, h16]

/-- `hasHexPrefix` IS `src.starts_with(p₁) || src.starts_with(p₂)` for the regenerated prefixes (whenever the source
    writes the test in that form) -/
theorem hasHexPrefix_eq_gen (src : List Nat) :
    ∀ ps, Dashu.Gen.float_hexPrefixes = some ps → hasHexPrefix src = ps.any (fun p => src.take p.length == p) := by
  intro ps h
  unfold Dashu.Gen.float_hexPrefixes at h
  first
  | (cases h; unfold hasHexPrefix; simp)
  | cases h

/-- protocol name of a formatting trait of `impl_fmt_with_base!` -/
def traitKind (t : String) : String :=
  if t = "Binary" then "bin" else if t = "Octal" then "oct" else if t = "LowerHex" then "lhex"
  else if t = "UpperHex" then "uhex" else t

/-- `fmtRadixTrait` executes exactly the regenerated rows: for every row `(base, Trait, upper, hex, marker)` of
    `impl_fmt_with_base!` the model of `Trait for FBig<R, base>` is `fmt_round_scientific(upper, hex, marker)` … -/
theorem fmtRadixTrait_rows (m : Mode) (f : FmtSpec) (prec : Option Nat) (r : FRepr) :
    ∀ row ∈ Dashu.Gen.float_fmtWithBase,
      fmtRadixTrait row.1 m f prec (traitKind row.2.1) r =
        some (fmtSciG row.1 m f prec row.2.2.1 row.2.2.2.1 row.2.2.2.2 r) := by
  intro row hrow
  simp only [Dashu.Gen.float_fmtWithBase, List.mem_cons, List.not_mem_nil, or_false] at hrow
  rcases hrow with h | h | h | h | h | h <;> subst h <;> rfl

/-- … and implements nothing else: whatever it answers comes from a row -/
theorem fmtRadixTrait_only (B : Nat) (m : Mode) (f : FmtSpec) (prec : Option Nat) (k : String) (r : FRepr)
    (t : List Nat) (h : fmtRadixTrait B m f prec k r = some t) :
    ∃ row ∈ Dashu.Gen.float_fmtWithBase, row.1 = B ∧ traitKind row.2.1 = k ∧
      t = fmtSciG B m f prec row.2.2.1 row.2.2.2.1 row.2.2.2.2 r := by
  unfold fmtRadixTrait at h
  split at h
  all_goals cases h
  · exact ⟨(2, "Binary", false, false, 98), by simp [Dashu.Gen.float_fmtWithBase], rfl, by decide, rfl⟩
  · exact ⟨(8, "Octal", false, false, 111), by simp [Dashu.Gen.float_fmtWithBase], rfl, by decide, rfl⟩
  · exact ⟨(16, "LowerHex", false, false, 104), by simp [Dashu.Gen.float_fmtWithBase], rfl, by decide, rfl⟩
  · exact ⟨(16, "UpperHex", true, false, 104), by simp [Dashu.Gen.float_fmtWithBase], rfl, by decide, rfl⟩
  · exact ⟨(2, "LowerHex", false, true, 112), by simp [Dashu.Gen.float_fmtWithBase], rfl, by decide, rfl⟩
  · exact ⟨(2, "UpperHex", true, true, 112), by simp [Dashu.Gen.float_fmtWithBase], rfl, by decide, rfl⟩

/-- `LowerExp` / `UpperExp` print the regenerated marker -/
theorem fmtSci_marker_gen (B : Nat) (m : Mode) (f : FmtSpec) (prec : Option Nat) (upper : Bool) (r : FRepr) :
    fmtSci B m f prec upper r = fmtSciG B m f prec upper false (Dashu.Gen.float_expMarker B upper) r := by
  unfold fmtSci Dashu.Gen.float_expMarker
  by_cases h : B = 10 <;> cases upper <;> simp [h]

/-- the loop of the model's `ilogExact` IS the regenerated loop of `ilog_exact` (float/src/utils.rs); `n` is a `Word`.
    (The proof covers both forms the extractor reads: `pow *= base` and the checked form that returns 0 when the product
    leaves the Word — then the product is beyond `n` and the model's loop answers 0 as well.) -/
theorem ilogExact_go_eq_gen (n base : Nat) (hn : n < 2 ^ 64) : ∀ (fuel pow exp : Nat),
    ilogExact.go n base fuel pow exp = Dashu.Gen.float_ilogExactLoop n base fuel pow exp := by
  intro fuel
  induction fuel with
  | zero => intro pow exp; simp [ilogExact.go, Dashu.Gen.float_ilogExactLoop]
  | succ f ih =>
    intro pow exp
    simp only [ilogExact.go, Dashu.Gen.float_ilogExactLoop]
    first
    | (rw [ih]; done)
    | (by_cases hlt : pow < n
       · simp only [hlt, if_true]
         by_cases hov : pow * base ≥ 2 ^ 64
         · simp only [hov, if_true]
           cases f with
           | zero => simp [ilogExact.go]
           | succ g =>
             have h1 : ¬ (pow * base < n) := by omega
             have h2 : ¬ (pow * base = n) := by omega
             simp [ilogExact.go, h1, h2]
         · simp only [hov, if_false]; exact ih _ _
       · simp only [hlt, if_false])

end Dashu.Model.Text
