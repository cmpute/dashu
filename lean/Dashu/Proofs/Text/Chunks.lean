import Dashu.Proofs.Text.BytesDecode
/-
  convert.rs chunk routines: `to_chunks` (inline path, word-aligned shortcut with the clamp of fix
  49f0136, general path with copy / mask / shift) equals the positional specification
  `chunksSpec` — base-`2^k` digits, none for zero — for every number and every chunk size `k ≥ 1`.
-/
namespace Dashu.Model.Text
open Dashu.Model (val)

theorem digitsPadLE_pow2_range (k c n : Nat) :
    digitsPadLE (2 ^ k) c n = (List.range c).map (fun i => n / 2 ^ (k * i) % 2 ^ k) := by
  rw [digitsPadLE_eq_range]
  apply List.map_congr_left; intro i _; rw [two_pow_mul]

theorem drop_digitsPadLE (r j k x : Nat) (h : j ≤ k) : (digitsPadLE r k x).drop j = digitsPadLE r (k - j) (x / r ^ j) := by
  obtain ⟨d, rfl⟩ : ∃ d, k = j + d := ⟨k - j, by omega⟩
  rw [digitsPadLE_add, List.drop_left' (digitsPadLE_length r j x), Nat.add_sub_cancel_left]

theorem val_digitsPadLE (W j x : Nat) : val W (digitsPadLE (2 ^ W) j x) = x % 2 ^ (W * j) := by
  rw [val_eq_ofDigitsLE, ofDigitsLE_digitsPadLE, two_pow_mul]

theorem div_mod_pow2 (y a b : Nat) : (y % 2 ^ (a + b)) / 2 ^ a = (y / 2 ^ a) % 2 ^ b := by
  rw [pow_add]; exact Nat.mod_mul_right_div_self y (2 ^ a) (2 ^ b)

/-- the word-aligned shortcut (with the clamp `end_pos.min(words.len())`) -/
theorem alignedChunk_eq (W n wpc i : Nat) (hW : 1 ≤ W) (hwpc : 1 ≤ wpc) (hi : i * (W * wpc) < bitLen n) :
    alignedChunk W (wordsOf W n) wpc i = n / 2 ^ (W * wpc * i) % 2 ^ (W * wpc) := by
  have hbl := bitLen_le_wordLen W hW n
  have hnL := lt_pow_wordLen W hW n
  unfold alignedChunk
  rw [wordsOf_eq_chunksSpec, chunksSpec_eq n W hW]
  simp only [digitsPadLE_length]
  generalize wordLen W n = L at *
  have hiL : i * wpc < L := by
    have : W * (i * wpc) < W * L := by
      calc W * (i * wpc) = i * (W * wpc) := by ring
        _ < bitLen n := hi
        _ ≤ W * L := hbl
    exact Nat.lt_of_mul_lt_mul_left this
  rw [drop_digitsPadLE _ _ _ _ (by omega), take_digitsPadLE _ _ _ _ (by omega), val_digitsPadLE]
  rw [two_pow_mul]
  have e1 : W * (i * wpc) = W * wpc * i := by ring
  rw [e1]
  by_cases hfull : i * wpc + wpc ≤ L
  · rw [Nat.min_eq_left hfull, Nat.add_sub_cancel_left]
  · -- the last, shorter chunk: the quotient already fits
    have hmin : min (i * wpc + wpc) L = L := Nat.min_eq_right (by omega)
    rw [hmin]
    have hq : n / 2 ^ (W * wpc * i) < 2 ^ (W * (L - i * wpc)) := by
      rw [Nat.div_lt_iff_lt_mul (Nat.pow_pos (by omega)), ← pow_add]
      have : W * (L - i * wpc) + W * wpc * i = W * L := by
        have : W * wpc * i = W * (i * wpc) := by ring
        rw [this, ← Nat.mul_add]; congr 1; omega
      rw [this]; exact hnL
    rw [Nat.mod_eq_of_lt hq, Nat.mod_eq_of_lt]
    calc n / 2 ^ (W * wpc * i) < 2 ^ (W * (L - i * wpc)) := hq
      _ ≤ 2 ^ (W * wpc) := Nat.pow_le_pow_right (by omega) (Nat.mul_le_mul_left _ (by omega))

/-- the general path: copy the words containing the bit range, mask the top one, shift right -/
theorem unalignedChunk_eq (W n k i : Nat) (hW : 1 ≤ W) (hk : 1 ≤ k) (hi : i * k < bitLen n) :
    unalignedChunk W (wordsOf W n) (bitLen n) k i = n / 2 ^ (k * i) % 2 ^ k := by
  have hbl := bitLen_le_wordLen W hW n
  have hnlt : n < 2 ^ bitLen n := bitLen_le_iff.mp (Nat.le_refl _)
  rw [wordsOf_eq_chunksSpec, chunksSpec_eq n W hW]
  generalize wordLen W n = L at *
  unfold unalignedChunk
  simp only []
  generalize hstart : i * k = start at *
  generalize hend : min (bitLen n) (start + k) = end_ at *
  have hse : start < end_ := by omega
  have hendle : end_ ≤ bitLen n := by omega
  -- positions
  have hsp := Nat.div_add_mod start W
  have hep := Nat.div_add_mod end_ W
  have hsm := Nat.mod_lt start (by omega : 0 < W)
  have hem := Nat.mod_lt end_ (by omega : 0 < W)
  generalize hspd : start / W = sp at *
  generalize hepd : end_ / W = ep at *
  generalize hsb : start % W = sb at *
  generalize heb : end_ % W = eb at *
  have hspep : sp ≤ ep := by
    by_contra hc
    have : ep + 1 ≤ sp := by omega
    have := Nat.mul_le_mul_left W this
    rw [Nat.mul_add, Nat.mul_one] at this; omega
  -- the copied words as a number: (n / 2^(W·sp)) % 2^(end - W·sp)
  have hcopied : val W (if eb ≠ 0 then
        ((digitsPadLE (2 ^ W) L n).drop sp |>.take (ep - sp + 1)).dropLast ++
          [((digitsPadLE (2 ^ W) L n).drop sp |>.take (ep - sp + 1)).getLastD 0 % 2 ^ eb]
      else (digitsPadLE (2 ^ W) L n).drop sp |>.take (ep - sp)) =
      (n / 2 ^ (W * sp)) % 2 ^ (end_ - W * sp) := by
    have hepL : W * ep + eb ≤ W * L := by omega
    by_cases heb0 : eb ≠ 0
    · rw [if_pos heb0]
      have hepL' : ep < L := by
        by_contra hc
        have : L ≤ ep := by omega
        have := Nat.mul_le_mul_left W this; omega
      rw [drop_digitsPadLE _ _ _ _ (by omega), take_digitsPadLE _ _ _ _ (by omega), digitsPadLE_snoc]
      rw [List.dropLast_concat, List.getLastD_concat]
      rw [Dashu.Model.val_append, val_digitsPadLE, digitsPadLE_length, two_pow_mul]
      simp only [val, Nat.mul_zero, Nat.add_zero]
      have hmm : n / 2 ^ (W * sp) / (2 ^ W) ^ (ep - sp) % 2 ^ W % 2 ^ eb =
          n / 2 ^ (W * sp) / 2 ^ (W * (ep - sp)) % 2 ^ eb := by
        rw [two_pow_mul]; exact Nat.mod_mod_of_dvd _ (Nat.pow_dvd_pow 2 (by omega))
      rw [hmm]
      have hexp : end_ - W * sp = W * (ep - sp) + eb := by
        rw [Nat.mul_sub]; have := Nat.mul_le_mul_left W hspep; omega
      rw [hexp, pow_add]
      exact (Nat.mod_mul).symm
    · have heb0' : eb = 0 := by omega
      rw [if_neg heb0]
      have hepL' : ep ≤ L := by
        by_contra hc
        have : L + 1 ≤ ep := by omega
        have := Nat.mul_le_mul_left W this
        rw [Nat.mul_add] at this; omega
      rw [drop_digitsPadLE _ _ _ _ (by omega), take_digitsPadLE _ _ _ _ (by omega), val_digitsPadLE, two_pow_mul]
      congr 2
      rw [Nat.mul_sub]; omega
  rw [hcopied]
  -- shift by start % W and compare with the digit
  have hexp2 : end_ - W * sp = sb + (end_ - start) := by omega
  rw [hexp2, div_mod_pow2, Nat.div_div_eq_div_mul, ← pow_add]
  have hst : W * sp + sb = start := hsp
  rw [hst, ← hstart, Nat.mul_comm i k] at *
  have hq : n / 2 ^ (k * i) < 2 ^ (bitLen n - k * i) := by
    rw [Nat.div_lt_iff_lt_mul (Nat.pow_pos (by omega)), ← pow_add]
    have : bitLen n - k * i + k * i = bitLen n := by omega
    rw [this]; exact hnlt
  by_cases hfull : k * i + k ≤ bitLen n
  · have : end_ - k * i = k := by omega
    rw [this]
  · have he : end_ - k * i = bitLen n - k * i := by omega
    rw [he, Nat.mod_eq_of_lt hq, Nat.mod_eq_of_lt]
    calc n / 2 ^ (k * i) < 2 ^ (bitLen n - k * i) := hq
      _ ≤ 2 ^ k := Nat.pow_le_pow_right (by omega) (by omega)

/-- every chunk index starts inside the number -/
theorem mul_lt_of_lt_ceilDiv (b k i : Nat) (hk : 1 ≤ k) (hi : i < ceilDiv b k) : i * k < b := by
  unfold ceilDiv at hi
  by_cases h0 : b = 0
  · simp [h0] at hi
  · rw [if_neg h0] at hi
    have := (Nat.le_div_iff_mul_le (by omega)).mp (Nat.le_of_lt_succ hi)
    omega

/-- **`UBig::to_chunks` (all three paths) = the positional chunks**, every number, every `k ≥ 1`,
    every word size -/
theorem toChunks_eq (W n k : Nat) (hW : 1 ≤ W) (hk : 1 ≤ k) : toChunks W n k = .ok (chunksSpec n k) := by
  unfold toChunks
  rw [if_neg (by omega), chunksSpec_eq n k hk, digitsPadLE_pow2_range]
  unfold wordLen
  simp only []
  have hcount := fun i => mul_lt_of_lt_ceilDiv (bitLen n) k i hk
  split
  · -- inline
    split
    · rename_i h0; rw [h0]; rfl
    · split
      · rename_i h1
        rw [h1]
        simp only [List.range_succ, List.range_zero, List.nil_append, List.map_cons, List.map_nil, Nat.mul_zero,
          pow_zero, Nat.div_one]
        have := hcount 0 (by omega)
        have hlt : n < 2 ^ k := by
          have := (wordLen_le_iff k hk n 1).mp (Nat.le_of_eq h1)
          rwa [Nat.mul_one] at this
        rw [Nat.mod_eq_of_lt hlt]
      · congr 1
        apply List.map_congr_left; intro i _
        rw [Nat.shiftRight_eq_div_pow, Nat.mul_comm]
  · split
    · rename_i hal
      congr 1
      apply List.map_congr_left; intro i hi
      have hi' := hcount i (List.mem_range.mp hi)
      have hkW : k = W * (k / W) := by
        have := Nat.div_add_mod k W; omega
      have hwpc : 1 ≤ k / W := by
        rcases Nat.eq_zero_or_pos (k / W) with h | h
        · rw [h] at hkW; omega
        · exact h
      rw [alignedChunk_eq W n (k / W) i hW hwpc (by rw [← hkW]; exact hi'), ← hkW]
    · congr 1
      apply List.map_congr_left; intro i hi
      exact unalignedChunk_eq W n k i hW hk (hcount i (List.mem_range.mp hi))

/-- chunk round trip of the **model** -/
theorem fromChunks_toChunks (W n k : Nat) (hW : 1 ≤ W) (hk : 1 ≤ k) :
    (toChunks W n k).bind (fun cs => fromChunks k cs) = .ok n := by
  rw [toChunks_eq W n k hW hk]
  simp only [Except.bind, fromChunks]
  rw [if_neg (by omega), ofChunksSpec_chunksSpec n k hk]

end Dashu.Model.Text
