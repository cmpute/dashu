import Dashu.Model.Text.BytesBE
import Dashu.Proofs.Text.BytesDecode
import Dashu.Proofs.Text.ParsePow2
import Dashu.Proofs.Text.BytesSigned
/-
  C07 — the mirrored big-endian byte functions equal the mirror-image (list reversal) model.
-/
namespace Dashu.Model.Text

theorem reverse_take_eq_drop (l : List Nat) (s : Nat) :
    (l.take (l.length - s)).reverse = l.reverse.drop s := by
  by_cases hs : s ≤ l.length
  · rw [List.reverse_take, Nat.sub_sub_self hs]
  · have h1 : l.length - s = 0 := by omega
    rw [h1, List.take_zero, List.reverse_nil, List.drop_eq_nil_of_le (by simp; omega)]

theorem reverse_flatMap' (l : List Nat) (g : Nat → List Nat) :
    (l.flatMap g).reverse = l.reverse.flatMap (fun w => (g w).reverse) := by
  induction l with
  | nil => rfl
  | cons a l ih => simp [List.flatMap_cons, ih]

theorem wordBeBytes_eq (W w : Nat) : wordBeBytes W w = (wordLeBytes W w).reverse := rfl

theorem wordLeBytes_length (W w : Nat) : (wordLeBytes W w).length = W / 8 := digitsPadLE_length _ _ _

theorem wordsToBeBytes_eq (W : Nat) (flip : Bool) (words : List Nat) :
    wordsToBeBytes W flip words = (wordsToLeBytes W flip words).reverse := by
  unfold wordsToBeBytes wordsToLeBytes
  simp only [List.reverse_append, reverse_flatMap', wordBeBytes_eq]
  congr 1
  have := reverse_take_eq_drop (wordLeBytes W (if flip then notWord W (words.getLastD 0) else words.getLastD 0))
    (lzWord W (words.getLastD 0) / 8)
  rw [wordLeBytes_length] at this
  exact this.symm

theorem toBeBytesM_eq (W n : Nat) : toBeBytesM W n = toBeBytes W n := by
  unfold toBeBytesM toBeBytes toLeBytes
  by_cases h : n < 2 ^ (2 * W)
  · simp only [h, if_true]
    have := reverse_take_eq_drop (wordLeBytes (2 * W) n) (lzWord (2 * W) n / 8)
    rw [wordLeBytes_length] at this
    rw [wordBeBytes_eq]; exact this.symm
  · simp only [h, if_false]; exact wordsToBeBytes_eq W false _

theorem wordFromBePartial_eq (nbytes : Nat) (onePad : Bool) (bs : List Nat) :
    wordFromBePartial nbytes onePad bs = wordFromLePartial nbytes onePad bs.reverse := by
  unfold wordFromBePartial wordFromLePartial
  rw [← ofDigitsLE_reverse, List.reverse_append, List.reverse_replicate, List.length_reverse]

/-- `rchunks_exact` + `remainder` is `chunks` of the reversed slice, each group reversed -/
theorem rchunksExact_eq (k : Nat) : ∀ (fuel : Nat) (l : List Nat), l.length ≤ fuel →
    rchunksExact k fuel l = (chunksOf k l.reverse).map List.reverse := by
  intro fuel
  induction fuel with
  | zero =>
    intro l hl
    have : l = [] := List.length_eq_zero_iff.mp (by omega)
    subst this; simp [rchunksExact, chunksOf_nil]
  | succ fuel ih =>
    intro l hl
    unfold rchunksExact
    by_cases h0 : k = 0 ∨ l = []
    · rw [if_pos h0]
      rcases h0 with h | h
      · subst h; rw [chunksOf]; simp
      · subst h; simp [chunksOf_nil]
    · rw [if_neg h0]
      have hk : k ≠ 0 := fun h => h0 (Or.inl h)
      have hl0 : l ≠ [] := fun h => h0 (Or.inr h)
      have hrl : l.reverse ≠ [] := by simpa using hl0
      rw [chunksOf_step hk hrl]
      by_cases hle : l.length ≤ k
      · rw [if_pos hle]
        have h1 : l.reverse.take k = l.reverse := List.take_of_length_le (by simpa using hle)
        have h2 : l.reverse.drop k = [] := List.drop_eq_nil_of_le (by simpa using hle)
        rw [h1, h2, chunksOf_nil]; simp
      · rw [if_neg hle]
        have hlen : (l.take (l.length - k)).length ≤ fuel := by
          simp only [List.length_take]; omega
        rw [ih _ hlen]
        have e1 : (l.reverse.take k).reverse = l.drop (l.length - k) := by
          rw [List.take_reverse, List.reverse_reverse]
        have e2 : l.reverse.drop k = (l.take (l.length - k)).reverse := by
          rw [List.drop_reverse]
        simp only [List.map_cons, e1, e2]

theorem fromBeBytesLarge_eq (W : Nat) (neg : Bool) (bytes : List Nat) :
    fromBeBytesLarge W neg bytes = fromLeBytesLarge W neg bytes.reverse := by
  unfold fromBeBytesLarge fromLeBytesLarge
  have : (rchunksExact (W / 8) bytes.length bytes).map (fun g =>
        let w := wordFromBePartial (W / 8) neg g
        if neg then notWord W w else w) =
      (chunksOf (W / 8) bytes.reverse).map (fun g =>
        let w := wordFromLePartial (W / 8) neg g
        if neg then notWord W w else w) := by
    rw [rchunksExact_eq (W / 8) bytes.length bytes (Nat.le_refl _), List.map_map]
    apply List.map_congr_left
    intro g _
    simp [Function.comp, wordFromBePartial_eq]
  simp only [this]

theorem fromBeBytesM_eq (W : Nat) (bytes : List Nat) : fromBeBytesM W bytes = fromBeBytes W bytes := by
  unfold fromBeBytesM fromBeBytes fromLeBytes
  simp only [List.length_reverse]
  by_cases h : bytes.length ≤ 2 * W / 8
  · simp only [h, if_true]; exact wordFromBePartial_eq _ _ _
  · simp only [h, if_false, fromBeBytesLarge_eq]

theorem fromSignedBeBytesM_eq (W : Nat) (bytes : List Nat) :
    fromSignedBeBytesM W bytes = fromSignedBeBytes W bytes := by
  unfold fromSignedBeBytesM fromSignedBeBytes fromSignedLeBytes
  rw [List.getLast?_reverse]
  cases bytes.head? with
  | none => rfl
  | some top =>
    simp only [List.length_reverse]
    by_cases h1 : top < 128
    · simp only [h1, if_true, fromBeBytesM_eq]; rfl
    · simp only [h1, if_false]
      by_cases h2 : bytes.length ≤ 2 * W / 8
      · simp only [h2, if_true, wordFromBePartial_eq]
      · simp only [h2, if_false, fromBeBytesLarge_eq]

-- ---------------------------------------------------------------- signed encoder

theorem bitLen_pred (a : Nat) (ha : a ≠ 0) : bitLen (a - 1) ≤ bitLen a ∧ bitLen a ≤ bitLen (a - 1) + 1 := by
  have h1 : a < 2 ^ bitLen a := bitLen_le_iff.mp (Nat.le_refl _)
  have h2 : a - 1 < 2 ^ bitLen (a - 1) := bitLen_le_iff.mp (Nat.le_refl _)
  constructor
  · exact bitLen_le_iff.mpr (by omega)
  · apply bitLen_le_iff.mpr
    rw [pow_succ]
    have : 0 < 2 ^ bitLen (a - 1) := Nat.two_pow_pos _
    omega

/-- the heap path of `to_signed_be_bytes(negate = true)`: `insert(0, 0xff)` is the mirror image of `resize(len, 0xff)`,
    the flipped bytes of `n - 1` being as many as the bytes of `n` or one less (`negLarge_flipped`) -/
theorem negLargeBE (W n : Nat) (h8 : 8 ∣ W) (hW : 8 ≤ W) (hn : n ≠ 0) :
    (let words := wordsOf W n
     let b := wordsToBeBytes W true (Dashu.Model.subOne W words).1
     let len := words.length * (W / 8) - lzWord W (words.getLastD 0) / 8
     if b.length < len then 255 :: b else b) =
    (let words := wordsOf W n
     let b := wordsToLeBytes W true (Dashu.Model.subOne W words).1
     let len := words.length * (W / 8) - lzWord W (words.getLastD 0) / 8
     b.take len ++ List.replicate (len - b.length) 255).reverse := by
  obtain ⟨k, rfl⟩ := h8
  obtain ⟨j, hb, _, hj, hj1, hlen⟩ := negLarge_flipped k n (by omega) hn
  simp only [wordsToBeBytes_eq, List.length_reverse, hlen]
  generalize wordsToLeBytes (8 * k) true (Dashu.Model.subOne (8 * k) (wordsOf (8 * k) n)).1 = b at hb ⊢
  have hbl : b.length = j := by rw [hb, List.length_map, digitsPadLE_length]
  rcases (by omega : byteLen n = j ∨ byteLen n = j + 1) with h | h
  · rw [h, if_neg (by omega), ← hbl, List.take_length, Nat.sub_self]; simp
  · rw [h, if_pos (by omega), List.take_of_length_le (by omega), show j + 1 - b.length = 1 by omega]; simp

theorem toSignedBeBytesM_eq (W n : Nat) (h8 : 8 ∣ W) (hW : 8 ≤ W) (negate : Bool) :
    toSignedBeBytesM W n negate = (toSignedLeBytes W n negate).reverse := by
  unfold toSignedBeBytesM toSignedLeBytes
  by_cases hn : n = 0
  · simp [hn]
  · simp only [hn, if_false]
    have hbytes :
        (if negate = true then
          if n < 2 ^ (2 * W) then
            (wordBeBytes (2 * W) ((notWord (2 * W) n + 1) % 2 ^ (2 * W))).drop (lzWord (2 * W) n / 8)
          else
            (let words := wordsOf W n
             let b := wordsToBeBytes W true (Dashu.Model.subOne W words).1
             let len := words.length * (W / 8) - lzWord W (words.getLastD 0) / 8
             if b.length < len then 255 :: b else b)
        else toBeBytesM W n) =
        (if negate = true then
          if n < 2 ^ (2 * W) then
            (wordLeBytes (2 * W) ((notWord (2 * W) n + 1) % 2 ^ (2 * W))).take (2 * W / 8 - lzWord (2 * W) n / 8)
          else
            (let words := wordsOf W n
             let b := wordsToLeBytes W true (Dashu.Model.subOne W words).1
             let len := words.length * (W / 8) - lzWord W (words.getLastD 0) / 8
             b.take len ++ List.replicate (len - b.length) 255)
        else toLeBytes W n).reverse := by
      by_cases hneg : negate = true
      · simp only [hneg, if_true]
        by_cases hs : n < 2 ^ (2 * W)
        · simp only [hs, if_true]
          have := reverse_take_eq_drop (wordLeBytes (2 * W) ((notWord (2 * W) n + 1) % 2 ^ (2 * W))) (lzWord (2 * W) n / 8)
          rw [wordLeBytes_length] at this
          rw [wordBeBytes_eq]; exact this.symm
        · simp only [hs, if_false]; exact negLargeBE W n h8 hW hn
      · simp only [hneg, if_false, Bool.false_eq_true]
        rw [toBeBytesM_eq]; rfl
    simp only at hbytes ⊢
    rw [hbytes]
    generalize (if n < 2 ^ (2 * W) then lzWord (2 * W) n else lzWord W ((wordsOf W n).getLastD 0)) = lz
    by_cases hc : lz % 8 = 0 <;> simp [hc]

theorem ibigToBeBytesM_eq (W : Nat) (h8 : 8 ∣ W) (hW : 8 ≤ W) (z : Int) : ibigToBeBytesM W z = ibigToBeBytes W z :=
  toSignedBeBytesM_eq W z.natAbs h8 hW _

end Dashu.Model.Text
