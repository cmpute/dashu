import Dashu.Proofs.Text.BytesModel
import Dashu.Proofs.Int.Word
/-
  convert.rs, signed side: `to_signed_le_bytes` (inline path, heap path with `sub_one_in_place`,
  flipped `words_to_le_bytes::<true>` and the `resize` of fix dcc404d) equals the two's complement
  specification `signedLeBytesSpec`, for every integer and every word size that is a multiple of 8.
-/
namespace Dashu.Model.Text
open Dashu.Model (val IsWords subOne subOne_spec val_lt)

/-- the top bit of the top byte is set iff the bit length is a multiple of 8 -/
theorem top_bit_iff {n : Nat} (hn : n ≠ 0) : bitLen n % 8 = 0 ↔ 2 ^ (8 * byteLen n - 1) ≤ n := by
  -- `8 (L - 1) < bitLen n ≤ 8 L` for the byte length `L`
  have h1 := bitLen_le_wordLen 8 (by omega) n
  have h2 := lt_bitLen_iff.mpr (pow_wordLen_le 8 (by omega) n hn)
  have h3 := wordLen_pos 8 (by omega) n hn
  rw [← lt_bitLen_iff]
  show _ ↔ 8 * wordLen 8 n - 1 < bitLen n
  omega

theorem words_eq_digitsPadLE (W : Nat) (ws : List Nat) (h : IsWords W ws) :
    ws = digitsPadLE (2 ^ W) ws.length (val W ws) := by
  rw [val_eq_ofDigitsLE, digitsPadLE_ofDigitsLE _ ws h]

theorem byteLen_lt (m : Nat) : m < 256 ^ byteLen m := by
  rw [pow256]; exact lt_pow_wordLen 8 (by omega) m

theorem byteLen_mono {a b : Nat} (h : a ≤ b) : byteLen a ≤ byteLen b := wordLen_mono 8 (by omega) h

theorem lt_pow_byteLen_div (m j : Nat) : m < 256 ^ (j + byteLen (m / 2 ^ (8 * j))) := by
  rw [pow_add, pow256 j, Nat.mul_comm, ← Nat.div_lt_iff_lt_mul (Nat.two_pow_pos _)]
  exact byteLen_lt _

theorem digitsPadLE_of_lt (r j d x : Nat) (hx : x < r ^ j) :
    digitsPadLE r (j + d) x = digitsPadLE r j x ++ List.replicate d 0 := by
  rw [digitsPadLE_add, Nat.div_eq_of_lt hx]
  congr 1
  induction d with
  | zero => rfl
  | succ d ih => rw [digitsPadLE_succ, Nat.zero_mod, Nat.zero_div, ih, List.replicate_succ]

/-- **the heap path of `to_signed_le_bytes` / `to_signed_be_bytes` (`negate = true`) before the padding**:
    `words_to_le_bytes::<true>` of `n - 1` gives the complemented `j` low bytes of `n - 1`, which hold it; `j` is
    the byte length of `n` or one less; the length the code pads to is the byte length of `n` -/
theorem negLarge_flipped (k n : Nat) (hk : 1 ≤ k) (hn : n ≠ 0) :
    ∃ j, wordsToLeBytes (8 * k) true (subOne (8 * k) (wordsOf (8 * k) n)).1 =
        (digitsPadLE 256 j (n - 1)).map (fun d => 256 - 1 - d) ∧
      n - 1 < 256 ^ j ∧ j ≤ byteLen n ∧ byteLen n ≤ j + 1 ∧
      (wordsOf (8 * k) n).length * (8 * k / 8) - lzWord (8 * k) ((wordsOf (8 * k) n).getLastD 0) / 8 = byteLen n := by
  have hW : 1 ≤ 8 * k := by omega
  have hbytes := byteLen_top k n hk hn
  have hllt := (top_digit n (8 * k) hW hn).2
  have hL1 := wordLen_pos (8 * k) hW n hn
  have hisw := isWords_wordsOf (8 * k) n hW
  have hval := val_wordsOf (8 * k) n hW
  -- `n - 1` as words: no borrow out, since `n ≠ 0`
  obtain ⟨hs1, hs2, hs3, hs4⟩ := subOne_spec (8 * k) _ hisw
  have hvlt := val_lt (8 * k) _ hs3
  rw [hs2] at hvlt
  have hM : val (8 * k) (subOne (8 * k) (wordsOf (8 * k) n)).1 = n - 1 := by
    rcases Nat.le_one_iff_eq_zero_or_eq_one.mp hs4 with h | h <;> rw [h, hval] at hs1 <;> omega
  rw [hM, ← two_pow_mul] at hvlt
  have hMlt := lt_pow_byteLen_div (n - 1) (k * (wordLen (8 * k) n - 1))
  rw [← Nat.mul_assoc] at hMlt
  refine ⟨_, ?_, hMlt, ?_, ?_, ?_⟩
  · rw [words_eq_digitsPadLE (8 * k) _ hs3, hs2, hM, wordsToLeBytes_digitsPadLE k true _ _ hvlt]
    simp only [if_true, wordsOf_length _ n hW, two_pow_mul]
  · have := byteLen_mono (Nat.div_le_div_right (c := 2 ^ (8 * k * (wordLen (8 * k) n - 1))) (Nat.sub_le n 1))
    omega
  · apply (wordLen_le_iff 8 (by omega) n _).mpr
    rw [← pow256, pow_succ]; omega
  · have hlen := byteLen_eq k _ (bitLen_le_iff.mpr hllt)
    rw [wordsOf_length _ n hW, wordsOf_getLastD _ n hW hn, hbytes, Nat.mul_div_cancel_left k (by omega)]
    obtain ⟨L, hL⟩ : ∃ L, wordLen (8 * k) n = L + 1 := ⟨wordLen (8 * k) n - 1, by omega⟩
    rw [hL, Nat.add_sub_cancel] at hlen ⊢
    rw [Nat.add_mul, Nat.one_mul, Nat.mul_comm L k]
    unfold lzWord byteLen; omega

/-- the little-endian padding: `resize(len, 0xff)` (fix dcc404d) = the `byteLen n` low bytes of `256^L - n` -/
theorem negLarge_eq (k n : Nat) (hk : 1 ≤ k) (hn : n ≠ 0) :
    (wordsToLeBytes (8 * k) true (subOne (8 * k) (wordsOf (8 * k) n)).1).take
        ((wordsOf (8 * k) n).length * (8 * k / 8) - lzWord (8 * k) ((wordsOf (8 * k) n).getLastD 0) / 8) ++
      List.replicate (((wordsOf (8 * k) n).length * (8 * k / 8) - lzWord (8 * k) ((wordsOf (8 * k) n).getLastD 0) / 8) -
        (wordsToLeBytes (8 * k) true (subOne (8 * k) (wordsOf (8 * k) n)).1).length) 255 =
      digitsPadLE 256 (byteLen n) (256 ^ byteLen n - n) := by
  obtain ⟨j, hb, hlt, hj, _, hlen⟩ := negLarge_flipped k n hk hn
  have hnlt := byteLen_lt n
  obtain ⟨d, hd⟩ : ∃ d, byteLen n = j + d := ⟨byteLen n - j, by omega⟩
  rw [hlen, hb, show 256 ^ byteLen n - n = 256 ^ byteLen n - 1 - (n - 1) by omega,
    digitsPadLE_compl 256 _ _ (by omega) (by omega), hd, List.length_map, digitsPadLE_length,
    List.take_of_length_le (by simp [digitsPadLE_length]), Nat.add_sub_cancel_left,
    digitsPadLE_of_lt 256 _ d _ hlt, List.map_append, List.map_replicate]

/-- the sign-extension test of `to_signed_le_bytes` (`leading_zeros % 8 == 0`) asks whether the bit
    length is a multiple of 8 -/
theorem lz_mod8 (k n : Nat) (hk : 1 ≤ k) (hn : n ≠ 0) :
    ((if n < 2 ^ (2 * (8 * k)) then lzWord (2 * (8 * k)) n else lzWord (8 * k) ((wordsOf (8 * k) n).getLastD 0)) % 8 = 0)
      ↔ bitLen n % 8 = 0 := by
  split
  · rename_i h
    have := bitLen_le_iff.mpr h
    unfold lzWord; omega
  · have hW : 1 ≤ 8 * k := by omega
    have hbn := bitLen_top n (8 * k) hW hn
    have hbl : bitLen (n / 2 ^ (8 * k * (wordLen (8 * k) n - 1))) ≤ 8 * k :=
      bitLen_le_iff.mpr (top_digit n (8 * k) hW hn).2
    have := Nat.mul_assoc 8 k (wordLen (8 * k) n - 1)
    rw [wordsOf_getLastD _ n hW hn]
    unfold lzWord; omega

theorem negSmall_eq (k n : Nat) (hk : 1 ≤ k) (hn : n ≠ 0) (hlt : n < 2 ^ (2 * (8 * k))) :
    (wordLeBytes (2 * (8 * k)) ((notWord (2 * (8 * k)) n + 1) % 2 ^ (2 * (8 * k)))).take
      (2 * (8 * k) / 8 - lzWord (2 * (8 * k)) n / 8) = digitsPadLE 256 (byteLen n) (256 ^ byteLen n - n) := by
  have hbl : bitLen n ≤ 2 * (8 * k) := bitLen_le_iff.mpr hlt
  have e1 : (notWord (2 * (8 * k)) n + 1) % 2 ^ (2 * (8 * k)) = 2 ^ (2 * (8 * k)) - n := by
    unfold notWord
    have : 2 ^ (2 * (8 * k)) - 1 - n + 1 = 2 ^ (2 * (8 * k)) - n := by omega
    rw [this]; exact Nat.mod_eq_of_lt (by omega)
  rw [e1, wordLeBytes_take (2 * (8 * k)) n _ ⟨2 * k, by ring⟩ hbl]
  -- same residue modulo 256^L
  rw [← digitsPadLE_mod, ← digitsPadLE_mod 256 _ (256 ^ byteLen n - n)]
  congr 1
  have hL : byteLen n ≤ 2 * k := by
    have := byteLen_eq (2 * k) (bitLen n) (by omega)
    unfold byteLen; omega
  obtain ⟨d, hd⟩ : ∃ d, 2 * k = byteLen n + d := ⟨2 * k - byteLen n, by omega⟩
  have e2 : (2 : Nat) ^ (2 * (8 * k)) = 256 ^ byteLen n * 256 ^ d := by
    rw [← pow_add, ← hd, pow256]; congr 1; ring
  have hnlt := byteLen_lt n
  have hpd : 1 ≤ 256 ^ d := Nat.pow_pos (by omega)
  have e3 : 256 ^ byteLen n * 256 ^ d - n = 256 ^ byteLen n * (256 ^ d - 1) + (256 ^ byteLen n - n) := by
    rw [Nat.mul_sub, Nat.mul_one]
    have : 256 ^ byteLen n ≤ 256 ^ byteLen n * 256 ^ d := Nat.le_mul_of_pos_right _ hpd
    omega
  rw [e2, e3, Nat.mul_add_mod]

/-- **`IBig::to_le_bytes` = the two's complement specification**, every integer, every word size `8k` -/
theorem ibigToLeBytes_eq (W : Nat) (h8 : 8 ∣ W) (hW : 8 ≤ W) (z : Int) :
    ibigToLeBytes W z = signedLeBytesSpec z := by
  obtain ⟨k, rfl⟩ := h8
  have hk : 1 ≤ k := by omega
  unfold ibigToLeBytes toSignedLeBytes signedLeBytesSpec
  simp only []
  by_cases hn : z.natAbs = 0
  · simp [hn]
  · rw [if_neg hn, if_neg hn]
    -- both sides append the sign byte under the same condition
    simp only [(lz_mod8 k z.natAbs hk hn).trans (top_bit_iff hn)]
    generalize z.natAbs = n at *
    by_cases hz : z < 0
    · simp only [hz, decide_true, if_true]
      have hbytes : (if n < 2 ^ (2 * (8 * k)) then
            (wordLeBytes (2 * (8 * k)) ((notWord (2 * (8 * k)) n + 1) % 2 ^ (2 * (8 * k)))).take
              (2 * (8 * k) / 8 - lzWord (2 * (8 * k)) n / 8)
          else
            (wordsToLeBytes (8 * k) true (subOne (8 * k) (wordsOf (8 * k) n)).1).take
                ((wordsOf (8 * k) n).length * (8 * k / 8) - lzWord (8 * k) ((wordsOf (8 * k) n).getLastD 0) / 8) ++
              List.replicate (((wordsOf (8 * k) n).length * (8 * k / 8) - lzWord (8 * k) ((wordsOf (8 * k) n).getLastD 0) / 8) -
                (wordsToLeBytes (8 * k) true (subOne (8 * k) (wordsOf (8 * k) n)).1).length) 255) =
          digitsPadLE 256 (byteLen n) (256 ^ byteLen n - n) := by
        split
        · rename_i h; exact negSmall_eq k n hk hn h
        · exact negLarge_eq k n hk hn
      rw [hbytes]
      split <;> simp
    · simp only [hz, decide_false, Bool.false_eq_true, if_false]
      rw [toLeBytes_eq (8 * k) n ⟨k, rfl⟩ hW, leBytesSpec_eq]
      split <;> simp

theorem ibigToBeBytes_eq (W : Nat) (h8 : 8 ∣ W) (hW : 8 ≤ W) (z : Int) :
    ibigToBeBytes W z = (signedLeBytesSpec z).reverse := by
  unfold ibigToBeBytes; rw [ibigToLeBytes_eq W h8 hW]

end Dashu.Model.Text
