import Dashu.Proofs.Text.FloatSci
import Dashu.Proofs.Text.FloatGrammar
/-
  C08 — the text of the scientific formats (`fmt_round_scientific`: `LowerExp`, `UpperExp`, `Binary`,
  `Octal`, `LowerHex`, `UpperHex`, the hexadecimal form `0xh.hhp±e` of base 2) is a literal of the
  documented grammar and parses back — `Repr::from_str_native`, same base — to exactly the value shown.
-/
namespace Dashu.Model.Text
open Dashu.Model.Float

theorem fmtSciG_plain (B : Nat) (m : Mode) (pl : Bool) (prec : Option Nat) (upper useHex : Bool) (marker : Nat)
    (r : FRepr) :
    fmtSciG B m { plus := pl } prec upper useHex marker r =
      fSign pl r ++ ((if useHex then [48, 120] else []) ++ fmtSciCore B m prec upper useHex marker r) := by
  rw [fmtSciG_eq_frame, padsG_none _ _ rfl, frame_nopad, ← fmtSciCore_eq_bodyG, List.append_assoc]

/-- with the zero flag and right (or default) alignment, or without a width, the scientific text is
    sign ++ [0x] ++ zeros ++ core -/
theorem fmtSciG_zero_shape (B : Nat) (m : Mode) (f : FmtSpec) (prec : Option Nat) (upper useHex : Bool)
    (marker : Nat) (r : FRepr)
    (hf : (f.zero = true ∧ (f.align = some .right ∨ f.align = none)) ∨ f.width = none) :
    ∃ b : Nat, (f.width = none → b = 0) ∧ fmtSciG B m f prec upper useHex marker r =
      fSign f.plus r ++ ((if useHex then [48, 120] else []) ++ (rep b [48] ++ fmtSciCore B m prec upper useHex marker r)) := by
  -- only WHERE the padding goes matters here, not how much there is: no use of the width computation
  rw [fmtSciG_eq_frame, ← fmtSciCore_eq_bodyG]
  generalize sciWidthG _ _ _ _ _ = n
  obtain ⟨a, b, c, h, hsum, ha, _, _, hal⟩ :=
    frame_padsG f { f with zero := false } rfl rfl (fSign f.plus r) (if useHex then [48, 120] else [])
      (fmtSciCore B m prec upper useHex marker r) n
  obtain ⟨_, hr, _⟩ := hal rfl
  obtain ⟨rfl, rfl, hb0⟩ : a = 0 ∧ c = 0 ∧ (f.width = none → b = 0) := by
    rcases hf with ⟨hz, hal⟩ | hn
    · exact ⟨ha hz, hr hal, fun hw => by rw [hw, Option.getD_none, Nat.zero_sub] at hsum; omega⟩
    · rw [hn, Option.getD_none, Nat.zero_sub] at hsum
      exact ⟨by omega, by omega, fun _ => by omega⟩
  exact ⟨b, hb0, by rw [h]; simp [rep_zero]⟩

/-- **zero-padded scientific text, read back**: with the zero flag (right or default alignment, any width, `+`
    or not) — or without a width — the text of the scientific formats parses back to exactly the value shown:
    the padding zeros stand between sign / `0x` and the first digit and only lengthen the integer digits -/
theorem fmtSciG_parse_padded (W : Nat) (hW : 36 < 2 ^ W) (B : Nat) (hB : validRadix B = true) (m : Mode)
    (prec : Option Nat) (upper useHex : Bool) (hhex : useHex = true → B = 2) (marker : Nat)
    (hmk : isScaleMarker B useHex marker = true) (f : FmtSpec)
    (hf : (f.zero = true ∧ (f.align = some .right ∨ f.align = none)) ∨ f.width = none) (r : FRepr)
    (hlo : -(2 ^ 63 : Int) ≤ sciExp B m prec upper useHex r) (hhi : sciExp B m prec upper useHex r < (2 ^ 63 : Int)) :
    ∃ (r' : FRepr) (n : Nat),
      fromStrNative W B (fmtSciG B m f prec upper useHex marker r) = .ok (r', n) ∧
      r'.toRat B = sciShown B m prec useHex r ∧
      ∃ b : Nat, (f.width = none → b = 0) ∧ ∀ p0, prec = some p0 → n = (b + (p0 + 1)) * sciK useHex := by
  have hr := validRadix_iff.mp hB
  obtain ⟨b, hb0, hshape⟩ := fmtSciG_zero_shape B m f prec upper useHex marker r hf
  obtain ⟨d0, fd, htext, hd0, hfd, hlen, hval⟩ := fmtSciCore_denotes_exp B hr.1 m prec upper useHex hhex marker r
  have hfrac : (if fd = [] then none else some fd : Option (List Nat)).getD [] = fd := by
    by_cases h : fd = [] <;> simp [h]
  obtain ⟨r', hparse, hv⟩ := literal_parse W hW B hB upper useHex hhex 120 (Or.inl rfl) (fSignOpt f.plus r)
    (List.replicate b 0 ++ [d0]) (if fd = [] then none else some fd) (some (marker, sciExp B m prec upper useHex r))
    (by
      intro d hd
      rcases List.mem_append.mp hd with h | h
      · rw [List.eq_of_mem_replicate h]; exact Nat.lt_of_lt_of_le (by omega) (sciRadix_ge B hr.1 useHex)
      · rw [List.mem_singleton.mp h]; exact hd0)
    (by rw [hfrac]; exact hfd) (Or.inl (by simp)) (by intro c z h; cases h; exact ⟨hmk, hlo, hhi⟩)
  rw [hfrac] at hparse hv
  refine ⟨r', ((List.replicate b 0 ++ [d0]).length + fd.length) * (if useHex then 4 else 1), ?_, ?_, b, hb0,
    fun p0 hp => ?_⟩
  · rw [hshape, htext, ← signChars_fSignOpt, rep_zero_chars upper b]
    rw [chars_append] at hparse
    simp only [scaleText, List.append_assoc, List.singleton_append] at hparse ⊢
    exact hparse
  · obtain ⟨hs1, hs2⟩ := sciShown_sign B hr.1 m prec useHex r
    have e1 : List.replicate b 0 ++ [d0] ++ fd = List.replicate b 0 ++ (d0 :: fd) := by simp
    rw [hv, e1, ofDigits_replicate_zero_append, mul_assoc]
    show _ * ((ofDigits (sciRadix B useHex) (d0 :: fd) : ℚ) *
      bpowQ B (sciExp B m prec upper useHex r - ((fd.length * sciK useHex : Nat) : Int))) = _
    rw [hval, sign_mul_abs (fSignOpt_true f.plus r) (fun h => le_of_lt (hs1 h)) hs2]
  · rw [hlen p0 hp]
    simp only [List.length_append, List.length_replicate, List.length_cons, List.length_nil]
    show _ * sciK useHex = _
    congr 1; omega

/-- **scientific text, read back**: what `LowerExp` / `UpperExp` / `Binary` / `Octal` / `LowerHex` /
    `UpperHex` print (no width; with or without `+`, with or without a precision) for a finite float is
    accepted by `from_str_native` of the same base whenever the marker printed is a scale marker of the
    base and the printed exponent is an `isize`, and the float read is exactly the value shown
    (`sciShown`: the number itself without a precision, its rounding to `p0 + 1` significant digits with
    one); its precision is the number of digits shown (`×4` for hexadecimal digits) -/
theorem fmtSciG_parse (W : Nat) (hW : 36 < 2 ^ W) (B : Nat) (hB : validRadix B = true) (m : Mode)
    (prec : Option Nat) (upper useHex : Bool) (hhex : useHex = true → B = 2) (marker : Nat)
    (hmk : isScaleMarker B useHex marker = true) (plus : Bool) (r : FRepr)
    (hlo : -(2 ^ 63 : Int) ≤ sciExp B m prec upper useHex r) (hhi : sciExp B m prec upper useHex r < (2 ^ 63 : Int)) :
    ∃ (r' : FRepr) (n : Nat),
      fromStrNative W B (fmtSciG B m { plus := plus } prec upper useHex marker r) = .ok (r', n) ∧
      r'.toRat B = sciShown B m prec useHex r ∧
      (∀ p0, prec = some p0 → n = (p0 + 1) * sciK useHex) := by
  obtain ⟨r', n, h1, h2, b, hb, hn⟩ := fmtSciG_parse_padded W hW B hB m prec upper useHex hhex marker hmk
    { plus := plus } (Or.inr rfl) r hlo hhi
  refine ⟨r', n, h1, h2, fun p0 hp => ?_⟩
  rw [hn p0 hp, hb rfl, Nat.zero_add]

/-- the markers the formatting traits print are scale markers of their base: `e`/`E` (base 10) and `@`
    (every other base) for `LowerExp`/`UpperExp`, `b` for `Binary`, `o` for `Octal`, `h` for the
    hexadecimal traits of base 16 and `p` behind the `0x` prefix for those of base 2 -/
theorem sci_markers_accepted (B : Nat) (upper : Bool) :
    isScaleMarker B false (if B = 10 then (if upper then 69 else 101) else 64) = true ∧
    isScaleMarker 2 false 98 = true ∧ isScaleMarker 8 false 111 = true ∧ isScaleMarker 16 false 104 = true ∧
    isScaleMarker 2 true 112 = true := by
  refine ⟨?_, by decide, by decide, by decide, by decide⟩
  by_cases h : B = 10
  · subst h; cases upper <;> decide
  · simp only [h, if_false]; exact isScaleMarker_at B false

end Dashu.Model.Text
