import Dashu.Proofs.Text.DisplayLink
import Dashu.Proofs.Text.FloatPad
/-
  C08 — the text of `Display` (no width) IS the text of the executable specification `displaySpec`.
-/
namespace Dashu.Model.Text
open Dashu.Model.Float

/-- zeros appended to a digit string multiply the number; behind a lone `0` they vanish in the padding -/
theorem fpL_printSpec_mul (B : Nat) (hB : 2 ≤ B) (n t k : Nat) (h : n = 0 → t ≤ k) :
    fpL (printSpec B false n ++ List.replicate t 48) k = fixedPointText B (n * B ^ t) k := by
  rw [fixedPointText_eq_fpL]
  by_cases hn : n = 0
  · subst hn
    have ht := h rfl
    have h48 : printSpec B false 0 = [48] := by simp [printSpec, digits, digitChar]
    rw [Nat.zero_mul, h48]
    unfold fpL
    simp only []
    rw [fpL_all_zero ([48] ++ List.replicate t 48) k (by simp) (by simp; omega),
      fpL_all_zero [48] k (by simp) (by simp)]
  · rw [printSpec_mul_pow B hB n hn t]

/-- **what `Display` writes behind the sign is the fixed-point text of the printed integer**: with `(s', e')`
    the pair after the rounding step and `k` fractional places (the precision, or `-e'` without one), it is
    `fixedPointText B (|s'| · B^(k + e')) k` -/
theorem fmtRoundCore_eq_fixedPoint (B : Nat) (hB : 2 ≤ B) (m : Mode) (prec : Option Nat) (r : FRepr)
    (hz : r.signif = 0 → r.exp = 0) :
    fmtRoundCore B m prec r =
      fixedPointText B ((dispPair B m prec r).1.natAbs *
          B ^ (((prec.getD (-(dispPair B m prec r).2).toNat : Nat) : Int) + (dispPair B m prec r).2).toNat)
        (prec.getD (-(dispPair B m prec r).2).toNat) := by
  obtain ⟨hs1, hs2⟩ := dispPair_sign B hB m prec r
  rw [fmtRoundCore_eq_bodyG, bodyG_eq_fpL _ _ _ (dispPair_exp_ge B m prec r)
      (fun h => by subst h; exact List.ne_nil_of_length_pos (dispStr_none_pos B hB m r))]
  unfold dispStr
  rw [(orZero_signStr B hB r.signif _ hs1 hs2).1]
  apply fpL_printSpec_mul B hB
  intro h0
  have h0' : (dispPair B m prec r).1 = 0 := Int.natAbs_eq_zero.mp h0
  cases prec with
  | none =>
    have hs : r.signif = 0 := h0'
    have he : (dispPair B m none r).2 = 0 := hz hs
    simp only [Option.getD_none, he]; omega
  | some p =>
    rw [dispPair_some] at h0' ⊢
    split at h0' <;> simp only [Option.getD_some]
    · rename_i hd; simp only [hd, if_true]; omega
    · rename_i hd; simp only [hd, if_false]; have := hz h0'; omega

/-- **the text `Display` prints (no width) IS the text of the executable specification** — without a precision
    the exact positional expansion of the value, with precision `k` the fixed-point text of the value rounded to
    `k` fractional digits under the mode (`displaySpec`), sign and `+` included; for every repr whose zero is
    written with exponent 0 (every normalised repr) -/
theorem display_text_eq_spec (B : Nat) (hB : 2 ≤ B) (m : Mode) (plus : Bool) (prec : Option Nat) (r : FRepr)
    (hz : r.signif = 0 → r.exp = 0) :
    fmtRound B m { plus := plus } prec r = displaySpec B m plus prec r := by
  rw [fmtRound_plain, fmtRoundCore_eq_fixedPoint B hB m prec r hz]
  cases prec with
  | none =>
    unfold displaySpec fSign
    have hpair : dispPair B m none r = (r.signif, r.exp) := rfl
    simp only [hpair, Option.getD_none]
    by_cases he : r.exp ≥ 0
    · have h0 : (-r.exp).toNat = 0 := by omega
      rw [if_pos he, h0, Nat.cast_zero, Int.zero_add, fixedPointText_eq_fpL,
        fpL_zero _ (printSpec_ne_nil B false _ hB)]
    · have h0 : (((-r.exp).toNat : Nat) : Int) + r.exp = 0 := by omega
      rw [if_neg he, h0, Int.toNat_zero, pow_zero, Nat.mul_one]
  | some p =>
    rw [displaySpec_some B hB m plus p r]
    unfold fSign
    congr 2
    rw [dispPair_some]
    by_cases hd : (p : Int) + r.exp < 0
    · simp only [hd, if_true, Option.getD_some]
      rw [show ((p : Int) + -(p : Int)).toNat = 0 by omega, pow_zero, Nat.mul_one]
    · simp only [hd, if_false, Option.getD_some]
      unfold precRounded
      simp only [hd, if_false]
      rw [Int.natAbs_mul, Int.natAbs_natCast]

/-- what `Repr::new` returns writes zero with exponent 0 -/
theorem new_zero_exp (B : Nat) (hB : 2 ≤ B) (s e : Int) :
    (FRepr.new B s e).signif = 0 → (FRepr.new B s e).exp = 0 := by
  intro h
  by_cases hs : s = 0
  · subst hs; simp [FRepr.new]
  · exfalso
    have hv := FRepr.new_value B (by omega) s e
    unfold FRepr.toRat at hv
    rw [h] at hv
    have hp := bpowQ_pos B (by omega) e
    have hsq : (s : ℚ) ≠ 0 := by exact_mod_cast hs
    have : (s : ℚ) * bpowQ B e ≠ 0 := mul_ne_zero hsq (ne_of_gt hp)
    apply this
    rw [← hv]; simp

end Dashu.Model.Text
