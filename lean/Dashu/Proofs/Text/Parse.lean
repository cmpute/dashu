import Dashu.Model.Text.Parse
import Dashu.Proofs.Text.Fmt
import Dashu.Proofs.Text.Sign
/-
  The digit loops of the non-power-of-two parser (one word, chunked, divide-and-conquer) equal Horner evaluation
  of the digits (`parseDigitsSpec`; `parseRawSpec` once the `_` are gone) on every byte string; printing then
  parsing is the identity at the level of the specification (`parseRadixSpec_print`).
-/
namespace Dashu.Model.Text

-- ---------------------------------------------------------------- characters

theorem alnumVal_digitChar (up : Bool) (d : Nat) (hd : d < 36) : alnumVal (digitChar up d) = some d := by
  unfold alnumVal digitChar
  split
  · rw [if_pos (by omega), Nat.add_sub_cancel_left]
  · cases up
    · rw [if_neg Bool.false_ne_true, if_neg (by omega), if_pos (by omega)]
      exact congrArg some (by omega)
    · rw [if_pos rfl, if_neg (by omega), if_neg (by omega), if_pos (by omega)]
      exact congrArg some (by omega)

theorem digitOf_digitChar (r d : Nat) (up : Bool) (hd : d < r) (hr : r ≤ 36) :
    digitOf r (digitChar up d) = some d := by
  unfold digitOf
  rw [alnumVal_digitChar up d (by omega)]
  exact if_pos hd

theorem digitChar_ge (up : Bool) (d : Nat) : 48 ≤ digitChar up d := by
  unfold digitChar; split <;> (try split) <;> omega

theorem digitChar_ne_us (up : Bool) (d : Nat) (hd : d < 36) : digitChar up d ≠ 95 := by
  unfold digitChar; split <;> (try split) <;> omega

theorem digitValues_map (r : Nat) (up : Bool) (hr : r ≤ 36) (ds : List Nat) (h : ∀ d ∈ ds, d < r) :
    digitValues r (ds.map (digitChar up)) = some ds := by
  induction ds with
  | nil => rfl
  | cons d ds ih =>
    simp only [List.map_cons, digitValues]
    rw [digitOf_digitChar r d up (h d (by simp)) hr, ih (fun x hx => h x (by simp [hx]))]

theorem filter_us_map (up : Bool) (ds : List Nat) (h : ∀ d ∈ ds, d < 36) :
    (ds.map (digitChar up)).filter (· ≠ 95) = ds.map (digitChar up) := by
  apply List.filter_eq_self.mpr
  intro c hc
  obtain ⟨d, hd, rfl⟩ := List.mem_map.mp hc
  simpa using digitChar_ne_us up d (h d hd)

theorem parseBodySpec_printSpec (r : Nat) (up : Bool) (n : Nat) (hr2 : 2 ≤ r) (hr : r ≤ 36) :
    parseBodySpec r (printSpec r up n) = .ok n := by
  unfold parseBodySpec printSpec
  have hlt := digits_lt hr2 n
  rw [filter_us_map up _ (fun d hd => by have := hlt d hd; omega), digitValues_map r up hr _ hlt]
  have hne := digits_ne_nil r n hr2
  cases hds : digits r n with
  | nil => exact absurd hds hne
  | cons a t => simp only []; rw [← hds, ofDigits_digits hr2]

theorem noSign_printSpec (r : Nat) (up : Bool) (n : Nat) : Dashu.Model.Macro.NoSign (printSpec r up n) := by
  apply Dashu.Model.Macro.NoSign.of_head
  intro c hc
  unfold printSpec at hc
  rw [List.head?_map] at hc
  obtain ⟨a, _, rfl⟩ := Option.map_eq_some_iff.mp hc
  have := digitChar_ge up a
  omega

/-- the text of an integer: the strippers take its `-` off where the type has a sign -/
theorem splitSign_printSpecInt (signed : Bool) (r : Nat) (up : Bool) (z : Int) (hs : z < 0 → signed = true) :
    splitSign signed (printSpecInt r up z) = (decide (z < 0), printSpec r up z.natAbs) := by
  unfold printSpecInt
  split
  next hz => rw [decide_eq_true hz]; exact splitSign_sign signed (some true) _ nofun (fun _ => hs hz)
  next hz => rw [decide_eq_false hz]; exact splitSign_sign signed none _ (fun _ => noSign_printSpec r up _) nofun

theorem applySign_natAbs (z : Int) : applySign (decide (z < 0)) z.natAbs = z := by
  simp only [applySign, decide_eq_true_eq]
  split <;> omega

/-- **round trip at the level of the specification**: the sign characters (none, `+`, or `-` where the type has a
    sign) followed by the digits parse back to the signed number, for every radix 2..36, either letter case -/
theorem parseRadixSpec_print (signed : Bool) (sg : Option Bool) (r : Nat) (up : Bool) (n : Nat)
    (hv : validRadix r = true) (hs : sg = some true → signed = true) :
    parseRadixSpec signed (signChars sg ++ printSpec r up n) r = .ok (applySign (sg == some true) n) := by
  have hr : 2 ≤ r ∧ r ≤ 36 := by simpa [validRadix] using hv
  unfold parseRadixSpec
  simp only [hv, Bool.not_true, Bool.false_eq_true, if_false]
  rw [splitSign_sign signed sg _ (fun _ => noSign_printSpec r up n) hs, parseBodySpec_printSpec r up n hr.1 hr.2]
  rfl

-- ---------------------------------------------------------------- digit strings

/-- the common specification of the digit loops: all bytes except `_` must be digits -/
def parseDigitsSpec (r : Nat) (t : List Nat) : Except ParseError Nat :=
  match digitValues r (t.filter (· ≠ 95)) with
  | none => .error .invalidDigit
  | some ds => .ok (ofDigits r ds)

/-- … without underscore handling -/
def parseRawSpec (r : Nat) (t : List Nat) : Except ParseError Nat :=
  match digitValues r t with
  | none => .error .invalidDigit
  | some ds => .ok (ofDigits r ds)

theorem digitValues_cons_some {r c : Nat} {cs ds : List Nat} (h : digitValues r (c :: cs) = some ds) :
    ∃ d ds', digitOf r c = some d ∧ digitValues r cs = some ds' ∧ ds = d :: ds' := by
  simp only [digitValues] at h
  cases hc : digitOf r c with
  | none => simp [hc] at h
  | some d =>
    cases hcs : digitValues r cs with
    | none => simp [hc, hcs] at h
    | some ds' => simp [hc, hcs] at h; exact ⟨d, ds', rfl, rfl, h.symm⟩

theorem digitOf_lt {r c d : Nat} (h : digitOf r c = some d) : d < r := by
  unfold digitOf at h
  cases ha : alnumVal c with
  | none => simp [ha] at h
  | some x =>
    simp only [ha] at h
    by_cases hx : x < r
    · simp [hx] at h; omega
    · simp [hx] at h

theorem digitValues_lt {r : Nat} {t ds : List Nat} (h : digitValues r t = some ds) : ∀ d ∈ ds, d < r := by
  induction t generalizing ds with
  | nil => simp [digitValues] at h; subst h; simp
  | cons c cs ih =>
    obtain ⟨d, rest, hd, hr, rfl⟩ := digitValues_cons_some h
    intro x hx
    rcases List.mem_cons.mp hx with hx | hx
    · subst hx; exact digitOf_lt hd
    · exact ih hr x hx

theorem digitValues_length {r : Nat} {t ds : List Nat} (h : digitValues r t = some ds) : ds.length = t.length := by
  induction t generalizing ds with
  | nil => simp [digitValues] at h; subst h; rfl
  | cons c cs ih =>
    obtain ⟨d, ds', _, hcs, rfl⟩ := digitValues_cons_some h
    simp [ih hcs]

theorem digitValues_append (r : Nat) (a b : List Nat) :
    digitValues r (a ++ b) =
      match digitValues r a, digitValues r b with
      | some x, some y => some (x ++ y)
      | _, _ => none := by
  induction a with
  | nil => simp only [List.nil_append, digitValues]; cases digitValues r b <;> rfl
  | cons c cs ih =>
    simp only [List.cons_append, digitValues, ih]
    cases digitOf r c <;> cases digitValues r cs <;> cases digitValues r b <;> simp

theorem parseWordLoop_spec (r : Nat) (cs : List Nat) (acc : Nat) :
    parseWordLoop r cs acc =
      match digitValues r cs with
      | none => .error .invalidDigit
      | some ds => .ok (acc * r ^ ds.length + ofDigits r ds) := by
  induction cs generalizing acc with
  | nil => simp [parseWordLoop, digitValues, ofDigits]
  | cons c cs ih =>
    simp only [parseWordLoop, digitValues]
    cases hc : digitOf r c with
    | none => simp
    | some d =>
      simp only [ih]
      cases hcs : digitValues r cs with
      | none => simp
      | some ds =>
        simp only [List.length_cons, ofDigits_cons]
        congr 1; ring

theorem parseWord_spec (r : Nat) (src : List Nat) : parseWord r src = parseRawSpec r src := by
  unfold parseWord parseRawSpec
  rw [parseWordLoop_spec]
  cases digitValues r src <;> simp

-- ---------------------------------------------------------------- chunking

theorem chunksOf_nil (k : Nat) : chunksOf k [] = [] := by rw [chunksOf]; simp

theorem chunksOf_step {k : Nat} {l : List Nat} (hk : k ≠ 0) (hl : l ≠ []) :
    chunksOf k l = l.take k :: chunksOf k (l.drop k) := by
  rw [chunksOf]; simp [hk, hl]

theorem chunksOf_spec (k : Nat) (hk : k ≠ 0) (l : List Nat) :
    (chunksOf k l).flatten = l ∧ (k ∣ l.length → ∀ g ∈ chunksOf k l, g.length = k) := by
  induction hn : l.length using Nat.strong_induction_on generalizing l with
  | _ n ih =>
    by_cases hl : l = []
    · subst hl; rw [chunksOf_nil]; simp
    · rw [chunksOf_step hk hl]
      have hlen : l.length ≠ 0 := fun h => hl (List.length_eq_zero_iff.mp h)
      have hd : (l.drop k).length < n := by rw [← hn, List.length_drop]; omega
      obtain ⟨e1, e2⟩ := ih _ hd (l.drop k) rfl
      refine ⟨by simp [e1], ?_⟩
      intro hdvd g hg
      rw [← hn] at hdvd
      have hkl : k ≤ l.length := Nat.le_of_dvd (by omega) hdvd
      rcases List.mem_cons.mp hg with h | h
      · subst h; simp [List.length_take]; omega
      · apply e2 _ g h
        rw [List.length_drop]; exact Nat.dvd_sub hdvd (Nat.dvd_refl k)

/-- `rchunks(k).rev()`: a first group of any length, then groups of exactly `k` -/
theorem rchunksRev_spec (k : Nat) (hk : k ≠ 0) (l : List Nat) :
    ∃ g0 gs, rchunksRev k l = g0 :: gs ∧ g0 ++ gs.flatten = l ∧ (∀ g ∈ gs, g.length = k) ∨
      (rchunksRev k l = [] ∧ l = []) := by
  unfold rchunksRev
  by_cases hl : l = []
  · subst hl; exact ⟨[], [], Or.inr (by simp [chunksOf_nil])⟩
  · by_cases h : l.length % k = 0
    · simp only [h, if_true]
      rw [chunksOf_step hk hl]
      obtain ⟨e1, e2⟩ := chunksOf_spec k hk (l.drop k)
      refine ⟨l.take k, chunksOf k (l.drop k), Or.inl ⟨rfl, by simp [e1], ?_⟩⟩
      apply e2
      rw [List.length_drop]
      exact Nat.dvd_sub (Nat.dvd_of_mod_eq_zero h) (Nat.dvd_refl k)
    · simp only [h, if_false]
      obtain ⟨e1, e2⟩ := chunksOf_spec k hk (l.drop (l.length % k))
      refine ⟨_, _, Or.inl ⟨rfl, by simp [e1], ?_⟩⟩
      apply e2
      rw [List.length_drop]
      exact (Nat.dvd_sub_mod l.length)

theorem parseChunkLoop_spec (r rpw dpw : Nat) (hp : rpw = r ^ dpw) (gs : List (List Nat))
    (hgs : ∀ g ∈ gs, g.length = dpw) (acc : Nat) :
    parseChunkLoop r rpw gs acc =
      match digitValues r gs.flatten with
      | none => .error .invalidDigit
      | some ds => .ok (acc * r ^ ds.length + ofDigits r ds) := by
  induction gs generalizing acc with
  | nil => simp [parseChunkLoop, digitValues, ofDigits]
  | cons g gs ih =>
    simp only [parseChunkLoop, List.flatten_cons, digitValues_append, parseWord_spec, parseRawSpec]
    cases hg : digitValues r g with
    | none => simp
    | some dg =>
      simp only []
      rw [ih (fun x hx => hgs x (by simp [hx]))]
      cases hr : digitValues r gs.flatten with
      | none => simp
      | some dr =>
        have : dg.length = dpw := by rw [digitValues_length hg]; exact hgs g (by simp)
        simp only [List.length_append, ofDigits_append, hp, this]
        congr 1; ring

/-- `parse_chunk` = Horner over all digits, whatever the length -/
theorem parseChunk_spec {W r : Nat} (ok : RadixOK W r (radixInfo W r)) (bytes : List Nat) :
    parseChunk W r bytes = parseRawSpec r bytes := by
  unfold parseChunk
  have hk : (radixInfo W r).dpw ≠ 0 := by have := ok.dpos; omega
  rcases rchunksRev_spec (radixInfo W r).dpw hk bytes with ⟨g0, gs, h⟩
  rcases h with ⟨e, efl, hlen⟩ | ⟨e, hnil⟩
  · simp only [e, parseChunkLoop, parseWord_spec]
    unfold parseRawSpec
    rw [← efl, digitValues_append]
    cases hg : digitValues r g0 with
    | none => simp
    | some dg =>
      simp only []
      rw [parseChunkLoop_spec r _ _ ok.pow gs hlen]
      cases hr : digitValues r gs.flatten with
      | none => simp
      | some dr => simp [ofDigits_append]
  · subst hnil; simp only []; rw [e]; simp [parseChunkLoop, parseRawSpec, digitValues, ofDigits]

/-- `radix_powers` of the parser, biggest first: `ps[i] = r^(chunkBytes·2^i)` -/
theorem parseDC_spec {W r : Nat} (ok : RadixOK W r (radixInfo W r)) (cb : Nat) (ps : List Nat)
    (ht : IsTower r cb ps) (bytes : List Nat) :
    parseDC W r cb ps bytes = parseRawSpec r bytes := by
  induction ps generalizing bytes with
  | nil => exact parseChunk_spec ok bytes
  | cons p ps ih =>
    obtain ⟨hp, ht'⟩ := ht
    simp only [parseDC]
    split
    · exact ih ht' bytes
    · rename_i hlen
      rw [ih ht', ih ht']
      have hsplit : bytes = bytes.take (bytes.length - cb <<< ps.length) ++ bytes.drop (bytes.length - cb <<< ps.length) :=
        (List.take_append_drop _ _).symm
      have hlo : (bytes.drop (bytes.length - cb <<< ps.length)).length = cb * 2 ^ ps.length := by
        rw [List.length_drop, Nat.shiftLeft_eq] at *; omega
      unfold parseRawSpec
      conv => rhs; rw [hsplit, digitValues_append]
      cases hh : digitValues r (bytes.take (bytes.length - cb <<< ps.length)) with
      | none => simp
      | some dh =>
        simp only []
        cases hl : digitValues r (bytes.drop (bytes.length - cb <<< ps.length)) with
        | none => simp
        | some dl =>
          simp only [ofDigits_append]
          rw [digitValues_length hl, hlo, hp]

theorem parsePowers_tower (r cb len : Nat) (fuel : Nat) (ps : List Nat) (ht : IsTower r cb ps) :
    IsTower r cb (parsePowers cb len fuel ps) := by
  induction fuel generalizing ps with
  | zero => exact ht
  | succ fuel ih =>
    cases ps with
    | nil => exact ht
    | cons prev rest =>
      simp only [parsePowers]
      split
      · apply ih
        refine ⟨?_, ht⟩
        rw [ht.1, ← pow_add, List.length_cons, pow_succ]; congr 1; ring
      · exact ht

theorem parseLarge_spec {W r : Nat} (ok : RadixOK W r (radixInfo W r)) (bytes : List Nat) :
    parseLarge W r bytes = parseRawSpec r bytes := by
  unfold parseLarge
  apply parseDC_spec ok
  apply parsePowers_tower
  refine ⟨?_, trivial⟩
  rw [ok.pow, ← pow_mul]; simp [Nat.mul_comm]

theorem parseRawSpec_filter (r : Nat) (src : List Nat) :
    parseRawSpec r (src.filter (· ≠ 95)) = parseDigitsSpec r src := rfl

/-- **the non-power-of-two parser** (word / chunked / divide-and-conquer) equals Horner evaluation of
    the digits, or `InvalidDigit` — on every byte string -/
theorem parseNonPow2_spec (W r : Nat) (hr : 2 ≤ r) (hrW : r < 2 ^ W) (src : List Nat) :
    parseNonPow2 W r src = parseDigitsSpec r src := by
  have ok := radixInfo_ok W r hr hrW
  unfold parseNonPow2
  have hb : (if src.contains 95 = true then src.filter (· ≠ 95) else src) = src.filter (· ≠ 95) := by
    by_cases h : src.contains 95 = true
    · rw [if_pos h]
    · rw [if_neg h]
      symm; apply List.filter_eq_self.mpr
      intro c hc
      simp only [decide_eq_true_eq]
      intro h95; subst h95
      exact h (List.contains_iff_mem.mpr hc)
  simp only [hb]
  rw [← parseRawSpec_filter]
  split
  · exact parseWord_spec r _
  · split
    · exact parseChunk_spec ok _
    · exact parseLarge_spec ok _

end Dashu.Model.Text
