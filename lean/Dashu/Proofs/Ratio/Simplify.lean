import Dashu.Proofs.Ratio.Extra
import Dashu.Model.Ratio.Simplify
/-
  `Repr::simplest_in` (rational/src/simplify.rs): the continued-fraction descent on both end
  points returns the fraction `A/B` strictly inside the interval that has BOTH the least numerator
  and the least denominator among all fractions strictly inside (Stern–Brocot), and terminates.

  `sb` is the same descent written as a recursion "from the outside in"
  (`simplest(l, r) = q + 1/simplest(1/(r-q), 1/(l-q))`, `q = ⌊l⌋`); `sb_spec` proves soundness,
  simultaneous minimality and termination by induction; `simplestLoop_eq_sb` shows that the
  loop of the code, which accumulates the convergent matrix `(n0 n1; d0 d1)` "from the inside
  out", returns `(n0·A + n1·B, d0·A + d1·B)`.
-/
namespace Dashu.Model.Ratio
open Dashu.Model

/-- the recursion behind the loop: `(a/b, c/d)` is the current interval (`d = 0`: unbounded) -/
def sb : Nat → Int → Int → Int → Int → Option (Int × Int)
  | 0, _, _, _, _ => none
  | fuel + 1, a, b, c, d =>
    let q := Int.tdiv a b
    let r1 := Int.tmod a b
    let r2 := c - q * d
    if d < r2 then some (q + 1, 1)
    else match sb fuel d r2 b r1 with
      | some (A', B') => some (q * A' + B', A')
      | none => none

/-- invariant of the descent: `0 ≤ a/b < c/d ≤ ∞` -/
def SInv (a b c d : Int) : Prop := 0 ≤ a ∧ 0 < b ∧ 0 < c ∧ 0 ≤ d ∧ a * d < c * b

theorem tdiv_facts (a b : Int) (ha : 0 ≤ a) (hb : 0 < b) :
    a = b * Int.tdiv a b + Int.tmod a b ∧ 0 ≤ Int.tdiv a b ∧ 0 ≤ Int.tmod a b ∧ Int.tmod a b < b := by
  refine ⟨(Int.mul_tdiv_add_tmod a b).symm, ?_, Int.tmod_nonneg b ha, Int.tmod_lt_of_pos a hb⟩
  rw [Int.tdiv_eq_ediv_of_nonneg ha]
  exact Int.ediv_nonneg ha hb.le

/-- `a = b·q + r` and `a/b < p/s` give `q < p/s` -/
theorem quot_mul_lt {a b q r s p : Int} (e : a = b * q + r) (hr : 0 ≤ r) (hb : 0 < b) (hs : 0 ≤ s)
    (h : a * s < p * b) : q * s < p := by
  have := Int.mul_nonneg hr hs
  rw [e] at h
  exact Int.lt_of_mul_lt_mul_left (a := b) (by linarith) hb.le

theorem step_inv {a b c d : Int} (h : SInv a b c d) :
    0 < c - Int.tdiv a b * d ∧ SInv d (c - Int.tdiv a b * d) b (Int.tmod a b) := by
  obtain ⟨ha, hb, hc, hd, hlt⟩ := h
  obtain ⟨e, hq, hr0, hr1⟩ := tdiv_facts a b ha hb
  have hr2 := quot_mul_lt e hr0 hb hd hlt
  refine ⟨by linarith, hd, by linarith, hb, hr0, ?_⟩
  rw [e] at hlt
  linarith

/-- **soundness, optimality and termination of the descent** -/
theorem sb_spec : ∀ (fuel : Nat) (a b c d : Int), SInv a b c d → (b + d).toNat < fuel →
    ∃ A B, sb fuel a b c d = some (A, B) ∧ 0 < A ∧ 0 < B ∧ a * B < A * b ∧ A * d < c * B ∧
      ∀ p s : Int, 0 < s → a * s < p * b → p * d < c * s → A ≤ p ∧ B ≤ s := by
  intro fuel
  induction fuel with
  | zero => intro a b c d _ h; omega
  | succ fuel ih =>
    intro a b c d hinv hfuel
    obtain ⟨hr2, hinv'⟩ := step_inv hinv
    obtain ⟨ha, hb, hc, hd, hlt⟩ := hinv
    obtain ⟨e, hq, hr0, hr1⟩ := tdiv_facts a b ha hb
    simp only [sb]
    generalize Int.tdiv a b = q at *
    generalize Int.tmod a b = r1 at *
    by_cases hbrk : d < c - q * d
    · -- an integer lies strictly inside: q + 1
      rw [if_pos hbrk]
      refine ⟨q + 1, 1, rfl, by omega, by omega, by linarith, by linarith, fun p s hs h1 h2 => ?_⟩
      have h3 := quot_mul_lt e hr0 hb hs.le h1
      have h6 : q * 1 ≤ q * s := Int.mul_le_mul_of_nonneg_left (by omega) hq
      omega
    · rw [if_neg hbrk]
      obtain ⟨A', B', hsb, hA', hB', h1', h2', hmin'⟩ := ih d (c - q * d) b r1 hinv' (by omega)
      rw [hsb]
      have hqA := Int.mul_nonneg hq hA'.le
      refine ⟨q * A' + B', A', rfl, by omega, hA', by rw [e]; linarith, by linarith,
        fun p s hs hp1 hp2 => ?_⟩
      -- `p/s` inside `(a/b, c/d)` turns into `s/(p − q·s)` inside the interval of the recursion
      have h3 := quot_mul_lt e hr0 hb hs.le hp1
      rw [e] at hp1
      have hm := hmin' s (p - q * s) (by omega) (by linarith) (by linarith)
      have : q * A' ≤ q * s := Int.mul_le_mul_of_nonneg_left hm.1 hq
      exact ⟨by omega, hm.1⟩

/-- the result of the descent is in lowest terms (a consequence of minimality) -/
theorem sb_coprime {fuel : Nat} {a b c d A B : Int} (hinv : SInv a b c d)
    (hfuel : (b + d).toNat < fuel) (h : sb fuel a b c d = some (A, B)) :
    Nat.gcd A.natAbs B.natAbs = 1 := by
  obtain ⟨A₀, B₀, hsb, hA, hB, h1, h2, hmin⟩ := sb_spec fuel a b c d hinv hfuel
  rw [h] at hsb
  obtain ⟨rfl, rfl⟩ : A = A₀ ∧ B = B₀ := by simpa using hsb
  obtain ⟨ha, hb, hc, hd, hlt⟩ := hinv
  set g := Nat.gcd A.natAbs B.natAbs with hg
  have hgpos : 0 < g := Nat.gcd_pos_of_pos_left _ (Int.natAbs_pos.mpr hA.ne')
  have hgA : (g : Int) ∣ A := Int.natCast_dvd.mpr (Nat.gcd_dvd_left _ _)
  have hgB : (g : Int) ∣ B := Int.natCast_dvd.mpr (Nat.gcd_dvd_right _ _)
  obtain ⟨A1, hA1⟩ := hgA
  obtain ⟨B1, hB1⟩ := hgB
  have hgZ : (0 : Int) < g := by exact_mod_cast hgpos
  have hB1pos : 0 < B1 := by
    by_contra hcon
    have : B1 ≤ 0 := by omega
    have : (g : Int) * B1 ≤ 0 := Int.mul_nonpos_of_nonneg_of_nonpos hgZ.le this
    omega
  -- A1/B1 lies in the same interval
  have hm := hmin A1 B1 hB1pos
    (by have : a * ((g : Int) * B1) < (g : Int) * A1 * b := by rw [← hA1, ← hB1]; exact h1
        have e1 : a * ((g : Int) * B1) = (g : Int) * (a * B1) := by ring
        have e2 : (g : Int) * A1 * b = (g : Int) * (A1 * b) := by ring
        rw [e1, e2] at this
        exact Int.lt_of_mul_lt_mul_left this hgZ.le)
    (by have : (g : Int) * A1 * d < c * ((g : Int) * B1) := by rw [← hA1, ← hB1]; exact h2
        have e1 : (g : Int) * A1 * d = (g : Int) * (A1 * d) := by ring
        have e2 : c * ((g : Int) * B1) = (g : Int) * (c * B1) := by ring
        rw [e1, e2] at this
        exact Int.lt_of_mul_lt_mul_left this hgZ.le)
  -- A ≤ A1 with A = g·A1, A1 > 0 forces g = 1
  have hA1pos : 0 < A1 := by
    by_contra hcon
    have : A1 ≤ 0 := by omega
    have : (g : Int) * A1 ≤ 0 := Int.mul_nonpos_of_nonneg_of_nonpos hgZ.le this
    omega
  have : (g : Int) * A1 ≤ 1 * A1 := by rw [← hA1]; simpa using hm.1
  have hg1 : (g : Int) ≤ 1 := Int.le_of_mul_le_mul_right this hA1pos
  omega

/-- the loop of the code accumulates the convergent matrix; it returns the matrix applied to
    the result of the recursion -/
theorem simplestLoop_eq_sb : ∀ (fuel : Nat) (a b c d n0 d0 n1 d1 : Int), SInv a b c d →
    simplestLoop fuel ⟨a, b, c, d, n0, d0, n1, d1⟩ =
      .ok ((sb fuel a b c d).map fun AB => (n0 * AB.1 + n1 * AB.2, d0 * AB.1 + d1 * AB.2)) := by
  intro fuel
  induction fuel with
  | zero => intros; rfl
  | succ fuel ih =>
    intro a b c d n0 d0 n1 d1 hinv
    obtain ⟨hr2, hinv'⟩ := step_inv hinv
    have hb : b ≠ 0 := by have := hinv.2.1; omega
    simp only [simplestLoop, idivRemK, if_neg hb, bind_ok', sb]
    by_cases hbrk : d < c - Int.tdiv a b * d
    · simp only [if_pos hbrk, Option.map_some]
      congr 2
      ext <;> simp <;> ring
    · simp only [if_neg hbrk]
      rw [ih _ _ _ _ _ _ _ _ hinv']
      cases hsb : sb fuel d (c - Int.tdiv a b * d) b (Int.tmod a b) with
      | none => simp
      | some AB =>
        obtain ⟨A', B'⟩ := AB
        simp only [Option.map_some]
        congr 2
        ext <;> simp <;> ring

theorem cast_lt_iff (a : ℤ) (b : ℕ) (c : ℤ) (d : ℕ) (hb : 0 < b) (hd : 0 < d) :
    (a : ℚ) / b < (c : ℚ) / d ↔ a * d < c * b := by
  have hbq : (0 : ℚ) < b := by exact_mod_cast hb
  have hdq : (0 : ℚ) < d := by exact_mod_cast hd
  rw [div_lt_div_iff₀ hbq hdq]
  exact_mod_cast Iff.rfl

/-- the positive case of `Repr::simplest_in`: `0 ≤ lo < hi` -/
theorem simplest_pos (lo hi : Q) (hlo : 0 ≤ lo.num) (hlod : 0 < lo.den) (hhid : 0 < hi.den)
    (hlt : lo.val < hi.val) :
    ∃ A B : ℤ, simplestLoop (lo.den + hi.den + 1) ⟨lo.num, lo.den, hi.num, hi.den, 1, 0, 0, 1⟩
        = .ok (some (A, B)) ∧ 0 < A ∧ 0 < B ∧ Nat.gcd A.natAbs B.natAbs = 1 ∧
      lo.val < (A : ℚ) / B ∧ (A : ℚ) / B < hi.val ∧
      ∀ (p : ℤ) (s : ℕ), 0 < s → lo.val < (p : ℚ) / s → (p : ℚ) / s < hi.val →
        A ≤ p ∧ B ≤ s := by
  obtain ⟨a, b⟩ := lo
  obtain ⟨c, d⟩ := hi
  simp only at hlo hlod hhid
  have hlt' : a * (d : ℤ) < c * (b : ℤ) := (cast_lt_iff a b c d hlod hhid).1 hlt
  have hbZ : (0 : ℤ) < b := by exact_mod_cast hlod
  have hdZ : (0 : ℤ) < d := by exact_mod_cast hhid
  have hc : 0 < c := by
    by_contra hcon
    have h1 : c ≤ 0 := by omega
    have h2 : c * (b : ℤ) ≤ 0 := Int.mul_nonpos_of_nonpos_of_nonneg h1 hbZ.le
    have h3 : 0 ≤ a * (d : ℤ) := Int.mul_nonneg hlo hdZ.le
    omega
  have hinv : SInv a b c d := ⟨hlo, hbZ, hc, hdZ.le, hlt'⟩
  have hfuel : ((b : ℤ) + (d : ℤ)).toNat < b + d + 1 := by omega
  obtain ⟨A, B, hsb, hA, hB, h1, h2, hmin⟩ := sb_spec (b + d + 1) a b c d hinv hfuel
  have hcop := sb_coprime hinv hfuel hsb
  refine ⟨A, B, ?_, hA, hB, hcop, ?_, ?_, ?_⟩
  · rw [simplestLoop_eq_sb _ _ _ _ _ _ _ _ _ hinv, hsb]
    simp
  · have : (A : ℚ) / B = (A : ℚ) / ((B.toNat : ℕ) : ℚ) := by
      have : ((B.toNat : ℕ) : ℤ) = B := Int.toNat_of_nonneg hB.le
      congr 1; exact_mod_cast this.symm
    rw [this, Q.val_mk, cast_lt_iff a b A B.toNat hlod (by omega), Int.toNat_of_nonneg hB.le]
    exact h1
  · have : (A : ℚ) / B = (A : ℚ) / ((B.toNat : ℕ) : ℚ) := by
      have : ((B.toNat : ℕ) : ℤ) = B := Int.toNat_of_nonneg hB.le
      congr 1; exact_mod_cast this.symm
    rw [this, Q.val_mk, cast_lt_iff A B.toNat c d (by omega) hhid, Int.toNat_of_nonneg hB.le]
    exact h2
  · intro p s hs hp1 hp2
    rw [Q.val_mk, cast_lt_iff a b p s hlod hs] at hp1
    rw [Q.val_mk, cast_lt_iff p s c d hs hhid] at hp2
    exact hmin p s (by exact_mod_cast hs) hp1 hp2

theorem cmpQ_lt_iff (x y : Q) (hx : 0 < x.den) (hy : 0 < y.den) :
    cmpQ x y = .lt ↔ x.val < y.val := by
  unfold cmpQ
  rw [compare_lt_iff_lt, Q.val_def, Q.val_def, cast_lt_iff _ _ _ _ hx hy]

theorem cmpQ_gt_iff (x y : Q) (hx : 0 < x.den) (hy : 0 < y.den) :
    cmpQ x y = .gt ↔ y.val < x.val := by
  unfold cmpQ
  rw [compare_gt_iff_gt, Q.val_def, Q.val_def, cast_lt_iff _ _ _ _ hy hx]

theorem cmpQ_eq_iff (x y : Q) (hx : 0 < x.den) (hy : 0 < y.den) :
    cmpQ x y = .eq ↔ x.val = y.val := by
  have h1 := cmpQ_lt_iff x y hx hy
  have h2 := cmpQ_gt_iff x y hx hy
  constructor
  · intro h
    rw [h] at h1 h2
    have a : ¬ x.val < y.val := fun hh => by simpa using h1.2 hh
    have b : ¬ y.val < x.val := fun hh => by simpa using h2.2 hh
    exact le_antisymm (not_lt.mp b) (not_lt.mp a)
  · intro h
    cases hc : cmpQ x y with
    | lt => exact absurd (h1.1 hc) (by rw [h]; exact lt_irrefl _)
    | gt => exact absurd (h2.1 hc) (by rw [h]; exact lt_irrefl _)
    | eq => rfl

/-- the descent after taking absolute values -/
theorem simplestAbs_spec (l u : Q) (hl : 0 ≤ l.num) (hu : 0 ≤ u.num) (hld : 0 < l.den)
    (hud : 0 < u.den) (neg : Bool) :
    (l.val = u.val → simplestAbs l u neg = .ok (some (mulSign l neg))) ∧
    (l.val ≠ u.val → ∃ A B : ℤ,
      simplestAbs l u neg = .ok (some ⟨if neg then -A else A, B.natAbs⟩) ∧
      0 < A ∧ 0 < B ∧ Nat.gcd A.natAbs B.natAbs = 1 ∧
      min l.val u.val < (A : ℚ) / B ∧ (A : ℚ) / B < max l.val u.val ∧
      ∀ (p : ℤ) (s : ℕ), 0 < s → min l.val u.val < (p : ℚ) / s → (p : ℚ) / s < max l.val u.val →
        A ≤ p ∧ B ≤ s) := by
  constructor
  · intro h
    have := (cmpQ_eq_iff l u hld hud).2 h
    simp [simplestAbs, this]
  · intro hne
    have hneq : cmpQ l u ≠ .eq := fun h => hne ((cmpQ_eq_iff l u hld hud).1 h)
    -- the ordered pair
    rcases lt_or_gt_of_ne hne with hlt | hgt
    · have hc := (cmpQ_lt_iff l u hld hud).2 hlt
      obtain ⟨A, B, hloop, hA, hB, hcop, h1, h2, hmin⟩ := simplest_pos l u hl hld hud hlt
      refine ⟨A, B, ?_, hA, hB, hcop, ?_, ?_, ?_⟩
      · simp only [simplestAbs, hc]
        simp only [reduceCtorEq, if_false, hloop, bind_ok']
        have : (A.natAbs : ℤ) = A := Int.natAbs_of_nonneg hA.le
        simp [this]
        cases neg <;> rfl
      · rw [min_eq_left hlt.le]; exact h1
      · rw [max_eq_right hlt.le]; exact h2
      · intro p s hs hp1 hp2
        rw [min_eq_left hlt.le] at hp1
        rw [max_eq_right hlt.le] at hp2
        exact hmin p s hs hp1 hp2
    · have hc := (cmpQ_gt_iff l u hld hud).2 hgt
      obtain ⟨A, B, hloop, hA, hB, hcop, h1, h2, hmin⟩ := simplest_pos u l hu hud hld hgt
      refine ⟨A, B, ?_, hA, hB, hcop, ?_, ?_, ?_⟩
      · simp only [simplestAbs, hc]
        simp only [if_true, hloop, bind_ok']
        have : (A.natAbs : ℤ) = A := Int.natAbs_of_nonneg hA.le
        simp [this]
        cases neg <;> rfl
      · rw [min_eq_right hgt.le]; exact h1
      · rw [max_eq_left hgt.le]; exact h2
      · intro p s hs hp1 hp2
        rw [min_eq_right hgt.le] at hp1
        rw [max_eq_left hgt.le] at hp2
        exact hmin p s hs hp1 hp2

theorem reduce_of_reduced (q : Q) (h : Reduced q) : reduce q = .ok q := by
  obtain ⟨r, h1, h2, h3⟩ := reduce_spec q h.den_pos
  rw [h1, Reduced.ext h2 h h3]

theorem val_abs_of_nonpos (q : Q) (hd : 0 < q.den) (h : q.num ≤ 0) : (abs q).val = -q.val := by
  have hb : (0 : ℚ) < q.den := by exact_mod_cast hd
  have e : ((q.num.natAbs : ℤ) : ℚ) = -(q.num : ℚ) := by
    have : (q.num.natAbs : ℤ) = -q.num := by omega
    rw [this]; push_cast; ring
  simp only [abs, Q.val_def, e, neg_div]

theorem abs_of_nonneg_num (q : Q) (h : 0 ≤ q.num) : abs q = q := by
  obtain ⟨n, d⟩ := q
  simp only [abs, Q.mk.injEq, and_true]
  simp only at h
  omega

/-- **`RBig::simplest_in`**: for equal end points that number; otherwise a reduced fraction
    strictly between the end points (whatever their order and signs) such that every fraction
    `p/s` strictly between them has `s ≥` its denominator AND `|p| ≥` its numerator magnitude. -/
theorem simplestIn_spec (l u : Q) (hld : 0 < l.den) (hud : 0 < u.den) :
    (l.val = u.val → ∃ r, simplestIn l u = .ok (some r) ∧ Reduced r ∧ r.val = l.val) ∧
    (l.val ≠ u.val → ∃ r, simplestIn l u = .ok (some r) ∧ Reduced r ∧
      min l.val u.val < r.val ∧ r.val < max l.val u.val ∧
      ∀ (p : ℤ) (s : ℕ), 0 < s → min l.val u.val < (p : ℚ) / s → (p : ℚ) / s < max l.val u.val →
        r.den ≤ s ∧ r.num.natAbs ≤ p.natAbs) := by
  by_cases hstr : (l.num < 0 ∧ 0 < u.num) ∨ (u.num < 0 ∧ 0 < l.num)
  · -- sign-straddling: 0
    have hres : simplestIn l u = .ok (some Q.zero) := by
      simp only [simplestIn, reprSimplestIn, if_pos hstr, bind_ok']
      rfl
    have hl0 : l.val < 0 ∧ 0 < u.val ∨ u.val < 0 ∧ 0 < l.val := by
      rcases hstr with ⟨a, b⟩ | ⟨a, b⟩
      · exact Or.inl ⟨(val_neg_iff l hld).2 a, (val_pos_iff u hud).2 b⟩
      · exact Or.inr ⟨(val_neg_iff u hud).2 a, (val_pos_iff l hld).2 b⟩
    have hz : Q.zero.val = 0 := by simp [Q.zero, Q.val_def]
    constructor
    · intro h; rcases hl0 with ⟨a, b⟩ | ⟨a, b⟩ <;> linarith
    · intro _
      refine ⟨Q.zero, hres, reduced_zero, ?_, ?_, ?_⟩
      · rw [hz]; rcases hl0 with ⟨a, b⟩ | ⟨a, b⟩
        · exact lt_of_le_of_lt (min_le_left _ _) a
        · exact lt_of_le_of_lt (min_le_right _ _) a
      · rw [hz]; rcases hl0 with ⟨a, b⟩ | ⟨a, b⟩
        · exact lt_of_lt_of_le b (le_max_right _ _)
        · exact lt_of_lt_of_le b (le_max_left _ _)
      · intro p s hs _ _
        exact ⟨by simp only [Q.zero]; omega, by simp [Q.zero]⟩
  · by_cases hneg : l.num < 0 ∨ u.num < 0
    · -- both ≤ 0
      have hl : l.num ≤ 0 := by
        rcases hneg with h | h
        · omega
        · by_contra hc; exact hstr (Or.inr ⟨h, by omega⟩)
      have hu : u.num ≤ 0 := by
        rcases hneg with h | h
        · by_contra hc; exact hstr (Or.inl ⟨h, by omega⟩)
        · omega
      have hla := val_abs_of_nonpos l hld hl
      have hua := val_abs_of_nonpos u hud hu
      have hspec := simplestAbs_spec (abs l) (abs u) (by simp [abs]) (by simp [abs]) hld hud true
      have hrepr : reprSimplestIn l u = simplestAbs (abs l) (abs u) true := by
        simp only [reprSimplestIn, if_neg hstr, hneg, decide_true]
      constructor
      · intro h
        have := hspec.1 (by rw [hla, hua, h])
        have hback : mulSign (abs l) true = l := by
          obtain ⟨n, d⟩ := l
          simp only [mulSign, abs, if_true, Q.mk.injEq, and_true]
          simp only at hl
          omega
        obtain ⟨r, h1, h2, h3⟩ := reduce_spec l hld
        refine ⟨r, ?_, h2, h3⟩
        simp only [simplestIn, hrepr, this, bind_ok', hback, h1]
        rfl
      · intro hne
        obtain ⟨A, B, hres, hA, hB, hcop, h1, h2, hmin⟩ :=
          hspec.2 (by rw [hla, hua]; intro h; exact hne (neg_injective h))
        simp only [if_true] at hres
        have hBn : ((B.natAbs : ℕ) : ℤ) = B := Int.natAbs_of_nonneg hB.le
        have hBq : ((B.natAbs : ℕ) : ℚ) = (B : ℚ) := by
          rw [← Int.cast_natCast, hBn]
        have hred : Reduced ⟨-A, B.natAbs⟩ :=
          ⟨Int.natAbs_pos.mpr hB.ne', by simpa using hcop⟩
        have hval : (⟨-A, B.natAbs⟩ : Q).val = -((A : ℚ) / B) := by
          simp [Q.val_def, hBq, neg_div]
        have hmm : min l.val u.val = -max (-l.val) (-u.val) := by
          rcases le_total l.val u.val with hh | hh
          · rw [min_eq_left hh, max_eq_left (neg_le_neg hh), neg_neg]
          · rw [min_eq_right hh, max_eq_right (neg_le_neg hh), neg_neg]
        have hMM : max l.val u.val = -min (-l.val) (-u.val) := by
          rcases le_total l.val u.val with hh | hh
          · rw [max_eq_right hh, min_eq_right (neg_le_neg hh), neg_neg]
          · rw [max_eq_left hh, min_eq_left (neg_le_neg hh), neg_neg]
        rw [hla, hua] at h1 h2 hmin
        refine ⟨⟨-A, B.natAbs⟩, ?_, hred, ?_, ?_, ?_⟩
        · simp only [simplestIn, hrepr, hres, bind_ok', reduce_of_reduced _ hred]
          rfl
        · rw [hval, hmm]; linarith
        · rw [hval, hMM]; linarith
        · intro p s hs hp1 hp2
          rw [hmm] at hp1
          rw [hMM] at hp2
          have e : ((-p : ℤ) : ℚ) / s = -((p : ℚ) / s) := by push_cast; ring
          have := hmin (-p) s hs (by rw [e]; linarith) (by rw [e]; linarith)
          simp only
          constructor
          · omega
          · rw [Int.natAbs_neg]; omega
    · -- both ≥ 0
      have hl : 0 ≤ l.num := by omega
      have hu : 0 ≤ u.num := by omega
      have hspec := simplestAbs_spec l u hl hu hld hud false
      have hrepr : reprSimplestIn l u = simplestAbs l u false := by
        simp only [reprSimplestIn, if_neg hstr, hneg, decide_false, abs_of_nonneg_num l hl,
          abs_of_nonneg_num u hu]
      constructor
      · intro h
        have := hspec.1 h
        have hback : mulSign l false = l := by simp [mulSign]
        obtain ⟨r, h1, h2, h3⟩ := reduce_spec l hld
        refine ⟨r, ?_, h2, h3⟩
        simp only [simplestIn, hrepr, this, bind_ok', hback, h1]
        rfl
      · intro hne
        obtain ⟨A, B, hres, hA, hB, hcop, h1, h2, hmin⟩ := hspec.2 hne
        simp only [Bool.false_eq_true, if_false] at hres
        have hBn : ((B.natAbs : ℕ) : ℤ) = B := Int.natAbs_of_nonneg hB.le
        have hBq : ((B.natAbs : ℕ) : ℚ) = (B : ℚ) := by
          rw [← Int.cast_natCast, hBn]
        have hred : Reduced ⟨A, B.natAbs⟩ :=
          ⟨Int.natAbs_pos.mpr hB.ne', by simpa using hcop⟩
        have hval : (⟨A, B.natAbs⟩ : Q).val = (A : ℚ) / B := by
          simp [Q.val_def, hBq]
        refine ⟨⟨A, B.natAbs⟩, ?_, hred, ?_, ?_, ?_⟩
        · simp only [simplestIn, hrepr, hres, bind_ok', reduce_of_reduced _ hred]
          rfl
        · rw [hval]; exact h1
        · rw [hval]; exact h2
        · intro p s hs hp1 hp2
          have := hmin p s hs hp1 hp2
          simp only
          constructor <;> omega

end Dashu.Model.Ratio
