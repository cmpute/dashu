import Dashu.Proofs.Ratio.PowGuard
import Dashu.Proofs.Ratio.Hist
/-
  C04: the "below memory" side of the allocation guard of `pow` (item (7) in the header of Props/C04Pow):
  the contrapositive of `pow_panic_only_beyond_memory`, size criteria for `v ^ n < 2^(2^62)`, and the component bound of
  a reduced pair against any stored pair denoting the same number.
-/
namespace Dashu.Model.Ratio
open Dashu.Model

/-- the guard is silent below memory (64-bit words): an exact power of fewer than `2^62` bits never panics -/
theorem pow_guard_silent_below_memory (v n : Nat) (h : v ^ n < 2 ^ (2 ^ 62)) : upowPanics 64 v n = false := by
  cases hp : upowPanics 64 v n with
  | false => rfl
  | true => exact absurd (pow_panic_only_beyond_memory v n hp) (Nat.not_le.mpr h)

theorem pow_lt_of_bits (v n a : Nat) (hv : v < 2 ^ a) (ha : a * n ≤ 2 ^ 62) : v ^ n < 2 ^ (2 ^ 62) := by
  rcases Nat.eq_zero_or_pos n with h0 | hpos
  · subst h0
    rw [Nat.pow_zero]
    exact Nat.one_lt_two_pow (by decide)
  · calc v ^ n < (2 ^ a) ^ n := Nat.pow_lt_pow_left hv (by omega)
      _ = 2 ^ (a * n) := by rw [Nat.pow_mul]
      _ ≤ 2 ^ (2 ^ 62) := Nat.pow_le_pow_right (by omega) ha

theorem small_of_lt (v n b : Nat) (h : v ^ n < 2 ^ b) (hb : b ≤ 2 ^ 62) : v ^ n < 2 ^ (2 ^ 62) :=
  Nat.lt_of_lt_of_le h (Nat.pow_le_pow_right (by decide) hb)

/-- a reduced pair denoting the same number as a stored pair has components no larger than the stored ones -/
theorem reduced_components_le {x y : Q} (hd : 0 < x.den) (hy : Reduced y) (hv : x.val = y.val) :
    y.num.natAbs ≤ x.num.natAbs ∧ y.den ≤ x.den := by
  have h := reduce_eq_of_val_eq hd hy hv
  unfold reduce at h
  by_cases h0 : x.num = 0
  · rw [if_pos h0] at h
    cases h
    exact ⟨by simp [Q.zero], by simp only [Q.zero]; omega⟩
  · rw [if_neg h0, gcdK_of_pos_right _ hd] at h
    cases h
    refine ⟨?_, Nat.div_le_self _ _⟩
    simp only [Int.natAbs_tdiv, Int.natAbs_natCast]
    exact Nat.div_le_self _ _

end Dashu.Model.Ratio
