import Dashu.Proofs.Ratio.FBigSet
import Dashu.Model.Ratio.Simplify
/-
  C18 FBig clause: the model's `roundingSet Quirks.none` (required behaviour of
  `simplest_from_float`) is the rounding set `FSet` of the mode's window.
-/
namespace Dashu.Model.Ratio
open Dashu.Model

/-- the modes of the rational model as the modes of `Dashu.Model.Float` -/
def RMode.toF : RMode → FMode
  | .zero => .zero | .away => .away | .up => .up | .down => .down
  | .halfAway => .halfAway | .halfEven => .halfEven

/-- the integer table `roundingSet Quirks.none` in terms of the window of the mode -/
theorem roundingSet_window (mode : RMode) (b p : ℕ) (neg : Bool) (S : ℕ) (odd : Bool) :
    let W := windowOf mode.toF neg
    let r := roundingSet Quirks.none mode b p neg S odd
    let below : ℚ := if S = b ^ (p - 1) then 2 else 2 * b
    (r.1 : ℚ) = 2 * b * S - below * W.dlo ∧ (r.2.1 : ℚ) = 2 * b * S + 2 * b * W.dhi ∧
      r.2.2.1 = (if S = b ^ (p - 1) then W.inclLo (b ^ p) else W.inclLo S) ∧
      r.2.2.2 = W.inclHi S := by
  have hdiv : ((2 * (b : ℤ)) / 2 : ℤ) = b := by omega
  have h22 : ((2 : ℤ) / 2 : ℤ) = 1 := by decide
  by_cases hpow : S = b ^ (p - 1)
  · cases mode <;> cases neg <;>
      simp [roundingSet, Quirks.none, RMode.toF, windowOf, wToward, wAway, wHalfAway, wHalfEven,
        hpow, hdiv, h22] <;> (try ring)
  · cases mode <;> cases neg <;>
      simp [roundingSet, Quirks.none, RMode.toF, windowOf, wToward, wAway, wHalfAway, wHalfEven,
        hpow, hdiv, h22] <;> (try ring)

/-- the table's interval is positive and not empty -/
theorem roundingSet_pos_lt (mode : RMode) (b p : ℕ) (neg : Bool) (S : ℕ) (odd : Bool) (hb : 2 ≤ b)
    (hS1 : b ^ (p - 1) ≤ S) :
    (0 : ℚ) < (roundingSet Quirks.none mode b p neg S odd).1 ∧
      ((roundingSet Quirks.none mode b p neg S odd).1 : ℚ) <
        (roundingSet Quirks.none mode b p neg S odd).2.1 := by
  obtain ⟨w1, w2, -, -⟩ := roundingSet_window mode b p neg S odd
  have hW := windowOf_ok mode.toF neg
  rw [w1, w2]
  clear w1 w2
  generalize windowOf mode.toF neg = W at hW ⊢
  have hbq : (2 : ℚ) ≤ b := by exact_mod_cast hb
  have hN : 1 ≤ b ^ (p - 1) := Nat.one_le_pow _ _ (by omega)
  have hS : (1 : ℚ) ≤ S := by exact_mod_cast hN.trans hS1
  have hlo := hW.lo_nonneg
  have hhi := hW.hi_nonneg
  have hsum := hW.sum
  -- widths times quanta, as atoms
  have h1 : 2 * W.dhi ≤ 2 * b * W.dhi :=
    mul_le_mul_of_nonneg_right (by linarith) hhi
  have h2 : 2 * b * W.dlo ≤ 2 * b * 1 :=
    mul_le_mul_of_nonneg_left (by linarith) (by linarith)
  have h4 : 2 * b * W.dlo + 2 * b * W.dhi = 2 * b := by
    rw [← mul_add, hsum, mul_one]
  by_cases hpow : S = b ^ (p - 1)
  · have h3 : 2 * (b : ℚ) * 1 ≤ 2 * b * S := mul_le_mul_of_nonneg_left hS (by linarith)
    rw [if_pos hpow]
    constructor <;> linarith
  · have hS2 : (2 : ℚ) ≤ S := by exact_mod_cast (by omega : 2 ≤ S)
    have h3 : 2 * (b : ℚ) * 2 ≤ 2 * b * S := mul_le_mul_of_nonneg_left hS2 (by linarith)
    rw [if_neg hpow]
    constructor <;> linarith

end Dashu.Model.Ratio
