import Dashu.Gen.RatFns
import Dashu.Proofs.Ratio.Gen
/-
  Tie A of C04, continued from Gen.lean: the regenerated `Repr`-level function bodies (`Gen/RatFns.lean`) are the hand-written
  model functions.
-/
namespace Dashu.Model.Ratio
open Dashu.Model Dashu.Gen

/-- `gsimp` with the rest of the generated prelude -/
syntax "fsimp" ("[" Lean.Parser.Tactic.simpLemma,* "]")? : tactic
macro_rules
  | `(tactic| fsimp) => `(tactic| fsimp [])
  | `(tactic| fsimp [$ts,*]) => `(tactic| gsimp [G.div_p, G.rem_p, G.div_rem, G.gt, G.ge, G.eq, G.shr, G.shl, G.min,
      G.trailing_zeros, G.unwrap_or_default, G.unwrap, G.sqr, G.cubic, G.pow, G.reduce, G.reduce2, $ts,*])

theorem gen_Repr_reduce (x : Q) : RatFns.Repr_reduce x.num x.den = reduce x := by
  unfold RatFns.Repr_reduce reduce
  by_cases h0 : x.num = 0
  · fsimp [h0]
  · rw [G.gcd_eq]
    simp only [Int.natAbs_natCast]
    cases hg : gcdK x.num.natAbs x.den with
    | error e => fsimp [h0]
    | ok g =>
      have hp : g ≠ 0 := (gcdK_ok_pos hg).ne'
      fsimp [h0, hp]

/-- for a positive denominator (every caller: the hint is a gcd of denominators).  The proof normalises the gcds modulo
    associativity/commutativity, so a source rewrite that only re-associates `hint.gcd(a).gcd(b)` regenerates a body that this
    same script still proves equal to the model. -/
theorem gen_Repr_reduce_with_hint (x : Q) (hint : Nat) (hd : 0 < x.den) :
    RatFns.Repr_reduce_with_hint x.num x.den hint = reduceWithHint x hint := by
  unfold RatFns.Repr_reduce_with_hint reduceWithHint
  by_cases h0 : x.num = 0
  · fsimp [h0]
  · have hn : 0 < x.num.natAbs := Int.natAbs_pos.mpr h0
    have hg : ∀ a, gcdK a x.den = .ok (Nat.gcd a x.den) := fun a => gcdK_of_pos_right a hd
    have hg' : ∀ a, gcdK x.den a = .ok (Nat.gcd x.den a) := fun a => gcdK_of_pos_left a hd
    have hm : ∀ a, gcdK a x.num.natAbs = .ok (Nat.gcd a x.num.natAbs) := fun a => gcdK_of_pos_right a hn
    have hm' : ∀ a, gcdK x.num.natAbs a = .ok (Nat.gcd x.num.natAbs a) := fun a => gcdK_of_pos_left a hn
    simp only [G.gcd_eq, Int.natAbs_natCast, hg, hg', hm, hm', map_ok, ok_bind]
    fsimp [h0, hd.ne', Nat.gcd_comm, Nat.gcd_assoc, Nat.gcd_left_comm]

theorem natCast_shiftRight_toNat (d z : Nat) : ((d : Int) >>> z).toNat = d >>> z := by
  rw [Int.shiftRight_eq_div_pow, Nat.shiftRight_eq_div_pow]
  norm_cast

theorem gen_Repr_reduce2 (x : Q) : RatFns.Repr_reduce2 x.num x.den = reduce2 x := by
  unfold RatFns.Repr_reduce2 reduce2
  by_cases h0 : x.num = 0
  · fsimp [h0]
  · by_cases hd : x.den = 0
    · fsimp [h0, hd]
    · by_cases hle : tz x.num.natAbs ≤ tz x.den
      · have hm : min (tz x.num.natAbs) (tz x.den) = tz x.num.natAbs := Nat.min_eq_left hle
        simp only [hm]
        by_cases hz : 0 < tz x.num.natAbs
        · fsimp [h0, hd, hle, hz, natCast_shiftRight_toNat]
        · fsimp [h0, hd, hle, hz]
      · have hm : min (tz x.num.natAbs) (tz x.den) = tz x.den := Nat.min_eq_right (by omega)
        simp only [hm]
        by_cases hz : 0 < tz x.den
        · fsimp [h0, hd, hle, hz, natCast_shiftRight_toNat]
        · fsimp [h0, hd, hle, hz]

theorem gen_Repr_split_at_point (x : Q) : RatFns.Repr_split_at_point x.num x.den = splitAtPoint x := by
  unfold RatFns.Repr_split_at_point splitAtPoint
  fsimp
  cases divRemK x.num x.den with
  | error e => rfl
  | ok p => obtain ⟨t, r⟩ := p; by_cases hr : r = 0 <;> fsimp [hr]

theorem gen_Repr_ceil (x : Q) : RatFns.Repr_ceil x.num x.den = ceil x := by
  unfold RatFns.Repr_ceil ceil
  fsimp

theorem gen_Repr_floor (x : Q) : RatFns.Repr_floor x.num x.den = floor x := by
  unfold RatFns.Repr_floor floor
  fsimp

theorem gen_Repr_trunc (x : Q) : RatFns.Repr_trunc x.num x.den = trunc x := by
  unfold RatFns.Repr_trunc trunc divRemK
  by_cases hd : x.den = 0 <;> fsimp [hd]

theorem gen_Repr_fract (x : Q) : RatFns.Repr_fract x.num x.den = fract x := by
  unfold RatFns.Repr_fract fract divRemK
  by_cases hd : x.den = 0
  · fsimp [hd]
  · by_cases hr : Int.tmod x.num x.den = 0 <;> fsimp [hd, hr]

theorem gen_Repr_round (x : Q) : RatFns.Repr_round x.num x.den = round x := by
  unfold RatFns.Repr_round round
  fsimp
  cases divRemK x.num x.den with
  | error e => rfl
  | ok p =>
    obtain ⟨t, r⟩ := p
    fsimp
    have e1 : ((x.den : Int) ≤ (r.natAbs : Int) * 2) ↔ (x.den ≤ r.natAbs * 2) := by omega
    have e2 : sgn x.num = 1 ↔ ¬ x.num < 0 := by unfold sgn; split <;> simp_all
    by_cases hc : x.den ≤ r.natAbs * 2
    · by_cases hn : x.num < 0 <;> simp [-Int.natCast_natAbs, -Nat.cast_natAbs, hc, e1, e2, hn]
    · simp [-Int.natCast_natAbs, -Nat.cast_natAbs, hc, e1]

theorem gen_Repr_inv (x : Q) : RatFns.Repr_inv x.num x.den = inv x := by
  unfold RatFns.Repr_inv inv
  by_cases h0 : x.num = 0 <;> fsimp [h0]

theorem gen_Repr_neg (x : Q) : RatFns.Repr_neg x.num x.den = .ok (neg x) := by
  unfold RatFns.Repr_neg neg; fsimp

theorem gen_Repr_abs (x : Q) : RatFns.Repr_abs x.num x.den = .ok (abs x) := by
  unfold RatFns.Repr_abs abs
  fsimp
  unfold sgn
  by_cases h : x.num < 0
  · simp [-Int.natCast_natAbs, -Nat.cast_natAbs, h]; omega
  · simp [-Int.natCast_natAbs, -Nat.cast_natAbs, h]; omega

theorem gen_Repr_mul_sign (x : Q) (s : Bool) :
    RatFns.Repr_mul_sign x.num x.den (if s then -1 else 1) = .ok (mulSign x s) := by
  unfold RatFns.Repr_mul_sign mulSign
  cases s <;> fsimp

theorem gen_Repr_sqr (x : Q) : RatFns.Repr_sqr x.num x.den = .ok (sqr x) := by
  unfold RatFns.Repr_sqr sqr; fsimp

theorem gen_Repr_cubic (x : Q) : RatFns.Repr_cubic x.num x.den = .ok (cubic x) := by
  unfold RatFns.Repr_cubic cubic; fsimp

theorem gen_Repr_pow (x : Q) (n : Nat) : RatFns.Repr_pow x.num x.den n = .ok (pow x n) := by
  unfold RatFns.Repr_pow
  rw [pow_def]
  fsimp [ipowK_eq]
  norm_cast

theorem gen_RBig_from_parts (n : Int) (d : Nat) : RatFns.RBig_from_parts n d = rFromParts n d := by
  unfold RatFns.RBig_from_parts rFromParts
  by_cases hd : d = 0 <;> fsimp [hd]

theorem gen_Relaxed_from_parts (n : Int) (d : Nat) : RatFns.Relaxed_from_parts n d = xFromParts n d := by
  unfold RatFns.Relaxed_from_parts xFromParts
  by_cases hd : d = 0 <;> fsimp [hd]

theorem gen_RBig_from_parts_signed (n d : Int) : RatFns.RBig_from_parts_signed n d = rFromPartsSigned n d := by
  unfold RatFns.RBig_from_parts_signed rFromPartsSigned; fsimp

theorem gen_Relaxed_from_parts_signed (n d : Int) :
    RatFns.Relaxed_from_parts_signed n d = xFromPartsSigned n d := by
  unfold RatFns.Relaxed_from_parts_signed xFromPartsSigned; fsimp

/-! ### `from_parts_const` -/

/-- the regenerated `while r > 1 { (y, r) = (r, y % r) }` IS the model's `constGcdLoop` -/
theorem while_dec_constGcdLoop : ∀ (r y : Nat),
    G.while_dec (fun (s : Int × Int) => s.2.toNat) (fun s => G.gt s.2 (1 : Int))
      (fun s => (s.2, G.rem_u s.1 s.2)) ((y : Int), (r : Int))
      = (((constGcdLoop y r).1 : Int), ((constGcdLoop y r).2 : Int)) := by
  intro r
  induction r using Nat.strong_induction_on with
  | _ r ih =>
    intro y
    unfold G.while_dec constGcdLoop
    by_cases h : r > 1
    · have hc : G.gt (r : Int) 1 = true := by simp [G.gt]; omega
      have hlt : y % r < r := Nat.mod_lt _ (by omega)
      have hm : ((G.rem_u (y : Int) (r : Int)).toNat) < (r : Int).toNat := by
        simp only [G.rem_u, ← Int.natCast_emod, Int.toNat_natCast]; exact hlt
      simp only [hc, if_true, hm, dite_true, h]
      have := ih (y % r) hlt r
      simp only [G.rem_u, ← Int.natCast_emod] at this ⊢
      exact this
    · have hc : G.gt (r : Int) 1 = false := by simp [G.gt]; omega
      simp [hc, h]

theorem gen_RBig_from_parts_const (neg : Bool) (n d : Nat) :
    RatFns.RBig_from_parts_const (if neg then -1 else 1) n d = rFromPartsConst neg n d := by
  unfold RatFns.RBig_from_parts_const rFromPartsConst
  by_cases hd : d = 0
  · fsimp [hd]
  · by_cases hn : n = 0
    · fsimp [hd, hn]
    · have hloop := while_dec_constGcdLoop (n % d) d
      by_cases hb : n > 1 ∧ d > 1
      · have hb' : G.and (G.gt (n : Int) 1) (G.gt (d : Int) 1) = true := by
          simp [G.and, G.gt]; omega
        simp only [G.eq, Int.natCast_eq_zero, hd, hn, decide_false, Bool.false_eq_true, if_false, hb', if_true, hb,
          G.rem_u, ← Int.natCast_emod]
        simp only [G.rem_u, ← Int.natCast_emod] at hloop
        rw [show (fun (x : Int × Int) => match x with | (y, r) => r.toNat) = (fun s : Int × Int => s.2.toNat) from rfl,
          show (fun (x : Int × Int) => match x with | (y, r) => G.gt r 1) = (fun s : Int × Int => G.gt s.2 1) from rfl] at *
        simp only [hloop]
        generalize constGcdLoop d (n % d) = p
        obtain ⟨y, r⟩ := p
        by_cases hr : r = 0
        · cases neg <;> fsimp [hr, G.div_u]
        · cases neg <;> fsimp [hr, G.div_u]
      · have hb2 : ¬ (1 < n ∧ 1 < d) := hb
        cases neg <;> fsimp [hd, hn, hb2, G.and]

theorem gen_Relaxed_from_parts_const (neg : Bool) (n d : Nat) :
    RatFns.Relaxed_from_parts_const (if neg then -1 else 1) n d = xFromPartsConst neg n d := by
  unfold RatFns.Relaxed_from_parts_const xFromPartsConst
  by_cases hd : d = 0
  · fsimp [hd]
  · by_cases hn : n = 0
    · fsimp [hd, hn]
    · by_cases hle : tz n ≤ tz d
      · cases neg <;> fsimp [hd, hn, hle, G.le, G.tz_prim, natCast_shiftRight_toNat] <;> norm_cast
      · cases neg <;> fsimp [hd, hn, hle, G.le, G.tz_prim, natCast_shiftRight_toNat] <;> norm_cast

end Dashu.Model.Ratio
