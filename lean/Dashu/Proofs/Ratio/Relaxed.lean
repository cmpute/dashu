import Dashu.Proofs.Ratio.Mul
import Dashu.Proofs.Gen.Tz
import Mathlib.Algebra.Group.Int.Even
import Mathlib.Algebra.Group.Nat.Even
/-
  `Relaxed`: `reduce2` strips exactly the common power of two; every `Relaxed` operation returns
  the exact value and keeps the invariant "positive denominator, not both even".  The operators whose body both types
  share are proved once over `Kind.Inv` (`Kind.Inv.shift`: why the additive ones and `fract` need no reduction); the
  `RBig` quotients are `R.mul` by the stored inverse (`R.div_spec`).
-/
namespace Dashu.Model.Ratio
open Dashu.Model

/-- `tz` is the count that `IsTz` specifies -/
theorem tz_isTz (n : ℕ) (hn : n ≠ 0) : IsTz n (tz n) :=
  IsTz.of_halving (fun n h => by rw [tz]; simp [h, show n ≠ 0 by omega])
    (fun n h0 h => by rw [tz]; simp [h0, h]) n hn

/-- `tz n` is the exponent of the largest power of two dividing `n ≠ 0` -/
theorem tz_spec : ∀ n : ℕ, n ≠ 0 → 2 ^ tz n ∣ n ∧ ¬ 2 ^ (tz n + 1) ∣ n := fun n hn =>
  ⟨(tz_isTz n hn).dvd, (tz_isTz n hn).not_dvd_succ⟩

theorem tz_odd_quot (n : ℕ) (hn : n ≠ 0) : (n / 2 ^ tz n) % 2 = 1 := (tz_isTz n hn).2

theorem RelaxedInv.den_pos {q : Q} (h : RelaxedInv q) : 0 < q.den := h.1

theorem relaxedInv_zero : RelaxedInv Q.zero := by decide

/-- a reduced pair is in particular a valid `Relaxed` pair (`RBig::relax`) -/
theorem Reduced.relaxedInv {q : Q} (h : Reduced q) : RelaxedInv q := by
  refine ⟨h.1, ?_⟩
  rintro ⟨h1, h2⟩
  have hn : 2 ∣ q.num.natAbs := by omega
  have hd : 2 ∣ q.den := by omega
  have := Nat.dvd_gcd hn hd
  rw [h.2] at this
  omega

/-- `Repr::reduce2` strips exactly the common power of two: the result times `2^k` is the input,
    and the result is not even/even any more; the value is unchanged. -/
theorem reduce2_spec (q : Q) (hd : 0 < q.den) :
    ∃ r, reduce2 q = .ok r ∧ RelaxedInv r ∧ r.val = q.val ∧
      (q.num ≠ 0 → ∃ k, q.num = r.num * 2 ^ k ∧ q.den = r.den * 2 ^ k) := by
  unfold reduce2
  by_cases h0 : q.num = 0
  · refine ⟨Q.zero, by simp [h0], relaxedInv_zero, ?_, fun h => absurd h0 h⟩
    simp [Q.val_def, Q.zero, h0]
  · rw [if_neg h0, if_neg (by omega)]
    have hn0 : q.num.natAbs ≠ 0 := by simpa using h0
    have hd0 : q.den ≠ 0 := by omega
    obtain ⟨hn1, hn2⟩ := tz_spec _ hn0
    obtain ⟨hd1, hd2⟩ := tz_spec _ hd0
    set z := min (tz q.num.natAbs) (tz q.den) with hz
    have hzn : 2 ^ z ∣ q.num.natAbs := (pow_dvd_pow 2 (min_le_left _ _)).trans hn1
    have hzd : 2 ^ z ∣ q.den := (pow_dvd_pow 2 (min_le_right _ _)).trans hd1
    have hznZ : ((2 ^ z : ℕ) : ℤ) ∣ q.num := natCast_dvd_of_dvd_natAbs hzn
    have hp : 0 < 2 ^ z := Nat.two_pow_pos z
    -- the shifted pair
    have hnum : q.num >>> z = Int.tdiv q.num ((2 ^ z : ℕ) : ℤ) := by
      rw [Int.shiftRight_eq_div_pow, Int.tdiv_eq_ediv_of_dvd hznZ]
    have hden : q.den >>> z = q.den / 2 ^ z := Nat.shiftRight_eq_div_pow _ _
    have hv : (⟨q.num >>> z, q.den >>> z⟩ : Q).val = q.val := by
      rw [hnum, hden]; exact val_div_common _ _ _ hp hznZ hzd
    have hk : q.num = (q.num >>> z) * 2 ^ z ∧ q.den = (q.den >>> z) * 2 ^ z := by
      rw [hnum, hden]
      constructor
      · rw [Int.tdiv_eq_ediv_of_dvd hznZ]
        have := Int.ediv_mul_cancel hznZ
        push_cast at this ⊢
        exact this.symm
      · exact (Nat.div_mul_cancel hzd).symm
    have hinv : RelaxedInv ⟨q.num >>> z, q.den >>> z⟩ := by
      refine ⟨?_, ?_⟩
      · show 0 < q.den >>> z
        rw [hden]; exact Nat.div_pos (Nat.le_of_dvd hd hzd) hp
      · rintro ⟨e1, e2⟩
        simp only at e1 e2
        rcases le_total (tz q.num.natAbs) (tz q.den) with hle | hle
        · have hzeq : z = tz q.num.natAbs := by rw [hz]; exact min_eq_left hle
          have hodd := tz_odd_quot _ hn0
          rw [← hzeq] at hodd
          have : (q.num >>> z).natAbs = q.num.natAbs / 2 ^ z := by
            rw [hnum, natAbs_tdiv_nat]
          have h2 : (q.num >>> z).natAbs % 2 = 0 := by omega
          rw [this] at h2
          omega
        · have hzeq : z = tz q.den := by rw [hz]; exact min_eq_right hle
          have hodd := tz_odd_quot _ hd0
          rw [← hzeq] at hodd
          rw [hden] at e2
          omega
    by_cases hzpos : z > 0
    · rw [if_pos hzpos]
      exact ⟨_, rfl, hinv, hv, fun _ => ⟨z, hk⟩⟩
    · rw [if_neg hzpos]
      have hz0 : z = 0 := by omega
      refine ⟨q, rfl, ?_, rfl, fun _ => ⟨0, by simp⟩⟩
      have : (⟨q.num >>> z, q.den >>> z⟩ : Q) = q := by
        rw [hz0]; cases q; simp
      rw [this] at hinv
      exact hinv

/-- `Relaxed::from_parts` -/
theorem xFromParts_spec (n : ℤ) (d : ℕ) (hd : 0 < d) :
    ∃ r, xFromParts n d = .ok r ∧ RelaxedInv r ∧ r.val = (n : ℚ) / (d : ℚ) := by
  unfold xFromParts
  rw [if_neg (by omega)]
  obtain ⟨r, h1, h2, h3, _⟩ := reduce2_spec ⟨n, d⟩ hd
  exact ⟨r, h1, h2, h3⟩

/-! ### operations of `Relaxed` alone -/

theorem relaxedInv_int (i : ℤ) : RelaxedInv ⟨i, 1⟩ := ⟨Nat.one_pos, fun h => absurd h.2 Nat.one_ne_zero⟩

/-- the `Relaxed` operations with an integer are those with the integer stored as `i/1` -/
theorem X.mulInt_eq_mul (x : Q) (i : ℤ) : X.mulInt x i = X.mul x ⟨i, 1⟩ := by
  simp [X.mulInt, X.mul]

theorem X.divInt_eq_div (x : Q) (i : ℤ) : X.divInt x i = X.div x ⟨i, 1⟩ := by
  simp [X.divInt, X.div]

theorem X.intDiv_eq_div (i : ℤ) (x : Q) : X.intDiv i x = X.div ⟨i, 1⟩ x := by
  simp [X.intDiv, X.div, mul_comm]

theorem emod_two_add_mul (a b i : ℤ) (hb : b % 2 = 0) : (a + b * i) % 2 = a % 2 := by
  have : (2 : ℤ) ∣ b * i := Dvd.dvd.mul_right (Int.dvd_of_emod_eq_zero hb) i
  rw [Int.add_emod, Int.emod_eq_zero_of_dvd this]; simp

/-- the invariant only looks at the denominator and the parity of the numerator -/
theorem RelaxedInv.of_parity {x y : Q} (hx : RelaxedInv x) (hd : y.den = x.den)
    (hn : x.den % 2 = 0 → y.num % 2 = 0 → x.num % 2 = 0) : RelaxedInv y :=
  ⟨hd ▸ hx.1, fun ⟨e1, e2⟩ => hx.2 ⟨hn (hd ▸ e2) e1, hd ▸ e2⟩⟩

/-! ### operators with one body for both types -/

def Kind.Inv : Kind → Q → Prop
  | .R => Reduced
  | .X => RelaxedInv

theorem Kind.Inv.den_pos {k : Kind} {q : Q} (h : k.Inv q) : 0 < q.den := by
  cases k
  · exact Reduced.den_pos h
  · exact RelaxedInv.den_pos h

theorem Kind.Inv.zero (k : Kind) : k.Inv Q.zero := by
  cases k
  · exact reduced_zero
  · exact relaxedInv_zero

/-- Both invariants see the numerator only up to sign and modulo the denominator: `RBig` because
    `gcd(±a + b·t, b) = gcd(a, b)`, `Relaxed` because for an even `b` the parity of `±a + b·t` is
    that of `a`.  This is why `neg`, `abs`, `Mul<Sign>`, `± int`, `int −` and `fract` need no
    `reduce` / `reduce2` ("no need to reduce here", round.rs). -/
theorem Kind.Inv.shift {k : Kind} {a : ℤ} {b : ℕ} (h : k.Inv ⟨a, b⟩) {s : ℤ} (hs : s = 1 ∨ s = -1)
    (t : ℤ) : k.Inv ⟨s * a + b * t, b⟩ := by
  cases k
  · have h : Reduced ⟨a, b⟩ := h
    show Reduced _
    rw [reduced_iff_isCoprime] at h ⊢
    have hu : IsUnit s := by rcases hs with rfl | rfl <;> simp
    exact ⟨h.1, ((isCoprime_mul_unit_left_left hu _ _).mpr h.2).add_mul_left_left t⟩
  · have h : RelaxedInv ⟨a, b⟩ := h
    refine h.of_parity rfl fun e2 e1 => ?_
    have e2' : (b : ℤ) % 2 = 0 := by change b % 2 = 0 at e2; omega
    change (s * a + b * t) % 2 = 0 at e1
    rw [emod_two_add_mul _ _ _ e2'] at e1
    change a % 2 = 0
    rcases hs with rfl | rfl <;> omega

theorem neg_spec (k : Kind) (x : Q) (hx : k.Inv x) : k.Inv (neg x) ∧ (neg x).val = -x.val := by
  refine ⟨?_, by simp [neg, Q.val_def, neg_div]⟩
  simpa [neg] using hx.shift (.inr rfl) 0

theorem mulSign_spec (k : Kind) (x : Q) (s : Bool) (hx : k.Inv x) :
    k.Inv (mulSign x s) ∧ (mulSign x s).val = if s then -x.val else x.val := by
  cases s
  · exact ⟨hx, by simp [mulSign, Q.val_def]⟩
  · exact neg_spec k x hx

theorem abs_spec (k : Kind) (x : Q) (hx : k.Inv x) : k.Inv (abs x) ∧ (abs x).val = |x.val| := by
  constructor
  · rcases Int.natAbs_eq x.num with h | h
    · simpa [abs, ← h] using hx
    · have := hx.shift (.inr rfl) 0
      rw [h] at this
      simpa [abs] using this
  · have hb : (0 : ℚ) < x.den := by exact_mod_cast hx.den_pos
    have e : ((x.num.natAbs : ℤ) : ℚ) = |(x.num : ℚ)| := by rw [Int.natCast_natAbs, Int.cast_abs]
    simp only [abs, Q.val_def, abs_div, abs_of_pos hb, e]

/-- `impl_addsub_int_with_rbig` / `impl_addsub_int_with_relaxed` (`R.addSubInt` and `X.addSubInt` are
    one body) -/
theorem addSubInt_spec (k : Kind) (sub : Bool) (x : Q) (i : ℤ) (hx : k.Inv x) :
    k.Inv (R.addSubInt sub x i) ∧
      (R.addSubInt sub x i).val = if sub then x.val - i else x.val + i := by
  have hb0 : (x.den : ℚ) ≠ 0 := by exact_mod_cast hx.den_pos.ne'
  constructor
  · cases sub
    · simpa [R.addSubInt] using hx.shift (.inl rfl) i
    · simpa [R.addSubInt, sub_eq_add_neg] using hx.shift (.inl rfl) (-i)
  · cases sub <;> simp [R.addSubInt, Q.val_def] <;> field_simp

/-- `impl_int_sub_rbig` / `impl_int_sub_relaxed` (`R.intSub` and `X.intSub` are one body) -/
theorem intSub_spec (k : Kind) (i : ℤ) (x : Q) (hx : k.Inv x) :
    k.Inv (R.intSub i x) ∧ (R.intSub i x).val = i - x.val := by
  have hb0 : (x.den : ℚ) ≠ 0 := by exact_mod_cast hx.den_pos.ne'
  constructor
  · simpa [R.intSub, sub_eq_add_neg, add_comm] using hx.shift (.inr rfl) i
  · simp [R.intSub, Q.val_def]; field_simp

/-- `Repr::pow` (and `sqr`, `cubic`): powers of coprime numbers are coprime, and a power is even only
    if its base is -/
theorem pow_spec (k : Kind) (x : Q) (n : ℕ) (hx : k.Inv x) :
    k.Inv (pow x n) ∧ (pow x n).val = x.val ^ n := by
  obtain ⟨a, b⟩ := x
  rw [pow_def]
  refine ⟨?_, by simp [div_pow]⟩
  cases k
  · have hx : Reduced ⟨a, b⟩ := hx
    refine ⟨Nat.pow_pos hx.den_pos, ?_⟩
    show Nat.Coprime _ _
    simp only [Int.natAbs_pow]
    exact Nat.Coprime.pow n n hx.2
  · have hx : RelaxedInv ⟨a, b⟩ := hx
    refine ⟨Nat.pow_pos hx.den_pos, ?_⟩
    rintro ⟨e1, e2⟩
    apply hx.2
    simp only at e1 e2
    have h1 : Even (a ^ n) := Int.even_iff.mpr e1
    have h2 : Even (b ^ n) := Nat.even_iff.mpr e2
    rw [Int.even_pow] at h1
    rw [Nat.even_pow] at h2
    exact ⟨Int.even_iff.mp h1.1, Nat.even_iff.mp h2.1⟩

/-- `Inverse for Repr` (with the required zero test): the pair is swapped, the sign moves to the
    numerator -/
theorem inv_spec (k : Kind) (x : Q) (hx : k.Inv x) :
    (x.num = 0 → inv x = .error .divideByZero) ∧
    (x.num ≠ 0 → ∃ r, inv x = .ok r ∧ k.Inv r ∧ r.val = 1 / x.val) := by
  obtain ⟨a, b⟩ := x
  have hb : 0 < b := hx.den_pos
  constructor
  · intro h; simp only at h; simp [inv, h]
  · intro ha
    simp only at ha
    have hapos : 0 < a.natAbs := Int.natAbs_pos.mpr ha
    unfold inv
    simp only [if_neg ha]
    refine ⟨_, rfl, ?_, ?_⟩
    · cases k
      · have hx : Reduced ⟨a, b⟩ := hx
        refine ⟨hapos, ?_⟩
        show Nat.Coprime _ _
        simp only [Int.natAbs_mul, natAbs_sgn, Int.natAbs_natCast, one_mul]
        exact (show Nat.Coprime a.natAbs b from hx.2).symm
      · have hx : RelaxedInv ⟨a, b⟩ := hx
        refine ⟨hapos, ?_⟩
        rintro ⟨e1, e2⟩
        apply hx.2
        change (sgn a * (b : ℤ)) % 2 = 0 at e1
        change a.natAbs % 2 = 0 at e2
        change a % 2 = 0 ∧ b % 2 = 0
        constructor
        · omega
        · unfold sgn at e1
          split at e1 <;> omega
    · simp only [Q.val_mk]
      push_cast
      rw [natAbs_cast_eq]
      have h3 : (b : ℚ) ≠ 0 := by exact_mod_cast hb.ne'
      have h5 : (a : ℚ) ≠ 0 := by exact_mod_cast ha
      have h6 := sgn_cast_ne_zero a
      field_simp

/-- `signum`: `±1/1` or `0/1`, valid for both types -/
theorem signum_spec (k : Kind) (x : Q) (hd : 0 < x.den) :
    k.Inv (signum x) ∧ (signum x).val = Spec.sgnRat x.val := by
  constructor
  · cases k
    · exact ⟨by simp [signum], by simp [signum]⟩
    · exact ⟨by simp [signum], by simp [signum]⟩
  · simp only [Spec.sgnRat, val_neg_iff x hd, val_eq_zero_iff hd]
    simp only [signum, Q.val_def, Nat.cast_one, div_one]
    rcases lt_trichotomy x.num 0 with hn | hn | hn
    · simp [hn, Int.sign_eq_neg_one_of_neg hn]
    · simp [hn]
    · simp [hn.not_gt, hn.ne', Int.sign_eq_one_of_pos hn]

/-- `impl_div_with_rbig`: zero divisor ⇒ `DivideByZero`, otherwise the product with the inverse -/
theorem R.div_spec (x y : Q) (hx : Reduced x) (hy : Reduced y) :
    (y.num = 0 → R.div x y = .error .divideByZero) ∧
    (y.num ≠ 0 → ∃ r, R.div x y = .ok r ∧ Reduced r ∧ r.val = x.val / y.val) := by
  rw [R.div_eq_inv_mul]
  refine ⟨fun h => by rw [(inv_spec .R y hy).1 h]; rfl, fun h => ?_⟩
  obtain ⟨i, e, hi, hv⟩ := (inv_spec .R y hy).2 h
  rw [e, div_eq_mul_one_div, ← hv]
  exact R.mul_spec x i hx hi

/-- `impl_rbig_div_ubig` / `impl_rbig_div_ibig` -/
theorem R.divInt_spec (x : Q) (i : ℤ) (hx : Reduced x) :
    (i = 0 → R.divInt x i = .error .divideByZero) ∧
    (i ≠ 0 → ∃ r, R.divInt x i = .ok r ∧ Reduced r ∧ r.val = x.val / i) := by
  rw [R.divInt_eq_div x i hx.den_pos, ← val_int i]
  exact R.div_spec x ⟨i, 1⟩ hx (reduced_int i)

/-- `impl_ubig_or_ibig_div_rbig`: `int / RBig` -/
theorem R.intDiv_spec (i : ℤ) (x : Q) (hx : Reduced x) :
    (x.num = 0 → R.intDiv i x = .error .divideByZero) ∧
    (x.num ≠ 0 → ∃ r, R.intDiv i x = .ok r ∧ Reduced r ∧ r.val = i / x.val) := by
  rw [R.intDiv_eq_div i x, ← val_int i]
  exact R.div_spec ⟨i, 1⟩ x (reduced_int i) hx

end Dashu.Model.Ratio
