import Dashu.Model.Ratio.PowGuard
import Dashu.Proofs.Ratio.Basic
import Dashu.Proofs.Int.Pow
import Dashu.Proofs.Int.Repr
/-
  C04: the allocation panic of `UBig::pow` / `IBig::pow` (value-level guard `upowPanics`, 64-bit words) is raised
  only when the exact power has at least `2^62` bits (512 PiB) — every branch of the guard: the up-front result
  buffer of `pow_word_base` / `pow_dword_base`, `exp.checked_mul(shift)`, the `Buffer::allocate` of the final shift.
-/
namespace Dashu.Model.Ratio
open Dashu.Model

theorem natWords_len_bound (W : Nat) (hW : 1 ≤ W) (n : Nat) (hn : n ≠ 0) :
    2 ^ (W * ((natWords W n).length - 1)) ≤ n := by
  induction n using Nat.strongRecOn with
  | _ n ih =>
    have hW0 : ¬ W = 0 := by omega
    have hunf : natWords W n = n % 2 ^ W :: natWords W (n / 2 ^ W) := by
      rw [natWords]; simp [hn, hW0]
    rw [hunf]
    by_cases hq : n / 2 ^ W = 0
    · rw [hq, natWords_zero]; simp; omega
    · have hlt : n / 2 ^ W < n :=
        Nat.div_lt_self (Nat.pos_of_ne_zero hn) (Nat.one_lt_two_pow hW0)
      have := ih _ hlt hq
      have hne : natWords W (n / 2 ^ W) ≠ [] := by
        rw [natWords]; simp [hq, hW0]
      have hl : 1 ≤ (natWords W (n / 2 ^ W)).length := by
        cases h : natWords W (n / 2 ^ W) with
        | nil => exact absurd h hne
        | cons a t => simp
      simp only [List.length_cons, Nat.add_sub_cancel]
      have e : W * (natWords W (n / 2 ^ W)).length = W * ((natWords W (n / 2 ^ W)).length - 1) + W := by
        have : (natWords W (n / 2 ^ W)).length = ((natWords W (n / 2 ^ W)).length - 1) + 1 := by omega
        rw [this, Nat.mul_add, Nat.mul_one]; simp
      rw [e, Nat.pow_add]
      calc 2 ^ (W * ((natWords W (n / 2 ^ W)).length - 1)) * 2 ^ W ≤ n / 2 ^ W * 2 ^ W :=
            Nat.mul_le_mul_right _ this
        _ ≤ n := Nat.div_mul_le_self n (2 ^ W)

theorem two_pow_le_pow (v n k : Nat) (hv : 2 ≤ v) (hk : k ≤ n) : 2 ^ k ≤ v ^ n :=
  calc 2 ^ k ≤ 2 ^ n := Nat.pow_le_pow_right (by omega) hk
    _ ≤ v ^ n := Nat.pow_le_pow_left hv n

/-- `o ^ wexp ≥ 2^32` for a 64-bit word base `o > 2` (the loop of `max_exp_in_word` starts at `64 / bit_len(o)`) -/
theorem wexp_pow_lb (o : Nat) (h2 : 2 < o) (hlt : o < 2 ^ 64) : 2 ^ 32 ≤ o ^ (maxExpInWord 64 o).1 := by
  unfold maxExpInWord
  split
  · rename_i hbig
    simp only [Nat.pow_one]
    omega
  · rename_i hsmall
    have hne : o ≠ 0 := by omega
    have hbl : bitLen o = Nat.log2 o + 1 := by unfold bitLen; rw [if_neg hne]
    have hlo : 2 ^ Nat.log2 o ≤ o := Nat.log2_self_le hne
    have hhi : o < 2 ^ bitLen o := by rw [hbl]; exact Nat.lt_log2_self
    have hl1 : 1 ≤ Nat.log2 o := by
      rcases Nat.eq_zero_or_pos (Nat.log2 o) with h | h
      · rw [hbl, h] at hhi; omega
      · exact h
    have hl32 : Nat.log2 o < 32 := by
      apply (Nat.log2_lt hne).mpr; omega
    generalize hb : bitLen o = b at *
    have hb2 : 2 ≤ b := by omega
    have hb32 : b < 33 := by omega
    have hp0 : o ^ (64 / b) < 2 ^ 64 := by
      have hbpos : 0 < b := by omega
      have he0 : 64 / b ≠ 0 := by
        have : 1 ≤ 64 / b := Nat.div_pos (by omega) hbpos
        omega
      calc o ^ (64 / b) < (2 ^ b) ^ (64 / b) := Nat.pow_lt_pow_left hhi he0
        _ = 2 ^ (b * (64 / b)) := by rw [Nat.pow_mul]
        _ ≤ 2 ^ 64 := Nat.pow_le_pow_right (by omega) (Nat.mul_div_le 64 b)
    obtain ⟨_, i2, _⟩ := maxExpLoop_spec 64 o 64 (64 / b) (o ^ (64 / b)) rfl hp0
    have key : ∀ b < 33, 2 ≤ b → 32 ≤ (b - 1) * (64 / b) := by decide
    have hk := key b hb32 hb2
    have hlog : Nat.log2 o = b - 1 := by omega
    calc 2 ^ 32 ≤ 2 ^ ((b - 1) * (64 / b)) := Nat.pow_le_pow_right (by omega) hk
      _ = (2 ^ (b - 1)) ^ (64 / b) := by rw [Nat.pow_mul]
      _ ≤ o ^ (64 / b) := Nat.pow_le_pow_left (by rw [← hlog]; exact hlo) _
      _ ≤ o ^ (maxExpLoop 64 o 64 (64 / b) (o ^ (64 / b))).1 := Nat.pow_le_pow_right (by omega) i2

set_option exponentiation.threshold 300 in
theorem pow_panic_only_beyond_memory (v n : Nat) (h : upowPanics 64 v n = true) :
    2 ^ (2 ^ 62) ≤ v ^ n := by
  have hspec := trailingZeros_spec v
  have hcap : bufMaxCapacity 64 = 2 ^ 58 - 1 := by decide +kernel
  generalize hs : trailingZeros v = s at *
  generalize ho : v / 2 ^ s = o at *
  have hvo : o ≤ v := by rw [← hspec]; exact Nat.le_mul_of_pos_right _ (Nat.two_pow_pos s)
  unfold upowPanics at h
  rw [hs, ho, Bool.or_eq_true] at h
  rcases h with h | h
  · -- the up-front result buffer of the odd part's power
    unfold ofNat at h
    split at h
    · unfold powBufAllocPanics at h
      simp only [Bool.and_eq_true, Bool.not_eq_true', decide_eq_false_iff_not, hcap] at h
      obtain ⟨_, h⟩ := h
      split at h
      · rename_i hw
        simp only [Bool.and_eq_true, Bool.not_eq_true', decide_eq_false_iff_not, decide_eq_true_eq] at h
        obtain ⟨h1, h2⟩ := h
        have ho2 : 2 < o := by omega
        have hlb := wexp_pow_lb o ho2 hw
        generalize (maxExpInWord 64 o).1 = w at *
        have hq : 2 ^ 58 - 1 ≤ n / w := by omega
        have hn : w * (n / w) ≤ n := Nat.mul_div_le n w
        calc 2 ^ (2 ^ 62) ≤ 2 ^ (32 * (n / w)) := Nat.pow_le_pow_right (by omega) (by omega)
          _ = (2 ^ 32) ^ (n / w) := by rw [Nat.pow_mul]
          _ ≤ (o ^ w) ^ (n / w) := Nat.pow_le_pow_left hlb _
          _ = o ^ (w * (n / w)) := by rw [Nat.pow_mul]
          _ ≤ o ^ n := Nat.pow_le_pow_right (by omega) hn
          _ ≤ v ^ n := Nat.pow_le_pow_left hvo n
      · rename_i hw
        simp only [decide_eq_true_eq] at h
        have ho64 : 2 ^ 64 ≤ o := by omega
        calc 2 ^ (2 ^ 62) ≤ 2 ^ (64 * n) := Nat.pow_le_pow_right (by omega) (by omega)
          _ = (2 ^ 64) ^ n := by rw [Nat.pow_mul]
          _ ≤ o ^ n := Nat.pow_le_pow_left ho64 n
          _ ≤ v ^ n := Nat.pow_le_pow_left hvo n
    · simp [powBufAllocPanics] at h
  · rw [Bool.and_eq_true, Bool.or_eq_true] at h
    obtain ⟨hs0, h⟩ := h
    have hs0' : s ≠ 0 := by simpa using hs0
    have ho0 : o ≠ 0 := by
      intro h0; rw [h0] at hspec; simp at hspec; rw [← hspec] at hs
      have := trailingZeros_zero
      omega
    have hvn : v ^ n = o ^ n * 2 ^ (s * n) := by rw [← hspec, Nat.mul_pow, ← Nat.pow_mul]
    have hon : 1 ≤ o ^ n := Nat.one_le_pow _ _ (by omega)
    have hshift : ∀ k, k ≤ s * n → 2 ^ k ≤ v ^ n := by
      intro k hk
      rw [hvn]
      calc 2 ^ k ≤ 2 ^ (s * n) := Nat.pow_le_pow_right (by omega) hk
        _ = 1 * 2 ^ (s * n) := by rw [Nat.one_mul]
        _ ≤ o ^ n * 2 ^ (s * n) := Nat.mul_le_mul_right _ hon
    rcases h with h | h
    · have h' : 2 ^ usizeBits ≤ n * s := of_decide_eq_true h
      rw [show usizeBits = 64 from rfl] at h'
      exact hshift _ (by rw [Nat.mul_comm]; omega)
    · rw [upowK_eq] at h
      by_cases hlt : o ^ n < 2 ^ (2 * 64)
      · have e : ofNat 64 (o ^ n) = .small (o ^ n) := by unfold ofNat; rw [if_pos hlt]
        rw [e] at h
        simp only [shlAllocateWords] at h
        by_cases c1 : o ^ n = 0
        · omega
        · rw [if_neg c1] at h
          by_cases c2 : n * s ≤ 2 * 64 - bitLenNat (o ^ n)
          · rw [if_pos c2] at h; simp at h
          · rw [if_neg c2] at h
            by_cases c3 : o ^ n = 1
            · rw [if_pos c3] at h
              simp only [hcap, decide_eq_true_eq] at h
              exact hshift _ (by rw [Nat.mul_comm]; omega)
            · rw [if_neg c3] at h
              simp only [hcap, decide_eq_true_eq] at h
              exact hshift _ (by rw [Nat.mul_comm]; omega)
      · have e : ofNat 64 (o ^ n) = .large (natWords 64 (o ^ n)) := by unfold ofNat; rw [if_neg hlt]
        rw [e] at h
        simp only [shlAllocateWords, hcap, decide_eq_true_eq] at h
        have hm0 : o ^ n ≠ 0 := by omega
        have hb := natWords_len_bound 64 (by omega) (o ^ n) hm0
        rw [hvn]
        generalize (natWords 64 (o ^ n)).length = len at *
        calc 2 ^ (2 ^ 62) ≤ 2 ^ (64 * (len - 1) + s * n) := Nat.pow_le_pow_right (by omega) (by rw [Nat.mul_comm s n]; omega)
          _ = 2 ^ (64 * (len - 1)) * 2 ^ (s * n) := Nat.pow_add _ _ _
          _ ≤ o ^ n * 2 ^ (s * n) := Nat.mul_le_mul_right _ hb

end Dashu.Model.Ratio
