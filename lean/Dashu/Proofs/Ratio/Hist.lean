import Dashu.Proofs.Ratio.Extra
import Dashu.Proofs.Ratio.Const
/-
  C04: history-level `Relaxed = RBig` on values, the register type over Relaxed-only histories,
  corners of `pow` / `inv` and the predicates; the history theorems of `Props/C04` rest on these.
-/
namespace Dashu.Model.Ratio
open Dashu.Model

/-- canonicalising any pair with positive denominator that denotes the same number as a reduced pair
    gives exactly that reduced pair (`Relaxed::canonicalize` lands on the stored RBig) -/
theorem reduce_eq_of_val_eq {x r : Q} (hd : 0 < x.den) (hr : Reduced r) (hv : x.val = r.val) :
    reduce x = .ok r := by
  obtain ⟨c, hc1, hc2, hc3⟩ := reduce_spec x hd
  rw [hc1, Reduced.ext hc2 hr (hc3.trans hv)]

theorem Reg.Inv.den_pos {r : Reg} (h : r.Inv) : 0 < r.q.den :=
  Kind.Inv.den_pos ((Reg.inv_iff r).1 h)

/-- `run_vals` for a run that is not malformed, with the way it stopped as the Boolean of `Spec.run` -/
theorem run_vals_bool (ops : List Op) (env : List Reg) (henv : ∀ r ∈ env, r.Inv)
    (nb : (run ops env).2 ≠ .bad) :
    ∃ b, Spec.run ops (env.map Reg.val) = ((run ops env).1.map Reg.val, b) ∧
      (run ops env).2 = if b then .done else .panic .divideByZero := by
  have a := run_vals ops env henv
  cases s : (run ops env).2 with
  | bad => exact absurd s nb
  | done => rw [s] at a; exact ⟨true, a, rfl⟩
  | panic k => rw [s] at a; exact ⟨false, a.2, by rw [a.1]; rfl⟩

/-- **history theorem, Relaxed = RBig**: the same program run on two register files denoting the
    same numbers (e.g. one all-`Relaxed`, one all-`RBig`) — as long as neither run is malformed —
    stops at the same step in the same way and every register ever produced denotes the same
    number in both runs. -/
theorem run_vals_agree (ops : List Op) (e1 e2 : List Reg) (h1 : ∀ r ∈ e1, r.Inv) (h2 : ∀ r ∈ e2, r.Inv)
    (hv : e1.map Reg.val = e2.map Reg.val)
    (nb1 : (run ops e1).2 ≠ .bad) (nb2 : (run ops e2).2 ≠ .bad) :
    (run ops e1).1.map Reg.val = (run ops e2).1.map Reg.val ∧
    (((run ops e1).2 = .done ∧ (run ops e2).2 = .done) ∨
     ((run ops e1).2 = .panic .divideByZero ∧ (run ops e2).2 = .panic .divideByZero)) := by
  obtain ⟨b1, a1, s1⟩ := run_vals_bool ops e1 h1 nb1
  obtain ⟨b2, a2, s2⟩ := run_vals_bool ops e2 h2 nb2
  rw [hv] at a1
  obtain ⟨hl, hb⟩ := Prod.mk.inj (a1.symm.trans a2)
  subst hb
  refine ⟨hl, ?_⟩
  rw [s1, s2]
  cases b1
  · exact .inr ⟨rfl, rfl⟩
  · exact .inl ⟨rfl, rfl⟩

/-- an operation that keeps the register type (`canonicalize` is the only `Relaxed → RBig` step) -/
def Op.noCanon : Op → Prop
  | .un .canon _ => False
  | _ => True

/-- a successful step on one operand found that operand in the register file -/
theorem lookup_ok {env : List Reg} {i : ℕ} {f : Reg → StepRes} {r : Reg}
    (h : (match env[i]? with | some a => f a | none => .bad) = .ok r) : ∃ a ∈ env, f a = .ok r := by
  cases hi : env[i]? with
  | none => rw [hi] at h; cases h
  | some a => rw [hi] at h; exact ⟨a, List.mem_of_getElem? hi, h⟩

theorem liftQ_kind {k : Kind} {m : Except PanicKind Q} {r : Reg} (h : liftQ k m = .ok r) :
    r.kind = k := by
  cases m with
  | ok q => cases h; rfl
  | error e => cases h

theorem liftR_map (k : Kind) (m : Except PanicKind Q) : liftR (m.map (Reg.mk k)) = liftQ k m := by
  cases m <;> rfl

/-- every unary operator but `canonicalize` keeps the type of its operand or gives a `Relaxed` -/
theorem evalUn_kind {o : Un} {a r : Reg} (ho : o ≠ .canon) (h : liftR (evalUn o a) = .ok r) :
    r.kind = a.kind ∨ r.kind = .X := by
  cases o with
  | canon => exact absurd rfl ho
  | inv => exact .inl (liftQ_kind ((liftR_map _ _).symm.trans h))
  | fract => exact .inl (liftQ_kind ((liftR_map _ _).symm.trans h))
  | relax => cases h; exact .inr rfl
  | _ => cases h; exact .inl rfl

theorem step_kind_X (env : List Reg) (op : Op) (hk : ∀ r ∈ env, r.kind = .X) (hop : op.noCanon)
    (r : Reg) (hs : step env op = .ok r) : r.kind = .X := by
  cases op with
  | bin o i j =>
    simp only [step] at hs
    cases hi : env[i]? with
    | none => simp [hi] at hs
    | some a =>
      cases hj : env[j]? with
      | none => simp [hi, hj] at hs
      | some b =>
        simp only [hi, hj] at hs
        split at hs
        · exact (liftQ_kind hs).trans (hk a (List.mem_of_getElem? hi))
        · cases hs
  | un o i =>
    obtain ⟨a, ha, h⟩ := lookup_ok (f := fun a => liftR (evalUn o a)) hs
    rcases evalUn_kind (by rintro rfl; exact hop) h with e | e
    · exact e.trans (hk a ha)
    · exact e
  | pow i n =>
    obtain ⟨a, ha, h⟩ := lookup_ok (f := fun a => .ok ⟨a.kind, pow a.q n⟩) hs
    cases h; exact hk a ha
  | mulSign i s =>
    obtain ⟨a, ha, h⟩ := lookup_ok (f := fun a => .ok ⟨a.kind, mulSign a.q s⟩) hs
    cases h; exact hk a ha
  | intR o i z =>
    obtain ⟨a, ha, h⟩ := lookup_ok (f := fun a => liftQ a.kind (evalIntR o a.kind a.q z)) hs
    exact (liftQ_kind h).trans (hk a ha)
  | intL o z i =>
    obtain ⟨a, ha, h⟩ := lookup_ok (f := fun a => liftQ a.kind (evalIntL o a.kind z a.q)) hs
    exact (liftQ_kind h).trans (hk a ha)

theorem run_kind_X (ops : List Op) (env : List Reg) (hk : ∀ r ∈ env, r.kind = .X)
    (hops : ∀ op ∈ ops, op.noCanon) : ∀ r ∈ (run ops env).1, r.kind = .X :=
  run_forall ops (fun op hop env r hk hs => step_kind_X env op hk (hops op hop) r hs) env hk

/-! ### sign corners of `inv` / `pow` -/

/-- `inv` is an involution on stored pairs with positive denominator (no re-reduction needed) -/
theorem inv_inv (x : Q) (hd : 0 < x.den) (hn : x.num ≠ 0) : (inv x >>= inv) = .ok x := by
  obtain ⟨a, b⟩ := x
  simp only at hd hn
  have hne : sgn a * (b : Int) ≠ 0 := by unfold sgn; split <;> omega
  have h1 : inv ⟨a, b⟩ = .ok ⟨sgn a * b, a.natAbs⟩ := if_neg hn
  rw [h1]
  show inv ⟨sgn a * b, a.natAbs⟩ = _
  unfold inv
  simp only [if_neg hne]
  -- both components by the sign of `a`
  unfold sgn
  split
  · rw [if_pos (by omega)]; congr 2 <;> omega
  · rw [if_neg (by omega)]; congr 2 <;> omega

/-- `pow(0)` is 1/1 for every operand, also `0^0` -/
theorem pow_zero_exp (x : Q) : pow x 0 = Q.one := by simp [pow_def, Q.one]

theorem pow_one_exp (x : Q) : pow x 1 = x := by simp [pow_def]

/-- zero stays 0/1 under every positive power -/
theorem pow_zero_base (n : Nat) (hn : 0 < n) : pow Q.zero n = Q.zero := by
  simp [pow_def, Q.zero, Nat.ne_of_gt hn]

/-- `(-1)^n` and `1^n` for every `n` (the values driven with extreme `usize` exponents) -/
theorem pow_neg_one (n : Nat) : pow Q.negOne n = ⟨if n % 2 = 0 then 1 else -1, 1⟩ := by
  simp only [pow_def, Q.negOne, one_pow]
  congr 1
  rcases Nat.even_or_odd n with h | h
  · rw [h.neg_one_pow, if_pos (Nat.even_iff.mp h)]
  · rw [h.neg_one_pow, if_neg (by have := Nat.odd_iff.mp h; omega)]

theorem pow_one_base (n : Nat) : pow Q.one n = Q.one := by simp [pow_def, Q.one]

/-! ### predicates (rbig.rs, sign.rs) -/

/-- `is_zero` and `sign` of both types read the value off the numerator -/
theorem preds_val (x : Q) (hd : 0 < x.den) :
    (isZero x = true ↔ x.val = 0) ∧ (isNegative x = true ↔ x.val < 0) := by
  rw [val_eq_zero_iff hd, val_neg_iff x hd]
  simp [isZero, isNegative]

/-- `Relaxed::is_one` (`denominator == numerator`) is "the value is 1" for any stored pair -/
theorem relaxed_isOne_val (x : Q) (hd : 0 < x.den) : X.isOne x = true ↔ x.val = 1 := by
  have hb : (x.den : ℚ) ≠ 0 := by exact_mod_cast hd.ne'
  rw [Q.val_def, div_eq_one_iff_eq hb]
  simp only [X.isOne, decide_eq_true_eq]
  constructor
  · intro h; rw [← h]; push_cast; rfl
  · intro h; exact_mod_cast h.symm

/-- `RBig::is_one` / `RBig::is_int` on a reduced pair -/
theorem rbig_isOne_isInt_val (x : Q) (hx : Reduced x) :
    (R.isOne x = true ↔ x.val = 1) ∧ (R.isInt x = true ↔ x.val.den = 1) := by
  have hnd := hx.num_den_eq
  constructor
  · simp only [R.isOne, Bool.and_eq_true, decide_eq_true_eq]
    constructor
    · rintro ⟨h1, h2⟩
      rw [Q.val_def, h1, h2]; norm_num
    · intro h
      have e1 : x.val.num = 1 := by rw [h]; rfl
      have e2 : x.val.den = 1 := by rw [h]; rfl
      exact ⟨hnd.1 ▸ e1, hnd.2 ▸ e2⟩
  · simp only [R.isInt, decide_eq_true_eq]
    rw [hnd.2]

end Dashu.Model.Ratio
