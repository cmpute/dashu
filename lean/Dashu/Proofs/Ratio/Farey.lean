import Dashu.Proofs.Ratio.Simplify
/-
  `RBig::farey_neighbors` (rational/src/simplify.rs): the mediant walk keeps two fractions
  `a/b ≤ x < c/d` with `b·c − a·d = 1` and stops when `b + d > limit`; such a pair is a pair of
  consecutive elements of the Farey sequence of order `limit` (`FInv.consecutive`).  `next_up` / `next_down` take the
  neighbours of the fractional part and add the integer part back (`FInv.up_spec` / `.down_spec`); when the
  denominator already fits they first step `1/limit²` aside, which is too little to jump over an element of the
  sequence (`no_frac_in_small_step`).
-/
namespace Dashu.Model.Ratio
open Dashu.Model

/-- invariant of the mediant walk -/
structure FInv (x : Q) (limit : Nat) (l r : Q) : Prop where
  lden : 0 < l.den
  rden : 0 < r.den
  lle : l.den ≤ limit
  rle : r.den ≤ limit
  det : r.num * l.den - l.num * r.den = 1
  lo : l.val ≤ x.val
  hi : x.val < r.val

theorem mediant_reduced {l r : Q} (hl : 0 < l.den) (hdet : r.num * l.den - l.num * r.den = 1) :
    Reduced ⟨l.num + r.num, l.den + r.den⟩ := by
  rw [reduced_iff_isCoprime]
  refine ⟨by simp only; omega, ?_⟩
  -- r.num·(b+d) − d·(a+c) = 1
  refine ⟨-(r.den : ℤ), r.num, ?_⟩
  push_cast
  linear_combination hdet

/-- between neighbours with determinant 1 every fraction has a denominator ≥ the sum -/
theorem between_den_ge {a c p : ℤ} {b d q : ℕ} (hb : 0 < b) (hd : 0 < d) (hq : 0 < q)
    (hdet : c * b - a * d = 1) (h1 : (a : ℚ) / b < (p : ℚ) / q) (h2 : (p : ℚ) / q < (c : ℚ) / d) :
    b + d ≤ q := by
  have e1 : a * q < p * b := (cast_lt_iff a b p q hb hq).1 h1
  have e2 : p * d < c * q := (cast_lt_iff p q c d hq hd).1 h2
  -- q = q(cb − ad) = b(cq − dp) + d(bp − aq), both brackets at least 1
  have hx := Int.mul_le_mul_of_nonneg_left (show 1 ≤ c * q - p * d by omega) (Int.natCast_nonneg b)
  have hy := Int.mul_le_mul_of_nonneg_left (show 1 ≤ p * b - a * q by omega) (Int.natCast_nonneg d)
  have key : (q : ℤ) = b * (c * q - p * d) + d * (p * b - a * q) := by
    linear_combination (-(q : ℤ)) * hdet
  have : (b : ℤ) + d ≤ q := by linarith
  exact_mod_cast this

/-- **`farey_neighbors`**: the walk terminates and returns neighbours `left ≤ x < right` with
    determinant 1, denominators `≤ limit`, and `left.den + right.den > limit` -/
theorem fareyLoop_spec (x : Q) (limit : Nat) (hx : 0 < x.den) :
    ∀ (fuel : Nat) (l r : Q), FInv x limit l r → 1 ≤ fuel → limit + 2 ≤ fuel + (l.den + r.den) →
      ∃ l' r', fareyLoop x limit fuel l r = .ok (some (l', r')) ∧ FInv x limit l' r' ∧
        limit < l'.den + r'.den := by
  intro fuel
  induction fuel with
  | zero => intro l r h h1 hf; omega
  | succ fuel ih =>
    intro l r h _ hf
    have hmed := mediant_reduced h.lden h.det
    have hred := reduce_of_reduced _ hmed
    simp only [fareyLoop]
    by_cases hbig : l.den + r.den > limit
    · -- stop
      simp only [hbig, if_true, hred, bind_ok', and_self]
      exact ⟨l, r, rfl, h, hbig⟩
    · have hsm : ¬ ((⟨l.num + r.num, l.den + r.den⟩ : Q).den > limit) := hbig
      simp only [hsm, if_false, bind_ok', false_and, pure_bind]
      have hmden : 0 < l.den + r.den := by have := h.lden; omega
      by_cases hgt : cmpQ ⟨l.num + r.num, l.den + r.den⟩ x = .gt
      · rw [if_pos hgt]
        have hv := (cmpQ_gt_iff _ x hmden hx).1 hgt
        apply ih
        · exact {
            lden := h.lden, rden := hmden, lle := h.lle, rle := by simp only; omega,
            det := by
              have := h.det
              simp only
              push_cast
              linarith,
            lo := h.lo, hi := hv }
        · omega
        · simp only; have := h.lden; omega
      · rw [if_neg hgt]
        have hv : (⟨l.num + r.num, l.den + r.den⟩ : Q).val ≤ x.val := by
          by_contra hc
          exact hgt ((cmpQ_gt_iff _ x hmden hx).2 (not_le.mp hc))
        apply ih
        · exact {
            lden := hmden, rden := h.rden, lle := by simp only; omega, rle := h.rle,
            det := by
              have := h.det
              simp only
              push_cast
              linarith,
            lo := hv, hi := h.hi }
        · omega
        · simp only; have := h.rden; omega

theorem FInv.reduced_left {x : Q} {limit : Nat} {l r : Q} (h : FInv x limit l r) : Reduced l := by
  rw [reduced_iff_isCoprime]
  exact ⟨h.lden, ⟨-(r.den : ℤ), r.num, by linear_combination h.det⟩⟩

theorem FInv.reduced_right {x : Q} {limit : Nat} {l r : Q} (h : FInv x limit l r) : Reduced r := by
  rw [reduced_iff_isCoprime]
  exact ⟨h.rden, ⟨(l.den : ℤ), -l.num, by linear_combination h.det⟩⟩

/-- neighbours are consecutive in the Farey sequence of order `limit`: nothing with a
    denominator `≤ limit` lies strictly between them -/
theorem FInv.consecutive {x : Q} {limit : Nat} {l r : Q} (h : FInv x limit l r)
    (hsum : limit < l.den + r.den) (p : ℤ) (q : ℕ) (hq : 0 < q)
    (h1 : l.val < (p : ℚ) / q) (h2 : (p : ℚ) / q < r.val) : limit < q := by
  have := between_den_ge h.lden h.rden hq h.det h1 h2
  omega

/-- **`RBig::farey_neighbors(x, limit)`** for `−1 ≤ x < 1`, `limit ≥ 1` -/
theorem fareyNeighbors_spec (x : Q) (limit : Nat) (hx : 0 < x.den) (hl : 1 ≤ limit)
    (h1 : -1 ≤ x.val) (h2 : x.val < 1) :
    ∃ l r, fareyNeighbors x limit = .ok (some (l, r)) ∧ FInv x limit l r ∧
      limit < l.den + r.den := by
  unfold fareyNeighbors
  by_cases hneg : x.num < 0
  · simp only [hneg, if_true]
    apply fareyLoop_spec x limit hx
    · exact {
        lden := by decide, rden := by decide, lle := hl, rle := hl, det := by decide,
        lo := by simpa [Q.negOne, Q.val_def] using h1,
        hi := by simpa [Q.zero, Q.val_def] using (val_neg_iff x hx).2 hneg }
    · omega
    · simp [Q.negOne, Q.zero]; omega
  · simp only [hneg, if_false]
    apply fareyLoop_spec x limit hx
    · exact {
        lden := by decide, rden := by decide, lle := hl, rle := hl, det := by decide,
        lo := by simpa [Q.zero, Q.val_def] using (val_nonneg_iff x hx).2 (by omega),
        hi := by simpa [Q.one, Q.val_def] using h2 }
    · omega
    · simp [Q.one, Q.zero]; omega

/-- the fractional part of a reduced number: same denominator, value in `(−1, 1)` -/
theorem split_facts (x : Q) (hx : Reduced x) :
    ∃ f, splitAtPoint x = .ok (Int.tdiv x.num x.den, f) ∧ Reduced f ∧ f.den = x.den ∧
      f.val = x.val - (Int.tdiv x.num x.den : ℚ) ∧ -1 < f.val ∧ f.val < 1 := by
  obtain ⟨a, b⟩ := x
  have hb : 0 < b := hx.den_pos
  obtain ⟨hdc, _, _, h3, h4⟩ := tdecomp a b hb
  have hbq : (0 : ℚ) < b := by exact_mod_cast hb
  obtain ⟨f, hf1, hf2, hf3⟩ := fract_spec .R ⟨a, b⟩ hx
  simp only [fract, divRemK_pos _ hb, bind_ok'] at hf1
  have hfeq : f = if Int.tmod a b = 0 then Q.zero else ⟨Int.tmod a b, b⟩ := by
    have := hf1; simp only [pure, Except.pure, Except.ok.injEq] at this; exact this.symm
  have hfv : f.val = (Int.tmod a b : ℚ) / b := by
    rw [hfeq]; split
    · rename_i h0; simp [Q.zero, Q.val_def, h0]
    · rfl
  refine ⟨f, ?_, hf2, ?_, ?_, ?_, ?_⟩
  · simp only [splitAtPoint, divRemK_pos _ hb, bind_ok', hfeq]; rfl
  · rw [hfeq]; split
    · -- a zero remainder means `b ∣ a`, and then `b = gcd a b = 1`
      rename_i h0
      have : b ∣ Nat.gcd a.natAbs b :=
        Nat.dvd_gcd (Int.natCast_dvd.mp (Int.dvd_of_tmod_eq_zero h0)) (dvd_refl b)
      rw [hx.2] at this
      exact (Nat.dvd_one.mp this).symm
    · rfl
  · rw [hf3, Q.val_mk, trunc_bridge a b hb]
  · rw [hfv, lt_div_iff₀ hbq]; linarith
  · rw [hfv, div_lt_iff₀ hbq]; linarith

/-- adding the integer part back -/
theorem shift_spec (r : Q) (t : ℤ) (hr : Reduced r) :
    Reduced (R.addSubInt false r t) ∧ (R.addSubInt false r t).val = r.val + t ∧
      (R.addSubInt false r t).den = r.den := by
  have := addSubInt_spec .R false r t hr
  exact ⟨this.1, by simpa using this.2, rfl⟩

theorem sub_int_div (p t : ℤ) {q : ℕ} (hq : 0 < q) :
    ((p - t * q : ℤ) : ℚ) / q = (p : ℚ) / q - t := by
  have : (q : ℚ) ≠ 0 := by exact_mod_cast hq.ne'
  push_cast; field_simp

/-- the right neighbour of a target, shifted by the integer `t`, is the successor of `v` among the
    fractions of order `L` as soon as those above `v - t` lie above the left neighbour -/
theorem FInv.up_spec {tg : Q} {L : ℕ} {l r : Q} (h : FInv tg L l r) (hsum : L < l.den + r.den)
    (t : ℤ) {v : ℚ} (hv : v - t < r.val)
    (hgap : ∀ (p : ℤ) (q : ℕ), 0 < q → q ≤ L → v - t < (p : ℚ) / q → l.val < (p : ℚ) / q) :
    Reduced (R.addSubInt false r t) ∧ (R.addSubInt false r t).den ≤ L ∧
      v < (R.addSubInt false r t).val ∧ ∀ (p : ℤ) (q : ℕ), 0 < q →
        v < (p : ℚ) / q ∧ (p : ℚ) / q < (R.addSubInt false r t).val → L < q := by
  obtain ⟨s1, s2, s3⟩ := shift_spec r t h.reduced_right
  rw [s2]
  refine ⟨s1, s3.le.trans h.rle, by linarith, fun p q hq hpq => ?_⟩
  by_contra hcon
  have e := sub_int_div p t hq
  have := h.consecutive hsum (p - t * q) q hq
    (hgap _ q hq (by omega) (by rw [e]; linarith [hpq.1])) (by rw [e]; linarith [hpq.2])
  omega

/-- mirror image: the left neighbour is the predecessor -/
theorem FInv.down_spec {tg : Q} {L : ℕ} {l r : Q} (h : FInv tg L l r) (hsum : L < l.den + r.den)
    (t : ℤ) {v : ℚ} (hv : l.val < v - t)
    (hgap : ∀ (p : ℤ) (q : ℕ), 0 < q → q ≤ L → (p : ℚ) / q < v - t → (p : ℚ) / q < r.val) :
    Reduced (R.addSubInt false l t) ∧ (R.addSubInt false l t).den ≤ L ∧
      (R.addSubInt false l t).val < v ∧ ∀ (p : ℤ) (q : ℕ), 0 < q →
        (R.addSubInt false l t).val < (p : ℚ) / q ∧ (p : ℚ) / q < v → L < q := by
  obtain ⟨s1, s2, s3⟩ := shift_spec l t h.reduced_left
  rw [s2]
  refine ⟨s1, s3.le.trans h.lle, by linarith, fun p q hq hpq => ?_⟩
  by_contra hcon
  have e := sub_int_div p t hq
  have := h.consecutive hsum (p - t * q) q hq (by rw [e]; linarith [hpq.1])
    (hgap _ q hq (by omega) (by rw [e]; linarith [hpq.2]))
  omega

/-- a denominator above the limit: `next_down`, `next_up` and `nearest` all take the Farey
    neighbours of the fractional part `f`, and the left one is strictly below `f` -/
theorem farey_of_big (x : Q) (limit : Nat) (hx : Reduced x) (hl : 1 ≤ limit)
    (hbig : limit < x.den) :
    ∃ f l r, splitAtPoint x = .ok (Int.tdiv x.num x.den, f) ∧
      fareyNeighbors f limit = .ok (some (l, r)) ∧ Reduced f ∧
      f.val = x.val - (Int.tdiv x.num x.den : ℚ) ∧ FInv f limit l r ∧ limit < l.den + r.den ∧
      l.val < f.val ∧
      nextUpDown false x limit = .ok (some (R.addSubInt false l (Int.tdiv x.num x.den))) ∧
      nextUpDown true x limit = .ok (some (R.addSubInt false r (Int.tdiv x.num x.den))) := by
  obtain ⟨f, hsplit, hfred, hfden, hfval, hf1, hf2⟩ := split_facts x hx
  obtain ⟨l, r, hfn, hinv, hsum⟩ := fareyNeighbors_spec f limit hfred.den_pos hl hf1.le hf2
  have hres (up : Bool) : nextUpDown up x limit =
      .ok (some (R.addSubInt false (if up then r else l) (Int.tdiv x.num x.den))) := by
    simp only [nextUpDown, if_neg (by omega : ¬ limit = 0), hsplit, bind_ok',
      if_neg (by omega : ¬ (limit = 1 ∧ x.den = 1)),
      if_neg (by omega : ¬ x.den ≤ limit), pure_bind, hfn]
    rfl
  refine ⟨f, l, r, hsplit, hfn, hfred, hfval, hinv, hsum, ?_, hres false, hres true⟩
  -- equality would give `f` the denominator of `l`, which is `≤ limit`
  refine lt_of_le_of_ne hinv.lo fun h => ?_
  have := congrArg Q.den (Reduced.ext hinv.reduced_left hfred h)
  have := hinv.lle
  omega

/-- **`next_up` / `next_down`** when the denominator exceeds the limit: the result has a
    denominator `≤ limit`, lies strictly above / below `x`, and no fraction with a denominator
    `≤ limit` lies strictly between `x` and it (the adjacent element of the Farey sequence). -/
theorem nextUpDown_spec_big (up : Bool) (x : Q) (limit : Nat) (hx : Reduced x) (hl : 1 ≤ limit)
    (hbig : limit < x.den) :
    ∃ r, nextUpDown up x limit = .ok (some r) ∧ Reduced r ∧ r.den ≤ limit ∧
      (if up then x.val < r.val else r.val < x.val) ∧
      ∀ (p : ℤ) (q : ℕ), 0 < q →
        (if up then x.val < (p : ℚ) / q ∧ (p : ℚ) / q < r.val
         else r.val < (p : ℚ) / q ∧ (p : ℚ) / q < x.val) → limit < q := by
  obtain ⟨f, l, r, -, -, -, hfval, hinv, hsum, hlt, hdn, hup⟩ := farey_of_big x limit hx hl hbig
  cases up
  · refine ⟨_, hdn, ?_⟩
    simpa only [Bool.false_eq_true, if_false] using
      hinv.down_spec hsum _ (hfval ▸ hlt) fun p q _ _ h => (hfval ▸ h).trans hinv.hi
  · refine ⟨_, hup, ?_⟩
    simpa only [if_true] using
      hinv.up_spec hsum _ (hfval ▸ hinv.hi) fun p q _ _ h => hlt.trans (hfval ▸ h)

/-- `1/L²` is too small a step to jump over an element of the Farey sequence of order `L ≥ 2`:
    no fraction with denominator `≤ L` lies in `(f, f + 1/L²]` when `f` has denominator `≤ L` -/
theorem no_frac_in_small_step (f : Q) (L : ℕ) (hL : 2 ≤ L) (hfd : 0 < f.den) (hfL : f.den ≤ L)
    (p : ℤ) (q : ℕ) (hq : 0 < q) (hqL : q ≤ L) (h1 : f.val < (p : ℚ) / q) :
    f.val + 1 / ((L : ℚ) * L) < (p : ℚ) / q := by
  have e1 : f.num * q < p * f.den := (cast_lt_iff f.num f.den p q hfd hq).1 h1
  have hb : (f.den : ℤ) ≤ L := by exact_mod_cast hfL
  have hq' : (q : ℤ) ≤ L := by exact_mod_cast hqL
  have hq0 : (0 : ℤ) < q := by exact_mod_cast hq
  have hL0 : (0 : ℤ) < L := by omega
  -- with denominators cleared the claim is `b·q < L²·(p·b − a·q)`; the bracket is at least 1,
  -- and a multiple of `L` in the one case `b = q = L` where `b·q < L²` fails
  have key : (f.den : ℤ) * q < L * L * (p * f.den - f.num * q) := by
    have hsmall : (f.den : ℤ) * q < L * L ∨ (f.den : ℤ) = L ∧ (q : ℤ) = L := by
      rcases eq_or_lt_of_le hb with hbL | hbL
      · rcases eq_or_lt_of_le hq' with hqL' | hqL'
        · exact .inr ⟨hbL, hqL'⟩
        · exact .inl (by rw [hbL]; exact mul_lt_mul_of_pos_left hqL' hL0)
      · exact .inl (mul_lt_mul hbL hq' hq0 hL0.le)
    rcases hsmall with h | ⟨hbL, hqL'⟩
    · exact h.trans_le (le_mul_of_one_le_right (mul_pos hL0 hL0).le (by omega))
    · rw [hbL, hqL'] at e1 ⊢
      have : f.num < p := lt_of_mul_lt_mul_right e1 hL0.le
      have hk : 1 < (p - f.num) * L :=
        lt_of_lt_of_le (by omega : (1 : ℤ) < L) (le_mul_of_one_le_left hL0.le (by omega))
      rw [sub_mul] at hk
      exact lt_mul_of_one_lt_right (mul_pos hL0 hL0) hk
  have hLq : (0 : ℚ) < L := by exact_mod_cast hL0
  have hbq : (0 : ℚ) < f.den := by exact_mod_cast hfd
  have hqq : (0 : ℚ) < q := by exact_mod_cast hq
  have keyq : (f.den : ℚ) * q < L * L * (p * f.den - f.num * q) := by exact_mod_cast key
  rw [Q.val_def, div_add_div _ _ hbq.ne' (mul_pos hLq hLq).ne', div_lt_div_iff₀ (by positivity) hqq]
  linarith

theorem val_neg_q (f : Q) : (⟨-f.num, f.den⟩ : Q).val = -f.val := by
  simp [Q.val_def, neg_div]

/-- mirror image of `no_frac_in_small_step` -/
theorem no_frac_in_small_step_down (f : Q) (L : ℕ) (hL : 2 ≤ L) (hfd : 0 < f.den)
    (hfL : f.den ≤ L) (p : ℤ) (q : ℕ) (hq : 0 < q) (hqL : q ≤ L) (h1 : (p : ℚ) / q < f.val) :
    (p : ℚ) / q < f.val - 1 / ((L : ℚ) * L) := by
  have := no_frac_in_small_step ⟨-f.num, f.den⟩ L hL hfd hfL (-p) q hq hqL
    (by rw [val_neg_q]; push_cast; rw [neg_div]; linarith)
  rw [val_neg_q] at this
  push_cast at this
  rw [neg_div] at this
  linarith

theorem one_over_sq_reduced (L : ℕ) (hL : 0 < L) : Reduced ⟨1, L * L⟩ :=
  ⟨Nat.mul_pos hL hL, by simp⟩

/-- **`next_up` / `next_down`** when the denominator already fits (`limit ≥ 2`): the `1/limit²`
    nudge finds the adjacent element of the Farey sequence -/
theorem nextUpDown_spec_small (up : Bool) (x : Q) (limit : Nat) (hx : Reduced x) (hl : 2 ≤ limit)
    (hsm : x.den ≤ limit) :
    ∃ r, nextUpDown up x limit = .ok (some r) ∧ Reduced r ∧ r.den ≤ limit ∧
      (if up then x.val < r.val else r.val < x.val) ∧
      ∀ (p : ℤ) (q : ℕ), 0 < q →
        (if up then x.val < (p : ℚ) / q ∧ (p : ℚ) / q < r.val
         else r.val < (p : ℚ) / q ∧ (p : ℚ) / q < x.val) → limit < q := by
  obtain ⟨f, hsplit, hfred, hfden, hfval, hf1, hf2⟩ := split_facts x hx
  set t := Int.tdiv x.num x.den
  have hLpos : 0 < limit := by omega
  have hLq : (0 : ℚ) < limit := by exact_mod_cast hLpos
  have hsq := one_over_sq_reduced limit hLpos
  have hsqv : (⟨1, limit * limit⟩ : Q).val = 1 / ((limit : ℚ) * limit) := by
    simp [Q.val_def]
  have hstep : (0 : ℚ) < 1 / ((limit : ℚ) * limit) := by positivity
  have hfL : f.den ≤ limit := hfden ▸ hsm
  have hres (tg l r : Q)
      (htg : (if up then R.add f ⟨1, limit * limit⟩ else R.sub f ⟨1, limit * limit⟩) = .ok tg)
      (hfn : fareyNeighbors tg limit = .ok (some (l, r))) :
      nextUpDown up x limit = .ok (some (R.addSubInt false (if up then r else l) t)) := by
    simp only [nextUpDown, if_neg (by omega : ¬ limit = 0), hsplit, bind_ok',
      if_neg (by omega : ¬ (limit = 1 ∧ x.den = 1)), if_pos hsm, htg, hfn]
    rfl
  cases up
  · -- next_down: target = f − 1/L², and no fraction of order L lies in [target, f)
    obtain ⟨tg, htg1, htg2, htg3⟩ := R.sub_spec f ⟨1, limit * limit⟩ hfred hsq
    rw [hsqv] at htg3
    have hjump := no_frac_in_small_step_down f limit hl hfred.den_pos hfL
    have hlow : -1 < tg.val := by
      simpa [htg3] using hjump (-1) 1 (by decide) (by omega) (by simpa using hf1)
    obtain ⟨l, r, hfn, hinv, hsum⟩ := fareyNeighbors_spec tg limit htg2.den_pos hLpos
      hlow.le (by rw [htg3]; linarith)
    refine ⟨_, hres tg l r htg1 hfn, ?_⟩
    simpa only [Bool.false_eq_true, if_false] using
      hinv.down_spec hsum t (v := x.val) (by rw [← hfval]; linarith [hinv.lo])
        fun p q hq hqL h => by linarith [hjump p q hq hqL (hfval ▸ h), hinv.hi]
  · -- next_up: target = f + 1/L², and no fraction of order L lies in (f, target]
    obtain ⟨tg, htg1, htg2, htg3⟩ := R.add_spec f ⟨1, limit * limit⟩ hfred hsq
    rw [hsqv] at htg3
    have hjump := no_frac_in_small_step f limit hl hfred.den_pos hfL
    have hhigh : tg.val < 1 := by
      simpa [htg3] using hjump 1 1 (by decide) (by omega) (by simpa using hf2)
    obtain ⟨l, r, hfn, hinv, hsum⟩ := fareyNeighbors_spec tg limit htg2.den_pos hLpos
      (by rw [htg3]; linarith) hhigh
    refine ⟨_, hres tg l r htg1 hfn, ?_⟩
    simpa only [if_true] using
      hinv.up_spec hsum t (v := x.val) (by rw [← hfval]; linarith [hinv.hi])
        fun p q hq hqL h => by linarith [hjump p q hq hqL (hfval ▸ h), hinv.lo]

/-- `limit = 1`: integers; the early return gives the neighbours `n ∓ 1` -/
theorem nextUpDown_limit_one (up : Bool) (n : ℤ) :
    nextUpDown up ⟨n, 1⟩ 1 = .ok (some ⟨if up then n + 1 else n - 1, 1⟩) := by
  have hsplit : splitAtPoint ⟨n, 1⟩ = .ok (n, Q.zero) := by
    simp [splitAtPoint, divRemK]
  unfold nextUpDown
  simp only [hsplit, bind_ok', Nat.one_ne_zero, if_false, and_self, if_true]
  cases up
  · simp only [Bool.false_eq_true, if_false, R.intSub, Q.one, pure, Except.pure]
    congr 2; simp
  · simp only [if_true, R.addSubInt, Q.one, Bool.false_eq_true, if_false, pure, Except.pure]
    congr 2; simp; ring

end Dashu.Model.Ratio
