import Dashu.Proofs.Ratio.FBigSet
import Dashu.Proofs.Float.Value
import Dashu.Proofs.Float.Digits
/-
  C18 ↔ C03: `RoundsTo` (the rounding relation of the FBig clause of C18) is C03's
  `Float.specRound`: the identity `ulpExp B p x = t − p` for the binade `t` of `|x|`
  (`ilogQ` is the floor of `log_B`).
-/
namespace Dashu.Model.Ratio
open Dashu.Model Dashu.Model.Float

theorem natpow_cast_zpow (B : ℕ) (k : ℤ) (hk : 0 ≤ k) : ((B ^ k.toNat : ℕ) : ℚ) = (B : ℚ) ^ k := by
  conv_rhs => rw [← Int.toNat_of_nonneg hk]
  rw [zpow_natCast]; push_cast; rfl

/-- **`ilogQ B n d = ⌊log_B (n/d)⌋`** for positive `n`, `d` and every base `B ≥ 2` -/
theorem ilogQ_spec (B : ℕ) (hB : 2 ≤ B) (n d : ℕ) (hn : 0 < n) (hd : 0 < d) :
    (B : ℚ) ^ (ilogQ B n d) ≤ (n : ℚ) / d ∧ (n : ℚ) / d < (B : ℚ) ^ (ilogQ B n d + 1) := by
  obtain ⟨hn0, hn1, hn2⟩ := digits_spec B hB n hn
  obtain ⟨hd0, hd1, hd2⟩ := digits_spec B hB d hd
  have hB0 : (B : ℚ) ≠ 0 := by exact_mod_cast (by omega : B ≠ 0)
  have hdq : (0 : ℚ) < d := by exact_mod_cast hd
  obtain ⟨a, ha⟩ : ∃ a, digits B n = a + 1 := ⟨digits B n - 1, by omega⟩
  obtain ⟨c, hc⟩ : ∃ c, digits B d = c + 1 := ⟨digits B d - 1, by omega⟩
  rw [ha] at hn1 hn2; rw [hc] at hd1 hd2
  simp only [Nat.add_sub_cancel] at hn1 hd1
  have Hn1 : (B : ℚ) ^ (a : ℤ) ≤ n := by rw [zpow_natCast]; exact_mod_cast hn1
  have Hn2 : (n : ℚ) < (B : ℚ) ^ ((a : ℤ) + 1) := by
    rw [show ((a : ℤ) + 1) = ((a + 1 : ℕ) : ℤ) by push_cast; rfl, zpow_natCast]; exact_mod_cast hn2
  have Hd1 : (B : ℚ) ^ (c : ℤ) ≤ d := by rw [zpow_natCast]; exact_mod_cast hd1
  have Hd2 : (d : ℚ) < (B : ℚ) ^ ((c : ℤ) + 1) := by
    rw [show ((c : ℤ) + 1) = ((c + 1 : ℕ) : ℤ) by push_cast; rfl, zpow_natCast]; exact_mod_cast hd2
  have hpos : ∀ k : ℤ, (0 : ℚ) < (B : ℚ) ^ k := fun k => zpow_pos (by exact_mod_cast (by omega : 0 < B)) k
  have hk0 : ((digits B n : ℤ) - (digits B d : ℤ)) = (a : ℤ) - c := by rw [ha, hc]; push_cast; ring
  unfold ilogQ
  simp only [hk0]
  -- two generic product facts
  have up : ∀ k : ℤ, k + c = a → (n : ℚ) < (B : ℚ) ^ (k + 1) * d := by
    intro k hk
    calc (n : ℚ) < (B : ℚ) ^ ((a : ℤ) + 1) := Hn2
      _ = (B : ℚ) ^ (k + 1) * (B : ℚ) ^ (c : ℤ) := by rw [← zpow_add₀ hB0]; congr 1; omega
      _ ≤ (B : ℚ) ^ (k + 1) * d := by apply mul_le_mul_of_nonneg_left Hd1 (hpos _).le
  have dn : ∀ k : ℤ, k + c = a → (B : ℚ) ^ (k - 1) * d ≤ n := by
    intro k hk
    calc (B : ℚ) ^ (k - 1) * d ≤ (B : ℚ) ^ (k - 1) * (B : ℚ) ^ ((c : ℤ) + 1) :=
          mul_le_mul_of_nonneg_left Hd2.le (hpos _).le
      _ = (B : ℚ) ^ (a : ℤ) := by rw [← zpow_add₀ hB0]; congr 1; omega
      _ ≤ n := Hn1
  have hk : ((a : ℤ) - c) + c = a := by ring
  by_cases hge : (a : ℤ) - c ≥ 0
  · simp only [hge, if_true]
    by_cases hcond : B ^ ((a : ℤ) - c).toNat * d ≤ n
    · simp only [hcond, if_true]
      have hq : (B : ℚ) ^ ((a : ℤ) - c) * d ≤ n := by
        rw [← natpow_cast_zpow B _ hge]; exact_mod_cast hcond
      exact ⟨(le_div_iff₀ hdq).mpr hq, (div_lt_iff₀ hdq).mpr (up _ hk)⟩
    · simp only [hcond, if_false]
      have hq : (n : ℚ) < (B : ℚ) ^ ((a : ℤ) - c) * d := by
        rw [← natpow_cast_zpow B _ hge]; exact_mod_cast (not_le.mp hcond)
      refine ⟨(le_div_iff₀ hdq).mpr (dn _ hk), (div_lt_iff₀ hdq).mpr ?_⟩
      rw [sub_add_cancel]; exact hq
  · simp only [hge, if_false]
    have hneg : 0 ≤ -((a : ℤ) - c) := by omega
    have hinv : (B : ℚ) ^ ((a : ℤ) - c) * (B : ℚ) ^ (-((a : ℤ) - c)) = 1 := by
      rw [← zpow_add₀ hB0]; simp
    by_cases hcond : d ≤ B ^ (-((a : ℤ) - c)).toNat * n
    · simp only [hcond, if_true]
      have hq : (d : ℚ) ≤ (B : ℚ) ^ (-((a : ℤ) - c)) * n := by
        rw [← natpow_cast_zpow B _ hneg]; exact_mod_cast hcond
      have hq' : (B : ℚ) ^ ((a : ℤ) - c) * d ≤ n := by
        calc (B : ℚ) ^ ((a : ℤ) - c) * d ≤ (B : ℚ) ^ ((a : ℤ) - c) * ((B : ℚ) ^ (-((a : ℤ) - c)) * n) :=
              mul_le_mul_of_nonneg_left hq (hpos _).le
          _ = n := by rw [← mul_assoc, hinv, one_mul]
      exact ⟨(le_div_iff₀ hdq).mpr hq', (div_lt_iff₀ hdq).mpr (up _ hk)⟩
    · simp only [hcond, if_false]
      have hq : (B : ℚ) ^ (-((a : ℤ) - c)) * n < d := by
        rw [← natpow_cast_zpow B _ hneg]; exact_mod_cast (not_le.mp hcond)
      have hq' : (n : ℚ) < (B : ℚ) ^ ((a : ℤ) - c) * d := by
        calc (n : ℚ) = (B : ℚ) ^ ((a : ℤ) - c) * ((B : ℚ) ^ (-((a : ℤ) - c)) * n) := by
              rw [← mul_assoc, hinv, one_mul]
          _ < (B : ℚ) ^ ((a : ℤ) - c) * d := mul_lt_mul_of_pos_left hq (hpos _)
      refine ⟨(le_div_iff₀ hdq).mpr (dn _ hk), (div_lt_iff₀ hdq).mpr ?_⟩
      rw [sub_add_cancel]; exact hq'

theorem abs_eq_natAbs_div_den (x : ℚ) : |x| = (x.num.natAbs : ℚ) / x.den := by
  conv_lhs => rw [← Rat.num_div_den x]
  rw [abs_div, Nat.abs_cast, Nat.cast_natAbs, Int.cast_abs]

/-- **`ulpExp B p x = t − p`**: the ulp exponent (`Float.ulpExp`) of `x ≠ 0` at `p` digits is the binade
    `t` of `|x|` (`B^(t−1) ≤ |x| < B^t`) minus `p` -/
theorem ulpExp_eq_binade (B : ℕ) (hB : 2 ≤ B) (p : ℕ) (x : ℚ) (hx : x ≠ 0) (t : ℤ)
    (h1 : (B : ℚ) ^ (t - 1) ≤ |x|) (h2 : |x| < (B : ℚ) ^ t) : ulpExp B p x = t - p := by
  have hn : 0 < x.num.natAbs := Int.natAbs_pos.mpr (Rat.num_ne_zero.mpr hx)
  obtain ⟨s1, s2⟩ := ilogQ_spec B hB x.num.natAbs x.den hn x.den_pos
  rw [← abs_eq_natAbs_div_den] at s1 s2
  have := bbinade_unique B hB h1 h2 (by rwa [add_sub_cancel_right]) s2
  unfold ulpExp; omega

/-- every non-zero rational has its binade at `ilogQ + 1` -/
theorem binade_ilogQ (B : ℕ) (hB : 2 ≤ B) (x : ℚ) (hx : x ≠ 0) :
    (B : ℚ) ^ ((ilogQ B x.num.natAbs x.den + 1) - 1) ≤ |x| ∧
      |x| < (B : ℚ) ^ (ilogQ B x.num.natAbs x.den + 1) := by
  have hn : 0 < x.num.natAbs := Int.natAbs_pos.mpr (Rat.num_ne_zero.mpr hx)
  obtain ⟨s1, s2⟩ := ilogQ_spec B hB x.num.natAbs x.den hn x.den_pos
  rw [← abs_eq_natAbs_div_den] at s1 s2
  rw [add_sub_cancel_right]; exact ⟨s1, s2⟩

/-- **`RoundsTo` is `Float.specRound`**: `x ≠ 0` rounds to `v` at `p` digits under mode `m` in the
    sense of C18's FBig clause iff `v` is the value of C03's correctly rounded `p`-digit
    float `specRound B m p x` (the canonical representative of the C03 rounding contract). -/
theorem roundsTo_iff_specRound (B : ℕ) (hB : 2 ≤ B) (m : FMode) (p : ℕ) (x v : ℚ) (hx : x ≠ 0) :
    RoundsTo B m p x v ↔ v = (specRound B m p x).1.toRat B := by
  have hval : (specRound B m p x).1.toRat B =
      (Float.roundInt m (x / (B : ℚ) ^ (ulpExp B p x)) : ℚ) * (B : ℚ) ^ (ulpExp B p x) := by
    unfold specRound
    simp only [hx, if_false]
    rw [FRepr.new_value B (by omega), bpowQ_eq_zpow]
  rw [hval]
  constructor
  · rintro ⟨t, h1, h2, hv⟩
    rw [ulpExp_eq_binade B hB p x hx t h1 h2]; exact hv
  · intro hv
    obtain ⟨h1, h2⟩ := binade_ilogQ B hB x hx
    refine ⟨ilogQ B x.num.natAbs x.den + 1, h1, h2, ?_⟩
    rw [hv]
    have : ulpExp B p x = ilogQ B x.num.natAbs x.den + 1 - p := by unfold ulpExp; ring
    rw [this]

end Dashu.Model.Ratio
