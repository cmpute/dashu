import Dashu.Proofs.Ratio.Farey
/-
  `pickSimplest` (tail of `simplest_from_f32/f64/float`): among the fractions strictly inside a
  positive interval and the end points that are allowed, the result is a simplest one
  (least denominator, then least numerator magnitude): `SimplestOfSet`.  `simplestFromFloat_spec` reads
  `simplest_from_f32/f64` down to that call; `SimplestOfSet.signed` takes the simplest magnitude to the simplest
  signed fraction, for the float and the `FBig` clause of C18 alike.
-/
namespace Dashu.Model.Ratio
open Dashu.Model

/-- `a` is at least as simple as `b` (positive numbers: denominator, then numerator magnitude) -/
def AsSimple (a b : Q) : Prop := a.den < b.den ∨ (a.den = b.den ∧ a.num.natAbs ≤ b.num.natAbs)

theorem AsSimple.refl (a : Q) : AsSimple a a := Or.inr ⟨rfl, le_refl _⟩

theorem AsSimple.trans {a b c : Q} (h1 : AsSimple a b) (h2 : AsSimple b c) : AsSimple a c := by
  unfold AsSimple at *
  rcases h1 with h1 | ⟨e1, l1⟩ <;> rcases h2 with h2 | ⟨e2, l2⟩
  · left; omega
  · left; omega
  · left; omega
  · right; exact ⟨by omega, by omega⟩

theorem AsSimple.total (a b : Q) : AsSimple a b ∨ AsSimple b a := by
  unfold AsSimple; omega

/-- on positive numbers the documented order is the strict part of `AsSimple` -/
theorem simplerSpec_iff {a b : Q} (hb : 0 < b.num) : simplerSpec a b = true ↔ ¬ AsSimple b a := by
  unfold simplerSpec AsSimple
  simp only [Bool.or_eq_true, Bool.and_eq_true, decide_eq_true_eq]
  omega

/-- one replacement step of `pickSimplest`: an allowed end point `e` takes the place of the
    candidate `c` when it is strictly simpler -/
theorem replace_spec (e c : Q) (incl : Bool) (hc : 0 < c.num) :
    AsSimple (if incl = true ∧ simplerSpec e c = true then e else c) c ∧
      (incl = true → AsSimple (if incl = true ∧ simplerSpec e c = true then e else c) e) ∧
      ((if incl = true ∧ simplerSpec e c = true then e else c) = c ∨
        (if incl = true ∧ simplerSpec e c = true then e else c) = e ∧ incl = true) := by
  split
  · rename_i h
    exact ⟨(AsSimple.total e c).resolve_right ((simplerSpec_iff hc).1 h.2),
      fun _ => AsSimple.refl _, .inr ⟨rfl, h.1⟩⟩
  · rename_i h
    refine ⟨AsSimple.refl _, fun hi => ?_, .inl rfl⟩
    by_contra hn
    exact h ⟨hi, (simplerSpec_iff hc).2 hn⟩

/-- `r` is a simplest element of the set of positive numbers described by `lo hi incl…`: reduced,
    inside, on an end only if that end is allowed, and at least as simple as every fraction strictly
    inside and as every allowed end -/
def SimplestOfSet (lo hi : Q) (inclLo inclHi : Bool) (r : Q) : Prop :=
  Reduced r ∧ 0 < r.num ∧ lo.val ≤ r.val ∧ r.val ≤ hi.val ∧ (r.val = lo.val → inclLo = true) ∧
    (r.val = hi.val → inclHi = true) ∧
    (∀ (p : ℤ) (s : ℕ), 0 < s → lo.val < (p : ℚ) / s → (p : ℚ) / s < hi.val →
      AsSimple r ⟨p, s⟩) ∧
    (inclLo = true → AsSimple r lo) ∧ (inclHi = true → AsSimple r hi)

/-- **`pickSimplest`** on a positive interval `0 < lo < hi` of reduced end points -/
theorem pickSimplest_spec (lo hi : Q) (hlo : Reduced lo) (hhi : Reduced hi) (hpos : 0 < lo.num)
    (hlt : lo.val < hi.val) (inclLo inclHi : Bool) :
    ∃ r, pickSimplest simplerSpec lo hi inclLo inclHi = .ok (some r) ∧
      SimplestOfSet lo hi inclLo inclHi r := by
  obtain ⟨s0, h0, hred0, hin1, hin2, hmin0⟩ :=
    (simplestIn_spec lo hi hlo.den_pos hhi.den_pos).2 (ne_of_lt hlt)
  rw [min_eq_left hlt.le] at hin1 hmin0
  rw [max_eq_right hlt.le] at hin2 hmin0
  have hlopos : 0 < lo.val := (val_pos_iff lo hlo.den_pos).2 hpos
  have hhipos : 0 < hi.num := (val_pos_iff hi hhi.den_pos).1 (lt_trans hlopos hlt)
  have hs0pos : 0 < s0.num := (val_pos_iff s0 hred0.den_pos).1 (lt_trans hlopos hin1)
  have hint : ∀ (p : ℤ) (s : ℕ), 0 < s → lo.val < (p : ℚ) / s → (p : ℚ) / s < hi.val →
      AsSimple s0 ⟨p, s⟩ := by
    intro p s hs h1 h2
    obtain ⟨a, b⟩ := hmin0 p s hs h1 h2
    unfold AsSimple
    simp only
    omega
  obtain ⟨h1a, h1b, hc1⟩ := replace_spec lo s0 inclLo hs0pos
  set s1 : Q := if inclLo = true ∧ simplerSpec lo s0 = true then lo else s0 with hs1
  have hs1pos : 0 < s1.num := by rw [hs1]; split <;> assumption
  have hs1red : Reduced s1 := by rw [hs1]; split <;> assumption
  obtain ⟨h2a, h2b, hc2⟩ := replace_spec hi s1 inclHi hs1pos
  set s2 : Q := if inclHi = true ∧ simplerSpec hi s1 = true then hi else s1 with hs2
  have hres : pickSimplest simplerSpec lo hi inclLo inclHi = .ok (some s2) := by
    simp only [pickSimplest, h0, bind_ok']
    rfl
  -- where s2 can be
  have hcases : s2 = s0 ∨ (s2 = lo ∧ inclLo = true) ∨ (s2 = hi ∧ inclHi = true) := by
    rcases hc2 with h | h
    · rw [h]
      exact hc1.imp_right .inl
    · exact .inr (.inr h)
  refine ⟨s2, hres, ?_, ?_, ?_, ?_, ?_, ?_, ?_, ?_, ?_⟩
  · rw [hs2]; split <;> assumption
  · rw [hs2]; split <;> assumption
  · rcases hcases with h | ⟨h, _⟩ | ⟨h, _⟩ <;> rw [h] <;> linarith
  · rcases hcases with h | ⟨h, _⟩ | ⟨h, _⟩ <;> rw [h] <;> linarith
  · intro he
    rcases hcases with h | ⟨_, h⟩ | ⟨h, _⟩
    · rw [h] at he; linarith
    · exact h
    · rw [h] at he; linarith
  · intro he
    rcases hcases with h | ⟨h, _⟩ | ⟨_, h⟩
    · rw [h] at he; linarith
    · rw [h] at he; linarith
    · exact h
  · intro p s hs a b
    exact (h2a.trans h1a).trans (hint p s hs a b)
  · intro h; exact h2a.trans (h1b h)
  · exact h2b

theorem roundingInterval_pos (mb : ℕ) (minExp : ℤ) (m : ℕ) (exp : ℤ) (hm : 0 < m) :
    0 < (roundingInterval mb minExp m exp).1.den ∧ 0 < (roundingInterval mb minExp m exp).2.den ∧
    0 < (roundingInterval mb minExp m exp).1.val ∧
    (roundingInterval mb minExp m exp).1.val < (roundingInterval mb minExp m exp).2.val := by
  unfold roundingInterval
  have hlow : (0 : ℤ) < (if m = 2 ^ mb ∧ exp > minExp then 4 * (m : ℤ) - 1 else 4 * (m : ℤ) - 2) := by
    split <;> omega
  have hlh : (if m = 2 ^ mb ∧ exp > minExp then 4 * (m : ℤ) - 1 else 4 * (m : ℤ) - 2)
      < 4 * (m : ℤ) + 2 := by split <;> omega
  set lowNum : ℤ := if m = 2 ^ mb ∧ exp > minExp then 4 * (m : ℤ) - 1 else 4 * (m : ℤ) - 2
  simp only
  split
  · have h2 : (0 : ℚ) < (2 : ℚ) ^ (exp - 2).toNat := by positivity
    have hlq : (0 : ℚ) < (lowNum : ℚ) := by exact_mod_cast hlow
    have hlhq : (lowNum : ℚ) < 4 * (m : ℚ) + 2 := by exact_mod_cast hlh
    refine ⟨by simp, by simp, ?_, ?_⟩
    · simp only [Q.val_def]; push_cast; simp only [div_one]; positivity
    · simp only [Q.val_def]; push_cast; simp only [div_one]; nlinarith
  · have h2 : (0 : ℚ) < ((2 ^ (-(exp - 2)).toNat : ℕ) : ℚ) := by positivity
    have hlq : (0 : ℚ) < (lowNum : ℚ) := by exact_mod_cast hlow
    have hlhq : (lowNum : ℚ) < 4 * (m : ℚ) + 2 := by exact_mod_cast hlh
    refine ⟨by positivity, by positivity, ?_, ?_⟩
    · simp only [Q.val_def]; positivity
    · simp only [Q.val_def]; push_cast
      apply div_lt_div_of_pos_right _ (by positivity)
      exact_mod_cast hlh

/-- **`simplest_from_f32/f64`** (required semantics): NaN/inf ⇒ `None`, zeros ⇒ 0; otherwise the
    sign of the float times the simplest element of its round-to-nearest-even interval
    `roundingInterval` (end points allowed iff the mantissa is even). -/
theorem simplestFromFloat_spec (eb mb bits : ℕ) :
    (floatDecode eb mb bits = none →
      simplestFromFloat simplerSpec eb mb bits = .ok (some none)) ∧
    (∀ man exp, floatDecode eb mb bits = some (man, exp) →
      (man = 0 → simplestFromFloat simplerSpec eb mb bits = .ok (some (some Q.zero))) ∧
      (man ≠ 0 → ∃ lo hi s,
        reduce (roundingInterval mb (1 - (2 ^ (eb - 1) - 1) - mb) man.natAbs exp).1 = .ok lo ∧
        reduce (roundingInterval mb (1 - (2 ^ (eb - 1) - 1) - mb) man.natAbs exp).2 = .ok hi ∧
        lo.val = (roundingInterval mb (1 - (2 ^ (eb - 1) - 1) - mb) man.natAbs exp).1.val ∧
        hi.val = (roundingInterval mb (1 - (2 ^ (eb - 1) - 1) - mb) man.natAbs exp).2.val ∧
        simplestFromFloat simplerSpec eb mb bits =
          .ok (some (some (mulSign s (decide (man < 0))))) ∧
        SimplestOfSet lo hi (decide (man.natAbs % 2 = 0)) (decide (man.natAbs % 2 = 0)) s)) := by
  constructor
  · intro h; simp [simplestFromFloat, h]
  · intro man exp h
    constructor
    · intro h0; simp [simplestFromFloat, h, h0]
    · intro hne
      have hm : 0 < man.natAbs := Int.natAbs_pos.mpr hne
      obtain ⟨d1, d2, p1, p2⟩ :=
        roundingInterval_pos mb (1 - (2 ^ (eb - 1) - 1) - mb) man.natAbs exp hm
      obtain ⟨lo, hlo1, hlo2, hlo3⟩ := reduce_spec _ d1
      obtain ⟨hi, hhi1, hhi2, hhi3⟩ := reduce_spec _ d2
      have hlopos : 0 < lo.num := (val_pos_iff lo hlo2.den_pos).1 (by rw [hlo3]; exact p1)
      obtain ⟨s, hs, hrest⟩ := pickSimplest_spec lo hi hlo2 hhi2 hlopos
        (by rw [hlo3, hhi3]; exact p2) (decide (man.natAbs % 2 = 0)) (decide (man.natAbs % 2 = 0))
      refine ⟨lo, hi, s, hlo1, hhi1, hlo3, hhi3, ?_, hrest⟩
      simp only [simplestFromFloat, h, if_neg hne, hlo1, hhi1, bind_ok', hs]
      rfl

/-- a reduced pair has the least denominator and numerator among the pairs with its value -/
theorem reduced_minimal (a : Q) (ha : Reduced a) (p : ℤ) (s : ℕ) (hs : 0 < s)
    (h : a.val = (p : ℚ) / s) : a.den ≤ s ∧ a.num.natAbs ≤ p.natAbs := by
  have hd : (0 : ℚ) < a.den := by exact_mod_cast ha.den_pos
  have hsq : (0 : ℚ) < s := by exact_mod_cast hs
  rw [Q.val_def, div_eq_div_iff hd.ne' hsq.ne'] at h
  have hz : a.num * (s : ℤ) = p * (a.den : ℤ) := by exact_mod_cast h
  have hcop : IsCoprime (a.den : ℤ) a.num := ha.isCoprime.symm
  have hdvd : (a.den : ℤ) ∣ (s : ℤ) := by
    apply hcop.dvd_of_dvd_mul_left
    exact ⟨p, by linear_combination hz⟩
  obtain ⟨c, hc⟩ := hdvd
  have hdz : (0 : ℤ) < a.den := by exact_mod_cast ha.den_pos
  have hsz : (0 : ℤ) < s := by exact_mod_cast hs
  have hcpos : 0 < c := by
    by_contra hcon
    have : c ≤ 0 := by omega
    have : (a.den : ℤ) * c ≤ 0 := Int.mul_nonpos_of_nonneg_of_nonpos hdz.le this
    omega
  have hp : p = a.num * c := by
    have : (a.den : ℤ) * (a.num * c) = (a.den : ℤ) * p := by
      rw [hc] at hz; linarith
    exact (Int.eq_of_mul_eq_mul_left hdz.ne' this).symm
  constructor
  · have : (a.den : ℤ) * 1 ≤ (a.den : ℤ) * c := Int.mul_le_mul_of_nonneg_left (by omega) hdz.le
    have : (a.den : ℤ) ≤ s := by rw [hc]; linarith
    exact_mod_cast this
  · rw [hp, Int.natAbs_mul]
    have : 1 ≤ c.natAbs := by omega
    calc a.num.natAbs = a.num.natAbs * 1 := (Nat.mul_one _).symm
      _ ≤ a.num.natAbs * c.natAbs := Nat.mul_le_mul_left _ this

theorem abs_frac (p : ℤ) {d : ℕ} (hd : 0 < d) : |(p : ℚ) / d| = (p.natAbs : ℚ) / d := by
  rw [abs_div, abs_of_pos (by exact_mod_cast hd : (0 : ℚ) < d), Nat.cast_natAbs, Int.cast_abs]

/-- **From a set of magnitudes to a set of signed fractions.**  Let `R` be a property of fractions
    `p/d` that says: non-zero, of the sign `neg`, magnitude in the interval `lo … hi` with its flags.
    If `s` is the simplest element of that interval (`SimplestOfSet`, what `pickSimplest` returns),
    then `±s` has `R` and is at least as simple as every fraction that has `R` (an end point, being
    reduced, is the simplest fraction of its value). -/
theorem SimplestOfSet.signed {lo hi s : Q} {iL iH : Bool} (hlo : Reduced lo) (hhi : Reduced hi)
    (h : SimplestOfSet lo hi iL iH s) (neg : Bool) {R : ℤ → ℕ → Prop}
    (hR : ∀ (p : ℤ) (d : ℕ), 0 < d → (R p d ↔ p ≠ 0 ∧ (p < 0 ↔ neg = true) ∧
      lo.val ≤ (p.natAbs : ℚ) / d ∧ (p.natAbs : ℚ) / d ≤ hi.val ∧
      ((p.natAbs : ℚ) / d = lo.val → iL = true) ∧ ((p.natAbs : ℚ) / d = hi.val → iH = true))) :
    Reduced (mulSign s neg) ∧ R (mulSign s neg).num (mulSign s neg).den ∧
      ∀ (p : ℤ) (d : ℕ), 0 < d → R p d → AsSimple (mulSign s neg) ⟨p, d⟩ := by
  obtain ⟨hsred, hspos, hs1, hs2, hs3, hs4, hsint, hslo, hshi⟩ := h
  have hred := (mulSign_spec .R s neg hsred).1
  have hnum : (mulSign s neg).num.natAbs = s.num.natAbs := by cases neg <;> simp [mulSign]
  have hmag : (((mulSign s neg).num.natAbs : ℕ) : ℚ) / (mulSign s neg).den = s.val := by
    rw [hnum, Q.val_def, ← Int.natAbs_of_nonneg hspos.le]; simp [mulSign]
  refine ⟨hred, (hR _ _ hred.den_pos).2 ⟨?_, ?_, ?_⟩, fun p d hd hp => ?_⟩
  · cases neg <;> simp [mulSign] <;> omega
  · cases neg <;> simp [mulSign] <;> omega
  · rw [hmag]; exact ⟨hs1, hs2, hs3, hs4⟩
  · obtain ⟨-, -, q1, q2, q3, q4⟩ := (hR p d hd).1 hp
    have hend : ∀ a : Q, Reduced a → a.val = (p.natAbs : ℚ) / d → AsSimple a ⟨(p.natAbs : ℤ), d⟩ := by
      intro a ha h
      obtain ⟨h1, h2⟩ := reduced_minimal a ha (p.natAbs : ℤ) d hd (by rw [Int.cast_natCast]; exact h)
      unfold AsSimple
      simp only [Int.natAbs_natCast] at h2 ⊢
      omega
    have hgoal : AsSimple s ⟨(p.natAbs : ℤ), d⟩ → AsSimple (mulSign s neg) ⟨p, d⟩ := by
      unfold AsSimple
      simp only [hnum, Int.natAbs_natCast]
      exact id
    apply hgoal
    rcases lt_or_eq_of_le q1 with h1 | h1
    · rcases lt_or_eq_of_le q2 with h2 | h2
      · exact hsint _ d hd (by rwa [Int.cast_natCast]) (by rwa [Int.cast_natCast])
      · exact (hshi (q4 h2)).trans (hend hi hhi h2.symm)
    · exact (hslo (q3 h1.symm)).trans (hend lo hlo h1)

end Dashu.Model.Ratio
