import Dashu.Proofs.Ratio.Basic
/-
  `rational/src/mul.rs`, `div.rs` (quotients, inverse), `sign.rs`: cross cancellation
  `gcd(a,d)`, `gcd(b,c)` before multiplying leaves nothing to reduce afterwards.
-/
namespace Dashu.Model.Ratio
open Dashu.Model

theorem sgn_mul_natAbs (a : ℤ) : sgn a * (a.natAbs : ℤ) = a := by
  unfold sgn; split <;> omega

theorem natAbs_sgn (a : ℤ) : (sgn a).natAbs = 1 := by
  unfold sgn; split <;> rfl

theorem sgn_cast_ne_zero (a : ℤ) : ((sgn a : ℤ) : ℚ) ≠ 0 := by
  unfold sgn; split <;> norm_num

theorem sgn_mul_sgn (a : ℤ) : sgn a * sgn a = 1 := by
  unfold sgn; split <;> norm_num

theorem natAbs_cast_eq (a : ℤ) : ((a.natAbs : ℕ) : ℚ) = (sgn a : ℚ) * (a : ℚ) := by
  have h := sgn_mul_natAbs a
  have h2 : (a.natAbs : ℤ) = sgn a * a := by
    have := congrArg (fun t => sgn a * t) h
    simp only [← mul_assoc, sgn_mul_sgn, one_mul] at this
    exact this
  have : ((a.natAbs : ℤ) : ℚ) = ((sgn a * a : ℤ) : ℚ) := by rw [h2]
  simpa using this

theorem cast_tdiv_of_dvd (n : ℤ) (g : ℕ) (hg : 0 < g) (h : g ∣ n.natAbs) :
    ((Int.tdiv n g : ℤ) : ℚ) = (n : ℚ) / (g : ℚ) := by
  have hn : (g : ℤ) ∣ n := natCast_dvd_of_dvd_natAbs h
  rw [Int.tdiv_eq_ediv_of_dvd hn, Int.cast_div hn (by exact_mod_cast hg.ne')]
  simp

theorem cast_ndiv_of_dvd (n g : ℕ) (hg : 0 < g) (h : g ∣ n) :
    ((n / g : ℕ) : ℚ) = (n : ℚ) / (g : ℚ) :=
  Nat.cast_div h (by exact_mod_cast hg.ne')

theorem natAbs_tdiv_nat (n : ℤ) (g : ℕ) : (Int.tdiv n g).natAbs = n.natAbs / g := by
  rw [Int.natAbs_tdiv, Int.natAbs_natCast]; rfl

/-- `impl_mul_with_rbig` -/
theorem R.mul_spec (x y : Q) (hx : Reduced x) (hy : Reduced y) :
    ∃ r, R.mul x y = .ok r ∧ Reduced r ∧ r.val = x.val * y.val := by
  obtain ⟨a, b⟩ := x
  obtain ⟨c, d⟩ := y
  have hb : 0 < b := hx.den_pos
  have hd : 0 < d := hy.den_pos
  have hab : Nat.Coprime a.natAbs b := hx.2
  have hcd : Nat.Coprime c.natAbs d := hy.2
  unfold R.mul
  simp only [gcdK_of_pos_right _ hd, gcdK_of_pos_left _ hb, bind_ok']
  set g1 := Nat.gcd a.natAbs d with hg1
  set g2 := Nat.gcd b c.natAbs with hg2
  have hg1pos : 0 < g1 := Nat.gcd_pos_of_pos_right _ hd
  have hg2pos : 0 < g2 := Nat.gcd_pos_of_pos_left _ hb
  have d1a : g1 ∣ a.natAbs := Nat.gcd_dvd_left _ _
  have d1d : g1 ∣ d := Nat.gcd_dvd_right _ _
  have d2b : g2 ∣ b := Nat.gcd_dvd_left _ _
  have d2c : g2 ∣ c.natAbs := Nat.gcd_dvd_right _ _
  refine ⟨_, rfl, ⟨?_, ?_⟩, ?_⟩
  · exact Nat.mul_pos (Nat.div_pos (Nat.le_of_dvd hb d2b) hg2pos)
      (Nat.div_pos (Nat.le_of_dvd hd d1d) hg1pos)
  · show Nat.Coprime _ _
    simp only [Int.natAbs_mul, natAbs_tdiv_nat]
    have c1 : Nat.Coprime (a.natAbs / g1) (d / g1) := Nat.coprime_div_gcd_div_gcd hg1pos
    have c2 : Nat.Coprime (b / g2) (c.natAbs / g2) := Nat.coprime_div_gcd_div_gcd hg2pos
    have c3 : Nat.Coprime (a.natAbs / g1) (b / g2) :=
      (hab.coprime_div_left d1a).coprime_div_right d2b
    have c4 : Nat.Coprime (c.natAbs / g2) (d / g1) :=
      (hcd.coprime_div_left d2c).coprime_div_right d1d
    exact Nat.Coprime.mul_left (Nat.Coprime.mul_right c3 c1) (Nat.Coprime.mul_right c2.symm c4)
  · simp only [Q.val_mk]
    push_cast
    rw [cast_tdiv_of_dvd a g1 hg1pos d1a, cast_tdiv_of_dvd c g2 hg2pos d2c,
      cast_ndiv_of_dvd b g2 hg2pos d2b, cast_ndiv_of_dvd d g1 hg1pos d1d]
    have h1 : (g1 : ℚ) ≠ 0 := by exact_mod_cast hg1pos.ne'
    have h2 : (g2 : ℚ) ≠ 0 := by exact_mod_cast hg2pos.ne'
    have h3 : (b : ℚ) ≠ 0 := by exact_mod_cast hb.ne'
    have h4 : (d : ℚ) ≠ 0 := by exact_mod_cast hd.ne'
    field_simp

theorem reduced_int (i : ℤ) : Reduced ⟨i, 1⟩ := ⟨Nat.one_pos, Nat.gcd_one_right _⟩

theorem val_int (i : ℤ) : (⟨i, 1⟩ : Q).val = i := by simp [Q.val_def]

/-- `impl_mul_int_with_rbig` is `impl_mul_with_rbig` with the integer stored as `i/1` -/
theorem R.mulInt_eq_mul (x : Q) (i : ℤ) (hb : 0 < x.den) : R.mulInt x i = R.mul x ⟨i, 1⟩ := by
  simp [R.mulInt, R.mul, gcdK_of_pos_right _ Nat.one_pos, gcdK_of_pos_left _ hb]

/-- `impl_mul_int_with_rbig` -/
theorem R.mulInt_spec (x : Q) (i : ℤ) (hx : Reduced x) :
    ∃ r, R.mulInt x i = .ok r ∧ Reduced r ∧ r.val = x.val * i := by
  rw [R.mulInt_eq_mul x i hx.den_pos, ← val_int i]
  exact R.mul_spec x ⟨i, 1⟩ hx (reduced_int i)

theorem tdiv_sgn_mul (c : ℤ) (d g : ℕ) : Int.tdiv (sgn c * d) g = ((d / g : ℕ) : ℤ) * sgn c := by
  unfold sgn; split <;> simp [Int.neg_tdiv]

/-- `impl_div_with_rbig` is `impl_mul_with_rbig` by the stored inverse: the same two gcds, the same pair -/
theorem R.div_eq_inv_mul (x y : Q) : R.div x y = inv y >>= R.mul x := by
  unfold R.div inv
  split
  · rfl
  · simp only [bind_ok', R.mul, Int.natAbs_mul, natAbs_sgn, Int.natAbs_natCast, one_mul, tdiv_sgn_mul, mul_assoc]

/-- the quotients by and of an integer are `impl_div_with_rbig` with the integer stored as `i/1` -/
theorem R.divInt_eq_div (x : Q) (i : ℤ) (hb : 0 < x.den) : R.divInt x i = R.div x ⟨i, 1⟩ := by
  by_cases hi : i = 0
  · simp [R.divInt, R.div, hi]
  · simp [R.divInt, R.div, hi, gcdK_of_pos_right _ (Int.natAbs_pos.mpr hi),
      gcdK_of_pos_left _ hb]

theorem R.intDiv_eq_div (i : ℤ) (x : Q) : R.intDiv i x = R.div ⟨i, 1⟩ x := by
  by_cases ha : x.num = 0
  · simp [R.intDiv, R.div, ha]
  · simp [R.intDiv, R.div, ha, gcdK_of_pos_right _ (Int.natAbs_pos.mpr ha),
      gcdK_of_pos_left _ (Int.natAbs_pos.mpr ha), gcdK_of_pos_left _ Nat.one_pos, Nat.gcd_comm,
      mul_comm]

theorem sqr_eq_pow (x : Q) : sqr x = pow x 2 := by
  simp [sqr, pow_def, _root_.pow_two]

theorem cubic_eq_pow (x : Q) : cubic x = pow x 3 := by
  simp [cubic, pow_def, _root_.pow_succ]

end Dashu.Model.Ratio
