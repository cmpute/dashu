import Dashu.Proofs.Ratio.FloatSet
import Dashu.Proofs.Ratio.FBigCore
/-
  C18 float clause, the core: for a positive rational `x` in binade `t`, rounded at
  the quantum `q = max (t − prec) qmin` to `n` (nearest, ties to even), the field code
  `(q − qmin)·2^MB + n` is the code of the canonical float `m·2^exp` iff `x` lies in its rounding set.
-/
namespace Dashu.Model.Ratio
open Dashu.Model Dashu.Model.Conv

/-- canonical finite non-zero magnitude `m·2^exp` of format `F` -/
def Canon (F : Ieee) (m : ℕ) (exp : ℤ) : Prop :=
  (2 ^ F.MB ≤ m ∧ m < 2 ^ (F.MB + 1) ∧ F.qmin ≤ exp) ∨ (1 ≤ m ∧ m < 2 ^ F.MB ∧ exp = F.qmin)

/-- bit pattern (without sign) of the canonical magnitude: exponent field · 2^MB + stored mantissa -/
def magBits (F : Ieee) (m : ℕ) (exp : ℤ) : ℕ := (exp - F.qmin).toNat * 2 ^ F.MB + m

/-- the rounding set of `m·2^exp`: half an ulp to each side, a quarter below a power of two that
    is not in the lowest binade; a boundary belongs to it iff the mantissa is even -/
def InSet (F : Ieee) (m : ℕ) (exp : ℤ) (x : ℚ) : Prop :=
  let U : ℚ := (2 : ℚ) ^ exp
  let lo : ℚ := if m = 2 ^ F.MB ∧ F.qmin < exp then m * U - U / 4 else m * U - U / 2
  let hi : ℚ := m * U + U / 2
  lo ≤ x ∧ x ≤ hi ∧ (x = lo → m % 2 = 0) ∧ (x = hi → m % 2 = 0)

theorem Canon.lt {F : Ieee} {m : ℕ} {exp : ℤ} (hc : Canon F m exp) : m < 2 ^ (F.MB + 1) := by
  rcases hc with ⟨-, h, -⟩ | ⟨-, h, -⟩
  · exact h
  · exact lt_trans h (Nat.pow_lt_pow_right (by decide) (Nat.lt_succ_self _))

theorem Canon.qmin_le {F : Ieee} {m : ℕ} {exp : ℤ} (hc : Canon F m exp) : F.qmin ≤ exp := by
  rcases hc with ⟨-, -, h⟩ | ⟨-, -, h⟩
  · exact h
  · exact h.ge

/-- at the least exponent the rounding set is the nearest-even window at the quantum `2^qmin` -/
theorem inSet_qmin (F : Ieee) (m : ℕ) (x : ℚ) : InSet F m F.qmin x ↔ IsRNE (x / 2 ^ F.qmin) m := by
  rw [isRNE_iff_inW, inW_div (two_zpow_pos _)]
  unfold InSet
  simp only [lt_irrefl, and_false, if_false, wHalfEven, decide_eq_true_eq, one_div_mul_eq_div]

/-- above it, the rounding set of the base-2 float of `MB + 1` digits -/
theorem inSet_of_gt (F : Ieee) (hF : F.Ok) (m : ℕ) {exp : ℤ} (h : F.qmin < exp) (x : ℚ) :
    InSet F m exp x ↔ FSet wHalfEven 2 (F.MB + 1) m exp x := by
  have hev : 2 ^ F.MB % 2 = 0 := by
    rw [← Nat.sub_add_cancel hF.hMB, pow_succ]; exact Nat.mul_mod_left _ _
  unfold InSet FSet
  simp only [wHalfEven, Nat.cast_ofNat, Nat.add_sub_cancel, h, and_true, decide_eq_true_eq, one_div_mul_eq_div]
  by_cases hm : m = 2 ^ F.MB
  · have hm2 : m % 2 = 0 := hm ▸ hev
    have h4 : (2 : ℚ) ^ exp / 2 / 2 = 2 ^ exp / 4 := by rw [div_div]; norm_num
    simp only [if_pos hm, h4, hm2, Nat.pow_succ, Nat.mul_mod_left, decide_true]
  · simp only [if_neg hm, decide_eq_true_eq]

/-- a number `a ≤ 2P` that is `c ≥ P` moved up `d + 1` exponents, as a code or as a value, is
    `2P` with `c = P` and `d = 0` -/
theorem carry_iff {P a c d : ℕ} (hP : 0 < P) (ha : a ≤ 2 * P) (hc : P ≤ c) :
    (a = (d + 1) * P + c ↔ d = 0 ∧ c = P ∧ a = 2 * P) ∧
      (a = c * 2 ^ (d + 1) ↔ d = 0 ∧ c = P ∧ a = 2 * P) := by
  rcases d with _ | d
  · simp only [Nat.zero_add, Nat.one_mul, pow_one, true_and]
    omega
  · have h1 : (d + 1 + 1) * P = d * P + P + P := by ring
    have h2 : c * 2 ≤ c * 2 ^ (d + 1) :=
      Nat.mul_le_mul_left c (Nat.le_self_pow (Nat.succ_ne_zero d) 2)
    rw [h1, pow_succ, ← Nat.mul_assoc]
    omega

/-- Codes and values agree.  `(k, n)` and `(j, m)` stand for `n·2^k` and `m·2^j`, in units of the
    least subnormal; `P = 2^MB`, and above exponent `0` a significand is at least `P`. -/
theorem code_eq_iff {P k n j m : ℕ} (hP : 0 < P) (hn1 : 0 < k → P ≤ n) (hn2 : n ≤ 2 * P)
    (hm1 : 0 < j → P ≤ m) (hm2 : m ≤ 2 * P) :
    k * P + n = j * P + m ↔ n * 2 ^ k = m * 2 ^ j := by
  wlog h : k ≤ j generalizing k n j m
  · have := this hm1 hm2 hn1 hn2 (by omega)
    exact ⟨fun e => (this.1 e.symm).symm, fun e => (this.2 e.symm).symm⟩
  obtain ⟨d, rfl⟩ := Nat.exists_eq_add_of_le h
  rw [Nat.add_mul, Nat.add_assoc, Nat.add_left_cancel_iff, pow_add, Nat.mul_left_comm,
    Nat.mul_comm (2 ^ k), Nat.mul_left_inj (Nat.two_pow_pos k).ne']
  rcases d with _ | d
  · rw [Nat.zero_mul, Nat.zero_add, pow_zero, Nat.mul_one]
  · obtain ⟨c1, c2⟩ := carry_iff (d := d) hP hn2 (hm1 (by omega))
    rw [c1, c2]

theorem two_zpow_add_nat (e : ℤ) (k : ℕ) : (2 : ℚ) ^ (e + k) = ((2 ^ k : ℕ) : ℚ) * (2 : ℚ) ^ e := by
  rw [zpow_add₀ (by norm_num), zpow_natCast_two]; ring

/-- facts about the rounded quotient in the two regimes -/
theorem regime (F : Ieee) (x : ℚ) (t : ℤ) (ht1 : (2 : ℚ) ^ (t - 1) ≤ x) (ht2 : x < (2 : ℚ) ^ t)
    (n : ℕ) (hn : IsRNE (x / (2 : ℚ) ^ (max (t - F.prec) F.qmin)) n) :
    (F.qmin ≤ t - F.prec → 2 ^ F.MB ≤ n ∧ n ≤ 2 ^ (F.MB + 1) ∧
        ((2 ^ F.MB : ℕ) : ℚ) * (2 : ℚ) ^ (t - F.prec) ≤ x ∧
        x < ((2 ^ (F.MB + 1) : ℕ) : ℚ) * (2 : ℚ) ^ (t - F.prec)) ∧
    (t - F.prec < F.qmin → n ≤ 2 ^ F.MB ∧ x < ((2 ^ F.MB : ℕ) : ℚ) * (2 : ℚ) ^ F.qmin) := by
  have hw := isRNE_iff_inW.1 hn
  have hprec : (F.prec : ℤ) = F.MB + 1 := by simp only [Ieee.prec, Nat.cast_add, Nat.cast_one]
  constructor
  · intro hq
    rw [max_eq_left hq] at hw
    have hQ := two_zpow_pos (t - F.prec)
    rw [show t - 1 = t - F.prec + F.MB by omega, two_zpow_add_nat] at ht1
    rw [show t = t - F.prec + (F.MB + 1 : ℕ) by push_cast; omega, two_zpow_add_nat] at ht2
    exact ⟨hw.le_of_le wHalfEven_ok (by rwa [le_div_iff₀ hQ]),
      hw.le_of_ge wHalfEven_ok (by rw [div_le_iff₀ hQ]; exact ht2.le), ht1, ht2⟩
  · intro hq
    rw [max_eq_right hq.le] at hw
    have hx : x < ((2 ^ F.MB : ℕ) : ℚ) * (2 : ℚ) ^ F.qmin := by
      rw [← two_zpow_add_nat]; exact lt_of_lt_of_le ht2 (two_zpow_mono (by omega))
    exact ⟨hw.le_of_ge wHalfEven_ok (by rw [div_le_iff₀ (two_zpow_pos _)]; exact hx.le), hx⟩

/-- **the core**, on values: for `x` in the binade `t`, rounded at the quantum
    `q = max (t − prec) qmin` to `n`, the value `n·2^q` is the canonical float `m·2^exp` iff `x`
    lies in its rounding set.  Above `qmin` this is the `FBig` core for base 2 and `MB + 1` digits;
    at `qmin` the quantum is fixed and rounding is unique. -/
theorem core_val (F : Ieee) (hF : F.Ok) (x : ℚ) (t : ℤ) (ht1 : (2 : ℚ) ^ (t - 1) ≤ x)
    (ht2 : x < (2 : ℚ) ^ t) (n : ℕ)
    (hn : IsRNE (x / (2 : ℚ) ^ (max (t - F.prec) F.qmin)) n) (m : ℕ) (exp : ℤ)
    (hc : Canon F m exp) :
    (n : ℚ) * (2 : ℚ) ^ (max (t - F.prec) F.qmin) = m * (2 : ℚ) ^ exp ↔ InSet F m exp x := by
  obtain ⟨hR1, hR2⟩ := regime F x t ht1 ht2 n hn
  have hprec : (F.prec : ℤ) = F.MB + 1 := by simp only [Ieee.prec, Nat.cast_add, Nat.cast_one]
  have hm2 := hc.lt
  by_cases hexp : exp = F.qmin
  · subst hexp
    rw [inSet_qmin]
    rcases le_or_gt (t - F.prec) F.qmin with hq | hq
    · rw [max_eq_right hq] at hn ⊢
      exact ⟨fun h => Nat.cast_injective (mul_right_cancel₀ (two_zpow_pos _).ne' h) ▸ hn,
        fun h => by rw [hn.unique h]⟩
    · -- the quantum is coarser than `2^qmin`: the value is at least `2^(MB+1)·2^qmin`
      obtain ⟨hn1, -, hx, -⟩ := hR1 hq.le
      rw [max_eq_left hq.le]
      have h2 : ((2 ^ (F.MB + 1) : ℕ) : ℚ) * (2 : ℚ) ^ F.qmin ≤ (2 ^ F.MB : ℕ) * (2 : ℚ) ^ (t - F.prec) := by
        rw [← two_zpow_add_nat, ← two_zpow_add_nat]; exact two_zpow_mono (by push_cast; omega)
      have hm : (m : ℚ) * (2 : ℚ) ^ F.qmin < (2 ^ (F.MB + 1) : ℕ) * (2 : ℚ) ^ F.qmin :=
        mul_lt_mul_of_pos_right (by exact_mod_cast hm2) (two_zpow_pos _)
      constructor
      · intro h
        have := mul_le_mul_of_nonneg_right (Nat.cast_le (α := ℚ).2 hn1) (two_zpow_pos (t - F.prec)).le
        linarith
      · intro h
        have := (isRNE_iff_inW.1 h).le_of_le wHalfEven_ok (k := 2 ^ (F.MB + 1))
          (by rw [le_div_iff₀ (two_zpow_pos _)]; linarith)
        omega
  · have hgt : F.qmin < exp := lt_of_le_of_ne hc.qmin_le (Ne.symm hexp)
    have hm1 : 2 ^ F.MB ≤ m := by rcases hc with ⟨h, -, -⟩ | ⟨-, -, h⟩ <;> [exact h; exact absurd h hexp]
    rw [inSet_of_gt F hF m hgt]
    rcases le_or_gt F.qmin (t - F.prec) with hq | hq
    · rw [max_eq_left hq] at hn ⊢
      have := fbig_core wHalfEven wHalfEven_ok 2 (F.MB + 1) m (le_refl 2) (Nat.succ_pos _) hm1 hm2 exp x t
        (by exact_mod_cast ht1) (by exact_mod_cast ht2) n (by exact_mod_cast isRNE_iff_inW.1 hn)
      exact_mod_cast this
    · -- the float's set starts at `2^(exp+MB-1) ≥ 2^(qmin+MB) > x`; its value is above `n·2^qmin`
      obtain ⟨hn1, hx⟩ := hR2 hq
      rw [max_eq_right hq.le]
      constructor
      · intro h
        have hU := two_zpow_pos F.qmin
        have h1 := mul_le_mul_of_nonneg_right (Nat.cast_le (α := ℚ).2 hn1) hU.le
        have h2 := mul_le_mul_of_nonneg_right (Nat.cast_le (α := ℚ).2 hm1) (two_zpow_pos exp).le
        have h3 := mul_le_mul_of_nonneg_left (two_zpow_mono (show F.qmin + 1 ≤ exp from hgt))
          (Nat.cast_nonneg (α := ℚ) (2 ^ F.MB))
        rw [two_zpow_succ] at h3
        have h4 : (0 : ℚ) < (2 ^ F.MB : ℕ) * (2 : ℚ) ^ F.qmin := by positivity
        linarith
      · intro h
        rcases (fset_iff_binade _ wHalfEven_ok 2 (F.MB + 1) m (le_refl 2) (Nat.succ_pos _) hm1 hm2 exp x).1 h
          with ⟨h1, -⟩ | ⟨-, h1, -⟩
        all_goals
          have := (bpow_lt_iff 2 (le_refl 2)).1 (lt_of_le_of_lt h1 (by exact_mod_cast ht2))
          push_cast at this
          omega

/-- the field code is that of `m·2^exp` iff the values agree, in units of `2^qmin` -/
theorem code_iff_units (F : Ieee) (x : ℚ) (t : ℤ) (ht1 : (2 : ℚ) ^ (t - 1) ≤ x)
    (ht2 : x < (2 : ℚ) ^ t) (n : ℕ)
    (hn : IsRNE (x / (2 : ℚ) ^ (max (t - F.prec) F.qmin)) n) (m : ℕ) (exp : ℤ)
    (hc : Canon F m exp) :
    (max (t - F.prec) F.qmin - F.qmin).toNat * 2 ^ F.MB + n = magBits F m exp ↔
      n * 2 ^ (max (t - F.prec) F.qmin - F.qmin).toNat = m * 2 ^ (exp - F.qmin).toNat := by
  obtain ⟨hR1, hR2⟩ := regime F x t ht1 ht2 n hn
  refine code_eq_iff (Nat.two_pow_pos _) (fun hk => ?_) ?_ (fun hj => ?_) ?_
  · exact (hR1 (by omega)).1
  · rw [← pow_succ']
    rcases le_or_gt F.qmin (t - F.prec) with hq | hq
    · exact (hR1 hq).2.1
    · exact (hR2 hq).1.trans (Nat.pow_le_pow_right (by decide) (Nat.le_succ _))
  · rcases hc with ⟨h, -, -⟩ | ⟨-, -, h⟩
    · exact h
    · omega
  · rw [← pow_succ']
    exact hc.lt.le

/-- direction-free core: the field code `(q − qmin)·2^MB + n` is the code of the canonical float
    `m·2^exp` iff `x` lies in its rounding set -/
theorem core (F : Ieee) (hF : F.Ok) (x : ℚ) (t : ℤ) (ht1 : (2 : ℚ) ^ (t - 1) ≤ x)
    (ht2 : x < (2 : ℚ) ^ t) (n : ℕ)
    (hn : IsRNE (x / (2 : ℚ) ^ (max (t - F.prec) F.qmin)) n) (m : ℕ) (exp : ℤ)
    (hc : Canon F m exp) :
    (max (t - F.prec) F.qmin - F.qmin).toNat * 2 ^ F.MB + n = magBits F m exp ↔
      InSet F m exp x := by
  rw [code_iff_units F x t ht1 ht2 n hn m exp hc, ← core_val F hF x t ht1 ht2 n hn m exp hc]
  have hexp := hc.qmin_le
  obtain ⟨j, hj⟩ : ∃ j : ℕ, exp = F.qmin + j := ⟨(exp - F.qmin).toNat, by omega⟩
  obtain ⟨k, hk⟩ : ∃ k : ℕ, max (t - F.prec) F.qmin = F.qmin + k :=
    ⟨(max (t - F.prec) F.qmin - F.qmin).toNat, by omega⟩
  rw [hk, hj, add_sub_cancel_left, add_sub_cancel_left, Int.toNat_natCast, Int.toNat_natCast,
    two_zpow_add_nat, two_zpow_add_nat, ← mul_assoc, ← mul_assoc,
    mul_left_inj' (two_zpow_pos _).ne']
  norm_cast

/-- the rounded value in units of the least subnormal stays below the overflow threshold -/
theorem units_bound (F : Ieee) (x : ℚ) (t : ℤ) (ht1 : (2 : ℚ) ^ (t - 1) ≤ x)
    (ht2 : x < (2 : ℚ) ^ t) (n : ℕ)
    (hn : IsRNE (x / (2 : ℚ) ^ (max (t - F.prec) F.qmin)) n) (m : ℕ) (exp : ℤ)
    (hc : Canon F m exp) (hfin : exp + F.MB ≤ F.emax)
    (hcode : (max (t - F.prec) F.qmin - F.qmin).toNat * 2 ^ F.MB + n = magBits F m exp) :
    n * 2 ^ (max (t - F.prec) F.qmin - F.qmin).toNat < 2 ^ (F.emax + 1 - F.qmin).toNat := by
  rw [(code_iff_units F x t ht1 ht2 n hn m exp hc).1 hcode]
  have hexp := hc.qmin_le
  have hm2 := hc.lt
  calc m * 2 ^ (exp - F.qmin).toNat < 2 ^ (F.MB + 1) * 2 ^ (exp - F.qmin).toNat :=
        Nat.mul_lt_mul_of_pos_right hm2 (Nat.two_pow_pos _)
    _ = 2 ^ (F.MB + 1 + (exp - F.qmin).toNat) := (pow_add _ _ _).symm
    _ ≤ _ := Nat.pow_le_pow_right (by decide) (by omega)

end Dashu.Model.Ratio
