import Dashu.Gen.RatOps
import Dashu.Proofs.Ratio.Basic
/-
  Tie A of C04: the regenerated macro bodies of rational/src/{add,mul,div}.rs (`Gen/RatOps.lean`) are the
  hand-written model functions (`Model/Ratio/Ops.lean`) the driver executes and `Props/C04` is about.
-/
namespace Dashu.Model.Ratio
open Dashu.Model Dashu.Gen

@[simp] theorem tdiv_natCast (n g : Nat) : Int.tdiv (n : Int) (g : Int) = ((n / g : Nat) : Int) := rfl

@[simp] theorem G.gcd_eq (a b : Int) :
    G.gcd a b = (gcdK a.natAbs b.natAbs).map (fun g : Nat => (g : Int)) := by
  unfold G.gcd; cases gcdK a.natAbs b.natAbs <;> rfl

@[simp] theorem throw_eq {α : Type} (e : PanicKind) : (throw e : Except PanicKind α) = .error e := rfl

@[simp] theorem error_bind {α β : Type} (e : PanicKind) (f : α → Except PanicKind β) :
    ((Except.error e : Except PanicKind α) >>= f) = .error e := rfl

@[simp] theorem ok_bind {α β : Type} (a : α) (f : α → Except PanicKind β) :
    ((Except.ok a : Except PanicKind α) >>= f) = f a := rfl

@[simp] theorem map_ok {α β : Type} (a : α) (f : α → β) :
    (Except.map f (Except.ok a : Except PanicKind α)) = .ok (f a) := rfl

@[simp] theorem map_error {α β : Type} (e : PanicKind) (f : α → β) :
    (Except.map f (Except.error e : Except PanicKind α)) = .error e := rfl

@[simp] theorem bind_ok_self {α : Type} (m : Except PanicKind α) : (m >>= fun a => Except.ok a) = m := by
  cases m <;> rfl

@[simp] theorem pure_eq_ok {α : Type} (a : α) : (pure a : Except PanicKind α) = .ok a := rfl

/-- `simp` with the definitions of the generated prelude `G.*` unfolded, then casts of natural-number quotients and
    products pulled out -/
syntax "gsimp" ("[" Lean.Parser.Tactic.simpLemma,* "]")? : tactic
macro_rules
  | `(tactic| gsimp) => `(tactic| gsimp [])
  | `(tactic| gsimp [$ts,*]) => `(tactic| (simp [-Int.natCast_natAbs, -Nat.cast_natAbs, G.is_zero, G.is_one, G.repr, G.mk_rbig, G.mk_relaxed, G.div,
  G.mul, G.add, G.sub, G.neg, G.sign, G.unsigned_abs, G.relaxed_from_parts, G.rbig_from_parts, G.reduce_with_hint,
  G.into, G.into_parts, G.ibig_from_parts, G.lt, $ts,*]; try simp only [← Int.natCast_ediv, ← Int.natCast_mul, Int.toNat_natCast]))

theorem bind_map_cast {α : Type} (m : Except PanicKind Nat) (f : Int → Except PanicKind α) :
    (m.map (fun g : Nat => (g : Int)) >>= f) = (m >>= fun g => f (g : Int)) := by
  cases m <;> rfl

theorem gen_addsub_int_with_rbig (sub : Bool) (x : Q) (i : Int) :
    RatOps.impl_addsub_int_with_rbig (if sub then (· - ·) else (· + ·)) x.num x.den i x.num x.den i
      = .ok (R.addSubInt sub x i) := by
  cases sub <;> (unfold RatOps.impl_addsub_int_with_rbig R.addSubInt; gsimp)

theorem gen_int_sub_rbig (x : Q) (i : Int) :
    RatOps.impl_int_sub_rbig (· - ·) x.num x.den i x.num x.den i = .ok (R.intSub i x) := by
  unfold RatOps.impl_int_sub_rbig R.intSub; gsimp

theorem gen_addsub_int_with_relaxed (sub : Bool) (x : Q) (i : Int) :
    RatOps.impl_addsub_int_with_relaxed (if sub then (· - ·) else (· + ·)) x.num x.den i x.num x.den i
      = .ok (X.addSubInt sub x i) := by
  cases sub <;> (unfold RatOps.impl_addsub_int_with_relaxed X.addSubInt; gsimp)

theorem gen_int_sub_relaxed (x : Q) (i : Int) :
    RatOps.impl_int_sub_relaxed (· - ·) x.num x.den i x.num x.den i = .ok (X.intSub i x) := by
  unfold RatOps.impl_int_sub_relaxed X.intSub; gsimp

theorem gen_mul_int_with_rbig (x : Q) (i : Int) :
    RatOps.impl_mul_int_with_rbig (· * ·) x.num x.den i x.num x.den i = R.mulInt x i := by
  unfold RatOps.impl_mul_int_with_rbig R.mulInt
  rw [G.gcd_eq]
  simp only [Int.natAbs_natCast]
  cases gcdK x.den i.natAbs <;> gsimp

theorem gen_mul_int_with_relaxed (x : Q) (i : Int) :
    RatOps.impl_mul_int_with_relaxed (· * ·) x.num x.den i x.num x.den i = X.mulInt x i := by
  unfold RatOps.impl_mul_int_with_relaxed X.mulInt; gsimp

theorem gen_rbig_div_ibig (x : Q) (i : Int) :
    RatOps.impl_rbig_div_ibig x.num x.den i x.num x.den i = R.divInt x i := by
  unfold RatOps.impl_rbig_div_ibig R.divInt
  rw [G.gcd_eq]
  by_cases hi : i = 0
  · gsimp [hi]
  · cases gcdK x.num.natAbs i.natAbs <;> gsimp [hi]

theorem gen_rbig_div_ubig (x : Q) (i : Int) (h : 0 ≤ i) :
    RatOps.impl_rbig_div_ubig x.num x.den i x.num x.den i = R.divInt x i := by
  unfold RatOps.impl_rbig_div_ubig R.divInt
  rw [G.gcd_eq]
  obtain ⟨n, rfl⟩ := Int.eq_ofNat_of_zero_le h
  by_cases hi : n = 0
  · gsimp [hi]
  · have hs : sgn (n : Int) = 1 := by unfold sgn; rw [if_neg (by omega)]
    simp only [Int.natAbs_natCast]
    cases gcdK x.num.natAbs n <;> gsimp [hi, hs]

theorem gen_ubig_or_ibig_div_rbig (i : Int) (x : Q) :
    RatOps.impl_ubig_or_ibig_div_rbig x.num x.den i x.num x.den i = R.intDiv i x := by
  unfold RatOps.impl_ubig_or_ibig_div_rbig R.intDiv
  rw [G.gcd_eq]
  by_cases hi : x.num = 0
  · gsimp [hi]
  · cases gcdK x.num.natAbs i.natAbs <;> gsimp [hi]

theorem gen_relaxed_div_ibig (x : Q) (i : Int) :
    RatOps.impl_relaxed_div_ibig x.num x.den i x.num x.den i = X.divInt x i := by
  unfold RatOps.impl_relaxed_div_ibig X.divInt
  by_cases hi : i = 0
  · gsimp [hi]
  · gsimp [hi]

theorem gen_relaxed_div_ubig (x : Q) (i : Int) (h : 0 ≤ i) :
    RatOps.impl_relaxed_div_ubig x.num x.den i x.num x.den i = X.divInt x i := by
  unfold RatOps.impl_relaxed_div_ubig X.divInt
  obtain ⟨n, rfl⟩ := Int.eq_ofNat_of_zero_le h
  by_cases hi : n = 0
  · gsimp [hi]
  · have hs : sgn (n : Int) = 1 := by unfold sgn; rw [if_neg (by omega)]
    gsimp [hi, hs]

theorem gen_ubig_or_ibig_div_relaxed (i : Int) (x : Q) :
    RatOps.impl_ubig_or_ibig_div_relaxed x.num x.den i x.num x.den i = X.intDiv i x := by
  unfold RatOps.impl_ubig_or_ibig_div_relaxed X.intDiv
  by_cases hi : x.num = 0
  · gsimp [hi]
  · gsimp [hi]

/-! ### operators on two rationals (above: one operand an integer) -/

theorem gen_add_or_sub_with_rbig (sub : Bool) (x y : Q) :
    RatOps.impl_add_or_sub_with_rbig (if sub then (· - ·) else (· + ·)) x.num x.den y.num y.den x.num x.den y.num y.den
      = R.addSub sub x y := by
  unfold RatOps.impl_add_or_sub_with_rbig R.addSub
  rw [G.gcd_eq]
  simp only [Int.natAbs_natCast]
  cases gcdK x.den y.den with
  | error e => rfl
  | ok g =>
    by_cases hg : g = 1
    · cases sub <;> gsimp [hg, mul_comm]
    · have hg' : ¬ ((g : Int) = 1) := by exact_mod_cast hg
      cases sub <;> gsimp [hg, hg']

theorem gen_addsub_with_relaxed (sub : Bool) (x y : Q) :
    RatOps.impl_addsub_with_relaxed (if sub then (· - ·) else (· + ·)) x.num x.den y.num y.den x.num x.den y.num y.den
      = X.addSub sub x y := by
  cases sub <;> (unfold RatOps.impl_addsub_with_relaxed X.addSub; gsimp)

theorem gcdK_error {a b : Nat} {e : PanicKind} (h : gcdK a b = .error e) : e = .gcdZeroZero := by
  unfold gcdK at h
  split at h
  · cases h; rfl
  · cases h

/-- (order-insensitive proof: the two independent gcds may be computed in either order in the source) -/
theorem gen_mul_with_rbig (x y : Q) :
    RatOps.impl_mul_with_rbig (· * ·) x.num x.den y.num y.den x.num x.den y.num y.den = R.mul x y := by
  unfold RatOps.impl_mul_with_rbig R.mul
  rw [G.gcd_eq, G.gcd_eq]
  simp only [Int.natAbs_natCast]
  cases h1 : gcdK x.num.natAbs y.den <;> cases h2 : gcdK x.den y.num.natAbs <;> gsimp
  all_goals (first | rfl | (rw [gcdK_error h1, gcdK_error h2]) | (rw [gcdK_error h1]) | (rw [gcdK_error h2]))

theorem gen_mul_with_relaxed (x y : Q) :
    RatOps.impl_mul_with_relaxed (· * ·) x.num x.den y.num y.den x.num x.den y.num y.den = X.mul x y := by
  unfold RatOps.impl_mul_with_relaxed X.mul; gsimp

theorem gen_div_with_rbig (x y : Q) :
    RatOps.impl_div_with_rbig x.num x.den y.num y.den x.num x.den y.num y.den = R.div x y := by
  unfold RatOps.impl_div_with_rbig R.div
  rw [G.gcd_eq, G.gcd_eq]
  simp only [Int.natAbs_natCast]
  by_cases hi : y.num = 0
  · gsimp [hi]
  · cases h1 : gcdK x.num.natAbs y.num.natAbs <;> cases h2 : gcdK x.den y.den <;> gsimp [hi]
    all_goals (first | rfl | (rw [gcdK_error h1, gcdK_error h2]) | (rw [gcdK_error h1]) | (rw [gcdK_error h2]))

theorem gen_div_with_relaxed (x y : Q) :
    RatOps.impl_div_with_relaxed x.num x.den y.num y.den x.num x.den y.num y.den = X.div x y := by
  unfold RatOps.impl_div_with_relaxed X.div
  by_cases hi : y.num = 0 <;> gsimp [hi]

theorem gen_euclid_div (x y : Q) :
    RatOps.impl_euclid_div G.m_div_euclid x.num x.den y.num y.den x.num x.den y.num y.den = R.divEuclid x y := by
  unfold RatOps.impl_euclid_div R.divEuclid G.m_div_euclid
  by_cases hi : y.num = 0 <;> gsimp [hi]

theorem gen_euclid_rem_with_rbig (x y : Q) :
    RatOps.impl_euclid_rem_with_rbig G.m_rem_euclid x.num x.den y.num y.den x.num x.den y.num y.den
      = R.remEuclid x y := by
  unfold RatOps.impl_euclid_rem_with_rbig R.remEuclid G.m_rem_euclid
  rw [G.gcd_eq]
  simp only [Int.natAbs_natCast]
  cases gcdK x.den y.den with
  | error e => rfl
  | ok g => gsimp

theorem gen_euclid_rem_with_relaxed (x y : Q) :
    RatOps.impl_euclid_rem_with_relaxed G.m_rem_euclid x.num x.den y.num y.den x.num x.den y.num y.den
      = X.remEuclid x y := by
  unfold RatOps.impl_euclid_rem_with_relaxed X.remEuclid G.m_rem_euclid
  gsimp

theorem gen_euclid_divrem_with_rbig (x y : Q) :
    RatOps.impl_euclid_divrem_with_rbig G.m_div_rem_euclid x.num x.den y.num y.den x.num x.den y.num y.den
      = R.divRemEuclid x y := by
  unfold RatOps.impl_euclid_divrem_with_rbig R.divRemEuclid G.m_div_rem_euclid
  rw [G.gcd_eq]
  simp only [Int.natAbs_natCast]
  cases gcdK x.den y.den with
  | error e => rfl
  | ok g => gsimp

theorem gen_euclid_divrem_with_relaxed (x y : Q) :
    RatOps.impl_euclid_divrem_with_relaxed G.m_div_rem_euclid x.num x.den y.num y.den x.num x.den y.num y.den
      = X.divRemEuclid x y := by
  unfold RatOps.impl_euclid_divrem_with_relaxed X.divRemEuclid G.m_div_rem_euclid
  gsimp

/-- the remainder selection of `impl_rem_with_*` written over `IBig`/`UBig` values as the macro does
    (`right - &r1` never underflows: `r1 = |left % right| < right`) -/
theorem nearestRem_eq (left : Int) (right : Nat) :
    nearestRem left right = (do
      let t ← G.m_rem left right
      let r1 : Int := (t.natAbs : Int)
      let r2 : Int := (right : Int) - r1
      if r1 < r2 then pure (sgn t * r1) else pure (-sgn t * r2)) := by
  unfold nearestRem G.m_rem
  by_cases h0 : right = 0
  · simp [h0]
  · have hr : (0 : Int) < right := by exact_mod_cast Nat.pos_of_ne_zero h0
    have hlt : (Int.tmod left right).natAbs < right := by
      have h1 := Int.tmod_lt_of_pos left hr
      have h2 : -(right : Int) < Int.tmod left right := by
        have := Int.tmod_lt_of_pos (-left) hr
        rw [Int.neg_tmod] at this
        omega
      omega
    have hcast : (((right - (Int.tmod left right).natAbs : Nat)) : Int) = (right : Int) - ((Int.tmod left right).natAbs : Int) := by
      omega
    simp only [h0, if_false]
    have e : ((Int.tmod left right).natAbs < right - (Int.tmod left right).natAbs) ↔
        (((Int.tmod left right).natAbs : Int) < (right : Int) - ((Int.tmod left right).natAbs : Int)) := by
      omega
    have hne : ¬ ((right : Int) = 0) := by omega
    simp only [hne, if_false, ok_bind, pure_eq_ok]
    by_cases hc : (Int.tmod left right).natAbs < right - (Int.tmod left right).natAbs
    · rw [if_pos hc, if_pos (e.mp hc)]
    · rw [if_neg hc, if_neg (fun h => hc (e.mpr h)), hcast]

theorem gen_rem_with_rbig (x y : Q) :
    RatOps.impl_rem_with_rbig G.m_rem x.num x.den y.num y.den x.num x.den y.num y.den = R.rem x y := by
  unfold RatOps.impl_rem_with_rbig R.rem
  rw [G.gcd_eq]
  simp only [Int.natAbs_natCast]
  cases gcdK x.den y.den with
  | error e => rfl
  | ok g =>
    simp only [map_ok, ok_bind, nearestRem_eq]
    have e1 : G.mul (G.div (↑x.den) ↑g) (G.unsigned_abs y.num) = ((x.den / g * y.num.natAbs : Nat) : Int) := by
      gsimp
    have e2 : G.mul (G.div (↑y.den) ↑g) x.num = ((y.den / g : Nat) : Int) * x.num := by gsimp
    rw [e1, e2]
    cases G.m_rem (((y.den / g : Nat) : Int) * x.num) ((x.den / g * y.num.natAbs : Nat) : Int) with
    | error e => rfl
    | ok t =>
      simp only [ok_bind]
      by_cases hc : ((t.natAbs : Int) < ((x.den / g * y.num.natAbs : Nat) : Int) - (t.natAbs : Int))
      · gsimp [hc]
      · gsimp [hc]

theorem gen_rem_with_relaxed (x y : Q) :
    RatOps.impl_rem_with_relaxed G.m_rem x.num x.den y.num y.den x.num x.den y.num y.den = X.rem x y := by
  unfold RatOps.impl_rem_with_relaxed X.rem
  simp only [nearestRem_eq]
  have e1 : G.mul (G.unsigned_abs y.num) (↑x.den) = ((y.num.natAbs * x.den : Nat) : Int) := by gsimp
  have e2 : G.mul x.num (↑y.den) = x.num * (y.den : Int) := rfl
  simp only [e1, e2]
  cases G.m_rem (x.num * (y.den : Int)) ((y.num.natAbs * x.den : Nat) : Int) with
  | error e => rfl
  | ok t =>
    simp only [ok_bind]
    by_cases hc : ((t.natAbs : Int) < ((y.num.natAbs * x.den : Nat) : Int) - (t.natAbs : Int))
    · gsimp [hc]
    · gsimp [hc]

end Dashu.Model.Ratio
