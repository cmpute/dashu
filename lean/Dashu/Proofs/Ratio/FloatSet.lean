import Dashu.Proofs.Conv.RatSpec
import Dashu.Proofs.Ratio.FBigWindow
/-
  C18 float clause (the rounding interval used by `simplest_from_f32/f64` is exactly the preimage of the float under
  round-to-nearest-even, `Dashu.Model.Conv.ieeeRoundRat`, the IEEE specification of `Model/Conv/Ratio.lean`;
  proved in FloatCore / FloatSpec / FloatFinal).  Here its vocabulary over `ℚ`: `IsRNE`, nearest-even as the window
  `wHalfEven`, which `rneDiv` computes; powers of two; the specification's scaled quotient and its binade `ratTop`.
-/
namespace Dashu.Model.Ratio
open Dashu.Model Dashu.Model.Conv

/-- `n` is the integer nearest to `y`, ties to even -/
def IsRNE (y : ℚ) (n : ℕ) : Prop :=
  (n : ℚ) - 1 / 2 ≤ y ∧ y ≤ n + 1 / 2 ∧ (y = n - 1 / 2 → n % 2 = 0) ∧ (y = n + 1 / 2 → n % 2 = 0)

theorem isRNE_iff_inW {y : ℚ} {n : ℕ} : IsRNE y n ↔ InW wHalfEven n y := by
  simp only [IsRNE, InW, wHalfEven, decide_eq_true_eq]

theorem IsRNE.unique {y : ℚ} {n n' : ℕ} (h : IsRNE y n) (h' : IsRNE y n') : n = n' :=
  InW.unique wHalfEven_ok (isRNE_iff_inW.1 h) (isRNE_iff_inW.1 h')

theorem isRNE_rneDiv (num den : ℕ) (hd : 0 < den) : IsRNE ((num : ℚ) / den) (rneDiv num den) := by
  have h := inW_int (W := wHalfEven) (lo := 1) (hi := 1) (by simp [wHalfEven]) (by simp [wHalfEven]) num den
    (by exact_mod_cast hd) (rneDiv num den)
  rw [Int.cast_natCast, Int.cast_natCast] at h
  rw [isRNE_iff_inW, h]
  -- over integers: `num = den·q + r` with `r < den`, and `rneDiv` compares `2·r` with `den`
  have e := Nat.div_add_mod num den
  have hr := Nat.mod_lt num hd
  unfold rneDiv
  simp only [wHalfEven, decide_eq_true_eq]
  generalize num / den = q at *
  generalize num % den = r at *
  have e' : (num : ℤ) = den * q + r := by exact_mod_cast e.symm
  split_ifs
  all_goals
    push_cast
    simp only [mul_add, add_mul, mul_comm (den : ℤ)] at e' ⊢
    generalize (q : ℤ) * den = F at *
    omega

theorem zpow_natCast_two (k : ℕ) : ((2 ^ k : ℕ) : ℚ) = (2 : ℚ) ^ (k : ℤ) := by
  push_cast; rw [zpow_natCast]

theorem zpow_toNat_two (z : ℤ) (h : 0 ≤ z) : ((2 ^ z.toNat : ℕ) : ℚ) = (2 : ℚ) ^ z := by
  rw [zpow_natCast_two, Int.toNat_of_nonneg h]

theorem two_zpow_pos (z : ℤ) : (0 : ℚ) < (2 : ℚ) ^ z := zpow_pos (by norm_num) z

theorem two_zpow_succ (z : ℤ) : (2 : ℚ) ^ (z + 1) = 2 * (2 : ℚ) ^ z := by
  rw [zpow_add_one₀ (by norm_num)]; ring

theorem two_zpow_pred (z : ℤ) : (2 : ℚ) ^ z = 2 * (2 : ℚ) ^ (z - 1) := by
  have := two_zpow_succ (z - 1); rw [sub_add_cancel] at this; exact this

theorem two_zpow_mono {a b : ℤ} (h : a ≤ b) : (2 : ℚ) ^ a ≤ (2 : ℚ) ^ b :=
  zpow_le_zpow_right₀ (by norm_num) h

theorem two_zpow_strict {a b : ℤ} (h : a < b) : (2 : ℚ) ^ a < (2 : ℚ) ^ b :=
  zpow_lt_zpow_right₀ (by norm_num) h

/-- the spec's scaled quotient `a·2^(−q) / (b·2^q)` is `(a/b) / 2^q` -/
theorem scaled_quot (a b : ℕ) (hb : 0 < b) (q : ℤ) :
    ((a * 2 ^ (-q).toNat : ℕ) : ℚ) / ((b * 2 ^ q.toNat : ℕ) : ℚ) = ((a : ℚ) / b) / (2 : ℚ) ^ q := by
  have hbq : (b : ℚ) ≠ 0 := by exact_mod_cast hb.ne'
  rcases le_total 0 q with h | h
  · have e1 : (-q).toNat = 0 := by omega
    rw [e1, Nat.cast_mul, Nat.cast_mul, zpow_toNat_two q h]
    simp only [pow_zero, Nat.cast_one, mul_one]
    rw [div_div]
  · have e1 : q.toNat = 0 := by omega
    rw [e1, Nat.cast_mul, Nat.cast_mul, zpow_toNat_two (-q) (by omega)]
    simp only [pow_zero, Nat.cast_one, mul_one]
    rw [zpow_neg]
    field_simp

/-- `ratTop a b` is the binade of `a/b` -/
theorem ratTop_spec (a b : ℕ) (ha : a ≠ 0) (hb : b ≠ 0) :
    (2 : ℚ) ^ (ratTop a b - 1) ≤ (a : ℚ) / b ∧ (a : ℚ) / b < (2 : ℚ) ^ (ratTop a b) := by
  obtain ⟨i, j, ht, hlo, hhi⟩ := ratTop_bounds ha hb
  have hbq : (0 : ℚ) < b := by exact_mod_cast Nat.pos_of_ne_zero hb
  have h1 : (b : ℚ) * 2 ^ i ≤ a * 2 ^ (j + 1) := by exact_mod_cast hlo
  have h2 : (a : ℚ) * 2 ^ j < b * 2 ^ i := by exact_mod_cast hhi
  rw [ht, show (i : ℤ) - j - 1 = (i : ℤ) - ((j + 1 : ℕ) : ℤ) by push_cast; ring, zpow_sub₀ (by norm_num),
    zpow_sub₀ (by norm_num), zpow_natCast, zpow_natCast, zpow_natCast, div_le_div_iff₀ (by positivity) hbq,
    div_lt_div_iff₀ hbq (by positivity)]
  exact ⟨by linarith, by linarith⟩

end Dashu.Model.Ratio
