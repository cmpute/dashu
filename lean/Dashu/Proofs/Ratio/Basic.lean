import Dashu.Model.Ratio.Spec
import Mathlib.Tactic.Ring
import Mathlib.Tactic.Linarith
import Mathlib.Tactic.LinearCombination
import Mathlib.Tactic.FieldSimp
import Mathlib.Tactic.Positivity
import Mathlib.Data.Rat.Defs
import Mathlib.Algebra.Order.Field.Rat
import Mathlib.Data.Int.GCD
import Mathlib.Data.Nat.Cast.Field
import Mathlib.Data.Int.Cast.Field
import Mathlib.RingTheory.Coprime.Lemmas
/-
  The value of a stored pair (`Q.val`: its sign is the numerator's) and the reductions of `rational/src/repr.rs`:
  `reduce`, `reduce_with_hint` return the canonical form of the same rational number.  Also `Repr::pow` is
  component-wise `^` (`pow_def`; `Spec.qpow_eq` for the specification), and `common_den`: both operands of `±`, `%`
  and `rem_euclid` over one denominator.
-/
namespace Dashu.Model.Ratio
open Dashu.Model

theorem Q.val_def (q : Q) : q.val = (q.num : ℚ) / (q.den : ℚ) := rfl

@[simp] theorem Q.val_mk (n : ℤ) (d : ℕ) : (⟨n, d⟩ : Q).val = (n : ℚ) / (d : ℚ) := rfl

/-- for a positive denominator the value has the sign of the numerator -/
theorem val_eq_zero_iff {q : Q} (hd : 0 < q.den) : q.val = 0 ↔ q.num = 0 := by
  have hb : (q.den : ℚ) ≠ 0 := by exact_mod_cast hd.ne'
  rw [Q.val_def, div_eq_zero_iff, or_iff_left hb, Int.cast_eq_zero]

theorem val_pos_iff (q : Q) (hd : 0 < q.den) : 0 < q.val ↔ 0 < q.num := by
  have hb : (0 : ℚ) < q.den := by exact_mod_cast hd
  rw [Q.val_def, lt_div_iff₀ hb, zero_mul, Int.cast_pos]

theorem val_neg_iff (q : Q) (hd : 0 < q.den) : q.val < 0 ↔ q.num < 0 := by
  have hb : (0 : ℚ) < q.den := by exact_mod_cast hd
  rw [Q.val_def, div_lt_iff₀ hb, zero_mul, Int.cast_lt_zero]

theorem val_nonneg_iff (q : Q) (hd : 0 < q.den) : 0 ≤ q.val ↔ 0 ≤ q.num := by
  have hb : (0 : ℚ) < q.den := by exact_mod_cast hd
  rw [Q.val_def, le_div_iff₀ hb, zero_mul, Int.cast_nonneg_iff]

theorem reduced_iff_isCoprime (q : Q) :
    Reduced q ↔ 0 < q.den ∧ IsCoprime q.num (q.den : ℤ) := by
  unfold Reduced
  rw [Int.isCoprime_iff_gcd_eq_one, Int.gcd_eq_natAbs_gcd_natAbs, Int.natAbs_natCast]

theorem Reduced.den_pos {q : Q} (h : Reduced q) : 0 < q.den := h.1

theorem Reduced.isCoprime {q : Q} (h : Reduced q) : IsCoprime q.num (q.den : ℤ) :=
  ((reduced_iff_isCoprime q).1 h).2

theorem reduced_zero : Reduced Q.zero := by decide

/-- zero is stored as 0/1 -/
theorem Reduced.zero_den {q : Q} (h : Reduced q) (h0 : q.num = 0) : q.den = 1 := by
  have := h.2; rw [h0] at this; simpa using this

theorem gcdK_of_pos_right (a : ℕ) {b : ℕ} (h : 0 < b) : gcdK a b = .ok (Nat.gcd a b) := by
  unfold gcdK; rw [if_neg]; omega

theorem gcdK_of_pos_left {a : ℕ} (b : ℕ) (h : 0 < a) : gcdK a b = .ok (Nat.gcd a b) := by
  unfold gcdK; rw [if_neg]; omega

/-- the contract of the gcd kernel makes every divisor taken from it positive -/
theorem gcdK_ok_pos {a b g : ℕ} (h : gcdK a b = .ok g) : 0 < g := by
  unfold gcdK at h
  split at h
  · cases h
  · rename_i hn
    cases h
    rcases Nat.eq_zero_or_pos a with ha | ha
    · have hb : 0 < b := by omega
      exact Nat.gcd_pos_of_pos_right _ hb
    · exact Nat.gcd_pos_of_pos_left _ ha

@[simp] theorem bind_ok' {α β : Type} (a : α) (f : α → Except PanicKind β) :
    (Except.ok a >>= f) = f a := rfl

/-- dividing numerator and denominator by a common positive divisor keeps the value -/
theorem val_div_common (n : ℤ) (d g : ℕ) (hg : 0 < g) (hn : (g : ℤ) ∣ n) (hd : g ∣ d) :
    (⟨Int.tdiv n g, d / g⟩ : Q).val = (⟨n, d⟩ : Q).val := by
  have hg' : (g : ℚ) ≠ 0 := by exact_mod_cast hg.ne'
  simp only [Q.val_mk]
  rw [Int.tdiv_eq_ediv_of_dvd hn, Int.cast_div hn (by exact_mod_cast hg.ne'), Nat.cast_div hd hg']
  simp only [Int.cast_natCast]
  rw [div_div_div_cancel_right₀ hg']

theorem natCast_dvd_of_dvd_natAbs {g : ℕ} {n : ℤ} (h : g ∣ n.natAbs) : (g : ℤ) ∣ n :=
  Int.natCast_dvd.mpr h

/-- dividing by the full gcd yields the canonical form -/
theorem reduced_div_gcd (n : ℤ) (d : ℕ) (hd : 0 < d) :
    Reduced ⟨Int.tdiv n (Nat.gcd n.natAbs d : ℕ), d / Nat.gcd n.natAbs d⟩ := by
  have hg : 0 < Nat.gcd n.natAbs d := Nat.gcd_pos_of_pos_right _ hd
  refine ⟨Nat.div_pos (Nat.le_of_dvd hd (Nat.gcd_dvd_right _ _)) hg, ?_⟩
  simp only [Int.natAbs_tdiv, Int.natAbs_natCast]
  exact Nat.coprime_div_gcd_div_gcd hg

/-- `Repr::reduce` -/
theorem reduce_spec (q : Q) (hd : 0 < q.den) :
    ∃ r, reduce q = .ok r ∧ Reduced r ∧ r.val = q.val := by
  unfold reduce
  by_cases h0 : q.num = 0
  · refine ⟨Q.zero, by simp [h0], reduced_zero, ?_⟩
    simp [Q.val_def, Q.zero, h0]
  · rw [if_neg h0, gcdK_of_pos_right _ hd]
    refine ⟨_, rfl, reduced_div_gcd _ _ hd, ?_⟩
    exact val_div_common _ _ _ (Nat.gcd_pos_of_pos_right _ hd)
      (natCast_dvd_of_dvd_natAbs (Nat.gcd_dvd_left _ _)) (Nat.gcd_dvd_right _ _)

theorem reduce_ok {q r : Q} (hd : 0 < q.den) (h : reduce q = .ok r) : Reduced r ∧ r.val = q.val := by
  obtain ⟨r', hr', h'⟩ := reduce_spec q hd
  rw [h] at hr'; cases hr'; exact h'

/-- `Repr::reduce_with_hint`: correct whenever the hint is a positive multiple of the common factor -/
theorem reduceWithHint_spec (q : Q) (hint : ℕ) (hd : 0 < q.den) (hh : 0 < hint)
    (hdvd : Nat.gcd q.num.natAbs q.den ∣ hint) :
    ∃ r, reduceWithHint q hint = .ok r ∧ Reduced r ∧ r.val = q.val := by
  unfold reduceWithHint
  by_cases h0 : q.num = 0
  · refine ⟨Q.zero, by simp [h0], reduced_zero, ?_⟩
    simp [Q.val_def, Q.zero, h0]
  · rw [if_neg h0, gcdK_of_pos_left _ hh]
    simp only [bind_ok']
    rw [gcdK_of_pos_right _ hd]
    simp only [bind_ok']
    have key : Nat.gcd (Nat.gcd hint q.num.natAbs) q.den = Nat.gcd q.num.natAbs q.den := by
      apply Nat.dvd_antisymm
      · exact Nat.dvd_gcd ((Nat.gcd_dvd_left _ _).trans (Nat.gcd_dvd_right _ _)) (Nat.gcd_dvd_right _ _)
      · exact Nat.dvd_gcd (Nat.dvd_gcd hdvd (Nat.gcd_dvd_left _ _)) (Nat.gcd_dvd_right _ _)
    rw [key]
    refine ⟨_, rfl, reduced_div_gcd _ _ hd, ?_⟩
    exact val_div_common _ _ _ (Nat.gcd_pos_of_pos_right _ hd)
      (natCast_dvd_of_dvd_natAbs (Nat.gcd_dvd_left _ _)) (Nat.gcd_dvd_right _ _)

/-- `RBig::from_parts` -/
theorem rFromParts_spec (n : ℤ) (d : ℕ) (hd : 0 < d) :
    ∃ r, rFromParts n d = .ok r ∧ Reduced r ∧ r.val = (n : ℚ) / (d : ℚ) := by
  unfold rFromParts
  rw [if_neg (by omega)]
  exact reduce_spec ⟨n, d⟩ hd

theorem rFromParts_zero (n : ℤ) : rFromParts n 0 = .error .divideByZero := by
  simp [rFromParts]

/-! ### powers (the integer kernels taken at their contract) -/

theorem upowK_eq (b n : ℕ) : upowK b n = b ^ n := by
  unfold upowK
  split
  · next h => rw [h, pow_zero]
  · next h =>
    split
    · next hb => rw [hb, zero_pow h]
    · split
      · next hb => rw [hb, one_pow]
      · rfl

theorem ipowK_eq (a : ℤ) (n : ℕ) : ipowK a n = a ^ n := by
  unfold ipowK
  rw [upowK_eq]
  push_cast
  split
  · next h =>
    have ho : Odd n := Nat.odd_iff.mpr h.2
    rw [abs_of_neg h.1, ho.neg_pow, neg_neg]
  · next h =>
    by_cases ha : a < 0
    · have he : Even n := by
        rcases Nat.even_or_odd n with he | ho
        · exact he
        · exact absurd ⟨ha, Nat.odd_iff.mp ho⟩ h
      rw [abs_of_neg ha, he.neg_pow]
    · rw [abs_of_nonneg (not_lt.mp ha)]

/-- `Repr::pow` is component-wise `^` -/
theorem pow_def (x : Q) (n : ℕ) : pow x n = ⟨x.num ^ n, x.den ^ n⟩ := by
  unfold pow; rw [ipowK_eq, upowK_eq]

theorem Spec.qpow_eq (x : ℚ) (n : ℕ) : Spec.qpow x n = x ^ n := by
  unfold Spec.qpow
  split
  · next h => rw [h, pow_zero]
  · next h =>
    split
    · next hx => rw [hx, zero_pow h]
    · split
      · next hx => rw [hx, one_pow]
      · split
        · next hx =>
          rw [hx]
          split
          · next he => rw [(Nat.even_iff.mpr he).neg_one_pow]
          · next he => rw [(Nat.odd_iff.mpr (by omega)).neg_one_pow]
        · rfl

/-- both operands over the denominator `b·(d/g)`, for a common divisor `g` of the denominators:
    `g = gcd b d` in `RBig`, `g = 1` in `Relaxed` -/
theorem common_den (a c : ℤ) {b d g : ℕ} (hb : 0 < b) (hd : 0 < d) (hgb : g ∣ b) (hgd : g ∣ d) :
    0 < b / g ∧ 0 < b * (d / g) ∧
      (a : ℚ) / b = ((((d / g : ℕ) : ℤ) * a : ℤ) : ℚ) / ((b * (d / g) : ℕ) : ℚ) ∧
      (c : ℚ) / d = ((((b / g : ℕ) : ℤ) * c : ℤ) : ℚ) / ((b * (d / g) : ℕ) : ℚ) := by
  obtain ⟨b', rfl⟩ := hgb
  obtain ⟨d', rfl⟩ := hgd
  have hg : 0 < g := Nat.pos_of_mul_pos_right hb
  have hb' : 0 < b' := Nat.pos_of_mul_pos_left hb
  have hd' : 0 < d' := Nat.pos_of_mul_pos_left hd
  rw [Nat.mul_div_cancel_left _ hg, Nat.mul_div_cancel_left _ hg]
  have hg0 : (g : ℚ) ≠ 0 := by exact_mod_cast hg.ne'
  have hb0 : (b' : ℚ) ≠ 0 := by exact_mod_cast hb'.ne'
  have hd0 : (d' : ℚ) ≠ 0 := by exact_mod_cast hd'.ne'
  refine ⟨hb', Nat.mul_pos hb hd', ?_, ?_⟩
  · push_cast; field_simp
  · push_cast; field_simp

end Dashu.Model.Ratio
