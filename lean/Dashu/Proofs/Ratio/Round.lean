import Dashu.Proofs.Ratio.Rem
/-
  `rational/src/round.rs`: `fract`, `split_at_point`, and the bridges from truncated division to
  `Spec.trunc` / floor that `Props/C04` uses for `trunc`, `floor`, `ceil`, `round`.
-/
namespace Dashu.Model.Ratio
open Dashu.Model

theorem divRemK_pos (a : ℤ) {b : ℕ} (hb : 0 < b) :
    divRemK a b = .ok (Int.tdiv a b, Int.tmod a b) := by
  simp [divRemK, hb.ne']

/-- the floor of a quotient from a decomposition `a = b·k + t`, `0 ≤ t < b` -/
theorem floor_div_eq {a b t : ℚ} (hb : 0 < b) (k : ℤ) (h : a = b * k + t) (h0 : 0 ≤ t) (h1 : t < b) :
    ⌊a / b⌋ = k := by
  rw [Int.floor_eq_iff, le_div_iff₀ hb, div_lt_iff₀ hb, h]
  constructor <;> linarith

/-- `Repr::trunc` -/
theorem trunc_bridge (a : ℤ) (b : ℕ) (hb : 0 < b) : Spec.trunc ((a : ℚ) / b) = Int.tdiv a b := by
  have hbq : (0 : ℚ) < b := by exact_mod_cast hb
  obtain ⟨hd, h1, h2, h3, h4⟩ := tdecomp a b hb
  unfold Spec.trunc
  by_cases h : (0 : ℚ) ≤ (a : ℚ) / b
  · have ha : 0 ≤ a := by
      by_contra hc
      exact not_le.2 (div_neg_of_neg_of_pos (by exact_mod_cast not_le.1 hc) hbq) h
    rw [if_pos h, rat_floor_eq, floor_div_eq hbq _ hd (h1 ha) h3]
  · have ha : a < 0 := by
      by_contra hc
      exact h (div_nonneg (by exact_mod_cast not_lt.1 hc) hbq.le)
    rw [if_neg h, rat_floor_eq, ← neg_div,
      floor_div_eq hbq (-Int.tdiv a b) (t := -(Int.tmod a b : ℚ)) (by rw [hd]; push_cast; ring)
        (by linarith [h2 ha]) (by linarith), neg_neg]

theorem fract_val (a : ℤ) (b : ℕ) (hb : 0 < b) :
    ((Int.tmod a b : ℤ) : ℚ) / b = (a : ℚ) / b - (Spec.trunc ((a : ℚ) / b) : ℚ) := by
  have hbq : (b : ℚ) ≠ 0 := by exact_mod_cast hb.ne'
  rw [trunc_bridge a b hb, Int.tmod_def]
  push_cast; field_simp

/-- `Repr::fract` on both types: "no need to reduce here" (round.rs) is right, the remainder is
    the numerator minus a multiple of the denominator -/
theorem fract_spec (k : Kind) (x : Q) (hx : k.Inv x) :
    ∃ r, fract x = .ok r ∧ k.Inv r ∧ r.val = x.val - (Spec.trunc x.val : ℚ) := by
  obtain ⟨a, b⟩ := x
  have hb : 0 < b := hx.den_pos
  simp only [fract, divRemK_pos _ hb, bind_ok', Q.val_mk]
  refine ⟨_, rfl, ?_, ?_⟩
  · split
    · exact Kind.Inv.zero k
    · have := hx.shift (.inl rfl) (-(Int.tdiv a b))
      rwa [one_mul, mul_neg, ← sub_eq_add_neg, ← Int.tmod_def] at this
  · rw [← fract_val a b hb]
    split
    · rename_i h0; simp [Q.zero, h0]
    · rfl

/-- `Repr::split_at_point` = `(trunc, fract)` -/
theorem splitAtPoint_eq (x : Q) (hb : 0 < x.den) :
    splitAtPoint x = (trunc x >>= fun t => fract x >>= fun f => pure (t, f)) := by
  simp [splitAtPoint, trunc, fract, divRemK_pos _ hb]

end Dashu.Model.Ratio
