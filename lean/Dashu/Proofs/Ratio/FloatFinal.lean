import Dashu.Proofs.Ratio.FloatSpec
import Dashu.Proofs.Ratio.Pick
/-
  C18 float clause: `floatDecode` yields a canonical float, the rounding set is
  `roundingInterval`, and the composed statement for `simplest_from_f32/f64`.
-/
namespace Dashu.Model.Ratio
open Dashu.Model Dashu.Model.Conv

theorem bits_decompose (eb mb bits : ℕ) :
    bits = (bits / 2 ^ (eb + mb)) * 2 ^ (eb + mb) + ((bits / 2 ^ mb) % 2 ^ eb) * 2 ^ mb +
      bits % 2 ^ mb := by
  have h1 := Nat.div_add_mod bits (2 ^ mb)
  have h2 := Nat.div_add_mod (bits / 2 ^ mb) (2 ^ eb)
  have h3 : bits / 2 ^ mb / 2 ^ eb = bits / 2 ^ (eb + mb) := by
    rw [Nat.div_div_eq_div_mul, ← pow_add, Nat.add_comm]
  rw [h3] at h2
  have e : 2 ^ (eb + mb) = 2 ^ eb * 2 ^ mb := pow_add 2 eb mb
  calc bits = 2 ^ mb * (bits / 2 ^ mb) + bits % 2 ^ mb := h1.symm
    _ = 2 ^ mb * (2 ^ eb * (bits / 2 ^ (eb + mb)) + bits / 2 ^ mb % 2 ^ eb) + bits % 2 ^ mb := by
        rw [h2]
    _ = _ := by rw [e]; ring

/-- a finite non-zero bit pattern decodes to a canonical float, and is its sign bit plus
    `magBits` -/
theorem floatDecode_canon (F : Ieee) (hF : F.Ok) (bits : ℕ) (hbits : bits < 2 ^ (F.EB + F.MB + 1))
    (man exp : ℤ) (hdec : floatDecode F.EB F.MB bits = some (man, exp)) (hman : man ≠ 0) :
    Canon F man.natAbs exp ∧ exp + F.MB ≤ F.emax ∧
      bits = (if man < 0 then F.signBit else 0) + magBits F man.natAbs exp := by
  have hdecomp := bits_decompose F.EB F.MB bits
  have hB := F.B_ge hF
  have h2B := F.two_B hF
  have hq1 := F.qmin_eq
  have hq2 := F.emax_eq
  have hqmin : F.qmin = 1 - (2 ^ (F.EB - 1) - 1 : ℤ) - F.MB := by
    unfold Ieee.qmin Ieee.emin Ieee.bias; ring
  have hfin_sub : F.qmin + F.MB ≤ F.emax := by omega
  have hfin_norm : ∀ e : ℕ, e + 2 ≤ 2 ^ F.EB → F.qmin + e - 1 + F.MB ≤ F.emax := by
    intro e he; omega
  unfold floatDecode at hdec
  simp only [Nat.shiftRight_eq_div_pow] at hdec
  set sg := bits / 2 ^ (F.EB + F.MB) with hsg
  set e := (bits / 2 ^ F.MB) % 2 ^ F.EB with he
  set mant := bits % 2 ^ F.MB with hmant
  have hmantlt : mant < 2 ^ F.MB := Nat.mod_lt _ (Nat.two_pow_pos _)
  have helt : e < 2 ^ F.EB := Nat.mod_lt _ (Nat.two_pow_pos _)
  have hsglt : sg < 2 := by
    rw [hsg, Nat.div_lt_iff_lt_mul (Nat.two_pow_pos _)]
    calc bits < 2 ^ (F.EB + F.MB + 1) := hbits
      _ = 2 * 2 ^ (F.EB + F.MB) := by rw [pow_succ]; ring
  have hP2 : 2 ^ (F.MB + 1) = 2 * 2 ^ F.MB := by rw [pow_succ]; ring
  clear_value sg e mant
  clear hsg he hmant
  unfold Canon magBits Ieee.signBit
  by_cases hinf : e = 2 ^ F.EB - 1
  · rw [if_pos hinf] at hdec; exact absurd hdec (by simp)
  rw [if_neg hinf] at hdec
  -- the decoded magnitude M and exponent
  obtain ⟨M, hM, hMex⟩ : ∃ M : ℕ, (man = if sg % 2 = 1 then -(M : ℤ) else (M : ℤ)) ∧
      ((e = 0 ∧ M = mant ∧ exp = F.qmin) ∨ (e ≠ 0 ∧ M = mant + 2 ^ F.MB ∧ exp = F.qmin + e - 1)) := by
    by_cases he0 : e = 0
    · simp only [he0, if_true, Option.some.injEq, Prod.mk.injEq] at hdec
      exact ⟨mant, hdec.1.symm, Or.inl ⟨he0, rfl, by rw [hqmin, ← hdec.2]⟩⟩
    · simp only [he0, if_false, Option.some.injEq, Prod.mk.injEq] at hdec
      exact ⟨mant + 2 ^ F.MB, hdec.1.symm, Or.inr ⟨he0, rfl, by rw [hqmin, ← hdec.2]; ring⟩⟩
  have hMabs : man.natAbs = M := by
    rw [hM]; split
    · rw [Int.natAbs_neg, Int.natAbs_natCast]
    · rw [Int.natAbs_natCast]
  have hM0 : M ≠ 0 := by
    intro h0; apply hman; rw [hM, h0]; simp
  have hneg : (man < 0) ↔ sg % 2 = 1 := by
    have hMpos : (0 : ℤ) < M := by exact_mod_cast Nat.pos_of_ne_zero hM0
    rw [hM]; split
    · rename_i h; constructor
      · intro _; exact h
      · intro _; omega
    · rename_i h; constructor
      · intro hh; omega
      · intro hh; exact absurd hh h
  rw [hMabs]
  -- the sign part of the bit pattern
  have hsign : (if man < 0 then 2 ^ (F.EB + F.MB) else 0) = sg * 2 ^ (F.EB + F.MB) := by
    by_cases hs : sg % 2 = 1
    · rw [if_pos (hneg.2 hs)]; have : sg = 1 := by omega
      rw [this, Nat.one_mul]
    · rw [if_neg (fun h => hs (hneg.1 h))]; have : sg = 0 := by omega
      rw [this, Nat.zero_mul]
  rw [hsign]
  rcases hMex with ⟨he0, hMm, hexq⟩ | ⟨he0, hMm, hexq⟩
  · refine ⟨Or.inr ⟨by omega, by omega, hexq⟩, by rw [hexq]; exact hfin_sub, ?_⟩
    rw [hexq, sub_self, Int.toNat_zero, Nat.zero_mul, Nat.zero_add, hMm]
    rw [he0, Nat.zero_mul, Nat.add_zero] at hdecomp
    exact hdecomp
  · have hele : e + 2 ≤ 2 ^ F.EB := by omega
    refine ⟨Or.inl ⟨by omega, by omega, by omega⟩, by rw [hexq]; exact hfin_norm e hele, ?_⟩
    have hk : (exp - F.qmin).toNat = e - 1 := by omega
    rw [hk, hMm]
    have hcode : (e - 1) * 2 ^ F.MB + (mant + 2 ^ F.MB) = e * 2 ^ F.MB + mant := by
      obtain ⟨j, hj⟩ : ∃ j, e = j + 1 := ⟨e - 1, by omega⟩
      rw [hj]; simp only [Nat.add_sub_cancel]; ring
    rw [hcode]
    omega

theorem roundingInterval_val (mb : ℕ) (minExp : ℤ) (m : ℕ) (exp : ℤ) :
    (roundingInterval mb minExp m exp).1.val =
      ((if m = 2 ^ mb ∧ exp > minExp then 4 * (m : ℤ) - 1 else 4 * (m : ℤ) - 2 : ℤ) : ℚ) *
        (2 : ℚ) ^ (exp - 2) ∧
    (roundingInterval mb minExp m exp).2.val = ((4 * (m : ℤ) + 2 : ℤ) : ℚ) * (2 : ℚ) ^ (exp - 2) := by
  unfold roundingInterval
  simp only
  split
  · rename_i h
    have e : (2 : ℚ) ^ (exp - 2) = (((2 : ℤ) ^ (exp - 2).toNat : ℤ) : ℚ) := by
      rw [← zpow_toNat_two (exp - 2) h]; push_cast; rfl
    constructor <;> simp only [Q.val_def, Nat.cast_one, div_one, e] <;> push_cast <;> ring
  · rename_i h
    have h' : 0 ≤ -(exp - 2) := by omega
    have e : (2 : ℚ) ^ (exp - 2) = 1 / ((2 ^ (-(exp - 2)).toNat : ℕ) : ℚ) := by
      rw [zpow_toNat_two _ h', zpow_neg]; simp
    constructor <;> simp only [Q.val_def, e] <;> ring

/-- the rounding set of the core is the closed `roundingInterval` with the parity rule -/
theorem inSet_iff_interval (F : Ieee) (m : ℕ) (exp : ℤ) (x : ℚ) :
    InSet F m exp x ↔
      ((roundingInterval F.MB F.qmin m exp).1.val ≤ x ∧ x ≤ (roundingInterval F.MB F.qmin m exp).2.val ∧
       (x = (roundingInterval F.MB F.qmin m exp).1.val → m % 2 = 0) ∧
       (x = (roundingInterval F.MB F.qmin m exp).2.val → m % 2 = 0)) := by
  obtain ⟨h1, h2⟩ := roundingInterval_val F.MB F.qmin m exp
  have hU : (2 : ℚ) ^ exp = 4 * (2 : ℚ) ^ (exp - 2) := by
    rw [two_zpow_pred exp, two_zpow_pred (exp - 1)]
    have : exp - 1 - 1 = exp - 2 := by ring
    rw [this]; ring
  have elo : (if m = 2 ^ F.MB ∧ F.qmin < exp then (m : ℚ) * (2 : ℚ) ^ exp - (2 : ℚ) ^ exp / 4
      else (m : ℚ) * (2 : ℚ) ^ exp - (2 : ℚ) ^ exp / 2) = (roundingInterval F.MB F.qmin m exp).1.val := by
    rw [h1, hU]
    by_cases hc : m = 2 ^ F.MB ∧ F.qmin < exp
    · rw [if_pos hc, if_pos (by exact ⟨hc.1, hc.2⟩)]; push_cast; ring
    · rw [if_neg hc, if_neg (by intro h; exact hc ⟨h.1, h.2⟩)]; push_cast; ring
  have ehi : (m : ℚ) * (2 : ℚ) ^ exp + (2 : ℚ) ^ exp / 2 = (roundingInterval F.MB F.qmin m exp).2.val := by
    rw [h2, hU]; push_cast; ring
  unfold InSet
  dsimp only
  rw [elo, ehi]

/-- **`simplest_from_f32/f64`, full statement** (for any IEEE binary format `F`; the model is
    `simplestFromFloat`, the required behaviour — since fix 3d8de53 also the code's): for a finite
    non-zero float given by its bit pattern the result is a reduced fraction that ROUNDS BACK to
    exactly that float (round-to-nearest-even of a rational, `Conv.ieeeRoundRat`), and
    EVERY fraction `p/s` that rounds to that float is at most as simple (its denominator is not
    smaller, and for an equal denominator its numerator magnitude is not smaller). -/
theorem simplestFromFloat_exact (F : Ieee) (hF : F.Ok) (bits : ℕ)
    (hbits : bits < 2 ^ (F.EB + F.MB + 1)) (man exp : ℤ)
    (hdec : floatDecode F.EB F.MB bits = some (man, exp)) (hman : man ≠ 0) :
    ∃ r, simplestFromFloat simplerSpec F.EB F.MB bits = .ok (some (some r)) ∧ Reduced r ∧
      (ieeeRoundRat F .halfEven r.num r.den).1 = bits ∧
      ∀ (p : ℤ) (s : ℕ), 0 < s → (ieeeRoundRat F .halfEven p s).1 = bits → AsSimple r ⟨p, s⟩ := by
  obtain ⟨hcanon, hfin, hbitsEq⟩ := floatDecode_canon F hF bits hbits man exp hdec hman
  obtain ⟨lo, hi, sres, hlo1, hhi1, hlov, hhiv, hres, hset⟩ :=
    ((simplestFromFloat_spec F.EB F.MB bits).2 man exp hdec).2 hman
  have hqmin : (1 - (2 ^ (F.EB - 1) - 1) - (F.MB : ℤ)) = F.qmin := by
    unfold Ieee.qmin Ieee.emin Ieee.bias; ring
  rw [hqmin] at hlo1 hhi1 hlov hhiv
  have hpos := roundingInterval_pos F.MB F.qmin man.natAbs exp (Int.natAbs_pos.mpr hman)
  refine ⟨_, hres, hset.signed (R := fun p d => (ieeeRoundRat F .halfEven p d).1 = bits)
    (reduce_ok hpos.1 hlo1).1 (reduce_ok hpos.2.1 hhi1).1 _ fun p d hd => ?_⟩
  simp only [decide_eq_true_eq]
  rw [hbitsEq, hlov, hhiv, ← inSet_iff_interval]
  simpa only [decide_eq_true_eq] using round_iff F hF (decide (man < 0)) _ exp hcanon hfin p d hd

end Dashu.Model.Ratio
