import Dashu.Proofs.Ratio.Relaxed
import Mathlib.Data.Rat.Floor
/-
  `%` and `rem_euclid` of both types (div.rs) against the `Rat`-level specification (`rem_spec`, `remEuclid_spec`:
  the integer step over a common denominator, then `from_parts` of the type), and the bridges from integer division
  to `Spec.*` that `Props/C04` uses for `div_euclid`, `div_rem_euclid` and `round`: `divEuclid_bridge`,
  `remEuclid_bridge`, `round_div` over `tdecomp`.
-/
namespace Dashu.Model.Ratio
open Dashu.Model

theorem rat_floor_eq (q : ℚ) : q.floor = ⌊q⌋ := rfl

@[simp] theorem bind_error' {α β : Type} (e : PanicKind) (f : α → Except PanicKind β) :
    (Except.error e >>= f) = Except.error e := rfl

theorem cast_eq_sgn_mul_natAbs (c : ℤ) : (c : ℚ) = (sgn c : ℚ) * ((c.natAbs : ℕ) : ℚ) := by
  have := congrArg (Int.cast : ℤ → ℚ) (sgn_mul_natAbs c)
  simp only [Int.cast_mul, Int.cast_natCast] at this
  exact this.symm

/-- characterisation of `Spec.round` (nearest integer, ties away from zero) by bounds -/
theorem round_eq_of_bounds (q : ℚ) (k : ℤ)
    (h1 : 0 ≤ q → (k : ℚ) - 1 / 2 ≤ q ∧ q < k + 1 / 2)
    (h2 : q < 0 → (k : ℚ) - 1 / 2 < q ∧ q ≤ k + 1 / 2) : Spec.round q = k := by
  unfold Spec.round
  by_cases h : 0 ≤ q
  · rw [if_pos h, rat_floor_eq, Int.floor_eq_iff]
    obtain ⟨a, b⟩ := h1 h
    constructor <;> linarith
  · rw [if_neg h, rat_floor_eq]
    obtain ⟨a, b⟩ := h2 (not_le.mp h)
    have : ⌊-q + 1 / 2⌋ = -k := by
      rw [Int.floor_eq_iff]; push_cast; constructor <;> linarith
    rw [this]; ring

theorem round_bounds (q : ℚ) :
    (0 ≤ q → ((Spec.round q : ℤ) : ℚ) - 1 / 2 ≤ q ∧ q < (Spec.round q : ℤ) + 1 / 2) ∧
    (q < 0 → ((Spec.round q : ℤ) : ℚ) - 1 / 2 < q ∧ q ≤ (Spec.round q : ℤ) + 1 / 2) := by
  unfold Spec.round
  constructor
  · intro h
    rw [if_pos h, rat_floor_eq]
    have a := Int.floor_le (q + 1 / 2)
    have b := Int.lt_floor_add_one (q + 1 / 2)
    constructor <;> linarith
  · intro h
    rw [if_neg (not_le.mpr h), rat_floor_eq]
    have a := Int.floor_le (-q + 1 / 2)
    have b := Int.lt_floor_add_one (-q + 1 / 2)
    push_cast
    constructor <;> linarith

theorem round_eq_of_strict (q : ℚ) (k : ℤ) (h1 : (k : ℚ) - 1 / 2 < q) (h2 : q < k + 1 / 2) :
    Spec.round q = k :=
  round_eq_of_bounds q k (fun _ => ⟨h1.le, h2⟩) (fun _ => ⟨h1, h2.le⟩)

/-- rounding half away from zero is an odd function -/
theorem round_neg (q : ℚ) : Spec.round (-q) = -Spec.round q := by
  obtain ⟨b1, b2⟩ := round_bounds q
  apply round_eq_of_bounds
  · intro h
    push_cast
    rcases eq_or_lt_of_le (neg_nonneg.mp h) with h0 | hlt
    · -- q = 0
      have hr : Spec.round q = 0 := by
        rw [h0]; apply round_eq_of_bounds <;> intro _ <;> norm_num
      rw [hr, h0]; norm_num
    · obtain ⟨a, b⟩ := b2 hlt
      constructor <;> linarith
  · intro h
    push_cast
    obtain ⟨a, b⟩ := b1 (by linarith)
    constructor <;> linarith

/-- facts about truncated division by a positive natural number, cast to `ℚ` -/
theorem tdecomp (a : ℤ) (b : ℕ) (hb : 0 < b) :
    (a : ℚ) = b * (Int.tdiv a b : ℚ) + (Int.tmod a b : ℚ) ∧
    (0 ≤ a → (0 : ℚ) ≤ (Int.tmod a b : ℚ)) ∧ (a < 0 → (Int.tmod a b : ℚ) ≤ 0) ∧
    (Int.tmod a b : ℚ) < b ∧ -(b : ℚ) < (Int.tmod a b : ℚ) := by
  have hbZ : (0 : ℤ) < b := by exact_mod_cast hb
  refine ⟨?_, ?_, ?_, ?_, ?_⟩
  · exact_mod_cast (Int.mul_tdiv_add_tmod a b).symm
  · intro h; exact_mod_cast Int.tmod_nonneg _ h
  · intro h
    have : 0 ≤ Int.tmod (-a) b := Int.tmod_nonneg _ (by omega)
    rw [Int.neg_tmod] at this
    have : Int.tmod a b ≤ 0 := by omega
    exact_mod_cast this
  · exact_mod_cast Int.tmod_lt_of_pos a hbZ
  · exact_mod_cast Int.lt_tmod_of_pos a hbZ

/-- rounding a quotient of integers through truncated division `a = b·q + t`: `q` is nearest when
    `2|t| < b`, else it is the next integer away from zero (`t` has the sign of `a`) -/
theorem round_div (a : ℤ) (b : ℕ) (hb : 0 < b) :
    Spec.round ((a : ℚ) / b) =
      if (Int.tmod a b).natAbs * 2 < b then Int.tdiv a b else Int.tdiv a b + sgn (Int.tmod a b) := by
  have hbq : (0 : ℚ) < b := by exact_mod_cast hb
  obtain ⟨hd, h1, h2, h3, h4⟩ := tdecomp a b hb
  have habs : (((Int.tmod a b).natAbs : ℕ) : ℚ) = |(Int.tmod a b : ℚ)| := by
    rw [← Int.cast_natCast, Int.natCast_natAbs, Int.cast_abs]
  generalize Int.tmod a b = t at *
  generalize Int.tdiv a b = q at *
  split_ifs with hc
  · have hcq : |(t : ℚ)| * 2 < b := by rw [← habs]; exact_mod_cast hc
    obtain ⟨c1, c2⟩ := abs_lt.1 (show |(t : ℚ)| < b / 2 by linarith)
    exact round_eq_of_strict _ q (by rw [lt_div_iff₀ hbq]; linarith) (by rw [div_lt_iff₀ hbq]; linarith)
  · have hcq : (b : ℚ) ≤ |(t : ℚ)| * 2 := by rw [← habs]; exact_mod_cast not_lt.1 hc
    rcases lt_or_ge t 0 with ht | ht
    · have htq : (t : ℚ) < 0 := by exact_mod_cast ht
      have ha : (a : ℚ) / b < 0 := div_neg_of_neg_of_pos
        (by exact_mod_cast (by_contra fun h => by have := h1 (not_lt.1 h); linarith : a < 0)) hbq
      rw [abs_of_neg htq] at hcq
      rw [show sgn t = -1 from if_pos ht]
      exact round_eq_of_bounds _ _ (fun h => absurd h (not_le.2 ha)) fun _ =>
        ⟨by rw [lt_div_iff₀ hbq]; push_cast; linarith, by rw [div_le_iff₀ hbq]; push_cast; linarith⟩
    · have htq : (0 : ℚ) ≤ t := by exact_mod_cast ht
      rw [abs_of_nonneg htq] at hcq
      have ha : 0 ≤ (a : ℚ) / b := div_nonneg
        (by exact_mod_cast (by_contra fun h => by have := h2 (not_le.1 h); linarith : 0 ≤ a)) hbq.le
      rw [show sgn t = 1 from if_neg (not_lt.2 ht)]
      exact round_eq_of_bounds _ _ (fun _ =>
        ⟨by rw [le_div_iff₀ hbq]; push_cast; linarith, by rw [div_lt_iff₀ hbq]; push_cast; linarith⟩)
        fun h => absurd ha (not_le.2 h)

/-- the remainder selection of `impl_rem_*`: least-magnitude remainder, ties away from zero -/
theorem nearestRem_spec (L : ℤ) (m : ℕ) (hm : 0 < m) :
    ∃ R, nearestRem L m = .ok R ∧ (R : ℚ) = L - m * (Spec.round ((L : ℚ) / m) : ℚ) := by
  have hlt : (Int.tmod L m).natAbs < m := by
    have := Int.tmod_lt_of_pos L (show (0 : ℤ) < m by exact_mod_cast hm)
    have := Int.lt_tmod_of_pos L (show (0 : ℤ) < m by exact_mod_cast hm)
    omega
  have hLq := (tdecomp L m hm).1
  unfold nearestRem
  rw [if_neg (by omega), round_div L m hm, hLq]
  dsimp only
  generalize Int.tmod L m = t at *
  have hst : (sgn t : ℚ) * |(t : ℚ)| = t := by exact_mod_cast sgn_mul_natAbs t
  by_cases hc : t.natAbs < m - t.natAbs
  · rw [if_pos hc, if_pos (by omega)]
    refine ⟨_, rfl, ?_⟩
    push_cast
    linear_combination hst
  · rw [if_neg hc, if_neg (by omega)]
    refine ⟨_, rfl, ?_⟩
    push_cast [Nat.cast_sub hlt.le]
    linear_combination hst

theorem nearestRem_zero (L : ℤ) : nearestRem L 0 = .error .divideByZero := by
  simp [nearestRem]

/-- from the integer pair `(L, ±m)` over a common denominator to `Spec.rem` -/
theorem rem_bridge (L : ℤ) (m : ℕ) (hm : 0 < m) (D : ℚ) (hD : D ≠ 0) (x y : ℚ) (σ : ℤ)
    (hσ : σ = 1 ∨ σ = -1) (hx : x = L / D) (hy : y = σ * m / D) (R : ℤ)
    (hR : (R : ℚ) = L - m * (Spec.round ((L : ℚ) / m) : ℚ)) : (R : ℚ) / D = Spec.rem x y := by
  have hmq : (m : ℚ) ≠ 0 := by exact_mod_cast hm.ne'
  unfold Spec.rem
  rcases hσ with h | h
  · subst h
    simp only [Int.cast_one, one_mul] at hy
    have hxy : x / y = (L : ℚ) / m := by rw [hx, hy]; field_simp
    rw [hxy, hR, hx, hy]; field_simp
  · subst h
    simp only [Int.cast_neg, Int.cast_one] at hy
    have hxy : x / y = -((L : ℚ) / m) := by rw [hx, hy]; field_simp
    rw [hxy, round_neg, hR, hx, hy]; push_cast; field_simp

theorem sgn_cases (c : ℤ) : sgn c = 1 ∨ sgn c = -1 := by
  unfold sgn; split <;> simp

/-- the integer step of `impl_rem_*` over that denominator -/
theorem rem_common (a c : ℤ) {b d g : ℕ} (hb : 0 < b) (hd : 0 < d) (hgb : g ∣ b) (hgd : g ∣ d)
    (hc : c ≠ 0) :
    ∃ rr, nearestRem (((d / g : ℕ) : ℤ) * a) (b / g * c.natAbs) = .ok rr ∧
      (rr : ℚ) / ((b * (d / g) : ℕ) : ℚ) = Spec.rem ((a : ℚ) / b) ((c : ℚ) / d) := by
  obtain ⟨hb', hD, hx, hy⟩ := common_den a c hb hd hgb hgd
  have hm : 0 < b / g * c.natAbs := Nat.mul_pos hb' (Int.natAbs_pos.mpr hc)
  obtain ⟨rr, hR1, hR2⟩ := nearestRem_spec (((d / g : ℕ) : ℤ) * a) _ hm
  refine ⟨rr, hR1, rem_bridge _ _ hm _ (by exact_mod_cast hD.ne') _ _ (sgn c) (sgn_cases c) hx ?_
    rr hR2⟩
  rw [hy]
  generalize b / g = b'
  push_cast
  rw [cast_eq_sgn_mul_natAbs c]
  ring

/-- `impl_rem_with_rbig` / `impl_rem_with_relaxed`: the integer step over the denominator `b·(d/g)`,
    `g = gcd b d` resp. `g = 1`, then `from_parts` of the type -/
theorem rem_spec (k : Kind) (x y : Q) (hx : k.Inv x) (hy : k.Inv y) :
    (y.num = 0 → evalBin .rem k x y = .error .divideByZero) ∧
    (y.num ≠ 0 → ∃ r, evalBin .rem k x y = .ok r ∧ k.Inv r ∧ r.val = Spec.rem x.val y.val) := by
  obtain ⟨a, b⟩ := x
  obtain ⟨c, d⟩ := y
  have hb : 0 < b := hx.den_pos
  have hd : 0 < d := hy.den_pos
  cases k
  · have hgb := Nat.gcd_dvd_left b d
    have hgd := Nat.gcd_dvd_right b d
    constructor
    · intro h
      simp only at h
      simp [evalBin, R.rem, gcdK_of_pos_right b hd, h, nearestRem_zero, bind_ok', bind_error']
    · intro hc
      obtain ⟨rr, hR1, hR2⟩ := rem_common a c hb hd hgb hgd hc
      obtain ⟨r, hr1, hr2, hr3⟩ := rFromParts_spec rr _ (common_den a c hb hd hgb hgd).2.1
      refine ⟨r, ?_, hr2, hr3.trans hR2⟩
      simp only [evalBin, R.rem, gcdK_of_pos_right b hd, bind_ok', hR1]
      exact hr1
  · constructor
    · intro h
      simp only at h
      simp [evalBin, X.rem, h, nearestRem_zero, bind_error']
    · intro hc
      obtain ⟨rr, hR1, hR2⟩ := rem_common a c hb hd (one_dvd b) (one_dvd d) hc
      simp only [Nat.div_one] at hR1 hR2
      obtain ⟨r, hr1, hr2, hr3⟩ := xFromParts_spec rr _ (Nat.mul_pos hb hd)
      refine ⟨r, ?_, hr2, hr3.trans hR2⟩
      simp only [evalBin, X.rem, mul_comm a, Nat.mul_comm c.natAbs, hR1, bind_ok']
      exact hr1

/-! ### Euclidean division -/

theorem floor_int_div_pos (L R : ℤ) (h : 0 < R) : ⌊(L : ℚ) / R⌋ = L / R := by
  have : (R : ℚ) = ((R.toNat : ℕ) : ℚ) := by
    have := Int.toNat_of_nonneg h.le
    exact_mod_cast this.symm
  rw [this, Rat.floor_intCast_div_natCast, Int.toNat_of_nonneg h.le]

/-- `Spec.divEuclid` of two fractions over a common positive denominator is `Int.ediv` -/
theorem divEuclid_bridge (L R : ℤ) (hR : R ≠ 0) (D : ℚ) (hD : 0 < D) (x y : ℚ)
    (hx : x = L / D) (hy : y = R / D) : Spec.divEuclid x y = L / R := by
  unfold Spec.divEuclid
  rcases lt_or_gt_of_ne hR with h | h
  · have hyneg : ¬ (0 < y) := by
      rw [hy]; exact not_lt.mpr (div_nonpos_of_nonpos_of_nonneg (by exact_mod_cast h.le) hD.le)
    rw [if_neg hyneg, rat_floor_eq]
    have : x / -y = (L : ℚ) / ((-R : ℤ) : ℚ) := by
      rw [hx, hy]; push_cast; field_simp
    rw [this, floor_int_div_pos L (-R) (by omega), Int.ediv_neg, neg_neg]
  · have hypos : 0 < y := by rw [hy]; exact div_pos (by exact_mod_cast h) hD
    rw [if_pos hypos, rat_floor_eq]
    have : x / y = (L : ℚ) / (R : ℚ) := by
      rw [hx, hy]; field_simp
    rw [this, floor_int_div_pos L R h]

theorem remEuclid_bridge (L R : ℤ) (hR : R ≠ 0) (D : ℚ) (hD : 0 < D) (x y : ℚ)
    (hx : x = L / D) (hy : y = R / D) : ((L % R : ℤ) : ℚ) / D = Spec.remEuclid x y := by
  unfold Spec.remEuclid
  rw [divEuclid_bridge L R hR D hD x y hx hy, Int.emod_def, hx, hy]
  push_cast; field_simp

/-- `impl_euclid_rem_with_rbig` / `impl_euclid_rem_with_relaxed` -/
theorem remEuclid_spec (k : Kind) (x y : Q) (hx : k.Inv x) (hy : k.Inv y) :
    (y.num = 0 → evalBin .remEuclid k x y = .error .divideByZero) ∧
    (y.num ≠ 0 → ∃ r, evalBin .remEuclid k x y = .ok r ∧ k.Inv r ∧
      r.val = Spec.remEuclid x.val y.val) := by
  obtain ⟨a, b⟩ := x
  obtain ⟨c, d⟩ := y
  have hb : 0 < b := hx.den_pos
  have hd : 0 < d := hy.den_pos
  cases k
  · constructor
    · intro h
      simp only at h
      simp [evalBin, R.remEuclid, gcdK_of_pos_right b hd, h, remEuclidK, bind_ok', bind_error']
    · intro hc
      obtain ⟨hb', hD, ex, ey⟩ :=
        common_den a c hb hd (Nat.gcd_dvd_left b d) (Nat.gcd_dvd_right b d)
      have hR : ((b / Nat.gcd b d : ℕ) : ℤ) * c ≠ 0 := mul_ne_zero (by exact_mod_cast hb'.ne') hc
      obtain ⟨r, hr1, hr2, hr3⟩ := rFromParts_spec
        ((((d / Nat.gcd b d : ℕ) : ℤ) * a) % (((b / Nat.gcd b d : ℕ) : ℤ) * c)) _ hD
      refine ⟨r, ?_, hr2, hr3.trans (remEuclid_bridge _ _ hR _ (by exact_mod_cast hD) _ _ ex ey)⟩
      simp only [evalBin, R.remEuclid, gcdK_of_pos_right b hd, bind_ok', remEuclidK, if_neg hR]
      exact hr1
  · constructor
    · intro h
      simp only at h
      simp [evalBin, X.remEuclid, h, remEuclidK, bind_error']
    · intro hc
      obtain ⟨-, hD, ex, ey⟩ := common_den a c hb hd (one_dvd b) (one_dvd d)
      simp only [Nat.div_one] at hD ex ey
      have hR : (b : ℤ) * c ≠ 0 := mul_ne_zero (by exact_mod_cast hb.ne') hc
      obtain ⟨r, hr1, hr2, hr3⟩ := xFromParts_spec (((d : ℤ) * a) % ((b : ℤ) * c)) _ hD
      refine ⟨r, ?_, hr2, hr3.trans (remEuclid_bridge _ _ hR _ (by exact_mod_cast hD) _ _ ex ey)⟩
      simp only [evalBin, X.remEuclid, mul_comm a, mul_comm c, bind_ok', remEuclidK, if_neg hR]
      exact hr1

end Dashu.Model.Ratio
