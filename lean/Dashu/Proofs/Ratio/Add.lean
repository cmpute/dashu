import Dashu.Proofs.Ratio.Basic
/-
  `rational/src/add.rs`: `a/b ± c/d` through `g = gcd(b, d)`.
  Key fact (`addsub_gcd_dvd`): with `b = g·b'`, `d = g·d'`, the only common factor the pair
  `(d'·a ± b'·c, b·d')` can still have divides `g` — which is why `reduce_with_hint g` (a gcd with
  the small number `g` instead of with the big numerator/denominator) is a full reduction, and why
  nothing has to be reduced at all when `g = 1`.
-/
namespace Dashu.Model.Ratio
open Dashu.Model

/-- the remaining common factor of the un-reduced sum divides the gcd of the denominators -/
theorem addsub_gcd_dvd (a c : ℤ) (b d : ℕ) (hb : 0 < b) (hd : 0 < d)
    (hab : IsCoprime a (b : ℤ)) (hcd : IsCoprime c (d : ℤ)) (s : ℤ) (hs : s = 1 ∨ s = -1) :
    Nat.gcd (((d / Nat.gcd b d : ℕ) : ℤ) * a + s * (((b / Nat.gcd b d : ℕ) : ℤ) * c)).natAbs
      (b * (d / Nat.gcd b d)) ∣ Nat.gcd b d := by
  set g := Nat.gcd b d with hg
  have hgpos : 0 < g := Nat.gcd_pos_of_pos_left _ hb
  set b' := b / g with hb'
  set d' := d / g with hd'
  have hbg : b = g * b' := (Nat.mul_div_cancel' (Nat.gcd_dvd_left b d)).symm
  have hdg : d = g * d' := (Nat.mul_div_cancel' (Nat.gcd_dvd_right b d)).symm
  have hcop : Nat.Coprime b' d' := Nat.coprime_div_gcd_div_gcd hgpos
  have hcopZ : IsCoprime (b' : ℤ) (d' : ℤ) := Nat.isCoprime_iff_coprime.mpr hcop
  -- a is coprime to b' (a divisor of b), c to d'
  have hab' : IsCoprime a (b' : ℤ) :=
    hab.of_isCoprime_of_dvd_right ⟨(g : ℤ), by rw [hbg]; push_cast; ring⟩
  have hcd' : IsCoprime c (d' : ℤ) :=
    hcd.of_isCoprime_of_dvd_right ⟨(g : ℤ), by rw [hdg]; push_cast; ring⟩
  set N : ℤ := (d' : ℤ) * a + s * ((b' : ℤ) * c) with hN
  -- N is coprime to b' and to d'
  have hNb : IsCoprime N (b' : ℤ) := by
    have h1 : IsCoprime ((d' : ℤ) * a) (b' : ℤ) := IsCoprime.mul_left hcopZ.symm hab'
    have := h1.add_mul_left_left (s * c)
    have e : N = (d' : ℤ) * a + (b' : ℤ) * (s * c) := by rw [hN]; ring
    rw [e]; exact this
  have hNd : IsCoprime N (d' : ℤ) := by
    have hsu : IsUnit s := by rcases hs with h | h <;> simp [h]
    have h1 : IsCoprime (s * ((b' : ℤ) * c)) (d' : ℤ) :=
      (isCoprime_mul_unit_left_left hsu _ _).mpr (IsCoprime.mul_left hcopZ hcd')
    have := h1.add_mul_left_left a
    have e : N = s * ((b' : ℤ) * c) + (d' : ℤ) * a := by rw [hN]; ring
    rw [e]; exact this
  have hNb' : Nat.Coprime N.natAbs b' := by
    have := Int.isCoprime_iff_gcd_eq_one.mp hNb
    rwa [Int.gcd_eq_natAbs_gcd_natAbs, Int.natAbs_natCast] at this
  have hNd' : Nat.Coprime N.natAbs d' := by
    have := Int.isCoprime_iff_gcd_eq_one.mp hNd
    rwa [Int.gcd_eq_natAbs_gcd_natAbs, Int.natAbs_natCast] at this
  -- p = gcd(N, g b' d') is coprime to b' and d', hence divides g
  set p := Nat.gcd N.natAbs (b * d') with hp
  have hpN : p ∣ N.natAbs := Nat.gcd_dvd_left _ _
  have hpD : p ∣ g * b' * d' := by
    have : p ∣ b * d' := Nat.gcd_dvd_right _ _
    rwa [hbg] at this
  have hpb : Nat.Coprime p b' := Nat.Coprime.coprime_dvd_left hpN hNb'
  have hpd : Nat.Coprime p d' := Nat.Coprime.coprime_dvd_left hpN hNd'
  have h1 : p ∣ g * b' := hpd.dvd_of_dvd_mul_right hpD
  exact hpb.dvd_of_dvd_mul_right h1

/-- value of `a/b ± c/d` written over the denominator `b·d/g` -/
theorem addsub_val (a c : ℤ) (b d : ℕ) (hb : 0 < b) (hd : 0 < d) (s : ℤ) :
    ((((d / Nat.gcd b d : ℕ) : ℤ) * a + s * (((b / Nat.gcd b d : ℕ) : ℤ) * c) : ℤ) : ℚ)
      / ((b * (d / Nat.gcd b d) : ℕ) : ℚ) = (a : ℚ) / b + s * ((c : ℚ) / d) := by
  obtain ⟨-, -, hx, hy⟩ := common_den a c hb hd (Nat.gcd_dvd_left b d) (Nat.gcd_dvd_right b d)
  rw [hx, hy]
  generalize d / Nat.gcd b d = d', b / Nat.gcd b d = b'
  push_cast
  ring

/-- `impl_add_or_sub_with_rbig`: for reduced operands the result is reduced and exact -/
theorem R.addSub_spec (sub : Bool) (x y : Q) (hx : Reduced x) (hy : Reduced y) :
    ∃ r, R.addSub sub x y = .ok r ∧ Reduced r ∧
      r.val = if sub then x.val - y.val else x.val + y.val := by
  obtain ⟨a, b⟩ := x
  obtain ⟨c, d⟩ := y
  have hb : 0 < b := hx.den_pos
  have hd : 0 < d := hy.den_pos
  have hab : IsCoprime a (b : ℤ) := hx.isCoprime
  have hcd : IsCoprime c (d : ℤ) := hy.isCoprime
  set s : ℤ := if sub then -1 else 1 with hs
  have hs' : s = 1 ∨ s = -1 := by cases sub <;> simp [hs]
  have hdvd := addsub_gcd_dvd a c b d hb hd hab hcd s hs'
  have hval := addsub_val a c b d hb hd s
  have hgpos : 0 < Nat.gcd b d := Nat.gcd_pos_of_pos_left _ hb
  have hd'pos : 0 < d / Nat.gcd b d :=
    Nat.div_pos (Nat.le_of_dvd hd (Nat.gcd_dvd_right _ _)) hgpos
  have hnum : (if sub then ((d / Nat.gcd b d : ℕ) : ℤ) * a - ((b / Nat.gcd b d : ℕ) : ℤ) * c
      else ((d / Nat.gcd b d : ℕ) : ℤ) * a + ((b / Nat.gcd b d : ℕ) : ℤ) * c)
      = ((d / Nat.gcd b d : ℕ) : ℤ) * a + s * (((b / Nat.gcd b d : ℕ) : ℤ) * c) := by
    cases sub <;> simp [hs] <;> ring
  have hrhs : (if sub then (a : ℚ) / b - (c : ℚ) / d else (a : ℚ) / b + (c : ℚ) / d)
      = (a : ℚ) / b + s * ((c : ℚ) / d) := by
    cases sub <;> simp [hs] <;> ring
  unfold R.addSub
  simp only [gcdK_of_pos_right b hd, bind_ok', Q.val_mk]
  rw [hrhs]
  by_cases hg1 : Nat.gcd b d = 1
  · -- coprime denominators: no reduction needed
    rw [if_pos hg1]
    rw [hg1] at hdvd hval
    simp only [Nat.div_one] at hdvd hval
    have : (if sub then a * (d : ℤ) - c * (b : ℤ) else a * (d : ℤ) + c * (b : ℤ))
        = (d : ℤ) * a + s * ((b : ℤ) * c) := by cases sub <;> simp [hs] <;> ring
    simp only [this]
    exact ⟨_, rfl, ⟨Nat.mul_pos hb hd, Nat.eq_one_of_dvd_one hdvd⟩, hval⟩
  · rw [if_neg hg1]
    simp only [hnum]
    obtain ⟨r, hr, hred, hv⟩ := reduceWithHint_spec
      ⟨((d / Nat.gcd b d : ℕ) : ℤ) * a + s * (((b / Nat.gcd b d : ℕ) : ℤ) * c), b * (d / Nat.gcd b d)⟩
      (Nat.gcd b d) (Nat.mul_pos hb hd'pos) hgpos hdvd
    exact ⟨r, hr, hred, by rw [hv]; exact hval⟩

theorem R.add_spec (x y : Q) (hx : Reduced x) (hy : Reduced y) :
    ∃ r, R.add x y = .ok r ∧ Reduced r ∧ r.val = x.val + y.val := by
  simpa [R.add] using R.addSub_spec false x y hx hy

theorem R.sub_spec (x y : Q) (hx : Reduced x) (hy : Reduced y) :
    ∃ r, R.sub x y = .ok r ∧ Reduced r ∧ r.val = x.val - y.val := by
  simpa [R.sub] using R.addSub_spec true x y hx hy

end Dashu.Model.Ratio
