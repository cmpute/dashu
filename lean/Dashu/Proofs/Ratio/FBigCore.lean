import Dashu.Proofs.Ratio.FBigWindow
/-
  C18 FBig clause: the rounding set of a `p`-digit base-`b` float for a tiling window.
-/
namespace Dashu.Model.Ratio
open Dashu.Model

/-- rounding set of the magnitude `S·b^e` (`S` a `p`-digit significand) for the window `W`:
    `dhi` quanta above, `dlo` quanta below — of the finer quantum `b^(e-1)` when `S = b^(p-1)` -/
def FSet (W : Window) (b p S : ℕ) (e : ℤ) (y : ℚ) : Prop :=
  let U : ℚ := (b : ℚ) ^ e
  let lo : ℚ := if S = b ^ (p - 1) then S * U - W.dlo * (U / b) else S * U - W.dlo * U
  let hi : ℚ := S * U + W.dhi * U
  lo ≤ y ∧ y ≤ hi ∧
    (y = lo → (if S = b ^ (p - 1) then W.inclLo (b ^ p) else W.inclLo S) = true) ∧
    (y = hi → W.inclHi S = true)

theorem bpow_pos (b : ℕ) (hb : 2 ≤ b) (z : ℤ) : (0 : ℚ) < (b : ℚ) ^ z :=
  zpow_pos (by exact_mod_cast (by omega : 0 < b)) z

theorem bpow_add_nat (b : ℕ) (hb : 2 ≤ b) (z : ℤ) (k : ℕ) :
    (b : ℚ) ^ (z + k) = ((b ^ k : ℕ) : ℚ) * (b : ℚ) ^ z := by
  rw [zpow_add₀ (by exact_mod_cast (by omega : b ≠ 0)), zpow_natCast, Nat.cast_pow, mul_comm]

theorem bpow_pred (b : ℕ) (hb : 2 ≤ b) (z : ℤ) : (b : ℚ) ^ (z - 1) = (b : ℚ) ^ z / b :=
  zpow_sub_one₀ (by exact_mod_cast (by omega : b ≠ 0)) z

theorem bpow_lt_iff (b : ℕ) (hb : 2 ≤ b) {x y : ℤ} : (b : ℚ) ^ x < (b : ℚ) ^ y ↔ x < y :=
  zpow_lt_zpow_iff_right₀ (by exact_mod_cast (by omega : 1 < b))

/-- a positive number lies in one binade only -/
theorem bbinade_unique (b : ℕ) (hb : 2 ≤ b) {x : ℚ} {s t : ℤ} (hs1 : (b : ℚ) ^ (s - 1) ≤ x)
    (hs2 : x < (b : ℚ) ^ s) (ht1 : (b : ℚ) ^ (t - 1) ≤ x) (ht2 : x < (b : ℚ) ^ t) : s = t := by
  have h1 := (bpow_lt_iff b hb).1 (lt_of_le_of_lt hs1 ht2)
  have h2 := (bpow_lt_iff b hb).1 (lt_of_le_of_lt ht1 hs2)
  omega

/-- `FSet` by binades.  With `N = b^(p-1)`, `U = b^e`: the part of the set in the binade
    `[N·U, b·N·U)` of `S·U` is the window of `S` at the quantum `U`; only `S = N` has a part below,
    which lies in the binade `[N·U/b, N·U)` and is the window of `b·N` at the quantum `U / b`. -/
theorem fset_iff_binade (W : Window) (hW : W.Ok) (b p S : ℕ) (hb : 2 ≤ b) (hp : 1 ≤ p)
    (hS1 : b ^ (p - 1) ≤ S) (hS2 : S < b ^ p) (e : ℤ) (y : ℚ) :
    FSet W b p S e y ↔
      ((b : ℚ) ^ (e + p - 1) ≤ y ∧ y < (b : ℚ) ^ (e + p) ∧ InW W S (y / (b : ℚ) ^ e)) ∨
      (S = b ^ (p - 1) ∧ (b : ℚ) ^ (e + p - 1 - 1) ≤ y ∧ y < (b : ℚ) ^ (e + p - 1) ∧
        InW W (b ^ p) (y / (b : ℚ) ^ (e - 1))) := by
  have hbq : (2 : ℚ) ≤ b := by exact_mod_cast hb
  have hU := bpow_pos b hb e
  have hV : 0 < (b : ℚ) ^ e / b := div_pos hU (by linarith)
  have hM : ((b ^ p : ℕ) : ℚ) = b * (b ^ (p - 1) : ℕ) := by
    rw [← Nat.cast_mul, ← pow_succ', Nat.sub_add_cancel hp]
  have hN : (1 : ℚ) ≤ (b ^ (p - 1) : ℕ) := by exact_mod_cast Nat.one_le_pow _ _ (by omega)
  have hS1q : ((b ^ (p - 1) : ℕ) : ℚ) ≤ S := by exact_mod_cast hS1
  have hS2q : (S : ℚ) + 1 ≤ (b ^ p : ℕ) := by exact_mod_cast hS2
  -- the binades and quanta in terms of `U` and `V = U / b`
  have e1 : (b : ℚ) ^ (e + p - 1) = (b ^ (p - 1) : ℕ) * (b : ℚ) ^ e := by
    rw [← bpow_add_nat b hb]; congr 1; omega
  have e2 : (b : ℚ) ^ (e + p - 1 - 1) = (b ^ (p - 1) : ℕ) * ((b : ℚ) ^ e / b) := by
    rw [← bpow_pred b hb, ← bpow_add_nat b hb]; congr 1; omega
  rw [e2, e1, bpow_add_nat b hb, bpow_pred b hb, inW_div hU, inW_div hV, hM]
  unfold FSet
  dsimp only
  generalize (b : ℚ) ^ e = U at hU hV ⊢
  generalize hNd : ((b ^ (p - 1) : ℕ) : ℚ) = N at hM hN hS1q ⊢
  rw [hM] at hS2q
  generalize hVd : U / b = V at hV ⊢
  have hUV : U = b * V := by rw [← hVd]; field_simp
  -- products with the window widths, as atoms for `linarith`
  have ha := mul_nonneg hW.lo_nonneg hU.le
  have hc := mul_nonneg hW.hi_nonneg hU.le
  have hac : W.dlo * U + W.dhi * U = U := by rw [← add_mul, hW.sum, one_mul]
  have ha' := mul_nonneg hW.lo_nonneg hV.le
  have hc' := mul_nonneg hW.hi_nonneg hV.le
  have hac' : W.dlo * V + W.dhi * V = V := by rw [← add_mul, hW.sum, one_mul]
  have hNU : N * U ≤ S * U := mul_le_mul_of_nonneg_right hS1q hU.le
  have hSU : S * U + U ≤ b * N * U := by
    have := mul_le_mul_of_nonneg_right hS2q hU.le
    linarith
  have hNV : V ≤ N * V := le_mul_of_one_le_left hV.le hN
  have hbNV : b * N * V = N * U := by rw [hUV]; ring
  have h2NV : 2 * (N * V) ≤ N * U := by
    rw [← hbNV, mul_assoc]
    exact mul_le_mul_of_nonneg_right hbq (by linarith)
  -- a width whose product with a positive quantum vanishes is zero
  have lo0 : ∀ {X : ℚ}, 0 < X → W.dlo * X = 0 → ∀ k, W.inclLo k = true := fun hX h =>
    hW.lo_zero ((mul_eq_zero.1 h).resolve_right hX.ne')
  -- the upper end `b·N·U` of the binade is not in the set: there `dhi = 1`, so `dlo = 0`
  have top : y ≤ S * U + W.dhi * U → (y = S * U + W.dhi * U → W.inclHi S = true) →
      y < b * N * U := fun h2 h4 => by
    refine lt_of_le_of_ne (by linarith) fun h => ?_
    exact hW.excl S ⟨h4 (by linarith), lo0 hU (by linarith) _⟩
  by_cases hpow : S = b ^ (p - 1)
  · have hSN : (S : ℚ) = N := by rw [hpow, hNd]
    rw [if_pos hpow, if_pos hpow, and_iff_right hpow, hbNV]
    rw [hSN] at top ⊢
    constructor
    · rintro ⟨f1, f2, f3, f4⟩
      by_cases hlow : y < N * U
      · exact Or.inr ⟨by linarith, hlow, by linarith, by linarith, f3,
          fun h => absurd h (by linarith)⟩
      · have hge := not_lt.1 hlow
        exact Or.inl ⟨hge, top f2 f4, by linarith, f2, fun h => lo0 hU (by linarith) _, f4⟩
    · rintro (⟨h1, -, -, h2, -, h4⟩ | ⟨h1, h2, g1, -, g3, -⟩)
      · exact ⟨by linarith, h2, fun h => lo0 hV (by linarith) _, h4⟩
      · exact ⟨g1, by linarith, g3, fun h => absurd h (by linarith)⟩
  · have hS' : N * U + U ≤ S * U := by
      have : N + 1 ≤ (S : ℚ) := by rw [← hNd]; exact_mod_cast lt_of_le_of_ne hS1 (Ne.symm hpow)
      have := mul_le_mul_of_nonneg_right this hU.le
      linarith
    rw [if_neg hpow, if_neg hpow]
    simp only [hpow, false_and, or_false]
    constructor
    · rintro ⟨f1, f2, f3, f4⟩
      exact ⟨by linarith, top f2 f4, f1, f2, f3, f4⟩
    · rintro ⟨-, -, h⟩
      exact h

/-- **the core**: let `y` lie in the binade `t` and round to `n` quanta `b^(t-p)`; the rounded value
    is `S·b^e` iff `y` lies in the rounding set of `S·b^e`.  The value `n·b^(t-p)` lies in the
    binade `t`, unless `n = b^p`, when it is the least number of the next one; the binade of
    `S·b^e` is `e + p`. -/
theorem fbig_core (W : Window) (hW : W.Ok) (b p S : ℕ) (hb : 2 ≤ b) (hp : 1 ≤ p)
    (hS1 : b ^ (p - 1) ≤ S) (hS2 : S < b ^ p) (e : ℤ) (y : ℚ) (t : ℤ)
    (ht1 : (b : ℚ) ^ (t - 1) ≤ y) (ht2 : y < (b : ℚ) ^ t) (n : ℕ)
    (hn : InW W n (y / (b : ℚ) ^ (t - p))) :
    (n : ℚ) * (b : ℚ) ^ (t - p) = (S : ℚ) * (b : ℚ) ^ e ↔ FSet W b p S e y := by
  rw [fset_iff_binade W hW b p S hb hp hS1 hS2]
  have hQ := bpow_pos b hb (t - p)
  have hU := bpow_pos b hb e
  have hpp : e + p - 1 - p = e - 1 := by ring
  have hNM : ((b ^ p : ℕ) : ℚ) * (b : ℚ) ^ (e - 1) = (b ^ (p - 1) : ℕ) * (b : ℚ) ^ e := by
    rw [← bpow_add_nat b hb, ← bpow_add_nat b hb]; congr 1; omega
  constructor
  · intro hval
    -- `b^(p-1) ≤ y / b^(t-p) < b^p`, hence `b^(p-1) ≤ n ≤ b^p`
    have e1 : (b : ℚ) ^ (t - 1) = (b ^ (p - 1) : ℕ) * (b : ℚ) ^ (t - p) := by
      rw [← bpow_add_nat b hb]; congr 1; omega
    have e2 : (b : ℚ) ^ t = (b ^ p : ℕ) * (b : ℚ) ^ (t - p) := by
      rw [← bpow_add_nat b hb]; congr 1; ring
    have hn1 : ((b ^ (p - 1) : ℕ) : ℚ) ≤ n := by
      exact_mod_cast hn.le_of_le hW (by rwa [le_div_iff₀ hQ, ← e1])
    have hn2 : n ≤ b ^ p := hn.le_of_ge hW (by rw [div_le_iff₀ hQ, ← e2]; exact ht2.le)
    -- the binade of the value `S·b^e`
    have hs1 : (b : ℚ) ^ (e + p - 1) ≤ S * (b : ℚ) ^ e := by
      have e3 : (b : ℚ) ^ (e + p - 1) = (b ^ (p - 1) : ℕ) * (b : ℚ) ^ e := by
        rw [← bpow_add_nat b hb]; congr 1; omega
      rw [e3]
      exact mul_le_mul_of_nonneg_right (by exact_mod_cast hS1) hU.le
    have hs2 : S * (b : ℚ) ^ e < (b : ℚ) ^ (e + p) := by
      rw [bpow_add_nat b hb]
      exact mul_lt_mul_of_pos_right (by exact_mod_cast hS2) hU
    rw [← hval] at hs1 hs2
    rcases lt_or_eq_of_le hn2 with hlt | heq
    · left
      have h1 : (b : ℚ) ^ (t - 1) ≤ n * (b : ℚ) ^ (t - p) := by
        rw [e1]; exact mul_le_mul_of_nonneg_right hn1 hQ.le
      have h2 : n * (b : ℚ) ^ (t - p) < (b : ℚ) ^ t := by
        rw [e2]; exact mul_lt_mul_of_pos_right (by exact_mod_cast hlt) hQ
      obtain rfl : e + p = t := bbinade_unique b hb hs1 hs2 h1 h2
      rw [add_sub_cancel_right] at hn hval
      obtain rfl : n = S := by exact_mod_cast mul_right_cancel₀ hU.ne' hval
      exact ⟨ht1, ht2, hn⟩
    · right
      rw [heq, ← e2] at hs1 hs2 hval
      have h1 := (bpow_lt_iff b hb).1 hs2
      have h2 : e + p - 1 ≤ t :=
        (zpow_le_zpow_iff_right₀ (by exact_mod_cast (by omega : 1 < b))).1 hs1
      obtain rfl : e + p - 1 = t := by omega
      rw [hpp] at hn
      rw [e2, hpp, hNM] at hval
      rw [heq] at hn
      exact ⟨by exact_mod_cast (mul_right_cancel₀ hU.ne' hval).symm, ht1, ht2, hn⟩
  · rintro (⟨h1, h2, hS⟩ | ⟨hSN, h1, h2, hM⟩)
    · obtain rfl := bbinade_unique b hb h1 h2 ht1 ht2
      rw [add_sub_cancel_right] at hn ⊢
      rw [InW.unique hW hn hS]
    · obtain rfl := bbinade_unique b hb h1 h2 ht1 ht2
      rw [hpp] at hn ⊢
      rw [InW.unique hW hn hM, hSN, hNM]

end Dashu.Model.Ratio
