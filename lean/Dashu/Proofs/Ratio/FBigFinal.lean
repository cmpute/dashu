import Dashu.Proofs.Ratio.FBigModel
import Dashu.Proofs.Ratio.Pick
/-
  C18 FBig clause: `simplest_from_float` (required behaviour, `Quirks.none`): the result rounds
  back to the float and is the simplest fraction that does.
-/
namespace Dashu.Model.Ratio
open Dashu.Model

/-- number of base-`b` digits: `b^(k-1) ≤ n < b^k` -/
theorem digitsB_spec (b : ℕ) (hb : 2 ≤ b) : ∀ (n fuel : ℕ), 0 < n → n ≤ fuel →
    b ^ (digitsB b fuel n - 1) ≤ n ∧ n < b ^ (digitsB b fuel n) ∧ 1 ≤ digitsB b fuel n := by
  intro n
  induction n using Nat.strong_induction_on with
  | _ n ih =>
    intro fuel hn hf
    obtain ⟨f, rfl⟩ : ∃ f, fuel = f + 1 := ⟨fuel - 1, by omega⟩
    rw [digitsB, if_neg (by omega)]
    by_cases hq : n / b = 0
    · have hlt : n < b := by
        by_contra hc
        have : 1 ≤ n / b := Nat.div_pos (by omega) (by omega)
        omega
      have : digitsB b f (n / b) = 0 := by
        rw [hq]; cases f <;> simp [digitsB]
      rw [this]
      exact ⟨by simp; omega, by simpa using hlt, by omega⟩
    · have hlt : n / b < n := Nat.div_lt_self hn (by omega)
      obtain ⟨h1, h2, h3⟩ := ih (n / b) hlt f (Nat.pos_of_ne_zero hq) (by omega)
      set k := digitsB b f (n / b) with hk
      have hdm := Nat.div_add_mod n b
      have hmod := Nat.mod_lt n (by omega : 0 < b)
      refine ⟨?_, ?_, by omega⟩
      · have e : 1 + k - 1 = (k - 1) + 1 := by omega
        rw [e, pow_succ]
        calc b ^ (k - 1) * b ≤ (n / b) * b := Nat.mul_le_mul_right b h1
          _ ≤ n := by rw [Nat.mul_comm]; omega
      · have e : 1 + k = k + 1 := by omega
        rw [e, pow_succ]
        have h5 : n / b + 1 ≤ b ^ k := h2
        have h6 : (n / b + 1) * b ≤ b ^ k * b := Nat.mul_le_mul_right b h5
        have h7 : (n / b + 1) * b = b * (n / b) + b := by ring
        omega

theorem scaleQ_val (m : ℤ) (b : ℕ) (hb : 2 ≤ b) (e : ℤ) :
    (scaleQ m b e).val = (m : ℚ) * (b : ℚ) ^ e ∧ 0 < (scaleQ m b e).den := by
  unfold scaleQ
  have hb0 : (b : ℚ) ≠ 0 := by exact_mod_cast (by omega : b ≠ 0)
  split
  · rename_i h
    refine ⟨?_, by simp⟩
    simp only [Q.val_def, Nat.cast_one, div_one]
    push_cast
    rw [← zpow_natCast, Int.toNat_of_nonneg h]
  · rename_i h
    refine ⟨?_, Nat.pow_pos (by omega)⟩
    simp only [Q.val_def]
    push_cast
    rw [← zpow_natCast, Int.toNat_of_nonneg (by omega), zpow_neg]
    field_simp

/-- `w` units of `b^(e-1)/2`, as the pair the model builds: `scaleQ w b (e-1)` with the denominator doubled -/
theorem halfScale_val (b : ℕ) (hb : 2 ≤ b) (e w : ℤ) :
    0 < (⟨(scaleQ w b (e - 1)).num, (scaleQ w b (e - 1)).den * 2⟩ : Q).den ∧
      (⟨(scaleQ w b (e - 1)).num, (scaleQ w b (e - 1)).den * 2⟩ : Q).val =
        (w : ℚ) * ((b : ℚ) ^ (e - 1) / 2) := by
  obtain ⟨hv, hdp⟩ := scaleQ_val w b hb (e - 1)
  refine ⟨by simp only; omega, ?_⟩
  have hd0 : ((scaleQ w b (e - 1)).den : ℚ) ≠ 0 := by exact_mod_cast hdp.ne'
  rw [Q.val_def] at hv
  simp only [Q.val_def]
  push_cast
  rw [← div_div, hv]; ring

/-- the model's set (integer table scaled by `b^(e-1)/2`) is `FSet` of the mode's window -/
theorem modelSet_iff_FSet (mode : RMode) (b p : ℕ) (hb : 2 ≤ b) (neg : Bool) (S : ℕ) (odd : Bool)
    (e : ℤ) (y : ℚ) :
    let r := roundingSet Quirks.none mode b p neg S odd
    let sc : ℚ := (b : ℚ) ^ (e - 1) / 2
    ((r.1 : ℚ) * sc ≤ y ∧ y ≤ (r.2.1 : ℚ) * sc ∧ (y = (r.1 : ℚ) * sc → r.2.2.1 = true) ∧
      (y = (r.2.1 : ℚ) * sc → r.2.2.2 = true)) ↔ FSet (windowOf mode.toF neg) b p S e y := by
  intro r sc
  obtain ⟨h1, h2, h3, h4⟩ := roundingSet_window mode b p neg S odd
  have hb0 : (b : ℚ) ≠ 0 := by exact_mod_cast (by omega : b ≠ 0)
  have hU : (b : ℚ) ^ e = (b : ℚ) ^ (e - 1) * b := by
    have : e = (e - 1) + 1 := by ring
    conv_lhs => rw [this]
    rw [zpow_add_one₀ hb0]
  unfold FSet
  dsimp only
  have elo : (r.1 : ℚ) * sc =
      (if S = b ^ (p - 1) then (S : ℚ) * (b : ℚ) ^ e - (windowOf mode.toF neg).dlo * ((b : ℚ) ^ e / b)
       else (S : ℚ) * (b : ℚ) ^ e - (windowOf mode.toF neg).dlo * (b : ℚ) ^ e) := by
    rw [h1, hU]
    split <;> (simp only [sc]; field_simp)
  have ehi : (r.2.1 : ℚ) * sc = (S : ℚ) * (b : ℚ) ^ e + (windowOf mode.toF neg).dhi * (b : ℚ) ^ e := by
    rw [h2, hU]; simp only [sc]; field_simp
  rw [elo, ehi, h3, h4]

theorem roundsTo_ne_zero {b : ℕ} (hb : 2 ≤ b) {m : FMode} {p : ℕ} {x v : ℚ}
    (h : RoundsTo b m p x v) : x ≠ 0 := by
  obtain ⟨t, h1, _, _⟩ := h
  intro h0
  rw [h0, abs_zero] at h1
  exact absurd h1 (not_le.mpr (bpow_pos b hb _))

/-- **the normalised float.**  A non-zero significand `a` of `n ≤ p` digits, padded with `p - n`
    zero digits, is a `p`-digit significand; and for every padding `k`, `signif·b^exp` is
    `±(|signif|·b^k)·b^(exp-k)`. -/
theorem fnorm_spec (b : ℕ) (hb : 2 ≤ b) :
    (∀ {a n p : ℕ}, b ^ (n - 1) ≤ a → a < b ^ n → 1 ≤ n → n ≤ p →
      b ^ (p - 1) ≤ a * b ^ (p - n) ∧ a * b ^ (p - n) < b ^ p) ∧
    ∀ (signif exp : ℤ) (k : ℕ), (signif : ℚ) * (b : ℚ) ^ exp =
      (if decide (signif < 0) = true then -((signif.natAbs * b ^ k : ℕ) : ℚ)
        else ((signif.natAbs * b ^ k : ℕ) : ℚ)) * (b : ℚ) ^ (exp - (k : ℤ)) := by
  have hb0 : (b : ℚ) ≠ 0 := by exact_mod_cast (by omega : b ≠ 0)
  refine ⟨fun {a n p} h1 h2 hn hnp => ⟨?_, ?_⟩, fun signif exp k => ?_⟩
  · rw [show p - 1 = (n - 1) + (p - n) by omega, pow_add]
    exact Nat.mul_le_mul_right _ h1
  · rw [show b ^ p = b ^ n * b ^ (p - n) by rw [← pow_add]; congr 1; omega]
    exact Nat.mul_lt_mul_of_pos_right h2 (Nat.pow_pos (by omega))
  · have habs : ((signif.natAbs : ℕ) : ℚ) = |(signif : ℚ)| := by
      rw [← Int.cast_natCast, Int.natCast_natAbs, Int.cast_abs]
    have hk : (b : ℚ) ^ k * ((b : ℚ) ^ exp / (b : ℚ) ^ k) = (b : ℚ) ^ exp :=
      mul_div_cancel₀ _ (pow_ne_zero k hb0)
    rw [zpow_sub₀ hb0, zpow_natCast, Nat.cast_mul, Nat.cast_pow, habs]
    by_cases hlt : signif < 0
    · rw [if_pos (decide_eq_true hlt), abs_of_neg (by exact_mod_cast hlt), neg_mul, neg_mul, neg_mul, neg_neg, mul_assoc, hk]
    · rw [if_neg (by simpa using hlt), abs_of_nonneg (by exact_mod_cast (not_lt.mp hlt)), mul_assoc, hk]

/-- **the tail of `simplestFromFBig`** on a `p`-digit significand `S`, exponent `e` and sign `neg`:
    the two ends of the table `roundingSet Quirks.none` reduce, `pickSimplest` answers, and `±` its
    answer rounds to `±S·b^e` and is at least as simple as every fraction that does. -/
theorem fbigTail_exact (mode : RMode) (b p S : ℕ) (hb : 2 ≤ b) (hp : 1 ≤ p) (hS1 : b ^ (p - 1) ≤ S)
    (hS2 : S < b ^ p) (e : ℤ) (neg odd : Bool) (rs : ℤ × ℤ × Bool × Bool)
    (hrs : rs = roundingSet Quirks.none mode b p neg S odd) :
    ∃ lo hi s,
      reduce ⟨(scaleQ rs.1 b (e - 1)).num, (scaleQ rs.1 b (e - 1)).den * 2⟩ = .ok lo ∧
      reduce ⟨(scaleQ rs.2.1 b (e - 1)).num, (scaleQ rs.2.1 b (e - 1)).den * 2⟩ = .ok hi ∧
      pickSimplest simplerSpec lo hi rs.2.2.1 rs.2.2.2 = .ok (some s) ∧
      Reduced (mulSign s neg) ∧
      RoundsTo b mode.toF p (mulSign s neg).val ((if neg then -(S : ℚ) else (S : ℚ)) * (b : ℚ) ^ e) ∧
      ∀ (p' : ℤ) (s' : ℕ), 0 < s' →
        RoundsTo b mode.toF p ((p' : ℚ) / s') ((if neg then -(S : ℚ) else (S : ℚ)) * (b : ℚ) ^ e) →
        AsSimple (mulSign s neg) ⟨p', s'⟩ := by
  obtain ⟨hlopos, hlohi⟩ := roundingSet_pos_lt mode b p neg S odd hb hS1
  have hset := modelSet_iff_FSet mode b p hb neg S odd e
  dsimp only at hset
  rw [← hrs] at hlopos hlohi hset
  have hscpos : (0 : ℚ) < (b : ℚ) ^ (e - 1) / 2 := div_pos (bpow_pos b hb _) (by norm_num)
  have hmk := halfScale_val b hb e
  obtain ⟨lo, hlo1, hlo2, hlo3⟩ := reduce_spec _ (hmk rs.1).1
  obtain ⟨hi, hhi1, hhi2, hhi3⟩ := reduce_spec _ (hmk rs.2.1).1
  rw [(hmk _).2] at hlo3 hhi3
  have hlonum : 0 < lo.num := (val_pos_iff lo hlo2.den_pos).1 (by rw [hlo3]; exact mul_pos hlopos hscpos)
  obtain ⟨s, hpick, hs⟩ := pickSimplest_spec lo hi hlo2 hhi2 hlonum
    (by rw [hlo3, hhi3]; exact mul_lt_mul_of_pos_right hlohi hscpos) rs.2.2.1 rs.2.2.2
  refine ⟨lo, hi, s, hlo1, hhi1, hpick, SimplestOfSet.signed
    (R := fun p' s' => RoundsTo b mode.toF p ((p' : ℚ) / s') ((if neg then -(S : ℚ) else (S : ℚ)) * (b : ℚ) ^ e))
    hlo2 hhi2 hs neg fun p' d hd => ?_⟩
  -- a fraction rounds to the float iff it is non-zero, of its sign, with its magnitude in the table's set
  rw [hlo3, hhi3, hset, ← abs_frac p' hd]
  by_cases h0 : p' = 0
  · simp only [h0, ne_eq, not_true_eq_false, false_and, iff_false]
    exact fun h => roundsTo_ne_zero hb h (by simp)
  · rw [fbig_rounding_set mode.toF b p S hb hp hS1 hS2 e neg _
        (show (p' : ℚ) / d ≠ 0 from (val_eq_zero_iff (q := ⟨p', d⟩) hd).not.2 h0),
      show ((p' : ℚ) / d < 0 ↔ p' < 0) from val_neg_iff ⟨p', d⟩ hd]
    simp only [ne_eq, h0, not_false_eq_true, true_and]

/-- **`RBig::simplest_from_float`, required behaviour** (`Quirks.none`), every base `b ≥ 2`,
    mode and precision `p ≥ 1`: for a non-zero float `signif·b^exp` with at most `p` digits the
    result is a reduced fraction that ROUNDS BACK to exactly that float at `p` digits under the
    mode (`RoundsTo`, over `Float.roundInt`), and EVERY fraction that rounds to the float is at
    most as simple. -/
theorem simplestFromFBig_exact (mode : RMode) (b : ℕ) (hb : 2 ≤ b)
    (signif exp : ℤ) (p : ℕ) (hs : signif ≠ 0) (hp : 1 ≤ p)
    (hdig : digitsB b (signif.natAbs + 1) signif.natAbs ≤ p) :
    ∃ r, simplestFromFBig Quirks.none simplerSpec mode b signif exp p = .ok (some r) ∧
      Reduced r ∧ RoundsTo b mode.toF p r.val ((signif : ℚ) * (b : ℚ) ^ exp) ∧
      ∀ (p' : ℤ) (s' : ℕ), 0 < s' →
        RoundsTo b mode.toF p ((p' : ℚ) / s') ((signif : ℚ) * (b : ℚ) ^ exp) →
        AsSimple r ⟨p', s'⟩ := by
  obtain ⟨hd1, hd2, hd3⟩ := digitsB_spec b hb signif.natAbs (signif.natAbs + 1)
    (Int.natAbs_pos.mpr hs) (by omega)
  obtain ⟨hS1, hS2⟩ := (fnorm_spec b hb).1 hd1 hd2 hd3 hdig
  obtain ⟨lo, hi, s, hlo, hhi, hpick, hred, hback, hopt⟩ := fbigTail_exact mode b p _ hb hp hS1 hS2
    (exp - ((p - digitsB b (signif.natAbs + 1) signif.natAbs : ℕ) : ℤ)) (decide (signif < 0))
    (decide (signif.natAbs % 2 = 1)) _ rfl
  rw [← (fnorm_spec b hb).2] at hback hopt
  refine ⟨_, ?_, hred, hback, hopt⟩
  simp only [simplestFromFBig, if_neg hs, if_neg (by omega : ¬ p = 0), if_neg (not_lt.2 hdig), hlo, hhi,
    hpick, bind_ok']
  rfl

end Dashu.Model.Ratio
