import Dashu.Proofs.Ratio.Add
import Dashu.Proofs.Ratio.Round
/-
  History theorem: every step of every register program returns a value that satisfies the
  invariant of its type and equals the value-level specification; a step panics exactly where
  the specification divides by zero, with `DivideByZero`.
-/
namespace Dashu.Model.Ratio
open Dashu.Model

theorem Reg.inv_iff (r : Reg) : r.Inv ↔ r.kind.Inv r.q := by
  obtain ⟨k, q⟩ := r; cases k <;> rfl

/-- a model outcome agrees with a specification outcome -/
def Good (k : Kind) (m : Except PanicKind Q) (spec : Option ℚ) : Prop :=
  match m with
  | .ok q => k.Inv q ∧ spec = some q.val
  | .error e => e = .divideByZero ∧ spec = none

theorem good_ok {k : Kind} {q : Q} {v : ℚ} (h : k.Inv q) (hv : q.val = v) :
    Good k (.ok q) (some v) := ⟨h, by rw [hv]⟩

theorem good_and {k : Kind} {q : Q} {v : ℚ} (h : k.Inv q ∧ q.val = v) : Good k (.ok q) (some v) :=
  good_ok h.1 h.2

theorem good_ex {k : Kind} {m : Except PanicKind Q} {v : ℚ}
    (h : ∃ r, m = .ok r ∧ k.Inv r ∧ r.val = v) : Good k m (some v) := by
  obtain ⟨r, rfl, h1, h2⟩ := h; exact good_ok h1 h2

theorem good_split {k : Kind} {m : Except PanicKind Q} {c : Prop} [Decidable c] {v : ℚ}
    (h : (c → m = .error .divideByZero) ∧ (¬ c → ∃ r, m = .ok r ∧ k.Inv r ∧ r.val = v)) :
    Good k m (if c then none else some v) := by
  by_cases hc : c
  · rw [if_pos hc, h.1 hc]; exact ⟨rfl, rfl⟩
  · rw [if_neg hc]; exact good_ex (h.2 hc)

/-- two outcomes that meet the same specification agree: the same value, or the same panic -/
theorem Good.agree {k k' : Kind} {m m' : Except PanicKind Q} {spec : Option ℚ}
    (h : Good k m spec) (h' : Good k' m' spec) :
    match (generalizing := false) m, m' with
    | .ok r, .ok r' => r.val = r'.val
    | .error e, .error e' => e = e'
    | _, _ => False := by
  cases m <;> cases m' <;> simp only [Good] at h h' ⊢
  · rw [h.1, h'.1]
  · rw [h.2] at h'; exact absurd h'.2 (by simp)
  · rw [h'.2] at h; exact absurd h.2 (by simp)
  · exact Option.some.inj (h.2.symm.trans h'.2)

/-- `Relaxed::from_parts` meets any specification that its quotient meets -/
theorem good_xFromParts {n : ℤ} {d : ℕ} {v : ℚ} (hd : 0 < d) (hv : (n : ℚ) / d = v) :
    Good .X (xFromParts n d) (some v) := by
  obtain ⟨r, h1, h2, h3⟩ := xFromParts_spec n d hd
  exact good_ex ⟨r, h1, h2, h3.trans hv⟩

/-- a zero test in front of an operation, against the same test on the value -/
theorem good_guard {k : Kind} {m : Except PanicKind Q} {c c' : Prop} [Decidable c] [Decidable c']
    {v : ℚ} (hc : c' ↔ c) (h : ¬ c → Good k m (some v)) :
    Good k (if c then .error .divideByZero else m) (if c' then none else some v) := by
  by_cases h0 : c
  · rw [if_pos h0, if_pos (hc.2 h0)]; exact ⟨rfl, rfl⟩
  · rw [if_neg h0, if_neg (mt hc.1 h0)]; exact h h0

theorem evalBin_good (o : Bin) (k : Kind) (x y : Q) (hx : k.Inv x) (hy : k.Inv y) :
    Good k (evalBin o k x y) (Spec.bin o x.val y.val) := by
  have hz := val_eq_zero_iff hy.den_pos
  cases k
  · cases o <;> simp only [evalBin, Spec.bin, hz]
    · exact good_ex (R.add_spec x y hx hy)
    · exact good_ex (R.sub_spec x y hx hy)
    · exact good_ex (R.mul_spec x y hx hy)
    · exact good_split (R.div_spec x y hx hy)
    · exact good_split (rem_spec .R x y hx hy)
    · exact good_split (remEuclid_spec .R x y hx hy)
  · -- `Relaxed`: a zero test, then `from_parts` of the textbook numerator and denominator
    have hb0 : (x.den : ℚ) ≠ 0 := by exact_mod_cast hx.den_pos.ne'
    have hd0 : (y.den : ℚ) ≠ 0 := by exact_mod_cast hy.den_pos.ne'
    have hbd := Nat.mul_pos hx.den_pos hy.den_pos
    cases o
    · exact good_xFromParts hbd (by simp [Q.val_def]; field_simp)
    · exact good_xFromParts hbd (by simp [Q.val_def]; field_simp)
    · exact good_xFromParts hbd (by simp [Q.val_def]; field_simp)
    · refine good_guard hz fun hc => ?_
      have h5 : (y.num : ℚ) ≠ 0 := by exact_mod_cast hc
      have h6 := sgn_cast_ne_zero y.num
      refine good_xFromParts (Nat.mul_pos hx.den_pos (Int.natAbs_pos.mpr hc)) ?_
      simp only [Q.val_def, Int.cast_mul, Int.cast_natCast, Nat.cast_mul, natAbs_cast_eq]
      field_simp
    · simp only [evalBin, Spec.bin, hz]; exact good_split (rem_spec .X x y hx hy)
    · simp only [evalBin, Spec.bin, hz]; exact good_split (remEuclid_spec .X x y hx hy)

/-- an integer operand is the pair `z/1` -/
theorem evalInt_eq_bin (x : Q) (z : ℤ) :
    evalIntR .mul .X x z = evalBin .mul .X x ⟨z, 1⟩ ∧ evalIntR .div .X x z = evalBin .div .X x ⟨z, 1⟩ ∧
      evalIntL .mul .X z x = evalBin .mul .X x ⟨z, 1⟩ ∧ evalIntL .div .X z x = evalBin .div .X ⟨z, 1⟩ x :=
  ⟨X.mulInt_eq_mul x z, X.divInt_eq_div x z, X.mulInt_eq_mul x z, X.intDiv_eq_div z x⟩

theorem evalIntR_good (o : IntOp) (k : Kind) (x : Q) (z : ℤ) (hx : k.Inv x) :
    Good k (evalIntR o k x z) (Spec.intR o x.val z) := by
  cases k
  · cases o <;> simp only [evalIntR, Spec.intR]
    · exact good_and (addSubInt_spec .R false x z hx)
    · exact good_and (addSubInt_spec .R true x z hx)
    · exact good_ex (R.mulInt_spec x z hx)
    · exact good_split (R.divInt_spec x z hx)
  · have hm := evalBin_good .mul .X x ⟨z, 1⟩ hx (relaxedInv_int z)
    have hd := evalBin_good .div .X x ⟨z, 1⟩ hx (relaxedInv_int z)
    rw [val_int, ← (evalInt_eq_bin x z).1] at hm
    rw [val_int, ← (evalInt_eq_bin x z).2.1] at hd
    cases o
    · exact good_and (addSubInt_spec .X false x z hx)
    · exact good_and (addSubInt_spec .X true x z hx)
    · exact hm
    · simpa only [Spec.bin, Spec.intR, Int.cast_eq_zero] using hd

theorem evalIntL_good (o : IntOp) (k : Kind) (z : ℤ) (x : Q) (hx : k.Inv x) :
    Good k (evalIntL o k z x) (Spec.intL o z x.val) := by
  have hz := val_eq_zero_iff hx.den_pos
  cases k
  · cases o <;> simp only [evalIntL, Spec.intL, hz]
    · exact good_ok (addSubInt_spec .R false x z hx).1 ((addSubInt_spec .R false x z hx).2.trans (add_comm _ _))
    · exact good_and (intSub_spec .R z x hx)
    · exact good_ex (by obtain ⟨r, h1, h2, h3⟩ := R.mulInt_spec x z hx
                        exact ⟨r, h1, h2, by rw [h3, mul_comm]⟩)
    · exact good_split (R.intDiv_spec z x hx)
  · have hm := evalBin_good .mul .X x ⟨z, 1⟩ hx (relaxedInv_int z)
    have hd := evalBin_good .div .X ⟨z, 1⟩ x (relaxedInv_int z) hx
    rw [val_int, ← (evalInt_eq_bin x z).2.2.1] at hm
    rw [val_int, ← (evalInt_eq_bin x z).2.2.2] at hd
    cases o
    · exact good_ok (addSubInt_spec .X false x z hx).1 ((addSubInt_spec .X false x z hx).2.trans (add_comm _ _))
    · exact good_and (intSub_spec .X z x hx)
    · simpa only [Spec.bin, Spec.intL, mul_comm] using hm
    · exact hd

/-- outcome of a register-level operation against the specification -/
def GoodReg (m : Except PanicKind Reg) (spec : Option ℚ) : Prop :=
  match m with
  | .ok r => r.Inv ∧ spec = some r.val
  | .error e => e = .divideByZero ∧ spec = none

theorem goodReg_map {k : Kind} {m : Except PanicKind Q} {spec : Option ℚ} (h : Good k m spec) :
    GoodReg (m.map (Reg.mk k)) spec := by
  cases m with
  | ok q => exact ⟨(Reg.inv_iff _).2 h.1, h.2⟩
  | error e => exact h

theorem goodReg_ok {r : Reg} {v : ℚ} (h : r.kind.Inv r.q) (hv : r.q.val = v) :
    GoodReg (.ok r) (some v) := ⟨(Reg.inv_iff _).2 h, by rw [← hv]; rfl⟩

theorem evalUn_good (o : Un) (r : Reg) (hr : r.Inv) :
    GoodReg (evalUn o r) (Spec.un o r.val) := by
  obtain ⟨k, x⟩ := r
  have hx : k.Inv x := (Reg.inv_iff _).1 hr
  have hpos := hx.den_pos
  have hz := val_eq_zero_iff hpos
  change GoodReg (evalUn o ⟨k, x⟩) (Spec.un o x.val)
  cases o <;> simp only [evalUn, Spec.un]
  · -- neg
    exact goodReg_ok (neg_spec k x hx).1 (neg_spec k x hx).2
  · -- abs
    have habs : (if 0 ≤ x.val then x.val else -x.val) = |x.val| := by
      split
      · rename_i h; exact (abs_of_nonneg h).symm
      · rename_i h; exact (abs_of_neg (not_le.mp h)).symm
    rw [habs]
    exact goodReg_ok (abs_spec k x hx).1 (abs_spec k x hx).2
  · -- inv
    simp only [hz]
    exact goodReg_map (good_split (inv_spec k x hx))
  · -- sqr
    have := pow_spec k x 2 hx
    rw [← sqr_eq_pow] at this
    exact goodReg_ok this.1 (by rw [this.2, pow_two])
  · -- cubic
    have := pow_spec k x 3 hx
    rw [← cubic_eq_pow] at this
    exact goodReg_ok this.1 (by rw [this.2]; ring)
  · -- signum
    exact goodReg_ok (signum_spec k x hpos).1 (signum_spec k x hpos).2
  · -- fract
    exact goodReg_map (good_ex (fract_spec k x hx))
  · -- relax
    cases k
    · exact goodReg_ok (r := ⟨.X, x⟩) (Reduced.relaxedInv hx) rfl
    · exact goodReg_ok (r := ⟨.X, x⟩) hx rfl
  · -- canon
    apply goodReg_map (k := .R)
    exact good_ex (reduce_spec x hpos)

/-- a step outcome against the specified value: a valid register with that value, or the
    `DivideByZero` panic exactly where the specification has no value -/
def ResOK (s : StepRes) (spec : Option ℚ) : Prop :=
  match s with
  | .ok r => r.Inv ∧ spec = some r.val
  | .panic k => k = .divideByZero ∧ spec = none
  | .bad => True

def StepOK (env : List Reg) (op : Op) : Prop := ResOK (step env op) (Spec.step (env.map Reg.val) op)

theorem stepOK_of_good {k : Kind} {m : Except PanicKind Q} {spec : Option ℚ}
    (h : Good k m spec) : ResOK (liftQ k m) spec := by
  cases m with
  | ok q => exact ⟨(Reg.inv_iff _).2 h.1, h.2⟩
  | error e => exact h

theorem stepOK_of_goodReg {m : Except PanicKind Reg} {spec : Option ℚ} (h : GoodReg m spec) : ResOK (liftR m) spec := by
  cases m with
  | ok q => exact h
  | error e => exact h

theorem getElem?_map_val (env : List Reg) (i : ℕ) :
    (env.map Reg.val)[i]? = (env[i]?).map Reg.val := by simp

/-- a step on one operand: out of range is malformed, otherwise the operand is a valid register
    and its value is what the specification reads -/
theorem lookup_good (env : List Reg) (henv : ∀ r ∈ env, r.Inv) (i : ℕ) (f : Reg → StepRes)
    (g : ℚ → Option ℚ)
    (h : ∀ a, a.Inv → ResOK (f a) (g a.val)) :
    ResOK (match env[i]? with | some a => f a | none => .bad) ((env.map Reg.val)[i]? >>= g) := by
  rw [getElem?_map_val]
  cases hi : env[i]? with
  | none => trivial
  | some a => exact h a (henv a (List.mem_of_getElem? hi))

/-- **step theorem**: in an environment of valid registers every step returns a valid register
    with the specified value, or the `DivideByZero` panic exactly where the specification divides
    by zero. -/
theorem step_sound (env : List Reg) (op : Op) (henv : ∀ r ∈ env, r.Inv) : StepOK env op := by
  cases op with
  | bin o i j =>
    unfold StepOK
    simp only [step, Spec.step, getElem?_map_val]
    cases hi : env[i]? with
    | none => trivial
    | some a =>
      cases hj : env[j]? with
      | none => trivial
      | some b =>
        have ha := (Reg.inv_iff a).1 (henv a (List.mem_of_getElem? hi))
        have hb := (Reg.inv_iff b).1 (henv b (List.mem_of_getElem? hj))
        show ResOK (if a.kind = b.kind then liftQ a.kind (evalBin o a.kind a.q b.q) else .bad)
          (Spec.bin o a.val b.val)
        by_cases hk : a.kind = b.kind
        · rw [if_pos hk, hk]
          exact stepOK_of_good (evalBin_good o b.kind a.q b.q (hk ▸ ha) hb)
        · rw [if_neg hk]; trivial
  | un o i =>
    exact lookup_good env henv i (fun a => liftR (evalUn o a)) (Spec.un o) fun a ha =>
      stepOK_of_goodReg (evalUn_good o a ha)
  | pow i n =>
    refine lookup_good env henv i (fun a => .ok ⟨a.kind, pow a.q n⟩)
      (fun x => some (Spec.qpow x n)) fun a ha => ?_
    have := pow_spec a.kind a.q n ((Reg.inv_iff a).1 ha)
    rw [Spec.qpow_eq]
    exact goodReg_ok (r := ⟨a.kind, _⟩) this.1 this.2
  | mulSign i s =>
    refine lookup_good env henv i (fun a => .ok ⟨a.kind, mulSign a.q s⟩)
      (fun x => some (if s then -x else x)) fun a ha => ?_
    have := mulSign_spec a.kind a.q s ((Reg.inv_iff a).1 ha)
    exact goodReg_ok (r := ⟨a.kind, _⟩) this.1 this.2
  | intR o i z =>
    exact lookup_good env henv i (fun a => liftQ a.kind (evalIntR o a.kind a.q z))
      (fun x => Spec.intR o x z) fun a ha =>
        stepOK_of_good (evalIntR_good o a.kind a.q z ((Reg.inv_iff a).1 ha))
  | intL o z i =>
    exact lookup_good env henv i (fun a => liftQ a.kind (evalIntL o a.kind z a.q))
      (Spec.intL o z) fun a ha =>
        stepOK_of_good (evalIntL_good o a.kind z a.q ((Reg.inv_iff a).1 ha))

/-- what every successful step preserves holds of every register a run produces -/
theorem run_forall {P : Reg → Prop} (ops : List Op)
    (hstep : ∀ op ∈ ops, ∀ (env : List Reg) (r : Reg), (∀ r' ∈ env, P r') → step env op = .ok r → P r)
    (env : List Reg) (henv : ∀ r ∈ env, P r) : ∀ r ∈ (run ops env).1, P r := by
  induction ops generalizing env with
  | nil => exact henv
  | cons op ops ih =>
    unfold run
    cases hs : step env op with
    | ok r =>
      simp only
      exact ih (fun o ho => hstep o (List.mem_cons_of_mem _ ho)) _ (List.forall_mem_append.2
        ⟨henv, List.forall_mem_singleton.2 (hstep op List.mem_cons_self env r henv hs)⟩)
    | panic k => exact henv
    | bad => exact henv

/-- **history theorem** (invariants): started from valid registers, every register a program
    ever produces — including those produced before a panic — satisfies the invariant of its
    type (`RBig`: positive denominator coprime to the numerator; `Relaxed`: not both even). -/
theorem run_inv (ops : List Op) (env : List Reg) (henv : ∀ r ∈ env, r.Inv) :
    ∀ r ∈ (run ops env).1, r.Inv :=
  run_forall ops (fun op _ env r henv hs => by
    have := step_sound env op henv
    unfold StepOK at this
    rw [hs] at this
    exact this.1) env henv

/-- **history theorem** (values): a well-formed program computes exactly the value-level
    interpretation `Spec.run` of the same program — same values in every register, stops at the
    same step, and only ever panics with `DivideByZero`. -/
theorem run_vals (ops : List Op) (env : List Reg) (henv : ∀ r ∈ env, r.Inv) :
    match (run ops env).2 with
    | .done => Spec.run ops (env.map Reg.val) = ((run ops env).1.map Reg.val, true)
    | .panic k => k = .divideByZero ∧
        Spec.run ops (env.map Reg.val) = ((run ops env).1.map Reg.val, false)
    | .bad => True := by
  induction ops generalizing env with
  | nil => simp [run, Spec.run]
  | cons op ops ih =>
    have hs := step_sound env op henv
    unfold StepOK at hs
    unfold run
    cases hstep : step env op with
    | ok r =>
      rw [hstep] at hs
      simp only
      have := ih (env ++ [r]) (List.forall_mem_append.2 ⟨henv, List.forall_mem_singleton.2 hs.1⟩)
      have e : Spec.run (op :: ops) (env.map Reg.val) = Spec.run ops ((env ++ [r]).map Reg.val) := by
        simp only [Spec.run, hs.2, List.map_append, List.map_cons, List.map_nil]
      rw [e]
      exact this
    | panic k =>
      rw [hstep] at hs
      simp only
      exact ⟨hs.1, by simp only [Spec.run, hs.2]⟩
    | bad => simp

end Dashu.Model.Ratio
