import Dashu.Proofs.Ratio.Prog
import Mathlib.Data.Rat.Lemmas
/-
  Canonical form is unique (structural equality = value equality); signed constructors.
-/
namespace Dashu.Model.Ratio
open Dashu.Model

/-- a reduced pair is exactly (numerator, denominator) of its value in Lean's normalised `Rat` -/
theorem Reduced.num_den_eq {q : Q} (h : Reduced q) : q.val.num = q.num ∧ q.val.den = q.den := by
  have hb : (0 : ℤ) < (q.den : ℤ) := by exact_mod_cast h.den_pos
  have hc : Nat.Coprime q.num.natAbs (q.den : ℤ).natAbs := by simpa using h.2
  have e : q.val = (q.num : ℚ) / ((q.den : ℤ) : ℚ) := by simp [Q.val_def]
  constructor
  · rw [e]; exact Rat.num_div_eq_of_coprime hb hc
  · have := Rat.den_div_eq_of_coprime hb hc
    rw [e]; exact_mod_cast this

/-- the canonical form is unique: two reduced pairs with the same value are the same pair
    (this is what makes the structural `PartialEq`/`Hash` of `RBig` sound) -/
theorem Reduced.ext {a b : Q} (ha : Reduced a) (hb : Reduced b) (h : a.val = b.val) : a = b := by
  obtain ⟨a1, a2⟩ := ha.num_den_eq
  obtain ⟨b1, b2⟩ := hb.num_den_eq
  cases a; cases b
  simp only [Q.mk.injEq]
  simp only at a1 a2 b1 b2
  exact ⟨by rw [← a1, ← b1, h], by rw [← a2, ← b2, h]⟩

theorem sgn_natAbs_val (n d : ℤ) (hd : d ≠ 0) :
    ((n * sgn d : ℤ) : ℚ) / ((d.natAbs : ℕ) : ℚ) = (n : ℚ) / d := by
  rw [natAbs_cast_eq]
  have h5 : (d : ℚ) ≠ 0 := by exact_mod_cast hd
  have h6 := sgn_cast_ne_zero d
  push_cast; field_simp

/-- `RBig::from_parts_signed` -/
theorem rFromPartsSigned_spec (n d : ℤ) :
    (d = 0 → rFromPartsSigned n d = .error .divideByZero) ∧
    (d ≠ 0 → ∃ r, rFromPartsSigned n d = .ok r ∧ Reduced r ∧ r.val = (n : ℚ) / d) := by
  constructor
  · intro h; simp [rFromPartsSigned, h, rFromParts]
  · intro h
    obtain ⟨r, h1, h2, h3⟩ := rFromParts_spec (n * sgn d) d.natAbs (Int.natAbs_pos.mpr h)
    exact ⟨r, h1, h2, by rw [h3, sgn_natAbs_val n d h]⟩

/-- `Relaxed::from_parts_signed` -/
theorem xFromPartsSigned_spec (n d : ℤ) :
    (d = 0 → xFromPartsSigned n d = .error .divideByZero) ∧
    (d ≠ 0 → ∃ r, xFromPartsSigned n d = .ok r ∧ RelaxedInv r ∧ r.val = (n : ℚ) / d) := by
  constructor
  · intro h; simp [xFromPartsSigned, h, xFromParts]
  · intro h
    obtain ⟨r, h1, h2, h3⟩ := xFromParts_spec (n * sgn d) d.natAbs (Int.natAbs_pos.mpr h)
    exact ⟨r, h1, h2, by rw [h3, sgn_natAbs_val n d h]⟩

end Dashu.Model.Ratio
