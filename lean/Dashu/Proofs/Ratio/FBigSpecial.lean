import Dashu.Proofs.Ratio.FBigFinal
/-
  C18 FBig clause, special inputs of `RBig::simplest_from_float`
  (rational/src/third_party/dashu_float.rs): an infinite float, and only an infinite one, gives `None`; zero gives 0.
  (A float of unlimited precision gives the number itself: `Props.C18.simplest_from_fbig_unlimited`.)
-/
namespace Dashu.Model.Ratio
open Dashu.Model

/-- infinite float (`Repr::is_infinite`: significand 0, exponent ≠ 0) ⇒ `None`, for every
    mode, base, precision and every combination of the deviation switches -/
theorem rbigSimplestFromFloat_infinite (k : Quirks) (simpler : Q → Q → Bool) (mode : RMode)
    (b : ℕ) (exp : ℤ) (p : ℕ) (he : exp ≠ 0) :
    rbigSimplestFromFloat k simpler mode b 0 exp p = .ok (some none) := by
  unfold rbigSimplestFromFloat fbigIsInfinite
  simp [he]

/-- `None` ONLY for an infinite float: a finite float never gives `None` -/
theorem rbigSimplestFromFloat_none_iff (k : Quirks) (simpler : Q → Q → Bool) (mode : RMode)
    (b : ℕ) (signif exp : ℤ) (p : ℕ) :
    rbigSimplestFromFloat k simpler mode b signif exp p = .ok (some none) ↔
      (signif = 0 ∧ exp ≠ 0) := by
  unfold rbigSimplestFromFloat fbigIsInfinite
  by_cases h : signif = 0 ∧ exp ≠ 0
  · simp [h.1, h.2]
  · have hb : ((signif == 0) && (exp != 0)) = false := by
      rcases not_and_or.mp h with h1 | h1
      · simp [h1]
      · simp [not_not.mp h1]
    simp only [hb, Bool.false_eq_true, if_false, h, iff_false]
    cases hres : simplestFromFBig k simpler mode b signif exp p with
    | error e => simp [Except.map]
    | ok v => cases v <;> simp [Except.map]

/-- the float zero ⇒ `Some(0)` -/
theorem rbigSimplestFromFloat_zero (k : Quirks) (simpler : Q → Q → Bool) (mode : RMode)
    (b p : ℕ) : rbigSimplestFromFloat k simpler mode b 0 0 p = .ok (some (some Q.zero)) := by
  unfold rbigSimplestFromFloat fbigIsInfinite simplestFromFBig
  simp [Except.map]

end Dashu.Model.Ratio
