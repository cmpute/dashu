import Dashu.Proofs.Ratio.FBigRound
/-
  C18 FBig clause: each rounding mode, on magnitudes, is a window around the result.  The windows have
  half-integer widths, so membership of a quotient of integers is a statement about integers (`inW_int`);
  through it `Float.ModeSpec` is the window of its mode (`modeSpec_inW`).
-/
namespace Dashu.Model.Ratio
open Dashu.Model

/-- a rounding window on magnitudes: `y` rounds to `n` iff `n − dlo ≤ y ≤ n + dhi`, a boundary
    counting iff its flag says so -/
structure Window where
  dlo : ℚ
  dhi : ℚ
  inclLo : ℕ → Bool
  inclHi : ℕ → Bool

def InW (W : Window) (n : ℕ) (y : ℚ) : Prop :=
  (n : ℚ) - W.dlo ≤ y ∧ y ≤ n + W.dhi ∧ (y = n - W.dlo → W.inclLo n = true) ∧
    (y = n + W.dhi → W.inclHi n = true)

/-- windows tile the line: widths add up to 1 and a shared boundary belongs to one side only -/
structure Window.Ok (W : Window) : Prop where
  lo_nonneg : 0 ≤ W.dlo
  hi_nonneg : 0 ≤ W.dhi
  sum : W.dlo + W.dhi = 1
  excl : ∀ n, ¬ (W.inclHi n = true ∧ W.inclLo (n + 1) = true)
  lo_zero : W.dlo = 0 → ∀ n, W.inclLo n = true
  hi_zero : W.dhi = 0 → ∀ n, W.inclHi n = true

theorem InW.le_of_inW {W : Window} (hW : W.Ok) {y : ℚ} {n n' : ℕ} (h : InW W n y)
    (h' : InW W n' y) : n' ≤ n := by
  by_contra hc
  have hlt := not_le.1 hc
  obtain ⟨a1, a2, a3, a4⟩ := h
  obtain ⟨b1, b2, b3, b4⟩ := h'
  have hs := hW.sum
  -- the two windows can only share the boundary between `n` and `n' = n + 1`
  have h1 : (n : ℚ) + 1 ≤ n' := by exact_mod_cast hlt
  have e3 : (n' : ℚ) = n + 1 := by linarith
  have e4 : n' = n + 1 := by exact_mod_cast e3
  have e1 : y = n + W.dhi := by linarith
  have e2 : y = n' - W.dlo := by linarith
  exact hW.excl n ⟨a4 e1, e4 ▸ b3 e2⟩

theorem InW.unique {W : Window} (hW : W.Ok) {y : ℚ} {n n' : ℕ} (h : InW W n y) (h' : InW W n' y) :
    n = n' :=
  le_antisymm (h'.le_of_inW hW h) (h.le_of_inW hW h')

theorem inW_self {W : Window} (hW : W.Ok) (n : ℕ) : InW W n (n : ℚ) :=
  ⟨by linarith [hW.lo_nonneg], by linarith [hW.hi_nonneg], fun h => hW.lo_zero (by linarith) n,
    fun h => hW.hi_zero (by linarith) n⟩

/-- rounding is monotone: an integer below `y` is not above what `y` rounds to -/
theorem InW.le_of_le {W : Window} (hW : W.Ok) {y : ℚ} {n k : ℕ} (h : InW W n y) (hk : (k : ℚ) ≤ y) :
    k ≤ n := by
  by_contra hc
  have h1 : (n : ℚ) + 1 ≤ k := by exact_mod_cast not_le.1 hc
  have hy : y = k := by linarith [h.2.1, hW.sum, hW.lo_nonneg]
  exact hc (InW.unique hW h (hy ▸ inW_self hW k)).ge

theorem InW.le_of_ge {W : Window} (hW : W.Ok) {y : ℚ} {n k : ℕ} (h : InW W n y) (hk : y ≤ k) :
    n ≤ k := by
  by_contra hc
  have h1 : (k : ℚ) + 1 ≤ n := by exact_mod_cast not_le.1 hc
  have hy : y = k := by linarith [h.1, hW.sum, hW.hi_nonneg]
  exact hc (InW.unique hW h (hy ▸ inW_self hW k)).le

/-- the window of `n` at the quantum `Q`, in terms of the unscaled number -/
theorem inW_div {W : Window} {Q : ℚ} (hQ : 0 < Q) {n : ℕ} {y : ℚ} :
    InW W n (y / Q) ↔ n * Q - W.dlo * Q ≤ y ∧ y ≤ n * Q + W.dhi * Q ∧
      (y = n * Q - W.dlo * Q → W.inclLo n = true) ∧ (y = n * Q + W.dhi * Q → W.inclHi n = true) := by
  unfold InW
  rw [le_div_iff₀ hQ, div_le_iff₀ hQ, div_eq_iff hQ.ne', div_eq_iff hQ.ne', sub_mul, add_mul]

def wToward : Window := ⟨0, 1, fun _ => true, fun _ => false⟩
def wAway : Window := ⟨1, 0, fun _ => false, fun _ => true⟩
def wHalfAway : Window := ⟨1 / 2, 1 / 2, fun _ => true, fun _ => false⟩
def wHalfEven : Window := ⟨1 / 2, 1 / 2, fun n => decide (n % 2 = 0), fun n => decide (n % 2 = 0)⟩

/-- the window of a mode for numbers of a given sign (on magnitudes) -/
def windowOf (m : FMode) (neg : Bool) : Window :=
  match m with
  | .zero => wToward
  | .away => wAway
  | .up => if neg then wToward else wAway
  | .down => if neg then wAway else wToward
  | .halfAway => wHalfAway
  | .halfEven => wHalfEven

theorem wToward_ok : wToward.Ok := ⟨le_refl _, by norm_num [wToward], by norm_num [wToward],
  by simp [wToward], by simp [wToward], by norm_num [wToward]⟩
theorem wAway_ok : wAway.Ok := ⟨by norm_num [wAway], le_refl _, by norm_num [wAway],
  by simp [wAway], by norm_num [wAway], by simp [wAway]⟩
theorem wHalfAway_ok : wHalfAway.Ok := ⟨by norm_num [wHalfAway], by norm_num [wHalfAway],
  by norm_num [wHalfAway], by simp [wHalfAway], by norm_num [wHalfAway], by norm_num [wHalfAway]⟩
theorem wHalfEven_ok : wHalfEven.Ok := ⟨by norm_num [wHalfEven], by norm_num [wHalfEven],
  by norm_num [wHalfEven], by intro n; simp [wHalfEven]; omega, by norm_num [wHalfEven],
  by norm_num [wHalfEven]⟩

theorem windowOf_ok (m : FMode) (neg : Bool) : (windowOf m neg).Ok := by
  cases m <;> cases neg <;> simp only [windowOf] <;>
    first | exact wToward_ok | exact wAway_ok | exact wHalfAway_ok | exact wHalfEven_ok

theorem windowOf_flip (m : FMode) : windowOf m true = windowOf (flipMode m) false := by
  cases m <;> rfl

/-- a window with half-integer widths, on a quotient of integers, as a statement about integers -/
theorem inW_int {W : Window} {lo hi : ℤ} (hlo : W.dlo = lo / 2) (hhi : W.dhi = hi / 2) (N D : ℤ) (hD : 0 < D)
    (n : ℕ) :
    InW W n ((N : ℚ) / D) ↔ 2 * (n * D) - lo * D ≤ 2 * N ∧ 2 * N ≤ 2 * (n * D) + hi * D ∧
      (2 * N = 2 * (n * D) - lo * D → W.inclLo n = true) ∧ (2 * N = 2 * (n * D) + hi * D → W.inclHi n = true) := by
  have hDq : (0 : ℚ) < D := by exact_mod_cast hD
  have e1 : (n : ℚ) * D - lo / 2 * D = ((2 * (n * D) - lo * D : ℤ) : ℚ) / 2 := by push_cast; ring
  have e2 : (n : ℚ) * D + hi / 2 * D = ((2 * (n * D) + hi * D : ℤ) : ℚ) / 2 := by push_cast; ring
  have e3 : (N : ℚ) = ((2 * N : ℤ) : ℚ) / 2 := by push_cast; ring
  rw [inW_div hDq, hlo, hhi, e1, e2, e3, div_le_div_iff_of_pos_right two_pos, div_le_div_iff_of_pos_right two_pos,
    div_left_inj' two_ne_zero, div_left_inj' two_ne_zero, Int.cast_le, Int.cast_le, Int.cast_inj, Int.cast_inj]

open Dashu.Model.Float Dashu.Props.GenRound in
/-- on non-negative numbers the relational specification of a mode (`Float.ModeSpec`) is its window -/
theorem modeSpec_inW (m : FMode) (N D : ℤ) (n : ℕ) (hN : 0 ≤ N) (hD : 0 < D) (h : ModeSpec m N D n) :
    InW (windowOf m false) n ((N : ℚ) / D) := by
  have hF0 : 0 ≤ (n : ℤ) * D := mul_nonneg (Int.natCast_nonneg n) hD.le
  generalize hF : (n : ℤ) * D = F at h hF0
  cases m
  case zero | down =>
    simp only [ModeSpec, IsTowardZero, if_pos hN, IsFloor, add_one_mul, hF] at h
    rw [inW_int (lo := 0) (hi := 2) (by simp [windowOf, wToward]) (by simp [windowOf, wToward]) N D hD, hF]
    simp only [windowOf, wToward, Bool.false_eq_true, if_false, implies_true, true_and, imp_false]
    omega
  case away | up =>
    simp only [ModeSpec, IsAwayFromZero, if_pos hN, IsCeil, sub_one_mul, hF] at h
    rw [inW_int (lo := 2) (hi := 0) (by simp [windowOf, wAway]) (by simp [windowOf, wAway]) N D hD, hF]
    simp only [windowOf, wAway, Bool.false_eq_true, if_false, implies_true, and_true, imp_false]
    omega
  case halfEven =>
    simp only [ModeSpec, IsNearestEven, hF, abs_le, abs_eq hD.le] at h
    rw [inW_int (lo := 1) (hi := 1) (by simp [windowOf, wHalfEven]) (by simp [windowOf, wHalfEven]) N D hD, hF]
    simp only [windowOf, wHalfEven, decide_eq_true_eq]
    exact ⟨by omega, by omega, fun e => by have := h.2 (by omega); omega, fun e => by have := h.2 (by omega); omega⟩
  case halfAway =>
    -- a tie above `n` would have to be rounded away from zero
    simp only [ModeSpec, IsNearestAway, hF, abs_le, abs_eq hD.le, abs_of_nonneg hN, abs_of_nonneg hF0] at h
    rw [inW_int (lo := 1) (hi := 1) (by simp [windowOf, wHalfAway]) (by simp [windowOf, wHalfAway]) N D hD, hF]
    simp only [windowOf, wHalfAway, Bool.false_eq_true, implies_true, true_and, imp_false]
    exact ⟨by omega, by omega, fun e => by have := h.2 (by omega); omega⟩

/-- soundness on non-negative numbers: the result is a natural number inside its window -/
theorem roundInt_pos_sound (m : FMode) (y : ℚ) (hy : 0 ≤ y) :
    ∃ n : ℕ, Float.roundInt m y = (n : ℤ) ∧ InW (windowOf m false) n y := by
  have hD : (0 : ℤ) < y.den := by exact_mod_cast y.den_pos
  have hN : 0 ≤ y.num := Rat.num_nonneg.2 hy
  have h := Float.roundInt_modeSpec m y.num y.den hD
  rw [Int.cast_natCast, Rat.num_div_den] at h
  obtain ⟨n, hn⟩ := Int.eq_ofNat_of_zero_le ((Float.modeSpec_sign m _ _ _ hD h).2 hN)
  rw [hn] at h
  refine ⟨n, hn, ?_⟩
  have := modeSpec_inW m y.num y.den n hN hD h
  rwa [Int.cast_natCast, Rat.num_div_den] at this

end Dashu.Model.Ratio
