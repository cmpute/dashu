import Dashu.Proofs.Ratio.FBigCore
import Mathlib.Data.Int.Log
/-
  C18 FBig clause: correct rounding to `p` digits in base `b` under each mode of dashu-float,
  and the rounding set of an FBig value.
-/
namespace Dashu.Model.Ratio
open Dashu.Model

/-- `x ≠ 0` rounds to `v` at `p` significant base-`b` digits under mode `m`: with `t` the binade
    of `|x|` (`b^(t-1) ≤ |x| < b^t`), `v = roundInt m (x / b^(t-p)) · b^(t-p)`, where
    `Float.roundInt` is the definition of the modes in Model/Float/Spec.lean.  (This is `Float.specRound` with
    its `ulpExp` spelled out as `t - p`.) -/
def RoundsTo (b : ℕ) (m : FMode) (p : ℕ) (x v : ℚ) : Prop :=
  ∃ t : ℤ, (b : ℚ) ^ (t - 1) ≤ |x| ∧ |x| < (b : ℚ) ^ t ∧
    v = (Float.roundInt m (x / (b : ℚ) ^ (t - p)) : ℚ) * (b : ℚ) ^ (t - p)

theorem exists_binade (b : ℕ) (hb : 2 ≤ b) (y : ℚ) (hy : 0 < y) :
    ∃ t : ℤ, (b : ℚ) ^ (t - 1) ≤ y ∧ y < (b : ℚ) ^ t := by
  refine ⟨Int.log b y + 1, ?_, ?_⟩
  · rw [add_sub_cancel_right]; exact Int.zpow_log_le_self (by omega) hy
  · exact Int.lt_zpow_succ_log_self (by omega) y

/-- the signed quotient rounds to `±n` with `n` in the window of the sign -/
theorem roundInt_signed (m : FMode) (x Qq : ℚ) (hQ : 0 < Qq) (hx : x ≠ 0) :
    ∃ n : ℕ, Float.roundInt m (x / Qq) = (if x < 0 then -(n : ℤ) else (n : ℤ)) ∧
      InW (windowOf m (decide (x < 0))) n (|x| / Qq) := by
  have hz : 0 ≤ |x| / Qq := div_nonneg (abs_nonneg x) hQ.le
  by_cases hneg : x < 0
  · have e : x / Qq = -(|x| / Qq) := by rw [abs_of_neg hneg]; ring
    obtain ⟨n, hr, hin⟩ := roundInt_pos_sound (flipMode m) (|x| / Qq) hz
    refine ⟨n, ?_, ?_⟩
    · rw [if_pos hneg, e, roundInt_neg, hr]
    · simp only [hneg, decide_true]; rw [windowOf_flip]; exact hin
  · have e : x / Qq = |x| / Qq := by rw [abs_of_nonneg (not_lt.mp hneg)]
    obtain ⟨n, hr, hin⟩ := roundInt_pos_sound m (|x| / Qq) hz
    refine ⟨n, ?_, ?_⟩
    · rw [if_neg hneg, e, hr]
    · simp only [hneg, decide_false]; exact hin

/-- two signed magnitudes, the second one non-zero, agree iff the signs and the magnitudes do -/
theorem signed_eq_iff {A B : ℚ} (hA : 0 ≤ A) (hB : 0 < B) {c d : Prop} [Decidable c] [Decidable d] :
    (if c then -A else A) = (if d then -B else B) ↔ (c ↔ d) ∧ A = B := by
  by_cases hc : c <;> by_cases hd : d <;> simp [hc, hd]
  · intro h; linarith
  · intro h; linarith

/-- **the rounding set of an FBig value**: for every base `b ≥ 2`, precision `p ≥ 1`, mode and
    `p`-digit significand `S`, a rational `x ≠ 0` rounds to the float `± S·b^e` iff it has the
    float's sign and `|x|` lies in `FSet` of the mode's window: `[S·b^e − dlo·below, S·b^e + dhi·b^e]`
    with `below = b^e`, or `b^(e-1)` when `S = b^(p-1)`, boundaries by the window's flags. -/
theorem fbig_rounding_set (m : FMode) (b p S : ℕ) (hb : 2 ≤ b) (hp : 1 ≤ p)
    (hS1 : b ^ (p - 1) ≤ S) (hS2 : S < b ^ p) (e : ℤ) (neg : Bool) (x : ℚ) (hx : x ≠ 0) :
    RoundsTo b m p x ((if neg then -(S : ℚ) else (S : ℚ)) * (b : ℚ) ^ e) ↔
      ((x < 0 ↔ neg = true) ∧ FSet (windowOf m neg) b p S e |x|) := by
  have hSpos : (0 : ℚ) < S := by exact_mod_cast lt_of_lt_of_le (Nat.pow_pos (by omega)) hS1
  have hSU : 0 < (S : ℚ) * (b : ℚ) ^ e := mul_pos hSpos (bpow_pos b hb e)
  -- in any binade `t` of `|x|`: the float is the rounded value iff the signs agree and `|x|` is in the set
  have key : ∀ t : ℤ, (b : ℚ) ^ (t - 1) ≤ |x| → |x| < (b : ℚ) ^ t →
      ((if neg then -(S : ℚ) else (S : ℚ)) * (b : ℚ) ^ e =
          (Float.roundInt m (x / (b : ℚ) ^ (t - p)) : ℚ) * (b : ℚ) ^ (t - p) ↔
        (x < 0 ↔ neg = true) ∧ FSet (windowOf m neg) b p S e |x|) := by
    intro t ht1 ht2
    have hQ := bpow_pos b hb (t - p)
    obtain ⟨n, hr, hin⟩ := roundInt_signed m x _ hQ hx
    rw [hr, Int.cast_ite, ite_mul, ite_mul]
    push_cast
    rw [neg_mul, neg_mul, eq_comm, signed_eq_iff (mul_nonneg n.cast_nonneg hQ.le) hSU]
    refine and_congr_right fun hsign => ?_
    have hdec : decide (x < 0) = neg := by cases neg <;> simp [hsign]
    rw [hdec] at hin
    exact fbig_core _ (windowOf_ok m neg) b p S hb hp hS1 hS2 e _ t ht1 ht2 n hin
  constructor
  · rintro ⟨t, ht1, ht2, hv⟩
    exact (key t ht1 ht2).1 hv
  · intro h
    obtain ⟨t, ht1, ht2⟩ := exists_binade b hb |x| (abs_pos.mpr hx)
    exact ⟨t, ht1, ht2, (key t ht1 ht2).2 h⟩

end Dashu.Model.Ratio
