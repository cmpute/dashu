import Dashu.Proofs.Ratio.FloatCore
/-
  C18 float clause: from the core (`core`, FloatCore.lean) to the IEEE specification of `Model/Conv/Ratio.lean`,
  `ieeeRoundRat F .halfEven` (round-to-nearest-even of a rational to the format).
-/
namespace Dashu.Model.Ratio
open Dashu.Model Dashu.Model.Conv

theorem magBits_lt_inf (F : Ieee) (hF : F.Ok) (m : ℕ) (exp : ℤ) (hc : Canon F m exp)
    (hfin : exp + F.MB ≤ F.emax) : magBits F m exp < F.infBits := by
  rw [F.infBits_eq hF]
  unfold magBits
  have hB := F.B_ge hF
  have hemax := F.emax_eq
  have hqmin := F.qmin_eq
  have hP2 : 2 ^ (F.MB + 1) = 2 * 2 ^ F.MB := by rw [pow_succ]; ring
  set P : ℕ := 2 ^ F.MB with hP
  have hPpos : 0 < P := Nat.two_pow_pos _
  have hm : m < 2 * P := by
    rcases hc with ⟨_, h, _⟩ | ⟨_, h, _⟩
    · rw [hP2] at h; exact h
    · omega
  have hq : F.qmin ≤ exp := by rcases hc with ⟨_, _, h⟩ | ⟨_, _, h⟩ <;> omega
  obtain ⟨e', he'⟩ : ∃ e' : ℕ, exp - F.qmin = e' := ⟨(exp - F.qmin).toNat, by omega⟩
  rw [he', Int.toNat_natCast]
  have he : e' + 2 ≤ 2 * F.B - 1 := by omega
  have : (e' + 2) * P ≤ (2 * F.B - 1) * P := Nat.mul_le_mul_right P he
  have e2 : (e' + 2) * P = e' * P + 2 * P := by ring
  omega

/-- the spec's ingredients for a positive rational `a/b` -/
theorem spec_ingredients (F : Ieee) (neg : Bool) (a b : ℕ) (ha : a ≠ 0) (hb : b ≠ 0) :
    let t := ratTop a b
    let q : ℤ := max (t - F.prec) F.qmin
    let n := (roundMagMode .halfEven neg (a * 2 ^ (-q).toNat) (b * 2 ^ q.toNat)).1
    (2 : ℚ) ^ (t - 1) ≤ (a : ℚ) / b ∧ (a : ℚ) / b < (2 : ℚ) ^ t ∧
      IsRNE (((a : ℚ) / b) / (2 : ℚ) ^ q) n ∧
      (ieeeRoundRatMag F .halfEven neg a b).1 =
        if 2 ^ (F.emax + 1 - F.qmin).toNat ≤ n * 2 ^ (q - F.qmin).toNat then F.infBits
        else (q - F.qmin).toNat * 2 ^ F.MB + n := by
  intro t q n
  obtain ⟨h1, h2⟩ := ratTop_spec a b ha hb
  have hden : 0 < b * 2 ^ q.toNat := Nat.mul_pos (Nat.pos_of_ne_zero hb) (Nat.two_pow_pos _)
  refine ⟨h1, h2, ?_, ?_⟩
  · have := isRNE_rneDiv (a * 2 ^ (-q).toNat) (b * 2 ^ q.toNat) hden
    rw [scaled_quot a b (Nat.pos_of_ne_zero hb) q] at this
    show IsRNE _ (roundMagMode .halfEven neg _ _).1
    rw [roundMagMode_halfEven neg _ _ hden]
    exact this
  · unfold ieeeRoundRatMag
    simp only
    split <;> rfl

/-- **magnitudes**: `a/b` rounds (nearest, ties to even) to the canonical finite float `m·2^exp`
    iff it lies in the float's rounding set -/
theorem mag_iff (F : Ieee) (hF : F.Ok) (neg : Bool) (a b : ℕ) (ha : a ≠ 0) (hb : b ≠ 0) (m : ℕ)
    (exp : ℤ) (hc : Canon F m exp) (hfin : exp + F.MB ≤ F.emax) :
    (ieeeRoundRatMag F .halfEven neg a b).1 = magBits F m exp ↔ InSet F m exp ((a : ℚ) / b) := by
  obtain ⟨h1, h2, hn, hout⟩ := spec_ingredients F neg a b ha hb
  rw [hout]
  constructor
  · intro h
    split at h
    · exact absurd h (ne_of_gt (magBits_lt_inf F hF m exp hc hfin))
    · exact (core F hF _ _ h1 h2 _ hn m exp hc).1 h
  · intro h
    have hcode := (core F hF _ _ h1 h2 _ hn m exp hc).2 h
    have hub := units_bound F _ _ h1 h2 _ hn m exp hc hfin hcode
    rw [if_neg (by omega)]
    exact hcode

/-- the spec's magnitude output never reaches the sign bit -/
theorem mag_lt_signBit (F : Ieee) (hF : F.Ok) (neg : Bool) (a b : ℕ) (ha : a ≠ 0) (hb : b ≠ 0) :
    (ieeeRoundRatMag F .halfEven neg a b).1 < F.signBit := by
  obtain ⟨h1, h2, hn, hout⟩ := spec_ingredients F neg a b ha hb
  rw [hout]
  split
  · exact infBits_lt_signBit F hF
  · rename_i hno
    obtain ⟨hR1, hR2⟩ := regime F _ _ h1 h2 _ hn
    have hrange := F.range_toNat hF
    have hB := F.B_ge hF
    have hP2 : 2 ^ (F.MB + 1) = 2 * 2 ^ F.MB := by rw [pow_succ]; ring
    unfold Ieee.signBit
    rw [pow_add, F.two_B hF]
    set P : ℕ := 2 ^ F.MB with hP
    have hPpos : 0 < P := Nat.two_pow_pos _
    set t := ratTop a b
    set n := (roundMagMode .halfEven neg (a * 2 ^ (-(max (t - (F.prec : ℤ)) F.qmin)).toNat)
      (b * 2 ^ (max (t - (F.prec : ℤ)) F.qmin).toNat)).1
    by_cases hq : F.qmin ≤ t - F.prec
    · obtain ⟨hn1, hn2, _, _⟩ := hR1 hq
      rw [hP2] at hn2
      rw [max_eq_left hq] at hno ⊢
      set k := (t - (F.prec : ℤ) - F.qmin).toNat
      -- P·2^k ≤ n·2^k < 2^(2B-2+MB) = P·2^(2B-2)  ⇒  k < 2B-2
      rw [hrange] at hno
      have hlt : n * 2 ^ k < 2 ^ (2 * F.B - 2 + F.MB) := by omega
      have h3 : P * 2 ^ k ≤ n * 2 ^ k := Nat.mul_le_mul_right _ hn1
      have h4 : 2 ^ (2 * F.B - 2 + F.MB) = P * 2 ^ (2 * F.B - 2) := by rw [pow_add]; ring
      rw [h4] at hlt
      have h5 : 2 ^ k < 2 ^ (2 * F.B - 2) := by
        have := lt_of_le_of_lt h3 hlt
        exact Nat.lt_of_mul_lt_mul_left this
      have hk : k < 2 * F.B - 2 := (Nat.pow_lt_pow_iff_right (by decide)).mp h5
      have h6 : (k + 2) * P ≤ (2 * F.B) * P := Nat.mul_le_mul_right P (by omega)
      have e2 : (k + 2) * P = k * P + 2 * P := by ring
      have : k * P + n < 2 * F.B * P := by
        -- n ≤ 2P but n = 2P needs strictness: k + 2 ≤ 2B - 1
        have h7 : (k + 3) * P ≤ (2 * F.B) * P := Nat.mul_le_mul_right P (by omega)
        have e3 : (k + 3) * P = k * P + 3 * P := by ring
        omega
      exact this
    · have hq' : t - (F.prec : ℤ) < F.qmin := by omega
      obtain ⟨hn1, _⟩ := hR2 hq'
      rw [max_eq_right hq'.le, sub_self, Int.toNat_zero, Nat.zero_mul, Nat.zero_add]
      have : 1 * P < 2 * F.B * P := Nat.mul_lt_mul_of_pos_right (by omega) hPpos
      omega

/-- a sign bit `S` above two magnitudes: the codes agree iff the signs and the magnitudes do -/
theorem signed_code_eq_iff {S r m : ℕ} (hr : r < S) (hm : m < S) (a b : Bool) :
    (if a = true then S else 0) + r = (if b = true then S else 0) + m ↔ a = b ∧ r = m := by
  cases a <;> cases b <;> simp <;> omega

/-- **signed**: `num/den` rounds to the float with sign `s` and canonical magnitude `m·2^exp` iff
    it is non-zero, has that sign, and its magnitude lies in the rounding set -/
theorem round_iff (F : Ieee) (hF : F.Ok) (s : Bool) (m : ℕ) (exp : ℤ) (hc : Canon F m exp)
    (hfin : exp + F.MB ≤ F.emax) (num : ℤ) (den : ℕ) (hden : 0 < den) :
    (ieeeRoundRat F .halfEven num den).1 = (if s then F.signBit else 0) + magBits F m exp ↔
      (num ≠ 0 ∧ (num < 0 ↔ s = true) ∧ InSet F m exp ((num.natAbs : ℚ) / den)) := by
  have hmpos : 0 < magBits F m exp := by
    unfold magBits
    rcases hc with ⟨h, _, _⟩ | ⟨h, _, _⟩
    · have := Nat.two_pow_pos F.MB; omega
    · omega
  have hmlt := lt_trans (magBits_lt_inf F hF m exp hc hfin) (infBits_lt_signBit F hF)
  unfold ieeeRoundRat
  by_cases h0 : num = 0
  · -- zero has the code 0, below every canonical magnitude
    simp only [h0, if_true]
    constructor
    · intro h; cases s <;> simp at h <;> omega
    · intro h; exact absurd rfl h.1
  · have ha : num.natAbs ≠ 0 := by omega
    have hb : den ≠ 0 := by omega
    simp only [if_neg h0]
    rw [signed_code_eq_iff (mag_lt_signBit F hF _ _ den ha hb) hmlt,
      mag_iff F hF _ num.natAbs den ha hb m exp hc hfin]
    cases s <;> simp [h0]

end Dashu.Model.Ratio
