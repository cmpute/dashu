import Dashu.Proofs.Mem.DivPanic
import Dashu.Model.Mem.Arith3
/-
  C17 — the add / sub storage skeletons (`UBig + UBig`, `UBig - UBig`, `IBig ± IBig`; add_ops.rs) and their panic arm:
  `+` has none, `IBig ± IBig` has none, and `UBig - UBig` has exactly the documented `panic_negative_ubig`, reached — for operands
  stored with the length of their value (what `Repr::from_buffer` guarantees) — iff the value of the left operand is smaller.
-/
namespace Dashu.Proofs.Mem
open Dashu.Model Dashu.Model.Mem


/-! A skeleton without a panic arm is a tree of `if`s over structure literals whose `panic` field is the default:
    the projection is pushed to the leaves (`apply_ite`), where it reduces, and the `if`s collapse (`ite_self`). -/

theorem fragAdd_no_panic (W : Nat) (f : Form) (a b : List Nat) : (fragAdd W f a b).panic = none := by
  unfold fragAdd fAddDword
  dsimp only
  cases f <;> simp only [apply_ite Frag.panic, ite_self]

/-- the branch conditions under which the `UBig - UBig` skeleton takes its `panic_negative_ubig` arm, for ANY operand words -/
def subUnderflowArm (W : Nat) (a b : List Nat) : Prop :=
  if isSmall a && isSmall b then wval W a < wval W b
  else if isSmall a then True
  else if isSmall b then False
  else a.length < b.length ∨ wval W a < wval W b

theorem fragSub_panic_any (W : Nat) (f : Form) (a b : List Nat) :
    ((fragSub W f a b).panic = none ∨ (fragSub W f a b).panic = some .negativeUBig) ∧
    ((fragSub W f a b).panic = some .negativeUBig ↔ subUnderflowArm W a b) := by
  rw [fragSub_panic_eq]
  unfold subUnderflowArm
  split_ifs <;> simp [*]

theorem lt_of_wordLen_lt (W : Nat) {x y : Nat} (h : wordLen W x < wordLen W y) : x < y := by
  apply Nat.lt_of_not_le
  intro hle
  have := wordLen_mono W hle
  omega

/-- operands stored with the length of their value: the underflow arm is taken iff `a < b` as values -/
theorem subUnderflowArm_iff (W : Nat) (a b : List Nat)
    (ha : a.length = wordLen W (wval W a)) (hb : b.length = wordLen W (wval W b)) :
    subUnderflowArm W a b ↔ wval W a < wval W b := by
  have key : a.length < b.length → wval W a < wval W b := fun h => lt_of_wordLen_lt W (by rw [← ha, ← hb]; exact h)
  have key' : b.length < a.length → wval W b < wval W a := fun h => lt_of_wordLen_lt W (by rw [← ha, ← hb]; exact h)
  unfold subUnderflowArm isSmall
  split_ifs with h1 h2 h3
  · exact Iff.rfl
  · simp only [Bool.and_eq_true, decide_eq_true_eq] at h1 h2
    exact ⟨fun _ => key (by omega), fun _ => trivial⟩
  · simp only [decide_eq_true_eq] at h2 h3
    exact ⟨False.elim, fun h => by have := key' (by omega); omega⟩
  · exact ⟨fun h => h.elim key id, Or.inr⟩

theorem fragSubSigned_no_panic (W : Nat) (aVal bVal : Bool) (a b : List Nat) : (fragSubSigned W aVal bVal a b).panic = none := by
  unfold fragSubSigned
  dsimp only
  cases aVal <;> cases bVal <;> simp only [apply_ite Frag.panic, ite_self]

theorem swap01_panic (fr : Frag) : fr.swap01.panic = fr.panic := rfl

/-- `IBig + IBig`, `IBig - IBig` (op = 0, 1): no panic arm, whatever the signs, forms and words -/
theorem fragSigned_addsub_no_panic (W sqrSimple op : Nat) (hop : op = 0 ∨ op = 1) (f : Form) (na : Bool) (a : List Nat) (nb : Bool)
    (b : List Nat) : (fragSigned W sqrSimple op f na a nb b).panic = none := by
  have hne : op ≠ 2 := by omega
  unfold fragSigned
  simp only [hne, if_false]
  split_ifs <;> simp only [noIntoTyped_panic, swap01_panic, fragAdd_no_panic, fragSubSigned_no_panic]


/-- `UBig & | ^ UBig`: no panic arm -/
theorem fragBit_no_panic (W : Nat) (op : BitOp) (f : Form) (a b : List Nat) : (fragBit W op f a b).panic = none := by
  unfold fragBit
  dsimp only
  cases op <;> cases f <;> simp only [apply_ite Frag.panic, ite_self]

/-- `UBig.and_not`: no panic arm -/
theorem fragAndNot_no_panic (W : Nat) (f : Form) (a b : List Nat) : (fragAndNot W f a b).panic = none := by
  unfold fragAndNot
  dsimp only
  simp only [apply_ite Frag.panic, ite_self]

/-- `UBig >> n`: no panic arm, for every shift count -/
theorem fragShr_no_panic (W : Nat) (byVal : Bool) (a : List Nat) (rhs : Nat) : (fragShr W byVal a rhs).panic = none := by
  unfold fragShr
  dsimp only
  simp only [apply_ite Frag.panic, ite_self]

/-- `UBig << n`: the only panic is the documented allocation panic, and only when the requested buffer exceeds `MAX_CAPACITY` -/
theorem fragShl_panic (W mx : Nat) (byVal : Bool) (a : List Nat) (rhs : Nat) :
    ((fragShl W mx byVal a rhs).panic = none ∨ (fragShl W mx byVal a rhs).panic = some .allocTooMuch) ∧
    (rhs / W + a.length + 3 ≤ mx → (fragShl W mx byVal a rhs).panic = none) := by
  unfold fragShl
  dsimp only
  simp only [apply_ite Frag.panic, ite_self]
  refine ⟨?_, fun h => ?_⟩
  · generalize (if wval W a = 1 then 1 else 3) = k
    split_ifs <;> simp
  · -- both allocation tests pass
    have h1 : ¬ rhs / W + (if wval W a = 1 then 1 else 3) > mx := by split_ifs <;> omega
    have h2 : ¬ rhs / W + a.length + 1 > mx := by omega
    simp only [h1, h2, if_false, ite_self]

end Dashu.Proofs.Mem
