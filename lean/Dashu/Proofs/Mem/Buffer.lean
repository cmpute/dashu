import Dashu.Proofs.Mem.Moves
import Dashu.Proofs.Mem.Policy
/-
  C17 — one specification per `buffer.rs` item: under "the buffer's allocation is live with its
  capacity and len ≤ cap" every event it emits is memory-safe, and the resulting buffer is again live
  with its (new) capacity, nothing else in the ledger changed.
-/
namespace Dashu.Model.Mem

def Buf.Wf (mx : Nat) (b : Buf) : Prop := b.len ≤ b.cap ∧ 0 < b.cap ∧ b.cap ≤ mx
def Buf.own (b : Buf) : Option (Nat × Nat) := some (b.id, b.cap)

/-- post-condition shape of a `Buffer → Buffer` method -/
def BPost (mx : Nat) (L : Ledger) (n : Nat) (b : Buf) (R : Buf → Prop) : Buf → Ledger → Nat → Prop :=
  fun b' L' _ => Moves L L' n b.own b'.own ∧ b'.Wf mx ∧ R b'

/-- post-condition shape of a `Buffer` constructor -/
def CPost (mx : Nat) (L : Ledger) (n : Nat) (R : Buf → Prop) : Buf → Ledger → Nat → Prop :=
  fun b' L' _ => Moves L L' n none b'.own ∧ b'.Wf mx ∧ R b'

variable {L : Ledger} {n mx : Nat}

theorem Sat.of_below {α : Type} {m : M α} {Q : α → Ledger → Nat → Prop}
    (h : L.Below n → Sat L n m Q) : Sat L n m Q := fun hB => h hB hB

-- ------------------------------------------------------------------ checked policy functions

theorem defaultCapacityChecked_sat {k : Nat} :
    Sat L n (defaultCapacityChecked mx k) (fun c L' n' => L' = L ∧ n' = n ∧ c = defaultCapacity mx k ∧ k ≤ mx) := by
  unfold defaultCapacityChecked
  apply Sat.ite
  · intro h; exact Sat.pure ⟨rfl, rfl, rfl, h⟩
  · intro _; exact Sat.assertFail

theorem maxCompactCapacityChecked_sat {k : Nat} :
    Sat L n (maxCompactCapacityChecked mx k) (fun c L' n' => L' = L ∧ n' = n ∧ c = maxCompactCapacity mx k ∧ k ≤ mx) := by
  unfold maxCompactCapacityChecked
  apply Sat.ite
  · intro h; exact Sat.pure ⟨rfl, rfl, rfl, h⟩
  · intro _; exact Sat.assertFail

-- ------------------------------------------------------------------ allocation

/-- buffer.rs:97 — `alloc(layout)` is called with a non-zero size -/
theorem allocateRaw_sat {c : Nat} :
    Sat L n (allocateRaw mx c)
      (fun id L' n' => id = n ∧ n' = n + 1 ∧ L' = L.set n (some c) ∧ 0 < c ∧ c ≤ mx) := by
  unfold allocateRaw
  apply Sat.ite
  · intro ⟨h0, hm⟩ hB
    have hLn : L n = none := hB n (Nat.le_refl _)
    refine ⟨L.set n (some c), ?_, Nat.le_succ n, ?_, ?_, ?_⟩
    · show replay L [Event.alloc n c] = _
      simp [replay, stepEv, hLn, h0]
    · intro j hj
      show (L.set n (some c)) j = none
      simp only [Ledger.set]
      have : j ≠ n := by intro h; subst h; exact Nat.not_succ_le_self _ hj
      simp only [this, ↓reduceIte]
      exact hB j (Nat.le_of_succ_le hj)
    · intro s hs; cases hs
    · intro a ha; cases ha; exact ⟨rfl, rfl, rfl, h0, hm⟩
  · intro _; exact Sat.assertFail

theorem allocateExact_sat {c : Nat} :
    Sat L n (allocateExact mx c) (CPost mx L n (fun b => b.ws = [] ∧ b.cap = c)) := by
  unfold allocateExact
  apply Sat.ite
  · intro _; exact Sat.fault_panic
  · intro _
    apply Sat.bind_conseq allocateRaw_sat
    intro id L' n' _ ⟨hid, _, hL', h0, hm⟩
    subst hid hL'
    apply Sat.pure
    exact ⟨Moves.alloc (Nat.le_refl _), ⟨Nat.zero_le _, h0, hm⟩, rfl, rfl⟩

theorem allocate_sat {k : Nat} :
    Sat L n (allocate mx k)
      (CPost mx L n (fun b => b.ws = [] ∧ b.cap = defaultCapacity mx k ∧ k ≤ mx)) := by
  unfold allocate
  apply Sat.ite
  · intro _; exact Sat.fault_panic
  intro _
  apply Sat.bind_conseq defaultCapacityChecked_sat
  intro c L' n' _ ⟨hL, hn, hc, hk⟩
  subst hL hn hc
  apply Sat.conseq allocateExact_sat
  intro b L' n' _ ⟨hm, hw, hws, hcap⟩
  exact ⟨hm, hw, hws, hcap, hk⟩

-- ------------------------------------------------------------------ reallocation

/-- buffer.rs:148 — `realloc(ptr, old_layout, new_size)` names the live allocation with its current
    capacity and a non-zero new size -/
theorem reallocateRaw_sat {b : Buf} {c : Nat} (hL : L b.id = some b.cap) :
    Sat L n (reallocateRaw b c)
      (fun b' L' _ => Moves L L' n b.own b'.own ∧ b' = { b with cap := c } ∧ 0 < c ∧ b.len ≤ c) := by
  unfold reallocateRaw
  apply Sat.ite
  · intro ⟨h0, hl⟩
    apply Sat.bind
    apply Sat.emit (L1 := L.set b.id (some c)) (by simp [stepEv, hL, h0]) rfl
    apply Sat.pure
    exact ⟨Moves.set_cap, rfl, h0, hl⟩
  · intro _; exact Sat.assertFail

theorem reallocate_sat {b : Buf} {k : Nat} (hL : L b.id = some b.cap) :
    Sat L n (reallocate mx b k)
      (BPost mx L n b (fun b' => b' = { b with cap := defaultCapacity mx k } ∧ b.len ≤ k ∧ k ≤ mx)) := by
  unfold reallocate
  apply Sat.ite
  · intro hl
    apply Sat.ite
    · intro _; exact Sat.fault_panic
    intro _
    apply Sat.bind_conseq defaultCapacityChecked_sat
    intro c L' n' _ ⟨hL', hn, hc, hk⟩
    subst hL' hn hc
    apply Sat.conseq (reallocateRaw_sat hL)
    intro b' L' n' _ ⟨hm, hb', h0, hl'⟩
    subst hb'
    have := policy_chain mx k hk
    exact ⟨hm, ⟨hl', h0, by show defaultCapacity mx k ≤ mx; omega⟩, rfl, hl, hk⟩
  · intro _; exact Sat.assertFail

theorem ensureCapacity_sat {b : Buf} {k : Nat} (hL : L b.id = some b.cap) (hw : b.Wf mx) :
    Sat L n (ensureCapacity mx b k)
      (BPost mx L n b (fun b' => b'.id = b.id ∧ b'.ws = b.ws ∧ b.cap ≤ b'.cap ∧ (2 < k → k ≤ b'.cap))) := by
  unfold ensureCapacity
  apply Sat.ite
  · intro ⟨hk, _⟩
    apply Sat.conseq (reallocate_sat hL)
    intro b' L' n' _ ⟨hm, hw', hb', _, hkm⟩
    subst hb'
    have := policy_chain mx k hkm
    refine ⟨hm, hw', rfl, rfl, ?_, ?_⟩
    · show b.cap ≤ defaultCapacity mx k; omega
    · intro _; show k ≤ defaultCapacity mx k; omega
  · intro hk
    apply Sat.pure
    refine ⟨Moves.refl hL, hw, rfl, rfl, Nat.le_refl _, ?_⟩
    intro h2; apply Nat.le_of_not_lt; intro hlt; exact hk ⟨hlt, h2⟩

/-- `ensure_capacity_exact(c)` keeps `cap ≤ MAX_CAPACITY` only if `c ≤ MAX_CAPACITY`: the code has no
    such check (`reallocate_raw`); its only caller passes the length of an existing buffer. -/
theorem ensureCapacityExact_sat {b : Buf} {c : Nat} (hL : L b.id = some b.cap) (hw : b.Wf mx)
    (hc : c ≤ mx) :
    Sat L n (ensureCapacityExact b c)
      (BPost mx L n b (fun b' => b'.id = b.id ∧ b'.ws = b.ws ∧ b.cap ≤ b'.cap)) := by
  unfold ensureCapacityExact
  apply Sat.ite
  · intro ⟨hk, _⟩
    apply Sat.conseq (reallocateRaw_sat hL)
    intro b' L' n' _ ⟨hm, hb', h0, hl⟩
    subst hb'
    exact ⟨hm, ⟨hl, h0, hc⟩, rfl, rfl, Nat.le_of_lt hk⟩
  · intro _
    exact Sat.pure ⟨Moves.refl hL, hw, rfl, rfl, Nat.le_refl _⟩

theorem shrinkToFit_sat {b : Buf} (hL : L b.id = some b.cap) (hw : b.Wf mx) :
    Sat L n (shrinkToFit mx b)
      (BPost mx L n b (fun b' => b'.id = b.id ∧ b'.ws = b.ws ∧ b'.cap ≤ maxCompactCapacity mx b.len)) := by
  unfold shrinkToFit
  apply Sat.bind_conseq maxCompactCapacityChecked_sat
  intro m L' n' _ ⟨hL', hn, hm, hk⟩
  subst hL' hn hm
  apply Sat.ite
  · intro _
    apply Sat.conseq (reallocate_sat hL)
    intro b' L' n' _ ⟨hmv, hw', hb', _, _⟩
    subst hb'
    have := policy_chain mx b.len hk
    exact ⟨hmv, hw', rfl, rfl, this.2.1⟩
  · intro hle
    exact Sat.pure ⟨Moves.refl hL, hw, rfl, rfl, Nat.le_of_not_lt hle⟩

-- ------------------------------------------------------------------ in-place accesses

theorem mem_wr {id lo k : Nat} {e : Event} (he : e ∈ wr id lo k) : ∃ i, e = .write id i ∧ lo ≤ i ∧ i < lo + k := by
  simp only [wr, List.mem_map, List.mem_range'_1] at he
  obtain ⟨i, ⟨h1, h2⟩, rfl⟩ := he
  exact ⟨i, rfl, h1, h2⟩

theorem mem_rd {id lo k : Nat} {e : Event} (he : e ∈ rd id lo k) : ∃ i, e = .read id i ∧ lo ≤ i ∧ i < lo + k := by
  simp only [rd, List.mem_map, List.mem_range'_1] at he
  obtain ⟨i, ⟨h1, h2⟩, rfl⟩ := he
  exact ⟨i, rfl, h1, h2⟩

theorem Quiet.rd {id c lo k : Nat} (hL : L id = some c) (h : lo + k ≤ c) : Quiet L (rd id lo k) :=
  Quiet.access hL fun _ he => by
    obtain ⟨i, rfl, _, hi⟩ := mem_rd he
    exact Or.inl ⟨i, rfl, by omega⟩

theorem Quiet.wr {id c lo k : Nat} (hL : L id = some c) (h : lo + k ≤ c) : Quiet L (wr id lo k) :=
  Quiet.access hL fun _ he => by
    obtain ⟨i, rfl, _, hi⟩ := mem_wr he
    exact Or.inr ⟨i, rfl, by omega⟩

/-- a method that only reads and writes inside live allocations and keeps id and capacity -/
theorem sat_inplace {b : Buf} {ws : List Nat} {es : List Event} {R : Buf → Prop}
    (hL : L b.id = some b.cap) (hw : b.Wf mx) (hq : Quiet L es) (hlen : ws.length ≤ b.cap)
    (hR : R { b with ws := ws }) :
    Sat L n (do emits es; pure { b with ws := ws }) (BPost mx L n b R) :=
  Sat.bind (Sat.quiet hq (Sat.pure ⟨Moves.refl hL, ⟨hlen, hw.2.1, hw.2.2⟩, hR⟩))

/-- buffer.rs:209 — the write at `ptr.add(len)` is inside the allocation (`len < capacity` asserted) -/
theorem push_sat {b : Buf} {w : Nat} (hL : L b.id = some b.cap) (hw : b.Wf mx) :
    Sat L n (push b w) (BPost mx L n b (fun b' => b'.id = b.id ∧ b'.cap = b.cap ∧ b'.ws = b.ws ++ [w])) := by
  unfold push emit Buf.len
  apply Sat.ite
  · intro hlt
    refine sat_inplace hL hw (Quiet.access hL ?_) ?_ ⟨rfl, rfl, rfl⟩
    · intro e he; simp at he; subst he; exact Or.inr ⟨_, rfl, hlt⟩
    · simp only [List.length_append, List.length_singleton]; exact hlt
  · intro _; exact Sat.assertFail

theorem pushResizing_sat {b : Buf} {w : Nat} (hL : L b.id = some b.cap) (hw : b.Wf mx) :
    Sat L n (pushResizing mx b w) (BPost mx L n b (fun b' => b'.id = b.id)) := by
  unfold pushResizing
  apply Sat.ite
  · intro _
    apply Sat.bind_conseq (ensureCapacity_sat hL hw)
    intro b1 L1 n1 hn1 ⟨hm1, hw1, hid1, _, _, _⟩
    apply Sat.conseq (push_sat (hm1.new_live _ _ rfl) hw1)
    intro b2 L2 n2 hn2 ⟨hm2, hw2, hid2, _, _⟩
    exact ⟨hm1.trans hm2 hn1, hw2, hid2.trans hid1⟩
  · intro _
    exact Sat.pure ⟨Moves.refl hL, hw, rfl⟩

/-- buffer.rs:235 — `n` writes from `ptr.add(len)`, `n ≤ capacity - len` asserted -/
theorem pushRepeat_sat {b : Buf} {elem k : Nat} (hL : L b.id = some b.cap) (hw : b.Wf mx) :
    Sat L n (pushRepeat b elem k)
      (BPost mx L n b (fun b' => b'.id = b.id ∧ b'.cap = b.cap ∧ b'.ws = b.ws ++ List.replicate k elem)) := by
  unfold pushRepeat Buf.len
  have hlen : b.ws.length ≤ b.cap := hw.1
  apply Sat.ite
  · intro hk
    refine sat_inplace hL hw (Quiet.wr hL (by omega)) ?_ ⟨rfl, rfl, rfl⟩
    simp only [List.length_append, List.length_replicate]; omega
  · intro _; exact Sat.assertFail

theorem pushZeros_sat {b : Buf} {k : Nat} (hL : L b.id = some b.cap) (hw : b.Wf mx) :
    Sat L n (pushZeros b k)
      (BPost mx L n b (fun b' => b'.id = b.id ∧ b'.cap = b.cap ∧ b'.ws = b.ws ++ List.replicate k 0)) :=
  pushRepeat_sat hL hw

/-- buffer.rs:266 — `ptr::copy(ptr, ptr.add(n), len)` and `n` writes from `ptr`; `n + len ≤ capacity` -/
theorem pushZerosFront_sat {b : Buf} {k : Nat} (hL : L b.id = some b.cap) (hw : b.Wf mx) :
    Sat L n (pushZerosFront b k)
      (BPost mx L n b (fun b' => b'.id = b.id ∧ b'.cap = b.cap ∧ b'.ws = List.replicate k 0 ++ b.ws)) := by
  unfold pushZerosFront Buf.len
  have hlen : b.ws.length ≤ b.cap := hw.1
  apply Sat.ite
  · intro hk
    apply Sat.bind
    apply Sat.quiet ((Quiet.rd hL (by omega)).append (Quiet.wr hL (by omega)))
    refine sat_inplace hL hw (Quiet.wr hL (by omega)) ?_ ⟨rfl, rfl, rfl⟩
    simp only [List.length_append, List.length_replicate]; omega
  · intro _; exact Sat.assertFail

/-- the source of a borrowed slice: either outside the ledger, or a live allocation that holds at
    least `k` words -/
def SrcOk (L : Ledger) (src : Option Nat) (k : Nat) : Prop :=
  ∀ s, src = some s → ∃ c, L s = some c ∧ k ≤ c

theorem Quiet.src {src : Option Nat} {k : Nat} (h : SrcOk L src k) : Quiet L (srcReads src k) := by
  cases src with
  | none => exact ⟨rfl, fun _ he => nomatch he⟩
  | some s =>
    obtain ⟨c, hc, hk⟩ := h s rfl
    exact Quiet.rd hc (by omega)

/-- buffer.rs:293 — `copy_nonoverlapping(src, ptr.add(len), src_len)`, `src_len ≤ capacity - len` -/
theorem pushSlice_sat {b : Buf} {src : Option Nat} {ws : List Nat} (hL : L b.id = some b.cap)
    (hw : b.Wf mx) (hs : SrcOk L src ws.length) :
    Sat L n (pushSlice b src ws)
      (BPost mx L n b (fun b' => b'.id = b.id ∧ b'.cap = b.cap ∧ b'.ws = b.ws ++ ws)) := by
  unfold pushSlice Buf.len
  have hlen : b.ws.length ≤ b.cap := hw.1
  apply Sat.ite
  · intro hk
    refine sat_inplace hL hw ((Quiet.src hs).append (Quiet.wr hL (by omega))) ?_ ⟨rfl, rfl, rfl⟩
    simp only [List.length_append]; omega
  · intro _; exact Sat.assertFail

-- pop_zeros

theorem popZerosRev_spec (id : Nat) (l : List Nat) :
    (∀ e ∈ (popZerosRev id l).2, ∃ i, e = .read id i ∧ i < l.length) ∧
    (∃ t, l = t ++ (popZerosRev id l).1 ∧ ∀ x ∈ t, x = 0) ∧
    (popZerosRev id l).1.head? ≠ some 0 := by
  induction l with
  | nil => simp [popZerosRev]
  | cons w rest ih =>
    unfold popZerosRev
    split
    · rename_i hw0
      obtain ⟨h1, ⟨t, ht, hz⟩, h3⟩ := ih
      refine ⟨?_, ⟨w :: t, ?_, ?_⟩, h3⟩
      · intro e he
        simp only [List.mem_cons] at he
        rcases he with rfl | he
        · exact ⟨_, rfl, by simp⟩
        · obtain ⟨i, hi, hlt⟩ := h1 e he
          exact ⟨i, hi, by simp; omega⟩
      · simp only [List.cons_append]; rw [← ht]
      · intro x hx
        simp only [List.mem_cons] at hx
        rcases hx with rfl | hx
        · exact hw0
        · exact hz x hx
    · rename_i hw0
      refine ⟨?_, ⟨[], rfl, by simp⟩, ?_⟩
      · intro e he
        simp only [List.mem_singleton] at he
        exact ⟨_, he, by simp⟩
      · simp only [List.head?_cons]; intro h; injection h with h; exact hw0 h

/-- buffer.rs:307 — the loop reads `ptr.add(len-1)`, `ptr.add(len-2)`, … and stops at index 0 -/
theorem popZeros_sat {b : Buf} (hL : L b.id = some b.cap) (hw : b.Wf mx) :
    Sat L n (popZeros b)
      (BPost mx L n b (fun b' => b'.id = b.id ∧ b'.cap = b.cap ∧ b'.ws.getLast? ≠ some 0 ∧
        ∃ t, b.ws = b'.ws ++ t ∧ ∀ x ∈ t, x = 0)) := by
  unfold popZeros
  obtain ⟨h1, ⟨t, ht, hz⟩, h3⟩ := popZerosRev_spec b.id b.ws.reverse
  have hlen : b.ws.length ≤ b.cap := hw.1
  have hws : b.ws = (popZerosRev b.id b.ws.reverse).1.reverse ++ t.reverse := by
    have := congrArg List.reverse ht
    simpa using this
  refine sat_inplace hL hw (Quiet.access hL ?_) ?_ ⟨rfl, rfl, ?_, t.reverse, hws, ?_⟩
  · intro e he
    obtain ⟨i, hi, hlt⟩ := h1 e he
    simp only [List.length_reverse] at hlt
    exact Or.inl ⟨i, hi, Nat.lt_of_lt_of_le hlt hlen⟩
  · have := congrArg List.length hws
    simp only [List.length_append] at this
    omega
  · show (popZerosRev b.id b.ws.reverse).1.reverse.getLast? ≠ some 0
    rw [List.getLast?_reverse]; exact h3
  · intro x hx; exact hz x (List.mem_reverse.mp hx)

theorem truncate_sat {b : Buf} {k : Nat} (hL : L b.id = some b.cap) (hw : b.Wf mx) :
    Sat L n (truncate b k) (BPost mx L n b (fun b' => b'.id = b.id ∧ b'.cap = b.cap ∧ b'.ws = b.ws.take k)) := by
  unfold truncate
  apply Sat.ite
  · intro _
    apply Sat.pure
    refine ⟨Moves.refl hL, ⟨?_, hw.2.1, hw.2.2⟩, rfl, rfl, rfl⟩
    show (b.ws.take k).length ≤ b.cap
    have : b.ws.length ≤ b.cap := hw.1
    simp only [List.length_take]; omega
  · intro _; exact Sat.assertFail

/-- buffer.rs:341 — `ptr::copy(ptr.add(n), ptr, len - n)`, `n ≤ len` asserted -/
theorem eraseFront_sat {b : Buf} {k : Nat} (hL : L b.id = some b.cap) (hw : b.Wf mx) :
    Sat L n (eraseFront b k) (BPost mx L n b (fun b' => b'.id = b.id ∧ b'.cap = b.cap ∧ b'.ws = b.ws.drop k)) := by
  unfold eraseFront Buf.len
  have hlen : b.ws.length ≤ b.cap := hw.1
  apply Sat.ite
  · intro hk
    refine sat_inplace hL hw ((Quiet.rd hL (by omega)).append (Quiet.wr hL (by omega))) ?_ ⟨rfl, rfl, rfl⟩
    simp only [List.length_drop]; omega
  · intro _; exact Sat.assertFail

/-- buffer.rs:358 — reads of words 0 and 1, `len ≥ 2` asserted -/
theorem lowestDword_sat {b : Buf} (hL : L b.id = some b.cap) (hw : b.Wf mx) :
    Sat L n (lowestDword b) (fun _ L' _ => L' = L) := by
  unfold lowestDword
  have hlen : b.len ≤ b.cap := hw.1
  apply Sat.ite
  · intro h2
    have hq : Quiet L (rd b.id 0 2) := Quiet.rd hL (by omega)
    exact Sat.bind (Sat.quiet hq (Sat.pure rfl))
  · intro _; exact Sat.assertFail

/-- buffer.rs:376 — `&mut *ptr`, `&mut *ptr.add(1)`, `len ≥ 2` asserted -/
theorem lowestDwordMut_sat {b : Buf} {lo hi : Nat} (hL : L b.id = some b.cap) (hw : b.Wf mx) :
    Sat L n (lowestDwordMut b lo hi) (BPost mx L n b (fun b' => b'.id = b.id ∧ b'.cap = b.cap)) := by
  unfold lowestDwordMut Buf.len
  have hlen : b.ws.length ≤ b.cap := hw.1
  apply Sat.ite
  · intro h2
    have hq : Quiet L (wr b.id 0 2) := Quiet.wr hL (by omega)
    refine sat_inplace hL hw hq ?_ ⟨rfl, rfl⟩
    simp only [List.length_cons, List.length_drop]; omega
  · intro _; exact Sat.assertFail

/-- buffer.rs:482, 490 — `from_raw_parts(ptr, len)`: the slice `[0, len)` lies inside the allocation -/
theorem deref_sat {b : Buf} (hL : L b.id = some b.cap) (hw : b.Wf mx) :
    Sat L n (deref b) (fun ws L' _ => L' = L ∧ ws = b.ws) :=
  Sat.bind (Sat.quiet (Quiet.rd hL (by have := hw.1; omega)) (Sat.pure ⟨rfl, rfl⟩))

/-- buffer.rs:470 (and the `unsafe fn deallocate_raw`, buffer.rs:111) — the pointer is live and was
    allocated with exactly `capacity` words -/
theorem dropBuf_sat {b : Buf} (hL : L b.id = some b.cap) :
    Sat L n (dropBuf b) (fun _ L' _ => Moves L L' n b.own none) := by
  unfold dropBuf deallocateRaw
  apply Sat.emit (L1 := L.set b.id none) (by simp [stepEv, hL]) rfl
  exact Moves.free

-- ------------------------------------------------------------------ constructors from data, clones

/-- a readable source stays readable when something is created -/
theorem SrcOk.create {src : Option Nat} {k : Nat} {L1 : Ledger} {new : Option (Nat × Nat)}
    (hs : SrcOk L src k) (hB : L.Below n) (hm : Moves L L1 n none new) : SrcOk L1 src k :=
  fun s hsrc =>
    let ⟨c, hc, hk⟩ := hs s hsrc
    ⟨c, hm.live_of_create hB hc, hk⟩

theorem fromSlice_sat {src : Option Nat} {ws : List Nat} (hs : SrcOk L src ws.length) :
    Sat L n (fromSlice mx src ws)
      (CPost mx L n (fun b => b.ws = ws ∧ b.cap = defaultCapacity mx ws.length ∧ ws.length ≤ mx)) := by
  apply Sat.of_below; intro hB
  unfold fromSlice
  apply Sat.bind_conseq allocate_sat
  intro b1 L1 n1 hn1 ⟨hm1, hw1, hws1, hcap1, hk⟩
  apply Sat.conseq (pushSlice_sat (hm1.new_live _ _ rfl) hw1 (hs.create hB hm1))
  intro b2 L2 n2 hn2 ⟨hm2, hw2, _, hcap2, hws2⟩
  refine ⟨hm1.trans hm2 hn1, hw2, ?_, ?_, hk⟩
  · rw [hws2, hws1]; rfl
  · rw [hcap2, hcap1]

/-- `*self = new`: the new buffer is built first, then the old one is dropped -/
theorem assign_sat {b : Buf} {m : M Buf} {R : Buf → Prop} (hL : L b.id = some b.cap)
    (hm : Sat L n m (CPost mx L n R)) :
    Sat L n (do let nb ← m; dropBuf b; pure nb) (BPost mx L n b R) := by
  apply Sat.of_below; intro hB
  apply Sat.bind_conseq hm
  intro nb L1 n1 hn1 ⟨hm1, hw1, hR⟩
  apply Sat.of_below; intro hB1
  apply Sat.bind_conseq (dropBuf_sat (hm1.live_of_create hB hL))
  intro _ L2 n2 hn2 hm2
  apply Sat.pure
  have hne : b.id ≠ nb.id := by
    have h1 := live_lt hB hL
    rcases hm1.new_from nb.id nb.cap rfl with ⟨c0, h0⟩ | h
    · cases h0
    · omega
  exact ⟨Moves.create_then_free hm1 hm2 hB1 hn1 hne, hw1, hR⟩

/-- buffer.rs:391 — `copy_nonoverlapping(src, ptr, src.len())` when `capacity ≥ src.len()` -/
theorem cloneFromSlice_sat {b : Buf} {src : Option Nat} {ws : List Nat} (hL : L b.id = some b.cap)
    (hw : b.Wf mx) (hs : SrcOk L src ws.length) :
    Sat L n (cloneFromSlice mx b src ws) (BPost mx L n b (fun b' => b'.ws = ws)) := by
  unfold cloneFromSlice
  apply Sat.ite
  · intro hk
    exact sat_inplace hL hw ((Quiet.src hs).append (Quiet.wr hL (by omega))) hk rfl
  · intro _
    exact assign_sat hL (Sat.conseq (fromSlice_sat hs) fun _ _ _ _ hq => ⟨hq.1, hq.2.1, hq.2.2.1⟩)

/-- buffer.rs:440 — `copy_nonoverlapping(self.ptr, new_ptr, self.len)` into a buffer allocated for
    `self.len` words -/
theorem cloneBuf_sat {b : Buf} (hL : L b.id = some b.cap) (hw : b.Wf mx) :
    Sat L n (cloneBuf mx b)
      (CPost mx L n (fun nb => nb.ws = b.ws ∧ nb.cap = defaultCapacity mx b.len ∧ b.len ≤ mx)) := by
  apply Sat.of_below; intro hB
  unfold cloneBuf
  apply Sat.bind_conseq allocate_sat
  intro nb L1 n1 hn1 ⟨hm1, hw1, hws1, hcap1, hk⟩
  have hpol := policy_chain mx b.len hk
  have hlen : b.len ≤ b.cap := hw.1
  apply Sat.bind
  apply Sat.quiet ((Quiet.rd (hm1.live_of_create hB hL) (by omega)).append
    (Quiet.wr (hm1.new_live _ _ rfl) (by rw [hcap1]; omega)))
  apply Sat.pure
  refine ⟨hm1, ⟨?_, hw1.2.1, hw1.2.2⟩, rfl, hcap1, hk⟩
  show b.ws.length ≤ nb.cap
  rw [hcap1]; exact hpol.1

/-- buffer.rs:456 — `copy_nonoverlapping(src.ptr, self.ptr, src.len)` when
    `src.len ≤ capacity ≤ max_compact_capacity(src.len)`; otherwise `*self = src.clone()` -/
theorem cloneFromBuf_sat {b src : Buf} (hL : L b.id = some b.cap) (hw : b.Wf mx)
    (hLs : L src.id = some src.cap) (hws : src.Wf mx)
    (_hne : src.id ≠ b.id)   -- `copy_nonoverlapping`: distinct allocations do not overlap
    :
    Sat L n (cloneFromBuf mx b src)
      (BPost mx L n b (fun b' => b'.ws = src.ws ∧ b'.cap ≤ maxCompactCapacity mx src.len)) := by
  unfold cloneFromBuf
  apply Sat.bind_conseq (P := fun r L' n' => L' = L ∧ n' = n ∧
      (r = true → b.cap ≥ src.len ∧ b.cap ≤ maxCompactCapacity mx src.len))
  · apply Sat.ite
    · intro hge
      apply Sat.bind_conseq maxCompactCapacityChecked_sat
      intro m L' n' _ ⟨hL', hn', hm, _⟩
      subst hL' hn' hm
      exact Sat.pure ⟨rfl, rfl, fun hd => ⟨hge, of_decide_eq_true hd⟩⟩
    · intro _
      exact Sat.pure ⟨rfl, rfl, by intro h; cases h⟩
  intro reuse L' n' _ ⟨hL', hn', hr⟩
  subst hL' hn'
  apply Sat.ite
  · intro hre
    obtain ⟨hge, hle⟩ := hr hre
    have hlen : src.len ≤ src.cap := hws.1
    exact sat_inplace hL hw ((Quiet.rd hLs (by omega)).append (Quiet.wr hL (by omega))) hge ⟨rfl, hle⟩
  · intro _
    apply assign_sat hL
    apply Sat.conseq (cloneBuf_sat hLs hws)
    intro nb L1 n1 _ ⟨hm1, hw1, hws1, hcap1, hk⟩
    refine ⟨hm1, hw1, hws1, ?_⟩
    rw [hcap1]; exact (policy_chain mx src.len hk).2.1

/-- buffer.rs:408 — `realloc(ptr, old_layout, len * size_of::<Word>())` with `len ≠ 0` -/
theorem intoBoxedSlice_sat {b : Buf} (hL : L b.id = some b.cap) :
    Sat L n (intoBoxedSlice b) (fun r L' _ =>
      match r with
      | none => Moves L L' n b.own none
      | some bx => Moves L L' n b.own bx.own ∧ bx.id = b.id) := by
  unfold intoBoxedSlice
  apply Sat.ite
  · intro _
    apply Sat.bind_conseq (dropBuf_sat hL)
    intro _ L1 n1 _ hm
    exact Sat.pure hm
  · intro h0
    apply Sat.bind
    apply Sat.emit (L1 := L.set b.id (some b.len))
      (by simp [stepEv, hL]; exact h0) rfl
    apply Sat.pure
    exact ⟨Moves.set_cap, rfl⟩

end Dashu.Model.Mem
