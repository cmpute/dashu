import Dashu.Proofs.Mem.Static
import Dashu.Model.Mem.Pool
/-
  C17 — the pool invariant and its preservation by every operation, then by every history.
-/
namespace Dashu.Model.Mem

theorem Slot.own_rep (r : Rep) : (Slot.rep r).own = r.own := by cases r <;> rfl

def Slot.Wf (mx : Nat) : Slot → Prop
  | .empty => True
  | .buf b => b.Wf mx
  | .rep r => r.Canon mx
  | .stat ws _ => StaticWf ws

/-- the pool/ledger invariant:
    `wf`   every buffer has `len ≤ cap`, `0 < cap ≤ MAX_CAPACITY`; every `Repr` is canonical;
    `live` every allocation a register owns is live in the ledger with exactly the stored capacity;
    `inj`  no two registers own the same allocation;
    `cov`  every live allocation is owned by some register (nothing is leaked). -/
structure Inv (mx : Nat) (P : Pool) (L : Ledger) : Prop where
  wf : ∀ k, (P k).Wf mx
  live : ∀ k id c, (P k).own = some (id, c) → L id = some c
  inj : ∀ k k' id c c', (P k).own = some (id, c) → (P k').own = some (id, c') → k = k'
  cov : ∀ id c, L id = some c → ∃ k, (P k).own = some (id, c)

theorem Inv.empty (mx : Nat) : Inv mx Pool.empty Ledger.empty where
  wf := fun _ => trivial
  live := by intro k id c h; cases h
  inj := by intro k k' id c c' h; cases h
  cov := by intro id c h; cases h

variable {L : Ledger} {n mx : Nat} {P : Pool}

theorem Sat.illTyped {α : Type} {Q : α → Ledger → Nat → Prop} : Sat L n (illTyped : M α) Q := Sat.fault_panic

@[simp] theorem Pool.set_same (P : Pool) (k : Nat) (s : Slot) : (P.set k s) k = s := by simp [Pool.set]
theorem Pool.set_other (P : Pool) {k j : Nat} (s : Slot) (h : j ≠ k) : (P.set k s) j = P j := by
  simp [Pool.set, h]

/-- replacing the content of one register, with the ledger moving accordingly, keeps the invariant -/
theorem Inv.update {L' : Ledger} {k : Nat} {s' : Slot} (h : Inv mx P L) (hB : L.Below n)
    (hm : Moves L L' n (P k).own s'.own) (hw : s'.Wf mx) : Inv mx (P.set k s') L' where
  wf := by
    intro j
    by_cases hj : j = k
    · subst hj; rw [Pool.set_same]; exact hw
    · rw [Pool.set_other _ _ hj]; exact h.wf j
  live := by
    intro j id c ho
    by_cases hj : j = k
    · subst hj; rw [Pool.set_same] at ho; exact hm.new_live id c ho
    · rw [Pool.set_other _ _ hj] at ho
      apply hm.other hB (h.live j id c ho)
      intro c0 hc0
      exact hj (h.inj j k id c c0 ho hc0)
  inj := by
    intro j j' id c c' ho ho'
    by_cases hj : j = k <;> by_cases hj' : j' = k
    · rw [hj, hj']
    · subst hj
      rw [Pool.set_same] at ho; rw [Pool.set_other _ _ hj'] at ho'
      rcases hm.new_from id c ho with ⟨c0, h0⟩ | hle
      · exact h.inj j j' id c0 c' h0 ho'
      · have := live_lt hB (h.live j' id c' ho'); omega
    · subst hj'
      rw [Pool.set_same] at ho'; rw [Pool.set_other _ _ hj] at ho
      rcases hm.new_from id c' ho' with ⟨c0, h0⟩ | hle
      · exact h.inj j j' id c c0 ho h0
      · have := live_lt hB (h.live j id c ho); omega
    · rw [Pool.set_other _ _ hj] at ho; rw [Pool.set_other _ _ hj'] at ho'
      exact h.inj j j' id c c' ho ho'
  cov := by
    intro id c hl
    by_cases hnew : ∃ c'', s'.own = some (id, c'')
    · obtain ⟨c'', hc''⟩ := hnew
      have := hm.new_live id c'' hc''
      rw [hl] at this; injection this with this; subst this
      exact ⟨k, by rw [Pool.set_same]; exact hc''⟩
    · have hnw : ∀ c'', s'.own ≠ some (id, c'') := fun c'' hc => hnew ⟨c'', hc⟩
      by_cases hold : ∃ c0, (P k).own = some (id, c0)
      · obtain ⟨c0, hc0⟩ := hold
        have := hm.old_dead id c0 hc0 hnw
        rw [hl] at this; cases this
      · have hno : ∀ c0, (P k).own ≠ some (id, c0) := fun c0 hc => hold ⟨c0, hc⟩
        rcases hm.frame id hno hnw with heq | ⟨_, hd⟩
        · rw [heq] at hl
          obtain ⟨j, hj⟩ := h.cov id c hl
          have hjk : j ≠ k := by intro e; subst e; exact hno c hj
          exact ⟨j, by rw [Pool.set_other _ _ hjk]; exact hj⟩
        · rw [hl] at hd; cases hd

/-- what `step` promises -/
def StepPost (mx : Nat) (P : Pool) (k : Nat) : Pool → Ledger → Nat → Prop :=
  fun P' L' _ => Inv mx P' L' ∧ ∀ j, j ≠ k → P' j = P j

/-- what the body of a single-register operation must establish -/
def SlotPost (mx : Nat) (L : Ledger) (n : Nat) (old : Option (Nat × Nat)) : Slot → Ledger → Nat → Prop :=
  fun s L' _ => Moves L L' n old s.own ∧ s.Wf mx

/-- what the invariant says of a register holding a buffer / a `Repr` -/
theorem Inv.buf {k : Nat} {b : Buf} (h : Inv mx P L) (he : P k = .buf b) :
    L b.id = some b.cap ∧ b.Wf mx :=
  ⟨h.live k b.id b.cap (by rw [he]; rfl), by have := h.wf k; rw [he] at this; exact this⟩

theorem Inv.rep {k : Nat} {r : Rep} (h : Inv mx P L) (he : P k = .rep r) : r.Live L ∧ r.Canon mx :=
  ⟨fun id c ho => h.live k id c (by rw [he, Slot.own_rep]; exact ho),
    by have := h.wf k; rw [he] at this; exact this⟩

theorem setSlot_sat {k : Nat} {m : M Slot} (hI : Inv mx P L)
    (hm : Sat L n m (SlotPost mx L n (P k).own)) :
    Sat L n (do let s ← m; pure (P.set k s)) (StepPost mx P k) := by
  apply Sat.of_below; intro hB
  apply Sat.bind_conseq hm
  intro s L' n' _ ⟨hmv, hw⟩
  apply Sat.pure
  exact ⟨hI.update hB hmv hw, fun j hj => Pool.set_other _ _ hj⟩

theorem create_sat {k : Nat} {m : M Slot} (hI : Inv mx P L)
    (hm : Sat L n m (SlotPost mx L n none)) : Sat L n (create P k m) (StepPost mx P k) := by
  unfold create
  split
  · rename_i he
    apply setSlot_sat hI
    rw [he]; exact hm
  · exact Sat.illTyped

theorem onBuf_sat {k : Nat} {f : Buf → M Slot} (hI : Inv mx P L)
    (hf : ∀ b, P k = .buf b → L b.id = some b.cap → b.Wf mx → Sat L n (f b) (SlotPost mx L n b.own)) :
    Sat L n (onBuf P k f) (StepPost mx P k) := by
  unfold onBuf
  split
  · rename_i b he
    apply setSlot_sat hI
    rw [he]; exact hf b he (hI.buf he).1 (hI.buf he).2
  · exact Sat.illTyped

theorem onRep_sat {k : Nat} {f : Rep → M Slot} (hI : Inv mx P L)
    (hf : ∀ r, P k = .rep r → r.Live L → r.Canon mx → Sat L n (f r) (SlotPost mx L n r.own)) :
    Sat L n (onRep P k f) (StepPost mx P k) := by
  unfold onRep
  split
  · rename_i r he
    apply setSlot_sat hI
    rw [he, Slot.own_rep]; exact hf r he (hI.rep he).1 (hI.rep he).2
  · exact Sat.illTyped

theorem bufSlot_sat {m : M Buf} {old : Option (Nat × Nat)}
    (hm : Sat L n m (fun b L' _ => Moves L L' n old b.own ∧ b.Wf mx)) :
    Sat L n (bufSlot m) (SlotPost mx L n old) := by
  unfold bufSlot
  apply Sat.bind_conseq hm
  intro b L' n' _ ⟨hmv, hw⟩
  exact Sat.pure ⟨hmv, hw⟩

/-- `R`: whatever else the `Repr` operation establishes -/
theorem repSlot_sat {m : M Rep} {old : Option (Nat × Nat)} {R : Rep → Ledger → Prop}
    (hm : Sat L n m (fun r L' _ => Moves L L' n old r.own ∧ r.Canon mx ∧ R r L')) :
    Sat L n (repSlot m) (SlotPost mx L n old) := by
  unfold repSlot
  apply Sat.bind_conseq hm
  intro r L' n' _ ⟨hmv, hw, _⟩
  apply Sat.pure
  exact ⟨by rw [Slot.own_rep]; exact hmv, hw⟩

/-- a `Repr` that keeps its allocation (or has none) moves nothing -/
theorem Rep.Live.moves {r : Rep} (hl : r.Live L) : Moves L L n r.own r.own := by
  cases ho : r.own with
  | none => exact Moves.refl_none
  | some p => exact Moves.refl (hl p.1 p.2 ho)

/-- `into_typed`: the typed view goes back into the register, `Small` as an inline `Repr`, `Large` as the buffer
    that owns the same allocation -/
theorem typedSlot_sat {r : Rep} {t : Rep.Typed} {n' : Nat} (hl : r.Live L) (hown : t.own = r.own)
    (ht : ∀ b, t = .large b → b.Wf mx) :
    Sat L n' (match (generalizing := false) t with
      | .small lo hi => pure (.rep (Rep.fromDword lo hi))
      | .large b => pure (.buf b) : M Slot) (SlotPost mx L n r.own) := by
  rw [← hown]
  cases t with
  | small lo hi => exact Sat.pure ⟨Moves.refl_none, Rep.canon_fromDword (mx := mx) lo hi⟩
  | large b => exact Sat.pure ⟨Moves.refl (hl b.id b.cap hown.symm), ht b rfl⟩

/-- weaken a `BPost`/`CPost` to what `bufSlot_sat` needs -/
theorem Sat.bpost {m : M Buf} {b : Buf} {R : Buf → Prop} (h : Sat L n m (BPost mx L n b R)) :
    Sat L n m (fun b' L' _ => Moves L L' n b.own b'.own ∧ b'.Wf mx) :=
  Sat.conseq h (fun _ _ _ _ hq => ⟨hq.1, hq.2.1⟩)

theorem Sat.cpost {m : M Buf} {R : Buf → Prop} (h : Sat L n m (CPost mx L n R)) :
    Sat L n m (fun b' L' _ => Moves L L' n none b'.own ∧ b'.Wf mx) :=
  Sat.conseq h (fun _ _ _ _ hq => ⟨hq.1, hq.2.1⟩)

/-- hypotheses on an operation under which the invariant is kept: `ensure_capacity_exact(c)` needs
    `c ≤ MAX_CAPACITY` (the code does not check it; see `ensure_capacity_exact_breaks_max`) -/
def Op.Ok (mx : Nat) : Op → Prop
  | .ensureCapacityExact _ c => c ≤ mx
  | _ => True

/-- a borrowed view of another register is a readable source -/
theorem view_srcOk {j : Nat} {src : Option Nat} {ws : List Nat} (hI : Inv mx P L)
    (hv : (P j).view = some (src, ws)) : SrcOk L src ws.length := by
  intro s hs
  have hwf := hI.wf j
  cases hp : P j with
  | empty => rw [hp] at hv; cases hv
  | buf b =>
    rw [hp] at hv hwf; simp only [Slot.view] at hv
    injection hv with hv; injection hv with h1 h2
    subst h1 h2; injection hs with hs; subst hs
    exact ⟨b.cap, hI.live j b.id b.cap (by rw [hp]; rfl), hwf.1⟩
  | stat ws' neg =>
    rw [hp] at hv; simp only [Slot.view] at hv
    injection hv with hv; injection hv with h1 h2
    subst h1; cases hs
  | rep r =>
    cases r with
    | inline lo hi code neg =>
      rw [hp] at hv; simp only [Slot.view] at hv
      injection hv with hv; injection hv with h1 h2
      subst h1; cases hs
    | heap id cap ws' neg =>
      rw [hp] at hv hwf; simp only [Slot.view] at hv
      injection hv with hv; injection hv with h1 h2
      subst h1 h2; injection hs with hs; subst hs
      exact ⟨cap, hI.live j id cap (by rw [hp]; rfl), hwf.2.2.1⟩

/-- `drop(register k)`: the register is empty afterwards, its allocation (if any) freed exactly once -/
theorem drop_sat {W : Nat} (hI : Inv mx P L) (k : Nat) :
    Sat L n (step W mx P (.drop k)) (fun P' L' _ => Inv mx P' L' ∧ P' k = .empty ∧ ∀ j, j ≠ k → P' j = P j) := by
  simp only [step]
  apply Sat.of_below; intro hB
  split
  · rename_i he
    apply Sat.pure
    exact ⟨hI, he, fun _ _ => rfl⟩
  · rename_i b he
    apply Sat.bind_conseq (dropBuf_sat (hI.buf he).1)
    intro _ L' n' _ hm
    apply Sat.pure
    exact ⟨hI.update hB (by rw [he]; exact hm) trivial, Pool.set_same _ _ _, fun j hj => Pool.set_other _ _ hj⟩
  · rename_i r he
    apply Sat.bind_conseq (repDrop_sat (hI.rep he).1)
    intro _ L' n' _ hm
    apply Sat.pure
    exact ⟨hI.update hB (by rw [he, Slot.own_rep]; exact hm) trivial, Pool.set_same _ _ _,
      fun j hj => Pool.set_other _ _ hj⟩
  · rename_i ws neg he
    apply Sat.pure
    exact ⟨hI.update hB (by rw [he]; exact Moves.refl_none) trivial, Pool.set_same _ _ _,
      fun j hj => Pool.set_other _ _ hj⟩

/-- (a)+(b): one operation keeps the invariant, emits only safe events, never reaches UB -/
theorem step_sat {W : Nat} (hW : 0 < W) (hI : Inv mx P L) (op : Op) (hok : op.Ok mx) :
    Sat L n (step W mx P op) (StepPost mx P op.target) := by
  cases op with
  | allocate k c => exact create_sat hI (bufSlot_sat allocate_sat.cpost)
  | allocateExact k c => exact create_sat hI (bufSlot_sat allocateExact_sat.cpost)
  | fromWords k ws =>
    exact create_sat hI (bufSlot_sat (fromSlice_sat (by intro s hs; cases hs)).cpost)
  | fromWord k w => exact create_sat hI (Sat.pure ⟨Moves.refl_none, Rep.canon_fromWord (mx := mx) w⟩)
  | fromDword k lo hi =>
    apply create_sat hI
    apply Sat.pure
    refine ⟨?_, Rep.canon_fromDword (mx := mx) lo hi⟩
    unfold Rep.fromDword; exact Moves.refl_none
  | ones k c =>
    apply create_sat hI
    exact repSlot_sat (ones_sat hW)
  | bufClone k j =>
    simp only [step, Op.target]
    apply Sat.ite
    · intro _; exact Sat.illTyped
    · intro hkj
      split
      · rename_i src hp
        exact create_sat hI (bufSlot_sat (cloneBuf_sat (hI.buf hp).1 (hI.buf hp).2).cpost)
      · exact Sat.illTyped
  | repClone k j =>
    simp only [step, Op.target]
    apply Sat.ite
    · intro _; exact Sat.illTyped
    · intro hkj
      split
      · rename_i src hp
        apply create_sat hI
        exact repSlot_sat (repClone_sat (hI.rep hp).2 (hI.rep hp).1)
      · rename_i ws neg hp
        have hw : StaticWf ws := by have := hI.wf j; rw [hp] at this; exact this
        apply create_sat hI
        exact repSlot_sat (cloneStatic_sat hw)
      · exact Sat.illTyped
  | ensureCapacity k c =>
    exact onBuf_sat hI fun b _ hl hw => bufSlot_sat (ensureCapacity_sat hl hw).bpost
  | ensureCapacityExact k c =>
    exact onBuf_sat hI fun b _ hl hw => bufSlot_sat (ensureCapacityExact_sat hl hw hok).bpost
  | shrinkToFit k => exact onBuf_sat hI fun b _ hl hw => bufSlot_sat (shrinkToFit_sat hl hw).bpost
  | push k w => exact onBuf_sat hI fun b _ hl hw => bufSlot_sat (push_sat hl hw).bpost
  | pushResizing k w => exact onBuf_sat hI fun b _ hl hw => bufSlot_sat (pushResizing_sat hl hw).bpost
  | pushZeros k c => exact onBuf_sat hI fun b _ hl hw => bufSlot_sat (pushZeros_sat hl hw).bpost
  | pushZerosFront k c => exact onBuf_sat hI fun b _ hl hw => bufSlot_sat (pushZerosFront_sat hl hw).bpost
  | pushSlice k ws =>
    exact onBuf_sat hI fun b _ hl hw =>
      bufSlot_sat (pushSlice_sat hl hw (by intro s hs; cases hs)).bpost
  | pushSliceFrom k j =>
    simp only [step, Op.target]
    apply Sat.ite
    · intro _; exact Sat.illTyped
    · intro hkj
      split
      · rename_i src ws hv
        exact onBuf_sat hI fun b _ hl hw => bufSlot_sat (pushSlice_sat hl hw (view_srcOk hI hv)).bpost
      · exact Sat.illTyped
  | popZeros k => exact onBuf_sat hI fun b _ hl hw => bufSlot_sat (popZeros_sat hl hw).bpost
  | truncate k c => exact onBuf_sat hI fun b _ hl hw => bufSlot_sat (truncate_sat hl hw).bpost
  | eraseFront k c => exact onBuf_sat hI fun b _ hl hw => bufSlot_sat (eraseFront_sat hl hw).bpost
  | lowestDword k =>
    apply onBuf_sat hI
    intro b _ hl hw
    apply Sat.bind_conseq (lowestDword_sat hl hw)
    intro _ L' n' _ hL'
    subst L'
    exact Sat.pure ⟨Moves.refl hl, hw⟩
  | lowestDwordMut k lo hi =>
    exact onBuf_sat hI fun b _ hl hw => bufSlot_sat (lowestDwordMut_sat hl hw).bpost
  | deref k =>
    apply onBuf_sat hI
    intro b _ hl hw
    apply Sat.bind_conseq (deref_sat hl hw)
    intro _ L' n' _ ⟨hL', _⟩
    subst L'
    exact Sat.pure ⟨Moves.refl hl, hw⟩
  | cloneFromSlice k ws =>
    exact onBuf_sat hI fun b _ hl hw =>
      bufSlot_sat (cloneFromSlice_sat hl hw (by intro s hs; cases hs)).bpost
  | cloneFromSliceFrom k j =>
    simp only [step, Op.target]
    apply Sat.ite
    · intro _; exact Sat.illTyped
    · intro hkj
      split
      · rename_i src ws hv
        exact onBuf_sat hI fun b _ hl hw =>
          bufSlot_sat (cloneFromSlice_sat hl hw (view_srcOk hI hv)).bpost
      · exact Sat.illTyped
  | bufCloneFrom k j =>
    simp only [step, Op.target]
    apply Sat.ite
    · intro _; exact Sat.illTyped
    · intro hkj
      split
      · rename_i src hp
        obtain ⟨hls, hws⟩ := hI.buf hp
        apply onBuf_sat hI
        intro b hb hl hw
        have hne : src.id ≠ b.id := by
          intro e
          have := hI.inj j k src.id src.cap b.cap (by rw [hp]; rfl) (by rw [hb, e]; rfl)
          exact hkj this.symm
        exact bufSlot_sat (cloneFromBuf_sat hl hw hls hws hne).bpost
      · exact Sat.illTyped
  | intoBoxedSlice k =>
    apply onBuf_sat hI
    intro b _ hl hw
    apply Sat.bind_conseq (intoBoxedSlice_sat hl)
    intro bx L1 n1 hn1 hq
    cases bx with
    | none =>
      apply Sat.bind
      unfold dropBox
      apply Sat.pure
      exact Sat.pure ⟨hq, trivial⟩
    | some bb =>
      obtain ⟨hm1, _⟩ := hq
      apply Sat.bind
      unfold dropBox
      apply Sat.conseq (dropBuf_sat (hm1.new_live _ _ rfl))
      intro _ L2 n2 hn2 hm2
      exact Sat.pure ⟨hm1.trans hm2 hn1, trivial⟩
  | fromBuffer k =>
    apply onBuf_sat hI
    intro b _ hl hw
    exact repSlot_sat (fromBuffer_sat hl hw)
  | intoBuffer k =>
    apply onRep_sat hI
    intro r _ hl hc
    apply bufSlot_sat
    exact Sat.conseq (intoBuffer_sat hc hl) (fun _ _ _ _ hq => ⟨hq.1, hq.2.1⟩)
  | intoTyped k =>
    apply onRep_sat hI
    intro r _ hl hc
    apply Sat.bind_conseq (intoTyped_sat hc hl)
    intro t L' n' _ ⟨hL', hown, ht⟩
    subst L'
    exact typedSlot_sat hl hown fun b e => by subst e; exact ht.1
  | repCloneFrom k j =>
    simp only [step, Op.target]
    apply Sat.ite
    · intro _; exact Sat.illTyped
    · intro hkj
      split
      · rename_i src hp
        obtain ⟨hls, hcs⟩ := hI.rep hp
        apply onRep_sat hI
        intro r hr hl hc
        have hne : ∀ i c i' c', r.own = some (i, c) → src.own = some (i', c') → i ≠ i' := by
          intro i c i' c' h1 h2 e
          subst e
          have := hI.inj k j i c c' (by rw [hr, Slot.own_rep]; exact h1) (by rw [hp, Slot.own_rep]; exact h2)
          exact hkj this
        exact repSlot_sat (repCloneFrom_sat hc hcs hl hls hne)
      · rename_i ws neg hp
        have hw : StaticWf ws := by have := hI.wf j; rw [hp] at this; exact this
        apply onRep_sat hI
        intro r hr hl hc
        exact repSlot_sat (cloneFromStatic_sat hc hl hw)
      · exact Sat.illTyped
  | withSign k s =>
    apply onRep_sat hI
    intro r _ hl hc
    apply Sat.pure
    refine ⟨?_, Rep.canon_withSign hc s⟩
    rw [Slot.own_rep, Rep.own_withSign]
    exact hl.moves
  | neg k =>
    apply onRep_sat hI
    intro r _ hl hc
    apply Sat.pure
    refine ⟨?_, Rep.canon_negate hc⟩
    rw [Slot.own_rep, Rep.own_negate]
    exact hl.moves
  | asSlice k =>
    simp only [step, Op.target]
    split
    · exact Sat.pure ⟨hI, fun _ _ => rfl⟩
    · apply onRep_sat hI
      intro r _ hl hc
      apply Sat.bind_conseq (asSlice_sat hc hl)
      intro _ L' n' _ ⟨hL', _⟩
      subst L'
      apply Sat.pure
      refine ⟨?_, hc⟩
      rw [Slot.own_rep]
      exact hl.moves
  | fromStaticWords k ws neg =>
    apply create_sat hI
    apply Sat.bind_conseq (fromStaticWords_sat (mx := mx) ws)
    intro o L' n' _ ⟨hL', _, ho⟩
    subst L'
    cases o with
    | value r =>
      obtain ⟨hc, hown, _, _⟩ := ho
      apply Sat.pure
      refine ⟨?_, Rep.canon_withSign hc neg⟩
      rw [Slot.own_rep, Rep.own_withSign, hown]; exact Moves.refl_none
    | stat ws' =>
      apply Sat.pure
      exact ⟨Moves.refl_none, ho.2⟩
  | bufFromView k j =>
    simp only [step, Op.target]
    apply Sat.ite
    · intro _; exact Sat.illTyped
    · intro hkj
      split
      · rename_i src ws hv
        exact create_sat hI (bufSlot_sat (fromSlice_sat (view_srcOk hI hv)).cpost)
      · exact Sat.illTyped
  | pushTailFrom k j lo =>
    simp only [step, Op.target]
    apply Sat.ite
    · intro _; exact Sat.illTyped
    · intro hkj
      split
      · rename_i src ws hv
        apply Sat.ite
        · intro hlo
          have hs : SrcOk L src (ws.drop lo).length := by
            intro s hs
            obtain ⟨c, hc, hle⟩ := view_srcOk hI hv s hs
            exact ⟨c, hc, by simp only [List.length_drop]; omega⟩
          exact onBuf_sat hI fun b _ hl hw => bufSlot_sat (pushSlice_sat hl hw hs).bpost
        · intro _
          exact onBuf_sat hI fun b _ hl hw => Sat.assertFail
      · exact Sat.illTyped
  | overwrite k ws =>
    apply onBuf_sat hI
    intro b _ hl hw
    apply Sat.ite
    · intro hlen
      apply Sat.bind
      apply Sat.quiet (Quiet.wr hl (by have := hw.1; omega))
      apply Sat.pure
      refine ⟨Moves.refl hl, ?_⟩
      show ws.length ≤ b.cap ∧ _
      have := hw.1; unfold Buf.len at this hlen
      exact ⟨by omega, hw.2.1, hw.2.2⟩
    · intro _; exact Sat.illTyped
  | intoSignTyped k =>
    apply onRep_sat hI
    intro r _ hl hc
    apply Sat.bind_conseq (intoSignTyped_sat hc hl)
    intro o L' n' _ ⟨hL', _, hown, ht⟩
    subst L'
    exact typedSlot_sat hl hown fun b e => by rw [e] at ht; exact ht.1
  | zeroize k =>
    simp only [step, Op.target]
    split
    · exact onBuf_sat hI fun b _ hl hw => bufSlot_sat (zeroizeBuf_sat hl hw).bpost
    · apply onRep_sat hI
      intro r _ hl hc
      apply repSlot_sat (R := fun _ _ => True)
      apply Sat.conseq (repZeroize_sat hc hl)
      intro r' L' n' _ ⟨hm, hr'⟩
      subst hr'
      exact ⟨hm, Rep.canon_fromWord 0, trivial⟩
    · exact Sat.illTyped
  | drop k =>
    exact Sat.conseq (drop_sat hI k) (fun _ _ _ _ hq => ⟨hq.1, hq.2.2⟩)

/-- all histories: induction over the operation list, no bound on its length -/
theorem run_sat {W : Nat} (hW : 0 < W) (ops : List Op) (hok : ∀ op ∈ ops, op.Ok mx) :
    ∀ {P : Pool} {L : Ledger} {n : Nat}, Inv mx P L →
      Sat L n (run W mx ops P) (fun P' L' _ => Inv mx P' L' ∧
        ∀ j, (∀ op ∈ ops, op.target ≠ j) → P' j = P j) := by
  induction ops with
  | nil => intro P L n hI; exact Sat.pure ⟨hI, fun _ _ => rfl⟩
  | cons op ops ih =>
    intro P L n hI
    unfold run
    apply Sat.bind_conseq (step_sat hW hI op (hok op List.mem_cons_self))
    intro P1 L1 n1 _ ⟨hI1, hfr1⟩
    apply Sat.conseq (ih (fun o ho => hok o (List.mem_cons_of_mem _ ho)) hI1)
    intro P2 L2 n2 _ ⟨hI2, hfr2⟩
    refine ⟨hI2, ?_⟩
    intro j hj
    rw [hfr2 j (fun o ho => hj o (List.mem_cons_of_mem _ ho))]
    exact hfr1 j (fun e => hj op List.mem_cons_self e.symm)

/-- dropping a list of registers empties exactly those -/
theorem dropList_sat {W : Nat} (ks : List Nat) :
    ∀ {P : Pool} {L : Ledger} {n : Nat}, Inv mx P L →
      Sat L n (run W mx (ks.map Op.drop) P) (fun P' L' _ => Inv mx P' L' ∧
        (∀ j ∈ ks, P' j = .empty) ∧ ∀ j, j ∉ ks → P' j = P j) := by
  induction ks with
  | nil => intro P L n hI; exact Sat.pure ⟨hI, (by intro j hj; cases hj), fun _ _ => rfl⟩
  | cons k ks ih =>
    intro P L n hI
    simp only [List.map_cons]
    unfold run
    apply Sat.bind_conseq (drop_sat hI k)
    intro P1 L1 n1 _ ⟨hI1, hk1, hfr1⟩
    apply Sat.conseq (ih hI1)
    intro P2 L2 n2 _ ⟨hI2, he2, hfr2⟩
    refine ⟨hI2, ?_, ?_⟩
    · intro j hj
      by_cases hjk : j ∈ ks
      · exact he2 j hjk
      · rw [hfr2 j hjk]
        rcases List.mem_cons.mp hj with h | h
        · rw [h]; exact hk1
        · exact absurd h hjk
    · intro j hj
      have hjk : j ∉ ks := fun h => hj (List.mem_cons_of_mem _ h)
      have hne : j ≠ k := fun h => hj (by rw [h]; exact List.mem_cons_self)
      rw [hfr2 j hjk]; exact hfr1 j hne

theorem run_append (W mx : Nat) (a b : List Op) (P : Pool) :
    run W mx (a ++ b) P = (run W mx a P >>= fun P' => run W mx b P') := by
  funext n
  induction a generalizing P n with
  | nil =>
    show run W mx b P n = M.bind (M.pure P) (fun P' => run W mx b P') n
    simp [M.bind, M.pure]
  | cons op ops ih =>
    show M.bind (step W mx P op) (fun P' => run W mx (ops ++ b) P') n =
      M.bind (M.bind (step W mx P op) (fun P' => run W mx ops P')) (fun P' => run W mx b P') n
    unfold M.bind
    cases hres : (step W mx P op n).res with
    | error e => simp [hres]
    | ok P1 =>
      simp only [hres]
      have := ih P1 (step W mx P op n).next
      have e2 : (run W mx ops P1 >>= fun P' => run W mx b P') (step W mx P op n).next =
          M.bind (run W mx ops P1) (fun P' => run W mx b P') (step W mx P op n).next := rfl
      rw [this, e2]
      unfold M.bind
      cases hres2 : (run W mx ops P1 (step W mx P op n).next).res with
      | error e => simp [hres2]
      | ok P2 => simp [hres2, List.append_assoc]

/-- `drop` has no panic branch -/
theorem drop_ok (W mx : Nat) (P : Pool) (k n : Nat) : ∃ P', (step W mx P (.drop k) n).res = .ok P' := by
  simp only [step]
  cases P k with
  | empty => exact ⟨P, rfl⟩
  | buf b => exact ⟨P.set k .empty, rfl⟩
  | rep r =>
    cases r with
    | inline lo hi code neg => exact ⟨P.set k .empty, rfl⟩
    | heap id cap ws neg => exact ⟨P.set k .empty, rfl⟩
  | stat ws neg => exact ⟨P.set k .empty, rfl⟩

theorem dropList_ok (W mx : Nat) (ks : List Nat) :
    ∀ (P : Pool) (n : Nat), ∃ P', (run W mx (ks.map Op.drop) P n).res = .ok P' := by
  induction ks with
  | nil => intro P n; exact ⟨P, rfl⟩
  | cons k ks ih =>
    intro P n
    obtain ⟨P1, h1⟩ := drop_ok W mx P k n
    obtain ⟨P2, h2⟩ := ih P1 (step W mx P (.drop k) n).next
    refine ⟨P2, ?_⟩
    show (M.bind (step W mx P (.drop k)) (fun P' => run W mx (ks.map Op.drop) P') n).res = _
    rw [M.bind_ok h1]; exact h2

/-- a completed history followed by dropping registers completes -/
theorem run_append_drop_ok (W mx : Nat) (ops : List Op) (ks : List Nat) (P : Pool) (n : Nat) {P1 : Pool}
    (h : (run W mx ops P n).res = .ok P1) :
    ∃ P', (run W mx (ops ++ ks.map Op.drop) P n).res = .ok P' := by
  obtain ⟨P2, h2⟩ := dropList_ok W mx ks P1 (run W mx ops P n).next
  refine ⟨P2, ?_⟩
  rw [run_append]
  show (M.bind (run W mx ops P) (fun P' => run W mx (ks.map Op.drop) P') n).res = _
  rw [M.bind_ok h]; exact h2

-- ------------------------------------------------------------------ static-backed registers are read-only

theorem illTyped_res {α : Type} (n : Nat) (a : α) : ((illTyped : M α) n).res ≠ .ok a := by
  intro h; cases h

theorem create_stat {P : Pool} {k : Nat} {ws : List Nat} {neg : Bool} (h : P k = .stat ws neg)
    (m : M Slot) (n : Nat) (P' : Pool) : (create P k m n).res ≠ .ok P' := by
  unfold create; rw [h]; exact illTyped_res n P'

theorem onBuf_stat {P : Pool} {k : Nat} {ws : List Nat} {neg : Bool} (h : P k = .stat ws neg)
    (f : Buf → M Slot) (n : Nat) (P' : Pool) : (onBuf P k f n).res ≠ .ok P' := by
  unfold onBuf; rw [h]; exact illTyped_res n P'

theorem onRep_stat {P : Pool} {k : Nat} {ws : List Nat} {neg : Bool} (h : P k = .stat ws neg)
    (f : Rep → M Slot) (n : Nat) (P' : Pool) : (onRep P k f n).res ≠ .ok P' := by
  unfold onRep; rw [h]; exact illTyped_res n P'

end Dashu.Model.Mem
