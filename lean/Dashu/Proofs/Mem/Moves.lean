import Dashu.Proofs.Mem.Sat
/-
  C17 — `Moves L L' n old new`: the ledger changed from `L` to `L'` exactly by replacing the owned
  allocation `old` (id, capacity) by `new`; every other id is untouched (ids ≥ n that were allocated
  and freed in between are dead again).
-/
namespace Dashu.Model.Mem

structure Moves (L L' : Ledger) (n : Nat) (old new : Option (Nat × Nat)) : Prop where
  new_live : ∀ i c, new = some (i, c) → L' i = some c
  new_from : ∀ i c, new = some (i, c) → (∃ c0, old = some (i, c0)) ∨ n ≤ i
  frame : ∀ j, (∀ c, old ≠ some (j, c)) → (∀ c, new ≠ some (j, c)) → L' j = L j ∨ (n ≤ j ∧ L' j = none)
  old_dead : ∀ i c, old = some (i, c) → (∀ c', new ≠ some (i, c')) → L' i = none

theorem Moves.refl {L : Ledger} {n i c : Nat} (h : L i = some c) : Moves L L n (some (i, c)) (some (i, c)) where
  new_live := by intro i' c' he; cases he; exact h
  new_from := by intro i' c' he; cases he; exact Or.inl ⟨c, rfl⟩
  frame := by intro j _ _; exact Or.inl rfl
  old_dead := by intro i' c' he hn; cases he; exact absurd rfl (hn c)

theorem Moves.refl_none {L : Ledger} {n : Nat} : Moves L L n none none where
  new_live := by intro i' c' he; cases he
  new_from := by intro i' c' he; cases he
  frame := by intro j _ _; exact Or.inl rfl
  old_dead := by intro i' c' he; cases he

/-- realloc in place -/
theorem Moves.set_cap {L : Ledger} {n i c c' : Nat} :
    Moves L (L.set i (some c')) n (some (i, c)) (some (i, c')) where
  new_live := by intro i' c'' he; cases he; simp [Ledger.set]
  new_from := by intro i' c'' he; cases he; exact Or.inl ⟨c, rfl⟩
  frame := by
    intro j ho _; left; simp only [Ledger.set]; split
    · rename_i h; subst h; exact absurd rfl (ho c)
    · rfl
  old_dead := by intro i' c'' he hn; cases he; exact absurd rfl (hn c')

/-- allocation of a fresh id -/
theorem Moves.alloc {L : Ledger} {n i c : Nat} (hi : n ≤ i) :
    Moves L (L.set i (some c)) n none (some (i, c)) where
  new_live := by intro i' c'' he; cases he; simp [Ledger.set]
  new_from := by intro i' c'' he; cases he; exact Or.inr hi
  frame := by
    intro j _ hn; left; simp only [Ledger.set]; split
    · rename_i h; subst h; exact absurd rfl (hn c)
    · rfl
  old_dead := by intro i' c' he; cases he

/-- free -/
theorem Moves.free {L : Ledger} {n i c : Nat} :
    Moves L (L.set i none) n (some (i, c)) none where
  new_live := by intro i' c'' he; cases he
  new_from := by intro i' c'' he; cases he
  frame := by
    intro j ho _; left; simp only [Ledger.set]; split
    · rename_i h; subst h; exact absurd rfl (ho c)
    · rfl
  old_dead := by intro i' c' he _; cases he; simp [Ledger.set]

theorem Moves.trans {L L1 L2 : Ledger} {n n1 : Nat} {old mid new : Option (Nat × Nat)}
    (h1 : Moves L L1 n old mid) (h2 : Moves L1 L2 n1 mid new) (hn : n ≤ n1) :
    Moves L L2 n old new where
  new_live := h2.new_live
  new_from := by
    intro i c he
    rcases h2.new_from i c he with ⟨c0, hm⟩ | hi
    · exact h1.new_from i c0 hm
    · exact Or.inr (Nat.le_trans hn hi)
  frame := by
    intro j ho hnw
    cases hm : mid with
    | none =>
      subst hm
      rcases h2.frame j (by intro c hc; cases hc) hnw with h | ⟨hj, h⟩
      · rw [h]; exact h1.frame j ho (by intro c hc; cases hc)
      · exact Or.inr ⟨Nat.le_trans hn hj, h⟩
    | some p =>
      obtain ⟨mi, mc⟩ := p
      subst hm
      by_cases hjm : j = mi
      · subst hjm
        have hd := h2.old_dead j mc rfl hnw
        rcases h1.new_from j mc rfl with ⟨c0, hc0⟩ | hj
        · exact absurd hc0 (ho c0)
        · exact Or.inr ⟨hj, hd⟩
      · have hnm : ∀ c, some (mi, mc) ≠ some (j, c) := by
          intro c hc; cases hc; exact hjm rfl
        rcases h2.frame j hnm hnw with h | ⟨hj, h⟩
        · rw [h]; exact h1.frame j ho hnm
        · exact Or.inr ⟨Nat.le_trans hn hj, h⟩
  old_dead := by
    intro i c he hnw
    cases hm : mid with
    | none =>
      subst hm
      have h1d := h1.old_dead i c he (by intro c' hc; cases hc)
      rcases h2.frame i (by intro c' hc; cases hc) hnw with h | ⟨_, h⟩
      · rw [h]; exact h1d
      · exact h
    | some p =>
      obtain ⟨mi, mc⟩ := p
      subst hm
      by_cases him : i = mi
      · subst him; exact h2.old_dead i mc rfl hnw
      · have hnm : ∀ c', some (mi, mc) ≠ some (i, c') := by
          intro c' hc; cases hc; exact him rfl
        have h1d := h1.old_dead i c he hnm
        rcases h2.frame i hnm hnw with h | ⟨_, h⟩
        · rw [h]; exact h1d
        · exact h

/-- weaken the counter -/
theorem Moves.mono {L L' : Ledger} {n n0 : Nat} {old new : Option (Nat × Nat)}
    (h : Moves L L' n old new) (hn : n0 ≤ n) : Moves L L' n0 old new where
  new_live := h.new_live
  new_from := by
    intro i c he; rcases h.new_from i c he with h' | h'
    · exact Or.inl h'
    · exact Or.inr (Nat.le_trans hn h')
  frame := by
    intro j ho hnw; rcases h.frame j ho hnw with h' | ⟨hj, h'⟩
    · exact Or.inl h'
    · exact Or.inr ⟨Nat.le_trans hn hj, h'⟩
  old_dead := h.old_dead

theorem live_lt {L : Ledger} {n id c : Nat} (hB : L.Below n) (h : L id = some c) : id < n := by
  apply Nat.lt_of_not_le; intro hle; rw [hB id hle] at h; cases h

/-- an allocation that is neither the old nor the new one keeps its ledger entry, provided it was live -/
theorem Moves.other {L L' : Ledger} {n : Nat} {old new : Option (Nat × Nat)} (h : Moves L L' n old new)
    (hB : L.Below n) {j cj : Nat} (hj : L j = some cj) (ho : ∀ c, old ≠ some (j, c)) :
    L' j = some cj := by
  have hlt : j < n := live_lt hB hj
  have hnw : ∀ c, new ≠ some (j, c) := by
    intro c hc
    rcases h.new_from j c hc with ⟨c0, h0⟩ | hle
    · exact ho c0 h0
    · omega
  rcases h.frame j ho hnw with h' | ⟨hle, _⟩
  · rw [h']; exact hj
  · omega

/-- a creation leaves every live allocation as it is -/
theorem Moves.live_of_create {L L' : Ledger} {n j cj : Nat} {new : Option (Nat × Nat)}
    (h : Moves L L' n none new) (hB : L.Below n) (hj : L j = some cj) : L' j = some cj :=
  h.other hB hj (fun _ hc => nomatch hc)

/-- `*self = new_value`: the new allocation is made first, then the old one is freed -/
theorem Moves.create_then_free {L L1 L2 : Ledger} {n n1 i c o co : Nat}
    (h1 : Moves L L1 n none (some (i, c))) (h2 : Moves L1 L2 n1 (some (o, co)) none)
    (hB1 : L1.Below n1) (hn : n ≤ n1) (hne : o ≠ i) : Moves L L2 n (some (o, co)) (some (i, c)) where
  new_live := by
    intro i' c' he; cases he
    have hl := h1.new_live i c rfl
    rcases h2.frame i (by intro c0 hc; cases hc; exact hne rfl) (by intro c0 hc; cases hc) with h | ⟨hle, _⟩
    · rw [h]; exact hl
    · rw [hB1 i hle] at hl; cases hl
  new_from := by
    intro i' c' he; cases he
    rcases h1.new_from i c rfl with ⟨c0, h0⟩ | h
    · cases h0
    · exact Or.inr h
  frame := by
    intro j ho hnw
    rcases h2.frame j ho (by intro c0 hc; cases hc) with h | ⟨hle, h⟩
    · rw [h]; exact h1.frame j (by intro c0 hc; cases hc) hnw
    · exact Or.inr ⟨Nat.le_trans hn hle, h⟩
  old_dead := by
    intro i' c' he _; cases he
    exact h2.old_dead o co rfl (by intro c0 hc; cases hc)

end Dashu.Model.Mem
