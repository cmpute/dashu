import Dashu.Proofs.Mem.Repr
/-
  C17 — static-backed values (`Repr::from_static_words`, what `ubig!`/`static_ubig!` expand to),
  `into_sign_typed`, and the `&UBig ↔ &IBig` transmutes.
-/
namespace Dashu.Model.Mem

variable {L : Ledger} {n mx : Nat}

/-- the invariant of a static-backed value: `|capacity| = len ≥ 3`, top word ≠ 0 -/
def StaticWf (ws : List Nat) : Prop := 3 ≤ ws.length ∧ ws.getLast? ≠ some 0

/-- repr.rs:290 — `from_static_words`: ≤ 2 words give an ordinary canonical inline value (the
    `[lo, hi]` case asserts `hi > 0`), ≥ 3 words a static-backed value with non-zero top word and
    `capacity = len ≠ 0` (the `new_unchecked` obligation); no ledger event -/
theorem fromStaticWords_sat (ws : List Nat) :
    Sat L n (Rep.fromStaticWords ws) (fun o L' n' => L' = L ∧ n' = n ∧
      match o with
      | .value r => r.Canon mx ∧ r.own = none ∧ r.isNeg = false ∧
          ∃ t, ws = r.words ++ t ∧ ∀ x ∈ t, x = 0
      | .stat ws' => ws' = ws ∧ StaticWf ws') := by
  unfold Rep.fromStaticWords
  split
  · exact Sat.pure ⟨rfl, rfl, Rep.canon_fromWord 0, rfl, rfl, [], rfl, by simp⟩
  · rename_i w
    apply Sat.pure
    refine ⟨rfl, rfl, Rep.canon_fromWord w, rfl, rfl, ?_⟩
    -- NB `from_static_words(&[0])` is the value 0 whose `as_words()` is `[]`, not `[0]`
    by_cases hw : w = 0
    · subst hw; exact ⟨[0], by simp [Rep.fromWord, Rep.words], by simp⟩
    · exact ⟨[], by simp [Rep.fromWord, Rep.words, hw], by simp⟩
  · rename_i lo hi
    apply Sat.ite
    · intro hhi
      apply Sat.pure
      have : hi ≠ 0 := by omega
      refine ⟨rfl, rfl, Rep.canon_fromDword lo hi, ?_, ?_, ?_⟩
      · unfold Rep.fromDword; rfl
      · unfold Rep.fromDword; rfl
      · exact ⟨[], by simp [Rep.fromDword, Rep.words, this], by simp⟩
    · intro _; exact Sat.assertFail
  · rename_i h0 h1 h2
    apply Sat.ite
    · intro _; exact Sat.assertFail
    · intro hl
      exact Sat.pure ⟨rfl, rfl, rfl, length_ge_three h0 h1 h2, hl⟩

/-- `from_static_words(&[0])` is accepted and is the value zero: the one-word case has no
    normalisation assert (harmless: the result is the canonical zero) -/
theorem fromStaticWords_zero_word :
    (Rep.fromStaticWords [0] 0).res.toOption = some (.value (Rep.fromWord 0)) := by decide

/-- `Clone::clone` of a static-backed value: reads only the static array (no ledger access), the
    copy owns a fresh allocation, is canonical and equal -/
theorem cloneStatic_sat {ws : List Nat} {neg : Bool} (hs : StaticWf ws) :
    Sat L n (Rep.cloneStatic mx ws neg) (fun r' L' _ =>
      Moves L L' n none r'.own ∧ r'.Canon mx ∧ r'.words = ws ∧ r'.isNeg = neg) :=
  cloneWords_sat hs.1 hs.2 (fun _ h => nomatch h)

/-- `clone_from(&mut self, &STATIC)` for every size relation: equal to the static value, canonical,
    old buffer reused or freed exactly once -/
theorem cloneFromStatic_sat {self : Rep} {sws : List Nat} {sneg : Bool} (hcs : self.Canon mx)
    (hLs : self.Live L) (hs : StaticWf sws) :
    Sat L n (Rep.cloneFromStatic mx self sws sneg) (fun r' L' _ =>
      Moves L L' n self.own r'.own ∧ r'.Canon mx ∧ r'.words = sws ∧ r'.isNeg = sneg) :=
  cloneFromWords_sat (src := none) hcs hLs hs.1 hs.2 (fun _ h => nomatch h) (fun _ h => nomatch h)
    (fun id cap ws neg h => by subst h; rfl)

theorem Rep.isNeg_setNeg (r : Rep) (s : Bool) : (r.setNeg s).isNeg = s := by cases r <;> rfl

/-- repr.rs:209 — `into_sign_typed`: never asserts (the capacity is made positive first), hands the
    allocation over unchanged -/
theorem intoSignTyped_sat {r : Rep} (hc : r.Canon mx) (hL : r.Live L) :
    Sat L n (Rep.intoSignTyped r) (fun o L' _ =>
      L' = L ∧ o.1 = r.isNeg ∧ o.2.own = r.own ∧
      match o.2 with
      | .small lo hi => r.words = (Rep.fromDword lo hi).words
      | .large b => b.Wf mx ∧ b.ws = r.words) := by
  unfold Rep.intoSignTyped
  apply Sat.bind
  have hL' : (r.setNeg false).Live L := by
    intro id c ho; rw [Rep.own_setNeg] at ho; exact hL id c ho
  apply Sat.conseq (intoTyped_sat (Rep.canon_setNeg hc (s := false) (fun h => nomatch h)) hL')
  intro t L' n' _ ⟨hLL, hown, ht⟩
  apply Sat.pure
  refine ⟨hLL, rfl, by rw [hown, Rep.own_setNeg], ?_⟩
  cases t with
  | small lo hi => simpa [Rep.words_setNeg] using ht
  | large b => simpa [Rep.words_setNeg] using ht

/-- `into_sign_typed` does not panic on canonical values (unlike `into_typed` on a negative one) -/
theorem intoSignTyped_no_panic {r : Rep} (n : Nat) : ∃ o, (Rep.intoSignTyped r n).res = .ok o := by
  cases r with
  | inline lo hi code neg => exact ⟨_, rfl⟩
  | heap id cap ws neg => exact ⟨_, rfl⟩

/-- convert.rs:563 / 695 — `&UBig → &IBig` and `&IBig → Option<&UBig>` are the identity on the
    representation; `as_ubig` yields a value only when the sign is positive, so a `&UBig` never
    points at a negative `Repr` -/
theorem as_ubig_positive {r r' : Rep} (h : Rep.asUbig r = some r') : r' = r ∧ r'.isNeg = false := by
  unfold Rep.asUbig at h
  split at h
  · cases h
  · rename_i hn; injection h with h; subst h; exact ⟨rfl, by simpa using hn⟩

-- ------------------------------------------------------------------ zeroize (feature `zeroize`)

/-- buffer.rs:438 / zeroize.rs:12 — the full-capacity slice is exactly the allocation; afterwards the
    buffer is empty with the same allocation -/
theorem zeroizeBuf_sat {b : Buf} (hL : L b.id = some b.cap) (hw : b.Wf mx) :
    Sat L n (zeroizeBuf b) (BPost mx L n b (fun b' => b'.id = b.id ∧ b'.cap = b.cap ∧ b'.ws = [])) := by
  unfold zeroizeBuf asFullSliceZero
  apply Sat.bind
  apply Sat.quiet (Quiet.wr hL (by omega))
  have hw' : Buf.Wf mx { b with ws := List.replicate b.len 0 } := by
    refine ⟨?_, hw.2.1, hw.2.2⟩
    show (List.replicate b.len 0).length ≤ b.cap
    simp only [List.length_replicate]; exact hw.1
  apply Sat.conseq (truncate_sat (b := { b with ws := List.replicate b.len 0 }) hL hw')
  intro b' L' n' _ ⟨hm, hwf, hid, hcap, hws⟩
  exact ⟨hm, hwf, hid, hcap, by rw [hws]; simp⟩

/-- repr.rs:253 / zeroize.rs:19 — the full slice of a heap value is exactly its allocation
    (`|capacity|` words); afterwards the value is the canonical zero and the buffer is freed once -/
theorem repZeroize_sat {r : Rep} (hc : r.Canon mx) (hL : r.Live L) :
    Sat L n (Rep.zeroize mx r) (fun r' L' _ =>
      Moves L L' n r.own none ∧ r' = Rep.fromWord 0) := by
  unfold Rep.zeroize
  apply Sat.bind_conseq (P := fun _ L1 n1 => L1 = L ∧ n1 = n)
  · cases r with
    | inline lo hi code neg => exact Sat.pure ⟨rfl, rfl⟩
    | heap id cap ws neg =>
      unfold Rep.fullSliceZero
      exact Sat.quiet (Quiet.wr (hL id cap rfl) (by omega)) ⟨rfl, rfl⟩
  intro _ L1 n1 _ ⟨hL1, hn1⟩
  subst L1 n1
  show Sat L n (Rep.cloneFrom mx r (Rep.inline 0 0 1 false)) _
  unfold Rep.cloneFrom
  apply Sat.bind_conseq (releaseOld_sat hL)
  intro _ L1 n1 _ ⟨hm, _⟩
  exact Sat.pure ⟨hm, rfl⟩

end Dashu.Model.Mem
