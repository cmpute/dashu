import Dashu.Proofs.Mem.Arith
import Dashu.Proofs.Mem.Policy
import Dashu.Model.Mem.Arith2
/-
  C17 — pow.rs `pow_word_base` / `pow_dword_base`: length bookkeeping of the square-and-multiply loop on the
  single result buffer (`// actually never resize`).
-/
namespace Dashu.Model.Mem

theorem div_pow_succ_bit (e p : Nat) :
    e / 2 ^ p = 2 * (e / 2 ^ (p + 1)) + (if e.testBit p then 1 else 0) := by
  have h1 : e / 2 ^ (p + 1) = e / 2 ^ p / 2 := by rw [Nat.pow_succ, Nat.div_div_eq_div_mul]
  rw [h1, Nat.testBit_eq_decide_div_mod_eq]
  generalize e / 2 ^ p = q
  by_cases h : q % 2 = 1
  · simp only [h, decide_true, ↓reduceIte]; omega
  · simp only [h, decide_false, Bool.false_eq_true, ↓reduceIte]; omega

/-- length bookkeeping of the square-and-multiply loop of `pow_word_base` / `pow_dword_base`, `c` = the words of the
    multiplier (a multiplication adds at most `c` words, a squaring doubles): if the length on entry at bit `p` is at most
    `2·c` times the exponent prefix above bit `p`, the final length is at most `c·e` -/
theorem powLoop_len_le (W r m e : Nat) (dword : Bool) : ∀ (p val len : Nat),
    len ≤ (if dword then 4 else 2) * (e / 2 ^ (p + 1)) →
    (powLoop W r m dword e p val len).2.2 ≤ (if dword then 2 else 1) * e := by
  intro p
  induction p with
  | zero =>
    intro val len h
    have hb := div_pow_succ_bit e 0
    simp only [Nat.pow_zero, Nat.div_one, Nat.zero_add] at hb h
    unfold powLoop
    by_cases ht : e.testBit 0 = true
    · simp only [ht, ↓reduceIte] at hb ⊢
      cases dword <;> simp only [Bool.false_eq_true, ↓reduceIte] at h ⊢ <;>
        split <;> (try split) <;> (try dsimp only) <;> omega
    · simp only [ht, Bool.false_eq_true, ↓reduceIte] at hb ⊢
      cases dword <;> simp only [Bool.false_eq_true, ↓reduceIte] at h ⊢ <;> omega
  | succ p ih =>
    intro val len h
    have hb := div_pow_succ_bit e (p + 1)
    have hb0 := div_pow_succ_bit e p
    unfold powLoop
    by_cases ht : e.testBit (p + 1) = true
    · simp only [ht, ↓reduceIte] at hb ⊢
      apply ih
      cases dword <;> simp only [Bool.false_eq_true, ↓reduceIte] at h ⊢ <;>
        split <;> (try split) <;> (try dsimp only) <;> omega
    · simp only [ht, Bool.false_eq_true, ↓reduceIte] at hb ⊢
      apply ih
      cases dword <;> simp only [Bool.false_eq_true, ↓reduceIte] at h ⊢ <;> omega

/-- pow.rs, the comment `// actually never resize`: started as the code starts it, from the square of the multiplier
    (`2·c` words) at bit `bit_len(e) - 2`, the tracked length after the whole loop is ≤ `c·e` (lengths only grow, so every
    intermediate length is too, and every `push_zeros(len)` doubling stays ≤ `c·e`) -/
theorem powLoop_len_start (W r m e : Nat) (dword : Bool) (he : 2 ≤ e) (val : Nat) :
    (powLoop W r m dword e (Nat.log2 e - 1) val (if dword then 4 else 2)).2.2 ≤ (if dword then 2 else 1) * e := by
  have hne : e ≠ 0 := by omega
  have hl : 1 ≤ Nat.log2 e := (Nat.le_log2 hne).mpr (by simpa using he)
  have h1 : 1 ≤ e / 2 ^ (Nat.log2 e - 1 + 1) := by
    rw [Nat.sub_add_cancel hl]; exact Nat.div_pos (Nat.log2_self_le hne) (Nat.two_pow_pos _)
  apply powLoop_len_le
  split <;> omega

end Dashu.Model.Mem
