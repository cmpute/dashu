import Dashu.Model.Mem.Repr
/-
  C17 — program logic for the ledger monad.  `Sat L n m Q`: started with ledger `L` and fresh counter
  `n` (all ids ≥ n dead), the computation `m`
    * emits only events that are memory-safe when replayed from `L` (also when it ends in a panic),
    * never reaches a `Fault.ub` point,
    * and, if it returns a value, `Q value ledger' counter'` holds.
-/
namespace Dashu.Model.Mem

theorem replay_append (L : Ledger) (a b : List Event) :
    replay L (a ++ b) = (replay L a).bind (fun L' => replay L' b) := by
  induction a generalizing L with
  | nil => rfl
  | cons e es ih =>
    simp only [List.cons_append, replay]
    cases stepEv L e with
    | none => rfl
    | some L' => exact ih L'

def Sat {α : Type} (L : Ledger) (n : Nat) (m : M α) (Q : α → Ledger → Nat → Prop) : Prop :=
  L.Below n → ∃ L', replay L (m n).evs = some L' ∧ n ≤ (m n).next ∧ L'.Below (m n).next ∧
    (∀ s, (m n).res ≠ .error (.ub s)) ∧ ∀ a, (m n).res = .ok a → Q a L' (m n).next

variable {α β : Type} {L : Ledger} {n : Nat}

theorem Sat.pure {a : α} {Q : α → Ledger → Nat → Prop} (h : Q a L n) : Sat L n (pure a) Q := by
  intro hB
  exact ⟨L, rfl, Nat.le_refl _, hB, fun s hs => (by cases hs), fun a' ha => (by cases ha; exact h)⟩

theorem Sat.conseq {m : M α} {Q Q' : α → Ledger → Nat → Prop} (h : Sat L n m Q)
    (hq : ∀ a L' n', n ≤ n' → Q a L' n' → Q' a L' n') : Sat L n m Q' := by
  intro hB
  obtain ⟨L', hr, hn, hB', hub, hQ⟩ := h hB
  exact ⟨L', hr, hn, hB', hub, fun a ha => hq a L' _ hn (hQ a ha)⟩

theorem M.bind_error {m : M α} {f : α → M β} {e : Fault} (h : (m n).res = .error e) :
    M.bind m f n = ⟨.error e, (m n).next, (m n).evs⟩ := by
  unfold M.bind; simp only [h]

theorem M.bind_ok {m : M α} {f : α → M β} {a : α} (h : (m n).res = .ok a) :
    M.bind m f n = ⟨(f a (m n).next).res, (f a (m n).next).next, (m n).evs ++ (f a (m n).next).evs⟩ := by
  unfold M.bind; simp only [h]

theorem Sat.bind {m : M α} {f : α → M β} {Q : β → Ledger → Nat → Prop}
    (h : Sat L n m (fun a L1 n1 => Sat L1 n1 (f a) Q)) : Sat L n (m >>= f) Q := by
  intro hB
  obtain ⟨L1, hr, hn, hB1, hub, hq⟩ := h hB
  show ∃ L', replay L ((M.bind m f) n).evs = some L' ∧ n ≤ ((M.bind m f) n).next ∧
    L'.Below ((M.bind m f) n).next ∧ (∀ s, ((M.bind m f) n).res ≠ .error (.ub s)) ∧
    ∀ a, ((M.bind m f) n).res = .ok a → Q a L' ((M.bind m f) n).next
  cases hres : (m n).res with
  | error e =>
    rw [M.bind_error hres]
    refine ⟨L1, hr, hn, hB1, ?_, ?_⟩
    · intro s hs
      have he : e = .ub s := by injection hs
      subst he; exact hub s hres
    · intro a ha; cases ha
  | ok a =>
    obtain ⟨L2, hr2, hn2, hB2, hub2, hq2⟩ := hq a hres hB1
    rw [M.bind_ok hres]
    refine ⟨L2, ?_, Nat.le_trans hn hn2, hB2, hub2, hq2⟩
    show replay L ((m n).evs ++ _) = some L2
    rw [replay_append, hr]; exact hr2

/-- run `m` on its specification `P`, continue from what `P` guarantees -/
theorem Sat.bind_conseq {m : M α} {f : α → M β} {P : α → Ledger → Nat → Prop}
    {Q : β → Ledger → Nat → Prop} (hm : Sat L n m P)
    (hf : ∀ a L1 n1, n ≤ n1 → P a L1 n1 → Sat L1 n1 (f a) Q) : Sat L n (m >>= f) Q :=
  Sat.bind (Sat.conseq hm hf)

/-- sequencing with a unit computation -/
theorem Sat.seq {m : M Unit} {k : M β} {Q : β → Ledger → Nat → Prop}
    (h : Sat L n m (fun _ L1 n1 => Sat L1 n1 k Q)) : Sat L n (do m; k) Q :=
  Sat.bind h

theorem Sat.fault_panic {k : PanicKind} {Q : α → Ledger → Nat → Prop} :
    Sat L n (fault (.panic k) : M α) Q := by
  intro hB
  exact ⟨L, rfl, Nat.le_refl _, hB, fun s hs => (by cases hs), fun a ha => (by cases ha)⟩

theorem Sat.assertFail {site : String} {Q : α → Ledger → Nat → Prop} :
    Sat L n (assertFail site : M α) Q := Sat.fault_panic


def Event.isAlloc : Event → Bool
  | .alloc .. => true
  | _ => false

theorem stepEv_dom {L L' : Ledger} {e : Event} (h : stepEv L e = some L') (he : e.isAlloc = false)
    (j : Nat) (hj : L j = none) : L' j = none := by
  cases e with
  | alloc id c => cases he
  | realloc id o nw =>
    simp only [stepEv] at h
    split at h
    · rename_i hc
      cases h
      simp only [Ledger.set]; split
      · rename_i hji; subst hji; rw [hj] at hc; cases hc.1
      · exact hj
    · cases h
  | free id c =>
    simp only [stepEv] at h
    split at h
    · cases h; simp only [Ledger.set]; split <;> simp [hj]
    · cases h
  | read id i =>
    simp only [stepEv] at h
    split at h
    · split at h
      · cases h; exact hj
      · cases h
    · cases h
  | write id i =>
    simp only [stepEv] at h
    split at h
    · split at h
      · cases h; exact hj
      · cases h
    · cases h

theorem replay_dom {es : List Event} {L L' : Ledger} (h : replay L es = some L')
    (he : ∀ e ∈ es, e.isAlloc = false) (j : Nat) (hj : L j = none) : L' j = none := by
  induction es generalizing L with
  | nil => cases h; exact hj
  | cons e es ih =>
    simp only [replay] at h
    cases hs : stepEv L e with
    | none => rw [hs] at h; cases h
    | some L1 =>
      rw [hs] at h
      exact ih h (fun e' he' => he e' (List.mem_cons_of_mem _ he'))
        (stepEv_dom hs (he e List.mem_cons_self) j hj)

/-- events other than allocations: safe iff they replay; the fresh counter is unchanged -/
theorem Sat.emits {es : List Event} {L1 : Ledger} {Q : Unit → Ledger → Nat → Prop}
    (hr : replay L es = some L1) (he : ∀ e ∈ es, e.isAlloc = false) (h : Q () L1 n) :
    Sat L n (emits es) Q := by
  intro hB
  exact ⟨L1, hr, Nat.le_refl _, fun j hj => replay_dom hr he j (hB j hj),
    fun s hs => (by cases hs), fun a ha => h⟩

theorem Sat.emit {e : Event} {L1 : Ledger} {Q : Unit → Ledger → Nat → Prop}
    (hr : stepEv L e = some L1) (he : e.isAlloc = false) (h : Q () L1 n) :
    Sat L n (emit e) Q := by
  apply Sat.emits (L1 := L1) _ _ h
  · simp [replay, hr]
  · intro e' he'; simp at he'; subst he'; exact he

theorem Sat.ite {c : Prop} [Decidable c] {a b : M α} {Q : α → Ledger → Nat → Prop}
    (ha : c → Sat L n a Q) (hb : ¬c → Sat L n b Q) : Sat L n (if c then a else b) Q := by
  split
  · exact ha ‹_›
  · exact hb ‹_›

-- ------------------------------------------------------------------ events that change nothing

/-- the events allocate nothing and replay to the ledger they started from -/
def Quiet (L : Ledger) (es : List Event) : Prop :=
  replay L es = some L ∧ ∀ e ∈ es, e.isAlloc = false

theorem Sat.quiet {es : List Event} {Q : Unit → Ledger → Nat → Prop} (hq : Quiet L es)
    (h : Q () L n) : Sat L n (Mem.emits es) Q :=
  Sat.emits hq.1 hq.2 h

theorem Quiet.append {a b : List Event} (ha : Quiet L a) (hb : Quiet L b) : Quiet L (a ++ b) :=
  ⟨by rw [replay_append, ha.1]; exact hb.1,
    fun e he => (List.mem_append.mp he).elim (ha.2 e) (hb.2 e)⟩

/-- reads and writes of one live allocation, all below its capacity -/
theorem Quiet.access {id c : Nat} (hL : L id = some c) {es : List Event}
    (h : ∀ e ∈ es, (∃ i, e = .read id i ∧ i < c) ∨ (∃ i, e = .write id i ∧ i < c)) :
    Quiet L es := by
  induction es with
  | nil => exact ⟨rfl, fun _ he => nomatch he⟩
  | cons e es ih =>
    obtain ⟨hr, ha⟩ := ih (fun e' he' => h e' (List.mem_cons_of_mem _ he'))
    have hs : stepEv L e = some L ∧ e.isAlloc = false := by
      rcases h e List.mem_cons_self with ⟨i, rfl, hi⟩ | ⟨i, rfl, hi⟩ <;>
        simp [stepEv, hL, hi, Event.isAlloc]
    refine ⟨by simp only [replay, hs.1]; exact hr, fun e' he' => ?_⟩
    rcases List.mem_cons.mp he' with rfl | he'
    · exact hs.2
    · exact ha e' he'

end Dashu.Model.Mem
