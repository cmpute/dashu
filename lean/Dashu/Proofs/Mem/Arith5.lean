import Dashu.Model.Mem.Arith5
import Mathlib.Tactic.SplitIfs
/-
  C17 — the Euclidean fix-up of `IBig::rem_euclid` / `div_rem_euclid` (`mag1 - r.into_typed()`, div_ops.rs
  `impl_ibig_rem_euclid`, `impl_ibig_divrem_euclid`) never reaches the underflow panic of `UBig - UBig`
  (`panic_negative_ubig`): the truncated remainder is not longer and not larger than the divisor.
-/
namespace Dashu.Proofs.Mem
open Dashu.Model Dashu.Model.Mem

theorem toWords_length (W : Nat) : ∀ (n v : Nat), (toWords W n v).length = n
  | 0, _ => rfl
  | n + 1, v => by simp [toWords, toWords_length W n]

/-- `n` little-endian words hold `v mod B^n`: never more than `v` -/
theorem wval_toWords_le (W : Nat) : ∀ (n v : Nat), wval W (toWords W n v) ≤ v
  | 0, _ => by simp [toWords, wval]
  | n + 1, v => by
    have ih := wval_toWords_le W n (v / 2 ^ W)
    have h1 : 2 ^ W * wval W (toWords W n (v / 2 ^ W)) ≤ 2 ^ W * (v / 2 ^ W) := Nat.mul_le_mul_left _ ih
    have h2 := Nat.mod_add_div v (2 ^ W)
    simp only [toWords, wval]
    omega

theorem wordLen_mono (W : Nat) {x y : Nat} (h : x ≤ y) : wordLen W x ≤ wordLen W y := by
  unfold wordLen
  by_cases hx : x = 0 ∨ W = 0
  · simp [hx]
  · have hx0 : x ≠ 0 := fun e => hx (Or.inl e)
    have hW : W ≠ 0 := fun e => hx (Or.inr e)
    have hy0 : y ≠ 0 := by omega
    have hy : ¬ (y = 0 ∨ W = 0) := by simp [hy0, hW]
    simp only [hx, hy, if_false]
    have hl : Nat.log2 x ≤ Nat.log2 y := by
      apply Nat.le_of_not_lt
      intro hlt
      have := (Nat.log2_lt hy0).1 hlt
      have := Nat.log2_self_le hx0
      omega
    have := Nat.div_le_div_right (c := W) hl
    omega

theorem ite_or_nested {α : Type} (p q : Prop) [Decidable p] [Decidable q] (x y : α) :
    (if p then x else if q then x else y) = if p ∨ q then x else y := by
  by_cases hp : p <;> simp [hp]

/-- the panic field of the `UBig - UBig` skeleton, branch by branch, for any form and any operand words -/
theorem fragSub_panic_eq (W : Nat) (f : Form) (a b : List Nat) :
    (fragSub W f a b).panic =
      if isSmall a && isSmall b then (if wval W a < wval W b then some .negativeUBig else none)
      else if isSmall a then some .negativeUBig
      else if isSmall b then none
      else if a.length < b.length ∨ wval W a < wval W b then some .negativeUBig else none := by
  unfold fragSub
  dsimp only
  cases isSmall a <;> cases isSmall b <;>
    simp only [Bool.and_self, Bool.and_false, Bool.false_and, Bool.false_eq_true, if_true, if_false,
      apply_ite Frag.panic, ite_self, ge_iff_le, ← Nat.not_lt, ite_not]
  cases f <;> simp only [apply_ite Frag.panic, ite_or_nested]

/-- `mag1 - r` of the Euclidean fix-up: for a divisor `b` stored with the length of its value and a remainder `rm ≤ |b|`
    (the fix-up runs with `0 < rm < |b|`) the `UBig - UBig` skeleton has no panic arm, in the by-value (`vv`) and the
    borrowed-divisor (`rv`) form -/
theorem euclid_fix_sub_no_panic (W : Nat) (bVal : Bool) (b : List Nat) (rm : Nat)
    (hb : b.length = wordLen W (wval W b)) (hrm : rm ≤ wval W b) :
    (fragSub W (if bVal then .vv else .rv) b (trimmed W rm)).panic = none := by
  have hlen : (trimmed W rm).length ≤ b.length := by
    unfold trimmed
    rw [toWords_length, hb]
    exact wordLen_mono W hrm
  have hval : ¬ wval W b < wval W (trimmed W rm) := Nat.not_lt.2 (Nat.le_trans (wval_toWords_le W _ _) hrm)
  generalize trimmed W rm = r at hlen hval
  rw [fragSub_panic_eq]
  simp only [hval, if_false, or_false, isSmall]
  split_ifs with h1 h2 h3 h4
  · rfl
  · simp only [Bool.and_eq_true, decide_eq_true_eq] at h1 h2; omega
  · rfl
  · omega
  · rfl

end Dashu.Proofs.Mem
