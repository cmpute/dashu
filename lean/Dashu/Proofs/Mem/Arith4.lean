import Dashu.Model.Mem.Arith4
/-
  C17 — the kernel-state functions used by the `sqrt` / `gcd` storage skeletons are C12's mirrored kernels:
    * `lehmerGcdLoopSw` (lehmer.rs `gcd_in_place` with its `swapped` flag) computes, in its value component, exactly C12's
      `lehmerGcdLoop` — so C12's theorems (`lehmer_gcd_correct`, completeness of the fuel) apply to the value the skeleton
      writes, and the flag is the only addition;
    * `sqrtLeftover` is the `a_hi` operand of the subtraction inside C12's `kSub` at the top level of `sqrtRemRec`.
-/
namespace Dashu.Proofs.Mem
open Dashu.Model Dashu.Model.Mem

/-- the value component of the flag-tracking loop is C12's loop, for every fuel, operands and initial flag -/
theorem lehmerGcdLoopSw_fst (W : Nat) : ∀ (fuel x y : Nat) (sw : Bool),
    (lehmerGcdLoopSw W fuel x y sw).map Prod.fst = NT.lehmerGcdLoop W fuel x y := by
  intro fuel
  induction fuel with
  | zero => intro x y sw; rfl
  | succ fuel ih =>
    intro x y sw
    unfold lehmerGcdLoopSw NT.lehmerGcdLoop
    by_cases h2 : NT.wordLen W y > 2
    · simp only [h2, if_true]
      rcases hc : NT.lehmerCofactors W x y with ⟨a, b, c, d⟩
      simp only
      by_cases hb : b = 0
      · simp only [hb, if_true]; exact ih _ _ _
      · simp only [hb, if_false]
        by_cases hneg : (a : Int) * x - (b : Int) * y < 0 ∨ (d : Int) * y - (c : Int) * x < 0
        · simp only [hneg, if_true]; rfl
        · simp only [hneg, if_false]
          by_cases hle : ((a : Int) * x - (b : Int) * y).toNat ≤ ((d : Int) * y - (c : Int) * x).toNat
          · simp only [hle, if_true]; exact ih _ _ _
          · simp only [hle, if_false]; exact ih _ _ _
    · simp only [h2, if_false]
      by_cases hy : y = 0
      · simp only [hy, if_true]; rfl
      · simp only [hy, if_false]
        cases NT.gcdPrim (x % y) y <;> rfl

/-- `gcd_in_place`'s value is C12's `lehmerGcd` -/
theorem lehmerGcdSw_fst (W lhs rhs : Nat) :
    (lehmerGcdSw W lhs rhs).map Prod.fst = NT.lehmerGcd W lhs rhs :=
  lehmerGcdLoopSw_fst W _ _ _ _

/-- `kSub` subtracts `a_hi` from `a_lo = [b0, u]`; the `a_hi` it uses is what `sqrtLeftover` reports for the same
    `(qlo, qtop)` -/
theorem kSub_uses_leftover (B Mn : Nat) (odd : Bool) (qlo : Nat) (qtop : Bool) (u : Nat) (c : Int) (b0 : Nat) :
    (NT.kSub B Mn odd qlo qtop u c b0).1 =
      (u * B + b0 + Mn -
        (if odd then (if qtop then 0 else qlo * qlo) + (if qtop then B * B else 0) else (if qtop then 0 else qlo * qlo))) % Mn := by
  unfold NT.kSub
  rfl

/-- for `n > 2` the leftover is computed from the SAME inner call and the same `kDiv` that C12's `sqrtRemRec` performs at
    its top level (fuel `n`, as `sqrtRemKernel` runs it) -/
theorem sqrtRemRec_top (W : Nat) (prim : Nat → Nat × Nat) (n a : Nat) (hn : 2 < n) :
    NT.sqrtRemRec W prim n n a =
      (let split := n / 2
       let h := n - split
       let B := 2 ^ (W * split)
       let (s1, r1, r1top) := NT.sqrtRemRec W prim (n - 1) h (a / (B * B))
       NT.kStep B (2 ^ (W * split - 1)) (2 ^ (W * h)) (2 ^ (W * n)) (decide (2 * split < n)) s1 r1 r1top (a / B % B) (a % B)) := by
  obtain ⟨m, rfl⟩ : ∃ m, n = m + 1 := ⟨n - 1, by omega⟩
  rw [NT.sqrtRemRec]
  simp only [Nat.add_sub_cancel, if_neg (show ¬ (m + 1 ≤ 2) by omega)]

theorem sqrtLeftover_top (W : Nat) (prim : Nat → Nat × Nat) (n a : Nat) (hn : 2 < n) :
    sqrtLeftover W prim n a =
      (let split := n / 2
       let h := n - split
       let B := 2 ^ (W * split)
       let (s1, r1, r1top) := NT.sqrtRemRec W prim (n - 1) h (a / (B * B))
       let (qlo, qtop, _, _) := NT.kDiv B (2 ^ (W * split - 1)) (2 ^ (W * h)) s1 r1 r1top (a / B % B)
       if decide (2 * split < n) then (if qtop then 0 else qlo * qlo) + (if qtop then B * B else 0)
       else (if qtop then 0 else qlo * qlo)) := by
  unfold sqrtLeftover
  rw [if_neg (by omega)]
  simp only [decide_eq_true_eq]

end Dashu.Proofs.Mem
