import Dashu.Model.Mem.Layout
import Dashu.Proofs.Mem.Memory
/-
  C17 — memory.rs size/alignment arithmetic: every layout the wrappers can return is `Valid`; for a valid
  layout the `panic_allocate_too_much` arm of `MemoryAllocation::new` is dead and the `alloc` arm satisfies the
  `GlobalAlloc` contract (non-zero size, size rounded up to align ≤ isize::MAX); `add_layout(a, b)` is exactly large
  enough, and correctly aligned, for the two bump requests that consume it.
-/
namespace Dashu.Model.Mem.Lay

theorem pow_pos' (k : Nat) : 0 < 2 ^ k := Nat.pos_of_ne_zero (by exact Nat.pos_iff_ne_zero.mp (Nat.two_pow_pos k))

theorem zeroLayout_valid {U : Nat} (hU : 0 < U) : zeroLayout.Valid U := ⟨hU, Nat.zero_le _⟩

theorem fromSizeAlign_valid {U size alog : Nat} {l : Layout} (h : fromSizeAlign U size alog = some l) :
    l.Valid U ∧ l.size = size ∧ l.alog = alog := by
  unfold fromSizeAlign at h
  split at h
  · rename_i hc; cases h; exact ⟨hc, rfl, rfl⟩
  · cases h

/-- `array_layout::<T>(n)` returns a layout iff `n · size_of::<T>()` fits `max_size_for_align`; the layout is valid,
    of exactly `n · size_of::<T>()` bytes -/
theorem arrayLayout_isSome_iff (U esize alog n : Nat) :
    (arrayLayout U esize alog n).isSome = true ↔ esize * n ≤ maxSizeForAlign U alog := by
  unfold arrayLayout
  by_cases he : esize = 0
  · subst he; simp
  · have hpos : 0 < esize := Nat.pos_of_ne_zero he
    by_cases hn : n > maxSizeForAlign U alog / esize
    · simp only [ne_eq, he, not_false_eq_true, hn, and_self, ↓reduceIte, Option.isSome_none, Bool.false_eq_true, false_iff,
        Nat.not_le]
      have := (Nat.div_lt_iff_lt_mul hpos).mp hn
      rw [Nat.mul_comm]; exact this
    · simp only [ne_eq, he, not_false_eq_true, hn, and_false, ↓reduceIte, Option.isSome_some, true_iff]
      have hle : n ≤ maxSizeForAlign U alog / esize := Nat.le_of_not_gt hn
      have := (Nat.le_div_iff_mul_le hpos).mp hle
      rw [Nat.mul_comm]; exact this

theorem arrayLayout_eq {U esize alog n : Nat} {l : Layout} (h : arrayLayout U esize alog n = some l) :
    l = ⟨esize * n, alog⟩ := by
  unfold arrayLayout at h
  split at h
  · cases h
  · cases h; rfl

theorem arrayLayout_valid {U esize alog n : Nat} {l : Layout} (hU : alog < U)
    (h : arrayLayout U esize alog n = some l) : l.Valid U ∧ l.size = esize * n ∧ l.alog = alog := by
  have hs := (arrayLayout_isSome_iff U esize alog n).mp (by rw [h]; rfl)
  cases arrayLayout_eq h
  exact ⟨⟨hU, hs⟩, rfl, rfl⟩

/-- `padding_needed_for`: smaller than the alignment, and it aligns -/
theorem padding_spec (size alog : Nat) :
    paddingNeededFor size alog < 2 ^ alog ∧ (size + paddingNeededFor size alog) % 2 ^ alog = 0 := by
  unfold paddingNeededFor
  have hp := Nat.two_pow_pos alog
  generalize 2 ^ alog = a at hp
  refine ⟨Nat.mod_lt _ hp, ?_⟩
  have hr : size % a < a := Nat.mod_lt _ hp
  by_cases h0 : size % a = 0
  · rw [h0, Nat.sub_zero, Nat.mod_self, Nat.add_zero]; exact h0
  · have hlt : a - size % a < a := by omega
    rw [Nat.mod_eq_of_lt hlt]
    have hd := Nat.div_add_mod size a
    have : size + (a - size % a) = a * (size / a + 1) := by
      rw [Nat.mul_add, Nat.mul_one]; omega
    rw [this]; exact Nat.mul_mod_right _ _

theorem maxSizeForAlign_mono {U i j : Nat} (h : i ≤ j) : maxSizeForAlign U j ≤ maxSizeForAlign U i := by
  unfold maxSizeForAlign
  have := Nat.pow_le_pow_right (n := 2) (by decide) h
  omega

/-- `add_layout(a, b)`: the result is valid; `b` sits at `offset ≥ a.size`, aligned for `b`, less than one `b`-alignment
    after `a`; the total is `offset + b.size` -/
theorem addLayout_valid {U : Nat} {a b l : Layout} {off : Nat} (ha : a.Valid U) (hb : b.Valid U)
    (h : addLayout U a b = some (l, off)) :
    l.Valid U ∧ l.alog = max a.alog b.alog ∧ a.size ≤ off ∧ off < a.size + b.align ∧ off % b.align = 0 ∧
    l.size = off + b.size := by
  unfold addLayout at h
  simp only at h
  split at h
  · rename_i hc
    cases h
    have hp := padding_spec a.size b.alog
    refine ⟨⟨?_, hc⟩, rfl, Nat.le_add_right _ _, ?_, hp.2, rfl⟩
    · show max a.alog b.alog < U
      have := ha.1; have := hb.1; omega
    · unfold Layout.align; omega
  · cases h

theorem maxLayout_valid {U : Nat} {a b l : Layout} (h : maxLayout U a b = some l) :
    l.Valid U ∧ l.size = max a.size b.size ∧ l.alog = max a.alog b.alog := fromSizeAlign_valid h

/-- memory.rs:39 — for every valid layout the `layout.size() > isize::MAX` arm of `MemoryAllocation::new` is dead, and
    the allocator is called only with a non-zero size whose round-up to the (power-of-two) alignment does not exceed
    `isize::MAX`: the safety contract of `GlobalAlloc::alloc` (memory.rs:43 `unsafe { alloc(layout) }`) -/
theorem memoryAllocationNew_contract {U : Nat} {l : Layout} (h : l.Valid U) :
    memoryAllocationNew U l ≠ .tooMuch ∧
    (l.size = 0 → memoryAllocationNew U l = .dangling l.align ∧ memoryAllocationDrop l = none) ∧
    (l.size ≠ 0 → memoryAllocationNew U l = .alloc l.size l.align ∧
      memoryAllocationDrop l = some (l.size, l.align) ∧ l.size + (l.align - 1) ≤ isizeMax U) := by
  have hle : l.size ≤ isizeMax U := by
    have := h.2; unfold maxSizeForAlign at this; omega
  have hp := Nat.two_pow_pos l.alog
  have hal : 2 ^ l.alog - 1 ≤ isizeMax U := by
    -- `alog < U` ⇒ `2^alog ≤ 2^(U-1)`
    have h1 : l.alog ≤ U - 1 := by have := h.1; omega
    have := Nat.pow_le_pow_right (n := 2) (by decide) h1
    unfold isizeMax; omega
  unfold memoryAllocationNew memoryAllocationDrop
  refine ⟨?_, ?_, ?_⟩
  · by_cases h0 : l.size = 0
    · simp [h0]
    · have : ¬ l.size > isizeMax U := by omega
      simp [h0, this]
  · intro h0; simp [h0]
  · intro h0
    have : ¬ l.size > isizeMax U := by omega
    refine ⟨by simp [h0, this], by simp [h0], ?_⟩
    have := h.2; unfold maxSizeForAlign at this; unfold Layout.align; omega

theorem mod_zero_of_pow_le {s i j : Nat} (hij : i ≤ j) (h : s % 2 ^ j = 0) : s % 2 ^ i = 0 := by
  have hd : 2 ^ i ∣ 2 ^ j := Nat.pow_dvd_pow 2 hij
  exact Nat.mod_eq_zero_of_dvd (Nat.dvd_trans hd (Nat.dvd_of_mod_eq_zero h))

/-- `try_find_memory_for_slice` succeeds at `start + pad` whenever the padded request fits -/
theorem tryFind_ok {usz pad : Nat} {m : Bump.Chunk} {r : Bump.Req}
    (hp : (r.align - m.start % r.align) % r.align = pad) (h : m.start + pad + r.n * r.size ≤ m.stop)
    (hu : m.stop ≤ usz) :
    Bump.tryFind usz m r = some (m.start + pad, m.start + pad + r.n * r.size) := by
  unfold Bump.tryFind
  simp only [hp]
  have c1 : ¬ m.start + pad > usz := by omega
  have c2 : ¬ r.n * r.size > usz := by omega
  have c3 : ¬ m.start + pad + r.n * r.size > usz := by omega
  simp only [c1, c2, c3, h, ↓reduceIte]

/-- a request whose alignment divides that of the chunk's start is served at the start, without padding -/
theorem tryFind_aligned {usz s stop e a n j : Nat} (haj : a ≤ j) (hs : s % 2 ^ j = 0) (h : s + e * n ≤ stop)
    (hu : stop ≤ usz) : Bump.tryFind usz ⟨s, stop⟩ (reqOf e a n) = some (s, s + e * n) := by
  rw [Nat.mul_comm e n] at h ⊢
  refine tryFind_ok (pad := 0) ?_ h hu
  show (2 ^ a - s % 2 ^ a) % 2 ^ a = 0
  rw [mod_zero_of_pow_le haj hs, Nat.sub_zero, Nat.mod_self]

/-- memory.rs `add_layout` is SUFFICIENT and correctly aligned for its two consumers: in a block of
    `add_layout(array_layout::<A>(na), array_layout::<B>(nb))` bytes that starts at an address aligned to the combined
    alignment (what the allocator returns), `allocate_slice::<A>(na)` followed by `allocate_slice::<B>(nb)` on the
    remainder both succeed, with no padding before the first slice, the second slice exactly at `offset`, and nothing
    left over — for all element sizes, alignments and counts (pow.rs: "store res before squaring" + squaring scratch) -/
theorem addLayout_serves_bump {U usz : Nat} {ea aa na eb ab nb : Nat} {la lb l : Layout} {off : Nat}
    (ha : arrayLayout U ea aa na = some la) (hb : arrayLayout U eb ab nb = some lb)
    (h : addLayout U la lb = some (l, off)) (s : Nat) (hs : s % l.align = 0) (hfit : s + l.size ≤ usz) :
    Bump.allocateMany usz ⟨s, s + l.size⟩ [reqOf ea aa na, reqOf eb ab nb] =
      some ([(s, s + la.size), (s + off, s + l.size)], ⟨s + l.size, s + l.size⟩) := by
  cases arrayLayout_eq ha
  cases arrayLayout_eq hb
  unfold addLayout at h
  simp only at h
  split at h
  · cases h
    simp only [Layout.align] at hs
    simp only at hfit
    have hsb : s % 2 ^ ab = 0 := mod_zero_of_pow_le (Nat.le_max_right _ _) hs
    have eB : nb * eb = eb * nb := Nat.mul_comm _ _
    have hpadlt := (padding_spec (ea * na) ab).1
    generalize hpd : paddingNeededFor (ea * na) ab = pad at hfit hpadlt ⊢
    -- first request: no padding
    have hA := tryFind_aligned (usz := usz) (e := ea) (n := na) (Nat.le_max_left aa ab) hs
      (show s + ea * na ≤ s + (ea * na + pad + eb * nb) by omega) hfit
    -- second request: padding = `padding_needed_for`
    have hB : Bump.tryFind usz ⟨s + ea * na, s + (ea * na + pad + eb * nb)⟩ (reqOf eb ab nb) =
        some (s + ea * na + pad, s + ea * na + pad + nb * eb) := by
      apply tryFind_ok
      · show (2 ^ ab - (s + ea * na) % 2 ^ ab) % 2 ^ ab = pad
        rw [Nat.add_mod, hsb, Nat.zero_add, Nat.mod_mod, ← hpd]
        rfl
      · show s + ea * na + pad + nb * eb ≤ s + (ea * na + pad + eb * nb)
        omega
      · exact hfit
    simp only [Bump.allocateMany, Bump.allocateSlice, hA, hB]
    simp only [Option.some.injEq, Prod.mk.injEq, List.cons.injEq, and_true, true_and, Bump.Chunk.mk.injEq]
    omega
  · cases h

/-- memory.rs `max_layout(a, b)` serves EITHER consumer: in a block of `max_layout(array_layout::<A>(na),
    array_layout::<B>(nb))` bytes at an address aligned to the combined alignment, `allocate_slice::<A>(na)` alone and
    `allocate_slice::<B>(nb)` alone each succeed at the block start (root.rs `memory_requirement_sqrt_rem`: one squaring OR
    one division at a time; div / gcd requirements are built the same way) -/
theorem maxLayout_serves_each {U usz : Nat} {ea aa na eb ab nb : Nat} {la lb l : Layout}
    (ha : arrayLayout U ea aa na = some la) (hb : arrayLayout U eb ab nb = some lb)
    (h : maxLayout U la lb = some l) (s : Nat) (hs : s % l.align = 0) (hfit : s + l.size ≤ usz) :
    Bump.tryFind usz ⟨s, s + l.size⟩ (reqOf ea aa na) = some (s, s + la.size) ∧
    Bump.tryFind usz ⟨s, s + l.size⟩ (reqOf eb ab nb) = some (s, s + lb.size) := by
  cases arrayLayout_eq ha
  cases arrayLayout_eq hb
  obtain ⟨_, hsz, hal⟩ := maxLayout_valid h
  simp only at hsz hal
  simp only [Layout.align, hal] at hs
  exact ⟨tryFind_aligned (Nat.le_max_left aa ab) hs (by rw [hsz]; omega) hfit,
    tryFind_aligned (Nat.le_max_right aa ab) hs (by rw [hsz]; omega) hfit⟩

/-- word arrays: `add_layout(array_layout::<Word>(na), array_layout::<Word>(nb))` is `na + nb` words with the second
    part right behind the first — the word count used for the scratch block of the pow skeletons -/
theorem addLayout_words {U k na nb : Nat} {l : Layout} {off : Nat}
    (h : addLayout U ⟨2 ^ k * na, k⟩ ⟨2 ^ k * nb, k⟩ = some (l, off)) :
    l.size = 2 ^ k * (na + nb) ∧ off = 2 ^ k * na ∧ l.alog = k := by
  unfold addLayout at h
  simp only at h
  split at h
  · cases h
    have hp : paddingNeededFor (2 ^ k * na) k = 0 := by
      unfold paddingNeededFor
      rw [Nat.mul_mod_right, Nat.sub_zero, Nat.mod_self]
    refine ⟨?_, ?_, Nat.max_self k⟩
    · show 2 ^ k * na + paddingNeededFor (2 ^ k * na) k + 2 ^ k * nb = _
      rw [hp, Nat.add_zero, Nat.mul_add]
    · show 2 ^ k * na + paddingNeededFor (2 ^ k * na) k = _
      rw [hp, Nat.add_zero]
  · cases h

end Dashu.Model.Mem.Lay
