import Dashu.Proofs.Mem.Arith5
/-
  C17 — the division storage skeletons (`UBig / % div_rem`, div_ops.rs; `IBig`'s Euclidean family) have one
  panic only, `divideByZero`: never for a non-zero divisor value, always for an inline (≤ 2 words) zero divisor — whatever the
  ownership form, signs and operand words.  The Euclidean fix-up's subtraction contributes none (`euclid_fix_sub_no_panic`).
-/
namespace Dashu.Proofs.Mem
open Dashu.Model Dashu.Model.Mem

/-- "panics only with `divideByZero`, never for a non-zero divisor, always for an inline zero divisor" -/
def DivPanicSpec (W : Nat) (b : List Nat) (fr : Frag) : Prop :=
  (fr.panic = none ∨ fr.panic = some .divideByZero) ∧ (wval W b ≠ 0 → fr.panic = none) ∧
  (isSmall b = true → wval W b = 0 → fr.panic = some .divideByZero)

theorem DivPanicSpec.of_eq {W : Nat} {b : List Nat} {fr : Frag}
    (h : fr.panic = if isSmall b = true ∧ wval W b = 0 then some .divideByZero else none) : DivPanicSpec W b fr := by
  unfold DivPanicSpec
  rw [h]
  split_ifs with c
  · exact ⟨Or.inr rfl, fun hz => absurd c.2 hz, fun _ _ => rfl⟩
  · exact ⟨Or.inl rfl, fun _ => rfl, fun hs hz => absurd ⟨hs, hz⟩ c⟩

theorem fDivRemLarge_panic (W : Nat) (wantRem : Bool) (lr rr la lb va vb : Nat) :
    (fDivRemLarge W wantRem lr rr la lb va vb).panic = none := by
  unfold fDivRemLarge
  cases wantRem <;> rfl

/-- the only panic arms of `/`, `%` are the two that test an inline divisor for zero -/
theorem fragDivRem_panic_eq (W : Nat) (wantRem : Bool) (f : Form) (a b : List Nat) :
    (fragDivRem W wantRem f a b).panic =
      if isSmall b = true ∧ wval W b = 0 then some .divideByZero else none := by
  unfold fragDivRem
  dsimp only
  cases isSmall b
  · simp only [Bool.and_false, Bool.false_eq_true, if_false, false_and, apply_ite Frag.panic, fDivRemLarge_panic]
    cases f <;> simp only [ite_self]
  · cases isSmall a <;>
      simp only [Bool.and_self, Bool.false_and, Bool.false_eq_true, if_false, if_true, true_and, apply_ite Frag.panic, ite_self]

theorem fragDivRemBoth_panic_eq (W : Nat) (f : Form) (a b : List Nat) :
    (fragDivRemBoth W f a b).panic =
      if isSmall b = true ∧ wval W b = 0 then some .divideByZero else none := by
  unfold fragDivRemBoth
  dsimp only
  cases isSmall b
  · simp only [Bool.and_false, Bool.false_eq_true, if_false, false_and, apply_ite Frag.panic]
    cases f <;> simp only [ite_self]
  · cases isSmall a <;>
      simp only [Bool.and_self, Bool.false_and, Bool.false_eq_true, if_false, if_true, true_and, apply_ite Frag.panic]

theorem fragDivRem_panic (W : Nat) (wantRem : Bool) (f : Form) (a b : List Nat) :
    DivPanicSpec W b (fragDivRem W wantRem f a b) :=
  .of_eq (fragDivRem_panic_eq W wantRem f a b)

theorem fragDivRemBoth_panic (W : Nat) (f : Form) (a b : List Nat) :
    DivPanicSpec W b (fragDivRemBoth W f a b) :=
  .of_eq (fragDivRemBoth_panic_eq W f a b)

theorem noIntoTyped_panic (fr : Frag) : fr.noIntoTyped.panic = fr.panic := rfl

/-! The Euclidean glue keeps the panic field of the `UBig` skeleton it runs, in whichever form it runs it; the
    skeleton is generalised to an arbitrary `body` before the glue's `match body.panic` is split. -/

theorem fragSignedRemEuclid_panic (W : Nat) (f : Form) (na : Bool) (a b : List Nat) :
    DivPanicSpec W b (fragSignedRemEuclid W f na a b) := by
  apply DivPanicSpec.of_eq
  unfold fragSignedRemEuclid
  dsimp only
  cases na
  · exact fragDivRem_panic_eq W true f a b
  · rw [← fragDivRem_panic_eq W true (if (f == .vr || f == .vv) = true then .vr else .rr) a b]
    generalize fragDivRem W true _ a b = body
    simp only [Bool.not_true, Bool.false_eq_true, if_false, noIntoTyped_panic]
    split
    · rfl
    · next hk => rw [hk]; split_ifs <;> rfl

theorem fragSignedDivEuclid_panic (W : Nat) (f : Form) (na : Bool) (a : List Nat) (nb : Bool) (b : List Nat) :
    DivPanicSpec W b (fragSignedDivEuclid W f na a nb b) := by
  apply DivPanicSpec.of_eq
  unfold fragSignedDivEuclid
  dsimp only
  rw [← fragDivRemBoth_panic_eq W f a b]
  generalize fragDivRemBoth W f a b = body
  simp only [noIntoTyped_panic]
  split
  · rfl
  · next hk => rw [hk]

theorem fragSignedDivRemEuclid_panic (W : Nat) (f : Form) (na : Bool) (a : List Nat) (nb : Bool) (b : List Nat) :
    DivPanicSpec W b (fragSignedDivRemEuclid W f na a nb b) := by
  apply DivPanicSpec.of_eq
  unfold fragSignedDivRemEuclid
  dsimp only
  cases na
  · rw [← fragDivRemBoth_panic_eq W f a b]
    generalize fragDivRemBoth W f a b = body
    simp only [Bool.not_false, if_true, noIntoTyped_panic]
    split
    · rfl
    · next hk => rw [hk]
  · rw [← fragDivRemBoth_panic_eq W (if (f == .vr || f == .vv) = true then .vr else .rr) a b]
    generalize fragDivRemBoth W _ a b = body
    simp only [Bool.not_true, Bool.false_eq_true, if_false, noIntoTyped_panic]
    split
    · rfl
    · next hk => rw [hk]; split_ifs <;> rfl

end Dashu.Proofs.Mem
