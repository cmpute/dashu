import Dashu.Proofs.Mem.Buffer
import Dashu.Model.Mem.Slice
/-
  C17 — bounds obligations of the `unsafe` blocks of shift.rs / primitive.rs.
-/
namespace Dashu.Model.Mem

/-- the slice lies inside a live allocation -/
def Slice.Ok (L : Ledger) (s : Slice) : Prop := ∃ c, L s.id = some c ∧ s.off + s.len ≤ c

variable {L : Ledger} {n : Nat}

theorem Quiet.read {id c i : Nat} (hL : L id = some c) (hi : i < c) : Quiet L [.read id i] :=
  Quiet.access hL fun e he => by
    simp only [List.mem_singleton] at he
    exact Or.inl ⟨i, he, hi⟩

/-- what the `debug_assert!(len >= 2)` of the three `primitive.rs` accessors leaves: with debug
    assertions ≥ 2 words, without them whatever the caller guarantees -/
theorem len_of_debug_guard {debug : Bool} {len k : Nat} (hk : k ≤ 2)
    (hg : ¬(debug && decide (len < 2)) = true) (hl : debug = false → k ≤ len) : k ≤ len := by
  cases debug with
  | false => exact hl rfl
  | true => have : 2 ≤ len := by simpa using hg
            omega

/-- primitive.rs:66 — safe when the slice has ≥ 2 words, which the debug assertion checks -/
theorem lowestDwordSlice_sat {debug : Bool} {s : Slice} (h : s.Ok L) (hl : debug = false → 2 ≤ s.len) :
    Sat L n (lowestDwordSlice debug s) (fun _ L' _ => L' = L) := by
  obtain ⟨c, hc, hb⟩ := h
  unfold lowestDwordSlice
  apply Sat.ite
  · intro _; exact Sat.assertFail
  · intro hg
    have hl2 := len_of_debug_guard (Nat.le_refl 2) hg hl
    have hq : Quiet L (rd s.id s.off 2) := Quiet.rd hc (by omega)
    exact Sat.quiet hq rfl

/-- primitive.rs:82 — safe when the slice has ≥ 2 words, which the debug assertion checks -/
theorem highestDwordSlice_sat {debug : Bool} {s : Slice} (h : s.Ok L) (hl : debug = false → 2 ≤ s.len) :
    Sat L n (highestDwordSlice debug s) (fun _ L' _ => L' = L) := by
  obtain ⟨c, hc, hb⟩ := h
  unfold highestDwordSlice
  apply Sat.ite
  · intro _; exact Sat.assertFail
  · intro hg
    have hl2 := len_of_debug_guard (Nat.le_refl 2) hg hl
    apply Sat.ite
    · intro h; omega
    · intro _
      exact Sat.quiet ((Quiet.read hc (by omega)).append (Quiet.read hc (by omega))) rfl

/-- primitive.rs:96 — the `unreachable_unchecked` arm is not reached on a non-empty slice -/
theorem splitHiWordSlice_sat {debug : Bool} {s : Slice} (h : s.Ok L) (hl : debug = false → 1 ≤ s.len) :
    Sat L n (splitHiWordSlice debug s) (fun _ L' _ => L' = L) := by
  obtain ⟨c, hc, hb⟩ := h
  unfold splitHiWordSlice
  apply Sat.ite
  · intro _; exact Sat.assertFail
  · intro hg
    have hl1 := len_of_debug_guard (Nat.le_succ 1) hg hl
    apply Sat.ite
    · intro h; omega
    · intro _
      exact Sat.quiet (Quiet.read hc (by omega)) rfl

/-- a buffer's `Deref` slice is an `Ok` slice; so is any sub-slice of it -/
theorem Slice.ok_of_buf {mx : Nat} {b : Buf} (hL : L b.id = some b.cap) (hw : b.Wf mx) (off len : Nat)
    (h : off + len ≤ b.len) : Slice.Ok L ⟨b.id, off, len⟩ :=
  ⟨b.cap, hL, by have := hw.1; show off + len ≤ b.cap; omega⟩

end Dashu.Model.Mem
