import Dashu.Proofs.Mem.Buffer
/-
  C17 — specifications of the storage part of `repr.rs`.  `Rep.Canon` is the representation invariant
  of the property text: inline ⇔ ≤ 2 words, heap ⇒ ≥ 3 words with a non-zero top word and a capacity
  within the compactness bound, zero never negative.
-/
namespace Dashu.Model.Mem

def Rep.own : Rep → Option (Nat × Nat)
  | .inline .. => none
  | .heap id cap _ _ => some (id, cap)

/-- the representation invariant (`mx` = `Buffer::MAX_CAPACITY`) -/
def Rep.Canon (mx : Nat) : Rep → Prop
  | .inline lo hi code neg =>
    ((code = 1 ∧ hi = 0) ∨ (code = 2 ∧ hi ≠ 0)) ∧ (neg = true → ¬(code = 1 ∧ lo = 0))
  | .heap _ cap ws _ =>
    3 ≤ ws.length ∧ ws.getLast? ≠ some 0 ∧ ws.length ≤ cap ∧
    cap ≤ maxCompactCapacity mx ws.length ∧ cap ≤ mx

/-- the allocation a `Repr` points to is live with the capacity stored in the `Repr` -/
def Rep.Live (L : Ledger) (r : Rep) : Prop := ∀ id cap, r.own = some (id, cap) → L id = some cap

variable {L : Ledger} {n mx : Nat}

theorem Rep.canon_fromWord (w : Nat) : (Rep.fromWord w).Canon mx := by
  simp [Rep.fromWord, Rep.Canon]

theorem Rep.canon_fromDword (lo hi : Nat) : (Rep.fromDword lo hi).Canon mx := by
  unfold Rep.fromDword Rep.Canon
  by_cases h : hi = 0 <;> simp [h]

theorem Rep.own_setNeg (r : Rep) (s : Bool) : (r.setNeg s).own = r.own := by cases r <;> rfl
theorem Rep.words_setNeg (r : Rep) (s : Bool) : (r.setNeg s).words = r.words := by cases r <;> rfl

/-- setting the sign keeps canonical form as long as zero is not made negative -/
theorem Rep.canon_setNeg {r : Rep} (h : r.Canon mx) {s : Bool} (hz : s = true → r.isZero = false) :
    (r.setNeg s).Canon mx := by
  cases r with
  | inline lo hi code neg =>
    refine ⟨h.1, fun hs hzero => ?_⟩
    simpa [Rep.isZero, hzero] using hz hs
  | heap id cap ws neg => exact h

/-- `with_sign` keeps canonical form (repr.rs:136: the negated capacity is never 0, zero stays positive) -/
theorem Rep.canon_withSign {r : Rep} (h : r.Canon mx) (s : Bool) : (r.withSign s).Canon mx := by
  unfold Rep.withSign
  split
  · rename_i hc
    simp only [Bool.and_eq_true, Bool.not_eq_true'] at hc
    exact Rep.canon_setNeg h fun _ => hc.1
  · exact h

theorem Rep.canon_negate {r : Rep} (h : r.Canon mx) : r.negate.Canon mx := by
  unfold Rep.negate
  split
  · rename_i hc
    simp only [Bool.not_eq_true'] at hc
    exact Rep.canon_setNeg h fun _ => hc
  · exact h

theorem Rep.own_withSign (r : Rep) (s : Bool) : (r.withSign s).own = r.own := by
  unfold Rep.withSign; split
  · exact Rep.own_setNeg r _
  · rfl

theorem Rep.own_negate (r : Rep) : r.negate.own = r.own := by
  unfold Rep.negate; split
  · exact Rep.own_setNeg r _
  · rfl

theorem Rep.words_withSign (r : Rep) (s : Bool) : (r.withSign s).words = r.words := by
  unfold Rep.withSign; split
  · exact Rep.words_setNeg r _
  · rfl

/-- `with_sign` sets the requested sign unless the value is zero -/
theorem Rep.isNeg_withSign (r : Rep) (s : Bool) :
    (r.withSign s).isNeg = if r.isZero then r.isNeg else s := by
  unfold Rep.withSign
  cases r with
  | inline lo hi code neg =>
    simp only [Rep.isZero, Rep.isNeg, Rep.setNeg]
    by_cases hz : code = 1 ∧ lo = 0
    · simp [hz]
    · cases s <;> cases neg <;> simp [hz]
  | heap id cap ws neg =>
    simp only [Rep.isZero, Rep.isNeg, Rep.setNeg]
    cases s <;> cases neg <;> simp

-- ------------------------------------------------------------------ transmute

/-- repr.rs:333 / 433 / 487 — `transmute::<Buffer, Repr>` is applied to a buffer of capacity ≥ 3 -/
theorem ofBuf_sat {site : String} {b : Buf} (h : 3 ≤ b.cap) :
    Sat L n (Rep.ofBuf site b) (fun r L' n' => L' = L ∧ n' = n ∧ r = .heap b.id b.cap b.ws false) := by
  unfold Rep.ofBuf
  simp only [h, ↓reduceIte]
  exact Sat.pure ⟨rfl, rfl, rfl⟩

theorem length_ge_three {ws : List Nat} (h0 : ws ≠ []) (h1 : ∀ a, ws ≠ [a]) (h2 : ∀ a c, ws ≠ [a, c]) :
    3 ≤ ws.length := by
  match ws with
  | [] => exact absurd rfl h0
  | [a] => exact absurd rfl (h1 a)
  | [a, c] => exact absurd rfl (h2 a c)
  | _ :: _ :: _ :: _ => simp

/-- a well-formed buffer of ≥ 3 words with non-zero top word and compact capacity, read as a `Repr` -/
theorem Rep.canon_heap {b : Buf} (hw : b.Wf mx) (h3 : 3 ≤ b.ws.length) (hlast : b.ws.getLast? ≠ some 0)
    (hcmp : b.cap ≤ maxCompactCapacity mx b.ws.length) : (Rep.heap b.id b.cap b.ws false).Canon mx :=
  ⟨h3, hlast, hw.1, hcmp, hw.2.2⟩

/-- a canonical heap value, read as a `Buffer` -/
theorem Rep.Canon.bufWf {id cap : Nat} {ws : List Nat} {neg : Bool}
    (hc : (Rep.heap id cap ws neg).Canon mx) : Buf.Wf mx ⟨id, cap, ws⟩ :=
  ⟨hc.2.2.1, Nat.lt_of_lt_of_le (Nat.lt_of_lt_of_le (by decide : 0 < 3) hc.1) hc.2.2.1, hc.2.2.2.2⟩

/-- repr.rs:333 — `Repr::from_buffer`: canonical output (incl. the compactness bound), same words up
    to the trimmed high zeros, buffer released in the inline cases -/
theorem fromBuffer_sat {b : Buf} (hL : L b.id = some b.cap) (hw : b.Wf mx) :
    Sat L n (Rep.fromBuffer mx b) (fun r L' _ =>
      Moves L L' n b.own r.own ∧ r.Canon mx ∧ r.isNeg = false ∧
      ∃ t, b.ws = r.words ++ t ∧ ∀ x ∈ t, x = 0) := by
  unfold Rep.fromBuffer
  apply Sat.bind_conseq (popZeros_sat hL hw)
  intro b1 L1 n1 hn1 ⟨hm1, hw1, hid1, hcap1, hlast, t, ht, hz⟩
  have hL1 : L1 b1.id = some b1.cap := hm1.new_live _ _ rfl
  have hlen : b1.ws.length ≤ b1.cap := hw1.1
  -- the inline cases end with the drop of the buffer
  have hdrop : ∀ r : Rep, r.Canon mx → r.own = none → r.isNeg = false → b1.ws = r.words →
      Sat L1 n1 (do dropBuf b1; pure r) (fun r L' _ =>
        Moves L L' n b.own r.own ∧ r.Canon mx ∧ r.isNeg = false ∧
        ∃ t, b.ws = r.words ++ t ∧ ∀ x ∈ t, x = 0) := by
    intro r hc hown hneg hws
    apply Sat.bind_conseq (dropBuf_sat hL1)
    intro _ L2 n2 hn2 hm2
    apply Sat.pure
    rw [hown]
    exact ⟨hm1.trans hm2 hn1, hc, hneg, t, by rw [ht, hws], hz⟩
  split
  · rename_i hws
    exact hdrop _ (Rep.canon_fromWord 0) rfl rfl hws
  · rename_i a hws
    have ha : a ≠ 0 := by
      intro h; apply hlast; rw [hws, h]; rfl
    have hq : Quiet L1 (rd b1.id 0 1) := Quiet.rd hL1 (by rw [hws] at hlen; exact hlen)
    apply Sat.bind
    apply Sat.quiet hq
    exact hdrop _ (Rep.canon_fromWord a) rfl rfl (by rw [hws]; simp [Rep.fromWord, Rep.words, ha])
  · rename_i a c hws
    have hc : c ≠ 0 := by
      intro h; apply hlast; rw [hws, h]; rfl
    have hq : Quiet L1 (rd b1.id 0 2) := Quiet.rd hL1 (by rw [hws] at hlen; exact hlen)
    apply Sat.bind
    apply Sat.quiet hq
    refine hdrop _ (Rep.canon_fromDword a c) ?_ ?_ (by rw [hws]; simp [Rep.fromDword, Rep.words, hc])
    · unfold Rep.fromDword; rfl
    · unfold Rep.fromDword; rfl
  · rename_i h0 h1 h2
    have h3 : 3 ≤ b1.ws.length := length_ge_three h0 h1 h2
    apply Sat.bind_conseq (shrinkToFit_sat hL1 hw1)
    intro b2 L2 n2 hn2 ⟨hm2, hw2, hid2, hws2, hcap2⟩
    have hlen2 : b2.ws.length ≤ b2.cap := hw2.1
    rw [← hws2] at h3 hlast ht
    apply Sat.conseq (ofBuf_sat (Nat.le_trans h3 hlen2))
    intro r L3 n3 hn3 ⟨hL3, _, hr⟩
    subst hL3 hr
    exact ⟨hm1.trans hm2 hn1, Rep.canon_heap hw2 h3 hlast (by rw [hws2]; exact hcap2), rfl, t, ht, hz⟩

/-- repr.rs:356 — `Repr::into_buffer`; the heap arm is `transmute::<Repr, Buffer>` (identity on
    (ptr, len, capacity)), the inline arms allocate for 1 / 2 words and push -/
theorem intoBuffer_sat {r : Rep} (hc : r.Canon mx) (hL : r.Live L) :
    Sat L n (Rep.intoBuffer mx r) (fun b L' _ =>
      Moves L L' n r.own b.own ∧ b.Wf mx ∧ b.ws = r.words) := by
  unfold Rep.intoBuffer
  apply Sat.ite
  · intro _; exact Sat.assertFail
  · intro _
    cases r with
    | inline lo hi code neg =>
      simp only
      apply Sat.ite
      · intro hc1
        apply Sat.bind_conseq allocate_sat
        intro b1 L1 n1 hn1 ⟨hm1, hw1, hws1, _, _⟩
        apply Sat.ite
        · intro hlo
          apply Sat.conseq (push_sat (hm1.new_live _ _ rfl) hw1)
          intro b2 L2 n2 hn2 ⟨hm2, hw2, _, _, hws2⟩
          refine ⟨hm1.trans hm2 hn1, hw2, ?_⟩
          rw [hws2, hws1]; simp [Rep.words, hc1, hlo]
        · intro hlo
          apply Sat.pure
          refine ⟨hm1, hw1, ?_⟩
          have : lo = 0 := Classical.not_not.mp hlo
          rw [hws1]; simp [Rep.words, hc1, this]
      · intro hc1
        apply Sat.ite
        · intro _; exact Sat.assertFail
        · intro _
          apply Sat.bind_conseq allocate_sat
          intro b1 L1 n1 hn1 ⟨hm1, hw1, hws1, _, _⟩
          apply Sat.bind_conseq (push_sat (hm1.new_live _ _ rfl) hw1)
          intro b2 L2 n2 hn2 ⟨hm2, hw2, _, _, hws2⟩
          apply Sat.conseq (push_sat (hm2.new_live _ _ rfl) hw2)
          intro b3 L3 n3 hn3 ⟨hm3, hw3, _, _, hws3⟩
          refine ⟨(hm1.trans hm2 hn1).trans hm3 (Nat.le_trans hn1 hn2), hw3, ?_⟩
          rw [hws3, hws2, hws1]; simp [Rep.words, hc1]
    | heap id cap ws neg =>
      exact Sat.pure ⟨Moves.refl (hL id cap rfl), hc.bufWf, rfl⟩

/-- the storage a `TypedRepr` owns -/
def Rep.Typed.own : Rep.Typed → Option (Nat × Nat)
  | .small .. => none
  | .large b => b.own

/-- repr.rs:191 — `Repr::into_typed`; heap arm = `transmute::<Repr, Buffer>` -/
theorem intoTyped_sat {r : Rep} (hc : r.Canon mx) (hL : r.Live L) :
    Sat L n (Rep.intoTyped r) (fun t L' _ =>
      L' = L ∧ t.own = r.own ∧
      match t with
      | .small lo hi => r.words = (Rep.fromDword lo hi).words
      | .large b => b.Wf mx ∧ b.ws = r.words) := by
  unfold Rep.intoTyped
  apply Sat.ite
  · intro _; exact Sat.assertFail
  · intro _
    cases r with
    | inline lo hi code neg =>
      apply Sat.pure
      refine ⟨rfl, rfl, ?_⟩
      obtain ⟨h1, _⟩ := hc
      rcases h1 with ⟨hcd, hhi⟩ | ⟨hcd, hhi⟩
      · subst hcd hhi; simp [Rep.words, Rep.fromDword]
      · subst hcd; simp [Rep.words, Rep.fromDword, hhi]
    | heap id cap ws neg =>
      exact Sat.pure ⟨rfl, rfl, hc.bufWf, rfl⟩

/-- repr.rs:164, 231 — `from_raw_parts(heap.0, heap.1)`: the slice `[0, len)` lies inside the allocation -/
theorem asSlice_sat {r : Rep} (hc : r.Canon mx) (hL : r.Live L) :
    Sat L n (Rep.asSlice r) (fun ws L' _ => L' = L ∧ ws = r.words) := by
  cases r with
  | inline lo hi code neg => exact Sat.pure ⟨rfl, rfl⟩
  | heap id cap ws neg =>
    have hlen : ws.length ≤ cap := hc.2.2.1
    exact Sat.bind (Sat.quiet (Quiet.rd (hL id cap rfl) (by omega)) (Sat.pure ⟨rfl, rfl⟩))

/-- repr.rs:504, 519 — the old buffer (if `|capacity| > 2`) is freed with its own capacity -/
theorem releaseOld_sat {self : Rep} (hLs : self.Live L) :
    Sat L n (Rep.releaseOld self) (fun _ L1 n1 => Moves L L1 n self.own none ∧ n1 = n) := by
  cases self with
  | inline lo' hi' code' neg' => exact Sat.pure ⟨Moves.refl_none, rfl⟩
  | heap id cap ws neg' =>
    unfold Rep.releaseOld deallocateRaw
    apply Sat.emit (L1 := L.set id none) (by simp [stepEv, hLs id cap rfl]) rfl
    exact ⟨Moves.free, rfl⟩

/-- repr.rs:547 — `Drop`: `deallocate_raw(heap.0, |capacity|)` names the live allocation with its capacity -/
theorem repDrop_sat {r : Rep} (hL : r.Live L) :
    Sat L n (Rep.drop r) (fun _ L' _ => Moves L L' n r.own none) := by
  have h : Rep.drop r = Rep.releaseOld r := by cases r <;> rfl
  rw [h]
  exact Sat.conseq (releaseOld_sat hL) fun _ _ _ _ hq => hq.1

/-- the heap arm of `Clone::clone` (repr.rs:480-487): a buffer for `ws.length` words is allocated,
    filled from the source and transmuted -/
theorem cloneWords_sat {src : Option Nat} {ws : List Nat} {neg : Bool} (h3 : 3 ≤ ws.length)
    (hlast : ws.getLast? ≠ some 0) (hs : SrcOk L src ws.length) :
    Sat L n (do
        let nb ← allocate mx ws.length
        let nb ← pushSlice nb src ws
        let r ← Rep.ofBuf "repr.rs:487 transmute" nb
        pure (r.withSign neg))
      (fun r' L' _ => Moves L L' n none r'.own ∧ r'.Canon mx ∧ r'.words = ws ∧ r'.isNeg = neg) := by
  apply Sat.of_below; intro hB
  apply Sat.bind_conseq allocate_sat
  intro b1 L1 n1 hn1 ⟨hm1, hw1, hws1, hcap1, hk⟩
  apply Sat.bind_conseq (pushSlice_sat (hm1.new_live _ _ rfl) hw1 (hs.create hB hm1))
  intro b2 L2 n2 hn2 ⟨hm2, hw2, _, hcap2, hws2⟩
  have hpol := policy_chain mx ws.length hk
  have hws : b2.ws = ws := by rw [hws2, hws1]; rfl
  rw [hcap1] at hcap2
  apply Sat.bind_conseq (ofBuf_sat (by rw [hcap2]; omega))
  intro r' L3 n3 hn3 ⟨hL3, _, hr⟩
  subst hL3 hr
  apply Sat.pure
  have hcn : (Rep.heap b2.id b2.cap b2.ws false).Canon mx :=
    Rep.canon_heap hw2 (by rw [hws]; exact h3) (by rw [hws]; exact hlast)
      (by rw [hws, hcap2]; exact hpol.2.1)
  refine ⟨?_, Rep.canon_withSign hcn neg, ?_, ?_⟩
  · rw [Rep.own_withSign]; exact hm1.trans hm2 hn1
  · rw [Rep.words_withSign]; exact hws
  · rw [Rep.isNeg_withSign]; rfl

/-- repr.rs:468 — `Clone::clone`: the copy owns a fresh allocation, is canonical and equal -/
theorem repClone_sat {r : Rep} (hc : r.Canon mx) (hL : r.Live L) :
    Sat L n (Rep.clone mx r) (fun r' L' _ =>
      Moves L L' n none r'.own ∧ r'.Canon mx ∧ r'.words = r.words ∧ r'.isNeg = r.isNeg) := by
  cases r with
  | inline lo hi code neg =>
    unfold Rep.clone
    apply Sat.pure
    have hc' : (Rep.inline lo hi code false).Canon mx := ⟨hc.1, by intro h; cases h⟩
    refine ⟨?_, Rep.canon_withSign hc' neg, ?_, ?_⟩
    · rw [Rep.own_withSign]; exact Moves.refl_none
    · rw [Rep.words_withSign]; rfl
    · rw [Rep.isNeg_withSign]
      simp only [Rep.isZero, Rep.isNeg]
      by_cases hz : code = 1 ∧ lo = 0
      · cases neg with
        | false => simp
        | true => exact absurd hz (hc.2 rfl)
      · simp [hz]
  | heap id cap ws neg =>
    unfold Rep.clone
    exact cloneWords_sat hc.1 hc.2.1 fun s hs => by cases hs; exact ⟨cap, hL id cap rfl, hc.2.2.1⟩

theorem Rep.capacity_le_two_of_inline {lo hi code : Nat} {neg : Bool}
    (h : (Rep.inline lo hi code neg).Canon mx) : code ≤ 2 := by
  rcases h.1 with ⟨h1, _⟩ | ⟨h1, _⟩ <;> omega

/-- the heap arm of `Clone::clone_from` (repr.rs:513-531) for a source of ≥ 3 words inside or
    outside the ledger: the result holds the source's words and is canonical; the old buffer is
    reused when `src_len ≤ cap ≤ max_compact_capacity(src_len)` (`keep`: the copy into it) and
    otherwise freed exactly once before the new one is allocated -/
theorem cloneFromWords_sat {self : Rep} {src : Option Nat} {sws : List Nat} {sneg : Bool} {keep : M Rep}
    (hcs : self.Canon mx) (hLs : self.Live L) (h3 : 3 ≤ sws.length) (hlast : sws.getLast? ≠ some 0)
    (hs : SrcOk L src sws.length) (hne : ∀ s, src = some s → ∀ c, self.own ≠ some (s, c))
    (hkeep : ∀ id cap ws neg, self = .heap id cap ws neg →
      keep = do emits (srcReads src sws.length ++ wr id 0 sws.length); pure (.heap id cap sws sneg)) :
    Sat L n
      (if sws.length < 3 then assertFail "repr.rs:513 debug_assert" else do
        let realloc ← (if self.capacity < sws.length then pure true else do
            let m ← maxCompactCapacityChecked mx sws.length
            pure (decide (self.capacity > m)) : M Bool)
        if realloc then do
          Rep.releaseOld self
          let newCap ← defaultCapacityChecked mx sws.length
          let nid ← allocateRaw mx newCap
          emits (srcReads src sws.length ++ wr nid 0 sws.length)
          pure (Rep.heap nid newCap sws sneg)
        else keep)
      (fun r' L' _ =>
        Moves L L' n self.own r'.own ∧ r'.Canon mx ∧ r'.words = sws ∧ r'.isNeg = sneg) := by
  apply Sat.of_below; intro hB
  apply Sat.ite
  · intro hlt; exact absurd hlt (by omega)
  intro _
  apply Sat.bind_conseq (P := fun r L' n' => L' = L ∧ n' = n ∧
      (r = false → sws.length ≤ self.capacity ∧ self.capacity ≤ maxCompactCapacity mx sws.length))
  · apply Sat.ite
    · intro _; exact Sat.pure ⟨rfl, rfl, by intro h; cases h⟩
    · intro hge
      apply Sat.bind_conseq maxCompactCapacityChecked_sat
      intro m L' n' _ ⟨hL', hn', hm, _⟩
      subst L' n' m
      exact Sat.pure ⟨rfl, rfl, fun hd =>
        ⟨Nat.le_of_not_lt hge, Nat.le_of_not_lt (of_decide_eq_false hd)⟩⟩
  intro re L' n' _ ⟨hL', hn', hr⟩
  subst L' n'
  apply Sat.ite
  · intro _
    apply Sat.bind_conseq (releaseOld_sat hLs)
    intro _ L1 n1 _ ⟨hm1, hn1⟩
    subst n1
    have hs1 : SrcOk L1 src sws.length := fun s hsrc =>
      let ⟨c, hc, hk⟩ := hs s hsrc
      ⟨c, hm1.other hB hc (hne s hsrc), hk⟩
    apply Sat.bind_conseq defaultCapacityChecked_sat
    intro nc L1' n1' _ ⟨hL1', hn1', hnc, hk⟩
    subst L1' n1' nc
    have hpol := policy_chain mx sws.length hk
    apply Sat.of_below; intro hB1
    apply Sat.bind_conseq allocateRaw_sat
    intro nid L2 n2 _ ⟨hnid, _, hL2, _, hncm⟩
    subst nid L2
    have hma : Moves L1 (L1.set n (some (defaultCapacity mx sws.length))) n none
        (some (n, defaultCapacity mx sws.length)) := Moves.alloc (Nat.le_refl _)
    apply Sat.bind
    apply Sat.quiet ((Quiet.src (hs1.create hB1 hma)).append
      (Quiet.wr (hma.new_live _ _ rfl) (by omega)))
    exact Sat.pure ⟨hm1.trans hma (Nat.le_refl _), ⟨h3, hlast, hpol.1, hpol.2.1, hncm⟩, rfl, rfl⟩
  · intro hre
    obtain ⟨hge, hle⟩ := hr (by simpa using hre)
    cases self with
    | inline lo' hi' code' neg' =>
      have := Rep.capacity_le_two_of_inline hcs
      simp only [Rep.capacity] at hge
      omega
    | heap id cap ws neg' =>
      have hl := hLs id cap rfl
      rw [hkeep id cap ws neg' rfl]
      apply Sat.bind
      apply Sat.quiet ((Quiet.src hs).append (Quiet.wr hl (by simp only [Rep.capacity] at hge; omega)))
      exact Sat.pure ⟨Moves.refl hl, ⟨h3, hlast, hge, hle, hcs.2.2.2.2⟩, rfl, rfl⟩

/-- repr.rs:498 — `Clone::clone_from` for every size relation: the result equals `src`, is canonical,
    owns an allocation different from `src`'s; an old heap buffer is either reused (when
    `src.len ≤ cap ≤ max_compact_capacity(src.len)`) or freed exactly once (repr.rs:504, 519) -/
theorem repCloneFrom_sat {self src : Rep} (hcs : self.Canon mx) (hcr : src.Canon mx)
    (hLs : self.Live L) (hLr : src.Live L)
    (hne : ∀ i c i' c', self.own = some (i, c) → src.own = some (i', c') → i ≠ i') :
    Sat L n (Rep.cloneFrom mx self src) (fun r' L' _ =>
      Moves L L' n self.own r'.own ∧ r'.Canon mx ∧ r'.words = src.words ∧ r'.isNeg = src.isNeg ∧
      ∀ i c, r'.own = some (i, c) → ∀ c', src.own ≠ some (i, c')) := by
  apply Sat.of_below; intro hB
  cases src with
  | inline lo hi code neg =>
    unfold Rep.cloneFrom
    apply Sat.bind_conseq (releaseOld_sat hLs)
    intro _ L1 n1 _ ⟨hm1, _⟩
    apply Sat.pure
    exact ⟨hm1, hcr, rfl, rfl, by intro i c h; cases h⟩
  | heap sid scap sws sneg =>
    have hls : L sid = some scap := hLr sid scap rfl
    unfold Rep.cloneFrom
    apply Sat.conseq (cloneFromWords_sat (src := some sid) hcs hLs hcr.1 hcr.2.1
      (fun s hs => by cases hs; exact ⟨scap, hls, hcr.2.2.1⟩)
      (fun s hs c hc => by cases hs; exact hne sid c sid scap hc rfl rfl)
      (fun id cap ws neg h => by subst h; rfl))
    intro r' L' n' _ ⟨hm, hc, hw, hn⟩
    refine ⟨hm, hc, hw, hn, ?_⟩
    -- the result's allocation is the old one or a fresh one; `src`'s is neither
    intro i c hi c' hc'
    injection hc' with hc'; injection hc' with hsi _
    rcases hm.new_from i c hi with ⟨c0, h0⟩ | hle
    · exact hne i c0 sid scap h0 rfl hsi.symm
    · have := live_lt hB hls; omega

theorem onesWord_ne_zero {k : Nat} (hk : 0 < k) : Rep.onesWord k ≠ 0 := by
  unfold Rep.onesWord
  have : 1 < 2 ^ k := Nat.one_lt_two_pow (Nat.ne_of_gt hk)
  omega

/-- repr.rs:433 — `Repr::ones` (after fix 283f2ad): canonical for every `n`; the transmuted buffer has
    capacity ≥ 3, ≥ 3 words, non-zero top word, and is compact -/
theorem ones_sat {W k : Nat} (hW : 0 < W) :
    Sat L n (Rep.ones W mx k) (fun r L' _ => Moves L L' n none r.own ∧ r.Canon mx ∧ r.isNeg = false) := by
  unfold Rep.ones
  apply Sat.ite
  · intro _; exact Sat.pure ⟨Moves.refl_none, Rep.canon_fromWord _, rfl⟩
  · intro _
    apply Sat.ite
    · intro _
      apply Sat.pure
      refine ⟨?_, Rep.canon_fromDword _ _, ?_⟩
      · unfold Rep.fromDword; exact Moves.refl_none
      · unfold Rep.fromDword; rfl
    · intro hk
      have hk2 : 2 * W < k := Nat.lt_of_not_le hk
      have hq2 : 2 ≤ k / W := (Nat.le_div_iff_mul_le hW).mpr (Nat.le_of_lt hk2)
      unfold Rep.onesLarge
      apply Sat.bind_conseq allocate_sat
      intro b1 L1 n1 hn1 ⟨hm1, hw1, hws1, hcap1, hkm⟩
      apply Sat.bind_conseq (pushRepeat_sat (hm1.new_live _ _ rfl) hw1)
      intro b2 L2 n2 hn2 ⟨hm2, hw2, _, hcap2, hws2⟩
      have hm12 := hm1.trans hm2 hn1
      have hpol := policy_chain mx (k / W + 1) hkm
      apply Sat.bind_conseq (P := fun b3 L3 n3 => Moves L L3 n none b3.own ∧ b3.Wf mx ∧ b3.cap = b1.cap ∧
          ((0 < k % W ∧ b3.ws = List.replicate (k / W) (Rep.onesWord W) ++ [Rep.onesWord (k % W)]) ∨
           (k % W = 0 ∧ b3.ws = List.replicate (k / W) (Rep.onesWord W))))
      · apply Sat.ite
        · intro hhi
          apply Sat.conseq (push_sat (hm2.new_live _ _ rfl) hw2)
          intro b3 L3 n3 hn3 ⟨hm3, hw3, _, hcap3, hws3⟩
          refine ⟨hm12.trans hm3 (Nat.le_trans hn1 hn2), hw3, by rw [hcap3, hcap2], Or.inl ⟨hhi, ?_⟩⟩
          rw [hws3, hws2, hws1]; rfl
        · intro hhi
          apply Sat.pure
          refine ⟨hm12, hw2, hcap2, Or.inr ⟨by omega, ?_⟩⟩
          rw [hws2, hws1]; rfl
      intro b3 L3 n3 hn3 ⟨hm3, hw3, hcap3, hws3⟩
      have hc3 : 3 ≤ b3.cap := by rw [hcap3, hcap1]; omega
      apply Sat.conseq (ofBuf_sat hc3)
      intro r L4 n4 _ ⟨hL4, _, hr⟩
      subst hL4 hr
      refine ⟨hm3, ?_, rfl⟩
      have hlen3 : b3.ws.length ≤ b3.cap := hw3.1
      rcases hws3 with ⟨hhi, hws⟩ | ⟨hhi, hws⟩
      · show 3 ≤ b3.ws.length ∧ _
        rw [hws]
        have hl : (List.replicate (k / W) (Rep.onesWord W) ++ [Rep.onesWord (k % W)]).length = k / W + 1 := by
          simp
        rw [hws, hl] at hlen3
        refine ⟨by rw [hl]; omega, ?_, by rw [hl]; exact hlen3, ?_, hw3.2.2⟩
        · rw [List.getLast?_append]; simp
          exact onesWord_ne_zero hhi
        · rw [hl, hcap3, hcap1]; exact hpol.2.1
      · have hq3 : 3 ≤ k / W := by
          have hdm := Nat.div_add_mod k W
          rw [hhi, Nat.add_zero] at hdm
          have : W * 2 < W * (k / W) := by rw [hdm]; omega
          have := Nat.lt_of_mul_lt_mul_left this
          omega
        show 3 ≤ b3.ws.length ∧ _
        rw [hws]
        have hl : (List.replicate (k / W) (Rep.onesWord W)).length = k / W := by simp
        rw [hws, hl] at hlen3
        refine ⟨by rw [hl]; exact hq3, ?_, by rw [hl]; exact hlen3, ?_, hw3.2.2⟩
        · rw [List.getLast?_replicate]
          have : ¬ (k / W = 0) := by omega
          simp only [this, ↓reduceIte]
          intro h; injection h with h; exact onesWord_ne_zero hW h
        · rw [hl, hcap3, hcap1]; exact default_succ_le_maxCompact mx (k / W)

end Dashu.Model.Mem
