import Dashu.Model.Int.Memory
import Mathlib.Data.Nat.Log
import Mathlib.Tactic.Ring
import Mathlib.Tactic.Linarith
/-
  Scratch-memory sufficiency of the multiplication / squaring kernels: for every operand size the
  `MemoryAllocation` made by `mul_large` / `square_large` (sized by `memory_requirement_exact`) is large
  enough for every `allocate_slice_*` performed by the recursion, i.e. the
  "internal error: not enough memory allocated" branch of `memory.rs` is unreachable.

  Method: a potential `memBound n` with  (i) `memBound n ≤ avail → kernel runs without the panic`
  (induction along the recursion, each block: allocations + `memBound` of the sub-size ≤ `memBound n`),
  (ii) `memBound n ≤ mulMemReq n`.  For Karatsuba `memBound` is the requirement itself
  (`ceil_log2 ⌈n/2⌉ = ceil_log2 n − 1`).  For Toom-3 the requirement `4n + 13·ceil_log2 n` does not
  satisfy its own recurrence step by step (one level adds up to 20 words while `ceil_log2` may drop by
  only 1), so the potential is `4n + 20·(⌈log₃(2n − 5)⌉ − 2)` — the integer form of the
  `20·log₃(n − 2.5)` of the source comment — which drops by 20 per level, and `3^13 ≥ 2^20` bounds it by
  the requirement.
-/
namespace Dashu.Model

/-- side conditions on the regenerated schoolbook threshold (the proofs below keep it symbolic, so a
    different valid value needs no change here) -/
theorem thrS_pos : 1 ≤ Dashu.Gen.mul_THRESHOLD_SIMPLE := by decide
theorem thrS_le : Dashu.Gen.mul_THRESHOLD_SIMPLE ≤ 192 := by decide
theorem thrK : Dashu.Gen.mul_THRESHOLD_KARATSUBA = 192 := rfl

-- ------------------------------------------------------------------ ceil_log2

theorem ceilLog2_eq_clog (n : Nat) : ceilLog2 n = Nat.clog 2 n := by
  unfold ceilLog2 bitLen
  by_cases h : n - 1 = 0
  · rw [if_pos h]
    exact (Nat.clog_of_right_le_one (by omega) 2).symm
  · rw [if_neg h]
    apply le_antisymm
    · rw [Nat.add_one_le_iff, Nat.lt_clog_iff_pow_lt (by norm_num)]
      have := Nat.log2_self_le h
      omega
    · apply Nat.clog_le_of_le_pow
      have := @Nat.lt_log2_self (n - 1)
      omega

theorem clog2_half (n : Nat) (h : 2 ≤ n) : Nat.clog 2 n = Nat.clog 2 ((n + 1) / 2) + 1 := by
  have := Nat.clog_of_two_le (b := 2) (by norm_num) h
  simpa using this

theorem karatsubaMemReq_mono {a b : Nat} (h : a ≤ b) : karatsubaMemReq a ≤ karatsubaMemReq b := by
  unfold karatsubaMemReq
  rw [ceilLog2_eq_clog, ceilLog2_eq_clog]
  have := Nat.clog_mono_right 2 h
  omega

theorem toom3MemReq_mono {a b : Nat} (h : a ≤ b) : toom3MemReq a ≤ toom3MemReq b := by
  unfold toom3MemReq
  rw [ceilLog2_eq_clog, ceilLog2_eq_clog]
  have := Nat.clog_mono_right 2 h
  omega

/-- the Karatsuba requirement satisfies its own recurrence: `2·⌈n/2⌉ + f(⌈n/2⌉) ≤ f(n)` -/
theorem karatsubaMemReq_rec (n : Nat) (h : 2 ≤ n) :
    2 * ((n + 1) / 2) + karatsubaMemReq ((n + 1) / 2) ≤ karatsubaMemReq n := by
  unfold karatsubaMemReq
  rw [ceilLog2_eq_clog, ceilLog2_eq_clog, clog2_half n h]
  omega

-- ------------------------------------------------------------------ the potential

/-- `⌈log₃(2n − 5)⌉` -/
def mu3 (n : Nat) : Nat := Nat.clog 3 (2 * n - 5)

/-- what the recursion really needs is at most this -/
def memBound (n : Nat) : Nat :=
  if n ≤ Dashu.Gen.mul_THRESHOLD_SIMPLE then 0
  else if n ≤ Dashu.Gen.mul_THRESHOLD_KARATSUBA then karatsubaMemReq n
  else 4 * n + 20 * (mu3 n - 2)

theorem mu3_mono {a b : Nat} (h : a ≤ b) : mu3 a ≤ mu3 b :=
  Nat.clog_mono_right 3 (by omega)

theorem mu3_ge (n : Nat) (h : 193 ≤ n) : 6 ≤ mu3 n := by
  unfold mu3
  rw [Nat.add_one_le_iff, Nat.lt_clog_iff_pow_lt (by norm_num)]
  omega

/-- one Toom-3 level divides `2n − 5` by at least 3 -/
theorem mu3_step (n : Nat) (h : 193 ≤ n) : mu3 ((n + 2) / 3 + 1) + 1 ≤ mu3 n := by
  unfold mu3
  have := Nat.clog_of_two_le (b := 3) (n := 2 * n - 5) (by norm_num) (by omega)
  rw [this]
  have hm := Nat.clog_mono_right 3 (show 2 * ((n + 2) / 3 + 1) - 5 ≤ (2 * n - 5 + 3 - 1) / 3 by omega)
  omega

theorem memBound_le_kreq (m : Nat) (h : m ≤ 192) : memBound m ≤ karatsubaMemReq m := by
  have hS1 := thrS_pos
  have hS2 := thrS_le
  unfold memBound
  rw [thrK]
  split
  · omega
  · first
    | exact Nat.le_refl _
    | (rw [if_pos h])

theorem kreq_le_400 (m : Nat) (h : m ≤ 192) : karatsubaMemReq m ≤ 2 * m + 16 := by
  unfold karatsubaMemReq
  rw [ceilLog2_eq_clog]
  have : Nat.clog 2 m ≤ 8 := Nat.clog_le_of_le_pow (by norm_num; omega)
  omega

/-- Karatsuba level: both recursive sizes fit -/
theorem memBound_kara (n : Nat) (h1 : Dashu.Gen.mul_THRESHOLD_SIMPLE < n) (h2 : n ≤ 192) :
    2 * ((n + 1) / 2) + memBound ((n + 1) / 2) ≤ memBound n ∧
    2 * (n - (n + 1) / 2) + memBound (n - (n + 1) / 2) ≤ memBound n := by
  have hS1 := thrS_pos
  have hS2 := thrS_le
  have hn : memBound n = karatsubaMemReq n := by
    unfold memBound; rw [thrK, if_neg (by omega), if_pos h2]
  have b1 := memBound_le_kreq ((n + 1) / 2) (by omega)
  have b2 := memBound_le_kreq (n - (n + 1) / 2) (by omega)
  have r := karatsubaMemReq_rec n (by omega)
  have m := karatsubaMemReq_mono (show n - (n + 1) / 2 ≤ (n + 1) / 2 by omega)
  rw [hn]
  constructor <;> omega

/-- Toom-3 level: the persistent `8·(n3+1)` words plus what any of the recursive sizes needs fit -/
theorem memBound_toom (n : Nat) (h : 192 < n) (m : Nat) (hm : m ≤ (n + 2) / 3 + 1) :
    8 * ((n + 2) / 3 + 1) + memBound m ≤ memBound n := by
  have hS1 := thrS_pos
  have hS2 := thrS_le
  have hn : memBound n = 4 * n + 20 * (mu3 n - 2) := by
    unfold memBound; rw [thrK, if_neg (by omega), if_neg (by omega)]
  have h6 := mu3_ge n (by omega)
  have hst := mu3_step n (by omega)
  rw [hn]
  by_cases hm192 : m ≤ 192
  · have b1 := memBound_le_kreq m hm192
    have b2 := kreq_le_400 m hm192
    by_cases hA : (n + 2) / 3 + 1 ≤ 192
    · omega
    · omega
  · have hmb : memBound m = 4 * m + 20 * (mu3 m - 2) := by
      unfold memBound; rw [thrK, if_neg (by omega), if_neg hm192]
    have hmono := mu3_mono hm
    rw [hmb]
    omega

/-- `3^13 ≥ 2^20`: the potential stays below the Toom-3 requirement -/
theorem mu3_le_clog2 (n : Nat) (h : 193 ≤ n) : 20 * mu3 n ≤ 13 * Nat.clog 2 n + 40 := by
  by_contra hcon
  have hlt : 13 * Nat.clog 2 n + 40 < 20 * mu3 n := by omega
  have hx : 1 < 2 * n - 5 := by omega
  have h3 : 3 ^ (mu3 n - 1) < 2 * n - 5 := Nat.pow_pred_clog_lt_self (by norm_num) hx
  have h2 : n ≤ 2 ^ Nat.clog 2 n := Nat.le_pow_clog (by norm_num) n
  have hup : 3 ^ (mu3 n - 1) < 2 ^ (Nat.clog 2 n + 1) := by
    rw [Nat.pow_succ]; omega
  have h20 : (3 ^ (mu3 n - 1)) ^ 20 < (2 ^ (Nat.clog 2 n + 1)) ^ 20 :=
    Nat.pow_lt_pow_left hup (by norm_num)
  rw [← Nat.pow_mul, ← Nat.pow_mul] at h20
  have he : 13 * Nat.clog 2 n + 21 ≤ (mu3 n - 1) * 20 := by omega
  have hl : 3 ^ (13 * Nat.clog 2 n + 21) ≤ 3 ^ ((mu3 n - 1) * 20) :=
    Nat.pow_le_pow_right (by norm_num) he
  have hk : (2 : Nat) ^ ((Nat.clog 2 n + 1) * 20) ≤ 3 ^ (13 * Nat.clog 2 n + 21) := by
    have e1 : (2 : Nat) ^ ((Nat.clog 2 n + 1) * 20) = (2 ^ 20) ^ Nat.clog 2 n * 2 ^ 20 := by
      rw [← Nat.pow_mul, ← Nat.pow_add]; congr 1; ring
    have e2 : (3 : Nat) ^ (13 * Nat.clog 2 n + 21) = (3 ^ 13) ^ Nat.clog 2 n * 3 ^ 21 := by
      rw [← Nat.pow_mul, ← Nat.pow_add]
    rw [e1, e2]
    exact Nat.mul_le_mul (Nat.pow_le_pow_left (by norm_num) _) (by norm_num)
  omega

theorem memBound_le_req (n : Nat) : memBound n ≤ mulMemReq n := by
  unfold memBound mulMemReq
  split
  · exact Nat.le_refl _
  · split
    · exact Nat.le_refl _
    · rename_i h1 h2
      rw [thrK] at h2
      unfold toom3MemReq
      rw [ceilLog2_eq_clog]
      have := mu3_le_clog2 n (by omega)
      have := mu3_ge n (by omega)
      omega

theorem mulMemReq_mono {a b : Nat} (h : a ≤ b) : mulMemReq a ≤ mulMemReq b := by
  have hS1 := thrS_pos
  have hS2 := thrS_le
  unfold mulMemReq
  rw [thrK]
  have hk := karatsubaMemReq_mono h
  have ht := toom3MemReq_mono h
  have hkt : karatsubaMemReq a ≤ toom3MemReq a := by
    unfold karatsubaMemReq toom3MemReq; omega
  split <;> split <;> (try split) <;> (try split) <;> omega

-- ------------------------------------------------------------------ running the allocations

theorem memAlloc_ok {avail n : Nat} (h : n ≤ avail) : memAlloc avail n = .ok (avail - n) := by
  unfold memAlloc; rw [if_pos h]

theorem bind_ok' {ε α β : Type} (a : α) (f : α → Except ε β) : (Except.ok a >>= f) = f a := rfl

theorem memKaratsuba_ok (rec : MemKernel) (S : Nat → Nat)
    (hrec : ∀ m av, S m ≤ av → rec m av = .ok ()) (n avail : Nat)
    (hA : 2 * ((n + 1) / 2) + S ((n + 1) / 2) ≤ avail)
    (hB : 2 * (n - (n + 1) / 2) + S (n - (n + 1) / 2) ≤ avail) :
    memKaratsuba rec n avail = .ok () := by
  simp only [memKaratsuba]
  rw [memAlloc_ok (show 2 * ((n + 1) / 2) ≤ avail by omega), bind_ok',
    hrec _ _ (by omega), bind_ok',
    memAlloc_ok (show 2 * (n - (n + 1) / 2) ≤ avail by omega), bind_ok',
    hrec _ _ (by omega), bind_ok',
    memAlloc_ok (show (n + 1) / 2 ≤ avail by omega), bind_ok',
    memAlloc_ok (show (n + 1) / 2 ≤ avail - (n + 1) / 2 by omega), bind_ok']
  exact hrec _ _ (by omega)

theorem memToom3_ok (rec : MemKernel) (S : Nat → Nat)
    (hrec : ∀ m av, S m ≤ av → rec m av = .ok ()) (n avail : Nat)
    (h0 : 8 * ((n + 2) / 3 + 1) + S ((n + 2) / 3) ≤ avail)
    (h1 : 8 * ((n + 2) / 3 + 1) + S ((n + 2) / 3 + 1) ≤ avail)
    (h2 : 8 * ((n + 2) / 3 + 1) + S (n - 2 * ((n + 2) / 3)) ≤ avail) :
    memToom3 rec n avail = .ok () := by
  simp only [memToom3]
  generalize (n + 2) / 3 = n3 at *
  rw [memAlloc_ok (show 2 * n3 + 2 ≤ avail by omega), bind_ok',
    hrec _ _ (by omega), bind_ok',
    memAlloc_ok (show n3 + 1 ≤ avail - (2 * n3 + 2) by omega), bind_ok',
    memAlloc_ok (show n3 + 1 ≤ avail - (2 * n3 + 2) - (n3 + 1) by omega), bind_ok',
    hrec _ _ (by omega), bind_ok',
    memAlloc_ok (show 2 * n3 + 2 ≤ avail - (2 * n3 + 2) - (n3 + 1) - (n3 + 1) by omega), bind_ok',
    hrec _ _ (by omega), bind_ok', bind_ok',
    memAlloc_ok (show n3 + 1 ≤ avail - (2 * n3 + 2) - (n3 + 1) - (n3 + 1) - (2 * n3 + 2) by omega),
    bind_ok',
    memAlloc_ok (show n3 + 1 ≤ avail - (2 * n3 + 2) - (n3 + 1) - (n3 + 1) - (2 * n3 + 2) - (n3 + 1)
      by omega), bind_ok',
    hrec _ _ (by omega), bind_ok',
    memAlloc_ok (show 2 * (n3 + 1) ≤ avail - (2 * n3 + 2) - (n3 + 1) - (n3 + 1) - (2 * n3 + 2)
      by omega), bind_ok']
  exact hrec _ _ (by omega)

/-- one Karatsuba or Toom-3 level on `memBound n` words, given that the recursive calls run on
    `memBound` of their sizes -/
theorem memLevel_ok (rec : MemKernel) (hrec : ∀ m av, memBound m ≤ av → rec m av = .ok ())
    (n avail : Nat) (h : memBound n ≤ avail) :
    (Dashu.Gen.mul_THRESHOLD_SIMPLE < n → n ≤ 192 → memKaratsuba rec n avail = .ok ()) ∧
    (192 < n → memToom3 rec n avail = .ok ()) := by
  constructor
  · intro h1 h2
    obtain ⟨k1, k2⟩ := memBound_kara n h1 h2
    exact memKaratsuba_ok _ memBound hrec n avail (by omega) (by omega)
  · intro h1
    have t0 := memBound_toom n h1 ((n + 2) / 3) (by omega)
    have t1 := memBound_toom n h1 ((n + 2) / 3 + 1) (by omega)
    have t2 := memBound_toom n h1 (n - 2 * ((n + 2) / 3)) (by omega)
    exact memToom3_ok _ memBound hrec n avail (by omega) (by omega) (by omega)

/-- `mul::add_signed_mul_same_len` never runs out of scratch memory when given `memBound n` words -/
theorem memSameLen_ok : ∀ (fuel n avail : Nat), memBound n ≤ avail → memSameLen fuel n avail = .ok () := by
  intro fuel
  induction fuel with
  | zero => intro n avail _; rfl
  | succ fuel ih =>
    intro n avail h
    obtain ⟨hk, ht⟩ := memLevel_ok _ ih n avail h
    simp only [memSameLen]
    rw [thrK]
    split
    · rfl
    · split
      · exact hk (by omega) (by omega)
      · exact ht (by omega)

/-- the same-length kernels called per chunk by `karatsuba::add_signed_mul` / `toom_3::add_signed_mul` -/
theorem memChunkKernel_ok (b avail : Nat) (h : mulMemReq b ≤ avail) :
    (Dashu.Gen.mul_THRESHOLD_SIMPLE < b → b ≤ 192 → memKaratsuba (memSameLen b) b avail = .ok ()) ∧
    (192 < b → memToom3 (memSameLen b) b avail = .ok ()) :=
  memLevel_ok _ (memSameLen_ok b) b avail (Nat.le_trans (memBound_le_req b) h)

theorem memSplitLoop_ok (chunkLen : Nat) (f : Nat → Except PanicKind Unit)
    (tail : Nat → Nat → Nat → Except PanicKind Unit) (b avail : Nat) (hf : f avail = .ok ())
    (htail : ∀ x y, min x y ≤ b → tail x y avail = .ok ()) :
    ∀ k a, memSplitLoop chunkLen f tail b k a avail = .ok () := by
  have hfin : ∀ a, (if a ≥ b then tail a b avail else if a ≠ 0 then tail b a avail else .ok ())
      = .ok () := by
    intro a
    split
    · exact htail a b (by omega)
    · split
      · exact htail b a (by omega)
      · rfl
  intro k
  induction k with
  | zero => intro a; simp only [memSplitLoop]; exact hfin a
  | succ k ih =>
    intro a
    simp only [memSplitLoop]
    split
    · rw [hf, bind_ok']; exact ih _
    · exact hfin a

/-- `mul::add_signed_mul` never runs out of scratch memory when given the requirement of the shorter
    operand -/
theorem memAddSignedMul_ok : ∀ (fuel a0 b0 avail : Nat), mulMemReq (min a0 b0) ≤ avail →
    memAddSignedMul fuel a0 b0 avail = .ok () := by
  have hS1 := thrS_pos
  have hS2 := thrS_le
  intro fuel
  induction fuel with
  | zero => intro _ _ _ _; rfl
  | succ fuel ih =>
    intro a0 b0 avail h
    have hmin : (if a0 < b0 then a0 else b0) = min a0 b0 := by
      split <;> omega
    simp only [memAddSignedMul]
    rw [hmin, thrK]
    generalize (if a0 < b0 then b0 else a0) = a
    have htail : ∀ x y, min x y ≤ min a0 b0 → memAddSignedMul fuel x y avail = .ok () := by
      intro x y hxy
      exact ih x y avail (Nat.le_trans (mulMemReq_mono hxy) h)
    obtain ⟨ck, ct⟩ := memChunkKernel_ok (min a0 b0) avail h
    split
    · split
      · rfl
      · exact memSplitLoop_ok _ (fun _ => .ok ()) _ _ _ rfl htail _ _
    · split
      · exact memSplitLoop_ok _ _ _ _ _ (ck (by omega) (by omega)) htail _ _
      · exact memSplitLoop_ok _ _ _ _ _ (ct (by omega)) htail _ _

/-- **`mul_large` never hits "not enough memory allocated"**: the allocation
    `memory_requirement_exact(res_len, min(lhs.len(), rhs.len()))` suffices for every allocation made
    by `mul::multiply`, whatever the operand lengths -/
theorem memMulLarge_ok (l r : Nat) : memMulLarge l r = .ok () :=
  memAddSignedMul_ok (l + r) l r _ (Nat.le_refl _)

/-- beyond the schoolbook squaring, `sqrMemReq len` words suffice for the same-length kernel -/
theorem memSameLen_sqr_ok (len avail : Nat) (hl : ¬ len ≤ sqrMaxLenSimple)
    (h : sqrMemReq len ≤ avail) : memSameLen len len avail = .ok () := by
  unfold sqrMemReq at h
  rw [if_neg hl] at h
  exact memSameLen_ok len len avail (Nat.le_trans (memBound_le_req len) h)

end Dashu.Model
