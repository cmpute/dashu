import Dashu.Model.Int.Repr
import Dashu.Proofs.Int.Word
/-
  The dispatch layer (`repr.rs` from_buffer/from_dword, `add_ops.rs mod repr`) against arithmetic
  on `Nat` and `Int`, for every word size `W ≥ 1`: every result is exact and canonical
  (`TRepr.Canon`; signed results `SRepr.WF`, defined here: canonical magnitude, no negative zero).
-/
namespace Dashu.Model

-- ------------------------------------------------------------------ trimLen / popZeros

theorem trimLen_le (ws : List Nat) : trimLen ws ≤ ws.length := by
  induction ws with
  | nil => simp [trimLen]
  | cons w ws ih =>
    simp only [trimLen, List.length_cons]
    split <;> (try split) <;> omega

theorem val_zero_of_trimLen_zero (W : Nat) (ws : List Nat) (h : trimLen ws = 0) : val W ws = 0 := by
  induction ws with
  | nil => rfl
  | cons w ws ih =>
    simp only [trimLen] at h
    split at h
    · rename_i h0
      split at h
      · rename_i hw; simp [ih h0, hw]
      · omega
    · omega

theorem val_popZeros (W : Nat) (ws : List Nat) : val W (popZeros ws) = val W ws := by
  unfold popZeros
  induction ws with
  | nil => simp [trimLen]
  | cons w ws ih =>
    simp only [trimLen]
    split
    · rename_i h0
      have hz := val_zero_of_trimLen_zero W ws h0
      split
      · rename_i hw; simp [hw, hz]
      · simp [hz]
    · simp only [List.take_succ_cons, val_cons, ih]

theorem popZeros_isWords {W : Nat} {ws : List Nat} (h : IsWords W ws) : IsWords W (popZeros ws) :=
  h.take _

theorem popZeros_length (ws : List Nat) : (popZeros ws).length = trimLen ws := by
  unfold popZeros; simp [List.length_take, Nat.min_eq_left (trimLen_le ws)]

theorem popZeros_getLast (ws : List Nat) : (popZeros ws).getLast? ≠ some 0 := by
  unfold popZeros
  induction ws with
  | nil => simp [trimLen]
  | cons w ws ih =>
    simp only [trimLen]
    split
    · rename_i h0
      split
      · simp
      · rename_i hw; simp [hw]
    · rename_i h0
      rw [List.take_succ_cons]
      have hne : List.take (trimLen ws) ws ≠ [] := by
        intro hnil
        have := congrArg List.length hnil
        simp [List.length_take, Nat.min_eq_left (trimLen_le ws)] at this
        exact h0 this
      rw [List.getLast?_cons_of_ne_nil hne] <;> exact ih

-- ------------------------------------------------------------------ fromBuffer

theorem fromBuffer_value (W : Nat) (ws : List Nat) : (fromBuffer W ws).value W = val W ws := by
  rw [← val_popZeros W ws]
  unfold fromBuffer
  split <;> simp_all [TRepr.value]

theorem fromBuffer_canon (W : Nat) (ws : List Nat) (h : IsWords W ws) :
    (fromBuffer W ws).Canon W := by
  have hw := popZeros_isWords h
  have hl := popZeros_getLast ws
  unfold fromBuffer
  split
  · simp [TRepr.Canon, Nat.two_pow_pos]
  · rename_i a he
    rw [he] at hw
    have := hw.head
    simp only [TRepr.Canon]
    calc a < 2 ^ W := this
      _ ≤ 2 ^ (2 * W) := Nat.pow_le_pow_right (by omega) (by omega)
  · rename_i a b he
    rw [he] at hw
    have ha := hw.head
    have hb := hw.tail.head
    simp only [TRepr.Canon]
    rw [two_pow_two_mul]
    exact two_digits_lt_sq ha hb
  · rename_i l h0 h1 h2
    refine ⟨?_, hw, hl⟩
    match hp : popZeros ws with
    | [] => exact absurd hp h0
    | [a] => exact absurd hp (h1 a)
    | [a, b] => exact absurd hp (h2 a b)
    | _ :: _ :: _ :: _ => simp

/-- `Repr::from_buffer` of a buffer holding `T` is the canonical representation of `T` -/
theorem Holds.fromBuffer {W n T : Nat} {l : List Nat} (h : Holds W n l T) :
    (fromBuffer W l).value W = T ∧ (fromBuffer W l).Canon W :=
  ⟨(fromBuffer_value W l).trans h.2.2, fromBuffer_canon W l h.2.1⟩

-- ------------------------------------------------------------------ add_dword

@[simp] theorem TRepr.value_small (W d : Nat) : (TRepr.small d).value W = d := rfl
@[simp] theorem TRepr.value_large (W : Nat) (ws : List Nat) : (TRepr.large ws).value W = val W ws := rfl

theorem exists_cons_cons {l : List Nat} (h : 2 ≤ l.length) : ∃ a b t, l = a :: b :: t := by
  match l, h with
  | [], h => simp at h
  | [_], h => simp at h
  | a :: b :: t, _ => exact ⟨a, b, t, rfl⟩

theorem val_dword (W d : Nat) : val W [d % 2 ^ W, d / 2 ^ W] = d := by
  simp only [val_cons, val_nil, Nat.mul_zero, Nat.add_zero]
  exact Nat.mod_add_div d (2 ^ W)

theorem isWords_dword (W d : Nat) (hd : d < 2 ^ (2 * W)) : IsWords W [d % 2 ^ W, d / 2 ^ W] := by
  have hp : 0 < 2 ^ W := Nat.two_pow_pos W
  refine IsWords.cons (Nat.mod_lt _ hp) (IsWords.cons ?_ (IsWords.nil W))
  rw [Nat.div_lt_iff_lt_mul hp, ← two_pow_two_mul]; exact hd

theorem isWords_one (W : Nat) (hW : 1 ≤ W) : IsWords W [1] :=
  IsWords.cons (Nat.one_lt_two_pow (by omega)) (IsWords.nil W)

theorem addDword_spec (W a b : Nat) (ha : a < 2 ^ (2 * W)) (hb : b < 2 ^ (2 * W)) :
    (addDword W a b).value W = a + b ∧ (addDword W a b).Canon W := by
  unfold addDword
  have hp : 0 < 2 ^ (2 * W) := Nat.two_pow_pos _
  by_cases h : (a + b) / 2 ^ (2 * W) = 0
  · rw [if_pos h]
    exact ⟨rfl, (Nat.div_eq_zero_iff_lt hp).mp h⟩
  · rw [if_neg h]
    -- the sum has a third word, which is 1
    have hq : (a + b) / 2 ^ (2 * W) = 1 :=
      Nat.le_antisymm (carry_le_one (by omega)) (Nat.pos_of_ne_zero h)
    have hW : W ≠ 0 := by
      intro hW; subst hW; simp at ha hb; subst ha; subst hb; simp at h
    refine (Holds.snoc (n := 2) rfl (isWords_dword W _ (Nat.mod_lt _ hp)) (Nat.one_lt_two_pow hW)
      ?_).fromBuffer
    rw [val_dword, Nat.mul_comm W 2, ← hq]
    exact Nat.mod_add_div _ _

theorem val_ge_of_getLast (W : Nat) (ws : List Nat) (hne : ws ≠ []) (hl : ws.getLast? ≠ some 0) :
    2 ^ (W * (ws.length - 1)) ≤ val W ws := by
  induction ws with
  | nil => exact absurd rfl hne
  | cons w ws ih =>
    cases ws with
    | nil =>
      have : w ≠ 0 := by simpa using hl
      simp only [List.length_cons, List.length_nil, val_cons, val_nil]
      simp; omega
    | cons x xs =>
      have hl' : (x :: xs).getLast? ≠ some 0 := by
        rwa [List.getLast?_cons_cons] at hl
      have h := ih (by simp) hl'
      simp only [List.length_cons, Nat.add_sub_cancel] at h ⊢
      rw [pow_mul_succ, val_cons]
      calc 2 ^ W * 2 ^ (W * xs.length) ≤ 2 ^ W * val W (x :: xs) := Nat.mul_le_mul_left _ h
        _ ≤ w + 2 ^ W * val W (x :: xs) := Nat.le_add_left _ _

theorem TRepr.Canon.large_ge {W : Nat} {ws : List Nat} (h : (TRepr.large ws).Canon W) :
    2 ^ (2 * W) ≤ val W ws := by
  obtain ⟨h3, _, hl⟩ := h
  have hne : ws ≠ [] := by intro e; subst e; simp at h3
  refine Nat.le_trans (Nat.pow_le_pow_right (by omega) ?_) (val_ge_of_getLast W ws hne hl)
  rw [Nat.mul_comm 2 W]; exact Nat.mul_le_mul_left _ (by omega)

theorem TRepr.Canon.small_lt {W d : Nat} (h : (TRepr.small d).Canon W) : d < 2 ^ (2 * W) := h

theorem TRepr.Canon.large_words {W : Nat} {ws : List Nat} (h : (TRepr.large ws).Canon W) :
    IsWords W ws := h.2.1

theorem TRepr.Canon.large_len {W : Nat} {ws : List Nat} (h : (TRepr.large ws).Canon W) :
    3 ≤ ws.length := h.1

-- ------------------------------------------------------------------ add_dword_in_place / add_large_dword

theorem addDwordInPlace_eq (W w0 w1 : Nat) (hi : List Nat) (d : Nat) :
    addDwordInPlace W (w0 :: w1 :: hi) d
      = addInPlace W (w0 :: w1 :: hi) [d % 2 ^ W, d / 2 ^ W] := by
  simp [addDwordInPlace, addInPlace, addSameLen]

theorem addDwordInPlace_spec (W : Nat) (ws : List Nat) (d : Nat)
    (hw : IsWords W ws) (hlen : 2 ≤ ws.length) (hd : d < 2 ^ (2 * W)) :
    let r := addDwordInPlace W ws d
    val W r.1 + 2 ^ (W * ws.length) * r.2 = val W ws + d ∧
    r.1.length = ws.length ∧ IsWords W r.1 ∧ r.2 ≤ 1 := by
  obtain ⟨w0, w1, hi, rfl⟩ := exists_cons_cons hlen
  have hs := addInPlace_spec W (w0 :: w1 :: hi) [d % 2 ^ W, d / 2 ^ W] hw (isWords_dword W d hd)
    (by simp)
  rw [val_dword] at hs
  rw [addDwordInPlace_eq]
  exact hs

/-- an addition with its carry bit pushed when set (`add_large`, `add_large_dword`), then
    `Repr::from_buffer`: the canonical representation of the exact sum -/
theorem fromBuffer_push_carry {W n T c : Nat} {r : List Nat} (hW : 1 ≤ W) (hl : r.length = n)
    (hw : IsWords W r) (hc : c ≤ 1) (h : val W r + 2 ^ (W * n) * c = T) :
    (fromBuffer W (if c = 0 then r else r ++ [1])).value W = T ∧
    (fromBuffer W (if c = 0 then r else r ++ [1])).Canon W := by
  split
  · rename_i hc0
    rw [hc0, Nat.mul_zero, Nat.add_zero] at h
    exact Holds.fromBuffer ⟨hl, hw, h⟩
  · rw [show c = 1 by omega] at h
    exact (Holds.snoc hl hw (Nat.one_lt_two_pow (by omega)) h).fromBuffer

theorem addLargeDword_spec (W : Nat) (hW : 1 ≤ W) (buf : List Nat) (d : Nat)
    (hb : IsWords W buf) (hlen : 2 ≤ buf.length) (hd : d < 2 ^ (2 * W)) :
    (addLargeDword W buf d).value W = val W buf + d ∧ (addLargeDword W buf d).Canon W := by
  obtain ⟨s1, s2, s3, s4⟩ := addDwordInPlace_spec W buf d hb hlen hd
  exact fromBuffer_push_carry hW s2 s3 s4 s1

-- ------------------------------------------------------------------ add_large

/-- the tail that `add_large` keeps: exactly one of the two `drop`s is non-empty -/
theorem addLarge_hi_val (W : Nat) (buffer rhs : List Nat) :
    val W (if rhs.length > min buffer.length rhs.length then rhs.drop (min buffer.length rhs.length)
      else buffer.drop (min buffer.length rhs.length))
    = val W (buffer.drop (min buffer.length rhs.length))
      + val W (rhs.drop (min buffer.length rhs.length)) := by
  by_cases h : rhs.length > min buffer.length rhs.length
  · have hm : min buffer.length rhs.length = buffer.length := by omega
    rw [if_pos h, hm, List.drop_length, val_nil, Nat.zero_add]
  · have hm : min buffer.length rhs.length = rhs.length := by omega
    rw [if_neg h, hm, List.drop_length, val_nil, Nat.add_zero]

theorem addLarge_hi_words (W : Nat) (buffer rhs : List Nat) (hb : IsWords W buffer)
    (hr : IsWords W rhs) :
    IsWords W (if rhs.length > min buffer.length rhs.length
      then rhs.drop (min buffer.length rhs.length)
      else buffer.drop (min buffer.length rhs.length)) := by
  split
  · exact hr.drop _
  · exact hb.drop _

theorem addLarge_spec (W : Nat) (hW : 1 ≤ W) (buffer rhs : List Nat)
    (hb : IsWords W buffer) (hr : IsWords W rhs) :
    (addLarge W buffer rhs).value W = val W buffer + val W rhs ∧ (addLarge W buffer rhs).Canon W := by
  have hl1 := length_take_of_le (Nat.min_le_left buffer.length rhs.length)
  have hl2 := length_take_of_le (Nat.min_le_right buffer.length rhs.length)
  have hv := addLarge_hi_val W buffer rhs
  have hw := addLarge_hi_words W buffer rhs hb hr
  have hsb := val_take_add_drop W buffer (min buffer.length rhs.length)
  have hsr := val_take_add_drop W rhs (min buffer.length rhs.length)
  rw [hl1] at hsb
  rw [hl2] at hsr
  generalize hhi : (if rhs.length > min buffer.length rhs.length
      then rhs.drop (min buffer.length rhs.length)
      else buffer.drop (min buffer.length rhs.length)) = hi at hv hw
  generalize hn : min buffer.length rhs.length = n at hl1 hl2 hv hsb hsr hhi
  -- `add_large` is `add_in_place` of the low part of `rhs` into the low part of `buffer` with the
  -- longer operand's tail on top, then the push of the carry
  have key : addLarge W buffer rhs
      = (fun p : List Nat × Nat => fromBuffer W (if p.2 = 0 then p.1 else p.1 ++ [1]))
          (addInPlace W (buffer.take n ++ hi) (rhs.take n)) := by
    simp only [addLarge, addInPlace, hn, hhi, hl2, List.take_left' hl1, List.drop_left' hl1]
    split <;> rfl
  obtain ⟨s1, s2, s3, s4⟩ := addInPlace_spec W (buffer.take n ++ hi) (rhs.take n)
    ((hb.take n).append hw) (hr.take n) (by rw [List.length_append, hl1, hl2]; omega)
  rw [key]
  refine fromBuffer_push_carry hW s2 s3 s4 (s1.trans ?_)
  rw [val_append, hl1, hv, Nat.mul_add]
  omega

-- ------------------------------------------------------------------ TypedRepr + TypedRepr

theorem TRepr.add_spec (W : Nat) (hW : 1 ≤ W) (a b : TRepr) (form : Nat)
    (ha : a.Canon W) (hb : b.Canon W) :
    (a.add W b form).value W = a.value W + b.value W ∧ (a.add W b form).Canon W := by
  cases a with
  | small x =>
    cases b with
    | small y => exact addDword_spec W x y ha hb
    | large ws =>
      have h2 : 2 ≤ ws.length := by have := hb.large_len; omega
      obtain ⟨v, c⟩ := addLargeDword_spec W hW ws x hb.large_words h2 ha
      refine ⟨?_, c⟩
      simp only [TRepr.add, TRepr.value_small, TRepr.value_large]
      rw [v]; omega
  | large ws =>
    cases b with
    | small y =>
      have h2 : 2 ≤ ws.length := by have := ha.large_len; omega
      exact addLargeDword_spec W hW ws y ha.large_words h2 hb
    | large w1 =>
      have h01 := addLarge_spec W hW ws w1 ha.large_words hb.large_words
      have h10 := addLarge_spec W hW w1 ws hb.large_words ha.large_words
      simp only [TRepr.add, TRepr.value_small, TRepr.value_large]
      split
      · exact ⟨by rw [h10.1]; omega, h10.2⟩
      · split
        · exact h01
        · split
          · exact h01
          · exact ⟨by rw [h10.1]; omega, h10.2⟩

theorem TRepr.add_value (W : Nat) (hW : 1 ≤ W) (a b : TRepr) (form : Nat)
    (ha : a.Canon W) (hb : b.Canon W) : (a.add W b form).value W = a.value W + b.value W :=
  (TRepr.add_spec W hW a b form ha hb).1

theorem TRepr.add_canon (W : Nat) (hW : 1 ≤ W) (a b : TRepr) (form : Nat)
    (ha : a.Canon W) (hb : b.Canon W) : (a.add W b form).Canon W :=
  (TRepr.add_spec W hW a b form ha hb).2

-- ------------------------------------------------------------------ sub_dword_in_place / sub_large_dword

theorem subDwordInPlace_eq (W w0 w1 : Nat) (hi : List Nat) (d : Nat)
    (h0 : w0 < 2 ^ W) (h1 : w1 < 2 ^ W) (hd : d < 2 ^ (2 * W)) :
    subDwordInPlace W (w0 :: w1 :: hi) d
      = subInPlace W (w0 :: w1 :: hi) [d % 2 ^ W, d / 2 ^ W] := by
  have hp : 0 < 2 ^ W := Nat.two_pow_pos W
  have hb0 : d % 2 ^ W < 2 ^ W := Nat.mod_lt _ hp
  have hb1 : d / 2 ^ W < 2 ^ W := by rw [Nat.div_lt_iff_lt_mul hp, ← two_pow_two_mul]; exact hd
  simp only [subDwordInPlace]
  generalize d % 2 ^ W = b0 at *
  generalize d / 2 ^ W = b1 at *
  have hq1 : (w1 + 2 ^ W - b1 - (1 - (w0 + 2 ^ W - b0) / 2 ^ W)) / 2 ^ W ≤ 1 := by
    have hx : w1 + 2 ^ W - b1 - (1 - (w0 + 2 ^ W - b0) / 2 ^ W) < 2 * 2 ^ W := by omega
    have := (Nat.div_lt_iff_lt_mul hp).mpr hx
    omega
  have hcond : ((w1 + 2 ^ W - b1 - (1 - (w0 + 2 ^ W - b0) / 2 ^ W)) / 2 ^ W = 1)
      = (1 - (w1 + 2 ^ W - b1 - (1 - (w0 + 2 ^ W - b0) / 2 ^ W)) / 2 ^ W = 0) := by
    apply propext
    generalize (w1 + 2 ^ W - b1 - (1 - (w0 + 2 ^ W - b0) / 2 ^ W)) / 2 ^ W = q at hq1 ⊢
    omega
  simp only [hcond]
  simp [subInPlace, subSameLen]

theorem subDwordInPlace_spec (W : Nat) (ws : List Nat) (d : Nat)
    (hw : IsWords W ws) (hlen : 2 ≤ ws.length) (hd : d < 2 ^ (2 * W)) :
    let r := subDwordInPlace W ws d
    val W r.1 + d = val W ws + 2 ^ (W * ws.length) * r.2 ∧
    r.1.length = ws.length ∧ IsWords W r.1 ∧ r.2 ≤ 1 := by
  obtain ⟨w0, w1, hi, rfl⟩ := exists_cons_cons hlen
  have hs := subInPlace_spec W (w0 :: w1 :: hi) [d % 2 ^ W, d / 2 ^ W] hw (isWords_dword W d hd)
    (by simp)
  rw [val_dword] at hs
  rw [subDwordInPlace_eq W w0 w1 hi d hw.head hw.tail.head hd]
  exact hs

/-- `sub_large_dword`: the `debug_assert!(!overflow)` holds and the result is exact and canonical -/
theorem subLargeDword_spec (W : Nat) (lhs : List Nat) (d : Nat)
    (hc : (TRepr.large lhs).Canon W) (hd : d < 2 ^ (2 * W)) :
    (subDwordInPlace W lhs d).2 = 0 ∧
    (subLargeDword W lhs d).value W + d = val W lhs ∧ (subLargeDword W lhs d).Canon W := by
  have hge := hc.large_ge
  have hs := subDwordInPlace_spec W lhs d hc.large_words (by have := hc.large_len; omega) hd
  unfold subLargeDword
  generalize subDwordInPlace W lhs d = res at hs
  obtain ⟨r, c⟩ := res
  obtain ⟨s1, s2, s3, _⟩ := hs
  simp only at s1 s2 s3 ⊢
  -- a canonical heap value is at least `B²`, more than any double word
  obtain ⟨⟨_, hw, hv⟩, hc0⟩ := Holds.sub ⟨rfl, hc.large_words, rfl⟩ s2 s3 s1 (by omega)
  exact ⟨hc0, by rw [fromBuffer_value, hv]; omega, fromBuffer_canon W r hw⟩

-- ------------------------------------------------------------------ sub_large / sub_large_ref_val

theorem val_lt_of_length_lt (W : Nat) (a b : List Nat) (ha : IsWords W a) (hne : b ≠ [])
    (hb : b.getLast? ≠ some 0) (h : a.length < b.length) : val W a < val W b := by
  have h1 := val_lt W a ha
  have h2 := val_ge_of_getLast W b hne hb
  have h3 : 2 ^ (W * a.length) ≤ 2 ^ (W * (b.length - 1)) :=
    Nat.pow_le_pow_right (by omega) (Nat.mul_le_mul_left _ (by omega))
  omega

theorem subLarge_ok (W : Nat) (lhs rhs : List Nat) (hl : IsWords W lhs) (hr : IsWords W rhs)
    (hlen : rhs.length ≤ lhs.length) (h : val W rhs ≤ val W lhs) :
    ∃ r, subLarge W lhs rhs = .ok r ∧ r.value W + val W rhs = val W lhs ∧ r.Canon W := by
  have hs := subInPlace_spec W lhs rhs hl hr hlen
  have hb := (subInPlace_borrow_iff W lhs rhs hl hr hlen).mpr h
  unfold subLarge
  rw [if_neg (by omega)]
  generalize subInPlace W lhs rhs = res at hs hb
  obtain ⟨r, c⟩ := res
  simp only at hs hb ⊢
  subst hb
  obtain ⟨s1, s2, s3, s4⟩ := hs
  refine ⟨fromBuffer W r, by simp, ?_, fromBuffer_canon W r s3⟩
  rw [fromBuffer_value]; simpa using s1

theorem subLarge_err (W : Nat) (lhs rhs : List Nat) (hl : IsWords W lhs) (hr : IsWords W rhs)
    (h : val W lhs < val W rhs) : subLarge W lhs rhs = .error .negativeUBig := by
  unfold subLarge
  by_cases hlen : lhs.length < rhs.length
  · rw [if_pos hlen]
  · rw [if_neg hlen]
    have hb := subInPlace_borrow_iff W lhs rhs hl hr (by omega)
    generalize subInPlace W lhs rhs = res at hb
    obtain ⟨r, c⟩ := res
    simp only at hb ⊢
    have : c ≠ 0 := by intro hc; have := hb.mp hc; omega
    simp [this]

/-- `sub_large_ref_val` computes the same thing as `sub_large` (in the other buffer) -/
theorem subLargeRefVal_eq (W : Nat) (lhs rhs : List Nat) :
    subLargeRefVal W lhs rhs = subLarge W lhs rhs := by
  unfold subLargeRefVal subLarge
  by_cases hlen : lhs.length < rhs.length
  · simp [hlen]
  · have htl : (lhs.take rhs.length).length = rhs.length := length_take_of_le (by omega)
    simp only [hlen, if_false, subInPlace]
    rw [subSameLenSwap_eq W _ _ 0 htl]
    generalize subSameLen W (lhs.take rhs.length) rhs 0 = res
    obtain ⟨lo, c⟩ := res
    simp only
    by_cases hc : c = 0
    · simp [hc]
    · simp only [hc, if_false]

-- ------------------------------------------------------------------ TypedRepr - TypedRepr (UBig)

theorem TRepr.Canon.large_ne_nil {W : Nat} {ws : List Nat} (h : (TRepr.large ws).Canon W) :
    ws ≠ [] := by
  intro e; subst e; have := h.large_len; simp at this

theorem TRepr.sub_ok (W : Nat) (a b : TRepr) (refVal : Bool) (ha : a.Canon W) (hb : b.Canon W)
    (h : b.value W ≤ a.value W) :
    ∃ r, a.sub W b refVal = .ok r ∧ r.value W + b.value W = a.value W ∧ r.Canon W := by
  cases a with
  | small x =>
    cases b with
    | small y =>
      simp only [TRepr.value_small] at h
      refine ⟨.small (x - y), by simp [TRepr.sub, h], ?_, ?_⟩
      · simp only [TRepr.value_small]; omega
      · show x - y < 2 ^ (2 * W)
        have := ha.small_lt; omega
    | large ws =>
      exfalso
      have := hb.large_ge; have := ha.small_lt
      simp only [TRepr.value_small, TRepr.value_large] at h; omega
  | large ws =>
    cases b with
    | small y =>
      have hs := subLargeDword_spec W ws y ha hb
      exact ⟨subLargeDword W ws y, by simp [TRepr.sub], hs.2.1, hs.2.2⟩
    | large w1 =>
      simp only [TRepr.value_large] at h ⊢
      have hlen : w1.length ≤ ws.length := by
        apply Nat.le_of_not_lt
        intro hcon
        have := val_lt_of_length_lt W ws w1 ha.large_words hb.large_ne_nil hb.2.2 hcon
        omega
      have hs := subLarge_ok W ws w1 ha.large_words hb.large_words hlen h
      simp only [TRepr.sub, subLargeRefVal_eq]
      cases refVal <;> simpa using hs

theorem TRepr.sub_err (W : Nat) (a b : TRepr) (refVal : Bool) (ha : a.Canon W) (hb : b.Canon W)
    (h : a.value W < b.value W) : a.sub W b refVal = .error .negativeUBig := by
  cases a with
  | small x =>
    cases b with
    | small y =>
      simp only [TRepr.value_small] at h
      simp only [TRepr.sub]
      rw [if_neg (by omega)]
    | large ws => rfl
  | large ws =>
    cases b with
    | small y =>
      exfalso
      have := ha.large_ge; have := hb.small_lt
      simp only [TRepr.value_small, TRepr.value_large] at h; omega
    | large w1 =>
      simp only [TRepr.value_large] at h
      have hs := subLarge_err W ws w1 ha.large_words hb.large_words h
      simp only [TRepr.sub, subLargeRefVal_eq]
      cases refVal <;> simpa using hs

-- ------------------------------------------------------------------ sub_in_place_with_sign

theorem take_succ_getD (l : List Nat) (n : Nat) (h : n < l.length) :
    l.take (n + 1) = l.take n ++ [l.getD n 0] := by
  induction l generalizing n with
  | nil => simp at h
  | cons x xs ih =>
    cases n with
    | zero => simp
    | succ n =>
      have h' : n < xs.length := by simpa using h
      simp only [List.take_succ_cons, List.cons_append, List.getD_cons_succ]
      rw [ih n h']

theorem IsWords.getD {W : Nat} {l : List Nat} (h : IsWords W l) (n : Nat) : l.getD n 0 < 2 ^ W := by
  induction l generalizing n with
  | nil => simp [Nat.two_pow_pos]
  | cons x xs ih =>
    cases n with
    | zero => simpa using h.head
    | succ n => simpa using ih h.tail n

theorem IsWords.set {W : Nat} {l : List Nat} (h : IsWords W l) (n x : Nat) (hx : x < 2 ^ W) :
    IsWords W (l.set n x) := by
  intro y hy
  rcases List.mem_or_eq_of_mem_set hy with h' | h'
  · exact h y h'
  · rw [h']; exact hx

theorem set_take_drop (l : List Nat) (n x : Nat) (h : n < l.length) :
    (l.set n x).take n = l.take n ∧ (l.set n x).drop n = x :: l.drop (n + 1) ∧
    l.drop n = l.getD n 0 :: l.drop (n + 1) := by
  induction l generalizing n with
  | nil => simp at h
  | cons y ys ih =>
    cases n with
    | zero => simp
    | succ n =>
      have h' : n < ys.length := by simpa using h
      have := ih n h'
      simpa using this

theorem val_drop_zero (W : Nat) (l : List Nat) (k : Nat) (h : val W l = 0) :
    val W (l.drop k) = 0 := by
  induction l generalizing k with
  | nil => simp
  | cons w ws ih =>
    cases k with
    | zero => simpa using h
    | succ k =>
      simp only [List.drop_succ_cons]
      apply ih
      simp only [val_cons] at h
      have hp : 0 < 2 ^ W := Nat.two_pow_pos W
      have h2 : 2 ^ W * val W ws = 0 := by omega
      rcases Nat.mul_eq_zero.mp h2 with h' | h'
      · omega
      · exact h'

theorem val_drop_trimLen (W : Nat) (ws : List Nat) : val W (ws.drop (trimLen ws)) = 0 := by
  have h1 := val_take_add_drop W ws (trimLen ws)
  have h2 : val W (ws.take (trimLen ws)) = val W ws := val_popZeros W ws
  have hp : 0 < 2 ^ (W * (ws.take (trimLen ws)).length) := Nat.two_pow_pos _
  have h3 : 2 ^ (W * (ws.take (trimLen ws)).length) * val W (ws.drop (trimLen ws)) = 0 := by omega
  rcases Nat.mul_eq_zero.mp h3 with h' | h'
  · omega
  · exact h'

theorem val_drop_of_trimLen_le (W : Nat) (ws : List Nat) (n : Nat) (h : trimLen ws ≤ n) :
    val W (ws.drop n) = 0 := by
  have e : ws.drop n = (ws.drop (trimLen ws)).drop (n - trimLen ws) := by
    rw [List.drop_drop]; congr 1; omega
  rw [e]; exact val_drop_zero W _ _ (val_drop_trimLen W ws)

theorem val_take_succ (W : Nat) (l : List Nat) (n : Nat) (h : n < l.length) :
    val W (l.take (n + 1)) = val W (l.take n) + 2 ^ (W * n) * l.getD n 0 := by
  rw [take_succ_getD l n h, val_append, length_take_of_le (Nat.le_of_lt h), val_cons, val_nil,
    Nat.mul_zero, Nat.add_zero]

/-- if word `n` of `x` exceeds word `n` of `y`, the first `n + 1` words of `x` exceed those of
    `y`, so subtracting these prefixes leaves no borrow -/
theorem subSameLen_take_succ (W : Nat) (x y : List Nat) (hx : IsWords W x) (hy : IsWords W y)
    (n : Nat) (hnx : n < x.length) (hny : n < y.length) (hgt : y.getD n 0 < x.getD n 0) :
    val W (y.take (n + 1)) < val W (x.take (n + 1)) ∧
    (subSameLen W (x.take (n + 1)) (y.take (n + 1)) 0).1.length = n + 1 ∧
    IsWords W (subSameLen W (x.take (n + 1)) (y.take (n + 1)) 0).1 ∧
    val W (subSameLen W (x.take (n + 1)) (y.take (n + 1)) 0).1 + val W (y.take (n + 1))
      = val W (x.take (n + 1)) := by
  have hyn := val_lt W (y.take n) (hy.take n)
  rw [length_take_of_le (Nat.le_of_lt hny)] at hyn
  have h1 := Nat.mul_le_mul_left (2 ^ (W * n)) (Nat.succ_le_of_lt hgt)
  rw [Nat.mul_succ] at h1
  have hlt : val W (y.take (n + 1)) < val W (x.take (n + 1)) := by
    rw [val_take_succ W x n hnx, val_take_succ W y n hny]; omega
  have hxl : (x.take (n + 1)).length = n + 1 := length_take_of_le hnx
  have hyl : (y.take (n + 1)).length = n + 1 := length_take_of_le hny
  obtain ⟨s1, s2, s3, _⟩ := subSameLen_spec W _ _ 0 (hx.take (n + 1)) (hy.take (n + 1))
    (hxl.trans hyl.symm) (Nat.zero_le 1)
  rw [Nat.add_zero] at s1
  obtain ⟨⟨l, w, v⟩, _⟩ := Holds.sub ⟨hxl, hx.take _, rfl⟩ s2 s3 s1 (Nat.le_of_lt hlt)
  exact ⟨hlt, l, w, by omega⟩

theorem subWithSignEq_spec (W : Nat) (n : Nat) : ∀ (lhs rhs : List Nat), IsWords W lhs →
    IsWords W rhs → n ≤ lhs.length → n ≤ rhs.length →
    (subWithSignEq W lhs rhs n).2.length = lhs.length ∧ IsWords W (subWithSignEq W lhs rhs n).2 ∧
    ((subWithSignEq W lhs rhs n).1 = false →
      val W (rhs.take n) ≤ val W (lhs.take n) ∧
      val W (subWithSignEq W lhs rhs n).2 + val W (rhs.take n) = val W lhs) ∧
    ((subWithSignEq W lhs rhs n).1 = true →
      val W (lhs.take n) < val W (rhs.take n) ∧
      val W (subWithSignEq W lhs rhs n).2 + val W (lhs.take n)
        = val W (rhs.take n) + 2 ^ (W * n) * val W (lhs.drop n)) := by
  induction n with
  | zero =>
    intro lhs rhs hl hr _ _
    simp [subWithSignEq, hl]
  | succ n ih =>
    intro lhs rhs hl hr hnl hnr
    have hsplit := val_take_add_drop W lhs (n + 1)
    rw [length_take_of_le hnl] at hsplit
    have hdl : (lhs.drop (n + 1)).length = lhs.length - (n + 1) := List.length_drop ..
    simp only [subWithSignEq]
    by_cases hab : lhs.getD n 0 > rhs.getD n 0
    · obtain ⟨hlt, s2, s3, s1⟩ := subSameLen_take_succ W lhs rhs hl hr n hnl hnr hab
      simp only [hab, if_true]
      refine ⟨by rw [List.length_append, s2, hdl]; omega, s3.append (hl.drop _),
        fun _ => ⟨Nat.le_of_lt hlt, ?_⟩, fun h => Bool.noConfusion h⟩
      rw [val_append, s2, hsplit, ← s1]
      exact Nat.add_right_comm ..
    · by_cases hba : lhs.getD n 0 < rhs.getD n 0
      · obtain ⟨hlt, s2, s3, s1⟩ := subSameLen_take_succ W rhs lhs hr hl n hnr hnl hba
        simp only [hab, hba, if_false, if_true]
        rw [subSameLenSwap_eq W _ _ 0
          ((length_take_of_le hnr).trans (length_take_of_le hnl).symm)]
        refine ⟨by rw [List.length_append, s2, hdl]; omega, s3.append (hl.drop _),
          fun h => Bool.noConfusion h, fun _ => ⟨hlt, ?_⟩⟩
        rw [val_append, s2, ← s1]
        exact Nat.add_right_comm ..
      · -- equal top words: zero the word and compare the rest
        have heq : lhs.getD n 0 = rhs.getD n 0 := by omega
        obtain ⟨hst, hsd, hld⟩ := set_take_drop lhs n 0 hnl
        obtain ⟨i1, i2, i3, i4⟩ := ih (lhs.set n 0) rhs (hl.set n 0 (Nat.two_pow_pos W)) hr
          (by rw [List.length_set]; exact Nat.le_of_lt hnl) (Nat.le_of_lt hnr)
        have hv' := val_take_add_drop W (lhs.set n 0) n
        have hv := val_take_add_drop W lhs n
        rw [hst, length_take_of_le (Nat.le_of_lt hnl), hsd, val_cons, Nat.zero_add] at hv'
        rw [length_take_of_le (Nat.le_of_lt hnl), hld, val_cons, Nat.mul_add] at hv
        rw [hst, hsd, val_cons, Nat.zero_add] at i4
        rw [hst] at i3
        rw [List.length_set] at i1
        simp only [hab, hba, if_false]
        rw [val_take_succ W lhs n hnl, val_take_succ W rhs n hnr, ← heq, pow_mul_succ,
          Nat.mul_assoc, Nat.mul_left_comm (2 ^ W)]
        refine ⟨i1, i2, fun h => ?_, fun h => ?_⟩
        · obtain ⟨j1, j2⟩ := i3 h
          exact ⟨by omega, by omega⟩
        · obtain ⟨j1, j2⟩ := i4 h
          exact ⟨by omega, by omega⟩

/-- with fewer significant words on the left, `sub_in_place_with_sign` is `sub_in_place` of the
    trimmed `lhs` from the trimmed `rhs` (low words by `sub_same_len_in_place_swap`, the borrow run
    into the middle words of `rhs`), written over `lhs` -/
theorem subInPlaceWithSign_lt (W : Nat) (lhs rhs : List Nat) (hlt : trimLen lhs < trimLen rhs) :
    subInPlaceWithSign W lhs rhs = (true,
      (subInPlace W (rhs.take (trimLen rhs)) (lhs.take (trimLen lhs))).1 ++ lhs.drop (trimLen rhs)) := by
  have h1 : ¬ trimLen lhs > trimLen rhs := by omega
  have hl := length_take_of_le (trimLen_le lhs)
  have hr : (rhs.take (trimLen lhs)).length = trimLen lhs :=
    length_take_of_le (Nat.le_trans (Nat.le_of_lt hlt) (trimLen_le rhs))
  simp only [subInPlaceWithSign, subInPlace, h1, hlt, if_false, if_true, hl, List.take_take,
    Nat.min_eq_left (Nat.le_of_lt hlt), subSameLenSwap_eq W _ _ 0 (hr.trans hl.symm)]
  split <;> rfl

/-- `sub_in_place_with_sign`: same length, still words (equal top words are zeroed, not dropped),
    magnitude of the difference, and the sign is negative exactly when `lhs < rhs` -/
theorem subInPlaceWithSign_spec (W : Nat) (lhs rhs : List Nat) (hl : IsWords W lhs)
    (hr : IsWords W rhs) (hlen : rhs.length ≤ lhs.length) :
    (subInPlaceWithSign W lhs rhs).2.length = lhs.length ∧
    IsWords W (subInPlaceWithSign W lhs rhs).2 ∧
    ((subInPlaceWithSign W lhs rhs).1 = false →
      val W (subInPlaceWithSign W lhs rhs).2 + val W rhs = val W lhs) ∧
    ((subInPlaceWithSign W lhs rhs).1 = true →
      val W (subInPlaceWithSign W lhs rhs).2 + val W lhs = val W rhs ∧ val W lhs < val W rhs) := by
  have hll := trimLen_le lhs
  have hrl := trimLen_le rhs
  have hvl : val W (lhs.take (trimLen lhs)) = val W lhs := val_popZeros W lhs
  have hvr : val W (rhs.take (trimLen rhs)) = val W rhs := val_popZeros W rhs
  have hl_l : (lhs.take (trimLen lhs)).length = trimLen lhs := length_take_of_le hll
  have hr_r : (rhs.take (trimLen rhs)).length = trimLen rhs := length_take_of_le hrl
  by_cases hgt : trimLen lhs > trimLen rhs
  · -- lhs has more significant words: plain subtraction, no borrow
    simp only [subInPlaceWithSign, hgt, if_true]
    have hne : lhs.take (trimLen lhs) ≠ [] := by
      intro e; have := congrArg List.length e; rw [hl_l] at this; simp at this; omega
    have hlt : val W (rhs.take (trimLen rhs)) < val W (lhs.take (trimLen lhs)) :=
      val_lt_of_length_lt W _ _ (hr.take _) hne (popZeros_getLast lhs) (by rw [hl_l, hr_r]; omega)
    have h := subInPlace_holds ⟨hl_l, hl.take _, hvl⟩ ⟨hr_r, hr.take _, hvr⟩ (Nat.le_of_lt hgt)
      (by omega)
    generalize subInPlace W (lhs.take (trimLen lhs)) (rhs.take (trimLen rhs)) = res at h
    obtain ⟨lo, c⟩ := res
    obtain ⟨s2, s3, s1⟩ := h
    simp only at s1 s2 s3 ⊢
    have hd := val_drop_trimLen W lhs
    refine ⟨?_, s3.append (hl.drop _), ?_, by simp⟩
    · rw [List.length_append, s2, List.length_drop]; omega
    · intro _
      rw [val_append, hd]; omega
  · by_cases hlt : trimLen lhs < trimLen rhs
    · -- rhs has more significant words: the mirror image
      rw [subInPlaceWithSign_lt W lhs rhs hlt]
      have hne : rhs.take (trimLen rhs) ≠ [] := by
        intro e; have := congrArg List.length e; rw [hr_r] at this; simp at this; omega
      have hlt' : val W (lhs.take (trimLen lhs)) < val W (rhs.take (trimLen rhs)) :=
        val_lt_of_length_lt W _ _ (hl.take _) hne (popZeros_getLast rhs) (by rw [hl_l, hr_r]; omega)
      obtain ⟨s2, s3, s1⟩ := subInPlace_holds ⟨hr_r, hr.take _, hvr⟩ ⟨hl_l, hl.take _, hvl⟩
        (Nat.le_of_lt hlt) (by omega)
      have hd : val W (lhs.drop (trimLen rhs)) = 0 := val_drop_of_trimLen_le W lhs _ (by omega)
      refine ⟨?_, s3.append (hl.drop _), fun h => Bool.noConfusion h, fun _ => ⟨?_, by omega⟩⟩
      · show List.length (_ ++ _) = _
        rw [List.length_append, s2, List.length_drop]; omega
      · show val W (_ ++ _) + _ = _
        rw [val_append, hd]; omega
    · -- same number of significant words: compare from the top
      have heq : trimLen lhs = trimLen rhs := by omega
      simp only [subInPlaceWithSign, hgt, hlt, if_false]
      have hs := subWithSignEq_spec W (trimLen lhs) lhs rhs hl hr hll (by omega)
      have hvr' : val W (rhs.take (trimLen lhs)) = val W rhs := by rw [heq]; exact hvr
      have hd := val_drop_trimLen W lhs
      rw [hvl, hvr', hd] at hs
      generalize subWithSignEq W lhs rhs (trimLen lhs) = res at hs
      obtain ⟨neg, r⟩ := res
      obtain ⟨s1, s2, s3, s4⟩ := hs
      simp only at s1 s2 s3 s4 ⊢
      refine ⟨s1, s2, fun h => (s3 h).2, fun h => ⟨?_, (s4 h).1⟩⟩
      have := (s4 h).2
      simpa using this

-- ------------------------------------------------------------------ natWords / ofNat

theorem natWords_zero (W : Nat) : natWords W 0 = [] := by
  rw [natWords]; simp

theorem natWords_spec (W : Nat) (hW : 1 ≤ W) (n : Nat) :
    val W (natWords W n) = n ∧ IsWords W (natWords W n) ∧ (natWords W n).getLast? ≠ some 0 := by
  induction n using Nat.strongRecOn with
  | _ n ih =>
    by_cases h0 : n = 0
    · subst h0; rw [natWords_zero]; simp [IsWords.nil]
    · have hW0 : ¬ W = 0 := by omega
      have hp : 0 < 2 ^ W := Nat.two_pow_pos W
      have hlt : n / 2 ^ W < n :=
        Nat.div_lt_self (Nat.pos_of_ne_zero h0) (Nat.one_lt_two_pow hW0)
      have hunf : natWords W n = n % 2 ^ W :: natWords W (n / 2 ^ W) := by
        rw [natWords]; simp [h0, hW0]
      obtain ⟨i1, i2, i3⟩ := ih (n / 2 ^ W) hlt
      rw [hunf]
      refine ⟨?_, IsWords.cons (Nat.mod_lt _ hp) i2, ?_⟩
      · rw [val_cons, i1]; exact Nat.mod_add_div n (2 ^ W)
      · by_cases hq : n / 2 ^ W = 0
        · rw [hq, natWords_zero]
          have hm : n % 2 ^ W ≠ 0 := by
            have := Nat.mod_add_div n (2 ^ W); rw [hq] at this; omega
          simpa using hm
        · have hne : natWords W (n / 2 ^ W) ≠ [] := by
            have hlt2 : n / 2 ^ W / 2 ^ W < n / 2 ^ W :=
              Nat.div_lt_self (Nat.pos_of_ne_zero hq) (Nat.one_lt_two_pow hW0)
            rw [natWords]; simp [hq, hW0]
          rw [List.getLast?_cons_of_ne_nil hne]; exact i3

theorem ofNat_value (W : Nat) (hW : 1 ≤ W) (n : Nat) : (ofNat W n).value W = n := by
  unfold ofNat
  split
  · rfl
  · exact (natWords_spec W hW n).1

theorem ofNat_canon (W : Nat) (hW : 1 ≤ W) (n : Nat) : (ofNat W n).Canon W := by
  unfold ofNat
  split
  · assumption
  · rename_i h
    obtain ⟨h1, h2, h3⟩ := natWords_spec W hW n
    refine ⟨?_, h2, h3⟩
    have hlt := val_lt W _ h2
    rw [h1] at hlt
    apply Nat.le_of_not_lt
    intro hlen
    have : 2 ^ (W * (natWords W n).length) ≤ 2 ^ (2 * W) :=
      Nat.pow_le_pow_right (by omega)
        (by rw [Nat.mul_comm 2 W]; exact Nat.mul_le_mul_left _ (by omega))
    omega

-- ------------------------------------------------------------------ signs: with_sign / neg / of_int

/-- well-formed signed value: canonical magnitude and never "negative zero" -/
def SRepr.WF (W : Nat) (r : SRepr) : Prop := r.mag.Canon W ∧ (r.neg = true → r.mag.value W ≠ 0)

theorem TRepr.isZero_iff (m : TRepr) : m.isZero = true ↔ m = .small 0 := by
  cases m with
  | small d =>
    cases d with
    | zero => simp [TRepr.isZero]
    | succ k => simp [TRepr.isZero]
  | large ws => simp [TRepr.isZero]

theorem TRepr.value_ne_zero_of_not_isZero {W : Nat} {m : TRepr} (hc : m.Canon W)
    (hz : ¬ m.isZero = true) : m.value W ≠ 0 := by
  cases m with
  | small d =>
    intro h
    simp only [TRepr.value_small] at h
    subst h
    exact hz ((TRepr.isZero_iff _).mpr rfl)
  | large ws =>
    have := hc.large_ge
    have hp : 0 < 2 ^ (2 * W) := Nat.two_pow_pos _
    simp only [TRepr.value_large]; omega

theorem withSign_mag (m : TRepr) (neg : Bool) : (withSign m neg).mag = m := by
  unfold withSign; split <;> rfl

theorem withSign_value (W : Nat) (m : TRepr) (neg : Bool) :
    (withSign m neg).value W = if neg then -(m.value W : Int) else (m.value W : Int) := by
  unfold withSign
  split
  · rename_i hz
    have hm := (TRepr.isZero_iff m).mp hz
    subst hm
    cases neg <;> simp [SRepr.value]
  · cases neg <;> simp [SRepr.value]

theorem withSign_wf (W : Nat) (m : TRepr) (neg : Bool) (hc : m.Canon W) :
    (withSign m neg).WF W := by
  unfold withSign
  split
  · exact ⟨hc, by simp⟩
  · rename_i hz
    exact ⟨hc, fun _ => TRepr.value_ne_zero_of_not_isZero hc hz⟩

theorem SRepr.negate_value (W : Nat) (r : SRepr) : r.negate.value W = - r.value W := by
  unfold SRepr.negate
  rw [withSign_value]
  unfold SRepr.value
  cases r.neg <;> simp

theorem SRepr.negate_wf (W : Nat) (r : SRepr) (h : r.WF W) : r.negate.WF W :=
  withSign_wf W r.mag _ h.1

-- ------------------------------------------------------------------ sub_signed

theorem subDwordSigned_spec (W : Nat) (a b : Nat) (ha : a < 2 ^ (2 * W)) (hb : b < 2 ^ (2 * W)) :
    (subDwordSigned a b).value W = (a : Int) - b ∧ (subDwordSigned a b).WF W := by
  unfold subDwordSigned
  split
  · rename_i h
    refine ⟨?_, withSign_wf W _ _ (show a - b < 2 ^ (2 * W) by omega)⟩
    rw [withSign_value]; simp only [TRepr.value_small]; simp <;> omega
  · rename_i h
    refine ⟨?_, withSign_wf W _ _ (show b - a < 2 ^ (2 * W) by omega)⟩
    rw [withSign_value]; simp only [TRepr.value_small]; simp <;> omega

theorem subLargeSigned_spec (W : Nat) (lhs rhs : List Nat) (hl : (TRepr.large lhs).Canon W)
    (hr : (TRepr.large rhs).Canon W) :
    (subLargeSigned W lhs rhs).value W = (val W lhs : Int) - val W rhs ∧
    (subLargeSigned W lhs rhs).WF W := by
  unfold subLargeSigned
  split
  · rename_i hlen
    have hs := subInPlaceWithSign_spec W lhs rhs hl.large_words hr.large_words hlen
    generalize subInPlaceWithSign W lhs rhs = res at hs
    obtain ⟨neg, r⟩ := res
    obtain ⟨s1, s2, s3, s4⟩ := hs
    simp only at s1 s2 s3 s4 ⊢
    refine ⟨?_, withSign_wf W _ _ (fromBuffer_canon W r s2)⟩
    rw [withSign_value, fromBuffer_value]
    cases neg with
    | false => have := s3 rfl; simp <;> omega
    | true => have := (s4 rfl).1; simp <;> omega
  · rename_i hlen
    have hlt : val W lhs < val W rhs :=
      val_lt_of_length_lt W lhs rhs hl.large_words hr.large_ne_nil hr.2.2 (by omega)
    obtain ⟨m, hm1, hm2, hm3⟩ := subLarge_ok W rhs lhs hr.large_words hl.large_words (by omega)
      (by omega)
    rw [subLargeRefVal_eq, hm1]
    simp only
    refine ⟨?_, withSign_wf W _ _ hm3⟩
    rw [withSign_value]; simp <;> omega

theorem TRepr.subSigned_spec (W : Nat) (a b : TRepr) (form : Nat) (ha : a.Canon W)
    (hb : b.Canon W) :
    (a.subSigned W b form).value W = (a.value W : Int) - b.value W ∧
    (a.subSigned W b form).WF W := by
  cases a with
  | small x =>
    cases b with
    | small y => exact subDwordSigned_spec W x y ha hb
    | large ws =>
      have hs := subLargeDword_spec W ws x hb ha
      simp only [TRepr.subSigned, TRepr.value_small, TRepr.value_large]
      refine ⟨?_, SRepr.negate_wf W _ (withSign_wf W _ _ hs.2.2)⟩
      rw [SRepr.negate_value, withSign_value]
      have := hs.2.1
      simp <;> omega
  | large ws =>
    cases b with
    | small y =>
      have hs := subLargeDword_spec W ws y ha hb
      simp only [TRepr.subSigned, TRepr.value_small, TRepr.value_large]
      refine ⟨?_, withSign_wf W _ _ hs.2.2⟩
      rw [withSign_value]
      have := hs.2.1
      simp <;> omega
    | large w1 =>
      have h01 := subLargeSigned_spec W ws w1 ha hb
      have h10 := subLargeSigned_spec W w1 ws hb ha
      have hn : (subLargeSigned W w1 ws).negate.value W = (val W ws : Int) - val W w1 ∧
          (subLargeSigned W w1 ws).negate.WF W := by
        refine ⟨?_, SRepr.negate_wf W _ h10.2⟩
        rw [SRepr.negate_value, h10.1]; omega
      simp only [TRepr.subSigned, TRepr.value_large]
      split
      · exact hn
      · split
        · exact h01
        · split
          · exact h01
          · exact hn

end Dashu.Model
