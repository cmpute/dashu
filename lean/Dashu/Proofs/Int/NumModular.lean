import Dashu.Model.Int.NumModular
import Dashu.Proofs.Int.Word
import Mathlib.Tactic.Ring
import Mathlib.Tactic.Linarith
import Mathlib.Tactic.LinearCombination
/-
  The mirrored `num-modular` dividers (Möller–Granlund) equal floor division under the crate's
  preconditions, for every word size `W ≥ 1`.
-/
namespace Dashu.Model.NumModular

-- ------------------------------------------------------------------ wrapping arithmetic helpers

theorem mod_of_eq (M Y ρ j1 j2 : Nat) (hρ : ρ < M) (h : Y + j1 * M = ρ + j2 * M) : Y % M = ρ := by
  rw [← Nat.add_mul_mod_self_right Y j1 M, h, Nat.add_mul_mod_self_right, Nat.mod_eq_of_lt hρ]

/-- the model's `wrapping_sub`, `(u + B − v % B) % B`, is congruent to `u − v` modulo `B` -/
theorem wrap_sub_exists (B u v : Nat) (hu : u < B) :
    ∃ j, v + (u + B - v % B) % B = u + j * B ∧ (u + B - v % B) % B < B := by
  have hB : 0 < B := by omega
  have hm := Nat.mod_lt v hB
  have hdm := Nat.div_add_mod v B
  by_cases hum : v % B ≤ u
  · refine ⟨v / B, ?_, Nat.mod_lt _ hB⟩
    rw [show u + B - v % B = B + (u - v % B) by omega, Nat.add_mod_left,
      Nat.mod_eq_of_lt (by omega), Nat.mul_comm]
    omega
  · refine ⟨v / B + 1, ?_, Nat.mod_lt _ hB⟩
    rw [Nat.mod_eq_of_lt (by omega), Nat.add_mul, Nat.one_mul, Nat.mul_comm]
    omega

/-- wrapping decrement of a wrapping increment -/
theorem wrap_dec (B q : Nat) (hq : q < B) : ((q + 1) % B + B - 1) % B = q := by
  have hdm := Nat.div_add_mod (q + 1) B
  apply mod_of_eq B _ q ((q + 1) / B) 1 hq
  rw [Nat.mul_comm]
  omega

-- ------------------------------------------------------------------ reciprocal of a word

/-- `invert_word`: the quotient `(B²−1)/d` of a normalised word has high word 1 (the crate's
    `debug_assert!(_hi == 1)`), so `m = ⌊(B²−1)/d⌋ − B` -/
theorem invertWord_spec (W d : Nat) (hW : 1 ≤ W) (hd1 : 2 ^ W ≤ 2 * d) (hd2 : d < 2 ^ W) :
    invertWord W d + 2 ^ W = (2 ^ (2 * W) - 1) / d ∧ invertWord W d < 2 ^ W ∧
    ((2 ^ (2 * W) - 1) / d) / 2 ^ W = 1 := by
  have hB2 : 2 ≤ 2 ^ W := Nat.one_lt_two_pow (by omega)
  have hdpos : 0 < d := by omega
  simp only [invertWord]
  rw [two_pow_two_mul]
  generalize 2 ^ W = B at *
  have hBB : B * B ≥ 1 := Nat.mul_pos (by omega) (by omega)
  have hlo : B ≤ (B * B - 1) / d := by
    rw [Nat.le_div_iff_mul_le hdpos]
    have h1 : B * (d + 1) ≤ B * B := Nat.mul_le_mul_left _ hd2
    rw [Nat.mul_add] at h1
    omega
  have hhi : (B * B - 1) / d < 2 * B := by
    rw [Nat.div_lt_iff_lt_mul hdpos, Nat.mul_assoc, Nat.mul_comm B d, ← Nat.mul_assoc]
    have h1 : B * B ≤ 2 * d * B := Nat.mul_le_mul_right _ hd1
    omega
  have hdiv : (B * B - 1) / d / B = 1 := by
    apply Nat.div_eq_of_lt_le <;> omega
  have hdm := Nat.div_add_mod ((B * B - 1) / d) B
  rw [hdiv] at hdm
  exact ⟨by omega, Nat.mod_lt _ (by omega), hdiv⟩

/-- the defining property of the reciprocal: `(m + B)·d + k = B²` with `1 ≤ k ≤ d` -/
theorem invertWord_key (W d : Nat) (hW : 1 ≤ W) (hd1 : 2 ^ W ≤ 2 * d) (hd2 : d < 2 ^ W) :
    ∃ k, (invertWord W d + 2 ^ W) * d + k = 2 ^ W * 2 ^ W ∧ 1 ≤ k ∧ k ≤ d := by
  obtain ⟨h1, _, _⟩ := invertWord_spec W d hW hd1 hd2
  have hdpos : 0 < d := by have := Nat.two_pow_pos W; omega
  have hdm := Nat.div_add_mod (2 ^ (2 * W) - 1) d
  have hml := Nat.mod_lt (2 ^ (2 * W) - 1) hdpos
  have hpos : 1 ≤ 2 ^ (2 * W) := Nat.two_pow_pos _
  rw [← h1, Nat.mul_comm] at hdm
  refine ⟨(2 ^ (2 * W) - 1) % d + 1, ?_, by omega, by omega⟩
  rw [← two_pow_two_mul]
  omega

-- ------------------------------------------------------------------ the correction step shared by
-- Algorithms 4 and 5

theorem div_mod_of_eq' {a d q r : Nat} (hd : 0 < d) (h : q * d + r = a) (hr : r < d) :
    (q, r) = (a / d, a % d) := by
  have : a / d = q ∧ a % d = r := (Nat.div_mod_unique hd).mpr ⟨by rw [Nat.mul_comm]; omega, hr⟩
  rw [this.1, this.2]

/-- the crate's "unlikely" last adjustment -/
theorem fix_step {d a q r : Nat} (hd : 0 < d) (h : q * d + r = a) (hr : r < 2 * d) :
    (if r ≥ d then (q + 1, r - d) else (q, r)) = (a / d, a % d) := by
  by_cases hge : r ≥ d
  · rw [if_pos hge]
    exact div_mod_of_eq' hd (by rw [Nat.add_mul]; omega) (by omega)
  · rw [if_neg hge]
    exact div_mod_of_eq' hd h (by omega)

/-- candidate not too large, remainder `ρ = a − q̃·d`: if `ρ` reaches the threshold `θ` then it is
    below `e = M − d`, so adding `d` does not wrap -/
theorem mg_under (M d e ρ P θ : Nat) (he : e + d = M) (hT : M * ρ + M * d = P + θ * d)
    (hP : P < e * e + M * d) (hθ : θ ≤ ρ) : ρ < e := by
  by_contra hcon
  have h1 : θ * d ≤ ρ * d := Nat.mul_le_mul_right d hθ
  have h2 : e * e ≤ ρ * e := Nat.mul_le_mul_right e (Nat.le_of_not_lt hcon)
  have h3 : M * ρ = ρ * e + ρ * d := by rw [← he]; ring
  omega

/-- candidate one too large, by `δ = q̃·d − a`: then `δ ≤ d`, and the wrapped remainder `M − δ`
    exceeds the threshold `θ` -/
theorem mg_over (M d e δ P θ : Nat) (he : e + d = M) (he0 : 0 < e) (hθ : θ < M)
    (hT : M * d = M * δ + (P + θ * d)) : δ ≤ d ∧ θ + δ < M := by
  have hM : 0 < M := Nat.zero_lt_of_lt hθ
  refine ⟨Nat.le_of_mul_le_mul_left (by omega : M * δ ≤ M * d) hM, ?_⟩
  -- `M·M = M·e + (M·δ + P + θ·d)` exceeds `M·(θ + δ) = θ·e + θ·d + M·δ`
  have h1 : θ * e < M * e := Nat.mul_lt_mul_of_pos_right hθ he0
  have h2 : M * θ = θ * e + θ * d := by rw [← he]; ring
  have h3 : M * M = M * e + M * d := by rw [← Nat.mul_add, he]
  apply Nat.lt_of_mul_lt_mul_left (a := M)
  rw [Nat.mul_add]
  omega

/-- The Möller–Granlund correction, for a modulus `M` (`B` in Algorithm 4, `B²` in Algorithm 5).
    `q1 + 1` is the candidate quotient, `r` the candidate remainder `a − (q1+1)·d` reduced mod `M`,
    `θ` the threshold the algorithm tests `r` against (it comes from the low word `q0` of the
    product with the reciprocal), and `M·(a + d) = M·(q1+1)·d + P + θ·d` with `P < e² + M·d`.
    Either the candidate is one too large, and then `r > θ` (`mg_over`), or `r` is the true
    difference, and then `r ≥ θ` forces `r < e` (`mg_under`).  So `(q1, r + d)` when `r ≥ θ`,
    `(q1 + 1, r)` when `r ≤ θ`, followed by the last adjustment, is quotient and remainder. -/
theorem mg_correct (B M d e a q1 θ P r j1 j2 : Nat) (he : e + d = M) (he0 : 0 < e) (hed : e ≤ d)
    (hθ : θ < M) (hid : M * a + M * d = M * ((q1 + 1) * d) + (P + θ * d))
    (hP : P < e * e + M * d) (hr : r < M) (hcong : (q1 + 1) * d + r + j1 * M = a + j2 * M)
    (hab : a < B * d) :
    (θ ≤ r → (if (r + d) % M ≥ d then (q1 + 1, (r + d) % M - d) else (q1, (r + d) % M))
        = (a / d, a % d)) ∧
    (r ≤ θ → (if r ≥ d then ((q1 + 1) % B + 1, r - d) else ((q1 + 1) % B, r)) = (a / d, a % d)) := by
  have hd : 0 < d := Nat.lt_of_lt_of_le he0 hed
  rw [← Nat.mod_eq_of_lt hr]
  rcases Nat.lt_or_ge a ((q1 + 1) * d) with hcase | hcase
  · obtain ⟨δ, hδ⟩ := Nat.exists_eq_add_of_le (Nat.le_of_lt hcase)
    obtain ⟨hδd, hθδ⟩ := mg_over M d e δ P θ he he0 hθ (by rw [hδ, Nat.mul_add] at hid; omega)
    rw [mod_of_eq M r (M - δ) (j1 + 1) j2 (by omega) (by rw [Nat.add_mul, Nat.one_mul]; omega)]
    refine ⟨fun _ => ?_, fun h => by omega⟩
    rw [show M - δ + d = M + (d - δ) by omega, Nat.add_mod_left, Nat.mod_eq_of_lt (by omega)]
    exact fix_step hd (by rw [Nat.add_mul] at hδ; omega) (by omega)
  · obtain ⟨ρ, hρ⟩ := Nat.exists_eq_add_of_le hcase
    have hT : M * ρ + M * d = P + θ * d := by rw [hρ, Nat.mul_add] at hid; omega
    have hR4 : θ ≤ ρ → ρ < e := mg_under M d e ρ P θ he hT hP
    rw [mod_of_eq M r ρ j1 j2 (by omega) (by omega),
      Nat.mod_eq_of_lt (Nat.lt_of_mul_lt_mul_right (a := d) (by omega) : q1 + 1 < B)]
    refine ⟨fun h => ?_, fun _ => fix_step hd hρ.symm (by omega)⟩
    have := hR4 h
    rw [Nat.mod_eq_of_lt (by omega)]
    exact fix_step hd (by rw [Nat.add_mul] at hρ; omega) (by omega)

-- ------------------------------------------------------------------ 2-by-1 (Algorithm 4)

/-- the arithmetic core of Algorithm 4: with `(v+B)d + k = B²`, `s = (v+B)·a_hi + a_lo
    = q1·B + q0`, the candidate `q̃ = q1 + 1` satisfies `B·a + B·d = B·q̃·d + T`,
    `T = a_hi·k + a_lo·(B−d) + q0·d` -/
theorem mg1_id (B d v k aHi aLo q1 q0 e : Nat) (hk : (v + B) * d + k = B * B)
    (hs : (v + B) * aHi + aLo = q1 * B + q0) (he : e + d = B) :
    B * (aHi * B + aLo) + B * d = B * ((q1 + 1) * d) + (aHi * k + aLo * e + q0 * d) := by
  subst he
  linear_combination aHi * hk.symm + d * hs

theorem mg1_T_bound (B d e k aHi aLo : Nat) (he : e + d = B) (hk2 : k ≤ d) (ha : aHi + 1 ≤ d)
    (hlo : aLo + 1 ≤ B) : aHi * k + aLo * e < e * e + B * d := by
  subst he
  have hB : 0 < e + d := by omega
  linear_combination aHi * hk2 + d * ha + e * hlo + hB

/-- Algorithm 4 on abstract words: all the wrapping steps, given the reciprocal identity -/
theorem div2by1_core (B d v k a aHi aLo q1 q0 : Nat) (hd1 : B ≤ 2 * d) (hd2 : d < B)
    (hk : (v + B) * d + k = B * B) (hk2 : k ≤ d) (ha : aHi < d) (hlo : aLo < B)
    (haeq : a = aHi * B + aLo) (hs : (v + B) * aHi + aLo = q1 * B + q0) (hq0 : q0 < B) (hq1 : q1 < B) :
    (let q := (q1 + 1) % B
     let r := (aLo + B - (q * d) % B) % B
     let q' := if r > q0 then (q + B - 1) % B else q
     let r' := if r > q0 then (r + d) % B else r
     (if r' ≥ d then (q' + 1, r' - d) else (q', r')) = (a / d, a % d)) := by
  obtain ⟨e, he⟩ : ∃ e, e + d = B := ⟨B - d, by omega⟩
  have hid := mg1_id B d v k aHi aLo q1 q0 e hk hs he
  rw [← haeq] at hid
  have hP := mg1_T_bound B d e k aHi aLo he hk2 ha hlo
  have hab : a < B * d := by
    have : B * (aHi + 1) ≤ B * d := Nat.mul_le_mul_left B ha
    rw [Nat.mul_add, Nat.mul_comm B aHi] at this; omega
  -- the candidate remainder is `a − (q1+1)·d` modulo `B`
  obtain ⟨j, hj, hr⟩ := wrap_sub_exists B aLo ((q1 + 1) * d) hlo
  simp only [Nat.mod_mul_mod, wrap_dec B q1 hq1]
  generalize (aLo + B - (q1 + 1) * d % B) % B = r at *
  have key := mg_correct B B d e a q1 q0 (aHi * k + aLo * e) r aHi j he (by omega) (by omega) hq0
    hid hP hr (by omega) hab
  by_cases hc : r > q0
  · simp only [hc, if_true]
    exact key.1 (Nat.le_of_lt hc)
  · simp only [hc, if_false]
    exact key.2 (Nat.le_of_not_lt hc)

/-- `div_rem_2by1` (Möller–Granlund Algorithm 4) returns the floor quotient and remainder when
    the divisor is normalised, `m` is its reciprocal and the high word of `a` is below the divisor
    (the crate's `debug_assert!(a_hi < self.divisor)`) -/
theorem div2by1_spec (W d a : Nat) (hW : 1 ≤ W) (hd1 : 2 ^ W ≤ 2 * d) (hd2 : d < 2 ^ W)
    (ha : a / 2 ^ W < d) : div2by1 W d (invertWord W d) a = (a / d, a % d) := by
  obtain ⟨k, hk, _, hk2⟩ := invertWord_key W d hW hd1 hd2
  have hBpos : 0 < 2 ^ W := Nat.two_pow_pos W
  have hdm := Nat.div_add_mod a (2 ^ W)
  have hlo := Nat.mod_lt a hBpos
  simp only [div2by1]
  generalize invertWord W d = v at *
  generalize 2 ^ W = B at *
  have hs0 : v * (a / B) + a = (v + B) * (a / B) + a % B := by rw [Nat.add_mul]; omega
  have hslt : (v + B) * (a / B) + a % B < B * B := by
    have : (v + B) * (a / B + 1) ≤ (v + B) * d := Nat.mul_le_mul_left (v + B) ha
    rw [Nat.mul_add, Nat.mul_one] at this; omega
  rw [hs0, Nat.mod_eq_of_lt ((Nat.div_lt_iff_lt_mul hBpos).mpr hslt)]
  exact div2by1_core B d v k a (a / B) (a % B) _ _ hd1 hd2 hk hk2 ha hlo
    (by rw [Nat.mul_comm]; exact hdm.symm) (Nat.div_add_mod' _ B).symm (Nat.mod_lt _ hBpos)
    ((Nat.div_lt_iff_lt_mul hBpos).mpr hslt)

-- ------------------------------------------------------------------ reciprocal of a double word (Algorithm 6)

/-- one decrement of a reciprocal candidate `v`: while `(v + B)·d + c` still reaches `B·N`
    (`d < N`, `c < B`) the candidate is positive, and decrementing it takes off one `d` -/
theorem dec_step (B N d c v : Nat) (hd : d < N) (hc : c < B) (h : B * N ≤ (v + B) * d + c) :
    1 ≤ v ∧ (v - 1 + B) * d + d = (v + B) * d := by
  have hv : 1 ≤ v := by
    by_contra hcon
    obtain rfl : v = 0 := by omega
    have : B * (d + 1) ≤ B * N := Nat.mul_le_mul_left B hd
    rw [Nat.mul_add] at this
    rw [Nat.zero_add] at h; omega
  obtain ⟨w, rfl⟩ : ∃ w, v = w + 1 := ⟨v - 1, by omega⟩
  exact ⟨hv, by rw [Nat.add_sub_cancel]; ring⟩

/-- phase 1 of Algorithm 6: afterwards `T = (v+B)·d1 + d0 ∈ [B² − d1, B²)` and `p = T − (B² − B)` -/
theorem invDwPhase1_spec (B d0 d1 v0 k0 : Nat) (hB : 2 ≤ B) (hd0 : d0 < B) (hd1 : d1 < B)
    (hn : B ≤ 2 * d1) (hk : (v0 + B) * d1 + k0 = B * B) (hk1 : 1 ≤ k0) (hk2 : k0 ≤ d1) :
    let r := invDwPhase1 B d0 d1 v0
    r.1 ≤ v0 ∧ (r.1 + B) * d1 + d0 + B = B * B + r.2 ∧ r.2 < B ∧ B ≤ r.2 + d1 := by
  -- `(v0+B)·d1 = B² − k0` lies in `(B² − B, B²)`; its low word is `x = B − k0`
  obtain ⟨x, hx⟩ : ∃ x, x + k0 = B := ⟨B - k0, by omega⟩
  have hmod : (d1 * v0) % B = x := by
    apply mod_of_eq B (d1 * v0) x (d1 + 1) B (by omega)
    linear_combination hk + hx.symm
  simp only [invDwPhase1, hmod]
  by_cases hc : x + d0 < B
  · simp only [Nat.div_eq_of_lt hc, ne_eq, not_true_eq_false, if_false, Nat.mod_eq_of_lt hc]
    exact ⟨Nat.le_refl _, by omega, hc, by omega⟩
  · obtain ⟨p, hp⟩ : ∃ p, x + d0 = B + p := ⟨x + d0 - B, by omega⟩
    have h1 : (x + d0) / B = 1 := by
      rw [hp, Nat.add_div_left _ (by omega), Nat.div_eq_of_lt (by omega)]
    have h2 : (x + d0) % B = p := by rw [hp, Nat.add_mod_left, Nat.mod_eq_of_lt (by omega)]
    simp only [h1, ne_eq, Nat.one_ne_zero, not_false_eq_true, if_true, h2]
    obtain ⟨hv1, hvd⟩ := dec_step B B d1 d0 v0 hd1 hd0 (by omega)
    by_cases hpd : p ≥ d1
    · simp only [hpd, if_true]
      obtain ⟨hv2, hvd2⟩ := dec_step B B d1 d0 (v0 - 1) hd1 hd0 (by omega)
      have hlt : p - d1 + B - d1 < B := by omega
      rw [Nat.mod_eq_of_lt hlt]
      exact ⟨by omega, by omega, hlt, by omega⟩
    · simp only [hpd, if_false]
      have hlt : p + B - d1 < B := by omega
      rw [Nat.mod_eq_of_lt hlt]
      exact ⟨by omega, by omega, hlt, by omega⟩

/-- phase 2 of Algorithm 6: the final `v` satisfies `B³ − d ≤ (v + B)·d < B³` -/
theorem invDwPhase2_spec (B d d0 d1 v p : Nat) (hB : 2 ≤ B) (hd : d = d0 + B * d1) (hd0 : d0 < B)
    (hd1 : d1 < B) (hn : B * B ≤ 2 * d) (hv : v < B)
    (hT : (v + B) * d1 + d0 + B = B * B + p) (hp : p < B) (hpd : B ≤ p + d1) :
    let vf := invDwPhase2 B d d0 v p
    vf ≤ v ∧ (vf + B) * d < B * B * B ∧ B * B * B ≤ (vf + B) * d + d := by
  have hBpos : 0 < B := by omega
  have htdm := Nat.div_add_mod (v * d0) B
  have ht0 := Nat.mod_lt (v * d0) hBpos
  have ht1 : v * d0 / B < B := by
    rw [Nat.div_lt_iff_lt_mul hBpos]
    exact Nat.mul_lt_mul_of_lt_of_le hv (Nat.le_of_lt hd0) hBpos
  simp only [invDwPhase2]
  generalize v * d0 % B = t0 at *
  generalize v * d0 / B = t1 at *
  have hid : (v + B) * d + B * B = B * B * B + B * p + B * t1 + t0 := by
    subst hd
    linear_combination B * hT + htdm.symm
  have hdlt : d < B * B := by
    have := Nat.mul_le_mul_left B hd1
    rw [Nat.mul_succ] at this; omega
  have b4 : B * B ≤ B * (p + d1) := Nat.mul_le_mul_left _ hpd
  rw [Nat.mul_add] at b4
  by_cases hc : p + t1 < B
  · simp only [Nat.div_eq_of_lt hc, ne_eq, not_true_eq_false, if_false]
    have b6 : B * (p + t1 + 1) ≤ B * B := Nat.mul_le_mul_left _ hc
    rw [Nat.mul_add, Nat.mul_add] at b6
    exact ⟨Nat.le_refl _, by omega, by omega⟩
  · obtain ⟨p2, hp2⟩ : ∃ p2, p + t1 = B + p2 := ⟨p + t1 - B, by omega⟩
    have h1 : (p + t1) / B = 1 := by
      rw [hp2, Nat.add_div_left _ hBpos, Nat.div_eq_of_lt (by omega)]
    have h2 : (p + t1) % B = p2 := by rw [hp2, Nat.add_mod_left, Nat.mod_eq_of_lt (by omega)]
    simp only [h1, ne_eq, Nat.one_ne_zero, not_false_eq_true, if_true, h2]
    -- now `(v+B)·d = B³ + E` with `E = t0 + B·p2 < B² ≤ 2d`
    have e7 : B * (p + t1) = B * (B + p2) := by rw [hp2]
    have b7 : B * (p2 + 1) ≤ B * B := Nat.mul_le_mul_left _ (by omega)
    rw [Nat.mul_add, Nat.mul_add] at e7
    rw [Nat.mul_add] at b7
    rw [Nat.mul_assoc] at hid ⊢
    obtain ⟨hv1, hvd⟩ := dec_step B (B * B) d 0 v hdlt hBpos (by omega)
    by_cases hEd : t0 + B * p2 ≥ d
    · simp only [hEd, if_true]
      obtain ⟨hv2, hvd2⟩ := dec_step B (B * B) d 0 (v - 1) hdlt hBpos (by omega)
      exact ⟨by omega, by omega, by omega⟩
    · simp only [hEd, if_false]
      exact ⟨by omega, by omega, by omega⟩

/-- `invert_double_word` = `⌊(B³−1)/d⌋ − B` for a normalised double word, with the defining
    identity `(m + B)·d + k = B³`, `1 ≤ k ≤ d` -/
theorem invertDoubleWord_spec (W d : Nat) (hW : 1 ≤ W) (hd1 : 2 ^ (2 * W) ≤ 2 * d) (hd2 : d < 2 ^ (2 * W)) :
    invertDoubleWord W d + 2 ^ W = (2 ^ (3 * W) - 1) / d ∧ invertDoubleWord W d < 2 ^ W ∧
    ∃ k, (invertDoubleWord W d + 2 ^ W) * d + k = 2 ^ W * 2 ^ W * 2 ^ W ∧ 1 ≤ k ∧ k ≤ d := by
  have hBpos : 0 < 2 ^ W := Nat.two_pow_pos W
  have hcu : 2 ^ (3 * W) = 2 ^ W * 2 ^ W * 2 ^ W := by
    rw [← Nat.pow_add, ← Nat.pow_add]; congr 1; omega
  have hB2 : 2 ≤ 2 ^ W := Nat.one_lt_two_pow (by omega)
  have heven : 2 ^ W = 2 * 2 ^ (W - 1) := by
    rw [← Nat.pow_succ']; congr 1; omega
  rw [two_pow_two_mul] at hd1 hd2
  have hdm := Nat.div_add_mod d (2 ^ W)
  have hd0 := Nat.mod_lt d hBpos
  have hd1lt : d / 2 ^ W < 2 ^ W := (Nat.div_lt_iff_lt_mul hBpos).2 hd2
  -- the high word is normalised
  have hn1 : 2 ^ W ≤ 2 * (d / 2 ^ W) := by
    have : 2 * (2 ^ (W - 1) * 2 ^ W) ≤ 2 * d := by rw [← Nat.mul_assoc, ← heven]; exact hd1
    have := (Nat.le_div_iff_mul_le hBpos).2 (Nat.le_of_mul_le_mul_left this (by omega))
    omega
  obtain ⟨k0, hk0, hk01, hk02⟩ := invertWord_key W (d / 2 ^ W) hW hn1 hd1lt
  obtain ⟨_, hv0, _⟩ := invertWord_spec W (d / 2 ^ W) hW hn1 hd1lt
  obtain ⟨a1, a2, a3, a4⟩ := invDwPhase1_spec (2 ^ W) (d % 2 ^ W) (d / 2 ^ W)
    (invertWord W (d / 2 ^ W)) k0 hB2 hd0 hd1lt hn1 hk0 hk01 hk02
  obtain ⟨b1, b2, b3⟩ := invDwPhase2_spec (2 ^ W) d (d % 2 ^ W) (d / 2 ^ W) _ _ hB2 (by omega) hd0
    hd1lt hd1 (by omega) a2 a3 a4
  change invertDoubleWord W d ≤ _ at b1
  change (invertDoubleWord W d + _) * d < _ at b2
  change _ ≤ (invertDoubleWord W d + _) * d + d at b3
  have hdpos : 0 < d := by omega
  refine ⟨?_, by omega, _, Nat.add_sub_cancel' (Nat.le_of_lt b2), by omega, by omega⟩
  rw [hcu]
  symm
  apply Nat.div_eq_of_lt_le
  · omega
  · rw [Nat.add_mul _ 1, Nat.one_mul]; omega

-- ------------------------------------------------------------------ 3-by-2 (Algorithm 5)

/-- the arithmetic identity behind Algorithm 5, scaled to the modulus `B²` -/
theorem mg2_id (B d v k a0 a1 a2 q1 q0 e : Nat) (hk : (v + B) * d + k = B * B * B)
    (hs : (v + B) * a2 + a1 = q1 * B + q0) (he : e + d = B * B) :
    B * B * (a0 + B * (a1 + B * a2)) + B * B * d
      = B * B * ((q1 + 1) * d) + (B * k * a2 + B * e * a1 + B * B * a0 + q0 * B * d) := by
  linear_combination (B * d) * hs + (B * a1) * he.symm + (B * a2) * hk.symm

/-- the inequality that makes the high-word test of Algorithm 5 sound; the proof uses both `k ≤ d`
    and `k ≤ B·e` (`e = B² − d`).  With `u = a2·B + a1` the slack is
    `B² + k·(d−1−u) + (B·e−k)·(B−1−a1) + B²·(B−1−a0) + (d−B)·(d−k)`. -/
theorem mg2_ineq (B d e k a2 a1 a0 : Nat) (he : e + d = B * B) (hk2 : k ≤ d) (hk3 : k ≤ B * e)
    (hBd : B ≤ d) (hu : a2 * B + a1 + 1 ≤ d) (h1 : a1 + 1 ≤ B) (h0 : a0 + 1 ≤ B) :
    B * k * a2 + B * e * a1 + B * B * a0 < e * e + B * B * d := by
  have hB : 0 < B := by omega
  zify at *
  have hd : (d : Int) = B * B - e := by linarith
  rw [hd] at hk2 hBd hu ⊢
  linarith [mul_nonneg (Int.natCast_nonneg k) (sub_nonneg.2 hu),
    mul_nonneg (sub_nonneg.2 hk3) (sub_nonneg.2 h1),
    mul_nonneg (mul_self_nonneg (B : Int)) (sub_nonneg.2 h0),
    mul_nonneg (sub_nonneg.2 hBd) (sub_nonneg.2 hk2), mul_pos hB hB]

/-- Algorithm 5 on abstract words -/
theorem div3by2_core (B d d0 d1 v k a a0 a1 a2 q1 q0 : Nat) (hB : 2 ≤ B) (hd : d = d0 + B * d1)
    (hd0 : d0 < B) (hd1 : d1 < B) (hn : B * B ≤ 2 * d) (hk : (v + B) * d + k = B * B * B)
    (hk2 : k ≤ d) (h0 : a0 < B) (h1 : a1 < B) (hu : a1 + B * a2 < d)
    (haeq : a = a0 + B * (a1 + B * a2)) (hs : (v + B) * a2 + a1 = q1 * B + q0) (hq0 : q0 < B)
    (hq1 : q1 < B) :
    (let r1 := (a1 + B - (q1 * d1) % B) % B
     let t := d0 * q1
     let r := (a0 + B * r1 + 2 * (B * B) - t - d) % (B * B)
     let rh := r / B
     let q1' := if rh < q0 then (q1 + 1) % B else q1
     let r' := if rh < q0 then r else (r + d) % (B * B)
     (if r' ≥ d then (q1' + 1, r' - d) else (q1', r')) = (a / d, a % d)) := by
  have hBpos : 0 < B := by omega
  have hBB : 0 < B * B := Nat.mul_pos hBpos hBpos
  have hdlt : d < B * B := by
    have := Nat.mul_le_mul_left B hd1
    rw [Nat.mul_succ] at this; omega
  obtain ⟨e, he⟩ : ∃ e, e + d = B * B := ⟨B * B - d, by omega⟩
  have hk3 : k ≤ B * e := by
    have h1 : B * d ≤ (v + B) * d := Nat.mul_le_mul_right _ (Nat.le_add_left B v)
    have h2 : B * (e + d) = B * B * B := by rw [he, Nat.mul_assoc]
    rw [Nat.mul_add] at h2; omega
  have hBd : B ≤ d := by
    have := Nat.mul_le_mul_right B hB
    omega
  have hid := mg2_id B d v k a0 a1 a2 q1 q0 e hk hs he
  rw [← haeq] at hid
  have hP := mg2_ineq B d e k a2 a1 a0 he hk2 hk3 hBd (by rw [Nat.mul_comm]; omega) h1 h0
  have hab : a < B * d := by
    have := Nat.mul_le_mul_left B hu
    rw [Nat.mul_succ] at this; omega
  -- the candidate remainder is `a − (q1+1)·d` modulo `B²`
  obtain ⟨j, hj, hr1⟩ := wrap_sub_exists B a1 (q1 * d1) h1
  simp only
  generalize (a1 + B - (q1 * d1) % B) % B = r1 at *
  have hY : a0 + B * r1 + 2 * (B * B) - d0 * q1 - d + (q1 + 1) * d + a2 * (B * B)
      = a + (j + 2) * (B * B) := by
    have : d0 * q1 < B * B := Nat.mul_lt_mul'' hd0 hq1
    have hY' : a0 + B * r1 + 2 * (B * B) - d0 * q1 - d + d0 * q1 + d = a0 + B * r1 + 2 * (B * B) := by
      omega
    linear_combination hY' + B * hj + haeq.symm + q1 * hd
  generalize a0 + B * r1 + 2 * (B * B) - d0 * q1 - d = Y at *
  have hdm := Nat.div_add_mod Y (B * B)
  have hr := Nat.mod_lt Y hBB
  generalize Y % (B * B) = r at *
  have key := mg_correct B (B * B) d e a q1 (q0 * B) _ r (a2 + Y / (B * B)) (j + 2) he (by omega)
    (by omega) (Nat.mul_lt_mul_of_pos_right hq0 hBpos) hid hP hr
    (by linear_combination hY + hdm) hab
  by_cases hlt : r / B < q0
  · simp only [hlt, if_true]
    exact key.2 (Nat.le_of_lt ((Nat.div_lt_iff_lt_mul hBpos).1 hlt))
  · simp only [hlt, if_false]
    exact key.1 ((Nat.le_div_iff_mul_le hBpos).1 (Nat.le_of_not_lt hlt))

/-- `div_rem_3by2` (Möller–Granlund Algorithm 5) returns the floor quotient and remainder of the
    three-word `a = a_lo + B·a_hi` by the normalised double word `d`, when `a_hi < d`
    (the crate's `debug_assert!(a_hi < self.divisor)`) -/
theorem div3by2_spec (W d aLo aHi : Nat) (hW : 1 ≤ W) (hd1 : 2 ^ (2 * W) ≤ 2 * d)
    (hd2 : d < 2 ^ (2 * W)) (hlo : aLo < 2 ^ W) (hhi : aHi < d) :
    div3by2 W d (invertDoubleWord W d) aLo aHi
      = ((aLo + 2 ^ W * aHi) / d, (aLo + 2 ^ W * aHi) % d) := by
  obtain ⟨_, hv, k, hk, hk1, hk2⟩ := invertDoubleWord_spec W d hW hd1 hd2
  have hBpos : 0 < 2 ^ W := Nat.two_pow_pos W
  have hB2 : 2 ≤ 2 ^ W := Nat.one_lt_two_pow (by omega)
  rw [two_pow_two_mul] at hd1 hd2
  have hddm := Nat.div_add_mod d (2 ^ W)
  have hd0 := Nat.mod_lt d hBpos
  have hd1lt : d / 2 ^ W < 2 ^ W := (Nat.div_lt_iff_lt_mul hBpos).2 hd2
  have hadm := Nat.div_add_mod aHi (2 ^ W)
  have ha1 := Nat.mod_lt aHi hBpos
  simp only [div3by2]
  generalize invertDoubleWord W d = v at *
  generalize 2 ^ W = B at *
  generalize aHi / B = a2 at *
  generalize aHi % B = a1 at *
  subst hadm
  have hs0 : v * a2 + (B * a2 + a1) = (v + B) * a2 + a1 := by rw [Nat.add_mul]; omega
  have hslt : (v + B) * a2 + a1 < B * B := by
    -- B·s ≤ (v+B)·aHi < (v+B)·d < B³
    have f1 : B * a1 ≤ (v + B) * a1 := Nat.mul_le_mul_right _ (Nat.le_add_left B v)
    have f2 : (v + B) * (B * a2 + a1 + 1) ≤ (v + B) * d := Nat.mul_le_mul_left _ hhi
    apply Nat.lt_of_mul_lt_mul_left (a := B)
    linarith
  have hq1 := (Nat.div_lt_iff_lt_mul hBpos).mpr hslt
  rw [hs0, Nat.mod_eq_of_lt hq1]
  exact div3by2_core B d (d % B) (d / B) v k _ aLo a1 a2 _ _ hB2 (by omega) hd0 hd1lt hd1 hk hk2 hlo
    ha1 (by omega) (by rw [Nat.add_comm a1]) (Nat.div_add_mod' _ B).symm (Nat.mod_lt _ hBpos) hq1

/-- `div_rem_4by2`: two chained 3-by-2 steps give the floor division of a four-word value -/
theorem div4by2_spec (W d aLo aHi : Nat) (hW : 1 ≤ W) (hd1 : 2 ^ (2 * W) ≤ 2 * d)
    (hd2 : d < 2 ^ (2 * W)) (hlo : aLo < 2 ^ (2 * W)) (hhi : aHi < d) :
    div4by2 W d (invertDoubleWord W d) aLo aHi
      = ((aLo + 2 ^ (2 * W) * aHi) / d, (aLo + 2 ^ (2 * W) * aHi) % d) := by
  have hBpos : 0 < 2 ^ W := Nat.two_pow_pos W
  have hdpos : 0 < d := by omega
  have hldm := Nat.div_add_mod aLo (2 ^ W)
  have ha0 := Nat.mod_lt aLo hBpos
  have ha1 : aLo / 2 ^ W < 2 ^ W := by rw [Nat.div_lt_iff_lt_mul hBpos, ← two_pow_two_mul]; exact hlo
  have e1 := div3by2_spec W d (aLo / 2 ^ W) aHi hW hd1 hd2 ha1 hhi
  have hr1 : (aLo / 2 ^ W + 2 ^ W * aHi) % d < d := Nat.mod_lt _ hdpos
  have e2 := div3by2_spec W d (aLo % 2 ^ W) ((aLo / 2 ^ W + 2 ^ W * aHi) % d) hW hd1 hd2 ha0 hr1
  simp only [div4by2, e1, e2]
  rw [two_pow_two_mul]
  have h1 := Nat.div_add_mod (aLo / 2 ^ W + 2 ^ W * aHi) d
  have h2 := Nat.div_add_mod (aLo % 2 ^ W + 2 ^ W * ((aLo / 2 ^ W + 2 ^ W * aHi) % d)) d
  have h3 := Nat.mod_lt (aLo % 2 ^ W + 2 ^ W * ((aLo / 2 ^ W + 2 ^ W * aHi) % d)) hdpos
  generalize 2 ^ W = B at *
  generalize (aLo / B + B * aHi) / d = q1 at *
  generalize (aLo / B + B * aHi) % d = r1 at *
  generalize (aLo % B + B * r1) / d = q0 at *
  generalize (aLo % B + B * r1) % d = r0 at *
  exact div_mod_of_eq' hdpos (by linear_combination B * h1 + h2 + hldm) h3

end Dashu.Model.NumModular
