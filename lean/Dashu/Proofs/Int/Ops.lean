import Dashu.Model.Int.Ops
import Dashu.Proofs.Int.Repr
import Dashu.Proofs.Int.Mul
import Dashu.Proofs.Int.MulPrim
import Dashu.Proofs.Int.Canon
import Dashu.Proofs.Int.Div.Basic
/-
  The operator layer (`add_ops.rs` / `mul_ops.rs` sign tables composed with the dispatch layer)
  and multiplication (`mul_ops.rs mod repr`; by a word / double word: `mul/mod.rs`, `shift.rs`)
  against arithmetic on `Int` / `Nat`: addition and subtraction for every word size `W ≥ 1`,
  multiplication for `W ≥ 4` (what `Mul`'s Toom-3 needs).
-/
namespace Dashu.Model

-- ------------------------------------------------------------------ into_sign_repr

theorem SRepr.ofInt_value (W : Nat) (hW : 1 ≤ W) (i : Int) : (SRepr.ofInt W i).value W = i := by
  unfold SRepr.ofInt SRepr.value
  simp only [ofNat_value W hW]
  by_cases h : i < 0
  · simp only [h, decide_true, if_true]; omega
  · simp only [h, decide_false]; simp <;> omega

theorem SRepr.ofInt_wf (W : Nat) (hW : 1 ≤ W) (i : Int) : (SRepr.ofInt W i).WF W := by
  refine ⟨ofNat_canon W hW _, ?_⟩
  intro h
  simp only [SRepr.ofInt, decide_eq_true_eq] at h
  simp only [SRepr.ofInt, ofNat_value W hW]
  omega

theorem SRepr.mk_ofNat_wf (W : Nat) (hW : 1 ≤ W) (n : Nat) : (SRepr.mk false (ofNat W n)).WF W :=
  ⟨ofNat_canon W hW n, by simp⟩

theorem SRepr.mk_ofNat_value (W : Nat) (hW : 1 ≤ W) (n : Nat) :
    (SRepr.mk false (ofNat W n)).value W = n := by
  simp only [SRepr.value, Dashu.Model.ofNat_value W hW]; simp

-- ------------------------------------------------------------------ impl_ibig_add / impl_ibig_sub

theorem SRepr.value_mk (W : Nat) (n : Bool) (m : TRepr) :
    (SRepr.mk n m).value W = if n then -(m.value W : Int) else (m.value W : Int) := rfl

theorem ibigAdd_spec (W : Nat) (hW : 1 ≤ W) (a b : SRepr) (form : Nat) (ha : a.WF W)
    (hb : b.WF W) :
    (ibigAdd W a b form).value W = a.value W + b.value W ∧ (ibigAdd W a b form).WF W := by
  obtain ⟨an, am⟩ := a
  obtain ⟨bn, bm⟩ := b
  have hac : am.Canon W := ha.1
  have hbc : bm.Canon W := hb.1
  have hadd := TRepr.add_spec W hW am bm form hac hbc
  have hs := TRepr.subSigned_spec W am bm form hac hbc
  have hs' := TRepr.subSigned_spec W bm am
    (if form = 1 then 2 else if form = 2 then 1 else 0) hbc hac
  cases an <;> cases bn <;> simp only [ibigAdd, SRepr.value_mk]
  · refine ⟨?_, withSign_wf W _ _ hadd.2⟩
    rw [withSign_value, hadd.1]; simp
  · refine ⟨?_, hs.2⟩
    rw [hs.1]; simp <;> omega
  · refine ⟨?_, hs'.2⟩
    rw [hs'.1]; simp <;> omega
  · refine ⟨?_, withSign_wf W _ _ hadd.2⟩
    rw [withSign_value, hadd.1]; simp <;> omega

theorem ibigSub_spec (W : Nat) (hW : 1 ≤ W) (a b : SRepr) (form : Nat) (ha : a.WF W)
    (hb : b.WF W) :
    (ibigSub W a b form).value W = a.value W - b.value W ∧ (ibigSub W a b form).WF W := by
  obtain ⟨an, am⟩ := a
  obtain ⟨bn, bm⟩ := b
  have hac : am.Canon W := ha.1
  have hbc : bm.Canon W := hb.1
  have hadd := TRepr.add_spec W hW am bm form hac hbc
  have hs := TRepr.subSigned_spec W am bm form hac hbc
  have hs' := TRepr.subSigned_spec W bm am
    (if form = 1 then 2 else if form = 2 then 1 else 0) hbc hac
  cases an <;> cases bn <;> simp only [ibigSub, SRepr.value_mk]
  · refine ⟨?_, hs.2⟩
    rw [hs.1]; simp
  · refine ⟨?_, withSign_wf W _ _ hadd.2⟩
    rw [withSign_value, hadd.1]; simp
  · refine ⟨?_, withSign_wf W _ _ hadd.2⟩
    rw [withSign_value, hadd.1]; simp <;> omega
  · refine ⟨?_, hs'.2⟩
    rw [hs'.1]; simp <;> omega

-- ------------------------------------------------------------------ shl_in_place

/-- `shl_in_place` is modelled here with the carry-in as an argument; it is the loop of the division model
    (`Model/Int/Div.lean`), which carries the specification -/
theorem shlInPlace_eq_shlLoop (W : Nat) (ws : List Nat) (s c : Nat) :
    shlInPlace W ws s c = Div.shlLoop W s ws c := by
  induction ws generalizing c with
  | nil => rfl
  | cons a as ih => simp only [shlInPlace, Div.shlLoop, ih]

theorem shlInPlace_spec (W : Nat) (ws : List Nat) (s c : Nat) (hw : IsWords W ws) (hs : s ≤ W)
    (hc : c < 2 ^ s) :
    let r := shlInPlace W ws s c
    val W r.1 + 2 ^ (W * ws.length) * r.2 = val W ws * 2 ^ s + c ∧
    r.1.length = ws.length ∧ IsWords W r.1 ∧ r.2 < 2 ^ s :=
  shlInPlace_eq_shlLoop W ws s c ▸ Div.shlLoop_spec W s hs ws c hw hc

-- ------------------------------------------------------------------ is_power_of_two

theorem isPow2_eq (n : Nat) (h : isPow2 n = true) : n = 2 ^ Nat.log2 n := by
  simp only [isPow2, Bool.and_eq_true, decide_eq_true_eq, bne_iff_ne, ne_eq] at h
  obtain ⟨hn, hand⟩ := h
  have hle : 2 ^ n.log2 ≤ n := Nat.log2_self_le hn
  have hlt : n < 2 ^ (n.log2 + 1) := Nat.lt_log2_self
  rcases Nat.eq_or_lt_of_le hle with heq | hgt
  · exact heq.symm
  · exfalso
    have hpk : 0 < 2 ^ n.log2 := Nat.two_pow_pos _
    have hdiv : ∀ m, 2 ^ n.log2 ≤ m → m < 2 ^ (n.log2 + 1) → m.testBit n.log2 = true := by
      intro m h1 h2
      rw [Nat.testBit_eq_decide_div_mod_eq]
      have hq : m / 2 ^ n.log2 = 1 := by
        have hlo : 1 ≤ m / 2 ^ n.log2 := (Nat.one_le_div_iff hpk).mpr h1
        have hhi : m / 2 ^ n.log2 < 2 := by
          rw [Nat.div_lt_iff_lt_mul hpk, Nat.mul_comm, ← Nat.pow_succ]; exact h2
        omega
      simp [hq]
    have t1 := hdiv n hle hlt
    have t2 := hdiv (n - 1) (by omega) (by omega)
    have t3 : (n &&& (n - 1)).testBit n.log2 = true := by rw [Nat.testBit_and, t1, t2]; rfl
    rw [hand] at t3
    simp at t3

-- ------------------------------------------------------------------ mul_dword_in_place

theorem mul_add_lt_sq' {B a b c : Nat} (hB : 0 < B) (ha : a < B) (hb : b < B) (hc : c < B) :
    (a * b + c) / B < B := (Nat.div_lt_iff_lt_mul hB).mpr (mul_add_lt_sq ha hb hc)

theorem mulDwordInPlace_spec (W : Nat) (rhs : Nat) (hr : rhs < 2 ^ (2 * W)) :
    ∀ (n : Nat) (ws : List Nat) (c : Nat), ws.length = n → IsWords W ws → c < 2 ^ (2 * W) →
    val W (mulDwordInPlace W ws rhs c).1 + 2 ^ (W * ws.length) * (mulDwordInPlace W ws rhs c).2
      = val W ws * rhs + c ∧
    (mulDwordInPlace W ws rhs c).1.length = ws.length ∧ IsWords W (mulDwordInPlace W ws rhs c).1 ∧
    (mulDwordInPlace W ws rhs c).2 < 2 ^ (2 * W) := by
  have hp : 0 < 2 ^ W := Nat.two_pow_pos W
  have hsq := two_pow_two_mul W
  have hpp : 0 < 2 ^ (2 * W) := Nat.two_pow_pos _
  intro n
  induction n using Nat.strongRecOn with
  | _ n ih =>
    intro ws c hlen hw hc
    match ws, hlen, hw with
    | [], _, _ => simp [mulDwordInPlace, IsWords.nil, hc]
    | [r0], _, hw =>
      have hr0 := hw.head
      have hmlo : rhs % 2 ^ W < 2 ^ W := Nat.mod_lt _ hp
      have hmhi : rhs / 2 ^ W < 2 ^ W := by rw [Nat.div_lt_iff_lt_mul hp, ← hsq]; exact hr
      have hclo : c % 2 ^ W < 2 ^ W := Nat.mod_lt _ hp
      have hchi : c / 2 ^ W < 2 ^ W := by rw [Nat.div_lt_iff_lt_mul hp, ← hsq]; exact hc
      have hrhs := Nat.div_add_mod rhs (2 ^ W)
      have hcc := Nat.div_add_mod c (2 ^ W)
      simp only [mulDwordInPlace, val_cons, val_nil, List.length_cons, List.length_nil,
        Nat.mul_zero, Nat.add_zero, Nat.zero_add, Nat.mul_one]
      generalize rhs % 2 ^ W = mlo at *
      generalize rhs / 2 ^ W = mhi at *
      generalize c % 2 ^ W = clo at *
      generalize c / 2 ^ W = chi at *
      have hv0 : (r0 * mlo + clo) / 2 ^ W < 2 ^ W := mul_add_lt_sq' hp hr0 hmlo hclo
      have hdm0 := Nat.div_add_mod (r0 * mlo + clo) (2 ^ W)
      have hm0 : (r0 * mlo + clo) % 2 ^ W < 2 ^ W := Nat.mod_lt _ hp
      generalize (r0 * mlo + clo) / 2 ^ W = q0 at *
      generalize (r0 * mlo + clo) % 2 ^ W = m0 at *
      have hdm1 := Nat.div_add_mod (r0 * mhi + q0 + chi) (2 ^ W)
      have hv1 : r0 * mhi + q0 + chi < 2 ^ W * 2 ^ W := mul_add_add_lt_sq hr0 hmhi hv0 hchi
      rw [Nat.mod_add_div]
      refine ⟨?_, trivial, IsWords.cons hm0 (IsWords.nil W), by rw [hsq]; exact hv1⟩
      linear_combination hdm0 + r0 * hrhs + hcc
    | lo :: hi :: rest, hlen, hw =>
      have hlo := hw.head
      have hhi := hw.tail.head
      have hd : lo + 2 ^ W * hi < 2 ^ (2 * W) := by
        rw [hsq]
        have := Nat.mul_le_mul_left (2 ^ W) (show hi + 1 ≤ 2 ^ W from hhi)
        rw [Nat.mul_add, Nat.mul_one] at this
        omega
      have hv : (lo + 2 ^ W * hi) * rhs + c < 2 ^ (2 * W) * 2 ^ (2 * W) := mul_add_lt_sq hd hr hc
      have hq : ((lo + 2 ^ W * hi) * rhs + c) / 2 ^ (2 * W) < 2 ^ (2 * W) :=
        (Nat.div_lt_iff_lt_mul hpp).mpr hv
      have hdm := Nat.div_add_mod ((lo + 2 ^ W * hi) * rhs + c) (2 ^ (2 * W))
      have hpm : ((lo + 2 ^ W * hi) * rhs + c) % 2 ^ (2 * W) < 2 ^ (2 * W) := Nat.mod_lt _ hpp
      have hlen' : rest.length < n := by simp at hlen; omega
      obtain ⟨i1, i2, i3, i4⟩ := ih rest.length hlen' rest
        (((lo + 2 ^ W * hi) * rhs + c) / 2 ^ (2 * W)) rfl hw.tail.tail hq
      simp only [mulDwordInPlace, val_cons, List.length_cons]
      generalize ((lo + 2 ^ W * hi) * rhs + c) / 2 ^ (2 * W) = q at *
      generalize ((lo + 2 ^ W * hi) * rhs + c) % 2 ^ (2 * W) = p at *
      generalize mulDwordInPlace W rest rhs q = res at i1 i2 i3 i4
      obtain ⟨r, c'⟩ := res
      simp only at i1 i2 i3 i4 ⊢
      have hp1 : p / 2 ^ W < 2 ^ W := by rw [Nat.div_lt_iff_lt_mul hp, ← hsq]; exact hpm
      have hpdm := Nat.div_add_mod p (2 ^ W)
      refine ⟨?_, by simp [i2], IsWords.cons (Nat.mod_lt _ hp) (IsWords.cons hp1 i3), i4⟩
      rw [pow_mul_succ, pow_mul_succ]
      rw [hsq] at hdm
      linear_combination (2 ^ W * 2 ^ W) * i1 + hdm + hpdm

-- ------------------------------------------------------------------ mul_dword / mul_large_dword

theorem val_four (W a b c d : Nat) :
    val W [a, b, c, d] = a + 2 ^ W * b + 2 ^ W * 2 ^ W * (c + 2 ^ W * d) := by
  simp only [val_cons, val_nil]; ring

/-- the four words of a product of two double words (`mul_dword_spilled`, `square_dword_spilled`) -/
theorem spill_spec (W p : Nat) (hp4 : p < 2 ^ (2 * W) * 2 ^ (2 * W)) :
    val W [p % 2 ^ (2 * W) % 2 ^ W, p % 2 ^ (2 * W) / 2 ^ W,
           p / 2 ^ (2 * W) % 2 ^ W, p / 2 ^ (2 * W) / 2 ^ W] = p ∧
    IsWords W [p % 2 ^ (2 * W) % 2 ^ W, p % 2 ^ (2 * W) / 2 ^ W,
           p / 2 ^ (2 * W) % 2 ^ W, p / 2 ^ (2 * W) / 2 ^ W] := by
  have hp : 0 < 2 ^ W := Nat.two_pow_pos W
  have hpp : 0 < 2 ^ (2 * W) := Nat.two_pow_pos _
  have hsq := two_pow_two_mul W
  have hlo : p % 2 ^ (2 * W) < 2 ^ (2 * W) := Nat.mod_lt _ hpp
  have hhi : p / 2 ^ (2 * W) < 2 ^ (2 * W) := (Nat.div_lt_iff_lt_mul hpp).mpr hp4
  have h0 := Nat.div_add_mod p (2 ^ (2 * W))
  generalize p % 2 ^ (2 * W) = lo at *
  generalize p / 2 ^ (2 * W) = hi at *
  have h1 := Nat.div_add_mod lo (2 ^ W)
  have h2 := Nat.div_add_mod hi (2 ^ W)
  constructor
  · rw [val_four]
    rw [hsq] at h0
    linear_combination h0 + h1 + (2 ^ W * 2 ^ W) * h2
  · refine IsWords.cons (Nat.mod_lt _ hp) (IsWords.cons ?_ (IsWords.cons (Nat.mod_lt _ hp)
      (IsWords.cons ?_ (IsWords.nil W))))
    · rw [Nat.div_lt_iff_lt_mul hp, ← hsq]; exact hlo
    · rw [Nat.div_lt_iff_lt_mul hp, ← hsq]; exact hhi

theorem mulDword_spec (W a b : Nat) (ha : a < 2 ^ (2 * W)) (hb : b < 2 ^ (2 * W)) :
    (mulDword W a b).value W = a * b ∧ (mulDword W a b).Canon W := by
  unfold mulDword
  split
  · rename_i h
    refine ⟨rfl, ?_⟩
    show a * b < 2 ^ (2 * W)
    rw [two_pow_two_mul]
    exact Nat.mul_lt_mul'' h.1 h.2
  · have hp4 : a * b < 2 ^ (2 * W) * 2 ^ (2 * W) := Nat.mul_lt_mul'' ha hb
    obtain ⟨h1, h2⟩ := spill_spec W (a * b) hp4
    simp only [mulAddCarryDword_eq, Nat.add_zero]
    exact ⟨by rw [fromBuffer_value]; exact h1, fromBuffer_canon W _ h2⟩

theorem mulLargeDword_spec (W : Nat) (buffer : List Nat) (rhs : Nat) (hw : IsWords W buffer)
    (hr : rhs < 2 ^ (2 * W)) :
    (mulLargeDword W buffer rhs).value W = val W buffer * rhs ∧
    (mulLargeDword W buffer rhs).Canon W := by
  have hp : 0 < 2 ^ W := Nat.two_pow_pos W
  have hsq := two_pow_two_mul W
  unfold mulLargeDword
  split
  · rename_i h0
    subst h0
    exact ⟨by simp, show 0 < 2 ^ (2 * W) from Nat.two_pow_pos _⟩
  · split
    · rename_i h1
      subst h1
      exact ⟨by rw [fromBuffer_value, Nat.mul_one], fromBuffer_canon W _ hw⟩
    · split
      · rename_i h0 h1 hlt
        -- single word: shift for powers of two, otherwise the multiply loop; both meet the same specification
        generalize hres : (if isPow2 rhs = true then shlInPlace W buffer (Nat.log2 rhs) 0
          else mulWordInPlace W buffer rhs 0) = res
        obtain ⟨s1, s2, s3, s4⟩ : val W res.1 + 2 ^ (W * buffer.length) * res.2 = val W buffer * rhs + 0 ∧
            res.1.length = buffer.length ∧ IsWords W res.1 ∧ res.2 < 2 ^ W := by
          subst hres
          split
          · rename_i hpow
            have hlog : Nat.log2 rhs < W := (Nat.log2_lt h0).mpr hlt
            have ⟨e, l, w, c⟩ := shlInPlace_spec W buffer (Nat.log2 rhs) 0 hw (by omega) (Nat.two_pow_pos _)
            rw [← isPow2_eq rhs hpow] at e c
            exact ⟨e, l, w, Nat.lt_trans c hlt⟩
          · exact mulWordInPlace_spec W buffer rhs 0 hw hlt hp
        obtain ⟨r, carry⟩ := res
        simp only at s1 s2 s3 s4 ⊢
        exact (Holds.snoc s2 s3 s4 s1).fromBuffer
      · obtain ⟨s1, s2, s3, s4⟩ := mulDwordInPlace_spec W rhs hr buffer.length buffer 0 rfl hw
          (Nat.two_pow_pos _)
        generalize mulDwordInPlace W buffer rhs 0 = res at s1 s2 s3 s4
        obtain ⟨r, carry⟩ := res
        simp only at s1 s2 s3 s4 ⊢
        split
        · rename_i hc0
          subst hc0
          exact Holds.fromBuffer ⟨s2, s3, by simpa using s1⟩
        · have hcw := isWords_dword W carry s4
          refine ⟨?_, fromBuffer_canon W _ (s3.append hcw)⟩
          rw [fromBuffer_value, val_append, s2, val_dword]
          simpa using s1

-- ------------------------------------------------------------------ TypedRepr * TypedRepr, sqr

theorem mulLargeFrontier_spec (W : Nat) (hW : 1 ≤ W) (lhs rhs : List Nat) :
    (mulLargeFrontier W lhs rhs).value W = val W lhs * val W rhs ∧
    (mulLargeFrontier W lhs rhs).Canon W :=
  ⟨ofNat_value W hW _, ofNat_canon W hW _⟩

theorem squareLarge_spec (W : Nat) (hW : 4 ≤ W) (ws : List Nat) (hw : IsWords W ws) (hne : ws ≠ []) :
    (squareLarge W ws).value W = val W ws * val W ws ∧ (squareLarge W ws).Canon W := by
  unfold squareLarge
  exact (sqrBuffer_spec W hW ws hw hne).fromBuffer

/-- `mul_large`: exact and canonical.  Unequal operands go through the mirrored `mul::add_signed_mul`
    (schoolbook, chunk splitting, Karatsuba, Toom-3) on a zero-filled buffer, whose
    `debug_assert_zero!` carry is zero; equal operands through the mirrored `sqr::sqr` (`sqrBuffer`). -/
theorem mulLarge_spec (W : Nat) (hW : 4 ≤ W) (lhs rhs : List Nat) (hl : IsWords W lhs)
    (hr : IsWords W rhs) :
    (mulLarge W lhs rhs).value W = val W lhs * val W rhs ∧ (mulLarge W lhs rhs).Canon W := by
  unfold mulLarge
  split
  · rename_i heq
    by_cases hnil : lhs = []
    · subst hnil; subst heq
      exact ⟨by simp [squareLarge, sqrBuffer, sqrSimple, sqrTriLoop, sqrDiagLoop, fromBuffer_value],
        fromBuffer_canon W _ (by simp [sqrBuffer, sqrSimple, sqrTriLoop, sqrDiagLoop]; exact IsWords.cons (Nat.two_pow_pos W) (IsWords.nil W))⟩
    · have := squareLarge_spec W hW lhs hl hnil
      rw [← heq]; exact this
  · have hc := addSignedMul_contract W hW (lhs.length + rhs.length)
      (List.replicate (lhs.length + rhs.length) 0) false lhs rhs (by simp)
      (isWords_replicate_zero W _) hl hr
    exact (hc.zeros hl hr (Nat.le_refl _)).1.fromBuffer

theorem TRepr.mul_spec (W : Nat) (hW : 4 ≤ W) (a b : TRepr) (ha : a.Canon W) (hb : b.Canon W) :
    (a.mul W b).value W = a.value W * b.value W ∧ (a.mul W b).Canon W := by
  cases a with
  | small x =>
    cases b with
    | small y => exact mulDword_spec W x y ha hb
    | large ws =>
      have h := mulLargeDword_spec W ws x hb.large_words ha
      simp only [TRepr.mul, TRepr.value_small, TRepr.value_large]
      exact ⟨by rw [h.1, Nat.mul_comm], h.2⟩
  | large ws =>
    cases b with
    | small y => exact mulLargeDword_spec W ws y ha.large_words hb
    | large w1 => exact mulLarge_spec W hW ws w1 ha.large_words hb.large_words

theorem TRepr.sqr_spec (W : Nat) (hW : 4 ≤ W) (a : TRepr) (ha : a.Canon W) :
    (a.sqr W).value W = a.value W * a.value W ∧ (a.sqr W).Canon W := by
  cases a with
  | small d =>
    simp only [TRepr.sqr, TRepr.value_small]
    split
    · rename_i h
      refine ⟨rfl, ?_⟩
      show d * d < 2 ^ (2 * W)
      rw [two_pow_two_mul]; exact Nat.mul_lt_mul'' h h
    · obtain ⟨h1, h2⟩ := spill_spec W (d * d) (Nat.mul_lt_mul'' ha ha)
      simp only [mulAddCarryDword_eq, Nat.add_zero]
      exact ⟨by rw [fromBuffer_value]; exact h1, fromBuffer_canon W _ h2⟩
  | large ws => exact squareLarge_spec W hW ws ha.large_words ha.large_ne_nil

/-- `impl_ibig_mul`: sign rule on top of an exact magnitude product -/
theorem ibigMul_spec (W : Nat) (hW : 4 ≤ W) (a b : SRepr) (ha : a.WF W) (hb : b.WF W) :
    (ibigMul W a b).value W = a.value W * b.value W ∧ (ibigMul W a b).WF W := by
  obtain ⟨an, am⟩ := a
  obtain ⟨bn, bm⟩ := b
  have hm := TRepr.mul_spec W hW am bm ha.1 hb.1
  refine ⟨?_, withSign_wf W _ _ hm.2⟩
  simp only [ibigMul, SRepr.value_mk]
  rw [withSign_value, hm.1]
  cases an <;> cases bn <;> simp

end Dashu.Model
