import Dashu.Model.Int.PowBuf
import Dashu.Proofs.Int.Memory
import Dashu.Proofs.Int.MulPrim
import Dashu.Proofs.Int.Pow
/-
  `pow_word_base` / `pow_dword_base` with real buffers: no capacity assertion fails, the scratch
  memory suffices, the buffer is never resized, it has at most `exp/wexp + 1` resp. `2·exp` words and
  holds `base ^ exp`.
-/
namespace Dashu.Model

-- ------------------------------------------------------------------ sqr::sqr: length, memory

theorem sqrMemReq_mono {a b : Nat} (h : a ≤ b) : sqrMemReq a ≤ sqrMemReq b := by
  unfold sqrMemReq
  have := mulMemReq_mono h
  split <;> split <;> omega

theorem memSqr_ok (len avail : Nat) (h : sqrMemReq len ≤ avail) : memSqr len avail = .ok () := by
  unfold memSqr
  split
  · rfl
  · rename_i hl
    exact memSameLen_sqr_ok len avail hl h

-- ------------------------------------------------------------------ buffer steps

theorem PowBuf.push_ok (b : PowBuf) (w : Nat) (h : b.ws.length < b.cap) :
    b.push w = .ok ⟨b.ws ++ [w], b.cap⟩ := by
  unfold PowBuf.push; rw [if_pos h]

/-- with room for one more word `push_resizing` does not resize ("actually never resize") -/
theorem PowBuf.pushResizing_ok (b : PowBuf) (w : Nat) (h : b.ws.length + 1 ≤ b.cap) :
    b.pushResizing w = .ok (if w = 0 then b else ⟨b.ws ++ [w], b.cap⟩) := by
  unfold PowBuf.pushResizing
  split
  · rfl
  · have : ¬(b.ws.length + 1 > b.cap ∧ b.ws.length + 1 > 2) := by omega
    simp only [this, if_false]
    exact PowBuf.push_ok ⟨b.ws, b.cap⟩ w (by show b.ws.length < b.cap; omega)

/-- `push_resizing` of a carry word with room for it: the value gains the word at the top
    (nothing is pushed, and nothing gained, for a zero carry) -/
theorem PowBuf.pushResizing_spec (W : Nat) (b : PowBuf) (w : Nat) (hw : IsWords W b.ws)
    (hwd : w < 2 ^ W) (hcap : b.ws.length + 1 ≤ b.cap) :
    ∃ b', b.pushResizing w = .ok b' ∧ val W b'.ws = val W b.ws + 2 ^ (W * b.ws.length) * w ∧
      IsWords W b'.ws ∧ b.ws.length ≤ b'.ws.length ∧ b'.ws.length ≤ b.ws.length + 1 ∧
      b'.cap = b.cap := by
  rw [PowBuf.pushResizing_ok b w hcap]
  by_cases hc : w = 0
  · rw [if_pos hc, hc]
    exact ⟨b, rfl, by simp, hw, Nat.le_refl _, Nat.le_succ _, rfl⟩
  · rw [if_neg hc]
    refine ⟨_, rfl, ?_, hw.append (IsWords.cons hwd (IsWords.nil W)), by simp, by simp, rfl⟩
    rw [val_append]; simp only [val_cons, val_nil, Nat.mul_zero, Nat.add_zero]

theorem PowBuf.mulWord_ok (W m : Nat) (b : PowBuf) (hw : IsWords W b.ws) (hm : m < 2 ^ W)
    (hcap : b.ws.length + 1 ≤ b.cap) :
    ∃ b', PowBuf.mulWord W m b = .ok b' ∧ val W b'.ws = val W b.ws * m ∧ IsWords W b'.ws ∧
      b.ws.length ≤ b'.ws.length ∧ b'.ws.length ≤ b.ws.length + 1 ∧ b'.cap = b.cap := by
  obtain ⟨s1, s2, s3, s4⟩ := mulWordInPlace_spec W b.ws m 0 hw hm (Nat.two_pow_pos W)
  unfold PowBuf.mulWord
  generalize mulWordInPlace W b.ws m 0 = res at s1 s2 s3 s4
  obtain ⟨r, c⟩ := res
  simp only at s1 s2 s3 s4 ⊢
  obtain ⟨b', e, v, w, l1, l2, cp⟩ := PowBuf.pushResizing_spec W ⟨r, b.cap⟩ c s3 s4
    (by simpa [s2] using hcap)
  simp only [s2] at v l1 l2
  exact ⟨b', e, by rw [v, s1, Nat.add_zero], w, l1, l2, cp⟩

theorem PowBuf.mulDword_ok (W m : Nat) (b : PowBuf) (hw : IsWords W b.ws) (hm : m < 2 ^ (2 * W))
    (hcap : b.ws.length + 2 ≤ b.cap) :
    ∃ b', PowBuf.mulDword W m b = .ok b' ∧ val W b'.ws = val W b.ws * m ∧ IsWords W b'.ws ∧
      b.ws.length ≤ b'.ws.length ∧ b'.ws.length ≤ b.ws.length + 2 ∧ b'.cap = b.cap := by
  obtain ⟨s1, s2, s3, s4⟩ := mulDwordInPlace_spec W m hm b.ws.length b.ws 0 rfl hw (Nat.two_pow_pos _)
  unfold PowBuf.mulDword
  generalize mulDwordInPlace W b.ws m 0 = res at s1 s2 s3 s4
  obtain ⟨r, c⟩ := res
  simp only [Nat.add_zero] at s1 s2 s3 s4 ⊢
  by_cases hc : c > 0
  · -- the carry is pushed as its two words, the upper one only if it is not zero
    have hcw := isWords_dword W c s4
    simp only [hc, if_true]
    rw [PowBuf.push_ok ⟨r, b.cap⟩ (c % 2 ^ W) (by simp only [s2]; omega), bind_ok']
    obtain ⟨b', e, v, w, l1, l2, cp⟩ := PowBuf.pushResizing_spec W ⟨r ++ [c % 2 ^ W], b.cap⟩
      (c / 2 ^ W) (s3.append (IsWords.cons hcw.head (IsWords.nil W))) hcw.tail.head
      (by simp only [List.length_append, s2]; simp; omega)
    simp only [List.length_append, List.length_cons, List.length_nil, s2] at v l1 l2
    refine ⟨b', e, ?_, w, by omega, by omega, cp⟩
    rw [v, val_append, s2, ← s1]
    simp only [val_cons, val_nil, Nat.mul_zero, Nat.add_zero]
    rw [pow_mul_succ]
    linear_combination 2 ^ (W * b.ws.length) * Nat.mod_add_div c (2 ^ W)
  · have hc0 : c = 0 := by omega
    subst hc0
    simp only [gt_iff_lt, Nat.lt_irrefl, if_false]
    refine ⟨_, rfl, ?_, s3, by show b.ws.length ≤ r.length; omega,
      by show r.length ≤ b.ws.length + 2; omega, rfl⟩
    simpa using s1

/-- the squaring step: enough scratch memory, enough capacity, value squared, length doubled -/
theorem PowBuf.square_ok (W : Nat) (hW : 4 ≤ W) (memWords : Nat) (b : PowBuf) (hw : IsWords W b.ws)
    (hne : b.ws ≠ []) (hmem : b.ws.length + sqrMemReq b.ws.length ≤ memWords)
    (hcap : 2 * b.ws.length ≤ b.cap) :
    b.square W memWords = .ok ⟨sqrBuffer W b.ws, b.cap⟩ ∧
    val W (sqrBuffer W b.ws) = val W b.ws * val W b.ws ∧ IsWords W (sqrBuffer W b.ws) ∧
    (sqrBuffer W b.ws).length = 2 * b.ws.length := by
  obtain ⟨vl, v2, v1⟩ := sqrBuffer_spec W hW b.ws hw hne
  refine ⟨?_, v1, v2, vl⟩
  unfold PowBuf.square
  rw [memAlloc_ok (show b.ws.length ≤ memWords by omega), bind_ok',
    if_pos (show b.ws.length ≤ b.cap - b.ws.length by omega)]
  simp only [pure, bind_ok']
  rw [memSqr_ok _ _ (by omega)]
  rfl

-- ------------------------------------------------------------------ the loop with panicking steps

/-- `T k` holds at the top of an iteration whose exponent prefix is `k`, `M k` after the conditional
    multiplication; a squaring is only ever attempted for prefixes `k ≤ exp / 2` -/
theorem powLoopE_spec {α : Type} (mulBase sqr : α → Except PanicKind α) (exp : Nat)
    (T M : Nat → α → Prop)
    (hmul : ∀ k r, T k r → 2 * k + 1 ≤ exp → ∃ r', mulBase r = .ok r' ∧ M (2 * k + 1) r')
    (hskip : ∀ k r, T k r → M (2 * k) r)
    (hsqr : ∀ k r, M k r → k ≤ exp / 2 → ∃ r', sqr r = .ok r' ∧ T k r') :
    ∀ (p : Nat) (res : α), T (exp / 2 ^ (p + 1)) res →
      ∃ r, powLoopE mulBase sqr exp p res = .ok r ∧ M exp r := by
  intro p
  induction p with
  | zero =>
    intro res hT
    simp only [Nat.zero_add, Nat.pow_one] at hT
    simp only [powLoopE]
    have hdm := Nat.div_add_mod exp 2
    split
    · rename_i hodd
      obtain ⟨r', e, hM⟩ := hmul _ _ hT (by omega)
      have : 2 * (exp / 2) + 1 = exp := by omega
      rw [this] at hM
      exact ⟨r', e, hM⟩
    · rename_i hodd
      have hM := hskip _ _ hT
      have : 2 * (exp / 2) = exp := by omega
      rw [this] at hM
      exact ⟨res, rfl, hM⟩
  | succ p ih =>
    intro res hT
    simp only [powLoopE]
    have hdd : exp / 2 ^ (p + 1) / 2 = exp / 2 ^ (p + 1 + 1) := by
      rw [Nat.div_div_eq_div_mul, ← Nat.pow_succ]
    have hdm := Nat.div_add_mod (exp / 2 ^ (p + 1)) 2
    rw [hdd] at hdm
    have hle : exp / 2 ^ (p + 1) ≤ exp / 2 := by
      apply Nat.div_le_div_left _ (by decide)
      calc 2 = 2 ^ 1 := rfl
        _ ≤ 2 ^ (p + 1) := Nat.pow_le_pow_right (by decide) (by omega)
    have hle2 : exp / 2 ≤ exp := Nat.div_le_self _ _
    have hstep : ∀ r1, M (exp / 2 ^ (p + 1)) r1 →
        ∃ r, (do let res ← sqr r1; powLoopE mulBase sqr exp p res) = .ok r ∧ M exp r := by
      intro r1 hM
      obtain ⟨r2, e2, hT2⟩ := hsqr _ _ hM hle
      rw [e2, bind_ok']
      exact ih r2 hT2
    split
    · rename_i hbit
      obtain ⟨r', e, hM⟩ := hmul _ _ hT (by omega)
      have : 2 * (exp / 2 ^ (p + 1 + 1)) + 1 = exp / 2 ^ (p + 1) := by omega
      rw [this] at hM
      rw [e, bind_ok']
      exact hstep r' hM
    · rename_i hbit
      have hM := hskip _ _ hT
      have : 2 * (exp / 2 ^ (p + 1 + 1)) = exp / 2 ^ (p + 1) := by omega
      rw [this] at hM
      rw [bind_ok']
      exact hstep res hM

/-- The loop on a buffer of capacity `cap0` that holds `x ^ 2`, for a multiplication step `mul` by `x`
    that appends at most `c` words: after the exponent prefix `k` the buffer has at most `c * k` words.
    So `c * e` words of capacity suffice, and a squaring, attempted only for `k ≤ e / 2`, finds its
    scratch memory if `c * (e / 2) ≤ L`. -/
theorem powBufLoop_spec (W : Nat) (hW : 4 ≤ W) (x c e L cap0 : Nat)
    (mul : PowBuf → Except PanicKind PowBuf)
    (hmul : ∀ b, IsWords W b.ws → b.ws.length + c ≤ b.cap →
      ∃ b', mul b = .ok b' ∧ val W b'.ws = val W b.ws * x ∧ IsWords W b'.ws ∧
        b.ws.length ≤ b'.ws.length ∧ b'.ws.length ≤ b.ws.length + c ∧ b'.cap = b.cap)
    (he : 2 ≤ e) (hL : c * (e / 2) ≤ L) (hcap : c * e ≤ cap0)
    (ws : List Nat) (hws : IsWords W ws) (hv : val W ws = x ^ 2) (h2 : 2 ≤ ws.length)
    (hlen : ws.length ≤ c * 2) :
    ∃ b, powLoopE mul (PowBuf.square W (L + sqrMemReq L)) e (bitLen e - 2) ⟨ws, cap0⟩ = .ok b ∧
      IsWords W b.ws ∧ val W b.ws = x ^ e ∧ b.ws.length ≤ c * e ∧ b.cap = cap0 := by
  let M : Nat → PowBuf → Prop := fun k b => IsWords W b.ws ∧ val W b.ws = x ^ k ∧
    b.ws.length ≤ c * k ∧ 2 ≤ b.ws.length ∧ b.cap = cap0 ∧ k ≤ e
  obtain ⟨b, hb, l1, l2, l3, _, l5, _⟩ := powLoopE_spec mul (PowBuf.square W (L + sqrMemReq L)) e
    (fun k => M (2 * k)) M
    (by
      intro k b ⟨t1, t2, t3, t4, t5, t6⟩ hk
      have hck := Nat.mul_le_mul_left c hk
      rw [Nat.mul_add_one] at hck
      obtain ⟨b', e1, e2, e3, e4, e5, e6⟩ := hmul b t1 (by omega)
      exact ⟨b', e1, e3, by rw [e2, t2, ← Nat.pow_succ], by rw [Nat.mul_add_one]; omega, by omega,
        by omega, hk⟩)
    (fun _ _ h => h)
    (by
      intro k b ⟨t1, t2, t3, t4, t5, t6⟩ hk
      have hne : b.ws ≠ [] := by intro h; rw [h] at t4; simp at t4
      have hck := Nat.mul_le_mul_left c hk
      have hce := Nat.mul_le_mul_left c (show 2 * k ≤ e by omega)
      rw [Nat.mul_left_comm] at hce
      have hmono := sqrMemReq_mono (show b.ws.length ≤ L by omega)
      obtain ⟨q1, q2, q3, q4⟩ := PowBuf.square_ok W hW (L + sqrMemReq L) b t1 hne (by omega)
        (by omega)
      exact ⟨_, q1, q3, by rw [q2, t2, ← Nat.pow_add]; congr 1; omega,
        by rw [q4, Nat.mul_left_comm]; omega, by rw [q4]; omega, t5, by omega⟩)
    (bitLen e - 2) ⟨ws, cap0⟩
    (by rw [bitLen_start e he]; exact ⟨hws, hv, hlen, h2, rfl, by omega⟩)
  exact ⟨b, hb, l1, l2, l3, l5⟩

-- ------------------------------------------------------------------ pow_word_base

theorem bufDefaultCapacity_ge (n : Nat) : n + 2 ≤ bufDefaultCapacity n := by
  unfold bufDefaultCapacity; omega

/-- **`pow_word_base` with a real buffer** (the branch after the shortcuts, `exp ≥ 2·wexp`): nothing
    panics, the buffer is never reallocated, it ends with at most `exp/wexp + 1` words ("result is at most
    exp + 1 words") and holds `base ^ exp` -/
theorem powWordBaseBuf_spec (W : Nat) (hW : 4 ≤ W) (base exp : Nat) (hb : 2 < base)
    (hlt : base < 2 ^ W) (hexp : 2 * (maxExpInWord W base).1 ≤ exp) :
    ∃ b, powWordBaseBuf W base exp = .ok b ∧ val W b.ws = base ^ exp ∧ IsWords W b.ws ∧
      b.ws.length ≤ exp / (maxExpInWord W base).1 + 1 ∧
      b.cap = bufDefaultCapacity (exp / (maxExpInWord W base).1 + 1) := by
  obtain ⟨m1, m2, m3⟩ := maxExpInWord_spec W base hb hlt
  simp only [powWordBaseBuf]
  generalize maxExpInWord W base = we at m1 m2 m3 hexp ⊢
  obtain ⟨wexp, wbase⟩ := we
  simp only at m1 m2 m3 hexp ⊢
  have he2 : 2 ≤ exp / wexp := by rw [Nat.le_div_iff_mul_le (by omega)]; omega
  generalize hE : exp / wexp = e at he2 ⊢
  have hp : 0 < 2 ^ W := Nat.two_pow_pos W
  have hcap0 := bufDefaultCapacity_ge (e + 1)
  generalize bufDefaultCapacity (e + 1) = cap0 at hcap0 ⊢
  -- the two initial pushes
  rw [PowBuf.push_ok ⟨[], cap0⟩ _ (by simp; omega), bind_ok',
    PowBuf.push_ok _ _ (by simp; omega), bind_ok']
  simp only [List.nil_append, List.cons_append]
  have hhi : wbase * wbase / 2 ^ W < 2 ^ W :=
    (Nat.div_lt_iff_lt_mul hp).mpr (Nat.mul_lt_mul'' m3 m3)
  obtain ⟨b1, hb1, l1, l2, l3, l5⟩ := powBufLoop_spec W hW wbase 1 e (e / 2 + 1) cap0
    (PowBuf.mulWord W wbase) (fun b hw hc => PowBuf.mulWord_ok W wbase b hw m3 hc) he2 (by omega)
    (by omega) [wbase * wbase % 2 ^ W, wbase * wbase / 2 ^ W]
    (IsWords.cons (Nat.mod_lt _ hp) (IsWords.cons hhi (IsWords.nil W)))
    (by simp only [val_cons, val_nil, Nat.mul_zero, Nat.add_zero]
        rw [Nat.mod_add_div, Nat.pow_two])
    (by simp) (by simp)
  rw [hb1, bind_ok']
  -- the remaining factor base^(exp % wexp)
  have hr : exp % wexp < wexp := Nat.mod_lt _ (by omega)
  have hpr : base ^ (exp % wexp) < 2 ^ W := by
    have : base ^ (exp % wexp) ≤ base ^ wexp := Nat.pow_le_pow_right (by omega) (by omega)
    rw [← m1] at this; omega
  obtain ⟨b2, f1, f2, f3, f4, f5, f6⟩ := PowBuf.mulWord_ok W (base ^ (exp % wexp)) b1 l1 hpr (by omega)
  refine ⟨b2, f1, ?_, f3, by omega, by rw [f6, l5]⟩
  rw [f2, l2, m1, ← Nat.pow_mul, ← Nat.pow_add, ← hE]
  congr 1
  exact Nat.div_add_mod exp wexp

-- ------------------------------------------------------------------ pow_dword_base

/-- **`pow_dword_base` with a real buffer**: nothing panics, the buffer is never reallocated, it ends with
    at most `2·exp` words ("result is at most 2 * exp words") and holds `base ^ exp` -/
theorem powDwordBaseBuf_spec (W : Nat) (hW : 4 ≤ W) (base exp : Nat) (hlt : base < 2 ^ (2 * W))
    (hexp : 2 ≤ exp) :
    ∃ b, powDwordBaseBuf W base exp = .ok b ∧ val W b.ws = base ^ exp ∧ IsWords W b.ws ∧
      b.ws.length ≤ 2 * exp ∧ b.cap = bufDefaultCapacity (2 * exp) := by
  simp only [powDwordBaseBuf, mulAddCarryDword_eq, Nat.add_zero]
  have hcap0 := bufDefaultCapacity_ge (2 * exp)
  generalize bufDefaultCapacity (2 * exp) = cap0 at hcap0 ⊢
  obtain ⟨sv, sw⟩ := spill_spec W (base * base) (Nat.mul_lt_mul'' hlt hlt)
  rw [PowBuf.push_ok ⟨[], cap0⟩ _ (by simp; omega), bind_ok',
    PowBuf.push_ok _ _ (by simp; omega), bind_ok',
    PowBuf.push_ok _ _ (by simp; omega), bind_ok',
    PowBuf.push_ok _ _ (by simp; omega), bind_ok']
  simp only [List.nil_append, List.cons_append]
  obtain ⟨b1, hb1, l1, l2, l3, l5⟩ := powBufLoop_spec W hW base 2 exp exp cap0
    (PowBuf.mulDword W base) (fun b hw hc => PowBuf.mulDword_ok W base b hw hlt hc) hexp (by omega)
    (by omega) _ sw (by rw [sv, Nat.pow_two]) (by simp) (by simp)
  exact ⟨b1, hb1, l2, l1, l3, l5⟩

-- ------------------------------------------------------------------ the Repr built from the buffer

/-- `Repr::from_buffer(res)` at the end of `pow_word_base` is the `Repr` that `TypedReprRef::pow` of the
    model returns (`ofNat` of the value computed by `powWordBase`) -/
theorem powWordBaseBuf_repr (W : Nat) (hW : 4 ≤ W) (base exp : Nat) (hb : 2 < base)
    (hlt : base < 2 ^ W) (hexp : 2 * (maxExpInWord W base).1 ≤ exp) :
    ∃ b, powWordBaseBuf W base exp = .ok b ∧ fromBuffer W b.ws = ofNat W (powWordBase W base exp) := by
  obtain ⟨b, h1, h2, h3, _, _⟩ := powWordBaseBuf_spec W hW base exp hb hlt hexp
  refine ⟨b, h1, ?_⟩
  have hm := (maxExpInWord_spec W base hb hlt).2.1
  exact TRepr.eq_ofNat ⟨by rw [fromBuffer_value, h2, powWordBase_spec W base exp hlt (by omega)],
    fromBuffer_canon W _ h3⟩

theorem powDwordBaseBuf_repr (W : Nat) (hW : 4 ≤ W) (base exp : Nat) (hlt : base < 2 ^ (2 * W))
    (hexp : 2 ≤ exp) :
    ∃ b, powDwordBaseBuf W base exp = .ok b ∧ fromBuffer W b.ws = ofNat W (powDwordBase base exp) := by
  obtain ⟨b, h1, h2, h3, _, _⟩ := powDwordBaseBuf_spec W hW base exp hlt hexp
  refine ⟨b, h1, ?_⟩
  exact TRepr.eq_ofNat ⟨by rw [fromBuffer_value, h2, powDwordBase_spec base exp hexp], fromBuffer_canon W _ h3⟩

end Dashu.Model
