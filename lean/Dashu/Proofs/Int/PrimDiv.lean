import Dashu.Model.Int.PrimDiv
import Mathlib.Tactic.Ring
/-
  The primitive division kernels of `base/src/ring/div_rem.rs` on every machine integer type
  (any width, signed or unsigned): results, panics (zero divisor, `MIN / −1`), and the absence of
  intermediate overflow in `div_rem_euclid`'s sign fix-up.
-/
namespace Dashu.Model.PrimDiv
open Dashu.Model

/-- Euclidean quotient and remainder stay in a signed range, except for `MIN / −1` -/
theorem signed_ediv_range (H a b : Int) (ha1 : -H ≤ a) (ha2 : a < H) (hb1 : -H ≤ b)
    (hb2 : b < H) (hb : b ≠ 0) (hex : ¬ (a = -H ∧ b = -1)) :
    -H ≤ a / b ∧ a / b < H ∧ 0 ≤ a % b ∧ a % b < H := by
  have hid := Int.emod_add_mul_ediv a b
  have hr0 := Int.emod_nonneg a hb
  have hrlt := Int.emod_lt a hb
  have hq := Int.natAbs_ediv_le_natAbs a b
  generalize a / b = Q at *
  generalize a % b = R at *
  -- `|Q| ≤ |a| ≤ H` leaves only `Q = H`, `a = −H` to exclude: then `R + b·H = −H` with
  -- `0 ≤ R < |b| ≤ H` forces `b = −1`
  refine ⟨by omega, ?_, hr0, by omega⟩
  by_contra hcon
  obtain rfl : Q = H := by omega
  obtain rfl : a = -Q := by omega
  rcases Int.lt_or_gt_of_ne hb with hneg | hpos
  · have := Int.mul_nonneg (by omega : 0 ≤ -b - 2) (by omega : 0 ≤ Q)
    rw [Int.sub_mul, Int.neg_mul] at this
    omega
  · have := Int.mul_nonneg (Int.le_of_lt hpos) (by omega : 0 ≤ Q)
    omega

/-- truncating quotient and remainder stay in a signed range, except for `MIN / −1` -/
theorem signed_tdiv_range (H a b : Int) (ha1 : -H ≤ a) (ha2 : a < H) (hb1 : -H ≤ b)
    (hb2 : b < H) (hb : b ≠ 0) (hex : ¬ (a = -H ∧ b = -1)) :
    -H ≤ Int.tdiv a b ∧ Int.tdiv a b < H ∧ -H < Int.tmod a b ∧ Int.tmod a b < H := by
  have ⟨_, e2, _, _⟩ := signed_ediv_range H a b ha1 ha2 hb1 hb2 hb hex
  have hT := Int.natAbs_tdiv_le_natAbs a b
  have hm := Int.natAbs_tmod a b
  have hml := Nat.mod_lt a.natAbs (Int.natAbs_pos.2 hb)
  refine ⟨by omega, ?_, by omega, by omega⟩
  -- `tdiv` is the Euclidean quotient, moved one towards zero when `a < 0` and `b ∤ a`
  have hq := Int.tdiv_eq_ediv (a := a) (b := b)
  by_cases hc : 0 ≤ a ∨ b ∣ a
  · rw [if_pos hc] at hq; omega
  · rw [if_neg hc] at hq
    rcases Int.lt_or_gt_of_ne hb with hneg | hpos
    · rw [Int.sign_eq_neg_one_of_neg hneg] at hq; omega
    · have := Int.ediv_neg_of_neg_of_pos (by omega : a < 0) hpos
      rw [Int.sign_eq_one_of_pos hpos] at hq; omega

/-- the relation used by `div_rem_euclid`'s fix-up -/
theorem euclid_fixup (a b : Int) (hb : b ≠ 0) :
    (0 ≤ Int.tmod a b → Int.tdiv a b = a / b ∧ Int.tmod a b = a % b) ∧
    (Int.tmod a b < 0 → 0 ≤ b → Int.tdiv a b - 1 = a / b ∧ Int.tmod a b + b = a % b) ∧
    (Int.tmod a b < 0 → b < 0 → Int.tdiv a b + 1 = a / b ∧ Int.tmod a b - b = a % b) := by
  have hq := Int.tdiv_eq_ediv (a := a) (b := b)
  have hr := Int.tmod_eq_emod (a := a) (b := b)
  have hr0 := Int.emod_nonneg a hb
  have hrlt := Int.emod_lt a hb
  by_cases hc : 0 ≤ a ∨ b ∣ a
  · rw [if_pos hc] at hq hr
    refine ⟨fun _ => ⟨by omega, by omega⟩, fun h => by omega, fun h => by omega⟩
  · rw [if_neg hc] at hq hr
    rcases Int.lt_or_gt_of_ne hb with hneg | hpos
    · have hs : Int.sign b = -1 := Int.sign_eq_neg_one_of_neg hneg
      have hab : (b.natAbs : Int) = -b := by omega
      rw [hs] at hq; rw [hab] at hr hrlt
      refine ⟨fun h => by omega, fun _ h => by omega, fun _ _ => ⟨by omega, by omega⟩⟩
    · have hs : Int.sign b = 1 := Int.sign_eq_one_of_pos hpos
      have hab : (b.natAbs : Int) = b := by omega
      rw [hs] at hq; rw [hab] at hr hrlt
      refine ⟨fun h => by omega, fun _ _ => ⟨by omega, by omega⟩, fun _ h => by omega⟩

/-- quotient and remainder of in-range operands are in range (any type), outside the two panics -/
theorem results_inRange (t : PTy) (a b : Int) (ha : t.InRange a) (hbr : t.InRange b) (hb : b ≠ 0)
    (hex : ¬ (t.signed ∧ a = t.lo ∧ b = -1)) :
    t.InRange (Int.tdiv a b) ∧ t.InRange (Int.tmod a b) ∧ t.InRange (a / b) ∧ t.InRange (a % b) := by
  obtain ⟨bits, signed⟩ := t
  cases signed with
  | true =>
    simp only [PTy.InRange, PTy.lo, PTy.hi, if_true] at *
    generalize ((2 ^ (bits - 1) : Nat) : Int) = H at *
    have hex' : ¬ (a = -H ∧ b = -1) := fun h => hex ⟨trivial, h.1, h.2⟩
    have ⟨e1, e2, e3, e4⟩ := signed_ediv_range H a b ha.1 ha.2 hbr.1 hbr.2 hb hex'
    have ⟨f1, f2, f3, f4⟩ := signed_tdiv_range H a b ha.1 ha.2 hbr.1 hbr.2 hb hex'
    exact ⟨⟨f1, f2⟩, ⟨by omega, f4⟩, ⟨e1, e2⟩, ⟨by omega, e4⟩⟩
  | false =>
    simp only [PTy.InRange, PTy.lo, PTy.hi, Bool.false_eq_true, if_false] at *
    generalize ((2 ^ bits : Nat) : Int) = M at *
    have hbpos : 0 < b := by omega
    have h1 : Int.tdiv a b = a / b := Int.tdiv_eq_ediv_of_nonneg ha.1
    have h2 : Int.tmod a b = a % b := Int.tmod_eq_emod_of_nonneg ha.1
    have h3 := Int.ediv_nonneg ha.1 (Int.le_of_lt hbpos)
    have h4 := Int.ediv_le_self b ha.1
    have h5 := Int.emod_nonneg a hb
    have h6 := Int.emod_lt_of_pos a hbpos
    rw [h1, h2]
    exact ⟨⟨h3, by omega⟩, ⟨h5, by omega⟩, ⟨h3, by omega⟩, ⟨h5, by omega⟩⟩

theorem chk_ok {t : PTy} {x : Int} (h : t.InRange x) : chk t x = .ok x := if_pos h

end Dashu.Model.PrimDiv
