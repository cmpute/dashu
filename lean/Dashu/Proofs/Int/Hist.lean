import Dashu.Proofs.Int.Cmp
import Dashu.Proofs.Int.Pow
import Dashu.Proofs.Int.DivSign
import Dashu.Proofs.Int.BitsPrim
import Dashu.Model.Int.Hist
/-
  C05, the "whichever constructor or operation produced the values" quantifier.

  A *history* is a finite program over a register file of `IBig` values (a `UBig` is a non-negative
  one).  Every instruction is one of the library's producers, in the executable model proved about
  elsewhere: constructors / decoders (`const`: the value enters through `from_buffer`/`from_dword`,
  i.e. `SRepr.ofInt`; the decoders themselves are C07, `from_buffer` on raw buffers C17), `clone`,
  the ring operations (C01: `ibigAdd/ibigSub/ibigMul`, `sqr`, `pow`), division (C02:
  `ibigDiv/ibigRem`), the bit operators and shifts (C09).  `hrun` executes the program and stops at
  the first panic.

  Here: one instruction (`hstep_sound`) agrees with the same instruction on `Int` (`HAgree`: a
  canonical register of that value, or the same panic).  `HistX` adds the instructions of C12 and
  C07 and runs whole programs (`hrunX_sound`); the property theorems are in `Props/C05`:
  `history_canonical` (every register ever produced is canonical, `SCanon`), `history_values`
  (every register holds the value the same program computes on `Int`), `history_eq_cmp_hash`
  (consequently `==`, `cmp` and the hash feed of ANY two registers ever produced follow their values).
-/
namespace Dashu.Model

-- ================================================================== one step

theorem scanon_pos (W : Nat) (m : TRepr) (h : m.Canon W) : SCanon W ⟨false, m⟩ := ⟨h, by simp⟩

theorem ibigShl_spec' (W : Nat) (hW : 1 ≤ W) (a : SRepr) (n : Nat) (ha : SCanon W a) :
    SCanon W (ibigShl W a n) ∧ (ibigShl W a n).value W = a.value W * (2 : Int) ^ n := by
  have ⟨e, c⟩ := TRepr.shl_spec W hW a.mag n ha.1
  refine ⟨withSign_wf W _ _ c, ?_⟩
  unfold ibigShl
  rw [withSign_value, e]
  obtain ⟨an, am⟩ := a
  cases an <;> simp

theorem ibigShrRepr_spec (W : Nat) (hW : 1 ≤ W) (a : SRepr) (n : Nat) (byRef : Bool) (ha : SCanon W a) :
    SCanon W (ibigShrRepr W a n byRef) ∧ (ibigShrRepr W a n byRef).value W = a.value W / (2 : Int) ^ n := by
  have hfix := ibigShr_fixed W hW a n byRef ha
  have ⟨e, c⟩ := TRepr.shr_spec W hW a.mag n byRef ha.1
  obtain ⟨an, am⟩ := a
  cases an with
  | false =>
    simp only [ibigShrRepr, Bool.false_eq_true, if_false]
    refine ⟨scanon_pos W _ c, ?_⟩
    simp only [ibigShr, Bool.false_eq_true, if_false, specShr] at hfix
    rw [← hfix]; simp
  | true =>
    simp only [ibigShrRepr, if_true]
    have h1 : (SRepr.negate ⟨false, am.shr W n byRef⟩).WF W := SRepr.negate_wf W _ (scanon_pos W _ c)
    have h2 : (SRepr.mk false (.small (if am.areLowBitsNonzero W true n then 1 else 0))).WF W := by
      refine ⟨?_, by simp⟩
      show (if am.areLowBitsNonzero W true n then 1 else 0) < 2 ^ (2 * W)
      have : 1 < 2 ^ (2 * W) := Nat.one_lt_two_pow (by omega)
      split <;> omega
    have ⟨hv, hw⟩ := ibigSub_spec W hW _ _ 0 h1 h2
    refine ⟨hw, ?_⟩
    simp only [ibigShr, if_true, specShr] at hfix
    rw [hv, SRepr.negate_value, ← hfix]
    simp only [SRepr.value_mk_false, TRepr.value_small]
    split <;> simp

theorem isZero_iff_value {W : Nat} {r : TRepr} (hc : r.Canon W) : r.isZero = true ↔ r.value W = 0 := by
  constructor
  · intro h; rw [(TRepr.isZero_iff r).mp h]; rfl
  · intro h
    by_contra hz
    exact TRepr.value_ne_zero_of_not_isZero hc hz h

/-- agreement of one representation-level result with the value-level result -/
def HAgree (W : Nat) : HRes SRepr → HRes Int → Prop
  | .ok r, .ok v => SCanon W r ∧ r.value W = v
  | .panic k, .panic k' => k = k'
  | .bad, .bad => True
  | _, _ => False

theorem getElem?_map_value (W : Nat) (env : List SRepr) (i : Nat) :
    (env.map (·.value W))[i]? = (env[i]?).map (·.value W) := List.getElem?_map ..

theorem mem_of_getElem? {env : List SRepr} {i : Nat} {a : SRepr} (h : env[i]? = some a) : a ∈ env :=
  List.mem_of_getElem? h

theorem nonneg_value {W : Nat} {a : SRepr} (ha : SCanon W a) (hn : a.neg = false) :
    ¬ a.value W < 0 ∧ (a.value W).toNat = a.mag.value W := by
  obtain ⟨an, am⟩ := a
  simp only at hn; subst hn
  simp

theorem neg_value_lt {W : Nat} {a : SRepr} (ha : SCanon W a) (hn : a.neg = true) : a.value W < 0 := by
  obtain ⟨an, am⟩ := a
  simp only at hn; subst hn
  have h : am.value W ≠ 0 := ha.2 rfl
  simp only [SRepr.value_mk_true]; omega

/-- The steps that exist for non-negative operands only: both sides refuse a negative operand, and
    for a non-negative one a canonical magnitude of the right value agrees. -/
theorem hagree_unsigned {W : Nat} {a : SRepr} (ha : SCanon W a) {m : TRepr} (v : Nat → Nat)
    (h : m.value W = v (a.mag.value W) ∧ m.Canon W) :
    HAgree W (if a.neg then .bad else .ok ⟨false, m⟩)
      (if a.value W < 0 then .bad else .ok ((v (a.value W).toNat : Nat) : Int)) := by
  cases hn : a.neg with
  | true => simp [neg_value_lt ha hn, HAgree]
  | false =>
    have ⟨h1, h2⟩ := nonneg_value ha hn
    simp only [Bool.false_eq_true, if_false, h1, HAgree]
    exact ⟨scanon_pos W _ h.2, by rw [SRepr.value_mk_false, h.1, h2]⟩

/-- a step that reads two operands agrees when it agrees on every pair of operands present -/
theorem hagree_match2 {W : Nat} {x y : Option SRepr} {F : SRepr → SRepr → HRes SRepr}
    {G : Int → Int → HRes Int} :
    (∀ a b, x = some a → y = some b → HAgree W (F a b) (G (a.value W) (b.value W))) →
    HAgree W (match x, y with | some a, some b => F a b | _, _ => .bad)
      (match x.map (·.value W), y.map (·.value W) with | some a, some b => G a b | _, _ => .bad) := by
  intro h
  cases x <;> cases y <;> first | trivial | exact h _ _ rfl rfl

theorem hagree_match1 {W : Nat} {x : Option SRepr} {F : SRepr → HRes SRepr} {G : Int → HRes Int} :
    (∀ a, x = some a → HAgree W (F a) (G (a.value W))) →
    HAgree W (match x with | some a => F a | none => .bad)
      (match x.map (·.value W) with | some a => G a | none => .bad) := by
  intro h
  cases x <;> first | trivial | exact h _ rfl

theorem hstep_sound (W : Nat) (hW : 4 ≤ W) (env : List SRepr) (op : HOp) (hok : op.Ok W)
    (henv : ∀ r ∈ env, SCanon W r) :
    HAgree W (hstep W env op) (hspec W (env.map (·.value W)) op) := by
  have hW1 : 1 ≤ W := by omega
  cases op with
  | const z =>
    exact ⟨SRepr.ofInt_wf W hW1 z, SRepr.ofInt_value W hW1 z⟩
  | ones n =>
    refine ⟨scanon_pos W _ (reprOnes_canon_fixed W hW1 n), ?_⟩
    have := Nat.two_pow_pos n
    simp only [SRepr.value_mk_false, reprOnes_value]
    rw [Int.natCast_sub (by omega)]; simp
  | fromWords neg ws =>
    refine ⟨withSign_wf W _ _ (fromBuffer_canon W ws hok), ?_⟩
    rw [withSign_value, fromBuffer_value]
  | fromUnsigned v =>
    exact ⟨⟨fromUnsigned_canon W v hW1, by simp⟩, by simp [fromUnsigned_value W v hW1]⟩
  | fromSigned bits v =>
    exact fromSigned_spec W bits hW1 hok.1 v hok.2
  | setBit i n =>
    simp only [hstep, hspec, getElem?_map_value]
    refine hagree_match1 fun a h => ?_
    have ha := henv a (mem_of_getElem? h)
    exact hagree_unsigned ha (· ||| 2 ^ n) (TRepr.setBit_spec W hW1 a.mag n ha.1)
  | clearBit i n =>
    simp only [hstep, hspec, getElem?_map_value]
    refine hagree_match1 fun a h => ?_
    have ha := henv a (mem_of_getElem? h)
    exact hagree_unsigned ha (natAndNot · (2 ^ n)) (TRepr.clearBit_spec W hW1 a.mag n ha.1)
  | clearHigh i n =>
    simp only [hstep, hspec, getElem?_map_value]
    refine hagree_match1 fun a h => ?_
    have ha := henv a (mem_of_getElem? h)
    exact hagree_unsigned ha (· % 2 ^ n) (TRepr.clearHighBits_spec W hW1 a.mag n ha.1)
  | splitLo i n =>
    simp only [hstep, hspec, getElem?_map_value]
    refine hagree_match1 fun a h => ?_
    have ha := henv a (mem_of_getElem? h)
    exact hagree_unsigned ha (· % 2 ^ n) (TRepr.splitBits_spec W hW1 a.mag n ha.1).1
  | splitHi i n =>
    simp only [hstep, hspec, getElem?_map_value]
    refine hagree_match1 fun a h => ?_
    have ha := henv a (mem_of_getElem? h)
    exact hagree_unsigned ha (· / 2 ^ n) (TRepr.splitBits_spec W hW1 a.mag n ha.1).2
  | nextPow2 i =>
    simp only [hstep, hspec, getElem?_map_value]
    refine hagree_match1 fun a h => ?_
    have ha := henv a (mem_of_getElem? h)
    exact hagree_unsigned ha specNextPow2 (specNextPow2_eq _ ▸ TRepr.nextPow2_spec W hW1 a.mag ha.1)
  | clone i =>
    simp only [hstep, hspec, getElem?_map_value]
    exact hagree_match1 fun a h => ⟨henv a (mem_of_getElem? h), rfl⟩
  | neg i =>
    simp only [hstep, hspec, getElem?_map_value]
    exact hagree_match1 fun a h => ⟨SRepr.negate_wf W a (henv a (mem_of_getElem? h)), SRepr.negate_value W a⟩
  | abs i =>
    simp only [hstep, hspec, getElem?_map_value]
    refine hagree_match1 fun a h => ?_
    have ha := henv a (mem_of_getElem? h)
    refine ⟨scanon_pos W _ ha.1, ?_⟩
    obtain ⟨an, am⟩ := a
    cases an <;> simp
  | not i =>
    simp only [hstep, hspec, getElem?_map_value]
    refine hagree_match1 fun a h => ?_
    have ⟨e, c⟩ := ibigNot_spec W hW1 a (henv a (mem_of_getElem? h))
    exact ⟨c, e⟩
  | sqr i =>
    simp only [hstep, hspec, getElem?_map_value]
    refine hagree_match1 fun a h => ?_
    have ha := henv a (mem_of_getElem? h)
    have ⟨e, c⟩ := TRepr.sqr_spec W hW a.mag ha.1
    refine ⟨scanon_pos W _ c, ?_⟩
    obtain ⟨an, am⟩ := a
    simp only [SRepr.value_mk_false, e]
    cases an <;> simp
  | pow i e =>
    simp only [hstep, hspec, getElem?_map_value]
    refine hagree_match1 fun a h => ?_
    have ha := henv a (mem_of_getElem? h)
    have hn : (a.value W).natAbs = a.mag.value W := by
      obtain ⟨an, am⟩ := a
      cases an <;> simp
    simp only [ibigPowChecked, hn]
    split
    · rfl
    · have ⟨hv, hw⟩ := ibigPow_spec W hW a e ha
      exact ⟨hw, hv⟩
  | shl i n =>
    simp only [hstep, hspec, getElem?_map_value]
    exact hagree_match1 fun a h => ibigShl_spec' W hW1 a n (henv a (mem_of_getElem? h))
  | shr i n r =>
    simp only [hstep, hspec, getElem?_map_value]
    exact hagree_match1 fun a h => ibigShrRepr_spec W hW1 a n r (henv a (mem_of_getElem? h))
  | add i j f =>
    simp only [hstep, hspec, getElem?_map_value]
    refine hagree_match2 fun a b h h' => ?_
    have ⟨hv, hw⟩ := ibigAdd_spec W hW1 a b f (henv a (mem_of_getElem? h)) (henv b (mem_of_getElem? h'))
    exact ⟨hw, hv⟩
  | sub i j f =>
    simp only [hstep, hspec, getElem?_map_value]
    refine hagree_match2 fun a b h h' => ?_
    have ⟨hv, hw⟩ := ibigSub_spec W hW1 a b f (henv a (mem_of_getElem? h)) (henv b (mem_of_getElem? h'))
    exact ⟨hw, hv⟩
  | mul i j =>
    simp only [hstep, hspec, getElem?_map_value]
    refine hagree_match2 fun a b h h' => ?_
    have ⟨hv, hw⟩ := ibigMul_spec W hW a b (henv a (mem_of_getElem? h)) (henv b (mem_of_getElem? h'))
    exact ⟨hw, hv⟩
  | div i j =>
    simp only [hstep, hspec, getElem?_map_value]
    refine hagree_match2 fun a b h h' => ?_
    rw [Div.ibigDiv_eq W hW1 hW a b (henv a (mem_of_getElem? h)) (henv b (mem_of_getElem? h'))]
    by_cases hz : b.value W = 0
    · simp only [hz, if_true, ofExcept]; rfl
    · simp only [hz, if_false, ofExcept]
      exact ⟨SRepr.ofInt_wf W hW1 _, SRepr.ofInt_value W hW1 _⟩
  | rem i j =>
    simp only [hstep, hspec, getElem?_map_value]
    refine hagree_match2 fun a b h h' => ?_
    rw [Div.ibigRem_eq W hW1 hW a b (henv a (mem_of_getElem? h)) (henv b (mem_of_getElem? h'))]
    by_cases hz : b.value W = 0
    · simp only [hz, if_true, ofExcept]; rfl
    · simp only [hz, if_false, ofExcept]
      exact ⟨SRepr.ofInt_wf W hW1 _, SRepr.ofInt_value W hW1 _⟩
  | divEuclid i j =>
    simp only [hstep, hspec, getElem?_map_value]
    refine hagree_match2 fun a b h h' => ?_
    rw [Div.ibigDivEuclid_eq W hW1 hW a b (henv a (mem_of_getElem? h)) (henv b (mem_of_getElem? h'))]
    by_cases hz : b.value W = 0
    · simp only [hz, if_true, ofExcept]; rfl
    · simp only [hz, if_false, ofExcept]
      exact ⟨SRepr.ofInt_wf W hW1 _, SRepr.ofInt_value W hW1 _⟩
  | remEuclid i j rv =>
    simp only [hstep, hspec, getElem?_map_value]
    refine hagree_match2 fun a b h h' => ?_
    rw [Div.ibigRemEuclid_eq W hW1 hW a b rv (henv a (mem_of_getElem? h)) (henv b (mem_of_getElem? h'))]
    by_cases hz : b.value W = 0
    · simp only [hz, if_true, Except.map, ofExcept]; rfl
    · simp only [hz, if_false, Except.map, ofExcept]
      refine ⟨scanon_pos W _ (ofNat_canon W hW1 _), ?_⟩
      rw [SRepr.value_mk_false, ofNat_value W hW1, Int.toNat_of_nonneg (Int.emod_nonneg _ hz)]
  | and i j =>
    simp only [hstep, hspec, getElem?_map_value]
    refine hagree_match2 fun a b h h' => ?_
    have ⟨hv, hw⟩ := ibigAnd_spec W hW1 a b (henv a (mem_of_getElem? h)) (henv b (mem_of_getElem? h'))
    exact ⟨hw, hv⟩
  | or i j =>
    simp only [hstep, hspec, getElem?_map_value]
    refine hagree_match2 fun a b h h' => ?_
    have ⟨hv, hw⟩ := ibigOr_spec W hW1 a b (henv a (mem_of_getElem? h)) (henv b (mem_of_getElem? h'))
    exact ⟨hw, hv⟩
  | xor i j =>
    simp only [hstep, hspec, getElem?_map_value]
    refine hagree_match2 fun a b h h' => ?_
    have ⟨hv, hw⟩ := ibigXor_spec W hW1 a b (henv a (mem_of_getElem? h)) (henv b (mem_of_getElem? h'))
    exact ⟨hw, hv⟩

end Dashu.Model
