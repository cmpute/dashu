import Dashu.Proofs.Int.Div
/-
  Composition of Toom-3 with the kernels of other properties.

  `toom_3::add_signed_mul_same_len` divides its interpolation buffers by
  `div::div_by_word_in_place(t1, 6)` and `shift::shr_in_place(t2, 1)`.  Those kernels are mirrored in
  `Model/Int/Div.lean` (C02), which itself calls the mirrored multiplication, so they live downstream
  of `Model/Int/Mul.lean`, where `toomScratch` writes the quotients as "the `2·n3 + 2` words of
  `val / 6`, `val / 2`".  Here: that text is *exactly* what the mirrored kernels return, for every input,
  and on the Toom-3 buffers both remainders are zero (`assert_eq!(t1_rem, 0)`, `assert_eq!(t2_rem, 0)`).
  So no step of `toom3SameLen` is left at its specification.
-/
namespace Dashu.Model

/-- fixed-length word lists are determined by their value -/
theorem val_inj (W : Nat) : ∀ (a b : List Nat), IsWords W a → IsWords W b → a.length = b.length →
    val W a = val W b → a = b := by
  intro a
  induction a with
  | nil =>
    intro b _ _ hl _
    cases b with
    | nil => rfl
    | cons y ys => simp at hl
  | cons x xs ih =>
    intro b ha hb hl hv
    cases b with
    | nil => simp at hl
    | cons y ys =>
      have hp : 0 < 2 ^ W := Nat.two_pow_pos W
      have hx := ha.head
      have hy := hb.head
      simp only [val_cons] at hv
      have hxy : x = y := by
        have h1 : (x + 2 ^ W * val W xs) % 2 ^ W = x := by
          rw [Nat.add_mul_mod_self_left]; exact Nat.mod_eq_of_lt hx
        have h2 : (y + 2 ^ W * val W ys) % 2 ^ W = y := by
          rw [Nat.add_mul_mod_self_left]; exact Nat.mod_eq_of_lt hy
        rw [← h1, ← h2, hv]
      subst hxy
      have hvs : val W xs = val W ys := by
        have : 2 ^ W * val W xs = 2 ^ W * val W ys := by omega
        exact Nat.eq_of_mul_eq_mul_left hp this
      rw [ih ys ha.tail hb.tail (by simpa using hl) hvs]

/-- a word list is the fixed-length expansion of its own value -/
theorem wordsOfLen_val (W : Nat) (qs : List Nat) (h : IsWords W qs) :
    wordsOfLen W qs.length (val W qs) = qs := by
  obtain ⟨w1, w2, w3⟩ := wordsOfLen_spec W qs.length (val W qs)
  rw [Nat.mod_eq_of_lt (val_lt W qs h)] at w1
  exact val_inj W _ _ w3 h w2 w1

/-- `div_by_word_in_place(t, 6)` returns exactly the words of `val t / 6` and the remainder `val t % 6` -/
theorem divByWord6_eq (W : Nat) (hW : 3 ≤ W) (t : List Nat) (ht : IsWords W t) :
    Div.divByWordInPlace W t 6 = .ok (wordsOfLen W t.length (val W t / 6), val W t % 6) := by
  have h6 : 6 < 2 ^ W := Nat.lt_of_lt_of_le (by decide) (Nat.pow_le_pow_right (by omega) hW : 2 ^ 3 ≤ 2 ^ W)
  obtain ⟨qs, r, e, hv, hr, hl, hw⟩ := Div.divByWordInPlace_spec W 6 t ht (by decide) h6
  have hq : val W t / 6 = val W qs := by
    rw [← hv]; omega
  have hm : val W t % 6 = r := by
    rw [← hv]; omega
  rw [e, hq, hm, ← hl, wordsOfLen_val W qs hw]

/-- `shr_in_place(t, 1)` returns exactly the words of `val t / 2`; the shifted-out bit comes back in the top
    bit of the returned word -/
theorem shrInPlace1_eq (W : Nat) (hW : 1 ≤ W) (t : List Nat) (ht : IsWords W t) :
    Div.shrInPlace W t 1 = (wordsOfLen W t.length (val W t / 2), (val W t % 2) * 2 ^ (W - 1)) := by
  obtain ⟨k', h2, hk, hv, hl, hw⟩ := Div.shrInPlace_spec W 1 hW t ht
  generalize Div.shrInPlace W t 1 = res at h2 hv hl hw
  obtain ⟨qs, c⟩ := res
  simp only at h2 hv hl hw
  have hq : val W t / 2 = val W qs := by
    rw [← hv]; simp only [Nat.pow_one] at hk ⊢; omega
  have hm : val W t % 2 = k' := by
    rw [← hv]; simp only [Nat.pow_one] at hk ⊢; omega
  rw [hq, hm, ← hl, wordsOfLen_val W qs hw, h2]

end Dashu.Model
