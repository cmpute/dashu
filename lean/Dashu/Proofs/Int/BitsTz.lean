import Dashu.Proofs.Int.Bits
/-
  C09: `IsTz` (the arithmetic characterisation used by the trailing_zeros / trailing_ones theorems) read as
  two's-complement BITS, for integers of either sign.
-/
namespace Dashu.Model

/-- bits of a natural number with `k` trailing zeros -/
theorem IsTz.nat_bits {n k : Nat} (h : IsTz n k) : (∀ i, i < k → n.testBit i = false) ∧ n.testBit k = true := by
  obtain ⟨j, rfl⟩ := isTz_iff.1 h
  exact ⟨fun i hi => by rw [(testBit_odd_mul k j i).1, if_pos hi],
    by rw [(testBit_odd_mul k j k).1, if_neg (Nat.lt_irrefl k), if_pos rfl]⟩

/-- bits of `n - 1` when `n` has `k` trailing zeros: `k` ones, then a zero -/
theorem IsTz.pred_bits {n k : Nat} (h : IsTz n k) :
    (∀ i, i < k → (n - 1).testBit i = true) ∧ (n - 1).testBit k = false :=
  ⟨fun i hi => by rw [h.testBit_pred, if_pos hi],
   by rw [h.testBit_pred, if_neg (Nat.lt_irrefl k), if_pos rfl]⟩

/-- **trailing zeros as bits, either sign**: if `|x|` has 2-adic valuation `k` then in two's complement bits `0..k-1` of `x`
    are 0 and bit `k` is 1 (for negative `x = -n` the bits are those of `!(n - 1)`) -/
theorem tz_bits (x : Int) (k : Nat) (h : IsTz x.natAbs k) :
    (∀ i, i < k → Int.testBit x i = false) ∧ Int.testBit x k = true := by
  cases x with
  | ofNat n =>
    have := h.nat_bits
    simpa [Int.testBit] using this
  | negSucc m =>
    have hn : (Int.negSucc m).natAbs = m + 1 := rfl
    rw [hn] at h
    have := h.pred_bits
    simp only [Nat.add_sub_cancel] at this
    refine ⟨fun i hi => ?_, ?_⟩
    · simp [Int.testBit, this.1 i hi]
    · simp [Int.testBit, this.2]

/-- **trailing ones as bits, either sign**: if `|x + 1|` has valuation `k` then bits `0..k-1` of `x` are 1 and bit `k` is 0 -/
theorem to_bits (x : Int) (k : Nat) (h : IsTz (x + 1).natAbs k) :
    (∀ i, i < k → Int.testBit x i = true) ∧ Int.testBit x k = false := by
  have hx : x = compl (-(x + 1)) := by unfold compl; omega
  have hn : (-(x + 1)).natAbs = (x + 1).natAbs := Int.natAbs_neg _
  have ht := tz_bits (-(x + 1)) k (by rw [hn]; exact h)
  refine ⟨fun i hi => ?_, ?_⟩
  · rw [hx, ← specBit_eq_testBit, specBit_compl, specBit_eq_testBit, ht.1 i hi]; rfl
  · rw [hx, ← specBit_eq_testBit, specBit_compl, specBit_eq_testBit, ht.2]; rfl

end Dashu.Model
