import Dashu.Proofs.Int.Div
import Dashu.Proofs.Int.Ops
/-
  The sign tables of `div_ops.rs` (`impl_ibig_div` … `impl_ubig_ibig_divrem`, and the IBig forms through a prepared
  `ConstDivisor`) over the dispatch of `Div`: every form as a function of the values of well-formed operands.  Kept apart
  from `Div` because `Ops` declares names (`shlInPlace` …) that the division model also uses.
-/
namespace Dashu.Model.Div
open Dashu.Model

-- ------------------------------------------------------------------ sign tables (`div_ops.rs`) as functions of the values

/-- a well-formed signed representation is `SRepr.ofInt` of its value -/
theorem eq_ofInt {W : Nat} (hW : 1 ≤ W) {r : SRepr} {z : Int} (hw : r.WF W) (hv : r.value W = z) :
    r = SRepr.ofInt W z := by
  obtain ⟨neg, mag⟩ := r
  subst hv
  have hm := hw.1.eq_ofNat
  unfold SRepr.ofInt SRepr.value
  cases neg
  · have : ¬ ((mag.value W : Int) < 0) := by omega
    simp only [Bool.false_eq_true, if_false, this, decide_false, Int.natAbs_natCast, ← hm]
  · have h0 := hw.2 rfl
    have : -(mag.value W : Int) < 0 := by simp only at h0; omega
    simp only [if_true, this, decide_true, Int.natAbs_neg, Int.natAbs_natCast, ← hm]

theorem withSign_ofNat (W : Nat) (hW : 1 ≤ W) (n : Nat) (s : Bool) :
    withSign (ofNat W n) s = SRepr.ofInt W (if s then -(n : Int) else n) :=
  eq_ofInt hW (withSign_wf W _ _ (ofNat_canon W hW n)) (by rw [withSign_value, ofNat_value W hW])

theorem srepr_value_zero_iff (W : Nat) (r : SRepr) : r.value W = 0 ↔ r.mag.value W = 0 := by
  unfold SRepr.value; cases r.neg <;> simp

theorem tdiv_signs (an bn : Bool) (x y : Nat) :
    (if (an != bn) = true then -(((x / y : Nat)) : Int) else ((x / y : Nat) : Int))
      = Int.tdiv (if an then -(x : Int) else x) (if bn then -(y : Int) else y) := by
  have e : Int.tdiv (x : Int) (y : Int) = ((x / y : Nat) : Int) := by
    rw [Int.tdiv_eq_ediv_of_nonneg (Int.natCast_nonneg x)]; exact (Int.natCast_ediv x y).symm
  cases an <;> cases bn <;> simp [Int.tdiv_neg, Int.neg_tdiv, e]

theorem tmod_signs (an bn : Bool) (x y : Nat) :
    (if an = true then -(((x % y : Nat)) : Int) else ((x % y : Nat) : Int))
      = Int.tmod (if an then -(x : Int) else x) (if bn then -(y : Int) else y) := by
  have e : Int.tmod (x : Int) (y : Int) = ((x % y : Nat) : Int) := by
    rw [Int.tmod_eq_emod_of_nonneg (Int.natCast_nonneg x)]; exact (Int.natCast_emod x y).symm
  cases an <;> cases bn <;> simp [Int.tmod_neg, Int.neg_tmod, e]

/-- Euclidean quotient from the truncated quotient/remainder of the magnitudes -/
theorem ediv_signs (an bn : Bool) (x y : Nat) (hy : y ≠ 0) :
    (if (an != bn) = true then -(((if !an || decide (x % y = 0) then x / y else x / y + 1 : Nat)) : Int)
      else ((if !an || decide (x % y = 0) then x / y else x / y + 1 : Nat) : Int))
      = (if an then -(x : Int) else x) / (if bn then -(y : Int) else y) := by
  have hdm := Nat.div_add_mod x y
  have hlt := Nat.mod_lt x (Nat.pos_of_ne_zero hy)
  generalize x / y = q at *
  generalize x % y = r at *
  have hyI : (0 : Int) < (y : Int) := by omega
  have hx : (x : Int) = (y : Int) * q + r := by exact_mod_cast hdm.symm
  symm
  cases an <;> cases bn <;> simp only [Bool.not_false, Bool.not_true, Bool.true_or, Bool.false_or, if_true,
    Bool.false_eq_true, if_false, bne_self_eq_false, Bool.bne_true, Bool.bne_false]
  · -- x / y
    exact ((Int.ediv_emod_unique (a := (x : Int)) (q := (q : Int)) (r := (r : Int)) hyI).mpr
      ⟨by rw [hx]; ring, by omega, by omega⟩).1
  · -- x / (-y) = -(x / y)
    rw [Int.ediv_neg]
    have := ((Int.ediv_emod_unique (a := (x : Int)) (q := (q : Int)) (r := (r : Int)) hyI).mpr
      ⟨by rw [hx]; ring, by omega, by omega⟩).1
    rw [this]
  · -- (-x) / y
    by_cases hr : r = 0
    · subst hr
      simp only [decide_true, if_true]
      have := ((Int.ediv_emod_unique (a := -(x : Int)) (q := -(q : Int)) (r := 0) hyI).mpr
        ⟨by rw [hx]; push_cast; ring, by omega, by omega⟩).1
      simp [this]
    · simp only [hr, decide_false, Bool.false_eq_true, if_false]
      have := ((Int.ediv_emod_unique (a := -(x : Int)) (q := -((q : Int) + 1)) (r := (y : Int) - r) hyI).mpr
        ⟨by rw [hx]; ring, by omega, by omega⟩).1
      rw [this]; push_cast; ring
  · -- (-x) / (-y)
    rw [Int.ediv_neg]
    by_cases hr : r = 0
    · subst hr
      simp only [decide_true, if_true]
      have := ((Int.ediv_emod_unique (a := -(x : Int)) (q := -(q : Int)) (r := 0) hyI).mpr
        ⟨by rw [hx]; push_cast; ring, by omega, by omega⟩).1
      simp [this]
    · simp only [hr, decide_false, Bool.false_eq_true, if_false]
      have := ((Int.ediv_emod_unique (a := -(x : Int)) (q := -((q : Int) + 1)) (r := (y : Int) - r) hyI).mpr
        ⟨by rw [hx]; ring, by omega, by omega⟩).1
      rw [this]; push_cast; ring

theorem emod_signs (an bn : Bool) (x y : Nat) (hy : y ≠ 0) :
    ((if !an || decide (x % y = 0) then x % y else y - x % y : Nat) : Int)
      = (if an then -(x : Int) else x) % (if bn then -(y : Int) else y) := by
  have hdm := Nat.div_add_mod x y
  have hlt := Nat.mod_lt x (Nat.pos_of_ne_zero hy)
  generalize x / y = q at *
  generalize x % y = r at *
  have hyI : (0 : Int) < (y : Int) := by omega
  have hx : (x : Int) = (y : Int) * q + r := by exact_mod_cast hdm.symm
  have hb : ∀ t : Int, t % (if bn then -(y : Int) else y) = t % (y : Int) := by
    intro t; cases bn <;> simp [Int.emod_neg]
  rw [hb]
  symm
  cases an <;> simp only [Bool.not_false, Bool.not_true, Bool.true_or, Bool.false_or, if_true,
    Bool.false_eq_true, if_false]
  · exact ((Int.ediv_emod_unique (a := (x : Int)) (q := (q : Int)) (r := (r : Int)) hyI).mpr
      ⟨by rw [hx]; ring, by omega, by omega⟩).2
  · by_cases hr : r = 0
    · subst hr
      simp only [decide_true, if_true]
      exact ((Int.ediv_emod_unique (a := -(x : Int)) (q := -(q : Int)) (r := 0) hyI).mpr
        ⟨by rw [hx]; push_cast; ring, by omega, by omega⟩).2
    · simp only [hr, decide_false, Bool.false_eq_true, if_false]
      have := ((Int.ediv_emod_unique (a := -(x : Int)) (q := -((q : Int) + 1)) (r := (y : Int) - r) hyI).mpr
        ⟨by rw [hx]; ring, by omega, by omega⟩).2
      rw [this]; omega

/-- the three `TypedRepr` operators by the magnitude of a signed divisor, the zero test on the signed value -/
theorem mag_eq (W : Nat) (hW : 1 ≤ W) (hW4 : 4 ≤ W) (a : TRepr) (b : SRepr) (ha : a.Canon W) (hb : b.WF W) :
    divRemRepr W a b.mag = (if b.value W = 0 then .error .divideByZero
      else .ok (ofNat W (a.value W / b.mag.value W), ofNat W (a.value W % b.mag.value W))) ∧
    divRepr W a b.mag = (if b.value W = 0 then .error .divideByZero else .ok (ofNat W (a.value W / b.mag.value W))) ∧
    remRepr W a b.mag = (if b.value W = 0 then .error .divideByZero else .ok (ofNat W (a.value W % b.mag.value W))) := by
  have h := repr_eq W hW hW4 a b.mag ha hb.1
  by_cases h0 : b.value W = 0
  · simpa only [h0, (srepr_value_zero_iff W b).mp h0, if_true] using h
  · simpa only [h0, mt (srepr_value_zero_iff W b).mpr h0, if_false] using h

/-
  In each proof below the kernel is rewritten by `mag_eq`; the sign fix-up then acts on `ofNat`s (`withSign_ofNat`,
  `ofNat_isZero`, `addOneRepr_eq`, `TRepr.sub_eq`), and what it computes from signs and magnitudes is the `Int`
  operation of the values by `tdiv_signs`, `tmod_signs`, `ediv_signs`, `emod_signs`.
-/

/-- `impl_ibig_div` (also `IBig / UBig`, `UBig / IBig`): truncating quotient -/
theorem ibigDiv_eq (W : Nat) (hW : 1 ≤ W) (hW4 : 4 ≤ W) (a b : SRepr) (ha : a.WF W) (hb : b.WF W) :
    ibigDiv W a b = (if b.value W = 0 then .error .divideByZero
      else .ok (SRepr.ofInt W (Int.tdiv (a.value W) (b.value W)))) := by
  unfold ibigDiv
  rw [(mag_eq W hW hW4 a.mag b ha.1 hb).2.1]
  split
  · rfl
  · show Except.ok (withSign (ofNat W _) _) = _
    rw [withSign_ofNat W hW, tdiv_signs]; rfl

/-- `impl_ibig_rem` (also `IBig % UBig`): remainder with the sign of the dividend -/
theorem ibigRem_eq (W : Nat) (hW : 1 ≤ W) (hW4 : 4 ≤ W) (a b : SRepr) (ha : a.WF W) (hb : b.WF W) :
    ibigRem W a b = (if b.value W = 0 then .error .divideByZero
      else .ok (SRepr.ofInt W (Int.tmod (a.value W) (b.value W)))) := by
  unfold ibigRem
  rw [(mag_eq W hW hW4 a.mag b ha.1 hb).2.2]
  split
  · rfl
  · show Except.ok (withSign (ofNat W _) _) = _
    rw [withSign_ofNat W hW, tmod_signs a.neg b.neg]; rfl

/-- `impl_ibig_divrem` -/
theorem ibigDivRem_eq (W : Nat) (hW : 1 ≤ W) (hW4 : 4 ≤ W) (a b : SRepr) (ha : a.WF W) (hb : b.WF W) :
    ibigDivRem W a b = (if b.value W = 0 then .error .divideByZero
      else .ok (SRepr.ofInt W (Int.tdiv (a.value W) (b.value W)), SRepr.ofInt W (Int.tmod (a.value W) (b.value W)))) := by
  unfold ibigDivRem
  rw [(mag_eq W hW hW4 a.mag b ha.1 hb).1]
  split
  · rfl
  · show Except.ok (withSign (ofNat W _) _, withSign (ofNat W _) _) = _
    rw [withSign_ofNat W hW, withSign_ofNat W hW, tdiv_signs, tmod_signs a.neg b.neg]; rfl

/-- `impl_ibig_div_euclid`: Euclidean quotient (the `add_one` correction for a negative dividend with non-zero
    remainder) -/
theorem ibigDivEuclid_eq (W : Nat) (hW : 1 ≤ W) (hW4 : 4 ≤ W) (a b : SRepr) (ha : a.WF W) (hb : b.WF W) :
    ibigDivEuclid W a b = (if b.value W = 0 then .error .divideByZero
      else .ok (SRepr.ofInt W (a.value W / b.value W))) := by
  unfold ibigDivEuclid
  rw [(mag_eq W hW hW4 a.mag b ha.1 hb).1]
  split
  · rfl
  · next h0 =>
    have hy : b.mag.value W ≠ 0 := mt (srepr_value_zero_iff W b).mpr h0
    show Except.ok (withSign (if (!a.neg || (ofNat W _).isZero) = true then ofNat W _
      else addOneRepr W (ofNat W _)) _) = _
    rw [ofNat_isZero, addOneRepr_eq W hW _ (ofNat_canon W hW _), ofNat_value W hW, ← apply_ite (ofNat W),
      withSign_ofNat W hW, ediv_signs a.neg b.neg _ _ hy]
    rfl

/-- `impl_ibig_rem_euclid` → `UBig`: Euclidean remainder (`mag1 − r` for a negative dividend with non-zero
    remainder; the subtraction never underflows), both `Sub` impls it can use -/
theorem ibigRemEuclid_eq (W : Nat) (hW : 1 ≤ W) (hW4 : 4 ≤ W) (a b : SRepr) (refVal : Bool) (ha : a.WF W)
    (hb : b.WF W) :
    ibigRemEuclid W a b refVal = (if b.value W = 0 then .error .divideByZero
      else .ok (ofNat W (a.value W % b.value W).toNat)) := by
  have hr := (mag_eq W hW hW4 a.mag b ha.1 hb).2.2
  unfold ibigRemEuclid
  by_cases h0 : b.value W = 0
  · simp only [hr, h0, if_true]; cases a.neg <;> rfl
  · have hy : b.mag.value W ≠ 0 := mt (srepr_value_zero_iff W b).mpr h0
    have hlt := Nat.mod_lt (a.mag.value W) (Nat.pos_of_ne_zero hy)
    have hv : (a.value W % b.value W).toNat = (if !a.neg || decide (a.mag.value W % b.mag.value W = 0)
        then a.mag.value W % b.mag.value W else b.mag.value W - a.mag.value W % b.mag.value W) :=
      (congrArg Int.toNat (emod_signs a.neg b.neg _ _ hy).symm).trans (Int.toNat_natCast _)
    rw [hr, if_neg h0, if_neg h0, hv]
    cases a.neg
    · rfl
    · show (if (ofNat W _).isZero = true then _ else _) = _
      rw [ofNat_isZero, TRepr.sub_eq refVal hb.1 (ofNat_canon W hW _), ofNat_value W hW, if_pos (Nat.le_of_lt hlt)]
      by_cases hz : a.mag.value W % b.mag.value W = 0 <;> simp [hz, pure, Except.pure]

/-- `impl_ibig_divrem_euclid` → `(IBig, UBig)`: what `div_euclid` and `rem_euclid` return -/
theorem ibigDivRemEuclid_eq (W : Nat) (hW : 1 ≤ W) (hW4 : 4 ≤ W) (a b : SRepr) (refVal : Bool) (ha : a.WF W)
    (hb : b.WF W) :
    ibigDivRemEuclid W a b refVal = (if b.value W = 0 then .error .divideByZero
      else .ok (SRepr.ofInt W (a.value W / b.value W), ofNat W (a.value W % b.value W).toNat)) := by
  have hd := (mag_eq W hW hW4 a.mag b ha.1 hb).1
  unfold ibigDivRemEuclid
  by_cases h0 : b.value W = 0
  · simp only [hd, h0, if_true]; cases a.neg <;> rfl
  · have hy : b.mag.value W ≠ 0 := mt (srepr_value_zero_iff W b).mpr h0
    have hlt := Nat.mod_lt (a.mag.value W) (Nat.pos_of_ne_zero hy)
    have kq := ediv_signs a.neg b.neg (a.mag.value W) (b.mag.value W) hy
    have kr := (congrArg Int.toNat (emod_signs a.neg b.neg (a.mag.value W) (b.mag.value W) hy).symm).trans
      (Int.toNat_natCast _)
    have eq : a.value W / b.value W = _ := kq.symm
    have er : (a.value W % b.value W).toNat = _ := kr
    rw [hd, if_neg h0, if_neg h0, eq, er]
    cases a.neg
    · simp [bind, Except.bind, pure, Except.pure, withSign_ofNat W hW]
    · show (if (ofNat W _).isZero = true then _ else _) = _
      rw [ofNat_isZero, TRepr.sub_eq refVal hb.1 (ofNat_canon W hW _), ofNat_value W hW, if_pos (Nat.le_of_lt hlt),
        addOneRepr_eq W hW _ (ofNat_canon W hW _), ofNat_value W hW]
      by_cases hz : a.mag.value W % b.mag.value W = 0 <;>
        simp [hz, bind, Except.bind, pure, Except.pure, withSign_ofNat W hW]

/-- `impl_ubig_ibig_divrem` → `(IBig, UBig)` -/
theorem ubigIbigDivRem_eq (W : Nat) (hW : 1 ≤ W) (hW4 : 4 ≤ W) (a : TRepr) (b : SRepr) (ha : a.Canon W)
    (hb : b.WF W) :
    ubigIbigDivRem W a b = (if b.value W = 0 then .error .divideByZero
      else .ok (SRepr.ofInt W (Int.tdiv (a.value W) (b.value W)), ofNat W (a.value W % b.mag.value W))) := by
  unfold ubigIbigDivRem
  rw [(mag_eq W hW hW4 a b ha hb).1]
  split
  · rfl
  · show Except.ok (withSign (ofNat W _) _, _) = _
    have k := tdiv_signs false b.neg (a.value W) (b.mag.value W)
    simp only [Bool.false_bne, Bool.false_eq_true, if_false] at k
    rw [withSign_ofNat W hW, k]; rfl

/-- `Div/Rem/DivRem<&ConstDivisor> for IBig`: truncating quotient and remainder by the (positive) divisor -/
theorem ibigConst_eq (W : Nat) (hW : 1 ≤ W) (hW4 : 4 ≤ W) (a : SRepr) (b : Nat) (c : ConstDiv) (ha : a.WF W)
    (hv : c.Valid W b) :
    ibigDivRemConst W a c = .ok (SRepr.ofInt W (Int.tdiv (a.value W) b), SRepr.ofInt W (Int.tmod (a.value W) b)) ∧
    ibigDivConst W a c = .ok (SRepr.ofInt W (Int.tdiv (a.value W) b)) ∧
    ibigRemConst W a c = .ok (SRepr.ofInt W (Int.tmod (a.value W) b)) := by
  obtain ⟨e, ed, er⟩ := const_eq W hW hW4 a.mag b c ha.1 hv
  have kq := tdiv_signs a.neg false (a.mag.value W) b
  have kr := tmod_signs a.neg false (a.mag.value W) b
  simp only [Bool.bne_false] at kq
  simp only [ibigDivRemConst, ibigDivConst, ibigRemConst, e, ed, er, bind, Except.bind, pure, Except.pure,
    withSign_ofNat W hW, kq, kr]
  exact ⟨rfl, rfl, rfl⟩

end Dashu.Model.Div
