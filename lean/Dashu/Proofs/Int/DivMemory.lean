import Dashu.Model.Int.DivMemory
import Dashu.Proofs.Int.Memory
/-
  `div::memory_requirement_exact` suffices for every scratch allocation made during a division, for
  all operand lengths: the "internal error: not enough memory allocated" branch of memory.rs is
  unreachable from `div_rem_in_place`.  Here: the two Burnikel–Ziegler halves and the block loop; the
  statement for all lengths is `Props.C02.div_scratch_memory_suffices`.
-/
namespace Dashu.Model.Div
open Dashu.Model

/-- both halves of Burnikel–Ziegler stay within any chunk that covers multiplications whose shorter
    operand has at most `S` words, as long as the sizes they are called with respect `S` -/
theorem memBz_ok (S avail : Nat) (h : mulMemReq S ≤ avail) : ∀ fuel : Nat,
    (∀ n, n / 2 ≤ S → memBzSameLen fuel n avail = .ok ()) ∧
    (∀ n m, m ≤ n → min m (n - m) ≤ S → m / 2 ≤ S → memBzSmallQuotient fuel n m avail = .ok ()) := by
  intro fuel
  induction fuel with
  | zero => exact ⟨fun _ _ => by simp [memBzSameLen], fun _ _ _ _ _ => by simp [memBzSmallQuotient]⟩
  | succ fuel ih =>
    obtain ⟨ihS, ihQ⟩ := ih
    constructor
    · intro n hn
      have h1 := ihQ n (n - n / 2) (by omega) (by omega) (by omega)
      have h2 := ihQ n (n / 2) (by omega) (by omega) (by omega)
      simp only [memBzSameLen, h1, h2, bind, Except.bind]
    · intro n m hmn hmin hm2
      simp only [memBzSmallQuotient]
      split
      · rfl
      · have h1 := ihS m hm2
        have h2 := memAddSignedMul_ok n m (n - m) avail (Nat.le_trans (mulMemReq_mono hmin) h)
        simp only [h1, h2, bind, Except.bind]

theorem memBzOuter_ok (S avail n fuel r : Nat) (h : mulMemReq S ≤ avail) (hr : r < n)
    (hlast : r > 0 → min r (n - r) ≤ S ∧ r / 2 ≤ S) :
    ∀ t len, (1 ≤ t → n / 2 ≤ S) → len = (t + 1) * n + r →
      memBzOuter n fuel t len avail = .ok () := by
  obtain ⟨bS, bQ⟩ := memBz_ok S avail h fuel
  intro t
  induction t with
  | zero =>
    intro len _ hlen
    simp only [memBzOuter]
    split
    · have hr0 : r > 0 := by omega
      obtain ⟨a, b⟩ := hlast hr0
      have e : len - n = r := by omega
      rw [e]
      exact bQ n r (by omega) a b
    · rfl
  | succ t ih =>
    intro len hS hlen
    have hn2 := hS (by omega)
    simp only [memBzOuter, bS n hn2, bind, Except.bind]
    apply ih (len - n) (fun _ => hn2)
    have : (t + 1 + 1) * n = (t + 1) * n + n := by ring
    omega

end Dashu.Model.Div
