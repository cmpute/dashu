import Dashu.Proofs.Int.Repr
/-
  Facts about words and canonical representations that both the arithmetic (`Ops`) and the bit
  operations (`Bits`, `Cmp`) use: one word of a left shift; a value has one canonical representation, which is `ofNat W` of it.
-/
namespace Dashu.Model

theorem add_mul_lt {a b B C : Nat} (ha : a < B) (hb : b < C) : a + B * b < B * C :=
  calc a + B * b < B * (b + 1) := by rw [Nat.mul_succ]; omega
    _ ≤ B * C := Nat.mul_le_mul_left _ hb

theorem pow_split (W s : Nat) (hs : s ≤ W) : 2 ^ W = 2 ^ s * 2 ^ (W - s) := by
  rw [← Nat.pow_add]; congr 1; omega

theorem or_eq_add_of_mul (i k c : Nat) (hc : c < 2 ^ i) : (2 ^ i * k) ||| c = 2 ^ i * k + c :=
  (Nat.two_pow_add_eq_or_of_lt hc k).symm

/-- One word of a left shift by `s ≤ W` with carry-in `c < 2 ^ s`: the shifted word splits at
    `2 ^ W` into a multiple of `2 ^ s`, so that `|||` with the carry is `+`, and a carry-out. -/
theorem shlBits_word (W s a c : Nat) (ha : a < 2 ^ W) (hs : s ≤ W) (hc : c < 2 ^ s) :
    (a * 2 ^ s % 2 ^ W) ||| c = a * 2 ^ s % 2 ^ W + c ∧
      a * 2 ^ s % 2 ^ W + c < 2 ^ W ∧ a * 2 ^ s / 2 ^ W < 2 ^ s := by
  have hsplit := pow_split W s hs
  have hmod : a * 2 ^ s % 2 ^ W = 2 ^ s * (a % 2 ^ (W - s)) := by
    rw [hsplit, Nat.mul_comm a, Nat.mul_mod_mul_left]
  refine ⟨by rw [hmod]; exact or_eq_add_of_mul s _ c hc, ?_, ?_⟩
  · rw [hmod, hsplit, Nat.add_comm]
    exact add_mul_lt hc (Nat.mod_lt _ (Nat.two_pow_pos _))
  · rw [Nat.div_lt_iff_lt_mul (Nat.two_pow_pos W), Nat.mul_comm (2 ^ s)]
    exact Nat.mul_lt_mul_of_pos_right ha (Nat.two_pow_pos s)

theorem words_unique (W : Nat) (a b : List Nat) (ha : IsWords W a) (hb : IsWords W b)
    (hla : a.getLast? ≠ some 0) (hlb : b.getLast? ≠ some 0) (hv : val W a = val W b) : a = b := by
  induction a generalizing b with
  | nil =>
    cases b with
    | nil => rfl
    | cons y ys =>
      have := val_ge_of_getLast W (y :: ys) (by simp) hlb
      have hp := Nat.two_pow_pos (W * ((y :: ys).length - 1))
      simp only [val_nil] at hv; omega
  | cons x xs ih =>
    cases b with
    | nil =>
      have := val_ge_of_getLast W (x :: xs) (by simp) hla
      have hp := Nat.two_pow_pos (W * ((x :: xs).length - 1))
      simp only [val_nil] at hv; omega
    | cons y ys =>
      have hx := ha.head
      have hy := hb.head
      have hp : 0 < 2 ^ W := Nat.two_pow_pos W
      simp only [val_cons] at hv
      have hxy : x = y := by
        have h1 : (x + 2 ^ W * val W xs) % 2 ^ W = x := by
          rw [Nat.add_mul_mod_self_left]; exact Nat.mod_eq_of_lt hx
        have h2 : (y + 2 ^ W * val W ys) % 2 ^ W = y := by
          rw [Nat.add_mul_mod_self_left]; exact Nat.mod_eq_of_lt hy
        rw [← h1, ← h2, hv]
      subst hxy
      have hvv : val W xs = val W ys := by
        have : 2 ^ W * val W xs = 2 ^ W * val W ys := by omega
        exact Nat.eq_of_mul_eq_mul_left hp this
      have tl : ∀ (z : Nat) (zs : List Nat), (z :: zs).getLast? ≠ some 0 → zs.getLast? ≠ some 0 := by
        intro z zs h
        cases zs with
        | nil => simp
        | cons u us => rwa [List.getLast?_cons_cons] at h
      rw [ih ys ha.tail hb.tail (tl _ _ hla) (tl _ _ hlb) hvv]

/-- a value has exactly one canonical representation -/
theorem canon_unique (W : Nat) (a b : TRepr) (ha : a.Canon W) (hb : b.Canon W)
    (hv : a.value W = b.value W) : a = b := by
  cases a with
  | small x =>
    cases b with
    | small y => simpa using hv
    | large vs =>
      have hx : x < 2 ^ (2 * W) := ha
      have := hb.large_ge
      simp only [TRepr.value_small, TRepr.value_large] at hv; omega
  | large ws =>
    cases b with
    | small y =>
      have hy : y < 2 ^ (2 * W) := hb
      have := ha.large_ge
      simp only [TRepr.value_small, TRepr.value_large] at hv; omega
    | large vs =>
      rw [words_unique W ws vs ha.2.1 hb.2.1 ha.2.2 hb.2.2 hv]

/-- with words of no bits the only canonical magnitude is zero -/
theorem TRepr.Canon.eq_zero {r : TRepr} (h : r.Canon 0) : r = .small 0 := by
  cases r with
  | small d => have : d < 1 := h; rw [show d = 0 by omega]
  | large ws =>
    obtain ⟨h3, hw, hl⟩ := h
    cases hg : ws.getLast? with
    | none => rw [List.getLast?_eq_none_iff.mp hg] at h3; simp at h3
    | some x =>
      have : x < 1 := hw x (List.mem_of_getLast? hg)
      exact absurd (by rw [hg]; congr; omega) hl

/-- the canonical representation of `n` IS `ofNat W n`, for every `W`: an operation that returns a canonical
    magnitude of value `n` returns `ofNat W n`, whatever route it took -/
theorem TRepr.eq_ofNat {W n : Nat} {r : TRepr} (h : r.value W = n ∧ r.Canon W) : r = ofNat W n := by
  rcases Nat.eq_zero_or_pos W with rfl | hW
  · obtain ⟨rfl, c⟩ := h
    rw [c.eq_zero]; rfl
  · exact canon_unique W r _ h.2 (ofNat_canon W hW n) (h.1.trans (ofNat_value W hW n).symm)

theorem TRepr.Canon.eq_ofNat {W : Nat} {r : TRepr} (h : r.Canon W) : r = ofNat W (r.value W) :=
  TRepr.eq_ofNat ⟨rfl, h⟩

theorem ofNat_spec (W : Nat) (hW : 1 ≤ W) (n : Nat) : (ofNat W n).value W = n ∧ (ofNat W n).Canon W :=
  ⟨ofNat_value W hW n, ofNat_canon W hW n⟩

/-- without `1 ≤ W`: if `n` has a canonical representation at all, `ofNat W n` is it -/
theorem ofNat_spec_of {W n : Nat} {r : TRepr} (h : r.value W = n ∧ r.Canon W) :
    (ofNat W n).value W = n ∧ (ofNat W n).Canon W := TRepr.eq_ofNat h ▸ h

theorem TRepr.add_eq {W : Nat} (hW : 1 ≤ W) {a b : TRepr} (form : Nat) (ha : a.Canon W) (hb : b.Canon W) :
    a.add W b form = ofNat W (a.value W + b.value W) :=
  TRepr.eq_ofNat (TRepr.add_spec W hW a b form ha hb)

/-- `UBig − UBig`, either dispatch variant: the documented panic below zero, otherwise the representation of
    the difference -/
theorem TRepr.sub_eq {W : Nat} {a b : TRepr} (refVal : Bool) (ha : a.Canon W) (hb : b.Canon W) :
    a.sub W b refVal =
      if b.value W ≤ a.value W then .ok (ofNat W (a.value W - b.value W)) else .error .negativeUBig := by
  split
  · rename_i h
    obtain ⟨r, e, v, c⟩ := TRepr.sub_ok W a b refVal ha hb h
    rw [e, TRepr.eq_ofNat ⟨Nat.eq_sub_of_add_eq v, c⟩]
  · rename_i h
    exact TRepr.sub_err W a b refVal ha hb (by omega)

theorem TRepr.sub_repr {W : Nat} {a b : TRepr} (ha : a.Canon W) (hb : b.Canon W) (h : b.value W ≤ a.value W) :
    (ofNat W (a.value W - b.value W)).value W = a.value W - b.value W ∧
    (ofNat W (a.value W - b.value W)).Canon W :=
  have ⟨_, _, v, c⟩ := TRepr.sub_ok W a b false ha hb h
  ofNat_spec_of ⟨Nat.eq_sub_of_add_eq v, c⟩

end Dashu.Model
