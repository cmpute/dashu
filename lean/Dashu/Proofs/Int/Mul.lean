import Dashu.Model.Int.Mul
import Dashu.Proofs.Int.Repr
import Mathlib.Tactic.LinearCombination
import Mathlib.Tactic.Positivity
/-
  Multiplication (`mul/mod.rs`, `mul/simple.rs`, `mul/karatsuba.rs`, `mul/toom_3.rs`, `mul/helpers.rs`,
  `sqr/`) against arithmetic on `Nat`/`Int`, for every operand length.  Every kernel meets one
  contract, `MulContract`: "c += sign·a·b, returns the signed carry", an `Upd` of the whole buffer.
  The schoolbook loops are carry chains.  Karatsuba, Toom-3 and the chunk splitter are straight-line
  programs of window updates (`thenSet`): `Upd.step` takes one update off the program and leaves the
  rest owing the total less that increment, so `karaApply_spec` / `toomApply_spec` are one `refine`
  per source line and a closing `ring`.  Word size: any `W` for the schoolbook part, `W ≥ 3` where a
  sum of a few carries must fit a word, `W ≥ 4` for Toom-3 (the factor 12).
-/
namespace Dashu.Model

-- ------------------------------------------------------------------ mul_word_in_place_with_carry

theorem mulWordInPlace_spec (W : Nat) (ws : List Nat) (rhs c : Nat) (hw : IsWords W ws)
    (hr : rhs < 2 ^ W) (hc : c < 2 ^ W) :
    val W (mulWordInPlace W ws rhs c).1 + 2 ^ (W * ws.length) * (mulWordInPlace W ws rhs c).2
      = val W ws * rhs + c ∧
    (mulWordInPlace W ws rhs c).1.length = ws.length ∧ IsWords W (mulWordInPlace W ws rhs c).1 ∧
    (mulWordInPlace W ws rhs c).2 < 2 ^ W := by
  induction ws generalizing c with
  | nil => simp [mulWordInPlace, IsWords.nil, hc]
  | cons a as ih =>
    obtain ⟨i1, i2, i3, i4⟩ := ih ((a * rhs + c) / 2 ^ W) hw.tail
      (Nat.div_lt_of_lt_mul (mul_add_lt_sq hw.head hr hc))
    simp only [mulWordInPlace, val_cons, List.length_cons, pow_mul_succ]
    refine ⟨?_, congrArg Nat.succ i2, .cons (Nat.mod_lt _ (Nat.two_pow_pos W)) i3, i4⟩
    linear_combination 2 ^ W * i1 + Nat.mod_add_div (a * rhs + c) (2 ^ W)

-- ------------------------------------------------------------------ add_mul_word_same_len_in_place

theorem addMulWordLoop_spec (W mult : Nat) (hm : mult < 2 ^ W) :
    ∀ (ws rhs : List Nat) (c : Nat), IsWords W ws → IsWords W rhs → ws.length = rhs.length →
    c < 2 ^ W →
    val W (addMulWordLoop W ws mult rhs c).1
        + 2 ^ (W * ws.length) * (addMulWordLoop W ws mult rhs c).2
      = val W ws + mult * val W rhs + c ∧
    (addMulWordLoop W ws mult rhs c).1.length = ws.length ∧
    IsWords W (addMulWordLoop W ws mult rhs c).1 ∧ (addMulWordLoop W ws mult rhs c).2 < 2 ^ W := by
  intro ws
  induction ws with
  | nil =>
    intro rhs c _ _ hl hc
    cases rhs with
    | nil => simp [addMulWordLoop, IsWords.nil, hc]
    | cons b bs => simp at hl
  | cons a as ih =>
    intro rhs c hw hr hl hc
    cases rhs with
    | nil => simp at hl
    | cons b bs =>
      obtain ⟨i1, i2, i3, i4⟩ := ih bs _ hw.tail hr.tail (Nat.succ.inj hl)
        (Nat.div_lt_of_lt_mul (mul_add_add_lt_sq hm hr.head hw.head hc))
      simp only [addMulWordLoop, val_cons, List.length_cons, pow_mul_succ]
      refine ⟨?_, congrArg Nat.succ i2, .cons (Nat.mod_lt _ (Nat.two_pow_pos W)) i3, i4⟩
      linear_combination 2 ^ W * i1 + Nat.mod_add_div (mult * b + a + c) (2 ^ W)

/-- `add_mul_word_same_len_in_place`: digits + carry·B^n = words + mult·rhs -/
theorem addMulWordSameLen_spec (W : Nat) (ws : List Nat) (mult : Nat) (rhs : List Nat)
    (hw : IsWords W ws) (hr : IsWords W rhs) (hl : ws.length = rhs.length) (hm : mult < 2 ^ W) :
    val W (addMulWordSameLen W ws mult rhs).1
        + 2 ^ (W * ws.length) * (addMulWordSameLen W ws mult rhs).2
      = val W ws + mult * val W rhs ∧
    (addMulWordSameLen W ws mult rhs).1.length = ws.length ∧
    IsWords W (addMulWordSameLen W ws mult rhs).1 ∧ (addMulWordSameLen W ws mult rhs).2 < 2 ^ W := by
  unfold addMulWordSameLen
  split
  · rename_i h0; subst h0
    exact ⟨by simp, rfl, hw, Nat.two_pow_pos W⟩
  · have := addMulWordLoop_spec W mult hm ws rhs 0 hw hr hl (Nat.two_pow_pos W)
    simpa using this

/-- `add_mul_word_in_place` (`words.len() ≥ rhs.len()`): the carry is at most one bit when the high
    part is non-empty, a word otherwise -/
theorem addMulWordInPlace_spec (W : Nat) (ws : List Nat) (mult : Nat) (rhs : List Nat)
    (hw : IsWords W ws) (hr : IsWords W rhs) (hl : rhs.length ≤ ws.length) (hm : mult < 2 ^ W) :
    val W (addMulWordInPlace W ws mult rhs).1
        + 2 ^ (W * ws.length) * (addMulWordInPlace W ws mult rhs).2
      = val W ws + mult * val W rhs ∧
    (addMulWordInPlace W ws mult rhs).1.length = ws.length ∧
    IsWords W (addMulWordInPlace W ws mult rhs).1 ∧ (addMulWordInPlace W ws mult rhs).2 < 2 ^ W := by
  simp only [addMulWordInPlace]
  split
  · rename_i h0; subst h0
    exact ⟨by simp, rfl, hw, Nat.two_pow_pos W⟩
  · have htl : (ws.take rhs.length).length = rhs.length := length_take_of_le hl
    have hs := addMulWordSameLen_spec W (ws.take rhs.length) mult rhs (hw.take _) hr htl hm
    have hsplit := val_take_add_drop W ws rhs.length
    rw [htl] at hsplit hs
    generalize addMulWordSameLen W (ws.take rhs.length) mult rhs = res at hs ⊢
    obtain ⟨lo, carry⟩ := res
    obtain ⟨s1, s2, s3, s4⟩ := hs
    simp only at s1 s2 s3 s4 ⊢
    split
    · rename_i hgt
      have hne : ws.drop rhs.length ≠ [] := by
        intro e; have := congrArg List.length e; rw [List.length_drop] at this; simp at this; omega
      have ho := addWord_spec W (ws.drop rhs.length) carry (hw.drop _) s4 hne
      generalize addWord W (ws.drop rhs.length) carry = res2 at ho ⊢
      obtain ⟨hi, c⟩ := res2
      obtain ⟨o1, o2, o3, o4⟩ := ho
      simp only [List.length_drop] at o1 o2 o3 o4 ⊢
      refine ⟨?_, by rw [List.length_append, s2, o2]; omega, s3.append o3,
        Nat.lt_of_le_of_lt o4 (Nat.one_lt_two_pow (by
          intro hW0; subst hW0; simp at hm; subst hm; contradiction))⟩
      have := val_append_carry s2 htl s1 o1
      rwa [List.take_append_drop, Nat.add_sub_cancel' hl] at this
    · rename_i hle
      have hlen : ws.length = rhs.length := by omega
      have hd : ws.drop rhs.length = [] := by rw [← hlen]; exact List.drop_length
      rw [hd] at hsplit
      simp only [val_nil, Nat.mul_zero, Nat.add_zero] at hsplit
      refine ⟨?_, by rw [s2, hlen], s3, s4⟩
      rw [hlen, hsplit]; exact s1

-- ------------------------------------------------------------------ sub_mul_word_same_len_in_place

/-- one step of the `carry_plus_max` trick.  With `K = double_word(0, MAX) − MAX`:
    the subtraction in `v = a + cpm + K − mult·b` never underflows, `v` fits a double word, and with
    the borrow `k = MAX − cpm` the step is `digit + mult·b + k = a + B·k'`. -/
theorem sub_mul_step (B a b mult cpm : Nat) (ha : a < B) (hb : b < B) (hm : mult < B)
    (hc : cpm < B) :
    mult * b ≤ a + cpm + ((B - 1) * B - (B - 1)) ∧
    a + cpm + ((B - 1) * B - (B - 1)) - mult * b < B * B ∧
    (a + cpm + ((B - 1) * B - (B - 1)) - mult * b) / B < B ∧
    (a + cpm + ((B - 1) * B - (B - 1)) - mult * b) % B + mult * b + (B - 1 - cpm)
      = a + B * (B - 1 - (a + cpm + ((B - 1) * B - (B - 1)) - mult * b) / B) := by
  obtain ⟨B', rfl⟩ : ∃ B', B = B' + 1 := ⟨B - 1, by omega⟩
  have hK : (B' + 1 - 1) * (B' + 1) - (B' + 1 - 1) = B' * B' := by
    simp only [Nat.add_sub_cancel]
    rw [Nat.mul_add, Nat.mul_one, Nat.add_sub_cancel]
  have hmb : mult * b ≤ B' * B' := Nat.mul_le_mul (by omega) (by omega)
  rw [hK]
  simp only [Nat.add_sub_cancel]
  have hsq : (B' + 1) * (B' + 1) = B' * B' + 2 * B' + 1 := by ring
  have hv : a + cpm + B' * B' - mult * b < (B' + 1) * (B' + 1) := by omega
  have hq : (a + cpm + B' * B' - mult * b) / (B' + 1) < B' + 1 :=
    (Nat.div_lt_iff_lt_mul (by omega)).mpr hv
  refine ⟨by omega, hv, hq, ?_⟩
  have hdm := Nat.div_add_mod (a + cpm + B' * B' - mult * b) (B' + 1)
  generalize (a + cpm + B' * B' - mult * b) / (B' + 1) = q at *
  generalize (a + cpm + B' * B' - mult * b) % (B' + 1) = m0 at *
  have e : (B' + 1) * (B' - q) + (B' + 1) * q = (B' + 1) * B' := by
    rw [← Nat.mul_add, Nat.sub_add_cancel (by omega)]
  have e2 : (B' + 1) * B' = B' * B' + B' := by ring
  omega

theorem subMulWordLoop_spec (W mult : Nat) (hm : mult < 2 ^ W) :
    ∀ (ws rhs : List Nat) (cpm : Nat), IsWords W ws → IsWords W rhs → ws.length = rhs.length →
    cpm < 2 ^ W →
    val W (subMulWordLoop W ws mult rhs cpm).1 + mult * val W rhs + (2 ^ W - 1 - cpm)
      = val W ws + 2 ^ (W * ws.length) * (2 ^ W - 1 - (subMulWordLoop W ws mult rhs cpm).2) ∧
    (subMulWordLoop W ws mult rhs cpm).1.length = ws.length ∧
    IsWords W (subMulWordLoop W ws mult rhs cpm).1 ∧
    (subMulWordLoop W ws mult rhs cpm).2 < 2 ^ W := by
  intro ws
  induction ws with
  | nil =>
    intro rhs cpm _ _ hl hc
    cases rhs with
    | nil => simp [subMulWordLoop, IsWords.nil, hc]
    | cons b bs => simp at hl
  | cons a as ih =>
    intro rhs cpm hw hr hl hc
    cases rhs with
    | nil => simp at hl
    | cons b bs =>
      obtain ⟨_, _, hq, hstep⟩ := sub_mul_step (2 ^ W) a b mult cpm hw.head hr.head hm hc
      obtain ⟨i1, i2, i3, i4⟩ := ih bs _ hw.tail hr.tail (Nat.succ.inj hl) hq
      simp only [subMulWordLoop, val_cons, List.length_cons, pow_mul_succ]
      refine ⟨?_, congrArg Nat.succ i2, .cons (Nat.mod_lt _ (Nat.two_pow_pos W)) i3, i4⟩
      linear_combination 2 ^ W * i1 + hstep

/-- `sub_mul_word_same_len_in_place`: digits + mult·rhs = words + borrow·B^n -/
theorem subMulWordSameLen_spec (W : Nat) (ws : List Nat) (mult : Nat) (rhs : List Nat)
    (hw : IsWords W ws) (hr : IsWords W rhs) (hl : ws.length = rhs.length) (hm : mult < 2 ^ W) :
    val W (subMulWordSameLen W ws mult rhs).1 + mult * val W rhs
      = val W ws + 2 ^ (W * ws.length) * (subMulWordSameLen W ws mult rhs).2 ∧
    (subMulWordSameLen W ws mult rhs).1.length = ws.length ∧
    IsWords W (subMulWordSameLen W ws mult rhs).1 ∧ (subMulWordSameLen W ws mult rhs).2 < 2 ^ W := by
  unfold subMulWordSameLen
  have hp : 0 < 2 ^ W := Nat.two_pow_pos W
  split
  · rename_i h0; subst h0
    exact ⟨by simp, rfl, hw, hp⟩
  · have hs := subMulWordLoop_spec W mult hm ws rhs (2 ^ W - 1) hw hr hl (by omega)
    generalize subMulWordLoop W ws mult rhs (2 ^ W - 1) = res at hs
    obtain ⟨r, cpm⟩ := res
    obtain ⟨s1, s2, s3, s4⟩ := hs
    simp only [Nat.sub_self, Nat.add_zero] at s1 s2 s3 s4 ⊢
    exact ⟨s1, s2, s3, by omega⟩

-- ------------------------------------------------------------------ add_mul_chunk / sub_mul_chunk

theorem drop_eq_getD_cons (l : List Nat) (n : Nat) (h : n < l.length) :
    l.drop n = l.getD n 0 :: l.drop (n + 1) := (set_take_drop l n 0 h).2.2

theorem exists_cons_of_append_cons (w : List Nat) (x : Nat) (t : List Nat) :
    ∃ w0 rest, w ++ x :: t = w0 :: rest ∧ rest.length = w.length + t.length := by
  cases w with
  | nil => exact ⟨x, t, rfl, by simp⟩
  | cons y ys => exact ⟨y, ys ++ x :: t, rfl, by simp; omega⟩

/-- One row of `add_mul_chunk`/`sub_mul_chunk`: the row result `win` replaces `c[..n]` and `sm` the
    word above it.  The new buffer is non-empty, its tail is what the recursion goes on with, and
    it differs from `c` by what the two replacements differ. -/
theorem chunk_row (W : Nat) {c win : List Nat} {n m sm : Nat} (hc : IsWords W c)
    (hl : c.length = n + (m + 1)) (hw : IsWords W win) (hwl : win.length = n) (hsm : sm < 2 ^ W) :
    ∃ w0 rest, win ++ sm :: c.drop (n + 1) = w0 :: rest ∧ rest.length = n + m ∧
      IsWords W (w0 :: rest) ∧
      val W (w0 :: rest) + val W (c.take n) + 2 ^ (W * n) * c.getD n 0
        = val W c + val W win + 2 ^ (W * n) * sm := by
  have hsplit := val_take_add_drop W c n
  rw [length_take_of_le (by omega), drop_eq_getD_cons c n (by omega), val_cons] at hsplit
  have hv : val W (win ++ sm :: c.drop (n + 1))
      = val W win + 2 ^ (W * n) * (sm + 2 ^ W * val W (c.drop (n + 1))) := by
    rw [val_append, hwl, val_cons]
  have hww : IsWords W (win ++ sm :: c.drop (n + 1)) := hw.append (.cons hsm (hc.drop _))
  obtain ⟨w0, rest, hc1, hrl⟩ := exists_cons_of_append_cons win sm (c.drop (n + 1))
  rw [hc1] at hv hww
  refine ⟨w0, rest, hc1, by rw [hrl, hwl, List.length_drop]; omega, hww, ?_⟩
  linear_combination hv + hsplit.symm

/-- `add_mul_chunk`: with `c.len() = a.len() + b.len()`, digits + carry·B^|c| = c + a·b (+ the
    pending carry bit at `c[a.len()]`) -/
theorem addMulChunk_spec (W : Nat) (a : List Nat) (ha : IsWords W a) :
    ∀ (bs c : List Nat) (carry : Nat), c.length = a.length + bs.length → IsWords W c →
    IsWords W bs → carry ≤ 1 →
    val W (addMulChunk W a c bs carry).1 + 2 ^ (W * c.length) * (addMulChunk W a c bs carry).2
      = val W c + val W a * val W bs + 2 ^ (W * a.length) * carry ∧
    (addMulChunk W a c bs carry).1.length = c.length ∧ IsWords W (addMulChunk W a c bs carry).1 ∧
    (addMulChunk W a c bs carry).2 ≤ 1 := by
  intro bs
  induction bs with
  | nil =>
    intro c carry hl hc _ hcar
    rw [List.length_nil, Nat.add_zero] at hl
    simp only [addMulChunk, val_nil, Nat.mul_zero, Nat.add_zero, hl]
    exact ⟨trivial, trivial, hc, hcar⟩
  | cons m bs ih =>
    intro c carry hl hc hb hcar
    rw [List.length_cons] at hl
    have htl : (c.take a.length).length = a.length := length_take_of_le (by omega)
    obtain ⟨w1, w2, w3, w4⟩ :=
      addMulWordSameLen_spec W (c.take a.length) m a (hc.take _) ha htl hb.head
    have htop := hc.getD a.length
    rw [htl] at w1 w2
    simp only [addMulChunk]
    generalize addMulWordSameLen W (c.take a.length) m a = res at w1 w2 w3 w4 ⊢
    obtain ⟨win, cw⟩ := res
    simp only at w1 w2 w3 w4 ⊢
    -- the word above the row absorbs the carry word and the pending bit
    have hs2 : (c.getD a.length 0 + cw + carry) / 2 ^ W ≤ 1 := carry_le_one (by omega)
    have hdm := Nat.mod_add_div (c.getD a.length 0 + cw + carry) (2 ^ W)
    obtain ⟨w0, rest, hc1, hrl, hww, hv⟩ := chunk_row W hc hl w3 w2
      (Nat.mod_lt (c.getD a.length 0 + cw + carry) (Nat.two_pow_pos W))
    rw [hc1]
    have hcl : c.length = rest.length + 1 := by omega
    obtain ⟨i1, i2, i3, i4⟩ := ih rest _ hrl hww.tail hb.tail hs2
    refine ⟨?_, by rw [hcl, ← i2]; rfl, .cons hww.head i3, i4⟩
    simp only [hcl, pow_mul_succ, val_cons] at hv ⊢
    linear_combination 2 ^ W * i1 + hv + w1 + 2 ^ (W * a.length) * hdm

/-- `sub_mul_chunk`: digits + a·b (+ pending borrow) = c + borrow·B^|c| -/
theorem subMulChunk_spec (W : Nat) (a : List Nat) (ha : IsWords W a) :
    ∀ (bs c : List Nat) (borrow : Nat), c.length = a.length + bs.length → IsWords W c →
    IsWords W bs → borrow ≤ 1 →
    val W (subMulChunk W a c bs borrow).1 + val W a * val W bs + 2 ^ (W * a.length) * borrow
      = val W c + 2 ^ (W * c.length) * (subMulChunk W a c bs borrow).2 ∧
    (subMulChunk W a c bs borrow).1.length = c.length ∧ IsWords W (subMulChunk W a c bs borrow).1 ∧
    (subMulChunk W a c bs borrow).2 ≤ 1 := by
  intro bs
  induction bs with
  | nil =>
    intro c borrow hl hc _ hbor
    rw [List.length_nil, Nat.add_zero] at hl
    simp only [subMulChunk, val_nil, Nat.mul_zero, Nat.add_zero, hl]
    exact ⟨trivial, trivial, hc, hbor⟩
  | cons m bs ih =>
    intro c borrow hl hc hb hbor
    rw [List.length_cons] at hl
    have htl : (c.take a.length).length = a.length := length_take_of_le (by omega)
    obtain ⟨w1, w2, w3, w4⟩ :=
      subMulWordSameLen_spec W (c.take a.length) m a (hc.take _) ha htl hb.head
    rw [htl] at w1 w2
    simp only [subMulChunk]
    generalize subMulWordSameLen W (c.take a.length) m a = res at w1 w2 w3 w4 ⊢
    obtain ⟨win, bw⟩ := res
    simp only at w1 w2 w3 w4 ⊢
    -- the word above the row absorbs the borrow word and the pending bit
    have hdig := borrow_digit (hc.getD a.length) w4 hbor
    obtain ⟨w0, rest, hc1, hrl, hww, hv⟩ := chunk_row W hc hl w3 w2
      (Nat.mod_lt (c.getD a.length 0 + 2 ^ W - bw - borrow) (Nat.two_pow_pos W))
    rw [hc1]
    have hcl : c.length = rest.length + 1 := by omega
    obtain ⟨i1, i2, i3, i4⟩ := ih rest _ hrl hww.tail hb.tail (Nat.sub_le 1 _)
    refine ⟨?_, by rw [hcl, ← i2]; rfl, .cons hww.head i3, i4⟩
    simp only [hcl, pow_mul_succ, val_cons] at hv ⊢
    linear_combination 2 ^ W * i1 + hv + w1 + 2 ^ (W * a.length) * hdig.symm

-- ====================================================================== signed window updates

/-- a carry out of a window whose increment is smaller than the window modulus is −1, 0 or 1 -/
theorem Upd.carry_bound {W : Nat} {c c' : List Nat} {k δ : Int} (h : Upd W c c' k δ)
    (hc : IsWords W c) (hδ : |δ| < (2 : Int) ^ (W * c.length)) : -1 ≤ k ∧ k ≤ 1 := by
  obtain ⟨h1, h2, h3⟩ := h
  have l1 := val_lt_int W c hc
  have l2 := val_lt_int W c' h2
  rw [h1] at l2
  have n1 : (0 : Int) ≤ val W c := Int.natCast_nonneg _
  have n2 : (0 : Int) ≤ val W c' := Int.natCast_nonneg _
  obtain ⟨d1, d2⟩ := abs_lt.mp hδ
  generalize (2 : Int) ^ (W * c.length) = P at h3 l1 l2 d1 d2
  have hP : 0 ≤ P := by linarith
  constructor
  · by_contra hcon
    have := mul_le_mul_of_nonneg_left (show k ≤ -2 by omega) hP
    linarith
  · by_contra hcon
    have := mul_le_mul_of_nonneg_left (show 2 ≤ k by omega) hP
    linarith

theorem addSignedSameLen_upd (W : Nat) (ws : List Nat) (neg : Bool) (rhs : List Nat)
    (hw : IsWords W ws) (hr : IsWords W rhs) (hl : ws.length = rhs.length) :
    Upd W ws (addSignedSameLen W ws neg rhs).1 (addSignedSameLen W ws neg rhs).2
      (sgn neg * val W rhs) := by
  cases neg with
  | true =>
    obtain ⟨s1, s2, s3, _⟩ := subSameLen_spec W ws rhs 0 hw hr hl (Nat.zero_le 1)
    exact Upd.of_sub s2 s3 s1
  | false =>
    obtain ⟨s1, s2, s3, _⟩ := addSameLen_spec W ws rhs 0 hw hr hl (Nat.zero_le 1)
    exact Upd.of_add s2 s3 s1

theorem addSignedInPlace_upd (W : Nat) (ws : List Nat) (neg : Bool) (rhs : List Nat)
    (hw : IsWords W ws) (hr : IsWords W rhs) (hl : rhs.length ≤ ws.length) :
    Upd W ws (addSignedInPlace W ws neg rhs).1 (addSignedInPlace W ws neg rhs).2
      (sgn neg * val W rhs) := by
  cases neg with
  | true =>
    obtain ⟨s1, s2, s3, _⟩ := subInPlace_spec W ws rhs hw hr hl
    exact Upd.of_sub s2 s3 s1
  | false =>
    obtain ⟨s1, s2, s3, _⟩ := addInPlace_spec W ws rhs hw hr hl
    exact Upd.of_add s2 s3 s1

/-- `add_signed_word_in_place` for a signed word of magnitude `< 2^W` -/
theorem addSignedWord_upd (W : Nat) (ws : List Nat) (rhs : Int) (hw : IsWords W ws)
    (hr : |rhs| < (2 : Int) ^ W) :
    Upd W ws (addSignedWord W ws rhs).1 (addSignedWord W ws rhs).2 rhs := by
  unfold addSignedWord
  obtain ⟨r1, r2⟩ := abs_lt.mp hr
  split
  · rename_i h
    rcases h with h | h <;> subst h <;> exact ⟨rfl, hw, by simp⟩
  · rename_i h
    have hne : ws ≠ [] := fun e => h (Or.inr e)
    split
    · rename_i hpos
      have hn : ((rhs.toNat : Nat) : Int) = rhs := Int.toNat_of_nonneg (Int.le_of_lt hpos)
      obtain ⟨o1, o2, o3, _⟩ := addWord_spec W ws rhs.toNat hw
        (by have : ((rhs.toNat : Nat) : Int) < ((2 ^ W : Nat) : Int) := by rw [hn]; exact_mod_cast r2
            exact_mod_cast this) hne
      have u := Upd.of_add o2 o3 o1
      rwa [sgn, if_neg Bool.false_ne_true, one_mul, hn] at u
    · rename_i hpos
      have hn : (((-rhs).toNat : Nat) : Int) = -rhs := Int.toNat_of_nonneg (by omega)
      obtain ⟨o1, o2, o3, _⟩ := subWord_spec W ws (-rhs).toNat hw
        (by have : (((-rhs).toNat : Nat) : Int) < ((2 ^ W : Nat) : Int) := by
              rw [hn]; push_cast; omega
            exact_mod_cast this) hne
      have u := Upd.of_sub o2 o3 o1
      rwa [sgn, if_pos rfl, hn, neg_one_mul, neg_neg] at u

-- ------------------------------------------------------------------ windows

theorem window_length (c : List Nat) (i j : Nat) (hj : j ≤ c.length) :
    (window c i j).length = j - i := by
  unfold window; rw [List.length_drop, length_take_of_le hj]

theorem window_words {W : Nat} {c : List Nat} (h : IsWords W c) (i j : Nat) :
    IsWords W (window c i j) := (h.take j).drop i

/-- replacing the window `c[i..j]` by the result of an update with increment `δ` and carry `k`:
    the whole slice changes by `B^i·δ − B^j·k` (the carry is still to be applied at position `j`) -/
theorem setWindow_upd (W : Nat) (c : List Nat) (i j : Nat) (hij : i ≤ j) (hj : j ≤ c.length)
    (hc : IsWords W c) (w' : List Nat) (k δ : Int) (h : Upd W (window c i j) w' k δ) :
    (setWindow c i w').length = c.length ∧ IsWords W (setWindow c i w') ∧
    (val W (setWindow c i w') : Int)
      = (val W c : Int) + (2 : Int) ^ (W * i) * δ - (2 : Int) ^ (W * j) * k := by
  obtain ⟨h1, h2, h3⟩ := h
  have hwl := window_length c i j hj
  rw [hwl] at h1 h3
  have hti : (c.take i).length = i := length_take_of_le (by omega)
  have hdecomp : c = c.take i ++ (window c i j ++ c.drop j) := by
    unfold window
    have e1 : c.take j = (c.take j).take i ++ (c.take j).drop i := (List.take_append_drop i _).symm
    have e2 : (c.take j).take i = c.take i := by rw [List.take_take]; congr 1; omega
    calc c = c.take j ++ c.drop j := (List.take_append_drop j c).symm
      _ = ((c.take j).take i ++ (c.take j).drop i) ++ c.drop j := by rw [← e1]
      _ = c.take i ++ ((c.take j).drop i ++ c.drop j) := by rw [e2, List.append_assoc]
  have hv : (val W c : Int) = val W (c.take i)
      + (2 : Int) ^ (W * i) * (val W (window c i j) + (2 : Int) ^ (W * (j - i)) * val W (c.drop j)) := by
    conv => lhs; rw [hdecomp]
    rw [val_append, val_append, hti, hwl]; push_cast; ring
  have hsw : setWindow c i w' = c.take i ++ (w' ++ c.drop j) := by
    unfold setWindow; rw [h1, List.append_assoc]; congr 3; omega
  have hpow : (2 : Int) ^ (W * j) = (2 : Int) ^ (W * i) * (2 : Int) ^ (W * (j - i)) := by
    rw [← pow_add, ← Nat.mul_add]; congr 2; omega
  refine ⟨?_, ?_, ?_⟩
  · rw [hsw, List.length_append, List.length_append, hti, h1, List.length_drop]; omega
  · rw [hsw]; exact (hc.take i).append (h2.append (hc.drop j))
  · rw [hsw, val_append, val_append, hti, h1, hv, hpow]
    push_cast
    linear_combination (2 : Int) ^ (W * i) * h3

-- ------------------------------------------------------------------ the contract; the specification kernel meets it

theorem wordsOfLen_spec (W : Nat) : ∀ (len n : Nat),
    val W (wordsOfLen W len n) = n % 2 ^ (W * len) ∧ (wordsOfLen W len n).length = len ∧
    IsWords W (wordsOfLen W len n) := by
  intro len
  induction len with
  | zero => intro n; simp [wordsOfLen, IsWords.nil, Nat.mod_one]
  | succ len ih =>
    intro n
    obtain ⟨i1, i2, i3⟩ := ih (n / 2 ^ W)
    have hp : 0 < 2 ^ W := Nat.two_pow_pos W
    simp only [wordsOfLen, val_cons, List.length_cons]
    refine ⟨?_, by rw [i2], IsWords.cons (Nat.mod_lt _ hp) i3⟩
    rw [i1, pow_mul_succ, Nat.mod_mul, Nat.add_comm]

/-- the signed-multiply contract every kernel must meet: c += sign·a·b with the signed carry out -/
def MulContract (W : Nat) (K : MulKernel) (c : List Nat) (neg : Bool) (a b : List Nat) : Prop :=
  Upd W c (K c neg a b).1 (K c neg a b).2 (sgn neg * ((val W a * val W b : Nat) : Int))

theorem addSignedMulFrontier_contract (W : Nat) (c : List Nat) (neg : Bool) (a b : List Nat) :
    MulContract W (addSignedMulFrontier W) c neg a b := by
  unfold MulContract addSignedMulFrontier Upd sgn
  simp only
  have hP : (0 : Int) < ((2 ^ (W * c.length) : Nat) : Int) := by positivity
  generalize ((val W c : Int) + (if neg = true then -1 else 1) * ((val W a * val W b : Nat) : Int)) = t
  obtain ⟨w1, w2, w3⟩ := wordsOfLen_spec W c.length (t % ((2 ^ (W * c.length) : Nat) : Int)).toNat
  have hm0 := Int.emod_nonneg t (ne_of_gt hP)
  have hm1 := Int.emod_lt_of_pos t hP
  have hlt : (t % ((2 ^ (W * c.length) : Nat) : Int)).toNat < 2 ^ (W * c.length) := by
    have : (((t % ((2 ^ (W * c.length) : Nat) : Int)).toNat : Nat) : Int)
        < ((2 ^ (W * c.length) : Nat) : Int) := by
      rw [Int.toNat_of_nonneg hm0]; exact hm1
    exact_mod_cast this
  refine ⟨w2, w3, ?_⟩
  rw [w1, Nat.mod_eq_of_lt hlt, Int.toNat_of_nonneg hm0]
  have := Int.emod_add_mul_ediv t ((2 ^ (W * c.length) : Nat) : Int)
  push_cast at this ⊢
  linarith

/-- `simple::add_signed_mul_chunk` = "c += sign·a·b, returns the signed carry" -/
theorem addSignedMulChunk_contract (W : Nat) (c : List Nat) (neg : Bool) (a b : List Nat)
    (hl : c.length = a.length + b.length) (hc : IsWords W c) (ha : IsWords W a)
    (hb : IsWords W b) : MulContract W (addSignedMulChunk W) c neg a b := by
  unfold MulContract addSignedMulChunk
  cases neg with
  | true =>
    obtain ⟨s1, s2, s3, _⟩ := subMulChunk_spec W a ha b c 0 hl hc hb (Nat.zero_le 1)
    rw [Nat.mul_zero, Nat.add_zero] at s1
    exact Upd.of_sub s2 s3 s1
  | false =>
    obtain ⟨s1, s2, s3, _⟩ := addMulChunk_spec W a ha b c 0 hl hc hb (Nat.zero_le 1)
    rw [Nat.mul_zero, Nat.add_zero] at s1
    exact Upd.of_add s2 s3 s1

-- ====================================================================== Karatsuba, chunk splitting, dispatch

-- ------------------------------------------------------------------ straight-line programs of window updates

theorem drop_eq_window (c : List Nat) (i : Nat) : c.drop i = window c i c.length := by
  unfold window; rw [List.take_length]

theorem abs_sgn_mul (neg : Bool) (x : Nat) : |sgn neg * (x : Int)| = (x : Int) := by
  cases neg <;> simp [sgn]

theorem eight_le_pow_int (W : Nat) (hW : 3 ≤ W) : (8 : Int) ≤ (2 : Int) ^ W := by
  have : 2 ^ 3 ≤ 2 ^ W := Nat.pow_le_pow_right (by omega) hW
  exact_mod_cast this

/-- `c` is a buffer of `L` words.  A long straight-line program passes through many buffers of
    the same length; kept under one predicate, their length equations stay out of the sight of
    `omega`, whose running time doubles with each of them. -/
def Buf (W L : Nat) (c : List Nat) : Prop := IsWords W c ∧ c.length = L

theorem Buf.win {W L : Nat} {c : List Nat} (hc : Buf W L c) (i : Nat) {j : Nat} (hj : j ≤ L) :
    Buf W (j - i) (window c i j) :=
  ⟨window_words hc.1 i j, window_length c i j (hc.2 ▸ hj)⟩

theorem Buf.drop_eq {W L : Nat} {c : List Nat} (hc : Buf W L c) (i : Nat) :
    c.drop i = window c i L := hc.2 ▸ drop_eq_window c i

/-- `let (w, k) := p; let c := setWindow c i w; f c k`: one step of a straight-line program over
    the buffer `c`, where `p` is what an operation returns on a window that starts at `i` and `f`
    is the rest of the program -/
def thenSet (c : List Nat) (i : Nat) (p : List Nat × Int) (f : List Nat → Int → List Nat × Int) :
    List Nat × Int :=
  let (w, k) := p
  f (setWindow c i w) k

/-- One step `thenSet` on the window `c[i..j]`.  The rest of the program sees a buffer of the same
    length and a carry in `{-1, 0, 1}`; it owes the total `Y` less this increment, plus the carry
    that is still to be applied at position `j`. -/
theorem Upd.step {W L i j : Nat} {c : List Nat} {δ Y : Int} {p : List Nat × Int}
    {f : List Nat → Int → List Nat × Int}
    (hu : Upd W (window c i j) p.1 p.2 δ) (hc : Buf W L c) (hij : i ≤ j) (hj : j ≤ L)
    (hδ : |δ| < (2 : Int) ^ (W * (j - i)))
    (hf : ∀ c' k, Buf W L c' → -1 ≤ k → k ≤ 1 →
      Upd W c' (f c' k).1 (f c' k).2 (Y - (2 : Int) ^ (W * i) * δ + (2 : Int) ^ (W * j) * k)) :
    Upd W c (thenSet c i p f).1 (thenSet c i p f).2 Y := by
  obtain ⟨w, k⟩ := p
  simp only [thenSet] at hu ⊢
  obtain ⟨hw, rfl⟩ := hc
  obtain ⟨s1, s2, s3⟩ := setWindow_upd W c i j hij hj hw w k δ hu
  have hb := hu.carry_bound (window_words hw i j) (by rw [window_length c i j hj]; exact hδ)
  obtain ⟨r1, r2, r3⟩ := hf _ _ ⟨s2, s1⟩ hb.1 hb.2
  rw [s1] at r3
  exact ⟨r1.trans s1, r2, by rw [r3, s3]; ring⟩

/-- same-length contract of a recursive callee -/
def SameLenContract (W : Nat) (K : MulKernel) : Prop :=
  ∀ c neg a b, a.length = b.length → c.length = a.length + b.length → IsWords W c →
    IsWords W a → IsWords W b → MulContract W K c neg a b

theorem mul_lt_pow_int (W : Nat) (x y : List Nat) (hx : IsWords W x) (hy : IsWords W y) (n : Nat)
    (hn : x.length + y.length ≤ n) :
    ((val W x * val W y : Nat) : Int) < (2 : Int) ^ (W * n) := by
  have h1 := val_lt W x hx
  have h2 := val_lt W y hy
  have h3 : val W x * val W y < 2 ^ (W * x.length) * 2 ^ (W * y.length) := Nat.mul_lt_mul'' h1 h2
  rw [← Nat.pow_add, ← Nat.mul_add] at h3
  have h4 : 2 ^ (W * (x.length + y.length)) ≤ 2 ^ (W * n) :=
    Nat.pow_le_pow_right (by omega) (Nat.mul_le_mul_left _ hn)
  have : val W x * val W y < 2 ^ (W * n) := Nat.lt_of_lt_of_le h3 h4
  exact_mod_cast this

-- ------------------------------------------------------------------ Karatsuba: the updates of c

/-- the seven updates of `c` in `karatsubaSameLen`, for given products and differences -/
def karaApply (W : Nat) (rec : MulKernel) (mid : Nat) (c : List Nat) (neg : Bool) (cLo cHi : List Nat)
    (neg' : Bool) (aDiff bDiff : List Nat) : List Nat × Int :=
  thenSet c 0 (addSignedSameLen W (window c 0 (2 * mid)) neg cLo) fun c cC0 =>
  thenSet c mid (addSignedSameLen W (window c mid (3 * mid)) neg cLo) fun c k1 =>
  thenSet c (2 * mid) (addSignedSameLen W (c.drop (2 * mid)) neg cHi) fun c carry =>
  thenSet c mid (addSignedInPlace W (window c mid (3 * mid)) neg cHi) fun c k3 =>
  thenSet c mid (rec (window c mid (3 * mid)) neg' aDiff bDiff) fun c k4 =>
  thenSet c (2 * mid) (addSignedWord W (window c (2 * mid) (3 * mid)) cC0) fun c k5 =>
  thenSet c (3 * mid) (addSignedWord W (c.drop (3 * mid)) (k1 + k3 + k4 + k5)) fun c k =>
  (c, carry + k)

theorem karatsubaSameLen_eq (W : Nat) (rec : MulKernel) (c : List Nat) (neg : Bool) (a b : List Nat) :
    karatsubaSameLen W rec c neg a b =
      karaApply W rec ((a.length + 1) / 2) c neg
        (rec (List.replicate (2 * ((a.length + 1) / 2)) 0) false (a.take ((a.length + 1) / 2))
          (b.take ((a.length + 1) / 2))).1
        (rec (List.replicate (2 * (a.length - (a.length + 1) / 2)) 0) false
          (a.drop ((a.length + 1) / 2)) (b.drop ((a.length + 1) / 2))).1
        (!(neg != ((subInPlaceWithSign W (a.take ((a.length + 1) / 2)) (a.drop ((a.length + 1) / 2))).1
            != (subInPlaceWithSign W (b.take ((a.length + 1) / 2)) (b.drop ((a.length + 1) / 2))).1)))
        (subInPlaceWithSign W (a.take ((a.length + 1) / 2)) (a.drop ((a.length + 1) / 2))).2
        (subInPlaceWithSign W (b.take ((a.length + 1) / 2)) (b.drop ((a.length + 1) / 2))).2 := by
  rfl

theorem list_delta_bound (W : Nat) (neg : Bool) (l : List Nat) (hl : IsWords W l) (m : Nat)
    (h : l.length ≤ m) : |sgn neg * (val W l : Int)| < (2 : Int) ^ (W * m) := by
  rw [abs_sgn_mul]
  have h1 := val_lt W l hl
  have h2 : 2 ^ (W * l.length) ≤ 2 ^ (W * m) := Nat.pow_le_pow_right (by omega) (Nat.mul_le_mul_left _ h)
  have : val W l < 2 ^ (W * m) := Nat.lt_of_lt_of_le h1 h2
  exact_mod_cast this

/-- a sum of a few carries fits a word, hence any non-empty window -/
theorem small_carry_bound (W : Nat) (hW : 3 ≤ W) (x : Int) (h1 : -7 ≤ x) (h2 : x ≤ 7) :
    |x| < (2 : Int) ^ W ∧ ∀ m, 1 ≤ m → |x| < (2 : Int) ^ (W * m) := by
  have h8 := eight_le_pow_int W hW
  have hx : |x| < (2 : Int) ^ W := abs_lt.mpr ⟨by omega, by omega⟩
  refine ⟨hx, fun m hm => lt_of_lt_of_le hx ?_⟩
  have : 2 ^ W ≤ 2 ^ (W * m) := Nat.pow_le_pow_right (by omega) (Nat.le_mul_of_pos_right W hm)
  exact_mod_cast this

/-- `addSignedSameLen` of `rhs` onto the window `c[i..j]` as a step of a `thenSet` program -/
theorem Buf.stepSameLen {W L i j : Nat} {c : List Nat} (hc : Buf W L c) (neg : Bool)
    {rhs : List Nat} (hr : IsWords W rhs) (hl : i + rhs.length = j) (hj : j ≤ L) {Y : Int}
    {f : List Nat → Int → List Nat × Int}
    (hf : ∀ c' k, Buf W L c' → -1 ≤ k → k ≤ 1 → Upd W c' (f c' k).1 (f c' k).2
      (Y - (2 : Int) ^ (W * i) * (sgn neg * val W rhs) + (2 : Int) ^ (W * j) * k)) :
    Upd W c (thenSet c i (addSignedSameLen W (window c i j) neg rhs) f).1
      (thenSet c i (addSignedSameLen W (window c i j) neg rhs) f).2 Y :=
  (addSignedSameLen_upd W _ neg rhs (hc.win i hj).1 hr (by rw [(hc.win i hj).2]; omega)).step hc
    (by omega) hj (list_delta_bound W neg rhs hr _ (by omega)) hf

/-- the same for `addSignedInPlace`, whose `rhs` may be shorter than the window -/
theorem Buf.stepInPlace {W L i j : Nat} {c : List Nat} (hc : Buf W L c) (neg : Bool)
    {rhs : List Nat} (hr : IsWords W rhs) (hl : i + rhs.length ≤ j) (hj : j ≤ L) {Y : Int}
    {f : List Nat → Int → List Nat × Int}
    (hf : ∀ c' k, Buf W L c' → -1 ≤ k → k ≤ 1 → Upd W c' (f c' k).1 (f c' k).2
      (Y - (2 : Int) ^ (W * i) * (sgn neg * val W rhs) + (2 : Int) ^ (W * j) * k)) :
    Upd W c (thenSet c i (addSignedInPlace W (window c i j) neg rhs) f).1
      (thenSet c i (addSignedInPlace W (window c i j) neg rhs) f).2 Y :=
  (addSignedInPlace_upd W _ neg rhs (hc.win i hj).1 hr (by rw [(hc.win i hj).2]; omega)).step hc
    (by omega) hj (list_delta_bound W neg rhs hr _ (by omega)) hf

/-- a sum `x` of a few carries applied to the non-empty window `c[i..j]` -/
theorem Buf.stepWord {W L i j : Nat} {c : List Nat} (hc : Buf W L c) (hW : 3 ≤ W) {x : Int}
    (h1 : -7 ≤ x) (h2 : x ≤ 7) (hij : i < j) (hj : j ≤ L) {Y : Int}
    {f : List Nat → Int → List Nat × Int}
    (hf : ∀ c' k, Buf W L c' → -1 ≤ k → k ≤ 1 → Upd W c' (f c' k).1 (f c' k).2
      (Y - (2 : Int) ^ (W * i) * x + (2 : Int) ^ (W * j) * k)) :
    Upd W c (thenSet c i (addSignedWord W (window c i j) x) f).1
      (thenSet c i (addSignedWord W (window c i j) x) f).2 Y := by
  obtain ⟨x1, x2⟩ := small_carry_bound W hW x h1 h2
  exact (addSignedWord_upd W _ x (hc.win i hj).1 x1).step hc (by omega) hj (x2 _ (by omega)) hf

/-- the last such carry word: the window reaches the end of the buffer and its carry joins the
    carry out of the whole -/
theorem Buf.lastWord {W L i : Nat} {c : List Nat} (hc : Buf W L c) (hW : 3 ≤ W)
    {x carry Y : Int} (h1 : -7 ≤ x) (h2 : x ≤ 7) (hi : i ≤ L)
    (hY : Y = (2 : Int) ^ (W * i) * x + (2 : Int) ^ (W * L) * carry) :
    Upd W c (thenSet c i (addSignedWord W (window c i L) x) fun c k => (c, carry + k)).1
      (thenSet c i (addSignedWord W (window c i L) x) fun c k => (c, carry + k)).2 Y := by
  obtain ⟨hw, rfl⟩ := hc
  have hu := addSignedWord_upd W _ x (window_words hw i c.length) (small_carry_bound W hW x h1 h2).1
  generalize addSignedWord W (window c i c.length) x = p at hu ⊢
  obtain ⟨w, k⟩ := p
  simp only [thenSet]
  obtain ⟨s1, s2, s3⟩ := setWindow_upd W c i c.length hi (Nat.le_refl _) hw w k x hu
  exact ⟨s1, s2, by rw [s3, hY]; ring⟩

theorem karaApply_spec (W : Nat) (rec : MulKernel) (hrec : SameLenContract W rec) (mid : Nat)
    (hW : 3 ≤ W) (hmid : 1 ≤ mid) (c : List Nat) (neg : Bool) (cLo cHi : List Nat) (neg' : Bool)
    (aDiff bDiff : List Nat) (hc : IsWords W c) (h3 : 3 * mid ≤ c.length) (h4 : c.length ≤ 4 * mid)
    (hlo : cLo.length = 2 * mid) (hwlo : IsWords W cLo) (hhi : cHi.length + 2 * mid = c.length)
    (hwhi : IsWords W cHi) (hda : aDiff.length = mid) (hdb : bDiff.length = mid)
    (hwa : IsWords W aDiff) (hwb : IsWords W bDiff) :
    Upd W c (karaApply W rec mid c neg cLo cHi neg' aDiff bDiff).1
      (karaApply W rec mid c neg cLo cHi neg' aDiff bDiff).2
      (sgn neg * (val W cLo : Int)
        + (2 : Int) ^ (W * mid) * (sgn neg * (val W cLo : Int) + sgn neg * (val W cHi : Int)
          + sgn neg' * ((val W aDiff * val W bDiff : Nat) : Int))
        + (2 : Int) ^ (W * (2 * mid)) * (sgn neg * (val W cHi : Int))) := by
  generalize hl : c.length = L at h3 h4 hhi
  replace hc : Buf W L c := ⟨hc, hl⟩
  clear hl
  unfold karaApply
  refine hc.stepSameLen neg hwlo (by omega) (by omega) fun c cC0 hc _ _ => ?_
  refine hc.stepSameLen neg hwlo (by omega) (by omega) fun c k1 hc _ _ => ?_
  rw [hc.drop_eq]
  refine hc.stepSameLen neg hwhi (by omega) (by omega) fun c carry hc _ _ => ?_
  refine hc.stepInPlace neg hwhi (by omega) (by omega) fun c k3 hc _ _ => ?_
  refine Upd.step (hrec _ neg' aDiff bDiff (hda.trans hdb.symm)
      (by rw [(hc.win _ (by omega)).2]; omega) (hc.win _ (by omega)).1 hwa hwb) hc (by omega) (by omega)
    (by rw [abs_sgn_mul]; exact mul_lt_pow_int W aDiff bDiff hwa hwb _ (by omega))
    fun c k4 hc _ _ => ?_
  refine hc.stepWord hW (by omega) (by omega) (by omega) (by omega) fun c k5 hc _ _ => ?_
  rw [hc.drop_eq]
  refine hc.lastWord hW (by omega) (by omega) (by omega) ?_
  ring

/-- a kernel that meets its contract on a zero-filled buffer long enough for the product leaves the
    product there, and its carry is zero (`debug_assert_zero!`) -/
theorem MulContract.zeros {W n : Nat} {K : MulKernel} {x y : List Nat}
    (h : MulContract W K (List.replicate n 0) false x y) (hx : IsWords W x) (hy : IsWords W y)
    (hn : x.length + y.length ≤ n) :
    Holds W n (K (List.replicate n 0) false x y).1 (val W x * val W y) ∧
    (K (List.replicate n 0) false x y).2 = 0 :=
  (Holds.zeros W n).upd h (by simp [sgn]) (by exact_mod_cast mul_lt_pow_int W x y hx hy n hn)

/-- the recursive callee adds a product that fits the buffer -/
theorem SameLenContract.add_holds {W : Nat} {rec : MulKernel} (hrec : SameLenContract W rec)
    {n m C X Y : Nat} {c x y : List Nat} (hc : Holds W n c C) (hx : Holds W m x X)
    (hy : Holds W m y Y) (hn : n = m + m) (hfit : C + X * Y < 2 ^ (W * n)) :
    Holds W n (rec c false x y).1 (C + X * Y) := by
  obtain ⟨hxl, hxw, rfl⟩ := hx
  obtain ⟨hyl, hyw, rfl⟩ := hy
  exact (hc.upd (hrec c false x y (hxl.trans hyl.symm) (by rw [hc.1, hxl, hyl, hn]) hc.2.1 hxw hyw)
    (by simp [sgn]) hfit).1

theorem SameLenContract.zero_holds {W : Nat} {rec : MulKernel} (hrec : SameLenContract W rec)
    {n m X Y : Nat} {x y : List Nat} (hx : Holds W m x X) (hy : Holds W m y Y) (hn : n = m + m) :
    Holds W n (rec (List.replicate n 0) false x y).1 (X * Y) := by
  obtain ⟨hxl, hxw, rfl⟩ := hx
  obtain ⟨hyl, hyw, rfl⟩ := hy
  exact (MulContract.zeros (hrec _ false x y (hxl.trans hyl.symm)
    (by rw [List.length_replicate, hxl, hyl, hn]) (isWords_replicate_zero W n) hxw hyw) hxw hyw
    (by rw [hxl, hyl, hn])).1

/-- `mul::multiply` through the simple path: on a zero-filled `c` the carry is zero
    (`debug_assert_zero!`) and the buffer holds the product -/
theorem addMulChunk_zero (W : Nat) (a b : List Nat) (ha : IsWords W a) (hb : IsWords W b) :
    (addMulChunk W a (List.replicate (a.length + b.length) 0) b 0).2 = 0 ∧
    val W (addMulChunk W a (List.replicate (a.length + b.length) 0) b 0).1 = val W a * val W b ∧
    IsWords W (addMulChunk W a (List.replicate (a.length + b.length) 0) b 0).1 := by
  obtain ⟨s1, s2, s3, _⟩ := addMulChunk_spec W a ha b (List.replicate (a.length + b.length) 0) 0
    (by simp) (isWords_replicate_zero W _) hb (Nat.zero_le 1)
  rw [Nat.mul_zero, Nat.add_zero] at s1
  obtain ⟨⟨_, w, v⟩, k0⟩ := (Holds.zeros W _).add s2 s3 s1
    (by rw [Nat.zero_add, Nat.mul_add, Nat.pow_add]
        exact Nat.mul_lt_mul'' (val_lt W a ha) (val_lt W b hb))
  exact ⟨k0, v.trans (Nat.zero_add _), w⟩

theorem sgn_diff (W : Nat) (x y : List Nat) (hx : IsWords W x) (hy : IsWords W y)
    (hl : y.length ≤ x.length) :
    (subInPlaceWithSign W x y).2.length = x.length ∧ IsWords W (subInPlaceWithSign W x y).2 ∧
    sgn (subInPlaceWithSign W x y).1 * (val W (subInPlaceWithSign W x y).2 : Int)
      = (val W x : Int) - val W y := by
  obtain ⟨s1, s2, s3, s4⟩ := subInPlaceWithSign_spec W x y hx hy hl
  refine ⟨s1, s2, ?_⟩
  generalize subInPlaceWithSign W x y = res at s3 s4
  obtain ⟨sg, d⟩ := res
  cases sg with
  | false => have := s3 rfl; simp only [sgn] at *; simp; omega
  | true => have := (s4 rfl).1; simp only [sgn] at *; simp; omega

theorem sgn_karatsuba (neg sa sb : Bool) :
    sgn (!(neg != (sa != sb))) = -(sgn neg * sgn sa * sgn sb) := by
  cases neg <;> cases sa <;> cases sb <;> simp [sgn]

/-- **Karatsuba** (`karatsuba::add_signed_mul_same_len`): if the recursive callee meets the
    same-length contract then so does one Karatsuba level, for every `n ≥ 2` -/
theorem karatsubaSameLen_contract (W : Nat) (hW : 3 ≤ W) (rec : MulKernel)
    (hrec : SameLenContract W rec) (c : List Nat) (neg : Bool) (a b : List Nat)
    (hab : a.length = b.length) (hn : 2 ≤ a.length) (hcl : c.length = a.length + b.length)
    (hc : IsWords W c) (ha : IsWords W a) (hb : IsWords W b) :
    MulContract W (karatsubaSameLen W rec) c neg a b := by
  unfold MulContract
  rw [karatsubaSameLen_eq]
  generalize hmid : (a.length + 1) / 2 = mid
  have hm1 : 1 ≤ mid := by omega
  have hm2 : mid ≤ a.length := by omega
  have hm3 : 3 * mid ≤ c.length := by omega
  have hm4 : c.length ≤ 4 * mid := by omega
  have hal : (a.take mid).length = mid := length_take_of_le hm2
  have hbl : (b.take mid).length = mid := length_take_of_le (by omega)
  have had : (a.drop mid).length = a.length - mid := List.length_drop ..
  have hbd : (b.drop mid).length = a.length - mid := by rw [List.length_drop]; omega
  -- c_lo = a_lo * b_lo,  c_hi = a_hi * b_hi
  obtain ⟨llo, wlo, vlo⟩ := hrec.zero_holds (n := 2 * mid) ⟨hal, ha.take mid, rfl⟩
    ⟨hbl, hb.take mid, rfl⟩ (by omega)
  obtain ⟨lhi, whi, vhi⟩ := hrec.zero_holds (n := 2 * (a.length - mid)) ⟨had, ha.drop mid, rfl⟩
    ⟨hbd, hb.drop mid, rfl⟩ (by omega)
  -- the differences
  obtain ⟨dal, daw, dav⟩ := sgn_diff W (a.take mid) (a.drop mid) (ha.take _) (ha.drop _)
    (by rw [hal, had]; omega)
  obtain ⟨dbl, dbw, dbv⟩ := sgn_diff W (b.take mid) (b.drop mid) (hb.take _) (hb.drop _)
    (by rw [hbl, hbd]; omega)
  have h1 := karaApply_spec W rec hrec mid hW hm1 c neg _ _
    (!(neg != ((subInPlaceWithSign W (a.take mid) (a.drop mid)).1
      != (subInPlaceWithSign W (b.take mid) (b.drop mid)).1)))
    _ _ hc hm3 hm4 llo wlo (by rw [lhi]; omega) whi (by rw [dal, hal]) (by rw [dbl, hbl]) daw dbw
  refine ⟨h1.1, h1.2.1, ?_⟩
  rw [h1.2.2, vlo, vhi, sgn_karatsuba]
  have hva := val_take_add_drop W a mid
  have hvb := val_take_add_drop W b mid
  rw [hal] at hva
  rw [hbl] at hvb
  have hpow : (2 : Int) ^ (W * (2 * mid)) = (2 : Int) ^ (W * mid) * (2 : Int) ^ (W * mid) := by
    rw [← pow_add]; congr 1; ring
  rw [hva, hvb, hpow]
  push_cast
  generalize (val W (a.take mid) : Int) = aLo at *
  generalize (val W (a.drop mid) : Int) = aHi at *
  generalize (val W (b.take mid) : Int) = bLo at *
  generalize (val W (b.drop mid) : Int) = bHi at *
  generalize sgn (subInPlaceWithSign W (a.take mid) (a.drop mid)).1 = sa at *
  generalize sgn (subInPlaceWithSign W (b.take mid) (b.drop mid)).1 = sb at *
  generalize (val W (subInPlaceWithSign W (a.take mid) (a.drop mid)).2 : Int) = dA at *
  generalize (val W (subInPlaceWithSign W (b.take mid) (b.drop mid)).2 : Int) = dB at *
  generalize (2 : Int) ^ (W * mid) = Bm
  generalize sgn neg = s
  have e : sa * sb * (dA * dB) = (aLo - aHi) * (bLo - bHi) := by rw [← dav, ← dbv]; ring
  linear_combination (-(s * Bm)) * e

-- ====================================================================== Toom-3: scratch values

/-- `t = v·m` extended by the carry word and `extra` zero words (`t1[2n3] = mul_word_in_place(t1_short, 3);
    t1[2n3+1] = 0`, `c_eval[2·n3_short] = mul_word_in_place(c_short, 12)`) -/
theorem mulWord_extend {W n V : Nat} {v : List Nat} (hv : Holds W n v V) {m : Nat} (hm : m < 2 ^ W) :
    Holds W (n + 1) ((mulWordInPlace W v m 0).1 ++ [(mulWordInPlace W v m 0).2]) (V * m) ∧
    Holds W (n + 2) ((mulWordInPlace W v m 0).1 ++ [(mulWordInPlace W v m 0).2, 0]) (V * m) := by
  obtain ⟨rfl, hv, rfl⟩ := hv
  obtain ⟨s1, s2, s3, s4⟩ := mulWordInPlace_spec W v m 0 hv hm (Nat.two_pow_pos W)
  generalize mulWordInPlace W v m 0 = res at s1 s2 s3 s4
  obtain ⟨r, c⟩ := res
  simp only at s1 s2 s3 s4 ⊢
  have h1 := Holds.snoc s2 s3 s4 (show _ = val W v * m by omega)
  refine ⟨h1, ?_⟩
  rw [show r ++ [c, 0] = r ++ [c] ++ [0] by simp]
  exact Holds.snoc h1.1 h1.2.1 (Nat.two_pow_pos W) (by rw [h1.2.2]; omega)

theorem toomEval2_spec {W n m A0 A1 A2 : Nat} {a0 a1 a2 : List Nat} (hW : 3 ≤ W)
    (h0 : Holds W n a0 A0) (h1 : Holds W n a1 A1) (h2 : Holds W m a2 A2) (hl2 : m ≤ n) :
    Holds W (n + 1) (toomEval2 W a0 a1 a2) (A0 + 2 * A1 + 4 * A2) := by
  obtain ⟨rfl, h0, rfl⟩ := h0
  obtain ⟨hl1, h1, rfl⟩ := h1
  obtain ⟨rfl, h2, rfl⟩ := h2
  have h8 : 2 ^ 3 ≤ 2 ^ W := Nat.pow_le_pow_right (by omega) hW
  obtain ⟨s1, s2, s3, s4⟩ := addMulWordSameLen_spec W a0 2 a1 h0 h1 hl1.symm (by omega)
  simp only [toomEval2]
  generalize addMulWordSameLen W a0 2 a1 = res at s1 s2 s3 s4
  obtain ⟨e1, k1⟩ := res
  simp only at s1 s2 s3 s4 ⊢
  obtain ⟨t1, t2, t3, t4⟩ := addMulWordInPlace_spec W e1 4 a2 s3 h2 (by omega) (by omega)
  generalize addMulWordInPlace W e1 4 a2 = res2 at t1 t2 t3 t4
  obtain ⟨e2, k2⟩ := res2
  simp only at t1 t2 t3 t4 ⊢
  have b0 := val_lt W a0 h0
  have b1 := val_lt W a1 h1
  have b2 := val_lt W a2 h2
  have be1 := val_lt W e1 s3
  have hx : 2 ^ (W * a2.length) ≤ 2 ^ (W * a0.length) :=
    Nat.pow_le_pow_right (by omega) (Nat.mul_le_mul_left _ hl2)
  rw [s2] at t1 be1
  rw [hl1] at b1
  have hk1 : k1 ≤ 2 := by
    by_contra hc
    have : 2 ^ (W * a0.length) * 3 ≤ 2 ^ (W * a0.length) * k1 := Nat.mul_le_mul_left _ (by omega)
    omega
  have hk2 : k2 ≤ 4 := by
    by_contra hc
    have : 2 ^ (W * a0.length) * 5 ≤ 2 ^ (W * a0.length) * k2 := Nat.mul_le_mul_left _ (by omega)
    omega
  refine Holds.snoc (t2.trans s2) t3 (by omega) ?_
  rw [Nat.mul_add]
  omega

/-- `a02 = a0 + a2` with its carry word; the top word is that carry bit -/
theorem toomEval02_spec {W n m A0 A2 : Nat} {a0 a2 : List Nat} (hW : 1 ≤ W) (h0 : Holds W n a0 A0)
    (h2 : Holds W m a2 A2) (hl : m ≤ n) :
    Holds W (n + 1) (toomEval02 W a0 a2) (A0 + A2) ∧ (toomEval02 W a0 a2).getD n 0 ≤ 1 := by
  obtain ⟨rfl, h0, rfl⟩ := h0
  obtain ⟨rfl, h2, rfl⟩ := h2
  obtain ⟨s1, s2, s3, s4⟩ := addInPlace_spec W a0 a2 h0 h2 hl
  simp only [toomEval02]
  generalize addInPlace W a0 a2 = res at s1 s2 s3 s4
  obtain ⟨s, k⟩ := res
  simp only at s1 s2 s3 s4 ⊢
  have h1 : (1 : Nat) < 2 ^ W := Nat.one_lt_two_pow (by omega)
  refine ⟨Holds.snoc s2 s3 (by omega) s1, ?_⟩
  rw [List.getD_eq_getElem?_getD, List.getElem?_append_right (by omega)]
  simp [s2]; exact s4

theorem val_snoc_split (W : Nat) (l : List Nat) (n : Nat) (h : l.length = n + 1) :
    val W l = val W (l.take n) + 2 ^ (W * n) * l.getD n 0 := by
  have h1 := val_take_add_drop W l n
  rw [length_take_of_le (by omega), drop_eq_getD_cons l n (by omega)] at h1
  have : l.drop (n + 1) = [] := List.drop_eq_nil_of_le (by omega)
  rw [this] at h1
  simpa using h1

theorem toomEval1_spec {W n A A1 : Nat} {a02 a1 : List Nat} (hW : 2 ≤ W)
    (h02 : Holds W (n + 1) a02 A) (h1 : Holds W n a1 A1) (htop : a02.getD n 0 ≤ 1) :
    Holds W (n + 1) (toomEval1 W a02 a1) (A + A1) := by
  obtain ⟨hl, h02, rfl⟩ := h02
  obtain ⟨rfl, h1, rfl⟩ := h1
  have hsp := val_snoc_split W a02 a1.length hl
  have htl : (a02.take a1.length).length = a1.length := length_take_of_le (by omega)
  obtain ⟨s1, s2, s3, s4⟩ := addSameLen_spec W (a02.take a1.length) a1 0 (h02.take _) h1 htl (by omega)
  simp only [toomEval1]
  generalize addSameLen W (a02.take a1.length) a1 0 = res at s1 s2 s3 s4
  obtain ⟨s, k⟩ := res
  simp only at s1 s2 s3 s4 ⊢
  rw [htl] at s1 s2
  have h4 : 2 ^ 2 ≤ 2 ^ W := Nat.pow_le_pow_right (by omega) hW
  refine Holds.snoc s2 s3 (by omega) ?_
  rw [hsp, Nat.mul_add]
  omega

theorem sgn_bne (sa sb : Bool) : sgn (sa != sb) = sgn sa * sgn sb := by
  cases sa <;> cases sb <;> simp [sgn]

theorem pow_two_succ_succ (W n3 : Nat) (hW : 3 ≤ W) :
    64 * (2 ^ (W * n3) * 2 ^ (W * n3)) ≤ 2 ^ (W * (2 * n3 + 2)) := by
  have h1 : 2 ^ (W * (2 * n3 + 2)) = 2 ^ (W * n3) * 2 ^ (W * n3) * (2 ^ W * 2 ^ W) := by
    rw [← Nat.pow_add, ← Nat.pow_add, ← Nat.pow_add]; congr 1; ring
  have h8 : 2 ^ 3 ≤ 2 ^ W := Nat.pow_le_pow_right (by omega) hW
  have h64 : 64 ≤ 2 ^ W * 2 ^ W := by
    have := Nat.mul_le_mul h8 h8
    simpa using this
  rw [h1, Nat.mul_comm 64]
  exact Nat.mul_le_mul_left _ h64

/-- evaluation at `1` and at `−1` of an operand with parts `a0`, `a1`, `a2` -/
theorem toomEval1m_spec {W n m A0 A1 A2 : Nat} {a0 a1 a2 : List Nat} (hW : 2 ≤ W)
    (h0 : Holds W n a0 A0) (h1 : Holds W n a1 A1) (h2 : Holds W m a2 A2) (hl2 : m ≤ n) :
    Holds W (n + 1) (toomEval1 W (toomEval02 W a0 a2) a1) (A0 + A2 + A1) ∧
    ∃ D, Holds W (n + 1) (subInPlaceWithSign W (toomEval02 W a0 a2) a1).2 D ∧
      sgn (subInPlaceWithSign W (toomEval02 W a0 a2) a1).1 * (D : Int) = (A0 : Int) + A2 - A1 := by
  obtain ⟨h02, t⟩ := toomEval02_spec (by omega) h0 h2 hl2
  obtain ⟨lm, wm, vm⟩ := sgn_diff W _ a1 h02.2.1 h1.2.1 (by rw [h02.1, h1.1]; omega)
  exact ⟨toomEval1_spec hW h02 h1 t, _, ⟨lm.trans h02.1, wm, rfl⟩,
    by rw [vm, h02.2.2, h1.2.2]; push_cast; rfl⟩

theorem addSignedSameLen_holds {W n T₀ X T : Nat} {t x : List Nat} (neg : Bool) (ht : Holds W n t T₀)
    (hx : Holds W n x X) (hT : (T₀ : Int) + sgn neg * (X : Int) = T) (hlt : T < 2 ^ (W * n)) :
    Holds W n (addSignedSameLen W t neg x).1 T :=
  (ht.upd (hx.2.2 ▸ addSignedSameLen_upd W t neg x ht.2.1 hx.2.1 (ht.1.trans hx.1.symm)) hT hlt).1

/-- `add_mul_word_same_len_in_place` / `sub_mul_word_same_len_in_place` as signed updates -/
theorem signedMulWord_upd (W : Nat) (t x : List Nat) (m : Nat) (neg : Bool) (ht : IsWords W t)
    (hx : IsWords W x) (hl : t.length = x.length) (hm : m < 2 ^ W) :
    ∃ k, Upd W t (if neg then (subMulWordSameLen W t m x).1 else (addMulWordSameLen W t m x).1) k
      (sgn neg * ((m * val W x : Nat) : Int)) := by
  cases neg with
  | true =>
    obtain ⟨q1, q2, q3, _⟩ := subMulWordSameLen_spec W t m x ht hx hl hm
    exact ⟨_, Upd.of_sub q2 q3 q1⟩
  | false =>
    obtain ⟨q1, q2, q3, _⟩ := addMulWordSameLen_spec W t m x ht hx hl hm
    exact ⟨_, Upd.of_add q2 q3 q1⟩

/-- `t1 = 3·V(0) + V(2) − 12·V(∞) ± 2·V(−1)`, computed in this order in `2·n3 + 2` words; every
    intermediate result fits, so every carry and borrow on the way is zero -/
theorem toomT1_spec (W : Nat) (hW : 4 ≤ W) (rec : MulKernel) (hrec : SameLenContract W rec)
    (n3 m : Nat) (hm : m ≤ n3) {v0 vinf e2a e2b cEval : List Nat} (vneg : Bool)
    {V0 Vi Ea Eb C : Nat} (h0 : Holds W (2 * n3) v0 V0) (hi : Holds W (2 * m) vinf Vi)
    (ha : Holds W (n3 + 1) e2a Ea) (hb : Holds W (n3 + 1) e2b Eb)
    (hc : Holds W (2 * n3 + 2) cEval C) (T : Nat)
    (hfit : V0 * 3 + Ea * Eb < 2 ^ (W * (2 * n3 + 2))) (h12 : Vi * 12 ≤ V0 * 3 + Ea * Eb)
    (hT : (V0 : Int) * 3 + Ea * Eb - Vi * 12 + sgn vneg * (2 * C : Nat) = T)
    (hlt : T < 2 ^ (W * (2 * n3 + 2))) :
    Holds W (2 * n3 + 2)
      (if vneg then (subMulWordSameLen W (subInPlace W (rec ((mulWordInPlace W v0 3 0).1
          ++ [(mulWordInPlace W v0 3 0).2, 0]) false e2a e2b).1
        ((mulWordInPlace W vinf 12 0).1 ++ [(mulWordInPlace W vinf 12 0).2])).1 2 cEval).1
      else (addMulWordSameLen W (subInPlace W (rec ((mulWordInPlace W v0 3 0).1
          ++ [(mulWordInPlace W v0 3 0).2, 0]) false e2a e2b).1
        ((mulWordInPlace W vinf 12 0).1 ++ [(mulWordInPlace W vinf 12 0).2])).1 2 cEval).1) T := by
  have h16 : 2 ^ 4 ≤ 2 ^ W := Nat.pow_le_pow_right (by omega) hW
  -- 3·V(0), two words longer; += V(2); −= 12·V(∞); ± 2·V(−1)
  have s1 := (mulWord_extend h0 (m := 3) (by omega)).2
  have s2 := hrec.add_holds s1 ha hb (by omega) hfit
  have s3 := subInPlace_holds s2 (mulWord_extend hi (m := 12) (by omega)).1 (by omega) h12
  obtain ⟨k, hu⟩ := signedMulWord_upd W _ cEval 2 vneg s3.2.1 hc.2.1 (s3.1.trans hc.1.symm) (by omega)
  exact (s3.upd (hc.2.2 ▸ hu) (by rw [← hT]; omega) hlt).1

/-- every value that occurs in the Toom-3 scratch buffers fits `2·n3 + 2` words: with the six
    parts below `x = B^n3`, nothing exceeds `52·x²`, and `B² ≥ 64` -/
theorem toom_bounds {A0 A1 A2 B0 B1 B2 x P : Nat} (a0 : A0 < x) (a1 : A1 < x) (a2 : A2 < x)
    (b0 : B0 < x) (b1 : B1 < x) (b2 : B2 < x) (hP : 64 * (x * x) ≤ P) :
    A0 * B0 * 3 + (A0 + 2 * A1 + 4 * A2) * (B0 + 2 * B1 + 4 * B2) < P ∧
    A2 * B2 * 12 ≤ A0 * B0 * 3 + (A0 + 2 * A1 + 4 * A2) * (B0 + 2 * B1 + 4 * B2) ∧
    2 * (A0 * B0 + (A0 * B2 + A1 * B1 + A2 * B0) + A2 * B2) < P ∧
    6 * (A0 * B0 + (A0 * B2 + A1 * B1 + A2 * B0) + (A1 * B2 + A2 * B1) + A2 * B2) < P := by
  have hV2 : (A0 + 2 * A1 + 4 * A2) * (B0 + 2 * B1 + 4 * B2)
      = A0 * B0 + 2 * (A0 * B1) + 4 * (A0 * B2) + 2 * (A1 * B0) + 4 * (A1 * B1) + 8 * (A1 * B2)
        + 4 * (A2 * B0) + 8 * (A2 * B1) + 16 * (A2 * B2) := by ring
  have p00 := Nat.mul_lt_mul'' a0 b0
  have p01 := Nat.mul_lt_mul'' a0 b1
  have p02 := Nat.mul_lt_mul'' a0 b2
  have p10 := Nat.mul_lt_mul'' a1 b0
  have p11 := Nat.mul_lt_mul'' a1 b1
  have p12 := Nat.mul_lt_mul'' a1 b2
  have p20 := Nat.mul_lt_mul'' a2 b0
  have p21 := Nat.mul_lt_mul'' a2 b1
  have p22 := Nat.mul_lt_mul'' a2 b2
  rw [hV2]
  generalize x * x = X at *
  omega

/-- every scratch buffer of Toom-3 (before the two exact divisions) holds the value the interpolation formulas
    promise; all the asserted-zero carries / borrows / remainders are zero on the way -/
theorem toomScratchPre_spec (W : Nat) (hW : 4 ≤ W) (rec : MulKernel) (hrec : SameLenContract W rec)
    (a b : List Nat) (hab : a.length = b.length) (hn : 16 ≤ a.length) (ha : IsWords W a)
    (hb : IsWords W b) (n3 : Nat) (hn3 : n3 = (a.length + 2) / 3)
    (A0 A1 A2 B0 B1 B2 : Nat)
    (hA0 : A0 = val W (a.take n3)) (hA1 : A1 = val W ((a.drop n3).take n3))
    (hA2 : A2 = val W (a.drop (2 * n3)))
    (hB0 : B0 = val W (b.take n3)) (hB1 : B1 = val W ((b.drop n3).take n3))
    (hB2 : B2 = val W (b.drop (2 * n3))) :
    Holds W (2 * n3) (toomScratchPre W rec a b).v0 (A0 * B0) ∧
    Holds W (2 * (a.length - 2 * n3)) (toomScratchPre W rec a b).vinf (A2 * B2) ∧
    Holds W (2 * n3 + 2) (toomScratchPre W rec a b).t2a ((A0 + A1 + A2) * (B0 + B1 + B2)) ∧
    Holds W (2 * n3 + 2) (toomScratchPre W rec a b).t1
      (6 * (A0 * B0 + (A0 * B2 + A1 * B1 + A2 * B0) + (A1 * B2 + A2 * B1) + A2 * B2)) ∧
    Holds W (2 * n3 + 2) (toomScratchPre W rec a b).t2
      (2 * (A0 * B0 + (A0 * B2 + A1 * B1 + A2 * B0) + A2 * B2)) := by
  have g2 : a.length - 2 * n3 ≤ n3 := by omega
  have a0 : Holds W n3 (a.take n3) A0 := ⟨length_take_of_le (by omega), ha.take _, hA0.symm⟩
  have b0 : Holds W n3 (b.take n3) B0 := ⟨length_take_of_le (by omega), hb.take _, hB0.symm⟩
  have a1 : Holds W n3 ((a.drop n3).take n3) A1 :=
    ⟨length_take_of_le (by rw [List.length_drop]; omega), (ha.drop _).take _, hA1.symm⟩
  have b1 : Holds W n3 ((b.drop n3).take n3) B1 :=
    ⟨length_take_of_le (by rw [List.length_drop]; omega), (hb.drop _).take _, hB1.symm⟩
  have a2 : Holds W (a.length - 2 * n3) (a.drop (2 * n3)) A2 :=
    ⟨List.length_drop .., ha.drop _, hA2.symm⟩
  have b2 : Holds W (a.length - 2 * n3) (b.drop (2 * n3)) B2 :=
    ⟨by rw [List.length_drop, hab], hb.drop _, hB2.symm⟩
  -- every part is below x = B^n3
  have hx2 : 2 ^ (W * (a.length - 2 * n3)) ≤ 2 ^ (W * n3) :=
    Nat.pow_le_pow_right (by omega) (Nat.mul_le_mul_left _ g2)
  obtain ⟨f1, f2, f3, f4⟩ := toom_bounds a0.lt a1.lt (Nat.lt_of_lt_of_le a2.lt hx2) b0.lt b1.lt
    (Nat.lt_of_lt_of_le b2.lt hx2) (pow_two_succ_succ W n3 (by omega))
  simp only [toomScratchPre, ← hn3]
  -- V(0), V(∞), the evaluation points 2, 1, −1, V(1), V(−1)
  have v0 := hrec.zero_holds a0 b0 (n := 2 * n3) (by omega)
  have vi := hrec.zero_holds a2 b2 (n := 2 * (a.length - 2 * n3)) (by omega)
  have e2a := toomEval2_spec (by omega) a0 a1 a2 g2
  have e2b := toomEval2_spec (by omega) b0 b1 b2 g2
  obtain ⟨e1a, Da, am, amv⟩ := toomEval1m_spec (by omega) a0 a1 a2 g2
  obtain ⟨e1b, Db, bm, bmv⟩ := toomEval1m_spec (by omega) b0 b1 b2 g2
  have t2a := hrec.zero_holds e1a e1b (n := 2 * n3 + 2) (by omega)
  have ce := hrec.zero_holds am bm (n := 2 * (n3 + 1)) (by omega)
  have hvm : sgn ((subInPlaceWithSign W (toomEval02 W (a.take n3) (a.drop (2 * n3)))
        ((a.drop n3).take n3)).1 != (subInPlaceWithSign W (toomEval02 W (b.take n3)
        (b.drop (2 * n3))) ((b.drop n3).take n3)).1) * ((Da : Int) * Db)
      = ((A0 : Int) + A2 - A1) * ((B0 : Int) + B2 - B1) := by
    rw [sgn_bne, ← amv, ← bmv]; ring
  -- t1 = 3·V(0) + V(2) − 12·V(∞) + 2·V(−1),  t2 = V(1) + V(−1)
  refine ⟨v0, vi, ⟨t2a.1, t2a.2.1, by rw [t2a.2.2]; ring⟩, ?_, ?_⟩
  · exact toomT1_spec W hW rec hrec n3 _ g2 _ v0 vi e2a e2b ce _ f1 f2
      (by push_cast; linear_combination 2 * hvm) f4
  · exact addSignedSameLen_holds _ t2a ce (by push_cast; rw [hvm]; ring) f3

/-- every scratch buffer of Toom-3 that is added into `c` holds the value the interpolation formulas
    promise -/
theorem toomScratch_spec (W : Nat) (hW : 4 ≤ W) (rec : MulKernel) (hrec : SameLenContract W rec)
    (a b : List Nat) (hab : a.length = b.length) (hn : 16 ≤ a.length) (ha : IsWords W a)
    (hb : IsWords W b) (n3 : Nat) (hn3 : n3 = (a.length + 2) / 3)
    (A0 A1 A2 B0 B1 B2 : Nat)
    (hA0 : A0 = val W (a.take n3)) (hA1 : A1 = val W ((a.drop n3).take n3))
    (hA2 : A2 = val W (a.drop (2 * n3)))
    (hB0 : B0 = val W (b.take n3)) (hB1 : B1 = val W ((b.drop n3).take n3))
    (hB2 : B2 = val W (b.drop (2 * n3))) :
    Holds W (2 * n3) (toomScratch W rec a b).v0 (A0 * B0) ∧
    Holds W (2 * (a.length - 2 * n3)) (toomScratch W rec a b).vinf (A2 * B2) ∧
    Holds W (2 * n3 + 2) (toomScratch W rec a b).t2a ((A0 + A1 + A2) * (B0 + B1 + B2)) ∧
    Holds W (2 * n3 + 2) (toomScratch W rec a b).t1
      (A0 * B0 + (A0 * B2 + A1 * B1 + A2 * B0) + (A1 * B2 + A2 * B1) + A2 * B2) ∧
    Holds W (2 * n3 + 2) (toomScratch W rec a b).t2
      (A0 * B0 + (A0 * B2 + A1 * B1 + A2 * B0) + A2 * B2) := by
  obtain ⟨h0, hi, ha1, ⟨p1l, p1w, p1v⟩, ⟨p2l, p2w, p2v⟩⟩ := toomScratchPre_spec W hW rec hrec a b hab hn ha hb
    n3 hn3 A0 A1 A2 B0 B1 B2 hA0 hA1 hA2 hB0 hB1 hB2
  -- bounds: both quotients fit the 2·n3 + 2 words
  have lt1 := val_lt W _ p1w
  have lt2 := val_lt W _ p2w
  rw [p1l, p1v] at lt1
  rw [p2l, p2v] at lt2
  simp only [toomScratch, ← hn3]
  rw [p1v, p2v, Nat.mul_div_cancel_left _ (by decide : 0 < 6), Nat.mul_div_cancel_left _ (by decide : 0 < 2)]
  obtain ⟨f1v, f1l, f1w⟩ := wordsOfLen_spec W (2 * n3 + 2)
    (A0 * B0 + (A0 * B2 + A1 * B1 + A2 * B0) + (A1 * B2 + A2 * B1) + A2 * B2)
  obtain ⟨f2v, f2l, f2w⟩ := wordsOfLen_spec W (2 * n3 + 2)
    (A0 * B0 + (A0 * B2 + A1 * B1 + A2 * B0) + A2 * B2)
  rw [Nat.mod_eq_of_lt (by omega)] at f1v f2v
  exact ⟨h0, hi, ha1, ⟨f1l, f1w, f1v⟩, ⟨f2l, f2w, f2v⟩⟩

-- ====================================================================== Toom-3: the updates of c

/-- `toomApply` as thirteen `thenSet` steps -/
theorem toomApply_eq (W n3 : Nat) (c : List Nat) (neg : Bool) (v0 vinf t2a t1 t2 : List Nat) :
    toomApply W n3 c neg v0 vinf t2a t1 t2 =
      thenSet c 0 (addSignedSameLen W (window c 0 (2 * n3)) neg v0) fun c cC0 =>
      thenSet c (2 * n3) (addSignedInPlace W (window c (2 * n3) (4 * n3 + 2)) (!neg) v0) fun c k2 =>
      thenSet c (2 * n3) (addSignedInPlace W (window c (2 * n3) (4 * n3 + 2)) (!neg) vinf) fun c k3 =>
      thenSet c (4 * n3) (addSignedSameLen W (c.drop (4 * n3)) neg vinf) fun c carry =>
      thenSet c n3 (addSignedInPlace W (window c n3 (3 * n3 + 2)) neg t2a) fun c k5 =>
      thenSet c n3 (addSignedSameLen W (window c n3 (3 * n3 + 2)) (!neg) t1) fun c k6 =>
      thenSet c (3 * n3) (addSignedSameLen W (window c (3 * n3) (5 * n3 + 2)) neg t1) fun c k7 =>
      thenSet c (2 * n3) (addSignedSameLen W (window c (2 * n3) (4 * n3 + 2)) neg t2) fun c k8 =>
      thenSet c (3 * n3) (addSignedSameLen W (window c (3 * n3) (5 * n3 + 2)) (!neg) t2) fun c k9 =>
      thenSet c (2 * n3) (addSignedWord W (window c (2 * n3) (3 * n3 + 2)) cC0) fun c k10 =>
      thenSet c (3 * n3 + 2) (addSignedWord W (window c (3 * n3 + 2) (4 * n3 + 2)) (k5 + k6 + k10))
        fun c k11 =>
      thenSet c (4 * n3 + 2) (addSignedWord W (window c (4 * n3 + 2) (5 * n3 + 2)) (k2 + k3 + k8 + k11))
        fun c k12 =>
      thenSet c (5 * n3 + 2) (addSignedWord W (c.drop (5 * n3 + 2)) (k7 + k9 + k12)) fun c k =>
      (c, carry + k) := rfl

theorem sgn_not (neg : Bool) : sgn (!neg) = -sgn neg := by cases neg <;> simp [sgn]

/-- The thirteen updates of `toomApply` in source order.  Each is one `thenSet` step; the carries
    `k1 … k12` are routed into the accumulators exactly as in the source, so that in the end every
    `B^j·k` owed by a step is paid by the carry-application step at position `j`. -/
theorem toomApply_spec (W n3 : Nat) (hW : 4 ≤ W) (hn3 : 1 ≤ n3) (c : List Nat) (neg : Bool)
    (v0 vinf t2a t1 t2 : List Nat) (hc : IsWords W c) (hL : 5 * n3 + 2 ≤ c.length)
    (hL2 : c.length ≤ 6 * n3) (hw_v0 : IsWords W v0) (hw_vinf : IsWords W vinf) (hw_t2a : IsWords W t2a) (hw_t1 : IsWords W t1)
    (hw_t2 : IsWords W t2) (hl_v0 : v0.length = 2 * n3) (hl_vinf : vinf.length + 4 * n3 = c.length)
    (hl_t2a : t2a.length = 2 * n3 + 2) (hl_t1 : t1.length = 2 * n3 + 2)
    (hl_t2 : t2.length = 2 * n3 + 2) :
    Upd W c (toomApply W n3 c neg v0 vinf t2a t1 t2).1 (toomApply W n3 c neg v0 vinf t2a t1 t2).2
      (sgn neg * ((val W v0 : Int) + (2 : Int) ^ (W * n3) * ((val W t2a : Int) - val W t1)
        + (2 : Int) ^ (W * (2 * n3)) * ((val W t2 : Int) - val W v0 - val W vinf)
        + (2 : Int) ^ (W * (3 * n3)) * ((val W t1 : Int) - val W t2)
        + (2 : Int) ^ (W * (4 * n3)) * val W vinf)) := by
  generalize hl : c.length = L at hL hL2 hl_vinf
  replace hc : Buf W L c := ⟨hc, hl⟩
  clear hl
  rw [toomApply_eq]
  refine hc.stepSameLen neg hw_v0 (by omega) (by omega) fun c k1 hc _ _ => ?_
  refine hc.stepInPlace (!neg) hw_v0 (by omega) (by omega) fun c k2 hc _ _ => ?_
  refine hc.stepInPlace (!neg) hw_vinf (by omega) (by omega) fun c k3 hc _ _ => ?_
  rw [hc.drop_eq]
  refine hc.stepSameLen neg hw_vinf (by omega) (by omega) fun c k4 hc _ _ => ?_
  refine hc.stepInPlace neg hw_t2a (by omega) (by omega) fun c k5 hc _ _ => ?_
  refine hc.stepSameLen (!neg) hw_t1 (by omega) (by omega) fun c k6 hc _ _ => ?_
  refine hc.stepSameLen neg hw_t1 (by omega) (by omega) fun c k7 hc _ _ => ?_
  refine hc.stepSameLen neg hw_t2 (by omega) (by omega) fun c k8 hc _ _ => ?_
  refine hc.stepSameLen (!neg) hw_t2 (by omega) (by omega) fun c k9 hc _ _ => ?_
  -- the four carry words
  refine hc.stepWord (by omega) (by omega) (by omega) (by omega) (by omega) fun c k10 hc _ _ => ?_
  refine hc.stepWord (by omega) (by omega) (by omega) (by omega) (by omega) fun c k11 hc _ _ => ?_
  refine hc.stepWord (by omega) (by omega) (by omega) (by omega) (by omega) fun c k12 hc _ _ => ?_
  rw [hc.drop_eq]
  refine hc.lastWord (by omega) (by omega) (by omega) (by omega) ?_
  simp only [sgn_not]
  ring

theorem val_three_parts (W : Nat) (a : List Nat) (n3 : Nat) (h : 2 * n3 ≤ a.length) :
    val W a = val W (a.take n3)
      + 2 ^ (W * n3) * (val W ((a.drop n3).take n3) + 2 ^ (W * n3) * val W (a.drop (2 * n3))) := by
  have h1 := val_take_add_drop W a n3
  have h2 := val_take_add_drop W (a.drop n3) n3
  rw [length_take_of_le (by omega)] at h1
  rw [length_take_of_le (by rw [List.length_drop]; omega), List.drop_drop] at h2
  have : n3 + n3 = 2 * n3 := by omega
  rw [this] at h2
  rw [h1, h2]

/-- **Toom-3** (`toom_3::add_signed_mul_same_len`), one level: if the recursive callee meets the
    same-length contract then so does this level, for every `n ≥ MIN_LEN = 16` -/
theorem toom3SameLen_contract (W : Nat) (hW : 4 ≤ W) (rec : MulKernel)
    (hrec : SameLenContract W rec) (c : List Nat) (neg : Bool) (a b : List Nat)
    (hab : a.length = b.length) (hn : 16 ≤ a.length) (hcl : c.length = a.length + b.length)
    (hc : IsWords W c) (ha : IsWords W a) (hb : IsWords W b) :
    MulContract W (toom3SameLen W rec) c neg a b := by
  unfold MulContract
  simp only [toom3SameLen]
  generalize hn3 : (a.length + 2) / 3 = n3
  have g1 : 2 * n3 ≤ a.length := by omega
  obtain ⟨⟨h0l, h0w, h0v⟩, ⟨hil, hiw, hiv⟩, ⟨hal, haw, hav⟩, ⟨h1l, h1w, h1v⟩, ⟨h2l, h2w, h2v⟩⟩ :=
    toomScratch_spec W hW rec hrec a b hab hn ha hb n3 hn3.symm _ _ _ _ _ _ rfl rfl rfl rfl rfl rfl
  have hk := toomApply_spec W n3 hW (by omega) c neg _ _ _ _ _ hc (by omega) (by omega)
    h0w hiw haw h1w h2w h0l (by rw [hil]; omega) hal h1l h2l
  refine ⟨hk.1, hk.2.1, ?_⟩
  rw [hk.2.2, h0v, hiv, hav, h1v, h2v, val_three_parts W a n3 g1,
    val_three_parts W b n3 (by omega)]
  push_cast
  ring

-- ------------------------------------------------------------------ mul::add_signed_mul_same_len

/-- side conditions on the regenerated thresholds (checked on their current values) -/
theorem threshold_simple_pos : 1 ≤ Dashu.Gen.mul_THRESHOLD_SIMPLE := by decide
theorem chunk_len_pos : 1 ≤ Dashu.Gen.mul_simple_CHUNK_LEN := by decide

theorem threshold_karatsuba_ge : 15 ≤ Dashu.Gen.mul_THRESHOLD_KARATSUBA := by decide

theorem addSignedMulSameLen_contract (W : Nat) (hW : 4 ≤ W) :
    ∀ fuel, SameLenContract W (addSignedMulSameLen W fuel) := by
  intro fuel
  induction fuel with
  | zero =>
    intro c neg a b _ hcl hc ha hb
    exact addSignedMulChunk_contract W c neg a b hcl hc ha hb
  | succ fuel ih =>
    intro c neg a b hab hcl hc ha hb
    unfold MulContract
    simp only [addSignedMulSameLen]
    split
    · exact addSignedMulChunk_contract W c neg a b hcl hc ha hb
    · rename_i h1
      split
      · have h2 := threshold_simple_pos
        exact karatsubaSameLen_contract W (by omega) _ ih c neg a b hab (by omega) hcl hc ha hb
      · have h3 := threshold_karatsuba_ge
        exact toom3SameLen_contract W hW _ ih c neg a b hab (by omega) hcl hc ha hb

-- ------------------------------------------------------------------ helpers::add_signed_mul_split_into_chunks

/-- general contract: any operand lengths with `c.len() = a.len() + b.len()` -/
def GenContract (W : Nat) (K : MulKernel) : Prop :=
  ∀ c neg a b, c.length = a.length + b.length → IsWords W c → IsWords W a → IsWords W b →
    MulContract W K c neg a b

theorem take_append_eq_setWindow (c : List Nat) (i : Nat) (w : List Nat)
    (h : i + w.length = c.length) : c.take i ++ w = setWindow c i w := by
  unfold setWindow
  rw [h, List.drop_length, List.append_nil]

theorem Upd.congr {W : Nat} {c c' : List Nat} {k δ δ' : Int} (h : Upd W c c' k δ) (e : δ = δ') :
    Upd W c c' k δ' := e ▸ h

/-- an update of the suffix `c[i..]` is an update of `c`, with the same carry out -/
theorem Upd.suffix {W : Nat} {c r : List Nat} {k δ : Int} {i : Nat} (h : Upd W (c.drop i) r k δ)
    (hc : IsWords W c) (hi : i ≤ c.length) :
    Upd W c (c.take i ++ r) k ((2 : Int) ^ (W * i) * δ) := by
  have hrl : i + r.length = c.length := by rw [h.1, List.length_drop]; omega
  rw [drop_eq_window] at h
  rw [take_append_eq_setWindow c i r hrl]
  obtain ⟨s1, s2, s3⟩ := setWindow_upd W c i c.length hi (Nat.le_refl _) hc r k δ h
  exact ⟨s1, s2, by rw [s3]; ring⟩

theorem splitLoop_succ (W chunkLen : Nat) (f tail : MulKernel) (k : Nat) (c : List Nat) (neg : Bool)
    (a b : List Nat) (carryN : Int) :
    splitLoop W chunkLen f tail (k + 1) c neg a b carryN =
      if a.length ≥ chunkLen then
        thenSet c b.length (addSignedWord W (window c b.length (chunkLen + b.length)) carryN)
          fun c k1 =>
        thenSet c 0 (f (window c 0 (chunkLen + b.length)) neg (a.take chunkLen) b) fun c k2 =>
        (c.take chunkLen
            ++ (splitLoop W chunkLen f tail k (c.drop chunkLen) neg (a.drop chunkLen) b (k1 + k2)).1,
          (splitLoop W chunkLen f tail k (c.drop chunkLen) neg (a.drop chunkLen) b (k1 + k2)).2)
      else splitFinish W tail c neg a b carryN := rfl

theorem splitFinish_eq (W : Nat) (tail : MulKernel) (c : List Nat) (neg : Bool) (a b : List Nat)
    (carryN : Int) :
    splitFinish W tail c neg a b carryN =
      (fun (c' : List Nat) (carry0 : Int) =>
        if a.length ≥ b.length then ((tail c' neg a b).1, carry0 + (tail c' neg a b).2)
        else if a ≠ [] then ((tail c' neg b a).1, carry0 + (tail c' neg b a).2)
        else (c', carry0))
      (c.take b.length ++ (addSignedWord W (c.drop b.length) carryN).1)
      (addSignedWord W (c.drop b.length) carryN).2 := rfl

theorem splitFinish_spec (W : Nat) (hW : 3 ≤ W) (tail : MulKernel) (htail : GenContract W tail)
    (c : List Nat) (neg : Bool) (a b : List Nat) (carryN : Int)
    (hcl : c.length = a.length + b.length) (hc : IsWords W c) (ha : IsWords W a) (hb : IsWords W b)
    (hk1 : -2 ≤ carryN) (hk2 : carryN ≤ 2) :
    Upd W c (splitFinish W tail c neg a b carryN).1 (splitFinish W tail c neg a b carryN).2
      (sgn neg * ((val W a * val W b : Nat) : Int) + (2 : Int) ^ (W * b.length) * carryN) := by
  have h8 := eight_le_pow_int W hW
  have hu := (addSignedWord_upd W (c.drop b.length) carryN (hc.drop _)
    (abs_lt.mpr ⟨by omega, by omega⟩)).suffix hc (by omega)
  rw [splitFinish_eq]
  generalize c.take b.length ++ (addSignedWord W (c.drop b.length) carryN).1 = c' at hu ⊢
  generalize (addSignedWord W (c.drop b.length) carryN).2 = carry0 at hu ⊢
  obtain ⟨s1, s2, s3⟩ := hu
  -- either order of the operands ends the same way
  have fin : ∀ x y, c.length = x.length + y.length → IsWords W x → IsWords W y →
      val W x * val W y = val W a * val W b →
      Upd W c (tail c' neg x y).1 (carry0 + (tail c' neg x y).2)
        (sgn neg * ((val W a * val W b : Nat) : Int) + (2 : Int) ^ (W * b.length) * carryN) := by
    intro x y hxy hx hy hv
    obtain ⟨t1, t2, t3⟩ := htail c' neg x y (s1.trans hxy) s2 hx hy
    rw [s1] at t1 t3
    rw [hv] at t3
    exact ⟨t1, t2, by linear_combination t3 + s3⟩
  simp only
  split
  · exact fin a b hcl ha hb rfl
  · split
    · exact fin b a (by omega) hb ha (Nat.mul_comm _ _)
    · rename_i hlt hnil
      have hnil' : a = [] := by
        by_contra hcon; exact hnil hcon
      subst hnil'
      refine ⟨s1, s2, ?_⟩
      simp only [val_nil, Nat.zero_mul, Nat.cast_zero, mul_zero, zero_add]
      linear_combination s3

theorem splitLoop_spec (W : Nat) (hW : 3 ≤ W) (chunkLen : Nat) (hL : 1 ≤ chunkLen)
    (f tail : MulKernel) (b : List Nat) (hb : IsWords W b)
    (hf : ∀ c' neg a', a'.length = chunkLen → c'.length = chunkLen + b.length → IsWords W c' →
      IsWords W a' → MulContract W f c' neg a' b)
    (htail : GenContract W tail) :
    ∀ (k : Nat) (c : List Nat) (neg : Bool) (a : List Nat) (carryN : Int),
      c.length = a.length + b.length → IsWords W c → IsWords W a → -2 ≤ carryN → carryN ≤ 2 →
      Upd W c (splitLoop W chunkLen f tail k c neg a b carryN).1
        (splitLoop W chunkLen f tail k c neg a b carryN).2
        (sgn neg * ((val W a * val W b : Nat) : Int) + (2 : Int) ^ (W * b.length) * carryN) := by
  intro k
  induction k with
  | zero =>
    intro c neg a carryN hcl hc ha hk1 hk2
    exact splitFinish_spec W hW tail htail c neg a b carryN hcl hc ha hb hk1 hk2
  | succ k ih =>
    intro c neg a carryN hcl hc ha hk1 hk2
    rw [splitLoop_succ]
    split
    · rename_i hge
      have htk : (a.take chunkLen).length = chunkLen := length_take_of_le hge
      have hva := val_take_add_drop W a chunkLen
      rw [htk] at hva
      replace hc : Buf W (a.length + b.length) c := ⟨hc, hcl⟩
      -- the pending carry into c[n..chunkLen+n], the chunk product into c[..chunkLen+n], the rest
      refine hc.stepWord hW (by omega) (by omega) (by omega) (by omega) fun c k1 hc _ _ => ?_
      have hw := hc.win 0 (show chunkLen + b.length ≤ a.length + b.length by omega)
      refine Upd.step (hf _ neg (a.take chunkLen) htk hw.2 hw.1 (ha.take _)) hc (Nat.zero_le _)
        (by omega)
        (by rw [abs_sgn_mul]; exact mul_lt_pow_int W _ _ (ha.take _) hb _ (by rw [htk]; omega))
        fun c k2 hc _ _ => ?_
      refine ((ih (c.drop chunkLen) neg (a.drop chunkLen) (k1 + k2)
        (by rw [List.length_drop, List.length_drop, hc.2]; omega) (hc.1.drop _) (ha.drop _)
        (by omega) (by omega)).suffix hc.1 (by rw [hc.2]; omega)).congr ?_
      rw [hva, Nat.mul_add, pow_add]
      push_cast
      simp only [Nat.mul_zero, pow_zero]
      ring
    · exact splitFinish_spec W hW tail htail c neg a b carryN hcl hc ha hb hk1 hk2

-- ------------------------------------------------------------------ mul::add_signed_mul

theorem addSignedMul_contract (W : Nat) (hW : 4 ≤ W) : ∀ fuel, GenContract W (addSignedMul W fuel) := by
  intro fuel
  induction fuel with
  | zero =>
    intro c neg a b hcl hc ha hb
    unfold MulContract
    simp only [addSignedMul]
    split
    · have := addSignedMulChunk_contract W c neg b a (by omega) hc hb ha
      unfold MulContract at this
      rw [Nat.mul_comm (val W a) (val W b)]; exact this
    · exact addSignedMulChunk_contract W c neg a b hcl hc ha hb
  | succ fuel ih =>
    -- the ordered case: `a` is the longer operand
    have ordered : ∀ c neg a b, b.length ≤ a.length → c.length = a.length + b.length → IsWords W c →
        IsWords W a → IsWords W b →
        Upd W c
          (if b.length ≤ Dashu.Gen.mul_THRESHOLD_SIMPLE then
            if a.length ≤ Dashu.Gen.mul_simple_CHUNK_LEN then addSignedMulChunk W c neg a b
            else splitLoop W Dashu.Gen.mul_simple_CHUNK_LEN (addSignedMulChunk W) (addSignedMul W fuel)
              a.length c neg a b 0
          else if b.length ≤ Dashu.Gen.mul_THRESHOLD_KARATSUBA then
            splitLoop W b.length (karatsubaSameLen W (addSignedMulSameLen W b.length))
              (addSignedMul W fuel) a.length c neg a b 0
          else splitLoop W b.length (toom3SameLen W (addSignedMulSameLen W b.length)) (addSignedMul W fuel)
            a.length c neg a b 0).1
          (if b.length ≤ Dashu.Gen.mul_THRESHOLD_SIMPLE then
            if a.length ≤ Dashu.Gen.mul_simple_CHUNK_LEN then addSignedMulChunk W c neg a b
            else splitLoop W Dashu.Gen.mul_simple_CHUNK_LEN (addSignedMulChunk W) (addSignedMul W fuel)
              a.length c neg a b 0
          else if b.length ≤ Dashu.Gen.mul_THRESHOLD_KARATSUBA then
            splitLoop W b.length (karatsubaSameLen W (addSignedMulSameLen W b.length))
              (addSignedMul W fuel) a.length c neg a b 0
          else splitLoop W b.length (toom3SameLen W (addSignedMulSameLen W b.length)) (addSignedMul W fuel)
            a.length c neg a b 0).2
          (sgn neg * ((val W a * val W b : Nat) : Int)) := by
      intro c neg a b hle hcl hc ha hb
      have hts := threshold_simple_pos
      have htk := threshold_karatsuba_ge
      split
      · split
        · exact addSignedMulChunk_contract W c neg a b hcl hc ha hb
        · have := splitLoop_spec W (by omega) _ chunk_len_pos (addSignedMulChunk W) (addSignedMul W fuel) b hb
            (fun c' neg' a' h1 h2 h3 h4 => addSignedMulChunk_contract W c' neg' a' b (by omega) h3 h4 hb)
            ih a.length c neg a 0 hcl hc ha (by omega) (by omega)
          simpa using this
      · rename_i hnot
        split
        · have := splitLoop_spec W (by omega) b.length (by omega)
            (karatsubaSameLen W (addSignedMulSameLen W b.length)) (addSignedMul W fuel) b hb
            (fun c' neg' a' h1 h2 h3 h4 => karatsubaSameLen_contract W (by omega) _
              (addSignedMulSameLen_contract W hW b.length) c' neg' a' b h1 (by omega) (by omega) h3 h4 hb)
            ih a.length c neg a 0 hcl hc ha (by omega) (by omega)
          simpa using this
        · have := splitLoop_spec W (by omega) b.length (by omega)
            (toom3SameLen W (addSignedMulSameLen W b.length)) (addSignedMul W fuel) b hb
            (fun c' neg' a' h1 h2 h3 h4 => toom3SameLen_contract W hW _
              (addSignedMulSameLen_contract W hW b.length) c' neg' a' b h1 (by omega) (by omega) h3 h4 hb)
            ih a.length c neg a 0 hcl hc ha (by omega) (by omega)
          simpa using this
    intro c neg a b hcl hc ha hb
    unfold MulContract
    simp only [addSignedMul]
    by_cases hlt : a.length < b.length
    · simp only [hlt, if_true]
      have := ordered c neg b a (by omega) (by omega) hc hb ha
      rw [Nat.mul_comm (val W a) (val W b)]; exact this
    · simp only [hlt, if_false]
      exact ordered c neg a b (by omega) hcl hc ha hb

-- ====================================================================== sqr::simple::square, sqr::sqr

/-- triangular and diagonal parts of a square -/
def tri (W : Nat) : List Nat → Nat
  | [] => 0
  | m :: as => 2 ^ W * (m * val W as) + 2 ^ W * 2 ^ W * tri W as
def diag (W : Nat) : List Nat → Nat
  | [] => 0
  | m :: as => m * m + 2 ^ W * 2 ^ W * diag W as

theorem sq_eq_tri_diag (W : Nat) (a : List Nat) : val W a * val W a = 2 * tri W a + diag W a := by
  induction a with
  | nil => simp [tri, diag]
  | cons m as ih =>
    simp only [val_cons, tri, diag]
    have : (m + 2 ^ W * val W as) * (m + 2 ^ W * val W as)
        = m * m + 2 * (2 ^ W * (m * val W as)) + 2 ^ W * 2 ^ W * (val W as * val W as) := by ring
    rw [this, ih]; ring

theorem window_single (c : List Nat) (i : Nat) (h : i < c.length) :
    window c i (i + 1) = [c.getD i 0] := by
  unfold window
  rw [take_succ_getD c i h, List.drop_append_of_le_length (by rw [length_take_of_le (by omega)])]
  rw [List.drop_eq_nil_of_le (by rw [length_take_of_le (by omega)])]
  rfl

theorem sqrTriLoop_spec (W : Nat) : ∀ (aCur s : List Nat) (c0 : Nat), s.length = 2 * aCur.length →
    IsWords W s → IsWords W aCur → c0 ≤ 1 →
    Upd W s (sqrTriLoop W s aCur c0).1 ((sqrTriLoop W s aCur c0).2 : Int)
      ((tri W aCur : Int) + (2 : Int) ^ (W * aCur.length) * c0) ∧ (sqrTriLoop W s aCur c0).2 ≤ 1 := by
  intro aCur
  induction aCur with
  | nil =>
    intro s c0 hl hs _ hc
    simp only [List.length_nil, Nat.mul_zero] at hl
    have : s = [] := List.eq_nil_of_length_eq_zero hl
    subst this
    simp only [sqrTriLoop]
    exact ⟨⟨rfl, hs, by simp [tri]⟩, hc⟩
  | cons m aRest ih =>
    intro s c0 hl hs ha hc
    have hp : 0 < 2 ^ W := Nat.two_pow_pos W
    simp only [List.length_cons] at hl
    have hj1 : 1 + aRest.length ≤ s.length := by omega
    have hwl := window_length s 1 (1 + aRest.length) hj1
    have hww := window_words hs 1 (1 + aRest.length)
    obtain ⟨w1, w2, w3, w4⟩ := addMulWordSameLen_spec W (window s 1 (1 + aRest.length)) m aRest hww
      ha.tail (by rw [hwl]; omega) ha.head
    simp only [sqrTriLoop]
    generalize addMulWordSameLen W (window s 1 (1 + aRest.length)) m aRest = res at w1 w2 w3 w4
    obtain ⟨win, cw⟩ := res
    simp only at w1 w2 w3 w4 ⊢
    have hu1 : Upd W (window s 1 (1 + aRest.length)) win (cw : Int) ((m * val W aRest : Nat) : Int) := by
      exact ⟨w2, w3, by exact_mod_cast w1⟩
    obtain ⟨s1, s2, s3⟩ := setWindow_upd W s 1 (1 + aRest.length) (by omega) hj1 hs win cw _ hu1
    generalize setWindow s 1 win = sA at s1 s2 s3 ⊢
    -- the top word
    have hjt : 1 + aRest.length < sA.length := by omega
    have htop := s2.getD (1 + aRest.length)
    have hws := window_single sA (1 + aRest.length) hjt
    generalize sA.getD (1 + aRest.length) 0 = top at htop hws ⊢
    have hq : (top + cw + c0) / 2 ^ W ≤ 1 := carry_le_one (by omega)
    have hdm := Nat.mod_add_div (top + cw + c0) (2 ^ W)
    have hmd : (top + cw + c0) % 2 ^ W < 2 ^ W := Nat.mod_lt _ hp
    generalize (top + cw + c0) / 2 ^ W = q at hq hdm ⊢
    generalize (top + cw + c0) % 2 ^ W = tm at hmd hdm ⊢
    have hu2 : Upd W (window sA (1 + aRest.length) (1 + aRest.length + 1)) [tm] (q : Int)
        ((cw : Int) + c0) := by
      rw [hws]
      refine ⟨rfl, IsWords.cons hmd (IsWords.nil W), ?_⟩
      simp only [val_cons, val_nil, List.length_cons, List.length_nil, Nat.zero_add, Nat.mul_one,
        Nat.mul_zero, Nat.add_zero]
      exact_mod_cast hdm.trans (Nat.add_assoc ..)
    obtain ⟨t1, t2, t3⟩ := setWindow_upd W sA (1 + aRest.length) (1 + aRest.length + 1) (by omega)
      (by omega) s2 [tm] q _ hu2
    generalize setWindow sA (1 + aRest.length) [tm] = sB at t1 t2 t3 ⊢
    -- the remaining rows work on the suffix `sB[2..]`
    obtain ⟨iu, i4⟩ := ih (sB.drop 2) q (by rw [List.length_drop]; omega) (t2.drop _) ha.tail hq
    obtain ⟨v1, v2, v3⟩ := iu.suffix t2 (by omega)
    have hL : sB.length = s.length := t1.trans s1
    rw [hL] at v3
    refine ⟨⟨v1.trans hL, v2, ?_⟩, i4⟩
    rw [v3, t3, s3]
    simp only [tri, List.length_cons]
    push_cast
    ring

theorem sqrDiagLoop_spec (W : Nat) : ∀ (a s : List Nat) (c1 c2 : Nat), s.length = 2 * a.length →
    IsWords W s → IsWords W a → c1 ≤ 1 → c2 ≤ 1 →
    val W (sqrDiagLoop W s a c1 c2).1
        + 2 ^ (W * s.length) * ((sqrDiagLoop W s a c1 c2).2.1 + (sqrDiagLoop W s a c1 c2).2.2)
      = 2 * val W s + diag W a + c1 + c2 ∧
    (sqrDiagLoop W s a c1 c2).1.length = s.length ∧ IsWords W (sqrDiagLoop W s a c1 c2).1 ∧
    (sqrDiagLoop W s a c1 c2).2.1 ≤ 1 ∧ (sqrDiagLoop W s a c1 c2).2.2 ≤ 1 := by
  intro a
  induction a with
  | nil =>
    intro s c1 c2 hl hs _ h1 h2
    simp only [List.length_nil, Nat.mul_zero] at hl
    have : s = [] := List.eq_nil_of_length_eq_zero hl
    subst this
    simp [sqrDiagLoop, diag, IsWords.nil, h1, h2]
  | cons m as ih =>
    intro s c1 c2 hl hs ha h1 h2
    simp only [List.length_cons] at hl
    obtain ⟨b0, b1, rest, rfl⟩ := exists_cons_cons (show 2 ≤ s.length by omega)
    have hp : 0 < 2 ^ W := Nat.two_pow_pos W
    have hpp : 0 < 2 ^ (2 * W) := Nat.two_pow_pos _
    have hsq := two_pow_two_mul W
    have hb0 := hs.head
    have hb1 := hs.tail.head
    have hm := ha.head
    have hrl : rest.length = 2 * as.length := by simp at hl; omega
    have hs0 : m * m + b0 + b0 < 2 ^ W * 2 ^ W := mul_add_add_lt_sq hm hm hb0 hb0
    have hwb : b1 * 2 ^ W + 1 ≤ 2 ^ W * 2 ^ W := by
      have := Nat.mul_le_mul_right (2 ^ W) (show b1 + 1 ≤ 2 ^ W from hb1)
      rw [Nat.add_mul, Nat.one_mul] at this
      omega
    simp only [sqrDiagLoop]
    rw [hsq]
    have hd1 := Nat.div_add_mod (m * m + b0 + b0 + (b1 * 2 ^ W + c1)) (2 ^ W * 2 ^ W)
    have hq1 : (m * m + b0 + b0 + (b1 * 2 ^ W + c1)) / (2 ^ W * 2 ^ W) ≤ 1 :=
      carry_le_one (by omega)
    have hm1 : (m * m + b0 + b0 + (b1 * 2 ^ W + c1)) % (2 ^ W * 2 ^ W) < 2 ^ W * 2 ^ W :=
      Nat.mod_lt _ (by rw [← hsq]; exact hpp)
    generalize (m * m + b0 + b0 + (b1 * 2 ^ W + c1)) / (2 ^ W * 2 ^ W) = oc1 at *
    generalize (m * m + b0 + b0 + (b1 * 2 ^ W + c1)) % (2 ^ W * 2 ^ W) = r1 at *
    have hd2 := Nat.div_add_mod (r1 + (b1 * 2 ^ W + c2)) (2 ^ W * 2 ^ W)
    have hq2 : (r1 + (b1 * 2 ^ W + c2)) / (2 ^ W * 2 ^ W) ≤ 1 := carry_le_one (by omega)
    have hm2 : (r1 + (b1 * 2 ^ W + c2)) % (2 ^ W * 2 ^ W) < 2 ^ W * 2 ^ W :=
      Nat.mod_lt _ (by rw [← hsq]; exact hpp)
    generalize (r1 + (b1 * 2 ^ W + c2)) / (2 ^ W * 2 ^ W) = oc2 at *
    generalize (r1 + (b1 * 2 ^ W + c2)) % (2 ^ W * 2 ^ W) = o at *
    obtain ⟨i1, i2, i3, i4, i5⟩ := ih rest oc1 oc2 hrl hs.tail.tail ha.tail hq1 hq2
    generalize sqrDiagLoop W rest as oc1 oc2 = res at i1 i2 i3 i4 i5
    obtain ⟨r, cc⟩ := res
    simp only at i1 i2 i3 i4 i5 ⊢
    have ho1 : o / 2 ^ W < 2 ^ W := (Nat.div_lt_iff_lt_mul hp).mpr hm2
    have hod := Nat.div_add_mod o (2 ^ W)
    refine ⟨?_, congrArg (· + 2) i2, .cons (Nat.mod_lt _ hp) (.cons ho1 i3), i4, i5⟩
    simp only [val_cons, diag, List.length_cons]
    rw [pow_mul_succ, pow_mul_succ]
    linear_combination 2 ^ W * 2 ^ W * i1 + hd1 + hd2 + hod

theorem dropLast_append_getLast (l : List Nat) (h : l ≠ []) : l.dropLast ++ [l.getLastD 0] = l := by
  rw [List.getLastD_eq_getLast?, List.getLast?_eq_some_getLast h]
  exact List.dropLast_append_getLast h

/-- `sqr::simple::square`: on a zero-filled buffer the three carry bits are zero and the buffer holds `a²` -/
theorem sqrSimple_spec (W : Nat) (a : List Nat) (ha : IsWords W a) (hne : a ≠ []) :
    val W (sqrSimple W a) = val W a * val W a ∧ (sqrSimple W a).length = 2 * a.length ∧
    IsWords W (sqrSimple W a) := by
  have hsq := sq_eq_tri_diag W a
  have hlt : val W a * val W a < 2 ^ (W * (2 * a.length)) := by
    rw [Nat.two_mul, Nat.mul_add, Nat.pow_add]
    exact Nat.mul_lt_mul'' (val_lt W a ha) (val_lt W a ha)
  -- the triangular part, then the doubling with the diagonal: each result fits, so `c0`, then
  -- `c1 + c2`, are zero
  obtain ⟨t, _⟩ := sqrTriLoop_spec W a (List.replicate (2 * a.length) 0) 0 (by simp)
    (isWords_replicate_zero W _) ha (Nat.zero_le 1)
  obtain ⟨hA, h0⟩ := (Holds.zeros W (2 * a.length)).upd t (T := tri W a) (by simp) (by omega)
  simp only [sqrSimple]
  generalize sqrTriLoop W (List.replicate (2 * a.length) 0) a 0 = res1 at hA h0
  obtain ⟨bA, c0⟩ := res1
  simp only at hA h0
  have hc0 : c0 = 0 := by exact_mod_cast h0
  obtain ⟨d1, d2, d3, _, _⟩ := sqrDiagLoop_spec W a bA 0 0 hA.1 hA.2.1 ha (Nat.zero_le 1)
    (Nat.zero_le 1)
  have hv := hA.2.2
  obtain ⟨hB, hcc⟩ := hA.add d2 d3 (x := val W bA + diag W a) (d1.trans (by omega)) (by omega)
  generalize sqrDiagLoop W bA a 0 0 = res2 at hB hcc
  obtain ⟨bB, cc⟩ := res2
  simp only at hB hcc
  have hbne : bB ≠ [] := by
    intro e
    have hl := hB.1
    rw [e, List.length_nil] at hl
    exact hne (List.eq_nil_of_length_eq_zero (by omega))
  have hcc1 : cc.1 = 0 := by omega
  have hcc2 : cc.2 = 0 := by omega
  simp only [hc0, hcc1, hcc2, Nat.add_zero]
  rw [dropLast_append_getLast bB hbne]
  exact ⟨hB.2.2.trans (by omega), hB.1, hB.2.1⟩

/-- `sqr::sqr`: both arms produce `a²` in `2·a.len()` words -/
theorem sqrBuffer_spec (W : Nat) (hW : 4 ≤ W) (a : List Nat) (ha : IsWords W a) (hne : a ≠ []) :
    Holds W (2 * a.length) (sqrBuffer W a) (val W a * val W a) := by
  unfold sqrBuffer
  split
  · obtain ⟨h1, h2, h3⟩ := sqrSimple_spec W a ha hne
    exact ⟨h2, h3, h1⟩
  · exact (addSignedMulSameLen_contract W hW a.length).zero_holds ⟨rfl, ha, rfl⟩ ⟨rfl, ha, rfl⟩
      (Nat.two_mul _)

end Dashu.Model
