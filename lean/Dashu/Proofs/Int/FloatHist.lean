import Dashu.Model.Int.FloatHist
import Dashu.Proofs.Int.FloatProducers
/-
  Soundness of float histories (`Model/Int/FloatHist.lean`): every register is normalised, finite and fits its
  precision with at most one spare digit.
-/
namespace Dashu.Model
open Dashu.Model.Float Dashu.Model.Trans

/-- finite: a zero significand comes with exponent 0 (no infinity) -/
def FFin (r : Float.FRepr) : Prop := r.signif = 0 → r.exp = 0

/-- what every register of a float history satisfies -/
def FGood (B : Nat) (x : FReg) : Prop := FCanon B (ofFloatRepr x.r) ∧ FFin x.r ∧ FitsP1 B x.p x.r

theorem new_ffin (B : Nat) (s e : Int) : FFin (Float.FRepr.new B s e) := by
  unfold FFin Float.FRepr.new
  by_cases hs : s = 0
  · simp [hs]
  · simp only [hs, if_false]
    intro h0
    exfalso
    obtain ⟨j, hj⟩ := stripAux_int B (s.natAbs.log2 + 1) s e
    rw [h0, Int.zero_mul] at hj
    exact hs hj

theorem ffin_neg (r : Float.FRepr) (h : FFin r) : FFin r.neg := by
  intro h0
  have : r.signif = 0 := by
    have h0' : -r.signif = 0 := h0
    omega
  exact h this

/-- normalised and finite: the part of `FGood` that does not speak of the precision.  Every output of `Repr::new` is, so
    the producers keep it (`*_keeps`). -/
def NormFin (B : Nat) (r : Float.FRepr) : Prop := FCanon B (ofFloatRepr r) ∧ FFin r

theorem new_normFin (B : Nat) (hB : 2 ≤ B) (s e : Int) : NormFin B (Float.FRepr.new B s e) :=
  ⟨new_fcanon B hB s e, new_ffin B s e⟩

theorem NormFin.neg {B : Nat} {r : Float.FRepr} (h : NormFin B r) : NormFin B r.neg :=
  ⟨fcanon_neg B r h.1, ffin_neg r h.2⟩

theorem NormFin.good {B p : Nat} {r : Float.FRepr} (h : NormFin B r) (hf : FitsP1 B p r) : FGood B ⟨r, p⟩ :=
  ⟨h.1, h.2, hf⟩

theorem FGood.normFin {B : Nat} {x : FReg} (h : FGood B x) : NormFin B x.r := ⟨h.1, h.2.1⟩

/-- results that exist fit: `Context::div` -/
theorem ctxDiv_ok_good (B : Nat) (hB : 2 ≤ B) (m : Mode) (c : Coarse) (dub dlb : Int → Nat)
    (hdub : DubSound B dub) (hdlb : DlbSound B dlb) (p : Nat) (hp : 1 ≤ p) (x y : Float.FRepr)
    (r : Rounded Float.FRepr) (h : ctxDiv B m c dub dlb p x y = .ok r) :
    FCanon B (ofFloatRepr r.1) ∧ FFin r.1 ∧ FitsP1 B p r.1 := by
  have hn : NormFin B r.1 := reprDiv_keeps (new_normFin B hB) h
  refine ⟨hn.1, hn.2, ?_⟩
  · by_cases hy : y.signif = 0
    · exfalso
      unfold ctxDiv reprDiv at h
      have hp0 : p ≠ 0 := by omega
      simp only [hp0, hy, if_true, if_false] at h
      cases h
    · obtain ⟨r', h', hf⟩ := ctxDiv_fits B hB m c dub dlb hdub hdlb p hp x y hy
      rw [h'] at h; cases h; exact hf

theorem ctxInv_ok_good (B : Nat) (hB : 2 ≤ B) (m : Mode) (p : Nat) (hp : 1 ≤ p) (y : Float.FRepr)
    (r : Rounded Float.FRepr) (h : ctxInv B m p y = .ok r) :
    FCanon B (ofFloatRepr r.1) ∧ FFin r.1 ∧ FitsP1 B p r.1 := by
  have hn : NormFin B r.1 := reprDiv_keeps (new_normFin B hB) h
  refine ⟨hn.1, hn.2, ?_⟩
  · by_cases hy : y.signif = 0
    · exfalso
      unfold ctxInv reprDiv at h
      have hp0 : p ≠ 0 := by omega
      simp only [hp0, hy, if_true, if_false] at h
      cases h
    · obtain ⟨r', h', hf⟩ := ctxInv_fits B hB m p hp y hy
      rw [h'] at h; cases h; exact hf

theorem ctxSqrt_ok_good (B : Nat) (hB : 2 ≤ B) (m : Mode) (c : Coarse) (sr : Nat → Nat × Nat) (p : Nat) (hp : 1 ≤ p)
    (x : Float.FRepr) (r : Rounded Float.FRepr) (h : ctxSqrt B m c sr p x = .ok r) :
    FCanon B (ofFloatRepr r.1) ∧ FFin r.1 ∧ FitsP1 B p r.1 := by
  have hn : NormFin B r.1 := ctxSqrt_keeps (new_normFin B hB) h
  refine ⟨hn.1, hn.2, ?_⟩
  · by_cases hs : 0 ≤ x.signif
    · obtain ⟨r', h', hf⟩ := ctxSqrt_fits B hB m c sr p hp x hs
      rw [h'] at h; cases h; exact hf
    · exfalso
      unfold ctxSqrt at h
      have hp0 : p ≠ 0 := by omega
      have hneg : x.signif < 0 := by omega
      simp only [hp0, hneg, if_true, if_false] at h
      cases h

/-- an instruction that maps `f` over register `i`: the operand is a good register -/
theorem map_lookup_good {B : Nat} {env : List FReg} (henv : ∀ x ∈ env, FGood B x) {i : Nat}
    {f : FReg → FReg} {r : FReg} (h : (env[i]?).map f = some r) : ∃ a, FGood B a ∧ f a = r := by
  obtain ⟨a, hi, hr⟩ := Option.map_eq_some_iff.mp h
  exact ⟨a, henv a (List.mem_of_getElem? hi), hr⟩

/-- an instruction on registers `i` and `j`: both operands are good registers -/
theorem lookup2_good {B : Nat} {env : List FReg} (henv : ∀ x ∈ env, FGood B x) {i j : Nat}
    {g : FReg → FReg → Option FReg} {r : FReg}
    (h : (match env[i]?, env[j]? with | some a, some b => g a b | _, _ => none) = some r) :
    ∃ a b, FGood B a ∧ FGood B b ∧ g a b = some r := by
  cases hi : env[i]? <;> cases hj : env[j]? <;> simp only [hi, hj] at h <;> try cases h
  exact ⟨_, _, henv _ (List.mem_of_getElem? hi), henv _ (List.mem_of_getElem? hj), h⟩

theorem lookup1_good {B : Nat} {env : List FReg} (henv : ∀ x ∈ env, FGood B x) {i : Nat}
    {g : FReg → Option FReg} {r : FReg}
    (h : (match env[i]? with | some a => g a | none => none) = some r) :
    ∃ a, FGood B a ∧ g a = some r := by
  cases hi : env[i]? <;> simp only [hi] at h <;> try cases h
  exact ⟨_, henv _ (List.mem_of_getElem? hi), h⟩

theorem ofExc_eq_some {p : Nat} {e : Except FPanic (Rounded Float.FRepr)} {r : FReg}
    (h : ofExc p e = some r) : ∃ q, e = .ok q ∧ r = ⟨q.1, p⟩ := by
  cases e with
  | error _ => simp [ofExc] at h
  | ok q =>
    simp only [ofExc, Option.some.injEq] at h
    exact ⟨q, rfl, h.symm⟩

/-- the products `mul`, `opMul`, `sqr`, `cubic` unfold to the rounding of a `Repr::new` -/
theorem reprRound_new_normFin (B : Nat) (hB : 2 ≤ B) (m : Mode) (c : Coarse) (p : Nat) (s e : Int) :
    NormFin B (reprRound B m c p (Float.FRepr.new B s e)).1 :=
  reprRound_keeps (new_normFin B hB) m c p (new_normFin B hB s e)

/-- one instruction: the result (if there is one) is good.  Normalised and finite by the `*_keeps` lemmas at
    `P = NormFin`; the digit count is C03's (`Proofs/Float/Closing`). -/
theorem fstep_good (k : FCfg) (hB : 2 ≤ k.B) (hdub : DubSound k.B k.dub) (hdlb : DlbSound k.B k.dlb)
    (env : List FReg) (henv : ∀ x ∈ env, FGood k.B x) (op : FOp) (hok : op.Ok) (r : FReg)
    (h : fstep k env op = some r) : FGood k.B r := by
  have hN := new_normFin k.B hB
  cases op with
  | fromParts s e =>
    simp only [fstep, Option.some.injEq] at h; subst h
    exact (hN s e).good (Nat.le_succ_of_le (fromParts_fits k.B hB s e).1)
  | fromFloat man e =>
    simp only [fstep, Option.some.injEq] at h; subst h
    have hd := (fromParts_fits k.B hB man e).1
    exact (hN man e).good (by show (Float.FRepr.new k.B man e).digits k.B ≤ digitsI k.B man + 1; omega)
  | convertInt n p =>
    simp only [fstep, Option.some.injEq] at h; subst h
    exact (reprRound_new_normFin k.B hB k.m k.c p n 0).good (convertInt_fits k.B hB k.m k.c p hok n).1
  | withPrecision i p =>
    simp only [fstep] at h
    obtain ⟨a, ga, rfl⟩ := map_lookup_good henv h
    exact (reprRound_keeps hN k.m k.c p ga.normFin).good (Nat.le_succ_of_le (reprRound_digits_le k.B hB k.m k.c p hok a.r))
  | neg i =>
    simp only [fstep] at h
    obtain ⟨a, ga, rfl⟩ := map_lookup_good henv h
    refine ga.normFin.neg.good ?_
    show a.r.neg.digits k.B ≤ a.p + 1
    rw [digits_neg]; exact ga.2.2
  | clone i =>
    simp only [fstep] at h
    exact henv r (List.mem_of_getElem? h)
  | add i j p =>
    obtain ⟨a, b, ga, gb, h⟩ := lookup2_good henv h
    cases h
    exact (ctxAddSub_keeps hN k.m k.c k.dub p 1 ga.normFin gb.normFin gb.normFin.neg).good
      (ctxAddSub_digits_le k.B hB k.m k.c k.dub p hok a.r b.r 1 (Or.inl rfl) ga.2.1 gb.2.1).1
  | sub i j p =>
    obtain ⟨a, b, ga, gb, h⟩ := lookup2_good henv h
    cases h
    exact (ctxAddSub_keeps hN k.m k.c k.dub p (-1) ga.normFin gb.normFin gb.normFin.neg).good
      (ctxAddSub_digits_le k.B hB k.m k.c k.dub p hok a.r b.r (-1) (Or.inr rfl) ga.2.1 gb.2.1).1
  | mul i j p =>
    obtain ⟨a, b, -, -, h⟩ := lookup2_good henv h
    cases h
    exact (reprRound_new_normFin k.B hB k.m k.c p _ _).good
      (Nat.le_succ_of_le (ctxMul_digits_le false k.B hB k.m k.c p hok a.r b.r))
  | opMul i j p =>
    obtain ⟨a, b, -, -, h⟩ := lookup2_good henv h
    cases h
    exact (reprRound_new_normFin k.B hB k.m k.c p _ _).good
      (Nat.le_succ_of_le (reprRound_digits_le k.B hB k.m k.c p hok _))
  | sqr i p =>
    simp only [fstep] at h
    obtain ⟨a, -, rfl⟩ := map_lookup_good henv h
    exact (reprRound_new_normFin k.B hB k.m k.c p _ _).good
      (Nat.le_succ_of_le (ctxSqr_digits_le false k.B hB k.m k.c p hok a.r))
  | cubic i p =>
    simp only [fstep] at h
    obtain ⟨a, -, rfl⟩ := map_lookup_good henv h
    exact (reprRound_new_normFin k.B hB k.m k.c p _ _).good
      (Nat.le_succ_of_le (ctxCubic_digits_le false k.B hB k.m k.c p hok a.r))
  | div i j p =>
    obtain ⟨a, b, -, -, h⟩ := lookup2_good henv h
    obtain ⟨q, hd, rfl⟩ := ofExc_eq_some h
    exact ctxDiv_ok_good k.B hB k.m k.c k.dub k.dlb hdub hdlb p hok a.r b.r q hd
  | inv i p =>
    obtain ⟨a, -, h⟩ := lookup1_good henv h
    obtain ⟨q, hd, rfl⟩ := ofExc_eq_some h
    exact ctxInv_ok_good k.B hB k.m p hok a.r q hd
  | sqrt i p =>
    obtain ⟨a, -, h⟩ := lookup1_good henv h
    obtain ⟨q, hd, rfl⟩ := ofExc_eq_some h
    exact ctxSqrt_ok_good k.B hB k.m k.c k.sr p hok a.r q hd
  | powi i bs p =>
    simp only [fstep] at h
    obtain ⟨a, ga, rfl⟩ := map_lookup_good henv h
    exact (powiNonneg_keeps hN false k.m k.c p ga.normFin bs).good (powiNonneg_fits false k.B hB k.m k.c p hok a.r bs)
  | powiNeg i n p =>
    obtain ⟨a, -, h⟩ := lookup1_good henv h
    cases hd : powiNeg false k.B k.m k.c p a.r n with
    | error e => simp [hd] at h
    | ok q =>
      simp only [hd, Option.some.injEq] at h; subst h
      exact (powiNeg_keeps hN hd).good (powiNeg_fits false k.B hB k.m k.c p hok a.r n q hd)

theorem frun_good (k : FCfg) (hB : 2 ≤ k.B) (hdub : DubSound k.B k.dub) (hdlb : DlbSound k.B k.dlb)
    (ops : List FOp) (hok : ∀ op ∈ ops, op.Ok) (env : List FReg) (henv : ∀ x ∈ env, FGood k.B x) :
    ∀ x ∈ frun k ops env, FGood k.B x := by
  induction ops generalizing env with
  | nil => exact henv
  | cons op ops ih =>
    simp only [frun]
    cases hs : fstep k env op with
    | none => exact henv
    | some r =>
      simp only []
      apply ih (fun o ho => hok o (List.mem_cons_of_mem _ ho))
      intro x hx
      rcases List.mem_append.mp hx with h | h
      · exact henv x h
      · simp at h; rw [h]
        exact fstep_good k hB hdub hdlb env henv op (hok op (List.mem_cons_self ..)) r hs

end Dashu.Model
