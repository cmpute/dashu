import Dashu.Model.Int.PowCompose
import Dashu.Proofs.Int.Pow
import Dashu.Proofs.Int.Bits
/-
  `UBig::pow` / `IBig::pow` with the mirrored C09 kernels (`trailing_zeros`, `>>`, `<<`) compute
  `base ^ exp`; the `usize` overflow guard is the one of `ubigPowChecked`.  The flow of `UBig::pow` is
  modelled over several pairs of power / shift kernels; `powFlow` is that flow over any pair, and
  `powFlow_eq` reads it once as a function of the VALUE of the base.
-/
namespace Dashu.Model

/-- the model's `trailingZeros` is the number of trailing zero bits in the sense of C09's `IsTz` -/
theorem isTz_trailingZeros (n : Nat) (hn : n ≠ 0) : IsTz n (trailingZeros n) :=
  IsTz.of_halving trailingZeros_odd
    (fun n h0 h => (trailingZeros_even n h0 h).trans (Nat.add_comm _ _)) n hn

/-- `UBig::pow` over a power kernel `P` and a shift kernel `S` -/
def powFlow (W : Nat) (P : TRepr → Except PanicKind TRepr) (S : TRepr → Nat → Except PanicKind TRepr)
    (a : TRepr) (exp : Nat) : Except PanicKind TRepr :=
  a.trailingZeros W >>= fun tz =>
    if tz.getD 0 ≠ 0 then
      if 2 ^ usizeBits ≤ exp * tz.getD 0 then .error .allocTooMuch
      else P (a.shr W (tz.getD 0) true) >>= fun r => S r (exp * tz.getD 0)
    else P a

theorem ubigPowKernels_flow (W : Nat) (a : TRepr) (exp : Nat) :
    ubigPowKernels W a exp = powFlow W (fun x => .ok (x.pow W exp)) (fun r n => .ok (r.shl W n)) a exp := rfl

/-- `trailing_zeros().unwrap_or(0)` of a canonical magnitude is `trailingZeros` of its value -/
theorem tzShift {W : Nat} {a : TRepr} (ha : a.Canon W) :
    ∃ tz, a.trailingZeros W = .ok tz ∧ tz.getD 0 = trailingZeros (a.value W) := by
  obtain ⟨tz0, tz1⟩ := TRepr.trailingZeros_spec W a ha
  by_cases hz : a.value W = 0
  · exact ⟨none, tz0 hz, by rw [hz, trailingZeros_zero]; rfl⟩
  · obtain ⟨k, hk, hkz⟩ := tz1 hz
    exact ⟨some k, hk, IsTz.unique hkz (isTz_trailingZeros _ hz)⟩

theorem TRepr.shr_eq {W : Nat} (hW : 1 ≤ W) {a : TRepr} (n : Nat) (byRef : Bool) (ha : a.Canon W) :
    a.shr W n byRef = ofNat W (a.value W / 2 ^ n) := TRepr.eq_ofNat (TRepr.shr_spec W hW a n byRef ha)

theorem TRepr.shl_eq {W : Nat} (hW : 1 ≤ W) {a : TRepr} (n : Nat) (ha : a.Canon W) :
    a.shl W n = ofNat W (a.value W * 2 ^ n) := TRepr.eq_ofNat (TRepr.shl_spec W hW a n ha)

/-- the flow as a function of the value `v` of the base: with `s` the trailing zero bits of `v`, the power kernel
    runs on the representation of the odd part `v / 2^s` -/
theorem powFlow_eq {W : Nat} (hW : 1 ≤ W) (P : TRepr → Except PanicKind TRepr)
    (S : TRepr → Nat → Except PanicKind TRepr) {a : TRepr} (exp : Nat) (ha : a.Canon W) :
    powFlow W P S a exp =
      if trailingZeros (a.value W) ≠ 0 then
        if 2 ^ usizeBits ≤ exp * trailingZeros (a.value W) then .error .allocTooMuch
        else P (ofNat W (a.value W / 2 ^ trailingZeros (a.value W))) >>= fun r =>
          S r (exp * trailingZeros (a.value W))
      else P a := by
  obtain ⟨tz, e, g⟩ := tzShift ha
  rw [powFlow, e]
  show (if tz.getD 0 ≠ 0 then _ else P a) = _
  rw [g, TRepr.shr_eq hW _ _ ha]

theorem ubigPowKernels_eq {W : Nat} (hW : 4 ≤ W) {a : TRepr} (exp : Nat) (ha : a.Canon W) :
    ubigPowKernels W a exp =
      if powShiftOverflows (a.value W) exp = true then .error .allocTooMuch
      else .ok (ofNat W (a.value W ^ exp)) := by
  have hW1 : 1 ≤ W := by omega
  have ho := ofNat_spec W hW1
  rw [ubigPowKernels_flow, powFlow_eq hW1 _ _ _ ha, powShiftOverflows]
  by_cases hs : trailingZeros (a.value W) = 0
  · simp [hs, TRepr.pow_eq hW exp ha]
  · by_cases hov : 2 ^ usizeBits ≤ exp * trailingZeros (a.value W)
    · simp [hs, hov]
    · simp only [bind, Except.bind, TRepr.pow_eq hW exp (ho _).2, TRepr.shl_eq hW1 _ (ho _).2, (ho _).1, pow_odd_part]
      simp [hs, hov]

theorem ubigPowKernels_spec (W : Nat) (hW : 4 ≤ W) (a : TRepr) (exp : Nat) (ha : a.Canon W) :
    (powShiftOverflows (a.value W) exp = true → ubigPowKernels W a exp = .error .allocTooMuch) ∧
    (powShiftOverflows (a.value W) exp = false →
      ∃ r, ubigPowKernels W a exp = .ok r ∧ r.value W = a.value W ^ exp ∧ r.Canon W) := by
  rw [ubigPowKernels_eq hW exp ha]
  exact ⟨fun h => if_pos h, fun h => ⟨_, if_neg (by simp [h]), ofNat_spec W (by omega) _⟩⟩

theorem ibigPowKernels_spec (W : Nat) (hW : 4 ≤ W) (a : SRepr) (exp : Nat) (ha : a.WF W) :
    (powShiftOverflows (a.mag.value W) exp = true → ibigPowKernels W a exp = .error .allocTooMuch) ∧
    (powShiftOverflows (a.mag.value W) exp = false →
      ∃ r, ibigPowKernels W a exp = .ok r ∧ r.value W = a.value W ^ exp ∧ r.WF W) := by
  rw [ibigPowKernels, ubigPowKernels_eq hW exp ha.1]
  exact ⟨fun h => by rw [if_pos h]; rfl,
    fun h => ⟨_, by rw [if_neg (by simp [h])]; rfl, withSign_pow a exp (ofNat_spec W (by omega) _)⟩⟩

end Dashu.Model
