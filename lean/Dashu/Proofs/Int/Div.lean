import Dashu.Proofs.Int.Div.Word
import Dashu.Proofs.Int.Div.BZ
/-
  The division layer (`Dashu/Model/Int/Div.lean`) against `/` and `%` on `Nat`, for every operand
  length and every word size `W ≥ 4` (`W ≥ 1` below the multi-word divisor; the 4 is that of
  `mul::add_signed_mul`, which Burnikel–Ziegler calls).  The kernels are in `Div/Basic` (shifts,
  primitive contracts), `Div/Word` (one- and two-word divisors), `Div/Knuth` (schoolbook) and
  `Div/BZ` (Burnikel–Ziegler); here: normalisation, the dispatch of `div_ops.rs`, `ConstDivisor`
  (the sign tables: `DivSign`).  A canonical result is determined by its value (`TRepr.eq_ofNat`;
  `eq_ofInt` in `DivSign`), so from the dispatch up every operator is given as a function of the
  values of its operands: `f … = if b = 0 then .error .divideByZero else .ok (ofNat W …)`.
-/
namespace Dashu.Model.Div
open Dashu.Model

-- ------------------------------------------------------------------ the in-place division contract

theorem toWords_spec (W n v : Nat) :
    (toWords W n v).length = n ∧ IsWords W (toWords W n v) ∧ val W (toWords W n v) = v % 2 ^ (W * n) := by
  induction n generalizing v with
  | zero => simp [toWords, IsWords.nil, Nat.mod_one]
  | succ n ih =>
    obtain ⟨i1, i2, i3⟩ := ih (v / 2 ^ W)
    refine ⟨by simp [toWords, i1], IsWords.cons (Nat.mod_lt _ (Nat.two_pow_pos W)) i2, ?_⟩
    simp only [toWords, val_cons, i3]
    have : 2 ^ (W * (n + 1)) = 2 ^ W * 2 ^ (W * n) := by rw [← Nat.pow_add]; congr 1; ring
    rw [this, Nat.mod_mul, Nat.add_comm]

/-- the reference specification `divRemInPlaceDCFrontier` (which the model does not execute) meets
    the in-place division contract -/
theorem divRemInPlaceDCFrontier_spec (W : Nat) (lhs rhs : List Nat) (hm : rhs.length ≤ lhs.length)
    (hr : IsWords W rhs) (hb : 0 < val W rhs) :
    let r := divRemInPlaceDCFrontier W lhs rhs
    r.1.length = lhs.length ∧ IsWords W r.1 ∧ val W (r.1.take rhs.length) < val W rhs ∧
    (val W (r.1.drop rhs.length) + r.2 * 2 ^ (W * (lhs.length - rhs.length))) * val W rhs
      + val W (r.1.take rhs.length) = val W lhs := by
  obtain ⟨a1, a2, a3⟩ := toWords_spec W rhs.length (val W lhs % val W rhs)
  obtain ⟨b1, b2, b3⟩ := toWords_spec W (lhs.length - rhs.length) (val W lhs / val W rhs)
  have hblt : val W rhs < 2 ^ (W * rhs.length) := val_lt W rhs hr
  have hrem : val W lhs % val W rhs % 2 ^ (W * rhs.length) = val W lhs % val W rhs :=
    Nat.mod_eq_of_lt (Nat.lt_trans (Nat.mod_lt _ hb) hblt)
  simp only [divRemInPlaceDCFrontier]
  rw [List.take_left' a1, List.drop_left' a1, a3, b3, hrem]
  refine ⟨by rw [List.length_append, a1, b1]; omega, IsWords.append a2 b2, Nat.mod_lt _ hb, ?_⟩
  have h1 := Nat.div_add_mod (val W lhs / val W rhs) (2 ^ (W * (lhs.length - rhs.length)))
  have h2 := Nat.div_add_mod (val W lhs) (val W rhs)
  generalize val W lhs / val W rhs = Q at *
  generalize val W lhs % val W rhs = R at *
  generalize Q / 2 ^ (W * (lhs.length - rhs.length)) = c at *
  generalize Q % 2 ^ (W * (lhs.length - rhs.length)) = q0 at *
  have : (q0 + c * 2 ^ (W * (lhs.length - rhs.length))) = Q := by rw [← h1]; ring
  rw [this, ← h2]; ring

/-- if the top `n` words of the dividend are below the divisor there is no quotient carry -/
theorem inplace_carry_zero (W : Nat) (lhs rhs out : List Nat) (c : Nat) (hm : rhs.length ≤ lhs.length)
    (hl : IsWords W lhs)
    (htop : val W (lhs.drop (lhs.length - rhs.length)) < val W rhs)
    (heq : (val W (out.drop rhs.length) + c * 2 ^ (W * (lhs.length - rhs.length))) * val W rhs
      + val W (out.take rhs.length) = val W lhs) : c = 0 :=
  carry_zero (val_take_lt W hl (Nat.sub_le _ _)) htop
    (heq.trans (take_drop_val W lhs (lhs.length - rhs.length) (Nat.sub_le _ _)))

-- ------------------------------------------------------------------ normalize / unshifted / in-lhs

/-- `div::normalize`: shift so that the top bit is set; the top double word is a valid
    3-by-2 divisor; no bits are lost -/
theorem normalize_spec (W : Nat) (hW : 1 ≤ W) (ws : List Nat) (h : IsWords W ws) (hn : 2 ≤ ws.length)
    (htop : ws.getD (ws.length - 1) 0 ≠ 0) :
    ∃ ws' shift, normalize W ws = .ok (ws', shift, highestDword W ws') ∧ shift + 1 ≤ W ∧
      ws'.length = ws.length ∧ IsWords W ws' ∧ val W ws' = val W ws * 2 ^ shift ∧
      2 ^ (W * ws.length) ≤ 2 * val W ws' := by
  obtain ⟨lo, top, hsplit, hgd, _, hlol⟩ := split_last1 ws (by omega)
  rw [hgd] at htop
  have htw : top < 2 ^ W := h top (by rw [hsplit]; simp)
  have hlow : IsWords W lo := fun x hx => h x (by rw [hsplit]; simp [hx])
  obtain ⟨l1, l2, l3⟩ := lz_spec (bits := W) htop htw
  have sp := shlInPlace_spec W (lz W top) (by omega) ws h
  generalize hsh : shlInPlace W ws (lz W top) = p at sp
  obtain ⟨ws', c⟩ := p
  simp only at sp
  obtain ⟨s1, s2, s3, s4⟩ := sp
  have hvl : val W ws = val W lo + 2 ^ (W * (ws.length - 1)) * top := by
    conv => lhs; rw [hsplit]
    rw [val_append_one, hlol]
  have hlolt : val W lo < 2 ^ (W * (ws.length - 1)) := by
    have := val_lt W lo hlow; rwa [hlol] at this
  have hPn : 2 ^ (W * ws.length) = 2 ^ (W * (ws.length - 1)) * 2 ^ W := by
    rw [Nat.mul_comm _ (2 ^ W), ← pow_mul_succ, Nat.sub_add_cancel (by omega)]
  -- the top word shifts without overflow: (top + 1) * 2^s ≤ B
  have htop1 : (top + 1) * 2 ^ lz W top ≤ 2 ^ W := by
    have hsp := pow_split (W := W) (s := lz W top) (by omega)
    have : top < 2 ^ (W - lz W top) := by
      apply Nat.lt_of_mul_lt_mul_right (a := 2 ^ lz W top)
      rw [← hsp]; exact l3
    rw [hsp]; exact Nat.mul_le_mul_right _ this
  have hws_lt : val W ws * 2 ^ lz W top < 2 ^ (W * ws.length) := by
    rw [hvl, hPn]
    calc (val W lo + 2 ^ (W * (ws.length - 1)) * top) * 2 ^ lz W top
          < 2 ^ (W * (ws.length - 1)) * (top + 1) * 2 ^ lz W top :=
            Nat.mul_lt_mul_of_pos_right (add_mul_lt hlolt (Nat.lt_succ_self top)) (Nat.two_pow_pos _)
      _ = 2 ^ (W * (ws.length - 1)) * ((top + 1) * 2 ^ lz W top) := Nat.mul_assoc _ _ _
      _ ≤ 2 ^ (W * (ws.length - 1)) * 2 ^ W := Nat.mul_le_mul_left _ htop1
  have hc0 : c = 0 := by
    rcases Nat.eq_zero_or_pos c with hc | hc
    · exact hc
    · have := Nat.le_mul_of_pos_right (2 ^ (W * ws.length)) hc
      omega
  subst hc0
  have hval : val W ws' = val W ws * 2 ^ lz W top := by simpa using s1
  have hnorm : 2 ^ (W * ws.length) ≤ 2 * val W ws' := by
    rw [hval]
    calc 2 ^ (W * ws.length) = 2 * (2 ^ (W * (ws.length - 1)) * 2 ^ (W - 1)) := by
          rw [hPn, pow_two_mul_half W hW]; ring
      _ ≤ 2 * (2 ^ (W * (ws.length - 1)) * (top * 2 ^ lz W top)) :=
          Nat.mul_le_mul_left 2 (Nat.mul_le_mul_left _ l2)
      _ ≤ 2 * (val W ws * 2 ^ lz W top) :=
          Nat.mul_le_mul_left 2 (by rw [hvl, Nat.add_mul, Nat.mul_assoc]; exact Nat.le_add_left _ _)
  -- the top double word is normalised, being the top two words of a normalised number
  obtain ⟨l, a, b, hdrop, _, hs2⟩ := split_last2 ws' (by omega)
  have hdw : highestDword W ws' = a + 2 ^ W * b := by
    conv => lhs; rw [hs2]
    exact highestDword_append W l a b
  have hd : 2 ^ (2 * W - 1) ≤ a + 2 ^ W * b := by
    have h2 := pow_two_mul_half (2 * W) (by omega)
    have := norm_drop W hW ws' (ws'.length - 2) (by omega) s3 (by rw [s2]; exact hnorm)
    rw [hdrop, ← List.nil_append [a, b], val_append_two] at this
    simp only [List.nil_append, List.length_cons, List.length_nil, val_nil, Nat.mul_zero, Nat.pow_zero,
      Nat.one_mul, Nat.zero_add, Nat.mul_comm W 2] at this
    omega
  refine ⟨ws', lz W top, ?_, by omega, s2, s3, hval, hnorm⟩
  have hne : ¬ ws.length = 0 := by omega
  simp only [normalize, hne, if_false, hgd, hsh, ne_eq, not_true_eq_false, hdw, normNew_ok (2 * W) _ hd,
    bind, Except.bind, pure, Except.pure]

/-- the top quotient word of a dividend shifted by less than a word is a word -/
theorem qtop_lt (W s Q qTop Pk Pn b R X : Nat) (hs : s + 1 ≤ W)
    (heq : (Q + qTop * Pk) * b + R = X * 2 ^ s) (hX : X < Pk * Pn) (hn : Pn ≤ 2 * b) :
    qTop < 2 ^ W := by
  have hle : 2 ^ (s + 1) ≤ 2 ^ W := Nat.pow_le_pow_right (by omega) hs
  by_contra hcon
  have hq : 2 * 2 ^ s ≤ qTop := by rw [Nat.pow_succ, Nat.mul_comm] at hle; omega
  refine Nat.lt_irrefl (X * 2 ^ s) ?_
  calc X * 2 ^ s < Pk * Pn * 2 ^ s := Nat.mul_lt_mul_of_pos_right hX (Nat.two_pow_pos s)
    _ ≤ Pk * (2 * b) * 2 ^ s := Nat.mul_le_mul_right _ (Nat.mul_le_mul_left _ hn)
    _ = 2 * 2 ^ s * (Pk * b) := by ring
    _ ≤ qTop * (Pk * b) := Nat.mul_le_mul_right _ hq
    _ = qTop * Pk * b := (Nat.mul_assoc _ _ _).symm
    _ ≤ (Q + qTop * Pk) * b := Nat.mul_le_mul_right _ (Nat.le_add_left _ _)
    _ ≤ X * 2 ^ s := heq ▸ Nat.le_add_right _ _

/-- `div_rem_unshifted_in_place`: shift the dividend, divide in place; `q_top` collects the shift
    carry's quotient word and the quotient carry -/
theorem divRemUnshiftedInPlace_spec (W : Nat) (hW : 1 ≤ W) (hW4 : 4 ≤ W) (lhs rhs : List Nat) (shift : Nat)
    (hn : 2 ≤ rhs.length) (hm : rhs.length ≤ lhs.length) (hl : IsWords W lhs) (hr : IsWords W rhs)
    (hs : shift + 1 ≤ W) (hnorm : 2 ^ (W * rhs.length) ≤ 2 * val W rhs) :
    ∃ out qTop, divRemUnshiftedInPlace W lhs rhs shift (highestDword W rhs) = .ok (out, qTop) ∧
      out.length = lhs.length ∧ IsWords W out ∧ qTop < 2 ^ W ∧
      val W (out.take rhs.length) < val W rhs ∧
      (val W (out.drop rhs.length) + qTop * 2 ^ (W * (lhs.length - rhs.length))) * val W rhs
        + val W (out.take rhs.length) = val W lhs * 2 ^ shift := by
  have sp := shlInPlace_spec W shift (by omega) lhs hl
  generalize hsh : shlInPlace W lhs shift = p at sp
  obtain ⟨lhs1, carry⟩ := p
  simp only at sp
  obtain ⟨s1, s2, s3, s4⟩ := sp
  have hPm : 2 ^ (W * lhs.length) = 2 ^ (W * (lhs.length - rhs.length)) * 2 ^ (W * rhs.length) := by
    rw [← pow_add_len, Nat.sub_add_cancel hm]
  have hXlt : val W lhs < 2 ^ (W * (lhs.length - rhs.length)) * 2 ^ (W * rhs.length) := by
    rw [← hPm]; exact val_lt W lhs hl
  -- the shift carry, if there is one, is divided first: quotient word `q`, buffer `lhs2`
  obtain ⟨q, lhs2, e, l1, l2, l3⟩ : ∃ q lhs2,
      (∀ out c, divRemInPlace W lhs2 rhs (highestDword W rhs) = .ok (out, c) →
        divRemUnshiftedInPlace W lhs rhs shift (highestDword W rhs) = .ok (out, q + c)) ∧
      lhs2.length = lhs.length ∧ IsWords W lhs2 ∧
      val W lhs2 + q * 2 ^ (W * (lhs.length - rhs.length)) * val W rhs = val W lhs * 2 ^ shift := by
    by_cases hc : carry > 0
    · have hwl : (lhs1.drop (lhs1.length - rhs.length)).length = rhs.length := by
        rw [List.length_drop, s2, Nat.sub_sub_self hm]
      have hwlt : val W (lhs1.drop (lhs1.length - rhs.length)) < 2 ^ (W * rhs.length) := by
        have := val_lt W _ (s3.drop (lhs1.length - rhs.length)); rwa [hwl] at this
      have hA : val W (lhs1.drop (lhs1.length - rhs.length)) + carry * 2 ^ (W * rhs.length)
          < val W rhs * 2 ^ W := by
        have h1 : 2 ^ shift ≤ 2 ^ (W - 1) := Nat.pow_le_pow_right (by omega) (by omega)
        calc _ = val W (lhs1.drop (lhs1.length - rhs.length)) + 2 ^ (W * rhs.length) * carry := by
              rw [Nat.mul_comm]
          _ < 2 ^ (W * rhs.length) * 2 ^ (W - 1) := add_mul_lt hwlt (Nat.lt_of_lt_of_le s4 h1)
          _ ≤ 2 * val W rhs * 2 ^ (W - 1) := Nat.mul_le_mul_right _ hnorm
          _ = val W rhs * 2 ^ W := by rw [pow_two_mul_half W hW]; ring
      obtain ⟨q, win', e, _, hwl', hww, _, hweq⟩ :=
        divRemHighestWord_spec W hW carry lhs1 rhs hn (s2 ▸ hm) s3 hr hnorm hA
      rw [s2] at e hweq
      have htkl : (lhs1.take (lhs.length - rhs.length)).length = lhs.length - rhs.length :=
        length_take_of_le (s2 ▸ Nat.sub_le _ _)
      refine ⟨q, lhs1.take (lhs.length - rhs.length) ++ win', fun out c e2 => ?_,
        by rw [List.length_append, htkl, hwl', Nat.sub_add_cancel hm], IsWords.append (s3.take _) hww, ?_⟩
      · simp only [divRemUnshiftedInPlace, hsh, hc, if_true, e, bind, Except.bind, e2, pure, Except.pure]
      rw [val_append, htkl, ← s1, take_drop_val W lhs1 (lhs.length - rhs.length) (s2 ▸ Nat.sub_le _ _), hPm]
      linear_combination 2 ^ (W * (lhs.length - rhs.length)) * hweq
    · obtain rfl : carry = 0 := by omega
      refine ⟨0, lhs1, fun out c e2 => ?_, s2, s3, by rw [← s1]; simp⟩
      simp only [divRemUnshiftedInPlace, hsh, Nat.lt_irrefl, if_false, bind, Except.bind, e2, pure,
        Except.pure, gt_iff_lt]
  obtain ⟨out, c, e2, o1, o2, o3, o4⟩ := divRemInPlace_spec W hW hW4 lhs2 rhs hn (l1 ▸ hm) l2 hr hnorm
  rw [l1] at o1 o4
  have hfin : (val W (out.drop rhs.length) + (q + c) * 2 ^ (W * (lhs.length - rhs.length))) * val W rhs
      + val W (out.take rhs.length) = val W lhs * 2 ^ shift := by linear_combination o4 + l3
  exact ⟨out, q + c, e out c e2, o1, o2, qtop_lt W shift _ (q + c) _ _ _ _ _ hs hfin hXlt hnorm, o3, hfin⟩

/-- un-shift of the remainder: exact, the `debug_assert_zero!` holds -/
theorem shrRemainder_spec (W s X : Nat) (hs : s ≤ W) (r : List Nat) (h : IsWords W r)
    (hv : val W r = X * 2 ^ s) :
    ∃ r', shrRemainder W r s = .ok r' ∧ val W r' = X ∧ r'.length = r.length ∧ IsWords W r' := by
  have sp := shrInPlace_spec W s hs r h
  generalize hsh : shrInPlace W r s = p at sp
  obtain ⟨r', c⟩ := p
  obtain ⟨k', e1, hk', hvv, hl, hw⟩ := sp
  -- the shifted-out bits of a multiple of `2^s` are zero
  obtain ⟨rfl, hx⟩ := add_mul_unique (x := val W r') (y := X) hk' (Nat.two_pow_pos s)
    (by rw [Nat.zero_add, Nat.add_comm, hvv, hv])
  refine ⟨r', ?_, hx, hl, hw⟩
  simp only [shrRemainder, hsh, e1, Nat.zero_mul, ne_eq, not_true_eq_false, if_false]

/-- from the contract of `div_rem_unshifted_in_place` to quotient and (shifted) remainder -/
theorem unshifted_to_divmod (W shift n m a b qTop : Nat) (out : List Nat) (hb : 0 < b) (hnm : n ≤ m)
    (o1 : out.length = m) (o4 : val W (out.take n) < b * 2 ^ shift)
    (o5 : (val W (out.drop n) + qTop * 2 ^ (W * (m - n))) * (b * 2 ^ shift) + val W (out.take n)
      = a * 2 ^ shift) :
    val W (out.drop n ++ [qTop]) = a / b ∧ val W (out.take n) = (a % b) * 2 ^ shift := by
  have hdl : (out.drop n).length = m - n := by simp only [List.length_drop]; omega
  have ⟨u1, u2⟩ := unshift_mod _ _ _ _ _ hb o5 o4
  exact ⟨by rw [val_append_one, hdl, u1, Nat.mul_comm qTop], u2⟩

/-- `div_rem_in_lhs`: the buffer holds the exact quotient (incl. its top word) above the shifted
    exact remainder -/
theorem divRemInLhs_spec (W : Nat) (hW : 1 ≤ W) (hW4 : 4 ≤ W) (lhs rhs : List Nat) (hl : IsWords W lhs)
    (hr : IsWords W rhs) (hn : 2 ≤ rhs.length) (hm : rhs.length ≤ lhs.length)
    (htop : rhs.getD (rhs.length - 1) 0 ≠ 0) :
    ∃ buf rhs' shift, divRemInLhs W lhs rhs = .ok (buf, rhs', shift) ∧ rhs'.length = rhs.length ∧
      shift ≤ W ∧ IsWords W buf ∧ buf.length = lhs.length + 1 ∧
      val W (buf.drop rhs.length) = val W lhs / val W rhs ∧
      val W (buf.take rhs.length) = (val W lhs % val W rhs) * 2 ^ shift := by
  obtain ⟨rhs', shift, e, hs, n1, n2, n3, n4⟩ := normalize_spec W hW rhs hr hn htop
  rw [← n1] at n4
  obtain ⟨out, qTop, e2, o1, o2, o3, o4, o5⟩ :=
    divRemUnshiftedInPlace_spec W hW hW4 lhs rhs' shift (by omega) (by omega) hl n2 hs n4
  rw [n1] at o4 o5
  have hbpos : 0 < val W rhs := by
    have h1 := Nat.two_pow_pos (W * rhs'.length)
    have h2 := Nat.two_pow_pos shift
    rw [n3] at n4
    rcases Nat.eq_zero_or_pos (val W rhs) with h | h
    · rw [h] at n4; omega
    · exact h
  rw [n3] at o4 o5
  obtain ⟨m1, m2⟩ := unshifted_to_divmod W shift rhs.length lhs.length (val W lhs) (val W rhs) qTop out
    hbpos hm o1 o4 o5
  refine ⟨out ++ [qTop], rhs', shift, ?_, n1, by omega,
    IsWords.append o2 (IsWords.cons o3 (IsWords.nil W)), by rw [List.length_append, o1]; simp, ?_, ?_⟩
  · simp only [divRemInLhs, e, bind, Except.bind, e2, pure, Except.pure]
  · rw [List.drop_append_of_le_length (by omega)]; exact m1
  · rw [List.take_append_of_le_length (by omega)]; exact m2

/-- three routes that return one canonical pair return the representations of its values -/
theorem routes_eq {W qv rv : Nat} {q r : TRepr} {f : Except PanicKind (TRepr × TRepr)} {g h : Except PanicKind TRepr}
    (e : f = .ok (q, r)) (ed : g = .ok q) (er : h = .ok r) (hq : q.value W = qv ∧ q.Canon W)
    (hr : r.value W = rv ∧ r.Canon W) :
    f = .ok (ofNat W qv, ofNat W rv) ∧ g = .ok (ofNat W qv) ∧ h = .ok (ofNat W rv) := by
  rw [← TRepr.eq_ofNat hq, ← TRepr.eq_ofNat hr]
  exact ⟨e, ed, er⟩

/-- `div_rem_large`, `div_large` and `rem_large` return the exact quotient and remainder in canonical form -/
theorem large_eq (W : Nat) (hW : 1 ≤ W) (hW4 : 4 ≤ W) (lhs rhs : List Nat) (hl : IsWords W lhs)
    (hr : IsWords W rhs) (hn : 2 ≤ rhs.length) (hm : rhs.length ≤ lhs.length)
    (htop : rhs.getD (rhs.length - 1) 0 ≠ 0) :
    divRemLarge W lhs rhs = .ok (ofNat W (val W lhs / val W rhs), ofNat W (val W lhs % val W rhs)) ∧
    divLarge W lhs rhs = .ok (ofNat W (val W lhs / val W rhs)) ∧
    remLarge W lhs rhs = .ok (ofNat W (val W lhs % val W rhs)) := by
  obtain ⟨buf, rhs', shift, e, h1, h2, h3, h4, h5, h6⟩ := divRemInLhs_spec W hW hW4 lhs rhs hl hr hn hm htop
  obtain ⟨r', e2, r1, _, r3⟩ := shrRemainder_spec W shift _ h2 (buf.take rhs.length) (h3.take _) h6
  refine routes_eq (q := fromBuffer W (buf.drop rhs.length)) (r := fromBuffer W r') ?_ ?_ ?_
    ⟨by rw [fromBuffer_value, h5], fromBuffer_canon W _ (h3.drop _)⟩
    ⟨by rw [fromBuffer_value, r1], fromBuffer_canon W _ r3⟩
  · simp only [divRemLarge, e, bind, Except.bind, h1, e2, pure, Except.pure]
  · simp only [divLarge, e, bind, Except.bind, h1, pure, Except.pure]
  · simp only [remLarge, e, bind, Except.bind, h1, e2, pure, Except.pure]

-- ------------------------------------------------------------------ dispatch (`div_ops.rs mod repr`)

theorem top_ne_zero_of_canon {W : Nat} {ws : List Nat} (h : (TRepr.large ws).Canon W) :
    ws.getD (ws.length - 1) 0 ≠ 0 := by
  obtain ⟨h3, _, hl⟩ := h
  obtain ⟨lo, a, hs, hg, _, _⟩ := split_last1 ws (by omega)
  rw [hg]
  intro h0
  apply hl
  rw [hs, h0]; simp

theorem small_canon_of_le {W x y : Nat} (hx : x < 2 ^ (2 * W)) (h : y ≤ x) : (TRepr.small y).Canon W :=
  Nat.lt_of_le_of_lt h hx

/-- `div_rem_large_dword`: heap value by an inline divisor -/
theorem divRemLargeDword_spec (W : Nat) (hW : 1 ≤ W) (ws : List Nat) (rhs : Nat)
    (hc : (TRepr.large ws).Canon W) (hr : rhs < 2 ^ (2 * W)) (hne : rhs ≠ 0) :
    ∃ q, divRemLargeDword W ws rhs = .ok (q, .small (val W ws % rhs)) ∧ q.value W = val W ws / rhs ∧
      q.Canon W := by
  have hpos : 0 < rhs := Nat.pos_of_ne_zero hne
  by_cases hw : rhs < 2 ^ W
  · obtain ⟨qs, r, e, hv, hrl, _, hq⟩ := divByWordInPlace_spec W rhs ws hc.large_words hpos hw
    obtain ⟨d1, rfl⟩ := div_mod_of_eq hpos hv hrl
    refine ⟨fromBuffer W qs, ?_, by rw [fromBuffer_value, d1], fromBuffer_canon W qs hq⟩
    simp only [divRemLargeDword, hne, if_false, hw, if_true, e, bind, Except.bind, pure, Except.pure]
  · obtain ⟨qs, r, e, hv, hrl, _, hq⟩ := divByDwordInPlace_spec W rhs hW ws hc.large_words
      (by have := hc.large_len; omega) (Nat.le_of_not_lt hw) hr
    obtain ⟨d1, rfl⟩ := div_mod_of_eq hpos hv hrl
    refine ⟨fromBuffer W qs, ?_, by rw [fromBuffer_value, d1], fromBuffer_canon W qs hq⟩
    simp only [divRemLargeDword, hne, if_false, hw, e, bind, Except.bind, pure, Except.pure]

/-- `rem_large_dword` (the `%` path uses `rem_by_word` / `rem_by_dword`) -/
theorem remLargeDword_spec (W : Nat) (hW : 1 ≤ W) (ws : List Nat) (rhs : Nat)
    (hc : (TRepr.large ws).Canon W) (hr : rhs < 2 ^ (2 * W)) (hne : rhs ≠ 0) :
    remLargeDword W ws rhs = .ok (.small (val W ws % rhs)) := by
  have hpos : 0 < rhs := Nat.pos_of_ne_zero hne
  by_cases hw : rhs < 2 ^ W
  · have e := remByWord_spec W rhs ws hc.large_words hc.large_ne_nil hpos hw
    simp only [remLargeDword, hne, if_false, hw, if_true, e, bind, Except.bind, pure, Except.pure]
  · have e := remByDword_spec W rhs hW ws hc.large_words (by have := hc.large_len; omega)
      (Nat.le_of_not_lt hw) hr
    simp only [remLargeDword, hne, if_false, hw, e, bind, Except.bind, pure, Except.pure]

/-- a canonical zero divisor is the inline `0`, on which all three operators panic -/
theorem repr_div_zero (W : Nat) (a b : TRepr) (hb : b.Canon W) (h0 : b.value W = 0) :
    divRemRepr W a b = .error .divideByZero ∧ divRepr W a b = .error .divideByZero ∧
      remRepr W a b = .error .divideByZero := by
  cases b with
  | small y =>
    obtain rfl : y = 0 := h0
    cases a with
    | small x => simp [divRemRepr, divRepr, remRepr, divRemDword]
    | large ws => simp [divRemRepr, divRepr, remRepr, divRemLargeDword, remLargeDword, bind, Except.bind]
  | large ws =>
    have := hb.large_ge
    have := Nat.two_pow_pos (2 * W)
    simp only [TRepr.value_large] at h0
    omega

/-- `DivRem`, `Div` and `Rem for TypedRepr` as functions of the values of canonical operands: the documented panic for a
    zero divisor, otherwise the representations of `a / b` and `a % b` -/
theorem repr_eq (W : Nat) (hW : 1 ≤ W) (hW4 : 4 ≤ W) (a b : TRepr) (ha : a.Canon W) (hb : b.Canon W) :
    divRemRepr W a b = (if b.value W = 0 then .error .divideByZero
      else .ok (ofNat W (a.value W / b.value W), ofNat W (a.value W % b.value W))) ∧
    divRepr W a b = (if b.value W = 0 then .error .divideByZero else .ok (ofNat W (a.value W / b.value W))) ∧
    remRepr W a b = (if b.value W = 0 then .error .divideByZero else .ok (ofNat W (a.value W % b.value W))) := by
  by_cases hne : b.value W = 0
  · simp only [hne, if_true]; exact repr_div_zero W a b hb hne
  simp only [hne, if_false]
  cases a with
  | small x =>
    cases b with
    | small y =>
      simp only [TRepr.value_small] at hne
      exact routes_eq (q := .small (x / y)) (r := .small (x % y)) (by simp [divRemRepr, divRemDword, hne])
        (by simp [divRepr, hne]) (by simp [remRepr, hne]) ⟨rfl, small_canon_of_le ha (Nat.div_le_self _ _)⟩
        ⟨rfl, small_canon_of_le ha (Nat.mod_le _ _)⟩
    | large ws =>
      have hx : x < val W ws := Nat.lt_of_lt_of_le ha hb.large_ge
      exact routes_eq (q := .small 0) (r := .small x) rfl rfl rfl
        ⟨by simp [Nat.div_eq_of_lt hx], Nat.two_pow_pos _⟩ ⟨by simp [Nat.mod_eq_of_lt hx], ha⟩
  | large ws =>
    cases b with
    | small y =>
      simp only [TRepr.value_small] at hne
      obtain ⟨q, e, hq, cq⟩ := divRemLargeDword_spec W hW ws y ha hb hne
      exact routes_eq e (by simp only [divRepr, e, bind, Except.bind, pure, Except.pure])
        (remLargeDword_spec W hW ws y ha hb hne) ⟨hq, cq⟩
        ⟨rfl, Nat.lt_trans (Nat.mod_lt _ (Nat.pos_of_ne_zero hne)) hb⟩
    | large w1 =>
      by_cases hl : ws.length ≥ w1.length
      · obtain ⟨e, ed, er⟩ := large_eq W hW hW4 ws w1 ha.large_words
          hb.large_words (by have := hb.large_len; omega) hl (top_ne_zero_of_canon hb)
        exact ⟨by simp only [divRemRepr, hl, if_true, e, TRepr.value_large],
          by simp only [divRepr, hl, if_true, ed, TRepr.value_large],
          by simp only [remRepr, hl, if_true, er, TRepr.value_large]⟩
      · have hlt : val W ws < val W w1 :=
          val_lt_of_length_lt W ws w1 ha.large_words hb.large_ne_nil hb.2.2 (by omega)
        exact routes_eq (q := .small 0) (r := fromBuffer W ws) (by simp only [divRemRepr, hl, if_false])
          (by simp only [divRepr, hl, if_false]) (by simp only [remRepr, hl, if_false])
          ⟨by simp [Nat.div_eq_of_lt hlt], Nat.two_pow_pos _⟩
          ⟨by simp [fromBuffer_value, Nat.mod_eq_of_lt hlt], fromBuffer_canon W ws ha.large_words⟩

theorem ofNat_isZero (W n : Nat) : (ofNat W n).isZero = decide (n = 0) := by
  unfold ofNat
  split
  · cases n <;> rfl
  · next h =>
    have : n ≠ 0 := fun h0 => h (h0 ▸ Nat.two_pow_pos _)
    simp [TRepr.isZero, this]

/-- `TypedRepr::add_one` -/
theorem addOneRepr_eq (W : Nat) (hW : 1 ≤ W) (a : TRepr) (ha : a.Canon W) :
    addOneRepr W a = ofNat W (a.value W + 1) := by
  refine TRepr.eq_ofNat ?_
  cases a with
  | small d =>
    have h1 : 1 < 2 ^ (2 * W) := Nat.one_lt_two_pow (by omega)
    exact addDword_spec W d 1 ha h1
  | large ws =>
    have ⟨s1, s2, s3, s4⟩ := addOne_spec W ws ha.large_words
    simp only [addOneRepr]
    generalize addOne W ws = p at *
    obtain ⟨r, c⟩ := p
    simp only at s1 s2 s3 s4 ⊢
    by_cases hc : c = 0
    · subst hc
      simp only [if_true]
      exact ⟨by rw [fromBuffer_value]; simpa using s1, fromBuffer_canon W r s3⟩
    · have hc1 : c = 1 := by omega
      subst hc1
      simp only [if_false, Nat.one_ne_zero]
      refine ⟨?_, fromBuffer_canon W _ (IsWords.append s3 (isWords_one W hW))⟩
      rw [fromBuffer_value, val_append_one, s2]
      simpa using s1

-- ------------------------------------------------------------------ ConstDivisor (`div_const.rs`)

/-- what `ConstDivisor::new(b)` establishes about its precomputed fields -/
def ConstDiv.Valid (W b : Nat) : ConstDiv → Prop
  | .single d shift => 0 < b ∧ b < 2 ^ W ∧ shift + 1 ≤ W ∧ d = b * 2 ^ shift ∧ 2 ^ (W - 1) ≤ d ∧ d < 2 ^ W
  | .double d shift => 2 ^ W ≤ b ∧ b < 2 ^ (2 * W) ∧ shift + 1 ≤ W ∧ d = b * 2 ^ shift ∧
      2 ^ (2 * W - 1) ≤ d ∧ d < 2 ^ (2 * W)
  | .large nd shift dtop => 3 ≤ nd.length ∧ IsWords W nd ∧ shift + 1 ≤ W ∧ val W nd = b * 2 ^ shift ∧
      2 ^ (W * nd.length) ≤ 2 * val W nd ∧ dtop = highestDword W nd ∧ 2 ^ (2 * W) ≤ b

/-- `ConstDivisor::new`: zero panics with the documented message, otherwise the fields are valid -/
theorem ConstDiv.new_spec (W : Nat) (hW : 1 ≤ W) (n : TRepr) (hn : n.Canon W) :
    (n.value W = 0 → ConstDiv.new W n = .error .divideByZero) ∧
    (n.value W ≠ 0 → ∃ c, ConstDiv.new W n = .ok c ∧ c.Valid W (n.value W)) := by
  cases n with
  | small dw =>
    simp only [TRepr.value_small]
    constructor
    · intro h0; subst h0; rfl
    · intro hne
      obtain ⟨k, rfl⟩ : ∃ k, dw = k + 1 := ⟨dw - 1, by omega⟩
      by_cases hw : k + 1 < 2 ^ W
      · obtain ⟨l1, l2, l3⟩ := lz_spec (bits := W) hne hw
        refine ⟨.single ((k + 1) * 2 ^ lz W (k + 1)) (lz W (k + 1)), ?_,
          by omega, hw, lz_word_lt W _ hW hne, rfl, l2, l3⟩
        simp only [ConstDiv.new, hw, if_true, Nat.mod_eq_of_lt l3, normNew_ok W _ l2, bind, Except.bind,
          pure, Except.pure]
      · have hge : 2 ^ W ≤ k + 1 := Nat.le_of_not_lt hw
        obtain ⟨l1, l2, l3⟩ := lz_spec (bits := 2 * W) hne hn
        refine ⟨.double ((k + 1) * 2 ^ lz (2 * W) (k + 1)) (lz (2 * W) (k + 1)), ?_,
          hge, hn, lz_dword_lt W _ hW hge, rfl, l2, l3⟩
        simp only [ConstDiv.new, hw, if_false, Nat.mod_eq_of_lt l3, normNew_ok (2 * W) _ l2, bind,
          Except.bind, pure, Except.pure]
  | large ws =>
    simp only [TRepr.value_large]
    have hge := hn.large_ge
    constructor
    · intro h0; have := Nat.two_pow_pos (2 * W); omega
    · intro _
      obtain ⟨ws', shift, e, hs, n1, n2, n3, n4⟩ := normalize_spec W hW ws hn.large_words
        (by have := hn.large_len; omega) (top_ne_zero_of_canon hn)
      refine ⟨.large ws' shift (highestDword W ws'), ?_, by rw [n1]; exact hn.large_len, n2, hs, n3,
        by rw [n1]; exact n4, rfl, hge⟩
      simp only [ConstDiv.new, e, bind, Except.bind, pure, Except.pure]

/-- `ConstDivisor::value()` gives back the divisor -/
theorem ConstDiv.value_eq (W b : Nat) (c : ConstDiv) (hv : c.Valid W b) : c.value W = .ok (ofNat W b) := by
  cases c with
  | single d shift =>
    obtain ⟨_, h2, _, h4, _, _⟩ := hv
    have hb : b < 2 ^ (2 * W) := Nat.lt_of_lt_of_le h2 (Nat.pow_le_pow_right (by omega) (by omega))
    simp only [ConstDiv.value, h4, Nat.mul_div_cancel _ (Nat.two_pow_pos shift), ofNat, hb, if_true]
  | double d shift =>
    obtain ⟨_, h2, _, h4, _, _⟩ := hv
    simp only [ConstDiv.value, h4, Nat.mul_div_cancel _ (Nat.two_pow_pos shift), ofNat, h2, if_true]
  | large nd shift dtop =>
    obtain ⟨_, h2, h3, h4, _, _, _⟩ := hv
    obtain ⟨r', e, r1, _, r3⟩ := shrRemainder_spec W shift b (by omega) nd h2 h4
    simp only [ConstDiv.value, e, bind, Except.bind, pure, Except.pure]
    rw [TRepr.eq_ofNat ⟨(fromBuffer_value W r').trans r1, fromBuffer_canon W r' r3⟩]

/-- `div_rem_small_single`: inline dividend by a prepared one-word divisor -/
theorem divRemSmallSingle_spec (W dw b shift : Nat) (hdw : dw < 2 ^ (2 * W))
    (hs : shift + 1 ≤ W) (hd1 : 2 ^ (W - 1) ≤ b * 2 ^ shift) :
    divRemSmallSingle W dw (b * 2 ^ shift) shift = .ok (dw / b, dw % b) := by
  rcases hsd : shlDword W dw shift with ⟨lo, mid, hi⟩
  obtain ⟨e1, e0, eq⟩ := div2by1_shl_steps hsd hs hdw hd1
  simp only [divRemSmallSingle, hsd, bind, Except.bind, e1, e0, pure, Except.pure, eq]
  rw [Nat.mul_div_mul_right _ _ (Nat.two_pow_pos shift), shifted_mod]

/-- `div_rem_small_double`: inline dividend by a prepared double-word divisor -/
theorem divRemSmallDouble_spec (W dw b shift : Nat) (hdw : dw < 2 ^ (2 * W))
    (hs : shift + 1 ≤ W) (hd1 : 2 ^ (2 * W - 1) ≤ b * 2 ^ shift) :
    divRemSmallDouble W dw (b * 2 ^ shift) shift = .ok (dw / b, dw % b) := by
  rcases hsd : shlDword W dw shift with ⟨lo, mid, hi⟩
  simp only [divRemSmallDouble, hsd, bind, Except.bind, div3by2_shl hsd hs hdw hd1, pure, Except.pure]
  rw [Nat.mul_div_mul_right _ _ (Nat.two_pow_pos shift), shifted_mod]

/-- `ConstSingleDivisor::rem_dword` = (dword << shift) % d -/
theorem singleRemDword_spec (W dw b shift : Nat) (hW : 1 ≤ W) (hdw : dw < 2 ^ (2 * W)) (hb : 0 < b)
    (hs : shift + 1 ≤ W) (hd1 : 2 ^ (W - 1) ≤ b * 2 ^ shift) (hd2 : b * 2 ^ shift < 2 ^ W) :
    singleRemDword W (b * 2 ^ shift) shift dw = .ok ((dw * 2 ^ shift) % (b * 2 ^ shift)) := by
  have hp : 0 < 2 ^ W := Nat.two_pow_pos W
  have hdpos : 0 < b * 2 ^ shift := Nat.mul_pos hb (Nat.two_pow_pos _)
  have hn : 2 ^ W ≤ 2 * (b * 2 ^ shift) := by
    have := pow_two_mul_half W hW; omega
  unfold singleRemDword
  by_cases h0 : shift = 0
  · subst h0
    simp only [if_true, Nat.pow_zero, Nat.mul_one] at *
    have hhi : dw / 2 ^ W < 2 ^ W := by
      rw [Nat.div_lt_iff_lt_mul hp, ← two_pow_two_mul]; exact hdw
    have hr1 : (div1by1 b (dw / 2 ^ W)).2 = dw / 2 ^ W % b := div1by1_snd W b _ hb hn hhi
    have hpre : (dw % 2 ^ W + 2 ^ W * (dw / 2 ^ W % b)) / 2 ^ W < b := by
      rw [add_mul_div_word W _ _ (Nat.mod_lt _ hp)]; exact Nat.mod_lt _ hb
    simp only [hr1, bind, Except.bind, div2by1_ok W _ _ hpre, pure, Except.pure]
    rw [mod_step, Nat.add_comm, Nat.div_add_mod]
  · rw [if_neg h0]
    rcases hsd : shlDword W dw shift with ⟨n0, n1, n2⟩
    obtain ⟨e1, e0, _⟩ := div2by1_shl_steps hsd hs hdw hd1
    simp only [bind, Except.bind, e1, e0, pure, Except.pure]

/-- `ConstSingleDivisor::rem_large` = (words << shift) % d -/
theorem singleRemLarge_spec (W b shift : Nat) (hW : 1 ≤ W) (ws : List Nat) (h : IsWords W ws)
    (hne : ws ≠ []) (hb : 0 < b) (hs : shift + 1 ≤ W) (hd1 : 2 ^ (W - 1) ≤ b * 2 ^ shift)
    (hd2 : b * 2 ^ shift < 2 ^ W) :
    singleRemLarge W (b * 2 ^ shift) shift ws = .ok ((val W ws * 2 ^ shift) % (b * 2 ^ shift)) := by
  have hps : 0 < 2 ^ shift := Nat.two_pow_pos _
  have hdpos : 0 < b * 2 ^ shift := Nat.mul_pos hb hps
  have hn : 2 ^ W ≤ 2 * (b * 2 ^ shift) := by
    have := pow_two_mul_half W hW; omega
  have e := fastRemByNormalizedWord_spec W _ hdpos (Nat.le_of_lt hd2) hn ws h hne
  have hr : val W ws % (b * 2 ^ shift) < b * 2 ^ shift := Nat.mod_lt _ hdpos
  unfold singleRemLarge
  by_cases h0 : shift = 0
  · subst h0
    simp only [Nat.pow_zero, Nat.mul_one] at e ⊢
    simp [e, bind, Except.bind, pure, Except.pure]
  · simp only [e, bind, Except.bind, ne_eq, h0, not_false_eq_true, if_true, div2by1_shl hb hr hd2, pure,
      Except.pure]
    rw [Nat.mul_mod, Nat.mod_mod, ← Nat.mul_mod]

/-- `ConstDoubleDivisor::rem_dword` = (dword << shift) % d -/
theorem doubleRemDword_spec (W dw b shift : Nat) (hW : 1 ≤ W) (hdw : dw < 2 ^ (2 * W))
    (hs : shift + 1 ≤ W) (hd1 : 2 ^ (2 * W - 1) ≤ b * 2 ^ shift) :
    doubleRemDword W (b * 2 ^ shift) shift dw = .ok ((dw * 2 ^ shift) % (b * 2 ^ shift)) := by
  have hn : 2 ^ (2 * W) ≤ 2 * (b * 2 ^ shift) := by
    have := pow_two_mul_half (2 * W) (by omega); omega
  unfold doubleRemDword
  by_cases h0 : shift = 0
  · subst h0
    simp only [if_true, Nat.pow_zero, Nat.mul_one] at *
    rw [div2by2_snd W b dw hn hdw]
  · rw [if_neg h0]
    rcases hsd : shlDword W dw shift with ⟨n0, n1, n2⟩
    simp only [bind, Except.bind, div3by2_shl hsd hs hdw hd1, pure, Except.pure]

/-- `ConstDoubleDivisor::rem_large` = (words << shift) % d -/
theorem doubleRemLarge_spec (W b shift : Nat) (hW : 1 ≤ W) (ws : List Nat) (h : IsWords W ws)
    (hlen : 2 ≤ ws.length) (hb : 0 < b) (hs : shift + 1 ≤ W)
    (hd1 : 2 ^ (2 * W - 1) ≤ b * 2 ^ shift) (hd2 : b * 2 ^ shift < 2 ^ (2 * W)) :
    doubleRemLarge W (b * 2 ^ shift) shift ws = .ok ((val W ws * 2 ^ shift) % (b * 2 ^ shift)) := by
  have hps : 0 < 2 ^ shift := Nat.two_pow_pos _
  have hdpos : 0 < b * 2 ^ shift := Nat.mul_pos hb hps
  have hn : 2 ^ (2 * W) ≤ 2 * (b * 2 ^ shift) := by
    have := pow_two_mul_half (2 * W) (by omega); omega
  have e := fastRemByNormalizedDword_spec W _ hdpos hn ws h hlen
  have hr : val W ws % (b * 2 ^ shift) < b * 2 ^ shift := Nat.mod_lt _ hdpos
  unfold doubleRemLarge
  by_cases h0 : shift = 0
  · subst h0
    simp only [Nat.pow_zero, Nat.mul_one] at e ⊢
    simp [e, bind, Except.bind, pure, Except.pure]
  · rcases hsd : shlDword W (val W ws % (b * 2 ^ shift)) shift with ⟨r0, r1, r2⟩
    simp only [e, bind, Except.bind, ne_eq, h0, not_false_eq_true, if_true, hsd,
      div3by2_shl hsd hs (Nat.lt_trans hr hd2) hd1, pure, Except.pure]
    rw [Nat.mul_mod, Nat.mod_mod, ← Nat.mul_mod]

/-- a normalised `n`-word divisor exceeds every shorter dividend -/
theorem short_lt_large (W b shift : Nat) (nd ws : List Nat) (hW : 1 ≤ W) (hs : shift + 1 ≤ W)
    (hv : val W nd = b * 2 ^ shift) (hnorm : 2 ^ (W * nd.length) ≤ 2 * val W nd)
    (hw : IsWords W ws) (hl : ws.length < nd.length) : val W ws < b := by
  have h2 : 2 ^ (W * ws.length) ≤ 2 ^ (W * (nd.length - 1)) :=
    Nat.pow_le_pow_right (by omega) (Nat.mul_le_mul_left _ (by omega))
  have h3 : 2 ^ (W * (nd.length - 1)) * 2 ^ W ≤ b * 2 ^ W :=
    calc 2 ^ (W * (nd.length - 1)) * 2 ^ W = 2 ^ (W * nd.length) := by
          rw [Nat.mul_comm, ← pow_mul_succ, Nat.sub_add_cancel (by omega)]
      _ ≤ 2 * (b * 2 ^ shift) := hv ▸ hnorm
      _ ≤ 2 * (b * 2 ^ (W - 1)) := Nat.mul_le_mul_left 2 (Nat.mul_le_mul_left b (Nat.pow_le_pow_right (by omega) (by omega)))
      _ = b * 2 ^ W := by rw [pow_two_mul_half W hW]; ring
  exact Nat.lt_of_lt_of_le (Nat.lt_of_lt_of_le (val_lt W ws hw) h2)
    (Nat.le_of_mul_le_mul_right h3 (Nat.two_pow_pos W))

/-- `DivRem`, `Div` and `Rem<&ConstDivisor>` as functions of the values: the prepared divisor gives the
    representations of `a / b` and `a % b` (`Rem` on the tree with /repo commit 2941615) -/
theorem const_eq (W : Nat) (hW : 1 ≤ W) (hW4 : 4 ≤ W) (a : TRepr) (b : Nat) (c : ConstDiv)
    (ha : a.Canon W) (hv : c.Valid W b) :
    divRemConst W a c = .ok (ofNat W (a.value W / b), ofNat W (a.value W % b)) ∧
    divConst W a c = .ok (ofNat W (a.value W / b)) ∧ remConst W a c = .ok (ofNat W (a.value W % b)) := by
  cases c with
  | single d shift =>
    obtain ⟨h1, h2, h3, h4, h5, h6⟩ := hv
    subst h4
    have hbW : b < 2 ^ (2 * W) := Nat.lt_of_lt_of_le h2 (Nat.pow_le_pow_right (by omega) (by omega))
    cases a with
    | small dw =>
      have e := divRemSmallSingle_spec W dw b shift ha h3 h5
      have er := singleRemDword_spec W dw b shift hW ha h1 h3 h5 h6
      refine routes_eq (q := .small (dw / b)) (r := .small (dw % b)) ?_ ?_ ?_
        ⟨rfl, small_canon_of_le ha (Nat.div_le_self _ _)⟩ ⟨rfl, Nat.lt_trans (Nat.mod_lt _ h1) hbW⟩
      · simp only [divRemConst, e, bind, Except.bind, pure, Except.pure]
      · simp only [divConst, e, bind, Except.bind, pure, Except.pure]
      · simp only [remConst, er, bind, Except.bind, pure, Except.pure, shifted_mod]
    | large ws =>
      obtain ⟨qs, r, e, hq, hr, _, hw⟩ :=
        fastDivByWordInPlace_spec W b shift ws ha.large_words h1 (by omega) (Nat.le_of_lt h6)
      obtain ⟨d1, rfl⟩ := div_mod_of_eq h1 hq hr
      have er := singleRemLarge_spec W b shift hW ws ha.large_words ha.large_ne_nil h1 h3 h5 h6
      refine routes_eq (q := fromBuffer W qs) (r := .small (val W ws % b)) ?_ ?_ ?_
        ⟨by rw [fromBuffer_value]; exact d1.symm, fromBuffer_canon W qs hw⟩
        ⟨rfl, Nat.lt_trans (Nat.mod_lt _ h1) hbW⟩
      · simp only [divRemConst, e, bind, Except.bind, pure, Except.pure]
      · simp only [divConst, e, bind, Except.bind, pure, Except.pure]
      · simp only [remConst, er, bind, Except.bind, pure, Except.pure, shifted_mod]
  | double d shift =>
    obtain ⟨h1, h2, h3, h4, h5, h6⟩ := hv
    subst h4
    have hbpos : 0 < b := Nat.lt_of_lt_of_le (Nat.two_pow_pos W) h1
    cases a with
    | small dw =>
      have e := divRemSmallDouble_spec W dw b shift ha h3 h5
      have er := doubleRemDword_spec W dw b shift hW ha h3 h5
      refine routes_eq (q := .small (dw / b)) (r := .small (dw % b)) ?_ ?_ ?_
        ⟨rfl, small_canon_of_le ha (Nat.div_le_self _ _)⟩ ⟨rfl, Nat.lt_trans (Nat.mod_lt _ hbpos) h2⟩
      · simp only [divRemConst, e, bind, Except.bind, pure, Except.pure]
      · simp only [divConst, e, bind, Except.bind, pure, Except.pure]
      · simp only [remConst, er, bind, Except.bind, pure, Except.pure, shifted_mod]
    | large ws =>
      have hlen : 2 ≤ ws.length := by have := ha.large_len; omega
      obtain ⟨qs, r, e, hq, hr, _, hw⟩ :=
        fastDivByDwordInPlace_spec W b shift ws ha.large_words hlen hbpos h3 h5
      obtain ⟨d1, rfl⟩ := div_mod_of_eq hbpos hq hr
      have er := doubleRemLarge_spec W b shift hW ws ha.large_words hlen hbpos h3 h5 h6
      refine routes_eq (q := fromBuffer W qs) (r := .small (val W ws % b)) ?_ ?_ ?_
        ⟨by rw [fromBuffer_value]; exact d1.symm, fromBuffer_canon W qs hw⟩
        ⟨rfl, Nat.lt_trans (Nat.mod_lt _ hbpos) h2⟩
      · simp only [divRemConst, e, bind, Except.bind, pure, Except.pure]
      · simp only [divConst, e, bind, Except.bind, pure, Except.pure]
      · simp only [remConst, er, bind, Except.bind, pure, Except.pure, shifted_mod]
  | large nd shift dtop =>
    obtain ⟨h1, h2, h3, h4, h5, h6, h7⟩ := hv
    subst h6
    have hbpos : 0 < b := Nat.lt_of_lt_of_le (Nat.two_pow_pos (2 * W)) h7
    cases a with
    | small dw =>
      have hx : dw < b := Nat.lt_of_lt_of_le ha h7
      exact routes_eq (q := .small 0) (r := .small dw) rfl rfl rfl ⟨by simp [Nat.div_eq_of_lt hx], Nat.two_pow_pos _⟩
        ⟨by simp [Nat.mod_eq_of_lt hx], ha⟩
    | large ws =>
      by_cases hl : ws.length < nd.length
      · have hx := short_lt_large W b shift nd ws hW h3 h4 h5 ha.large_words hl
        exact routes_eq (q := .small 0) (r := fromBuffer W ws) (by simp only [divRemConst, hl, if_true])
          (by simp only [divConst, hl, if_true]) (by simp only [remConst, hl, if_true])
          ⟨by simp [Nat.div_eq_of_lt hx], Nat.two_pow_pos _⟩
          ⟨by simp [fromBuffer_value, Nat.mod_eq_of_lt hx], fromBuffer_canon W ws ha.large_words⟩
      · obtain ⟨out, qTop, e, o1, o2, o3, o4, o5⟩ :=
          divRemUnshiftedInPlace_spec W hW hW4 ws nd shift (by omega) (by omega) ha.large_words h2 h3 h5
        rw [h4] at o4 o5
        have ⟨m1, m2⟩ := unshifted_to_divmod W shift nd.length ws.length (val W ws) b qTop out hbpos
          (by omega) o1 o4 o5
        obtain ⟨r', e2, r1, _, r3⟩ := shrRemainder_spec W shift _ (by omega) (out.take nd.length)
          (o2.take _) m2
        have hqw : IsWords W (out.drop nd.length ++ [qTop]) :=
          IsWords.append (o2.drop _) (IsWords.cons o3 (IsWords.nil W))
        refine routes_eq (q := fromBuffer W (out.drop nd.length ++ [qTop])) (r := fromBuffer W r') ?_ ?_ ?_
          ⟨by rw [fromBuffer_value, m1]; rfl, fromBuffer_canon W _ hqw⟩
          ⟨by rw [fromBuffer_value, r1]; rfl, fromBuffer_canon W _ r3⟩
        · simp only [divRemConst, hl, if_false, e, bind, Except.bind, e2, pure, Except.pure]
        · simp only [divConst, hl, if_false, e, bind, Except.bind, pure, Except.pure]
        · simp only [remConst, hl, if_false, e, bind, Except.bind, e2, pure, Except.pure]

end Dashu.Model.Div
