import Dashu.Proofs.Int.Cmp
import Dashu.Proofs.Float.Closing
import Dashu.Proofs.Float.Keeps
/-
  Bridge between the float arithmetic model of C03 (`Dashu.Model.Float`) and the
  comparison model of C05: every modelled producer returns at most `p + 1` significant digits
  (`Proofs/Float/Closing.lean`), which is exactly the hypothesis of `Props.C05.float_cmp`.
-/
namespace Dashu.Model

/-- the C03 representation seen by the C05 comparison model (same two fields) -/
def ofFloatRepr (r : Dashu.Model.Float.FRepr) : FRepr := ⟨r.signif, r.exp⟩

/-- "fits precision `p` with one spare digit" — what every arithmetic result satisfies -/
def FitsP1 (B p : Nat) (r : Dashu.Model.Float.FRepr) : Prop := r.digits B ≤ p + 1

theorem FitsP1.bound {B p : Nat} (hB : 2 ≤ B) {r : Dashu.Model.Float.FRepr} (h : FitsP1 B p r) :
    (ofFloatRepr r).signif.natAbs < B ^ (p + 1) := by
  have h1 := Dashu.Model.Float.digitsI_abs_lt B hB r.signif
  have h2 : B ^ Dashu.Model.Float.digitsI B r.signif ≤ B ^ (p + 1) := Nat.pow_le_pow_right (by omega) h
  have : ((r.signif.natAbs : Nat) : Int) < ((B ^ (p + 1) : Nat) : Int) := by
    rw [Int.natCast_natAbs]
    exact lt_of_lt_of_le h1 (by exact_mod_cast h2)
  exact_mod_cast this

/-- `FitsP1` at a precision below the clamp of case 4 (`isize::MAX`) gives the memory bound for free -/
theorem FitsP1.mem_of_le {B p : Nat} {r : Dashu.Model.Float.FRepr} (hp : p ≤ cmpIsizeMax) (h : FitsP1 B p r) :
    FitsP1 B cmpIsizeMax r := by
  unfold FitsP1 at *; omega

-- ================================================================== producers return the canonical representation

open Dashu.Model.Float in
section
theorem new_fcanon (B : Nat) (hB : 2 ≤ B) (s e : Int) : FCanon B (ofFloatRepr (Float.FRepr.new B s e)) := by
  have hn := Float.FRepr.new_normalized B hB s e
  unfold Float.Normalized at hn
  unfold Float.FRepr.new at hn ⊢
  by_cases hs : s = 0
  · simp [hs, ofFloatRepr, FCanon]
  · simp only [hs, if_false, ofFloatRepr, FCanon] at hn ⊢
    have hmod : (Float.stripAux B (s.natAbs.log2 + 1) s e).1 % (B : Int) ≠ 0 := by
      rcases hn with h | h
      · exfalso
        -- a stripped non-zero significand is non-zero: s = n * B^j
        obtain ⟨j, hj⟩ := Float.stripAux_int B (s.natAbs.log2 + 1) s e
        rw [h, Int.zero_mul] at hj; exact hs hj
      · exact h
    generalize (Float.stripAux B (s.natAbs.log2 + 1) s e).1 = n at *
    refine ⟨fun h0 => by rw [h0] at hmod; simp at hmod, fun _ => ?_⟩
    intro hz
    apply hmod
    have : (B : Int) ∣ n := by
      rw [← Int.natAbs_dvd_natAbs]; simpa using Nat.dvd_of_mod_eq_zero hz
    exact Int.emod_eq_zero_of_dvd this

theorem fcanon_neg (B : Nat) (r : Float.FRepr) (h : FCanon B (ofFloatRepr r)) : FCanon B (ofFloatRepr r.neg) := by
  obtain ⟨sg, ex⟩ := r
  obtain ⟨h1, h2⟩ := h
  constructor
  · intro h0
    have : sg = 0 := by
      have h0' : -sg = 0 := h0
      omega
    exact h1 this
  · intro hn
    have hn' : sg ≠ 0 := by
      intro h; apply hn; show -sg = 0; omega
    show (-sg).natAbs % B ≠ 0
    rw [Int.natAbs_neg]; exact h2 hn'

end

end Dashu.Model
