import Dashu.Proofs.Int.Bits
/-
  C09: the carry identities that tie the two's-complement bit operations of the specification (`specAnd`, `specOr`, `specXor`
  of `Model/Int/Bits.lean`) to integer addition:  (x & y) + (x | y) = x + y   and   (x ^ y) + 2 (x & y) = x + y,  for ALL integers.
  Naturals by binary induction (`Nat.binaryRec`, `Nat.land_bit` …), integers by the four sign cases of the specification's definitions.
-/
namespace Dashu.Model

theorem nat_and_add_or (a b : Nat) : (a &&& b) + (a ||| b) = a + b := by
  induction a using Nat.binaryRec generalizing b with
  | zero => simp
  | bit x a ih =>
    induction b using Nat.binaryRec with
    | zero => simp
    | bit y b _ =>
      rw [Nat.land_bit, Nat.lor_bit]
      simp only [Nat.bit_val]
      have := ih b
      have : (x && y).toNat + (x || y).toNat = x.toNat + y.toNat := by cases x <;> cases y <;> rfl
      omega

theorem nat_xor_add_two_and (a b : Nat) : (a ^^^ b) + 2 * (a &&& b) = a + b := by
  induction a using Nat.binaryRec generalizing b with
  | zero => simp
  | bit x a ih =>
    induction b using Nat.binaryRec with
    | zero => simp
    | bit y b _ =>
      rw [Nat.land_bit, Nat.xor_bit]
      simp only [Nat.bit_val]
      have := ih b
      have : (x != y).toNat + 2 * (x && y).toNat = x.toNat + y.toNat := by
        cases x <;> cases y <;> rfl
      omega

theorem nat_andNot_add_and (a b : Nat) : natAndNot a b + (a &&& b) = a := by
  unfold natAndNot
  induction a using Nat.binaryRec generalizing b with
  | zero => simp
  | bit x a ih =>
    induction b using Nat.binaryRec with
    | zero => simp
    | bit y b _ =>
      rw [Nat.land_bit, Nat.xor_bit]
      simp only [Nat.bit_val]
      have := ih b
      have : (x != (x && y)).toNat + (x && y).toNat = x.toNat := by cases x <;> cases y <;> rfl
      omega

/-- `(x & y) + (x | y) = x + y` in infinite two's complement, every sign combination -/
theorem specAnd_add_specOr (x y : Int) : specAnd x y + specOr x y = x + y := by
  unfold specAnd specOr Model.compl
  split <;> split
  · have := nat_and_add_or x.toNat y.toNat; omega
  · have h1 := nat_andNot_add_and x.toNat (-y - 1).toNat
    have h2 := nat_andNot_add_and (-y - 1).toNat x.toNat
    have h3 := Nat.and_comm x.toNat (-y - 1).toNat
    omega
  · have h1 := nat_andNot_add_and y.toNat (-x - 1).toNat
    have h2 := nat_andNot_add_and (-x - 1).toNat y.toNat
    have h3 := Nat.and_comm y.toNat (-x - 1).toNat
    omega
  · have := nat_and_add_or (-x - 1).toNat (-y - 1).toNat; omega

/-- `(x ^ y) + 2 (x & y) = x + y` (sum without carries + the carries), every sign combination -/
theorem specXor_add_two_specAnd (x y : Int) : specXor x y + 2 * specAnd x y = x + y := by
  unfold specXor specAnd Model.compl
  split <;> split
  · have := nat_xor_add_two_and x.toNat y.toNat; omega
  · have h1 := nat_andNot_add_and x.toNat (-y - 1).toNat
    have h2 := nat_xor_add_two_and x.toNat (-y - 1).toNat
    omega
  · have h1 := nat_andNot_add_and y.toNat (-x - 1).toNat
    have h2 := nat_xor_add_two_and (-x - 1).toNat y.toNat
    have h3 := Nat.and_comm y.toNat (-x - 1).toNat
    omega
  · have h1 := nat_and_add_or (-x - 1).toNat (-y - 1).toNat
    have h2 := nat_xor_add_two_and (-x - 1).toNat (-y - 1).toNat
    omega

end Dashu.Model
