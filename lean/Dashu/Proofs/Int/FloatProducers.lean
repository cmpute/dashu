import Dashu.Proofs.Int.FloatFit
import Dashu.Model.Trans.PowiNeg
/-
  C05, float producers: the invariant `digits ≤ precision + 1` (hypothesis of `float_cmp`) for the producers that
  `float_results_fit` does not cover (the normalised representation is `Proofs/Float/Keeps`):
  `Context::div` (with its own pre-shrink of the dividend), `Context::inv`, `Context::sqrt`,
  `Context::powi` (non-negative and negative exponent; C11's mirrored loop `Model/Trans/Powi*.lean`),
  `Context::convert_int` / `From<IBig>` / `From<primitive>`, `FBig::from_parts`, and the parser
  (`Repr::from_str_native`: significand `int·B^fd + fract`, precision = number of digit characters).
-/
namespace Dashu.Model
open Dashu.Model.Float Dashu.Model.Trans

/-- `Context::div` (the dividend pre-shrunk BY REFERENCE to `rhs.digits + p` digits when the estimates say
    it is longer): at most `p + 1` digits, for operands of any length, given sound digit estimates -/
theorem ctxDiv_fits (B : Nat) (hB : 2 ≤ B) (m : Mode) (c : Coarse) (dub dlb : Int → Nat)
    (hdub : DubSound B dub) (hdlb : DlbSound B dlb) (p : Nat) (hp : 1 ≤ p) (x y : Float.FRepr)
    (hy : y.signif ≠ 0) :
    ∃ r, ctxDiv B m c dub dlb p x y = .ok r ∧ FitsP1 B p r.1 := by
  unfold ctxDiv
  have hfit : (if ¬ x.isZero ∧ dub x.signif > dlb y.signif + p then
      (reprRound B m c (y.digits B + p) x).1 else x).digits B ≤ y.digits B + p := by
    split
    · exact reprRound_digits_le B hB m c _ (by omega) x
    · rename_i h
      by_cases hz : x.isZero = true
      · have : x.signif = 0 := by
          simp only [Float.FRepr.isZero, Bool.and_eq_true, beq_iff_eq] at hz; exact hz.1
        simp [Float.FRepr.digits, this, digitsI_zero]
      · have h2 : ¬ dub x.signif > dlb y.signif + p := fun h' => h ⟨by simpa using hz, h'⟩
        have h3 := hdub x.signif
        have h4 := hdlb y.signif
        unfold Float.FRepr.digits; omega
  obtain ⟨r, hr, hd, _⟩ := reprDiv_digits_le B hB m p hp _ y hy hfit
  exact ⟨r, hr, hd⟩

/-- `Context::inv` -/
theorem ctxInv_fits (B : Nat) (hB : 2 ≤ B) (m : Mode) (p : Nat) (hp : 1 ≤ p) (y : Float.FRepr) (hy : y.signif ≠ 0) :
    ∃ r, ctxInv B m p y = .ok r ∧ FitsP1 B p r.1 := by
  unfold ctxInv
  have hfit : (⟨1, 0⟩ : Float.FRepr).digits B ≤ y.digits B + p := by
    have h1 : (⟨1, 0⟩ : Float.FRepr).digits B ≤ 1 := by
      show digits B (1 : Int).natAbs ≤ 1
      obtain ⟨_, hlo, _⟩ := digits_spec B hB 1 (by omega)
      by_contra hc
      have : B ^ 1 ≤ B ^ (digits B 1 - 1) := Nat.pow_le_pow_right (by omega) (by simp at hc ⊢; omega)
      rw [Nat.pow_one] at this
      omega
    omega
  obtain ⟨r, hr, hd, _⟩ := reprDiv_digits_le B hB m p hp _ y hy hfit
  exact ⟨r, hr, hd⟩

/-- `Context::sqrt` -/
theorem ctxSqrt_fits (B : Nat) (hB : 2 ≤ B) (m : Mode) (c : Coarse) (sr : Nat → Nat × Nat) (p : Nat) (hp : 1 ≤ p)
    (x : Float.FRepr) (hs : 0 ≤ x.signif) : ∃ r, ctxSqrt B m c sr p x = .ok r ∧ FitsP1 B p r.1 := by
  obtain ⟨r, hr, hd⟩ := ctxSqrt_digits_le B hB m c sr p hp x hs
  exact ⟨r, hr, Nat.le_succ_of_le hd⟩

/-- `Context::powi(base, n)`, `n ≥ 2` (binary exponentiation at the working precision, final `with_precision`) -/
theorem powiNonneg_fits (fixed : Bool) (B : Nat) (hB : 2 ≤ B) (m : Mode) (c : Coarse) (p : Nat) (hp : 1 ≤ p)
    (base : Float.FRepr) (bs : List Bool) : FitsP1 B p (powiNonneg fixed B m c p base bs).2.1 := by
  unfold powiNonneg
  exact Nat.le_succ_of_le (reprRound_digits_le B hB m c p hp _)

/-- `Context::powi(base, -n)`: whatever the reversed-context power and reciprocal were, the final `repr_round` fits -/
theorem powiNeg_fits (fixed : Bool) (B : Nat) (hB : 2 ≤ B) (m : Mode) (c : Coarse) (p : Nat) (hp : 1 ≤ p)
    (base : Float.FRepr) (n : Nat) (r : Float.FRepr × Float.FRepr × Rounded Float.FRepr)
    (h : powiNeg fixed B m c p base n = .ok r) : FitsP1 B p r.2.2.1 := by
  unfold powiNeg at h
  simp only at h
  split at h
  · cases h
  · cases h
    exact Nat.le_succ_of_le (reprRound_digits_le B hB m c p hp _)

/-- `Context::convert_int` (`From<IBig>/From<UBig>/From<primitive>` build `Repr::new(n, 0)` with the precision
    of the digit count, `convert_int` rounds it): fits, canonical -/
theorem convertInt_fits (B : Nat) (hB : 2 ≤ B) (m : Mode) (c : Coarse) (p : Nat) (hp : 1 ≤ p) (n : Int) :
    FitsP1 B p (reprRound B m c p (Float.FRepr.new B n 0)).1 ∧
    FCanon B (ofFloatRepr (reprRound B m c p (Float.FRepr.new B n 0)).1) :=
  ⟨Nat.le_succ_of_le (reprRound_digits_le B hB m c p hp _), reprRound_keeps (P := fun r => FCanon B (ofFloatRepr r)) (new_fcanon B hB) m c p (new_fcanon B hB _ _)⟩

/-- `FBig::from_parts(s, e)` / `From<IBig>`: precision `max(digits(s), 1)`, representation `Repr::new(s, e)`:
    at most `precision` digits (trailing zero digits are stripped, never added), canonical -/
theorem fromParts_fits (B : Nat) (hB : 2 ≤ B) (s e : Int) :
    (Float.FRepr.new B s e).digits B ≤ max (digitsI B s) 1 ∧ FCanon B (ofFloatRepr (Float.FRepr.new B s e)) := by
  refine ⟨?_, new_fcanon B hB s e⟩
  apply new_digits_le_digits B hB s e _ (by omega)
  have h := digitsI_abs_lt B hB s
  have : ((B ^ digitsI B s : Nat) : Int) ≤ ((B ^ max (digitsI B s) 1 : Nat) : Int) := by
    exact_mod_cast Nat.pow_le_pow_right (by omega) (by omega)
  omega

/-- **the parser** (`Repr::from_str_native` + `FBig::from_str`): integral part `int` written with `di` digit
    characters, fractional part `fr` with `df` of them (so `int < B^di`, `fr < B^df`), significand
    `int` (fraction zero) or `int·B^df + fr`, any sign, any scale; the precision is `ndigits = di + df ≥ 1`.
    The parsed value has at most `ndigits` digits and is canonical. -/
theorem parse_fits (B : Nat) (hB : 2 ≤ B) (int fr di df : Nat) (neg : Bool) (e : Int)
    (hi : int < B ^ di) (hf : fr < B ^ df) (hn : 1 ≤ di + df) :
    let s : Int := (if neg then -1 else 1) * ((if fr = 0 then int else int * B ^ df + fr : Nat) : Int)
    (Float.FRepr.new B s e).digits B ≤ di + df ∧ FCanon B (ofFloatRepr (Float.FRepr.new B s e)) := by
  intro s
  refine ⟨?_, new_fcanon B hB s e⟩
  apply new_digits_le_digits B hB s e _ hn
  have hB0 : 0 < B := by omega
  have hlt : (if fr = 0 then int else int * B ^ df + fr) < B ^ (di + df) := by
    have h1 : int * B ^ df + fr < B ^ (di + df) := by
      rw [Nat.pow_add]
      have : (int + 1) * B ^ df ≤ B ^ di * B ^ df := Nat.mul_le_mul_right _ hi
      rw [Nat.add_mul, Nat.one_mul] at this
      omega
    split
    · have : int * B ^ df ≤ int * B ^ df + fr := Nat.le_add_right _ _
      have hp1 : 1 ≤ B ^ df := Nat.one_le_two_pow.trans (Nat.pow_le_pow_left hB df)
      have : int ≤ int * B ^ df := Nat.le_mul_of_pos_right _ hp1
      omega
    · exact h1
  have habs : |s| = (((if fr = 0 then int else int * B ^ df + fr) : Nat) : Int) := by
    show |(if neg then -1 else 1) * _| = _
    cases neg
    · simp only [Bool.false_eq_true, if_false, Int.one_mul]; exact abs_of_nonneg (Int.natCast_nonneg _)
    · simp only [if_true, Int.neg_mul, Int.one_mul, abs_neg]; exact abs_of_nonneg (Int.natCast_nonneg _)
  rw [habs]
  exact_mod_cast hlt

end Dashu.Model
