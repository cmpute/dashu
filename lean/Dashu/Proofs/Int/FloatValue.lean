import Dashu.Proofs.Int.Cmp
import Dashu.Proofs.Gen.Basic
import Mathlib.Algebra.Order.Field.Power
import Mathlib.Tactic.Ring
import Mathlib.Order.WithBot
/-
  C05, floats: the specification order `specFCmp` (compare the significands after aligning the exponents) IS the order of
  the rational values `signif · B^exp` — so "cmp is the total order of the values" is literally what `float_cmp` says, and
  transitivity / antisymmetry / totality come from ℚ.
-/
namespace Dashu.Model
open Dashu.Proofs.Gen

/-- the mathematical value of a finite float: `signif · B^exp` in ℚ -/
def FRepr.val (B : Nat) (r : FRepr) : ℚ := (r.signif : ℚ) * (B : ℚ) ^ r.exp

theorem zpow_split (B : Nat) (hB : 2 ≤ B) (e m : Int) (h : m ≤ e) :
    (B : ℚ) ^ e = (B : ℚ) ^ m * (((B : Int) ^ (e - m).toNat : Int) : ℚ) := by
  have hB0 : (B : ℚ) ≠ 0 := Nat.cast_ne_zero.mpr (by omega)
  have he : e = m + ((e - m).toNat : Int) := by omega
  conv_lhs => rw [he]
  rw [zpow_add₀ hB0, zpow_natCast]
  push_cast
  rfl

/-- **`specFCmp` on finite operands is the order of the values in ℚ** -/
theorem specFCmp_value (B : Nat) (hB : 2 ≤ B) (a b : FRepr) (ha : a.isInfinite = false) (hb : b.isInfinite = false) :
    (specFCmp B a b = .lt ↔ a.val B < b.val B) ∧ (specFCmp B a b = .eq ↔ a.val B = b.val B) ∧
    (specFCmp B a b = .gt ↔ b.val B < a.val B) := by
  unfold specFCmp
  simp only [ha, hb, Bool.false_and, Bool.false_eq_true, if_false]
  have hBq : (0 : ℚ) < (B : ℚ) := by exact_mod_cast (by omega : 0 < B)
  have hc : (0 : ℚ) < (B : ℚ) ^ (min a.exp b.exp) := zpow_pos hBq _
  have ea := zpow_split B hB a.exp (min a.exp b.exp) (by omega)
  have eb := zpow_split B hB b.exp (min a.exp b.exp) (by omega)
  have va : a.val B = (B : ℚ) ^ (min a.exp b.exp) * ((a.signif * (B : Int) ^ (a.exp - min a.exp b.exp).toNat : Int) : ℚ) := by
    unfold FRepr.val; rw [ea]; push_cast; ring
  have vb : b.val B = (B : ℚ) ^ (min a.exp b.exp) * ((b.signif * (B : Int) ^ (b.exp - min a.exp b.exp).toNat : Int) : ℚ) := by
    unfold FRepr.val; rw [eb]; push_cast; ring
  rw [va, vb, Int.compare_eq_lt, Int.compare_eq_eq, Int.compare_eq_gt]
  generalize a.signif * (B : Int) ^ (a.exp - min a.exp b.exp).toNat = x
  generalize b.signif * (B : Int) ^ (b.exp - min a.exp b.exp).toNat = y
  generalize (B : ℚ) ^ (min a.exp b.exp) = c at hc
  refine ⟨⟨fun h => mul_lt_mul_of_pos_left (by exact_mod_cast h) hc, fun h => ?_⟩,
          ⟨fun h => by rw [h], fun h => ?_⟩,
          ⟨fun h => mul_lt_mul_of_pos_left (by exact_mod_cast h) hc, fun h => ?_⟩⟩
  · exact_mod_cast lt_of_mul_lt_mul_left h hc.le
  · exact_mod_cast mul_left_cancel₀ hc.ne' h
  · exact_mod_cast lt_of_mul_lt_mul_left h hc.le

-- ------------------------------------------------------------------ one order for finite values and infinities

/-- the extended value of a float: `-inf = ⊥`, `+inf = ⊤`, finite values in ℚ between them -/
noncomputable def FRepr.xval (B : Nat) (r : FRepr) : WithBot (WithTop ℚ) :=
  if r.isInfinite then (if 0 < r.exp then ((⊤ : WithTop ℚ) : WithBot (WithTop ℚ)) else ⊥)
  else ((r.val B : WithTop ℚ) : WithBot (WithTop ℚ))

/-- the two infinities as the library builds them (`Repr::infinity()` = `0·B^1`, `neg_infinity()` = `0·B^-1`) -/
def FRepr.InfCanon (r : FRepr) : Prop := r.isInfinite = true → r.exp = 1 ∨ r.exp = -1

theorem coe_coe_lt_top (q : ℚ) : ((q : WithTop ℚ) : WithBot (WithTop ℚ)) < ⊤ := by
  rw [← WithBot.coe_top, WithBot.coe_lt_coe]; exact WithTop.coe_lt_top _

theorem specFCmp_xval (B : Nat) (hB : 2 ≤ B) (a b : FRepr) (ca : a.InfCanon) (cb : b.InfCanon) :
    (specFCmp B a b = .lt ↔ a.xval B < b.xval B) ∧ (specFCmp B a b = .eq ↔ a.xval B = b.xval B) ∧
    (specFCmp B a b = .gt ↔ b.xval B < a.xval B) := by
  by_cases ha : a.isInfinite = true <;> by_cases hb : b.isInfinite = true
  · rcases ca ha with ea | ea <;> rcases cb hb with eb | eb <;>
      simp [specFCmp, FRepr.xval, ha, hb, ea, eb, Int.compare_eq_ite_lt]
  · have hb' : b.isInfinite = false := by simpa using hb
    rcases ca ha with ea | ea <;> simp [specFCmp, FRepr.xval, ha, hb', ea, coe_coe_lt_top]
  · have ha' : a.isInfinite = false := by simpa using ha
    rcases cb hb with eb | eb <;> simp [specFCmp, FRepr.xval, ha', hb, eb, coe_coe_lt_top]
  · have ha' : a.isInfinite = false := by simpa using ha
    have hb' : b.isInfinite = false := by simpa using hb
    obtain ⟨v1, v2, v3⟩ := specFCmp_value B hB a b ha' hb'
    simp only [FRepr.xval, ha', hb', Bool.false_eq_true, if_false, WithBot.coe_lt_coe, WithTop.coe_lt_coe, WithBot.coe_inj,
      WithTop.coe_inj]
    exact ⟨v1, v2, v3⟩

end Dashu.Model
