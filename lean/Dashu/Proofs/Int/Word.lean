import Dashu.Model.Int.Word
import Mathlib.Tactic.Ring
import Mathlib.Tactic.Linarith
/-
  The word layer (`integer/src/add.rs`) against arithmetic on `Nat`, for every word size `W` and
  every length.  All carry and borrow loops go through one step lemma (`carry_step`).  The two
  notions the rest of `Proofs/Int` reasons with are defined here: `Upd` (an in-place step writes a
  window and hands a signed carry on) and `Holds W n l T` (a buffer of `n` words holding `T`).
-/
namespace Dashu.Model

theorem two_pow_pos' (W : Nat) : 0 < 2 ^ W := Nat.two_pow_pos W

@[simp] theorem val_nil (W : Nat) : val W [] = 0 := rfl
@[simp] theorem val_cons (W w : Nat) (ws : List Nat) : val W (w :: ws) = w + 2 ^ W * val W ws := rfl

theorem IsWords.nil (W : Nat) : IsWords W [] := by intro w h; cases h

theorem IsWords.cons {W w : Nat} {ws : List Nat} (h : w < 2 ^ W) (hs : IsWords W ws) :
    IsWords W (w :: ws) := by
  intro x hx
  cases hx with
  | head => exact h
  | tail _ h' => exact hs x h'

theorem IsWords.head {W w : Nat} {ws : List Nat} (h : IsWords W (w :: ws)) : w < 2 ^ W :=
  h w (List.mem_cons_self ..)

theorem IsWords.tail {W w : Nat} {ws : List Nat} (h : IsWords W (w :: ws)) : IsWords W ws :=
  fun x hx => h x (List.mem_cons_of_mem _ hx)

theorem IsWords.append {W : Nat} {a b : List Nat} (ha : IsWords W a) (hb : IsWords W b) :
    IsWords W (a ++ b) := by
  intro x hx
  rcases List.mem_append.mp hx with h | h
  · exact ha x h
  · exact hb x h

theorem IsWords.take {W : Nat} {a : List Nat} (ha : IsWords W a) (n : Nat) : IsWords W (a.take n) :=
  fun x hx => ha x (List.mem_of_mem_take hx)

theorem IsWords.drop {W : Nat} {a : List Nat} (ha : IsWords W a) (n : Nat) : IsWords W (a.drop n) :=
  fun x hx => ha x (List.mem_of_mem_drop hx)

theorem val_append (W : Nat) (a b : List Nat) :
    val W (a ++ b) = val W a + 2 ^ (W * a.length) * val W b := by
  induction a with
  | nil => simp
  | cons x xs ih =>
    simp only [List.cons_append, val_cons, ih, List.length_cons, Nat.mul_add, Nat.mul_one,
      Nat.pow_add]
    ring

theorem val_lt (W : Nat) (a : List Nat) (h : IsWords W a) : val W a < 2 ^ (W * a.length) := by
  induction a with
  | nil => simp
  | cons x xs ih =>
    have hx := h.head
    have := ih h.tail
    simp only [val_cons, List.length_cons, Nat.mul_add, Nat.mul_one, Nat.pow_add]
    have hp : 0 < 2 ^ W := Nat.two_pow_pos W
    calc x + 2 ^ W * val W xs < 2 ^ W + 2 ^ W * val W xs := by omega
      _ = 2 ^ W * (val W xs + 1) := by rw [Nat.mul_add]; omega
      _ ≤ 2 ^ W * 2 ^ (W * xs.length) := Nat.mul_le_mul_left _ this
      _ = 2 ^ (W * xs.length) * 2 ^ W := Nat.mul_comm ..

theorem val_take_add_drop (W : Nat) (a : List Nat) (n : Nat) :
    val W a = val W (a.take n) + 2 ^ (W * (a.take n).length) * val W (a.drop n) := by
  conv => lhs; rw [← List.take_append_drop n a]
  exact val_append W _ _

/-- One position of a carry chain in base `B`, the only arithmetic in the loop specifications
    below: the position leaves digit `d` and passes `q` on (`hd`); the higher positions, of
    weight `P`, absorb `q` and end with carry `k` (`ih`).  A borrow chain is the same equation
    read from right to left. -/
theorem carry_step {B P d q s R X k : Nat} (hd : d + B * q = s) (ih : R + P * k = X + q) :
    d + B * R + B * P * k = s + B * X := by
  rw [← hd, Nat.mul_assoc, Nat.add_assoc, ← Nat.mul_add, ih, Nat.mul_add]
  omega

theorem carry_le_one {s B : Nat} (h : s < 2 * B) : s / B ≤ 1 :=
  Nat.le_of_lt_succ (Nat.div_lt_of_lt_mul (Nat.mul_comm 2 B ▸ h))

theorem two_digits_lt_sq {B z0 z1 : Nat} (h0 : z0 < B) (h1 : z1 < B) : z0 + B * z1 < B * B :=
  calc z0 + B * z1 < B + B * z1 := Nat.add_lt_add_right h0 _
    _ = B * (z1 + 1) := by rw [Nat.mul_add, Nat.mul_one, Nat.add_comm]
    _ ≤ B * B := Nat.mul_le_mul_left B h1

/-- "This operation will not overflow" (`mul_add_carry`, `mul_add_2carry` of primitive.rs): for word operands
    `extend_word(a) * extend_word(b) + carries` fits a double word, so each high part is a word -/
theorem mul_add_add_lt_sq {B a b c d : Nat} (ha : a < B) (hb : b < B) (hc : c < B) (hd : d < B) :
    a * b + c + d < B * B := by
  obtain ⟨B', rfl⟩ : ∃ B', B = B' + 1 := ⟨B - 1, by omega⟩
  have h := Nat.mul_le_mul (show a ≤ B' by omega) (show b ≤ B' by omega)
  have e : (B' + 1) * (B' + 1) = B' * B' + 2 * B' + 1 := by ring
  omega

theorem mul_add_lt_sq {B a b c : Nat} (ha : a < B) (hb : b < B) (hc : c < B) :
    a * b + c < B * B := by
  have := mul_add_add_lt_sq ha hb hc (show 0 < B by omega)
  omega

theorem pow_mul_succ (W n : Nat) : 2 ^ (W * (n + 1)) = 2 ^ W * 2 ^ (W * n) := by
  rw [Nat.mul_add, Nat.mul_one, Nat.pow_add, Nat.mul_comm]

-- ------------------------------------------------------------------ add_word / add_one

theorem addOne_cons (W w : Nat) (ws : List Nat) : addOne W (w :: ws) = addWord W (w :: ws) 1 := rfl

/-- `add_word_in_place` on `w :: ws`, given what `add_one_in_place` does on `ws`; with `x = 1` it
    is also the step of `add_one_in_place` itself -/
theorem addWord_cons_spec {W w x : Nat} {ws : List Nat} (hw : w < 2 ^ W) (hx : x ≤ 2 ^ W)
    (h : IsWords W ws)
    (ho : val W (addOne W ws).1 + 2 ^ (W * ws.length) * (addOne W ws).2 = val W ws + 1 ∧
      (addOne W ws).1.length = ws.length ∧ IsWords W (addOne W ws).1 ∧ (addOne W ws).2 ≤ 1) :
    let o := addWord W (w :: ws) x
    val W o.1 + 2 ^ (W * (w :: ws).length) * o.2 = val W (w :: ws) + x ∧
    o.1.length = (w :: ws).length ∧ IsWords W o.1 ∧ o.2 ≤ 1 := by
  obtain ⟨o1, o2, o3, o4⟩ := ho
  have hp : 0 < 2 ^ W := Nat.two_pow_pos W
  simp only [addWord]
  by_cases hc : (w + x) / 2 ^ W = 0
  · rw [if_pos hc, Nat.mul_zero]
    exact ⟨Nat.add_right_comm w x _, rfl, .cons ((Nat.div_eq_zero_iff_lt hp).mp hc) h,
      Nat.zero_le 1⟩
  · rw [if_neg hc]
    have hq : (w + x) / 2 ^ W = 1 :=
      Nat.le_antisymm (carry_le_one (by omega)) (Nat.pos_of_ne_zero hc)
    refine ⟨?_, congrArg Nat.succ o2, .cons (Nat.mod_lt _ hp) o3, o4⟩
    rw [← hq] at o1
    rw [List.length_cons, pow_mul_succ]
    exact (carry_step (Nat.mod_add_div (w + x) (2 ^ W)) o1).trans (Nat.add_right_comm w x _)

theorem addOne_spec (W : Nat) (ws : List Nat) (h : IsWords W ws) :
    let r := addOne W ws
    val W r.1 + 2 ^ (W * ws.length) * r.2 = val W ws + 1 ∧
    r.1.length = ws.length ∧ IsWords W r.1 ∧ r.2 ≤ 1 := by
  induction ws with
  | nil => exact ⟨by simp [addOne], rfl, h, Nat.le_refl 1⟩
  | cons w ws ih =>
    rw [addOne_cons]
    exact addWord_cons_spec h.head Nat.one_le_two_pow h.tail (ih h.tail)

theorem addWord_spec (W : Nat) (ws : List Nat) (r : Nat) (h : IsWords W ws) (hr : r < 2 ^ W)
    (hne : ws ≠ []) :
    let o := addWord W ws r
    val W o.1 + 2 ^ (W * ws.length) * o.2 = val W ws + r ∧
    o.1.length = ws.length ∧ IsWords W o.1 ∧ o.2 ≤ 1 := by
  cases ws with
  | nil => exact absurd rfl hne
  | cons w ws => exact addWord_cons_spec h.head (Nat.le_of_lt hr) h.tail (addOne_spec W ws h.tail)

-- ------------------------------------------------------------------ sub_word / sub_one

theorem subOne_cons (W w : Nat) (ws : List Nat) : subOne W (w :: ws) = subWord W (w :: ws) 1 := by
  cases w <;> simp [subOne, subWord]

theorem subWord_cons_spec {W w x : Nat} {ws : List Nat} (hw : w < 2 ^ W) (hx : x ≤ 2 ^ W)
    (h : IsWords W ws)
    (ho : val W (subOne W ws).1 + 1 = val W ws + 2 ^ (W * ws.length) * (subOne W ws).2 ∧
      (subOne W ws).1.length = ws.length ∧ IsWords W (subOne W ws).1 ∧ (subOne W ws).2 ≤ 1) :
    let o := subWord W (w :: ws) x
    val W o.1 + x = val W (w :: ws) + 2 ^ (W * (w :: ws).length) * o.2 ∧
    o.1.length = (w :: ws).length ∧ IsWords W o.1 ∧ o.2 ≤ 1 := by
  obtain ⟨o1, o2, o3, o4⟩ := ho
  simp only [subWord]
  by_cases hc : x ≤ w
  · rw [if_pos hc, Nat.mul_zero]
    refine ⟨?_, rfl, .cons (Nat.lt_of_le_of_lt (Nat.sub_le w x) hw) h, Nat.zero_le 1⟩
    simp only [val_cons]
    omega
  · rw [if_neg hc]
    refine ⟨?_, congrArg Nat.succ o2, .cons (by omega) o3, o4⟩
    have hd : w + 2 ^ W * 1 = w + 2 ^ W - x + x := by omega
    have := carry_step hd o1.symm
    rw [List.length_cons, pow_mul_succ]
    simp only [val_cons]
    omega

theorem subOne_spec (W : Nat) (ws : List Nat) (h : IsWords W ws) :
    let r := subOne W ws
    val W r.1 + 1 = val W ws + 2 ^ (W * ws.length) * r.2 ∧
    r.1.length = ws.length ∧ IsWords W r.1 ∧ r.2 ≤ 1 := by
  induction ws with
  | nil => exact ⟨by simp [subOne], rfl, h, Nat.le_refl 1⟩
  | cons w ws ih =>
    rw [subOne_cons]
    exact subWord_cons_spec h.head Nat.one_le_two_pow h.tail (ih h.tail)

theorem subWord_spec (W : Nat) (ws : List Nat) (r : Nat) (h : IsWords W ws) (hr : r < 2 ^ W)
    (hne : ws ≠ []) :
    let o := subWord W ws r
    val W o.1 + r = val W ws + 2 ^ (W * ws.length) * o.2 ∧
    o.1.length = ws.length ∧ IsWords W o.1 ∧ o.2 ≤ 1 := by
  cases ws with
  | nil => exact absurd rfl hne
  | cons w ws => exact subWord_cons_spec h.head (Nat.le_of_lt hr) h.tail (subOne_spec W ws h.tail)

-- ------------------------------------------------------------------ add_same_len / sub_same_len

theorem addSameLen_spec (W : Nat) (as bs : List Nat) (c : Nat)
    (ha : IsWords W as) (hb : IsWords W bs) (hl : as.length = bs.length) (hc : c ≤ 1) :
    let r := addSameLen W as bs c
    val W r.1 + 2 ^ (W * as.length) * r.2 = val W as + val W bs + c ∧
    r.1.length = as.length ∧ IsWords W r.1 ∧ r.2 ≤ 1 := by
  induction as generalizing bs c with
  | nil =>
    cases bs with
    | nil => exact ⟨by simp [addSameLen], rfl, ha, hc⟩
    | cons b bs => cases hl
  | cons a as ih =>
    cases bs with
    | nil => cases hl
    | cons b bs =>
      have ha0 := ha.head
      have hb0 := hb.head
      have ⟨i1, i2, i3, i4⟩ := ih bs ((a + b + c) / 2 ^ W) ha.tail hb.tail (Nat.succ.inj hl)
        (carry_le_one (by omega))
      refine ⟨?_, congrArg Nat.succ i2, .cons (Nat.mod_lt _ (Nat.two_pow_pos W)) i3, i4⟩
      have := carry_step (Nat.mod_add_div (a + b + c) (2 ^ W)) i1
      rw [Nat.mul_add] at this
      simp only [addSameLen, val_cons, List.length_cons, pow_mul_succ]
      omega

/-- digit and borrow of one position of `sub_same_len_in_place`, in the shape `carry_step` takes -/
theorem borrow_digit {B a b c : Nat} (ha : a < B) (hb : b < B) (hc : c ≤ 1) :
    a + B * (1 - (a + B - b - c) / B) = (a + B - b - c) % B + b + c := by
  have hdm := Nat.mod_add_div (a + B - b - c) B
  have hq : (a + B - b - c) / B ≤ 1 := carry_le_one (by omega)
  generalize (a + B - b - c) / B = q at hdm hq ⊢
  rcases Nat.le_one_iff_eq_zero_or_eq_one.mp hq with h | h <;> subst h <;> omega

theorem subSameLen_spec (W : Nat) (as bs : List Nat) (c : Nat)
    (ha : IsWords W as) (hb : IsWords W bs) (hl : as.length = bs.length) (hc : c ≤ 1) :
    let r := subSameLen W as bs c
    val W r.1 + val W bs + c = val W as + 2 ^ (W * as.length) * r.2 ∧
    r.1.length = as.length ∧ IsWords W r.1 ∧ r.2 ≤ 1 := by
  induction as generalizing bs c with
  | nil =>
    cases bs with
    | nil => exact ⟨by simp [subSameLen], rfl, ha, hc⟩
    | cons b bs => cases hl
  | cons a as ih =>
    cases bs with
    | nil => cases hl
    | cons b bs =>
      have ⟨i1, i2, i3, i4⟩ := ih bs (1 - (a + 2 ^ W - b - c) / 2 ^ W) ha.tail hb.tail
        (Nat.succ.inj hl) (Nat.sub_le 1 _)
      refine ⟨?_, congrArg Nat.succ i2, .cons (Nat.mod_lt _ (Nat.two_pow_pos W)) i3, i4⟩
      have := carry_step (borrow_digit ha.head hb.head hc) i1.symm
      rw [Nat.mul_add] at this
      simp only [subSameLen, val_cons, List.length_cons, pow_mul_succ]
      omega

/-- `sub_same_len_in_place_swap` computes the same digits as `sub_same_len_in_place` -/
theorem subSameLenSwap_eq (W : Nat) (as bs : List Nat) (c : Nat) (hl : as.length = bs.length) :
    subSameLenSwap W as bs c = subSameLen W as bs c := by
  induction as generalizing bs c with
  | nil =>
    cases bs with
    | nil => simp [subSameLenSwap, subSameLen]
    | cons b bs => simp at hl
  | cons a as ih =>
    cases bs with
    | nil => simp at hl
    | cons b bs =>
      simp only [subSameLenSwap, subSameLen]
      rw [ih bs _ (by simpa using hl)]

theorem two_pow_two_mul (W : Nat) : 2 ^ (2 * W) = 2 ^ W * 2 ^ W := by
  rw [← Nat.pow_add]; congr 1; omega

theorem pow_mul_split (W : Nat) {n m : Nat} (h : n ≤ m) :
    2 ^ (W * m) = 2 ^ (W * n) * 2 ^ (W * (m - n)) := by
  rw [← Nat.pow_add, ← Nat.mul_add]; congr 2; omega

theorem length_take_of_le {l : List Nat} {n : Nat} (h : n ≤ l.length) : (l.take n).length = n := by
  simp [List.length_take, Nat.min_eq_left h]

theorem val_take_lt (W : Nat) {l : List Nat} (h : IsWords W l) {k : Nat} (hk : k ≤ l.length) :
    val W (l.take k) < 2 ^ (W * k) := by
  have := val_lt W _ (h.take k)
  rwa [length_take_of_le hk] at this

-- ------------------------------------------------------------------ add_in_place / sub_in_place

/-- `carry_step` for a chain cut in two: the low parts exchange carry `c` with the high parts -/
theorem val_append_carry {W c k x m n : Nat} {a₁ a₂ b₁ b₂ : List Nat}
    (ha : a₁.length = m) (hb : b₁.length = m)
    (hlo : val W a₁ + 2 ^ (W * m) * c = val W b₁ + x)
    (hhi : val W a₂ + 2 ^ (W * n) * k = val W b₂ + c) :
    val W (a₁ ++ a₂) + 2 ^ (W * (m + n)) * k = val W (b₁ ++ b₂) + x := by
  rw [val_append, val_append, ha, hb, Nat.mul_add, Nat.pow_add]
  exact (carry_step hlo hhi).trans (Nat.add_right_comm ..)

theorem length_eq_add_drop {l : List Nat} {n : Nat} (h : n ≤ l.length) :
    l.length = n + (l.drop n).length := by
  rw [List.length_drop]; omega

theorem addInPlace_spec (W : Nat) (lhs rhs : List Nat)
    (hl : IsWords W lhs) (hr : IsWords W rhs) (hlen : rhs.length ≤ lhs.length) :
    let r := addInPlace W lhs rhs
    val W r.1 + 2 ^ (W * lhs.length) * r.2 = val W lhs + val W rhs ∧
    r.1.length = lhs.length ∧ IsWords W r.1 ∧ r.2 ≤ 1 := by
  have htl := length_take_of_le hlen
  obtain ⟨s1, s2, s3, s4⟩ := addSameLen_spec W (lhs.take rhs.length) rhs 0 (hl.take _) hr htl
    (Nat.zero_le 1)
  obtain ⟨o1, o2, o3, o4⟩ := addOne_spec W (lhs.drop rhs.length) (hl.drop _)
  have hn := length_eq_add_drop hlen
  rw [Nat.add_zero, htl] at s1
  rw [htl] at s2
  simp only [addInPlace]
  by_cases hc : (addSameLen W (lhs.take rhs.length) rhs 0).2 = 0
  · rw [if_pos hc]
    rw [hc] at s1
    refine ⟨?_, by rw [List.length_append, s2, ← hn], s3.append (hl.drop _), Nat.zero_le 1⟩
    have := val_append_carry (a₂ := lhs.drop rhs.length) (n := (lhs.drop rhs.length).length)
      (k := 0) s2 htl s1 rfl
    rwa [List.take_append_drop, ← hn] at this
  · rw [if_neg hc]
    rw [Nat.le_antisymm s4 (Nat.pos_of_ne_zero hc)] at s1
    refine ⟨?_, by rw [List.length_append, s2, o2, ← hn], s3.append o3, o4⟩
    have := val_append_carry s2 htl s1 o1
    rwa [List.take_append_drop, ← hn] at this

theorem subInPlace_spec (W : Nat) (lhs rhs : List Nat)
    (hl : IsWords W lhs) (hr : IsWords W rhs) (hlen : rhs.length ≤ lhs.length) :
    let r := subInPlace W lhs rhs
    val W r.1 + val W rhs = val W lhs + 2 ^ (W * lhs.length) * r.2 ∧
    r.1.length = lhs.length ∧ IsWords W r.1 ∧ r.2 ≤ 1 := by
  have htl := length_take_of_le hlen
  obtain ⟨s1, s2, s3, s4⟩ := subSameLen_spec W (lhs.take rhs.length) rhs 0 (hl.take _) hr htl
    (Nat.zero_le 1)
  obtain ⟨o1, o2, o3, o4⟩ := subOne_spec W (lhs.drop rhs.length) (hl.drop _)
  have hn := length_eq_add_drop hlen
  rw [Nat.add_zero, htl] at s1
  rw [htl] at s2
  simp only [subInPlace]
  by_cases hc : (subSameLen W (lhs.take rhs.length) rhs 0).2 = 0
  · rw [if_pos hc]
    rw [hc] at s1
    refine ⟨?_, by rw [List.length_append, s2, ← hn], s3.append (hl.drop _), Nat.zero_le 1⟩
    have := val_append_carry (a₂ := lhs.drop rhs.length) (n := (lhs.drop rhs.length).length)
      (k := 0) htl s2 s1.symm rfl
    rw [List.take_append_drop, ← hn] at this
    exact this.symm
  · rw [if_neg hc]
    rw [Nat.le_antisymm s4 (Nat.pos_of_ne_zero hc)] at s1
    refine ⟨?_, by rw [List.length_append, s2, o2, ← hn], s3.append o3, o4⟩
    have := val_append_carry htl s2 s1.symm o1.symm
    rw [List.take_append_drop, ← hn] at this
    exact this.symm

/-- no final borrow ⇔ rhs ≤ lhs (because the digits are `< B^n`) -/
theorem subInPlace_borrow_iff (W : Nat) (lhs rhs : List Nat)
    (hl : IsWords W lhs) (hr : IsWords W rhs) (hlen : rhs.length ≤ lhs.length) :
    ((subInPlace W lhs rhs).2 = 0 ↔ val W rhs ≤ val W lhs) := by
  have ⟨h1, h2, h3, h4⟩ := subInPlace_spec W lhs rhs hl hr hlen
  have hlt := val_lt W _ h3
  rw [h2] at hlt
  generalize (subInPlace W lhs rhs).2 = c at *
  constructor
  · intro h; subst h; simp only [Nat.mul_zero, Nat.add_zero] at h1; omega
  · intro h
    rcases Nat.eq_zero_or_pos c with h0 | h0
    · exact h0
    · have : c = 1 := by omega
      subst this
      simp only [Nat.mul_one] at h1
      omega

-- ------------------------------------------------------------------ signed updates of a slice; buffers holding a number

theorem val_replicate_zero (W n : Nat) : val W (List.replicate n 0) = 0 := by
  induction n with
  | zero => rfl
  | succ n ih => simp [List.replicate_succ, ih]

theorem isWords_replicate_zero (W n : Nat) : IsWords W (List.replicate n 0) := by
  intro x hx; rw [List.eq_of_mem_replicate hx]; exact Nat.two_pow_pos W

/-- the sign factor of a `Sign` modelled as "is negative" -/
def sgn (neg : Bool) : Int := if neg then -1 else 1

/-- contract of an in-place update of a fixed-length slice: "c += δ, returns the signed carry k" -/
def Upd (W : Nat) (c c' : List Nat) (k δ : Int) : Prop :=
  c'.length = c.length ∧ IsWords W c' ∧
  (val W c' : Int) + (2 : Int) ^ (W * c.length) * k = (val W c : Int) + δ

theorem val_lt_int (W : Nat) (c : List Nat) (h : IsWords W c) :
    (val W c : Int) < (2 : Int) ^ (W * c.length) := by
  have := val_lt W c h
  exact_mod_cast this

/-- an addition with carry-out `k`, read as a window update -/
theorem Upd.of_add {W : Nat} {c c' : List Nat} {k x : Nat} (hl : c'.length = c.length)
    (hw : IsWords W c') (h : val W c' + 2 ^ (W * c.length) * k = val W c + x) :
    Upd W c c' k (sgn false * x) :=
  ⟨hl, hw, by rw [sgn, if_neg Bool.false_ne_true, one_mul]; exact_mod_cast h⟩

/-- a subtraction with borrow-out `k`, read as a window update with carry `−k` -/
theorem Upd.of_sub {W : Nat} {c c' : List Nat} {k x : Nat} (hl : c'.length = c.length)
    (hw : IsWords W c') (h : val W c' + x = val W c + 2 ^ (W * c.length) * k) :
    Upd W c c' (-(k : Int)) (sgn true * x) := by
  refine ⟨hl, hw, ?_⟩
  have := congrArg (Nat.cast : Nat → Int) h
  push_cast at this
  rw [sgn, if_pos rfl]
  linarith

/-- `l` is a buffer of `n` words that holds the number `T` -/
def Holds (W n : Nat) (l : List Nat) (T : Nat) : Prop := l.length = n ∧ IsWords W l ∧ val W l = T

theorem Holds.lt {W n T : Nat} {l : List Nat} (h : Holds W n l T) : T < 2 ^ (W * n) := by
  obtain ⟨rfl, w, rfl⟩ := h
  exact val_lt W l w

theorem Holds.zeros (W n : Nat) : Holds W n (List.replicate n 0) 0 :=
  ⟨List.length_replicate, isWords_replicate_zero W n, val_replicate_zero W n⟩

/-- the digits of an addition with its carry word appended: one word longer, and the exact sum -/
theorem Holds.snoc {W n T k : Nat} {r : List Nat} (hl : r.length = n) (hw : IsWords W r)
    (hk : k < 2 ^ W) (h : val W r + 2 ^ (W * n) * k = T) : Holds W (n + 1) (r ++ [k]) T :=
  ⟨by rw [List.length_append, hl]; rfl, hw.append (.cons hk (.nil W)),
    by rw [val_append, hl, val_cons, val_nil, Nat.mul_zero, Nat.add_zero]; exact h⟩

/-- an update of a buffer holding `T₀` whose exact result `T` is a natural number that fits the
    buffer leaves `T` there: the carry out is zero (the `debug_assert_zero!`s and
    `debug_assert!(!overflow)`s of the source).  Digits and result are both in `[0, B^n)`, so a
    non-zero multiple of `B^n` cannot stand between them. -/
theorem Holds.upd {W n T₀ T : Nat} {t r : List Nat} {k δ : Int} (ht : Holds W n t T₀)
    (h : Upd W t r k δ) (hT : (T₀ : Int) + δ = T) (hlt : T < 2 ^ (W * n)) : Holds W n r T ∧ k = 0 := by
  obtain ⟨rfl, _, rfl⟩ := ht
  obtain ⟨l1, l2, l3⟩ := h
  have b2 := val_lt_int W r l2
  have n2 : (0 : Int) ≤ val W r := Int.natCast_nonneg _
  have hT0 : (0 : Int) ≤ T := Int.natCast_nonneg _
  have hlt' : (T : Int) < (2 : Int) ^ (W * t.length) := by exact_mod_cast hlt
  rw [l1] at b2
  rw [hT] at l3
  generalize (2 : Int) ^ (W * t.length) = P at l3 b2 hlt'
  have hP : 0 ≤ P := by linarith
  have hk : k = 0 := by
    by_contra hne
    rcases lt_or_gt_of_ne hne with hlt | hgt
    · have := mul_le_mul_of_nonneg_left (show k ≤ -1 by omega) hP
      linarith
    · have := mul_le_mul_of_nonneg_left (show 1 ≤ k by omega) hP
      linarith
  subst hk
  exact ⟨⟨l1, l2, by exact_mod_cast (show (val W r : Int) = T by linarith)⟩, rfl⟩

/-- an addition (carry equation `h`) whose exact result fits: no carry -/
theorem Holds.add {W n T₀ x k : Nat} {t r : List Nat} (ht : Holds W n t T₀)
    (hl : r.length = t.length) (hw : IsWords W r)
    (h : val W r + 2 ^ (W * t.length) * k = val W t + x) (hlt : T₀ + x < 2 ^ (W * n)) :
    Holds W n r (T₀ + x) ∧ k = 0 := by
  obtain ⟨u, hk⟩ := ht.upd (Upd.of_add hl hw h) (by rw [sgn, if_neg Bool.false_ne_true]; push_cast; ring) hlt
  exact ⟨u, by exact_mod_cast hk⟩

/-- a subtraction (borrow equation `h`) of at most what the buffer holds: no borrow -/
theorem Holds.sub {W n T₀ x k : Nat} {t r : List Nat} (ht : Holds W n t T₀)
    (hl : r.length = t.length) (hw : IsWords W r)
    (h : val W r + x = val W t + 2 ^ (W * t.length) * k) (hx : x ≤ T₀) :
    Holds W n r (T₀ - x) ∧ k = 0 := by
  obtain ⟨u, hk⟩ := ht.upd (Upd.of_sub hl hw h) (T := T₀ - x)
    (by rw [sgn, if_pos rfl]; omega) (Nat.lt_of_le_of_lt (Nat.sub_le _ _) ht.lt)
  exact ⟨u, by omega⟩

theorem subInPlace_holds {W n m T₀ X : Nat} {t x : List Nat} (ht : Holds W n t T₀)
    (hx : Holds W m x X) (hm : m ≤ n) (hle : X ≤ T₀) : Holds W n (subInPlace W t x).1 (T₀ - X) := by
  obtain ⟨s1, s2, s3, _⟩ := subInPlace_spec W t x ht.2.1 hx.2.1 (by rw [ht.1, hx.1]; exact hm)
  rw [hx.2.2] at s1
  exact (ht.sub s2 s3 s1 hle).1

end Dashu.Model
