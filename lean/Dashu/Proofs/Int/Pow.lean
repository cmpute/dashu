import Dashu.Model.Int.Pow
import Dashu.Proofs.Int.Ops
import Dashu.Proofs.Gen.MaxExp
import Dashu.Proofs.Gen.BitLen
/-
  Refinement of `integer/src/pow.rs` (as mirrored in `Model/Int/Pow.lean`) to `base ^ exp`.
-/
namespace Dashu.Model

-- ------------------------------------------------------------------ bit_len / trailing_zeros

theorem div_two_pow_log2 (n : Nat) (h : n ≠ 0) : n / 2 ^ Nat.log2 n = 1 := by
  have hle : 2 ^ n.log2 ≤ n := Nat.log2_self_le h
  have hlt : n < 2 ^ (n.log2 + 1) := Nat.lt_log2_self
  have hpk : 0 < 2 ^ n.log2 := Nat.two_pow_pos _
  have hlo : 1 ≤ n / 2 ^ n.log2 := (Nat.one_le_div_iff hpk).mpr hle
  have hhi : n / 2 ^ n.log2 < 2 := by
    rw [Nat.div_lt_iff_lt_mul hpk, Nat.mul_comm, ← Nat.pow_succ]; exact hlt
  omega

theorem bitLen_ge_two (n : Nat) (h : 2 ≤ n) : 2 ≤ bitLen n := Dashu.Proofs.Gen.lt_blen_iff.2 h

/-- the starting bit index of the binary loop: the bit just below the leading one -/
theorem bitLen_start (n : Nat) (h : 2 ≤ n) : n / 2 ^ (bitLen n - 2 + 1) = 1 := by
  have h2 := bitLen_ge_two n h
  have : bitLen n - 2 + 1 = Nat.log2 n := by
    unfold bitLen at h2 ⊢
    rw [if_neg (by omega)] at h2 ⊢
    omega
  rw [this]; exact div_two_pow_log2 n (by omega)

theorem trailingZeros_zero : trailingZeros 0 = 0 := by
  rw [trailingZeros]; simp

theorem trailingZeros_odd (n : Nat) (h : n % 2 = 1) : trailingZeros n = 0 := by
  rw [trailingZeros]
  have : n ≠ 0 := by intro e; subst e; simp at h
  simp [this, h]

theorem trailingZeros_even (n : Nat) (h0 : n ≠ 0) (h : n % 2 = 0) :
    trailingZeros n = 1 + trailingZeros (n / 2) := by
  rw [trailingZeros]
  have : ¬ n % 2 = 1 := by omega
  simp [h0, this]

/-- `2^(trailing_zeros n)` divides `n` exactly -/
theorem trailingZeros_spec (n : Nat) : n / 2 ^ trailingZeros n * 2 ^ trailingZeros n = n := by
  induction n using Nat.strongRecOn with
  | _ n ih =>
    by_cases h0 : n = 0
    · subst h0; simp
    · by_cases hodd : n % 2 = 1
      · rw [trailingZeros_odd n hodd]; simp
      · have hev : n % 2 = 0 := by omega
        rw [trailingZeros_even n h0 hev]
        have hlt : n / 2 < n := Nat.div_lt_self (Nat.pos_of_ne_zero h0) (by decide)
        have hi := ih (n / 2) hlt
        have h2 : n = 2 * (n / 2) := by omega
        rw [Nat.pow_add, Nat.pow_one, ← Nat.div_div_eq_div_mul]
        calc n / 2 / 2 ^ trailingZeros (n / 2) * (2 * 2 ^ trailingZeros (n / 2))
            = 2 * (n / 2 / 2 ^ trailingZeros (n / 2) * 2 ^ trailingZeros (n / 2)) := by ring
          _ = 2 * (n / 2) := by rw [hi]
          _ = n := h2.symm

/-- putting the factor `2^s` back: `(v / 2^s)^e · 2^(e·s) = v^e` -/
theorem pow_odd_part (v e : Nat) :
    (v / 2 ^ trailingZeros v) ^ e * 2 ^ (e * trailingZeros v) = v ^ e := by
  rw [Nat.mul_comm e, Nat.pow_mul, ← Nat.mul_pow, trailingZeros_spec]

theorem trailingZeros_two_pow (k : Nat) : trailingZeros (2 ^ k) = k := by
  induction k with
  | zero => exact trailingZeros_odd 1 (by decide)
  | succ k ih =>
    have hne : 2 ^ (k + 1) ≠ 0 := Nat.pos_iff_ne_zero.mp (Nat.two_pow_pos _)
    have hev : 2 ^ (k + 1) % 2 = 0 := by rw [Nat.pow_succ]; exact Nat.mul_mod_left _ _
    rw [trailingZeros_even _ hne hev]
    have : 2 ^ (k + 1) / 2 = 2 ^ k := by
      rw [Nat.pow_succ]; exact Nat.mul_div_cancel _ (by decide)
    rw [this, ih]; omega

-- ------------------------------------------------------------------ max_exp_in_word

theorem maxExpLoop_spec (W base : Nat) : ∀ (fuel e p : Nat), p = base ^ e → p < 2 ^ W →
    (maxExpLoop W base fuel e p).2 = base ^ (maxExpLoop W base fuel e p).1 ∧
    e ≤ (maxExpLoop W base fuel e p).1 ∧ (maxExpLoop W base fuel e p).2 < 2 ^ W := fun fuel e p hp hlt =>
  have h := Dashu.Proofs.Gen.maxExpLoop_spec (loop := maxExpLoop W base) (fun _ _ => rfl) (fun _ _ _ => rfl) fuel e p hp hlt
  ⟨h.1, h.2.2.1, h.2.1⟩

/-- `max_exp_in_word(base)` returns `(k, base^k)` with `k ≥ 1` and `base^k` a word -/
theorem maxExpInWord_spec (W base : Nat) (hb : 2 < base) (hlt : base < 2 ^ W) :
    (maxExpInWord W base).2 = base ^ (maxExpInWord W base).1 ∧ 1 ≤ (maxExpInWord W base).1 ∧
    (maxExpInWord W base).2 < 2 ^ W :=
  have h := Dashu.Proofs.Gen.maxExpInWord_spec (loop := maxExpLoop W base) (fun _ _ => rfl) (fun _ _ _ => rfl)
    (Nat.le_of_lt hb) hlt
  ⟨h.1, h.2.2.1, h.2.1⟩

-- ------------------------------------------------------------------ the binary loop

theorem powLoop_spec {α : Type} (v : α → Nat) (Inv : α → Prop) (mulBase sqr : α → α) (b : Nat)
    (hm : ∀ r, Inv r → v (mulBase r) = v r * b ∧ Inv (mulBase r))
    (hs : ∀ r, Inv r → v (sqr r) = v r * v r ∧ Inv (sqr r)) (exp : Nat) :
    ∀ (p : Nat) (res : α), Inv res → v res = b ^ (2 * (exp / 2 ^ (p + 1))) →
      v (powLoop mulBase sqr exp p res) = b ^ exp ∧ Inv (powLoop mulBase sqr exp p res) := by
  intro p
  induction p with
  | zero =>
    intro res hi hv
    simp only [powLoop]
    have hdm := Nat.div_add_mod exp 2
    simp only [Nat.zero_add, Nat.pow_one] at hv
    split
    · rename_i hodd
      obtain ⟨m1, m2⟩ := hm res hi
      refine ⟨?_, m2⟩
      rw [m1, hv, ← Nat.pow_succ]; congr 1; omega
    · rename_i hodd
      refine ⟨?_, hi⟩
      rw [hv]; congr 1; omega
  | succ p ih =>
    intro res hi hv
    simp only [powLoop]
    have hdd : exp / 2 ^ (p + 1) / 2 = exp / 2 ^ (p + 1 + 1) := by
      rw [Nat.div_div_eq_div_mul, ← Nat.pow_succ]
    have hdm := Nat.div_add_mod (exp / 2 ^ (p + 1)) 2
    rw [hdd] at hdm
    -- after the conditional multiplication the accumulator is b^(exp >> (p+1))
    have hstep : ∀ r1, Inv r1 → v r1 = b ^ (exp / 2 ^ (p + 1)) →
        v (powLoop mulBase sqr exp p (sqr r1)) = b ^ exp ∧
        Inv (powLoop mulBase sqr exp p (sqr r1)) := by
      intro r1 h1 hv1
      obtain ⟨s1, s2⟩ := hs r1 h1
      apply ih (sqr r1) s2
      rw [s1, hv1, ← Nat.pow_add]; congr 1; omega
    split
    · rename_i hbit
      obtain ⟨m1, m2⟩ := hm res hi
      apply hstep _ m2
      rw [m1, hv, ← Nat.pow_succ]; congr 1; omega
    · rename_i hbit
      apply hstep _ hi
      rw [hv]; congr 1; omega

/-- the loop as started by the three `pow_*_base` functions: accumulator `b²`, bit `bit_len − 2` -/
theorem powLoop_start {α : Type} (v : α → Nat) (Inv : α → Prop) (mulBase sqr : α → α) (b : Nat)
    (hm : ∀ r, Inv r → v (mulBase r) = v r * b ∧ Inv (mulBase r))
    (hs : ∀ r, Inv r → v (sqr r) = v r * v r ∧ Inv (sqr r)) (exp : Nat) (hexp : 2 ≤ exp)
    (init : α) (hi : Inv init) (hv : v init = b * b) :
    v (powLoop mulBase sqr exp (bitLen exp - 2) init) = b ^ exp ∧
    Inv (powLoop mulBase sqr exp (bitLen exp - 2) init) := by
  apply powLoop_spec v Inv mulBase sqr b hm hs exp _ init hi
  rw [bitLen_start exp hexp, hv, Nat.mul_one, Nat.pow_two]

-- ------------------------------------------------------------------ pow_word_base / pow_dword_base

theorem powLoop_nat (b exp : Nat) (hexp : 2 ≤ exp) :
    powLoop (· * b) (fun x => x * x) exp (bitLen exp - 2) (b * b) = b ^ exp :=
  (powLoop_start (fun x => x) (fun _ => True) (· * b) (fun x => x * x) b
    (fun _ _ => ⟨rfl, trivial⟩) (fun _ _ => ⟨rfl, trivial⟩) exp hexp (b * b) trivial rfl).1

theorem powDwordBase_spec (base exp : Nat) (hexp : 2 ≤ exp) : powDwordBase base exp = base ^ exp :=
  powLoop_nat base exp hexp

theorem powWordBase_spec (W base exp : Nat) (hb : base < 2 ^ W) (hexp : exp ≠ 0) :
    powWordBase W base exp = base ^ exp := by
  unfold powWordBase
  split
  · rename_i h; subst h; exact (Nat.zero_pow (Nat.pos_of_ne_zero hexp)).symm
  · split
    · rename_i _ h; subst h; exact (Nat.one_pow _).symm
    · split
      · rename_i _ _ h; subst h; rfl
      · split
        · rename_i _ _ _ hp
          have he := isPow2_eq base hp
          have htz : trailingZeros base = Nat.log2 base := by
            conv => lhs; rw [he]
            exact trailingZeros_two_pow _
          rw [htz]
          conv => rhs; rw [he]
          rw [← Nat.pow_mul, Nat.mul_comm]
        · rename_i h0 h1 h2 _
          obtain ⟨m1, m2, m3⟩ := maxExpInWord_spec W base (by omega) hb
          generalize maxExpInWord W base = res at m1 m2 m3
          obtain ⟨wexp, wbase⟩ := res
          simp only at m1 m2 m3 ⊢
          split
          · rfl
          · split
            · rename_i hge hlt
              rw [m1, ← Nat.pow_add]; congr 1; omega
            · rename_i hge hge2
              have he2 : 2 ≤ exp / wexp := by
                rw [Nat.le_div_iff_mul_le (by omega)]; omega
              rw [powLoop_nat wbase (exp / wexp) he2, m1, ← Nat.pow_mul, ← Nat.pow_add]
              congr 1
              exact Nat.div_add_mod exp wexp

-- ------------------------------------------------------------------ pow_large_base / TypedReprRef::pow

theorem powLargeBase_spec (W : Nat) (hW : 4 ≤ W) (base : List Nat) (exp : Nat)
    (hb : (TRepr.large base).Canon W) (hexp : 2 ≤ exp) :
    (powLargeBase W base exp).value W = val W base ^ exp ∧ (powLargeBase W base exp).Canon W := by
  have hsq := TRepr.sqr_spec W hW (.large base) hb
  exact powLoop_start (TRepr.value W) (TRepr.Canon W) (fun r => r.mul W (.large base))
    (fun r => r.sqr W) (val W base)
    (fun r hr => TRepr.mul_spec W hW r (.large base) hr hb)
    (fun r hr => TRepr.sqr_spec W hW r hr) exp hexp _ hsq.2 hsq.1

theorem TRepr.pow_spec (W : Nat) (hW : 4 ≤ W) (a : TRepr) (exp : Nat) (ha : a.Canon W) :
    (a.pow W exp).value W = a.value W ^ exp ∧ (a.pow W exp).Canon W := by
  unfold TRepr.pow
  split
  · rename_i h; subst h
    refine ⟨by simp, ?_⟩
    show 1 < 2 ^ (2 * W)
    exact Nat.one_lt_two_pow (by omega)
  · split
    · rename_i _ h; subst h; exact ⟨by simp, ha⟩
    · split
      · rename_i _ _ h; subst h
        have hs := TRepr.sqr_spec W hW a ha
        exact ⟨by rw [hs.1, Nat.pow_two], hs.2⟩
      · rename_i h0 h1 h2
        have hexp : 2 ≤ exp := by omega
        cases a with
        | small d =>
          simp only [TRepr.value_small]
          split
          · rename_i hd
            rw [powWordBase_spec W d exp hd h0]
            exact ofNat_spec W (by omega) _
          · rw [powDwordBase_spec d exp hexp]
            exact ofNat_spec W (by omega) _
        | large ws => exact powLargeBase_spec W hW ws exp ha hexp

/-- the exact operations of the dispatch layer as equations: the result is THE representation of the value,
    whatever ownership form or algorithm produced it -/
theorem TRepr.mul_eq {W : Nat} (hW : 4 ≤ W) {a b : TRepr} (ha : a.Canon W) (hb : b.Canon W) :
    a.mul W b = ofNat W (a.value W * b.value W) :=
  TRepr.eq_ofNat (TRepr.mul_spec W hW a b ha hb)

theorem TRepr.sqr_eq {W : Nat} (hW : 4 ≤ W) {a : TRepr} (ha : a.Canon W) :
    a.sqr W = ofNat W (a.value W * a.value W) :=
  TRepr.eq_ofNat (TRepr.sqr_spec W hW a ha)

theorem TRepr.pow_eq {W : Nat} (hW : 4 ≤ W) {a : TRepr} (exp : Nat) (ha : a.Canon W) :
    a.pow W exp = ofNat W (a.value W ^ exp) :=
  TRepr.eq_ofNat (TRepr.pow_spec W hW a exp ha)

-- ------------------------------------------------------------------ UBig::pow / IBig::pow

theorem ubigPow_spec (W : Nat) (hW : 4 ≤ W) (a : TRepr) (exp : Nat) (ha : a.Canon W) :
    (ubigPow W a exp).value W = a.value W ^ exp ∧ (ubigPow W a exp).Canon W := by
  unfold ubigPow
  simp only
  split
  · refine ⟨?_, ofNat_canon W (by omega) _⟩
    have hodd := TRepr.pow_spec W hW (ofNat W (a.value W / 2 ^ trailingZeros (a.value W))) exp
      (ofNat_canon W (by omega) _)
    rw [ofNat_value W (by omega), hodd.1, ofNat_value W (by omega), pow_odd_part]
  · exact TRepr.pow_spec W hW a exp ha

theorem neg_pow_int (m : Int) (exp : Nat) :
    (-m) ^ exp = if exp % 2 = 1 then -(m ^ exp) else m ^ exp := by
  have hdm := Nat.div_add_mod exp 2
  split
  · rename_i h
    have : exp = 2 * (exp / 2) + 1 := by omega
    rw [this, pow_succ, pow_succ, pow_mul, pow_mul, neg_sq]; ring
  · rename_i h
    have : exp = 2 * (exp / 2) := by omega
    rw [this, pow_mul, pow_mul, neg_sq]

/-- the sign rule of `IBig::pow` on top of any exact magnitude power -/
theorem withSign_pow {W : Nat} {r : TRepr} (a : SRepr) (exp : Nat)
    (hr : r.value W = a.mag.value W ^ exp ∧ r.Canon W) :
    (withSign r (a.neg && exp % 2 == 1)).value W = a.value W ^ exp ∧
    (withSign r (a.neg && exp % 2 == 1)).WF W := by
  refine ⟨?_, withSign_wf W _ _ hr.2⟩
  obtain ⟨an, am⟩ := a
  rw [withSign_value, hr.1, SRepr.value_mk]
  cases an with
  | false => simp
  | true =>
    simp only [Bool.true_and, if_true]
    rw [neg_pow_int]
    by_cases h : exp % 2 = 1 <;> simp [h]

theorem ibigPow_spec (W : Nat) (hW : 4 ≤ W) (a : SRepr) (exp : Nat) (ha : a.WF W) :
    (ibigPow W a exp).value W = a.value W ^ exp ∧ (ibigPow W a exp).WF W :=
  withSign_pow a exp (ubigPow_spec W hW a.mag exp ha.1)

/-- when `exp * shift` does not fit `usize` the exact result has more than `2^64` bits -/
theorem powShiftOverflows_huge (n exp : Nat) (h : powShiftOverflows n exp = true) :
    2 ^ (2 ^ usizeBits) ≤ n ^ exp := by
  simp only [powShiftOverflows, Bool.and_eq_true, bne_iff_ne, ne_eq, decide_eq_true_eq] at h
  obtain ⟨hs, hov⟩ := h
  have hspec := trailingZeros_spec n
  have hn : n ≠ 0 := by
    intro e; subst e; exact hs trailingZeros_zero
  generalize trailingZeros n = s at *
  have hq : 1 ≤ n / 2 ^ s := by
    rcases Nat.eq_zero_or_pos (n / 2 ^ s) with h0 | h0
    · rw [h0, Nat.zero_mul] at hspec; exact absurd hspec.symm hn
    · exact h0
  have hge : 2 ^ s ≤ n := by
    calc 2 ^ s = 1 * 2 ^ s := (Nat.one_mul _).symm
      _ ≤ n / 2 ^ s * 2 ^ s := Nat.mul_le_mul_right _ hq
      _ = n := hspec
  calc 2 ^ (2 ^ usizeBits) ≤ 2 ^ (exp * s) := Nat.pow_le_pow_right (by omega) hov
    _ = (2 ^ s) ^ exp := by rw [Nat.mul_comm, Nat.pow_mul]
    _ ≤ n ^ exp := Nat.pow_le_pow_left hge _

theorem powShiftOverflows_witness : powShiftOverflows 4 (2 ^ 63) = true := by
  have h : trailingZeros 4 = 2 := trailingZeros_two_pow 2
  simp only [powShiftOverflows, h, usizeBits]
  decide

end Dashu.Model
