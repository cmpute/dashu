import Dashu.Model.Int.HistX
import Dashu.Proofs.Int.Hist
import Dashu.Proofs.NT.LehmerComplete
import Dashu.Proofs.NT.Root
import Dashu.Proofs.Text.BytesDecode
import Dashu.Proofs.Text.BytesModel
import Dashu.Proofs.Text.Grammar
import Mathlib.Data.Nat.Sqrt
/-
  Soundness of the extended history instruction set (`Model/Int/HistX.lean`): every register is canonical and
  holds the value the value-level program computes.  The per-operation facts are C12's (`gcdReprM_spec`,
  `sqrtRemLarge_spec`, `nthRootNewton_spec`) and C07's (`parseRadix_spec`, `fromLeBytes_eq`,
  `fromSignedLeBytes_eq`, `fromSigned_toSigned`) theorems about the SAME executable definitions.
-/
namespace Dashu.Model
open Dashu.Model.NT Dashu.Model.Text

theorem ofExceptNat_agree (W : Nat) (hW : 1 ≤ W) (n : Nat) :
    HAgree W (ofExceptNat W (.ok n)) (.ok (n : Int)) := by
  refine ⟨scanon_pos W _ (ofNat_canon W hW n), ?_⟩
  simp [ofNat_value W hW]

theorem sOfInt_agree (W : Nat) (hW : 1 ≤ W) (z : Int) : HAgree W (.ok (sOfInt W z)) (.ok z) :=
  sOfInt_spec W hW z

/-- `sqrt_rem` (value level, all sizes): the floor square root -/
theorem sqrtRepr_isRoot (W : Nat) (hW : 0 < W) (hWe : W % 2 = 0) (x : Nat) : IsRoot x 2 (sqrtRepr W x) := by
  unfold sqrtRepr sqrtRemRepr
  split
  · exact iroot_spec x 2 (by decide)
  · exact (sqrtRemLarge_spec W hW hWe _ sqrtRemKernelFrontier_contract x).1

theorem isRoot_two_eq_sqrt {x s : Nat} (h : IsRoot x 2 s) : s = Nat.sqrt x := by
  apply Nat.eq_sqrt.mpr
  obtain ⟨h1, h2⟩ := h
  simp only [Nat.pow_two] at h1 h2
  exact ⟨h1, h2⟩

theorem nthRootRepr_isRoot (W : Nat) (hW : 0 < W) (hWe : W % 2 = 0) (x n : Nat) (hn : 0 < n) :
    ∃ s, nthRootRepr W true x n = .ok s ∧ IsRoot x n s := by
  match n, hn with
  | 1, _ => exact ⟨x, rfl, by simp [IsRoot]⟩
  | 2, _ => exact ⟨_, rfl, sqrtRepr_isRoot W hW hWe x⟩
  | k + 3, _ =>
    unfold nthRootRepr
    simp only []
    split
    · rename_i hbits
      refine ⟨_, rfl, ?_⟩
      have hlt := lt_two_pow_bitLen x
      have hle : 2 ^ NT.bitLen x ≤ 2 ^ (k + 3) := Nat.pow_le_pow_right (by decide) hbits
      by_cases hx : x = 0
      · subst hx; simp [IsRoot]
      · simp only [hx, and_false, if_false]
        exact ⟨by simp; omega, by norm_num; omega⟩
    · rename_i hbits
      exact ⟨_, rfl, nthRootNewton_spec x (k + 2) (by omega) (by omega)⟩

theorem hstepX_sound (W : Nat) (hW : 4 ≤ W) (env : List SRepr) (op : HOpX) (hok : op.Ok W)
    (henv : ∀ r ∈ env, SCanon W r) :
    HAgree W (hstepX W env op) (hspecX W (env.map (·.value W)) op) := by
  have hW1 : 1 ≤ W := by omega
  cases op with
  | base op => exact hstep_sound W hW env op hok henv
  | gcd i j =>
    simp only [hstepX, hspecX, getElem?_map_value]
    cases h : env[i]? <;> cases h' : env[j]? <;> try trivial
    rename_i a b
    simp only [Option.map_some, gcdInt]
    rw [gcdReprM_spec W (by omega)]
    have hiff : ((a.value W).natAbs = 0 ∧ (b.value W).natAbs = 0) ↔ (a.value W = 0 ∧ b.value W = 0) := by omega
    by_cases hz : a.value W = 0 ∧ b.value W = 0
    · rw [if_pos hz, if_pos (hiff.2 hz)]; rfl
    · rw [if_neg hz, if_neg (fun h'' => hz (hiff.1 h''))]
      exact ofExceptNat_agree W hW1 _
  | sqrt i =>
    simp only [hstepX, hspecX, getElem?_map_value]
    cases h : env[i]? with
    | none => trivial
    | some a =>
      simp only [Option.map_some, sqrtInt]
      by_cases hneg : a.value W < 0
      · rw [if_pos hneg, if_pos hneg]; rfl
      · rw [if_neg hneg, if_neg hneg]
        have hr := isRoot_two_eq_sqrt (sqrtRepr_isRoot W (by omega) hok (a.value W).natAbs)
        have hn : (a.value W).natAbs = (a.value W).toNat := by omega
        rw [hr, hn]
        exact ofExceptNat_agree W hW1 _
  | nthRoot i n =>
    simp only [hstepX, hspecX, getElem?_map_value]
    cases h : env[i]? with
    | none => trivial
    | some a =>
      simp only [Option.map_some, nthRootInt]
      by_cases hn0 : n = 0
      · rw [if_pos hn0, if_pos hn0]; rfl
      · rw [if_neg hn0, if_neg hn0]
        by_cases hneg : a.value W < 0 ∧ n % 2 = 0
        · rw [if_pos hneg, if_pos hneg]; rfl
        · rw [if_neg hneg, if_neg hneg]
          obtain ⟨s, hs, hroot⟩ := nthRootRepr_isRoot W (by omega) hok (a.value W).natAbs n (by omega)
          rw [hs]
          have := IsRoot.unique (by omega : 0 < n) hroot (iroot_spec (a.value W).natAbs n (by omega))
          rw [← this]
          exact sOfInt_agree W hW1 _
  | fromStr signed radix text =>
    simp only [hstepX, hspecX]
    rw [parseRadix_spec W hok]
    cases parseRadixSpec signed text radix with
    | error e => trivial
    | ok z => exact sOfInt_agree W hW1 z
  | fromLeBytes bs =>
    simp only [hstepX, hspecX]
    rw [fromLeBytes_eq W hok.1 hok.2]
    exact ofExceptNat_agree W hW1 _
  | fromBeBytes bs =>
    simp only [hstepX, hspecX, fromBeBytes]
    rw [fromLeBytes_eq W hok.1 hok.2]
    exact ofExceptNat_agree W hW1 _
  | fromSignedLeBytes bs =>
    simp only [hstepX, hspecX]
    rw [fromSignedLeBytes_eq W hok.1 hok.2.1 bs hok.2.2]
    exact sOfInt_agree W hW1 _
  | fromSignedBeBytes bs =>
    simp only [hstepX, hspecX, fromSignedBeBytes]
    rw [fromSignedLeBytes_eq W hok.1 hok.2.1 bs.reverse (fun b hb => hok.2.2 b (List.mem_reverse.mp hb))]
    exact sOfInt_agree W hW1 _
  | viaLeBytes i =>
    simp only [hstepX, hspecX, getElem?_map_value]
    cases h : env[i]? with
    | none => trivial
    | some a =>
      simp only [Option.map_some]
      rw [(fromSigned_toSigned W hok.1 hok.2 (a.value W)).1]
      exact sOfInt_agree W hW1 _
  | viaBeBytes i =>
    simp only [hstepX, hspecX, getElem?_map_value]
    cases h : env[i]? with
    | none => trivial
    | some a =>
      simp only [Option.map_some]
      rw [(fromSigned_toSigned W hok.1 hok.2 (a.value W)).2]
      exact sOfInt_agree W hW1 _

theorem hrunX_sound (W : Nat) (hW : 4 ≤ W) (ops : List HOpX) (hok : ∀ op ∈ ops, op.Ok W) (env : List SRepr)
    (henv : ∀ r ∈ env, SCanon W r) :
    (∀ r ∈ (hrunX W ops env).1, SCanon W r) ∧
    hrunSpecX W ops (env.map (·.value W)) = ((hrunX W ops env).1.map (·.value W), (hrunX W ops env).2) := by
  induction ops generalizing env with
  | nil => exact ⟨henv, rfl⟩
  | cons op ops ih =>
    have hs := hstepX_sound W hW env op (hok op (List.mem_cons_self ..)) henv
    have hok' : ∀ o ∈ ops, o.Ok W := fun o ho => hok o (List.mem_cons_of_mem _ ho)
    simp only [hrunX, hrunSpecX]
    cases h1 : hstepX W env op <;> cases h2 : hspecX W (env.map (·.value W)) op <;>
      simp only [h1, h2, HAgree] at hs ⊢
    · rename_i r v
      have henv' : ∀ x ∈ env ++ [r], SCanon W x := by
        intro x hx
        rcases List.mem_append.mp hx with h | h
        · exact henv x h
        · simp at h; rw [h]; exact hs.1
      have := ih hok' (env ++ [r]) henv'
      rw [List.map_append, List.map_cons, List.map_nil, hs.2] at this
      exact this
    · exact ⟨henv, trivial⟩
    · exact ⟨henv, trivial⟩

/-- `HOpX.base` embeds the instruction set of `Hist`: a history of those instructions runs the same way -/
theorem hrunX_base (W : Nat) (ops : List HOp) (env : List SRepr) :
    hrunX W (ops.map .base) env = hrun W ops env := by
  induction ops generalizing env with
  | nil => rfl
  | cons op ops ih =>
    simp only [List.map_cons, hrunX, hrun, hstepX]
    cases hstep W env op <;> simp only [ih]

theorem hrunSpecX_base (W : Nat) (ops : List HOp) (env : List Int) :
    hrunSpecX W (ops.map .base) env = hrunSpec W ops env := by
  induction ops generalizing env with
  | nil => rfl
  | cons op ops ih =>
    simp only [List.map_cons, hrunSpecX, hrunSpec, hspecX]
    cases hspec W env op <;> simp only [ih]

theorem hrun_sound (W : Nat) (hW : 4 ≤ W) (ops : List HOp) (hok : ∀ op ∈ ops, op.Ok W) (env : List SRepr)
    (henv : ∀ r ∈ env, SCanon W r) :
    (∀ r ∈ (hrun W ops env).1, SCanon W r) ∧
    hrunSpec W ops (env.map (·.value W)) = ((hrun W ops env).1.map (·.value W), (hrun W ops env).2) := by
  have := hrunX_sound W hW (ops.map .base) (fun o ho => by
    obtain ⟨op, hop, rfl⟩ := List.mem_map.mp ho; exact hok op hop) env henv
  rwa [hrunX_base, hrunSpecX_base] at this

end Dashu.Model
