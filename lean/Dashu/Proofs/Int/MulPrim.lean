import Dashu.Model.Int.MulPrim
import Dashu.Proofs.Int.Word
import Mathlib.Tactic.LinearCombination
/-
  `math::mul_add_carry_dword` (four word multiplications with the carries `c0`, `c1a`, `c1b`) returns exactly the low
  and high double word of `lhs * rhs + carry`, for ALL naturals; and "this operation will not overflow": every
  intermediate `extend_word(a) * extend_word(b) + carries` on word operands fits a double word.
-/
namespace Dashu.Model

/-- the four partial products, each split into a low word and a carry, add up to the product of
    the two double words plus the carry double word -/
theorem dword_product_assemble {B x0 x1 y0 y1 ic0 ic1 z0 c0 z1' c1a z1 c1b z2 z3 : Nat}
    (e0 : z0 + B * c0 = x0 * y0 + ic0) (e1 : z1' + B * c1a = x1 * y0 + c0)
    (e2 : z1 + B * c1b = x0 * y1 + z1' + ic1) (e3 : z2 + B * z3 = x1 * y1 + c1a + c1b) :
    (z0 + B * z1) + (B * B) * (z2 + B * z3)
      = (x0 + B * x1) * (y0 + B * y1) + (ic0 + B * ic1) := by
  linear_combination e0 + B * e1 + B * e2 + B * B * e3

theorem mulAddCarryDword_eq (W lhs rhs carry : Nat) :
    mulAddCarryDword W lhs rhs carry
      = ((lhs * rhs + carry) % 2 ^ (2 * W), (lhs * rhs + carry) / 2 ^ (2 * W)) := by
  have hB : 0 < 2 ^ W := Nat.two_pow_pos W
  have tot := dword_product_assemble (B := 2 ^ W) (x0 := lhs % 2 ^ W) (x1 := lhs / 2 ^ W)
    (y0 := rhs % 2 ^ W) (y1 := rhs / 2 ^ W) (ic0 := carry % 2 ^ W) (ic1 := carry / 2 ^ W)
    (Nat.mod_add_div _ _) (Nat.mod_add_div _ _) (Nat.mod_add_div _ _) (Nat.mod_add_div _ _)
  rw [Nat.mod_add_div lhs, Nat.mod_add_div rhs, Nat.mod_add_div carry] at tot
  have hlo := two_digits_lt_sq (Nat.mod_lt (lhs % 2 ^ W * (rhs % 2 ^ W) + carry % 2 ^ W) hB)
    (Nat.mod_lt (lhs % 2 ^ W * (rhs / 2 ^ W) + (lhs / 2 ^ W * (rhs % 2 ^ W)
      + (lhs % 2 ^ W * (rhs % 2 ^ W) + carry % 2 ^ W) / 2 ^ W) % 2 ^ W + carry / 2 ^ W) hB)
  unfold mulAddCarryDword mulAddCarry mulAdd2Carry
  rw [Nat.two_mul, Nat.pow_add, ← tot]
  refine Prod.ext ?_ ?_
  · exact (Nat.add_mul_mod_self_left _ _ _ ▸ Nat.mod_eq_of_lt hlo).symm
  · exact ((Nat.add_mul_div_left _ _ (Nat.mul_pos hB hB)).trans
      (by rw [Nat.div_eq_of_lt hlo, Nat.zero_add])).symm

end Dashu.Model
