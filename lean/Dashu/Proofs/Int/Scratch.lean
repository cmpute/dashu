import Dashu.Gen.Scratch
import Dashu.Proofs.Int.Memory
import Dashu.Proofs.Int.PowBuf
import Dashu.Proofs.Int.DivMemory
import Dashu.Props.GenMath
import Dashu.Model.Mem.Arith3
/-
  Tie A for the scratch-memory formulas and buffer-size decisions (`Dashu.Gen.Scratch`, regenerated from
  /repo by `vlib/extract_scratch.py` on every run): the hand-written formulas of C01's memory model
  (`Model/Int/Memory.lean`, `Model/Int/PowBuf.lean`), of C02's division memory model (`Model/Int/DivMemory.lean`)
  and of C17's ledger model (`Model/Mem/Arith*.lean`) ARE the regenerated ones, with `math::ceil_log2`
  instantiated by the model's `ceilLog2` (= the regenerated `MathHelpers.ceil_log2`, C09).
-/
namespace Dashu.Model
open Dashu.Gen.Scratch

-- ---------------------------------------------------------------- the parameter `ceil_log2`

/-- the instantiation of the parameter `ceil_log2` is the regenerated `math::ceil_log2` (checked machine integers,
    any width `bits`) wherever that does not panic (`x ≠ 0`) -/
theorem ceilLog2_eq_gen (bits x : Nat) (hx : x < 2 ^ bits) (h0 : x ≠ 0) :
    Dashu.Gen.MathHelpers.ceil_log2 bits x = some (ceilLog2 x) :=
  (Dashu.Props.GenMath.gen_ceil_log2 bits x hx h0).1

/-- C17's `ceilLog2` is the same function -/
theorem memCeilLog2_eq : Dashu.Model.Mem.ceilLog2 = ceilLog2 := by
  funext n
  unfold Dashu.Model.Mem.ceilLog2 ceilLog2 bitLen
  by_cases h : n ≤ 1
  · rw [if_pos h, if_pos (by omega)]
  · rw [if_neg h, if_neg (by omega)]

-- ---------------------------------------------------------------- C01: Model/Int/Memory.lean

theorem karatsubaMemReq_eq_gen (n : Nat) :
    karatsubaMemReq n = karatsuba_memory_requirement_up_to ceilLog2 n := rfl

theorem toom3MemReq_eq_gen (n : Nat) :
    toom3MemReq n = toom_3_memory_requirement_up_to ceilLog2 n := rfl

theorem mulMemReq_eq_gen (total smaller : Nat) :
    mulMemReq smaller = mul_memory_requirement_up_to ceilLog2 total smaller := rfl

theorem mulMemReq_eq_gen_exact (total smaller : Nat) :
    mulMemReq smaller = mul_memory_requirement_exact ceilLog2 total smaller := rfl

theorem sqrMemReq_eq_gen (len : Nat) : sqrMemReq len = sqr_memory_requirement_exact ceilLog2 len := rfl

/-- `mul_large` with the REGENERATED `mul::memory_requirement_exact(res_len, min(lhs.len(), rhs.len()))` as the size of
    its `MemoryAllocation`: no `Memory::allocate_slice_*` of `mul::multiply` runs out of memory -/
theorem memMulLarge_gen_ok (l r : Nat) :
    memAddSignedMul (l + r) l r (mul_memory_requirement_exact ceilLog2 (l + r) (min l r)) = .ok () := by
  rw [← mulMemReq_eq_gen_exact]
  exact memMulLarge_ok l r

/-- `square_large` with the REGENERATED `sqr::memory_requirement_exact(words.len())` and the regenerated
    `MAX_LEN_SIMPLE` dispatch of `sqr::sqr` -/
theorem memSquareLarge_gen_ok (len : Nat) :
    memSqr len (sqr_memory_requirement_exact ceilLog2 len) = .ok () := by
  rw [← sqrMemReq_eq_gen]
  exact memSqr_ok len _ (Nat.le_refl _)

-- ---------------------------------------------------------------- C01: Model/Int/Pow.lean, Model/Int/PowBuf.lean

/-- the three arms of `powWordBase` / `pow_word_base` after `max_exp_in_word` are the regenerated split -/
theorem pow_word_base_path_spec (exp wexp : Nat) :
    (pow_word_base_path exp wexp = 0 ↔ exp < wexp) ∧
    (pow_word_base_path exp wexp = 1 ↔ wexp ≤ exp ∧ exp < 2 * wexp) ∧
    (pow_word_base_path exp wexp = 2 ↔ 2 * wexp ≤ exp) := by
  unfold pow_word_base_path
  by_cases h1 : exp < wexp
  · rw [if_pos h1]; omega
  · rw [if_neg h1]
    by_cases h2 : exp < 2 * wexp
    · rw [if_pos h2]; omega
    · rw [if_neg h2]; omega

/-- `powWordBase` (the value-level mirror of `pow_word_base`) dispatches exactly on the regenerated split -/
theorem powWordBase_by_path (W base exp : Nat) (hb : 2 < base) (hp : isPow2 base = false) :
    (pow_word_base_path exp (maxExpInWord W base).1 = 0 → powWordBase W base exp = base ^ exp) ∧
    (pow_word_base_path exp (maxExpInWord W base).1 = 1 →
      powWordBase W base exp = (maxExpInWord W base).2 * base ^ (exp - (maxExpInWord W base).1)) ∧
    (pow_word_base_path exp (maxExpInWord W base).1 = 2 →
      powWordBase W base exp =
        powLoop (fun x => x * (maxExpInWord W base).2) (fun x => x * x) (exp / (maxExpInWord W base).1)
          (bitLen (exp / (maxExpInWord W base).1) - 2) ((maxExpInWord W base).2 * (maxExpInWord W base).2) *
        base ^ (exp % (maxExpInWord W base).1)) := by
  obtain ⟨p0, p1, p2⟩ := pow_word_base_path_spec exp (maxExpInWord W base).1
  have b0 : base ≠ 0 := by omega
  have b1 : base ≠ 1 := by omega
  have b2 : base ≠ 2 := by omega
  refine ⟨fun h => ?_, fun h => ?_, fun h => ?_⟩
  · have h1 := p0.1 h
    unfold powWordBase
    simp only [b0, b1, b2, hp, if_false, Bool.false_eq_true, if_pos h1]
  · have h1 := p1.1 h
    unfold powWordBase
    simp only [b0, b1, b2, hp, if_false, Bool.false_eq_true, if_neg (Nat.not_lt.mpr h1.1), if_pos h1.2]
  · have h1 := p2.1 h
    unfold powWordBase
    have n1 : ¬ exp < (maxExpInWord W base).1 := by omega
    have n2 : ¬ exp < 2 * (maxExpInWord W base).1 := by omega
    simp only [b0, b1, b2, hp, if_false, Bool.false_eq_true, if_neg n1, if_neg n2]

/-- the sizes in `powWordBaseBuf` / `powDwordBaseBuf` are the regenerated ones -/
theorem powBuf_sizes_eq_gen (e : Nat) :
    e + 1 = pow_word_base_buffer_words e ∧
    (e / 2 + 1) + sqrMemReq (e / 2 + 1) = pow_word_base_scratch_words ceilLog2 e ∧
    2 * e = pow_dword_base_buffer_words e ∧
    e + sqrMemReq e = pow_dword_base_scratch_words ceilLog2 e :=
  ⟨rfl, rfl, Nat.mul_comm 2 e, rfl⟩

-- ---------------------------------------------------------------- C02: Model/Int/DivMemory.lean

theorem dcMemReq_eq_gen (l r : Nat) :
    Div.dcMemReq l r = divide_conquer_memory_requirement_exact ceilLog2 l r := rfl

/-- `div::memory_requirement_exact`: under its own `assert!` the hand-written model returns the regenerated value,
    otherwise it panics -/
theorem divMemReq_eq_gen (l r : Nat) :
    (div_memory_requirement_exact_asserts l r = true →
      Div.divMemReq l r = .ok (div_memory_requirement_exact ceilLog2 l r)) ∧
    (div_memory_requirement_exact_asserts l r = false → ∃ k, Div.divMemReq l r = .error k) := by
  unfold Div.divMemReq div_memory_requirement_exact_asserts div_memory_requirement_exact
  constructor
  · intro h
    have h' : l ≥ r ∧ r ≥ 2 := by simpa using h
    rw [if_neg (by simpa using h')]
    by_cases c : r ≤ Div.thresholdSimple ∨ l - r ≤ Div.thresholdSimple
    · rw [if_pos c, if_pos (by simpa [Div.thresholdSimple] using c)]
    · rw [if_neg c, if_neg (by simpa [Div.thresholdSimple] using c)]; rfl
  · intro h
    have h' : ¬ (l ≥ r ∧ r ≥ 2) := by simpa using h
    rw [if_pos h']
    exact ⟨_, rfl⟩

-- ---------------------------------------------------------------- C17: Model/Mem/Arith*.lean

theorem mulScratchWords_eq_gen (total n : Nat) :
    Mem.mulScratchWords n = mul_memory_requirement_up_to ceilLog2 total n := by
  unfold Mem.mulScratchWords
  rw [memCeilLog2_eq]; rfl

theorem sqrScratchWords_eq_gen (n : Nat) :
    Mem.sqrScratchWords Dashu.Gen.sqr_MAX_LEN_SIMPLE n = sqr_memory_requirement_exact ceilLog2 n := by
  unfold Mem.sqrScratchWords
  rw [mulScratchWords_eq_gen (2 * n)]; rfl

theorem divScratchWords_eq_gen (la lb : Nat) :
    Mem.divScratchWords la lb = div_memory_requirement_exact ceilLog2 la lb := by
  unfold Mem.divScratchWords
  rw [mulScratchWords_eq_gen lb]; rfl

theorem sqrtScratchWords_eq_gen (n : Nat) :
    Mem.sqrtScratchWords Dashu.Gen.sqr_MAX_LEN_SIMPLE n = root_memory_requirement_sqrt_rem ceilLog2 n := by
  unfold Mem.sqrtScratchWords
  rw [sqrScratchWords_eq_gen, divScratchWords_eq_gen]; rfl

/-- the guard and the sizes C17's `fragShl` writes inline (`dcap mx la < la + sw + 1`, `allocate (sw + la + 1)`,
    `sw = rhs / W`) are the regenerated ones -/
theorem shl_large_guard_eq_gen (W cap la rhs : Nat) :
    (decide (cap < la + rhs / W + 1) = shl_large_takes_ref_path cap la (shl_large_shift_words W rhs)) ∧
    rhs / W + la + 1 = shl_large_ref_buffer_words (shl_large_shift_words W rhs) la :=
  ⟨rfl, rfl⟩

/-- the pow skeleton sizes C17's `fPowWordBase` / `fPowDwordBase` write inline -/
theorem memPow_sizes_eq_gen (e : Nat) :
    (e / 2 + 1) + Mem.sqrScratchWords Dashu.Gen.sqr_MAX_LEN_SIMPLE (e / 2 + 1) = pow_word_base_scratch_words ceilLog2 e ∧
    e + Mem.sqrScratchWords Dashu.Gen.sqr_MAX_LEN_SIMPLE e = pow_dword_base_scratch_words ceilLog2 e := by
  rw [sqrScratchWords_eq_gen, sqrScratchWords_eq_gen]; exact ⟨rfl, rfl⟩

end Dashu.Model
