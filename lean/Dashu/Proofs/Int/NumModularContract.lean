import Dashu.Proofs.Int.Div
import Dashu.Proofs.Int.NumModular
/-
  Citeable contracts of num-modular's reciprocal dividers (for C07 / C13).  Two layers:
  * the MIRROR (`Dashu.Model.NumModular.*`, the crate's algorithms) equals floor division;
  * the CONTRACT FUNCTIONS used by word-level models (`Dashu.Model.Div.div1by1/div2by1/div2by2/
    div3by2/div4by2`: floor division guarded by the crate's precondition) succeed with the floor
    quotient and remainder — so a model may call them and cite these theorems.
  `d` is always the NORMALISED divisor (top bit set), which is what `Normalized2by1Divisor::new`,
  `Normalized3by2Divisor::new` assert and what `PreMulInv2by1::new` / `PreMulInv3by2::new` produce
  (`premulinv_new_*`).  All for every word size `W ≥ 1`.
-/
namespace Dashu.Model.NumModular.Contract
open Dashu.Model Dashu.Model.Div

/-- `Normalized2by1Divisor::invert_word` -/
theorem invert_word (W d : Nat) (hW : 1 ≤ W) (hd1 : 2 ^ W ≤ 2 * d) (hd2 : d < 2 ^ W) :
    invertWord W d + 2 ^ W = (2 ^ (2 * W) - 1) / d ∧ invertWord W d < 2 ^ W :=
  ⟨(invertWord_spec W d hW hd1 hd2).1, (invertWord_spec W d hW hd1 hd2).2.1⟩

/-- `Normalized3by2Divisor::invert_double_word` -/
theorem invert_double_word (W d : Nat) (hW : 1 ≤ W) (hd1 : 2 ^ (2 * W) ≤ 2 * d) (hd2 : d < 2 ^ (2 * W)) :
    invertDoubleWord W d + 2 ^ W = (2 ^ (3 * W) - 1) / d ∧ invertDoubleWord W d < 2 ^ W :=
  ⟨(invertDoubleWord_spec W d hW hd1 hd2).1, (invertDoubleWord_spec W d hW hd1 hd2).2.1⟩

/-- compare-and-subtract is floor division as long as `a < 2·d` -/
theorem cmp_sub (d a : Nat) (hd : 0 < d) (h : a < 2 * d) :
    (if a < d then (0, a) else (1, a - d)) = (a / d, a % d) := by
  by_cases hlt : a < d
  · rw [if_pos hlt]
    exact div_mod_of_eq' hd (by omega) hlt
  · rw [if_neg hlt]
    exact div_mod_of_eq' hd (by omega) (by omega)

/-- `div_rem_1by1(a)` on a normalised word divisor: `if a < d {(0, a)} else {(1, a − d)}` = floor division -/
theorem div_rem_1by1 (W d a : Nat) (hd1 : 2 ^ W ≤ 2 * d) (ha : a < 2 ^ W) (hd : 0 < d) :
    Div.div1by1 d a = (a / d, a % d) :=
  cmp_sub d a hd (by omega)

/-- `div_rem_2by2(a)` on a normalised double-word divisor -/
theorem div_rem_2by2 (W d a : Nat) (hd1 : 2 ^ (2 * W) ≤ 2 * d) (ha : a < 2 ^ (2 * W)) (hd : 0 < d) :
    Div.div2by2 d a = (a / d, a % d) :=
  cmp_sub d a hd (by omega)

/-- `div_rem_2by1(a)`, mirror: Möller–Granlund Algorithm 4 = floor division when `a_hi < d` -/
theorem div_rem_2by1 (W d a : Nat) (hW : 1 ≤ W) (hd1 : 2 ^ W ≤ 2 * d) (hd2 : d < 2 ^ W)
    (ha : a / 2 ^ W < d) : NumModular.div2by1 W d (invertWord W d) a = (a / d, a % d) :=
  div2by1_spec W d a hW hd1 hd2 ha

/-- `div_rem_3by2(a_lo, a_hi)`, mirror: Algorithm 5 = floor division when `a_hi < d` -/
theorem div_rem_3by2 (W d aLo aHi : Nat) (hW : 1 ≤ W) (hd1 : 2 ^ (2 * W) ≤ 2 * d)
    (hd2 : d < 2 ^ (2 * W)) (hlo : aLo < 2 ^ W) (hhi : aHi < d) :
    NumModular.div3by2 W d (invertDoubleWord W d) aLo aHi
      = ((aLo + 2 ^ W * aHi) / d, (aLo + 2 ^ W * aHi) % d) :=
  div3by2_spec W d aLo aHi hW hd1 hd2 hlo hhi

/-- `div_rem_4by2(a_lo, a_hi)`, mirror -/
theorem div_rem_4by2 (W d aLo aHi : Nat) (hW : 1 ≤ W) (hd1 : 2 ^ (2 * W) ≤ 2 * d)
    (hd2 : d < 2 ^ (2 * W)) (hlo : aLo < 2 ^ (2 * W)) (hhi : aHi < d) :
    NumModular.div4by2 W d (invertDoubleWord W d) aLo aHi
      = ((aLo + 2 ^ (2 * W) * aHi) / d, (aLo + 2 ^ (2 * W) * aHi) % d) :=
  div4by2_spec W d aLo aHi hW hd1 hd2 hlo hhi

/-- the contract functions a word-level model may call: under the crate's precondition they return
    the floor quotient and remainder, and they ARE the mirrored algorithms -/
theorem contract_2by1 (W d a : Nat) (hW : 1 ≤ W) (hd1 : 2 ^ W ≤ 2 * d) (hd2 : d < 2 ^ W)
    (ha : a / 2 ^ W < d) :
    Div.div2by1 W d a = .ok (a / d, a % d) ∧
    Div.div2by1 W d a = .ok (NumModular.div2by1 W d (invertWord W d) a) := by
  rw [div2by1_spec W d a hW hd1 hd2 ha]
  exact ⟨div2by1_ok W d a ha, div2by1_ok W d a ha⟩

theorem contract_3by2 (W d aLo aHi : Nat) (hW : 1 ≤ W) (hd1 : 2 ^ (2 * W) ≤ 2 * d)
    (hd2 : d < 2 ^ (2 * W)) (hlo : aLo < 2 ^ W) (hhi : aHi < d) :
    Div.div3by2 W d aLo aHi = .ok ((aLo + 2 ^ W * aHi) / d, (aLo + 2 ^ W * aHi) % d) ∧
    Div.div3by2 W d aLo aHi = .ok (NumModular.div3by2 W d (invertDoubleWord W d) aLo aHi) := by
  rw [div3by2_spec W d aLo aHi hW hd1 hd2 hlo hhi]
  exact ⟨div3by2_ok W d aLo aHi hhi, div3by2_ok W d aLo aHi hhi⟩

theorem contract_4by2 (W d aLo aHi : Nat) (hW : 1 ≤ W) (hd1 : 2 ^ (2 * W) ≤ 2 * d)
    (hd2 : d < 2 ^ (2 * W)) (hlo : aLo < 2 ^ (2 * W)) (hhi : aHi < d) :
    Div.div4by2 W d aLo aHi = .ok ((aLo + 2 ^ (2 * W) * aHi) / d, (aLo + 2 ^ (2 * W) * aHi) % d) ∧
    Div.div4by2 W d aLo aHi = .ok (NumModular.div4by2 W d (invertDoubleWord W d) aLo aHi) := by
  rw [div4by2_spec W d aLo aHi hW hd1 hd2 hlo hhi]
  exact ⟨div4by2_ok W d aLo aHi hhi, div4by2_ok W d aLo aHi hhi⟩

/-- `PreMulInv2by1::new(d)` / `ConstSingleDivisor::new`: `shift = d.leading_zeros()`,
    `d << shift` is normalised (so `Normalized2by1Divisor::new` does not assert) -/
theorem premulinv_new_word (W d : Nat) (hd : d ≠ 0) (hlt : d < 2 ^ W) :
    lz W d < W ∧ 2 ^ (W - 1) ≤ d * 2 ^ lz W d ∧ d * 2 ^ lz W d < 2 ^ W ∧
    normNew W ((d * 2 ^ lz W d) % 2 ^ W) = .ok (d * 2 ^ lz W d) := by
  obtain ⟨l1, l2, l3⟩ := lz_spec (bits := W) hd hlt
  refine ⟨l1, l2, l3, ?_⟩
  rw [Nat.mod_eq_of_lt l3]; exact normNew_ok W _ l2

/-- `PreMulInv3by2::new(d)` / `ConstDoubleDivisor::new` for `d ≥ 2^W` -/
theorem premulinv_new_dword (W d : Nat) (hW : 1 ≤ W) (hge : 2 ^ W ≤ d) (hlt : d < 2 ^ (2 * W)) :
    lz (2 * W) d + 1 ≤ W ∧ 2 ^ (2 * W - 1) ≤ d * 2 ^ lz (2 * W) d ∧ d * 2 ^ lz (2 * W) d < 2 ^ (2 * W) ∧
    normNew (2 * W) ((d * 2 ^ lz (2 * W) d) % 2 ^ (2 * W)) = .ok (d * 2 ^ lz (2 * W) d) := by
  have hd : d ≠ 0 := by have := Nat.two_pow_pos W; omega
  obtain ⟨l1, l2, l3⟩ := lz_spec (bits := 2 * W) hd hlt
  refine ⟨lz_dword_lt W d hW hge, l2, l3, ?_⟩
  rw [Nat.mod_eq_of_lt l3]; exact normNew_ok (2 * W) _ l2

end Dashu.Model.NumModular.Contract
