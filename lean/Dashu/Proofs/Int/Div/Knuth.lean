import Dashu.Proofs.Int.Div.Basic
/-
  Division layer, part 3: schoolbook division (`div/simple.rs`, Knuth's algorithm D) by a
  normalised divisor of at least two words.
-/
namespace Dashu.Model.Div
open Dashu.Model

-- ------------------------------------------------------------------ sub_mul_word_same_len_in_place

/-- one word of the `carry_plus_max` loop, with `M = B − 1`: the subtraction does not underflow
    and the next carry is again at most `M` -/
theorem subMul_word {M mult a b cpm : Nat} (hm : mult ≤ M) (ha : a ≤ M) (hb : b ≤ M) (hc : cpm ≤ M) :
    a + cpm + M * M - mult * b + mult * b = a + cpm + M * M ∧
    (a + cpm + M * M - mult * b) / (M + 1) ≤ M := by
  refine ⟨Nat.sub_add_cancel (Nat.le_trans (Nat.mul_le_mul hm hb) (Nat.le_add_left _ _)),
    Nat.le_of_lt_succ ((Nat.div_lt_iff_lt_mul (Nat.succ_pos M)).mpr ?_)⟩
  calc a + cpm + M * M - mult * b ≤ M + M + M * M := Nat.le_trans (Nat.sub_le _ _) (by omega)
    _ < (M + 1) * (M + 1) := by rw [Nat.lt_iff_add_one_le]; exact Nat.le_of_eq (by ring)

/-- loop invariant in additive form: `cpm + bin = B − 1` (borrow-in), result borrow `bout` -/
theorem subMulLoop_spec (W mult : Nat) (hm : mult < 2 ^ W) (as bs : List Nat) (cpm bin : Nat)
    (hl : as.length = bs.length) (ha : IsWords W as) (hb : IsWords W bs)
    (hc : cpm + bin = 2 ^ W - 1) :
    let r := subMulLoop W mult as bs cpm
    ∃ bout, r.2 + bout = 2 ^ W - 1 ∧
      val W r.1 + mult * val W bs + bin = val W as + bout * 2 ^ (W * as.length) ∧
      r.1.length = as.length ∧ IsWords W r.1 := by
  induction as generalizing bs cpm bin with
  | nil =>
    cases bs with
    | nil => exact ⟨bin, by simp [subMulLoop, hc, IsWords.nil]⟩
    | cons b bs => simp at hl
  | cons a as ih =>
    cases bs with
    | nil => simp at hl
    | cons b bs =>
      have ha0 := ha.head
      have hb0 := hb.head
      obtain ⟨M, hB⟩ : ∃ M, 2 ^ W = M + 1 := ⟨2 ^ W - 1, (Nat.sub_add_cancel (Nat.two_pow_pos W)).symm⟩
      rw [hB] at hm ha0 hb0 hc ⊢
      simp only [Nat.add_sub_cancel] at hc ⊢
      obtain ⟨hv, hc1⟩ := subMul_word (mult := mult) (a := a) (b := b) (cpm := cpm) (M := M)
        (Nat.le_of_lt_succ hm) (Nat.le_of_lt_succ ha0) (Nat.le_of_lt_succ hb0) (hc ▸ Nat.le_add_right _ _)
      obtain ⟨bout, i1, i2, i3, i4⟩ := ih bs ((a + cpm + M * M - mult * b) / (M + 1))
        (M - (a + cpm + M * M - mult * b) / (M + 1))
        (by simpa using hl) ha.tail hb.tail (by rw [hB]; exact Nat.add_sub_cancel' hc1)
      rw [hB, Nat.add_sub_cancel] at i1
      simp only [subMulLoop, hB, Nat.add_sub_cancel, val_cons, List.length_cons, pow_mul_succ]
      refine ⟨bout, i1, ?_, congrArg (· + 1) i3,
        IsWords.cons (by rw [hB]; exact Nat.mod_lt _ (Nat.succ_pos M)) i4⟩
      linear_combination (M + 1) * i2 + hv + Nat.div_add_mod (a + cpm + M * M - mult * b) (M + 1) + hc
        + (M + 1) * (Nat.add_sub_cancel' hc1).symm

/-- `sub_mul_word_same_len_in_place`: words − mult·rhs, borrow out -/
theorem subMulWordSameLen_spec (W mult : Nat) (hm : mult < 2 ^ W) (ws rhs : List Nat)
    (hl : ws.length = rhs.length) (hw : IsWords W ws) (hr : IsWords W rhs) :
    let r := subMulWordSameLen W ws mult rhs
    val W r.1 + mult * val W rhs = val W ws + r.2 * 2 ^ (W * ws.length) ∧
    r.1.length = ws.length ∧ IsWords W r.1 := by
  unfold subMulWordSameLen
  by_cases h0 : mult = 0
  · simp [h0, hw]
  · simp only [h0, if_false]
    obtain ⟨bout, i1, i2, i3, i4⟩ := subMulLoop_spec W mult hm ws rhs (2 ^ W - 1) 0 hl hw hr (by omega)
    refine ⟨?_, i3, i4⟩
    have : 2 ^ W - 1 - (subMulLoop W mult ws rhs (2 ^ W - 1)).2 = bout := by omega
    simp only [this]
    simpa using i2

-- ------------------------------------------------------------------ Knuth D: one quotient word

/-- the estimate was exact: what `sub_mul` leaves is the remainder and its borrow is the top word.
    (`v1 + top·P` and `r + borrow·P`, `r` the true remainder, are two representations with digits
    below `P`.) -/
theorem correct_exact {P b qh A vwin top v1 borrow : Nat} (hv1 : v1 < P) (hb : b < P)
    (hA : A = vwin + top * P) (m1 : v1 + qh * b = vwin + borrow * P)
    (hF1 : A < (qh + 1) * b) (hcase : qh * b ≤ A) :
    borrow = top ∧ v1 < b ∧ qh * b + v1 = A := by
  have hr : A - qh * b + qh * b = A := Nat.sub_add_cancel hcase
  have hrb : A - qh * b < b := by rw [Nat.add_mul, Nat.one_mul] at hF1; omega
  obtain ⟨e1, e2⟩ := add_mul_unique (x := top) (y := borrow) hv1 (Nat.lt_trans hrb hb) (by omega)
  exact ⟨e2.symm, e1 ▸ hrb, by omega⟩

/-- the estimate was one too large: `sub_mul` borrows one more than the top word, adding the divisor
    back carries out, and leaves the remainder -/
theorem correct_addback {P b qh A vwin top v1 borrow v2 carry : Nat} (hv2 : v2 < P) (hb : b < P)
    (hA : A = vwin + top * P) (m1 : v1 + qh * b = vwin + borrow * P)
    (d1 : v2 + P * carry = v1 + b + 0) (d4 : carry ≤ 1)
    (hF2 : qh * b ≤ A + b) (hcase : A < qh * b) :
    borrow = top + 1 ∧ carry = 1 ∧ 1 ≤ qh ∧ v2 < b ∧ (qh - 1) * b + v2 = A := by
  have hr : A + b - qh * b + qh * b = A + b := Nat.sub_add_cancel hF2
  have hrb : A + b - qh * b < b := by omega
  have hbt : top < borrow := Nat.lt_of_mul_lt_mul_right (a := P) (by omega)
  obtain ⟨e1, e2⟩ := add_mul_unique (x := carry + top) (y := borrow) hv2 (Nat.lt_trans hrb hb)
    (by rw [Nat.add_mul, Nat.mul_comm carry]; omega)
  have hq : 1 ≤ qh := Nat.pos_of_ne_zero fun h0 => by rw [h0, Nat.zero_mul] at hcase; omega
  obtain ⟨q', rfl⟩ := Nat.exists_eq_add_of_le' hq
  have hqb : (q' + 1) * b = q' * b + b := Nat.succ_mul q' b
  exact ⟨by omega, by omega, hq, e1 ▸ hrb, by rw [Nat.add_sub_cancel]; omega⟩

/-- correction step of `div_rem_highest_word`: given an estimate `qh` that is never too small
    (`A < (qh+1)·b`) and too large by at most one (`qh·b ≤ A + b`), the subtract / add-back
    sequence leaves the exact quotient word and remainder; the `debug_assert!`s hold. -/
theorem correctStep_spec (W : Nat) (lhsTop qh : Nat) (lhsLo rhs : List Nat)
    (hL : rhs.length ≤ lhsLo.length) (hlo : IsWords W lhsLo) (hr : IsWords W rhs)
    (hqh : qh < 2 ^ W)
    (hF1 : val W (lhsLo.drop (lhsLo.length - rhs.length)) + lhsTop * 2 ^ (W * rhs.length)
        < (qh + 1) * val W rhs)
    (hF2 : qh * val W rhs
        ≤ val W (lhsLo.drop (lhsLo.length - rhs.length)) + lhsTop * 2 ^ (W * rhs.length) + val W rhs) :
    ∃ q win', correctStep W lhsTop lhsLo rhs qh
        = .ok (q, lhsLo.take (lhsLo.length - rhs.length) ++ win') ∧
      q ≤ qh ∧ win'.length = rhs.length ∧ IsWords W win' ∧ val W win' < val W rhs ∧
      q * val W rhs + val W win'
        = val W (lhsLo.drop (lhsLo.length - rhs.length)) + lhsTop * 2 ^ (W * rhs.length) := by
  have hwl : (lhsLo.drop (lhsLo.length - rhs.length)).length = rhs.length := by
    simp only [List.length_drop]; omega
  have sm := subMulWordSameLen_spec W qh hqh _ rhs hwl (hlo.drop _) hr
  generalize hsm : subMulWordSameLen W (lhsLo.drop (lhsLo.length - rhs.length)) qh rhs = p at sm
  obtain ⟨win1, borrow⟩ := p
  obtain ⟨m1, m2, m3⟩ := sm
  simp only [hwl] at m1 m2
  have hw1lt : val W win1 < 2 ^ (W * rhs.length) := m2 ▸ val_lt W win1 m3
  have hblt : val W rhs < 2 ^ (W * rhs.length) := val_lt W rhs hr
  by_cases hcase : qh * val W rhs
      ≤ val W (lhsLo.drop (lhsLo.length - rhs.length)) + lhsTop * 2 ^ (W * rhs.length)
  · obtain ⟨rfl, c2, c3⟩ := correct_exact hw1lt hblt rfl m1 hF1 hcase
    refine ⟨qh, win1, ?_, Nat.le_refl _, m2, m3, c2, c3⟩
    simp only [correctStep, hsm, Nat.lt_irrefl, if_false, ne_eq, not_true_eq_false]
  · have ad := addSameLen_spec W win1 rhs 0 m3 hr m2 (Nat.zero_le 1)
    generalize had : addSameLen W win1 rhs 0 = p2 at ad
    obtain ⟨win2, carry⟩ := p2
    obtain ⟨d1, d2, d3, d4⟩ := ad
    simp only [m2] at d1 d2
    have hw2lt : val W win2 < 2 ^ (W * rhs.length) := d2 ▸ val_lt W win2 d3
    obtain ⟨rfl, rfl, c3, c4, c5⟩ :=
      correct_addback hw2lt hblt rfl m1 d1 d4 hF2 (Nat.lt_of_not_le hcase)
    refine ⟨qh - 1, win2, ?_, Nat.sub_le _ _, d2, d3, c4, c5⟩
    simp only [correctStep, hsm, had, Nat.lt_add_one, if_true, Nat.add_sub_cancel, ne_eq,
      not_true_eq_false, if_false, one_ne_zero]

/-- a divisor `lo + P·hi` (`lo < P`) that is normalised against `P·T` has a normalised high part:
    `T ≤ 2·hi + 1`, so `T ≤ 2·hi` for even `T` -/
theorem norm_hi {P lo hi T : Nat} (hlo : lo < P) (hn : P * T ≤ 2 * (lo + P * hi)) : T < 2 * hi + 2 := by
  apply Nat.lt_of_mul_lt_mul_left (a := P)
  calc P * T ≤ 2 * (lo + P * hi) := hn
    _ < 2 * (P * (hi + 1)) := Nat.mul_lt_mul_of_pos_left (add_mul_lt hlo (Nat.lt_succ_self hi)) (by omega)
    _ = P * (2 * hi + 2) := by ring

/-- Knuth's estimate: the quotient of the numerator's top part `N` by the divisor's top part
    `D ≥ B` (both above a low part of `P2`) is never too small and, being at most `B`, too large by
    at most one -/
theorem est_top {B P2 N D vwlo vrlo : Nat} (hB : 0 < B) (hD : B ≤ D) (hq : N / D ≤ B) (h1 : vwlo < P2)
    (h2 : vrlo < P2) :
    vwlo + P2 * N < (N / D + 1) * (vrlo + P2 * D) ∧
    N / D * (vrlo + P2 * D) ≤ vwlo + P2 * N + (vrlo + P2 * D) := by
  have hDpos : 0 < D := Nat.lt_of_lt_of_le hB hD
  constructor
  · calc vwlo + P2 * N < P2 * (N + 1) := add_mul_lt h1 (Nat.lt_succ_self N)
      _ ≤ P2 * (D * (N / D + 1)) := Nat.mul_le_mul_left _ (Nat.lt_mul_div_succ N hDpos)
      _ = (N / D + 1) * (P2 * D) := by ring
      _ ≤ (N / D + 1) * (vrlo + P2 * D) := Nat.mul_le_mul_left _ (Nat.le_add_left _ _)
  · calc N / D * (vrlo + P2 * D) = N / D * vrlo + P2 * (D * (N / D)) := by ring
      _ ≤ B * P2 + P2 * N :=
        Nat.add_le_add (Nat.mul_le_mul hq (Nat.le_of_lt h2)) (Nat.mul_le_mul_left _ (Nat.mul_div_le N D))
      _ ≤ P2 * D + P2 * N := Nat.add_le_add_right (Nat.mul_comm B P2 ▸ Nat.mul_le_mul_left _ hD) _
      _ ≤ vwlo + P2 * N + (vrlo + P2 * D) := by omega

/-- the estimate `B − 1` (taken when `lhs_top ≥ rhs_top`) is too large by at most one -/
theorem est_case2 (M P2 l1 l2 t r0 r1 vwlo vrlo : Nat) (hr0 : r0 ≤ M) (ht : r1 ≤ t)
    (h2 : vrlo < P2) (hn : M + 1 ≤ 2 * r1) :
    M * (vrlo + P2 * (r0 + (M + 1) * r1))
      ≤ vwlo + P2 * (l2 + (M + 1) * l1) + t * (P2 * (M + 1) * (M + 1)) + (vrlo + P2 * (r0 + (M + 1) * r1)) := by
  have e1 : P2 * (M + 1) * (M + 1) * r1 ≤ P2 * (M + 1) * (M + 1) * t := Nat.mul_le_mul_left _ ht
  have e2 : M * vrlo ≤ M * P2 := Nat.mul_le_mul_left _ (Nat.le_of_lt h2)
  have e3 : M * (P2 * r0) ≤ M * (P2 * M) := Nat.mul_le_mul_left _ (Nat.mul_le_mul_left _ hr0)
  have e4 : P2 * (M + 1) * (M + 1) ≤ P2 * (M + 1) * (2 * r1) := Nat.mul_le_mul_left _ hn
  have n1 := Nat.zero_le (P2 * M)
  have n2 := Nat.zero_le (P2 * l2)
  have n3 := Nat.zero_le (P2 * M * l1)
  have n4 := Nat.zero_le (P2 * l1)
  have n5 := Nat.zero_le (P2 * r0)
  linarith

/-- the estimate of `div_rem_highest_word` (3-by-2 quotient of the top words, or `B − 1`) is
    never too small and too large by at most one -/
theorem qEstimate_spec (W : Nat) (hW : 1 ≤ W) (lhsTop : Nat) (lhsLo rhs : List Nat)
    (hn : 2 ≤ rhs.length) (hL : rhs.length ≤ lhsLo.length)
    (hlo : IsWords W lhsLo) (hr : IsWords W rhs)
    (hnorm : 2 ^ (W * rhs.length) ≤ 2 * val W rhs)
    (hA : val W (lhsLo.drop (lhsLo.length - rhs.length)) + lhsTop * 2 ^ (W * rhs.length)
        < val W rhs * 2 ^ W) :
    ∃ qh, qEstimate W lhsTop lhsLo rhs (highestDword W rhs) = .ok qh ∧ qh < 2 ^ W ∧
      val W (lhsLo.drop (lhsLo.length - rhs.length)) + lhsTop * 2 ^ (W * rhs.length)
        < (qh + 1) * val W rhs ∧
      qh * val W rhs
        ≤ val W (lhsLo.drop (lhsLo.length - rhs.length)) + lhsTop * 2 ^ (W * rhs.length) + val W rhs := by
  have hp : 0 < 2 ^ W := Nat.two_pow_pos W
  -- the top two words of the divisor and of the window, above `n − 2` low words
  obtain ⟨rlo, r0, r1, hrs, hg0, hg1, hrl⟩ := split_last2_getD rhs hn
  obtain ⟨llo, l2, l1, hls, hh0, hh1, hll⟩ := split_last2_getD lhsLo (by omega)
  have hr0 : r0 < 2 ^ W := hr r0 (by rw [hrs]; simp)
  have hl2 : l2 < 2 ^ W := hlo l2 (by rw [hls]; simp)
  have hl1 : l1 < 2 ^ W := hlo l1 (by rw [hls]; simp)
  have hrlo : IsWords W rlo := fun x hx => hr x (by rw [hrs]; simp [hx])
  have hllo : IsWords W llo := fun x hx => hlo x (by rw [hls]; simp [hx])
  have hwin : lhsLo.drop (lhsLo.length - rhs.length)
      = llo.drop (lhsLo.length - rhs.length) ++ [l2, l1] :=
    (congrArg (List.drop _) hls).trans
      (List.drop_append_of_le_length (by rw [hll]; exact Nat.sub_le_sub_left hn _))
  have hwlen : (llo.drop (lhsLo.length - rhs.length)).length = rhs.length - 2 := by
    simp only [List.length_drop]; omega
  have hvb : val W rhs = val W rlo + 2 ^ (W * (rhs.length - 2)) * (r0 + 2 ^ W * r1) := by
    conv => lhs; rw [hrs]
    rw [val_append_two, hrl]
  have hvw : val W (lhsLo.drop (lhsLo.length - rhs.length))
      = val W (llo.drop (lhsLo.length - rhs.length)) + 2 ^ (W * (rhs.length - 2)) * (l2 + 2 ^ W * l1) := by
    rw [hwin, val_append_two, hwlen]
  have hrlolt : val W rlo < 2 ^ (W * (rhs.length - 2)) := hrl ▸ val_lt W rlo hrlo
  have hwlolt : val W (llo.drop (lhsLo.length - rhs.length)) < 2 ^ (W * (rhs.length - 2)) :=
    hwlen ▸ val_lt W _ (hllo.drop _)
  have hPn : 2 ^ (W * rhs.length) = 2 ^ (W * (rhs.length - 2)) * 2 ^ W * 2 ^ W := by
    rw [Nat.mul_assoc, ← two_pow_two_mul, Nat.mul_comm 2 W, ← pow_add_len, Nat.sub_add_cancel hn]
  have hdt : highestDword W rhs = r0 + 2 ^ W * r1 := by simp only [highestDword, hg0, hg1]
  have hhd : highestDword W lhsLo = l2 + 2 ^ W * l1 := by simp only [highestDword, hh0, hh1]
  have hhdm : (l2 + 2 ^ W * l1) % 2 ^ W = l2 := by
    rw [Nat.add_mul_mod_self_left]; exact Nat.mod_eq_of_lt hl2
  have hhdd : (l2 + 2 ^ W * l1) / 2 ^ W = l1 := add_mul_div_word W l2 l1 hl2
  -- a normalised divisor has the top bit of its top word set
  have hr1n : 2 ^ W ≤ 2 * r1 := by
    have := norm_hi (T := 2 ^ W) (hi := r1) (add_mul_lt hrlolt hr0)
      (by rw [hvb, hPn] at hnorm; exact Nat.le_trans hnorm (Nat.le_of_eq (by ring)))
    have := pow_two_mul_half W hW
    omega
  simp only [qEstimate, hg1, hhd, hhdm, hhdd, hdt]
  rw [hvw, hvb, hPn]
  by_cases hc : lhsTop < r1
  · have c1 : l1 + 2 ^ W * lhsTop < r0 + 2 ^ W * r1 :=
      Nat.lt_of_lt_of_le (add_mul_lt hl1 hc) (Nat.le_add_left _ _)
    have c2 := quot_lt (d := r0 + 2 ^ W * r1) hl2 c1
    obtain ⟨c3, c4⟩ := est_top hp
      (Nat.le_trans (Nat.le_mul_of_pos_right _ (Nat.zero_lt_of_lt hc)) (Nat.le_add_left _ r0))
      (Nat.le_of_lt c2) hwlolt hrlolt
    have e : val W (llo.drop (lhsLo.length - rhs.length)) + 2 ^ (W * (rhs.length - 2)) * (l2 + 2 ^ W * l1)
          + lhsTop * (2 ^ (W * (rhs.length - 2)) * 2 ^ W * 2 ^ W)
        = val W (llo.drop (lhsLo.length - rhs.length))
          + 2 ^ (W * (rhs.length - 2)) * (l2 + 2 ^ W * (l1 + 2 ^ W * lhsTop)) := by ring
    refine ⟨_, ?_, c2, e ▸ c3, e ▸ c4⟩
    simp only [hc, if_true, bind, Except.bind, div3by2_ok W _ _ _ c1, pure, Except.pure]
  · have hc' : r1 ≤ lhsTop := Nat.le_of_not_lt hc
    have hB : 2 ^ W = (2 ^ W - 1) + 1 := (Nat.sub_add_cancel hp).symm
    refine ⟨2 ^ W - 1, ?_, Nat.sub_lt hp Nat.one_pos, ?_, ?_⟩
    · simp only [hc, if_false, pure, Except.pure]
    · rw [← hB, ← hPn, ← hvb, ← hvw]
      exact Nat.lt_of_lt_of_eq hA (Nat.mul_comm _ _)
    · have := est_case2 (2 ^ W - 1) (2 ^ (W * (rhs.length - 2))) l1 l2 lhsTop r0 r1
        (val W (llo.drop (lhsLo.length - rhs.length))) (val W rlo) (Nat.le_sub_one_of_lt hr0) hc' hrlolt
        (by rw [← hB]; exact hr1n)
      rwa [← hB] at this

/-- `div_rem_highest_word`: one exact quotient word of the (n+1)-word window by the normalised
    divisor, remainder in the window -/
theorem divRemHighestWord_spec (W : Nat) (hW : 1 ≤ W) (lhsTop : Nat) (lhsLo rhs : List Nat)
    (hn : 2 ≤ rhs.length) (hL : rhs.length ≤ lhsLo.length)
    (hlo : IsWords W lhsLo) (hr : IsWords W rhs)
    (hnorm : 2 ^ (W * rhs.length) ≤ 2 * val W rhs)
    (hA : val W (lhsLo.drop (lhsLo.length - rhs.length)) + lhsTop * 2 ^ (W * rhs.length)
        < val W rhs * 2 ^ W) :
    ∃ q win', divRemHighestWord W lhsTop lhsLo rhs (highestDword W rhs)
        = .ok (q, lhsLo.take (lhsLo.length - rhs.length) ++ win') ∧
      q < 2 ^ W ∧ win'.length = rhs.length ∧ IsWords W win' ∧ val W win' < val W rhs ∧
      q * val W rhs + val W win'
        = val W (lhsLo.drop (lhsLo.length - rhs.length)) + lhsTop * 2 ^ (W * rhs.length) := by
  obtain ⟨qh, e, hq, f1, f2⟩ := qEstimate_spec W hW lhsTop lhsLo rhs hn hL hlo hr hnorm hA
  obtain ⟨q, win', e2, hle, r1, r2, r3, r4⟩ := correctStep_spec W lhsTop qh lhsLo rhs hL hlo hr hq f1 f2
  refine ⟨q, win', ?_, Nat.lt_of_le_of_lt hle hq, r1, r2, r3, r4⟩
  simp only [divRemHighestWord, e, bind, Except.bind, e2]

-- ------------------------------------------------------------------ Knuth D: the loop

/-- the `while rem.len() > n` loop: exact quotient words and remainder -/
theorem simpleLoop_spec (W : Nat) (hW : 1 ≤ W) (rhs : List Nat) (hn : 2 ≤ rhs.length)
    (hr : IsWords W rhs) (hnorm : 2 ^ (W * rhs.length) ≤ 2 * val W rhs) (k : Nat) (lhs : List Nat)
    (hlen : lhs.length = rhs.length + k) (hl : IsWords W lhs)
    (hinv : val W (lhs.drop k) < val W rhs) :
    ∃ out, simpleLoop W rhs (highestDword W rhs) k lhs = .ok out ∧ out.length = lhs.length ∧
      IsWords W out ∧ val W (out.take rhs.length) < val W rhs ∧
      val W (out.drop rhs.length) * val W rhs + val W (out.take rhs.length) = val W lhs := by
  induction k generalizing lhs with
  | zero =>
    refine ⟨lhs, by simp [simpleLoop], rfl, hl, ?_, ?_⟩
    · rw [List.take_of_length_le (by omega)]; simpa using hinv
    · rw [List.take_of_length_le (by omega), List.drop_of_length_le (by omega)]; simp
  | succ k ih =>
    obtain ⟨lo, top, hsplit, hgd, htk, hlol⟩ := split_last1 lhs (by omega)
    have hlo : IsWords W lo := htk ▸ hl.take _
    have hlolen : lo.length = rhs.length + k := by omega
    have hk : lo.length - rhs.length = k := by omega
    -- the precondition of div_rem_highest_word: the window's top `n` words are below the divisor
    have hdk : lo.drop k = lo[k]'(by omega) :: lo.drop (k + 1) := List.drop_eq_getElem_cons (by omega)
    have hwk : lo[k]'(by omega) < 2 ^ W := hlo _ (List.getElem_mem _)
    have hd1 : lhs.drop (k + 1) = lo.drop (k + 1) ++ [top] :=
      (congrArg (List.drop _) hsplit).trans (List.drop_append_of_le_length (by omega))
    have hl1 : (lo.drop (k + 1)).length = rhs.length - 1 := by simp only [List.length_drop]; omega
    rw [hd1, val_append_one, hl1] at hinv
    have hA : val W (lo.drop (lo.length - rhs.length)) + top * 2 ^ (W * rhs.length)
        < val W rhs * 2 ^ W := by
      have hPn : 2 ^ (W * rhs.length) = 2 ^ W * 2 ^ (W * (rhs.length - 1)) := by
        rw [← pow_mul_succ, Nat.sub_add_cancel (by omega)]
      rw [hk, hdk, val_cons, hPn]
      calc _ = lo[k] + 2 ^ W * (val W (lo.drop (k + 1)) + 2 ^ (W * (rhs.length - 1)) * top) := by ring
        _ < 2 ^ W * val W rhs := add_mul_lt hwk hinv
        _ = _ := Nat.mul_comm _ _
    obtain ⟨q, win', e, hq, hwl, hww, hwlt, hweq⟩ :=
      divRemHighestWord_spec W hW top lo rhs hn (by omega) hlo hr hnorm hA
    rw [hk] at e hweq
    -- recursion on the shrunk remainder
    have htkl : (lo.take k).length = k := length_take_of_le (by omega)
    obtain ⟨out', e2, o1, o2, o3, o4⟩ := ih (lo.take k ++ win')
      (by rw [List.length_append, htkl, hwl]; omega) (IsWords.append (hlo.take _) hww)
      (by rw [List.drop_left' htkl]; exact hwlt)
    have ho1 : out'.length = rhs.length + k := by
      rw [o1, List.length_append, htkl, hwl, Nat.add_comm]
    have hno : rhs.length ≤ out'.length := ho1 ▸ Nat.le_add_right _ _
    refine ⟨out' ++ [q], ?_, ?_, IsWords.append o2 (IsWords.cons hq (IsWords.nil W)), ?_, ?_⟩
    · simp only [simpleLoop, hgd, htk, e, bind, Except.bind, e2, pure, Except.pure]
    · rw [List.length_append, ho1, hlen]; rfl
    · rw [List.take_append_of_le_length hno]; exact o3
    · have hdl : (out'.drop rhs.length).length = k := by
        rw [List.length_drop, ho1, Nat.add_sub_cancel_left]
      have hvl : val W lhs = val W lo + 2 ^ (W * (rhs.length + k)) * top := by
        conv => lhs; rw [hsplit]
        rw [val_append_one, hlolen]
      rw [List.take_append_of_le_length hno, List.drop_append_of_le_length hno, val_append_one, hdl, hvl,
        take_drop_val W lo k (hlolen ▸ Nat.le_add_left _ _), Nat.add_comm rhs.length, pow_add_len]
      rw [val_append, htkl] at o4
      linear_combination o4 + 2 ^ (W * k) * hweq

/-- contract of an in-place division of `lhs` by the normalised `rhs`:
    `out = [lhs % rhs, (lhs / rhs) mod B^(m−n)]`, `c` = the quotient's carry (≤ 1) -/
def InPlaceOk (W : Nat) (lhs rhs : List Nat) (res : Except PanicKind (List Nat × Nat)) : Prop :=
  ∃ out c, res = .ok (out, c) ∧ out.length = lhs.length ∧ IsWords W out ∧ c ≤ 1 ∧
    val W (out.take rhs.length) < val W rhs ∧
    (val W (out.drop rhs.length) + c * 2 ^ (W * (lhs.length - rhs.length))) * val W rhs
      + val W (out.take rhs.length) = val W lhs

/-- `simple::div_rem_in_place`: lhs becomes [lhs % rhs, lhs / rhs], the quotient carry is the
    comparison of the top words with the divisor -/
theorem simpleDivRemInPlace_spec (W : Nat) (hW : 1 ≤ W) (lhs rhs : List Nat) (hn : 2 ≤ rhs.length)
    (hm : rhs.length ≤ lhs.length) (hl : IsWords W lhs) (hr : IsWords W rhs)
    (hnorm : 2 ^ (W * rhs.length) ≤ 2 * val W rhs) :
    InPlaceOk W lhs rhs (simpleDivRemInPlace W lhs rhs (highestDword W rhs)) := by
  have htl : (lhs.drop (lhs.length - rhs.length)).length = rhs.length := by
    simp only [List.length_drop]; omega
  have htw : IsWords W (lhs.drop (lhs.length - rhs.length)) := hl.drop _
  have hlw : IsWords W (lhs.take (lhs.length - rhs.length)) := hl.take _
  have hll : (lhs.take (lhs.length - rhs.length)).length = lhs.length - rhs.length :=
    length_take_of_le (Nat.sub_le _ _)
  have hcmp := cmpSameLen_spec W _ rhs htl htw hr
  have hvl := take_drop_val W lhs (lhs.length - rhs.length) (Nat.sub_le _ _)
  have h1 : ¬ rhs.length < 2 := by omega
  have h2 : ¬ lhs.length < rhs.length := by omega
  by_cases hge : val W rhs ≤ val W (lhs.drop (lhs.length - rhs.length))
  · -- quotient carry: subtract rhs from the top words first
    have hc : (cmpSameLen (lhs.drop (lhs.length - rhs.length)) rhs != .lt) = true := by
      rw [hcmp]
      rcases Nat.lt_or_eq_of_le hge with h | h
      · rw [Nat.compare_eq_gt.mpr h]; rfl
      · rw [Nat.compare_eq_eq.mpr h.symm]; rfl
    have ⟨s1, s2, s3, s4⟩ := subSameLen_spec W _ rhs 0 htw hr htl (Nat.zero_le 1)
    rw [htl] at s1 s2
    have hslt : val W (subSameLen W (lhs.drop (lhs.length - rhs.length)) rhs 0).1 < 2 ^ (W * rhs.length) := by
      have := val_lt W _ s3; rwa [s2] at this
    have hb0 : (subSameLen W (lhs.drop (lhs.length - rhs.length)) rhs 0).2 = 0 := by
      rcases Nat.eq_zero_or_pos (subSameLen W (lhs.drop (lhs.length - rhs.length)) rhs 0).2 with h | h
      · exact h
      · have := Nat.mul_le_mul_left (2 ^ (W * rhs.length)) h
        omega
    rw [hb0] at s1
    have htlt : val W (lhs.drop (lhs.length - rhs.length)) < 2 ^ (W * rhs.length) := by
      have := val_lt W _ htw; rwa [htl] at this
    obtain ⟨out, e, o1, o2, o3, o4⟩ := simpleLoop_spec W hW rhs hn hr hnorm (lhs.length - rhs.length)
      (lhs.take (lhs.length - rhs.length) ++ (subSameLen W (lhs.drop (lhs.length - rhs.length)) rhs 0).1)
      (by rw [List.length_append, hll, s2]; omega) (IsWords.append hlw s3)
      (by rw [List.drop_left' hll]; omega)
    refine ⟨out, 1, ?_, by rw [o1, List.length_append, hll, s2]; omega, o2, Nat.le_refl _, o3, ?_⟩
    · simp only [simpleDivRemInPlace, h1, h2, if_false, hc, if_true, e, bind, Except.bind, pure,
        Except.pure]
    · rw [val_append, hll] at o4
      rw [hvl]
      linear_combination o4 + 2 ^ (W * (lhs.length - rhs.length)) * s1
  · have hlt : val W (lhs.drop (lhs.length - rhs.length)) < val W rhs := Nat.lt_of_not_le hge
    have hc : (cmpSameLen (lhs.drop (lhs.length - rhs.length)) rhs != .lt) = false := by
      rw [hcmp, Nat.compare_eq_lt.mpr hlt]; rfl
    obtain ⟨out, e, o1, o2, o3, o4⟩ := simpleLoop_spec W hW rhs hn hr hnorm (lhs.length - rhs.length)
      (lhs.take (lhs.length - rhs.length) ++ lhs.drop (lhs.length - rhs.length))
      (by rw [List.length_append, hll, htl]; omega) (IsWords.append hlw htw)
      (by rw [List.drop_left' hll]; exact hlt)
    refine ⟨out, 0, ?_, by rw [o1, List.take_append_drop], o2, Nat.zero_le 1, o3, ?_⟩
    · simp only [simpleDivRemInPlace, h1, h2, if_false, hc, Bool.false_eq_true, e, bind, Except.bind,
        pure, Except.pure]
    · rw [List.take_append_drop] at o4
      simpa using o4

end Dashu.Model.Div
