import Dashu.Proofs.Int.Div.Knuth
import Dashu.Proofs.Int.Mul
/-
  Division layer, part 4: Burnikel–Ziegler division (`div/divide_conquer.rs`) over the contract of
  `mul::add_signed_mul` that `Proofs/Int/Mul` proves (`addSignedMul_contract`, whence `4 ≤ W`), and
  the algorithm choice of `div::div_rem_in_place`.  Both `same_len` and the block loop are two
  in-place dividers composed (`bz_two_stage`, `carry_zero`).
-/
namespace Dashu.Model.Div
open Dashu.Model

-- ------------------------------------------------------------------ Burnikel–Ziegler

/-- a dividend `L + Pk·T` whose high part `T` is below the divisor has a quotient below `Pk` -/
theorem carry_zero {Q c Pk b R L T : Nat} (hL : L < Pk) (hT : T < b)
    (h : (Q + c * Pk) * b + R = L + Pk * T) : c = 0 := by
  rcases Nat.eq_zero_or_pos c with hc | hc
  · exact hc
  · have h1 : Pk * T + Pk ≤ Pk * b := Nat.mul_le_mul_left _ hT
    have h2 : Pk * b ≤ (Q + c * Pk) * b :=
      Nat.mul_le_mul_right _ (Nat.le_trans (Nat.le_mul_of_pos_left _ hc) (Nat.le_add_left _ _))
    omega

/-- the top `m` words of a normalised divisor are a normalised divisor -/
theorem norm_drop (W : Nat) (hW : 1 ≤ W) (rhs : List Nat) (k : Nat) (hk : k < rhs.length)
    (hr : IsWords W rhs) (hnorm : 2 ^ (W * rhs.length) ≤ 2 * val W rhs) :
    2 ^ (W * (rhs.drop k).length) ≤ 2 * val W (rhs.drop k) := by
  rw [take_drop_val W rhs k (Nat.le_of_lt hk), pow_mul_split W (Nat.le_of_lt hk)] at hnorm
  have := norm_hi (val_take_lt W hr (Nat.le_of_lt hk)) hnorm
  have heven := pow_two_mul_half (W * (rhs.length - k)) (Nat.mul_pos hW (Nat.sub_pos_of_lt hk))
  rw [List.length_drop]
  omega

theorem highestDword_drop (W : Nat) (rhs : List Nat) (k : Nat) (hk : k + 2 ≤ rhs.length) :
    highestDword W (rhs.drop k) = highestDword W rhs := by
  simp only [highestDword, List.length_drop, List.getD_eq_getElem?_getD, List.getElem?_drop]
  have h1 : k + (rhs.length - k - 2) = rhs.length - 2 := by omega
  have h2 : k + (rhs.length - k - 1) = rhs.length - 1 := by omega
  rw [h1, h2]

/-- `mul::add_signed_mul(c, Negative, a, b)` as mirrored and proved in C01 (`addSignedMul_contract`):
    `c − a·b` modulo `B^len(c)` with the signed carry -/
theorem addSignedMul_neg_spec (W : Nat) (hW4 : 4 ≤ W) (fuel : Nat) (c a b : List Nat)
    (hl : c.length = a.length + b.length) (hc : IsWords W c) (ha : IsWords W a) (hb : IsWords W b) :
    (addSignedMul W fuel c true a b).1.length = c.length ∧ IsWords W (addSignedMul W fuel c true a b).1 ∧
    (val W (addSignedMul W fuel c true a b).1 : Int)
        + (addSignedMul W fuel c true a b).2 * ((2 ^ (W * c.length) : Nat) : Int)
      = (val W c : Int) - (val W a : Int) * (val W b : Int) := by
  obtain ⟨h1, h2, h3⟩ := addSignedMul_contract W hW4 fuel c true a b hl hc ha hb
  refine ⟨h1, h2, ?_⟩
  simp only [sgn, if_true] at h3
  push_cast at h3 ⊢
  linear_combination h3

/-- a signed overflow word `ro` above a digit `r < P` vanishes when the total lies in `[0, P)` -/
theorem overflow_zero {r ro P b : Int} (h0 : 0 ≤ r) (hr : r < P) (hb : b ≤ P)
    (hlt : r + ro * P < b) (hge : 0 ≤ r + ro * P) : ro = 0 := by
  rcases Int.lt_trichotomy ro 0 with h | h | h
  · have : ro * P ≤ -1 * P := Int.mul_le_mul_of_nonneg_right (by omega) (by omega)
    omega
  · exact h
  · have : 1 * P ≤ ro * P := Int.mul_le_mul_of_nonneg_right (by omega) (by omega)
    omega

/-- the correction loop of `small_quotient`: given the invariant `Q'·b + T' = a`, `T' < b` and
    enough fuel (`T' + f·b ≥ 0`), it ends with `rem_overflow = 0`, an exact remainder, and the
    quotient decremented accordingly -/
theorem bzFix_spec (W : Nat) (rhs : List Nat) (hr : IsWords W rhs) (aval : Int) (m : Nat) :
    ∀ (f : Nat) (rem q : List Nat) (ro qo : Int), rem.length = rhs.length → IsWords W rem →
      q.length = m → IsWords W q →
      ((val W q : Int) + qo * ((2 ^ (W * m) : Nat) : Int)) * (val W rhs : Int)
        + ((val W rem : Int) + ro * ((2 ^ (W * rhs.length) : Nat) : Int)) = aval →
      (val W rem : Int) + ro * ((2 ^ (W * rhs.length) : Nat) : Int) < (val W rhs : Int) →
      0 ≤ (val W rem : Int) + ro * ((2 ^ (W * rhs.length) : Nat) : Int) + (f : Int) * (val W rhs : Int) →
      ∃ rem3 q3 qo3, bzFix W rhs f rem q ro qo = .ok (rem3, q3, 0, qo3) ∧
        rem3.length = rhs.length ∧ IsWords W rem3 ∧ q3.length = m ∧ IsWords W q3 ∧
        val W rem3 < val W rhs ∧
        ((val W q3 : Int) + qo3 * ((2 ^ (W * m) : Nat) : Int)) * (val W rhs : Int) + (val W rem3 : Int)
          = aval := by
  have hblt : (val W rhs : Int) ≤ ((2 ^ (W * rhs.length) : Nat) : Int) :=
    Int.ofNat_le.mpr (Nat.le_of_lt (val_lt W rhs hr))
  -- when the total is non-negative the loop stops and the overflow word is zero
  have stop : ∀ (rem q : List Nat) (ro qo : Int) (f : Nat), rem.length = rhs.length → IsWords W rem →
      q.length = m → IsWords W q →
      ((val W q : Int) + qo * ((2 ^ (W * m) : Nat) : Int)) * (val W rhs : Int)
        + ((val W rem : Int) + ro * ((2 ^ (W * rhs.length) : Nat) : Int)) = aval →
      (val W rem : Int) + ro * ((2 ^ (W * rhs.length) : Nat) : Int) < (val W rhs : Int) →
      0 ≤ (val W rem : Int) + ro * ((2 ^ (W * rhs.length) : Nat) : Int) → ¬ ro < 0 →
      ∃ rem3 q3 qo3, bzFix W rhs f rem q ro qo = .ok (rem3, q3, 0, qo3) ∧
        rem3.length = rhs.length ∧ IsWords W rem3 ∧ q3.length = m ∧ IsWords W q3 ∧
        val W rem3 < val W rhs ∧
        ((val W q3 : Int) + qo3 * ((2 ^ (W * m) : Nat) : Int)) * (val W rhs : Int) + (val W rem3 : Int)
          = aval := by
    intro rem q ro qo f hl hw hql hqw heq hlt hge hneg
    have hrl : (val W rem : Int) < ((2 ^ (W * rhs.length) : Nat) : Int) :=
      Int.ofNat_lt.mpr (hl ▸ val_lt W rem hw)
    obtain rfl := overflow_zero (Int.natCast_nonneg _) hrl hblt hlt hge
    rw [Int.zero_mul, Int.add_zero] at heq hlt
    exact ⟨rem, q, qo, by cases f <;> simp [bzFix], hl, hw, hql, hqw, Int.ofNat_lt.mp hlt, heq⟩
  intro f
  induction f with
  | zero =>
    intro rem q ro qo hl hw hql hqw heq hlt hge
    have hge0 : 0 ≤ (val W rem : Int) + ro * ((2 ^ (W * rhs.length) : Nat) : Int) := by simpa using hge
    refine stop rem q ro qo 0 hl hw hql hqw heq hlt hge0 fun hneg => ?_
    have := Int.mul_le_mul_of_nonneg_right (show ro ≤ -1 by omega) (Int.natCast_nonneg (2 ^ (W * rhs.length)))
    have := Int.ofNat_lt.mpr (hl ▸ val_lt W rem hw)
    omega
  | succ f ih =>
    intro rem q ro qo hl hw hql hqw heq hlt hge
    by_cases hneg : ro < 0
    · -- one more correction: rem += rhs, q -= 1
      have ad := addSameLen_spec W rem rhs 0 hw hr hl (Nat.zero_le 1)
      generalize had : addSameLen W rem rhs 0 = p at ad
      obtain ⟨rem', c⟩ := p
      obtain ⟨d1, d2, d3, _⟩ := ad
      have so := subOne_spec W q hqw
      generalize hso : subOne W q = p2 at so
      obtain ⟨q', bw⟩ := p2
      obtain ⟨o1, o2, o3, _⟩ := so
      simp only [hl] at d1 d2
      simp only [hql] at o1 o2
      have e1 : (val W rem' : Int) + ((2 ^ (W * rhs.length) : Nat) : Int) * (c : Int)
          = (val W rem : Int) + (val W rhs : Int) + 0 := by exact_mod_cast d1
      have e2 : (val W q' : Int) + 1 = (val W q : Int) + ((2 ^ (W * m) : Nat) : Int) * (bw : Int) := by
        exact_mod_cast o1
      have hrl : (val W rem : Int) < ((2 ^ (W * rhs.length) : Nat) : Int) :=
        Int.ofNat_lt.mpr (hl ▸ val_lt W rem hw)
      have hroP : ro * ((2 ^ (W * rhs.length) : Nat) : Int) ≤ -1 * ((2 ^ (W * rhs.length) : Nat) : Int) :=
        Int.mul_le_mul_of_nonneg_right (by omega) (Int.natCast_nonneg _)
      rw [Nat.cast_succ] at hge
      obtain ⟨rem3, q3, qo3, e, r1, r2, r3, r4, r5, r6⟩ :=
        ih rem' q' (ro + (c : Int)) (qo - (bw : Int)) d2 d3 o2 o3
          (by linear_combination heq + (val W rhs : Int) * e2 + e1)
          (by linarith only [e1, hroP, hrl])
          (by linarith only [e1, hge])
      refine ⟨rem3, q3, qo3, ?_, r1, r2, r3, r4, r5, r6⟩
      simp only [bzFix, hneg, if_true, had, hso, e]
    · have hge0 : 0 ≤ (val W rem : Int) + ro * ((2 ^ (W * rhs.length) : Nat) : Int) :=
        Int.add_nonneg (Int.natCast_nonneg _) (Int.mul_nonneg (Int.not_lt.mp hneg) (Int.natCast_nonneg _))
      exact stop rem q ro qo (f + 1) hl hw hql hqw heq hlt hge0 hneg

/-- cutting `a ++ out` at `n` places beyond `a` -/
theorem append_cut (a out : List Nat) {j n : Nat} (hj : j = a.length + n) :
    (a ++ out).take j = a ++ out.take n ∧ (a ++ out).drop j = out.drop n := by
  subst hj
  exact ⟨List.take_length_add_append .., List.drop_length_add_append ..⟩

/-- two in-place divisions composed, as in `same_len` and in the block loop: the top part
    `lhs.drop k` is divided first (`r1`), then `D2` divides the low `k` words below the first
    remainder (`j = k + n` words); the second quotient has no carry because that dividend's high
    part is a remainder -/
theorem bz_two_stage (W : Nat) (lhs rhs : List Nat) (k j : Nat) (msg : PanicKind)
    (r1 : Except PanicKind (List Nat × Nat)) (D2 : List Nat → Except PanicKind (List Nat × Nat))
    (hn : 1 ≤ rhs.length) (hj : j = k + rhs.length) (hk : j ≤ lhs.length) (hl : IsWords W lhs)
    (h1 : InPlaceOk W (lhs.drop k) rhs r1)
    (h2 : ∀ l2 : List Nat, l2.length = k + rhs.length → IsWords W l2 →
      (k = 0 → val W l2 < val W rhs) → InPlaceOk W l2 rhs (D2 l2)) :
    InPlaceOk W lhs rhs (do
      let (hi', o) ← r1
      let (lo', oLo) ← D2 ((lhs.take k ++ hi').take j)
      if oLo ≠ 0 then .error msg else pure (lo' ++ (lhs.take k ++ hi').drop j, o)) := by
  obtain ⟨out1, o, rfl, a1, a2, a3, a4, a5⟩ := h1
  rw [List.length_drop] at a1 a5
  have hkl : k ≤ lhs.length := by omega
  have htl : (lhs.take k).length = k := length_take_of_le hkl
  obtain ⟨htk, hdk⟩ := append_cut (lhs.take k) out1 (j := j) (n := rhs.length) (by omega)
  have hl2l : (lhs.take k ++ out1.take rhs.length).length = k + rhs.length := by
    rw [List.length_append, htl, List.length_take]; omega
  obtain ⟨out2, oLo, e2, b1, b2, _, b4, b5⟩ := h2 _ hl2l (IsWords.append (hl.take _) (a2.take _))
    (by rintro rfl; simpa using a4)
  rw [hl2l] at b1
  rw [hl2l, Nat.add_sub_cancel, val_append, htl] at b5
  obtain rfl := carry_zero (val_take_lt W hl hkl) a4 b5
  have hn2 : rhs.length ≤ out2.length := b1 ▸ Nat.le_add_left _ _
  have ht : (out2 ++ out1.drop rhs.length).take rhs.length = out2.take rhs.length :=
    List.take_append_of_le_length hn2
  have hd : (out2 ++ out1.drop rhs.length).drop rhs.length = out2.drop rhs.length ++ out1.drop rhs.length :=
    List.drop_append_of_le_length hn2
  have hdl : (out2.drop rhs.length).length = k := by rw [List.length_drop, b1, Nat.add_sub_cancel]
  refine ⟨out2 ++ out1.drop rhs.length, o, ?_,
    by rw [List.length_append, b1, List.length_drop, a1, Nat.sub_sub, Nat.add_sub_cancel' (hj ▸ hk)],
    IsWords.append b2 (a2.drop _), a3, by rw [ht]; exact b4, ?_⟩
  · simp only [bind, Except.bind, htk, e2, hdk, ne_eq, not_true_eq_false, if_false, pure, Except.pure]
  · have hP : 2 ^ (W * (lhs.length - rhs.length)) = 2 ^ (W * k) * 2 ^ (W * (lhs.length - k - rhs.length)) := by
      rw [← pow_add_len]; congr 2; omega
    rw [ht, hd, val_append, hdl, take_drop_val W lhs k hkl, hP]
    linear_combination b5 + 2 ^ (W * k) * a5

theorem bz_state1 (vt1 vt1d vt vrem1 ro1 bw Pm Pk Pn vrem vq rlo : Int)
    (s3 : vrem1 + ro1 * Pn = vrem - vq * rlo) (e5 : vrem1 = vt1 + Pm * vt1d)
    (e4 : vt + rlo = vt1d + Pk * bw) (e6 : Pn = Pm * Pk) :
    vt1 + Pm * vt + (ro1 - bw) * Pn = vrem - (vq + 1 * Pm) * rlo := by
  subst e6 e5
  linear_combination s3 + Pm * e4

theorem bz_qo_bounds (vq qo3 Pm Pn b vr va : Int) (hPm : 0 < Pm) (hb : 0 < b)
    (hq0 : 0 ≤ vq) (hq : vq < Pm) (hr0 : 0 ≤ vr) (hr : vr < b) (ha0 : 0 ≤ va) (ha : va < Pm * Pn)
    (hn : Pn ≤ 2 * b) (heq : (vq + qo3 * Pm) * b + vr = va) : 0 ≤ qo3 ∧ qo3 ≤ 1 := by
  constructor
  · by_contra hcon
    have h1 : qo3 ≤ -1 := by omega
    have h2 : qo3 * Pm ≤ -1 * Pm := Int.mul_le_mul_of_nonneg_right h1 (by omega)
    have h3 : (vq + qo3 * Pm) * b ≤ -1 * b := Int.mul_le_mul_of_nonneg_right (by omega) (by omega)
    omega
  · by_contra hcon
    have h1 : 2 ≤ qo3 := by omega
    have h2 : 2 * Pm ≤ qo3 * Pm := Int.mul_le_mul_of_nonneg_right h1 (by omega)
    have h3 : 2 * Pm * b ≤ (vq + qo3 * Pm) * b := Int.mul_le_mul_of_nonneg_right (by omega) (by omega)
    have h4 : Pm * Pn ≤ Pm * (2 * b) := Int.mul_le_mul_of_nonneg_left hn (by omega)
    have h5 : Pm * (2 * b) = 2 * Pm * b := by ring
    omega

theorem bz_T_ge (vq qo Pm Pk Pn rlo b : Nat) (hq : vq < Pm) (hqo : qo ≤ 1) (hr : rlo < Pk)
    (hPn : Pn = Pm * Pk) (hn : Pn ≤ 2 * b) : (vq + qo * Pm) * rlo ≤ 4 * b := by
  have h1 : (vq + qo * Pm) * rlo ≤ (2 * Pm) * Pk := by
    apply Nat.mul_le_mul
    · have : qo * Pm ≤ 1 * Pm := Nat.mul_le_mul_right _ hqo
      omega
    · omega
  have h2 : (2 * Pm) * Pk ≤ 4 * b := by
    rw [Nat.mul_assoc, ← hPn]; omega
  exact Nat.le_trans h1 h2

/-- the state of `small_quotient` before its correction loop, in terms of the split operands
    `a = Alo + Pk·ahi`, `b = rlo + Pk·rhi`: with `Qe = vq + qo·Pm` the quotient of the high parts
    (`Qe·rhi + remhi = ahi`), the signed total `T = (Alo + Pk·remhi) − Qe·rlo` satisfies
    `Qe·b + T = a`, lies below `b`, and is at least `−4b` -/
theorem bz_small_inv {Alo Pk Pm Pn rlo rhi ahi vq qo remhi vrem a b : Nat} {T : Int}
    (hAlo : Alo < Pk) (hrlo : rlo < Pk) (ha : a = Alo + Pk * ahi) (hb : b = rlo + Pk * rhi)
    (hvrem : vrem = Alo + Pk * remhi) (a5 : (vq + qo * Pm) * rhi + remhi = ahi) (a4 : remhi < rhi)
    (hvq : vq < Pm) (hqo : qo ≤ 1) (hPn : Pn = Pm * Pk) (hn : Pn ≤ 2 * b)
    (hT : T = (vrem : Int) - ((vq : Int) + (qo : Int) * (Pm : Int)) * (rlo : Int)) :
    ((vq : Int) + (qo : Int) * (Pm : Int)) * (b : Int) + T = (a : Int) ∧ T < (b : Int) ∧
      0 ≤ T + ((4 : Nat) : Int) * (b : Int) := by
  have hlt : (vrem : Int) < (b : Int) := Int.ofNat_lt.mpr <| by
    rw [hvrem, hb]; exact Nat.lt_of_lt_of_le (add_mul_lt hAlo a4) (Nat.le_add_left _ _)
  have h4 : ((vq : Int) + (qo : Int) * (Pm : Int)) * (rlo : Int) ≤ 4 * (b : Int) := by
    exact_mod_cast bz_T_ge vq qo Pm Pk Pn rlo b hvq hqo hrlo hPn hn
  have h0 : (0 : Int) ≤ ((vq : Int) + (qo : Int) * (Pm : Int)) * (rlo : Int) := by positivity
  refine ⟨?_, by omega, by rw [Nat.cast_ofNat]; omega⟩
  subst hT ha hb hvrem a5
  push_cast
  ring

/-- `small_quotient` after the recursive call: `rem -= (q + qo·B^m)·rhs_lo` in two steps (the
    product by `add_signed_mul`, then `rhs_lo·B^m` when the quotient overflowed), with the signed
    overflow word of the result -/
theorem bzSubLo_spec (W : Nat) (hW4 : 4 ≤ W) (rem q rlo rem1 t : List Nat) (ro1 : Int) (qo m k bw : Nat)
    (hrem : IsWords W rem) (hq : IsWords W q) (hrlo : IsWords W rlo) (hl : rem.length = m + k)
    (hql : q.length = m) (hkl : rlo.length = k) (hqo : qo ≤ 1)
    (h1 : addSignedMul W rem.length rem true q rlo = (rem1, ro1))
    (h2 : subSameLen W (rem1.drop m) rlo 0 = (t, bw)) :
    ∃ rem2 ro2, (if qo ≠ 0 then (rem1.take m ++ t, ro1 - (bw : Int)) else (rem1, ro1)) = (rem2, ro2) ∧
      rem2.length = rem.length ∧ IsWords W rem2 ∧
      (val W rem2 : Int) + ro2 * ((2 ^ (W * rem.length) : Nat) : Int)
        = (val W rem : Int)
          - ((val W q : Int) + (qo : Int) * ((2 ^ (W * m) : Nat) : Int)) * (val W rlo : Int) := by
  have sm := addSignedMul_neg_spec W hW4 rem.length rem q rlo (by omega) hrem hq hrlo
  simp only [h1] at sm
  obtain ⟨s1, s2, s3⟩ := sm
  by_cases hq0 : qo = 0
  · subst hq0
    refine ⟨rem1, ro1, by simp, s1, s2, ?_⟩
    rw [s3]; push_cast; ring
  · obtain rfl : qo = 1 := by omega
    have h1d : (rem1.drop m).length = rlo.length := by rw [List.length_drop, s1]; omega
    have ss := subSameLen_spec W (rem1.drop m) rlo 0 (s2.drop _) hrlo h1d (Nat.zero_le 1)
    simp only [h2] at ss
    obtain ⟨t1, t2, t3, _⟩ := ss
    have h1t : (rem1.take m).length = m := length_take_of_le (by omega)
    refine ⟨rem1.take m ++ t, ro1 - (bw : Int), by simp, ?_, IsWords.append (s2.take _) t3, ?_⟩
    · rw [List.length_append, h1t, t2, h1d]; omega
    · have e4 : (val W t : Int) + (val W rlo : Int)
          = (val W (rem1.drop m) : Int) + ((2 ^ (W * k) : Nat) : Int) * (bw : Int) := by
        simp only [h1d, hkl] at t1
        exact_mod_cast t1
      have e5 : (val W rem1 : Int)
          = (val W (rem1.take m) : Int) + ((2 ^ (W * m) : Nat) : Int) * (val W (rem1.drop m) : Int) := by
        exact_mod_cast take_drop_val W rem1 m (by omega)
      rw [val_append, h1t]
      push_cast
      have hPn : 2 ^ (W * rem.length) = 2 ^ (W * m) * 2 ^ (W * k) := by rw [hl, pow_add_len]
      exact bz_state1 _ _ _ _ _ _ _ _ _ _ _ _ s3 e5 e4 (by exact_mod_cast hPn)

/-- `same_len` at fuel `f + 1` from `small_quotient` at fuel `f`: two 3n/2-by-n divisions composed -/
theorem bzSameLen_step (W fuel : Nat)
    (ihQ : ∀ lhs rhs : List Nat, 2 * rhs.length ≤ fuel → 2 ≤ rhs.length → rhs.length ≤ lhs.length →
      lhs.length - rhs.length < rhs.length → IsWords W lhs → IsWords W rhs →
      2 ^ (W * rhs.length) ≤ 2 * val W rhs →
      InPlaceOk W lhs rhs (bzSmallQuotient W (highestDword W rhs) fuel lhs rhs))
    (lhs rhs : List Nat) (hf : 2 * rhs.length + 1 ≤ fuel + 1) (hn : thresholdSimple < rhs.length)
    (hlen : lhs.length = 2 * rhs.length) (hl : IsWords W lhs) (hr : IsWords W rhs)
    (hnorm : 2 ^ (W * rhs.length) ≤ 2 * val W rhs) :
    InPlaceOk W lhs rhs (bzSameLen W (highestDword W rhs) (fuel + 1) lhs rhs) := by
  have hts : 1 ≤ thresholdSimple := by decide
  have hcond : rhs.length > thresholdSimple ∧ lhs.length = 2 * rhs.length := ⟨hn, hlen⟩
  simp only [bzSameLen]
  rw [if_neg (not_not.mpr hcond)]
  have h2 : 2 ≤ rhs.length := Nat.le_trans (Nat.succ_le_succ hts) hn
  have hf' : 2 * rhs.length ≤ fuel := Nat.le_of_succ_le_succ hf
  exact bz_two_stage W lhs rhs (rhs.length / 2) (rhs.length + rhs.length / 2) _ _
    (fun l => bzSmallQuotient W (highestDword W rhs) fuel l rhs) (Nat.le_of_succ_le h2) (Nat.add_comm _ _)
    (by omega) hl
    (ihQ (lhs.drop (rhs.length / 2)) rhs hf' h2 (by rw [List.length_drop]; omega)
      (by rw [List.length_drop]; omega) (hl.drop _) hr hnorm)
    fun l2 h2l h2w _ => ihQ l2 rhs hf' h2 (h2l ▸ Nat.le_add_left _ _) (by omega) h2w hr hnorm

/-- `small_quotient` at fuel `f + 1` from `same_len` at fuel `f`: the quotient of the top `2m` words
    by the top `m` words of the divisor is corrected at most four times -/
theorem bzSmallQuotient_step (W : Nat) (hW : 1 ≤ W) (hW4 : 4 ≤ W) (fuel : Nat)
    (ihS : ∀ lhs rhs : List Nat, 2 * rhs.length + 1 ≤ fuel → thresholdSimple < rhs.length →
      lhs.length = 2 * rhs.length → IsWords W lhs → IsWords W rhs →
      2 ^ (W * rhs.length) ≤ 2 * val W rhs →
      InPlaceOk W lhs rhs (bzSameLen W (highestDword W rhs) fuel lhs rhs))
    (lhs rhs : List Nat) (hf : 2 * rhs.length ≤ fuel + 1) (hn : 2 ≤ rhs.length)
    (hm : rhs.length ≤ lhs.length) (hmn : lhs.length - rhs.length < rhs.length)
    (hl : IsWords W lhs) (hr : IsWords W rhs) (hnorm : 2 ^ (W * rhs.length) ≤ 2 * val W rhs) :
    InPlaceOk W lhs rhs (bzSmallQuotient W (highestDword W rhs) (fuel + 1) lhs rhs) := by
  have hts : 1 ≤ thresholdSimple := by decide
  have hc1 : rhs.length ≥ 2 ∧ lhs.length ≥ rhs.length := ⟨hn, hm⟩
  by_cases hsm : lhs.length - rhs.length ≤ thresholdSimple
  · simp only [bzSmallQuotient, hc1, not_true_eq_false, if_false, hmn, hsm, if_true]
    exact simpleDivRemInPlace_spec W hW lhs rhs hn hm hl hr hnorm
  · -- n = rhs.length, m = lhs.length - n, k = n - m
    generalize hmdef : lhs.length - rhs.length = m at *
    generalize hkdef : rhs.length - m = k at *
    have hlenl : lhs.length = m + rhs.length := by omega
    have hmk : m + k = rhs.length := by omega
    have hkn : k ≤ rhs.length := by omega
    have hkl : k ≤ lhs.length := by omega
    -- divisor split
    have hrd : (rhs.drop k).length = m := by rw [List.length_drop]; omega
    have hrt : (rhs.take k).length = k := length_take_of_le hkn
    have hnd := norm_drop W hW rhs k (by omega) hr hnorm
    -- recursive 2m / m division of the top words
    have hld : (lhs.drop k).length = 2 * m := by rw [List.length_drop]; omega
    obtain ⟨top', qo, e1, a1, a2, a3, a4, a5⟩ := ihS (lhs.drop k) (rhs.drop k)
      (by omega) (by omega) (by omega) (hl.drop _) (hr.drop _) hnd
    rw [highestDword_drop W rhs k (by omega)] at e1
    rw [hld] at a1
    rw [hrd] at a4 a5
    rw [hld, Nat.two_mul, Nat.add_sub_cancel] at a5
    -- the buffer after the recursive call: remainder words `rem`, quotient words `top'.drop m`
    have hltk : (lhs.take k).length = k := length_take_of_le hkl
    obtain ⟨hrem, hq⟩ := append_cut (lhs.take k) top' (j := rhs.length) (n := m)
      (by rw [hltk, ← hmk, Nat.add_comm])
    have hreml : (lhs.take k ++ top'.take m).length = rhs.length := by
      rw [List.length_append, hltk, length_take_of_le (a1 ▸ Nat.le_mul_of_pos_left m Nat.two_pos),
        Nat.add_comm, hmk]
    have hql : (top'.drop m).length = m := by rw [List.length_drop, a1, Nat.two_mul, Nat.add_sub_cancel]
    have hqw : IsWords W (top'.drop m) := a2.drop _
    have hqlt : val W (top'.drop m) < 2 ^ (W * m) := by
      have := val_lt W _ hqw; rwa [hql] at this
    -- rem -= (q + qo·B^m) * rhs_lo
    rcases hsm1 : addSignedMul W (lhs.take k ++ top'.take m).length (lhs.take k ++ top'.take m)
      true (top'.drop m) (rhs.take k) with ⟨rem1, ro1⟩
    rcases hss : subSameLen W (rem1.drop m) (rhs.take k) 0 with ⟨t, bw⟩
    obtain ⟨rem2, ro2, hst, r2l, r2w, r2e⟩ := bzSubLo_spec W hW4 _ _ _ rem1 t ro1 qo m k bw
      (IsWords.append (hl.take _) (a2.take _)) hqw (hr.take _) (by rw [hreml, hmk]) hql hrt a3 hsm1 hss
    rw [hreml] at r2l r2e
    have hPn : 2 ^ (W * rhs.length) = 2 ^ (W * m) * 2 ^ (W * k) := by rw [← pow_add_len, hmk]
    -- invariant of the loop: Qe * b + T = a,  T < b,  T + 4b ≥ 0
    obtain ⟨hinv, hTlt, hTge⟩ := bz_small_inv (val_take_lt W hl hkl) (val_take_lt W hr hkn)
      (take_drop_val W lhs k hkl) (take_drop_val W rhs k hkn)
      (by rw [val_append, hltk]) a5 a4 hqlt a3 hPn hnorm r2e
    obtain ⟨rem3, q3, qo3, e3, f1, f2, f3, f4, f5, f6⟩ :=
      bzFix_spec W rhs hr (val W lhs : Int) m 4 rem2 (top'.drop m) ro2 (qo : Int) r2l r2w hql hqw
        hinv hTlt hTge
    -- the final quotient carry is 0 or 1
    obtain ⟨g1, g2⟩ : 0 ≤ qo3 ∧ qo3 ≤ 1 := by
      have hbpos : 0 < val W rhs :=
        Nat.pos_of_ne_zero fun h => absurd (h ▸ hnorm) (Nat.not_le.mpr (Nat.two_pow_pos _))
      have hllt : val W lhs < 2 ^ (W * m) * 2 ^ (W * rhs.length) := by
        have := val_lt W lhs hl
        rwa [hlenl, pow_add_len] at this
      exact bz_qo_bounds _ _ ((2 ^ (W * m) : Nat) : Int) ((2 ^ (W * rhs.length) : Nat) : Int) _ _ _
        (Int.ofNat_lt.mpr (Nat.two_pow_pos (W * m)))
        (Int.ofNat_lt.mpr hbpos) (Int.natCast_nonneg _) (Int.ofNat_lt.mpr (f3 ▸ val_lt W q3 f4))
        (Int.natCast_nonneg _) (Int.ofNat_lt.mpr f5) (Int.natCast_nonneg _)
        (by exact_mod_cast hllt) (by exact_mod_cast hnorm) f6
    -- assemble
    have hok : ¬ ((0 : Int) ≠ 0 ∨ ¬ (0 ≤ qo3 ∧ qo3 ≤ 1)) := by simp [g1, g2]
    obtain ⟨c, hc, hcI, hcle⟩ : ∃ c : Nat, (if qo3 ≠ 0 then 1 else 0) = c ∧ (c : Int) = qo3 ∧ c ≤ 1 := by
      by_cases h0 : qo3 = 0
      · exact ⟨0, by simp [h0], by simp [h0], Nat.zero_le 1⟩
      · have : qo3 = 1 := by omega
        exact ⟨1, by simp [this], by simp [this], Nat.le_refl 1⟩
    refine ⟨rem3 ++ q3, c, ?_, by rw [List.length_append, f1, f3, hlenl, Nat.add_comm], IsWords.append f2 f4, hcle,
      ?_, ?_⟩
    · simp only [bzSmallQuotient]
      rw [if_neg (not_not.mpr hc1)]
      simp only [hmdef, hkdef]
      rw [if_neg (not_not.mpr hmn), if_neg hsm]
      simp only [bind, Except.bind, e1, hrem, hq, hsm1, hss, hst, e3, hok, if_false, pure, Except.pure, hc]
    · rw [List.take_left' f1]; exact f5
    · rw [List.take_left' f1, List.drop_left' f1, hmdef]
      exact_mod_cast hcI ▸ f6

/-- Burnikel–Ziegler, both mutually recursive halves, by induction on the recursion fuel -/
theorem bz_mutual (W : Nat) (hW : 1 ≤ W) (hW4 : 4 ≤ W) : ∀ fuel : Nat,
    (∀ lhs rhs : List Nat, 2 * rhs.length + 1 ≤ fuel → thresholdSimple < rhs.length →
      lhs.length = 2 * rhs.length → IsWords W lhs → IsWords W rhs →
      2 ^ (W * rhs.length) ≤ 2 * val W rhs →
      InPlaceOk W lhs rhs (bzSameLen W (highestDword W rhs) fuel lhs rhs)) ∧
    (∀ lhs rhs : List Nat, 2 * rhs.length ≤ fuel → 2 ≤ rhs.length → rhs.length ≤ lhs.length →
      lhs.length - rhs.length < rhs.length → IsWords W lhs → IsWords W rhs →
      2 ^ (W * rhs.length) ≤ 2 * val W rhs →
      InPlaceOk W lhs rhs (bzSmallQuotient W (highestDword W rhs) fuel lhs rhs)) := by
  intro fuel
  induction fuel with
  | zero => exact ⟨fun _ _ h => by omega, fun _ rhs h h2 => by omega⟩
  | succ fuel ih => exact ⟨bzSameLen_step W fuel ih.2, bzSmallQuotient_step W hW hW4 fuel ih.1⟩

/-- the block loop of `divide_conquer::div_rem_in_place`, `t + 1` blocks of `n` words -/
theorem bzOuter_spec (W : Nat) (hW : 1 ≤ W) (hW4 : 4 ≤ W) (rhs : List Nat) (hn : thresholdSimple < rhs.length)
    (hr : IsWords W rhs) (hnorm : 2 ^ (W * rhs.length) ≤ 2 * val W rhs) :
    ∀ (t : Nat) (lhs : List Nat), rhs.length * t + rhs.length ≤ lhs.length →
      lhs.length < rhs.length * t + 2 * rhs.length → IsWords W lhs →
      (lhs.length = rhs.length → val W lhs < val W rhs) →
      InPlaceOk W lhs rhs (bzOuter W (highestDword W rhs) rhs (2 * rhs.length + 1) t lhs) := by
  have hts : 1 ≤ thresholdSimple := by decide
  obtain ⟨bzS, bzQ⟩ := bz_mutual W hW hW4 (2 * rhs.length + 1)
  intro t
  induction t with
  | zero =>
    intro lhs hlo hhi hl hsmall
    rw [Nat.mul_zero, Nat.zero_add] at hlo hhi
    by_cases hgt : lhs.length > rhs.length
    · simp only [bzOuter, hgt, if_true]
      exact bzQ lhs rhs (by omega) (by omega) (by omega) (by omega) hl hr hnorm
    · have heq : lhs.length = rhs.length := by omega
      refine ⟨lhs, 0, by simp only [bzOuter, hgt, if_false], rfl, hl, by omega, ?_, ?_⟩
      · rw [List.take_of_length_le (by omega)]; exact hsmall heq
      · rw [List.take_of_length_le (by omega), List.drop_of_length_le (by omega)]; simp
  | succ t ih =>
    intro lhs hlo hhi hl _
    rw [Nat.mul_succ] at hlo hhi
    simp only [bzOuter]
    exact bz_two_stage W lhs rhs (lhs.length - 2 * rhs.length) (lhs.length - rhs.length) _ _
      (bzOuter W (highestDword W rhs) rhs (2 * rhs.length + 1) t) (Nat.le_trans hts (Nat.le_of_lt hn))
      (by omega) (Nat.sub_le _ _) hl
      (bzS (lhs.drop (lhs.length - 2 * rhs.length)) rhs (Nat.le_refl _) hn
        (by rw [List.length_drop, Nat.sub_sub_self (by omega)]) (hl.drop _) hr hnorm)
      fun l2 h2l h2w h2s => ih l2 (by omega) (by omega) h2w fun h => h2s (by omega)

/-- `divide_conquer::div_rem_in_place` (Burnikel–Ziegler) meets the in-place division contract -/
theorem bzDivRemInPlace_spec (W : Nat) (hW : 1 ≤ W) (hW4 : 4 ≤ W) (lhs rhs : List Nat)
    (hn : thresholdSimple < rhs.length) (hm : rhs.length + thresholdSimple < lhs.length)
    (hl : IsWords W lhs) (hr : IsWords W rhs) (hnorm : 2 ^ (W * rhs.length) ≤ 2 * val W rhs) :
    InPlaceOk W lhs rhs (bzDivRemInPlace W lhs rhs (highestDword W rhs)) := by
  have hts : 1 ≤ thresholdSimple := by decide
  have hnpos : 0 < rhs.length := by omega
  obtain ⟨t, ht⟩ : ∃ t, lhs.length / rhs.length = t + 1 :=
    ⟨_, (Nat.succ_pred_eq_of_pos (Nat.div_pos (by omega) hnpos)).symm⟩
  have hlo := Nat.mul_div_le lhs.length rhs.length
  have hhi := Nat.lt_mul_div_succ lhs.length hnpos
  rw [ht, Nat.mul_succ] at hlo
  rw [ht, Nat.mul_succ, Nat.mul_succ] at hhi
  have hcond : lhs.length > rhs.length + thresholdSimple ∧ rhs.length > thresholdSimple := ⟨hm, hn⟩
  simp only [bzDivRemInPlace]
  rw [if_neg (not_not.mpr hcond), ht]
  exact bzOuter_spec W hW hW4 rhs hn hr hnorm t lhs hlo (by omega) hl (by omega)

/-- `div::div_rem_in_place` (either algorithm): lhs becomes [lhs % rhs, lhs / rhs] + carry -/
theorem divRemInPlace_spec (W : Nat) (hW : 1 ≤ W) (hW4 : 4 ≤ W) (lhs rhs : List Nat) (hn : 2 ≤ rhs.length)
    (hm : rhs.length ≤ lhs.length) (hl : IsWords W lhs) (hr : IsWords W rhs)
    (hnorm : 2 ^ (W * rhs.length) ≤ 2 * val W rhs) :
    ∃ out c, divRemInPlace W lhs rhs (highestDword W rhs) = .ok (out, c) ∧
      out.length = lhs.length ∧ IsWords W out ∧ val W (out.take rhs.length) < val W rhs ∧
      (val W (out.drop rhs.length) + c * 2 ^ (W * (lhs.length - rhs.length))) * val W rhs
        + val W (out.take rhs.length) = val W lhs := by
  unfold divRemInPlace
  by_cases hs : rhs.length ≤ thresholdSimple ∨ lhs.length - rhs.length ≤ thresholdSimple
  · rw [if_pos hs]
    obtain ⟨out, c, e, o1, o2, _, o3, o4⟩ := simpleDivRemInPlace_spec W hW lhs rhs hn hm hl hr hnorm
    exact ⟨out, c, e, o1, o2, o3, o4⟩
  · rw [if_neg hs]
    have hts : 1 ≤ thresholdSimple := by decide
    obtain ⟨out, c, e, o1, o2, _, o3, o4⟩ := bzDivRemInPlace_spec W hW hW4 lhs rhs (by omega) (by omega) hl hr hnorm
    exact ⟨out, c, e, o1, o2, o3, o4⟩

end Dashu.Model.Div
