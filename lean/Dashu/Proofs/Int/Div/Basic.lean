import Dashu.Model.Int.Div
import Dashu.Proofs.Int.Canon
import Mathlib.Tactic.LinearCombination
/-
  Division layer, part 1: the arithmetic the later parts share, the shift loops of `shift.rs` /
  `math.rs`, and the contracts of the `num-modular` primitives.
-/
namespace Dashu.Model.Div
open Dashu.Model

-- ------------------------------------------------------------------ arithmetic helpers

theorem pow_split {W s : Nat} (h : s ≤ W) : 2 ^ W = 2 ^ (W - s) * 2 ^ s := by
  rw [← Nat.pow_add, Nat.sub_add_cancel h]

theorem pow_two_mul_half (W : Nat) (hW : 1 ≤ W) : 2 ^ W = 2 * 2 ^ (W - 1) := by
  rw [← Nat.pow_succ', Nat.succ_eq_add_one, Nat.sub_add_cancel hW]

theorem pow_add_len (W a b : Nat) : 2 ^ (W * (a + b)) = 2 ^ (W * a) * 2 ^ (W * b) := by
  rw [Nat.mul_add, Nat.pow_add]

/-- the quotient of one long-division step is a digit -/
theorem quot_lt {B x r d : Nat} (hx : x < B) (hr : r < d) : (x + B * r) / d < B :=
  (Nat.div_lt_iff_lt_mul (Nat.zero_lt_of_lt hr)).mpr (Nat.mul_comm B d ▸ add_mul_lt hx hr)

/-- two representations `a + x·P` with digits `a, b < P` agree digit by digit -/
theorem add_mul_unique {P a b x y : Nat} (ha : a < P) (hb : b < P) (h : a + x * P = b + y * P) :
    a = b ∧ x = y := by
  have hP : 0 < P := Nat.zero_lt_of_lt ha
  have hx : (a + x * P) / P = x := by rw [Nat.add_mul_div_right _ _ hP, Nat.div_eq_of_lt ha, Nat.zero_add]
  have hy : (b + y * P) / P = y := by rw [Nat.add_mul_div_right _ _ hP, Nat.div_eq_of_lt hb, Nat.zero_add]
  have hxy : x = y := by rw [← hx, ← hy, h]
  subst hxy
  exact ⟨Nat.add_right_cancel h, rfl⟩

theorem lor_eq_add (m s c : Nat) (hc : c < 2 ^ s) : m * 2 ^ s ||| c = m * 2 ^ s + c := by
  rw [← Nat.shiftLeft_eq]; exact (Nat.shiftLeft_add_eq_or_of_lt hc m).symm

theorem lor_eq_add' (m s c : Nat) (hc : c < 2 ^ s) : c ||| m * 2 ^ s = m * 2 ^ s + c := by
  rw [Nat.or_comm]; exact lor_eq_add m s c hc

theorem isPow2_eq {n : Nat} (h : isPow2 n = true) : n = 2 ^ Nat.log2 n := by
  simpa [isPow2] using h

theorem isPow2_log_lt {n b : Nat} (h : isPow2 n = true) (hlt : n < 2 ^ b) : Nat.log2 n < b := by
  have hn : n ≠ 0 := fun h0 => by
    have e := isPow2_eq h
    rw [h0] at e
    exact absurd e.symm (Nat.pos_iff_ne_zero.mp (Nat.two_pow_pos _))
  exact (Nat.log2_lt hn).mpr hlt

theorem lz_spec {bits x : Nat} (hx : x ≠ 0) (hlt : x < 2 ^ bits) :
    lz bits x < bits ∧ 2 ^ (bits - 1) ≤ x * 2 ^ lz bits x ∧ x * 2 ^ lz bits x < 2 ^ bits := by
  have hk : Nat.log2 x < bits := (Nat.log2_lt hx).mpr hlt
  have h1 : 2 ^ Nat.log2 x ≤ x := Nat.log2_self_le hx
  have h2 : x < 2 ^ (Nat.log2 x + 1) := Nat.lt_log2_self
  simp only [lz, hx, if_false]
  refine ⟨by omega, ?_, ?_⟩
  · calc 2 ^ (bits - 1) = 2 ^ Nat.log2 x * 2 ^ (bits - 1 - Nat.log2 x) := by
          rw [← Nat.pow_add]; congr 1; omega
      _ ≤ x * 2 ^ (bits - 1 - Nat.log2 x) := Nat.mul_le_mul_right _ h1
  · calc x * 2 ^ (bits - 1 - Nat.log2 x)
          < 2 ^ (Nat.log2 x + 1) * 2 ^ (bits - 1 - Nat.log2 x) :=
            Nat.mul_lt_mul_of_pos_right h2 (Nat.two_pow_pos _)
      _ = 2 ^ bits := by rw [← Nat.pow_add]; congr 1; omega

theorem lz_word_lt (W x : Nat) (hW : 1 ≤ W) (hx : x ≠ 0) : lz W x + 1 ≤ W := by
  simp only [lz, hx, if_false]; omega

theorem lz_dword_lt (W rhs : Nat) (hW : 1 ≤ W) (h : 2 ^ W ≤ rhs) : lz (2 * W) rhs + 1 ≤ W := by
  have hne : rhs ≠ 0 := Nat.pos_iff_ne_zero.mp (Nat.lt_of_lt_of_le (Nat.two_pow_pos W) h)
  have := (Nat.le_log2 hne).mpr h
  simp only [lz, hne, if_false]
  omega

theorem mul_pow_mod (a s W : Nat) (h : s ≤ W) : (a * 2 ^ s) % 2 ^ W = (a % 2 ^ (W - s)) * 2 ^ s := by
  rw [pow_split h]; exact Nat.mul_mod_mul_right _ _ _

theorem mul_pow_div (a s W : Nat) (h : s ≤ W) : (a * 2 ^ s) / 2 ^ W = a / 2 ^ (W - s) := by
  rw [pow_split h]; exact Nat.mul_div_mul_right _ _ (Nat.two_pow_pos s)

theorem add_mul_div_word (W w r : Nat) (hw : w < 2 ^ W) : (w + 2 ^ W * r) / 2 ^ W = r := by
  rw [Nat.add_mul_div_left _ _ (Nat.two_pow_pos W), Nat.div_eq_of_lt hw, Nat.zero_add]

theorem dword_lt (W a b : Nat) (ha : a < 2 ^ W) (hb : b < 2 ^ W) : a + 2 ^ W * b < 2 ^ (2 * W) :=
  two_pow_two_mul W ▸ add_mul_lt ha hb

theorem mod_step (a b m d : Nat) : (a + m * (b % d)) % d = (a + m * b) % d := by
  rw [Nat.add_mod, Nat.mul_mod, Nat.mod_mod, ← Nat.mul_mod, ← Nat.add_mod]

theorem word_mod_pow (W k w v : Nat) (hk : k ≤ W) : (w + 2 ^ W * v) % 2 ^ k = w % 2 ^ k := by
  rw [pow_split hk, Nat.mul_comm (2 ^ (W - k)), Nat.mul_assoc]
  exact Nat.add_mul_mod_self_left _ _ _

/-- quotient/remainder from the division identity -/
theorem div_mod_of_eq {a b q r : Nat} (hb : 0 < b) (h : q * b + r = a) (hr : r < b) :
    a / b = q ∧ a % b = r :=
  (Nat.div_mod_unique hb).mpr ⟨by rw [← h, Nat.mul_comm, Nat.add_comm], hr⟩

-- ------------------------------------------------------------------ list helpers

theorem val_append_one (W : Nat) (l : List Nat) (a : Nat) :
    val W (l ++ [a]) = val W l + 2 ^ (W * l.length) * a := by
  rw [val_append]; simp

theorem val_append_two (W : Nat) (l : List Nat) (a b : Nat) :
    val W (l ++ [a, b]) = val W l + 2 ^ (W * l.length) * (a + 2 ^ W * b) := by
  rw [val_append]; simp

theorem take_drop_val (W : Nat) (l : List Nat) (k : Nat) (hk : k ≤ l.length) :
    val W l = val W (l.take k) + 2 ^ (W * k) * val W (l.drop k) := by
  have := val_take_add_drop W l k
  rwa [length_take_of_le hk] at this

theorem getD_eq_of_drop (l : List Nat) (i a : Nat) (t : List Nat) (h : l.drop i = a :: t) :
    l.getD i 0 = a := by
  have : l[i]? = some a := by
    have h2 : (l.drop i)[0]? = l[i + 0]? := List.getElem?_drop
    rw [h] at h2; simpa using h2.symm
  simp [List.getD_eq_getElem?_getD, this]

theorem split_last2 (l : List Nat) (h : 2 ≤ l.length) :
    ∃ lo a b, l.drop (l.length - 2) = [a, b] ∧ l.take (l.length - 2) = lo ∧ l = lo ++ [a, b] := by
  have hd : (l.drop (l.length - 2)).length = 2 := by simp only [List.length_drop]; omega
  have hs := (List.take_append_drop (l.length - 2) l).symm
  generalize l.drop (l.length - 2) = d at hd hs
  rcases d with _ | ⟨a, _ | ⟨b, _ | ⟨c, t⟩⟩⟩
  · simp at hd
  · simp at hd
  · exact ⟨_, a, b, rfl, rfl, hs⟩
  · simp at hd

theorem split_last2_getD (l : List Nat) (h : 2 ≤ l.length) :
    ∃ lo a b, l = lo ++ [a, b] ∧ l.getD (l.length - 2) 0 = a ∧ l.getD (l.length - 1) 0 = b ∧
      lo.length = l.length - 2 := by
  obtain ⟨lo, a, b, hdrop, htake, hsplit⟩ := split_last2 l h
  refine ⟨lo, a, b, hsplit, getD_eq_of_drop l _ a [b] hdrop, ?_, by rw [← htake]; simp⟩
  have h1 : l.drop (l.length - 1) = [b] := by
    have : l.length - 1 = (l.length - 2) + 1 := by omega
    rw [this, ← List.drop_drop, hdrop]; rfl
  exact getD_eq_of_drop l _ b [] h1

theorem split_last1 (l : List Nat) (h : 1 ≤ l.length) :
    ∃ lo a, l = lo ++ [a] ∧ l.getD (l.length - 1) 0 = a ∧ l.take (l.length - 1) = lo ∧
      lo.length = l.length - 1 := by
  have hd : (l.drop (l.length - 1)).length = 1 := by simp only [List.length_drop]; omega
  have hs := (List.take_append_drop (l.length - 1) l).symm
  generalize hdr : l.drop (l.length - 1) = d at hd hs
  rcases d with _ | ⟨a, _ | ⟨c, t⟩⟩
  · simp at hd
  · exact ⟨_, a, hs, getD_eq_of_drop l _ a [] hdr, rfl, by simp⟩
  · simp at hd

theorem highestDword_append (W : Nat) (l : List Nat) (a b : Nat) :
    highestDword W (l ++ [a, b]) = a + 2 ^ W * b := by
  simp [highestDword, List.getD_eq_getElem?_getD, List.getElem?_append_right]

-- ------------------------------------------------------------------ un-shifting a division

/-- un-shift of quotient/remainder after dividing the shifted dividend by the shifted divisor -/
theorem unshift (Q R X rhs s : Nat) (h : Q * (rhs * 2 ^ s) + R = X * 2 ^ s) (hR : R < rhs * 2 ^ s) :
    Q * rhs + R / 2 ^ s = X ∧ R / 2 ^ s < rhs := by
  have hps : 0 < 2 ^ s := Nat.two_pow_pos s
  have hdvd : 2 ^ s ∣ R :=
    (Nat.dvd_add_right (Nat.mul_assoc Q rhs _ ▸ Nat.dvd_mul_left _ _)).mp (h ▸ Nat.dvd_mul_left _ _)
  obtain ⟨t, rfl⟩ := hdvd
  rw [Nat.mul_div_cancel_left _ hps]
  exact ⟨Nat.eq_of_mul_eq_mul_right hps (by linear_combination h),
    Nat.lt_of_mul_lt_mul_left (a := 2 ^ s) (Nat.mul_comm rhs _ ▸ hR)⟩

/-- the shifted remainder is the remainder, shifted -/
theorem unshift_mod (Q R X rhs s : Nat) (hrhs : 0 < rhs) (h : Q * (rhs * 2 ^ s) + R = X * 2 ^ s)
    (hR : R < rhs * 2 ^ s) : X / rhs = Q ∧ R = X % rhs * 2 ^ s := by
  have ⟨u1, u2⟩ := unshift Q R X rhs s h hR
  have ⟨d1, d2⟩ := div_mod_of_eq hrhs u1 u2
  refine ⟨d1, Nat.add_left_cancel (n := Q * (rhs * 2 ^ s)) ?_⟩
  rw [h, d2, ← u1]; ring

/-- remainder of a shifted value by the shifted divisor, un-shifted -/
theorem shifted_mod (X b s : Nat) : (X * 2 ^ s) % (b * 2 ^ s) / 2 ^ s = X % b := by
  rw [Nat.mul_mod_mul_right, Nat.mul_div_cancel _ (Nat.two_pow_pos s)]

/-- the final un-normalisation of `rem_by_word` / `rem_by_dword` -/
theorem rem_unshift (X rhs s : Nat) :
    ((X % (rhs * 2 ^ s)) * 2 ^ s % (rhs * 2 ^ s)) / 2 ^ s = X % rhs := by
  rw [shifted_mod, Nat.mod_mod_of_dvd _ (Nat.dvd_mul_right rhs (2 ^ s))]

-- ------------------------------------------------------------------ shl_in_place

theorem shlLoop_spec (W shift : Nat) (hs : shift ≤ W) (ws : List Nat) (c : Nat)
    (h : IsWords W ws) (hc : c < 2 ^ shift) :
    let r := shlLoop W shift ws c
    val W r.1 + 2 ^ (W * ws.length) * r.2 = val W ws * 2 ^ shift + c ∧
    r.1.length = ws.length ∧ IsWords W r.1 ∧ r.2 < 2 ^ shift := by
  induction ws generalizing c with
  | nil => simp [shlLoop, IsWords.nil, hc]
  | cons w ws ih =>
    obtain ⟨hor, hlt, hcarry⟩ := shlBits_word W shift w c h.head hs hc
    have ⟨i1, i2, i3, i4⟩ := ih ((w * 2 ^ shift) / 2 ^ W) h.tail hcarry
    simp only [shlLoop, val_cons, List.length_cons, hor, pow_mul_succ]
    refine ⟨?_, congrArg (· + 1) i2, IsWords.cons hlt i3, i4⟩
    linear_combination 2 ^ W * i1 + Nat.mod_add_div (w * 2 ^ shift) (2 ^ W)

theorem shlInPlace_spec (W shift : Nat) (hs : shift ≤ W) (ws : List Nat) (h : IsWords W ws) :
    let r := shlInPlace W ws shift
    val W r.1 + 2 ^ (W * ws.length) * r.2 = val W ws * 2 ^ shift ∧
    r.1.length = ws.length ∧ IsWords W r.1 ∧ r.2 < 2 ^ shift := by
  unfold shlInPlace
  by_cases h0 : shift = 0
  · simp [h0, h]
  · simp only [h0, if_false]
    exact shlLoop_spec W shift hs ws 0 h (Nat.two_pow_pos _)

-- ------------------------------------------------------------------ shr_word / shr_in_place / shl_dword

theorem shrWord_spec (W w s : Nat) (hs : s ≤ W) :
    shrWord W w s = (w / 2 ^ s, (w % 2 ^ s) * 2 ^ (W - s)) := by
  have hv : (w * 2 ^ W) / 2 ^ s = w * 2 ^ (W - s) := by
    rw [pow_split hs, ← Nat.mul_assoc]; exact Nat.mul_div_cancel _ (Nat.two_pow_pos s)
  have h1 := mul_pow_div w (W - s) W (Nat.sub_le W s)
  have h2 := mul_pow_mod w (W - s) W (Nat.sub_le W s)
  rw [Nat.sub_sub_self hs] at h1 h2
  simp only [shrWord, hv, h1, h2]

theorem shrLoop_spec (W s : Nat) (hs : s ≤ W) (ws : List Nat) (k : Nat)
    (h : IsWords W ws) (hk : k < 2 ^ s) :
    let r := shrLoop W s ws (k * 2 ^ (W - s))
    ∃ k', r.2 = k' * 2 ^ (W - s) ∧ k' < 2 ^ s ∧
      val W r.1 * 2 ^ s + k' = val W ws + k * 2 ^ (W * ws.length) ∧
      r.1.length = ws.length ∧ IsWords W r.1 := by
  induction ws with
  | nil => exact ⟨k, by simp [shrLoop, hk, IsWords.nil]⟩
  | cons w ws ih =>
    obtain ⟨k1, e1, hk1, hv, hl, hws⟩ := ih h.tail
    have hps : 0 < 2 ^ s := Nat.two_pow_pos s
    have hq : w / 2 ^ s < 2 ^ (W - s) := by
      rw [Nat.div_lt_iff_lt_mul hps, ← pow_split hs]; exact h.head
    simp only [shrLoop, shrWord_spec W w s hs, e1, lor_eq_add' _ _ _ hq]
    refine ⟨w % 2 ^ s, rfl, Nat.mod_lt _ hps, ?_, congrArg (· + 1) hl, IsWords.cons ?_ hws⟩
    · simp only [val_cons, List.length_cons, pow_mul_succ, pow_split hs]
      linear_combination 2 ^ (W - s) * 2 ^ s * hv + Nat.div_add_mod w (2 ^ s)
    · have := add_mul_lt hq hk1
      rwa [Nat.add_comm, Nat.mul_comm, ← pow_split hs] at this

theorem shrInPlaceOneWord_spec (W : Nat) (ws : List Nat) (h : IsWords W ws) :
    let r := shrInPlaceOneWord ws
    val W r.1 * 2 ^ W + r.2 = val W ws ∧ r.1.length = ws.length ∧ IsWords W r.1 ∧ r.2 < 2 ^ W := by
  cases ws with
  | nil => simp [shrInPlaceOneWord, IsWords.nil]
  | cons w ws =>
    simp only [shrInPlaceOneWord, val_append, val_cons, val_nil, List.length_append, List.length_cons,
      List.length_nil]
    refine ⟨by ring, trivial, IsWords.append h.tail (IsWords.cons (Nat.two_pow_pos W) (IsWords.nil W)), h.head⟩

/-- `shr_in_place(words, shift)`, `shift ≤ W`: quotient by `2^shift` in place, the shifted-out
    bits `k'` returned in the high bits of a word -/
theorem shrInPlace_spec (W s : Nat) (hs : s ≤ W) (ws : List Nat) (h : IsWords W ws) :
    let r := shrInPlace W ws s
    ∃ k', r.2 = k' * 2 ^ (W - s) ∧ k' < 2 ^ s ∧ val W r.1 * 2 ^ s + k' = val W ws ∧
      r.1.length = ws.length ∧ IsWords W r.1 := by
  unfold shrInPlace
  by_cases hW : s = W
  · subst hW
    have ⟨a, b, c, d⟩ := shrInPlaceOneWord_spec s ws h
    simp only [if_true]
    exact ⟨(shrInPlaceOneWord ws).2, by simp, d, a, b, c⟩
  · simp only [hW, if_false, shrInPlaceWithCarry]
    by_cases h0 : s = 0
    · subst h0; exact ⟨0, by simp [h]⟩
    · simp only [h0, if_false]
      have := shrLoop_spec W s hs ws 0 h (Nat.two_pow_pos s)
      simpa using this

theorem shlDword_spec (W dw s : Nat) (hs : s ≤ W) (hdw : dw < 2 ^ (2 * W)) :
    let r := shlDword W dw s
    r.1 + 2 ^ W * r.2.1 + 2 ^ (2 * W) * r.2.2 = dw * 2 ^ s ∧
    r.1 < 2 ^ W ∧ r.2.1 < 2 ^ W ∧ r.2.2 < 2 ^ s := by
  have hp : 0 < 2 ^ W := Nat.two_pow_pos W
  have hhi : dw / 2 ^ W < 2 ^ W := by
    rw [Nat.div_lt_iff_lt_mul hp, ← two_pow_two_mul]; exact hdw
  -- the low word shifts like a word of `shl_in_place` with carry-in 0, its carry goes into the high word
  obtain ⟨_, _, hc⟩ := shlBits_word W s _ 0 (Nat.mod_lt dw hp) hs (Nat.two_pow_pos s)
  have hblt : dw / 2 ^ W * 2 ^ s + (dw % 2 ^ W * 2 ^ s) / 2 ^ W < 2 ^ s * 2 ^ W := by
    have := add_mul_lt hc hhi
    rwa [Nat.add_comm, Nat.mul_comm] at this
  simp only [shlDword, lor_eq_add _ _ _ hc, two_pow_two_mul]
  refine ⟨?_, Nat.mod_lt _ hp, Nat.mod_lt _ hp, (Nat.div_lt_iff_lt_mul hp).mpr hblt⟩
  linear_combination 2 ^ s * Nat.mod_add_div dw (2 ^ W) + Nat.mod_add_div (dw % 2 ^ W * 2 ^ s) (2 ^ W)
    + 2 ^ W * Nat.mod_add_div (dw / 2 ^ W * 2 ^ s + (dw % 2 ^ W * 2 ^ s) / 2 ^ W) (2 ^ W)

-- ------------------------------------------------------------------ primitive contracts

theorem div2by1_ok (W d a : Nat) (h : a / 2 ^ W < d) : div2by1 W d a = .ok (a / d, a % d) := by
  simp [div2by1, h]

theorem div3by2_ok (W d aLo aHi : Nat) (h : aHi < d) :
    div3by2 W d aLo aHi = .ok ((aLo + 2 ^ W * aHi) / d, (aLo + 2 ^ W * aHi) % d) := by
  simp [div3by2, h]

theorem div4by2_ok (W d aLo aHi : Nat) (h : aHi < d) :
    div4by2 W d aLo aHi = .ok ((aLo + 2 ^ (2 * W) * aHi) / d, (aLo + 2 ^ (2 * W) * aHi) % d) := by
  simp [div4by2, h]

/-- the 2-by-1 step the word loops make: the previous remainder `r < d` is the high word -/
theorem div2by1_step (W d w r : Nat) (hw : w < 2 ^ W) (hr : r < d) :
    div2by1 W d (w + 2 ^ W * r) = .ok ((w + 2 ^ W * r) / d, (w + 2 ^ W * r) % d) :=
  div2by1_ok W d _ (by rw [add_mul_div_word W w r hw]; exact hr)

theorem normNew_ok (bits d : Nat) (h : 2 ^ (bits - 1) ≤ d) : normNew bits d = .ok d := by
  simp [normNew, h]

theorem div1by1_snd (W d a : Nat) (_hd : 0 < d) (hn : 2 ^ W ≤ 2 * d) (ha : a < 2 ^ W) :
    (div1by1 d a).2 = a % d := by
  unfold div1by1
  by_cases h : a < d
  · simp [h, Nat.mod_eq_of_lt h]
  · simp only [h, if_false]
    rw [Nat.mod_eq_sub_mod (Nat.le_of_not_lt h), Nat.mod_eq_of_lt (by omega)]

theorem div2by2_snd (W d a : Nat) (hn : 2 ^ (2 * W) ≤ 2 * d) (ha : a < 2 ^ (2 * W)) :
    (div2by2 d a).2 = a % d :=
  div1by1_snd (2 * W) d a (by have := Nat.two_pow_pos (2 * W); omega) hn ha

/-- `cmp_same_len` is the order of the values -/
theorem cmpSameLen_spec (W : Nat) (a b : List Nat) (hl : a.length = b.length) (ha : IsWords W a)
    (hb : IsWords W b) : cmpSameLen a b = compare (val W a) (val W b) := by
  induction a generalizing b with
  | nil =>
    cases b with
    | nil => simp [cmpSameLen]
    | cons y ys => simp at hl
  | cons x xs ih =>
    cases b with
    | nil => simp at hl
    | cons y ys =>
      have hx := ha.head
      have hy := hb.head
      simp only [cmpSameLen, val_cons]
      rw [ih ys (by simpa using hl) ha.tail hb.tail]
      rcases Nat.lt_trichotomy (val W xs) (val W ys) with h | h | h
      · rw [Nat.compare_eq_lt.mpr h, Nat.compare_eq_lt.mpr (Nat.lt_of_lt_of_le (add_mul_lt hx h) (Nat.le_add_left _ _))]
      · rw [Nat.compare_eq_eq.mpr h, h]
        rcases Nat.lt_trichotomy x y with h' | h' | h'
        · rw [Nat.compare_eq_lt.mpr h', Nat.compare_eq_lt.mpr (by omega)]
        · rw [Nat.compare_eq_eq.mpr h', Nat.compare_eq_eq.mpr (by omega)]
        · rw [Nat.compare_eq_gt.mpr h', Nat.compare_eq_gt.mpr (by omega)]
      · rw [Nat.compare_eq_gt.mpr h, Nat.compare_eq_gt.mpr (Nat.lt_of_lt_of_le (add_mul_lt hy h) (Nat.le_add_left _ _))]

end Dashu.Model.Div
