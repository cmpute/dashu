import Dashu.Proofs.Int.Div.Basic
/-
  Division layer, part 2: division and remainder of a slice by a one-word and by a two-word divisor
  (`div/mod.rs`), by long division from the top word down.
-/
namespace Dashu.Model.Div
open Dashu.Model

-- ------------------------------------------------------------------ the quotient-remainder contract

/-- contract of a division that leaves `n` quotient words in the buffer and returns the remainder:
    `N = q·d + r`, `r < d` -/
def QuotRem (W d N n : Nat) (res : Except PanicKind (List Nat × Nat)) : Prop :=
  ∃ qs r, res = .ok (qs, r) ∧ val W qs * d + r = N ∧ r < d ∧ qs.length = n ∧ IsWords W qs

/-- divide by `rhs`: shift the dividend up by `shift` bits (`X·2^shift`), divide by the prepared
    `rhs·2^shift`, shift the remainder back down -/
theorem QuotRem.unshift {W rhs shift X n : Nat} {res : Except PanicKind (List Nat × Nat)}
    (h : QuotRem W (rhs * 2 ^ shift) (X * 2 ^ shift) n res) :
    QuotRem W rhs X n (do
      let (qs, r) ← res
      pure (qs, r / 2 ^ shift)) := by
  obtain ⟨qs, r, rfl, hv, hr, hl, hq⟩ := h
  have ⟨u1, u2⟩ := Div.unshift (val W qs) r X rhs shift hv hr
  exact ⟨qs, r / 2 ^ shift, rfl, u1, u2, hl, hq⟩

-- ------------------------------------------------------------------ word divisor

theorem fastDivByWordLoop_spec (W d : Nat) (hd : 0 < d) (ws : List Nat) (rem : Nat)
    (h : IsWords W ws) (hr : rem < d) :
    QuotRem W d (val W ws + 2 ^ (W * ws.length) * rem) ws.length (fastDivByWordLoop W d ws rem) := by
  induction ws with
  | nil => exact ⟨[], rem, by simp [fastDivByWordLoop, IsWords.nil, hr]⟩
  | cons w ws ih =>
    obtain ⟨qs, r, e, hv, hrd, hl, hq⟩ := ih h.tail
    refine ⟨(w + 2 ^ W * r) / d :: qs, (w + 2 ^ W * r) % d, ?_, ?_, Nat.mod_lt _ hd,
      congrArg (· + 1) hl, IsWords.cons (quot_lt h.head hrd) hq⟩
    · simp only [fastDivByWordLoop, e, bind, Except.bind, div2by1_step W d w r h.head hrd, pure, Except.pure]
    · simp only [val_cons, List.length_cons, pow_mul_succ]
      linear_combination Nat.div_add_mod (w + 2 ^ W * r) d + 2 ^ W * hv

theorem fastDivByWordInPlace_spec (W rhs shift : Nat) (ws : List Nat) (h : IsWords W ws)
    (hrhs : 0 < rhs) (hs : shift ≤ W) (_hd : rhs * 2 ^ shift ≤ 2 ^ W) :
    QuotRem W rhs (val W ws) ws.length (fastDivByWordInPlace W ws shift (rhs * 2 ^ shift)) := by
  have ⟨s1, s2, s3, s4⟩ := shlInPlace_spec W shift hs ws h
  have hcd : (shlInPlace W ws shift).2 < rhs * 2 ^ shift :=
    Nat.lt_of_lt_of_le s4 (Nat.le_mul_of_pos_left _ hrhs)
  have := fastDivByWordLoop_spec W _ (Nat.mul_pos hrhs (Nat.two_pow_pos shift)) _ _ s3 hcd
  rw [s2, s1] at this
  exact this.unshift

/-- `div_by_word_in_place` = exact division of the slice by a non-zero word -/
theorem divByWordInPlace_spec (W rhs : Nat) (ws : List Nat) (h : IsWords W ws)
    (hrhs : 0 < rhs) (hlt : rhs < 2 ^ W) :
    QuotRem W rhs (val W ws) ws.length (divByWordInPlace W ws rhs) := by
  unfold divByWordInPlace
  by_cases h1 : rhs = 1
  · subst h1; exact ⟨ws, 0, by simp [h]⟩
  · simp only [h1, if_false]
    by_cases hp : isPow2 rhs = true
    · simp only [hp, if_true]
      have hk := isPow2_log_lt hp hlt
      have e := isPow2_eq hp
      generalize Nat.log2 rhs = k at *
      subst e
      obtain ⟨k', e1, hk', hv, hl, hw⟩ := shrInPlace_spec W k (Nat.le_of_lt hk) ws h
      have hr : (shrInPlace W ws k).2 / 2 ^ (W - k) = k' := by
        rw [e1, Nat.mul_div_cancel _ (Nat.two_pow_pos _)]
      exact ⟨_, _, rfl, hr ▸ hv, hr ▸ hk', hl, hw⟩
    · simp only [hp]
      have ⟨l1, l2, l3⟩ := lz_spec (bits := W) (Nat.pos_iff_ne_zero.mp hrhs) hlt
      obtain ⟨qs, r, e, rest⟩ :=
        fastDivByWordInPlace_spec W rhs (lz W rhs) ws h hrhs (Nat.le_of_lt l1) (Nat.le_of_lt l3)
      refine ⟨qs, r, ?_, rest⟩
      simp only [Nat.mod_eq_of_lt l3, normNew_ok W _ l2, bind, Except.bind, e]
      rfl

/-- `fast_rem_by_normalized_word` = remainder of the slice by the normalised word `d` -/
theorem fastRemByNormalizedWord_spec (W d : Nat) (hd : 0 < d) (_hdW : d ≤ 2 ^ W) (hn : 2 ^ W ≤ 2 * d)
    (ws : List Nat) (h : IsWords W ws) (hne : ws ≠ []) :
    fastRemByNormalizedWord W d ws = .ok (val W ws % d) := by
  induction ws with
  | nil => exact absurd rfl hne
  | cons w ws ih =>
    cases ws with
    | nil =>
      simp only [fastRemByNormalizedWord, val_cons, val_nil, Nat.mul_zero, Nat.add_zero]
      rw [div1by1_snd W d w hd hn h.head]
    | cons w' ws' =>
      have e := ih h.tail (by simp)
      simp only [fastRemByNormalizedWord, e, bind, Except.bind,
        div2by1_step W d w _ h.head (Nat.mod_lt _ hd), pure, Except.pure]
      rw [mod_step]
      rfl

/-- the 2-by-1 primitive accepts a remainder `r < d` shifted by `s` bits, for a word `d = b·2^s` -/
theorem div2by1_shl {W b s r : Nat} (hb : 0 < b) (hr : r < b * 2 ^ s) (hd : b * 2 ^ s < 2 ^ W) :
    div2by1 W (b * 2 ^ s) (r * 2 ^ s) = .ok (r * 2 ^ s / (b * 2 ^ s), r * 2 ^ s % (b * 2 ^ s)) := by
  refine div2by1_ok W _ _ ((Nat.div_lt_iff_lt_mul (Nat.two_pow_pos W)).mpr ?_)
  calc r * 2 ^ s < 2 ^ W * 2 ^ s := Nat.mul_lt_mul_of_pos_right (Nat.lt_trans hr hd) (Nat.two_pow_pos _)
    _ ≤ 2 ^ W * (b * 2 ^ s) := Nat.mul_le_mul_left _ (Nat.le_mul_of_pos_left _ hb)
    _ = b * 2 ^ s * 2 ^ W := Nat.mul_comm _ _

/-- the normalised divisor `d = rhs·2^lz` of `rem_by_word` / `rem_by_dword` is accepted by
    `Normalized…Divisor::new` and has its top bit set -/
theorem lz_norm {bits rhs : Nat} (hb : 1 ≤ bits) (hrhs : 0 < rhs) (hlt : rhs < 2 ^ bits) :
    normNew bits (rhs * 2 ^ lz bits rhs % 2 ^ bits) = .ok (rhs * 2 ^ lz bits rhs) ∧
    0 < rhs * 2 ^ lz bits rhs ∧ rhs * 2 ^ lz bits rhs < 2 ^ bits ∧
    2 ^ bits ≤ 2 * (rhs * 2 ^ lz bits rhs) := by
  have ⟨_, l2, l3⟩ := lz_spec (bits := bits) (Nat.pos_iff_ne_zero.mp hrhs) hlt
  refine ⟨by rw [Nat.mod_eq_of_lt l3]; exact normNew_ok bits _ l2,
    Nat.mul_pos hrhs (Nat.two_pow_pos _), l3, ?_⟩
  rw [pow_two_mul_half bits hb]; exact Nat.mul_le_mul_left 2 l2

/-- `rem_by_word` = remainder of the slice by a non-zero word -/
theorem remByWord_spec (W rhs : Nat) (ws : List Nat) (h : IsWords W ws) (hne : ws ≠ [])
    (hrhs : 0 < rhs) (hlt : rhs < 2 ^ W) :
    remByWord W ws rhs = .ok (val W ws % rhs) := by
  unfold remByWord
  by_cases hp : isPow2 rhs = true
  · simp only [hp, if_true]
    have hk := isPow2_log_lt hp hlt
    have e := isPow2_eq hp
    cases ws with
    | nil => exact absurd rfl hne
    | cons w ws =>
      simp only [val_cons]
      generalize Nat.log2 rhs = k at *
      subst e
      rw [Nat.and_two_pow_sub_one_eq_mod, word_mod_pow W _ w _ (Nat.le_of_lt hk)]
  · rw [if_neg hp]
    have hW : 1 ≤ W := Nat.pos_of_ne_zero fun h0 => by subst h0; omega
    obtain ⟨en, hdpos, l3, hn⟩ := lz_norm hW hrhs hlt
    have e := fastRemByNormalizedWord_spec W _ hdpos (Nat.le_of_lt l3) hn ws h hne
    simp only [en, bind, Except.bind, e, div2by1_shl hrhs (Nat.mod_lt _ hdpos) l3, pure, Except.pure]
    rw [rem_unshift]

-- ------------------------------------------------------------------ double-word divisor

theorem div4by2Loop_spec (W d : Nat) (hd : 0 < d) (n : Nat) (lo : List Nat)
    (rem : Nat) (hl : lo.length = 2 * n) (h : IsWords W lo) (hr : rem < d) :
    QuotRem W d (val W lo + 2 ^ (W * lo.length) * rem) lo.length (div4by2Loop W d lo rem) := by
  induction n generalizing lo with
  | zero =>
    have : lo = [] := List.eq_nil_of_length_eq_zero (by omega)
    subst this
    exact ⟨[], rem, by simp [div4by2Loop, IsWords.nil, hr]⟩
  | succ n ih =>
    rcases lo with _ | ⟨a, _ | ⟨b, rest⟩⟩
    · simp at hl
    · simp at hl; omega
    · have hp : 0 < 2 ^ W := Nat.two_pow_pos W
      obtain ⟨qs, r, e, hv, hrd, hlq, hq⟩ := ih rest (by simp at hl; omega) h.tail.tail
      -- the step's quotient is a double word, stored as two words
      have hqlt : (a + 2 ^ W * b + 2 ^ (2 * W) * r) / d < 2 ^ W * 2 ^ W :=
        two_pow_two_mul W ▸ quot_lt (dword_lt W a b h.head h.tail.head) hrd
      refine ⟨(a + 2 ^ W * b + 2 ^ (2 * W) * r) / d % 2 ^ W :: (a + 2 ^ W * b + 2 ^ (2 * W) * r) / d / 2 ^ W :: qs,
        (a + 2 ^ W * b + 2 ^ (2 * W) * r) % d, ?_, ?_, Nat.mod_lt _ hd, by simp [hlq],
        IsWords.cons (Nat.mod_lt _ hp) (IsWords.cons ((Nat.div_lt_iff_lt_mul hp).mpr hqlt) hq)⟩
      · simp only [div4by2Loop, e, bind, Except.bind, div4by2_ok W d _ _ hrd, pure, Except.pure]
      · simp only [val_cons, List.length_cons, pow_mul_succ]
        have hdm := Nat.div_add_mod (a + 2 ^ W * b + 2 ^ (2 * W) * r) d
        rw [two_pow_two_mul] at hdm ⊢
        linear_combination hdm + 2 ^ W * 2 ^ W * hv
          + d * Nat.div_add_mod ((a + 2 ^ W * b + 2 ^ W * 2 ^ W * r) / d) (2 ^ W)

theorem fastDivByDwordCore_spec (W d : Nat) (hd : 0 < d) (ws' : List Nat)
    (hi : Nat) (h : IsWords W ws') (hlen : 2 ≤ ws'.length) (hhi : 2 ^ W * (hi + 1) ≤ d) :
    QuotRem W d (val W ws' + 2 ^ (W * ws'.length) * hi) ws'.length (fastDivByDwordCore W d ws' hi) := by
  have hp : 0 < 2 ^ W := Nat.two_pow_pos W
  obtain ⟨lo, topLo, topHi, hdrop, htake, hsplit⟩ := split_last2 ws' hlen
  have hlo : IsWords W lo := htake ▸ h.take _
  have htl : topLo < 2 ^ W := h topLo (by rw [hsplit]; simp)
  have hth : topHi < 2 ^ W := h topHi (by rw [hsplit]; simp)
  -- the top three words by the 3-by-2 primitive
  have hahi : topHi + 2 ^ W * hi < d := Nat.lt_of_lt_of_le (add_mul_lt hth (Nat.lt_succ_self hi)) hhi
  have hq3 := Nat.div_add_mod (topLo + 2 ^ W * (topHi + 2 ^ W * hi)) d
  have hr3 : (topLo + 2 ^ W * (topHi + 2 ^ W * hi)) % d < d := Nat.mod_lt _ hd
  have hwq : IsWords W [(topLo + 2 ^ W * (topHi + 2 ^ W * hi)) / d, 0] :=
    IsWords.cons (quot_lt htl hahi) (IsWords.cons hp (IsWords.nil W))
  have hlen' : ws'.length = lo.length + 2 := by rw [hsplit]; simp
  have hvs : val W ws' = val W lo + 2 ^ (W * lo.length) * (topLo + 2 ^ W * topHi) := by
    rw [hsplit]; exact val_append_two W lo topLo topHi
  have hP : 2 ^ (W * ws'.length) = 2 ^ (W * lo.length) * (2 ^ W * 2 ^ W) := by
    rw [hlen', pow_add_len, ← two_pow_two_mul, Nat.mul_comm W 2]
  by_cases hpar : lo.length % 2 = 0
  · obtain ⟨qs, r, e, hv, hrd, hlq, hq⟩ :=
      div4by2Loop_spec W d hd (lo.length / 2) lo _ (by omega) hlo hr3
    refine ⟨qs ++ [_, 0], r, ?_, ?_, hrd, by simp [hlq, hlen'], IsWords.append hq hwq⟩
    · simp only [fastDivByDwordCore, hdrop, htake, bind, Except.bind, div3by2_ok W d _ _ hahi, hpar,
        if_true, e, pure, Except.pure]
    · rw [val_append_two, hvs, hP, hlq]
      linear_combination hv + 2 ^ (W * lo.length) * hq3
  · rcases lo with _ | ⟨x, pairs⟩
    · simp at hpar
    · obtain ⟨qs, r, e, hv, hrd, hlq, hq⟩ :=
        div4by2Loop_spec W d hd (pairs.length / 2) pairs _ (by simp at hpar; omega) hlo.tail hr3
      refine ⟨(x + 2 ^ W * r) / d :: qs ++ [_, 0], (x + 2 ^ W * r) % d, ?_, ?_, Nat.mod_lt _ hd,
        by simp [hlq, hlen'], IsWords.cons (quot_lt hlo.head hrd) (IsWords.append hq hwq)⟩
      · simp only [fastDivByDwordCore, hdrop, htake, bind, Except.bind, div3by2_ok W d _ _ hahi, hpar,
          if_false, e, div3by2_ok W d _ _ hrd, pure, Except.pure, List.cons_append]
      · simp only [List.cons_append, val_cons, val_append_two, hvs, hP, hlq, List.length_cons, pow_mul_succ]
        linear_combination Nat.div_add_mod (x + 2 ^ W * r) d + 2 ^ W * hv
          + 2 ^ W * 2 ^ (W * pairs.length) * hq3

theorem pow_W_shift_le (W shift : Nat) (hs : shift + 1 ≤ W) : 2 ^ W * 2 ^ shift ≤ 2 ^ (2 * W - 1) := by
  rw [← Nat.pow_add]; exact Nat.pow_le_pow_right (by omega) (by omega)

theorem fastDivByDwordInPlace_spec (W rhs shift : Nat) (ws : List Nat) (h : IsWords W ws)
    (hlen : 2 ≤ ws.length) (hrhs : 0 < rhs) (hs : shift + 1 ≤ W)
    (hd1 : 2 ^ (2 * W - 1) ≤ rhs * 2 ^ shift) :
    QuotRem W rhs (val W ws) ws.length (fastDivByDwordInPlace W ws shift (rhs * 2 ^ shift)) := by
  have ⟨s1, s2, s3, s4⟩ := shlInPlace_spec W shift (by omega) ws h
  have hhi : 2 ^ W * ((shlInPlace W ws shift).2 + 1) ≤ rhs * 2 ^ shift :=
    Nat.le_trans (Nat.le_trans (Nat.mul_le_mul_left _ s4) (pow_W_shift_le W shift hs)) hd1
  have := fastDivByDwordCore_spec W _ (Nat.mul_pos hrhs (Nat.two_pow_pos shift)) _ _ s3 (by omega) hhi
  rw [s2, s1] at this
  exact this.unshift

/-- `div_by_dword_in_place` = exact division of the slice by a divisor in `[2^W, 2^(2W))` -/
theorem divByDwordInPlace_spec (W rhs : Nat) (hW : 1 ≤ W) (ws : List Nat) (h : IsWords W ws)
    (hlen : 2 ≤ ws.length) (hge : 2 ^ W ≤ rhs) (hlt : rhs < 2 ^ (2 * W)) :
    QuotRem W rhs (val W ws) ws.length (divByDwordInPlace W ws rhs) := by
  have hrhs : 0 < rhs := Nat.lt_of_lt_of_le (Nat.two_pow_pos W) hge
  unfold divByDwordInPlace
  by_cases hpw : isPow2 rhs = true
  · rw [if_pos hpw]
    have hk := isPow2_log_lt hpw hlt
    have e := isPow2_eq hpw
    have hkW : W ≤ Nat.log2 rhs := by
      rw [e] at hge
      exact (Nat.pow_le_pow_iff_right (by omega)).mp hge
    generalize Nat.log2 rhs = k at *
    subst e
    -- a shift by `k = W + j` bits: a whole word, then `j < W` more; the remainder is
    -- `first + B·k'` for the word `first` and the `j` bits `k'` shifted out
    have ⟨a1, a2, a3, a4⟩ := shrInPlaceOneWord_spec W ws h
    by_cases h0 : k - W = 0
    · have : k = W := by omega
      subst this
      simp only [h0, if_true]
      exact ⟨_, _, rfl, a1, a4, a2, a3⟩
    · simp only [h0, if_false]
      have hj : k - W ≤ W := by omega
      obtain ⟨k', e1, hk', hv, hl, hw⟩ := shrInPlace_spec W (k - W) hj _ a3
      have hk2 : 2 ^ k = 2 ^ W * 2 ^ (k - W) := by rw [← Nat.pow_add]; congr 1; omega
      have hsp : 2 ^ W = 2 ^ (W - (k - W)) * 2 ^ (k - W) := pow_split hj
      have hq : (shrInPlaceOneWord ws).2 / 2 ^ (k - W) < 2 ^ (W - (k - W)) := by
        rw [Nat.div_lt_iff_lt_mul (Nat.two_pow_pos _), ← hsp]; exact a4
      have hrem : ((shrInPlaceOneWord ws).2 % 2 ^ (k - W) * 2 ^ (W - (k - W))
            + 2 ^ W * ((shrInPlaceOneWord ws).2 / 2 ^ (k - W) ||| k' * 2 ^ (W - (k - W)))) / 2 ^ (W - (k - W))
          = (shrInPlaceOneWord ws).2 + 2 ^ W * k' := by
        rw [lor_eq_add' _ _ _ hq]
        apply Nat.div_eq_of_eq_mul_left (Nat.two_pow_pos _)
        have hdm := Nat.div_add_mod (shrInPlaceOneWord ws).2 (2 ^ (k - W))
        rw [hsp]
        linear_combination 2 ^ (W - (k - W)) * hdm
      refine ⟨_, _, rfl, ?_, ?_, by rw [hl, a2], hw⟩
      · simp only [shrWord_spec W _ (k - W) hj, e1, hrem, hk2]
        linear_combination a1 + 2 ^ W * hv
      · simp only [shrWord_spec W _ (k - W) hj, e1, hrem, hk2]
        exact add_mul_lt a4 hk'
  · rw [if_neg hpw]
    have ⟨_, l2, l3⟩ := lz_spec (bits := 2 * W) (Nat.pos_iff_ne_zero.mp hrhs) hlt
    obtain ⟨qs, r, e, rest⟩ := fastDivByDwordInPlace_spec W rhs (lz (2 * W) rhs) ws h hlen hrhs
      (lz_dword_lt W rhs hW hge) l2
    refine ⟨qs, r, ?_, rest⟩
    simp only [Nat.mod_eq_of_lt l3, normNew_ok (2 * W) _ l2, bind, Except.bind, e]

theorem fastRemDwordPairs_spec (W d : Nat) (hd : 0 < d) (hn : 2 ^ (2 * W) ≤ 2 * d) (n : Nat)
    (ws : List Nat) (hl : ws.length = 2 * (n + 1)) (h : IsWords W ws) :
    fastRemDwordPairs W d ws = .ok (val W ws % d) := by
  induction n generalizing ws with
  | zero =>
    rcases ws with _ | ⟨a, _ | ⟨b, _ | ⟨c, t⟩⟩⟩
    · simp at hl
    · simp at hl
    · simp only [fastRemDwordPairs, val_cons, val_nil, Nat.mul_zero, Nat.add_zero]
      rw [div2by2_snd W d _ hn (dword_lt W a b h.head h.tail.head)]
    · simp at hl
  | succ n ih =>
    rcases ws with _ | ⟨a, _ | ⟨b, _ | ⟨c, t⟩⟩⟩
    · simp at hl
    · simp at hl; omega
    · simp at hl
    · have e := ih (c :: t) (by simp at hl ⊢; omega) h.tail.tail
      have hr : val W (c :: t) % d < d := Nat.mod_lt _ hd
      simp only [fastRemDwordPairs, e, bind, Except.bind, div4by2_ok W d _ _ hr, pure, Except.pure]
      rw [mod_step]
      congr 2
      simp only [val_cons]
      rw [two_pow_two_mul]; ring

/-- `fast_rem_by_normalized_dword` = remainder of the slice by the normalised double word `d` -/
theorem fastRemByNormalizedDword_spec (W d : Nat) (hd : 0 < d) (hn : 2 ^ (2 * W) ≤ 2 * d)
    (ws : List Nat) (h : IsWords W ws) (hlen : 2 ≤ ws.length) :
    fastRemByNormalizedDword W d ws = .ok (val W ws % d) := by
  unfold fastRemByNormalizedDword
  by_cases hpar : ws.length % 2 = 0
  · rw [if_pos hpar]
    exact fastRemDwordPairs_spec W d hd hn (ws.length / 2 - 1) ws (by omega) h
  · rw [if_neg hpar]
    rcases ws with _ | ⟨x, rest⟩
    · simp at hlen
    · have e := fastRemDwordPairs_spec W d hd hn (rest.length / 2 - 1) rest
        (by simp at hpar hlen; omega) h.tail
      have hr : val W rest % d < d := Nat.mod_lt _ hd
      simp only [e, bind, Except.bind, div3by2_ok W d _ _ hr, pure, Except.pure]
      rw [mod_step]
      rfl

/-- the high two words of a double word shifted by less than a word are below a normalised
    double-word divisor -/
theorem shl_hi_lt (W dw shift lo mid hi d : Nat) (hs : shift + 1 ≤ W) (hdw : dw < 2 ^ (2 * W))
    (h1 : lo + 2 ^ W * mid + 2 ^ (2 * W) * hi = dw * 2 ^ shift) (hd : 2 ^ (2 * W - 1) ≤ d) :
    mid + 2 ^ W * hi < d := by
  refine Nat.lt_of_lt_of_le ?_ (Nat.le_trans (pow_W_shift_le W shift hs) hd)
  apply Nat.lt_of_mul_lt_mul_left (a := 2 ^ W)
  calc 2 ^ W * (mid + 2 ^ W * hi) ≤ dw * 2 ^ shift := by
        rw [← h1, two_pow_two_mul, Nat.mul_add, Nat.mul_assoc, Nat.add_assoc]; exact Nat.le_add_left _ _
    _ < 2 ^ W * 2 ^ W * 2 ^ shift :=
        two_pow_two_mul W ▸ Nat.mul_lt_mul_of_pos_right hdw (Nat.two_pow_pos shift)
    _ = 2 ^ W * (2 ^ W * 2 ^ shift) := Nat.mul_assoc _ _ _

/-- the 3-by-2 primitive on a double word shifted by less than a word divides `dw·2^shift` -/
theorem div3by2_shl {W dw shift d n0 n1 n2 : Nat} (h : shlDword W dw shift = (n0, n1, n2))
    (hs : shift + 1 ≤ W) (hdw : dw < 2 ^ (2 * W)) (hd : 2 ^ (2 * W - 1) ≤ d) :
    div3by2 W d n0 (n1 + 2 ^ W * n2) = .ok (dw * 2 ^ shift / d, dw * 2 ^ shift % d) := by
  have ⟨d1, _, _, _⟩ := shlDword_spec W dw shift (by omega) hdw
  simp only [h] at d1
  have e : n0 + 2 ^ W * (n1 + 2 ^ W * n2) = dw * 2 ^ shift := by rw [← d1, two_pow_two_mul]; ring
  rw [div3by2_ok W d n0 _ (shl_hi_lt W dw shift n0 n1 n2 d hs hdw d1 hd), e]

/-- two 2-by-1 steps on a double word shifted by less than a word, the high two words first, for a
    normalised word `d`: each meets the primitive's precondition, together they divide `dw·2^shift` -/
theorem div2by1_shl_steps {W dw shift d n0 n1 n2 : Nat} (h : shlDword W dw shift = (n0, n1, n2))
    (hs : shift + 1 ≤ W) (hdw : dw < 2 ^ (2 * W)) (hd : 2 ^ (W - 1) ≤ d) :
    div2by1 W d (n1 + 2 ^ W * n2) = .ok ((n1 + 2 ^ W * n2) / d, (n1 + 2 ^ W * n2) % d) ∧
    div2by1 W d (n0 + 2 ^ W * ((n1 + 2 ^ W * n2) % d))
      = .ok ((n0 + 2 ^ W * ((n1 + 2 ^ W * n2) % d)) / d, dw * 2 ^ shift % d) ∧
    (n0 + 2 ^ W * ((n1 + 2 ^ W * n2) % d)) / d + 2 ^ W * ((n1 + 2 ^ W * n2) / d) = dw * 2 ^ shift / d := by
  have ⟨d1, d2, d3, d4⟩ := shlDword_spec W dw shift (by omega) hdw
  simp only [h] at d1 d2 d3 d4
  have hdpos : 0 < d := Nat.lt_of_lt_of_le (Nat.two_pow_pos _) hd
  have hhi : n2 < d :=
    Nat.lt_of_lt_of_le d4 (Nat.le_trans (Nat.pow_le_pow_right (by omega) (by omega)) hd)
  have e : n0 + 2 ^ W * (n1 + 2 ^ W * n2) = dw * 2 ^ shift := by rw [← d1, two_pow_two_mul]; ring
  refine ⟨div2by1_step W d n1 n2 d3 hhi, ?_, ?_⟩
  · rw [div2by1_step W d n0 _ d2 (Nat.mod_lt _ hdpos), mod_step, e]
  · have hy : n0 + 2 ^ W * (n1 + 2 ^ W * n2)
        = n0 + 2 ^ W * ((n1 + 2 ^ W * n2) % d) + d * (2 ^ W * ((n1 + 2 ^ W * n2) / d)) := by
      linear_combination 2 ^ W * (Nat.div_add_mod (n1 + 2 ^ W * n2) d).symm
    rw [← e, hy, Nat.add_mul_div_left _ _ hdpos]

/-- `rem_by_dword` = remainder of the slice by a divisor in `[2^W, 2^(2W))` -/
theorem remByDword_spec (W rhs : Nat) (hW : 1 ≤ W) (ws : List Nat) (h : IsWords W ws)
    (hlen : 2 ≤ ws.length) (hge : 2 ^ W ≤ rhs) (hlt : rhs < 2 ^ (2 * W)) :
    remByDword W ws rhs = .ok (val W ws % rhs) := by
  have hrhs : 0 < rhs := Nat.lt_of_lt_of_le (Nat.two_pow_pos W) hge
  unfold remByDword
  by_cases hpw : isPow2 rhs = true
  · rw [if_pos hpw]
    have hk := isPow2_log_lt hpw hlt
    have e := isPow2_eq hpw
    rcases ws with _ | ⟨w0, _ | ⟨w1, t⟩⟩
    · simp at hlen
    · simp at hlen
    · simp only [val_cons]
      generalize Nat.log2 rhs = k at *
      subst e
      rw [Nat.and_two_pow_sub_one_eq_mod]
      have : w0 + 2 ^ W * (w1 + 2 ^ W * val W t) = (w0 + 2 ^ W * w1) + 2 ^ (2 * W) * val W t := by
        rw [two_pow_two_mul]; ring
      rw [this, word_mod_pow (2 * W) k _ _ (Nat.le_of_lt hk)]
  · rw [if_neg hpw]
    have ⟨_, l2, _⟩ := lz_spec (bits := 2 * W) (Nat.pos_iff_ne_zero.mp hrhs) hlt
    obtain ⟨en, hdpos, l3, hn⟩ := lz_norm (bits := 2 * W) (by omega) hrhs hlt
    have e := fastRemByNormalizedDword_spec W _ hdpos hn ws h hlen
    have hr : val W ws % (rhs * 2 ^ lz (2 * W) rhs) < 2 ^ (2 * W) := Nat.lt_trans (Nat.mod_lt _ hdpos) l3
    have l4 := lz_dword_lt W rhs hW hge
    rcases hsd : shlDword W (val W ws % (rhs * 2 ^ lz (2 * W) rhs)) (lz (2 * W) rhs) with ⟨a0, a1, a2⟩
    simp only [en, bind, Except.bind, e, hsd, div3by2_shl hsd l4 hr l2, pure, Except.pure]
    rw [rem_unshift]

end Dashu.Model.Div
