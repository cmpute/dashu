import Dashu.Model.Int.Bits
import Dashu.Proofs.Int.Canon
import Dashu.Proofs.Int.Div.Basic
import Mathlib.Data.Int.Bitwise
import Mathlib.Data.Nat.Bitwise
import Mathlib.Tactic.LinearCombination
import Dashu.Proofs.Gen.BitLen
import Dashu.Proofs.Gen.Tz
/-
  The bit-operation layer (`integer/src/bits.rs`, `shift_ops.rs`, `shift.rs`) against the
  two's-complement specification, for every word size `W ≥ 1` and every operand length.
  Method: bit extensionality (`Nat.eq_of_testBit_eq`, `Nat.testBit_two_pow_mul_add`) for one word
  (`bitwise_cons`), one zip lemma over a word-operation interface for the four binary loops
  (`val_zipOp`, `val_opLargeDword`), case analysis on signs for the `IBig` tables, Mathlib's
  `Int.testBit` for the relational statement of the specification; counts of trailing zeros and ones
  are stated with `IsTz` (`Proofs/Gen/Tz`).
-/
namespace Dashu.Model

-- ================================================================== bits of `a + 2^W * x`

theorem testBit_cons (W a x i : Nat) (ha : a < 2 ^ W) :
    (a + 2 ^ W * x).testBit i = if i < W then a.testBit i else x.testBit (i - W) := by
  rw [Nat.add_comm]; exact Nat.testBit_two_pow_mul_add x ha i

theorem testBit_false_of_lt {x n i : Nat} (hx : x < 2 ^ n) (hi : n ≤ i) : x.testBit i = false :=
  Nat.testBit_lt_two_pow (Nat.lt_of_lt_of_le hx (Nat.pow_le_pow_right (by omega) hi))

theorem testBit_natAndNot (a b i : Nat) :
    (natAndNot a b).testBit i = (a.testBit i && !b.testBit i) := by
  unfold natAndNot
  rw [Nat.testBit_xor, Nat.testBit_and]
  cases a.testBit i <;> cases b.testBit i <;> rfl

theorem natAndNot_eq_ldiff (a b : Nat) : natAndNot a b = Nat.ldiff a b := by
  apply Nat.eq_of_testBit_eq; intro i
  rw [testBit_natAndNot, Nat.testBit_ldiff]

theorem natAndNot_le (a b : Nat) : natAndNot a b ≤ a := by
  have hsub : natAndNot a b &&& a = natAndNot a b := by
    apply Nat.eq_of_testBit_eq; intro i
    rw [Nat.testBit_and, testBit_natAndNot]
    cases a.testBit i <;> cases b.testBit i <;> rfl
  rw [← hsub]; exact Nat.and_le_right

theorem natAndNot_zero_left (b : Nat) : natAndNot 0 b = 0 := by simp [natAndNot]
theorem natAndNot_zero_right (a : Nat) : natAndNot a 0 = a := by simp [natAndNot]

theorem wnot_lt (W b : Nat) : wnot W b < 2 ^ W := by
  have := Nat.two_pow_pos W; unfold wnot; omega

theorem testBit_wnot (W b i : Nat) (hb : b < 2 ^ W) :
    (wnot W b).testBit i = (decide (i < W) && !b.testBit i) := by
  have : wnot W b = 2 ^ W - (b + 1) := by unfold wnot; omega
  rw [this]; exact Nat.testBit_two_pow_sub_succ hb i

/-- on `x < 2 ^ n` only the low `n` bits of the other operand matter -/
theorem and_mod_of_lt (x v n : Nat) (hx : x < 2 ^ n) : x &&& v = x &&& (v % 2 ^ n) := by
  apply Nat.eq_of_testBit_eq; intro i
  rw [Nat.testBit_and, Nat.testBit_and, Nat.testBit_mod_two_pow]
  by_cases h : i < n
  · simp [h]
  · simp [testBit_false_of_lt hx (Nat.le_of_not_lt h)]

theorem natAndNot_mod_of_lt (x v n : Nat) (hx : x < 2 ^ n) :
    natAndNot x v = x &&& wnot n (v % 2 ^ n) := by
  apply Nat.eq_of_testBit_eq; intro i
  rw [testBit_natAndNot, Nat.testBit_and, testBit_wnot n _ i (Nat.mod_lt _ (Nat.two_pow_pos n)),
    Nat.testBit_mod_two_pow]
  by_cases h : i < n
  · simp [h]
  · simp [testBit_false_of_lt hx (Nat.le_of_not_lt h)]

/-- An operation `F` that acts on every bit by `g`, with `g false false = false`, acts on
    `a + 2 ^ W * x` separately below and above bit `W`. -/
theorem bitwise_cons {F : Nat → Nat → Nat} {g : Bool → Bool → Bool} (hg : g false false = false)
    (hF : ∀ a b i, (F a b).testBit i = g (a.testBit i) (b.testBit i))
    (W a b x y : Nat) (ha : a < 2 ^ W) (hb : b < 2 ^ W) :
    F (a + 2 ^ W * x) (b + 2 ^ W * y) = F a b + 2 ^ W * F x y ∧ F a b < 2 ^ W := by
  have hab : F a b < 2 ^ W := by
    apply Nat.lt_pow_two_of_testBit; intro i hi
    rw [hF, testBit_false_of_lt ha hi, testBit_false_of_lt hb hi, hg]
  refine ⟨Nat.eq_of_testBit_eq fun i => ?_, hab⟩
  rw [hF, testBit_cons W a x i ha, testBit_cons W b y i hb, testBit_cons W _ _ i hab]
  split <;> rw [hF]

theorem and_cons (W a b x y : Nat) (ha : a < 2 ^ W) (hb : b < 2 ^ W) :
    (a + 2 ^ W * x) &&& (b + 2 ^ W * y) = (a &&& b) + 2 ^ W * (x &&& y) ∧ a &&& b < 2 ^ W :=
  bitwise_cons (g := and) rfl (fun _ _ _ => Nat.testBit_and ..) W a b x y ha hb

theorem or_cons (W a b x y : Nat) (ha : a < 2 ^ W) (hb : b < 2 ^ W) :
    (a + 2 ^ W * x) ||| (b + 2 ^ W * y) = (a ||| b) + 2 ^ W * (x ||| y) ∧ a ||| b < 2 ^ W :=
  bitwise_cons (g := or) rfl (fun _ _ _ => Nat.testBit_or ..) W a b x y ha hb

theorem xor_cons (W a b x y : Nat) (ha : a < 2 ^ W) (hb : b < 2 ^ W) :
    (a + 2 ^ W * x) ^^^ (b + 2 ^ W * y) = (a ^^^ b) + 2 ^ W * (x ^^^ y) ∧ a ^^^ b < 2 ^ W :=
  bitwise_cons (g := xor) rfl (fun _ _ _ => Nat.testBit_xor ..) W a b x y ha hb

theorem andNot_cons (W a b x y : Nat) (ha : a < 2 ^ W) (hb : b < 2 ^ W) :
    natAndNot (a + 2 ^ W * x) (b + 2 ^ W * y) = (a &&& wnot W b) + 2 ^ W * natAndNot x y ∧
      a &&& wnot W b < 2 ^ W := by
  have h := bitwise_cons (g := fun p q => p && !q) rfl testBit_natAndNot W a b x y ha hb
  rwa [natAndNot_mod_of_lt a b W ha, Nat.mod_eq_of_lt hb] at h

-- ================================================================== word loops

/-- A loop `Z` that combines two word lists by `f` on the common prefix, where `f` is what the
    operation `F` on values does to one word: `Z` computes `F`, given that it does so when either
    list has run out. -/
theorem val_zipOp (W : Nat) {F f : Nat → Nat → Nat} {Z : List Nat → List Nat → List Nat}
    (hcons : ∀ a b x y, a < 2 ^ W → b < 2 ^ W →
      F (a + 2 ^ W * x) (b + 2 ^ W * y) = f a b + 2 ^ W * F x y ∧ f a b < 2 ^ W)
    (hZ : ∀ a as b bs, Z (a :: as) (b :: bs) = f a b :: Z as bs)
    (hl : ∀ as, IsWords W as → val W (Z as []) = F (val W as) 0 ∧ IsWords W (Z as []))
    (hr : ∀ bs, IsWords W bs → val W (Z [] bs) = F 0 (val W bs) ∧ IsWords W (Z [] bs))
    (a b : List Nat) (ha : IsWords W a) (hb : IsWords W b) :
    val W (Z a b) = F (val W a) (val W b) ∧ IsWords W (Z a b) := by
  induction a generalizing b with
  | nil => exact hr b hb
  | cons x xs ih =>
    cases b with
    | nil => exact hl _ ha
    | cons y ys =>
      have ⟨e, w⟩ := ih ys ha.tail hb.tail
      have ⟨ec, lt⟩ := hcons x y (val W xs) (val W ys) ha.head hb.head
      rw [hZ, val_cons, val_cons, val_cons, ec, e]
      exact ⟨rfl, IsWords.cons lt w⟩

theorem val_zipAnd (W : Nat) (a b : List Nat) (ha : IsWords W a) (hb : IsWords W b) :
    val W (zipAnd a b) = val W a &&& val W b ∧ IsWords W (zipAnd a b) :=
  val_zipOp W (Z := zipAnd) (and_cons W) (fun _ _ _ _ => rfl)
    (fun as _ => by cases as <;> exact ⟨(Nat.and_zero _).symm, IsWords.nil W⟩)
    (fun bs _ => ⟨(Nat.zero_and _).symm, IsWords.nil W⟩) a b ha hb

theorem val_zipOr (W : Nat) (a b : List Nat) (ha : IsWords W a) (hb : IsWords W b) :
    val W (zipOr a b) = val W a ||| val W b ∧ IsWords W (zipOr a b) :=
  val_zipOp W (Z := zipOr) (or_cons W) (fun _ _ _ _ => rfl)
    (fun as h => by cases as <;> exact ⟨(Nat.or_zero _).symm, h⟩)
    (fun bs h => by cases bs <;> exact ⟨(Nat.zero_or _).symm, h⟩) a b ha hb

theorem val_zipXor (W : Nat) (a b : List Nat) (ha : IsWords W a) (hb : IsWords W b) :
    val W (zipXor a b) = val W a ^^^ val W b ∧ IsWords W (zipXor a b) :=
  val_zipOp W (Z := zipXor) (xor_cons W) (fun _ _ _ _ => rfl)
    (fun as h => by cases as <;> exact ⟨(Nat.xor_zero _).symm, h⟩)
    (fun bs h => by cases bs <;> exact ⟨(Nat.zero_xor _).symm, h⟩) a b ha hb

theorem val_zipAndNot (W : Nat) (a b : List Nat) (ha : IsWords W a) (hb : IsWords W b) :
    val W (zipAndNot W a b) = natAndNot (val W a) (val W b) ∧ IsWords W (zipAndNot W a b) :=
  val_zipOp W (Z := zipAndNot W) (andNot_cons W) (fun _ _ _ _ => rfl)
    (fun as h => by cases as <;> exact ⟨(natAndNot_zero_right _).symm, h⟩)
    (fun bs _ => ⟨(natAndNot_zero_left _).symm, IsWords.nil W⟩) a b ha hb

-- ================================================================== dispatch layer (TypedRepr)

theorem TRepr.Canon.two_le_len {W : Nat} {ws : List Nat} (h : (TRepr.large ws).Canon W) :
    2 ≤ ws.length := Nat.le_of_succ_le h.large_len

theorem fromBuffer_spec (W : Nat) {ws : List Nat} {v : Nat} (h : val W ws = v ∧ IsWords W ws) :
    (fromBuffer W ws).value W = v ∧ (fromBuffer W ws).Canon W :=
  ⟨(fromBuffer_value W ws).trans h.1, fromBuffer_canon W ws h.2⟩

theorem lowestDword_eq (W : Nat) (ws : List Nat) (hw : IsWords W ws) (hl : 2 ≤ ws.length) :
    val W ws % 2 ^ (2 * W) = lowestDword W ws := by
  obtain ⟨a, b, t, rfl⟩ := exists_cons_cons hl
  simp only [lowestDword, val_cons, List.getD_cons_zero, List.getD_cons_succ]
  rw [Nat.mul_add, ← Nat.add_assoc, ← Nat.mul_assoc, ← two_pow_two_mul, Nat.add_mul_mod_self_left]
  apply Nat.mod_eq_of_lt
  rw [two_pow_two_mul]
  exact add_mul_lt hw.head hw.tail.head

theorem val_opLargeDword (W : Nat) {f F : Nat → Nat → Nat}
    (hcons : ∀ a b x y, a < 2 ^ W → b < 2 ^ W →
      F (a + 2 ^ W * x) (b + 2 ^ W * y) = f a b + 2 ^ W * F x y ∧ f a b < 2 ^ W)
    (hz : ∀ x, F x 0 = x)
    (ws : List Nat) (d : Nat) (hw : IsWords W ws) (hl : 2 ≤ ws.length) (hd : d < 2 ^ (2 * W)) :
    val W (opLargeDword W f ws d) = F (val W ws) d ∧ IsWords W (opLargeDword W f ws d) := by
  obtain ⟨w0, w1, t, rfl⟩ := exists_cons_cons hl
  have hp : 0 < 2 ^ W := Nat.two_pow_pos W
  have hd1 : d / 2 ^ W < 2 ^ W := by
    rw [Nat.div_lt_iff_lt_mul hp, ← two_pow_two_mul]; exact hd
  have ⟨e0, l0⟩ := hcons w0 (d % 2 ^ W) (w1 + 2 ^ W * val W t) (d / 2 ^ W + 2 ^ W * 0)
    hw.head (Nat.mod_lt _ hp)
  have ⟨e1, l1⟩ := hcons w1 (d / 2 ^ W) (val W t) 0 hw.tail.head hd1
  refine ⟨?_, IsWords.cons l0 (IsWords.cons l1 hw.tail.tail)⟩
  rw [e1, hz, Nat.mul_zero, Nat.add_zero, Nat.mod_add_div] at e0
  exact e0.symm

theorem TRepr.bitand_spec (W : Nat) (a b : TRepr) (ha : a.Canon W) (hb : b.Canon W) :
    (a.bitand W b).value W = a.value W &&& b.value W ∧ (a.bitand W b).Canon W := by
  cases a with
  | small x =>
    have hx : x < 2 ^ (2 * W) := ha
    refine ⟨?_, by cases b <;> exact Nat.lt_of_le_of_lt Nat.and_le_left hx⟩
    cases b with
    | small y => rfl
    | large ws =>
      rw [TRepr.value_large, TRepr.value_small, and_mod_of_lt x _ _ hx,
        lowestDword_eq W ws hb.large_words hb.two_le_len]; rfl
  | large ws =>
    cases b with
    | small y =>
      have hy : y < 2 ^ (2 * W) := hb
      refine ⟨?_, Nat.lt_of_le_of_lt Nat.and_le_right hy⟩
      rw [TRepr.value_large, TRepr.value_small, Nat.and_comm, and_mod_of_lt y _ _ hy,
        lowestDword_eq W ws ha.large_words ha.two_le_len, Nat.and_comm]; rfl
    | large vs => exact fromBuffer_spec W (val_zipAnd W ws vs ha.large_words hb.large_words)

theorem TRepr.bitor_spec (W : Nat) (a b : TRepr) (ha : a.Canon W) (hb : b.Canon W) :
    (a.bitor W b).value W = a.value W ||| b.value W ∧ (a.bitor W b).Canon W := by
  have hop := val_opLargeDword W (or_cons W) Nat.or_zero
  cases a with
  | small x =>
    cases b with
    | small y => exact ⟨rfl, Nat.or_lt_two_pow ha hb⟩
    | large ws =>
      rw [TRepr.value_small, Nat.or_comm]
      exact fromBuffer_spec W (hop ws x hb.large_words hb.two_le_len ha)
  | large ws =>
    cases b with
    | small y => exact fromBuffer_spec W (hop ws y ha.large_words ha.two_le_len hb)
    | large vs => exact fromBuffer_spec W (val_zipOr W ws vs ha.large_words hb.large_words)

theorem TRepr.bitxor_spec (W : Nat) (a b : TRepr) (ha : a.Canon W) (hb : b.Canon W) :
    (a.bitxor W b).value W = a.value W ^^^ b.value W ∧ (a.bitxor W b).Canon W := by
  have hop := val_opLargeDword W (xor_cons W) Nat.xor_zero
  cases a with
  | small x =>
    cases b with
    | small y => exact ⟨rfl, Nat.xor_lt_two_pow ha hb⟩
    | large ws =>
      rw [TRepr.value_small, Nat.xor_comm]
      exact fromBuffer_spec W (hop ws x hb.large_words hb.two_le_len ha)
  | large ws =>
    cases b with
    | small y => exact fromBuffer_spec W (hop ws y ha.large_words ha.two_le_len hb)
    | large vs => exact fromBuffer_spec W (val_zipXor W ws vs ha.large_words hb.large_words)

theorem TRepr.andNot_spec (W : Nat) (a b : TRepr) (ha : a.Canon W) (hb : b.Canon W) :
    (a.andNot W b).value W = natAndNot (a.value W) (b.value W) ∧ (a.andNot W b).Canon W := by
  cases a with
  | small x =>
    have hx : x < 2 ^ (2 * W) := ha
    refine ⟨?_, by cases b <;> exact Nat.lt_of_le_of_lt Nat.and_le_left hx⟩
    cases b with
    | small y =>
      rw [TRepr.value_small, TRepr.value_small, natAndNot_mod_of_lt x y _ hx, Nat.mod_eq_of_lt hb]; rfl
    | large ws =>
      rw [TRepr.value_small, TRepr.value_large, natAndNot_mod_of_lt x _ _ hx,
        lowestDword_eq W ws hb.large_words hb.two_le_len]; rfl
  | large ws =>
    cases b with
    | small y =>
      exact fromBuffer_spec W (val_opLargeDword W (andNot_cons W) natAndNot_zero_right ws y
        ha.large_words ha.two_le_len hb)
    | large vs => exact fromBuffer_spec W (val_zipAndNot W ws vs ha.large_words hb.large_words)

-- ================================================================== add_one / sub_one

theorem magAddOne_spec (W : Nat) (hW : 1 ≤ W) (m : TRepr) (hm : m.Canon W) :
    (magAddOne W m).value W = m.value W + 1 ∧ (magAddOne W m).Canon W := by
  cases m with
  | small d =>
    have h1 : 1 < 2 ^ (2 * W) := Nat.one_lt_two_pow (by omega)
    exact addDword_spec W d 1 hm h1
  | large ws =>
    have ⟨e, l, w, c⟩ := addOne_spec W ws hm.large_words
    simp only [magAddOne]
    split
    · rename_i hc
      rw [hc, Nat.mul_zero, Nat.add_zero] at e
      exact fromBuffer_spec W ⟨e, w⟩
    · rename_i hc
      refine fromBuffer_spec W ⟨?_, IsWords.append w (isWords_one W hW)⟩
      rw [TRepr.value_large, val_append, l, ← e, show (addOne W ws).2 = 1 by omega]; rfl

theorem magSubOne_spec (W : Nat) (m : TRepr) (hm : m.Canon W) (hz : m.value W ≠ 0) :
    (magSubOne W m).value W = m.value W - 1 ∧ (magSubOne W m).Canon W := by
  cases m with
  | small d => exact ⟨rfl, Nat.lt_of_le_of_lt (Nat.sub_le d 1) hm⟩
  | large ws =>
    have ⟨e, l, w, c⟩ := subOne_spec W ws hm.large_words
    refine fromBuffer_spec W ⟨?_, w⟩
    have hlt := val_lt W _ w
    rw [l] at hlt
    -- a borrow out of the top word would mean `val W ws = 0`
    have hc0 : (subOne W ws).2 = 0 := by
      rcases Nat.eq_zero_or_pos (subOne W ws).2 with h | h
      · exact h
      · rw [show (subOne W ws).2 = 1 by omega, Nat.mul_one] at e
        exact absurd (show val W ws = 0 by omega) hz
    rw [hc0] at e
    show _ = val W ws - 1
    omega

-- ================================================================== the specification on sign cases

theorem compl_neg_toNat (y : Nat) : (compl (-(y : Int))).toNat = y - 1 := by unfold compl; omega

theorem not_nonneg_neg {y : Nat} (hy : y ≠ 0) : ¬ (0 : Int) ≤ -(y : Int) := by omega

theorem specAnd_pp (x y : Nat) : specAnd (x : Int) (y : Int) = ((x &&& y : Nat) : Int) := by
  simp only [specAnd, Int.natCast_nonneg, if_true, Int.toNat_natCast]

theorem specAnd_pn (x y : Nat) (hy : y ≠ 0) :
    specAnd (x : Int) (-(y : Int)) = ((natAndNot x (y - 1) : Nat) : Int) := by
  simp only [specAnd, Int.natCast_nonneg, not_nonneg_neg hy, if_true, if_false, Int.toNat_natCast,
    compl_neg_toNat]

theorem specAnd_np (x y : Nat) (hx : x ≠ 0) :
    specAnd (-(x : Int)) (y : Int) = ((natAndNot y (x - 1) : Nat) : Int) := by
  simp only [specAnd, Int.natCast_nonneg, not_nonneg_neg hx, if_true, if_false, Int.toNat_natCast,
    compl_neg_toNat]

theorem specAnd_nn (x y : Nat) (hx : x ≠ 0) (hy : y ≠ 0) :
    specAnd (-(x : Int)) (-(y : Int)) = compl (((x - 1) ||| (y - 1) : Nat) : Int) := by
  simp only [specAnd, not_nonneg_neg hx, not_nonneg_neg hy, if_false, compl_neg_toNat]

theorem specOr_pp (x y : Nat) : specOr (x : Int) (y : Int) = ((x ||| y : Nat) : Int) := by
  simp only [specOr, Int.natCast_nonneg, if_true, Int.toNat_natCast]

theorem specOr_pn (x y : Nat) (hy : y ≠ 0) :
    specOr (x : Int) (-(y : Int)) = compl ((natAndNot (y - 1) x : Nat) : Int) := by
  simp only [specOr, Int.natCast_nonneg, not_nonneg_neg hy, if_true, if_false, Int.toNat_natCast,
    compl_neg_toNat]

theorem specOr_np (x y : Nat) (hx : x ≠ 0) :
    specOr (-(x : Int)) (y : Int) = compl ((natAndNot (x - 1) y : Nat) : Int) := by
  simp only [specOr, Int.natCast_nonneg, not_nonneg_neg hx, if_true, if_false, Int.toNat_natCast,
    compl_neg_toNat]

theorem specOr_nn (x y : Nat) (hx : x ≠ 0) (hy : y ≠ 0) :
    specOr (-(x : Int)) (-(y : Int)) = compl (((x - 1) &&& (y - 1) : Nat) : Int) := by
  simp only [specOr, not_nonneg_neg hx, not_nonneg_neg hy, if_false, compl_neg_toNat]

theorem specXor_pp (x y : Nat) : specXor (x : Int) (y : Int) = ((x ^^^ y : Nat) : Int) := by
  simp only [specXor, Int.natCast_nonneg, if_true, Int.toNat_natCast]

theorem specXor_pn (x y : Nat) (hy : y ≠ 0) :
    specXor (x : Int) (-(y : Int)) = compl ((x ^^^ (y - 1) : Nat) : Int) := by
  simp only [specXor, Int.natCast_nonneg, not_nonneg_neg hy, if_true, if_false, Int.toNat_natCast,
    compl_neg_toNat]

theorem specXor_np (x y : Nat) (hx : x ≠ 0) :
    specXor (-(x : Int)) (y : Int) = compl (((x - 1) ^^^ y : Nat) : Int) := by
  simp only [specXor, Int.natCast_nonneg, not_nonneg_neg hx, if_true, if_false, Int.toNat_natCast,
    compl_neg_toNat]

theorem specXor_nn (x y : Nat) (hx : x ≠ 0) (hy : y ≠ 0) :
    specXor (-(x : Int)) (-(y : Int)) = (((x - 1) ^^^ (y - 1) : Nat) : Int) := by
  simp only [specXor, not_nonneg_neg hx, not_nonneg_neg hy, if_false, compl_neg_toNat]

-- ================================================================== IBig sign tables

theorem SCanon_iff_WF (W : Nat) (r : SRepr) : SCanon W r ↔ r.WF W := Iff.rfl

@[simp] theorem SRepr.value_mk_false (W : Nat) (m : TRepr) :
    (SRepr.mk false m).value W = (m.value W : Int) := by simp [SRepr.value]

@[simp] theorem SRepr.value_mk_true (W : Nat) (m : TRepr) :
    (SRepr.mk true m).value W = -(m.value W : Int) := by simp [SRepr.value]

theorem posRepr_spec (W : Nat) {m : TRepr} {v : Nat} (h : m.value W = v ∧ m.Canon W) :
    (posRepr m).value W = (v : Int) ∧ SCanon W (posRepr m) :=
  ⟨(SRepr.value_mk_false W m).trans (congrArg Nat.cast h.1), h.2, fun h => nomatch h⟩

theorem ibigNot_spec (W : Nat) (hW : 1 ≤ W) (a : SRepr) (ha : SCanon W a) :
    (ibigNot W a).value W = compl (a.value W) ∧ SCanon W (ibigNot W a) := by
  obtain ⟨an, am⟩ := a
  obtain ⟨hc, hz⟩ := ha
  cases an with
  | true =>
    have hz' : am.value W ≠ 0 := hz rfl
    have ⟨e, c⟩ := magSubOne_spec W am hc hz'
    refine ⟨?_, withSign_wf W _ _ c⟩
    simp only [ibigNot, withSign_value, e, SRepr.value_mk_true, compl, Bool.false_eq_true,
      ↓reduceIte]
    omega
  | false =>
    have ⟨e, c⟩ := magAddOne_spec W hW am hc
    refine ⟨?_, withSign_wf W _ _ c⟩
    simp only [ibigNot, Bool.false_eq_true, withSign_value, e, SRepr.value_mk_false, compl,
      ↓reduceIte]
    omega

theorem ibigNot_posRepr (W : Nat) (hW : 1 ≤ W) {m : TRepr} {v : Nat}
    (h : m.value W = v ∧ m.Canon W) :
    (ibigNot W (posRepr m)).value W = compl (v : Int) ∧ SCanon W (ibigNot W (posRepr m)) := by
  have ⟨e, c⟩ := posRepr_spec W h
  have ⟨en, cn⟩ := ibigNot_spec W hW _ c
  exact ⟨en.trans (congrArg compl e), cn⟩

theorem ibigAnd_spec (W : Nat) (hW : 1 ≤ W) (a b : SRepr) (ha : SCanon W a) (hb : SCanon W b) :
    (ibigAnd W a b).value W = specAnd (a.value W) (b.value W) ∧ SCanon W (ibigAnd W a b) := by
  obtain ⟨an, am⟩ := a
  obtain ⟨bn, bm⟩ := b
  obtain ⟨hca, hza⟩ := ha
  obtain ⟨hcb, hzb⟩ := hb
  cases an <;> cases bn <;> simp only [ibigAnd, SRepr.value_mk_false, SRepr.value_mk_true]
  · rw [specAnd_pp]
    exact posRepr_spec W (TRepr.bitand_spec W am bm hca hcb)
  · have ⟨e1, c1⟩ := magSubOne_spec W bm hcb (hzb rfl)
    rw [specAnd_pn _ _ (hzb rfl), ← e1]
    exact posRepr_spec W (TRepr.andNot_spec W am _ hca c1)
  · have ⟨e1, c1⟩ := magSubOne_spec W am hca (hza rfl)
    rw [specAnd_np _ _ (hza rfl), ← e1]
    exact posRepr_spec W (TRepr.andNot_spec W bm _ hcb c1)
  · have ⟨e0, c0⟩ := magSubOne_spec W am hca (hza rfl)
    have ⟨e1, c1⟩ := magSubOne_spec W bm hcb (hzb rfl)
    rw [specAnd_nn _ _ (hza rfl) (hzb rfl), ← e0, ← e1]
    exact ibigNot_posRepr W hW (TRepr.bitor_spec W _ _ c0 c1)

theorem ibigOr_spec (W : Nat) (hW : 1 ≤ W) (a b : SRepr) (ha : SCanon W a) (hb : SCanon W b) :
    (ibigOr W a b).value W = specOr (a.value W) (b.value W) ∧ SCanon W (ibigOr W a b) := by
  obtain ⟨an, am⟩ := a
  obtain ⟨bn, bm⟩ := b
  obtain ⟨hca, hza⟩ := ha
  obtain ⟨hcb, hzb⟩ := hb
  cases an <;> cases bn <;> simp only [ibigOr, SRepr.value_mk_false, SRepr.value_mk_true]
  · rw [specOr_pp]
    exact posRepr_spec W (TRepr.bitor_spec W am bm hca hcb)
  · have ⟨e1, c1⟩ := magSubOne_spec W bm hcb (hzb rfl)
    rw [specOr_pn _ _ (hzb rfl), ← e1]
    exact ibigNot_posRepr W hW (TRepr.andNot_spec W _ am c1 hca)
  · have ⟨e1, c1⟩ := magSubOne_spec W am hca (hza rfl)
    rw [specOr_np _ _ (hza rfl), ← e1]
    exact ibigNot_posRepr W hW (TRepr.andNot_spec W _ bm c1 hcb)
  · have ⟨e0, c0⟩ := magSubOne_spec W am hca (hza rfl)
    have ⟨e1, c1⟩ := magSubOne_spec W bm hcb (hzb rfl)
    rw [specOr_nn _ _ (hza rfl) (hzb rfl), ← e0, ← e1]
    exact ibigNot_posRepr W hW (TRepr.bitand_spec W _ _ c0 c1)

theorem ibigXor_spec (W : Nat) (hW : 1 ≤ W) (a b : SRepr) (ha : SCanon W a) (hb : SCanon W b) :
    (ibigXor W a b).value W = specXor (a.value W) (b.value W) ∧ SCanon W (ibigXor W a b) := by
  obtain ⟨an, am⟩ := a
  obtain ⟨bn, bm⟩ := b
  obtain ⟨hca, hza⟩ := ha
  obtain ⟨hcb, hzb⟩ := hb
  cases an <;> cases bn <;> simp only [ibigXor, SRepr.value_mk_false, SRepr.value_mk_true]
  · rw [specXor_pp]
    exact posRepr_spec W (TRepr.bitxor_spec W am bm hca hcb)
  · have ⟨e1, c1⟩ := magSubOne_spec W bm hcb (hzb rfl)
    rw [specXor_pn _ _ (hzb rfl), ← e1]
    exact ibigNot_posRepr W hW (TRepr.bitxor_spec W am _ hca c1)
  · have ⟨e1, c1⟩ := magSubOne_spec W am hca (hza rfl)
    rw [specXor_np _ _ (hza rfl), ← e1]
    exact ibigNot_posRepr W hW (TRepr.bitxor_spec W _ bm c1 hcb)
  · have ⟨e0, c0⟩ := magSubOne_spec W am hca (hza rfl)
    have ⟨e1, c1⟩ := magSubOne_spec W bm hcb (hzb rfl)
    rw [specXor_nn _ _ (hza rfl) (hzb rfl), ← e0, ← e1]
    exact posRepr_spec W (TRepr.bitxor_spec W _ _ c0 c1)

/-- `UBig & IBig -> UBig` -/
theorem ubigIbigAnd_spec (W : Nat) (a : TRepr) (b : SRepr) (ha : a.Canon W) (hb : SCanon W b) :
    ((ubigIbigAnd W a b).value W : Int) = specAnd (a.value W) (b.value W) ∧
      (ubigIbigAnd W a b).Canon W := by
  obtain ⟨bn, bm⟩ := b
  obtain ⟨hcb, hzb⟩ := hb
  cases bn <;> simp only [ubigIbigAnd, SRepr.value_mk_false, SRepr.value_mk_true, if_true,
    Bool.false_eq_true, if_false]
  · have ⟨e, c⟩ := TRepr.bitand_spec W a bm ha hcb
    exact ⟨by rw [e, specAnd_pp], c⟩
  · have ⟨e1, c1⟩ := magSubOne_spec W bm hcb (hzb rfl)
    have ⟨e, c⟩ := TRepr.andNot_spec W a _ ha c1
    exact ⟨by rw [e, e1, specAnd_pn _ _ (hzb rfl)], c⟩

/-- `IBig & UBig -> UBig` -/
theorem ibigUbigAnd_spec (W : Nat) (a : SRepr) (b : TRepr) (ha : SCanon W a) (hb : b.Canon W) :
    ((ibigUbigAnd W a b).value W : Int) = specAnd (a.value W) (b.value W) ∧
      (ibigUbigAnd W a b).Canon W := by
  obtain ⟨an, am⟩ := a
  obtain ⟨hca, hza⟩ := ha
  cases an <;> simp only [ibigUbigAnd, SRepr.value_mk_false, SRepr.value_mk_true, if_true,
    Bool.false_eq_true, if_false]
  · have ⟨e, c⟩ := TRepr.bitand_spec W b am hb hca
    exact ⟨by rw [e, specAnd_pp, Nat.and_comm], c⟩
  · have ⟨e1, c1⟩ := magSubOne_spec W am hca (hza rfl)
    have ⟨e, c⟩ := TRepr.andNot_spec W b _ hb c1
    exact ⟨by rw [e, e1, specAnd_np _ _ (hza rfl)], c⟩

-- ================================================================== the specification is two's complement

theorem specBit_natCast (n i : Nat) : specBit (n : Int) i = n.testBit i := by
  rw [specBit, Nat.testBit_eq_decide_div_mod_eq]
  exact decide_eq_decide.mpr (by norm_cast)

theorem specBit_negSucc (n i : Nat) : specBit (Int.negSucc n) i = !n.testBit i := by
  have hpos : (0 : Int) < (2 : Int) ^ i := by positivity
  have h : (Int.ediv (n : Int) ((2 : Int) ^ i)) = (((n / 2 ^ i) : Nat) : Int) := by
    push_cast; rfl
  rw [specBit, Int.negSucc_ediv n hpos, Nat.testBit_eq_decide_div_mod_eq, h, ← decide_not]
  exact decide_eq_decide.mpr (by omega)

/-- the specification's bit function is Mathlib's `Int.testBit` -/
theorem specBit_eq_testBit (x : Int) (i : Nat) : specBit x i = Int.testBit x i := by
  cases x with
  | ofNat n => exact specBit_natCast n i
  | negSucc n => exact specBit_negSucc n i

/-- an integer is determined by its (infinitely many) two's-complement bits -/
theorem int_eq_of_testBit_eq (a b : Int) (h : ∀ i, Int.testBit a i = Int.testBit b i) : a = b := by
  -- bit `m + n` is clear in `m` and in `n`, so there `↑m` and `-[n+1]` differ
  have big : ∀ m n : Nat, m.testBit (m + n) ≠ !n.testBit (m + n) := fun m n => by
    rw [testBit_false_of_lt Nat.lt_two_pow_self (Nat.le_add_right m n),
      testBit_false_of_lt Nat.lt_two_pow_self (Nat.le_add_left n m)]
    decide
  cases a with
  | ofNat m =>
    cases b with
    | ofNat n => exact congrArg Int.ofNat (Nat.eq_of_testBit_eq h)
    | negSucc n => exact absurd (h (m + n)) (big m n)
  | negSucc m =>
    cases b with
    | ofNat n => exact absurd (h (n + m)).symm (big n m)
    | negSucc n => exact congrArg Int.negSucc (Nat.eq_of_testBit_eq fun i => Bool.not_inj (h i))

theorem int_eq_of_specBit_eq (a b : Int) (h : ∀ i, specBit a i = specBit b i) : a = b :=
  int_eq_of_testBit_eq a b fun i => by rw [← specBit_eq_testBit, ← specBit_eq_testBit]; exact h i

theorem compl_eq_lnot (x : Int) : compl x = Int.lnot x := by
  cases x with
  | ofNat n =>
    show -((n : Nat) : Int) - 1 = Int.negSucc n
    omega
  | negSucc n =>
    show -(Int.negSucc n) - 1 = ((n : Nat) : Int)
    omega

-- `Int.negSucc n` is `-↑(n + 1)` by definition, which lets the sign-case lemmas apply as they are;
-- the `Int` operations of Mathlib are defined by the same complement identities.
theorem specAnd_eq_land (x y : Int) : specAnd x y = Int.land x y := by
  cases x with
  | ofNat m =>
    cases y with
    | ofNat n => exact specAnd_pp m n
    | negSucc n =>
      exact (specAnd_pn m (n + 1) n.succ_ne_zero).trans (congrArg Nat.cast (natAndNot_eq_ldiff m n))
  | negSucc m =>
    cases y with
    | ofNat n =>
      exact (specAnd_np (m + 1) n m.succ_ne_zero).trans (congrArg Nat.cast (natAndNot_eq_ldiff n m))
    | negSucc n =>
      exact (specAnd_nn (m + 1) (n + 1) m.succ_ne_zero n.succ_ne_zero).trans (compl_eq_lnot _)

theorem specOr_eq_lor (x y : Int) : specOr x y = Int.lor x y := by
  cases x with
  | ofNat m =>
    cases y with
    | ofNat n => exact specOr_pp m n
    | negSucc n =>
      exact (specOr_pn m (n + 1) n.succ_ne_zero).trans
        ((compl_eq_lnot _).trans (congrArg Int.negSucc (natAndNot_eq_ldiff n m)))
  | negSucc m =>
    cases y with
    | ofNat n =>
      exact (specOr_np (m + 1) n m.succ_ne_zero).trans
        ((compl_eq_lnot _).trans (congrArg Int.negSucc (natAndNot_eq_ldiff m n)))
    | negSucc n =>
      exact (specOr_nn (m + 1) (n + 1) m.succ_ne_zero n.succ_ne_zero).trans (compl_eq_lnot _)

theorem specXor_eq_xor (x y : Int) : specXor x y = Int.xor x y := by
  cases x with
  | ofNat m =>
    cases y with
    | ofNat n => exact specXor_pp m n
    | negSucc n => exact (specXor_pn m (n + 1) n.succ_ne_zero).trans (compl_eq_lnot _)
  | negSucc m =>
    cases y with
    | ofNat n => exact (specXor_np (m + 1) n m.succ_ne_zero).trans (compl_eq_lnot _)
    | negSucc n => exact specXor_nn (m + 1) (n + 1) m.succ_ne_zero n.succ_ne_zero

theorem specBit_specAnd (x y : Int) (i : Nat) :
    specBit (specAnd x y) i = (specBit x i && specBit y i) := by
  simp only [specBit_eq_testBit, specAnd_eq_land, Int.testBit_land]

theorem specBit_specOr (x y : Int) (i : Nat) :
    specBit (specOr x y) i = (specBit x i || specBit y i) := by
  simp only [specBit_eq_testBit, specOr_eq_lor, Int.testBit_lor]

theorem specBit_specXor (x y : Int) (i : Nat) :
    specBit (specXor x y) i = (specBit x i ^^ specBit y i) := by
  simp only [specBit_eq_testBit, specXor_eq_xor, Int.testBit_lxor]

theorem specBit_compl (x : Int) (i : Nat) : specBit (compl x) i = !specBit x i := by
  simp only [specBit_eq_testBit, compl_eq_lnot, Int.testBit_lnot]

-- ================================================================== shifts (shift.rs / shift_ops.rs)

theorem isWords_replicate (W n x : Nat) (hx : x < 2 ^ W) : IsWords W (List.replicate n x) := by
  intro w hw; rw [List.eq_of_mem_replicate hw]; exact hx

theorem isWords_singleton (W x : Nat) (hx : x < 2 ^ W) : IsWords W [x] :=
  IsWords.cons hx (IsWords.nil W)

theorem val_replicate_append (W z : Nat) (l : List Nat) :
    val W (List.replicate z 0 ++ l) = 2 ^ (W * z) * val W l := by
  rw [val_append, val_replicate_zero, List.length_replicate]; simp

theorem pow_div_mod (W n : Nat) : 2 ^ (W * (n / W)) * 2 ^ (n % W) = 2 ^ n := by
  rw [← Nat.pow_add, Nat.div_add_mod]

theorem val_lt_two_pow (W : Nat) (ws : List Nat) (n : Nat) (hw : IsWords W ws)
    (h : ws.length ≤ n / W) : val W ws < 2 ^ n :=
  Nat.lt_of_lt_of_le (val_lt W ws hw) (Nat.pow_le_pow_right (by omega)
    (Nat.le_trans (Nat.mul_le_mul_left _ h) (Nat.mul_div_le n W)))

/-- the bit model's left-shift loop is the division model's (`Div.shlLoop`): one function, one specification -/
theorem Div.shlLoop_eq (W s : Nat) (ws : List Nat) (c : Nat) : Div.shlLoop W s ws c = shlBits W ws s c := by
  induction ws generalizing c with
  | nil => rfl
  | cons a as ih => simp only [shlBits, Div.shlLoop, ih]

theorem shlBits_spec (W : Nat) (ws : List Nat) (s c : Nat) (hw : IsWords W ws) (hs : s ≤ W)
    (hc : c < 2 ^ s) :
    let r := shlBits W ws s c
    val W r.1 + 2 ^ (W * ws.length) * r.2 = val W ws * 2 ^ s + c ∧
    r.1.length = ws.length ∧ IsWords W r.1 ∧ r.2 < 2 ^ s :=
  Div.shlLoop_eq W s ws c ▸ Div.shlLoop_spec W s hs ws c hw hc

theorem mathShlDword_spec (W d s : Nat) (hd : d < 2 ^ (2 * W)) (hs : s ≤ W) :
    let r := mathShlDword W d s
    r.1 + 2 ^ W * (r.2.1 + 2 ^ W * r.2.2) = d * 2 ^ s ∧ r.1 < 2 ^ W ∧ r.2.1 < 2 ^ W ∧ r.2.2 < 2 ^ W := by
  -- the division model's `shlDword` is the same expression
  rw [show mathShlDword W d s = Div.shlDword W d s from rfl]
  have ⟨e, h0, h1, h2⟩ := Div.shlDword_spec W d s hs hd
  rw [two_pow_two_mul] at e
  exact ⟨by linear_combination e, h0, h1, Nat.lt_of_lt_of_le h2 (Nat.pow_le_pow_right (by omega) hs)⟩

theorem shlLarge_spec (W : Nat) (hW : 1 ≤ W) (ws : List Nat) (n : Nat) (hw : IsWords W ws) :
    (shlLarge W ws n).value W = val W ws * 2 ^ n ∧ (shlLarge W ws n).Canon W := by
  have hs : n % W ≤ W := Nat.le_of_lt (Nat.mod_lt _ hW)
  have ⟨e, l, w, c⟩ := shlBits_spec W ws (n % W) 0 hw hs (Nat.two_pow_pos _)
  have hc := Nat.lt_of_lt_of_le c (Nat.pow_le_pow_right (by omega) hs)
  refine fromBuffer_spec W ⟨?_, IsWords.append (IsWords.append
    (isWords_replicate W _ 0 (Nat.two_pow_pos W)) w) (isWords_singleton W _ hc)⟩
  rw [List.append_assoc, val_replicate_append, val_append, l, val_cons, val_nil, Nat.mul_zero,
    Nat.add_zero, e, Nat.add_zero, ← pow_div_mod W n]
  ring

theorem bitLenNat_spec (d : Nat) : d < 2 ^ bitLenNat d ∧ (d ≠ 0 → 2 ^ (bitLenNat d - 1) ≤ d) :=
  ⟨Dashu.Proofs.Gen.lt_two_pow_blen d, Dashu.Proofs.Gen.two_pow_blen_le⟩

theorem bitLenNat_le (d k : Nat) (hd : d < 2 ^ k) : bitLenNat d ≤ k := Dashu.Proofs.Gen.blen_le_iff.2 hd

theorem shlDword_spec (W : Nat) (hW : 1 ≤ W) (d n : Nat) (hd : d < 2 ^ (2 * W)) :
    (shlDword W d n).value W = d * 2 ^ n ∧ (shlDword W d n).Canon W := by
  have hs : n % W < W := Nat.mod_lt _ hW
  have hz := isWords_replicate W (n / W) 0 (Nat.two_pow_pos W)
  unfold shlDword
  split
  · rename_i h
    refine ⟨rfl, ?_⟩
    have hb := bitLenNat_le d _ hd
    calc d * 2 ^ n < 2 ^ bitLenNat d * 2 ^ n :=
          Nat.mul_lt_mul_of_pos_right (bitLenNat_spec d).1 (Nat.two_pow_pos n)
      _ = 2 ^ (bitLenNat d + n) := (Nat.pow_add _ _ _).symm
      _ ≤ 2 ^ (2 * W) := Nat.pow_le_pow_right (by omega) (by omega)
  · split
    · rename_i h1; subst h1
      refine fromBuffer_spec W ⟨?_, IsWords.append hz
        (isWords_singleton W _ (Nat.pow_lt_pow_right (by omega) hs))⟩
      rw [val_replicate_append, val_cons, val_nil, Nat.mul_zero, Nat.add_zero, Nat.one_mul]
      exact pow_div_mod W n
    · have ⟨e, w0, w1, w2⟩ := mathShlDword_spec W d (n % W) hd (Nat.le_of_lt hs)
      generalize mathShlDword W d (n % W) = r at e w0 w1 w2 ⊢
      refine fromBuffer_spec W ⟨?_, IsWords.append hz
        (IsWords.cons w0 (IsWords.cons w1 (isWords_singleton W _ w2)))⟩
      rw [val_replicate_append, val_cons, val_cons, val_cons, val_nil, Nat.mul_zero, Nat.add_zero, e,
        ← pow_div_mod W n]
      ring

theorem TRepr.shl_spec (W : Nat) (hW : 1 ≤ W) (m : TRepr) (n : Nat) (hm : m.Canon W) :
    (m.shl W n).value W = m.value W * 2 ^ n ∧ (m.shl W n).Canon W := by
  cases m with
  | small d =>
    simp only [TRepr.shl]
    split
    · rename_i h; subst h
      exact ⟨(Nat.zero_mul _).symm, Nat.two_pow_pos _⟩
    · exact shlDword_spec W hW d n hm
  | large ws => exact shlLarge_spec W hW ws n hm.large_words

theorem Div.shrLoop_eq (W s : Nat) (hs : s ≤ W) (ws : List Nat) : Div.shrLoop W s ws 0 = shrBits W s ws := by
  induction ws with
  | nil => rfl
  | cons a as ih => simp only [shrBits, Div.shrLoop, ih, Div.shrWord_spec W a s hs]

theorem shrBits_spec (W s : Nat) (ws : List Nat) (hw : IsWords W ws) (hs : s ≤ W) :
    let r := shrBits W s ws
    val W r.1 = val W ws / 2 ^ s ∧ r.2 = (val W ws % 2 ^ s) * 2 ^ (W - s) ∧
    r.1.length = ws.length ∧ IsWords W r.1 := by
  obtain ⟨k, e, hk, hv, hl, hww⟩ := Div.shrLoop_spec W s hs ws 0 hw (Nat.two_pow_pos s)
  rw [Nat.zero_mul, Div.shrLoop_eq W s hs, Nat.zero_mul, Nat.add_zero] at *
  obtain ⟨hq, hr⟩ := (Nat.div_mod_unique (Nat.two_pow_pos s)).2 ⟨(Nat.add_comm .. ▸ Nat.mul_comm .. ▸ hv :
    k + 2 ^ s * val W (shrBits W s ws).1 = val W ws), hk⟩
  exact ⟨hq.symm, by rw [e, hr], hl, hww⟩

theorem val_drop (W : Nat) (ws : List Nat) (k : Nat) (hw : IsWords W ws) :
    val W (ws.drop k) = val W ws / 2 ^ (W * k) := by
  rcases Nat.lt_or_ge k ws.length with hk | hk
  · have hlt := val_take_lt W hw (Nat.le_of_lt hk)
    have h := val_take_add_drop W ws k
    rw [length_take_of_le (Nat.le_of_lt hk)] at h
    rw [h, Nat.add_mul_div_left _ _ (Nat.two_pow_pos _), Nat.div_eq_of_lt hlt, Nat.zero_add]
  · rw [List.drop_eq_nil_of_le hk, Nat.div_eq_of_lt (Nat.lt_of_lt_of_le (val_lt W ws hw)
      (Nat.pow_le_pow_right (by omega) (Nat.mul_le_mul_left _ hk)))]
    rfl

theorem div_pow_div_mod (v W n : Nat) : v / 2 ^ (W * (n / W)) / 2 ^ (n % W) = v / 2 ^ n := by
  rw [Nat.div_div_eq_div_mul, pow_div_mod]

theorem shrLarge_spec (W : Nat) (hW : 1 ≤ W) (ws : List Nat) (n : Nat) (hw : IsWords W ws) :
    (shrLarge W ws n).value W = val W ws / 2 ^ n ∧ (shrLarge W ws n).Canon W := by
  unfold shrLarge
  split
  · rename_i h
    exact ⟨(Nat.div_eq_of_lt (val_lt_two_pow W ws n hw h)).symm, Nat.two_pow_pos _⟩
  · have ⟨e, _, _, w⟩ := shrBits_spec W (n % W) (ws.drop (n / W)) (hw.drop _)
      (Nat.le_of_lt (Nat.mod_lt _ hW))
    exact fromBuffer_spec W ⟨by rw [e, val_drop W ws _ hw, div_pow_div_mod], w⟩

theorem shrLargeRef_spec (W : Nat) (hW : 1 ≤ W) (ws : List Nat) (n : Nat) (hw : IsWords W ws) :
    (shrLargeRef W ws n).value W = val W ws / 2 ^ n ∧ (shrLargeRef W ws n).Canon W := by
  have hdw := hw.drop (min (n / W) ws.length)
  have hd : val W (ws.drop (min (n / W) ws.length)) / 2 ^ (n % W) = val W ws / 2 ^ n := by
    rcases Nat.le_total (n / W) ws.length with hk | hk
    · rw [Nat.min_eq_left hk, val_drop W ws _ hw, div_pow_div_mod]
    · rw [Nat.min_eq_right hk, List.drop_length, Nat.div_eq_of_lt (val_lt_two_pow W ws n hw hk)]
      exact Nat.zero_div _
  -- what is left of at most two words is a double word
  have hsmall : (ws.drop (min (n / W) ws.length)).length ≤ 2 → val W ws / 2 ^ n < 2 ^ (2 * W) :=
    fun hl => hd ▸ Nat.lt_of_le_of_lt (Nat.div_le_self _ _) (Nat.lt_of_lt_of_le (val_lt W _ hdw)
      (Nat.pow_le_pow_right (by omega) (Nat.mul_comm 2 W ▸ Nat.mul_le_mul_left W hl)))
  unfold shrLargeRef
  split
  · rename_i h; rw [h] at hd hsmall
    have e : 0 = val W ws / 2 ^ n := (Nat.zero_div _).symm.trans hd
    exact ⟨e, e ▸ hsmall (Nat.zero_le _)⟩
  · rename_i w h; rw [h] at hd hsmall
    have e : w / 2 ^ (n % W) = val W ws / 2 ^ n := by simpa using hd
    exact ⟨e, e ▸ hsmall (by simp)⟩
  · rename_i lo hi h; rw [h] at hd hsmall
    have e : (lo + 2 ^ W * hi) / 2 ^ (n % W) = val W ws / 2 ^ n := by simpa using hd
    exact ⟨e, e ▸ hsmall (by simp)⟩
  · have ⟨e, _, _, w⟩ := shrBits_spec W (n % W) _ hdw (Nat.le_of_lt (Nat.mod_lt _ hW))
    exact fromBuffer_spec W ⟨e.trans hd, w⟩

theorem TRepr.shr_spec (W : Nat) (hW : 1 ≤ W) (m : TRepr) (n : Nat) (byRef : Bool) (hm : m.Canon W) :
    (m.shr W n byRef).value W = m.value W / 2 ^ n ∧ (m.shr W n byRef).Canon W := by
  cases m with
  | small d =>
    have hd : d < 2 ^ (2 * W) := hm
    simp only [TRepr.shr, shrDword]
    split
    · exact ⟨rfl, Nat.lt_of_le_of_lt (Nat.div_le_self _ _) hd⟩
    · rename_i h
      exact ⟨(Nat.div_eq_of_lt (Nat.lt_of_lt_of_le hd
        (Nat.pow_le_pow_right (by omega) (Nat.le_of_not_lt h)))).symm, Nat.two_pow_pos _⟩
  | large ws =>
    cases byRef
    · exact shrLarge_spec W hW ws n hm.large_words
    · exact shrLargeRef_spec W hW ws n hm.large_words

-- ================================================================== IBig >> n = floor division

theorem onesN_and (x n : Nat) : x &&& onesN n = x % 2 ^ n := Nat.and_two_pow_sub_one_eq_mod x n

theorem mod_pow_min (d n K : Nat) (hd : d < 2 ^ K) : d % 2 ^ (min n K) = d % 2 ^ n := by
  rcases Nat.le_total n K with h | h
  · rw [Nat.min_eq_left h]
  · rw [Nat.min_eq_right h, Nat.mod_eq_of_lt hd,
      Nat.mod_eq_of_lt (Nat.lt_of_lt_of_le hd (Nat.pow_le_pow_right (by omega) h))]

theorem areDwordLowBitsNonzero_fixed (W d n : Nat) (hd : d < 2 ^ (2 * W)) :
    areDwordLowBitsNonzero W true d n = decide (d % 2 ^ n ≠ 0) := by
  simp only [areDwordLowBitsNonzero, if_true, onesN_and, mod_pow_min d n _ hd]
  cases h : decide (d % 2 ^ n ≠ 0) <;> simp_all

theorem areDwordLowBitsNonzero_asis (W d n : Nat) :
    areDwordLowBitsNonzero W false d n = decide (d % 2 ^ (min n W) ≠ 0) := by
  simp only [areDwordLowBitsNonzero, Bool.false_eq_true, if_false, onesN_and]
  cases h : decide (d % 2 ^ (min n W) ≠ 0) <;> simp_all

theorem any_ne_zero (W : Nat) (l : List Nat) : l.any (· != 0) = decide (val W l ≠ 0) := by
  induction l with
  | nil => simp
  | cons a as ih =>
    simp only [List.any_cons, ih, val_cons]
    have hp : 0 < 2 ^ W := Nat.two_pow_pos W
    by_cases ha : a = 0
    · subst ha
      by_cases hv : val W as = 0
      · simp [hv]
      · have : 2 ^ W * val W as ≠ 0 := Nat.mul_ne_zero (by omega) hv
        simp [hv, this]
    · have : a + 2 ^ W * val W as ≠ 0 := by omega
      simp [ha, this]

/-- value modulo `2^n` in terms of the word at index `n / W` -/
theorem val_mod_two_pow (W : Nat) (hW : 1 ≤ W) (ws : List Nat) (n : Nat) (hw : IsWords W ws)
    (hk : n / W < ws.length) :
    val W ws % 2 ^ n
      = val W (ws.take (n / W)) + 2 ^ (W * (n / W)) * (ws.getD (n / W) 0 % 2 ^ (n % W)) := by
  have hlt := val_take_lt W hw (Nat.le_of_lt hk)
  have hsplit := val_take_add_drop W ws (n / W)
  rw [length_take_of_le (Nat.le_of_lt hk), (set_take_drop ws (n / W) 0 hk).2.2, val_cons] at hsplit
  conv => lhs; rw [← pow_div_mod W n]
  rw [Nat.mod_mul, hsplit, Nat.add_mul_mod_self_left, Nat.mod_eq_of_lt hlt,
    Nat.add_mul_div_left _ _ (Nat.two_pow_pos _), Nat.div_eq_of_lt hlt, Nat.zero_add]
  congr 2
  rw [pow_split W (n % W) (Nat.le_of_lt (Nat.mod_lt _ hW)), Nat.mul_assoc,
    Nat.add_mul_mod_self_left]

theorem areSliceLowBitsNonzero_spec (W : Nat) (hW : 1 ≤ W) (ws : List Nat) (n : Nat)
    (hw : IsWords W ws) (hnz : val W ws ≠ 0) :
    areSliceLowBitsNonzero W ws n = decide (val W ws % 2 ^ n ≠ 0) := by
  unfold areSliceLowBitsNonzero
  split
  · rename_i h
    rw [Nat.mod_eq_of_lt (val_lt_two_pow W ws n hw h)]; simp [hnz]
  · rename_i h
    rw [any_ne_zero W, onesN_and, val_mod_two_pow W hW ws n hw (Nat.lt_of_not_le h)]
    generalize val W (List.take (n / W) ws) = t
    generalize ws.getD (n / W) 0 % 2 ^ (n % W) = u
    by_cases ht : t = 0 <;> by_cases hu : u = 0 <;> simp [ht, hu]

theorem neg_ediv_two_pow (m n : Nat) :
    (-(m : Int)) / (2 : Int) ^ n
      = -((m / 2 ^ n : Nat) : Int) - (if m % 2 ^ n ≠ 0 then 1 else 0) := by
  have hc : ((2 : Int) ^ n) = ((2 ^ n : Nat) : Int) := by push_cast; rfl
  have hdm := Nat.div_add_mod m (2 ^ n)
  have hlt := Nat.mod_lt m (Nat.two_pow_pos n)
  have hpos := Nat.two_pow_pos n
  rw [hc]
  generalize m / 2 ^ n = q at *
  generalize m % 2 ^ n = r at *
  generalize 2 ^ n = P at *
  have hP : (0 : Int) < (P : Int) := by exact_mod_cast hpos
  have hm : (m : Int) = (P : Int) * q + r := by exact_mod_cast hdm.symm
  by_cases hr : r = 0
  · subst hr
    simp only [ne_eq, not_true_eq_false, if_false, Int.sub_zero]
    refine ((Int.ediv_emod_unique (r := 0) hP).mpr ⟨?_, Int.le_refl _, hP⟩).1
    rw [hm]; push_cast; ring
  · simp only [ne_eq, hr, not_false_eq_true, if_true]
    refine ((Int.ediv_emod_unique (r := (P : Int) - r) hP).mpr ⟨?_, by omega, by omega⟩).1
    rw [hm]; ring

theorem TRepr.areLowBitsNonzero_fixed (W : Nat) (hW : 1 ≤ W) (m : TRepr) (n : Nat) (hm : m.Canon W)
    (hz : m.value W ≠ 0) :
    m.areLowBitsNonzero W true n = decide (m.value W % 2 ^ n ≠ 0) := by
  cases m with
  | small d => exact areDwordLowBitsNonzero_fixed W d n hm
  | large ws => exact areSliceLowBitsNonzero_spec W hW ws n hm.large_words hz

/-- `IBig >> n` with the repaired `are_dword_low_bits_nonzero` is floor division by `2^n` -/
theorem ibigShr_fixed (W : Nat) (hW : 1 ≤ W) (a : SRepr) (n : Nat) (byRef : Bool) (ha : SCanon W a) :
    ibigShr W true a n byRef = specShr (a.value W) n := by
  obtain ⟨an, am⟩ := a
  obtain ⟨hc, hz⟩ := ha
  have ⟨e, _⟩ := TRepr.shr_spec W hW am n byRef hc
  cases an with
  | false =>
    simp only [ibigShr, Bool.false_eq_true, if_false, e, specShr, SRepr.value_mk_false]
    push_cast; rfl
  | true =>
    have hz' : am.value W ≠ 0 := hz rfl
    simp only [ibigShr, if_true, e, specShr, SRepr.value_mk_true,
      TRepr.areLowBitsNonzero_fixed W hW am n hc hz', neg_ediv_two_pow]
    by_cases h : am.value W % 2 ^ n = 0 <;> simp [h]

/-- `IBig >> n` of the code as it was (`fx = false`) is floor division outside the defect class `shrDefect` -/
theorem ibigShr_asis (W : Nat) (hW : 1 ≤ W) (a : SRepr) (n : Nat) (byRef : Bool) (ha : SCanon W a)
    (hnd : shrDefect W a n = false) :
    ibigShr W false a n byRef = specShr (a.value W) n := by
  rw [← ibigShr_fixed W hW a n byRef ha]
  obtain ⟨an, am⟩ := a
  cases an with
  | false => simp [ibigShr]
  | true =>
    cases am with
    | large ws => rfl
    | small d =>
      have hd : d < 2 ^ (2 * W) := ha.1
      simp only [ibigShr, if_true, TRepr.areLowBitsNonzero, areDwordLowBitsNonzero_asis,
        areDwordLowBitsNonzero_fixed W d n hd]
      have key : (d % 2 ^ (min n W) ≠ 0) ↔ (d % 2 ^ n ≠ 0) := by
        rcases Nat.lt_or_ge W n with h | h
        · rw [Nat.min_eq_right (Nat.le_of_lt h)]
          have hdvd : 2 ^ W ∣ 2 ^ n := Nat.pow_dvd_pow 2 (Nat.le_of_lt h)
          have hmm := Nat.mod_mod_of_dvd d hdvd
          constructor
          · intro h1 h2; rw [h2] at hmm; simp at hmm; exact h1 hmm.symm
          · intro h1 h2
            have hdef : shrDefect W ⟨true, .small d⟩ n = true := by
              simp [shrDefect, h, h2, mod_pow_min d n _ hd, h1]
            rw [hnd] at hdef; exact absurd hdef (by simp)
        · rw [Nat.min_eq_left h]
      simp only [key]

-- ================================================================== trailing zeros / ones

theorem IsTz.pow_le {n k : Nat} (h : IsTz n k) : 2 ^ k ≤ n := by
  obtain ⟨i, rfl⟩ := isTz_iff.1 h
  exact Nat.le_mul_of_pos_right _ (Nat.succ_pos _)

theorem IsTz.ne_zero {n k : Nat} (h : IsTz n k) : n ≠ 0 :=
  Nat.ne_of_gt (Nat.lt_of_lt_of_le (Nat.two_pow_pos k) h.pow_le)

theorem IsTz.lt_of_lt {n k N : Nat} (h : IsTz n k) (hn : n < 2 ^ N) : k < N :=
  (Nat.pow_lt_pow_iff_right (by omega : 1 < 2)).mp (Nat.lt_of_le_of_lt h.pow_le hn)

theorem two_pow_split_above {k N : Nat} (h : k < N) : 2 ^ N = 2 ^ k * (2 * 2 ^ (N - k - 1)) := by
  rw [← Nat.pow_succ', ← Nat.pow_add]; congr 1; omega

theorem tzAux_spec (f n : Nat) (hn : n ≠ 0) (hlt : n < 2 ^ f) : IsTz n (tzAux f n) :=
  IsTz.of_fuel (g := tzAux) (fun _ _ h => by simp [tzAux, h]) (fun _ _ _ h => by simp [tzAux, h]) f n hn hlt

theorem tzWord_spec (bits n : Nat) (hn : n ≠ 0) (hlt : n < 2 ^ bits) : IsTz n (tzWord bits n) := by
  simp only [tzWord, hn, if_false]; exact tzAux_spec bits n hn hlt

/-- adding a multiple of a higher power of two does not change the trailing zeros -/
theorem IsTz.add_high {w k W : Nat} (h : IsTz w k) (hw : w < 2 ^ W) (v : Nat) :
    IsTz (w + 2 ^ W * v) k := by
  have hs := two_pow_split_above (h.lt_of_lt hw)
  obtain ⟨i, rfl⟩ := isTz_iff.1 h
  exact isTz_iff.2 ⟨i + 2 ^ (W - k - 1) * v, by rw [hs]; ring⟩

theorem IsTz.shift {v k : Nat} (h : IsTz v k) (W : Nat) : IsTz (2 ^ W * v) (k + W) := by
  obtain ⟨i, rfl⟩ := isTz_iff.1 h
  exact isTz_iff.2 ⟨i, by rw [Nat.pow_add]; ring⟩

theorem tzLarge_spec (W : Nat) (ws : List Nat) (hw : IsWords W ws) (hnz : val W ws ≠ 0) :
    ∃ k, tzLarge W ws = .ok k ∧ IsTz (val W ws) k := by
  induction ws with
  | nil => simp at hnz
  | cons w ws ih =>
    simp only [tzLarge]
    split
    · rename_i h
      exact ⟨_, rfl, (tzWord_spec W w h hw.head).add_high hw.head _⟩
    · rename_i h
      have hw0 : w = 0 := by omega
      subst hw0
      simp only [val_cons, Nat.zero_add] at hnz ⊢
      have hv : val W ws ≠ 0 := by intro h0; rw [h0] at hnz; simp at hnz
      obtain ⟨k, hk, ht⟩ := ih hw.tail hv
      exact ⟨k + W, by rw [hk]; rfl, ht.shift W⟩

theorem toWord_spec (f n : Nat) (hlt : n < 2 ^ f) : IsTz (n + 1) (toWord f n) := by
  induction f generalizing n with
  | zero =>
    have : n = 0 := by simpa using hlt
    subst this; simp [toWord, IsTz]
  | succ f ih =>
    simp only [toWord]
    split
    · rename_i h; exact IsTz.zero_of_odd (by omega)
    · rename_i h
      have := (ih (n / 2) (by rw [Nat.pow_succ] at hlt; omega)).double
      have he : 2 * (n / 2 + 1) = n + 1 := by omega
      rwa [he] at this

theorem toScanFixed_spec (W : Nat) (ws : List Nat) (hw : IsWords W ws) :
    IsTz (val W ws + 1) (toScanFixed W ws) := by
  induction ws with
  | nil => simp [toScanFixed, IsTz]
  | cons w ws ih =>
    have hw0 := hw.head
    simp only [toScanFixed, val_cons]
    split
    · rename_i h
      have h1 : w + 1 < 2 ^ W := by omega
      have := (toWord_spec W w hw0).add_high h1 (val W ws)
      rwa [show w + 1 + 2 ^ W * val W ws = w + 2 ^ W * val W ws + 1 by omega] at this
    · rename_i h
      have hmax : w = 2 ^ W - 1 := by omega
      have hp := Nat.two_pow_pos W
      have := (ih hw.tail).shift W
      rwa [show 2 ^ W * (val W ws + 1) = w + 2 ^ W * val W ws + 1 by rw [hmax, Nat.mul_add]; omega] at this

/-- where not every scanned word is `MAX`, the panicking scan agrees with the total one -/
theorem toScan_eq_fixed (W : Nat) (ws : List Nat) (h : ws.all (· == 2 ^ W - 1) = false) :
    toScan W ws = .ok (toScanFixed W ws) := by
  induction ws with
  | nil => simp at h
  | cons w ws ih =>
    simp only [toScan, toScanFixed]
    split
    · rfl
    · rename_i hw
      have hmax : w = 2 ^ W - 1 := by omega
      have : ws.all (· == 2 ^ W - 1) = false := by
        simp only [List.all_cons, hmax, beq_self_eq_true, Bool.true_and] at h; exact h
      rw [ih this]; rfl

/-- `trailing_ones` with the repaired scan: the count `k` satisfies `2^k ∣ x+1`, `(x+1)/2^k` odd -/
theorem TRepr.trailingOnes_fixed (W : Nat) (m : TRepr) (hm : m.Canon W) :
    ∃ k, m.trailingOnes W true = .ok k ∧ IsTz (m.value W + 1) k := by
  cases m with
  | small d => exact ⟨_, rfl, toWord_spec (2 * W) d hm⟩
  | large ws => exact ⟨_, rfl, toScanFixed_spec W ws hm.large_words⟩

-- ================================================================== Repr::ones

theorem val_replicate_max (W n : Nat) : val W (List.replicate n (2 ^ W - 1)) + 1 = 2 ^ (W * n) := by
  induction n with
  | zero => simp
  | succ n ih =>
    have hp := Nat.two_pow_pos W
    simp only [List.replicate_succ, val_cons]
    rw [Nat.mul_succ, Nat.pow_add, ← ih]
    generalize val W (List.replicate n (2 ^ W - 1)) = V
    generalize 2 ^ W = B at *
    rw [Nat.add_mul, Nat.one_mul, Nat.mul_comm V B]; omega

theorem reprOnes_value (W : Nat) (fx : Bool) (n : Nat) :
    (reprOnes W fx n).value W = 2 ^ n - 1 := by
  unfold reprOnes
  split
  · rfl
  · split
    · rfl
    · have hmax := val_replicate_max W (n / W)
      have hp := Nat.two_pow_pos (W * (n / W))
      simp only [TRepr.value_large]
      split
      · rw [val_append, List.length_replicate]
        simp only [val_cons, val_nil, Nat.mul_zero, Nat.add_zero, onesN]
        have h2 := Nat.two_pow_pos (n % W)
        have : 2 ^ n = 2 ^ (W * (n / W)) * 2 ^ (n % W) := (pow_div_mod W n).symm
        rw [this, Nat.mul_sub, Nat.mul_one]
        generalize 2 ^ (W * (n / W)) = A at *
        generalize 2 ^ (n % W) = B at *
        have : A ≤ A * B := Nat.le_mul_of_pos_right A h2
        omega
      · rename_i h
        have h0 : n % W = 0 := by omega
        have : 2 ^ n = 2 ^ (W * (n / W)) := by rw [← pow_div_mod W n, h0]; simp
        simp only [List.append_nil]
        omega

/-- the repaired `Repr::ones` is canonical for every `n` -/
theorem reprOnes_canon_fixed (W : Nat) (hW : 1 ≤ W) (n : Nat) : (reprOnes W true n).Canon W := by
  have hsmall : n ≤ 2 * W → (TRepr.small (onesN n)).Canon W := fun h => by
    show onesN n < 2 ^ (2 * W)
    have := Nat.pow_le_pow_right (show 0 < 2 by omega) h
    have := Nat.two_pow_pos n
    unfold onesN; omega
  unfold reprOnes
  split
  · exact hsmall (by omega)
  · split
    · rename_i h
      exact hsmall (h.elim Nat.le_of_lt fun e => Nat.le_of_eq e.2)
    · rename_i h1 h2
      have hn : 2 * W < n := Nat.lt_of_not_le fun hle =>
        h2 ((Nat.lt_or_eq_of_le hle).imp id fun e => ⟨rfl, e⟩)
      have hq : 2 ≤ n / W := by
        rw [Nat.le_div_iff_mul_le (by omega)]; omega
      have hmaxw : 2 ^ W - 1 < 2 ^ W := by have := Nat.two_pow_pos W; omega
      refine ⟨?_, ?_, ?_⟩
      · simp only [List.length_append, List.length_replicate]
        split
        · simp; omega
        · rename_i h
          have h0 : n % W = 0 := by omega
          have hn' : n = W * (n / W) := by have := Nat.div_add_mod n W; omega
          have hlt : W * 2 < W * (n / W) := by omega
          have := Nat.lt_of_mul_lt_mul_left hlt
          simp; omega
      · apply IsWords.append (isWords_replicate W _ _ hmaxw)
        split
        · apply isWords_singleton
          unfold onesN
          have : 2 ^ (n % W) ≤ 2 ^ W :=
            Nat.pow_le_pow_right (by omega) (Nat.le_of_lt (Nat.mod_lt _ (by omega)))
          have := Nat.two_pow_pos (n % W); omega
        · exact IsWords.nil W
      · split
        · rename_i h
          rw [List.getLast?_append]; simp [onesN]
          have : 2 ≤ 2 ^ (n % W) := by
            calc 2 = 2 ^ 1 := rfl
              _ ≤ 2 ^ (n % W) := Nat.pow_le_pow_right (by omega) (by omega)
          omega
        · simp only [List.append_nil]
          rw [show n / W = (n / W - 1) + 1 by omega, List.replicate_succ']
          rw [List.getLast?_append]; simp
          have : 2 ≤ 2 ^ W := by
            calc 2 = 2 ^ 1 := rfl
              _ ≤ 2 ^ W := Nat.pow_le_pow_right (by omega) hW
          omega

-- ================================================================== bit tests

theorem testBit_val (W : Nat) (hW : 1 ≤ W) (ws : List Nat) (n : Nat) (hw : IsWords W ws) :
    (val W ws).testBit n = (decide (n / W < ws.length) && (ws.getD (n / W) 0).testBit (n % W)) := by
  induction ws generalizing n with
  | nil => simp
  | cons w ws ih =>
    rw [val_cons, testBit_cons W w _ n hw.head]
    by_cases h : n < W
    · have h0 : n / W = 0 := Nat.div_eq_of_lt h
      have h1 : n % W = n := Nat.mod_eq_of_lt h
      simp [h, h0, h1]
    · have hge : W ≤ n := Nat.le_of_not_lt h
      have hd : n / W = (n - W) / W + 1 := by
        rw [Nat.div_eq n W]; simp [hge]; omega
      have hm : n % W = (n - W) % W := Nat.mod_eq_sub_mod hge
      simp [h, ih (n - W) hw.tail, hd, hm]

/-- `TypedReprRef::bit` is the bit of the value -/
theorem TRepr.bit_spec (W : Nat) (hW : 1 ≤ W) (m : TRepr) (n : Nat) (hm : m.Canon W) :
    m.bit W n = (m.value W).testBit n := by
  cases m with
  | small d =>
    simp only [TRepr.bit, TRepr.value_small]
    by_cases h : n < 2 * W
    · simp [h]
    · simp [h, testBit_false_of_lt (show d < 2 ^ (2 * W) from hm) (Nat.le_of_not_lt h)]
  | large ws =>
    simp only [TRepr.bit, TRepr.value_large]
    exact (testBit_val W hW ws n hm.large_words).symm

/-- bits of an odd multiple of `2 ^ z`, and of its predecessor: `z` zeros (ones), a one (zero), then the bits of `j` -/
theorem testBit_odd_mul (z j n : Nat) :
    (2 ^ z * (2 * j + 1)).testBit n = (if n < z then false else if n = z then true else j.testBit (n - z - 1)) ∧
    (2 ^ z * (2 * j + 1) - 1).testBit n = (if n < z then true else if n = z then false else j.testBit (n - z - 1)) := by
  have hp := Nat.two_pow_pos z
  have hv1 : 2 ^ z * (2 * j + 1) - 1 = 2 ^ z * (2 * j) + (2 ^ z - 1) := by
    rw [Nat.mul_add, Nat.mul_one]; omega
  rw [hv1, Nat.testBit_two_pow_mul_add _ (by omega : 2 ^ z - 1 < 2 ^ z), Nat.testBit_two_pow_mul,
    Nat.testBit_two_pow_sub_one]
  by_cases hlt : n < z
  · simp [hlt, Nat.not_le.2 hlt]
  · by_cases heq : n = z
    · subst heq; simp [Nat.testBit_zero]
    · obtain ⟨i, hi⟩ : ∃ i, n - z = i + 1 := ⟨n - z - 1, by omega⟩
      simp [hlt, heq, Nat.le_of_not_lt hlt, hi, Nat.testBit_succ, Nat.mul_add_div]

/-- bits of `v - 1` around the lowest set bit of `v` -/
theorem IsTz.testBit_pred {v z : Nat} (h : IsTz v z) (n : Nat) :
    (v - 1).testBit n = if n < z then true else if n = z then false else v.testBit n := by
  obtain ⟨j, rfl⟩ := isTz_iff.1 h
  rw [(testBit_odd_mul z j n).1, (testBit_odd_mul z j n).2]
  split
  · rfl
  · split <;> rfl

/-- bit `n` of `-v` read off the magnitude `v` and its trailing zeros `z`: the three arms of `BitTest::bit for IBig` -/
theorem IsTz.testBit_neg {v z : Nat} (h : IsTz v z) (n : Nat) :
    Int.testBit (-(v : Int)) n = if n = z then true else if n > z then !v.testBit n else false := by
  have hv : -(v : Int) = Int.negSucc (v - 1) := by have := h.ne_zero; omega
  rw [hv]
  show (!(v - 1).testBit n) = _
  rw [h.testBit_pred]
  rcases Nat.lt_trichotomy n z with h1 | rfl | h1
  · simp [h1, Nat.ne_of_lt h1, Nat.lt_asymm h1]
  · simp
  · simp [h1, Nat.ne_of_gt h1, Nat.lt_asymm h1]

theorem TRepr.trailingZeros_spec (W : Nat) (m : TRepr) (hm : m.Canon W) :
    (m.value W = 0 → m.trailingZeros W = .ok none) ∧
    (m.value W ≠ 0 → ∃ k, m.trailingZeros W = .ok (some k) ∧ IsTz (m.value W) k) := by
  cases m with
  | small d =>
    simp only [TRepr.trailingZeros, TRepr.value_small]
    refine ⟨fun h => by simp [h], fun h => ⟨_, by simp [h], tzWord_spec (2 * W) d h hm⟩⟩
  | large ws =>
    have hpos : val W ws ≠ 0 := by
      have := hm.large_ge; have := Nat.two_pow_pos (2 * W); omega
    simp only [TRepr.trailingZeros, TRepr.value_large]
    refine ⟨fun h => absurd h hpos, fun _ => ?_⟩
    obtain ⟨k, hk, ht⟩ := tzLarge_spec W ws hm.large_words hpos
    exact ⟨k, by rw [hk]; rfl, ht⟩

/-- `BitTest::bit for IBig`: the two's-complement bit, for every sign -/
theorem ibigBit_spec (W : Nat) (hW : 1 ≤ W) (a : SRepr) (n : Nat) (ha : SCanon W a) :
    ibigBit W a n = .ok (specBit (a.value W) n) := by
  obtain ⟨an, am⟩ := a
  obtain ⟨hc, hz⟩ := ha
  cases an with
  | false =>
    simp only [ibigBit, Bool.false_eq_true, if_false, SRepr.value_mk_false, specBit_natCast,
      TRepr.bit_spec W hW am n hc]
  | true =>
    obtain ⟨z, hk, ht⟩ := (TRepr.trailingZeros_spec W am hc).2 (hz rfl)
    simp only [ibigBit, if_true, hk, SRepr.value_mk_true, specBit_eq_testBit, ht.testBit_neg,
      TRepr.bit_spec W hW am n hc]

-- ================================================================== clear_high_bits / split_bits

theorem ceilDiv_eq (n W : Nat) (hW : 1 ≤ W) :
    ceilDiv n W = if n % W = 0 then n / W else n / W + 1 := by
  have hdm := Nat.div_add_mod n W
  have hr := Nat.mod_lt n hW
  unfold ceilDiv
  split
  · rename_i h0; subst h0; simp
  · rename_i h0
    split
    · rename_i hz
      -- `n = W * q` with `q ≥ 1`: `n - 1 = W * (q - 1) + (W - 1)`
      obtain ⟨q, hq⟩ : ∃ q, n / W = q + 1 := ⟨n / W - 1, by
        rcases Nat.eq_zero_or_pos (n / W) with h | h
        · rw [h] at hdm; omega
        · omega⟩
      rw [hq, show n - 1 = W - 1 + W * q by rw [← hdm, hq, hz, Nat.mul_succ]; omega,
        Nat.add_mul_div_left _ _ hW, Nat.div_eq_of_lt (by omega), Nat.zero_add]
    · rename_i hz
      rw [show n - 1 = n % W - 1 + W * (n / W) by omega, Nat.add_mul_div_left _ _ hW,
        Nat.div_eq_of_lt (by omega), Nat.zero_add]

theorem clearHighBitsLarge_spec (W : Nat) (hW : 1 ≤ W) (ws : List Nat) (n : Nat) (hw : IsWords W ws) :
    (clearHighBitsLarge W ws n).value W = val W ws % 2 ^ n ∧ (clearHighBitsLarge W ws n).Canon W := by
  unfold clearHighBitsLarge
  rw [ceilDiv_eq n W hW]
  by_cases hr : n % W = 0
  · simp only [hr, if_true, ne_eq, not_true_eq_false, if_false]
    split
    · rename_i h
      exact fromBuffer_spec W ⟨(Nat.mod_eq_of_lt (val_lt_two_pow W ws n hw (Nat.le_of_lt h))).symm, hw⟩
    · rename_i h
      have hk : n / W ≤ ws.length := Nat.le_of_not_lt h
      refine fromBuffer_spec W ⟨?_, hw.take _⟩
      have hsplit := val_take_add_drop W ws (n / W)
      rw [length_take_of_le hk] at hsplit
      have hn : n = W * (n / W) := by have := Nat.div_add_mod n W; omega
      conv => rhs; rw [hn, hsplit, Nat.add_mul_mod_self_left,
        Nat.mod_eq_of_lt (val_take_lt W hw hk)]
  · simp only [hr, if_false, ne_eq, not_false_eq_true, if_true]
    split
    · rename_i h
      exact fromBuffer_spec W ⟨(Nat.mod_eq_of_lt (val_lt_two_pow W ws n hw (by omega))).symm, hw⟩
    · rename_i h
      have hk : n / W < ws.length := by omega
      rw [take_succ_getD ws _ hk, List.dropLast_concat, List.getLastD_concat, onesN_and]
      have hx : ws.getD (n / W) 0 % 2 ^ (n % W) < 2 ^ W :=
        Nat.lt_of_le_of_lt (Nat.mod_le _ _) (hw.getD _)
      refine fromBuffer_spec W ⟨?_, IsWords.append (hw.take _) (isWords_singleton W _ hx)⟩
      rw [val_append, val_mod_two_pow W hW ws n hw hk, length_take_of_le (Nat.le_of_lt hk),
        val_cons, val_nil, Nat.mul_zero, Nat.add_zero]

theorem TRepr.clearHighBits_spec (W : Nat) (hW : 1 ≤ W) (m : TRepr) (n : Nat) (hm : m.Canon W) :
    (m.clearHighBits W n).value W = m.value W % 2 ^ n ∧ (m.clearHighBits W n).Canon W := by
  cases m with
  | small d =>
    have hd : d < 2 ^ (2 * W) := hm
    simp only [TRepr.clearHighBits]
    split
    · exact ⟨onesN_and d n, by rw [onesN_and]; exact Nat.lt_of_le_of_lt (Nat.mod_le _ _) hd⟩
    · rename_i h
      have : 2 ^ (2 * W) ≤ 2 ^ n := Nat.pow_le_pow_right (by omega) (by omega)
      refine ⟨?_, hd⟩
      show d = d % 2 ^ n
      rw [Nat.mod_eq_of_lt (by omega)]
  | large ws => exact clearHighBitsLarge_spec W hW ws n hm.large_words

/-- on the inline form `split_bits` is `clear_high_bits` paired with `>>` -/
theorem TRepr.splitBits_small (W d n : Nat) :
    (TRepr.small d).splitBits W n = ((TRepr.small d).clearHighBits W n, (TRepr.small d).shr W n true) := by
  simp only [TRepr.splitBits, TRepr.clearHighBits, TRepr.shr, shrDword]
  split <;> rfl

/-- `split_bits(n)` = (`x mod 2^n`, `x div 2^n`), both canonical -/
theorem TRepr.splitBits_spec (W : Nat) (hW : 1 ≤ W) (m : TRepr) (n : Nat) (hm : m.Canon W) :
    ((m.splitBits W n).1.value W = m.value W % 2 ^ n ∧ (m.splitBits W n).1.Canon W) ∧
    ((m.splitBits W n).2.value W = m.value W / 2 ^ n ∧ (m.splitBits W n).2.Canon W) := by
  cases m with
  | small d =>
    rw [TRepr.splitBits_small]
    exact ⟨TRepr.clearHighBits_spec W hW _ n hm, TRepr.shr_spec W hW _ n true hm⟩
  | large ws =>
    simp only [TRepr.splitBits]
    split
    · rename_i h; subst h
      exact ⟨⟨by simp [Nat.mod_one], Nat.two_pow_pos _⟩,
        by simp [fromBuffer_value], fromBuffer_canon W _ hm.large_words⟩
    · exact ⟨clearHighBitsLarge_spec W hW ws n hm.large_words,
        shrLargeRef_spec W hW ws n hm.large_words⟩

-- ================================================================== bit_len

theorem bitLenNat_eq {v k : Nat} (h1 : 2 ^ k ≤ v) (h2 : v < 2 ^ (k + 1)) : bitLenNat v = k + 1 :=
  Dashu.Proofs.Gen.blen_eq_of_bounds h1 h2

theorem val_dropLast_getLast (W : Nat) (ws : List Nat) (hne : ws ≠ []) :
    val W ws = val W ws.dropLast + 2 ^ (W * (ws.length - 1)) * ws.getLastD 0 := by
  have hcat := (List.dropLast_concat_getLast hne).symm
  have hlast : ws.getLastD 0 = ws.getLast hne := by
    rw [List.getLastD_eq_getLast?, List.getLast?_eq_some_getLast hne]; rfl
  rw [hlast]
  conv => lhs; rw [hcat]
  rw [val_append]; simp [List.length_dropLast]

/-- a canonical large value splits at its top word, which is a non-zero word -/
theorem TRepr.Canon.large_top {W : Nat} {ws : List Nat} (hm : (TRepr.large ws).Canon W) :
    val W ws = val W ws.dropLast + 2 ^ (W * (ws.length - 1)) * ws.getLastD 0 ∧
      val W ws.dropLast < 2 ^ (W * (ws.length - 1)) ∧ ws.getLastD 0 ≠ 0 ∧ ws.getLastD 0 < 2 ^ W := by
  obtain ⟨h3, hw, hlast⟩ := hm
  have hne : ws ≠ [] := by intro e; subst e; simp at h3
  have hlow := val_lt W _ (show IsWords W ws.dropLast from fun x hx => hw x (List.dropLast_subset ws hx))
  rw [List.length_dropLast] at hlow
  refine ⟨val_dropLast_getLast W ws hne, hlow, ?_, ?_⟩
  · rw [List.getLastD_eq_getLast?]
    rw [List.getLast?_eq_some_getLast hne] at hlast ⊢
    simpa using hlast
  · rw [List.getLastD_eq_getLast?, List.getLast?_eq_some_getLast hne]
    exact hw _ (List.getLast_mem hne)

/-- `bit_len` = position of the top set bit + 1 (0 for 0) -/
theorem TRepr.bitLen_spec (W : Nat) (m : TRepr) (hm : m.Canon W) :
    m.bitLen W = bitLenNat (m.value W) := by
  cases m with
  | small d => rfl
  | large ws =>
    obtain ⟨hsplit, hlow, htop, htopw⟩ := hm.large_top
    have h3 := hm.large_len
    simp only [TRepr.bitLen, TRepr.value_large]
    generalize ws.getLastD 0 = t at *
    have ⟨hb1, hb2⟩ := bitLenNat_spec t
    have hb2 := hb2 htop
    have hbl : 1 ≤ bitLenNat t := by
      unfold bitLenNat; simp [htop]
    have hblW : bitLenNat t ≤ W := bitLenNat_le t W htopw
    have hp := Nat.two_pow_pos (W * (ws.length - 1))
    have hlo : 2 ^ (W * (ws.length - 1) + (bitLenNat t - 1)) ≤ val W ws := by
      rw [hsplit, Nat.pow_add]
      calc 2 ^ (W * (ws.length - 1)) * 2 ^ (bitLenNat t - 1)
          ≤ 2 ^ (W * (ws.length - 1)) * t := Nat.mul_le_mul_left _ hb2
        _ ≤ _ := Nat.le_add_left _ _
    have hhi : val W ws < 2 ^ (W * (ws.length - 1) + (bitLenNat t - 1) + 1) := by
      rw [hsplit, show W * (ws.length - 1) + (bitLenNat t - 1) + 1
        = W * (ws.length - 1) + bitLenNat t by omega, Nat.pow_add]
      exact add_mul_lt hlow hb1
    rw [bitLenNat_eq hlo hhi]
    have : ws.length * W = W * (ws.length - 1) + W := by
      rw [Nat.mul_comm, ← Nat.mul_succ]; congr 1; omega
    omega

-- ================================================================== set_bit / clear_bit

theorem natAndNot_two_pow_of_lt (v n : Nat) (h : v < 2 ^ n) : natAndNot v (2 ^ n) = v := by
  apply Nat.eq_of_testBit_eq; intro i
  rw [testBit_natAndNot, Nat.testBit_two_pow]
  by_cases hi : n = i
  · subst hi; simp [Nat.testBit_lt_two_pow h]
  · simp [hi]

/-- the words of `2 ^ n` -/
theorem val_bitWords (W n : Nat) : val W (List.replicate (n / W) 0 ++ [2 ^ (n % W)]) = 2 ^ n := by
  rw [val_replicate_append, val_cons, val_nil, Nat.mul_zero, Nat.add_zero, pow_div_mod]

theorem isWords_bitWords (W : Nat) (hW : 1 ≤ W) (n : Nat) :
    IsWords W (List.replicate (n / W) 0 ++ [2 ^ (n % W)]) :=
  IsWords.append (isWords_replicate W _ 0 (Nat.two_pow_pos W))
    (isWords_singleton W _ (Nat.pow_lt_pow_right (by omega) (Nat.mod_lt _ hW)))

/-- both arms of `with_bit_large` (and `with_bit_dword_spilled`) are the `|=` loop against the words of `2 ^ n` -/
theorem zipOr_bit (ws : List Nat) (k b : Nat) :
    zipOr ws (List.replicate k 0 ++ [b]) =
      if k < ws.length then ws.set k (ws.getD k 0 ||| b) else ws ++ List.replicate (k - ws.length) 0 ++ [b] := by
  induction ws generalizing k with
  | nil => simp [zipOr]
  | cons a as ih =>
    cases k with
    | zero => cases as <;> simp [zipOr]
    | succ k =>
      simp only [List.replicate_succ, List.cons_append, zipOr, Nat.or_zero, ih k, List.length_cons,
        Nat.succ_lt_succ_iff, List.set_cons_succ, List.getD_cons_succ, Nat.succ_sub_succ]
      split <;> rfl

/-- both arms of `clear_bit` on the heap form are the `&= !` loop against the words of `2 ^ n` -/
theorem zipAndNot_bit (W : Nat) (ws : List Nat) (k b : Nat) (hw : IsWords W ws) :
    zipAndNot W ws (List.replicate k 0 ++ [b]) =
      if k < ws.length then ws.set k (ws.getD k 0 &&& wnot W b) else ws := by
  induction ws generalizing k with
  | nil => simp [zipAndNot]
  | cons a as ih =>
    have ha : a &&& wnot W 0 = a := by
      rw [show wnot W 0 = 2 ^ W - 1 by simp [wnot], Nat.and_two_pow_sub_one_eq_mod, Nat.mod_eq_of_lt hw.head]
    cases k with
    | zero => cases as <;> simp [zipAndNot]
    | succ k =>
      simp only [List.replicate_succ, List.cons_append, zipAndNot, ha, ih k hw.tail, List.length_cons,
        Nat.succ_lt_succ_iff, List.set_cons_succ, List.getD_cons_succ]
      split <;> rfl

/-- `set_bit(n)`: the result is `x | 2^n`, i.e. bit `n` set and all other bits unchanged -/
theorem TRepr.setBit_spec (W : Nat) (hW : 1 ≤ W) (m : TRepr) (n : Nat) (hm : m.Canon W) :
    (m.setBit W n).value W = m.value W ||| 2 ^ n ∧ (m.setBit W n).Canon W := by
  -- on a word list `set_bit` is `|=` with the words of `2 ^ n`
  have hor := fun ws hw => val_bitWords W n ▸ zipOr_bit ws (n / W) (2 ^ (n % W)) ▸
    val_zipOr W ws _ hw (isWords_bitWords W hW n)
  cases m with
  | small d =>
    have hd : d < 2 ^ (2 * W) := hm
    simp only [TRepr.setBit]
    split
    · rename_i h
      exact ⟨rfl, Nat.or_lt_two_pow hd (Nat.pow_lt_pow_right (by omega) h)⟩
    · rename_i h
      have hv := hor _ (isWords_dword W d hd)
      rw [if_neg (by rw [Nat.not_lt, Nat.le_div_iff_mul_le (by omega)]; exact Nat.le_of_not_lt h), val_dword] at hv
      exact fromBuffer_spec W hv
  | large ws =>
    have hv := hor ws hm.large_words
    simp only [TRepr.setBit, TRepr.value_large]
    split
    · rename_i hk; rw [if_pos hk] at hv; exact fromBuffer_spec W hv
    · rename_i hk; rw [if_neg hk] at hv; exact fromBuffer_spec W hv

/-- `clear_bit(n)`: the result is `x & !2^n` -/
theorem TRepr.clearBit_spec (W : Nat) (hW : 1 ≤ W) (m : TRepr) (n : Nat) (hm : m.Canon W) :
    (m.clearBit W n).value W = natAndNot (m.value W) (2 ^ n) ∧ (m.clearBit W n).Canon W := by
  cases m with
  | small d =>
    have hd : d < 2 ^ (2 * W) := hm
    simp only [TRepr.clearBit]
    split
    · rename_i h
      have h2 : 2 ^ n < 2 ^ (2 * W) := Nat.pow_lt_pow_right (by omega) h
      refine ⟨?_, Nat.lt_of_le_of_lt Nat.and_le_left hd⟩
      simp only [TRepr.value_small]
      rw [natAndNot_mod_of_lt d (2 ^ n) _ hd, Nat.mod_eq_of_lt h2]; rfl
    · rename_i h
      have hle : 2 ^ (2 * W) ≤ 2 ^ n := Nat.pow_le_pow_right (by omega) (by omega)
      exact ⟨(natAndNot_two_pow_of_lt d n (by omega)).symm, hd⟩
  | large ws =>
    have hw := hm.large_words
    have hv := val_zipAndNot W ws _ hw (isWords_bitWords W hW n)
    rw [val_bitWords, zipAndNot_bit W ws _ _ hw] at hv
    simp only [TRepr.clearBit, TRepr.value_large]
    split
    · rename_i hk; rw [if_pos hk] at hv; exact fromBuffer_spec W hv
    · rename_i hk; rw [if_neg hk] at hv; exact fromBuffer_spec W hv

-- ================================================================== is_power_of_two

theorem isPow2Nat_iff (n : Nat) : isPow2Nat n = true ↔ ∃ k, n = 2 ^ k := by
  unfold isPow2Nat
  by_cases h0 : n = 0
  · subst h0
    simp
    intro k hk
    have := Nat.two_pow_pos k; omega
  · have := Nat.and_sub_one_eq_zero_iff_isPowerOfTwo h0
    simp only [Nat.isPowerOfTwo] at this
    simp [h0, this]

theorem all_zero_iff (W : Nat) (l : List Nat) : l.all (· == 0) = true ↔ val W l = 0 := by
  have := any_ne_zero W l
  constructor
  · intro h
    by_contra hc
    have hany : l.any (· != 0) = true := by rw [this]; simpa using hc
    rw [List.any_eq_true] at hany
    obtain ⟨x, hx, hne⟩ := hany
    rw [List.all_eq_true] at h
    have := h x hx
    simp_all
  · intro h
    rw [List.all_eq_true]
    intro x hx
    by_contra hc
    have hany : l.any (· != 0) = true := by
      rw [List.any_eq_true]; exact ⟨x, hx, by simpa using hc⟩
    rw [this, h] at hany
    simp at hany

theorem specIsPow2_iff (n : Nat) : specIsPow2 n = true ↔ ∃ k, n = 2 ^ k := by
  unfold specIsPow2
  constructor
  · intro h; exact ⟨_, by simpa using h⟩
  · rintro ⟨k, rfl⟩; simp [Nat.log2_two_pow]

-- ================================================================== count_ones / count_zeros

theorem popWord_zero (f : Nat) : popWord f 0 = 0 := by
  induction f with
  | zero => rfl
  | succ f ih => simp [popWord, ih]

theorem popWord_le (f n : Nat) : popWord f n ≤ f := by
  induction f generalizing n with
  | zero => simp [popWord]
  | succ f ih =>
    simp only [popWord]
    have := ih (n / 2)
    omega

theorem popWord_add (f g a x : Nat) (ha : a < 2 ^ f) :
    popWord (f + g) (a + 2 ^ f * x) = popWord f a + popWord g x := by
  induction f generalizing a with
  | zero =>
    have : a = 0 := by simpa using ha
    subst this; simp [popWord]
  | succ f ih =>
    have hfg : f + 1 + g = (f + g) + 1 := by omega
    rw [hfg]
    simp only [popWord]
    have h2 : 2 ^ (f + 1) * x = 2 * (2 ^ f * x) := by rw [Nat.pow_succ]; ring
    have hmod : (a + 2 ^ (f + 1) * x) % 2 = a % 2 := by rw [h2]; omega
    have hdiv : (a + 2 ^ (f + 1) * x) / 2 = a / 2 + 2 ^ f * x := by rw [h2]; omega
    rw [hmod, hdiv, ih (a / 2) (by rw [Nat.pow_succ] at ha; omega)]
    omega

theorem popWord_stable (f g n : Nat) (h : n < 2 ^ f) : popWord (f + g) n = popWord f n := by
  have := popWord_add f g n 0 h
  simpa [popWord_zero] using this

theorem popWord_eq_popNat (f n : Nat) (h : n < 2 ^ f) : popWord f n = popNat n := by
  unfold popNat
  have hb := bitLenNat_le n f h
  have h1 := (bitLenNat_spec n).1
  have := popWord_stable (bitLenNat n) (f - bitLenNat n) n h1
  rw [show bitLenNat n + (f - bitLenNat n) = f by omega] at this
  exact this

theorem popNat_le_bitLen (n : Nat) : popNat n ≤ bitLenNat n := popWord_le _ _

theorem sum_popWord (W : Nat) (ws : List Nat) (hw : IsWords W ws) :
    (ws.map (popWord W)).sum = popWord (W * ws.length) (val W ws) := by
  induction ws with
  | nil => simp [popWord]
  | cons w ws ih =>
    simp only [List.map_cons, List.sum_cons, List.length_cons, val_cons, ih hw.tail]
    rw [show W * (ws.length + 1) = W + W * ws.length by ring, popWord_add W _ w _ hw.head]

/-- `count_ones` = number of one bits of the value -/
theorem TRepr.countOnes_spec (W : Nat) (m : TRepr) (hm : m.Canon W) :
    m.countOnes W = popNat (m.value W) := by
  cases m with
  | small d => exact popWord_eq_popNat (2 * W) d hm
  | large ws =>
    simp only [TRepr.countOnes, TRepr.value_large]
    rw [sum_popWord W ws hm.large_words]
    exact popWord_eq_popNat _ _ (val_lt W ws hm.large_words)

theorem sum_sub_popWord (W : Nat) (ws : List Nat) :
    (ws.map (fun w => W - popWord W w)).sum + (ws.map (popWord W)).sum = W * ws.length := by
  induction ws with
  | nil => simp
  | cons w ws ih =>
    simp only [List.map_cons, List.sum_cons, List.length_cons]
    have := popWord_le W w
    rw [Nat.mul_succ]; omega

-- ================================================================== trailing ones of a negative number

theorem IsTz.compl {N y k : Nat} (hy : 0 < y) (hlt : y < 2 ^ N) (h : IsTz (2 ^ N - y) k) : IsTz y k := by
  have hs := two_pow_split_above (h.lt_of_lt (Nat.sub_lt (Nat.two_pow_pos N) hy))
  obtain ⟨i, hi⟩ := isTz_iff.1 h
  have hp := Nat.two_pow_pos k
  -- `y = 2 ^ k * (2 * 2 ^ (N - k - 1) - (2 * i + 1))`
  have hq : 2 * i + 1 < 2 * 2 ^ (N - k - 1) :=
    Nat.lt_of_mul_lt_mul_left (a := 2 ^ k) (by rw [← hs, ← hi]; omega)
  refine isTz_iff.2 ⟨2 ^ (N - k - 1) - i - 1, ?_⟩
  rw [show 2 * (2 ^ (N - k - 1) - i - 1) + 1 = 2 * 2 ^ (N - k - 1) - (2 * i + 1) by omega,
    Nat.mul_sub, ← hs, ← hi]
  omega

theorem val_mod_two (W : Nat) (hW : 1 ≤ W) (w : Nat) (ws : List Nat) :
    val W (w :: ws) % 2 = w % 2 ∧ val W (w :: ws) / 2 = w / 2 + 2 ^ (W - 1) * val W ws := by
  have : 2 ^ W = 2 * 2 ^ (W - 1) := by rw [← Nat.pow_succ']; congr 1; omega
  simp only [val_cons]
  rw [this, Nat.mul_assoc]
  constructor <;> omega

theorem tzLargeShiftedByOne_spec (W : Nat) (hW : 1 ≤ W) (w : Nat) (ws : List Nat)
    (hw : IsWords W (w :: ws)) (hrest : val W ws ≠ 0) :
    ∃ t, tzLargeShiftedByOne W (w :: ws) = .ok t ∧ IsTz (val W (w :: ws) / 2) t := by
  have hw0 := hw.head
  have h2 : 2 ^ W = 2 * 2 ^ (W - 1) := by rw [← Nat.pow_succ']; congr 1; omega
  have hhalf : w / 2 < 2 ^ (W - 1) := by omega
  rw [(val_mod_two W hW w ws).2]
  simp only [tzLargeShiftedByOne, List.getD_cons_zero, List.drop_succ_cons, List.drop_zero]
  by_cases hz : w / 2 = 0
  · -- the low word contributes W - 1 zero bits, continue in the higher words
    have hzb : tzWord W (w / 2) = W := by simp [tzWord, hz]
    obtain ⟨t', ht', hI⟩ := tzLarge_spec W ws hw.tail hrest
    rw [hzb, hz, Nat.zero_add]
    have hnot : ¬ W < W - 1 := by omega
    simp only [hnot, if_false, ht']
    refine ⟨t' + W - 1, rfl, ?_⟩
    have := hI.shift (W - 1)
    rwa [show t' + (W - 1) = t' + W - 1 by omega] at this
  · have hI := tzWord_spec W (w / 2) hz (by omega)
    have hlt : tzWord W (w / 2) < W - 1 := hI.lt_of_lt hhalf
    simp only [hlt, if_true]
    exact ⟨_, rfl, hI.add_high hhalf _⟩

/-- `trailing_ones_neg`: trailing ones of `-v` in two's complement: `None` for `v = 1` (−1 is all
    ones), otherwise the number of trailing zeros of `v - 1` (`-v = !(v-1)`) -/
theorem TRepr.trailingOnesNeg_spec (W : Nat) (hW : 1 ≤ W) (m : TRepr) (hm : m.Canon W)
    (hz : m.value W ≠ 0) :
    (m.value W = 1 → m.trailingOnesNeg W = .ok none) ∧
    (2 ≤ m.value W → ∃ k, m.trailingOnesNeg W = .ok (some k) ∧ IsTz (m.value W - 1) k) := by
  cases m with
  | small d =>
    have hd : d < 2 ^ (2 * W) := hm
    simp only [TRepr.value_small] at hz ⊢
    simp only [TRepr.trailingOnesNeg, hz, if_false]
    refine ⟨fun h => by simp [h], fun h => ?_⟩
    have h1 : d ≠ 1 := by omega
    simp only [h1, if_false]
    refine ⟨_, rfl, ?_⟩
    have hp := Nat.two_pow_pos (2 * W)
    have := toWord_spec (2 * W) (2 ^ (2 * W) - d) (by omega)
    rw [show 2 ^ (2 * W) - d + 1 = 2 ^ (2 * W) - (d - 1) by omega] at this
    exact this.compl (by omega) (by omega)
  | large ws =>
    have hge := hm.large_ge
    have hbig : 2 ≤ val W ws := by
      have : 2 ≤ 2 ^ (2 * W) := by
        calc 2 = 2 ^ 1 := rfl
          _ ≤ 2 ^ (2 * W) := Nat.pow_le_pow_right (by omega) (by omega)
      omega
    simp only [TRepr.value_large] at hz ⊢
    refine ⟨fun h => by omega, fun _ => ?_⟩
    obtain ⟨w, rest, rfl⟩ : ∃ w rest, ws = w :: rest := by
      cases ws with
      | nil => have := hm.large_len; simp at this
      | cons w rest => exact ⟨w, rest, rfl⟩
    have hw := hm.large_words
    have ⟨hmod, hdiv⟩ := val_mod_two W hW w rest
    simp only [TRepr.trailingOnesNeg, List.getD_cons_zero]
    split
    · rename_i hev
      exact ⟨0, rfl, IsTz.zero_of_odd (by omega)⟩
    · rename_i hodd
      have hrest : val W rest ≠ 0 := by
        intro h0
        have hw0 := hw.head
        simp only [val_cons, h0, Nat.mul_zero, Nat.add_zero] at hge
        have : 2 ^ W ≤ 2 ^ (2 * W) := Nat.pow_le_pow_right (by omega) (by omega)
        omega
      obtain ⟨t, ht, hI⟩ := tzLargeShiftedByOne_spec W hW w rest hw hrest
      rw [ht]
      refine ⟨t + 1, rfl, ?_⟩
      have := hI.double
      rwa [show 2 * (val W (w :: rest) / 2) = val W (w :: rest) - 1 by omega] at this

-- ================================================================== next_power_of_two

/-- `r` is the least power of two that is `≥ v` -/
def IsNextPow2 (v r : Nat) : Prop := (∃ k, r = 2 ^ k) ∧ v ≤ r ∧ ∀ j, v ≤ 2 ^ j → r ≤ 2 ^ j

theorem IsNextPow2.unique {v r r' : Nat} (h : IsNextPow2 v r) (h' : IsNextPow2 v r') : r = r' := by
  obtain ⟨⟨k, hk⟩, h1, h2⟩ := h
  obtain ⟨⟨k', hk'⟩, h1', h2'⟩ := h'
  have a := h2 k' (hk' ▸ h1')
  have b := h2' k (hk ▸ h1)
  omega

/-- the closed form used by `checked_next_power_of_two` -/
def np2 (v : Nat) : Nat := if v ≤ 1 then 1 else 2 ^ bitLenNat (v - 1)

theorem np2_spec (v : Nat) : IsNextPow2 v (np2 v) := by
  unfold np2
  split
  · rename_i h
    exact ⟨⟨0, rfl⟩, h, fun j _ => Nat.one_le_two_pow⟩
  · rename_i h
    have h1 := (bitLenNat_spec (v - 1)).1
    refine ⟨⟨_, rfl⟩, by omega, fun j hj => ?_⟩
    exact Nat.pow_le_pow_right (by omega) (bitLenNat_le (v - 1) j (by
      have := Nat.two_pow_pos j; omega))

theorem specNextPow2_eq (v : Nat) : specNextPow2 v = np2 v := by
  unfold specNextPow2 np2 bitLenNat
  split
  · rfl
  · rename_i h
    have : v - 1 ≠ 0 := by omega
    simp [this]

theorem checkedNextPow2_eq (bits n : Nat) :
    checkedNextPow2 bits n = if np2 n < 2 ^ bits then some (np2 n) else none := by
  unfold checkedNextPow2 np2; rfl

/-- next power of two of `lo + 2^K * top` with `lo < 2^K`, `top ≥ 1` -/
theorem np2_split (K lo top : Nat) (hlo : lo < 2 ^ K) (htop : 1 ≤ top) :
    IsNextPow2 (lo + 2 ^ K * top) (2 ^ K * np2 (top + (if lo = 0 then 0 else 1))) := by
  have hp := Nat.two_pow_pos K
  generalize hx : top + (if lo = 0 then 0 else 1) = x
  obtain ⟨⟨k, hk⟩, hx1, hx2⟩ := np2_spec x
  refine ⟨⟨K + k, by rw [hk, Nat.pow_add]⟩, ?_, fun j hj => ?_⟩
  · -- upper bound
    have : lo + 2 ^ K * top ≤ 2 ^ K * x := by
      rw [← hx]
      by_cases h0 : lo = 0
      · simp [h0]
      · simp only [h0, if_false, Nat.mul_add, Nat.mul_one]; omega
    exact Nat.le_trans this (Nat.mul_le_mul_left _ hx1)
  · -- minimality
    have hge : 2 ^ K ≤ lo + 2 ^ K * top := by
      calc 2 ^ K = 2 ^ K * 1 := by simp
        _ ≤ 2 ^ K * top := Nat.mul_le_mul_left _ htop
        _ ≤ _ := Nat.le_add_left _ _
    have hKj : K ≤ j := (Nat.pow_le_pow_iff_right (by omega : 1 < 2)).mp (Nat.le_trans hge hj)
    have hj' : (2 : Nat) ^ j = 2 ^ K * 2 ^ (j - K) := by rw [← Nat.pow_add]; congr 1; omega
    rw [hj'] at hj ⊢
    apply Nat.mul_le_mul_left
    apply hx2
    rw [← hx]
    by_cases h0 : lo = 0
    · simp only [h0, if_true, Nat.add_zero, Nat.zero_add] at hj ⊢
      exact Nat.le_of_mul_le_mul_left hj hp
    · simp only [h0, if_false]
      have : 2 ^ K * top < 2 ^ K * 2 ^ (j - K) := by omega
      have := Nat.lt_of_mul_lt_mul_left this
      omega

theorem np2_le_of_le (v j : Nat) (h : v ≤ 2 ^ j) : np2 v ≤ 2 ^ j := (np2_spec v).2.2 j h

/-- `next_power_of_two`: the least power of two `≥ x`, canonical -/
theorem TRepr.nextPow2_spec (W : Nat) (hW : 1 ≤ W) (m : TRepr) (hm : m.Canon W) :
    (m.nextPow2 W).value W = np2 (m.value W) ∧ (m.nextPow2 W).Canon W := by
  have hpW := Nat.two_pow_pos W
  cases m with
  | small d =>
    have hd : d < 2 ^ (2 * W) := hm
    simp only [TRepr.nextPow2, checkedNextPow2_eq, TRepr.value_small]
    split
    · rename_i p hp
      split at hp
      · rename_i hlt; cases hp; exact ⟨rfl, hlt⟩
      · cases hp
    · rename_i hp
      split at hp
      · cases hp
      · rename_i hge
        have hle := np2_le_of_le d (2 * W) (Nat.le_of_lt hd)
        have h1 : (1 : Nat) < 2 ^ W := Nat.one_lt_two_pow (by omega)
        refine ⟨?_, fromBuffer_canon W _ (IsWords.cons hpW (IsWords.cons hpW (isWords_singleton W 1 h1)))⟩
        rw [fromBuffer_value]
        simp only [val_cons, val_nil, Nat.mul_zero, Nat.add_zero, Nat.zero_add, Nat.mul_one]
        rw [← two_pow_two_mul]; omega
  | large ws =>
    obtain ⟨hsplit, hlow, htop, htopw⟩ := hm.large_top
    have hcarry : (if ws.dropLast.all (· == 0) = true then 0 else 1)
        = (if val W ws.dropLast = 0 then 0 else 1) := by
      by_cases h : val W ws.dropLast = 0
      · simp [(all_zero_iff W _).mpr h, h]
      · have : ¬ ws.dropLast.all (· == 0) = true := fun h' => h ((all_zero_iff W _).mp h')
        simp [this, h]
    have hspl := np2_split (W * (ws.length - 1)) (val W ws.dropLast) (ws.getLastD 0) hlow (by omega)
    rw [← hsplit] at hspl
    have huniq := (np2_spec (val W ws)).unique hspl
    have hxle : ws.getLastD 0 + (if val W ws.dropLast = 0 then 0 else 1) ≤ 2 ^ W := by
      split <;> omega
    simp only [TRepr.nextPow2, nextPow2Large, TRepr.value_large, hcarry, List.length_dropLast,
      checkedNextPow2_eq]
    rw [huniq]
    generalize ws.getLastD 0 + (if val W ws.dropLast = 0 then 0 else 1) = x at *
    have hnle := np2_le_of_le x W hxle
    have hxn := (np2_spec x).2.1
    have hz := isWords_replicate W (ws.length - 1) 0 hpW
    by_cases hA : x < 2 ^ W ∧ np2 x < 2 ^ W
    · simp only [hA.1, hA.2, if_true]
      refine ⟨?_, fromBuffer_canon W _ (IsWords.append hz (isWords_singleton W _ hA.2))⟩
      rw [fromBuffer_value, val_replicate_append]; simp
    · have hnp : np2 x = 2 ^ W := by
        by_cases h1 : x < 2 ^ W
        · have : ¬ np2 x < 2 ^ W := fun h => hA ⟨h1, h⟩
          omega
        · omega
      have h1 : (1 : Nat) < 2 ^ W := Nat.one_lt_two_pow (by omega)
      have hnone : (if x < 2 ^ W then (if np2 x < 2 ^ W then some (np2 x) else none) else none) = none := by
        by_cases h1 : x < 2 ^ W
        · have : ¬ np2 x < 2 ^ W := fun h => hA ⟨h1, h⟩
          simp [h1, this]
        · simp [h1]
      rw [hnone]
      refine ⟨?_, fromBuffer_canon W _ (IsWords.append hz (IsWords.cons hpW (isWords_singleton W 1 h1)))⟩
      rw [fromBuffer_value, val_replicate_append, hnp]; simp

end Dashu.Model
