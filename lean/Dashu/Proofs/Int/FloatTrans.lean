import Dashu.Proofs.Int.FloatProducers
import Dashu.Proofs.Trans.Series
/-
  C05 ↔ C11 link: the results of C11's mirrored `Context::exp / exp_m1 / ln / ln_1p / powf` bodies
  (`Model/Trans/Series.lean`) carry at most `precision + 1` digits — the hypothesis of `float_cmp`.
-/
namespace Dashu.Model
open Dashu.Model.Float Dashu.Model.Trans Dashu.Proofs.Trans.Series

theorem fMul_prec (E : Env) (x y : FBigM) : (fMul E x y).prec = ctxMaxP x.prec y.prec := rfl
theorem fAddSub_prec (E : Env) (x y : FBigM) (rs : Int) : (fAddSub E x y rs).prec = ctxMaxP x.prec y.prec := rfl
theorem fDiv_prec (E : Env) (x y r : FBigM) (h : fDiv E x y = .ok r) : r.prec = ctxMaxP x.prec y.prec := by
  simp only [fDiv] at h
  split at h
  · simp only [Except.ok.injEq] at h; rw [← h]
  · simp at h

/-- `with_precision(p)` of a value of higher precision rounds: at most `p` (+1) digits whatever the operand was -/
theorem fWithPrecision_fits (B : Nat) (hB : 2 ≤ B) (m : Mode) (c : Coarse) (x : FBigM) (p : Nat) (hp : 1 ≤ p)
    (hx : p < x.prec ∨ x.prec = 0) : FitsP1 B p (fWithPrecision B m c x p).1.repr :=
  Nat.le_succ_of_le (fWithPrecision_digits_le B hB m c x p hp (by omega))

theorem fShl_fits (B p : Nat) (x : FBigM) (k : Int) (h : FitsP1 B p x.repr) : FitsP1 B p (fShl x k).repr := by
  unfold fShl; split
  · exact h
  · exact h

theorem fits_zero (B p : Nat) : FitsP1 B p FBigM.zero.repr := by
  show digitsI B 0 ≤ p + 1
  rw [digitsI_zero]; omega

theorem fits_one (B : Nat) (hB : 2 ≤ B) (p : Nat) : FitsP1 B p FBigM.one.repr := by
  show digits B 1 ≤ p + 1
  exact Nat.le_trans (digits_le_of_lt_pow B hB 1 1 (by rw [Nat.pow_one]; omega)) (by omega)

/-- the running sum of the Maclaurin loop never loses precision -/
theorem expLoop_prec_mono (E : Env) (r : FBigM) :
    ∀ (f : Nat) (fa : Int) (pw sm : FBigM) (k : Nat) (res : FBigM × Nat),
      expLoop E r f fa pw sm k = .ok (some res) → sm.prec ≤ res.1.prec := by
  intro f
  induction f with
  | zero => intro fa pw sm k res h; simp [expLoop] at h
  | succ f ih =>
    intro fa pw sm k res h
    simp only [expLoop] at h
    split at h
    · simp at h
    · split at h
      · simp only [Except.ok.injEq, Option.some.injEq] at h; rw [← h]
      · have := ih _ _ _ _ _ h
        rw [fAddSub_prec] at this
        exact Nat.le_trans (ctxMaxP_ge_left _ _) this

/-- … nor does the running sum of the atanh loop -/
theorem lnLoop_prec_mono (E : Env) (w : Nat) (z2 : FBigM) :
    ∀ (f : Nat) (pw sm : FBigM) (k : Nat) (res : FBigM × Nat),
      lnLoop E w z2 f pw sm k = .ok (some res) → sm.prec ≤ res.1.prec := by
  intro f
  induction f with
  | zero => intro pw sm k res h; simp [lnLoop] at h
  | succ f ih =>
    intro pw sm k res h
    simp only [lnLoop] at h
    split at h
    · simp at h
    · split at h
      · simp only [Except.ok.injEq, Option.some.injEq] at h; rw [← h]
      · have := ih _ _ _ _ h
        rw [fAddSub_prec] at this
        exact Nat.le_trans (ctxMaxP_ge_left _ _) this

theorem expReduce_prec (fuel : Nat) (E : Env) (p : Nat) (x : Float.FRepr) (minusOne : Bool) (a : Nat × Int × Nat × FBigM)
    (hns : (minusOne && E.est.belowInvBase x) = true) (h : expReduce fuel E p x minusOne = .ok a) :
    p < a.2.2.2.prec := by
  unfold expReduce at h
  rw [if_pos hns] at h
  simp only [pure, Except.pure, Except.ok.injEq] at h
  rw [← h]
  simp only [expWorkPrecNoScaling, seriesGuardDigits]
  split <;> omega

theorem expTail_fits (fuel : Nat) (E : Env) (hB : 2 ≤ E.B) (p : Nat) (hp : 1 ≤ p) (x : Float.FRepr) (minusOne : Bool)
    (a : Nat × Int × Nat × FBigM) (ha : (minusOne && E.est.belowInvBase x) = true → p < a.2.2.2.prec)
    (v : FBigM) (fl : Option Rounding) (tr : Trace)
    (h : expTail fuel E p x minusOne a = .ok ((v, fl), tr)) : FitsP1 E.B p v.repr := by
  obtain ⟨w, s, n, r⟩ := a
  unfold expTail at h
  simp only [bind, Except.bind, pure, Except.pure] at h
  split at h
  · simp at h
  · rename_i res hloop
    split at h
    · simp at h
    · rename_i sum k
      split at h
      · rename_i hns
        simp only [Except.ok.injEq, Prod.mk.injEq] at h
        obtain ⟨⟨rfl, _⟩, _⟩ := h
        rw [if_pos hns] at hloop
        have h1 := expLoop_prec_mono E _ _ _ _ _ _ _ hloop
        have h2 := ha hns
        rw [fShl_prec] at h1
        exact fWithPrecision_fits E.B hB E.m E.c sum p hp (Or.inl (by simp only at h2 h1; omega))
      · split at h
        · simp only [Except.ok.injEq, Prod.mk.injEq] at h
          obtain ⟨⟨rfl, _⟩, _⟩ := h
          refine fWithPrecision_fits E.B hB E.m E.c _ p hp (Or.inl ?_)
          rw [fAddSub_prec, fShl_prec]
          exact Nat.lt_of_lt_of_le (by simp only [expm1PowPrec]; omega) (ctxMaxP_ge_left _ _)
        · simp only [Except.ok.injEq, Prod.mk.injEq] at h
          obtain ⟨⟨rfl, _⟩, _⟩ := h
          apply fShl_fits
          simp only
          rw [Dashu.Proofs.Trans.Series.powiNonnegF_value]
          exact powiNonneg_fits false E.B hB E.m E.c p hp _ _

/-- `Context::exp` / `exp_m1` (C11's mirrored `exp_internal`): the result has at most `p + 1` digits -/
theorem expBody_fits (fuel : Nat) (E : Env) (hB : 2 ≤ E.B) (p : Nat) (hp : 1 ≤ p) (x : Float.FRepr) (minusOne : Bool)
    (v : FBigM) (fl : Option Rounding) (tr : Trace)
    (h : expBody fuel E p x minusOne = .ok ((v, fl), tr)) : FitsP1 E.B p v.repr := by
  unfold expBody at h
  simp only [bind, Except.bind] at h
  split at h
  · simp at h
  · rename_i a hred
    exact expTail_fits fuel E hB p hp x minusOne a (fun hns => expReduce_prec fuel E p x minusOne a hns hred) v fl tr h

/-- `Context::exp` with its entry guards: also the shortcut `exp(0) = 1`, `exp_m1(0) = 0` -/
theorem expFull_fits (fuel : Nat) (E : Env) (hB : 2 ≤ E.B) (p : Nat) (hp : 1 ≤ p) (x : Float.FRepr) (minusOne : Bool)
    (v : FBigM) (fl : Option Rounding) (tr : Trace)
    (h : expFull fuel E p x minusOne = .ok ((v, fl), tr)) : FitsP1 E.B p v.repr := by
  unfold expFull at h
  split at h
  · simp only [Except.ok.injEq, Prod.mk.injEq] at h
    obtain ⟨⟨rfl, _⟩, _⟩ := h
    split
    · exact fits_zero E.B p
    · exact fits_one E.B hB p
  · exact expBody_fits fuel E hB p hp x minusOne v fl tr h

theorem lnGrow_prec (g : Bool) (xs : FBigM) (w0 p : Nat) (h : w0 ≤ xs.prec) :
    w0 ≤ (if g = true then ({ repr := xs.repr, prec := if g = true then lnGrowPrec w0 p else w0 } : FBigM) else xs).prec := by
  cases g
  · simpa using h
  · simp [lnGrowPrec]

/-- the scaling stage of `ln_internal` (`x_scaled = x / 2^s`) keeps at least the precision of `x` -/
theorem lnScaled_prec (E : Env) (x1 : FBigM) (sx : Int × FBigM)
    (h : (do
      if x1.repr.signif ≤ 0 then throw "panic log.rs:subtract_with_overflow-or-debug_assert(x_scaled>=1)"
      let s := E.est.floorLog2 x1.repr
      let xsc ← (if E.B = 2 then pure (fShl x1 (-s))
        else if s > 0 then fDiv E x1 (fOfInt E.B ((2 ^ s.toNat : Nat) : Int))
        else pure (fMul E x1 (fOfInt E.B ((2 ^ (-s).toNat : Nat) : Int))))
      pure (s, xsc) : Except String (Int × FBigM)) = .ok sx) : x1.prec ≤ sx.2.prec := by
  simp only [bind, Except.bind, pure, Except.pure, throw, throwThe, MonadExceptOf.throw] at h
  split at h
  · simp at h
  · split at h
    · simp at h
    · rename_i xsc hx
      simp only [Except.ok.injEq] at h
      rw [← h]
      split at hx
      · simp only [Except.ok.injEq] at hx; rw [← hx, fShl_prec]
      · split at hx
        · rw [fDiv_prec E _ _ _ hx]; exact ctxMaxP_ge_left _ _
        · simp only [Except.ok.injEq] at hx; rw [← hx, fMul_prec]; exact ctxMaxP_ge_left _ _

/-- `Context::ln` / `ln_1p` (C11's mirrored `ln_internal`): the result has at most `p + 1` digits -/
theorem lnBody_fits (fuel : Nat) (E : Env) (hB : 2 ≤ E.B) (p : Nat) (hp : 1 ≤ p) (x : Float.FRepr) (onePlus : Bool)
    (v : FBigM) (fl : Option Rounding) (tr : Trace)
    (h : lnBody fuel E p x onePlus = .ok ((v, fl), tr)) : FitsP1 E.B p v.repr := by
  unfold lnBody at h
  simp only [bind, Except.bind, pure, Except.pure, throw, throwThe, MonadExceptOf.throw] at h
  split at h
  · simp at h
  · rename_i sx hsc
    have hxs : lnWorkPrec E.est p onePlus ≤ sx.2.prec := by
      split at hsc
      · simp only [Except.ok.injEq] at hsc; rw [← hsc]
      · -- `x` or `x + 1` at the working precision, then scaled
        refine Nat.le_trans ?_ (lnScaled_prec E _ sx hsc)
        split
        · rw [fAddSub_prec]; exact ctxMaxP_ge_left _ _
        · exact Nat.le_refl _
    have hxg := lnGrow_prec (decide (sx.1 < 0) || decide (sx.2.repr.signif < 0)) sx.2 (lnWorkPrec E.est p onePlus) p hxs
    split at h
    · simp at h
    · rename_i z hz
      have hzp : lnWorkPrec E.est p onePlus ≤ z.prec := by
        split at hz
        · rw [fDiv_prec E _ _ _ hz]; exact Nat.le_trans hxg (ctxMaxP_ge_left _ _)
        · rw [fDiv_prec E _ _ _ hz, fAddSub_prec, fAddSub_prec]
          exact Nat.le_trans hxg (Nat.le_trans (ctxMaxP_ge_left _ _) (ctxMaxP_ge_left _ _))
      split at h
      · simp at h
      · rename_i lr hloop
        split at h
        · simp at h
        · rename_i sum k
          have hsum := lnLoop_prec_mono E _ _ _ _ _ _ _ hloop
          split at h
          · simp at h
          · rename_i res hres
            have hrp : sum.prec ≤ res.prec := by
              split at hres
              · simp only [Except.ok.injEq] at hres; rw [← hres, fMul_prec]; exact ctxMaxP_ge_right _ _
              · split at hres
                · simp at hres
                · simp only [Except.ok.injEq] at hres
                  rw [← hres, fAddSub_prec, fMul_prec]
                  exact Nat.le_trans (ctxMaxP_ge_right _ _) (ctxMaxP_ge_left _ _)
            simp only [Except.ok.injEq, Prod.mk.injEq] at h
            obtain ⟨⟨rfl, _⟩, _⟩ := h
            refine fWithPrecision_fits E.B hB E.m E.c res p hp (Or.inl ?_)
            have hw : p < lnWorkPrec E.est p onePlus := by simp only [lnWorkPrec]; omega
            simp only at hsum
            omega

/-- `Context::ln` with its entry guards: also the shortcut `ln(1) = 0`, `ln_1p(0) = 0` -/
theorem lnFull_fits (fuel : Nat) (E : Env) (hB : 2 ≤ E.B) (p : Nat) (hp : 1 ≤ p) (x : Float.FRepr) (onePlus : Bool)
    (v : FBigM) (fl : Option Rounding) (tr : Trace)
    (h : lnFull fuel E p x onePlus = .ok ((v, fl), tr)) : FitsP1 E.B p v.repr := by
  unfold lnFull at h
  split at h
  · simp only [Except.ok.injEq, Prod.mk.injEq] at h
    obtain ⟨⟨rfl, _⟩, _⟩ := h
    exact fits_zero E.B p
  · repeat' split at h
    all_goals first
      | (simp at h; done)
      | exact lnBody_fits fuel E hB p hp x onePlus v fl tr h

/-- `Context::powf` (C11's mirrored body: `ln`, `mul`, `exp` at the working precision, then `with_precision(p)`): the result
    has at most `p + 1` digits -/
theorem powfBody_fits (fuel : Nat) (E : Env) (hB : 2 ≤ E.B) (p : Nat) (hp : 1 ≤ p) (base exp : Float.FRepr)
    (v : FBigM) (fl : Option Rounding) (tr : Trace)
    (h : powfBody fuel E p base exp = .ok ((v, fl), tr)) : FitsP1 E.B p v.repr := by
  unfold powfBody at h
  simp only [bind, Except.bind, pure, Except.pure] at h
  split at h
  · simp at h
  · split at h
    · simp at h
    · rename_i e he
      simp only [Except.ok.injEq, Prod.mk.injEq] at h
      obtain ⟨⟨rfl, _⟩, _⟩ := h
      refine fWithPrecision_fits E.B hB E.m E.c _ p hp ?_
      obtain ⟨⟨ev, ef⟩, et⟩ := e
      unfold expFull at he
      split at he
      · simp only [Except.ok.injEq, Prod.mk.injEq] at he
        obtain ⟨⟨rfl, _⟩, _⟩ := he
        exact Or.inr rfl
      · left
        rw [expBody_prec _ _ _ _ _ _ _ _ he]
        simp only [powfGuardDigits]; omega

end Dashu.Model
