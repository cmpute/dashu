import Dashu.Model.NT.ModLargeK
/-
  C13 — `large::pow` / `pow_nontrivial` (integer/src/modular/pow.rs) over an arbitrary squaring `sqr`
  (`sqr_in_place`) and product `mul` (`mul_normalized`): the same table construction and windowed loop as
  `oddPowTable` / `powWindowLoop` / `powL` of `Model/NT/Modular.lean`, so that the driver can run them on the
  BUFFER-level `sqr_normalized` / `mul_normalized` of `ModLargeK.lean` (C01's mirrored multiplication, C02's
  mirrored `div_rem_in_place`).  `Proofs/NT/ModPowLarge.lean`: instantiated with the `%`-level product they are
  `powL` (by induction), and over any squaring and product that return the residue of the square resp. product on
  `Valid` operands the loop returns the residue of the power (`powLG_spec`).  Core Lean only.
-/
namespace Dashu.Model.NT
open Dashu.Model

/-- the precomputed table of `pow_nontrivial`: `cur = mul_normalized(ring, prev, &val.0)` -/
def oddPowTableG (mul : Nat → Nat → Nat) (raw sq : Nat) : Nat → List Nat
  | 0 => []
  | cnt + 1 =>
    let t := oddPowTableG mul raw sq cnt
    t ++ [match t.getLast? with
          | none => raw
          | some p => mul p sq]

/-- main loop of `pow_nontrivial` (`sqr` = `sqr_in_place`, `mul` = `mul_normalized(ring, &val.0, entry)`) -/
def powWindowLoopG (sqr : Nat → Nat) (mul : Nat → Nat → Nat) (exp wl : Nat) (table : List Nat) : Nat → Nat → Nat → Nat
  | 0, _, val => val
  | fuel + 1, bit, val =>
    let (bit, val) :=
      if exp.testBit bit then
        let window := (exp * 2 ^ wl / 2 ^ (bit + 1)) % 2 ^ wl
        let tz := trailingZeros window
        let numBits := wl - tz
        let window := window / 2 ^ (wl - numBits)
        let val := (List.range (numBits - 1)).foldl (fun v _ => sqr v) val
        let bit := bit - (numBits - 1)
        let entry := table.getD (window / 2) 0
        (bit, mul val entry)
      else (bit, val)
    if bit = 0 then val
    else powWindowLoopG sqr mul exp wl table fuel (bit - 1) (sqr val)

/-- `large::pow` -/
def powLG (W : Nat) (r : Ring) (sqr : Nat → Nat) (mul : Nat → Nat → Nat) (raw exp : Nat) : Nat :=
  if exp = 0 then oneRaw r
  else if exp = 1 then raw
  else
    let wl := chooseWindowLen W (bitLen exp)
    let sq := sqr raw
    let table := oddPowTableG mul raw sq (2 ^ (wl - 1))
    powWindowLoopG sqr mul exp wl table (bitLen exp) (bitLen exp - 2) sq

/-- `large::pow` on buffers: every `sqr_in_place` through `sqr_normalized`, every table / window product
    through `mul_normalized` (not the squaring shortcut, even for equal operands — as in the code) -/
def powLK (W : Nat) (r : Ring) (raw exp : Nat) : Nat :=
  powLG W r (fun v => unwrapRaw r (mulNormalizedWordsL W r true v v))
    (fun a b => unwrapRaw r (mulNormalizedWordsL W r false a b)) raw exp

/-- work estimate (word operations) of one buffer-level `pow`: the driver runs `powLK` below this budget and
    the value-level `powL` (proved equal) above it, to keep the check's running time bounded -/
def powBufferBudget : Nat := 150000

/-- `Reduced::pow` with every kernel mirrored -/
def powRawKL (W : Nat) (r : Ring) (raw exp : Nat) : Nat :=
  match r.kind with
  | .large => if r.n * r.n * bitLen exp ≤ powBufferBudget then powLK W r raw exp else powL W r raw exp
  | _ => powSDK W r raw exp

def Elem.powKL (W : Nat) (a : Elem) (exp : Nat) : Elem := ⟨a.ring, powRawKL W a.ring a.raw exp⟩

end Dashu.Model.NT
