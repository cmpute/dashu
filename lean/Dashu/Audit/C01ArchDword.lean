import Dashu.Props.C01ArchDword
open Dashu.Props.C01ArchDword
#print axioms cin_eq_zero
#print axioms hi_lt
#print axioms div_le_one
#print axioms add_dword_in_place_via
#print axioms sub_dword_in_place_via
#print axioms add_in_place_via
#print axioms sub_in_place_via
#print axioms add_rs_functions_over_regenerated_arch
