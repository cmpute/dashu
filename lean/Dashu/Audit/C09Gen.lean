import Dashu.Props.GenBits
import Dashu.Props.GenIntOps
import Dashu.Props.GenMath
import Dashu.Props.GenBitsSmall
import Dashu.Props.C09Shift
import Dashu.Props.GenShift
import Dashu.Props.GenBitsPrim
import Dashu.Props.GenScans
import Dashu.Props.GenBitsMixed
import Dashu.Props.GenShiftHeap
import Dashu.Props.GenBitsHeap
import Dashu.Props.GenBitOpsHeap
import Dashu.Props.GenReprOnes
import Dashu.Props.GenBitDispatch
import Dashu.Props.GenNextPow2
import Dashu.Props.GenIntBits
import Dashu.Props.GenShiftDispatch
import Dashu.Props.C09BitLen
import Dashu.Props.C09Arith
/-! C09: axioms of every theorem of the Tie-A / link theorem modules of the property in ONE file (one Lean start instead of
    eight): Props/{GenBits, GenIntOps, GenMath, GenBitsSmall, C09Shift, GenShift, GenBitsPrim, GenScans, GenBitsMixed, GenShiftHeap, GenBitsHeap, GenBitOpsHeap, GenReprOnes, GenBitDispatch, GenNextPow2, GenIntBits, GenShiftDispatch, C09BitLen, C09Arith}.  The per-module audit
    files stay (other properties use some of them); this file lists the same theorems with fully qualified names. -/
#print axioms Dashu.Props.GenBits.gen_ibig_bitand
#print axioms Dashu.Props.GenBits.gen_ibig_bitor
#print axioms Dashu.Props.GenBits.gen_ibig_bitxor
#print axioms Dashu.Props.GenBits.gen_ibig_bitand_bits
#print axioms Dashu.Props.GenBits.gen_ibig_bitor_bits
#print axioms Dashu.Props.GenBits.gen_ibig_bitxor_bits
#print axioms Dashu.Props.GenIntOps.ibig_cmp_is_int_order
#print axioms Dashu.Props.GenIntOps.neg_floor_div
#print axioms Dashu.Props.GenIntOps.ibig_shr_is_floor_shift
#print axioms Dashu.Props.GenIntOps.ibig_shr_is_shiftRight
#print axioms Dashu.Props.GenMath.bitLength_eq
#print axioms Dashu.Props.GenMath.gen_bit_len
#print axioms Dashu.Props.GenMath.gen_ceil_log2
#print axioms Dashu.Props.GenMath.ceilDiv_pos_eq
#print axioms Dashu.Props.GenMath.ceilDiv_spec
#print axioms Dashu.Props.GenMath.ceilDiv_le_self
#print axioms Dashu.Props.GenMath.gen_ceil_div
#print axioms Dashu.Props.GenMath.gen_ceil_div_usize
#print axioms Dashu.Props.GenMath.gen_round_up
#print axioms Dashu.Props.GenMath.gen_round_up_usize
#print axioms Dashu.Props.GenMath.maxVal_shr
#print axioms Dashu.Props.GenMath.gen_ones_word
#print axioms Dashu.Props.GenMath.gen_ones_dword
#print axioms Dashu.Props.GenMath.gen_ones_word_out_of_domain
#print axioms Dashu.Props.GenMath.gen_shl_dword
#print axioms Dashu.Props.GenMath.gen_shr_word
#print axioms Dashu.Props.GenMath.shrBits_step_is_shr_word
#print axioms Dashu.Props.GenBitsSmall.gen_shr_dword
#print axioms Dashu.Props.GenBitsSmall.gen_are_dword_low_bits_nonzero
#print axioms Dashu.Props.GenBitsSmall.and_two_pow_ne_zero
#print axioms Dashu.Props.GenBitsSmall.gen_bit_small
#print axioms Dashu.Props.GenBitsSmall.gen_clear_bit_small
#print axioms Dashu.Props.GenBitsSmall.gen_clear_high_bits_small
#print axioms Dashu.Props.GenBitsSmall.gen_split_bits_small
#print axioms Dashu.Props.GenBitsSmall.gen_heap_indices
#print axioms Dashu.Props.GenBitsSmall.gen_clear_high_bits_large_n_words
#print axioms Dashu.Props.GenBitsSmall.gen_ones_inline
#print axioms Dashu.Props.C09Shift.shlBits_eq_shlLoop
#print axioms Dashu.Props.C09Shift.shlBits_eq_shlInPlace
#print axioms Dashu.Props.C09Shift.mathShlDword_eq
#print axioms Dashu.Props.C09Shift.shrBits_eq_shrLoop
#print axioms Dashu.Props.C09Shift.shrBits_eq_shrInPlace
#print axioms Dashu.Props.C09Shift.div_kernels_are_generated
#print axioms Dashu.Props.GenShift.gen_shl_step
#print axioms Dashu.Props.GenShift.forWords_shl
#print axioms Dashu.Props.GenShift.gen_shl_in_place
#print axioms Dashu.Props.GenShift.gen_shr_step
#print axioms Dashu.Props.GenShift.forWordsRev_shr
#print axioms Dashu.Props.GenShift.gen_shr_in_place_with_carry
#print axioms Dashu.Props.GenShift.gen_shr_in_place_one_word
#print axioms Dashu.Props.GenShift.gen_shr_in_place_one_word_empty
#print axioms Dashu.Props.GenShift.gen_shr_in_place
#print axioms Dashu.Props.GenShift.gen_loops_are_the_bit_model
#print axioms Dashu.Props.GenBitsPrim.map_unwrap
#print axioms Dashu.Props.GenBitsPrim.gen_ubig_and_prim
#print axioms Dashu.Props.GenBitsPrim.gen_ibig_and_prim
#print axioms Dashu.Props.GenBitsPrim.gen_ubig_op_prim
#print axioms Dashu.Props.GenBitsPrim.gen_ibig_op_prim_unsigned
#print axioms Dashu.Props.GenBitsPrim.gen_ibig_op_prim_signed
#print axioms Dashu.Props.GenScans.tzAux_zero
#print axioms Dashu.Props.GenScans.trailing_zeros_eq
#print axioms Dashu.Props.GenScans.trailing_ones_eq
#print axioms Dashu.Props.GenScans.tzAux_le
#print axioms Dashu.Props.GenScans.tzWord_le
#print axioms Dashu.Props.GenScans.toWord_le
#print axioms Dashu.Props.GenScans.scan_zero
#print axioms Dashu.Props.GenScans.scan_one
#print axioms Dashu.Props.GenScans.takeWhile_len_le
#print axioms Dashu.Props.GenScans.tz_scan
#print axioms Dashu.Props.GenScans.gen_trailing_zeros_large
#print axioms Dashu.Props.GenScans.to_scan
#print axioms Dashu.Props.GenScans.gen_trailing_ones_large
#print axioms Dashu.Props.GenScans.gen_trailing_zeros_large_shifted_by_one
#print axioms Dashu.Props.GenScans.gen_trailing_zeros_large_shifted_by_one_empty
#print axioms Dashu.Props.GenBitsMixed.apply_sign
#print axioms Dashu.Props.GenBitsMixed.core_or
#print axioms Dashu.Props.GenBitsMixed.core_xor
#print axioms Dashu.Props.GenBitsMixed.gen_mixed_or_xor
#print axioms Dashu.Props.GenBitsMixed.ubig_as_ibig
#print axioms Dashu.Props.GenBitsMixed.mixed_or_xor
#print axioms Dashu.Props.GenShiftHeap.gen_shl_one_spilled
#print axioms Dashu.Props.GenShiftHeap.gen_shl_dword_spilled
#print axioms Dashu.Props.GenShiftHeap.gen_shl_dword_spilled_arms
#print axioms Dashu.Props.GenShiftHeap.split_replicate
#print axioms Dashu.Props.GenShiftHeap.gen_shl_large_ref
#print axioms Dashu.Props.GenShiftHeap.gen_shl_large
#print axioms Dashu.Props.GenShiftHeap.gen_shr_large
#print axioms Dashu.Props.GenBitsHeap.gen_with_bit_dword_spilled
#print axioms Dashu.Props.GenBitsHeap.gen_with_bit_large
#print axioms Dashu.Props.GenBitsHeap.gen_clear_high_bits_large
#print axioms Dashu.Props.GenBitOpsHeap.zip_and
#print axioms Dashu.Props.GenBitOpsHeap.zip_len
#print axioms Dashu.Props.GenBitOpsHeap.zip_or
#print axioms Dashu.Props.GenBitOpsHeap.zip_xor
#print axioms Dashu.Props.GenBitOpsHeap.zip_and_not
#print axioms Dashu.Props.GenBitOpsHeap.gen_bitand_large
#print axioms Dashu.Props.GenBitOpsHeap.gen_bitor_large
#print axioms Dashu.Props.GenBitOpsHeap.gen_bitxor_large
#print axioms Dashu.Props.GenBitOpsHeap.gen_and_not_large
#print axioms Dashu.Props.GenBitOpsHeap.gen_large_dword
#print axioms Dashu.Props.GenBitOpsHeap.gen_large_dword_short
#print axioms Dashu.Props.GenBitOpsHeap.gen_heap_heap_arms
#print axioms Dashu.Props.GenScans.gen_are_slice_low_bits_nonzero
#print axioms Dashu.Props.GenShiftHeap.gen_shr_large_ref
#print axioms Dashu.Props.GenShiftHeap.gen_shr_heap_forms
#print axioms Dashu.Props.GenBitsHeap.gen_clear_bit_large
#print axioms Dashu.Props.GenBitsHeap.gen_split_bits_large
#print axioms Dashu.Props.GenScans.gen_bit_large
#print axioms Dashu.Props.GenScans.gen_bit_len_large
#print axioms Dashu.Props.GenScans.count_ones_eq
#print axioms Dashu.Props.GenScans.sum_checked_eq
#print axioms Dashu.Props.GenScans.gen_count_ones_large
#print axioms Dashu.Props.GenScans.gen_count_zeros_large_partial
#print axioms Dashu.Props.GenScans.is_power_of_two_eq
#print axioms Dashu.Props.GenScans.gen_is_power_of_two_large
#print axioms Dashu.Props.GenScans.last_le_sum
#print axioms Dashu.Props.GenScans.gen_count_zeros_large
#print axioms Dashu.Props.GenReprOnes.gen_repr_ones
#print axioms Dashu.Props.GenReprOnes.gen_repr_ones_boundary
#print axioms Dashu.Props.GenBitDispatch.lowest_dword_eq
#print axioms Dashu.Props.GenBitDispatch.lowest_dword_short
#print axioms Dashu.Props.GenBitDispatch.zipAnd_comm
#print axioms Dashu.Props.GenBitDispatch.zipOr_comm
#print axioms Dashu.Props.GenBitDispatch.zipXor_comm
#print axioms Dashu.Props.GenBitDispatch.bitand_comm
#print axioms Dashu.Props.GenBitDispatch.bitor_comm
#print axioms Dashu.Props.GenBitDispatch.bitxor_comm
#print axioms Dashu.Props.GenBitDispatch.gen_bitand_dispatch
#print axioms Dashu.Props.GenBitDispatch.gen_bitor_dispatch
#print axioms Dashu.Props.GenBitDispatch.gen_bitxor_dispatch
#print axioms Dashu.Props.GenBitDispatch.gen_and_not_dispatch
#print axioms Dashu.Props.GenNextPow2.skip_zero
#print axioms Dashu.Props.GenNextPow2.gen_next_power_of_two_large
#print axioms Dashu.Props.GenNextPow2.gen_next_power_of_two_large_empty
#print axioms Dashu.Props.GenNextPow2.gen_next_power_of_two
#print axioms Dashu.Props.GenScans.tzLarge_le
#print axioms Dashu.Props.GenScans.tzLargeShiftedByOne_succ_le
#print axioms Dashu.Props.GenScans.gen_trailing_ones_neg_large
#print axioms Dashu.Props.GenScans.gen_trailing_ones_neg_large_empty
#print axioms Dashu.Props.GenIntBits.gen_ibig_bit
#print axioms Dashu.Props.GenIntBits.gen_ibig_trailing_zeros
#print axioms Dashu.Props.GenIntBits.gen_ibig_trailing_ones
#print axioms Dashu.Props.GenIntBits.gen_ibig_not
#print axioms Dashu.Props.GenIntBits.gen_ibig_not_bits
#print axioms Dashu.Props.GenIntBits.specK_meets
#print axioms Dashu.Props.GenIntBits.modelK_meets
#print axioms Dashu.Props.GenIntBits.model_ibig_bit
#print axioms Dashu.Props.GenIntBits.model_ibig_trailing
#print axioms Dashu.Props.GenShiftHeap.gen_shl_dword_repr
#print axioms Dashu.Props.GenShiftDispatch.gen_shl_dispatch
#print axioms Dashu.Props.GenShiftDispatch.gen_shr_dispatch
#print axioms Dashu.Props.GenBitsHeap.gen_set_bit_small
#print axioms Dashu.Props.GenBitsHeap.gen_set_bit
#print axioms Dashu.Props.C09BitLen.gen_ibig_bit_len
#print axioms Dashu.Props.C09BitLen.sign_bits_above
#print axioms Dashu.Props.C09BitLen.top_bit_below
#print axioms Dashu.Props.C09BitLen.gen_ibig_bit_len_sign_bits
#print axioms Dashu.Props.C09BitLen.specK_meets_bit_len
#print axioms Dashu.Props.C09BitLen.modelK_meets_bit_len
#print axioms Dashu.Props.C09BitLen.model_ibig_bit_len
#print axioms Dashu.Props.C09Arith.scanon_is_wf
#print axioms Dashu.Props.C09Arith.neg_is_not_plus_one
#print axioms Dashu.Props.C09Arith.sub_is_add_not_plus_one
#print axioms Dashu.Props.C09Arith.not_is_neg_minus_one
#print axioms Dashu.Props.C09Arith.not_not_and_not_neg
#print axioms Dashu.Props.C09Arith.neg_bits
#print axioms Dashu.Props.C09Arith.and_plus_or_is_add
#print axioms Dashu.Props.C09Arith.xor_plus_carries_is_add
#print axioms Dashu.Props.C09Arith.neg_of_int
