import Dashu.Props.GenBitsSmall
/-! axioms of every theorem of `Props/GenBitsSmall.lean` (C09, Tie A: inline arms of bits.rs / shift_ops.rs with a usize argument, regenerated from /repo) -/
#print axioms Dashu.Props.GenBitsSmall.gen_shr_dword
#print axioms Dashu.Props.GenBitsSmall.gen_are_dword_low_bits_nonzero
#print axioms Dashu.Props.GenBitsSmall.and_two_pow_ne_zero
#print axioms Dashu.Props.GenBitsSmall.gen_bit_small
#print axioms Dashu.Props.GenBitsSmall.gen_clear_bit_small
#print axioms Dashu.Props.GenBitsSmall.gen_clear_high_bits_small
#print axioms Dashu.Props.GenBitsSmall.gen_split_bits_small
#print axioms Dashu.Props.GenBitsSmall.gen_heap_indices
#print axioms Dashu.Props.GenBitsSmall.gen_clear_high_bits_large_n_words
#print axioms Dashu.Props.GenBitsSmall.gen_ones_inline
