import Dashu.Props.C12
import Dashu.Props.C12U32
open Dashu.Props.C12
#print axioms gcd_prim_spec
#print axioms trailing_zeros_or
#print axioms gcd_spec
#print axioms gcd_int_spec
#print axioms gcd_spec_frontier
#print axioms gcd_ext_prim_spec
#print axioms gcd_ext_prim_wide_spec
#print axioms gcd_ext_bezout
#print axioms lehmer_gcd_ext_correct
#print axioms gcd_ext_spec
#print axioms gcd_ext_bezout_driver
#print axioms lehmer_guess_det
#print axioms lehmer_step_preserves_gcd
#print axioms lehmer_step_nonneg
#print axioms lehmer_gcd_sound
#print axioms lehmer_gcd_correct
#print axioms sqrt_rem_spec
#print axioms nth_root_spec
#print axioms cbrt_rem_spec
#print axioms ibig_root_spec
#print axioms ilog_spec
#print axioms remove_spec
#print axioms log2_table_sound
#print axioms log2_u8_table_sound
#print axioms log2_wide_table_sound
#print axioms nth_root_zero_asIs_counterexample
#print axioms sqrt_rem_asIs_counterexample
#print axioms ibig_cbrt_asIs_counterexample
#print axioms ilog_zero_asIs_counterexample
#print axioms gcd_ext_post_precondition_counterexample
#print axioms zimmermann_step
#print axioms sqrt_rem_42_correct
#print axioms sqrt_rem_karatsuba_correct
#print axioms sqrt_rem_kernel_eq_spec
#print axioms sqrt_rem_mirrored_spec
#print axioms nth_root_mirrored_eq
#print axioms fix_sqrt_error_sound
#print axioms fix_cbrt_error_sound
#print axioms prim_sqrt_rem_sound
#print axioms prim_cbrt_rem_sound
#print axioms prim_root_u8_total
#print axioms prim_root_u16_total
#print axioms prim_exact_of_total
#print axioms sqrt_rem_driver_spec
#print axioms gcd_ext_cofactors_fit_partial
#print axioms gcd_ext_prim_cofactor_bounds
#print axioms gcd_ext_b_fits_partial
#print axioms gcd_ext_b_fits
#print axioms prim_root_u32_total
#print axioms prim_sqrt_u32_exact
#print axioms cbrt_karatsuba_step
#print axioms root_tables_regenerated
#print axioms root_u128_steps_regenerated
#print axioms prim_sqrt_u128_total_of_u64
#print axioms sqrt_rem_driver_spec_u64
#print axioms prim_cbrt_u128_total_of_u64
#print axioms gcd_ext_loop_is_iteration
#print axioms gcd_ext_every_iteration_fits
#print axioms lehmer_ext_step_words_spec
#print axioms lehmer_cofactors_le_signed_max
#print axioms gcd_ext_lehmer_ext_step_words_fit
#print axioms lehmer_ext_step_words_regenerated
#print axioms gcd_ext_euclid_slice_fits
#print axioms gcd_ext_euclid_qtop_slice_fits
#print axioms lehmer_step_words_spec
#print axioms lehmer_step_words_regenerated
#print axioms lehmer_step_committed_values
#print axioms lehmer_step_full_eqlen
#print axioms lehmer_step_full_longer
#print axioms lehmer_step_committed_y_le
#print axioms lehmer_step_full_committed_longer
#print axioms lehmer_step_full_committed_eqlen
#print axioms lehmer_guess_gap_fails
#print axioms lehmer_commit_shape
#print axioms lehmer_step_full_committed_trimmed
