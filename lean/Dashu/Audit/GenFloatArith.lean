import Dashu.Props.GenFloatArith
/-! axioms of every theorem of `Props/GenFloatArith.lean` (Tie A: theorems about text regenerated from /repo) -/
#print axioms Dashu.Props.GenFloatArith.modelK2_toFloatK
#print axioms Dashu.Props.GenFloatArith.modelK2_digits
#print axioms Dashu.Props.GenFloatArith.modelK2_repr_new
#print axioms Dashu.Props.GenFloatArith.modelK_digits
#print axioms Dashu.Props.GenFloatArith.two_mul_cast
#print axioms Dashu.Props.GenFloatArith.three_mul_cast
#print axioms Dashu.Props.GenFloatArith.context_mul_is_model
#print axioms Dashu.Props.GenFloatArith.context_sqr_is_model
#print axioms Dashu.Props.GenFloatArith.context_cubic_is_model
#print axioms Dashu.Props.GenFloatArith.mul_ref_ref_is_model
#print axioms Dashu.Props.GenFloatArith.mul_val_ref_is_model
#print axioms Dashu.Props.GenFloatArith.mul_ref_val_is_model
#print axioms Dashu.Props.GenFloatArith.mul_val_val_is_model
#print axioms Dashu.Props.GenFloatArith.mul_forms_agree
#print axioms Dashu.Props.GenFloatArith.modelK2_shl
#print axioms Dashu.Props.GenFloatArith.modelK2_digit_len
#print axioms Dashu.Props.GenFloatArith.modelK2_round_ratio
#print axioms Dashu.Props.GenFloatArith.modelK2_digits_lb
#print axioms Dashu.Props.GenFloatArith.modelK2_digits_ub
#print axioms Dashu.Props.GenFloatArith.digitsI_tmod_le
#print axioms Dashu.Props.GenFloatArith.repr_div_is_model
#print axioms Dashu.Props.GenFloatArith.modelK_digits_ub
#print axioms Dashu.Props.GenFloatArith.reprRound_not_inf
#print axioms Dashu.Props.GenFloatArith.context_div_is_model
#print axioms Dashu.Props.GenFloatArith.context_inv_is_model
#print axioms Dashu.Props.GenFloatArith.div_val_val_is_model
#print axioms Dashu.Props.GenFloatArith.div_ref_val_is_model
#print axioms Dashu.Props.GenFloatArith.div_val_ref_is_model
#print axioms Dashu.Props.GenFloatArith.div_ref_ref_is_model
#print axioms Dashu.Props.GenFloatArith.div_operator_eq_context_div
#print axioms Dashu.Props.GenFloatArith.inv_val_is_model
#print axioms Dashu.Props.GenFloatArith.inv_ref_is_model
#print axioms Dashu.Props.GenFloatArith.fbig_sqr_is_model
#print axioms Dashu.Props.GenFloatArith.fbig_cubic_is_model
#print axioms Dashu.Props.GenFloatArith.regenerated_repr_div_contract
#print axioms Dashu.Props.GenFloatArith.regenerated_inv_contract
#print axioms Dashu.Props.GenFloatArith.regenerated_mul_contract
