import Dashu.Props.C02
open Dashu.Props.C02
#print axioms truncating_conventions
#print axioms euclidean_conventions
#print axioms div_by_word_exact
#print axioms div_by_dword_exact
#print axioms rem_by_word_exact
#print axioms rem_by_dword_exact
#print axioms knuth_step_exact
#print axioms simple_div_rem_exact
#print axioms burnikel_ziegler_exact
#print axioms div_rem_large_exact
#print axioms ubig_div_rem_exact
#print axioms ubig_div_exact
#print axioms ubig_rem_exact
#print axioms ubig_division_identity
#print axioms ubig_is_multiple_of_exact
#print axioms is_multiple_of_const_exact
#print axioms is_multiple_of_const_zero
#print axioms sgn_apply
#print axioms Dashu.Model.sgn_bne
#print axioms Dashu.Model.sgn_not
#print axioms srepr_value
#print axioms cast_mod_zero
#print axioms ibig_div_exact
#print axioms ibig_rem_exact
#print axioms ibig_div_rem_exact
#print axioms ibig_div_euclid_exact
#print axioms ibig_rem_euclid_exact
#print axioms ibig_div_rem_euclid_exact
#print axioms ubig_ibig_rem_exact
#print axioms ubig_ibig_div_rem_exact
#print axioms ibig_is_multiple_of_exact
#print axioms const_divisor_new_value
#print axioms const_divisor_eq_plain
#print axioms tdiv_of_sgn
#print axioms tmod_of_sgn
#print axioms const_divisor_ibig_exact
#print axioms nm_invert_word_exact
#print axioms nm_div_rem_2by1_exact
#print axioms nm_invert_double_word_exact
#print axioms nm_div_rem_3by2_exact
#print axioms nm_div_rem_4by2_exact
#print axioms nm_div_rem_1by1_2by2_exact
#print axioms nm_contracts_discharged
#print axioms div_scratch_memory_suffices
#print axioms prim_zero_divisor
#print axioms prim_min_neg_one
#print axioms prim_kernels_exact
