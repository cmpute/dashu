import Dashu.Props.GenBitsHeap
/-! axioms of every theorem of `Props/GenBitsHeap.lean` (C09: heap arms of set_bit / clear_high_bits of bits.rs, regenerated text = hand model) -/
#print axioms Dashu.Props.GenBitsHeap.gen_with_bit_dword_spilled
#print axioms Dashu.Props.GenBitsHeap.gen_with_bit_large
#print axioms Dashu.Props.GenBitsHeap.gen_clear_high_bits_large
#print axioms Dashu.Props.GenBitsHeap.gen_clear_bit_large
#print axioms Dashu.Props.GenBitsHeap.gen_split_bits_large
#print axioms Dashu.Props.GenBitsHeap.gen_set_bit_small
#print axioms Dashu.Props.GenBitsHeap.gen_set_bit
