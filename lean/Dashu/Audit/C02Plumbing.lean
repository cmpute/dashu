import Dashu.Props.C02Plumbing
open Dashu.Props.C02
#print axioms plumbing_table_routes
#print axioms plumbing_table_forwards
#print axioms plumbing_table_forms
#print axioms value_of_not_neg
#print axioms wf1
#print axioms wf2
#print axioms ediv_eq_tdiv_of_not_neg
#print axioms emod_eq_tmod_of_not_neg
#print axioms evalCore_exact
#print axioms take_spec
#print axioms plumbing_every_impl_exact
#print axioms const_from_word_eq_new
#print axioms const_from_dword_eq_new
#print axioms const_from_dword_value
#print axioms const_from_word_value
#print axioms repr_table_arms
#print axioms repr_table_complete
#print axioms expectedArms_eval
#print axioms repr_every_impl_eq_model
#print axioms plumbing_division_identity
#print axioms ibig_is_multiple_of_const_exact
#print axioms div_rem_in_place_choice
#print axioms bz_entry_guard
#print axioms bz_same_len_guard
#print axioms bz_small_quotient_guards
#print axioms bz_small_quotient_recursive
#print axioms simple_entry_guards
#print axioms hw_estimate_guard
#print axioms hw_addback_guard
#print axioms div_by_word_guards
#print axioms rem_by_word_dword_guards
#print axioms div_by_dword_guards
#print axioms unshifted_carry_guard
#print axioms const_repr_table_arms
#print axioms const_repr_table_complete
#print axioms remLargeLarge_eq
#print axioms constExpectedArms_eval
#print axioms const_repr_every_impl_eq_model
#print axioms rem_large_large_guard
