import Dashu.Props.GenScans
/-! axioms of every theorem of `Props/GenScans.lean` (C09: bits.rs word scans, regenerated text = hand mirrors, panics included) -/
#print axioms Dashu.Props.GenScans.tzAux_zero
#print axioms Dashu.Props.GenScans.trailing_zeros_eq
#print axioms Dashu.Props.GenScans.trailing_ones_eq
#print axioms Dashu.Props.GenScans.tzAux_le
#print axioms Dashu.Props.GenScans.tzWord_le
#print axioms Dashu.Props.GenScans.toWord_le
#print axioms Dashu.Props.GenScans.scan_zero
#print axioms Dashu.Props.GenScans.scan_one
#print axioms Dashu.Props.GenScans.takeWhile_len_le
#print axioms Dashu.Props.GenScans.tz_scan
#print axioms Dashu.Props.GenScans.gen_trailing_zeros_large
#print axioms Dashu.Props.GenScans.to_scan
#print axioms Dashu.Props.GenScans.gen_trailing_ones_large
#print axioms Dashu.Props.GenScans.gen_trailing_zeros_large_shifted_by_one
#print axioms Dashu.Props.GenScans.gen_trailing_zeros_large_shifted_by_one_empty
#print axioms Dashu.Props.GenScans.gen_are_slice_low_bits_nonzero
#print axioms Dashu.Props.GenScans.gen_bit_large
#print axioms Dashu.Props.GenScans.gen_bit_len_large
#print axioms Dashu.Props.GenScans.count_ones_eq
#print axioms Dashu.Props.GenScans.sum_checked_eq
#print axioms Dashu.Props.GenScans.gen_count_ones_large
#print axioms Dashu.Props.GenScans.gen_count_zeros_large_partial
#print axioms Dashu.Props.GenScans.is_power_of_two_eq
#print axioms Dashu.Props.GenScans.gen_is_power_of_two_large
#print axioms Dashu.Props.GenScans.last_le_sum
#print axioms Dashu.Props.GenScans.gen_count_zeros_large
#print axioms Dashu.Props.GenScans.tzLarge_le
#print axioms Dashu.Props.GenScans.tzLargeShiftedByOne_succ_le
#print axioms Dashu.Props.GenScans.gen_trailing_ones_neg_large
#print axioms Dashu.Props.GenScans.gen_trailing_ones_neg_large_empty
