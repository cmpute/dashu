import Dashu.Props.GenShiftHeap
/-! axioms of every theorem of `Props/GenShiftHeap.lean` (C09: heap arms of << / >> of shift_ops.rs, regenerated text = hand model) -/
#print axioms Dashu.Props.GenShiftHeap.gen_shl_one_spilled
#print axioms Dashu.Props.GenShiftHeap.gen_shl_dword_spilled
#print axioms Dashu.Props.GenShiftHeap.gen_shl_dword_spilled_arms
#print axioms Dashu.Props.GenShiftHeap.split_replicate
#print axioms Dashu.Props.GenShiftHeap.gen_shl_large_ref
#print axioms Dashu.Props.GenShiftHeap.gen_shl_large
#print axioms Dashu.Props.GenShiftHeap.gen_shr_large
#print axioms Dashu.Props.GenShiftHeap.gen_shr_large_ref
#print axioms Dashu.Props.GenShiftHeap.gen_shr_heap_forms
#print axioms Dashu.Props.GenShiftHeap.gen_shl_dword_repr
