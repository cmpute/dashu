import Dashu.Model.Int.FloatConst
import Dashu.Props.GenFloatNorm
/-
  C05: `FBig::from_parts_const`'s own normaliser (mirrored in `Model/Int/FloatConst.lean`) returns exactly
  the representation `Repr::normalize` returns — for every base `B ≥ 2`, every double-word significand, both signs.
-/
namespace Dashu.Props.C05
open Dashu.Model Dashu.Model.NT Dashu.Props.GenFloatNorm

/-- the stripping loop with enough fuel is the multiplicity computation -/
theorem constStrip_eq_removeAll (B : Nat) (hB : 2 ≤ B) : ∀ (fuel s : Nat) (e : Int), s ≠ 0 → s < 2 ^ fuel →
    constStrip B fuel s e = ((removeAll B s).1, e + ((removeAll B s).2 : Int)) := by
  intro fuel
  induction fuel with
  | zero => intro s e hs h; simp at h; omega
  | succ fuel ih =>
    intro s e hs hlt
    unfold constStrip
    rw [removeAll]
    by_cases hm : s % B = 0
    · rw [if_pos hm, dif_neg (by omega)]
      have hdm := Nat.div_add_mod s B
      have hq : s / B ≠ 0 := by
        intro h0; rw [h0, hm] at hdm; omega
      have hle : 2 * (s / B) ≤ s := by
        calc 2 * (s / B) ≤ B * (s / B) := Nat.mul_le_mul_right _ hB
          _ ≤ s := by omega
      have hlt' : s / B < 2 ^ fuel := by rw [Nat.pow_succ] at hlt; omega
      rw [ih (s / B) (e + 1) hq hlt']
      generalize removeAll B (s / B) = p
      obtain ⟨m, k⟩ := p
      simp only
      congr 1
      push_cast; omega
    · rw [if_neg hm, dif_pos (Or.inr (Or.inr hm))]
      simp

/-- **`from_parts_const` builds the normalised representation**: the same `Repr` as `Repr::new(±significand, exponent)`
    (`FRepr.normalize`, hence — `GenFloatNorm.normalize_is_model` — as the regenerated `Repr::normalize`) -/
theorem from_parts_const_normalized (W B : Nat) (hB : 2 ≤ B) (neg : Bool) (s : Nat) (hs : s < 2 ^ (2 * W)) (e : Int)
    (mp : Option Nat) :
    (fromPartsConst W B neg s e mp).1 = (FRepr.mk (if neg then -(s : Int) else (s : Int)) e).normalize B := by
  unfold fromPartsConst FRepr.normalize
  by_cases h0 : s = 0
  · subst h0; cases neg <;> simp
  · have hpos : 0 < s := Nat.pos_of_ne_zero h0
    have hne : (if neg then -(s : Int) else (s : Int)) ≠ 0 := by cases neg <;> simp <;> omega
    have habs : (if neg then -(s : Int) else (s : Int)).natAbs = s := by cases neg <;> simp
    have hneg : ((if neg then -(s : Int) else (s : Int)) < 0) ↔ neg = true := by cases neg <;> simp <;> omega
    rw [if_neg h0, if_neg hne, habs]
    by_cases hp : B = 2 ^ (bitLen B - 1)
    · rw [if_pos hp]
      obtain ⟨f1, f2, f3⟩ := pow2_facts B s hB hpos hp
      have htz : trailingZeros B = bitLen B - 1 := by
        conv_lhs => rw [hp]
        exact tz_two_pow _
      generalize hrm : removeAll B s = p at f1 f2 f3
      obtain ⟨m, k⟩ := p
      simp only at f1 f2 f3 ⊢
      rw [htz, ← f1, Nat.mul_comm k, ← f2]
      cases neg <;> simp [hneg] <;> (intro h; exact absurd h h0)
    · rw [if_neg hp]
      rw [constStrip_eq_removeAll B hB (2 * W) s e h0 hs]
      generalize removeAll B s = p
      obtain ⟨m, k⟩ := p
      cases neg <;> simp [hneg] <;> (intro h; exact absurd h h0)

example : (fromPartsConst 64 10 true 1234000 (-2) none).1 = ⟨-1234, 1⟩ ∧ (fromPartsConst 64 16 false 0x1200 0 (some 9)) = (⟨0x12, 2⟩, 9) ∧
    (fromPartsConst 64 10 false (2 * 10 ^ 38 + 1) 0 none).2 = 38 := by decide +kernel

/-- the precision loop: its result `d` satisfies `s < B^(d+1)` (one spare digit at most; `d` is the digit count unless
    `B^digits` leaves the double word, where the real loop stops one short) -/
theorem constDigits_spec (B lim s : Nat) (hB : 2 ≤ B) (hs : s < lim) : ∀ (fuel pow digits : Nat),
    pow = B ^ digits → pow ≤ s → lim ≤ 2 ^ (fuel + digits) →
    s < B ^ (constDigits B lim s fuel pow digits + 1) := by
  intro fuel
  induction fuel with
  | zero =>
    intro pow digits hp hle hlim
    exfalso
    have h2 : 2 ^ digits ≤ B ^ digits := Nat.pow_le_pow_left hB digits
    simp only [Nat.zero_add] at hlim
    omega
  | succ fuel ih =>
    intro pow digits hp hle hlim
    unfold constDigits
    have hnext : pow * B = B ^ (digits + 1) := by rw [hp, Nat.pow_succ]
    by_cases h1 : pow * B ≥ lim
    · rw [if_pos h1]; rw [← hnext]; omega
    · rw [if_neg h1]
      by_cases h2 : pow * B > s
      · rw [if_pos h2]
        have : B ^ (digits + 1) ≤ B ^ (digits + 1 + 1) := Nat.pow_le_pow_right (by omega) (by omega)
        omega
      · rw [if_neg h2]
        exact ih (pow * B) (digits + 1) hnext (by omega) (by
          have : fuel + 1 + digits = fuel + (digits + 1) := by omega
          rw [← this]; exact hlim)

/-- **`from_parts_const` keeps the invariant of the comparison theorems**: its significand has at most
    `precision + 1` digits (`|signif| < B^(precision+1)`, the hypothesis form of `float_cmp`), whatever `min_precision` -/
theorem from_parts_const_fits (W B : Nat) (hB : 2 ≤ B) (neg : Bool) (s : Nat) (hs : s < 2 ^ (2 * W)) (e : Int)
    (mp : Option Nat) :
    (fromPartsConst W B neg s e mp).1.signif.natAbs < B ^ ((fromPartsConst W B neg s e mp).2 + 1) := by
  unfold fromPartsConst
  by_cases h0 : s = 0
  · rw [if_pos h0]; simp; omega
  · rw [if_neg h0]
    have hpos : 0 < s := Nat.pos_of_ne_zero h0
    have key : ∀ (m digits : Nat), m < B ^ (digits + 1) →
        (if neg then -(m : Int) else (m : Int)).natAbs <
          B ^ ((match mp with | some p => max p digits | none => digits) + 1) := by
      intro m digits hm
      have ha : (if neg then -(m : Int) else (m : Int)).natAbs = m := by cases neg <;> simp
      rw [ha]
      cases mp with
      | none => exact hm
      | some p =>
        have : B ^ (digits + 1) ≤ B ^ (max p digits + 1) := Nat.pow_le_pow_right (by omega) (by omega)
        simp only; omega
    by_cases hp : B = 2 ^ (bitLen B - 1)
    · rw [if_pos hp]
      simp only
      apply key
      have htz : trailingZeros B = bitLen B - 1 := by
        conv_lhs => rw [hp]
        exact tz_two_pow _
      rw [htz]
      have hj : 0 < bitLen B - 1 := by
        by_contra h0'
        have : bitLen B - 1 = 0 := by omega
        rw [this] at hp; omega
      generalize bitLen B - 1 = j at hp hj
      generalize s / 2 ^ (trailingZeros s / j * j) = m
      have hm := lt_two_pow_bitLen m
      have hdiv : bitLen m ≤ j * ((bitLen m + j - 1) / j) := by
        have := Nat.div_add_mod (bitLen m + j - 1) j
        have := Nat.mod_lt (bitLen m + j - 1) hj
        omega
      have : 2 ^ bitLen m ≤ B ^ ((bitLen m + j - 1) / j + 1) := by
        rw [hp, ← Nat.pow_mul]
        apply Nat.pow_le_pow_right (by omega)
        rw [Nat.mul_add]; omega
      omega
    · rw [if_neg hp]
      simp only
      apply key
      rw [constStrip_eq_removeAll B hB (2 * W) s e h0 hs]
      simp only
      have hspec := Dashu.Model.removeAll_spec B hB s h0
      generalize removeAll B s = p at hspec
      obtain ⟨m, k⟩ := p
      simp only at hspec ⊢
      have hm0 : m ≠ 0 := by
        intro h; rw [h] at hspec; simp at hspec
      have hmle : m ≤ s := by
        have : 1 ≤ B ^ k := Nat.one_le_pow _ _ (by omega)
        calc m = m * 1 := by omega
          _ ≤ m * B ^ k := Nat.mul_le_mul_left _ this
          _ = s := hspec.1.symm
      exact constDigits_spec B (2 ^ (2 * W)) m hB (by omega) (2 * W + 1) 1 0 (by simp) (by omega)
        (by apply Nat.pow_le_pow_right (by omega); omega)

example : (fromPartsConst 64 10 false (2 * 10 ^ 38 + 1) 0 none) = (⟨2 * 10 ^ 38 + 1, 0⟩, 38) ∧
    (2 * 10 ^ 38 + 1 : Nat) < 10 ^ (38 + 1) ∧ ¬ ((2 * 10 ^ 38 + 1 : Nat) < 10 ^ 38) := by decide +kernel

end Dashu.Props.C05
