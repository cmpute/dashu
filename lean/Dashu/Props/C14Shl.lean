import Dashu.Props.C14Link
import Dashu.Props.C09
/-
  C14 ↔ C09: the `<<` inside the exact steps of the cross-type comparisons.  `Model/Cross/Ord.lean`
  writes `value << n` at its value (`x * 2 ^ n`, and `shlDigits B x n = x * B^n` for
  `utils::shl_digits::<B>`, whose arms `2 => value << exp` and
  `b if b.is_power_of_two() => value << (exp * b.trailing_zeros())` are plain shifts).  Here that
  product is proved equal — for every word size — to C09's MIRRORED `Shl<usize> for IBig`
  (`ibigShl`, integer/src/shift_ops.rs) run on the canonical representation, by importing C09's proved
  `ibig_shl_exact`; composed with C05's mirrored `Ord for IBig` / `abs_cmp` (Props/C14Link) the whole
  base-2 exact step "shift, then compare" is the word-level code.  Kept apart from Props/C14Link
  because it imports a third group's proofs.
-/
namespace Dashu.Props.C14Shl
open Dashu.Model Dashu.Model.Cross

/-- `&IBig << usize` (mirrored, on the canonical representation of `x`) -/
def ibigShlW (W : Nat) (x : Int) (n : Nat) : SRepr := ibigShl W (sOfInt W x) n

/-- mirrored `IBig << n` is the `x * 2 ^ n` of the cross model, and its result is canonical -/
theorem shl_mirrored (W : Nat) (hW : 1 ≤ W) (x : Int) (n : Nat) :
    (ibigShlW W x n).value W = x * 2 ^ n ∧ SCanon W (ibigShlW W x n) := by
  have h := Dashu.Props.C09.ibig_shl_exact W hW (sOfInt W x) n (sOfInt_spec W hW x).1
  rw [(sOfInt_spec W hW x).2] at h
  exact h

/-- `shl_digits::<2>` (`value << exp`; the `exp == 0` early return is the shift by 0) -/
theorem shl_digits_base2_mirrored (W : Nat) (hW : 1 ≤ W) (x : Int) (n : Nat) :
    shlDigits 2 x n = (ibigShlW W x n).value W := by
  rw [(shl_mirrored W hW x n).1]; rfl

/-- `shl_digits::<B>` for `B = 2^k` (`value << (exp * B.trailing_zeros())`, e.g. base 16: k = 4) -/
theorem shl_digits_pow2_mirrored (W : Nat) (hW : 1 ≤ W) (k : Nat) (x : Int) (n : Nat) :
    shlDigits (2 ^ k) x n = (ibigShlW W x (n * k)).value W := by
  rw [(shl_mirrored W hW x (n * k)).1]
  unfold shlDigits
  rw [Nat.mul_comm n k, pow_mul]; push_cast; rfl

/-- the exact step `compare (x << n) m` of the float comparisons at word level: C09's mirrored shift
    followed by C05's mirrored `Ord for IBig`, no big-integer primitive used at its value -/
theorem exact_step_shl_cmp_mirrored (W : Nat) (hW : 1 ≤ W) (x m : Int) (n : Nat) :
    compare (x * 2 ^ n) m = (ibigShlW W x n).cmp (sOfInt W m) ∧
    compare m (x * 2 ^ n) = (sOfInt W m).cmp (ibigShlW W x n) :=
  ⟨(Dashu.Props.C14Link.cmp_of_values W (shl_mirrored W hW x n) (sOfInt_spec W hW m).symm).1,
   (Dashu.Props.C14Link.cmp_of_values W (sOfInt_spec W hW m).symm (shl_mirrored W hW x n)).1⟩

/-- the `abs_cmp` variant (AbsOrd): magnitudes of the shifted and the other operand -/
theorem exact_step_shl_abs_cmp_mirrored (W : Nat) (hW : 1 ≤ W) (x m : Int) (n : Nat) :
    absCmpInt (x * 2 ^ n) m = (ibigShlW W x n).mag.cmp (sOfInt W m).mag ∧
    absCmpInt m (x * 2 ^ n) = (sOfInt W m).mag.cmp (ibigShlW W x n).mag :=
  ⟨(Dashu.Props.C14Link.cmp_of_values W (shl_mirrored W hW x n) (sOfInt_spec W hW m).symm).2,
   (Dashu.Props.C14Link.cmp_of_values W (sOfInt_spec W hW m).symm (shl_mirrored W hW x n)).2⟩

-- non-vacuity: a negative 3-word significand shifted across a word boundary against a heap value;
-- base 16 digits; the shift by 0
example : (ibigShlW 64 (-(2 ^ 130) - 5) 67).cmp (sOfInt 64 (-(2 ^ 197) - 2 ^ 70)) = .gt := by
  rw [← (exact_step_shl_cmp_mirrored 64 (by decide) (-(2 ^ 130) - 5) (-(2 ^ 197) - 2 ^ 70) 67).1]
  decide +kernel
example : (ibigShlW 64 7 (3 * 4)).value 64 = shlDigits 16 7 3 ∧ (ibigShlW 64 (-9) 0).value 64 = -9 := by
  decide +kernel

end Dashu.Props.C14Shl
