import Dashu.Proofs.Text.FloatParse
import Dashu.Proofs.Text.FloatGrammar
import Dashu.Proofs.Text.FloatPrec
import Dashu.Proofs.Text.FloatPad
import Dashu.Proofs.Text.FloatWidth
import Dashu.Proofs.Text.ConvDiv
import Dashu.Proofs.Text.ConvDigits
import Dashu.Proofs.Text.FloatSci
import Dashu.Proofs.Text.FloatSciParse
import Dashu.Proofs.Text.DisplayLink
import Dashu.Proofs.Text.FloatTie
import Dashu.Proofs.Text.DisplayText
import Dashu.Proofs.Text.FloatIsize
import Dashu.Proofs.Text.FloatDebug
import Dashu.Props.C07Debug
/-
  C08 — Float text I/O is lossless; base/precision changes are faithfully rounded.   **partial**

  Proved here (all bases ≥ 2, all modes, all precisions ≥ 1, all significands and exponents):
  * the three exact-evaluation branches of `Context::convert_base` (target base a power of the
    source base; source base a power of the target base; small non-negative exponent) return
    `repr_round` of the *exact* value, hence meet the rounding contract of C03 — exact iff
    representable (truthful flag), otherwise less than one ulp on the mode's side;
  * the precision `with_base` documents (`max q, NewB^q ≤ B^p`) as computed by the specification side;
  * `TryFrom<f32/f64>` is exact, with precision = bit length of the mantissa;
  * the literal parser `Repr::from_str_native` EQUALS the documented grammar (`parseFloatSpec`, an
    independent total function) on every byte string — underscores, every scale marker
    (`e E b B o O h H p P @`), the hexadecimal form of base 2 and every error case included; every
    accepted string denotes exactly the number its digits spell, precision = number of written digits
    (×4 for hexadecimal digits); the plain form `[sign] int [. frac] [@ scale]` is accepted with that value;
  * the print → parse round trip of `Display` (no precision option): equal value;
  * `Display` with a precision option `{:.p}`: the text is a literal with exactly `p` fractional digits
    (no point for `p = 0`) whose value is `R · B^(−p)`, `R` the integer the rounding mode names for
    `x · B^p` (floor / ceiling / toward / away from zero / nearest-even / nearest-away);
  * `with_precision`: precision becomes `p`; rounding contract of C03 when digits are dropped, value
    unchanged and `Exact` otherwise (and always for `p = 0`).

  * the padding AMOUNTS of `Display` and of the scientific formats: the formatter's width is honoured
    exactly (`display_width_exact`, `scientific_width_exact`);
  * the scientific formats (`LowerExp`, `UpperExp`, `Binary`, `Octal`, `LowerHex`, `UpperHex`, the
    hexadecimal form of base 2): the rounding step is the mode's rounding to `p + 1` significant digits
    and the text denotes that rounded value (`scientific_rounding`, `scientific_text_denotes`);
  * Tie A: the marker tables of parser and formatter, `ilog_exact` (float/src/utils.rs) and the precision decision of
    `FBig::with_base` (float/src/convert.rs) are regenerated from /repo on every run (`Dashu/Gen/FloatText.lean`) and proved equal
    to the model (`scale_markers_regenerated`, `fmt_trait_table_regenerated`, `ilog_exact_regenerated`,
    `with_base_precision_regenerated`).

  Not proved (checked by the correspondence run only; see `vlib/props/c08.py` FRONTIER):
  the large-exponent branch of `convert_base` through `ln`/`exp` (judged per case by exact arithmetic;
  it does *not* meet the contract — two recorded findings); `Debug`.
-/
namespace Dashu.Props.C08
open Dashu.Model.Text Dashu.Model.Float

/-- target base a power of the source base (`NewB = B^n`): the branch taken by `convert_base` -/
theorem convert_base_pow_up_branch (W : Nat) (B NewB : Nat) (m : Mode) (p : Nat) (r : FRepr)
    (hgt : NewB > B) (hn : 1 < ilogExact NewB B) :
    convertBase W B NewB m p r =
      .ok (reprRound NewB m coarseNone p
        (FRepr.new NewB (r.signif * ((B ^ (r.exp % (ilogExact NewB B : Int)).toNat : Nat) : Int))
          (r.exp / (ilogExact NewB B : Int)))) := by
  unfold convertBase
  have h1 : NewB ≠ B := by omega
  simp only [h1, if_false, hgt, if_true, hn]

/-- … and it meets the rounding contract for the exact value `signif · B^exp` -/
theorem convert_base_pow_up_contract (B n : Nat) (hB : 2 ≤ B) (hn : 1 ≤ n) (m : Mode) (p : Nat) (hp : 1 ≤ p)
    (r : FRepr) :
    let res := reprRound (B ^ n) m coarseNone p
      (FRepr.new (B ^ n) (r.signif * ((B ^ (r.exp % (n : Int)).toNat : Nat) : Int)) (r.exp / (n : Int)))
    Contract (B ^ n) m p (r.toRat B) (res.1.toRat (B ^ n)) res.2 := by
  intro res
  have hN : 2 ≤ B ^ n := by
    calc 2 ≤ B := hB
      _ = B ^ 1 := (pow_one B).symm
      _ ≤ B ^ n := Nat.pow_le_pow_right (by omega) hn
  have h := round_new_contract (B ^ n) hN m p hp
    (r.signif * ((B ^ (r.exp % (n : Int)).toNat : Nat) : Int)) (r.exp / (n : Int))
  rw [value_pow_up B n (by omega) (by omega)] at h
  exact h

/-- the detected exponent really is the logarithm: `ilog_exact(NewB, B) = n ≠ 0 → NewB = B^n` -/
theorem ilog_exact_sound (n base k : Nat) (h : ilogExact n base = k) (hk : k ≠ 0) : n = base ^ k :=
  ilogExact_spec n base k h hk

/-- source base a power of the target base (`B = NewB^n`) -/
theorem convert_base_pow_down_branch (W : Nat) (B NewB : Nat) (m : Mode) (p : Nat) (r : FRepr)
    (hlt : NewB < B) (hn : 1 < ilogExact B NewB) :
    convertBase W B NewB m p r =
      .ok (reprRound NewB m coarseNone p (FRepr.new NewB r.signif (r.exp * (ilogExact B NewB : Nat)))) := by
  unfold convertBase
  have h1 : NewB ≠ B := by omega
  have h2 : ¬ NewB > B := by omega
  simp only [h1, if_false, h2, hn, if_true]
  have : ¬ (1 < 0) := by omega
  simp [this]

theorem convert_base_pow_down_contract (NB n : Nat) (hN : 2 ≤ NB) (m : Mode) (p : Nat) (hp : 1 ≤ p) (r : FRepr) :
    let res := reprRound NB m coarseNone p (FRepr.new NB r.signif (r.exp * (n : Int)))
    Contract NB m p (r.toRat (NB ^ n)) (res.1.toRat NB) res.2 := by
  intro res
  have h := round_new_contract NB hN m p hp r.signif (r.exp * (n : Int))
  rw [value_pow_down NB n] at h
  exact h

/-- small non-negative exponent: `signif · B^exp` is evaluated exactly, then rounded -/
theorem convert_base_small_pos_contract (B NB : Nat) (hN : 2 ≤ NB) (m : Mode) (p : Nat) (hp : 1 ≤ p)
    (r : FRepr) (he : 0 ≤ r.exp) :
    let res := reprRound NB m coarseNone p (FRepr.new NB (r.signif * ((B ^ r.exp.toNat : Nat) : Int)) 0)
    Contract NB m p (r.toRat B) (res.1.toRat NB) res.2 := by
  intro res
  have h := round_new_contract NB hN m p hp (r.signif * ((B ^ r.exp.toNat : Nat) : Int)) 0
  rw [value_small_pos B NB r.signif r.exp.toNat, Int.toNat_of_nonneg he] at h
  exact h

/-- "exact whenever representable": a value that fits the precision is returned unchanged and flagged
    `Exact` by the final `repr_round` of every mirrored branch -/
theorem exact_when_fits (NB : Nat) (m : Mode) (p : Nat) (x : FRepr) (h : x.digits NB ≤ p) :
    reprRound NB m coarseNone p x = (x, none) :=
  reprRound_exact_of_fits NB m coarseNone p x h

/-- the precision `with_base` documents: the max `q` with `NewB^q ≤ B^p` -/
theorem with_base_precision_documented (B NewB p : Nat) (hB : 1 ≤ B) (hN : 2 ≤ NewB) :
    NewB ^ withBasePrecisionSpec B NewB p ≤ B ^ p ∧ B ^ p < NewB ^ (withBasePrecisionSpec B NewB p + 1) :=
  withBasePrecisionSpec_max B NewB p hB hN

/-- conversion from `f32` / `f64` is exact; precision = bit length of the mantissa -/
theorem from_ieee_exact (mb eb bits : Nat) (r : FRepr) (p : Nat) (h : fromIeee mb eb bits = some (.inr (r, p))) :
    let frac := bits % 2 ^ mb
    let e := (bits / 2 ^ mb) % 2 ^ eb
    let neg := (bits / 2 ^ (mb + eb)) % 2 = 1
    let man : Nat := if e = 0 then frac else frac + 2 ^ mb
    let exp : Int := (if e = 0 then 1 else (e : Int)) - (2 ^ (eb - 1) - 1) - mb
    r.toRat 2 = (if neg then -(man : ℚ) else (man : ℚ)) * bpowQ 2 exp ∧ p = bitLen man := by
  unfold fromIeee at h
  simp only [] at h
  split at h
  · split at h <;> simp at h
  · simp only [Option.some.injEq, Sum.inr.injEq, Prod.mk.injEq] at h
    obtain ⟨h1, h2⟩ := h
    refine ⟨?_, h2.symm⟩
    rw [← h1, FRepr.new_value 2 (by omega)]
    split <;> push_cast <;> rfl

/-- **parsing yields exactly the written value, precision = number of written digits**: a literal
    `[sign] int [. frac] [@ scale]` of base `B` (digit lists `di`, `df` not both empty, either letter
    case, any `isize` scale) parses to a float whose value is, exactly,
    `±(int·B^|frac| + frac)·B^(scale − |frac|)`, with precision `|int| + |frac|` -/
theorem parse_literal_exact (W : Nat) (hW : 36 < 2 ^ W) (B : Nat) (hB : validRadix B = true) (up : Bool)
    (sign : Option Bool) (di : List Nat) (frac : Option (List Nat)) (scale : Option Int)
    (hdi : ∀ d ∈ di, d < B) (hdf : ∀ d ∈ frac.getD [], d < B) (hne : di ≠ [] ∨ frac.getD [] ≠ [])
    (hs : ∀ z, scale = some z → -(2 ^ 63 : Int) ≤ z ∧ z < (2 ^ 63 : Int)) :
    ∃ r : FRepr, fromStrNative W B (renderLiteral up sign di frac scale) =
        .ok (r, di.length + (frac.getD []).length) ∧
      r.toRat B = (if sign = some true then -1 else 1) * (ofDigits B (di ++ frac.getD []) : ℚ) *
        bpowQ B (scale.getD 0 - ((frac.getD []).length : Int)) :=
  literal_exact W hW B hB up sign di frac scale hdi hdf hne hs

/-- **print → parse round trip**: what `Display` prints for a finite float (no precision option)
    parses back to a float of exactly the same value — every base, mode, significand, exponent -/
theorem print_parse_round_trip (W : Nat) (hW : 36 < 2 ^ W) (B : Nat) (hB : validRadix B = true)
    (m : Mode) (r : FRepr) :
    ∃ (r' : FRepr) (n : Nat), fromStrNative W B (fmtRound B m {} none r) = .ok (r', n) ∧
      r'.toRat B = r.toRat B :=
  display_parse_round_trip W hW B hB m r

/-- **the parser is the documented grammar** — on every byte string: all markers, the hexadecimal
    form, underscores, and every error case (`NoDigits`, `InvalidDigit`) with the code's precedence -/
theorem parse_eq_grammar (W : Nat) (hW : 36 < 2 ^ W) (B : Nat) (hB : validRadix B = true) (s : List Nat) :
    fromStrNative W B s = parseFloatSpec B s :=
  fromStrNative_eq_spec W hW B hB s

/-- the grammar's digit strings: `_` separators are skipped, at least one digit is required (a
    string of underscores only has no digits), any other byte is an invalid digit -/
theorem grammar_digit_string (radix : Nat) (t : List Nat) (ae : Bool) :
    chkDigits radix t ae =
      if t = [] then (if ae then .ok [] else .error .noDigits)
      else if t.all (· == 95) then .error .noDigits
      else match digitValues radix (t.filter (· ≠ 95)) with
        | some ds => .ok ds
        | none => .error .invalidDigit := by
  unfold chkDigits digitsOnly; rfl

/-- **every accepted string denotes exactly what its digits spell**: if the parser accepts `s` then
    there are digit lists `di`, `df` (all below the radix, not both empty), a sign and a scale such that
    the value is `±(di ++ df)_radix · B^(scale − |df|·k)` and the precision is `(|di| + |df|)·k`, where
    `radix = 16`, `k = 4` for the hexadecimal form (base 2 only) and `radix = B`, `k = 1` otherwise -/
theorem parse_ok_denotes (W : Nat) (hW : 36 < 2 ^ W) (B : Nat) (hB : validRadix B = true) (s : List Nat)
    (r : FRepr) (p : Nat) (h : fromStrNative W B s = .ok (r, p)) :
    ∃ (neg hex : Bool) (di df : List Nat) (scale : Int), (hex = true → B = 2) ∧
      (∀ d ∈ di ++ df, d < (if hex then 16 else B)) ∧ di ++ df ≠ [] ∧
      p = (di.length + df.length) * (if hex then 4 else 1) ∧
      r.toRat B = (if neg then -1 else 1) * (ofDigits (if hex then 16 else B) (di ++ df) : ℚ) *
        bpowQ B (scale - ((df.length * (if hex then 4 else 1) : Nat) : Int)) := by
  rw [fromStrNative_eq_spec W hW B hB] at h
  exact spec_ok_denotes B hB s r p h

/-- **`{:.p}` prints exactly `p` fractional digits**: the text is `[-] int [. frac]` with `|frac| = p`
    (no point when `p = 0`), digits below the base, spelling `|R| · B^(−p)` -/
theorem print_precision_text (B : Nat) (hB : 2 ≤ B) (m : Mode) (p : Nat) (r : FRepr) :
    ∃ (di : List Nat) (frac : Option (List Nat)),
      fmtRound B m {} (some p) r = renderLiteral false (if r.signif < 0 then some true else none) di frac none ∧
      (∀ d ∈ di, d < B) ∧ (∀ d ∈ frac.getD [], d < B) ∧ di ≠ [] ∧
      (frac.getD []).length = p ∧ (frac.isSome ↔ 0 < p) ∧
      (ofDigits B (di ++ frac.getD []) : ℚ) * bpowQ B (0 - (p : Int)) =
        ((precRounded B m p r).natAbs : ℚ) * bpowQ B (0 - (p : Int)) :=
  display_prec_literal B hB m p r

/-- **… and `R` is the value correctly rounded under the mode**: with `x · B^p = N / D`
    (`N = signif · B^max(p+exp,0)`, `D = B^max(−(p+exp),0)`), `R` satisfies the specification of the
    mode (`ModeSpec`: floor, ceiling, toward zero, away from zero, nearest-even, nearest-away) -/
theorem print_precision_rounding (B : Nat) (hB : 2 ≤ B) (m : Mode) (p : Nat) (r : FRepr) :
    Dashu.Model.Float.ModeSpec m (r.signif * ((B ^ ((p : Int) + r.exp).toNat : Nat) : Int))
        ((B ^ (-((p : Int) + r.exp)).toNat : Nat) : Int) (precRounded B m p r) ∧
      ((r.signif * ((B ^ ((p : Int) + r.exp).toNat : Nat) : Int) : Int) : ℚ) /
        (((B ^ (-((p : Int) + r.exp)).toNat : Nat) : Int) : ℚ) = r.toRat B * ((B ^ p : Nat) : ℚ) :=
  ⟨precRounded_spec B hB m p r, prec_scaled_value B hB p r⟩

/-- **printing with a precision, read back**: the text of `{:.p}` parses (same base) to exactly
    `R · B^(−p)` — the value rounded to `p` fractional digits under the mode -/
theorem print_precision_parse (W : Nat) (hW : 36 < 2 ^ W) (B : Nat) (hB : validRadix B = true)
    (m : Mode) (p : Nat) (r : FRepr) :
    ∃ (r' : FRepr) (n : Nat), fromStrNative W B (fmtRound B m {} (some p) r) = .ok (r', n) ∧
      r'.toRat B = (precRounded B m p r : ℚ) * bpowQ B (-(p : Int)) :=
  display_prec_padded_parse W hW B hB m {} (Or.inr rfl) p r

/-- **`with_precision(p)`**, `p ≥ 1`: the precision becomes `p`; the value meets the rounding contract
    (exact iff representable in `p` digits — in particular unchanged when the precision grows —
    otherwise < 1 ulp, ≤ ½ ulp for the nearest modes, on the mode's side; truthful flag) -/
theorem with_precision_contract (B : Nat) (hB : 2 ≤ B) (m : Mode) (p : Nat) (hp : 1 ≤ p) (x : FBigM)
    (hn : Normalized B x.repr) :
    (fWithPrecision B m coarseNone x p).1.prec = p ∧
    Contract B m p (x.repr.toRat B) ((fWithPrecision B m coarseNone x p).1.repr.toRat B)
      (fWithPrecision B m coarseNone x p).2 :=
  ⟨fWithPrecision_prec B m coarseNone x p, fWithPrecision_contract B hB m coarseNone coarseNone_sound x hn p hp⟩

/-- `with_precision(0)` (unlimited precision) never changes the value -/
theorem with_precision_unlimited (B : Nat) (m : Mode) (x : FBigM) :
    (fWithPrecision B m coarseNone x 0).1.repr = x.repr ∧ (fWithPrecision B m coarseNone x 0).2 = none := by
  rw [fWithPrecision_widen B m coarseNone x 0 (Or.inl rfl)]
  exact ⟨rfl, rfl⟩

/-- **padding never changes the digits** (`Display`, any precision option): the text is
    `fill^a ++ sign ++ '0'^b ++ core ++ fill^c`; `core` (digits, point, zeros) does not depend on the
    width, fill, alignment, `+` or zero flag; no width — no padding; the zero flag inserts only zeros,
    after the sign; without it only fill characters are added, outside -/
theorem display_padding_keeps_digits (B : Nat) (m : Mode) (f : FmtSpec) (prec : Option Nat) (r : FRepr) :
    ∃ a b c : Nat,
      fmtRound B m f prec r =
        rep a f.fill ++ fSign f.plus r ++ rep b [48] ++ fmtRoundCore B m prec r ++ rep c f.fill ∧
      (f.width = none → a = 0 ∧ b = 0 ∧ c = 0) ∧ (f.zero = true → a = 0 ∧ c = 0) ∧
      (f.zero = false → b = 0) :=
  fmtRound_padding B m f prec r

/-- the same for the scientific formats (`LowerExp`, `UpperExp`, `Binary`, `Octal`, `LowerHex`,
    `UpperHex`; `0x` follows the sign in the hexadecimal form of base 2) -/
theorem scientific_padding_keeps_digits (B : Nat) (m : Mode) (f : FmtSpec) (prec : Option Nat)
    (upper useHex : Bool) (marker : Nat) (r : FRepr) :
    ∃ a b c : Nat,
      fmtSciG B m f prec upper useHex marker r =
        rep a f.fill ++ fSign f.plus r ++ (if useHex then [48, 120] else []) ++ rep b [48] ++
          fmtSciCore B m prec upper useHex marker r ++ rep c f.fill ∧
      (f.width = none → a = 0 ∧ b = 0 ∧ c = 0) ∧ (f.zero = true → a = 0) ∧ (f.zero = false → b = 0) :=
  fmtSciG_padding B m f prec upper useHex marker r

/-- **padded `Display` text parses back to the same value**: with `+`, and with the zero flag and any
    width (or no width), what `Display` prints parses to exactly the printed float -/
theorem padded_print_parse_round_trip (W : Nat) (hW : 36 < 2 ^ W) (B : Nat) (hB : validRadix B = true)
    (m : Mode) (f : FmtSpec) (hf : f.zero = true ∨ f.width = none) (r : FRepr) :
    ∃ (r' : FRepr) (n : Nat), fromStrNative W B (fmtRound B m f none r) = .ok (r', n) ∧
      r'.toRat B = r.toRat B :=
  fmtRound_parse W hW B hB m f hf none r

/-- … and with a precision option it parses to exactly the rounded value `R · B^(−p)` -/
theorem padded_print_precision_parse (W : Nat) (hW : 36 < 2 ^ W) (B : Nat) (hB : validRadix B = true)
    (m : Mode) (f : FmtSpec) (hf : f.zero = true ∨ f.width = none) (p : Nat) (r : FRepr) :
    ∃ (r' : FRepr) (n : Nat), fromStrNative W B (fmtRound B m f (some p) r) = .ok (r', n) ∧
      r'.toRat B = (precRounded B m p r : ℚ) * bpowQ B (-(p : Int)) :=
  display_prec_padded_parse W hW B hB m f hf p r

/-- the long-dividend path of `convert_base` (fix bd48ef9: quotient longer than the precision, rounded
    once through `round_ratio` with the split-off tail and the division remainder as the fraction)
    meets the rounding contract for the exact quotient -/
theorem convert_base_long_dividend_contract (NB : Nat) (hNB : 2 ≤ NB) (m : Mode) (p : Nat) (hp : 1 ≤ p)
    (num den : FRepr) (hd : 0 < den.signif) (hlong : num.digits NB > p + den.digits NB) :
    Contract NB m p (num.toRat NB / den.toRat NB) ((divRoundLong NB m p num den).1.toRat NB)
      (divRoundLong NB m p num den).2 :=
  divRoundLong_contract NB hNB m p hp num den hd hlong

/-- **base conversion is faithfully rounded on every path that does not go through `ln`/`exp`**:
    whenever `Context::convert_base` returns through the same-base shortcut, a power-related base, or
    the small-exponent evaluation (multiplication for `exp ≥ 0`; `repr_div` or the long-dividend path
    for `exp < 0`), the result is the exact value `signif · B^exp` rounded to `p` digits of the new
    base under the mode — exact iff representable, with a truthful flag; otherwise less than one ulp
    (at most half for the nearest modes) on the mode's side.  (`.ok` excludes the `ln`/`exp` branch and
    the unlimited-precision panic.) -/
theorem convert_base_exact_paths_contract (W B NB : Nat) (hB : 2 ≤ B) (hNB : 2 ≤ NB) (m : Mode) (p : Nat)
    (hp : 1 ≤ p) (r : FRepr) (res : Rounded FRepr) (h : convertBase W B NB m p r = .ok res) :
    Contract NB m p (r.toRat B) (res.1.toRat NB) res.2 :=
  convertBase_contract W B NB hB hNB m p hp r res h

/-- **never more than one digit beyond the target precision**: whatever `convert_base` returns without
    going through `ln`/`exp` (different bases) has at most `p + 1` digits of the new base (`p` on the
    rounding paths; the extra digit only from `repr_div`) -/
theorem convert_base_result_digits (W B NB : Nat) (hB : 2 ≤ B) (hNB : 2 ≤ NB) (m : Mode)
    (p : Nat) (hp : 1 ≤ p) (r : FRepr) (res : Rounded FRepr) (h : convertBase W B NB m p r = .ok res) :
    res.1.digits NB ≤ p + 1 :=
  convertBase_digits_le_all W B NB hB hNB m p hp r res h

/-- the same-base branch (`with_base_and_precision::<B>(p)`, code as of fix 0c0f651): rounds to the target
    precision like every other branch; unchanged and `Exact` when the digits fit -/
theorem convert_base_same_base (W B : Nat) (m : Mode) (p : Nat) (r : FRepr) :
    convertBase W B B m p r = .ok (reprRound B m coarseNone p (FRepr.new B r.signif r.exp)) ∧
    ((FRepr.new B r.signif r.exp).digits B ≤ p →
      reprRound B m coarseNone p (FRepr.new B r.signif r.exp) = (FRepr.new B r.signif r.exp, none)) := by
  refine ⟨by unfold convertBase; simp, fun h => exact_when_fits B m p _ h⟩

/-- the precision `with_base` hands on when neither base is a power of the other (as of fix fa3b7b8:
    the exact `(B^p).ilog(NewB)`) is the documented maximum -/
theorem with_base_precision_model (W B NewB p : Nat) (hB : 1 ≤ B) (hN : 2 ≤ NewB)
    (h1 : ilogExact B NewB ≤ 1) (h2 : ilogExact NewB B ≤ 1) :
    NewB ^ withBasePrecision W B NewB p ≤ B ^ p ∧ B ^ p < NewB ^ (withBasePrecision W B NewB p + 1) := by
  have e : withBasePrecision W B NewB p = withBasePrecisionSpec B NewB p := by
    unfold withBasePrecision
    have a : ¬ ilogExact B NewB > 1 := by omega
    have b : ¬ ilogExact NewB B > 1 := by omega
    simp only [a, b, if_false]
  rw [e]
  exact withBasePrecisionSpec_max B NewB p hB hN

/-- **the width is honoured exactly (`Display`)**: with a width `w` the text is
    `fill^a ++ sign ++ '0'^b ++ core ++ fill^c` and `a + b + c = w − (|sign| + |core|)` (truncated
    subtraction: a text that is long enough gets nothing, nothing is ever cut) — the text has exactly
    `max w (|sign| + |core|)` characters; with the zero flag everything goes after the sign, otherwise to
    the right for `<`, to the left for `>` and by default, split with the extra character on the right
    for `^`.  (The `width` `fmt_round` computes from digit count, exponent and precision IS the length
    of what it prints: `widthG_eq_length`.) -/
theorem display_width_exact (B : Nat) (hB : 2 ≤ B) (m : Mode) (f : FmtSpec) (prec : Option Nat) (r : FRepr)
    (w : Nat) (hw : f.width = some w) :
    ∃ a b c : Nat,
      fmtRound B m f prec r =
        rep a f.fill ++ fSign f.plus r ++ rep b [48] ++ fmtRoundCore B m prec r ++ rep c f.fill ∧
      a + b + c = w - ((fSign f.plus r).length + (fmtRoundCore B m prec r).length) ∧
      (f.zero = true → a = 0 ∧ c = 0) ∧
      (f.zero = false → b = 0 ∧ (f.align = some .left → a = 0) ∧
        ((f.align = some .right ∨ f.align = none) → c = 0) ∧
        (f.align = some .center → a = (a + c) / 2 ∧ c = a + c - (a + c) / 2)) := by
  rw [fmtRound_eq_frame, widthG_natural B hB, ← fmtRoundCore_eq_bodyG]
  obtain ⟨a, b, c, h, hsum, ha, hb, hc, hal⟩ := frame_padsG f f rfl rfl (fSign f.plus r) [] (fmtRoundCore B m prec r)
    ((fSign f.plus r).length + (fmtRoundCore B m prec r).length)
  rw [hw, Option.getD_some] at hsum
  refine ⟨a, b, c, by rw [h, List.append_nil], hsum, fun hz => ⟨ha hz, hc hz⟩, fun hz => ?_⟩
  obtain ⟨hl, hr, hce⟩ := hal hz
  have hb0 := hb hz
  exact ⟨hb0, fun h => by have := hl h; omega, hr, fun h => by have := hce h; omega⟩

/-- **the width is honoured exactly (scientific formats)**; here the alignment decides also under the
    zero flag, which only turns the left share into zeros behind sign and `0x` -/
theorem scientific_width_exact (B : Nat) (m : Mode) (f : FmtSpec) (prec : Option Nat) (upper useHex : Bool)
    (marker : Nat) (r : FRepr) (w : Nat) (hw : f.width = some w) :
    ∃ a b c : Nat,
      fmtSciG B m f prec upper useHex marker r =
        rep a f.fill ++ fSign f.plus r ++ (if useHex then [48, 120] else []) ++ rep b [48] ++
          fmtSciCore B m prec upper useHex marker r ++ rep c f.fill ∧
      a + b + c = w - ((fSign f.plus r).length + (if useHex then 2 else 0) +
        (fmtSciCore B m prec upper useHex marker r).length) ∧
      (f.zero = true → a = 0) ∧ (f.zero = false → b = 0) ∧
      (f.align = some .left → a + b = 0) ∧
      ((f.align = some .right ∨ f.align = none) → c = 0) ∧
      (f.align = some .center → a + b = (a + b + c) / 2) :=
  fmtSciG_width B m f prec upper useHex marker r w hw

/-- **the rounding step of the scientific formats** (`{:.p0e}` and the radix traits): the significand is
    rounded — under the type's mode — to `P = p0 + 1` significant digits (`4·p0 + 4` bits for the
    hexadecimal form): `R` is the integer the mode names for `signif / B^shift`, `shift = digits − P`
    (`0` when nothing is dropped); the pair `(S, e)` handed to the digit printer has the same value
    `S·B^e = R·B^(exp + shift)` — a carry into a new digit (`9.99 → 10.0`) is dropped without changing
    it — and `S` has at most `P` digits -/
theorem scientific_rounding (B : Nat) (hB : 2 ≤ B) (m : Mode) (p0 : Nat) (useHex : Bool) (r : FRepr) :
    Dashu.Model.Float.ModeSpec m r.signif ((B ^ sciShift B p0 useHex r : Nat) : Int) (sciRounded B m p0 useHex r) ∧
    ((sciPair B m (some p0) useHex r).1 : ℚ) * bpowQ B (sciPair B m (some p0) useHex r).2 =
        (sciRounded B m p0 useHex r : ℚ) * bpowQ B (r.exp + (sciShift B p0 useHex r : Int)) ∧
    digitsI B (sciPair B m (some p0) useHex r).1 ≤ sciDigits useHex p0 :=
  ⟨sciRounded_spec B hB m p0 useHex r, sciPair_value B hB m p0 useHex r⟩

/-- **the scientific text denotes the rounded value**: the core of every scientific format is
    `d₀ [. d₁…d_n] marker E` — one leading digit; behind a point (absent when there are none) the remaining
    digits and zeros, exactly `p0` of them under a precision `p0`; all digits below the shown radix (`16`
    for the hexadecimal form of base 2, else `B`) — and `(d₀d₁…d_n)_radix · B^(E − n·k) = |shown value|`
    (`k = 4` for hexadecimal digits, else 1), where the shown value `sciShown` is the exact value without a
    precision and `R·B^(exp + shift)` of `scientific_rounding` with one; the sign printed is the sign of
    the shown value -/
theorem scientific_text_denotes (B : Nat) (hB : 2 ≤ B) (m : Mode) (prec : Option Nat) (upper useHex : Bool)
    (hhex : useHex = true → B = 2) (marker : Nat) (r : FRepr) :
    (∃ (d0 : Nat) (fd : List Nat) (E : Int),
      fmtSciCore B m prec upper useHex marker r =
        chars upper [d0] ++ fracChars upper (if fd = [] then none else some fd) ++ [marker] ++
          printSpecInt 10 false E ∧
      d0 < sciRadix B useHex ∧ (∀ d ∈ fd, d < sciRadix B useHex) ∧
      (∀ p0, prec = some p0 → fd.length = p0) ∧
      (ofDigits (sciRadix B useHex) (d0 :: fd) : ℚ) * bpowQ B (E - ((fd.length * sciK useHex : Nat) : Int)) =
        |sciShown B m prec useHex r|) ∧
    (r.signif < 0 → sciShown B m prec useHex r < 0) ∧ (0 ≤ r.signif → 0 ≤ sciShown B m prec useHex r) ∧
    sciShown B m none useHex r = r.toRat B :=
  ⟨fmtSciCore_denotes B hB m prec upper useHex hhex marker r, (sciShown_sign B hB m prec useHex r).1,
    (sciShown_sign B hB m prec useHex r).2, rfl⟩

/-- **scientific text, read back** (`{:e}`, `{:E}`, `{:b}`, `{:o}`, `{:x}`, `{:X}`, with or without `+`, with or
    without a precision; no width): whenever the marker printed is a scale marker of the base
    (`scientific_markers_accepted`) and the printed exponent `sciExp` is an `isize`, `from_str_native` of the
    same base accepts the text, and the float read is EXACTLY the value shown — the number itself without
    a precision (round trip), its rounding to `p0 + 1` significant digits under the mode with one
    (`scientific_rounding`); its precision is the number of digits shown (`×4` for hexadecimal digits) -/
theorem scientific_print_parse (W : Nat) (hW : 36 < 2 ^ W) (B : Nat) (hB : validRadix B = true) (m : Mode)
    (prec : Option Nat) (upper useHex : Bool) (hhex : useHex = true → B = 2) (marker : Nat)
    (hmk : isScaleMarker B useHex marker = true) (plus : Bool) (r : FRepr)
    (hlo : -(2 ^ 63 : Int) ≤ sciExp B m prec upper useHex r) (hhi : sciExp B m prec upper useHex r < (2 ^ 63 : Int)) :
    ∃ (r' : FRepr) (n : Nat),
      fromStrNative W B (fmtSciG B m { plus := plus } prec upper useHex marker r) = .ok (r', n) ∧
      r'.toRat B = sciShown B m prec useHex r ∧
      (prec = none → r'.toRat B = r.toRat B) ∧
      (∀ p0, prec = some p0 → n = (p0 + 1) * sciK useHex) := by
  obtain ⟨r', n, h1, h2, h3⟩ := fmtSciG_parse W hW B hB m prec upper useHex hhex marker hmk plus r hlo hhi
  exact ⟨r', n, h1, h2, fun hp => by rw [h2, hp]; rfl, h3⟩

/-- the markers the formatting traits print ARE scale markers of their base: `e`/`E` (base 10) and `@`
    (every other base) for `LowerExp`/`UpperExp`; `b` for `Binary`; `o` for `Octal`; `h` for `LowerHex` /
    `UpperHex` of base 16; `p` behind the `0x` prefix for those of base 2 -/
theorem scientific_markers_accepted (B : Nat) (upper : Bool) :
    isScaleMarker B false (if B = 10 then (if upper then 69 else 101) else 64) = true ∧
    isScaleMarker 2 false 98 = true ∧ isScaleMarker 8 false 111 = true ∧ isScaleMarker 16 false 104 = true ∧
    isScaleMarker 2 true 112 = true :=
  sci_markers_accepted B upper

/-- **`{:e}` / `{:E}` then parse**: `LowerExp`/`UpperExp` text of every base 2..36 parses back to the value
    shown — without a precision to the printed float itself -/
theorem lower_upper_exp_parse_back (W : Nat) (hW : 36 < 2 ^ W) (B : Nat) (hB : validRadix B = true) (m : Mode)
    (prec : Option Nat) (upper plus : Bool) (r : FRepr)
    (hlo : -(2 ^ 63 : Int) ≤ sciExp B m prec upper false r) (hhi : sciExp B m prec upper false r < (2 ^ 63 : Int)) :
    ∃ (r' : FRepr) (n : Nat),
      fromStrNative W B (fmtSci B m { plus := plus } prec upper r) = .ok (r', n) ∧
      r'.toRat B = sciShown B m prec false r ∧ (prec = none → r'.toRat B = r.toRat B) := by
  obtain ⟨r', n, h1, h2, h3, _⟩ := scientific_print_parse W hW B hB m prec upper false (fun h => by cases h) _
    (sci_markers_accepted B upper).1 plus r hlo hhi
  exact ⟨r', n, h1, h2, h3⟩

/-- **`{:b}` / `{:o}` / `{:x}` / `{:X}` then parse** (`Binary` of base 2, `Octal` of base 8, the hexadecimal
    traits of base 16, and of base 2 in the form `0xh.hhp±e`): whatever `fmtRadixTrait` prints parses back,
    in the same base, to the value shown -/
theorem radix_trait_parse_back (W : Nat) (hW : 36 < 2 ^ W) (B : Nat) (m : Mode) (prec : Option Nat) (k : String)
    (plus : Bool) (r : FRepr) (t : List Nat) (h : fmtRadixTrait B m { plus := plus } prec k r = some t)
    (hE : ∀ up hex, -(2 ^ 63 : Int) ≤ sciExp B m prec up hex r ∧ sciExp B m prec up hex r < (2 ^ 63 : Int)) :
    ∃ (r' : FRepr) (n : Nat) (hex : Bool), fromStrNative W B t = .ok (r', n) ∧
      r'.toRat B = sciShown B m prec hex r ∧ (prec = none → r'.toRat B = r.toRat B) := by
  -- whatever the trait prints comes from a row of the regenerated table; each of its six rows names a valid base, the
  -- hexadecimal form only for base 2, and a marker the parser of that base accepts
  obtain ⟨row, hrow, rfl, _, rfl⟩ := fmtRadixTrait_only B m _ prec k r t h
  have hrows : ∀ row ∈ Dashu.Gen.float_fmtWithBase, validRadix row.1 = true ∧ (row.2.2.2.1 = true → row.1 = 2) ∧
      isScaleMarker row.1 row.2.2.2.1 row.2.2.2.2 = true := by decide
  obtain ⟨hB, hhex, hmk⟩ := hrows row hrow
  obtain ⟨r', n, h1, h2, h3, _⟩ := scientific_print_parse W hW _ hB m prec _ _ hhex _ hmk plus r (hE _ _).1 (hE _ _).2
  exact ⟨r', n, _, h1, h2, h3⟩

/-- **the executable rounding specification meets the relational one**: `roundInt m (N / D)` (the
    definition of the six modes over `Rat` that `displaySpec` and `specRound` execute) is the integer
    `ModeSpec m N D` names, for all integers `N`, `D > 0` … -/
theorem round_int_meets_mode_spec (m : Mode) (N D : Int) (hD : 0 < D) :
    Dashu.Model.Float.ModeSpec m N D (roundInt m ((N : ℚ) / (D : ℚ))) :=
  roundInt_modeSpec m N D hD

/-- … and `ModeSpec` names exactly one integer -/
theorem mode_spec_unique (m : Mode) (N D R R' : Int) (hD : 0 < D)
    (h : Dashu.Model.Float.ModeSpec m N D R) (h' : Dashu.Model.Float.ModeSpec m N D R') : R = R' :=
  modeSpec_unique m N D R R' hD h h'

/-- **`displaySpec` ↔ `ModeSpec`**: the executable specification of `{:.k}` — compared with the model's text
    on every Display case of the correspondence run — rounds `x · B^k` to exactly the integer
    `R = precRounded` that `fmt_round` prints (`print_precision_text`) and that `ModeSpec` names
    (`print_precision_rounding`); its text is the sign of the number followed by the fixed-point text of
    `|R|` with `k` fractional digits -/
theorem display_spec_rounds_like_model (B : Nat) (hB : 2 ≤ B) (m : Mode) (plus : Bool) (k : Nat) (r : FRepr) :
    roundInt m (ratOfRepr B r * ((B ^ k : Nat) : ℚ)) = precRounded B m k r ∧
    displaySpec B m plus (some k) r =
      (if r.signif < 0 then [45] else if plus then [43] else []) ++
        fixedPointText B (precRounded B m k r).natAbs k :=
  ⟨roundInt_eq_precRounded B hB m k r, displaySpec_some B hB m plus k r⟩


/-- `with_precision(p)`, `p ≥ 1`, applied to a float of larger (or unlimited) precision never returns more
    than `p` digits (no digit beyond the target precision) -/
theorem with_precision_digits (B : Nat) (hB : 2 ≤ B) (m : Mode) (p : Nat) (hp : 1 ≤ p) (x : FBigM)
    (h : x.prec > p ∨ x.prec = 0) : (fWithPrecision B m coarseNone x p).1.repr.digits B ≤ p :=
  fWithPrecision_digits_le B hB m coarseNone x p hp (by omega)

/-- **Tie A (regenerated from float/src/parse.rs)**: the scale markers of the model ARE the characters
    `let scale_pos = match B { .. }` searches for, and the prefix test IS `starts_with("0x") || starts_with("0X")`
    (`Dashu/Gen/FloatText.lean`, rewritten from /repo on every run) -/
theorem scale_markers_regenerated (B : Nat) (hp : Bool) (c : Nat) (src : List Nat) :
    (isScaleMarker B hp c = true ↔ c ∈ Dashu.Gen.float_scaleMarkers B hp) ∧
    (∀ ps, Dashu.Gen.float_hexPrefixes = some ps → hasHexPrefix src = ps.any (fun p => src.take p.length == p)) :=
  ⟨isScaleMarker_eq_gen B hp c, hasHexPrefix_eq_gen src⟩

/-- **Tie A (regenerated from float/src/fmt.rs)**: `LowerExp`/`UpperExp` print the regenerated marker
    (`match B { 10 => Some('e'|'E'), _ => None }`, `unwrap_or('@')`); every row `(base, Trait, upper, hex, marker)`
    of `impl_fmt_with_base!` is executed by the model as `fmt_round_scientific(upper, hex, marker)`, and the
    model implements no other (trait, base) pair -/
theorem fmt_trait_table_regenerated (B : Nat) (m : Mode) (f : FmtSpec) (prec : Option Nat) (r : FRepr) :
    (∀ upper, fmtSci B m f prec upper r = fmtSciG B m f prec upper false (Dashu.Gen.float_expMarker B upper) r) ∧
    (∀ row ∈ Dashu.Gen.float_fmtWithBase,
      fmtRadixTrait row.1 m f prec (traitKind row.2.1) r =
        some (fmtSciG row.1 m f prec row.2.2.1 row.2.2.2.1 row.2.2.2.2 r)) ∧
    (∀ k t, fmtRadixTrait B m f prec k r = some t →
      ∃ row ∈ Dashu.Gen.float_fmtWithBase, row.1 = B ∧ traitKind row.2.1 = k ∧
        t = fmtSciG B m f prec row.2.2.1 row.2.2.2.1 row.2.2.2.2 r) :=
  ⟨fun upper => fmtSci_marker_gen B m f prec upper r, fmtRadixTrait_rows m f prec r,
    fun k t h => fmtRadixTrait_only B m f prec k r t h⟩


/-- **Tie A (regenerated from float/src/utils.rs)**: the model's `ilogExact` — which decides the power-related shortcut of
    `convert_base` and the `p·n` / `p/n` precision of `with_base` — IS `ilog_exact` as written in the source (early returns,
    `while pow < n { pow *= base; exp += 1 }`, `if pow == n { exp } else { 0 }`), for every base ≥ 2 and every `Word` n; a fast path or a changed
    comparison in the source changes the regenerated text and breaks this theorem (or the extraction fails closed) -/
theorem ilog_exact_regenerated (n base : Nat) (hb : 2 ≤ base) (hn : n < 2 ^ 64) :
    ilogExact n base = Dashu.Gen.float_ilogExact n base := by
  unfold ilogExact Dashu.Gen.float_ilogExact
  by_cases h : n < base
  · simp [h]
  · have h2 : ¬ (n < base ∨ base < 2) := by omega
    rw [if_neg h2, if_neg h]
    exact ilogExact_go_eq_gen n base hn 64 base 1

/-- **Tie A (regenerated from float/src/convert.rs)**: the precision `FBig::with_base::<NewB>()` derives — which `ilog_exact`
    call is `down` / `up`, the tests `> 1`, `precision.saturating_mul(down)`, `precision / up`, and the exact integer logarithm
    of `B^precision` otherwise — IS the model's `withBasePrecision`, with `ilogExact` for `ilog_exact` (itself regenerated:
    `ilog_exact_regenerated`) and the documented maximum for `BASE.pow(p).ilog(NewB)` (`with_base_precision_documented`) -/
theorem with_base_precision_regenerated (W B NewB p : Nat) :
    withBasePrecision W B NewB p =
      Dashu.Gen.float_withBasePrecision ilogExact (fun b q nb => withBasePrecisionSpec b nb q) B NewB p := by
  unfold withBasePrecision Dashu.Gen.float_withBasePrecision
  rfl

example : Dashu.Gen.float_ilogExact 32 4 = 0 ∧ Dashu.Gen.float_ilogExact 64 4 = 3 ∧ Dashu.Gen.float_ilogExact 4 32 = 0 := by decide

/-- **zero-padded scientific text, read back**: with the zero flag (right or default alignment, any width, with
    or without `+`) — or without a width — the text parses back to exactly the value shown; the padding zeros
    stand behind sign / `0x` and only lengthen the integer digits -/
theorem padded_scientific_print_parse (W : Nat) (hW : 36 < 2 ^ W) (B : Nat) (hB : validRadix B = true) (m : Mode)
    (prec : Option Nat) (upper useHex : Bool) (hhex : useHex = true → B = 2) (marker : Nat)
    (hmk : isScaleMarker B useHex marker = true) (f : FmtSpec)
    (hf : (f.zero = true ∧ (f.align = some .right ∨ f.align = none)) ∨ f.width = none) (r : FRepr)
    (hlo : -(2 ^ 63 : Int) ≤ sciExp B m prec upper useHex r) (hhi : sciExp B m prec upper useHex r < (2 ^ 63 : Int)) :
    ∃ (r' : FRepr) (n : Nat),
      fromStrNative W B (fmtSciG B m f prec upper useHex marker r) = .ok (r', n) ∧
      r'.toRat B = sciShown B m prec useHex r := by
  obtain ⟨r', n, h1, h2, _⟩ := fmtSciG_parse_padded W hW B hB m prec upper useHex hhex marker hmk f hf r hlo hhi
  exact ⟨r', n, h1, h2⟩

/-- **`with_base::<NewB>()`** (and its forms `to_decimal` = `with_rounding::<HalfAway>().with_base::<10>()`,
    `to_binary` = `with_rounding::<Zero>().with_base::<2>()`): `with_base_and_precision` at the derived precision
    `q = withBasePrecision` — whenever it returns without going through `ln`/`exp`, the result is the exact value
    rounded to `q` digits under the contract and has at most `q + 1` digits; for bases that are not powers of
    one another `q` is the documented maximum (`NewB^q ≤ B^p < NewB^(q+1)`) -/
theorem with_base_contract (W B NB : Nat) (hB : 2 ≤ B) (hNB : 2 ≤ NB) (m : Mode) (p : Nat) (r : FRepr)
    (hq : 1 ≤ withBasePrecision W B NB p) (res : Rounded FRepr)
    (h : convertBase W B NB m (withBasePrecision W B NB p) r = .ok res) :
    Contract NB m (withBasePrecision W B NB p) (r.toRat B) (res.1.toRat NB) res.2 ∧
    res.1.digits NB ≤ withBasePrecision W B NB p + 1 ∧
    (ilogExact B NB ≤ 1 → ilogExact NB B ≤ 1 →
      NB ^ withBasePrecision W B NB p ≤ B ^ p ∧ B ^ p < NB ^ (withBasePrecision W B NB p + 1)) :=
  ⟨convertBase_contract W B NB hB hNB m _ hq r res h, convertBase_digits_le_all W B NB hB hNB m _ hq r res h,
    fun h1 h2 => with_base_precision_model W B NB p (by omega) hNB h1 h2⟩


/-- **the text `Display` prints IS the specification text** (no width; with or without `+` and precision):
    `fmt_round` = `displaySpec` — without a precision the exact positional expansion of the value (digits of
    `|signif| · B^exp` resp. of `|signif|` with `−exp` fractional positions), with precision `k` the sign of the
    number and the fixed-point text, `k` fractional digits, of `roundInt m (x · B^k)` (the value rounded under
    the mode, `round_int_meets_mode_spec`).  Hypothesis: zero is written with exponent 0 (true of every
    normalised repr, i.e. of everything `Repr::new` returns).  This turns the run-time comparison of the two
    texts in the driver (`f.fmt disp` without width) into a theorem. -/
theorem display_text_is_spec (B : Nat) (hB : 2 ≤ B) (m : Mode) (plus : Bool) (prec : Option Nat) (r : FRepr)
    (hz : r.signif = 0 → r.exp = 0) :
    fmtRound B m { plus := plus } prec r = displaySpec B m plus prec r :=
  display_text_eq_spec B hB m plus prec r hz

/-- … in particular for every float the library can hold (`Repr::new` normalises; zero gets exponent 0) -/
theorem display_text_is_spec_normalised (B : Nat) (hB : 2 ≤ B) (m : Mode) (plus : Bool) (prec : Option Nat)
    (s e : Int) :
    fmtRound B m { plus := plus } prec (FRepr.new B s e) = displaySpec B m plus prec (FRepr.new B s e) :=
  display_text_eq_spec B hB m plus prec _ (new_zero_exp B hB s e)

/-- **the scale of a literal is `[+|-] d+` inside the isize range**.  `parseIsize` — the model of
    `str::parse::<isize>()`, shared by the parser model and by the grammar `parseFloatSpec` — is characterised
    completely by the documented grammar `IsizeText` (an existential statement that does not mention the
    control flow): it answers `z` exactly when the text is an optional sign followed by at least one ASCII
    decimal digit, `z` is the signed number the digits spell (leading zeros and `+` allowed) and
    `−2^(bits−1) ≤ z < 2^(bits−1)`; every other text is an error, `NoDigits` for the empty text and
    `InvalidDigit` otherwise (in particular for a lone sign, any other byte, and a value one beyond either limit). -/
theorem parse_isize_spec (bits : Nat) (s : List Nat) :
    (∀ z, parseIsize bits s = .ok z ↔ IsizeText bits s z) ∧
    (∀ e, parseIsize bits s = .error e → e = if s = [] then .noDigits else .invalidDigit) ∧
    (∀ z z', IsizeText bits s z → IsizeText bits s z' → z = z') :=
  ⟨parseIsize_ok_iff bits s, parseIsize_error bits s, fun z z' => IsizeText_unique bits s z z'⟩

/-- **the scale split of `Repr::from_str_native`** (text behind the LAST scale marker, `parse::<isize>()`), over the
    grammar of the scale: without a marker the scale is 0 and the body is the whole text; with a marker at `pos`
    the split succeeds exactly when the text behind it is an `IsizeText` of 64 bits — the scale is its value, the
    body the text before the marker — and fails exactly when it is not, with `NoDigits` when nothing follows the
    marker and `InvalidDigit` otherwise. -/
theorem scale_split_spec (B : Nat) (hp : Bool) (src : List Nat) :
    (∀ v pm body, splitScale B hp src = .ok (v, pm, body) ↔
      (rfindIdx (isScaleMarker B hp) src = none ∧ v = 0 ∧ pm = false ∧ body = src) ∨
      ∃ pos, rfindIdx (isScaleMarker B hp) src = some pos ∧ IsizeText 64 (src.drop (pos + 1)) v ∧
        pm = (B == 2 && (src.getD pos 0 == 112 || src.getD pos 0 == 80)) ∧ body = src.take pos) ∧
    (∀ e, splitScale B hp src = .error e ↔
      ∃ pos, rfindIdx (isScaleMarker B hp) src = some pos ∧ (∀ v, ¬ IsizeText 64 (src.drop (pos + 1)) v) ∧
        e = if src.drop (pos + 1) = [] then .noDigits else .invalidDigit) :=
  ⟨splitScale_ok_iff B hp src, splitScale_error_iff B hp src⟩

/-- **the integer inside the float `Debug` forms is C07's `DoubleEnd` text** (link to C07's proved kernel): `debugInt` — the
    significand printer of `debugRepr` / `debugFBig`, the mirrored `Debug for Repr<B>` / `Debug for FBig<R, B>` — equals the closed
    form `debugSpec` of C07 for every word size, flag combination and integer, and therefore is the text the word-level mirror of
    `DoubleEnd::fmt` (`fmt_non_power_two` + `format_prepared`; C07 `debug_text`) yields without failing any check, for every even
    word size `≥ 8` and every first guess `est` that passes `log_word_base`'s own `assert!` (`est = 1`, the driver's, always does).
    The driver's run-time comparison `debugSpec = debugInt` is this theorem. -/
theorem debug_significand_is_double_end (W : Nat) (alt plus : Bool) (z : Int) :
    debugInt W alt plus z = debugSpec W alt plus z ∧
    (8 ≤ W → 2 ∣ W → ∀ est, (2 ^ (2 * W) ≤ z.natAbs → 10 ^ est ≤ z.natAbs) →
      doubleEndFmt W est alt plus z = .ok (debugInt W alt plus z)) ∧
    (8 ≤ W → 2 ∣ W → doubleEndFmt W 1 alt plus z = .ok (debugInt W alt plus z)) :=
  ⟨Dashu.Proofs.Text.FloatDebug.debugInt_eq_debugSpec W alt plus z,
    fun hW hev est hest => Dashu.Proofs.Text.FloatDebug.doubleEndFmt_eq_debugInt W est hW hev alt plus z hest,
    fun hW hev => Dashu.Proofs.Text.FloatDebug.doubleEndFmt_one_eq_debugInt W hW hev alt plus z⟩

/-- **`Debug` of finite `Repr<B>` / `FBig<R, B>` over the `DoubleEnd` text of the significand**: with `T` the plain and `Ta` the
    `{:#?}` text `DoubleEnd::fmt` yields for the significand (C07's mirrored code), `{:?}` of a `Repr` is `T * B ^ e`, of an `FBig`
    `T * B ^ e (prec: p)`; the `significand:` field of the pretty forms is `Ta` in base 10 and `T (N bits)` / `T (N digits)`
    (`N = digits::<B>`) in base 2 / every other base.  `T` is the sign and ALL decimal digits (`Display` text, C07
    `print_eq_reference`) while `|significand| < 2^(2W)`; beyond, the first `dpw` and the last `dpw` digits of that text around `..`,
    which never overlap (`dpw` = decimal digits per word, 19 for 64-bit words; C07 `debug_head_tail_true_digits`). -/
theorem debug_float_forms (W : Nat) (hW : 8 ≤ W) (hev : 2 ∣ W) (B : Nat) (m : Mode) (r : FRepr) (prec : Nat) :
    ∃ T Ta : List Nat,
      doubleEndFmt W 1 false false r.signif = .ok T ∧ doubleEndFmt W 1 true false r.signif = .ok Ta ∧
      debugRepr W B false r = T ++ strBytes " * " ++ printSpec 10 false B ++ strBytes " ^ " ++ printSpecInt 10 false r.exp ∧
      debugFBig W B m false r prec = T ++ strBytes " * " ++ printSpec 10 false B ++ strBytes " ^ " ++
        printSpecInt 10 false r.exp ++ strBytes " (prec: " ++ printSpec 10 false prec ++ [41] ∧
      debugSignifField W 10 r.signif = Ta ∧
      (B ≠ 10 → debugSignifField W B r.signif = T ++ strBytes " (" ++ printSpec 10 false (digitsI B r.signif) ++
        strBytes (if B = 2 then " bits)" else " digits)")) ∧
      (r.signif.natAbs < 2 ^ (2 * W) → T = (if r.signif < 0 then [45] else []) ++ printSpec 10 false r.signif.natAbs) ∧
      (2 ^ (2 * W) ≤ r.signif.natAbs →
        T = (if r.signif < 0 then [45] else []) ++ (printSpec 10 false r.signif.natAbs).take (radixInfo W 10).dpw ++ [46, 46] ++
          (printSpec 10 false r.signif.natAbs).drop ((printSpec 10 false r.signif.natAbs).length - (radixInfo W 10).dpw) ∧
        2 * (radixInfo W 10).dpw < (printSpec 10 false r.signif.natAbs).length) := by
  obtain ⟨h1, h2, h3, h4⟩ := Dashu.Proofs.Text.FloatDebug.debug_forms W B m r prec
  refine ⟨debugInt W false false r.signif, debugInt W true false r.signif,
    Dashu.Proofs.Text.FloatDebug.doubleEndFmt_one_eq_debugInt W hW hev false false r.signif,
    Dashu.Proofs.Text.FloatDebug.doubleEndFmt_one_eq_debugInt W hW hev true false r.signif, h1, h2, h3, h4,
    Dashu.Proofs.Text.FloatDebug.debugInt_small W r.signif, ?_⟩
  intro hbig
  rw [Dashu.Proofs.Text.FloatDebug.debugInt_eq_debugSpec]
  have h := Dashu.Props.C07Debug.debug_head_tail_true_digits W hW hev r.signif hbig
  exact ⟨h.1, h.2.2.2⟩

-- non-vacuity
example : ilogExact 16 2 = 4 ∧ ilogExact 8 2 = 3 ∧ ilogExact 10 2 = 0 ∧ ilogExact 36 6 = 2 := by decide
example : (2 : Nat) ≤ 10 ∧ (1 : Nat) ≤ 53 := by decide
example : validRadix 10 = true ∧ validRadix 2 = true ∧ validRadix 36 = true ∧ (36 : Nat) < 2 ^ 64 := by decide

-- every theorem with hypotheses, instantiated on a concrete non-trivial value
example := convert_base_pow_up_branch 64 2 16 .zero 10 ⟨5, -3⟩ (by decide) (by decide)
example := convert_base_pow_up_contract 2 4 (by decide) (by decide) .halfEven 3 (by decide) ⟨12345, -7⟩
example := ilog_exact_sound 16 2 4 (by decide) (by decide)
example := convert_base_pow_down_branch 64 16 2 .up 7 ⟨-0x1abc, 5⟩ (by decide) (by decide)
example := convert_base_pow_down_contract 2 4 (by decide) .up 7 (by decide) ⟨-0x1abc, 5⟩
example := convert_base_small_pos_contract 10 2 (by decide) .halfAway 20 (by decide) ⟨-123456789, 30⟩ (by decide)
example := with_base_precision_documented 2 10 53 (by decide) (by decide)
example := parse_literal_exact 64 (by decide) 10 (by decide) true (some true) [1, 2] (some [5, 0]) (some (-3))
  (by decide) (by decide) (by decide) (by intro z h; cases h; decide)
example := print_parse_round_trip 64 (by decide) 36 (by decide) .halfEven ⟨-(36 ^ 20 + 1), -25⟩
example : True := by
  obtain ⟨r, h, _⟩ := parse_literal_exact 64 (by decide) 10 (by decide) false none [1, 2] (some [5]) none
    (by decide) (by decide) (by decide) (by intro z h; cases h)
  have := parse_ok_denotes 64 (by decide) 10 (by decide) _ r _ h
  trivial
example := print_precision_text 10 (by decide) .halfEven 2 ⟨-12345, -3⟩
example := print_precision_rounding 10 (by decide) .up 2 ⟨-12345, -3⟩
example := print_precision_parse 64 (by decide) 10 (by decide) .away 0 ⟨5, -1⟩
example := padded_print_parse_round_trip 64 (by decide) 10 (by decide) .zero
  { zero := true, width := some 20, plus := true } (Or.inl rfl) ⟨-12345, -3⟩
example := padded_print_precision_parse 64 (by decide) 10 (by decide) .halfAway
  { zero := true, width := some 20 } (Or.inl rfl) 1 ⟨-12345, -3⟩
example := display_padding_keeps_digits 10 .zero { width := some 20, align := some .center, fill := [42] } (some 2) ⟨-12345, -3⟩
example := exact_when_fits 10 .up 5 ⟨123, 4⟩ (by decide)
example := from_ieee_exact 52 11 0x3FF8000000000000 _ _ rfl
example := from_ieee_exact 23 8 0x80000001 _ _ rfl
example := with_precision_contract 10 (by decide) .halfEven 3 (by decide) ⟨⟨-12345, -2⟩, 5⟩ (Or.inr (by decide))
example := with_precision_unlimited 10 .up ⟨⟨-12345, -2⟩, 5⟩
example := scientific_padding_keeps_digits 2 .zero { width := some 20, zero := true } (some 2) true true 112 ⟨0x1ff, 3⟩
example := parse_eq_grammar 64 (by decide) 2 (by decide) [48, 120, 49, 46, 56, 112, 45, 51]
example := grammar_digit_string 16 [49, 95, 102] false

example := convert_base_long_dividend_contract 2 (by decide) .halfEven 3 (by decide) ⟨12345, 0⟩ ⟨5, 0⟩ (by decide) (by decide)
example := convert_base_exact_paths_contract 64 2 16 (by decide) (by decide) .zero 10 (by decide) ⟨5, -3⟩ _
  (convert_base_pow_up_branch 64 2 16 .zero 10 ⟨5, -3⟩ (by decide) (by decide))
example := convert_base_result_digits 64 2 16 (by decide) (by decide) .zero 10 (by decide) ⟨5, -3⟩ _
  (convert_base_pow_up_branch 64 2 16 .zero 10 ⟨5, -3⟩ (by decide) (by decide))
example := with_base_precision_model 64 10 2 17 (by decide) (by decide) (by decide) (by decide)
example := display_width_exact 10 (by decide) .halfEven { width := some 12, align := some .center, fill := [42] } (some 2)
  ⟨-12345, -3⟩ 12 rfl
example := scientific_width_exact 2 .zero { width := some 20, zero := true, plus := true } (some 2) true true 112 ⟨0x1ff, 3⟩ 20 rfl
example := scientific_rounding 10 (by decide) .halfEven 2 false ⟨-99951, -3⟩
example := scientific_text_denotes 2 (by decide) .up (some 1) true true (fun _ => rfl) 112 ⟨0x1ff, 3⟩
-- 9.9951e1 rounded to 3 significant digits carries into a new digit: the printed pair is (100, 0), value 1.00e2
example : sciRounded 10 .halfEven 2 false ⟨99951, -3⟩ = 1000 ∧ sciShift 10 2 false ⟨99951, -3⟩ = 2 ∧
    sciPair 10 .halfEven (some 2) false ⟨99951, -3⟩ = (100, 0) := by decide
-- 9.9951e1 printed with `{:+.2e}` is `+1.00e2`; the printed exponent is an isize; it parses back to 100
example : fmtSciG 10 .halfEven { plus := true } (some 2) false false 101 ⟨99951, -3⟩ = [43, 49, 46, 48, 48, 101, 50] := by decide +kernel
example := scientific_print_parse 64 (by decide) 10 (by decide) .halfEven (some 2) false false (fun h => by cases h) 101
  (by decide) true ⟨99951, -3⟩ (by decide +kernel) (by decide +kernel)
example := scientific_print_parse 64 (by decide) 2 (by decide) .up none true true (fun _ => rfl) 112
  (by decide) false ⟨-0x1ff, 3⟩ (by decide +kernel) (by decide +kernel)
example := lower_upper_exp_parse_back 64 (by decide) 36 (by decide) .away (some 1) true false ⟨-(36 ^ 5 + 1), -25⟩
  (by decide +kernel) (by decide +kernel)
example := radix_trait_parse_back 64 (by decide) 2 .zero (some 1) "uhex" true ⟨0x1ff, 3⟩ _ rfl
  (fun up hex => by cases up <;> cases hex <;> decide +kernel)
example := round_int_meets_mode_spec .halfEven (-7) 2 (by decide)
example := display_text_is_spec 10 (by decide) .halfEven true (some 2) ⟨-12345, -3⟩ (by decide)
example := display_text_is_spec 10 (by decide) .up false none ⟨0, 0⟩ (by decide)
example := padded_scientific_print_parse 64 (by decide) 10 (by decide) .halfEven (some 2) false false (fun h => by cases h) 101
  (by decide) { zero := true, width := some 12, plus := true } (Or.inl ⟨rfl, Or.inr rfl⟩) ⟨99951, -3⟩ (by decide +kernel) (by decide +kernel)
example := with_base_contract 64 2 16 (by decide) (by decide) .zero 40 ⟨5, -3⟩ (by decide) _
  (convert_base_pow_up_branch 64 2 16 .zero _ ⟨5, -3⟩ (by decide) (by decide))
-- 12345 in base 10 brought to precision 2 in the same base: 12000, rounded down
example : (reprRound 10 .zero coarseNone 2 (FRepr.new 10 12345 0)).1 = ⟨12, 3⟩ := by decide +kernel
example := convert_base_same_base 64 10 .zero 2 ⟨12345, 0⟩
example := with_precision_digits 10 (by decide) .halfEven 3 (by decide) ⟨⟨-12345, -2⟩, 5⟩ (Or.inl (by decide))
example : (112 : Nat) ∈ Dashu.Gen.float_scaleMarkers 2 true ∧ (2, "LowerHex", false, true, 112) ∈ Dashu.Gen.float_fmtWithBase := by decide
example := mode_spec_unique .halfAway 5 2 _ _ (by decide) (round_int_meets_mode_spec .halfAway 5 2 (by decide))
  (round_int_meets_mode_spec .halfAway 5 2 (by decide))
example := display_spec_rounds_like_model 10 (by decide) .halfEven true 2 ⟨-12345, -3⟩

-- "-012" is an IsizeText of -12; the limits of 64 bits: isize::MIN accepted, isize::MAX + 1 and a lone sign rejected
example : IsizeText 64 [45, 48, 49, 50] (-12) := ⟨[45], [0, 1, 2], by simp, by simp, by decide, rfl, by decide, by decide, by decide⟩
example : parseIsize 64 [45, 48, 49, 50] = .ok (-12) := ((parse_isize_spec 64 _).1 _).mpr ⟨[45], [0, 1, 2], by simp, by simp, by decide, rfl, by decide, by decide, by decide⟩
example : parseIsize 64 [45,57,50,50,51,51,55,50,48,51,54,56,53,52,55,55,53,56,48,56] = .ok (-9223372036854775808) ∧
    parseIsize 64 [57,50,50,51,51,55,50,48,51,54,56,53,52,55,55,53,56,48,56] = .error .invalidDigit ∧
    parseIsize 64 [43] = .error .invalidDigit ∧ parseIsize 64 [] = .error .noDigits := by decide +kernel
example : splitScale 10 false [49, 101, 43, 55] = .ok (7, false, [49]) ∧ splitScale 10 false [49, 101] = .error .noDigits ∧
    splitScale 10 false [49, 101, 120] = .error .invalidDigit := by decide +kernel

-- the float Debug forms over C07's DoubleEnd text; a three-word significand prints head..tail
example := debug_significand_is_double_end 64 true true (-(10 ^ 40 + 7))
example := (debug_significand_is_double_end 64 false false (2 ^ 130 + 1)).2.2 (by decide) (by decide)
example := debug_float_forms 64 (by decide) (by decide) 2 .zero ⟨-(2 ^ 130 + 1), -7⟩ 131
example : debugRepr 64 10 false ⟨-12345, -3⟩ = strBytes "-12345 * 10 ^ -3" ∧
    debugInt 64 false false (2 ^ 128) = strBytes "3402823669209384634..3374607431768211456" := by decide +kernel

end Dashu.Props.C08
