import Dashu.Proofs.Trans.CertFloat
import Dashu.Props.C11
/-
  C11 — certificates for operands whose exponent is too large to write the value down as a rational
  (`powf` of a tiny or huge base such as `(1.5·2^-1048576)^0.75`, `ln` of such a number): the operand stays a
  float `sig·B^ex`, `log (sig·B^ex) = log sig + ex·log B` is enclosed without forming `B^ex`.
  Same conclusion `Ok` as the certificate theorems of `Props/C11.lean`.
-/
namespace Dashu.Props.C11Float
open Dashu.Model.Trans Dashu.Props.C11

theorem checkedPowfFloatScaled_sound (B : ℕ) (hB : 0 < B) (sig ex : ℤ) (hs : 0 < sig) (y : ℚ) (rsig e : ℤ) (p : ℕ)
    (exact : Bool) (fuel n0 : ℕ) :
    ((certPowfFloatScaled B sig ex y rsig e p exact fuel n0).1 = .certified →
        Ok B rsig e p exact (((sig : ℝ) * (B : ℝ) ^ ex) ^ (y : ℝ))) ∧
    ((certPowfFloatScaled B sig ex y rsig e p exact fuel n0).1 = .violation →
        ¬ Ok B rsig e p exact (((sig : ℝ) * (B : ℝ) ^ ex) ^ (y : ℝ))) := by
  have hB' : (0 : ℝ) < (B : ℝ) := by exact_mod_cast hB
  have hs' : (0 : ℝ) < (sig : ℝ) := by exact_mod_cast hs
  have hx : (0 : ℝ) < (sig : ℝ) * (B : ℝ) ^ ex := mul_pos hs' (zpow_pos hB' ex)
  exact scaled_sound B hB _ _ (scaleRat_sound y _ _ (lnFloatEncl_encloses B hB sig ex hs (64 + magBits y + 3))) _
    (by rw [Real.rpow_def_of_pos hx, mul_comm]) (powfFloatScaledEncl B sig ex y e) rsig e
    (powfFloatScaledEncl_encloses B hB sig ex hs y e) p exact fuel n0 _ rfl

theorem checkedLnFloat_sound (B : ℕ) (hB : 0 < B) (sig ex : ℤ) (hs : 0 < sig) (rsig e : ℤ) (p : ℕ) (exact : Bool)
    (fuel n0 : ℕ) :
    ((certLnFloat B sig ex rsig e p exact fuel n0).1 = .certified →
        Ok B rsig e p exact (Real.log ((sig : ℝ) * (B : ℝ) ^ ex))) ∧
    ((certLnFloat B sig ex rsig e p exact fuel n0).1 = .violation →
        ¬ Ok B rsig e p exact (Real.log ((sig : ℝ) * (B : ℝ) ^ ex))) :=
  refine_sound _ _ _ _ _ (lnFloatEncl_encloses B hB sig ex hs) fuel n0

/-! non-vacuity: `ln (3·10^1000) = 2303.6837…`; 6 digits: `230368·10⁻²` is certified, `230370·10⁻²` refuted -/
example : (certLnFloat 10 3 1000 230368 (-2) 6 false 9 40).1 = .certified := by decide +kernel
example : (certLnFloat 10 3 1000 230370 (-2) 6 false 9 40).1 = .violation := by decide +kernel

end Dashu.Props.C11Float
