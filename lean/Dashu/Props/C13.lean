import Dashu.Proofs.NT.ModHom
import Dashu.Proofs.NT.ModPowLarge
import Dashu.Proofs.NT.ModContracts
import Dashu.Proofs.NT.ModKernels
import Dashu.Proofs.NT.ModInvLarge
import Dashu.Gen.Modular
import Mathlib.Order.Compare
/-
  C13 — Reduced-ring arithmetic is the homomorphic image of integer arithmetic.

  Property theorems (their lemma layer, elements as `⟨r, u·2^k⟩`, is `Proofs/NT/ModHom.lean`), and at the end the
  lemmas that evaluate the regenerated comparisons of `Gen/Modular.lean`.
  Every statement quantifies over all word sizes `W ≥ 1`, all moduli
  `m ≥ 1` (single-, double- and multi-word rings, with or without a normalisation shift), all
  integers `a b` of any sign and size and all exponents; nothing is bounded.  `res m a` is
  `Int.emod a m` as a natural number (`res_cast`).  The division primitives of num-modular and
  dashu's multi-word multiply/divide kernels enter as their exact contracts (`%`, `*`).

  The word-level division kernels of `reduce` (`rem_word`, the two-step `rem_dword`,
  `fast_rem_by_normalized_(d)word`), of the single- and double-word `mul`/`sqr`, and `inv_large` (through
  C12's mirrored extended-gcd kernels) are mirrored in `Model/NT/ModKernels.lean`, `ModInvLarge.lean`,
  executed by the driver, and proved equal to the `%`-level definitions the theorems below are about
  (`reduce_kernels`, `mul_sqr_kernels`, `pow_kernels`, `inv_large_range`, `inv_large_mirror`, `inv_div_kernels`).
-/
namespace Dashu.Props.C13
open Dashu.Model Dashu.Model.NT

/-- `ConstDivisor::new(0)` panics, every other modulus gives a well-formed ring for that modulus. -/
theorem new_spec (W id m : Nat) (hW : 0 < W) :
    (m = 0 → Ring.new W id m = .error .divideByZero) ∧
    (m ≠ 0 → ∃ r, Ring.new W id m = .ok r ∧ r.m = m ∧ r.id = id ∧ r.WF W) := by
  refine ⟨fun h => by simp [Ring.new, h], fun h => ?_⟩
  obtain ⟨r, hr, h1, h2⟩ := Ring.new_ok (W := W) (id := id) h
  exact ⟨r, hr, h1, h2, Ring.new_wf hW hr⟩

/-- `ConstDivisor::reduce` (UBig, IBig and primitive inputs, negative inputs): the stored value is
    `Valid` (a residue `< m` pre-shifted by `k`), `residue` is `a mod m` (`Int.emod`) and
    `modulus` is `m`. -/
theorem reduce_spec (W : Nat) (r : Ring) (hwf : r.WF W) (a : Int) :
    Valid r (reduceInt W r a).raw ∧
    ((reduceInt W r a).residue : Int) = a % (r.m : Int) ∧
    (reduceInt W r a).residue < r.m ∧
    (reduceInt W r a).modulus = r.m ∧ (reduceInt W r a).ring = r := by
  have hm := hwf.mpos
  rw [reduceInt_eq hwf, residue_of_raw]
  exact ⟨valid_of_lt (res_lt hm a), res_cast hm a, res_lt hm a, Nat.mul_div_cancel _ (Nat.two_pow_pos _), rfl⟩

/-- closure: `+ − · neg dbl sqr` map `Valid` elements of one ring to `Valid` elements whose residue
    is the corresponding operation on residues modulo `m`. -/
theorem ops_closed (W : Nat) (r : Ring) (hwf : r.WF W) (x y : Nat) (hx : Valid r x) (hy : Valid r y) :
    (∃ e, (⟨r, x⟩ : Elem).add ⟨r, y⟩ = .ok e ∧ e.ring = r ∧ Valid r e.raw ∧
        e.residue = ((⟨r, x⟩ : Elem).residue + (⟨r, y⟩ : Elem).residue) % r.m) ∧
    (∃ e, (⟨r, x⟩ : Elem).sub ⟨r, y⟩ = .ok e ∧ e.ring = r ∧ Valid r e.raw ∧
        (e.residue + (⟨r, y⟩ : Elem).residue) % r.m = (⟨r, x⟩ : Elem).residue) ∧
    (∃ e, (⟨r, x⟩ : Elem).mul W ⟨r, y⟩ = .ok e ∧ e.ring = r ∧ Valid r e.raw ∧
        e.residue = ((⟨r, x⟩ : Elem).residue * (⟨r, y⟩ : Elem).residue) % r.m) ∧
    (Valid r (⟨r, x⟩ : Elem).neg.raw ∧
        ((⟨r, x⟩ : Elem).neg.residue + (⟨r, x⟩ : Elem).residue) % r.m = 0) ∧
    (Valid r (⟨r, x⟩ : Elem).dbl.raw ∧
        (⟨r, x⟩ : Elem).dbl.residue = (2 * (⟨r, x⟩ : Elem).residue) % r.m) ∧
    (Valid r ((⟨r, x⟩ : Elem).sqr W).raw ∧
        ((⟨r, x⟩ : Elem).sqr W).residue = ((⟨r, x⟩ : Elem).residue * (⟨r, x⟩ : Elem).residue) % r.m) := by
  obtain ⟨u, hu, rfl⟩ := hx
  obtain ⟨v, hv, rfl⟩ := hy
  have hval := valid_mk (r := r) hwf.mpos
  rw [add_mk hu hv, sub_mk hu hv, mul_mk hwf hu hv, neg_mk hu, dbl_mk hu, sqr_mk hwf hu]
  simp only [Except.ok.injEq, exists_eq_left', residue_of_raw, hval, true_and, and_true]
  exact ⟨sub_add_mod hu hv, neg_add_mod hu, by rw [two_mul]⟩

/-- homomorphism: reducing then operating equals operating then reducing, for all integers. -/
theorem hom_add (W : Nat) (r : Ring) (hwf : r.WF W) (a b : Int) :
    ∃ e, (reduceInt W r a).add (reduceInt W r b) = .ok e ∧ Valid r e.raw ∧
      (e.residue : Int) = (a + b) % (r.m : Int) := by
  have hm := hwf.mpos
  rw [reduceInt_eq hwf, reduceInt_eq hwf, add_mk (res_lt hm a) (res_lt hm b)]
  refine ⟨_, rfl, mk_mod_spec hwf _ ?_⟩
  rw [Nat.cast_add]
  exact (res_modEq hm a).add (res_modEq hm b)

theorem hom_sub (W : Nat) (r : Ring) (hwf : r.WF W) (a b : Int) :
    ∃ e, (reduceInt W r a).sub (reduceInt W r b) = .ok e ∧ Valid r e.raw ∧
      (e.residue : Int) = (a - b) % (r.m : Int) := by
  have hm := hwf.mpos
  rw [reduceInt_eq hwf, reduceInt_eq hwf, sub_mk (res_lt hm a) (res_lt hm b)]
  refine ⟨_, rfl, mk_mod_spec hwf _ ?_⟩
  rw [Nat.cast_add, sub_eq_add_neg]
  exact (res_modEq hm a).add (res_neg_modEq hm b)

theorem hom_mul (W : Nat) (r : Ring) (hwf : r.WF W) (a b : Int) :
    ∃ e, (reduceInt W r a).mul W (reduceInt W r b) = .ok e ∧ Valid r e.raw ∧
      (e.residue : Int) = (a * b) % (r.m : Int) := by
  have hm := hwf.mpos
  rw [reduceInt_eq hwf, reduceInt_eq hwf, mul_mk hwf (res_lt hm a) (res_lt hm b)]
  refine ⟨_, rfl, mk_mod_spec hwf _ ?_⟩
  rw [Nat.cast_mul]
  exact (res_modEq hm a).mul (res_modEq hm b)

theorem hom_neg (W : Nat) (r : Ring) (hwf : r.WF W) (a : Int) :
    Valid r (reduceInt W r a).neg.raw ∧ ((reduceInt W r a).neg.residue : Int) = (-a) % (r.m : Int) := by
  have hm := hwf.mpos
  rw [reduceInt_eq hwf, neg_mk (res_lt hm a)]
  exact mk_mod_spec hwf _ (res_neg_modEq hm a)

theorem hom_dbl (W : Nat) (r : Ring) (hwf : r.WF W) (a : Int) :
    Valid r (reduceInt W r a).dbl.raw ∧ ((reduceInt W r a).dbl.residue : Int) = (2 * a) % (r.m : Int) := by
  have hm := hwf.mpos
  rw [reduceInt_eq hwf, dbl_mk (res_lt hm a), two_mul]
  refine mk_mod_spec hwf _ ?_
  rw [Nat.cast_add]
  exact (res_modEq hm a).add (res_modEq hm a)

theorem hom_sqr (W : Nat) (r : Ring) (hwf : r.WF W) (a : Int) :
    Valid r ((reduceInt W r a).sqr W).raw ∧
      (((reduceInt W r a).sqr W).residue : Int) = (a * a) % (r.m : Int) := by
  have hm := hwf.mpos
  rw [reduceInt_eq hwf, sqr_mk hwf (res_lt hm a)]
  refine mk_mod_spec hwf _ ?_
  rw [Nat.cast_mul]
  exact (res_modEq hm a).mul (res_modEq hm a)

/-- `pow`: `a^e mod m` for **every** exponent `e` (any number of words) in every ring — single- and
    double-word rings by square-and-multiply over the words of `e` (`pow_word`, `pow_helper`),
    multi-word rings by the windowed loop of `large::pow_nontrivial` (table of odd powers, window
    length from `choose_pow_window_len`); `m = 1` included (`pow(0)` is `0`, the only residue). -/
theorem hom_pow (W : Nat) (r : Ring) (hwf : r.WF W) (a : Int) (e : Nat) :
    Valid r ((reduceInt W r a).pow W e).raw ∧
      (((reduceInt W r a).pow W e).residue : Int) = (a ^ e) % (r.m : Int) := by
  have hm := hwf.mpos
  rw [reduceInt_eq hwf, pow_mk hwf (res_lt hm a)]
  refine mk_mod_spec hwf _ ?_
  rw [Nat.cast_pow]
  exact (res_modEq hm a).pow e

/-- non-vacuity: a 3-word modulus gives a well-formed multi-word ring (the hypothesis of `hom_pow`),
    and a small instance of the windowed loop evaluates to the expected residue -/
example : ∃ r, Ring.new 64 0 (2 ^ 190 + 7) = .ok r ∧ r.kind = .large ∧ r.WF 64 ∧
    ((reduceInt 64 r 3).pow 64 21).residue = 3 ^ 21 % (2 ^ 190 + 7) :=
  ⟨_, rfl, rfl, Ring.new_wf (id := 0) (m := 2 ^ 190 + 7) (by decide) rfl, by decide +kernel⟩

/-- `inv`: `Some(x)` exactly when `gcd(a, m) = 1`, and then `x` is `Valid` with `a·x ≡ 1 (mod m)`. -/
theorem inv_spec (W : Nat) (r : Ring) (hwf : r.WF W) (a : Int) :
    (((reduceInt W r a).inv).isSome ↔ Nat.gcd (res r.m a) r.m = 1) ∧
    (∀ i, (reduceInt W r a).inv = some i →
        i.ring = r ∧ Valid r i.raw ∧ (i.residue * res r.m a) % r.m = 1 % r.m) := by
  obtain ⟨hsome, hiff⟩ := invm_spec (x := res r.m a) hwf.mpos
  rw [reduceInt_eq hwf, inv_mk hwf]
  refine ⟨by rw [Option.isSome_map, hiff], fun i hi => ?_⟩
  obtain ⟨t, ht, rfl⟩ := Option.map_eq_some_iff.1 hi
  obtain ⟨h1, h2⟩ := hsome t ht
  exact ⟨rfl, valid_of_lt h2, by rw [residue_of_raw]; exact h1⟩

/-- `/` is multiplication by the inverse: panics `NonInvertible` exactly when `gcd(b, m) ≠ 1`,
    otherwise the quotient `q` is `Valid` and `q·b ≡ a (mod m)`. -/
theorem div_spec (W : Nat) (r : Ring) (hwf : r.WF W) (a b : Int) :
    (Nat.gcd (res r.m b) r.m ≠ 1 → (reduceInt W r a).div W (reduceInt W r b) = .error .nonInvertible) ∧
    (Nat.gcd (res r.m b) r.m = 1 → ∃ q, (reduceInt W r a).div W (reduceInt W r b) = .ok q ∧
        Valid r q.raw ∧ (q.residue * res r.m b) % r.m = res r.m a) := by
  have hm := hwf.mpos
  obtain ⟨hsome, hiff⟩ := invm_spec (x := res r.m b) hm
  rw [reduceInt_eq hwf, reduceInt_eq hwf]
  unfold Elem.div
  rw [inv_mk hwf]
  cases ht : invm (res r.m b) r.m with
  | none => exact ⟨fun _ => rfl, fun hg => by rw [← hiff, ht] at hg; cases hg⟩
  | some t =>
    obtain ⟨h1, h2⟩ := hsome t ht
    refine ⟨fun hg => absurd (hiff.1 (by rw [ht]; rfl)) hg, fun _ => ?_⟩
    have h1 : t * res r.m b % r.m = 1 % r.m := h1
    simp only [Option.map_some, mul_mk hwf (res_lt hm a) h2]
    refine ⟨_, rfl, valid_of_lt (Nat.mod_lt _ hm), ?_⟩
    rw [residue_of_raw, Nat.mod_mul_mod, Nat.mul_assoc, Nat.mul_mod, h1, ← Nat.mul_mod, Nat.mul_one,
      Nat.mod_eq_of_lt (res_lt hm a)]

/-- mixing elements of different `ConstDivisor` instances panics — also when the moduli are equal
    (identity is the instance, `ptr::eq`). -/
theorem different_rings (W : Nat) (a b : Elem) (h : a.ring ≠ b.ring) :
    a.add b = .error .differentRings ∧ a.sub b = .error .differentRings ∧
    a.mul W b = .error .differentRings ∧ a.beq b = .error .differentRings ∧
    (a.div W b = .error .differentRings ∨ a.div W b = .error .nonInvertible) := by
  have hs : sameRing a b = false := by simp [sameRing, h]
  refine ⟨by simp [Elem.add, hs], by simp [Elem.sub, hs], by simp [Elem.mul, hs], by simp [Elem.beq, hs], ?_⟩
  unfold Elem.div Elem.inv
  cases invRaw b.ring b.raw with
  | none => exact .inr rfl
  | some t => exact .inl (by simp [Elem.mul, sameRing, h])

theorem different_instances_same_modulus (W m : Nat) (hm : m ≠ 0) :
    ∀ r1 r2, Ring.new W 1 m = .ok r1 → Ring.new W 2 m = .ok r2 → r1 ≠ r2 := by
  intro r1 r2 h1 h2 he
  have := (Ring.new_m h1).2; have := (Ring.new_m h2).2
  subst he; omega

/-- `PartialEq for Reduced`: two reduced integers compare equal exactly when they are congruent mod `m`. -/
theorem eq_spec (W : Nat) (r : Ring) (hwf : r.WF W) (a b : Int) :
    (reduceInt W r a).beq (reduceInt W r b) = .ok (decide (a % (r.m : Int) = b % (r.m : Int))) := by
  have hm := hwf.mpos
  rw [reduceInt_eq hwf, reduceInt_eq hwf]
  simp only [Elem.beq, sameRing, decide_true, if_true]
  congr 1
  rw [← res_cast hm a, ← res_cast hm b, Bool.eq_iff_iff, beq_iff_eq, decide_eq_true_eq, Int.natCast_inj]
  exact Nat.mul_left_inj (Nat.two_pow_pos _).ne'

-- ---------------------------------------------------------------- the division primitives behind `%`

/-- single-word rings: at the arguments dashu passes (`rem_word` with a shift, `mul`, `sqr`), num-modular's
    `div_rem_2by1` — mirrored and proved by C02 (`Dashu.Model.NumModular`, Möller–Granlund Algorithm 4) — is
    called inside its precondition `high word < divisor` and returns exactly the `%` the ring model uses -/
theorem single_word_division_contracts (W : Nat) (r : Ring) (hwf : r.WF W) (hn : r.n = 1) :
    (∀ x, x < 2 ^ W →
        (NumModular.div2by1 W r.M (NumModular.invertWord W r.M) (x * 2 ^ r.k)).2 = (x * 2 ^ r.k) % r.M) ∧
    (∀ u v, u < r.m → v < r.m →
        (NumModular.div2by1 W r.M (NumModular.invertWord W r.M) ((u * 2 ^ r.k) / 2 ^ r.k * (v * 2 ^ r.k))).2
          = ((u * 2 ^ r.k) / 2 ^ r.k * (v * 2 ^ r.k)) % r.M) ∧
    (∀ u, u < r.m →
        (NumModular.div2by1 W r.M (NumModular.invertWord W r.M) ((u * 2 ^ r.k) * (u * 2 ^ r.k) / 2 ^ r.k)).2
          = ((u * 2 ^ r.k) * (u * 2 ^ r.k) / 2 ^ r.k) % r.M) :=
  single_ring_calls hwf hn

/-- double-word rings: `mul` and `sqr` call `div_rem_4by2(lo, hi)` (two Algorithm-5 steps) with `hi < M` -/
theorem double_word_division_contracts (W : Nat) (r : Ring) (hwf : r.WF W) (hn : r.n = 2) :
    (∀ u v, u < r.m → v < r.m →
        let p := (u * 2 ^ r.k) / 2 ^ r.k * (v * 2 ^ r.k)
        (NumModular.div4by2 W r.M (NumModular.invertDoubleWord W r.M) (p % 2 ^ (2 * W)) (p / 2 ^ (2 * W))).2
          = p % r.M) ∧
    (∀ u, u < r.m →
        let p := (u * 2 ^ r.k) * (u * 2 ^ r.k) / 2 ^ r.k
        (NumModular.div4by2 W r.M (NumModular.invertDoubleWord W r.M) (p % 2 ^ (2 * W)) (p / 2 ^ (2 * W))).2
          = p % r.M) :=
  double_ring_calls hwf hn

/-- non-vacuity: rings of one and two words exist (with and without a shift) -/
example : (∃ r, Ring.new 64 0 1000003 = .ok r ∧ r.n = 1 ∧ r.k = 44) ∧
    (∃ r, Ring.new 64 0 (2 ^ 127 + 5) = .ok r ∧ r.n = 2 ∧ r.k = 0) :=
  ⟨⟨_, rfl, rfl, by decide⟩, ⟨_, rfl, rfl, by decide⟩⟩

/-- non-vacuity of `ops_closed`: two valid pre-shifted elements of a 3-word ring with shift 3 -/
example : ∃ r, Ring.new 64 0 (2 ^ 188 + 12345) = .ok r ∧ Valid r (7 * 2 ^ r.k) ∧ Valid r ((2 ^ 188) * 2 ^ r.k) :=
  ⟨_, rfl, by decide, by decide⟩

-- ---------------------------------------------------------------- the Reducer<UBig> impl

/-- `Reducer::add/dbl/sub/neg` on checked operands stay checked and compute the ring operation. -/
theorem reducer_ops (W : Nat) (r : Ring) (hwf : r.WF W) (x y : Nat) (hx : Valid r x) (hy : Valid r y) :
    (Valid r (rAdd r x y) ∧ rAdd r x y / 2 ^ r.k = (x / 2 ^ r.k + y / 2 ^ r.k) % r.m) ∧
    (Valid r (rSub r x y) ∧ (rSub r x y / 2 ^ r.k + y / 2 ^ r.k) % r.m = x / 2 ^ r.k) ∧
    (Valid r (rNeg r x) ∧ (rNeg r x / 2 ^ r.k + x / 2 ^ r.k) % r.m = 0) := by
  obtain ⟨u, hu, rfl⟩ := hx
  obtain ⟨v, hv, rfl⟩ := hy
  have hval := valid_mk (r := r) hwf.mpos
  -- the low `k` bits of a sum of pre-shifted residues are zero: `check` only compares with `M`
  have hadd : rAdd r (u * 2 ^ r.k) (v * 2 ^ r.k) = addRaw r (u * 2 ^ r.k) (v * 2 ^ r.k) := by
    unfold rAdd reduceOnce rCheck addRaw
    rw [← Nat.add_mul, Nat.mul_mod_left]
    simp only [decide_true, Bool.and_true, decide_eq_true_eq, ge_iff_le]
    by_cases h : (u + v) * 2 ^ r.k < r.M
    · rw [if_pos h, if_neg (Nat.not_le.2 h)]
    · rw [if_neg h, if_pos (Nat.not_lt.1 h)]
  have hsub : rSub r (u * 2 ^ r.k) (v * 2 ^ r.k) = subRaw r (u * 2 ^ r.k) (v * 2 ^ r.k) := rfl
  have hneg : rNeg r (u * 2 ^ r.k) = negRaw r (u * 2 ^ r.k) := rfl
  rw [hadd, hsub, hneg, addRaw_eq hu hv, subRaw_eq hu hv, negRaw_eq hu]
  simp only [Nat.mul_div_cancel _ (Nat.two_pow_pos r.k), hval, true_and]
  exact ⟨sub_add_mod hu hv, neg_add_mod hu⟩

-- ---------------------------------------------------------------- non-vacuity and regression theorems

/-- a 3-word modulus with a 3-bit normalisation shift and a negative operand meet the hypotheses -/
example : ∃ r, Ring.new 64 0 (2 ^ 188 + 12345) = .ok r ∧ r.kind = .large ∧ r.k = 3 ∧ r.n = 3 ∧
    (reduceInt 64 r (-5)).residue = 2 ^ 188 + 12340 := by
  refine ⟨_, rfl, rfl, by decide, by decide, by decide⟩

/-- REGRESSION (pow in the ring with one element, fixed in /repo d3d05f5): `ReducedWord::one` used to be
    `1 << shift`, which for `m = 1` is the normalised divisor itself — not `Valid`; residue `1`, not `0`. -/
theorem one_asIs_counterexample :
    ∃ r, Ring.new 64 0 1 = .ok r ∧ ¬ Valid r (oneRawAsIs r) ∧ oneRawAsIs r / 2 ^ r.k = 1 ∧
      Valid r (oneRaw r) := by
  refine ⟨_, rfl, by decide, by decide, by decide⟩

/-- REGRESSION (`Reducer::add`/`dbl` on multi-word rings, fixed in /repo 1b55f20): `check` used to accept
    `target == M` (`is_le`), so a sum that is exactly the normalised modulus was returned unreduced. -/
theorem reducer_add_asIs_counterexample :
    ∃ r, Ring.new 64 0 (2 ^ 188) = .ok r ∧
      rAddAsIs 64 r (1 * 2 ^ r.k) ((2 ^ 188 - 1) * 2 ^ r.k) = r.M ∧
      ¬ Valid r (rAddAsIs 64 r (1 * 2 ^ r.k) ((2 ^ 188 - 1) * 2 ^ r.k)) ∧
      rAdd r (1 * 2 ^ r.k) ((2 ^ 188 - 1) * 2 ^ r.k) = 0 := by
  refine ⟨_, rfl, by decide, by decide, by decide⟩

-- ---------------------------------------------------------------- the kernels behind `%`, mirrored

/-- `div::fast_rem_by_normalized_word` (top word by `div_rem_1by1`, every lower word by the mirrored
    Möller–Granlund `div_rem_2by1`) returns the remainder of the whole number — any number of words,
    any normalised word divisor. -/
theorem fast_rem_by_normalized_word (W d : Nat) (hW : 1 ≤ W) (hd1 : 2 ^ W ≤ 2 * d) (hd2 : d < 2 ^ W)
    (ws : List Nat) (hne : ws ≠ []) (hws : IsWords W ws) :
    fastRemByNormalizedWord W d (NumModular.invertWord W d) ws = val W ws % d :=
  fastRemByNormalizedWord_spec W d hW hd1 hd2 ws hne hws

/-- `div::fast_rem_by_normalized_dword` (top double word by `div_rem_2by2`, lower pairs by the mirrored
    `div_rem_4by2`, a left-over word by `div_rem_3by2`) returns the remainder of the whole number. -/
theorem fast_rem_by_normalized_dword (W d : Nat) (hW : 1 ≤ W) (hd1 : 2 ^ (2 * W) ≤ 2 * d)
    (hd2 : d < 2 ^ (2 * W)) (ws : List Nat) (hlen : 2 ≤ ws.length) (hws : IsWords W ws) :
    fastRemByNormalizedDword W d (NumModular.invertDoubleWord W d) ws = val W ws % d :=
  fastRemByNormalizedDword_spec W d hW hd1 hd2 ws hlen hws

/-- non-vacuity: a normalised 64-bit divisor and a 5-word number (odd count: 3by2 tail), evaluated -/
example : fastRemByNormalizedWord 64 (2 ^ 63 + 12345) (NumModular.invertWord 64 (2 ^ 63 + 12345))
      (natWords 64 (3 ^ 190)) = 3 ^ 190 % (2 ^ 63 + 12345) ∧
    fastRemByNormalizedDword 64 (2 ^ 127 + 99) (NumModular.invertDoubleWord 64 (2 ^ 127 + 99))
      (natWords 64 (3 ^ 190)) = 3 ^ 190 % (2 ^ 127 + 99) ∧ (natWords 64 (3 ^ 190)).length = 5 := by
  refine ⟨by decide +kernel, by decide +kernel, by decide +kernel⟩

/-- **`ConstDivisor::reduce` as the code runs it** (what the driver executes): `rem_word`, the two-step
    `rem_dword` through `shl_dword`, `rem_large` = `fast_rem_by_normalized_(d)word` + the final shift step,
    all through num-modular's mirrored reciprocal dividers, store exactly what the `%`-level model
    stores — for every ring `ConstDivisor::new` builds, every natural and every integer.  Hence every
    theorem above about `reduceInt` is a theorem about `reduceIntK`. -/
theorem reduce_kernels (W id m : Nat) (hW : 0 < W) (r : Ring) (hnew : Ring.new W id m = .ok r) :
    (∀ x : Nat, rawOfNatK W r x = rawOfNat W r x) ∧ (∀ a : Int, reduceIntK W r a = reduceInt W r a) :=
  ⟨rawOfNatK_eq hW hnew, reduceIntK_eq hW hnew⟩

/-- `PreMulInv2by1::{mul,sqr}` / `PreMulInv3by2::{mul,sqr}` through the mirrored `div_rem_2by1 / 4by2`
    (what the driver executes for `*` and `sqr`) = the `%`-level product on valid operands. -/
theorem mul_sqr_kernels (W : Nat) (r : Ring) (hwf : r.WF W) (x y : Nat) (hx : Valid r x) (hy : Valid r y) :
    mulRawK W r x y = mulRaw W r x y ∧ sqrRawK W r x = sqrRaw W r x := by
  obtain ⟨u, hu, rfl⟩ := hx
  obtain ⟨v, hv, rfl⟩ := hy
  exact ⟨mulRawK_eq hwf hu hv, sqrRawK_eq hwf hu⟩

/-- `pow` as the driver executes it (single- and double-word rings: every `sqr` / `mul` of `pow_word` /
    `pow_helper` through the mirrored `div_rem_2by1 / 4by2`; multi-word rings: the windowed loop) is
    the `pow` of `hom_pow`. -/
theorem pow_kernels (W id m : Nat) (hW : 0 < W) (r : Ring) (hnew : Ring.new W id m = .ok r) (a : Int) (e : Nat) :
    (reduceIntK W r a).powK W e = (reduceInt W r a).pow W e := by
  have hwf := Ring.new_wf hW hnew
  rw [reduceIntK_eq hW hnew, reduceInt_eq hwf]
  exact congrArg _ (powRawK_eq hwf (res_lt hwf.mpos a) e)

/-- **the range claim of `inv_large`** (`debug_assert!(inv.is_valid(ring))`): for `0 < rhs < lhs` the
    cofactor magnitude `|b|` that `gcd::gcd_ext_in_place` (Lehmer, C12's mirror) and
    `gcd::gcd_ext_word/_dword` leave in the `lhs` buffer is `< lhs`. -/
theorem inv_large_range (W : Nat) (hW : 0 < W) (lhs rhs : Nat) (h0 : 0 < rhs) (hlt : rhs < lhs) :
    (∀ res, lehmerExt W lhs rhs = .ok res → res.2.1 < lhs) ∧
    (∀ g a bMag bNeg, gcdExtSmall W lhs rhs = .ok (g, a, bMag, bNeg) → bMag < lhs) :=
  ⟨fun res h => lehmerExt_range W hW lhs rhs h0 hlt res h,
   fun _ _ _ _ h => gcdExtSmall_range W h0 hlt h⟩

/-- **`inv_large` is a corollary of C12's `lehmer_gcd_ext_correct` + the range claim**: on every valid
    element of a multi-word ring the mirrored `inv_large` never fails and returns what `inv_spec` is
    about. -/
theorem inv_large_mirror (W : Nat) (r : Ring) (hwf : r.WF W) (hk : r.kind = .large) (x : Nat)
    (hx : Valid r x) : invLarge W r x = .ok (invRaw r x) := by
  obtain ⟨u, hu, rfl⟩ := hx
  exact invLarge_eq hwf hk hu

/-- `inv` and `/` as the driver executes them (mirrored reduce, mirrored `inv_large`, mirrored
    single- and double-word product) are the `inv` and `/` of `inv_spec` / `div_spec`. -/
theorem inv_div_kernels (W id m : Nat) (hW : 0 < W) (r : Ring) (hnew : Ring.new W id m = .ok r) (a b : Int) :
    (reduceIntK W r a).invK W = .ok ((reduceInt W r a).inv) ∧
    (reduceIntK W r a).divK W (reduceIntK W r b) = (reduceInt W r a).div W (reduceInt W r b) := by
  have hwf := Ring.new_wf hW hnew
  have hm := hwf.mpos
  have hinvK : ∀ u, u < r.m → (⟨r, u * 2 ^ r.k⟩ : Elem).invK W = .ok (⟨r, u * 2 ^ r.k⟩ : Elem).inv := fun u hu => by
    unfold Elem.invK Elem.inv
    rw [invRawK_eq hwf hu]
  have hmulK : ∀ t, t < r.m → (⟨r, res r.m a * 2 ^ r.k⟩ : Elem).mulK W ⟨r, t * 2 ^ r.k⟩ =
      (⟨r, res r.m a * 2 ^ r.k⟩ : Elem).mul W ⟨r, t * 2 ^ r.k⟩ := fun t ht => by
    unfold Elem.mulK Elem.mul
    rw [mulRawK_eq hwf (res_lt hm a) ht]
  rw [reduceIntK_eq hW hnew, reduceIntK_eq hW hnew, reduceInt_eq hwf, reduceInt_eq hwf]
  refine ⟨hinvK _ (res_lt hm a), ?_⟩
  unfold Elem.divK Elem.div
  rw [hinvK _ (res_lt hm b), inv_mk hwf]
  cases ht : invm (res r.m b) r.m with
  | none => rfl
  | some t => exact hmulK t ((invm_spec hm).1 t ht).2

/-- non-vacuity of `inv_large_mirror` / `inv_large_range`: a 3-word ring with a shift, residues of one,
    two and three words, invertible and not -/
example : ∃ r, Ring.new 64 0 ((2 ^ 64 + 1) * (2 ^ 100 + 277)) = .ok r ∧ r.kind = .large ∧ r.k ≠ 0 ∧
    Valid r (5 * 2 ^ r.k) ∧ Valid r ((2 ^ 100 + 1) * 2 ^ r.k) ∧ Valid r ((2 ^ 64 + 1) * 3 * 2 ^ r.k) ∧
    invLarge 64 r ((2 ^ 64 + 1) * 3 * 2 ^ r.k) = .ok none ∧
    (match invLarge 64 r ((2 ^ 150 + 3) * 2 ^ r.k) with | .ok (some _) => true | _ => false) = true :=
  ⟨_, rfl, rfl, by decide, by decide, by decide, by decide, by decide +kernel, by decide +kernel⟩

-- ---------------------------------------------------------------- Tie A: decision logic regenerated from integer/src/modular

theorem glue_gt (x y : Int) : GluePrelude.gt_ x y = decide (y < x) := by
  unfold GluePrelude.gt_
  rw [Bool.eq_iff_iff]
  simp [compare_gt_iff_gt]

theorem glue_lt (x y : Int) : GluePrelude.lt_ x y = decide (x < y) := by
  unfold GluePrelude.lt_
  rw [Bool.eq_iff_iff]
  simp [compare_lt_iff_lt]

theorem glue_le (x y : Int) : GluePrelude.le_ x y = decide (x ≤ y) := by
  unfold GluePrelude.le_
  rw [Bool.eq_iff_iff]
  simp [compare_gt_iff_gt]

/-- `mul_normalized` / `sqr_normalized`: the model takes the long division exactly when the test
    regenerated from `integer/src/modular/mul.rs` (`na + nb > n`, `na * 2 > n`) says so. -/
theorem mul_normalized_guard_gen (W : Nat) (r : Ring) (a b : Nat) :
    mulNormalized W r a b =
      (if Gen.Modular.mul_normalized_needs_division r.n (wordLen W a) (wordLen W b) = true
         then (a * b / 2 ^ r.k) % r.M
       else if a * b / 2 ^ r.k ≥ r.M then a * b / 2 ^ r.k - r.M else a * b / 2 ^ r.k) ∧
    Gen.Modular.sqr_normalized_needs_division r.n (wordLen W a) =
      Gen.Modular.mul_normalized_needs_division r.n (wordLen W a) (wordLen W a) := by
  unfold Gen.Modular.mul_normalized_needs_division Gen.Modular.sqr_normalized_needs_division mulNormalized
  simp only [glue_gt, GluePrelude.add_, GluePrelude.mul_, ← Nat.cast_add, Nat.cast_lt, decide_eq_true_eq, mul_two,
    gt_iff_lt, and_self]

/-- `choose_pow_window_len`: the model is the loop over the regenerated cost model, start value, loop
    guard (`window_size + 1 < WORD_BITS.min(usize::BIT_SIZE)`, `usize` of 64 bits) and stop test. -/
theorem choose_pow_window_len_gen (W n : Nat) :
    chooseWindowLen W n =
      chooseWindowLen.go W (fun ws => Gen.Modular.pow_window_cost ws n) W Gen.Modular.pow_window_init ∧
    (∀ ws : Nat, decide (ws + 1 < min W 64) = Gen.Modular.pow_window_continue ws W 64) ∧
    (∀ c c2 : Nat, decide (c ≤ c2) = Gen.Modular.pow_window_stop c c2) := by
  refine ⟨rfl, ?_, ?_⟩
  · intro ws
    unfold Gen.Modular.pow_window_continue
    simp only [glue_lt, GluePrelude.add_, GluePrelude.min]
    exact decide_eq_decide.2 (by omega)
  · intro c c2
    unfold Gen.Modular.pow_window_stop
    rw [glue_le]
    exact decide_eq_decide.2 Int.ofNat_le.symm

/-- `inv_large`: the model's `raw_len` dispatch is the `match raw_len { 0 => None, 1 => gcd_ext_word,
    2 => gcd_ext_dword, _ => gcd_ext_in_place }` regenerated from `integer/src/modular/div.rs`
    (`gcdExtSmall` is C12's model of both `gcd_ext_word` and `gcd_ext_dword`). -/
theorem inv_large_dispatch_gen (W : Nat) (r : Ring) (raw : Nat) :
    (Gen.Modular.inv_large_arm (wordLen W (raw / 2 ^ r.k)) = "None" → invLarge W r raw = .ok none) ∧
    (Gen.Modular.inv_large_arm (wordLen W (raw / 2 ^ r.k)) = "gcd_ext_word" ∨
      Gen.Modular.inv_large_arm (wordLen W (raw / 2 ^ r.k)) = "gcd_ext_dword" →
        invLarge W r raw = match gcdExtSmall W (r.M / 2 ^ r.k) (raw / 2 ^ r.k) with
          | .error k => .error k
          | .ok (g, _, bMag, bNeg) => .ok (invLargeFinish r (g == 1) bMag bNeg)) ∧
    (Gen.Modular.inv_large_arm (wordLen W (raw / 2 ^ r.k)) = "gcd_ext_in_place" →
        invLarge W r raw = match lehmerExt W (r.M / 2 ^ r.k) (raw / 2 ^ r.k) with
          | .error k => .error k
          | .ok (g, bMag, bNeg) => .ok (invLargeFinish r (g == 1) bMag bNeg)) := by
  unfold invLarge
  simp only []
  generalize wordLen W (raw / 2 ^ r.k) = l
  match l with
  | 0 => exact ⟨fun _ => by simp, fun h => by rcases h with h | h <;> exact absurd h (by decide),
      fun h => absurd h (by decide)⟩
  | 1 | 2 =>
    refine ⟨fun h => absurd h (by decide), fun _ => ?_, fun h => absurd h (by decide)⟩
    simp only [Nat.succ_ne_zero, if_false, Nat.one_le_ofNat, Nat.le_refl, if_true]
    cases gcdExtSmall W (r.M / 2 ^ r.k) (raw / 2 ^ r.k) with
    | error k => rfl
    | ok v => obtain ⟨g, a, bm, bn⟩ := v; rfl
  | j + 3 =>
    have e : Gen.Modular.inv_large_arm (j + 3) = "gcd_ext_in_place" := rfl
    rw [e]
    refine ⟨fun h => absurd h (by decide), fun h => by rcases h with h | h <;> exact absurd h (by decide),
      fun _ => ?_⟩
    have h3 : ¬ j + 3 ≤ 2 := by omega
    simp only [Nat.succ_ne_zero, if_false, h3]
    cases lehmerExt W (r.M / 2 ^ r.k) (raw / 2 ^ r.k) with
    | error k => rfl
    | ok v => obtain ⟨g, bm, bn⟩ := v; rfl

/-- `inv_large`, multi-word arm: the regenerated "gcd is one" test `g_len == 1 && raw[0] == 1` on the word
    length and the lowest word of `g` is `g == 1` (what the model tests). -/
theorem inv_large_gcd_is_one_gen (W : Nat) (hW : 0 < W) (g : Nat) :
    Gen.Modular.inv_large_gcd_is_one (wordLen W g) ((g % 2 ^ W : Nat) : Int) = (g == 1) := by
  unfold Gen.Modular.inv_large_gcd_is_one
  simp only [GluePrelude.eq_]
  rw [Bool.eq_iff_iff]
  simp only [Bool.and_eq_true, decide_eq_true_eq, beq_iff_eq]
  have h1 : (1 : Nat) < 2 ^ W := Nat.one_lt_two_pow (by omega)
  constructor
  · rintro ⟨hl, hlow⟩
    have hl' : wordLen W g = 1 := by exact_mod_cast hl
    have hlt := lt_two_pow_wordLen hW g
    rw [hl', Nat.mul_one] at hlt
    have : g % 2 ^ W = 1 := by exact_mod_cast hlow
    rw [Nat.mod_eq_of_lt hlt] at this
    exact this
  · rintro rfl
    have hle : wordLen W 1 ≤ 1 := wordLen_le_of_lt hW (by rw [Nat.mul_one]; exact h1)
    have hge : wordLen W 1 ≠ 0 := by
      intro h0
      have := lt_two_pow_wordLen hW 1
      rw [h0] at this; simp at this
    have : wordLen W 1 = 1 := by omega
    rw [this, Nat.mod_eq_of_lt h1]
    exact ⟨rfl, rfl⟩

end Dashu.Props.C13
