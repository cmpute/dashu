import Dashu.Gen.SizeGuards
import Dashu.Gen.Scratch
import Dashu.Model.Panic.Guards5
import Dashu.Model.Trans.Powi
/-
  Tie A theorems for C16: the size arithmetic in front of the allocations of `pow_word_base`, `pow_dword_base`
  (`Gen/Scratch.lean`, regenerated from integer/src/pow.rs), `Repr::from_chunks`, `max_exp_in_word` and the rational
  `Repr::to_float`, the float `Context::powi` working precisions (`Gen/SizeGuards.lean`, regenerated from convert.rs / math.rs /
  dashu_float.rs / exp.rs on this run) equal the definitions that `Model/Panic/Guards5.lean` mirrors by hand — the ones the
  driver executes and `Props/C16.lean` proves (S1)/(S2) about.  A changed factor, offset, comparison or assertion in the Rust text changes the regenerated
  definition and these theorems stop checking.  Core Lean only.
-/
namespace Dashu.Props.C16Gen
open Dashu.Spec.Panics Dashu.Model.Panic Dashu.Gen.SizeGuards Dashu.Gen.Scratch

/-- `pow_word_base`: the three paths (`exp < wexp`, `exp < 2·wexp`, buffer loop) and `Buffer::allocate(exp / wexp + 1)` -/
theorem pow_word_request_is_generated (W base e : Nat) :
    powWordRequest W base e =
      (if pow_word_base_path e (maxExpInWord W base).1 < 2 then none
       else some (pow_word_base_buffer_words (e / (maxExpInWord W base).1))) := by
  unfold powWordRequest pow_word_base_path pow_word_base_buffer_words
  by_cases h1 : e < (maxExpInWord W base).1
  · have h2 : e < 2 * (maxExpInWord W base).1 := by omega
    simp [h1, h2]
  · by_cases h2 : e < 2 * (maxExpInWord W base).1 <;> simp [h1, h2]

/-- `pow_dword_base`: `Buffer::allocate(exp.checked_mul(2))` -/
theorem pow_dword_request_is_generated (e : Nat) :
    powDwordRequest e = some (pow_dword_base_buffer_words e) := by
  unfold powDwordRequest pow_dword_base_buffer_words
  rw [Nat.mul_comm]

/-- `max_exp_in_word`: the loop of the model is the regenerated step, iterated -/
theorem max_exp_loop_is_generated (W base fuel e p : Nat) :
    maxExpLoop W base (fuel + 1) e p =
      (match max_exp_step W base e p with
       | some (e', p') => maxExpLoop W base fuel e' p'
       | none => (e, p)) := by
  unfold max_exp_step
  by_cases h : p * base < 2 ^ W
  · simp [maxExpLoop, h]
  · simp [maxExpLoop, h]

/-- `max_exp_in_word`: shortcut test and start exponent as regenerated (for a base that fits the word) -/
theorem max_exp_in_word_is_generated (W base : Nat) (hfit : bitLen base ≤ W) :
    maxExpInWord W base =
      (if max_exp_shortcut W base then (1, base)
       else maxExpLoop W base W (max_exp_start bitLen W base) (base ^ max_exp_start bitLen W base)) := by
  unfold maxExpInWord max_exp_shortcut max_exp_start
  have : W - (W - bitLen base) = bitLen base := by omega
  rw [this]
  by_cases h : base > 2 ^ (W / 2) - 1 <;> simp [h]

/-- `Repr::from_chunks`: `result_len` -/
theorem from_chunks_len_is_generated (W k : Nat) (cs : List Nat) :
    fromChunksLen W k cs = from_chunks_result_len ((cs.map (wordLen W)).foldl max 0) cs.length k := by
  unfold fromChunksLen from_chunks_result_len
  rfl

/-- `Repr::from_chunks`: the assertion is the first statement and the reservation follows (when the arithmetic fits) -/
theorem from_chunks_guard_is_generated (W k : Nat) (cs : List Nat) (hne : cs ≠ [])
    (hfit : ¬ (from_chunks_result_len ((cs.map (wordLen W)).foldl max 0) cs.length k > usizeMax)) :
    guardFromChunksSize W k cs =
      some (if from_chunks_assert k then
              guardAllocWords W (from_chunks_result_len ((cs.map (wordLen W)).foldl max 0) cs.length k)
            else .error .zeroChunkBits) := by
  unfold guardFromChunksSize from_chunks_assert
  rw [← from_chunks_len_is_generated] at *
  by_cases hk : k = 0
  · simp [hk]
  · have : k > 0 := by omega
    simp [hk, hne, hfit, this]

/-- rational `Repr::to_float`: the bare assertion -/
theorem to_float_assert_is_generated (p : Nat) : qToFloatAssertFails p = ! to_float_assert p := by
  unfold qToFloatAssertFails to_float_assert
  by_cases h : p = 0
  · simp [h]
  · have : p > 0 := by omega
    simp [h, this]

/-- rational `Repr::to_float` since fix 43925c0: `need_digits = precision.saturating_add(den_digits)` is the one value both
    the no-scaling test and `shift` use (before the fix: the unchecked sum, finding to_float_precision_overflow) -/
theorem to_float_shift_is_generated (p nd dd : Nat) :
    to_float_need_digits usizeMax p dd = qToFloatNeedDigits p dd ∧
    to_float_no_scaling usizeMax p nd dd = decide (nd ≥ qToFloatNeedDigits p dd) ∧
    to_float_shift usizeMax p nd dd = qToFloatShift p nd dd := by
  unfold to_float_no_scaling to_float_shift to_float_need_digits qToFloatShift qToFloatNeedDigits
  exact ⟨rfl, rfl, rfl⟩

/-- no `usize` value is exceeded: for machine arguments `need_digits` and `shift` are machine numbers, and
    `need_digits` is the true sum whenever that fits (so the repaired code differs from exact arithmetic only where the
    scaled numerator could not be allocated anyway: `shift ≥ usize::MAX − num_digits` digits) -/
theorem to_float_need_digits_in_usize (p nd dd : Nat) :
    to_float_need_digits usizeMax p dd ≤ usizeMax ∧ to_float_shift usizeMax p nd dd ≤ usizeMax ∧
    (p + dd ≤ usizeMax → to_float_need_digits usizeMax p dd = p + dd) ∧
    (usizeMax < p + dd → to_float_need_digits usizeMax p dd = usizeMax) := by
  unfold to_float_shift to_float_need_digits
  refine ⟨Nat.min_le_right _ _, Nat.le_trans (Nat.sub_le _ _) (Nat.min_le_right _ _), ?_, ?_⟩
  · intro h; exact Nat.min_eq_left h
  · intro h; exact Nat.min_eq_right (Nat.le_of_lt h)

example : to_float_shift usizeMax usizeMax 0 1 = usizeMax := by decide   -- RBig 1/10 at precision usize::MAX (the witness of finding to_float_precision_overflow)

/-- `Context::powi` (float/src/exp.rs): the two working precisions `precision + guard_bits` (negative exponent) and
    `precision + guard_digits`, regenerated from the source text, are the mirrored ones `fPowiPrecisionFits` tests -/
theorem powi_precision_is_generated (p e : Nat) :
    powi_rev_precision bitLen p = fPowiRevPrecision p ∧ powi_work_precision bitLen p e = fPowiWorkPrecision p e :=
  ⟨rfl, rfl⟩

/-- link to C11: the working precision is the one C11's model of the non-negative branch (`Model/Trans/Powi.lean`, the subject
    of C11's error theorem) runs its loop at -/
theorem powi_work_precision_is_c11s (p e : Nat) (he : 1 ≤ e) :
    fPowiWorkPrecision p e = Dashu.Model.Trans.powiWorkPrec p (Dashu.Model.Trans.lowBits e) := by
  unfold fPowiWorkPrecision Dashu.Model.Trans.powiWorkPrec Dashu.Model.Trans.lowBits
  have hb : Dashu.Model.Trans.bitLen e = bitLen e := rfl
  have hp : Dashu.Model.Trans.bitLen p = bitLen p := rfl
  have h1 : 1 ≤ bitLen e := by
    unfold bitLen; have : e ≠ 0 := by omega
    simp [this]
  simp only [List.length_map, List.length_reverse, List.length_range, hb, hp]
  omega

example : from_chunks_result_len 1 3 8 = 18 := by decide
example : max_exp_shortcut 64 (2 ^ 32) = true ∧ max_exp_shortcut 64 (2 ^ 32 - 1) = false := by decide
example : max_exp_start bitLen 64 10 = 16 := by decide

end Dashu.Props.C16Gen
