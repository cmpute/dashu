import Dashu.Props.C03
import Dashu.Proofs.NT.Root
/-
  C03 ↔ C12: the float square root composed with the mirrored integer kernel `UBig::sqrt_rem`
  (`Dashu.Model.NT.sqrtRemRepr`, Model/NT/Root.lean; the primitive word/double-word `sqrt_rem` and the
  Karatsuba kernel are frontier there, `sqrt_rem_large`'s normalisation and de-normalisation are
  mirrored and proved).  Kept apart from `Props/C03.lean` so that C03's own theorems do not depend on
  the files of the integer roots.
-/
namespace Dashu.Props.C03Link
open Dashu Dashu.Model.Float Dashu.Model.NT

/-- `TypedReprRef::sqrt_rem` (every even word size) meets the contract the float code relies on -/
theorem sqrtRemRepr_ok (W : Nat) (hW : 0 < W) (hWe : W % 2 = 0) : SqrtRemOk (sqrtRemRepr W true) := by
  intro n
  have h : IsRoot n 2 (sqrtRemRepr W true n).1 ∧
      (sqrtRemRepr W true n).1 * (sqrtRemRepr W true n).1 + (sqrtRemRepr W true n).2 = n := by
    unfold sqrtRemRepr
    split
    · have h := iroot_spec n 2 (by decide)
      exact ⟨h, Nat.add_sub_of_le (by rw [← Nat.pow_two]; exact h.1)⟩
    · exact sqrtRemLarge_spec W hW hWe _ sqrtRemKernelFrontier_contract n
  obtain ⟨⟨h1, h2⟩, h3⟩ := h
  simp only [Nat.pow_two] at h1 h2
  exact ⟨h1, h2, h3⟩

/-- **`Context::sqrt` over the mirrored `UBig::sqrt_rem`** honours `ContractSqrt`, for every even word size -/
theorem sqrt_contract_over_sqrt_rem (W : Nat) (hW : 0 < W) (hWe : W % 2 = 0) (B : Nat) (hB : 2 ≤ B) (m : Mode)
    (c : Coarse) (p : Nat) (hp : 1 ≤ p) (x : FRepr) (hs : 0 ≤ x.signif) :
    ∃ r, ctxSqrt B m c (sqrtRemRepr W true) p x = .ok r ∧ ContractSqrt B m p (x.toRat B) (r.1.toRat B) r.2 :=
  Dashu.Props.C03.sqrt_contract B hB m c _ (sqrtRemRepr_ok W hW hWe) p hp x hs

/-- the Exact flag of `Context::sqrt` over the mirrored `UBig::sqrt_rem`: `Exact` iff the mirrored kernel's remainder of the
    scaled significand is zero AND the scaling discarded only zero digits (`Props/C03.sqrt_exact_flag_iff`) -/
theorem sqrt_exact_flag_over_sqrt_rem (W : Nat) (hW : 0 < W) (hWe : W % 2 = 0) (B : Nat) (hB : 2 ≤ B) (m : Mode)
    (c : Coarse) (p : Nat) (hp : 1 ≤ p) (x : FRepr) (hs : 0 ≤ x.signif) :
    ∃ r, ctxSqrt B m c (sqrtRemRepr W true) p x = .ok r ∧
      (r.2 = none ↔ ((sqrtRemRepr W true (sqrtScale B p x).1.natAbs).2 = 0 ∧ (sqrtScale B p x).2.1 = 0)) :=
  Dashu.Props.C03.sqrt_exact_flag_iff B hB m c _ (sqrtRemRepr_ok W hW hWe) p hp x hs

/-- the `sqrt_rem` contract determines the function: the root is the integer square root, the remainder what is left -/
theorem sqrtRemOk_unique {f g : Nat → Nat × Nat} (hf : SqrtRemOk f) (hg : SqrtRemOk g) (n : Nat) : f n = g n := by
  obtain ⟨a1, a2, a3⟩ := hf n
  obtain ⟨b1, b2, b3⟩ := hg n
  simp only [← Nat.pow_two] at a1 a2 b1 b2
  have hroot : (f n).1 = (g n).1 := IsRoot.unique (by decide) ⟨a1, a2⟩ ⟨b1, b2⟩
  rw [hroot] at a3
  exact Prod.ext hroot (Nat.add_left_cancel (a3.trans b3.symm))

/-- both kernels meet the contract, hence return the same root and remainder: the driver's `Nat.sqrt`
    run is a run of the mirrored kernel -/
theorem kernels_agree (W : Nat) (hW : 0 < W) (hWe : W % 2 = 0) (n : Nat) : sqrtRemRepr W true n = natSqrtRem n :=
  sqrtRemOk_unique (sqrtRemRepr_ok W hW hWe) natSqrtRem_ok n

/-- the hypotheses of the three link theorems are met by the word sizes the library is built for, on a non-trivial operand:
    `√401` at one decimal digit over the mirrored 64-bit kernel (perfect-square prefix, discarded digits `01`) -/
example : 0 < 64 ∧ 64 % 2 = 0 ∧ 0 < 32 ∧ 32 % 2 = 0 ∧ (2 : Nat) ≤ 10 ∧ 1 ≤ 1 ∧ (0 : Int) ≤ (⟨401, 0⟩ : FRepr).signif ∧
    (sqrtScale 10 1 ⟨401, 0⟩).2.1 ≠ 0 := by decide +kernel

end Dashu.Props.C03Link
