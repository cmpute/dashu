import Dashu.Proofs.Int.DivSign
import Dashu.Proofs.Int.NumModular
import Dashu.Proofs.Int.NumModularContract
import Dashu.Proofs.Int.DivMemory
import Dashu.Proofs.Int.PrimDiv
import Dashu.Props.GenInt
import Dashu.Props.C15
/-
  C02 — Integer division obeys the division identity with documented conventions; division
  through a prepared ConstDivisor gives the same quotient and remainder as plain division;
  division by zero panics.

  Every statement quantifies over all word sizes `W ≥ 1` and all operand lengths; operands are
  canonical magnitudes (`TRepr.Canon W`) / well-formed signed values (`SRepr.WF W`), word lists
  are `IsWords W`.  The definitions are the ones `drive_div` executes (`Dashu/Model/Int/Div.lean`).

  Structure:
  * §1 conventions: what `Int.tdiv/tmod` and `Int.ediv/emod` mean (identity, range, sign);
  * §2 kernels: word / double-word divisors, Knuth D step and loop, Burnikel–Ziegler (with
        C01's proved multiplication; theorems through it need `4 ≤ W`), multi-word division;
  * §3 dispatch: `/`, `%`, `div_rem` on magnitudes = `Nat` `/ %`, zero divisor = DivideByZero;
  * §4 sign tables: every IBig / mixed form of the model returns what the glue REGENERATED from /repo
        (`Dashu.Gen`, Tie A; its meaning is proved in `Dashu.Props.GenInt`) computes on signs and magnitudes, i.e.
        `Int.tdiv/tmod` resp. `Int.ediv/emod` of the values (`Proofs/Int/Div`); zero divisor = DivideByZero;
  * §5 ConstDivisor = plain division;
  * §6 the num-modular dividers (Möller–Granlund 2-by-1, 3-by-2, reciprocals) mirrored and proved
        equal to floor division: the division model's contract parameters are discharged;
  * §7 `div::memory_requirement_exact` suffices for every scratch allocation of a division;
  * §8 the primitive kernels of base/src/ring/div_rem.rs on every machine integer type.
-/
namespace Dashu.Props.C02
open Dashu Dashu.Model Dashu.Model.Div Dashu.Gen Dashu.GluePrelude

-- ================================================================== §1 conventions

/-- truncating division: identity, `|r| < |b|`, `r = 0` or `sign r = sign a` -/
theorem truncating_conventions (a b : Int) (hb : b ≠ 0) :
    a = Int.tdiv a b * b + Int.tmod a b ∧ (Int.tmod a b).natAbs < b.natAbs ∧
    (Int.tmod a b = 0 ∨ (Int.tmod a b).sign = a.sign) := by
  refine ⟨by rw [Int.mul_comm]; exact (Int.mul_tdiv_add_tmod a b).symm, ?_, ?_⟩
  · rw [Int.natAbs_tmod]; exact Nat.mod_lt _ (Int.natAbs_pos.mpr hb)
  · have h := Int.sign_tmod a b
    by_cases hd : b ∣ a
    · left; rw [if_pos hd] at h; exact Int.sign_eq_zero_iff_zero.mp h
    · right; rw [if_neg hd] at h; exact h

/-- Euclidean division: identity and `0 ≤ r < |b|` -/
theorem euclidean_conventions (a b : Int) (hb : b ≠ 0) :
    a = (a / b) * b + a % b ∧ 0 ≤ a % b ∧ a % b < (b.natAbs : Int) :=
  ⟨by rw [Int.mul_comm]; exact (Int.mul_ediv_add_emod a b).symm, Int.emod_nonneg a hb, Int.emod_lt a hb⟩

-- ================================================================== §2 kernels

/-- `div_by_word_in_place` (power-of-two shortcut, normalisation shift, remainder un-shift):
    exact division of a slice by a non-zero word -/
theorem div_by_word_exact (W rhs : Nat) (ws : List Nat) (h : IsWords W ws)
    (hrhs : 0 < rhs) (hlt : rhs < 2 ^ W) :
    ∃ qs r, divByWordInPlace W ws rhs = .ok (qs, r) ∧
      val W qs * rhs + r = val W ws ∧ r < rhs ∧ qs.length = ws.length ∧ IsWords W qs :=
  divByWordInPlace_spec W rhs ws h hrhs hlt

/-- `div_by_dword_in_place` (power-of-two path for 2^W..2^(2W−1), 3by2/4by2 chain, odd leftover
    word): exact division of a slice (≥ 2 words) by a double-word divisor -/
theorem div_by_dword_exact (W rhs : Nat) (hW : 1 ≤ W) (ws : List Nat) (h : IsWords W ws)
    (hlen : 2 ≤ ws.length) (hge : 2 ^ W ≤ rhs) (hlt : rhs < 2 ^ (2 * W)) :
    ∃ qs r, divByDwordInPlace W ws rhs = .ok (qs, r) ∧
      val W qs * rhs + r = val W ws ∧ r < rhs ∧ qs.length = ws.length ∧ IsWords W qs :=
  divByDwordInPlace_spec W rhs hW ws h hlen hge hlt

/-- `rem_by_word` -/
theorem rem_by_word_exact (W rhs : Nat) (ws : List Nat) (h : IsWords W ws) (hne : ws ≠ [])
    (hrhs : 0 < rhs) (hlt : rhs < 2 ^ W) : remByWord W ws rhs = .ok (val W ws % rhs) :=
  remByWord_spec W rhs ws h hne hrhs hlt

/-- `rem_by_dword` -/
theorem rem_by_dword_exact (W rhs : Nat) (hW : 1 ≤ W) (ws : List Nat) (h : IsWords W ws)
    (hlen : 2 ≤ ws.length) (hge : 2 ^ W ≤ rhs) (hlt : rhs < 2 ^ (2 * W)) :
    remByDword W ws rhs = .ok (val W ws % rhs) :=
  remByDword_spec W rhs hW ws h hlen hge hlt

/-- Knuth D, one step (`div_rem_highest_word`): with a normalised divisor the 3-by-2 estimate (or
    `B − 1`) is never too small and too large by at most one, the `borrow > lhs_top` test detects
    exactly the too-large case, the add-back carries, and both `debug_assert!`s hold -/
theorem knuth_step_exact (W : Nat) (hW : 1 ≤ W) (lhsTop : Nat) (lhsLo rhs : List Nat)
    (hn : 2 ≤ rhs.length) (hL : rhs.length ≤ lhsLo.length)
    (hlo : IsWords W lhsLo) (hr : IsWords W rhs)
    (hnorm : 2 ^ (W * rhs.length) ≤ 2 * val W rhs)
    (hA : val W (lhsLo.drop (lhsLo.length - rhs.length)) + lhsTop * 2 ^ (W * rhs.length)
        < val W rhs * 2 ^ W) :
    ∃ q win', divRemHighestWord W lhsTop lhsLo rhs (highestDword W rhs)
        = .ok (q, lhsLo.take (lhsLo.length - rhs.length) ++ win') ∧
      q < 2 ^ W ∧ win'.length = rhs.length ∧ IsWords W win' ∧ val W win' < val W rhs ∧
      q * val W rhs + val W win'
        = val W (lhsLo.drop (lhsLo.length - rhs.length)) + lhsTop * 2 ^ (W * rhs.length) :=
  divRemHighestWord_spec W hW lhsTop lhsLo rhs hn hL hlo hr hnorm hA

/-- `simple::div_rem_in_place` (Knuth D): lhs becomes [lhs % rhs, lhs / rhs], quotient carry ≤ 1 -/
theorem simple_div_rem_exact (W : Nat) (hW : 1 ≤ W) (lhs rhs : List Nat) (hn : 2 ≤ rhs.length)
    (hm : rhs.length ≤ lhs.length) (hl : IsWords W lhs) (hr : IsWords W rhs)
    (hnorm : 2 ^ (W * rhs.length) ≤ 2 * val W rhs) :
    ∃ out c, simpleDivRemInPlace W lhs rhs (highestDword W rhs) = .ok (out, c) ∧
      out.length = lhs.length ∧ IsWords W out ∧ c ≤ 1 ∧ val W (out.take rhs.length) < val W rhs ∧
      (val W (out.drop rhs.length) + c * 2 ^ (W * (lhs.length - rhs.length))) * val W rhs
        + val W (out.take rhs.length) = val W lhs :=
  simpleDivRemInPlace_spec W hW lhs rhs hn hm hl hr hnorm

/-- `divide_conquer::div_rem_in_place` (Burnikel–Ziegler: the block loop, `same_len` = two
    `small_quotient` calls, the quotient estimate from the top `m` divisor words, the
    `add_signed_mul` / conditional `sub_same_len` update and the `while rem_overflow < 0` correction
    loop — which terminates within the model's fuel — and all its `assert!`/`debug_assert!`s):
    lhs becomes [lhs % rhs, lhs / rhs] with quotient carry ≤ 1.  The multiplication it calls is
    C01's mirrored `addSignedMul` (schoolbook / Karatsuba / Toom-3), discharged by
    `addSignedMul_contract` — no hypothesis about multiplication remains (`4 ≤ W` comes from there). -/
theorem burnikel_ziegler_exact (W : Nat) (hW : 1 ≤ W) (hW4 : 4 ≤ W) (lhs rhs : List Nat)
    (hn : thresholdSimple < rhs.length) (hm : rhs.length + thresholdSimple < lhs.length)
    (hl : IsWords W lhs) (hr : IsWords W rhs) (hnorm : 2 ^ (W * rhs.length) ≤ 2 * val W rhs) :
    ∃ out c, bzDivRemInPlace W lhs rhs (highestDword W rhs) = .ok (out, c) ∧
      out.length = lhs.length ∧ IsWords W out ∧ c ≤ 1 ∧ val W (out.take rhs.length) < val W rhs ∧
      (val W (out.drop rhs.length) + c * 2 ^ (W * (lhs.length - rhs.length))) * val W rhs
        + val W (out.take rhs.length) = val W lhs :=
  bzDivRemInPlace_spec W hW hW4 lhs rhs hn hm hl hr hnorm

/-- `div_rem_large` / `div_large` / `rem_large` (normalize, shifted dividend with `q_top`,
    in-place division, remainder shift-back with its `debug_assert_zero!`, `erase_front`):
    exact quotient and remainder, canonical results -/
theorem div_rem_large_exact (W : Nat) (hW : 1 ≤ W) (hW4 : 4 ≤ W) (lhs rhs : List Nat) (hl : IsWords W lhs)
    (hr : IsWords W rhs) (hn : 2 ≤ rhs.length) (hm : rhs.length ≤ lhs.length)
    (htop : rhs.getD (rhs.length - 1) 0 ≠ 0) :
    (∃ q r, divRemLarge W lhs rhs = .ok (q, r) ∧ q.value W = val W lhs / val W rhs ∧
      r.value W = val W lhs % val W rhs ∧ q.Canon W ∧ r.Canon W) ∧
    (∃ q, divLarge W lhs rhs = .ok q ∧ q.value W = val W lhs / val W rhs ∧ q.Canon W) ∧
    (∃ r, remLarge W lhs rhs = .ok r ∧ r.value W = val W lhs % val W rhs ∧ r.Canon W) :=
  have ⟨e, ed, er⟩ := large_eq W hW hW4 lhs rhs hl hr hn hm htop
  have ⟨vq, cq⟩ := ofNat_spec W hW (val W lhs / val W rhs)
  have ⟨vr, cr⟩ := ofNat_spec W hW (val W lhs % val W rhs)
  ⟨⟨_, _, e, vq, vr, cq, cr⟩, ⟨_, ed, vq, cq⟩, ⟨_, er, vr, cr⟩⟩

-- ================================================================== §3 dispatch (UBig forms)

/-- `UBig::div_rem` / `div_rem_euclid` / `div_rem_assign`: `(a / b, a % b)`; `b = 0` panics with
    the documented divide-by-zero message -/
theorem ubig_div_rem_exact (W : Nat) (hW : 1 ≤ W) (hW4 : 4 ≤ W) (a b : TRepr) (ha : a.Canon W) (hb : b.Canon W) :
    (b.value W = 0 → divRemRepr W a b = .error .divideByZero) ∧
    (b.value W ≠ 0 → ∃ q r, divRemRepr W a b = .ok (q, r) ∧ q.value W = a.value W / b.value W ∧
      r.value W = a.value W % b.value W ∧ q.Canon W ∧ r.Canon W) := by
  rw [(repr_eq W hW hW4 a b ha hb).1]
  have ⟨vq, cq⟩ := ofNat_spec W hW (a.value W / b.value W)
  have ⟨vr, cr⟩ := ofNat_spec W hW (a.value W % b.value W)
  exact ⟨fun h0 => if_pos h0, fun hne => ⟨_, _, if_neg hne, vq, vr, cq, cr⟩⟩

/-- `UBig / UBig`, `div_euclid`, `/=` -/
theorem ubig_div_exact (W : Nat) (hW : 1 ≤ W) (hW4 : 4 ≤ W) (a b : TRepr) (ha : a.Canon W) (hb : b.Canon W) :
    (b.value W = 0 → divRepr W a b = .error .divideByZero) ∧
    (b.value W ≠ 0 → ∃ q, divRepr W a b = .ok q ∧ q.value W = a.value W / b.value W ∧ q.Canon W) := by
  rw [(repr_eq W hW hW4 a b ha hb).2.1]
  exact ⟨fun h0 => if_pos h0, fun hne => ⟨_, if_neg hne, ofNat_spec W hW _⟩⟩

/-- `UBig % UBig`, `rem_euclid`, `%=` (a separate code path: `rem_by_word` / `rem_by_dword`) -/
theorem ubig_rem_exact (W : Nat) (hW : 1 ≤ W) (hW4 : 4 ≤ W) (a b : TRepr) (ha : a.Canon W) (hb : b.Canon W) :
    (b.value W = 0 → remRepr W a b = .error .divideByZero) ∧
    (b.value W ≠ 0 → ∃ r, remRepr W a b = .ok r ∧ r.value W = a.value W % b.value W ∧ r.Canon W) := by
  rw [(repr_eq W hW hW4 a b ha hb).2.2]
  exact ⟨fun h0 => if_pos h0, fun hne => ⟨_, if_neg hne, ofNat_spec W hW _⟩⟩

/-- the division identity for the unsigned forms, spelled out -/
theorem ubig_division_identity (W : Nat) (hW : 1 ≤ W) (hW4 : 4 ≤ W) (a b : TRepr) (ha : a.Canon W) (hb : b.Canon W)
    (hne : b.value W ≠ 0) :
    ∃ q r, divRemRepr W a b = .ok (q, r) ∧
      a.value W = q.value W * b.value W + r.value W ∧ r.value W < b.value W := by
  refine ⟨_, _, (repr_eq W hW hW4 a b ha hb).1.trans (if_neg hne), ?_, ?_⟩
  · rw [ofNat_value W hW, ofNat_value W hW, Nat.mul_comm]; exact (Nat.div_add_mod _ _).symm
  · rw [ofNat_value W hW]; exact Nat.mod_lt _ (Nat.pos_of_ne_zero hne)

/-- `UBig::is_multiple_of`: true exactly when the remainder is zero; a zero divisor panics -/
theorem ubig_is_multiple_of_exact (W : Nat) (hW : 1 ≤ W) (hW4 : 4 ≤ W) (a b : TRepr) (ha : a.Canon W) (hb : b.Canon W) :
    (b.value W = 0 → ubigIsMultipleOf W a b = .error .divideByZero) ∧
    (b.value W ≠ 0 → ubigIsMultipleOf W a b = .ok (decide (a.value W % b.value W = 0))) := by
  unfold ubigIsMultipleOf
  rw [(repr_eq W hW hW4 a b ha hb).2.2]
  exact ⟨fun h0 => by rw [if_pos h0]; rfl, fun hne => by rw [if_neg hne]; exact congrArg Except.ok (ofNat_isZero W _)⟩

/-- `UBig::is_multiple_of_const` / `IBig::is_multiple_of_const` (`is_multiple_of_dword`) for a
    non-zero double-word divisor -/
theorem is_multiple_of_const_exact (W : Nat) (hW : 1 ≤ W) (a : TRepr) (d : Nat) (ha : a.Canon W)
    (hd0 : d ≠ 0) (hd : d < 2 ^ (2 * W)) :
    isMultipleOfDword W a d = .ok (decide (a.value W % d = 0)) := by
  unfold isMultipleOfDword
  rw [if_neg hd0]
  cases a with
  | small x => split <;> rfl
  | large ws =>
    -- either remainder kernel returns `val W ws % d`
    split
    · next hw =>
      simp only [remByWord_spec W d ws ha.large_words ha.large_ne_nil (Nat.pos_of_ne_zero hd0) hw]; rfl
    · next hw =>
      have hlen : 2 ≤ ws.length := by have := ha.large_len; omega
      simp only [remByDword_spec W d hW ws ha.large_words hlen (Nat.le_of_not_lt hw) hd]; rfl

/-- `is_multiple_of_const(0)`: the documented divide-by-zero panic, for every dividend (canonical or not) -/
theorem is_multiple_of_const_zero (W : Nat) (a : TRepr) :
    isMultipleOfDword W a 0 = .error .divideByZero := by
  unfold isMultipleOfDword
  rw [if_pos rfl]

-- ================================================================== §4 sign tables

/-- the `Sign` of the regenerated glue for the model's `neg` flag -/
def sgn (neg : Bool) : Sign := if neg then .Negative else .Positive

theorem sgn_apply (neg : Bool) (m : Int) : (if neg then -m else m) = (sgn neg).apply m := by
  cases neg <;> rfl

theorem srepr_value (W : Nat) (r : SRepr) : r.value W = (sgn r.neg).apply (r.mag.value W : Int) := by
  unfold SRepr.value; cases r.neg <;> rfl

theorem mag_pos {W : Nat} {b : SRepr} (hne : ¬ b.value W = 0) : (0 : Int) < (b.mag.value W : Int) :=
  Int.natCast_pos.mpr (Nat.pos_of_ne_zero (mt (srepr_value_zero_iff W b).mpr hne))

theorem cast_mod_zero (m n : Nat) : decide ((m : Int) % (n : Int) = 0) = decide (m % n = 0) := by
  apply decide_eq_decide.mpr
  rw [← Int.natCast_emod]; exact Int.natCast_eq_zero

/-- the result of a route for a non-zero divisor, read through an equal value -/
theorem ite_ok_congr {β : Type} {c : Prop} [Decidable c] {e : Except PanicKind β} {u v : β}
    (h : ¬ c → u = v) : (if c then e else .ok u) = if c then e else .ok v := by
  split
  · rfl
  · next hc => rw [h hc]

/-
  Each form of the model (`Proofs/Int/Div`: `ibigDiv_eq` … give its result as `Int.tdiv/tmod` resp. `Int` `/ %` of
  the values) returns what the glue REGENERATED from /repo computes on signs and magnitudes (`Dashu.Gen`, whose
  meaning is proved in `Dashu.Props.GenInt`); a zero divisor panics.
-/

/-- `IBig / IBig` (and `IBig / UBig`, `UBig / IBig`, `/=`): the regenerated `impl_ibig_div`, truncating division -/
theorem ibig_div_exact (W : Nat) (hW : 1 ≤ W) (hW4 : 4 ≤ W) (a b : SRepr) (ha : a.WF W) (hb : b.WF W) :
    ibigDiv W a b = (if b.value W = 0 then .error .divideByZero else .ok (SRepr.ofInt W
      (impl_ibig_div (sgn a.neg) (a.mag.value W) (sgn b.neg) (b.mag.value W)))) :=
  (ibigDiv_eq W hW hW4 a b ha hb).trans <| ite_ok_congr fun hne => by
    rw [GenInt.ibig_div_exact _ _ _ _ (Int.natCast_nonneg _) (mag_pos hne), ← srepr_value, ← srepr_value]

/-- `IBig % IBig` (and `IBig % UBig`, `%=`): the regenerated `impl_ibig_rem`, remainder with the sign of the dividend -/
theorem ibig_rem_exact (W : Nat) (hW : 1 ≤ W) (hW4 : 4 ≤ W) (a b : SRepr) (ha : a.WF W) (hb : b.WF W) :
    ibigRem W a b = (if b.value W = 0 then .error .divideByZero else .ok (SRepr.ofInt W
      (impl_ibig_rem (sgn a.neg) (a.mag.value W) (sgn b.neg) (b.mag.value W)))) :=
  (ibigRem_eq W hW hW4 a b ha hb).trans <| ite_ok_congr fun hne => by
    rw [GenInt.ibig_rem_exact _ _ _ _ (Int.natCast_nonneg _) (mag_pos hne), ← srepr_value, ← srepr_value]

/-- `IBig::div_rem` (and `IBig.div_rem(UBig)`, `div_rem_assign`): the regenerated `impl_ibig_divrem` -/
theorem ibig_div_rem_exact (W : Nat) (hW : 1 ≤ W) (hW4 : 4 ≤ W) (a b : SRepr) (ha : a.WF W) (hb : b.WF W) :
    ibigDivRem W a b = (if b.value W = 0 then .error .divideByZero else .ok
      (SRepr.ofInt W (impl_ibig_divrem (sgn a.neg) (a.mag.value W) (sgn b.neg) (b.mag.value W)).1,
       SRepr.ofInt W (impl_ibig_divrem (sgn a.neg) (a.mag.value W) (sgn b.neg) (b.mag.value W)).2)) :=
  (ibigDivRem_eq W hW hW4 a b ha hb).trans <| ite_ok_congr fun hne => by
      rw [GenInt.ibig_divrem_exact _ _ _ _ (Int.natCast_nonneg _) (mag_pos hne), ← srepr_value, ← srepr_value]

/-- `IBig::div_euclid`: the regenerated `impl_ibig_div_euclid`, Euclidean quotient (the `add_one` correction for a
    negative dividend with non-zero remainder) -/
theorem ibig_div_euclid_exact (W : Nat) (hW : 1 ≤ W) (hW4 : 4 ≤ W) (a b : SRepr) (ha : a.WF W) (hb : b.WF W) :
    ibigDivEuclid W a b = (if b.value W = 0 then .error .divideByZero else .ok (SRepr.ofInt W
      (impl_ibig_div_euclid (sgn a.neg) (a.mag.value W) (sgn b.neg) (b.mag.value W)))) :=
  (ibigDivEuclid_eq W hW hW4 a b ha hb).trans <| ite_ok_congr fun hne => by
    rw [GenInt.ibig_div_euclid_exact _ _ _ _ (Int.natCast_nonneg _) (mag_pos hne), ← srepr_value, ← srepr_value]

/-- `IBig::rem_euclid` → `UBig`: the regenerated `impl_ibig_rem_euclid` (`mag1 − r` for a negative dividend with
    non-zero remainder; the subtraction never underflows), both `Sub` impls it can use -/
theorem ibig_rem_euclid_exact (W : Nat) (hW : 1 ≤ W) (hW4 : 4 ≤ W) (a b : SRepr) (refVal : Bool)
    (ha : a.WF W) (hb : b.WF W) :
    ibigRemEuclid W a b refVal = (if b.value W = 0 then .error .divideByZero else .ok (ofNat W
      (impl_ibig_rem_euclid (sgn a.neg) (a.mag.value W) (sgn b.neg) (b.mag.value W)).toNat)) :=
  (ibigRemEuclid_eq W hW hW4 a b refVal ha hb).trans <| ite_ok_congr fun hne => by
    rw [GenInt.ibig_rem_euclid_exact _ _ _ _ (Int.natCast_nonneg _) (mag_pos hne), ← srepr_value, ← srepr_value]

/-- `IBig::div_rem_euclid` → `(IBig, UBig)`: the regenerated `impl_ibig_divrem_euclid` -/
theorem ibig_div_rem_euclid_exact (W : Nat) (hW : 1 ≤ W) (hW4 : 4 ≤ W) (a b : SRepr) (refVal : Bool)
    (ha : a.WF W) (hb : b.WF W) :
    ibigDivRemEuclid W a b refVal = (if b.value W = 0 then .error .divideByZero else .ok
      (SRepr.ofInt W (impl_ibig_divrem_euclid (sgn a.neg) (a.mag.value W) (sgn b.neg) (b.mag.value W)).1,
       ofNat W (impl_ibig_divrem_euclid (sgn a.neg) (a.mag.value W) (sgn b.neg) (b.mag.value W)).2.toNat)) :=
  (ibigDivRemEuclid_eq W hW hW4 a b refVal ha hb).trans <| ite_ok_congr fun hne => by
      rw [GenInt.ibig_divrem_euclid_exact _ _ _ _ (Int.natCast_nonneg _) (mag_pos hne), ← srepr_value, ← srepr_value]

/-- `UBig % IBig` → `UBig`: the regenerated `impl_ubig_ibig_rem` -/
theorem ubig_ibig_rem_exact (W : Nat) (hW : 1 ≤ W) (hW4 : 4 ≤ W) (a : TRepr) (b : SRepr) (ha : a.Canon W) (hb : b.WF W) :
    ubigIbigRem W a b = (if b.value W = 0 then .error .divideByZero else .ok (ofNat W
      (impl_ubig_ibig_rem .Positive (a.value W) (sgn b.neg) (b.mag.value W)).toNat)) :=
  (mag_eq W hW hW4 a b ha hb).2.2.trans <| ite_ok_congr fun hne => by
    simp only [impl_ubig_ibig_rem, mkUBig, rem_]
    rw [← Int.natCast_emod, Int.toNat_natCast]

/-- `UBig.div_rem(IBig)` → `(IBig, UBig)`: the regenerated `impl_ubig_ibig_divrem` -/
theorem ubig_ibig_div_rem_exact (W : Nat) (hW : 1 ≤ W) (hW4 : 4 ≤ W) (a : TRepr) (b : SRepr) (ha : a.Canon W)
    (hb : b.WF W) :
    ubigIbigDivRem W a b = (if b.value W = 0 then .error .divideByZero else .ok
      (SRepr.ofInt W (impl_ubig_ibig_divrem .Positive (a.value W) (sgn b.neg) (b.mag.value W)).1,
       ofNat W (impl_ubig_ibig_divrem .Positive (a.value W) (sgn b.neg) (b.mag.value W)).2.toNat)) :=
  (ubigIbigDivRem_eq W hW hW4 a b ha hb).trans <| ite_ok_congr fun hne => by
      have k := tmod_signs false b.neg (a.value W) (b.mag.value W)
      simp only [Bool.false_eq_true, if_false] at k
      rw [GenInt.ubig_ibig_divrem_exact _ _ _ (Int.natCast_nonneg _) (mag_pos hne), ← srepr_value,
        show Int.tmod (a.value W) (b.value W) = _ from k.symm, Int.toNat_natCast]

/-- `IBig::is_multiple_of`: true exactly when the (truncating) remainder is zero; zero divisor panics -/
theorem ibig_is_multiple_of_exact (W : Nat) (hW : 1 ≤ W) (hW4 : 4 ≤ W) (a b : SRepr) (ha : a.WF W) (hb : b.WF W) :
    (b.value W = 0 → ibigIsMultipleOf W a b = .error .divideByZero) ∧
    (b.value W ≠ 0 → ibigIsMultipleOf W a b = .ok (decide (Int.tmod (a.value W) (b.value W) = 0))) := by
  unfold ibigIsMultipleOf
  rw [ibigRem_eq W hW hW4 a b ha hb]
  exact ⟨fun h0 => by rw [if_pos h0]; rfl, fun hne => by
    rw [if_neg hne]
    show Except.ok (ofNat W _).isZero = _
    rw [ofNat_isZero]
    exact congrArg Except.ok (decide_eq_decide.mpr Int.natAbs_eq_zero)⟩

-- ================================================================== §5 ConstDivisor

/-- `ConstDivisor::new(0)` panics with the documented divide-by-zero message; otherwise
    `value()` returns the divisor -/
theorem const_divisor_new_value (W : Nat) (hW : 1 ≤ W) (b : TRepr) (hb : b.Canon W) :
    (b.value W = 0 → ConstDiv.new W b = .error .divideByZero) ∧
    (b.value W ≠ 0 → ∃ c v, ConstDiv.new W b = .ok c ∧ c.value W = .ok v ∧ v.value W = b.value W ∧
      v.Canon W) := by
  have ⟨n0, n1⟩ := ConstDiv.new_spec W hW b hb
  refine ⟨n0, fun hne => ?_⟩
  obtain ⟨c, e, hv⟩ := n1 hne
  exact ⟨c, _, e, ConstDiv.value_eq W _ c hv, ofNat_spec W hW _⟩

/-- division of a `UBig` through a prepared `ConstDivisor` (`/`, `%`, `div_rem`, and the assign
    forms) gives the same quotient and remainder as plain division.
    (On the tree before /repo commit 2941615 the `%` clause failed for one-word divisors with the
    top bit set and inline dividends with high word ≥ divisor — see corpus/C02.) -/
theorem const_divisor_eq_plain (W : Nat) (hW : 1 ≤ W) (hW4 : 4 ≤ W) (a b : TRepr) (ha : a.Canon W) (hb : b.Canon W)
    (hne : b.value W ≠ 0) :
    ∃ c q r q' r' q'' r'', ConstDiv.new W b = .ok c ∧
      divRemConst W a c = .ok (q, r) ∧ divConst W a c = .ok q' ∧ remConst W a c = .ok r' ∧
      divRemRepr W a b = .ok (q'', r'') ∧
      q.value W = q''.value W ∧ r.value W = r''.value W ∧
      q'.value W = q''.value W ∧ r'.value W = r''.value W ∧
      q''.value W = a.value W / b.value W ∧ r''.value W = a.value W % b.value W ∧
      q.Canon W ∧ r.Canon W ∧ q'.Canon W ∧ r'.Canon W := by
  obtain ⟨c, e, hv⟩ := (ConstDiv.new_spec W hW b hb).2 hne
  -- prepared and plain division return the same canonical pair
  obtain ⟨e1, e2, e3⟩ := const_eq W hW hW4 a _ c ha hv
  have ⟨vq, cq⟩ := ofNat_spec W hW (a.value W / b.value W)
  have ⟨vr, cr⟩ := ofNat_spec W hW (a.value W % b.value W)
  exact ⟨c, _, _, _, _, _, _, e, e1, e2, e3, (repr_eq W hW hW4 a b ha hb).1.trans (if_neg hne), rfl, rfl, rfl, rfl,
    vq, vr, cq, cr, cq, cr⟩

theorem tdiv_of_sgn (neg : Bool) (m b : Nat) :
    (sgn neg).apply ((m / b : Nat) : Int) = Int.tdiv ((sgn neg).apply (m : Int)) (b : Int) := by
  have k := tdiv_signs neg false m b
  simp only [Bool.bne_false, Bool.false_eq_true, if_false] at k
  rw [← sgn_apply, ← sgn_apply]; exact k

theorem tmod_of_sgn (neg : Bool) (m b : Nat) :
    (sgn neg).apply ((m % b : Nat) : Int) = Int.tmod ((sgn neg).apply (m : Int)) (b : Int) := by
  have k := tmod_signs neg false m b
  simp only [Bool.false_eq_true, if_false] at k
  rw [← sgn_apply, ← sgn_apply]; exact k

/-- division of an `IBig` through a prepared `ConstDivisor`: truncating quotient and remainder by
    the (positive) divisor, i.e. what plain `IBig / UBig`, `IBig % UBig` give -/
theorem const_divisor_ibig_exact (W : Nat) (hW : 1 ≤ W) (hW4 : 4 ≤ W) (a : SRepr) (b : TRepr) (ha : a.WF W)
    (hb : b.Canon W) (hne : b.value W ≠ 0) :
    ∃ c q r q' r', ConstDiv.new W b = .ok c ∧
      ibigDivRemConst W a c = .ok (q, r) ∧ ibigDivConst W a c = .ok q' ∧ ibigRemConst W a c = .ok r' ∧
      q.value W = Int.tdiv (a.value W) (b.value W) ∧ r.value W = Int.tmod (a.value W) (b.value W) ∧
      q'.value W = q.value W ∧ r'.value W = r.value W ∧ q.WF W ∧ r.WF W ∧ q'.WF W ∧ r'.WF W := by
  obtain ⟨c, e, hv⟩ := (ConstDiv.new_spec W hW b hb).2 hne
  obtain ⟨e1, e2, e3⟩ := ibigConst_eq W hW hW4 a _ c ha hv
  have wq := SRepr.ofInt_wf W hW (Int.tdiv (a.value W) (b.value W))
  have wr := SRepr.ofInt_wf W hW (Int.tmod (a.value W) (b.value W))
  exact ⟨c, _, _, _, _, e, e1, e2, e3, SRepr.ofInt_value W hW _, SRepr.ofInt_value W hW _, rfl, rfl, wq, wr, wq, wr⟩

-- ================================================================== §6 num-modular's dividers

/-- `Normalized2by1Divisor::invert_word`: `m = ⌊(B²−1)/d⌋ − B`, and the crate's
    `debug_assert!(_hi == 1)` holds -/
theorem nm_invert_word_exact (W d : Nat) (hW : 1 ≤ W) (hd1 : 2 ^ W ≤ 2 * d) (hd2 : d < 2 ^ W) :
    NumModular.invertWord W d + 2 ^ W = (2 ^ (2 * W) - 1) / d ∧ NumModular.invertWord W d < 2 ^ W ∧
    ((2 ^ (2 * W) - 1) / d) / 2 ^ W = 1 :=
  NumModular.invertWord_spec W d hW hd1 hd2

/-- `Normalized2by1Divisor::div_rem_2by1` (Möller–Granlund Algorithm 4, mirrored with all its
    wrapping operations) = floor division -/
theorem nm_div_rem_2by1_exact (W d a : Nat) (hW : 1 ≤ W) (hd1 : 2 ^ W ≤ 2 * d) (hd2 : d < 2 ^ W)
    (ha : a / 2 ^ W < d) :
    NumModular.div2by1 W d (NumModular.invertWord W d) a = (a / d, a % d) :=
  NumModular.div2by1_spec W d a hW hd1 hd2 ha

/-- `Normalized3by2Divisor::invert_double_word` (Algorithm 6) `= ⌊(B³−1)/d⌋ − B` -/
theorem nm_invert_double_word_exact (W d : Nat) (hW : 1 ≤ W) (hd1 : 2 ^ (2 * W) ≤ 2 * d)
    (hd2 : d < 2 ^ (2 * W)) :
    NumModular.invertDoubleWord W d + 2 ^ W = (2 ^ (3 * W) - 1) / d ∧
    NumModular.invertDoubleWord W d < 2 ^ W :=
  ⟨(NumModular.invertDoubleWord_spec W d hW hd1 hd2).1, (NumModular.invertDoubleWord_spec W d hW hd1 hd2).2.1⟩

/-- `Normalized3by2Divisor::div_rem_3by2` (Algorithm 5) = floor division -/
theorem nm_div_rem_3by2_exact (W d aLo aHi : Nat) (hW : 1 ≤ W) (hd1 : 2 ^ (2 * W) ≤ 2 * d)
    (hd2 : d < 2 ^ (2 * W)) (hlo : aLo < 2 ^ W) (hhi : aHi < d) :
    NumModular.div3by2 W d (NumModular.invertDoubleWord W d) aLo aHi
      = ((aLo + 2 ^ W * aHi) / d, (aLo + 2 ^ W * aHi) % d) :=
  NumModular.div3by2_spec W d aLo aHi hW hd1 hd2 hlo hhi

/-- `Normalized3by2Divisor::div_rem_4by2` = floor division -/
theorem nm_div_rem_4by2_exact (W d aLo aHi : Nat) (hW : 1 ≤ W) (hd1 : 2 ^ (2 * W) ≤ 2 * d)
    (hd2 : d < 2 ^ (2 * W)) (hlo : aLo < 2 ^ (2 * W)) (hhi : aHi < d) :
    NumModular.div4by2 W d (NumModular.invertDoubleWord W d) aLo aHi
      = ((aLo + 2 ^ (2 * W) * aHi) / d, (aLo + 2 ^ (2 * W) * aHi) % d) :=
  NumModular.div4by2_spec W d aLo aHi hW hd1 hd2 hlo hhi

/-- `div_rem_1by1` and `div_rem_2by2` (one comparison and one subtraction) on a normalised divisor -/
theorem nm_div_rem_1by1_2by2_exact (W d a : Nat) (hd : 0 < d) :
    (2 ^ W ≤ 2 * d → a < 2 ^ W → div1by1 d a = (a / d, a % d)) ∧
    (2 ^ (2 * W) ≤ 2 * d → a < 2 ^ (2 * W) → div2by2 d a = (a / d, a % d)) :=
  ⟨fun h1 h2 => NumModular.Contract.div_rem_1by1 W d a h1 h2 hd,
   fun h1 h2 => NumModular.Contract.div_rem_2by2 W d a h1 h2 hd⟩

/-- the contract parameters of the division model are discharged: on a normalised divisor (which
    `FastDivideNormalized::new` asserts) the model's `div2by1 / div3by2 / div4by2` (exact floor
    division under the crate's precondition) ARE the mirrored num-modular algorithms -/
theorem nm_contracts_discharged (W : Nat) (hW : 1 ≤ W) :
    (∀ d a, 2 ^ W ≤ 2 * d → d < 2 ^ W → a / 2 ^ W < d →
      div2by1 W d a = .ok (NumModular.div2by1 W d (NumModular.invertWord W d) a)) ∧
    (∀ d aLo aHi, 2 ^ (2 * W) ≤ 2 * d → d < 2 ^ (2 * W) → aLo < 2 ^ W → aHi < d →
      div3by2 W d aLo aHi = .ok (NumModular.div3by2 W d (NumModular.invertDoubleWord W d) aLo aHi)) ∧
    (∀ d aLo aHi, 2 ^ (2 * W) ≤ 2 * d → d < 2 ^ (2 * W) → aLo < 2 ^ (2 * W) → aHi < d →
      div4by2 W d aLo aHi = .ok (NumModular.div4by2 W d (NumModular.invertDoubleWord W d) aLo aHi)) := by
  refine ⟨fun d a h1 h2 h3 => ?_, fun d aLo aHi h1 h2 h3 h4 => ?_, fun d aLo aHi h1 h2 h3 h4 => ?_⟩
  · rw [NumModular.div2by1_spec W d a hW h1 h2 h3, div2by1_ok W d a h3]
  · rw [NumModular.div3by2_spec W d aLo aHi hW h1 h2 h3 h4, div3by2_ok W d aLo aHi h4]
  · rw [NumModular.div4by2_spec W d aLo aHi hW h1 h2 h3 h4, div4by2_ok W d aLo aHi h4]

-- ================================================================== §7 scratch memory

/-- the `MemoryAllocation` sized by `div::memory_requirement_exact(lhs_len, rhs_len)` covers every
    scratch allocation made by `div::div_rem_in_place` for ALL operand lengths (schoolbook takes
    none; Burnikel–Ziegler only those of `mul::add_signed_mul`, each with a shorter operand of at
    most `min(rhs_len / 2, lhs_len − rhs_len)` words): memory.rs's
    "internal error: not enough memory allocated" is unreachable from division -/
theorem div_scratch_memory_suffices (lhsLen rhsLen : Nat) (h : rhsLen ≤ lhsLen) (h2 : 2 ≤ rhsLen) :
    memDivide lhsLen rhsLen = .ok () := by
  have hc : lhsLen ≥ rhsLen ∧ rhsLen ≥ 2 := ⟨h, h2⟩
  simp only [memDivide, divMemReq]
  rw [if_neg (not_not.mpr hc)]
  by_cases hs : rhsLen ≤ thresholdSimple ∨ lhsLen - rhsLen ≤ thresholdSimple
  · simp only [hs, if_true, bind, Except.bind, memDivRemInPlace]
  · simp only [hs, if_false, bind, Except.bind, memDivRemInPlace, dcMemReq]
    have hnpos : 0 < rhsLen := by omega
    have hdm := Nat.div_add_mod lhsLen rhsLen
    have hml := Nat.mod_lt lhsLen hnpos
    have hq1 : 1 ≤ lhsLen / rhsLen := Nat.div_pos h hnpos
    obtain ⟨t, ht⟩ : ∃ t, lhsLen / rhsLen = t + 1 := ⟨lhsLen / rhsLen - 1, by omega⟩
    have hlen : lhsLen = (t + 1) * rhsLen + lhsLen % rhsLen := by
      rw [← ht, Nat.mul_comm]; exact hdm.symm
    have ht' : lhsLen / rhsLen - 1 = t := by omega
    rw [ht']
    apply memBzOuter_ok (min (rhsLen / 2) (lhsLen - rhsLen)) _ rhsLen _ (lhsLen % rhsLen)
      (Nat.le_refl _) hml
    · intro hr0
      have h3 : (t + 1) * rhsLen = t * rhsLen + rhsLen := by ring
      have h4 : lhsLen - rhsLen ≥ lhsLen % rhsLen := by
        have := Nat.zero_le (t * rhsLen); omega
      constructor <;> omega
    · intro ht1
      have h3 : (t + 1) * rhsLen ≥ 2 * rhsLen := Nat.mul_le_mul_right _ (by omega)
      omega
    · exact hlen

-- ================================================================== §8 primitive kernels (base/src/ring/div_rem.rs)

/-- `DivRem`, `DivRemAssign`, `DivEuclid`, `RemEuclid`, `DivRemEuclid` on every machine integer
    type (any width, signed or not), operands in range: a zero divisor is Rust's divide-by-zero
    panic in all five -/
theorem prim_zero_divisor (t : PrimDiv.PTy) (a : Int) :
    PrimDiv.divRem t a 0 = .error PrimDiv.divZero ∧ PrimDiv.divRemAssign t a 0 = .error PrimDiv.divZero ∧
    PrimDiv.divEuclid t a 0 = .error PrimDiv.divZero ∧ PrimDiv.remEuclid t a 0 = .error PrimDiv.divZero ∧
    PrimDiv.divRemEuclid t a 0 = .error PrimDiv.divZero := by
  simp [PrimDiv.divRem, PrimDiv.divRemAssign, PrimDiv.divEuclid, PrimDiv.remEuclid, PrimDiv.divRemEuclid,
    PrimDiv.pdiv, PrimDiv.prem, bind, Except.bind]

/-- `MIN / −1` of a signed type is Rust's overflow panic in all five (never a wrapped value) -/
theorem prim_min_neg_one (t : PrimDiv.PTy) (hs : t.signed = true) (hlo : t.lo ≠ 0) :
    PrimDiv.divRem t t.lo (-1) = .error PrimDiv.overflow ∧
    PrimDiv.divRemAssign t t.lo (-1) = .error PrimDiv.overflow ∧
    PrimDiv.divEuclid t t.lo (-1) = .error PrimDiv.overflow ∧
    PrimDiv.remEuclid t t.lo (-1) = .error PrimDiv.overflow ∧
    PrimDiv.divRemEuclid t t.lo (-1) = .error PrimDiv.overflow := by
  simp [PrimDiv.divRem, PrimDiv.divRemAssign, PrimDiv.divEuclid, PrimDiv.remEuclid, PrimDiv.divRemEuclid,
    PrimDiv.pdiv, PrimDiv.prem, bind, Except.bind, hs]

/-- everywhere else: truncating forms = `Int.tdiv/tmod`, Euclidean forms = `Int` `/ %`; every
    result is representable; the `q ± 1`, `r ± rhs` of `div_rem_euclid` never overflow -/
theorem prim_kernels_exact (t : PrimDiv.PTy) (a b : Int) (ha : t.InRange a) (hbr : t.InRange b)
    (hb : b ≠ 0) (hex : ¬ (t.signed ∧ a = t.lo ∧ b = -1)) :
    PrimDiv.divRem t a b = .ok (Int.tdiv a b, Int.tmod a b) ∧
    PrimDiv.divRemAssign t a b = .ok (Int.tdiv a b, Int.tmod a b) ∧
    PrimDiv.divEuclid t a b = .ok (a / b) ∧ PrimDiv.remEuclid t a b = .ok (a % b) ∧
    PrimDiv.divRemEuclid t a b = .ok (a / b, a % b) ∧
    t.InRange (Int.tdiv a b) ∧ t.InRange (Int.tmod a b) ∧ t.InRange (a / b) ∧ t.InRange (a % b) := by
  obtain ⟨r1, r2, r3, r4⟩ := PrimDiv.results_inRange t a b ha hbr hb hex
  have hd : PrimDiv.pdiv t a b = .ok (Int.tdiv a b) := by simp only [PrimDiv.pdiv, hb, if_false, hex]
  have hm : PrimDiv.prem t a b = .ok (Int.tmod a b) := by simp only [PrimDiv.prem, hb, if_false, hex]
  refine ⟨?_, ?_, ?_, ?_, ?_, r1, r2, r3, r4⟩
  · simp only [PrimDiv.divRem, hd, hm, bind, Except.bind, pure, Except.pure]
  · simp only [PrimDiv.divRemAssign, hd, hm, bind, Except.bind, pure, Except.pure]
  · simp only [PrimDiv.divEuclid, hb, if_false, hex]
  · simp only [PrimDiv.remEuclid, hb, if_false, hex]
  · obtain ⟨f1, f2, f3⟩ := PrimDiv.euclid_fixup a b hb
    simp only [PrimDiv.divRemEuclid, hd, hm, bind, Except.bind, pure, Except.pure]
    by_cases h0 : Int.tmod a b ≥ 0
    · obtain ⟨g1, g2⟩ := f1 h0
      rw [g1, g2]
      rw [g2] at h0
      simp only [h0, if_true]
    · have hneg : Int.tmod a b < 0 := by omega
      simp only [h0, if_false]
      by_cases hbs : b ≥ 0
      · obtain ⟨g1, g2⟩ := f2 hneg hbs
        simp only [hbs, if_true, g1, g2, PrimDiv.chk_ok r3, PrimDiv.chk_ok r4]
      · obtain ⟨g1, g2⟩ := f3 hneg (by omega)
        simp only [hbs, if_false, g1, g2, PrimDiv.chk_ok r3, PrimDiv.chk_ok r4]

-- ================================================================== non-vacuity

-- a 3-word canonical dividend and a 3-word canonical divisor with a non-normalised top word
-- (shift = 63): the multi-word path with the shift carry and the Knuth step is exercised
example : (TRepr.large [5, 7, 2 ^ 64 - 1]).Canon 64 ∧ (TRepr.large [3, 2 ^ 64 - 1, 1]).Canon 64 ∧
    (divRemRepr 64 (.large [5, 7, 2 ^ 64 - 1]) (.large [3, 2 ^ 64 - 1, 1])).toOption.map
      (fun p => (p.1.value 64, p.2.value 64))
      = some (9223372036854775807, 510423550381407695278072259479345299464) := by
  refine ⟨by decide +kernel, by decide +kernel, by decide +kernel⟩

-- the Knuth-step hypotheses are met by a window that needs the add-back correction
example : (divRemHighestWord 64 (2 ^ 63) [0, 0, 0] [2 ^ 64 - 1, 2 ^ 64 - 1, 2 ^ 63]
    (highestDword 64 [2 ^ 64 - 1, 2 ^ 64 - 1, 2 ^ 63])).toOption.map Prod.fst = some (2 ^ 64 - 2) := by
  decide +kernel

-- the Burnikel–Ziegler hypotheses are met by a divisor of `thresholdSimple + 1` words and a dividend of
-- `2 * thresholdSimple + 6` words (all words B−1; 33 and 70 words at the current threshold 32 — the sizes follow
-- the REGENERATED constant, so a different valid threshold keeps the example meaningful): the divide-and-conquer
-- path runs and reports a quotient carry
example : thresholdSimple < (List.replicate (thresholdSimple + 1) (2 ^ 64 - 1)).length ∧
    (List.replicate (thresholdSimple + 1) (2 ^ 64 - 1)).length + thresholdSimple
      < (List.replicate (2 * thresholdSimple + 6) (2 ^ 64 - 1)).length ∧
    IsWords 64 (List.replicate (2 * thresholdSimple + 6) (2 ^ 64 - 1)) ∧
    IsWords 64 (List.replicate (thresholdSimple + 1) (2 ^ 64 - 1)) ∧
    2 ^ (64 * (List.replicate (thresholdSimple + 1) (2 ^ 64 - 1)).length)
      ≤ 2 * val 64 (List.replicate (thresholdSimple + 1) (2 ^ 64 - 1)) ∧
    (bzDivRemInPlace 64 (List.replicate (2 * thresholdSimple + 6) (2 ^ 64 - 1))
      (List.replicate (thresholdSimple + 1) (2 ^ 64 - 1))
      (highestDword 64 (List.replicate (thresholdSimple + 1) (2 ^ 64 - 1)))).toOption.map Prod.snd = some 1 := by
  decide +kernel

-- a ConstDivisor of the class that was defective before commit 2941615
example : ((ConstDiv.new 64 (.small 0xc000000000000010)).toOption.bind
    (fun c => (remConst 64 (.small (2 ^ 128 - 1)) c).toOption)).map (TRepr.value 64)
    = some 0xaaaaaaaaaaaaac7f := by decide +kernel

-- the mirrored 3-by-2 step on 64-bit words with a divisor just above B²/2 and the largest admissible dividend
example : NumModular.div3by2 64 (2 ^ 127 + 1) (NumModular.invertDoubleWord 64 (2 ^ 127 + 1)) (2 ^ 64 - 1) (2 ^ 127)
    = ((2 ^ 64 - 1 + 2 ^ 64 * 2 ^ 127) / (2 ^ 127 + 1), (2 ^ 64 - 1 + 2 ^ 64 * 2 ^ 127) % (2 ^ 127 + 1)) := by
  decide +kernel

-- `i8`: −128 and −3 are in range and the Euclidean fix-up path (negative remainder, negative divisor) runs
example : PrimDiv.divRemEuclid ⟨8, true⟩ (-128) (-3) = .ok (43, 1) := by decide +kernel

-- ================================================================== non-vacuity, continued
-- (every theorem with hypotheses is instantiated on a concrete non-trivial value, W = 64)

-- div_by_word_exact / rem_by_word_exact: a 3-word slice, non-power-of-two word divisor (shift ≠ 0)
example : IsWords 64 [7, 0, 2 ^ 64 - 1] ∧ (0 : Nat) < 10 ∧ 10 < 2 ^ 64 ∧
    divByWordInPlace 64 [7, 0, 2 ^ 64 - 1] 10
      = .ok ([0, 9223372036854775808, 1844674407370955161], 7) ∧
    remByWord 64 [7, 0, 2 ^ 64 - 1] 10 = .ok 7 := by
  refine ⟨by decide +kernel, by decide +kernel, by decide +kernel, by decide +kernel, by decide +kernel⟩

-- div_by_dword_exact / rem_by_dword_exact: power-of-two double-word divisor 2^100 (the shortcut path)
example : IsWords 64 [5, 6, 7] ∧ 2 ≤ [5, 6, 7].length ∧ 2 ^ 64 ≤ 2 ^ 100 ∧ 2 ^ 100 < 2 ^ (2 * 64) ∧
    divByDwordInPlace 64 [5, 6, 7] (2 ^ 100) = .ok ([1879048192, 0, 0], 5 + 6 * 2 ^ 64) ∧
    remByDword 64 [5, 6, 7] (2 ^ 100) = .ok (5 + 6 * 2 ^ 64) := by
  refine ⟨by decide +kernel, by decide +kernel, by decide +kernel, by decide +kernel, by decide +kernel, by decide +kernel⟩

-- simple_div_rem_exact: normalised 2-word divisor, 4-word dividend whose top words exceed it (carry 1)
example : 2 ≤ [1, 2 ^ 63].length ∧ [1, 2 ^ 63].length ≤ [0, 0, 5, 2 ^ 64 - 1].length ∧
    IsWords 64 [0, 0, 5, 2 ^ 64 - 1] ∧ IsWords 64 [1, 2 ^ 63] ∧
    2 ^ (64 * [1, 2 ^ 63].length) ≤ 2 * val 64 [1, 2 ^ 63] ∧
    (simpleDivRemInPlace 64 [0, 0, 5, 2 ^ 64 - 1] [1, 2 ^ 63] (highestDword 64 [1, 2 ^ 63])).toOption.map Prod.snd
      = some 1 := by
  refine ⟨by decide +kernel, by decide +kernel, by decide +kernel, by decide +kernel, by decide +kernel, by decide +kernel⟩

-- div_rem_large_exact: 4-word by 3-word, divisor top word 1 (shift 63)
example : IsWords 64 [1, 2, 3, 4] ∧ IsWords 64 [9, 8, 1] ∧ 2 ≤ [9, 8, 1].length ∧
    [9, 8, 1].length ≤ [1, 2, 3, 4].length ∧ [9, 8, 1].getD ([9, 8, 1].length - 1) 0 ≠ 0 := by
  refine ⟨by decide +kernel, by decide +kernel, by decide +kernel, by decide +kernel, by decide +kernel⟩

-- the UBig dispatch theorems: canonical heap dividend, canonical inline non-zero divisor
example : (TRepr.large [1, 2, 3]).Canon 64 ∧ (TRepr.small (2 ^ 64 + 1)).Canon 64 ∧
    (TRepr.small (2 ^ 64 + 1)).value 64 ≠ 0 ∧ (1 : Nat) ≤ 64 ∧ 4 ≤ 64 := by
  refine ⟨by decide +kernel, by decide +kernel, by decide +kernel, by decide +kernel, by decide +kernel⟩

-- the IBig sign-table theorems: well-formed negative heap dividend, negative inline divisor
example : (⟨true, .large [1, 2, 3]⟩ : SRepr).WF 64 ∧ (⟨true, .small 7⟩ : SRepr).WF 64 ∧
    (⟨true, .small 7⟩ : SRepr).value 64 ≠ 0 ∧
    (ibigDivRemEuclid 64 ⟨true, .large [1, 2, 3]⟩ ⟨true, .small 7⟩).toOption.map
      (fun p => (p.1.value 64, p.2.value 64))
      = some ((-(1 + 2 * 2 ^ 64 + 3 * 2 ^ 128) : Int) / (-7), ((-(1 + 2 * 2 ^ 64 + 3 * 2 ^ 128) : Int) % (-7)).toNat) := by
  refine ⟨?_, ?_, by decide +kernel, by decide +kernel⟩
  · exact ⟨by decide +kernel, by decide +kernel⟩
  · exact ⟨by decide +kernel, by decide +kernel⟩

-- ubig_ibig_*: canonical UBig dividend, well-formed negative IBig divisor
example : (TRepr.large [0, 0, 1]).Canon 64 ∧ (⟨true, .small 3⟩ : SRepr).WF 64 ∧
    (ubigIbigDivRem 64 (.large [0, 0, 1]) ⟨true, .small 3⟩).toOption.map (fun p => (p.1.value 64, p.2.value 64))
      = some (Int.tdiv (2 ^ 128) (-3), 1) := by
  refine ⟨by decide +kernel, ⟨by decide +kernel, by decide +kernel⟩, by decide +kernel⟩

-- is_multiple_of (UBig, IBig, const): a multiple and a non-multiple
example : ubigIsMultipleOf 64 (.large [0, 0, 6]) (.small 3) = .ok true ∧
    ubigIsMultipleOf 64 (.large [1, 0, 6]) (.small 3) = .ok false ∧
    ibigIsMultipleOf 64 ⟨true, .large [0, 0, 6]⟩ ⟨true, .small 3⟩ = .ok true ∧
    isMultipleOfDword 64 (.large [0, 0, 6]) (2 ^ 64 + 1) = .ok false ∧ (2 ^ 64 + 1 ≠ 0) ∧
    2 ^ 64 + 1 < 2 ^ (2 * 64) := by
  refine ⟨by decide +kernel, by decide +kernel, by decide +kernel, by decide +kernel, by decide +kernel, by decide +kernel⟩

-- ConstDivisor: a canonical 3-word divisor (the `large` class), value() gives it back, IBig forms
example : (TRepr.large [9, 8, 1]).Canon 64 ∧ (TRepr.large [9, 8, 1]).value 64 ≠ 0 ∧
    ((ConstDiv.new 64 (.large [9, 8, 1])).toOption.bind (fun c => (c.value 64).toOption)).map (TRepr.value 64)
      = some (val 64 [9, 8, 1]) ∧
    ((ConstDiv.new 64 (.large [9, 8, 1])).toOption.bind
      (fun c => (ibigDivRemConst 64 ⟨true, .large [1, 2, 3, 4]⟩ c).toOption)).map
        (fun p => (p.1.value 64, p.2.value 64))
      = some (Int.tdiv (-(val 64 [1, 2, 3, 4] : Int)) (val 64 [9, 8, 1]),
              Int.tmod (-(val 64 [1, 2, 3, 4] : Int)) (val 64 [9, 8, 1])) := by
  refine ⟨by decide +kernel, by decide +kernel, by decide +kernel, by decide +kernel⟩

-- num-modular: normalised word 2^63 + 5, dividend with the largest admissible high word
example : (1 : Nat) ≤ 64 ∧ 2 ^ 64 ≤ 2 * (2 ^ 63 + 5) ∧ 2 ^ 63 + 5 < 2 ^ 64 ∧
    ((2 ^ 63 + 4) * 2 ^ 64 + (2 ^ 64 - 1)) / 2 ^ 64 < 2 ^ 63 + 5 ∧
    NumModular.div2by1 64 (2 ^ 63 + 5) (NumModular.invertWord 64 (2 ^ 63 + 5)) ((2 ^ 63 + 4) * 2 ^ 64 + (2 ^ 64 - 1))
      = (((2 ^ 63 + 4) * 2 ^ 64 + (2 ^ 64 - 1)) / (2 ^ 63 + 5), ((2 ^ 63 + 4) * 2 ^ 64 + (2 ^ 64 - 1)) % (2 ^ 63 + 5)) ∧
    NumModular.invertDoubleWord 64 (2 ^ 127 + 1) + 2 ^ 64 = (2 ^ (3 * 64) - 1) / (2 ^ 127 + 1) := by
  refine ⟨by decide +kernel, by decide +kernel, by decide +kernel, by decide +kernel, by decide +kernel, by decide +kernel⟩

-- scratch memory: a Burnikel–Ziegler sized division (200 by 80 words) needs, and gets, a non-empty chunk
-- (sizes follow the regenerated threshold: 200 by 80 words at the current value 32)
example : 2 * thresholdSimple + 16 ≤ 6 * thresholdSimple + 8 ∧ 2 ≤ 2 * thresholdSimple + 16 ∧
    divMemReq (6 * thresholdSimple + 8) (2 * thresholdSimple + 16)
      = .ok (dcMemReq (6 * thresholdSimple + 8) (2 * thresholdSimple + 16)) ∧
    0 < dcMemReq (6 * thresholdSimple + 8) (2 * thresholdSimple + 16) ∧
    memDivide (6 * thresholdSimple + 8) (2 * thresholdSimple + 16) = .ok () := by
  refine ⟨by decide +kernel, by decide +kernel, by decide +kernel, by decide +kernel, by decide +kernel⟩

-- primitive kernels: i8 operands in range, neither zero divisor nor MIN / −1; and the two panics
example : (⟨8, true⟩ : PrimDiv.PTy).InRange (-128) ∧ (⟨8, true⟩ : PrimDiv.PTy).InRange 3 ∧ (3 : Int) ≠ 0 ∧
    ¬ ((⟨8, true⟩ : PrimDiv.PTy).signed ∧ (-128 : Int) = (⟨8, true⟩ : PrimDiv.PTy).lo ∧ (3 : Int) = -1) ∧
    PrimDiv.divRemEuclid ⟨8, true⟩ (-128) 3 = .ok (-43, 1) ∧
    PrimDiv.divRem ⟨8, true⟩ (-128) (-1) = .error PrimDiv.overflow ∧
    (⟨8, true⟩ : PrimDiv.PTy).lo ≠ 0 := by
  refine ⟨by decide +kernel, by decide +kernel, by decide +kernel, by decide +kernel, by decide +kernel, by decide +kernel, by decide +kernel⟩

end Dashu.Props.C02
