import Dashu.Props.C04
import Dashu.Props.C12
import Dashu.Props.C01
import Dashu.Props.C02
import Dashu.Props.C09
/-
  C04 ↔ C12: the gcd contract of the rational model composed with the mirrored and proved integer
  gcd (`NT.gcdReprM`, Model/NT/Lehmer.lean).  Kept apart from `Props/C04.lean` so that C04's own theorems do not depend on
  the proof files of the integer kernels.
-/
namespace Dashu.Props.C04Link
open Dashu.Model Dashu.Model.Ratio

-- ------------------------------------------------------------------ integer kernels

/-- the gcd contract `gcdK` used by every reduction of this model IS the mirrored integer gcd of
    dashu-int (`NT.gcdRepr`: primitive binary gcd, gcd with a word/double word, Lehmer on heap
    operands, every kernel mirrored) for every word size — composed with C12's `gcd_spec` -/
theorem gcd_contract_is_proved_kernel (W : Nat) (hW : 0 < W) (a b : Nat) :
    gcdK a b = NT.gcdReprM W a b := by
  rw [Dashu.Props.C12.gcd_spec W hW]; rfl

/-- hence `Repr::reduce` over the proved integer gcd (any word size) yields the canonical form -/
theorem reduce_over_proved_gcd (W : Nat) (hW : 0 < W) (q : Q) (hd : 0 < q.den) (hn : q.num ≠ 0) :
    ∃ g, NT.gcdReprM W q.num.natAbs q.den = .ok g ∧
      reduce q = .ok ⟨Int.tdiv q.num g, q.den / g⟩ ∧ Reduced ⟨Int.tdiv q.num g, q.den / g⟩ := by
  refine ⟨Nat.gcd q.num.natAbs q.den, ?_, ?_, reduced_div_gcd _ _ hd⟩
  · rw [← gcd_contract_is_proved_kernel W hW, gcdK_of_pos_right _ hd]
  · rw [reduce, if_neg hn, gcdK_of_pos_right _ hd]; rfl


-- ------------------------------------------------------------------ ring kernels (C01)

/-- the ring operations `*`, `+`, `−` on `IBig` that the rational model takes at their contract ARE the mirrored
    and proved word-level kernels of dashu-int (`ibigMul`: Karatsuba/Toom-3 …, `ibigAdd`/`ibigSub`: every
    ownership form) for every word size ≥ 4 bits — composed with C01's theorems -/
theorem ring_contracts_are_proved_kernels (W : Nat) (hW : 4 ≤ W) (x y : Int) (form : Nat) :
    x * y = (ibigMul W (.ofInt W x) (.ofInt W y)).value W ∧
    x + y = (ibigAdd W (.ofInt W x) (.ofInt W y) form).value W ∧
    x - y = (ibigSub W (.ofInt W x) (.ofInt W y) form).value W := by
  have h := Dashu.Props.C01.i_add_sub_of_int W (by omega) x y form
  exact ⟨(Dashu.Props.C01.i_mul_of_int W hW x y).symm, h.1.symm, h.2.symm⟩

/-- hence `RBig ± integer` (`impl_addsub_int_with_rbig`: `a.$method(rb * i)`) computed with the proved integer
    kernels stores exactly the model's numerator -/
theorem add_int_over_proved_kernels (W : Nat) (hW : 4 ≤ W) (sub : Bool) (x : Q) (i : Int) (form : Nat) :
    (R.addSubInt sub x i).num =
      (if sub then
        (ibigSub W (.ofInt W x.num) (.ofInt W ((ibigMul W (.ofInt W x.den) (.ofInt W i)).value W)) form).value W
      else
        (ibigAdd W (.ofInt W x.num) (.ofInt W ((ibigMul W (.ofInt W x.den) (.ofInt W i)).value W)) form).value W) := by
  have hm := (ring_contracts_are_proved_kernels W hW x.den i form).1
  have ha := ring_contracts_are_proved_kernels W hW x.num ((x.den : Int) * i) form
  cases sub
  · simp only [R.addSubInt, Bool.false_eq_true, if_false]; rw [← hm]; exact ha.2.1
  · simp only [R.addSubInt, if_true]; rw [← hm]; exact ha.2.2

/-- … and the cross-cancelled product of `impl_mul_with_rbig` over the proved `*` -/
theorem mul_num_over_proved_kernels (W : Nat) (hW : 4 ≤ W) (x y r : Q) (g1 g2 : Nat)
    (h1 : gcdK x.num.natAbs y.den = .ok g1) (h2 : gcdK x.den y.num.natAbs = .ok g2) (h : R.mul x y = .ok r) :
    r.num = (ibigMul W (.ofInt W (Int.tdiv x.num g1)) (.ofInt W (Int.tdiv y.num g2))).value W := by
  rw [← (ring_contracts_are_proved_kernels W hW _ _ 0).1]
  simp only [R.mul, h1, h2] at h
  cases h
  rfl

example : (ibigMul 64 (.ofInt 64 (-3)) (.ofInt 64 5)).value 64 = -15 := by
  rw [← (ring_contracts_are_proved_kernels 64 (by decide) (-3) 5 0).1]; decide

/-- `UBig::pow` / `IBig::pow` as `Repr::pow` uses them (`upowK`, `ipowK`: sign by parity, shortcuts) ARE the mirrored
    and proved power kernels of dashu-int (factor-2 removal, `pow_word_base` / `pow_dword_base` / `pow_large_base`) -/
theorem pow_contracts_are_proved_kernels (W : Nat) (hW : 4 ≤ W) (b n : Nat) (a : Int) :
    (ubigPow W (ofNat W b) n).value W = upowK b n ∧ (ibigPow W (.ofInt W a) n).value W = ipowK a n ∧
    ((ibigPow W (.ofInt W a) n).value W < 0 ↔ (a < 0 ∧ n % 2 = 1)) := by
  have h1 : 1 ≤ W := by omega
  have wf := SRepr.ofInt_wf W h1 a
  refine ⟨?_, ?_, ?_⟩
  · rw [(Dashu.Props.C01.u_pow_exact W hW _ n (ofNat_canon W h1 b)).1, ofNat_value W h1, upowK_eq]
  · rw [(Dashu.Props.C01.i_pow_exact W hW _ n wf).1, SRepr.ofInt_value W h1, ipowK_eq]
  · have := Dashu.Props.C01.i_pow_sign W hW _ n wf
    rw [SRepr.ofInt_value W h1] at this
    exact this

-- ------------------------------------------------------------------ division kernels (C02)

/-- the integer divisions the rational model takes at their contract — truncated `/` and `%` (reductions by a gcd,
    `%` of `impl_rem_with_*`, round.rs), `div_euclid` / `rem_euclid` (`impl_euclid_*`) — ARE the mirrored and proved
    division kernels of dashu-int on every pair of integers, for every word size ≥ 4 bits, panics included -/
theorem div_contracts_are_proved_kernels (W : Nat) (hW : 4 ≤ W) (a b : Int) :
    (b = 0 →
      Div.ibigDiv W (.ofInt W a) (.ofInt W b) = .error .divideByZero ∧
      Div.ibigRem W (.ofInt W a) (.ofInt W b) = .error .divideByZero ∧
      Div.ibigDivEuclid W (.ofInt W a) (.ofInt W b) = .error .divideByZero ∧ divEuclidK a b = .error .divideByZero ∧
      Div.ibigRemEuclid W (.ofInt W a) (.ofInt W b) = .error .divideByZero ∧ remEuclidK a b = .error .divideByZero) ∧
    (b ≠ 0 → ∃ q r e m,
      Div.ibigDiv W (.ofInt W a) (.ofInt W b) = .ok q ∧ q.value W = Int.tdiv a b ∧
      Div.ibigRem W (.ofInt W a) (.ofInt W b) = .ok r ∧ r.value W = Int.tmod a b ∧
      Div.ibigDivEuclid W (.ofInt W a) (.ofInt W b) = .ok e ∧ divEuclidK a b = .ok (e.value W) ∧
      Div.ibigRemEuclid W (.ofInt W a) (.ofInt W b) = .ok m ∧ remEuclidK a b = .ok (m.value W : Int)) := by
  have h1 : 1 ≤ W := by omega
  have wa := SRepr.ofInt_wf W h1 a
  have wb := SRepr.ofInt_wf W h1 b
  have va := SRepr.ofInt_value W h1 a
  have vb := SRepr.ofInt_value W h1 b
  have d := Div.ibigDiv_eq W h1 hW _ _ wa wb
  have r := Div.ibigRem_eq W h1 hW _ _ wa wb
  have e := Div.ibigDivEuclid_eq W h1 hW _ _ wa wb
  have m := Div.ibigRemEuclid_eq W h1 hW _ _ false wa wb
  rw [va, vb] at d r e m
  have v := SRepr.ofInt_value W h1
  constructor
  · intro hb
    exact ⟨d.trans (if_pos hb), r.trans (if_pos hb), e.trans (if_pos hb), by simp [divEuclidK, hb],
      m.trans (if_pos hb), by simp [remEuclidK, hb]⟩
  · intro hb
    exact ⟨_, _, _, _, d.trans (if_neg hb), v _, r.trans (if_neg hb), v _, e.trans (if_neg hb),
      by unfold divEuclidK; rw [if_neg hb, v]; rfl, m.trans (if_neg hb),
      by unfold remEuclidK; rw [if_neg hb, ofNat_value W h1, Int.toNat_of_nonneg (Int.emod_nonneg _ hb)]; rfl⟩

example : ∃ q, Div.ibigDiv 64 (.ofInt 64 (-7)) (.ofInt 64 2) = .ok q ∧ q.value 64 = -3 := by
  obtain ⟨q, _, _, _, hq, vq, _⟩ := (div_contracts_are_proved_kernels 64 (by decide) (-7) 2).2 (by decide)
  exact ⟨q, hq, by rw [vq]; decide⟩

-- ------------------------------------------------------------------ bit kernels of `reduce2` (C09)

/-- `trailing_zeros` and `>>` as `Repr::reduce2` uses them ARE the mirrored and proved bit kernels of dashu-int:
    the model's `tz n` is what `UBig::trailing_zeros` returns for `n ≠ 0` (`None` for 0), and `>>>` on the
    denominator / the (floor) shift of the numerator are `UBig >> n` / `IBig >> n` — for every word size -/
theorem bit_contracts_are_proved_kernels (W : Nat) (hW : 1 ≤ W) (n z : Nat) (a : Int) (byRef : Bool) :
    ((ofNat W 0).trailingZeros W = .ok none) ∧
    (n ≠ 0 → (ofNat W n).trailingZeros W = .ok (some (tz n))) ∧
    ((ofNat W n).shr W z byRef).value W = n >>> z ∧
    ibigShr W true (.ofInt W a) z byRef = a >>> z := by
  have hc := ofNat_canon W hW n
  have hv := ofNat_value W hW n
  refine ⟨?_, ?_, ?_, ?_⟩
  · exact (Dashu.Props.C09.trailing_zeros W _ (ofNat_canon W hW 0)).1 (ofNat_value W hW 0)
  · intro hn
    obtain ⟨k, hk, ht⟩ := (Dashu.Props.C09.trailing_zeros W _ hc).2 (by rw [hv]; exact hn)
    rw [hv] at ht
    have hmine : IsTz n (tz n) :=
      ⟨Nat.mod_eq_zero_of_dvd (tz_spec n hn).1, tz_odd_quot n hn⟩
    rw [hk, Dashu.Props.C09.trailing_count_unique ht hmine]
  · rw [(Dashu.Props.C09.shr_exact W hW _ z byRef hc).1, hv, Nat.shiftRight_eq_div_pow]
  · have wf := SRepr.ofInt_wf W hW a
    rw [Dashu.Props.C09.ibig_shr_floor W hW _ z byRef ⟨wf.1, wf.2⟩, SRepr.ofInt_value W hW,
      Int.shiftRight_eq_div_pow]
    norm_cast

example : (ofNat 64 (12 * 2 ^ 70)).trailingZeros 64 = .ok (some (tz (12 * 2 ^ 70))) :=
  (bit_contracts_are_proved_kernels 64 (by decide) (12 * 2 ^ 70) 0 0 false).2.1 (by decide)

example : NT.gcdReprM 64 6 4 = .ok 2 := by rw [← gcd_contract_is_proved_kernel 64 (by decide)]; decide +kernel

end Dashu.Props.C04Link
