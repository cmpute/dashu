import Dashu.Props.C04
/-
  C15 ↔ C04 (link by import): the call forms of a dashu-ratio operator that take an INTEGER operand (`RBig ∘ UBig/IBig/prim`
  and the reversed direction — helper macro `impl_binop_with_int`, proved in `Props/C15Forms` to reach one integer-operand
  core per direction) return the same number as the form that takes the integer as a rational, and panic together.
  Both forms meet the contract `Good` of their common specification (`evalIntR_good` / `evalIntL_good` / `evalBin_good` of
  `Proofs/Ratio/Prog`, which C04 states as `int_right_ops_exact` / `int_left_ops_exact` / `binary_ops_exact`), and
  `Good.agree` compares them.
-/
namespace Dashu.Props.C15Link
open Dashu.Model Dashu.Model.Ratio Dashu.Props.C04

/-- the rational operator an integer-operand rule belongs to -/
def binOf : IntOp → Bin
  | .add => .add | .sub => .sub | .mul => .mul | .div => .div

theorem spec_intR_eq_bin (o : IntOp) (x : Rat) (z : Int) : Spec.intR o x z = Spec.bin (binOf o) x (z : Rat) := by
  cases o <;> simp [Spec.intR, Spec.bin, binOf]

theorem spec_intL_eq_bin (o : IntOp) (z : Int) (x : Rat) : Spec.intL o z x = Spec.bin (binOf o) (z : Rat) x := by
  cases o <;> simp [Spec.intL, Spec.bin, binOf]

/-- `x ∘ z` through the integer-operand rule = `x ∘ y` through the rational rule whenever `y` denotes `z`: same value,
    or both panic with the same kind -/
theorem int_right_form_value (o : IntOp) (k : Kind) (x y : Q) (z : Int) (hx : k.Inv x) (hy : k.Inv y)
    (hyz : y.val = (z : Rat)) :
    match evalIntR o k x z, evalBin (binOf o) k x y with
    | .ok r, .ok r' => r.val = r'.val
    | .error e, .error e' => e = e'
    | _, _ => False := by
  have h1 := evalIntR_good o k x z hx
  rw [spec_intR_eq_bin, ← hyz] at h1
  exact h1.agree (evalBin_good (binOf o) k x y hx hy)

/-- the reversed direction `z ∘ x` -/
theorem int_left_form_value (o : IntOp) (k : Kind) (x y : Q) (z : Int) (hx : k.Inv x) (hy : k.Inv y)
    (hyz : y.val = (z : Rat)) :
    match evalIntL o k z x, evalBin (binOf o) k y x with
    | .ok r, .ok r' => r.val = r'.val
    | .error e, .error e' => e = e'
    | _, _ => False := by
  have h1 := evalIntL_good o k z x hx
  rw [spec_intL_eq_bin, ← hyz] at h1
  exact h1.agree (evalBin_good (binOf o) k y x hy hx)

example : Reduced ⟨7, 3⟩ ∧ Reduced ⟨5, 1⟩ ∧ (⟨5, 1⟩ : Q).val = ((5 : Int) : Rat) ∧
    evalIntR .mul .R ⟨7, 3⟩ 5 = .ok ⟨35, 3⟩ ∧ evalBin .mul .R ⟨7, 3⟩ ⟨5, 1⟩ = .ok ⟨35, 3⟩ := by
  refine ⟨by decide, by decide, by simp [Q.val], by decide, by decide⟩

/-- the trait-method form for `RBig`: `div_rem_euclid` returns the pair of what `div_euclid` and `rem_euclid` return
    (the three bodies scale the operands differently — by the gcd of the denominators or not at all), or all three panic -/
theorem rbig_euclid_method_forms (x y : Q) (hx : Reduced x) (hy : Reduced y) :
    (y.num = 0 → R.divRemEuclid x y = .error .divideByZero ∧ R.divEuclid x y = .error .divideByZero ∧
        R.remEuclid x y = .error .divideByZero) ∧
    (y.num ≠ 0 → ∃ q r r', R.divRemEuclid x y = .ok (q, r) ∧ R.divEuclid x y = .ok q ∧ R.remEuclid x y = .ok r' ∧
        r = r') := by
  have h1 := rbig_div_rem_euclid_exact x y hx hy
  have h2 := div_euclid_exact x y hx.1 hy.1
  have h3 := rbig_rem_euclid_exact x y hx hy
  refine ⟨fun h0 => ⟨h1.1 h0, h2.1 h0, h3.1 h0⟩, fun hn => ?_⟩
  obtain ⟨r, hr, hred, hval⟩ := h1.2 hn
  obtain ⟨r', hr', hred', hval'⟩ := h3.2 hn
  exact ⟨_, r, r', hr, h2.2 hn, hr', reduced_unique r r' hred hred' (hval.trans hval'.symm)⟩

/-- the same for `Relaxed`, by value (its representation is not canonical) -/
theorem relaxed_euclid_method_forms (x y : Q) (hx : RelaxedInv x) (hy : RelaxedInv y) (hn : y.num ≠ 0) :
    ∃ q r, X.divRemEuclid x y = .ok (q, r) ∧ R.divEuclid x y = .ok q ∧ r.val = Spec.remEuclid x.val y.val := by
  obtain ⟨r, hr, _, hval⟩ := (relaxed_div_rem_euclid_exact x y hx hy).2 hn
  exact ⟨_, r, hr, (div_euclid_exact x y hx.1 hy.1).2 hn, hval⟩

end Dashu.Props.C15Link
