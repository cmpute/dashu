import Dashu.Props.C10
import Dashu.Props.C10F32
/-
  C10: the public primitive `Round::round_fract` AS WRITTEN (coarse `f32` test first, exact comparison as the fall-back)
  follows the six mode definitions, from (LIBM) and (IEEE) alone — the composition of `Props/C10.round_fract_follows_mode`
  (every sound coarse oracle) with `Props/C10F32.coarse_test_sound_libm` (the test of the source with `log2_bounds` = its model
  is such an oracle on the region).  Second half: the two estimators as concrete functions (`coarseLibm`, `dubLibm`) meet the
  oracle hypotheses of every theorem of `Props/C10`.
-/
namespace Dashu.Props.C10Libm
open Dashu Dashu.Model.Float Dashu.Props.GenRound Dashu.Props.C10F32

/-- **`round_fract` with the `f32` test of the source returns what the exact comparison returns — from (LIBM) alone**
    (`log2_bounds` = `log2LbModel` / `log2UbModel`, every operation `rne32`), on `2 ≤ B < 2⁶⁴`, `|fract| < B^k`, `k ≤ 2²⁴` -/
theorem round_fract_coarse_irrelevant_libm (log2f : ℝ → ℝ) (h : Log2fSound log2f) (B : Nat) (m : Mode)
    (n f : Int) (k : Nat) (hB : 2 ≤ B) (hBw : B < 2 ^ 64) (hlt : f.natAbs < B ^ k) (hk : k ≤ 2 ^ 24) :
    roundFract B m (coarseIEEE (log2LbModel log2f) (log2UbModel log2f)) n f k = roundFract B m coarseNone n f k :=
  roundFract_coarse_at B m _ n f k fun hpos => coarse_test_sound_libm log2f h B _ k hB hBw hpos hlt hk

/-- **`Round::round_fract::<B>(n, f, k)` as written follows the mode definitions, from (LIBM) alone**: for every mode,
    every base held in a word, every precision up to `2²⁴` digits and every `|f| < B^k`, `n + adjustment` is the neighbour of
    `n + f / B^k` that the mode names — no oracle hypothesis (`CoarseSound`) is left -/
theorem round_fract_follows_mode_libm (log2f : ℝ → ℝ) (h : Log2fSound log2f) (B : Nat) (hB : 2 ≤ B) (hBw : B < 2 ^ 64)
    (m : Mode) (n f : Int) (k : Nat) (hk : k ≤ 2 ^ 24) (hlt : |f| < ((B ^ k : Nat) : Int)) :
    ModeSpec m (n * ((B ^ k : Nat) : Int) + f) ((B ^ k : Nat) : Int)
      (n + rInt (roundFract B m (coarseIEEE (log2LbModel log2f) (log2UbModel log2f)) n f k)) := by
  have hlt' : f.natAbs < B ^ k := Int.ofNat_lt.mp (Int.abs_eq_natAbs f ▸ hlt)
  rw [round_fract_coarse_irrelevant_libm log2f h B m n f k hB hBw hlt' hk]
  exact Dashu.Props.C10.round_fract_follows_mode B hB m coarseNone coarseNone_sound n f k hlt

/-- … and its flag tells the truth (the integer-scaled contract of `Props/C10.round_fract_contract`) -/
theorem round_fract_contract_libm (log2f : ℝ → ℝ) (h : Log2fSound log2f) (B : Nat) (hB : 2 ≤ B) (hBw : B < 2 ^ 64)
    (m : Mode) (n f : Int) (k : Nat) (hk : k ≤ 2 ^ 24) (hf : f ≠ 0) (hlt : |f| < ((B ^ k : Nat) : Int)) :
    IContract m ((B ^ k : Nat) : Int) (n * ((B ^ k : Nat) : Int) + f)
      ((n + rInt (roundFract B m (coarseIEEE (log2LbModel log2f) (log2UbModel log2f)) n f k)) * ((B ^ k : Nat) : Int))
      (some (roundFract B m (coarseIEEE (log2LbModel log2f) (log2UbModel log2f)) n f k)) := by
  have hlt' : f.natAbs < B ^ k := Int.ofNat_lt.mp (Int.abs_eq_natAbs f ▸ hlt)
  rw [round_fract_coarse_irrelevant_libm log2f h B m n f k hB hBw hlt' hk]
  exact Dashu.Props.C10.round_fract_contract B hB m coarseNone coarseNone_sound n f k hf hlt

/-- non-vacuity: (LIBM) is met by the correctly rounded logarithm (`libm_hypothesis_satisfiable`), and the size hypotheses by
    a tie at 3 decimal digits (`n + 500/10³`, where half-even and half-away differ) -/
example : Log2fSound (fun x => rne32 (Real.logb 2 x)) ∧ (2 ≤ 10 ∧ 10 < 2 ^ 64 ∧ 3 ≤ 2 ^ 24 ∧ (500 : Int) ≠ 0 ∧
    |(500 : Int)| < ((10 ^ 3 : Nat) : Int)) ∧
    roundFract 10 .halfEven coarseNone 2 500 3 = .NoOp ∧ roundFract 10 .halfAway coarseNone 2 500 3 = .AddOne :=
  ⟨libm_hypothesis_satisfiable, by decide, by decide⟩

/-! ### both `f32` estimators as concrete functions meet the oracle hypotheses

  The coarse test of `round_fract` and `Repr::digits_ub`, each with `log2_bounds` = its model and every
  operation `rne32`, clamped outside the region where the model describes the code (as `lbClamp` / `ubClamp` do), meet the
  oracle hypotheses `CoarseSound` / `DubSound` of every theorem of `Props/C10` from (LIBM) alone; hence the integer roundings
  of `FBig` and `repr_round` / `with_precision` hold for THESE estimators without any oracle hypothesis.
-/

/-- the closure `test` of `round_fract` with `log2_bounds` = its model on the region `2 ≤ B < 2⁶⁴`, `0 < |fract| < B^k`,
    `k ≤ 2²⁴` (where `precision as f32` is exact); beyond the region the oracle that never decides -/
noncomputable def coarseLibm (log2f : ℝ → ℝ) : Coarse := fun B fmag k =>
  if 2 ≤ B ∧ B < 2 ^ 64 ∧ 0 < fmag ∧ fmag < B ^ k ∧ k ≤ 2 ^ 24 then
    coarseIEEE (log2LbModel log2f) (log2UbModel log2f) B fmag k
  else none

/-- `Repr::<B>::digits_ub` (0 for a zero significand; `log2_bounds(signif).1`, `LOG10_2`, `log2_bounds(B).0` = their models) for
    significands of at most `2³⁰` bits and `2²⁴ + 1` digits; beyond, the exact digit count -/
noncomputable def dubLibm (log2f : ℝ → ℝ) (B : Nat) : Int → Nat := fun v =>
  if v = 0 then 0
  else if Nat.log2 v.natAbs + 1 ≤ 2 ^ 30 ∧ digits B v.natAbs - 1 ≤ 2 ^ 24 then
    digitsUbReal B rne32 (log2UbModel log2f v.natAbs) log10_2_f32 (log2LbStd log2f B)
  else digitsI B v

/-- on the region the clamped test IS the test of the source -/
theorem coarseLibm_eq (log2f : ℝ → ℝ) (B fmag k : Nat) (hB : 2 ≤ B) (hBw : B < 2 ^ 64) (hf : 0 < fmag) (hlt : fmag < B ^ k)
    (hk : k ≤ 2 ^ 24) : coarseLibm log2f B fmag k = coarseIEEE (log2LbModel log2f) (log2UbModel log2f) B fmag k := by
  unfold coarseLibm; rw [if_pos ⟨hB, hBw, hf, hlt, hk⟩]

/-- on the region the clamped estimate IS `digits_ub` of the source -/
theorem dubLibm_eq (log2f : ℝ → ℝ) (B : Nat) (v : Int) (hv : v ≠ 0) (hbits : Nat.log2 v.natAbs + 1 ≤ 2 ^ 30)
    (hsmall : digits B v.natAbs - 1 ≤ 2 ^ 24) :
    dubLibm log2f B v = digitsUbReal B rne32 (log2UbModel log2f v.natAbs) log10_2_f32 (log2LbStd log2f B) := by
  unfold dubLibm; rw [if_neg hv, if_pos ⟨hbits, hsmall⟩]

/-- **both oracle hypotheses of `Props/C10` from (LIBM) alone**, every base of at most `2²⁴` bits (all bases held in a word) -/
theorem estimators_sound_libm (log2f : ℝ → ℝ) (h : Log2fSound log2f) (B : Nat) (hB : 2 ≤ B) (hBw : Nat.log2 B + 1 ≤ 2 ^ 24) :
    CoarseSound (coarseLibm log2f) ∧ DubSound B (dubLibm log2f B) := by
  constructor
  · intro B' f k o hdec
    unfold coarseLibm at hdec
    split_ifs at hdec with hr
    obtain ⟨hB', hBw', hf, hlt, hk⟩ := hr
    exact coarse_test_sound_libm log2f h B' f k hB' hBw' hf hlt hk o hdec
  · intro v
    unfold dubLibm
    split_ifs with hv hr
    · rw [hv, digitsI_zero]
    · exact digits_ub_sound_libm log2f h B hB hBw v.natAbs (Int.natAbs_pos.mpr hv) hr.1 hr.2
    · exact le_refl _

/-- **the integer roundings of `FBig` with the `f32` estimators of the source, from (LIBM) alone**: for a float with
    fractional digits (`exp < 0`), `trunc` / `floor` / `ceil` / `round` / `to_int` name the neighbour the method (resp. the
    mode) defines, `to_int` is flagged inexact — `Props/C10.{trunc,floor,ceil,round,to_int}_correct` without oracle hypotheses -/
theorem fbig_int_roundings_libm (log2f : ℝ → ℝ) (h : Log2fSound log2f) (B : Nat) (hB : 2 ≤ B) (hBw : Nat.log2 B + 1 ≤ 2 ^ 24)
    (x : FBigM) (he : x.repr.exp < 0) :
    (∃ t : Int, (fTrunc B (dubLibm log2f B) x).repr.toRat B = (t : ℚ) ∧ IsTowardZero x.repr.signif (pointUnit B x.repr) t) ∧
    (∃ t : Int, (fFloor B (coarseLibm log2f) (dubLibm log2f B) x).repr.toRat B = (t : ℚ) ∧
      IsFloor x.repr.signif (pointUnit B x.repr) t) ∧
    (x.repr.signif ≠ 0 → ∃ t : Int, (fCeil B (coarseLibm log2f) (dubLibm log2f B) x).repr.toRat B = (t : ℚ) ∧
      IsCeil x.repr.signif (pointUnit B x.repr) t) ∧
    (∃ t : Int, (fRound B (coarseLibm log2f) (dubLibm log2f B) x).repr.toRat B = (t : ℚ) ∧
      IsNearestAway x.repr.signif (pointUnit B x.repr) t) ∧
    (∀ m : Mode, ModeSpec m x.repr.signif (pointUnit B x.repr) (fToInt B m (coarseLibm log2f) (dubLibm log2f B) x).1 ∧
      (fToInt B m (coarseLibm log2f) (dubLibm log2f B) x).2 ≠ none) := by
  obtain ⟨hc, hd⟩ := estimators_sound_libm log2f h B hB hBw
  exact ⟨Dashu.Props.C10.trunc_correct B hB _ hd x he, Dashu.Props.C10.floor_correct B hB _ hc _ hd x he,
    fun hs0 => Dashu.Props.C10.ceil_correct B hB _ hc _ hd x he hs0, Dashu.Props.C10.round_correct B hB _ hc _ hd x he,
    fun m => Dashu.Props.C10.to_int_correct B hB _ hc _ hd x he m⟩

/-- the flag of `to_int` tells the truth, with the estimators of the source (`Props/C10.to_int_contract`) -/
theorem to_int_contract_libm (log2f : ℝ → ℝ) (h : Log2fSound log2f) (B : Nat) (hB : 2 ≤ B) (hBw : Nat.log2 B + 1 ≤ 2 ^ 24)
    (m : Mode) (x : FBigM) (he : x.repr.exp < 0) (hn : x.repr.signif % (B : Int) ≠ 0) :
    IContract m (pointUnit B x.repr) x.repr.signif
      ((fToInt B m (coarseLibm log2f) (dubLibm log2f B) x).1 * pointUnit B x.repr)
      (fToInt B m (coarseLibm log2f) (dubLibm log2f B) x).2 :=
  Dashu.Props.C10.to_int_contract B hB m _ (estimators_sound_libm log2f h B hB hBw).1 _
    (estimators_sound_libm log2f h B hB hBw).2 x he hn

/-- rounding to fewer digits with the coarse test of the source: `repr_round` and `with_precision` honour the contract -/
theorem repr_round_contract_libm (log2f : ℝ → ℝ) (h : Log2fSound log2f) (B : Nat) (hB : 2 ≤ B) (m : Mode)
    (p : Nat) (hp : 1 ≤ p) (r : FRepr) (hn : Normalized B r) :
    Contract B m p (r.toRat B) ((reprRound B m (coarseLibm log2f) p r).1.toRat B) (reprRound B m (coarseLibm log2f) p r).2 :=
  Dashu.Props.C10.repr_round_contract B hB m _ (estimators_sound_libm log2f h 2 (le_refl 2) (by decide)).1 p hp r hn

/-- non-vacuity: (LIBM) satisfiable; decimal −12.75 (5 digits of precision) meets the hypotheses of the three theorems, and its
    significand lies in the region where `dubLibm` is `digits_ub` of the source -/
example : Log2fSound (fun x => rne32 (Real.logb 2 x)) ∧
    ((2 ≤ 10 ∧ Nat.log2 10 + 1 ≤ 2 ^ 24 ∧ (⟨⟨-1275, -2⟩, 5⟩ : FBigM).repr.exp < 0 ∧
      (⟨⟨-1275, -2⟩, 5⟩ : FBigM).repr.signif % ((10 : Nat) : Int) ≠ 0 ∧ (-1275 : Int) ≠ 0 ∧
      Nat.log2 (-1275 : Int).natAbs + 1 ≤ 2 ^ 30 ∧ digits 10 (-1275 : Int).natAbs - 1 ≤ 2 ^ 24) ∧ Normalized 10 ⟨12345, -2⟩) :=
  ⟨libm_hypothesis_satisfiable, by decide, by unfold Normalized; decide⟩

end Dashu.Props.C10Libm
