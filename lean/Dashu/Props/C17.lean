import Dashu.Proofs.Mem.Pool
import Dashu.Proofs.Mem.Memory
import Dashu.Proofs.Mem.Slice
import Dashu.Proofs.Mem.Arith
import Dashu.Proofs.Mem.Layout
import Dashu.Proofs.Mem.PowLen
import Dashu.Model.Mem.Arith2
import Dashu.Model.Mem.Arith3
import Dashu.Proofs.Mem.Arith4
import Dashu.Proofs.Mem.Arith5
import Dashu.Proofs.Mem.DivPanic
import Dashu.Proofs.Mem.AddSubPanic
import Dashu.Gen.Scratch
/-
  C17 — The hand-managed integer storage is memory-safe and keeps its invariants  (PARTIAL).

  Model: `Dashu/Model/Mem/{Ledger,Buffer,Repr,Pool,Memory}.lean` — `integer/src/buffer.rs` and the
  storage part of `integer/src/repr.rs` as computations that emit allocator / raw-pointer events
  (`alloc/realloc/free/read/write` with ids, capacities and indices in words); an independent
  executable checker `replay` judges a trace against a ledger `id ↦ capacity`.  Histories are lists of
  `Op` over a register pool; `run` executes them.  All theorems quantify over ALL histories (induction
  over the list; no bound on length, register numbers, word values or sizes), all `MAX_CAPACITY = mx`,
  and all word sizes `W > 0` where `W` matters (`Repr::ones`).

  Also modelled: static-backed values (`from_static_words`) as a read-only register kind,
  `into_sign_typed`, the `&UBig ↔ &IBig` transmutes, the `unsafe` blocks of shift.rs / primitive.rs, and
  the public `UBig` operations `+ - * << >>` (all ownership forms) as histories over the same op
  alphabet (`Model/Mem/Arith.lean`), so that the representation invariant after arithmetic is a theorem.

  Further: `zeroize` paths (buffer.rs:438, repr.rs:253), div/rem with the divide-and-conquer scratch block,
  `sqr()`, `from_le/be_bytes`, IBig `+ - *` sign glue; model follows fixes 52b4fc5/ada6bea (`AllocTooMuch` for
  requests beyond MAX_CAPACITY in `allocate`/`reallocate`); the policy chain is proved from the regenerated text
  without assuming a closed form; a `NonVacuity` section instantiates every hypothesis on concrete values.
  NB the `file:line` in theorem names (`unsafe_buffer_rs_209`, …) are those of /repo commit ab05307; the
  fix commits have since shifted buffer.rs by up to ten lines (209 → 219, 235 → 245, …).

  What "partial" means here (DESIGN §8 C17): the theorems decide the ledger facts (bounds, lifetime,
  double free, leak) and the representation invariant.  Rust-level UB that is not a ledger fact
  (aliasing/provenance, validity of `transmute`, alignment, uninitialised reads of `[len, cap)`,
  `from_static_words` values being dropped) is outside this model; Miri runs of the same histories
  are supporting evidence only.  Allocation failure (null from the allocator) is not modelled.

  Storage skeletons of `DivRem::div_rem`, `& | ^`, `UBig::pow` (`Model/Mem/Arith2.lean`, compared with the real
  allocator event stream on every run); memory.rs `array_layout / add_layout / max_layout / MemoryAllocation::new / Drop`
  size-and-alignment arithmetic (`Model/Mem/Layout.lean`): validity closure, dead `allocate_too_much` arm, `GlobalAlloc`
  contract, and sufficiency of `add_layout` for the two bump requests that consume it.

  Storage skeletons of `sqrt`, `gcd`, `gcd_ext` over C12's mirrored kernels (`Model/Mem/Arith4.lean`) and of `IBig`'s
  Euclidean division family (`Arith5`).  The panic arms of the skeletons are the documented ones
  (`div_skeletons_panic_only_on_zero_divisor`, `addsub_skeletons_panic_arms`, `bit_shift_skeletons_panic_arms`), and the
  sizes of their scratch blocks are the formulas regenerated from /repo (`scratch_formulas_regenerated`).
-/
namespace Dashu.Props.C17
open Dashu.Model Dashu.Model.Mem

-- ============================================================== what "safe" means, spelled out

/-- an event is memory-safe against the ledger at the moment it happens -/
def EventSafe (L : Ledger) : Event → Prop
  | .alloc id cap => L id = none ∧ 0 < cap
  | .realloc id old new => L id = some old ∧ 0 < new
  | .free id cap => L id = some cap
  | .read id i => ∃ c, L id = some c ∧ i < c
  | .write id i => ∃ c, L id = some c ∧ i < c

theorem stepEv_safe {L L' : Ledger} {e : Event} (h : stepEv L e = some L') : EventSafe L e := by
  cases e with
  | alloc id c | realloc id o nw | free id c =>
    -- an event that changes the ledger is accepted under exactly the condition `EventSafe` names
    simp only [stepEv] at h
    split at h
    · assumption
    · cases h
  | read id i | write id i =>
    simp only [stepEv] at h
    split at h
    · rename_i c hc
      split at h
      · exact ⟨c, hc, ‹_›⟩
      · cases h
    · cases h

/-- the checker accepts a trace only if EVERY event is safe against the ledger state reached by the
    events before it: reads/writes hit a live id below its capacity; free/realloc name a live id with
    its current capacity (no double free, no realloc-after-free); allocations are non-empty and fresh -/
theorem replay_every_event_safe {es : List Event} {L L' : Ledger} (h : replay L es = some L')
    (pre : List Event) (e : Event) (post : List Event) (hs : es = pre ++ e :: post) :
    ∃ Lp, replay L pre = some Lp ∧ EventSafe Lp e := by
  subst hs
  rw [replay_append] at h
  cases hp : replay L pre with
  | none => rw [hp] at h; cases h
  | some Lp =>
    rw [hp] at h
    refine ⟨Lp, rfl, ?_⟩
    simp only [Option.bind, replay] at h
    cases hs : stepEv Lp e with
    | none => rw [hs] at h; cases h
    | some L1 => exact stepEv_safe hs

-- ============================================================== (a) invariant, all histories

/-- (a)+(b) for a history started in ANY state satisfying the invariant: every event emitted — also
    when the history ends in a panic — is safe, no `transmute`/inline-copy UB point is reached, and
    if the history completes the invariant holds again:
    every buffer has `len ≤ cap`, `0 < cap ≤ MAX_CAPACITY`; every `Repr` is canonical (inline ⇔ ≤ 2
    words, heap ⇒ ≥ 3 words, top word ≠ 0, `cap ≤ max_compact_capacity(len)`, zero not negative);
    owned ids are live with exactly the stored capacity, pairwise distinct, and cover the ledger. -/
theorem history_keeps_invariant {W mx : Nat} (hW : 0 < W) (ops : List Op)
    (hok : ∀ op ∈ ops, op.Ok mx) {P : Pool} {L : Ledger} {n : Nat} (hI : Inv mx P L)
    (hB : L.Below n) :
    ∃ L', replay L (run W mx ops P n).evs = some L' ∧
      (∀ s, (run W mx ops P n).res ≠ .error (.ub s)) ∧
      ∀ P', (run W mx ops P n).res = .ok P' → Inv mx P' L' := by
  obtain ⟨L', hr, _, _, hub, hq⟩ := run_sat hW ops hok hI hB
  exact ⟨L', hr, hub, fun P' hP => (hq P' hP).1⟩

-- ============================================================== (b) safety, from the empty state

/-- (b) SAFETY: in every history from the empty pool, every `read/write (id, i)` has `id` live at that
    moment and `i < cap(id)`; every `free/realloc` names a live id with its current capacity; this
    includes the events emitted before a panicking `assert!` -/
theorem history_safe {W mx : Nat} (hW : 0 < W) (ops : List Op) (hok : ∀ op ∈ ops, op.Ok mx)
    (pre : List Event) (e : Event) (post : List Event)
    (hs : (exec W mx ops).evs = pre ++ e :: post) :
    ∃ Lp, replay Ledger.empty pre = some Lp ∧ EventSafe Lp e := by
  obtain ⟨L', hr, _, _⟩ := history_keeps_invariant hW ops hok (Inv.empty mx)
    (n := 0) (fun _ _ => rfl)
  exact replay_every_event_safe hr pre e post hs

/-- (b') no history reaches a point where the real code would continue into UB that is not a ledger
    event (a `Buffer → Repr` transmute with capacity ≤ 2, `copy_nonoverlapping` through inline data) -/
theorem history_no_ub {W mx : Nat} (hW : 0 < W) (ops : List Op) (hok : ∀ op ∈ ops, op.Ok mx)
    (s : String) : (exec W mx ops).res ≠ .error (.ub s) := by
  obtain ⟨_, _, hub, _⟩ := history_keeps_invariant hW ops hok (Inv.empty mx)
    (n := 0) (fun _ _ => rfl)
  exact hub s

-- ============================================================== (c) no leak

/-- (c) NO LEAK: after any history over registers `< R`, dropping every register leaves no live
    allocation — and the whole trace, drops included, is safe (so nothing was freed twice) -/
theorem no_leak {W mx : Nat} (hW : 0 < W) (R : Nat) (ops : List Op) (hok : ∀ op ∈ ops, op.Ok mx)
    (hR : ∀ op ∈ ops, op.target < R) :
    ∃ L', replay Ledger.empty (exec W mx (ops ++ dropAll R)).evs = some L' ∧
      ∀ P', (exec W mx (ops ++ dropAll R)).res = .ok P' → (∀ k, P' k = .empty) ∧ ∀ id, L' id = none := by
  have hsat : Sat Ledger.empty 0 (run W mx (ops ++ dropAll R) Pool.empty)
      (fun P' L' _ => (∀ k, P' k = .empty) ∧ ∀ id, L' id = none) := by
    rw [run_append]
    apply Sat.bind
    apply Sat.conseq (run_sat hW ops hok (Inv.empty mx))
    intro P1 L1 n1 _ ⟨hI1, hfr1⟩
    apply Sat.conseq (dropList_sat (List.range R) hI1)
    intro P2 L2 n2 _ ⟨hI2, he2, hfr2⟩
    have hall : ∀ k, P2 k = .empty := by
      intro k
      by_cases hk : k < R
      · exact he2 k (List.mem_range.mpr hk)
      · rw [hfr2 k (fun h => hk (List.mem_range.mp h))]
        rw [hfr1 k (fun op hop e => hk (e ▸ hR op hop))]
        rfl
    refine ⟨hall, ?_⟩
    intro id
    cases hl : L2 id with
    | none => rfl
    | some c =>
      obtain ⟨k, hk⟩ := hI2.cov id c hl
      rw [hall k] at hk; cases hk
  obtain ⟨L', hr, _, _, _, hq⟩ := hsat (fun _ _ => rfl)
  exact ⟨L', hr, hq⟩

/-- (c') the hypothesis of `no_leak` is not vacuous: whenever the history itself completes, the
    drop-everything suffix completes too (`Drop` has no panic branch) -/
theorem no_leak_total {W mx : Nat} (R : Nat) (ops : List Op) {P1 : Pool}
    (h : (exec W mx ops).res = .ok P1) : ∃ P', (exec W mx (ops ++ dropAll R)).res = .ok P' :=
  run_append_drop_ok W mx ops (List.range R) Pool.empty 0 h

-- ============================================================== (d) from_buffer, clone_from

/-- unwrap a `Sat` triple -/
theorem Sat.elim {α : Type} {L : Ledger} {n : Nat} {m : M α} {Q : α → Ledger → Nat → Prop}
    (h : Sat L n m Q) (hB : L.Below n) :
    ∃ L', replay L (m n).evs = some L' ∧ (∀ s, (m n).res ≠ .error (.ub s)) ∧
      ∀ a, (m n).res = .ok a → Q a L' (m n).next := by
  obtain ⟨L', hr, _, _, hub, hq⟩ := h hB
  exact ⟨L', hr, hub, hq⟩

/-- (d1) `Repr::from_buffer` of ANY live buffer (any contents, any capacity ≤ MAX): safe trace; the
    result is canonical incl. `cap ≤ max_compact_capacity(len)`, positive, has the same words up to
    the trimmed high zero words; the buffer's allocation is either handed over or freed -/
theorem from_buffer_canonical {mx : Nat} {L : Ledger} {n : Nat} {b : Buf} (hB : L.Below n)
    (hL : L b.id = some b.cap) (hw : b.Wf mx) :
    ∃ L', replay L (Rep.fromBuffer mx b n).evs = some L' ∧
      (∀ s, (Rep.fromBuffer mx b n).res ≠ .error (.ub s)) ∧
      ∀ r, (Rep.fromBuffer mx b n).res = .ok r →
        Moves L L' n b.own r.own ∧ r.Canon mx ∧ r.isNeg = false ∧
        ∃ t, b.ws = r.words ++ t ∧ ∀ x ∈ t, x = 0 :=
  Sat.elim (fromBuffer_sat hL hw) hB

/-- (d2) `Clone::clone_from` between ALL size relations (inline←inline, inline←heap, heap←inline,
    heap←heap with reuse / too small / too large): safe trace; the result equals `src` (words and
    sign), is canonical, owns an allocation different from `src`'s (independence), and `src` is
    untouched (still live with its capacity) -/
theorem clone_from_correct {mx : Nat} {L : Ledger} {n : Nat} {self src : Rep} (hB : L.Below n)
    (hcs : self.Canon mx) (hcr : src.Canon mx) (hLs : self.Live L) (hLr : src.Live L)
    (hne : ∀ i c i' c', self.own = some (i, c) → src.own = some (i', c') → i ≠ i') :
    ∃ L', replay L (Rep.cloneFrom mx self src n).evs = some L' ∧
      (∀ s, (Rep.cloneFrom mx self src n).res ≠ .error (.ub s)) ∧
      ∀ r', (Rep.cloneFrom mx self src n).res = .ok r' →
        r'.words = src.words ∧ r'.isNeg = src.isNeg ∧ r'.Canon mx ∧ r'.Live L' ∧ src.Live L' ∧
        (∀ i c, r'.own = some (i, c) → ∀ c', src.own ≠ some (i, c')) := by
  obtain ⟨L', hr, hub, hq⟩ := Sat.elim (repCloneFrom_sat hcs hcr hLs hLr hne) hB
  refine ⟨L', hr, hub, ?_⟩
  intro r' hres
  obtain ⟨hm, hc, hw, hs, hind⟩ := hq r' hres
  refine ⟨hw, hs, hc, ?_, ?_, hind⟩
  · intro i c ho; exact hm.new_live i c ho
  · intro i c ho
    apply hm.other hB (hLr i c ho)
    intro c0 hc0
    exact hne i c0 i c hc0 ho rfl

/-- `Clone::clone`: fresh allocation, equal value, canonical -/
theorem clone_correct {mx : Nat} {L : Ledger} {n : Nat} {r : Rep} (hB : L.Below n)
    (hc : r.Canon mx) (hL : r.Live L) :
    ∃ L', replay L (Rep.clone mx r n).evs = some L' ∧
      (∀ s, (Rep.clone mx r n).res ≠ .error (.ub s)) ∧
      ∀ r', (Rep.clone mx r n).res = .ok r' →
        r'.words = r.words ∧ r'.isNeg = r.isNeg ∧ r'.Canon mx ∧ Moves L L' n none r'.own := by
  obtain ⟨L', hr, hub, hq⟩ := Sat.elim (repClone_sat hc hL) hB
  exact ⟨L', hr, hub, fun r' hres => by
    obtain ⟨hm, hc', hw, hs⟩ := hq r' hres
    exact ⟨hw, hs, hc', hm⟩⟩

/-- `Repr::ones(n)` (code after fix 283f2ad) is canonical for every `n` and every word size -/
theorem ones_canonical {W mx : Nat} (hW : 0 < W) (k : Nat) {L : Ledger} {n : Nat} (hB : L.Below n) :
    ∃ L', replay L (Rep.ones W mx k n).evs = some L' ∧
      (∀ s, (Rep.ones W mx k n).res ≠ .error (.ub s)) ∧
      ∀ r, (Rep.ones W mx k n).res = .ok r → r.Canon mx ∧ r.isNeg = false :=
  let ⟨L', hr, hub, hq⟩ := Sat.elim (ones_sat (k := k) hW) hB
  ⟨L', hr, hub, fun r hres => (hq r hres).2⟩

/-- `with_sign` / `neg` never make zero negative and keep canonical form -/
theorem with_sign_canonical {mx : Nat} {r : Rep} (h : r.Canon mx) (s : Bool) :
    (r.withSign s).Canon mx ∧ (r.negate).Canon mx ∧ (r.isZero = true → (r.withSign s).isNeg = r.isNeg) := by
  refine ⟨Rep.canon_withSign h s, Rep.canon_negate h, ?_⟩
  intro hz; rw [Rep.isNeg_withSign, hz]; rfl

-- ============================================================== (e) capacity policy (generated text)

/-- (e) `n ≤ default_capacity(n) ≤ max_compact_capacity(n) ≤ MAX_CAPACITY` for `n ≤ MAX_CAPACITY`;
    the two functions are `Dashu.Gen.default_capacity/max_compact_capacity`, regenerated from
    integer/src/buffer.rs on every run -/
theorem capacity_policy (mx n : Nat) (h : n ≤ mx) :
    n ≤ defaultCapacity mx n ∧ defaultCapacity mx n ≤ maxCompactCapacity mx n ∧
    maxCompactCapacity mx n ≤ mx :=
  policy_chain mx n h

-- ============================================================== hypotheses are needed / non-vacuity

/-- `Op.Ok` is needed: `ensure_capacity_exact(c)` has no `MAX_CAPACITY` check, so with `c > MAX` (and
    an allocator that succeeds) the buffer's capacity exceeds `MAX_CAPACITY`.  Not reachable through
    the public API: the only caller (modular/convert.rs:94) passes the length of an existing buffer. -/
theorem ensure_capacity_exact_breaks_max (mx : Nat) (h : 3 ≤ mx) (n : Nat) :
    (ensureCapacityExact ⟨0, 3, []⟩ (mx + 1) n).res = .ok ⟨0, mx + 1, []⟩ ∧ ¬ Buf.Wf mx ⟨0, mx + 1, []⟩ := by
  constructor
  · have h1 : mx + 1 > 3 ∧ mx + 1 > 2 := by omega
    have h2 : 0 < mx + 1 ∧ (⟨0, 3, []⟩ : Buf).len ≤ mx + 1 := ⟨by omega, Nat.zero_le _⟩
    simp only [ensureCapacityExact, h1, reallocateRaw, h2]
    rfl
  · intro hw; have := hw.2.2; simp only at this; omega

/-- the defect of /repo at ab05307 (`n < DWORD_BITS`; fix 283f2ad): `ones(2·W)` is a 2-word HEAP value, which is
    not canonical — the representation invariant catches it (W = 64) -/
theorem ones_prefix_not_canonical :
    (Rep.onesPreFix 64 ((2 ^ 64 - 1) / 64) 128 0).res.toOption =
      some (.heap 0 5 [2 ^ 64 - 1, 2 ^ 64 - 1] false) ∧
    ¬ (Rep.heap 0 5 [2 ^ 64 - 1, 2 ^ 64 - 1] false).Canon ((2 ^ 64 - 1) / 64) := by
  constructor
  · decide +kernel
  · intro h; have := h.1; simp at this

/-- non-vacuity: a concrete history crossing the inline/heap boundary in both directions, with a
    `clone_from` into a too-small, a reusable and a too-large buffer, satisfies every hypothesis, runs
    to completion and ends with an empty ledger -/
def demoHistory : List Op :=
  [.fromWords 0 [1, 2, 3, 4, 0, 0], .fromBuffer 0,            -- heap, 4 words
   .fromWord 1 7, .repCloneFrom 1 0,                          -- inline ← heap (too small)
   .fromWords 2 [5, 6, 7], .fromBuffer 2, .repCloneFrom 2 0,  -- heap ← heap (reuse)
   .allocate 3 100, .pushSlice 3 [1, 1, 1], .fromBuffer 3,
   .repClone 4 3, .neg 4, .repCloneFrom 0 4, .fromDword 5 1 1, .repCloneFrom 3 5,  -- heap ← inline
   .intoBuffer 2, .pushZerosFront 2 1, .eraseFront 2 2, .popZeros 2, .fromBuffer 2]

example : ∀ op ∈ demoHistory, op.Ok 1000 := by
  intro op hop; cases op <;> first | trivial | (simp [demoHistory] at hop)
example : ∀ op ∈ demoHistory, op.target < 8 := by decide
example : (exec 64 1000 (demoHistory ++ dropAll 8)).res.toBool = true := by decide +kernel
example : (replay Ledger.empty (exec 64 1000 (demoHistory ++ dropAll 8)).evs).isSome = true := by
  decide +kernel

-- ============================================================== one obligation per `unsafe` block

section Obligations
variable {L : Ledger} {n mx : Nat}

/-- buffer.rs:97 `alloc(layout)`: non-zero size, fresh id -/
theorem unsafe_buffer_rs_97 {c : Nat} : Sat L n (allocateRaw mx c)
    (fun id L' n' => id = n ∧ n' = n + 1 ∧ L' = L.set n (some c) ∧ 0 < c ∧ c ≤ mx) := allocateRaw_sat
/-- buffer.rs:111 (`unsafe fn deallocate_raw`) + buffer.rs:470 `Drop` -/
theorem unsafe_buffer_rs_111_470 {b : Buf} (hL : L b.id = some b.cap) :
    Sat L n (dropBuf b) (fun _ L' _ => Moves L L' n b.own none) := dropBuf_sat hL
/-- buffer.rs:148 `realloc` -/
theorem unsafe_buffer_rs_148 {b : Buf} {c : Nat} (hL : L b.id = some b.cap) :
    Sat L n (reallocateRaw b c)
      (fun b' L' _ => Moves L L' n b.own b'.own ∧ b' = { b with cap := c } ∧ 0 < c ∧ b.len ≤ c) :=
  reallocateRaw_sat hL
/-- buffer.rs:209 `push` -/
theorem unsafe_buffer_rs_209 {b : Buf} {w : Nat} (hL : L b.id = some b.cap) (hw : b.Wf mx) :
    Sat L n (push b w) (BPost mx L n b (fun b' => b'.id = b.id ∧ b'.cap = b.cap ∧ b'.ws = b.ws ++ [w])) :=
  push_sat hL hw
/-- buffer.rs:235 `push_repeat` -/
theorem unsafe_buffer_rs_235 {b : Buf} {elem k : Nat} (hL : L b.id = some b.cap) (hw : b.Wf mx) :
    Sat L n (pushRepeat b elem k)
      (BPost mx L n b (fun b' => b'.id = b.id ∧ b'.cap = b.cap ∧ b'.ws = b.ws ++ List.replicate k elem)) :=
  pushRepeat_sat hL hw
/-- buffer.rs:266 `push_zeros_front` -/
theorem unsafe_buffer_rs_266 {b : Buf} {k : Nat} (hL : L b.id = some b.cap) (hw : b.Wf mx) :
    Sat L n (pushZerosFront b k)
      (BPost mx L n b (fun b' => b'.id = b.id ∧ b'.cap = b.cap ∧ b'.ws = List.replicate k 0 ++ b.ws)) :=
  pushZerosFront_sat hL hw
/-- buffer.rs:293 `push_slice` -/
theorem unsafe_buffer_rs_293 {b : Buf} {src : Option Nat} {ws : List Nat} (hL : L b.id = some b.cap)
    (hw : b.Wf mx) (hs : SrcOk L src ws.length) :
    Sat L n (pushSlice b src ws)
      (BPost mx L n b (fun b' => b'.id = b.id ∧ b'.cap = b.cap ∧ b'.ws = b.ws ++ ws)) :=
  pushSlice_sat hL hw hs
/-- buffer.rs:307 `pop_zeros` -/
theorem unsafe_buffer_rs_307 {b : Buf} (hL : L b.id = some b.cap) (hw : b.Wf mx) :
    Sat L n (popZeros b)
      (BPost mx L n b (fun b' => b'.id = b.id ∧ b'.cap = b.cap ∧ b'.ws.getLast? ≠ some 0 ∧
        ∃ t, b.ws = b'.ws ++ t ∧ ∀ x ∈ t, x = 0)) := popZeros_sat hL hw
/-- buffer.rs:341 `erase_front` -/
theorem unsafe_buffer_rs_341 {b : Buf} {k : Nat} (hL : L b.id = some b.cap) (hw : b.Wf mx) :
    Sat L n (eraseFront b k) (BPost mx L n b (fun b' => b'.id = b.id ∧ b'.cap = b.cap ∧ b'.ws = b.ws.drop k)) :=
  eraseFront_sat hL hw
/-- buffer.rs:358 `lowest_dword` -/
theorem unsafe_buffer_rs_358 {b : Buf} (hL : L b.id = some b.cap) (hw : b.Wf mx) :
    Sat L n (lowestDword b) (fun _ L' _ => L' = L) := lowestDword_sat hL hw
/-- buffer.rs:376 `lowest_dword_mut` -/
theorem unsafe_buffer_rs_376 {b : Buf} {lo hi : Nat} (hL : L b.id = some b.cap) (hw : b.Wf mx) :
    Sat L n (lowestDwordMut b lo hi) (BPost mx L n b (fun b' => b'.id = b.id ∧ b'.cap = b.cap)) :=
  lowestDwordMut_sat hL hw
/-- buffer.rs:391 `clone_from_slice` -/
theorem unsafe_buffer_rs_391 {b : Buf} {src : Option Nat} {ws : List Nat} (hL : L b.id = some b.cap)
    (hw : b.Wf mx) (hs : SrcOk L src ws.length) :
    Sat L n (cloneFromSlice mx b src ws) (BPost mx L n b (fun b' => b'.ws = ws)) :=
  cloneFromSlice_sat hL hw hs
/-- buffer.rs:408 `into_boxed_slice` -/
theorem unsafe_buffer_rs_408 {b : Buf} (hL : L b.id = some b.cap) :
    Sat L n (intoBoxedSlice b) (fun r L' _ =>
      match r with
      | none => Moves L L' n b.own none
      | some bx => Moves L L' n b.own bx.own ∧ bx.id = b.id) := intoBoxedSlice_sat hL
/-- buffer.rs:440 `Clone::clone` -/
theorem unsafe_buffer_rs_440 {b : Buf} (hL : L b.id = some b.cap) (hw : b.Wf mx) :
    Sat L n (cloneBuf mx b)
      (CPost mx L n (fun nb => nb.ws = b.ws ∧ nb.cap = defaultCapacity mx b.len ∧ b.len ≤ mx)) :=
  cloneBuf_sat hL hw
/-- buffer.rs:456 `Clone::clone_from` -/
theorem unsafe_buffer_rs_456 {b src : Buf} (hL : L b.id = some b.cap) (hw : b.Wf mx)
    (hLs : L src.id = some src.cap) (hws : src.Wf mx) (hne : src.id ≠ b.id) :
    Sat L n (cloneFromBuf mx b src)
      (BPost mx L n b (fun b' => b'.ws = src.ws ∧ b'.cap ≤ maxCompactCapacity mx src.len)) :=
  cloneFromBuf_sat hL hw hLs hws hne
/-- buffer.rs:482, 490 `Deref`/`DerefMut` -/
theorem unsafe_buffer_rs_482_490 {b : Buf} (hL : L b.id = some b.cap) (hw : b.Wf mx) :
    Sat L n (deref b) (fun ws L' _ => L' = L ∧ ws = b.ws) := deref_sat hL hw
/-- repr.rs:333 (`from_buffer` transmute), 433 (`ones`), 487 (`clone`): capacity ≥ 3 at the transmute -/
theorem unsafe_repr_rs_333_433_487 {site : String} {b : Buf} (h : 3 ≤ b.cap) :
    Sat L n (Rep.ofBuf site b) (fun r L' n' => L' = L ∧ n' = n ∧ r = .heap b.id b.cap b.ws false) :=
  ofBuf_sat h
/-- repr.rs:356 `into_buffer` (incl. transmute repr.rs:376) -/
theorem unsafe_repr_rs_356 {r : Rep} (hc : r.Canon mx) (hL : r.Live L) :
    Sat L n (Rep.intoBuffer mx r) (fun b L' _ => Moves L L' n r.own b.own ∧ b.Wf mx ∧ b.ws = r.words) :=
  intoBuffer_sat hc hL
/-- repr.rs:191 `into_typed` (incl. transmute repr.rs:198) -/
theorem unsafe_repr_rs_191 {r : Rep} (hc : r.Canon mx) (hL : r.Live L) :
    Sat L n (Rep.intoTyped r) (fun t L' _ =>
      L' = L ∧ t.own = r.own ∧
      match t with
      | .small lo hi => r.words = (Rep.fromDword lo hi).words
      | .large b => b.Wf mx ∧ b.ws = r.words) := intoTyped_sat hc hL
/-- repr.rs:164, 231 `as_sign_typed` / `as_sign_slice` -/
theorem unsafe_repr_rs_164_231 {r : Rep} (hc : r.Canon mx) (hL : r.Live L) :
    Sat L n (Rep.asSlice r) (fun ws L' _ => L' = L ∧ ws = r.words) := asSlice_sat hc hL
/-- repr.rs:547 `Drop` -/
theorem unsafe_repr_rs_547 {r : Rep} (hL : r.Live L) :
    Sat L n (Rep.drop r) (fun _ L' _ => Moves L L' n r.own none) := repDrop_sat hL
/-- repr.rs:504, 519 `deallocate_raw` inside `clone_from` -/
theorem unsafe_repr_rs_504_519 {self : Rep} (hLs : self.Live L) :
    Sat L n (Rep.releaseOld self) (fun _ L1 n1 => Moves L L1 n self.own none ∧ n1 = n) :=
  releaseOld_sat hLs
/-- repr.rs:136, 441, 270, 281 `NonZeroIsize::new_unchecked`: the capacity code is never 0 -/
theorem unsafe_repr_rs_new_unchecked (r : Rep) (h : r.Canon mx) (s : Bool) :
    0 < (r.withSign s).capacity ∧ 0 < r.negate.capacity ∧
    ∀ w lo hi, 0 < (Rep.fromWord w).capacity ∧ 0 < (Rep.fromDword lo hi).capacity := by
  have hc : ∀ r : Rep, r.Canon mx → 0 < r.capacity := by
    intro r hr
    cases r with
    | inline lo hi code neg => rcases hr.1 with ⟨h1, _⟩ | ⟨h1, _⟩ <;> simp [Rep.capacity, h1]
    | heap id cap ws neg => have := hr.1; have := hr.2.2.1; simp only [Rep.capacity]; omega
  exact ⟨hc _ (Rep.canon_withSign h s), hc _ (Rep.canon_negate h),
    fun w lo hi => ⟨hc _ (Rep.canon_fromWord w), hc _ (Rep.canon_fromDword lo hi)⟩⟩

end Obligations

-- ============================================================== memory.rs bump allocator

/-- memory.rs:155 / 165 — a slice handed out by `Memory::allocate_slice_*` is aligned, inside the
    chunk, and the remaining `Memory` starts at its end -/
theorem bump_slice_inside {usz : Nat} {m : Bump.Chunk} {r : Bump.Req} {s e : Nat} (ha : 0 < r.align)
    (h : Bump.tryFind usz m r = some (s, e)) :
    m.start ≤ s ∧ s % r.align = 0 ∧ e = s + r.n * r.size ∧ e ≤ m.stop ∧ e ≤ usz :=
  Bump.tryFind_spec ha h

/-- memory.rs:86, 104, 129, 135 — every element write `ptr.add(i).write(v)` lies inside the slice -/
theorem bump_writes_inside {usz : Nat} {m : Bump.Chunk} {r : Bump.Req} {sl : Nat × Nat} {wr : List Nat}
    {rest : Bump.Chunk} (ha : 0 < r.align) (h : Bump.allocateSlice usz m r = some (sl, wr, rest)) :
    ∀ off ∈ wr, sl.1 ≤ off ∧ off + r.size ≤ sl.2 :=
  Bump.allocateSlice_writes ha h

/-- nested scratch slices are pairwise disjoint and inside the allocation -/
theorem bump_slices_disjoint {usz : Nat} (rs : List Bump.Req) (hal : ∀ r ∈ rs, 0 < r.align)
    {m : Bump.Chunk} {sls : List (Nat × Nat)} {fin : Bump.Chunk} (hm : m.start ≤ m.stop)
    (h : Bump.allocateMany usz m rs = some (sls, fin)) :
    fin.stop = m.stop ∧ m.start ≤ fin.start ∧ fin.start ≤ fin.stop ∧
    (∀ sl ∈ sls, m.start ≤ sl.1 ∧ sl.1 ≤ sl.2 ∧ sl.2 ≤ fin.start) ∧
    sls.Pairwise (fun a b => a.2 ≤ b.1) :=
  Bump.allocateMany_disjoint rs hal hm h

-- ============================================================== static-backed values, sign/typed moves

section Statics
variable {L : Ledger} {n mx : Nat}

/-- repr.rs:290 `Repr::from_static_words` (what `ubig!`/`static_ubig!` expand to inside a `static`
    item): 0/1/2 words give an ordinary canonical inline value (`[lo, hi]` asserts `hi > 0`, repr.rs:295);
    ≥ 3 words give a static-backed value with `|capacity| = len ≥ 3` (so `new_unchecked(len)` is
    non-zero) and non-zero top word (assert repr.rs:301); no allocator event -/
theorem unsafe_repr_rs_290 (ws : List Nat) :
    Sat L n (Rep.fromStaticWords ws) (fun o L' n' => L' = L ∧ n' = n ∧
      match o with
      | .value r => r.Canon mx ∧ r.own = none ∧ r.isNeg = false ∧
          ∃ t, ws = r.words ++ t ∧ ∀ x ∈ t, x = 0
      | .stat ws' => ws' = ws ∧ StaticWf ws') := fromStaticWords_sat ws

/-- `Clone::clone` of a `&'static` value allocates a fresh buffer, reads only the `static` array, and
    yields an equal canonical value -/
theorem static_clone_correct {ws : List Nat} {neg : Bool} (hs : StaticWf ws) :
    Sat L n (Rep.cloneStatic mx ws neg) (fun r' L' _ =>
      Moves L L' n none r'.own ∧ r'.Canon mx ∧ r'.words = ws ∧ r'.isNeg = neg) := cloneStatic_sat hs

/-- `x.clone_from(&STATIC)` for every size relation of `x` -/
theorem static_clone_from_correct {self : Rep} {sws : List Nat} {sneg : Bool} (hcs : self.Canon mx)
    (hLs : self.Live L) (hs : StaticWf sws) :
    Sat L n (Rep.cloneFromStatic mx self sws sneg) (fun r' L' _ =>
      Moves L L' n self.own r'.own ∧ r'.Canon mx ∧ r'.words = sws ∧ r'.isNeg = sneg) :=
  cloneFromStatic_sat hcs hLs hs

/-- a register holding a `&'static UBig/IBig` can never be the target of an operation other than
    reading its words or forgetting the reference: `Drop`, `clone_from` INTO it, `into_buffer`,
    `with_sign`, … have no arm in the model because safe Rust cannot express them on a `&'static T`
    (the macros only ever hand out `&VALUE` of an immutable `static`).  Since the static array is
    not a ledger allocation, no event of any history can free, reallocate or write it. -/
theorem static_register_readonly {W mx : Nat} {P P' : Pool} {k : Nat} {ws : List Nat} {neg : Bool}
    (h : P k = .stat ws neg) (op : Op) (ht : op.target = k) (n : Nat)
    (hr : (step W mx P op n).res = .ok P') : P' = P ∨ op = .drop k := by
  cases op <;> simp only [Op.target] at ht <;> subst ht <;> simp only [step] at hr
  all_goals first
    | exact absurd hr (create_stat h _ _ _)
    | exact absurd hr (onBuf_stat h _ _ _)
    | exact absurd hr (onRep_stat h _ _ _)
    | skip
  case drop => exact Or.inr rfl
  case zeroize =>
    rw [h] at hr
    exact absurd hr (illTyped_res _ _)
  case asSlice =>
    rw [h] at hr
    left
    have : (Except.ok P : Except Fault Pool) = .ok P' := hr
    injection this with this; exact this.symm
  case bufClone k j | bufCloneFrom k j =>
    exfalso
    split at hr
    · exact illTyped_res _ _ hr
    · cases hpj : P j <;> rw [hpj] at hr <;>
        first | exact illTyped_res _ _ hr | exact create_stat h _ _ _ hr | exact onBuf_stat h _ _ _ hr
  case repClone k j | repCloneFrom k j =>
    exfalso
    split at hr
    · exact illTyped_res _ _ hr
    · cases hpj : P j <;> rw [hpj] at hr <;>
        first | exact illTyped_res _ _ hr | exact create_stat h _ _ _ hr | exact onRep_stat h _ _ _ hr
  case pushSliceFrom k j | cloneFromSliceFrom k j | bufFromView k j =>
    exfalso
    split at hr
    · exact illTyped_res _ _ hr
    · cases hpj : (P j).view with
      | none => rw [hpj] at hr; exact illTyped_res _ _ hr
      | some p =>
        obtain ⟨src, ws'⟩ := p
        rw [hpj] at hr
        first | exact create_stat h _ _ _ hr | exact onBuf_stat h _ _ _ hr
  case pushTailFrom k j lo =>
    exfalso
    split at hr
    · exact illTyped_res _ _ hr
    · cases hpj : (P j).view with
      | none => rw [hpj] at hr; exact illTyped_res _ _ hr
      | some p =>
        obtain ⟨src, ws'⟩ := p
        rw [hpj] at hr
        simp only at hr
        split at hr <;> exact onBuf_stat h _ _ _ hr

/-- repr.rs:209 `Repr::into_sign_typed` hands the allocation over unchanged and cannot panic -/
theorem unsafe_repr_rs_209 {r : Rep} (hc : r.Canon mx) (hL : r.Live L) :
    Sat L n (Rep.intoSignTyped r) (fun o L' _ =>
      L' = L ∧ o.1 = r.isNeg ∧ o.2.own = r.own ∧
      match o.2 with
      | .small lo hi => r.words = (Rep.fromDword lo hi).words
      | .large b => b.Wf mx ∧ b.ws = r.words) := intoSignTyped_sat hc hL

/-- convert.rs:563 / 695 `as_ibig` / `as_ubig`: identity on the representation (layout: both are
    `#[repr(transparent)]` over `Repr` — compile-time fact); `as_ubig` only for positive values -/
theorem unsafe_convert_rs_563_695 {r r' : Rep} (h : Rep.asUbig r = some r') :
    r' = r ∧ r'.isNeg = false ∧ Rep.asIbig r = r :=
  ⟨(as_ubig_positive h).1, (as_ubig_positive h).2, rfl⟩

/-- buffer.rs:438 `Buffer::as_full_slice` + `Zeroize for Buffer` (feature `zeroize`): the full-capacity
    slice is exactly the allocation; afterwards the buffer is empty, same allocation -/
theorem unsafe_buffer_rs_438_zeroize {b : Buf} (hL : L b.id = some b.cap) (hw : b.Wf mx) :
    Sat L n (zeroizeBuf b) (BPost mx L n b (fun b' => b'.id = b.id ∧ b'.cap = b.cap ∧ b'.ws = [])) :=
  zeroizeBuf_sat hL hw

/-- repr.rs:253 `Repr::as_full_slice` + `Zeroize for Repr/UBig/IBig`: the full slice of a heap value is
    exactly its allocation; afterwards the value is the canonical zero and the buffer was freed once.
    NOT tied by correspondence (the harness is built without the `zeroize` feature). -/
theorem unsafe_repr_rs_253_zeroize {r : Rep} (hc : r.Canon mx) (hL : r.Live L) :
    Sat L n (Rep.zeroize mx r) (fun r' L' _ => Moves L L' n r.own none ∧ r' = Rep.fromWord 0) :=
  repZeroize_sat hc hL

end Statics

-- ============================================================== shift.rs / primitive.rs

section Slices
variable {L : Ledger} {n : Nat}

/-- shift.rs:57 `shr_in_place_one_word`: safe for every NON-EMPTY slice inside a live allocation.
    The function itself has no length check; its two direct callers pass ≥ 1 words
    (div/mod.rs:127 after `debug_assert!(words.len() >= 2)`, root_ops.rs:195 a buffer of n+1 words),
    and `shr_in_place` forwards to it only for `shift == WORD_BITS`. -/
theorem unsafe_shift_rs_57 {debug : Bool} {s : Slice} (h : s.Ok L) (hl : 1 ≤ s.len) :
    Sat L n (shrInPlaceOneWord debug s) (fun _ L' _ => L' = L) := by
  obtain ⟨c, hc, hb⟩ := h
  unfold shrInPlaceOneWord
  apply Sat.bind
  apply Sat.emit (L1 := L) (by simp [stepEv, hc]; omega) rfl
  apply Sat.ite
  · intro h0; omega
  · intro _
    apply Sat.bind
    apply Sat.quiet ((Quiet.rd hc (by omega)).append (Quiet.wr hc (by omega)))
    apply Sat.emit (L1 := L) (by simp [stepEv, hc]; omega) rfl
    rfl

/-- …and the hypothesis is needed: on an empty slice at the end of its allocation the unconditional
    `ptr.read()` is out of bounds (the overflow panic of `len - 1` comes after it) -/
theorem unsafe_shift_rs_57_needs_nonempty :
    replay (Ledger.empty.set 0 (some 3)) (shrInPlaceOneWord true ⟨0, 3, 0⟩ 1).evs = none := by
  decide

/-- primitive.rs:66 `lowest_dword` (`get_unchecked(0|1)`): safe with debug assertions for every
    slice, without them iff the caller passes ≥ 2 words -/
theorem unsafe_primitive_rs_66 {s : Slice} (h : s.Ok L) :
    Sat L n (lowestDwordSlice true s) (fun _ L' _ => L' = L) ∧
    (2 ≤ s.len → Sat L n (lowestDwordSlice false s) (fun _ L' _ => L' = L)) :=
  ⟨lowestDwordSlice_sat h nofun, fun hl => lowestDwordSlice_sat h fun _ => hl⟩

theorem unsafe_primitive_rs_66_needs_two :
    replay (Ledger.empty.set 0 (some 3)) (lowestDwordSlice false ⟨0, 2, 1⟩ 1).evs = none := by
  decide

/-- primitive.rs:82 `highest_dword` -/
theorem unsafe_primitive_rs_82 {s : Slice} (h : s.Ok L) :
    Sat L n (highestDwordSlice true s) (fun _ L' _ => L' = L) ∧
    (2 ≤ s.len → Sat L n (highestDwordSlice false s) (fun _ L' _ => L' = L)) :=
  ⟨highestDwordSlice_sat h nofun, fun hl => highestDwordSlice_sat h fun _ => hl⟩

/-- primitive.rs:96 `split_hi_word`: the `unreachable_unchecked()` arm is not reached -/
theorem unsafe_primitive_rs_96 {s : Slice} (h : s.Ok L) :
    Sat L n (splitHiWordSlice true s) (fun _ L' _ => L' = L) ∧
    (1 ≤ s.len → Sat L n (splitHiWordSlice false s) (fun _ L' _ => L' = L)) :=
  ⟨splitHiWordSlice_sat h nofun, fun hl => splitHiWordSlice_sat h fun _ => hl⟩

end Slices

-- ============================================================== public arithmetic as histories

/-- every register that holds a `Repr` after a completed history is canonical — in the words of the
    property: a value of ≤ 2 words is inline, a heap value has ≥ 3 words, a non-zero top word and
    `len ≤ cap ≤ max_compact_capacity(len) ≤ MAX_CAPACITY`, and zero is not negative -/
theorem invariant_says_canonical {mx : Nat} {P : Pool} {L : Ledger} (hI : Inv mx P L) (k : Nat) (r : Rep)
    (hk : P k = .rep r) :
    (r.len ≤ 2 ↔ r.capacity ≤ 2) ∧
    (2 < r.capacity → 3 ≤ r.len ∧ r.words.getLast? ≠ some 0 ∧ r.len ≤ r.capacity ∧
      r.capacity ≤ maxCompactCapacity mx r.len ∧ r.capacity ≤ mx) ∧
    (r.isZero = true → r.isNeg = false) := by
  have hw := hI.wf k
  rw [hk] at hw
  cases r with
  | inline lo hi code neg =>
    obtain ⟨h1, h2⟩ := hw
    refine ⟨?_, ?_, ?_⟩
    · simp only [Rep.len, Rep.capacity]
      rcases h1 with ⟨hc, _⟩ | ⟨hc, _⟩ <;> subst hc <;> simp <;> split <;> omega
    · intro hc; simp only [Rep.capacity] at hc
      rcases h1 with ⟨hc', _⟩ | ⟨hc', _⟩ <;> omega
    · intro hz
      simp only [Rep.isZero, decide_eq_true_eq] at hz
      cases neg with
      | false => rfl
      | true => exact absurd hz (h2 rfl)
  | heap id cap ws neg =>
    obtain ⟨h3, hlast, hlen, hcmp, hmx⟩ := hw
    refine ⟨?_, ?_, ?_⟩
    · simp only [Rep.len, Rep.capacity]; omega
    · intro _; exact ⟨h3, hlast, hlen, hcmp, hmx⟩
    · intro hz; cases hz

/-- histories of PUBLIC operations: every `UBig` `+ - * / % << >>` in every ownership form is, storage-
    wise, a history over `AOp` (the skeletons `fragAdd/fragSub/fragMul/fragDivRem/fragShl/fragShr` of
    `Model/Mem/Arith.lean`, mirrored from add_ops.rs / mul_ops.rs / div_ops.rs / shift_ops.rs and compared with the
    real allocator event stream on every run), with the word-level kernels abstracted to an arbitrary
    `overwrite`.  Hence, after ANY sequence of such operations interleaved with any other history
    (clone, clone_from, from_words, drops, …), whatever the kernels wrote: all events are safe, no
    UB point is reached, and the invariant — so `invariant_says_canonical` for every value — holds. -/
theorem arithmetic_histories_keep_invariant {W mx : Nat} (hW : 0 < W)
    (segs : List (List Op ⊕ List AOp)) (hok : ∀ s ∈ segs, ∀ ops, s = .inl ops → ∀ op ∈ ops, op.Ok mx) :
    let h : List Op := segs.flatMap fun s => match s with | .inl ops => ops | .inr sk => sk.map AOp.toOp
    ∃ L', replay Ledger.empty (exec W mx h).evs = some L' ∧
      (∀ s, (exec W mx h).res ≠ .error (.ub s)) ∧
      ∀ P', (exec W mx h).res = .ok P' → Inv mx P' L' := by
  intro h
  have hall : ∀ op ∈ h, op.Ok mx := by
    intro op hop
    obtain ⟨s, hs, hin⟩ := List.mem_flatMap.mp hop
    cases s with
    | inl ops => exact hok _ hs ops rfl op hin
    | inr sk => exact AOp.map_ok mx sk op hin
  exact history_keeps_invariant hW h hall (Inv.empty mx) (n := 0) (fun _ _ => rfl)

/-- the concrete skeletons are such histories (instances for all operands, all forms) -/
theorem skeleton_ops_ok (W mx sq : Nat) (f : Form) (a b : List Nat) (byVal : Bool) (k : Nat) :
    (∀ op ∈ ((fragAdd W f a b).ops ++ (fragAdd W f a b).cleanup).map AOp.toOp, op.Ok mx) ∧
    (∀ op ∈ ((fragSub W f a b).ops ++ (fragSub W f a b).cleanup).map AOp.toOp, op.Ok mx) ∧
    (∀ op ∈ ((fragMul W sq f a b).ops ++ (fragMul W sq f a b).cleanup).map AOp.toOp, op.Ok mx) ∧
    (∀ op ∈ ((fragDivRem W byVal f a b).ops ++ (fragDivRem W byVal f a b).cleanup).map AOp.toOp, op.Ok mx) ∧
    (∀ op ∈ ((fragSqr W sq a).ops ++ (fragSqr W sq a).cleanup).map AOp.toOp, op.Ok mx) ∧
    (∀ op ∈ ((fragFromBytes W k sq).ops ++ (fragFromBytes W k sq).cleanup).map AOp.toOp, op.Ok mx) ∧
    (∀ op ∈ ((fragShl W mx byVal a k).ops ++ (fragShl W mx byVal a k).cleanup).map AOp.toOp, op.Ok mx) ∧
    (∀ op ∈ ((fragShr W byVal a k).ops ++ (fragShr W byVal a k).cleanup).map AOp.toOp, op.Ok mx) :=
  ⟨AOp.map_ok mx _, AOp.map_ok mx _, AOp.map_ok mx _, AOp.map_ok mx _, AOp.map_ok mx _, AOp.map_ok mx _, AOp.map_ok mx _,
    AOp.map_ok mx _⟩

-- ============================================================== non-vacuity: concrete instances of every hypothesis

section NonVacuity

/-- a ledger with two live allocations: id 0 (8 words) and id 1 (5 words) -/
def exL : Ledger := (Ledger.empty.set 0 (some 8)).set 1 (some 5)
/-- a live 6-word buffer with two high zero words, capacity 8 -/
def exB : Buf := ⟨0, 8, [1, 2, 3, 4, 0, 0]⟩
/-- two canonical heap values (4 words in 8, 3 words in 5, negative) and an inline one -/
def exR0 : Rep := .heap 0 8 [1, 2, 3, 4] false
def exR1 : Rep := .heap 1 5 [7, 8, 9] true
def exRi : Rep := .inline 5 0 1 true

theorem exL_below : exL.Below 2 := by
  intro j hj
  have h0 : j ≠ 0 := by omega
  have h1 : j ≠ 1 := by omega
  simp [exL, Ledger.set, Ledger.empty, h0, h1]
theorem exB_live : exL exB.id = some exB.cap := by decide
theorem exB_wf : exB.Wf 1000 := by unfold Buf.Wf Buf.len; decide
theorem exR0_canon : exR0.Canon 1000 := by
  refine ⟨by decide, by decide, by decide, ?_, by decide⟩
  show 8 ≤ maxCompactCapacity 1000 4
  have := (policy_chain 1000 4 (by decide)); decide
theorem exR1_canon : exR1.Canon 1000 := by
  refine ⟨by decide, by decide, by decide, ?_, by decide⟩
  show 5 ≤ maxCompactCapacity 1000 3
  decide
theorem exRi_canon : exRi.Canon 1000 := ⟨Or.inl ⟨rfl, rfl⟩, by intro _ h; cases h.2⟩
theorem exR0_live : exR0.Live exL := by intro id c h; cases h; decide
theorem exR1_live : exR1.Live exL := by intro id c h; cases h; decide
theorem exRi_live : exRi.Live exL := by intro id c h; cases h

-- (d1) from_buffer on a concrete buffer: hypotheses hold, and the result is the 4-word heap value
example := from_buffer_canonical (mx := 1000) exL_below exB_live exB_wf
example : (Rep.fromBuffer 1000 exB 2).res.toOption = some (.heap 0 8 [1, 2, 3, 4] false) := by decide +kernel

-- (d2) clone_from: heap ← heap (reuse), heap ← inline, inline ← heap
example := clone_from_correct (mx := 1000) exL_below exR0_canon exR1_canon exR0_live exR1_live
  (by intro i c i' c' h h'; cases h; cases h'; decide)
example := clone_from_correct (mx := 1000) exL_below exR0_canon exRi_canon exR0_live exRi_live
  (by intro i c i' c' _ h'; cases h')
example := clone_from_correct (mx := 1000) exL_below exRi_canon exR1_canon exRi_live exR1_live
  (by intro i c i' c' h; cases h)
example : (Rep.cloneFrom 1000 exR0 exR1 2).res.toOption = some (.heap 0 8 [7, 8, 9] true) → False := by
  -- cap 8 > max_compact_capacity(3) = 7: the old buffer is NOT reused but freed and replaced
  decide +kernel
example : (Rep.cloneFrom 1000 exR0 exR1 2).res.toOption = some (.heap 2 5 [7, 8, 9] true) := by decide +kernel
example : (Rep.cloneFrom 1000 exR1 exR0 2).res.toOption = some (.heap 1 5 [1, 2, 3, 4] false) := by decide +kernel  -- reuse

example := clone_correct (mx := 1000) exL_below exR1_canon exR1_live
example := ones_canonical (W := 64) (mx := 1000) (by decide) 200 exL_below
example := with_sign_canonical exR1_canon false
example := capacity_policy 1000 37 (by decide)
example : ¬ (∀ op ∈ [Op.ensureCapacityExact 0 1001], op.Ok 1000) := by
  intro h; have := h _ List.mem_cons_self; simp [Op.Ok] at this

-- the per-block obligations: their hypotheses on the concrete buffer / values
example := unsafe_buffer_rs_111_470 (n := 2) exB_live
example := unsafe_buffer_rs_148 (n := 2) (c := 20) exB_live
example := unsafe_buffer_rs_209 (n := 2) (w := 9) exB_live exB_wf
example := unsafe_buffer_rs_235 (n := 2) (elem := 0) (k := 2) exB_live exB_wf
example := unsafe_buffer_rs_266 (n := 2) (k := 2) exB_live exB_wf
example := unsafe_buffer_rs_293 (n := 2) (src := some 1) (ws := [1, 2]) exB_live exB_wf
  (by intro s hs; cases hs; exact ⟨5, by decide, by decide⟩)
example := unsafe_buffer_rs_307 (n := 2) exB_live exB_wf
example := unsafe_buffer_rs_341 (n := 2) (k := 3) exB_live exB_wf
example := unsafe_buffer_rs_358 (n := 2) exB_live exB_wf
example := unsafe_buffer_rs_376 (n := 2) (lo := 1) (hi := 2) exB_live exB_wf
example := unsafe_buffer_rs_391 (n := 2) (src := none) (ws := List.replicate 20 1) exB_live exB_wf
  (by intro s hs; cases hs)
example := unsafe_buffer_rs_408 (n := 2) exB_live
example := unsafe_buffer_rs_440 (n := 2) exB_live exB_wf
example := unsafe_buffer_rs_456 (n := 2) (b := exB) (src := ⟨1, 5, [7, 8, 9]⟩) exB_live exB_wf (by decide)
  (by unfold Buf.Wf Buf.len; decide) (by decide)
example := unsafe_buffer_rs_482_490 (n := 2) exB_live exB_wf
example := unsafe_buffer_rs_438_zeroize (n := 2) exB_live exB_wf
example := unsafe_repr_rs_333_433_487 (L := exL) (n := 2) (site := "x") (b := exB) (by decide)
example := unsafe_repr_rs_356 (n := 2) exR1_canon exR1_live
example := unsafe_repr_rs_191 (n := 2) exR0_canon exR0_live
example := unsafe_repr_rs_164_231 (n := 2) exR0_canon exR0_live
example := unsafe_repr_rs_547 (n := 2) exR1_live
example := unsafe_repr_rs_504_519 (n := 2) exR1_live
example := unsafe_repr_rs_209 (n := 2) exR1_canon exR1_live
example := unsafe_repr_rs_253_zeroize (n := 2) exR1_canon exR1_live
example := unsafe_repr_rs_new_unchecked exR1 exR1_canon true

-- statics
theorem exS_wf : StaticWf [1, 2, 3] := ⟨by decide, by decide⟩
example := static_clone_correct (L := exL) (n := 2) (mx := 1000) (neg := true) exS_wf
example := static_clone_from_correct (n := 2) (sneg := false) exR0_canon exR0_live exS_wf
example : (exec 64 1000 [.fromStaticWords 0 [1, 2, 3] true, .repClone 1 0, .repCloneFrom 1 0, .asSlice 0, .drop 0,
    .drop 1]).res.toBool = true := by decide +kernel
example : (exec 64 1000 [.fromStaticWords 0 [1, 2, 3] true, .neg 0]).res.toBool = false := by decide +kernel

-- slices (shift.rs / primitive.rs)
theorem exS_ok : Slice.Ok exL ⟨0, 2, 4⟩ := ⟨8, by decide, by decide⟩
example := unsafe_shift_rs_57 (n := 2) (debug := false) exS_ok (by decide)
example := (unsafe_primitive_rs_66 (n := 2) exS_ok).2 (by decide)
example := (unsafe_primitive_rs_82 (n := 2) exS_ok).2 (by decide)
example := (unsafe_primitive_rs_96 (n := 2) exS_ok).2 (by decide)

-- bump allocator: a chain u8×3, u64×2, u16×1 in a 64-byte block
example : Bump.allocateMany (2 ^ 64 - 1) ⟨0, 64⟩ [⟨1, 1, 3⟩, ⟨8, 8, 2⟩, ⟨2, 2, 1⟩] =
    some ([(0, 3), (8, 24), (24, 26)], ⟨26, 64⟩) := by decide +kernel
example := bump_slices_disjoint (usz := 2 ^ 64 - 1) [⟨1, 1, 3⟩, ⟨8, 8, 2⟩, ⟨2, 2, 1⟩]
  (by intro r hr; simp at hr; rcases hr with rfl | rfl | rfl <;> decide)
  (m := ⟨0, 64⟩) (sls := [(0, 3), (8, 24), (24, 26)]) (fin := ⟨26, 64⟩) (by decide) (by decide +kernel)

-- arithmetic skeletons: `&a + &b` with a carry into a 4th word, then `a - &b` back, as one history
def exArith : List (List Op ⊕ List AOp) :=
  [.inl [.fromWords 0 [2 ^ 64 - 1, 2 ^ 64 - 1, 2 ^ 64 - 1], .fromBuffer 0, .fromWords 1 [1], .fromBuffer 1],
   .inr ((fragAdd 64 .rr [2 ^ 64 - 1, 2 ^ 64 - 1, 2 ^ 64 - 1] [1]).ops)]
example := arithmetic_histories_keep_invariant (W := 64) (mx := 1000) (by decide) exArith
  (by intro s hs ops he op hop
      simp [exArith] at hs
      rcases hs with rfl | rfl
      · cases he; simp at hop; rcases hop with rfl | rfl | rfl | rfl <;> trivial
      · cases he)
example : (exec 64 1000 (exArith.flatMap fun s => match s with | .inl ops => ops | .inr sk => sk.map AOp.toOp)).res.toBool
    = true := by decide +kernel
example : ((exec 64 1000 (exArith.flatMap fun s => match s with | .inl ops => ops | .inr sk => sk.map AOp.toOp)).res.toOption.map
    fun P => P 2) = some (.rep (.heap 2 5 [0, 0, 0, 1] false)) := by decide +kernel

end NonVacuity

-- ============================================================== more skeletons, memory.rs layouts

/-- the skeletons of `Model/Mem/Arith2.lean` — `DivRem::div_rem` (quotient in the lhs buffer, remainder in the rhs buffer), `& | ^` with
    buffer reuse, `UBig::pow` (one growing result buffer / a chain of `square_large`·`mul_large` results) — are histories
    over the same proved alphabet, for all operands, forms and exponents; so `arithmetic_histories_keep_invariant`
    covers any interleaving of them with every other operation -/
theorem skeleton_ops_ok_round4 (W mx sq : Nat) (f : Form) (bop : BitOp) (a b : List Nat) (k : Nat) :
    (∀ op ∈ ((fragDivRemBoth W f a b).ops ++ (fragDivRemBoth W f a b).cleanup).map AOp.toOp, op.Ok mx) ∧
    (∀ op ∈ ((fragBit W bop f a b).ops ++ (fragBit W bop f a b).cleanup).map AOp.toOp, op.Ok mx) ∧
    (∀ op ∈ ((fragPow W mx sq a k).ops ++ (fragPow W mx sq a k).cleanup).map AOp.toOp, op.Ok mx) :=
  ⟨AOp.map_ok mx _, AOp.map_ok mx _, AOp.map_ok mx _⟩

/-- `Model/Mem/Arith3.lean`: the in-place bit methods of `UBig` (`set_bit`, `clear_bit`, `clear_high_bits`,
    `split_bits`, `next_power_of_two`) and the `IBig` sign glue over the `UBig` skeletons (`/ % div_rem << >> pow`; a negative
    `>>` is a shift followed by a by-value subtraction on the shifted value) are histories over the proved alphabet too -/
theorem skeleton_ops_ok_round4b (W mx sq kind : Nat) (f : Form) (fn : BitFn) (na nb byVal : Bool) (a b : List Nat) (k : Nat) :
    (∀ op ∈ ((fragBitFn W mx fn a k).ops ++ (fragBitFn W mx fn a k).cleanup).map AOp.toOp, op.Ok mx) ∧
    (∀ op ∈ ((fragSignedDiv W kind f na a nb b).ops ++ (fragSignedDiv W kind f na a nb b).cleanup).map AOp.toOp, op.Ok mx) ∧
    (∀ op ∈ ((fragSignedShl W mx byVal na a k).ops ++ (fragSignedShl W mx byVal na a k).cleanup).map AOp.toOp, op.Ok mx) ∧
    (∀ op ∈ ((fragSignedShr W sq byVal na a k).ops ++ (fragSignedShr W sq byVal na a k).cleanup).map AOp.toOp, op.Ok mx) ∧
    (∀ op ∈ ((fragSignedPow W mx sq na a k).ops ++ (fragSignedPow W mx sq na a k).cleanup).map AOp.toOp, op.Ok mx) :=
  ⟨AOp.map_ok mx _, AOp.map_ok mx _, AOp.map_ok mx _, AOp.map_ok mx _, AOp.map_ok mx _⟩

-- `set_bit(1536)` on a 4-word value: the value's own buffer grows (ensure_capacity, push_zeros, push)
example : (fragBitFn 64 1000 .setBit [1, 2, 3, 4] 1536).ops =
    [.intoTyped 0, .ensureCapacity 0 25, .pushZeros 0 20, .push 0 1, .fromBuffer 0] := by decide +kernel
-- `-(2^197 - 1) >> 5 = -(2^192)`: shift in place, negate, subtract the rounding bit by value (carry into a 4th word)
example : (fragSignedShr 64 30 true true (toWords 64 4 (2 ^ 197 - 1)) 5).res = 0 := by decide +kernel

/-- `UBig::sqrt_rem(&self)` (root_ops.rs `sqrt_rem_large(words, false)`: shifted copy `shl_large_ref(..).into_buffer()`, root in
    a fresh buffer, remainder left in the truncated copy, scratch block of `max_layout(sqr, div)` words) is a history over
    the proved alphabet.  The compound assignments `x op= y`, `x op= &y`, `x <<= n`, `x >>= n` are
    `*self = mem::take(self) op rhs` and run the by-value skeletons (compared under the form names `av`, `ar`, `a`). -/
theorem skeleton_ops_ok_sqrt_rem (W mx sq : Nat) (a : List Nat) :
    ∀ op ∈ ((fragSqrtRem W sq a).ops ++ (fragSqrtRem W sq a).cleanup).map AOp.toOp, op.Ok mx :=
  AOp.map_ok mx _

-- a 5-word operand: odd length ⇒ the copy is shifted by a whole word (+ the even part of the leading zeros), n = 3
example : ((fragSqrtRem 64 30 [1, 2, 3, 4, 5]).ops.take 3, (fragSqrtRem 64 30 [1, 2, 3, 4, 5]).res2) =
    ([.allocate 3 7, .pushZeros 3 1, .pushTailFrom 3 0 0], some 3) := by decide +kernel

/-- `IBig & | ^` for all sign pairs (bits.rs `impl_ibig_bitand / bitor / bitxor`: `sub_one` on the negative magnitudes —
    in place by value, in a copy by reference —, the crate-internal `and_not`, a final `!` = `add_one` with
    `push_resizing(1)` on carry) is a history over the proved alphabet -/
theorem skeleton_ops_ok_ibig_bits (W mx op : Nat) (f : Form) (na nb : Bool) (a b : List Nat) :
    ∀ o ∈ ((fragSignedBit W op f na a nb b).ops ++ (fragSignedBit W op f na a nb b).cleanup).map AOp.toOp, o.Ok mx :=
  AOp.map_ok mx _

-- `-(2^192) & -(2^192)` by value: both magnitudes lose a word by `sub_one`, `|` in place, the final `!` carries back
example : (fragSignedBit 64 0 .vv true [0, 0, 0, 1] true [0, 0, 0, 1]).res = 0 := by decide +kernel

/-- memory.rs `array_layout::<T>(n)`: returns (instead of `panic_allocate_too_much`) iff `n · size_of::<T>()` fits
    `isize::MAX - (align - 1)`; the layout returned is valid and has exactly that size — in particular the
    multiplication cannot have wrapped -/
theorem array_layout_spec (U esize alog n : Nat) (hU : alog < U) :
    ((Lay.arrayLayout U esize alog n).isSome = true ↔ esize * n ≤ Lay.maxSizeForAlign U alog) ∧
    ∀ l, Lay.arrayLayout U esize alog n = some l → l.Valid U ∧ l.size = esize * n ∧ l.alog = alog :=
  ⟨Lay.arrayLayout_isSome_iff U esize alog n, fun _ h => Lay.arrayLayout_valid hU h⟩

/-- memory.rs `add_layout` / `max_layout` preserve validity; `add_layout` places the second part at an offset that is
    aligned for it, not before the end of the first part and less than one alignment after it -/
theorem add_max_layout_valid {U : Nat} {a b : Lay.Layout} (ha : a.Valid U) (hb : b.Valid U) :
    (∀ l off, Lay.addLayout U a b = some (l, off) →
      l.Valid U ∧ l.alog = max a.alog b.alog ∧ a.size ≤ off ∧ off < a.size + b.align ∧ off % b.align = 0 ∧
      l.size = off + b.size) ∧
    (∀ l, Lay.maxLayout U a b = some l → l.Valid U ∧ l.size = max a.size b.size ∧ l.alog = max a.alog b.alog) :=
  ⟨fun _ _ h => Lay.addLayout_valid ha hb h, fun _ h => Lay.maxLayout_valid h⟩

/-- memory.rs:36-50, 66-72 `MemoryAllocation::new` / `Drop`: for every valid layout (all that `array_layout`,
    `add_layout`, `max_layout`, `zero_layout` can produce) the `size > isize::MAX` arm is dead; a zero-size layout makes
    no allocator call and none on drop; otherwise `alloc` gets a non-zero size whose round-up to the power-of-two
    alignment is ≤ `isize::MAX` (the `GlobalAlloc` contract of the `unsafe { alloc(layout) }` at memory.rs:43) and
    `dealloc` gets the same `(size, align)` (contract of memory.rs:70) -/
theorem unsafe_memory_rs_43_70 {U : Nat} {l : Lay.Layout} (h : l.Valid U) :
    Lay.memoryAllocationNew U l ≠ .tooMuch ∧
    (l.size = 0 → Lay.memoryAllocationNew U l = .dangling l.align ∧ Lay.memoryAllocationDrop l = none) ∧
    (l.size ≠ 0 → Lay.memoryAllocationNew U l = .alloc l.size l.align ∧
      Lay.memoryAllocationDrop l = some (l.size, l.align) ∧ l.size + (l.align - 1) ≤ Lay.isizeMax U) :=
  Lay.memoryAllocationNew_contract h

/-- `add_layout(array_layout::<A>(na), array_layout::<B>(nb))` is sufficient and correctly aligned for the two nested
    bump requests that consume it (`allocate_slice::<A>(na)` then `allocate_slice::<B>(nb)` on the remainder): both
    succeed in a block at any address aligned to the combined alignment; the slices are `[s, s + size_a)` and
    `[s + offset, s + size)`, nothing is left — all element sizes, alignments, counts -/
theorem add_layout_serves_bump {U usz : Nat} {ea aa na eb ab nb : Nat} {la lb l : Lay.Layout} {off : Nat}
    (ha : Lay.arrayLayout U ea aa na = some la) (hb : Lay.arrayLayout U eb ab nb = some lb)
    (h : Lay.addLayout U la lb = some (l, off)) (s : Nat) (hs : s % l.align = 0) (hfit : s + l.size ≤ usz) :
    Bump.allocateMany usz ⟨s, s + l.size⟩ [Lay.reqOf ea aa na, Lay.reqOf eb ab nb] =
      some ([(s, s + la.size), (s + off, s + l.size)], ⟨s + l.size, s + l.size⟩) :=
  Lay.addLayout_serves_bump ha hb h s hs hfit

/-- memory.rs `max_layout(a, b)` serves either consumer alone at the block start (root.rs `memory_requirement_sqrt_rem` =
    `max_layout(sqr, div)`: one squaring or one division at a time) — all element sizes, alignments, counts -/
theorem max_layout_serves_each {U usz : Nat} {ea aa na eb ab nb : Nat} {la lb l : Lay.Layout}
    (ha : Lay.arrayLayout U ea aa na = some la) (hb : Lay.arrayLayout U eb ab nb = some lb)
    (h : Lay.maxLayout U la lb = some l) (s : Nat) (hs : s % l.align = 0) (hfit : s + l.size ≤ usz) :
    Bump.tryFind usz ⟨s, s + l.size⟩ (Lay.reqOf ea aa na) = some (s, s + la.size) ∧
    Bump.tryFind usz ⟨s, s + l.size⟩ (Lay.reqOf eb ab nb) = some (s, s + lb.size) :=
  Lay.maxLayout_serves_each ha hb h s hs hfit

example := max_layout_serves_each (U := 64) (usz := 2 ^ 64 - 1) (ea := 8) (aa := 3) (na := 100) (eb := 8) (ab := 3) (nb := 40)
  (la := ⟨800, 3⟩) (lb := ⟨320, 3⟩) (l := ⟨800, 3⟩) (by decide +kernel) (by decide +kernel) (by decide +kernel)
  4096 (by decide) (by decide)

/-- two `Word` arrays: `na + nb` words, no padding — the scratch word count of the pow skeletons
    (`allocScratch s (n + sqrScratchWords n)`) -/
theorem add_layout_words {U k na nb : Nat} {l : Lay.Layout} {off : Nat}
    (h : Lay.addLayout U ⟨2 ^ k * na, k⟩ ⟨2 ^ k * nb, k⟩ = some (l, off)) :
    l.size = 2 ^ k * (na + nb) ∧ off = 2 ^ k * na ∧ l.alog = k := Lay.addLayout_words h

/-- pow.rs `pow_word_base` (`res.push_resizing(carry); // actually never resize`): in the loop exactly as the skeleton
    `fPowWordBase` runs it — from `wbase²` (2 words) at bit `bit_len(e) - 2` of `e = exp / wexp ≥ 2` — the tracked length
    of the single result buffer ends ≤ `e`; lengths only grow, so every `push_zeros(len)` doubling and every
    `push_resizing(carry)`, the final one included, stays within the capacity of `Buffer::allocate(e + 1)`.  All word
    sizes, multipliers, exponents, values.  (That the real buffer shows no realloc event is compared on every run.) -/
theorem pow_word_base_never_resizes (W mx r m e : Nat) (he : 2 ≤ e) (hmx : e + 1 ≤ mx) (val : Nat) :
    (powLoop W r m false e (Nat.log2 e - 1) val 2).2.2 ≤ e ∧
    (powLoop W r m false e (Nat.log2 e - 1) val 2).2.2 + 1 ≤ defaultCapacity mx (e + 1) := by
  have h := powLoop_len_start W r m e false he val
  simp only [Bool.false_eq_true, ↓reduceIte, Nat.one_mul] at h
  have hc := (policy_chain mx (e + 1) hmx).1
  exact ⟨h, by omega⟩

/-- pow.rs `pow_dword_base` (`res.push(c0); res.push_resizing(c1); // actually never resize`): from `base²` (4 words) the
    length stays ≤ `2·exp`, the `num_words` of its `Buffer::allocate(2·exp)` -/
theorem pow_dword_base_never_resizes (W mx r m e : Nat) (he : 2 ≤ e) (hmx : 2 * e ≤ mx) (val : Nat) :
    (powLoop W r m true e (Nat.log2 e - 1) val 4).2.2 ≤ defaultCapacity mx (2 * e) := by
  have h := powLoop_len_start W r m e true he val
  simp only [↓reduceIte] at h
  have hc := (policy_chain mx (2 * e) hmx).1
  omega

example := pow_word_base_never_resizes 64 1000 5 (3 ^ 40) 7 (by decide) (by decide) ((3 ^ 40) ^ 2)
example : (powLoop 64 5 (3 ^ 40) false 7 1 ((3 ^ 40) ^ 2) 2).2.2 = 7 := by decide +kernel

-- non-vacuity (64-bit usize, Word = u64: esize 8, alog 3)
example : Lay.arrayLayout 64 8 3 41 = some ⟨328, 3⟩ := by decide +kernel
example : Lay.arrayLayout 64 8 3 (2 ^ 60) = none := by decide +kernel            -- 2^63 bytes: the documented panic
example : Lay.addLayout 64 ⟨3, 0⟩ ⟨16, 3⟩ = some (⟨24, 3⟩, 8) := by decide +kernel  -- u8×3 then u64×2: offset 8
example : (⟨328, 3⟩ : Lay.Layout).Valid 64 := by unfold Lay.Layout.Valid Lay.maxSizeForAlign Lay.isizeMax; decide
example := add_layout_serves_bump (U := 64) (usz := 2 ^ 64 - 1) (ea := 1) (aa := 0) (na := 3) (eb := 8) (ab := 3) (nb := 2)
  (la := ⟨3, 0⟩) (lb := ⟨16, 3⟩) (l := ⟨24, 3⟩) (off := 8) (by decide +kernel) (by decide +kernel) (by decide +kernel)
  4096 (by decide) (by decide)
example : Lay.memoryAllocationNew 64 ⟨328, 3⟩ = .alloc 328 8 := by decide +kernel
example : Lay.memoryAllocationNew 64 Lay.zeroLayout = .dangling 1 := by decide +kernel

-- div_rem of a 4-word by a 3-word value, both by value: quotient stays in the lhs buffer, remainder in the rhs buffer
example : ((fragDivRemBoth 64 .vv [1, 2, 3, 4] [5, 6, 7]).res, (fragDivRemBoth 64 .vv [1, 2, 3, 4] [5, 6, 7]).res2) =
    (0, some 1) := by decide +kernel
-- 3^100: the word-base buffer path
example : ((fragPow 64 ((2 ^ 64 - 1) / 64) 30 [3] 100).ops.length) = 8 := by decide +kernel

-- ============================================================== sqrt, gcd, gcd_ext on C12's mirrored kernels

/-- `Model/Mem/Arith4.lean`: `!IBig` / `!&IBig` (add_one / sub_one in the operand's buffer or in a copy), `UBig::sqrt()`
    (root_only: `from_buffer` on the raw 2n-word work buffer, whose high half is what C12's mirrored `root::sqrt_rem` leaves
    there), `Gcd::gcd` of `UBig` and `IBig` (both operands copied; the copy that holds the result is selected by the
    `swapped` flag of the mirrored Lehmer loop) and `ExtendedGcd::gcd_ext` of `UBig`, of `IBig` and of the mixed
    `UBig`/`IBig` operand pairs (`fragMixedGcd`: sign glue, the coefficients are multiplied by the operand signs; by-value
    large operands become the work buffers; gcd in the smaller operand's buffer, `|b|` in the larger one's, `|a|` copied
    out of the scratch block) in all ownership forms are histories over the proved alphabet, for all operands — so
    `arithmetic_histories_keep_invariant` covers any interleaving of them with every other operation, whatever the
    kernels write -/
theorem skeleton_ops_ok_round5 (W mx sq : Nat) (f : Form) (byVal na : Bool) (a b : List Nat) :
    (∀ op ∈ ((fragNot W byVal na a).ops ++ (fragNot W byVal na a).cleanup).map AOp.toOp, op.Ok mx) ∧
    (∀ op ∈ ((fragSqrt W sq a).ops ++ (fragSqrt W sq a).cleanup).map AOp.toOp, op.Ok mx) ∧
    (∀ op ∈ ((fragGcd W f a b).ops ++ (fragGcd W f a b).cleanup).map AOp.toOp, op.Ok mx) ∧
    (∀ op ∈ ((fragSignedGcd W f a b).ops ++ (fragSignedGcd W f a b).cleanup).map AOp.toOp, op.Ok mx) ∧
    (∀ op ∈ ((fragGcdExt W f a b).ops ++ (fragGcdExt W f a b).cleanup).map AOp.toOp, op.Ok mx) ∧
    (∀ (ext aI bI nb : Bool), ∀ op ∈ ((fragMixedGcd W ext f aI na a bI nb b).ops ++
        (fragMixedGcd W ext f aI na a bI nb b).cleanup).map AOp.toOp, op.Ok mx) :=
  ⟨AOp.map_ok mx _, AOp.map_ok mx _, AOp.map_ok mx _, AOp.map_ok mx _, AOp.map_ok mx _, fun _ _ _ _ => AOp.map_ok mx _⟩

-- `!(2^128 - 1) = -(2^128)` by value on an inline value: the carry leaves the inline form (a 3-word buffer is allocated)
example : (fragNot 64 true false [2 ^ 64 - 1, 2 ^ 64 - 1]).ops =
    [.intoSignTyped 0, .allocate 2 3, .push 2 0, .push 2 0, .push 2 1, .fromBuffer 2, .withSign 2 true] := by decide +kernel

/-- `Model/Mem/Arith5.lean`: `IBig`'s Euclidean division family — `div_euclid`, `rem_euclid`, `div_rem_euclid` of
    `IBig` in all four ownership forms and all sign pairs (div_ops.rs `impl_ibig_div_euclid / rem_euclid / divrem_euclid`: the
    `UBig` `div_rem` / `%` skeleton on the magnitudes, with the divisor only borrowed when the dividend is negative; then, for a
    non-zero remainder, `q.into_typed().add_one()` in the quotient's own buffer and the by-value subtraction
    `mag1 - r.into_typed()`; the unused remainder / by-value divisor dropped at the end of the block) are histories over the
    proved alphabet, so `arithmetic_histories_keep_invariant` covers them, whatever the kernels write -/
theorem skeleton_ops_ok_round6 (W mx : Nat) (f : Form) (na nb : Bool) (a b : List Nat) :
    (∀ op ∈ ((fragSignedDivEuclid W f na a nb b).ops ++ (fragSignedDivEuclid W f na a nb b).cleanup).map AOp.toOp, op.Ok mx) ∧
    (∀ op ∈ ((fragSignedRemEuclid W f na a b).ops ++ (fragSignedRemEuclid W f na a b).cleanup).map AOp.toOp, op.Ok mx) ∧
    (∀ op ∈ ((fragSignedDivRemEuclid W f na a nb b).ops ++ (fragSignedDivRemEuclid W f na a nb b).cleanup).map AOp.toOp,
      op.Ok mx) :=
  ⟨AOp.map_ok mx _, AOp.map_ok mx _, AOp.map_ok mx _⟩

-- `(-(2^128 - 1) * 3 - 1).div_rem_euclid(&3)` by value / by reference: q = 2^128 - 1 is inline, `add_one` leaves the inline form
-- (3-word buffer, register 6), the remainder 3 - 1 = 2 is a fresh inline value (register 5)
example : ((fragSignedDivRemEuclid 64 .vr true (toWords 64 3 ((2 ^ 128 - 1) * 3 + 1)) false [3]).res,
           (fragSignedDivRemEuclid 64 .vr true (toWords 64 3 ((2 ^ 128 - 1) * 3 + 1)) false [3]).res2) = (6, some 5) := by
  decide +kernel

/-- the by-value subtraction `mag1 - r.into_typed()` of the Euclidean fix-up never reaches `panic_negative_ubig`: for a
    divisor stored with the length of its value (what `Repr::from_buffer` guarantees) and every `rm ≤ |b|` (the fix-up runs
    with `0 < rm < |b|`) the `UBig - UBig` skeleton it runs has no panic arm — in the by-value and the borrowed-divisor form -/
theorem euclid_fix_sub_no_panic (W : Nat) (bVal : Bool) (b : List Nat) (rm : Nat)
    (hb : b.length = wordLen W (wval W b)) (hrm : rm ≤ wval W b) :
    (fragSub W (if bVal then .vv else .rv) b (trimmed W rm)).panic = none :=
  Dashu.Proofs.Mem.euclid_fix_sub_no_panic W bVal b rm hb hrm

-- non-vacuity: a 3-word divisor with the length of its value, remainder 2^64 (two words)
example : [5, 6, 7].length = wordLen 64 (wval 64 [5, 6, 7]) ∧ 2 ^ 64 ≤ wval 64 [5, 6, 7] := by decide +kernel

/-- **the division storage skeletons panic only on a zero divisor**: for `UBig / UBig`,
    `UBig % UBig`, `UBig::div_rem` and `IBig`'s `div_euclid` / `rem_euclid` / `div_rem_euclid` skeletons, in every ownership
    form, sign pair and for ANY operand words, `Dashu.Proofs.Mem.DivPanicSpec W b fr` holds: the only panic is the documented
    `divideByZero`; there is none when the divisor's value is non-zero; and an inline zero divisor (≤ 2 words — the only zero a
    canonical `Repr` can be) always panics.  (The UBig `div_euclid` family forwards to these; IBig `/ % div_rem` are sign glue
    over them.)  The Euclidean fix-up subtraction adds no panic arm by `euclid_fix_sub_no_panic`. -/
theorem div_skeletons_panic_only_on_zero_divisor (W : Nat) (f : Form) (na nb wantRem : Bool) (a b : List Nat) :
    Dashu.Proofs.Mem.DivPanicSpec W b (fragDivRem W wantRem f a b) ∧
    Dashu.Proofs.Mem.DivPanicSpec W b (fragDivRemBoth W f a b) ∧
    Dashu.Proofs.Mem.DivPanicSpec W b (fragSignedDivEuclid W f na a nb b) ∧
    Dashu.Proofs.Mem.DivPanicSpec W b (fragSignedRemEuclid W f na a b) ∧
    Dashu.Proofs.Mem.DivPanicSpec W b (fragSignedDivRemEuclid W f na a nb b) :=
  ⟨Dashu.Proofs.Mem.fragDivRem_panic W wantRem f a b, Dashu.Proofs.Mem.fragDivRemBoth_panic W f a b,
   Dashu.Proofs.Mem.fragSignedDivEuclid_panic W f na a nb b, Dashu.Proofs.Mem.fragSignedRemEuclid_panic W f na a b,
   Dashu.Proofs.Mem.fragSignedDivRemEuclid_panic W f na a nb b⟩

/-- what `DivPanicSpec` says, spelled out -/
theorem div_panic_spec_unfold (W : Nat) (b : List Nat) (fr : Frag) :
    Dashu.Proofs.Mem.DivPanicSpec W b fr ↔
      ((fr.panic = none ∨ fr.panic = some .divideByZero) ∧ (wval W b ≠ 0 → fr.panic = none) ∧
       (isSmall b = true → wval W b = 0 → fr.panic = some .divideByZero)) := Iff.rfl

-- non-vacuity: both outcomes occur — a 5-word by 3-word Euclidean division of a negative dividend runs to the end, the same
-- with an empty (zero) divisor panics; the non-zero-divisor clause applied to a concrete input
example : (fragSignedDivRemEuclid 64 .vv true [1, 2, 3, 4, 5] false [7, 8, 9]).panic = none ∧
    (fragSignedDivRemEuclid 64 .rv true [1, 2, 3, 4, 5] true []).panic = some .divideByZero ∧
    (fragDivRem 64 true .rr [1, 2, 3] [0]).panic = some .divideByZero := by decide +kernel
example := (div_skeletons_panic_only_on_zero_divisor 64 .vv true false true [1, 2, 3, 4, 5] [7, 8, 9]).2.2.2.1.2.1 (by decide)

/-- **the add / sub storage skeletons and their panic arm**.  For ANY operand words,
    every ownership form and sign: `UBig + UBig` has no panic arm; `IBig + IBig` and `IBig - IBig` (`fragSigned`, op 0 / 1: `add` or
    `sub_signed` on the magnitudes) have none; `UBig - UBig` has only the documented `panic_negative_ubig`, taken exactly under the
    branch conditions `Dashu.Proofs.Mem.subUnderflowArm` (spelled out in `sub_underflow_arm_unfold`). -/
theorem addsub_skeletons_panic_arms (W sqrSimple : Nat) (f : Form) (na nb : Bool) (a b : List Nat) :
    (fragAdd W f a b).panic = none ∧
    (fragSigned W sqrSimple 0 f na a nb b).panic = none ∧ (fragSigned W sqrSimple 1 f na a nb b).panic = none ∧
    ((fragSub W f a b).panic = none ∨ (fragSub W f a b).panic = some .negativeUBig) ∧
    ((fragSub W f a b).panic = some .negativeUBig ↔ Dashu.Proofs.Mem.subUnderflowArm W a b) :=
  ⟨Dashu.Proofs.Mem.fragAdd_no_panic W f a b,
   Dashu.Proofs.Mem.fragSigned_addsub_no_panic W sqrSimple 0 (Or.inl rfl) f na a nb b,
   Dashu.Proofs.Mem.fragSigned_addsub_no_panic W sqrSimple 1 (Or.inr rfl) f na a nb b,
   (Dashu.Proofs.Mem.fragSub_panic_any W f a b).1, (Dashu.Proofs.Mem.fragSub_panic_any W f a b).2⟩

/-- what `subUnderflowArm` says, spelled out: both inline — by value; inline minus heap — always; heap minus inline — never;
    heap minus heap — shorter or smaller -/
theorem sub_underflow_arm_unfold (W : Nat) (a b : List Nat) :
    Dashu.Proofs.Mem.subUnderflowArm W a b ↔
      (if isSmall a && isSmall b then wval W a < wval W b
       else if isSmall a then True
       else if isSmall b then False
       else a.length < b.length ∨ wval W a < wval W b) := Iff.rfl

/-- **`UBig - UBig` panics iff the result would be negative**: for operands stored with the length of their value
    (what `Repr::from_buffer` / `from_dword` guarantee: no leading zero word) the skeleton's panic is `panic_negative_ubig` when
    `a < b` as values and there is none otherwise — in every ownership form.  (Without the hypothesis the length tests of
    `sub_large` / the `(Small, Large)` arm are not value tests: see `sub_underflow_arm_unfold`.) -/
theorem sub_skeleton_panics_iff_negative (W : Nat) (f : Form) (a b : List Nat)
    (ha : a.length = wordLen W (wval W a)) (hb : b.length = wordLen W (wval W b)) :
    (fragSub W f a b).panic = if wval W a < wval W b then some .negativeUBig else none := by
  have h := Dashu.Proofs.Mem.fragSub_panic_any W f a b
  have hc := Dashu.Proofs.Mem.subUnderflowArm_iff W a b ha hb
  split_ifs with hv
  · exact h.2.2 (hc.2 hv)
  · rcases h.1 with h0 | h1
    · exact h0
    · exact absurd (hc.1 (h.2.1 h1)) hv

-- non-vacuity: operands stored with the length of their value on both sides of the test, in the arms that only look at lengths
example : [5, 6, 7].length = wordLen 64 (wval 64 [5, 6, 7]) ∧ [9, 9].length = wordLen 64 (wval 64 [9, 9]) ∧
    (fragSub 64 .rv [9, 9] [5, 6, 7]).panic = some .negativeUBig ∧ (fragSub 64 .rv [5, 6, 7] [9, 9]).panic = none ∧
    (fragSub 64 .rr [5, 6, 7] [5, 6, 8]).panic = some .negativeUBig ∧ (fragSub 64 .vv [5, 6, 8] [5, 6, 7]).panic = none ∧
    (fragSigned 64 32 1 .vv false [5, 6, 7] false [5, 6, 8]).panic = none := by decide +kernel
example := sub_skeleton_panics_iff_negative 64 .rr [5, 6, 7] [5, 6, 8] (by decide +kernel) (by decide +kernel)
-- without the hypothesis the (Small, Large) arm panics although 9 > 0: a three-word zero is not a state a `Repr` can be in
example : (fragSub 64 .rr [9] [0, 0, 0]).panic = some .negativeUBig := by decide +kernel

/-- **the bit-operation and shift skeletons**: `UBig & | ^ UBig`, `and_not`, `UBig >> n` have no panic arm for ANY words,
    form and shift count; `UBig << n` has only the documented allocation panic (`Buffer::allocate` beyond `MAX_CAPACITY = mx`,
    before any allocator call), and none when `n / W + len + 3 ≤ mx`. -/
theorem bit_shift_skeletons_panic_arms (W mx : Nat) (op : BitOp) (f : Form) (byVal : Bool) (a b : List Nat) (n : Nat) :
    (fragBit W op f a b).panic = none ∧ (fragAndNot W f a b).panic = none ∧ (fragShr W byVal a n).panic = none ∧
    ((fragShl W mx byVal a n).panic = none ∨ (fragShl W mx byVal a n).panic = some .allocTooMuch) ∧
    (n / W + a.length + 3 ≤ mx → (fragShl W mx byVal a n).panic = none) :=
  ⟨Dashu.Proofs.Mem.fragBit_no_panic W op f a b, Dashu.Proofs.Mem.fragAndNot_no_panic W f a b,
   Dashu.Proofs.Mem.fragShr_no_panic W byVal a n, (Dashu.Proofs.Mem.fragShl_panic W mx byVal a n).1,
   (Dashu.Proofs.Mem.fragShl_panic W mx byVal a n).2⟩

-- non-vacuity: a shift that fits and one whose request exceeds MAX_CAPACITY (both outcomes of the `<<` clause occur)
example : (fragShl 64 1000 true [1, 2, 3] 640).panic = none ∧ (fragShl 64 1000 false [1, 2, 3] 64000).panic = some .allocTooMuch := by
  decide +kernel
example := (bit_shift_skeletons_panic_arms 64 1000 .xor .rv true [1, 2, 3] [4, 5, 6, 7] 640).2.2.2.2 (by decide)

/-- the flag-tracking Lehmer loop of the gcd skeleton has, as its value, C12's mirrored `lehmerGcdLoop` — for every fuel,
    operands and initial flag (the flag is the only thing C17 adds to C12's kernel) -/
theorem gcd_skeleton_value_is_c12_loop (W fuel x y : Nat) (sw : Bool) :
    (lehmerGcdLoopSw W fuel x y sw).map Prod.fst = NT.lehmerGcdLoop W fuel x y :=
  Dashu.Proofs.Mem.lehmerGcdLoopSw_fst W fuel x y sw

/-- the high half of the work buffer that `UBig::sqrt()` hands to `from_buffer` (`sqrtLeftover`) is computed from the same
    inner call and the same `kDiv` as the top level of C12's mirrored `sqrtRemRec` (fuel `n`, as `sqrtRemKernel` runs
    it): it is the `a_hi` that `kSub` subtracts there -/
theorem sqrt_leftover_is_kernel_state (W : Nat) (prim : Nat → Nat × Nat) (n a : Nat) (hn : 2 < n) :
    (NT.sqrtRemRec W prim n n a =
      (let split := n / 2
       let h := n - split
       let B := 2 ^ (W * split)
       let (s1, r1, r1top) := NT.sqrtRemRec W prim (n - 1) h (a / (B * B))
       NT.kStep B (2 ^ (W * split - 1)) (2 ^ (W * h)) (2 ^ (W * n)) (decide (2 * split < n)) s1 r1 r1top (a / B % B) (a % B))) ∧
    (sqrtLeftover W prim n a =
      (let split := n / 2
       let h := n - split
       let B := 2 ^ (W * split)
       let (s1, r1, r1top) := NT.sqrtRemRec W prim (n - 1) h (a / (B * B))
       let (qlo, qtop, _, _) := NT.kDiv B (2 ^ (W * split - 1)) (2 ^ (W * h)) s1 r1 r1top (a / B % B)
       if decide (2 * split < n) then (if qtop then 0 else qlo * qlo) + (if qtop then B * B else 0)
       else (if qtop then 0 else qlo * qlo))) ∧
    (∀ (B Mn : Nat) (odd : Bool) (qlo : Nat) (qtop : Bool) (u : Nat) (c : Int) (b0 : Nat),
      (NT.kSub B Mn odd qlo qtop u c b0).1 =
        (u * B + b0 + Mn -
          (if odd then (if qtop then 0 else qlo * qlo) + (if qtop then B * B else 0) else (if qtop then 0 else qlo * qlo))) % Mn) :=
  ⟨Dashu.Proofs.Mem.sqrtRemRec_top W prim n a hn, Dashu.Proofs.Mem.sqrtLeftover_top W prim n a hn,
   Dashu.Proofs.Mem.kSub_uses_leftover⟩

example := sqrt_leftover_is_kernel_state 64 (NT.sqrtRemDwordM 64) 3 (2 ^ 383 + 12345) (by decide)

-- `sqrt` of the 6-word value 2^320 + 5 (shifted by 62 bits to 2^382 + 5·2^62, n = 3): the root 2^191 has a zero low word, so
-- `q = 0` and the high half of the work buffer is zero: `from_buffer` pops the buffer down to the one-word remainder and
-- frees it on the spot; for 2^383 + 12345 (root ≈ 2^191.5) the high half holds q² ≠ 0 and the buffer survives until `.1` drops
example : sqrtLeftover 64 (NT.sqrtRemDwordM 64) 3 (2 ^ 382 + 5 * 2 ^ 62) = 0 := by decide +kernel
example : sqrtLeftover 64 (NT.sqrtRemDwordM 64) 3 (2 ^ 383 + 12345) ≠ 0 := by decide +kernel
-- `gcd` of two 3-word values by reference: both copied, scratch-free Lehmer, result from one copy, the other dropped
example : ((fragGcd 64 .rr [6, 0, 9] [4, 0, 6]).ops.take 2, (fragGcd 64 .rr [6, 0, 9] [4, 0, 6]).panic) =
    ([.bufFromView 2 0, .bufFromView 3 1], none) := by decide +kernel
-- `gcd_ext` with both operands large and by value: no copy, the scratch block is the first event
example : (fragGcdExt 64 .vv [1, 2, 3, 4] [5, 6, 7]).ops.take 3 =
    [.intoTyped 0, .intoTyped 1, .allocScratch 7 (gcdExtScratchWords 4 3)] := by decide +kernel
example : gcdExtScratchWords 4 3 = 17 := by decide +kernel   -- 7 (clones) + max(10 (t0, t1), 7 (residue))

/-- **Tie A for the scratch blocks**: the sizes of the `MemoryAllocation` blocks in the storage skeletons (`mul`, `sqr`, `div`,
    `sqrt_rem` / `sqrt`, `gcd`, `gcd_ext`) are the formulas REGENERATED from /repo (`Dashu.Gen.Scratch`, vlib/extract_scratch.py:
    `memory_requirement_*` of mul / karatsuba / toom_3 / sqr / div / divide_conquer / root / gcd / lehmer and the
    `clone_mem / gcd_mem / post_mem` combination inside gcd_ops.rs `gcd_ext_large`), with `math::ceil_log2` = `ceilLog2`.
    A change of any of these source lines breaks this theorem (or the build), not only the sampled allocator streams. -/
theorem scratch_formulas_regenerated (t n la lb : Nat) :
    mulScratchWords n = Dashu.Gen.Scratch.mul_memory_requirement_up_to ceilLog2 t n ∧
    sqrScratchWords Dashu.Gen.sqr_MAX_LEN_SIMPLE n = Dashu.Gen.Scratch.sqr_memory_requirement_exact ceilLog2 n ∧
    divScratchWords la lb = Dashu.Gen.Scratch.div_memory_requirement_exact ceilLog2 la lb ∧
    sqrtScratchWords Dashu.Gen.sqr_MAX_LEN_SIMPLE n = Dashu.Gen.Scratch.root_memory_requirement_sqrt_rem ceilLog2 n ∧
    gcdScratchWords lb = Dashu.Gen.Scratch.gcd_large_scratch_words ceilLog2 la lb ∧
    gcdExtScratchWords la lb = Dashu.Gen.Scratch.gcd_ext_large_scratch_words ceilLog2 la lb := by
  have hmul : ∀ t n, mulScratchWords n = Dashu.Gen.Scratch.mul_memory_requirement_up_to ceilLog2 t n := by
    intro t n
    unfold mulScratchWords Dashu.Gen.Scratch.mul_memory_requirement_up_to Dashu.Gen.Scratch.karatsuba_memory_requirement_up_to Dashu.Gen.Scratch.toom_3_memory_requirement_up_to
    rfl
  have hsqr : ∀ n, sqrScratchWords Dashu.Gen.sqr_MAX_LEN_SIMPLE n = Dashu.Gen.Scratch.sqr_memory_requirement_exact ceilLog2 n := by
    intro n
    unfold sqrScratchWords Dashu.Gen.Scratch.sqr_memory_requirement_exact
    rw [hmul (2 * n) n]
  have hdiv : ∀ la lb, divScratchWords la lb = Dashu.Gen.Scratch.div_memory_requirement_exact ceilLog2 la lb := by
    intro la lb
    unfold divScratchWords Dashu.Gen.Scratch.div_memory_requirement_exact Dashu.Gen.Scratch.divide_conquer_memory_requirement_exact
    rw [hmul lb]
  refine ⟨hmul t n, hsqr n, hdiv la lb, ?_, ?_, ?_⟩
  · unfold sqrtScratchWords Dashu.Gen.Scratch.root_memory_requirement_sqrt_rem
    rw [hsqr, hdiv]
  · unfold gcdScratchWords Dashu.Gen.Scratch.gcd_large_scratch_words Dashu.Gen.Scratch.gcd_memory_requirement_exact Dashu.Gen.Scratch.lehmer_memory_requirement_up_to
    exact hmul lb (lb / 2)
  · unfold gcdExtScratchWords Dashu.Gen.Scratch.gcd_ext_large_scratch_words Dashu.Gen.Scratch.gcd_memory_requirement_ext_exact Dashu.Gen.Scratch.lehmer_memory_requirement_ext_up_to
      Dashu.Gen.Scratch.mul_memory_requirement_exact
    simp only [hdiv, hmul la (la / 2), hmul (la + lb) lb]

/-- memory.rs:58 `self.start.wrapping_add(self.layout.size())` never wraps: in the dangling arm (`size = 0`) the end is the
    start (= the alignment, `< 2^U`); in the `alloc` arm the `GlobalAlloc` contract — the returned block
    `[start, start + size)` lies inside the address space (hypothesis `hs`, the one fact taken from the allocator) — gives
    `start + size < 2^U`.  So the `Memory` chunk handed to the bump allocator is exactly `[start, start + size)`, the block
    the `bump_*` theorems speak about. -/
theorem memory_end_does_not_wrap {U : Nat} {l : Lay.Layout} (h : l.Valid U) (start : Nat)
    (hs : match Lay.memoryAllocationNew U l with
          | .dangling a => start = a
          | .alloc size _ => start + size < 2 ^ U
          | .tooMuch => False) :
    Lay.memoryOf U start l = ⟨start, start + l.size⟩ := by
  obtain ⟨_, hz, hnz⟩ := Lay.memoryAllocationNew_contract h
  unfold Lay.memoryOf
  by_cases h0 : l.size = 0
  · rw [(hz h0).1] at hs
    simp only at hs
    subst hs
    have : l.align < 2 ^ U := by
      unfold Lay.Layout.align
      exact Nat.pow_lt_pow_right (by decide) h.1
    rw [h0, Nat.add_zero, Nat.mod_eq_of_lt this]
  · rw [(hnz h0).1] at hs
    simp only at hs
    rw [Nat.mod_eq_of_lt hs]

example := memory_end_does_not_wrap (U := 64) (l := ⟨328, 3⟩)
  (by unfold Lay.Layout.Valid Lay.maxSizeForAlign Lay.isizeMax; decide) 0x7f0000001000
  (by show (match Lay.memoryAllocationNew 64 ⟨328, 3⟩ with
            | .dangling a => 0x7f0000001000 = a | .alloc size _ => 0x7f0000001000 + size < 2 ^ 64 | .tooMuch => False)
      rw [show Lay.memoryAllocationNew 64 ⟨328, 3⟩ = .alloc 328 8 from by decide +kernel]; decide)
example : Lay.memoryOf 64 (2 ^ 64 - 8) ⟨328, 3⟩ = ⟨2 ^ 64 - 8, 320⟩ := by decide +kernel   -- what the hypothesis excludes

end Dashu.Props.C17
