import Dashu.Proofs.Conv.ToFloatAlloc
import Dashu.Gen.ConvToFloat
/-
  C06 — link theorem: the up-front allocation refusal of `Repr::to_float` (`AllocTooMuch` at digit shifts
  ≥ 2^64 − 64) derived from the guarded kernels of the integer side
  (`Model/Int/PowGuard.lean`: `TRepr.shlChecked`, `ubigPowGuarded` — what the integer driver executes for `<<`'s
  allocation check and `u.pow`).  A separate file: importing `PowGuard` into `Props/C06.lean` would make `bitLen`
  ambiguous there (`Model.bitLen` / `Conv.bitLen`).  Audited from `Audit/C06.lean`.
-/
namespace Dashu.Props.C06
open Dashu.Model Dashu.Model.Conv

/-- `Repr::to_float` scales the stored numerator by `&numerator << shift` (`B == 2`) or `&numerator * base.pow(shift)`
    (`B != 2`, `base = UBig::from_word(B)`), `shift` = the regenerated `to_float_shift`.  The driver answers `AllocTooMuch`
    up front when `shift ≥ 2^64 − 64`.  DERIVED here from the guarded kernels, 64-bit words:
    (1) `B = 2`: EVERY non-zero numerator representation: `TypedRepr << shift` is refused by `Buffer::allocate`;
    (2) every other driven base (3, 10, 16): `UBig::pow(base, shift)` is refused (16: checked `exp * 4`; 10: result buffer of
        `5.pow`; 3: result buffer of `3.pow`) — before the numerator is looked at;
    (3) the threshold is sharp: for the numerator 1, `1 << n` is NOT refused for `128 ≤ n < 2^64 − 64`
        (there the driver does not answer: FRONTIER "2^22 < shift < 2^64 − 64 not driven"). -/
theorem rbig_to_float_alloc_refusal_derived (nd dd p : Nat)
    (hsh : 2 ^ 64 - 64 ≤ Dashu.Gen.ConvToFloat.to_float_shift nd dd p) :
    (∀ r : TRepr, r ≠ .small 0 →
      r.shlChecked 64 (Dashu.Gen.ConvToFloat.to_float_shift nd dd p) = .error .allocTooMuch) ∧
    (∀ B : Nat, B = 3 ∨ B = 10 ∨ B = 16 →
      ubigPowGuarded 64 (.small B) (Dashu.Gen.ConvToFloat.to_float_shift nd dd p) = .error .allocTooMuch) ∧
    (∀ n : Nat, 128 ≤ n → n < 2 ^ 64 - 64 → (TRepr.small 1).shlChecked 64 n = .ok ((TRepr.small 1).shl 64 n)) :=
  ⟨fun r hr => shl_refused r hr _ hsh,
   fun B hB => by
     rcases hB with h | h | h <;> subst h
     · exact pow_refused_3 _ hsh
     · exact pow_refused_10 _ hsh
     · exact pow_refused_16 _ hsh,
   shl_one_not_refused⟩

-- non-vacuity: a saturated digit sum (precision usize::MAX), the exact threshold (precision 2^64 − 65, one denominator
-- digit), a non-zero heap numerator
example : 2 ^ 64 - 64 ≤ Dashu.Gen.ConvToFloat.to_float_shift 3 2 (2 ^ 64 - 1) ∧
    Dashu.Gen.ConvToFloat.to_float_shift 0 1 (2 ^ 64 - 65) = 2 ^ 64 - 64 ∧
    (TRepr.large [0, 0, 1]) ≠ TRepr.small 0 := by decide +kernel

end Dashu.Props.C06
