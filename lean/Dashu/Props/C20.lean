import Dashu.Proofs.Macro.Words
import Dashu.Proofs.Macro.Grammar
import Dashu.Proofs.Macro.RatLoop
import Dashu.Proofs.Macro.FloatLit
import Dashu.Proofs.Macro.IntLoop
import Dashu.Proofs.Macro.FloatDigits
/-
  C20 — Literal macros build exactly the number that was written.

  Model: `Model/Macro/Literal.lean` (token loops of macros/src/parse/{int,ratio}.rs, the float entry
  points of float.rs, the three code generators of int.rs / common.rs).  The value of an accepted
  literal is *defined* as the run-time parser's answer on the same text (`intLiteral`, `floatLiteral`,
  `ratLiteral` return it only when the macro's own reconstruction agrees); the theorems say
    (a) on the documented token shapes the macro's reconstruction always agrees (nothing is filtered),
    (b) each of the three code generators denotes exactly that value, for every word size,
    (c) rational literals come out reduced, float literals normalised with precision = digits written,
  and the counterexample theorems exhibit the token sequences outside the grammar that the code as
  it is accepts (recorded findings).
-/
namespace Dashu.Props.C20
open Dashu.Model.Serde Dashu.Model.Macro

-- ====================================================================== (a) token reconstruction

/-- `[sign] value [base N]` with at most one sign (signed macros only): the macro's value is the
    run-time parser's value of the concatenated text, and it rejects exactly when the parser rejects -/
theorem int_literal_is_runtime_parse (signed : Bool) (sg : Option Bool) (vt : Tok) (val : Bytes) (base : Option Bytes)
    (hv : isValTok vt = some val) (hn : NoSign val) (hs : sg = none ∨ signed = true) :
    intLiteral signed (docInt sg vt base) = (parseMag val base).map (signedVal (sg == some true)) ∧
    rtInt signed (docInt sg vt base) = some (intLiteral signed (docInt sg vt base)) :=
  intLiteral_doc signed sg vt val base hv hn hs

/-- non-vacuity: `ibig!(-1f base 16)` -/
example : docInt (some true) (.lit [49, 102]) (some [49, 54]) = [.punct 45, .lit [49, 102], .ident baseKw, .lit [49, 54]] ∧
    NoSign [49, 102] ∧ intLiteral true (docInt (some true) (.lit [49, 102]) (some [49, 54])) = some (-31) := by
  refine ⟨rfl, ⟨by decide, by decide⟩, by decide⟩

/-- whatever the tokens: an accepted integer literal has the run-time parser's value -/
theorem int_literal_sound (signed : Bool) (toks : List Tok) (v : Int) (h : intLiteral signed toks = some v) :
    rtInt signed toks = some (some v) := by
  unfold intLiteral at h
  cases h1 : intAsIs signed toks with
  | none => simp [h1] at h
  | some a =>
    obtain ⟨neg, m⟩ := a
    cases h2 : rtInt signed toks with
    | none => simp [h1, h2] at h
    | some r =>
      cases r with
      | none => simp [h1, h2] at h
      | some w =>
        simp only [h1, h2] at h
        by_cases e : signedVal neg m = w
        · simp [e] at h; rw [h]
        · simp [e] at h

/-- **ubig!/ibig! token loop (code since /repo e26a9db) accepts exactly `[sign] value [base [N]]`**
    (sign only for the signed macros): soundness and completeness -/
theorem int_loop_accepts_only_the_grammar (signed : Bool) (toks : List Tok) (st : IS)
    (h : intLoopNew signed {} toks = some st) : toks = renderInt st ∧ IWF signed st :=
  intLoopNew_sound signed toks st h

theorem int_loop_accepts_the_grammar (signed : Bool) (st : IS) (wf : IWF signed st) :
    intLoopNew signed {} (renderInt st) = some st := by
  obtain ⟨wf', hall⟩ := (IWF_iff signed st).mp wf
  have hs := intLoopNew_toRS signed (renderInt st) {}
  rw [hall, if_pos rfl, ← render_toRS, show ({} : IS).toRS = {} from rfl, ratLoopNew_complete _ wf', render_toRS] at hs
  obtain ⟨s, h1, h2⟩ := Option.map_eq_some_iff.mp hs
  rw [h1, IS.toRS_inj h2]

/-- whatever `parse_integer_with_error` accepts (loop, `val.unwrap()`, radix parse) has the value the
    model prescribes = the run-time parser's on the same text -/
theorem int_macro_accepts_only_runtime_values (signed : Bool) (toks : List Tok) (neg : Bool) (m : Nat)
    (htok : ∀ t ∈ toks, isVal t = true → NoSign t.text)
    (h : intNew signed toks = some (neg, m)) : intLiteral signed toks = some (signedVal neg m) := by
  unfold intNew at h
  cases hl : intLoopNew signed {} toks with
  | none => simp [hl] at h
  | some st =>
    simp only [hl, Option.bind_some] at h
    unfold intFinishNew at h
    cases hv : st.val with
    | none => simp [hv] at h
    | some vt =>
      simp only [hv] at h
      have hb : st.baseMarked = true → st.base ≠ none := by
        intro hbm hbase
        simp [hbase, hbm] at h
      obtain ⟨hdoc, ⟨val, hval⟩, hs⟩ := intLoopNew_accepts_documented signed toks st vt hl hv hb
      have htext : vt.text = val := by
        cases vt <;> simp [isValTok] at hval <;> simp [Tok.text, hval]
      have hmem : vt ∈ toks := by
        rw [hdoc]; unfold docInt; simp
      have hisv : isVal vt = true := by
        cases vt <;> simp [isValTok] at hval <;> simp [isVal]
      have hns : NoSign val := by rw [← htext]; exact htok vt hmem hisv
      have hlit := (intLiteral_doc signed st.sign vt val st.base hval hns hs).1
      rw [hdoc, hlit]
      -- the finish computation is `parseMag`
      have hpm : parseMag val st.base = some m ∧ (st.sign == some true) = neg := by
        rw [htext] at h
        unfold parseMag
        cases hbase : st.base with
        | some b =>
          simp only [hbase] at h
          cases hp : parseU32 b with
          | none => simp [hp] at h
          | some r =>
            simp only [hp, Option.bind_some] at h ⊢
            cases hu : ubigRadixOpt val r with
            | none => simp [hu] at h
            | some mm => simp [hu] at h ⊢; exact ⟨h.2, h.1⟩
        | none =>
          simp only [hbase] at h
          have hbm : st.baseMarked = false := by
            by_contra hc
            exact hb (by simpa using hc) hbase
          simp only [hbm, Bool.false_eq_true, if_false] at h
          cases hu : ubigPrefixOpt val 10 with
          | none => simp [hu] at h
          | some p => simp [hu] at h ⊢; exact ⟨h.2, h.1⟩
      rw [hpm.1, hpm.2]
      rfl

example : intNew true [.punct 45, .lit [49, 102], .ident baseKw, .lit [49, 54]] = some (true, 31) ∧
    intNew true [.punct 45, .punct 45, .lit [53]] = none ∧ intNew false [.punct 43, .lit [53]] = none := by
  refine ⟨by decide, by decide, by decide⟩

-- ====================================================================== (b) code generators

/-- **heap path** (`quote_ubig`: `const BYTES = to_le_bytes(n); UBig::from_le_bytes(&BYTES)`) -/
theorem bytes_path_value (n : Nat) : ofLeBytes (leBytes n) = n ∧ isBytes (leBytes n) :=
  ⟨ofLeBytes_leBytes n, leBytes_isBytes n⟩

/-- **static path** (`quote_words`): for each of the three selectors the slice `&DATA[..LEN]` passes
    the `from_static_words` assertion and denotes `n` -/
theorem static_path_value (n : Nat) :
    staticValue 2 (leBytes n) = some n ∧ staticValue 4 (leBytes n) = some n ∧ staticValue 8 (leBytes n) = some n :=
  ⟨staticValue_leBytes 2 (by omega) n, staticValue_leBytes 4 (by omega) n, staticValue_leBytes 8 (by omega) n⟩

/-- the arrays of all selectors have the common length `max_len = (len+1)/2 ≥ LEN` -/
theorem static_path_layout (k : Nat) (hk : 2 ≤ k) (bs : Bytes) :
    (quoteWords k bs).2.length = (bs.length + 1) / 2 ∧ (quoteWords k bs).1 ≤ (bs.length + 1) / 2 :=
  quoteWords_length k hk bs

/-- word arrays in general: value, length, last word -/
theorem word_array_value (k : Nat) (hk : 0 < k) (bs : Bytes) :
    valWords (8 * k) (bytesToWords k bs) = ofLeBytes bs ∧
    (bytesToWords k bs).length = (bs.length + k - 1) / k ∧
    (bs.getLast? ≠ some 0 → (bytesToWords k bs).getLast? ≠ some 0) :=
  ⟨valWords_bytesToWords k hk bs, bytesToWords_length k hk bs, bytesToWords_getLast k hk bs⟩

/-- **const path**: only for magnitudes a `u32` holds (so `#u as _` into a `DoubleWord` is lossless
    for every word size ≥ 16) -/
theorem const_path_value (m : Nat) (h : intPath false m = .const) :
    m < 2 ^ 32 ∧ m % 2 ^ 32 = m ∧ ∀ W, 16 ≤ W → m < 2 ^ (2 * W) := const_path_guard m h

theorem generator_choice (m : Nat) : intPath true m = .static ∧ intPath false m ≠ .static := by
  unfold intPath Dashu.Gen.Macro.int_const_guard
  constructor
  · simp
  · split <;> simp

example : intPath false (2 ^ 32 - 1) = .const ∧ intPath false (2 ^ 32) = .bytes ∧ intPath true 5 = .static := by
  refine ⟨by decide, by decide, by decide⟩

-- ====================================================================== (c) rationals and floats

/-- **rbig! token loop (code since /repo e26a9db) — soundness**: whatever the loop accepts is the
    rendering `[~] [sign] value [/ [sign] value] [base N]` of its final state: every part at most
    once, in this order, a denominator only after `/`, `base` only after the values -/
theorem ratio_loop_accepts_only_the_grammar (toks : List Tok) (st : RS) (h : ratLoopNew {} toks = some st) :
    toks = render st ∧ WF st := ratLoopNew_sound toks st h

/-- **completeness**: every token list of that shape is accepted and leads to the state it renders -/
theorem ratio_loop_accepts_the_grammar (st : RS) (wf : WF st) : ratLoopNew {} (render st) = some st :=
  ratLoopNew_complete st wf

/-- non-vacuity: `~ - 6 / 9 base 10` -/
example : WF { rel := true, nSign := some true, nVal := some (.lit [54]), marked := true, dVal := some (.lit [57]),
               baseMarked := true, base := some [49, 48] } ∧
    render { rel := true, nSign := some true, nVal := some (.lit [54]), marked := true, dVal := some (.lit [57]),
             baseMarked := true, base := some [49, 48] } =
      [.punct 126, .punct 45, .lit [54], .punct 47, .lit [57], .ident baseKw, .lit [49, 48]] := by
  constructor
  · unfold WF; simp [isVal]
  · simp [render, signTok]

/-- **the value**: what `parse_ratio_with_error` computes (unsigned parses of the value tokens, signs
    from the sign tokens, `from_parts_signed`, reduction) is what the model prescribes — the run-time
    parser's answer on the text of the literal — on every token list, accepted or rejected -/
theorem ratio_macro_is_runtime_parse (toks : List Tok)
    (htok : ∀ t ∈ toks, isVal t = true → NoSign t.text ∧ 47 ∉ t.text) : ratNew toks = ratLiteral toks := by
  unfold ratNew ratLiteral
  cases h : ratLoopNew {} toks with
  | none => rfl
  | some st =>
    simp only [Option.bind_some]
    obtain ⟨hr, wf⟩ := ratLoopNew_sound toks st h
    by_cases hf : finalOK st
    · simp only [hf, if_true]
      apply ratFinishNew_eq_runtime st wf _ hf
      constructor
      · intro t ht
        exact htok t (by rw [hr]; exact mem_render_nVal st t ht) (wf.2.2.2.2.1 t ht)
      · intro t ht
        exact htok t (by rw [hr]; exact mem_render_dVal st wf t ht) (wf.2.2.2.2.2 t ht)
    · simp only [hf, if_false]
      exact ratFinishNew_not_final st hf

example : ratNew [.punct 45, .lit [54], .punct 47, .lit [57]] = some (⟨-2, 3⟩, false) := by decide

/-- an accepted `rbig!` literal: documented shape, the run-time parser's value, stored in lowest
    terms (`~`: without a common factor 2) — in particular the `transmute` of `static_rbig!` is applied
    to a reduced pair -/
theorem ratio_literal_spec (toks : List Tok) (q : QVal) (relaxed : Bool) (h : ratLiteral toks = some (q, relaxed)) :
    ∃ st, toks = render st ∧ WF st ∧ finalOK st ∧ relaxed = st.rel ∧
      ratRuntime st.rel (ratText st) st.base = some (q, relaxed) ∧
      (relaxed = false → QReduced q) ∧ (relaxed = true → QRelaxed q) := by
  unfold ratLiteral at h
  cases hl : ratLoopNew {} toks with
  | none => simp [hl] at h
  | some st =>
    simp only [hl, Option.bind_some] at h
    obtain ⟨hr, wf⟩ := ratLoopNew_sound toks st hl
    by_cases hf : finalOK st
    · simp only [hf, if_true] at h
      obtain ⟨e, c1, c2⟩ := ratRuntime_canonical _ _ _ q relaxed h
      exact ⟨st, hr, wf, hf, e, h, c1, c2⟩
    · simp [hf] at h

/-- every literal of the documented grammar is accepted exactly when the run-time parser accepts its text -/
theorem ratio_literal_complete (st : RS) (wf : WF st) (hf : finalOK st) :
    ratLiteral (render st) = ratRuntime st.rel (ratText st) st.base := by
  unfold ratLiteral
  rw [ratLoopNew_complete st wf]
  simp [hf]

/-- an accepted float literal: representation and precision are the run-time parser's (precision =
    number of digits written) and the representation is normalised -/
theorem float_literal_spec (binary : Bool) (toks : List Tok) (v : FPVal) (h : floatLiteral binary toks = some v) :
    rtFloat binary toks = some v ∧ FCanon (if binary then 2 else 10) ⟨v.signif, v.exp⟩ :=
  floatLiteral_spec binary toks v h

/-- **float literal = the number written**: a literal `[sign] digits [. digits] [@ exponent]` in base `B`
    (what `fbig!` / `dbig!` pass to the parser after concatenating the tokens) denotes
    `± digits · B^(exponent − #fraction digits)` exactly, with precision = number of digits written
    (C08's `parse_literal_exact` through the parser the macro model runs) -/
theorem float_literal_exact (B : Nat) (hB : Dashu.Model.Text.validRadix B = true) (up : Bool)
    (sign : Option Bool) (di : List Nat) (frac : Option (List Nat)) (scale : Option Int)
    (hdi : ∀ d ∈ di, d < B) (hdf : ∀ d ∈ frac.getD [], d < B) (hne : di ≠ [] ∨ frac.getD [] ≠ [])
    (hs : ∀ z, scale = some z → -(2 ^ 63 : Int) ≤ z ∧ z < (2 ^ 63 : Int)) :
    ∃ r : Dashu.Model.Float.FRepr,
      r.toRat B = (if sign = some true then -1 else 1) *
        (Dashu.Model.Text.ofDigits B (di ++ frac.getD []) : ℚ) *
        Dashu.Model.Float.bpowQ B (scale.getD 0 - ((frac.getD []).length : Int)) ∧
      (inIsize r.exp → floatParse B (Dashu.Model.Text.renderLiteral up sign di frac scale) =
        some (⟨r.signif, r.exp⟩, di.length + (frac.getD []).length)) :=
  floatParse_literal B hB up sign di frac scale hdi hdf hne hs

/-- non-vacuity: `-12.5` in base 10 -/
example : (∀ d ∈ [1, 2], d < 10) ∧ (∀ d ∈ (some [5] : Option (List Nat)).getD [], d < 10) ∧
    Dashu.Model.Text.renderLiteral false (some true) [1, 2] (some [5]) none = [45, 49, 50, 46, 53] := by
  refine ⟨by decide, by decide, by decide⟩

-- ---------------------------------------------------------------------- fbig!'s own stripping, hexadecimal forms

/-- **`fbig!`'s sign / underscore stripping, on EVERY token list** (`parse_binary_float`,
    macros/src/parse/float.rs, mirrored statement by statement as `fbigNew`): the sign taken off the
    front, the one macro-only `_` dropped, the rest parsed unsigned and the sign re-attached by
    `IBig::from_parts` — the outcome is exactly the run-time parser's on the text without that `_`;
    a literal with a sign behind the stripped prefix (`-+1`, `_-1`, `_+1`) is refused -/
theorem fbig_strip_is_runtime_parse (toks : List Tok) :
    (fbigNew toks).map fpOfParts = (if fbigSecondSign toks then none else rtFloat true toks) :=
  fbigNew_eq toks

/-- the mirrors of the two float macros decide exactly what the model prescribes (the driver runs both
    sides and reports a difference as a defect of the model) -/
theorem float_macro_is_literal (toks : List Tok) :
    (fbigNew toks).map fpOfParts = floatLiteral true toks ∧ (dbigAsIs toks).map fpOfParts = floatLiteral false toks ∧
    (dbigAsIs toks).map fpOfParts = rtFloat false toks :=
  ⟨fbigNew_eq_literal toks, dbig_eq_literal toks, dbig_eq toks⟩

example : (fbigNew [.punct 45, .ident [95, 49, 48, 49]]).map fpOfParts = some ⟨-5, 0, 3⟩ ∧
    fbigNew [.punct 45, .punct 43, .lit [49]] = none ∧ fbigNew [.ident [95], .punct 43, .lit [49]] = none ∧
    rtFloat true [.ident [95], .punct 43, .lit [49]] = some ⟨1, 0, 1⟩ := by
  refine ⟨by decide, by decide, by decide, by decide⟩

/-- **hexadecimal float literal = the number written** (`[sign] 0x int [. frac] [p|P|@ exponent]`,
    base 2): the parser the macro runs returns `± (hex digits) · 2^(exponent − 4·#fraction digits)`
    exactly, precision = 4 bits per hexadecimal digit written -/
theorem hex_float_literal_exact (up : Bool) (x m : Nat) (hx : x = 120 ∨ x = 88) (hm : m = 112 ∨ m = 80 ∨ m = 64)
    (sign : Option Bool) (di : List Nat) (frac : Option (List Nat)) (scale : Option Int)
    (hdi : ∀ d ∈ di, d < 16) (hdf : ∀ d ∈ frac.getD [], d < 16) (hne : di ≠ [] ∨ frac.getD [] ≠ [])
    (hs : ∀ z, scale = some z → -(2 ^ 63 : Int) ≤ z ∧ z < (2 ^ 63 : Int)) :
    ∃ r : Dashu.Model.Float.FRepr,
      r.toRat 2 = (if sign = some true then -1 else 1) * (Dashu.Model.Text.ofDigits 16 (di ++ frac.getD []) : ℚ) *
        Dashu.Model.Float.bpowQ 2 (scale.getD 0 - ((4 * (frac.getD []).length : Nat) : Int)) ∧
      (inIsize r.exp → floatParse 2 (renderHex up x m sign di frac scale) =
        some (⟨r.signif, r.exp⟩, 4 * (di.length + (frac.getD []).length))) :=
  floatParse_hex up x m hx hm sign di frac scale hdi hdf hne hs

/-- non-vacuity: `-0x3.ef`, and the parser on `-0x3.efp-2` -/
example : renderHex false 120 112 (some true) [3] (some [14, 15]) none = [45, 48, 120, 51, 46, 101, 102] ∧
    floatParse 2 [45, 48, 120, 51, 46, 101, 102] = some (⟨-0x3ef, -8⟩, 12) ∧
    floatParse 2 [45, 48, 120, 51, 46, 101, 102, 112, 45, 50] = some (⟨-0x3ef, -10⟩, 12) := by
  refine ⟨by decide, by decide, by decide⟩

/-- **`fbig!` on the hexadecimal forms**, including the macro-only `_` (`fbig!(-_0xae.1f)`): tokens
    that spell `[sign] [_] 0x int [. frac] [p exponent]` expand to exactly the number written — as the
    code computes it and as the model prescribes -/
theorem fbig_hex_literal_value (toks : List Tok) (us up : Bool) (x m : Nat) (hx : x = 120 ∨ x = 88)
    (hm : m = 112 ∨ m = 80 ∨ m = 64) (sign : Option Bool) (di : List Nat) (frac : Option (List Nat))
    (scale : Option Int) (hdi : ∀ d ∈ di, d < 16) (hdf : ∀ d ∈ frac.getD [], d < 16)
    (hne : di ≠ [] ∨ frac.getD [] ≠ []) (hs : ∀ z, scale = some z → -(2 ^ 63 : Int) ≤ z ∧ z < (2 ^ 63 : Int))
    (htext : concatToks toks = Dashu.Model.Text.signChars sign ++ ((if us then [95] else []) ++
      (48 :: x :: ((Dashu.Model.Text.chars up di ++ Dashu.Model.Text.fracChars up frac) ++ pScaleChars m scale)))) :
    ∃ r : Dashu.Model.Float.FRepr,
      r.toRat 2 = (if sign = some true then -1 else 1) * (Dashu.Model.Text.ofDigits 16 (di ++ frac.getD []) : ℚ) *
        Dashu.Model.Float.bpowQ 2 (scale.getD 0 - ((4 * (frac.getD []).length : Nat) : Int)) ∧
      (inIsize r.exp →
        (fbigNew toks).map fpOfParts = some ⟨r.signif, r.exp, 4 * (di.length + (frac.getD []).length)⟩ ∧
        floatLiteral true toks = some ⟨r.signif, r.exp, 4 * (di.length + (frac.getD []).length)⟩) :=
  fbig_hex_literal toks us up x m hx hm sign di frac scale hdi hdf hne hs htext

/-- non-vacuity: `fbig!(-_0xae.1f)` — tokens `-`, `_0xae` (an identifier for rustc), `.`, `1f` -/
example : concatToks [.punct 45, .ident [95, 48, 120, 97, 101], .punct 46, .lit [49, 102]] =
    Dashu.Model.Text.signChars (some true) ++ ((if true then [95] else []) ++
      (48 :: 120 :: ((Dashu.Model.Text.chars false [10, 14] ++ Dashu.Model.Text.fracChars false (some [1, 15])) ++ pScaleChars 112 none))) ∧
    (fbigNew [.punct 45, .ident [95, 48, 120, 97, 101], .punct 46, .lit [49, 102]]).map fpOfParts =
      some ⟨-0xae1f, -8, 16⟩ := by
  refine ⟨by decide, by decide⟩

/-- **every accepted float literal, whatever its form** (underscore separators, any scale marker of
    the base, hexadecimal with `fbig!`): value `± (its digits) · B^(scale − k·#fraction digits)` and
    precision `k ·` (number of digits written), `k = 4` for hexadecimal digits and `1` otherwise -/
theorem float_literal_denotes (binary : Bool) (toks : List Tok) (v : FPVal) (h : floatLiteral binary toks = some v) :
    ∃ (neg hex : Bool) (di df : List Nat) (scale : Int), (hex = true → binary = true) ∧
      (∀ d ∈ di ++ df, d < (if hex then 16 else (if binary then 2 else 10))) ∧ di ++ df ≠ [] ∧
      v.prec = (di.length + df.length) * (if hex then 4 else 1) ∧
      (Dashu.Model.Float.FRepr.mk v.signif v.exp).toRat (if binary then 2 else 10) =
        (if neg then -1 else 1) *
          (Dashu.Model.Text.ofDigits (if hex then 16 else (if binary then 2 else 10)) (di ++ df) : ℚ) *
          Dashu.Model.Float.bpowQ (if binary then 2 else 10) (scale - ((df.length * (if hex then 4 else 1) : Nat) : Int)) :=
  floatLiteral_denotes binary toks v h

example : floatLiteral true [.lit [48, 120, 49, 95, 56, 112, 51]] = some ⟨3, 6, 8⟩ := by decide

/-- **heap / static path of the float macros**: `Repr::new(significand, exponent)` in the expansion
    (and the word array + exponent handed to `Repr::from_static_words`) reproduce the parsed, normalised
    representation unchanged -/
theorem float_expansion_repr_fixed (binary : Bool) (toks : List Tok) (v : FPVal) (h : floatLiteral binary toks = some v) :
    fnew (if binary then 2 else 10) v.signif v.exp = some ⟨v.signif, v.exp⟩ := by
  obtain ⟨hrt, hcanon⟩ := floatLiteral_spec binary toks v h
  have hB : 0 < (if binary = true then 2 else 10) := by split <;> omega
  refine fnew_of_canon _ v.signif v.exp hcanon ?_
  rw [rtFloat_eq] at hrt
  cases hp : floatParse (if binary = true then 2 else 10)
      (if binary = true then fbigRtText (concatToks toks) else concatToks toks) with
  | none => rw [hp] at hrt; cases hrt
  | some p =>
    obtain ⟨fv, nd⟩ := p
    rw [hp] at hrt
    simp only [Option.map_some, toFP, Option.some.injEq] at hrt
    intro h0
    have := parseF_zero_exp _ hB _ fv nd hp (by rw [← hrt] at h0; exact h0)
    rw [← hrt]; exact this

/-- **digits ≤ precision**: an accepted float literal never carries more significant digits (of base 2
    resp. 10) than its precision — the number of digits written, 4 per hexadecimal digit — so the
    `debug_assert!(digits ≤ precision)` of `FBig::from_repr` in the heap expansion cannot fire and the
    value needs no rounding to fit its own precision -/
theorem float_literal_digits_le_precision (binary : Bool) (toks : List Tok) (v : FPVal)
    (h : floatLiteral binary toks = some v) :
    (Dashu.Model.Float.FRepr.mk v.signif v.exp).digits (if binary then 2 else 10) ≤ v.prec :=
  floatLiteral_digits_le_prec binary toks v h

-- ====================================================================== findings
-- the first two: the token loops before /repo e26a9db (fixed); the third: still open

/-- before e26a9db (`intAsIs` mirrors that loop): `ibig!(--5)` expanded to −5; the run-time parser rejects `--5` -/
theorem int_double_sign_accepted :
    intAsIs true [.punct 45, .punct 45, .lit [53]] = some (true, 5) ∧
    rtInt true [.punct 45, .punct 45, .lit [53]] = some none ∧
    intLiteral true [.punct 45, .punct 45, .lit [53]] = none := by
  refine ⟨by decide, by decide, by decide⟩

/-- before e26a9db (`ratAsIs` mirrors that loop): `rbig!(3 4)` expanded to 3/4; the text reads 34 -/
theorem ratio_missing_slash_accepted :
    ratAsIs [.lit [51], .lit [52]] = some (⟨3, 4⟩, false) ∧
    rtRat [.lit [51], .lit [52]] = some (some (⟨34, 1⟩, false)) ∧
    ratLiteral [.lit [51], .lit [52]] = none := by
  refine ⟨by decide, by decide, by decide⟩

/-- static float expansion / zero literal: the precision is lost -/
theorem float_precision_lost :
    (floatExpansionAsIs true false (2 ^ 40) 0 41).2.prec = 0 ∧ (floatExpansionAsIs false false (2 ^ 40) 0 41).2.prec = 41 ∧
    (floatExpansionAsIs false false 0 0 3).2.prec = 0 := by
  refine ⟨by decide, by decide, by decide⟩

end Dashu.Props.C20
