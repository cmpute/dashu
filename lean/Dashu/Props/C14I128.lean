import Dashu.Props.C14
/-
  C14 — machine-integer width of `impl_num_ord_with_float` (`NumOrd<f32/f64> for Repr<B>`,
  float/src/third_party/num_order.rs steps 3–4).  The hand model `Model.Cross.reprNumOrdFloat` computes
  the bit-length estimates in unbounded `Int`; the code computes them in `i128`
  (`self_signif_log2 + B.bit_len() as i128 * self_exp`, `self_log2 - self_exp`,
  `MANTISSA_DIGITS as i128 + MAX_EXP as i128`, `other_signif.bit_len() as i128 + other_exp as i128`).
  Here the same text is written with EVERY i128 operation reduced to two's complement (`wrapI128`), and
  proved equal to the model for every operand a 64-bit target can hold: `isize` exponent, `Word` base
  (`bit_len(B) ≤ 64`), a significand of fewer than `2^64` bits, and every decoded f32/f64.  So no i128
  operation of steps 3–4 overflows (a debug build cannot panic there, a release build cannot wrap), so C14
  needs no assumption about the `i128` arithmetic of the bit-length estimates.
-/
namespace Dashu.Props.C14I128
open Dashu Dashu.Model.Cross

/-- an `i128` result: two's complement reduction into `[-2^127, 2^127)` -/
def wrapI128 (x : Int) : Int := (x + 2 ^ 127) % 2 ^ 128 - 2 ^ 127

theorem wrapI128_id {x : Int} (h1 : -(2 ^ 127) ≤ x) (h2 : x < 2 ^ 127) : wrapI128 x = x := by
  unfold wrapI128
  rw [Int.emod_eq_of_lt (by omega) (by omega)]
  omega

/-- `wrapI128` is not the identity outside the range (the definition is not vacuous) -/
example : wrapI128 (2 ^ 127) = -(2 ^ 127) ∧ wrapI128 (-(2 ^ 127) - 1) = 2 ^ 127 - 1 ∧ wrapI128 5 = 5 := by decide

/-- `impl_num_ord_with_float` with every i128 operation of steps 3 and 4 wrapped; the rest of the
    text is `Model.Cross.reprNumOrdFloat` verbatim -/
def reprNumOrdFloatI128 (t : FloatTy) (B : Nat) (s e : Int) (d : Decoded) : Option Ordering :=
  match d with
  | .nan => none
  | .inf neg =>
    match signMatch (fSign s e) (if neg then .neg else .pos) with      -- step1
    | .inr ord => some ord
    | .inl sign => if fIsInf s e then some .eq else some (sign.app .lt)  -- step2
  | .fin man exp =>
    if man = 0 then                                                    -- step0
      (if fIsZero s e then some .eq else some ((fSign s e).app .gt))
    else
      match signMatch (fSign s e) (Sign.ofInt man) with                -- step1
      | .inr ord => some ord
      | .inl sign =>
        if fIsInf s e then some (sign.app .gt)                         -- step2
        else if fIsZero s e then some .lt
        else
          -- step3
          let selfSignifLog2 : Int := wrapI128 (bitLen s.natAbs)       -- `bit_len() as i128` (usize → i128)
          let selfExp : Int := wrapI128 e                              -- `self.exponent as i128`
          let selfLog2 : Int := wrapI128 (selfSignifLog2 + wrapI128 (wrapI128 (bitLen B : Int) * selfExp))
          let lb : Int := if e ≥ 0 then wrapI128 (selfLog2 - selfExp) else selfLog2
          let ub : Int := if e ≥ 0 then selfLog2 else wrapI128 (selfLog2 - selfExp)
          if lb > wrapI128 (wrapI128 (t.mantDigits : Nat) + wrapI128 (t.maxExp : Nat)) then some (sign.app .gt)
          else
            -- step4
            let otherLog2 : Int := wrapI128 (wrapI128 (bitLen man.natAbs : Int) + wrapI128 exp)
            if lb > otherLog2 then some (sign.app .gt)
            else if ub < otherLog2 then some (sign.app .lt)
            else
              -- step5
              let lhs1 := if e < 0 then s else shlDigits B s e.toNat
              let rhs1 := if e < 0 then shlDigits B man (-e).toNat else man
              let lhs2 := if exp < 0 then lhs1 * 2 ^ (-exp).toNat else lhs1
              let rhs2 := if exp < 0 then rhs1 else rhs1 * 2 ^ exp.toNat
              some (compare lhs2 rhs2)

/-- what `FloatEncoding::decode` returns for f32/f64: a mantissa of at most 64 bits (`u32`/`u64` mantissa), an `i16` exponent -/
def DecodedSmall : Decoded → Prop
  | .fin m e => bitLen m.natAbs ≤ 64 ∧ -(2 ^ 15 : Int) ≤ e ∧ e < 2 ^ 15
  | _ => True

/-- every bit pattern decodes into that range -/
theorem decode_small (t : FloatTy) (bits : Nat) : DecodedSmall (decode t bits) := by
  cases h : decode t bits with
  | fin m e =>
    obtain ⟨h1, h2, h3⟩ := decode_fin h
    show bitLen m.natAbs ≤ 64 ∧ -(2 ^ 15 : Int) ≤ e ∧ e < 2 ^ 15
    cases t <;> simp only [FloatTy.mantBits, FloatTy.bias, FloatTy.expBits] at * <;> omega
  | _ => trivial

/-- `bit_len(B) * exponent` for a `Word` base and an `isize` exponent stays far inside `i128` -/
theorem mul_range {b e : Int} (hb0 : 0 ≤ b) (hb : b ≤ 64) (he1 : -(2 ^ 63) ≤ e) (he2 : e < 2 ^ 63) :
    -(2 ^ 69) ≤ b * e ∧ b * e ≤ 2 ^ 69 := by
  rcases le_or_gt 0 e with h | h
  · have h1 : 0 ≤ b * e := Int.mul_nonneg hb0 h
    have h2 : b * e ≤ 64 * e := Int.mul_le_mul_of_nonneg_right hb h
    constructor <;> omega
  · have h1 : b * e ≤ 0 := Int.mul_nonpos_of_nonneg_of_nonpos hb0 (by omega)
    have h2 : 64 * e ≤ b * e := Int.mul_le_mul_of_nonpos_right hb (by omega)
    constructor <;> omega

/-- **no i128 operation of `NumOrd<f32/f64> for Repr<B>` overflows**: for an `isize` exponent, a `Word` base, a significand of
    fewer than `2^64` bits and a decoded f32/f64, the two's-complement text IS the unbounded model. -/
theorem repr_num_ord_float_i128 (t : FloatTy) (B : Nat) (s e : Int) (d : Decoded)
    (hB : bitLen B ≤ 64) (hs : bitLen s.natAbs < 2 ^ 64) (he1 : -(2 ^ 63 : Int) ≤ e) (he2 : e < 2 ^ 63)
    (hd : DecodedSmall d) :
    reprNumOrdFloatI128 t B s e d = reprNumOrdFloat t B s e d := by
  unfold reprNumOrdFloatI128 reprNumOrdFloat
  cases d with
  | nan => rfl
  | inf neg => rfl
  | fin man exp =>
    obtain ⟨hm, hx1, hx2⟩ := hd
    have hbl : ((bitLen B : Nat) : Int) ≤ 64 := by exact_mod_cast hB
    have hbl0 : (0 : Int) ≤ ((bitLen B : Nat) : Int) := Int.natCast_nonneg _
    have hsl : ((bitLen s.natAbs : Nat) : Int) < 2 ^ 64 := by exact_mod_cast hs
    have hsl0 : (0 : Int) ≤ ((bitLen s.natAbs : Nat) : Int) := Int.natCast_nonneg _
    have hml : ((bitLen man.natAbs : Nat) : Int) ≤ 64 := by exact_mod_cast hm
    have hml0 : (0 : Int) ≤ ((bitLen man.natAbs : Nat) : Int) := Int.natCast_nonneg _
    have hmul := mul_range hbl0 hbl he1 he2
    have w1 : wrapI128 ((bitLen s.natAbs : Nat) : Int) = (bitLen s.natAbs : Nat) := wrapI128_id (by omega) (by omega)
    have w2 : wrapI128 e = e := wrapI128_id (by omega) (by omega)
    have w3 : wrapI128 ((bitLen B : Nat) : Int) = (bitLen B : Nat) := wrapI128_id (by omega) (by omega)
    have w4 : wrapI128 (((bitLen B : Nat) : Int) * e) = ((bitLen B : Nat) : Int) * e := wrapI128_id (by omega) (by omega)
    have w5 : wrapI128 (((bitLen s.natAbs : Nat) : Int) + ((bitLen B : Nat) : Int) * e)
        = ((bitLen s.natAbs : Nat) : Int) + ((bitLen B : Nat) : Int) * e := wrapI128_id (by omega) (by omega)
    have w6 : wrapI128 (((bitLen s.natAbs : Nat) : Int) + ((bitLen B : Nat) : Int) * e - e)
        = ((bitLen s.natAbs : Nat) : Int) + ((bitLen B : Nat) : Int) * e - e := wrapI128_id (by omega) (by omega)
    have w7 : wrapI128 ((t.mantDigits : Nat) : Int) = (t.mantDigits : Nat) := by
      cases t <;> exact wrapI128_id (by simp [FloatTy.mantDigits]) (by simp [FloatTy.mantDigits])
    have w8 : wrapI128 ((t.maxExp : Nat) : Int) = (t.maxExp : Nat) := by
      cases t <;> exact wrapI128_id (by simp [FloatTy.maxExp]) (by simp [FloatTy.maxExp])
    have w9 : wrapI128 (((t.mantDigits : Nat) : Int) + ((t.maxExp : Nat) : Int)) = ((t.mantDigits + t.maxExp : Nat) : Int) := by
      cases t <;> (rw [wrapI128_id (by simp [FloatTy.mantDigits, FloatTy.maxExp]) (by simp [FloatTy.mantDigits, FloatTy.maxExp])]; push_cast; rfl)
    have w10 : wrapI128 ((bitLen man.natAbs : Nat) : Int) = (bitLen man.natAbs : Nat) := wrapI128_id (by omega) (by omega)
    have w11 : wrapI128 exp = exp := wrapI128_id (by omega) (by omega)
    have w12 : wrapI128 (((bitLen man.natAbs : Nat) : Int) + exp) = ((bitLen man.natAbs : Nat) : Int) + exp :=
      wrapI128_id (by linarith) (by linarith)
    simp only [w1, w2, w3, w4, w5, w6, w7, w8, w9, w10, w11, w12]
    rfl

/-- the statement for the operands of the protocol: any FBig the harness can hold against any f32/f64 bit pattern -/
theorem repr_num_ord_float_i128_decode (t : FloatTy) (B : Nat) (s e : Int) (bits : Nat)
    (hB : B < 2 ^ 64) (hs : bitLen s.natAbs < 2 ^ 64) (he1 : -(2 ^ 63 : Int) ≤ e) (he2 : e < 2 ^ 63) :
    reprNumOrdFloatI128 t B s e (decode t bits) = reprNumOrdFloat t B s e (decode t bits) :=
  repr_num_ord_float_i128 t B s e _ (bitLen_le_of_lt_two_pow hB) hs he1 he2 (decode_small t bits)

/-- hypotheses are satisfiable at the extremes: base 10, exponent `isize::MIN` / `isize::MAX`, against f64 1.0 -/
example : reprNumOrdFloatI128 .f64 10 7 (-(2 ^ 63)) (decode .f64 0x3ff0000000000000)
      = reprNumOrdFloat .f64 10 7 (-(2 ^ 63)) (decode .f64 0x3ff0000000000000) ∧
    reprNumOrdFloatI128 .f32 10 7 (2 ^ 63 - 1) (decode .f32 0x3f800000)
      = reprNumOrdFloat .f32 10 7 (2 ^ 63 - 1) (decode .f32 0x3f800000) :=
  ⟨repr_num_ord_float_i128_decode _ _ _ _ _ (by norm_num) (by decide) (by norm_num) (by norm_num),
   repr_num_ord_float_i128_decode _ _ _ _ _ (by norm_num) (by decide) (by norm_num) (by norm_num)⟩
/-- the hypotheses are needed: one bit beyond `isize` the wrapped text differs from the model (base 2^64-1, exponent 2^121:
    `64 * 2^121 = 2^127` wraps to `i128::MIN`) -/
example : wrapI128 (64 * 2 ^ 121) ≠ 64 * 2 ^ 121 := by decide
example : bitLen 10 ≤ 64 ∧ bitLen (7 : Int).natAbs < 2 ^ 64 ∧ DecodedSmall (decode .f64 0x3ff0000000000000) :=
  ⟨by decide, by decide, decode_small _ _⟩

end Dashu.Props.C14I128
