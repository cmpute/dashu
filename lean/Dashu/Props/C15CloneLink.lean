import Dashu.Props.C17
/-
  C15 — last sentence of the property ("`clone` / `clone_from` give a value equal to the source, independent of it
  afterwards"), LINKED to C17 by import.  C17 owns the mirrored `<Repr as Clone>::clone` / `clone_from` (Model/Mem/Repr.lean, incl. the
  buffer-reusing heap arm) and proves words / sign / ledger facts about them; here those facts are composed into the
  statement C15 makes: the INTEGER the result denotes is the integer the source denotes — whatever `self` held before
  (all size relations: inline←inline, inline←heap, heap←inline, heap←heap reuse / too small / too large) — the source
  still owns its live buffer, and the clone's buffer is a different allocation (so a later mutation of either cannot be
  seen through the other).  No new model definition the driver executes: `repInt` is the reading of a `Rep` as an Int.
-/
namespace Dashu.Props.C15CloneLink
open Dashu.Model Dashu.Model.Mem

/-- the integer a `Repr` denotes: sign and little-endian words of `W` bits (what `as_sign_slice` shows) -/
def repInt (W : Nat) (r : Rep) : Int := if r.isNeg then -((wval W r.words : Nat) : Int) else ((wval W r.words : Nat) : Int)

theorem repInt_congr (W : Nat) {r s : Rep} (hw : r.words = s.words) (hs : r.isNeg = s.isNeg) : repInt W r = repInt W s := by
  unfold repInt; rw [hw, hs]

/-- `dst.clone_from(&src)`: never UB, and whenever it returns, the value of `dst` is the value of `src` (every word size),
    `src` is still live, and the two do not share an allocation.  Hypotheses = C17's (canonical, live, distinct operands). -/
theorem clone_from_value (W : Nat) {mx : Nat} {L : Ledger} {n : Nat} {self src : Rep} (hB : L.Below n)
    (hcs : self.Canon mx) (hcr : src.Canon mx) (hLs : self.Live L) (hLr : src.Live L)
    (hne : ∀ i c i' c', self.own = some (i, c) → src.own = some (i', c') → i ≠ i') :
    ∃ L', replay L (Rep.cloneFrom mx self src n).evs = some L' ∧
      (∀ s, (Rep.cloneFrom mx self src n).res ≠ .error (.ub s)) ∧
      ∀ r', (Rep.cloneFrom mx self src n).res = .ok r' →
        repInt W r' = repInt W src ∧ r'.Live L' ∧ src.Live L' ∧
        (∀ i c, r'.own = some (i, c) → ∀ c', src.own ≠ some (i, c')) := by
  obtain ⟨L', hr, hub, hq⟩ := Dashu.Props.C17.clone_from_correct hB hcs hcr hLs hLr hne
  refine ⟨L', hr, hub, fun r' hres => ?_⟩
  obtain ⟨hw, hs, _, hl, hsl, hind⟩ := hq r' hres
  exact ⟨repInt_congr W hw hs, hl, hsl, hind⟩

/-- the value after `clone_from` does not depend on what the destination held: two destinations, one source, same integer -/
theorem clone_from_value_indep_of_dst (W : Nat) {mx : Nat} {L₁ L₂ : Ledger} {n₁ n₂ : Nat} {d₁ d₂ src r₁ r₂ : Rep}
    (hB₁ : L₁.Below n₁) (hB₂ : L₂.Below n₂) (hc₁ : d₁.Canon mx) (hc₂ : d₂.Canon mx) (hcr : src.Canon mx)
    (hl₁ : d₁.Live L₁) (hl₂ : d₂.Live L₂) (hr₁ : src.Live L₁) (hr₂ : src.Live L₂)
    (hne₁ : ∀ i c i' c', d₁.own = some (i, c) → src.own = some (i', c') → i ≠ i')
    (hne₂ : ∀ i c i' c', d₂.own = some (i, c) → src.own = some (i', c') → i ≠ i')
    (h₁ : (Rep.cloneFrom mx d₁ src n₁).res = .ok r₁) (h₂ : (Rep.cloneFrom mx d₂ src n₂).res = .ok r₂) :
    repInt W r₁ = repInt W r₂ := by
  obtain ⟨_, _, _, q₁⟩ := clone_from_value W hB₁ hc₁ hcr hl₁ hr₁ hne₁
  obtain ⟨_, _, _, q₂⟩ := clone_from_value W hB₂ hc₂ hcr hl₂ hr₂ hne₂
  rw [(q₁ r₁ h₁).1, (q₂ r₂ h₂).1]

/-- `src.clone()`: never UB, the value of the clone is the value of `src`; hence `clone` and `clone_from` agree -/
theorem clone_value (W : Nat) {mx : Nat} {L : Ledger} {n : Nat} {r : Rep} (hB : L.Below n) (hc : r.Canon mx) (hL : r.Live L) :
    ∃ L', replay L (Rep.clone mx r n).evs = some L' ∧
      (∀ s, (Rep.clone mx r n).res ≠ .error (.ub s)) ∧
      ∀ r', (Rep.clone mx r n).res = .ok r' → repInt W r' = repInt W r := by
  obtain ⟨L', hr, hub, hq⟩ := Dashu.Props.C17.clone_correct hB hc hL
  refine ⟨L', hr, hub, fun r' hres => ?_⟩
  obtain ⟨hw, hs, _, _⟩ := hq r' hres
  exact repInt_congr W hw hs

/-- the two forms of the clause: `x.clone()` and `y.clone_from(&x)` denote the same integer (that of `x`) -/
theorem clone_eq_clone_from (W : Nat) {mx : Nat} {L : Ledger} {n m : Nat} {self src a b : Rep} (hB : L.Below n) (hBm : L.Below m)
    (hcs : self.Canon mx) (hcr : src.Canon mx) (hLs : self.Live L) (hLr : src.Live L)
    (hne : ∀ i c i' c', self.own = some (i, c) → src.own = some (i', c') → i ≠ i')
    (ha : (Rep.clone mx src m).res = .ok a) (hb : (Rep.cloneFrom mx self src n).res = .ok b) :
    repInt W a = repInt W b := by
  obtain ⟨_, _, _, q₁⟩ := clone_value W hBm hcr hLr
  obtain ⟨_, _, _, q₂⟩ := clone_from_value W hB hcs hcr hLs hLr hne
  rw [q₁ a ha, (q₂ b hb).1]

-- non-vacuity: C17's concrete ledger and values (heap ← heap, heap ← inline, inline ← heap; clone of a heap value)
open Dashu.Props.C17 in
example := clone_from_value 64 (mx := 1000) exL_below exR0_canon exR1_canon exR0_live exR1_live
  (by intro i c i' c' h h'; cases h; cases h'; decide)
open Dashu.Props.C17 in
example := clone_from_value 64 (mx := 1000) exL_below exR0_canon exRi_canon exR0_live exRi_live
  (by intro i c i' c' _ h'; cases h')
open Dashu.Props.C17 in
example := clone_from_value 64 (mx := 1000) exL_below exRi_canon exR1_canon exRi_live exR1_live
  (by intro i c i' c' h; cases h)
open Dashu.Props.C17 in
example := clone_value 64 (mx := 1000) exL_below exR1_canon exR1_live
-- the calls do return (`.ok`), into a fresh buffer / the reused buffer, and the integer is the source's: −(7 + 8·2^64 + 9·2^128)
open Dashu.Props.C17 in
example : (Rep.cloneFrom 1000 exR0 exR1 2).res.toOption = some (.heap 2 5 [7, 8, 9] true) := by decide +kernel
open Dashu.Props.C17 in
example : (Rep.cloneFrom 1000 exR1 exR0 2).res.toOption = some (.heap 1 5 [1, 2, 3, 4] false) := by decide +kernel
example : repInt 64 (.heap 2 5 [7, 8, 9] true) = -(7 + 8 * 2 ^ 64 + 9 * 2 ^ 128) := by decide +kernel
open Dashu.Props.C17 in
example : repInt 64 exR1 = -(7 + 8 * 2 ^ 64 + 9 * 2 ^ 128) := by decide +kernel
example : repInt 64 (.inline 5 0 1 true) = -5 := by decide +kernel

end Dashu.Props.C15CloneLink
