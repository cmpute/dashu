import Dashu.Proofs.Int.Bits
import Dashu.Proofs.Int.Div
import Dashu.Props.GenMath
/-
  C09 audit of `integer/src/shift.rs` / `math.rs`: every function of the two files has a mirrored
  definition, some in the bit model (`Model/Int/Bits.lean`: `shlBits`, `shrBits`, `mathShlDword`) and all of
  them in the division model (`Model/Int/Div.lean`, namespace `Div`: `shlLoop/shlInPlace`, `shrWord`,
  `shrLoop/shrInPlaceWithCarry`, `shrInPlaceOneWord`, `shrInPlace`, `shlDword`).  The theorems below show
  the two sets are ONE model (equal as functions), and that the word kernels are the regenerated text of
  `math.rs`.
-/
namespace Dashu.Props.C09Shift
open Dashu.Model Dashu

/-- `shift::shl_in_place` loop: bit model = division model -/
theorem shlBits_eq_shlLoop (W s : Nat) (ws : List Nat) (c : Nat) :
    shlBits W ws s c = Div.shlLoop W s ws c :=
  (Div.shlLoop_eq W s ws c).symm

/-- `shift::shl_in_place` including its `shift == 0` early return (which leaves the words untouched) -/
theorem shlBits_eq_shlInPlace (W s : Nat) (ws : List Nat) (hw : IsWords W ws) :
    shlBits W ws s 0 = Div.shlInPlace W ws s := by
  unfold Div.shlInPlace
  by_cases h0 : s = 0
  · subst h0
    rw [if_pos rfl]
    induction ws with
    | nil => rfl
    | cons a as ih =>
      have ha := hw.head
      have e : a * 2 ^ 0 = a := by simp
      simp only [shlBits, e, Nat.div_eq_of_lt ha, Nat.mod_eq_of_lt ha, ih hw.tail, Nat.or_zero]
  · rw [if_neg h0]; exact shlBits_eq_shlLoop W s ws 0

/-- `math::shl_dword`: bit model = division model (the same expression) -/
theorem mathShlDword_eq (W d s : Nat) : mathShlDword W d s = Div.shlDword W d s := rfl

/-- `shift::shr_in_place_with_carry(words, s, 0)` loop: bit model = division model -/
theorem shrBits_eq_shrLoop (W s : Nat) (hs : s ≤ W) (ws : List Nat) :
    shrBits W s ws = Div.shrLoop W s ws 0 :=
  (Div.shrLoop_eq W s hs ws).symm

/-- `shift::shr_in_place(words, s)` for `s < WORD_BITS` (the only counts `shr_large(_ref)` passes: `rhs % WORD_BITS`),
    including the `shift == 0` early return -/
theorem shrBits_eq_shrInPlace (W s : Nat) (hs : s < W) (ws : List Nat) :
    shrBits W s ws = Div.shrInPlace W ws s := by
  unfold Div.shrInPlace Div.shrInPlaceWithCarry
  rw [if_neg (by omega)]
  by_cases h0 : s = 0
  · subst h0
    rw [if_pos rfl]
    induction ws with
    | nil => rfl
    | cons a as ih => simp [shrBits, ih, Nat.mod_one]
  · rw [if_neg h0]; exact shrBits_eq_shrLoop W s (by omega) ws

/-- the word kernels of the division model are the regenerated text of `math.rs` -/
theorem div_kernels_are_generated (W x s : Nat) (hW : 1 ≤ W) (hs : s ≤ W) (hx : x < 2 ^ (2 * W)) :
    Gen.MathHelpers.shr_word W x s = some (Div.shrWord W x s) ∧
    Gen.MathHelpers.shl_dword W x s = some (Div.shlDword W x s) :=
  ⟨by rw [Props.GenMath.gen_shr_word W x s hW hs, Div.shrWord_spec W x s hs],
   by rw [Props.GenMath.gen_shl_dword W x s hW hx hs]; rfl⟩

-- non-vacuity: a 3-word slice shifted right by 5 and left by 63 in both models, the carries crossing both word boundaries
example : IsWords 64 [2 ^ 64 - 1, 7, 2 ^ 63 + 9] ∧
    shrBits 64 5 [2 ^ 64 - 1, 7, 2 ^ 63 + 9] = ([2 ^ 59 - 1 + 7 * 2 ^ 59, 9 * 2 ^ 59, 2 ^ 58], 31 * 2 ^ 59) ∧
    Div.shrInPlace 64 [2 ^ 64 - 1, 7, 2 ^ 63 + 9] 5 = ([2 ^ 59 - 1 + 7 * 2 ^ 59, 9 * 2 ^ 59, 2 ^ 58], 31 * 2 ^ 59) ∧
    (shlBits 64 [2 ^ 64 - 1, 7, 2 ^ 63 + 9] 63 0).2 = 2 ^ 62 + 4 := by
  refine ⟨by decide, by decide, by decide, by decide⟩

end Dashu.Props.C09Shift
