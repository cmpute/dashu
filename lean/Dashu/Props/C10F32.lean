import Dashu.Proofs.Float.F32
import Dashu.Proofs.Float.SoftF32
import Dashu.Proofs.Float.Log2Ub
import Dashu.Proofs.Float.Log2Large
import Dashu.Proofs.Float.Log2Witness
import Dashu.Proofs.Float.DigitsLb
/-
  C10 (and the C03 / C14 users of the `f32` estimators): the IEEE-754 binary32 facts that `Props/C10Coarse.lean` and
  `Props/C10Est.lean` carry as hypotheses about an abstract rounding `fl` — here stated for the CONCRETE rounding function
  `rne32 : ℝ → ℝ` (round to nearest, ties to even, 24-bit significand; `Proofs/Float/F32.lean`) and proved from its
  definition.  With them the two estimator theorems are re-stated without any hypothesis about the arithmetic:
  what remains assumed about `f32` is exactly

    (IEEE)  the hardware `+`, `*`, `/`, `as f32` and the compiler's decimal-literal conversion return `rne32` of the exact
            result (IEEE-754 §4.3.1 roundTiesToEven, §5.4.1, §5.12.2) — no overflow/underflow occurs: every quantity is 0 or
            in [2⁻¹, 2³²] (`normal_range`);
    (LIBM)  the enclosure of `log2_bounds` (`Log2BoundsSound`, resp. hypothesis `hA`): `log2f` at most one ulp off.

  (IEEE) is compared on every driven coarse test: the driver evaluates the test with the compiled `Float32` AND with the
  executable soft-float replica of `rne32` (`Model/Float/SoftF32.lean`) and reports a difference as a model defect.
-/
namespace Dashu.Props.C10F32
open Dashu Dashu.Model.Float

private theorem rne32_of_pos {x : ℝ} (hx : 0 < x) : rne32 x = rneAbs x := if_pos hx

/-- **(R)** relative error of binary32 rounding is at most `2⁻²⁴`, for every real -/
theorem rne_relative_error (x : ℝ) : |rne32 x - x| ≤ u32 * |x| := rne32_relRound x

/-- **(B1)** binary32 rounding is monotone -/
theorem rne_monotone : Monotone rne32 := rne32_mono

/-- **(B2)** naturals up to `2²⁴` are binary32 numbers (`precision as f32`, `rem_bits as f32`, `shift as f32` are exact
    there, and a rounding never crosses them) -/
theorem rne_fixes_small_naturals (k : Nat) (hk : k ≤ 2 ^ 24) : rne32 (k : ℝ) = k := rne32_natCast k hk

/-- every `z·2^j` with a 24-bit `z` is left fixed -/
theorem rne_fixes_representable (z j : ℤ) (h1 : 8388608 ≤ z) (h2 : z < 16777216) :
    rne32 ((z : ℝ) * (2 : ℝ) ^ j) = (z : ℝ) * (2 : ℝ) ^ j := by
  have hz : (0 : ℝ) < (z : ℝ) := by exact_mod_cast (by omega : 0 < z)
  rw [rne32_of_pos (by positivity)]
  exact rneAbs_of_scaled z j h1 h2

/-- **(C)** the literal `0.999` of `round_fract` as an `f32` -/
theorem literal_0_999 : rne32 (999 / 1000) = c999 := rne32_c999
/-- **(C)** the literal `1.001` -/
theorem literal_1_001 : rne32 (1001 / 1000) = c1001 := rne32_c1001
/-- **(C)** `core::f32::consts::LOG10_2` (36 decimal digits in the source) is the binary32 number `10100891/2²⁵` … -/
theorem literal_LOG10_2 :
    rne32 (301029995663981195213738894724493027 / 1000000000000000000000000000000000000) = log10_2_f32 := by
  have h := rneAbs_eq_of_near (301029995663981195213738894724493027 / 1000000000000000000000000000000000000) (-2) 10100891
    (by norm_num) (by norm_num) (by rw [abs_lt]; constructor <;> norm_num)
  rw [rne32_of_pos (by norm_num), h]; unfold log10_2_f32; norm_num
/-- … which is an upper bound of `log₁₀ 2` -/
theorem LOG10_2_safe : Real.logb 10 2 ≤ log10_2_f32 := logb_10_2_le
/-- **(C)** `1. ∓ ADJUST` (`ADJUST = 2·f32::EPSILON = 4u`) of `log2_bounds_large` are exact -/
theorem adjust_factors_exact : rne32 (1 - 4 * u32) = 1 - 4 * u32 ∧ rne32 (1 + 4 * u32) = 1 + 4 * u32 := by
  have a := rneAbs_of_scaled 16777212 (-24) (by norm_num) (by norm_num)
  have b := rneAbs_of_scaled 8388610 (-23) (by norm_num) (by norm_num)
  have ea : ((16777212 : ℤ) : ℝ) * (2 : ℝ) ^ (-24 : ℤ) = 1 - 4 * u32 := by unfold u32; norm_num
  have eb : ((8388610 : ℤ) : ℝ) * (2 : ℝ) ^ (-23 : ℤ) = 1 + 4 * u32 := by unfold u32; norm_num
  rw [ea] at a; rw [eb] at b
  constructor
  · rw [rne32_of_pos (by unfold u32; norm_num)]; exact a
  · rw [rne32_of_pos (by unfold u32; norm_num)]; exact b

/-- no result leaves the normal range of binary32 while the argument is in `[2⁻¹²⁶, 2¹²⁷]` -/
theorem normal_range (x : ℝ) (h1 : (2 : ℝ) ^ (-126 : ℤ) ≤ x) (h2 : x ≤ (2 : ℝ) ^ (127 : ℤ)) :
    (2 : ℝ) ^ (-126 : ℤ) ≤ rne32 x ∧ rne32 x ≤ (2 : ℝ) ^ (127 : ℤ) := rne32_in_normal_range x h1 h2

/-- **(G)** the grid fact of `Props/C10Est.ub_wide`: for a binary32 number `est = z·2⁻¹⁹ ∈ [16, 32)` and a shift count `s`,
    `next_up(fl(est + s)) ≥ next_up(est) + s` -/
theorem next_up_grid_fact (z : ℤ) (s : Nat) (h1 : 8388608 ≤ z) (h2 : z < 16777216) :
    nextUp32 ((z : ℝ) * (2 : ℝ) ^ (-19 : ℤ)) + s ≤ nextUp32 (rne32 ((z : ℝ) * (2 : ℝ) ^ (-19 : ℤ) + s)) :=
  grid_fact z s h1 h2

/-! ### the estimator theorems with the concrete arithmetic -/

/-- the closure `test` of `round_fract` as written in the source, every operation an IEEE rounding: the two literals are
    converted (`rne32 (999/1000)`), `precision as f32` is `rne32 k` -/
noncomputable def coarseIEEE (lbF ubF : Nat → ℝ) : Coarse := fun B fmag k =>
  open Classical in
  if rne32 (ubF B * rne32 (k : ℝ)) < rne32 (lbF fmag + rne32 (999 / 1000)) then some .gt
  else if rne32 (ubF fmag + rne32 (1001 / 1000)) < rne32 (lbF B * rne32 (k : ℝ)) then some .lt
  else none

/-- on the region `k ≤ 2²⁴` this is the test `coarseReal` of `Props/C10Coarse` at `fl := rne32` -/
theorem coarseIEEE_eq (lbF ubF : Nat → ℝ) (B fmag k : Nat) (hk : k ≤ 2 ^ 24) :
    coarseIEEE lbF ubF B fmag k = coarseReal rne32 lbF ubF B fmag k := by
  unfold coarseIEEE coarseReal
  rw [rne32_natCast k hk, rne32_c999, rne32_c1001]

/-- **`round_fract`'s coarse test under IEEE arithmetic decides as the exact comparison** on `2 ≤ B < 2⁶⁴`,
    `0 < |fract| < B^k`, `k ≤ 2²⁴`; the only hypothesis left is the enclosure (E)+(S) of `log2_bounds` -/
theorem coarse_test_sound_ieee (lbF ubF : Nat → ℝ) (hb : Log2BoundsSound lbF ubF)
    (B fmag k : Nat) (hB : 2 ≤ B) (hBw : B < 2 ^ 64) (hf : 0 < fmag) (hlt : fmag < B ^ k) (hk : k ≤ 2 ^ 24)
    (o : Ordering) (h : coarseIEEE lbF ubF B fmag k = some o) : o = compare (2 * fmag) (B ^ k) := by
  rw [coarseIEEE_eq lbF ubF B fmag k hk] at h
  exact coarseReal_sound rne32 rne32_relRound lbF ubF hb B fmag k hB hBw hf hlt hk o h

/-- … hence `round_fract` returns what the exact comparison returns -/
theorem round_fract_coarse_irrelevant_ieee (lbF ubF : Nat → ℝ) (hb : Log2BoundsSound lbF ubF) (B : Nat) (m : Mode)
    (n f : Int) (k : Nat) (hB : 2 ≤ B) (hBw : B < 2 ^ 64) (hlt : f.natAbs < B ^ k) (hk : k ≤ 2 ^ 24) :
    roundFract B m (coarseIEEE lbF ubF) n f k = roundFract B m coarseNone n f k :=
  roundFract_coarse_at B m _ n f k fun hpos => coarse_test_sound_ieee lbF ubF hb B _ k hB hBw hpos hlt hk

/-- **`digits ≤ digits_ub` under IEEE arithmetic**: of the assumptions (A)–(C) of `Props/C10Est` only (A) (`ub` is an upper
    bound of `log₂ n`) and the `log2_bounds(B).0` half of (C) remain -/
theorem digits_ub_sound_ieee (B : Nat) (hB : 2 ≤ B) (n : Nat) (hn : 0 < n) (ub lbB : ℝ)
    (hA : Real.logb 2 n ≤ ub) (hsmall : digits B n - 1 ≤ 2 ^ 24) (hlb : 0 < lbB ∧ lbB ≤ Real.logb 2 B) :
    digits B n ≤ digitsUbReal B rne32 ub log10_2_f32 lbB :=
  digits_le_digitsUb B hB n hn rne32 ub log10_2_f32 lbB hA rne32_mono rne32_natCast hsmall logb_10_2_le hlb

/-- … and the enclosure hypothesis `DubSound` of every theorem about `smaller_than_one` / `round` / `trunc` -/
theorem dub_sound_ieee (B : Nat) (hB : 2 ≤ B) (ub : Nat → ℝ) (lbB : ℝ)
    (hA : ∀ n : Nat, 0 < n → Real.logb 2 n ≤ ub n) (hsmall : ∀ n : Nat, digits B n - 1 ≤ 2 ^ 24)
    (hlb : 0 < lbB ∧ lbB ≤ Real.logb 2 B) :
    DubSound B (fun v => if v = 0 then 0 else digitsUbReal B rne32 (ub v.natAbs) log10_2_f32 lbB) :=
  dubSound_of_assumptions B hB rne32 ub log10_2_f32 lbB hA rne32_mono rne32_natCast hsmall logb_10_2_le hlb

/-! ### assumption (A) for inline significands from the accuracy of `log2f` alone -/

/-- `log2_bounds(n).1` of the std path (`base/src/math/log.rs`, all unsigned primitives: every significand below `2¹²⁸`),
    each conversion / `+` / `next_up` an IEEE operation, is an upper bound of `log₂ n`, given only (LIBM↑): `log2f` is at most
    one ulp too small on the integers `≤ 2²⁴` and returns a binary32 number of `[16, 32)` on `(2²³, 2²⁴]` -/
theorem log2_ub_std_sound (log2f : ℝ → ℝ) (h : Log2fUpper log2f) (n : Nat) (hn : 0 < n) (hbits : Nat.log2 n + 1 ≤ 2 ^ 24) :
    Real.logb 2 n ≤ log2UbStd log2f n := log2UbStd_sound log2f h n hn hbits

/-- **`digits ≤ digits_ub` for every inline significand, from (LIBM↑) and the lower bound of the base alone** -/
theorem digits_ub_inline_sound (log2f : ℝ → ℝ) (h : Log2fUpper log2f) (B : Nat) (hB : 2 ≤ B) (n : Nat) (hn : 0 < n)
    (hbits : Nat.log2 n + 1 ≤ 2 ^ 24) (lbB : ℝ) (hsmall : digits B n - 1 ≤ 2 ^ 24) (hlb : 0 < lbB ∧ lbB ≤ Real.logb 2 B) :
    digits B n ≤ digitsUbReal B rne32 (log2UbStd log2f n) log10_2_f32 lbB :=
  digits_ub_sound_ieee B hB n hn _ lbB (log2UbStd_sound log2f h n hn hbits) hsmall hlb

/-- one instance of the accuracy clause of (LIBM↑), at `n = 2²⁴` with the exact logarithm; that the whole hypothesis is satisfiable
    (by the correctly rounded `rne32 ∘ log₂`) is `libm_hypothesis_satisfiable` below -/
example : Real.logb 2 ((2 ^ 24 : Nat) : ℝ) ≤ nextUp32 24 := by
  rw [logb_two_pow]
  unfold nextUp32
  have := ulp32_pos 24
  push_cast; linarith

/-! ### the coarse test of `round_fract` from the libm hypothesis alone

  `log2LbModel` / `log2UbModel` (`Proofs/Float/Log2Large.lean`): `TypedReprRef::log2_bounds` as a whole — inline values by the std
  `u128` routine, heap values by `log2_bounds_large` — with every `f32` operation an `rne32`.  (LIBM) = `Log2fSound log2f`:
  on the integers `2 ≤ m ≤ 2²⁴`, `0 ≤ next_down(log2f m) ≤ log₂ m ≤ next_up(log2f m)`, and `log2f m` is a binary32 number of
  `[16, 32)` for `2²³ ≤ m ≤ 2²⁴`. -/

/-- (E): `0 ≤ lb ≤ log₂ n ≤ ub` for `log2_bounds` of every operand of at most `2³⁰` bits, from (LIBM) alone;
    (S): the slack of the ADJUST factor for heap values -/
theorem log2_bounds_enclose (log2f : ℝ → ℝ) (h : Log2fSound log2f) (n : Nat) (hn : 0 < n) (hbits : Nat.log2 n + 1 ≤ 2 ^ 30) :
    (0 ≤ log2LbModel log2f n ∧ log2LbModel log2f n ≤ Real.logb 2 n ∧ Real.logb 2 n ≤ log2UbModel log2f n) ∧
    (2 ^ 128 ≤ n →
      log2LbModel log2f n ≤ Real.logb 2 n * ((1 + u32) ^ 2 * (1 - 4 * u32)) ∧
      (Real.logb 2 n - 1 / 1152921504606846976) * ((1 - u32) ^ 2 * (1 + 4 * u32)) ≤ log2UbModel log2f n) :=
  log2Model_sound log2f h n hn hbits

/-- the model of `log2_bounds` describes the code up to `2³⁰` bits (`rem_bits as f32` exact); beyond, values that are trivially
    sound, so that `Log2BoundsSound` (quantified over all operands) can be stated -/
noncomputable def lbClamp (log2f : ℝ → ℝ) (n : Nat) : ℝ := if Nat.log2 n + 1 ≤ 2 ^ 30 then log2LbModel log2f n else 0
noncomputable def ubClamp (log2f : ℝ → ℝ) (n : Nat) : ℝ :=
  if Nat.log2 n + 1 ≤ 2 ^ 30 then log2UbModel log2f n else 2 * Real.logb 2 n

/-- the hypothesis (E)+(S) of `C10Coarse.coarse_test_sound` DERIVED from (LIBM) -/
theorem log2_bounds_sound_libm (log2f : ℝ → ℝ) (h : Log2fSound log2f) : Log2BoundsSound (lbClamp log2f) (ubClamp log2f) := by
  constructor
  · intro n hn
    unfold lbClamp ubClamp
    by_cases hb : Nat.log2 n + 1 ≤ 2 ^ 30
    · rw [if_pos hb, if_pos hb]; exact (log2Model_sound log2f h n hn hb).1
    · rw [if_neg hb, if_neg hb]
      have hL := logb_two_nonneg n hn
      exact ⟨le_refl _, hL, le_mul_of_one_le_left hL one_le_two⟩
  · intro n h128
    have hn : 0 < n := lt_of_lt_of_le (by positivity) h128
    unfold lbClamp ubClamp
    by_cases hb : Nat.log2 n + 1 ≤ 2 ^ 30
    · rw [if_pos hb, if_pos hb]; exact (log2Model_sound log2f h n hn hb).2 h128
    · rw [if_neg hb, if_neg hb]
      have hL := logb_two_nonneg n hn
      have c2 : (1 - u32) ^ 2 * (1 + 4 * u32) ≤ 2 := by unfold u32; norm_num
      have c3 : (0 : ℝ) ≤ (1 - u32) ^ 2 * (1 + 4 * u32) := by unfold u32; norm_num
      refine ⟨mul_nonneg hL (by unfold u32; norm_num), ?_⟩
      calc (Real.logb 2 n - 1 / 1152921504606846976) * ((1 - u32) ^ 2 * (1 + 4 * u32))
          ≤ Real.logb 2 n * ((1 - u32) ^ 2 * (1 + 4 * u32)) :=
            mul_le_mul_of_nonneg_right (sub_le_self _ (by norm_num)) c3
        _ ≤ Real.logb 2 n * 2 := mul_le_mul_of_nonneg_left c2 hL
        _ = 2 * Real.logb 2 n := mul_comm _ _

/-- **`round_fract`'s coarse `f32` test decides as the exact comparison — from (LIBM) and (IEEE) alone**, on the region
    `2 ≤ B < 2⁶⁴`, `0 < |fract| < B^k`, `k ≤ 2²⁴`: the test of the source with `log2_bounds` = its model, all arithmetic `rne32` -/
theorem coarse_test_sound_libm (log2f : ℝ → ℝ) (h : Log2fSound log2f)
    (B fmag k : Nat) (hB : 2 ≤ B) (hBw : B < 2 ^ 64) (hf : 0 < fmag) (hlt : fmag < B ^ k) (hk : k ≤ 2 ^ 24)
    (o : Ordering) (hdec : coarseIEEE (log2LbModel log2f) (log2UbModel log2f) B fmag k = some o) :
    o = compare (2 * fmag) (B ^ k) := by
  have hbB : Nat.log2 B + 1 ≤ 2 ^ 30 := by
    have : Nat.log2 B < 64 := (Nat.log2_lt (by omega)).mpr hBw
    omega
  have hbf : Nat.log2 fmag + 1 ≤ 2 ^ 30 := by
    have h3 : fmag < 2 ^ (64 * k) :=
      lt_of_lt_of_le hlt (by rw [Nat.pow_mul]; exact Nat.pow_le_pow_left (le_of_lt hBw) k)
    have : Nat.log2 fmag < 64 * k := (Nat.log2_lt (by omega)).mpr h3
    omega
  have e : coarseIEEE (lbClamp log2f) (ubClamp log2f) B fmag k =
      coarseIEEE (log2LbModel log2f) (log2UbModel log2f) B fmag k := by
    unfold coarseIEEE lbClamp ubClamp
    simp only [if_pos hbB, if_pos hbf]
  rw [← e] at hdec
  exact coarse_test_sound_ieee _ _ (log2_bounds_sound_libm log2f h) B fmag k hB hBw hf hlt hk o hdec

/-- **`digits ≤ digits_ub` from (LIBM) alone, for every base `B ≥ 2` held in a word (here: of at most `2²⁴` bits) and every significand of at most `2³⁰`
    bits**: `digits_ub` of `float/src/repr.rs` with `log2_bounds` of the significand AND of the base = their models, all arithmetic
    `rne32` — no hypothesis about `f32` is left except (LIBM) -/
theorem digits_ub_sound_libm (log2f : ℝ → ℝ) (h : Log2fSound log2f) (B : Nat) (hB : 2 ≤ B) (hBw : Nat.log2 B + 1 ≤ 2 ^ 24)
    (n : Nat) (hn : 0 < n) (hbits : Nat.log2 n + 1 ≤ 2 ^ 30) (hsmall : digits B n - 1 ≤ 2 ^ 24) :
    digits B n ≤ digitsUbReal B rne32 (log2UbModel log2f n) log10_2_f32 (log2LbStd log2f B) := by
  have hb := log2LbStd_sound log2f h.lower B (by omega) hBw
  exact digits_ub_sound_ieee B hB n hn _ _ (log2Model_sound log2f h n hn hbits).1.2.2 hsmall ⟨hb.2.2 hB, hb.2.1⟩

/-- non-vacuity of (LIBM): the correctly rounded logarithm `x ↦ rne32 (log₂ x)` satisfies `Log2fSound` (the hypothesis asks
    only for one ulp, which is what libm implementations document) -/
theorem libm_hypothesis_satisfiable : Log2fSound (fun x => rne32 (Real.logb 2 x)) := by
  refine ⟨⟨?_, ?_⟩, ⟨?_, ?_⟩⟩
  · intro m hm1 _
    have ht : 0 ≤ Real.logb 2 m := logb_two_nonneg m (by omega)
    rcases eq_or_lt_of_le ht with h0 | hpos
    · rw [← h0]
      show (0 : ℝ) ≤ nextUp32 (rne32 0)
      rw [rne32_zero]; unfold nextUp32; have := ulp32_pos 0; linarith
    · show Real.logb 2 m ≤ nextUp32 (rne32 (Real.logb 2 m))
      rw [rne32_of_pos hpos]
      have := ulp32_pos (Real.logb 2 m)
      linarith [le_nextUp32_rneAbs _ hpos]
  · intro m h1 h2
    obtain ⟨a, b⟩ := logb_two_nat_bounds m 23 24 (le_of_lt h1) h2
    exact rne32_grid_16_24 _ (by push_cast at a; linarith) (by push_cast at b; linarith)
  · intro m h1 _
    obtain ⟨a, _⟩ := logb_two_nat_bounds m 1 24 (by omega) (by omega)
    have hpos : 0 < Real.logb 2 m := by push_cast at a; linarith
    show 0 < nextDown32 (rne32 (Real.logb 2 m)) ∧ nextDown32 (rne32 (Real.logb 2 m)) ≤ Real.logb 2 m
    rw [rne32_of_pos hpos]
    have := ulp32_pos (Real.logb 2 m)
    exact ⟨nextDown32_pos _ (rneAbs_pos _ hpos), by linarith [nextDown32_rneAbs_le _ hpos]⟩
  · intro m h1 h2
    obtain ⟨a, b⟩ := logb_two_nat_bounds m 23 24 h1 (le_of_lt h2)
    exact rne32_grid_16_24 _ (by push_cast at a; linarith) (by push_cast at b; linarith)

/-! ### the LOWER digit estimate `Repr::digits_lb`

  `digits_lb = match B { 2 => lb, 10 => lb * LOG10_2, _ => lb / log2_bounds(B).1 } as usize`, `lb = log2_bounds(n).0`
  (float/src/repr.rs; used by `Context::div`'s pre-shrink and `sub_ulp`).  `LOG10_2` is on the unsafe side for a lower
  estimate (`LOG10_2 > log₁₀ 2`), so `digits_lb ≤ digits − 1` is NOT a consequence of `lb ≤ log₂ n` for base 10; the enclosure that
  the model's hypothesis `DlbSound` asks — `digits_lb ≤ digits` — is, by the relative error of the rounded product. -/

/-- **(C)** the constant from the other side: `log₁₀ 2 ≤ LOG10_2 ≤ log₁₀ 2 · (1 + 2⁻²²)` (through `2^13301 ≤ 10^4004`, `10^643 ≤ 2^2136`) -/
theorem LOG10_2_two_sided : Real.logb 10 2 ≤ log10_2_f32 ∧ log10_2_f32 ≤ Real.logb 10 2 * (1 + 1 / 4194304) :=
  ⟨logb_10_2_le, log10_2_f32_le⟩

/-- **`digits_lb ≤ digits` under IEEE arithmetic**: only `0 ≤ lb ≤ log₂ n` and `log₂ B ≤ log2_bounds(B).1` remain assumed -/
theorem digits_lb_sound_ieee (B : Nat) (hB : 2 ≤ B) (n : Nat) (hn : 0 < n) (lb ubB : ℝ)
    (hlb0 : 0 ≤ lb) (hlb : lb ≤ Real.logb 2 n) (hsmall : digits B n ≤ 2 ^ 21) (hub : Real.logb 2 B ≤ ubB) :
    digitsLbReal B rne32 lb log10_2_f32 ubB ≤ digits B n :=
  digitsLb_le_digits B hB n hn rne32 lb _ ubB hlb0 hlb rne32_mono rne32_natCast rne32_relRound hsmall
    (by unfold log10_2_f32; norm_num) log10_2_f32_le hub

/-- … and the enclosure hypothesis `DlbSound` (`Model/Float/Repr.lean`) of the theorems about `Context::div` / `sub_ulp` -/
theorem dlb_sound_ieee (B : Nat) (hB : 2 ≤ B) (lb : Nat → ℝ) (ubB : ℝ)
    (hA : ∀ n : Nat, 0 < n → 0 ≤ lb n ∧ lb n ≤ Real.logb 2 n) (hsmall : ∀ n : Nat, digits B n ≤ 2 ^ 21)
    (hub : Real.logb 2 B ≤ ubB) :
    DlbSound B (fun v => if v = 0 then 0 else digitsLbReal B rne32 (lb v.natAbs) log10_2_f32 ubB) :=
  dlbSound_of_assumptions B hB rne32 lb _ ubB hA rne32_mono rne32_natCast rne32_relRound hsmall
    (by unfold log10_2_f32; norm_num) log10_2_f32_le hub

/-- **`digits_lb ≤ digits` from (LIBM) alone**: `log2_bounds` of the significand (`.0`) and of the base (`.1`) = their models, all
    arithmetic `rne32`; every base of at most `2²⁴` bits, every significand of at most `2³⁰` bits and `2²¹` digits — the
    counterpart of `digits_ub_sound_libm`; together: `digits_lb ≤ digits ≤ digits_ub` -/
theorem digits_lb_sound_libm (log2f : ℝ → ℝ) (h : Log2fSound log2f) (B : Nat) (hB : 2 ≤ B) (hBw : Nat.log2 B + 1 ≤ 2 ^ 24)
    (n : Nat) (hn : 0 < n) (hbits : Nat.log2 n + 1 ≤ 2 ^ 30) (hsmall : digits B n ≤ 2 ^ 21) :
    digitsLbReal B rne32 (log2LbModel log2f n) log10_2_f32 (log2UbStd log2f B) ≤ digits B n := by
  have hm := (log2Model_sound log2f h n hn hbits).1
  have hb := log2UbStd_sound log2f h.upper B (by omega) hBw
  exact digitsLb_le_digits B hB n hn rne32 _ _ _ hm.1 hm.2.1 rne32_mono rne32_natCast rne32_relRound hsmall
    (by unfold log10_2_f32; norm_num) log10_2_f32_le hb

/-- both estimates enclose the digit count, from (LIBM) alone -/
theorem digits_estimates_enclose_libm (log2f : ℝ → ℝ) (h : Log2fSound log2f) (B : Nat) (hB : 2 ≤ B) (hBw : Nat.log2 B + 1 ≤ 2 ^ 24)
    (n : Nat) (hn : 0 < n) (hbits : Nat.log2 n + 1 ≤ 2 ^ 30) (hsmall : digits B n ≤ 2 ^ 21) :
    digitsLbReal B rne32 (log2LbModel log2f n) log10_2_f32 (log2UbStd log2f B) ≤ digits B n ∧
    digits B n ≤ digitsUbReal B rne32 (log2UbModel log2f n) log10_2_f32 (log2LbStd log2f B) :=
  ⟨digits_lb_sound_libm log2f h B hB hBw n hn hbits hsmall,
   digits_ub_sound_libm log2f h B hB hBw n hn hbits
     (le_trans (Nat.sub_le _ _) (le_trans hsmall (by norm_num)))⟩

/-- non-vacuity of the size hypotheses (the doc example of `digits_lb`: decimal 1001) -/
example : 2 ≤ 10 ∧ Nat.log2 10 + 1 ≤ 2 ^ 24 ∧ 0 < 1001 ∧ Nat.log2 1001 + 1 ≤ 2 ^ 30 ∧ digits 10 1001 ≤ 2 ^ 21 := by decide

/-! ### the executable soft-float model computes `rne32`

  `Model/Float/SoftF32.lean` (integer arithmetic, run by the driver beside the compiled `Float32` and compared with Rust's
  `f32` through the `s32.*` ops) — every operation is `rne32` of the exact result, for ALL operands. -/

open Dashu.Model.Float.SoftF32 in
/-- the rounding kernel: `rnePos num den` denotes `rne32 (num / den)` for every positive fraction -/
theorem soft_rne_is_rne32 (num den : Nat) (hn : 0 < num) (hd : 0 < den) :
    (rnePos num den).toReal = rne32 ((num : ℝ) / den) := rnePos_eq num den hn hd

open Dashu.Model.Float.SoftF32 in
/-- `n as f32`, `a + b`, `a * b` of the model are `rne32` of the exact result -/
theorem soft_ops_are_rne32 (a b : Val) (n : Nat) :
    (ofNat n).toReal = rne32 (n : ℝ) ∧ (add a b).toReal = rne32 (a.toReal + b.toReal) ∧
    (mul a b).toReal = rne32 (a.toReal * b.toReal) := ⟨ofNat_eq n, add_eq a b, mul_eq a b⟩

open Dashu.Model.Float.SoftF32 in
/-- `a / b` and `a − b` (where defined: `b ≠ 0`, resp. `b ≤ a`) -/
theorem soft_div_sub_are_rne32 (a b r : Val) :
    (div a b = some r → r.toReal = rne32 (a.toReal / b.toReal)) ∧
    (sub a b = some r → r.toReal = rne32 (a.toReal - b.toReal)) := ⟨div_eq a b r, sub_eq a b r⟩

/-! ### exhaustive checks on finite domains (kernel evaluation of the executable model, no axioms) -/

namespace Exhaustive
open Dashu.Model.Float.SoftF32

/-- every integer below `2¹⁰` converts exactly (instance of (B2), evaluated rather than derived) -/
theorem small_integers_exact :
    (List.range 1024).all (fun k => let q := toQ (ofNat k); q.1 == k * q.2) = true := by decide +kernel

/-- the 2⁹ integers next to `2²⁴` : exact up to `2²⁴`, beyond it the odd ones move to the EVEN neighbour significand -/
theorem integers_around_2_24 :
    (List.range 512).all (fun i =>
      let k := 16777216 - 256 + i
      let q := toQ (ofNat k)
      if k ≤ 16777216 then q.1 == k * q.2
      else if k % 2 == 0 then q.1 == k * q.2
      else q.1 == (if k % 4 == 1 then k - 1 else k + 1) * q.2) = true := by decide +kernel

/-- `precision as f32` at the ties of every binade: `(2²⁴+1)·2^j ↦ 2²⁴·2^j` (down to even), `(2²⁴+3)·2^j ↦ (2²⁴+4)·2^j` -/
theorem ties_every_binade :
    (List.range 40).all (fun j =>
      ofNat ((16777216 + 1) <<< j) == ⟨8388608, 24 + j⟩ && ofNat ((16777216 + 3) <<< j) == ⟨8388610, 24 + j⟩) = true := by
  decide +kernel

/-- the literals of the source as bit patterns: `0.999f32`, `1.001f32`, `LOG10_2`, `2·EPSILON`, `1 ∓ 2·EPSILON` -/
theorem source_literals :
    toBits (rne 999 1000) = some 0x3F7FBE77 ∧ toBits (rne 1001 1000) = some 0x3F8020C5 ∧
    toBits (rne 301029995663981195213738894724493027 1000000000000000000000000000000000000) = some 1050288283 ∧
    (ofBits 0x34000000).map (fun eps => toBits (mul (ofNat 2) eps)) = some (some 0x34800000) ∧
    ((ofBits 0x34800000).bind fun adj => (sub (ofNat 1) adj).map toBits) = some (some 0x3F7FFFFC) ∧
    (ofBits 0x34800000).map (fun adj => toBits (add (ofNat 1) adj)) = some (some 0x3F800002) := by decide +kernel

/-- `next_up` / `next_down` are `bits ± 1` at both ends of EVERY normal binade (carry into / borrow from the exponent field) -/
theorem next_up_down_all_binades :
    (List.range 252).all (fun i =>
      let e : Int := (i : Int) - 125
      let top : Val := ⟨16777215, e⟩; let bot : Val := ⟨8388608, e⟩
      ((nextUp top).bind toBits) == (toBits top).map (· + 1) && ((nextDown bot).bind toBits) == (toBits bot).map (· - 1) &&
      ((nextUp bot).bind toBits) == (toBits bot).map (· + 1) && ((nextDown top).bind toBits) == (toBits top).map (· - 1)) = true := by
  decide +kernel

/-- `bits → value → bits` is the identity at both ends of every normal binade -/
theorem bits_roundtrip :
    (List.range 254).all (fun i => (List.range 4).all fun t =>
      let b := (i + 1) <<< 23 + (if t < 2 then t else 8388608 - 4 + t)
      ((ofBits b).bind toBits) == some b) = true := by decide +kernel

end Exhaustive

/-! ### non-vacuity -/

/-- 0.1 is not a binary32 number: the rounding moves it (so `rne32` is not the identity) … -/
example : rne32 (1 / 10) = 13421773 / 134217728 := by
  have h := rneAbs_eq_of_near (1 / 10) (-4) 13421773 (by norm_num) (by norm_num) (by rw [abs_lt]; constructor <;> norm_num)
  rw [rne32_of_pos (by norm_num), h]; norm_num

/-- a value halfway between two integers goes to the even one -/
private theorem rhe_half (m : ℤ) : rhe ((m : ℝ) + 1 / 2) = if Even m then m else m + 1 := by
  have hf : ⌊(m : ℝ) + 1 / 2⌋ = m :=
    Int.floor_eq_iff.mpr ⟨le_add_of_nonneg_right (by norm_num), add_lt_add_right (by norm_num) _⟩
  unfold rhe
  rw [hf, add_sub_cancel_left, if_neg (lt_irrefl _), if_neg (lt_irrefl _)]

/-- in the binade `[2²⁴, 2²⁵)` the spacing is 2: an odd integer `2m+1` is a tie between `2m` and `2m+2` -/
private theorem rne32_odd (m : ℤ) (h1 : (8388608 : ℝ) ≤ m) (h2 : (m : ℝ) + 1 ≤ 16777216) :
    rne32 (2 * m + 1) = 2 * ((if Even m then m else m + 1 : ℤ) : ℝ) := by
  have hp : (0 : ℝ) < 2 * m + 1 := by linarith
  have hu : ulp32 (2 * m + 1) = 2 := by
    unfold ulp32
    rw [intLog_eq _ hp 24 (by norm_num; linarith) (by norm_num; linarith)]
    norm_num
  rw [rne32_of_pos hp]
  unfold rneAbs
  rw [hu, show (2 * (m : ℝ) + 1) / 2 = m + 1 / 2 by ring, rhe_half, mul_comm]

/-- … and a tie goes to the even neighbour: `2²⁴ + 1 ↦ 2²⁴`, `2²⁴ + 3 ↦ 2²⁴ + 4` (`precision as f32` beyond the region) -/
example : rne32 16777217 = 16777216 ∧ rne32 16777219 = 16777220 := by
  have a := rne32_odd 8388608 (by norm_num) (by norm_num)
  have b := rne32_odd 8388609 (by norm_num) (by norm_num)
  rw [if_pos ⟨4194304, rfl⟩] at a
  rw [if_neg (by decide)] at b
  norm_num at a b
  exact ⟨a, b⟩

end Dashu.Props.C10F32
