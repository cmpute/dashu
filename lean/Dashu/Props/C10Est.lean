import Dashu.Proofs.Float.Estimate
/-
  C10 (and C03, C14 users of `digits_ub`): the `f32` digit estimate.  In `Props/C10.lean` the estimator
  is a parameter with the enclosure hypothesis `DubSound`; the driver checks the hypothesis on every
  operand for its bit-exact replica.  This module states the assumptions about the `f32` ingredients
  under which the hypothesis holds for the code's formula, and proves the implication over ℝ
  (kept apart because it imports Mathlib's real logarithm).

  (A) `log₂ n ≤ ub` — for `n < 2^24`: exactly "`log2f` is at most one ulp too small"
      (`ub = next_up(log2f n)`); for wider `n` additionally the IEEE grid fact (G) of `ub_wide`;
  (B) the single `f32` `*` / `/` is a monotone rounding fixing the integers `≤ 2^24`;
  (C) `LOG10_2 ≥ log₁₀ 2`, `0 < log2_bounds(B).0 ≤ log₂ B`.
  No relative-error bound on the multiplication is needed, and a `log2f` that is up to one ulp too
  LARGE is harmless.  What is NOT derived here: (B), (G) and the two numeric facts (C) about concrete
  `f32` values — they are properties of IEEE-754 binary32 and of the literals, stated as hypotheses
  (`Props/C10F32` proves (B), (G) and the `LOG10_2` half of (C) for the concrete rounding `rne32`, and derives the bound on
  `log2_bounds(B).0` from the accuracy of `log2f`).
-/
namespace Dashu.Props.C10Est
open Dashu Dashu.Model.Float

/-- `digits ≤ digits_ub` for every base under (A), (B), (C) -/
theorem digits_ub_sound (B : Nat) (hB : 2 ≤ B) (n : Nat) (hn : 0 < n) (fl : ℝ → ℝ) (ub L lbB : ℝ)
    (hA : Real.logb 2 n ≤ ub)
    (hmono : Monotone fl) (hfix : ∀ k : Nat, k ≤ 2 ^ 24 → fl k = k) (hsmall : digits B n - 1 ≤ 2 ^ 24)
    (hL : Real.logb 10 2 ≤ L) (hlb : 0 < lbB ∧ lbB ≤ Real.logb 2 B) :
    digits B n ≤ digitsUbReal B fl ub L lbB :=
  digits_le_digitsUb B hB n hn fl ub L lbB hA hmono hfix hsmall hL hlb

/-- … hence the enclosure hypothesis `DubSound` that every C10 / C03 theorem about `smaller_than_one`,
    `round`, `trunc`, the far-apart addition branch, … carries -/
theorem dub_sound (B : Nat) (hB : 2 ≤ B) (fl : ℝ → ℝ) (ub : Nat → ℝ) (L lbB : ℝ)
    (hA : ∀ n : Nat, 0 < n → Real.logb 2 n ≤ ub n)
    (hmono : Monotone fl) (hfix : ∀ k : Nat, k ≤ 2 ^ 24 → fl k = k)
    (hsmall : ∀ n : Nat, digits B n - 1 ≤ 2 ^ 24)
    (hL : Real.logb 10 2 ≤ L) (hlb : 0 < lbB ∧ lbB ≤ Real.logb 2 B) :
    DubSound B (fun v => if v = 0 then 0 else digitsUbReal B fl (ub v.natAbs) L lbB) :=
  dubSound_of_assumptions B hB fl ub L lbB hA hmono hfix hsmall hL hlb

/-- (A) for `n < 2^24` is the accuracy assumption on `log2f` itself -/
theorem ub_small (log2f nextUp : ℝ → ℝ) (hacc : ∀ x : ℝ, 1 ≤ x → Real.logb 2 x ≤ nextUp (log2f x))
    (n : Nat) (hn : 0 < n) : Real.logb 2 n ≤ nextUp (log2f n) :=
  hacc n (by exact_mod_cast hn)

/-- (A) for `n ≥ 2^24` from the same accuracy assumption and the grid fact (G) -/
theorem ub_wide (log2f nextUp : ℝ → ℝ) (hacc : ∀ x : ℝ, 1 ≤ x → Real.logb 2 x ≤ nextUp (log2f x))
    (n shifted s : Nat) (hn : 0 < n) (hshift : n < (shifted + 1) * 2 ^ s) (ub : ℝ)
    (hG : nextUp (log2f ((shifted + 1 : Nat) : ℝ)) + s ≤ ub) : Real.logb 2 n ≤ ub := by
  have h1 : Real.logb 2 n ≤ Real.logb 2 (((shifted + 1) * 2 ^ s : Nat) : ℝ) := by
    apply Real.logb_le_logb_of_le (by norm_num) (by exact_mod_cast hn)
    exact_mod_cast (le_of_lt hshift)
  rw [logb_two_mul_pow (shifted + 1) s (by omega)] at h1
  have h3 := hacc ((shifted + 1 : Nat) : ℝ) (by push_cast; linarith [Nat.cast_nonneg (α := ℝ) shifted])
  linarith

end Dashu.Props.C10Est
