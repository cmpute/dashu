import Dashu.Proofs.Float.Closing
import Dashu.Proofs.Float.Review
import Dashu.Proofs.Float.SqrtFlag
/-
  C03 — Float arithmetic honours the documented rounding contract of its mode.

  `Contract B m p x r flag` (`Model/Float/Spec.lean`) over `Rat`: `flag = Exact ⇔ r = x`; otherwise
  `|r − x| < 1 ulp` (`≤ ½ ulp` for HalfEven / HalfAway) where the ulp is that of `x` at `p` digits
  (any `B^e` with `B^(e+p-1) ≤ |x|`); the side condition of the directed modes; `AddOne ⇒ r > x`,
  `SubOne ⇒ r < x`.  Every theorem quantifies over all bases `B ≥ 2`, all precisions `p ≥ 1`, all six
  modes and all operands; `c` is the coarse `f32` test of `round_fract` (any sound oracle), `dub` the
  `digits_ub` estimate.

  The model mirrors /repo including the `fix:` commits 92fc29e (sqrt scaling / Exact flag),
  0d97e26 (far-apart addition stand-in), d197d6e (`sub` from zero) found by this property's check.
  `Context::mul/sqr/cubic` still pre-shrink operands longer than 2p / 3p digits (recorded finding,
  outside "operands that fit p"): `fixed = false` is the code as it is, `fixed = true` without the
  pre-shrink.

  What is proved (all without bound on operand size, exponent gap, base, precision):
  * `repr_round` (C10); `mul` / `*` / `sqr` / `cubic` for operands of at most 2p (3p) digits — in
    particular all operands that fit `p` — and, without the pre-shrink, for all operands;
  * `add` / `sub` for ALL operands that fit `p` (`add_sub_contract`): zero operands, equal exponents,
    and the four alignment branches of `repr_add_large_small` / `repr_add_small_large` (far-apart with
    the sticky stand-in, the two splitting branches, full alignment) composed with the three
    re-alignment branches of `repr_round_sum`; for every sound `digits_ub` estimator;
  * `repr_div` / `/` / `inv` for every dividend and non-zero divisor, `Context::div` for dividends of at
    most `rhs.digits + p` digits; `sqrt` for every non-negative operand (`ContractSqrt`);
  * the documented panics of `div` and `sqrt`;
  * the two closing clauses: a true result representable in `p` digits is returned exactly and flagged
    `Exact` (`representable_exact`, a consequence of the contract: the result lies on the grid of the
    error unit; instances for every operation), and no result carries more than `p+1` digits — with the
    exact conditions under which the `p+1`-st digit can occur (`*_digits`).
  Not covered by theorems (recorded findings, outside "operands that fit p"): `Context::add/sub/mul/
  sqr/cubic/div` on Reprs LONGER than the working length — there the contract is false for the code
  as it is (`mul_preshrink_counterexample`; `repr_round_sum`'s single guard digit is the hypothesis
  `hguard` of `round_sum_contract`).
-/
namespace Dashu.Props.C03
open Dashu Dashu.Model.Float

/-- `FBig * FBig` (all operator forms): one rounding of the exact product -/
theorem mul_operator_contract (B : Nat) (hB : 2 ≤ B) (m : Mode) (c : Coarse) (hc : CoarseSound c)
    (p : Nat) (hp : 1 ≤ p) (a b : FRepr) :
    Contract B m p (a.toRat B * b.toRat B) ((opMul B m c p a b).1.toRat B) (opMul B m c p a b).2 :=
  opMul_contract B hB m c hc p hp a b

/-- `Context::mul` as it is, for operands of at most `2p` digits (every operand that fits `p`): equal to
    the operator form, hence the contract.  (`…_partial`: the hypothesis excludes the pre-shrink.) -/
theorem mul_contract_partial (B : Nat) (hB : 2 ≤ B) (m : Mode) (c : Coarse) (hc : CoarseSound c)
    (p : Nat) (hp : 1 ≤ p) (a b : FRepr) (ha : a.digits B ≤ 2 * p) (hb : b.digits B ≤ 2 * p) :
    Contract B m p (a.toRat B * b.toRat B) ((ctxMul false B m c p a b).1.toRat B) (ctxMul false B m c p a b).2 := by
  rw [ctxMul_asis B m c p a b ha hb, ctxMul_fixed_eq_op]
  exact opMul_contract B hB m c hc p hp a b

/-- without the pre-shrink `Context::mul` honours the contract for all operands -/
theorem mul_contract_fixed (B : Nat) (hB : 2 ≤ B) (m : Mode) (c : Coarse) (hc : CoarseSound c)
    (p : Nat) (hp : 1 ≤ p) (a b : FRepr) :
    Contract B m p (a.toRat B * b.toRat B) ((ctxMul true B m c p a b).1.toRat B) (ctxMul true B m c p a b).2 :=
  opMul_contract B hB m c hc p hp a b

/-- the hypothesis of `mul_contract_partial` is needed: HalfEven, p = 1, base 10: `1.01 × 2.5 = 2.525`.
    The code as it is pre-rounds `1.01` (3 digits > 2p) to `1.0` and returns `2` (`NoOp`): error `0.525 > ½ ulp`;
    without the pre-shrink the result is `3` (`AddOne`). -/
theorem mul_preshrink_counterexample :
    ctxMul false 10 .halfEven coarseNone 1 ⟨101, -2⟩ ⟨25, -1⟩ = (⟨2, 0⟩, some .NoOp) ∧
    ctxMul true 10 .halfEven coarseNone 1 ⟨101, -2⟩ ⟨25, -1⟩ = (⟨3, 0⟩, some .AddOne) ∧
    ¬ (2 * |(2000 : Int) - 2525| ≤ 1000) := by
  refine ⟨by decide +kernel, by decide +kernel, by norm_num⟩

theorem sqr_contract_partial (B : Nat) (hB : 2 ≤ B) (m : Mode) (c : Coarse) (hc : CoarseSound c)
    (p : Nat) (hp : 1 ≤ p) (a : FRepr) (ha : a.digits B ≤ 2 * p) :
    Contract B m p (a.toRat B * a.toRat B) ((ctxSqr false B m c p a).1.toRat B) (ctxSqr false B m c p a).2 := by
  rw [ctxSqr_asis B m c p a ha]
  exact ctxSqr_contract B hB m c hc p hp a

theorem sqr_contract_fixed (B : Nat) (hB : 2 ≤ B) (m : Mode) (c : Coarse) (hc : CoarseSound c)
    (p : Nat) (hp : 1 ≤ p) (a : FRepr) :
    Contract B m p (a.toRat B * a.toRat B) ((ctxSqr true B m c p a).1.toRat B) (ctxSqr true B m c p a).2 :=
  ctxSqr_contract B hB m c hc p hp a

theorem cubic_contract_partial (B : Nat) (hB : 2 ≤ B) (m : Mode) (c : Coarse) (hc : CoarseSound c)
    (p : Nat) (hp : 1 ≤ p) (a : FRepr) (ha : a.digits B ≤ 3 * p) :
    Contract B m p (a.toRat B * a.toRat B * a.toRat B) ((ctxCubic false B m c p a).1.toRat B)
      (ctxCubic false B m c p a).2 := by
  rw [ctxCubic_asis B m c p a ha]
  exact ctxCubic_contract B hB m c hc p hp a

theorem cubic_contract_fixed (B : Nat) (hB : 2 ≤ B) (m : Mode) (c : Coarse) (hc : CoarseSound c)
    (p : Nat) (hp : 1 ≤ p) (a : FRepr) :
    Contract B m p (a.toRat B * a.toRat B * a.toRat B) ((ctxCubic true B m c p a).1.toRat B)
      (ctxCubic true B m c p a).2 :=
  ctxCubic_contract B hB m c hc p hp a

/-- `Context::add` (`rs = 1`) / `Context::sub` (`rs = -1`) whenever the alignment keeps all digits:
    one operand zero (incl. `sub` from zero), equal exponents, or
    `exponent gap + digits of the operand with the larger exponent ≤ p`.
    (for operands of ANY length; the general statement for operands that fit `p` is `add_sub_contract`.) -/
theorem add_sub_contract_partial (B : Nat) (hB : 2 ≤ B) (m : Mode) (c : Coarse) (hc : CoarseSound c)
    (dub : Int → Nat) (p : Nat) (hp : 1 ≤ p) (lhs rhs : FRepr) (rs : Int) (hrs : rs = 1 ∨ rs = -1)
    (hl : Normalized B lhs) (hr : Normalized B rhs)
    (h : lhs.isZero = true ∨ rhs.isZero = true ∨ lhs.exp = rhs.exp ∨
      (rhs.exp < lhs.exp ∧ (lhs.exp - rhs.exp).toNat + lhs.digits B ≤ p) ∨
      (lhs.exp < rhs.exp ∧ (rhs.exp - lhs.exp).toNat + rhs.digits B ≤ p)) :
    Contract B m p (lhs.toRat B + (rs : ℚ) * rhs.toRat B)
      ((ctxAddSub B m c dub p lhs rhs rs).1.toRat B) (ctxAddSub B m c dub p lhs rhs rs).2 := by
  by_cases hs : lhs.isZero = true ∨ rhs.isZero = true ∨ lhs.exp = rhs.exp
  · exact addSub_simple_contract B hB m c hc dub p hp lhs rhs rs hrs hl hr hs
  · have hlz : ¬ lhs.isZero = true := fun h => hs (Or.inl h)
    have hrz : ¬ rhs.isZero = true := fun h => hs (Or.inr (Or.inl h))
    have hne : ¬ lhs.exp = rhs.exp := fun h => hs (Or.inr (Or.inr h))
    rcases h with h | h | h | h | h
    · exact absurd h hlz
    · exact absurd h hrz
    · exact absurd h hne
    · rw [ctxAddSub_large B m c dub p lhs rhs rs hlz hrz h.1]
      exact reprAddLargeSmall_aligned B hB m c hc dub p hp lhs rhs rs h.1 h.2
    · obtain ⟨heq, hv, hdig, -⟩ := ctxAddSub_swapped B m c dub p lhs rhs rs hrs hlz hrz h.1
      rw [heq, ← hv]
      exact reprAddLargeSmall_aligned B hB m c hc dub p hp ⟨rs * rhs.signif, rhs.exp⟩ lhs 1 h.1 (by rw [hdig]; exact h.2)

/-- `Context::add` / `sub` in the far-apart branch (the sticky-bit argument): the operand with the larger
    exponent has at most `p` digits, the other one lies more than `digits_ub + 1` digits below it and below
    the rounding position; the result computed from the stand-in `±1` is the rounding of the exact sum.
    Holds for every sound `digits_ub` estimator and small operands of any length. -/
theorem add_sub_far_contract (B : Nat) (hB : 2 ≤ B) (m : Mode) (c : Coarse) (hc : CoarseSound c)
    (dub : Int → Nat) (hdub : DubSound B dub) (p : Nat) (hp : 1 ≤ p) (lhs rhs : FRepr) (rs : Int)
    (hrs : rs = 1 ∨ rs = -1) (hl0 : lhs.signif ≠ 0) (hr0 : rhs.signif ≠ 0)
    (h : (rhs.exp < lhs.exp ∧ lhs.digits B ≤ p ∧
          dub rhs.signif + 1 < (lhs.exp - rhs.exp).toNat ∧
          dub rhs.signif + 1 + (p + if decide (sgn lhs.signif ≠ rs * sgn rhs.signif) = true then 1 else 0) <
            lhs.digits B + (lhs.exp - rhs.exp).toNat) ∨
         (lhs.exp < rhs.exp ∧ rhs.digits B ≤ p ∧
          dub lhs.signif + 1 < (rhs.exp - lhs.exp).toNat ∧
          dub lhs.signif + 1 + (p + if decide (rs * sgn rhs.signif ≠ sgn lhs.signif) = true then 1 else 0) <
            rhs.digits B + (rhs.exp - lhs.exp).toNat)) :
    Contract B m p (lhs.toRat B + (rs : ℚ) * rhs.toRat B)
      ((ctxAddSub B m c dub p lhs rhs rs).1.toRat B) (ctxAddSub B m c dub p lhs rhs rs).2 := by
  have hlz := not_isZero_of_signif_ne lhs hl0
  have hrz := not_isZero_of_signif_ne rhs hr0
  rcases h with ⟨hgt, hld, hf⟩ | ⟨hlt, hrd, hf1, hf2⟩
  · rw [ctxAddSub_large B m c dub p lhs rhs rs hlz hrz hgt]
    exact reprAddLargeSmall_far_contract B hB m c hc dub hdub p hp lhs rhs rs hrs hgt hl0 hr0 hld hf
  · obtain ⟨heq, hv, hdig, hb0⟩ := ctxAddSub_swapped B m c dub p lhs rhs rs hrs hlz hrz hlt
    rw [heq, ← hv]
    exact reprAddLargeSmall_far_contract B hB m c hc dub hdub p hp ⟨rs * rhs.signif, rhs.exp⟩ lhs 1
      (Or.inl rfl) hlt (hb0 hr0) hl0 (by rw [hdig]; exact hrd)
      (by simp only [hdig, one_mul, sgn_mul_sign rs rhs.signif hrs]; exact ⟨hf1, hf2⟩)

/-- **`Context::add` (`rs = 1`) / `Context::sub` (`rs = -1`) honour the rounding contract for all operands
    that fit the precision** — every sign, every exponent gap (total overlap to far beyond the precision),
    cancellation to zero or to a single digit, carries into a new digit, operands shorter than `p`; for
    every sound `digits_ub` estimator `dub` and every sound coarse test `c`.
    (`hwl`/`hwr`: a zero significand comes with exponent 0, the invariant of `Repr`.) -/
theorem add_sub_contract (B : Nat) (hB : 2 ≤ B) (m : Mode) (c : Coarse) (hc : CoarseSound c)
    (dub : Int → Nat) (hdub : DubSound B dub) (p : Nat) (hp : 1 ≤ p) (lhs rhs : FRepr) (rs : Int)
    (hrs : rs = 1 ∨ rs = -1) (hl : Normalized B lhs) (hr : Normalized B rhs)
    (hwl : lhs.signif = 0 → lhs.exp = 0) (hwr : rhs.signif = 0 → rhs.exp = 0)
    (hld : lhs.digits B ≤ p) (hrd : rhs.digits B ≤ p) :
    Contract B m p (lhs.toRat B + (rs : ℚ) * rhs.toRat B)
      ((ctxAddSub B m c dub p lhs rhs rs).1.toRat B) (ctxAddSub B m c dub p lhs rhs rs).2 :=
  addSub_fits_contract B hB m c hc dub hdub p hp lhs rhs rs hrs hl hr hwl hwr hld hrd

/-- the operators `a + b`, `a - b` (all four ownership forms and the assign forms; `opAddSub`: since fix 164990d a
    zero operand returns the other one ROUNDED to the `Context::max` precision) return the value of `Context::add` /
    `sub` at that precision for ALL operands — so `add_sub_contract` is also a theorem about the operators.
    (Rounds 3–5 carried `lhs.digits ≤ p`, `rhs.digits ≤ p` here only because the zero-operand arms returned the
    other operand unrounded; the defect is repaired and the hypotheses are gone.) -/
theorem operators_add_sub (B : Nat) (m : Mode) (c : Coarse) (dub : Int → Nat) (p : Nat) (lhs rhs : FRepr) (rs : Int)
    (hrs : rs = 1 ∨ rs = -1) :
    opAddSub B m c dub p lhs rhs rs = (ctxAddSub B m c dub p lhs rhs rs).1 :=
  opAddSub_eq_ctx_all B m c dub p lhs rhs rs hrs

/-- non-vacuity of the dropped hypothesis: `0 + 12345` at `Context::max` precision 2 (HalfEven, base 10) is the
    ROUNDED `12e3` for the operators as for `Context::add` (it was the unrounded 12345 before the fix) -/
example : opAddSub 10 .halfEven coarseNone (fun v => digitsI 10 v) 2 ⟨0, 0⟩ ⟨12345, 0⟩ 1 = ⟨12, 3⟩ := by decide +kernel

/-- **the operators `a + b` / `a - b`** (all ownership and assign forms, `opAddSub` at the `Context::max` precision `p`)
    honour the rounding contract for all operands that fit `p`: the value they return is the value of a contract-meeting
    `Rounded` result (the operators drop the flag, so it is existentially quantified), and a sum representable in `p`
    digits is returned exactly. -/
theorem operators_add_sub_contract (B : Nat) (hB : 2 ≤ B) (m : Mode) (c : Coarse) (hc : CoarseSound c)
    (dub : Int → Nat) (hdub : DubSound B dub) (p : Nat) (hp : 1 ≤ p) (lhs rhs : FRepr) (rs : Int)
    (hrs : rs = 1 ∨ rs = -1) (hl : Normalized B lhs) (hr : Normalized B rhs)
    (hwl : lhs.signif = 0 → lhs.exp = 0) (hwr : rhs.signif = 0 → rhs.exp = 0)
    (hld : lhs.digits B ≤ p) (hrd : rhs.digits B ≤ p) :
    (∃ flag, Contract B m p (lhs.toRat B + (rs : ℚ) * rhs.toRat B) ((opAddSub B m c dub p lhs rhs rs).toRat B) flag) ∧
    (Representable B p (lhs.toRat B + (rs : ℚ) * rhs.toRat B) →
      (opAddSub B m c dub p lhs rhs rs).toRat B = lhs.toRat B + (rs : ℚ) * rhs.toRat B) := by
  rw [operators_add_sub B m c dub p lhs rhs rs hrs]
  have h := add_sub_contract B hB m c hc dub hdub p hp lhs rhs rs hrs hl hr hwl hwr hld hrd
  exact ⟨⟨_, h⟩, fun hrep => (h.representable_exact hB hrep).1⟩

/-- non-vacuity: `1.01e3 − 1.99e1` at 3 digits (HalfEven) through the operator = 990 (the hypotheses are those of the
    `add_sub_contract` example below) -/
example : opAddSub 10 .halfEven coarseNone (digitsI 10) 3 ⟨101, 1⟩ ⟨199, -1⟩ (-1) = ⟨99, 1⟩ := by decide +kernel

/-- `Context::repr_round_sum(signif, exp, (low, lk), is_sub)` in general: the contract for the exact value
    `(signif·B^lk + low)·B^(exp − lk)` under the guard-digit hypothesis `hguard` — which the four
    alignment branches establish for operands that fit `p`, and which fails for longer Reprs. -/
theorem round_sum_contract (B : Nat) (hB : 2 ≤ B) (m : Mode) (c : Coarse) (hc : CoarseSound c)
    (p : Nat) (hp : 1 ≤ p) (s e lv : Int) (lk : Nat) (isSub : Bool)
    (hA : |lv| < ((B ^ lk : Nat) : Int)) (hs0 : s ≠ 0)
    (hsign : isSub = false → (0 ≤ s → 0 ≤ lv) ∧ (s ≤ 0 → lv ≤ 0))
    (hguard : isSub = true → digitsI B s < p + 1 → p + 1 - digitsI B s < lk →
      ((B ^ (lk - (p + 1 - digitsI B s)) : Nat) : Int) * ((B ^ (p - 1) : Nat) : Int) ≤
        |s * ((B ^ lk : Nat) : Int) + lv|) :
    Contract B m p (((s * ((B ^ lk : Nat) : Int) + lv : Int) : ℚ) * bpowQ B (e - lk))
      ((reprRoundSum B m c p s e (lv, lk) isSub).1.toRat B) (reprRoundSum B m c p s e (lv, lk) isSub).2 :=
  reprRoundSum_contract B hB m c hc p hp s e lv lk isSub hA hs0 hsign hguard

/-- `repr_round_sum` with an empty low part: the contract, at `p` or `p+1` digits -/
theorem round_sum_nolow_contract (B : Nat) (hB : 2 ≤ B) (m : Mode) (c : Coarse) (hc : CoarseSound c)
    (p : Nat) (hp : 1 ≤ p) (s e : Int) (isSub : Bool) :
    Contract B m p ((s : ℚ) * bpowQ B e) ((reprRoundSum B m c p s e (0, 0) isSub).1.toRat B)
      (reprRoundSum B m c p s e (0, 0) isSub).2 :=
  reprRoundSum_nolow_contract B hB m c hc p hp s e isSub

/-- **`Context::repr_div`** (the operator `/` at `Context::max`): for every dividend and every
    non-zero divisor the quotient honours the contract (results may carry `p+1` digits). -/
theorem div_contract (B : Nat) (hB : 2 ≤ B) (m : Mode) (p : Nat) (hp : 1 ≤ p) (lhs rhs : FRepr)
    (hb : rhs.signif ≠ 0) :
    ∃ r, reprDiv B m p lhs rhs = .ok r ∧ Contract B m p (lhs.toRat B / rhs.toRat B) (r.1.toRat B) r.2 :=
  reprDiv_contract B hB m p hp lhs rhs hb

/-- `Context::div` for dividends of at most `rhs.digits() + p` digits (all that fit `p`), any digit
    estimators.  (`…_partial`: longer dividends are pre-shrunk — recorded finding.) -/
theorem ctx_div_contract_partial (B : Nat) (hB : 2 ≤ B) (m : Mode) (c : Coarse) (dub dlb : Int → Nat)
    (p : Nat) (hp : 1 ≤ p) (lhs rhs : FRepr) (hb : rhs.signif ≠ 0) (hfit : lhs.digits B ≤ rhs.digits B + p) :
    ∃ r, ctxDiv B m c dub dlb p lhs rhs = .ok r ∧
      Contract B m p (lhs.toRat B / rhs.toRat B) (r.1.toRat B) r.2 := by
  rw [ctxDiv_noshrink B m c dub dlb p lhs rhs hfit]
  exact reprDiv_contract B hB m p hp lhs rhs hb

/-- `Context::inv` -/
theorem inv_contract (B : Nat) (hB : 2 ≤ B) (m : Mode) (p : Nat) (hp : 1 ≤ p) (f : FRepr) (hf : f.signif ≠ 0) :
    ∃ r, ctxInv B m p f = .ok r ∧ Contract B m p ((⟨1, 0⟩ : FRepr).toRat B / f.toRat B) (r.1.toRat B) r.2 :=
  reprDiv_contract B hB m p hp ⟨1, 0⟩ f hf

/-- the documented panics of division: unlimited precision, then division by zero -/
theorem div_panics (B : Nat) (m : Mode) (p : Nat) (lhs rhs : FRepr) :
    (p = 0 → reprDiv B m p lhs rhs = .error .unlimitedPrecision) ∧
    (p ≠ 0 → rhs.signif = 0 → reprDiv B m p lhs rhs = .error .divideByZero) := by
  unfold reprDiv
  try simp only [shlDigits_eq, shrDigits_eq]
  constructor
  · intro h; simp [h]
  · intro h1 h2; simp [h1, h2]

/-- **`Context::sqrt`** (as repaired by 92fc29e) for every non-negative operand (of any length): `r ≥ 0`,
    `Exact ⇔ r² = x`, otherwise `√x` within one ulp (half an ulp for the nearest modes) of `r`, on the
    side the mode prescribes; every comparison with `√x` is stated on squares (`ContractSqrt`).
    `sr` is the integer kernel `UBig::sqrt_rem`, any function meeting its contract `SqrtRemOk`. -/
theorem sqrt_contract (B : Nat) (hB : 2 ≤ B) (m : Mode) (c : Coarse) (sr : Nat → Nat × Nat) (hsr : SqrtRemOk sr)
    (p : Nat) (hp : 1 ≤ p) (x : FRepr) (hs : 0 ≤ x.signif) :
    ∃ r, ctxSqrt B m c sr p x = .ok r ∧ ContractSqrt B m p (x.toRat B) (r.1.toRat B) r.2 :=
  ctxSqrt_contract B hB m c sr hsr p hp x hs

/-- the integer kernel the driver runs (core `Nat.sqrt`) meets the `sqrt_rem` contract; the link to the
    mirrored `UBig::sqrt_rem` of property C12 is `Props/C03Link.lean` -/
theorem sqrt_kernel_nat : SqrtRemOk natSqrtRem := natSqrtRem_ok

/-- **the `Exact` flag of `Context::sqrt`, structurally**: with `(S, low, k, e) = sqrtScale` (the scaled significand, the
    digits the scaling DISCARDED, their count) and `(root, rem) = sqrt_rem(S)`, the returned flag is `Exact` iff
    `rem = 0` AND `low = 0` — a perfect-square prefix followed by non-zero discarded digits is flagged `Inexact`
    (the defect repaired by 92fc29e looked at `rem` only).  All bases, precisions, modes, non-negative operands of any
    length. -/
theorem sqrt_exact_flag_iff (B : Nat) (hB : 2 ≤ B) (m : Mode) (c : Coarse) (sr : Nat → Nat × Nat) (hsr : SqrtRemOk sr)
    (p : Nat) (hp : 1 ≤ p) (x : FRepr) (hs : 0 ≤ x.signif) :
    ∃ r, ctxSqrt B m c sr p x = .ok r ∧
      (r.2 = none ↔ ((sr (sqrtScale B p x).1.natAbs).2 = 0 ∧ (sqrtScale B p x).2.1 = 0)) := by
  obtain ⟨r, h1, h2⟩ := ctxSqrt_flag B hB m c sr hsr p hp x hs
  exact ⟨r, h1, by rw [h2]; exact sqrtRound_flag_none_iff B m sr _ _ _⟩

/-- … and its consequence for lossy scaling: whenever the scaling discards non-zero low digits the
    result is flagged `Inexact`, and rightly so — its square differs from the operand -/
theorem sqrt_discarded_low_inexact (B : Nat) (hB : 2 ≤ B) (m : Mode) (c : Coarse) (sr : Nat → Nat × Nat)
    (hsr : SqrtRemOk sr) (p : Nat) (hp : 1 ≤ p) (x : FRepr) (hs : 0 ≤ x.signif) (hlow : (sqrtScale B p x).2.1 ≠ 0) :
    ∃ r adj, ctxSqrt B m c sr p x = .ok (r, some adj) ∧ r.toRat B * r.toRat B ≠ x.toRat B := by
  obtain ⟨r, h1, h2⟩ := sqrt_exact_flag_iff B hB m c sr hsr p hp x hs
  obtain ⟨r', h1', hc⟩ := ctxSqrt_contract B hB m c sr hsr p hp x hs
  have hrr : r' = r := by rw [h1] at h1'; exact (Except.ok.inj h1').symm
  subst hrr
  obtain ⟨v, f⟩ := r'
  cases f with
  | none => exact absurd (h2.mp rfl).2 hlow
  | some adj =>
    refine ⟨v, adj, h1, ?_⟩
    intro he
    have := hc.exact_iff.mpr he
    simp at this

/-- non-vacuity, and the witness of the repaired defect: `√401` at one decimal digit — kept prefix `4 = 2²` (remainder 0),
    discarded digits `01 ≠ 0` — is `2·10¹` flagged Inexact -/
example : ctxSqrt 10 .zero coarseNone natSqrtRem 1 ⟨401, 0⟩ = .ok (⟨2, 1⟩, some .NoOp) ∧
    (sqrtScale 10 1 ⟨401, 0⟩).2.1 = 1 ∧ (natSqrtRem (sqrtScale 10 1 ⟨401, 0⟩).1.natAbs).2 = 0 := by decide +kernel

/-- the documented panics of `sqrt`: unlimited precision first, then a negative operand -/
theorem sqrt_panics (B : Nat) (m : Mode) (c : Coarse) (sr : Nat → Nat × Nat) (p : Nat) (x : FRepr) :
    (p = 0 → ctxSqrt B m c sr p x = .error .unlimitedPrecision) ∧
    (p ≠ 0 → x.signif < 0 → ctxSqrt B m c sr p x = .error .rootNegative) := by
  unfold ctxSqrt
  constructor
  · intro h; simp [h]
  · intro h1 h2; simp [h1, h2]

/-- unlimited precision (`p = 0`): `repr_round` is the identity, flagged `Exact` -/
theorem unlimited_exact (B : Nat) (m : Mode) (c : Coarse) (r : FRepr) : reprRound B m c 0 r = (r, none) :=
  reprRound_unlimited B m c r

/-! ### the recorded findings: excluded regions in closed form

The three remaining `known_findings.jsonl` entries of C03 are keyed by the predicates below (the Python
twins are `vlib.props.c03.kf_long_operand`; digit counts are those of the normalised operands, which is
what `Repr::new` / the driver build).  Outside each region the full contract is a theorem; inside, a
counterexample theorem shows that the code as it is violates it. -/

/-- `Context::mul` pre-shrinks an operand: some operand has more than `2p` digits -/
def MulShrinkRegion (B p : Nat) (a b : FRepr) : Prop := p ≠ 0 ∧ (a.digits B > 2 * p ∨ b.digits B > 2 * p)
/-- `Context::sqr` / `cubic` pre-shrink: more than `2p` / `3p` digits -/
def SqrShrinkRegion (B p : Nat) (a : FRepr) : Prop := p ≠ 0 ∧ a.digits B > 2 * p
def CubicShrinkRegion (B p : Nat) (a : FRepr) : Prop := p ≠ 0 ∧ a.digits B > 3 * p
/-- `Context::div` pre-shrinks the dividend: more than `rhs.digits + p` digits -/
def DivShrinkRegion (B p : Nat) (lhs rhs : FRepr) : Prop := p ≠ 0 ∧ rhs.signif ≠ 0 ∧ lhs.digits B > rhs.digits B + p
/-- `Context::add` / `sub` beyond the single guard digit: an operand longer than the precision -/
def AddLongRegion (B p : Nat) (lhs rhs : FRepr) : Prop := p ≠ 0 ∧ (lhs.digits B > p ∨ rhs.digits B > p)

theorem mul_contract_outside_region (B : Nat) (hB : 2 ≤ B) (m : Mode) (c : Coarse) (hc : CoarseSound c)
    (p : Nat) (hp : 1 ≤ p) (a b : FRepr) (h : ¬ MulShrinkRegion B p a b) :
    Contract B m p (a.toRat B * b.toRat B) ((ctxMul false B m c p a b).1.toRat B) (ctxMul false B m c p a b).2 := by
  unfold MulShrinkRegion at h
  exact mul_contract_partial B hB m c hc p hp a b (by omega) (by omega)

theorem sqr_contract_outside_region (B : Nat) (hB : 2 ≤ B) (m : Mode) (c : Coarse) (hc : CoarseSound c)
    (p : Nat) (hp : 1 ≤ p) (a : FRepr) (h : ¬ SqrShrinkRegion B p a) :
    Contract B m p (a.toRat B * a.toRat B) ((ctxSqr false B m c p a).1.toRat B) (ctxSqr false B m c p a).2 := by
  unfold SqrShrinkRegion at h
  exact sqr_contract_partial B hB m c hc p hp a (by omega)

theorem cubic_contract_outside_region (B : Nat) (hB : 2 ≤ B) (m : Mode) (c : Coarse) (hc : CoarseSound c)
    (p : Nat) (hp : 1 ≤ p) (a : FRepr) (h : ¬ CubicShrinkRegion B p a) :
    Contract B m p (a.toRat B * a.toRat B * a.toRat B) ((ctxCubic false B m c p a).1.toRat B)
      (ctxCubic false B m c p a).2 := by
  unfold CubicShrinkRegion at h
  exact cubic_contract_partial B hB m c hc p hp a (by omega)

theorem div_contract_outside_region (B : Nat) (hB : 2 ≤ B) (m : Mode) (c : Coarse) (dub dlb : Int → Nat)
    (p : Nat) (hp : 1 ≤ p) (lhs rhs : FRepr) (hb : rhs.signif ≠ 0) (h : ¬ DivShrinkRegion B p lhs rhs) :
    ∃ r, ctxDiv B m c dub dlb p lhs rhs = .ok r ∧
      Contract B m p (lhs.toRat B / rhs.toRat B) (r.1.toRat B) r.2 := by
  unfold DivShrinkRegion at h
  exact ctx_div_contract_partial B hB m c dub dlb p hp lhs rhs hb (by omega)

theorem add_sub_contract_outside_region (B : Nat) (hB : 2 ≤ B) (m : Mode) (c : Coarse) (hc : CoarseSound c)
    (dub : Int → Nat) (hdub : DubSound B dub) (p : Nat) (hp : 1 ≤ p) (lhs rhs : FRepr) (rs : Int)
    (hrs : rs = 1 ∨ rs = -1) (hl : Normalized B lhs) (hr : Normalized B rhs)
    (hwl : lhs.signif = 0 → lhs.exp = 0) (hwr : rhs.signif = 0 → rhs.exp = 0)
    (h : ¬ AddLongRegion B p lhs rhs) :
    Contract B m p (lhs.toRat B + (rs : ℚ) * rhs.toRat B)
      ((ctxAddSub B m c dub p lhs rhs rs).1.toRat B) (ctxAddSub B m c dub p lhs rhs rs).2 := by
  unfold AddLongRegion at h
  exact add_sub_contract B hB m c hc dub hdub p hp lhs rhs rs hrs hl hr hwl hwr (by omega) (by omega)

/-- inside `DivShrinkRegion` the contract fails for the code as it is: base 16, p = 2, HalfAway,
    `0x17ff·16⁻² / (−2·16²)`: the dividend (4 digits > 1 + 2) is pre-rounded to `0x18·16⁰`, the quotient
    `−0xc·16⁻²` is returned flagged `Exact`, but `0x17ff` is odd, so the true quotient is not `−0xc·16⁻²`
    (`0x17ff ≠ 2 · 0xc · 16²`). -/
theorem div_preshrink_counterexample :
    ctxDiv 16 .halfAway coarseNone (digitsI 16) (digitsI 16) 2 ⟨0x17ff, -2⟩ ⟨-2, 2⟩ = .ok (⟨-0xc, -2⟩, none) ∧
    (0x17ff : Int) ≠ 2 * 0xc * 16 ^ 2 ∧
    (⟨0x17ff, -2⟩ : FRepr).digits 16 > (⟨-2, 2⟩ : FRepr).digits 16 + 2 := by
  refine ⟨by decide +kernel, by decide, by decide +kernel⟩

/-- inside `AddLongRegion` the contract fails for the code as it is: base 36, p = 1, Down,
    `21·36⁴⁰ − 979775·36³⁷ = 1·36³⁷` exactly (`21·36³ − 979775 = 1`), but the cancellation is deeper than
    the single guard digit and the code returns `0` flagged `Inexact(SubOne)`. -/
theorem add_guard_digit_counterexample :
    ctxAddSub 36 .down coarseNone (digitsI 36) 1 ⟨21, 40⟩ ⟨-979775, 37⟩ 1 = (⟨0, 0⟩, some .SubOne) ∧
    (21 : Int) * 36 ^ 3 - 979775 = 1 ∧ (⟨-979775, 37⟩ : FRepr).digits 36 > 1 := by
  refine ⟨by decide +kernel, by decide, by decide +kernel⟩

/-! ### closing clause 1: `x` representable in `p` digits ⇒ the result is `x`, flagged `Exact`

`Representable B p x :⇔ ∃ M j, |M| < B^p ∧ x = M · B^j`. -/

/-- the clause is a consequence of the contract, for every operation at once -/
theorem representable_exact (B : Nat) (hB : 2 ≤ B) (m : Mode) (p : Nat) (x r : ℚ) (flag : Option Rounding)
    (h : Contract B m p x r flag) (hrep : Representable B p x) : r = x ∧ flag = none :=
  h.representable_exact hB hrep

/-- … and of `ContractSqrt`: if `√v` is a `p`-digit number `w`, the result is `w`, flagged `Exact` -/
theorem sqrt_representable_exact_of_contract (B : Nat) (hB : 2 ≤ B) (m : Mode) (p : Nat) (v r : ℚ)
    (flag : Option Rounding) (h : ContractSqrt B m p v r flag) (w : ℚ) (hw0 : 0 ≤ w)
    (hrep : Representable B p w) (hwv : w * w = v) : r = w ∧ flag = none :=
  h.representable_exact hB w hw0 hrep hwv

theorem add_sub_representable_exact (B : Nat) (hB : 2 ≤ B) (m : Mode) (c : Coarse) (hc : CoarseSound c)
    (dub : Int → Nat) (hdub : DubSound B dub) (p : Nat) (hp : 1 ≤ p) (lhs rhs : FRepr) (rs : Int)
    (hrs : rs = 1 ∨ rs = -1) (hl : Normalized B lhs) (hr : Normalized B rhs)
    (hwl : lhs.signif = 0 → lhs.exp = 0) (hwr : rhs.signif = 0 → rhs.exp = 0)
    (hld : lhs.digits B ≤ p) (hrd : rhs.digits B ≤ p)
    (hrep : Representable B p (lhs.toRat B + (rs : ℚ) * rhs.toRat B)) :
    (ctxAddSub B m c dub p lhs rhs rs).1.toRat B = lhs.toRat B + (rs : ℚ) * rhs.toRat B ∧
    (ctxAddSub B m c dub p lhs rhs rs).2 = none :=
  (addSub_fits_contract B hB m c hc dub hdub p hp lhs rhs rs hrs hl hr hwl hwr hld hrd).representable_exact hB hrep

theorem mul_representable_exact (B : Nat) (hB : 2 ≤ B) (m : Mode) (c : Coarse) (hc : CoarseSound c)
    (p : Nat) (hp : 1 ≤ p) (a b : FRepr) (hrep : Representable B p (a.toRat B * b.toRat B)) :
    (opMul B m c p a b).1.toRat B = a.toRat B * b.toRat B ∧ (opMul B m c p a b).2 = none :=
  (opMul_contract B hB m c hc p hp a b).representable_exact hB hrep

theorem sqr_representable_exact (B : Nat) (hB : 2 ≤ B) (m : Mode) (c : Coarse) (hc : CoarseSound c)
    (p : Nat) (hp : 1 ≤ p) (a : FRepr) (hrep : Representable B p (a.toRat B * a.toRat B)) :
    (ctxSqr true B m c p a).1.toRat B = a.toRat B * a.toRat B ∧ (ctxSqr true B m c p a).2 = none :=
  (ctxSqr_contract B hB m c hc p hp a).representable_exact hB hrep

theorem cubic_representable_exact (B : Nat) (hB : 2 ≤ B) (m : Mode) (c : Coarse) (hc : CoarseSound c)
    (p : Nat) (hp : 1 ≤ p) (a : FRepr) (hrep : Representable B p (a.toRat B * a.toRat B * a.toRat B)) :
    (ctxCubic true B m c p a).1.toRat B = a.toRat B * a.toRat B * a.toRat B ∧ (ctxCubic true B m c p a).2 = none :=
  (ctxCubic_contract B hB m c hc p hp a).representable_exact hB hrep

theorem div_representable_exact (B : Nat) (hB : 2 ≤ B) (m : Mode) (p : Nat) (hp : 1 ≤ p) (lhs rhs : FRepr)
    (hb : rhs.signif ≠ 0) (hrep : Representable B p (lhs.toRat B / rhs.toRat B)) :
    ∃ r, reprDiv B m p lhs rhs = .ok r ∧ r.1.toRat B = lhs.toRat B / rhs.toRat B ∧ r.2 = none := by
  obtain ⟨r, h1, h2⟩ := reprDiv_contract B hB m p hp lhs rhs hb
  exact ⟨r, h1, h2.representable_exact hB hrep⟩

/-! the same clause for the `Context` methods AS THEY ARE (`fixed = false`, `ctxDiv`) on operands that fit -/

/-- closing clause 1 for `Context::mul` as it is (operands of at most `2p` digits — all that fit `p`) -/
theorem ctx_mul_representable_exact (B : Nat) (hB : 2 ≤ B) (m : Mode) (c : Coarse) (hc : CoarseSound c)
    (p : Nat) (hp : 1 ≤ p) (a b : FRepr) (ha : a.digits B ≤ 2 * p) (hb : b.digits B ≤ 2 * p)
    (hrep : Representable B p (a.toRat B * b.toRat B)) :
    (ctxMul false B m c p a b).1.toRat B = a.toRat B * b.toRat B ∧ (ctxMul false B m c p a b).2 = none :=
  (mul_contract_partial B hB m c hc p hp a b ha hb).representable_exact hB hrep

/-- … for `Context::sqr` as it is -/
theorem ctx_sqr_representable_exact (B : Nat) (hB : 2 ≤ B) (m : Mode) (c : Coarse) (hc : CoarseSound c)
    (p : Nat) (hp : 1 ≤ p) (a : FRepr) (ha : a.digits B ≤ 2 * p)
    (hrep : Representable B p (a.toRat B * a.toRat B)) :
    (ctxSqr false B m c p a).1.toRat B = a.toRat B * a.toRat B ∧ (ctxSqr false B m c p a).2 = none :=
  (sqr_contract_partial B hB m c hc p hp a ha).representable_exact hB hrep

/-- … for `Context::cubic` as it is -/
theorem ctx_cubic_representable_exact (B : Nat) (hB : 2 ≤ B) (m : Mode) (c : Coarse) (hc : CoarseSound c)
    (p : Nat) (hp : 1 ≤ p) (a : FRepr) (ha : a.digits B ≤ 3 * p)
    (hrep : Representable B p (a.toRat B * a.toRat B * a.toRat B)) :
    (ctxCubic false B m c p a).1.toRat B = a.toRat B * a.toRat B * a.toRat B ∧ (ctxCubic false B m c p a).2 = none :=
  (cubic_contract_partial B hB m c hc p hp a ha).representable_exact hB hrep

/-- … for `Context::div` (dividends that fit) -/
theorem ctx_div_representable_exact (B : Nat) (hB : 2 ≤ B) (m : Mode) (c : Coarse) (dub dlb : Int → Nat)
    (p : Nat) (hp : 1 ≤ p) (lhs rhs : FRepr) (hb : rhs.signif ≠ 0) (hfit : lhs.digits B ≤ rhs.digits B + p)
    (hrep : Representable B p (lhs.toRat B / rhs.toRat B)) :
    ∃ r, ctxDiv B m c dub dlb p lhs rhs = .ok r ∧ r.1.toRat B = lhs.toRat B / rhs.toRat B ∧ r.2 = none := by
  obtain ⟨r, h1, h2⟩ := ctx_div_contract_partial B hB m c dub dlb p hp lhs rhs hb hfit
  exact ⟨r, h1, h2.representable_exact hB hrep⟩

theorem sqrt_representable_exact (B : Nat) (hB : 2 ≤ B) (m : Mode) (c : Coarse) (sr : Nat → Nat × Nat)
    (hsr : SqrtRemOk sr) (p : Nat) (hp : 1 ≤ p)
    (x : FRepr) (hs : 0 ≤ x.signif) (w : ℚ) (hw0 : 0 ≤ w) (hrep : Representable B p w)
    (hwv : w * w = x.toRat B) :
    ∃ r, ctxSqrt B m c sr p x = .ok r ∧ r.1.toRat B = w ∧ r.2 = none := by
  obtain ⟨r, h1, h2⟩ := ctxSqrt_contract B hB m c sr hsr p hp x hs
  exact ⟨r, h1, h2.representable_exact hB w hw0 hrep hwv⟩

/-! ### closing clause 2: no result carries more than `p+1` significant digits — and when the `p+1`-st
    digit can occur at all -/

/-- `repr_round` (hence `with_precision`, `mul`, `sqr`, `cubic`, `sqrt`): never more than `p` digits -/
theorem repr_round_digits (B : Nat) (hB : 2 ≤ B) (m : Mode) (c : Coarse) (p : Nat) (hp : 1 ≤ p) (r : FRepr) :
    (reprRound B m c p r).1.digits B ≤ p := reprRound_digits_le B hB m c p hp r

theorem mul_sqr_cubic_digits (fixed : Bool) (B : Nat) (hB : 2 ≤ B) (m : Mode) (c : Coarse) (p : Nat) (hp : 1 ≤ p)
    (a b : FRepr) :
    (ctxMul fixed B m c p a b).1.digits B ≤ p ∧ (opMul B m c p a b).1.digits B ≤ p ∧
    (ctxSqr fixed B m c p a).1.digits B ≤ p ∧ (ctxCubic fixed B m c p a).1.digits B ≤ p :=
  ⟨ctxMul_digits_le fixed B hB m c p hp a b, ctxMul_digits_le true B hB m c p hp a b,
   ctxSqr_digits_le fixed B hB m c p hp a, ctxCubic_digits_le fixed B hB m c p hp a⟩

theorem sqrt_digits (B : Nat) (hB : 2 ≤ B) (m : Mode) (c : Coarse) (sr : Nat → Nat × Nat) (p : Nat) (hp : 1 ≤ p)
    (x : FRepr) (hs : 0 ≤ x.signif) : ∃ r, ctxSqrt B m c sr p x = .ok r ∧ r.1.digits B ≤ p :=
  ctxSqrt_digits_le B hB m c sr p hp x hs

/-- `add` / `sub` (operands of any length): at most `p+1` digits; at most `p` unless the operation is an
    effective subtraction (`sign lhs ≠ rs · sign rhs`) of non-zero operands with different exponents —
    exactly the case in which `repr_round_sum` keeps its guard digit -/
theorem add_sub_digits (B : Nat) (hB : 2 ≤ B) (m : Mode) (c : Coarse) (dub : Int → Nat)
    (p : Nat) (hp : 1 ≤ p) (lhs rhs : FRepr) (rs : Int) (hrs : rs = 1 ∨ rs = -1)
    (hwl : lhs.signif = 0 → lhs.exp = 0) (hwr : rhs.signif = 0 → rhs.exp = 0) :
    (ctxAddSub B m c dub p lhs rhs rs).1.digits B ≤ p + 1 ∧
    ((lhs.isZero = true ∨ rhs.isZero = true ∨ lhs.exp = rhs.exp ∨ sgn lhs.signif = rs * sgn rhs.signif) →
      (ctxAddSub B m c dub p lhs rhs rs).1.digits B ≤ p) :=
  ctxAddSub_digits_le B hB m c dub p hp lhs rhs rs hrs hwl hwr

/-- `repr_div` / `inv` (dividend of at most `rhs.digits + p` digits): at most `p+1` digits; at most `p`
    whenever the integer quotient of the significands is non-zero and below `B^p` — so for operands that
    fit `p` the `p+1`-st digit can appear only when `|lhs.signif| < |rhs.signif|` (e.g. `2/13` at 2 digits
    = `0.153`) -/
theorem div_digits (B : Nat) (hB : 2 ≤ B) (m : Mode) (p : Nat) (hp : 1 ≤ p) (lhs rhs : FRepr)
    (hb : rhs.signif ≠ 0) (hfit : lhs.digits B ≤ rhs.digits B + p) :
    ∃ r, reprDiv B m p lhs rhs = .ok r ∧ r.1.digits B ≤ p + 1 ∧
      (Int.tdiv lhs.signif rhs.signif ≠ 0 → |Int.tdiv lhs.signif rhs.signif| < ((B ^ p : Nat) : Int) →
        r.1.digits B ≤ p) :=
  reprDiv_digits_le B hB m p hp lhs rhs hb hfit

/-! the digit clause for `Context::div` itself -/

/-- **`Context::div`, digit clause with NO fit hypothesis**: for every dividend (of any length), every non-zero
    divisor and every sound pair of digit estimators the quotient carries at most `p+1` digits — an over-long
    dividend is pre-shrunk to `rhs.digits + p` digits, a dividend that is not pre-shrunk has at most that many. -/
theorem ctx_div_digits_all (B : Nat) (hB : 2 ≤ B) (m : Mode) (c : Coarse) (dub dlb : Int → Nat)
    (hdub : DubSound B dub) (hdlb : DlbSound B dlb) (p : Nat) (hp : 1 ≤ p) (lhs rhs : FRepr) (hb : rhs.signif ≠ 0) :
    ∃ r, ctxDiv B m c dub dlb p lhs rhs = .ok r ∧ r.1.digits B ≤ p + 1 := by
  unfold ctxDiv
  split
  · obtain ⟨r, h1, h2, _⟩ := reprDiv_digits_le B hB m p hp (reprRound B m c (rhs.digits B + p) lhs).1 rhs hb
      (reprRound_digits_le B hB m c (rhs.digits B + p) (by omega) lhs)
    exact ⟨r, h1, h2⟩
  · rename_i hns
    have hfit : lhs.digits B ≤ rhs.digits B + p := by
      by_cases hz : lhs.isZero = true
      · have h0 : lhs.signif = 0 := by
          unfold FRepr.isZero at hz
          simp only [Bool.and_eq_true, beq_iff_eq] at hz
          exact hz.1
        unfold FRepr.digits; rw [h0, digitsI_zero]; omega
      · have h1 : ¬ (dub lhs.signif > dlb rhs.signif + p) := fun h => hns ⟨hz, h⟩
        have h2 := hdub lhs.signif
        have h3 := hdlb rhs.signif
        unfold FRepr.digits; omega
    obtain ⟨r, h1, h2, _⟩ := reprDiv_digits_le B hB m p hp lhs rhs hb hfit
    exact ⟨r, h1, h2⟩

/-- `Context::div` for dividends that fit (`≤ rhs.digits + p` digits): the full digit clause of `div_digits` -/
theorem ctx_div_digits (B : Nat) (hB : 2 ≤ B) (m : Mode) (c : Coarse) (dub dlb : Int → Nat) (p : Nat) (hp : 1 ≤ p)
    (lhs rhs : FRepr) (hb : rhs.signif ≠ 0) (hfit : lhs.digits B ≤ rhs.digits B + p) :
    ∃ r, ctxDiv B m c dub dlb p lhs rhs = .ok r ∧ r.1.digits B ≤ p + 1 ∧
      (Int.tdiv lhs.signif rhs.signif ≠ 0 → |Int.tdiv lhs.signif rhs.signif| < ((B ^ p : Nat) : Int) →
        r.1.digits B ≤ p) := by
  rw [ctxDiv_noshrink B m c dub dlb p lhs rhs hfit]
  exact reprDiv_digits_le B hB m p hp lhs rhs hb hfit

/-! ### non-vacuity -/

-- 9.9 × 9.9 = 98.01 at 2 digits, HalfAway: 98 (NoOp); the operands fit p
example : opMul 10 .halfAway coarseNone 2 ⟨99, -1⟩ ⟨99, -1⟩ = (⟨98, 0⟩, some .NoOp) := by decide +kernel
-- 2^10 + 1 at 5 bits, base 2, HalfAway (the far-apart branch, repaired stand-in): 2^10, NoOp
example : ctxAddSub 2 .halfAway coarseNone (digitsI 2) 5 ⟨1, 10⟩ ⟨1, 0⟩ 1 = (⟨1, 10⟩, some .NoOp) := by decide +kernel
-- aligned addition meeting the hypothesis of `add_sub_contract_partial`: 12e1 + 7 at 3 digits = 127 exactly
example : ctxAddSub 10 .zero coarseNone (digitsI 10) 3 ⟨12, 1⟩ ⟨7, 0⟩ 1 = (⟨127, 0⟩, none) ∧
    (((⟨12, 1⟩ : FRepr).exp - (⟨7, 0⟩ : FRepr).exp).toNat + (⟨12, 1⟩ : FRepr).digits 10 ≤ 3) := by
  decide +kernel
-- sqrt(2.1) at 2 digits, HalfAway: 1.4 (NoOp) — 1.5 before fix 92fc29e
example : ctxSqrt 10 .halfAway coarseNone natSqrtRem 2 ⟨21, -1⟩ = .ok (⟨14, -1⟩, some .NoOp) := by decide +kernel

-- every hypothesis of `add_sub_contract` on concrete operands of the splitting branch with cancellation:
-- 1.01e3 − 1.99e1 at 3 digits (HalfEven) = 990 (SubOne)
example : Normalized 10 ⟨101, 1⟩ ∧ Normalized 10 ⟨199, -1⟩ ∧ (⟨101, 1⟩ : FRepr).digits 10 ≤ 3 ∧
    (⟨199, -1⟩ : FRepr).digits 10 ≤ 3 ∧ DubSound 10 (digitsI 10) ∧
    ctxAddSub 10 .halfEven coarseNone (digitsI 10) 3 ⟨101, 1⟩ ⟨199, -1⟩ (-1) = (⟨99, 1⟩, some .SubOne) := by
  refine ⟨by unfold Normalized; decide, by unfold Normalized; decide, by decide +kernel, by decide +kernel,
    fun _ => le_refl _, by decide +kernel⟩
-- `Representable`: 1.2 × 0.5 = 0.6 has one digit, so at 2 digits the product must be exact
example : Representable 10 2 ((⟨12, -1⟩ : FRepr).toRat 10 * (⟨5, -1⟩ : FRepr).toRat 10) ∧
    opMul 10 .up coarseNone 2 ⟨12, -1⟩ ⟨5, -1⟩ = (⟨6, -1⟩, none) :=
  ⟨⟨6, -1, by decide, by decide +kernel⟩, by decide +kernel⟩
-- hypotheses of `div_contract` / `sqrt_contract`: a non-zero divisor, a non-negative radicand
example : (⟨13, 0⟩ : FRepr).signif ≠ 0 ∧ (0 : Int) ≤ (⟨21, -1⟩ : FRepr).signif ∧ SqrtRemOk natSqrtRem :=
  ⟨by decide, by decide, natSqrtRem_ok⟩
-- the p+1-st digit does occur: 2 / 13 at 2 digits (mode Zero) is 153e-3; 26 / 13 is exact
example : reprDiv 10 .zero 2 ⟨2, 0⟩ ⟨13, 0⟩ = .ok (⟨153, -3⟩, some .NoOp) ∧
    reprDiv 10 .zero 2 ⟨26, 0⟩ ⟨13, 0⟩ = .ok (⟨2, 0⟩, none) := by decide +kernel
-- … and in a subtraction: 12e10 − 1 at 2 digits (mode Zero) keeps the guard digit: 119e9
example : ctxAddSub 10 .zero coarseNone (digitsI 10) 2 ⟨12, 10⟩ ⟨1, 0⟩ (-1) = (⟨119, 9⟩, some .SubOne) := by
  decide +kernel

/-- non-vacuity of `ctx_div_digits_all` OUTSIDE the fit region (the dividend IS pre-shrunk), and the `p+1`-st digit does
    occur there: `200456 / 13` at 2 digits, base 10, mode Zero: 6 digits > 2 + 2, dividend pre-rounded to `2004e2`,
    quotient `154e2` (3 = p+1 digits); the exact estimators are sound -/
example : DubSound 10 (digitsI 10) ∧ DlbSound 10 (digitsI 10) ∧
    (⟨200456, 0⟩ : FRepr).digits 10 > (⟨13, 0⟩ : FRepr).digits 10 + 2 ∧
    ctxDiv 10 .zero coarseNone (digitsI 10) (digitsI 10) 2 ⟨200456, 0⟩ ⟨13, 0⟩ = .ok (⟨154, 2⟩, some .NoOp) :=
  ⟨fun _ => le_refl _, fun _ => le_refl _, by decide +kernel, by decide +kernel⟩

/-- non-vacuity of the `Context` instances of closing clause 1: `1.2 × 0.5`, `0.5²`, `0.2³`, `2.6 / 1.3` at 2 digits -/
example : ctxMul false 10 .up coarseNone 2 ⟨12, -1⟩ ⟨5, -1⟩ = (⟨6, -1⟩, none) ∧
    ctxSqr false 10 .up coarseNone 2 ⟨5, -1⟩ = (⟨25, -2⟩, none) ∧
    ctxCubic false 10 .up coarseNone 2 ⟨2, -1⟩ = (⟨8, -3⟩, none) ∧
    ctxDiv 10 .up coarseNone (digitsI 10) (digitsI 10) 2 ⟨26, -1⟩ ⟨13, -1⟩ = .ok (⟨2, 0⟩, none) := by
  decide +kernel

/-! ### closing clause 1 INSIDE the regions of the findings — proved for `Context::div` (vacuous in `DivShrinkRegion`
    for normalised dividends, so the fit hypothesis goes), refuted for `Context::mul` and `Context::add/sub` -/

/-- a representable quotient forces the dividend to be representable in `rhs.digits + p` digits -/
theorem dividend_representable (B : Nat) (hB : 2 ≤ B) (p : Nat) (lhs rhs : FRepr) (hb : rhs.signif ≠ 0)
    (hrep : Representable B p (lhs.toRat B / rhs.toRat B)) : Representable B (rhs.digits B + p) (lhs.toRat B) := by
  have hB0 : 0 < B := by omega
  obtain ⟨M, j, hM, hx⟩ := hrep
  refine ⟨M * rhs.signif, j + rhs.exp, ?_, ?_⟩
  · rw [Int.natAbs_mul, Nat.add_comm, pow_add]
    exact Nat.mul_lt_mul'' hM (digits_lt_pow B hB rhs.signif.natAbs)
  · have hr0 : rhs.toRat B ≠ 0 := mul_ne_zero (Int.cast_ne_zero.mpr hb) (bpowQ_pos B hB0 _).ne'
    rw [← div_mul_cancel₀ (lhs.toRat B) hr0, hx, bpowQ_add B hB0, Int.cast_mul]
    exact mul_mul_mul_comm _ _ _ _

/-- a normalised `Repr` (what `Repr::new` builds: significand not divisible by `B`) whose VALUE is representable in `q ≥ 1`
    digits HAS at most `q` digits (`repr_round` to `q` digits would be flagged `Exact` by its contract, and the shrinking
    branch never returns that flag) -/
theorem normalized_representable_digits (B : Nat) (hB : 2 ≤ B) (q : Nat) (hq : 1 ≤ q) (x : FRepr) (hn : Normalized B x)
    (hrep : Representable B q (x.toRat B)) : x.digits B ≤ q := by
  have h2 : (reprRound B .zero coarseNone q x).2 = none :=
    ((reprRound_contract B hB .zero coarseNone coarseNone_sound q hq x hn).representable_exact hB hrep).2
  by_contra hd
  have hd' : x.digits B > q := by omega
  have hq0 : q ≠ 0 := by omega
  unfold reprRound at h2
  simp only [hq0, if_false, hd', if_true] at h2
  cases h2

/-- closing clause 1 is VACUOUS inside `DivShrinkRegion` for every value in memory: a normalised dividend longer than
    `rhs.digits + p` digits never has a quotient representable in `p` digits -/
theorem div_region_not_representable (B : Nat) (hB : 2 ≤ B) (p : Nat) (lhs rhs : FRepr) (hn : Normalized B lhs)
    (h : DivShrinkRegion B p lhs rhs) : ¬ Representable B p (lhs.toRat B / rhs.toRat B) := by
  intro hrep
  obtain ⟨hp, hb, hlong⟩ := h
  have := normalized_representable_digits B hB (rhs.digits B + p) (by omega) lhs hn
    (dividend_representable B hB p lhs rhs hb hrep)
  omega

/-- HYPOTHESIS `hfit` of `ctx_div_representable_exact` DROPPED: closing clause 1 for `Context::div` as it is, EVERY normalised
    dividend of any length, any (even unsound) digit estimators: a representable quotient is returned exactly, flagged `Exact`. -/
theorem ctx_div_representable_exact_all (B : Nat) (hB : 2 ≤ B) (m : Mode) (c : Coarse)
    (dub dlb : Int → Nat) (p : Nat) (hp : 1 ≤ p) (lhs rhs : FRepr) (hb : rhs.signif ≠ 0) (hn : Normalized B lhs)
    (hrep : Representable B p (lhs.toRat B / rhs.toRat B)) :
    ∃ r, ctxDiv B m c dub dlb p lhs rhs = .ok r ∧ r.1.toRat B = lhs.toRat B / rhs.toRat B ∧ r.2 = none :=
  ctx_div_representable_exact B hB m c dub dlb p hp lhs rhs hb
    (normalized_representable_digits B hB (rhs.digits B + p) (by omega) lhs hn
      (dividend_representable B hB p lhs rhs hb hrep)) hrep

/-- non-vacuity: 2197/13 @p=3 = 169; the estimators (sound, one digit slack each) DO trigger the pre-shrink (5 > 1+3) -/
example : Normalized 10 ⟨2197, 0⟩ ∧ Representable 10 3 ((⟨2197, 0⟩ : FRepr).toRat 10 / (⟨13, 0⟩ : FRepr).toRat 10) ∧
    ctxDiv 10 .zero coarseNone (fun v => digitsI 10 v + 1) (fun v => digitsI 10 v - 1) 3 ⟨2197, 0⟩ ⟨13, 0⟩
      = .ok (⟨169, 0⟩, none) ∧
    (fun v => digitsI 10 v + 1) (2197 : Int) > (fun v => digitsI 10 v - 1) (13 : Int) + 3 :=
  ⟨Or.inr (by decide), ⟨169, 0, by decide, by decide +kernel⟩, by decide +kernel, by decide +kernel⟩

/-- REFUTED inside `MulShrinkRegion` (directed modes): base 10, p = 2, Zero: `390625 × 64 = 25·10⁶` is representable in 2
    digits, but the code as it is pre-rounds `390625` (6 digits > 2p) to `3906e2`, forms `249984e2` and returns `24e6`
    flagged `Inexact`; without the pre-shrink the result is `25e6`, `Exact`. -/
theorem mul_representable_preshrink_counterexample :
    MulShrinkRegion 10 2 ⟨390625, 0⟩ ⟨64, 0⟩ ∧ Normalized 10 ⟨390625, 0⟩ ∧ Normalized 10 ⟨64, 0⟩ ∧
    Representable 10 2 ((⟨390625, 0⟩ : FRepr).toRat 10 * (⟨64, 0⟩ : FRepr).toRat 10) ∧
    ctxMul false 10 .zero coarseNone 2 ⟨390625, 0⟩ ⟨64, 0⟩ = (⟨24, 6⟩, some .NoOp) ∧
    (⟨24, 6⟩ : FRepr).toRat 10 ≠ (⟨390625, 0⟩ : FRepr).toRat 10 * (⟨64, 0⟩ : FRepr).toRat 10 ∧
    ctxMul true 10 .zero coarseNone 2 ⟨390625, 0⟩ ⟨64, 0⟩ = (⟨25, 6⟩, none) :=
  ⟨⟨by decide, Or.inl (by decide +kernel)⟩, Or.inr (by decide), Or.inr (by decide),
    ⟨25, 6, by decide, by decide +kernel⟩, by decide +kernel, by decide +kernel, by decide +kernel⟩

/-- REFUTED inside `AddLongRegion` (formal restatement of `add_guard_digit_counterexample` with `Representable`): base 36,
    p = 1, Down: `21·36⁴⁰ − 979775·36³⁷ = 1·36³⁷` is representable in 1 digit; the code returns `0`, `Inexact(SubOne)`. -/
theorem add_representable_guard_counterexample :
    AddLongRegion 36 1 ⟨21, 40⟩ ⟨-979775, 37⟩ ∧ Normalized 36 ⟨21, 40⟩ ∧ Normalized 36 ⟨-979775, 37⟩ ∧
    Representable 36 1 ((⟨21, 40⟩ : FRepr).toRat 36 + ((1 : Int) : ℚ) * (⟨-979775, 37⟩ : FRepr).toRat 36) ∧
    ctxAddSub 36 .down coarseNone (digitsI 36) 1 ⟨21, 40⟩ ⟨-979775, 37⟩ 1 = (⟨0, 0⟩, some .SubOne) ∧
    (⟨0, 0⟩ : FRepr).toRat 36 ≠ (⟨21, 40⟩ : FRepr).toRat 36 + ((1 : Int) : ℚ) * (⟨-979775, 37⟩ : FRepr).toRat 36 :=
  ⟨⟨by decide, Or.inr (by decide +kernel)⟩, Or.inr (by decide), Or.inr (by decide),
    ⟨1, 37, by decide, by decide +kernel⟩, by decide +kernel, by decide +kernel⟩

/-! the clause inside `SqrShrinkRegion` / `CubicShrinkRegion` — vacuous for normalised operands, so the
    length hypotheses of `ctx_sqr_representable_exact` / `ctx_cubic_representable_exact` go -/

/-- `B ∤ s`, `s^n = M·B^k` with `|M| < B^p` ⇒ `|s|^n < B^(p+n-1)` (`B^n ∤ s^n`, so `k ≤ n-1`) -/
theorem pow_repr_bound (B : Nat) (hB : 2 ≤ B) (n : Nat) (hn1 : 1 ≤ n) (s M k : Int) (hs : s % (B : Int) ≠ 0) (p : Nat)
    (hM : M.natAbs < B ^ p) (h : ((s ^ n : Int) : ℚ) = (M : ℚ) * bpowQ B k) : s.natAbs ^ n < B ^ (p + n - 1) := by
  have hB0 : 0 < B := by omega
  have hBt (t : Nat) : 0 < B ^ t := Nat.pow_pos hB0
  obtain ⟨t, rfl | rfl⟩ := Int.eq_nat_or_neg k
  · rw [bpowQ_nat] at h
    have h' : s ^ n = M * ((B ^ t : Nat) : Int) := by exact_mod_cast h
    have ht : t < n := by
      by_contra hge
      have hd : (B : Int) ^ n ∣ s ^ n := by
        rw [h', Nat.cast_pow]
        exact dvd_mul_of_dvd_right (pow_dvd_pow (B : Int) (Nat.le_of_not_lt hge)) M
      exact hs (Int.emod_eq_zero_of_dvd ((Int.pow_dvd_pow_iff (Nat.ne_of_gt hn1)).mp hd))
    calc s.natAbs ^ n = M.natAbs * B ^ t := by rw [← Int.natAbs_pow, h', Int.natAbs_mul, Int.natAbs_natCast]
      _ < B ^ p * B ^ t := Nat.mul_lt_mul_of_pos_right hM (hBt t)
      _ = B ^ (p + t) := (pow_add _ _ _).symm
      _ ≤ B ^ (p + n - 1) := Nat.pow_le_pow_right hB0 (Nat.le_sub_one_of_lt (Nat.add_lt_add_left ht p))
  · have hBq : ((B ^ t : Nat) : ℚ) ≠ 0 := by exact_mod_cast (hBt t).ne'
    rw [bpowQ_eq_zpow, zpow_neg, zpow_natCast, ← Nat.cast_pow, eq_mul_inv_iff_mul_eq₀ hBq] at h
    have h' : s ^ n * ((B ^ t : Nat) : Int) = M := by exact_mod_cast h
    calc s.natAbs ^ n ≤ s.natAbs ^ n * B ^ t := Nat.le_mul_of_pos_right _ (hBt t)
      _ = M.natAbs := by rw [← h', Int.natAbs_mul, Int.natAbs_pow, Int.natAbs_natCast]
      _ < B ^ p := hM
      _ ≤ B ^ (p + n - 1) := Nat.pow_le_pow_right hB0 (Nat.le_sub_one_of_lt (Nat.lt_add_of_pos_right hn1))

/-- a normalised operand of more than `n·p` digits never has an `n`-th power representable in `p` digits:
    `B^(p+n-1) ≤ B^(n·p) ≤ |s| ≤ |s|^n`, against `pow_repr_bound` -/
theorem pow_region_not_representable (B : Nat) (hB : 2 ≤ B) (n : Nat) (hn1 : 1 ≤ n) (p : Nat) (hp : p ≠ 0) (a : FRepr)
    (hn : Normalized B a) (hlong : a.digits B > n * p) : ¬ Representable B p (a.toRat B ^ n) := by
  rintro ⟨M, j, hM, hx⟩
  have hB0 : 0 < B := by omega
  unfold FRepr.digits at hlong
  have hs0 : a.signif ≠ 0 := by
    intro h0; rw [h0, digitsI_zero] at hlong; exact Nat.not_lt_zero _ hlong
  have hq : ((a.signif ^ n : Int) : ℚ) = (M : ℚ) * bpowQ B (j - n * a.exp) := by
    have hBq : (B : ℚ) ≠ 0 := by exact_mod_cast hB0.ne'
    have e1 : bpowQ B j = bpowQ B (j - n * a.exp) * bpowQ B a.exp ^ n := by
      simp only [bpowQ_eq_zpow]
      rw [← zpow_natCast, ← zpow_mul, ← zpow_add₀ hBq]
      congr 1; ring
    rw [FRepr.toRat, mul_pow, e1, ← mul_assoc] at hx
    push_cast
    exact mul_right_cancel₀ (pow_ne_zero n (bpowQ_pos B hB0 a.exp).ne') hx
  have hnp : p + n - 1 ≤ n * p := by
    obtain ⟨n', rfl⟩ := Nat.exists_eq_add_of_le' hn1
    show p + n' ≤ (n' + 1) * p
    rw [Nat.succ_mul, Nat.add_comm p n']
    exact Nat.add_le_add_right (Nat.le_mul_of_pos_right n' (Nat.pos_of_ne_zero hp)) p
  have := calc B ^ (p + n - 1) ≤ B ^ (digitsI B a.signif - 1) :=
        Nat.pow_le_pow_right hB0 (Nat.le_sub_one_of_lt (Nat.lt_of_le_of_lt hnp hlong))
    _ ≤ a.signif.natAbs := (digitsI_lower B hB a.signif hs0).1
    _ ≤ a.signif.natAbs ^ n := Nat.le_self_pow (Nat.ne_of_gt hn1) _
    _ < B ^ (p + n - 1) := pow_repr_bound B hB n hn1 a.signif M _ (hn.resolve_left hs0) p hM hq
  exact lt_irrefl _ this

/-- closing clause 1 is VACUOUS inside `SqrShrinkRegion` for every value in memory: a normalised operand of more than `2p`
    digits never has a square representable in `p` digits -/
theorem sqr_region_not_representable (B : Nat) (hB : 2 ≤ B) (p : Nat) (a : FRepr) (hn : Normalized B a)
    (h : SqrShrinkRegion B p a) : ¬ Representable B p (a.toRat B * a.toRat B) := by
  rw [← sq]
  exact pow_region_not_representable B hB 2 (by omega) p h.1 a hn h.2

/-- … and inside `CubicShrinkRegion` (more than `3p` digits, cube) -/
theorem cubic_region_not_representable (B : Nat) (hB : 2 ≤ B) (p : Nat) (a : FRepr) (hn : Normalized B a)
    (h : CubicShrinkRegion B p a) : ¬ Representable B p (a.toRat B * a.toRat B * a.toRat B) := by
  rw [← sq, ← pow_succ]
  exact pow_region_not_representable B hB 3 (by omega) p h.1 a hn h.2

/-- HYPOTHESIS `ha` of `ctx_sqr_representable_exact` DROPPED: closing clause 1 for `Context::sqr` as it is and EVERY normalised
    operand of any length -/
theorem ctx_sqr_representable_exact_all (B : Nat) (hB : 2 ≤ B) (m : Mode) (c : Coarse) (hc : CoarseSound c)
    (p : Nat) (hp : 1 ≤ p) (a : FRepr) (hn : Normalized B a) (hrep : Representable B p (a.toRat B * a.toRat B)) :
    (ctxSqr false B m c p a).1.toRat B = a.toRat B * a.toRat B ∧ (ctxSqr false B m c p a).2 = none := by
  by_cases ha : a.digits B ≤ 2 * p
  · exact ctx_sqr_representable_exact B hB m c hc p hp a ha hrep
  · exact absurd hrep (sqr_region_not_representable B hB p a hn ⟨by omega, by omega⟩)

/-- … `ha` of `ctx_cubic_representable_exact` dropped: `Context::cubic` as it is, every normalised operand -/
theorem ctx_cubic_representable_exact_all (B : Nat) (hB : 2 ≤ B) (m : Mode) (c : Coarse) (hc : CoarseSound c)
    (p : Nat) (hp : 1 ≤ p) (a : FRepr) (hn : Normalized B a)
    (hrep : Representable B p (a.toRat B * a.toRat B * a.toRat B)) :
    (ctxCubic false B m c p a).1.toRat B = a.toRat B * a.toRat B * a.toRat B ∧ (ctxCubic false B m c p a).2 = none := by
  by_cases ha : a.digits B ≤ 3 * p
  · exact ctx_cubic_representable_exact B hB m c hc p hp a ha hrep
  · exact absurd hrep (cubic_region_not_representable B hB p a hn ⟨by omega, by omega⟩)

/-- non-vacuity: base 4 (where `B ∣ s²` although `B ∤ s`): `6² = 36 = 9·4¹` is representable in 2 base-4 digits, `6` normalised;
    `0.2³` base 10 @2 -/
example : Normalized 4 ⟨6, 0⟩ ∧ Representable 4 2 ((⟨6, 0⟩ : FRepr).toRat 4 * (⟨6, 0⟩ : FRepr).toRat 4) ∧
    ctxSqr false 4 .zero coarseNone 2 ⟨6, 0⟩ = (⟨9, 1⟩, none) ∧
    Normalized 10 ⟨2, -1⟩ ∧
    Representable 10 2 ((⟨2, -1⟩ : FRepr).toRat 10 * (⟨2, -1⟩ : FRepr).toRat 10 * (⟨2, -1⟩ : FRepr).toRat 10) :=
  ⟨Or.inr (by decide), ⟨9, 1, by decide, by decide +kernel⟩, by decide +kernel, Or.inr (by decide),
    ⟨8, -3, by decide, by decide +kernel⟩⟩

end Dashu.Props.C03
