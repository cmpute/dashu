import Dashu.Props.C05
import Dashu.Props.GenFloatNorm
/-
  C05: the clause "normalised float representation" stated about the code of `Repr::<B>::normalize`
  AS REGENERATED from float/src/repr.rs on this run (Tie A), by composing `GenFloatNorm.normalize_is_model`
  with `float_normalize`.  The `UBig::remove` arm is C12's mirrored `removeRepr` (linked through `removeRepr_spec`).
-/
namespace Dashu.Props.C05
open Dashu.Model

/-- **the regenerated `Repr::normalize`** (three arms: `B == 2`, power-of-two base, `UBig::remove`) returns the
    canonical representation of the same value — significand not divisible by the base, zero as `0·B^0`, never an
    infinity — for every base `B ≥ 2` and every input -/
theorem float_normalize_regenerated (B : Nat) (hB : 2 ≤ B) (s e : Int) :
    FCanon B ⟨(Dashu.Gen.Repr_normalize ⟨(B : Int)⟩ ⟨s, e⟩).significand, (Dashu.Gen.Repr_normalize ⟨(B : Int)⟩ ⟨s, e⟩).exponent⟩ ∧
    (s ≠ 0 → e ≤ (Dashu.Gen.Repr_normalize ⟨(B : Int)⟩ ⟨s, e⟩).exponent ∧
      s = (Dashu.Gen.Repr_normalize ⟨(B : Int)⟩ ⟨s, e⟩).significand *
        (B : Int) ^ ((Dashu.Gen.Repr_normalize ⟨(B : Int)⟩ ⟨s, e⟩).exponent - e).toNat) ∧
    (s = 0 → Dashu.Gen.Repr_normalize ⟨(B : Int)⟩ ⟨s, e⟩ = ⟨0, 0⟩) := by
  have h := Dashu.Props.GenFloatNorm.normalize_is_model B hB ⟨s, e⟩
  have hm : Dashu.Gen.Repr_normalize ⟨(B : Int)⟩ ⟨s, e⟩ = Dashu.Props.GenFloatNorm.toG ((FRepr.mk s e).normalize B) := h
  rw [hm]
  obtain ⟨h1, _, h3, h4⟩ := float_normalize B hB ⟨s, e⟩
  refine ⟨h1, h3, ?_⟩
  intro hs
  have := h4 hs
  simp only [Dashu.Props.GenFloatNorm.toG, this]

/-- the two hand models of the normalising constructor (C03's `Float.FRepr.new`, C05's `FRepr.normalize`) agree, so the
    float producer / history theorems (stated over the C03 model) and the comparison theorems (stated over the C05
    model) speak about one function — the regenerated one -/
theorem float_new_is_normalize (B : Nat) (hB : 2 ≤ B) (s e : Int) :
    (⟨(Float.FRepr.new B s e).signif, (Float.FRepr.new B s e).exp⟩ : FRepr) = (FRepr.mk s e).normalize B ∧
    Dashu.Gen.Repr_normalize ⟨(B : Int)⟩ ⟨s, e⟩ = ⟨(Float.FRepr.new B s e).signif, (Float.FRepr.new B s e).exp⟩ :=
  ⟨Dashu.Props.GenFloatNorm.repr_new_eq_normalize B hB s e, Dashu.Props.GenFloatNorm.normalize_is_repr_new B hB s e⟩

example : Dashu.Gen.Repr_normalize ⟨10⟩ ⟨-1230000, -4⟩ = ⟨-123, 0⟩ ∧ (FRepr.mk (-1230000) (-4)).normalize 10 = ⟨-123, 0⟩ := by
  decide +kernel

end Dashu.Props.C05
