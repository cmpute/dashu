import Dashu.Props.C18Kernels
import Dashu.Props.C14Link
/-
  C18 ↔ C05 / C14: the one operation of the `loop { … }` of `Repr::simplest_in` that `Props/C18Kernels` leaves as
  Lean `Int` arithmetic — the exit test `num_l < den_l` (`PartialOrd for IBig` = `Some(Ord::cmp)`, integer/src/cmp.rs:
  sign match, magnitudes by `TypedReprRef::cmp` with the `RefSmall < RefLarge` shortcut, `cmp_same_len` / `cmp_in_place`)
  — executed through the MIRRORED word-level comparison (`Model/Cross/IntOrd.ibigOrdW`, proved by C05 and linked in
  `Props/C14Link.ibig_ord_mirrored`).  With it EVERY operation of the descent loop (div_rem, *, +, -, <) runs on the
  proved word-level kernels of dashu-int.
-/
namespace Dashu.Props.C18KernelsCmp
open Dashu Dashu.Model Dashu.Model.Ratio Dashu.Model.Cross Dashu.Props.C18Kernels

/-- `IBig < IBig` (`PartialOrd::lt` = `partial_cmp == Some(Less)`, `partial_cmp = Some(cmp)`) through the mirrored
    `Ord for IBig` on canonical representations -/
def ltW (W : Nat) (x y : Int) : Bool := ibigOrdW W x y == .lt

/-- the mirrored `IBig <` is `<` on the values, every word size -/
theorem ltW_eq (W : Nat) (hW : 1 ≤ W) (x y : Int) : ltW W x y = decide (x < y) := by
  unfold ltW
  rw [Dashu.Props.C14Link.ibig_ord_mirrored W hW]
  by_cases h : x < y
  · have : compare x y = .lt := by
      simp [compare, compareOfLessAndEq, h]
    simp [this, h]
  · have : compare x y ≠ .lt := by
      simp only [compare, compareOfLessAndEq, h, if_false]
      split <;> simp
    simp [h]
    cases hc : compare x y <;> simp_all

/-- the `loop { … }` of `Repr::simplest_in`, EVERY operation (div_rem, *, +, -, and the exit test `num_l < den_l`)
    through the word-level kernels at word size `W` -/
def simplestLoopWC (W form : Nat) : Nat → SState → Except PanicKind (Option (Int × Int))
  | 0, _ => .ok none
  | fuel + 1, s => do
    let (q, r1) ← divRemW W s.numL s.denL
    let n0' := addW W form s.n1 (mulW W q s.n0)
    let n1' := s.n0
    let d0' := addW W form s.d1 (mulW W q s.d0)
    let d1' := s.d0
    let r2 := subW W form s.numR (mulW W q s.denR)
    let numL' := s.denR
    let denR' := r1
    let numR' := s.denL
    let denL' := r2
    if ltW W numL' denL' = true then pure (some (addW W form n0' n1', addW W form d0' d1'))
    else simplestLoopWC W form fuel ⟨numL', denL', numR', denR', n0', d0', n1', d1'⟩

/-- **the descent with its exit test over the proved kernels is the model's descent**: every word size ≥ 4, state,
    fuel, ownership form; panics included -/
theorem descent_with_cmp_over_proved_kernels (W : Nat) (hW : 4 ≤ W) (form fuel : Nat) (s : SState) :
    simplestLoopWC W form fuel s = simplestLoop fuel s := by
  induction fuel generalizing s with
  | zero => rfl
  | succ n ih =>
    simp only [simplestLoopWC, simplestLoop, mulW_eq W hW, addW_eq W hW, subW_eq W hW, divRemW_eq W hW,
      ltW_eq W (by omega), decide_eq_true_eq, ih]

/-- non-vacuity: 1/3 .. 1/2 at 64-bit words returns 2/5; the mirrored comparison decides a multi-word pair -/
example : simplestLoopWC 64 0 6 ⟨1, 3, 1, 2, 1, 0, 0, 1⟩ = .ok (some (2, 5)) := by
  rw [descent_with_cmp_over_proved_kernels 64 (by decide)]; decide
example : ltW 64 (-(2 ^ 130) - 7) (-(2 ^ 130) - 5) = true ∧ ltW 64 (2 ^ 64) (2 ^ 64) = false := by
  rw [ltW_eq 64 (by decide), ltW_eq 64 (by decide)]; decide

/-- hence the descent as the code starts it, with every operation on the proved kernels, terminates with the fraction
    of minimal numerator AND denominator strictly between the end points -/
theorem kernel_descent_with_cmp_optimal (W : Nat) (hW : 4 ≤ W) (form fuel : Nat) (a b c d : Int) (h : SInv a b c d)
    (hf : (b + d).toNat < fuel) :
    ∃ A B, simplestLoopWC W form fuel ⟨a, b, c, d, 1, 0, 0, 1⟩ = .ok (some (A, B)) ∧ 0 < A ∧ 0 < B ∧
      a * B < A * b ∧ A * d < c * B ∧
      ∀ p s : Int, 0 < s → a * s < p * b → p * d < c * s → A ≤ p ∧ B ≤ s := by
  have e : simplestLoopWC W form fuel ⟨a, b, c, d, 1, 0, 0, 1⟩ = simplestLoopW W form fuel ⟨a, b, c, d, 1, 0, 0, 1⟩ := by
    rw [descent_with_cmp_over_proved_kernels W hW, descent_over_proved_kernels W hW]
  rw [e]
  exact kernel_descent_optimal W hW form fuel a b c d h hf

/-- non-vacuity of the hypotheses -/
example : SInv 1234 5678 1235 5679 ∧ ((5678 : Int) + 5679).toNat < 11358 := by
  refine ⟨?_, by decide⟩; unfold SInv; decide

end Dashu.Props.C18KernelsCmp
