import Dashu.Gen.FloatMul
import Dashu.Gen.FloatDiv
import Dashu.Props.GenFloatForms
import Dashu.Proofs.Float.Sqrt
/-
  Tie A theorems for C03 (and C15): `float/src/mul.rs` and `float/src/div.rs` AS REGENERATED on this run
  (`Gen/FloatMul.lean`, `Gen/FloatDiv.lean`), with the digit / rounding kernels of the hand-written float model plugged in
  (`modelK2`), ARE the hand-written model functions the C03 driver executes and `Props/C03.lean` proves the rounding contract
  for: `Context::mul / sqr / cubic` = `ctxMul / ctxSqr / ctxCubic false`, `Context::repr_div` = `reprDiv`,
  `Context::div` = `ctxDiv`, `Context::inv` = `ctxInv`; the operator impls `FBig * FBig` (4 ownership forms) = `opMul` at
  `Context::max`, `FBig / FBig` (4 forms, `impl_div_or_rem_for_fbig!`) = `reprDiv` at `Context::max`, `FBig::sqr/cubic`,
  `Inverse for FBig / &FBig` = the Context methods at the operand's own precision.  For all inputs; `assert_finite*` fires
  exactly for an infinite operand.  A semantic edit of any of these Rust bodies breaks the build of this module.
  The only hypothesis (`mul/sqr/cubic`): operands have at most `usize::MAX` digits (the "no limit" operand length of an
  unlimited context), true of every value that fits in memory.
-/
set_option linter.unusedSimpArgs false
namespace Dashu.Props.GenFloatArith
open Dashu Dashu.Gen Dashu.GluePrelude Dashu.Proofs.Gen Dashu.Model.Float Dashu.Props.GenFloatOps Dashu.Props.GenFloatAdd
  Dashu.Props.GenFloatForms

/-- the kernel record of the hand model for `mul.rs` / `div.rs`: `modelK` plus the `digits_lb` oracle and the model's
    `roundRatio` -/
def modelK2 (B : Nat) (m : Mode) (c : Coarse) (dub dlb : Int → Nat) : FloatK2 Unit where
  toFloatK := modelK B m c dub
  digits_lb := fun r => (dlb r.significand : Int)
  round_ratio := fun q r d => roundRatio m q r d

theorem modelK2_toFloatK (B : Nat) (m : Mode) (c : Coarse) (dub dlb : Int → Nat) :
    (modelK2 B m c dub dlb).toFloatK = modelK B m c dub := rfl
theorem modelK2_digits (B : Nat) (m : Mode) (c : Coarse) (dub dlb : Int → Nat) (r : GluePrelude.FRepr) :
    (modelK2 B m c dub dlb).digits r = (digitsI B r.significand : Int) := rfl
theorem modelK2_repr_new (B : Nat) (m : Mode) (c : Coarse) (dub dlb : Int → Nat) (s e : Int) :
    (modelK2 B m c dub dlb).repr_new s e = ⟨(Model.Float.FRepr.new B s e).signif, (Model.Float.FRepr.new B s e).exp⟩ := rfl

theorem modelK_digits (B : Nat) (m : Mode) (c : Coarse) (dub : Int → Nat) (s e : Int) :
    (modelK B m c dub).digits ⟨s, e⟩ = (digitsI B s : Int) := rfl

theorem two_mul_cast (p : Nat) : (2 : Int) * (p : Int) = ((2 * p : Nat) : Int) := (Int.natCast_mul 2 p).symm
theorem three_mul_cast (p : Nat) : (3 : Int) * (p : Int) = ((3 * p : Nat) : Int) := (Int.natCast_mul 3 p).symm

theorem assert_finite_operands_mk (ls le rs re : Int) :
    assert_finite_operands ⟨ls, le⟩ ⟨rs, re⟩ =
      if (ls = 0 ∧ le ≠ 0) ∨ (rs = 0 ∧ re ≠ 0) then .error .OperateWithInf else .ok () := by
  simp only [assert_finite_operands, Repr_is_infinite, is_zero_int, ne_int, Bool.or_eq_true, Bool.and_eq_true, decide_eq_true_eq,
    Bool.not_eq_true', decide_eq_false_iff_not, ne_eq]

/-- `max_precision` of `mul` / `sqr` / `cubic`: `precision.saturating_mul(k)`, or `usize::MAX` for an unlimited context -/
theorem max_precision_cast (p : Nat) (k : Int) (kn : Nat) (hk : k = kn) :
    (if Context_is_limited ⟨(p : Int)⟩ then (p : Int) * k else usize_MAX) =
      ((if p = 0 then usize_MAX.toNat else kn * p : Nat) : Int) := by
  subst hk
  simp only [Context_is_limited, ne_int, Bool.not_eq_true', decide_eq_false_iff_not, Int.natCast_eq_zero, ite_not]
  by_cases hp : p = 0
  · simp only [if_pos hp]; rfl
  · simp only [if_neg hp, Int.natCast_mul, Int.mul_comm]

/-- the operand after the pre-shrink test of `mul` / `sqr` / `cubic` is the model's `preShrink`; an unlimited context
    never shrinks an operand of at most `usize::MAX` digits -/
theorem shrink_is_model (B : Nat) (m : Mode) (c : Coarse) (p kn : Nat) (s e : Int) (hl : (digitsI B s : Int) ≤ usize_MAX) :
    (if (if p = 0 then usize_MAX.toNat else kn * p) < digitsI B s then
        toG (reprRound B m c (if p = 0 then usize_MAX.toNat else kn * p) ⟨s, e⟩).1 else ⟨s, e⟩) =
      toG (preShrink B m c p kn ⟨s, e⟩) := by
  unfold preShrink Model.Float.FRepr.digits
  by_cases hp : p = 0
  · have : ¬ usize_MAX.toNat < digitsI B s := by omega
    rw [if_pos hp, if_neg this, if_neg fun h => h.1 hp]
    rfl
  by_cases hA : kn * p < digitsI B s
  · rw [if_neg hp, if_pos hA, if_pos ⟨hp, hA⟩]
  · rw [if_neg hp, if_neg hA, if_neg fun h => hA h.2]
    rfl

theorem ite_inl {α β} (c : Prop) [Decidable c] (a b : α) :
    (if c then (Sum.inl a : Sum α β) else Sum.inl b) = Sum.inl (if c then a else b) := (apply_ite Sum.inl c a b).symm

theorem context_mul_is_model (B : Nat) (m : Mode) (c : Coarse) (dub dlb : Int → Nat) (p : Nat) (ls le rs re : Int)
    (hl : (digitsI B ls : Int) ≤ usize_MAX) (hr : (digitsI B rs : Int) ≤ usize_MAX) :
    Context_mul (modelK2 B m c dub dlb) ⟨(p : Int)⟩ ⟨ls, le⟩ ⟨rs, re⟩ =
      if (ls = 0 ∧ le ≠ 0) ∨ (rs = 0 ∧ re ≠ 0) then .error .OperateWithInf
      else .ok (Approx.map (fun v => (⟨v, ⟨(p : Int)⟩⟩ : GluePrelude.FBig))
        (toGA toG (ctxMul false B m c p ⟨ls, le⟩ ⟨rs, re⟩))) := by
  unfold Context_mul ctxMul
  simp only [assert_finite_operands_mk]
  by_cases hinf : (ls = 0 ∧ le ≠ 0) ∨ (rs = 0 ∧ re ≠ 0)
  · simp only [if_pos hinf]
  have ⟨h1, h2⟩ := not_or.mp hinf
  simp only [if_neg hinf, max_precision_cast p 2 2 rfl, modelK2_toFloatK, modelK_digits, Context_new, repr_round_ref_is_model,
    if_neg h1, if_neg h2, value_toGA, lt_int, Int.ofNat_lt, decide_eq_true_eq, ite_inl, shrink_is_model B m c p 2 _ _ hl,
    shrink_is_model B m c p 2 _ _ hr, mul_int, add_int]
  simp only [toG, modelK_repr_new, repr_round_is_model, new_not_inf, if_false, Bool.false_eq_true, FBig_new]

/-- **`Context::sqr` as regenerated = `Model.Float.ctxSqr false`** -/
theorem context_sqr_is_model (B : Nat) (m : Mode) (c : Coarse) (dub dlb : Int → Nat) (p : Nat) (ls le : Int)
    (hl : (digitsI B ls : Int) ≤ usize_MAX) :
    Context_sqr (modelK2 B m c dub dlb) ⟨(p : Int)⟩ ⟨ls, le⟩ =
      if ls = 0 ∧ le ≠ 0 then .error .OperateWithInf
      else .ok (Approx.map (fun v => (⟨v, ⟨(p : Int)⟩⟩ : GluePrelude.FBig)) (toGA toG (ctxSqr false B m c p ⟨ls, le⟩))) := by
  unfold Context_sqr ctxSqr
  simp only [assert_finite_mk]
  by_cases hinf : ls = 0 ∧ le ≠ 0
  · simp only [if_pos hinf]
  simp only [if_neg hinf, mul_int, max_precision_cast p 2 2 rfl, modelK2_toFloatK, modelK_digits, Context_new,
    repr_round_ref_is_model, value_toGA, lt_int, Int.ofNat_lt, decide_eq_true_eq, ite_inl, shrink_is_model B m c p 2 _ _ hl]
  simp only [toG, modelK_repr_new, repr_round_is_model, new_not_inf, if_false, Bool.false_eq_true, FBig_new]

/-- **`Context::cubic` as regenerated = `Model.Float.ctxCubic false`** -/
theorem context_cubic_is_model (B : Nat) (m : Mode) (c : Coarse) (dub dlb : Int → Nat) (p : Nat) (ls le : Int)
    (hl : (digitsI B ls : Int) ≤ usize_MAX) :
    Context_cubic (modelK2 B m c dub dlb) ⟨(p : Int)⟩ ⟨ls, le⟩ =
      if ls = 0 ∧ le ≠ 0 then .error .OperateWithInf
      else .ok (Approx.map (fun v => (⟨v, ⟨(p : Int)⟩⟩ : GluePrelude.FBig)) (toGA toG (ctxCubic false B m c p ⟨ls, le⟩))) := by
  unfold Context_cubic ctxCubic
  simp only [assert_finite_mk]
  by_cases hinf : ls = 0 ∧ le ≠ 0
  · simp only [if_pos hinf]
  simp only [if_neg hinf, mul_int, max_precision_cast p 3 3 rfl, modelK2_toFloatK, modelK_digits, Context_new,
    repr_round_ref_is_model, value_toGA, lt_int, Int.ofNat_lt, decide_eq_true_eq, ite_inl, shrink_is_model B m c p 3 _ _ hl]
  simp only [toG, modelK_repr_new, repr_round_is_model, new_not_inf, if_false, Bool.false_eq_true, FBig_new]

/-- what the four operator forms of `FBig * FBig` return: the model's `opMul` at `Context::max` -/
def mulFormSpec (B : Nat) (m : Mode) (c : Coarse) (ls le : Int) (pl : Nat) (rs re : Int) (pr : Nat) :
    Except Panic GluePrelude.FBig :=
  if (ls = 0 ∧ le ≠ 0) ∨ (rs = 0 ∧ re ≠ 0) then .error .OperateWithInf
  else .ok ⟨toG (opMul B m c (Nat.max pl pr) ⟨ls, le⟩ ⟨rs, re⟩).1, ⟨((Nat.max pl pr : Nat) : Int)⟩⟩

theorem mul_ref_ref_is_model (B : Nat) (m : Mode) (c : Coarse) (dub dlb : Int → Nat) (ls le : Int) (pl : Nat) (rs re : Int)
    (pr : Nat) :
    FBig_mul_ref_ref (modelK2 B m c dub dlb) ⟨⟨ls, le⟩, ⟨(pl : Int)⟩⟩ ⟨⟨rs, re⟩, ⟨(pr : Int)⟩⟩ =
      mulFormSpec B m c ls le pl rs re pr := by
  unfold FBig_mul_ref_ref mulFormSpec opMul
  simp only [assert_finite_operands_mk]
  by_cases hinf : (ls = 0 ∧ le ≠ 0) ∨ (rs = 0 ∧ re ≠ 0)
  · simp only [if_pos hinf]
  -- the text multiplies `rhs` by `self`, the model `lhs` by `rhs`
  simp only [if_neg hinf, context_max_eq, mul_int, add_int, modelK2_toFloatK, modelK_repr_new, repr_round_is_model, new_not_inf,
    if_false, FBig_new, value_toGA, toG, Int.mul_comm rs ls, Int.add_comm re le]

/-- the other three forms are the same text as `&FBig * &FBig` -/
theorem mul_val_ref_is_model (B : Nat) (m : Mode) (c : Coarse) (dub dlb : Int → Nat) (ls le : Int) (pl : Nat) (rs re : Int)
    (pr : Nat) :
    FBig_mul_val_ref (modelK2 B m c dub dlb) ⟨⟨ls, le⟩, ⟨(pl : Int)⟩⟩ ⟨⟨rs, re⟩, ⟨(pr : Int)⟩⟩ =
      mulFormSpec B m c ls le pl rs re pr :=
  mul_ref_ref_is_model B m c dub dlb ls le pl rs re pr

theorem mul_ref_val_is_model (B : Nat) (m : Mode) (c : Coarse) (dub dlb : Int → Nat) (ls le : Int) (pl : Nat) (rs re : Int)
    (pr : Nat) :
    FBig_mul_ref_val (modelK2 B m c dub dlb) ⟨⟨ls, le⟩, ⟨(pl : Int)⟩⟩ ⟨⟨rs, re⟩, ⟨(pr : Int)⟩⟩ =
      mulFormSpec B m c ls le pl rs re pr :=
  mul_ref_ref_is_model B m c dub dlb ls le pl rs re pr

theorem mul_val_val_is_model (B : Nat) (m : Mode) (c : Coarse) (dub dlb : Int → Nat) (ls le : Int) (pl : Nat) (rs re : Int)
    (pr : Nat) :
    FBig_mul_val_val (modelK2 B m c dub dlb) ⟨⟨ls, le⟩, ⟨(pl : Int)⟩⟩ ⟨⟨rs, re⟩, ⟨(pr : Int)⟩⟩ =
      mulFormSpec B m c ls le pl rs re pr :=
  mul_ref_ref_is_model B m c dub dlb ls le pl rs re pr

/-- C15 for `FBig * FBig`: the four ownership forms as regenerated return the same result on all operands -/
theorem mul_forms_agree (B : Nat) (m : Mode) (c : Coarse) (dub dlb : Int → Nat) (x y : GluePrelude.FBig)
    (hx : 0 ≤ x.context.precision) (hy : 0 ≤ y.context.precision) :
    FBig_mul_val_val (modelK2 B m c dub dlb) x y = FBig_mul_ref_ref (modelK2 B m c dub dlb) x y ∧
    FBig_mul_val_ref (modelK2 B m c dub dlb) x y = FBig_mul_ref_ref (modelK2 B m c dub dlb) x y ∧
    FBig_mul_ref_val (modelK2 B m c dub dlb) x y = FBig_mul_ref_ref (modelK2 B m c dub dlb) x y := by
  obtain ⟨⟨ls, le⟩, ⟨pl⟩⟩ := x
  obtain ⟨⟨rs, re⟩, ⟨pr⟩⟩ := y
  obtain ⟨pl, rfl⟩ := Int.eq_ofNat_of_zero_le hx
  obtain ⟨pr, rfl⟩ := Int.eq_ofNat_of_zero_le hy
  rw [mul_val_val_is_model, mul_val_ref_is_model, mul_ref_val_is_model, mul_ref_ref_is_model]
  exact ⟨rfl, rfl, rfl⟩

theorem modelK2_shl (B : Nat) (m : Mode) (c : Coarse) (dub dlb : Int → Nat) (x n : Int) :
    (modelK2 B m c dub dlb).shl_digits x n = shlDigits B x n.toNat := rfl
theorem modelK2_digit_len (B : Nat) (m : Mode) (c : Coarse) (dub dlb : Int → Nat) (v : Int) :
    (modelK2 B m c dub dlb).digit_len v = (digitsI B v : Int) := rfl
theorem modelK2_round_ratio (B : Nat) (m : Mode) (c : Coarse) (dub dlb : Int → Nat) (q r d : Int) :
    (modelK2 B m c dub dlb).round_ratio q r d = roundRatio m q r d := rfl
theorem modelK2_digits_lb (B : Nat) (m : Mode) (c : Coarse) (dub dlb : Int → Nat) (r : GluePrelude.FRepr) :
    (modelK2 B m c dub dlb).digits_lb r = (dlb r.significand : Int) := rfl
theorem modelK2_digits_ub (B : Nat) (m : Mode) (c : Coarse) (dub dlb : Int → Nat) (r : GluePrelude.FRepr) :
    (modelK2 B m c dub dlb).digits_ub r = (dub r.significand : Int) := rfl

/-- the remainder of a truncating division has at most as many digits as the divisor (why the `usize` subtraction
    `ddigits + precision - rdigits` of `repr_div` cannot underflow) -/
theorem digitsI_tmod_le (B : Nat) (hB : 2 ≤ B) (a b : Int) (hb : b ≠ 0) : digitsI B (Int.tmod a b) ≤ digitsI B b := by
  apply digits_mono B hB
  have := (tdiv_tmod_nz a b hb).2
  rw [Int.abs_eq_natAbs, Int.abs_eq_natAbs] at this
  omega

/-- the model's panic kinds as the regenerated text names them -/
def toGP : FPanic → GluePrelude.Panic
  | .unlimitedPrecision => .UnlimitedPrecision
  | .divideByZero => .DivideByZero
  | .rootNegative => .RootNegative

/-- a model result (panic or rounded value) as the regenerated text returns it -/
def toGE (r : Except FPanic (Rounded Model.Float.FRepr)) : Except GluePrelude.Panic (Approx GluePrelude.FRepr) :=
  match r with
  | .error e => .error (toGP e)
  | .ok v => .ok (toGA toG v)

/-- the end of `repr_div`: exact when the last remainder vanishes, else adjusted by `round_ratio` -/
theorem repr_div_tail (B : Nat) (m : Mode) (c : Coarse) (dub dlb : Int → Nat) (q r e d : Int) :
    (.ok (if r = 0 then .Exact ((modelK2 B m c dub dlb).repr_new q e)
        else .Inexact ((modelK2 B m c dub dlb).repr_new (int_add_rounding q ((modelK2 B m c dub dlb).round_ratio q r d)) e)
          ((modelK2 B m c dub dlb).round_ratio q r d)) : Except GluePrelude.Panic (Approx GluePrelude.FRepr)) =
      toGE (if r = 0 then .ok (Model.Float.FRepr.new B q e, none)
        else .ok (Model.Float.FRepr.new B (q + rInt (roundRatio m q r d)) e, some (roundRatio m q r d))) := by
  by_cases h : r = 0
  · rw [if_pos h, if_pos h]; rfl
  · rw [if_neg h, if_neg h, int_add_rounding_eq]; rfl

theorem repr_div_is_model (B : Nat) (hB : 2 ≤ B) (m : Mode) (c : Coarse) (dub dlb : Int → Nat) (p : Nat) (ls le rs re : Int) :
    Context_repr_div (modelK2 B m c dub dlb) ⟨(p : Int)⟩ ⟨ls, le⟩ ⟨rs, re⟩ =
      if (ls = 0 ∧ le ≠ 0) ∨ (rs = 0 ∧ re ≠ 0) then .error .OperateWithInf
      else toGE (reprDiv B m p ⟨ls, le⟩ ⟨rs, re⟩) := by
  unfold Context_repr_div reprDiv
  simp only [assert_finite_operands_mk]
  by_cases hinf : (ls = 0 ∧ le ≠ 0) ∨ (rs = 0 ∧ re ≠ 0)
  · simp only [if_pos hinf]
  simp only [if_neg hinf, assert_limited_precision, IBig_div_rem, eq_int, is_zero_int, sub_int, add_int, lt_int,
    Int.natCast_eq_zero, decide_eq_true_eq, modelK2_digit_len, modelK2_shl]
  by_cases hp : p = 0
  · simp only [if_pos hp]; rfl
  by_cases hr : rs = 0
  · simp only [if_neg hp, if_pos hr]; rfl
  simp only [if_neg hp, if_neg hr]
  by_cases hr0 : ls.tmod rs = 0
  · simp only [if_pos hr0]; rfl
  simp only [if_neg hr0]
  unfold divAlign
  by_cases hq : ls.tdiv rs = 0
  · have hd : digitsI B (ls.tmod rs) ≤ digitsI B rs + p := Nat.le_add_right_of_le (digitsI_tmod_le B hB ls rs hr)
    simp only [if_pos hq, ← Int.natCast_add, cast_sub_le _ _ hd, Int.toNat_natCast, if_neg hr, repr_div_tail]
  simp only [if_neg hq, ← Int.natCast_add, Int.ofNat_lt]
  by_cases hn : digitsI B (ls.tdiv rs) + digitsI B rs < digitsI B rs + p
  · simp only [if_pos hn, cast_sub_le _ _ (Nat.le_of_lt hn), Int.toNat_natCast, if_neg hr, repr_div_tail]
  · simp only [if_neg hn, repr_div_tail]

theorem modelK_digits_ub (B : Nat) (m : Mode) (c : Coarse) (dub : Int → Nat) (s e : Int) :
    (modelK B m c dub).digits_ub ⟨s, e⟩ = (dub s : Int) := rfl

/-- rounding a finite representation gives a finite one -/
theorem reprRound_not_inf (B : Nat) (m : Mode) (c : Coarse) (p : Nat) (s e : Int) (h : ¬ (s = 0 ∧ e ≠ 0)) :
    ¬ ((reprRound B m c p ⟨s, e⟩).1.signif = 0 ∧ (reprRound B m c p ⟨s, e⟩).1.exp ≠ 0) := by
  unfold reprRound
  by_cases hp : p = 0
  · rw [if_pos hp]; exact h
  rw [if_neg hp]
  by_cases hd : Model.Float.FRepr.digits B ⟨s, e⟩ > p
  · simp only [if_pos hd]; exact new_not_inf B _ _
  · simp only [if_neg hd]; exact h

/-- `Except.map` on the regenerated result type (stated by cases so that no instance is needed) -/
def mapOk {α β} (f : α → β) : Except GluePrelude.Panic α → Except GluePrelude.Panic β
  | .error e => .error e
  | .ok v => .ok (f v)

theorem repr_is_zero_mk (s e : Int) : Repr_is_zero ⟨s, e⟩ = Model.Float.FRepr.isZero ⟨s, e⟩ := rfl

theorem context_div_is_model (B : Nat) (hB : 2 ≤ B) (m : Mode) (c : Coarse) (dub dlb : Int → Nat) (p : Nat) (ls le rs re : Int) :
    Context_div (modelK2 B m c dub dlb) ⟨(p : Int)⟩ ⟨ls, le⟩ ⟨rs, re⟩ =
      if (ls = 0 ∧ le ≠ 0) ∨ (rs = 0 ∧ re ≠ 0) then .error .OperateWithInf
      else mapOk (Approx.map (fun v => (⟨v, ⟨(p : Int)⟩⟩ : GluePrelude.FBig)))
        (toGE (ctxDiv B m c dub dlb p ⟨ls, le⟩ ⟨rs, re⟩)) := by
  unfold Context_div ctxDiv
  simp only [assert_finite_operands_mk]
  by_cases hinf : (ls = 0 ∧ le ≠ 0) ∨ (rs = 0 ∧ re ≠ 0)
  · simp only [if_pos hinf]
  have ⟨h1, h2⟩ := not_or.mp hinf
  simp only [if_neg hinf, repr_is_zero_mk, modelK2_digits_lb, modelK2_digits_ub, modelK2_digits, lt_int, add_int, Context_new,
    ← Int.natCast_add, Int.ofNat_lt, Bool.and_eq_true, Bool.not_eq_true', Bool.not_eq_true, decide_eq_true_eq, gt_iff_lt,
    Model.Float.FRepr.digits]
  by_cases hc : Model.Float.FRepr.isZero ⟨ls, le⟩ = false ∧ dlb rs + p < dub ls
  · have hf := reprRound_not_inf B m c (digitsI B rs + p) ls le h1
    simp only [if_pos hc, modelK2_toFloatK, repr_round_ref_is_model, if_neg h1, value_toGA]
    generalize (reprRound B m c (digitsI B rs + p) ⟨ls, le⟩).1 = x at hf ⊢
    obtain ⟨xs, xe⟩ := x
    simp only [toG, repr_div_is_model B hB, if_neg (not_or.mpr ⟨hf, h2⟩)]
    cases reprDiv B m p ⟨xs, xe⟩ ⟨rs, re⟩ <;> rfl
  · simp only [if_neg hc, repr_div_is_model B hB, if_neg hinf]
    cases reprDiv B m p ⟨ls, le⟩ ⟨rs, re⟩ <;> rfl

/-- **`Context::inv` as regenerated = `Model.Float.ctxInv`** (`repr_div` of `Repr::one()`) -/
theorem context_inv_is_model (B : Nat) (hB : 2 ≤ B) (m : Mode) (c : Coarse) (dub dlb : Int → Nat) (p : Nat) (s e : Int) :
    Context_inv (modelK2 B m c dub dlb) ⟨(p : Int)⟩ ⟨s, e⟩ =
      if s = 0 ∧ e ≠ 0 then .error .OperateWithInf
      else mapOk (Approx.map (fun v => (⟨v, ⟨(p : Int)⟩⟩ : GluePrelude.FBig))) (toGE (ctxInv B m p ⟨s, e⟩)) := by
  unfold Context_inv ctxInv Repr_one
  have h1 : ¬ ((1 : Int) = 0 ∧ (0 : Int) ≠ 0) := fun h => h.2 rfl
  simp only [repr_div_is_model B hB, h1, false_or]
  by_cases hinf : s = 0 ∧ e ≠ 0
  · simp only [if_pos hinf]
  · simp only [if_neg hinf]
    cases reprDiv B m p ⟨1, 0⟩ ⟨s, e⟩ <;> rfl

/-- what the four operator forms of `FBig / FBig` return: `repr_div` at `Context::max` (no pre-shrink) -/
def divFormSpec (B : Nat) (m : Mode) (ls le : Int) (pl : Nat) (rs re : Int) (pr : Nat) : Except GluePrelude.Panic GluePrelude.FBig :=
  if (ls = 0 ∧ le ≠ 0) ∨ (rs = 0 ∧ re ≠ 0) then .error .OperateWithInf
  else mapOk (fun v => (⟨Approx.value v, ⟨((Nat.max pl pr : Nat) : Int)⟩⟩ : GluePrelude.FBig))
    (toGE (reprDiv B m (Nat.max pl pr) ⟨ls, le⟩ ⟨rs, re⟩))

theorem div_ref_ref_is_model (B : Nat) (hB : 2 ≤ B) (m : Mode) (c : Coarse) (dub dlb : Int → Nat) (ls le : Int) (pl : Nat)
    (rs re : Int) (pr : Nat) :
    FBig_div_ref_ref (modelK2 B m c dub dlb) ⟨⟨ls, le⟩, ⟨(pl : Int)⟩⟩ ⟨⟨rs, re⟩, ⟨(pr : Int)⟩⟩ = divFormSpec B m ls le pl rs re pr := by
  unfold FBig_div_ref_ref divFormSpec
  simp only [context_max_eq, repr_div_is_model B hB]
  by_cases hinf : (ls = 0 ∧ le ≠ 0) ∨ (rs = 0 ∧ re ≠ 0)
  · simp only [if_pos hinf]
  · simp only [if_neg hinf]
    cases reprDiv B m (Nat.max pl pr) ⟨ls, le⟩ ⟨rs, re⟩ <;> rfl

/- the other three forms (`impl_div_or_rem_for_fbig!`) are the same text as `&FBig / &FBig` -/
theorem div_val_val_is_model (B : Nat) (hB : 2 ≤ B) (m : Mode) (c : Coarse) (dub dlb : Int → Nat) (ls le : Int) (pl : Nat)
    (rs re : Int) (pr : Nat) :
    FBig_div_val_val (modelK2 B m c dub dlb) ⟨⟨ls, le⟩, ⟨(pl : Int)⟩⟩ ⟨⟨rs, re⟩, ⟨(pr : Int)⟩⟩ = divFormSpec B m ls le pl rs re pr :=
  div_ref_ref_is_model B hB m c dub dlb ls le pl rs re pr

theorem div_ref_val_is_model (B : Nat) (hB : 2 ≤ B) (m : Mode) (c : Coarse) (dub dlb : Int → Nat) (ls le : Int) (pl : Nat)
    (rs re : Int) (pr : Nat) :
    FBig_div_ref_val (modelK2 B m c dub dlb) ⟨⟨ls, le⟩, ⟨(pl : Int)⟩⟩ ⟨⟨rs, re⟩, ⟨(pr : Int)⟩⟩ = divFormSpec B m ls le pl rs re pr :=
  div_ref_ref_is_model B hB m c dub dlb ls le pl rs re pr

theorem div_val_ref_is_model (B : Nat) (hB : 2 ≤ B) (m : Mode) (c : Coarse) (dub dlb : Int → Nat) (ls le : Int) (pl : Nat)
    (rs re : Int) (pr : Nat) :
    FBig_div_val_ref (modelK2 B m c dub dlb) ⟨⟨ls, le⟩, ⟨(pl : Int)⟩⟩ ⟨⟨rs, re⟩, ⟨(pr : Int)⟩⟩ = divFormSpec B m ls le pl rs re pr :=
  div_ref_ref_is_model B hB m c dub dlb ls le pl rs re pr

/-- the operator `FBig / FBig` (all four forms) = the `Context::div` of the maximal precision whenever `Context::div` does
    not pre-shrink, i.e. for every dividend the estimates place within `rhs.digits + p` digits (all operands that fit `p`) -/
theorem div_operator_eq_context_div (B : Nat) (hB : 2 ≤ B) (m : Mode) (c : Coarse) (dub dlb : Int → Nat) (ls le : Int) (pl : Nat)
    (rs re : Int) (pr : Nat) (hns : ¬ (¬ (ls = 0 ∧ le = 0) ∧ dlb rs + Nat.max pl pr < dub ls)) :
    mapOk (fun v => (⟨v, ⟨((Nat.max pl pr : Nat) : Int)⟩⟩ : GluePrelude.FBig))
      (mapOk (fun a => Approx.value (Approx.map GluePrelude.FBig.repr a))
        (Context_div (modelK2 B m c dub dlb) ⟨((Nat.max pl pr : Nat) : Int)⟩ ⟨ls, le⟩ ⟨rs, re⟩)) =
      FBig_div_ref_ref (modelK2 B m c dub dlb) ⟨⟨ls, le⟩, ⟨(pl : Int)⟩⟩ ⟨⟨rs, re⟩, ⟨(pr : Int)⟩⟩ := by
  rw [div_ref_ref_is_model B hB, context_div_is_model B hB]
  unfold divFormSpec ctxDiv
  have hc : ¬ ((¬ (Model.Float.FRepr.isZero ⟨ls, le⟩ = true)) ∧ dub ls > dlb rs + Nat.max pl pr) :=
    fun h => hns ⟨fun hz => h.1 (by rw [hz.1, hz.2]; rfl), h.2⟩
  rw [if_neg hc]
  by_cases hinf : (ls = 0 ∧ le ≠ 0) ∨ (rs = 0 ∧ re ≠ 0)
  · rw [if_pos hinf, if_pos hinf]; rfl
  · rw [if_neg hinf, if_neg hinf]
    cases reprDiv B m (Nat.max pl pr) ⟨ls, le⟩ ⟨rs, re⟩ with
    | error e => rfl
    | ok v => simp only [toGE, mapOk, value_map]

/-- the hypothesis of `div_operator_eq_context_div` holds for operands that fit the precision under exact digit counts
    (`dub = dlb = digitsI`): 123 / 7 at precision 3 -/
example : ¬ (¬ ((123 : Int) = 0 ∧ (0 : Int) = 0) ∧ digitsI 10 7 + Nat.max 3 3 < digitsI 10 123) := by decide

/-- **`<FBig as Inverse>::inv`, both forms, as regenerated** = the value of `ctxInv` at the operand's own precision -/
theorem inv_val_is_model (B : Nat) (hB : 2 ≤ B) (m : Mode) (c : Coarse) (dub dlb : Int → Nat) (s e : Int) (p : Nat) :
    FBig_inv_val (modelK2 B m c dub dlb) ⟨⟨s, e⟩, ⟨(p : Int)⟩⟩ =
      if s = 0 ∧ e ≠ 0 then .error .OperateWithInf
      else mapOk (fun v => (⟨Approx.value v, ⟨(p : Int)⟩⟩ : GluePrelude.FBig)) (toGE (ctxInv B m p ⟨s, e⟩)) := by
  unfold FBig_inv_val
  simp only [context_inv_is_model B hB]
  by_cases hinf : s = 0 ∧ e ≠ 0
  · simp only [if_pos hinf]
  · simp only [if_neg hinf]
    cases ctxInv B m p ⟨s, e⟩ with
    | error e => rfl
    | ok v => simp only [toGE, mapOk, value_map]

theorem inv_ref_is_model (B : Nat) (hB : 2 ≤ B) (m : Mode) (c : Coarse) (dub dlb : Int → Nat) (s e : Int) (p : Nat) :
    FBig_inv_ref (modelK2 B m c dub dlb) ⟨⟨s, e⟩, ⟨(p : Int)⟩⟩ =
      if s = 0 ∧ e ≠ 0 then .error .OperateWithInf
      else mapOk (fun v => (⟨Approx.value v, ⟨(p : Int)⟩⟩ : GluePrelude.FBig)) (toGE (ctxInv B m p ⟨s, e⟩)) :=
  inv_val_is_model B hB m c dub dlb s e p

/-- **`FBig::sqr` / `FBig::cubic` as regenerated** = the value of `ctxSqr` / `ctxCubic` at the operand's own precision -/
theorem fbig_sqr_is_model (B : Nat) (m : Mode) (c : Coarse) (dub dlb : Int → Nat) (s e : Int) (p : Nat)
    (hl : (digitsI B s : Int) ≤ usize_MAX) :
    FBig_sqr (modelK2 B m c dub dlb) ⟨⟨s, e⟩, ⟨(p : Int)⟩⟩ =
      if s = 0 ∧ e ≠ 0 then .error .OperateWithInf
      else .ok ⟨toG (ctxSqr false B m c p ⟨s, e⟩).1, ⟨(p : Int)⟩⟩ := by
  unfold FBig_sqr
  simp only [context_sqr_is_model B m c dub dlb p s e hl]
  by_cases hinf : s = 0 ∧ e ≠ 0
  · simp only [if_pos hinf]
  · simp only [if_neg hinf, value_map, value_toGA]

theorem fbig_cubic_is_model (B : Nat) (m : Mode) (c : Coarse) (dub dlb : Int → Nat) (s e : Int) (p : Nat)
    (hl : (digitsI B s : Int) ≤ usize_MAX) :
    FBig_cubic (modelK2 B m c dub dlb) ⟨⟨s, e⟩, ⟨(p : Int)⟩⟩ =
      if s = 0 ∧ e ≠ 0 then .error .OperateWithInf
      else .ok ⟨toG (ctxCubic false B m c p ⟨s, e⟩).1, ⟨(p : Int)⟩⟩ := by
  unfold FBig_cubic
  simp only [context_cubic_is_model B m c dub dlb p s e hl]
  by_cases hinf : s = 0 ∧ e ≠ 0
  · simp only [if_pos hinf]
  · simp only [if_neg hinf, value_map, value_toGA]

/-! ### the rounding contract stated directly about the REGENERATED text -/

/-- **`Context::repr_div` as regenerated honours the rounding contract**: every finite dividend, every non-zero finite
    divisor, every base ≥ 2, precision ≥ 1 and mode (composition of `repr_div_is_model` with `reprDiv_contract`, the proof
    behind `Props/C03.div_contract`) -/
theorem regenerated_repr_div_contract (B : Nat) (hB : 2 ≤ B) (m : Mode) (c : Coarse) (dub dlb : Int → Nat) (p : Nat) (hp : 1 ≤ p)
    (ls le rs re : Int) (hl : ¬ (ls = 0 ∧ le ≠ 0)) (hr : rs ≠ 0) :
    ∃ r : Rounded Model.Float.FRepr,
      Context_repr_div (modelK2 B m c dub dlb) ⟨(p : Int)⟩ ⟨ls, le⟩ ⟨rs, re⟩ = .ok (toGA toG r) ∧
      Contract B m p ((⟨ls, le⟩ : Model.Float.FRepr).toRat B / (⟨rs, re⟩ : Model.Float.FRepr).toRat B) (r.1.toRat B) r.2 := by
  obtain ⟨r, h1, h2⟩ := reprDiv_contract B hB m p hp ⟨ls, le⟩ ⟨rs, re⟩ hr
  refine ⟨r, ?_, h2⟩
  rw [repr_div_is_model B hB, if_neg (not_or.mpr ⟨hl, fun h => hr h.1⟩), h1]
  rfl

/-- **`Context::inv` as regenerated honours the rounding contract** for every finite non-zero operand -/
theorem regenerated_inv_contract (B : Nat) (hB : 2 ≤ B) (m : Mode) (c : Coarse) (dub dlb : Int → Nat) (p : Nat) (hp : 1 ≤ p)
    (s e : Int) (hs : s ≠ 0) :
    ∃ r : Rounded Model.Float.FRepr,
      Context_inv (modelK2 B m c dub dlb) ⟨(p : Int)⟩ ⟨s, e⟩ =
        .ok (Approx.map (fun v => (⟨v, ⟨(p : Int)⟩⟩ : GluePrelude.FBig)) (toGA toG r)) ∧
      Contract B m p ((⟨1, 0⟩ : Model.Float.FRepr).toRat B / (⟨s, e⟩ : Model.Float.FRepr).toRat B) (r.1.toRat B) r.2 := by
  obtain ⟨r, h1, h2⟩ := reprDiv_contract B hB m p hp ⟨1, 0⟩ ⟨s, e⟩ hs
  refine ⟨r, ?_, h2⟩
  rw [context_inv_is_model B hB, if_neg fun h => hs h.1, ctxInv, h1]
  rfl

/-- **`Context::mul` as regenerated honours the rounding contract** for finite operands of at most `2p` digits (all that fit
    `p`); the excluded region is the recorded pre-shrink finding (`Props/C03.mul_preshrink_counterexample`).
    Every precision `p ≥ 1` is covered (`self.precision.saturating_mul(2)`, /repo fix 5768014, cannot wrap).  What remains is
    the Nat/usize gap of the operand LENGTHS (`hul`/`hur`: at most `usize::MAX` digits, true of every value in memory; the
    translator reads `saturating_mul` as the exact product, which agrees with the saturated one in the test
    `max_precision < digits` exactly under this hypothesis). -/
theorem regenerated_mul_contract (B : Nat) (hB : 2 ≤ B) (m : Mode) (c : Coarse) (hc : CoarseSound c) (dub dlb : Int → Nat)
    (p : Nat) (hp : 1 ≤ p) (ls le rs re : Int) (hl : ¬ (ls = 0 ∧ le ≠ 0)) (hr : ¬ (rs = 0 ∧ re ≠ 0))
    (ha : digitsI B ls ≤ 2 * p) (hb : digitsI B rs ≤ 2 * p)
    (hul : (digitsI B ls : Int) ≤ usize_MAX) (hur : (digitsI B rs : Int) ≤ usize_MAX) :
    ∃ r : Rounded Model.Float.FRepr,
      Context_mul (modelK2 B m c dub dlb) ⟨(p : Int)⟩ ⟨ls, le⟩ ⟨rs, re⟩ =
        .ok (Approx.map (fun v => (⟨v, ⟨(p : Int)⟩⟩ : GluePrelude.FBig)) (toGA toG r)) ∧
      Contract B m p ((⟨ls, le⟩ : Model.Float.FRepr).toRat B * (⟨rs, re⟩ : Model.Float.FRepr).toRat B) (r.1.toRat B) r.2 := by
  refine ⟨ctxMul false B m c p ⟨ls, le⟩ ⟨rs, re⟩, ?_, ?_⟩
  · rw [context_mul_is_model B m c dub dlb p ls le rs re hul hur, if_neg (not_or.mpr ⟨hl, hr⟩)]
  · rw [ctxMul_asis B m c p ⟨ls, le⟩ ⟨rs, re⟩ ha hb, ctxMul_fixed_eq_op]
    exact opMul_contract B hB m c hc p hp ⟨ls, le⟩ ⟨rs, re⟩

/-- the hypotheses of the three theorems above are satisfiable together on non-trivial values -/
example : ¬ ((12 : Int) = 0 ∧ (-1 : Int) ≠ 0) ∧ (7 : Int) ≠ 0 ∧ digitsI 10 12 ≤ 2 * 3 ∧ (digitsI 10 12 : Int) ≤ usize_MAX := by
  decide

/-- the digit hypothesis of `context_mul_is_model` etc. is satisfiable on a non-trivial value -/
example : (digitsI 10 123456789 : Int) ≤ usize_MAX := by decide

end Dashu.Props.GenFloatArith
