import Dashu.Gen.IntBits
import Dashu.Proofs.Gen.Basic
import Dashu.Props.C09
/-
  C09, Tie A over the SIGN-LEVEL bit functions of `IBig` (`integer/src/bits.rs`): `IBig::trailing_zeros`, `IBig::trailing_ones`,
  `<IBig as BitTest>::bit`, `Not for IBig` / `Not for &IBig`, regenerated on every run by the typed translator
  (`Dashu/Gen/IntBits.lean`) over the record `GluePrelude.BitK` of the magnitude-level `TypedReprRef` methods.
  Theorems: for EVERY record whose fields meet the specification of those methods (`Meets`; each clause is a theorem about the
  executed hand model in `Props/C09.lean` — `ubig_bit`, `trailing_zeros`, `trailing_ones`, … — and about the regenerated arms in
  `Props/GenScans`, `Props/GenBitsSmall`), the regenerated sign dispatch computes the infinite two's-complement meaning:
  `bit` is `Int.testBit` (the trailing-zeros trick for negative values: below the lowest set bit of the magnitude 0, at it 1, above
  it the complement), `trailing_zeros` / `trailing_ones` are the 2-adic valuations of `x` / `x + 1` (`None` for 0 / −1), `!x = −x − 1`.
  `Option::unwrap` enters only through `unwrap (some v) = v`; that its `None` arm is never reached is `Props.C09.ibig_bit`.
-/
namespace Dashu.Props.GenIntBits
open Dashu Dashu.Gen Dashu.GluePrelude Dashu.Proofs.Gen Dashu.Model

/-- the specification of the magnitude-level methods the regenerated bodies call -/
structure Meets (k : BitK) : Prop where
  bit : ∀ a n : Nat, k.bit (a : Int) (n : Int) = a.testBit n
  tz_zero : k.trailing_zeros 0 = none
  tz : ∀ a : Nat, a ≠ 0 → ∃ t : Nat, k.trailing_zeros (a : Int) = some (t : Int) ∧ IsTz a t
  tones : ∀ a : Nat, ∃ t : Nat, k.trailing_ones (a : Int) = (t : Int) ∧ IsTz (a + 1) t
  tones_neg_one : k.trailing_ones_neg 1 = none
  tones_neg : ∀ a : Nat, 2 ≤ a → ∃ t : Nat, k.trailing_ones_neg (a : Int) = some (t : Int) ∧ IsTz (a - 1) t
  unwrap : ∀ v, k.unwrap (some v) = v

/-- the two arms of `as_sign_repr`: `x` is a natural number, or `-(m + 1)` -/
theorem sign_repr_cases (x : Int) :
    (∃ a : Nat, x = a ∧ as_sign_repr x = (.Positive, (a : Int))) ∨
    (∃ m : Nat, x = Int.negSucc m ∧ as_sign_repr x = (.Negative, ((m + 1 : Nat) : Int))) := by
  cases x with
  | ofNat a => exact .inl ⟨a, rfl, rfl⟩
  | negSucc m => exact .inr ⟨m, rfl, by simp only [as_sign_repr, sign_int, if_pos (Int.negSucc_lt_zero m)]; rfl⟩

/-- **`<IBig as BitTest>::bit` as regenerated = the two's-complement bit** (`Int.testBit`), every sign, every position -/
theorem gen_ibig_bit (k : BitK) (h : Meets k) (x : Int) (n : Nat) : IBig_bit k x (n : Int) = Int.testBit x n := by
  unfold IBig_bit
  rcases sign_repr_cases x with ⟨a, rfl, e⟩ | ⟨m, rfl, e⟩
  · rw [e]
    exact h.bit a n
  · obtain ⟨z, hk, ht⟩ := h.tz (m + 1) (Nat.succ_ne_zero m)
    rw [e, show Int.negSucc m = -((m + 1 : Nat) : Int) from rfl, ht.testBit_neg]
    simp only [hk, h.unwrap, h.bit, cmp_int]
    rcases Nat.lt_trichotomy n z with h1 | rfl | h1
    · rw [Int.compare_eq_lt.mpr (Int.ofNat_lt.2 h1), if_neg (Nat.ne_of_lt h1), if_neg (Nat.lt_asymm h1)]
    · rw [compare_self_int, if_pos rfl]
    · rw [Int.compare_eq_gt.mpr (Int.ofNat_lt.2 h1), if_neg (Nat.ne_of_gt h1), if_pos h1]

/-- **`IBig::trailing_zeros` as regenerated**: `None` exactly for 0, otherwise the 2-adic valuation of `x` (either sign) -/
theorem gen_ibig_trailing_zeros (k : BitK) (h : Meets k) (x : Int) :
    (x = 0 → IBig_trailing_zeros k x = none) ∧
    (x ≠ 0 → ∃ t : Nat, IBig_trailing_zeros k x = some (t : Int) ∧ IsTz x.natAbs t) := by
  -- `(as_sign_repr x).2` is `|x|` whatever the sign
  exact ⟨fun h0 => h0 ▸ h.tz_zero, fun h0 => h.tz x.natAbs (Int.natAbs_ne_zero.2 h0)⟩

/-- **`IBig::trailing_ones` as regenerated**: `None` exactly for −1 (infinitely many ones), otherwise the 2-adic valuation of
    `x + 1` — the number of trailing one bits of the two's-complement form (`Props.C09.ibig_trailing_ones_bits` reads it as bits) -/
theorem gen_ibig_trailing_ones (k : BitK) (h : Meets k) (x : Int) :
    (x = -1 → IBig_trailing_ones k x = none) ∧
    (x ≠ -1 → ∃ t : Nat, IBig_trailing_ones k x = some (t : Int) ∧ IsTz (x + 1).natAbs t) := by
  unfold IBig_trailing_ones
  rcases sign_repr_cases x with ⟨a, rfl, e⟩ | ⟨m, rfl, e⟩
  · obtain ⟨t, ht, hz⟩ := h.tones a
    rw [e]
    exact ⟨fun h1 => by omega, fun _ => ⟨t, congrArg some ht, hz⟩⟩
  · rw [e]
    refine ⟨fun h1 => ?_, fun h1 => ?_⟩
    · obtain rfl : m = 0 := Int.negSucc.inj h1
      exact h.tones_neg_one
    · obtain ⟨m, rfl⟩ := Nat.exists_eq_succ_of_ne_zero (n := m) fun h0 => h1 (congrArg Int.negSucc h0)
      exact h.tones_neg (m + 1 + 1) (Nat.le_add_left 2 m)

/-- **`!IBig` as regenerated = `−x − 1`**, both ownership forms (magnitude + 1 with the sign flipped / magnitude − 1) -/
theorem gen_ibig_not (x : Int) : IBig_not x = -x - 1 ∧ IBig_ref_not x = -x - 1 := by
  have h : IBig_not x = -x - 1 := by
    unfold IBig_not
    rcases sign_repr_cases x with ⟨a, rfl, e⟩ | ⟨m, rfl, e⟩
    · rw [e]
      show -((a : Int) + 1) = _
      exact Int.neg_add
    · rw [e]
      show ((((m + 1 : Nat) : Int) - 1).natAbs : Int) = ((m + 1 : Nat) : Int) - 1
      exact Int.natAbs_of_nonneg (by omega)
  exact ⟨h, h⟩

/-- and that is the bitwise complement -/
theorem gen_ibig_not_bits (x : Int) (i : Nat) : Int.testBit (IBig_not x) i = !Int.testBit x i := by
  rw [(gen_ibig_not x).1, show -x - 1 = Int.lnot x from compl_eq_lnot x, Int.testBit_lnot]

/-- a record that meets the specification (built from the checked specification functions of `Model/Int/Bits.lean`):
    the hypotheses of the theorems above are satisfiable -/
def specK : BitK where
  trailing_zeros m := if m = 0 then none else (specTz m.natAbs).map Int.ofNat
  trailing_ones m := ((specTz (m.natAbs + 1)).getD 0 : Nat)
  trailing_ones_neg m := if m = 1 then none else (specTz (m.natAbs - 1)).map Int.ofNat
  bit m n := m.natAbs.testBit n.toNat
  bit_len m := bitLenNat m.natAbs
  unwrap o := o.getD 0

theorem specK_meets : Meets specK where
  bit _ _ := rfl
  tz_zero := rfl
  tz a ha := by
    obtain ⟨t, h1, h2⟩ := Dashu.Props.C09.spec_tz_total a ha
    exact ⟨t, (if_neg (Int.natCast_ne_zero.2 ha)).trans (congrArg (Option.map Int.ofNat) h1), h2⟩
  tones a := by
    obtain ⟨t, h1, h2⟩ := Dashu.Props.C09.spec_tz_total (a + 1) (Nat.succ_ne_zero a)
    exact ⟨t, congrArg (fun o => ((o.getD 0 : Nat) : Int)) h1, h2⟩
  tones_neg_one := rfl
  tones_neg a ha := by
    obtain ⟨t, h1, h2⟩ := Dashu.Props.C09.spec_tz_total (a - 1) (by omega)
    exact ⟨t, (if_neg (by omega)).trans (congrArg (Option.map Int.ofNat) h1), h2⟩
  unwrap _ := rfl

-- non-vacuity: −12 = …10100: bit 2 is the lowest set bit, bits above are the complement of 12's; trailing ones of −5 = …1011
example : IBig_bit specK (-12) 2 = true ∧ IBig_bit specK (-12) 1 = false ∧ IBig_bit specK (-12) 3 = false ∧
    IBig_bit specK (-12) 4 = true ∧ IBig_trailing_ones specK (-5) = some 2 ∧ IBig_trailing_ones specK (-1) = none ∧
    IBig_trailing_zeros specK (-12) = some 2 ∧ IBig_not 5 = -6 ∧ IBig_ref_not (-6) = 5 := by
  decide +kernel

-- ---------------------------------------------------------------- link: the executed magnitude-level model meets the specification

/-- the record of the EXECUTED hand model: each `TypedReprRef` method of `Model/Int/Bits.lean` (what the driver runs) applied to the
    canonical representation of the magnitude; a panic of the model is `none` / 0 (there is none: `modelK_meets`) -/
def modelK (W : Nat) : BitK where
  trailing_zeros m := match (ofNat W m.natAbs).trailingZeros W with
    | .ok r => r.map Int.ofNat
    | .error _ => none
  trailing_ones m := match (ofNat W m.natAbs).trailingOnes W true with
    | .ok t => (t : Int)
    | .error _ => 0
  trailing_ones_neg m := match (ofNat W m.natAbs).trailingOnesNeg W with
    | .ok r => r.map Int.ofNat
    | .error _ => none
  bit m n := (ofNat W m.natAbs).bit W n.toNat
  bit_len m := ((ofNat W m.natAbs).bitLen W : Nat)
  unwrap o := o.getD 0

/-- **the executed magnitude-level model meets the specification the regenerated sign dispatch is proved against**
    (from `TRepr.bit_spec`, `trailingZeros_spec`, `trailingOnes_fixed`, `trailingOnesNeg_spec` and `ofNat_canon` / `ofNat_value`) -/
theorem modelK_meets (W : Nat) (hW : 1 ≤ W) : Meets (modelK W) := by
  -- the specifications of the four methods at the canonical representation of `a`, in terms of `a`
  have hc := ofNat_canon W hW
  have hz : ∀ a, _ := fun a => ofNat_value W hW a ▸ TRepr.trailingZeros_spec W _ (hc a)
  have ho : ∀ a, _ := fun a => ofNat_value W hW a ▸ TRepr.trailingOnes_fixed W _ (hc a)
  have hn : ∀ a, a ≠ 0 → _ := fun a ha =>
    ofNat_value W hW a ▸ TRepr.trailingOnesNeg_spec W hW _ (hc a) (by rw [ofNat_value W hW a]; exact ha)
  refine ⟨fun a n => ?_, ?_, fun a ha => ?_, fun a => ?_, ?_, fun a ha => ?_, fun _ => rfl⟩
  · exact (TRepr.bit_spec W hW _ n (hc a)).trans (by rw [ofNat_value W hW a])
  · simp only [modelK, Int.natAbs_zero, (hz 0).1 rfl, Option.map_none]
  · obtain ⟨t, h1, h2⟩ := (hz a).2 ha
    exact ⟨t, by simp only [modelK, Int.natAbs_natCast, h1, Option.map_some, Int.ofNat_eq_natCast], h2⟩
  · obtain ⟨t, h1, h2⟩ := ho a
    exact ⟨t, by simp only [modelK, Int.natAbs_natCast, h1], h2⟩
  · simp only [modelK, show (1 : Int).natAbs = 1 from rfl, (hn 1 Nat.one_ne_zero).1 rfl, Option.map_none]
  · obtain ⟨t, h1, h2⟩ := (hn a (by omega)).2 ha
    exact ⟨t, by simp only [modelK, Int.natAbs_natCast, h1, Option.map_some, Int.ofNat_eq_natCast], h2⟩

/-- **regenerated sign dispatch ∘ executed magnitude model = the two's-complement meaning**, every word size: `IBig::bit`,
    `!IBig` need nothing else; `trailing_zeros` / `trailing_ones` return the 2-adic valuation of `x` / `x + 1` -/
theorem model_ibig_bit (W : Nat) (hW : 1 ≤ W) (x : Int) (n : Nat) : IBig_bit (modelK W) x (n : Int) = Int.testBit x n :=
  gen_ibig_bit _ (modelK_meets W hW) x n

theorem model_ibig_trailing (W : Nat) (hW : 1 ≤ W) (x : Int) :
    (x = 0 → IBig_trailing_zeros (modelK W) x = none) ∧
    (x ≠ 0 → ∃ t : Nat, IBig_trailing_zeros (modelK W) x = some (t : Int) ∧ IsTz x.natAbs t) ∧
    (x = -1 → IBig_trailing_ones (modelK W) x = none) ∧
    (x ≠ -1 → ∃ t : Nat, IBig_trailing_ones (modelK W) x = some (t : Int) ∧ IsTz (x + 1).natAbs t) :=
  have z := gen_ibig_trailing_zeros _ (modelK_meets W hW) x
  ⟨z.1, z.2, gen_ibig_trailing_ones _ (modelK_meets W hW) x⟩

end Dashu.Props.GenIntBits
