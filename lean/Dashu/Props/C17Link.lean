import Dashu.Proofs.Mem.Arith4
import Dashu.Proofs.NT.LehmerComplete
import Dashu.Proofs.NT.BinGcd
import Dashu.Proofs.NT.GcdExt
import Dashu.Proofs.NT.LehmerExt
import Dashu.Proofs.Text.FmtLow
/-
  C17 — link theorems to the properties that own the kernels C17's storage model takes state from:

  * C12 (`Proofs/NT/LehmerComplete`): the flag-tracking Lehmer loop of the `gcd` storage skeleton returns for every
    `rhs ≤ lhs`, its value is `Nat.gcd lhs rhs` — so the panic arm of `fGcdLarge` is dead and the words the skeleton writes
    into the result copy are the gcd's; the only thing C17 adds is WHICH copy (`swapped`).  Likewise for `gcd_ext`
    (`lehmerExt_correct`, `gcdExtSmall_spec`, `xgcdPrimWide_spec`).  Hence the only panic of the `gcd` / `gcd_ext` skeletons,
    `IBig` and mixed operands included, is the documented `gcd(0, 0)`.
  * C07 (`Proofs/Text/FmtLow`): fmt/digit_writer.rs — the `[u8; BUFFER_LEN]` array of `DigitWriter` is the one hand-indexed
    buffer of the formatting path (`buffer[buffer_len..buffer_len + len].copy_from_slice`, `buffer[buffer_len..rounded].fill(0)`,
    `chunks_exact_mut`, `&buffer[..buffer_len]`) and `flush` ends in `unsafe { str::from_utf8_unchecked(b) }`.  C07's mirrored
    writer raises `BufPanic.index` for any range that leaves the array; composed here into C17's statement: for EVERY
    sequence of `write` calls (any piece lengths, incl. empty and longer than the buffer) followed by `flush`, no range leaves
    the array, `buffer_len < BUFFER_LEN` between calls, and every byte handed to `from_utf8_unchecked` is 7-bit ASCII.
-/
namespace Dashu.Props.C17Link
open Dashu.Model Dashu.Model.Mem

/-- `gcd::gcd_in_place` as the gcd storage skeleton runs it (`lehmerGcdSw`: C12's loop + the `swapped` flag) always returns,
    and returns the gcd: the skeleton's model-panic arm is dead and `truncate(len); from_buffer` sees `gcd(lhs, rhs)` -/
theorem gcd_skeleton_kernel_is_c12 (W : Nat) (hW : 0 < W) (lhs rhs : Nat) (h : rhs ≤ lhs) :
    ∃ sw, lehmerGcdSw W lhs rhs = .ok (Nat.gcd lhs rhs, sw) := by
  have h1 := Dashu.Proofs.Mem.lehmerGcdSw_fst W lhs rhs
  rw [NT.lehmerGcd_correct W hW lhs rhs h] at h1
  cases hr : lehmerGcdSw W lhs rhs with
  | error k => rw [hr] at h1; cases h1
  | ok v =>
    rw [hr] at h1
    obtain ⟨g, sw⟩ := v
    simp only [Except.map] at h1
    cases h1
    exact ⟨sw, rfl⟩

example : lehmerGcdSw 64 ((2 ^ 64 + 1) * (2 ^ 250 + 12345)) ((2 ^ 64 + 1) * (2 ^ 200 + 7)) = .ok (2 ^ 64 + 1, false) := by
  decide +kernel

-- `rhs` divides `lhs`: one Euclidean step leaves the gcd in the copy of `rhs` (`swapped = true`)
example : lehmerGcdSw 64 (3 * (2 ^ 200 + 1)) (2 ^ 200 + 1) = .ok (2 ^ 200 + 1, true) := by decide +kernel
example := gcd_skeleton_kernel_is_c12 64 (by decide) (3 * (2 ^ 200 + 1)) (2 ^ 200 + 1) (by decide)

/-- gcd_ops.rs `gcd_large` (both operands copied, `gcd::gcd_in_place` between them): the storage skeleton has no panic arm,
    whatever the operand values — the model-panic arm for a failing Lehmer loop is dead by `gcd_skeleton_kernel_is_c12` -/
theorem gcd_large_skeleton_no_panic (W : Nat) (hW : 0 < W) (va vb lb' : Nat) : (fGcdLarge W va vb lb').panic = none := by
  unfold fGcdLarge
  by_cases h : va = vb
  · rw [if_pos h]
  · simp only [if_neg h]
    obtain ⟨sw, hk⟩ := gcd_skeleton_kernel_is_c12 W hW (max va vb) (min va vb)
      (Nat.le_trans (Nat.min_le_left _ _) (Nat.le_max_left _ _))
    rw [hk]

/-- what the `gcd(0, 0)` statements below need of a panic field that is `some .gcdZeroZero` exactly under a condition that
    includes "both values are zero" -/
private theorem only_zero_zero {p : Option PanicKind} {s z : Prop} [Decidable s] [Decidable z]
    (h : p = if s ∧ z then some .gcdZeroZero else none) : (p = none ∨ p = some .gcdZeroZero) ∧ (¬ z → p = none) := by
  subst h
  refine ⟨?_, fun hz => if_neg fun h => hz h.2⟩
  split_ifs
  · exact Or.inr rfl
  · exact Or.inl rfl

/-- the `gcd_large_dword` arm (`largeDword` in `fragGcdTyped`): `gcdPrim` is only called with a second argument `d ≠ 0` -/
private theorem largeDword_arm_panic (vl d : Nat) (f0 f1 : Frag) (f : Nat → Frag) (e : PanicKind → Frag)
    (h0 : f0.panic = none) (h1 : f1.panic = none) (hf : ∀ g, (f g).panic = none) :
    (if d = 0 then f0 else if vl % d = 0 then f1 else
      match NT.gcdPrim (vl % d) d with | .ok g => f g | .error k => e k).panic = none := by
  split_ifs with hd
  · exact h0
  · exact h1
  · rw [NT.gcdPrim_spec, if_neg fun h => hd h.2]
    exact hf _

/-- the typed `gcd` skeleton panics exactly in the `DoubleWord` arm on `(0, 0)` -/
theorem fragGcdTyped_panic_eq (W : Nat) (hW : 0 < W) (aVal bVal : Bool) (a b : List Nat) :
    (fragGcdTyped W aVal bVal a b).panic =
      if (isSmall a && isSmall b) = true ∧ wval W a = 0 ∧ wval W b = 0 then some .gcdZeroZero else none := by
  unfold fragGcdTyped
  cases isSmall a <;> cases isSmall b
  · exact gcd_large_skeleton_no_panic W hW _ _ _
  · exact largeDword_arm_panic _ _ _ _ _ _ rfl rfl fun _ => rfl
  · exact largeDword_arm_panic _ _ _ _ _ _ rfl rfl fun _ => rfl
  · simp only [Bool.and_self, true_and, if_true]
    rw [NT.gcdPrim_spec]
    by_cases hz : wval W a = 0 ∧ wval W b = 0
    · rw [if_pos hz, if_pos hz]
    · rw [if_neg hz, if_neg hz]

/-- **the `Gcd::gcd` storage skeletons never hit an internal assert**: for `UBig::gcd`
    and `IBig::gcd` in every ownership form and for ANY operand words (canonical or not, any lengths), the only panic the
    skeleton can report is the documented `gcd(0, 0)` one, and it reports none unless both operand values are zero.  All
    model-panic arms (Lehmer loop out of fuel, `lehmer_step` negative result, the primitive gcd on `(x % d, d)`) are dead:
    C12's `gcdPrim_spec` for the word / dword arms and `lehmerGcd_correct` (through `gcd_skeleton_kernel_is_c12`) for
    `gcd_large`. -/
theorem gcd_skeleton_panics_only_on_zero_zero (W : Nat) (hW : 0 < W) (f : Form) (a b : List Nat) :
    ((fragGcd W f a b).panic = none ∨ (fragGcd W f a b).panic = some .gcdZeroZero) ∧
    ((fragSignedGcd W f a b).panic = none ∨ (fragSignedGcd W f a b).panic = some .gcdZeroZero) ∧
    (¬ (wval W a = 0 ∧ wval W b = 0) → (fragGcd W f a b).panic = none ∧ (fragSignedGcd W f a b).panic = none) := by
  have h := only_zero_zero (fragGcdTyped_panic_eq W hW (f == .vr || f == .vv) (f == .rv || f == .vv) a b)
  exact ⟨h.1, h.1, fun hz => ⟨h.2 hz, h.2 hz⟩⟩

-- non-vacuity: two 5-word operands (the `gcd_large` arm, Lehmer loop), a 4-word and a 1-word operand (`gcd_large_dword`), and
-- the one panic that exists: gcd(0, 0), also for a non-canonical zero
example : ¬ (wval 64 [1, 2, 3, 4, 5] = 0 ∧ wval 64 [7, 0, 9, 0, 11] = 0) := by decide
example : (fragGcd 64 .rv [1, 2, 3, 4, 5] [7, 0, 9, 0, 11]).panic = none ∧ (fragSignedGcd 64 .vv [6, 0, 0, 3] [4]).panic = none := by
  decide +kernel
example : (fragGcd 64 .vv [] []).panic = some .gcdZeroZero ∧ (fragSignedGcd 64 .rr [0] []).panic = some .gcdZeroZero := by
  decide +kernel
example := (gcd_skeleton_panics_only_on_zero_zero 64 (by decide) .rv [1, 2, 3, 4, 5] [7, 0, 9, 0, 11]).2.2 (by decide)

/-- the kernel `fGcdExtLarge` takes its values from, `lehmerExtKernel`, totalises C12's `lehmerExt` (`gcd::gcd_ext_in_place`);
    for the operands `gcd_ext_large` passes (`0 < rhs < lhs`) the totalising arm is dead: `lehmerExt` returns, the skeleton uses
    exactly its value, and that value meets the contract the post-processing relies on (C12's `lehmerExt_correct`) -/
theorem gcd_ext_skeleton_kernel_is_c12 (W : Nat) (hW : 0 < W) (lhs rhs : Nat) (h0 : 0 < rhs) (hlt : rhs < lhs) :
    ∃ res, NT.lehmerExt W lhs rhs = .ok res ∧ NT.lehmerExtKernel W lhs rhs = res ∧ NT.LehmerExtContract lhs rhs res := by
  obtain ⟨res, h1, h2⟩ := NT.lehmerExt_correct W hW lhs rhs h0 hlt
  exact ⟨res, h1, by simp [NT.lehmerExtKernel, h1], h2⟩

example := gcd_ext_skeleton_kernel_is_c12 64 (by decide) (2 ^ 200 + 12345) (2 ^ 190 + 7) (by decide) (by decide)

/-- gcd_ops.rs `gcd_ext_large` has no panic arm in the skeleton; `gcd_ext_large_dword`'s model-panic arm (a failing
    `gcd_ext_word` / `gcd_ext_dword`) is dead by C12's `gcdExtSmall_spec` -/
theorem gcd_ext_large_skeletons_no_panic (W : Nat) :
    (∀ ra rb la lb va vb, (fGcdExtLarge W ra rb la lb va vb).panic = none) ∧
    (∀ r len vl d, (fGcdExtLargeDword W r len vl d).panic = none) := by
  constructor
  · intro ra rb la lb va vb
    unfold fGcdExtLarge
    by_cases h : va = vb
    · rw [if_pos h]
    · rw [if_neg h]
  · intro r len vl d
    unfold fGcdExtLargeDword
    by_cases h : d = 0
    · rw [if_pos h]
    · obtain ⟨g, a, bMag, bNeg, hk, _⟩ := NT.gcdExtSmall_spec W vl d (Nat.pos_of_ne_zero h)
      rw [if_neg h, hk]

/-- the `gcd_ext` skeleton panics exactly in the `DoubleWord` arm on `(0, 0)` (C12's `xgcdPrimWide_spec`) -/
theorem fragGcdExt_panic_eq (W : Nat) (f : Form) (a b : List Nat) :
    (fragGcdExt W f a b).panic =
      if (isSmall a && isSmall b) = true ∧ wval W a = 0 ∧ wval W b = 0 then some .gcdZeroZero else none := by
  unfold fragGcdExt
  cases isSmall a <;> cases isSmall b
  · exact (gcd_ext_large_skeletons_no_panic W).1 _ _ _ _ _ _
  · exact (gcd_ext_large_skeletons_no_panic W).2 _ _ _ _
  · exact (gcd_ext_large_skeletons_no_panic W).2 _ _ _ _
  · simp only [Bool.and_self, true_and, if_true]
    by_cases hz : wval W a = 0 ∧ wval W b = 0
    · rw [(NT.xgcdPrimWide_spec W _ _).1 hz, if_pos hz]
    · obtain ⟨res, hx, _⟩ := (NT.xgcdPrimWide_spec W _ _).2 hz
      rw [hx, if_neg hz]

/-- **the `ExtendedGcd::gcd_ext` storage skeleton of `UBig` never hits an internal assert**: in every ownership form and for ANY
    operand words the only panic is the documented `gcd(0, 0)` one (the `DoubleWord` arm, C12's `xgcdPrimWide_spec`), and there
    is none unless both operand values are zero -/
theorem gcd_ext_skeleton_panics_only_on_zero_zero (W : Nat) (f : Form) (a b : List Nat) :
    ((fragGcdExt W f a b).panic = none ∨ (fragGcdExt W f a b).panic = some .gcdZeroZero) ∧
    (¬ (wval W a = 0 ∧ wval W b = 0) → (fragGcdExt W f a b).panic = none) :=
  only_zero_zero (fragGcdExt_panic_eq W f a b)

/-- the same for `gcd` / `gcd_ext` with one or both operands an `IBig` (`fragMixedGcd`: IBig gcd_ext and the mixed UBig/IBig pairs,
    every ownership form, sign pair and operand words): the sign glue adds no panic arm -/
theorem mixed_gcd_skeleton_panics_only_on_zero_zero (W : Nat) (hW : 0 < W) (ext : Bool) (f : Form) (aI na : Bool) (a : List Nat)
    (bI nb : Bool) (b : List Nat) :
    ((fragMixedGcd W ext f aI na a bI nb b).panic = none ∨ (fragMixedGcd W ext f aI na a bI nb b).panic = some .gcdZeroZero) ∧
    (¬ (wval W a = 0 ∧ wval W b = 0) → (fragMixedGcd W ext f aI na a bI nb b).panic = none) := by
  -- the sign glue only touches `ops`
  cases ext
  · exact only_zero_zero (fragGcdTyped_panic_eq W hW _ _ a b)
  · exact only_zero_zero (fragGcdExt_panic_eq W f a b)

-- non-vacuity: gcd_ext of two 4-word operands (gcd_ext_large), of a 4-word and a 2-word operand (gcd_ext_large_dword), and gcd(0, 0)
example : (fragGcdExt 64 .vr [1, 2, 3, 4] [7, 0, 9, 11]).panic = none ∧ (fragGcdExt 64 .rr [6, 0, 0, 3] [4, 1]).panic = none ∧
    (fragGcdExt 64 .vv [] [0]).panic = some .gcdZeroZero ∧
    (fragMixedGcd 64 true .rv true true [1, 2, 3, 4] false false [5, 6, 7]).panic = none := by
  decide +kernel
example := (gcd_ext_skeleton_panics_only_on_zero_zero 64 .vr [1, 2, 3, 4] [7, 0, 9, 11]).2 (by decide)

open Dashu.Model.Text in
/-- per-byte conversion of a raw digit `< 36` is a 7-bit ASCII byte (at most `'z'` = 122) -/
theorem rawToAscii_ascii (c : DigitCase) (d : Nat) (hd : d < 36) : 48 ≤ rawToAscii c d ∧ rawToAscii c d < 128 := by
  unfold rawToAscii
  have ho : c.offset ≤ 39 := by cases c <;> simp [DigitCase.offset]
  split <;> omega

open Dashu.Model.Text in
/-- **fmt/digit_writer.rs, all write sequences**: with the caller contract "raw digits < 36" (every caller passes digits
    of a radix ≤ 36), any sequence of `DigitWriter::write` calls followed by `flush` completes in the mirrored writer —
    which fails with `BufPanic.index` on any slice range outside `[u8; BUFFER_LEN]` and with `.overflow` on a SWAR lane
    overflow — and the bytes that reach `unsafe { str::from_utf8_unchecked(..) }` are the per-byte conversions of the
    digits written, in order, all of them 7-bit ASCII (so the slice is valid UTF-8), for every word size that is a
    multiple of 8 -/
theorem digit_writer_all_writes_in_bounds (W : Nat) (h8 : 8 ∣ W) (hW : 8 ≤ W) (c : DigitCase) (pieces : List (List Nat))
    (hb : ∀ b ∈ pieces, ∀ d ∈ b, d < 36) :
    ∃ out, digitWriterRunS W c pieces = .ok out ∧ out = pieces.flatten.map (rawToAscii c) ∧ ∀ x ∈ out, 48 ≤ x ∧ x < 128 := by
  refine ⟨_, digitWriterRunS_eq W h8 hW c pieces hb, rfl, ?_⟩
  intro x hx
  obtain ⟨d, hd, rfl⟩ := List.mem_map.mp hx
  obtain ⟨b, hbm, hdb⟩ := List.mem_flatten.mp hd
  exact rawToAscii_ascii c d (hb b hbm d hdb)

open Dashu.Model.Text in
/-- the invariant that makes it so, one `write` at a time: from any state with `buffer_len < BUFFER_LEN` a `write` of any
    length succeeds (no `.index`) and re-establishes `buffer_len < BUFFER_LEN` -/
theorem digit_writer_write_keeps_len (W : Nat) (h8 : 8 ∣ W) (hW : 8 ≤ W) (c : DigitCase) (buf : List Nat) (s : DW)
    (hs : s.pending.length < digitWriterLen W) (hp : ∀ d ∈ s.pending, d < 36) (hb : ∀ d ∈ buf, d < 36) :
    ∃ s', DW.writeS W c s buf = .ok s' ∧ s'.pending.length < digitWriterLen W ∧ ∀ d ∈ s'.pending, d < 36 := by
  obtain ⟨s', h1, _, h3, h4⟩ := DW_writeS_spec W h8 hW c buf s hs hp hb
  exact ⟨s', h1, h3, h4⟩

open Dashu.Model.Text in
-- three writes (one empty, one longer than the 32-byte buffer) and the final flush on a 64-bit target
example := digit_writer_all_writes_in_bounds 64 (by decide) (by decide) .lower [[1, 2, 35], [], List.replicate 70 10, [9]] (by decide)

end Dashu.Props.C17Link
