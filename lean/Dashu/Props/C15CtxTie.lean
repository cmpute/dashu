import Dashu.Props.C15FloatAdd
import Dashu.Proofs.Float.Review
/-
  C15, clause "the operator forms agree with the Context method at the same precision", for `+` and `-`, ON THE REGENERATED TEXT:
  the four hand-written variants `add_val_val / add_val_ref / add_ref_val / add_ref_ref` of float/src/add.rs and
  `Context::add` / `Context::sub`, all AS REGENERATED into Gen/FloatAdd.lean on this run, return the same value (and the same
  panic) at `Context::max` of the operand contexts — for all operands.  Before /repo 164990d this was false (zero-operand
  shortcut unrounded); a change of either text that separates them breaks this theorem, not only the sampled correspondence.
-/
set_option linter.unusedSimpArgs false
namespace Dashu.Props.C15CtxTie
open Dashu Dashu.Gen Dashu.GluePrelude Dashu.Proofs.Gen Dashu.Model.Float Dashu.Props.GenFloatOps Dashu.Props.GenFloatAdd
  Dashu.Props.GenFloatForms Dashu.Props.C15FloatAdd

/-- `&a ± &b` as regenerated = the value of `Context::add` / `Context::sub` as regenerated, called at
    `Context::max(a.context, b.context)` -/
theorem add_ref_ref_eq_context (B : Nat) (m : Mode) (c : Coarse) (dub : Int → Nat)
    (ls le : Int) (pl : Nat) (rs re : Int) (pr : Nat) (sg : Sign) :
    add_ref_ref (modelK B m c dub) ⟨⟨ls, le⟩, ⟨(pl : Int)⟩⟩ ⟨⟨rs, re⟩, ⟨(pr : Int)⟩⟩ sg =
      ((match sg with
        | .Positive => Context_add (modelK B m c dub) ⟨((Nat.max pl pr : Nat) : Int)⟩ ⟨ls, le⟩ ⟨rs, re⟩
        | .Negative => Context_sub (modelK B m c dub) ⟨((Nat.max pl pr : Nat) : Int)⟩ ⟨ls, le⟩ ⟨rs, re⟩).map Approx.value) := by
  have h := context_addsub_is_model B m c dub (Nat.max pl pr) ls le rs re sg
  rw [add_ref_ref_is_model, show @Model.Forms.opAddSub = @Model.Float.opAddSub from rfl,
    opAddSub_eq_ctx_all B m c dub _ _ _ _ (rsI_cases sg)]
  cases sg <;>
  · dsimp only at h ⊢
    rw [h]
    split
    · rfl
    · simp only [Except.map, value_map, value_toGA]

/-- `&a + &b` as regenerated = the value of `Context::add` as regenerated, called at `Context::max(a.context, b.context)` -/
theorem add_ref_ref_eq_context_add (B : Nat) (m : Mode) (c : Coarse) (dub : Int → Nat)
    (ls le : Int) (pl : Nat) (rs re : Int) (pr : Nat) :
    add_ref_ref (modelK B m c dub) ⟨⟨ls, le⟩, ⟨(pl : Int)⟩⟩ ⟨⟨rs, re⟩, ⟨(pr : Int)⟩⟩ .Positive =
      (Context_add (modelK B m c dub) ⟨((Nat.max pl pr : Nat) : Int)⟩ ⟨ls, le⟩ ⟨rs, re⟩).map Approx.value :=
  add_ref_ref_eq_context B m c dub ls le pl rs re pr .Positive

/-- `&a - &b` as regenerated = the value of `Context::sub` as regenerated at `Context::max` -/
theorem sub_ref_ref_eq_context_sub (B : Nat) (m : Mode) (c : Coarse) (dub : Int → Nat)
    (ls le : Int) (pl : Nat) (rs re : Int) (pr : Nat) :
    add_ref_ref (modelK B m c dub) ⟨⟨ls, le⟩, ⟨(pl : Int)⟩⟩ ⟨⟨rs, re⟩, ⟨(pr : Int)⟩⟩ .Negative =
      (Context_sub (modelK B m c dub) ⟨((Nat.max pl pr : Nat) : Int)⟩ ⟨ls, le⟩ ⟨rs, re⟩).map Approx.value :=
  add_ref_ref_eq_context B m c dub ls le pl rs re pr .Negative

/-- **all four variants of `FBig ± FBig` = the Context method at Context::max, on the regenerated text, for all operands** -/
theorem float_addsub_forms_eq_context (B : Nat) (m : Mode) (c : Coarse) (dub : Int → Nat) (hdub : ∀ x, dub (-x) = dub x)
    (ls le : Int) (pl : Nat) (rs re : Int) (pr : Nat) (sg : Sign)
    (f : GluePrelude.FloatK Unit → GluePrelude.FBig → GluePrelude.FBig → Sign → Except GluePrelude.Panic GluePrelude.FBig)
    (hf : f = add_val_val ∨ f = add_val_ref ∨ f = add_ref_val ∨ f = add_ref_ref) :
    f (modelK B m c dub) ⟨⟨ls, le⟩, ⟨(pl : Int)⟩⟩ ⟨⟨rs, re⟩, ⟨(pr : Int)⟩⟩ sg =
      ((match sg with
        | .Positive => Context_add (modelK B m c dub) ⟨((Nat.max pl pr : Nat) : Int)⟩ ⟨ls, le⟩ ⟨rs, re⟩
        | .Negative => Context_sub (modelK B m c dub) ⟨((Nat.max pl pr : Nat) : Int)⟩ ⟨ls, le⟩ ⟨rs, re⟩).map Approx.value) := by
  obtain ⟨h1, h2, h3⟩ := float_add_forms_agree B m c dub hdub ls le pl rs re pr sg
  have hrr := add_ref_ref_eq_context B m c dub ls le pl rs re pr sg
  rcases hf with rfl | rfl | rfl | rfl
  · rw [h1, hrr]
  · rw [h2, hrr]
  · rw [h3, hrr]
  · exact hrr

-- non-vacuity, on the witness of the repaired defect: 0 (p = 2) + 74565 (unlimited) — every variant and Context::add give 75e3
example : add_val_val (modelK 10 .halfAway coarseNone (fun v => v.natAbs)) ⟨⟨0, 0⟩, ⟨(2 : Nat)⟩⟩ ⟨⟨74565, 0⟩, ⟨(0 : Nat)⟩⟩ .Positive =
    (Context_add (modelK 10 .halfAway coarseNone (fun v => v.natAbs)) ⟨((Nat.max 2 0 : Nat) : Int)⟩ ⟨0, 0⟩ ⟨74565, 0⟩).map Approx.value :=
  float_addsub_forms_eq_context 10 .halfAway coarseNone (fun v => v.natAbs) (dub_of_magnitude id) 0 0 2 74565 0 0 .Positive
    add_val_val (Or.inl rfl)

end Dashu.Props.C15CtxTie
