import Dashu.Proofs.Float.QRound
/-
  C10, rationals: the mirrored `rational/src/round.rs` — `Repr::{split_at_point, ceil, floor, trunc, fract, round}`
  (`QRepr.*` in `Model/Float/QRound.lean`, the definitions the driver executes) and the twelve public entry points
  `RBig::{…}` / `Relaxed::{…}` that wrap them.  For every numerator and every positive denominator, reduced or not:
  each integer result is the neighbour its name prescribes; `fract` has the operand's sign, magnitude `< 1`, and
  `x = trunc x + fract x`; `split_at_point = (trunc, fract)`; and the results of `fract` / `split_at_point` are valid
  values of their type although the code does not reduce them ("no need to reduce here"): lowest terms stay lowest
  terms (`RBig`), "not both even, zero is 0/1" stays so (`Relaxed`).
-/
namespace Dashu.Props.C10Ratio
open Dashu Dashu.Model.Float Dashu.Props.GenRound

/-! ### `Repr` level (shared by both types) -/

theorem repr_trunc_correct (x : QRepr) (hden : 0 < x.den) : IsTowardZero x.num x.den x.trunc := by
  rw [QRepr.trunc_eq]; exact qTrunc_spec x.num x.den hden

theorem repr_floor_correct (x : QRepr) (hden : 0 < x.den) : IsFloor x.num x.den x.floor := by
  rw [QRepr.floor_eq]; exact qFloor_spec x.num x.den hden

theorem repr_ceil_correct (x : QRepr) (hden : 0 < x.den) : IsCeil x.num x.den x.ceil := by
  rw [QRepr.ceil_eq]; exact qCeil_spec x.num x.den hden

/-- nearest integer, ties away from zero -/
theorem repr_round_correct (x : QRepr) (hden : 0 < x.den) : IsNearestAway x.num x.den x.round := by
  rw [QRepr.round_eq]; exact qRound_spec x.num x.den hden

/-- `x = trunc x + fract x`, cross-multiplied (`fract = fn / fd`): `num · fd = (trunc · fd + fn) · den` -/
theorem repr_trunc_add_fract (x : QRepr) :
    x.num * (x.fract.den : Int) = (x.trunc * (x.fract.den : Int) + x.fract.num) * (x.den : Int) :=
  QRepr.trunc_add_fract x

/-- `|fract x| < 1`, with the sign of `x` -/
theorem repr_fract_range (x : QRepr) (hden : 0 < x.den) :
    |x.fract.num| < (x.fract.den : Int) ∧ (0 ≤ x.num → 0 ≤ x.fract.num) ∧ (x.num ≤ 0 → x.fract.num ≤ 0) := by
  obtain ⟨_, b, c, d⟩ := tdiv_tmod_abs x.num x.den (Int.natCast_pos.mpr hden)
  rw [QRepr.fract_num, QRepr.fract_den]
  refine ⟨?_, fun h => (c h).1, fun h => (d h).1⟩
  split
  · next h0 => rw [h0]; simp
  · exact b

theorem repr_split_at_point_eq (x : QRepr) : x.splitAtPoint = (x.trunc, x.fract) := QRepr.splitAtPoint_eq x

/-! ### `RBig` entry points (`x.IsRBig`: positive denominator, lowest terms) -/

theorem rbig_entry_points (x : QRepr) (h : x.IsRBig) :
    IsTowardZero x.num x.den (rbigTrunc x) ∧ IsFloor x.num x.den (rbigFloor x) ∧ IsCeil x.num x.den (rbigCeil x) ∧
    IsNearestAway x.num x.den (rbigRound x) ∧
    rbigSplitAtPoint x = (rbigTrunc x, rbigFract x) ∧ (rbigFract x).IsRBig ∧
    x.num * ((rbigFract x).den : Int) = (rbigTrunc x * ((rbigFract x).den : Int) + (rbigFract x).num) * (x.den : Int) :=
  ⟨repr_trunc_correct x h.1, repr_floor_correct x h.1, repr_ceil_correct x h.1, repr_round_correct x h.1,
   rfl, QRepr.fract_isRBig x h, QRepr.trunc_add_fract x⟩

/-! ### `Relaxed` entry points (`x.IsRelaxed`: positive denominator, not both even, zero is `0/1`) -/

theorem relaxed_entry_points (x : QRepr) (h : x.IsRelaxed) :
    IsTowardZero x.num x.den (relaxedTrunc x) ∧ IsFloor x.num x.den (relaxedFloor x) ∧
    IsCeil x.num x.den (relaxedCeil x) ∧ IsNearestAway x.num x.den (relaxedRound x) ∧
    relaxedSplitAtPoint x = (relaxedTrunc x, relaxedFract x) ∧ (relaxedFract x).IsRelaxed ∧
    x.num * ((relaxedFract x).den : Int) =
      (relaxedTrunc x * ((relaxedFract x).den : Int) + (relaxedFract x).num) * (x.den : Int) :=
  ⟨repr_trunc_correct x h.1, repr_floor_correct x h.1, repr_ceil_correct x h.1, repr_round_correct x h.1,
   rfl, QRepr.fract_isRelaxed x h, QRepr.trunc_add_fract x⟩

/-! ### non-vacuity -/

-- −22/12 enters `RBig` as −11/6 and `Relaxed` as −11/6; 15/9 stays 15/9 in `Relaxed` (5/3 in `RBig`)
example : rbigFromParts (-22) 12 = ⟨-11, 6⟩ ∧ relaxedFromParts (-22) 12 = ⟨-11, 6⟩ ∧
    rbigFromParts 15 9 = ⟨5, 3⟩ ∧ relaxedFromParts 15 9 = ⟨15, 9⟩ := by decide +kernel
example : (⟨5, 3⟩ : QRepr).IsRBig ∧ (⟨15, 9⟩ : QRepr).IsRelaxed := by
  refine ⟨⟨by decide, by decide⟩, ⟨by decide, by decide, by decide⟩⟩
-- the unreduced fraction of a `Relaxed`: 15/9 = 1 + 6/9; a tie away from zero: round(−5/2) = −3
example : relaxedSplitAtPoint ⟨15, 9⟩ = (1, ⟨6, 9⟩) ∧ rbigSplitAtPoint ⟨5, 3⟩ = (1, ⟨2, 3⟩) ∧
    rbigRound ⟨-5, 2⟩ = -3 ∧ rbigFloor ⟨-5, 2⟩ = -3 ∧ rbigCeil ⟨-5, 2⟩ = -2 ∧ rbigTrunc ⟨-5, 2⟩ = -2 ∧
    rbigFract ⟨4, 2⟩ = ⟨0, 1⟩ := by decide +kernel

end Dashu.Props.C10Ratio
