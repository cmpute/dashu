import Dashu.Gen.IntOps
import Dashu.Proofs.Gen.Basic
/-
  Tie A theorems for C05 / C09: the sign handling of `Ord for IBig` and of `IBig >> usize` (both ownership
  forms) AS REGENERATED from /repo on this run equals the mathematical operation on `Int`: the order of the
  integers, and the floor shift `x / 2^n` (rounding toward −∞ for a negative operand — two's complement
  arithmetic shift), for all operands.  Core Lean only.
-/
namespace Dashu.Props.GenIntOps
open Dashu Dashu.Gen Dashu.GluePrelude Dashu.Proofs.Gen

theorem compare_of_sub_eq {a b c d : Int} (h : b - a = d - c) : compare a b = compare c d := by
  rcases Int.lt_trichotomy a b with h' | h' | h'
  · rw [Int.compare_eq_lt.mpr h', Int.compare_eq_lt.mpr (by omega)]
  · rw [Int.compare_eq_eq.mpr h', Int.compare_eq_eq.mpr (by omega)]
  · rw [Int.compare_eq_gt.mpr h', Int.compare_eq_gt.mpr (by omega)]

/-- **`Ord for IBig` as regenerated = the order of the integers** -/
theorem ibig_cmp_is_int_order (a b : Int) : IBig_cmp a b = compare a b := by
  unfold IBig_cmp
  simp only [as_sign_repr, sign_int, cmp_int, Int.ofNat_eq_natCast]
  by_cases ha : a < 0 <;> by_cases hb : b < 0 <;> simp only [ha, hb, if_true, if_false]
  · -- both negative: the magnitudes are compared the other way round
    exact compare_of_sub_eq (by omega)
  · rw [Int.compare_eq_lt.mpr (by omega)]
  · rw [Int.compare_eq_gt.mpr (by omega)]
  · exact compare_of_sub_eq (by omega)

theorem neg_floor_div (m d : Int) (hd : 0 < d) :
    (-m) / d = -(m / d) - (if m % d ≠ 0 then 1 else 0) := by
  rw [Int.neg_ediv, Int.sign_eq_one_of_pos hd]
  simp only [Int.dvd_iff_emod_eq_zero, ne_eq, ite_not]

/-- **`IBig >> usize` as regenerated = the floor shift** `x / 2^n` (`Int.shiftRight`), for both ownership forms -/
theorem ibig_shr_is_floor_shift (x : Int) (n : Nat) :
    IBig_shr x (n : Int) = x / 2 ^ n ∧ IBig_ref_shr x (n : Int) = x / 2 ^ n := by
  have hd : (0 : Int) < 2 ^ n := Int.pow_pos (by omega)
  unfold IBig_shr IBig_ref_shr
  simp only [as_sign_repr, sign_int, shr_, are_low_bits_nonzero, b2i, sub_int, neg_int, Int.toNat_natCast, Int.ofNat_eq_natCast]
  by_cases hx : x < 0
  · have e : ((x.natAbs : Nat) : Int) = -x := by omega
    simp only [hx, if_true, e, decide_eq_true_eq, ← neg_floor_div (-x) _ hd, Int.neg_neg, and_self]
  · have e : ((x.natAbs : Nat) : Int) = x := by omega
    simp only [hx, if_false, e, and_self]

/-- and that is `Int.shiftRight` of core Lean -/
theorem ibig_shr_is_shiftRight (x : Int) (n : Nat) : IBig_shr x (n : Int) = x >>> n := by
  rw [(ibig_shr_is_floor_shift x n).1, Int.shiftRight_eq_div_pow]
  simp

-- non-vacuity: -5 >> 1 = -3 (toward −∞), and the comparison of two negatives
example : IBig_shr (-5) 1 = -3 := by decide
example : IBig_cmp (-5) (-3) = Ordering.lt := by decide

end Dashu.Props.GenIntOps
