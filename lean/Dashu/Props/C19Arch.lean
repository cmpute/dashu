import Dashu.Gen.ArchAdd
import Mathlib.Tactic.Ring
import Mathlib.Tactic.Linarith
/-
  C19 clause (1), the architecture layer (integer/src/arch/**), Tie A.

  `Gen/ArchAdd.lean` is REGENERATED from the Rust source on every run (vlib/extract_archadd.py): the bodies
  of `add_with_carry` / `sub_with_borrow` of arch/generic/add.rs (used by every `generic_<n>_bit` module, i.e.
  by every `force_bits` build) and of arch/x86/add.rs, arch/x86_64/add.rs (one intrinsic each, used by the
  native builds), the tables of the `arch/<module>/mod.rs` files, the `Word` types and the cfg_if chain of
  arch/mod.rs.  The theorems:

  * every regenerated routine is the carry arithmetic of the word-level models (`s % 2^W`, `s / 2^W` — how
    `Model/Int/*.lean` writes `add_with_carry` / `sub_with_borrow`), for EVERY word size;
  * the intrinsic routines equal the generic ones at their word size (so a native 64-bit build and a
    `force_bits = "64"` build run the same function; likewise x86 and `force_bits = "32"`);
  * two `W`-bit steps chained through the carry are one `2W`-bit step (the 32-bit module against the 64-bit
    module on the same number);
  * the module tables: every selectable module takes `digits` from the one generic file (whose SWAR routine
    C07 proves for every word size), takes `add` from a file whose routine is proved here at the module's word
    size, and every `force_bits = "<n>"` arm selects a module with `n`-bit words.
-/
namespace Dashu.Props.C19
open Dashu.Model.Arch Dashu.Gen.ArchAdd

/-- carry-in as a number -/
def cin (c : Bool) : Nat := if c then 1 else 0

theorem pow_pos' (W : Nat) : 0 < 2 ^ W := Nat.pos_of_ne_zero (by positivity)

theorem cin_le_one (c : Bool) : cin c ≤ 1 := by cases c <;> decide

theorem bne_zero (x : Nat) : (x != 0) = decide (x ≠ 0) := by cases x <;> rfl

/-- arch/generic/add.rs `add_with_carry` = `(s % 2^W, s / 2^W ≠ 0)` with `s = a + b + carry`, every word size -/
theorem generic_add_with_carry_spec (W a b : Nat) (c : Bool) (ha : a < 2 ^ W) (hb : b < 2 ^ W) :
    generic_add_with_carry W a b c = ((a + b + cin c) % 2 ^ W, decide ((a + b + cin c) / 2 ^ W ≠ 0)) ∧
    (a + b + cin c) / 2 ^ W ≤ 1 := by
  have hp := pow_pos' W
  have hc := cin_le_one c
  refine ⟨?_, Nat.lt_succ_iff.1 ((Nat.div_lt_iff_lt_mul hp).2 (by omega))⟩
  show (((a + b) % 2 ^ W + cin c) % 2 ^ W, (decide (2 ^ W ≤ a + b) || decide (2 ^ W ≤ (a + b) % 2 ^ W + cin c))) = _
  -- the sum: `Nat.mod_add_mod`; the carries: the second addition can only wrap if the first did not
  rw [Nat.mod_add_mod, ← Bool.decide_or]
  congr 1
  refine decide_eq_decide.2 ?_
  rw [Nat.div_ne_zero_iff, and_iff_right hp.ne']
  by_cases h : 2 ^ W ≤ a + b
  · omega
  · rw [Nat.mod_eq_of_lt (Nat.not_le.1 h)]
    omega

/-- arch/generic/add.rs `sub_with_borrow` = `(a − b − borrow mod 2^W, a < b + borrow)`, every word size -/
theorem generic_sub_with_borrow_spec (W a b : Nat) (c : Bool) (ha : a < 2 ^ W) (hb : b < 2 ^ W) :
    generic_sub_with_borrow W a b c =
      ((a + 2 ^ (W + 1) - (b + cin c)) % 2 ^ W, decide (a < b + cin c)) := by
  have hp := pow_pos' W
  have hc := cin_le_one c
  show (((a + 2 ^ W - b) % 2 ^ W + 2 ^ W - cin c) % 2 ^ W,
    (decide (a < b) || decide ((a + 2 ^ W - b) % 2 ^ W < cin c))) = _
  rw [Nat.add_sub_assoc (by omega), Nat.mod_add_mod, ← Bool.decide_or, Nat.pow_succ]
  congr 2
  · omega
  · -- the second subtraction can only borrow if the first did not (then `a − b < 2^W` is the first difference)
    rw [eq_iff_iff]
    by_cases h : a < b
    · omega
    · rw [show a + 2 ^ W - b = a - b + 2 ^ W by omega, Nat.add_mod_right, Nat.mod_eq_of_lt (by omega)]
      omega

/-- the native routines (one `_addcarry_uN` / `_subborrow_uN` each) are the generic routines at their word
    size: arch/x86_64 ↔ generic at 64 bits, arch/x86 ↔ generic at 32 bits -/
theorem intrinsic_routines_eq_generic (a b : Nat) (c : Bool) :
    (a < 2 ^ 64 → b < 2 ^ 64 → x86_64_add_with_carry a b c = generic_add_with_carry 64 a b c ∧
        x86_64_sub_with_borrow a b c = generic_sub_with_borrow 64 a b c) ∧
    (a < 2 ^ 32 → b < 2 ^ 32 → x86_add_with_carry a b c = generic_add_with_carry 32 a b c ∧
        x86_sub_with_borrow a b c = generic_sub_with_borrow 32 a b c) := by
  have key : ∀ N, a < 2 ^ N → b < 2 ^ N →
      ((intrinsic_addcarry N (word_from_bool c) a b).2, (intrinsic_addcarry N (word_from_bool c) a b).1 != 0) =
        generic_add_with_carry N a b c ∧
      ((intrinsic_subborrow N (word_from_bool c) a b).2, (intrinsic_subborrow N (word_from_bool c) a b).1 != 0) =
        generic_sub_with_borrow N a b c := by
    intro N ha hb
    have hc : (if word_from_bool c = 0 then 0 else 1) = cin c := by cases c <;> rfl
    rw [(generic_add_with_carry_spec N a b c ha hb).1, generic_sub_with_borrow_spec N a b c ha hb]
    unfold intrinsic_addcarry intrinsic_subborrow
    simp only [hc, bne_zero, true_and]
    congr 1
    refine decide_eq_decide.2 ?_
    split
    · exact iff_of_true Nat.one_ne_zero ‹_›
    · exact iff_of_false (fun h => h rfl) ‹_›
  exact ⟨fun ha hb => key 64 ha hb, fun ha hb => key 32 ha hb⟩

theorem lt_sq {P x0 x1 : Nat} (h0 : x0 < P) (h1 : x1 < P) : x0 + P * x1 < P * P :=
  calc x0 + P * x1 < P * (x1 + 1) := by rw [Nat.mul_succ]; omega
    _ ≤ P * P := Nat.mul_le_mul_left _ h1

/-- word size: two `W`-bit `add_with_carry` steps chained through the carry are one `2W`-bit step — the
    32-bit module and the 64-bit module add the same number -/
theorem add_with_carry_two_words (W a0 a1 b0 b1 : Nat) (c : Bool)
    (h0 : a0 < 2 ^ W) (h1 : a1 < 2 ^ W) (g0 : b0 < 2 ^ W) (g1 : b1 < 2 ^ W) :
    (generic_add_with_carry W a0 b0 c).1 +
        2 ^ W * (generic_add_with_carry W a1 b1 (generic_add_with_carry W a0 b0 c).2).1 =
      (generic_add_with_carry (2 * W) (a0 + 2 ^ W * a1) (b0 + 2 ^ W * b1) c).1 ∧
    (generic_add_with_carry W a1 b1 (generic_add_with_carry W a0 b0 c).2).2 =
      (generic_add_with_carry (2 * W) (a0 + 2 ^ W * a1) (b0 + 2 ^ W * b1) c).2 := by
  have hpp : 2 ^ (2 * W) = 2 ^ W * 2 ^ W := by rw [two_mul, Nat.pow_add]
  obtain ⟨e0, hq⟩ := generic_add_with_carry_spec W a0 b0 c h0 g0
  have ecarry : cin (decide ((a0 + b0 + cin c) / 2 ^ W ≠ 0)) = (a0 + b0 + cin c) / 2 ^ W := by
    rcases Nat.le_one_iff_eq_zero_or_eq_one.1 hq with h | h <;> rw [h] <;> rfl
  rw [e0, (generic_add_with_carry_spec (2 * W) _ _ c (hpp ▸ lt_sq h0 h1) (hpp ▸ lt_sq g0 g1)).1,
    (generic_add_with_carry_spec W a1 b1 _ h1 g1).1, ecarry, hpp]
  -- the `2W`-bit sum is `s0 + 2^W·(a1 + b1)` with `s0` the low sum; split it at `2^W`
  rw [show a0 + 2 ^ W * a1 + (b0 + 2 ^ W * b1) + cin c = a0 + b0 + cin c + 2 ^ W * (a1 + b1) by ring,
    Nat.mod_mul, ← Nat.div_div_eq_div_mul, Nat.add_mul_mod_self_left, Nat.add_mul_div_left _ _ (pow_pos' W),
    Nat.add_comm (a1 + b1)]
  exact ⟨rfl, rfl⟩

example : generic_add_with_carry 32 0xffffffff 1 false = (0, true) ∧
    generic_add_with_carry 64 0xffffffff 1 false = (0x100000000, false) ∧
    generic_sub_with_borrow 32 0 0 true = (0xffffffff, true) ∧
    x86_64_add_with_carry 0xffffffffffffffff 0 true = (0, true) := by decide

/-- which routine a module's `add` file provides -/
def addOf (file : String) (W a b : Nat) (c : Bool) : Option (Nat × Bool) :=
  if file = "generic/add.rs" then some (generic_add_with_carry W a b c)
  else if file = "x86/add.rs" ∧ W = 32 then some (x86_add_with_carry a b c)
  else if file = "x86_64/add.rs" ∧ W = 64 then some (x86_64_add_with_carry a b c)
  else none

/-- the regenerated tables of arch/*/mod.rs, arch/*/word.rs and the cfg_if chain of arch/mod.rs: every arm selects a
    listed module; every module takes `digits` from arch/generic/digits.rs and `add` from a file whose routine is proved
    above at the module's word size (8 ∣ W, as the byte-level code of C07 requires); `force_bits = "<n>"` selects `n`-bit
    words; the chain ends in an `else` arm (every target is covered) -/
theorem arch_tables_consistent :
    (∀ s ∈ arch_selection, ∃ m ∈ arch_modules, m.1 = s.2.2) ∧
    (∀ m ∈ arch_modules, m.2.2.2.1 = "generic/digits.rs" ∧ 8 ∣ m.2.1 ∧ 8 ≤ m.2.1 ∧
        (m.2.2.1 = "generic/add.rs" ∨ (m.2.2.1 = "x86/add.rs" ∧ m.2.1 = 32) ∨ (m.2.2.1 = "x86_64/add.rs" ∧ m.2.1 = 64))) ∧
    (∀ s ∈ arch_selection, s.1 = "force_bits" →
        ∃ m ∈ arch_modules, m.1 = s.2.2 ∧ toString m.2.1 = s.2.1 ∧ m.2.2.1 = "generic/add.rs") ∧
    (arch_selection.getLast?.map (·.1)) = some "else" := by
  refine ⟨by decide, by decide, by decide, by decide⟩

/-- hence: in EVERY selectable module, `add_with_carry` is the same carry arithmetic at the module's word size -/
theorem every_module_add_with_carry (m : String × Nat × String × String × String × String) (hm : m ∈ arch_modules)
    (a b : Nat) (c : Bool) (ha : a < 2 ^ m.2.1) (hb : b < 2 ^ m.2.1) :
    addOf m.2.2.1 m.2.1 a b c =
      some ((a + b + cin c) % 2 ^ m.2.1, decide ((a + b + cin c) / 2 ^ m.2.1 ≠ 0)) := by
  obtain ⟨_, _, _, hfile⟩ := arch_tables_consistent.2.1 m hm
  obtain ⟨name, W, addf, digf, wf, nf⟩ := m
  simp only at ha hb hfile ⊢
  rcases hfile with rfl | ⟨rfl, rfl⟩ | ⟨rfl, rfl⟩
  · exact congrArg some (generic_add_with_carry_spec _ a b c ha hb).1
  · exact congrArg some (((intrinsic_routines_eq_generic a b c).2 ha hb).1.trans
      (generic_add_with_carry_spec 32 a b c ha hb).1)
  · exact congrArg some (((intrinsic_routines_eq_generic a b c).1 ha hb).1.trans
      (generic_add_with_carry_spec 64 a b c ha hb).1)

end Dashu.Props.C19
