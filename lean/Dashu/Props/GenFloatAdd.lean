import Dashu.Props.GenFloatOps
/-
  Tie A theorems about `float/src/add.rs` AS REGENERATED on this run (`Dashu/Gen/FloatAdd.lean`): the
  alignment decisions of `repr_add_large_small` / `repr_add_small_large` (which operand is shifted, when
  the small operand lies entirely below the precision window, how many digits go to the low part), the
  re-alignment of `repr_round_sum` and the zero / equal-exponent dispatch of `Context::add` / `sub`,
  with the digit kernels of `Model/Float` plugged in, ARE the functions of the hand-written model that
  the C03 driver executes and `Props/C03.lean` proves correct — for all inputs.  Core Lean only.
-/
set_option linter.unusedSimpArgs false
namespace Dashu.Props.GenFloatAdd
open Dashu Dashu.Gen Dashu.GluePrelude Dashu.Proofs.Gen Dashu.Model.Float Dashu.Props.GenFloatOps

theorem gmin_cast (a b : Nat) : GluePrelude.min (a : Int) (b : Int) = ((Min.min a b : Nat) : Int) := by
  unfold GluePrelude.min; split <;> omega

theorem gmin_cast_sub (lp p d : Nat) (h : d ≤ p) :
    GluePrelude.min (lp : Int) ((p : Int) - (d : Int)) = ((Min.min lp (p - d) : Nat) : Int) := by
  rw [← gmin_cast]; congr 1; omega

theorem cast_sub_le (a k : Nat) (h : k ≤ a) : (a : Int) - (k : Int) = ((a - k : Nat) : Int) := by omega

/-- the normal-exit part shared by all branches of `repr_round_sum`: the final rounding step -/
theorem round_sum_tail (B : Nat) (m : Mode) (c : Coarse) (_dub : Int → Nat) (sg ex lv : Int) (lp : Nat) :
    (if decide (lv = 0) = true then Approx.Exact (toG (Model.Float.FRepr.new B sg ex))
     else Approx.Inexact (toG (Model.Float.FRepr.new B (int_add_rounding sg (roundFract B m c sg lv ((lp : Int)).toNat)) ex))
        (roundFract B m c sg lv ((lp : Int)).toNat)) =
    toGA toG (if lv = 0 then (Model.Float.FRepr.new B sg ex, none)
      else (Model.Float.FRepr.new B (sg + rInt (roundFract B m c sg lv lp)) ex, some (roundFract B m c sg lv lp))) := by
  by_cases h : lv = 0 <;> simp [h, toGA, int_add_rounding_eq]

/-- **`Context::repr_round_sum` as regenerated = `Model.Float.reprRoundSum`** -/
theorem repr_round_sum_is_model (B : Nat) (m : Mode) (c : Coarse) (dub : Int → Nat) (p : Nat) (signif exp : Int)
    (low : Int × Nat) (isSub : Bool) :
    Context_repr_round_sum (modelK B m c dub) ⟨(p : Int)⟩ signif exp (low.1, (low.2 : Int)) isSub =
      toGA toG (reprRoundSum B m c p signif exp low isSub) := by
  obtain ⟨lv, lp⟩ := low
  by_cases h3 : p = 0
  · subst h3
    simp [Context_repr_round_sum, reprRoundSum, Context_is_limited, modelK, toGA]
  have h3' : ¬ ((p : Int) = 0) := by omega
  -- the rounding precision as a natural number on both sides
  generalize hr : (p + (if isSub = true then 1 else 0) : Nat) = rp
  have hr' : (p : Int) + b2i isSub = (rp : Int) := by subst hr; cases isSub <;> simp [b2i]
  have hr'' : b2i isSub + (p : Int) = (rp : Int) := by omega
  unfold Context_repr_round_sum reprRoundSum
  simp only [Context_is_limited, ne_int, h3', h3, decide_false, Bool.not_false, Bool.not_true, if_false, if_true,
    Bool.false_eq_true, add_int, sub_int, hr', hr'', hr, modelK, cmp_int, compare_natCast, is_zero_int]
  rcases nat_tri (digitsI B signif) rp with ⟨h_lt, h_ne, h_ngt, h_nge, h_le, h_cmp⟩ | ⟨h_nlt, h_eq, h_ngt, h_ge, h_le, h_cmp⟩ |
        ⟨h_nlt, h_ne, h_gt, h_ge, h_nle, h_cmp⟩
  · -- fewer digits than the rounding precision: pad from the low part
    by_cases hl : lv = 0
    · subst hl
      simp [h_cmp, h_ne, h_ngt, toGA]
    · have e1 := gmin_cast_sub lp rp (digitsI B signif) h_le
      have e2 := cast_sub_le lp (Min.min lp (rp - digitsI B signif)) (Nat.min_le_left _ _)
      simp only [h_cmp, h_ne, h_ngt, gt_iff_lt, hl, decide_false, if_true, if_false, e1, e2, Int.toNat_natCast,
        ne_eq, not_false_eq_true, Bool.false_eq_true]
      have := round_sum_tail B m c dub
        (shlDigits B signif (Min.min lp (rp - digitsI B signif)) + (splitDigits B lv (lp - Min.min lp (rp - digitsI B signif))).1)
        (exp - ((Min.min lp (rp - digitsI B signif) : Nat) : Int)) (splitDigits B lv (lp - Min.min lp (rp - digitsI B signif))).2
        (lp - Min.min lp (rp - digitsI B signif))
      simp only [Int.toNat_natCast, Int.add_comm] at this ⊢
      exact this
  · -- exactly the rounding precision
    simp only [h_eq, compare_self_nat, if_true, Int.toNat_natCast]
    exact round_sum_tail B m c dub _ _ _ _
  · -- more digits: shrink, the cut-off digits join the low part
    have e1 := nat_sub_cast (digitsI B signif) rp h_gt
    have e2 : (lp : Int) + ((digitsI B signif - rp : Nat) : Int) = ((lp + (digitsI B signif - rp) : Nat) : Int) := by omega
    have e3 : ((digitsI B signif - rp : Nat) : Int) + (lp : Int) = ((lp + (digitsI B signif - rp) : Nat) : Int) := by omega
    simp only [h_cmp, h_ne, h_gt, gt_iff_lt, if_true, if_false, e1, e2, e3, Int.toNat_natCast]
    have := round_sum_tail B m c dub (splitDigits B signif (digitsI B signif - rp)).1 (exp + ((digitsI B signif - rp : Nat) : Int))
      (lv + shlDigits B (splitDigits B signif (digitsI B signif - rp)).2 lp) (lp + (digitsI B signif - rp))
    simp only [Int.toNat_natCast, Int.add_comm] at this ⊢
    exact this

/-- `Sign` of the source as the factor `±1` of the hand model -/
def rsI : Sign → Int
  | .Positive => 1
  | .Negative => -1

theorem sign_mul_int_eq (sg : Sign) (x : Int) : sign_mul_int sg x = rsI sg * x := by
  cases sg <;> simp [sign_mul_int, Sign.apply, rsI]

theorem is_sub_eq (sg : Sign) (ls rs : Int) (hl : ls ≠ 0) (hr : rs ≠ 0) :
    ne_ (mul_ sg (sign rs)) (sign ls) = decide (sgn ls ≠ rsI sg * sgn rs) := by
  simp only [sign_int, sgn, ne_def, mul_]
  by_cases h1 : ls < 0 <;> by_cases h2 : rs < 0 <;> cases sg <;> simp [h1, h2, hl, hr, rsI] <;> decide

theorem one_add_cast (a : Nat) : (1 : Int) + (a : Int) = ((a + 1 : Nat) : Int) := by omega

theorem signum_eq (x : Int) : signum x = sgn x := rfl

/-- **`Context::repr_add_large_small` as regenerated = `Model.Float.reprAddLargeSmall`** (`lhs.exponent ≥ rhs.exponent`,
    both operands non-zero: the preconditions under which `add.rs` calls it) -/
theorem repr_add_large_small_is_model (B : Nat) (m : Mode) (c : Coarse) (dub : Int → Nat) (p : Nat) (ls le rs re : Int) (sg : Sign)
    (hle : re ≤ le) (hl0 : ls ≠ 0) (hr0 : rs ≠ 0) :
    Context_repr_add_large_small (modelK B m c dub) ⟨(p : Int)⟩ ⟨ls, le⟩ ⟨rs, re⟩ sg =
      toGA toG (reprAddLargeSmall B m c dub p ⟨ls, le⟩ ⟨rs, re⟩ (rsI sg)) := by
  obtain ⟨ed, hed⟩ : ∃ ed : Nat, le - re = (ed : Int) := ⟨(le - re).toNat, by omega⟩
  unfold Context_repr_add_large_small reprAddLargeSmall
  simp only [is_sub_eq sg ls rs hl0 hr0, Context_is_limited, Model.Float.FRepr.digits, modelK, sub_int, hed, Int.toNat_natCast,
    signum_eq, sign_mul_int_eq]
  generalize hsub : decide (sgn ls ≠ rsI sg * sgn rs) = isSub
  generalize hr : (p + (if isSub = true then 1 else 0) : Nat) = rp
  have hr' : add_ (p : Int) (b2i isSub) = (rp : Int) := by subst hr; cases isSub <;> simp [b2i]
  simp only [hr']
  simp only [ne_int, lt_int, le_int, add_int, one_add_cast, ← Int.natCast_add, Int.ofNat_lt, Int.ofNat_le, Int.natCast_eq_zero, ge_iff_le, gt_iff_lt,
    Nat.add_comm, decide_eq_true_eq, Bool.and_eq_true, Bool.not_eq_true', decide_eq_false_iff_not, ne_eq, and_assoc]
  by_cases c1 : ¬p = 0 ∧ dub rs + 1 < ed ∧ rp + (dub rs + 1) < ed + digitsI B ls
  · simp only [c1, not_false_eq_true, and_self, if_true]
    by_cases c4 : rp ≤ digitsI B ls
    · simp only [c4, if_true]
      exact repr_round_sum_is_model B m c dub p ls le (rsI sg * sgn rs, 2) isSub
    · have e1 : (2 : Int) + ((rp : Int) - (digitsI B ls : Int)) = ((2 + (rp - digitsI B ls) : Nat) : Int) := by omega
      simp only [c4, if_false, e1]
      exact repr_round_sum_is_model B m c dub p ls le (rsI sg * sgn rs, 2 + (rp - digitsI B ls)) isSub
  simp only [c1, if_false]
  by_cases c2 : ¬p = 0 ∧ p ≤ digitsI B ls
  · simp only [c2, not_false_eq_true, and_self, if_true, Int.add_comm (rsI sg * _) ls]
    exact repr_round_sum_is_model B m c dub p (ls + rsI sg * (splitDigits B rs ed).1) le (rsI sg * (splitDigits B rs ed).2, ed) isSub
  simp only [c2, if_false]
  by_cases c3 : ¬p = 0 ∧ p < ed + digitsI B ls
  · have e1 : (p : Int) - (digitsI B ls : Int) = ((p - digitsI B ls : Nat) : Int) := by omega
    have e2 : (ed : Int) - ((p - digitsI B ls : Nat) : Int) = ((ed - (p - digitsI B ls) : Nat) : Int) := by omega
    simp only [c3, not_false_eq_true, and_self, if_true, e1, e2, Int.toNat_natCast, Int.add_comm (rsI sg * _) (shlDigits _ _ _)]
    exact repr_round_sum_is_model B m c dub p
      (shlDigits B ls (p - digitsI B ls) + rsI sg * (splitDigits B rs (ed - (p - digitsI B ls))).1)
      (le - ((p - digitsI B ls : Nat) : Int)) (rsI sg * (splitDigits B rs (ed - (p - digitsI B ls))).2, ed - (p - digitsI B ls)) isSub
  · simp only [c3, if_false]
    rw [← repr_round_sum_is_model]
    cases sg <;> simp only [rsI, Int.one_mul, Int.neg_mul, Int.sub_eq_add_neg] <;> rfl

theorem rsI_cases (sg : Sign) : rsI sg = 1 ∨ rsI sg = -1 := by cases sg <;> simp [rsI]

theorem digitsI_rsI (B : Nat) (sg : Sign) (x : Int) : digitsI B (rsI sg * x) = digitsI B x := by
  rcases rsI_cases sg with h | h <;> simp [h, digitsI]

theorem sgn_rsI (sg : Sign) (x : Int) : sgn (rsI sg * x) = rsI sg * sgn x := by
  rcases rsI_cases sg with h | h <;> simp only [h, sgn, Int.one_mul, Int.neg_mul] <;> split <;> split <;> omega

theorem shl_neg (B : Nat) (x : Int) (n : Nat) : shlDigits B (-x) n = -shlDigits B x n := by
  simp only [shlDigits, ishl, apply_ite Neg.neg, Int.neg_mul]

theorem shl_rsI (B : Nat) (sg : Sign) (x : Int) (n : Nat) : shlDigits B (rsI sg * x) n = rsI sg * shlDigits B x n := by
  rcases rsI_cases sg with h | h
  · simp only [h, Int.one_mul]
  · simp only [h, Int.neg_mul, Int.one_mul, shl_neg]

theorem is_sub_comm (a b : Sign) : ne_ (mul_ Sign.Positive a) b = ne_ (mul_ Sign.Positive b) a := by
  cases a <;> cases b <;> rfl

/-- `repr_add_small_large` is `repr_add_large_small` with the operands exchanged (at sign `Positive`, as the consuming
    forms call them): the sentence of `Model/Float/Repr.lean`, about the regenerated text -/
theorem small_large_any {E : Type} (k : FloatK E) (ctx : FCtx) (l r : GluePrelude.FRepr) :
    Context_repr_add_small_large k ctx l r .Positive = Context_repr_add_large_small k ctx r l .Positive := by
  unfold Context_repr_add_small_large Context_repr_add_large_small
  simp only [sign_mul_int, Sign.apply, add_int, Int.add_comm, is_sub_comm (sign r.significand)]
  split
  · rfl
  split
  · rfl
  split <;> rfl

theorem sign_neg_mul (rs : Int) (hr : rs ≠ 0) : mul_ Sign.Positive (sign (-rs)) = mul_ Sign.Negative (sign rs) := by
  simp only [sign_int]
  by_cases h : rs < 0
  · have : ¬ (-rs < 0) := by omega
    simp only [h, this, if_true, if_false]; rfl
  · have : -rs < 0 := by omega
    simp only [h, this, if_true, if_false]; rfl

/-- on the model's kernel (digit counts and digit shifts that commute with negation) the sign may be moved into the
    large operand -/
theorem small_large_sign (B : Nat) (m : Mode) (c : Coarse) (dub : Int → Nat) (ctx : FCtx) (l : GluePrelude.FRepr) (rs re : Int)
    (sg : Sign) (hr0 : rs ≠ 0) :
    Context_repr_add_small_large (modelK B m c dub) ctx l ⟨rs, re⟩ sg =
      Context_repr_add_small_large (modelK B m c dub) ctx l ⟨rsI sg * rs, re⟩ .Positive := by
  unfold Context_repr_add_small_large
  simp only [modelK, digitsI_rsI, shl_rsI]
  cases sg
  · simp only [rsI, Int.one_mul]
    rfl
  · simp only [rsI, Int.neg_mul, Int.one_mul, sign_neg_mul rs hr0, sign_mul_int, Sign.apply, add_int, sub_int,
      Int.sub_eq_add_neg]
    rfl

/-- **`Context::repr_add_small_large` as regenerated = `reprAddLargeSmall` with the operands swapped** — the hand model
    has no separate function for it (`Model/Float/Repr.lean` says the text is the same with lhs/rhs swapped and the sign
    moved to the other operand); this theorem checks that claim against the source text of this run. -/
theorem repr_add_small_large_is_model (B : Nat) (m : Mode) (c : Coarse) (dub : Int → Nat) (p : Nat) (ls le rs re : Int) (sg : Sign)
    (hle : le ≤ re) (hl0 : ls ≠ 0) (hr0 : rs ≠ 0) :
    Context_repr_add_small_large (modelK B m c dub) ⟨(p : Int)⟩ ⟨ls, le⟩ ⟨rs, re⟩ sg =
      toGA toG (reprAddLargeSmall B m c dub p ⟨rsI sg * rs, re⟩ ⟨ls, le⟩ 1) := by
  rw [small_large_sign B m c dub _ _ rs re sg hr0, small_large_any]
  exact repr_add_large_small_is_model B m c dub p _ re ls le .Positive hle
    (by rcases rsI_cases sg with e | e <;> rw [e] <;> omega) hl0

theorem stripAux_ne_zero (B : Nat) (fuel : Nat) (s e : Int) (hs : s ≠ 0) : (stripAux B fuel s e).1 ≠ 0 := by
  induction fuel generalizing s e with
  | zero => simpa [stripAux] using hs
  | succ n ih =>
    unfold stripAux
    split
    · rename_i hmod
      apply ih
      intro hq
      have := Int.mul_ediv_add_emod s (B : Int)
      rw [hq, hmod] at this
      omega
    · exact hs

/-- `Repr::new` never builds an infinity (zero significand with a non-zero exponent) -/
theorem new_not_inf (B : Nat) (s e : Int) :
    ¬ ((Model.Float.FRepr.new B s e).signif = 0 ∧ (Model.Float.FRepr.new B s e).exp ≠ 0) := by
  unfold Model.Float.FRepr.new
  split
  · simp
  · rename_i hs
    intro h
    exact stripAux_ne_zero B _ s e hs h.1

theorem modelK_repr_new (B : Nat) (m : Mode) (c : Coarse) (dub : Int → Nat) (s e : Int) :
    (modelK B m c dub).repr_new s e = ⟨(Model.Float.FRepr.new B s e).signif, (Model.Float.FRepr.new B s e).exp⟩ := rfl

/-- `Context::add` and `Context::sub` as regenerated are one dispatch (a zero operand, equal exponents, the two alignment
    routines) that differs in the sign handed down: both against `Model.Float.ctxAddSub`, panicking exactly for an infinite
    operand -/
theorem context_addsub_is_model (B : Nat) (m : Mode) (c : Coarse) (dub : Int → Nat) (p : Nat) (ls le rs re : Int) (sg : Sign) :
    (match sg with
      | .Positive => Context_add (modelK B m c dub) ⟨(p : Int)⟩ ⟨ls, le⟩ ⟨rs, re⟩
      | .Negative => Context_sub (modelK B m c dub) ⟨(p : Int)⟩ ⟨ls, le⟩ ⟨rs, re⟩) =
      if (ls = 0 ∧ le ≠ 0) ∨ (rs = 0 ∧ re ≠ 0) then .error .OperateWithInf
      else .ok (Approx.map (fun v => (⟨v, ⟨(p : Int)⟩⟩ : GluePrelude.FBig))
        (toGA toG (ctxAddSub B m c dub p ⟨ls, le⟩ ⟨rs, re⟩ (rsI sg)))) := by
  unfold ctxAddSub
  cases sg <;>
  · simp only [Context_add, Context_sub, rsI, assert_finite_operands, Repr_is_infinite, Repr_is_zero,
      Model.Float.FRepr.isZero, is_zero_int, eq_int, ne_int, cmp_int, Repr_neg, Model.Float.FRepr.neg, neg_int,
      show ¬ ((-1 : Int) = 1) by omega, repr_round_ref_is_model, repr_round_is_model, FBig_new, ne_eq, if_true, if_false,
      Bool.and_eq_true, Bool.or_eq_true, decide_eq_true_eq, Bool.not_eq_true', decide_eq_false_iff_not, beq_iff_eq,
      Int.neg_eq_zero]
    by_cases hi : (ls = 0 ∧ ¬le = 0) ∨ (rs = 0 ∧ ¬re = 0)
    · simp only [hi, if_true]
    have ⟨hl, hr⟩ := not_or.mp hi
    simp only [hl, hr, or_self, if_false]
    by_cases zl : ls = 0 ∧ le = 0
    · simp only [zl, and_self, if_true]
    by_cases zr : rs = 0 ∧ re = 0
    · simp only [zl, zr, and_self, if_true, if_false]
    simp only [zl, zr, if_false]
    have h1 : ls ≠ 0 := by omega
    have h3 : rs ≠ 0 := by omega
    rcases Int.lt_trichotomy le re with h | h | h
    · simp only [Int.compare_eq_lt.mpr h, Int.ne_of_lt h, Int.lt_asymm h, gt_iff_lt, if_false,
        repr_add_small_large_is_model B m c dub p ls le rs re _ (Int.le_of_lt h) h1 h3, rsI, Int.one_mul]
    · subst h
      simp only [compare_self_int, if_true, modelK_repr_new, add_int, sub_int, repr_round_is_model, new_not_inf B _ le,
        if_false, Int.neg_mul, Int.one_mul, Int.sub_eq_add_neg]
    · simp only [Int.compare_eq_gt.mpr h, Int.ne_of_gt h, h, gt_iff_lt, if_false, if_true,
        repr_add_large_small_is_model B m c dub p ls le rs re _ (Int.le_of_lt h) h1 h3, rsI]

/-- **`Context::add` as regenerated = `Model.Float.ctxAddSub … 1`**, panicking exactly for an infinite operand -/
theorem context_add_is_model (B : Nat) (m : Mode) (c : Coarse) (dub : Int → Nat) (p : Nat) (ls le rs re : Int) :
    Context_add (modelK B m c dub) ⟨(p : Int)⟩ ⟨ls, le⟩ ⟨rs, re⟩ =
      if (ls = 0 ∧ le ≠ 0) ∨ (rs = 0 ∧ re ≠ 0) then .error .OperateWithInf
      else .ok (Approx.map (fun v => (⟨v, ⟨(p : Int)⟩⟩ : GluePrelude.FBig))
        (toGA toG (ctxAddSub B m c dub p ⟨ls, le⟩ ⟨rs, re⟩ 1))) :=
  context_addsub_is_model B m c dub p ls le rs re .Positive

/-- **`Context::sub` as regenerated = `Model.Float.ctxAddSub … (-1)`** -/
theorem context_sub_is_model (B : Nat) (m : Mode) (c : Coarse) (dub : Int → Nat) (p : Nat) (ls le rs re : Int) :
    Context_sub (modelK B m c dub) ⟨(p : Int)⟩ ⟨ls, le⟩ ⟨rs, re⟩ =
      if (ls = 0 ∧ le ≠ 0) ∨ (rs = 0 ∧ re ≠ 0) then .error .OperateWithInf
      else .ok (Approx.map (fun v => (⟨v, ⟨(p : Int)⟩⟩ : GluePrelude.FBig))
        (toGA toG (ctxAddSub B m c dub p ⟨ls, le⟩ ⟨rs, re⟩ (-1)))) :=
  context_addsub_is_model B m c dub p ls le rs re .Negative

end Dashu.Props.GenFloatAdd
