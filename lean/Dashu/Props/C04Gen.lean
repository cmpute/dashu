import Dashu.Proofs.Ratio.Gen
import Dashu.Proofs.Ratio.GenFns
/-
  C04, Tie A: the operator macro bodies of `rational/src/{add,mul,div}.rs` regenerated from /repo
  (`Gen/RatOps.lean`, by `vlib/extract_ratops.py`) ARE the hand-written model functions that the driver
  executes and that `Props/C04` is about — for all inputs (any numerators, any denominators incl. 0, any
  integer operand), panics included.  `$rx` of a macro is the borrowed `$x`: both get the same value.
  A semantic edit of a macro body in /repo changes the regenerated definition and breaks one of these
  theorems (or the build of this module); an edit of which macro an operator invocation reaches breaks
  `invocations_regenerated`.
-/
namespace Dashu.Props.C04Gen
open Dashu.Model Dashu.Model.Ratio Dashu.Gen

/-- the dispatch the model assumes: (shape, trait, method, left, right, output, macro body);
    `intR` = rational op integer, `intL` = integer op rational -/
def expectedInvocations : List (String × String × String × String × String × String × String) :=
  (do
    let (t, suffix) ← [("RBig", "rbig"), ("Relaxed", "relaxed")]
    [("bin", "Add", "add", t, t, t, if t = "RBig" then "impl_add_or_sub_with_rbig" else "impl_addsub_with_relaxed"),
     ("bin", "Sub", "sub", t, t, t, if t = "RBig" then "impl_add_or_sub_with_rbig" else "impl_addsub_with_relaxed"),
     ("bin", "Mul", "mul", t, t, t, "impl_mul_with_" ++ suffix),
     ("bin", "Div", "div", t, t, t, "impl_div_with_" ++ suffix),
     ("bin", "Rem", "rem", t, t, t, "impl_rem_with_" ++ suffix),
     ("bin", "DivEuclid", "div_euclid", t, t, "IBig", "impl_euclid_div"),
     ("bin", "RemEuclid", "rem_euclid", t, t, t, "impl_euclid_rem_with_" ++ suffix),
     ("bin", "DivRemEuclid", "div_rem_euclid", t, t, "IBig," ++ t, "impl_euclid_divrem_with_" ++ suffix)] ++
    (do
      let z ← ["UBig", "IBig"]
      [("intR", "Add", "add", t, z, t, "impl_addsub_int_with_" ++ suffix),
       ("intR", "Sub", "sub", t, z, t, "impl_addsub_int_with_" ++ suffix),
       ("intL", "Add", "add", z, t, t, "impl_addsub_int_with_" ++ suffix),
       ("intL", "Sub", "sub", z, t, t, "impl_int_sub_" ++ suffix),
       ("intR", "Mul", "mul", t, z, t, "impl_mul_int_with_" ++ suffix),
       ("intL", "Mul", "mul", z, t, t, "impl_mul_int_with_" ++ suffix),
       ("intR", "Div", "div", t, z, t, "impl_" ++ suffix ++ "_div_" ++ (if z = "UBig" then "ubig" else "ibig")),
       ("intL", "Div", "div", z, t, t, "impl_ubig_or_ibig_div_" ++ suffix)]))

/-- the invocation table regenerated from the source is the one the model's dispatch is built on
    (as sets: the order of the invocations in the source files does not matter) -/
theorem invocations_regenerated :
    RatOps.invocations.length = expectedInvocations.length ∧
    (∀ r ∈ expectedInvocations, r ∈ RatOps.invocations) ∧ (∀ r ∈ RatOps.invocations, r ∈ expectedInvocations) := by
  decide +kernel

theorem addsub_int_with_rbig_regenerated (sub : Bool) (x : Q) (i : Int) :
    RatOps.impl_addsub_int_with_rbig (if sub then (· - ·) else (· + ·)) x.num x.den i x.num x.den i
      = .ok (R.addSubInt sub x i) := gen_addsub_int_with_rbig sub x i

theorem int_sub_rbig_regenerated (x : Q) (i : Int) :
    RatOps.impl_int_sub_rbig (· - ·) x.num x.den i x.num x.den i = .ok (R.intSub i x) := gen_int_sub_rbig x i

theorem addsub_int_with_relaxed_regenerated (sub : Bool) (x : Q) (i : Int) :
    RatOps.impl_addsub_int_with_relaxed (if sub then (· - ·) else (· + ·)) x.num x.den i x.num x.den i
      = .ok (X.addSubInt sub x i) := gen_addsub_int_with_relaxed sub x i

theorem int_sub_relaxed_regenerated (x : Q) (i : Int) :
    RatOps.impl_int_sub_relaxed (· - ·) x.num x.den i x.num x.den i = .ok (X.intSub i x) := gen_int_sub_relaxed x i

theorem mul_int_with_rbig_regenerated (x : Q) (i : Int) :
    RatOps.impl_mul_int_with_rbig (· * ·) x.num x.den i x.num x.den i = R.mulInt x i := gen_mul_int_with_rbig x i

theorem mul_int_with_relaxed_regenerated (x : Q) (i : Int) :
    RatOps.impl_mul_int_with_relaxed (· * ·) x.num x.den i x.num x.den i = X.mulInt x i := gen_mul_int_with_relaxed x i

/-- `RBig / IBig`, and `RBig / UBig` (its own macro body: no sign factor) for a non-negative operand -/
theorem rbig_div_int_regenerated (x : Q) (i : Int) :
    RatOps.impl_rbig_div_ibig x.num x.den i x.num x.den i = R.divInt x i ∧
    (0 ≤ i → RatOps.impl_rbig_div_ubig x.num x.den i x.num x.den i = R.divInt x i) :=
  ⟨gen_rbig_div_ibig x i, gen_rbig_div_ubig x i⟩

theorem int_div_rbig_regenerated (i : Int) (x : Q) :
    RatOps.impl_ubig_or_ibig_div_rbig x.num x.den i x.num x.den i = R.intDiv i x := gen_ubig_or_ibig_div_rbig i x

theorem relaxed_div_int_regenerated (x : Q) (i : Int) :
    RatOps.impl_relaxed_div_ibig x.num x.den i x.num x.den i = X.divInt x i ∧
    (0 ≤ i → RatOps.impl_relaxed_div_ubig x.num x.den i x.num x.den i = X.divInt x i) :=
  ⟨gen_relaxed_div_ibig x i, gen_relaxed_div_ubig x i⟩

theorem int_div_relaxed_regenerated (i : Int) (x : Q) :
    RatOps.impl_ubig_or_ibig_div_relaxed x.num x.den i x.num x.den i = X.intDiv i x :=
  gen_ubig_or_ibig_div_relaxed i x

/-- the model's dispatch of `rational op integer` (what the driver and the history theorem execute)
    written with the regenerated bodies only -/
theorem int_right_ops_regenerated (o : IntOp) (k : Kind) (x : Q) (z : Int) :
    evalIntR o k x z =
      match k, o with
      | .R, .add => RatOps.impl_addsub_int_with_rbig (· + ·) x.num x.den z x.num x.den z
      | .R, .sub => RatOps.impl_addsub_int_with_rbig (· - ·) x.num x.den z x.num x.den z
      | .R, .mul => RatOps.impl_mul_int_with_rbig (· * ·) x.num x.den z x.num x.den z
      | .R, .div => RatOps.impl_rbig_div_ibig x.num x.den z x.num x.den z
      | .X, .add => RatOps.impl_addsub_int_with_relaxed (· + ·) x.num x.den z x.num x.den z
      | .X, .sub => RatOps.impl_addsub_int_with_relaxed (· - ·) x.num x.den z x.num x.den z
      | .X, .mul => RatOps.impl_mul_int_with_relaxed (· * ·) x.num x.den z x.num x.den z
      | .X, .div => RatOps.impl_relaxed_div_ibig x.num x.den z x.num x.den z := by
  cases k <;> cases o
  · exact (gen_addsub_int_with_rbig false x z).symm
  · exact (gen_addsub_int_with_rbig true x z).symm
  · exact (gen_mul_int_with_rbig x z).symm
  · exact (gen_rbig_div_ibig x z).symm
  · exact (gen_addsub_int_with_relaxed false x z).symm
  · exact (gen_addsub_int_with_relaxed true x z).symm
  · exact (gen_mul_int_with_relaxed x z).symm
  · exact (gen_relaxed_div_ibig x z).symm

/-- … and of `integer op rational` -/
theorem int_left_ops_regenerated (o : IntOp) (k : Kind) (z : Int) (x : Q) :
    evalIntL o k z x =
      match k, o with
      | .R, .add => RatOps.impl_addsub_int_with_rbig (· + ·) x.num x.den z x.num x.den z
      | .R, .sub => RatOps.impl_int_sub_rbig (· - ·) x.num x.den z x.num x.den z
      | .R, .mul => RatOps.impl_mul_int_with_rbig (· * ·) x.num x.den z x.num x.den z
      | .R, .div => RatOps.impl_ubig_or_ibig_div_rbig x.num x.den z x.num x.den z
      | .X, .add => RatOps.impl_addsub_int_with_relaxed (· + ·) x.num x.den z x.num x.den z
      | .X, .sub => RatOps.impl_int_sub_relaxed (· - ·) x.num x.den z x.num x.den z
      | .X, .mul => RatOps.impl_mul_int_with_relaxed (· * ·) x.num x.den z x.num x.den z
      | .X, .div => RatOps.impl_ubig_or_ibig_div_relaxed x.num x.den z x.num x.den z := by
  cases k <;> cases o
  · exact (gen_addsub_int_with_rbig false x z).symm
  · exact (gen_int_sub_rbig x z).symm
  · exact (gen_mul_int_with_rbig x z).symm
  · exact (gen_ubig_or_ibig_div_rbig z x).symm
  · exact (gen_addsub_int_with_relaxed false x z).symm
  · exact (gen_int_sub_relaxed x z).symm
  · exact (gen_mul_int_with_relaxed x z).symm
  · exact (gen_ubig_or_ibig_div_relaxed z x).symm

/-- every binary operator of both types: the model function is the regenerated macro body, instantiated
    with the `$method` its invocation passes (`G.m_rem` = `IBig % &UBig`, `G.m_rem_euclid` = `IBig::rem_euclid`) -/
theorem binary_ops_regenerated (o : Bin) (k : Kind) (x y : Q) :
    evalBin o k x y =
      match k, o with
      | .R, .add => RatOps.impl_add_or_sub_with_rbig (· + ·) x.num x.den y.num y.den x.num x.den y.num y.den
      | .R, .sub => RatOps.impl_add_or_sub_with_rbig (· - ·) x.num x.den y.num y.den x.num x.den y.num y.den
      | .R, .mul => RatOps.impl_mul_with_rbig (· * ·) x.num x.den y.num y.den x.num x.den y.num y.den
      | .R, .div => RatOps.impl_div_with_rbig x.num x.den y.num y.den x.num x.den y.num y.den
      | .R, .rem => RatOps.impl_rem_with_rbig G.m_rem x.num x.den y.num y.den x.num x.den y.num y.den
      | .R, .remEuclid => RatOps.impl_euclid_rem_with_rbig G.m_rem_euclid x.num x.den y.num y.den x.num x.den y.num y.den
      | .X, .add => RatOps.impl_addsub_with_relaxed (· + ·) x.num x.den y.num y.den x.num x.den y.num y.den
      | .X, .sub => RatOps.impl_addsub_with_relaxed (· - ·) x.num x.den y.num y.den x.num x.den y.num y.den
      | .X, .mul => RatOps.impl_mul_with_relaxed (· * ·) x.num x.den y.num y.den x.num x.den y.num y.den
      | .X, .div => RatOps.impl_div_with_relaxed x.num x.den y.num y.den x.num x.den y.num y.den
      | .X, .rem => RatOps.impl_rem_with_relaxed G.m_rem x.num x.den y.num y.den x.num x.den y.num y.den
      | .X, .remEuclid => RatOps.impl_euclid_rem_with_relaxed G.m_rem_euclid x.num x.den y.num y.den x.num x.den y.num y.den := by
  cases k <;> cases o
  · exact (gen_add_or_sub_with_rbig false x y).symm
  · exact (gen_add_or_sub_with_rbig true x y).symm
  · exact (gen_mul_with_rbig x y).symm
  · exact (gen_div_with_rbig x y).symm
  · exact (gen_rem_with_rbig x y).symm
  · exact (gen_euclid_rem_with_rbig x y).symm
  · exact (gen_addsub_with_relaxed false x y).symm
  · exact (gen_addsub_with_relaxed true x y).symm
  · exact (gen_mul_with_relaxed x y).symm
  · exact (gen_div_with_relaxed x y).symm
  · exact (gen_rem_with_relaxed x y).symm
  · exact (gen_euclid_rem_with_relaxed x y).symm

/-- `div_euclid` (one body for both types) and `div_rem_euclid` -/
theorem euclid_ops_regenerated (x y : Q) :
    RatOps.impl_euclid_div G.m_div_euclid x.num x.den y.num y.den x.num x.den y.num y.den = R.divEuclid x y ∧
    RatOps.impl_euclid_divrem_with_rbig G.m_div_rem_euclid x.num x.den y.num y.den x.num x.den y.num y.den
      = R.divRemEuclid x y ∧
    RatOps.impl_euclid_divrem_with_relaxed G.m_div_rem_euclid x.num x.den y.num y.den x.num x.den y.num y.den
      = X.divRemEuclid x y :=
  ⟨gen_euclid_div x y, gen_euclid_divrem_with_rbig x y, gen_euclid_divrem_with_relaxed x y⟩

/-- the three reductions of rational/src/repr.rs, regenerated, are the model's `reduce`, `reduce2` (any stored pair) and
    `reduceWithHint` (any hint, positive denominator — every caller passes one; the proof is insensitive to the
    association order of the two gcds) -/
theorem reductions_regenerated (x : Q) (hint : Nat) :
    RatFns.Repr_reduce x.num x.den = reduce x ∧
    (0 < x.den → RatFns.Repr_reduce_with_hint x.num x.den hint = reduceWithHint x hint) ∧
    RatFns.Repr_reduce2 x.num x.den = reduce2 x :=
  ⟨gen_Repr_reduce x, gen_Repr_reduce_with_hint x hint, gen_Repr_reduce2 x⟩

example : RatFns.Repr_reduce_with_hint 6 8 4 = .ok ⟨3, 4⟩ ∧ reduceWithHint ⟨6, 8⟩ 4 = .ok ⟨3, 4⟩ := by decide +kernel

/-- rational/src/round.rs (`impl Repr`): `split_at_point`, `ceil`, `floor`, `trunc`, `fract`, `round` (ties away from zero) -/
theorem rounding_regenerated (x : Q) :
    RatFns.Repr_split_at_point x.num x.den = splitAtPoint x ∧ RatFns.Repr_ceil x.num x.den = ceil x ∧
    RatFns.Repr_floor x.num x.den = floor x ∧ RatFns.Repr_trunc x.num x.den = trunc x ∧
    RatFns.Repr_fract x.num x.den = fract x ∧ RatFns.Repr_round x.num x.den = Ratio.round x :=
  ⟨gen_Repr_split_at_point x, gen_Repr_ceil x, gen_Repr_floor x, gen_Repr_trunc x, gen_Repr_fract x, gen_Repr_round x⟩

/-- `Inverse for Repr` (div.rs), `Repr::neg` / `abs` / `Mul<Sign>` (sign.rs), `Repr::sqr` / `cubic` / `pow` (mul.rs) -/
theorem unary_regenerated (x : Q) (s : Bool) (n : Nat) :
    RatFns.Repr_inv x.num x.den = inv x ∧ RatFns.Repr_neg x.num x.den = .ok (neg x) ∧
    RatFns.Repr_abs x.num x.den = .ok (abs x) ∧
    RatFns.Repr_mul_sign x.num x.den (if s then -1 else 1) = .ok (mulSign x s) ∧
    RatFns.Repr_sqr x.num x.den = .ok (sqr x) ∧ RatFns.Repr_cubic x.num x.den = .ok (cubic x) ∧
    RatFns.Repr_pow x.num x.den n = .ok (pow x n) :=
  ⟨gen_Repr_inv x, gen_Repr_neg x, gen_Repr_abs x, gen_Repr_mul_sign x s, gen_Repr_sqr x, gen_Repr_cubic x, gen_Repr_pow x n⟩

/-- the constructors of rbig.rs: zero-denominator guard, then `reduce` (RBig) / `reduce2` (Relaxed); the signed forms -/
theorem constructors_regenerated (n : Int) (d : Nat) (ds : Int) :
    RatFns.RBig_from_parts n d = rFromParts n d ∧ RatFns.Relaxed_from_parts n d = xFromParts n d ∧
    RatFns.RBig_from_parts_signed n ds = rFromPartsSigned n ds ∧
    RatFns.Relaxed_from_parts_signed n ds = xFromPartsSigned n ds :=
  ⟨gen_RBig_from_parts n d, gen_Relaxed_from_parts n d, gen_RBig_from_parts_signed n ds, gen_Relaxed_from_parts_signed n ds⟩

/-- `from_parts_const` of both types (rbig.rs): the guards, the const Euclid loop `while r > 1 { (y, r) = (r, y % r) }` — regenerated
    as `G.while_dec (measure r) cond step` — and the division by the last remainder; the power-of-two version of `Relaxed` -/
theorem const_constructors_regenerated (neg : Bool) (n d : Nat) :
    RatFns.RBig_from_parts_const (if neg then -1 else 1) n d = rFromPartsConst neg n d ∧
    RatFns.Relaxed_from_parts_const (if neg then -1 else 1) n d = xFromPartsConst neg n d :=
  ⟨gen_RBig_from_parts_const neg n d, gen_Relaxed_from_parts_const neg n d⟩

/-- the regenerated loop is the model's `constGcdLoop` from every start -/
theorem const_gcd_loop_regenerated (y r : Nat) :
    G.while_dec (fun (s : Int × Int) => s.2.toNat) (fun s => G.gt s.2 (1 : Int))
      (fun s => (s.2, G.rem_u s.1 s.2)) ((y : Int), (r : Int))
      = (((constGcdLoop y r).1 : Int), ((constGcdLoop y r).2 : Int)) :=
  while_dec_constGcdLoop r y

example : RatFns.Repr_reduce (-6) 4 = .ok ⟨-3, 2⟩ ∧ RatFns.Repr_round (-7) 2 = .ok (-4) ∧
    RatFns.Repr_inv (-3) 4 = .ok ⟨-4, 3⟩ ∧ RatFns.RBig_from_parts_signed 6 (-4) = .ok ⟨-3, 2⟩ ∧
    RatFns.RBig_from_parts 5 0 = .error .divideByZero := by decide +kernel

-- non-vacuity: the regenerated bodies compute (6/4 is not a valid RBig: the theorems need no invariant)
example : RatOps.impl_mul_int_with_rbig (· * ·) 3 4 6 3 4 6 = .ok ⟨9, 2⟩ ∧
    RatOps.impl_rbig_div_ibig 3 4 (-6) 3 4 (-6) = .ok ⟨-1, 8⟩ ∧
    RatOps.impl_ubig_or_ibig_div_rbig (-3) 4 6 (-3) 4 6 = .ok ⟨-8, 1⟩ ∧
    RatOps.impl_rbig_div_ibig 3 4 0 3 4 0 = .error .divideByZero ∧
    RatOps.impl_add_or_sub_with_rbig (· + ·) 1 6 1 3 1 6 1 3 = .ok ⟨1, 2⟩ ∧
    RatOps.impl_rem_with_rbig G.m_rem (-1) 2 1 3 (-1) 2 1 3 = .ok ⟨1, 6⟩ := by decide +kernel

end Dashu.Props.C04Gen
