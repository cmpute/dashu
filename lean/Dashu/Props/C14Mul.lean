import Dashu.Props.C14Shl
import Dashu.Props.C01
/-
  C14 ↔ C01: the `*` inside the exact steps of the rational comparisons.  `Model/Cross/Ord.lean`
  writes the cross products of rational/src/cmp.rs at their value (`n1 * d2`, `n2 * d1` of
  `repr_cmp::<ABS>` / `repr_eq`, `rhs * &lhs.denominator` of `repr_cmp_ubig/ibig::<ABS>`,
  `rhs.significand() * &lhs.denominator` followed by `<<=` in `with_float::repr_cmp_fbig`).  Here
  each product is proved equal — for every word size ≥ 4 bits — to C01's MIRRORED `impl_ibig_mul`
  (`ibigMul`: `mag0.mul(mag1).with_sign(sign0 * sign1)`, integer/src/mul_ops.rs, refined in C01 down
  to the schoolbook / Karatsuba / Toom-3 word loops) run on canonical representations, by importing
  C01's proved `i_mul_exact`; a `UBig` operand (the denominators) enters as the `Positive` magnitude
  (`forward_ibig_ubig_binop_to_repr`), which is what `sOfInt W ↑d` is (`ubig_operand_positive`).
  Composed with C05's mirrored `Ord for IBig` / `abs_cmp` (Props/C14Link) and C09's mirrored shift
  (Props/C14Shl), the exact step "multiply crosswise (shift), then compare" is the word-level code.
-/
namespace Dashu.Props.C14Mul
open Dashu.Model Dashu.Model.Cross
open Dashu.Props.C14Shl (ibigShlW)

/-- `&IBig * &IBig` / `&IBig * &UBig` (mirrored `impl_ibig_mul`, on the canonical representations) -/
def ibigMulW (W : Nat) (x y : Int) : SRepr := ibigMul W (sOfInt W x) (sOfInt W y)

/-- a `UBig` operand of `IBig * UBig` is the `Positive` magnitude: the representation used here -/
theorem ubig_operand_positive (W : Nat) (d : Nat) : sOfInt W (d : Int) = ⟨false, ofNat W d⟩ := by
  simp [sOfInt]

/-- mirrored `IBig * IBig` is the `x * y` of the cross model, and its result is canonical -/
theorem mul_mirrored (W : Nat) (hW : 4 ≤ W) (x y : Int) :
    (ibigMulW W x y).value W = x * y ∧ SCanon W (ibigMulW W x y) := by
  have hW1 : 1 ≤ W := by omega
  have h := Dashu.Props.C01.i_mul_exact W hW (sOfInt W x) (sOfInt W y)
    (sOfInt_spec W hW1 x).1 (sOfInt_spec W hW1 y).1
  rw [(sOfInt_spec W hW1 x).2, (sOfInt_spec W hW1 y).2] at h
  exact h

/-- step 4 of `repr_cmp::<ABS>` (rational/src/cmp.rs: `n1d2 = &lhs.numerator * &rhs.denominator`,
    `n2d1 = &rhs.numerator * &lhs.denominator`, then `cmp` / `abs_cmp`) at word level: two C01
    products followed by C05's mirrored comparison, nothing at its value -/
theorem ratio_cross_cmp_mirrored (W : Nat) (hW : 4 ≤ W) (n1 n2 : Int) (d1 d2 : Nat) :
    compare (n1 * (d2 : Int)) (n2 * (d1 : Int)) = (ibigMulW W n1 d2).cmp (ibigMulW W n2 d1) ∧
    absCmpInt (n1 * d2) (n2 * d1) = (ibigMulW W n1 d2).mag.cmp (ibigMulW W n2 d1).mag :=
  Dashu.Props.C14Link.cmp_of_values W (mul_mirrored W hW n1 d2) (mul_mirrored W hW n2 d1)

/-- `repr_eq::<ABS>` cross products (`n1 * d2` against `n2 * d1`, equality of the magnitudes /
    of the values): decided by the mirrored comparison of the two C01 products -/
theorem ratio_cross_eq_mirrored (W : Nat) (hW : 4 ≤ W) (n1 n2 : Int) (d1 d2 : Nat) :
    ((n1 * (d2 : Int)).natAbs == (n2 * (d1 : Int)).natAbs) =
      ((ibigMulW W n1 d2).mag.cmp (ibigMulW W n2 d1).mag == .eq) := by
  rw [← (ratio_cross_cmp_mirrored W hW n1 n2 d1 d2).2, absCmpInt, Bool.eq_iff_iff, beq_iff_eq, beq_iff_eq,
    Nat.compare_eq_eq]

/-- the exact step of `repr_cmp_ubig/ibig::<ABS>` (rational):
    `lhs.numerator.cmp(&(rhs * &lhs.denominator))` / `.abs_cmp(..)` at word level -/
theorem ratio_int_cmp_mirrored (W : Nat) (hW : 4 ≤ W) (n r : Int) (d : Nat) :
    compare n (r * (d : Int)) = (sOfInt W n).cmp (ibigMulW W r d) ∧
    absCmpInt n (r * d) = (sOfInt W n).mag.cmp (ibigMulW W r d).mag :=
  Dashu.Props.C14Link.cmp_of_values W (sOfInt_spec W (by omega) n).symm (mul_mirrored W hW r d)

/-- `with_float::repr_cmp_fbig` for a power-of-two base and the `NumOrd<f32/f64>` of the rational
    `Repr`: `rhs = significand * &lhs.denominator; rhs <<= k` — C01's mirrored product, then C09's
    mirrored shift; value `s * d * 2^k`, result canonical -/
theorem mul_shl_mirrored (W : Nat) (hW : 4 ≤ W) (s : Int) (d k : Nat) :
    (ibigShl W (ibigMulW W s d) k).value W = s * d * 2 ^ k ∧ SCanon W (ibigShl W (ibigMulW W s d) k) := by
  have hW1 : 1 ≤ W := by omega
  obtain ⟨pv, pc⟩ := mul_mirrored W hW s d
  have h := Dashu.Props.C09.ibig_shl_exact W hW1 (ibigMulW W s d) k pc
  rw [pv] at h
  exact h

/-- the whole exact step of that path at word level: numerator (shifted when the exponent is negative,
    `ibigShlW`) against product-then-shift -/
theorem ratio_float_step_mirrored (W : Nat) (hW : 4 ≤ W) (n s : Int) (d j k : Nat) :
    compare (n * 2 ^ j) (s * d * 2 ^ k) = (ibigShlW W n j).cmp (ibigShl W (ibigMulW W s d) k) :=
  (Dashu.Props.C14Link.cmp_of_values W (Dashu.Props.C14Shl.shl_mirrored W (by omega) n j) (mul_shl_mirrored W hW s d k)).1

-- non-vacuity: 3-word × 2-word cross products (heap × heap, opposite signs on one side), adjacent
-- values distinguished; a product then shifted across a word boundary
example : (ibigMulW 64 (-(2 ^ 130) - 5) ((2 ^ 70 + 1 : Nat) : Int)).cmp
    (ibigMulW 64 (-(2 ^ 131) - 9) ((2 ^ 69 : Nat) : Int)) = .lt := by
  rw [← (ratio_cross_cmp_mirrored 64 (by decide) (-(2 ^ 130) - 5) (-(2 ^ 131) - 9) (2 ^ 69) (2 ^ 70 + 1)).1]
  decide +kernel
example : ((ibigMulW 64 (2 ^ 130 + 5) ((2 ^ 70 : Nat) : Int)).mag.cmp
    (ibigMulW 64 (-(2 ^ 70)) ((2 ^ 130 + 5 : Nat) : Int)).mag == .eq) = true := by
  rw [← ratio_cross_eq_mirrored 64 (by decide) (2 ^ 130 + 5) (-(2 ^ 70)) (2 ^ 130 + 5) (2 ^ 70)]
  decide +kernel
example : (ibigShlW 64 (2 ^ 200 + 1) 0).cmp
    (ibigShl 64 (ibigMulW 64 (2 ^ 66 + 3) ((2 ^ 67 : Nat) : Int)) 67) = .lt := by
  rw [← ratio_float_step_mirrored 64 (by decide) (2 ^ 200 + 1) (2 ^ 66 + 3) (2 ^ 67) 0 67]
  decide +kernel
example : (ibigMulW 64 (-7) 6).value 64 = -42 ∧ (ibigMulW 64 0 (-5)).neg = false := by decide +kernel

end Dashu.Props.C14Mul
