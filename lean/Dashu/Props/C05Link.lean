import Dashu.Props.C05
import Dashu.Props.C04
/-
  C05 ↔ C04: the clause "this holds whichever constructor or operation produced the values" for RATIONALS.
  C05's own theorems (`ratio_cmp`, `relaxed_eq`, `rbig_eq`, `rbig_hash_follows_value`) carry the hypotheses
  `0 < den` / `gcd |num| den = 1`; C04's history theorem (`history_invariant`) proves exactly these for every register
  ever produced by any finite program over its instruction set (constructors, + - * / %, euclidean forms, inv, pow, sqr,
  cubic, neg, abs, signum, rounding family, mixed-integer forms; RBig and Relaxed).  Composed here, so no rational
  producer is used at contract level.  Kept apart from `Props/C05.lean` so that C05's own theorems do not depend on
  the proof files of the rationals.
-/
namespace Dashu.Props.C05Link
open Dashu.Model Dashu.Model.Ratio

/-- a stored C04 pair seen by the C05 comparison model (same two fields) -/
def ofQ (q : Q) : QRepr := ⟨q.num, q.den⟩

/-- values are equal iff the cross products are -/
theorem val_eq_iff_cross (a b : Q) (ha : 0 < a.den) (hb : 0 < b.den) :
    a.val = b.val ↔ a.num * b.den = b.num * a.den := by
  unfold Q.val
  have ha' : (a.den : Rat) ≠ 0 := by exact_mod_cast (Nat.pos_iff_ne_zero.mp ha)
  have hb' : (b.den : Rat) ≠ 0 := by exact_mod_cast (Nat.pos_iff_ne_zero.mp hb)
  rw [div_eq_div_iff ha' hb']
  norm_cast

/-- values are ordered as the cross products are -/
theorem val_lt_iff_cross (a b : Q) (ha : 0 < a.den) (hb : 0 < b.den) :
    a.val < b.val ↔ a.num * b.den < b.num * a.den := by
  unfold Q.val
  have ha' : (0 : Rat) < (a.den : Rat) := by exact_mod_cast ha
  have hb' : (0 : Rat) < (b.den : Rat) := by exact_mod_cast hb
  rw [div_lt_div_iff₀ ha' hb']
  norm_cast

theorem inv_den_pos {r : Reg} (h : r.Inv) : 0 < r.q.den := by
  unfold Reg.Inv at h
  cases hk : r.kind <;> rw [hk] at h
  · exact h.1
  · exact h.1

/-- **rational history theorem for ==, cmp and Hash.**  For every finite program of C04's instruction set over a
    register file of valid values, ANY two registers ever produced (RBig or Relaxed, also those produced before a
    `DivideByZero`) satisfy: `cmp` (`repr_cmp` with its bit-length shortcuts) says Less / Equal / Greater exactly when
    the values are so ordered; `Relaxed ==` (`repr_eq`) holds exactly when the values are equal — hence
    `cmp == Equal ⇔ ==`; and for two RBig registers the structural `==` and equality of the `Hash` feeds each hold
    exactly when the values are equal. -/
theorem rational_history_eq_cmp_hash (W : Nat) (hW : 1 ≤ W) (ops : List Op) (env : List Reg) (henv : ∀ r ∈ env, r.Inv)
    (r1 r2 : Reg) (h1 : r1 ∈ (run ops env).1) (h2 : r2 ∈ (run ops env).1) :
    (reprCmp (ofQ r1.q) (ofQ r2.q) = .lt ↔ r1.val < r2.val) ∧
    (reprCmp (ofQ r1.q) (ofQ r2.q) = .eq ↔ r1.val = r2.val) ∧
    (reprCmp (ofQ r1.q) (ofQ r2.q) = .gt ↔ r2.val < r1.val) ∧
    (reprEq (ofQ r1.q) (ofQ r2.q) = true ↔ r1.val = r2.val) ∧
    (r1.kind = .R → r2.kind = .R →
      (rbigEq (ofQ r1.q) (ofQ r2.q) = true ↔ r1.val = r2.val) ∧
      ((ofQ r1.q).hashFeed W = (ofQ r2.q).hashFeed W ↔ r1.val = r2.val)) := by
  have i1 := Dashu.Props.C04.history_invariant ops env henv r1 h1
  have i2 := Dashu.Props.C04.history_invariant ops env henv r2 h2
  have d1 : 0 < (ofQ r1.q).den := inv_den_pos i1
  have d2 : 0 < (ofQ r2.q).den := inv_den_pos i2
  have hc := Dashu.Props.C05.ratio_cmp (ofQ r1.q) (ofQ r2.q) d1 d2
  have he := Dashu.Props.C05.relaxed_eq (ofQ r1.q) (ofQ r2.q) d1 d2
  have ve := val_eq_iff_cross r1.q r2.q d1 d2
  have vl := val_lt_iff_cross r1.q r2.q d1 d2
  have vg := val_lt_iff_cross r2.q r1.q d2 d1
  simp only [ofQ] at hc he d1 d2 ⊢
  unfold Reg.val
  refine ⟨?_, ?_, ?_, ?_, ?_⟩
  · rw [hc, vl, compare_lt_iff_lt]
  · rw [hc, ve, compare_eq_iff_eq]
  · rw [hc, vg, compare_gt_iff_gt]
  · rw [he, ve]
  · intro k1 k2
    have g1 : Nat.gcd r1.q.num.natAbs r1.q.den = 1 := by
      unfold Reg.Inv at i1; rw [k1] at i1; exact i1.2
    have g2 : Nat.gcd r2.q.num.natAbs r2.q.den = 1 := by
      unfold Reg.Inv at i2; rw [k2] at i2; exact i2.2
    have hr := Dashu.Props.C05.rbig_eq ⟨r1.q.num, r1.q.den⟩ ⟨r2.q.num, r2.q.den⟩ d1 d2 g1 g2
    have hh := Dashu.Props.C05.rbig_hash_follows_value W hW ⟨r1.q.num, r1.q.den⟩ ⟨r2.q.num, r2.q.den⟩ d1 d2 g1 g2
    exact ⟨by rw [hr.1, ve], by rw [hh, ve]⟩

-- non-vacuity: a program feeding results back (C04's example); registers 2 and 6 hold different values, 3/4 + (-5/6) < 103
example : (∀ r ∈ ([⟨.R, ⟨3, 4⟩⟩, ⟨.R, ⟨-5, 6⟩⟩] : List Reg), r.Inv) ∧
    ((run [.bin .add 0 1, .bin .mul 2 2, .bin .div 3 0, .un .inv 4, .intR .add 5 (-5)]
      [⟨.R, ⟨3, 4⟩⟩, ⟨.R, ⟨-5, 6⟩⟩]).1.map (·.q)) = [⟨3, 4⟩, ⟨-5, 6⟩, ⟨-1, 12⟩, ⟨1, 144⟩, ⟨1, 108⟩, ⟨108, 1⟩, ⟨103, 1⟩] ∧
    reprCmp (ofQ ⟨-1, 12⟩) (ofQ ⟨103, 1⟩) = .lt := by
  refine ⟨by decide, by decide, by decide⟩

end Dashu.Props.C05Link
