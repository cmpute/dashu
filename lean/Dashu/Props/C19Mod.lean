import Dashu.Props.C13
/-
  C19 clause (1), word size — modular arithmetic (link to C13's homomorphism theorems, by import).

  A `ConstDivisor` for the same modulus `m` is a different object in a 64-bit-word and in a 32-bit-word
  build (single / double / multi-word ring kind, normalisation shift `k`, pre-shifted raw values all
  depend on `W`), but everything observable — `residue()` of reduce, `+ − · neg dbl sqr pow`, whether
  `inv` answers — is the same number, because C13 pins each of them to `Int` arithmetic modulo `m`.
-/
namespace Dashu.Props.C19
open Dashu.Model Dashu.Model.NT

/-- two naturals that are the same integer modulo the one modulus both rings were built for -/
private theorem same_residue {m₁ m₂ m x y : Nat} {t : Int} (h₁ : m₁ = m) (h₂ : m₂ = m)
    (hx : (x : Int) = t % (m₁ : Int)) (hy : (y : Int) = t % (m₂ : Int)) : x = y := by
  subst h₁ h₂
  exact Int.ofNat.inj (hx.trans hy.symm)

/-- `ConstDivisor::new(0)` panics in both builds -/
theorem word_size_independent_modular_new_zero (W₁ W₂ id₁ id₂ : Nat) (h₁ : 0 < W₁) (h₂ : 0 < W₂) :
    Ring.new W₁ id₁ 0 = .error .divideByZero ∧ Ring.new W₂ id₂ 0 = .error .divideByZero :=
  ⟨(C13.new_spec W₁ id₁ 0 h₁).1 rfl, (C13.new_spec W₂ id₂ 0 h₂).1 rfl⟩

/-- the rings two builds construct for one modulus `m ≠ 0` give the same residues for reduce, `+ − ·`, `neg`, `dbl`,
    `sqr`, `pow` (every exponent), and `inv` answers in one build iff it answers in the other -/
theorem word_size_independent_modular (W₁ W₂ id₁ id₂ m : Nat) (h₁ : 0 < W₁) (h₂ : 0 < W₂) (hm : m ≠ 0) :
    ∃ r₁ r₂, Ring.new W₁ id₁ m = .ok r₁ ∧ Ring.new W₂ id₂ m = .ok r₂ ∧ ∀ (a b : Int) (e : Nat),
      (reduceInt W₁ r₁ a).residue = (reduceInt W₂ r₂ a).residue ∧
      (∃ e₁ e₂, (reduceInt W₁ r₁ a).add (reduceInt W₁ r₁ b) = .ok e₁ ∧
                (reduceInt W₂ r₂ a).add (reduceInt W₂ r₂ b) = .ok e₂ ∧ e₁.residue = e₂.residue) ∧
      (∃ e₁ e₂, (reduceInt W₁ r₁ a).sub (reduceInt W₁ r₁ b) = .ok e₁ ∧
                (reduceInt W₂ r₂ a).sub (reduceInt W₂ r₂ b) = .ok e₂ ∧ e₁.residue = e₂.residue) ∧
      (∃ e₁ e₂, (reduceInt W₁ r₁ a).mul W₁ (reduceInt W₁ r₁ b) = .ok e₁ ∧
                (reduceInt W₂ r₂ a).mul W₂ (reduceInt W₂ r₂ b) = .ok e₂ ∧ e₁.residue = e₂.residue) ∧
      (reduceInt W₁ r₁ a).neg.residue = (reduceInt W₂ r₂ a).neg.residue ∧
      (reduceInt W₁ r₁ a).dbl.residue = (reduceInt W₂ r₂ a).dbl.residue ∧
      ((reduceInt W₁ r₁ a).sqr W₁).residue = ((reduceInt W₂ r₂ a).sqr W₂).residue ∧
      ((reduceInt W₁ r₁ a).pow W₁ e).residue = ((reduceInt W₂ r₂ a).pow W₂ e).residue ∧
      ((reduceInt W₁ r₁ a).inv.isSome ↔ (reduceInt W₂ r₂ a).inv.isSome) := by
  obtain ⟨r₁, n₁, m₁, -, wf₁⟩ := (C13.new_spec W₁ id₁ m h₁).2 hm
  obtain ⟨r₂, n₂, m₂, -, wf₂⟩ := (C13.new_spec W₂ id₂ m h₂).2 hm
  refine ⟨r₁, r₂, n₁, n₂, fun a b e => ⟨?_, ?_, ?_, ?_, ?_, ?_, ?_, ?_, ?_⟩⟩
  · exact same_residue m₁ m₂ (C13.reduce_spec W₁ r₁ wf₁ a).2.1 (C13.reduce_spec W₂ r₂ wf₂ a).2.1
  · obtain ⟨e₁, p, -, p'⟩ := C13.hom_add W₁ r₁ wf₁ a b
    obtain ⟨e₂, q, -, q'⟩ := C13.hom_add W₂ r₂ wf₂ a b
    exact ⟨e₁, e₂, p, q, same_residue m₁ m₂ p' q'⟩
  · obtain ⟨e₁, p, -, p'⟩ := C13.hom_sub W₁ r₁ wf₁ a b
    obtain ⟨e₂, q, -, q'⟩ := C13.hom_sub W₂ r₂ wf₂ a b
    exact ⟨e₁, e₂, p, q, same_residue m₁ m₂ p' q'⟩
  · obtain ⟨e₁, p, -, p'⟩ := C13.hom_mul W₁ r₁ wf₁ a b
    obtain ⟨e₂, q, -, q'⟩ := C13.hom_mul W₂ r₂ wf₂ a b
    exact ⟨e₁, e₂, p, q, same_residue m₁ m₂ p' q'⟩
  · exact same_residue m₁ m₂ (C13.hom_neg W₁ r₁ wf₁ a).2 (C13.hom_neg W₂ r₂ wf₂ a).2
  · exact same_residue m₁ m₂ (C13.hom_dbl W₁ r₁ wf₁ a).2 (C13.hom_dbl W₂ r₂ wf₂ a).2
  · exact same_residue m₁ m₂ (C13.hom_sqr W₁ r₁ wf₁ a).2 (C13.hom_sqr W₂ r₂ wf₂ a).2
  · exact same_residue m₁ m₂ (C13.hom_pow W₁ r₁ wf₁ a e).2 (C13.hom_pow W₂ r₂ wf₂ a e).2
  · rw [(C13.inv_spec W₁ r₁ wf₁ a).1, (C13.inv_spec W₂ r₂ wf₂ a).1, m₁, m₂]

/-- non-vacuity: one 3-word (W = 64) / 6-word (W = 32) modulus; the two rings differ, the residues agree -/
example : ∃ r₁ r₂, Ring.new 64 0 (2 ^ 190 + 7) = .ok r₁ ∧ Ring.new 32 0 (2 ^ 190 + 7) = .ok r₂ ∧ r₁ ≠ r₂ ∧
    ((reduceInt 64 r₁ 3).pow 64 21).residue = ((reduceInt 32 r₂ 3).pow 32 21).residue :=
  ⟨_, _, rfl, rfl, by decide +kernel, by decide +kernel⟩

/-- … and a modulus that is a single word in one build and a double word in the other -/
example : ∃ r₁ r₂, Ring.new 64 0 (2 ^ 40 + 15) = .ok r₁ ∧ Ring.new 32 0 (2 ^ 40 + 15) = .ok r₂ ∧
    r₁.kind = .single ∧ r₂.kind = .double :=
  ⟨_, _, rfl, rfl, by decide +kernel, by decide +kernel⟩

end Dashu.Props.C19
