import Dashu.Model.Int.OpsForms
import Dashu.Model.Int.PowGuard
import Dashu.Proofs.Int.PowFull
import Dashu.Proofs.Int.Cmp
import Dashu.Proofs.Int.MulCompose
import Dashu.Proofs.Int.Ops
import Dashu.Proofs.Int.PowBuf
/-
  C01, Tie A for the operator dispatch.  `Dashu.Gen.IntDispatch` is rewritten from `integer/src/add_ops.rs`
  (`mod repr`, `mod repr_signed`) and `integer/src/mul_ops.rs` (`mod repr`, the public `sqr` / `cubic`) on every run:
  one definition per ownership form of `Add`, `Sub`, `SubSigned`, `Mul` on `TypedRepr` / `TypedReprRef`.
  Here: (1) the hand-written dispatch of the model (`TRepr.add/sub/subSigned/mul` with their `form` arguments, the
  functions all other C01 theorems are about) IS that regenerated dispatch over the mirrored kernels; (2) every
  ownership form returns the same exact canonical result — in particular the `UBig − UBig` underflow panic in all four
  forms, as one theorem; (3) the public `sqr` / `cubic` of `UBig` / `IBig` in the regenerated shape are exact.
  A change of an arm in the source (another callee, exchanged arguments, a dropped `.neg()`) changes the generated text
  and breaks (1).
-/
namespace Dashu.Props.C01Dispatch
open Dashu.Model Dashu.Gen

-- ====================================================================== (1) model dispatch = regenerated dispatch

/-- `+`: the `form` argument of `TRepr.add` (0 = ref/ref and val/val, 1 = ref/val) selects exactly the regenerated
    impls; the val/ref impl is `rhs.add(self)`, i.e. the ref/val impl with the operands exchanged -/
theorem add_dispatch_regenerated (W : Nat) (a b : TRepr) :
    TRepr.addF W .refRef a b = a.add W b 0 ∧ TRepr.addF W .valVal a b = a.add W b 0 ∧
    TRepr.addF W .refVal a b = a.add W b 1 ∧ TRepr.addF W .valRef a b = b.add W a 1 := by
  -- every case is `rfl`, but that is slow to check here; unfolding by `simp` is not
  cases a <;> cases b <;>
    simp [TRepr.addF, TRepr.add, IntDispatch.Add_ref_ref, IntDispatch.Add_val_val, IntDispatch.Add_ref_val,
      IntDispatch.Add_val_ref, addK]

/-- `-` on `UBig` magnitudes: three impls reach `sub_large`, the ref/val impl reaches `sub_large_ref_val` -/
theorem sub_dispatch_regenerated (W : Nat) (a b : TRepr) :
    TRepr.subF W .refRef a b = a.sub W b false ∧ TRepr.subF W .valRef a b = a.sub W b false ∧
    TRepr.subF W .valVal a b = a.sub W b false ∧ TRepr.subF W .refVal a b = a.sub W b true := by
  refine ⟨?_, ?_, ?_, ?_⟩ <;> cases a <;> cases b <;> rfl

/-- `sub_signed` -/
theorem sub_signed_dispatch_regenerated (W : Nat) (a b : TRepr) :
    TRepr.subSignedF W .refRef a b = a.subSigned W b 0 ∧ TRepr.subSignedF W .valVal a b = a.subSigned W b 0 ∧
    TRepr.subSignedF W .refVal a b = a.subSigned W b 1 ∧ TRepr.subSignedF W .valRef a b = a.subSigned W b 2 := by
  cases a <;> cases b <;>
    simp [TRepr.subSignedF, TRepr.subSigned, IntDispatch.SubSigned_ref_ref, IntDispatch.SubSigned_val_val,
      IntDispatch.SubSigned_ref_val, IntDispatch.SubSigned_val_ref, subSignedK]

/-- `*`: three impls are `TRepr.mul`; the val/ref impl is `rhs.mul(self)`, i.e. `TRepr.mul` with the operands exchanged -/
theorem mul_dispatch_regenerated (W : Nat) (a b : TRepr) :
    TRepr.mulF W .refRef a b = a.mul W b ∧ TRepr.mulF W .refVal a b = a.mul W b ∧
    TRepr.mulF W .valVal a b = a.mul W b ∧ TRepr.mulF W .valRef a b = b.mul W a := by
  refine ⟨?_, ?_, ?_, ?_⟩ <;> cases a <;> cases b <;> rfl

/-- `mul_dword`'s one-word test (`a <= Word::MAX && b <= Word::MAX`) and `mul_dword_spilled` as regenerated = the model's
    `mulDword` -/
theorem mul_dword_regenerated (W a b : Nat) :
    mulDword W a b
      = IntDispatch.mul_dword TRepr.small
          (IntDispatch.dword_spilled (mulAddCarryDword W) (fun c => (c % 2 ^ W, c / 2 ^ W)) (fromBuffer W))
          (2 ^ W - 1) a b := by
  have hp := Nat.two_pow_pos W
  have hiff : (a < 2 ^ W ∧ b < 2 ^ W) ↔ (a ≤ 2 ^ W - 1 ∧ b ≤ 2 ^ W - 1) := by omega
  unfold mulDword IntDispatch.mul_dword IntDispatch.dword_spilled
  by_cases h : a < 2 ^ W ∧ b < 2 ^ W
  · rw [if_pos h, if_pos (hiff.1 h)]
  · rw [if_neg h, if_neg (fun h' => h (hiff.2 h'))]

/-- `TypedReprRef::sqr` (`shrink_dword` test, `square_dword_spilled`, `square_large`) as regenerated = the model's `TRepr.sqr` -/
theorem repr_sqr_regenerated (W : Nat) (a : TRepr) :
    a.sqr W
      = IntDispatch.repr_sqr TRepr.small
          (fun d => IntDispatch.dword_spilled (mulAddCarryDword W) (fun c => (c % 2 ^ W, c / 2 ^ W)) (fromBuffer W) d d)
          (squareLarge W) (2 ^ W - 1) a := by
  have hp := Nat.two_pow_pos W
  cases a with
  | small d =>
    simp only [TRepr.sqr, IntDispatch.repr_sqr, IntDispatch.dword_spilled]
    by_cases h : d < 2 ^ W
    · rw [if_pos h, if_pos (show d ≤ 2 ^ W - 1 by omega)]
    · rw [if_neg h, if_neg (show ¬ d ≤ 2 ^ W - 1 by omega)]
  | large ws => rfl

/-- `mul_large_dword` (multiplier 0 / 1 / one word: power of two ⇒ `shl_in_place` by `trailing_zeros`, else
    `mul_word_in_place`, carry word pushed / two words: `mul_dword_in_place`, the carry's two words pushed only if non-zero)
    as regenerated = the model's `mulLargeDword` (which writes the shift amount of a power of two as `log2`) -/
theorem mul_large_dword_regenerated (W : Nat) (buffer : List Nat) (rhs : Nat) :
    mulLargeDword W buffer rhs
      = IntDispatch.mul_large_dword (.small 0) (fromBuffer W) isPow2 trailingZeros
          (fun b s => shlInPlace W b s 0) (fun b w => mulWordInPlace W b w 0) (fun b d => mulDwordInPlace W b d 0)
          (fun c => (c % 2 ^ W, c / 2 ^ W)) (2 ^ W - 1) buffer rhs := by
  have hp := Nat.two_pow_pos W
  rcases rhs with _ | _ | n
  · rfl
  · rfl
  · unfold mulLargeDword IntDispatch.mul_large_dword
    rw [if_neg (show ¬ n + 1 + 1 = 0 by omega), if_neg (show ¬ n + 1 + 1 = 1 by omega)]
    simp only
    by_cases h : n + 1 + 1 < 2 ^ W
    · rw [if_pos h, if_pos (show n + 1 + 1 ≤ 2 ^ W - 1 by omega)]
      by_cases hpow : isPow2 (n + 1 + 1) = true
      · have hlog : Nat.log2 (n + 1 + 1) = trailingZeros (n + 1 + 1) := by
          have he := isPow2_eq (n + 1 + 1) hpow
          conv => rhs; rw [he]
          rw [trailingZeros_two_pow]
        simp only [hpow, if_true, hlog]
      · simp only [hpow, if_false, Bool.false_eq_true]
    · rw [if_neg h, if_neg (show ¬ n + 1 + 1 ≤ 2 ^ W - 1 by omega)]
      by_cases hc : (mulDwordInPlace W buffer (n + 1 + 1) 0).2 = 0
      · simp only [hc, if_true, ne_eq, not_true_eq_false, if_false]
      · simp only [hc, if_false, ne_eq, not_false_eq_true, if_true]

/-- `mul_large` as regenerated (equal operands ⇒ `square_large(lhs)`; otherwise `mul::multiply` into a zero-filled
    buffer of `lhs.len() + rhs.len()` words, then `from_buffer`) = the model's `mulLarge`; `cmp_in_place(..).is_eq()` on
    two word slices is equality of the lists -/
theorem mul_large_regenerated (W : Nat) (lhs rhs : List Nat) :
    mulLarge W lhs rhs
      = IntDispatch.mul_large (fun l r => decide (l = r)) (squareLarge W)
          (fun resLen _ _ l r => fromBuffer W (addSignedMul W resLen (List.replicate resLen 0) false l r).1)
          lhs rhs := by
  unfold mulLarge IntDispatch.mul_large
  by_cases h : lhs = rhs
  · simp [h]
  · simp [h]

/-- **link to C05** (which owns `cmp.rs`): `cmp_in_place(lhs, rhs).is_eq()` computed by C05's mirrored `cmpInPlace`
    (length first, then `cmp_same_len` from the top word down) is equality of the word lists, so the equal-operands
    shortcut of `mul_large` in the model (`lhs = rhs`) is the test the code performs -/
theorem cmp_in_place_is_eq (W : Nat) (lhs rhs : List Nat) (hl : IsWords W lhs) (hr : IsWords W rhs) :
    (cmpInPlace lhs rhs == .eq) = decide (lhs = rhs) := by
  rw [beq_eq_decide, decide_eq_decide, cmpInPlace, Ordering.then_eq_eq, Nat.compare_eq_eq]
  constructor
  · rintro ⟨hlen, hc⟩
    rw [cmpSameLen_spec W lhs rhs hlen hl hr, Nat.compare_eq_eq] at hc
    exact val_inj W lhs rhs hl hr hlen hc
  · rintro rfl
    exact ⟨rfl, by rw [cmpSameLen_spec W lhs lhs rfl hl hl, Nat.compare_eq_eq]⟩

/-- `mul_large` as regenerated, with C05's `cmp_in_place` as the comparison -/
theorem mul_large_regenerated_cmp (W : Nat) (lhs rhs : List Nat) (hl : IsWords W lhs) (hr : IsWords W rhs) :
    mulLarge W lhs rhs
      = IntDispatch.mul_large (fun l r => cmpInPlace l r == .eq) (squareLarge W)
          (fun resLen _ _ l r => fromBuffer W (addSignedMul W resLen (List.replicate resLen 0) false l r).1)
          lhs rhs := by
  rw [mul_large_regenerated]
  unfold IntDispatch.mul_large
  simp only [cmp_in_place_is_eq W lhs rhs hl hr]

/-- `sqr::MAX_LEN_SIMPLE`: the squaring dispatch of the model uses the constant regenerated from `sqr/mod.rs`, and takes
    `simple::square` exactly up to it -/
theorem sqr_max_len_simple_regenerated (W : Nat) (a : List Nat) :
    sqrMaxLenSimple = Dashu.Gen.sqr_MAX_LEN_SIMPLE ∧
    (a.length ≤ Dashu.Gen.sqr_MAX_LEN_SIMPLE → sqrBuffer W a = sqrSimple W a) ∧
    (Dashu.Gen.sqr_MAX_LEN_SIMPLE < a.length →
      sqrBuffer W a = (addSignedMulSameLen W a.length (List.replicate (2 * a.length) 0) false a a).1) := by
  refine ⟨rfl, fun h => ?_, fun h => ?_⟩
  · unfold sqrBuffer sqrMaxLenSimple; rw [if_pos h]
  · unfold sqrBuffer sqrMaxLenSimple; rw [if_neg (by omega)]

-- ====================================================================== (2) every ownership form, one result

theorem subF_eq (W : Nat) (f : OwnForm) (a b : TRepr) :
    TRepr.subF W f a b = a.sub W b (f == .refVal) := by
  obtain ⟨h1, h2, h3, h4⟩ := sub_dispatch_regenerated W a b
  cases f
  · exact h1
  · exact h4
  · exact h2
  · exact h3

/-- every ownership form of `-` is one function of the values -/
theorem subF_eq_ofNat {W : Nat} (f : OwnForm) {a b : TRepr} (ha : a.Canon W) (hb : b.Canon W) :
    TRepr.subF W f a b =
      if b.value W ≤ a.value W then .ok (ofNat W (a.value W - b.value W)) else .error .negativeUBig := by
  rw [subF_eq, TRepr.sub_eq _ ha hb]

/-- **`UBig − UBig` in all four ownership forms** (`TypedRepr`/`TypedReprRef` on either side, as regenerated from
    add_ops.rs): when `b ≤ a` all four return the SAME canonical representation of `a − b`; when `a < b` all four raise the
    documented panic (`panic_negative_ubig`), never a wrapped value -/
theorem u_sub_all_forms_exact (W : Nat) (a b : TRepr) (ha : a.Canon W) (hb : b.Canon W) :
    (b.value W ≤ a.value W →
      ∃ r, (∀ f, TRepr.subF W f a b = .ok r) ∧ r.value W = a.value W - b.value W ∧ r.Canon W) ∧
    (a.value W < b.value W → ∀ f, TRepr.subF W f a b = .error .negativeUBig) := by
  exact ⟨fun h => ⟨_, fun f => (subF_eq_ofNat f ha hb).trans (if_pos h), TRepr.sub_repr ha hb h⟩,
    fun h f => (subF_eq_ofNat f ha hb).trans (if_neg (by omega))⟩

/-- the subtraction succeeds in one form iff in all, iff it does not go below zero -/
theorem u_sub_all_forms_ok_iff (W : Nat) (a b : TRepr) (f : OwnForm) (ha : a.Canon W) (hb : b.Canon W) :
    (∃ r, TRepr.subF W f a b = .ok r) ↔ b.value W ≤ a.value W := by
  rw [subF_eq_ofNat f ha hb]
  constructor
  · rintro ⟨r, hr⟩
    apply Decidable.byContradiction
    intro h; rw [if_neg h] at hr; cases hr
  · exact fun h => ⟨_, if_pos h⟩

/-- **`UBig + UBig` in all four ownership forms**: the same canonical representation of the exact sum -/
theorem u_add_all_forms_exact (W : Nat) (hW : 1 ≤ W) (a b : TRepr) (ha : a.Canon W) (hb : b.Canon W) :
    ∃ r, (∀ f, TRepr.addF W f a b = r) ∧ r.value W = a.value W + b.value W ∧ r.Canon W := by
  obtain ⟨h1, h2, h3, h4⟩ := add_dispatch_regenerated W a b
  refine ⟨_, fun f => ?_, ofNat_spec W hW _⟩
  cases f
  · rw [h1, TRepr.add_eq hW _ ha hb]
  · rw [h3, TRepr.add_eq hW _ ha hb]
  · rw [h4, TRepr.add_eq hW _ hb ha, Nat.add_comm]
  · rw [h2, TRepr.add_eq hW _ ha hb]

/-- **`UBig × UBig` in all four ownership forms** (the val/ref impl multiplies in the other operand order): the same
    canonical representation of the exact product -/
theorem u_mul_all_forms_exact (W : Nat) (hW : 4 ≤ W) (a b : TRepr) (ha : a.Canon W) (hb : b.Canon W) :
    ∃ r, (∀ f, TRepr.mulF W f a b = r) ∧ r.value W = a.value W * b.value W ∧ r.Canon W := by
  obtain ⟨h1, h2, h3, h4⟩ := mul_dispatch_regenerated W a b
  refine ⟨_, fun f => ?_, ofNat_spec W (by omega) _⟩
  cases f
  · rw [h1, TRepr.mul_eq hW ha hb]
  · rw [h2, TRepr.mul_eq hW ha hb]
  · rw [h4, TRepr.mul_eq hW hb ha, Nat.mul_comm]
  · rw [h3, TRepr.mul_eq hW ha hb]

/-- **`sub_signed` in all four ownership forms**: the exact signed difference, canonical, never "−0" -/
theorem sub_signed_all_forms_exact (W : Nat) (f : OwnForm) (a b : TRepr) (ha : a.Canon W) (hb : b.Canon W) :
    (TRepr.subSignedF W f a b).value W = (a.value W : Int) - b.value W ∧ (TRepr.subSignedF W f a b).WF W := by
  obtain ⟨h1, h2, h3, h4⟩ := sub_signed_dispatch_regenerated W a b
  cases f
  · rw [h1]; exact TRepr.subSigned_spec W a b 0 ha hb
  · rw [h3]; exact TRepr.subSigned_spec W a b 1 ha hb
  · rw [h4]; exact TRepr.subSigned_spec W a b 2 ha hb
  · rw [h2]; exact TRepr.subSigned_spec W a b 0 ha hb

-- ====================================================================== (3) public sqr / cubic

/-- **`UBig::sqr`, `UBig::cubic`** in the regenerated shape (`UBig(self.repr().sqr())`, `self * self.sqr()` through the
    ref/val impl of `Mul`): exact and canonical -/
theorem ubig_sqr_cubic_exact (W : Nat) (hW : 4 ≤ W) (a : TRepr) (ha : a.Canon W) :
    ((ubigSqr W a).value W = a.value W * a.value W ∧ (ubigSqr W a).Canon W) ∧
    ((ubigCubic W a).value W = a.value W * a.value W * a.value W ∧ (ubigCubic W a).Canon W) := by
  have hs := TRepr.sqr_spec W hW a ha
  have hm := TRepr.mul_spec W hW a (a.sqr W) ha hs.2
  have e : ubigCubic W a = a.mul W (a.sqr W) := (mul_dispatch_regenerated W a (a.sqr W)).2.1
  refine ⟨hs, ?_, ?_⟩
  · rw [e, hm.1, hs.1, Nat.mul_assoc]
  · rw [e]; exact hm.2

/-- **`IBig::sqr`** (a `UBig`: the sign is dropped) and **`IBig::cubic`** (`&IBig * UBig` with `impl_ibig_mul`:
    sign `sign0 * Positive`): exact, canonical, never "−0" -/
theorem ibig_sqr_cubic_exact (W : Nat) (hW : 4 ≤ W) (a : SRepr) (ha : a.WF W) :
    (((ibigSqr W a).value W : Int) = a.value W * a.value W ∧ (ibigSqr W a).Canon W) ∧
    ((ibigCubic W a).value W = a.value W * a.value W * a.value W ∧ (ibigCubic W a).WF W) := by
  have hs := TRepr.sqr_spec W hW a.mag ha.1
  have hsq : (((a.mag.sqr W).value W : Nat) : Int) = a.value W * a.value W := by
    rw [hs.1]; unfold SRepr.value; cases a.neg <;> simp
  have hwf : (SRepr.mk false (a.mag.sqr W)).WF W := ⟨hs.2, by simp⟩
  have hm := ibigMul_spec W hW a ⟨false, a.mag.sqr W⟩ ha hwf
  have e : ibigCubic W a = ibigMul W a ⟨false, a.mag.sqr W⟩ := by
    show withSign (TRepr.mulF W .refVal a.mag (a.mag.sqr W)) (a.neg != false) = _
    rw [(mul_dispatch_regenerated W a.mag (a.mag.sqr W)).2.1]; rfl
  refine ⟨⟨hsq, hs.2⟩, ?_, ?_⟩
  · rw [e, hm.1]
    have : (SRepr.mk false (a.mag.sqr W)).value W = a.value W * a.value W := by
      simp only [SRepr.value]; exact hsq
    rw [this, Int.mul_assoc]
  · rw [e]; exact hm.2

-- ====================================================================== (4) pow with the allocation guard of `<<`

/-- the driver's closed-form specification of `pow` for `|x| ≤ 1` (needed to drive `usize::MAX` exponents) is `x ^ n` -/
theorem spec_pow_eq (x : Int) (y n : Nat) : specPowInt x n = x ^ n ∧ specPowNat y n = y ^ n := by
  constructor
  · unfold specPowInt
    by_cases h0 : x = 0
    · rw [if_pos h0, h0]
      by_cases hn : n = 0
      · rw [if_pos hn, hn, pow_zero]
      · rw [if_neg hn, zero_pow hn]
    by_cases h1 : x = 1
    · rw [if_neg h0, if_pos h1, h1, one_pow]
    by_cases hm : x = -1
    · rw [if_neg h0, if_neg h1, if_pos hm, hm, neg_one_pow_eq_pow_mod_two]
      rcases Nat.mod_two_eq_zero_or_one n with he | he
      · rw [he, if_pos rfl, pow_zero]
      · rw [he, if_neg Nat.one_ne_zero, pow_one]
    rw [if_neg h0, if_neg h1, if_neg hm]
  · unfold specPowNat
    by_cases h0 : y = 0
    · rw [if_pos h0, h0]
      by_cases hn : n = 0
      · rw [if_pos hn, hn, pow_zero]
      · rw [if_neg hn, zero_pow hn]
    by_cases h1 : y = 1
    · rw [if_neg h0, if_pos h1, h1, one_pow]
    rw [if_neg h0, if_neg h1]

/-- `TypedRepr << n` with `Buffer::allocate`'s check: the shifted value, or the documented allocation panic — the
    latter exactly when the number of words `shl_one_spilled` / `shl_dword_spilled` / `shl_large_ref` ask for exceeds
    `Buffer::MAX_CAPACITY` -/
theorem shl_checked_exact (W : Nat) (r : TRepr) (n : Nat) :
    ((∃ k, shlAllocateWords W r n = some k ∧ bufMaxCapacity W < k) → r.shlChecked W n = .error .allocTooMuch) ∧
    ((∀ k, shlAllocateWords W r n = some k → k ≤ bufMaxCapacity W) → r.shlChecked W n = .ok (r.shl W n)) := by
  unfold TRepr.shlChecked
  constructor
  · rintro ⟨k, hk, hlt⟩
    rw [hk]; simp [hlt]
  · intro h
    cases hk : shlAllocateWords W r n with
    | none => rfl
    | some k =>
      have := h k hk
      simp only
      rw [if_neg (by omega)]

/-- the result-buffer check of `pow_word_base` / `pow_dword_base`: the buffer-level pow, or the allocation panic -/
theorem powBufG_cases (W : Nat) (x : TRepr) (exp : Nat) :
    x.powBufG W exp = x.powBuf W exp ∨ x.powBufG W exp = .error .allocTooMuch := by
  unfold TRepr.powBufG
  by_cases h : powBufAllocPanics W x exp = true
  · right; rw [if_pos h]
  · left; rw [if_neg h]

/-- the guarded pow is the unguarded one (`ubigPowFull`, proved exact) or the allocation panic -/
theorem ubigPowGuarded_cases (W : Nat) (a : TRepr) (exp : Nat) :
    ubigPowGuarded W a exp = ubigPowFull W a exp ∨ ubigPowGuarded W a exp = .error .allocTooMuch := by
  unfold ubigPowGuarded ubigPowFull
  cases a.trailingZeros W with
  | error e => left; rfl
  | ok tz =>
    simp only [bind, Except.bind]
    by_cases hs : tz.getD 0 ≠ 0
    · rw [if_pos hs, if_pos hs]
      by_cases ho : 2 ^ usizeBits ≤ exp * tz.getD 0
      · rw [if_pos ho, if_pos ho]; left; rfl
      · rw [if_neg ho, if_neg ho]
        rcases powBufG_cases W (a.shr W (tz.getD 0) true) exp with hg | hg
        · rw [hg]
          cases (a.shr W (tz.getD 0) true).powBuf W exp with
          | error e => left; rfl
          | ok r =>
            simp only
            unfold TRepr.shlChecked
            cases shlAllocateWords W r (exp * tz.getD 0) with
            | none => left; rfl
            | some k =>
              simp only
              by_cases hk : bufMaxCapacity W < k
              · rw [if_pos hk]; right; rfl
              · rw [if_neg hk]; left; rfl
        · rw [hg]; right; rfl
    · rw [if_neg hs, if_neg hs]
      exact powBufG_cases W a exp

/-- **`UBig::pow` exactly as the driver runs it** (mirrored kernels, real buffers, `exp.checked_mul(shift)`, the
    `Buffer::allocate` checks of the result buffer and of the final `<<`), for EVERY base and every `usize` exponent: the
    canonical representation of `base ^ exp`, or the documented allocation panic — never another panic or value
    (the panic class is characterised by `u_pow_guarded_iff`) -/
theorem u_pow_guarded_exact (W : Nat) (hW : 4 ≤ W) (a : TRepr) (exp : Nat) (ha : a.Canon W) :
    (∃ r, ubigPowGuarded W a exp = .ok r ∧ r.value W = a.value W ^ exp ∧ r.Canon W) ∨
    ubigPowGuarded W a exp = .error .allocTooMuch := by
  rcases ubigPowGuarded_cases W a exp with h | h
  · rw [h, ubigPowFull_eq W hW a exp ha]
    obtain ⟨h1, h2⟩ := ubigPowKernels_spec W hW a exp ha
    cases ho : powShiftOverflows (a.value W) exp with
    | true => right; exact h1 ho
    | false => left; exact h2 ho
  · right; exact h

/-- the panic class of `UBig::pow`, as a predicate on VALUES (`s` = trailing zero bits of the base, `o = v / 2^s` its odd
    part, in its canonical representation): the result buffer of `pow_word_base` / `pow_dword_base` for `o ^ exp` would
    exceed `MAX_CAPACITY` words; or `s > 0` and `exp * s` does not fit `usize`; or `s > 0` and shifting `o ^ exp` left by
    `exp * s` bits asks `Buffer::allocate` for more than `MAX_CAPACITY` words -/
def powAllocPanics (W v exp : Nat) : Bool :=
  powBufAllocPanics W (ofNat W (v / 2 ^ trailingZeros v)) exp ||
    (trailingZeros v != 0 &&
      (decide (2 ^ usizeBits ≤ exp * trailingZeros v) ||
        match shlAllocateWords W (ofNat W ((v / 2 ^ trailingZeros v) ^ exp)) (exp * trailingZeros v) with
        | some k => decide (bufMaxCapacity W < k)
        | none => false))

theorem ubigPowGuarded_flow (W : Nat) (a : TRepr) (exp : Nat) :
    ubigPowGuarded W a exp = powFlow W (fun x => x.powBufG W exp) (fun r n => r.shlChecked W n) a exp := rfl

theorem powBufG_eq {W : Nat} (hW : 4 ≤ W) {x : TRepr} (exp : Nat) (hx : x.Canon W) :
    x.powBufG W exp =
      if powBufAllocPanics W x exp = true then .error .allocTooMuch else .ok (ofNat W (x.value W ^ exp)) := by
  rw [TRepr.powBufG, TRepr.powBuf_eq W hW x exp hx, TRepr.pow_eq hW exp hx]

/-- `TypedRepr << n` with its allocation check, as one test -/
theorem shlChecked_eq {W : Nat} (hW : 1 ≤ W) {r : TRepr} (n : Nat) (hr : r.Canon W) :
    r.shlChecked W n =
      if (match shlAllocateWords W r n with | some k => decide (bufMaxCapacity W < k) | none => false) = true
      then .error .allocTooMuch else .ok (ofNat W (r.value W * 2 ^ n)) := by
  rw [TRepr.shlChecked, TRepr.shl_eq hW n hr]
  cases shlAllocateWords W r n <;> simp

/-- `UBig::pow` as the driver runs it is one function of the value of the base -/
theorem ubigPowGuarded_eq {W : Nat} (hW : 4 ≤ W) {a : TRepr} (exp : Nat) (ha : a.Canon W) :
    ubigPowGuarded W a exp =
      if powAllocPanics W (a.value W) exp = true then .error .allocTooMuch
      else .ok (ofNat W (a.value W ^ exp)) := by
  have hW1 : 1 ≤ W := by omega
  have ho := ofNat_spec W hW1
  rw [ubigPowGuarded_flow, powFlow_eq hW1 _ _ _ ha, powAllocPanics]
  by_cases hs : trailingZeros (a.value W) = 0
  · -- no factor 2 (or zero): `self.repr().pow(exp)`, and the odd part is the base itself
    rw [powBufG_eq hW exp ha]
    simp [hs, ← TRepr.Canon.eq_ofNat ha]
  · by_cases hov : 2 ^ usizeBits ≤ exp * trailingZeros (a.value W)
    · simp [hs, hov]
    · rw [powBufG_eq hW exp (ho _).2, (ho _).1]
      by_cases hP : powBufAllocPanics W (ofNat W (a.value W / 2 ^ trailingZeros (a.value W))) exp = true
      · simp [hs, hov, hP, bind, Except.bind]
      · rw [if_neg hP, bind_ok', shlChecked_eq hW1 _ (ho _).2, (ho _).1, pow_odd_part]
        simp [hs, hov, hP]

/-- **`UBig::pow` as the driver runs it, complete characterisation**: the documented allocation panic exactly on the
    class `powAllocPanics` (a condition on the mathematical values only), and otherwise the canonical representation
    of `base ^ exp` — for every base and every `usize` exponent -/
theorem u_pow_guarded_iff (W : Nat) (hW : 4 ≤ W) (a : TRepr) (exp : Nat) (ha : a.Canon W) :
    (powAllocPanics W (a.value W) exp = true → ubigPowGuarded W a exp = .error .allocTooMuch) ∧
    (powAllocPanics W (a.value W) exp = false →
      ∃ r, ubigPowGuarded W a exp = .ok r ∧ r.value W = a.value W ^ exp ∧ r.Canon W) := by
  rw [ubigPowGuarded_eq hW exp ha]
  exact ⟨fun h => if_pos h, fun h => ⟨_, if_neg (by simp [h]), ofNat_spec W (by omega) _⟩⟩

-- both classes are inhabited: `6.pow(5)` is computed (shift 1), `2.pow(usize::MAX)` is the allocation panic
example : powAllocPanics 64 6 5 = false := by decide +kernel

example : powAllocPanics 64 2 (2 ^ 64 - 1) = true := by
  have h1 : trailingZeros 2 = 1 := by
    rw [trailingZeros]; simp [trailingZeros_odd]
  have h2 : (2 / 2 ^ 1) ^ (2 ^ 64 - 1) = 1 := by rw [show 2 / 2 ^ 1 = 1 from rfl, Nat.one_pow]
  unfold powAllocPanics
  rw [h1, h2]
  decide +kernel

/-- **`IBig::pow` as the driver runs it, complete characterisation** (sign rule `Negative` iff the base is negative and
    the exponent odd — `exp % 2` on the full `usize`) -/
theorem i_pow_guarded_iff (W : Nat) (hW : 4 ≤ W) (a : SRepr) (exp : Nat) (ha : a.WF W) :
    (powAllocPanics W (a.mag.value W) exp = true → ibigPowGuarded W a exp = .error .allocTooMuch) ∧
    (powAllocPanics W (a.mag.value W) exp = false →
      ∃ r, ibigPowGuarded W a exp = .ok r ∧ r.value W = a.value W ^ exp ∧ r.WF W) := by
  rw [ibigPowGuarded, ubigPowGuarded_eq hW exp ha.1]
  exact ⟨fun h => by rw [if_pos h]; rfl,
    fun h => ⟨_, by rw [if_neg (by simp [h])]; rfl, withSign_pow a exp (ofNat_spec W (by omega) _)⟩⟩

/-- **`IBig::pow` as the driver runs it**: exact with the sign rule, or the documented allocation panic -/
theorem i_pow_guarded_exact (W : Nat) (hW : 4 ≤ W) (a : SRepr) (exp : Nat) (ha : a.WF W) :
    (∃ r, ibigPowGuarded W a exp = .ok r ∧ r.value W = a.value W ^ exp ∧ r.WF W) ∨
    ibigPowGuarded W a exp = .error .allocTooMuch := by
  obtain ⟨h1, h2⟩ := i_pow_guarded_iff W hW a exp ha
  cases h : powAllocPanics W (a.mag.value W) exp
  · exact .inl (h2 h)
  · exact .inr (h1 h)

-- `3.pow(usize::MAX)`: `pow_word_base` asks for `usize::MAX / 40 + 1` words
example : powAllocPanics 64 3 (2 ^ 64 - 1) = true := by
  have h1 : trailingZeros 3 = 0 := trailingZeros_odd 3 (by decide)
  unfold powAllocPanics
  rw [h1]
  decide +kernel

-- the guard fires: `2.pow(usize::MAX)` asks `shl_one_spilled` for 2^58 words, one more than MAX_CAPACITY
example : shlAllocateWords 64 (.small 1) (2 ^ 64 - 1) = some (2 ^ 58) ∧ bufMaxCapacity 64 = 2 ^ 58 - 1 := by
  constructor <;> decide +kernel

-- ====================================================================== (5) pow.rs control flow regenerated

/-- the sign rule of `IBig::pow` in the model (`neg && exp % 2 == 1`) is the regenerated test
    `sign == Negative && exp % 2 == 1` -/
theorem ibig_pow_sign_regenerated (neg : Bool) (exp : Nat) :
    IntDispatch.IBig_pow_sign (if neg then .Negative else .Positive) (exp : Int)
      = (if (neg && exp % 2 == 1) = true then Dashu.Sign.Negative else Dashu.Sign.Positive) := by
  have hmod : ((exp : Int) % 2 = 1) ↔ exp % 2 = 1 := by omega
  cases neg <;> rcases Nat.mod_two_eq_zero_or_one exp with h | h <;>
    simp [IntDispatch.IBig_pow_sign, Dashu.GluePrelude.eq_, Dashu.GluePrelude.rem_, hmod, h]

/-- **the magnitude flow of `UBig::pow` / `IBig::pow`** (`trailing_zeros().unwrap_or(0)`, `shift != 0`, `shr → pow → shl` with
    `exp.checked_mul(shift)` evaluated AFTER the receiver `…pow(exp)`) as regenerated = what the driver runs.  (The model
    tests the product first; that is the same function because the buffer-level pow of a canonical value can only
    fail with the same allocation panic.) -/
theorem pow_magnitude_regenerated (W : Nat) (hW : 4 ≤ W) (a : TRepr) (exp : Nat) (ha : a.Canon W) :
    ubigPowGuarded W a exp =
      (a.trailingZeros W >>= fun tz =>
        IntDispatch.pow_magnitude (fun m s => m.shr W s true) (fun m e => m.powBufG W e)
          (fun r e s => r >>= fun v =>
            if 2 ^ usizeBits ≤ e * s then .error .allocTooMuch else v.shlChecked W (e * s)) a tz exp) := by
  unfold ubigPowGuarded IntDispatch.pow_magnitude
  cases a.trailingZeros W with
  | error e => rfl
  | ok tz =>
    simp only [bind, Except.bind]
    by_cases hs : tz.getD 0 ≠ 0
    · rw [if_pos hs, if_pos hs, powBufG_eq hW exp (TRepr.shr_spec W (by omega) a (tz.getD 0) true ha).2]
      -- the power fails with the allocation panic or not at all, so the test of the product may come first
      by_cases hP : powBufAllocPanics W (a.shr W (tz.getD 0) true) exp = true
      · rw [if_pos hP]; split <;> rfl
      · rw [if_neg hP]
    · rw [if_neg hs, if_neg hs]

/-- `TypedReprRef::pow` (shortcuts 0, 1, 2; word / double-word / heap base) as regenerated = the model's `TRepr.powBuf` -/
theorem repr_pow_regenerated (W : Nat) (a : TRepr) (exp : Nat) :
    a.powBuf W exp =
      IntDispatch.repr_pow (.ok (.small 1)) (fun x => .ok x) (fun x => .ok (x.sqr W)) (powWordBaseRepr W)
        (powDwordBaseRepr W) (fun ws e => .ok (powLargeBase W ws e)) (2 ^ W - 1) a exp := by
  have hp := Nat.two_pow_pos W
  unfold TRepr.powBuf IntDispatch.repr_pow
  rcases exp with _ | _ | _ | n
  · rfl
  · rfl
  · rfl
  · rw [if_neg (by omega), if_neg (by omega), if_neg (by omega)]
    cases a with
    | small d =>
      simp only
      by_cases h : d < 2 ^ W
      · rw [if_pos h, if_pos (by omega)]
      · rw [if_neg h, if_neg (by omega)]
    | large ws => rfl

theorem ite_some_eq_none {α : Type} {c : Prop} [Decidable c] {a : α} {r : Option α} :
    (if c then some a else r) = none ↔ ¬c ∧ r = none := by
  by_cases h : c
  · simp [h]
  · simp [h]

/-- a chain of early returns `if c then some a else r` agrees with the chain of values `if c then a else x` wherever it
    returns, if its tail `r` agrees with `x` -/
theorem ite_some_agree {α : Type} {c : Prop} [Decidable c] {a x : α} {r : Option α}
    (h : ∀ v, r = some v → x = v) (v : α) (hv : (if c then some a else r) = some v) : (if c then a else x) = v := by
  by_cases hc : c
  · rw [if_pos hc] at hv ⊢
    exact Option.some.inj hv
  · rw [if_neg hc] at hv ⊢
    exact h v hv

/-- the regenerated `match base` of `pow_word_base` as the chain of tests the model writes -/
theorem pow_word_base_shortcut_eq (p : Nat → Bool) (t : Nat → Nat) (wexp wbase base exp : Nat) :
    IntDispatch.pow_word_base_shortcut p t wexp wbase base exp =
      if base = 0 then some 0 else if base = 1 then some 1 else if base = 2 then some (2 ^ exp)
      else if p base then some (2 ^ (exp * t base))
      else if exp < wexp then some (base ^ exp)
      else if exp < 2 * wexp then some (wbase * base ^ (exp - wexp)) else none := by
  rcases base with _ | _ | _ | n <;> rfl

/-- the shortcut returns of `pow_word_base` as regenerated: whenever one is taken it returns the value of the model's
    `powWordBase`, and none is taken exactly when the model enters the buffer loop; the `Buffer::allocate` arguments
    checked by `powBufAllocPanics` are the regenerated ones -/
theorem pow_word_base_shortcut_regenerated (W base exp : Nat) :
    (∀ v, IntDispatch.pow_word_base_shortcut isPow2 trailingZeros (maxExpInWord W base).1 (maxExpInWord W base).2 base exp
        = some v → powWordBase W base exp = v) ∧
    (IntDispatch.pow_word_base_shortcut isPow2 trailingZeros (maxExpInWord W base).1 (maxExpInWord W base).2 base exp = none ↔
      ¬(base = 0 ∨ base = 1 ∨ base = 2 ∨ isPow2 base = true ∨ exp < 2 * (maxExpInWord W base).1)) ∧
    exp / (maxExpInWord W base).1 + 1 = IntDispatch.pow_word_base_allocate (maxExpInWord W base).1 exp ∧
    2 * exp = IntDispatch.pow_dword_base_allocate exp := by
  rw [pow_word_base_shortcut_eq]
  refine ⟨?_, ?_, rfl, Nat.mul_comm 2 exp⟩
  · -- both sides are the same six tests, the model going on to the buffer loop where the shortcut returns `none`
    simp only [powWordBase]
    iterate 6 apply ite_some_agree
    intro v hv
    cases hv
  · simp only [ite_some_eq_none, not_or, and_true]
    exact ⟨fun ⟨h0, h1, h2, hp, _, hw⟩ => ⟨h0, h1, h2, hp, hw⟩,
      fun ⟨h0, h1, h2, hp, hw⟩ => ⟨h0, h1, h2, hp, by omega, hw⟩⟩

-- ====================================================================== non-vacuity

/-- heap operands of different lengths meet the hypotheses; the four subtraction forms run through `sub_large` /
    `sub_large_ref_val` and agree, and panic in the other order -/
example : (TRepr.large [0, 0, 1, 5]).Canon 64 ∧ (TRepr.large [1, 0, 1]).Canon 64 ∧
    (∀ f, TRepr.subF 64 f (.large [0, 0, 1, 5]) (.large [1, 0, 1]) = .ok (.large [2 ^ 64 - 1, 2 ^ 64 - 1, 2 ^ 64 - 1, 4])) ∧
    (∀ f, TRepr.subF 64 f (.large [1, 0, 1]) (.large [0, 0, 1, 5]) = .error .negativeUBig) := by
  refine ⟨by decide, by decide, ?_, ?_⟩ <;> intro f <;> cases f <;> decide +kernel

end Dashu.Props.C01Dispatch
