import Dashu.Props.C20
import Dashu.Model.Int.FloatConst
/-
  C20 ↔ C05 link: `FBig::from_parts_const(sign, mag, exp, Some(prec))` — the
  const path of `fbig!` / `dbig!` (significand of at most 32 bits) — is modelled in Props/C20 by its
  value (`floatExpansionAsIs`, const arm).  C05 owns the statement-by-statement mirror
  (`Model/Int/FloatConst.lean` `fromPartsConst`: own normaliser on a double word + precision loop).
  Here, on the mirror itself: the representation part on the parts of every accepted literal, and the
  zero arm (`return Self::ZERO`, the recorded finding: precision 0 whatever `min_precision`).
-/
namespace Dashu.Props.C20Link
open Dashu.Model.Serde Dashu.Model.Macro

/-- the mirrored `from_parts_const` on a non-zero magnitude not divisible by the base (2 or 10): the
    representation is `±mag · B^exp` unchanged and the precision is at least `min_precision` -/
theorem from_parts_const_fixed (W : Nat) (binary : Bool) (neg : Bool) (mag : Nat) (e : Int) (prec : Nat)
    (hm : mag ≠ 0) (hn : mag % (if binary then 2 else 10) ≠ 0) :
    (Dashu.Model.fromPartsConst W (if binary then 2 else 10) neg mag e (some prec)).1 = ⟨signedVal neg mag, e⟩ ∧
    prec ≤ (Dashu.Model.fromPartsConst W (if binary then 2 else 10) neg mag e (some prec)).2 := by
  cases binary with
  | true =>
    simp only [if_true] at hn ⊢
    have hp : (2 : Nat) = 2 ^ (Dashu.Model.NT.bitLen 2 - 1) := by decide
    have htz2 : Dashu.Model.NT.trailingZeros 2 = 1 := by decide
    have htz : Dashu.Model.NT.trailingZeros mag = 0 := by
      unfold Dashu.Model.NT.trailingZeros
      cases mag with
      | zero => exact absurd rfl hm
      | succ k =>
        unfold Dashu.Model.NT.tzLoop
        have : (k + 1) % 2 = 1 := by omega
        simp [this]
    unfold Dashu.Model.fromPartsConst
    rw [if_neg hm, if_pos hp, htz2, htz]
    simp [signedVal]
  | false =>
    simp only [Bool.false_eq_true, if_false] at hn ⊢
    have hp : ¬ ((10 : Nat) = 2 ^ (Dashu.Model.NT.bitLen 10 - 1)) := by decide
    have hstrip : Dashu.Model.constStrip 10 (2 * W) mag e = (mag, e) := by
      cases h : 2 * W with
      | zero => rfl
      | succ f => unfold Dashu.Model.constStrip; simp [hn]
    unfold Dashu.Model.fromPartsConst
    rw [if_neg hm, if_neg hp, hstrip]
    simp [signedVal]

/-- the zero arm of the mirror (`if significand == 0 { return Self::ZERO; }`): precision 0 whatever
    `min_precision` — exactly the const arm of `floatExpansionAsIs` for a zero literal (recorded finding) -/
theorem from_parts_const_zero (W B : Nat) (neg : Bool) (e : Int) (mp : Option Nat) :
    Dashu.Model.fromPartsConst W B neg 0 e mp = (⟨0, 0⟩, 0) := by
  simp [Dashu.Model.fromPartsConst]

/-- **const path of the float macros on the mirrored constructor**: whenever the generator takes the
    const path (`bit_len ≤ 32`) on a parsed (normalised or zero) magnitude, C05's mirror of
    `FBig::from_parts_const(sign, mag, exp, Some(prec))` builds exactly the representation the C20 model
    assigns to the expansion; for a zero literal also exactly its precision (0 — the recorded finding),
    otherwise a precision not below the one written -/
theorem const_path_is_mirrored_constructor (W : Nat) (binary st neg : Bool) (mag : Nat) (e : Int) (prec : Nat)
    (hc : floatPath st mag = .const) (hn : mag = 0 ∨ mag % (if binary then 2 else 10) ≠ 0) :
    (Dashu.Model.fromPartsConst W (if binary then 2 else 10) neg mag e (some prec)).1 =
      ⟨(floatExpansionAsIs st neg mag e prec).2.signif, (floatExpansionAsIs st neg mag e prec).2.exp⟩ ∧
    (mag = 0 → (Dashu.Model.fromPartsConst W (if binary then 2 else 10) neg mag e (some prec)).2 =
      (floatExpansionAsIs st neg mag e prec).2.prec) ∧
    (mag ≠ 0 → (floatExpansionAsIs st neg mag e prec).2.prec ≤
      (Dashu.Model.fromPartsConst W (if binary then 2 else 10) neg mag e (some prec)).2) := by
  have hb : Dashu.Model.Text.bitLen mag ≤ 32 := by
    unfold floatPath at hc
    by_cases hb : Dashu.Model.Text.bitLen mag ≤ 32
    · exact hb
    · rw [if_neg hb] at hc
      cases st <;> simp at hc
  unfold floatExpansionAsIs
  rw [if_pos hb]
  by_cases h0 : mag = 0
  · subst h0
    rw [from_parts_const_zero]
    simp
  · have hn' : mag % (if binary then 2 else 10) ≠ 0 := by
      rcases hn with h | h
      · exact absurd h h0
      · exact h
    obtain ⟨a, b⟩ := from_parts_const_fixed W binary neg mag e prec h0 hn'
    simp only [if_neg h0]
    exact ⟨a, fun h => absurd h h0, fun _ => b⟩

/-- on EVERY accepted `fbig!` / `dbig!` literal with a non-zero significand: the mirrored
    `from_parts_const` on the parts the macro emits (`sign`, `|significand|`, exponent, `Some(precision)`)
    returns the parsed representation -/
theorem from_parts_const_on_literal (W : Nat) (binary : Bool) (toks : List Tok) (v : FPVal)
    (h : floatLiteral binary toks = some v) (hs : v.signif ≠ 0) :
    (Dashu.Model.fromPartsConst W (if binary then 2 else 10) (decide (v.signif < 0)) v.signif.natAbs v.exp
      (some v.prec)).1 = ⟨v.signif, v.exp⟩ := by
  have hcanon := (floatLiteral_spec binary toks v h).2
  have hm : v.signif.natAbs % (if binary then 2 else 10) ≠ 0 := hcanon.2.1 hs
  obtain ⟨a, _⟩ := from_parts_const_fixed W binary (decide (v.signif < 0)) v.signif.natAbs v.exp v.prec
    (Int.natAbs_ne_zero.mpr hs) hm
  rw [a]
  congr 1
  unfold signedVal
  by_cases hneg : v.signif < 0
  · rw [if_pos (decide_eq_true hneg)]; omega
  · rw [if_neg (by simpa using hneg)]; omega

-- non-vacuity: `dbig!(1.50e2)` = 15·10^1, 3 digits; `fbig!(-0x1_8p3)` = −3·2^6, 8 bits; `dbig!(0.00)`
example : Dashu.Model.fromPartsConst 64 10 false 15 1 (some 3) = (⟨15, 1⟩, 3) ∧
    floatExpansionAsIs false false 15 1 3 = (.const, ⟨15, 1, 3⟩) ∧
    Dashu.Model.fromPartsConst 32 2 true 3 6 (some 8) = (⟨-3, 6⟩, 8) ∧
    floatExpansionAsIs true true 3 6 8 = (.const, ⟨-3, 6, 8⟩) ∧
    Dashu.Model.fromPartsConst 64 10 false 0 0 (some 3) = (⟨0, 0⟩, 0) ∧
    floatExpansionAsIs false false 0 0 3 = (.const, ⟨0, 0, 0⟩) := by
  refine ⟨?_, ?_, ?_, ?_, ?_, ?_⟩ <;> decide +kernel

end Dashu.Props.C20Link
