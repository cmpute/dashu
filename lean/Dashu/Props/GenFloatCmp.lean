import Dashu.Gen.FloatCmp
import Dashu.Model.Cross.Ord
import Dashu.Model.Int.Cmp
import Dashu.Proofs.Cross.SameText
import Dashu.Proofs.Gen.Basic
/-
  Tie A theorems about `float/src/cmp.rs` AS REGENERATED on this run (`Dashu/Gen/FloatCmp.lean`,
  `Dashu/Gen/FloatRepr.lean`): the regenerated decision bodies, composed with the estimate oracle and
  the digit-shift kernel of the hand-written models, ARE the hand-written models that the drivers of
  C05 and C14 execute and that `Props/C05.lean` / `Props/C14.lean` prove correct — for all inputs.
  A changed comparison, swapped arm or flipped sign in the Rust text changes the generated
  definitions and these theorems stop checking.
-/
set_option linter.unusedSimpArgs false
namespace Dashu.Props.GenFloatCmp
open Dashu Dashu.Gen Dashu.GluePrelude Dashu.Proofs.Gen

/-- `lhs_prec.min(isize::MAX as usize) as isize` of the regenerated text (/repo ee43486) = the clamp of the C14 hand model -/
theorem min_clamp_cross (p : Nat) : GluePrelude.min (p : Int) isize_MAX = ((min p Model.Cross.isizeMax : Nat) : Int) := by
  unfold GluePrelude.min isize_MAX Model.Cross.isizeMax
  rw [Nat.min_def]
  split <;> split <;> omega

/-- … and of the C05 hand model (the same bound) -/
theorem min_clamp_c05 (p : Nat) : GluePrelude.min (p : Int) isize_MAX = ((min p Model.cmpIsizeMax : Nat) : Int) :=
  min_clamp_cross p

/-- `isize::saturating_add` on two `isize` values (the exact sum clamped to `[isize::MIN, isize::MAX]`) -/
def satAddIsize (a b : Int) : Int := if a + b > isize_MAX then isize_MAX else if a + b < -isize_MAX - 1 then -isize_MAX - 1 else a + b

/-- **the translator's reading of `saturating_add` in cases 4 and 5 is sound**: every test there has the shape
    `x > y.saturating_add(n)` with `x`, `y` exponents (`isize`) and `n ≥ 0` (a precision clamped to `isize::MAX`, or
    `digits_ub as isize`); the regenerated text (`vlib/extract.py` METHODS2 `("Int","saturating_add") -> add_`) tests
    `x > y + n` over `Int` — the same decision for every `x ≤ isize::MAX`, `y ≥ isize::MIN`. -/
theorem saturating_add_reading_sound (x y n : Int) (hx : x ≤ isize_MAX) (hy : -isize_MAX - 1 ≤ y) (hn : 0 ≤ n) :
    (x > satAddIsize y n) ↔ (x > y + n) := by
  unfold satAddIsize
  split
  · constructor <;> intro h <;> omega
  · split
    · omega
    · exact Iff.rfl

-- non-vacuity: the repaired witness `exponent = isize::MAX`, precision 1: the sum saturates, the test is false on both readings
example : satAddIsize isize_MAX 1 = isize_MAX ∧ ¬ (isize_MAX > satAddIsize isize_MAX 1) ∧ ¬ (isize_MAX > isize_MAX + 1) := by
  refine ⟨by decide, by decide, by decide⟩

/-- `Option<(usize, usize)>` of the source as seen by the generated text -/
def precI (p : Option (Nat × Nat)) : Option (Int × Int) := p.map fun q => ((q.1 : Int), (q.2 : Int))

/-! ### against the C14 model (`Dashu.Model.Cross`) -/
section cross
open Dashu.Model.Cross

/-- the kernel record of the C14 hand model: estimates from the oracle, `shl_digits` at its value
    (the fields the comparison code never calls are filled with constants) -/
def crossK (o : Oracle) (B : Nat) : FloatK EB where
  e_lt := EB.lt
  e_gt := fun a b => EB.lt b a
  log2_bounds_int := fun i => o.nat i.natAbs
  log2_bounds_repr := fun r => o.flt B r.significand r.exponent
  digits_ub := fun r => (o.digitsUb B r.significand : Int)
  digits := fun _ => 0
  digit_len := fun _ => 0
  shl_digits := fun x n => shlDigits B x n.toNat
  shr_digits := fun x _ => x
  split_digits := fun x _ => (x, 0)
  repr_new := fun s e => ⟨s, e⟩
  round_fract := fun _ _ _ => .NoOp
  round_fract_up := fun _ _ _ => .NoOp
  round_fract_down := fun _ _ _ => .NoOp
  round_fract_half_away := fun _ _ _ => .NoOp

theorem isInfinite_mk (s e : Int) : Repr_is_infinite ⟨s, e⟩ = fIsInf s e := rfl
theorem isZero_mk (s e : Int) : Repr_is_zero ⟨s, e⟩ = fIsZero s e := rfl

/-- `repr_cmp_same_base` consults its kernel record only through `digits_ub` and `shl_digits`: with ANY record whose
    two fields are the oracle's estimate and the digit shift, the regenerated text is `Model.Cross.reprCmpSameBase`. -/
theorem repr_cmp_same_base_eq_cross {E : Type} (k : FloatK E) (o : Oracle) (B : Nat)
    (hd : ∀ r, k.digits_ub r = (o.digitsUb B r.significand : Int))
    (hs : ∀ x n, k.shl_digits x n = shlDigits B x n.toNat)
    (abs : Bool) (ls le rs re : Int) (prec : Option (Nat × Nat)) :
    repr_cmp_same_base k abs ⟨ls, le⟩ ⟨rs, re⟩ (precI prec) = reprCmpSameBase o abs B ls le rs re prec := by
  unfold repr_cmp_same_base reprCmpSameBase
  simp only [isInfinite_mk, isZero_mk, hd, hs, le_int, lt_int, add_int, sub_int, cmp_int, ne_int, sign_int, ge_iff_le,
    gt_iff_lt, abs_cmp, absCmpInt, decide_eq_true_eq]
  clear hd hs
  -- case 1: an infinity decides
  cases fIsInf ls le <;> cases fIsInf rs re <;>
    simp only [Bool.and_true, Bool.and_false, Bool.and_self, if_true, if_false, Bool.false_eq_true]
  -- case 6, the comparison after aligning the exponents, is what both texts reach when nothing earlier decides, and the
  -- one place where they branch differently (`match cmp` against `if … = … else if … > …`): name the two versions
  -- (the only `if ABS … : Ordering` left) and prove them equal once, so that the walk below does not split them again
  generalize hg : (if abs = true then _ else _ : Ordering) = aligned
  generalize hm : (if abs = true then _ else _ : Ordering) = aligned'
  have h6 : aligned = aligned' := by
    subst hg hm
    rcases Int.lt_trichotomy le re with h | h | h
    · simp only [Int.compare_eq_lt.mpr h, Int.ne_of_lt h, Int.lt_asymm h, if_false]
    · subst h; simp only [compare_self_int, if_true]
    · simp only [Int.compare_eq_gt.mpr h, Int.ne_of_gt h, h, if_true, if_false]
  subst h6
  clear hg hm
  -- case 2: `ABS`, or two equal signs, leave one overall sign; two different signs decide
  cases abs
  case' false => by_cases h5 : ls < 0 <;> by_cases h6 : rs < 0
  all_goals simp only [*, signMatch, Sign.ofInt, Bool.false_eq_true, if_true, if_false, sign_mul_ord, Sign.app, Ordering.swap]
  all_goals
    -- case 3: a zero decides
    cases fIsZero ls le <;> cases fIsZero rs re <;>
      simp only [Bool.and_true, Bool.and_false, Bool.and_self, if_true, if_false, Bool.false_eq_true]
    -- case 4: the exponents against the (clamped) precisions; what is left is case 5, the same text on both sides
    rcases prec with _ | ⟨lp, rp⟩ <;> simp only [precI, Option.map]
    by_cases h9 : lp = 0 <;> by_cases h10 : rp = 0 <;>
      simp only [h9, h10, Int.natCast_eq_zero, decide_true, decide_false, Bool.not_true, Bool.not_false, Bool.and_self,
        Bool.and_false, Bool.false_and, ne_eq, not_true_eq_false, not_false_eq_true, and_self, and_false, false_and,
        if_true, if_false, Bool.false_eq_true, min_clamp_cross]
    by_cases h11 : re + ((min rp isizeMax : Nat) : Int) < le <;> simp only [h11, if_true, if_false]
    by_cases h12 : le + ((min lp isizeMax : Nat) : Int) < re <;> simp only [h12, if_true, if_false]

/-- **`repr_cmp_same_base::<B, ABS>` as regenerated = `Model.Cross.reprCmpSameBase`** (both `ABS`) -/
theorem repr_cmp_same_base_is_cross_model (o : Oracle) (abs : Bool) (B : Nat) (ls le rs re : Int)
    (prec : Option (Nat × Nat)) :
    repr_cmp_same_base (crossK o B) abs ⟨ls, le⟩ ⟨rs, re⟩ (precI prec)
      = reprCmpSameBase o abs B ls le rs re prec :=
  repr_cmp_same_base_eq_cross _ o B (fun _ => rfl) (fun _ _ => rfl) abs ls le rs re prec

/-- **`repr_cmp_ubig::<B, ABS>` as regenerated = `Model.Cross.floatReprCmpUbig`** -/
theorem repr_cmp_ubig_is_cross_model (o : Oracle) (abs : Bool) (B : Nat) (s e : Int) (r : Nat) :
    repr_cmp_ubig (crossK o B) abs ⟨s, e⟩ (r : Int) = floatReprCmpUbig o abs B s e r := by
  unfold repr_cmp_ubig floatReprCmpUbig
  simp only [isInfinite_mk, crossK, lt_int, neg_int, sign_int, cmp_int, abs_cmp, absCmpInt, Int.natAbs_natCast, gt_iff_lt,
    decide_eq_true_eq]
  -- with `ABS` and the sign of `s` known, case 2 is decided and the rest is the same text
  cases abs <;> by_cases h : s < 0 <;>
    simp only [h, eq_def, Sign.ofInt, if_true, if_false, Bool.not_true, Bool.not_false, Bool.true_and, Bool.false_and,
      decide_true, decide_false, Bool.false_eq_true, reduceCtorEq, beq_self_eq_true, beq_iff_eq]

/-- **`repr_cmp_ibig::<B, ABS>` as regenerated = `Model.Cross.floatReprCmpIbig`** -/
theorem repr_cmp_ibig_is_cross_model (o : Oracle) (abs : Bool) (B : Nat) (s e : Int) (r : Int) :
    repr_cmp_ibig (crossK o B) abs ⟨s, e⟩ r = floatReprCmpIbig o abs B s e r := by
  unfold repr_cmp_ibig floatReprCmpIbig
  simp only [isInfinite_mk, crossK, lt_int, neg_int, sign_int, cmp_int, abs_cmp, absCmpInt, gt_iff_lt, decide_eq_true_eq]
  -- with `ABS`, or else the two signs, known, case 2 is decided and the rest is the same text
  cases abs
  case' false => by_cases h : s < 0 <;> by_cases h' : r < 0
  all_goals simp only [*, signMatch, Sign.ofInt, Sign.app, sign_mul_ord, if_true, if_false, Bool.false_eq_true]

/-- the operator impls pass the right `ABS` flag and the two context precisions:
    `Ord for FBig` / `PartialOrd` = the entry of `Model.Cross.ordCmp` … -/
theorem fbig_cmp_is_cross_dispatch (o : Oracle) (B : Nat) (s1 e1 : Int) (p1 : Nat) (s2 e2 : Int) (p2 : Nat) :
    some (FBig_cmp (crossK o B) ⟨⟨s1, e1⟩, ⟨p1⟩⟩ ⟨⟨s2, e2⟩, ⟨p2⟩⟩)
      = ordCmp o (.fbig B s1 e1 p1) (.fbig B s2 e2 p2) := by
  have h := repr_cmp_same_base_is_cross_model o false B s1 e1 s2 e2 (some (p1, p2))
  simp only [FBig_cmp, ordCmp, if_true, precI, Option.map] at h ⊢
  rw [h]

/-- … and `AbsOrd for FBig` = that of `Model.Cross.absCmpK` -/
theorem fbig_abs_cmp_is_cross_dispatch (o : Oracle) (B : Nat) (s1 e1 : Int) (p1 : Nat) (s2 e2 : Int) (p2 : Nat) :
    some (FBig_abs_cmp (crossK o B) ⟨⟨s1, e1⟩, ⟨p1⟩⟩ ⟨⟨s2, e2⟩, ⟨p2⟩⟩)
      = absCmpK o (.flt B s1 e1 p1) (.flt B s2 e2 p2) := by
  have h := repr_cmp_same_base_is_cross_model o true B s1 e1 s2 e2 (some (p1, p2))
  simp only [FBig_abs_cmp, absCmpK, if_true, precI, Option.map] at h ⊢
  rw [h]

/-- `Ord for Repr<B>`: `ABS = false`, no precision shortcut -/
theorem repr_cmp_is_cross_model (o : Oracle) (B : Nat) (s1 e1 s2 e2 : Int) :
    Repr_cmp (crossK o B) ⟨s1, e1⟩ ⟨s2, e2⟩ = reprCmpSameBase o false B s1 e1 s2 e2 none := by
  have h := repr_cmp_same_base_is_cross_model o false B s1 e1 s2 e2 none
  simpa only [Repr_cmp, precI, Option.map] using h

end cross

/-! ### against the C05 model (`Dashu.Model`, `Model/Int/Cmp.lean`) -/
section c05
open Dashu.Model

/-- kernel record of the C05 hand model -/
def k05 (B : Nat) (digitsUb : Int → Nat) : FloatK Unit where
  e_lt := fun _ _ => false
  e_gt := fun _ _ => false
  log2_bounds_int := fun _ => ((), ())
  log2_bounds_repr := fun _ => ((), ())
  digits_ub := fun r => (digitsUb r.significand : Int)
  digits := fun _ => 0
  digit_len := fun _ => 0
  shl_digits := fun x n => x * (B : Int) ^ n.toNat
  shr_digits := fun x _ => x
  split_digits := fun x _ => (x, 0)
  repr_new := fun s e => ⟨s, e⟩
  round_fract := fun _ _ _ => .NoOp
  round_fract_up := fun _ _ _ => .NoOp
  round_fract_down := fun _ _ _ => .NoOp
  round_fract_half_away := fun _ _ _ => .NoOp

/-- **`repr_cmp_same_base::<B, false>` as regenerated = `Model.reprCmpSameBase`** (the C05 driver's function) -/
theorem repr_cmp_same_base_is_c05_model (B : Nat) (digitsUb : Int → Nat) (ls le rs re : Int)
    (prec : Option (Nat × Nat)) :
    repr_cmp_same_base (k05 B digitsUb) false ⟨ls, le⟩ ⟨rs, re⟩ (precI prec)
      = Model.reprCmpSameBase B digitsUb ⟨ls, le⟩ ⟨rs, re⟩ prec := by
  -- an oracle whose `digits_ub` is the given estimate; the comparison consults nothing else of it
  let o : Cross.Oracle := ⟨fun _ => (.ninf, .ninf), fun _ _ _ => (.ninf, .ninf), fun _ _ => (.ninf, .ninf), fun _ => digitsUb⟩
  rw [repr_cmp_same_base_eq_cross (k05 B digitsUb) o B (fun _ => rfl) (fun _ _ => rfl)]
  exact Cross.reprCmpSameBase_eq_c05 o B ls le rs re prec

/-- **`PartialEq for FBig` as regenerated = `Model.fbigEq`** (the precision is ignored) -/
theorem fbig_eq_is_c05_model (s1 e1 p1 s2 e2 p2 : Int) :
    FBig_eq ⟨⟨s1, e1⟩, ⟨p1⟩⟩ ⟨⟨s2, e2⟩, ⟨p2⟩⟩ = fbigEq ⟨s1, e1⟩ ⟨s2, e2⟩ := by
  unfold FBig_eq fbigEq
  simp only [show ∀ s e, Repr_is_infinite ⟨s, e⟩ = FRepr.isInfinite ⟨s, e⟩ from fun _ _ => rfl, le_int, eq_def, bxor, ge_iff_le]
  cases FRepr.isInfinite ⟨s1, e1⟩ <;> cases FRepr.isInfinite ⟨s2, e2⟩ <;>
    simp only [Bool.and_true, Bool.and_false, Bool.and_self, if_true, if_false, Bool.false_eq_true, Bool.not_false, Bool.not_true]
  -- two finite values: `other.repr == self.repr` against the field-wise test
  rw [Bool.eq_iff_iff]
  simp only [decide_eq_true_eq, GluePrelude.FRepr.mk.injEq, Bool.and_eq_true, beq_iff_eq]
  exact ⟨fun h => ⟨h.1.symm, h.2.symm⟩, fun h => ⟨h.1.symm, h.2.symm⟩⟩

end c05
end Dashu.Props.GenFloatCmp
