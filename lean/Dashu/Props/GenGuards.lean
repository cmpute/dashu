import Dashu.Gen.FloatGuards
import Dashu.Gen.IntGuards
import Dashu.Model.Panic.Guards
import Dashu.Proofs.Gen.Basic
import Dashu.Proofs.Panic.Finite
/-
  Tie A theorems for C16: the ENTRY GUARDS of operations that can panic, AS REGENERATED from /repo on this run
  (`Dashu/Gen/FloatGuards.lean`, `Dashu/Gen/IntGuards.lean`: the prologue of each function up to its first
  computation, reduced to its control flow — panic with a kind / return early / go on), equal the guards that
  `Model/Panic/Guards.lean` mirrors by hand and that `Props/C16.lean` proves equal to the DOCUMENTED panics
  (`Spec/Panics.lean`).  A guard that is dropped, reordered, or tests something else in the Rust text changes
  the regenerated definition and these theorems stop checking.  Core Lean only.
-/
set_option linter.unusedSimpArgs false
namespace Dashu.Props.GenGuards
open Dashu Dashu.Gen Dashu.GluePrelude Dashu.Proofs.Gen Dashu.Spec.Panics Dashu.Model.Panic

/-- the panic helpers of `*/src/error.rs` as the documented kinds of `Spec/Panics.lean` -/
def kindOf : Panic → Kind
  | .OperateWithInf => .infinite
  | .UnlimitedPrecision => .unlimitedPrecision
  | .PowerNegativeBase => .powNegativeBase
  | .LogNonPositive => .logInvalid
  | .RootNegative => .rootNegative
  | .RootZeroth => .rootZeroth
  | .DivideByZero => .divideByZero
  | .InvalidRadix => .invalidRadix
  | .NegativeUBig => .negativeUBig
  | .InvalidLogOperand => .logInvalid

/-- a regenerated guard as a guard of the hand model: the panic kind, or "does not panic here" -/
def toG {α} : Except Panic α → G
  | .error p => .error (kindOf p)
  | .ok _ => .ok ()

@[simp] theorem toG_ok {α} (v : α) : toG (Except.ok v : Except Panic α) = .ok () := rfl
@[simp] theorem toG_err {α} (p : Panic) : toG (Except.error p : Except Panic α) = .error (kindOf p) := rfl

def reprOf (a : FArg) : GluePrelude.FRepr := ⟨a.signif, a.exp⟩

/-! ### the predicates of `float/src/repr.rs` on the operand of a call -/

theorem is_infinite_reprOf (a : FArg) : Repr_is_infinite (reprOf a) = a.isInf := by
  unfold Repr_is_infinite reprOf FArg.isInf
  simp only [is_zero_int, ne_int, ne_eq, Bool.decide_and, decide_not]

theorem is_zero_reprOf {a : FArg} (h : a.isInf = false) : Repr_is_zero (reprOf a) = decide (a.signif = 0) := by
  have := (Dashu.Proofs.Panic.finite_iff a).1 h
  unfold Repr_is_zero reprOf
  simp only [is_zero_int, eq_int]
  by_cases h0 : a.signif = 0
  · simp only [h0, this h0, decide_true, Bool.and_self]
  · simp only [h0, decide_false, Bool.false_and]

theorem is_one_reprOf (a : FArg) : Repr_is_one (reprOf a) = decide (a.signif = 1 ∧ a.exp = 0) := by
  unfold Repr_is_one reprOf
  simp only [is_one, eq_int, Bool.decide_and]

/-- the sign of a finite operand is that of its significand (a zero significand with a negative exponent is `-inf`) -/
theorem sign_negative_reprOf {a : FArg} (h : a.isInf = false) :
    eq_ (Repr_sign (reprOf a)) Sign.Negative = decide (a.signif < 0) := by
  have := (Dashu.Proofs.Panic.finite_iff a).1 h
  unfold Repr_sign reprOf
  simp only [is_zero_int, le_int, sign_int, eq_def]
  by_cases h0 : a.signif = 0
  · simp [h0, this h0]
  · by_cases hn : a.signif < 0 <;> simp [h0, hn]

/-! ### the assertion helpers of `float/src/error.rs` -/

theorem assert_finite_is_model (a : FArg) : toG (assert_finite (reprOf a)) = assertFinite a := by
  unfold assert_finite assertFinite
  rw [is_infinite_reprOf]
  cases a.isInf <;> rfl

theorem assert_finite_operands_is_model (a b : FArg) :
    toG (assert_finite_operands (reprOf a) (reprOf b)) = assertFiniteOperands a b := by
  unfold assert_finite_operands assertFiniteOperands
  rw [is_infinite_reprOf, is_infinite_reprOf]
  cases a.isInf <;> cases b.isInf <;> rfl

theorem assert_limited_precision_is_model (p : Nat) :
    toG (assert_limited_precision (p : Int)) = assertLimitedPrecision p := by
  unfold assert_limited_precision assertLimitedPrecision
  gcases h : p = 0
  all_goals (first | done | rfl | (simp_all; done))

/-! ### float operations -/

/-- `Context::sqrt`: finite operand, limited precision, non-negative operand — in this order -/
theorem sqrt_guard_is_model (a : FArg) :
    toG (guard_Context_sqrt ⟨(a.prec : Int)⟩ (reprOf a)) = guardFSqrt a := by
  unfold guard_Context_sqrt guardFSqrt assertFinite assertLimitedPrecision assert_finite assert_limited_precision
  rw [is_infinite_reprOf]
  cases hi : a.isInf
  · simp only [Bool.false_eq_true, if_false, sign_negative_reprOf hi, eq_int, Int.natCast_eq_zero, bind, Except.bind]
    by_cases hp : a.prec = 0 <;> by_cases hs : a.signif < 0 <;> simp [hp, hs, kindOf]
  · rfl

/-- `FBig::ulp` -/
theorem ulp_guard_is_model (a : FArg) :
    toG (guard_FBig_ulp ⟨reprOf a, ⟨(a.prec : Int)⟩⟩) = guardFUlp a := by
  unfold guard_FBig_ulp guardFUlp
  simp only [eq_int, Int.natCast_eq_zero]
  by_cases hp : a.prec = 0
  · simp only [hp, decide_true, if_true, toG_err, kindOf]
  · simp only [hp, decide_false, Bool.false_eq_true, if_false]
    split <;> rfl

/-- `Context::repr_div` (reached from `Context::div` after its own `assert_finite_operands`): finite operands, then
    limited precision; the zero divisor is met by the integer `div_rem` after the prologue (`guardFDiv`) -/
theorem repr_div_guard_is_model (a b : FArg) (p : Nat) :
    toG (guard_Context_repr_div ⟨(p : Int)⟩ (reprOf a) (reprOf b)) =
      (do assertFiniteOperands a b; assertLimitedPrecision p) := by
  unfold guard_Context_repr_div assertFiniteOperands assertLimitedPrecision assert_finite_operands assert_limited_precision
  rw [is_infinite_reprOf, is_infinite_reprOf]
  cases a.isInf <;> cases b.isInf <;> try rfl
  simp only [eq_int, Int.natCast_eq_zero, bind, Except.bind]
  by_cases hp : p = 0 <;> simp [hp, kindOf]

theorem div_guard_is_model (a b : FArg) (p : Nat) :
    toG (guard_Context_div ⟨(p : Int)⟩ (reprOf a) (reprOf b)) = assertFiniteOperands a b := by
  unfold guard_Context_div assertFiniteOperands assert_finite_operands
  rw [is_infinite_reprOf, is_infinite_reprOf]
  cases a.isInf <;> cases b.isInf <;> rfl

/-- rounding a finite operand does not panic -/
theorem repr_round_ref_ok {E : Type} (k : FloatK E) (c : FCtx) {a : FArg} (h : a.isInf = false) :
    ∃ v, Context_repr_round_ref k c (reprOf a) = Except.ok v := by
  unfold Context_repr_round_ref assert_finite
  rw [is_infinite_reprOf, h]
  simp only [Bool.false_eq_true, if_false]
  split <;> exact ⟨_, rfl⟩

/-- `Context::powf`: finite operands, limited precision, the three shortcuts (`exp = 0`, `exp = 1`, `base = 0`),
    then a negative base panics — for EVERY kernel record (the rounding in the `exp = 1` shortcut cannot panic: its
    operand is finite at that point) -/
theorem powf_guard_is_model {E : Type} (k : FloatK E) (a b : FArg) :
    toG (guard_Context_powf k ⟨((max a.prec b.prec : Nat) : Int)⟩ (reprOf a) (reprOf b)) = guardFPowf a b := by
  unfold guard_Context_powf guardFPowf assertFiniteOperands assertLimitedPrecision assert_finite_operands
    assert_limited_precision
  rw [is_infinite_reprOf, is_infinite_reprOf]
  cases hia : a.isInf <;> cases hib : b.isInf <;> try rfl
  obtain ⟨v, hv⟩ := repr_round_ref_ok k ⟨((max a.prec b.prec : Nat) : Int)⟩ hia
  simp only [hv, is_zero_reprOf hia, is_zero_reprOf hib, is_one_reprOf, sign_negative_reprOf hia, eq_int,
    Int.natCast_eq_zero, bind, Except.bind]
  -- the tests in the order the code makes them
  by_cases hp : Max.max a.prec b.prec = 0
  · simp [hp, kindOf]
  by_cases h1 : b.signif = 0
  · simp [hp, h1]
  by_cases h2 : b.signif = 1 ∧ b.exp = 0
  · simp [hp, h1, h2]
  by_cases h3 : a.signif = 0
  · simp [hp, h1, h2, h3]
  by_cases h4 : a.signif < 0 <;> simp [hp, h1, h2, h3, h4, kindOf]

/-- `Context::ln` (`ln_internal` with `one_plus = false`): finite, limited precision, shortcut for 1, then zero or a
    negative operand panics -/
theorem ln_guard_is_model {E : Type} (k : FloatK E) (a : FArg) :
    toG (guard_Context_ln_internal k ⟨(a.prec : Int)⟩ (reprOf a) false) = guardFLn a := by
  unfold guard_Context_ln_internal guardFLn assertFinite assertLimitedPrecision assert_finite assert_limited_precision
  rw [is_infinite_reprOf]
  cases hi : a.isInf
  · simp only [is_zero_reprOf hi, is_one_reprOf, sign_negative_reprOf hi, eq_int, Int.natCast_eq_zero, bind, Except.bind]
    by_cases hp : a.prec = 0 <;> by_cases h1 : a.signif = 1 ∧ a.exp = 0 <;> by_cases h2 : a.signif = 0 <;>
      by_cases h3 : a.signif < 0 <;> simp [hp, h1, h2, h3, kindOf]
  · rfl

/-- `Context::ln_1p` (`one_plus = true`): the comparison `*x <= Repr::neg_one()` goes through the regenerated
    `Ord for Repr` (`Gen.Repr_cmp`, proved equal to the C14 comparison model in `Props/GenFloatCmp.lean`); here it is
    related to the guard's `leNegOne` by the hypothesis `hcmp` (what C14's theorems give for a sound oracle). -/
theorem ln_1p_guard_is_model {E : Type} (k : FloatK E) (a : FArg)
    (hcmp : is_le (Repr_cmp k (reprOf a) Repr_neg_one) = leNegOne a) :
    toG (guard_Context_ln_internal k ⟨(a.prec : Int)⟩ (reprOf a) true) = guardFLn1p a := by
  unfold guard_Context_ln_internal guardFLn1p assertFinite assertLimitedPrecision assert_finite assert_limited_precision
  rw [is_infinite_reprOf, hcmp]
  cases hi : a.isInf
  · simp only [is_zero_reprOf hi, sign_negative_reprOf hi, eq_int, Int.natCast_eq_zero, bind, Except.bind]
    by_cases hp : a.prec = 0 <;> by_cases h2 : a.signif = 0 <;> by_cases h3 : a.signif < 0 <;>
      cases leNegOne a <;> simp [hp, h2, h3, kindOf]
  · rfl

/-! ### integers and rationals -/

/-- `IBig::nth_root`: `n = 0` first, then an even root of a negative number -/
theorem ibig_nth_root_guard_is_model (x : Int) (n : Nat) :
    toG (guard_IBig_nth_root x (n : Int)) = guardINthRoot x n := by
  unfold guard_IBig_nth_root guardINthRoot
  have e1 : ((n : Int) = 0) = (n = 0) := by apply propext; omega
  have e2 : ((n : Int) % 2 = 0) = (n % 2 = 0) := by apply propext; omega
  simp only [as_sign_repr, sign_int, eq_int, eq_def, rem_, e1, e2]
  by_cases h1 : n = 0 <;> by_cases h2 : x < 0 <;> by_cases h3 : n % 2 = 0 <;> simp [*, kindOf]

/-- `SquareRoot for IBig` -/
theorem ibig_sqrt_guard_is_model (x : Int) : toG (guard_IBig_sqrt x) = guardISqrt x := by
  unfold guard_IBig_sqrt guardISqrt
  simp only [as_sign_repr, sign_int, eq_def]
  by_cases h2 : x < 0 <;> simp [*, kindOf]

/-- `UBig::in_radix` / `IBig::in_radix`: `!is_radix_valid(radix)` with `MIN_RADIX`, `MAX_RADIX` as in the source -/
theorem in_radix_guard_is_model (x : Int) (r : Nat) :
    toG (guard_UBig_in_radix x (r : Int)) = guardInRadix r ∧ toG (guard_IBig_in_radix x (r : Int)) = guardInRadix r := by
  unfold guard_UBig_in_radix guard_IBig_in_radix guardInRadix
  have e1 : ((2 : Int) ≤ (r : Int)) = (2 ≤ r) := by apply propext; omega
  have e2 : ((r : Int) ≤ 36) = (r ≤ 36) := by apply propext; omega
  simp only [radix_is_radix_valid, radix_MIN_RADIX, radix_MAX_RADIX, le_int, e1, e2]
  by_cases h1 : 2 ≤ r <;> by_cases h2 : r ≤ 36 <;> simp [*, kindOf]

/-- `RBig::from_parts` / `Relaxed::from_parts`: a zero denominator -/
theorem from_parts_guard_is_model (n : Int) (d : Nat) :
    toG (guard_RBig_from_parts n (d : Int)) = guardQFromParts d ∧
    toG (guard_Relaxed_from_parts n (d : Int)) = guardQFromParts d := by
  unfold guard_RBig_from_parts guard_Relaxed_from_parts guardQFromParts
  simp only [is_zero_int]
  by_cases h1 : d = 0 <;> simp [*, kindOf]

end Dashu.Props.GenGuards
