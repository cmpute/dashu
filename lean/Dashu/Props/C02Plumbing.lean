import Dashu.Props.C02
import Dashu.Gen.DivPlumbing
import Dashu.Model.Int.DivConst
/-
  C02 — the operator-trait plumbing of integer division, as theorems over the table GENERATED from the
  macro-expanded dashu-int (`Dashu.Gen.DivPlumbing.table`, vlib/divplumb.py; one entry per
  `impl Trait<Rhs> for Lhs` of Div / Rem / DivRem / DivEuclid / RemEuclid / DivRemEuclid / DivAssign /
  RemAssign / DivRemAssign on UBig / IBig / ConstDivisor in every ownership form).

  `plumbing_every_impl_exact`: EVERY entry of the generated table, run along the route the entry names
  (`Entry.eval`, the function `drive_div` executes), returns what the property requires of its trait —
  truncating quotient / remainder for the `Div` family, Euclidean for the `*Euclid` family, of the result
  types the documentation states — for all operands of all lengths, and the documented divide-by-zero
  panic for a zero divisor.  A change of the Rust source that sends an operator form to another dispatch
  function / sign table / operand accessor changes the generated table, and this module no longer checks.
-/
namespace Dashu.Props.C02
open Dashu Dashu.Model Dashu.Model.Div Dashu.Model.DivPlumbing Dashu.Gen Dashu.Gen.DivPlumbing

-- ================================================================== §9 operator-trait plumbing

def isTake : Core → Bool
  | .take _ => true
  | _ => false

/-- every generated entry takes the route the property needs for its trait and operand types, and reads its
    operands with an accessor that fits their type and ownership -/
theorem plumbing_table_routes : table.all Entry.routeOk = true := by decide +kernel

/-- every assign form forwards to a by-value impl that is listed and is not itself a forwarding -/
theorem plumbing_table_forwards :
    table.all (fun e => match e.core with
      | .take t => (forwardTarget table e t).any (fun e' => !isTake e'.core)
      | _ => true) = true := by decide +kernel

/-- ownership closure: with an entry, the entries of the same trait and operand types in every other
    ownership form the trait family offers are listed too -/
theorem plumbing_table_forms :
    table.all (fun e =>
      let has (lr rr : Bool) := table.any (fun x => x.tr == e.tr && x.lhs == e.lhs && x.rhs == e.rhs &&
        x.lhsRef == lr && x.rhsRef == rr && x.core == e.core)
      match e.core, e.rhs with
      | .take _, .ConstDivisor => true
      | .take _, _ => has false false && has false true
      | _, .ConstDivisor => has false true && has true true
      | _, _ => has false false && has false true && has true false && has true true) = true := by decide +kernel

/-- the integer a result component denotes -/
def valInt (W : Nat) : Val → Int
  | .u r => (r.value W : Int)
  | .i r => r.value W

/-- a result component is a canonical `UBig` / well-formed `IBig` -/
def valWF (W : Nat) : Val → Prop
  | .u r => r.Canon W
  | .i r => r.WF W

/-- result type: `true` = `UBig` -/
def valIsU : Val → Bool
  | .u _ => true
  | .i _ => false

/-- what the property requires of trait `t` on dividend `x` and divisor `y ≠ 0` -/
def specVals : Tr → Int → Int → List Int
  | .Div, x, y => [Int.tdiv x y]
  | .DivAssign, x, y => [Int.tdiv x y]
  | .Rem, x, y => [Int.tmod x y]
  | .RemAssign, x, y => [Int.tmod x y]
  | .DivRem, x, y => [Int.tdiv x y, Int.tmod x y]
  | .DivRemAssign, x, y => [Int.tdiv x y, Int.tmod x y]
  | .DivEuclid, x, y => [x / y]
  | .RemEuclid, x, y => [x % y]
  | .DivRemEuclid, x, y => [x / y, x % y]

/-- the documented result types (`true` = `UBig`): a quotient is unsigned iff both operands are, a truncating
    remainder has the type of the dividend, a Euclidean remainder is always a `UBig` -/
def specKinds (t : Tr) (l r : Ty) : List Bool :=
  let q := l == .UBig && r != .IBig
  let rt := l == .UBig
  match t with
  | .Div => [q]
  | .DivAssign => [q]
  | .Rem => [rt]
  | .RemAssign => [rt]
  | .DivRem => [q, rt]
  | .DivRemAssign => [q, rt]
  | .DivEuclid => [q]
  | .RemEuclid => [true]
  | .DivRemEuclid => [q, true]

/-- the outcome `out` of a route is what the property requires: the documented panic for a zero divisor `y`,
    otherwise well-formed results denoting `spec`, of the types `kinds` -/
def Exact (W : Nat) (out : Option (Except PanicKind (List Val))) (y : Int) (spec : List Int) (kinds : List Bool) : Prop :=
  (y = 0 → out = some (.error .divideByZero)) ∧
  (y ≠ 0 → ∃ vs, out = some (.ok vs) ∧ vs.map (valInt W) = spec ∧ vs.map valIsU = kinds ∧ ∀ v ∈ vs, valWF W v)

theorem value_of_not_neg (W : Nat) (a : SRepr) (h : a.neg = false) : a.value W = (a.mag.value W : Int) := by
  unfold SRepr.value; rw [h]; rfl

theorem wf1 {W : Nat} {v : Val} (h : valWF W v) : ∀ x ∈ [v], valWF W x :=
  List.forall_mem_singleton.mpr h

theorem wf2 {W : Nat} {v w : Val} (h1 : valWF W v) (h2 : valWF W w) : ∀ x ∈ [v, w], valWF W x :=
  List.forall_mem_cons.mpr ⟨h1, wf1 h2⟩

/-- a route continued after the zero test of the divisor -/
theorem bind_ite_ok {α β : Type} {c : Prop} [Decidable c] (x : α) (g : α → Except PanicKind β) :
    ((if c then .error .divideByZero else .ok x : Except PanicKind α) >>= g)
      = if c then .error .divideByZero else g x := by
  split <;> rfl

/-- a route that panics exactly for a zero divisor `y` and otherwise returns `vs` is exact when `vs` are the required
    results -/
theorem Exact.of_eq {W : Nat} {out : Except PanicKind (List Val)} {y : Int} (vs : List Val) {spec : List Int}
    {kinds : List Bool} (h : out = if y = 0 then .error .divideByZero else .ok vs)
    (hv : y ≠ 0 → vs.map (valInt W) = spec ∧ vs.map valIsU = kinds ∧ ∀ v ∈ vs, valWF W v) :
    Exact W (some out) y spec kinds :=
  ⟨fun h0 => congrArg some (h.trans (if_pos h0)), fun hne => ⟨vs, congrArg some (h.trans (if_neg hne)), hv hne⟩⟩

/-- a route through `ConstDivisor::new` on the magnitude of a signed divisor: the documented panic for zero, otherwise
    what the continuation returns on every valid prepared divisor -/
theorem const_route {β : Type} (W : Nat) (hW : 1 ≤ W) (b : SRepr) (hb : b.WF W) (g : ConstDiv → Except PanicKind β)
    (v : β) (hg : ∀ c, c.Valid W (b.mag.value W) → g c = .ok v) :
    (ConstDiv.new W b.mag >>= g) = if b.value W = 0 then .error .divideByZero else .ok v := by
  have ⟨n0, n1⟩ := ConstDiv.new_spec W hW b.mag hb.1
  by_cases h0 : b.value W = 0
  · rw [if_pos h0, n0 ((srepr_value_zero_iff W b).mp h0)]; rfl
  · obtain ⟨c, e, hv⟩ := n1 (mt (srepr_value_zero_iff W b).mpr h0)
    rw [if_neg h0, e]; exact hg c hv

-- ------------------------------------------------------------------ UBig × UBig

/-- on non-negative operands the `Nat` quotient / remainder of the magnitudes is the truncating one of the values -/
theorem tdiv_of_not_neg (W : Nat) (a b : SRepr) (han : a.neg = false) (hbn : b.neg = false) :
    ((a.mag.value W / b.mag.value W : Nat) : Int) = Int.tdiv (a.value W) (b.value W) := by
  rw [value_of_not_neg W a han, value_of_not_neg W b hbn]; exact tdiv_of_sgn false _ _

theorem tmod_of_not_neg (W : Nat) (a b : SRepr) (han : a.neg = false) (hbn : b.neg = false) :
    ((a.mag.value W % b.mag.value W : Nat) : Int) = Int.tmod (a.value W) (b.value W) := by
  rw [value_of_not_neg W a han, value_of_not_neg W b hbn]; exact tmod_of_sgn false _ _

theorem ediv_eq_tdiv_of_not_neg (W : Nat) (a : SRepr) (han : a.neg = false) (y : Int) :
    a.value W / y = Int.tdiv (a.value W) y := by
  rw [value_of_not_neg W a han]; exact (Int.tdiv_eq_ediv_of_nonneg (Int.natCast_nonneg _)).symm

theorem emod_eq_tmod_of_not_neg (W : Nat) (a : SRepr) (han : a.neg = false) (y : Int) :
    a.value W % y = Int.tmod (a.value W) y := by
  rw [value_of_not_neg W a han]; exact (Int.tmod_eq_emod_of_nonneg (Int.natCast_nonneg _)).symm

/-- the results a route returns: a `UBig` / an `IBig` holding the required value -/
theorem uval (W : Nat) (hW : 1 ≤ W) {n : Nat} {z : Int} (h : (n : Int) = z) :
    valInt W (.u (ofNat W n)) = z ∧ valWF W (.u (ofNat W n)) :=
  ⟨(congrArg Nat.cast (ofNat_value W hW n)).trans h, ofNat_canon W hW n⟩

theorem ival (W : Nat) (hW : 1 ≤ W) (z : Int) :
    valInt W (.i (SRepr.ofInt W z)) = z ∧ valWF W (.i (SRepr.ofInt W z)) :=
  ⟨SRepr.ofInt_value W hW z, SRepr.ofInt_wf W hW z⟩

theorem exact1 {W : Nat} {v : Val} {z : Int} {out : Except PanicKind (List Val)} {y : Int}
    (h : out = if y = 0 then .error .divideByZero else .ok [v]) (hv : y ≠ 0 → valInt W v = z ∧ valWF W v) :
    Exact W (some out) y [z] [valIsU v] :=
  Exact.of_eq [v] h fun hne => ⟨congrArg (fun x => [x]) (hv hne).1, rfl, wf1 (hv hne).2⟩

theorem exact2 {W : Nat} {v w : Val} {z z' : Int} {out : Except PanicKind (List Val)} {y : Int}
    (h : out = if y = 0 then .error .divideByZero else .ok [v, w]) (hv : y ≠ 0 → valInt W v = z ∧ valWF W v)
    (hw : y ≠ 0 → valInt W w = z' ∧ valWF W w) :
    Exact W (some out) y [z, z'] [valIsU v, valIsU w] :=
  Exact.of_eq [v, w] h fun hne =>
    ⟨congrArg₂ (fun x y => [x, y]) (hv hne).1 (hw hne).1, rfl, wf2 (hv hne).2 (hw hne).2⟩

-- ------------------------------------------------------------------ every route

/-- an operand of the given type: well-formed, and non-negative unless it is an `IBig`
    (a `ConstDivisor` operand stands for the `UBig` it was prepared from) -/
def OperandOk (W : Nat) (t : Ty) (s : SRepr) : Prop := s.WF W ∧ (t ≠ .IBig → s.neg = false)

theorem OperandOk.not_neg {W : Nat} {t : Ty} {s : SRepr} (h : OperandOk W t s) (ht : t ≠ .IBig := by decide) :
    s.neg = false := h.2 ht

/-- a non-forwarding entry that takes the expected route computes what the property requires -/
theorem evalCore_exact (W : Nat) (hW : 1 ≤ W) (hW4 : 4 ≤ W) (e : Entry) (hr : e.routeOk = true)
    (hnt : isTake e.core = false) (a b : SRepr) (ha : OperandOk W e.lhs a) (hb : OperandOk W e.rhs b) :
    Exact W (evalCore W e a b) (b.value W) (specVals e.tr (a.value W) (b.value W))
      (specKinds e.tr e.lhs e.rhs) := by
  obtain ⟨tr, lhs, lref, rhs, rref, lacc, racc, core, calls⟩ := e
  dsimp only at ha hb
  have hc : expectedCore tr lhs rhs = some core := eq_of_beq (Bool.and_eq_true_iff.mp hr).1
  obtain ⟨mp, mq, mr⟩ := mag_eq W hW hW4 a.mag b ha.1.1 hb.1
  -- the routes taken by more than one trait or operand type
  have wdiv (han : a.neg = false) (hbn : b.neg = false) :
      Exact W (some (do let q ← divRepr W a.mag b.mag; pure [Val.u q])) (b.value W)
        [Int.tdiv (a.value W) (b.value W)] [true] :=
    exact1 (by rw [mq, bind_ite_ok]; rfl) fun _ => uval W hW (tdiv_of_not_neg W a b han hbn)
  have wrem (han : a.neg = false) (hbn : b.neg = false) :
      Exact W (some (do let r ← remRepr W a.mag b.mag; pure [Val.u r])) (b.value W)
        [Int.tmod (a.value W) (b.value W)] [true] :=
    exact1 (by rw [mr, bind_ite_ok]; rfl) fun _ => uval W hW (tmod_of_not_neg W a b han hbn)
  have wpair (han : a.neg = false) (hbn : b.neg = false) :
      Exact W (some (do let (q, r) ← divRemRepr W a.mag b.mag; pure [Val.u q, Val.u r])) (b.value W)
        [Int.tdiv (a.value W) (b.value W), Int.tmod (a.value W) (b.value W)] [true, true] :=
    exact2 (by rw [mp, bind_ite_ok]; rfl) (fun _ => uval W hW (tdiv_of_not_neg W a b han hbn))
      fun _ => uval W hW (tmod_of_not_neg W a b han hbn)
  have sdiv : Exact W (some (do let q ← ibigDiv W a b; pure [Val.i q])) (b.value W)
      [Int.tdiv (a.value W) (b.value W)] [false] :=
    exact1 (by rw [ibigDiv_eq W hW hW4 a b ha.1 hb.1, bind_ite_ok]; rfl) fun _ => ival W hW _
  have srem : Exact W (some (do let r ← ibigRem W a b; pure [Val.i r])) (b.value W)
      [Int.tmod (a.value W) (b.value W)] [false] :=
    exact1 (by rw [ibigRem_eq W hW hW4 a b ha.1 hb.1, bind_ite_ok]; rfl) fun _ => ival W hW _
  have spair : Exact W (some (do let (q, r) ← ibigDivRem W a b; pure [Val.i q, Val.i r])) (b.value W)
      [Int.tdiv (a.value W) (b.value W), Int.tmod (a.value W) (b.value W)] [false, false] :=
    exact2 (by rw [ibigDivRem_eq W hW hW4 a b ha.1 hb.1, bind_ite_ok]; rfl) (fun _ => ival W hW _) fun _ => ival W hW _
  -- through a prepared divisor: a `UBig` dividend, an `IBig` dividend
  have cu (c : ConstDiv) (hv : c.Valid W (b.mag.value W)) := const_eq W hW hW4 a.mag _ c ha.1.1 hv
  have ci (c : ConstDiv) (hv : c.Valid W (b.mag.value W)) := ibigConst_eq W hW hW4 a _ c ha.1 hv
  cases tr
  case DivAssign | RemAssign | DivRemAssign => cases hc; cases hnt
  all_goals cases lhs <;> cases rhs <;> cases hc
  -- Div
  · exact wdiv ha.not_neg hb.not_neg
  · exact sdiv
  · exact exact1 (const_route W hW b hb.1 _ _ fun c hv => by rw [(cu c hv).2.1]; rfl) fun _ =>
      uval W hW (tdiv_of_not_neg W a b ha.not_neg hb.not_neg)
  · exact sdiv
  · exact sdiv
  · exact value_of_not_neg W b hb.not_neg ▸
      exact1 (const_route W hW b hb.1 _ _ fun c hv => by rw [(ci c hv).2.1]; rfl) fun _ => ival W hW _
  -- Rem
  · exact wrem ha.not_neg hb.not_neg
  · exact value_of_not_neg W a ha.not_neg ▸ exact1 (by rw [ubigIbigRem, mr, bind_ite_ok]; rfl) fun _ =>
      uval W hW (tmod_signs false b.neg _ _)
  · exact exact1 (const_route W hW b hb.1 _ _ fun c hv => by rw [(cu c hv).2.2]; rfl) fun _ =>
      uval W hW (tmod_of_not_neg W a b ha.not_neg hb.not_neg)
  · exact srem
  · exact srem
  · exact value_of_not_neg W b hb.not_neg ▸
      exact1 (const_route W hW b hb.1 _ _ fun c hv => by rw [(ci c hv).2.2]; rfl) fun _ => ival W hW _
  -- DivRem
  · exact wpair ha.not_neg hb.not_neg
  · exact value_of_not_neg W a ha.not_neg ▸
      exact2 (by rw [ubigIbigDivRem_eq W hW hW4 a.mag b ha.1.1 hb.1, bind_ite_ok]; rfl) (fun _ => ival W hW _)
        fun _ => uval W hW (tmod_signs false b.neg _ _)
  · exact exact2 (const_route W hW b hb.1 _ _ fun c hv => by rw [(cu c hv).1]; rfl)
      (fun _ => uval W hW (tdiv_of_not_neg W a b ha.not_neg hb.not_neg))
      fun _ => uval W hW (tmod_of_not_neg W a b ha.not_neg hb.not_neg)
  · exact spair
  · exact spair
  · exact value_of_not_neg W b hb.not_neg ▸
      exact2 (const_route W hW b hb.1 _ _ fun c hv => by rw [(ci c hv).1]; rfl) (fun _ => ival W hW _)
        fun _ => ival W hW _
  -- DivEuclid
  · show Exact W _ _ [a.value W / b.value W] _
    rw [ediv_eq_tdiv_of_not_neg W a ha.not_neg]
    exact wdiv ha.not_neg hb.not_neg
  · exact exact1 (by rw [ibigDivEuclid_eq W hW hW4 a b ha.1 hb.1, bind_ite_ok]; rfl) fun _ => ival W hW _
  -- RemEuclid
  · show Exact W _ _ [a.value W % b.value W] _
    rw [emod_eq_tmod_of_not_neg W a ha.not_neg]
    exact wrem ha.not_neg hb.not_neg
  · exact exact1 (by rw [ibigRemEuclid_eq W hW hW4 a b _ ha.1 hb.1, bind_ite_ok]; rfl) fun hne =>
      uval W hW (Int.toNat_of_nonneg (Int.emod_nonneg _ hne))
  -- DivRemEuclid
  · show Exact W _ _ [a.value W / b.value W, a.value W % b.value W] _
    rw [ediv_eq_tdiv_of_not_neg W a ha.not_neg, emod_eq_tmod_of_not_neg W a ha.not_neg]
    exact wpair ha.not_neg hb.not_neg
  · exact exact2 (by rw [ibigDivRemEuclid_eq W hW hW4 a b _ ha.1 hb.1, bind_ite_ok]; rfl) (fun _ => ival W hW _)
      fun hne => uval W hW (Int.toNat_of_nonneg (Int.emod_nonneg _ hne))

/-- an assign entry on the expected route has the specification (values and result types) of the trait it forwards to -/
theorem take_spec (e : Entry) (t : Tr) (hr : e.routeOk = true) (hc : e.core = .take t) :
    specVals e.tr = specVals t ∧ specKinds e.tr = specKinds t := by
  obtain ⟨tr, lhs, lref, rhs, rref, lacc, racc, core, calls⟩ := e
  have h : expectedCore tr lhs rhs = some core := eq_of_beq (Bool.and_eq_true_iff.mp hr).1
  subst hc
  -- only the three assign traits expect a forwarding core, and they do so whatever the operand types
  cases tr
  case DivAssign | RemAssign | DivRemAssign => cases h; exact ⟨rfl, rfl⟩
  all_goals cases lhs <;> cases rhs <;> cases h

/-- an entry that does not forward is run along its own core -/
theorem eval_of_not_take (W : Nat) (tbl : List Entry) (e : Entry) (a b : SRepr) (h : isTake e.core = false) :
    e.eval W tbl a b = evalCore W e a b := by
  unfold Entry.eval
  split
  · next t ht => rw [ht] at h; cases h
  · rfl

/-- an assign entry is run along the core of the by-value entry it forwards to -/
theorem eval_of_take (W : Nat) (tbl : List Entry) (e e' : Entry) (t : Tr) (a b : SRepr) (hc : e.core = .take t)
    (hft : forwardTarget tbl e t = some e') (h : isTake e'.core = false) :
    e.eval W tbl a b = evalCore W e' a b := by
  unfold Entry.eval
  rw [hc]
  dsimp only
  rw [hft]
  dsimp only
  split
  · next t ht => rw [ht] at h; cases h
  · rfl

/-- **every `impl` of the division family computes what the property requires.**  For every entry of the table
    generated from the macro-expanded dashu-int — each of `Div`, `Rem`, `DivRem`, `DivEuclid`, `RemEuclid`,
    `DivRemEuclid`, `DivAssign`, `RemAssign`, `DivRemAssign` on UBig / IBig / mixed / ConstDivisor operands in each
    ownership form — the model run along the entry's route (`Entry.eval`, what `drive_div` executes) panics with the
    documented divide-by-zero message when the divisor is zero, and otherwise returns well-formed results that denote
    the truncating (`Div` family: `Int.tdiv`, `Int.tmod`) resp. Euclidean (`*Euclid`: `Int` `/`, `%`) quotient and
    remainder, of the documented result types; all operand lengths, all `W ≥ 4`. -/
theorem plumbing_every_impl_exact (W : Nat) (hW : 1 ≤ W) (hW4 : 4 ≤ W) (e : Entry) (he : e ∈ table)
    (a b : SRepr) (ha : OperandOk W e.lhs a) (hb : OperandOk W e.rhs b) :
    Exact W (e.eval W table a b) (b.value W) (specVals e.tr (a.value W) (b.value W))
      (specKinds e.tr e.lhs e.rhs) := by
  have hr : e.routeOk = true := List.all_eq_true.mp plumbing_table_routes e he
  cases hc : e.core with
  | take t =>
    have hf := List.all_eq_true.mp plumbing_table_forwards e he
    simp only [hc] at hf
    obtain ⟨e', hft, hnt⟩ := (Option.any_eq_true _ _).mp hf
    rw [Bool.not_eq_true'] at hnt
    -- the target is listed, and has the operand types of `e` and the trait `t`
    have hp := List.find?_some hft
    simp only [Bool.and_eq_true, beq_iff_eq] at hp
    obtain ⟨⟨⟨⟨h1, h2⟩, _⟩, h4⟩, _⟩ := hp
    have hr' : e'.routeOk = true := List.all_eq_true.mp plumbing_table_routes e' (List.mem_of_find?_eq_some hft)
    obtain ⟨s1, s2⟩ := take_spec e t hr hc
    rw [eval_of_take W table e e' t a b hc hft hnt, s1, s2, ← h1, ← h2, ← h4]
    exact evalCore_exact W hW hW4 e' hr' hnt a b (h2 ▸ ha) (h4 ▸ hb)
  | _ =>
    have hnt : isTake e.core = false := by rw [hc]; rfl
    rw [eval_of_not_take W table e a b hnt]
    exact evalCore_exact W hW hW4 e hr hnt a b ha hb

/-- non-vacuity: the table has entries (108 at the pinned commit is not required, only > 0), lists
    `impl DivRemEuclid<&IBig> for IBig` and `impl RemAssign<&ConstDivisor> for UBig`, and the hypotheses are met by
    a three-word negative dividend and a two-word negative divisor -/
example : table ≠ [] ∧
    table.any (fun e => e.tr == .DivRemEuclid && e.lhs == .IBig && !e.lhsRef && e.rhs == .IBig && e.rhsRef) = true ∧
    table.any (fun e => e.tr == .RemAssign && e.lhs == .UBig && e.rhs == .ConstDivisor && isTake e.core) = true ∧
    OperandOk 64 .IBig ⟨true, .large [1, 2, 3]⟩ ∧ OperandOk 64 .IBig ⟨true, .small (2 ^ 64 + 1)⟩ ∧
    OperandOk 64 .UBig ⟨false, .large [1, 2, 3]⟩ ∧
    (⟨true, .small (2 ^ 64 + 1)⟩ : SRepr).value 64 ≠ 0 := by
  refine ⟨by decide +kernel, by decide +kernel, by decide +kernel, ⟨⟨by decide +kernel, by decide +kernel⟩, fun h => absurd rfl h⟩,
    ⟨⟨by decide +kernel, by decide +kernel⟩, fun h => absurd rfl h⟩, ⟨⟨by decide +kernel, by decide +kernel⟩, fun _ => rfl⟩, by decide +kernel⟩


/-- the property's first sentence, for every pair-returning impl (`DivRem`, `DivRemAssign`, `DivRemEuclid` on every
    operand type combination and ownership form of the regenerated table): a non-zero divisor gives `(q, r)` with
    `a = q·b + r` and `|r| < |b|`; the Euclidean form has `0 ≤ r`, the truncating forms `r = 0` or `sign r = sign a` -/
theorem plumbing_division_identity (W : Nat) (hW : 1 ≤ W) (hW4 : 4 ≤ W) (e : Entry) (he : e ∈ table)
    (a b : SRepr) (ha : OperandOk W e.lhs a) (hb : OperandOk W e.rhs b) (hne : b.value W ≠ 0)
    (ht : e.tr = .DivRem ∨ e.tr = .DivRemAssign ∨ e.tr = .DivRemEuclid) :
    ∃ q r, e.eval W table a b = some (.ok [q, r]) ∧
      a.value W = valInt W q * b.value W + valInt W r ∧ (valInt W r).natAbs < (b.value W).natAbs ∧
      (e.tr = .DivRemEuclid → 0 ≤ valInt W r) ∧
      (e.tr ≠ .DivRemEuclid → valInt W r = 0 ∨ (valInt W r).sign = (a.value W).sign) := by
  obtain ⟨vs, hev, hvals, _, _⟩ := (plumbing_every_impl_exact W hW hW4 e he a b ha hb).2 hne
  have ⟨t1, t2, t3⟩ := truncating_conventions (a.value W) (b.value W) hne
  have ⟨e1, e2, e3⟩ := euclidean_conventions (a.value W) (b.value W) hne
  -- two required values mean two results, which denote them
  have key : ∀ x y : Int, vs.map (valInt W) = [x, y] → ∃ q r, vs = [q, r] ∧ valInt W q = x ∧ valInt W r = y := by
    intro x y h
    match vs, h with
    | [q, r], h => exact ⟨q, r, rfl, (List.cons.inj h).1, (List.cons.inj (List.cons.inj h).2).1⟩
  by_cases hE : e.tr = .DivRemEuclid
  · obtain ⟨q, r, rfl, hq, hr⟩ := key (a.value W / b.value W) (a.value W % b.value W) (by rw [hvals, hE]; rfl)
    exact ⟨q, r, hev, by rw [hq, hr]; exact e1, by rw [hr]; omega, fun _ => by rw [hr]; exact e2, fun hn => absurd hE hn⟩
  · have hs : specVals e.tr (a.value W) (b.value W)
        = [Int.tdiv (a.value W) (b.value W), Int.tmod (a.value W) (b.value W)] := by
      rcases ht with h | h | h
      · rw [h]; rfl
      · rw [h]; rfl
      · exact absurd h hE
    obtain ⟨q, r, rfl, hq, hr⟩ := key _ _ (hvals.trans hs)
    exact ⟨q, r, hev, by rw [hq, hr]; exact t1, by rw [hr]; exact t2, fun h => absurd h hE, fun _ => by rw [hr]; exact t3⟩

/-- `IBig::is_multiple_of_const(d)`, `d ≠ 0`: true exactly when the truncating remainder of the signed value is zero
    (the code drops the sign and tests the magnitude) -/
theorem ibig_is_multiple_of_const_exact (W : Nat) (hW : 1 ≤ W) (a : SRepr) (d : Nat) (ha : a.WF W)
    (hd0 : d ≠ 0) (hd : d < 2 ^ (2 * W)) :
    isMultipleOfDword W a.mag d = .ok (decide (Int.tmod (a.value W) (d : Int) = 0)) := by
  rw [is_multiple_of_const_exact W hW a.mag d ha.1 hd0 hd]
  congr 1
  apply decide_eq_decide.mpr
  rw [srepr_value W a, ← tmod_of_sgn]
  cases a.neg
  · show _ ↔ ((a.mag.value W % d : Nat) : Int) = 0
    exact Int.natCast_eq_zero.symm
  · show _ ↔ -((a.mag.value W % d : Nat) : Int) = 0
    rw [Int.neg_eq_zero]; exact Int.natCast_eq_zero.symm

-- non-vacuity of the two theorems above: a `DivRemAssign` entry exists; a negative three-word value is a multiple of 3
example : table.any (fun e => e.tr == .DivRemAssign && e.lhs == .IBig && e.rhs == .ConstDivisor) = true ∧
    (⟨true, .large [0, 0, 6]⟩ : SRepr).WF 64 ∧ (3 : Nat) ≠ 0 ∧ 3 < 2 ^ (2 * 64) ∧
    isMultipleOfDword 64 (.large [0, 0, 6]) 3 = .ok true := by
  refine ⟨by decide +kernel, ⟨by decide +kernel, by decide +kernel⟩, by decide +kernel, by decide +kernel, by decide +kernel⟩

-- ------------------------------------------------------------------ div_ops::repr: the size-class dispatch

/-- every regenerated `impl Div / Rem / DivRem` between `TypedRepr` and `TypedReprRef` has exactly the arms the
    model's dispatch functions mirror: patterns in source order, callee per size class, the `len() >= len()` guard,
    and what is returned for an undersized dividend -/
theorem repr_table_arms : reprTable.all RImpl.armsOk = true := by decide +kernel

/-- all twelve impls (three traits × by-value / by-reference on both sides) are listed -/
theorem repr_table_complete :
    ([Disp.div, .rem, .div_rem].all fun d => [false, true].all fun l => [false, true].all fun r =>
      reprTable.any (fun i => i.tr == d && i.lhsRef == l && i.rhsRef == r)) = true := by decide +kernel

/-- an impl with the expected arms, run arm by arm, is the model's dispatch function -/
theorem expectedArms_eval (W : Nat) (d : Disp) (cloned lr rr : Bool) (a b : TRepr) :
    RImpl.eval W ⟨d, lr, rr, expectedArms d cloned⟩ a b = some (reprSpec W d a b) := by
  cases a with
  | small x => cases b <;> cases d <;> cases cloned <;> rfl
  | large w0 =>
    cases b with
    | small y => cases d <;> cases cloned <;> rfl
    | large w1 =>
      -- the arm's `if x0.len() >= x1.len()` is the model's, under `oneList` / `pairList`
      have one := apply_ite (fun r => some (oneList r)) (w0.length ≥ w1.length)
      have pair := apply_ite (fun r => some (pairList r)) (w0.length ≥ w1.length)
      cases d
      · cases cloned <;> exact (one (divLarge W w0 w1) (.ok (.small 0))).symm
      · cases cloned <;> exact (one (remLarge W w0 w1) (.ok (fromBuffer W w0))).symm
      · cases cloned <;> exact (pair (divRemLarge W w0 w1) (.ok (.small 0, fromBuffer W w0))).symm

/-- **every regenerated impl of `div_ops::repr` is the model's dispatch function**: for all magnitudes, running the
    arms read from the source gives `divRemRepr` / `divRepr` / `remRepr` — the functions the theorems of §3 are about
    and `Entry.eval` runs; so the four ownership forms agree on every input and a changed arm (callee, guard,
    returned operand) no longer checks -/
theorem repr_every_impl_eq_model (W : Nat) (i : RImpl) (hi : i ∈ reprTable) (a b : TRepr) :
    i.eval W a b = some (reprSpec W i.tr a b) := by
  have h := List.all_eq_true.mp repr_table_arms i hi
  obtain ⟨d, lr, rr, arms⟩ := i
  simp only [RImpl.armsOk, Bool.or_eq_true, beq_iff_eq] at h
  rcases h with h | h <;> subst h <;> exact expectedArms_eval W d _ lr rr a b

example : reprTable.length = 12 ∧
    RImpl.eval 64 ⟨.rem, true, false, expectedArms .rem true⟩ (.large [1, 2, 3]) (.large [1, 2, 3, 4])
      = some (.ok [.large [1, 2, 3]]) := by
  refine ⟨by decide +kernel, by decide +kernel⟩

-- ------------------------------------------------------------------ div_const::repr: the size-class arms against a ConstDivisorRepr

/-- every regenerated `impl Div / Rem / DivRem<&ConstDivisorRepr>` for `TypedRepr` / `TypedReprRef` has exactly the arms the
    model's `divConst` / `remConst` / `divRemConst` mirror: patterns in source order and, token for token, the body of each
    arm (callee, `from_word` / `from_dword` / `from_buffer` / `zero`, the `>> shift`, the `buffer.len() < div_len` guard) -/
theorem const_repr_table_arms : constReprTable.all CImpl.armsOk = true := by decide +kernel

/-- the four impls of the source are listed: `Div`, `DivRem` for `TypedRepr`; `Rem` for `TypedRepr` and `TypedReprRef` -/
theorem const_repr_table_complete :
    ([(Disp.div, false), (.div_rem, false), (.rem, false), (.rem, true)].all fun p =>
      constReprTable.any (fun i => i.tr == p.1 && i.lhsRef == p.2)) = true := by decide +kernel

/-- `rem_large_large` (the `>=` reading of the source) is the Large/Large arm of the model's `remConst` (written with `<`) -/
theorem remLargeLarge_eq (W : Nat) (ws nd : List Nat) (shift dtop : Nat) :
    remLargeLarge W ws nd shift dtop = remConst W (.large ws) (.large nd shift dtop) := by
  simp only [remLargeLarge, remConst, ← Nat.not_lt, ite_not]

/-- an impl with the expected arms, run arm by arm, is the model's function -/
theorem constExpectedArms_eval (W : Nat) (d : Disp) (lr : Bool) (a : TRepr) (c : ConstDiv) :
    CImpl.eval W ⟨d, lr, constExpectedArms d⟩ a c = some (constSpec W d a c) := by
  cases a with
  | small dw => cases c <;> cases d <;> rfl
  | large ws =>
    cases c with
    | single => cases d <;> rfl
    | double => cases d <;> rfl
    | large nd shift dtop =>
      -- `div`, `div_rem`: the arm's `if x0.len() < div_len` is the model's, under `oneList` / `pairList`
      cases d
      · exact (apply_ite (fun r => some (oneList r)) (ws.length < nd.length) (.ok (.small 0)) _).symm
      · exact congrArg (fun r => some (oneList r)) (remLargeLarge_eq W ws nd shift dtop)
      · exact (apply_ite (fun r => some (pairList r)) (ws.length < nd.length) (.ok (.small 0, fromBuffer W ws)) _).symm

/-- **every regenerated impl of `div_const::repr` is the model's function**: for all dividends and prepared divisors,
    running the arms read from the source gives `divRemConst` / `divConst` / `remConst` — the functions the theorems of §5
    (`const_divisor_eq_plain`, `const_divisor_ibig_exact`) are about and `Entry.eval` runs; a changed arm (callee,
    constructor, guard, missing shift-back) no longer checks -/
theorem const_repr_every_impl_eq_model (W : Nat) (i : CImpl) (hi : i ∈ constReprTable) (a : TRepr) (c : ConstDiv) :
    i.eval W a c = some (constSpec W i.tr a c) := by
  have h := List.all_eq_true.mp const_repr_table_arms i hi
  obtain ⟨d, lr, arms⟩ := i
  simp only [CImpl.armsOk, beq_iff_eq] at h
  subst h
  exact constExpectedArms_eval W d lr a c

/-- `fn rem_large_large`: the body has the recognised shape and the model reduces exactly where the regenerated `if`
    condition (`lhs.len() >= modulus.len()`) says -/
theorem rem_large_large_guard (W : Nat) (ws nd : List Nat) (shift dtop : Nat) :
    remLargeLargeShape = .reduceIfGuard ∧
    remLargeLarge W ws nd shift dtop =
      if guard_rem_large_large_reduce ws.length nd.length = true then (do
        let (buf, _) ← divRemUnshiftedInPlace W ws nd shift dtop
        let r ← shrRemainder W (buf.take nd.length) shift
        pure (fromBuffer W r))
      else .ok (fromBuffer W ws) := by
  refine ⟨rfl, ?_⟩
  simp only [remLargeLarge, guard_rem_large_large_reduce, decide_eq_true_eq]

example : constReprTable.length = 4 ∧
    CImpl.eval 64 ⟨.rem, true, constExpectedArms .rem⟩ (.large [1, 2, 3]) (.large [0, 0, 0, 9223372036854775808] 0 0)
      = some (.ok [.large [1, 2, 3]]) ∧
    CImpl.eval 64 ⟨.div_rem, false, constExpectedArms .div_rem⟩ (.small 7) (.large [0, 0, 0, 9223372036854775808] 0 0)
      = some (.ok [.small 0, .small 7]) := by
  refine ⟨by decide +kernel, by decide +kernel, by decide +kernel⟩

-- ================================================================== §9b length guards of the division kernels (Tie A)

/-- `div::div_rem_in_place`: the model's algorithm choice IS the `if` condition regenerated from integer/src/div/mod.rs -/
theorem div_rem_in_place_choice (W : Nat) (lhs rhs : List Nat) (dtop : Nat) :
    divRemInPlace W lhs rhs dtop =
      if guard_div_rem_in_place_simple thresholdSimple lhs.length rhs.length = true
      then simpleDivRemInPlace W lhs rhs dtop else bzDivRemInPlace W lhs rhs dtop := by
  unfold divRemInPlace guard_div_rem_in_place_simple
  -- case split on the atoms, so that a reordering of the operands in the source still checks
  by_cases h1 : rhs.length ≤ thresholdSimple <;> by_cases h2 : lhs.length - rhs.length ≤ thresholdSimple <;>
    simp [h1, h2]

/-- `divide_conquer::div_rem_in_place`: the model's entry assertion IS the regenerated `assert!` condition -/
theorem bz_entry_guard (W : Nat) (lhs rhs : List Nat) (dtop : Nat) :
    bzDivRemInPlace W lhs rhs dtop =
      if guard_dc_div_rem_in_place thresholdSimple lhs.length rhs.length = true
      then bzOuter W dtop rhs (2 * rhs.length + 1) (lhs.length / rhs.length - 1) lhs
      else .error (assertErr "divide_conquer::div_rem_in_place: lhs.len() > rhs.len() + THRESHOLD && rhs.len() > THRESHOLD") := by
  unfold bzDivRemInPlace guard_dc_div_rem_in_place
  by_cases h1 : lhs.length > rhs.length + thresholdSimple <;> by_cases h2 : rhs.length > thresholdSimple <;>
    simp [h1, h2]

/-- `div_rem_in_place_same_len`: the model's entry assertion IS the regenerated `assert!` condition -/
theorem bz_same_len_guard (W dtop fuel : Nat) (lhs rhs : List Nat) :
    (guard_dc_same_len thresholdSimple lhs.length rhs.length = false →
      bzSameLen W dtop (fuel + 1) lhs rhs
        = .error (assertErr "div_rem_in_place_same_len: n > THRESHOLD_SIMPLE && lhs.len() == 2 * n")) ∧
    (guard_dc_same_len thresholdSimple lhs.length rhs.length = true →
      rhs.length > thresholdSimple ∧ lhs.length = 2 * rhs.length ∧
      bzSameLen W dtop (fuel + 1) lhs rhs = (do
        let (hi', o) ← bzSmallQuotient W dtop fuel (lhs.drop (rhs.length / 2)) rhs
        let lhs1 := lhs.take (rhs.length / 2) ++ hi'
        let (lo', oLo) ← bzSmallQuotient W dtop fuel (lhs1.take (rhs.length + rhs.length / 2)) rhs
        if oLo ≠ 0 then .error (assertErr "div_rem_in_place_same_len: debug_assert!(!overflow_lo)")
        else pure (lo' ++ lhs1.drop (rhs.length + rhs.length / 2), o))) := by
  unfold guard_dc_same_len
  constructor
  · intro h
    have h' : ¬ (rhs.length > thresholdSimple ∧ lhs.length = 2 * rhs.length) := by
      intro ⟨a, b⟩; simp [a, b] at h
    rw [bzSameLen]; simp only [h', not_false_eq_true, if_true]
  · intro h
    simp only [Bool.and_eq_true, decide_eq_true_eq] at h
    refine ⟨h.1, h.2, ?_⟩
    rw [bzSameLen]; simp only [h, and_self, not_true_eq_false, if_false]

/-- `div_rem_in_place_small_quotient`: the model's two entry assertions and its hand-over of short quotients to
    `simple::div_rem_in_place` ARE the regenerated conditions (`m = lhs.len() - n`) -/
theorem bz_small_quotient_guards (W dtop fuel : Nat) (lhs rhs : List Nat) :
    (guard_dc_small_quotient_pre lhs.length rhs.length = false →
      bzSmallQuotient W dtop (fuel + 1) lhs rhs
        = .error (assertErr "div_rem_in_place_small_quotient: n >= 2 && lhs.len() >= n")) ∧
    (guard_dc_small_quotient_pre lhs.length rhs.length = true →
      guard_dc_small_quotient_m (lhs.length - rhs.length) rhs.length = false →
      bzSmallQuotient W dtop (fuel + 1) lhs rhs = .error (assertErr "div_rem_in_place_small_quotient: m < n")) ∧
    (guard_dc_small_quotient_pre lhs.length rhs.length = true →
      guard_dc_small_quotient_m (lhs.length - rhs.length) rhs.length = true →
      (guard_dc_small_quotient_simple thresholdSimple (lhs.length - rhs.length) = true ↔
        lhs.length - rhs.length ≤ thresholdSimple) ∧
      (guard_dc_small_quotient_simple thresholdSimple (lhs.length - rhs.length) = true →
        bzSmallQuotient W dtop (fuel + 1) lhs rhs = simpleDivRemInPlace W lhs rhs dtop)) := by
  unfold guard_dc_small_quotient_pre guard_dc_small_quotient_m guard_dc_small_quotient_simple
  refine ⟨fun h => ?_, fun h1 h2 => ?_, fun h1 h2 => ⟨by simp only [decide_eq_true_eq], fun h3 => ?_⟩⟩
  · have h' : ¬ (rhs.length ≥ 2 ∧ lhs.length ≥ rhs.length) := by
      intro ⟨a, b⟩; simp [a, b] at h
    rw [bzSmallQuotient]; simp only [h', not_false_eq_true, if_true]
  · simp only [Bool.and_eq_true, decide_eq_true_eq] at h1
    simp only [decide_eq_false_iff_not] at h2
    rw [bzSmallQuotient]; simp only [h1, and_self, not_true_eq_false, if_false, h2, not_false_eq_true, if_true]
  · simp only [Bool.and_eq_true, decide_eq_true_eq] at h1 h2 h3
    rw [bzSmallQuotient]; simp only [h1, and_self, not_true_eq_false, if_false, h2, h3, if_true]

/-- … and where the regenerated `if` is false the model does NOT take the `simple` path: it enters the recursive
    2m/m estimate (`div_rem_in_place_same_len`), visible with one unit of fuel as the model's fuel error -/
theorem bz_small_quotient_recursive (W dtop : Nat) (lhs rhs : List Nat)
    (h1 : guard_dc_small_quotient_pre lhs.length rhs.length = true)
    (h2 : guard_dc_small_quotient_m (lhs.length - rhs.length) rhs.length = true)
    (h3 : guard_dc_small_quotient_simple thresholdSimple (lhs.length - rhs.length) = false) :
    bzSmallQuotient W dtop 1 lhs rhs = .error (assertErr "divide_conquer: recursion fuel") := by
  unfold guard_dc_small_quotient_pre at h1
  unfold guard_dc_small_quotient_m at h2
  unfold guard_dc_small_quotient_simple at h3
  simp only [Bool.and_eq_true, decide_eq_true_eq] at h1 h2
  simp only [decide_eq_false_iff_not] at h3
  rw [bzSmallQuotient]
  simp only [h1, and_self, not_true_eq_false, if_false, h2, h3]
  rw [bzSameLen]
  rfl

/-- `simple::div_rem_in_place` (Knuth D): the model's two entry assertions ARE the regenerated `assert!` conditions -/
theorem simple_entry_guards (W : Nat) (lhs rhs : List Nat) (dtop : Nat) :
    (guard_simple_n rhs.length = false →
      simpleDivRemInPlace W lhs rhs dtop = .error (assertErr "simple::div_rem_in_place: n >= 2")) ∧
    (guard_simple_n rhs.length = true → guard_simple_len lhs.length rhs.length = false →
      simpleDivRemInPlace W lhs rhs dtop = .error (assertErr "simple::div_rem_in_place: lhs_len >= n")) ∧
    (guard_simple_n rhs.length = true → guard_simple_len lhs.length rhs.length = true →
      simpleDivRemInPlace W lhs rhs dtop =
        (let lo := lhs.take (lhs.length - rhs.length)
         let top := lhs.drop (lhs.length - rhs.length)
         let carry := cmpSameLen top rhs != .lt
         let top' := if carry then (subSameLen W top rhs 0).1 else top
         do
           let r ← simpleLoop W rhs dtop (lhs.length - rhs.length) (lo ++ top')
           pure (r, if carry then 1 else 0))) := by
  unfold guard_simple_n guard_simple_len
  refine ⟨fun h => ?_, fun h1 h2 => ?_, fun h1 h2 => ?_⟩
  · simp only [decide_eq_false_iff_not] at h
    have : rhs.length < 2 := by omega
    unfold simpleDivRemInPlace; simp only [this, if_true]
  · simp only [decide_eq_true_eq] at h1
    simp only [decide_eq_false_iff_not] at h2
    have a : ¬ rhs.length < 2 := by omega
    have b : lhs.length < rhs.length := by omega
    unfold simpleDivRemInPlace; simp only [a, if_false, b, if_true]
  · simp only [decide_eq_true_eq] at h1 h2
    have a : ¬ rhs.length < 2 := by omega
    have b : ¬ lhs.length < rhs.length := by omega
    unfold simpleDivRemInPlace; simp only [a, if_false, b]

/-- `div_rem_highest_word`, first half: the model takes the 3-by-2 estimate exactly where the regenerated `if` says
    (`lhs_top < *rhs_top`), else `Word::MAX` -/
theorem hw_estimate_guard (W lhsTop : Nat) (lhsLo rhs : List Nat) (dtop : Nat) :
    qEstimate W lhsTop lhsLo rhs dtop =
      if guard_hw_estimate lhsTop (rhs.getD (rhs.length - 1) 0) = true then
        (do let (q, _) ← div3by2 W dtop (highestDword W lhsLo % 2 ^ W)
                          (highestDword W lhsLo / 2 ^ W + 2 ^ W * lhsTop)
            pure q)
      else pure (2 ^ W - 1) := by
  simp only [qEstimate, guard_hw_estimate, decide_eq_true_eq]

/-- `div_rem_highest_word`, second half: the model adds the divisor back exactly where the regenerated `if` says
    (`borrow > lhs_top`, `borrow` = what `sub_mul_word_same_len_in_place` returned) -/
theorem hw_addback_guard (W lhsTop : Nat) (lhsLo rhs : List Nat) (q : Nat) :
    let r := Div.subMulWordSameLen W (lhsLo.drop (lhsLo.length - rhs.length)) q rhs
    (guard_hw_addback r.2 lhsTop = true →
      correctStep W lhsTop lhsLo rhs q =
        (let a := addSameLen W r.1 rhs 0
         if a.2 = 0 then .error (assertErr "div_rem_highest_word: debug_assert!(carry)")
         else if r.2 - 1 ≠ lhsTop then .error (assertErr "div_rem_highest_word: borrow == lhs_top")
         else .ok (q - 1, lhsLo.take (lhsLo.length - rhs.length) ++ a.1))) ∧
    (guard_hw_addback r.2 lhsTop = false →
      correctStep W lhsTop lhsLo rhs q =
        (if r.2 ≠ lhsTop then .error (assertErr "div_rem_highest_word: borrow == lhs_top")
         else .ok (q, lhsLo.take (lhsLo.length - rhs.length) ++ r.1))) := by
  intro r
  unfold guard_hw_addback
  constructor
  · intro h
    simp only [decide_eq_true_eq] at h
    unfold correctStep
    simp only [show Div.subMulWordSameLen W (lhsLo.drop (lhsLo.length - rhs.length)) q rhs = r from rfl]
    simp only [h, if_true]
  · intro h
    simp only [decide_eq_false_iff_not] at h
    unfold correctStep
    simp only [show Div.subMulWordSameLen W (lhsLo.drop (lhsLo.length - rhs.length)) q rhs = r from rfl]
    simp only [h, if_false]

/-- `div_by_word_in_place`: the model's `rhs == 1` and power-of-two shortcuts are taken exactly where the regenerated
    conditions say -/
theorem div_by_word_guards (W : Nat) (ws : List Nat) (rhs : Nat) :
    divByWordInPlace W ws rhs =
      if guard_dbw_one rhs = true then .ok (ws, 0)
      else if guard_dbw_pow2 rhs = true then
        .ok ((shrInPlace W ws (Nat.log2 rhs)).1, (shrInPlace W ws (Nat.log2 rhs)).2 / 2 ^ (W - Nat.log2 rhs))
      else (do
        let d ← normNew W ((rhs * 2 ^ lz W rhs) % 2 ^ W)
        fastDivByWordInPlace W ws (lz W rhs) d) := by
  unfold divByWordInPlace guard_dbw_one guard_dbw_pow2
  by_cases h1 : rhs = 1 <;> by_cases h2 : Div.isPow2 rhs = true <;> simp [h1, h2]

/-- `rem_by_word` / `rem_by_dword`: the power-of-two shortcut (`words[0] & (rhs − 1)` resp. the low double word) is
    taken exactly where the regenerated condition says -/
theorem rem_by_word_dword_guards (W : Nat) (ws : List Nat) (rhs : Nat) :
    (guard_rbw_pow2 rhs = true → remByWord W ws rhs =
      match ws with
      | [] => .error (assertErr "rem_by_word: empty")
      | w :: _ => .ok (w &&& (rhs - 1))) ∧
    (guard_rbw_pow2 rhs = false → remByWord W ws rhs = (do
      let d ← normNew W ((rhs * 2 ^ lz W rhs) % 2 ^ W)
      let rem ← fastRemByNormalizedWord W d ws
      let (_, r) ← div2by1 W d (rem * 2 ^ lz W rhs)
      pure (r / 2 ^ lz W rhs))) ∧
    (guard_rbd_pow2 rhs = true → remByDword W ws rhs =
      match ws with
      | w0 :: w1 :: _ => .ok ((w0 + 2 ^ W * w1) &&& (rhs - 1))
      | _ => .error (assertErr "rem_by_dword: words.len() >= 2")) ∧
    (guard_rbd_pow2 rhs = false → remByDword W ws rhs = (do
      let d ← normNew (2 * W) ((rhs * 2 ^ lz (2 * W) rhs) % 2 ^ (2 * W))
      let rem ← fastRemByNormalizedDword W d ws
      let (a0, a1, a2) := shlDword W rem (lz (2 * W) rhs)
      let (_, r) ← div3by2 W d a0 (a1 + 2 ^ W * a2)
      pure (r / 2 ^ lz (2 * W) rhs))) := by
  unfold guard_rbw_pow2 guard_rbd_pow2
  refine ⟨fun h => ?_, fun h => ?_, fun h => ?_, fun h => ?_⟩
  · unfold remByWord; simp only [h, if_true]; rfl
  · unfold remByWord; simp only [h, Bool.false_eq_true, if_false]
  · unfold remByDword; simp only [h, if_true]; rfl
  · unfold remByDword; simp only [h, Bool.false_eq_true, if_false]

/-- `div_by_dword_in_place`: the power-of-two path and, inside it, the `shift == 0` case (divisor `2^WORD_BITS`
    exactly) are taken exactly where the regenerated conditions say -/
theorem div_by_dword_guards (W : Nat) (ws : List Nat) (rhs : Nat) :
    divByDwordInPlace W ws rhs =
      if guard_dbd_pow2 rhs = true then
        (if guard_dbd_shift0 (Nat.log2 rhs - W) = true then .ok ((shrInPlaceOneWord ws).1, (shrInPlaceOneWord ws).2)
         else
           let r := shrInPlace W (shrInPlaceOneWord ws).1 (Nat.log2 rhs - W)
           let n := shrWord W (shrInPlaceOneWord ws).2 (Nat.log2 rhs - W)
           .ok (r.1, (n.2 + 2 ^ W * (n.1 ||| r.2)) / 2 ^ (W - (Nat.log2 rhs - W))))
      else (do
        let d ← normNew (2 * W) ((rhs * 2 ^ lz (2 * W) rhs) % 2 ^ (2 * W))
        fastDivByDwordInPlace W ws (lz (2 * W) rhs) d) := by
  unfold divByDwordInPlace guard_dbd_pow2 guard_dbd_shift0
  by_cases h1 : Div.isPow2 rhs = true <;> by_cases h2 : Nat.log2 rhs - W = 0 <;> simp [h1, h2]

/-- `div_rem_unshifted_in_place`: the carry of the normalisation shift gets its own quotient word exactly where the
    regenerated condition says (`lhs_carry > 0`) -/
theorem unshifted_carry_guard (W : Nat) (lhs rhs : List Nat) (shift dtop : Nat) :
    divRemUnshiftedInPlace W lhs rhs shift dtop = (do
      let s := Div.shlInPlace W lhs shift
      let (qTop, lhs2) ← if guard_unshifted_carry s.2 = true then divRemHighestWord W s.2 s.1 rhs dtop
                          else pure (0, s.1)
      let (lhs3, overflow) ← divRemInPlace W lhs2 rhs dtop
      pure (lhs3, qTop + overflow)) := by
  unfold divRemUnshiftedInPlace guard_unshifted_carry
  simp only [decide_eq_true_eq]

example : guard_div_rem_in_place_simple thresholdSimple 70 33 = false ∧
    guard_div_rem_in_place_simple thresholdSimple 65 33 = true ∧
    guard_dc_div_rem_in_place thresholdSimple 70 33 = true ∧ guard_dc_same_len thresholdSimple 80 40 = true ∧
    guard_dc_small_quotient_pre 70 40 = true ∧ guard_dc_small_quotient_m 30 40 = true ∧
    guard_dc_small_quotient_simple thresholdSimple 30 = true ∧ guard_dc_small_quotient_simple thresholdSimple 33 = false := by
  decide +kernel

-- ================================================================== §10 ConstDivisor::from_word / from_dword

/-- `ConstDivisor::from_word(word)` (its own zero test, then `ConstSingleDivisor::new`) builds exactly the divisor
    `ConstDivisor::new(UBig::from(word))` builds — zero included (the documented divide-by-zero panic) -/
theorem const_from_word_eq_new (W word : Nat) (hw : word < 2 ^ W) :
    ConstDiv.fromWord W word = ConstDiv.new W (.small word) := by
  unfold ConstDiv.fromWord
  by_cases h0 : word = 0
  · subst h0; simp [ConstDiv.new]
  · rw [if_neg h0]
    unfold constSingleNew
    rw [if_neg h0]
    cases word with
    | zero => exact absurd rfl h0
    | succ n => simp only [ConstDiv.new, if_pos hw]

/-- `ConstDivisor::from_dword(dword)` (zero test, `shrink_dword`, `ConstSingleDivisor::new` resp.
    `ConstDoubleDivisor::new`; neither constructor's `debug_assert!` can fail) builds exactly the divisor
    `ConstDivisor::new(UBig::from(dword))` builds — zero included -/
theorem const_from_dword_eq_new (W dword : Nat) :
    ConstDiv.fromDword W dword = ConstDiv.new W (.small dword) := by
  unfold ConstDiv.fromDword
  by_cases h0 : dword = 0
  · subst h0; simp [ConstDiv.new]
  · rw [if_neg h0]
    have hp : 0 < 2 ^ W := Nat.two_pow_pos W
    cases dword with
    | zero => exact absurd rfl h0
    | succ n =>
      by_cases hw : n + 1 < 2 ^ W
      · have e : shrinkDword W (n + 1) = some (n + 1) := by
          unfold shrinkDword
          rw [if_pos (Nat.div_eq_of_lt hw), Nat.mod_eq_of_lt hw]
        simp only [e, ConstDiv.new, if_pos hw]
        unfold constSingleNew
        rw [if_neg h0]
      · have e : shrinkDword W (n + 1) = none := by
          unfold shrinkDword
          rw [if_neg]
          intro h
          have := (Nat.div_eq_zero_iff_lt hp).mp h
          exact hw this
        simp only [e, ConstDiv.new, if_neg hw]
        unfold constDoubleNew
        rw [if_neg hw]

/-- hence `from_word(0)` / `from_dword(0)` panic with the documented message and `from_dword(d).value() = d`
    (`from_word` is the case `d < 2^W`); division through them is covered by `const_divisor_eq_plain` /
    `plumbing_every_impl_exact`, which speak about `ConstDivisor::new` of the same value -/
theorem const_from_dword_value (W : Nat) (hW : 1 ≤ W) (d : Nat) (hd : d < 2 ^ (2 * W)) :
    (d = 0 → ConstDiv.fromDword W d = .error .divideByZero) ∧
    (d ≠ 0 → ∃ c v, ConstDiv.fromDword W d = .ok c ∧ c.value W = .ok v ∧ v.value W = d ∧ v.Canon W) := by
  rw [const_from_dword_eq_new]
  exact const_divisor_new_value W hW (.small d) hd

theorem const_from_word_value (W : Nat) (hW : 1 ≤ W) (w : Nat) (hw : w < 2 ^ W) :
    (w = 0 → ConstDiv.fromWord W w = .error .divideByZero) ∧
    (w ≠ 0 → ∃ c v, ConstDiv.fromWord W w = .ok c ∧ c.value W = .ok v ∧ v.value W = w ∧ v.Canon W) := by
  rw [const_from_word_eq_new W w hw]
  refine const_divisor_new_value W hW (.small w) ?_
  show w < 2 ^ (2 * W)
  calc w < 2 ^ W := hw
    _ ≤ 2 ^ (2 * W) := Nat.pow_le_pow_right (by decide) (by omega)

example : (2 ^ 63 + 5 : Nat) < 2 ^ 64 ∧ (2 ^ 63 + 5 : Nat) ≠ 0 ∧ (2 ^ 100 + 1 : Nat) < 2 ^ (2 * 64) ∧
    ConstDiv.fromDword 64 (2 ^ 100 + 1) = ConstDiv.new 64 (.small (2 ^ 100 + 1)) := by
  refine ⟨by decide +kernel, by decide +kernel, by decide +kernel, by decide +kernel⟩

end Dashu.Props.C02
