import Dashu.Proofs.Ratio.FBigSpecial
import Dashu.Gen.Misc
import Mathlib.Order.Compare
/-
  C18 — Rational approximation functions return the optimal fraction they promise.

  Property theorems (the lemmas they rest on are in `Dashu/Proofs/Ratio/`).  The model
  (`Dashu/Model/Ratio/Simplify.lean`) mirrors `rational/src/simplify.rs`; `is_simpler_than` is
  the text regenerated from the source on every run (`Dashu.Gen.is_simpler_than`, pairs are
  (numerator, denominator)).  Nothing bounds numerators, denominators or limits.
-/
namespace Dashu.Props.C18
open Dashu Dashu.Model Dashu.Model.Ratio

-- ------------------------------------------------------------------ is_simpler_than

/-- the documented order (rational/src/simplify.rs, doc of `simplest_in`): smaller denominator
    first, then smaller numerator magnitude, then positive before negative -/
def Simpler (a b : Int × Int) : Prop :=
  a.2 < b.2 ∨ (a.2 = b.2 ∧
    (a.1.natAbs < b.1.natAbs ∨ (a.1.natAbs = b.1.natAbs ∧ 0 ≤ a.1 ∧ b.1 < 0)))

instance (a b : Int × Int) : Decidable (Simpler a b) := by unfold Simpler; infer_instance

theorem sign_pair_gt_iff (a b : Int × Int) :
    GluePrelude.gt_ (GluePrelude.sign a) (GluePrelude.sign b) = true ↔ 0 ≤ a.1 ∧ b.1 < 0 := by
  simp only [GluePrelude.gt_, GluePrelude.sign, GluePrelude.HasSign.sign, beq_iff_eq]
  by_cases hx : a.1 < 0 <;> by_cases hy : b.1 < 0 <;> simp [hx, hy, compare] <;> omega

/-- **`RBig::is_simpler_than`** (text regenerated from rational/src/simplify.rs on every run)
    is the documented lexicographic order.  (Before fix commit 766946e the body was the
    conjunction of the three comparisons and this statement was false: (1,2) vs (1,3).) -/
theorem is_simpler_than_lexicographic (a b : Int × Int) :
    Dashu.Gen.is_simpler_than a b = true ↔ Simpler a b := by
  unfold Dashu.Gen.is_simpler_than Simpler
  simp only [GluePrelude.cmp, GluePrelude.denominator, GluePrelude.abs_cmp, GluePrelude.numerator]
  rcases lt_trichotomy a.2 b.2 with h | h | h
  · rw [compare_lt_iff_lt.mpr h]; simp [h]
  · rw [compare_eq_iff_eq.mpr h]
    rcases lt_trichotomy a.1.natAbs b.1.natAbs with g | g | g
    · rw [compare_lt_iff_lt.mpr g]; simp [h, g]
    · rw [compare_eq_iff_eq.mpr g]
      simp only [h, g, lt_irrefl, true_and, false_or]
      exact sign_pair_gt_iff a b
    · rw [compare_gt_iff_gt.mpr g]
      simp only [h, lt_irrefl, true_and, false_or, Bool.false_eq_true, false_iff, not_or, not_and]
      exact ⟨by omega, by omega⟩
  · rw [compare_gt_iff_gt.mpr h]
    simp only [Bool.false_eq_true, false_iff, not_or, not_and]
    exact ⟨by omega, by omega⟩

/-- the former counterexample now goes the documented way -/
example : Dashu.Gen.is_simpler_than (1, 2) (1, 3) = true ∧
    Dashu.Gen.is_simpler_than (1, 3) (-1, 3) = true ∧
    Dashu.Gen.is_simpler_than (-1, 3) (1, 3) = false := by decide

-- ------------------------------------------------------------------ simplest_in

/-- **`RBig::simplest_in`** (all end points: any order, any signs, equal, zero, integers):
    equal end points give that number; otherwise the result is a reduced fraction strictly
    between the end points, and EVERY fraction `p/s` strictly between them has `s ≥` its
    denominator and `|p| ≥` its numerator magnitude — so none has a smaller denominator, or the
    same denominator and a smaller numerator magnitude. -/
theorem simplest_in_optimal (l u : Q) (hld : 0 < l.den) (hud : 0 < u.den) :
    (l.val = u.val → ∃ r, simplestIn l u = .ok (some r) ∧ Reduced r ∧ r.val = l.val) ∧
    (l.val ≠ u.val → ∃ r, simplestIn l u = .ok (some r) ∧ Reduced r ∧
      min l.val u.val < r.val ∧ r.val < max l.val u.val ∧
      ∀ (p : Int) (s : Nat), 0 < s → min l.val u.val < (p : Rat) / s →
        (p : Rat) / s < max l.val u.val → r.den ≤ s ∧ r.num.natAbs ≤ p.natAbs) :=
  simplestIn_spec l u hld hud

/-- the continued-fraction descent: sound, simultaneously minimal in numerator and denominator,
    and terminating within `denL + denR + 1` iterations -/
theorem simplest_descent (fuel : Nat) (a b c d : Int) (h : SInv a b c d)
    (hf : (b + d).toNat < fuel) :
    ∃ A B, sb fuel a b c d = some (A, B) ∧ 0 < A ∧ 0 < B ∧ a * B < A * b ∧ A * d < c * B ∧
      ∀ p s : Int, 0 < s → a * s < p * b → p * d < c * s → A ≤ p ∧ B ≤ s :=
  sb_spec fuel a b c d h hf

/-- the loop of the code (convergent matrix accumulated on the fly) is that descent -/
theorem simplest_loop_is_descent (fuel : Nat) (a b c d n0 d0 n1 d1 : Int) (h : SInv a b c d) :
    simplestLoop fuel ⟨a, b, c, d, n0, d0, n1, d1⟩ =
      .ok ((sb fuel a b c d).map fun AB => (n0 * AB.1 + n1 * AB.2, d0 * AB.1 + d1 * AB.2)) :=
  simplestLoop_eq_sb fuel a b c d n0 d0 n1 d1 h

example : simplestIn ⟨1234, 5678⟩ ⟨1235, 5679⟩ = .ok (some ⟨5, 23⟩) := by decide
example : simplestIn ⟨0, 1⟩ ⟨-1, 2⟩ = .ok (some ⟨-1, 3⟩) := by decide
example : simplestIn ⟨-1, 2⟩ ⟨1, 3⟩ = .ok (some ⟨0, 1⟩) := by decide

-- ------------------------------------------------------------------ Farey neighbours

/-- **`farey_neighbors`**: for `−1 ≤ x < 1` the walk terminates (within `2·limit + 2` steps)
    with `left ≤ x < right`, `right.num·left.den − left.num·right.den = 1`, both denominators
    `≤ limit` and their sum `> limit` -/
theorem farey_neighbors_adjacent (x : Q) (limit : Nat) (hx : 0 < x.den) (hl : 1 ≤ limit)
    (h1 : -1 ≤ x.val) (h2 : x.val < 1) :
    ∃ l r, fareyNeighbors x limit = .ok (some (l, r)) ∧ FInv x limit l r ∧
      limit < l.den + r.den :=
  fareyNeighbors_spec x limit hx hl h1 h2

/-- such a pair is consecutive in the Farey sequence of order `limit` -/
theorem farey_neighbors_consecutive (x : Q) (limit : Nat) (l r : Q) (h : FInv x limit l r)
    (hsum : limit < l.den + r.den) (p : Int) (q : Nat) (hq : 0 < q)
    (h1 : l.val < (p : Rat) / q) (h2 : (p : Rat) / q < r.val) : limit < q :=
  h.consecutive hsum p q hq h1 h2

/-- **`next_up` / `next_down`** (every reduced `x`, every `limit ≥ 1`; `limit = 0` panics):
    reduced result with denominator `≤ limit`, strictly above / below `x`, and no fraction with a
    denominator `≤ limit` strictly between — the adjacent element of the Farey sequence. -/
theorem next_up_down_adjacent (up : Bool) (x : Q) (limit : Nat) (hx : Reduced x) :
    (limit = 0 → nextUpDown up x limit = .error .divideByZero) ∧
    (1 ≤ limit → ∃ r, nextUpDown up x limit = .ok (some r) ∧ Reduced r ∧ r.den ≤ limit ∧
      (if up then x.val < r.val else r.val < x.val) ∧
      ∀ (p : Int) (q : Nat), 0 < q →
        (if up then x.val < (p : Rat) / q ∧ (p : Rat) / q < r.val
         else r.val < (p : Rat) / q ∧ (p : Rat) / q < x.val) → limit < q) := by
  constructor
  · intro h; simp [nextUpDown, h]
  · intro hl
    by_cases hbig : limit < x.den
    · exact nextUpDown_spec_big up x limit hx hl hbig
    · by_cases h2 : 2 ≤ limit
      · exact nextUpDown_spec_small up x limit hx h2 (by omega)
      · -- limit = 1, x an integer
        have hL : limit = 1 := by omega
        have hd : x.den = 1 := by have := hx.den_pos; omega
        obtain ⟨n, d⟩ := x
        simp only at hd
        subst hd; subst hL
        refine ⟨_, nextUpDown_limit_one up n, ⟨by simp, by simp⟩, le_refl _, ?_, ?_⟩
        · cases up <;> simp [Q.val_def]
        · intro p q hq hpq
          by_contra hcon
          have hq1 : q = 1 := by omega
          subst hq1
          cases up
          · simp only [Bool.false_eq_true, if_false, Q.val_def, Nat.cast_one, div_one] at hpq
            have a : n - 1 < p := by exact_mod_cast hpq.1
            have b : p < n := by exact_mod_cast hpq.2
            omega
          · simp only [if_true, Q.val_def, Nat.cast_one, div_one] at hpq
            have a : n < p := by exact_mod_cast hpq.1
            have b : p < n + 1 := by exact_mod_cast hpq.2
            omega

/-- the early return of `next_up` / `next_down` (`limit.is_one() && self.is_int()`, fix ef17af6),
    mirrored in the model: the neighbours of the integer `n` in the Farey sequence of order 1 are
    `n ± 1` -/
theorem next_up_down_limit_one_int (up : Bool) (n : Int) :
    nextUpDown up ⟨n, 1⟩ 1 = .ok (some ⟨if up then n + 1 else n - 1, 1⟩) :=
  nextUpDown_limit_one up n

/-- **`nearest`**: `Exact(x)` iff the denominator fits; otherwise the closer of `next_down` and
    `next_up` (the lower one on a tie) tagged with the sign of `result − x`
    (`negative = true` ⇔ the result is below `x`). -/
theorem nearest_closer (x : Q) (limit : Nat) (hx : Reduced x) :
    (limit = 0 → nearest x limit = .error .divideByZero) ∧
    (1 ≤ limit → x.den ≤ limit → nearest x limit = .ok (some (.exact x))) ∧
    (1 ≤ limit → limit < x.den → ∃ dn up, nextUpDown false x limit = .ok (some dn) ∧
      nextUpDown true x limit = .ok (some up) ∧ dn.val < x.val ∧ x.val < up.val ∧
      ((up.val - x.val < x.val - dn.val ∧ nearest x limit = .ok (some (.inexact up false))) ∨
       (x.val - dn.val ≤ up.val - x.val ∧ nearest x limit = .ok (some (.inexact dn true))))) := by
  refine ⟨fun h => by simp [nearest, h], fun hl hsm => ?_, fun hl hbig => ?_⟩
  · have h0 : limit ≠ 0 := by omega
    simp [nearest, h0, hsm]
  · obtain ⟨f, l, r, hsplit, hfn, hfred, hfval, hinv, hsum, hlt, hdn, hup⟩ :=
      farey_of_big x limit hx hl hbig
    set t := Int.tdiv x.num x.den
    have hlred := hinv.reduced_left
    have hrred := hinv.reduced_right
    have hxv : x.val = f.val + t := by rw [hfval]; ring
    obtain ⟨-, sl2, -⟩ := shift_spec l t hlred
    obtain ⟨-, sr2, -⟩ := shift_spec r t hrred
    obtain ⟨s, hs1, hs2, hs3⟩ := R.add_spec l r hlred hrred
    have hmid : (⟨s.num, s.den * 2⟩ : Q).val = (l.val + r.val) / 2 := by
      have hsd : (s.den : ℚ) ≠ 0 := by exact_mod_cast hs2.den_pos.ne'
      rw [← hs3]; simp only [Q.val_def]; push_cast; field_simp
    have hmd : 0 < (⟨s.num, s.den * 2⟩ : Q).den := by
      have := hs2.den_pos; simp only; omega
    refine ⟨_, _, hdn, hup, by rw [sl2, hxv]; linarith, by rw [sr2, hxv]; linarith [hinv.hi], ?_⟩
    have hnear : nearest x limit =
        if cmpQ f ⟨s.num, s.den * 2⟩ = .gt then .ok (some (.inexact (R.addSubInt false r t) false))
        else .ok (some (.inexact (R.addSubInt false l t) true)) := by
      simp only [nearest, if_neg (by omega : ¬ limit = 0), if_neg (by omega : ¬ x.den ≤ limit),
        hsplit, bind_ok', hfn, hs1]
      split <;> rfl
    by_cases hgt : cmpQ f ⟨s.num, s.den * 2⟩ = .gt
    · left
      have := (cmpQ_gt_iff f _ hfred.den_pos hmd).1 hgt
      rw [hmid] at this
      refine ⟨by rw [sl2, sr2, hxv]; linarith, by rw [hnear, if_pos hgt]⟩
    · right
      have : f.val ≤ (⟨s.num, s.den * 2⟩ : Q).val := by
        by_contra hc
        exact hgt ((cmpQ_gt_iff f _ hfred.den_pos hmd).2 (not_le.mp hc))
      rw [hmid] at this
      refine ⟨by rw [sl2, sr2, hxv]; linarith, by rw [hnear, if_neg hgt]⟩

-- ------------------------------------------------------------------ simplest_from_f32 / f64 / float

/-- the tail shared by `simplest_from_f32/f64/float` (`pickSimplest`): for a positive interval
    with reduced end points the result is a reduced fraction of the closed interval, an end point
    only if allowed, and at least as simple (denominator, then numerator magnitude) as every
    fraction strictly inside and as every allowed end point -/
theorem pick_simplest_optimal (lo hi : Q) (hlo : Reduced lo) (hhi : Reduced hi) (hpos : 0 < lo.num)
    (hlt : lo.val < hi.val) (inclLo inclHi : Bool) :
    ∃ r, pickSimplest simplerSpec lo hi inclLo inclHi = .ok (some r) ∧
      SimplestOfSet lo hi inclLo inclHi r :=
  pickSimplest_spec lo hi hlo hhi hpos hlt inclLo inclHi

/-- `simplest_from_f32` / `simplest_from_f64` over the interval `roundingInterval` (half an ulp to
    each side, a quarter below a power of two, end points iff the mantissa is even): NaN/inf ⇒
    `None`, ±0 ⇒ 0, otherwise the sign of the float times the simplest element of that interval.
    That the interval is the exact preimage of the float under IEEE round-to-nearest-even, and hence
    the full statement "simplest fraction that converts back to exactly the float", is
    `Props/C18Link.lean` (composition with the IEEE specification `ieeeRoundRat` of Model/Conv/Ratio.lean). -/
theorem simplest_from_float_interval (eb mb bits : Nat) :
    (floatDecode eb mb bits = none →
      simplestFromFloat simplerSpec eb mb bits = .ok (some none)) ∧
    (∀ man exp, floatDecode eb mb bits = some (man, exp) →
      (man = 0 → simplestFromFloat simplerSpec eb mb bits = .ok (some (some Q.zero))) ∧
      (man ≠ 0 → ∃ lo hi s,
        reduce (roundingInterval mb (1 - (2 ^ (eb - 1) - 1) - mb) man.natAbs exp).1 = .ok lo ∧
        reduce (roundingInterval mb (1 - (2 ^ (eb - 1) - 1) - mb) man.natAbs exp).2 = .ok hi ∧
        lo.val = (roundingInterval mb (1 - (2 ^ (eb - 1) - 1) - mb) man.natAbs exp).1.val ∧
        hi.val = (roundingInterval mb (1 - (2 ^ (eb - 1) - 1) - mb) man.natAbs exp).2.val ∧
        simplestFromFloat simplerSpec eb mb bits =
          .ok (some (some (mulSign s (decide (man < 0))))) ∧
        SimplestOfSet lo hi (decide (man.natAbs % 2 = 0)) (decide (man.natAbs % 2 = 0)) s)) :=
  simplestFromFloat_spec eb mb bits

-- 0x3dcccccd = 0.1f32 ↦ 1/10;  NaN ↦ None;  2^100 ↦ 2^100 − 2^75 (tie to the even mantissa)
example : simplestFromFloat simplerSpec 8 23 0x3dcccccd = .ok (some (some ⟨1, 10⟩)) := by decide
example : simplestFromFloat simplerSpec 8 23 0x7fc00000 = .ok (some none) := by decide
example : simplestFromFloat simplerSpec 8 23 0x71800000 =
    .ok (some (some ⟨2 ^ 100 - 2 ^ 75, 1⟩)) := by decide

-- ------------------------------------------------------------------ simplest_from_float (FBig)

/-- **each rounding mode of dashu-float is a window** (`Float.roundInt`, the definition
    of the modes in Model/Float/Spec.lean): a number of magnitude `y ≥ 0` and sign `neg` rounds to `±n` iff
    `n − dlo ≤ y ≤ n + dhi` for the window of (mode, sign) — toward zero `[n, n+1)`, away
    `(n−1, n]`, half-away `[n−½, n+½)`, half-even `[n−½, n+½]` with the ties iff `n` is even -/
theorem mode_is_window (m : FMode) (neg : Bool) (y : Rat) (hy : 0 ≤ y) (n : Nat) :
    Float.roundInt m (if neg then -y else y) = (if neg then -(n : Int) else (n : Int)) ↔
      InW (windowOf m neg) n y := by
  cases neg
  · simp only [Bool.false_eq_true, if_false]
    obtain ⟨r, hr, hin⟩ := roundInt_pos_sound m y hy
    constructor
    · intro h; rw [hr] at h
      have : r = n := by exact_mod_cast h
      rw [← this]; exact hin
    · intro h; rw [hr, InW.unique (windowOf_ok m false) hin h]
  · simp only [if_true]
    rw [roundInt_neg, windowOf_flip]
    obtain ⟨r, hr, hin⟩ := roundInt_pos_sound (flipMode m) y hy
    constructor
    · intro h; rw [hr] at h
      have : r = n := by omega
      rw [← this]; exact hin
    · intro h; rw [hr, InW.unique (windowOf_ok _ false) hin h]

/-- **the rounding set of an FBig value** (every base `b ≥ 2`, precision `p ≥ 1`, mode, `p`-digit
    significand `S`, exponent, sign): `x ≠ 0` rounds to `± S·b^e` at `p` digits (`RoundsTo`: binade
    `t` of `|x|`, quantum `b^(t−p)`, `Float.roundInt`) iff it has the float's sign and `|x|` lies in
    `[S·b^e − dlo·below, S·b^e + dhi·b^e]`, `below = b^e` — or `b^(e−1)` when `S = b^(p−1)` — with the
    window's inclusion flags.  This is the REQUIRED behaviour of `ErrorBounds`; the complement of
    its agreement with the code is the recorded finding. -/
theorem fbig_rounding_set_exact (m : FMode) (b p S : Nat) (hb : 2 ≤ b) (hp : 1 ≤ p)
    (hS1 : b ^ (p - 1) ≤ S) (hS2 : S < b ^ p) (e : Int) (neg : Bool) (x : Rat) (hx : x ≠ 0) :
    RoundsTo b m p x ((if neg then -(S : Rat) else (S : Rat)) * (b : Rat) ^ e) ↔
      ((x < 0 ↔ neg = true) ∧ FSet (windowOf m neg) b p S e |x|) :=
  fbig_rounding_set m b p S hb hp hS1 hS2 e neg x hx

/-- the integer table the model hands to `simplest_in` (`roundingSet Quirks.none`, units of
    `b^(e−1)/2`) is that set -/
theorem fbig_model_set_is_rounding_set (mode : RMode) (b p : Nat) (hb : 2 ≤ b) (neg : Bool)
    (S : Nat) (odd : Bool) (e : Int) (y : Rat) :
    let r := roundingSet Quirks.none mode b p neg S odd
    let sc : Rat := (b : Rat) ^ (e - 1) / 2
    ((r.1 : Rat) * sc ≤ y ∧ y ≤ (r.2.1 : Rat) * sc ∧ (y = (r.1 : Rat) * sc → r.2.2.1 = true) ∧
      (y = (r.2.1 : Rat) * sc → r.2.2.2 = true)) ↔ FSet (windowOf mode.toF neg) b p S e y :=
  modelSet_iff_FSet mode b p hb neg S odd e y

/-- **`simplest_from_float`, required behaviour, full statement** (every base `b ≥ 2`, mode,
    precision `p ≥ 1`): for a non-zero float `signif·b^exp` of at most `p` digits the result is a
    reduced fraction that rounds back to exactly that float, and every fraction that rounds to it
    is at most as simple.  (The code deviates through `ErrorBounds`: recorded finding; the driver
    reproduces the code from named deviations of this model.) -/
theorem simplest_from_fbig_exact (mode : RMode) (b : Nat) (hb : 2 ≤ b)
    (signif exp : Int) (p : Nat) (hs : signif ≠ 0) (hp : 1 ≤ p)
    (hdig : digitsB b (signif.natAbs + 1) signif.natAbs ≤ p) :
    ∃ r, simplestFromFBig Quirks.none simplerSpec mode b signif exp p = .ok (some r) ∧
      Reduced r ∧ RoundsTo b mode.toF p r.val ((signif : Rat) * (b : Rat) ^ exp) ∧
      ∀ (p' : Int) (s' : Nat), 0 < s' →
        RoundsTo b mode.toF p ((p' : Rat) / s') ((signif : Rat) * (b : Rat) ^ exp) →
        AsSimple r ⟨p', s'⟩ :=
  simplestFromFBig_exact mode b hb signif exp p hs hp hdig

-- non-vacuity: DBig 0.5 at precision 1, mode Zero: hypotheses hold and the result is 1/2;
-- 2e1 under HalfAway: 15
example : digitsB 10 (5 + 1) 5 ≤ 1 ∧
    simplestFromFBig Quirks.none simplerSpec .zero 10 5 (-1) 1 = .ok (some ⟨1, 2⟩) ∧
    simplestFromFBig Quirks.none simplerSpec .halfAway 10 2 1 1 = .ok (some ⟨15, 1⟩) := by
  decide

/-- **where the code's error bounds are the required ones** (complement of the recorded finding,
    as a theorem about the two settings of the deviation switches): for an EVEN base, a significand
    that is not a power of the base (`S ≠ b^(p−1)`: the spacing is the same on both sides), and — for
    `HalfEven` — a stored significand whose oddness coincides with the evenness of the padded one
    (`odd = (S even)`: precision larger than the digit count), the table the code uses
    (`Quirks.code`, proved equal to the regenerated `ErrorBounds` in `Props/C18Gen`) IS the rounding
    set (`Quirks.none`). -/
theorem code_set_is_rounding_set_on_class (mode : RMode) (b p : Nat) (neg : Bool) (S : Nat)
    (odd : Bool) (hb : b % 2 = 0) (hS : S ≠ b ^ (p - 1))
    (hpar : mode = .halfEven → odd = decide (S % 2 = 0)) :
    roundingSet Quirks.code mode b p neg S odd = roundingSet Quirks.none mode b p neg S odd := by
  have hhalf : (2 * (((b + 1) / 2 : Nat) : Int)) = ((2 * (b : Int)) / 2) := by omega
  cases mode <;>
    simp only [roundingSet, Quirks.code, Quirks.none, hS, false_and, and_false, not_true_eq_false,
      not_false_eq_true, and_true, if_false, if_true, hhalf, Bool.false_eq_true]
  · -- halfEven
    rw [hpar rfl]

/-- … hence on that class the code side of the model returns the optimal fraction: `simplestFromFBig`
    depends on the switches only through `roundingSet` when the precision is limited -/
theorem code_optimal_on_class (mode : RMode) (b : Nat) (hb : 2 ≤ b) (hb2 : b % 2 = 0)
    (signif exp : Int) (p : Nat) (hs : signif ≠ 0) (hp : 1 ≤ p)
    (hdig : digitsB b (signif.natAbs + 1) signif.natAbs ≤ p)
    (hS : signif.natAbs * b ^ (p - digitsB b (signif.natAbs + 1) signif.natAbs) ≠ b ^ (p - 1))
    (hpar : mode = .halfEven → decide (signif.natAbs % 2 = 1) =
      decide (signif.natAbs * b ^ (p - digitsB b (signif.natAbs + 1) signif.natAbs) % 2 = 0)) :
    simplestFromFBig Quirks.code simplerSpec mode b signif exp p =
      simplestFromFBig Quirks.none simplerSpec mode b signif exp p := by
  unfold simplestFromFBig
  simp only [if_neg hs, if_neg (by omega : ¬ p = 0), if_neg (by omega :
    ¬ digitsB b (signif.natAbs + 1) signif.natAbs > p)]
  rw [code_set_is_rounding_set_on_class mode b p _ _ _ hb2 hS hpar]

-- non-vacuity: DBig 1.25 at precision 4 under HalfEven (stored significand 125 odd, padded 1250 even)
example : (10 : Nat) % 2 = 0 ∧ digitsB 10 (125 + 1) 125 ≤ 4 ∧
    125 * 10 ^ (4 - digitsB 10 (125 + 1) 125) ≠ 10 ^ (4 - 1) ∧
    decide (125 % 2 = 1) = decide (125 * 10 ^ (4 - digitsB 10 (125 + 1) 125) % 2 = 0) ∧
    simplestFromFBig Quirks.code simplerSpec .halfEven 10 125 (-2) 4 = .ok (some ⟨5, 4⟩) := by
  decide

/-- value of a width of `errorBoundsFBig`: `w` units of `b^(e−1)/2` -/
theorem errWidth_val (b : Nat) (hb : 2 ≤ b) (e w : Int) :
    (⟨(scaleQ w b (e - 1)).num, (scaleQ w b (e - 1)).den * 2⟩ : Q).val =
      (w : Rat) * ((b : Rat) ^ (e - 1) / 2) :=
  (halfScale_val b hb e w).2

/-- **`ErrorBounds::error_bounds`, required behaviour** (`errorBoundsFBig Quirks.none`, the function the
    driver prints for op `eb.bounds`; every mode, base `b ≥ 2`, limited precision, float of at most `p`
    digits): `|f| − (width on the side towards zero)` and `|f| + (width on the side away from zero)`
    are exactly the two ends of the table `roundingSet Quirks.none`, with its inclusion flags — the set
    that `fbig_model_set_is_rounding_set` / `fbig_rounding_set_exact` prove to be the set of numbers
    rounding to `f`; for a negative float `L` and `R` (and the flags) change sides.  The code's tables
    differ from this on the recorded finding's class (`Props/C18Gen.error_bounds_model_is_tables`). -/
theorem error_bounds_required_is_rounding_set (mode : RMode) (b : Nat) (hb : 2 ≤ b)
    (signif exp : Int) (p : Nat) (hp : p ≠ 0)
    (hn : ¬ digitsB b (signif.natAbs + 1) signif.natAbs > p) :
    ∃ L R iL iR, errorBoundsFBig Quirks.none false mode b signif exp p = .ok (some (L, R, iL, iR)) ∧
      (let neg := decide (signif < 0)
       let S := signif.natAbs * b ^ (p - digitsB b (signif.natAbs + 1) signif.natAbs)
       let e : Int := exp - (p - digitsB b (signif.natAbs + 1) signif.natAbs : Nat)
       let r := roundingSet Quirks.none mode b p neg S (decide (signif.natAbs % 2 = 1))
       let sc : Rat := (b : Rat) ^ (e - 1) / 2
       let c : Rat := ((2 * b * S : Nat) : Rat) * sc
       if neg then (c - R.val = (r.1 : Rat) * sc ∧ c + L.val = (r.2.1 : Rat) * sc ∧
                    iR = r.2.2.1 ∧ iL = r.2.2.2)
       else (c - L.val = (r.1 : Rat) * sc ∧ c + R.val = (r.2.1 : Rat) * sc ∧
             iL = r.2.2.1 ∧ iR = r.2.2.2)) := by
  unfold errorBoundsFBig
  simp only [if_neg hp, if_neg hn]
  generalize signif.natAbs * b ^ (p - digitsB b (signif.natAbs + 1) signif.natAbs) = S
  generalize exp - ((p - digitsB b (signif.natAbs + 1) signif.natAbs : Nat) : Int) = e
  generalize decide (signif < 0) = neg
  generalize roundingSet Quirks.none mode b p neg S (decide (signif.natAbs % 2 = 1)) = r
  obtain ⟨loN, hiN, iLo, iHi⟩ := r
  -- in units of `sc`: the centre `2bS` minus the lower width and plus the upper width are the two ends of the table
  have hlo := errWidth_val b hb e (2 * b * S - loN)
  have hhi := errWidth_val b hb e (hiN - 2 * b * S)
  generalize (b : Rat) ^ (e - 1) / 2 = sc at hlo hhi ⊢
  have hlo' : ((2 * b * S : Nat) : Rat) * sc - ((2 * b * S - loN : Int) : Rat) * sc = loN * sc := by push_cast; ring
  have hhi' : ((2 * b * S : Nat) : Rat) * sc + ((hiN - 2 * b * S : Int) : Rat) * sc = hiN * sc := by push_cast; ring
  cases neg
  · exact ⟨_, _, _, _, rfl, hlo ▸ hlo', hhi ▸ hhi', rfl, rfl⟩
  · exact ⟨_, _, _, _, rfl, hlo ▸ hlo', hhi ▸ hhi', rfl, rfl⟩

-- non-vacuity: HalfAway, base 3, −1 at precision 2 (S = 3 = b^(p−1): finer spacing towards zero): L = 1/6, R = 1/18
example : (2 : Nat) ≠ 0 ∧ ¬ digitsB 3 (1 + 1) 1 > 2 ∧
    errorBoundsFBig Quirks.none false .halfAway 3 (-1) 0 2 = .ok (some (⟨3, 18⟩, ⟨1, 18⟩, false, true)) := by
  decide

/-- **`RBig::simplest_from_float`, special inputs** (the function the driver executes,
    `rbigSimplestFromFloat`; every mode, base, precision, and every setting of the deviation
    switches): `None` exactly for an infinite float (`Repr::is_infinite`: significand 0 and exponent
    ≠ 0); the float zero gives 0. -/
theorem simplest_from_fbig_none_iff_infinite (k : Quirks) (simpler : Q → Q → Bool) (mode : RMode)
    (b : Nat) (signif exp : Int) (p : Nat) :
    (rbigSimplestFromFloat k simpler mode b signif exp p = .ok (some none) ↔
      (signif = 0 ∧ exp ≠ 0)) ∧
    rbigSimplestFromFloat k simpler mode b 0 0 p = .ok (some (some Q.zero)) :=
  ⟨rbigSimplestFromFloat_none_iff k simpler mode b signif exp p,
   rbigSimplestFromFloat_zero k simpler mode b p⟩

/-- **unlimited precision (context precision 0) ⇒ the number itself**: for every base `b ≥ 2`,
    every mode, every non-zero float `signif·b^exp` and EVERY setting of the deviation switches (the
    required behaviour and the code alike: `simplest_from_float` returns the exact value before it
    asks `R::error_bounds`) the result is the reduced fraction of exactly that value — the only number
    that rounds to an exact float.  (Before the repair /repo 39e9a8a the code panicked under `Away`, `Up`,
    `Down`, and since /repo 164990d returned the float rounded to one digit under the other modes;
    witnesses corpus/C18/simplest_from_fbig_unlimited.case.) -/
theorem simplest_from_fbig_unlimited (k : Quirks) (simpler : Q → Q → Bool) (mode : RMode) (b : Nat)
    (hb : 2 ≤ b) (signif exp : Int) (hs : signif ≠ 0) :
    ∃ r, rbigSimplestFromFloat k simpler mode b signif exp 0 = .ok (some (some r)) ∧
      Reduced r ∧ r.val = (signif : Rat) * (b : Rat) ^ exp := by
  obtain ⟨hv, hd⟩ := scaleQ_val signif b hb exp
  obtain ⟨r, hr, hred, hval⟩ := reduce_spec (scaleQ signif b exp) hd
  refine ⟨r, ?_, hred, by rw [hval, hv]⟩
  have hinf : fbigIsInfinite signif exp = false := by simp [fbigIsInfinite, hs]
  unfold rbigSimplestFromFloat simplestFromFBig
  simp only [hinf, Bool.false_eq_true, if_false, if_neg hs, if_true, hr]
  rfl

/-- the driver's entry point on ordinary input is the finite body the main theorem is about -/
theorem simplest_from_fbig_entry (k : Quirks) (simpler : Q → Q → Bool) (mode : RMode)
    (b : Nat) (signif exp : Int) (p : Nat) (hs : signif ≠ 0) :
    rbigSimplestFromFloat k simpler mode b signif exp p =
      (simplestFromFBig k simpler mode b signif exp p).map (Option.map some) := by
  have hinf : fbigIsInfinite signif exp = false := by simp [fbigIsInfinite, hs]
  unfold rbigSimplestFromFloat
  simp [hinf]

-- +inf = (0, 1), −inf = (0, −1) ↦ None;  DBig 1.25 of unlimited precision ↦ 5/4 (mode Up, mode HalfEven; code = required)
example : rbigSimplestFromFloat Quirks.code simplerSpec .up 10 0 1 0 = .ok (some none) ∧
    rbigSimplestFromFloat Quirks.code simplerSpec .halfEven 2 0 (-1) 7 = .ok (some none) ∧
    rbigSimplestFromFloat Quirks.none simplerSpec .up 10 125 (-2) 0 = .ok (some (some ⟨5, 4⟩)) ∧
    rbigSimplestFromFloat Quirks.code simplerSpec .up 10 125 (-2) 0 = .ok (some (some ⟨5, 4⟩)) ∧
    rbigSimplestFromFloat Quirks.code simplerSpec .halfEven 10 125 (-2) 0 = .ok (some (some ⟨5, 4⟩)) := by
  decide

example : nextUpDown true ⟨853, 113⟩ 10 = .ok (some ⟨68, 9⟩) := by decide
example : nearest ⟨5, 2⟩ 1 = .ok (some (.inexact ⟨2, 1⟩ true)) := by decide

-- ------------------------------------------------------------------ non-vacuity: concrete values meeting the hypotheses

example : fareyNeighbors ⟨2, 7⟩ 3 = .ok (some (⟨0, 1⟩, ⟨1, 3⟩)) := by decide
example : SInv 1234 5678 1235 5679 ∧ sb 100 1234 5678 1235 5679 = some (5, 23) :=
  ⟨⟨by decide, by decide, by decide, by decide, by decide⟩, by decide⟩
example : (10 : Nat) ^ (1 - 1) ≤ 5 ∧ 5 < 10 ^ 1 := by decide
example : Reduced ⟨1, 3⟩ ∧ Reduced ⟨1, 2⟩ ∧ (0 : Int) < (⟨1, 3⟩ : Q).num ∧
    (⟨1, 3⟩ : Q).val < (⟨1, 2⟩ : Q).val := by
  refine ⟨by decide, by decide, by decide, ?_⟩; norm_num [Q.val_def]
example : InW wHalfEven 2 (5 / 2) ∧ ¬ InW wHalfEven 3 (5 / 2) := by
  constructor
  · refine ⟨by norm_num [wHalfEven], by norm_num [wHalfEven], fun _ => by decide, fun _ => by decide⟩
  · intro h; have := h.2.2.1 (by norm_num [wHalfEven]); simp [wHalfEven] at this

end Dashu.Props.C18
