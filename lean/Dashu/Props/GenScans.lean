import Dashu.Gen.BitScans
import Dashu.Proofs.Int.Bits
import Dashu.Proofs.Gen.MachInt
import Dashu.Props.GenMath
import Dashu.Props.GenBitsSmall
/-
  C09, Tie A: the word scans of `integer/src/bits.rs` as REGENERATED text (`Dashu/Gen/BitScans.lean`: the scan loops,
  CHECKED slice accesses, the all-ones early exit, the index arithmetic and `as usize` casts over checked machine
  integers) are EQUAL to the hand mirrors `tzLarge`, `toScanFixed`, `tzLargeShiftedByOne` of `Model/Int/Bits.lean`
  that the C09 driver executes — including WHEN they panic (`none` ⇔ the mirror's index panic).  After the scans, in the same
  way: `are_slice_low_bits_nonzero` and the `RefLarge` arms of `bit`, `bit_len`, `count_ones`, `count_zeros`,
  `is_power_of_two`, `trailing_ones_neg` = the heap arms of the hand model's `TRepr.*`.
-/
namespace Dashu.Props.GenScans
open Dashu.Model Dashu Dashu.GluePrelude Dashu.Gen.BitScans

/-- `Except` result seen as "value or panic" -/
def okOf {α} : Except PanicKind α → Option α
  | .ok a => some a
  | .error _ => none

theorem tzAux_zero (f : Nat) : tzAux f 0 = f := by
  induction f with
  | zero => rfl
  | succ f ih => simp [tzAux, ih]

theorem trailing_zeros_eq (bits x : Nat) : trailing_zeros bits x = tzWord bits x := by
  have h : ∀ b y, trailing_zeros b y = tzAux b y := by
    intro b
    induction b with
    | zero => intro y; rfl
    | succ b ih => intro y; simp [trailing_zeros, tzAux, ih]
  unfold tzWord
  by_cases hx : x = 0
  · subst hx; rw [if_pos rfl, h, tzAux_zero]
  · rw [if_neg hx, h]

theorem trailing_ones_eq (bits x : Nat) : trailing_ones bits x = toWord bits x := by
  induction bits generalizing x with
  | zero => rfl
  | succ b ih => simp [trailing_ones, toWord, ih]

theorem tzAux_le (f n : Nat) : tzAux f n ≤ f := by
  induction f generalizing n with
  | zero => simp [tzAux]
  | succ f ih =>
    unfold tzAux
    split
    · omega
    · have := ih (n / 2); omega

theorem tzWord_le (bits n : Nat) : tzWord bits n ≤ bits := by
  unfold tzWord; split
  · omega
  · exact tzAux_le bits n

theorem toWord_le (f n : Nat) : toWord f n ≤ f := by
  induction f generalizing n with
  | zero => simp [toWord]
  | succ f ih =>
    unfold toWord
    split
    · omega
    · have := ih (n / 2); omega

theorem scan_zero (ws : List Nat) (c : Nat) : scan ws c 0 = (ws.takeWhile (· == c)).length := by
  simp [scan]

theorem scan_one (w : Nat) (ws : List Nat) (c : Nat) : scan (w :: ws) c 1 = 1 + (ws.takeWhile (· == c)).length := by
  simp [scan]

theorem takeWhile_len_le (ws : List Nat) (c : Nat) : (ws.takeWhile (· == c)).length ≤ ws.length :=
  (List.takeWhile_sublist _).length_le

/-- the scan of zero words meets the recursion of `tzLarge`: either every word is zero (index panic on both sides)
    or the first non-zero word is found at the scanned index -/
theorem tz_scan (W : Nat) (ws : List Nat) :
    (tzLarge W ws = .error oob ∧ ws[(ws.takeWhile (· == 0)).length]? = none) ∨
    (∃ w, ws[(ws.takeWhile (· == 0)).length]? = some w ∧
      tzLarge W ws = .ok ((ws.takeWhile (· == 0)).length * W + tzWord W w)) := by
  induction ws with
  | nil => exact .inl ⟨rfl, rfl⟩
  | cons a as ih =>
    by_cases ha : a = 0
    · subst ha
      rw [List.takeWhile_cons_of_pos rfl, List.length_cons, List.getElem?_cons_succ, tzLarge, if_neg (by decide)]
      rcases ih with ⟨h1, h2⟩ | ⟨w, h1, h2⟩
      · exact .inl ⟨by rw [h1]; rfl, h2⟩
      · exact .inr ⟨w, h1, by rw [h2, Nat.succ_mul, Nat.add_right_comm]; rfl⟩
    · rw [List.takeWhile_cons_of_neg (by simpa using ha), tzLarge, if_pos ha]
      exact .inr ⟨a, rfl, by simp⟩

/-- **`trailing_zeros_large` as regenerated = the hand mirror `tzLarge`**, panic included (`none` ⇔ index out of
    bounds: every word zero), for every slice whose bit count fits `usize` -/
theorem gen_trailing_zeros_large (W U : Nat) (ws : List Nat) (hU : (ws.length + 1) * W < 2 ^ U) :
    trailing_zeros_large W U ws = okOf (tzLarge W ws) := by
  unfold trailing_zeros_large
  rw [scan_zero]
  rcases tz_scan W ws with ⟨h1, h2⟩ | ⟨w, h1, h2⟩
  · simp only [h1, index, h2, bind, Option.bind, okOf]
  · rw [Nat.add_mul, Nat.one_mul] at hU
    have hb := Nat.lt_of_le_of_lt
      (Nat.add_le_add (Nat.mul_le_mul_right W (takeWhile_len_le ws 0)) (tzWord_le W w)) hU
    simp only [h2, index, h1, bind, Option.bind, trailing_zeros_eq, okOf,
      MachInt.cast_ok (Nat.lt_of_le_of_lt (Nat.le_add_left _ _) hb), MachInt.mul_ok (Nat.lt_of_le_of_lt (Nat.le_add_right _ _) hb),
      MachInt.add_ok hb]

/-- the scan of all-ones words meets the recursion of `toScanFixed` -/
theorem to_scan (W : Nat) (ws : List Nat) :
    ((ws.takeWhile (· == 2 ^ W - 1)).length = ws.length ∧ toScanFixed W ws = ws.length * W) ∨
    ((ws.takeWhile (· == 2 ^ W - 1)).length ≠ ws.length ∧
      ∃ w, ws[(ws.takeWhile (· == 2 ^ W - 1)).length]? = some w ∧
        toScanFixed W ws = (ws.takeWhile (· == 2 ^ W - 1)).length * W + toWord W w) := by
  induction ws with
  | nil => exact .inl ⟨rfl, (Nat.zero_mul W).symm⟩
  | cons a as ih =>
    by_cases ha : a = 2 ^ W - 1
    · rw [List.takeWhile_cons_of_pos (by simpa using ha), List.length_cons, List.length_cons,
        List.getElem?_cons_succ, toScanFixed, if_neg (fun h => h ha)]
      rcases ih with ⟨h1, h2⟩ | ⟨h0, w, h1, h2⟩
      · exact .inl ⟨by rw [h1], by rw [h2, Nat.succ_mul]⟩
      · exact .inr ⟨by omega, w, h1, by rw [h2, Nat.succ_mul, Nat.add_right_comm]⟩
    · rw [List.takeWhile_cons_of_neg (by simpa using ha), toScanFixed, if_pos ha]
      exact .inr ⟨by simp, a, rfl, by simp⟩

/-- **`trailing_ones_large` as regenerated (the code as it is, fix 754b193) never panics and = the hand mirror `toScanFixed`**:
    the all-ones early exit is read from the source -/
theorem gen_trailing_ones_large (W U : Nat) (ws : List Nat) (hU : (ws.length + 1) * W < 2 ^ U) :
    trailing_ones_large W U ws = some (toScanFixed W ws) := by
  unfold trailing_ones_large
  rw [scan_zero, MachInt.maxVal]
  rw [Nat.add_mul, Nat.one_mul] at hU
  rcases to_scan W ws with ⟨h1, h2⟩ | ⟨h0, w, h1, h2⟩
  · simp only [h1, h2, beq_self_eq_true, if_true, MachInt.mul_ok (Nat.lt_of_le_of_lt (Nat.le_add_right _ _) hU)]
  · have hb := Nat.lt_of_le_of_lt
      (Nat.add_le_add (Nat.mul_le_mul_right W (takeWhile_len_le ws (2 ^ W - 1))) (toWord_le W w)) hU
    simp only [h2, beq_iff_eq, h0, if_false, index, h1, bind, Option.bind, trailing_ones_eq,
      MachInt.cast_ok (Nat.lt_of_le_of_lt (Nat.le_add_left _ _) hb), MachInt.mul_ok (Nat.lt_of_le_of_lt (Nat.le_add_right _ _) hb),
      MachInt.add_ok hb]

/-- **`trailing_zeros_large_shifted_by_one` as regenerated = the hand mirror `tzLargeShiftedByOne`**, panic included,
    on a non-empty slice (`debug_assert!(words.len() >= 2)`), `WORD_BITS ≥ 2` -/
theorem gen_trailing_zeros_large_shifted_by_one (W U : Nat) (w0 : Nat) (rest : List Nat) (hW : 2 ≤ W)
    (hU : (rest.length + 2) * W < 2 ^ U) :
    trailing_zeros_large_shifted_by_one W U (w0 :: rest) = okOf (tzLargeShiftedByOne W (w0 :: rest)) := by
  have hzb := tzWord_le W (w0 / 2)
  rw [Nat.add_mul] at hU
  unfold trailing_zeros_large_shifted_by_one tzLargeShiftedByOne
  rw [scan_one]
  simp only [index, List.getElem?_cons_zero, MachInt.shr_ok (show 1 < W by omega), trailing_zeros_eq,
    MachInt.cast_ok (show tzWord W (w0 / 2) < 2 ^ U by omega), MachInt.sub_ok (show 1 ≤ W by omega), List.getD_cons_zero, Nat.pow_one,
    List.drop_succ_cons, List.drop_zero, bind, Option.bind, pure]
  by_cases hz : tzWord W (w0 / 2) < W - 1
  · simp only [hz, decide_true, if_true, okOf]
  · simp only [hz, decide_false, if_false, Nat.add_comm 1, List.getElem?_cons_succ, Bool.false_eq_true]
    rcases tz_scan W rest with ⟨h1, h2⟩ | ⟨w, h1, h2⟩
    · simp only [h1, h2, okOf, Except.map]
    · have ht := tzWord_le W w
      have hk := Nat.mul_le_mul_right W (takeWhile_len_le rest 0)
      generalize (rest.takeWhile (· == 0)).length = k at h1 h2 hk ⊢
      simp only [h1, h2, okOf, Except.map, MachInt.cast_ok (show tzWord W w < 2 ^ U by omega), MachInt.sub_ok (Nat.le_add_left 1 k),
        Nat.add_sub_cancel, MachInt.mul_ok (show k * W < 2 ^ U by omega), MachInt.add_ok (show k * W + tzWord W w < 2 ^ U by omega),
        MachInt.add_ok (show k * W + tzWord W w + tzWord W (w0 / 2) < 2 ^ U by omega),
        MachInt.sub_ok (show 1 ≤ k * W + tzWord W w + tzWord W (w0 / 2) by omega)]

/-- on an empty slice `words[0]` is out of bounds -/
theorem gen_trailing_zeros_large_shifted_by_one_empty (W U : Nat) :
    trailing_zeros_large_shifted_by_one W U [] = none := rfl

/-- **`are_slice_low_bits_nonzero` as regenerated = the hand mirror `areSliceLowBitsNonzero`** (the floor correction of
    `IBig >> n` on a heap magnitude): the `n_words >= len` exit, the scan of the whole words below, the CHECKED access of
    `words[n_words]` (in bounds on this branch) and the mask `ones_word(n % WORD_BITS)`; every slice, every `n` -/
theorem gen_are_slice_low_bits_nonzero (W U n : Nat) (ws : List Nat) (hW : 1 ≤ W) (h32 : W ≤ 2 ^ 32) :
    are_slice_low_bits_nonzero W U ws n = some (areSliceLowBitsNonzero W ws n) := by
  have hW0 : W ≠ 0 := by omega
  have hm : n % W < W := Nat.mod_lt n (by omega)
  unfold are_slice_low_bits_nonzero areSliceLowBitsNonzero
  simp only [MachInt.div_ok hW0, bind, Option.bind, pure]
  by_cases hc : n / W ≥ ws.length
  · simp [hc]
  · have hlt : n / W < ws.length := by omega
    have hidx : ws[n / W]? = some (ws.getD (n / W) 0) := by
      rw [List.getD_eq_getElem?_getD, List.getElem?_eq_getElem hlt]; rfl
    by_cases ha : (ws.take (n / W)).any (· != 0) = true
    · simp [hc, MachInt.rem_ok hW0, ha]
    · have ha' : (ws.take (n / W)).any (· != 0) = false := by simpa using ha
      simp only [hc, decide_false, if_false, MachInt.rem_ok hW0, MachInt.cast_mod hW h32, ha', Bool.false_eq_true, index, hidx,
        (Props.GenMath.gen_ones_word W (n % W) (Nat.le_of_lt hm)).1, Bool.false_or]

-- non-vacuity: a 4-word slice with two low zero words / two low all-ones words / `1` followed by a zero word
example : trailing_zeros_large 64 64 [0, 0, 2 ^ 63, 5] = some 191 ∧ tzLarge 64 [0, 0, 2 ^ 63, 5] = .ok 191 ∧
    trailing_ones_large 64 64 [2 ^ 64 - 1, 2 ^ 64 - 1, 7, 1] = some 131 ∧
    trailing_ones_large 64 64 [2 ^ 64 - 1, 2 ^ 64 - 1, 2 ^ 64 - 1] = some 192 ∧
    trailing_zeros_large_shifted_by_one 64 64 [1, 0, 4] = some 129 ∧ tzLargeShiftedByOne 64 [1, 0, 4] = .ok 129 ∧
    trailing_zeros_large 64 64 [0, 0, 0] = none := by
  refine ⟨by decide +kernel, by decide +kernel, by decide +kernel, by decide +kernel, by decide +kernel, by decide +kernel, by decide +kernel⟩

-- `are_slice_low_bits_nonzero`: only a low word set / only a bit inside the cut word / nothing below the cut / cut beyond the slice
example : are_slice_low_bits_nonzero 64 64 [1, 0, 0, 8] 130 = some true ∧ are_slice_low_bits_nonzero 64 64 [0, 0, 2, 8] 130 = some true ∧
    are_slice_low_bits_nonzero 64 64 [0, 0, 4, 8] 130 = some false ∧ are_slice_low_bits_nonzero 64 64 [0, 0, 0] (2 ^ 64 - 1) = some true := by
  refine ⟨by decide +kernel, by decide +kernel, by decide +kernel, by decide +kernel⟩

/-- **`TypedReprRef::bit`, arm `RefLarge`** (`idx < len && words[idx] & 1 << (n % W) != 0`: the slice access only under its
    guard, checked) = the heap arm of the hand model's `TRepr.bit`; every slice, every `n` -/
theorem gen_bit_large (W U n : Nat) (ws : List Nat) (hW : 1 ≤ W) :
    bit_large W U ws n = some ((TRepr.large ws).bit W n) := by
  have hW0 : W ≠ 0 := by omega
  unfold bit_large TRepr.bit
  simp only [MachInt.div_ok hW0, bind, Option.bind, pure]
  by_cases hc : n / W < ws.length
  · have hidx : ws[n / W]? = some (ws.getD (n / W) 0) := by
      rw [List.getD_eq_getElem?_getD, List.getElem?_eq_getElem hc]; rfl
    simp only [hc, decide_true, if_true, index, hidx, MachInt.rem_ok hW0, MachInt.one_shl (Nat.mod_lt n hW),
      Props.GenBitsSmall.and_two_pow_ne_zero, Bool.true_and]
  · simp [hc]

/-- the top word of a non-empty slice, as `getLast?` gives it -/
theorem getLast?_of_ne_nil {ws : List Nat} (hne : ws ≠ []) : ws.getLast? = some (ws.getLastD 0) := by
  rw [List.getLastD_eq_getLast?, List.getLast?_eq_some_getLast hne]; rfl

/-- **`TypedReprRef::bit_len`, arm `RefLarge`** (`len * WORD_BITS - last.leading_zeros()`) = the heap arm of `TRepr.bitLen`,
    on a non-empty slice whose bit count fits `usize` -/
theorem gen_bit_len_large (W U : Nat) (ws : List Nat) (hne : ws ≠ []) (hU : ws.length * W < 2 ^ U) :
    bit_len_large W U ws = some ((TRepr.large ws).bitLen W) := by
  have hWle : W ≤ ws.length * W := Nat.le_mul_of_pos_left W (List.length_pos_iff.mpr hne)
  have hlast := getLast?_of_ne_nil hne
  have hlz : W - bitLenNat (ws.getLastD 0) < 2 ^ U := by omega
  have hsub : W - bitLenNat (ws.getLastD 0) ≤ ws.length * W := by omega
  unfold bit_len_large TRepr.bitLen
  simp only [MachInt.mul_ok hU, hlast, bind, Option.bind, MachInt.leading_zeros, Props.GenMath.bitLength_eq,
    MachInt.cast_ok hlz, MachInt.sub_ok hsub]

example : bit_large 64 64 [1, 2, 3] 65 = some true ∧ bit_large 64 64 [1, 2, 3] 64 = some false ∧
    bit_large 64 64 [1, 2, 3] (2 ^ 64 - 1) = some false ∧ bit_len_large 64 64 [1, 2, 3] = some 130 ∧ bit_len_large 64 64 [] = none := by
  refine ⟨by decide +kernel, by decide +kernel, by decide +kernel, by decide +kernel, by decide +kernel⟩

theorem count_ones_eq (bits x : Nat) : count_ones bits x = popWord bits x := by
  induction bits generalizing x with
  | zero => rfl
  | succ b ih => simp [count_ones, popWord, ih]

/-- a sum of per-word counts bounded by `W` each does not overflow when `len * W` fits -/
theorem sum_checked_eq (U W : Nat) (f : Nat → Nat) (hf : ∀ w, f w ≤ W) (ws : List Nat) (hU : ws.length * W < 2 ^ U) :
    sum_checked U f ws = some ((ws.map f).sum) ∧ (ws.map f).sum ≤ ws.length * W := by
  induction ws with
  | nil => exact ⟨rfl, by simp⟩
  | cons a as ih =>
    have hlen : (a :: as).length * W = as.length * W + W := by simp [Nat.add_mul]
    have ⟨e, hb⟩ := ih (by omega)
    have hfa := hf a
    have hlt : f a + (as.map f).sum < 2 ^ U := by omega
    refine ⟨?_, ?_⟩
    · simp [sum_checked, e, MachInt.add_ok hlt]
    · simp only [List.map_cons, List.sum_cons]; omega

/-- **`TypedReprRef::count_ones`, arm `RefLarge`** (checked `usize` sum of the per-word counts) = the heap arm of `TRepr.countOnes` -/
theorem gen_count_ones_large (W U : Nat) (ws : List Nat) (hU : ws.length * W < 2 ^ U) :
    count_ones_large W U ws = some ((TRepr.large ws).countOnes W) := by
  have h := (sum_checked_eq U W (count_ones W) (fun w => by rw [count_ones_eq]; exact popWord_le W w) ws hU).1
  have e : count_ones W = popWord W := funext (count_ones_eq W)
  rw [e] at h
  simp [count_ones_large, TRepr.countOnes, h, e]

/-- **`TypedReprRef::count_zeros`, arm `RefLarge`** (always `Some`: zero bits of all words minus the leading zeros of the top
    word) = the heap arm of `TRepr.countZeros`, on a non-empty slice — PARTIAL: unless the checked subtraction underflows.
    The FULL statement (the left disjunct alone, for a slice of words) is `gen_count_zeros_large` below: popcount(top) ≤ bit_len(top),
    hence the zero bits of all words ≥ the leading zeros of the top word and the subtraction never underflows. -/
theorem gen_count_zeros_large_partial (W U : Nat) (ws : List Nat) (hne : ws ≠ []) (hU : ws.length * W < 2 ^ U) :
    (count_zeros_large W U ws).map some = some ((TRepr.large ws).countZeros W) ∨
    -- the subtraction of the leading zeros would underflow only if the top word had more zero bits than all words together
    (ws.map (fun w => W - popWord W w)).sum < W - bitLenNat (ws.getLastD 0) := by
  have hWle : W ≤ ws.length * W := Nat.le_mul_of_pos_left W (List.length_pos_iff.mpr hne)
  have hlast := getLast?_of_ne_nil hne
  have hs := (sum_checked_eq U W (count_zeros W) (fun w => by unfold count_zeros; omega) ws hU).1
  have e : count_zeros W = fun w => W - popWord W w := funext (fun w => by unfold count_zeros; rw [count_ones_eq])
  have hlz : W - bitLenNat (ws.getLastD 0) < 2 ^ U := by omega
  by_cases hsub : W - bitLenNat (ws.getLastD 0) ≤ (ws.map (fun w => W - popWord W w)).sum
  · left
    unfold count_zeros_large TRepr.countZeros
    rw [e] at hs
    simp only [e, hs, hlast, bind, Option.bind, MachInt.leading_zeros, Props.GenMath.bitLength_eq, MachInt.cast_ok hlz,
      MachInt.sub_ok hsub, Option.map]
  · right; omega

theorem is_power_of_two_eq (x : Nat) : is_power_of_two x = isPow2Nat x := rfl

/-- **`TypedReprRef::is_power_of_two`, arm `RefLarge`** (`words[..len-1]` all zero `&&` the top word a power of two; `len - 1`
    checked) = the heap arm of `TRepr.isPow2`, on a non-empty slice -/
theorem gen_is_power_of_two_large (W U : Nat) (ws : List Nat) (hne : ws ≠ []) :
    is_power_of_two_large W U ws = some ((TRepr.large ws).isPow2 W) := by
  have hlen : 1 ≤ ws.length := List.length_pos_iff.mpr hne
  have hlast := getLast?_of_ne_nil hne
  have hle : ws.length - 1 ≤ ws.length := by omega
  have hd : ws.take (ws.length - 1) = ws.dropLast := by rw [List.dropLast_eq_take]
  unfold is_power_of_two_large TRepr.isPow2
  simp only [MachInt.sub_ok hlen, hle, hd, hlast, bind, Option.bind, pure, is_power_of_two_eq]
  cases ws.dropLast.all (· == 0) <;> simp

example : count_ones_large 64 64 [3, 0, 2 ^ 64 - 1] = some 66 ∧ count_zeros_large 64 64 [3, 0, 5] = some (62 + 64 + 1) ∧
    is_power_of_two_large 64 64 [0, 0, 4] = some true ∧ is_power_of_two_large 64 64 [0, 0, 6] = some false ∧
    is_power_of_two_large 64 64 [1, 0, 4] = some false ∧ is_power_of_two_large 64 64 [] = none := by
  refine ⟨by decide +kernel, by decide +kernel, by decide +kernel, by decide +kernel, by decide +kernel, by decide +kernel⟩

theorem last_le_sum (f : Nat → Nat) (ws : List Nat) (hne : ws ≠ []) : f (ws.getLastD 0) ≤ (ws.map f).sum := by
  induction ws with
  | nil => exact absurd rfl hne
  | cons a as ih =>
    cases as with
    | nil => simp [List.getLastD]
    | cons b t =>
      have h := ih (by simp)
      have e : (a :: b :: t).getLastD 0 = (b :: t).getLastD 0 := by simp [List.getLastD]
      rw [e]
      simp only [List.map_cons, List.sum_cons] at h ⊢
      omega

/-- **`TypedReprRef::count_zeros`, arm `RefLarge`, FULL**: on a non-empty slice of words the checked subtraction never underflows
    (popcount of the top word ≤ its bit length) and the regenerated arm = the heap arm of `TRepr.countZeros` -/
theorem gen_count_zeros_large (W U : Nat) (ws : List Nat) (hne : ws ≠ []) (hw : IsWords W ws) (hU : ws.length * W < 2 ^ U) :
    (count_zeros_large W U ws).map some = some ((TRepr.large ws).countZeros W) := by
  rcases gen_count_zeros_large_partial W U ws hne hU with h | h
  · exact h
  · exfalso
    have hmem : ws.getLastD 0 ∈ ws := List.mem_of_getLast? (getLast?_of_ne_nil hne)
    have hlt : ws.getLastD 0 < 2 ^ W := hw _ hmem
    have h1 := last_le_sum (fun w => W - popWord W w) ws hne
    have h2 : popWord W (ws.getLastD 0) ≤ bitLenNat (ws.getLastD 0) := by
      rw [popWord_eq_popNat W _ hlt]; exact popNat_le_bitLen _
    omega

-- ---------------------------------------------------------------- `TypedReprRef::trailing_ones_neg`, arm `RefLarge`

/-- the scan result is at most the bit length of the slice -/
theorem tzLarge_le (W : Nat) (ws : List Nat) (t : Nat) (h : tzLarge W ws = .ok t) : t ≤ ws.length * W := by
  rcases tz_scan W ws with ⟨h1, _⟩ | ⟨w, h1, h2⟩
  · rw [h1] at h; cases h
  · -- the word found lies inside the slice, and contributes at most `W`
    have hk : _ + 1 ≤ ws.length := (List.getElem?_eq_some_iff.mp h1).1
    have hm := Nat.mul_le_mul_right W hk
    have ht := tzWord_le W w
    rw [h2] at h
    cases h
    rw [Nat.succ_mul] at hm
    omega

/-- the shifted scan result + 1 is at most the bit length of the slice (so the `+ 1` of `trailing_ones_neg` cannot overflow) -/
theorem tzLargeShiftedByOne_succ_le (W : Nat) (hW : 2 ≤ W) (w0 : Nat) (rest : List Nat) (t : Nat)
    (h : tzLargeShiftedByOne W (w0 :: rest) = .ok t) : t + 1 ≤ (rest.length + 1) * W := by
  unfold tzLargeShiftedByOne at h
  simp only [List.getD_cons_zero, List.drop_succ_cons, List.drop_zero] at h
  have hz := tzWord_le W (w0 / 2)
  rw [Nat.succ_mul]
  split at h
  · cases h; omega
  · cases h' : tzLarge W rest with
    | error e => rw [h'] at h; cases h
    | ok t' =>
      rw [h'] at h
      obtain rfl : t' + tzWord W (w0 / 2) - 1 = t := Except.ok.inj h
      have := tzLarge_le W rest t' h'
      omega

/-- **`TypedReprRef::trailing_ones_neg`, arm `RefLarge`** (trailing ones of `-x` for a heap magnitude: `IBig::trailing_ones` of a
    negative value) as regenerated = the heap arm of the hand model's `TRepr.trailingOnesNeg`, panic included: the CHECKED
    `words[0]`, the parity test, the regenerated shifted scan, and the `+ 1`, which never overflows -/
theorem gen_trailing_ones_neg_large (W U : Nat) (w0 : Nat) (rest : List Nat) (hW : 2 ≤ W)
    (hU : (rest.length + 2) * W < 2 ^ U) :
    (trailing_ones_neg_large W U (w0 :: rest)).map some = okOf ((TRepr.large (w0 :: rest)).trailingOnesNeg W) := by
  unfold trailing_ones_neg_large TRepr.trailingOnesNeg
  have hidx : index (w0 :: rest) 0 = some w0 := rfl
  have hpar : ((w0 &&& 1) == 0) = decide (w0 % 2 = 0) := by
    rw [Nat.and_one_is_mod]; by_cases h : w0 % 2 = 0 <;> simp [h]
  simp only [hidx, bind, Option.bind, hpar, List.getD_cons_zero]
  by_cases h0 : w0 % 2 = 0
  · simp [h0, okOf, pure]
  · simp only [h0, decide_false, Bool.false_eq_true, if_false]
    rw [gen_trailing_zeros_large_shifted_by_one W U w0 rest hW hU]
    cases h' : tzLargeShiftedByOne W (w0 :: rest) with
    | error e => simp [okOf, Except.map]
    | ok t =>
      have hb := tzLargeShiftedByOne_succ_le W hW w0 rest t h'
      rw [Nat.succ_mul] at hU
      simp only [okOf, MachInt.add_ok (show t + 1 < 2 ^ U by omega), Option.map, Except.map]

/-- on an empty slice `words[0]` is out of bounds -/
theorem gen_trailing_ones_neg_large_empty (W U : Nat) : trailing_ones_neg_large W U [] = none := rfl

-- non-vacuity (64-bit words): even low word; odd low word with the scan ending inside word 0; scan running into word 2
example : trailing_ones_neg_large 64 64 [6, 0, 1] = some 0 ∧ trailing_ones_neg_large 64 64 [5, 0, 1] = some 2 ∧
    trailing_ones_neg_large 64 64 [1, 0, 8] = some 131 := by
  refine ⟨by decide +kernel, by decide +kernel, by decide +kernel⟩

end Dashu.Props.GenScans
