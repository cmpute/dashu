import Dashu.Props.C18
import Dashu.Gen.ErrorBounds
/-
  C18, Tie A: the part of the hand model of `RBig::simplest_from_float` that mirrors the CODE
  (`Quirks.code`: what float/src/round.rs `ErrorBounds` returns today, defects included) is proved
  equal to the decision tables REGENERATED from the source on every run
  (`Dashu.Gen.ErrorBounds`, vlib/extract_errorbounds.py).  A change of any `impl ErrorBounds for
  mode::X`, of the half-ulp formula `(B + 1) / 2`, or of the body of `simplest_from_float` changes
  the regenerated text and breaks a theorem of this file (or the extraction fails closed) — in
  particular when proposed_fixes/fbig-error-bounds.diff is applied, which is the moment to switch the
  corresponding `Quirks` off in `Driver/Ratio.lean activeQuirks`.
-/
namespace Dashu.Props.C18Gen
open Dashu Dashu.Model Dashu.Model.Ratio Dashu.Gen.ErrorBounds

/-- the regenerated `error_bounds` of a mode -/
def genBounds : RMode → Bool → Bool → Bool → Bool → Width × Width × Bool × Bool
  | .zero => error_bounds_Zero
  | .away => error_bounds_Away
  | .up => error_bounds_Up
  | .down => error_bounds_Down
  | .halfAway => error_bounds_HalfAway
  | .halfEven => error_bounds_HalfEven

/-- a width in the model's unit `b^(e−1)/2`, where `f.ulp() = b^e` and
    `half_ulp = half_ulp_signif b · b^(e−1)` -/
def widthUnits (b : Nat) : Width → Int
  | .zero => 0
  | .ulp => 2 * b
  | .halfUlp => 2 * (half_ulp_signif b : Nat)

/-- the leaf mentions `f.ulp()` (directly or through `half_ulp`): it was evaluated on the way -/
def usesUlp (t : Width × Width × Bool × Bool) : Bool :=
  decide (t.1 ≠ .zero) || decide (t.2.1 ≠ .zero)

/-- the interval of MAGNITUDES `[|f| − lo, |f| + hi]` that the signed interval `[f − L, f + R]` is:
    for a negative float the two sides (and their inclusion flags) swap -/
def magnitudeSet (b : Nat) (c : Int) (neg : Bool) (t : Width × Width × Bool × Bool) :
    Int × Int × Bool × Bool :=
  if neg then (c - widthUnits b t.2.1, c + widthUnits b t.1, t.2.2.2, t.2.2.1)
  else (c - widthUnits b t.1, c + widthUnits b t.2.1, t.2.2.1, t.2.2.2)

/-- the regenerated half-ulp significand is `⌈B/2⌉` (proved by `omega`, so that an equivalent way of
    writing the formula in the source — `(1 + B) / 2`, `B / 2 + B % 2` — still checks) -/
theorem half_ulp_signif_eq (b : Nat) : half_ulp_signif b = (b + 1) / 2 := by
  unfold half_ulp_signif; omega

/-- **the code's rounding set is the regenerated `error_bounds`** (every mode, base, precision,
    sign, significand, parity; finite non-zero float of limited precision): the table
    `roundingSet Quirks.code` the driver uses to reproduce the code is `[f − L, f + R]` with
    `(L, R, incl_L, incl_R)` read from float/src/round.rs, in units of `b^(e−1)/2`. -/
theorem code_rounding_set_is_error_bounds (mode : RMode) (b p : Nat) (neg : Bool) (S : Nat)
    (odd : Bool) :
    roundingSet Quirks.code mode b p neg S odd =
      magnitudeSet b (2 * b * S) neg (genBounds mode false false neg odd) := by
  cases mode <;> cases neg <;>
    simp [roundingSet, Quirks.code, magnitudeSet, genBounds, widthUnits, half_ulp_signif_eq,
      error_bounds_Zero, error_bounds_Away, error_bounds_Up, error_bounds_Down,
      error_bounds_HalfAway, error_bounds_HalfEven]

/-- the regenerated tables at unlimited precision (`prec0`), non-zero float: `Zero`, `HalfAway`,
    `HalfEven` return `(0, 0, true, true)` as the trait documents; `Away`, `Up`, `Down` evaluate
    `f.ulp()`, which panics (a defect of those `impl`s against the trait documentation; since /repo 39e9a8a
    not reachable through `simplest_from_float`, see `entry_is_skeleton`) -/
theorem error_bounds_unlimited (mode : RMode) (neg odd : Bool) :
    (usesUlp (genBounds mode true false neg odd) = true ↔
      (mode = .away ∨ mode = .up ∨ mode = .down)) ∧
    (usesUlp (genBounds mode true false neg odd) = false →
      genBounds mode true false neg odd = (.zero, .zero, true, true)) := by
  cases mode <;> cases neg <;>
    simp [usesUlp, genBounds, error_bounds_Zero, error_bounds_Away, error_bounds_Up,
      error_bounds_Down, error_bounds_HalfAway, error_bounds_HalfEven]

/-- **the early returns of `simplest_from_float`** (regenerated skeleton): infinite ⇒ `None`,
    zero ⇒ `Some(ZERO)`, unlimited precision ⇒ the exact value `Self::try_from(f.clone())` (the reduced
    fraction of `signif · b^exp`) WITHOUT asking `R::error_bounds` — so neither the `f.ulp()` panic of
    `ErrorBounds for Away/Up/Down` (`error_bounds_unlimited`) nor the rounding of `f ± 0` to
    `Context::max(0, 0 + 1)` digits can be reached —, otherwise the interval path.  If the early
    return for `f.precision() == 0` disappears from the source the regenerated skeleton has no path 3
    and this theorem stops checking. -/
theorem entry_is_skeleton (k : Quirks) (simpler : Q → Q → Bool) (mode : RMode) (b : Nat)
    (signif exp : Int) (p : Nat) :
    rbigSimplestFromFloat k simpler mode b signif exp p =
      match simplest_from_float_path (fbigIsInfinite signif exp) (signif == 0 && exp == 0)
          (p == 0) with
      | 0 => .ok (some none)
      | 1 => .ok (some (some Q.zero))
      | 3 => (reduce (scaleQ signif b exp)).map (fun r => some (some r))
      | _ => (simplestFromFBig k simpler mode b signif exp p).map (Option.map some) := by
  unfold rbigSimplestFromFloat simplest_from_float_path fbigIsInfinite
  by_cases hs : signif = 0
  · subst hs
    by_cases he : exp = 0
    · subst he; simp [simplestFromFBig, Except.map]
    · simp [he]
  · by_cases hp : p = 0
    · subst hp
      have h1 : (signif == 0) = false := by simp [hs]
      have h0 : simplestFromFBig k simpler mode b signif exp 0 =
          (reduce (scaleQ signif b exp)).map some := by
        unfold simplestFromFBig
        simp only [if_neg hs, if_true]
      rw [h0]
      simp only [h1, Bool.false_and, Bool.false_eq_true, if_false, beq_self_eq_true, if_true]
      cases reduce (scaleQ signif b exp) <;> rfl
    · simp [hs, hp]

/-- **the regenerated skeleton returns the exact value at unlimited precision** (path 3, for a finite
    non-zero float), and that is what the model does there for every mode and every switch setting.
    The first conjunct is false for a `simplest_from_float` without the early return
    `if f.precision() == 0 { return Some(Self::try_from(f.clone()).unwrap()) }` (the /repo HEAD 164990d
    text, whose result at precision 0 was the float rounded to one digit, or a panic). -/
theorem unlimited_path_is_exact (k : Quirks) (simpler : Q → Q → Bool) (mode : RMode) (b : Nat)
    (signif exp : Int) (hs : signif ≠ 0) :
    simplest_from_float_path false false true = 3 ∧
    rbigSimplestFromFloat k simpler mode b signif exp 0 =
      (reduce (scaleQ signif b exp)).map (fun r => some (some r)) := by
  refine ⟨rfl, ?_⟩
  have h := entry_is_skeleton k simpler mode b signif exp 0
  have h1 : (signif == 0) = false := by simp [hs]
  have hinf : fbigIsInfinite signif exp = false := by simp [fbigIsInfinite, hs]
  rw [h, hinf, h1]
  rfl

-- ------------------------------------------------------------------ error_bounds called directly (op `eb.bounds`)

/-- a width in units of `b^(e−1)/2` as an exact value (what the driver prints after `reduce`) -/
def widthQ (b : Nat) (e : Int) (w : Int) : Q :=
  ⟨(scaleQ w b (e - 1)).num, (scaleQ w b (e - 1)).den * 2⟩

/-- **`error_bounds` as driven (`errorBoundsFBig`, code side) IS the regenerated table**, limited
    precision, every mode / base / float: `L` and `R` are the widths the table of float/src/round.rs
    names (`ZERO`, `f.ulp()`, `half_ulp`), the flags are the table's flags — for positive AND negative
    floats (the magnitude orientation of `roundingSet` is undone exactly). -/
theorem error_bounds_model_is_tables (mode : RMode) (b : Nat) (signif exp : Int) (p : Nat)
    (hp : p ≠ 0) (hn : ¬ digitsB b (signif.natAbs + 1) signif.natAbs > p) :
    errorBoundsFBig Quirks.code true mode b signif exp p =
      (let t := genBounds mode false false (decide (signif < 0)) (decide (signif.natAbs % 2 = 1))
       let e : Int := exp - (p - digitsB b (signif.natAbs + 1) signif.natAbs : Nat)
       .ok (some (widthQ b e (widthUnits b t.1), widthQ b e (widthUnits b t.2.1), t.2.2.1, t.2.2.2))) := by
  unfold errorBoundsFBig
  simp only [if_neg hp, if_neg hn, code_rounding_set_is_error_bounds, magnitudeSet, widthQ]
  by_cases hneg : signif < 0
  · simp only [hneg, decide_true, if_true, sub_sub_cancel, add_sub_cancel_left]
  · simp only [hneg, decide_false, Bool.false_eq_true, if_false, sub_sub_cancel, add_sub_cancel_left]

/-- … and at unlimited precision: a panic iff the regenerated table evaluates `f.ulp()`
    (`Away`, `Up`, `Down`: recorded finding), else `(ZERO, ZERO, true, true)`; the REQUIRED result is
    `(ZERO, ZERO, true, true)` for every mode, as the trait documents. -/
theorem error_bounds_model_unlimited (mode : RMode) (b : Nat) (signif exp : Int) (odd : Bool) :
    errorBoundsFBig Quirks.code true mode b signif exp 0 =
      (if usesUlp (genBounds mode true false (decide (signif < 0)) odd) then
        .error .unlimitedPrecision
      else .ok (some (Q.zero, Q.zero, true, true))) ∧
    errorBoundsFBig Quirks.none false mode b signif exp 0 = .ok (some (Q.zero, Q.zero, true, true)) := by
  unfold errorBoundsFBig
  simp only [if_true, true_and, Bool.false_eq_true, false_and, if_false, and_true]
  have h := (error_bounds_unlimited mode (decide (signif < 0)) odd).1
  by_cases hm : mode = .away ∨ mode = .up ∨ mode = .down
  · rw [if_pos hm, if_pos (h.2 hm)]
  · rw [if_neg hm, if_neg (fun hu => hm (h.1 hu))]

-- non-vacuity: HalfAway, base 3, the float −1 at precision 2 (the `eb.bounds` witness of corpus/C18)
example : ¬ digitsB 3 (1 + 1) 1 > 2 ∧
    errorBoundsFBig Quirks.code true .halfAway 3 (-1) 0 2 = .ok (some (⟨4, 18⟩, ⟨4, 18⟩, false, true)) ∧
    errorBoundsFBig Quirks.none false .halfAway 3 (-1) 0 2 = .ok (some (⟨3, 18⟩, ⟨1, 18⟩, false, true)) := by
  decide

/-- **the end-point selection** of the model (`pickSimplest`) is the regenerated one: left first,
    then right, each only if included and simpler -/
theorem pick_is_skeleton (simpler : Q → Q → Bool) (lo hi : Q) (inclLo inclHi : Bool) :
    pickSimplest simpler lo hi inclLo inclHi =
      (do match ← simplestIn lo hi with
          | none => pure none
          | some s => pure (some (simplest_from_float_pick simpler lo hi s inclLo inclHi))) := by
  unfold pickSimplest simplest_from_float_pick
  cases hsi : simplestIn lo hi with
  | error e => rfl
  | ok o =>
    cases o with
    | none => rfl
    | some s =>
      simp only [bind, Except.bind, pure, Except.pure]
      cases inclLo <;> cases inclHi <;> cases h1 : simpler lo s <;> simp [h1]

-- ------------------------------------------------------------------ impl_simplest_from_float! (f32 / f64)

open Dashu.Gen.SimplestFromFloat in
/-- **the rounding interval of `simplest_from_f32/f64` is the regenerated one** (every mantissa
    width `mb`, least exponent, magnitude, exponent): `roundingInterval` — about which
    `Props/C18Link.rounding_set_is_preimage` proves that it is the exact preimage of the float — is
    `(center − below, center + above) << shift` over `1 << den_shift` with the numbers read from the
    macro body in rational/src/simplify.rs (`MANTISSA_DIGITS = mb + 1`). -/
theorem rounding_interval_is_macro (mb : Nat) (minExp : Int) (m : Nat) (exp : Int) :
    roundingInterval mb minExp m exp =
      (⟨(center m - below (mb + 1) minExp m exp) * 2 ^ (shifts exp).1, 2 ^ (shifts exp).2⟩,
       ⟨(center m + above) * 2 ^ (shifts exp).1, 2 ^ (shifts exp).2⟩) := by
  unfold roundingInterval below center above shifts
  have hlow : (if m = 2 ^ mb ∧ exp > minExp then (4 * m - 1 : Int) else 4 * m - 2) =
      (m : Int) * 2 ^ 2 - (if m = 2 ^ (mb + 1 - 1) ∧ exp > minExp then 1 else 2) := by
    rw [Nat.add_sub_cancel]; split <;> ring
  have hhigh : (4 * m + 2 : Int) = (m : Int) * 2 ^ 2 + 2 := by ring
  simp only [hlow, hhigh]
  by_cases h : exp ≥ 2
  · simp only [if_pos h, if_pos (by omega : exp - 2 ≥ 0), pow_zero]
  · have e : (-(exp - 2)).toNat = (2 - exp).toNat := by congr 1; ring
    simp only [if_neg h, if_neg (by omega : ¬ exp - 2 ≥ 0), pow_zero, mul_one, e]

open Dashu.Gen.SimplestFromFloat in
/-- the least exponents of the two formats: `min_exp` of the macro with the constants of
    `f32` (`MIN_EXP = −125`, `MANTISSA_DIGITS = 24`) and `f64` (`−1021`, `53`) is the `1 − bias − mb`
    the model passes to `roundingInterval` -/
theorem min_exp_f32_f64 :
    min_exp (-125) 24 = 1 - (2 ^ (8 - 1) - 1) - (23 : Nat) ∧
    min_exp (-1021) 53 = 1 - (2 ^ (11 - 1) - 1) - (52 : Nat) := by decide

open Dashu.Gen.SimplestFromFloat in
/-- the parity test: the macro looks at the last bit of `to_bits()`, the model at the parity of the
    decoded mantissa — the same for every format with at least one explicit mantissa bit -/
theorem ends_allowed_is_mantissa_parity (eb mb bits : Nat) (hmb : 1 ≤ mb) (man exp : Int)
    (h : floatDecode eb mb bits = some (man, exp)) :
    ends_allowed bits = decide (man.natAbs % 2 = 0) := by
  -- the magnitude is the mantissa field, with the implicit bit `2^mb` for a normal number
  have hm : man.natAbs = bits % 2 ^ mb ∨ man.natAbs = bits % 2 ^ mb + 2 ^ mb := by
    unfold floatDecode at h
    simp only at h
    split at h
    · cases h
    · obtain ⟨rfl, -⟩ := Prod.mk.inj (Option.some.inj h)
      split <;> split <;> simp only [Int.natAbs_neg, Int.natAbs_natCast, true_or, or_true]
  have h2 : 2 ∣ 2 ^ mb := dvd_pow_self 2 (by omega)
  have hpar : man.natAbs % 2 = bits % 2 := by
    rcases hm with e | e
    · rw [e, Nat.mod_mod_of_dvd bits h2]
    · rw [e, Nat.add_mod, Nat.mod_mod_of_dvd bits h2, Nat.mod_eq_zero_of_dvd h2, Nat.add_zero, Nat.mod_mod]
  rw [hpar]
  exact beq_eq_decide _ _

-- non-vacuity: the tables at a concrete point, and what the model makes of them
example : error_bounds_Away true false false false = (.ulp, .zero, false, true) ∧
    error_bounds_HalfEven false false true true = (.halfUlp, .halfUlp, true, true) ∧
    widthUnits 3 .halfUlp = 4 ∧ half_ulp_signif 10 = 5 ∧
    roundingSet Quirks.code .halfAway 3 1 false 1 true = (2, 10, true, false) := by decide

end Dashu.Props.C18Gen
