import Dashu.Props.C13
import Dashu.Model.Forms.Float
/-
  C15 ↔ C13 link: the `Ordering::Greater` branch of `Context::repr_rem` (float/src/div.rs) forms the two candidate remainders in
  the ring of `ConstDivisor::new(|rhs|)`: `scaling = B^shift` (`(UBig::ONE << shift).into_ring` for B = 2,
  `UBig::from_word(B).into_ring(..).pow(shift)` otherwise), `r = |lhs|.into_ring * scaling`, `r1 = r.residue()`,
  `r2 = (-r).residue()`.  `Model/Forms/Float.remSignif` (what `drive_forms` executes) takes these at their specification
  `% |rhs|`.  Here the ring computation is written on C13's mirrored model (`Ring.new`, `reduceInt`, `Elem.pow`, `Elem.mul`,
  `Elem.neg`, `Elem.residue`) and proved — by C13's theorems, imported — to return exactly the two numbers `remSignif` uses.
-/
namespace Dashu.Props.C15LinkRem
open Dashu Dashu.Model Dashu.Model.NT Dashu.Model.Float Dashu.Model.Forms

/-- the ring part of `Context::repr_rem`, `Ordering::Greater` branch, on C13's model: `(r1, r2)` or the panic of
    `ConstDivisor::new(0)` -/
def ringRemainders (W B a b shift : Nat) : Except PanicKind (Nat × Nat) :=
  match Ring.new W 0 b with
  | .error k => .error k
  | .ok r =>
    let scaling := if B = 2 then reduceInt W r (((1 <<< shift : Nat)) : Int) else (reduceInt W r (B : Int)).pow W shift
    match (reduceInt W r (a : Int)).mul W scaling with
    | .error k => .error k
    | .ok e => .ok (e.residue, e.neg.residue)

theorem elem_eta (r : Ring) (e : Elem) (h : e.ring = r) : e = ⟨r, e.raw⟩ := by
  cases e; cases h; rfl

theorem residue_lt (r : Ring) (x : Nat) (h : Valid r x) : (⟨r, x⟩ : Elem).residue < r.m := by
  obtain ⟨v, hv, rfl⟩ := h
  rw [residue_of_raw]; exact hv

theorem neg_residue (m n e : Nat) (hn : n < m) (he : e < m) (h : (n + e) % m = 0) : n = (m - e) % m := by
  -- `n + e < 2m` is a multiple of `m`: it is `0` or `m`
  rcases Nat.lt_or_ge (n + e) m with hlt | hge
  · rw [Nat.mod_eq_of_lt hlt] at h
    obtain ⟨rfl, rfl⟩ : n = 0 ∧ e = 0 := by omega
    rw [Nat.sub_zero, Nat.mod_self]
  · rw [Nat.mod_eq_sub_mod hge, Nat.mod_eq_of_lt (by omega)] at h
    rw [Nat.mod_eq_of_lt (by omega)]
    omega

/-- **the ring computation returns the two specification remainders** (every word size, base, operand, shift) -/
theorem ringRemainders_spec (W B a b shift : Nat) (hW : 0 < W) (hb : b ≠ 0) :
    ringRemainders W B a b shift = .ok ((a * B ^ shift) % b, (b - (a * B ^ shift) % b) % b) := by
  obtain ⟨r, hr, hm, -, hwf⟩ := (Dashu.Props.C13.new_spec W 0 b hW).2 hb
  unfold ringRemainders
  rw [hr]
  simp only []
  -- the dividend
  obtain ⟨hxv, hxr, -, -, hxring⟩ := Dashu.Props.C13.reduce_spec W r hwf (a : Int)
  -- the scaling factor
  have hs : ∃ s : Elem, (if B = 2 then reduceInt W r (((1 <<< shift : Nat)) : Int) else (reduceInt W r (B : Int)).pow W shift) = s ∧
      s.ring = r ∧ Valid r s.raw ∧ s.residue = (B ^ shift) % r.m := by
    by_cases hB : B = 2
    · obtain ⟨hv, hres, -, -, hring⟩ := Dashu.Props.C13.reduce_spec W r hwf (((1 <<< shift : Nat)) : Int)
      refine ⟨_, rfl, ?_, ?_, ?_⟩ <;> simp only [hB, if_true]
      · exact hring
      · exact hv
      · rw [Nat.one_shiftLeft] at hres ⊢
        exact_mod_cast hres
    · obtain ⟨hv, hres⟩ := Dashu.Props.C13.hom_pow W r hwf (B : Int) shift
      have hring := (Dashu.Props.C13.reduce_spec W r hwf (B : Int)).2.2.2.2
      refine ⟨_, rfl, ?_, ?_, ?_⟩ <;> simp only [hB, if_false]
      · exact hring
      · exact hv
      · exact_mod_cast hres
  obtain ⟨s, hse, hsring, hsv, hsres⟩ := hs
  rw [hse, elem_eta r _ hxring, elem_eta r s hsring]
  obtain ⟨e, hmul, hering, hev, heres⟩ := (Dashu.Props.C13.ops_closed W r hwf _ _ hxv hsv).2.2.1
  rw [hmul]
  simp only []
  have hx' : (⟨r, (reduceInt W r (a : Int)).raw⟩ : Elem).residue = a % r.m := by
    rw [← elem_eta r _ hxring]; exact_mod_cast hxr
  have hs' : (⟨r, s.raw⟩ : Elem).residue = (B ^ shift) % r.m := by
    rw [← elem_eta r s hsring]; exact hsres
  have he1 : e.residue = (a * B ^ shift) % b := by
    rw [heres, hx', hs', hm, ← Nat.mul_mod]
  have hneg := (Dashu.Props.C13.ops_closed W r hwf _ _ hev hev).2.2.2.1
  rw [← elem_eta r e hering] at hneg
  have helt : e.residue < r.m := by
    rw [elem_eta r e hering]; exact residue_lt r _ hev
  have hnlt : e.neg.residue < r.m := by
    have := residue_lt r _ hneg.1
    have h2 : (⟨r, e.neg.raw⟩ : Elem) = e.neg := by
      rw [← elem_eta r e.neg (by simp [Elem.neg, hering])]
    rw [h2] at this; exact this
  have he2 : e.neg.residue = (b - (a * B ^ shift) % b) % b := by
    rw [← he1, ← hm]; exact neg_residue _ _ _ hnlt helt hneg.2
  rw [he1] at *
  rw [he2]

/-- **link**: in the `Ordering::Greater` branch `remSignif` (executed by the driver) chooses between exactly the two
    residues the ring computation of C13's model returns -/
theorem remSignif_greater_is_ring (W B : Nat) (lhs rhs : FRepr) (hW : 0 < W) (hb : rhs.signif ≠ 0) (hgt : lhs.exp > rhs.exp) :
    ∃ r1 r2 : Nat,
      ringRemainders W B lhs.signif.natAbs rhs.signif.natAbs (lhs.exp - rhs.exp).toNat = .ok (r1, r2) ∧
      remSignif B lhs rhs =
        (if r1 < r2 then (if lhs.signif < 0 then -1 else 1) * (r1 : Int) else -(if lhs.signif < 0 then -1 else 1) * (r2 : Int)) := by
  refine ⟨_, _, ringRemainders_spec W B _ _ _ hW (by omega), ?_⟩
  unfold remSignif
  have hne : ¬ lhs.exp = rhs.exp := by omega
  simp only [hne, if_false, hgt, if_true]

/-- a zero divisor: `ConstDivisor::new` panics (`reprRem` answers DivideByZero before anything else) -/
theorem ring_zero_divisor (W B a shift : Nat) : ringRemainders W B a 0 shift = .error .divideByZero := by
  unfold ringRemainders; simp [Ring.new]

-- non-vacuity: 12345·10^3 mod 7 through a single-word ring, and the significand `remSignif` picks from it
example : ringRemainders 64 10 12345 7 3 = .ok (12345000 % 7, (7 - 12345000 % 7) % 7) :=
  ringRemainders_spec 64 10 12345 7 3 (by decide) (by decide)
example : remSignif 10 ⟨12345, 3⟩ ⟨7, 0⟩ = 3 := by decide

end Dashu.Props.C15LinkRem
