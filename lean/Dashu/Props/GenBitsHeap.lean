import Dashu.Gen.BitsHeap
import Dashu.Props.GenShiftHeap
import Dashu.Proofs.Gen.MachInt
/-
  C09, Tie A: the heap arms of `set_bit`, `clear_bit`, `clear_high_bits` and `split_bits`, and `TypedRepr::set_bit` as a whole
  (`integer/src/bits.rs`, `mod repr`), as REGENERATED text (`Dashu/Gen/BitsHeap.lean`) are EQUAL to the arms of the hand model
  the C09 driver executes (`TRepr.setBit`, `TRepr.clearBit`, `clearHighBitsLarge`, `TRepr.splitBits` of `Model/Int/Bits.lean`),
  for every operand and every bit index whose word arithmetic fits `usize`.
-/
namespace Dashu.Props.GenBitsHeap
open Dashu.Model Dashu Dashu.GluePrelude Dashu.Gen.ShiftHeap Dashu.Gen.BitsHeap

/-- **`with_bit_dword_spilled`** = the spilled arm of `TRepr.setBit` on an inline value (`n ≥ DWORD_BITS`) -/
theorem gen_with_bit_dword_spilled (W U d n : Nat) (hW : 1 ≤ W) (hn : 2 * W ≤ n) (hU : n / W + 1 < 2 ^ U) :
    with_bit_dword_spilled W U d n = some (TRepr.setBit W (.small d) n) := by
  have hW0 : W ≠ 0 := by omega
  have h2 : 2 ≤ n / W := (Nat.le_div_iff_mul_le (by omega)).2 hn
  have hlt : ¬ n < 2 * W := by omega
  simp only [with_bit_dword_spilled, TRepr.setBit, hlt, MachInt.div_ok hW0, MachInt.rem_ok hW0, MachInt.add_ok hU,
    MachInt.sub_ok h2, MachInt.split_dword, MachInt.one_shl (Nat.mod_lt n hW), Buffer_allocate, push_zeros, push, ↓reduceIte,
    List.nil_append, List.cons_append, Option.pure_def, Option.bind_eq_bind, Option.bind_some]

/-- **`with_bit_large`** = the heap arm of `TRepr.setBit` -/
theorem gen_with_bit_large (W U n : Nat) (ws : List Nat) (hW : 1 ≤ W) (hU : n / W + 1 < 2 ^ U) :
    with_bit_large W U ws n = some (TRepr.setBit W (.large ws) n) := by
  have hW0 : W ≠ 0 := by omega
  unfold with_bit_large TRepr.setBit
  simp only [MachInt.div_ok hW0, bind, Option.bind, pure]
  by_cases hc : n / W < ws.length
  · simp [hc, MachInt.rem_ok hW0, MachInt.one_shl (Nat.mod_lt n hW), or_at]
  · have hle : ws.length ≤ n / W := by omega
    simp [hc, MachInt.rem_ok hW0, MachInt.add_ok hU, MachInt.sub_ok hle, MachInt.one_shl (Nat.mod_lt n hW), push_zeros, push]

/-- **`clear_high_bits_large`** = `clearHighBitsLarge` -/
theorem gen_clear_high_bits_large (W U n : Nat) (ws : List Nat) (hW : 1 ≤ W) (h32 : W ≤ 2 ^ 32) (hU : n < 2 ^ U) :
    clear_high_bits_large W U ws n = some (clearHighBitsLarge W ws n) := by
  have hW0 : W ≠ 0 := by omega
  have hm : n % W ≤ W := Nat.le_of_lt (Nat.mod_lt n (by omega))
  unfold clear_high_bits_large clearHighBitsLarge
  simp only [Props.GenMath.gen_ceil_div U n W hU (by omega), bind, Option.bind, pure]
  by_cases hc : ceilDiv n W > ws.length
  · simp [hc]
  · by_cases h0 : n % W = 0
    · simp [hc, h0, MachInt.rem_ok hW0, truncate]
    · have hn0 : n ≠ 0 := by intro h; subst h; simp at h0
      have hpos : 1 ≤ ceilDiv n W := by unfold ceilDiv; rw [if_neg hn0]; exact Nat.le_add_left 1 _
      have hne : ws.take (ceilDiv n W) ≠ [] := by
        intro h
        rw [List.take_eq_nil_iff] at h
        rcases h with h | h
        · omega
        · subst h; simp at hc; omega
      simp [hc, h0, MachInt.rem_ok hW0, MachInt.cast_mod hW h32, truncate,
        (Props.GenMath.gen_ones_word W (n % W) hm).1, and_last, hne]

-- non-vacuity: set_bit(200) on the inline value 5, set_bit inside and beyond a 3-word value, clear_high_bits cutting inside the
-- second word and at a word boundary
example : with_bit_dword_spilled 64 64 5 200 = some (.large [5, 0, 0, 256]) ∧
    with_bit_large 64 64 [1, 2, 3] 70 = some (.large [1, 2 + 64, 3]) ∧
    with_bit_large 64 64 [1, 2, 3] 320 = some (.large [1, 2, 3, 0, 0, 1]) ∧
    clear_high_bits_large 64 64 [2 ^ 64 - 1, 2 ^ 64 - 1, 7] 70 = some (.small (2 ^ 70 - 1)) ∧
    clear_high_bits_large 64 64 [1, 2, 3, 4] 192 = some (.large [1, 2, 3]) ∧
    clear_high_bits_large 64 64 [1, 2, 3] (2 ^ 64 - 1) = some (.large [1, 2, 3]) := by
  refine ⟨by decide +kernel, by decide +kernel, by decide +kernel, by decide +kernel, by decide +kernel, by decide +kernel⟩

/-- **`TypedRepr::clear_bit`, arm `Large(buffer)`** (`buffer[idx] &= !(1 << (n % W))` as a checked access under its
    `idx < len` guard) = the heap arm of the hand model's `TRepr.clearBit` -/
theorem gen_clear_bit_large (W U n : Nat) (ws : List Nat) (hW : 1 ≤ W) :
    clear_bit_large W U ws n = some (TRepr.clearBit W (.large ws) n) := by
  have hW0 : W ≠ 0 := by omega
  unfold clear_bit_large TRepr.clearBit
  simp only [MachInt.div_ok hW0, bind, Option.bind, pure]
  by_cases hc : n / W < ws.length
  · simp [hc, MachInt.rem_ok hW0, MachInt.one_shl (Nat.mod_lt n hW), and_at, MachInt.not, wnot]
  · simp [hc]

/-- **`TypedRepr::split_bits`, arm `Large(buffer)`**: the `n == 0` exit, and the composition of the regenerated
    `shr_large_ref` (high part) and `clear_high_bits_large` (low part) = the heap arm of `TRepr.splitBits` -/
theorem gen_split_bits_large (W U n : Nat) (ws : List Nat) (hW : 1 ≤ W) (h32 : W ≤ 2 ^ 32) (hU : n < 2 ^ U) :
    split_bits_large W U ws n = some (TRepr.splitBits W (.large ws) n) := by
  unfold split_bits_large TRepr.splitBits
  by_cases h0 : n = 0
  · subst h0; simp
  · have hb : (n == 0) = false := by simp [h0]
    simp [hb, h0, Props.GenShiftHeap.gen_shr_large_ref W U n ws hW h32, gen_clear_high_bits_large W U n ws hW h32 hU]

example : clear_bit_large 64 64 [5, 0, 0, 256] 200 = some (.small 5) ∧ clear_bit_large 64 64 [1, 2, 3] 500 = some (.large [1, 2, 3]) ∧
    split_bits_large 64 64 [1, 2, 3, 4] 130 = some (.large [1, 2, 3], .small (2 ^ 64)) ∧
    split_bits_large 64 64 [1, 2, 3] 0 = some (.small 0, .large [1, 2, 3]) := by
  refine ⟨by decide +kernel, by decide +kernel, by decide +kernel, by decide +kernel⟩

-- ---------------------------------------------------------------- `TypedRepr::set_bit`, inline arm and whole method

/-- **`TypedRepr::set_bit`, arm `Small(dword)`** (the inline test `n < DWORD_BITS_USIZE` — without it `1 << n` overflows — the inline
    `dword | 1 << n`, else the regenerated `with_bit_dword_spilled`) = the inline arm of the hand model's `TRepr.setBit`, every `n` -/
theorem gen_set_bit_small (W U d n : Nat) (hW : 1 ≤ W) (hU : n / W + 1 < 2 ^ U) :
    set_bit_small W U d n = some (TRepr.setBit W (.small d) n) := by
  unfold set_bit_small
  by_cases hn : n < 2 * W
  · simp only [hn, decide_true, if_true, MachInt.one_shl hn, bind, Option.bind, pure, TRepr.setBit]
  · simp only [hn, decide_false, Bool.false_eq_true, if_false, gen_with_bit_dword_spilled W U d n hW (by omega) hU, bind,
      Option.bind, pure]

/-- **`TypedRepr::set_bit`** (the whole method as regenerated) = `TRepr.setBit`, the definition the driver executes for `u.setbit` -/
theorem gen_set_bit (W U n : Nat) (x : TRepr) (hW : 1 ≤ W) (hU : n / W + 1 < 2 ^ U) :
    set_bit W U x n = some (TRepr.setBit W x n) := by
  cases x with
  | small d => exact gen_set_bit_small W U d n hW hU
  | large ws => exact gen_with_bit_large W U n ws hW hU

-- non-vacuity (64-bit words): the last inline position, the first spilled one, a heap operand
example : set_bit 64 64 (.small 5) 127 = some (.small (5 + 2 ^ 127)) ∧ set_bit 64 64 (.small 5) 128 = some (.large [5, 0, 1]) ∧
    set_bit 64 64 (.large [1, 2, 3]) 64 = some (.large [1, 3, 3]) ∧ set_bit 64 64 (.large [1, 2, 3]) 256 = some (.large [1, 2, 3, 0, 1]) := by
  refine ⟨by decide +kernel, by decide +kernel, by decide +kernel, by decide +kernel⟩

end Dashu.Props.GenBitsHeap
