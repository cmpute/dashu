import Dashu.Gen.FloatRoundOps
import Dashu.Gen.FloatAdd
import Dashu.Model.Float.RoundOps
import Dashu.Proofs.Gen.Basic
/-
  Tie A theorems about `float/src/round_ops.rs` and `float/src/repr.rs` (`Context::repr_round`) AS REGENERATED
  on this run: the regenerated bodies, with the digit / rounding kernels of the hand-written float model
  plugged in (`modelK`), ARE the hand-written model functions the C03 and C10 drivers execute and
  `Props/C03.lean`, `Props/C10.lean` prove correct — for all inputs; the panic of `assert_finite*` fires
  exactly for an infinite operand.  `modelK` and the translations `toG` / `toGB` / `toGA` also serve the
  `Props/GenFloat{Add,Forms,Arith}` files (add.rs, mul.rs, div.rs).
-/
set_option linter.unusedSimpArgs false
namespace Dashu.Props.GenFloatOps
open Dashu Dashu.Gen Dashu.GluePrelude Dashu.Proofs.Gen Dashu.Model.Float

/-- hand-model values as seen by the regenerated text -/
def toG (r : Model.Float.FRepr) : GluePrelude.FRepr := ⟨r.signif, r.exp⟩
def toGB (x : FBigM) : GluePrelude.FBig := ⟨toG x.repr, ⟨(x.prec : Int)⟩⟩
def toGA {α β} (f : α → β) : Rounded α → Approx β
  | (v, none) => .Exact (f v)
  | (v, some r) => .Inexact (f v) r

theorem value_map {α β} (f : α → β) (a : Approx α) : Approx.value (Approx.map f a) = f (Approx.value a) := by
  cases a <;> rfl

/-- the kernel record of the C03/C10 hand model (`Model/Float`): digit counts, digit shifts, the
    normalising constructor and `round_fract` are the model's functions; `dub` is the `digits_ub` oracle -/
def modelK (B : Nat) (m : Mode) (c : Coarse) (dub : Int → Nat) : FloatK Unit where
  e_lt := fun _ _ => false
  e_gt := fun _ _ => false
  log2_bounds_int := fun _ => ((), ())
  log2_bounds_repr := fun _ => ((), ())
  digits_ub := fun r => (dub r.significand : Int)
  digits := fun r => (digitsI B r.significand : Int)
  digit_len := fun v => (digitsI B v : Int)
  shl_digits := fun x n => shlDigits B x n.toNat
  shr_digits := fun x n => shrDigits B x n.toNat
  split_digits := fun x n => splitDigits B x n.toNat
  repr_new := fun s e => toG (Model.Float.FRepr.new B s e)
  round_fract := fun n f k => roundFract B m c n f k.toNat
  round_fract_up := fun n f k => roundFract B .up c n f k.toNat
  round_fract_down := fun n f k => roundFract B .down c n f k.toNat
  round_fract_half_away := fun n f k => roundFract B .halfAway c n f k.toNat

theorem int_add_rounding_eq (x : Int) (r : Rounding) : int_add_rounding x r = x + rInt r := by
  cases r <;> simp [int_add_rounding, rInt] <;> omega

theorem sat_sub_nat (p n : Nat) : saturating_sub (p : Int) (n : Int) = ((p - n : Nat) : Int) := by
  unfold saturating_sub; split <;> omega

theorem sat_sub (p : Nat) (e : Int) (he : e < 0) : saturating_sub (p : Int) (-e) = ((p - (-e).toNat : Nat) : Int) := by
  unfold saturating_sub; split <;> omega

/-- `isize::unsigned_abs` of a negative exponent (the form `exponent.unsigned_abs()` of the shift amounts; the proofs below accept
    both it and `(-exponent) as usize`) -/
theorem uabs_neg (e : Int) (he : e < 0) : unsigned_abs e = -e := by
  show ((e.natAbs : Nat) : Int) = -e
  omega

theorem nat_sub_cast (d p : Nat) (h : p < d) : ((d : Int) - (p : Int)) = ((d - p : Nat) : Int) := by omega

/-! ### `float/src/round_ops.rs` (C10) -/

theorem assert_finite_mk (s e : Int) :
    assert_finite ⟨s, e⟩ = if s = 0 ∧ e ≠ 0 then .error .OperateWithInf else .ok () := by
  simp only [assert_finite, Repr_is_infinite, is_zero_int, ne_int, Bool.and_eq_true, decide_eq_true_eq, Bool.not_eq_true',
    decide_eq_false_iff_not, ne_eq]

theorem smaller_than_one_mk (B : Nat) (m : Mode) (c : Coarse) (dub : Int → Nat) (s e : Int) :
    Repr_smaller_than_one (modelK B m c dub) ⟨s, e⟩ = smallerThanOne dub ⟨s, e⟩ := by
  simp only [Repr_smaller_than_one, smallerThanOne, modelK, lt_int, add_int, neg_int, Int.add_comm]

/-- `Repr::sign` of a non-zero significand (a zero significand takes the sign of the exponent) -/
theorem repr_sign_of_ne {s : Int} (hs : s ≠ 0) (e : Int) : Repr_sign ⟨s, e⟩ = if 0 ≤ s then .Positive else .Negative := by
  simp only [Repr_sign, is_zero_int, hs, decide_false, Bool.false_eq_true, if_false, sign_int, ← Int.not_le, ite_not]

/- Every function below opens with `assert_finite` and returns the operand itself when its exponent is not negative.  The
   proofs decide these two tests as wholes (`s = 0 ∧ e ≠ 0`, `0 ≤ e`), then the `smaller_than_one` shortcut; in the general
   path `split_at_point_internal_is_model` puts the model's triple in place of the regenerated one. -/

theorem trunc_is_model (B : Nat) (m : Mode) (c : Coarse) (dub : Int → Nat) (s e : Int) (p : Nat) :
    FBig_trunc (modelK B m c dub) ⟨⟨s, e⟩, ⟨(p : Int)⟩⟩ =
      if s = 0 ∧ e ≠ 0 then .error .OperateWithInf else .ok (toGB (fTrunc B dub ⟨⟨s, e⟩, p⟩)) := by
  unfold FBig_trunc fTrunc
  simp only [assert_finite_mk, smaller_than_one_mk, le_int, ge_iff_le, decide_eq_true_eq]
  by_cases hinf : s = 0 ∧ e ≠ 0
  · simp only [if_pos hinf]
  simp only [if_neg hinf]
  by_cases h3 : 0 ≤ e
  · simp only [h3, if_true, toGB, toG]
  have he : e < 0 := by omega
  simp only [h3, if_false, uabs_neg e he, sat_sub p e he]
  cases smallerThanOne dub ⟨s, e⟩ <;>
    simp only [Bool.false_eq_true, if_true, if_false, modelK, Repr_zero, Context_new, FBig_new, Int.toNat_neg_natCast,
      Int.toNat_natCast, toGB, toG]

theorem split_at_point_internal_is_model (B : Nat) (m : Mode) (c : Coarse) (dub : Int → Nat) (s e : Int) (p : Nat)
    (he : e < 0) :
    FBig_split_at_point_internal (modelK B m c dub) ⟨⟨s, e⟩, ⟨(p : Int)⟩⟩ =
      let r := splitAtPointInternal B dub ⟨⟨s, e⟩, p⟩
      (r.1, r.2.1, (r.2.2 : Int)) := by
  unfold FBig_split_at_point_internal splitAtPointInternal
  simp only [smaller_than_one_mk, uabs_neg e he]
  cases smallerThanOne dub ⟨s, e⟩ <;>
    simp only [Bool.false_eq_true, if_true, if_false, modelK, Int.toNat_of_nonneg (show 0 ≤ -e by omega)]

theorem split_at_point_is_model (B : Nat) (m : Mode) (c : Coarse) (dub : Int → Nat) (s e : Int) (p : Nat) :
    FBig_split_at_point (modelK B m c dub) ⟨⟨s, e⟩, ⟨(p : Int)⟩⟩ =
      if s = 0 ∧ e ≠ 0 then .error .OperateWithInf
      else .ok (toGB (fSplitAtPoint B dub ⟨⟨s, e⟩, p⟩).1, toGB (fSplitAtPoint B dub ⟨⟨s, e⟩, p⟩).2) := by
  unfold FBig_split_at_point fSplitAtPoint
  simp only [assert_finite_mk, smaller_than_one_mk, le_int, ge_iff_le, decide_eq_true_eq]
  by_cases hinf : s = 0 ∧ e ≠ 0
  · simp only [if_pos hinf]
  simp only [if_neg hinf]
  by_cases h3 : 0 ≤ e
  · simp only [h3, if_true, FBig_ZERO, FBigM.zero, Repr_zero, Context_new, FBig_new, toGB, toG, Int.natCast_zero]
  have he : e < 0 := by omega
  simp only [h3, if_false, uabs_neg e he, sat_sub p e he]
  cases smallerThanOne dub ⟨s, e⟩ <;>
    simp only [Bool.false_eq_true, if_true, if_false, modelK, Repr_zero, Context_new, FBig_new,
      Int.toNat_of_nonneg (show 0 ≤ -e by omega), toGB, toG]

theorem fract_is_model (B : Nat) (m : Mode) (c : Coarse) (dub : Int → Nat) (s e : Int) (p : Nat) :
    FBig_fract (modelK B m c dub) ⟨⟨s, e⟩, ⟨(p : Int)⟩⟩ =
      if s = 0 ∧ e ≠ 0 then .error .OperateWithInf else .ok (toGB (fFract B dub ⟨⟨s, e⟩, p⟩)) := by
  unfold FBig_fract fFract
  simp only [assert_finite_mk, smaller_than_one_mk, le_int, ge_iff_le, decide_eq_true_eq]
  by_cases hinf : s = 0 ∧ e ≠ 0
  · simp only [if_pos hinf]
  simp only [if_neg hinf]
  by_cases h3 : 0 ≤ e
  · simp only [h3, if_true, FBig_ZERO, FBigM.zero, Repr_zero, Context_new, FBig_new, toGB, toG, Int.natCast_zero]
  have he : e < 0 := by omega
  simp only [h3, if_false, uabs_neg e he]
  cases smallerThanOne dub ⟨s, e⟩
  · rw [split_at_point_internal_is_model B m c dub s e p he]
    simp only [Bool.false_eq_true, if_false, modelK, Context_new, FBig_new, toGB, toG]
  · simp only [if_true, Context_new, FBig_new, Int.toNat_of_nonneg (show 0 ≤ -e by omega), toGB, toG]

theorem ceil_is_model (B : Nat) (m : Mode) (c : Coarse) (dub : Int → Nat) (s e : Int) (p : Nat) :
    FBig_ceil (modelK B m c dub) ⟨⟨s, e⟩, ⟨(p : Int)⟩⟩ =
      if s = 0 ∧ e ≠ 0 then .error .OperateWithInf else .ok (toGB (fCeil B c dub ⟨⟨s, e⟩, p⟩)) := by
  unfold FBig_ceil fCeil
  simp only [assert_finite_mk, smaller_than_one_mk, Repr_is_zero, Model.Float.FRepr.isZero, is_zero_int, eq_int, le_int,
    ge_iff_le, decide_eq_true_eq, Bool.or_eq_true, Bool.and_eq_true, beq_iff_eq]
  by_cases hinf : s = 0 ∧ e ≠ 0
  · simp only [if_pos hinf]
  simp only [if_neg hinf]
  by_cases h3 : (s = 0 ∧ e = 0) ∨ 0 ≤ e
  · simp only [h3, if_true, toGB, toG]
  have he : e < 0 := by omega
  simp only [h3, if_false, uabs_neg e he, sat_sub p e he]
  cases smallerThanOne dub ⟨s, e⟩
  · rw [split_at_point_internal_is_model B m c dub s e p he]
    simp only [Bool.false_eq_true, if_false, modelK, Context_new, FBig_new, sat_sub_nat, int_add_rounding_eq,
      Int.toNat_natCast, toGB, toG]
  · have hs0 : s ≠ 0 := by omega
    by_cases h5 : 0 ≤ s <;>
      simp only [if_true, repr_sign_of_ne hs0, Repr_zero, Repr_one, Context_new, FBig_new, h5, if_false, toGB, toG]

theorem floor_is_model (B : Nat) (m : Mode) (c : Coarse) (dub : Int → Nat) (s e : Int) (p : Nat) :
    FBig_floor (modelK B m c dub) ⟨⟨s, e⟩, ⟨(p : Int)⟩⟩ =
      if s = 0 ∧ e ≠ 0 then .error .OperateWithInf else .ok (toGB (fFloor B c dub ⟨⟨s, e⟩, p⟩)) := by
  unfold FBig_floor fFloor
  simp only [assert_finite_mk, smaller_than_one_mk, le_int, ge_iff_le, decide_eq_true_eq]
  by_cases hinf : s = 0 ∧ e ≠ 0
  · simp only [if_pos hinf]
  simp only [if_neg hinf]
  by_cases h3 : 0 ≤ e
  · simp only [h3, if_true, toGB, toG]
  have he : e < 0 := by omega
  simp only [h3, if_false, uabs_neg e he, sat_sub p e he]
  cases smallerThanOne dub ⟨s, e⟩
  · rw [split_at_point_internal_is_model B m c dub s e p he]
    simp only [Bool.false_eq_true, if_false, modelK, Context_new, FBig_new, sat_sub_nat, int_add_rounding_eq,
      Int.toNat_natCast, toGB, toG]
  · -- a zero significand with a negative exponent would be an infinity
    have hs0 : s ≠ 0 := by omega
    by_cases h5 : 0 ≤ s <;>
      simp only [if_true, repr_sign_of_ne hs0, Repr_zero, Repr_neg_one, Context_new, FBig_new, h5, if_false, toGB, toG]

theorem round_is_model (B : Nat) (m : Mode) (c : Coarse) (dub : Int → Nat) (s e : Int) (p : Nat) :
    FBig_round (modelK B m c dub) ⟨⟨s, e⟩, ⟨(p : Int)⟩⟩ =
      if s = 0 ∧ e ≠ 0 then .error .OperateWithInf else .ok (toGB (fRound B c dub ⟨⟨s, e⟩, p⟩)) := by
  unfold FBig_round fRound
  simp only [assert_finite_mk, le_int, lt_int, add_int, neg_int, ge_iff_le, decide_eq_true_eq,
    show (modelK B m c dub).digits_ub ⟨s, e⟩ = (dub s : Int) from rfl, Int.add_comm (dub s : Int) e]
  by_cases hinf : s = 0 ∧ e ≠ 0
  · simp only [if_pos hinf]
  simp only [if_neg hinf]
  by_cases h3 : 0 ≤ e
  · simp only [h3, if_true, toGB, toG]
  have he : e < 0 := by omega
  simp only [h3, if_false, uabs_neg e he, sat_sub p e he]
  by_cases h6 : e + (dub s : Int) < -2
  · simp only [h6, if_true, Repr_zero, Context_new, FBig_new, toGB, toG]
  · rw [split_at_point_internal_is_model B m c dub s e p he]
    simp only [h6, if_false, modelK, Context_new, FBig_new, sat_sub_nat, int_add_rounding_eq, Int.toNat_natCast, toGB, toG]

/-! ### `Context::repr_round` / `repr_round_ref` (`float/src/repr.rs`) -/

theorem repr_round_is_model (B : Nat) (m : Mode) (c : Coarse) (dub : Int → Nat) (p : Nat) (s e : Int) :
    Context_repr_round (modelK B m c dub) ⟨(p : Int)⟩ ⟨s, e⟩ =
      if s = 0 ∧ e ≠ 0 then .error .OperateWithInf else .ok (toGA toG (reprRound B m c p ⟨s, e⟩)) := by
  unfold Context_repr_round reprRound
  simp only [assert_finite_mk, Context_is_limited, Model.Float.FRepr.digits, modelK, ne_int, lt_int, add_int, sub_int,
    Int.natCast_eq_zero, Int.ofNat_lt, gt_iff_lt, decide_eq_true_eq, Bool.not_eq_true', decide_eq_false_iff_not]
  by_cases hinf : s = 0 ∧ e ≠ 0
  · simp only [if_pos hinf]
  simp only [if_neg hinf]
  by_cases h3 : p = 0
  · simp only [h3, not_true_eq_false, if_true, if_false, toGA, toG]
  by_cases h4 : p < digitsI B s
  · simp only [h3, h4, not_false_eq_true, if_true, if_false, toGA, nat_sub_cast _ _ h4, Int.toNat_natCast, int_add_rounding_eq, toG]
  · simp only [h3, h4, not_false_eq_true, if_true, if_false, toGA, toG]

/-- `repr_round_ref` is the same text as `repr_round` (the operand is borrowed instead of moved) -/
theorem repr_round_ref_is_model (B : Nat) (m : Mode) (c : Coarse) (dub : Int → Nat) (p : Nat) (s e : Int) :
    Context_repr_round_ref (modelK B m c dub) ⟨(p : Int)⟩ ⟨s, e⟩ =
      if s = 0 ∧ e ≠ 0 then .error .OperateWithInf else .ok (toGA toG (reprRound B m c p ⟨s, e⟩)) :=
  repr_round_is_model B m c dub p s e

end Dashu.Props.GenFloatOps
