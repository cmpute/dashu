import Dashu.Proofs.Trans.Formulas
/-
  C11 — the closed formulas evaluated by `float/src/exp.rs` / `float/src/log.rs` are exact identities
  (statements about `Real.exp` / `Real.log`; the series and constants named in the property's anchors:
  "argument reduction x = s·ln(B) + r·B^n, Maclaurin series, repeated squaring", "scaling to [1,2), atanh series,
  recombination with ln 2", `iacoth`, `ln2`, `ln10`).  What separates them from the returned float is rounding
  and series truncation only — bounded for `powi` (`Props/C11Powi.lean`), certified a posteriori for the rest.
-/
namespace Dashu.Props.C11Formulas
open Dashu.Model.Trans

/-- `Context::iacoth(n)` sums `Σ 1/((2i+1)·n^(2i+1))`, whose value is `L(n) = ½·log((n+1)/(n−1))` -/
theorem iacoth_series (n : ℝ) (hn : 1 < n) :
    HasSum (fun i : ℕ => 1 / ((2 * (i : ℝ) + 1) * n ^ (2 * i + 1))) (acothL n) := by
  have hn0 : (0 : ℝ) < n := by linarith
  have hx : |1 / n| < 1 := by
    rw [abs_of_pos (by positivity)]; rw [div_lt_one hn0]; exact hn
  have h := (Real.hasSum_log_sub_log_of_abs_lt_one hx).div_const 2
  have e : acothL n = (Real.log (1 + 1 / n) - Real.log (1 - 1 / n)) / 2 := by
    rw [acothL_eq_atanhL n hn]; rfl
  rw [e]
  have hfun : (fun i : ℕ => 1 / ((2 * (i : ℝ) + 1) * n ^ (2 * i + 1)))
      = fun i : ℕ => 2 * (1 / (2 * (i : ℝ) + 1)) * (1 / n) ^ (2 * i + 1) / 2 := by
    funext i
    have h1 : (2 * (i : ℝ) + 1) ≠ 0 := by positivity
    have h2 : n ^ (2 * i + 1) ≠ 0 := by positivity
    rw [one_div_pow]
    field_simp
  rw [hfun]
  exact h

/-- `Context::ln2` -/
theorem ln2_formula : Real.log 2 = 4 * acothL 6 + 2 * acothL 99 := by
  unfold acothL
  have h7 : Real.log (6 + 1) = Real.log 7 := by norm_num
  have h5 : Real.log (6 - 1) = Real.log 5 := by norm_num
  have h100 : Real.log (99 + 1) = 2 * Real.log 2 + 2 * Real.log 5 := by
    have : (99 + 1 : ℝ) = 2 ^ 2 * 5 ^ 2 := by norm_num
    rw [this, Real.log_mul (by norm_num) (by norm_num), Real.log_pow, Real.log_pow]; push_cast; ring
  have h98 : Real.log (99 - 1) = Real.log 2 + 2 * Real.log 7 := by
    have : (99 - 1 : ℝ) = 2 * 7 ^ 2 := by norm_num
    rw [this, Real.log_mul (by norm_num) (by norm_num), Real.log_pow]; push_cast; ring
  rw [h7, h5, h100, h98]; ring

/-- `Context::ln10` -/
theorem ln10_formula : Real.log 10 = 3 * Real.log 2 + 2 * acothL 9 := by
  unfold acothL
  have h10 : Real.log (9 + 1) = Real.log 10 := by norm_num
  have h8 : Real.log (9 - 1) = 3 * Real.log 2 := by
    have : (9 - 1 : ℝ) = 2 ^ 3 := by norm_num
    rw [this, Real.log_pow]; push_cast; ring
  rw [h10, h8]; ring

/-- `Context::ln_internal`, scaled path (`atanhL z = log(1+z) − log(1−z) = 2·atanh z`) -/
theorem ln_reduction (x : ℝ) (hx : 0 < x) (s : ℤ) (hs : 1 ≤ x / (2 : ℝ) ^ s) :
    Real.log x = atanhL ((x / (2 : ℝ) ^ s - 1) / (x / (2 : ℝ) ^ s + 1)) + s * Real.log 2 := by
  have h2 : (0 : ℝ) < (2 : ℝ) ^ s := zpow_pos (by norm_num) s
  rw [atanhL_eq_log hs, Real.log_div hx.ne' h2.ne', Real.log_zpow]
  ring

/-- `Context::ln_internal`, unscaled `ln_1p` path -/
theorem ln_1p_reduction (x : ℝ) (hx : -1 < x) : Real.log (1 + x) = atanhL (x / (x + 2)) := by
  unfold atanhL
  have h2 : (0 : ℝ) < x + 2 := by linarith
  have e1 : 1 + x / (x + 2) = (2 * (1 + x)) / (x + 2) := by field_simp; ring
  have e2 : 1 - x / (x + 2) = 2 / (x + 2) := by field_simp; ring
  rw [e1, e2, Real.log_div (by linarith) h2.ne', Real.log_div (by norm_num) h2.ne',
    Real.log_mul (by norm_num) (by linarith)]
  ring

/-- `Context::exp_internal`: `exp x = B^s · (exp r)^(B^n)`, `r = (x − s·log B)/B^n` -/
theorem exp_reduction (B : ℕ) (hB : 0 < B) (x : ℝ) (s : ℤ) (n : ℕ) :
    Real.exp x = (B : ℝ) ^ s * Real.exp ((x - s * Real.log B) / (B : ℝ) ^ n) ^ (B ^ n) := by
  have hB' : (0 : ℝ) < (B : ℝ) := by exact_mod_cast hB
  have hpow : ((B ^ n : ℕ) : ℝ) = (B : ℝ) ^ n := by push_cast; rfl
  rw [← Real.exp_nat_mul, hpow]
  have hne : ((B : ℝ) ^ n) ≠ 0 := by positivity
  rw [mul_div_cancel₀ _ hne, Real.exp_sub, mul_comm (s : ℝ), ← Real.rpow_def_of_pos hB', Real.rpow_intCast]
  have hz : (B : ℝ) ^ s ≠ 0 := (zpow_pos hB' s).ne'
  field_simp

/-! non-vacuity -/
example : HasSum (fun i : ℕ => 1 / ((2 * (i : ℝ) + 1) * (6 : ℝ) ^ (2 * i + 1))) (acothL 6) :=
  iacoth_series 6 (by norm_num)
example : Real.log 3 = atanhL ((3 / (2 : ℝ) ^ (1 : ℤ) - 1) / (3 / (2 : ℝ) ^ (1 : ℤ) + 1)) + (1 : ℤ) * Real.log 2 :=
  ln_reduction 3 (by norm_num) 1 (by norm_num)
example : Real.log (1 + (-1 / 2)) = atanhL ((-1 / 2 : ℝ) / (-1 / 2 + 2)) := ln_1p_reduction (-1 / 2) (by norm_num)

end Dashu.Props.C11Formulas
