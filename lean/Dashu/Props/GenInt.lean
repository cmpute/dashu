import Dashu.Gen.Glue
import Mathlib.Tactic.Ring
import Mathlib.Tactic.Linarith
/-
  Tie A theorems: the sign tables of the IBig operator glue, AS REGENERATED from /repo's source on
  this run (`Dashu/Gen/Glue.lean`), composed with magnitude kernels taken at their specification,
  equal the mathematical operation on `Int`.  Used by C01 (+ − ·) and C02 (/ % div_rem, Euclidean).
  A changed arm, swapped operand or wrong sign in the Rust macros changes the generated text and
  these theorems stop checking.
-/
namespace Dashu.Props.GenInt
open Dashu Dashu.Gen Dashu.GluePrelude

theorem with_sign_nonneg (r : Int) (s : Sign) (h : 0 ≤ r) : with_sign r s = s.apply r := by
  unfold with_sign
  have : (Int.ofNat r.natAbs) = r := by simp [Int.natAbs_of_nonneg h]
  rw [this]

@[simp] theorem sign_mul_pp : (Sign.Positive * Sign.Positive) = Sign.Positive := rfl
@[simp] theorem sign_mul_pn : (Sign.Positive * Sign.Negative) = Sign.Negative := rfl
@[simp] theorem sign_mul_np : (Sign.Negative * Sign.Positive) = Sign.Negative := rfl
@[simp] theorem sign_mul_nn : (Sign.Negative * Sign.Negative) = Sign.Positive := rfl
@[simp] theorem sign_neg_p : (-Sign.Positive) = Sign.Negative := rfl
@[simp] theorem sign_neg_n : (-Sign.Negative) = Sign.Positive := rfl

/-- a kernel that is odd in both arguments carries the product of the signs -/
theorem apply_odd_odd {op : Int → Int → Int} (hl : ∀ a b, op (-a) b = -op a b) (hr : ∀ a b, op a (-b) = -op a b)
    (s0 s1 : Sign) (m0 m1 : Int) : (s0 * s1).apply (op m0 m1) = op (s0.apply m0) (s1.apply m1) := by
  cases s0 <;> cases s1 <;> simp only [sign_mul_pp, sign_mul_pn, sign_mul_np, sign_mul_nn, Sign.apply, hl, hr, Int.neg_neg]

/-- odd in the first argument, even in the second: the sign of the first operand -/
theorem apply_odd_even {op : Int → Int → Int} (hl : ∀ a b, op (-a) b = -op a b) (hr : ∀ a b, op a (-b) = op a b)
    (s0 s1 : Sign) (m0 m1 : Int) : s0.apply (op m0 m1) = op (s0.apply m0) (s1.apply m1) := by
  cases s0 <;> cases s1 <;> simp only [Sign.apply, hl, hr]

theorem tdiv_signs (s0 s1 : Sign) (m0 m1 : Int) :
    (s0 * s1).apply (Int.tdiv m0 m1) = Int.tdiv (s0.apply m0) (s1.apply m1) :=
  apply_odd_odd Int.neg_tdiv Int.tdiv_neg s0 s1 m0 m1

theorem tmod_signs (s0 s1 : Sign) (m0 m1 : Int) :
    s0.apply (Int.tmod m0 m1) = Int.tmod (s0.apply m0) (s1.apply m1) :=
  apply_odd_even Int.neg_tmod Int.tmod_neg s0 s1 m0 m1

/-- C01: `IBig + IBig` (and the mixed UBig/IBig forms, which pass `Positive`) -/
theorem ibig_add_exact (s0 s1 : Sign) (m0 m1 : Int) (h0 : 0 ≤ m0) (h1 : 0 ≤ m1) :
    impl_ibig_add s0 m0 s1 m1 = s0.apply m0 + s1.apply m1 := by
  have hn : with_sign (m0 + m1) .Negative = -(m0 + m1) := with_sign_nonneg _ _ (by omega)
  cases s0 <;> cases s1
  · rfl
  · exact Int.sub_eq_add_neg
  · show m1 - m0 = -m0 + m1
    omega
  · exact hn.trans (Int.neg_add ..)

/-- C01: `IBig - IBig` -/
theorem ibig_sub_exact (s0 s1 : Sign) (m0 m1 : Int) (h0 : 0 ≤ m0) (h1 : 0 ≤ m1) :
    impl_ibig_sub s0 m0 s1 m1 = s0.apply m0 - s1.apply m1 := by
  have hn : with_sign (m0 + m1) .Negative = -(m0 + m1) := with_sign_nonneg _ _ (by omega)
  cases s0 <;> cases s1
  · rfl
  · show m0 + m1 = m0 - -m1
    omega
  · show with_sign (m0 + m1) .Negative = -m0 - m1
    omega
  · show m1 - m0 = -m0 - -m1
    omega

/-- C01: `IBig * IBig` -/
theorem ibig_mul_exact (s0 s1 : Sign) (m0 m1 : Int) (h0 : 0 ≤ m0) (h1 : 0 ≤ m1) :
    impl_ibig_mul s0 m0 s1 m1 = s0.apply m0 * s1.apply m1 :=
  (with_sign_nonneg _ _ (Int.mul_nonneg h0 h1)).trans (apply_odd_odd Int.neg_mul Int.mul_neg s0 s1 m0 m1)

-- ---------------------------------------------------------------- division family (C02)

/-- C02: `IBig / IBig` truncates toward zero -/
theorem ibig_div_exact (s0 s1 : Sign) (m0 m1 : Int) (h0 : 0 ≤ m0) (h1 : 0 < m1) :
    impl_ibig_div s0 m0 s1 m1 = Int.tdiv (s0.apply m0) (s1.apply m1) := by
  rw [← tdiv_signs, Int.tdiv_eq_ediv_of_nonneg h0]
  exact with_sign_nonneg _ _ (Int.ediv_nonneg h0 (by omega))

/-- C02: `IBig % IBig` takes the sign of the dividend -/
theorem ibig_rem_exact (s0 s1 : Sign) (m0 m1 : Int) (h0 : 0 ≤ m0) (h1 : 0 < m1) :
    impl_ibig_rem s0 m0 s1 m1 = Int.tmod (s0.apply m0) (s1.apply m1) := by
  rw [← tmod_signs, Int.tmod_eq_emod_of_nonneg h0]
  exact with_sign_nonneg _ _ (Int.emod_nonneg m0 (by omega))

/-- C02: `div_rem` on IBig = (truncated quotient, remainder with the dividend's sign) -/
theorem ibig_divrem_exact (s0 s1 : Sign) (m0 m1 : Int) (h0 : 0 ≤ m0) (h1 : 0 < m1) :
    impl_ibig_divrem s0 m0 s1 m1
      = (Int.tdiv (s0.apply m0) (s1.apply m1), Int.tmod (s0.apply m0) (s1.apply m1)) :=
  Prod.ext (ibig_div_exact s0 s1 m0 m1 h0 h1) (ibig_rem_exact s0 s1 m0 m1 h0 h1)

/-- floor division of a negated dividend, from the non-negative quotient and remainder -/
theorem neg_ediv_emod (m0 m1 : Int) (h1 : 0 < m1) :
    (-m0) / m1 = (if m0 % m1 = 0 then -(m0 / m1) else -(m0 / m1 + 1)) ∧
    (-m0) % m1 = (if m0 % m1 = 0 then 0 else m1 - m0 % m1) := by
  rw [Int.neg_ediv, Int.neg_emod, Int.sign_eq_one_of_pos h1]
  simp only [Int.dvd_iff_emod_eq_zero]
  split <;> omega

theorem ediv_neg' (a b : Int) : a / (-b) = -(a / b) := Int.ediv_neg a b
theorem emod_neg' (a b : Int) : a % (-b) = a % b := Int.emod_neg a b

/-- C02: `div_euclid` on IBig = Euclidean (floor-for-positive-divisor) quotient.
    (The case analysis is on the signs and on `m0 % m1 = 0`, then `simp` evaluates whatever `if` / `match` the
    regenerated text uses for the remainder test — in either polarity and arm order.) -/
theorem ibig_div_euclid_exact (s0 s1 : Sign) (m0 m1 : Int) (h0 : 0 ≤ m0) (h1 : 0 < m1) :
    impl_ibig_div_euclid s0 m0 s1 m1 = (s0.apply m0) / (s1.apply m1) := by
  have hq : 0 ≤ m0 / m1 := Int.ediv_nonneg h0 (by omega)
  have hq1 : 0 ≤ m0 / m1 + 1 := by omega
  have ⟨hn, _⟩ := neg_ediv_emod m0 m1 h1
  cases s0 <;> cases s1 <;> by_cases hz : m0 % m1 = 0 <;>
    simp [impl_ibig_div_euclid, mkIBig, div_rem, mul_, is_zero, add_one, into_typed, not_, HasNot.not_, Sign.apply,
      ediv_neg', hn, hz, with_sign_nonneg _ _ hq, with_sign_nonneg _ _ hq1]

/-- C02: `rem_euclid` on IBig = Euclidean remainder, in `[0, |b|)` -/
theorem ibig_rem_euclid_exact (s0 s1 : Sign) (m0 m1 : Int) (h0 : 0 ≤ m0) (h1 : 0 < m1) :
    impl_ibig_rem_euclid s0 m0 s1 m1 = (s0.apply m0) % (s1.apply m1) := by
  have ⟨_, hn⟩ := neg_ediv_emod m0 m1 h1
  cases s0 <;> cases s1 <;> by_cases hz : m0 % m1 = 0 <;>
    simp [impl_ibig_rem_euclid, mkUBig, rem_, sub_, is_zero, as_ref, into_typed, not_, HasNot.not_, Sign.apply,
      emod_neg', hn, hz]

/-- C02: `div_rem_euclid` on IBig -/
theorem ibig_divrem_euclid_exact (s0 s1 : Sign) (m0 m1 : Int) (h0 : 0 ≤ m0) (h1 : 0 < m1) :
    impl_ibig_divrem_euclid s0 m0 s1 m1
      = ((s0.apply m0) / (s1.apply m1), (s0.apply m0) % (s1.apply m1)) := by
  have hq : 0 ≤ m0 / m1 := Int.ediv_nonneg h0 (by omega)
  have hq1 : 0 ≤ m0 / m1 + 1 := by omega
  have ⟨hn, hn'⟩ := neg_ediv_emod m0 m1 h1
  cases s0 <;> cases s1 <;> by_cases hz : m0 % m1 = 0 <;>
    simp [impl_ibig_divrem_euclid, mkIBig, mkUBig, div_rem, sub_, not_, HasNot.not_, neg_, is_zero,
      add_one, as_ref, into_typed, Sign.apply, ediv_neg', emod_neg', hn, hn', hz, with_sign_nonneg _ _ hq,
      with_sign_nonneg _ _ hq1]

/-- C02: `UBig % IBig` and `UBig.div_rem(IBig)` (lhs sign is `Positive`) -/
theorem ubig_ibig_rem_exact (s1 : Sign) (m0 m1 : Int) (h0 : 0 ≤ m0) (h1 : 0 < m1) :
    impl_ubig_ibig_rem .Positive m0 s1 m1 = Int.tmod m0 (s1.apply m1) :=
  (Int.tmod_eq_emod_of_nonneg h0).symm.trans (tmod_signs .Positive s1 m0 m1)

theorem ubig_ibig_divrem_exact (s1 : Sign) (m0 m1 : Int) (h0 : 0 ≤ m0) (h1 : 0 < m1) :
    impl_ubig_ibig_divrem .Positive m0 s1 m1
      = (Int.tdiv m0 (s1.apply m1), Int.tmod m0 (s1.apply m1)) :=
  Prod.ext (by cases s1; exacts [ibig_div_exact .Positive .Positive m0 m1 h0 h1, ibig_div_exact .Positive .Negative m0 m1 h0 h1]) (ubig_ibig_rem_exact s1 m0 m1 h0 h1)

-- non-vacuity: the hypotheses are met by ordinary operands and the tables are not constant
example : impl_ibig_divrem_euclid .Negative 7 .Positive 3 = (-3, 2) := by decide +kernel
example : impl_ibig_divrem .Negative 7 .Negative 3 = (2, -1) := by decide +kernel

end Dashu.Props.GenInt
