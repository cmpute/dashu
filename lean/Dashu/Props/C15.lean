import Dashu.Props.GenInt
/-
  C15 — All forms of an operator give the same answer.

  How forms are decided here.  (1) The four ownership forms and the `*_assign` forms of every
  IBig/UBig operator are stamped out by `helper_macros.rs` from ONE body per operation (the sign
  tables regenerated into `Dashu/Gen/Glue.lean`); `Props/GenInt.lean` proves each body equal to the
  mathematical operation, so all of them equal the same value.  (2) The primitive-operand forms are
  `big.op(Big::from(prim)).try_into().unwrap()`: they agree with the big-operand form exactly when
  the result fits the primitive output type; the theorems below settle for which operations that
  is guaranteed (and exhibit the inputs where it is not — those are findings about the code).
  (3) That the implementation really has no other forms, and that each form computes what its body
  says, is the correspondence run over the table generated from the macro-expanded crate
  (`vlib/forms.py`: 1720 impls of dashu-int, every one called on every case; also the
  212 impls of dashu-ratio and the 606 impls of dashu-float (at two (mode, base) instantiations, with the
  `Context::op` method form at `Context::max` precision added by name) — the driver computes
  their common VALUE with the mirrored models of C03/C04 (`Driver/FormsMore.lean`, `Model/Forms/Float.lean`; theorems in
  `Props/C15Values`, `Props/C15GenEuclid`, `Props/C15Link`)).  (4) The trait-method forms `div_rem`,
  `div_rem_euclid` are proved equal to the pair of operator forms.
-/
namespace Dashu.Props.C15

/-- the primitive-form wrapper: `…try_into().unwrap()` — the big result is returned if it fits the
    output range `[lo, hi]`, otherwise the call panics (modelled as `none`) -/
def primForm (lo hi : Int) (r : Int) : Option Int := if lo ≤ r ∧ r ≤ hi then some r else none

/-- `UBig % uN` (and `UBig.div_rem(uN)`'s remainder): the remainder always fits `uN`, so the
    primitive forms agree with the `UBig % UBig` form for every operand. -/
theorem ubig_rem_unsigned_fits (a p hi : Int) (ha : 0 ≤ a) (hp : 0 < p) (hhi : p ≤ hi) :
    primForm 0 hi (Int.tmod a p) = some (Int.tmod a p) := by
  have h1 : 0 ≤ Int.tmod a p := Int.tmod_nonneg p ha
  have h2 : Int.tmod a p < p := Int.tmod_lt_of_pos a hp
  unfold primForm
  rw [if_pos ⟨h1, by omega⟩]

/-- `IBig % iN` with `p` in the signed range `[-2^k, 2^k - 1]`: the remainder fits `iN`. -/
theorem ibig_rem_signed_fits (a p : Int) (k : Nat) (hp0 : p ≠ 0)
    (hlo : -(2 ^ k : Int) ≤ p) (hhi : p ≤ 2 ^ k - 1) :
    primForm (-(2 ^ k : Int)) (2 ^ k - 1) (Int.tmod a p) = some (Int.tmod a p) := by
  unfold primForm
  rcases lt_or_gt_of_ne hp0 with hneg | hpos
  · have e : Int.tmod a p = Int.tmod a (-p) := by rw [Int.tmod_neg]
    have h1 := Int.tmod_lt_of_pos a (by omega : 0 < -p)
    have h2 := Int.lt_tmod_of_pos a (by omega : 0 < -p)
    rw [← e] at h1 h2
    rw [if_pos ⟨by omega, by omega⟩]
  · have h1 := Int.tmod_lt_of_pos a hpos
    have h2 := Int.lt_tmod_of_pos a hpos
    rw [if_pos ⟨by omega, by omega⟩]

/-- FINDING (C15/C16): `IBig % uN` does NOT always fit: the truncated remainder takes the sign of
    the dividend, so a negative dividend makes the primitive forms panic on `unwrap()` while
    `IBig % IBig` returns the (negative) remainder. -/
theorem ibig_rem_unsigned_counterexample :
    primForm 0 255 (Int.tmod (-7) 3) = none ∧ Int.tmod (-7) 3 = -1 := by decide

/-- `uN / UBig` fits `uN` (the quotient is at most the dividend) -/
theorem unsigned_div_ubig_fits (p b hi : Int) (hp : 0 ≤ p) (hhi : p ≤ hi) (hb : 0 < b) :
    primForm 0 hi (Int.tdiv p b) = some (Int.tdiv p b) := by
  have e : Int.tdiv p b = p / b := Int.tdiv_eq_ediv_of_nonneg hp
  have h1 : 0 ≤ p / b := Int.ediv_nonneg hp (by omega)
  have h2 : p / b ≤ p := Int.ediv_le_self b hp
  unfold primForm
  rw [e, if_pos ⟨h1, by omega⟩]

/-- FINDING (C15/C16): `iN / IBig` can leave the range: `(-128i8) / IBig(-1) = 128`. -/
theorem signed_div_ibig_counterexample :
    primForm (-128) 127 (Int.tdiv (-128) (-1)) = none ∧ Int.tdiv (-128) (-1) = 128 := by decide

/-- the ownership/assign forms of the IBig ring operators share one regenerated body each, so they
    all equal the same `Int` value (restated from `GenInt` for the record of this property) -/
theorem ibig_ring_forms_agree (s0 s1 : Dashu.Sign) (m0 m1 : Int) (h0 : 0 ≤ m0) (h1 : 0 ≤ m1) :
    Dashu.Gen.impl_ibig_add s0 m0 s1 m1 = s0.apply m0 + s1.apply m1 ∧
    Dashu.Gen.impl_ibig_sub s0 m0 s1 m1 = s0.apply m0 - s1.apply m1 ∧
    Dashu.Gen.impl_ibig_mul s0 m0 s1 m1 = s0.apply m0 * s1.apply m1 :=
  ⟨GenInt.ibig_add_exact s0 s1 m0 m1 h0 h1, GenInt.ibig_sub_exact s0 s1 m0 m1 h0 h1,
   GenInt.ibig_mul_exact s0 s1 m0 m1 h0 h1⟩

open Dashu.Gen

/-- trait-method form vs operator forms: `a.div_rem(b)` on IBig returns exactly the pair
    (`a / b`, `a % b`) of the operator bodies -/
theorem ibig_divrem_is_div_and_rem (s0 s1 : Dashu.Sign) (m0 m1 : Int) (h0 : 0 ≤ m0) (h1 : 0 < m1) :
    impl_ibig_divrem s0 m0 s1 m1 = (impl_ibig_div s0 m0 s1 m1, impl_ibig_rem s0 m0 s1 m1) := by
  rw [GenInt.ibig_divrem_exact s0 s1 m0 m1 h0 h1, GenInt.ibig_div_exact s0 s1 m0 m1 h0 h1,
    GenInt.ibig_rem_exact s0 s1 m0 m1 h0 h1]

/-- `a.div_rem_euclid(b)` = (`a.div_euclid(b)`, `a.rem_euclid(b)`) -/
theorem ibig_divrem_euclid_is_div_and_rem (s0 s1 : Dashu.Sign) (m0 m1 : Int) (h0 : 0 ≤ m0) (h1 : 0 < m1) :
    impl_ibig_divrem_euclid s0 m0 s1 m1
      = (impl_ibig_div_euclid s0 m0 s1 m1, impl_ibig_rem_euclid s0 m0 s1 m1) := by
  rw [GenInt.ibig_divrem_euclid_exact s0 s1 m0 m1 h0 h1, GenInt.ibig_div_euclid_exact s0 s1 m0 m1 h0 h1,
    GenInt.ibig_rem_euclid_exact s0 s1 m0 m1 h0 h1]

/-- the mixed form `UBig.div_rem(IBig)`: its remainder is `UBig % IBig`, and both are what the
    IBig forms give on the converted left operand -/
theorem ubig_ibig_forms_agree (s1 : Dashu.Sign) (m0 m1 : Int) (h0 : 0 ≤ m0) (h1 : 0 < m1) :
    (impl_ubig_ibig_divrem .Positive m0 s1 m1).2 = impl_ubig_ibig_rem .Positive m0 s1 m1 ∧
    impl_ubig_ibig_divrem .Positive m0 s1 m1 = impl_ibig_divrem .Positive m0 s1 m1 ∧
    impl_ubig_ibig_rem .Positive m0 s1 m1 = impl_ibig_rem .Positive m0 s1 m1 := by
  rw [GenInt.ubig_ibig_divrem_exact s1 m0 m1 h0 h1, GenInt.ubig_ibig_rem_exact s1 m0 m1 h0 h1,
    GenInt.ibig_divrem_exact .Positive s1 m0 m1 h0 h1, GenInt.ibig_rem_exact .Positive s1 m0 m1 h0 h1]
  simp [Dashu.Sign.apply]

/-- `iN / IBig` fits `iN` for every operand pair except `iN::MIN / -1` -/
theorem signed_div_ibig_fits (p b : Int) (k : Nat) (hlo : -(2 ^ k : Int) ≤ p) (hhi : p ≤ 2 ^ k - 1)
    (hb : b ≠ 0) (hne : ¬ (p = -(2 ^ k : Int) ∧ b = -1)) :
    primForm (-(2 ^ k : Int)) (2 ^ k - 1) (Int.tdiv p b) = some (Int.tdiv p b) := by
  unfold primForm
  have hq : (Int.tdiv p b).natAbs = p.natAbs / b.natAbs := Int.natAbs_tdiv p b
  have hb1 : 1 ≤ b.natAbs := by omega
  have hle : p.natAbs / b.natAbs ≤ p.natAbs := Nat.div_le_self _ _
  have hK : (0 : Int) < 2 ^ k := by positivity
  by_cases hb2 : 2 ≤ b.natAbs
  · have hlt : p.natAbs / b.natAbs < p.natAbs ∨ p.natAbs = 0 := by
      rcases Nat.eq_zero_or_pos p.natAbs with h | h
      · exact Or.inr h
      · exact Or.inl (Nat.div_lt_self h hb2)
    rw [if_pos ⟨by omega, by omega⟩]
  · have hb' : b = 1 ∨ b = -1 := by omega
    rcases hb' with rfl | rfl
    · rw [Int.tdiv_one]; rw [if_pos ⟨hlo, hhi⟩]
    · have : Int.tdiv p (-1) = -p := by rw [Int.tdiv_neg, Int.tdiv_one]
      rw [this]
      have : p ≠ -(2 ^ k : Int) := fun h => hne ⟨h, rfl⟩
      rw [if_pos ⟨by omega, by omega⟩]

/-- FINDING (C15): `uN / IBig` with a negative divisor leaves the unsigned range -/
theorem unsigned_div_negative_ibig_counterexample :
    primForm 0 255 (Int.tdiv 8 (-8)) = none ∧ Int.tdiv 8 (-8) = -1 := by decide

-- non-vacuity: every hypothesis set above is satisfiable on a non-trivial value
example : primForm 0 255 (Int.tmod 1000 7) = some 6 := ubig_rem_unsigned_fits 1000 7 255 (by decide) (by decide) (by decide)
example : primForm (-128) 127 (Int.tmod (-1000) (-128)) = some (-104) :=
  ibig_rem_signed_fits (-1000) (-128) 7 (by decide) (by decide) (by decide)
example : primForm 0 255 (Int.tdiv 200 7) = some 28 := unsigned_div_ubig_fits 200 7 255 (by decide) (by decide) (by decide)
example : primForm (-128) 127 (Int.tdiv (-128) 1) = some (-128) :=
  signed_div_ibig_fits (-128) 1 7 (by decide) (by decide) (by decide) (by decide)
example : primForm (-128) 127 (Int.tdiv (-127) (-1)) = some 127 :=
  signed_div_ibig_fits (-127) (-1) 7 (by decide) (by decide) (by decide) (by decide)
example : impl_ibig_add .Negative 5 .Positive 3 = -2 ∧ impl_ibig_sub .Negative 5 .Positive 3 = -8 ∧
    impl_ibig_mul .Negative 5 .Positive 3 = -15 :=
  ibig_ring_forms_agree .Negative .Positive 5 3 (by decide) (by decide)
example : impl_ibig_divrem .Negative 7 .Positive 3 = (-2, -1) := by
  rw [ibig_divrem_is_div_and_rem .Negative .Positive 7 3 (by decide) (by decide)]; decide
example : impl_ibig_divrem_euclid .Negative 7 .Positive 3 = (-3, 2) := by
  rw [ibig_divrem_euclid_is_div_and_rem .Negative .Positive 7 3 (by decide) (by decide)]; decide
example : (impl_ubig_ibig_divrem .Positive 7 .Negative 3).2 = impl_ubig_ibig_rem .Positive 7 .Negative 3 :=
  (ubig_ibig_forms_agree .Negative 7 3 (by decide) (by decide)).1

/-
  C15 — the primitive-operand forms `big.op(Big::from(prim)).try_into().unwrap()`: EXACT failing-input classes.
  For the three "does not fit" clauses the theorems above give a counterexample each (`ibig_rem_unsigned_counterexample`,
  `unsigned_div_negative_ibig_counterexample`, `signed_div_ibig_counterexample` at k = 7).  The theorems below decide, for
  every operand pair, whether the primitive form returns the big-operand form's value or panics; the `if` conditions are
  literally the `py` predicates of the two recorded integer findings of this property (known_findings.jsonl, C15 lines
  "impl Rem<uN>… for IBig" and "impl Div<IBig> for iN/uN").
-/

/-- `IBig % uN` / `IBig.div_rem(uN)` / `div_rem_assign(uN)` (divisor `0 < p ≤ uN::MAX = hi`), every dividend: the primitive
    forms panic exactly for a NEGATIVE dividend with a non-zero remainder, and return `IBig % IBig` otherwise
    (finding predicate: `I(3) < 0 and 0 < I(4) and abs(I(3)) % I(4) != 0`) -/
theorem ibig_rem_unsigned_exact (a p hi : Int) (hp : 0 < p) (hhi : p ≤ hi) :
    primForm 0 hi (Int.tmod a p) = if a < 0 ∧ (-a) % p ≠ 0 then none else some (Int.tmod a p) := by
  unfold primForm
  by_cases ha : a < 0
  · have e : Int.tmod a p = -((-a) % p) := by
      have h1 : Int.tmod (-(-a)) p = -(Int.tmod (-a) p) := Int.neg_tmod (-a) p
      rw [Int.neg_neg] at h1
      rw [h1, Int.tmod_eq_emod_of_nonneg (by omega : 0 ≤ -a)]
    have h0 : 0 ≤ (-a) % p := Int.emod_nonneg _ (by omega)
    have h2 : (-a) % p < p := Int.emod_lt_of_pos _ hp
    rw [e]
    generalize (-a) % p = r at h0 h2 ⊢
    by_cases hr : r = 0
    · subst hr
      rw [if_pos ⟨by omega, by omega⟩, if_neg (by simp)]
    · rw [if_neg (by omega), if_pos ⟨ha, hr⟩]
  · have h1 : 0 ≤ Int.tmod a p := Int.tmod_nonneg p (by omega)
    have h2 : Int.tmod a p < p := Int.tmod_lt_of_pos a hp
    rw [if_pos ⟨h1, by omega⟩, if_neg (fun h => ha h.1)]

/-- `uN / IBig` (dividend `0 ≤ p ≤ uN::MAX = hi`, output type `uN`), every non-zero divisor: the primitive form panics exactly
    when the quotient is negative, i.e. for a negative divisor of magnitude at most the dividend, and returns `IBig / IBig` otherwise
    (finding predicate, unsigned part: `0 <= I(3) and I(4) < 0 and I(3) >= -I(4)`) -/
theorem unsigned_div_ibig_exact (p b hi : Int) (hp : 0 ≤ p) (hhi : p ≤ hi) (hb : b ≠ 0) :
    primForm 0 hi (Int.tdiv p b) = if b < 0 ∧ -b ≤ p then none else some (Int.tdiv p b) := by
  by_cases hneg : b < 0
  · have e : Int.tdiv p b = -(p / (-b)) := by
      have h1 : Int.tdiv p (-(-b)) = -(Int.tdiv p (-b)) := Int.tdiv_neg p (-b)
      rw [Int.neg_neg] at h1
      rw [h1, Int.tdiv_eq_ediv_of_nonneg hp]
    have hq0 : 0 ≤ p / (-b) := Int.ediv_nonneg hp (by omega)
    have hq1 : p / (-b) ≤ p := Int.ediv_le_self _ hp
    unfold primForm
    rw [e]
    by_cases hle : -b ≤ p
    · have hq : 1 ≤ p / (-b) := Int.le_ediv_of_mul_le (by omega) (by omega)
      rw [if_neg (by omega), if_pos ⟨hneg, hle⟩]
    · have hq : p / (-b) = 0 := Int.ediv_eq_zero_of_lt hp (by omega)
      rw [hq]
      rw [if_pos ⟨by omega, by omega⟩, if_neg (fun h => hle h.2)]
  · rw [unsigned_div_ubig_fits p b hi hp hhi (by omega), if_neg (fun h => hneg h.1)]

/-- `iN / IBig` (dividend in `[-2^k, 2^k-1]`, output type `iN`), every non-zero divisor: the primitive form panics exactly
    for `iN::MIN / -1` and returns `IBig / IBig` otherwise (finding predicate, signed part: `I(4) == -1 and I(3) == -2^(N-1)`) -/
theorem signed_div_ibig_exact (p b : Int) (k : Nat) (hlo : -(2 ^ k : Int) ≤ p) (hhi : p ≤ 2 ^ k - 1) (hb : b ≠ 0) :
    primForm (-(2 ^ k : Int)) (2 ^ k - 1) (Int.tdiv p b)
      = if p = -(2 ^ k : Int) ∧ b = -1 then none else some (Int.tdiv p b) := by
  by_cases h : p = -(2 ^ k : Int) ∧ b = -1
  · rw [if_pos h]
    obtain ⟨rfl, rfl⟩ := h
    have : Int.tdiv (-(2 ^ k : Int)) (-1) = 2 ^ k := by rw [Int.tdiv_neg, Int.tdiv_one, Int.neg_neg]
    unfold primForm
    rw [this, if_neg (by omega)]
  · rw [if_neg h, signed_div_ibig_fits p b k hlo hhi hb h]

-- non-vacuity: both sides of every `if`, on non-trivial operands
example : primForm 0 255 (Int.tmod (-1000) 7) = none := by
  rw [ibig_rem_unsigned_exact (-1000) 7 255 (by decide) (by decide)]; decide
example : primForm 0 255 (Int.tmod (-1001) 7) = some 0 := by
  rw [ibig_rem_unsigned_exact (-1001) 7 255 (by decide) (by decide)]; decide
example : primForm 0 255 (Int.tdiv 200 (-7)) = none := by
  rw [unsigned_div_ibig_exact 200 (-7) 255 (by decide) (by decide) (by decide)]; decide
example : primForm 0 255 (Int.tdiv 200 (-201)) = some 0 := by
  rw [unsigned_div_ibig_exact 200 (-201) 255 (by decide) (by decide) (by decide)]; decide
example : primForm (-(2 ^ 63 : Int)) (2 ^ 63 - 1) (Int.tdiv (-(2 ^ 63 : Int)) (-1)) = none := by
  rw [signed_div_ibig_exact (-(2 ^ 63 : Int)) (-1) 63 (by decide) (by decide) (by decide)]; decide
example : primForm (-(2 ^ 63 : Int)) (2 ^ 63 - 1) (Int.tdiv (-(2 ^ 63 : Int)) 3) = some (-3074457345618258602) := by
  rw [signed_div_ibig_exact (-(2 ^ 63 : Int)) 3 63 (by decide) (by decide) (by decide)]; decide

end Dashu.Props.C15
