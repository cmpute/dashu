import Dashu.Props.C05Order
import Dashu.Proofs.Text.ConvDigits
/-
  C05 ↔ C08 link, for the clause "cmp of floats produced by `with_base` / `with_base_and_precision`":
  the producer is not an instruction of `float_history` (it changes the base).  C08 mirrors `Context::convert_base`
  (`Model/Text/Float.lean: convertBase`, executed by C08's driver against the real code; code as of fixes 02e179b / 0c0f651 /
  bd48ef9: every branch rounds to the target precision).  Here: every `.ok` result of that mirrored body (= every return that
  does not go through `ln`/`exp`) at a limited precision `p` is normalised, finite and carries at most `p + 1` digits of the
  NEW base — it is a good register (`FGood`) — so `cmp`/`==` on such results follow the values, and any float history may
  start from them.
-/
namespace Dashu.Props.C05
open Dashu.Model Dashu.Model.Float Dashu.Model.Text

/-- `x.r` is what `with_base_and_precision::<NB>(x.p)` (`with_base::<NB>()` when `x.p` is the derived precision
    `withBasePrecision`) returned for some float of some base `B ≥ 2`, rounding mode and word size -/
def BaseResult (NB : Nat) (x : FReg) : Prop :=
  ∃ (W B : Nat) (m : Mode) (r : Float.FRepr) (fl : Option Rounding),
    2 ≤ B ∧ 1 ≤ x.p ∧ convertBase W B NB m x.p r = .ok (x.r, fl)

/-- **results of `with_base` / `with_base_and_precision` are good registers** (any two bases ≥ 2, equal or not, any mode,
    any operand, precision `p ≥ 1`): canonical (`Repr::new` / `repr_round` / `repr_div` end every branch), finite, and at most
    `p + 1` digits of the new base (C08's `convertBase_digits_le_all` = Props.C08.convert_base_result_digits) -/
theorem float_with_base_results_good (W B NB : Nat) (hB : 2 ≤ B) (hNB : 2 ≤ NB) (m : Mode) (p : Nat) (hp : 1 ≤ p)
    (r : Float.FRepr) (res : Rounded Float.FRepr) (h : convertBase W B NB m p r = .ok res) :
    FGood NB ⟨res.1, p⟩ := by
  have hN := new_normFin NB hNB
  have key : NormFin NB res.1 := by
    rcases convertBase_ok_cases W B NB hB hNB m p r res h with
      ⟨s, e, _, rfl⟩ | ⟨num, den, _, _, ⟨_, rfl⟩ | ⟨_, hdiv⟩⟩
    · exact reprRound_keeps hN m _ p (hN _ _)
    · unfold divRoundLong
      dsimp only
      split <;> exact hN _ _
    · exact reprDiv_keeps hN hdiv
  exact ⟨key.1, key.2, convertBase_digits_le_all W B NB hB hNB m p hp r res h⟩

theorem BaseResult.good {NB : Nat} (hNB : 2 ≤ NB) {x : FReg} (h : BaseResult NB x) : FGood NB x := by
  obtain ⟨W, B, m, r, fl, hB, hp, h⟩ := h
  exact float_with_base_results_good W B NB hB hNB m x.p hp r (x.r, fl) h

/-- two good registers of precisions `≤ isize::MAX`: the code's comparison is the order of the values, `==` ⇔ equal values -/
theorem good_pair_value_order (B : Nat) (hB : 2 ≤ B) (digitsUb : Int → Nat) (hub : ∀ s : Int, s.natAbs < B ^ digitsUb s)
    (a b : FReg) (ga : FGood B a) (gb : FGood B b) (hpa : a.p ≤ cmpIsizeMax) (hpb : b.p ≤ cmpIsizeMax) :
    let c := reprCmpSameBase B digitsUb (ofFloatRepr a.r) (ofFloatRepr b.r) (some (a.p, b.p))
    c = specFCmp B (ofFloatRepr a.r) (ofFloatRepr b.r) ∧
    (c = .lt ↔ (ofFloatRepr a.r).val B < (ofFloatRepr b.r).val B) ∧
    (c = .eq ↔ (ofFloatRepr a.r).val B = (ofFloatRepr b.r).val B) ∧
    (c = .gt ↔ (ofFloatRepr b.r).val B < (ofFloatRepr a.r).val B) ∧
    (fbigEq (ofFloatRepr a.r) (ofFloatRepr b.r) = true ↔ c = .eq) :=
  good_pair_order B hB digitsUb hub a b ga gb (ga.2.2.mem_of_le hpa) (gb.2.2.mem_of_le hpb)

/-- **C05 for `with_base` results**: the comparison the code runs on ANY two results of `with_base` /
    `with_base_and_precision` into the same base `NB` — converted from any (possibly different) source bases, of any operands,
    at any two precisions `≤ isize::MAX`, any modes — decides `<`, `=`, `>` of their exact values, and `==` ⇔ `Equal` -/
theorem float_cmp_of_with_base_results (NB : Nat) (hNB : 2 ≤ NB) (digitsUb : Int → Nat)
    (hub : ∀ s : Int, s.natAbs < NB ^ digitsUb s) (a b : FReg) (ha : BaseResult NB a) (hb : BaseResult NB b)
    (hpa : a.p ≤ cmpIsizeMax) (hpb : b.p ≤ cmpIsizeMax) :
    let c := reprCmpSameBase NB digitsUb (ofFloatRepr a.r) (ofFloatRepr b.r) (some (a.p, b.p))
    c = specFCmp NB (ofFloatRepr a.r) (ofFloatRepr b.r) ∧
    (c = .lt ↔ (ofFloatRepr a.r).val NB < (ofFloatRepr b.r).val NB) ∧
    (c = .eq ↔ (ofFloatRepr a.r).val NB = (ofFloatRepr b.r).val NB) ∧
    (c = .gt ↔ (ofFloatRepr b.r).val NB < (ofFloatRepr a.r).val NB) ∧
    (fbigEq (ofFloatRepr a.r) (ofFloatRepr b.r) = true ↔ c = .eq) :=
  good_pair_value_order NB hNB digitsUb hub a b (ha.good hNB) (hb.good hNB) hpa hpb

private theorem conv_ok_of_match (e : ConvResult) (v : Float.FRepr)
    (h : (match e with | .ok r => decide (r.1 = v) | _ => false) = true) : ∃ fl, e = .ok (v, fl) := by
  cases e with
  | ok r =>
    obtain ⟨v', fl⟩ := r
    simp only [decide_eq_true_eq] at h
    exact ⟨fl, by rw [h]⟩
  | unlimitedPrecision => simp at h
  | lnExp => simp at h

-- non-vacuity: `3·2^38` (binary) `.with_base::<10>()` at precision 3 = 825·10^9 (rounded: the multiplication branch; before fix
-- 02e179b the unrounded 824633720832 of `float_cmp_needs_precision_bound`), `2^-4` = 625·10^-4 (the `repr_div` branch),
-- `15625·2^7` at precision 1 = 2·10^6 ARE results of the mirrored body, and the code now orders 825·10^9 ABOVE 2·10^6
-- (precisions 3 / 1) and 625·10^-4 below it
example : BaseResult 10 ⟨⟨825, 9⟩, 3⟩ ∧ BaseResult 10 ⟨⟨625, -4⟩, 3⟩ ∧ BaseResult 10 ⟨⟨2, 6⟩, 1⟩ ∧
    reprCmpSameBase 10 (fun s => digitsI 10 s) ⟨825, 9⟩ ⟨2, 6⟩ (some (3, 1)) = .gt ∧
    reprCmpSameBase 10 (fun s => digitsI 10 s) ⟨625, -4⟩ ⟨2, 6⟩ (some (3, 1)) = .lt := by
  refine ⟨?_, ?_, ?_, by decide +kernel, by decide +kernel⟩
  · obtain ⟨fl, h⟩ := conv_ok_of_match (convertBase 64 2 10 .halfEven 3 ⟨3, 38⟩) ⟨825, 9⟩ (by decide +kernel)
    exact ⟨64, 2, .halfEven, ⟨3, 38⟩, fl, by decide, by decide, h⟩
  · obtain ⟨fl, h⟩ := conv_ok_of_match (convertBase 64 2 10 .zero 3 ⟨1, -4⟩) ⟨625, -4⟩ (by decide +kernel)
    exact ⟨64, 2, .zero, ⟨1, -4⟩, fl, by decide, by decide, h⟩
  · obtain ⟨fl, h⟩ := conv_ok_of_match (convertBase 64 2 10 .zero 1 ⟨15625, 7⟩) ⟨2, 6⟩ (by decide +kernel)
    exact ⟨64, 2, .zero, ⟨15625, 7⟩, fl, by decide, by decide, h⟩

/-- **float histories may start from `with_base` results**: run any program of the float producers over a register file that
    initially holds results of `with_base` into the history's base; every register ever produced is good, so `cmp` on any two
    of them (a converted value against a value computed from converted values, …) is the order of the values -/
theorem float_history_from_with_base_results (k : FCfg) (hB : 2 ≤ k.B) (hdub : Float.DubSound k.B k.dub)
    (hdlb : Float.DlbSound k.B k.dlb) (ops : List FOp) (hok : ∀ op ∈ ops, op.Ok) (env : List FReg)
    (henv : ∀ x ∈ env, BaseResult k.B x) (digitsUb : Int → Nat) (hub : ∀ s : Int, s.natAbs < k.B ^ digitsUb s)
    (a b : FReg) (ha : a ∈ frun k ops env) (hb : b ∈ frun k ops env)
    (hpa : a.p ≤ cmpIsizeMax) (hpb : b.p ≤ cmpIsizeMax) :
    let c := reprCmpSameBase k.B digitsUb (ofFloatRepr a.r) (ofFloatRepr b.r) (some (a.p, b.p))
    c = specFCmp k.B (ofFloatRepr a.r) (ofFloatRepr b.r) ∧
    (c = .lt ↔ (ofFloatRepr a.r).val k.B < (ofFloatRepr b.r).val k.B) ∧
    (c = .eq ↔ (ofFloatRepr a.r).val k.B = (ofFloatRepr b.r).val k.B) ∧
    (c = .gt ↔ (ofFloatRepr b.r).val k.B < (ofFloatRepr a.r).val k.B) ∧
    (fbigEq (ofFloatRepr a.r) (ofFloatRepr b.r) = true ↔ c = .eq) := by
  have g := float_history k hB hdub hdlb ops hok env (fun x hx => (henv x hx).good hB)
  exact good_pair_value_order k.B hB digitsUb hub a b (g a ha) (g b hb) hpa hpb

-- non-vacuity: the history [with_base result 825·10^9 (p 3), with_base result 2·10^6 (p 1)] + `reg0 − reg1` at precision 3
example :
    let k : FCfg := ⟨10, .halfEven, Float.coarseNone, fun s => Float.digitsI 10 s, fun s => Float.digitsI 10 s, Float.natSqrtRem⟩
    (∀ op ∈ [FOp.sub 0 1 3], op.Ok) ∧
    (frun k [.sub 0 1 3] [⟨⟨825, 9⟩, 3⟩, ⟨⟨2, 6⟩, 1⟩]).map (fun x => (x.r.signif, x.r.exp, x.p))
      = [(825, 9, 3), (2, 6, 1), (825, 9, 3)] := by
  refine ⟨?_, by decide +kernel⟩
  intro op hop
  simp only [List.mem_singleton] at hop
  subst hop
  show 1 ≤ 3
  decide

end Dashu.Props.C05
