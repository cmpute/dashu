import Dashu.Model.Macro.Literal
import Dashu.Gen.MacroGen
/-
  C20 — Tie A for the token loops: the `for token in input { match token { … } }` state machines of
  `parse_integer_with_error` (macros/src/parse/int.rs) and `parse_ratio_with_error` (ratio.rs) as
  REGENERATED from the source (`Gen/MacroGen.lean`: one function per token kind over a record of the
  `let mut` variables) against the hand model the driver executes and Props/C20 reasons about
  (`intStepNew`, `ratStepNew`): the hand model simulates the regenerated machine step by step, under the
  abstraction that forgets which token a value came from and splits `Option Bool` signs into the two
  flags `*_signed` / `*_neg` of the code.
-/
namespace Dashu.Props.C20GenLoop
open Dashu.Model.Serde Dashu.Model.Macro Dashu.Gen.Macro

/-- the flag `*_neg` of the code from the `Option Bool` sign of the hand model -/
theorem some_beq_some_true (b : Bool) : (some b == some true) = b := by cases b <;> rfl

/-- the code's variables for a state of the hand model -/
def absI (st : IS) : IntLoop :=
  { val := st.val.map Tok.text, neg := st.sign == some true, sign_marked := st.sign.isSome,
    base_marked := st.baseMarked, base := st.base }

/-- one iteration of the regenerated loop on a token of the hand model -/
def intGenStep (signed : Bool) (st : IntLoop) : Tok → Option IntLoop
  | .lit s => int_loop_literal signed st s
  | .ident s => int_loop_ident signed st s
  | .punct c => int_loop_punct signed st c
  | .group _ => none

/-- **the hand-written integer token loop is the regenerated one**, step by step, for every state and token -/
theorem int_loop_regenerated (signed : Bool) (st : IS) (t : Tok) :
    (intStepNew signed st t).map absI = intGenStep signed (absI st) t := by
  -- the model's `if` chain with `absI` pushed into its branches; then the guards agree because `absI` keeps
  -- `isNone` / `isSome` of every field, and every update commutes with `absI` by unfolding
  cases t <;>
    simp only [intStepNew, apply_ite (Option.map absI), Option.map_some, Option.map_none] <;>
    simp only [intGenStep, int_loop_literal, int_loop_ident, int_loop_punct, absI, Tok.text, baseKw, Option.isNone_map,
      Option.map_some, Option.not_isSome, Option.isSome_some, some_beq_some_true] <;>
    rfl

/-- the regenerated machine run over a token list -/
def intGenLoop (signed : Bool) : IntLoop → List Tok → Option IntLoop
  | st, [] => some st
  | st, t :: ts => (intGenStep signed st t).bind fun st' => intGenLoop signed st' ts

/-- the whole loop: running the hand model and abstracting = running the regenerated machine from the
    abstracted state -/
theorem int_loop_run_regenerated (signed : Bool) (toks : List Tok) (st : IS) :
    (intLoopNew signed st toks).map absI = intGenLoop signed (absI st) toks := by
  induction toks generalizing st with
  | nil => rfl
  | cons t ts ih =>
    unfold intLoopNew intGenLoop
    rw [← int_loop_regenerated]
    cases h : intStepNew signed st t with
    | none => rfl
    | some st' => simpa using ih st'

/-- the start state: all `None` / `false` -/
theorem int_loop_start : absI {} = {} := rfl

-- ====================================================================== rbig!

def absR (st : RS) : RatioLoop :=
  { num_val := st.nVal.map Tok.text, num_neg := st.nSign == some true, num_signed := st.nSign.isSome,
    den_val := st.dVal.map Tok.text, den_neg := st.dSign == some true, den_signed := st.dSign.isSome,
    den_marked := st.marked, relaxed := st.rel, base_marked := st.baseMarked, base := st.base }

def ratGenStep (st : RatioLoop) : Tok → Option RatioLoop
  | .lit s => ratio_loop_literal st s
  | .ident s => ratio_loop_ident st s
  | .punct c => ratio_loop_punct st c
  | .group _ => none

/-- **the hand-written rational token loop is the regenerated one**, step by step, for every state and token -/
theorem ratio_loop_regenerated (st : RS) (t : Tok) :
    (ratStepNew st t).map absR = ratGenStep (absR st) t := by
  cases t <;>
    simp only [ratStepNew, apply_ite (Option.map absR), Option.map_some, Option.map_none] <;>
    simp only [ratGenStep, ratio_loop_literal, ratio_loop_ident, ratio_loop_punct, absR, Tok.text, baseKw,
      Option.isNone_map, Option.isSome_map, Option.map_some, Option.not_isSome, Option.isSome_some,
      some_beq_some_true] <;>
    rfl

def ratGenLoop : RatioLoop → List Tok → Option RatioLoop
  | st, [] => some st
  | st, t :: ts => (ratGenStep st t).bind fun st' => ratGenLoop st' ts

theorem ratio_loop_run_regenerated (toks : List Tok) (st : RS) :
    (ratLoopNew st toks).map absR = ratGenLoop (absR st) toks := by
  induction toks generalizing st with
  | nil => rfl
  | cons t ts ih =>
    unfold ratLoopNew ratGenLoop
    rw [← ratio_loop_regenerated]
    cases h : ratStepNew st t with
    | none => rfl
    | some st' => simpa using ih st'

theorem ratio_loop_start : absR {} = {} := rfl

-- ====================================================================== behind the loop of ubig!/ibig!

/-- **the code of `parse_integer_with_error` behind the token loop is the regenerated one**: the hand model
    `intFinishNew` = the regenerated `int_finish` on the code's variables, with the run-time parsers the model
    uses (`parseU32` = `str::parse::<u32>`, `ubigRadixOpt` = `UBig::from_str_radix`, `ubigPrefixOpt · 10` =
    `UBig::from_str_with_radix_prefix`), for every state -/
theorem int_finish_regenerated (st : IS) :
    intFinishNew st = int_finish parseU32 ubigRadixOpt (fun s => ubigPrefixOpt s 10) (absI st) := by
  obtain ⟨sign, val, baseMarked, base⟩ := st
  cases val <;> cases base <;> simp [intFinishNew, int_finish, absI] <;> rfl

/-- the whole function: `intNew` (what the driver runs, what the grammar theorems of Props/C20 are about) is
    the regenerated loop from the regenerated start state followed by the regenerated finish -/
theorem int_parse_regenerated (signed : Bool) (toks : List Tok) :
    intNew signed toks =
      (intGenLoop signed {} toks).bind (int_finish parseU32 ubigRadixOpt (fun s => ubigPrefixOpt s 10)) := by
  unfold intNew
  rw [← int_loop_start, ← int_loop_run_regenerated]
  cases intLoopNew signed {} toks with
  | none => rfl
  | some st => simp [int_finish_regenerated]

/-- the radix parser of the model accepts exactly what fits the regenerated integer width -/
theorem int_finish_radix_width (b : Bytes) (r : Nat) (h : parseU32 b = some r) : r < 2 ^ int_finish_radix_bits := by
  have aux : ∀ body : Bytes, (if body.isEmpty then none
      else if body.all (fun c => 48 ≤ c && c ≤ 57) then
        (let m : Nat := body.foldl (fun a c => a * 10 + (c - 48)) 0
         if m < 2 ^ 32 then some m else none)
      else none) = some r → r < 2 ^ 32 := by
    intro body hb
    by_cases h1 : body.isEmpty = true
    · simp [h1] at hb
    · by_cases h2 : body.all (fun c => 48 ≤ c && c ≤ 57) = true
      · simp only [h1, h2, if_true, Bool.false_eq_true, if_false] at hb
        by_cases h3 : body.foldl (fun a c => a * 10 + (c - 48)) 0 < 2 ^ 32
        · simp only [h3, if_true, Option.some.injEq] at hb; omega
        · simp [h3] at hb
      · simp [h1, h2] at hb
  unfold parseU32 at h
  exact aux _ h

-- ====================================================================== behind the loop of rbig!

/-- `RBig::from_parts_signed(num, den)` / `Relaxed::from_parts_signed` by value: zero denominator panics
    (`none`), the sign of the denominator moves to the numerator, then the reduction of the type -/
def fromPartsSigned (red : Int → Nat → QVal) (n d : Int) : Option QVal :=
  if d = 0 then none else some (red (if d < 0 then -n else n) d.natAbs)

theorem signed_parts (nn dn : Bool) (n d : Nat) (hd : d ≠ 0) (red : Int → Nat → QVal) :
    fromPartsSigned red ((if nn then -1 else 1) * (n : Int)) ((if dn then -1 else 1) * (d : Int)) =
      some (red (signedVal (nn != dn) n) d) := by
  have hd' : (0 : Int) < d := by omega
  unfold fromPartsSigned signedVal
  have h1 : ¬ ((d : Int) < 0) := by omega
  have h2 : 0 < d := by omega
  cases nn <;> cases dn <;> simp [hd, h1, h2]

theorem signed_parts_zero (nn dn : Bool) (n : Nat) (red : Int → Nat → QVal) :
    fromPartsSigned red ((if nn then -1 else 1) * (n : Int)) ((if dn then -1 else 1) * ((0 : Nat) : Int)) = none := by
  unfold fromPartsSigned; simp

theorem finish_tail (rel nn dn : Bool) (p : Nat × Nat) :
    ((if rel then fromPartsSigned qreduce2 ((if nn then -1 else 1) * (p.1 : Int)) ((if dn then -1 else 1) * (p.2 : Int))
      else fromPartsSigned qreduce ((if nn then -1 else 1) * (p.1 : Int)) ((if dn then -1 else 1) * (p.2 : Int))).map
        fun q => (q, rel)) =
    if p.2 = 0 then none
    else some (if rel then qreduce2 (signedVal (nn != dn) p.1) p.2 else qreduce (signedVal (nn != dn) p.1) p.2, rel) := by
  obtain ⟨n, d⟩ := p
  by_cases hd : d = 0
  · subst hd; simp only [signed_parts_zero]; cases rel <;> simp
  · simp only [signed_parts _ _ _ _ hd, hd, if_false]; cases rel <;> simp

/-- **the code of `parse_ratio_with_error` behind the token loop is the regenerated one**: the hand model
    `ratFinishNew` = the regenerated `ratio_finish` on the code's variables, with the run-time parsers of the
    model and `from_parts_signed` by value, for every state -/
theorem ratio_finish_regenerated (st : RS) :
    ratFinishNew st =
      ratio_finish parseU32 ubigRadixOpt (fun s => ubigPrefixOpt s 10) ubigPrefixOpt
        (fromPartsSigned qreduce2) (fromPartsSigned qreduce) (absR st) := by
  obtain ⟨rel, nSign, nVal, marked, dSign, dVal, baseMarked, base⟩ := st
  cases nVal with
  | none => simp [ratFinishNew, ratio_finish, absR]
  | some nt =>
    unfold ratio_finish
    simp only [finish_tail]
    cases dVal <;> cases base <;>
      simp [ratFinishNew, absR, optSign]
    all_goals first | rfl | (congr 1; funext x; obtain ⟨a, b⟩ := x; rfl)

/-- the whole function: `ratNew` (what the driver runs, what the grammar / value theorems of Props/C20 are about)
    is the regenerated loop from the regenerated start state followed by the regenerated finish -/
theorem ratio_parse_regenerated (toks : List Tok) :
    ratNew toks =
      (ratGenLoop {} toks).bind (ratio_finish parseU32 ubigRadixOpt (fun s => ubigPrefixOpt s 10) ubigPrefixOpt
        (fromPartsSigned qreduce2) (fromPartsSigned qreduce)) := by
  unfold ratNew
  rw [← ratio_loop_start, ← ratio_loop_run_regenerated]
  cases ratLoopNew {} toks with
  | none => rfl
  | some st => simp [ratio_finish_regenerated]

/-- non-vacuity: the sign of the denominator moves to the numerator, a zero denominator panics -/
example : fromPartsSigned qreduce (-6) (-4) = some (qreduce 6 4) ∧ fromPartsSigned qreduce2 6 (-4) = some (qreduce2 (-6) 4) ∧
    fromPartsSigned qreduce 1 0 = none := by
  refine ⟨?_, ?_, ?_⟩ <;> simp [fromPartsSigned]

end Dashu.Props.C20GenLoop
