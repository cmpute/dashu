import Dashu.Props.C10Est
import Dashu.Proofs.NT.Log2Lift
/-
  The no_std (table-driven) log2 estimator of `base/src/math/log.rs` composed with `digits_ub`:
  the integer part of the estimator (`log2_fp8`, `ceil_log2_fp8`, the top-16-bit reduction; proved sound
  for all inputs in `Proofs/NT/Log2Table.lean`, `Log2Lift.lean`) yields assumption (A) of
  `Props/C10Est.lean` WITHOUT any assumption about libm: the fixed-point upper estimate `U / 256`
  (`U = ceil_log2_fp8(hi) + 256·shift`) is an upper bound of `log₂ x`.  The value `U / 256` has at most
  16 integer and 8 fractional bits, so the `f32` expressions `ub as f32 / 256.0 + shift as f32` compute
  it exactly, and `next_up` only increases it.  Kept apart from `Props/C10Est.lean` because it imports
  the proofs of the integer logarithm.
-/
namespace Dashu.Props.C10EstNoStd
open Dashu Dashu.Model.Float Dashu.Model.NT

/-- from the fixed-point statement `x^256 ≤ 2^U` to the real logarithm -/
theorem logb_le_of_pow (x U : Nat) (hx : 0 < x) (h : x ^ 256 ≤ 2 ^ U) : Real.logb 2 x ≤ (U : ℝ) / 256 := by
  have hx' : (0 : ℝ) < (x : ℝ) := by exact_mod_cast hx
  have h1 : ((x : ℝ)) ^ 256 ≤ (2 : ℝ) ^ U := by exact_mod_cast h
  have h2 := Real.logb_le_logb_of_le (b := 2) (by norm_num) (by positivity) h1
  rw [Real.logb_pow, Real.logb_pow, Real.logb_self_eq_one (by norm_num), mul_one] at h2
  rw [le_div_iff₀' (by norm_num)]
  exact_mod_cast h2

private theorem pos_of_wide {x : Nat} (hbits : 16 < bitLen x) : 0 < x :=
  Nat.pos_of_ne_zero (by rintro rfl; rw [bitLen_zero] at hbits; omega)

/-- `u16 … u128`, more than 16 bits (`impl_log2_bounds_for_uint!`, no_std): `log₂ x ≤ (ub + 256·shift)/256`
    with `ub = ceil_log2_fp8(hi)` (or `15·256 + 1` for `hi = 2^15`) -/
theorem ub_nostd_wide (x : Nat) (hbits : 16 < bitLen x) :
    Real.logb 2 x ≤ (((if x / 2 ^ (bitLen x - 16) = 2 ^ 15 then 15 * 256 + 1 else ceilLog2Fp8 (x / 2 ^ (bitLen x - 16)))
      + 256 * (bitLen x - 16) : Nat) : ℝ) / 256 :=
  logb_le_of_pow x _ (pos_of_wide hbits) (log2_wide_sound x hbits).2

/-- `u16` range (9 … 16 bits, not a power of two): `log₂ n ≤ ceil_log2_fp8(n)/256` -/
theorem ub_nostd_u16 (n : Nat) (h1 : 256 ≤ n) (h2 : n < 65536) (hp : n ≠ 2 ^ (bitLen n - 1)) :
    Real.logb 2 n ≤ (ceilLog2Fp8 n : ℝ) / 256 :=
  logb_le_of_pow n _ (by omega) ((log2_fp8_sound n h1 h2).2 hp)

/-- **`digits ≤ digits_ub` for the no_std estimator on every significand of more than 16 bits**, with
    no assumption about libm: only (B) (the one `f32` `*` / `/` is a monotone rounding fixing small
    integers), (C) (the two constants are on the safe side) and `ub ≥ U/256` (`next_up` of the exactly
    computed fixed-point value). -/
theorem digits_ub_nostd_sound (B : Nat) (hB : 2 ≤ B) (x : Nat) (hbits : 16 < bitLen x) (fl : ℝ → ℝ) (ub L lbB : ℝ)
    (hub : (((if x / 2 ^ (bitLen x - 16) = 2 ^ 15 then 15 * 256 + 1 else ceilLog2Fp8 (x / 2 ^ (bitLen x - 16)))
      + 256 * (bitLen x - 16) : Nat) : ℝ) / 256 ≤ ub)
    (hmono : Monotone fl) (hfix : ∀ k : Nat, k ≤ 2 ^ 24 → fl k = k) (hsmall : digits B x - 1 ≤ 2 ^ 24)
    (hL : Real.logb 10 2 ≤ L) (hlb : 0 < lbB ∧ lbB ≤ Real.logb 2 B) :
    digits B x ≤ digitsUbReal B fl ub L lbB :=
  Dashu.Props.C10Est.digits_ub_sound B hB x (pos_of_wide hbits) fl ub L lbB (le_trans (ub_nostd_wide x hbits) hub)
    hmono hfix hsmall hL hlb

end Dashu.Props.C10EstNoStd
