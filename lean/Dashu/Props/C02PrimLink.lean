import Dashu.Props.C02Plumbing
import Dashu.Props.C15
import Dashu.Proofs.Int.Ops
/-
  C02 ↔ C15 link: the primitive-operand forms of integer/src/div_ops.rs
  (`impl_binop_with_primitive!(impl Rem<$t> for UBig|IBig, rem -> $t)`, `impl_divrem_with_primitive!`,
  `impl_div_by_primitive!`) are, textually,

      self.rem(<Big>::from(rhs)).try_into().unwrap()            // Big % prim  -> prim
      let (q, r) = self.div_rem(<Big>::from(rhs)); (q, r.try_into().unwrap())
      <Big>::from(self).div(rhs).try_into().unwrap()            // prim / Big  -> prim

  i.e. the big-operand route that C02 proves (`remRepr` / `divRemRepr` / `divRepr`, `ibigRem` / `ibigDivRem` /
  `ibigDiv` of Model/Int/Div.lean — the functions `drive_div` executes) followed by the checked conversion that
  C15 describes (`Props/C15.primForm lo hi`: `some r` if the result fits the primitive's range, `none` = the
  `unwrap()` panic).  C15 states its "fits" theorems on `Int.tdiv / Int.tmod`; here the composition is written on
  the C02 MODEL and proved, by C02's dispatch theorems and C15's range theorems (both imported), to return the
  documented quotient / remainder without a conversion failure — and, for the two form classes C15 records as
  findings, to fail the conversion although the big-operand form returns the right value.
-/
namespace Dashu.Props.C02PrimLink
open Dashu Dashu.Model Dashu.Model.Div Dashu.Props.C02 Dashu.Props.C15

-- ------------------------------------------------------------------ the forms, on the C02 model

/-- `UBig % uN` (`-> uN`): `self.rem(UBig::from(rhs)).try_into().unwrap()`; `hi = uN::MAX` -/
def ubigRemPrim (W : Nat) (hi : Int) (a : TRepr) (p : Nat) : Except PanicKind (Option Int) := do
  let r ← remRepr W a (ofNat W p)
  pure (primForm 0 hi (r.value W : Int))

/-- `UBig.div_rem(uN)` (`-> (UBig, uN)`) -/
def ubigDivRemPrim (W : Nat) (hi : Int) (a : TRepr) (p : Nat) : Except PanicKind (TRepr × Option Int) := do
  let (q, r) ← divRemRepr W a (ofNat W p)
  pure (q, primForm 0 hi (r.value W : Int))

/-- `uN / UBig` (`-> uN`): `UBig::from(self).div(rhs).try_into().unwrap()` -/
def primDivUbig (W : Nat) (hi : Int) (p : Nat) (b : TRepr) : Except PanicKind (Option Int) := do
  let q ← divRepr W (ofNat W p) b
  pure (primForm 0 hi (q.value W : Int))

/-- `IBig % prim` (`-> prim`, `prim` with range `[lo, hi]`) -/
def ibigRemPrim (W : Nat) (lo hi : Int) (a : SRepr) (p : Int) : Except PanicKind (Option Int) := do
  let r ← ibigRem W a (SRepr.ofInt W p)
  pure (primForm lo hi (r.value W))

/-- `IBig.div_rem(prim)` (`-> (IBig, prim)`) -/
def ibigDivRemPrim (W : Nat) (lo hi : Int) (a : SRepr) (p : Int) : Except PanicKind (SRepr × Option Int) := do
  let (q, r) ← ibigDivRem W a (SRepr.ofInt W p)
  pure (q, primForm lo hi (r.value W))

/-- `prim / IBig` (`-> prim`) -/
def primDivIbig (W : Nat) (lo hi : Int) (p : Int) (b : SRepr) : Except PanicKind (Option Int) := do
  let q ← ibigDiv W (SRepr.ofInt W p) b
  pure (primForm lo hi (q.value W))

-- ------------------------------------------------------------------ composition = big-operand value, then primForm

/-- `IBig % prim`, any primitive range: the documented panic for `prim = 0`, otherwise exactly C15's `primForm` of the
    truncated remainder that C02 proves for `IBig % IBig` -/
theorem ibig_rem_prim_eq (W : Nat) (hW4 : 4 ≤ W) (lo hi : Int) (a : SRepr) (p : Int) (ha : a.WF W) :
    (p = 0 → ibigRemPrim W lo hi a p = .error .divideByZero) ∧
    (p ≠ 0 → ibigRemPrim W lo hi a p = .ok (primForm lo hi (Int.tmod (a.value W) p))) := by
  have hW : 1 ≤ W := by omega
  unfold ibigRemPrim
  rw [ibigRem_eq W hW hW4 a _ ha (SRepr.ofInt_wf W hW p), SRepr.ofInt_value W hW p, bind_ite_ok]
  exact ⟨fun h0 => if_pos h0, fun hne => by
    rw [if_neg hne]; show Except.ok (primForm lo hi _) = _; rw [SRepr.ofInt_value W hW]⟩

/-- `IBig.div_rem(prim)` -/
theorem ibig_divrem_prim_eq (W : Nat) (hW4 : 4 ≤ W) (lo hi : Int) (a : SRepr) (p : Int) (ha : a.WF W) :
    (p = 0 → ibigDivRemPrim W lo hi a p = .error .divideByZero) ∧
    (p ≠ 0 → ∃ q, ibigDivRemPrim W lo hi a p = .ok (q, primForm lo hi (Int.tmod (a.value W) p)) ∧
      q.WF W ∧ q.value W = Int.tdiv (a.value W) p) := by
  have hW : 1 ≤ W := by omega
  unfold ibigDivRemPrim
  rw [ibigDivRem_eq W hW hW4 a _ ha (SRepr.ofInt_wf W hW p), SRepr.ofInt_value W hW p, bind_ite_ok]
  exact ⟨fun h0 => if_pos h0, fun hne => by
    rw [if_neg hne]
    exact ⟨_, by show Except.ok (_, primForm lo hi _) = _; rw [SRepr.ofInt_value W hW], SRepr.ofInt_wf W hW _,
      SRepr.ofInt_value W hW _⟩⟩

/-- `prim / IBig`, any primitive range -/
theorem prim_div_ibig_eq (W : Nat) (hW4 : 4 ≤ W) (lo hi : Int) (p : Int) (b : SRepr) (hb : b.WF W) :
    (b.value W = 0 → primDivIbig W lo hi p b = .error .divideByZero) ∧
    (b.value W ≠ 0 → primDivIbig W lo hi p b = .ok (primForm lo hi (Int.tdiv p (b.value W)))) := by
  have hW : 1 ≤ W := by omega
  unfold primDivIbig
  rw [ibigDiv_eq W hW hW4 _ b (SRepr.ofInt_wf W hW p) hb, SRepr.ofInt_value W hW p, bind_ite_ok]
  exact ⟨fun h0 => if_pos h0, fun hne => by
    rw [if_neg hne]; show Except.ok (primForm lo hi _) = _; rw [SRepr.ofInt_value W hW]⟩

-- ------------------------------------------------------------------ the forms whose conversion never fails

/-- **`UBig % uN`**: for every canonical dividend and every `0 < p ≤ uN::MAX` the primitive form returns the
    remainder `a mod p` (no conversion panic); `p = 0` is the documented panic. -/
theorem ubig_rem_prim_exact (W : Nat) (hW4 : 4 ≤ W) (hi : Int) (a : TRepr) (p : Nat) (ha : a.Canon W)
    (hhi : (p : Int) ≤ hi) :
    (p = 0 → ubigRemPrim W hi a p = .error .divideByZero) ∧
    (p ≠ 0 → ubigRemPrim W hi a p = .ok (some ((a.value W % p : Nat) : Int))) := by
  have hW : 1 ≤ W := by omega
  unfold ubigRemPrim
  rw [(repr_eq W hW hW4 a _ ha (ofNat_canon W hW p)).2.2, ofNat_value W hW p, bind_ite_ok]
  refine ⟨fun h0 => if_pos h0, fun hne => ?_⟩
  have hf := ubig_rem_unsigned_fits (a.value W : Int) (p : Int) hi (Int.natCast_nonneg _) (by omega) hhi
  rw [Int.tmod_eq_emod_of_nonneg (Int.natCast_nonneg _), ← Int.natCast_emod] at hf
  rw [if_neg hne]; show Except.ok (primForm 0 hi _) = _; rw [ofNat_value W hW, hf]

/-- **`UBig.div_rem(uN)`** -/
theorem ubig_divrem_prim_exact (W : Nat) (hW4 : 4 ≤ W) (hi : Int) (a : TRepr) (p : Nat) (ha : a.Canon W)
    (hhi : (p : Int) ≤ hi) :
    (p = 0 → ubigDivRemPrim W hi a p = .error .divideByZero) ∧
    (p ≠ 0 → ∃ q, ubigDivRemPrim W hi a p = .ok (q, some ((a.value W % p : Nat) : Int)) ∧
      q.Canon W ∧ q.value W = a.value W / p) := by
  have hW : 1 ≤ W := by omega
  unfold ubigDivRemPrim
  rw [(repr_eq W hW hW4 a _ ha (ofNat_canon W hW p)).1, ofNat_value W hW p, bind_ite_ok]
  refine ⟨fun h0 => if_pos h0, fun hne => ?_⟩
  have hf := ubig_rem_unsigned_fits (a.value W : Int) (p : Int) hi (Int.natCast_nonneg _) (by omega) hhi
  rw [Int.tmod_eq_emod_of_nonneg (Int.natCast_nonneg _), ← Int.natCast_emod] at hf
  rw [if_neg hne]
  exact ⟨_, by show Except.ok (_, primForm 0 hi _) = _; rw [ofNat_value W hW, hf], ofNat_canon W hW _,
    ofNat_value W hW _⟩

/-- **`uN / UBig`**: the quotient fits `uN` for every `p ≤ uN::MAX` and every canonical non-zero divisor -/
theorem prim_div_ubig_exact (W : Nat) (hW4 : 4 ≤ W) (hi : Int) (p : Nat) (b : TRepr) (hb : b.Canon W)
    (hhi : (p : Int) ≤ hi) :
    (b.value W = 0 → primDivUbig W hi p b = .error .divideByZero) ∧
    (b.value W ≠ 0 → primDivUbig W hi p b = .ok (some ((p / b.value W : Nat) : Int))) := by
  have hW : 1 ≤ W := by omega
  unfold primDivUbig
  rw [(repr_eq W hW hW4 _ b (ofNat_canon W hW p) hb).2.1, ofNat_value W hW p, bind_ite_ok]
  refine ⟨fun h0 => if_pos h0, fun hne => ?_⟩
  have hf := unsigned_div_ubig_fits (p : Int) (b.value W : Int) hi (Int.natCast_nonneg _) hhi (by omega)
  rw [Int.tdiv_eq_ediv_of_nonneg (Int.natCast_nonneg _), ← Int.natCast_ediv] at hf
  rw [if_neg hne]; show Except.ok (primForm 0 hi _) = _; rw [ofNat_value W hW, hf]

/-- **`IBig % iN`**, `p ≠ 0` in the signed range `[-2^k, 2^k - 1]`: the truncated remainder, no conversion panic -/
theorem ibig_rem_signed_prim_exact (W : Nat) (hW4 : 4 ≤ W) (k : Nat) (a : SRepr) (p : Int) (ha : a.WF W)
    (hp0 : p ≠ 0) (hlo : -(2 ^ k : Int) ≤ p) (hhi : p ≤ 2 ^ k - 1) :
    ibigRemPrim W (-(2 ^ k : Int)) (2 ^ k - 1) a p = .ok (some (Int.tmod (a.value W) p)) := by
  rw [(ibig_rem_prim_eq W hW4 _ _ a p ha).2 hp0, ibig_rem_signed_fits (a.value W) p k hp0 hlo hhi]

/-- **`IBig.div_rem(iN)`** -/
theorem ibig_divrem_signed_prim_exact (W : Nat) (hW4 : 4 ≤ W) (k : Nat) (a : SRepr) (p : Int) (ha : a.WF W)
    (hp0 : p ≠ 0) (hlo : -(2 ^ k : Int) ≤ p) (hhi : p ≤ 2 ^ k - 1) :
    ∃ q, ibigDivRemPrim W (-(2 ^ k : Int)) (2 ^ k - 1) a p = .ok (q, some (Int.tmod (a.value W) p)) ∧
      q.WF W ∧ q.value W = Int.tdiv (a.value W) p := by
  obtain ⟨q, e, hw, hq⟩ := (ibig_divrem_prim_eq W hW4 (-(2 ^ k : Int)) (2 ^ k - 1) a p ha).2 hp0
  rw [ibig_rem_signed_fits (a.value W) p k hp0 hlo hhi] at e
  exact ⟨q, e, hw, hq⟩

/-- **`IBig % uN` with a non-negative dividend**: the remainder fits `uN` -/
theorem ibig_rem_unsigned_prim_exact (W : Nat) (hW4 : 4 ≤ W) (hi : Int) (a : SRepr) (p : Int) (ha : a.WF W)
    (h0 : 0 ≤ a.value W) (hp : 0 < p) (hhi : p ≤ hi) :
    ibigRemPrim W 0 hi a p = .ok (some (Int.tmod (a.value W) p)) := by
  rw [(ibig_rem_prim_eq W hW4 _ _ a p ha).2 (by omega), ubig_rem_unsigned_fits (a.value W) p hi h0 hp hhi]

/-- **`iN / IBig`**: the quotient fits `iN` for every operand pair except `iN::MIN / -1` -/
theorem signed_prim_div_ibig_exact (W : Nat) (hW4 : 4 ≤ W) (k : Nat) (p : Int) (b : SRepr) (hb : b.WF W)
    (hlo : -(2 ^ k : Int) ≤ p) (hhi : p ≤ 2 ^ k - 1) (hb0 : b.value W ≠ 0)
    (hne : ¬ (p = -(2 ^ k : Int) ∧ b.value W = -1)) :
    primDivIbig W (-(2 ^ k : Int)) (2 ^ k - 1) p b = .ok (some (Int.tdiv p (b.value W))) := by
  rw [(prim_div_ibig_eq W hW4 _ _ p b hb).2 hb0, signed_div_ibig_fits p (b.value W) k hlo hhi hb0 hne]

-- ------------------------------------------------------------------ the form classes recorded as findings under C15

/-- FINDING class (C15/C16), on the C02 model: `IBig % u8` with dividend −7 and divisor 3 — the big-operand route returns
    the right remainder −1 (C02), the conversion to `u8` fails (`none` = `unwrap()` panic), at every word size -/
theorem ibig_rem_unsigned_prim_counterexample (W : Nat) (hW4 : 4 ≤ W) :
    ibigRemPrim W 0 255 (SRepr.ofInt W (-7)) 3 = .ok none := by
  have hW : 1 ≤ W := by omega
  rw [(ibig_rem_prim_eq W hW4 0 255 _ 3 (SRepr.ofInt_wf W hW _)).2 (by decide), SRepr.ofInt_value W hW]
  exact congrArg _ ibig_rem_unsigned_counterexample.1

/-- FINDING class (C15/C16): `i8::MIN / IBig(-1)` — quotient 128 is right, does not fit `i8` -/
theorem signed_prim_div_ibig_counterexample (W : Nat) (hW4 : 4 ≤ W) :
    primDivIbig W (-128) 127 (-128) (SRepr.ofInt W (-1)) = .ok none := by
  have hW : 1 ≤ W := by omega
  rw [(prim_div_ibig_eq W hW4 (-128) 127 (-128) _ (SRepr.ofInt_wf W hW _)).2
    (by rw [SRepr.ofInt_value W hW]; decide), SRepr.ofInt_value W hW]
  exact congrArg _ signed_div_ibig_counterexample.1

-- ------------------------------------------------------------------ non-vacuity (W = 64, heap operands)

-- UBig % u64 with a 3-word dividend and p = u64::MAX; u64 / UBig with a two-word divisor (quotient 0) and a one-word one
example : (TRepr.large [1, 2, 3]).Canon 64 ∧ ((2 ^ 64 - 1 : Nat) : Int) ≤ 2 ^ 64 - 1 ∧
    ubigRemPrim 64 (2 ^ 64 - 1) (.large [1, 2, 3]) (2 ^ 64 - 1) = .ok (some 6) ∧
    primDivUbig 64 (2 ^ 64 - 1) (2 ^ 64 - 1) (.small 10) = .ok (some 1844674407370955161) := by
  refine ⟨by decide +kernel, by decide +kernel, by decide +kernel, by decide +kernel⟩

-- IBig % i8 with a negative 3-word dividend and p = i8::MIN; i8 / IBig away from MIN / -1
example : (⟨true, .large [1, 2, 3]⟩ : SRepr).WF 64 ∧ (-128 : Int) ≠ 0 ∧ -(2 ^ 7 : Int) ≤ -128 ∧ (-128 : Int) ≤ 2 ^ 7 - 1 ∧
    ibigRemPrim 64 (-(2 ^ 7 : Int)) (2 ^ 7 - 1) ⟨true, .large [1, 2, 3]⟩ (-128) = .ok (some (-1)) ∧
    primDivIbig 64 (-(2 ^ 7 : Int)) (2 ^ 7 - 1) (-128) ⟨true, .small 3⟩ = .ok (some 42) := by
  refine ⟨⟨by decide +kernel, by decide +kernel⟩, by decide +kernel, by decide +kernel, by decide +kernel, by decide +kernel, by decide +kernel⟩

end Dashu.Props.C02PrimLink
