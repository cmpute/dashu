import Dashu.Proofs.Int.Repr
import Dashu.Props.GenInt
import Dashu.Proofs.Int.Ops
import Dashu.Proofs.Int.Mul
import Dashu.Proofs.Int.Pow
import Dashu.Proofs.Int.Memory
import Dashu.Proofs.Int.MulCompose
import Dashu.Proofs.Int.PowCompose
import Dashu.Proofs.Int.PowBuf
import Dashu.Proofs.Int.PowFull
import Dashu.Proofs.Int.Scratch
import Dashu.Proofs.Int.MulPrim
/-
  C01 — Integer ring arithmetic is exact for every operand size and sign.

  Property theorems only (helper lemmas live in `Dashu/Proofs`).  Every statement quantifies over
  all word sizes `W` and all operand lengths; nothing is bounded.  Operands are word lists
  (`IsWords W`), or canonical magnitudes (`TRepr.Canon W`).
-/
namespace Dashu.Props.C01
open Dashu.Model

/-- `add_same_len_in_place`: digits + carry·B^n = a + b + carry-in; length and word-ness kept. -/
theorem add_same_len_exact (W : Nat) (as bs : List Nat) (c : Nat)
    (ha : IsWords W as) (hb : IsWords W bs) (hl : as.length = bs.length) (hc : c ≤ 1) :
    let r := addSameLen W as bs c
    val W r.1 + 2 ^ (W * as.length) * r.2 = val W as + val W bs + c ∧
    r.1.length = as.length ∧ IsWords W r.1 ∧ r.2 ≤ 1 :=
  addSameLen_spec W as bs c ha hb hl hc

/-- `sub_same_len_in_place`: digits + b + borrow-in = a + borrow·B^n. -/
theorem sub_same_len_exact (W : Nat) (as bs : List Nat) (c : Nat)
    (ha : IsWords W as) (hb : IsWords W bs) (hl : as.length = bs.length) (hc : c ≤ 1) :
    let r := subSameLen W as bs c
    val W r.1 + val W bs + c = val W as + 2 ^ (W * as.length) * r.2 ∧
    r.1.length = as.length ∧ IsWords W r.1 ∧ r.2 ≤ 1 :=
  subSameLen_spec W as bs c ha hb hl hc

/-- `add_one_in_place` / `sub_one_in_place` -/
theorem add_one_exact (W : Nat) (ws : List Nat) (h : IsWords W ws) :
    let r := addOne W ws
    val W r.1 + 2 ^ (W * ws.length) * r.2 = val W ws + 1 ∧
    r.1.length = ws.length ∧ IsWords W r.1 ∧ r.2 ≤ 1 :=
  addOne_spec W ws h

theorem sub_one_exact (W : Nat) (ws : List Nat) (h : IsWords W ws) :
    let r := subOne W ws
    val W r.1 + 1 = val W ws + 2 ^ (W * ws.length) * r.2 ∧
    r.1.length = ws.length ∧ IsWords W r.1 ∧ r.2 ≤ 1 :=
  subOne_spec W ws h

/-- `Repr::from_buffer` keeps the value and produces the canonical form, for any buffer content. -/
theorem from_buffer_exact (W : Nat) (ws : List Nat) (h : IsWords W ws) :
    (fromBuffer W ws).value W = val W ws ∧ (fromBuffer W ws).Canon W :=
  ⟨fromBuffer_value W ws, fromBuffer_canon W ws h⟩

/-- inline + inline addition, including the spill into a 3-word heap value -/
theorem add_dword_exact (W a b : Nat) (ha : a < 2 ^ (2 * W)) (hb : b < 2 ^ (2 * W)) :
    (addDword W a b).value W = a + b ∧ (addDword W a b).Canon W :=
  addDword_spec W a b ha hb

-- ====================================================================== + and − : word layer

/-- `add_in_place` (lhs += rhs, `rhs.len() ≤ lhs.len()`) -/
theorem add_in_place_exact (W : Nat) (lhs rhs : List Nat)
    (hl : IsWords W lhs) (hr : IsWords W rhs) (hlen : rhs.length ≤ lhs.length) :
    let r := addInPlace W lhs rhs
    val W r.1 + 2 ^ (W * lhs.length) * r.2 = val W lhs + val W rhs ∧
    r.1.length = lhs.length ∧ IsWords W r.1 ∧ r.2 ≤ 1 :=
  addInPlace_spec W lhs rhs hl hr hlen

/-- `sub_in_place`; the borrow is set exactly when `lhs < rhs` -/
theorem sub_in_place_exact (W : Nat) (lhs rhs : List Nat)
    (hl : IsWords W lhs) (hr : IsWords W rhs) (hlen : rhs.length ≤ lhs.length) :
    let r := subInPlace W lhs rhs
    (val W r.1 + val W rhs = val W lhs + 2 ^ (W * lhs.length) * r.2 ∧
     r.1.length = lhs.length ∧ IsWords W r.1 ∧ r.2 ≤ 1) ∧
    (r.2 = 0 ↔ val W rhs ≤ val W lhs) :=
  ⟨subInPlace_spec W lhs rhs hl hr hlen, subInPlace_borrow_iff W lhs rhs hl hr hlen⟩

/-- `add_word_in_place` / `sub_word_in_place` -/
theorem add_word_in_place_exact (W : Nat) (ws : List Nat) (r : Nat) (h : IsWords W ws)
    (hr : r < 2 ^ W) (hne : ws ≠ []) :
    let o := addWord W ws r
    val W o.1 + 2 ^ (W * ws.length) * o.2 = val W ws + r ∧
    o.1.length = ws.length ∧ IsWords W o.1 ∧ o.2 ≤ 1 :=
  addWord_spec W ws r h hr hne

theorem sub_word_in_place_exact (W : Nat) (ws : List Nat) (r : Nat) (h : IsWords W ws)
    (hr : r < 2 ^ W) (hne : ws ≠ []) :
    let o := subWord W ws r
    val W o.1 + r = val W ws + 2 ^ (W * ws.length) * o.2 ∧
    o.1.length = ws.length ∧ IsWords W o.1 ∧ o.2 ≤ 1 :=
  subWord_spec W ws r h hr hne

/-- `add_dword_in_place` / `sub_dword_in_place` on a slice of ≥ 2 words -/
theorem add_dword_in_place_exact (W : Nat) (ws : List Nat) (d : Nat)
    (hw : IsWords W ws) (hlen : 2 ≤ ws.length) (hd : d < 2 ^ (2 * W)) :
    let r := addDwordInPlace W ws d
    val W r.1 + 2 ^ (W * ws.length) * r.2 = val W ws + d ∧
    r.1.length = ws.length ∧ IsWords W r.1 ∧ r.2 ≤ 1 :=
  addDwordInPlace_spec W ws d hw hlen hd

theorem sub_dword_in_place_exact (W : Nat) (ws : List Nat) (d : Nat)
    (hw : IsWords W ws) (hlen : 2 ≤ ws.length) (hd : d < 2 ^ (2 * W)) :
    let r := subDwordInPlace W ws d
    val W r.1 + d = val W ws + 2 ^ (W * ws.length) * r.2 ∧
    r.1.length = ws.length ∧ IsWords W r.1 ∧ r.2 ≤ 1 :=
  subDwordInPlace_spec W ws d hw hlen hd

/-- `sub_in_place_with_sign`: the buffer keeps its length (equal top words are zeroed, not dropped),
    holds `|lhs − rhs|`, and the returned sign is `Negative` exactly when `lhs < rhs`. -/
theorem sub_in_place_with_sign_exact (W : Nat) (lhs rhs : List Nat) (hl : IsWords W lhs)
    (hr : IsWords W rhs) (hlen : rhs.length ≤ lhs.length) :
    let r := subInPlaceWithSign W lhs rhs
    r.2.length = lhs.length ∧ IsWords W r.2 ∧
    (r.1 = false → val W r.2 + val W rhs = val W lhs) ∧
    (r.1 = true → val W r.2 + val W lhs = val W rhs ∧ val W lhs < val W rhs) :=
  subInPlaceWithSign_spec W lhs rhs hl hr hlen

-- ====================================================================== + and − : dispatch layer

/-- `add_large_dword` and `add_large` (either operand order, any lengths) -/
theorem add_large_dword_exact (W : Nat) (hW : 1 ≤ W) (buf : List Nat) (d : Nat)
    (hb : IsWords W buf) (hlen : 2 ≤ buf.length) (hd : d < 2 ^ (2 * W)) :
    (addLargeDword W buf d).value W = val W buf + d ∧ (addLargeDword W buf d).Canon W :=
  addLargeDword_spec W hW buf d hb hlen hd

theorem add_large_exact (W : Nat) (hW : 1 ≤ W) (buffer rhs : List Nat)
    (hb : IsWords W buffer) (hr : IsWords W rhs) :
    (addLarge W buffer rhs).value W = val W buffer + val W rhs ∧ (addLarge W buffer rhs).Canon W :=
  addLarge_spec W hW buffer rhs hb hr

/-- **UBig + UBig** — every ownership form (`form` = 0,1,2 selects ref/ref|val/val, ref/val, val/ref)
    of `TypedRepr + TypedRepr` returns the canonical representation of the exact sum. -/
theorem u_add_exact (W : Nat) (hW : 1 ≤ W) (a b : TRepr) (form : Nat)
    (ha : a.Canon W) (hb : b.Canon W) :
    (a.add W b form).value W = a.value W + b.value W ∧ (a.add W b form).Canon W :=
  TRepr.add_spec W hW a b form ha hb

/-- `sub_large_dword`: no borrow out of a canonical heap value, exact, canonical -/
theorem sub_large_dword_exact (W : Nat) (lhs : List Nat) (d : Nat)
    (hc : (TRepr.large lhs).Canon W) (hd : d < 2 ^ (2 * W)) :
    (subDwordInPlace W lhs d).2 = 0 ∧
    (subLargeDword W lhs d).value W + d = val W lhs ∧ (subLargeDword W lhs d).Canon W :=
  subLargeDword_spec W lhs d hc hd

/-- `sub_large_ref_val` is `sub_large` computed in the other buffer -/
theorem sub_large_ref_val_eq (W : Nat) (lhs rhs : List Nat) :
    subLargeRefVal W lhs rhs = subLarge W lhs rhs :=
  subLargeRefVal_eq W lhs rhs

/-- **UBig − UBig** — both dispatch variants: exact canonical difference when `b ≤ a`,
    the documented panic otherwise (never a wrapped value). -/
theorem u_sub_exact (W : Nat) (a b : TRepr) (refVal : Bool) (ha : a.Canon W) (hb : b.Canon W) :
    (b.value W ≤ a.value W →
      ∃ r, a.sub W b refVal = .ok r ∧ r.value W = a.value W - b.value W ∧ r.Canon W) ∧
    (a.value W < b.value W → a.sub W b refVal = .error .negativeUBig) := by
  rw [TRepr.sub_eq refVal ha hb]
  exact ⟨fun h => ⟨_, if_pos h, TRepr.sub_repr ha hb h⟩, fun h => if_neg (by omega)⟩

/-- the subtraction succeeds **iff** it does not go below zero -/
theorem u_sub_ok_iff (W : Nat) (a b : TRepr) (refVal : Bool) (ha : a.Canon W) (hb : b.Canon W) :
    (∃ r, a.sub W b refVal = .ok r) ↔ b.value W ≤ a.value W := by
  rw [TRepr.sub_eq refVal ha hb]
  constructor
  · rintro ⟨r, hr⟩
    apply Decidable.byContradiction
    intro h; rw [if_neg h] at hr; cases hr
  · exact fun h => ⟨_, if_pos h⟩

/-- `SubSigned` on magnitudes (all forms): exact signed difference, canonical, no negative zero -/
theorem sub_signed_exact (W : Nat) (a b : TRepr) (form : Nat) (ha : a.Canon W) (hb : b.Canon W) :
    (a.subSigned W b form).value W = (a.value W : Int) - b.value W ∧
    (a.subSigned W b form).WF W :=
  TRepr.subSigned_spec W a b form ha hb

/-- the canonical representation of a natural number (what the driver feeds to the model) -/
theorem of_nat_exact (W : Nat) (hW : 1 ≤ W) (n : Nat) :
    (ofNat W n).value W = n ∧ (ofNat W n).Canon W :=
  ofNat_spec W hW n

/-- `Repr::with_sign`, `Repr::neg`, `into_sign_repr` -/
theorem with_sign_exact (W : Nat) (m : TRepr) (neg : Bool) (hc : m.Canon W) :
    (withSign m neg).value W = (if neg then -(m.value W : Int) else (m.value W : Int)) ∧
    (withSign m neg).WF W :=
  ⟨withSign_value W m neg, withSign_wf W m neg hc⟩

theorem i_neg_exact (W : Nat) (r : SRepr) (h : r.WF W) :
    r.negate.value W = - r.value W ∧ r.negate.WF W :=
  ⟨SRepr.negate_value W r, SRepr.negate_wf W r h⟩

theorem of_int_exact (W : Nat) (hW : 1 ≤ W) (i : Int) :
    (SRepr.ofInt W i).value W = i ∧ (SRepr.ofInt W i).WF W :=
  ⟨SRepr.ofInt_value W hW i, SRepr.ofInt_wf W hW i⟩

-- ====================================================================== + and − : operators

/-- **IBig + IBig** (and the mixed UBig/IBig forms, which pass a non-negative operand) for every
    sign combination and every ownership form: exact `Int` sum, canonical magnitude, never "−0". -/
theorem i_add_exact (W : Nat) (hW : 1 ≤ W) (a b : SRepr) (form : Nat) (ha : a.WF W) (hb : b.WF W) :
    (ibigAdd W a b form).value W = a.value W + b.value W ∧ (ibigAdd W a b form).WF W :=
  ibigAdd_spec W hW a b form ha hb

/-- **IBig − IBig** likewise -/
theorem i_sub_exact (W : Nat) (hW : 1 ≤ W) (a b : SRepr) (form : Nat) (ha : a.WF W) (hb : b.WF W) :
    (ibigSub W a b form).value W = a.value W - b.value W ∧ (ibigSub W a b form).WF W :=
  ibigSub_spec W hW a b form ha hb

/-- exactly what the driver evaluates for `i.add` / `i.sub`: for all integers -/
theorem i_add_sub_of_int (W : Nat) (hW : 1 ≤ W) (x y : Int) (form : Nat) :
    (ibigAdd W (.ofInt W x) (.ofInt W y) form).value W = x + y ∧
    (ibigSub W (.ofInt W x) (.ofInt W y) form).value W = x - y := by
  have hx := SRepr.ofInt_wf W hW x
  have hy := SRepr.ofInt_wf W hW y
  rw [(ibigAdd_spec W hW _ _ form hx hy).1, (ibigSub_spec W hW _ _ form hx hy).1,
    SRepr.ofInt_value W hW, SRepr.ofInt_value W hW]
  exact ⟨rfl, rfl⟩

/-- `u.add` / `u.sub` through the hand-written dispatch with its `form` argument, for all naturals (the driver runs the
    REGENERATED four-form dispatch, proved equal to this one and exact in `Props/C01Dispatch.lean`) -/
theorem u_add_sub_of_nat (W : Nat) (hW : 1 ≤ W) (x y : Nat) (form : Nat) (refVal : Bool) :
    ((ofNat W x).add W (ofNat W y) form).value W = x + y ∧
    (y ≤ x → ∃ r, (ofNat W x).sub W (ofNat W y) refVal = .ok r ∧ r.value W = x - y) ∧
    (x < y → (ofNat W x).sub W (ofNat W y) refVal = .error .negativeUBig) := by
  have hx := ofNat_spec W hW x
  have hy := ofNat_spec W hW y
  rw [TRepr.add_eq hW form hx.2 hy.2, TRepr.sub_eq refVal hx.2 hy.2, hx.1, hy.1, ofNat_value W hW]
  exact ⟨rfl, fun h => ⟨_, if_pos h, ofNat_value W hW _⟩, fun h => if_neg (by omega)⟩

-- ====================================================================== × : small operands

/-- `mul_word_in_place_with_carry` -/
theorem mul_word_in_place_exact (W : Nat) (ws : List Nat) (rhs c : Nat) (hw : IsWords W ws)
    (hr : rhs < 2 ^ W) (hc : c < 2 ^ W) :
    let r := mulWordInPlace W ws rhs c
    val W r.1 + 2 ^ (W * ws.length) * r.2 = val W ws * rhs + c ∧
    r.1.length = ws.length ∧ IsWords W r.1 ∧ r.2 < 2 ^ W :=
  mulWordInPlace_spec W ws rhs c hw hr hc

/-- `shl_in_place` by `s ≤ W` bits with a carry-in `< 2^s`: the OR of disjoint bits is the sum, so the
    shift is multiplication by `2^s` -/
theorem shl_in_place_exact (W : Nat) (ws : List Nat) (s c : Nat) (hw : IsWords W ws)
    (hs : s < W) (hc : c < 2 ^ s) :
    let r := shlInPlace W ws s c
    val W r.1 + 2 ^ (W * ws.length) * r.2 = val W ws * 2 ^ s + c ∧
    r.1.length = ws.length ∧ IsWords W r.1 ∧ r.2 < 2 ^ W := by
  have ⟨e, l, w, c⟩ := shlInPlace_spec W ws s c hw (Nat.le_of_lt hs) hc
  exact ⟨e, l, w, Nat.lt_trans c (Nat.pow_lt_pow_right (by omega) hs)⟩

/-- `mul_dword_in_place`, including the odd leftover word; the carry is a double word -/
theorem mul_dword_in_place_exact (W : Nat) (ws : List Nat) (rhs c : Nat) (hw : IsWords W ws)
    (hr : rhs < 2 ^ (2 * W)) (hc : c < 2 ^ (2 * W)) :
    let r := mulDwordInPlace W ws rhs c
    val W r.1 + 2 ^ (W * ws.length) * r.2 = val W ws * rhs + c ∧
    r.1.length = ws.length ∧ IsWords W r.1 ∧ r.2 < 2 ^ (2 * W) :=
  mulDwordInPlace_spec W rhs hr ws.length ws c rfl hw hc

/-- `u64::is_power_of_two` as modelled: a set `isPow2` flag means `n = 2^log2 n` -/
theorem is_pow2_exact (n : Nat) (h : isPow2 n = true) : n = 2 ^ Nat.log2 n := isPow2_eq n h

theorem mul_dword_exact (W a b : Nat) (ha : a < 2 ^ (2 * W)) (hb : b < 2 ^ (2 * W)) :
    (mulDword W a b).value W = a * b ∧ (mulDword W a b).Canon W :=
  mulDword_spec W a b ha hb

theorem mul_large_dword_exact (W : Nat) (buffer : List Nat) (rhs : Nat) (hw : IsWords W buffer)
    (hr : rhs < 2 ^ (2 * W)) :
    (mulLargeDword W buffer rhs).value W = val W buffer * rhs ∧
    (mulLargeDword W buffer rhs).Canon W :=
  mulLargeDword_spec W buffer rhs hw hr

/-- **UBig × UBig** over the model: exact and canonical in every arm.  Inline×inline, heap×inline and
    heap×heap (schoolbook, chunk splitting, Karatsuba, Toom-3, the squaring shortcut) are refined down to the
    word loops; nothing in it is a frontier kernel (`div_by_word_in_place(t1, 6)` and
    `shr_in_place(t2, 1)` inside Toom-3 are taken at their specification, see `FRONTIER` in
    vlib/props/c01.py). -/
theorem u_mul_exact (W : Nat) (hW : 4 ≤ W) (a b : TRepr) (ha : a.Canon W) (hb : b.Canon W) :
    (a.mul W b).value W = a.value W * b.value W ∧ (a.mul W b).Canon W :=
  TRepr.mul_spec W hW a b ha hb

theorem u_sqr_exact (W : Nat) (hW : 4 ≤ W) (a : TRepr) (ha : a.Canon W) :
    (a.sqr W).value W = a.value W * a.value W ∧ (a.sqr W).Canon W :=
  TRepr.sqr_spec W hW a ha

/-- **IBig × IBig**: sign rule `sign0 * sign1` on top of the magnitude product; never "−0" -/
theorem i_mul_exact (W : Nat) (hW : 4 ≤ W) (a b : SRepr) (ha : a.WF W) (hb : b.WF W) :
    (ibigMul W a b).value W = a.value W * b.value W ∧ (ibigMul W a b).WF W :=
  ibigMul_spec W hW a b ha hb

/-- `cubic = a · a²` as the driver evaluates it -/
theorem u_cubic_exact (W : Nat) (hW : 4 ≤ W) (a : TRepr) (ha : a.Canon W) :
    (a.mul W (a.sqr W)).value W = a.value W * a.value W * a.value W := by
  have hW1 : 1 ≤ W := by omega
  rw [TRepr.sqr_eq hW ha, TRepr.mul_eq hW ha (ofNat_canon W hW1 _), ofNat_value W hW1, ofNat_value W hW1,
    Nat.mul_assoc]

-- ====================================================================== × : schoolbook kernels

/-- `add_mul_word_same_len_in_place` (one `mul_add_2carry` per word): digits + carry·B^n = words + mult·rhs -/
theorem add_mul_word_same_len_exact (W : Nat) (ws : List Nat) (mult : Nat) (rhs : List Nat)
    (hw : IsWords W ws) (hr : IsWords W rhs) (hl : ws.length = rhs.length) (hm : mult < 2 ^ W) :
    let r := addMulWordSameLen W ws mult rhs
    val W r.1 + 2 ^ (W * ws.length) * r.2 = val W ws + mult * val W rhs ∧
    r.1.length = ws.length ∧ IsWords W r.1 ∧ r.2 < 2 ^ W :=
  addMulWordSameLen_spec W ws mult rhs hw hr hl hm

theorem add_mul_word_in_place_exact (W : Nat) (ws : List Nat) (mult : Nat) (rhs : List Nat)
    (hw : IsWords W ws) (hr : IsWords W rhs) (hl : rhs.length ≤ ws.length) (hm : mult < 2 ^ W) :
    let r := addMulWordInPlace W ws mult rhs
    val W r.1 + 2 ^ (W * ws.length) * r.2 = val W ws + mult * val W rhs ∧
    r.1.length = ws.length ∧ IsWords W r.1 ∧ r.2 < 2 ^ W :=
  addMulWordInPlace_spec W ws mult rhs hw hr hl hm

/-- the claim in the comment of `sub_mul_word_same_len_in_place`: with
    `v = a + carry_plus_max + (double_word(0, MAX) − MAX) − mult·b` the subtraction never underflows,
    `v` fits a double word, and (writing the borrow as `MAX − carry_plus_max`) the step is exact -/
theorem sub_mul_word_step_no_overflow (B a b mult cpm : Nat) (ha : a < B) (hb : b < B) (hm : mult < B)
    (hc : cpm < B) :
    mult * b ≤ a + cpm + ((B - 1) * B - (B - 1)) ∧
    a + cpm + ((B - 1) * B - (B - 1)) - mult * b < B * B ∧
    (a + cpm + ((B - 1) * B - (B - 1)) - mult * b) / B < B ∧
    (a + cpm + ((B - 1) * B - (B - 1)) - mult * b) % B + mult * b + (B - 1 - cpm)
      = a + B * (B - 1 - (a + cpm + ((B - 1) * B - (B - 1)) - mult * b) / B) :=
  sub_mul_step B a b mult cpm ha hb hm hc

/-- `sub_mul_word_same_len_in_place`: digits + mult·rhs = words + borrow·B^n -/
theorem sub_mul_word_same_len_exact (W : Nat) (ws : List Nat) (mult : Nat) (rhs : List Nat)
    (hw : IsWords W ws) (hr : IsWords W rhs) (hl : ws.length = rhs.length) (hm : mult < 2 ^ W) :
    let r := subMulWordSameLen W ws mult rhs
    val W r.1 + mult * val W rhs = val W ws + 2 ^ (W * ws.length) * r.2 ∧
    r.1.length = ws.length ∧ IsWords W r.1 ∧ r.2 < 2 ^ W :=
  subMulWordSameLen_spec W ws mult rhs hw hr hl hm

/-- `simple::add_mul_chunk` / `sub_mul_chunk` (carry/borrow bit handed from `c[i + a.len()]` to the next row) -/
theorem add_mul_chunk_exact (W : Nat) (a b c : List Nat) (ha : IsWords W a) (hb : IsWords W b)
    (hc : IsWords W c) (hl : c.length = a.length + b.length) :
    let r := addMulChunk W a c b 0
    val W r.1 + 2 ^ (W * c.length) * r.2 = val W c + val W a * val W b ∧
    r.1.length = c.length ∧ IsWords W r.1 ∧ r.2 ≤ 1 :=
  addMulChunk_spec W a ha b c 0 hl hc hb (Nat.zero_le 1)

theorem sub_mul_chunk_exact (W : Nat) (a b c : List Nat) (ha : IsWords W a) (hb : IsWords W b)
    (hc : IsWords W c) (hl : c.length = a.length + b.length) :
    let r := subMulChunk W a c b 0
    val W r.1 + val W a * val W b = val W c + 2 ^ (W * c.length) * r.2 ∧
    r.1.length = c.length ∧ IsWords W r.1 ∧ r.2 ≤ 1 :=
  subMulChunk_spec W a ha b c 0 hl hc hb (Nat.zero_le 1)

/-- `simple::add_signed_mul_chunk` = "c += sign·a·b, returns the signed carry" for operands of any length -/
theorem simple_add_signed_mul_exact (W : Nat) (c : List Nat) (neg : Bool) (a b : List Nat)
    (hl : c.length = a.length + b.length) (hc : IsWords W c) (ha : IsWords W a) (hb : IsWords W b) :
    MulContract W (addSignedMulChunk W) c neg a b :=
  addSignedMulChunk_contract W c neg a b hl hc ha hb

-- ====================================================================== × : signed helpers, Karatsuba, dispatch

/-- `add_signed_word_in_place`, `add_signed_same_len_in_place`, `add_signed_in_place` -/
theorem add_signed_word_in_place_exact (W : Nat) (ws : List Nat) (rhs : Int) (hw : IsWords W ws)
    (hr : |rhs| < (2 : Int) ^ W) :
    Upd W ws (addSignedWord W ws rhs).1 (addSignedWord W ws rhs).2 rhs :=
  addSignedWord_upd W ws rhs hw hr

theorem add_signed_same_len_in_place_exact (W : Nat) (ws : List Nat) (neg : Bool) (rhs : List Nat)
    (hw : IsWords W ws) (hr : IsWords W rhs) (hl : ws.length = rhs.length) :
    Upd W ws (addSignedSameLen W ws neg rhs).1 (addSignedSameLen W ws neg rhs).2
      (sgn neg * val W rhs) :=
  addSignedSameLen_upd W ws neg rhs hw hr hl

theorem add_signed_in_place_exact (W : Nat) (ws : List Nat) (neg : Bool) (rhs : List Nat)
    (hw : IsWords W ws) (hr : IsWords W rhs) (hl : rhs.length ≤ ws.length) :
    Upd W ws (addSignedInPlace W ws neg rhs).1 (addSignedInPlace W ws neg rhs).2
      (sgn neg * val W rhs) :=
  addSignedInPlace_upd W ws neg rhs hw hr hl

/-- the slice-window rule used for every in-place update of `c[i..j]`: an update of the window by `δ` with
    carry `k` changes the whole slice by `B^i·δ − B^j·k` -/
theorem window_update_exact (W : Nat) (c : List Nat) (i j : Nat) (hij : i ≤ j) (hj : j ≤ c.length)
    (hc : IsWords W c) (w' : List Nat) (k δ : Int) (h : Upd W (window c i j) w' k δ) :
    (setWindow c i w').length = c.length ∧ IsWords W (setWindow c i w') ∧
    (val W (setWindow c i w') : Int)
      = (val W c : Int) + (2 : Int) ^ (W * i) * δ - (2 : Int) ^ (W * j) * k :=
  setWindow_upd W c i j hij hj hc w' k δ h

/-- **Karatsuba** (`karatsuba::add_signed_mul_same_len`), one level: three products (`a_lo·b_lo`,
    `a_hi·b_hi`, `(a_lo − a_hi)(b_lo − b_hi)` with sign `−sign·diff_sign`), the carries `carry_c0` at `2·mid`
    and `carry_c1` at `3·mid`; if the recursive callee meets the contract, so does this level (any `n ≥ 2`). -/
theorem karatsuba_same_len_exact (W : Nat) (hW : 4 ≤ W) (rec : MulKernel)
    (hrec : SameLenContract W rec) (c : List Nat) (neg : Bool) (a b : List Nat)
    (hab : a.length = b.length) (hn : 2 ≤ a.length) (hcl : c.length = a.length + b.length)
    (hc : IsWords W c) (ha : IsWords W a) (hb : IsWords W b) :
    MulContract W (karatsubaSameLen W rec) c neg a b :=
  karatsubaSameLen_contract W (by omega) rec hrec c neg a b hab hn hcl hc ha hb

/-- **Toom-3** (`toom_3::add_signed_mul_same_len`), one level: evaluation at 0, 2, ∞, 1, −1 (five recursive
    products), interpolation `t1 = (3V(0)+2V(−1)+V(2))/6 − 2V(∞)`, `t2 = (V(1)+V(−1))/2` with every asserted
    zero (carries of the scratch products, "never negative", the two exact divisions) proved zero, thirteen
    window updates of `c` with the carries `carry_c0..carry_c3`; if the recursive callee meets the contract,
    so does this level (any `n ≥ MIN_LEN = 16`, words of at least 4 bits because of the constants 6 and 12). -/
theorem toom3_same_len_exact (W : Nat) (hW : 4 ≤ W) (rec : MulKernel)
    (hrec : SameLenContract W rec) (c : List Nat) (neg : Bool) (a b : List Nat)
    (hab : a.length = b.length) (hn : 16 ≤ a.length) (hcl : c.length = a.length + b.length)
    (hc : IsWords W c) (ha : IsWords W a) (hb : IsWords W b) :
    MulContract W (toom3SameLen W rec) c neg a b :=
  toom3SameLen_contract W hW rec hrec c neg a b hab hn hcl hc ha hb

/-- the scratch buffers of Toom-3 hold exactly the interpolation values (`c_i` = coefficients of the
    product polynomial in `x = B^n3`): `t1 = c0 + c2 + c3 + c4`, `t2 = c0 + c2 + c4` -/
theorem toom3_scratch_exact (W : Nat) (hW : 4 ≤ W) (rec : MulKernel) (hrec : SameLenContract W rec)
    (a b : List Nat) (hab : a.length = b.length) (hn : 16 ≤ a.length) (ha : IsWords W a)
    (hb : IsWords W b) (n3 : Nat) (hn3 : n3 = (a.length + 2) / 3)
    (A0 A1 A2 B0 B1 B2 : Nat)
    (hA0 : A0 = val W (a.take n3)) (hA1 : A1 = val W ((a.drop n3).take n3))
    (hA2 : A2 = val W (a.drop (2 * n3)))
    (hB0 : B0 = val W (b.take n3)) (hB1 : B1 = val W ((b.drop n3).take n3))
    (hB2 : B2 = val W (b.drop (2 * n3))) :
    val W (toomScratch W rec a b).v0 = A0 * B0 ∧ val W (toomScratch W rec a b).vinf = A2 * B2 ∧
    val W (toomScratch W rec a b).t2a = (A0 + A1 + A2) * (B0 + B1 + B2) ∧
    val W (toomScratch W rec a b).t1
      = A0 * B0 + (A0 * B2 + A1 * B1 + A2 * B0) + (A1 * B2 + A2 * B1) + A2 * B2 ∧
    val W (toomScratch W rec a b).t2 = A0 * B0 + (A0 * B2 + A1 * B1 + A2 * B0) + A2 * B2 := by
  obtain ⟨h0, hi, h1, ht1, ht2⟩ := toomScratch_spec W hW rec hrec a b hab hn ha hb n3 hn3
    A0 A1 A2 B0 B1 B2 hA0 hA1 hA2 hB0 hB1 hB2
  exact ⟨h0.2.2, hi.2.2, h1.2.2, ht1.2.2, ht2.2.2⟩

/-- `mul::add_signed_mul_same_len` (dispatch schoolbook / Karatsuba recursion / Toom-3 recursion) -/
theorem add_signed_mul_same_len_exact (W : Nat) (hW : 4 ≤ W) (fuel : Nat) :
    SameLenContract W (addSignedMulSameLen W fuel) :=
  addSignedMulSameLen_contract W hW fuel

/-- `helpers::add_signed_mul_split_into_chunks`: the signed carry at `c[n]` handed from chunk to chunk -/
theorem split_into_chunks_exact (W : Nat) (hW : 4 ≤ W) (chunkLen : Nat) (hL : 1 ≤ chunkLen)
    (f tail : MulKernel) (b : List Nat) (hb : IsWords W b)
    (hf : ∀ c' neg a', a'.length = chunkLen → c'.length = chunkLen + b.length → IsWords W c' →
      IsWords W a' → MulContract W f c' neg a' b)
    (htail : GenContract W tail) (c : List Nat) (neg : Bool) (a : List Nat)
    (hcl : c.length = a.length + b.length) (hc : IsWords W c) (ha : IsWords W a) :
    MulContract W (fun c neg a b => splitLoop W chunkLen f tail a.length c neg a b 0) c neg a b := by
  simpa only [MulContract, Int.mul_zero, Int.add_zero] using
    splitLoop_spec W (by omega) chunkLen hL f tail b hb hf htail a.length c neg a 0 hcl hc ha (by omega) (by omega)

/-- **`mul::add_signed_mul`** = "c += sign·a·b, returns the signed carry" for operands of every length and
    either order: schoolbook (≤ THRESHOLD_SIMPLE, chunked above CHUNK_LEN), Karatsuba (≤ THRESHOLD_KARATSUBA,
    chunked by `b.len()`), Toom-3 above — all mirrored and refined down to the word loops. -/
theorem add_signed_mul_exact (W : Nat) (hW : 4 ≤ W) (fuel : Nat) :
    GenContract W (addSignedMul W fuel) :=
  addSignedMul_contract W hW fuel

/-- `mul::multiply` as called by `mul_large`: the asserted-zero carry is zero -/
theorem multiply_carry_zero_exact (W : Nat) (hW : 4 ≤ W) (lhs rhs : List Nat) (hl : IsWords W lhs)
    (hr : IsWords W rhs) :
    (addSignedMul W (lhs.length + rhs.length) (List.replicate (lhs.length + rhs.length) 0) false
      lhs rhs).2 = 0 := by
  have hc := addSignedMul_contract W hW (lhs.length + rhs.length)
    (List.replicate (lhs.length + rhs.length) 0) false lhs rhs (by simp)
    (isWords_replicate_zero W _) hl hr
  exact (hc.zeros hl hr (Nat.le_refl _)).2

/-- `mul_large` -/
theorem mul_large_exact (W : Nat) (hW : 4 ≤ W) (lhs rhs : List Nat) (hl : IsWords W lhs)
    (hr : IsWords W rhs) :
    (mulLarge W lhs rhs).value W = val W lhs * val W rhs ∧ (mulLarge W lhs rhs).Canon W :=
  mulLarge_spec W hW lhs rhs hl hr

-- non-vacuity: a 25-word (Karatsuba-sized) operand pair runs through the mirrored kernel
example : (addSignedMulSameLen 64 25 (List.replicate 50 0) false (List.replicate 25 (2^64-1))
    (List.replicate 25 (2^64-1))).2 = 0 := by decide +kernel

-- ====================================================================== squaring

/-- `sqr::simple::square` on a zero-filled buffer (triangular part with the carry bit `c0`, diagonal part fused
    with the doubling and the two overflow bits `c1`, `c2`, final `b.last += c0 + c1 + c2` which adds zero) -/
theorem sqr_simple_exact (W : Nat) (a : List Nat) (ha : IsWords W a) (hne : a ≠ []) :
    val W (sqrSimple W a) = val W a * val W a ∧ (sqrSimple W a).length = 2 * a.length ∧
    IsWords W (sqrSimple W a) :=
  sqrSimple_spec W a ha hne

/-- the two loops of `sqr::simple::square` separately -/
theorem sqr_tri_loop_exact (W : Nat) (aCur s : List Nat) (c0 : Nat) (hl : s.length = 2 * aCur.length)
    (hs : IsWords W s) (ha : IsWords W aCur) (hc : c0 ≤ 1) :
    Upd W s (sqrTriLoop W s aCur c0).1 ((sqrTriLoop W s aCur c0).2 : Int)
      ((tri W aCur : Int) + (2 : Int) ^ (W * aCur.length) * c0) ∧ (sqrTriLoop W s aCur c0).2 ≤ 1 :=
  sqrTriLoop_spec W aCur s c0 hl hs ha hc

theorem sqr_diag_loop_exact (W : Nat) (a s : List Nat) (c1 c2 : Nat) (hl : s.length = 2 * a.length)
    (hs : IsWords W s) (ha : IsWords W a) (h1 : c1 ≤ 1) (h2 : c2 ≤ 1) :
    val W (sqrDiagLoop W s a c1 c2).1
        + 2 ^ (W * s.length) * ((sqrDiagLoop W s a c1 c2).2.1 + (sqrDiagLoop W s a c1 c2).2.2)
      = 2 * val W s + diag W a + c1 + c2 ∧
    (sqrDiagLoop W s a c1 c2).1.length = s.length ∧ IsWords W (sqrDiagLoop W s a c1 c2).1 ∧
    (sqrDiagLoop W s a c1 c2).2.1 ≤ 1 ∧ (sqrDiagLoop W s a c1 c2).2.2 ≤ 1 :=
  sqrDiagLoop_spec W a s c1 c2 hl hs ha h1 h2

/-- `a² = 2·tri(a) + diag(a)` — the identity behind the fused loop -/
theorem sqr_identity (W : Nat) (a : List Nat) : val W a * val W a = 2 * tri W a + diag W a :=
  sq_eq_tri_diag W a

/-- `sqr::sqr` (simple up to `MAX_LEN_SIMPLE`, otherwise `mul::add_signed_mul_same_len(b, +, a, a)`) and
    `square_large` -/
theorem sqr_exact (W : Nat) (hW : 4 ≤ W) (a : List Nat) (ha : IsWords W a) (hne : a ≠ []) :
    val W (sqrBuffer W a) = val W a * val W a ∧ IsWords W (sqrBuffer W a) :=
  have h := sqrBuffer_spec W hW a ha hne
  ⟨h.2.2, h.2.1⟩

theorem square_large_exact (W : Nat) (hW : 4 ≤ W) (ws : List Nat) (hw : IsWords W ws) (hne : ws ≠ []) :
    (squareLarge W ws).value W = val W ws * val W ws ∧ (squareLarge W ws).Canon W :=
  squareLarge_spec W hW ws hw hne

-- ====================================================================== pow

/-- `math::max_exp_in_word(base)` (`base > 2`): returns `(k, base^k)` with `k ≥ 1` and `base^k` a word, so
    the `base.pow(exp)` calls for `exp < k` in `pow_word_base` cannot overflow -/
theorem max_exp_in_word_exact (W base : Nat) (hb : 2 < base) (hlt : base < 2 ^ W) :
    (maxExpInWord W base).2 = base ^ (maxExpInWord W base).1 ∧ 1 ≤ (maxExpInWord W base).1 ∧
    (maxExpInWord W base).2 < 2 ^ W :=
  maxExpInWord_spec W base hb hlt

/-- the left-to-right binary loop of `pow_word_base` / `pow_dword_base` / `pow_large_base`, for any carrier
    whose `mul`/`sqr` are exact: started on `b²` at bit `bit_len(exp) − 2` it returns `b^exp` -/
theorem pow_loop_exact {α : Type} (v : α → Nat) (Inv : α → Prop) (mulBase sqr : α → α) (b : Nat)
    (hm : ∀ r, Inv r → v (mulBase r) = v r * b ∧ Inv (mulBase r))
    (hs : ∀ r, Inv r → v (sqr r) = v r * v r ∧ Inv (sqr r)) (exp : Nat) (hexp : 2 ≤ exp)
    (init : α) (hi : Inv init) (hv : v init = b * b) :
    v (powLoop mulBase sqr exp (bitLen exp - 2) init) = b ^ exp ∧
    Inv (powLoop mulBase sqr exp (bitLen exp - 2) init) :=
  powLoop_start v Inv mulBase sqr b hm hs exp hexp init hi hv

/-- `pow_word_base` (bases 0, 1, 2, powers of two, word lifting through `max_exp_in_word`, binary loop) -/
theorem pow_word_base_exact (W base exp : Nat) (hb : base < 2 ^ W) (hexp : exp ≠ 0) :
    powWordBase W base exp = base ^ exp :=
  powWordBase_spec W base exp hb hexp

theorem pow_dword_base_exact (base exp : Nat) (hexp : 2 ≤ exp) : powDwordBase base exp = base ^ exp :=
  powDwordBase_spec base exp hexp

theorem pow_large_base_exact (W : Nat) (hW : 4 ≤ W) (base : List Nat) (exp : Nat)
    (hb : (TRepr.large base).Canon W) (hexp : 2 ≤ exp) :
    (powLargeBase W base exp).value W = val W base ^ exp ∧ (powLargeBase W base exp).Canon W :=
  powLargeBase_spec W hW base exp hb hexp

/-- `TypedReprRef::pow` (shortcuts 0, 1, 2 and the three base classes) -/
theorem repr_pow_exact (W : Nat) (hW : 4 ≤ W) (a : TRepr) (exp : Nat) (ha : a.Canon W) :
    (a.pow W exp).value W = a.value W ^ exp ∧ (a.pow W exp).Canon W :=
  TRepr.pow_spec W hW a exp ha

/-- `trailing_zeros`: `2^tz(n)` divides `n` exactly (the factor removed by `UBig::pow`) -/
theorem trailing_zeros_exact (n : Nat) : n / 2 ^ trailingZeros n * 2 ^ trailingZeros n = n :=
  trailingZeros_spec n

/-- **UBig::pow** over the model (factor-2 removal, then `TypedReprRef::pow`, then shift back): `base^exp`,
    canonical, for every exponent (`usize` arithmetic of `exp * shift`: see `u_pow_checked_exact`). -/
theorem u_pow_exact (W : Nat) (hW : 4 ≤ W) (a : TRepr) (exp : Nat) (ha : a.Canon W) :
    (ubigPow W a exp).value W = a.value W ^ exp ∧ (ubigPow W a exp).Canon W :=
  ubigPow_spec W hW a exp ha

/-- **IBig::pow**: exact, canonical, never "−0" -/
theorem i_pow_exact (W : Nat) (hW : 4 ≤ W) (a : SRepr) (exp : Nat) (ha : a.WF W) :
    (ibigPow W a exp).value W = a.value W ^ exp ∧ (ibigPow W a exp).WF W :=
  ibigPow_spec W hW a exp ha

/-- sign rule of `IBig::pow`: negative iff the base is negative and the exponent is odd -/
theorem i_pow_sign (W : Nat) (hW : 4 ≤ W) (a : SRepr) (exp : Nat) (ha : a.WF W) :
    (ibigPow W a exp).value W < 0 ↔ (a.value W < 0 ∧ exp % 2 = 1) := by
  -- a property of `z ^ exp`, the value by `ibigPow_spec`
  rw [(ibigPow_spec W hW a exp ha).1]
  generalize a.value W = z
  by_cases hz : z < 0
  · obtain ⟨m, rfl⟩ : ∃ m : Int, z = -m := ⟨-z, by omega⟩
    have hm : 0 < m ^ exp := pow_pos (by omega) _
    rw [neg_pow_int]
    generalize m ^ exp = q at hm
    split <;> omega
  · have : 0 ≤ z ^ exp := pow_nonneg (by omega) _
    omega

/-- **`UBig::pow` with its `usize` exponent** (`exp.checked_mul(shift)`), as the driver evaluates it: the
    exact power and a canonical result, except that when `exp * shift ≥ 2^64` the result has more than
    `2^64` bits (second clause) and the documented allocation panic is raised.  This is the full statement:
    since `fix: 099d251` the code checks the product (before, it overflowed on exactly the
    `powShiftOverflows` class — witness `corpus/C01/pow_shift_overflow.case`). -/
theorem u_pow_checked_exact (W : Nat) (hW : 4 ≤ W) (a : TRepr) (exp : Nat) (ha : a.Canon W) :
    (powShiftOverflows (a.value W) exp = false →
      ∃ r, ubigPowChecked W a exp = .ok r ∧ r.value W = a.value W ^ exp ∧ r.Canon W) ∧
    (powShiftOverflows (a.value W) exp = true →
      ubigPowChecked W a exp = .error .allocTooMuch ∧ 2 ^ (2 ^ 64) ≤ a.value W ^ exp) := by
  constructor
  · intro h
    exact ⟨ubigPow W a exp, by simp [ubigPowChecked, h], ubigPow_spec W hW a exp ha⟩
  · intro h
    exact ⟨by simp [ubigPowChecked, h], powShiftOverflows_huge _ _ h⟩

/-- the panic class is not empty: `4.pow(2^63)` -/
theorem pow_shift_overflow_witness : powShiftOverflows 4 (2 ^ 63) = true := powShiftOverflows_witness

-- ====================================================================== scratch memory is always sufficient

/-- **`mul_large` can never hit `expect("internal error: not enough memory allocated")`.**
    `memMulLarge l r` replays, for operands of `l` and `r` words, every `Memory::allocate_slice_*` of
    `mul::multiply` (chunk splitting, Karatsuba, Toom-3, recursively; sizes only, block-scoped re-use of the
    chunk as in the source) against the `MemoryAllocation` that `mul_large` makes,
    `mul::memory_requirement_exact(l + r, min(l, r))`; it returns `.ok ()` for all `l`, `r`. -/
theorem mul_scratch_sufficient (l r : Nat) : memMulLarge l r = .ok () := memMulLarge_ok l r

/-- **`square_large` likewise**, with `sqr::memory_requirement_exact(len)` -/
theorem sqr_scratch_sufficient (len : Nat) : memSquareLarge len = .ok () := by
  unfold memSquareLarge
  split
  · rfl
  · rename_i hl
    exact memSameLen_sqr_ok len _ hl (Nat.le_refl _)

/-- reusable shape (div / gcd callers pass sub-chunks): any chunk with at least
    `mul::memory_requirement_up_to(_, min(a, b))` free words is enough for `mul::add_signed_mul` on operands of
    `a` and `b` words, and any chunk with `memBound n ≤ mulMemReq n` words for the same-length kernel -/
theorem add_signed_mul_scratch_sufficient (fuel a b avail : Nat) (h : mulMemReq (min a b) ≤ avail) :
    memAddSignedMul fuel a b avail = .ok () := memAddSignedMul_ok fuel a b avail h

theorem add_signed_mul_same_len_scratch_sufficient (fuel n avail : Nat) (h : mulMemReq n ≤ avail) :
    memSameLen fuel n avail = .ok () :=
  memSameLen_ok fuel n avail (Nat.le_trans (memBound_le_req n) h)

/-- the potential behind the proof: what the recursion needs is at most `memBound n`, and `memBound n` is at
    most the requirement.  For Toom-3 it is `4n + 20·(⌈log₃(2n−5)⌉ − 2)` (the requirement `4n + 13·ceil_log2 n`
    does not satisfy its own recurrence level by level; `3^13 ≥ 2^20` closes the gap). -/
theorem scratch_potential_le_requirement (n : Nat) : memBound n ≤ mulMemReq n := memBound_le_req n

/-- the requirements are monotone in the operand length (needed because the remainder call of the chunk
    splitting runs in the same chunk with a shorter operand) -/
theorem mul_requirement_monotone {a b : Nat} (h : a ≤ b) : mulMemReq a ≤ mulMemReq b := mulMemReq_mono h

/-- `math::ceil_log2` is the ceiling logarithm -/
theorem ceil_log2_exact (n : Nat) : ceilLog2 n = Nat.clog 2 n := ceilLog2_eq_clog n

/-- non-vacuity / tightness: with 35 words less than required a 49-word square does run out of memory -/
theorem scratch_requirement_tight : memSameLen 49 49 (sqrMemReq 49 - 35) = .error memPanic := by decide

-- ====================================================================== composition with C02 / C09 kernels

/-- `div::div_by_word_in_place(t, 6)` (C02's mirrored kernel) returns exactly what `toomScratch` writes for
    `t1 /= 6`: the words of `val t / 6`, and the remainder `val t % 6` -/
theorem toom3_div6_is_kernel (W : Nat) (hW : 3 ≤ W) (t : List Nat) (ht : IsWords W t) :
    Div.divByWordInPlace W t 6 = .ok (wordsOfLen W t.length (val W t / 6), val W t % 6) :=
  divByWord6_eq W hW t ht

/-- `shift::shr_in_place(t, 1)` (mirrored in C02's model) likewise for `t2 /= 2` -/
theorem toom3_shr1_is_kernel (W : Nat) (hW : 1 ≤ W) (t : List Nat) (ht : IsWords W t) :
    Div.shrInPlace W t 1 = (wordsOfLen W t.length (val W t / 2), (val W t % 2) * 2 ^ (W - 1)) :=
  shrInPlace1_eq W hW t ht

/-- **Toom-3 has no step left at its specification**: on the interpolation buffers the two division kernels
    return exactly the `t1`, `t2` used by the updates of `c`, with remainder zero
    (`assert_eq!(t1_rem, 0)`, `assert_eq!(t2_rem, 0)`) -/
theorem toom3_division_steps_exact (W : Nat) (hW : 4 ≤ W) (rec : MulKernel)
    (hrec : SameLenContract W rec) (a b : List Nat) (hab : a.length = b.length) (hn : 16 ≤ a.length)
    (ha : IsWords W a) (hb : IsWords W b) :
    Div.divByWordInPlace W (toomScratchPre W rec a b).t1 6 = .ok ((toomScratch W rec a b).t1, 0) ∧
    Div.shrInPlace W (toomScratchPre W rec a b).t2 1 = ((toomScratch W rec a b).t2, 0) := by
  obtain ⟨_, _, _, ⟨p1l, p1w, p1v⟩, ⟨p2l, p2w, p2v⟩⟩ := toomScratchPre_spec W hW rec hrec a b hab hn ha hb
    ((a.length + 2) / 3) rfl _ _ _ _ _ _ rfl rfl rfl rfl rfl rfl
  constructor
  · rw [divByWord6_eq W (by omega) _ p1w, p1l]
    have : val W (toomScratchPre W rec a b).t1 % 6 = 0 := by rw [p1v]; exact Nat.mul_mod_right 6 _
    rw [this]
    rfl
  · rw [shrInPlace1_eq W (by omega) _ p2w, p2l]
    have : val W (toomScratchPre W rec a b).t2 % 2 = 0 := by rw [p2v]; exact Nat.mul_mod_right 2 _
    rw [this, Nat.zero_mul]
    rfl

/-- **UBig::pow through the mirrored C09 kernels** (`trailing_zeros`, `TypedReprRef >> usize`,
    `TypedRepr << usize`; the driver runs this plus the `Buffer::allocate` checks, `Props/C01Dispatch.u_pow_guarded_iff`): the exact power, canonical; the documented allocation
    panic exactly when `exp * shift` does not fit `usize` -/
theorem u_pow_kernels_exact (W : Nat) (hW : 4 ≤ W) (a : TRepr) (exp : Nat) (ha : a.Canon W) :
    (powShiftOverflows (a.value W) exp = true → ubigPowKernels W a exp = .error .allocTooMuch) ∧
    (powShiftOverflows (a.value W) exp = false →
      ∃ r, ubigPowKernels W a exp = .ok r ∧ r.value W = a.value W ^ exp ∧ r.Canon W) :=
  ubigPowKernels_spec W hW a exp ha

/-- **IBig::pow through the mirrored kernels** -/
theorem i_pow_kernels_exact (W : Nat) (hW : 4 ≤ W) (a : SRepr) (exp : Nat) (ha : a.WF W) :
    (powShiftOverflows (a.mag.value W) exp = true → ibigPowKernels W a exp = .error .allocTooMuch) ∧
    (powShiftOverflows (a.mag.value W) exp = false →
      ∃ r, ibigPowKernels W a exp = .ok r ∧ r.value W = a.value W ^ exp ∧ r.WF W) :=
  ibigPowKernels_spec W hW a exp ha

-- ====================================================================== pow with real buffers

/-- **`pow_word_base` with its buffers as word lists** (branch `exp ≥ 2·wexp`): `Buffer::allocate(e + 1)` with
    `e = exp / wexp`, scratch `array_layout(e/2 + 1)` + `sqr::memory_requirement_exact(e/2 + 1)`; no `push` /
    `push_zeros` capacity assertion fails, no scratch allocation fails (the copy of `res` before each squaring
    fits because `res` has at most `e/2` words then), `push_resizing` never resizes (capacity unchanged), the
    final buffer has at most `e + 1` words ("result is at most exp + 1 words") and holds `base ^ exp` -/
theorem pow_word_base_buffer_exact (W : Nat) (hW : 4 ≤ W) (base exp : Nat) (hb : 2 < base)
    (hlt : base < 2 ^ W) (hexp : 2 * (maxExpInWord W base).1 ≤ exp) :
    ∃ b, powWordBaseBuf W base exp = .ok b ∧ val W b.ws = base ^ exp ∧ IsWords W b.ws ∧
      b.ws.length ≤ exp / (maxExpInWord W base).1 + 1 ∧
      b.cap = bufDefaultCapacity (exp / (maxExpInWord W base).1 + 1) :=
  powWordBaseBuf_spec W hW base exp hb hlt hexp

/-- **`pow_dword_base` likewise**: `Buffer::allocate(2·exp)`, scratch `array_layout(exp)` +
    `sqr::memory_requirement_exact(exp)`; at most `2·exp` words ("result is at most 2 * exp words") -/
theorem pow_dword_base_buffer_exact (W : Nat) (hW : 4 ≤ W) (base exp : Nat) (hlt : base < 2 ^ (2 * W))
    (hexp : 2 ≤ exp) :
    ∃ b, powDwordBaseBuf W base exp = .ok b ∧ val W b.ws = base ^ exp ∧ IsWords W b.ws ∧
      b.ws.length ≤ 2 * exp ∧ b.cap = bufDefaultCapacity (2 * exp) :=
  powDwordBaseBuf_spec W hW base exp hlt hexp

/-- `Repr::from_buffer` of those buffers is the `Repr` that `TRepr.pow` (value-level loop) returns -/
theorem pow_base_buffer_repr (W : Nat) (hW : 4 ≤ W) (base exp : Nat) :
    (2 < base → base < 2 ^ W → 2 * (maxExpInWord W base).1 ≤ exp →
      ∃ b, powWordBaseBuf W base exp = .ok b ∧ fromBuffer W b.ws = ofNat W (powWordBase W base exp)) ∧
    (base < 2 ^ (2 * W) → 2 ≤ exp →
      ∃ b, powDwordBaseBuf W base exp = .ok b ∧ fromBuffer W b.ws = ofNat W (powDwordBase base exp)) :=
  ⟨fun h1 h2 h3 => powWordBaseBuf_repr W hW base exp h1 h2 h3,
   fun h1 h2 => powDwordBaseBuf_repr W hW base exp h1 h2⟩

/-- canonical representations are unique (same value ⇒ same `TRepr`) -/
theorem canonical_unique (W : Nat) (x y : TRepr) (hx : x.Canon W) (hy : y.Canon W)
    (h : x.value W = y.value W) : x = y := canon_unique W x y hx hy h

/-- **`TypedReprRef::pow` end to end with real buffers** (`pow_word_base` / `pow_dword_base` on word lists with
    capacity assertions and scratch allocations, `pow_large_base` on heap values): never panics and returns
    the `Repr` of `base ^ exp` -/
theorem repr_pow_buffers_exact (W : Nat) (hW : 4 ≤ W) (a : TRepr) (exp : Nat) (ha : a.Canon W) :
    ∃ r, a.powBuf W exp = .ok r ∧ r.value W = a.value W ^ exp ∧ r.Canon W := by
  have h := TRepr.pow_spec W hW a exp ha
  exact ⟨a.pow W exp, TRepr.powBuf_eq W hW a exp ha, h.1, h.2⟩

/-- **`UBig::pow` / `IBig::pow` with real buffers** (the driver runs these plus the MAX_CAPACITY checks of
    `Buffer::allocate`, see `Props/C01Dispatch.u_pow_guarded_iff`; mirrored C09 kernels for `trailing_zeros`,
    `>>`, `<<`; buffers for the word / double-word bases): the exact power, canonical; the documented
    allocation panic exactly when `exp * shift` does not fit `usize` -/
theorem u_pow_full_exact (W : Nat) (hW : 4 ≤ W) (a : TRepr) (exp : Nat) (ha : a.Canon W) :
    (powShiftOverflows (a.value W) exp = true → ubigPowFull W a exp = .error .allocTooMuch) ∧
    (powShiftOverflows (a.value W) exp = false →
      ∃ r, ubigPowFull W a exp = .ok r ∧ r.value W = a.value W ^ exp ∧ r.Canon W) := by
  rw [ubigPowFull_eq W hW a exp ha]
  exact ubigPowKernels_spec W hW a exp ha

theorem i_pow_full_exact (W : Nat) (hW : 4 ≤ W) (a : SRepr) (exp : Nat) (ha : a.WF W) :
    (powShiftOverflows (a.mag.value W) exp = true → ibigPowFull W a exp = .error .allocTooMuch) ∧
    (powShiftOverflows (a.mag.value W) exp = false →
      ∃ r, ibigPowFull W a exp = .ok r ∧ r.value W = a.value W ^ exp ∧ r.WF W) := by
  rw [ibigPowFull_eq W hW a exp ha]
  exact ibigPowKernels_spec W hW a exp ha

-- ====================================================================== exactly what the driver evaluates

/-- `u.mul`, `u.sqr`, `u.cubic` as evaluated by the driver, for all naturals -/
theorem u_mul_sqr_cubic_of_nat (W : Nat) (hW : 4 ≤ W) (x y : Nat) :
    ((ofNat W x).mul W (ofNat W y)).value W = x * y ∧
    ((ofNat W x).sqr W).value W = x * x ∧
    ((ofNat W x).mul W ((ofNat W x).sqr W)).value W = x * x * x := by
  have hW1 : 1 ≤ W := by omega
  have hx := ofNat_spec W hW1 x
  have hy := ofNat_spec W hW1 y
  rw [TRepr.sqr_eq hW hx.2, TRepr.mul_eq hW hx.2 hy.2, TRepr.mul_eq hW hx.2 (ofNat_canon W hW1 _), hx.1, hy.1]
  simp only [ofNat_value W hW1, Nat.mul_assoc, and_self]

/-- `i.mul` as evaluated by the driver, for all integers -/
theorem i_mul_of_int (W : Nat) (hW : 4 ≤ W) (x y : Int) :
    (ibigMul W (.ofInt W x) (.ofInt W y)).value W = x * y := by
  rw [(ibigMul_spec W hW _ _ (SRepr.ofInt_wf W (by omega) x) (SRepr.ofInt_wf W (by omega) y)).1,
    SRepr.ofInt_value W (by omega), SRepr.ofInt_value W (by omega)]

/-- `i.sqr`, `i.cubic` and the mixed `ui.*` / `iu.*` operators as evaluated by the driver, for all integers -/
theorem i_sqr_cubic_of_int (W : Nat) (hW : 4 ≤ W) (x : Int) :
    (((ofNat W x.natAbs).sqr W).value W : Int) = x * x ∧
    (ibigMul W (.ofInt W x) ⟨false, (ofNat W x.natAbs).sqr W⟩).value W = x * x * x := by
  have hs := TRepr.sqr_spec W hW _ (ofNat_canon W (by omega) x.natAbs)
  have hv := ofNat_value W (by omega) x.natAbs
  have hsq : ((x.natAbs * x.natAbs : Nat) : Int) = x * x := by
    push_cast; rw [← Int.natAbs_mul_self (a := x)]; push_cast; rfl
  have hwf : (SRepr.mk false ((ofNat W x.natAbs).sqr W)).WF W := ⟨hs.2, by simp⟩
  refine ⟨by rw [hs.1, hv]; exact hsq, ?_⟩
  rw [(ibigMul_spec W hW _ _ (SRepr.ofInt_wf W (by omega) x) hwf).1, SRepr.ofInt_value W (by omega)]
  simp only [SRepr.value_mk, Bool.false_eq_true, if_false]
  rw [hs.1, hv, hsq]; ring

theorem mixed_ops_of_nat_int (W : Nat) (hW : 4 ≤ W) (x : Nat) (y : Int) (form : Nat) :
    (ibigAdd W ⟨false, ofNat W x⟩ (.ofInt W y) form).value W = x + y ∧
    (ibigSub W ⟨false, ofNat W x⟩ (.ofInt W y) form).value W = x - y ∧
    (ibigMul W ⟨false, ofNat W x⟩ (.ofInt W y)).value W = x * y ∧
    (ibigAdd W (.ofInt W y) ⟨false, ofNat W x⟩ form).value W = y + x ∧
    (ibigSub W (.ofInt W y) ⟨false, ofNat W x⟩ form).value W = y - x ∧
    (ibigMul W (.ofInt W y) ⟨false, ofNat W x⟩).value W = y * x := by
  have hW1 : 1 ≤ W := by omega
  have hx := SRepr.mk_ofNat_wf W hW1 x
  have hy := SRepr.ofInt_wf W hW1 y
  rw [(ibigAdd_spec W hW1 _ _ form hx hy).1, (ibigSub_spec W hW1 _ _ form hx hy).1, (ibigMul_spec W hW _ _ hx hy).1,
    (ibigAdd_spec W hW1 _ _ form hy hx).1, (ibigSub_spec W hW1 _ _ form hy hx).1, (ibigMul_spec W hW _ _ hy hx).1,
    SRepr.mk_ofNat_value W hW1, SRepr.ofInt_value W hW1]
  exact ⟨rfl, rfl, rfl, rfl, rfl, rfl⟩

/-- `u.pow` / `i.pow` in the value-level formulation (`ubigPowChecked`); the driver runs the buffer-level
    `ubigPowFull` / `ibigPowFull`, see `pow_full_of_nat_int` -/
theorem pow_of_nat_int (W : Nat) (hW : 4 ≤ W) (x : Nat) (z : Int) (n : Nat) :
    (powShiftOverflows x n = false →
      ∃ r, ubigPowChecked W (ofNat W x) n = .ok r ∧ r.value W = x ^ n) ∧
    (powShiftOverflows x n = true → ubigPowChecked W (ofNat W x) n = .error .allocTooMuch) ∧
    (powShiftOverflows z.natAbs n = false →
      ∃ r, ibigPowChecked W (.ofInt W z) n = .ok r ∧ r.value W = z ^ n) ∧
    (powShiftOverflows z.natAbs n = true → ibigPowChecked W (.ofInt W z) n = .error .allocTooMuch) := by
  have vx := ofNat_value W (by omega) x
  have vz : (SRepr.ofInt W z).mag.value W = z.natAbs := by
    simp only [SRepr.ofInt]; exact ofNat_value W (by omega) _
  refine ⟨?_, ?_, ?_, ?_⟩
  · intro h
    refine ⟨ubigPow W (ofNat W x) n, by simp [ubigPowChecked, vx, h], ?_⟩
    rw [(ubigPow_spec W hW _ n (ofNat_canon W (by omega) x)).1, vx]
  · intro h; simp [ubigPowChecked, vx, h]
  · intro h
    refine ⟨ibigPow W (.ofInt W z) n, by simp [ibigPowChecked, vz, h], ?_⟩
    rw [(ibigPow_spec W hW _ n (SRepr.ofInt_wf W (by omega) z)).1, SRepr.ofInt_value W (by omega)]
  · intro h; simp [ibigPowChecked, vz, h]

/-- **`u.pow` / `i.pow` as the driver evaluates them up to the `Buffer::allocate` checks** (`ubigPowFull` / `ibigPowFull` on `ofNat` / `ofInt`
    inputs): the exact power whenever `exp * shift` fits `usize`, the documented allocation panic otherwise -/
theorem pow_full_of_nat_int (W : Nat) (hW : 4 ≤ W) (x : Nat) (z : Int) (n : Nat) :
    (powShiftOverflows x n = false → ∃ r, ubigPowFull W (ofNat W x) n = .ok r ∧ r.value W = x ^ n) ∧
    (powShiftOverflows x n = true → ubigPowFull W (ofNat W x) n = .error .allocTooMuch) ∧
    (powShiftOverflows z.natAbs n = false →
      ∃ r, ibigPowFull W (.ofInt W z) n = .ok r ∧ r.value W = z ^ n) ∧
    (powShiftOverflows z.natAbs n = true → ibigPowFull W (.ofInt W z) n = .error .allocTooMuch) := by
  have vx := ofNat_value W (by omega) x
  have vz : (SRepr.ofInt W z).mag.value W = z.natAbs := by
    simp only [SRepr.ofInt]; exact ofNat_value W (by omega) _
  obtain ⟨u1, u2⟩ := u_pow_full_exact W hW (ofNat W x) n (ofNat_canon W (by omega) x)
  obtain ⟨i1, i2⟩ := i_pow_full_exact W hW (.ofInt W z) n (SRepr.ofInt_wf W (by omega) z)
  rw [vx] at u1 u2
  rw [vz] at i1 i2
  refine ⟨fun h => ?_, u1, fun h => ?_, i1⟩
  · obtain ⟨r, e, v, _⟩ := u2 h
    exact ⟨r, e, v⟩
  · obtain ⟨r, e, v, _⟩ := i2 h
    exact ⟨r, e, by rw [v, SRepr.ofInt_value W (by omega)]⟩

-- ====================================================================== agreement with the regenerated glue

/-- the `Sign` the code's `into_sign_repr` returns for a modelled signed value -/
def signOf (r : SRepr) : Dashu.Sign := if r.neg then .Negative else .Positive

theorem signOf_apply (W : Nat) (r : SRepr) : (signOf r).apply (r.mag.value W) = r.value W := by
  unfold signOf SRepr.value Dashu.Sign.apply
  cases r.neg <;> simp

/-- the hand-written executable compositions `ibigAdd` / `ibigSub` / `ibigMul` (what the driver runs) compute
    the same values as the sign tables regenerated from `/repo`'s `impl_ibig_add/_sub/_mul` macros
    (`Dashu.Gen`, Tie A), with the magnitude kernels refined here -/
theorem i_add_agrees_with_generated_glue (W : Nat) (hW : 1 ≤ W) (a b : SRepr) (form : Nat)
    (ha : a.WF W) (hb : b.WF W) :
    (ibigAdd W a b form).value W
      = Dashu.Gen.impl_ibig_add (signOf a) (a.mag.value W) (signOf b) (b.mag.value W) := by
  rw [(ibigAdd_spec W hW a b form ha hb).1,
    Dashu.Props.GenInt.ibig_add_exact _ _ _ _ (Int.natCast_nonneg _) (Int.natCast_nonneg _),
    signOf_apply, signOf_apply]

theorem i_sub_agrees_with_generated_glue (W : Nat) (hW : 1 ≤ W) (a b : SRepr) (form : Nat)
    (ha : a.WF W) (hb : b.WF W) :
    (ibigSub W a b form).value W
      = Dashu.Gen.impl_ibig_sub (signOf a) (a.mag.value W) (signOf b) (b.mag.value W) := by
  rw [(ibigSub_spec W hW a b form ha hb).1,
    Dashu.Props.GenInt.ibig_sub_exact _ _ _ _ (Int.natCast_nonneg _) (Int.natCast_nonneg _),
    signOf_apply, signOf_apply]

theorem i_mul_agrees_with_generated_glue (W : Nat) (hW : 4 ≤ W) (a b : SRepr)
    (ha : a.WF W) (hb : b.WF W) :
    (ibigMul W a b).value W
      = Dashu.Gen.impl_ibig_mul (signOf a) (a.mag.value W) (signOf b) (b.mag.value W) := by
  rw [(ibigMul_spec W hW a b ha hb).1,
    Dashu.Props.GenInt.ibig_mul_exact _ _ _ _ (Int.natCast_nonneg _) (Int.natCast_nonneg _),
    signOf_apply, signOf_apply]

-- ====================================================================== word-multiplication primitives (math.rs)

/-- **`math::mul_add_carry_dword`** (the four word multiplications behind `mul_dword_spilled`, `square_dword_spilled`
    and the first step of `pow_dword_base`, mirrored and executed by the driver): exactly the low and the high
    double word of `lhs·rhs + carry`, for all naturals -/
theorem mul_add_carry_dword_exact (W lhs rhs carry : Nat) :
    mulAddCarryDword W lhs rhs carry
      = ((lhs * rhs + carry) % 2 ^ (2 * W), (lhs * rhs + carry) / 2 ^ (2 * W)) :=
  mulAddCarryDword_eq W lhs rhs carry

/-- "This operation will not overflow" (`mul_add_carry`, `mul_add_2carry`): on word operands the double-word
    expression `extend_word(a)·extend_word(b) + carries` stays below `B²` -/
theorem mul_add_carry_no_overflow (B a b c0 c1 : Nat) (ha : a < B) (hb : b < B) (h0 : c0 < B) (h1 : c1 < B) :
    a * b + c0 < B * B ∧ a * b + c0 + c1 < B * B :=
  ⟨mul_add_lt_sq ha hb h0, mul_add_add_lt_sq ha hb h0 h1⟩

example : mulAddCarryDword 64 (2^128 - 1) (2^128 - 1) (2^128 - 1) = (0, 2^128 - 1) := by decide +kernel

-- ====================================================================== Tie A: scratch formulas and buffer sizes

open Dashu.Gen.Scratch in
/-- **The scratch formulas of the model are the ones in /repo** (`Dashu.Gen.Scratch` is regenerated from
    `mul/{mod,karatsuba,toom_3}.rs`, `sqr/mod.rs` on every run; `math::ceil_log2` is instantiated by `ceilLog2`,
    which is the regenerated `MathHelpers.ceil_log2` wherever that does not panic) -/
theorem scratch_formulas_regenerated (total n : Nat) :
    karatsubaMemReq n = karatsuba_memory_requirement_up_to ceilLog2 n ∧
    toom3MemReq n = toom_3_memory_requirement_up_to ceilLog2 n ∧
    mulMemReq n = mul_memory_requirement_up_to ceilLog2 total n ∧
    mulMemReq n = mul_memory_requirement_exact ceilLog2 total n ∧
    sqrMemReq n = sqr_memory_requirement_exact ceilLog2 n ∧
    (∀ bits, n < 2 ^ bits → n ≠ 0 → Dashu.Gen.MathHelpers.ceil_log2 bits n = some (ceilLog2 n)) :=
  ⟨rfl, rfl, rfl, rfl, rfl, fun bits h h0 => ceilLog2_eq_gen bits n h h0⟩

open Dashu.Gen.Scratch in
/-- **`mul_large` / `square_large` with the REGENERATED requirement as the size of their `MemoryAllocation`**:
    no `Memory::allocate_slice_*` of `mul::multiply` / `sqr::sqr` (chunk splitting, Karatsuba, Toom-3, recursively) can
    hit "internal error: not enough memory allocated", for all operand lengths -/
theorem mul_sqr_scratch_sufficient_regenerated (l r : Nat) :
    memAddSignedMul (l + r) l r (mul_memory_requirement_exact ceilLog2 (l + r) (min l r)) = .ok () ∧
    memSqr l (sqr_memory_requirement_exact ceilLog2 l) = .ok () :=
  ⟨memMulLarge_gen_ok l r, memSquareLarge_gen_ok l⟩

open Dashu.Gen.Scratch in
/-- callers that pass a sub-chunk (division, gcd, modular multiplication): the regenerated
    `mul::memory_requirement_up_to(_, min(a, b))` words are enough for `mul::add_signed_mul` on `a` and `b` words -/
theorem add_signed_mul_scratch_sufficient_regenerated (fuel a b total avail : Nat)
    (h : mul_memory_requirement_up_to ceilLog2 total (min a b) ≤ avail) :
    memAddSignedMul fuel a b avail = .ok () :=
  memAddSignedMul_ok fuel a b avail (by rw [mulMemReq_eq_gen total]; exact h)

open Dashu.Gen.Scratch in
/-- **`pow_word_base`'s three arms and the buffer / scratch sizes of `pow_word_base`, `pow_dword_base` are the
    regenerated ones**: the value-level mirror takes `base^exp` (one word) iff the regenerated split says 0, the
    double-word product iff 1, the buffer loop iff 2; `Buffer::allocate(e + 1)` / `allocate(2·exp)` and the scratch
    layouts of `powWordBaseBuf` / `powDwordBaseBuf` are `pow_*_buffer_words` / `pow_*_scratch_words` -/
theorem pow_split_and_sizes_regenerated (W base exp : Nat) (hb : 2 < base) (hp : isPow2 base = false) :
    ((pow_word_base_path exp (maxExpInWord W base).1 = 0 ↔ exp < (maxExpInWord W base).1) ∧
     (pow_word_base_path exp (maxExpInWord W base).1 = 1 ↔
        (maxExpInWord W base).1 ≤ exp ∧ exp < 2 * (maxExpInWord W base).1) ∧
     (pow_word_base_path exp (maxExpInWord W base).1 = 2 ↔ 2 * (maxExpInWord W base).1 ≤ exp)) ∧
    (pow_word_base_path exp (maxExpInWord W base).1 = 0 → powWordBase W base exp = base ^ exp) ∧
    (pow_word_base_path exp (maxExpInWord W base).1 = 1 →
      powWordBase W base exp = (maxExpInWord W base).2 * base ^ (exp - (maxExpInWord W base).1)) ∧
    (exp + 1 = pow_word_base_buffer_words exp ∧
     (exp / 2 + 1) + sqrMemReq (exp / 2 + 1) = pow_word_base_scratch_words ceilLog2 exp ∧
     2 * exp = pow_dword_base_buffer_words exp ∧
     exp + sqrMemReq exp = pow_dword_base_scratch_words ceilLog2 exp) :=
  ⟨pow_word_base_path_spec exp _, (powWordBase_by_path W base exp hb hp).1,
   (powWordBase_by_path W base exp hb hp).2.1, powBuf_sizes_eq_gen exp⟩

example : isPow2 10 = false ∧ Dashu.Gen.Scratch.pow_word_base_path 25 (maxExpInWord 64 10).1 = 1 := by decide

open Dashu.Gen.Scratch in
/-- the same regenerated formulas are what C02's division-memory model and C17's ledger model carry by hand
    (`div::memory_requirement_exact` under its own `assert!`, `root::memory_requirement_sqrt_rem`, the `shl_large`
    capacity guard with its `shift_words`, `shl_large_ref`'s allocation) — proved here so that those models are tied to
    /repo without being edited -/
theorem other_models_scratch_formulas_regenerated (la lb n cap rhs W : Nat) :
    (div_memory_requirement_exact_asserts la lb = true →
      Div.divMemReq la lb = .ok (div_memory_requirement_exact ceilLog2 la lb)) ∧
    (div_memory_requirement_exact_asserts la lb = false → ∃ k, Div.divMemReq la lb = .error k) ∧
    Mem.mulScratchWords n = mul_memory_requirement_up_to ceilLog2 la n ∧
    Mem.sqrScratchWords Dashu.Gen.sqr_MAX_LEN_SIMPLE n = sqr_memory_requirement_exact ceilLog2 n ∧
    Mem.divScratchWords la lb = div_memory_requirement_exact ceilLog2 la lb ∧
    Mem.sqrtScratchWords Dashu.Gen.sqr_MAX_LEN_SIMPLE n = root_memory_requirement_sqrt_rem ceilLog2 n ∧
    (decide (cap < la + rhs / W + 1) = shl_large_takes_ref_path cap la (shl_large_shift_words W rhs)) ∧
    rhs / W + la + 1 = shl_large_ref_buffer_words (shl_large_shift_words W rhs) la ∧
    (n / 2 + 1) + Mem.sqrScratchWords Dashu.Gen.sqr_MAX_LEN_SIMPLE (n / 2 + 1) = pow_word_base_scratch_words ceilLog2 n ∧
    n + Mem.sqrScratchWords Dashu.Gen.sqr_MAX_LEN_SIMPLE n = pow_dword_base_scratch_words ceilLog2 n :=
  ⟨(divMemReq_eq_gen la lb).1, (divMemReq_eq_gen la lb).2, mulScratchWords_eq_gen la n, sqrScratchWords_eq_gen n,
   divScratchWords_eq_gen la lb, sqrtScratchWords_eq_gen n, (shl_large_guard_eq_gen W cap la rhs).1,
   (shl_large_guard_eq_gen W cap la rhs).2, (memPow_sizes_eq_gen n).1, (memPow_sizes_eq_gen n).2⟩

-- non-vacuity: canonical heap operands exist, reach the borrow/shrink and sign paths
example : (TRepr.large [0, 0, 1]).Canon 64 ∧ (TRepr.large [1, 0, 1]).Canon 64 := by
  constructor <;> decide
example : (TRepr.large [0, 0, 1]).sub 64 (TRepr.large [1, 0, 1]) = .error .negativeUBig := by decide
example : (TRepr.large [1, 0, 1]).sub 64 (TRepr.large [0, 0, 1]) = .ok (.small 1) := by decide
example : (TRepr.large [0, 0, 1]).subSigned 64 (TRepr.large [1, 0, 1]) = ⟨true, .small 1⟩ := by decide
example : (SRepr.mk true (.small 5)).WF 64 := ⟨by decide, by decide⟩
example : IsWords 8 [255, 255, 1] ∧ (mulWordInPlace 8 [255, 255, 1] 255 0) = ([1, 255, 253], 1) := by
  constructor <;> decide


-- non-vacuity: a concrete 3-word operand pair meets the hypotheses and carries out of the top word
example : IsWords 64 [2^64-1, 2^64-1, 2^64-1] ∧ IsWords 64 [1, 0, 0] ∧
    (addSameLen 64 [2^64-1, 2^64-1, 2^64-1] [1, 0, 0] 0) = ([0, 0, 0], 1) := by
  refine ⟨by decide, by decide, by decide⟩


-- non-vacuity of the hypotheses of the multiplication / pow / memory theorems: concrete large instances
example : IsWords 64 (List.replicate 200 (2^64-1)) := by decide +kernel
example : (TRepr.large (List.replicate 193 1)).Canon 64 := by decide +kernel          -- a Toom-3-sized operand
example : (SRepr.mk true (.large [0,0,1])).WF 64 := ⟨by decide, by decide⟩             -- a negative heap IBig
example : SameLenContract 64 (addSignedMulSameLen 64 200) := add_signed_mul_same_len_exact 64 (by decide) 200
example : GenContract 64 (addSignedMul 64 400) := add_signed_mul_exact 64 (by decide) 400
example : 2 < 3 ∧ 3 < 2^64 ∧ 2 * (maxExpInWord 64 3).1 ≤ 100 := by decide            -- pow_word_base loop branch
example : (List.replicate 16 7).length = (List.replicate 16 9).length ∧ 16 ≤ (List.replicate 16 7).length := by
  decide                                                                              -- Toom-3 MIN_LEN
example : powShiftOverflows 3 5 = false := by simp [powShiftOverflows, trailingZeros_odd 3 (by decide)]
example : mulMemReq (min 400 193) ≤ mulMemReq 193 := Nat.le_refl _

end Dashu.Props.C01
