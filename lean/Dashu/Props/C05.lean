import Dashu.Proofs.Int.Cmp
import Dashu.Proofs.Int.Hist
import Dashu.Proofs.Int.HistX
import Dashu.Proofs.Int.FloatFit
import Dashu.Proofs.Int.FloatProducers
import Dashu.Proofs.Int.FloatHist
/-
  C05 — Equality, ordering and hashing follow the mathematical value in every type.

  Integers (this section): for canonical operands (`TRepr.Canon`/`SCanon`: ≤ 2 words inline, heap
  values ≥ 3 words without leading zero word, zero non-negative) `cmp` is the order of the values,
  the canonical form of a value is unique, hence `==` (slice comparison), the hash feed and
  `cmp == Equal` all coincide with equality of values.  Producer theorems (every constructor and
  operation yields canonical form) are collected in `producers_canonical`.  `cmp_wrong_without_canon`
  shows the hypothesis is needed: the 2-word heap value that `UBig::ones(128)` built before fix
  283f2ad compares `Greater` than the equal inline value although `==` holds.

  Floats: `repr_cmp_same_base` = order of the values under the invariant `digits ≤ precision`
  (counterexample without it), `normalize` canonical, `==` ⇔ `cmp = Equal`.
  Rationals: `repr_cmp`/`repr_eq` = cross multiplication for non-reduced fractions; structural
  `RBig ==` on reduced ones.
-/
namespace Dashu.Props.C05
open Dashu.Model

-- ================================================================== integers

/-- `UBig::cmp` = order of the values -/
theorem ubig_cmp (W : Nat) (a b : TRepr) (ha : a.Canon W) (hb : b.Canon W) :
    a.cmp b = compare (a.value W) (b.value W) :=
  TRepr.cmp_spec W a b ha hb

/-- `IBig::cmp` = order of the values -/
theorem ibig_cmp (W : Nat) (a b : SRepr) (ha : SCanon W a) (hb : SCanon W b) :
    a.cmp b = compare (a.value W) (b.value W) :=
  SRepr.cmp_spec W a b ha hb

/-- the canonical representation of a value is unique (magnitudes and signed values) -/
theorem canonical_form_unique (W : Nat) (a b : SRepr) (ha : SCanon W a) (hb : SCanon W b)
    (hv : a.value W = b.value W) : a = b :=
  SRepr.canon_unique W a b ha hb hv

/-- `==` holds exactly when the values are equal -/
theorem eq_iff_value_eq (W : Nat) (a b : SRepr) (ha : SCanon W a) (hb : SCanon W b) :
    a.beq W b = true ↔ a.value W = b.value W :=
  SRepr.beq_iff W a b ha hb

/-- `cmp` returns `Equal` exactly when `==` holds -/
theorem cmp_equal_iff_eq (W : Nat) (a b : SRepr) (ha : SCanon W a) (hb : SCanon W b) :
    a.cmp b = .eq ↔ a.beq W b = true :=
  SRepr.cmp_eq_iff W a b ha hb

/-- equal values feed the same (sign, length, words) sequence to the `Hasher` — and the byte stream
    derived from it — and different values feed different sequences -/
theorem hash_follows_value (W : Nat) (a b : SRepr) (ha : SCanon W a) (hb : SCanon W b) :
    (a.value W = b.value W → a.hashFeed W = b.hashFeed W ∧
        (a.hashFeed W).bytes W = (b.hashFeed W).bytes W) ∧
    (a.hashFeed W = b.hashFeed W → a.value W = b.value W) := by
  refine ⟨fun h => ?_, (SRepr.hashFeed_iff W a b ha hb).mp⟩
  have := (SRepr.hashFeed_iff W a b ha hb).mpr h
  exact ⟨this, by rw [this]⟩

/-- the order is total and antisymmetric on values: swapping the operands swaps the result -/
theorem cmp_swap (W : Nat) (a b : SRepr) (ha : SCanon W a) (hb : SCanon W b) :
    b.cmp a = (a.cmp b).swap := by
  rw [SRepr.cmp_spec W a b ha hb, SRepr.cmp_spec W b a hb ha, Int.compare_swap]

/-- Without `Canon` the shortcut `RefSmall < RefLarge` is wrong: the 2-word HEAP value `[MAX, MAX]`
    (what `UBig::ones(128)` produced before fix 283f2ad) has the same value, the same `as_sign_slice`
    (so `==` is true and the hash feed is equal) as the inline `2^128 - 1`, but `cmp` says `Greater`. -/
theorem cmp_wrong_without_canon :
    let bad : SRepr := ⟨false, .large [2 ^ 64 - 1, 2 ^ 64 - 1]⟩
    let good : SRepr := ⟨false, .small (2 ^ 128 - 1)⟩
    ¬ SCanon 64 bad ∧ SCanon 64 good ∧ bad.value 64 = good.value 64 ∧
    bad.beq 64 good = true ∧ bad.hashFeed 64 = good.hashFeed 64 ∧
    bad.cmp good = .gt ∧ good.cmp bad = .lt ∧
    bad.mag = reprOnes 64 false 128 ∧ good.mag = reprOnes 64 true 128 := by
  refine ⟨by decide, by decide, by decide, by decide, by decide, by decide, by decide, by decide, by decide⟩

/-- Producers: the constructors and operations of the dispatch layer modelled in this tree return
    canonical form for canonical operands (so the hypotheses of the theorems above are met by every
    value the library hands out): `from_buffer` (any buffer), `UBig::from` words via `ofNat`,
    `ones`, `& | ^ and_not`, `add_one/sub_one`, `<<`, `>>`, `clear_high_bits`, `split_bits`.
    (The ring operations `+ - *` are in `Proofs/Int/Repr.lean`/C01; capacity policy is C17.) -/
theorem producers_canonical (W : Nat) (hW : 1 ≤ W) (a b : TRepr) (ha : a.Canon W) (hb : b.Canon W)
    (ws : List Nat) (hws : IsWords W ws) (n x : Nat) :
    (fromBuffer W ws).Canon W ∧ (ofNat W x).Canon W ∧ (reprOnes W true n).Canon W ∧
    (a.bitand W b).Canon W ∧ (a.bitor W b).Canon W ∧ (a.bitxor W b).Canon W ∧ (a.andNot W b).Canon W ∧
    (magAddOne W a).Canon W ∧ (a.value W ≠ 0 → (magSubOne W a).Canon W) ∧
    (a.shl W n).Canon W ∧ (a.shr W n false).Canon W ∧ (a.shr W n true).Canon W ∧
    (a.clearHighBits W n).Canon W ∧ (a.splitBits W n).1.Canon W ∧ (a.splitBits W n).2.Canon W :=
  ⟨fromBuffer_canon W ws hws, ofNat_canon W hW x, reprOnes_canon_fixed W hW n,
   (TRepr.bitand_spec W a b ha hb).2, (TRepr.bitor_spec W a b ha hb).2, (TRepr.bitxor_spec W a b ha hb).2,
   (TRepr.andNot_spec W a b ha hb).2, (magAddOne_spec W hW a ha).2, fun h => (magSubOne_spec W a ha h).2,
   (TRepr.shl_spec W hW a n ha).2, (TRepr.shr_spec W hW a n false ha).2, (TRepr.shr_spec W hW a n true ha).2,
   (TRepr.clearHighBits_spec W hW a n ha).2, (TRepr.splitBits_spec W hW a n ha).1.2,
   (TRepr.splitBits_spec W hW a n ha).2.2⟩

/-- signed producers: the IBig bit operators, `!`, `<<` keep `SCanon` (in particular never a negative zero) -/
theorem signed_producers_canonical (W : Nat) (hW : 1 ≤ W) (a b : SRepr) (ha : SCanon W a) (hb : SCanon W b)
    (n : Nat) (x : Int) :
    SCanon W (ibigAnd W a b) ∧ SCanon W (ibigOr W a b) ∧ SCanon W (ibigXor W a b) ∧ SCanon W (ibigNot W a) ∧
    SCanon W (ibigShl W a n) ∧ SCanon W (sOfInt W x) :=
  ⟨(ibigAnd_spec W hW a b ha hb).2, (ibigOr_spec W hW a b ha hb).2, (ibigXor_spec W hW a b ha hb).2,
   (ibigNot_spec W hW a ha).2, withSign_wf W _ _ (TRepr.shl_spec W hW a.mag n ha.1).2,
   (sOfInt_spec W hW x).1⟩

-- ================================================================== histories: "whichever constructor or operation produced the values"

/-- **history theorem (canonical form).**  Run ANY finite program of library operations —
    constructors (`const`; `fromWords`: ANY raw word buffer through `from_buffer` + sign, which is how
    `from_words`, the chunk decoders and `from_parts` build their result;
    `fromUnsigned`/`fromSigned`: `From<uN>`/`From<iN>`; `fromStr`: `from_str_radix` on ANY text through the
    mirrored parser; `from(Signed)Le/BeBytes`: the byte decoders on ANY byte string), `clone`, `neg`, `abs`, `!`,
    `sqr`, `pow`, `<<`, `>>`, `+`, `-`, `*`, `/`, `%`, `div_euclid`, `rem_euclid`, `&`, `|`, `^`, `ones`, `gcd`,
    `sqrt`, `nth_root`, the byte round trips `from_*_bytes(to_*_bytes(x))`, and the `UBig`-only `set_bit`,
    `clear_bit`, `clear_high_bits`, `split_bits` (both halves), `next_power_of_two` — over a register file of
    canonical values, feeding results back as operands: every register ever produced (also those produced
    before a panic) is canonical.  (The per-operation facts are the theorems of C01/C02/C07/C09/C12 about the
    same executable model; `clone_from` on the ledger model is C17.) -/
theorem history_canonical (W : Nat) (hW : 4 ≤ W) (ops : List HOpX) (hok : ∀ op ∈ ops, op.Ok W)
    (env : List SRepr) (henv : ∀ r ∈ env, SCanon W r) :
    ∀ r ∈ (hrunX W ops env).1, SCanon W r :=
  (hrunX_sound W hW ops hok env henv).1

/-- **history theorem (values).**  The program computes exactly what the same program computes on
    mathematical integers (`hrunSpecX`: `+ - *`, truncating `/ %`, Euclidean `div_euclid/rem_euclid`, two's-complement
    `& | ^ !`, `·2^n`, floor `/2^n`, `^`, `Int.gcd`, `Nat.sqrt`, the floor `n`-th root truncated toward zero, the
    grammar `parseRadixSpec`, the positional value of byte strings), stops at the same instruction, and panics
    only where the value-level program does (division by zero; `pow` whose result cannot be allocated;
    `gcd(0,0)`; zeroth root; even root of a negative). -/
theorem history_values (W : Nat) (hW : 4 ≤ W) (ops : List HOpX) (hok : ∀ op ∈ ops, op.Ok W)
    (env : List SRepr) (henv : ∀ r ∈ env, SCanon W r) :
    hrunSpecX W ops (env.map (·.value W)) = ((hrunX W ops env).1.map (·.value W), (hrunX W ops env).2) :=
  (hrunX_sound W hW ops hok env henv).2

/-- **C05 for histories.**  For any two values ever produced by such a program — by whatever
    sequence of operations — `==` holds exactly when the values are equal, `cmp` is the order of the
    values (and `Equal` exactly when `==`), and the hash feeds are equal exactly when the values are. -/
theorem history_eq_cmp_hash (W : Nat) (hW : 4 ≤ W) (ops : List HOpX) (hok : ∀ op ∈ ops, op.Ok W)
    (env : List SRepr) (henv : ∀ r ∈ env, SCanon W r) (a b : SRepr)
    (ha : a ∈ (hrunX W ops env).1) (hb : b ∈ (hrunX W ops env).1) :
    (a.beq W b = true ↔ a.value W = b.value W) ∧
    a.cmp b = compare (a.value W) (b.value W) ∧
    (a.cmp b = .eq ↔ a.beq W b = true) ∧
    (a.hashFeed W = b.hashFeed W ↔ a.value W = b.value W) ∧
    (a.value W = b.value W → a = b) := by
  have ca := history_canonical W hW ops hok env henv a ha
  have cb := history_canonical W hW ops hok env henv b hb
  exact ⟨SRepr.beq_iff W a b ca cb, SRepr.cmp_spec W a b ca cb, SRepr.cmp_eq_iff W a b ca cb,
    SRepr.hashFeed_iff W a b ca cb, SRepr.canon_unique W a b ca cb⟩

-- non-vacuity of `HOp.Ok`: a raw buffer with leading zero words, a primitive at the edge of its range
example : (∀ op ∈ [HOp.fromWords true [5, 0, 7, 0, 0], .fromSigned 8 (-128), .fromUnsigned (2 ^ 100),
      .setBit 2 200, .clearBit 3 200, .splitHi 3 64, .nextPow2 5], op.Ok 64) ∧
    (hrun 64 [.fromWords true [5, 0, 7, 0, 0], .fromSigned 8 (-128), .fromUnsigned (2 ^ 100),
      .setBit 2 200, .clearBit 3 200, .splitHi 3 64, .nextPow2 5] []).1
      = [⟨true, .large [5, 0, 7]⟩, ⟨true, .small 128⟩, ⟨false, .small (2 ^ 100)⟩,
         ⟨false, .large [0, 2 ^ 36, 0, 256]⟩, ⟨false, .small (2 ^ 100)⟩, ⟨false, .large [2 ^ 36, 0, 256]⟩,
         ⟨false, .large [0, 0, 512]⟩] := by
  refine ⟨?_, by decide⟩
  intro op hop
  simp only [List.mem_cons, List.mem_nil_iff, or_false] at hop
  rcases hop with rfl | rfl | rfl | rfl | rfl | rfl | rfl <;> simp [HOp.Ok] <;> decide

-- non-vacuity: x·y/y, (x<<70)>>70 and x+y−y rebuild the register-0 value 2^64+5 by three routes
-- that cross the inline/heap boundary; all copies are the identical representation
example : (hrun 64 [.mul 0 1, .div 2 1, .shl 0 70, .shr 4 70 false, .add 0 1 0, .sub 6 1 0]
    [⟨false, .small (2 ^ 64 + 5)⟩, ⟨true, .small (2 ^ 100)⟩]).1.map (·.value 64)
    = [2 ^ 64 + 5, -(2 ^ 100), -((2 ^ 64 + 5) * 2 ^ 100), 2 ^ 64 + 5, (2 ^ 64 + 5) * 2 ^ 70, 2 ^ 64 + 5,
       2 ^ 64 + 5 - 2 ^ 100, 2 ^ 64 + 5] := by decide

-- non-vacuity of the extended instruction set (`HOpX.Ok 64` holds: 64 is even, a multiple of 8, 36 < 2^64, the
-- bytes are bytes): the value 2^64 = 0x1_0000000000000000 built by the parser (radix 16, with an underscore), by
-- the little-endian and the two's-complement big-endian byte decoders (9 bytes), through a byte round trip, as
-- gcd(2^64·3, 2^64·5), as sqrt(2^128 + 1) and as the cube root of 2^192 + 7 — seven registers, one
-- representation (the 2-word INLINE value)
example : (∀ op ∈ [HOpX.fromStr false 16 [49, 95, 48, 48, 48, 48, 48, 48, 48, 48, 48, 48, 48, 48, 48, 48, 48, 48],
      .fromLeBytes [0, 0, 0, 0, 0, 0, 0, 0, 1, 0, 0], .fromSignedBeBytes [0, 1, 0, 0, 0, 0, 0, 0, 0, 0],
      .viaLeBytes 0, .base (.const (2 ^ 64 * 3)), .base (.const (-(2 ^ 64 * 5))), .gcd 4 5,
      .base (.const (2 ^ 128 + 1)), .sqrt 7, .base (.const (2 ^ 192 + 7)), .nthRoot 9 3], op.Ok 64) ∧
    (hrunX 64 [HOpX.fromStr false 16 [49, 95, 48, 48, 48, 48, 48, 48, 48, 48, 48, 48, 48, 48, 48, 48, 48, 48],
      .fromLeBytes [0, 0, 0, 0, 0, 0, 0, 0, 1, 0, 0], .fromSignedBeBytes [0, 1, 0, 0, 0, 0, 0, 0, 0, 0],
      .viaLeBytes 0, .base (.const (2 ^ 64 * 3)), .base (.const (-(2 ^ 64 * 5))), .gcd 4 5,
      .base (.const (2 ^ 128 + 1)), .sqrt 7, .base (.const (2 ^ 192 + 7)), .nthRoot 9 3] []).1.map
        (fun r => decide (r = ⟨false, .small (2 ^ 64)⟩))
      = [true, true, true, true, false, false, true, false, true, false, true] := by
  refine ⟨?_, by decide +kernel⟩
  intro op hop
  simp only [List.mem_cons, List.mem_nil_iff, or_false] at hop
  rcases hop with rfl | rfl | rfl | rfl | rfl | rfl | rfl | rfl | rfl | rfl | rfl <;>
    simp [HOpX.Ok, HOp.Ok]

-- ================================================================== floats

/-- `FBig::cmp / partial_cmp` (`repr_cmp_same_base`) is the total order of the values
    `signif · B^exp` with the infinities at the two ends — for operands of ANY precision and any
    rounding mode (the rounding mode does not occur in the function), PROVIDED every operand with a
    limited precision `p` has at most `p + 1` significant digits (`|signif| < B^(p+1)`), and for every
    digit estimator `digitsUb` that is an upper bound (the code's `digits_ub` f32 estimate enters
    only through this hypothesis).  `p + 1`, not `p`: sums of opposite signs and quotients legitimately
    carry one extra digit (`repr_round_sum`: "we don't shrink the extra digit"; e.g. `1230 - 1 = 1229`
    at precision 3 — see `float_results_fit`), and the strict `>` in the shortcut tolerates exactly that.
    Since /repo ee43486 the code clamps each precision to `isize::MAX` before the shortcut, so the digit bound reads
    `min precision isize::MAX + 1`: for every precision `≤ isize::MAX` that is `precision + 1`; above it, it says "at most
    2^63 digits", which every significand that fits a 64-bit address space satisfies (the Nat/usize gap of the model —
    `fits_min` splits it that way). -/
theorem float_cmp (B : Nat) (hB : 2 ≤ B) (digitsUb : Int → Nat)
    (hub : ∀ s : Int, s.natAbs < B ^ digitsUb s)
    (lhs rhs : FRepr) (prec : Option (Nat × Nat))
    (hprec : ∀ lp rp, prec = some (lp, rp) →
      (lp ≠ 0 → lhs.signif.natAbs < B ^ (min lp cmpIsizeMax + 1)) ∧
      (rp ≠ 0 → rhs.signif.natAbs < B ^ (min rp cmpIsizeMax + 1))) :
    reprCmpSameBase B digitsUb lhs rhs prec = specFCmp B lhs rhs :=
  reprCmpSameBase_spec B hB digitsUb hub lhs rhs prec hprec

/-- the same with the digit bound in its pre-clamp form (`precision + 1`) for precisions `≤ isize::MAX` — every
    precision for which a significand of that many digits can exist in memory.  (Before /repo ee43486 the code computed
    `exponent + precision as isize` unclamped and overflowed; the theorem then was about a model that assumed no overflow.) -/
theorem float_cmp_of_small_precision (B : Nat) (hB : 2 ≤ B) (digitsUb : Int → Nat)
    (hub : ∀ s : Int, s.natAbs < B ^ digitsUb s)
    (lhs rhs : FRepr) (lp rp : Nat) (hlp : lp ≤ cmpIsizeMax) (hrp : rp ≤ cmpIsizeMax)
    (hl : lp ≠ 0 → lhs.signif.natAbs < B ^ (lp + 1)) (hr : rp ≠ 0 → rhs.signif.natAbs < B ^ (rp + 1)) :
    reprCmpSameBase B digitsUb lhs rhs (some (lp, rp)) = specFCmp B lhs rhs := by
  apply float_cmp B hB digitsUb hub
  intro lp' rp' h
  cases h
  exact ⟨fun h => fits_min_of_le B _ _ hlp (hl h), fun h => fits_min_of_le B _ _ hrp (hr h)⟩

-- non-vacuity of the clamped form ABOVE the clamp: `x.with_precision(usize::MAX)` (the witness of the repaired defect,
-- corpus/C05/float_cmp_exponent_overflow.case): precision 2^64−1 is clamped to 2^63−1, the hypothesis holds (1229 has 4
-- digits), the comparison is that of the values — `Equal` against itself, `Less` against 1·10^4
example : (min (2 ^ 64 - 1) cmpIsizeMax = 2 ^ 63 - 1) ∧ ((1229 : Int).natAbs < 10 ^ (min (2 ^ 64 - 1) cmpIsizeMax + 1)) ∧
    reprCmpSameBase 10 (fun _ => 4) ⟨1229, 0⟩ ⟨1229, 0⟩ (some (2 ^ 64 - 1, 2 ^ 64 - 1)) = .eq ∧
    reprCmpSameBase 10 (fun _ => 4) ⟨1229, 0⟩ ⟨1, 4⟩ (some (2 ^ 64 - 1, 3)) = .lt := by
  refine ⟨by decide, ?_, by decide, by decide⟩
  exact Nat.lt_of_lt_of_le (by decide : (1229 : Int).natAbs < 10 ^ 4) (Nat.pow_le_pow_right (by decide) (by decide))

/- The statement without any hypothesis on the digits is false (`float_cmp_needs_precision_bound`);
   `Context::convert_base` used to hand out such values (fix 02e179b). -/

/-- the hypothesis is needed and sharp: with `p + 2` digits the shortcut is wrong — `9999` at
    precision 2 is ordered BELOW `2·10^3`; and the value `824633720832` with precision 3 (what
    `with_base::<10>()` returned for the binary float `3·2^38` before fix 02e179b) BELOW `2·10^6`.
    With `p + 1` digits (`999` at precision 2 against `1·10^3`) the shortcut is still right. -/
theorem float_cmp_needs_precision_bound :
    reprCmpSameBase 10 (fun s => digitsNat 10 s.natAbs) ⟨9999, 0⟩ ⟨2, 3⟩ (some (2, 1)) = .lt ∧
    specFCmp 10 ⟨9999, 0⟩ ⟨2, 3⟩ = .gt ∧
    reprCmpSameBase 10 (fun s => digitsNat 10 s.natAbs) ⟨824633720832, 0⟩ ⟨2, 6⟩ (some (3, 1)) = .lt ∧
    specFCmp 10 ⟨824633720832, 0⟩ ⟨2, 6⟩ = .gt ∧
    reprCmpSameBase 10 (fun s => digitsNat 10 s.natAbs) ⟨999, 0⟩ ⟨1, 3⟩ (some (2, 1)) = .lt ∧
    specFCmp 10 ⟨999, 0⟩ ⟨1, 3⟩ = .lt := by
  refine ⟨by decide, by decide, by decide, by decide, by decide, by decide⟩

/-- **The invariant the float operations actually guarantee is `digits ≤ precision + 1`**, not
    `≤ precision`: every modelled producer of C03 (`Context::repr_round` = `with_precision`,
    `mul/sqr/cubic`: at most `p` digits (`sqrt` likewise: `Float.ctxSqrt_digits_le` in C03's modules); `add/sub`: `p + 1` — the spare digit only when the
    signs differ —; `repr_div` for a dividend that fits `rhs.digits + p`: `p + 1`) returns a value that
    fits with one spare digit, for operands of ANY length (so also for operands that are themselves
    `p+1`-digit results: the invariant is preserved along chains of operations).
    [digit-length lemmas: `Proofs/Float/Closing.lean`] -/
theorem float_results_fit (B : Nat) (hB : 2 ≤ B) (m : Float.Mode) (c : Float.Coarse) (dub : Int → Nat)
    (p : Nat) (hp : 1 ≤ p) (x y : Dashu.Model.Float.FRepr) (rs : Int) (hrs : rs = 1 ∨ rs = -1)
    (hwx : x.signif = 0 → x.exp = 0) (hwy : y.signif = 0 → y.exp = 0) :
    FitsP1 B p (Float.reprRound B m c p x).1 ∧
    FitsP1 B p (Float.ctxAddSub B m c dub p x y rs).1 ∧
    (∀ fixed, FitsP1 B p (Float.ctxMul fixed B m c p x y).1 ∧ FitsP1 B p (Float.ctxSqr fixed B m c p x).1 ∧
      FitsP1 B p (Float.ctxCubic fixed B m c p x).1) ∧
    (y.signif ≠ 0 → x.digits B ≤ y.digits B + p →
      ∃ r, Float.reprDiv B m p x y = .ok r ∧ FitsP1 B p r.1) := by
  refine ⟨?_, (Float.ctxAddSub_digits_le B hB m c dub p hp x y rs hrs hwx hwy).1, fun fixed => ⟨?_, ?_, ?_⟩, ?_⟩
  · exact Nat.le_succ_of_le (Float.reprRound_digits_le B hB m c p hp x)
  · exact Nat.le_succ_of_le (Float.ctxMul_digits_le fixed B hB m c p hp x y)
  · exact Nat.le_succ_of_le (Float.ctxSqr_digits_le fixed B hB m c p hp x)
  · exact Nat.le_succ_of_le (Float.ctxCubic_digits_le fixed B hB m c p hp x)
  · intro hy hfit
    obtain ⟨r, e, h, _⟩ := Float.reprDiv_digits_le B hB m p hp x y hy hfit
    exact ⟨r, e, h⟩

/-- **Float producers return the canonical representation** (`Repr::new` = `normalize` at the end of
    every path): `mul/sqr/cubic`, `repr_round_sum` and `repr_div` always; `repr_round`
    (`with_precision`) and `add/sub` for canonical operands (they may hand an operand through
    unchanged).  With `float_eq_iff_cmp_equal` this gives `==` ⇔ equal values ⇔ `cmp = Equal` for
    the results of these operations, whatever their precisions. -/
theorem float_results_canonical (B : Nat) (hB : 2 ≤ B) (m : Float.Mode) (c : Float.Coarse) (dub : Int → Nat)
    (p : Nat) (x y : Dashu.Model.Float.FRepr) (rs : Int)
    (hx : FCanon B (ofFloatRepr x)) (hy : FCanon B (ofFloatRepr y)) :
    FCanon B (ofFloatRepr (Float.reprRound B m c p x).1) ∧
    FCanon B (ofFloatRepr (Float.ctxAddSub B m c dub p x y rs).1) ∧
    (∀ fixed (u v : Dashu.Model.Float.FRepr), FCanon B (ofFloatRepr (Float.ctxMul fixed B m c p u v).1)) ∧
    (∀ (u v : Dashu.Model.Float.FRepr) r, Float.reprDiv B m p u v = .ok r → FCanon B (ofFloatRepr r.1)) :=
  have hN := new_fcanon B hB
  ⟨reprRound_keeps (P := fun r => FCanon B (ofFloatRepr r)) hN m c p hx,
   ctxAddSub_keeps (P := fun r => FCanon B (ofFloatRepr r)) hN m c dub p rs hx hy (fcanon_neg B y hy),
   fun _ _ _ => (reprRound_new_normFin B hB m c p _ _).1, fun _ _ _ h => (reprDiv_keeps (new_normFin B hB) h).1⟩

-- non-vacuity: `1230 − 1` and `12.29·10^2` built by a product are the same canonical value
example : FCanon 10 (ofFloatRepr ⟨123, 1⟩) ∧ FCanon 10 (ofFloatRepr ⟨1, 0⟩) ∧
    ofFloatRepr (Float.ctxAddSub 10 .halfEven Float.coarseNone (fun s => Float.digitsI 10 s) 3 ⟨123, 1⟩ ⟨1, 0⟩ (-1)).1
      = ⟨1229, 0⟩ := by
  refine ⟨⟨by decide, by decide⟩, ⟨by decide, by decide⟩, by decide⟩

/-- **The remaining `Context` producers keep the invariant and the canonical form**:
    `Context::div` INCLUDING its own pre-shrink of an over-long dividend (done by reference,
    `repr_round_ref`, to `rhs.digits + p` digits — given sound `digits_ub`/`digits_lb` estimates), `inv`,
    `sqrt`, `powi` with exponent ≥ 2 (C11's mirrored binary-exponentiation loop at the working precision, then
    `with_precision`) and `powi` with a negative exponent (power and reciprocal at the reversed context, then
    `repr_round`): each returns at most `p + 1` digits and the normalised representation, for operands of ANY
    length.  (`powi(x, 0) = 1`; `powi(x, 1)` and `powf(x, 1)` are `repr_round_ref(x)`: first conjunct of
    `float_results_fit`.) -/
theorem float_results_fit_more (B : Nat) (hB : 2 ≤ B) (m : Float.Mode) (c : Float.Coarse) (dub dlb : Int → Nat)
    (hdub : Float.DubSound B dub) (hdlb : Float.DlbSound B dlb) (sr : Nat → Nat × Nat)
    (p : Nat) (hp : 1 ≤ p) (x y : Dashu.Model.Float.FRepr) :
    (y.signif ≠ 0 → ∃ r, Float.ctxDiv B m c dub dlb p x y = .ok r ∧ FitsP1 B p r.1 ∧ FCanon B (ofFloatRepr r.1)) ∧
    (y.signif ≠ 0 → ∃ r, Float.ctxInv B m p y = .ok r ∧ FitsP1 B p r.1 ∧ FCanon B (ofFloatRepr r.1)) ∧
    (0 ≤ x.signif → ∃ r, Float.ctxSqrt B m c sr p x = .ok r ∧ FitsP1 B p r.1 ∧ FCanon B (ofFloatRepr r.1)) ∧
    (∀ fixed bs, FitsP1 B p (Trans.powiNonneg fixed B m c p x bs).2.1 ∧
      (FCanon B (ofFloatRepr x) → FCanon B (ofFloatRepr (Trans.powiNonneg fixed B m c p x bs).2.1))) ∧
    (∀ fixed n r, Trans.powiNeg fixed B m c p x n = .ok r → FitsP1 B p r.2.2.1 ∧ FCanon B (ofFloatRepr r.2.2.1)) := by
  have hN := new_normFin B hB
  refine ⟨fun hy => ?_, fun hy => ?_, fun hs => ?_, fun fixed bs => ⟨powiNonneg_fits fixed B hB m c p hp x bs,
    fun hx => powiNonneg_keeps (P := fun r => FCanon B (ofFloatRepr r)) (new_fcanon B hB) fixed m c p hx bs⟩,
    fun fixed n r h => ⟨powiNeg_fits fixed B hB m c p hp x n r h, (powiNeg_keeps hN h).1⟩⟩
  · obtain ⟨r, h, hf⟩ := ctxDiv_fits B hB m c dub dlb hdub hdlb p hp x y hy
    exact ⟨r, h, hf, (reprDiv_keeps hN h).1⟩
  · obtain ⟨r, h, hf⟩ := ctxInv_fits B hB m p hp y hy
    exact ⟨r, h, hf, (reprDiv_keeps hN h).1⟩
  · obtain ⟨r, h, hf⟩ := ctxSqrt_fits B hB m c sr p hp x hs
    exact ⟨r, h, hf, (ctxSqrt_keeps hN h).1⟩

-- non-vacuity: a 7-digit dividend at precision 3 goes through the pre-shrink (exact digit counts are sound
-- estimates): 1234567 / 7 = 176·10^3; 1.2345^5 = 2.87; 1.2345^-3 = 0.532; sqrt 2 = 1.41
example : Float.DubSound 10 (fun s => Float.digitsI 10 s) ∧ Float.DlbSound 10 (fun s => Float.digitsI 10 s) ∧
    (Float.ctxDiv 10 .halfEven Float.coarseNone (fun s => Float.digitsI 10 s) (fun s => Float.digitsI 10 s) 3
      ⟨1234567, 0⟩ ⟨7, 0⟩).toOption.map (·.1) = some ⟨176, 3⟩ ∧
    (Trans.powiNonneg false 10 .halfEven Float.coarseNone 3 ⟨12345, -4⟩ (Trans.lowBits 5)).2.1 = ⟨287, -2⟩ ∧
    (Trans.powiNeg false 10 .halfEven Float.coarseNone 3 ⟨12345, -4⟩ 3).toOption.map (·.2.2.1) = some ⟨532, -3⟩ ∧
    (Float.ctxSqrt 10 .halfEven Float.coarseNone Float.natSqrtRem 3 ⟨2, 0⟩).toOption.map (·.1) = some ⟨141, -2⟩ := by
  refine ⟨fun _ => Nat.le_refl _, fun _ => Nat.le_refl _, by decide +kernel, by decide +kernel, by decide +kernel,
    by decide +kernel⟩

/-- **The constructors of floats meet the invariant with NO spare digit** (`digits ≤ precision`) and hand out the
    normalised representation: `FBig::from_parts` / `From<IBig>` / `From<primitive>` (precision = digit count of the
    significand as given, at least 1; `Repr::new` strips trailing zero digits, it never adds digits),
    `Context::convert_int` (`Repr::new(n, 0)` then `repr_round`), and the parser (`Repr::from_str_native`: the
    significand is `int·B^df + fract` — or `int` when the fraction is zero — from `di + df` digit characters, the
    precision is that character count `ndigits ≥ 1`), any sign, any scale. -/
theorem float_sources_fit (B : Nat) (hB : 2 ≤ B) (m : Float.Mode) (c : Float.Coarse) (p : Nat) (hp : 1 ≤ p)
    (s e : Int) (int fr di df : Nat) (neg : Bool) (hi : int < B ^ di) (hf : fr < B ^ df) (hn : 1 ≤ di + df) :
    ((Float.FRepr.new B s e).digits B ≤ max (Float.digitsI B s) 1 ∧ FCanon B (ofFloatRepr (Float.FRepr.new B s e))) ∧
    (FitsP1 B p (Float.reprRound B m c p (Float.FRepr.new B s 0)).1 ∧
      FCanon B (ofFloatRepr (Float.reprRound B m c p (Float.FRepr.new B s 0)).1)) ∧
    (let sg : Int := (if neg then -1 else 1) * ((if fr = 0 then int else int * B ^ df + fr : Nat) : Int)
     (Float.FRepr.new B sg e).digits B ≤ di + df ∧ FCanon B (ofFloatRepr (Float.FRepr.new B sg e))) :=
  ⟨fromParts_fits B hB s e, convertInt_fits B hB m c p hp s, parse_fits B hB int fr di df neg e hi hf hn⟩

-- non-vacuity: "-012.3400" (di = 3, df = 4): significand 0123400 → -1234·10^-2, 4 ≤ 7 digits
example : (12 < 10 ^ 3) ∧ (3400 < 10 ^ 4) ∧ Float.FRepr.new 10 (-(12 * 10 ^ 4 + 3400)) (-4) = ⟨-1234, -2⟩ := by
  refine ⟨by decide, by decide, by decide +kernel⟩

/-- hence comparison of any two such results (of any precisions `pa`, `pb ≥ 1`, any rounding modes —
    the mode does not occur in the comparison) is the order of their exact values.
    `hma`/`hmb` ("at most 2^63 digits") are the Nat/usize gap of the model: since /repo ee43486 the code clamps the
    precisions to `isize::MAX` before the shortcut; they follow from `ha`/`hb` whenever the precision is `≤ isize::MAX`
    (`FitsP1.mem_of_le`), and a longer significand does not fit a 64-bit address space. -/
theorem float_cmp_of_results (B : Nat) (hB : 2 ≤ B) (digitsUb : Int → Nat)
    (hub : ∀ s : Int, s.natAbs < B ^ digitsUb s) (a b : Dashu.Model.Float.FRepr) (pa pb : Nat)
    (ha : FitsP1 B pa a) (hb : FitsP1 B pb b)
    (hma : FitsP1 B cmpIsizeMax a) (hmb : FitsP1 B cmpIsizeMax b) :
    reprCmpSameBase B digitsUb (ofFloatRepr a) (ofFloatRepr b) (some (pa, pb))
      = specFCmp B (ofFloatRepr a) (ofFloatRepr b) := by
  apply float_cmp B hB digitsUb hub
  intro lp rp h
  cases h
  exact ⟨fun _ => fits_min B _ _ (ha.bound hB) (hma.bound hB), fun _ => fits_min B _ _ (hb.bound hB) (hmb.bound hB)⟩

-- ------------------------------------------------------------------ float histories

/-- **float history theorem.**  Run ANY finite program of float producers — `from_parts`, `TryFrom<f32/f64>` (`fromFloat`), `convert_int`,
    `with_precision`, `neg`, `clone`, the `Context` methods `add sub mul sqr cubic div inv sqrt powi` (positive and
    negative exponents) at ANY limited precision per instruction (the `FBig` operators are these at `Context::max` of
    the operands), the operator product — over a register file of `(representation, precision)` pairs, results fed
    back as operands, stopping at the first panic: every register ever produced is normalised (`FCanon`), finite,
    and carries at most `precision + 1` digits.  (Sound `digits_ub/digits_lb` estimates as in `float_results_fit_more`;
    any rounding mode, any coarse test, any square-root kernel: they do not enter.) -/
theorem float_history (k : FCfg) (hB : 2 ≤ k.B) (hdub : Float.DubSound k.B k.dub) (hdlb : Float.DlbSound k.B k.dlb)
    (ops : List FOp) (hok : ∀ op ∈ ops, op.Ok) (env : List FReg) (henv : ∀ x ∈ env, FGood k.B x) :
    ∀ x ∈ frun k ops env, FGood k.B x :=
  frun_good k hB hdub hdlb ops hok env henv

/-- a finite float (zero stored as `0·B^0`) is none of the infinities `0·B^e`, `e ≠ 0` -/
theorem ffin_not_infinite {r : Float.FRepr} (h : FFin r) : (ofFloatRepr r).isInfinite = false := by
  simp only [FRepr.isInfinite, ofFloatRepr, Bool.and_eq_false_iff, bne_eq_false_iff_eq, beq_eq_false_iff_ne]
  by_cases h0 : r.signif = 0
  · exact Or.inr (h h0)
  · exact Or.inl h0

/-- **C05 for float histories.**  For any two values ever produced by such a program — of whatever precisions, by
    whatever operations — the comparison the code runs (`repr_cmp_same_base` with the precision and digit shortcuts,
    any sound digit estimator) is the order of the exact values, it says `Equal` exactly when `==` holds, and `==`
    holds exactly when the two representations are identical.  `hma`/`hmb` (at most 2^63 + 1 digits) are the Nat/usize
    gap: the code clamps the precisions to `isize::MAX` (/repo ee43486); they hold for every register whose precision is
    `≤ isize::MAX` (`float_history_cmp_small`) and for every significand that fits a 64-bit address space. -/
theorem float_history_cmp (k : FCfg) (hB : 2 ≤ k.B) (hdub : Float.DubSound k.B k.dub) (hdlb : Float.DlbSound k.B k.dlb)
    (ops : List FOp) (hok : ∀ op ∈ ops, op.Ok) (env : List FReg) (henv : ∀ x ∈ env, FGood k.B x)
    (digitsUb : Int → Nat) (hub : ∀ s : Int, s.natAbs < k.B ^ digitsUb s)
    (a b : FReg) (ha : a ∈ frun k ops env) (hb : b ∈ frun k ops env)
    (hma : FitsP1 k.B cmpIsizeMax a.r) (hmb : FitsP1 k.B cmpIsizeMax b.r) :
    reprCmpSameBase k.B digitsUb (ofFloatRepr a.r) (ofFloatRepr b.r) (some (a.p, b.p))
      = specFCmp k.B (ofFloatRepr a.r) (ofFloatRepr b.r) ∧
    (reprCmpSameBase k.B digitsUb (ofFloatRepr a.r) (ofFloatRepr b.r) (some (a.p, b.p)) = .eq ↔
      fbigEq (ofFloatRepr a.r) (ofFloatRepr b.r) = true) ∧
    (fbigEq (ofFloatRepr a.r) (ofFloatRepr b.r) = true ↔ a.r = b.r) := by
  obtain ⟨ca, fa, da⟩ := float_history k hB hdub hdlb ops hok env henv a ha
  obtain ⟨cb, fb, db⟩ := float_history k hB hdub hdlb ops hok env henv b hb
  have h1 := float_cmp_of_results k.B hB digitsUb hub a.r b.r a.p b.p da db hma hmb
  refine ⟨h1, ?_, ?_⟩
  · rw [h1]; exact (fbigEq_iff k.B hB _ _ ca cb).symm
  · obtain ⟨⟨sa, ea⟩, _⟩ := a
    obtain ⟨⟨sb, eb⟩, _⟩ := b
    have ia : (⟨sa, ea⟩ : FRepr).isInfinite = false := ffin_not_infinite fa
    have ib : (⟨sb, eb⟩ : FRepr).isInfinite = false := ffin_not_infinite fb
    simp [fbigEq, ofFloatRepr, ia, ib]

/-- `float_history_cmp` with no hypothesis beyond the program's: the two registers have precisions `≤ isize::MAX`
    (any precision a 64-bit machine can fill with digits) -/
theorem float_history_cmp_small (k : FCfg) (hB : 2 ≤ k.B) (hdub : Float.DubSound k.B k.dub) (hdlb : Float.DlbSound k.B k.dlb)
    (ops : List FOp) (hok : ∀ op ∈ ops, op.Ok) (env : List FReg) (henv : ∀ x ∈ env, FGood k.B x)
    (digitsUb : Int → Nat) (hub : ∀ s : Int, s.natAbs < k.B ^ digitsUb s)
    (a b : FReg) (ha : a ∈ frun k ops env) (hb : b ∈ frun k ops env)
    (hpa : a.p ≤ cmpIsizeMax) (hpb : b.p ≤ cmpIsizeMax) :
    reprCmpSameBase k.B digitsUb (ofFloatRepr a.r) (ofFloatRepr b.r) (some (a.p, b.p))
      = specFCmp k.B (ofFloatRepr a.r) (ofFloatRepr b.r) ∧
    (reprCmpSameBase k.B digitsUb (ofFloatRepr a.r) (ofFloatRepr b.r) (some (a.p, b.p)) = .eq ↔
      fbigEq (ofFloatRepr a.r) (ofFloatRepr b.r) = true) ∧
    (fbigEq (ofFloatRepr a.r) (ofFloatRepr b.r) = true ↔ a.r = b.r) := by
  obtain ⟨_, _, da⟩ := float_history k hB hdub hdlb ops hok env henv a ha
  obtain ⟨_, _, db⟩ := float_history k hB hdub hdlb ops hok env henv b hb
  exact float_history_cmp k hB hdub hdlb ops hok env henv digitsUb hub a b ha hb (da.mem_of_le hpa) (db.mem_of_le hpb)

-- non-vacuity: 1230 − 1 (precision 3) keeps the spare digit: register 2 = 1229·10^0 with 4 digits at precision 3;
-- register 3 = 1·10^3 (precision 1) sits exactly at the threshold of the precision shortcut; register 4 = 1229/7 =
-- 176 (precision 3), register 5 = its square root 13.3, register 6 = 1.229^-3… — all good, and cmp(reg 3, reg 2) = Less
example :
    let k : FCfg := ⟨10, .halfEven, Float.coarseNone, fun s => Float.digitsI 10 s, fun s => Float.digitsI 10 s, Float.natSqrtRem⟩
    let prog : List FOp := [.fromParts 123 1, .fromParts 1 0, .sub 0 1 3, .fromParts 1 3, .fromParts 7 0, .div 2 4 3,
      .sqrt 5 3, .powiNeg 2 3 2]
    (∀ op ∈ prog, op.Ok) ∧
    (frun k prog []).map (fun x => (x.r.signif, x.r.exp, x.p))
      = [(123, 1, 3), (1, 0, 1), (1229, 0, 3), (1, 3, 1), (7, 0, 1), (176, 0, 3), (133, -1, 3), (54, -11, 2)] ∧
    reprCmpSameBase 10 (fun s => Float.digitsI 10 s) ⟨1, 3⟩ ⟨1229, 0⟩ (some (1, 3)) = .lt := by
  refine ⟨?_, by decide +kernel, by decide +kernel⟩
  intro op hop
  simp only [List.mem_cons, List.mem_nil_iff, or_false] at hop
  rcases hop with rfl | rfl | rfl | rfl | rfl | rfl | rfl | rfl <;> simp [FOp.Ok]

-- non-vacuity of the `fromFloat` instruction (`FBig::<_, 2>::try_from(f32)`, pairs as `f32::decode` returns them): 1.5f32 =
-- 0xC00000·2^-23 → 3·2^-1 with precision 24 (bit length of the mantissa, more than its 2 digits), 0.0 (precision 0 =
-- unlimited), 8.0f32 = 0x800000·2^-20 → 1·2^3 with precision 24, the smallest subnormal 1·2^-149 with precision 1; and
-- cmp(1.5, 8.0) = Less
example :
    let k : FCfg := ⟨2, .halfEven, Float.coarseNone, fun s => Float.digitsI 2 s, fun s => Float.digitsI 2 s, Float.natSqrtRem⟩
    (frun k [.fromFloat 0xC00000 (-23), .fromFloat 0 (-149), .fromFloat 0x800000 (-20), .fromFloat 1 (-149)] []).map
        (fun x => (x.r.signif, x.r.exp, x.p))
      = [(3, -1, 24), (0, 0, 0), (1, 3, 24), (1, -149, 1)] ∧
    reprCmpSameBase 2 (fun s => Float.digitsI 2 s) ⟨3, -1⟩ ⟨1, 3⟩ (some (24, 24)) = .lt := by
  refine ⟨by decide +kernel, by decide +kernel⟩

/-- the spare digit does occur — `1230 − 1` at precision 3 (HalfEven) is returned as the EXACT
    4-digit value `1229` (flag `none`): a value that violates the documented precondition of
    `FBig::from_repr` (`digits ≤ precision`, debug-asserted there) but still satisfies `FitsP1` -/
theorem float_spare_digit_occurs :
    Float.ctxAddSub 10 .halfEven Float.coarseNone (fun s => Float.digitsI 10 s) 3 ⟨123, 1⟩ ⟨1, 0⟩ (-1)
      = (⟨1229, 0⟩, none) := by decide

/-- `Repr::normalize` returns the canonical representation of the same value: significand not
    divisible by the base, zero as `0·B^0`, never an infinity -/
theorem float_normalize (B : Nat) (hB : 2 ≤ B) (r : FRepr) :
    FCanon B (r.normalize B) ∧ (r.normalize B).isInfinite = false ∧
    (r.signif ≠ 0 → r.exp ≤ (r.normalize B).exp ∧
      r.signif = (r.normalize B).signif * (B : Int) ^ ((r.normalize B).exp - r.exp).toNat) ∧
    (r.signif = 0 → r.normalize B = ⟨0, 0⟩) :=
  normalize_spec B hB r

/-- `FBig ==` (structural comparison of normalised representations; infinities by sign; the context —
    precision and rounding mode — is ignored) holds exactly when the values are equal, which is
    exactly when the order says `Equal` -/
theorem float_eq_iff_cmp_equal (B : Nat) (hB : 2 ≤ B) (a b : FRepr) (ha : FCanon B a) (hb : FCanon B b) :
    fbigEq a b = true ↔ specFCmp B a b = .eq :=
  fbigEq_iff B hB a b ha hb

/-- **`cmp` returns `Equal` exactly when `==` holds** for floats of any precisions / rounding modes: for normalised
    operands that keep `digits ≤ precision + 1` (what every producer above guarantees) the comparison the code
    runs (`repr_cmp_same_base` with its shortcuts) says `Equal` iff the structural `==` does — iff the values are equal -/
theorem float_cmp_equal_iff_eq (B : Nat) (hB : 2 ≤ B) (digitsUb : Int → Nat)
    (hub : ∀ s : Int, s.natAbs < B ^ digitsUb s) (a b : FRepr) (ha : FCanon B a) (hb : FCanon B b)
    (prec : Option (Nat × Nat))
    (hprec : ∀ lp rp, prec = some (lp, rp) →
      (lp ≠ 0 → a.signif.natAbs < B ^ (min lp cmpIsizeMax + 1)) ∧
      (rp ≠ 0 → b.signif.natAbs < B ^ (min rp cmpIsizeMax + 1))) :
    reprCmpSameBase B digitsUb a b prec = .eq ↔ fbigEq a b = true := by
  rw [float_cmp B hB digitsUb hub a b prec hprec]
  exact (float_eq_iff_cmp_equal B hB a b ha hb).symm

-- ================================================================== rationals

/-- `Relaxed` / `RBig` `cmp` (`repr_cmp`) is the order of the values: comparison of the cross
    products, for arbitrary non-reduced fractions with positive denominators (the bit-length
    shortcut of step 3 is sound; its second test is dead code) -/
theorem ratio_cmp (a b : QRepr) (ha : 0 < a.den) (hb : 0 < b.den) :
    reprCmp a b = compare (a.num * b.den) (b.num * a.den) :=
  reprCmp_spec a b ha hb

/-- `Relaxed ==` (`repr_eq`) is equality of the values, also for non-reduced fractions -/
theorem relaxed_eq (a b : QRepr) (ha : 0 < a.den) (hb : 0 < b.den) :
    reprEq a b = true ↔ a.num * b.den = b.num * a.den := by
  rw [reprEq_spec a b ha hb]; simp [specQEq]

/-- `RBig ==` (structural) is equality of the values on reduced fractions, and then the hash feed
    (numerator then denominator, each an integer feed) of equal values is equal -/
theorem rbig_eq (a b : QRepr) (ha : 0 < a.den) (hb : 0 < b.den)
    (hra : Nat.gcd a.num.natAbs a.den = 1) (hrb : Nat.gcd b.num.natAbs b.den = 1) :
    (rbigEq a b = true ↔ a.num * b.den = b.num * a.den) ∧ (rbigEq a b = true → a = b) := by
  refine ⟨by rw [rbigEq_spec a b ha hb hra hrb]; simp [specQEq], fun h => ?_⟩
  obtain ⟨an, ad⟩ := a; obtain ⟨bn, bd⟩ := b
  simp only [rbigEq, Bool.and_eq_true, beq_iff_eq] at h
  rw [h.1, h.2]

/-- **`Hash for RBig` is a function of the value, and an injective one**: two reduced fractions feed
    the same sequence (numerator feed, then denominator feed) to the `Hasher` exactly when their
    values are equal.  (`Relaxed` implements no `Hash`, `FBig` implements no `Hash` either — their
    `NumHash` is C14.) -/
theorem rbig_hash_follows_value (W : Nat) (hW : 1 ≤ W) (a b : QRepr) (ha : 0 < a.den) (hb : 0 < b.den)
    (hra : Nat.gcd a.num.natAbs a.den = 1) (hrb : Nat.gcd b.num.natAbs b.den = 1) :
    a.hashFeed W = b.hashFeed W ↔ a.num * b.den = b.num * a.den := by
  rw [QRepr.hashFeed_iff W hW, ← (rbig_eq a b ha hb hra hrb).1]
  constructor
  · rintro rfl; simp [rbigEq]
  · exact (rbig_eq a b ha hb hra hrb).2

/-- `cmp == Equal` exactly when `==` for rationals -/
theorem ratio_cmp_equal_iff_eq (a b : QRepr) (ha : 0 < a.den) (hb : 0 < b.den) :
    reprCmp a b = .eq ↔ reprEq a b = true := by
  rw [ratio_cmp a b ha hb, relaxed_eq a b ha hb, Int.compare_eq_eq]

-- non-vacuity: two canonical 3-word heap values that differ only in the middle word
example : SCanon 64 ⟨true, .large [5, 7, 1]⟩ ∧ SCanon 64 ⟨true, .large [5, 8, 1]⟩ ∧
    SRepr.cmp ⟨true, .large [5, 7, 1]⟩ ⟨true, .large [5, 8, 1]⟩ = .gt := by
  refine ⟨by decide, by decide, by decide⟩

-- ---------------------------------------------------------------- non-vacuity (floats, rationals)
-- `float_cmp`'s hypothesis met by a value with the spare digit (1229 at precision 3) against 1·10^3,
-- where the precision shortcut is exactly at its threshold; and an infinity against a finite value
example : ((1229 : Int).natAbs < 10 ^ (3 + 1)) ∧ ((1 : Int).natAbs < 10 ^ (1 + 1)) ∧
    reprCmpSameBase 10 (fun _ => 4) ⟨1, 3⟩ ⟨1229, 0⟩ (some (1, 3)) = .lt ∧
    reprCmpSameBase 10 (fun _ => 4) ⟨0, -1⟩ ⟨-5, 40⟩ none = .lt := by
  refine ⟨by decide, by decide, by decide, by decide⟩

-- non-reduced fractions on both sides of a bit-length shortcut: 6/4 = 3/2, 6/4 < 200/3, -7/3 < 6/4
example : reprCmp ⟨6, 4⟩ ⟨3, 2⟩ = .eq ∧ reprEq ⟨6, 4⟩ ⟨3, 2⟩ = true ∧ reprCmp ⟨6, 4⟩ ⟨200, 3⟩ = .lt ∧
    reprCmp ⟨-7, 3⟩ ⟨6, 4⟩ = .lt ∧ rbigEq ⟨3, 2⟩ ⟨3, 2⟩ = true ∧
    Nat.gcd (3 : Int).natAbs 2 = 1 ∧ (QRepr.hashFeed 64 ⟨3, 2⟩ = QRepr.hashFeed 64 ⟨3, 2⟩) := by
  refine ⟨by decide, by decide, by decide, by decide, by decide, by decide, rfl⟩

end Dashu.Props.C05
