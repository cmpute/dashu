import Dashu.Proofs.Float.FBigOps
import Dashu.Proofs.Float.Closing
/-
  C10 — Rounding to integers or to fewer digits picks the mathematically right neighbour; the two
  public rounding primitives follow the six mode definitions.

  The property theorems (what several of them share lives in `Dashu/Proofs/Float`).  Every statement quantifies over all
  bases `B ≥ 2`, all integers, all digit counts / precisions and all six modes; nothing is bounded.

  Vocabulary (from `Props/GenRound.lean`, where the six REGENERATED `round_low_part` tables are
  proved): for an exact value `N / d` (`d > 0`) the relational specifications `IsFloor N d r`,
  `IsCeil`, `IsTowardZero`, `IsAwayFromZero`, `IsNearestEven`, `IsNearestAway` (integer-scaled);
  `ModeSpec m N d r` selects the one belonging to mode `m`.
  Estimate oracles: `c : Coarse` (the `f32` test in `round_fract`) with `CoarseSound c`;
  `dub` (`Repr::digits_ub`) with `DubSound B dub`.  The theorems hold for every such oracle.
  The model mirrors /repo including the `fix:` commit f9ab1b6 (`split_at_point_internal` reports
  `-exponent` fraction digits on the smaller-than-one path; before it `0.0099` at 2 digits rounded to 1).
-/
namespace Dashu.Props.C10
open Dashu Dashu.Model.Float Dashu.Props.GenRound

/-! ### the two public rounding primitives -/

/-- `Round::round_fract::<B>(n, f, k)` for every mode: `n + adjustment` is the neighbour of
    `n + f / B^k` named by the mode, for every `|f| < B^k` (including `f = 0`). -/
theorem round_fract_follows_mode (B : Nat) (hB : 2 ≤ B) (m : Mode) (c : Coarse) (hc : CoarseSound c)
    (n f : Int) (k : Nat) (hlt : |f| < ((B ^ k : Nat) : Int)) :
    ModeSpec m (n * ((B ^ k : Nat) : Int) + f) ((B ^ k : Nat) : Int) (n + rInt (roundFract B m c n f k)) :=
  roundFract_spec' B hB m c hc n f k hlt

/-- the coarse `f32` comparison cannot change the result as long as it is sound -/
theorem round_fract_estimate_irrelevant (B : Nat) (m : Mode) (c : Coarse) (hc : CoarseSound c)
    (n f : Int) (k : Nat) : roundFract B m c n f k = roundFract B m coarseNone n f k :=
  roundFract_coarse_at B m c n f k fun _ => hc B _ k

/-- `Round::round_ratio(n, num, den)` for every mode, `den ≠ 0` of either sign, `0 < |num| < |den|`:
    `n + adjustment` is the neighbour of `n + num / den` named by the mode. -/
theorem round_ratio_follows_mode (m : Mode) (n num den : Int) (hden : den ≠ 0) (hnum : num ≠ 0)
    (hlt : |num| < |den|) :
    ModeSpec m (n * |den| + num * Int.sign den) |den| (n + rInt (roundRatio m n num den)) :=
  roundRatio_spec m n num den hden hnum hlt

theorem round_ratio_zero (m : Mode) (n den : Int) : roundRatio m n 0 den = .NoOp := roundRatio_zero m n den

/-- an `AddOne` / `SubOne` / `NoOp` flag tells the truth about the side of the result: the integer-scaled
    contract (error `< 1` unit, `≤ 1/2` for the nearest modes, mode side condition, flag side). -/
theorem round_fract_contract (B : Nat) (hB : 2 ≤ B) (m : Mode) (c : Coarse) (hc : CoarseSound c)
    (n f : Int) (k : Nat) (hf : f ≠ 0) (hlt : |f| < ((B ^ k : Nat) : Int)) :
    IContract m ((B ^ k : Nat) : Int) (n * ((B ^ k : Nat) : Int) + f)
      ((n + rInt (roundFract B m c n f k)) * ((B ^ k : Nat) : Int)) (some (roundFract B m c n f k)) := by
  have hD : (0 : Int) < ((B ^ k : Nat) : Int) := by
    have : 0 < B ^ k := Nat.pow_pos (by omega)
    exact_mod_cast this
  exact icontract_of_spec m n f _ hD hf hlt _ (roundFract_spec B (by omega) m c hc n f k hf hlt)

/-! ### digit utilities -/

/-- `utils::digit_len`: `B^(k-1) ≤ n < B^k` -/
theorem digit_len_spec (B : Nat) (hB : 2 ≤ B) (n : Nat) (hn : 0 < n) :
    0 < digits B n ∧ B ^ (digits B n - 1) ≤ n ∧ n < B ^ (digits B n) := digits_spec B hB n hn

/-- `utils::split_digits` / `split_digits_ref`: the base-10 two-step path, the power-of-two bit path
    and the generic path all return the truncating quotient and remainder by `B^pos` -/
theorem split_digits_all_paths (B : Nat) (v : Int) (pos : Nat) :
    splitDigits B v pos = (Int.tdiv v ((B ^ pos : Nat) : Int), Int.tmod v ((B ^ pos : Nat) : Int)) :=
  splitDigits_eq B v pos

/-- `utils::shl_digits` / `shl_digits_in_place`: the base-2 (`<< k`), base-10 (`(v·5^k) << k`), power-of-two
    (`<< k·log2 B`) and generic paths all multiply by `B^k` -/
theorem shl_digits_all_paths (B : Nat) (v : Int) (k : Nat) : shlDigits B v k = v * ((B ^ k : Nat) : Int) :=
  shlDigits_eq B v k

/-- `utils::shr_digits` (via `shr_ref`, the sign-preserving shift of the magnitude): the base-2, base-10
    (`shr_ref(v, k) / 5^k`), power-of-two and generic paths all divide by `B^k` toward zero -/
theorem shr_digits_all_paths (B : Nat) (v : Int) (k : Nat) : shrDigits B v k = Int.tdiv v ((B ^ k : Nat) : Int) :=
  shrDigits_eq B v k

/-- `Repr::new` keeps the value and leaves a significand that is zero or not divisible by the base -/
theorem repr_new_value_normalized (B : Nat) (hB : 2 ≤ B) (s e : Int) :
    (FRepr.new B s e).toRat B = (s : ℚ) * bpowQ B e ∧ Normalized B (FRepr.new B s e) :=
  ⟨FRepr.new_value B (by omega) s e, FRepr.new_normalized B hB s e⟩

/-! ### rounding to fewer digits -/

/-- `Context::repr_round` / `repr_round_ref` honour the rounding contract (over `Rat`) -/
theorem repr_round_contract (B : Nat) (hB : 2 ≤ B) (m : Mode) (c : Coarse) (hc : CoarseSound c)
    (p : Nat) (hp : 1 ≤ p) (r : FRepr) (hn : Normalized B r) :
    Contract B m p (r.toRat B) ((reprRound B m c p r).1.toRat B) (reprRound B m c p r).2 :=
  reprRound_contract B hB m c hc p hp r hn

/-- `FBig::with_precision(p)`: contract at the new precision; the precision field is `p` -/
theorem with_precision_contract (B : Nat) (hB : 2 ≤ B) (m : Mode) (c : Coarse) (hc : CoarseSound c)
    (x : FBigM) (hn : Normalized B x.repr) (p : Nat) (hp : 1 ≤ p) :
    Contract B m p (x.repr.toRat B) ((fWithPrecision B m c x p).1.repr.toRat B) (fWithPrecision B m c x p).2 ∧
    (fWithPrecision B m c x p).1.prec = p :=
  ⟨fWithPrecision_contract B hB m c hc x hn p hp, fWithPrecision_prec B m c x p⟩

/-- **the invariant `with_precision` establishes**: for `p ≥ 1` the result has at most `p` significant digits
    (never `p+1`: a carry into a new digit normalises to a shorter significand), whatever the source
    precision — limited (`digits ≤ x.prec`, the `FBig` invariant `hinv`) or unlimited (`x.prec = 0`, any
    number of digits; fix ee15d7b).  `Contract` alone does not say this. -/
theorem with_precision_digits (B : Nat) (hB : 2 ≤ B) (m : Mode) (c : Coarse) (x : FBigM) (p : Nat) (hp : 1 ≤ p)
    (hinv : x.prec = 0 ∨ x.repr.digits B ≤ x.prec) :
    (fWithPrecision B m c x p).1.repr.digits B ≤ p ∧ (fWithPrecision B m c x p).1.prec = p :=
  ⟨fWithPrecision_digits_le B hB m c x p hp (by omega), fWithPrecision_prec B m c x p⟩

/-- `with_precision(0)` (unlimited) and a precision that is not smaller keep the value, `Exact`
    (a source precision of `0` is *unlimited*, i.e. larger than every `p ≥ 1`: such a number is rounded,
    fix ee15d7b) -/
theorem with_precision_widen (B : Nat) (m : Mode) (c : Coarse) (x : FBigM) (p : Nat)
    (h : p = 0 ∨ (0 < x.prec ∧ x.prec ≤ p)) :
    fWithPrecision B m c x p = (⟨x.repr, p⟩, none) :=
  fWithPrecision_widen B m c x p h

/-! ### rounding to integers (`x = s / D`, `D = B^(-exp)`, `exp < 0`) -/

section
variable (B : Nat) (hB : 2 ≤ B) (c : Coarse) (hc : CoarseSound c) (dub : Int → Nat) (hdub : DubSound B dub)
  (x : FBigM) (he : x.repr.exp < 0)
include hB hdub he

theorem trunc_correct :
    ∃ t : Int, (fTrunc B dub x).repr.toRat B = (t : ℚ) ∧ IsTowardZero x.repr.signif (pointUnit B x.repr) t := by
  rw [fTrunc_eq_gen B hB dub hdub x, fTruncGen, if_neg (by omega), shrDigits_eq]
  exact ⟨_, new_int_value B hB _, tdiv_isTowardZero _ _ (pointUnit_pos B hB x.repr)⟩

include hc

theorem floor_correct :
    ∃ t : Int, (fFloor B c dub x).repr.toRat B = (t : ℚ) ∧ IsFloor x.repr.signif (pointUnit B x.repr) t := by
  rw [fFloor_eq_gen B hB dub hdub x c he]; exact roundGen_spec B hB c hc x .down

theorem ceil_correct (hs0 : x.repr.signif ≠ 0) :
    ∃ t : Int, (fCeil B c dub x).repr.toRat B = (t : ℚ) ∧ IsCeil x.repr.signif (pointUnit B x.repr) t := by
  rw [fCeil_eq_gen B hB dub hdub x c he hs0]; exact roundGen_spec B hB c hc x .up

/-- `FBig::round`: nearest integer, ties away from zero -/
theorem round_correct :
    ∃ t : Int, (fRound B c dub x).repr.toRat B = (t : ℚ) ∧
      IsNearestAway x.repr.signif (pointUnit B x.repr) t := by
  rw [fRound_eq_gen B hB dub hdub x c hc he]; exact roundGen_spec B hB c hc x .halfAway

/-- `FBig::to_int` (mode of the type): the integer named by the mode, flagged `Inexact` -/
theorem to_int_correct (m : Mode) :
    ModeSpec m x.repr.signif (pointUnit B x.repr) (fToInt B m c dub x).1 ∧
    (fToInt B m c dub x).2 ≠ none :=
  fToInt_spec B hB c hc dub hdub x he m

end

/-- **the flag of `to_int` tells the truth**: for a normalised float with fractional digits the result `t`
    is really inexact (`t·D ≠ s`), within one unit (one half for the nearest modes) on the side the mode
    prescribes, and `AddOne` ⇒ `t > x`, `SubOne` ⇒ `t < x` (integer-scaled contract, `D = B^(-exp)`) -/
theorem to_int_contract (B : Nat) (hB : 2 ≤ B) (m : Mode) (c : Coarse) (hc : CoarseSound c) (dub : Int → Nat)
    (hdub : DubSound B dub) (x : FBigM) (he : x.repr.exp < 0) (hn : x.repr.signif % (B : Int) ≠ 0) :
    IContract m (pointUnit B x.repr) x.repr.signif ((fToInt B m c dub x).1 * pointUnit B x.repr) (fToInt B m c dub x).2 := by
  rw [fToInt_eq_gen B hB dub hdub x m c he]
  obtain ⟨h1, h2, -⟩ := splitDigits_spec B hB x.repr.signif (-x.repr.exp).toNat
  have hlo := fract_part_ne_zero B _ _ _ _ (by omega) h1 hn
  generalize splitDigits B x.repr.signif (-x.repr.exp).toNat = hl at *
  have h := icontract_of_spec m hl.1 hl.2 _ (pointUnit_pos B hB x.repr) hlo h2 _
    (roundFract_spec B (by omega) m c hc hl.1 hl.2 _ hlo h2)
  have h1' : x.repr.signif = hl.1 * pointUnit B x.repr + hl.2 := h1
  rwa [← h1'] at h

/-- the value of `x` is `s / D` -/
theorem value_is_s_over_D (B : Nat) (hB : 2 ≤ B) (r : FRepr) (he : r.exp < 0) :
    r.toRat B * (pointUnit B r : ℚ) = (r.signif : ℚ) := toRat_neg_exp B hB r he

/-- floats without fractional digits (`exp ≥ 0`) are returned unchanged by trunc/floor/ceil/round and
    converted exactly by `to_int` -/
theorem integral_unchanged (B : Nat) (m : Mode) (c : Coarse) (dub : Int → Nat) (x : FBigM)
    (he : 0 ≤ x.repr.exp) :
    fTrunc B dub x = x ∧ fFloor B c dub x = x ∧ fCeil B c dub x = x ∧ fRound B c dub x = x ∧
    fToInt B m c dub x = (x.repr.signif * ((B ^ x.repr.exp.toNat : Nat) : Int), none) ∧
    x.repr.toRat B = ((x.repr.signif * ((B ^ x.repr.exp.toNat : Nat) : Int) : Int) : ℚ) := by
  have h : x.repr.exp ≥ 0 := he
  refine ⟨by simp [fTrunc, h], by simp [fFloor, h], by simp [fCeil, h], by simp [fRound, h],
    fToInt_int B m c dub x he, int_value B x.repr he⟩

/-- `Repr::to_int`: toward zero, always flagged `Inexact(NoOp)` when fractional digits exist -/
theorem repr_to_int_correct (B : Nat) (hB : 2 ≤ B) (dub : Int → Nat) (hdub : DubSound B dub) (r : FRepr)
    (he : r.exp < 0) :
    IsTowardZero r.signif (pointUnit B r) (reprToInt B dub r).1 ∧ (reprToInt B dub r).2 = some .NoOp :=
  reprToInt_spec B hB dub hdub r he

/-- `trunc(x) + fract(x) = x` -/
theorem trunc_add_fract_eq (B : Nat) (hB : 2 ≤ B) (dub : Int → Nat) (x : FBigM) :
    (fTrunc B dub x).repr.toRat B + (fFract B dub x).repr.toRat B = x.repr.toRat B :=
  trunc_add_fract B hB dub x

/-- `split_at_point() = (trunc(), fract())` -/
theorem split_at_point_eq (B : Nat) (dub : Int → Nat) (x : FBigM) :
    fSplitAtPoint B dub x = (fTrunc B dub x, fFract B dub x) := fSplit_eq B dub x

/-- regression of the repaired defect: `0.0099` (99·10⁻⁴) at precision 2 rounds to 0 (`round()`, and
    `to_int()` in mode HalfAway), and 1 — what the code returned before f9ab1b6 — is not a nearest integer -/
theorem round_small_regression :
    fRound 10 coarseNone (digitsI 10) ⟨⟨99, -4⟩, 2⟩ = ⟨⟨0, 0⟩, 0⟩ ∧
    fToInt 10 .halfAway coarseNone (digitsI 10) ⟨⟨99, -4⟩, 2⟩ = (0, some .NoOp) ∧
    ¬ IsNearestAway 99 10000 1 := by
  refine ⟨by decide +kernel, by decide +kernel, ?_⟩
  unfold IsNearestAway
  norm_num

/-! ### the `f32` estimate is not observable

For every sound `digits_ub` estimator (and sound coarse test) each rounding method returns exactly — value
and precision — what its general path returns, and the general paths (`fTruncGen`, `fFractGen`,
`roundGen`) do not consult the estimate.  Hence std and no_std builds (different estimators) agree.
`hfix`: the operand is in the normal form `Repr::new` produces. -/

theorem estimate_unobservable (B : Nat) (hB : 2 ≤ B) (c : Coarse) (hc : CoarseSound c) (dub : Int → Nat)
    (hdub : DubSound B dub) (x : FBigM) (hfix : FRepr.new B x.repr.signif x.repr.exp = x.repr) :
    fTrunc B dub x = fTruncGen B x ∧ fFract B dub x = fFractGen B x ∧
    fSplitAtPoint B dub x = (fTruncGen B x, fFractGen B x) ∧
    (x.repr.exp < 0 → fFloor B c dub x = roundGen B .down c x ∧ fRound B c dub x = roundGen B .halfAway c x ∧
      (x.repr.signif ≠ 0 → fCeil B c dub x = roundGen B .up c x)) :=
  ⟨fTrunc_eq_gen B hB dub hdub x, fFract_eq_gen B hB dub hdub x hfix, fSplit_eq_gen B hB dub hdub x hfix,
   fun he => ⟨fFloor_eq_gen B hB dub hdub x c he, fRound_eq_gen B hB dub hdub x c hc he,
     fun hs0 => fCeil_eq_gen B hB dub hdub x c he hs0⟩⟩

/-- two sound estimators give the same `trunc`, `fract`, `split_at_point` (e.g. the std `log2f` one and
    the no_std table one) -/
theorem estimators_agree (B : Nat) (hB : 2 ≤ B) (dub dub' : Int → Nat) (hdub : DubSound B dub)
    (hdub' : DubSound B dub') (x : FBigM) (hfix : FRepr.new B x.repr.signif x.repr.exp = x.repr) :
    fTrunc B dub x = fTrunc B dub' x ∧ fFract B dub x = fFract B dub' x ∧
    fSplitAtPoint B dub x = fSplitAtPoint B dub' x := by
  refine ⟨?_, ?_, ?_⟩
  · rw [fTrunc_eq_gen B hB dub hdub x, fTrunc_eq_gen B hB dub' hdub' x]
  · rw [fFract_eq_gen B hB dub hdub x hfix, fFract_eq_gen B hB dub' hdub' x hfix]
  · rw [fSplit_eq_gen B hB dub hdub x hfix, fSplit_eq_gen B hB dub' hdub' x hfix]

-- the case found by the std / no_std comparison: 0x50f·36⁻⁴ at precision 2; with an estimate that fires
-- (exact digit count 2) and one that does not (3) the result is the same
example : fSplitAtPoint 36 (digitsI 36) ⟨⟨0x50f, -4⟩, 2⟩ = fSplitAtPoint 36 (fun v => digitsI 36 v + 1) ⟨⟨0x50f, -4⟩, 2⟩ ∧
    smallerThanOne (digitsI 36) ⟨0x50f, -4⟩ = true ∧ smallerThanOne (fun v => digitsI 36 v + 1) ⟨0x50f, -4⟩ = false := by
  decide +kernel

/-! ### rationals (`rational/src/round.rs`, `num / den`, `den > 0`) -/

theorem rbig_trunc_correct (num : Int) (den : Nat) (hden : 0 < den) : IsTowardZero num den (qTrunc num den) :=
  qTrunc_spec num den hden
theorem rbig_floor_correct (num : Int) (den : Nat) (hden : 0 < den) : IsFloor num den (qFloor num den) :=
  qFloor_spec num den hden
theorem rbig_ceil_correct (num : Int) (den : Nat) (hden : 0 < den) : IsCeil num den (qCeil num den) :=
  qCeil_spec num den hden
theorem rbig_round_correct (num : Int) (den : Nat) (hden : 0 < den) : IsNearestAway num den (qRound num den) :=
  qRound_spec num den hden
/-- `trunc + fract = x`: `num = trunc · den + fract_numerator` (the fraction keeps the denominator) -/
theorem rbig_trunc_add_fract (num : Int) (den : Nat) :
    num = qTrunc num den * (den : Int) + qFractNum num den := q_trunc_add_fract num den

/-! ### non-vacuity -/

-- the trivial oracles meet the enclosure hypotheses
example : CoarseSound coarseNone := coarseNone_sound
example (B : Nat) : DubSound B (digitsI B) := fun _ => le_refl _
-- a half-way case at one digit: 2.5 in base 10 (n = 2, f = 5, k = 1): HalfEven stays, HalfAway goes up
example : roundFract 10 .halfEven coarseNone 2 5 1 = .NoOp ∧ roundFract 10 .halfAway coarseNone 2 5 1 = .AddOne ∧
    roundFract 10 .halfEven coarseNone 3 5 1 = .AddOne ∧ roundFract 10 .zero coarseNone (-2) 5 1 = .AddOne := by
  decide +kernel
-- repr_round of 12345·10⁻² to 3 digits, HalfAway: 123|45 → 123, NoOp (a normalised 5-digit operand)
example : Normalized 10 ⟨12345, -2⟩ ∧ reprRound 10 .halfAway coarseNone 3 ⟨12345, -2⟩ = (⟨123, 0⟩, some .NoOp) := by
  refine ⟨by unfold Normalized; decide, by decide +kernel⟩
-- hypotheses of the integer roundings / `to_int_contract` on a concrete value: −12.75 = −1275·10⁻² at 5 digits
example : (⟨⟨-1275, -2⟩, 5⟩ : FBigM).repr.exp < 0 ∧ (⟨⟨-1275, -2⟩, 5⟩ : FBigM).repr.signif % ((10 : Nat) : Int) ≠ 0 ∧
    fToInt 10 .halfEven coarseNone (digitsI 10) ⟨⟨-1275, -2⟩, 5⟩ = (-13, some .SubOne) ∧
    fFloor 10 coarseNone (digitsI 10) ⟨⟨-1275, -2⟩, 5⟩ = ⟨⟨-13, 0⟩, 3⟩ ∧
    fCeil 10 coarseNone (digitsI 10) ⟨⟨-1275, -2⟩, 5⟩ = ⟨⟨-12, 0⟩, 3⟩ ∧
    fTrunc 10 (digitsI 10) ⟨⟨-1275, -2⟩, 5⟩ = ⟨⟨-12, 0⟩, 3⟩ := by decide +kernel
-- hypotheses of `round_ratio_follows_mode`: a negative denominator and a tie, 1 + (−1)/(−2) = 1.5
example : (-2 : Int) ≠ 0 ∧ (-1 : Int) ≠ 0 ∧ |(-1 : Int)| < |(-2 : Int)| ∧
    roundRatio .halfEven 1 (-1) (-2) = .AddOne ∧ roundRatio .zero 1 (-1) (-2) = .NoOp := by
  refine ⟨by decide, by decide, by decide, by decide +kernel, by decide +kernel⟩
-- `with_precision_digits` on the input that exposed ee15d7b: 1234567 with unlimited precision to 3 digits
example : fWithPrecision 10 .halfAway coarseNone ⟨⟨1234567, 0⟩, 0⟩ 3 = (⟨⟨123, 4⟩, 3⟩, some .NoOp) ∧
    ((⟨⟨1234567, 0⟩, 0⟩ : FBigM).prec = 0 ∨ (⟨⟨1234567, 0⟩, 0⟩ : FBigM).repr.digits 10 ≤ 0) := by
  refine ⟨by decide +kernel, Or.inl rfl⟩
-- a float below 1/B² with a short precision, the case of the property text
example : smallerThanOne (digitsI 10) ⟨99, -4⟩ = true := by decide +kernel

end Dashu.Props.C10
