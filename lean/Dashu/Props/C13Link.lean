import Dashu.Props.C13
import Dashu.Proofs.NT.ModLargeK
import Dashu.Proofs.NT.ModInvm
import Dashu.Proofs.NT.ModPowK
import Dashu.Proofs.NT.ModAddK
import Dashu.Proofs.NT.ModInvLargeB
import Dashu.Model.NT.ModAllK
import Dashu.Gen.ModularBuf
import Dashu.Gen.ModularAdd
/-
  C13 ↔ C02 link.  The multi-word ring's reductions are where the model of `Props/C13`
  says `% r.M` for dashu's own multi-word division (`div::div_rem_in_place`).  They are mirrored on
  word buffers (`Model/NT/ModLargeK.lean`: `ConstLargeDivisor::rem_large / rem_repr`,
  `mul_normalized / sqr_normalized`), run C02's mirrored `Dashu.Model.Div.divRemInPlace` (Knuth D /
  Burnikel–Ziegler over C01's multiplication), are executed by the driver, and the theorems below —
  composed from C02's `divRemInPlace_spec` (`Proofs/Int/Div/BZ`; the dispatch over what
  `Props.C02.simple_div_rem_exact` and `burnikel_ziegler_exact` state) — say they never fail and store exactly what the
  `%`-level definitions of `Props/C13` store.  `4 ≤ W` is C02's/C01's hypothesis (Toom-3 carries).
  In the same way, further down: `modular/add.rs` on buffers over C01's word loops, num-modular's `invm` with checked
  machine arithmetic, `pow` and `inv_large` with their buffer plumbing, and the decision points of all these mirrors as
  the tests regenerated from the source (`Gen/ModularBuf`, `Gen/ModularAdd`).
-/
namespace Dashu.Props.C13Link
open Dashu.Model Dashu.Model.NT

/-- **`ConstLargeDivisor::rem_large` on buffers**: for every multi-word ring `ConstDivisor::new` builds and
    every buffer of words, `shl_in_place` + `push_resizing(carry)` + (`div_rem_in_place` + `truncate` when
    long enough) never fails and leaves `(words << shift) mod (m << shift)`. -/
theorem rem_large_exact (W id m : Nat) (hW4 : 4 ≤ W) (r : Ring) (hnew : Ring.new W id m = .ok r)
    (hk : r.kind = .large) (words : List Nat) (hws : IsWords W words) :
    ∃ out, remLargeWordsL W (r.ndWords W) r.k (Div.highestDword W (r.ndWords W)) words = .ok out ∧
      val W out = (val W words * 2 ^ r.k) % r.M :=
  remLargeWordsL_spec (Ring.new_wf (by omega) hnew) hW4 hk (Ring.new_k_lt (by omega) hnew) words hws

/-- the buffers the theorem is about: the normalised divisor has exactly `n` words, is made of words and
    denotes `m << shift`; the shift is below one word -/
theorem large_divisor_fields (W id m : Nat) (hW : 0 < W) (r : Ring) (hnew : Ring.new W id m = .ok r)
    (hk : r.kind = .large) :
    (r.ndWords W).length = r.n ∧ IsWords W (r.ndWords W) ∧ val W (r.ndWords W) = r.M ∧ r.k < W := by
  have hwf := Ring.new_wf hW hnew
  have := hwf.kind_n.2.2 hk
  obtain ⟨a, b, c⟩ := ndWords_spec hwf
  exact ⟨a, b, c, Ring.new_k_lt hW hnew⟩

/-- **`ConstDivisor::reduce` with EVERY division kernel mirrored** (what the driver executes:
    single- and double-word rings as in `Props.C13.reduce_kernels`, multi-word rings through `rem_repr` on
    buffers) stores what the `%`-level model stores; hence `Props.C13.reduce_spec` and the homomorphism
    theorems are theorems about `reduceIntKL`. -/
theorem reduce_kernels_all (W id m : Nat) (hW : 0 < W) (r : Ring) (hnew : Ring.new W id m = .ok r)
    (hW4 : r.kind = .large → 4 ≤ W) :
    (∀ x : Nat, rawOfNatKL W r x = rawOfNat W r x) ∧ (∀ a : Int, reduceIntKL W r a = reduceInt W r a) :=
  ⟨rawOfNatKL_eq hW hW4 hnew, reduceIntKL_eq hW hW4 hnew⟩

/-- **`mul_normalized` / `sqr_normalized` on buffers** (trimmed lengths, `n.max(na+nb)`-word product,
    `debug_assert_zero!(shr_in_place)`, `div_rem_in_place` / compare-and-subtract): on `Valid` operands of a
    ring `ConstDivisor::new` builds, `*` and `sqr` as the driver executes them equal the `%`-level
    product of `Props.C13.hom_mul / hom_sqr`. -/
theorem mul_sqr_kernels_all (W id m : Nat) (hW : 0 < W) (r : Ring) (hnew : Ring.new W id m = .ok r)
    (hW4 : r.kind = .large → 4 ≤ W) (x y : Nat) (hx : Valid r x) (hy : Valid r y) :
    mulRawKL W r x y = mulRaw W r x y ∧ sqrRawKL W r x = sqrRaw W r x := by
  have hwf := Ring.new_wf hW hnew
  have hkW := Ring.new_k_lt hW hnew
  obtain ⟨h1, h2⟩ := Dashu.Props.C13.mul_sqr_kernels W r hwf x y hx hy
  obtain ⟨u, _, rfl⟩ := hx
  exact ⟨(mulRawKL_eq hwf hW4 hkW u y).trans h1, (sqrRawKL_eq hwf hW4 hkW u).trans h2⟩

/-- non-vacuity: a 3-word ring with shift 3, a 6-word operand through `rem_large` (division arm), a
    product of two 2-word residues (`na + nb = 4 > 3`, division arm) and of two 1-word residues
    (compare-and-subtract arm) — the mirrored buffers computations give the residues -/
example : ∃ r, Ring.new 64 0 (2 ^ 188 + 12345) = .ok r ∧ r.kind = .large ∧ r.k = 3 ∧
    remReprLK 64 r (3 ^ 230) = .ok ((3 ^ 230 % (2 ^ 188 + 12345)) * 2 ^ 3) ∧
    productLow 64 false ((2 ^ 100 + 7) * 2 ^ 3) ((2 ^ 99 + 5) * 2 ^ 3) = .ok (natWords 64 ((2 ^ 100 + 7) * 2 ^ 3 * ((2 ^ 99 + 5) * 2 ^ 3))) ∧
    mulNormalizedWordsL 64 r false ((2 ^ 100 + 7) * 2 ^ 3) ((2 ^ 99 + 5) * 2 ^ 3)
      = .ok (((2 ^ 100 + 7) * (2 ^ 99 + 5) % (2 ^ 188 + 12345)) * 2 ^ 3) ∧
    mulNormalizedWordsL 64 r false (5 * 2 ^ 3) (9 * 2 ^ 3) = .ok (45 * 2 ^ 3) ∧
    mulNormalizedWordsL 64 r true ((2 ^ 100 + 7) * 2 ^ 3) ((2 ^ 100 + 7) * 2 ^ 3)
      = .ok (((2 ^ 100 + 7) * (2 ^ 100 + 7) % (2 ^ 188 + 12345)) * 2 ^ 3) :=
  ⟨_, rfl, rfl, by decide, by decide +kernel, by decide +kernel, by decide +kernel⟩

-- ================================================================== modular/add.rs on buffers (C13 ↔ C01 link)

/-- **`negate_in_place` / `add_in_place` / `dbl_in_place` / `sub_in_place` / `sub_in_place_swap` on word buffers**
    (`integer/src/modular/add.rs`; what the driver executes for `Neg`, `+`, `dbl`, `-` and `&a - b` of
    multi-word rings, and for the negation inside `IntoRing for IBig`): the `n`-word residue buffers go through C01's
    mirrored `add_same_len_in_place` / `sub_same_len_in_place(_swap)`, C02's mirrored `shl_in_place(.., 1)` and
    `cmp_same_len`, with `debug_assert!(!overflow)`, `debug_assert_eq!(overflow, overflow2)`, `debug_assert!(overflow2)`
    as error values.  On `Valid` residues of a ring `ConstDivisor::new` builds no assertion fails and the buffers hold
    exactly the values `Props.C13.hom_add / hom_sub / hom_neg / hom_dbl` are about (for every word size; the word
    loops' contracts are C01's `addSameLen_spec` / `subSameLen_spec`). -/
theorem add_sub_neg_kernels_all (W id m : Nat) (hW : 0 < W) (r : Ring) (hnew : Ring.new W id m = .ok r)
    (x y : Nat) (hx : Valid r x) (hy : Valid r y) :
    addRawKL W r x y = addRaw r x y ∧ subRawKL W r x y = subRaw r x y ∧ subSwapRawKL W r x y = subRaw r x y ∧
    negRawKL W r x = negRaw r x ∧ dblRawKL W r x = addRaw r x x := by
  have hwf := Ring.new_wf hW hnew
  have hx := valid_lt_M hx
  have hy := valid_lt_M hy
  exact ⟨addRawKL_eq hwf hx hy, subRawKL_eq hwf hx hy, subSwapRawKL_eq hwf hx hy, negRawKL_eq hwf hx,
    dblRawKL_eq hwf hx⟩

/-- **the operators as the driver executes them** (`reduceIntKA`: `IntoRing for IBig` with the sign applied by
    the buffer-level `negate_in_place`; `addKL`, `subBothKL` = both `sub_in_place` and `sub_in_place_swap`, `negKL`, `dblKL`)
    are the operators of `Props.C13.hom_add / hom_sub / hom_neg / hom_dbl` on every pair of reduced integers -/
theorem add_sub_neg_ops_all (W id m : Nat) (hW : 0 < W) (r : Ring) (hnew : Ring.new W id m = .ok r)
    (hW4 : r.kind = .large → 4 ≤ W) (a b : Int) :
    reduceIntKA W r a = reduceInt W r a ∧
    (reduceIntKA W r a).addKL W (reduceIntKA W r b) = (reduceInt W r a).add (reduceInt W r b) ∧
    (reduceIntKA W r a).subBothKL W (reduceIntKA W r b) = (reduceInt W r a).sub (reduceInt W r b) ∧
    (reduceIntKA W r a).negKL W = (reduceInt W r a).neg ∧
    (reduceIntKA W r a).dblKL W = (reduceInt W r a).dbl ∧
    (reduceIntKA W r a).dblBothKL W = (reduceInt W r a).dbl := by
  have hwf := Ring.new_wf hW hnew
  have hva := valid_of_lt (res_lt hwf.mpos a)
  have hvb := valid_of_lt (res_lt hwf.mpos b)
  obtain ⟨k1, -, -, k4, k5⟩ := add_sub_neg_kernels_all W id m hW r hnew _ _ hva hvb
  obtain ⟨k6, -⟩ := add_sub_neg_kernels_all W id m hW r hnew _ _ hva hva
  rw [reduceIntKA_eq hW hW4 hnew, reduceIntKA_eq hW hW4 hnew, reduceInt_eq hwf, reduceInt_eq hwf]
  have hdbl : (⟨r, res r.m a * 2 ^ r.k⟩ : Elem).dblKL W = (⟨r, res r.m a * 2 ^ r.k⟩ : Elem).dbl := congrArg _ k5
  refine ⟨rfl, ?_, subBothKL_eq hW hnew _ _ rfl (valid_lt_M hva) (valid_lt_M hvb), congrArg _ k4, hdbl, ?_⟩
  · unfold Elem.addKL Elem.add
    rw [k1]
  · -- `&x + &x` and `dbl_in_place` agree, so the comparison inside `dblBothKL` passes
    unfold Elem.dblBothKL Elem.addKL
    simp only [sameRing, decide_true, if_true, k6, hdbl]
    exact if_pos rfl

/-- the buffer-level operations themselves (any two `n`-word buffers below an `n`-word modulus, not only ring
    residues): results as `Except`, i.e. "no `debug_assert` fails" is part of the statement -/
theorem add_in_place_exact (W : Nat) (nd lhs rhs : List Nat) (hnd : IsWords W nd) (hl : IsWords W lhs) (hr : IsWords W rhs)
    (hll : lhs.length = nd.length) (hrl : rhs.length = nd.length) (ha : val W lhs < val W nd) (hb : val W rhs < val W nd) :
    (∃ out, addInPlaceL W nd lhs rhs = .ok out ∧ out.length = nd.length ∧
      val W out = if val W lhs + val W rhs ≥ val W nd then val W lhs + val W rhs - val W nd else val W lhs + val W rhs) ∧
    (∃ out, subInPlaceL W nd lhs rhs = .ok out ∧ out.length = nd.length ∧
      val W out = if val W lhs ≥ val W rhs then val W lhs - val W rhs else val W nd - (val W rhs - val W lhs)) ∧
    (∃ out, negateInPlaceL W nd lhs = .ok out ∧ out.length = nd.length ∧
      val W out = if val W lhs = 0 then 0 else val W nd - val W lhs) :=
  ⟨addInPlaceL_spec hnd hl hr hll hrl ha hb, subInPlaceL_spec hnd hl hr hll hrl hb, negateInPlaceL_spec' hnd hl hll ha⟩

/-- **Tie A for `integer/src/modular/add.rs`**: the buffer mirrors take their decisions by the tests REGENERATED from the
    source text (`Gen/ModularAdd.lean`, extract target `gen_modular_add`, which also checks the called word loops, their
    argument order and the debug assertions as a fixed shape): `add_in_place` / `dbl_in_place` subtract the modulus iff
    `overflow || cmp_same_len(.., modulus).is_ge()`, `sub_in_place` / `sub_in_place_swap` add it back iff `overflow`,
    `negate_in_place` subtracts from the modulus iff `!raw.0.iter().all(|w| *w == 0)`.  A change of any of these source lines
    changes the regenerated text and this theorem no longer checks. -/
theorem add_logic_gen (W : Nat) (nd l1 : List Nat) (overflow : Bool) (borrow : Nat) :
    condSubL W nd l1 overflow =
      (if Dashu.Gen.ModularAdd.add_in_place_subtracts overflow (Div.cmpSameLen l1 nd) then subModulusL W nd l1 overflow else .ok l1) ∧
    condSubL W nd l1 overflow =
      (if Dashu.Gen.ModularAdd.dbl_in_place_subtracts overflow (Div.cmpSameLen l1 nd) then subModulusL W nd l1 overflow else .ok l1) ∧
    condAddL W nd l1 borrow =
      (if Dashu.Gen.ModularAdd.sub_in_place_adds_back (decide (borrow ≠ 0)) then addModulusL W nd l1 else .ok l1) ∧
    condAddL W nd l1 borrow =
      (if Dashu.Gen.ModularAdd.sub_in_place_swap_adds_back (decide (borrow ≠ 0)) then addModulusL W nd l1 else .ok l1) ∧
    negateInPlaceL W nd l1 =
      (if Dashu.Gen.ModularAdd.negate_in_place_subtracts (l1.all (fun w => w == 0)) then subFromModulusL W nd l1 else .ok l1) := by
  have hsub : condSubL W nd l1 overflow =
      if (overflow || (Div.cmpSameLen l1 nd).isGE) = true then subModulusL W nd l1 overflow else .ok l1 := by
    unfold condSubL
    cases overflow <;> cases Div.cmpSameLen l1 nd <;> rfl
  have hadd : condAddL W nd l1 borrow = if decide (borrow ≠ 0) = true then addModulusL W nd l1 else .ok l1 := by
    unfold condAddL
    simp only [decide_eq_true_eq]
  refine ⟨hsub, hsub, hadd, hadd, ?_⟩
  unfold negateInPlaceL Dashu.Gen.ModularAdd.negate_in_place_subtracts
  cases l1.all (fun w => w == 0) <;> rfl

/-- non-vacuity: a 3-word ring with shift 3; a sum that wraps past the modulus with a carry out of the top word
    (`overflow = true`), a sum below it, a difference with borrow, the swapped form, negation of a residue whose low
    word is zero, doubling — the buffer computations succeed and give the residues -/
example : ∃ r, Ring.new 64 0 (2 ^ 188 + 12345) = .ok r ∧ r.kind = .large ∧ r.k = 3 ∧
    addInPlaceL 64 (r.ndWords 64) (r.rawWords 64 ((2 ^ 188 + 12344) * 2 ^ 3)) (r.rawWords 64 ((2 ^ 188 + 12000) * 2 ^ 3))
      = .ok (natWords 64 ((2 ^ 188 + 11999) * 2 ^ 3)) ∧
    addRawKL 64 r (5 * 2 ^ 3) (9 * 2 ^ 3) = 14 * 2 ^ 3 ∧
    subRawKL 64 r (5 * 2 ^ 3) (9 * 2 ^ 3) = (2 ^ 188 + 12341) * 2 ^ 3 ∧
    subSwapRawKL 64 r (2 ^ 100 * 2 ^ 3) (2 ^ 64 * 2 ^ 3) = (2 ^ 100 - 2 ^ 64) * 2 ^ 3 ∧
    negRawKL 64 r (2 ^ 125 * 2 ^ 3) = (2 ^ 188 + 12345 - 2 ^ 125) * 2 ^ 3 ∧
    dblRawKL 64 r ((2 ^ 188) * 2 ^ 3) = (2 ^ 188 - 12345) * 2 ^ 3 :=
  ⟨_, rfl, rfl, by decide, by decide +kernel, by decide +kernel, by decide +kernel, by decide +kernel, by decide +kernel,
    by decide +kernel⟩

-- ================================================================== num-modular's `invm` at the machine level

/-- **`udouble::widening_mul`** (num-modular `double.rs`; four half-width products with carries, every
    `+`/`*` checked): never overflows and is the exact double-width product — for every half width `H`
    (`u128`: `H = 64`). -/
theorem widening_mul_exact (H a b : Nat) (ha : a < 2 ^ (2 * H)) (hb : b < 2 ^ (2 * H)) :
    NMPrim.wideningMul H a b = .ok ⟨a * b / 2 ^ (2 * H), a * b % 2 ^ (2 * H)⟩ :=
  NMPrim.wideningMul_spec H a b ha hb

/-- **`udouble::div_rem_2by1`** (normalising `shl_u32`, two quotient digits each with its
    `while q >= B || q * d0 > B * rhat + n` correction loop, `wrapping_mul/add/sub` remainders, `>> s`):
    for `0 < d`, `hi < d` no checked operation overflows, the loop never underflows `q`, and the
    result is the exact quotient and remainder of `hi·2^(2H) + lo` by `d`. -/
theorem udouble_div_rem_2by1_exact (H d hi lo : Nat) (hH : 1 ≤ H) (hd : 0 < d) (hdU : d < 2 ^ (2 * H))
    (hhi : hi < d) (hlo : lo < 2 ^ (2 * H)) :
    NMPrim.divRem2by1 H ⟨hi, lo⟩ d = .ok ((hi * 2 ^ (2 * H) + lo) / d, (hi * 2 ^ (2 * H) + lo) % d) :=
  NMPrim.divRem2by1_spec (x := ⟨hi, lo⟩) hH hd hdU hhi hlo

/-- **`mulm` of every unsigned primitive type** (`u128`: `checked_mul` / `widening_mul` + `udouble % m`;
    narrower types: through the next wider type with a truncating cast back) is `a·b mod m`. -/
theorem prim_mulm_exact (T a b m : Nat) (ha : a < 2 ^ T) (hb : b < 2 ^ T) (hm : 0 < m) (hmT : m < 2 ^ T) :
    NMPrim.mulmOf T a b m = .ok (a * b % m) ∧
    (∀ H, 1 ≤ H → T = 2 * H → NMPrim.mulmMax H a b m = .ok (a * b % m)) ∧
    NMPrim.mulmWide T a b m = .ok (a * b % m) :=
  ⟨NMPrim.mulmOf_spec ha hb hm hmT,
   fun H hH hT => NMPrim.mulmMax_spec hH (hT ▸ ha) (hT ▸ hb) hm (hT ▸ hmT),
   NMPrim.mulmWide_spec ha hb hm hmT⟩

/-- **`invm` on the primitive type** (`x % m`, the Euclid loop with `quo.mulm(t, m)`, `last_t.subm(.., m)`,
    `negm`): no overflow, no zero divisor, and the result is the `Nat`-level `invm` that
    `Props.C13.inv_spec` is about — for every type width `T` and all `x, m < 2^T`, `m ≥ 1`. -/
theorem invm_prim_exact (T x m : Nat) (hm : 0 < m) (hmT : m < 2 ^ T) (hx : x < 2 ^ T) :
    NMPrim.invmP (NMPrim.mulmOf T) x m = .ok (invm x m) :=
  NMPrim.invmP_spec hm hmT hx (fun _ _ ha hb => NMPrim.mulmOf_spec ha hb hm hmT)

/-- **`inv` and `/` with EVERY kernel mirrored** (what the driver executes: reduce through
    `reduceIntKL`, `inv` through `invm` on `Word`/`DoubleWord` resp. `inv_large`, the product through the
    reciprocal dividers resp. `mul_normalized` on buffers) are the `inv` and `/` of `Props.C13.inv_spec` /
    `div_spec`. -/
theorem inv_div_kernels_all (W id m : Nat) (hW : 0 < W) (r : Ring) (hnew : Ring.new W id m = .ok r)
    (hW4 : r.kind = .large → 4 ≤ W) (a b : Int) :
    (reduceIntKL W r a).invKP W = .ok ((reduceInt W r a).inv) ∧
    (reduceIntKL W r a).divKA W (reduceIntKL W r b) = (reduceInt W r a).div W (reduceInt W r b) := by
  have hwf := Ring.new_wf hW hnew
  have hm := hwf.mpos
  have hkW := Ring.new_k_lt hW hnew
  have hinvK : ∀ u, u < r.m → (⟨r, u * 2 ^ r.k⟩ : Elem).invKP W = .ok (⟨r, u * 2 ^ r.k⟩ : Elem).inv := fun u hu => by
    unfold Elem.invKP Elem.inv
    rw [invRawKP_eq hwf hu, invRawK_eq hwf hu]
  rw [reduceIntKL_eq hW hW4 hnew, reduceIntKL_eq hW hW4 hnew, reduceInt_eq hwf, reduceInt_eq hwf]
  refine ⟨hinvK _ (res_lt hm a), ?_⟩
  unfold Elem.divKA Elem.div
  rw [hinvK _ (res_lt hm b), inv_mk hwf]
  cases ht : invm (res r.m b) r.m with
  | none => rfl
  | some t =>
    show Elem.mulKL W _ _ = Elem.mul W _ _
    unfold Elem.mulKL Elem.mul
    rw [mulRawKL_eq hwf hW4 hkW, mulRawK_eq hwf (res_lt hm a) ((invm_spec hm).1 t ht).2]

/-- non-vacuity: the real `u128` path (`H = 64`) with a product that overflows `u128` (`widening_mul` +
    `div_rem_2by1` with a non-zero normalising shift), an inverse modulo the Mersenne prime `2^127 − 1`
    and modulo a 64-bit prime through the `u64 => u128` path, and a non-invertible element -/
example : NMPrim.mulmMax 64 (2 ^ 127 + 3) (2 ^ 126 + 99) (2 ^ 100 + 12345)
      = .ok ((2 ^ 127 + 3) * (2 ^ 126 + 99) % (2 ^ 100 + 12345)) ∧
    ¬ ((2 ^ 127 + 3) * (2 ^ 126 + 99) < 2 ^ 128) ∧
    NMPrim.invmP (NMPrim.mulmOf 128) 12345678901234567 (2 ^ 127 - 1) = .ok (invm 12345678901234567 (2 ^ 127 - 1)) ∧
    (invm 12345678901234567 (2 ^ 127 - 1)).isSome = true ∧
    NMPrim.invmP (NMPrim.mulmOf 64) 1234567 (2 ^ 61 - 1) = .ok (invm 1234567 (2 ^ 61 - 1)) ∧
    NMPrim.invmP (NMPrim.mulmOf 64) 15 (3 * 2 ^ 40) = .ok none := by
  refine ⟨by decide +kernel, by decide +kernel, by decide +kernel, by decide +kernel, by decide +kernel,
    by decide +kernel⟩

/-- **`pow` with every kernel mirrored** (what the driver executes: multi-word rings run the
    windowed loop of `pow_nontrivial` with every `sqr_in_place` / `mul_normalized` on word buffers — C01's
    mirrored multiplication, C02's mirrored division — below a work budget, the proved-equal value-level
    loop above it; single- and double-word rings as in `Props.C13.pow_kernels`) is the `pow` of
    `Props.C13.hom_pow`; and the buffer-level loop itself equals the value-level one on every valid base. -/
theorem pow_kernels_all (W id m : Nat) (hW : 0 < W) (r : Ring) (hnew : Ring.new W id m = .ok r)
    (hW4 : r.kind = .large → 4 ≤ W) (a : Int) (e : Nat) :
    (reduceIntKL W r a).powKL W e = (reduceInt W r a).pow W e ∧
    (r.kind = .large → ∀ raw, Valid r raw → powLK W r raw e = powL W r raw e) := by
  have hwf := Ring.new_wf hW hnew
  have hkW := Ring.new_k_lt hW hnew
  refine ⟨?_, fun hk raw hraw => powLK_eq hwf (hW4 hk) hk hkW hraw e⟩
  rw [reduceIntKL_eq hW hW4 hnew, ← Dashu.Props.C13.pow_kernels W id m hW r hnew a e, reduceIntK_eq hW hnew,
    reduceInt_eq hwf]
  exact congrArg _ (powRawKL_eq hwf hW4 hkW (valid_of_lt (res_lt hwf.mpos a)) e)

/-- non-vacuity: a 3-word ring, exponent of 17 bits: the buffer-level loop gives the power -/
example : ∃ r, Ring.new 64 0 (2 ^ 188 + 12345) = .ok r ∧
    powLK 64 r (7 * 2 ^ 3) 74565 = (7 ^ 74565 % (2 ^ 188 + 12345)) * 2 ^ 3 :=
  ⟨_, rfl, by decide +kernel⟩

-- ================================================================== Tie A: buffer-level decision logic regenerated from source

theorem glue_ge (x y : Int) : GluePrelude.ge_ x y = decide (y ≤ x) := by
  unfold GluePrelude.ge_; rw [Bool.eq_iff_iff, bne_iff_ne, decide_eq_true_eq]; exact Int.compare_ne_lt

/-- the decision points of the buffer mirrors are the tests REGENERATED from `integer/src/div_const.rs`
    (`ConstLargeDivisor::rem_large`: `words.len() >= modulus.len()`) and `integer/src/modular/mul.rs`
    (`mul_normalized`: buffer length `n.max(na + nb)`, early return `na | nb == 0`, one-word shortcut
    `na == 1 && nb == 1`; `sqr_normalized`: the same with `nb = na`).  A change of any of these source
    expressions changes `Dashu/Gen/ModularBuf.lean` and breaks this theorem. -/
theorem buffer_logic_gen :
    (∀ a b : Nat, decide (a ≥ b) = Gen.ModularBuf.rem_large_divides a b) ∧
    (∀ n na nb : Nat, ((max n (na + nb) : Nat) : Int) = Gen.ModularBuf.mul_normalized_buffer_len n na nb) ∧
    (∀ na nb : Nat, decide (na ||| nb = 0) = Gen.ModularBuf.mul_normalized_is_zero na nb) ∧
    (∀ na nb : Nat, decide (na = 1 ∧ nb = 1) = Gen.ModularBuf.mul_normalized_one_word na nb) ∧
    (∀ n na : Nat, Gen.ModularBuf.sqr_normalized_buffer_len n na = Gen.ModularBuf.mul_normalized_buffer_len n na na) ∧
    (∀ na : Nat, Gen.ModularBuf.sqr_normalized_is_zero na = Gen.ModularBuf.mul_normalized_is_zero na na) ∧
    (∀ na : Nat, Gen.ModularBuf.sqr_normalized_one_word na = Gen.ModularBuf.mul_normalized_one_word na na) := by
  refine ⟨fun a b => ?_, fun n na nb => ?_, fun na nb => ?_, fun na nb => ?_, fun n na => ?_, fun na => ?_, fun na => ?_⟩
  · unfold Gen.ModularBuf.rem_large_divides
    rw [glue_ge]
    exact decide_eq_decide.2 Int.ofNat_le.symm
  · unfold Gen.ModularBuf.mul_normalized_buffer_len GluePrelude.max GluePrelude.add_
    omega
  · simp only [Gen.ModularBuf.mul_normalized_is_zero, GluePrelude.eq_, GluePrelude.bitor, Int.toNat_natCast,
      Int.ofNat_eq_natCast, Int.natCast_eq_zero]
  · simp only [Gen.ModularBuf.mul_normalized_one_word, GluePrelude.eq_, Bool.decide_and, Nat.cast_eq_one]
  · unfold Gen.ModularBuf.sqr_normalized_buffer_len Gen.ModularBuf.mul_normalized_buffer_len GluePrelude.mul_ GluePrelude.add_
    rw [mul_two]
  · simp only [Gen.ModularBuf.sqr_normalized_is_zero, Gen.ModularBuf.mul_normalized_is_zero, GluePrelude.eq_,
      GluePrelude.bitor, Int.toNat_natCast, Int.ofNat_eq_natCast, Nat.or_self]
  · simp only [Gen.ModularBuf.sqr_normalized_one_word, Gen.ModularBuf.mul_normalized_one_word, Bool.and_self]

/-- `ConstLargeDivisor::rem_large` on buffers CALLS the regenerated test -/
theorem rem_large_gen (W : Nat) (nd : List Nat) (shift dtop : Nat) (words : List Nat) :
    remLargeWordsL W nd shift dtop words =
      (let p := Div.shlInPlace W words shift
       let w2 := p.1 ++ [p.2]
       if Gen.ModularBuf.rem_large_divides w2.length nd.length = true then
         (Div.divRemInPlace W w2 nd dtop).map (fun o => o.1.take nd.length)
       else .ok w2) := by
  unfold remLargeWordsL
  simp only [← buffer_logic_gen.1, decide_eq_true_eq]
  split <;> rfl

/-- `mul_normalized` / `sqr_normalized` on buffers CALL the regenerated early-return test, buffer length,
    long-division test and (`Gen/ModularAdd.lean`) the test `cmp_same_len(product, modulus).is_ge()` of the
    conditional subtraction of a short product, which runs C01's mirrored `sub_same_len_in_place` with its `debug_assert_zero!` -/
theorem mul_normalized_gen (W : Nat) (r : Ring) (sq : Bool) (a b : Nat) :
    mulNormalizedWordsL W r sq a b =
      (let nd := r.ndWords W
       let n := nd.length
       let na := wordLen W a
       let nb := wordLen W b
       if Gen.ModularBuf.mul_normalized_is_zero na nb = true then .ok 0
       else
         (productLow W sq a b).bind fun low =>
         let product := low ++ List.replicate ((Gen.ModularBuf.mul_normalized_buffer_len n na nb).toNat - low.length) 0
         let p := Div.shrInPlace W product r.k
         if p.2 ≠ 0 then .error (Div.assertErr "mul_normalized: debug_assert_zero!(shr_in_place(product, shift))")
         else if Gen.Modular.mul_normalized_needs_division n na nb = true then
           (Div.divRemInPlace W p.1 nd (Div.highestDword W nd)).map (fun o => val W (o.1.take n))
         else if (Gen.ModularAdd.mul_normalized_subtracts (Div.cmpSameLen p.1 nd) = true
                  ∧ Gen.ModularAdd.sqr_normalized_subtracts (Div.cmpSameLen p.1 nd) = true) then
           (let q := subSameLen W p.1 nd 0
            if q.2 ≠ 0 then .error (Div.assertErr "mul_normalized: debug_assert_zero!(sub_same_len_in_place(product, modulus))")
            else .ok (val W q.1))
         else .ok (val W p.1)) := by
  have hsub : ∀ c : Ordering, (Gen.ModularAdd.mul_normalized_subtracts c = true
      ∧ Gen.ModularAdd.sqr_normalized_subtracts c = true) ↔ c ≠ .lt := by
    intro c; cases c <;> decide
  unfold mulNormalizedWordsL Gen.Modular.mul_normalized_needs_division
  simp only [← buffer_logic_gen.2.2.1, ← buffer_logic_gen.2.1, hsub, Dashu.Props.C13.glue_gt, GluePrelude.add_,
    ← Nat.cast_add, Nat.cast_lt, decide_eq_true_eq, Int.toNat_natCast]
  rfl

/-- the product buffer's one-word shortcuts are the regenerated tests (`na == 1 && nb == 1`, `na == 1`);
    everything else goes to C01's mirrored `mul::multiply` / `sqr::sqr` -/
theorem product_low_gen (W : Nat) (sq : Bool) (a b : Nat) :
    productLow W sq a b =
      (let aw := natWords W a
       let bw := natWords W b
       if sq = true then
         if Gen.ModularBuf.sqr_normalized_one_word aw.length = true then .ok (wordsPad W 2 (a * a))
         else .ok (sqrBuffer W aw)
       else if Gen.ModularBuf.mul_normalized_one_word aw.length bw.length = true then .ok (wordsPad W 2 (a * b))
       else
         let res := addSignedMul W (aw.length + bw.length) (List.replicate (aw.length + bw.length) 0) false aw bw
         if res.2 ≠ 0 then .error (Div.assertErr "mul::multiply: debug_assert_zero!(add_signed_mul(c, Positive, a, b))")
         else .ok res.1) := by
  unfold productLow
  have h1 := buffer_logic_gen.2.2.2.1
  have h2 := buffer_logic_gen.2.2.2.2.2.2
  simp only [h2, ← h1, decide_eq_true_eq, and_self]

-- ================================================================== inv_large's buffer plumbing

/-- **`inv_large` with its buffer plumbing** (what the driver executes for `inv` and `/` of multi-word rings):
    `debug_assert_zero!(shr_in_place(modulus))`, `debug_assert_zero!(shr_in_place(raw))`, the cofactor zero-extended in the modulus
    buffer, `shl_in_place` (carry dropped by the code — proved zero), `debug_assert!(inv.is_valid(ring))` as `ReducedLarge::is_valid`
    on the buffer, `negate_in_place` on the buffer: on `Valid` residues no assertion fails and the result is that of the
    mirrored `inv_large` (`invRawKP`); hence `inv` and `/` as executed are those of `Props.C13.inv_spec` / `div_spec`. -/
theorem inv_large_buffers_all (W id m : Nat) (hW : 0 < W) (r : Ring) (hnew : Ring.new W id m = .ok r)
    (hW4 : r.kind = .large → 4 ≤ W) (a b : Int) :
    (∀ x, Valid r x → invRawKB W r x = invRawKP W r x) ∧
    (reduceIntKA W r a).invKB W = .ok ((reduceInt W r a).inv) ∧
    (reduceIntKA W r a).divKB W (reduceIntKA W r b) = (reduceInt W r a).div W (reduceInt W r b) := by
  have hwf := Ring.new_wf hW hnew
  have hkW := Ring.new_k_lt hW hnew
  have hraw : ∀ x, Valid r x → invRawKB W r x = invRawKP W r x := fun x ⟨u, hu, hx⟩ => hx ▸ invRawKB_eq hwf hkW hu
  have hinv : ∀ c : Int, (reduceInt W r c).invKB W = (reduceInt W r c).invKP W := fun c => by
    unfold Elem.invKB Elem.invKP
    rw [reduceInt_eq hwf, hraw _ (valid_of_lt (res_lt hwf.mpos c))]
    rfl
  obtain ⟨k1, k2⟩ := inv_div_kernels_all W id m hW r hnew hW4 a b
  rw [reduceIntKL_eq hW hW4 hnew] at k1
  rw [reduceIntKL_eq hW hW4 hnew, reduceIntKL_eq hW hW4 hnew] at k2
  rw [reduceIntKA_eq hW hW4 hnew, reduceIntKA_eq hW hW4 hnew]
  refine ⟨hraw, (hinv a).trans k1, ?_⟩
  rw [← k2]
  unfold Elem.divKB Elem.divKA
  rw [hinv b]
  rfl

/-- non-vacuity: a 3-word ring with shift 3; residues of one, two and three words (`gcd_ext_word`, `gcd_ext_dword`, Lehmer's
    `gcd_ext_in_place`), cofactors of either sign: every `debug_assert` of the buffer plumbing holds and the result is the inverse;
    a non-invertible residue of the ring modulo `15·(2^185 + 1)` gives `None` -/
example : ∃ r, Ring.new 64 0 (2 ^ 188 + 12345) = .ok r ∧ r.k = 3 ∧
    (invLargeB 64 r (7 * 2 ^ 3)).map (fun o => o.map (fun t => (t / 2 ^ 3 * 7) % (2 ^ 188 + 12345))) = .ok (some 1) ∧
    (invLargeB 64 r (11 * 2 ^ 3)).map (fun o => o.map (fun t => (t / 2 ^ 3 * 11) % (2 ^ 188 + 12345))) = .ok (some 1) ∧
    (invLargeB 64 r ((2 ^ 100 + 7) * 2 ^ 3)).map (fun o => o.map (fun t => (t / 2 ^ 3 * (2 ^ 100 + 7)) % (2 ^ 188 + 12345))) = .ok (some 1) ∧
    (invLargeB 64 r ((2 ^ 150 + 9) * 2 ^ 3)).map (fun o => o.map (fun t => (t / 2 ^ 3 * (2 ^ 150 + 9)) % (2 ^ 188 + 12345))) = .ok (some 1) ∧
    (invLargeB 64 r ((2 ^ 187 + 1) * 2 ^ 3)).map (fun o => o.map (fun t => (t / 2 ^ 3 * (2 ^ 187 + 1)) % (2 ^ 188 + 12345))) = .ok (some 1) :=
  ⟨_, rfl, by decide, by decide +kernel, by decide +kernel, by decide +kernel, by decide +kernel, by decide +kernel⟩

example : ∃ r, Ring.new 64 0 (15 * (2 ^ 185 + 1)) = .ok r ∧ r.k = 3 ∧ invLargeB 64 r (3 * 2 ^ 3) = .ok none ∧
    invLargeB 64 r ((5 * (2 ^ 140 + 1)) * 2 ^ 3) = .ok none ∧ invLargeB 64 r 0 = .ok none :=
  ⟨_, rfl, by decide, by decide +kernel, by decide +kernel, by decide +kernel⟩

end Dashu.Props.C13Link
