import Dashu.Proofs.Trans.StopLink
/-
  C11 -> C14: the FBig comparisons inside the stop tests of the series loops.
  The mirror (Model/Trans/Series.lean) writes `increase.abs_cmp(&sum.sub_ulp())` (exp_internal, ln_internal) as `reprAbsCmp`
  and `increase < sum.sub_ulp()` (iacoth) as `reprCmp`: both at specification level (value order).  C14 proves that the
  code's comparison routine `repr_cmp_same_base::<B, ABS>` of float/src/cmp.rs (model `reprCmpSameBase`: sign test,
  exponent+precision shortcut, exponent+digits shortcut with the estimate oracle, aligned comparison) is the value order
  for every sound oracle.  Composed here: the DECISION of each stop test is the same whichever of the two is evaluated, so
  the stop tests are not "at specification" with respect to cmp.rs.  The second operand is `sub_ulp = <1, e>`
  (`fSubUlp` always has significand 1).  Kept apart from Props/C11Series so that module does not depend on C14's proofs.
-/
namespace Dashu.Props.C11Link
open Dashu.Model.Float Dashu.Model.Trans Dashu.Model.Cross
open Dashu.Proofs.Trans.StopLink

/-- exp_internal / ln_internal: `increase.abs_cmp(&sum.sub_ulp()) != Greater` decided by the mirror = decided by C14's model of
    `repr_cmp_same_base::<B, true>` (hypotheses: sound oracle, positive `increase`, C14's precision invariant of `increase`;
    `sub_ulp` meets it for any precision) -/
theorem stop_test_is_code_abs_cmp {o : Oracle} (ho : o.Sound) (B : Nat) (hB : 2 ≤ B) (a : FRepr) (e : Int)
    (h0 : 0 < a.signif) (pa pb : Nat) (hpa : PrecOK B a.signif pa) :
    reprAbsCmp B a ⟨1, e⟩ ≠ .gt ↔ reprCmpSameBase o true B a.signif a.exp 1 e (some (pa, pb)) ≠ .gt := by
  have hpb : PrecOK B 1 pb := by
    intro _
    have : 1 < B ^ (min pb isizeMax + 1) := Nat.one_lt_pow (by omega) (by omega)
    simpa using this
  have hc := Dashu.Props.C14.float_abs_cmp_same_base ho hB a.signif a.exp 1 e pa pb hpa hpb
  rw [Dashu.Proofs.Trans.SeriesBound.reprAbsCmp_ne_gt_iff B hB a e h0, ← absCmp_spec_ne_gt_iff B hB a e h0 pa pb, ← hc]
  simp

/-- iacoth: `increase < sum.sub_ulp()` decided by the mirror = decided by C14's model of `repr_cmp_same_base::<B, false>` -/
theorem stop_test_is_code_cmp {o : Oracle} (ho : o.Sound) (B : Nat) (hB : 2 ≤ B) (a : FRepr) (e : Int)
    (hs : a.signif ≠ 0) (pa pb : Nat) (hpa : PrecOK B a.signif pa) :
    reprCmp B a ⟨1, e⟩ = .lt ↔ reprCmpSameBase o false B a.signif a.exp 1 e (some (pa, pb)) = .lt := by
  have hpb : PrecOK B 1 pb := by
    intro _
    have : 1 < B ^ (min pb isizeMax + 1) := Nat.one_lt_pow (by omega) (by omega)
    simpa using this
  have hc := reprCmpSameBase_spec ho hB a.signif a.exp 1 e pa pb (fun h => absurd h hs) (fun h => absurd h (by omega))
    hpa hpb
  have hv : (⟨1, e⟩ : FRepr).toRat B = bpowQ B e := by simp [FRepr.toRat]
  rw [Dashu.Proofs.Trans.SeriesBound.reprCmp_lt_iff B hB, hv, ← cmp_spec_lt_iff B hB a e hs pa pb, ← hc]
  simp

/-- both stop tests as inequalities of values (the mirror's side of the link, both directions) -/
theorem stop_test_value_iff (B : Nat) (hB : 2 ≤ B) (a : FRepr) (e : Int) (h0 : 0 < a.signif) :
    (reprAbsCmp B a ⟨1, e⟩ ≠ .gt ↔ a.toRat B ≤ bpowQ B e) ∧ (reprCmp B a ⟨1, e⟩ = .lt ↔ a.toRat B < bpowQ B e) := by
  refine ⟨Dashu.Proofs.Trans.SeriesBound.reprAbsCmp_ne_gt_iff B hB a e h0, ?_⟩
  have hv : (⟨1, e⟩ : FRepr).toRat B = bpowQ B e := by rw [FRepr.toRat, Int.cast_one, one_mul]
  rw [Dashu.Proofs.Trans.SeriesBound.reprCmp_lt_iff B hB, hv]

/-- non-vacuity: 5·10^-3 against sub_ulp = 10^-2 (stop) and 10^-3 (go on), coarse oracle, precisions 1 and 3 -/
example : (reprAbsCmp 10 ⟨5, -3⟩ ⟨1, -2⟩ ≠ .gt ↔ reprCmpSameBase Oracle.coarse true 10 5 (-3) 1 (-2) (some (1, 3)) ≠ .gt)
    ∧ reprAbsCmp 10 ⟨5, -3⟩ ⟨1, -2⟩ = .lt ∧ reprCmpSameBase Oracle.coarse true 10 5 (-3) 1 (-2) (some (1, 3)) = .lt
    ∧ reprAbsCmp 10 ⟨5, -3⟩ ⟨1, -3⟩ = .gt ∧ reprCmpSameBase Oracle.coarse true 10 5 (-3) 1 (-3) (some (1, 3)) = .gt :=
  ⟨Dashu.Props.C11Link.stop_test_is_code_abs_cmp Dashu.Props.C14.coarse_sound 10 (by omega) ⟨5, -3⟩ (-2) (by decide) 1 3
      (by intro _; norm_num [isizeMax]),
    by decide +kernel, by decide +kernel, by decide +kernel, by decide +kernel⟩

example : (reprCmp 10 ⟨5, -3⟩ ⟨1, -2⟩ = .lt ↔ reprCmpSameBase Oracle.coarse false 10 5 (-3) 1 (-2) (some (1, 3)) = .lt)
    ∧ reprCmp 10 ⟨5, -3⟩ ⟨1, -2⟩ = .lt ∧ reprCmpSameBase Oracle.coarse false 10 5 (-3) 1 (-2) (some (1, 3)) = .lt :=
  ⟨Dashu.Props.C11Link.stop_test_is_code_cmp Dashu.Props.C14.coarse_sound 10 (by omega) ⟨5, -3⟩ (-2) (by decide) 1 3
      (by intro _; norm_num [isizeMax]),
    by decide +kernel, by decide +kernel⟩

end Dashu.Props.C11Link
