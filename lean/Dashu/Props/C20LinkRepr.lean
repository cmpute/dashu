import Dashu.Props.C20
import Dashu.Proofs.Macro.ReprNewBridge
/-
  C20 ↔ C19 link: `Repr::new(significand, exponent)` — called by the heap / static expansion
  of `fbig!` / `dbig!` (`FBig::from_repr(Repr::new(..), Context::new(prec))`) — is modelled in
  Props/C20 by its VALUE (`Serde.fnew`: multiplicity of the base in `|significand|`, `none` when the
  normalised exponent leaves `isize`).  C19 / C03 own the mirror of the function itself
  (`Model/Float/Repr.lean` `FRepr.new` = `.normalize()`: the fuelled strip loop on the signed
  significand; kernels `FRepr.new_value`, `FRepr.new_normalized`), the one the run-time parser model
  `parseF` calls.  By import: the value-level function of the C20 model IS the mirrored code
  followed by the `isize` test, and on the parts of every accepted float literal the mirrored
  `Repr::new` of the expansion returns the parsed representation unchanged.
-/
namespace Dashu.Props.C20Link
open Dashu.Model.Serde Dashu.Model.Macro Dashu.Model.Float

/-- `Repr::new` as the C20 model uses it = C19's mirror of `normalize` + the `isize` test on the
    normalised exponent: every base ≥ 2, every significand, every exponent -/
theorem repr_new_is_mirrored_normalize (B : Nat) (hB : 2 ≤ B) (s e : Int) :
    fnew B s e =
      if inIsize (FRepr.new B s e).exp then some ⟨(FRepr.new B s e).signif, (FRepr.new B s e).exp⟩
      else none :=
  fnew_eq_mirror B hB s e

/-- whenever the value-level `Repr::new` returns, the mirror returns the same representation and
    its exponent is an `isize` (no overflow arm of the real code is reached) -/
theorem repr_new_value_is_mirror (B : Nat) (hB : 2 ≤ B) (s e : Int) (v : FVal) (h : fnew B s e = some v) :
    FRepr.new B s e = ⟨v.signif, v.exp⟩ ∧ inIsize v.exp :=
  ⟨mirror_of_fnew B hB s e v h, (fnew_canon B hB s e v h).2.2⟩

/-- **heap / static expansion of the float macros at the level of the mirrored constructor**: on the
    significand and exponent of EVERY accepted `fbig!` / `dbig!` literal, C19's mirror of
    `Repr::new(significand, exponent)` returns exactly the parsed representation (nothing left to
    strip, zero already `0·B^0`), its exponent is an `isize`, and the digit count of that representation
    (C19's `FRepr.digits`) is within the literal's precision (`FBig::from_repr`'s debug_assert) -/
theorem float_expansion_repr_fixed_mirror (binary : Bool) (toks : List Tok) (v : FPVal)
    (h : floatLiteral binary toks = some v) :
    FRepr.new (if binary then 2 else 10) v.signif v.exp = ⟨v.signif, v.exp⟩ ∧ inIsize v.exp ∧
    (FRepr.mk v.signif v.exp).digits (if binary then 2 else 10) ≤ v.prec := by
  have hB : 2 ≤ (if binary = true then 2 else 10) := by split <;> omega
  have h1 := Dashu.Props.C20.float_expansion_repr_fixed binary toks v h
  obtain ⟨a, b⟩ := repr_new_value_is_mirror _ hB v.signif v.exp _ h1
  exact ⟨a, b, Dashu.Props.C20.float_literal_digits_le_precision binary toks v h⟩

-- non-vacuity: the mirror strips (1200·10^-2 → 12·10^0; −0x1200·2^0 → −9·2^9), the guard arm exists
-- (exponent one step beyond isize::MAX → none), and an accepted literal (`fbig!(0x1_8p3)`, `dbig!(1.50e2)`)
example : fnew 10 1200 (-2) = some ⟨12, 0⟩ ∧ FRepr.new 10 1200 (-2) = ⟨12, 0⟩ ∧
    fnew 2 (-0x1200) 0 = some ⟨-9, 9⟩ ∧ FRepr.new 2 (-0x1200) 0 = ⟨-9, 9⟩ ∧
    fnew 10 10 (2 ^ 63 - 1) = none ∧ FRepr.new 10 10 (2 ^ 63 - 1) = ⟨1, 2 ^ 63⟩ := by
  refine ⟨?_, ?_, ?_, ?_, ?_, ?_⟩ <;> decide +kernel

example : floatLiteral true [.lit [48, 120, 49, 95, 56, 112, 51]] = some ⟨3, 6, 8⟩ ∧
    FRepr.new 2 3 6 = ⟨3, 6⟩ := by
  refine ⟨?_, ?_⟩ <;> decide +kernel

end Dashu.Props.C20Link
