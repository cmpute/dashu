import Dashu.Proofs.NT.GcdExt
import Dashu.Proofs.NT.BinGcd
import Dashu.Proofs.NT.Lehmer
import Dashu.Proofs.NT.LehmerComplete
import Dashu.Proofs.NT.LehmerExt
import Dashu.Proofs.NT.Root
import Dashu.Proofs.NT.Log
import Dashu.Proofs.NT.Log2Table
import Dashu.Proofs.NT.Log2Lift
import Dashu.Proofs.NT.Zimmermann
import Dashu.Proofs.NT.PrimRoot
import Dashu.Proofs.NT.PrimRootU16
import Dashu.Proofs.NT.PrimRootU128
import Dashu.Proofs.NT.PrimRootU128Cbrt
import Dashu.Proofs.NT.RootTablesGen
import Dashu.Proofs.NT.PrimRootU128Total
import Dashu.Proofs.NT.PrimRootU128CbrtTotal
import Dashu.Proofs.NT.LehmerBuf
import Dashu.Proofs.NT.LehmerStepWords
import Dashu.Proofs.NT.LehmerStepWordsGen
import Dashu.Proofs.NT.LehmerStepFull
/-
  C12 — gcd, integer roots, integer logarithms and `remove` satisfy their defining (in)equalities;
  the only panics are the documented ones.

  Property theorems only.  Statements quantify over all word sizes (`0 < W`, and `W` even where the
  square-root normalisation needs it), all operands and all `n ≥ 1`; nothing is bounded.
  Kernels enter through their contracts (`LehmerExtContract`, `SqrtKernelContract`, `PrimSqrtContract`); the kernels the driver executes (Lehmer loops, Zimmermann's `sqrt_rem` / `sqrt_rem_42`, the primitive table/Newton roots) are Lean definitions shown to meet them — see the sections on Zimmermann's square root and the primitive roots below.
-/
namespace Dashu.Props.C12
open Dashu.Model Dashu.Model.NT

-- ==================================================================== gcd

/-- the primitive `gcd` of `base/src/ring/gcd.rs` (u8 … u128): common power of two, the one-division
    shortcut for operands of very different size and the binary subtract-and-shift loop compute
    `Nat.gcd`; `(0, 0)` panics -/
theorem gcd_prim_spec (a b : Nat) :
    gcdPrim a b = if a = 0 ∧ b = 0 then .error .gcdZeroZero else .ok (Nat.gcd a b) :=
  gcdPrim_spec a b

/-- `(a | b).trailing_zeros()` (as the primitive gcd / gcd_ext compute the common power of two) is the
    smaller of the two trailing-zero counts -/
theorem trailing_zeros_or (a b : Nat) (ha : 0 < a) (hb : 0 < b) :
    trailingZeros (a ||| b) = min (trailingZeros a) (trailingZeros b) :=
  tz_or ha hb

/-- `gcd` over every size class (inline/heap mixes, one operand zero, equal operands), **every kernel
    mirrored** — primitive binary gcd, reduction by a word / double word, and the Lehmer loop of
    `gcd_in_place` for two multi-word operands: `Nat.gcd`, panicking exactly for `(0, 0)` -/
theorem gcd_spec (W : Nat) (hW : 0 < W) (a b : Nat) :
    gcdReprM W a b = if a = 0 ∧ b = 0 then .error .gcdZeroZero else .ok (Nat.gcd a b) :=
  gcdReprM_spec W hW a b

/-- … and for signed operands (`IBig`, mixed forms): the non-negative gcd of the magnitudes -/
theorem gcd_int_spec (W : Nat) (hW : 0 < W) (a b : Int) :
    gcdInt W a b = if a = 0 ∧ b = 0 then .error .gcdZeroZero else .ok (Int.gcd a b) := by
  unfold gcdInt
  rw [gcdReprM_spec W hW]
  simp only [Int.natAbs_eq_zero]
  rfl

/-- the same dispatch with the Lehmer kernel replaced by its specification -/
theorem gcd_spec_frontier (W : Nat) (a b : Nat) :
    gcdRepr W a b = if a = 0 ∧ b = 0 then .error .gcdZeroZero else .ok (Nat.gcd a b) :=
  gcdRepr_spec W gcdPrim_spec a b

/-- the primitive Euclid loop with cofactors (`unchecked_gcd_ext` + the `ExtendedGcd` wrapper) -/
theorem gcd_ext_prim_spec (a b : Nat) :
    (a = 0 ∧ b = 0 → xgcdPrim a b = .error .gcdZeroZero) ∧
    (¬ (a = 0 ∧ b = 0) → ∃ g s t, xgcdPrim a b = .ok (g, s, t) ∧ g = Nat.gcd a b ∧
        (a : Int) * s + (b : Int) * t = g) := by
  obtain ⟨h0, h1⟩ := xgcdPrim_spec a b
  refine ⟨h0, fun h => ?_⟩
  obtain ⟨⟨g, s, t⟩, hr, hx⟩ := h1 h
  exact ⟨g, s, t, hr, hx.1, hx.2.1.symm⟩

/-- the two-width variant used for `u128` (the double word): Euclid in full width while the remainder
    needs more than `H` bits, then the half-width loop, cofactors recombined -/
theorem gcd_ext_prim_wide_spec (H a b : Nat) :
    (a = 0 ∧ b = 0 → xgcdPrimWide H a b = .error .gcdZeroZero) ∧
    (¬ (a = 0 ∧ b = 0) → ∃ g s t, xgcdPrimWide H a b = .ok (g, s, t) ∧ g = Nat.gcd a b ∧
        (a : Int) * s + (b : Int) * t = g) := by
  obtain ⟨h0, h1⟩ := xgcdPrimWide_spec H a b
  refine ⟨h0, fun h => ?_⟩
  obtain ⟨⟨g, s, t⟩, hr, hx⟩ := h1 h
  exact ⟨g, s, t, hr, hx.1, hx.2.1.symm⟩

/-- `gcd_ext` for signed operands of every size class: `s·a + t·b = g = gcd(|a|, |b|)`, for **any**
    multi-word kernel that meets the contract of `gcd_ext_in_place` — including the recovery
    `|b| = q·|t| + |s|` of `gcd_ext_word/_dword` and the post-processing `a = (g − rhs·b)/lhs` as an
    exact division. -/
theorem gcd_ext_bezout (W : Nat) (kernel : Nat → Nat → Nat × Nat × Bool)
    (hk : ∀ l r, 0 < r → r < l → LehmerExtContract l r (kernel l r)) (a b : Int) :
    (a = 0 ∧ b = 0 → gcdExtInt W kernel a b = .error .gcdZeroZero) ∧
    (¬ (a = 0 ∧ b = 0) → ∃ g s t, gcdExtInt W kernel a b = .ok (g, s, t) ∧
        g = Int.gcd a b ∧ s * a + t * b = g) :=
  gcdExtInt_spec W kernel hk a b

/-- **`lehmer::gcd_ext_in_place` is correct.**  The mirrored loop — leading-word guess, Euclidean
    fallback with `t0 += q·t1`, `lehmer_step` with `lehmer_ext_step` on the unsigned coefficients, the
    `swapped` flag as the sign, and the final single-word `gcd_ext` — always returns for `0 < rhs < lhs`,
    and `(g, |b|, sign)` is the gcd with `lhs ∣ g − rhs·b`. -/
theorem lehmer_gcd_ext_correct (W : Nat) (hW : 0 < W) (lhs rhs : Nat) (h0 : 0 < rhs) (hlt : rhs < lhs) :
    ∃ res, lehmerExt W lhs rhs = .ok res ∧ LehmerExtContract lhs rhs res :=
  lehmerExt_correct W hW lhs rhs h0 hlt

/-- **`gcd_ext` with every kernel mirrored** (what the driver runs): for signed operands of every
    size class `s·a + t·b = g = gcd(|a|, |b|)`; only `(0, 0)` panics. -/
theorem gcd_ext_spec (W : Nat) (hW : 0 < W) (a b : Int) :
    (a = 0 ∧ b = 0 → gcdExtInt W (lehmerExtKernel W) a b = .error .gcdZeroZero) ∧
    (¬ (a = 0 ∧ b = 0) → ∃ g s t, gcdExtInt W (lehmerExtKernel W) a b = .ok (g, s, t) ∧
        g = Int.gcd a b ∧ s * a + t * b = g) :=
  gcdExtInt_spec W (lehmerExtKernel W) (fun l r hr hlt => by
    obtain ⟨res, h1, h2⟩ := lehmerExt_correct W hW l r hr hlt
    unfold lehmerExtKernel; rw [h1]; exact h2) a b

/-- … and for the plain-Euclid stand-in kernel `lehmerExtFrontier` -/
theorem gcd_ext_bezout_driver (W : Nat) (a b : Int) (h : ¬ (a = 0 ∧ b = 0)) :
    ∃ g s t, gcdExtInt W lehmerExtFrontier a b = .ok (g, s, t) ∧ g = Int.gcd a b ∧ s * a + t * b = g :=
  (gcdExtInt_spec W lehmerExtFrontier (fun _ _ hr hlt => lehmerExtFrontier_contract hr hlt) a b).2 h

/-- the hypotheses of `lehmer_gcd_ext_correct` are satisfiable on multi-word operands -/
example : ∃ res, lehmerExt 64 (2 ^ 200 + 12345) (3 ^ 120 + 7) = .ok res ∧
    LehmerExtContract (2 ^ 200 + 12345) (3 ^ 120 + 7) res :=
  lehmer_gcd_ext_correct 64 (by decide) _ _ (by decide +kernel) (by decide +kernel)

/-- concrete run through the Lehmer loop (4-word × 3-word operands, negative second operand) -/
example : (match gcdExtInt 64 (lehmerExtKernel 64) (2 ^ 200 + 12345) (-(3 ^ 120 + 7)) with
    | .ok (g, s, t) => decide (s * (2 ^ 200 + 12345) + t * (-(3 ^ 120 + 7)) = g ∧ g = 1 ∧ t ≠ 0)
    | .error _ => false) = true := by
  decide +kernel

/-- Lehmer step: whatever quotients `lehmer_guess` commits, the cofactor matrix keeps determinant 1 -/
theorem lehmer_guess_det (lim fuel xbar ybar : Nat) :
    let r := lehmerGuess lim fuel xbar ybar 1 0 0 1
    (r.1 : Int) * r.2.2.2 - r.2.1 * r.2.2.1 = 1 :=
  lehmerGuess_det lim fuel xbar ybar 1 0 0 1 (by norm_num)

/-- … and a determinant-1 step `(x, y) ↦ (a·x − b·y, d·y − c·x)` preserves the gcd: correctness of
    the guess only matters for progress -/
theorem lehmer_step_preserves_gcd (lim fuel xbar ybar : Nat) (x y : Int) :
    let r := lehmerGuess lim fuel xbar ybar 1 0 0 1
    Int.gcd (lehmerStep x y r.1 r.2.1 r.2.2.1 r.2.2.2).1 (lehmerStep x y r.1 r.2.1 r.2.2.1 r.2.2.2).2
      = Int.gcd x y := by
  intro r
  exact lehmerStep_gcd x y _ _ _ _ (lehmerGuess_det lim fuel xbar ybar 1 0 0 1 (by norm_num))

/-- the cofactors `lehmer_guess(_dword)` commits from the leading words (`highest_word_normalized`,
    `highest_dword_normalized`: both operands truncated at one common bit position) never make a step
    of the full operands negative -/
theorem lehmer_step_nonneg (W x y : Nat) (hW : 0 < W) (hxy : y ≤ x) (hy : 2 < wordLen W y) :
    let r := lehmerCofactors W x y
    0 ≤ (r.1 : Int) * x - (r.2.1 : Int) * y ∧ 0 ≤ (r.2.2.2 : Int) * y - (r.2.2.1 : Int) * x :=
  lehmerCofactors_nonneg hW hxy hy

/-- the whole mirrored loop of `lehmer::gcd_in_place` (leading-word alignment, `lehmer_guess(_dword)`,
    Euclidean fallback when the guess fails, `lehmer_step`, final word / double-word gcd) is **sound**:
    every value it returns is the gcd, whatever cofactors the guess commits -/
theorem lehmer_gcd_sound (W lhs rhs g : Nat) (h : lehmerGcd W lhs rhs = .ok g) : g = Nat.gcd lhs rhs :=
  lehmerGcdLoop_sound W _ lhs rhs g h

/-- … and **complete**: it always returns (no step goes negative, every iteration decreases `x + y`),
    so `gcd_in_place` computes the gcd -/
theorem lehmer_gcd_correct (W : Nat) (hW : 0 < W) (lhs rhs : Nat) (h : rhs ≤ lhs) :
    lehmerGcd W lhs rhs = .ok (Nat.gcd lhs rhs) :=
  lehmerGcd_correct W hW lhs rhs h

/-- non-vacuity: the mirrored loop returns on a pair of 5-word operands with a common factor -/
example : lehmerGcd 64 ((2 ^ 64 + 1) * (2 ^ 250 + 12345)) ((2 ^ 64 + 1) * (2 ^ 200 + 7)) = .ok (2 ^ 64 + 1) := by
  decide +kernel

-- ==================================================================== roots

/-- `sqrt_rem` (all sizes): floor square root and `value − root²`; multi-word values through the
    normalisation shift, any kernel meeting the contract, and de-normalisation of root **and
    remainder** -/
theorem sqrt_rem_spec (W : Nat) (hW : 0 < W) (hWe : W % 2 = 0) (x : Nat) :
    IsRoot x 2 (sqrtRemRepr W true x).1 ∧
    (sqrtRemRepr W true x).1 * (sqrtRemRepr W true x).1 + (sqrtRemRepr W true x).2 = x := by
  unfold sqrtRemRepr
  split
  · have h := iroot_spec x 2 (by decide)
    exact ⟨h, Nat.add_sub_cancel' (Nat.pow_two _ ▸ h.1)⟩
  · exact sqrtRemLarge_spec W hW hWe _ sqrtRemKernelFrontier_contract x

/-- `nth_root` for every `n`: zeroth root panics, otherwise the floor root — `n = 1, 2` shortcuts,
    the `bits ≤ n` shortcut (with radicand 0 giving 0) and the Newton iteration from `2^(bits/n)`
    ("up then down") with its stopping rule -/
theorem nth_root_spec (W : Nat) (hW : 0 < W) (hWe : W % 2 = 0) (x n : Nat) :
    (n = 0 → nthRootRepr W true x n = .error .rootZeroth) ∧
    (0 < n → ∃ s, nthRootRepr W true x n = .ok s ∧ IsRoot x n s) := by
  refine ⟨fun h => h ▸ rfl, fun hn => ?_⟩
  match n, hn with
  | 1, _ => exact ⟨x, rfl, by simp [IsRoot]⟩
  | 2, _ => exact ⟨_, rfl, (sqrt_rem_spec W hW hWe x).1⟩
  | k + 3, _ =>
    unfold nthRootRepr
    simp only []
    split
    · rename_i hbits
      -- `x < 2^bits ≤ 2^n`: the root is 1 (0 for `x = 0`)
      refine ⟨_, rfl, ?_⟩
      have hlt := lt_two_pow_bitLen x
      have hle : 2 ^ bitLen x ≤ 2 ^ (k + 3) := Nat.pow_le_pow_right (by decide) hbits
      by_cases hx : x = 0
      · subst hx; simp [IsRoot]
      · simp only [hx, and_false, if_false]
        exact ⟨by simp; omega, by norm_num; omega⟩
    · exact ⟨_, rfl, nthRootNewton_spec x (k + 2) (by omega) (by omega)⟩

/-- `cbrt_rem`: floor cube root and `value − root³` (never the `NegativeUBig` panic) -/
theorem cbrt_rem_spec (W : Nat) (hW : 0 < W) (hWe : W % 2 = 0) (x : Nat) :
    ∃ c r, cbrtRemRepr W true x = .ok (c, r) ∧ IsRoot x 3 c ∧ c ^ 3 + r = x := by
  obtain ⟨s, hs, hroot⟩ := (nth_root_spec W hW hWe x 3).2 (by decide)
  unfold cbrtRemRepr
  rw [hs]
  simp only [if_pos hroot.1]
  exact ⟨s, _, rfl, hroot, by have := hroot.1; omega⟩

/-- `IBig::nth_root`, `sqrt`, `cbrt`: zeroth root and even roots of negatives panic (and nothing
    else does); the result is the root truncated toward zero -/
theorem ibig_root_spec (W : Nat) (hW : 0 < W) (hWe : W % 2 = 0) (x : Int) (n : Nat) :
    (n = 0 → nthRootInt W true x n = .error .rootZeroth) ∧
    (0 < n → x < 0 → n % 2 = 0 → nthRootInt W true x n = .error .rootNegative) ∧
    (0 < n → ¬ (x < 0 ∧ n % 2 = 0) → ∃ s : Nat, IsRoot x.natAbs n s ∧
        nthRootInt W true x n = .ok (if x < 0 then -(s : Int) else s)) ∧
    (x < 0 → sqrtInt W x = .error .rootNegative) ∧
    (∃ s : Nat, IsRoot x.natAbs 3 s ∧ cbrtInt W true x = .ok (if x < 0 then -(s : Int) else s)) := by
  refine ⟨?_, ?_, ?_, ?_, ?_⟩
  · intro h; simp [nthRootInt, h]
  · intro hn hx he
    unfold nthRootInt
    rw [if_neg (by omega), if_pos ⟨hx, he⟩]
  · intro hn hneg
    obtain ⟨s, hs, hroot⟩ := (nth_root_spec W hW hWe x.natAbs n).2 hn
    refine ⟨s, hroot, ?_⟩
    unfold nthRootInt
    rw [if_neg (by omega), if_neg hneg, hs]
  · intro hx; simp [sqrtInt, hx]
  · obtain ⟨s, hs, hroot⟩ := (nth_root_spec W hW hWe x.natAbs 3).2 (by decide)
    refine ⟨s, hroot, ?_⟩
    unfold cbrtInt
    simp only [Bool.not_true, Bool.false_eq_true, and_false, if_false, hs]

-- ==================================================================== ilog, remove, table estimator

/-- `ilog`: panics exactly for a zero operand or a base below 2; otherwise, for every first guess
    the code's assertion accepts (`base^max(est,1) ≤ x`), the correction loops end at `e` with
    `base^e ≤ x < base^(e+1)` -/
theorem ilog_spec (W : Nat) (hW : 0 < W) (estF : Nat → Nat → Nat) (x base : Nat)
    (hest : base ≤ x → base ^ max (estF x base) 1 ≤ x) :
    ((x = 0 ∨ base < 2) → logRepr W true estF x base = .error .logInvalid) ∧
    (0 < x → 2 ≤ base → ∃ e p, logRepr W true estF x base = .ok (e, p) ∧
        p = base ^ e ∧ base ^ e ≤ x ∧ x < base ^ (e + 1)) := by
  obtain ⟨h0, h1⟩ := logRepr_spec W hW estF x base hest
  refine ⟨h0, fun hx hb => ?_⟩
  obtain ⟨⟨e, p⟩, hr, hp, hle, hlt⟩ := h1 hx hb
  simp only [] at hp hle hlt
  exact ⟨e, p, hr, hp, by rw [← hp]; exact hle, by rw [Nat.pow_succ, ← hp]; exact hlt⟩

/-- non-vacuity of the estimator hypothesis: the constant guess 1 (what the driver uses) meets it -/
example (x base : Nat) : base ≤ x → base ^ max ((fun _ _ => 1) x base) 1 ≤ x := by
  intro h; simpa using h

/-- `remove`: `None` exactly for `x = 0` or a factor below 2; otherwise the exact multiplicity,
    divided out (squaring tower up, then down) -/
theorem remove_spec (x f : Nat) :
    ((x = 0 ∨ f < 2) → removeRepr x f = none) ∧
    (0 < x → 2 ≤ f → ∃ e q, removeRepr x f = some (e, q) ∧ x = q * f ^ e ∧ ¬ (f ∣ q)) :=
  removeRepr_spec x f

/-- the no_std log2 table estimator encloses `log2 n` for every `u16` value above `0xff`
    (`2^lb ≤ n^256 ≤ 2^ub` with `lb = log2_fp8 n`, `ub = ceil_log2_fp8 n`; all 65 280 values) -/
theorem log2_table_sound (n : Nat) (h1 : 256 ≤ n) (h2 : n < 65536) :
    2 ^ log2Fp8 n ≤ n ^ 256 ∧ (n ≠ 2 ^ (bitLen n - 1) → n ^ 256 ≤ 2 ^ ceilLog2Fp8 n) :=
  log2_fp8_sound n h1 h2

/-- the no_std `u8` estimator (operand raised to the 4th power below 16, squared from 16 on, then
    the table): encloses `log2 i` for every `u8` value that is not handled literally -/
theorem log2_u8_table_sound (i : Nat) (h1 : 4 ≤ i) (h2 : i < 256) (hp : i ≠ 2 ^ (bitLen i - 1)) (h3 : i ≠ 3) :
    let k := if i < 16 then 4 else 2
    2 ^ log2Fp8 (i ^ k) ≤ i ^ (256 * k) ∧ i ^ (256 * k) ≤ 2 ^ ceilLog2Fp8 (i ^ k) :=
  log2_u8_sound i h1 h2 hp h3

/-- the no_std estimator of wider integers (`u32 … u128`, `usize`; any bit length above 16): table
    estimate of the top 16 bits plus the shift; the ceiling of the top bits also covers the discarded
    low bits (`(hi+1)^256 ≤ 2^ceil_log2_fp8(hi)` for all `2^15 < hi < 2^16`) -/
theorem log2_wide_table_sound (x : Nat) (hbits : 16 < bitLen x) :
    let shift := bitLen x - 16
    let hi := x / 2 ^ shift
    let ub := if hi = 2 ^ 15 then 15 * 256 + 1 else ceilLog2Fp8 hi
    2 ^ (log2Fp8 hi + 256 * shift) ≤ x ^ 256 ∧ x ^ 256 ≤ 2 ^ (ub + 256 * shift) :=
  log2_wide_sound x hbits

-- ==================================================================== non-vacuity and regression theorems
-- (the `fixed = false` variants mirror the code before the `fix:` commits 77711bb, 26bd959, f6db5f8,
--  44dc3ca, 413052e of /repo; they show that the hypotheses / corrected branches are needed)

example : IsRoot (2 ^ 191 + 12345) 2 (sqrtRemRepr 64 true (2 ^ 191 + 12345)).1 :=
  (sqrt_rem_spec 64 (by decide) (by decide) _).1

-- concrete instances of the theorems above (non-vacuity; evaluated by the kernel)
example : nthRootRepr 64 true (10 ^ 30) 7 = .ok 19306 := by decide +kernel
example : cbrtRemRepr 64 true (10 ^ 30 + 7) = .ok (10 ^ 10, 7) := by decide +kernel
example : logRepr 64 true (fun _ _ => 1) (10 ^ 40 + 1) 10 = .ok (40, 10 ^ 40) := by decide +kernel
example : removeRepr (3 * 12 ^ 5) 12 = some (5, 3) := by decide +kernel
example : gcdReprM 64 (6 * (2 ^ 200 + 1)) (6 * (2 ^ 130 + 7)) = .ok (Nat.gcd (6 * (2 ^ 200 + 1)) (6 * (2 ^ 130 + 7))) := by
  decide +kernel
/-- the hypotheses of `lehmer_step_nonneg` / `log2_wide_table_sound` / `log2_u8_table_sound` are satisfiable -/
example : (2 : Nat) ^ 128 + 5 ≤ 2 ^ 200 + 1 ∧ 2 < wordLen 64 (2 ^ 128 + 5) ∧ 16 < bitLen 0x12345678 ∧
    (4 ≤ 201 ∧ 201 < 256 ∧ 201 ≠ 2 ^ (bitLen 201 - 1) ∧ 201 ≠ 3) := by decide

/-- REGRESSION (`nth_root` of zero): the `bits ≤ n ⇒ 1` shortcut as written returns 1 for the radicand 0 -/
theorem nth_root_zero_asIs_counterexample :
    nthRootRepr 64 false 0 3 = .ok 1 ∧ ¬ IsRoot 0 3 1 ∧ nthRootRepr 64 true 0 3 = .ok 0 ∧
    cbrtRemRepr 64 false 0 = .error .negativeUBig := by
  refine ⟨rfl, by simp [IsRoot], rfl, rfl⟩

/-- REGRESSION (`sqrt_rem_large`, `shift == WORD_BITS`): the remainder as written is shifted by
    `shift % WORD_BITS = 0` bits instead of one word: `s² + r ≠ n` for `n = 2^191 + 12345` -/
theorem sqrt_rem_asIs_counterexample :
    (sqrtRemLarge 64 sqrtRemKernelFrontier false (2 ^ 191 + 12345)).1 *
        (sqrtRemLarge 64 sqrtRemKernelFrontier false (2 ^ 191 + 12345)).1 +
      (sqrtRemLarge 64 sqrtRemKernelFrontier false (2 ^ 191 + 12345)).2 ≠ 2 ^ 191 + 12345 ∧
    (sqrtRemLarge 64 sqrtRemKernelFrontier false (2 ^ 191 + 12345)).2 =
      (sqrtRemLarge 64 sqrtRemKernelFrontier true (2 ^ 191 + 12345)).2 * 2 ^ 64 := by
  decide +kernel

/-- REGRESSION (`CubicRoot for IBig`): as written every negative input panics with `RootNegative` -/
theorem ibig_cbrt_asIs_counterexample :
    cbrtInt 64 false (-8) = .error .rootNegative ∧ cbrtInt 64 true (-8) = .ok (-2) ∧
    nthRootInt 64 false (-8) 3 = .ok (-2) := by
  decide +kernel

/-- REGRESSION (`ilog` of zero): as written only `log_dword` rejects a zero target; the power-of-two
    shortcuts underflow and a multi-word base returns 0 -/
theorem ilog_zero_asIs_counterexample :
    logRepr 64 false (fun _ _ => 1) 0 2 ≠ .error .logInvalid ∧
    logRepr 64 false (fun _ _ => 1) 0 4 ≠ .error .logInvalid ∧
    logRepr 64 false (fun _ _ => 1) 0 (2 ^ 130 + 1) = .ok (0, 1) ∧
    logRepr 64 true (fun _ _ => 1) 0 (2 ^ 130 + 1) = .error .logInvalid := by
  decide +kernel

/-- REGRESSION (`gcd_ext_large` post-processing): for `(2^320, 2^128)` the residue `g − rhs·b` has fewer
    words than `lhs`, which violates the precondition of the division the code calls -/
theorem gcd_ext_post_precondition_counterexample :
    gcdExtPostPre 64 (2 ^ 320) (2 ^ 128) (lehmerExtFrontier (2 ^ 320) (2 ^ 128)) = false ∧
    gcdExtPost (2 ^ 320) (2 ^ 128) (lehmerExtFrontier (2 ^ 320) (2 ^ 128)) = (2 ^ 128, 0, 1) := by
  decide +kernel

-- ==================================================================== Zimmermann's Karatsuba square root

/-- the arithmetic core of `root::sqrt_rem` (Zimmermann 1999): with `hi = s1² + R1`, `R1 ≤ 2·s1`, a
    normalised `s1` (`B ≤ 2·s1`) and `R1·B + b1 = 2·q·s1 + U`, `U < 2·s1`, the candidate `s = s1·B + q` has the
    exact signed remainder `r = U·B + b0 − q²`; `q ≤ B`; `r ≤ 2s`; a negative `r` is repaired by ONE
    decrement (`r + 2s − 1 ≥ 0`); and `q = B` always needs it -/
theorem zimmermann_step {s1 R1 B b1 b0 q U hi : Nat}
    (hhi : hi = s1 * s1 + R1) (hR1 : R1 ≤ 2 * s1) (hB : B ≤ 2 * s1) (hb1 : b1 < B) (hb0 : b0 < B)
    (hdiv : R1 * B + b1 = 2 * q * s1 + U) (hU : U < 2 * s1) :
    ((hi * (B * B) + b1 * B + b0 : Nat) : Int) = ((s1 * B + q) * (s1 * B + q) : Nat) + ((U * B + b0 : Nat) - (q * q : Nat) : Int) ∧
    q ≤ B ∧
    ((U * B + b0 : Nat) : Int) - (q * q : Nat) ≤ 2 * ((s1 * B + q : Nat) : Int) ∧
    (((U * B + b0 : Nat) : Int) - (q * q : Nat) < 0 →
        0 ≤ ((U * B + b0 : Nat) : Int) - (q * q : Nat) + 2 * ((s1 * B + q : Nat) : Int) - 1 ∧ 1 ≤ q) ∧
    (q = B → ((U * B + b0 : Nat) : Int) - (q * q : Nat) < 0) :=
  karatsuba_step hhi hR1 hB hb1 hb0 hdiv hU

/-- **`root::sqrt_rem_42` is correct**: on every normalised 4-word value (`2^(4W−2) ≤ a < 2^(4W)`, any
    word size `W ≥ 2`) the mirrored routine — word-assembled `r0 = (r1·B + b1)/2`, division by `s1`,
    the `q ≥ B` reduction, `u << 1 | (a[1] & 1)`, `overflowing_sub(q²)`, the `c < 0` repair with its two
    `overflowing_add`s — returns `(s, r_lo, carry)` with `s² + r = a`, `r ≤ 2s`, `r = r_lo + carry·2^(2W)` -/
theorem sqrt_rem_42_correct {W : Nat} (hW : 2 ≤ W) {prim : Nat → Nat × Nat} (hprim : PrimSqrtContract W prim)
    {a : Nat} (hlo : 2 ^ (W - 1) * 2 ^ (W - 1) * (2 ^ W * 2 ^ W) ≤ a) (hhi : a < 2 ^ W * 2 ^ W * (2 ^ W * 2 ^ W)) :
    KOut (2 ^ W * 2 ^ W) a (sqrtRem42 W prim a) :=
  sqrtRem42_spec hW hprim hlo hhi

/-- **`root::sqrt_rem` (Zimmermann's Karatsuba square root) is correct** for every output length `n ≥ 2`
    and every normalised `2n`-word value: the mirrored recursion (recursive call on the high `2(n − n/2)`
    words, `r1_top` ⇒ `sub_in_place`, `div_rem_in_place` by `s1`, the shifted-in quotient bit
    `r1_top ^ carry`, `q_top`, the parity repair `add_in_place`, `q²` with `q_top` placed or charged to `c`,
    `sub_in_place`, the `c < 0` repair with `add_word_in_place` / `add_mul_word_in_place` /
    `sub_one_in_place`) returns `(s, r_lo, carry)` with `s² + r = a`, `r ≤ 2s`, `r_lo < 2^(W·n)`.
    No fuel or size bound: the recursion depth argument is `n` itself. -/
theorem sqrt_rem_karatsuba_correct {W : Nat} (hW : 2 ≤ W) {prim : Nat → Nat × Nat} (hprim : PrimSqrtContract W prim)
    (n a : Nat) (hn : 2 ≤ n) (hlo : 2 ^ (W * n - 1) * 2 ^ (W * n - 1) ≤ a) (hhi : a < 2 ^ (W * n) * 2 ^ (W * n)) :
    KOut (2 ^ (W * n)) a (sqrtRemRec W prim n n a) :=
  sqrtRemRec_spec hW hprim n n a hn (Nat.le_refl n) hlo hhi

/-- … so on the value `sqrt_rem_large` hands over, the mirrored kernel is the floor square root with its
    remainder (it equals the specification `sqrtRemKernelFrontier`) -/
theorem sqrt_rem_kernel_eq_spec {W : Nat} (hW : 2 ≤ W) (hWe : W % 2 = 0) {prim : Nat → Nat × Nat}
    (hprim : PrimSqrtContract W prim) (fixed : Bool) {x : Nat} (hx : 2 ^ (2 * W) ≤ x) :
    sqrtRemLarge W (sqrtRemKernel W prim) fixed x = sqrtRemLarge W sqrtRemKernelFrontier fixed x :=
  sqrtRemLarge_mirrored hW hWe hprim fixed hx

/-- **`sqrt_rem` with every kernel mirrored** (what the driver runs): floor square root and
    `value − root²` for every `x`, given that the one- and two-word primitive roots are exact -/
theorem sqrt_rem_mirrored_spec {W : Nat} (hW : 2 ≤ W) (hWe : W % 2 = 0) {primW primD : Nat → Nat × Nat}
    (hpW : PrimSqrtExact (2 ^ W) primW) (hpD : PrimSqrtExact (2 ^ (2 * W)) primD) (x : Nat) :
    IsRoot x 2 (sqrtRemReprM W primW primD true x).1 ∧
    (sqrtRemReprM W primW primD true x).1 * (sqrtRemReprM W primW primD true x).1
      + (sqrtRemReprM W primW primD true x).2 = x := by
  rw [sqrtRemReprM_eq hW hWe hpW hpD]
  exact sqrt_rem_spec W (by omega) hWe x

/-- … and `nth_root` / `sqrt` through it: every clause of `nth_root_spec` holds for the mirrored dispatch -/
theorem nth_root_mirrored_eq {W : Nat} (hW : 2 ≤ W) (hWe : W % 2 = 0) {primW primD : Nat → Nat × Nat}
    (hpW : PrimSqrtExact (2 ^ W) primW) (hpD : PrimSqrtExact (2 ^ (2 * W)) primD) (fixed : Bool) (x n : Nat) :
    nthRootReprM W primW primD fixed x n = nthRootRepr W fixed x n := by
  unfold nthRootReprM
  split
  · unfold nthRootRepr sqrtReprM sqrtRepr
    simp only []
    rw [sqrtRemReprM_eq hW hWe hpW hpD]
  · rfl

/-- the hypotheses are satisfiable: the specification-level primitives are exact … -/
example : PrimSqrtExact (2 ^ 64) sqrtRemPrimFrontier ∧ PrimSqrtExact (2 ^ (2 * 64)) sqrtRemPrimFrontier :=
  ⟨fun _ _ => rfl, fun _ _ => rfl⟩

/-- … and concrete runs of what the driver executes (mirrored `u64`/`u128` primitives, `sqrt_rem_42`, the
    recursion at `n = 3, 5` with and without the normalisation shift), evaluated by the kernel -/
example : sqrtRemReprM 64 (sqrtRemWordM 64) (sqrtRemDwordM 64) true (2 ^ 255 + 12345)
    = sqrtRemRepr 64 true (2 ^ 255 + 12345) := by decide +kernel
example : sqrtRemReprM 64 (sqrtRemWordM 64) (sqrtRemDwordM 64) true (3 ^ 230 + 7)
    = sqrtRemRepr 64 true (3 ^ 230 + 7) := by decide +kernel
example : sqrtRemReprM 64 (sqrtRemWordM 64) (sqrtRemDwordM 64) true (2 ^ 640 - 1)
    = sqrtRemRepr 64 true (2 ^ 640 - 1) := by decide +kernel
example : KOut (2 ^ (64 * 3)) (2 ^ 384 - 1) (sqrtRemRec 64 sqrtRemPrimFrontier 3 3 (2 ^ 384 - 1)) :=
  sqrt_rem_karatsuba_correct (by decide) (PrimSqrtExact.contract (W := 64) (fun _ _ => rfl)) 3 _ (by decide)
    (by decide +kernel) (by decide +kernel)

-- ==================================================================== primitive roots of dashu-base

/-- **`fix_sqrt_error!` is sound** (every width, every start value): whatever it returns without an
    arithmetic overflow is the floor square root and `n − root²` -/
theorem fix_sqrt_error_sound {bits n s : Nat} {r : Nat × Nat} (h : fixSqrtError bits n s = some r) :
    IsRoot n 2 r.1 ∧ r.1 * r.1 + r.2 = n :=
  fixSqrtError_sound h

/-- **`fix_cbrt_error!` is sound** -/
theorem fix_cbrt_error_sound {bits n c : Nat} {r : Nat × Nat} (h : fixCbrtError bits n c = some r) :
    IsRoot n 3 r.1 ∧ r.1 ^ 3 + r.2 = n :=
  fixCbrtError_sound h

/-- **`sqrt_rem` of `u8`, `u16`, `u32`, `u64`, `u128` is sound** on every value of the type: table lookup,
    Newton steps, the `u128` Karatsuba step over the `u64` routine (bit-packed with KBITS = 32) and the
    normalising wrapper can only produce the floor root and its remainder (or overflow) -/
theorem prim_sqrt_rem_sound {bits x : Nat} (hb : bits = 8 ∨ bits = 16 ∨ bits = 32 ∨ bits = 64 ∨ bits = 128)
    (hx : x < 2 ^ bits) {r : Nat × Nat} (h : sqrtRemPrimBits bits x = some r) :
    IsRoot x 2 r.1 ∧ r.1 ^ 2 + r.2 = x := by
  rcases hb with rfl | rfl | rfl | rfl | rfl
  · have := fixSqrtError_sound (show fixSqrtError 8 x 0 = some r from h)
    rw [Nat.pow_two]; exact this
  · exact (sqrtRemNorm_spec (fun y _ _ => normSqrtU16_sound y) hx).1 r h
  · exact (sqrtRemNorm_spec (fun y _ _ => normSqrtU32_sound y) hx).1 r h
  · exact (sqrtRemNorm_spec (fun y _ _ => normSqrtU64_sound y) hx).1 r h
  · exact sqrtRemU128_sound hx h

/-- a sound primitive that answers on every value of its type is exact -/
theorem prim_exact_of_total {bits : Nat} (hb : bits = 8 ∨ bits = 16 ∨ bits = 32 ∨ bits = 64 ∨ bits = 128)
    (htot : ∀ y, y < 2 ^ bits → (sqrtRemPrimBits bits y).isSome) :
    PrimSqrtExact (2 ^ bits) (fun y => (sqrtRemPrimBits bits y).getD (0, 0)) := by
  intro y hy
  obtain ⟨⟨s, t⟩, hr⟩ := Option.isSome_iff_exists.1 (htot y hy)
  obtain ⟨hroot, hrem⟩ := prim_sqrt_rem_sound hb hy hr
  -- a sound answer has the unique floor root as first component, which fixes the second
  obtain rfl : s = iroot y 2 := IsRoot.unique (by decide) hroot (iroot_spec y 2 (by decide))
  rw [Nat.pow_two] at hrem
  show (sqrtRemPrimBits bits y).getD (0, 0) = _
  rw [hr]
  exact Prod.ext rfl (by simp only [Option.getD_some, sqrtRemPrimFrontier] at hrem ⊢; omega)

/-- **`sqrt_rem` exactly as the driver runs it for the 64-bit word** (mirrored `u64` / `u128` primitives,
    `sqrt_rem_42`, the Karatsuba recursion, `sqrt_rem_large`): the floor square root and `value − root²`
    for EVERY `x`.  The only hypothesis left is that the `u64` and `u128` primitive routines never
    overflow (`isSome`: they are proved sound, `prim_sqrt_rem_sound`; totality is proved up to `u32`, `prim_root_u32_total` in `Props/C12U32`). -/
theorem sqrt_rem_driver_spec
    (h64 : ∀ y, y < 2 ^ 64 → (sqrtRemPrimBits 64 y).isSome)
    (h128 : ∀ y, y < 2 ^ 128 → (sqrtRemPrimBits 128 y).isSome) (x : Nat) :
    IsRoot x 2 (sqrtRemReprM 64 (sqrtRemWordM 64) (sqrtRemDwordM 64) true x).1 ∧
    (sqrtRemReprM 64 (sqrtRemWordM 64) (sqrtRemDwordM 64) true x).1 * (sqrtRemReprM 64 (sqrtRemWordM 64) (sqrtRemDwordM 64) true x).1
      + (sqrtRemReprM 64 (sqrtRemWordM 64) (sqrtRemDwordM 64) true x).2 = x :=
  sqrt_rem_mirrored_spec (W := 64) (by decide) (by decide)
    (prim_exact_of_total (bits := 64) (by decide) h64)
    (prim_exact_of_total (bits := 128) (by decide) h128) x

/-- **the `u128` square-root step adds no overflow of its own**: if `<u64>::normalized_sqrt_rem` answers on
    every normalised `u64` (`2^62 ≤ y < 2^64`), then `u64::sqrt_rem` and `u128::sqrt_rem` answer on EVERY value of their
    types — in the `u128` Karatsuba step `u += s1`, `q * q`, `s -= 1` stay in range and the remainder carry after the
    `c < 0` repair is never negative (one decrement always suffices, `zimmermann_step`) -/
theorem prim_sqrt_u128_total_of_u64 (h64 : ∀ y, 2 ^ 62 ≤ y → y < 2 ^ 64 → (normSqrtU64 y).isSome) :
    (∀ y, y < 2 ^ 64 → (sqrtRemPrimBits 64 y).isSome) ∧ (∀ y, y < 2 ^ 128 → (sqrtRemPrimBits 128 y).isSome) := by
  have h64' : ∀ y, 2 ^ 62 ≤ y → y < 2 ^ 64 → ∃ r, normSqrtU64 y = some r :=
    fun y h1 h2 => Option.isSome_iff_exists.1 (h64 y h1 h2)
  exact ⟨fun y hy => Option.isSome_iff_exists.2 (sqrtRemU64_total_of_norm h64' hy),
         fun y hy => Option.isSome_iff_exists.2 (sqrtRemU128_total_of_u64 h64' hy)⟩

/-- **`sqrt_rem` exactly as the driver runs it for the 64-bit word, ONE hypothesis left**: the `u64` table/Newton routine
    `normalized_sqrt_rem` does not overflow on normalised operands (everything else — the `u128` step, both wrappers,
    `sqrt_rem_42`, the Karatsuba recursion, `sqrt_rem_large` — is proved) -/
theorem sqrt_rem_driver_spec_u64 (h64 : ∀ y, 2 ^ 62 ≤ y → y < 2 ^ 64 → (normSqrtU64 y).isSome) (x : Nat) :
    IsRoot x 2 (sqrtRemReprM 64 (sqrtRemWordM 64) (sqrtRemDwordM 64) true x).1 ∧
    (sqrtRemReprM 64 (sqrtRemWordM 64) (sqrtRemDwordM 64) true x).1 * (sqrtRemReprM 64 (sqrtRemWordM 64) (sqrtRemDwordM 64) true x).1
      + (sqrtRemReprM 64 (sqrtRemWordM 64) (sqrtRemDwordM 64) true x).2 = x :=
  sqrt_rem_driver_spec (prim_sqrt_u128_total_of_u64 h64).1 (prim_sqrt_u128_total_of_u64 h64).2 x

/-- the hypothesis is met on concrete normalised operands (kernel evaluation of the mirrored `u64` Newton code) -/
example : (normSqrtU64 (2 ^ 62)).isSome ∧ (normSqrtU64 (2 ^ 64 - 1)).isSome ∧ (normSqrtU64 (2 ^ 63 + 12345)).isSome ∧
    (sqrtRemPrimBits 128 (2 ^ 128 - 1)).isSome := by decide +kernel

/-- **`cbrt_rem` of `u8`, `u16`, `u32`, `u64`, `u128` is sound** on every value of the type (incl. `u128` — the
    B = 2^22 cube-root step over the `u64` routine: `c1, r1` of the high 62 bits (both the 127-bit branch with
    `c >>= 1` and the 128-bit branch), `q, u = div_rem(r1·B + b2, 3·c1²)`, the signed remainder
    `u·B² + b1·B + b0 − (3·c1·B + q)·q²` and the `while r < 0` descent can only produce the floor cube root and
    its remainder, or overflow) -/
theorem prim_cbrt_rem_sound {bits x : Nat} (hb : bits = 8 ∨ bits = 16 ∨ bits = 32 ∨ bits = 64 ∨ bits = 128)
    (hx : x < 2 ^ bits) {r : Nat × Nat} (h : cbrtRemPrimBits bits x = some r) :
    IsRoot x 3 r.1 ∧ r.1 ^ 3 + r.2 = x := by
  rcases hb with rfl | rfl | rfl | rfl | rfl
  · exact fixCbrtError_sound (show fixCbrtError 8 x 0 = some r from h)
  · exact (cbrtRemNorm_spec (fun y _ _ => normCbrtU16_sound y) hx).1 r h
  · exact (cbrtRemNorm_spec (fun y _ _ => normCbrtU32_sound y) hx).1 r h
  · exact (cbrtRemNorm_spec (fun y _ _ => normCbrtU64_sound y) hx).1 r h
  · exact cbrtRemU128_sound hx h

/-- **the `u128` cube-root step adds no overflow of its own**: if `<u64>::normalized_cbrt_rem` answers on every
    normalised `u64` (`2^61 ≤ y < 2^64`), then `u64::cbrt_rem` and `u128::cbrt_rem` answer on EVERY value of their types —
    `3·c1²`, `(c1 << KBITS) + q`, `q²`, `((3·c1) << KBITS) + q`, `t2`, the `as i128` casts (`t1, t2 < 2^127`) stay in
    range, `q ≤ B + 7`, and the `while r < 0` descent ends within 8 steps (`cbrt_descent_bound`: the candidate is at most
    8 above the floor root because `B ≤ 7·c1` on normalised operands) — with `prim_cbrt_rem_sound` the answer is the
    floor cube root and its remainder -/
theorem prim_cbrt_u128_total_of_u64 (h64 : ∀ y, 2 ^ 61 ≤ y → y < 2 ^ 64 → (normCbrtU64 y).isSome) :
    (∀ y, y < 2 ^ 64 → (cbrtRemPrimBits 64 y).isSome) ∧ (∀ y, y < 2 ^ 128 → (cbrtRemPrimBits 128 y).isSome) := by
  have h64' : ∀ y, 2 ^ 61 ≤ y → y < 2 ^ 64 → ∃ r, normCbrtU64 y = some r :=
    fun y h1 h2 => Option.isSome_iff_exists.1 (h64 y h1 h2)
  exact ⟨fun y hy => Option.isSome_iff_exists.2 (cbrtRemU64_total_of_norm h64' hy),
         fun y hy => Option.isSome_iff_exists.2 (cbrtRemU128_total_of_u64 h64' hy)⟩

/-- the hypothesis is met on concrete normalised operands, and the descent is really taken (kernel evaluation) -/
example : (normCbrtU64 (2 ^ 61)).isSome ∧ (normCbrtU64 (2 ^ 64 - 1)).isSome ∧ (normCbrtU64 (2 ^ 63 + 12345)).isSome ∧
    (cbrtRemPrimBits 128 (2 ^ 128 - 1)).isSome ∧ (cbrtRemPrimBits 128 (2 ^ 125)).isSome := by decide +kernel

/-- the arithmetic core of the `u128` cube-root step, for any base `B`: with `A = c1³ + r1`, `r1·B + b2 = 3c1²·q + u`,
    `u < 3c1²`, the candidate `c = c1·B + q` has the exact signed remainder `u·B² + low − (3·c1·B + q)·q²` and is never
    below the root (`n < (c + 1)³`) — so the descent loop only ever has to go down -/
theorem cbrt_karatsuba_step {A b2 low c1 r1 q u B n : Nat} (hn : n = A * B ^ 3 + b2 * B ^ 2 + low) (hA : c1 ^ 3 + r1 = A)
    (hlow : low < B ^ 2) (hdiv : r1 * B + b2 = 3 * c1 ^ 2 * q + u) (hu : u < 3 * c1 ^ 2) :
    ((n : Int) - ((c1 * B + q : Nat) : Int) ^ 3 = ((u * B ^ 2 + low : Nat) : Int) - (((3 * c1 * B + q) * q ^ 2 : Nat) : Int)) ∧
    n < (c1 * B + q + 1) ^ 3 :=
  cbrt_step hn hA hlow hdiv hu

/-- the hypotheses of `cbrt_karatsuba_step` are satisfiable (B = 10: 11456 = 11·10³ + 4·10² + 56, 11 = 2³ + 3, 34 = 12·2 + 10):
    candidate 22 with remainder 11456 − 22³ = 808, and 11456 < 23³ -/
example : ((11456 : Int) - ((2 * 10 + 2 : Nat) : Int) ^ 3 = ((10 * 10 ^ 2 + 56 : Nat) : Int) - (((3 * 2 * 10 + 2) * 2 ^ 2 : Nat) : Int)) ∧
    11456 < (2 * 10 + 2 + 1) ^ 3 :=
  cbrt_karatsuba_step (n := 11456) (A := 11) (b2 := 4) (low := 56) (c1 := 2) (r1 := 3) (q := 2) (u := 10) (B := 10)
    (by norm_num) (by norm_num) (by norm_num) (by norm_num) (by norm_num)

/-- non-vacuity: the `u128` routine answers through both branches (127-bit and 128-bit operands, with descent steps)
    and the hypotheses of the step are met by the values it computes -/
example : cbrtRemPrimBits 128 (2 ^ 127 + 12345) = some (5541191377756, 58550521324026917344820857) ∧
    cbrtRemPrimBits 128 (2 ^ 126 - 1) = some (4398046511103, 58028439341489006246363136) ∧
    cbrtRemPrimBits 128 (10 ^ 30 + 7) = some (10 ^ 10, 7) := by decide +kernel

/-- non-vacuity: the routines do answer (kernel evaluation of the mirrored `u32` / `u64` Newton code) -/
example : sqrtRemPrimBits 64 (2 ^ 63 + 12345) = some (3037000499, 5928539152) ∧
    cbrtRemPrimBits 32 4000000000 = some (1587, 3030997) ∧ sqrtRemPrimBits 32 65533 = some (255, 508) := by
  decide +kernel

/-- a primitive pair that answers returns the floor roots and their remainders (soundness of both routines) -/
theorem prim_root_of_total {bits x : Nat} (hb : bits = 8 ∨ bits = 16 ∨ bits = 32 ∨ bits = 64 ∨ bits = 128) (hx : x < 2 ^ bits)
    (hs : ∃ r, sqrtRemPrimBits bits x = some r) (hc : ∃ r, cbrtRemPrimBits bits x = some r) :
    (∃ s r, sqrtRemPrimBits bits x = some (s, r) ∧ IsRoot x 2 s ∧ s ^ 2 + r = x) ∧
    (∃ c r, cbrtRemPrimBits bits x = some (c, r) ∧ IsRoot x 3 c ∧ c ^ 3 + r = x) := by
  obtain ⟨⟨s, r⟩, h1⟩ := hs
  obtain ⟨⟨c, r'⟩, h2⟩ := hc
  have s1 := prim_sqrt_rem_sound hb hx h1
  have s2 := prim_cbrt_rem_sound hb hx h2
  exact ⟨⟨s, r, h1, s1.1, s1.2⟩, ⟨c, r', h2, s2.1, s2.2⟩⟩

/-- `u8`: total and exact on all 256 values (`fix_*_error!` from 0 accepts every operand of the type) -/
theorem prim_root_u8_total (x : Nat) (hx : x < 256) :
    (∃ s r, sqrtRemPrimBits 8 x = some (s, r) ∧ IsRoot x 2 s ∧ s * s + r = x) ∧
    (∃ c r, cbrtRemPrimBits 8 x = some (c, r) ∧ IsRoot x 3 c ∧ c * c * c + r = x) := by
  obtain ⟨⟨s, r, h1, hr1, e1⟩, ⟨c, r', h2, hr2, e2⟩⟩ := prim_root_of_total (bits := 8) (by decide) hx
    (fixSqrtError_total (s := 0) (by omega) hx (by decide)) (fixCbrtError_total (c := 0) (by omega) hx (by decide))
  exact ⟨⟨s, r, h1, hr1, by rw [← Nat.pow_two]; exact e1⟩, ⟨c, r', h2, hr2, by rw [← e2]; ring⟩⟩

/-- `u16`: `sqrt_rem` and `cbrt_rem` (RSQRT_TAB / RCBRT_TAB estimate, `fix_*_error!`, normalising wrapper) are
    total and exact on all 65 536 values: on each table block the estimate `R·n / D − 1` is an under-estimate
    (`linEstOk`, evaluated by the kernel for the 96 + 56 blocks), no overflow anywhere -/
theorem prim_root_u16_total (x : Nat) (hx : x < 65536) :
    (∃ s r, sqrtRemPrimBits 16 x = some (s, r) ∧ IsRoot x 2 s ∧ s * s + r = x) ∧
    (∃ c r, cbrtRemPrimBits 16 x = some (c, r) ∧ IsRoot x 3 c ∧ c * c * c + r = x) := by
  obtain ⟨⟨s, r, h1, hr1, e1⟩, ⟨c, r', h2, hr2, e2⟩⟩ := prim_root_of_total (bits := 16) (by decide) hx
    (sqrtRemU16_total hx) (cbrtRemU16_total hx)
  exact ⟨⟨s, r, h1, hr1, by rw [← Nat.pow_two]; exact e1⟩, ⟨c, r', h2, hr2, by rw [← e2]; ring⟩⟩

/-- **Tie A: the tables, index offsets and under-estimate margins are the source's.**  `Gen.RSQRT_TAB`,
    `Gen.RCBRT_TAB`, `Gen.LOG2_TAB`, the offsets `− 32` / `− 8`, the margins `(s − 1)`, `s −= 4`, `r − 10`, `s −= 10`, `r − 1` and
    `KBITS` are regenerated from base/src/ring/root.rs / base/src/math/log.rs on every run (vlib/extract_roottabs.py);
    the model's tables equal them, and every estimate stage of the model equals the same stage with the regenerated
    table / offset / margin in place of its literal (`est…G`).  The totality theorems (`prim_root_u16_total` above,
    `prim_root_u32_total` in `Props/C12U32`) are therefore statements about the source's tables and margins: changing one of them in
    the source breaks this theorem (and the build of this module), not only the sampled correspondence. -/
theorem root_tables_regenerated :
    RSQRT_TAB = Gen.RSQRT_TAB ∧ RCBRT_TAB = Gen.RCBRT_TAB ∧ packBytes Gen.LOG2_TAB = LOG2_TAB_PACKED ∧
    estSqrtU16 = estSqrtU16G ∧ estCbrtU16 = estCbrtU16G ∧ estSqrtU32 = estSqrtU32G ∧ estCbrtU32 = estCbrtU32G ∧
    estSqrtU64 = estSqrtU64G ∧ estCbrtU64 = estCbrtU64G ∧ Gen.sqrt_u128_KBITS = 32 ∧ Gen.cbrt_u128_KBITS = 22 :=
  ⟨rsqrt_tab_regenerated, rcbrt_tab_regenerated, log2_tab_regenerated.1, estSqrtU16_regenerated, estCbrtU16_regenerated,
   estSqrtU32_regenerated, estCbrtU32_regenerated, estSqrtU64_regenerated, estCbrtU64_regenerated,
   u128_kbits_regenerated.1, u128_kbits_regenerated.2⟩

/-- **Tie A: the two `u128` steps run with the source's shift amounts.**  Every shift amount, mask width
    and small multiplier of `u128::normalized_sqrt_rem` / `u128::normalized_cbrt_rem` (written in the source as expressions
    in `KBITS` / `u64::BITS` or as literals: `r1 << (KBITS − 1) | b >> (KBITS + 1)`, `q >> KBITS`, `(s1 as u64) << KBITS`,
    `u << (KBITS + 1)`, `(1 << (KBITS + 1)) − 1`, `u >> (KBITS − 1)`, `<< u64::BITS`; `self >> 63`, `c >>= 1`, `a >> 3`,
    `self >> 66`, `<< KBITS`, `>> (2 * KBITS)`, `(1 << KBITS) − 1`, `3 * c1²`, `u << (2 * KBITS)`, `(3 * c1) << KBITS`, and
    the `r += 3 * (c − 1) * c + 1; c −= 1` descent) is regenerated from its own statement on every run
    (vlib/extract_roottabs.py: one statement shape per definition, evaluated with that function's `KBITS`; fails
    closed).  The model's routines — the ones `prim_sqrt_rem_sound`, `prim_cbrt_rem_sound`,
    `prim_sqrt_u128_total_of_u64`, `prim_cbrt_u128_total_of_u64` are about and the driver executes — equal the same
    routines over the regenerated amounts, so an edit of one of these amounts in the source breaks this theorem (and
    the build of this module), not only the sampled correspondence. -/
theorem root_u128_steps_regenerated :
    normSqrtU128 = normSqrtU128G ∧ normCbrtU128 = normCbrtU128G ∧ (∀ fuel c r, cbrtDownLoop fuel c r = cbrtDownLoopG fuel c r) ∧
    Gen.sqrt_u128_r0_shl = Gen.sqrt_u128_KBITS - 1 ∧ Gen.sqrt_u128_r0_shr = Gen.sqrt_u128_KBITS + 1 ∧
    Gen.cbrt_u128_r0_shr = 2 * Gen.cbrt_u128_KBITS ∧ Gen.cbrt_u128_t1_shl = 2 * Gen.cbrt_u128_KBITS ∧
    Gen.cbrt_u128_c1_pow = 3 ∧ Gen.cbrt_u128_d_pow = 2 ∧ Gen.cbrt_u128_t2_pow = 2 :=
  ⟨normSqrtU128_regenerated, normCbrtU128_regenerated, cbrtDownLoop_regenerated,
   u128_step_amounts_regenerated.2.2.2.1, u128_step_amounts_regenerated.2.2.2.2.1, u128_step_amounts_regenerated.2.2.2.2.2.1,
   u128_step_amounts_regenerated.2.2.2.2.2.2, u128_step_amounts_regenerated.1, u128_step_amounts_regenerated.2.1,
   u128_step_amounts_regenerated.2.2.1⟩

/-- the regenerated routines are the executed ones: a normalised `u128` through the regenerated steps -/
example : normSqrtU128G (2 ^ 127 + 12345) = normSqrtU128 (2 ^ 127 + 12345) ∧ (normSqrtU128G (2 ^ 127 + 12345)).isSome = true ∧
    (normCbrtU128G (2 ^ 126 + 999)).isSome = true ∧ (normCbrtU128G (2 ^ 127 + 999)).isSome = true := by decide +kernel

-- ==================================================================== gcd_ext_in_place: coefficient sizes

/-- **buffer-length claim of `lehmer::gcd_ext_in_place`, coefficients `t0`, `t1`** (the final
    `|b| = |cx|·t0 + |cy|·t1 ≤ lhs/g` after the single-word `gcd_ext` is `gcd_ext_b_fits` below, through the
    cofactor bounds of the primitive Euclid loop).
    At the exit of the main loop `t1·x + t0·y = lhs` — for WHATEVER quotients the leading-word guess
    committed (only the determinant 1 of the cofactor matrix is used) — so `t1` and, while a last word
    `y > 0` is left, `t0` are at most `lhs`: they fit the `lhs_len` words of the buffers (`lhs_len + 1` are
    reserved), and the carries the code `debug_assert_zero!`s are zero. -/
theorem gcd_ext_cofactors_fit_partial (W : Nat) (hW : 0 < W) (lhs rhs : Nat) (x y t0 t1 : Nat) (sw : Bool)
    (h : lehmerExtLoop W (lhs + rhs + 1) lhs rhs 0 1 false = .ok (x, y, t0, t1, sw)) :
    t1 * x + t0 * y = lhs ∧ (0 < x → t1 < 2 ^ (W * wordLen W lhs)) ∧ (0 < y → t0 < 2 ^ (W * wordLen W lhs)) := by
  obtain ⟨k, _, hk, _⟩ := lehmerExtLoop_iter W _ (lhs, rhs, 0, 1, false) _ h
  have hinv : t1 * x + t0 * y = lhs :=
    lehmerExtIter_induct (P := fun r => r.2.2.2.1 * r.1 + r.2.2.1 * r.2.1 = lhs)
      (fun _ _ _ hst hP => (lehmerExtStep_keeps hst).2.trans hP) k _ _ hk (by simp)
  have hl := lt_two_pow_wordLen hW lhs
  have := coeff_le_of_comb hinv
  exact ⟨hinv, fun hx => by have := this.1 hx; omega, fun hy => by have := this.2 hy; omega⟩

/-- the hypothesis is satisfiable: the loop does return on multi-word operands (`lehmer_gcd_ext_correct`);
    a concrete run, with the invariant evaluated -/
example : (match lehmerExtLoop 64 ((2 ^ 200 + 12345) + (3 ^ 120 + 7) + 1) (2 ^ 200 + 12345) (3 ^ 120 + 7) 0 1 false with
    | .ok (x, y, t0, t1, _) => decide (t1 * x + t0 * y = 2 ^ 200 + 12345 ∧ 0 < y ∧ 1 < t0)
    | .error _ => false) = true := by
  decide +kernel

/-- cofactor bounds of the primitive `gcd_ext` of dashu-base (`unchecked_gcd_ext` through the common power of
    two and the `== 1` shortcuts) on non-zero operands: `|s|·g ≤ b`, `|t|·g ≤ a` -/
theorem gcd_ext_prim_cofactor_bounds {a b : Nat} (ha : 0 < a) (hb : 0 < b) {g : Nat} {s t : Int}
    (h : xgcdPrim a b = .ok (g, s, t)) :
    (-(b : Int) ≤ s * g ∧ s * g ≤ b) ∧ (-(a : Int) ≤ t * g ∧ t * g ≤ a) := by
  obtain ⟨res, hres, _, h1, h2⟩ := xgcdPrim_bounded (k := 1) (by decide) ha hb (by omega)
  rw [h] at hres
  cases hres
  simp only [Nat.cast_one, one_mul] at h1 h2
  have key : ∀ {c : Int} {B : Nat}, |c| * g ≤ B → -(B : Int) ≤ c * g ∧ c * g ≤ B := fun {c B} h => by
    have hg : (0 : Int) ≤ g := Int.natCast_nonneg g
    have := mul_le_mul_of_nonneg_right (le_abs_self c) hg
    have := mul_le_mul_of_nonneg_right (neg_abs_le c) hg
    constructor <;> linarith
  exact ⟨key h1, key h2⟩

/-- **buffer-length claim of `lehmer::gcd_ext_in_place`, the returned coefficient `|b|`** (the exit
    of the main loop with a last word `y > 0`; the exit with `y = 0` is covered by `gcd_ext_b_fits` below).
    `|b| = |cx|·(t0 + q·t1) + |cy|·t1` with `(g, cx, cy)` the single-word `gcd_ext` of `(x mod y, y)` satisfies
    `|b|·g ≤ lhs`: it fits `lhs_len` words and the final `debug_assert_zero!`s hold. -/
theorem gcd_ext_b_fits_partial (W : Nat) (hW : 0 < W) (lhs rhs : Nat) (hle : rhs ≤ lhs)
    {x y t0 t1 : Nat} {sw : Bool}
    (hloop : lehmerExtLoop W (lhs + rhs + 1) lhs rhs 0 1 false = .ok (x, y, t0, t1, sw)) (hy : 0 < y)
    {g bb : Nat} {neg : Bool} (h : lehmerExt W lhs rhs = .ok (g, bb, neg)) :
    bb * g ≤ lhs ∧ bb ≤ lhs ∧ bb < 2 ^ (W * wordLen W lhs) := by
  obtain ⟨h1, h2, _⟩ := lehmerExt_coeff_bound W hW lhs rhs hle h
  have hl := lt_two_pow_wordLen hW lhs
  exact ⟨h1, h2, by omega⟩

/-- **buffer-length claim of `lehmer::gcd_ext_in_place`, the returned coefficient `|b|`, every exit**: a committed
    Lehmer step leaves both combined values strictly positive (`b ≠ 0` ⇒ `a·x − b·y > 0`, `d·y − c·x > 0`), so the
    main loop can end with `y = 0` only after a Euclidean step, where `t0` is the previous `t1 ≤ lhs/x`; with
    `gcd_ext_b_fits_partial` for the exit with a last word: `|b| ≤ lhs`, it fits the `lhs_len` words of `lhs`. -/
theorem gcd_ext_b_fits (W : Nat) (hW : 0 < W) (lhs rhs : Nat) (hle : rhs ≤ lhs)
    {g bb : Nat} {neg : Bool} (h : lehmerExt W lhs rhs = .ok (g, bb, neg)) :
    bb ≤ lhs ∧ bb < 2 ^ (W * wordLen W lhs) := by
  have h2 := (lehmerExt_coeff_bound W hW lhs rhs hle h).2.1
  have hl := lt_two_pow_wordLen hW lhs
  exact ⟨h2, by omega⟩

/-- the hypotheses are satisfiable: the kernel returns on multi-word operands (`lehmer_gcd_ext_correct`) -/
example : ∃ g bb neg, lehmerExt 64 (2 ^ 200 + 12345) (3 ^ 120 + 7) = .ok (g, bb, neg) ∧ bb ≤ 2 ^ 200 + 12345 := by
  obtain ⟨⟨g, bb, neg⟩, h, _⟩ := lehmer_gcd_ext_correct 64 (by decide) (2 ^ 200 + 12345) (3 ^ 120 + 7) (by decide +kernel) (by decide +kernel)
  exact ⟨g, bb, neg, h, (gcd_ext_b_fits 64 (by decide) _ _ (by decide +kernel) h).1⟩

-- ==================================================================== gcd_ext_in_place: every iteration

/-- **the main loop of `lehmer::gcd_ext_in_place` is the iteration of its body**: `lehmerExtStep` is one pass through
    the `while` body (Euclidean fallback, or `lehmer_step` + `lehmer_ext_step`, then the swap); what the executed
    loop `lehmerExtLoop` returns is the state at the head of some iteration `k` — the first at which `y` has at most
    one word. -/
theorem gcd_ext_loop_is_iteration (W fuel : Nat) (s res : ExtState)
    (h : lehmerExtLoop W fuel s.1 s.2.1 s.2.2.1 s.2.2.2.1 s.2.2.2.2 = .ok res) :
    ∃ k, k < fuel ∧ lehmerExtIter W k s = some res ∧ wordLen W res.2.1 ≤ 1 :=
  lehmerExtLoop_iter W fuel s res h

/-- **buffer-length claim of `lehmer::gcd_ext_in_place` at EVERY iteration** (`gcd_ext_cofactors_fit_partial` / `gcd_ext_b_fits` have it at the exit of the
    loop and for the returned `|b|`).  At the head of the `k`-th iteration reached from `(lhs, rhs, t0 = 0, t1 = 1)`,
    `rhs ≤ lhs`, for every `k`: `t1·x + t0·y = lhs` and `y ≤ x`; as long as `y > 0` (in particular whenever the loop
    goes on: `y` has more than one word) both coefficients are below `2^(W·lhs_len)`.  So the operands of every
    `lehmer_ext_step` / `add_signed_mul(t0, +, q, t1)` call, and their results (the coefficients at the head of the
    next iteration), fit the `lhs_len` words of `t0`, `t1` (`lhs_len + 1` are reserved) and every carry the code
    `debug_assert_zero!`s inside the loop is zero.  This is at value level; the double-word accumulations
    inside the word loop of `lehmer_ext_step` are bounded in `lehmer_ext_step_words_spec` / `gcd_ext_lehmer_ext_step_words_fit` below. -/
theorem gcd_ext_every_iteration_fits (W : Nat) (hW : 0 < W) (lhs rhs : Nat) (hlr : rhs ≤ lhs) (k : Nat)
    (x y t0 t1 : Nat) (sw : Bool) (h : lehmerExtIter W k (lhs, rhs, 0, 1, false) = some (x, y, t0, t1, sw)) :
    t1 * x + t0 * y = lhs ∧ y ≤ x ∧
    (0 < y → t0 < 2 ^ (W * wordLen W lhs) ∧ t1 < 2 ^ (W * wordLen W lhs)) :=
  lehmerExt_every_iteration_fits W hW lhs rhs hlr k x y t0 t1 sw h

/-- the hypothesis is satisfiable: the third iteration of a concrete multi-word run exists, with non-trivial
    coefficients and the invariant evaluated -/
example : (match lehmerExtIter 64 3 (2 ^ 200 + 12345, 3 ^ 120 + 7, 0, 1, false) with
    | some (x, y, t0, t1, _) => decide (t1 * x + t0 * y = 2 ^ 200 + 12345 ∧ 0 < y ∧ 1 < t0 ∧ 1 < t1)
    | none => false) = true := by decide +kernel

-- ==================================================================== lehmer_ext_step: the word loop

/-- **`lehmer::lehmer_ext_step` mirrored at the word level** (`lehmerExtStepWords`, Model/NT/LehmerWords.lean: the
    `for (x_i, y_i) in x.iter_mut().zip(y.iter_mut()).take(len)` loop with its two double-word accumulations and
    running carry words).  On word operands, with `a + b < 2^W`, `c + d < 2^W` (the code asserts every cofactor
    `≤ SignedWord::MAX`) and incoming carries that are words: NO double-word accumulation `a·x_i + b·y_i + carry`
    overflows (the loop returns — every partial sum of the in-place loop is bounded), the buffers keep their lengths
    and stay words, words beyond `len` are untouched, both carries are words, and
    `x'[..len] + 2^(W·len)·x_carry = a·x[..len] + b·y[..len] + cx`, `y'[..len] + 2^(W·len)·y_carry = c·x[..len] + d·y[..len] + cy`. -/
theorem lehmer_ext_step_words_spec (W a b c d : Nat) (hab : a + b < 2 ^ W) (hcd : c + d < 2 ^ W)
    (len : Nat) (x y : List Nat) (cx cy : Nat) (hx : IsWords W x) (hy : IsWords W y) (hcx : cx < 2 ^ W) (hcy : cy < 2 ^ W)
    (hlx : len ≤ x.length) (hly : len ≤ y.length) :
    ∃ x' y' cx' cy', lehmerExtStepWords W a b c d len x y cx cy = some (x', y', cx', cy') ∧
      x'.length = x.length ∧ y'.length = y.length ∧ IsWords W x' ∧ IsWords W y' ∧ cx' < 2 ^ W ∧ cy' < 2 ^ W ∧
      x'.drop len = x.drop len ∧ y'.drop len = y.drop len ∧
      val W (x'.take len) + 2 ^ (W * len) * cx' = a * val W (x.take len) + b * val W (y.take len) + cx ∧
      val W (y'.take len) + 2 ^ (W * len) * cy' = c * val W (x.take len) + d * val W (y.take len) + cy :=
  lehmerExtStepWords_spec W a b c d hab hcd len x y cx cy hx hy hcx hcy hlx hly

/-- a concrete run, with a carry out of both accumulations; and an overflow is reported, not wrapped, when the
    cofactors violate the assertion -/
example : lehmerExtStepWords 64 5 3 2 7 2 [2 ^ 64 - 1, 2 ^ 64 - 1, 9] [2 ^ 64 - 1, 1, 9] 0 0
      = some ([18446744073709551608, 5, 9], [18446744073709551607, 13, 9], 5, 2) ∧
    lehmerExtStepWords 64 (2 ^ 64 - 1) (2 ^ 64 - 1) 0 1 1 [2 ^ 64 - 1] [2 ^ 64 - 1] 0 0 = none := by decide +kernel

/-- **Tie A: the accumulations of the mirrored word loop are the source's.**  `Gen.lehmer_ext_step_acc_x / _acc_y` are
    regenerated on every run from the two `split_dword(…)` arguments of `lehmer_ext_step` (integer/src/gcd/lehmer.rs;
    vlib/extract_roottabs.py pins every other token of the function — asserts, `extend_word`s, the zip/take(len)
    loop, carry hand-over, stores, returned pair — and fails closed); the mirror equals the same loop over the
    regenerated expressions, so an edit of an accumulation breaks this theorem, any other edit the extraction. -/
theorem lehmer_ext_step_words_regenerated (W a b c d len : Nat) (x y : List Nat) (cx cy : Nat) :
    lehmerExtStepWords W a b c d len x y cx cy = lehmerExtStepWordsG W a b c d len x y cx cy :=
  lehmerExtStepWords_regenerated W a b c d len x y cx cy

/-- **the committed cofactors meet the assertion of `lehmer_ext_step`**: every entry of the matrix that
    `lehmer_guess` / `lehmer_guess_dword` commits is at most `SignedWord::MAX = 2^(W−1) − 1`. -/
theorem lehmer_cofactors_le_signed_max (W x y : Nat) (hW : 2 ≤ W) :
    (lehmerCofactors W x y).1 < 2 ^ (W - 1) ∧ (lehmerCofactors W x y).2.1 < 2 ^ (W - 1) ∧
    (lehmerCofactors W x y).2.2.1 < 2 ^ (W - 1) ∧ (lehmerCofactors W x y).2.2.2 < 2 ^ (W - 1) :=
  lehmerCofactors_le_signed_max W x y hW

/-- **`lehmer_ext_step` inside `gcd_ext_in_place`, every iteration, word level.**  At the head of any iteration
    reached from `(lhs, rhs, 0, 1)`, `rhs ≤ lhs`, at which the Lehmer guess commits (`b ≠ 0`): for ANY word buffers
    `t0w`, `t1w` whose first `len` words hold `t0`, `t1` (the code passes `len = max(t0_len, t1_len)`), the word loop
    returns (no double-word overflow), keeps the buffer lengths, leaves `a·t0 + b·t1` and `c·t0 + d·t1` in `len` words
    plus one carry word each, and a NON-ZERO carry word implies `len < lhs_len` — the stores `t0[tmax_len] = t0_carry`,
    `t1[tmax_len] = t1_carry` and the new lengths `tmax_len + 1` stay within `lhs_len` words (the buffers have
    `lhs_len + 1`).  No hypothesis on the quotients the guess commits, none on the run other than that this
    iteration is reached. -/
theorem gcd_ext_lehmer_ext_step_words_fit (W : Nat) (hW : 2 ≤ W) (lhs rhs : Nat) (hlr : rhs ≤ lhs) (k : Nat)
    (x y t0 t1 : Nat) (sw : Bool) (h : lehmerExtIter W k (lhs, rhs, 0, 1, false) = some (x, y, t0, t1, sw))
    (hlen : 1 < wordLen W y) (hb : (lehmerCofactors W x y).2.1 ≠ 0)
    (t0w t1w : List Nat) (len : Nat) (hw0 : IsWords W t0w) (hw1 : IsWords W t1w)
    (hl0 : len ≤ t0w.length) (hl1 : len ≤ t1w.length)
    (hv0 : val W (t0w.take len) = t0) (hv1 : val W (t1w.take len) = t1) :
    ∃ x' y' cx cy,
      lehmerExtStepWords W (lehmerCofactors W x y).1 (lehmerCofactors W x y).2.1 (lehmerCofactors W x y).2.2.1
        (lehmerCofactors W x y).2.2.2 len t0w t1w 0 0 = some (x', y', cx, cy) ∧
      x'.length = t0w.length ∧ y'.length = t1w.length ∧ IsWords W x' ∧ IsWords W y' ∧
      x'.drop len = t0w.drop len ∧ y'.drop len = t1w.drop len ∧
      val W (x'.take len) + 2 ^ (W * len) * cx = (lehmerCofactors W x y).1 * t0 + (lehmerCofactors W x y).2.1 * t1 ∧
      val W (y'.take len) + 2 ^ (W * len) * cy = (lehmerCofactors W x y).2.2.1 * t0 + (lehmerCofactors W x y).2.2.2 * t1 ∧
      (0 < cx → len < wordLen W lhs) ∧ (0 < cy → len < wordLen W lhs) := by
  have hW0 : 0 < W := by omega
  obtain ⟨hinv, hord, _⟩ := lehmerExt_every_iteration_fits W hW0 lhs rhs hlr k x y t0 t1 sw h
  -- a committed step leaves both combined values positive, so both new coefficients are at most `lhs`
  obtain ⟨hxpos, hypos, _, _⟩ := lehmer_committed_values W hW0 x y hord hlen hb
  have hco := coeff_le_of_comb ((lehmerExt_comb (lehmerCofactors_det W x y) (Int.toNat_of_nonneg (le_of_lt hxpos))
    (Int.toNat_of_nonneg (le_of_lt hypos)) t0 t1).trans hinv)
  have hA := hco.2 (by omega)
  have hC := hco.1 (by omega)
  obtain ⟨ha, hb', hc, hd⟩ := lehmerCofactors_le_signed_max W x y hW
  have hdbl : 2 ^ (W - 1) + 2 ^ (W - 1) = 2 ^ W := by
    rw [← Nat.two_mul, ← Nat.pow_succ']; congr 1; omega
  have hp : 0 < 2 ^ W := Nat.two_pow_pos W
  obtain ⟨x', y', cx, cy, hrun, hlx, hly, hwx, hwy, _, _, hdx, hdy, hvx, hvy⟩ :=
    lehmerExtStepWords_spec W (lehmerCofactors W x y).1 (lehmerCofactors W x y).2.1 (lehmerCofactors W x y).2.2.1
      (lehmerCofactors W x y).2.2.2 (by omega) (by omega) len t0w t1w 0 0 hw0 hw1 hp hp hl0 hl1
  rw [hv0, hv1, Nat.add_zero] at hvx hvy
  have hl := lt_two_pow_wordLen hW0 lhs
  have fit : ∀ (v c : Nat), v + 2 ^ (W * len) * c ≤ lhs → 0 < c → len < wordLen W lhs := by
    intro v c hle hc0
    by_contra hn
    have hge : 2 ^ (W * wordLen W lhs) ≤ 2 ^ (W * len) := Nat.pow_le_pow_right (by decide) (Nat.mul_le_mul_left _ (by omega))
    have : 2 ^ (W * len) * 1 ≤ 2 ^ (W * len) * c := Nat.mul_le_mul_left _ hc0
    omega
  exact ⟨x', y', cx, cy, hrun, hlx, hly, hwx, hwy, hdx, hdy, hvx, hvy,
    fit _ _ (by rw [hvx]; exact hA), fit _ _ (by rw [hvy]; exact hC)⟩

/-- the hypotheses are satisfiable: the iteration with `k = 3` of a concrete 200-bit run is reached with a
    two-word `y`, a committed guess and multi-word coefficients -/
example : (match lehmerExtIter 64 3 (2 ^ 200 + 12345, 3 ^ 120 + 7, 0, 1, false) with
    | some (x, y, t0, _, _) => decide (1 < wordLen 64 y ∧ (lehmerCofactors 64 x y).2.1 ≠ 0 ∧ 2 ^ 64 < t0)
    | none => false) = true := by decide +kernel

-- ==================================================================== gcd_ext_in_place: Euclidean fallback

/-- **Euclidean fallback of `gcd_ext_in_place`, every iteration: the slice handed to `add_signed_mul` is inside the
    buffer.**  The code updates `t0 += q·t1` through `mul::add_signed_mul(&mut t0[..qt1_len], Positive, q_lo,
    &t1[..t1_len])` with `qt1_len = q_lo.len() + t1_len`, then stores a carry at `t0[qt1_len]`.  At the head of any
    iteration reached from `(lhs, rhs, 0, 1)`, `rhs ≤ lhs`, at which the loop goes on, with `q = x / y`: `q ≥ 1`,
    `t1 ≥ 1` (the coefficient never vanishes), `t0 + q·t1 ≤ lhs < 2^(W·lhs_len)` and
    `q.len() + t1_len ≤ lhs_len + 1` — the slice `t0[..qt1_len]` lies inside the `lhs_len + 1` words reserved, and a
    non-zero carry word out of `qt1_len` words would need `qt1_len < lhs_len`, so `t0[qt1_len]` is in range too.
    (The word loops of `add_signed_mul` themselves are C01's kernels and stay at value level.) -/
theorem gcd_ext_euclid_slice_fits (W : Nat) (hW : 0 < W) (lhs rhs : Nat) (hlr : rhs ≤ lhs) (k : Nat)
    (x y t0 t1 : Nat) (sw : Bool) (h : lehmerExtIter W k (lhs, rhs, 0, 1, false) = some (x, y, t0, t1, sw))
    (hlen : 1 < wordLen W y) :
    0 < x / y ∧ 0 < t1 ∧ t0 + x / y * t1 ≤ lhs ∧ t0 + x / y * t1 < 2 ^ (W * wordLen W lhs) ∧
    wordLen W (x / y) + wordLen W t1 ≤ wordLen W lhs + 1 := by
  obtain ⟨_, hinv, hord, ht1, _⟩ := lehmerExtIter_inv hW h (headInv_init hlr)
  have hy0 : 0 < y := pos_of_lt_wordLen hW hlen
  have hq : 0 < x / y := Nat.div_pos hord hy0
  have hl := lt_two_pow_wordLen hW lhs
  have hle : t0 + x / y * t1 ≤ lhs := (coeff_le_of_comb ((euclid_comb x y t0 t1).trans hinv)).1 hy0
  exact ⟨hq, ht1, hle, by omega, wordLen_add_le_of_mul_lt hW hq ht1 (by omega)⟩

/-- the hypotheses are satisfiable, on a run whose first guess fails (a first quotient above `2^63`: `b = 0`, the
    Euclidean fallback is taken at `k = 0` with a two-word quotient) -/
example : (match lehmerExtIter 64 0 (2 ^ 200 + 12345, 2 ^ 130 + 7, 0, 1, false) with
    | some (x, y, _, t1, _) => decide (1 < wordLen 64 y ∧ (lehmerCofactors 64 x y).2.1 = 0 ∧
        wordLen 64 (x / y) = 2 ∧ wordLen 64 t1 = 1 ∧ wordLen 64 (2 ^ 200 + 12345) = 4)
    | none => false) = true := by decide +kernel

/-- the `q_top > 0` arm of the same update: the quotient then has `q_lo.len() + 1` words (`q_lo` is not trimmed), and
    `add_mul_word_in_place(&mut t0[q_lo.len()..qt1_len.min(lhs_len)], q_top, &t1[..t1_len])` gets a destination of
    `min(q_lo.len() + t1_len, lhs_len) − q_lo.len() = t1_len` words: `q_lo.len() + t1_len ≤ lhs_len`, the `min` never cuts -/
theorem gcd_ext_euclid_qtop_slice_fits (W : Nat) (hW : 0 < W) (lhs rhs : Nat) (hlr : rhs ≤ lhs) (k : Nat)
    (x y t0 t1 : Nat) (sw : Bool) (h : lehmerExtIter W k (lhs, rhs, 0, 1, false) = some (x, y, t0, t1, sw))
    (hlen : 1 < wordLen W y) (qlo_len : Nat) (hq : wordLen W (x / y) = qlo_len + 1) :
    qlo_len + wordLen W t1 ≤ wordLen W lhs ∧
    min (qlo_len + wordLen W t1) (wordLen W lhs) - qlo_len = wordLen W t1 := by
  have := (gcd_ext_euclid_slice_fits W hW lhs rhs hlr k x y t0 t1 sw h hlen).2.2.2.2
  omega

-- ==================================================================== lehmer_step: the signed word loop

/-- **the `zip` loop of `lehmer::lehmer_step` mirrored at the word level** (`lehmerStepWords`,
    Model/NT/LehmerStepWords.lean: two SIGNED double-word accumulations `a·x_i − b·y_i + x_carry`,
    `d·y_i − c·x_i + y_carry`, `split_signed_dword`, signed carry words), for the cofactors `lehmer_guess` commits
    (`lehmer_cofactors_le_signed_max`: every entry `≤ SignedWord::MAX`, the function's `debug_assert!`s), any word
    operands with `y` not longer than `x`, and incoming carries that are signed words (`0, 0` in the code): NO signed
    double-word accumulation overflows (the loop returns), lengths are kept, results are words, the word of `x` beyond
    `y.len()` is untouched (it is left to the fix-up after the loop), outgoing carries are signed words, and with
    `n = y.len()`: `x'[..n] + 2^(W·n)·x_carry = a·x[..n] − b·y`, `y' + 2^(W·n)·y_carry = d·y − c·x[..n]` (+ incoming
    carries).  The `if x_carry != 0` fix-up on the top word of `x` is not part of this mirror; the value-level model
    (`lehmerStep`, proved non-negative and gcd-preserving) stays the executed one. -/
theorem lehmer_step_words_spec (W : Nat) (hW : 2 ≤ W) (X Y : Nat) (x y : List Nat) (cx cy : Int)
    (hx : IsWords W x) (hy : IsWords W y)
    (h1 : -(2 ^ (W - 1) : Int) ≤ cx) (h2 : cx < 2 ^ (W - 1)) (h3 : -(2 ^ (W - 1) : Int) ≤ cy) (h4 : cy < 2 ^ (W - 1))
    (hl : y.length ≤ x.length) :
    ∃ x' y' cx' cy',
      lehmerStepWords W (lehmerCofactors W X Y).1 (lehmerCofactors W X Y).2.1 (lehmerCofactors W X Y).2.2.1
        (lehmerCofactors W X Y).2.2.2 x y cx cy = some (x', y', cx', cy') ∧
      x'.length = x.length ∧ y'.length = y.length ∧ IsWords W x' ∧ IsWords W y' ∧
      -(2 ^ (W - 1) : Int) ≤ cx' ∧ cx' < 2 ^ (W - 1) ∧ -(2 ^ (W - 1) : Int) ≤ cy' ∧ cy' < 2 ^ (W - 1) ∧
      x'.drop y.length = x.drop y.length ∧
      (val W (x'.take y.length) : Int) + 2 ^ (W * y.length) * cx' =
        ((lehmerCofactors W X Y).1 : Int) * val W (x.take y.length) - ((lehmerCofactors W X Y).2.1 : Int) * val W y + cx ∧
      (val W y' : Int) + 2 ^ (W * y.length) * cy' =
        ((lehmerCofactors W X Y).2.2.2 : Int) * val W y - ((lehmerCofactors W X Y).2.2.1 : Int) * val W (x.take y.length) + cy := by
  obtain ⟨ha, hb, hc, hd⟩ := lehmerCofactors_le_signed_max W X Y hW
  exact lehmerStepWords_spec W _ _ _ _ (by omega) ha hb hc hd y x cx cy hx hy h1 h2 h3 h4 hl

/-- a concrete run with a negative carry on the way and a top word of `x` left to the fix-up; an out-of-range
    accumulation is reported, not wrapped -/
example : lehmerStepWords 64 3 5 2 7 [10, 2 ^ 64 - 1, 4] [2 ^ 64 - 1, 1] 0 0
      = some ([35, 18446744073709551603, 4], [18446744073709551589, 15], 2, -2) ∧
    lehmerStepWords 64 (2 ^ 64 - 1) 0 0 1 [2 ^ 64 - 1] [0] 0 0 = none := by decide +kernel

/-- **Tie A: the signed accumulations of the mirrored `lehmer_step` loop are the source's.**  `Gen.lehmer_step_acc_x /
    _acc_y` are regenerated on every run from the two `split_signed_dword(…)` arguments of `lehmer_step`
    (vlib/extract_roottabs.py pins every other token of the function, incl. the `x_top` fix-up, and fails closed). -/
theorem lehmer_step_words_regenerated (W a b c d : Nat) (x y : List Nat) (cx cy : Int) :
    lehmerStepWords W a b c d x y cx cy = lehmerStepWordsG W a b c d x y cx cy :=
  lehmerStepWords_regenerated W a b c d y x cx cy

-- ==================================================================== lehmer_step in full

/-- **what a committed guess guarantees** (`b ≠ 0`, `y ≤ x`, `y` of more than one word): both combined values are
    strictly positive, `(a·x − b·y) + (d·y − c·x) ≤ x` — so the step does not increase `x` — and `a ≥ 1`: the value-level
    hypotheses of the two word-level theorems below (all but `d·y − c·x < 2^(W·y.len())`, which is the function's own
    `debug_assert_eq!(y_carry, c * x_top)`). -/
theorem lehmer_step_committed_values (W : Nat) (hW : 0 < W) (x y : Nat) (hxy : y ≤ x) (hlen : 1 < wordLen W y)
    (hb : (lehmerCofactors W x y).2.1 ≠ 0) :
    0 < ((lehmerCofactors W x y).1 : Int) * x - ((lehmerCofactors W x y).2.1 : Int) * y ∧
    0 < ((lehmerCofactors W x y).2.2.2 : Int) * y - ((lehmerCofactors W x y).2.2.1 : Int) * x ∧
    (((lehmerCofactors W x y).1 : Int) * x - ((lehmerCofactors W x y).2.1 : Int) * y) +
      (((lehmerCofactors W x y).2.2.2 : Int) * y - ((lehmerCofactors W x y).2.2.1 : Int) * x) ≤ x ∧
    1 ≤ (lehmerCofactors W x y).1 :=
  lehmer_committed_values W hW x y hxy hlen hb

/-- **`lehmer_step` in full, word level, operands of equal length** (`lehmerStepFull`, Model/NT/LehmerStepFull.lean: the
    zip loop, then the `if x_carry != 0` fix-up with both `debug_assert_eq!`s as failures): cofactors at most
    `SignedWord::MAX`; if `a·X − b·Y` and `d·Y − c·X` are non-negative and fit `y.len()` words, the function returns
    exactly them — both loop carries are zero, so the fix-up (which would touch the wrong word here) is not entered. -/
theorem lehmer_step_full_eqlen (W a b c d : Nat) (hW : 1 ≤ W) (ha : a < 2 ^ (W - 1)) (hb : b < 2 ^ (W - 1))
    (hc : c < 2 ^ (W - 1)) (hd : d < 2 ^ (W - 1)) (x y : List Nat) (hx : IsWords W x) (hy : IsWords W y)
    (hl : x.length = y.length)
    (h1 : 0 ≤ (a : Int) * val W x - (b : Int) * val W y) (h2 : (a : Int) * val W x - (b : Int) * val W y < 2 ^ (W * y.length))
    (h3 : 0 ≤ (d : Int) * val W y - (c : Int) * val W x) (h4 : (d : Int) * val W y - (c : Int) * val W x < 2 ^ (W * y.length)) :
    ∃ x' y', lehmerStepFull W a b c d x y = some (x', y') ∧ x'.length = x.length ∧ y'.length = y.length ∧
      IsWords W x' ∧ IsWords W y' ∧
      (val W x' : Int) = (a : Int) * val W x - (b : Int) * val W y ∧
      (val W y' : Int) = (d : Int) * val W y - (c : Int) * val W x :=
  lehmerStepFull_eqlen W a b c d hW ha hb hc hd x y hx hy hl h1 h2 h3 h4

/-- **`lehmer_step` in full, `x` one word longer than `y`** (`x = xl ++ [x_top]`, the other shape its first
    `debug_assert!` admits): if `0 ≤ a·X − b·Y ≤ X`, `0 ≤ d·Y − c·X < 2^(W·y.len())` and `a ≥ 1`, the function returns
    exactly the two results: `y_carry = c·x_top` (first `debug_assert_eq!`), the fix-up `a·x_top + x_carry` is one word
    with zero carry (second `debug_assert_eq!`), and when the loop leaves NO carry the top word the code does not
    touch is already right (`a·x_top = x_top`). -/
theorem lehmer_step_full_longer (W a b c d : Nat) (hW : 1 ≤ W) (ha : a < 2 ^ (W - 1)) (hb : b < 2 ^ (W - 1))
    (hc : c < 2 ^ (W - 1)) (hd : d < 2 ^ (W - 1)) (ha1 : 1 ≤ a) (xl : List Nat) (xt : Nat) (y : List Nat)
    (hx : IsWords W xl) (hxt : xt < 2 ^ W) (hy : IsWords W y) (hl : xl.length = y.length)
    (h1 : 0 ≤ (a : Int) * val W (xl ++ [xt]) - (b : Int) * val W y)
    (h2 : (a : Int) * val W (xl ++ [xt]) - (b : Int) * val W y ≤ val W (xl ++ [xt]))
    (h3 : 0 ≤ (d : Int) * val W y - (c : Int) * val W (xl ++ [xt]))
    (h4 : (d : Int) * val W y - (c : Int) * val W (xl ++ [xt]) < 2 ^ (W * y.length)) :
    ∃ x' y', lehmerStepFull W a b c d (xl ++ [xt]) y = some (x', y') ∧ x'.length = xl.length + 1 ∧ y'.length = y.length ∧
      IsWords W x' ∧ IsWords W y' ∧
      (val W x' : Int) = (a : Int) * val W (xl ++ [xt]) - (b : Int) * val W y ∧
      (val W y' : Int) = (d : Int) * val W y - (c : Int) * val W (xl ++ [xt]) :=
  lehmerStepFull_longer W a b c d hW ha hb hc hd ha1 xl xt y hx hxt hy hl h1 h2 h3 h4

/-- the hypotheses are satisfiable and the fix-up arm is exercised: `x = [5, 7, 1]`, `y = [0, 2^63]`, `(a, b, c, d) =
    (1, 2, 0, 1)` leaves `x_carry = −1`, the fix-up turns the top word into `0`; on a negative result (`2·Y > X`) the
    violated `debug_assert_eq!(cx, 0)` is reported -/
example : lehmerStepFull 64 1 2 0 1 [5, 7, 1] [0, 2 ^ 63] = some ([5, 7, 0], [0, 2 ^ 63]) ∧
    (val 64 [5, 7, 0] : Int) = 1 * val 64 [5, 7, 1] - 2 * val 64 [0, 2 ^ 63] ∧
    lehmerStepFull 64 1 2 0 1 [5, 7, 1] [0, 2 ^ 63 + 5] = none := by decide +kernel

-- ==================================================================== lehmer_step on a committed guess

/-- **the second combined value of a guess never exceeds `y`**: `d·y − c·x ≤ y` for the cofactors `gcd_in_place` /
    `gcd_ext_in_place` use (`y ≤ x`, `y` of more than one word; committed or not).  It starts at `y` and every second
    half round of `lehmer_guess` subtracts `q·(a·x − b·y) ≥ 0`.  With `y < 2^(W·y.len())` this is the hypothesis
    `d·Y − c·X < 2^(W·y.len())` of `lehmer_step_full_eqlen` / `_longer`, the function's own
    `debug_assert_eq!(y_carry, c * x_top)`. -/
theorem lehmer_step_committed_y_le (W : Nat) (hW : 0 < W) (x y : Nat) (hxy : y ≤ x) (hlen : 1 < wordLen W y) :
    ((lehmerCofactors W x y).2.2.2 : Int) * y - ((lehmerCofactors W x y).2.2.1 : Int) * x ≤ y :=
  lehmer_committed_y_le W hW x y hxy hlen

/-- **`lehmer_step` in full on a committed guess, `x` one word longer than `y` — no value hypothesis left.**  For word
    lists `x = xl ++ [x_top]`, `y` with `Y ≤ X`, `y` of more than one significant word and a committed guess (`b ≠ 0`)
    computed from the operands themselves, the mirrored function (zip loop, `x_top` fix-up, both `debug_assert_eq!`s as
    failures) returns `a·X − b·Y` and `d·Y − c·X` exactly, in place (lengths kept); both are positive, their sum is at
    most `X` and the new `y` is at most `Y`. -/
theorem lehmer_step_full_committed_longer (W : Nat) (hW : 2 ≤ W) (xl : List Nat) (xt : Nat) (y : List Nat)
    (hx : IsWords W xl) (hxt : xt < 2 ^ W) (hy : IsWords W y) (hl : xl.length = y.length)
    (hxy : val W y ≤ val W (xl ++ [xt])) (hlen : 1 < wordLen W (val W y))
    (hb : (lehmerCofactors W (val W (xl ++ [xt])) (val W y)).2.1 ≠ 0) :
    ∃ x' y', lehmerStepFull W (lehmerCofactors W (val W (xl ++ [xt])) (val W y)).1
        (lehmerCofactors W (val W (xl ++ [xt])) (val W y)).2.1 (lehmerCofactors W (val W (xl ++ [xt])) (val W y)).2.2.1
        (lehmerCofactors W (val W (xl ++ [xt])) (val W y)).2.2.2 (xl ++ [xt]) y = some (x', y') ∧
      x'.length = xl.length + 1 ∧ y'.length = y.length ∧ IsWords W x' ∧ IsWords W y' ∧
      (val W x' : Int) = ((lehmerCofactors W (val W (xl ++ [xt])) (val W y)).1 : Int) * val W (xl ++ [xt]) -
        ((lehmerCofactors W (val W (xl ++ [xt])) (val W y)).2.1 : Int) * val W y ∧
      (val W y' : Int) = ((lehmerCofactors W (val W (xl ++ [xt])) (val W y)).2.2.2 : Int) * val W y -
        ((lehmerCofactors W (val W (xl ++ [xt])) (val W y)).2.2.1 : Int) * val W (xl ++ [xt]) ∧
      0 < val W x' ∧ 0 < val W y' ∧ val W x' + val W y' ≤ val W (xl ++ [xt]) ∧ val W y' ≤ val W y := by
  obtain ⟨x', y', h⟩ := lehmerStepFull_committed (by omega) (lehmerCofactors_le_signed_max W _ _ hW)
    (hx.append (IsWords.cons hxt (IsWords.nil W))) hy (by simp [hl]) (by simp [hl])
    (lehmerCofactors_committed (by omega) hxy hlen hb)
  exact ⟨x', y', by simpa using h⟩

/-- the same for operands of equal length (the fix-up is not entered) -/
theorem lehmer_step_full_committed_eqlen (W : Nat) (hW : 2 ≤ W) (x y : List Nat)
    (hx : IsWords W x) (hy : IsWords W y) (hl : x.length = y.length)
    (hxy : val W y ≤ val W x) (hlen : 1 < wordLen W (val W y))
    (hb : (lehmerCofactors W (val W x) (val W y)).2.1 ≠ 0) :
    ∃ x' y', lehmerStepFull W (lehmerCofactors W (val W x) (val W y)).1
        (lehmerCofactors W (val W x) (val W y)).2.1 (lehmerCofactors W (val W x) (val W y)).2.2.1
        (lehmerCofactors W (val W x) (val W y)).2.2.2 x y = some (x', y') ∧
      x'.length = x.length ∧ y'.length = y.length ∧ IsWords W x' ∧ IsWords W y' ∧
      (val W x' : Int) = ((lehmerCofactors W (val W x) (val W y)).1 : Int) * val W x -
        ((lehmerCofactors W (val W x) (val W y)).2.1 : Int) * val W y ∧
      (val W y' : Int) = ((lehmerCofactors W (val W x) (val W y)).2.2.2 : Int) * val W y -
        ((lehmerCofactors W (val W x) (val W y)).2.2.1 : Int) * val W x ∧
      0 < val W x' ∧ 0 < val W y' ∧ val W x' + val W y' ≤ val W x ∧ val W y' ≤ val W y :=
  lehmerStepFull_committed (by omega) (lehmerCofactors_le_signed_max W _ _ hW) hx hy (by omega) (by omega)
    (lehmerCofactors_committed (by omega) hxy hlen hb)

/-- the hypotheses are satisfiable, both shapes: `x = [12345, 999, 1]`, `y = [7, 2^63 + 11]` commits `(1, 2, 0, 1)` and
    the fix-up clears the top word; `x = [12345, 2^63 + 999]`, `y = [7, 2^62 + 2^61 + 11]` commits `(3, 4, 2, 3)` -/
example : val 64 [7, 2 ^ 63 + 11] ≤ val 64 ([12345, 999] ++ [1]) ∧ 1 < wordLen 64 (val 64 [7, 2 ^ 63 + 11]) ∧
    lehmerCofactors 64 (val 64 ([12345, 999] ++ [1])) (val 64 [7, 2 ^ 63 + 11]) = (1, 2, 0, 1) ∧
    lehmerStepFull 64 1 2 0 1 ([12345, 999] ++ [1]) [7, 2 ^ 63 + 11] = some ([12331, 977, 0], [7, 2 ^ 63 + 11]) ∧
    val 64 [7, 2 ^ 62 + 2 ^ 61 + 11] ≤ val 64 [12345, 2 ^ 63 + 999] ∧ 1 < wordLen 64 (val 64 [7, 2 ^ 62 + 2 ^ 61 + 11]) ∧
    lehmerCofactors 64 (val 64 [12345, 2 ^ 63 + 999]) (val 64 [7, 2 ^ 62 + 2 ^ 61 + 11]) = (3, 4, 2, 3) ∧
    lehmerStepFull 64 3 4 2 3 [12345, 2 ^ 63 + 999] [7, 2 ^ 62 + 2 ^ 61 + 11]
      = some ([37007, 2953], [18446744073709526947, 2305843009213691986]) := by decide +kernel

-- ==================================================================== which slices lehmer_step is handed

/-- **`y` two or more words shorter than `x`: the guess never commits.**  For `y ≤ x` whose significant word counts
    differ by two or more, `lehmer_guess` / `lehmer_guess_dword` on the aligned leading parts
    (`highest_word_normalized` / `highest_dword_normalized`: both operands cut at one common bit position) return
    `(1, 0, 0, 1)` — the aligned part of `y` is 0, or the first quotient is at least `2^W > COEFF_LIMIT` — so
    `gcd_in_place` / `gcd_ext_in_place` take the Euclidean arm (`b == 0`). -/
theorem lehmer_guess_gap_fails (W x y : Nat) (hW : 0 < W) (hxy : y ≤ x) (hgap : wordLen W y + 2 ≤ wordLen W x) :
    lehmerCofactors W x y = (1, 0, 0, 1) :=
  lehmerCofactors_gap W x y hW hxy hgap

/-- **a committed guess (`b ≠ 0`) happens only on operands of equal length or with `x` one word longer** — the first
    `debug_assert!` of `lehmer_step` (`x.len() - y.len()` is 0 or 1 on the trimmed slices) follows from the guess the
    loop has just computed from the same operands. -/
theorem lehmer_commit_shape (W x y : Nat) (hW : 0 < W) (hxy : y ≤ x)
    (hb : (lehmerCofactors W x y).2.1 ≠ 0) :
    wordLen W y ≤ wordLen W x ∧ wordLen W x ≤ wordLen W y + 1 :=
  lehmerCofactors_commit_shape W x y hW hxy hb

/-- **`lehmer_step` in full on the slices `gcd_in_place` hands it — no shape hypothesis left.**  For TRIMMED word slices
    `x = xl ++ [x_top]`, `y = yl ++ [y_top]` (non-zero top words: what `trim_leading_zeros` leaves), `Y ≤ X`, `y` of more
    than one word and the committed guess `cf` (`b ≠ 0`) computed from the operands themselves: the lengths differ by 0
    or 1 (the function's first `debug_assert!`), and the mirrored function (zip loop, `x_top` fix-up, both
    `debug_assert_eq!`s as failures) returns `a·X − b·Y`, `d·Y − c·X` exactly, in place; both positive, sum `≤ X`,
    new `y ≤ Y`. -/
theorem lehmer_step_full_committed_trimmed (W : Nat) (hW : 2 ≤ W) (xl : List Nat) (xt : Nat) (yl : List Nat) (yt : Nat)
    (hx : IsWords W xl) (hxt : xt < 2 ^ W) (hxt0 : xt ≠ 0) (hy : IsWords W yl) (hyt : yt < 2 ^ W) (hyt0 : yt ≠ 0)
    (hxy : val W (yl ++ [yt]) ≤ val W (xl ++ [xt])) (hlen : 1 ≤ yl.length)
    (cf : Nat × Nat × Nat × Nat) (hcf : cf = lehmerCofactors W (val W (xl ++ [xt])) (val W (yl ++ [yt])))
    (hb : cf.2.1 ≠ 0) :
    (xl.length = yl.length ∨ xl.length = yl.length + 1) ∧
    ∃ x' y', lehmerStepFull W cf.1 cf.2.1 cf.2.2.1 cf.2.2.2 (xl ++ [xt]) (yl ++ [yt]) = some (x', y') ∧
      x'.length = xl.length + 1 ∧ y'.length = yl.length + 1 ∧ IsWords W x' ∧ IsWords W y' ∧
      (val W x' : Int) = (cf.1 : Int) * val W (xl ++ [xt]) - (cf.2.1 : Int) * val W (yl ++ [yt]) ∧
      (val W y' : Int) = (cf.2.2.2 : Int) * val W (yl ++ [yt]) - (cf.2.2.1 : Int) * val W (xl ++ [xt]) ∧
      0 < val W x' ∧ 0 < val W y' ∧ val W x' + val W y' ≤ val W (xl ++ [xt]) ∧ val W y' ≤ val W (yl ++ [yt]) := by
  subst hcf
  have hW0 : 0 < W := by omega
  have hwx := wordLen_val_trimmed W hW0 xl xt hx hxt hxt0
  have hwy := wordLen_val_trimmed W hW0 yl yt hy hyt hyt0
  have hshape := lehmerCofactors_commit_shape W _ _ hW0 hxy hb
  rw [hwx, hwy] at hshape
  obtain ⟨x', y', h⟩ := lehmerStepFull_committed (by omega) (lehmerCofactors_le_signed_max W _ _ hW)
    (hx.append (IsWords.cons hxt (IsWords.nil W))) (hy.append (IsWords.cons hyt (IsWords.nil W)))
    (by simp; omega) (by simp; omega) (lehmerCofactors_committed hW0 hxy (by rw [hwy]; omega) hb)
  exact ⟨by omega, x', y', by simpa using h⟩

/-- non-vacuity: a gap of two words (`x` of 4 words over a `y` of 2 words, twice) gives `(1, 0, 0, 1)`; both committed
    shapes occur with trimmed slices
    (`[12345, 999] ++ [1]` over `[7] ++ [2^63 + 11]` commits `(1, 2, 0, 1)`; equal lengths commit `(3, 4, 2, 3)`) -/
example : wordLen 64 (val 64 [5, 6]) + 2 ≤ wordLen 64 (val 64 [1, 2, 3, 4]) ∧ val 64 [5, 6] ≤ val 64 [1, 2, 3, 4] ∧
    lehmerCofactors 64 (val 64 [1, 2, 3, 4]) (val 64 [5, 6]) = (1, 0, 0, 1) ∧
    wordLen 64 (val 64 [0, 2 ^ 63]) + 2 ≤ wordLen 64 (val 64 [1, 2, 3, 1]) ∧
    lehmerCofactors 64 (val 64 [1, 2, 3, 1]) (val 64 [0, 2 ^ 63]) = (1, 0, 0, 1) ∧
    IsWords 64 [12345, 999] ∧ (1 : Nat) < 2 ^ 64 ∧ (1 : Nat) ≠ 0 ∧ IsWords 64 [7] ∧ 2 ^ 63 + 11 < 2 ^ 64 ∧ 2 ^ 63 + 11 ≠ 0 ∧
    val 64 ([7] ++ [2 ^ 63 + 11]) ≤ val 64 ([12345, 999] ++ [1]) ∧ 1 ≤ [7].length ∧
    (lehmerCofactors 64 (val 64 ([12345, 999] ++ [1])) (val 64 ([7] ++ [2 ^ 63 + 11]))).2.1 ≠ 0 ∧
    [12345, 999].length = [7].length + 1 ∧
    (lehmerCofactors 64 (val 64 ([12345] ++ [2 ^ 63 + 999])) (val 64 ([7] ++ [2 ^ 62 + 2 ^ 61 + 11]))).2.1 ≠ 0 ∧
    [12345].length = [7].length := by decide +kernel

end Dashu.Props.C12
