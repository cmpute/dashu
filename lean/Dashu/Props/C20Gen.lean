import Dashu.Proofs.Macro.Words
import Dashu.Gen.MacroGen
/-
  C20 — Tie A: the decision logic of the code generators of the literal macros as REGENERATED from
  /repo/macros/src/parse/{common,int,float,ratio}.rs (`Gen/MacroGen.lean`, vlib/extract_macro.py)
  against the hand model the driver executes.  `quoteWords` and `intPath` CALL the regenerated
  `quote_words_max_len` / `int_const_guard`; the rest is proved equal here.  A change of one of those
  source lines changes the generated text and breaks a theorem of this file (or of Props/C20).
-/
namespace Dashu.Props.C20Gen
open Dashu.Model.Serde Dashu.Model.Macro Dashu.Gen.Macro
open Dashu.Model.Text (bitLen)

-- ====================================================================== static word arrays

/-- the regenerated `DataSelector` table: one selector per converter, each with its own integer type,
    its own converter for `LEN` and for `DATA`, and the element width = 8 · `INT_SIZE` -/
theorem selector_table_regenerated :
    selectors.map (·.1) = [16, 32, 64] ∧ converters = [16, 32, 64] ∧ quote_words_converters = converters ∧
    (∀ r ∈ selectors, r.2.1 = r.1 ∧ r.2.2.1 = r.1 ∧ r.2.2.2.1 = r.1 ∧ r.2.2.2.2 = r.1 ∧
      8 * converter_int_size r.1 = r.1) ∧ select_key = "Word::BITS" := by
  refine ⟨by decide, by decide, by decide, by decide, by decide⟩

/-- the selection read off the regenerated table is the hand model's selector of `W / 8` bytes -/
theorem staticSelect_eq (bs : Bytes) :
    staticSelect 16 bs = staticValue 2 bs ∧ staticSelect 32 bs = staticValue 4 bs ∧
    staticSelect 64 bs = staticValue 8 bs := by
  refine ⟨?_, ?_, ?_⟩ <;>
  · unfold staticSelect staticValue quoteWords
    simp [selectors, converter_int_size, List.find?]

/-- **static path, from the regenerated table**: for every word size the macro supports, the slice
    `DATA_COPY[..Select::LEN]` that `quote_words` hands to `from_static_words` passes its normalisation
    assertion and denotes exactly `n` — `LEN`, `DATA`, the padding length and `INT_SIZE` being those of
    the source text -/
theorem static_select_value (W : Nat) (hW : W = 16 ∨ W = 32 ∨ W = 64) (n : Nat) :
    staticSelect W (leBytes n) = some n := by
  obtain ⟨h16, h32, h64⟩ := staticSelect_eq (leBytes n)
  rcases hW with h | h | h <;> subst h
  · rw [h16]; exact staticValue_leBytes 2 (by omega) n
  · rw [h32]; exact staticValue_leBytes 4 (by omega) n
  · rw [h64]; exact staticValue_leBytes 8 (by omega) n

example : staticSelect 64 (leBytes (2 ^ 64 + 5)) = some (2 ^ 64 + 5) ∧ staticSelect 16 (leBytes 70000) = some 70000 ∧
    staticSelect 8 (leBytes 5) = none := by
  refine ⟨static_select_value 64 (by simp) _, static_select_value 16 (by simp) _, ?_⟩
  unfold staticSelect; simp [selectors, List.find?]

/-- the common array length (`max_len`, regenerated) is enough for every selector: `LEN ≤ max_len` -/
theorem max_len_sufficient (bs : Bytes) :
    ∀ r ∈ selectors, (bytesToWords (converter_int_size r.1) bs).length ≤ quote_words_max_len bs.length := by
  intro r hr
  have h2 := (quoteWords_length 2 (by omega) bs).2
  have h4 := (quoteWords_length 4 (by omega) bs).2
  have h8 := (quoteWords_length 8 (by omega) bs).2
  simp only [selectors, List.mem_cons, List.mem_nil_iff, or_false] at hr
  unfold quoteWords at h2 h4 h8
  rcases hr with h | h | h <;> subst h <;> simp only [converter_int_size, quote_words_max_len] <;> assumption

-- ====================================================================== const-path guards

/-- integers: the model's path choice is the regenerated guard; behind it the `match (signed, static_)`
    table sends the static variants to the word arrays and the others to `quote_ubig` / `quote_ibig` -/
theorem int_path_regenerated (static_ : Bool) (m : Nat) :
    (intPath static_ m = .const ↔ int_const_guard (bitLen m) static_ = true) ∧
    (intPath static_ m = .static ↔ (int_const_guard (bitLen m) static_ = false ∧ static_ = true)) ∧
    (∀ g ∈ int_generators, (g.2.1 = true ↔ g.2.2 = "static") ∧ (g.2.1 = false → g.1 = false → g.2.2 = "bytes") ∧
      (g.2.1 = false → g.1 = true → g.2.2 = "bytes_signed")) := by
  refine ⟨?_, ?_, by decide⟩
  · unfold intPath
    cases h : int_const_guard (bitLen m) static_ <;> cases static_ <;> simp
  · unfold intPath
    cases h : int_const_guard (bitLen m) static_ <;> cases static_ <;> simp

/-- the const arm's `let u: u32 = big.try_into().unwrap()` never panics, and the `debug_assert!` of
    `quote_ubig` / `quote_ibig` never fires on the heap path `parse_integer` takes -/
theorem int_const_conversion_total (m : Nat) :
    (int_const_guard (bitLen m) false = true → m < 2 ^ int_const_bits) ∧
    (intPath false m = .bytes → quote_ubig_assert (bitLen m) = true ∧ quote_ibig_assert (bitLen m) = true) := by
  constructor
  · intro h
    simp only [int_const_guard, Bool.not_false, Bool.and_true, decide_eq_true_eq] at h
    exact bitLen_le_lt m 32 h
  · intro h
    unfold intPath int_const_guard at h
    simp only [quote_ubig_assert, quote_ibig_assert, decide_eq_true_eq]
    by_cases hb : bitLen m ≤ 32
    · simp [hb] at h
    · omega

/-- floats: the model's path choice is the regenerated guard of both float macros, the const arm's
    `u32` conversion never panics, and the precision each constructor receives is the model's
    (`floatExpansionAsIs`): `Some(#prec)` on the const path (dropped by `from_parts_const` for a zero
    significand), none on the static path (`from_repr_const`), `Context::new(#prec)` on the heap path -/
theorem float_path_regenerated (static_ neg : Bool) (mag : Nat) (e : Int) (prec : Nat) :
    (floatPath static_ mag = .const ↔ fbig_const_guard (bitLen mag) = true) ∧
    (floatPath static_ mag = .const ↔ dbig_const_guard (bitLen mag) = true) ∧
    (fbig_const_guard (bitLen mag) = true → mag < 2 ^ fbig_const_bits ∧ mag < 2 ^ dbig_const_bits) ∧
    (floatExpansionAsIs static_ neg mag e prec).1 = floatPath static_ mag ∧
    (floatExpansionAsIs static_ neg mag e prec).2.prec =
      (match floatPath static_ mag with
        | .const => if mag = 0 then 0 else (fbig_const_precision prec).getD 0
        | .static => (fbig_static_precision prec).getD 0
        | .bytes => (fbig_heap_precision prec).getD 0) ∧
    fbig_const_precision prec = dbig_const_precision prec ∧ fbig_static_precision prec = dbig_static_precision prec ∧
    fbig_heap_precision prec = dbig_heap_precision prec := by
  refine ⟨?_, ?_, ?_, ?_, ?_, rfl, rfl, rfl⟩
  · unfold floatPath fbig_const_guard
    by_cases hb : bitLen mag ≤ 32 <;> cases static_ <;> simp [hb]
  · unfold floatPath dbig_const_guard
    by_cases hb : bitLen mag ≤ 32 <;> cases static_ <;> simp [hb]
  · intro h
    simp only [fbig_const_guard, decide_eq_true_eq] at h
    exact ⟨bitLen_le_lt mag 32 h, bitLen_le_lt mag 32 h⟩
  · unfold floatExpansionAsIs floatPath
    by_cases hb : bitLen mag ≤ 32 <;> cases static_ <;> simp [hb]
  · unfold floatExpansionAsIs floatPath fbig_const_precision fbig_static_precision fbig_heap_precision
    by_cases hb : bitLen mag ≤ 32
    · simp only [hb, if_true]
      by_cases h0 : mag = 0 <;> simp [h0]
    · cases static_ <;> simp [hb]

/-- rationals: `const` exactly under the regenerated guard; on the run-time path a part goes to
    `quote_ibig` / `quote_ubig` only when their `debug_assert!` holds, and to the `u32` constructor
    (`try_into().unwrap()`) only when it fits -/
theorem ratio_path_regenerated (q : QVal) :
    (ratPathName false q = "const" ↔ ratio_const_guard (bitLen q.num.natAbs) (bitLen q.den) = true) ∧
    (∀ b, ratio_num_const_guard b = false → quote_ibig_assert b = true) ∧
    (∀ b, ratio_den_const_guard b = false → quote_ubig_assert b = true) ∧
    (∀ a b, ratio_const_guard a b = true → ratio_num_const_guard a = true ∧ ratio_den_const_guard b = true) ∧
    (∀ m, ratio_num_const_guard (bitLen m) = true → m < 2 ^ 32) ∧ (∀ m, ratio_den_const_guard (bitLen m) = true → m < 2 ^ 32) := by
  refine ⟨?_, ?_, ?_, ?_, ?_, ?_⟩
  · unfold ratPathName ratio_const_guard
    by_cases h1 : bitLen q.num.natAbs ≤ 32 <;> by_cases h2 : bitLen q.den ≤ 32 <;> simp [h1, h2]
  · intro b h
    simp only [ratio_num_const_guard, decide_eq_false_iff_not] at h
    simp only [quote_ibig_assert, decide_eq_true_eq]; omega
  · intro b h
    simp only [ratio_den_const_guard, decide_eq_false_iff_not] at h
    simp only [quote_ubig_assert, decide_eq_true_eq]; omega
  · intro a b h
    simp only [ratio_const_guard, Bool.and_eq_true, decide_eq_true_eq] at h
    simp only [ratio_num_const_guard, ratio_den_const_guard, decide_eq_true_eq]
    exact h
  · intro m h
    simp only [ratio_num_const_guard, decide_eq_true_eq] at h
    exact bitLen_le_lt m 32 h
  · intro m h
    simp only [ratio_den_const_guard, decide_eq_true_eq] at h
    exact bitLen_le_lt m 32 h

-- ====================================================================== the text handling in front of the float parser

theorem strip_prefix_cons (c x : Nat) (r : Bytes) :
    strip_prefix c (x :: r) = if x = c then some r else none := rfl

/-- the regenerated statements in front of the parser call of `parse_binary_float` compute what the hand
    model's `stripSign` / `stripUs` / `fbigSecondSign` compute, for every text -/
theorem fbig_prelude_eq (s : Bytes) :
    fbig_prelude s =
      (let u := stripUs (stripSign s).2
       if u.head? == some 45 || u.head? == some 43 then none else some ((stripSign s).1, u)) := by
  have key : ∀ t : Bytes, (strip_prefix 95 t).getD t = stripUs t := by
    intro t
    match t with
    | [] => rfl
    | x :: r =>
      by_cases h : x = 95
      · subst h; rfl
      · simp only [strip_prefix_cons, h, if_false, Option.getD_none]
        unfold stripUs
        split
        · rename_i heq; simp only [List.cons.injEq] at heq; exact absurd heq.1 h
        · rfl
  have sw : ∀ (c : Nat) (t : Bytes), starts_with c t = (t.head? == some c) := by
    intro c t
    match t with
    | [] => simp [starts_with, strip_prefix]
    | x :: r =>
      simp only [starts_with, strip_prefix_cons, List.head?_cons]
      by_cases h : x = c <;> simp [h]
  have ss : ∀ (x : Nat) (r : Bytes), x ≠ 45 → x ≠ 43 → stripSign (x :: r) = (false, x :: r) := by
    intro x r h1 h2
    unfold stripSign
    split
    · rename_i heq; simp only [List.cons.injEq] at heq; exact absurd heq.1 h1
    · rename_i heq; simp only [List.cons.injEq] at heq; exact absurd heq.1 h2
    · rfl
  unfold fbig_prelude
  match s with
  | [] => rfl
  | x :: r =>
    by_cases h1 : x = 45
    · subst h1
      simp only [key, sw]
      simp only [strip_prefix_cons, if_true]; rfl
    · by_cases h2 : x = 43
      · subst h2
        simp only [key, sw]
        simp only [strip_prefix_cons, h1, if_false, if_true, Option.getD_some]; rfl
      · simp only [key, sw]
        simp only [strip_prefix_cons, h1, h2, if_false, Option.getD_none, ss x r h1 h2]

/-- Tie A for `parse_binary_float`'s text handling: the hand model `fbigNew` (which the driver runs and the
    value theorems `fbig_strip_is_runtime_parse`, `fbig_hex_literal_value` of Props/C20 are about) is the
    REGENERATED prelude (`strip_prefix('-')` / `strip_prefix('+')` / `strip_prefix('_')` / second-sign refusal)
    followed by the parser of the regenerated base and the regenerated `assert!(signif.is_positive())`, for
    every token list -/
theorem fbig_prelude_regenerated (toks : List Tok) :
    fbigNew toks =
      (fbig_prelude (concatToks toks)).bind fun p =>
        match floatParse fbig_parser_base p.2 with
        | none => none
        | some (v, nd) =>
          if fbig_asserts_positive && decide (v.signif < 0) then none
          else some (p.1, v.signif.natAbs, v.exp, nd) := by
  rw [fbig_prelude_eq]
  unfold fbigNew fbigSecondSign fbigAsIs
  by_cases h : ((stripUs (stripSign (concatToks toks)).2).head? == some 45 ||
      (stripUs (stripSign (concatToks toks)).2).head? == some 43) = true
  · simp only [h, if_true, Option.bind_none]
  · simp only [h, Bool.false_eq_true, if_false, Option.bind_some, fbig_parser_base, fbig_asserts_positive,
      Bool.true_and, decide_eq_true_eq]
    cases hp : floatParse 2 (stripUs (stripSign (concatToks toks)).2) with
    | none => rfl
    | some q => rfl

/-- the same for `parse_decimal_float`: no statement between the concatenation and `DBig::from_str`, base 10,
    sign and magnitude from `signif.into_parts()`, no assert -/
theorem dbig_prelude_regenerated (toks : List Tok) :
    dbigAsIs toks =
      (dbig_prelude (concatToks toks)).bind fun p =>
        match floatParse dbig_parser_base p.2 with
        | none => none
        | some (v, nd) =>
          if dbig_asserts_positive && decide (v.signif < 0) then none
          else some (decide (v.signif < 0), v.signif.natAbs, v.exp, nd) := by
  unfold dbigAsIs dbig_prelude
  simp only [Option.bind_some, dbig_parser_base, dbig_asserts_positive, Bool.false_and, Bool.false_eq_true, if_false]
  cases floatParse 10 (concatToks toks) with
  | none => rfl
  | some q => rfl

/-- non-vacuity: `-_0xae.1f`, `_+1` (refused), `+_1` through the regenerated prelude -/
example : fbig_prelude [45, 95, 48, 120, 97] = some (true, [48, 120, 97]) ∧ fbig_prelude [95, 43, 49] = none ∧
    fbig_prelude [43, 95, 49] = some (false, [49]) ∧ fbig_prelude [45, 45, 49] = none ∧
    fbig_prelude [95, 95, 49] = some (false, [95, 49]) := by decide

-- ====================================================================== quote_sign

/-- `quote_sign` regenerated: for each `embedded` flag and each sign exactly one arm, and it writes the sign it was
    given (`Sign::Negative` for a negative literal) in the namespace of the flag (`::dashu_base` / `::dashu::base`) —
    what the harness interpreter of the expansion reads and what the sign of every ibig!/rbig!/fbig!/dbig! value rests on -/
theorem quote_sign_regenerated (embedded neg : Bool) :
    quote_sign_arms.filterMap (fun r => if r.1 = embedded ∧ r.2.1 = neg then some r.2.2 else none) =
      [(if embedded then "::dashu::base" else "::dashu_base") ++ "::Sign::" ++ (if neg then "Negative" else "Positive")] := by
  cases embedded <;> cases neg <;> decide

end Dashu.Props.C20Gen
