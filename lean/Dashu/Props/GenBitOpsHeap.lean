import Dashu.Gen.BitOpsHeap
import Dashu.Props.GenBitsHeap
/-
  C09, Tie A: the word loops of the unsigned bit operators (`integer/src/bits.rs`, `mod repr`: `bitand_large`,
  `bitor_large`, `bitxor_large`, `and_not_large` and the `*_large_dword` forms) as REGENERATED text
  (`Dashu/Gen/BitOpsHeap.lean`) are EQUAL to the kernels of the hand model the C09 driver executes (`zipAnd`, `zipOr`,
  `zipXor`, `zipAndNot`, `opLargeDword` of `Model/Int/Bits.lean`), for all operands.
-/
namespace Dashu.Props.GenBitOpsHeap
open Dashu.Model Dashu Dashu.GluePrelude Dashu.Gen.ShiftHeap Dashu.Gen.BitsHeap Dashu.Gen.BitOpsHeap

theorem zip_and (a b : List Nat) : zip_prefix (fun x y => x &&& y) (a.take b.length) b = zipAnd a b :=
  match a, b with
  | [], [] => rfl
  | [], _ :: _ => rfl
  | _ :: _, [] => rfl
  | x :: xs, y :: ys => congrArg ((x &&& y) :: ·) (zip_and xs ys)

theorem zip_len (f : Nat → Nat → Nat) (a b : List Nat) : (zip_prefix f a b).length = a.length :=
  match a, b with
  | [], _ => rfl
  | _ :: _, [] => rfl
  | _ :: xs, _ :: ys => congrArg (· + 1) (zip_len f xs ys)

theorem zip_or (a b : List Nat) : zip_prefix (fun x y => x ||| y) a b ++ b.drop a.length = zipOr a b :=
  match a, b with
  | [], [] => rfl
  | [], _ :: _ => rfl
  | x :: xs, [] => List.append_nil (x :: xs)
  | x :: xs, y :: ys => congrArg ((x ||| y) :: ·) (zip_or xs ys)

theorem zip_xor (a b : List Nat) : zip_prefix (fun x y => x ^^^ y) a b ++ b.drop a.length = zipXor a b :=
  match a, b with
  | [], [] => rfl
  | [], _ :: _ => rfl
  | x :: xs, [] => List.append_nil (x :: xs)
  | x :: xs, y :: ys => congrArg ((x ^^^ y) :: ·) (zip_xor xs ys)

theorem zip_and_not (W : Nat) (a b : List Nat) :
    zip_prefix (fun x y => x &&& MachInt.not W y) a b = zipAndNot W a b :=
  match a, b with
  | [], _ => rfl
  | _ :: _, [] => rfl
  | x :: xs, y :: ys => congrArg ((x &&& MachInt.not W y) :: ·) (zip_and_not W xs ys)

/-- **`bitand_large`** (truncate to the shorter operand, `&=` over the common prefix) = `zipAnd` -/
theorem gen_bitand_large (W U : Nat) (a b : List Nat) :
    bitand_large W U a b = some (fromBuffer W (zipAnd a b)) := by
  unfold bitand_large
  by_cases h : a.length > b.length
  · simp [h, truncate, zip_and]
  · have e : a.take b.length = a := List.take_of_length_le (by omega)
    have := zip_and a b
    rw [e] at this
    simp [h, this]

/-- **`bitor_large`** (`|=` over the common prefix, the rest of a longer `rhs` appended) = `zipOr` -/
theorem gen_bitor_large (W U : Nat) (a b : List Nat) :
    bitor_large W U a b = some (fromBuffer W (zipOr a b)) := by
  unfold bitor_large
  have hl := zip_len (fun x y => x ||| y) a b
  have hz := zip_or a b
  simp only [hl, push_rest_of, bind, Option.bind, pure]
  by_cases h : b.length > a.length
  · have hle : a.length ≤ b.length := by omega
    simp [h, hle, hz]
  · have e : b.drop a.length = [] := List.drop_eq_nil_iff.2 (by omega)
    rw [e, List.append_nil] at hz
    simp [h, hz]

/-- **`bitxor_large`** = `zipXor` -/
theorem gen_bitxor_large (W U : Nat) (a b : List Nat) :
    bitxor_large W U a b = some (fromBuffer W (zipXor a b)) := by
  unfold bitxor_large
  have hl := zip_len (fun x y => x ^^^ y) a b
  have hz := zip_xor a b
  simp only [hl, push_rest_of, bind, Option.bind, pure]
  by_cases h : b.length > a.length
  · have hle : a.length ≤ b.length := by omega
    simp [h, hle, hz]
  · have e : b.drop a.length = [] := List.drop_eq_nil_iff.2 (by omega)
    rw [e, List.append_nil] at hz
    simp [h, hz]

/-- **`and_not_large`** (`x &= !y` over the common prefix) = `zipAndNot` -/
theorem gen_and_not_large (W U : Nat) (a b : List Nat) :
    and_not_large W U a b = some (fromBuffer W (zipAndNot W a b)) := by
  simp [and_not_large, zip_and_not]

/-- **`bitor_large_dword`, `bitxor_large_dword`, `and_not_large_dword`** on a buffer of at least two words
    (`debug_assert!(buffer.len() >= 2)`) = `opLargeDword` with the same word operation -/
theorem gen_large_dword (W U d : Nat) (ws : List Nat) (h2 : 2 ≤ ws.length) :
    bitor_large_dword W U ws d = some (fromBuffer W (opLargeDword W (· ||| ·) ws d)) ∧
    bitxor_large_dword W U ws d = some (fromBuffer W (opLargeDword W (· ^^^ ·) ws d)) ∧
    and_not_large_dword W U ws d = some (fromBuffer W (opLargeDword W (fun p q => p &&& wnot W q) ws d)) := by
  match ws, h2 with
  | w0 :: w1 :: t, _ => exact ⟨rfl, rfl, rfl⟩

/-- fewer than two words: `lowest_dword_mut` is out of bounds; the regenerated text refuses -/
theorem gen_large_dword_short (W U d w : Nat) : bitor_large_dword W U [w] d = none := rfl

/-- the heap/heap arms of the four operators of the hand model are the regenerated loops -/
theorem gen_heap_heap_arms (W U : Nat) (a b : List Nat) :
    bitand_large W U a b = some (TRepr.bitand W (.large a) (.large b)) ∧
    bitor_large W U a b = some (TRepr.bitor W (.large a) (.large b)) ∧
    bitxor_large W U a b = some (TRepr.bitxor W (.large a) (.large b)) ∧
    and_not_large W U a b = some (TRepr.andNot W (.large a) (.large b)) :=
  ⟨gen_bitand_large W U a b, gen_bitor_large W U a b, gen_bitxor_large W U a b, gen_and_not_large W U a b⟩

-- non-vacuity: operands of 3 and 4 words in both orders
example : bitand_large 64 64 [7, 2 ^ 64 - 1, 5, 9] [3, 1, 4] = some (.large [3, 1, 4]) ∧
    bitor_large 64 64 [1, 2, 4] [2, 1, 3, 8] = some (.large [3, 3, 7, 8]) ∧
    bitxor_large 64 64 [1, 2, 4, 8] [1, 2, 4] = some (.large [0, 0, 0, 8]) ∧
    and_not_large 64 64 [7, 7, 7] [1, 2 ^ 64 - 1, 0, 5] = some (.large [6, 0, 7]) ∧
    bitxor_large_dword 64 64 [1, 2, 3] (5 + 2 ^ 64 * 6) = some (.large [4, 4, 3]) := by
  refine ⟨by decide +kernel, by decide +kernel, by decide +kernel, by decide +kernel, by decide +kernel⟩

end Dashu.Props.GenBitOpsHeap
