import Dashu.Props.C12
import Dashu.Proofs.NT.PrimRootU32All
/-
  C12 — the `u32` root primitives: totality and exactness on all 2^32 operands.  A module of their own because they
  rest on the kernel evaluations over all normalised top halves (`Proofs/NT/PrimRootU32A/B`), which take long to
  check and which nothing else in C12 needs: what imports `Props.C12` does not wait for them.
-/
namespace Dashu.Props.C12
open Dashu.Model Dashu.Model.NT

/-- **`u32`: `sqrt_rem` and `cbrt_rem` are TOTAL and exact on all 2^32 values** — no `+ - *` of the table /
    Newton stages overflows, every estimate handed to `fix_*_error!` is an under-estimate, the `saturating_mul`, the
    `s -= 4` / `r - 10` safety margins and the second Newton step `s += wmul16_hi((e >> 16) as u16, r)` stay in range.
    Not by enumeration of the operands: the cube-root estimate reads only the top 16 bits (`estCbrtU32_top`) and its
    floors only lower it, so a bound on the reciprocal stage decides all top halves that share one `n16`
    (`cbrt_u32_okH`; the kernel evaluates that stage for the 14 336 values of `n16`); in the square root the low 16
    bits enter only through `b = wmul32_hi(self, r³) >> 11` (≤ 2 values per top half) and `e = self − s²`, and
    `sqrtU32OkB` decides a whole operand interval at once (`estSqrtU32_total_of_okB`); the kernel evaluates that
    check for the 49 152 normalised top halves.  Both evaluations walk the reciprocal table entry by entry (`allTab`),
    each entry with the 512 top halves (256 values of `n16`) it serves. -/
theorem prim_root_u32_total (x : Nat) (hx : x < 2 ^ 32) :
    (∃ s r, sqrtRemPrimBits 32 x = some (s, r) ∧ IsRoot x 2 s ∧ s ^ 2 + r = x) ∧
    (∃ c r, cbrtRemPrimBits 32 x = some (c, r) ∧ IsRoot x 3 c ∧ c ^ 3 + r = x) :=
  prim_root_of_total (by decide) hx (sqrtRemU32_total hx) (cbrtRemU32_total hx)

/-- … hence the mirrored `u32` routine IS the floor square root with remainder (the contract `sqrt_rem_mirrored_spec`
    asks of the one-word primitive at word size 32, of the double-word primitive at word size 16) -/
theorem prim_sqrt_u32_exact : PrimSqrtExact (2 ^ 32) (sqrtRemWordM 32) :=
  prim_exact_of_total (bits := 32) (by decide) (fun y hy => by
    obtain ⟨r, hr⟩ := sqrtRemU32_total hy
    rw [hr]; rfl)

/-- the per-top-half checks are not vacuous: they fail on a top half where the routine would overflow
    (a non-normalised operand: the table index is out of range) and hold with the answer shown on a normalised one -/
example : sqrtU32OkH 100 = false ∧ sqrtU32OkH 45513 = true ∧ cbrtU32OkH 100 = false ∧
    sqrtRemPrimBits 32 (45513 * 65536 + 58256) = some (54614, 109228) := by decide +kernel

end Dashu.Props.C12
