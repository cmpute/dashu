import Dashu.Props.C19Mod
/-
  C19 clause (1), word size — the VALUE of a modular inverse and of a modular quotient (link to C13's
  `inv_spec` / `div_spec`, by import).

  C13 pins `inv` / `/` only up to the congruence (`x·a ≡ 1`, `q·b ≡ a (mod m)`) plus the range claim
  (`Valid`: below `m`).  Two builds with different word sizes run different extended-gcd kernels
  (single word / double word / Lehmer in place, on differently shifted operands) — that they return
  the SAME number follows from uniqueness of the solution below `m` when `gcd(b, m) = 1`.
-/
namespace Dashu.Props.C19
open Dashu.Model Dashu.Model.NT

/-- uniqueness below `m` of the solution of `x·c ≡ t (mod m)` for `c` coprime to `m` -/
theorem mod_solution_unique {m c x y : Nat} (hc : Nat.gcd c m = 1) (hx : x < m) (hy : y < m)
    (h : (x * c) % m = (y * c) % m) : x = y := by
  have h1 : x ≡ y [MOD m] := Nat.ModEq.cancel_right_of_coprime (by rwa [Nat.gcd_comm]) h
  have h2 : x % m = y % m := h1
  rwa [Nat.mod_eq_of_lt hx, Nat.mod_eq_of_lt hy] at h2

private theorem residue_lt {r : Ring} {e : Elem} (hr : e.ring = r) (hv : Valid r e.raw) : e.residue < r.m := by
  obtain ⟨v, hv, hraw⟩ := hv
  unfold Elem.residue
  rwa [hr, hraw, Nat.mul_div_cancel _ (Nat.two_pow_pos _)]

private theorem div_ring {W : Nat} {a b q : Elem} (h : a.div W b = .ok q) : q.ring = a.ring := by
  unfold Elem.div at h
  split at h
  · cases h
  · unfold Elem.mul at h
    split at h
    · cases h; rfl
    · cases h

/-- one build: `inv` is `None` exactly off the units, else a residue below `m` solving `x·a ≡ 1` -/
private theorem inv_one_build {W m : Nat} {r : Ring} (wf : r.WF W) (hm : r.m = m) (a : Int) :
    (Nat.gcd (res m a) m ≠ 1 ∧ (reduceInt W r a).inv = none) ∨
    (Nat.gcd (res m a) m = 1 ∧ ∃ i, (reduceInt W r a).inv = some i ∧ i.residue < m ∧
      (i.residue * res m a) % m = 1 % m) := by
  subst hm
  obtain ⟨p, p'⟩ := C13.inv_spec W r wf a
  cases e : (reduceInt W r a).inv with
  | none => exact .inl ⟨fun hg => by rw [e] at p; exact absurd (p.2 hg) (by simp), rfl⟩
  | some i =>
    obtain ⟨a1, a2, a3⟩ := p' i e
    exact .inr ⟨p.1 (by rw [e]; rfl), i, rfl, residue_lt a1 a2, a3⟩

/-- **value of the modular inverse across word sizes**: in the rings two builds construct for one modulus `m ≠ 0`,
    `inv` of the image of the same integer is `None` in both (exactly when `gcd(a mod m, m) ≠ 1`) or `Some` in both
    with the SAME residue -/
theorem word_size_independent_modular_inv (W₁ W₂ id₁ id₂ m : Nat) (h₁ : 0 < W₁) (h₂ : 0 < W₂) (hm : m ≠ 0) :
    ∃ r₁ r₂, Ring.new W₁ id₁ m = .ok r₁ ∧ Ring.new W₂ id₂ m = .ok r₂ ∧ ∀ a : Int,
      (Nat.gcd (res m a) m ≠ 1 ∧ (reduceInt W₁ r₁ a).inv = none ∧ (reduceInt W₂ r₂ a).inv = none) ∨
      (Nat.gcd (res m a) m = 1 ∧ ∃ i₁ i₂, (reduceInt W₁ r₁ a).inv = some i₁ ∧ (reduceInt W₂ r₂ a).inv = some i₂ ∧
        i₁.residue = i₂.residue ∧ i₁.residue < m ∧ (i₁.residue * res m a) % m = 1 % m) := by
  obtain ⟨r₁, n₁, m₁, -, wf₁⟩ := (C13.new_spec W₁ id₁ m h₁).2 hm
  obtain ⟨r₂, n₂, m₂, -, wf₂⟩ := (C13.new_spec W₂ id₂ m h₂).2 hm
  refine ⟨r₁, r₂, n₁, n₂, fun a => ?_⟩
  rcases inv_one_build wf₁ m₁ a with ⟨g₁, e₁⟩ | ⟨g₁, i₁, e₁, l₁, c₁⟩ <;>
    rcases inv_one_build wf₂ m₂ a with ⟨g₂, e₂⟩ | ⟨g₂, i₂, e₂, l₂, c₂⟩
  · exact .inl ⟨g₁, e₁, e₂⟩
  · exact absurd g₂ g₁
  · exact absurd g₁ g₂
  · exact .inr ⟨g₁, i₁, i₂, e₁, e₂, mod_solution_unique g₁ l₁ l₂ (c₁.trans c₂.symm), l₁, c₁⟩

/-- **value of the modular quotient across word sizes**: `a / b` panics `NonInvertible` in both builds (exactly when
    `gcd(b mod m, m) ≠ 1`) or answers in both with the SAME residue -/
theorem word_size_independent_modular_div (W₁ W₂ id₁ id₂ m : Nat) (h₁ : 0 < W₁) (h₂ : 0 < W₂) (hm : m ≠ 0) :
    ∃ r₁ r₂, Ring.new W₁ id₁ m = .ok r₁ ∧ Ring.new W₂ id₂ m = .ok r₂ ∧ ∀ a b : Int,
      (Nat.gcd (res m b) m ≠ 1 ∧ (reduceInt W₁ r₁ a).div W₁ (reduceInt W₁ r₁ b) = .error .nonInvertible ∧
        (reduceInt W₂ r₂ a).div W₂ (reduceInt W₂ r₂ b) = .error .nonInvertible) ∨
      (Nat.gcd (res m b) m = 1 ∧ ∃ q₁ q₂, (reduceInt W₁ r₁ a).div W₁ (reduceInt W₁ r₁ b) = .ok q₁ ∧
        (reduceInt W₂ r₂ a).div W₂ (reduceInt W₂ r₂ b) = .ok q₂ ∧
        q₁.residue = q₂.residue ∧ q₁.residue < m ∧ (q₁.residue * res m b) % m = res m a) := by
  obtain ⟨r₁, n₁, m₁, -, wf₁⟩ := (C13.new_spec W₁ id₁ m h₁).2 hm
  obtain ⟨r₂, n₂, m₂, -, wf₂⟩ := (C13.new_spec W₂ id₂ m h₂).2 hm
  refine ⟨r₁, r₂, n₁, n₂, fun a b => ?_⟩
  obtain ⟨p, p'⟩ := C13.div_spec W₁ r₁ wf₁ a b
  obtain ⟨q, q'⟩ := C13.div_spec W₂ r₂ wf₂ a b
  have g₁ := (C13.reduce_spec W₁ r₁ wf₁ a).2.2.2.2
  have g₂ := (C13.reduce_spec W₂ r₂ wf₂ a).2.2.2.2
  subst m₁
  rw [m₂] at q q'
  by_cases hg : Nat.gcd (res r₁.m b) r₁.m = 1
  · obtain ⟨q₁, d₁, v₁, c₁⟩ := p' hg
    obtain ⟨q₂, d₂, v₂, c₂⟩ := q' hg
    have l₁ := residue_lt ((div_ring d₁).trans g₁) v₁
    have l₂ := m₂ ▸ residue_lt ((div_ring d₂).trans g₂) v₂
    exact .inr ⟨hg, q₁, q₂, d₁, d₂, mod_solution_unique hg l₁ l₂ (c₁.trans c₂.symm), l₁, c₁⟩
  · exact .inl ⟨hg, p hg, q hg⟩

/-- non-vacuity: a 3-word (W = 64) / 6-word (W = 32) modulus, an invertible and a non-invertible element (the modulus
    `3·(2^190+1)`, so `3` is not a unit and `7` is): the builds run `gcd_ext_in_place` on 3 resp. 6 words -/
example : ∃ r₁ r₂, Ring.new 64 0 (3 * (2 ^ 190 + 1)) = .ok r₁ ∧ Ring.new 32 0 (3 * (2 ^ 190 + 1)) = .ok r₂ ∧ r₁ ≠ r₂ ∧
    (reduceInt 64 r₁ 3).inv = none ∧ (reduceInt 32 r₂ 3).inv = none ∧
    ((reduceInt 64 r₁ 7).inv.map Elem.residue) = ((reduceInt 32 r₂ 7).inv.map Elem.residue) ∧
    ((reduceInt 64 r₁ 7).inv.map Elem.residue).isSome = true :=
  ⟨_, _, rfl, rfl, by decide +kernel, by decide +kernel, by decide +kernel, by decide +kernel, by decide +kernel⟩

/-- … and both arms of the quotient statement are inhabited -/
example : Nat.gcd (res (2 ^ 40 + 15) 7) (2 ^ 40 + 15) = 1 ∧ Nat.gcd (res 12 8) 12 ≠ 1 := by decide +kernel

end Dashu.Props.C19
