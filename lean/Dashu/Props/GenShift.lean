import Dashu.Gen.ShiftLoops
import Dashu.Proofs.Gen.MachInt
import Dashu.Props.C09Shift
/-
  C09, Tie A: the word loops of `integer/src/shift.rs` as REGENERATED text (`Dashu/Gen/ShiftLoops.lean`: loop
  header, loop body, early return, initial carry, result — over checked machine integers) are total on their
  domain and EQUAL to the hand-written mirrors of the division model (`Div.shlInPlace`, `Div.shrInPlaceWithCarry`,
  `Div.shrInPlaceOneWord`, `Div.shrInPlace`) and, through `Props/C09Shift`, to the bit model's `shlBits` /
  `shrBits` that the C09 driver executes inside `shl_large(_ref)` / `shr_large(_ref)`.
-/
namespace Dashu.Props.GenShift
open Dashu.Model Dashu Dashu.GluePrelude Dashu.Gen.ShiftLoops

/-- the regenerated body of the `shl_in_place` loop: no overflow for a word and `shift < WORD_BITS`, and it is the
    step of `Div.shlLoop` -/
theorem gen_shl_step (W s w c : Nat) (hs : s < W) (hw : w < 2 ^ W) :
    shl_in_place__step W s w c = some ((w * 2 ^ s) % 2 ^ W ||| c, (w * 2 ^ s) / 2 ^ W) := by
  have hs2 : s < 2 * W := by omega
  have hlt : w * 2 ^ s < 2 ^ (2 * W) := by
    have h1 : (2 : Nat) ^ s ≤ 2 ^ W := Nat.pow_le_pow_right (by decide) (by omega)
    have h2 : (2 : Nat) ^ (2 * W) = 2 ^ W * 2 ^ W := by rw [← Nat.pow_add]; congr 1; omega
    rw [h2]
    calc w * 2 ^ s ≤ w * 2 ^ W := Nat.mul_le_mul_left _ h1
      _ < 2 ^ W * 2 ^ W := Nat.mul_lt_mul_of_pos_right hw (Nat.two_pow_pos W)
  simp [shl_in_place__step, MachInt.shl_ok hs2 hlt, MachInt.split_dword]

theorem forWords_shl (W s : Nat) (hs : s < W) (ws : List Nat) (hw : IsWords W ws) (c : Nat) :
    forWords (shl_in_place__step W s) ws c = some (Div.shlLoop W s ws c) := by
  induction ws generalizing c with
  | nil => rfl
  | cons a as ih =>
    simp only [forWords, gen_shl_step W s a c hs hw.head, ih hw.tail, Div.shlLoop]

/-- **`shift::shl_in_place` as regenerated = the hand mirror**, every slice of words, every `shift < WORD_BITS`
    (the `debug_assert!`ed domain): no operation of the body overflows -/
theorem gen_shl_in_place (W s : Nat) (ws : List Nat) (hs : s < W) (hw : IsWords W ws) :
    shl_in_place W ws s = some (Div.shlInPlace W ws s) := by
  unfold shl_in_place Div.shlInPlace
  by_cases h0 : s = 0
  · subst h0; simp
  · have : (s == 0) = false := by simp [h0]
    simp only [this, if_neg h0]
    exact forWords_shl W s hs ws hw 0

/-- the regenerated body of the `shr_in_place_with_carry` loop = the step of `Div.shrLoop` -/
theorem gen_shr_step (W s w c : Nat) (hW : 1 ≤ W) (hs : s ≤ W) :
    shr_in_place_with_carry__step W s w c = some ((Div.shrWord W w s).1 ||| c, (Div.shrWord W w s).2) := by
  simp [shr_in_place_with_carry__step, Props.GenMath.gen_shr_word W w s hW hs, Div.shrWord_spec W w s hs]

theorem forWordsRev_shr (W s : Nat) (hW : 1 ≤ W) (hs : s ≤ W) (ws : List Nat) (c : Nat) :
    forWordsRev (shr_in_place_with_carry__step W s) ws c = some (Div.shrLoop W s ws c) := by
  induction ws with
  | nil => rfl
  | cons a as ih =>
    simp only [forWordsRev, ih, gen_shr_step W s a _ hW hs, Div.shrLoop]

/-- **`shift::shr_in_place_with_carry` as regenerated = the hand mirror**, every slice, every incoming carry -/
theorem gen_shr_in_place_with_carry (W s c : Nat) (ws : List Nat) (hW : 1 ≤ W) (hs : s < W) :
    shr_in_place_with_carry W ws s c = some (Div.shrInPlaceWithCarry W ws s c) := by
  unfold shr_in_place_with_carry Div.shrInPlaceWithCarry
  by_cases h0 : s = 0
  · subst h0; simp
  · have : (s == 0) = false := by simp [h0]
    simp only [this, if_neg h0]
    exact forWordsRev_shr W s hW (by omega) ws c

/-- **`shift::shr_in_place_one_word`** (recognised pointer statements) on a non-empty slice = the hand mirror -/
theorem gen_shr_in_place_one_word (W : Nat) (ws : List Nat) (hne : ws ≠ []) :
    shr_in_place_one_word W ws = some (Div.shrInPlaceOneWord ws) := by
  cases ws with
  | nil => exact absurd rfl hne
  | cons a as => rfl

/-- on an empty slice the pointer statements are out of bounds; the regenerated text says so -/
theorem gen_shr_in_place_one_word_empty (W : Nat) : shr_in_place_one_word W [] = none := rfl

/-- **`shift::shr_in_place` as regenerated = the hand mirror**: which routine each arm calls and with which
    arguments; `shift ≤ WORD_BITS`, non-empty slice -/
theorem gen_shr_in_place (W s : Nat) (ws : List Nat) (hW : 1 ≤ W) (hs : s ≤ W) (hne : ws ≠ []) :
    shr_in_place W ws s = some (Div.shrInPlace W ws s) := by
  unfold shr_in_place Div.shrInPlace
  by_cases h : s = W
  · subst h; simp [gen_shr_in_place_one_word s ws hne]
  · have : (s == W) = false := by simp [h]
    simp only [this, if_neg h]
    exact gen_shr_in_place_with_carry W s 0 ws hW (by omega)

/-- the regenerated loops are the bit model's loops (what the C09 driver runs inside `shl_large(_ref)`,
    `shr_large(_ref)` with `shift = rhs % WORD_BITS`) -/
theorem gen_loops_are_the_bit_model (W s : Nat) (ws : List Nat) (hW : 1 ≤ W) (hs : s < W) (hw : IsWords W ws)
    (hne : ws ≠ []) :
    shl_in_place W ws s = some (shlBits W ws s 0) ∧ shr_in_place W ws s = some (shrBits W s ws) := by
  refine ⟨?_, ?_⟩
  · rw [gen_shl_in_place W s ws hs hw, Props.C09Shift.shlBits_eq_shlInPlace W s ws hw]
  · rw [gen_shr_in_place W s ws hW (by omega) hne, Props.C09Shift.shrBits_eq_shrInPlace W s hs ws]

-- non-vacuity: a 3-word slice; the carries cross both word boundaries; `shift = WORD_BITS` takes the pointer arm
example : IsWords 64 [2 ^ 64 - 1, 7, 2 ^ 63 + 9] ∧
    shl_in_place 64 [2 ^ 64 - 1, 7, 2 ^ 63 + 9] 63 = some (shlBits 64 [2 ^ 64 - 1, 7, 2 ^ 63 + 9] 63 0) ∧
    (shlBits 64 [2 ^ 64 - 1, 7, 2 ^ 63 + 9] 63 0).2 = 2 ^ 62 + 4 ∧
    shr_in_place 64 [2 ^ 64 - 1, 7, 2 ^ 63 + 9] 5 = some ([2 ^ 59 - 1 + 7 * 2 ^ 59, 9 * 2 ^ 59, 2 ^ 58], 31 * 2 ^ 59) ∧
    shr_in_place 64 [2 ^ 64 - 1, 7, 2 ^ 63 + 9] 64 = some ([7, 2 ^ 63 + 9, 0], 2 ^ 64 - 1) ∧
    shr_in_place_with_carry 64 [5, 3] 1 (2 ^ 63) = some ([2 ^ 63 + 2, 2 ^ 63 + 1], 2 ^ 63) := by
  refine ⟨by decide, by decide, by decide, by decide, by decide, by decide⟩
-- outside the domain the checked text refuses: a shift by 2·WORD_BITS overflows the double word
example : shl_in_place 64 [1] 128 = none := by decide

end Dashu.Props.GenShift
