import Dashu.Proofs.Ratio.Extra
import Dashu.Proofs.Ratio.Const
import Dashu.Proofs.Ratio.Hist
/-
  C04 — Rational arithmetic is exact and RBig stays in lowest terms.

  Property theorems only (proofs in `Dashu/Proofs/Ratio`).  The model (`Dashu/Model/Ratio`) mirrors
  the macro bodies of `rational/src/{repr,rbig,add,mul,div,sign,round}.rs` over exact integers;
  `Q` is a pair *as stored*, `Q.val` its value in Lean's `Rat` (`num / den`), `Reduced` the RBig
  invariant (`0 < den ∧ gcd |num| den = 1`), `RelaxedInv` the Relaxed one (`0 < den`, not both
  even).  No statement bounds the size of any integer or the length of any program.
  `Spec.*` (`Model/Ratio/Spec.lean`) is the value-level meaning of each operation in `Rat`.
-/
namespace Dashu.Props.C04
open Dashu.Model Dashu.Model.Ratio

-- ------------------------------------------------------------------ canonical form

/-- zero is stored as 0/1 -/
theorem reduced_zero_is_zero_over_one (q : Q) (h : Reduced q) (h0 : q.num = 0) : q.den = 1 :=
  h.zero_den h0

/-- the canonical form is unique: reduced pairs with equal values are equal pairs -/
theorem reduced_unique (a b : Q) (ha : Reduced a) (hb : Reduced b) (h : a.val = b.val) : a = b :=
  Reduced.ext ha hb h

/-- `Repr::reduce` returns the canonical form of the same number -/
theorem reduce_canonical (q : Q) (hd : 0 < q.den) :
    ∃ r, reduce q = .ok r ∧ Reduced r ∧ r.val = q.val :=
  reduce_spec q hd

/-- `Repr::reduce_with_hint` is a full reduction whenever the common factor divides the hint -/
theorem reduce_with_hint_canonical (q : Q) (hint : Nat) (hd : 0 < q.den) (hh : 0 < hint)
    (hdvd : Nat.gcd q.num.natAbs q.den ∣ hint) :
    ∃ r, reduceWithHint q hint = .ok r ∧ Reduced r ∧ r.val = q.val :=
  reduceWithHint_spec q hint hd hh hdvd

/-- `Repr::reduce2` strips exactly the common power of two and keeps the value -/
theorem reduce2_strips_common_power_of_two (q : Q) (hd : 0 < q.den) :
    ∃ r, reduce2 q = .ok r ∧ RelaxedInv r ∧ r.val = q.val ∧
      (q.num ≠ 0 → ∃ k, q.num = r.num * 2 ^ k ∧ q.den = r.den * 2 ^ k) :=
  reduce2_spec q hd

/-- `RBig::from_parts` / `Relaxed::from_parts`: zero denominator panics, otherwise canonical -/
theorem rbig_from_parts (n : Int) (d : Nat) :
    (d = 0 → rFromParts n d = .error .divideByZero) ∧
    (0 < d → ∃ r, rFromParts n d = .ok r ∧ Reduced r ∧ r.val = (n : Rat) / (d : Rat)) :=
  ⟨fun h => h ▸ rFromParts_zero n, rFromParts_spec n d⟩

theorem relaxed_from_parts (n : Int) (d : Nat) :
    (d = 0 → xFromParts n d = .error .divideByZero) ∧
    (0 < d → ∃ r, xFromParts n d = .ok r ∧ RelaxedInv r ∧ r.val = (n : Rat) / (d : Rat)) :=
  ⟨fun h => by simp [xFromParts, h], xFromParts_spec n d⟩

theorem rbig_from_parts_signed (n d : Int) :
    (d = 0 → rFromPartsSigned n d = .error .divideByZero) ∧
    (d ≠ 0 → ∃ r, rFromPartsSigned n d = .ok r ∧ Reduced r ∧ r.val = (n : Rat) / d) :=
  rFromPartsSigned_spec n d

theorem relaxed_from_parts_signed (n d : Int) :
    (d = 0 → xFromPartsSigned n d = .error .divideByZero) ∧
    (d ≠ 0 → ∃ r, xFromPartsSigned n d = .ok r ∧ RelaxedInv r ∧ r.val = (n : Rat) / d) :=
  xFromPartsSigned_spec n d

/-- `RBig::from_parts_const`: the const Euclid loop reduces to lowest terms (any magnitudes) -/
theorem rbig_from_parts_const (neg : Bool) (n d : Nat) :
    (d = 0 → rFromPartsConst neg n d = .error .divideByZero) ∧
    (0 < d → ∃ r, rFromPartsConst neg n d = .ok r ∧ Reduced r ∧
      r.val = (if neg then -((n : Rat) / d) else (n : Rat) / d)) :=
  rFromPartsConst_spec neg n d

/-- `Relaxed::from_parts_const`: exactly the common power of two is removed -/
theorem relaxed_from_parts_const (neg : Bool) (n d : Nat) :
    (d = 0 → xFromPartsConst neg n d = .error .divideByZero) ∧
    (0 < d → ∃ r, xFromPartsConst neg n d = .ok r ∧ RelaxedInv r ∧
      r.val = (if neg then -((n : Rat) / d) else (n : Rat) / d) ∧
      (n ≠ 0 → ∃ k, n = r.num.natAbs * 2 ^ k ∧ d = r.den * 2 ^ k)) :=
  xFromPartsConst_spec neg n d

-- non-vacuity: -6/4 is reduced to a pair of value -3/2
example : ∃ r, rFromPartsConst true 6 4 = .ok r ∧ Reduced r ∧ r.val = -((6 : Rat) / 4) := by
  obtain ⟨r, h1, h2, h3⟩ := (rbig_from_parts_const true 6 4).2 (by decide)
  exact ⟨r, h1, h2, by simpa using h3⟩

-- ------------------------------------------------------------------ addition through gcd(b, d)

/-- key lemma of add.rs: with `g = gcd(b,d)`, whatever `(d/g)·a ± (b/g)·c` and `b·(d/g)` still
    have in common divides `g` (so the gcd with the hint `g` is a full reduction, and `g = 1`
    needs none) -/
theorem addsub_remaining_factor_divides_hint (a c : Int) (b d : Nat) (hb : 0 < b) (hd : 0 < d)
    (hab : Nat.gcd a.natAbs b = 1) (hcd : Nat.gcd c.natAbs d = 1) (s : Int) (hs : s = 1 ∨ s = -1) :
    Nat.gcd (((d / Nat.gcd b d : Nat) : Int) * a + s * (((b / Nat.gcd b d : Nat) : Int) * c)).natAbs
      (b * (d / Nat.gcd b d)) ∣ Nat.gcd b d :=
  addsub_gcd_dvd a c b d hb hd
    ((reduced_iff_isCoprime ⟨a, b⟩).1 ⟨hb, hab⟩).2 ((reduced_iff_isCoprime ⟨c, d⟩).1 ⟨hd, hcd⟩).2 s hs

theorem rbig_add_exact (x y : Q) (hx : Reduced x) (hy : Reduced y) :
    ∃ r, R.add x y = .ok r ∧ Reduced r ∧ r.val = x.val + y.val :=
  R.add_spec x y hx hy

theorem rbig_sub_exact (x y : Q) (hx : Reduced x) (hy : Reduced y) :
    ∃ r, R.sub x y = .ok r ∧ Reduced r ∧ r.val = x.val - y.val :=
  R.sub_spec x y hx hy

-- non-vacuity: both branches of add.rs on concrete reduced operands
example : Reduced ⟨3, 4⟩ ∧ Reduced ⟨-5, 6⟩ ∧ R.add ⟨3, 4⟩ ⟨-5, 6⟩ = .ok ⟨-1, 12⟩ := by decide +kernel
example : Reduced ⟨1, 6⟩ ∧ Reduced ⟨1, 3⟩ ∧ R.add ⟨1, 6⟩ ⟨1, 3⟩ = .ok ⟨1, 2⟩ := by decide +kernel
example : Reduced ⟨1, 2⟩ ∧ Reduced ⟨1, 3⟩ ∧ R.sub ⟨1, 2⟩ ⟨1, 3⟩ = .ok ⟨1, 6⟩ := by decide +kernel

-- ------------------------------------------------------------------ multiplication, division

/-- cross cancellation `gcd(a,d)`, `gcd(b,c)` before multiplying leaves a reduced product -/
theorem rbig_mul_exact (x y : Q) (hx : Reduced x) (hy : Reduced y) :
    ∃ r, R.mul x y = .ok r ∧ Reduced r ∧ r.val = x.val * y.val :=
  R.mul_spec x y hx hy

theorem rbig_div_exact (x y : Q) (hx : Reduced x) (hy : Reduced y) :
    (y.num = 0 → R.div x y = .error .divideByZero) ∧
    (y.num ≠ 0 → ∃ r, R.div x y = .ok r ∧ Reduced r ∧ r.val = x.val / y.val) :=
  R.div_spec x y hx hy

example : Reduced ⟨-10, 9⟩ ∧ Reduced ⟨-15, 4⟩ ∧ R.div ⟨-10, 9⟩ ⟨-15, 4⟩ = .ok ⟨8, 27⟩ := by decide +kernel

/-- inverse; the inverse of zero is the `DivideByZero` panic -/
theorem rbig_inv_exact (x : Q) (hx : Reduced x) :
    (x.num = 0 → inv x = .error .divideByZero) ∧
    (x.num ≠ 0 → ∃ r, inv x = .ok r ∧ Reduced r ∧ r.val = 1 / x.val) :=
  inv_spec .R x hx

theorem rbig_pow_exact (x : Q) (n : Nat) (hx : Reduced x) :
    Reduced (pow x n) ∧ (pow x n).val = x.val ^ n :=
  pow_spec .R x n hx

theorem rbig_sqr_exact (x : Q) (hx : Reduced x) :
    Reduced (sqr x) ∧ (sqr x).val = x.val * x.val := by
  rw [sqr_eq_pow]; have := pow_spec .R x 2 hx; exact ⟨this.1, by rw [this.2, pow_two]⟩

theorem rbig_cubic_exact (x : Q) (hx : Reduced x) :
    Reduced (cubic x) ∧ (cubic x).val = x.val * x.val * x.val := by
  rw [cubic_eq_pow]; have := pow_spec .R x 3 hx; exact ⟨this.1, by rw [this.2]; ring⟩

theorem rbig_neg_exact (x : Q) (hx : Reduced x) : Reduced (neg x) ∧ (neg x).val = -x.val :=
  neg_spec .R x hx

theorem rbig_abs_exact (x : Q) (hx : Reduced x) : Reduced (abs x) ∧ (abs x).val = |x.val| :=
  abs_spec .R x hx

theorem rbig_signum_exact (x : Q) (hx : Reduced x) :
    Reduced (signum x) ∧ (signum x).val = Spec.sgnRat x.val :=
  signum_spec .R x hx.den_pos

theorem rbig_mul_sign_exact (x : Q) (s : Bool) (hx : Reduced x) :
    Reduced (mulSign x s) ∧ (mulSign x s).val = if s then -x.val else x.val :=
  mulSign_spec .R x s hx

-- ------------------------------------------------------------------ remainders

/-- `%`: the remainder of least magnitude, `x − y·round(x/y)`, ties away from zero -/
theorem rbig_rem_exact (x y : Q) (hx : Reduced x) (hy : Reduced y) :
    (y.num = 0 → R.rem x y = .error .divideByZero) ∧
    (y.num ≠ 0 → ∃ r, R.rem x y = .ok r ∧ Reduced r ∧ r.val = Spec.rem x.val y.val) :=
  rem_spec .R x y hx hy

/-- what `Spec.round` is: the nearest integer, ties away from zero -/
theorem spec_round_characterisation (q : Rat) :
    (0 ≤ q → ((Spec.round q : Int) : Rat) - 1 / 2 ≤ q ∧ q < (Spec.round q : Int) + 1 / 2) ∧
    (q < 0 → ((Spec.round q : Int) : Rat) - 1 / 2 < q ∧ q ≤ (Spec.round q : Int) + 1 / 2) :=
  round_bounds q

theorem rbig_rem_euclid_exact (x y : Q) (hx : Reduced x) (hy : Reduced y) :
    (y.num = 0 → R.remEuclid x y = .error .divideByZero) ∧
    (y.num ≠ 0 → ∃ r, R.remEuclid x y = .ok r ∧ Reduced r ∧ r.val = Spec.remEuclid x.val y.val) :=
  remEuclid_spec .R x y hx hy

/-- `div_euclid` (RBig and Relaxed share the body) -/
theorem div_euclid_exact (x y : Q) (hb : 0 < x.den) (hd : 0 < y.den) :
    (y.num = 0 → R.divEuclid x y = .error .divideByZero) ∧
    (y.num ≠ 0 → R.divEuclid x y = .ok (Spec.divEuclid x.val y.val)) := by
  obtain ⟨a, b⟩ := x
  obtain ⟨c, d⟩ := y
  simp only at hb hd
  constructor
  · intro h; simp only at h; simp [R.divEuclid, h]
  · intro hc
    simp only at hc
    have hbq : (0 : ℚ) < b := by exact_mod_cast hb
    have hdq : (0 : ℚ) < d := by exact_mod_cast hd
    have hR : (b : ℤ) * c ≠ 0 := mul_ne_zero (by exact_mod_cast hb.ne') hc
    simp only [R.divEuclid, if_neg hc, divEuclidK, if_neg hR]
    congr 1
    symm
    apply divEuclid_bridge (a * d) (b * c) hR ((b : ℚ) * d) (mul_pos hbq hdq)
    · simp only [Q.val_mk]; push_cast; field_simp
    · simp only [Q.val_mk]; push_cast; field_simp


/-- `impl_euclid_divrem_with_rbig` -/
theorem rbig_div_rem_euclid_exact (x y : Q) (hx : Reduced x) (hy : Reduced y) :
    (y.num = 0 → R.divRemEuclid x y = .error .divideByZero) ∧
    (y.num ≠ 0 → ∃ r, R.divRemEuclid x y = .ok (Spec.divEuclid x.val y.val, r) ∧ Reduced r ∧
        r.val = Spec.remEuclid x.val y.val) := by
  obtain ⟨a, b⟩ := x
  obtain ⟨c, d⟩ := y
  have hb : 0 < b := hx.den_pos
  have hd : 0 < d := hy.den_pos
  constructor
  · intro h
    simp only at h
    simp [R.divRemEuclid, gcdK_of_pos_right b hd, h, divEuclidK, bind_ok', bind_error']
  · intro hc
    simp only at hc
    obtain ⟨r, hr1, hr2, hr3⟩ := (remEuclid_spec .R ⟨a, b⟩ ⟨c, d⟩ hx hy).2 hc
    obtain ⟨hb', hD, ex, ey⟩ :=
      common_den a c hb hd (Nat.gcd_dvd_left b d) (Nat.gcd_dvd_right b d)
    have hR : ((b / Nat.gcd b d : ℕ) : ℤ) * c ≠ 0 := mul_ne_zero (by exact_mod_cast hb'.ne') hc
    simp only [evalBin, R.remEuclid, gcdK_of_pos_right b hd, bind_ok', remEuclidK, if_neg hR] at hr1
    refine ⟨r, ?_, hr2, hr3⟩
    simp only [R.divRemEuclid, gcdK_of_pos_right b hd, bind_ok', remEuclidK, divEuclidK, if_neg hR,
      hr1]
    rw [show Spec.divEuclid (⟨a, b⟩ : Q).val (⟨c, d⟩ : Q).val = _ from
      divEuclid_bridge _ _ hR _ (by exact_mod_cast hD) _ _ ex ey]
    rfl


example : Reduced ⟨-1, 2⟩ ∧ Reduced ⟨1, 3⟩ ∧ R.rem ⟨-1, 2⟩ ⟨1, 3⟩ = .ok ⟨1, 6⟩ ∧
    R.divRemEuclid ⟨-1, 2⟩ ⟨1, 3⟩ = .ok (-2, ⟨1, 6⟩) := by decide +kernel

-- ------------------------------------------------------------------ rounding (round.rs)

theorem trunc_exact (x : Q) (hb : 0 < x.den) : trunc x = .ok (Spec.trunc x.val) := by
  simp [trunc, divRemK_pos _ hb, Q.val_def, trunc_bridge _ _ hb]


/-- `Repr::floor` -/
theorem floor_exact (x : Q) (hb : 0 < x.den) : floor x = .ok x.val.floor := by
  obtain ⟨a, b⟩ := x
  simp only at hb
  have hbq : (0 : ℚ) < b := by exact_mod_cast hb
  obtain ⟨hd, h1, h2, h3, h4⟩ := tdecomp a b hb
  simp only [floor, divRemK_pos _ hb, bind_ok', Q.val_mk, rat_floor_eq]
  congr 1
  symm
  by_cases ht : Int.tmod a b < 0
  · have htq : (Int.tmod a b : ℚ) < 0 := by exact_mod_cast ht
    rw [if_pos ht]
    exact floor_div_eq hbq _ (t := Int.tmod a b + b) (by rw [hd]; push_cast; ring) (by linarith)
      (by linarith)
  · rw [if_neg ht]
    exact floor_div_eq hbq _ hd (by exact_mod_cast not_lt.1 ht) h3


/-- `Repr::ceil` -/
theorem ceil_exact (x : Q) (hb : 0 < x.den) : ceil x = .ok x.val.ceil := by
  obtain ⟨a, b⟩ := x
  simp only at hb
  have hbq : (0 : ℚ) < b := by exact_mod_cast hb
  obtain ⟨hd, h1, h2, h3, h4⟩ := tdecomp a b hb
  simp only [ceil, divRemK_pos _ hb, bind_ok', Q.val_mk, Rat.ceil_eq_neg_floor_neg, rat_floor_eq,
    ← neg_div]
  congr 1
  by_cases ht : Int.tmod a b > 0
  · have htq : (0 : ℚ) < (Int.tmod a b : ℚ) := by exact_mod_cast ht
    rw [if_pos ht, floor_div_eq hbq (-(Int.tdiv a b + 1)) (t := b - Int.tmod a b)
      (by rw [hd]; push_cast; ring) (by linarith) (by linarith), neg_neg]
  · have htq : (Int.tmod a b : ℚ) ≤ 0 := by exact_mod_cast not_lt.1 ht
    rw [if_neg ht, floor_div_eq hbq (-Int.tdiv a b) (t := -(Int.tmod a b : ℚ))
      (by rw [hd]; push_cast; ring) (by linarith) (by linarith), neg_neg]


/-- `Repr::round`: nearest integer, ties away from zero -/
theorem round_exact (x : Q) (hb : 0 < x.den) : round x = .ok (Spec.round x.val) := by
  obtain ⟨a, b⟩ := x
  simp only at hb
  obtain ⟨-, h1, h2, -, -⟩ := tdecomp a b hb
  simp only [Ratio.round, divRemK_pos _ hb, bind_ok', Q.val_mk, round_div a b hb, ge_iff_le, ← not_lt]
  congr 1
  -- a remainder that is not zero has the sign of `a`
  split_ifs with hc ha
  · rfl
  · have : Int.tmod a b ≤ 0 := by exact_mod_cast h2 ha
    rw [show sgn (Int.tmod a b) = -1 from if_pos (by omega)]; rfl
  · have : 0 ≤ Int.tmod a b := by exact_mod_cast h1 (not_lt.1 ha)
    rw [show sgn (Int.tmod a b) = 1 from if_neg (by omega)]


/-- `fract` of an RBig needs no reduction ("no need to reduce here", round.rs) -/
theorem rbig_fract_exact (x : Q) (hx : Reduced x) :
    ∃ r, fract x = .ok r ∧ Reduced r ∧ r.val = x.val - (Spec.trunc x.val : Rat) :=
  fract_spec .R x hx

theorem split_at_point_is_trunc_fract (x : Q) (hb : 0 < x.den) :
    splitAtPoint x = (trunc x >>= fun t => fract x >>= fun f => pure (t, f)) :=
  splitAtPoint_eq x hb

-- ------------------------------------------------------------------ mixed with integers

theorem rbig_add_int_exact (sub : Bool) (x : Q) (i : Int) (hx : Reduced x) :
    Reduced (R.addSubInt sub x i) ∧
      (R.addSubInt sub x i).val = if sub then x.val - i else x.val + i :=
  addSubInt_spec .R sub x i hx

theorem int_sub_rbig_exact (i : Int) (x : Q) (hx : Reduced x) :
    Reduced (R.intSub i x) ∧ (R.intSub i x).val = i - x.val :=
  intSub_spec .R i x hx

theorem rbig_mul_int_exact (x : Q) (i : Int) (hx : Reduced x) :
    ∃ r, R.mulInt x i = .ok r ∧ Reduced r ∧ r.val = x.val * i :=
  R.mulInt_spec x i hx

theorem rbig_div_int_exact (x : Q) (i : Int) (hx : Reduced x) :
    (i = 0 → R.divInt x i = .error .divideByZero) ∧
    (i ≠ 0 → ∃ r, R.divInt x i = .ok r ∧ Reduced r ∧ r.val = x.val / i) :=
  R.divInt_spec x i hx

theorem int_div_rbig_exact (i : Int) (x : Q) (hx : Reduced x) :
    (x.num = 0 → R.intDiv i x = .error .divideByZero) ∧
    (x.num ≠ 0 → ∃ r, R.intDiv i x = .ok r ∧ Reduced r ∧ r.val = i / x.val) :=
  R.intDiv_spec i x hx

-- ------------------------------------------------------------------ Relaxed

/-- every binary operator of both types against the value-level specification: a valid result
    with the specified value, or `DivideByZero` exactly where the specification divides by zero -/
theorem binary_ops_exact (o : Bin) (k : Kind) (x y : Q) (hx : k.Inv x) (hy : k.Inv y) :
    match evalBin o k x y with
    | .ok q => k.Inv q ∧ Spec.bin o x.val y.val = some q.val
    | .error e => e = .divideByZero ∧ Spec.bin o x.val y.val = none :=
  evalBin_good o k x y hx hy

theorem int_right_ops_exact (o : IntOp) (k : Kind) (x : Q) (z : Int) (hx : k.Inv x) :
    match evalIntR o k x z with
    | .ok q => k.Inv q ∧ Spec.intR o x.val z = some q.val
    | .error e => e = .divideByZero ∧ Spec.intR o x.val z = none :=
  evalIntR_good o k x z hx

theorem int_left_ops_exact (o : IntOp) (k : Kind) (z : Int) (x : Q) (hx : k.Inv x) :
    match evalIntL o k z x with
    | .ok q => k.Inv q ∧ Spec.intL o z x.val = some q.val
    | .error e => e = .divideByZero ∧ Spec.intL o z x.val = none :=
  evalIntL_good o k z x hx

theorem unary_ops_exact (o : Un) (r : Reg) (hr : r.Inv) :
    match evalUn o r with
    | .ok r' => r'.Inv ∧ Spec.un o r.val = some r'.val
    | .error e => e = .divideByZero ∧ Spec.un o r.val = none :=
  evalUn_good o r hr

/-- `impl_euclid_divrem_with_relaxed` -/
theorem relaxed_div_rem_euclid_exact (x y : Q) (hx : RelaxedInv x) (hy : RelaxedInv y) :
    (y.num = 0 → X.divRemEuclid x y = .error .divideByZero) ∧
    (y.num ≠ 0 → ∃ r, X.divRemEuclid x y = .ok (Spec.divEuclid x.val y.val, r) ∧ RelaxedInv r ∧
        r.val = Spec.remEuclid x.val y.val) := by
  obtain ⟨a, b⟩ := x
  obtain ⟨c, d⟩ := y
  have hb : 0 < b := hx.den_pos
  have hd : 0 < d := hy.den_pos
  constructor
  · intro h
    simp only at h
    simp [X.divRemEuclid, h, divEuclidK, bind_error']
  · intro hc
    simp only at hc
    obtain ⟨r, hr1, hr2, hr3⟩ := (remEuclid_spec .X ⟨a, b⟩ ⟨c, d⟩ hx hy).2 hc
    obtain ⟨-, hD, ex, ey⟩ := common_den a c hb hd (one_dvd b) (one_dvd d)
    simp only [Nat.div_one] at hD ex ey
    have hR : (b : ℤ) * c ≠ 0 := mul_ne_zero (by exact_mod_cast hb.ne') hc
    simp only [evalBin, X.remEuclid, mul_comm a, mul_comm c, bind_ok', remEuclidK, if_neg hR] at hr1
    refine ⟨r, ?_, hr2, hr3⟩
    simp only [X.divRemEuclid, mul_comm a, mul_comm c, bind_ok', remEuclidK, divEuclidK, if_neg hR,
      hr1]
    rw [show Spec.divEuclid (⟨a, b⟩ : Q).val (⟨c, d⟩ : Q).val = _ from
      divEuclid_bridge _ _ hR _ (by exact_mod_cast hD) _ _ ex ey]
    rfl


/-- **Relaxed = RBig**: on operands denoting the same numbers every binary operator panics with
    the same kind on both types or returns the same value, and canonicalising the Relaxed result
    gives exactly the stored RBig result -/
theorem relaxed_equals_rbig (o : Bin) (x y x' y' : Q) (hx : RelaxedInv x) (hy : RelaxedInv y)
    (hx' : Reduced x') (hy' : Reduced y') (ex : x.val = x'.val) (ey : y.val = y'.val) :
    match evalBin o .X x y, evalBin o .R x' y' with
    | .ok r, .ok r' => r.val = r'.val ∧ reduce r = .ok r'
    | .error e, .error e' => e = e'
    | _, _ => False := by
  have h1 := evalBin_good o .X x y hx hy
  have h2 := evalBin_good o .R x' y' hx' hy'
  rw [ex, ey] at h1
  have ha := h1.agree h2
  cases hX : evalBin o .X x y <;> cases hR : evalBin o .R x' y' <;> rw [hX] at h1 ha <;>
    rw [hR] at h2 ha <;> simp only at ha ⊢
  · exact ha
  · -- both succeed: the canonical form of the Relaxed result is the reduced pair of the same value
    obtain ⟨c, hc1, hc2, hc3⟩ := reduce_spec _ (Kind.Inv.den_pos h1.1)
    exact ⟨ha, by rw [hc1, Reduced.ext hc2 h2.1 (hc3.trans ha)]⟩


example : RelaxedInv ⟨9, 6⟩ ∧ RelaxedInv ⟨15, 9⟩ ∧ X.mul ⟨9, 6⟩ ⟨15, 9⟩ = .ok ⟨135, 54⟩ ∧
    R.mul ⟨3, 2⟩ ⟨5, 3⟩ = .ok ⟨5, 2⟩ := by decide +kernel

-- ------------------------------------------------------------------ histories

/-- **step theorem** -/
theorem step_exact (env : List Reg) (op : Op) (henv : ∀ r ∈ env, r.Inv) :
    match step env op with
    | .ok r => r.Inv ∧ Spec.step (env.map Reg.val) op = some r.val
    | .panic k => k = .divideByZero ∧ Spec.step (env.map Reg.val) op = none
    | .bad => True :=
  step_sound env op henv

/-- **history theorem** (the "every RBig ever produced" quantifier): for every finite program over
    a register file of valid values, every register ever produced — also those produced before a
    panic — satisfies the invariant of its type: an RBig register has a positive denominator
    coprime to its numerator (zero is 0/1), a Relaxed register is not even/even. -/
theorem history_invariant (ops : List Op) (env : List Reg) (henv : ∀ r ∈ env, r.Inv) :
    ∀ r ∈ (run ops env).1, r.Inv :=
  run_inv ops env henv

/-- **history theorem** (values): a program computes exactly the value-level interpretation of
    the same program, stops at the same step, and only ever panics with `DivideByZero`. -/
theorem history_values (ops : List Op) (env : List Reg) (henv : ∀ r ∈ env, r.Inv) :
    match (run ops env).2 with
    | .done => Spec.run ops (env.map Reg.val) = ((run ops env).1.map Reg.val, true)
    | .panic k => k = .divideByZero ∧
        Spec.run ops (env.map Reg.val) = ((run ops env).1.map Reg.val, false)
    | .bad => True :=
  run_vals ops env henv

-- non-vacuity: a program feeding results back, all registers reduced
example : (run [.bin .add 0 1, .bin .mul 2 2, .bin .div 3 0, .un .inv 4, .intR .add 5 (-5)]
    [⟨.R, ⟨3, 4⟩⟩, ⟨.R, ⟨-5, 6⟩⟩]).1.map (·.q) =
    [⟨3, 4⟩, ⟨-5, 6⟩, ⟨-1, 12⟩, ⟨1, 144⟩, ⟨1, 108⟩, ⟨108, 1⟩, ⟨103, 1⟩] := by decide +kernel

-- ------------------------------------------------------------------ histories: Relaxed = RBig, reduce2 invariant

/-- **history theorem, Relaxed = RBig**: the same program run on two register files denoting the
    same numbers (one all-`Relaxed`, one all-`RBig`, or any mix), neither run malformed: both runs
    stop at the same step in the same way (done, or `DivideByZero`) and every register ever
    produced denotes the same number in both. -/
theorem history_relaxed_equals_rbig (ops : List Op) (e1 e2 : List Reg) (h1 : ∀ r ∈ e1, r.Inv)
    (h2 : ∀ r ∈ e2, r.Inv) (hv : e1.map Reg.val = e2.map Reg.val)
    (nb1 : (run ops e1).2 ≠ .bad) (nb2 : (run ops e2).2 ≠ .bad) :
    (run ops e1).1.map Reg.val = (run ops e2).1.map Reg.val ∧
    (((run ops e1).2 = .done ∧ (run ops e2).2 = .done) ∨
     ((run ops e1).2 = .panic .divideByZero ∧ (run ops e2).2 = .panic .divideByZero)) :=
  run_vals_agree ops e1 e2 h1 h2 hv nb1 nb2

/-- … and as stored pairs: canonicalising register `i` of the first run gives exactly the
    numerator/denominator stored in register `i` of the second run wherever that one is an `RBig` -/
theorem history_canonicalize_equals_rbig (ops : List Op) (e1 e2 : List Reg) (h1 : ∀ r ∈ e1, r.Inv)
    (h2 : ∀ r ∈ e2, r.Inv) (hv : e1.map Reg.val = e2.map Reg.val)
    (nb1 : (run ops e1).2 ≠ .bad) (nb2 : (run ops e2).2 ≠ .bad)
    (i : Nat) (r1 r2 : Reg) (g1 : (run ops e1).1[i]? = some r1) (g2 : (run ops e2).1[i]? = some r2)
    (hk : r2.kind = .R) : reduce r1.q = .ok r2.q := by
  have hl := (run_vals_agree ops e1 e2 h1 h2 hv nb1 nb2).1
  have i1 : r1.Inv := run_inv ops e1 h1 r1 (List.mem_of_getElem? g1)
  have i2 : r2.Inv := run_inv ops e2 h2 r2 (List.mem_of_getElem? g2)
  have hr : Reduced r2.q := by
    have := (Reg.inv_iff r2).1 i2; rw [hk] at this; exact this
  have e : r1.val = r2.val := by
    have a : ((run ops e1).1.map Reg.val)[i]? = some r1.val := by rw [List.getElem?_map, g1]; rfl
    have b : ((run ops e2).1.map Reg.val)[i]? = some r2.val := by rw [List.getElem?_map, g2]; rfl
    rw [hl] at a
    exact Option.some.inj (a.symm.trans b)
  exact reduce_eq_of_val_eq i1.den_pos hr e


/-- **Relaxed history theorem** (the `reduce2` invariant over all histories): every register ever
    produced by a program over `Relaxed` registers that never canonicalises is a `Relaxed`, has a
    positive denominator, is not even/even, and (unless zero) is a fixed point of `Repr::reduce2`. -/
theorem history_relaxed_reduce2_invariant (ops : List Op) (env : List Reg) (hk : ∀ r ∈ env, r.kind = .X)
    (henv : ∀ r ∈ env, RelaxedInv r.q) (hops : ∀ op ∈ ops, op.noCanon) :
    ∀ r ∈ (run ops env).1, r.kind = .X ∧ RelaxedInv r.q ∧ (r.q.num ≠ 0 → reduce2 r.q = .ok r.q) := by
  intro r hr
  have k := run_kind_X ops env hk hops r hr
  have hinv : ∀ r ∈ env, r.Inv := by
    intro r hr; rw [Reg.inv_iff, hk r hr]; exact henv r hr
  have i := run_inv ops env hinv r hr
  rw [Reg.inv_iff, k] at i
  have i' : RelaxedInv r.q := i
  refine ⟨k, i', ?_⟩
  intro hn
  unfold reduce2
  rw [if_neg hn, if_neg i'.1.ne']
  -- a common trailing zero would make numerator and denominator both even
  have hz : ¬ min (tz r.q.num.natAbs) (tz r.q.den) > 0 := fun hpos => by
    have hp := lt_min_iff.1 hpos
    have e1 : 2 ∣ r.q.num.natAbs :=
      (dvd_pow_self 2 hp.1.ne').trans (tz_spec _ (Int.natAbs_ne_zero.mpr hn)).1
    have e2 : 2 ∣ r.q.den := (dvd_pow_self 2 hp.2.ne').trans (tz_spec _ i'.1.ne').1
    exact i'.2 ⟨by omega, by omega⟩
  exact if_neg hz


-- non-vacuity: the same program on Relaxed 9/6, 15/9 and on RBig 3/2, 5/3
example : (run [.bin .mul 0 1, .un .inv 2] [⟨.X, ⟨9, 6⟩⟩, ⟨.X, ⟨15, 9⟩⟩]).1.map (·.q)
      = [⟨9, 6⟩, ⟨15, 9⟩, ⟨135, 54⟩, ⟨54, 135⟩] ∧
    (run [.bin .mul 0 1, .un .inv 2] [⟨.R, ⟨3, 2⟩⟩, ⟨.R, ⟨5, 3⟩⟩]).1.map (·.q)
      = [⟨3, 2⟩, ⟨5, 3⟩, ⟨5, 2⟩, ⟨2, 5⟩] ∧
    reduce ⟨54, 135⟩ = .ok ⟨2, 5⟩ ∧ Op.noCanon (.bin .mul 0 1) ∧ Op.noCanon (.un .inv 2) :=
  ⟨by decide +kernel, by decide +kernel, by decide +kernel, trivial, trivial⟩

-- ------------------------------------------------------------------ sign corners of inv / pow

/-- `Inverse`: for either sign of the operand the result has the positive denominator `|numerator|`,
    the magnitude of the old denominator as numerator and the operand's sign -/
theorem inv_sign_corner (x : Q) (hn : x.num ≠ 0) :
    ∃ r, inv x = .ok r ∧ r.den = x.num.natAbs ∧ 0 < r.den ∧ r.num.natAbs = x.den ∧
      (0 < x.den → (r.num < 0 ↔ x.num < 0)) := by
  refine ⟨⟨sgn x.num * x.den, x.num.natAbs⟩, if_neg hn, rfl, Int.natAbs_pos.mpr hn, ?_, ?_⟩
  · unfold sgn; split <;> simp
  · intro hd
    unfold sgn
    split
    · simp only; omega
    · simp only; omega


theorem repr_inv_involutive (x : Q) (hd : 0 < x.den) (hn : x.num ≠ 0) : (inv x >>= inv) = .ok x :=
  inv_inv x hd hn

/-- `x.inv()` stores the same pair as `RBig::ONE / x`, same panic for zero -/
theorem rbig_inv_is_one_div (x : Q) (hx : Reduced x) : inv x = R.div Q.one x := by
  have h1 := inv_spec .R x hx
  have h2 := R.div_spec Q.one x (by decide) hx
  by_cases hn : x.num = 0
  · rw [h1.1 hn, h2.1 hn]
  · obtain ⟨r, e1, r1, v1⟩ := h1.2 hn
    obtain ⟨r', e2, r2, v2⟩ := h2.2 hn
    rw [e1, e2]
    have : (Q.one).val = 1 := by simp [Q.one, Q.val_def]
    rw [this] at v2
    rw [Reduced.ext r1 r2 (v1.trans v2.symm)]


/-- `pow(0)` is 1/1 for every operand (also `0^0`); zero stays 0/1 under positive powers;
    `(±1)^n` for every `n` -/
theorem pow_corners (x : Q) (n : Nat) :
    pow x 0 = Q.one ∧ pow x 1 = x ∧ (0 < n → pow Q.zero n = Q.zero) ∧ pow Q.one n = Q.one ∧
    pow Q.negOne n = ⟨if n % 2 = 0 then 1 else -1, 1⟩ :=
  ⟨pow_zero_exp x, pow_one_exp x, pow_zero_base n, pow_one_base n, pow_neg_one n⟩

/-- the power kernels the driver executes (`IBig::pow`: sign by the parity of the exponent, magnitude by `UBig::pow`
    with its shortcuts for exponent 0 and the bases 0, 1) are `^`, hence `Repr::pow` is component-wise `^`; and the
    specification's `qpow` (which spares the long product for the bases 0, ±1) IS `x ^ n` — for every exponent -/
theorem pow_kernels_are_powers (x : Q) (a : Int) (b n : Nat) (v : Rat) :
    upowK b n = b ^ n ∧ ipowK a n = a ^ n ∧ pow x n = ⟨x.num ^ n, x.den ^ n⟩ ∧ Spec.qpow v n = v ^ n :=
  ⟨upowK_eq b n, ipowK_eq a n, pow_def x n, Spec.qpow_eq v n⟩

/-- sign of a power: positive denominator; negative numerator exactly for negative base, odd exponent -/
theorem pow_sign_corner (x : Q) (n : Nat) (hd : 0 < x.den) :
    0 < (pow x n).den ∧ ((pow x n).num < 0 ↔ (x.num < 0 ∧ n % 2 = 1)) := by
  rw [pow_def]
  refine ⟨Nat.pow_pos hd, ?_⟩
  simp only
  constructor
  · intro h
    have hneg : x.num < 0 := by
      by_contra hc
      have : 0 ≤ x.num ^ n := pow_nonneg (not_lt.mp hc) n
      omega
    refine ⟨hneg, ?_⟩
    rcases Nat.even_or_odd n with he | ho
    · have := he.pow_nonneg x.num; omega
    · exact Nat.odd_iff.mp ho
  · rintro ⟨hneg, ho⟩
    exact (Nat.odd_iff.mpr ho).pow_neg hneg


/-- `pow` agrees with repeated `RBig *` as stored pairs -/
theorem rbig_pow_succ_is_mul (x : Q) (n : Nat) (hx : Reduced x) : R.mul (pow x n) x = .ok (pow x (n + 1)) := by
  have hp := pow_spec .R x n hx
  obtain ⟨r, e, hr, hv⟩ := R.mul_spec (pow x n) x hp.1 hx
  have hp' := pow_spec .R x (n + 1) hx
  rw [e, Reduced.ext hr hp'.1 (by rw [hv, hp.2, hp'.2, pow_succ])]


example : inv ⟨-3, 4⟩ = .ok ⟨-4, 3⟩ ∧ (inv ⟨-3, 4⟩ >>= inv) = .ok ⟨-3, 4⟩ ∧ R.div Q.one ⟨-3, 4⟩ = .ok ⟨-4, 3⟩ := by decide +kernel
example : ipowK (-1) (2 ^ 64 - 1) = -1 ∧ pow Q.negOne (2 ^ 64 - 1) = Q.negOne ∧ Spec.qpow (-1) (2 ^ 64 - 2) = 1 := by decide +kernel
example : pow ⟨-2, 3⟩ 3 = ⟨-8, 27⟩ ∧ pow ⟨-2, 3⟩ 4 = ⟨16, 81⟩ ∧ R.mul (pow ⟨-2, 3⟩ 3) ⟨-2, 3⟩ = .ok ⟨16, 81⟩ := by decide +kernel

-- ------------------------------------------------------------------ predicates (rbig.rs, sign.rs)

/-- `is_zero`, `sign` (both types): read off the numerator, they decide `value = 0` / `value < 0` -/
theorem predicates_exact (k : Kind) (x : Q) (hx : k.Inv x) :
    (isZero x = true ↔ x.val = 0) ∧ (isNegative x = true ↔ x.val < 0) :=
  preds_val x hx.den_pos

/-- `RBig::is_one` (1/1 stored) and `RBig::is_int` (denominator 1) decide `value = 1` / "the value is an integer" -/
theorem rbig_is_one_is_int_exact (x : Q) (hx : Reduced x) :
    (R.isOne x = true ↔ x.val = 1) ∧ (R.isInt x = true ↔ x.val.den = 1) :=
  rbig_isOne_isInt_val x hx

/-- `Relaxed::is_one` compares numerator with denominator (3/3 is one): it decides `value = 1`, so it agrees
    with `RBig::is_one` of the RBig denoting the same number -/
theorem relaxed_is_one_exact (x r : Q) (hx : RelaxedInv x) (hr : Reduced r) (hv : x.val = r.val) :
    (X.isOne x = true ↔ x.val = 1) ∧ X.isOne x = R.isOne r := by
  have h1 := relaxed_isOne_val x hx.den_pos
  refine ⟨h1, ?_⟩
  have h2 := (rbig_isOne_isInt_val r hr).1
  rw [Bool.eq_iff_iff, h1, h2, hv]

example : RelaxedInv ⟨3, 3⟩ ∧ X.isOne ⟨3, 3⟩ = true ∧ R.isOne ⟨1, 1⟩ = true ∧ R.isInt ⟨-2, 1⟩ = true ∧
    isNegative ⟨-2, 1⟩ = true ∧ isZero ⟨0, 1⟩ = true := by decide +kernel

-- ------------------------------------------------------------------ non-vacuity: concrete values meeting the hypotheses

example : Nat.gcd (6 : Int).natAbs 8 ∣ 4 ∧ reduceWithHint ⟨6, 8⟩ 4 = .ok ⟨3, 4⟩ := by decide +kernel
example : reduce2 ⟨12, 8⟩ = .ok ⟨3, 2⟩ := by decide +kernel
example : Reduced ⟨-3, 4⟩ ∧ inv ⟨-3, 4⟩ = .ok ⟨-4, 3⟩ ∧ inv ⟨0, 1⟩ = .error .divideByZero := by decide +kernel
example : Reduced ⟨-2, 3⟩ ∧ pow ⟨-2, 3⟩ 3 = ⟨-8, 27⟩ ∧ sqr ⟨-2, 3⟩ = ⟨4, 9⟩ := by decide +kernel
example : R.mulInt ⟨3, 4⟩ 6 = .ok ⟨9, 2⟩ ∧ R.divInt ⟨3, 4⟩ (-6) = .ok ⟨-1, 8⟩ ∧
    R.intDiv 6 ⟨-3, 4⟩ = .ok ⟨-8, 1⟩ ∧ R.divInt ⟨3, 4⟩ 0 = .error .divideByZero := by decide +kernel
example : Reduced (R.addSubInt true ⟨3, 4⟩ 2) ∧ R.addSubInt true ⟨3, 4⟩ 2 = ⟨-5, 4⟩ ∧
    R.intSub 2 ⟨3, 4⟩ = ⟨5, 4⟩ := by decide +kernel
example : trunc ⟨-7, 2⟩ = .ok (-3) ∧ floor ⟨-7, 2⟩ = .ok (-4) ∧ ceil ⟨-7, 2⟩ = .ok (-3) ∧
    Ratio.round ⟨-7, 2⟩ = .ok (-4) ∧ fract ⟨-7, 2⟩ = .ok ⟨-1, 2⟩ := by decide +kernel
example : R.remEuclid ⟨-10, 9⟩ ⟨-15, 4⟩ = .ok ⟨95, 36⟩ ∧ R.divEuclid ⟨-10, 9⟩ ⟨-15, 4⟩ = .ok 1 := by
  decide +kernel
example : RelaxedInv ⟨9, 6⟩ ∧ RelaxedInv ⟨15, 9⟩ ∧ Reduced ⟨3, 2⟩ ∧ Reduced ⟨5, 3⟩ ∧
    (⟨9, 6⟩ : Q).val = (⟨3, 2⟩ : Q).val ∧ (⟨15, 9⟩ : Q).val = (⟨5, 3⟩ : Q).val := by decide +kernel
example : ∀ r ∈ [(⟨.R, ⟨3, 4⟩⟩ : Reg), ⟨.X, ⟨9, 6⟩⟩], r.Inv := by decide +kernel
example : rFromPartsSigned 6 (-4) = .ok ⟨-3, 2⟩ ∧ rFromParts 5 0 = .error .divideByZero := by decide +kernel


end Dashu.Props.C04
