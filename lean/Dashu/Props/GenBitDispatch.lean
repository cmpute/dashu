import Dashu.Gen.BitDispatch
import Dashu.Props.GenBitOpsHeap
/-
  C09, Tie A over the OPERATOR DISPATCH of the unsigned bit operators (`integer/src/bits.rs`, `mod repr`): the sixteen
  `impl BitAnd|BitOr|BitXor|AndNot<TypedRepr|TypedReprRef> for TypedRepr|TypedReprRef`.  `Dashu.Gen.BitDispatch` is regenerated from
  the Rust text on every run: the `match (self, rhs)` arms (inline/inline `from_dword(a OP b)`, the `lowest_dword` shortcuts of `&`
  and `and_not`, which callee gets which operand in which order, the `len0 <= len1` / `len0 >= len1` operand choice, the commutative
  forwarding `rhs.op(self)` of the ref_val forms) over the word loops regenerated in `Gen/BitOpsHeap`.
  Theorems: every ownership form of every operator, on operands whose heap form has at least two words (canonical heap values have
  at least three), never fails and IS the hand model's `TRepr.bitand / bitor / bitxor / andNot` — the definitions the driver executes
  and whose two's-complement meaning `Props/C09.lean` proves.
-/
namespace Dashu.Props.GenBitDispatch
open Dashu.Model Dashu.GluePrelude Dashu.Gen.BitOpsHeap Dashu.Gen.BitDispatch Dashu.Props.GenBitOpsHeap

/-- the heap form of the operand has at least two words (`Buffer::lowest_dword` asserts it; canonical heap values have ≥ 3) -/
def Wide : TRepr → Prop
  | .small _ => True
  | .large ws => 2 ≤ ws.length

theorem lowest_dword_eq (W : Nat) (ws : List Nat) (h : 2 ≤ ws.length) : lowest_dword W ws = some (lowestDword W ws) := by
  match ws, h with
  | lo :: hi :: t, _ => rfl

/-- fewer than two words: the checked read refuses (the assertion of `Buffer::lowest_dword`) -/
theorem lowest_dword_short (W w : Nat) : lowest_dword W [w] = none ∧ lowest_dword W [] = none := ⟨rfl, rfl⟩

theorem zipAnd_comm : ∀ a b : List Nat, zipAnd a b = zipAnd b a
  | [], [] => rfl
  | [], _ :: _ => rfl
  | _ :: _, [] => rfl
  | x :: a, y :: b => congrArg₂ (· :: ·) (Nat.land_comm x y) (zipAnd_comm a b)

theorem zipOr_comm : ∀ a b : List Nat, zipOr a b = zipOr b a
  | [], [] => rfl
  | [], _ :: _ => by simp [zipOr]
  | _ :: _, [] => by simp [zipOr]
  | x :: a, y :: b => congrArg₂ (· :: ·) (Nat.lor_comm x y) (zipOr_comm a b)

theorem zipXor_comm : ∀ a b : List Nat, zipXor a b = zipXor b a
  | [], [] => rfl
  | [], _ :: _ => by simp [zipXor]
  | _ :: _, [] => by simp [zipXor]
  | x :: a, y :: b => congrArg₂ (· :: ·) (Nat.xor_comm x y) (zipXor_comm a b)

theorem bitand_comm (W : Nat) (x y : TRepr) : TRepr.bitand W x y = TRepr.bitand W y x := by
  cases x <;> cases y <;> simp [TRepr.bitand, Nat.land_comm, zipAnd_comm]

theorem bitor_comm (W : Nat) (x y : TRepr) : TRepr.bitor W x y = TRepr.bitor W y x := by
  cases x <;> cases y <;> simp [TRepr.bitor, Nat.lor_comm, zipOr_comm]

theorem bitxor_comm (W : Nat) (x y : TRepr) : TRepr.bitxor W x y = TRepr.bitxor W y x := by
  cases x <;> cases y <;> simp [TRepr.bitxor, Nat.xor_comm, zipXor_comm]

/-- **`&` on TypedRepr / TypedReprRef**, all four ownership forms (the `ref_val` form forwards with swapped operands) -/
theorem gen_bitand_dispatch (W U : Nat) (x y : TRepr) (hx : Wide x) (hy : Wide y) :
    BitAnd_val_val W U x y = some (TRepr.bitand W x y) ∧ BitAnd_val_ref W U x y = some (TRepr.bitand W x y) ∧
    BitAnd_ref_val W U x y = some (TRepr.bitand W x y) ∧ BitAnd_ref_ref W U x y = some (TRepr.bitand W x y) := by
  have key : ∀ x y : TRepr, Wide x → Wide y →
      BitAnd_val_val W U x y = some (TRepr.bitand W x y) ∧ BitAnd_val_ref W U x y = some (TRepr.bitand W x y) ∧
      BitAnd_ref_ref W U x y = some (TRepr.bitand W x y) := by
    intro x y hx hy
    cases x with
    | small a =>
      cases y with
      | small b => simp [BitAnd_val_val, BitAnd_val_ref, BitAnd_ref_ref, TRepr.bitand]
      | large b => simp [BitAnd_val_val, BitAnd_val_ref, BitAnd_ref_ref, TRepr.bitand, lowest_dword_eq W b hy]
    | large a =>
      cases y with
      | small b => simp [BitAnd_val_val, BitAnd_val_ref, BitAnd_ref_ref, TRepr.bitand, lowest_dword_eq W a hx]
      | large b =>
        simp only [BitAnd_val_val, BitAnd_val_ref, BitAnd_ref_ref, TRepr.bitand, gen_bitand_large, zipAnd_comm b a]
        split <;> simp
  obtain ⟨h1, h2, h3⟩ := key x y hx hy
  refine ⟨h1, h2, ?_, h3⟩
  rw [BitAnd_ref_val, (key y x hy hx).2.1, bitand_comm]

/-- **`|` on TypedRepr / TypedReprRef**, all four ownership forms -/
theorem gen_bitor_dispatch (W U : Nat) (x y : TRepr) (hx : Wide x) (hy : Wide y) :
    BitOr_val_val W U x y = some (TRepr.bitor W x y) ∧ BitOr_val_ref W U x y = some (TRepr.bitor W x y) ∧
    BitOr_ref_val W U x y = some (TRepr.bitor W x y) ∧ BitOr_ref_ref W U x y = some (TRepr.bitor W x y) := by
  have key : ∀ x y : TRepr, Wide x → Wide y →
      BitOr_val_val W U x y = some (TRepr.bitor W x y) ∧ BitOr_val_ref W U x y = some (TRepr.bitor W x y) ∧
      BitOr_ref_ref W U x y = some (TRepr.bitor W x y) := by
    intro x y hx hy
    cases x with
    | small a =>
      cases y with
      | small b => simp [BitOr_val_val, BitOr_val_ref, BitOr_ref_ref, TRepr.bitor]
      | large b => simp [BitOr_val_val, BitOr_val_ref, BitOr_ref_ref, TRepr.bitor, (gen_large_dword W U a b hy).1]
    | large a =>
      cases y with
      | small b => simp [BitOr_val_val, BitOr_val_ref, BitOr_ref_ref, TRepr.bitor, (gen_large_dword W U b a hx).1]
      | large b =>
        simp only [BitOr_val_val, BitOr_val_ref, BitOr_ref_ref, TRepr.bitor, gen_bitor_large, zipOr_comm b a]
        split <;> simp
  obtain ⟨h1, h2, h3⟩ := key x y hx hy
  refine ⟨h1, h2, ?_, h3⟩
  rw [BitOr_ref_val, (key y x hy hx).2.1, bitor_comm]

/-- **`^` on TypedRepr / TypedReprRef**, all four ownership forms -/
theorem gen_bitxor_dispatch (W U : Nat) (x y : TRepr) (hx : Wide x) (hy : Wide y) :
    BitXor_val_val W U x y = some (TRepr.bitxor W x y) ∧ BitXor_val_ref W U x y = some (TRepr.bitxor W x y) ∧
    BitXor_ref_val W U x y = some (TRepr.bitxor W x y) ∧ BitXor_ref_ref W U x y = some (TRepr.bitxor W x y) := by
  have key : ∀ x y : TRepr, Wide x → Wide y →
      BitXor_val_val W U x y = some (TRepr.bitxor W x y) ∧ BitXor_val_ref W U x y = some (TRepr.bitxor W x y) ∧
      BitXor_ref_ref W U x y = some (TRepr.bitxor W x y) := by
    intro x y hx hy
    cases x with
    | small a =>
      cases y with
      | small b => simp [BitXor_val_val, BitXor_val_ref, BitXor_ref_ref, TRepr.bitxor]
      | large b => simp [BitXor_val_val, BitXor_val_ref, BitXor_ref_ref, TRepr.bitxor, (gen_large_dword W U a b hy).2.1]
    | large a =>
      cases y with
      | small b => simp [BitXor_val_val, BitXor_val_ref, BitXor_ref_ref, TRepr.bitxor, (gen_large_dword W U b a hx).2.1]
      | large b =>
        simp only [BitXor_val_val, BitXor_val_ref, BitXor_ref_ref, TRepr.bitxor, gen_bitxor_large, zipXor_comm b a]
        split <;> simp
  obtain ⟨h1, h2, h3⟩ := key x y hx hy
  refine ⟨h1, h2, ?_, h3⟩
  rw [BitXor_ref_val, (key y x hy hx).2.1, bitxor_comm]

/-- **`and_not` on TypedRepr / TypedReprRef** (`self & !rhs`, NOT commutative: four separate match bodies, no forwarding) -/
theorem gen_and_not_dispatch (W U : Nat) (x y : TRepr) (hx : Wide x) (hy : Wide y) :
    AndNot_val_val W U x y = some (TRepr.andNot W x y) ∧ AndNot_val_ref W U x y = some (TRepr.andNot W x y) ∧
    AndNot_ref_val W U x y = some (TRepr.andNot W x y) ∧ AndNot_ref_ref W U x y = some (TRepr.andNot W x y) := by
  cases x with
  | small a =>
    cases y with
    | small b => exact ⟨rfl, rfl, rfl, rfl⟩
    | large b =>
      simp only [AndNot_val_val, AndNot_val_ref, AndNot_ref_val, AndNot_ref_ref, lowest_dword_eq W b hy]
      exact ⟨rfl, rfl, rfl, rfl⟩
  | large a =>
    cases y with
    | small b =>
      have h := (gen_large_dword W U b a hx).2.2
      exact ⟨h, h, h, h⟩
    | large b =>
      have h := gen_and_not_large W U a b
      exact ⟨h, h, h, h⟩

-- non-vacuity (64-bit words): each operand-kind pair and both length orders through the regenerated dispatch
example : BitAnd_val_val 64 64 (.large [7, 2 ^ 64 - 1, 5, 9]) (.large [3, 1, 4]) = some (.large [3, 1, 4]) ∧
    BitAnd_ref_val 64 64 (.small 6) (.large [3, 1, 4]) = some (.small 2) ∧
    BitOr_ref_ref 64 64 (.large [1, 2, 4]) (.large [2, 1, 3, 8]) = some (.large [3, 3, 7, 8]) ∧
    BitOr_ref_val 64 64 (.small 4) (.large [1, 2, 3]) = some (.large [5, 2, 3]) ∧
    BitXor_val_ref 64 64 (.large [1, 2, 4, 8]) (.large [1, 2, 4]) = some (.large [0, 0, 0, 8]) ∧
    AndNot_ref_val 64 64 (.large [7, 7, 7]) (.large [1, 2 ^ 64 - 1, 0, 5]) = some (.large [6, 0, 7]) ∧
    AndNot_val_ref 64 64 (.small 7) (.large [5, 0, 1]) = some (.small 2) ∧
    BitAnd_val_val 64 64 (.small 6) (.large [3]) = none := by
  refine ⟨by decide +kernel, by decide +kernel, by decide +kernel, by decide +kernel, by decide +kernel, by decide +kernel, by decide +kernel, by decide +kernel⟩

end Dashu.Props.GenBitDispatch
