import Dashu.Gen.ReprOnes
import Dashu.Props.GenBitsSmall
/-
  C09, Tie A over `Repr::ones` (`integer/src/repr.rs`) IN FULL.  `Dashu.Gen.ReprOnes.Repr_ones` is regenerated from the Rust
  text on every run: the two inline arms (`Self::from_word(ones_word(n as _))`, `Self::from_dword(ones_dword(n as _))`) and the
  heap arm statement by statement — `lo_words`, `hi_bits`, the allocation request `lo_words + 1` (checked), `push_repeat::<{ Word::MAX }>`,
  the conditional top word `ones_word(hi_bits as _)`, and the `transmute` of the buffer into the heap value (NO normalisation).
  Theorem: for EVERY `usize` argument nothing overflows and the result is the hand model's `reprOnes` (code as it is), the
  definition the driver executes for `u.ones` and whose meaning (`2^n − 1`, canonical) is proved in `Props/C09.lean`.
  Side conditions: `2 ≤ W` (with one-bit words `lo_words + 1` would overflow at `n = usize::MAX`) and `2·W < 2^32`.
-/
namespace Dashu.Props.GenReprOnes
open Dashu.Model Dashu.GluePrelude Dashu.Gen.MathHelpers Dashu.Gen.ShiftHeap Dashu.Gen.ReprOnes Dashu.Props.GenMath
open Dashu.Props.GenBitsSmall

/-- **`Repr::ones(n)`**, the whole function as regenerated text, is the hand model's `reprOnes` for every `n < 2^U`. -/
theorem gen_repr_ones (W U n : Nat) (hW : 2 ≤ W) (h32 : 2 * W < 2 ^ 32) (hn : n < 2 ^ U) :
    Repr_ones W U n = some (reprOnes W true n) := by
  unfold Repr_ones
  by_cases h2 : n ≤ 2 * W
  · rw [reprOnes_inline W n h2]
    have hc : MachInt.cast 32 n = n := MachInt.cast_ok (by omega)
    by_cases h1 : n < W
    · simp only [h1, decide_true, if_true, hc, (gen_ones_word W n (Nat.le_of_lt h1)).1, bind, Option.bind, pure]
    · simp only [h1, h2, decide_true, decide_false, if_true, if_false, hc, gen_ones_dword W n h2, bind, Option.bind, pure,
        Bool.false_eq_true]
  · have h1 : ¬ n < W := by omega
    have hW0 : ¬ W = 0 := by omega
    -- `lo_words + 1` fits: `n / W ≤ n / 2 < 2^U - 1`
    have hdiv : n / W + 1 < 2 ^ U := by
      have : n / W ≤ n / 2 := Nat.div_le_div_left hW (by omega)
      omega
    have hrem : n % W ≤ W := Nat.le_of_lt (Nat.mod_lt _ (Nat.pos_of_ne_zero hW0))
    rw [reprOnes_heap W n (Nat.lt_of_not_le h2)]
    simp only [h1, h2, decide_false, if_false, Bool.false_eq_true, MachInt.div_ok hW0, MachInt.rem_ok hW0,
      MachInt.add_ok hdiv, bind, Option.bind, pure, Buffer_allocate, push_repeat_max, MachInt.maxVal, List.nil_append,
      MachInt.cast_mod (Nat.pos_of_ne_zero hW0) (show W ≤ 2 ^ 32 by omega), (gen_ones_word W (n % W) hrem).1, push]
    by_cases h3 : n % W > 0
    · simp only [h3, decide_true, if_true]
    · simp only [h3, decide_false, if_false, Bool.false_eq_true, List.append_nil]

/-- the regenerated text builds the two-word boundary inline: `ones(2·W)` is the canonical inline value (the `<`
    comparison of the source before fix 283f2ad built `[MAX, MAX]` on the heap — with it this theorem fails), and `ones(2·W + 1)` is the first heap value -/
theorem gen_repr_ones_boundary (W U : Nat) (hW : 2 ≤ W) (h32 : 2 * W < 2 ^ 32) (hU : 2 * W + 1 < 2 ^ U) :
    Repr_ones W U (2 * W) = some (.small (2 ^ (2 * W) - 1)) ∧
    Repr_ones W U (2 * W + 1) = some (.large [2 ^ W - 1, 2 ^ W - 1, 1]) := by
  have hW0 : 0 < W := by omega
  refine ⟨?_, ?_⟩
  · rw [gen_repr_ones W U (2 * W) hW h32 (by omega), reprOnes_inline W (2 * W) (Nat.le_refl _)]
    rfl
  · have he : 2 * W + 1 = 1 + W * 2 := by omega
    have hd : (2 * W + 1) / W = 2 := by
      rw [he, Nat.add_mul_div_left 1 2 hW0, Nat.div_eq_of_lt hW]
    have hm : (2 * W + 1) % W = 1 := by
      rw [he, Nat.add_mul_mod_self_left, Nat.mod_eq_of_lt hW]
    rw [gen_repr_ones W U (2 * W + 1) hW h32 hU, reprOnes_heap W (2 * W + 1) (Nat.lt_succ_self _), hd, hm]
    rfl

-- non-vacuity on the 64-bit configuration: the inline / heap boundary, a count with a partial top word, a count that is a
-- multiple of the word size (no top word pushed), and usize::MAX (no overflow in `lo_words + 1`: the value is 2^58 words long)
example : Repr_ones 64 64 128 = some (.small (2 ^ 128 - 1)) ∧
    Repr_ones 64 64 129 = some (.large [2 ^ 64 - 1, 2 ^ 64 - 1, 1]) ∧
    Repr_ones 64 64 192 = some (.large [2 ^ 64 - 1, 2 ^ 64 - 1, 2 ^ 64 - 1]) ∧
    Repr_ones 64 64 63 = some (.small (2 ^ 63 - 1)) ∧ Repr_ones 64 64 0 = some (.small 0) := by
  decide +kernel

end Dashu.Props.GenReprOnes
