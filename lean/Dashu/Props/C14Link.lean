import Dashu.Props.C14
import Dashu.Props.C05
import Dashu.Model.Cross.IntOrd
/-
  C14 ↔ C05: `Ord for UBig / IBig` (and the `AbsOrd` / `AbsEq` impls of integer/src/cmp.rs) inside the
  cross-type comparison tables.  `Model/Cross/Ord.lean` writes those comparisons as `compare` on the
  values; here each of them is proved equal — for every word size — to C05's mirrored
  `integer/src/cmp.rs` (`cmp_same_len`, `cmp_in_place`, `Ord for TypedReprRef`, `Ord for IBig`) run
  on the canonical representations (`Model/Cross/IntOrd.lean`, what the driver executes), by composing
  with C05's proved `ubig_cmp` / `ibig_cmp`.  Kept apart from `Props/C14.lean` because it imports
  another group's proofs.
-/
namespace Dashu.Props.C14Link
open Dashu.Model Dashu.Model.Cross

-- ------------------------------------------------------------------ the kernels

/-- `Ord for UBig` (mirrored, on the canonical representation) is `compare` on the values -/
theorem ubig_ord_mirrored (W : Nat) (hW : 1 ≤ W) (a b : Nat) : ubigOrdW W a b = compare a b := by
  unfold ubigOrdW
  rw [Dashu.Props.C05.ubig_cmp W _ _ (ofNat_canon W hW a) (ofNat_canon W hW b), ofNat_value W hW,
    ofNat_value W hW]

/-- `Ord for IBig` (mirrored) is `compare` on the values -/
theorem ibig_ord_mirrored (W : Nat) (hW : 1 ≤ W) (a b : Int) : ibigOrdW W a b = compare a b := by
  unfold ibigOrdW
  rw [Dashu.Props.C05.ibig_cmp W _ _ (sOfInt_spec W hW a).1 (sOfInt_spec W hW b).1,
    (sOfInt_spec W hW a).2, (sOfInt_spec W hW b).2]

/-- for ANY canonical representations (not only the ones the driver builds): the `compare` of the
    cross model is what the mirrored `Ord for IBig` returns on them -/
theorem ibig_ord_any_repr (W : Nat) (a b : SRepr) (ha : SCanon W a) (hb : SCanon W b) :
    compare (a.value W) (b.value W) = a.cmp b := (Dashu.Props.C05.ibig_cmp W a b ha hb).symm
theorem ubig_ord_any_repr (W : Nat) (a b : TRepr) (ha : a.Canon W) (hb : b.Canon W) :
    compare (a.value W) (b.value W) = a.cmp b := (Dashu.Props.C05.ubig_cmp W a b ha hb).symm

/-- the magnitude of a representation holds the absolute value of its integer -/
theorem mag_value (W : Nat) (a : SRepr) : a.mag.value W = (a.value W).natAbs := by
  have e : ((a.mag.value W : Nat) : Int) = ((a.value W).natAbs : Int) := by
    unfold SRepr.value; split <;> simp
  exact_mod_cast e

/-- on canonical representations of `x` and `y` the mirrored `Ord for IBig` is `compare x y` and the mirrored comparison
    of the magnitudes is `abs_cmp` — the form in which every exact step (operands built by shifts and products) uses C05 -/
theorem cmp_of_values (W : Nat) {a b : SRepr} {x y : Int} (ha : a.value W = x ∧ SCanon W a)
    (hb : b.value W = y ∧ SCanon W b) : compare x y = a.cmp b ∧ absCmpInt x y = a.mag.cmp b.mag := by
  obtain ⟨rfl, ca⟩ := ha
  obtain ⟨rfl, cb⟩ := hb
  exact ⟨ibig_ord_any_repr W a b ca cb, by rw [absCmpInt, ← mag_value, ← mag_value, ubig_ord_any_repr W _ _ ca.1 cb.1]⟩

theorem sOfInt_mag (W : Nat) (a : Int) : (sOfInt W a).mag = ofNat W a.natAbs := rfl
theorem sOfInt_neg (W : Nat) (a : Int) : (sOfInt W a).neg = decide (a < 0) := rfl

/-- `AbsOrd` of integer/src/cmp.rs (all four impls) is `compare` on the magnitudes -/
theorem int_abs_ord_mirrored (W : Nat) (hW : 1 ≤ W) (a b : Int) :
    intAbsOrdW W a b = compare a.natAbs b.natAbs := by
  unfold intAbsOrdW
  rw [sOfInt_mag, sOfInt_mag]
  exact ubig_ord_mirrored W hW _ _

/-- `AbsEq` of integer/src/cmp.rs (slice equality) decides equality of the magnitudes -/
theorem int_abs_eq_mirrored (W : Nat) (hW : 1 ≤ W) (a b : Int) :
    intAbsEqW W a b = (a.natAbs == b.natAbs) := by
  unfold intAbsEqW
  rw [sOfInt_mag, sOfInt_mag, Bool.eq_iff_iff, beq_iff_eq, beq_iff_eq]
  refine ⟨fun h => ?_, fun h => by rw [h]⟩
  rw [← ofNat_value W hW a.natAbs, ← ofNat_value W hW b.natAbs, ← val_words, ← val_words, h]

theorem ubig_cmp_ibig_mirrored (W : Nat) (hW : 1 ≤ W) (x : Nat) (y : Int) :
    ubigCmpIbigW W x y = ubigCmpIbig x y := by
  unfold ubigCmpIbigW ubigCmpIbig
  simp only [sOfInt_neg, sOfInt_mag]
  by_cases h : y < 0
  · simp [h, Sign.ofInt]
  · simp only [h, decide_false, Bool.false_eq_true, if_false, Sign.ofInt]
    exact ubig_ord_mirrored W hW _ _

theorem ibig_cmp_ubig_mirrored (W : Nat) (hW : 1 ≤ W) (x : Int) (y : Nat) :
    ibigCmpUbigW W x y = ibigCmpUbig x y := by
  unfold ibigCmpUbigW ibigCmpUbig
  simp only [sOfInt_neg, sOfInt_mag]
  by_cases h : x < 0
  · simp [h, Sign.ofInt]
  · simp only [h, decide_false, Bool.false_eq_true, if_false, Sign.ofInt]
    exact ubig_ord_mirrored W hW _ _

-- ------------------------------------------------------------------ the tables the driver runs

theorem numPartialCmpKW_eq (W : Nat) (hW : 1 ≤ W) (o : Oracle) (x y : Kind) :
    numPartialCmpKW W o x y = numPartialCmpK o x y := by
  cases x <;> cases y <;>
    simp [numPartialCmpKW, numPartialCmpK, ubig_ord_mirrored W hW, ibig_ord_mirrored W hW,
      ubig_cmp_ibig_mirrored W hW, ibig_cmp_ubig_mirrored W hW]

/-- what the driver executes for `num_partial_cmp` (integer pairs through the mirrored word-level
    `cmp`) IS the model of `Props/C14` -/
theorem num_partial_cmp_mirrored (W : Nat) (hW : 1 ≤ W) (o : Oracle) (x y : Num) :
    numPartialCmpW W o x y = numPartialCmp o x y := by
  unfold numPartialCmpW numPartialCmp
  rw [numPartialCmpKW_eq W hW]

theorem num_eq_mirrored (W : Nat) (hW : 1 ≤ W) (o : Oracle) (x y : Num) :
    numEqW W o x y = numEq o x y := by
  unfold numEqW numEq
  simp only [num_partial_cmp_mirrored W hW]
  cases x.kind <;> cases y.kind <;> rfl

theorem absCmpKW_eq (W : Nat) (hW : 1 ≤ W) (o : Oracle) (x y : Kind) :
    absCmpKW W o x y = absCmpK o x y := by
  cases x <;> cases y <;> simp [absCmpKW, absCmpK, int_abs_ord_mirrored W hW]

theorem abs_cmp_mirrored (W : Nat) (hW : 1 ≤ W) (o : Oracle) (x y : Num) :
    absCmpW W o x y = absCmp o x y := by
  unfold absCmpW absCmp
  rw [absCmpKW_eq W hW]

theorem ord_cmp_mirrored (W : Nat) (hW : 1 ≤ W) (o : Oracle) (x y : Num) :
    ordCmpW W o x y = ordCmp o x y := by
  cases x <;> cases y <;> simp [ordCmpW, ordCmp, ubig_ord_mirrored W hW, ibig_ord_mirrored W hW]

-- ------------------------------------------------------------------ the property clauses over the word-level code

/-- NumOrd over the whole table with the integer comparisons run by the mirrored `integer/src/cmp.rs`
    (no big-integer `Ord` used at its value): the order of the exact values, for every word size -/
theorem num_ord_exact_words (W : Nat) (hW : 1 ≤ W) {o : Oracle} (ho : o.Sound) (x y : Num)
    (wx : x.WF) (wy : y.WF) {r : Option Ordering} (h : numPartialCmpW W o x y = some r) :
    r = XVal.cmp x.value y.value :=
  Dashu.Props.C14.num_ord_exact ho x y wx wy (by rw [← num_partial_cmp_mirrored W hW]; exact h)

theorem abs_ord_exact_words (W : Nat) (hW : 1 ≤ W) {o : Oracle} (ho : o.Sound) (x y : Num)
    (wx : x.WF) (wy : y.WF) (px : x.PrecOK) (py : y.PrecOK) {r : Ordering}
    (h : absCmpW W o x y = some r) : some r = XVal.absCmp x.value y.value :=
  Dashu.Props.C14.abs_ord_exact ho x y wx wy px py (by rw [← abs_cmp_mirrored W hW]; exact h)

theorem ord_exact_words (W : Nat) (hW : 1 ≤ W) {o : Oracle} (ho : o.Sound) (x y : Num)
    (wx : x.WF) (wy : y.WF) (px : x.PrecOK) (py : y.PrecOK) {r : Ordering}
    (h : ordCmpW W o x y = some r) : some r = XVal.cmp x.value y.value :=
  Dashu.Props.C14.ord_exact ho x y wx wy px py (by rw [← ord_cmp_mirrored W hW]; exact h)

/-- every exact step of the float / rational comparison code ends in `Ord for IBig` (or `abs_cmp`) of
    two big integers `l`, `r` built by shifts and products; the model writes `compare l r` /
    `absCmpInt l r`: that IS the mirrored word-level comparison of C05 on their representations -/
theorem exact_step_is_mirrored_cmp (W : Nat) (hW : 1 ≤ W) (l r : Int) :
    compare l r = ibigOrdW W l r ∧ absCmpInt l r = intAbsOrdW W l r :=
  ⟨(ibig_ord_mirrored W hW l r).symm, (int_abs_ord_mirrored W hW l r).symm⟩

-- ------------------------------------------------------------------ non-vacuity

/-- 2^128 (heap, 3 words) against 2^128 - 1 (inline): the `RefLarge > RefSmall` shortcut; two heap
    values differing in the lowest word; signs -/
example : ubigOrdW 64 (2 ^ 128) (2 ^ 128 - 1) = .gt ∧ ubigOrdW 64 (2 ^ 130 + 5) (2 ^ 130 + 7) = .lt ∧
    ibigOrdW 64 (-(2 ^ 130) - 5) (-(2 ^ 130) - 7) = .gt ∧ intAbsOrdW 64 (-(2 ^ 64) - 5) (2 ^ 65 + 3) = .lt := by
  decide +kernel
example : numPartialCmpW 64 Oracle.coarse (.ubig (2 ^ 130 + 5)) (.ibig (2 ^ 130 + 7)) = some (some .lt) := by
  decide +kernel
example : (some .lt : Option Ordering) = XVal.cmp (Num.ubig (2 ^ 130 + 5)).value (Num.ibig (2 ^ 130 + 7)).value :=
  num_ord_exact_words 64 (by decide) Dashu.Props.C14.coarse_sound (.ubig (2 ^ 130 + 5)) (.ibig (2 ^ 130 + 7))
    trivial trivial (by decide +kernel)

end Dashu.Props.C14Link
