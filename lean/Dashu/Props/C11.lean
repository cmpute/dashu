import Dashu.Model.Trans.Guards
import Dashu.Proofs.Trans.Cert
/-
  C11 — exp, exp_m1, ln, ln_1p, powi, powf are accurate to less than one unit in the last place and
  flag `Exact` only exact results.  PARTIAL, split as in DESIGN §8 C11:

  PROVED FOR ALL INPUTS (this file):
   §1  exactness / domain clauses about the model of the entry guards of `float/src/exp.rs`,
       `float/src/log.rs` (`Model/Trans/Guards.lean`, tied to the code by the correspondence run);
   §2  soundness of the rational enclosures `expEncl`, `lnEncl` (every argument, every effort);
   §3  the certificate theorems: if the executable test (`Model/Trans/Cert.lean`, the very
       definitions the driver runs on the implementation's printed result) answers `certified` then
       `(|r − f(x)| < ulp ∨ r = f(x)) ∧ (Exact → r = f(x))`; if it answers `violation` then that is false.

  NOT PROVED (kept as a comment, explored by `./check C11`):
    theorem c11_full : ∀ input in the domain, the result dashu computes passes the certificate
  — the guard-digit counts of `exp_internal` / `ln_internal` / `powi` are marked heuristic in the
  source; the statement is in fact FALSE on the pinned commit (see `known_findings.jsonl`, C11).
-/
namespace Dashu.Props.C11
open Dashu.Model.Trans

/-! ## §1 entry guards -/

/-- a finite operand -/
def fin (sig exp : Int) : FIn := ⟨false, sig, exp⟩

theorem exp_zero_exact (p : Nat) (hp : p ≠ 0) : expEntry false (fin 0 0) p = .exactConst 1 := by
  simp [expEntry, fin, FIn.isZero, hp]

theorem exp_m1_zero_exact (p : Nat) (hp : p ≠ 0) : expEntry true (fin 0 0) p = .exactConst 0 := by
  simp [expEntry, fin, FIn.isZero, hp]

theorem ln_one_exact (B p : Nat) (hp : p ≠ 0) : lnEntry B false (fin 1 0) p = .exactConst 0 := by
  simp [lnEntry, fin, FIn.isZero, FIn.isOne, hp]

theorem ln_1p_zero_exact (B p : Nat) (hp : p ≠ 0) : lnEntry B true (fin 0 0) p = .exactConst 0 := by
  simp [lnEntry, fin, FIn.isZero, FIn.isOne, hp]

/-- outside the domain (`x ≤ 0`) `ln` is refused by the documented panic -/
theorem ln_nonpositive (B : Nat) (sig exp : Int) (hs : sig ≤ 0) (p : Nat) (hp : p ≠ 0) :
    lnEntry B false (fin sig exp) p = .panic .logNonpositive := by
  have h1 : sig ≠ 1 := by omega
  simp [lnEntry, fin, FIn.isOne, hp, hs, h1]

/-- outside the domain (`x ≤ -1`) `ln_1p` is refused by the documented panic -/
theorem ln_1p_le_neg_one (B : Nat) (sig exp : Int) (hx : fval B sig exp ≤ -1) (hs : sig < 0) (p : Nat)
    (hp : p ≠ 0) : lnEntry B true (fin sig exp) p = .panic .logNonpositive := by
  simp [lnEntry, fin, FIn.isZero, hp, hs, hs.ne, hx]

/-- `x⁰ = 1`, flagged Exact, for every finite base (also `0⁰`) and every precision (also unlimited) -/
theorem powi_zero_exact (sig exp : Int) (p : Nat) : powiEntry (fin sig exp) 0 p = .exactConst 1 := by
  simp [powiEntry, fin]

/-- `x¹` is the operand rounded to the context (`repr_round`) -/
theorem powi_one_round (sig exp : Int) (p : Nat) : powiEntry (fin sig exp) 1 p = .roundArg := by
  simp [powiEntry, fin]

theorem powf_zero_exact (x : FIn) (hx : x.inf = false) (p : Nat) (hp : p ≠ 0) :
    powfEntry x (fin 0 0) p = .exactConst 1 := by
  simp [powfEntry, fin, FIn.isZero, hx, hp]

theorem powf_one_round (x : FIn) (hx : x.inf = false) (p : Nat) (hp : p ≠ 0) :
    powfEntry x (fin 1 0) p = .roundArg := by
  simp [powfEntry, fin, FIn.isZero, FIn.isOne, hx, hp]

/-- unlimited precision is refused by panic (exp, exp_m1, ln, ln_1p, powf always; powi for negative exponents) -/
theorem exp_unlimited (m1 : Bool) (x : FIn) (hx : x.inf = false) :
    expEntry m1 x 0 = .panic .unlimitedPrecision := by simp [expEntry, hx]
theorem ln_unlimited (B : Nat) (op : Bool) (x : FIn) (hx : x.inf = false) :
    lnEntry B op x 0 = .panic .unlimitedPrecision := by simp [lnEntry, hx]
theorem powf_unlimited (x y : FIn) (hx : x.inf = false) (hy : y.inf = false) :
    powfEntry x y 0 = .panic .unlimitedPrecision := by simp [powfEntry, hx, hy]
theorem powi_neg_unlimited (x : FIn) (hx : x.inf = false) (k : Int) (hk : k < 0) :
    powiEntry x k 0 = .panic .unlimitedPrecision := by simp [powiEntry, hx, hk]

/-- infinities are refused by panic, whatever the precision -/
theorem exp_infinite (m1 : Bool) (x : FIn) (hx : x.inf = true) (p : Nat) :
    expEntry m1 x p = .panic .infinite := by simp [expEntry, hx]
theorem ln_infinite (B : Nat) (op : Bool) (x : FIn) (hx : x.inf = true) (p : Nat) :
    lnEntry B op x p = .panic .infinite := by simp [lnEntry, hx]
theorem powi_infinite (x : FIn) (hx : x.inf = true) (k : Int) (p : Nat) :
    powiEntry x k p = .panic .infinite := by simp [powiEntry, hx]
theorem powf_infinite (x y : FIn) (hx : x.inf = true ∨ y.inf = true) (p : Nat) :
    powfEntry x y p = .panic .infinite := by
  rcases hx with h | h <;> simp [powfEntry, h]

/-- a negative base of `powf` is refused by panic unless a shortcut (`y = 0`, `y = 1`) applies -/
theorem powf_negative_base (x y : FIn) (hx : x.inf = false) (hyf : y.inf = false) (hneg : x.sig < 0)
    (p : Nat) (hp : p ≠ 0) (hy0 : y.isZero = false) (hy1 : y.isOne = false) :
    powfEntry x y p = .panic .powNegativeBase := by
  have hz : x.isZero = false := by simp [FIn.isZero, hneg.ne]
  simp [powfEntry, hx, hyf, hp, hy0, hy1, hz, hneg]

/-- behind the guards the numerical algorithm runs: exactly the inputs on which the certificate is used -/
theorem exp_compute (m1 : Bool) (sig exp : Int) (hs : sig ≠ 0) (p : Nat) (hp : p ≠ 0) :
    expEntry m1 (fin sig exp) p = .compute := by
  simp [expEntry, fin, FIn.isZero, hp, hs]

/-! non-vacuity of the guard clauses: concrete operands meeting the hypotheses -/
example : expEntry false (fin 0 0) 4 = .exactConst 1 := exp_zero_exact 4 (by decide)
example : lnEntry 10 false (fin 1 0) 53 = .exactConst 0 := ln_one_exact 10 53 (by decide)
example : lnEntry 10 false (fin (-25) (-1)) 4 = .panic .logNonpositive := ln_nonpositive 10 (-25) (-1) (by decide) 4 (by decide)
example : lnEntry 10 true (fin (-25) (-1)) 4 = .panic .logNonpositive :=
  ln_1p_le_neg_one 10 (-25) (-1) (by decide +kernel) (by decide) 4 (by decide)
example : powfEntry (fin (-3) 0) (fin 5 (-1)) 10 = .panic .powNegativeBase :=
  powf_negative_base (fin (-3) 0) (fin 5 (-1)) rfl rfl (by decide) 10 (by decide) (by decide) (by decide)
example : powiEntry ⟨true, 0, 1⟩ 3 10 = .panic .infinite := powi_infinite ⟨true, 0, 1⟩ rfl 3 10
example : powiEntry (fin 7 0) (-2) 0 = .panic .unlimitedPrecision := powi_neg_unlimited (fin 7 0) rfl (-2) (by decide)
example : expEntry true (fin 123 (-2)) 10 = .compute := exp_compute true 123 (-2) (by decide) 10 (by decide)

/-! ## §2 enclosures -/

/-- `expEncl` brackets the real exponential, for every rational argument and every effort -/
theorem expEncl_sound (x : ℚ) (n : ℕ) :
    ((expEncl x n).1 : ℝ) ≤ Real.exp (x : ℝ) ∧ Real.exp (x : ℝ) ≤ ((expEncl x n).2 : ℝ) :=
  Dashu.Model.Trans.expEncl_sound x n

/-- `lnEncl` brackets the real logarithm, for every positive rational argument and every effort -/
theorem lnEncl_sound (x : ℚ) (n : ℕ) (hx : 0 < x) :
    ((lnEncl x n).1 : ℝ) ≤ Real.log (x : ℝ) ∧ Real.log (x : ℝ) ≤ ((lnEncl x n).2 : ℝ) :=
  Dashu.Model.Trans.lnEncl_sound x n hx

/-! ## §3 certificates

  `Within r u exact v :⇔ (|r − v| < u ∨ r = v) ∧ (exact → r = v)` (`Proofs/Trans/Cert.lean`); the claim is
  `r = fval B sig e = sig·B^e`, `u = ulp B sig e p = B^(e + digits sig − p)`. -/

/-- what the six certificate theorems conclude: the claimed float is within one ulp (at precision `p`)
    of the real value `v`, and carries the flag `Exact` only if it equals `v` -/
def Ok (B : ℕ) (sig e : ℤ) (p : ℕ) (exact : Bool) (v : ℝ) : Prop :=
  (|((fval B sig e : ℚ) : ℝ) - v| < ((ulp B sig e p : ℚ) : ℝ) ∨ ((fval B sig e : ℚ) : ℝ) = v) ∧
    (exact = true → ((fval B sig e : ℚ) : ℝ) = v)

theorem ok_iff_within (B : ℕ) (sig e : ℤ) (p : ℕ) (exact : Bool) (v : ℝ) :
    Ok B sig e p exact v ↔ Within (fval B sig e) (ulp B sig e p) exact v := Iff.rfl

theorem checkedExp_sound (B : ℕ) (x : ℚ) (sig e : ℤ) (p : ℕ) (exact : Bool) (fuel n0 : ℕ) :
    ((certExp B x sig e p exact fuel n0).1 = .certified → Ok B sig e p exact (Real.exp (x : ℝ))) ∧
    ((certExp B x sig e p exact fuel n0).1 = .violation → ¬ Ok B sig e p exact (Real.exp (x : ℝ))) :=
  refine_sound _ _ _ _ _ (expEncl_encloses x) fuel n0

/-- the scaled certificates have one shape: the pre-test `tooBig` on an enclosure `a` of `w`, then refinement of an
    enclosure of `V / B^e` with `V = exp w`; either way the verdict decides `Ok … V` -/
theorem scaled_sound (B : ℕ) (hB : 0 < B) (a : ℚ × ℚ) (w : ℝ) (ha : Encloses a w) (V : ℝ) (hV : Real.exp w = V)
    (encl : ℕ → ℚ × ℚ) (sig e : ℤ) (henc : ∀ n, Encloses (encl n) (V / (B : ℝ) ^ e)) (p : ℕ) (exact : Bool)
    (fuel n0 : ℕ) (c : Verdict × ℕ)
    (hc : c = if tooBig (subLogs B a e 64) (sig : ℚ) (ulpScaled B sig p) then (.violation, 0)
      else refine encl (sig : ℚ) (ulpScaled B sig p) exact fuel n0) :
    (c.1 = .certified → Ok B sig e p exact V) ∧ (c.1 = .violation → ¬ Ok B sig e p exact V) := by
  subst hV hc
  split_ifs with hbig
  · refine ⟨(by intro h; cases h), fun _ hw => ?_⟩
    have hv := tooBig_violation _ _ (subLogs_sound B hB a w ha e 64) _ _ exact hbig
    rw [exp_sub_int_mul_log B hB] at hv
    exact hv (scaled_of_within B hB sig e p exact _ hw)
  · obtain ⟨h1, h2⟩ := refine_sound encl (sig : ℚ) (ulpScaled B sig p) exact _ henc fuel n0
    exact ⟨fun h => within_of_scaled B hB sig e p exact _ (h1 h),
      fun h hw => h2 h (scaled_of_within B hB sig e p exact _ hw)⟩

theorem checkedExpScaled_sound (B : ℕ) (hB : 0 < B) (x : ℚ) (sig e : ℤ) (p : ℕ) (exact : Bool) (fuel n0 : ℕ) :
    ((certExpScaled B x sig e p exact fuel n0).1 = .certified → Ok B sig e p exact (Real.exp (x : ℝ))) ∧
    ((certExpScaled B x sig e p exact fuel n0).1 = .violation → ¬ Ok B sig e p exact (Real.exp (x : ℝ))) :=
  scaled_sound B hB (x, x) x ⟨le_refl _, le_refl _⟩ _ rfl (expScaledEncl B x e) sig e
    (expScaledEncl_encloses B hB x e) p exact fuel n0 _ rfl

theorem checkedExpm1_sound (B : ℕ) (x : ℚ) (sig e : ℤ) (p : ℕ) (exact : Bool) (fuel n0 : ℕ) :
    ((certExpm1 B x sig e p exact fuel n0).1 = .certified → Ok B sig e p exact (Real.exp (x : ℝ) - 1)) ∧
    ((certExpm1 B x sig e p exact fuel n0).1 = .violation → ¬ Ok B sig e p exact (Real.exp (x : ℝ) - 1)) :=
  refine_sound _ _ _ _ _ (expm1Encl_encloses x) fuel n0

theorem checkedLn_sound (B : ℕ) (x : ℚ) (hx : 0 < x) (sig e : ℤ) (p : ℕ) (exact : Bool) (fuel n0 : ℕ) :
    ((certLn B x sig e p exact fuel n0).1 = .certified → Ok B sig e p exact (Real.log (x : ℝ))) ∧
    ((certLn B x sig e p exact fuel n0).1 = .violation → ¬ Ok B sig e p exact (Real.log (x : ℝ))) :=
  refine_sound _ _ _ _ _ (lnEncl_encloses x hx) fuel n0

theorem checkedLn1p_sound (B : ℕ) (x : ℚ) (hx : -1 < x) (sig e : ℤ) (p : ℕ) (exact : Bool) (fuel n0 : ℕ) :
    ((certLn1p B x sig e p exact fuel n0).1 = .certified → Ok B sig e p exact (Real.log (1 + (x : ℝ)))) ∧
    ((certLn1p B x sig e p exact fuel n0).1 = .violation → ¬ Ok B sig e p exact (Real.log (1 + (x : ℝ)))) := by
  have h := refine_sound (lnEncl (1 + x)) (fval B sig e) (ulp B sig e p) exact _
    (lnEncl_encloses (1 + x) (neg_lt_iff_pos_add'.mp hx)) fuel n0
  rwa [Rat.cast_add, Rat.cast_one] at h

theorem checkedPowf_sound (B : ℕ) (x y : ℚ) (hx : 0 < x) (sig e : ℤ) (p : ℕ) (exact : Bool) (fuel n0 : ℕ) :
    ((certPowf B x y sig e p exact fuel n0).1 = .certified → Ok B sig e p exact ((x : ℝ) ^ (y : ℝ))) ∧
    ((certPowf B x y sig e p exact fuel n0).1 = .violation → ¬ Ok B sig e p exact ((x : ℝ) ^ (y : ℝ))) :=
  refine_sound _ _ _ _ _ (powfEncl_encloses x y hx) fuel n0

theorem checkedPowfScaled_sound (B : ℕ) (hB : 0 < B) (x y : ℚ) (hx : 0 < x) (sig e : ℤ) (p : ℕ)
    (exact : Bool) (fuel n0 : ℕ) :
    ((certPowfScaled B x y sig e p exact fuel n0).1 = .certified → Ok B sig e p exact ((x : ℝ) ^ (y : ℝ))) ∧
    ((certPowfScaled B x y sig e p exact fuel n0).1 = .violation → ¬ Ok B sig e p exact ((x : ℝ) ^ (y : ℝ))) := by
  have hx' : (0 : ℝ) < (x : ℝ) := by exact_mod_cast hx
  exact scaled_sound B hB _ _ (scaleRat_sound y _ _ (lnEncl_sound x (64 + magBits y + 3) hx)) _
    (by rw [Real.rpow_def_of_pos hx', mul_comm]) (powfScaledEncl B x y e) sig e
    (powfScaledEncl_encloses B hB x y hx e) p exact fuel n0 _ rfl

/-- a point enclosure `[q, q]` of `v = q` decides the claim outright -/
theorem point_sound {q r u : ℚ} {exact : Bool} {v : ℝ} (h : (q : ℝ) = v) :
    (judge q q r u exact = .certified → Within r u exact v) ∧ (judge q q r u exact = .violation → ¬ Within r u exact v) :=
  ⟨judge_certified ⟨h.le, h.ge⟩, judge_violation ⟨h.le, h.ge⟩⟩

/-- exact `powf`: if `s > 0` and `s ^ y.den = x` (found by the driver, checked here as a hypothesis),
    the value `x^y = s^(y.num)` is rational and the comparison is exact -/
theorem checkedPowfExact_sound (B : ℕ) (s x y : ℚ) (hs : 0 < s) (hroot : s ^ y.den = x) (sig e : ℤ) (p : ℕ)
    (exact : Bool) :
    (certPowfExact B s y sig e p exact = .certified → Ok B sig e p exact ((x : ℝ) ^ (y : ℝ))) ∧
    (certPowfExact B s y sig e p exact = .violation → ¬ Ok B sig e p exact ((x : ℝ) ^ (y : ℝ))) := by
  rw [rpow_of_root s x y hs hroot]
  exact point_sound (Rat.cast_zpow s y.num)

/-- the root witness the driver uses satisfies the hypotheses of `checkedPowfExact_sound` -/
theorem ratRoot_spec (b : ℕ) (x s : ℚ) (h : ratRoot b x = some s) : 0 < s ∧ s ^ b = x := by
  simp only [ratRoot] at h
  split_ifs at h with h1 h2 h3
  · cases h
    exact ⟨h2, h1 ▸ pow_one x⟩
  · cases h
    exact h3

/-- `powi` is decided by exact rational arithmetic: `(x : ℝ)^k` with an integer exponent of either sign -/
theorem checkedPowi_sound (B : ℕ) (x : ℚ) (k : ℤ) (sig e : ℤ) (p : ℕ) (exact : Bool) :
    (certPowi B x k sig e p exact = .certified → Ok B sig e p exact ((x : ℝ) ^ k)) ∧
    (certPowi B x k sig e p exact = .violation → ¬ Ok B sig e p exact ((x : ℝ) ^ k)) :=
  point_sound (Rat.cast_zpow x k)

/-- `powi` with an exponent too large for exact arithmetic, positive base: the `powf` certificate with the
    integer exponent cast to a rational certifies the integer power -/
theorem checkedPowiBig_sound (B : ℕ) (hB : 0 < B) (x : ℚ) (hx : 0 < x) (k : ℤ) (sig e : ℤ) (p : ℕ)
    (exact : Bool) (fuel n0 : ℕ) :
    ((certPowfScaled B x (k : ℚ) sig e p exact fuel n0).1 = .certified → Ok B sig e p exact ((x : ℝ) ^ k)) ∧
    ((certPowfScaled B x (k : ℚ) sig e p exact fuel n0).1 = .violation → ¬ Ok B sig e p exact ((x : ℝ) ^ k)) := by
  have h := checkedPowfScaled_sound B hB x (k : ℚ) hx sig e p exact fuel n0
  rwa [Rat.cast_intCast, Real.rpow_intCast] at h

/-- a point enclosure always decides: if `v ≠ r` and the claim is not flagged exact, `v` is either within or beyond one `u` of `r` -/
theorem judge_point_decided (v r u : ℚ) (exact : Bool) : judge v v r u exact ≠ .undecided := by
  unfold judge
  split_ifs with h1 h2
  · exact Verdict.noConfusion
  · exact Verdict.noConfusion
  · exfalso
    rcases eq_or_ne v r with hvr | hvr
    · exact h1 ⟨Or.inr ⟨hvr, hvr⟩, fun _ => ⟨hvr, hvr⟩⟩
    · have hd : r < v ∨ v < r := (lt_or_gt_of_ne hvr).symm
      by_cases hex : exact = true
      · exact h2 (Or.inr ⟨hex, hd⟩)
      · by_cases hfar : v ≤ r - u ∨ r + u ≤ v
        · exact h2 (Or.inl ⟨hfar, hd⟩)
        · rw [not_or, not_le, not_le] at hfar
          exact h1 ⟨Or.inl hfar, fun he => absurd he hex⟩

/-- `powi` never ends undecided (the enclosure is a point) -/
theorem certPowi_decided (B : ℕ) (x : ℚ) (k : ℤ) (sig e : ℤ) (p : ℕ) (exact : Bool) :
    certPowi B x k sig e p exact ≠ .undecided :=
  judge_point_decided _ _ _ exact

/-! ## non-vacuity: the certificate test does answer `certified` / `violation` on concrete claims -/

-- exp(1/2) = 1.6487…; base 2, precision 4: 13·2⁻³ = 1.625 is within one ulp (2⁻³), 15·2⁻³ = 1.875 is not
example : (certExp 2 (1/2) 13 (-3) 4 false 9 20).1 = .certified := by decide +kernel
example : (certExp 2 (1/2) 15 (-3) 4 false 9 20).1 = .violation := by decide +kernel
-- ln 2 = 0.69314…; base 10, precision 4: 6931·10⁻⁴
example : (certLn 10 2 6931 (-4) 4 false 9 30).1 = .certified := by decide +kernel
-- the exact case is certified with the flag Exact: exp 0 = 1
example : (certExp 10 0 1 0 4 true 9 20).1 = .certified := by decide +kernel
-- 2^10 = 1024 exactly (`powi`); (9/4)^(1/2) = 3/2 = 15·10⁻¹ exactly, as a `powf` through the root witness s = 3/2
example : certPowi 10 2 10 1024 0 4 true = .certified := by decide +kernel
example : ratRoot 2 (9/4) = some (3/2) := by decide +kernel
example : certPowfExact 10 (3/2) (1/2) 15 (-1) 3 true = .certified := by decide +kernel

/-! ## counterexamples: results printed by the pinned commit that the certificate refutes
    (each is a theorem about the real exponential; see `known_findings.jsonl`, property C11) -/

/-- `FBig::<HalfEven, 3>` 7·3⁻⁵² at precision 2: `exp` returned `Exact(1)`; the value is within an ulp
    but it is not exact -/
theorem exact_flag_counterexample :
    ¬ Ok 3 1 0 2 true (Real.exp (((7 : ℚ) * (3 : ℚ) ^ (-52 : ℤ) : ℚ) : ℝ)) ∧
      Ok 3 1 0 2 false (Real.exp (((7 : ℚ) * (3 : ℚ) ^ (-52 : ℤ) : ℚ) : ℝ)) :=
  ⟨(checkedExp_sound 3 _ 1 0 2 true 9 64).2 (by decide +kernel),
   (checkedExp_sound 3 _ 1 0 2 false 9 64).1 (by decide +kernel)⟩

/-- `FBig::<Up, 3>` 3³¹ at precision 1: `exp` returned 2·3^562152192123592; the true exponent is 562230… -/
theorem large_argument_counterexample :
    ¬ Ok 3 2 562152192123592 1 false (Real.exp (((3 : ℚ) ^ (31 : ℕ) : ℚ) : ℝ)) :=
  (checkedExpScaled_sound 3 (by norm_num) _ 2 562152192123592 1 false 9 20).2 (by decide +kernel)

/-- `FBig::<Away, 2>` −2⁻⁵¹ at precision 10: `exp` returned 513·2⁻⁹ = 1 + 2⁻⁹, the true value is below 1 -/
theorem directed_one_ulp_counterexample :
    ¬ Ok 2 513 (-9) 10 false (Real.exp (((-1 : ℚ) / (2 : ℚ) ^ (51 : ℕ) : ℚ) : ℝ)) :=
  (checkedExp_sound 2 _ 513 (-9) 10 false 9 40).2 (by decide +kernel)

end Dashu.Props.C11
