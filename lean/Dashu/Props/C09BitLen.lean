import Dashu.Props.GenIntBits
/-
  C09, Tie A: `<IBig as BitTest>::bit_len` (`integer/src/bits.rs`) as regenerated in `Dashu/Gen/IntBits.lean`
  (`IBig_bit_len`: `self.as_sign_repr().1.bit_len()`); the other sign-level functions are in `Props/GenIntBits`.
  The regenerated dispatch takes the magnitude-level methods as a record `k`; the hypothesis `MeetsBitLen k` is the specification
  of `TypedReprRef::bit_len` (`Props.C09.bit_len` about the executed model, `Props.GenScans.gen_bit_len_large` about the
  regenerated heap arm).  Under it the dispatch returns the bit length of `|x|` — the sign is ignored (the code as it is:
  `ASSUMPTIONS` of c09.py, two of the three characterisations of `BitTest::bit_len`'s doc) — and, read in two's complement, every
  bit at a position `≥ bit_len` is the sign bit; the doc's third characterisation differs at `x = −2^(L−1)` only.  The record
  `GenIntBits.modelK` of the EXECUTED magnitude model meets the hypothesis, and with it the dispatch is what the driver prints for
  `i.bitlen` and the specification it is compared with.
-/
namespace Dashu.Props.C09BitLen
open Dashu Dashu.Gen Dashu.GluePrelude Dashu.Proofs.Gen Dashu.Model Dashu.Props.GenIntBits

/-- the specification of `TypedReprRef::bit_len` (the magnitude-level method the regenerated body calls) -/
def MeetsBitLen (k : BitK) : Prop := ∀ a : Nat, k.bit_len (a : Int) = (bitLenNat a : Int)

/-- **`<IBig as BitTest>::bit_len` as regenerated = the bit length of the magnitude**, every sign -/
theorem gen_ibig_bit_len (k : BitK) (h : MeetsBitLen k) (x : Int) :
    IBig_bit_len k x = (bitLenNat x.natAbs : Int) ∧
    x.natAbs < 2 ^ bitLenNat x.natAbs ∧
    (x ≠ 0 → 2 ^ (bitLenNat x.natAbs - 1) ≤ x.natAbs) :=
  ⟨h x.natAbs, (bitLenNat_spec _).1, fun hx => (bitLenNat_spec _).2 (Int.natAbs_ne_zero.2 hx)⟩

/-- every bit of the two's-complement form at a position `≥ bit_len` is the sign bit -/
theorem sign_bits_above (x : Int) (i : Nat) (hi : bitLenNat x.natAbs ≤ i) : Int.testBit x i = decide (x < 0) :=
  C09.testBit_of_natAbs_lt (Nat.lt_of_lt_of_le (bitLenNat_spec _).1 (Nat.pow_le_pow_right (by decide) hi))

/-- the bit just below `bit_len`: 1 for a positive value; for a negative value 0, except at `x = −2^(L−1)` where it is 1 -/
theorem top_bit_below (x : Int) (hx : x ≠ 0) :
    Int.testBit x (bitLenNat x.natAbs - 1) = decide (0 < x ∨ x = -(2 ^ (bitLenNat x.natAbs - 1) : Nat)) := by
  have hn : x.natAbs ≠ 0 := Int.natAbs_ne_zero.2 hx
  have hlo := Nat.log2_self_le hn
  have hhi := Nat.lt_log2_self (n := x.natAbs)
  rw [show bitLenNat x.natAbs - 1 = x.natAbs.log2 by rw [bitLenNat, if_neg hn]; rfl]
  generalize x.natAbs.log2 = j at *
  -- `2^j ≤ |x| < 2^(j+1)`: bit `j` of `|x|` is set, and bit `j` of `|x| - 1` is clear exactly when `|x| = 2^j`
  cases x with
  | ofNat a =>
    show a.testBit j = _
    rw [Nat.testBit_of_two_pow_le_and_two_pow_add_one_gt (n := a) hlo hhi]
    exact (decide_eq_true (Or.inl (Int.natCast_pos.2 (Nat.pos_of_ne_zero hn)))).symm
  | negSucc m =>
    show (!m.testBit j) = _
    by_cases hm : m + 1 = 2 ^ j
    · rw [Nat.testBit_lt_two_pow (hm ▸ Nat.lt_succ_self m)]
      exact (decide_eq_true (Or.inr (hm ▸ rfl))).symm
    · rw [Nat.testBit_of_two_pow_le_and_two_pow_add_one_gt (Nat.le_of_lt_succ (Nat.lt_of_le_of_ne hlo (Ne.symm hm)))
        (Nat.lt_of_succ_lt (n := m) hhi)]
      refine (decide_eq_false ?_).symm
      rintro (h | h)
      · exact Int.lt_asymm h (Int.negSucc_lt_zero m)
      · exact hm (Int.ofNat_inj.1 (Int.neg_inj.1 h))

/-- **`IBig::bit_len` as regenerated, read in two's complement**: from position `bit_len` on there are only sign bits; the bit
    below is the complement of the sign except at `x = −2^(L−1)` -/
theorem gen_ibig_bit_len_sign_bits (k : BitK) (h : MeetsBitLen k) (x : Int) :
    ∃ L : Nat, IBig_bit_len k x = (L : Int) ∧
      (∀ i, L ≤ i → Int.testBit x i = decide (x < 0)) ∧
      (x ≠ 0 → Int.testBit x (L - 1) = decide (0 < x ∨ x = -(2 ^ (L - 1) : Nat))) :=
  ⟨bitLenNat x.natAbs, (gen_ibig_bit_len k h x).1, fun i hi => sign_bits_above x i hi, top_bit_below x⟩

/-- the specification record of `GenIntBits` meets it: the hypothesis is satisfiable -/
theorem specK_meets_bit_len : MeetsBitLen specK := fun _ => rfl

private theorem bitLen_ofNat (W : Nat) (hW : 1 ≤ W) (n : Nat) : (ofNat W n).bitLen W = bitLenNat n := by
  rw [TRepr.bitLen_spec W _ (ofNat_canon W hW n), ofNat_value W hW n]

/-- **the executed magnitude model meets the specification of `bit_len`** (`TRepr.bitLen_spec` on the canonical `ofNat`) -/
theorem modelK_meets_bit_len (W : Nat) (hW : 1 ≤ W) : MeetsBitLen (modelK W) := fun a =>
  congrArg Nat.cast (bitLen_ofNat W hW a)

/-- **regenerated sign dispatch ∘ executed magnitude model = what the driver prints for `i.bitlen` = its specification side** -/
theorem model_ibig_bit_len (W : Nat) (hW : 1 ≤ W) (x : Int) :
    IBig_bit_len (modelK W) x = (((sOfInt W x).mag.bitLen W : Nat) : Int) ∧
    (sOfInt W x).mag.bitLen W = bitLenNat x.natAbs :=
  ⟨rfl, bitLen_ofNat W hW x.natAbs⟩

-- non-vacuity: −12 = …10100 has bit_len 4 (bits ≥ 4 are ones, bit 3 is 0); −8 = …1000 has bit_len 4 with bit 3 = 1; 12 has 4; 0 has 0;
-- a three-word magnitude through the executed model at W = 64
example : IBig_bit_len specK (-12) = 4 ∧ IBig_bit_len specK (-8) = 4 ∧ IBig_bit_len specK 12 = 4 ∧ IBig_bit_len specK 0 = 0 ∧
    Int.testBit (-12) 4 = true ∧ Int.testBit (-12) 3 = false ∧ Int.testBit (-8) 3 = true ∧ Int.testBit 12 3 = true ∧
    IBig_bit_len (modelK 64) (-(2 ^ 130 + 5)) = 131 := by
  decide +kernel

end Dashu.Props.C09BitLen
