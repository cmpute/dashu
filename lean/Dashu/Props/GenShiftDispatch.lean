import Dashu.Gen.ShiftDispatch
import Dashu.Props.GenShiftHeap
import Dashu.Props.GenBitsSmall
/-
  C09, Tie A over the DISPATCH of `<<` / `>>` by a `usize` (`integer/src/shift_ops.rs`, `mod repr`): the four
  `impl Shl<usize>|Shr<usize> for TypedRepr|TypedReprRef` regenerated on every run (`Dashu/Gen/ShiftDispatch.lean`: the zero arm of
  `<<`, which function gets the inline double word / the heap words, owned vs borrowed) over the regenerated `shl_dword`,
  `shl_large(_ref)`, `shr_dword`, `shr_large(_ref)`.  Theorems: on canonical operands and counts whose word arithmetic fits `usize`
  every form IS the hand model's `TRepr.shl` / `TRepr.shr` (what the driver executes; `<<` = ·2^n, `>>` = ÷2^n in `Props/C09.lean`).
-/
namespace Dashu.Props.GenShiftDispatch
open Dashu.Model Dashu Dashu.GluePrelude Dashu.Gen.ShiftHeap Dashu.Gen.ShiftDispatch Dashu.Props.GenShiftHeap

/-- **`<<` on TypedRepr (owned, every buffer capacity) and TypedReprRef** = `TRepr.shl` -/
theorem gen_shl_dispatch (W U n cap : Nat) (x : TRepr) (hW : 1 ≤ W) (h32 : W ≤ 2 ^ 32) (hx : x.Canon W)
    (h2W : 2 * W < 2 ^ U) (hU : n / W + (match x with | .small _ => 2 | .large ws => ws.length) + 1 < 2 ^ U) :
    Shl_val W U x n cap = some (TRepr.shl W x n) ∧ Shl_ref W U x n = some (TRepr.shl W x n) := by
  cases x with
  | small d =>
    cases d with
    | zero => exact ⟨rfl, rfl⟩
    | succ k =>
      have h := gen_shl_dword_repr W U (k + 1) n hW h32 (Nat.succ_ne_zero k) hx hU h2W
      rw [TRepr.shl, if_neg (Nat.succ_ne_zero k)]
      exact ⟨h, h⟩
  | large ws =>
    have hw : IsWords W ws := hx.large_words
    exact ⟨gen_shl_large W U n cap ws hW h32 hw hU, gen_shl_large_ref W U n ws hW h32 hw hU⟩

/-- **`>>` on TypedRepr (owned) and TypedReprRef (borrowed)** = `TRepr.shr` with `byRef = false / true`, EVERY count -/
theorem gen_shr_dispatch (W U n : Nat) (x : TRepr) (hW : 1 ≤ W) (h32 : W ≤ 2 ^ 32) :
    Shr_val W U x n = some (TRepr.shr W x n false) ∧ Shr_ref W U x n = some (TRepr.shr W x n true) := by
  cases x with
  | small d =>
    have h := Props.GenBitsSmall.gen_shr_dword W U d n
    have hv : (shrDword W d n) = .small ((shrDword W d n).value W) := by
      unfold shrDword; split <;> rfl
    constructor
    · simp only [Shr_val, TRepr.shr, h, Option.map_some]; rw [← hv]
    · simp only [Shr_ref, TRepr.shr, h, Option.map_some]; rw [← hv]
  | large ws =>
    exact ⟨gen_shr_large W U n ws hW h32, gen_shr_large_ref W U n ws hW h32⟩

-- non-vacuity (64-bit words): zero arm, inline, spill, heap operand in both forms, shift beyond the length
example : Shl_val 64 64 (.small 0) 1000 0 = some (.small 0) ∧ Shl_ref 64 64 (.small 3) 10 = some (.small 3072) ∧
    Shl_val 64 64 (.small 3) 127 7 = some (.large [0, 2 ^ 63, 1]) ∧
    Shl_val 64 64 (.large [1, 2, 3]) 64 3 = some (.large [0, 1, 2, 3]) ∧ Shl_ref 64 64 (.large [1, 2, 3]) 64 = some (.large [0, 1, 2, 3]) ∧
    Shr_val 64 64 (.large [1, 2, 3, 4]) 64 = some (.large [2, 3, 4]) ∧ Shr_ref 64 64 (.large [1, 2, 3]) 500 = some (.small 0) ∧
    Shr_ref 64 64 (.small 12) (2 ^ 64 - 1) = some (.small 0) := by
  refine ⟨by decide +kernel, by decide +kernel, by decide +kernel, by decide +kernel, by decide +kernel, by decide +kernel, by decide +kernel, by decide +kernel⟩

end Dashu.Props.GenShiftDispatch
