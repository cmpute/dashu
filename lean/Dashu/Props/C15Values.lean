import Dashu.Model.Forms.Float
import Dashu.Proofs.Float.Review
import Dashu.Proofs.Float.Value
import Dashu.Proofs.Float.Digits
import Dashu.Proofs.Float.ReprRound
/-
  C15 — the VALUES behind the dashu-float call forms that `drive_forms` computes (`Model/Forms/Float.lean`):
  the operator-form addition is the definition the four regenerated variants are proved equal to; the trait-method form
  `div_rem_euclid = (div_euclid, rem_euclid)`; what `div_euclid` / `rem_euclid` of two floats denote (`x = q·y + r`,
  `0 ≤ r < |y|`, remainder exact whenever it fits the result context); `<<` / `>>` as multiplication by `B^{±n}`.
-/
namespace Dashu.Props.C15Values
open Dashu Dashu.Model.Float Dashu.Model.Forms

/-- the operator-form addition executed by `drive_forms` IS the definition the four regenerated variants
    `add_val_val … add_ref_ref` are proved equal to in `Props/C15FloatAdd`, `Props/GenFloatForms` -/
theorem opAddSub_eq_review : @Model.Forms.opAddSub = @Model.Float.opAddSub := rfl

/-! ### Euclidean division of floats: the trait-method form and the values -/

theorem euclid_ok (B : Nat) (m : Mode) (c : Coarse) (x y : FBigM) :
    let nd := alignAsInt B x.repr y.repr
    let r := euclidRemTail B m c (ctxMax x.prec y.prec) (min x.repr.exp y.repr.exp) (nd.1 % nd.2)
    (nd.2 = 0 ∧ fDivEuclid B x y = .error kDivZero ∧ fRemEuclid B m c x y = .error kDivZero ∧
        fDivRemEuclid B m c x y = .error kDivZero) ∨
    (nd.2 ≠ 0 ∧ fDivEuclid B x y = .ok (nd.1 / nd.2) ∧ fRemEuclid B m c x y = .ok r ∧
        fDivRemEuclid B m c x y = .ok (nd.1 / nd.2, r)) := by
  unfold fDivEuclid fRemEuclid fDivRemEuclid
  by_cases hd : (alignAsInt B x.repr y.repr).2 = 0
  · exact Or.inl ⟨hd, if_pos hd, if_pos hd, if_pos hd⟩
  · exact Or.inr ⟨hd, if_neg hd, if_neg hd, if_neg hd⟩

/-- `div_rem_euclid` = (`div_euclid`, `rem_euclid`) for every pair of operands, including the panic -/
theorem fDivRemEuclid_pair (B : Nat) (m : Mode) (c : Coarse) (x y : FBigM) :
    fDivRemEuclid B m c x y = (do let q ← fDivEuclid B x y; let r ← fRemEuclid B m c x y; pure (q, r)) := by
  rcases euclid_ok B m c x y with ⟨_, h1, h2, h3⟩ | ⟨_, h1, h2, h3⟩ <;> rw [h1, h2, h3] <;> rfl

theorem toRat_scaled (B : Nat) (hB : 0 < B) (x : FRepr) (e : Int) (he : e ≤ x.exp) :
    x.toRat B = ((x.signif * ((B ^ (x.exp - e).toNat : Nat) : Int) : Int) : ℚ) * bpowQ B e := by
  unfold FRepr.toRat
  have h : x.exp = ((x.exp - e).toNat : Int) + e := by omega
  conv_lhs => rw [h, bpowQ_add B hB, bpowQ_nat]
  push_cast; ring

theorem alignAsInt_eq (B : Nat) (x y : FRepr) :
    alignAsInt B x y = (x.signif * ((B ^ (x.exp - min x.exp y.exp).toNat : Nat) : Int),
      y.signif * ((B ^ (y.exp - min x.exp y.exp).toNat : Nat) : Int)) := by
  unfold alignAsInt
  by_cases h : x.exp - y.exp ≥ 0
  · rw [if_pos h, shlDigits_eq, show min x.exp y.exp = y.exp by omega, Int.sub_self]; simp
  · rw [if_neg h, shlDigits_eq, show min x.exp y.exp = x.exp by omega, Int.sub_self,
      show (-(x.exp - y.exp)) = y.exp - x.exp by omega]; simp

/-- `align_as_int`: both values are the returned integers at the smaller exponent -/
theorem alignAsInt_value (B : Nat) (hB : 0 < B) (x y : FRepr) :
    x.toRat B = ((alignAsInt B x y).1 : ℚ) * bpowQ B (min x.exp y.exp) ∧
    y.toRat B = ((alignAsInt B x y).2 : ℚ) * bpowQ B (min x.exp y.exp) := by
  rw [alignAsInt_eq]
  exact ⟨toRat_scaled B hB x _ (by omega), toRat_scaled B hB y _ (by omega)⟩

/-- `div_euclid` panics exactly for a zero divisor -/
theorem fDivEuclid_panics_iff (B : Nat) (hB : 0 < B) (x y : FBigM) :
    fDivEuclid B x y = .error kDivZero ↔ y.repr.signif = 0 := by
  unfold fDivEuclid
  rw [alignAsInt_eq]
  have hp : ((B ^ (y.repr.exp - min x.repr.exp y.repr.exp).toNat : Nat) : Int) ≠ 0 :=
    Int.natCast_ne_zero.2 (Nat.pow_pos hB).ne'
  by_cases h0 : y.repr.signif = 0
  · simp [h0]
  · rw [if_neg (Int.mul_ne_zero h0 hp)]; simp [h0]

/-- the exact remainder left by the Euclidean quotient, as an integer at the smaller exponent -/
theorem fDivEuclid_rem (B : Nat) (hB : 0 < B) (x y : FBigM) (q : Int) (h : fDivEuclid B x y = .ok q) :
    x.repr.toRat B - (q : ℚ) * y.repr.toRat B =
      (((alignAsInt B x.repr y.repr).1 % (alignAsInt B x.repr y.repr).2 : Int) : ℚ) *
        bpowQ B (min x.repr.exp y.repr.exp) := by
  obtain ⟨hx, hy⟩ := alignAsInt_value B hB x.repr y.repr
  rcases euclid_ok B .halfAway coarseNone x y with ⟨_, he, _⟩ | ⟨_, he, _⟩ <;> rw [he] at h
  · cases h
  · obtain rfl := Except.ok.inj h
    rw [hx, hy]
    have := Int.mul_ediv_add_emod (alignAsInt B x.repr y.repr).1 (alignAsInt B x.repr y.repr).2
    generalize alignAsInt B x.repr y.repr = nd at *
    have : (nd.1 : ℚ) = (nd.2 : ℚ) * ((nd.1 / nd.2 : Int) : ℚ) + ((nd.1 % nd.2 : Int) : ℚ) := by
      exact_mod_cast this.symm
    rw [this]; ring

/-- VALUE of the Euclidean quotient: `x = q·y + r` with `0 ≤ r < |y|` -/
theorem fDivEuclid_spec (B : Nat) (hB : 0 < B) (x y : FBigM) (q : Int) (h : fDivEuclid B x y = .ok q) :
    0 ≤ x.repr.toRat B - (q : ℚ) * y.repr.toRat B ∧
    x.repr.toRat B - (q : ℚ) * y.repr.toRat B < |y.repr.toRat B| := by
  rw [fDivEuclid_rem B hB x y q h, (alignAsInt_value B hB x.repr y.repr).2]
  have hd : (alignAsInt B x.repr y.repr).2 ≠ 0 := by
    rcases euclid_ok B .halfAway coarseNone x y with ⟨_, he, _⟩ | ⟨hd, _⟩
    · rw [he] at h; cases h
    · exact hd
  have hpos := bpowQ_pos B hB (min x.repr.exp y.repr.exp)
  generalize alignAsInt B x.repr y.repr = nd at *
  rw [abs_mul, abs_of_pos hpos]
  refine ⟨mul_nonneg (by exact_mod_cast Int.emod_nonneg nd.1 hd) hpos.le, mul_lt_mul_of_pos_right ?_ hpos⟩
  rw [← Int.cast_abs]
  exact_mod_cast Int.emod_lt_abs nd.1 hd

/-- the tail of `rem_euclid` / `div_rem_euclid`: the converted integer, moved to the smaller exponent -/
theorem euclidRemTail_value (B : Nat) (hB : 0 < B) (m : Mode) (c : Coarse) (p : Nat) (rExp r : Int) :
    (euclidRemTail B m c p rExp r).repr.toRat B = (convertInt B m c p r).toRat B * bpowQ B rExp ∧
    (euclidRemTail B m c p rExp r).prec = p := by
  unfold euclidRemTail
  refine ⟨?_, rfl⟩
  by_cases h : (convertInt B m c p r).signif = 0
  · simp [h, FRepr.toRat]
  · simp only [h, ne_eq, not_false_eq_true, if_true, FRepr.toRat]
    rw [bpowQ_add B hB]; ring

/-- VALUE of `rem_euclid`: whenever the remainder needs no rounding in the result context (`Context::max` of the operand
    contexts is unlimited, or the remainder has at most that many digits) it is exactly `x − q·y` for the quotient `q`
    of `div_euclid`, hence in `[0, |y|)`; its context is `Context::max`. -/
theorem fRemEuclid_exact (B : Nat) (hB : 2 ≤ B) (m : Mode) (c : Coarse) (x y : FBigM) (q : Int) (r : FBigM)
    (hq : fDivEuclid B x y = .ok q) (hr : fRemEuclid B m c x y = .ok r)
    (hfit : ctxMax x.prec y.prec = 0 ∨
      (FRepr.new B ((alignAsInt B x.repr y.repr).1 % (alignAsInt B x.repr y.repr).2) 0).digits B ≤ ctxMax x.prec y.prec) :
    r.repr.toRat B = x.repr.toRat B - (q : ℚ) * y.repr.toRat B ∧ r.prec = ctxMax x.prec y.prec := by
  have hB0 : 0 < B := by omega
  rw [fDivEuclid_rem B hB0 x y q hq]
  unfold fRemEuclid at hr
  unfold fDivEuclid at hq
  by_cases hd : (alignAsInt B x.repr y.repr).2 = 0
  · simp [hd] at hq
  · simp only [hd, if_false, Except.ok.injEq] at hr
    obtain ⟨hv, hp⟩ := euclidRemTail_value B hB0 m c (ctxMax x.prec y.prec) (min x.repr.exp y.repr.exp)
      ((alignAsInt B x.repr y.repr).1 % (alignAsInt B x.repr y.repr).2)
    rw [hr] at hv hp
    refine ⟨?_, hp⟩
    rw [hv]
    congr 1
    unfold convertInt
    rcases hfit with h0 | hfit
    · rw [h0, reprRound_unlimited]; exact new_int_value B hB _
    · rw [reprRound_exact_of_fits B m c _ _ hfit]; exact new_int_value B hB _

example : fDivRemEuclid 10 .halfAway coarseNone ⟨⟨-12345, -3⟩, 0⟩ ⟨⟨7, 0⟩, 2⟩ = .ok (-2, ⟨⟨17, -1⟩, 2⟩) := by decide

/-! ### shifts -/

theorem fShl_ok {x y : FBigM} {n : Int} (h : fShl x n = .ok y) :
    y = if x.repr.isZero then x else ⟨⟨x.repr.signif, x.repr.exp + n⟩, x.prec⟩ := by
  unfold fShl at h
  by_cases hz : x.repr.isZero = true
  · rw [if_pos hz] at h ⊢; exact (Except.ok.inj h).symm
  · simp only [hz, Bool.false_eq_true, if_false] at h ⊢
    split at h
    · cases h
    · exact (Except.ok.inj h).symm

/-- `>>` returns what `<<` by the opposite count returns (the two differ in the name of the overflow only) -/
theorem fShr_ok {x y : FBigM} {n : Int} (h : fShr x n = .ok y) : fShl x (-n) = .ok y := by
  unfold fShr at h
  unfold fShl
  by_cases hz : x.repr.isZero = true
  · rw [if_pos hz] at h ⊢; exact h
  · simp only [hz, Bool.false_eq_true, if_false, ← Int.sub_eq_add_neg] at h ⊢
    split at h
    · cases h
    · next he => rw [if_neg he]; exact h

/-- `x << n` / `x <<= n`: multiplication by `B^n` (when the exponent stays inside `isize`) -/
theorem fShl_value (B : Nat) (hB : 0 < B) (x y : FBigM) (n : Int) (h : fShl x n = .ok y) :
    y.repr.toRat B = x.repr.toRat B * bpowQ B n ∧ y.prec = x.prec := by
  rw [fShl_ok h]
  split
  · next hz => simp [toRat_zero_of_isZero B x.repr hz]
  · simp only [FRepr.toRat, and_true]
    rw [bpowQ_add B hB]; ring

/-- `x >> n` / `x >>= n`: division by `B^n` -/
theorem fShr_value (B : Nat) (hB : 0 < B) (x y : FBigM) (n : Int) (h : fShr x n = .ok y) :
    y.repr.toRat B = x.repr.toRat B * bpowQ B (-n) ∧ y.prec = x.prec :=
  fShl_value B hB x y (-n) (fShr_ok h)

/-- `(x << n) >> n = x` for a finite `x` whenever both shifts stay inside `isize` -/
theorem fShl_fShr (x y z : FBigM) (n : Int) (hfin : x.repr.signif = 0 → x.repr.exp = 0)
    (h1 : fShl x n = .ok y) (h2 : fShr y n = .ok z) : z = x := by
  rw [fShl_ok (fShr_ok h2), fShl_ok h1]
  by_cases hz : x.repr.isZero = true
  · simp only [hz, if_true]
  · have hs : x.repr.signif ≠ 0 := fun h0 => hz (by simp [FRepr.isZero, h0, hfin h0])
    have hnz : (⟨x.repr.signif, x.repr.exp + n⟩ : FRepr).isZero = false := by simp [FRepr.isZero, hs]
    simp only [hz, hnz, Bool.false_eq_true, if_false]
    rw [show x.repr.exp + n + -n = x.repr.exp by omega]

example : fShl ⟨⟨5, -3⟩, 10⟩ (2 ^ 63 - 1) = .ok ⟨⟨5, 2 ^ 63 - 4⟩, 10⟩ := by decide
example : fShl ⟨⟨5, 3⟩, 10⟩ (2 ^ 63 - 1) = .error kAddOverflow := by decide

/-! ### `%`: `Context::repr_rem` -/

/-- the remainder of smallest magnitude of `ls·a` modulo `b` (ties to the sign opposite to `ls`) -/
def nearest (ls : Int) (a b : Nat) : Int :=
  if a % b < b - a % b then ls * ((a % b : Nat) : Int) else -ls * ((b - a % b : Nat) : Int)

theorem nearest_spec (ls : Int) (hls : ls = 1 ∨ ls = -1) (a b : Nat) (hb : 0 < b) :
    (∃ k : Int, nearest ls a b = ls * (a : Int) - k * (b : Int)) ∧ 2 * (nearest ls a b).natAbs ≤ b := by
  unfold nearest
  have hlt : a % b < b := Nat.mod_lt a hb
  have hdecomp : (a : Int) = (b : Int) * ((a / b : Nat) : Int) + ((a % b : Nat) : Int) := by
    have := Nat.div_add_mod a b; exact_mod_cast this.symm
  by_cases h : a % b < b - a % b
  · simp only [h, if_true]
    refine ⟨⟨ls * ((a / b : Nat) : Int), ?_⟩, ?_⟩
    · rw [hdecomp]; ring
    · rcases hls with e | e <;> subst e <;> simp <;> omega
  · simp only [h, if_false]
    refine ⟨⟨ls * (((a / b : Nat) : Int) + 1), ?_⟩, ?_⟩
    · rw [Nat.cast_sub hlt.le, hdecomp]; ring
    · rcases hls with e | e <;> subst e <;> simp <;> omega

theorem remSignif_eq_nearest (B : Nat) (hB : 0 < B) (lhs rhs : FRepr) (hr : rhs.signif ≠ 0) :
    remSignif B lhs rhs =
      nearest (if lhs.signif < 0 then -1 else 1)
        (lhs.signif.natAbs * B ^ (lhs.exp - rhs.exp).toNat) (rhs.signif.natAbs * B ^ (rhs.exp - lhs.exp).toNat) := by
  have hb : 0 < rhs.signif.natAbs := Int.natAbs_pos.mpr hr
  unfold remSignif nearest
  generalize (if lhs.signif < 0 then (-1 : Int) else 1) = ls
  generalize lhs.signif.natAbs = a
  generalize rhs.signif.natAbs = b at hb
  by_cases he : lhs.exp = rhs.exp
  · simp [he]
  · simp only [he, if_false]
    by_cases hg : lhs.exp > rhs.exp
    · simp only [hg, if_true]
      have h0 : (rhs.exp - lhs.exp).toNat = 0 := by omega
      simp only [h0, Nat.pow_zero, Nat.mul_one]
      generalize a * B ^ (lhs.exp - rhs.exp).toNat = a'
      have hlt : a' % b < b := Nat.mod_lt a' hb
      by_cases hz : a' % b = 0
      · simp [hz, hb]
      · have : (b - a' % b) % b = b - a' % b := Nat.mod_eq_of_lt (by omega)
        rw [this]
    · simp only [hg, if_false]
      have h0 : (lhs.exp - rhs.exp).toNat = 0 := by omega
      simp only [h0, Nat.pow_zero, Nat.mul_one, splitDigits_eq, splitSpec, shlDigits_eq]
      generalize (rhs.exp - lhs.exp).toNat = s
      have hP : 0 < B ^ s := Nat.pow_pos hB
      -- a = hi·P + lo
      have hhi : Int.tdiv (a : Int) ((B ^ s : Nat) : Int) = ((a / B ^ s : Nat) : Int) := by
        rw [Int.tdiv_eq_ediv_of_nonneg (by omega)]; norm_cast
      have hlo : Int.tmod (a : Int) ((B ^ s : Nat) : Int) = ((a % B ^ s : Nat) : Int) := by
        rw [Int.tmod_eq_emod_of_nonneg (by omega)]; norm_cast
      rw [hhi, hlo]
      have hr1 : Int.emod ((a / B ^ s : Nat) : Int) (b : Int) = (((a / B ^ s) % b : Nat) : Int) := by
        show ((a / B ^ s : Nat) : Int) % (b : Int) = _; norm_cast
      rw [hr1]
      -- a % (b·P) = (a / P % b)·P + a % P
      have hmod : a % (b * B ^ s) = (a / B ^ s % b) * B ^ s + a % B ^ s := by
        rw [Nat.mul_comm b, Nat.mod_mul, Nat.mul_comm, Nat.add_comm]
      have hlt1 : a / B ^ s % b < b := Nat.mod_lt _ hb
      have hlt2 : a % B ^ s < B ^ s := Nat.mod_lt _ hP
      have hle : (a / B ^ s % b) * B ^ s + a % B ^ s < b * B ^ s := by
        calc (a / B ^ s % b) * B ^ s + a % B ^ s < (a / B ^ s % b) * B ^ s + B ^ s := by omega
          _ = (a / B ^ s % b + 1) * B ^ s := by ring
          _ ≤ b * B ^ s := Nat.mul_le_mul_right _ (by omega)
      rw [hmod]
      generalize hx : a / B ^ s % b = x at *
      generalize hy : a % B ^ s = y at *
      generalize B ^ s = P at *
      have e1 : ((x : Int)) * (P : Int) + (y : Int) = ((x * P + y : Nat) : Int) := by push_cast; ring
      have e2 : ((b : Int) - (x : Int)) * (P : Int) - (y : Int) = ((b * P - (x * P + y) : Nat) : Int) := by
        rw [Nat.cast_sub hle.le]; push_cast; ring
      rw [e1, e2]
      by_cases hc : x * P + y < b * P - (x * P + y)
      · have : ((x * P + y : Nat) : Int) < ((b * P - (x * P + y) : Nat) : Int) := by exact_mod_cast hc
        rw [if_pos hc, if_pos this]
      · have : ¬ ((x * P + y : Nat) : Int) < ((b * P - (x * P + y) : Nat) : Int) := by
          intro h; exact hc (by exact_mod_cast h)
        rw [if_neg hc, if_neg this]

/-- VALUE of the un-rounded remainder of `Context::repr_rem`: `lhs − k·rhs` for an integer `k`, of magnitude at most
    `|rhs| / 2` (the nearest-quotient remainder) -/
theorem remSignif_value (B : Nat) (hB : 0 < B) (lhs rhs : FRepr) (hr : rhs.signif ≠ 0) :
    ∃ k : Int,
      ((remSignif B lhs rhs : Int) : ℚ) * bpowQ B (min lhs.exp rhs.exp) = lhs.toRat B - (k : ℚ) * rhs.toRat B ∧
      2 * |((remSignif B lhs rhs : Int) : ℚ) * bpowQ B (min lhs.exp rhs.exp)| ≤ |rhs.toRat B| := by
  rw [remSignif_eq_nearest B hB lhs rhs hr]
  have hb : 0 < rhs.signif.natAbs * B ^ (rhs.exp - lhs.exp).toNat :=
    Nat.mul_pos (Int.natAbs_pos.mpr hr) (Nat.pow_pos hB)
  have hls : (if lhs.signif < 0 then (-1 : Int) else 1) = 1 ∨ (if lhs.signif < 0 then (-1 : Int) else 1) = -1 := by
    by_cases h : lhs.signif < 0 <;> simp [h]
  obtain ⟨⟨k, hk⟩, hsmall⟩ := nearest_spec _ hls (lhs.signif.natAbs * B ^ (lhs.exp - rhs.exp).toNat) _ hb
  have hpos := bpowQ_pos B hB (min lhs.exp rhs.exp)
  have hl := toRat_scaled B hB lhs (min lhs.exp rhs.exp) (by omega)
  have hrr := toRat_scaled B hB rhs (min lhs.exp rhs.exp) (by omega)
  have e1 : (lhs.exp - min lhs.exp rhs.exp).toNat = (lhs.exp - rhs.exp).toNat := by omega
  have e2 : (rhs.exp - min lhs.exp rhs.exp).toNat = (rhs.exp - lhs.exp).toNat := by omega
  rw [e1] at hl
  rw [e2] at hrr
  -- signs
  have hsl : lhs.signif = (if lhs.signif < 0 then (-1 : Int) else 1) * (lhs.signif.natAbs : Int) := by
    by_cases h : lhs.signif < 0
    · simp only [h, if_true]; omega
    · simp only [h, if_false]; omega
  obtain ⟨sr, hsr, hsr2⟩ : ∃ sr : Int, (sr = 1 ∨ sr = -1) ∧ rhs.signif = sr * (rhs.signif.natAbs : Int) := by
    by_cases h : rhs.signif < 0
    · exact ⟨-1, Or.inr rfl, by omega⟩
    · exact ⟨1, Or.inl rfl, by omega⟩
  generalize (if lhs.signif < 0 then (-1 : Int) else 1) = ls at *
  generalize hP : B ^ (lhs.exp - rhs.exp).toNat = P at *
  generalize hQ : B ^ (rhs.exp - lhs.exp).toNat = Q at *
  generalize bpowQ B (min lhs.exp rhs.exp) = t at *
  generalize ha : lhs.signif.natAbs = a at *
  generalize hbb : rhs.signif.natAbs = b at *
  have hsr1 : sr * sr = 1 := by rcases hsr with e | e <;> subst e <;> norm_num
  refine ⟨k * sr, ?_, ?_⟩
  · rw [hk, hl, hrr, hsl, hsr2]
    push_cast
    have : ((sr : ℚ)) * (sr : ℚ) = 1 := by exact_mod_cast hsr1
    have h3 : (k : ℚ) * sr * (sr * b * Q * t) = k * b * Q * t * ((sr : ℚ) * sr) := by ring
    rw [h3, this]; ring
  · rw [hrr, hsr2, abs_mul, abs_mul, abs_of_pos hpos]
    have habs : |(((sr * (b : Int) * ((Q : Nat) : Int) : Int)) : ℚ)| = ((b * Q : Nat) : ℚ) := by
      rcases hsr with e | e <;> subst e <;> push_cast <;> simp [abs_mul]
    rw [habs]
    have h2 : (2 : ℚ) * |((nearest ls (a * P) (b * Q) : Int) : ℚ)| ≤ ((b * Q : Nat) : ℚ) := by
      have : ((2 * (nearest ls (a * P) (b * Q)).natAbs : Nat) : ℚ) ≤ ((b * Q : Nat) : ℚ) := by exact_mod_cast hsmall
      rw [← Int.cast_abs, ← Nat.cast_natAbs]
      push_cast at this ⊢
      exact this
    rw [← mul_assoc]
    exact mul_le_mul_of_nonneg_right h2 hpos.le

/-- `%` panics exactly for a zero divisor -/
theorem reprRem_panics_iff (B : Nat) (m : Mode) (c : Coarse) (p : Nat) (lhs rhs : FRepr) :
    reprRem B m c p lhs rhs = .error kDivZero ↔ rhs.signif = 0 := by
  unfold reprRem
  by_cases h : rhs.signif = 0
  · simp [h]
  · simp only [h, if_false, iff_false]
    split <;> simp

/-- VALUE of `Context::rem` / `FBig % FBig`: whenever the remainder needs no rounding in the context (unlimited precision,
    or it has at most `p` digits) the result is `lhs − k·rhs` for an integer `k`, of magnitude at most `|rhs| / 2` -/
theorem reprRem_value (B : Nat) (hB : 2 ≤ B) (m : Mode) (c : Coarse) (p : Nat) (lhs rhs : FRepr) (v : Rounded FRepr)
    (h : reprRem B m c p lhs rhs = .ok v)
    (hfit : p = 0 ∨ (FRepr.new B (remSignif B lhs rhs) (min lhs.exp rhs.exp)).digits B ≤ p) :
    ∃ k : Int, v.1.toRat B = lhs.toRat B - (k : ℚ) * rhs.toRat B ∧ 2 * |v.1.toRat B| ≤ |rhs.toRat B| := by
  have hB0 : 0 < B := by omega
  unfold reprRem at h
  by_cases hr : rhs.signif = 0
  · simp [hr] at h
  · simp only [hr, if_false] at h
    obtain ⟨k, hk1, hk2⟩ := remSignif_value B hB0 lhs rhs hr
    refine ⟨k, ?_⟩
    by_cases hz : remSignif B lhs rhs = 0
    · simp only [hz, if_true, Except.ok.injEq] at h
      subst h
      rw [hz] at hk1 hk2
      simp only [FRepr.toRat, Int.cast_zero, zero_mul] at hk1 hk2 ⊢
      exact ⟨hk1, hk2⟩
    · simp only [hz, if_false, Except.ok.injEq] at h
      have hv : v.1 = FRepr.new B (remSignif B lhs rhs) (min lhs.exp rhs.exp) := by
        rcases hfit with h0 | hfit
        · rw [← h, h0, reprRound_unlimited]
        · rw [← h, reprRound_exact_of_fits B m c p _ hfit]
      rw [hv, FRepr.new_value B hB0]
      exact ⟨hk1, hk2⟩

example : reprRem 10 .halfAway coarseNone 2 ⟨7, 0⟩ ⟨2, 0⟩ = .ok (⟨-1, 0⟩, none) ∧ reprRem 10 .halfAway coarseNone 2 ⟨12345, 3⟩ ⟨7, 0⟩ = .ok (⟨3, 0⟩, none) := by
  decide

/-! ### the clause "the FBig operator vs the Context method at the same precision" — where it holds for the code as it is.
    `+`/`-`: everywhere (since fix 164990d).  `*`, `/`: outside the stated regions the code disagrees (two recorded findings,
    `corpus/C15/float_ctx_vs_operator.case`, `float_div_long_dividend.case`); those regions are exactly the complements
    of the finding predicates. -/

/-- `*`: `Context::mul` = the operator forms whenever no operand is longer than `2p` digits (or the precision is unlimited) -/
theorem operator_eq_context_mul (B : Nat) (m : Mode) (c : Coarse) (p : Nat) (lhs rhs : FRepr)
    (h : p = 0 ∨ (lhs.digits B ≤ 2 * p ∧ rhs.digits B ≤ 2 * p)) :
    ctxMul false B m c p lhs rhs = opMul B m c p lhs rhs := by
  unfold ctxMul opMul
  simp [preShrink_fits B m c p 2 lhs (h.imp_right And.left), preShrink_fits B m c p 2 rhs (h.imp_right And.right)]

/-- `+`, `-`: the operator forms = `Context::add/sub` for ALL operands (`opAddSub_eq_ctx_all` of `Proofs/Float/Review`,
    restated for the definition the driver executes).  Before /repo 164990d the zero-operand shortcut of add_val_val/…
    returned the other operand unrounded (the equality then needed `lhs.digits ≤ p`, `rhs.digits ≤ p`); the repaired code
    rounds it. -/
theorem operator_eq_context_addsub (B : Nat) (m : Mode) (c : Coarse) (dub : Int → Nat) (p : Nat) (lhs rhs : FRepr)
    (rs : Int) (hrs : rs = 1 ∨ rs = -1) :
    Model.Forms.opAddSub B m c dub p lhs rhs rs = (ctxAddSub B m c dub p lhs rhs rs).1 :=
  opAddSub_eq_ctx_all B m c dub p lhs rhs rs hrs

/-- `+`, `-` with both operands non-zero: the same, with no condition on the sign factor `rs` either -/
theorem operator_eq_context_addsub_nonzero (B : Nat) (m : Mode) (c : Coarse) (dub : Int → Nat) (p : Nat) (lhs rhs : FRepr)
    (rs : Int) (hl : lhs.isZero = false) (hr : rhs.isZero = false) :
    Model.Forms.opAddSub B m c dub p lhs rhs rs = (ctxAddSub B m c dub p lhs rhs rs).1 := by
  unfold Model.Forms.opAddSub
  simp [hl, hr]

/-- the whole operation table: for `+` and `-` the operator forms and the `Context` method form answer alike on every pair
    of finite operands (the clause "operator vs Context method at the same precision", add/sub part, without exception) -/
theorem operator_eq_context_addsub_table (B : Nat) (m : Mode) (e : Est) (x y : FBigM) :
    opBin B m e "add" x y = ctxBin B m e "add" x y ∧ opBin B m e "sub" x y = ctxBin B m e "sub" x y := by
  constructor
  · show some _ = some _
    rw [operator_eq_context_addsub B m coarseNone e.dub _ x.repr y.repr 1 (Or.inl rfl)]
  · show some _ = some _
    rw [operator_eq_context_addsub B m coarseNone e.dub _ x.repr y.repr (-1) (Or.inr rfl)]

-- the witness of the repaired defect (`0 (p=2) + 74565 (unlimited)`): 75e3 in the operator forms as in `Context::add`
example : Model.Forms.opAddSub 10 .halfAway coarseNone (digitsI 10) 2 ⟨0, 0⟩ ⟨74565, 0⟩ 1 = ⟨75, 3⟩ := by decide

/-- `/`: the operator forms = `Context::div` whenever the dividend is not pre-shrunk and passes `repr_div`'s assertion -/
theorem operator_eq_context_div (B : Nat) (m : Mode) (c : Coarse) (dub dlb : Int → Nat) (p : Nat) (lhs rhs : FRepr)
    (hp : p ≠ 0) (hno : ¬ (¬ lhs.isZero ∧ dub lhs.signif > dlb rhs.signif + p)) (hlen : lhs.digits B ≤ p + rhs.digits B) :
    opDiv B m p lhs rhs =
      (match ctxDiv B m c dub dlb p lhs rhs with | .ok r => .ok r.1 | .error k => .error (ofFPanic k)) := by
  unfold opDiv ctxDiv
  have : ¬ (lhs.digits B > p + rhs.digits B) := by omega
  simp only [hp, if_false, this, hno]
  rfl

/-- `%`: `Context::rem` and the operator forms are the same call -/
theorem operator_eq_context_rem (B : Nat) (m : Mode) (e : Est) (x y : FBigM) :
    opBin B m e "rem" x y = ctxBin B m e "rem" x y := rfl

/-- the operation table, `*`: the operator forms and `Context::max(..).mul` answer alike on every pair of finite operands
    none of which is longer than twice the result precision (the complement is the recorded pre-shrink finding) -/
theorem operator_eq_context_mul_table (B : Nat) (m : Mode) (e : Est) (x y : FBigM)
    (h : ctxMax x.prec y.prec = 0 ∨
      (x.repr.digits B ≤ 2 * ctxMax x.prec y.prec ∧ y.repr.digits B ≤ 2 * ctxMax x.prec y.prec)) :
    opBin B m e "mul" x y = ctxBin B m e "mul" x y := by
  show some _ = some _
  rw [operator_eq_context_mul B m coarseNone _ x.repr y.repr h]

/-- the operation table, `/`: the same for a dividend that `Context::div` does not pre-shrink and `repr_div` accepts -/
theorem operator_eq_context_div_table (B : Nat) (m : Mode) (e : Est) (x y : FBigM)
    (hp : ctxMax x.prec y.prec ≠ 0)
    (hno : ¬ (¬ x.repr.isZero ∧ e.dub x.repr.signif > e.dlb y.repr.signif + ctxMax x.prec y.prec))
    (hlen : x.repr.digits B ≤ ctxMax x.prec y.prec + y.repr.digits B) :
    opBin B m e "div" x y = ctxBin B m e "div" x y := by
  show some _ = some _
  rw [operator_eq_context_div B m coarseNone e.dub e.dlb _ x.repr y.repr hp hno hlen]
  cases ctxDiv B m coarseNone e.dub e.dlb (ctxMax x.prec y.prec) x.repr y.repr <;> rfl

example : ctxMax (FBigM.mk ⟨15, 0⟩ 0).prec (FBigM.mk ⟨1, 0⟩ 1).prec = 1 ∧ (⟨15, 0⟩ : FRepr).digits 10 ≤ 2 * 1 ∧
    (⟨1, 0⟩ : FRepr).digits 10 ≤ 2 * 1 := by decide

example : (⟨15, 0⟩ : FRepr).digits 10 ≤ 2 * 1 ∧ ctxMul false 10 .halfAway coarseNone 1 ⟨15, 0⟩ ⟨1, 0⟩ = (⟨2, 1⟩, some .AddOne) := by
  decide

/-! ### non-vacuity of the hypothesis-carrying theorems above -/

-- `fDivEuclid_spec`, `fDivEuclid_rem`, `fRemEuclid_exact` (unlimited result context: the remainder is exact)
example : fDivEuclid 10 ⟨⟨-12345, -3⟩, 0⟩ ⟨⟨7, 0⟩, 0⟩ = .ok (-2) ∧
    fRemEuclid 10 .halfAway coarseNone ⟨⟨-12345, -3⟩, 0⟩ ⟨⟨7, 0⟩, 0⟩ = .ok ⟨⟨1655, -3⟩, 0⟩ ∧
    ctxMax (0 : Nat) 0 = 0 := by decide

-- `fRemEuclid_exact`, limited context: a remainder of 2 digits fits `Context::max = 3`
example : fRemEuclid 10 .halfAway coarseNone ⟨⟨25, -1⟩, 3⟩ ⟨⟨1, 0⟩, 2⟩ = .ok ⟨⟨5, -1⟩, 3⟩ ∧
    (FRepr.new 10 ((alignAsInt 10 ⟨25, -1⟩ ⟨1, 0⟩).1 % (alignAsInt 10 ⟨25, -1⟩ ⟨1, 0⟩).2) 0).digits 10 ≤ ctxMax 3 2 := by
  decide

-- `reprRem_value`: the fit hypothesis on a concrete tie (7 % 2 at two digits)
example : (FRepr.new 10 (remSignif 10 ⟨7, 0⟩ ⟨2, 0⟩) (min 0 0)).digits 10 ≤ 2 := by decide

-- `operator_eq_context_div`: a dividend that is neither pre-shrunk nor over-long (exact digit counts as estimators)
example : (2 : Nat) ≠ 0 ∧ ¬ (¬ (⟨1, 0⟩ : FRepr).isZero ∧ digitsI 10 1 > digitsI 10 3 + 2) ∧
    (⟨1, 0⟩ : FRepr).digits 10 ≤ 2 + (⟨3, 0⟩ : FRepr).digits 10 ∧ opDiv 10 .halfAway 2 ⟨1, 0⟩ ⟨3, 0⟩ = .ok ⟨33, -2⟩ := by
  decide

-- `operator_eq_context_addsub_nonzero`
example : (⟨12345, 0⟩ : FRepr).isZero = false ∧ (⟨1, -1⟩ : FRepr).isZero = false := by decide

end Dashu.Props.C15Values
