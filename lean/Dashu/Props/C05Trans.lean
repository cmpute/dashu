import Dashu.Props.C05
import Dashu.Props.C11Series
import Dashu.Proofs.Int.FloatTrans
/-
  C05 ↔ C11 link, for the clause "cmp of floats produced by exp / ln / powf": these producers are not
  instructions of `float_history`.  C11 mirrors their bodies (`Model/Trans/Series.lean`: `expFull` = `Context::exp / exp_m1`,
  `lnFull` = `Context::ln / ln_1p`, `powfBody` = `Context::powf`, executed by C11's driver against the real code).  Here:
  whatever the series computed, every `.ok` result of these mirrored bodies at a limited precision `p` carries at most
  `p + 1` digits — the hypothesis of `float_cmp` — so the comparison the code runs on any two such results (of any two
  precisions, bases equal) is the order of their exact values.
-/
namespace Dashu.Props.C05
open Dashu.Model Dashu.Model.Float Dashu.Model.Trans

/-- `v` is a result at precision `p` of one of the mirrored transcendental producers (some operand(s), some fuel) -/
def TransResult (E : Env) (p : Nat) (v : FBigM) : Prop :=
  ∃ (fuel : Nat) (x y : Float.FRepr) (b : Bool) (fl : Option Rounding) (tr : Trace),
    expFull fuel E p x b = .ok ((v, fl), tr) ∨ lnFull fuel E p x b = .ok ((v, fl), tr) ∨
    powfBody fuel E p x y = .ok ((v, fl), tr)

/-- **results of `exp`, `exp_m1`, `ln`, `ln_1p`, `powf` fit `precision + 1` digits** (any base ≥ 2, rounding mode, coarse
    test, digit estimators, operands of any length, any number of series terms; `p ≥ 1` = the entry guard of the real
    functions, which panic at unlimited precision): the last step of every path is a `with_precision(p)` of a value of strictly
    higher (or unlimited) precision — the working precisions are `> p` and never decrease along the series loops — or the
    final `powi` at `p`, or an exact shortcut (`exp 0`, `ln 1`) -/
theorem float_transcendental_results_fit (fuel : Nat) (E : Env) (hB : 2 ≤ E.B) (p : Nat) (hp : 1 ≤ p) (x y : Float.FRepr) (b : Bool)
    (v : FBigM) (fl : Option Rounding) (tr : Trace) :
    (expFull fuel E p x b = .ok ((v, fl), tr) → FitsP1 E.B p v.repr) ∧
    (lnFull fuel E p x b = .ok ((v, fl), tr) → FitsP1 E.B p v.repr) ∧
    (powfBody fuel E p x y = .ok ((v, fl), tr) → FitsP1 E.B p v.repr) :=
  ⟨expFull_fits fuel E hB p hp x b v fl tr, lnFull_fits fuel E hB p hp x b v fl tr, powfBody_fits fuel E hB p hp x y v fl tr⟩

/-- **C05 for the transcendental producers**: the comparison the code runs (`repr_cmp_same_base` with the precision and
    digit shortcuts, any sound digit estimator) on ANY two results of `exp / exp_m1 / ln / ln_1p / powf` — of any operands,
    at any two limited precisions `pa`, `pb ≤ isize::MAX`, with any rounding modes / estimators (`Ea`, `Eb` of the same base) —
    is the order of their exact values. -/
theorem float_cmp_of_transcendental_results (Ea Eb : Env) (hB : 2 ≤ Ea.B) (hbase : Eb.B = Ea.B)
    (digitsUb : Int → Nat) (hub : ∀ s : Int, s.natAbs < Ea.B ^ digitsUb s)
    (pa pb : Nat) (hpa : 1 ≤ pa) (hpb : 1 ≤ pb) (hma : pa ≤ cmpIsizeMax) (hmb : pb ≤ cmpIsizeMax)
    (va vb : FBigM) (ha : TransResult Ea pa va) (hb : TransResult Eb pb vb) :
    reprCmpSameBase Ea.B digitsUb (ofFloatRepr va.repr) (ofFloatRepr vb.repr) (some (pa, pb))
      = specFCmp Ea.B (ofFloatRepr va.repr) (ofFloatRepr vb.repr) := by
  have fit : ∀ (E : Env), 2 ≤ E.B → ∀ p, 1 ≤ p → ∀ v, TransResult E p v → FitsP1 E.B p v.repr := by
    intro E hE p hp v ⟨fuel, x, y, b, fl, tr, h⟩
    obtain ⟨h1, h2, h3⟩ := float_transcendental_results_fit fuel E hE p hp x y b v fl tr
    rcases h with h | h | h
    · exact h1 h
    · exact h2 h
    · exact h3 h
  have fa := fit Ea hB pa hpa va ha
  have fb := fit Eb (hbase ▸ hB) pb hpb vb hb
  rw [hbase] at fb
  exact float_cmp_of_results Ea.B hB digitsUb hub va.repr vb.repr pa pb fa fb (fa.mem_of_le hma) (fb.mem_of_le hmb)

private theorem ok_of_match (e : Except String (Rounded FBigM × Trace)) (v : FBigM)
    (h : (match e with | .ok r => decide (r.1.1 = v) | .error _ => false) = true) : ∃ fl tr, e = .ok ((v, fl), tr) := by
  cases e with
  | error _ => simp at h
  | ok r =>
    obtain ⟨⟨v', fl⟩, tr⟩ := r
    simp only [decide_eq_true_eq] at h
    exact ⟨fl, tr, by rw [h]⟩

-- non-vacuity (C11's example environment: base 10, HalfEven, exact estimators): `ln 2` at 4 digits = 6931·10^-4, `exp 1` at 4
-- digits = 2718·10^-3, `powf(2, 0.5)` at 3 digits = 141·10^-2 ARE results of the mirrored bodies, and the code's comparison
-- (mixed precisions 4 / 3) orders them ln 2 < √2 < e
open Dashu.Props.C11Series in
example : TransResult E10 4 ⟨⟨6931, -4⟩, 4⟩ ∧ TransResult E10 4 ⟨⟨2718, -3⟩, 4⟩ ∧ TransResult E10 3 ⟨⟨141, -2⟩, 3⟩ ∧
    reprCmpSameBase 10 (fun s => digitsI 10 s) ⟨6931, -4⟩ ⟨141, -2⟩ (some (4, 3)) = .lt ∧
    reprCmpSameBase 10 (fun s => digitsI 10 s) ⟨141, -2⟩ ⟨2718, -3⟩ (some (3, 4)) = .lt := by
  refine ⟨?_, ?_, ?_, by decide +kernel, by decide +kernel⟩
  · obtain ⟨fl, tr, h⟩ := ok_of_match (lnFull 60 E10 4 ⟨2, 0⟩ false) ⟨⟨6931, -4⟩, 4⟩ (by decide +kernel)
    exact ⟨60, ⟨2, 0⟩, ⟨0, 0⟩, false, fl, tr, Or.inr (Or.inl h)⟩
  · obtain ⟨fl, tr, h⟩ := ok_of_match (expFull 60 E10 4 ⟨1, 0⟩ false) ⟨⟨2718, -3⟩, 4⟩ (by decide +kernel)
    exact ⟨60, ⟨1, 0⟩, ⟨0, 0⟩, false, fl, tr, Or.inl h⟩
  · obtain ⟨fl, tr, h⟩ := ok_of_match (powfBody 60 E10 3 ⟨2, 0⟩ ⟨5, -1⟩) ⟨⟨141, -2⟩, 3⟩ (by decide +kernel)
    exact ⟨60, ⟨2, 0⟩, ⟨5, -1⟩, false, fl, tr, Or.inr (Or.inr h)⟩

end Dashu.Props.C05
