import Dashu.Proofs.Text.Grammar
import Dashu.Proofs.Text.BytesDecode
import Dashu.Proofs.Text.CapacityParse
import Dashu.Proofs.Text.ChunksWord
import Dashu.Proofs.Text.GrammarExtra
import Dashu.Proofs.Text.FmtWord
import Dashu.Proofs.Text.FmtLow
import Dashu.Proofs.Text.Pieces
import Dashu.Proofs.Text.ChunksInv
import Dashu.Gen.TextDigit
import Dashu.Proofs.Text.BytesBE
import Dashu.Proofs.Text.ChunksBuf
import Dashu.Proofs.Text.ChunksTight
import Dashu.Gen.TextChunks
import Dashu.Proofs.Text.BytesSignedInv
/-
  C07 — Integer text and byte encodings round-trip and match the reference digits.

  Property theorems only (helper lemmas live in `Dashu/Proofs/Text`).  Every statement quantifies
  over all word sizes `W` (the only requirement is that a radix fits a word: `36 < 2^W`, i.e.
  `W ≥ 6`), all radices 2..36, all integers and all byte strings; nothing is bounded.  The
  definitions are the ones `Dashu/Driver/Text.lean` executes.  Strings are byte lists; a byte is
  a `Nat` (the theorems hold for arbitrary naturals, hence in particular for `UInt8` values).
-/
namespace Dashu.Props.C07
open Dashu.Model.Text

-- ======================================================================= positional representation

/-- the reference digits of `n` evaluate to `n`, are all `< r`, and have no leading zero -/
theorem positional_representation (r n : Nat) (hr : 2 ≤ r) :
    ofDigits r (digits r n) = n ∧ (∀ d ∈ digits r n, d < r) ∧ digits r n ≠ [] ∧
    (n ≠ 0 → (digits r n).head? ≠ some 0) :=
  ⟨ofDigits_digits hr n, digits_lt hr n, digits_ne_nil r n hr,
   fun hn => by rw [digits_of_ne_zero hn]; exact digitsAux_head_ne_zero hr n⟩

/-- `math::max_exp_in_word`: for every word size and base, `range_per_word = base^digits_per_word`
    fits a word, `digits_per_word ≥ 1`, and (even `W`) it is the largest such exponent -/
theorem radix_table (W r : Nat) (hr : 2 ≤ r) (hrW : r < 2 ^ W) :
    (radixInfo W r).rpw = r ^ (radixInfo W r).dpw ∧ (radixInfo W r).rpw < 2 ^ W ∧
    1 ≤ (radixInfo W r).dpw ∧ (2 ∣ W → 2 ^ W ≤ (radixInfo W r).rpw * r) :=
  maxExpInWord_spec W r hr hrW

-- ======================================================================= printing

/-- the non-power-of-two printer (word / double word three-part split / medium repeated division /
    large divide-and-conquer tower with zero-padded chunks) prints exactly the reference digits -/
theorem print_non_pow2_digits (W r n : Nat) (hr : 2 ≤ r) (hrW : r < 2 ^ W) :
    fmtNonPow2 W r n = digits r n :=
  fmtNonPow2_eq W r n hr hrW

/-- each size class separately (each printer is right on every input it can be given, not only
    on the sizes the dispatcher sends to it) -/
theorem print_size_classes (W r n : Nat) (hr : 2 ≤ r) (hrW : r < 2 ^ W) :
    preparedWord r n 1 = digits r n ∧
    ((radixInfo W r).rpw ≤ n → preparedDword W r n = digits r n) ∧
    (n ≠ 0 → preparedMedium W r n = digits r n) ∧
    (n ≠ 0 → preparedLarge W r n = digits r n) :=
  have ok := radixInfo_ok W r hr hrW
  ⟨preparedWord_one hr n, preparedDword_eq ok n, preparedMedium_eq ok n, preparedLarge_eq ok n⟩

/-- inner chunks are zero padded: `write_big_chunk(i, x)` writes exactly `(16·dpw)·2^i` digits -/
theorem big_chunk_padded (W r : Nat) (hr : 2 ≤ r) (hrW : r < 2 ^ W) (ps : List Nat) (x : Nat)
    (ht : IsTower r (fmtChunkLen * (radixInfo W r).dpw) ps) :
    writeBig W r ps x = digitsPad r (fmtChunkLen * (radixInfo W r).dpw * 2 ^ ps.length) x :=
  writeBig_eq (radixInfo_ok W r hr hrW) ps x ht

/-- the power-of-two printer (shift-and-mask for one or two words, bit slicing across word
    boundaries on the word list for heap values) prints exactly the reference digits -/
theorem print_pow2_digits (W r n : Nat) (hp : isPow2 r = true) (hr : 2 ≤ r) (hrW : r < 2 ^ W) :
    fmtPow2 W r n = digits r n :=
  fmtPow2_eq W r n hp hr hrW

/-- `InRadixWriter::format_prepared` lays the text out as `Formatter::pad_integral` does, for every
    combination of sign, `+`, `#`, `0`, width, fill and alignment -/
theorem layout_eq_pad_integral (f : FmtSpec) (neg : Bool) (pfx buf : List Nat) :
    formatPrepared f neg (if f.alt then pfx else []) buf = padIntegral f (!neg) pfx buf :=
  formatPrepared_eq_padIntegral f neg pfx buf

/-- **printing**: `Display`/`Binary`/`Octal`/`LowerHex`/`UpperHex`/`in_radix(r)` of an integer is
    `pad_integral(z ≥ 0, prefix, digits of |z|)`: the reference digits with lower/upper-case letters,
    a negative number printed as `-` followed by its magnitude in every radix -/
theorem print_eq_reference (W : Nat) (t : FmtTrait) (f : FmtSpec) (z : Int)
    (hv : validRadix t.radix = true) (hW : t.radix < 2 ^ W) :
    fmtModel W t f z = fmtSpec t f z :=
  fmtModel_eq_fmtSpec W t f z hv hW

-- ======================================================================= parsing

/-- **`from_str_radix` is the documented grammar as a total function** on byte strings: optional
    sign (`-` only for `IBig`), digits of the radix in either case with `_` separators, at least one
    digit; `NoDigits` / `InvalidDigit` / `UnsupportedRadix` otherwise — never a wrong number.
    (Word / chunked / divide-and-conquer / bit-packing parsers all included.) -/
theorem parse_radix_eq_grammar (W : Nat) (hW : 36 < 2 ^ W) (signed : Bool) (s : List Nat) (r : Nat) :
    parseRadix W signed s r = parseRadixSpec signed s r :=
  parseRadix_spec W hW signed s r

/-- the same for `from_str_with_radix_default` / `from_str_with_radix_prefix` (prefixes `0b 0o 0x`) -/
theorem parse_default_eq_grammar (W : Nat) (hW : 36 < 2 ^ W) (signed : Bool) (s : List Nat) (dflt : Nat) :
    parseDefault W signed s dflt = parseDefaultSpec signed s dflt :=
  parseDefault_spec W hW signed s dflt

/-- malformed text is an error: whenever the parser returns a number, the body (after the sign) is
    made of digits of the radix and `_` only, contains a digit, and the number is its Horner value -/
theorem parse_ok_sound (W : Nat) (hW : 36 < 2 ^ W) (signed : Bool) (s : List Nat) (r : Nat) (v : Int)
    (h : parseRadix W signed s r = .ok v) :
    validRadix r = true ∧
    ∃ ds, digitValues r ((splitSign signed s).2.filter (· ≠ 95)) = some ds ∧ ds ≠ [] ∧
      v = applySign (splitSign signed s).1 (ofDigits r ds) := by
  rw [parseRadix_spec W hW] at h
  unfold parseRadixSpec at h
  by_cases hv : validRadix r = true
  · refine ⟨hv, ?_⟩
    simp only [hv, Bool.not_true, Bool.false_eq_true, if_false] at h
    unfold parseBodySpec at h
    cases hd : digitValues r ((splitSign signed s).2.filter (· ≠ 95)) with
    | none => rw [hd] at h; simp [Except.map] at h
    | some ds =>
      cases ds with
      | nil => rw [hd] at h; simp [Except.map] at h
      | cons a t =>
        rw [hd] at h
        simp only [Except.map, Except.ok.injEq] at h
        exact ⟨a :: t, rfl, by simp, h.symm⟩
  · simp [hv] at h

/-- **Tie A for the digit table of the parsers**: `digit_from_ascii_byte` (the three byte ranges, their
    offsets, the comparison with the radix) and `is_radix_valid` (`MIN_RADIX`, `MAX_RADIX`) are regenerated
    from integer/src/radix.rs on every run (`Dashu/Gen/TextDigit.lean`); the hand model the grammar theorems
    are about (`digitOf`, `validRadix`) equals the regenerated text for EVERY byte and radix.  A change
    of an arm, a bound, an offset or of `res < radix` breaks this theorem -/
theorem digit_table_regenerated :
    (∀ byte radix, Dashu.Gen.digit_from_ascii_byte byte radix = digitOf radix byte) ∧
    (∀ radix, Dashu.Gen.is_radix_valid radix = validRadix radix) :=
  ⟨fun _ _ => rfl, fun _ => rfl⟩

/-- separator-only and empty bodies are rejected -/
theorem parse_no_digits (W : Nat) (signed : Bool) (s : List Nat) (r : Nat)
    (hv : validRadix r = true) (h : (splitSign signed s).2.all (· == 95) = true) :
    parseRadix W signed s r = .error .noDigits := by
  unfold parseRadix parseNoSign
  simp [hv, h, Except.map]

/-- **print → parse round trip** for every radix 2..36, every integer, lower case (`{}`), upper
    case (`{:#}`) and with an explicit `+` (`{:+}`) -/
theorem print_parse_round_trip (W : Nat) (hW : 36 < 2 ^ W) (r : Nat) (z : Int) (up plus : Bool)
    (hv : validRadix r = true) :
    parseRadix W true (fmtModel W (.inRadix r) { alt := up, plus := plus } z) r = .ok z := by
  have hr := validRadix_iff.mp hv
  rw [parseRadix_spec W hW, fmtModel_eq_fmtSpec W (.inRadix r) _ _ hv (by simp only [FmtTrait.radix]; omega)]
  unfold fmtSpec
  rw [padIntegral_noWidth]
  simp only [FmtTrait.radix, ite_self, List.nil_append]
  rw [parseRadixSpec_print true _ r up _ hv (fun _ => rfl), applySign_padSign]

theorem print_parse_round_trip_unsigned (W : Nat) (hW : 36 < 2 ^ W) (r n : Nat) (up plus : Bool)
    (hv : validRadix r = true) :
    parseRadix W false (fmtModel W (.inRadix r) { alt := up, plus := plus } (n : Int)) r = .ok (n : Int) := by
  have hr := validRadix_iff.mp hv
  rw [parseRadix_spec W hW, fmtModel_eq_fmtSpec W (.inRadix r) _ _ hv (by simp only [FmtTrait.radix]; omega)]
  unfold fmtSpec
  rw [padIntegral_noWidth]
  simp only [FmtTrait.radix, ite_self, List.nil_append]
  rw [parseRadixSpec_print false _ r up _ hv (by cases plus <;> simp [padSign]), applySign_padSign]

/-- **radix prefix round trip**: `{:#b}`, `{:#o}`, `{:#x}`, `{:#X}` (optionally with `+`; a negative
    number prints `-` before the prefix) parse back through `from_str_with_radix_prefix` to the same
    integer together with the radix the prefix names -/
theorem print_prefix_parse_round_trip (W : Nat) (hW : 36 < 2 ^ W) (z : Int) (plus : Bool) :
    parseDefault W true (fmtModel W .binary { alt := true, plus := plus } z) 10 = .ok (z, 2) ∧
    parseDefault W true (fmtModel W .octal { alt := true, plus := plus } z) 10 = .ok (z, 8) ∧
    parseDefault W true (fmtModel W .lowerHex { alt := true, plus := plus } z) 10 = .ok (z, 16) ∧
    parseDefault W true (fmtModel W .upperHex { alt := true, plus := plus } z) 10 = .ok (z, 16) := by
  -- every radix trait with `#`: sign, `0` and the prefix letter, digits
  have key : ∀ (t : FmtTrait) (pfx0 rad : Nat) (up : Bool), rad < 2 ^ W → validRadix rad = true →
      (∀ rest, splitPrefix 10 (48 :: pfx0 :: rest) = (rad, rest)) →
      fmtSpec t { alt := true, plus := plus } z =
        padIntegral { alt := true, plus := plus } (0 ≤ z) [48, pfx0] (printSpec rad up z.natAbs) → t.radix = rad →
      parseDefault W true (fmtModel W t { alt := true, plus := plus } z) 10 = .ok (z, rad) := by
    intro t pfx0 rad up hlt hv hsp hspec hrad
    rw [parseDefault_spec W hW, fmtModel_eq_fmtSpec W t _ _ (hrad ▸ hv) (hrad ▸ hlt), hspec, padIntegral_noWidth]
    simp only [if_true, List.cons_append, List.nil_append]
    rw [parseDefaultSpec_print _ pfx0 rad up _ hsp hv, applySign_padSign]
  exact ⟨key .binary 98 2 false (by omega) (by decide) (fun _ => rfl) rfl rfl,
    key .octal 111 8 false (by omega) (by decide) (fun _ => rfl) rfl rfl,
    key .lowerHex 120 16 false (by omega) (by decide) (fun _ => rfl) rfl rfl,
    key .upperHex 120 16 true (by omega) (by decide) (fun _ => rfl) rfl rfl⟩

/-- **underscores are ignored**: two digit strings that differ only by `_` separators parse alike
    (same number or same error) -/
theorem parse_underscores_ignored (r : Nat) (t t' : List Nat)
    (h : t'.filter (· ≠ 95) = t.filter (· ≠ 95)) : parseBodySpec r t' = parseBodySpec r t := by
  rw [parseBodySpec_filter r t', parseBodySpec_filter r t, h]

-- ======================================================================= fixed-size buffers

/-- **soundness of the length shortcut of `PreparedLarge::new`**: the squaring loop may stop as soon
    as the test regenerated from the source text (`Dashu.Gen.fmt_tower_stop`, currently
    `2 * prev.len() - 1 > number.len()`) holds, because then `prev * prev > number`.  A source change
    that makes the test unsound breaks this theorem (and `printer_buffers_never_overrun`). -/
theorem tower_length_shortcut_sound (W : Nat) (hW : 1 ≤ W) (prev n : Nat) (hp : prev ≠ 0)
    (h : Dashu.Gen.fmt_tower_stop (wordLen W prev) (wordLen W n) = true) : n < prev * prev :=
  length_shortcut_sound W hW prev n hp h

/-- **no fixed-size buffer of the printers is ever overrun**: with `PreparedWord.digits`,
    `PreparedDword.digits`, the `[Word; 16]` chunk buffer of `repr_to_chunk_buffer`, `low_groups`, the
    `groups` array and the `assert_eq!(buffer_len, 0)` of `write_chunk`, and the power-of-two digit
    arrays modelled as bounded arrays (`Model/Text/Capacity.lean`), printing never panics and yields
    the digits of the unbounded model — every even word size, every radix, every number.  For the
    divide-and-conquer printer this needs the top part left by the tower to be below
    `range_per_word^16`, which follows from the length shortcut above. -/
theorem printer_buffers_never_overrun (W : Nat) (hW : 2 ≤ W) (hev : 2 ∣ W) (r : Nat) (hr : 2 ≤ r)
    (hrW : r < 2 ^ W) (n : Nat) : rawDigitsC W r n = .ok (rawDigits W r n) := by
  unfold rawDigitsC rawDigits
  by_cases hp : isPow2 r = true
  · rw [if_pos hp, if_pos hp]
    exact fmtPow2C_eq W r n (by omega) (isPow2_spec hp hr).2
  · rw [if_neg hp, if_neg hp]
    have h3 : 3 ≤ r := by rcases radix_cases r hr with h | h; exact absurd h hp; exact h
    exact fmtNonPow2C_eq W hW hev r h3 hrW n

/-- the `DigitWriter` (32-byte buffer, flushed when full) delivers exactly the converted digits, in
    order, for any sequence of `write` calls, without indexing outside its buffer -/
theorem digit_writer_sound (W : Nat) (hW : 8 ≤ W) (c : DigitCase) (pieces : List (List Nat)) :
    digitWriterRun W c pieces = .ok (pieces.flatten.map (rawToAscii c)) :=
  digitWriterRun_eq W hW c pieces

/-- **the parsers never overflow a `Word`, never `push` beyond the allocated `Buffer` and never fail a
    length assertion** (`parse_word`, `parse_chunk`, `parse_large_divide_conquer`,
    `power_two::parse_word` / `parse_large`), for every byte string -/
theorem parser_buffers_never_overrun (W r : Nat) (hr : 2 ≤ r) (hrW : r < 2 ^ W) (src : List Nat) :
    parseCoreC W r src = .ok (if isPow2 r then parsePow2 W r src else parseNonPow2 W r src) :=
  parseCoreC_eq W r hr hrW src

/-- **the single-word divisions of the printers, on words**: `PreparedMedium::new` run on the word
    buffer — `fast_div_by_word_in_place` (normalising `shl_in_place`, `div_rem_2by1` by the normalised
    `range_per_word` per word, remainder un-shift: the model of Model/Int/Div.lean with its contract
    `fastDivByWordInPlace_spec`, C02) and the trimming of zero words — prints exactly what the
    number-level model (`/`, `%`) prints, for every normalised word buffer -/
theorem medium_on_words (W r : Nat) (hW : 1 ≤ W) (hr : 2 ≤ r) (hrW : r < 2 ^ W) (ws : List Nat)
    (hw : Dashu.Model.IsWords W ws) (hn : Norm ws) :
    preparedMediumW W r ws = .ok (preparedMedium W r (Dashu.Model.val W ws)) :=
  preparedMediumW_eq W r hW hr hrW ws hw hn

/-- `write_chunk` on the word buffer: `CHUNK_LEN` divisions, `assert_eq!(buffer_len, 0)` holds for
    every chunk below `range_per_word^CHUNK_LEN`, digits as in the number-level model -/
theorem write_chunk_on_words (W r : Nat) (hr : 2 ≤ r) (hrW : r < 2 ^ W) (ws : List Nat)
    (hw : Dashu.Model.IsWords W ws) (hfit : Dashu.Model.val W ws < (radixInfo W r).rpw ^ fmtChunkLen) :
    writeChunkW W r ws = .ok (writeChunk W r (Dashu.Model.val W ws)) :=
  writeChunkW_eq W r hr hrW ws hw hfit

/-- `PreparedDword::new` on words: `shl_dword` by the normalising shift, three `div_rem_2by1` by the
    normalised `range_per_word` (contract `div2by1`, discharged against num-modular's algorithm in
    C02 `nm_contracts_discharged`), `double_word(q0, q1) << shift` without overflow, shifts back —
    the three parts are `% rpw`, `/ rpw % rpw`, `/ rpw / rpw` and no precondition fails, for every
    double word, every radix and every even word size -/
theorem dword_split_on_words (W r dword : Nat) (hW : 1 ≤ W) (hev : 2 ∣ W) (hr : 2 ≤ r) (hrW : r < 2 ^ W)
    (hd : dword < 2 ^ (2 * W)) :
    dwordSplitW W (radixInfo W r).rpw dword =
      .ok (dword % (radixInfo W r).rpw, (dword / (radixInfo W r).rpw) % (radixInfo W r).rpw,
        dword / (radixInfo W r).rpw / (radixInfo W r).rpw) ∧
    preparedDwordW W r dword = .ok (preparedDword W r dword) := by
  refine ⟨?_, preparedDwordW_eq W r dword hW hev hr hrW hd⟩
  have ok := radixInfo_ok W r hr hrW
  exact dwordSplitW_eq W _ dword hW (by have := ok.rpw_ge; omega) ok.lt (radixInfo_sq W r hev hr hrW) hd

-- ======================================================================= the lowest layer, on machine words

/-- **`FastDivideSmall` (`num_modular::PreMulInv1by1<Word>`, multiply–shift reciprocal) is exact**:
    for every word size, every divisor `2 ≤ d < 2^W` (`new`'s precondition `divisor > 1`) and every
    word `a`, `new(d)` passes its `debug_assert!`s, no `Word` operation of `new` / `div_rem`
    overflows, and `div_rem(a, d) = (a / d, a % d)` -/
theorem fast_divide_small_exact (W d a : Nat) (hd : 2 ≤ d) (hdW : d < 2 ^ W) (ha : a < 2 ^ W) :
    (∃ p, PreMulInv1by1.new W d = .ok p ∧ p.m < 2 ^ W ∧ p.shift < W ∧
      p.divRem W a d = .ok (a / d, a % d)) ∧
    fastDivRadix W d a = .ok (a / d, a % d) := by
  obtain ⟨hnew, hm⟩ := premul_new_eq W d hd hdW
  obtain ⟨hn1, hnW, _, _⟩ := ceilLog_bounds W d hd hdW
  have h := fastDivRadix_eq W d a hd hdW ha
  refine ⟨⟨_, hnew, hm, by simp only; omega, ?_⟩, h⟩
  unfold fastDivRadix at h
  rw [hnew] at h
  exact h

/-- **the SWAR digit → ASCII trick of `arch/*/digits.rs`, bit level, all lanes**: for every word size
    `W = 8k`, every digit case and every chunk of `k` raw digits `< 36`, none of
    `0x76 * ALL_ONES + word`, `word += letters * case`, `word += ALL_ONES * b'0'` overflows a `Word`,
    `((0x76 * ALL_ONES + word) >> 7) & ALL_ONES` has lane `i` equal to `[digit i ≥ 10]`, and byte `i`
    of the result is the ASCII character of digit `i` -/
theorem swar_digit_chunk (W : Nat) (h8 : 8 ∣ W) (c : DigitCase) (ds : List Nat)
    (hlen : ds.length = W / 8) (hd : ∀ d ∈ ds, d < 36) :
    digitChunkRawToAscii W c ds = .ok (ds.map (rawToAscii c)) ∧
    ((Dashu.Gen.swar_BIAS * allOnes W + ofDigitsLE 256 ds) >>> Dashu.Gen.swar_SHIFT) &&& allOnes W =
      ofDigitsLE 256 (ds.map fun d => if 10 ≤ d then 1 else 0) := by
  refine ⟨digitChunkRawToAscii_eq W h8 c ds hlen hd, ?_⟩
  simp only [Dashu.Gen.swar_BIAS, Dashu.Gen.swar_SHIFT]
  obtain ⟨k, rfl⟩ := h8
  have hk : ds.length = k := by omega
  have hones : allOnes (8 * k) = ofDigitsLE 256 (ds.map fun _ => 1) := by rw [← hk]; exact allOnes_eq ds
  rw [hones, Nat.add_comm, Nat.mul_comm, pack_add_map_mul ds (fun _ => 1) 0x76]
  have hb : ∀ x ∈ ds.map (fun d => d + 1 * 0x76), x < 256 := by
    intro x hx
    obtain ⟨d, hdm, rfl⟩ := List.mem_map.mp hx
    have := hd d hdm; omega
  have h := pack_shift7_and _ hb
  simp only [List.map_map] at h
  rw [show ((fun _ => 1) ∘ fun d => d + 1 * 0x76) = (fun _ : Nat => 1) from rfl] at h
  rw [h]
  congr 1
  apply List.map_congr_left
  intro d hdm
  have := hd d hdm
  simp only [Function.comp]
  by_cases h10 : 10 ≤ d
  · rw [if_pos h10]; omega
  · rw [if_neg h10]; omega

/-- **Tie A for the low layer**: the constants the hand-written per-byte model uses are the ones
    regenerated from the source text on every run (`Dashu/Gen/TextLow.lean`: `DigitCase` discriminants
    of radix.rs, `b'0'` of digits.rs, `BUFFER_LEN_MIN` of digit_writer.rs); the SWAR model and
    `digitWriterLen` call the regenerated definitions directly -/
theorem low_layer_constants_regenerated :
    DigitCase.offset .noLetters = Dashu.Gen.digitcase_NoLetters ∧
    DigitCase.offset .lower = Dashu.Gen.digitcase_Lower ∧
    DigitCase.offset .upper = Dashu.Gen.digitcase_Upper ∧
    (∀ c d, rawToAscii c d =
      (if c ≠ .noLetters ∧ 10 ≤ d then d + c.offset else d) + Dashu.Gen.swar_ASCII_ZERO) ∧
    (∀ W, digitWriterLen W = ceilDiv Dashu.Gen.digit_writer_BUFFER_LEN_MIN (W / 8) * (W / 8)) ∧
    (∀ W, allOnes W = (2 ^ W - 1) / Dashu.Gen.swar_LANE_MAX) :=
  ⟨rfl, rfl, rfl, fun _ _ => rfl, fun _ => rfl, fun _ => rfl⟩

/-- **`DigitWriter` buffering invariant with the real `flush`**: for any sequence of `write` calls
    carrying raw digits `< 36` and the final `flush`: `buffer_len < BUFFER_LEN` between calls,
    `buffer_len_rounded ≤ BUFFER_LEN` (the zero fill stays inside the array), every chunk handed to
    the SWAR routine is a full `[u8; DIGIT_CHUNK_LEN]`, and the text delivered is exactly the
    per-byte conversion of the concatenated input, in order -/
theorem digit_writer_swar_sound (W : Nat) (h8 : 8 ∣ W) (hW : 8 ≤ W) (c : DigitCase) (pieces : List (List Nat))
    (hb : ∀ b ∈ pieces, ∀ d ∈ b, d < 36) :
    digitWriterRunS W c pieces = .ok (pieces.flatten.map (rawToAscii c)) :=
  digitWriterRunS_eq W h8 hW c pieces hb

/-- the invariant itself, one `write` at a time -/
theorem digit_writer_write_invariant (W : Nat) (h8 : 8 ∣ W) (hW : 8 ≤ W) (c : DigitCase) (buf : List Nat) (s : DW)
    (hs : s.pending.length < digitWriterLen W) (hp : ∀ d ∈ s.pending, d < 36) (hb : ∀ d ∈ buf, d < 36) :
    ∃ s', DW.writeS W c s buf = .ok s' ∧ s'.pending.length < digitWriterLen W ∧ (∀ d ∈ s'.pending, d < 36) ∧
      s'.out ++ s'.pending.map (rawToAscii c) = s.out ++ s.pending.map (rawToAscii c) ++ buf.map (rawToAscii c) := by
  obtain ⟨s', h1, h2, h3, h4⟩ := DW_writeS_spec W h8 hW c buf s hs hp hb
  obtain ⟨s'', g1, _, g3⟩ := DW_write_spec (digitWriterLen W) (digitWriterLen_pos W hW) c buf s hs
  rw [h2] at g1
  cases g1
  exact ⟨s', h1, h3, h4, g3⟩

/-- **what the driver executes**: the whole formatting path with the reciprocal division by the
    radix in `PreparedWord::new` / `get_digit`, the SWAR conversion and the buffered writer equals the
    number-level model (hence, by `print_eq_reference`, the reference text) — every word size that is
    a multiple of 8, every trait, every format spec, every integer -/
theorem print_on_mirrored_low_layer (W : Nat) (h8 : 8 ∣ W) (hW : 8 ≤ W) (t : FmtTrait) (f : FmtSpec) (z : Int)
    (hv : validRadix t.radix = true) :
    fmtModelF W t f z = .ok (fmtModel W t f z) ∧ fmtModelF W t f z = .ok (fmtSpec t f z) := by
  have h := writer_path W h8 hW t f z hv _ (cutPieces_flatten (radixInfo W t.radix).dpw _ _ (Nat.le_refl _))
  unfold fmtModelF
  rw [rawDigitsF_eq W t.radix _ (Nat.dvd_trans (by decide) h8) (validRadix_iff.mp hv).1 (validRadix_lt_word hv hW)]
  exact ⟨h.1, h.2 ▸ h.1⟩

/-- the raw digits alone (no `8 ∣ W` needed): every `fast_div_radix.div_rem(word, radix)` of the
    printers receives a word, never fails a check, and the digits are those of the number-level model -/
theorem raw_digits_on_mirrored_division (W r n : Nat) (hev : 2 ∣ W) (hr : 2 ≤ r) (hrW : r < 2 ^ W) :
    rawDigitsF W r n = .ok (rawDigits W r n) :=
  rawDigitsF_eq W r n hev hr hrW

/-- **the `DigitWriter::write` calls of the printers are recorded** (`Model/Text/Pieces.lean`: one call for
    `PreparedWord` / `PreparedDword`, top group + one call per low group for `PreparedMedium`, `CHUNK_LEN`
    calls per `write_chunk` through the `write_big_chunk` recursion for `PreparedLarge`, one call per
    digit for the power-of-two heap printer): the pieces computed with the mirrored reciprocal division
    are the number-level pieces, and their concatenation is the reference digit string -/
theorem write_pieces_recorded (W r n : Nat) (hev : 2 ∣ W) (hr : 2 ≤ r) (hrW : r < 2 ^ W) :
    rawPiecesF W r n = .ok (rawPieces W r n) ∧ (rawPieces W r n).flatten = rawDigits W r n ∧
    (rawPieces W r n).flatten = digits r n :=
  ⟨rawPiecesF_eq W r n hev hr hrW, rawPieces_flatten W r n,
   by rw [rawPieces_flatten, rawDigits_eq W r n hr hrW]⟩

/-- **shape of the recorded calls**: a non-power-of-two printer makes at least one call and every call
    after the first carries exactly `digits_per_word` digits; a power-of-two printer makes one call for an
    inline value and one call per digit (`write(&[digit])`) for a heap value -/
theorem write_pieces_shape (W r n : Nat) (hr : 2 ≤ r) (hrW : r < 2 ^ W) (hn : n ≠ 0) :
    (isPow2 r = false → rawPieces W r n ≠ [] ∧ ∀ p ∈ (rawPieces W r n).tail, p.length = (radixInfo W r).dpw) ∧
    (isPow2 r = true → (n < 2 ^ (2 * W) → (rawPieces W r n).length = 1) ∧
      (2 ^ (2 * W) ≤ n → ∀ p ∈ rawPieces W r n, p.length = 1)) := by
  constructor
  · intro hp
    have : rawPieces W r n = fmtNonPow2P W r n := by simp [rawPieces, hp]
    rw [this]; exact fmtNonPow2P_shape W r n hr hrW hn
  · intro hp
    have : rawPieces W r n = fmtPow2P W r n := by simp [rawPieces, hp]
    rw [this]; exact fmtPow2P_shape W r n

/-- **what the driver executes**: reciprocal division by the radix, the buffered `DigitWriter`
    with its real `flush` and the SWAR conversion, fed with EXACTLY the recorded `write` calls, then
    `format_prepared` — equals the number-level model and the reference text -/
theorem print_on_recorded_pieces (W : Nat) (h8 : 8 ∣ W) (hW : 8 ≤ W) (t : FmtTrait) (f : FmtSpec) (z : Int)
    (hv : validRadix t.radix = true) :
    fmtModelP W t f z = .ok (fmtModel W t f z) ∧ fmtModelP W t f z = .ok (fmtSpec t f z) := by
  have h := writer_path W h8 hW t f z hv _ (rawPieces_flatten W t.radix z.natAbs)
  unfold fmtModelP
  rw [rawPiecesF_eq W t.radix _ (Nat.dvd_trans (by decide) h8) (validRadix_iff.mp hv).1 (validRadix_lt_word hv hW)]
  exact ⟨h.1, h.2 ▸ h.1⟩

-- ======================================================================= bytes and chunks

/-- unsigned bytes: decoding the encoding returns the number; the encoding is minimal -/
theorem le_bytes_round_trip (n : Nat) :
    ofLeBytesSpec (leBytesSpec n) = n ∧ (∀ b ∈ leBytesSpec n, b < 256) ∧
    (leBytesSpec n).getLast? ≠ some 0 :=
  ⟨ofLeBytesSpec_leBytesSpec n, (leBytesSpec_minimal n).1, (leBytesSpec_minimal n).2⟩

/-- the word-level unsigned encoder and decoder of convert.rs (`to_le_bytes`: inline double word and
    heap `words_to_le_bytes`; `from_le_bytes`: `dword_from_le_bytes_partial` and `from_le_bytes_large`)
    are the positional representation, for every word size that is a multiple of 8, every number
    and every byte string; hence mutually inverse (big-endian: mirror image) -/
theorem ubig_bytes_model (W : Nat) (h8 : 8 ∣ W) (hW : 8 ≤ W) (n : Nat) (bytes : List Nat) :
    toLeBytes W n = leBytesSpec n ∧ fromLeBytes W bytes = ofLeBytesSpec bytes ∧
    fromLeBytes W (toLeBytes W n) = n ∧ fromBeBytes W (toBeBytes W n) = n :=
  ⟨toLeBytes_eq W n h8 hW, fromLeBytes_eq W h8 hW bytes, fromLeBytes_toLeBytes W n h8 hW,
   fromBeBytes_toBeBytes W n h8 hW⟩

/-- **the other direction of "mutually inverse"**: for a canonical byte string (bytes `< 256`, most
    significant byte non-zero) encoding the decoded number returns the byte string, little and big
    endian, at the word level -/
theorem ubig_bytes_inverse_canonical (W : Nat) (h8 : 8 ∣ W) (hW : 8 ≤ W) (bs : List Nat)
    (hlt : ∀ b ∈ bs, b < 256) (hlast : bs.getLast? ≠ some 0) :
    toLeBytes W (fromLeBytes W bs) = bs ∧ leBytesSpec (ofLeBytesSpec bs) = bs := by
  have h := leBytesSpec_ofLeBytesSpec bs hlt hlast
  exact ⟨by rw [fromLeBytes_eq W h8 hW bs, toLeBytes_eq W _ h8 hW, h], h⟩

/-- two's complement bytes: decoding the encoding returns the integer — for every integer,
    including the negative exact powers `-(2^(8k))` -/
theorem signed_bytes_round_trip (z : Int) :
    ofSignedLeBytesSpec (signedLeBytesSpec z) = z ∧ ∀ b ∈ signedLeBytesSpec z, b < 256 :=
  ⟨ofSignedLeBytesSpec_signedLeBytesSpec z, signedLeBytesSpec_bytes z⟩

/-- the word-level signed encoder and decoder of convert.rs (`to_signed_le_bytes`: inline path, heap
    path with `sub_one_in_place`, flipped `words_to_le_bytes::<true>` and the `resize` of fix dcc404d;
    `from_signed_le_bytes`: one-padded inline path and `from_le_bytes_large::<true>` with
    `add_one_in_place`) are the two's complement specification, and **mutually inverse for every
    integer** — in particular for `-(2^(8k))`, where the unpatched code lost the sign byte -/
theorem ibig_bytes_model (W : Nat) (h8 : 8 ∣ W) (hW : 8 ≤ W) (z : Int) (bytes : List Nat)
    (hb : ∀ b ∈ bytes, b < 256) :
    ibigToLeBytes W z = signedLeBytesSpec z ∧ fromSignedLeBytes W bytes = ofSignedLeBytesSpec bytes ∧
    fromSignedLeBytes W (ibigToLeBytes W z) = z ∧ fromSignedBeBytes W (ibigToBeBytes W z) = z :=
  ⟨ibigToLeBytes_eq W h8 hW z, fromSignedLeBytes_eq W h8 hW bytes hb,
   (fromSigned_toSigned W h8 hW z).1, (fromSigned_toSigned W h8 hW z).2⟩

/-- **length of the two's complement encoding**: `IBig::to_le_bytes` emits no byte for zero and otherwise
    exactly `bit_len(|z|) / 8 + 1` bytes (`signedLen`); that is the minimal two's complement length `minSignedLen z`
    for every integer except `z = -(2^(8q+7))` (`-128`, `-32768`, …), where the code's `leading_zeros % 8 == 0` test
    appends a `0xff` byte to the already negative `0x00 … 0x80`: `q + 2` bytes instead of `q + 1` -/
theorem signed_bytes_length (z : Int) (q n : Nat) :
    (signedLeBytesSpec z).length = signedLen z ∧
    ((∀ q : Nat, z ≠ -((2 : Int) ^ (8 * q + 7))) → signedLen z = minSignedLen z) ∧
    signedLen (-((2 : Int) ^ (8 * q + 7))) = q + 2 ∧ minSignedLen (-((2 : Int) ^ (8 * q + 7))) = q + 1 ∧
    -- what "minimal" means: `n` bytes can hold `z` in two's complement iff `minSignedLen z ≤ n`
    (minSignedLen z ≤ n ↔ (z = 0 ∨ (1 ≤ n ∧ -((2 : Int) ^ (8 * n - 1)) ≤ z ∧ z < (2 : Int) ^ (8 * n - 1)))) :=
  ⟨signedLeBytesSpec_length z, signedLen_eq_minSignedLen z, (signedLen_neg_pow q).1, (signedLen_neg_pow q).2,
   minSignedLen_le_iff z n⟩

/-- **the other direction of "mutually inverse" for the signed byte functions**:
    the decoder is injective on byte strings of one length, and encoding the decoded integer returns the byte
    string **exactly when** the byte string has the encoder's length `signedLen` (bytes `< 256`) — at the level of the
    specification, of the word-level little-endian functions and of the mirrored big-endian functions -/
theorem signed_bytes_inverse_canonical (W : Nat) (h8 : 8 ∣ W) (hW : 8 ≤ W) (bs bs' : List Nat)
    (hlt : ∀ b ∈ bs, b < 256) (hlt' : ∀ b ∈ bs', b < 256) :
    (bs.length = bs'.length → ofSignedLeBytesSpec bs = ofSignedLeBytesSpec bs' → bs = bs') ∧
    (signedLeBytesSpec (ofSignedLeBytesSpec bs) = bs ↔ bs.length = signedLen (ofSignedLeBytesSpec bs)) ∧
    (bs.length = signedLen (ofSignedLeBytesSpec bs) →
      ibigToLeBytes W (fromSignedLeBytes W bs) = bs ∧
      ibigToBeBytesM W (fromSignedBeBytesM W bs.reverse) = bs.reverse) := by
  refine ⟨fun hl h => ofSignedLeBytesSpec_inj bs bs' hl hlt hlt' h,
    ⟨fun h => by rw [← signedLeBytesSpec_length, h], signedLeBytesSpec_ofSignedLeBytesSpec bs hlt⟩, fun hlen => ?_⟩
  have h := signedLeBytesSpec_ofSignedLeBytesSpec bs hlt hlen
  have hle : ibigToLeBytes W (fromSignedLeBytes W bs) = bs := by
    rw [fromSignedLeBytes_eq W h8 hW bs hlt, ibigToLeBytes_eq W h8 hW, h]
  refine ⟨hle, ?_⟩
  rw [fromSignedBeBytesM_eq, ibigToBeBytesM_eq W h8 hW]
  unfold fromSignedBeBytes ibigToBeBytes
  rw [List.reverse_reverse, hle]

/-- **the big-endian byte functions as the separate code they are** (`words_to_be_bytes`: top word's bytes after
    the skipped leading zero bytes, then the lower words in reverse order; `to_signed_be_bytes`: `insert(0, 0xff)`
    for `-(2^(8k))`, sign byte inserted at the front; `from_be_bytes_large`: `rchunks_exact(WORD_BYTES)` +
    `remainder`, `word_from_be_bytes_partial` padding the missing HIGH bytes; sign read from the first byte),
    mirrored in Model/Text/BytesBE.lean and executed by the driver, equal the mirror-image model — hence the
    positional / two's complement specification read most-significant-first, and they are mutually inverse -/
theorem be_bytes_mirrored (W : Nat) (h8 : 8 ∣ W) (hW : 8 ≤ W) (n : Nat) (z : Int) (bytes : List Nat)
    (hb : ∀ b ∈ bytes, b < 256) :
    toBeBytesM W n = (leBytesSpec n).reverse ∧ fromBeBytesM W bytes = ofLeBytesSpec bytes.reverse ∧
    ibigToBeBytesM W z = (signedLeBytesSpec z).reverse ∧
    fromSignedBeBytesM W bytes = ofSignedLeBytesSpec bytes.reverse ∧
    fromBeBytesM W (toBeBytesM W n) = n ∧ fromSignedBeBytesM W (ibigToBeBytesM W z) = z := by
  refine ⟨?_, ?_, ?_, ?_, ?_, ?_⟩
  · rw [toBeBytesM_eq, toBeBytes_eq W n h8 hW]
  · rw [fromBeBytesM_eq]; unfold fromBeBytes; exact fromLeBytes_eq W h8 hW _
  · rw [ibigToBeBytesM_eq W h8 hW, ibigToBeBytes_eq W h8 hW]
  · rw [fromSignedBeBytesM_eq]; unfold fromSignedBeBytes
    exact fromSignedLeBytes_eq W h8 hW _ (by intro b hb'; exact hb b (List.mem_reverse.mp hb'))
  · rw [fromBeBytesM_eq, toBeBytesM_eq]; exact fromBeBytes_toBeBytes W n h8 hW
  · rw [fromSignedBeBytesM_eq, ibigToBeBytesM_eq W h8 hW]; exact (fromSigned_toSigned W h8 hW z).2

/-- chunks: `from_chunks(to_chunks(n, k), k) = n` for every chunk size `k ≥ 1` (the documented
    precondition is `k ≠ 0`); chunks are `< 2^k` and the top chunk is non-zero -/
theorem chunks_round_trip (n k : Nat) (hk : 1 ≤ k) :
    ofChunksSpec k (chunksSpec n k) = n ∧ (∀ c ∈ chunksSpec n k, c < 2 ^ k) ∧
    (chunksSpec n k).getLast? ≠ some 0 :=
  ⟨ofChunksSpec_chunksSpec n k hk, (chunksSpec_bounds n k hk).1, (chunksSpec_bounds n k hk).2⟩

/-- **the chunk routines of convert.rs equal the positional specification**: `to_chunks` — inline
    path, word-aligned shortcut (with the clamp of fix 49f0136) and general path (copy, mask,
    `shr_in_place` on the words) — yields the base-`2^k` digits; `from_chunks` (`chunks_to_words`:
    `shl_in_place` on the scratch buffer, `add_in_place` into a result buffer of
    `max_len + (len − 1)·k + 1` words, which is always long enough and never loses a carry) yields
    `Σ chunkᵢ·2^(i·k)` for word slices of any length; hence mutually inverse for every `k ≥ 1` -/
theorem chunks_model (W n k : Nat) (hW : 1 ≤ W) (hk : 1 ≤ k) (chunks : List (List Nat))
    (hc : ∀ c ∈ chunks, Dashu.Model.IsWords W c) :
    toChunksW W n k = .ok (chunksSpec n k) ∧ toChunks W n k = .ok (chunksSpec n k) ∧
    fromChunksW W k chunks = .ok (ofChunksSpec k (chunks.map (Dashu.Model.val W))) ∧
    fromChunksW W k ((chunksSpec n k).map (wordsOf W)) = .ok n := by
  exact ⟨toChunksW_eq W n k hW hk, toChunks_eq W n k hW hk, fromChunksW_eq W k hW hk chunks hc,
    by rw [fromChunksW_wordsOf W k hW hk, ofChunksSpec_chunksSpec n k hk]⟩

/-- **`to_chunks` and `from_chunks` are mutually inverse, on words, for EVERY chunk size `k ≥ 1`** (word-aligned
    `k = m·W` — the `copy_from_slice` shortcut of `words_to_chunks` with its clamp — and unaligned `k` alike;
    inline and heap values): (a) `from_chunks(to_chunks(n, k), k) = n` for every `n`; (b) for every canonical
    chunk list (each chunk `< 2^k`, top chunk non-zero) `to_chunks(from_chunks(cs, k), k) = cs` -/
theorem chunks_inverse (W k : Nat) (hW : 1 ≤ W) (hk : 1 ≤ k) :
    (∀ n, ∃ cs, toChunksW W n k = .ok cs ∧ fromChunksW W k (cs.map (wordsOf W)) = .ok n) ∧
    (∀ cs : List Nat, (∀ c ∈ cs, c < 2 ^ k) → cs.getLast? ≠ some 0 →
      ∃ n, fromChunksW W k (cs.map (wordsOf W)) = .ok n ∧ toChunksW W n k = .ok cs) := by
  constructor
  · intro n
    exact ⟨chunksSpec n k, toChunksW_eq W n k hW hk, (chunks_model W n k hW hk [] (by simp)).2.2.2⟩
  · intro cs hlt hlast
    exact ⟨ofChunksSpec k cs, fromChunksW_wordsOf W k hW hk cs,
      by rw [toChunksW_eq W _ k hW hk, chunksSpec_ofChunksSpec k hk cs hlt hlast]⟩

/-- the specification side the driver evaluates for chunk sizes up to `usize::MAX` (`chunksSpecG`,
    `ofChunksSpecG`: no `2^k` is formed when `k ≥ bit_len(n)` / when the upper chunks are zero) is the
    specification itself -/
theorem chunk_spec_guards (n k : Nat) (hk : 1 ≤ k) (cs : List Nat) :
    chunksSpecG n k = chunksSpec n k ∧ ofChunksSpecG k cs = ofChunksSpec k cs :=
  ⟨chunksSpecG_eq n k hk, ofChunksSpecG_eq k cs⟩

/-- **the chunk buffers of `to_chunks` (fix 80bcfde).**  The `RefLarge` arm allocates for every chunk
    `word_per_chunk + 1` zero words with `word_per_chunk = ceil_div(chunk_bits, WORD_BITS).min(words.len())`;
    `toChunksB` runs `words_to_chunks` on buffers of exactly that size, every slice range
    (`words[start_pos..end_pos]`, `words[start_pos..=end_pos]`, `chunk_out[..n]`, `chunk_out[..=len]`), every `usize`
    subtraction and the `debug_assert!(start < end)` being an error branch.  For every number, every chunk size
    `k ≥ 1` and every word size: nothing fails and the chunks are the positional ones; the buffer is at most one word
    longer than the number whatever `chunk_bits` is (it was `ceil(chunk_bits / W) + 1` before the fix: the repaired
    allocation panic), and never longer than `ceil(chunk_bits / W) + 1` -/
theorem to_chunks_buffers_never_overrun (W n k : Nat) (hW : 1 ≤ W) (hk : 1 ≤ k) :
    toChunksB W n k = .ok (chunksSpec n k) ∧
    wordPerChunk W k (wordsOf W n).length + 1 ≤ (wordsOf W n).length + 1 ∧
    wordPerChunk W k (wordsOf W n).length + 1 ≤ ceilDiv k W + 1 ∧
    toChunksB W n 0 = .error .chunkBitsZero := by
  have h := wordPerChunk_le W k (wordsOf W n).length
  exact ⟨toChunksB_eq W n k hW hk, by omega, by omega, rfl⟩

/-- **Tie A: the chunk-buffer arithmetic is the source text.**  `Dashu.Gen.TextChunks` is regenerated from
    integer/src/convert.rs on every run (`vlib/extract_textchunks.py`): `word_per_chunk` of the `RefLarge` arm of `to_chunks`
    (with the clamp `.min(words.len())` of fix 80bcfde), the arguments of `Buffer::allocate` and `push_zeros`, the test,
    `words_per_chunk`, `start_pos` and `end_pos` of the word-aligned shortcut of `words_to_chunks` (with the clamp of fix
    49f0136), `math::ceil_div`.  The bounded model `toChunksB` of `to_chunks_buffers_never_overrun` is, on heap values, exactly
    the program assembled from these texts; dropping the `+ 1`, a clamp, or changing an index breaks this theorem -/
theorem chunk_buffer_formulas_regenerated (W n k : Nat) (hk : k ≠ 0) (hn : ¬ n < 2 ^ (2 * W)) (words : List Nat) (wpc bufLen i : Nat) :
    toChunksB W n k =
      (let words := wordsOf W n
       let count := Dashu.Gen.TextChunks.ceil_div (bitLen n) k
       let bufLen := Dashu.Gen.TextChunks.to_chunks_allocate (Dashu.Gen.TextChunks.to_chunks_word_per_chunk W k words.length)
       if Dashu.Gen.TextChunks.aligned_test W k = 0 then
         collectChunks (alignedChunkB words (Dashu.Gen.TextChunks.aligned_words_per_chunk W k) bufLen) W (List.range count)
       else collectChunks (unalignedChunkB W words (bitLen n) k bufLen) W (List.range count)) ∧
    Dashu.Gen.TextChunks.to_chunks_push_zeros (wordPerChunk W k words.length) =
      Dashu.Gen.TextChunks.to_chunks_allocate (wordPerChunk W k words.length) ∧
    alignedChunkB words wpc bufLen i =
      (let s := Dashu.Gen.TextChunks.aligned_start_pos i wpc
       let e := Dashu.Gen.TextChunks.aligned_end_pos words.length wpc s
       if e < s then .error .subOverflow else copyFront bufLen ((words.drop s).take (e - s))) := by
  refine ⟨?_, rfl, rfl⟩
  unfold toChunksB
  rw [if_neg hk]
  simp only []
  rw [if_neg hn]
  rfl

/-- **the result buffer of `from_chunks` counted in words (proposed fix `c07-from-chunks-result-len-words`).**
    `Repr::from_chunks` sizes its result buffer `max_len + (len − 1)·chunk_bits + 1` WORDS although
    `(len − 1)·chunk_bits` is the BIT offset of the last chunk (`fromChunksW`, the code as it is: 64 times too many words,
    `from_chunks([1, 1], 1 << 28)` zero-fills 2 GiB for a 32 MiB number).  With
    `result_len = max_len + ceil_div((len − 1)·chunk_bits, WORD_BITS) + 1` (`fromChunksWT`) the unchanged loop
    `chunks_to_words` still has room for every shifted chunk, `add_in_place` still returns carry zero
    (`debug_assert_zero!`), and the value is `Σ chunkᵢ·2^(i·k)` — the same as the current code, for all word slices
    (also oversized chunks), every `k ≥ 1`, every word size -/
theorem from_chunks_result_len_in_words (W k : Nat) (hW : 1 ≤ W) (hk : 1 ≤ k) (chunks : List (List Nat))
    (hc : ∀ c ∈ chunks, Dashu.Model.IsWords W c) :
    fromChunksWT W k chunks = .ok (ofChunksSpec k (chunks.map (Dashu.Model.val W))) ∧
    fromChunksWT W k chunks = fromChunksW W k chunks := by
  have h1 := fromChunksWT_eq W k hW hk chunks hc
  exact ⟨h1, by rw [h1, fromChunksW_eq W k hW hk chunks hc]⟩

/-- `chunk_bits = 0` panics in both directions, as documented -/
theorem chunks_zero_panics (W n : Nat) (cs : List Nat) :
    toChunks W n 0 = .error .chunkBitsZero ∧ fromChunks 0 cs = .error .chunkBitsZero := by
  constructor <;> rfl

-- non-vacuity: the hypotheses are met by every supported radix at every supported word size
example : ∀ r ∈ [2, 3, 10, 16, 36], validRadix r = true ∧ r < 2 ^ 16 ∧ r < 2 ^ 32 ∧ r < 2 ^ 64 := by decide
example : (36 : Nat) < 2 ^ 16 ∧ (36 : Nat) < 2 ^ 32 ∧ (36 : Nat) < 2 ^ 64 := by decide
example : isPow2 2 = true ∧ isPow2 8 = true ∧ isPow2 32 = true ∧ isPow2 10 = false := by decide
example : fmtNonPow2 64 10 (10 ^ 5000 + 7) = digits 10 (10 ^ 5000 + 7) :=
  print_non_pow2_digits 64 10 _ (by decide) (by decide)
example : parseRadix 64 true (fmtModel 64 (.inRadix 36) { alt := true } (-(2 ^ 20000))) 36 = .ok (-(2 ^ 20000)) :=
  print_parse_round_trip 64 (by decide) 36 _ true false (by decide)
example : ofSignedLeBytesSpec (signedLeBytesSpec (-(2 ^ 128))) = -(2 ^ 128) :=
  (signed_bytes_round_trip _).1
example : fromSignedLeBytes 64 (ibigToLeBytes 64 (-(2 ^ 128))) = -(2 ^ 128) :=
  (ibig_bytes_model 64 (by decide) (by decide) _ [] (by simp)).2.2.1
example : (8 : Nat) ∣ 16 ∧ (8 : Nat) ∣ 32 ∧ (8 : Nat) ∣ 64 := by decide

-- every theorem with hypotheses, instantiated on a concrete non-trivial value
example := positional_representation 36 (36 ^ 40 + 35) (by decide)
example := radix_table 64 10 (by decide) (by decide)
example := radix_table 32 36 (by decide) (by decide)
example := print_size_classes 64 10 (10 ^ 40 + 1) (by decide) (by decide)
example := big_chunk_padded 64 10 (by decide) (by decide) [] 12345 trivial
example : IsTower 10 (fmtChunkLen * (radixInfo 64 10).dpw) [10 ^ (fmtChunkLen * (radixInfo 64 10).dpw * 2 ^ 0)] :=
  ⟨rfl, trivial⟩
example := print_pow2_digits 64 32 (2 ^ 200 + 5) (by decide) (by decide) (by decide)
example := layout_eq_pad_integral { width := some 12, zero := true, plus := true, alt := true } true [48, 120] [49, 102]
example := print_eq_reference 64 (.inRadix 7) { width := some 30, align := some .center, fill := [42] } (-(7 ^ 50)) (by decide) (by decide)
example := parse_radix_eq_grammar 64 (by decide) true [45, 49, 95, 50, 122] 36
example := parse_default_eq_grammar 64 (by decide) true [45, 48, 120, 102, 102] 10
example := parse_ok_sound 64 (by decide) true _ 36 _ (print_parse_round_trip 64 (by decide) 36 (-(36 ^ 30)) true false (by decide))
example := parse_no_digits 64 true [45, 95, 95] 10 (by decide) (by decide)
example := print_parse_round_trip_unsigned 64 (by decide) 3 (3 ^ 700) false true (by decide)
example := printer_buffers_never_overrun 64 (by decide) (by decide) 10 (by decide) (by decide) (10 ^ 2000)
example := digit_writer_sound 64 (by decide) .lower [[1, 2, 3], [], [10, 35]]
example := parser_buffers_never_overrun 64 10 (by decide) (by decide) [49, 50, 95, 51]
example : (2 ^ 192 : Nat) < 2 ^ 128 * 2 ^ 128 :=
  tower_length_shortcut_sound 64 (by decide) (2 ^ 128) (2 ^ 192) (by decide) (by decide)
example := le_bytes_round_trip (2 ^ 128)
example := ubig_bytes_model 64 (by decide) (by decide) (2 ^ 130 + 7) [1, 2, 3, 0, 255]
example := chunks_round_trip (2 ^ 200 + 12345) 37 (by decide)
example := chunks_model 64 (2 ^ 200 + 12345) 37 (by decide) (by decide) [[1, 2], [3]] (by
  intro c hc; simp at hc; rcases hc with rfl | rfl <;> (intro x hx; simp at hx; omega))
example := chunks_zero_panics 64 5 [1, 2]
example := (print_prefix_parse_round_trip 64 (by decide) (-(2 ^ 100)) false).2.2.1
example := parse_underscores_ignored 10 [49, 50, 51] [49, 95, 50, 95, 95, 51] (by decide)

example := medium_on_words 64 10 (by decide) (by decide) (by decide) [5, 7, 9] (by decide) (by unfold Norm; simp)
example := write_chunk_on_words 64 10 (by decide) (by decide) [5, 7, 9] (by decide) (by decide)
example := dword_split_on_words 64 10 (2 ^ 127 + 12345) (by decide) (by decide) (by decide) (by decide) (by decide)

example := (fast_divide_small_exact 64 10 (2 ^ 64 - 1) (by decide) (by decide) (by decide)).2
example := (fast_divide_small_exact 64 36 (36 ^ 12 - 1) (by decide) (by decide) (by decide)).2
example := (fast_divide_small_exact 16 (2 ^ 16 - 1) (2 ^ 16 - 1) (by decide) (by decide) (by decide)).2
example := swar_digit_chunk 64 (by decide) .lower [0, 9, 10, 35, 1, 11, 34, 8] (by decide) (by decide)
example := swar_digit_chunk 32 (by decide) .upper [35, 10, 9, 0] (by decide) (by decide)
example := digit_writer_swar_sound 64 (by decide) (by decide) .upper [[1, 2, 35], [], List.replicate 40 10, [9]] (by decide)
example := print_on_mirrored_low_layer 64 (by decide) (by decide) (.inRadix 36) { alt := true, width := some 9 } (-(36 ^ 50 + 35))
  (by decide)
example := raw_digits_on_mirrored_division 64 7 (7 ^ 300) (by decide) (by decide) (by decide)

example := write_pieces_recorded 64 10 (10 ^ 700 + 3) (by decide) (by decide) (by decide)
example := (write_pieces_shape 64 10 (10 ^ 700 + 3) (by decide) (by decide) (Nat.succ_ne_zero _)).1 (by decide)
example := (write_pieces_shape 64 16 (2 ^ 700 + 3) (by decide) (by decide) (Nat.succ_ne_zero _)).2 (by decide)
example := print_on_recorded_pieces 64 (by decide) (by decide) (.inRadix 36) { alt := true, width := some 9 } (-(36 ^ 50 + 35))
  (by decide)

-- chunk sizes on both sides of the word-aligned shortcut (k = W, 2W aligned; 63, 65, 127, 129 not)
example := (chunks_inverse 64 64 (by decide) (by decide)).1 (2 ^ 300 + 12345)
example := (chunks_inverse 64 128 (by decide) (by decide)).1 (2 ^ 300 + 12345)
example := (chunks_inverse 64 65 (by decide) (by decide)).1 (2 ^ 300 + 12345)
example := (chunks_inverse 64 64 (by decide) (by decide)).2 [0, 2 ^ 64 - 1, 0, 7] (by decide) (by decide)
example := (chunks_inverse 64 127 (by decide) (by decide)).2 [0, 2 ^ 127 - 1, 0, 7] (by decide) (by decide)

example := chunk_spec_guards (2 ^ 128) (2 ^ 64 - 1) (by decide) [5, 0, 0]

example := chunk_buffer_formulas_regenerated 64 (2 ^ 130 + 5) 65 (by decide) (by decide) [1, 2, 3] 1 2 0
example := from_chunks_result_len_in_words 64 (2 ^ 28) (by decide) (by decide) [[1], [1]] (by decide)
example := from_chunks_result_len_in_words 64 65 (by decide) (by decide) [[2 ^ 64 - 1, 2 ^ 64 - 1, 7], [], [1]] (by decide)

-- heap value, chunk_bits = usize::MAX (the repaired panic), a word-aligned and an unaligned size around the clamp
example := to_chunks_buffers_never_overrun 64 (2 ^ 128) (2 ^ 64 - 1) (by decide) (by decide)
example := to_chunks_buffers_never_overrun 64 (2 ^ 192 - 1) 192 (by decide) (by decide)
example := to_chunks_buffers_never_overrun 64 (2 ^ 192 - 1) 129 (by decide) (by decide)

example := ubig_bytes_inverse_canonical 64 (by decide) (by decide) [0, 255, 0, 0, 0, 0, 0, 0, 0, 0, 0, 0, 0, 0, 0, 0, 0, 7] (by decide) (by decide)

example := be_bytes_mirrored 64 (by decide) (by decide) (2 ^ 130 + 7) (-(2 ^ 128)) [255, 0, 0, 0, 0, 0, 0, 0, 0, 0, 0, 0, 0, 0, 0, 0, 0] (by decide)

-- signed converse; `[0, 255]` = -256 and `[0, 128, 0]` = 32768 have the encoder's length, `[128]` = -128 has not
example := (signed_bytes_inverse_canonical 64 (by decide) (by decide) [0, 255] [] (by decide) (by decide)).2.2 (by decide)
example := (signed_bytes_inverse_canonical 64 (by decide) (by decide) [0, 128, 0] [] (by decide) (by decide)).2.1.mpr (by decide)
example : signedLeBytesSpec (ofSignedLeBytesSpec [128]) = [128, 255] ∧ signedLen (-128) = 2 ∧ minSignedLen (-128) = 1 := by decide
example := (signed_bytes_length 32768 3 3).2.1 (by intro q h; have : (0 : Int) < 2 ^ (8 * q + 7) := Int.pow_pos (by decide); omega)

end Dashu.Props.C07
