import Dashu.Gen.FloatNorm
import Dashu.Model.Int.Cmp
import Dashu.Model.Float.Repr
import Dashu.Proofs.NT.Log
import Dashu.Proofs.Int.Cmp
import Dashu.Proofs.Conv.FloatTo
/-
  C05 — Tie A for `Repr::<B>::normalize` (float/src/repr.rs) AS REGENERATED on this run
  (`Dashu/Gen/FloatNorm.lean`, typed translator + three checked desugarings, vlib/extract_floatnorm.py).

  The regenerated body has the three code paths of the source — `B == 2` (shift by `trailing_zeros`),
  `B.is_power_of_two()` (shift by `trailing_zeros / bits * bits`), otherwise `UBig::remove` (C12's mirrored
  squaring-tower algorithm `removeRepr`).  Theorems, for EVERY base `B ≥ 2` and EVERY input:

  * `normalize_is_model`     — it equals the hand model `Model.FRepr.normalize` that the C05 theorems
                               (`float_normalize`, `float_cmp`, the history theorems) and the driver are about;
  * `normalize_is_repr_new`  — it equals C03's `Model.Float.FRepr.new` (the constructor every float producer ends in);
  * `normalize_unwraps_are_some` — none of the three `.unwrap()` calls of the body can meet `None`.

  The `remove` path is linked to C12 by composition with `removeRepr_spec` (Props/C12 `remove_spec`), not re-proved.
-/
namespace Dashu.Props.GenFloatNorm
open Dashu Dashu.Gen Dashu.GluePrelude Dashu.Model Dashu.Model.NT

-- ================================================================== multiplicity is unique

/-- `x = q·B^e`, `B ∤ q` determines `removeAll B x` -/
theorem removeAll_unique (B : Nat) (hB : 2 ≤ B) : ∀ (e q : Nat), q ≠ 0 → q % B ≠ 0 →
    removeAll B (q * B ^ e) = (q, e) := by
  intro e q hq hnd
  have hpos : 0 < B := by omega
  induction e with
  | zero => rw [Nat.pow_zero, Nat.mul_one, removeAll, dif_pos (Or.inr (Or.inr hnd))]
  | succ e ih =>
    have hne : q * B ^ e * B ≠ 0 :=
      Nat.ne_of_gt (Nat.mul_pos (Nat.mul_pos (Nat.pos_of_ne_zero hq) (Nat.pow_pos hpos)) hpos)
    rw [Nat.pow_succ, ← Nat.mul_assoc, removeAll,
      dif_neg (not_or.mpr ⟨hne, not_or.mpr ⟨Nat.not_lt.mpr hB, fun h => h (Nat.mul_mod_left _ _)⟩⟩)]
    simp only [Nat.mul_div_cancel _ hpos, ih]

/-- what `UBig::remove` returns for a non-zero magnitude and a base `≥ 2`, in terms of `removeAll` -/
theorem removeRepr_eq_removeAll (B : Nat) (hB : 2 ≤ B) (x : Nat) (hx : 0 < x) :
    removeRepr x B = some ((removeAll B x).2, (removeAll B x).1) := by
  obtain ⟨e, q, hr, hxq, hnd⟩ := (removeRepr_spec x B).2 hx hB
  have hq : q ≠ 0 := by
    intro h; rw [h] at hxq; simp at hxq; omega
  have hnd' : q % B ≠ 0 := by
    intro h; exact hnd (Nat.dvd_of_mod_eq_zero h)
  rw [hr, hxq, removeAll_unique B hB e q hq hnd']

/-- a base that passes `is_power_of_two`: `removeRepr` takes its shortcut, whose text is the
    `B.is_power_of_two()` arm of `normalize` -/
theorem removeRepr_pow2 (B x : Nat) (hB : 2 ≤ B) (hx : 0 < x) (hp : B = 2 ^ (bitLen B - 1)) :
    removeRepr x B = some (trailingZeros x / (bitLen B - 1), x / 2 ^ (trailingZeros x / (bitLen B - 1) * (bitLen B - 1))) := by
  unfold removeRepr
  rw [if_neg (by omega), if_pos hp]

theorem tz_two_pow (j : Nat) : trailingZeros (2 ^ j) = j := by
  apply tz_unique (Nat.two_pow_pos j) (Nat.dvd_refl _)
  rw [Nat.div_self (Nat.two_pow_pos j)]

-- ================================================================== signs

theorem natAbs_pos_of_ne {s : Int} (hs : s ≠ 0) : 0 < s.natAbs := Int.natAbs_pos.mpr hs

/-- an exact division of the signed significand acts on the magnitude -/
theorem ediv_of_dvd_natAbs (s : Int) (d : Nat) (hd : 0 < d) (hdvd : d ∣ s.natAbs) :
    s / (d : Int) = if s < 0 then -((s.natAbs / d : Nat) : Int) else ((s.natAbs / d : Nat) : Int) := by
  obtain ⟨c, hc⟩ := hdvd
  rw [hc, Nat.mul_div_cancel_left _ hd]
  have hd' : (d : Int) ≠ 0 := by omega
  have habs : (s.natAbs : Int) = (d : Int) * (c : Int) := by rw [hc, Int.natCast_mul]
  split
  · rw [show s = (d : Int) * (-(c : Int)) by rw [Int.mul_neg, ← habs]; omega, Int.mul_ediv_cancel_left _ hd']
  · rw [show s = (d : Int) * (c : Int) by rw [← habs]; omega, Int.mul_ediv_cancel_left _ hd']

-- ================================================================== the regenerated body

/-- hand-model values as seen by the regenerated text -/
def toG (r : Model.FRepr) : GluePrelude.FRepr := ⟨r.signif, r.exp⟩

/-- the two shifting arms (`B == 2`, `B.is_power_of_two()`) on a signed significand -/
theorem shift_arm (s : Int) (n m : Nat) (hdvd : 2 ^ n ∣ s.natAbs) (hm : s.natAbs / 2 ^ n = m) :
    GluePrelude.shr_ s (n : Int) = if s < 0 then -(m : Int) else (m : Int) := by
  unfold GluePrelude.shr_
  rw [Int.toNat_natCast]
  have h := ediv_of_dvd_natAbs s (2 ^ n) (Nat.two_pow_pos n) hdvd
  rw [hm] at h
  rw [← h]; push_cast; rfl

/-- facts about the multiplicity pair of a power-of-two base -/
theorem pow2_facts (B x : Nat) (hB : 2 ≤ B) (hx : 0 < x) (hp : B = 2 ^ (bitLen B - 1)) :
    (removeAll B x).2 = trailingZeros x / (bitLen B - 1) ∧
    (removeAll B x).1 = x / 2 ^ ((bitLen B - 1) * (removeAll B x).2) ∧
    2 ^ ((bitLen B - 1) * (removeAll B x).2) ∣ x := by
  have h1 := removeRepr_eq_removeAll B hB x hx
  rw [removeRepr_pow2 B x hB hx hp] at h1
  have h2 := Option.some.inj h1
  have hk : trailingZeros x / (bitLen B - 1) = (removeAll B x).2 := congrArg Prod.fst h2
  have hmm : x / 2 ^ (trailingZeros x / (bitLen B - 1) * (bitLen B - 1)) = (removeAll B x).1 := congrArg Prod.snd h2
  refine ⟨hk.symm, ?_, ?_⟩
  · rw [← hmm, hk, Nat.mul_comm]
  · have hs := (Dashu.Model.removeAll_spec B hB x (by omega)).1
    refine ⟨(removeAll B x).1, ?_⟩
    conv_lhs => rw [hs]
    rw [Nat.pow_mul, ← hp, Nat.mul_comm]

/-- **Tie A.** The regenerated `Repr::<B>::normalize` IS the hand model `FRepr.normalize` of C05, for every base
    `B ≥ 2` and every representation (finite, zero or infinite). -/
theorem normalize_is_model (B : Nat) (hB : 2 ≤ B) (r : Model.FRepr) :
    Repr_normalize ⟨(B : Int)⟩ (toG r) = toG (r.normalize B) := by
  obtain ⟨s, e⟩ := r
  unfold Repr_normalize Model.FRepr.normalize toG
  simp only [GluePrelude.is_zero, decide_eq_true_eq]
  by_cases hs : s = 0
  · simp [hs, Repr_zero]
  · rw [if_neg hs, if_neg hs]
    have hx : 0 < s.natAbs := natAbs_pos_of_ne hs
    have htz : GluePrelude.FloatNorm.unwrap (GluePrelude.FloatNorm.trailing_zeros s) = (trailingZeros s.natAbs : Int) := by
      simp [GluePrelude.FloatNorm.trailing_zeros, GluePrelude.FloatNorm.unwrap, hs]
    have hspec := Dashu.Model.removeAll_spec B hB s.natAbs (by omega)
    generalize hrm : removeAll B s.natAbs = p at hspec
    obtain ⟨m, k⟩ := p
    simp only [GluePrelude.eq_, GluePrelude.add_, GluePrelude.mul_, GluePrelude.div_, htz]
    by_cases h2 : (B : Int) = 2
    · -- `B == 2`
      have hB2 : B = 2 := by omega
      subst hB2
      have hp : (2 : Nat) = 2 ^ (bitLen 2 - 1) := by decide
      obtain ⟨f1, f2, f3⟩ := pow2_facts 2 s.natAbs (by omega) hx hp
      have hj : bitLen 2 - 1 = 1 := by decide
      rw [hj, hrm] at f1 f2 f3
      simp only [Nat.div_one, Nat.one_mul] at f1 f2 f3
      simp only [Nat.cast_ofNat, decide_true, if_true]
      rw [← f1, shift_arm s k m f3 f2.symm]
    · simp only [h2, decide_false, Bool.false_eq_true, if_false]
      by_cases hp2 : GluePrelude.FloatNorm.is_power_of_two (B : Int) = true
      · -- `B.is_power_of_two()`
        rw [if_pos hp2]
        have hp : B = 2 ^ (bitLen B - 1) := (of_decide_eq_true hp2).2
        obtain ⟨f1, f2, f3⟩ := pow2_facts B s.natAbs hB hx hp
        rw [hrm] at f1 f2 f3
        dsimp only at f1 f2 f3
        have hbits : GluePrelude.FloatNorm.word_trailing_zeros (B : Int) = ((bitLen B - 1 : Nat) : Int) := by
          unfold GluePrelude.FloatNorm.word_trailing_zeros
          simp only [Int.natAbs_natCast]
          conv_lhs => rw [hp]
          rw [tz_two_pow]; rfl
        rw [hbits]
        generalize bitLen B - 1 = j at *
        rw [← Int.natCast_ediv, ← f1, ← Int.natCast_mul, shift_arm s (j * k) m f3 f2.symm]
      · -- `UBig::remove`
        rw [if_neg hp2]
        have hr := removeRepr_eq_removeAll B hB s.natAbs hx
        rw [hrm] at hr
        simp only [GluePrelude.as_sign_repr, GluePrelude.FloatNorm.remove, Int.ofNat_eq_natCast, Int.natAbs_natCast, hr,
          GluePrelude.FloatNorm.unwrap, GluePrelude.sign_mul_int, GluePrelude.sign, HasSign.sign]
        by_cases hneg : s < 0
        · rw [if_pos hneg, if_pos hneg]; rfl
        · rw [if_neg hneg, if_neg hneg]; rfl

-- ================================================================== C03's constructor `Repr::new`

/-- the C03 hand model `Float.FRepr.new` (fuel-driven digit stripping) and the C05 hand model `FRepr.normalize`
    (multiplicity by well-founded recursion) are the same function -/
theorem repr_new_eq_normalize (B : Nat) (hB : 2 ≤ B) (s e : Int) :
    (⟨(Float.FRepr.new B s e).signif, (Float.FRepr.new B s e).exp⟩ : Model.FRepr) = (Model.FRepr.mk s e).normalize B := by
  unfold Float.FRepr.new Model.FRepr.normalize
  by_cases hs : s = 0
  · simp [hs]
  · simp only [hs, if_false]
    obtain ⟨z, hz1, hz2⟩ := Dashu.Model.Conv.stripAux_decomp B (s.natAbs.log2 + 1) s e
    have hn := Dashu.Model.Float.stripAux_norm B hB (s.natAbs.log2 + 1) s e hs (Nat.lt_log2_self (n := s.natAbs))
    generalize Float.stripAux B (s.natAbs.log2 + 1) s e = r at hz1 hz2 hn
    obtain ⟨r1, r2⟩ := r
    simp only at hz1 hz2 hn ⊢
    have hBpos : (0 : Int) < (B : Int) ^ z := Int.pow_pos (by omega)
    have habs : s.natAbs = r1.natAbs * B ^ z := by
      rw [hz1, Int.natAbs_mul, Int.natAbs_pow, Int.natAbs_natCast]
    have hr1 : r1 ≠ 0 := by
      intro h; rw [h] at hz1; simp at hz1; exact hs hz1
    have hnd : r1.natAbs % B ≠ 0 := fun h =>
      hn (Int.emod_eq_zero_of_dvd (Int.natCast_dvd.mpr (Nat.dvd_of_mod_eq_zero h)))
    rw [habs, removeAll_unique B hB z r1.natAbs (by omega) hnd]
    simp only
    rw [hz2]
    congr 1
    -- `s = r1·B^z` with `B^z > 0`: the stripped significand keeps the sign
    have hsgn : s < 0 ↔ r1 < 0 :=
      ⟨fun h => Int.neg_of_mul_neg_left (hz1 ▸ h) hBpos, fun h => hz1 ▸ Int.mul_neg_of_neg_of_pos h hBpos⟩
    by_cases hneg : s < 0
    · rw [if_pos hneg, Int.ofNat_natAbs_of_nonpos (Int.le_of_lt (hsgn.mp hneg)), Int.neg_neg]
    · rw [if_neg hneg, Int.natAbs_of_nonneg (Int.not_lt.mp (mt hsgn.mpr hneg))]

/-- **Tie A.** The regenerated `Repr::<B>::normalize` IS C03's `Repr::new` model: every float producer of the C03
    model that ends in `FRepr.new` ends in the regenerated normalisation. -/
theorem normalize_is_repr_new (B : Nat) (hB : 2 ≤ B) (s e : Int) :
    Repr_normalize ⟨(B : Int)⟩ ⟨s, e⟩ = ⟨(Float.FRepr.new B s e).signif, (Float.FRepr.new B s e).exp⟩ := by
  have h := normalize_is_model B hB ⟨s, e⟩
  rw [← repr_new_eq_normalize B hB s e] at h
  exact h

-- ================================================================== no `unwrap` meets `None`

/-- the three `.unwrap()` calls of the body (`significand.trailing_zeros()` twice, `mag.remove(&B)`) are applied to
    `Some _` whenever control reaches them (non-zero significand; base `≥ 2`): `normalize` cannot panic -/
theorem normalize_unwraps_are_some (B : Nat) (hB : 2 ≤ B) (s : Int) (hs : s ≠ 0) :
    (GluePrelude.FloatNorm.trailing_zeros s).isSome = true ∧
    (GluePrelude.FloatNorm.remove (GluePrelude.as_sign_repr s).2 (B : Int)).2.isSome = true := by
  constructor
  · simp [GluePrelude.FloatNorm.trailing_zeros, hs]
  · have hr := removeRepr_eq_removeAll B hB s.natAbs (natAbs_pos_of_ne hs)
    simp [GluePrelude.as_sign_repr, GluePrelude.FloatNorm.remove, Int.natAbs_abs, hr]

-- ================================================================== non-vacuity: all three arms, both signs

example : Repr_normalize ⟨2⟩ ⟨-48, 3⟩ = ⟨-3, 7⟩ ∧ Repr_normalize ⟨16⟩ ⟨0x1200, -2⟩ = ⟨0x12, 0⟩ ∧
    Repr_normalize ⟨16⟩ ⟨-0x80, 0⟩ = ⟨-8, 1⟩ ∧ Repr_normalize ⟨10⟩ ⟨-1230000, -4⟩ = ⟨-123, 0⟩ ∧
    Repr_normalize ⟨3⟩ ⟨3 ^ 11 * 7, 0⟩ = ⟨7, 11⟩ ∧ Repr_normalize ⟨10⟩ ⟨0, 5⟩ = ⟨0, 0⟩ ∧
    Repr_normalize ⟨7⟩ ⟨12, 1⟩ = ⟨12, 1⟩ := by decide +kernel

end Dashu.Props.GenFloatNorm
