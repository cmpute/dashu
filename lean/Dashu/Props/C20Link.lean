import Dashu.Props.C20Gen
import Dashu.Proofs.Macro.LeBytesBridge
import Dashu.Model.Mem.Repr
/-
  C20 ↔ C07 link: the constructors / encoders the integer macros CALL are modelled in
  Props/C20 by their VALUE (`Serde.leBytes` for `UBig::to_le_bytes` executed by the proc-macro,
  `Serde.ofLeBytes` for `UBig::from_le_bytes(&BYTES)` executed by the expansion).  C07 owns the
  word-level mirrors of exactly these two functions (`Model/Text/Bytes.lean`: `toLeBytes W` =
  `TypedReprRef::to_le_bytes`, inline double word + `words_to_le_bytes`; `fromLeBytes W` =
  `Repr::from_le_bytes`, `word_from_le_bytes_partial` + `from_le_bytes_large`) and proved them equal
  to the positional specification for every word size that is a multiple of 8
  (`Proofs/Text/BytesModel.lean`: `toLeBytes_eq`, `fromLeBytes_eq`).  By import of those kernels:
  the value-level functions of the C20 model ARE the mirrored code, for the word size `Wh` of the
  host that runs the proc-macro and the (possibly different) word size `Wt` of the target that runs
  the expansion.
-/
namespace Dashu.Props.C20Link
open Dashu.Model.Serde Dashu.Model.Macro

/-- `int.to_le_bytes()` in `quote_ubig` / `big.to_le_bytes()` in `parse_integer` (macros/src/parse/int.rs),
    run by the proc-macro with the host's word size: C07's word-level mirror produces exactly the byte
    string the C20 model hands to the generators -/
theorem macro_bytes_are_mirrored_encoder (Wh : Nat) (h8 : 8 ∣ Wh) (hW : 8 ≤ Wh) (n : Nat) :
    Dashu.Model.Text.toLeBytes Wh n = leBytes n :=
  toLeBytes_eq_leBytes Wh h8 hW n

/-- `UBig::from_le_bytes(&BYTES)` of the heap expansion, run with the target's word size: C07's
    word-level mirror (both paths) computes the value the C20 model assigns, for EVERY byte string -/
theorem heap_constructor_is_mirrored_decoder (Wt : Nat) (h8 : 8 ∣ Wt) (hW : 8 ≤ Wt) (bs : Bytes) :
    Dashu.Model.Text.fromLeBytes Wt bs = ofLeBytes bs :=
  fromLeBytes_eq_ofLeBytes' Wt h8 hW bs

/-- **heap path end to end at word level**: the bytes the mirrored encoder writes on a host of word
    size `Wh`, decoded by the mirrored `from_le_bytes` on a target of word size `Wt`, give `n` — for
    every `n` and every pair of word sizes (cross compilation included) -/
theorem heap_path_value_word_level (Wh Wt : Nat) (hh8 : 8 ∣ Wh) (hhW : 8 ≤ Wh) (ht8 : 8 ∣ Wt) (htW : 8 ≤ Wt)
    (n : Nat) :
    Dashu.Model.Text.fromLeBytes Wt (Dashu.Model.Text.toLeBytes Wh n) = n ∧
    isBytes (Dashu.Model.Text.toLeBytes Wh n) := by
  rw [macro_bytes_are_mirrored_encoder Wh hh8 hhW, heap_constructor_is_mirrored_decoder Wt ht8 htW]
  exact ⟨ofLeBytes_leBytes n, leBytes_isBytes n⟩

/-- **static path fed by the mirrored encoder**: `quote_words(&big.to_le_bytes(), _)` on a host of word
    size `Wh`; the slice selected for a target of `Wt ∈ {16, 32, 64}` bits (regenerated selector table)
    passes the `from_static_words` assertion and denotes `n` -/
theorem static_path_value_word_level (Wh : Nat) (h8 : 8 ∣ Wh) (hW : 8 ≤ Wh) (Wt : Nat)
    (ht : Wt = 16 ∨ Wt = 32 ∨ Wt = 64) (n : Nat) :
    staticSelect Wt (Dashu.Model.Text.toLeBytes Wh n) = some n := by
  rw [macro_bytes_are_mirrored_encoder Wh h8 hW]
  exact Dashu.Props.C20Gen.static_select_value Wt ht n

/-- the const path guard is decided on the same magnitude: nothing to decode (`#u as _`), and below the
    guard the mirrored encoder's bytes still denote the value (≤ 4 bytes) -/
theorem const_path_bytes_word_level (Wh : Nat) (h8 : 8 ∣ Wh) (hW : 8 ≤ Wh) (m : Nat)
    (h : intPath false m = .const) :
    ofLeBytes (Dashu.Model.Text.toLeBytes Wh m) = m ∧ m < 2 ^ 32 := by
  rw [macro_bytes_are_mirrored_encoder Wh h8 hW]
  exact ⟨ofLeBytes_leBytes m, (const_path_guard m h).1⟩

-- non-vacuity: a 64-bit host, 16- / 32- / 64-bit targets, a value beyond the inline double word of each
example : Dashu.Model.Text.toLeBytes 64 (2 ^ 130 + 7) = leBytes (2 ^ 130 + 7) ∧
    Dashu.Model.Text.fromLeBytes 16 (Dashu.Model.Text.toLeBytes 64 (2 ^ 130 + 7)) = 2 ^ 130 + 7 ∧
    Dashu.Model.Text.fromLeBytes 32 (Dashu.Model.Text.toLeBytes 64 70000) = 70000 := by
  refine ⟨?_, ?_, ?_⟩ <;> decide +kernel

-- ====================================================================== C20 ↔ C17: from_static_words
/-
  C20 ↔ C17 link: `Repr::from_static_words` is modelled in Props/C20 by its
  value + its normalisation assertion (`staticValue`: `last word ≠ 0`).  C17 owns the mirror of the
  function itself (`Model/Mem/Repr.lean` `Rep.fromStaticWords`: the four arms of repr.rs:290 with BOTH
  asserts, repr.rs:295 `hi > 0` and repr.rs:301 "must be normalized").  Here: on the slice the macro
  emits, C17's mirror takes no assert arm, emits no event, and shows exactly the words of the slice.
-/

open Dashu.Model.Mem

/-- the words a `from_static_words` result shows through `as_sign_slice` -/
def shown : Rep.StaticOut → List Nat
  | .value r => r.words
  | .stat ws => ws

/-- the slice `&DATA[..LEN]` of the selector of `8k`-bit words (what `staticValue` reads) -/
def macroSlice (k : Nat) (bs : Bytes) : List Nat := (quoteWords k bs).2.take (quoteWords k bs).1

theorem staticValue_eq_slice (k : Nat) (bs : Bytes) :
    staticValue k bs =
      if (macroSlice k bs).getLast? = some 0 then none else some (valWords (8 * k) (macroSlice k bs)) := rfl

/-- C17's `from_static_words` on ANY word list whose last word is not zero: no assert arm, counter
    unchanged, no event, and the result shows exactly those words -/
theorem from_static_words_accepts_normalised (ws : List Nat) (h : ws.getLast? ≠ some 0) (ctr : Nat) :
    ∃ o, Rep.fromStaticWords ws ctr = ⟨.ok o, ctr, []⟩ ∧ shown o = ws := by
  unfold Rep.fromStaticWords
  split
  · exact ⟨_, rfl, by simp [shown, Rep.fromWord, Rep.words]⟩
  · rename_i w
    have hw : w ≠ 0 := by intro e; subst e; simp at h
    exact ⟨_, rfl, by simp [shown, Rep.fromWord, Rep.words, hw]⟩
  · rename_i lo hi
    have hhi : hi ≠ 0 := by intro e; subst e; simp at h
    rw [if_pos (by omega)]
    exact ⟨_, rfl, by simp [shown, Rep.fromDword, Rep.words, hhi]⟩
  · rw [if_neg h]
    exact ⟨_, rfl, rfl⟩

/-- **static path through C17's constructor**: for each selector (`k` = 2, 4, 8 bytes per word), the
    slice the macro emits for `n` is accepted by the mirrored `from_static_words` (neither assert fires,
    i.e. the `static` initialiser compiles) and the words it shows denote `n` -/
theorem static_constructor_on_macro_slice (k : Nat) (hk : 2 ≤ k) (n ctr : Nat) :
    ∃ o, Rep.fromStaticWords (macroSlice k (leBytes n)) ctr = ⟨.ok o, ctr, []⟩ ∧
      valWords (8 * k) (shown o) = n := by
  have hv := staticValue_leBytes k hk n
  rw [staticValue_eq_slice] at hv
  split at hv
  · cases hv
  · rename_i hl
    obtain ⟨o, ho, hs⟩ := from_static_words_accepts_normalised _ hl ctr
    exact ⟨o, ho, by rw [hs]; exact Option.some.inj hv⟩

example : (Rep.fromStaticWords (macroSlice 8 (leBytes (2 ^ 130 + 7))) 0).res.toOption = some (.stat [7, 0, 4]) ∧
    (Rep.fromStaticWords (macroSlice 2 (leBytes 70000)) 0).res.toOption = some (.value (Rep.fromDword 4464 1)) := by
  refine ⟨?_, ?_⟩ <;> decide +kernel

/-- the regenerated selector table reads exactly these slices: `staticSelect W` (W = 16, 32, 64) is the
    normalisation test + value of `macroSlice (W/8)` -/
theorem staticSelect_reads_macro_slice (bs : Bytes) :
    (staticSelect 16 bs = if (macroSlice 2 bs).getLast? = some 0 then none else some (valWords 16 (macroSlice 2 bs))) ∧
    (staticSelect 32 bs = if (macroSlice 4 bs).getLast? = some 0 then none else some (valWords 32 (macroSlice 4 bs))) ∧
    (staticSelect 64 bs = if (macroSlice 8 bs).getLast? = some 0 then none else some (valWords 64 (macroSlice 8 bs))) := by
  obtain ⟨h16, h32, h64⟩ := Dashu.Props.C20Gen.staticSelect_eq bs
  exact ⟨h16.trans (staticValue_eq_slice 2 bs), h32.trans (staticValue_eq_slice 4 bs), h64.trans (staticValue_eq_slice 8 bs)⟩

end Dashu.Props.C20Link
