import Dashu.Proofs.Float.Coarse
/-
  C10: the coarse `f32` comparison at the head of `Round::round_fract` (float/src/round.rs).  In `Props/C10.lean` it is a
  parameter with the hypothesis `CoarseSound`; here that hypothesis is derived for the code's formula over ℝ
  (kept apart because it imports Mathlib's real logarithm), and the region is EXPLICIT:

      2 ≤ B < 2^64,   0 < |fract| < B^k  (precondition of `round_fract`),   k ≤ 2^24.

  Inside the region there is NO further bound on the precision: the margins `0.999 / 1.001` alone would carry the four
  `f32` roundings only while `k·log₂B ≲ 8·10³`, but operands of more than two words get their bounds through
  `log2_bounds_large`, whose factor `1 ∓ 2·f32::EPSILON` (= `1 ∓ 4u`) outweighs those roundings for every size
  (`coarse_gt_margin`, `coarse_lt_margin`: the real inequalities with the numeric constants).  Outside the region
  (`k > 2^24`: `precision as f32` is no longer exact) nothing is claimed; the generator drives the real code there
  (`r.fracth` with k = 2^24 + 1 … 2^25 + 3) against the exact comparison, through the bit-exact replica `coarseF32`.

  Assumptions: (R) each `f32` `+`/`*` is a rounding with relative error ≤ u = 2⁻²⁴; (E) `0 ≤ lb ≤ log₂ n ≤ ub` for
  `log2_bounds`; (S) the ADJUST slack for n ≥ 2^128 — derived from the structure of `log2_bounds_large`
  (`adjust_slack_lb`, `adjust_slack_ub`) given the enclosure of the highest double word; (C) the exact values of the
  literals `0.999f32`, `1.001f32`.
-/
namespace Dashu.Props.C10Coarse
open Dashu Dashu.Model.Float

/-- **soundness of the coarse test on the explicit region**: whenever the `f32` test of the code decides, it decides as
    the exact comparison of `2·|fract|` with `B^k` -/
theorem coarse_test_sound (fl : ℝ → ℝ) (hfl : RelRound fl) (lbF ubF : Nat → ℝ) (hb : Log2BoundsSound lbF ubF)
    (B fmag k : Nat) (hB : 2 ≤ B) (hBw : B < 2 ^ 64) (hf : 0 < fmag) (hlt : fmag < B ^ k) (hk : k ≤ 2 ^ 24)
    (o : Ordering) (h : coarseReal fl lbF ubF B fmag k = some o) : o = compare (2 * fmag) (B ^ k) :=
  coarseReal_sound fl hfl lbF ubF hb B fmag k hB hBw hf hlt hk o h

/-- … hence `round_fract` with the code's coarse test returns what the exact comparison returns (to which
    `C10.round_fract_follows_mode` applies), for every mode, integer part and fraction in the region -/
theorem round_fract_coarse_irrelevant (fl : ℝ → ℝ) (hfl : RelRound fl) (lbF ubF : Nat → ℝ)
    (hb : Log2BoundsSound lbF ubF) (B : Nat) (m : Mode) (n f : Int) (k : Nat) (hB : 2 ≤ B) (hBw : B < 2 ^ 64)
    (hlt : f.natAbs < B ^ k) (hk : k ≤ 2 ^ 24) :
    roundFract B m (coarseReal fl lbF ubF) n f k = roundFract B m coarseNone n f k :=
  roundFract_coarse_at B m _ n f k fun hpos => coarseReal_sound fl hfl lbF ubF hb B _ k hB hBw hpos hlt hk

/-- the `Greater` arm as a real inequality (L = log₂|fract|, K = k·log₂B): margins and slack suffice for EVERY L -/
theorem coarse_gt_margin (L K lb s p : ℝ) (hL0 : 0 ≤ L) (hlb0 : 0 ≤ lb) (hlb : lb ≤ L)
    (hbig : 128 ≤ L → lb ≤ L * ((1 + u32) ^ 2 * (1 - 4 * u32)))
    (hs : s ≤ (lb + c999) * (1 + u32)) (hp : K * (1 - u32) ≤ p) (hdec : p < s) : K < L + 1 :=
  coarse_gt_real L K lb s p hL0 hlb0 hlb hbig hs hp hdec

/-- the `Less` arm (needs `L ≤ 2^31`, implied by `k ≤ 2^24`, `B < 2^64`) -/
theorem coarse_lt_margin (L K ub s p : ℝ) (hL0 : 0 ≤ L) (hLmax : L ≤ 2147483648) (hub : L ≤ ub)
    (hbig : 128 ≤ L → (L - 1 / 1152921504606846976) * ((1 - u32) ^ 2 * (1 + 4 * u32)) ≤ ub)
    (hs : (ub + c1001) * (1 - u32) ≤ s) (hp : p ≤ K * (1 + u32)) (hdec : s < p) : L + 1 < K :=
  coarse_lt_real L K ub s p hL0 hLmax hub hbig hs hp hdec

/-- (S), lower side, from `est_lb = fl(fl(hi_lb + rem_bits)·(1 − ADJUST))` -/
theorem adjust_slack_lower (fl : ℝ → ℝ) (hfl : RelRound fl) (L h r : ℝ) (hh : 0 ≤ h) (hr : 0 ≤ r) (hle : h + r ≤ L) :
    fl (fl (h + r) * (1 - 4 * u32)) ≤ L * ((1 + u32) ^ 2 * (1 - 4 * u32)) :=
  adjust_slack_lb fl hfl L h r hh hr hle

/-- (S), upper side, from `est_ub = fl(fl(hi_ub + rem_bits)·(1 + ADJUST))` -/
theorem adjust_slack_upper (fl : ℝ → ℝ) (hfl : RelRound fl) (L h r : ℝ) (hh : 0 ≤ h) (hr : 0 ≤ r)
    (hle : L - 1 / 1152921504606846976 ≤ h + r) :
    (L - 1 / 1152921504606846976) * ((1 - u32) ^ 2 * (1 + 4 * u32)) ≤ fl (fl (h + r) * (1 + 4 * u32)) :=
  adjust_slack_ub fl hfl L h r hh hr hle

/-! ### non-vacuity: the hypotheses are satisfiable together -/

example : RelRound id := by intro x; simp [u32]

/-- bounds with exactly the ADJUST slack (no other error) meet (E) and (S) -/
example : Log2BoundsSound (fun n => Real.logb 2 n * ((1 + u32) ^ 2 * (1 - 4 * u32)))
    (fun n => Real.logb 2 n * ((1 - u32) ^ 2 * (1 + 4 * u32))) := by
  have g1 : (0 : ℝ) ≤ (1 + u32) ^ 2 * (1 - 4 * u32) := by unfold u32; norm_num
  have g1' : (1 + u32) ^ 2 * (1 - 4 * u32) ≤ 1 := by unfold u32; norm_num
  have g2 : (1 : ℝ) ≤ (1 - u32) ^ 2 * (1 + 4 * u32) := by unfold u32; norm_num
  constructor
  · intro n hn
    have hL := logb_two_nonneg n hn
    exact ⟨mul_nonneg hL g1, mul_le_of_le_one_right hL g1', le_mul_of_one_le_right hL g2⟩
  · intro n _
    exact ⟨le_refl _, mul_le_mul_of_nonneg_right (sub_le_self _ (by norm_num)) (le_trans zero_le_one g2)⟩

end Dashu.Props.C10Coarse
