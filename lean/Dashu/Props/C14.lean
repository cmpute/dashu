import Dashu.Proofs.Cross.Dispatch
import Dashu.Proofs.Cross.Fixed
import Dashu.Proofs.Cross.Counter
import Dashu.Proofs.Cross.Spec
import Dashu.Proofs.Cross.HashProofs
import Dashu.Proofs.Cross.HashWeak
import Dashu.Proofs.Cross.HashInf
import Dashu.Proofs.Cross.Mersenne
/-
  C14 — Cross-type numeric comparison and hashing agree with exact values.

  Property theorems only (helper lemmas live in `Dashu/Proofs/Cross`).  Everything is about the
  definitions the driver `drive_cross` executes (`Dashu/Model/Cross/{Num,Ord,Oracle,Hash}.lean`).

  * The comparison code consults f32 log₂ estimates (`log2_bounds`, `digits_ub`) to skip exact work.
    The estimators are a PARAMETER (`Oracle`); every theorem is proved FOR EVERY ORACLE satisfying
    the enclosure hypothesis `Oracle.Sound` (`lb ≤ log₂|x| ≤ ub`, `Proofs/Cross/Encl.lean`): the
    estimate path and the exact path cannot disagree.  The two oracles the driver instantiates are
    proved sound (`coarse_sound`, `noFilter_sound`); the real f32 estimator is checked against the
    same hypothesis on every generated input by the harness op `log2encl`.
  * Specification side: `XVal.cmp` / `XVal.absCmp` on the exact values `Num.value` — the order of
    the exact rationals (`spec_lt/eq/gt`), NaN incomparable, `-0.0 = 0`, `±∞` at the ends.
  * The model mirrors /repo AFTER the seven C14 fix commits (8a8c152, 2670e13, 3c2d452, 8e7c970,
    318bce3, 378134e, d12bb0c); all property theorems are FULL.  The code before those commits is
    kept as a separate model (`Model/Cross/Pre.lean`, `numHashFeedPre`) only for the labelled
    as-is statements `prefix_…` at the end, which record what was wrong.
-/
namespace Dashu.Props.C14
open Dashu.Model.Cross

-- ================================================================== the specification is the order of ℚ

/-- `XVal.cmp` on finite values is `<` / `=` / `>` of the exact rationals `n/d`. -/
theorem spec_lt {n1 n2 : Int} {d1 d2 : Nat} (h1 : 0 < d1) (h2 : 0 < d2) :
    XVal.cmp (.fin n1 d1) (.fin n2 d2) = some .lt ↔ fracQ n1 d1 < fracQ n2 d2 := by
  simp only [XVal.cmp, Option.some.injEq, Int.compare_eq_lt]
  exact cross_lt_iff h1 h2
theorem spec_eq {n1 n2 : Int} {d1 d2 : Nat} (h1 : 0 < d1) (h2 : 0 < d2) :
    XVal.cmp (.fin n1 d1) (.fin n2 d2) = some .eq ↔ fracQ n1 d1 = fracQ n2 d2 := by
  simp only [XVal.cmp, Option.some.injEq, Int.compare_eq_eq]
  exact cross_eq_iff h1 h2
theorem spec_gt {n1 n2 : Int} {d1 d2 : Nat} (h1 : 0 < d1) (h2 : 0 < d2) :
    XVal.cmp (.fin n1 d1) (.fin n2 d2) = some .gt ↔ fracQ n2 d2 < fracQ n1 d1 := by
  simp only [XVal.cmp, Option.some.injEq, Int.compare_eq_gt]
  exact cross_lt_iff h2 h1

/-- the value of a finite float is the rational `signif · B^exp` -/
theorem float_value_rat {B : Nat} (hB : 2 ≤ B) (s e : Int) :
    fracQ (floatFrac B s e).1 (floatFrac B s e).2 = (s : ℚ) * (B : ℚ) ^ e := floatFrac_cast B s e

/-- magnitudes: the spec of `AbsOrd` compares `|n/d|` -/
theorem abs_value_rat (n : Int) (d : Nat) : fracQ (n.natAbs : Int) d = |fracQ n d| := by
  unfold fracQ
  rw [abs_div, Nat.abs_cast, Int.natCast_natAbs, Int.cast_abs]

-- ================================================================== the estimate-oracle hypothesis

/-- for a positive magnitude and finite bounds, the enclosure hypothesis is literally
    `lb ≤ log₂ v ≤ ub` -/
theorem enclosure_is_log2 {v : ℝ} (hv : 0 < v) (lo hi : ℚ) :
    Encl v (.fin lo, .fin hi) ↔ (lo : ℝ) ≤ Real.logb 2 v ∧ Real.logb 2 v ≤ (hi : ℝ) :=
  encl_iff_logb hv lo hi

/-- the only consequence the code draws from the estimates -/
theorem filter_sound {v1 v2 : ℝ} {b1 b2 : EB × EB} (h1 : Encl v1 b1) (h2 : Encl v2 b2)
    (h : EB.lt b1.2 b2.1 = true) : v1 < v2 := Encl.sep h1 h2 h

/-- the oracles the driver runs satisfy the hypothesis (so the theorems below apply to every
    line the driver prints) -/
theorem coarse_sound : Oracle.coarse.Sound := Oracle.coarse_sound
theorem noFilter_sound : Oracle.noFilter.Sound := Oracle.noFilter_sound

-- ================================================================== NumOrd, pair by pair (full)

/-- float/src/cmp.rs `repr_cmp_ubig::<B, false>` (FBig/Repr × UBig, unsigned primitives) -/
theorem float_cmp_ubig {o : Oracle} (ho : o.Sound) {B : Nat} (hB : 2 ≤ B) (s e : Int) (r p : Nat) :
    some (floatReprCmpUbig o false B s e r) = XVal.cmp (Num.fbig B s e p).value (Num.ubig r).value :=
  floatReprCmpUbig_specA ho hB false s e r p

/-- float/src/cmp.rs `repr_cmp_ibig::<B, false>` (FBig/Repr × IBig, signed primitives) -/
theorem float_cmp_ibig {o : Oracle} (ho : o.Sound) {B : Nat} (hB : 2 ≤ B) (s e r : Int) (p : Nat) :
    some (floatReprCmpIbig o false B s e r) = XVal.cmp (Num.fbig B s e p).value (Num.ibig r).value :=
  floatReprCmpIbig_specA ho hB false s e r p

/-- float/src/third_party/num_order.rs `NumOrd<Repr<B2>> for Repr<B1>` (FBig × FBig, any two bases,
    any precisions and rounding modes) -/
theorem float_cmp_float {o : Oracle} (ho : o.Sound) {B1 B2 : Nat} (hB1 : 2 ≤ B1) (hB2 : 2 ≤ B2)
    (s1 e1 s2 e2 : Int) (p1 p2 : Nat) (w1 : FWf s1 e1) (w2 : FWf s2 e2) :
    some (reprNumCmp o B1 s1 e1 B2 s2 e2)
      = XVal.cmp (Num.fbig B1 s1 e1 p1).value (Num.fbig B2 s2 e2 p2).value :=
  reprNumCmp_spec ho hB1 hB2 s1 e1 s2 e2 p1 p2 w1 w2

/-- rational/src/cmp.rs `repr_cmp_ubig::<false>`, `repr_cmp_ibig::<false>`,
    `with_float::repr_cmp_fbig::<B, false>`, `repr_cmp::<false>` (RBig/Relaxed × UBig, IBig, FBig,
    each other) -/
theorem ratio_cmp_ubig {o : Oracle} (ho : o.Sound) (n : Int) {d : Nat} (hd : 0 < d) (r : Nat) :
    some (ratReprCmpUbig o false n d r) = XVal.cmp (.fin n d) (.fin (r : Int) 1) :=
  ratReprCmpUbig_specA ho false n hd r
theorem ratio_cmp_ibig {o : Oracle} (ho : o.Sound) (n : Int) {d : Nat} (hd : 0 < d) (r : Int) :
    some (ratReprCmpIbig o false n d r) = XVal.cmp (.fin n d) (.fin r 1) :=
  ratReprCmpIbig_specA ho false n hd r
theorem ratio_cmp_float {o : Oracle} (ho : o.Sound) (n : Int) {d : Nat} (hd : 0 < d) {B : Nat}
    (hB : 2 ≤ B) (s e : Int) (p : Nat) :
    some (ratReprCmpFbig o false n d B s e) = XVal.cmp (.fin n d) (Num.fbig B s e p).value :=
  ratReprCmpFbig_specA ho false n hd hB s e p
theorem ratio_cmp_ratio (n1 : Int) {d1 : Nat} (h1 : 0 < d1) (n2 : Int) {d2 : Nat} (h2 : 0 < d2) :
    some (ratReprCmp false n1 d1 n2 d2) = XVal.cmp (.fin n1 d1) (.fin n2 d2) :=
  ratReprCmp_spec n1 h1 n2 h2
theorem ratio_eq_ratio (abs : Bool) (n1 : Int) {d1 : Nat} (h1 : 0 < d1) (n2 : Int) {d2 : Nat}
    (h2 : 0 < d2) :
    ratReprEq abs n1 d1 n2 d2 = ((if abs then XVal.absCmp (.fin n1 d1) (.fin n2 d2)
      else XVal.cmp (.fin n1 d1) (.fin n2 d2)) == some .eq) :=
  ratReprEq_spec abs n1 h1 n2 h2

-- ================================================================== NumOrd, the whole table

/-- NumOrd over the WHOLE table of implemented pairs (UBig, IBig, FBig⟨any B⟩, RBig, Relaxed, all
    primitive integers, f32, f64; both argument orders): `num_partial_cmp` returns the order of the
    exact values (`none` iff NaN) for every sound oracle. -/
theorem num_ord_exact {o : Oracle} (ho : o.Sound) (x y : Num) (wx : x.WF) (wy : y.WF)
    {r : Option Ordering} (h : numPartialCmp o x y = some r) : r = XVal.cmp x.value y.value :=
  numPartialCmp_spec ho x y wx wy h

/-- `num_eq` (incl. the `repr_eq` override for RBig × Relaxed) decides equality of the exact values -/
theorem num_eq_exact {o : Oracle} (ho : o.Sound) (x y : Num) (wx : x.WF) (wy : y.WF)
    {b : Bool} (h : numEq o x y = some b) : b = (XVal.cmp x.value y.value == some .eq) := by
  unfold numEq at h
  split at h
  · rename_i r1 n1 d1 r2 n2 d2 hx hy
    split at h
    · simp only [Option.some.injEq] at h
      subst h
      have w1 := Num.kind_wf wx
      have w2 := Num.kind_wf wy
      rw [hx] at w1
      rw [hy] at w2
      rw [← Num.kind_value wx, ← Num.kind_value wy, hx, hy]
      simp only [Kind.value]
      have := ratReprEq_spec false n1 w1 n2 w2
      simpa using this
    · exact absurd h (by simp)
  · cases hr : numPartialCmp o x y with
    | none => rw [hr] at h; exact absurd h (by simp)
    | some r =>
      rw [hr] at h
      simp only [Option.map_some, Option.some.injEq] at h
      rw [← h, numPartialCmp_spec ho x y wx wy hr]

/-- the estimate path and the exact path cannot disagree: any two sound oracles give the same
    answer (in particular the bit-length oracle and the never-filtering one the driver runs) -/
theorem num_ord_oracle_independent {o1 o2 : Oracle} (h1 : o1.Sound) (h2 : o2.Sound) (x y : Num)
    (wx : x.WF) (wy : y.WF) {r1 r2 : Option Ordering}
    (e1 : numPartialCmp o1 x y = some r1) (e2 : numPartialCmp o2 x y = some r2) : r1 = r2 := by
  rw [numPartialCmp_spec h1 x y wx wy e1, numPartialCmp_spec h2 x y wx wy e2]

/-- NumOrd against f32/f64, impl by impl (bit-length bounds, no oracle) -/
theorem ubig_cmp_prim_float (t : FloatTy) (x : Nat) (bits : Nat) :
    ubigNumOrdFloat t x (decode t bits) = XVal.cmp (.fin (x : Int) 1) (Num.pfloat t bits).value :=
  ubigNumOrdFloat_spec t x _ (decode_inRange t bits)
theorem ibig_cmp_prim_float (t : FloatTy) (x : Int) (bits : Nat) :
    ibigNumOrdFloat t x (decode t bits) = XVal.cmp (.fin x 1) (Num.pfloat t bits).value :=
  ibigNumOrdFloat_spec t x _ (decode_inRange t bits)
theorem float_cmp_prim_float (t : FloatTy) {B : Nat} (hB : 2 ≤ B) (s e : Int) (p : Nat) (bits : Nat) :
    reprNumOrdFloat t B s e (decode t bits)
      = XVal.cmp (Num.fbig B s e p).value (Num.pfloat t bits).value :=
  reprNumOrdFloat_spec t hB s e p _ (decode_inRange t bits)
theorem ratio_cmp_prim_float (t : FloatTy) (n : Int) {d : Nat} (hd : 0 < d) (bits : Nat) :
    ratNumOrdFloat t n d (decode t bits) = XVal.cmp (.fin n d) (Num.pfloat t bits).value :=
  ratNumOrdFloat_spec t n hd _ (decode_inRange t bits)

/-- every decoded f32/f64 meets the range hypothesis used by the "bigger than the max float" step -/
theorem decoded_in_range (t : FloatTy) (bits : Nat) : (decode t bits).InRange t := decode_inRange t bits

-- ================================================================== AbsOrd

/-- AbsOrd over the whole table (UBig, IBig, FBig of one base, FBig × UBig/IBig, RBig/Relaxed ×
    everything): the order of the magnitudes for every sound oracle. -/
theorem abs_ord_exact {o : Oracle} (ho : o.Sound) (x y : Num) (wx : x.WF) (wy : y.WF)
    (px : x.PrecOK) (py : y.PrecOK) {r : Ordering} (h : absCmp o x y = some r) :
    some r = XVal.absCmp x.value y.value := by
  unfold absCmp at h
  split at h
  · exact absurd h (by simp)
  · rw [← Num.kind_value wx, ← Num.kind_value wy]
    exact absCmpK_spec ho _ _ (Num.kind_wf wx) (Num.kind_wf wy) (Num.kind_precOK px)
      (Num.kind_precOK py) h

/-- float/src/cmp.rs `repr_cmp_ubig::<B, true>`, `repr_cmp_ibig::<B, true>` (AbsOrd FBig × UBig/IBig,
    any signs) -/
theorem float_abs_cmp_ubig {o : Oracle} (ho : o.Sound) {B : Nat} (hB : 2 ≤ B) (s e : Int) (r p : Nat) :
    some (floatReprCmpUbig o true B s e r) = XVal.absCmp (Num.fbig B s e p).value (Num.ubig r).value :=
  floatReprCmpUbig_specA ho hB true s e r p
theorem float_abs_cmp_ibig {o : Oracle} (ho : o.Sound) {B : Nat} (hB : 2 ≤ B) (s e r : Int) (p : Nat) :
    some (floatReprCmpIbig o true B s e r) = XVal.absCmp (Num.fbig B s e p).value (Num.ibig r).value :=
  floatReprCmpIbig_specA ho hB true s e r p

/-- base/src/sign.rs `AbsOrd for iN` (`unsigned_abs`): the order of the magnitudes, incl. `iN::MIN` -/
theorem prim_abs_cmp (a b : Int) :
    some (primIntAbsCmp a b) = XVal.absCmp (.fin a 1) (.fin b 1) := by
  simp [primIntAbsCmp, XVal.absCmp, XVal.abs, XVal.cmp, cmpN_cast]

/-- `AbsOrd for FBig` / `Ord for FBig` (`repr_cmp_same_base` with its exponent+precision and
    exponent+digits shortcuts) — full -/
theorem float_abs_cmp_same_base {o : Oracle} (ho : o.Sound) {B : Nat} (hB : 2 ≤ B)
    (ls le rs re : Int) (lp rp : Nat) (hp1 : PrecOK B ls lp) (hp2 : PrecOK B rs rp) :
    some (reprCmpSameBase o true B ls le rs re (some (lp, rp)))
      = XVal.absCmp (Num.fbig B ls le lp).value (Num.fbig B rs re rp).value :=
  reprCmpSameBase_abs_spec ho hB ls le rs re lp rp hp1 hp2

/-- `rhs_exp.saturating_add(k)` (float/src/cmp.rs cases 4 and 5 since /repo ee43486; `k ≥ 0` a clamped precision or a digit
    count) decides the shortcut exactly as the unbounded sum the model computes: an `isize` exponent never exceeds a sum that
    saturated at `isize::MAX`, and a non-negative `k` cannot saturate at `isize::MIN`. -/
theorem saturating_shortcut_exact (le re : Int) (k : Nat) (hle : le ≤ (isizeMax : Int)) :
    (le > min (re + (k : Int)) (isizeMax : Int)) ↔ (le > re + (k : Int)) := by
  omega

/-- the clamp of case 4 only matters above `isize::MAX`: for a precision that fits `isize` the shortcut reads the precision itself -/
theorem precision_clamp_id (p : Nat) (hp : p ≤ isizeMax) : min p isizeMax = p := Nat.min_eq_left hp

/-- core `Ord`/`PartialOrd` of two numbers of one type — full -/
theorem ord_exact {o : Oracle} (ho : o.Sound) (x y : Num) (wx : x.WF) (wy : y.WF)
    (px : x.PrecOK) (py : y.PrecOK) {r : Ordering} (h : ordCmp o x y = some r) :
    some r = XVal.cmp x.value y.value := by
  cases x <;> cases y <;> simp only [ordCmp] at h <;> (try cases h) <;>
    simp only [Num.value, Num.WF, Num.PrecOK] at *
  · simp [XVal.cmp, cmpN_cast]
  · simp [XVal.cmp]
  · rename_i B1 s1 e1 q1 B2 s2 e2 q2
    split at h
    · rename_i hB
      subst hB
      simp only [Option.some.injEq] at h
      subst h
      exact reprCmpSameBase_spec ho wx.1 s1 e1 s2 e2 q1 q2 wx.2 wy.2 px py
    · exact absurd h (by simp)
  · rename_i n1 d1 n2 d2
    exact ratReprCmp_spec n1 wx n2 wy
  · rename_i n1 d1 n2 d2
    exact ratReprCmp_spec n1 wx n2 wy

/-- rational AbsOrd — full -/
theorem ratio_abs_cmp_ratio (n1 : Int) {d1 : Nat} (h1 : 0 < d1) (n2 : Int) {d2 : Nat} (h2 : 0 < d2) :
    some (ratReprCmp true n1 d1 n2 d2) = XVal.absCmp (.fin n1 d1) (.fin n2 d2) :=
  ratReprCmp_abs_spec n1 h1 n2 h2
theorem ratio_abs_cmp_float {o : Oracle} (ho : o.Sound) (n : Int) {d : Nat} (hd : 0 < d) {B : Nat}
    (hB : 2 ≤ B) (s e : Int) (p : Nat) :
    some (ratReprCmpFbig o true n d B s e) = XVal.absCmp (.fin n d) (Num.fbig B s e p).value :=
  ratReprCmpFbig_specA ho true n hd hB s e p

-- ================================================================== NumHash

/-- `M = 2^127 - 1` is prime (the feed lives in the field `ℤ/M`) -/
theorem mersenne127_prime : Nat.Prime M127 := M127_prime

/-- NumHash: numerically equal numbers of any two types (UBig, IBig, FBig⟨B⟩, RBig, Relaxed incl.
    non-reduced ones, every primitive integer, f32, f64) feed the same `i128`. -/
theorem num_hash_value {x y : Num} (hx : x.HashOK) (hy : y.HashOK) {n1 n2 : Int} {d1 d2 : Nat}
    (vx : x.value = .fin n1 d1) (vy : y.value = .fin n2 d2) (h : n1 * d2 = n2 * d1) :
    numHashFeed x = numHashFeed y :=
  numHash_value hx hy vx vy h

/-- NumHash at the infinities: `FBig ±∞` (any base) and an infinite f32/f64 — which `num_eq` each
    other — feed the same `i128` (both 0: num-order's INF constants are mapped to 0 by
    `i128::num_hash`, a zero significand hashes to 0) -/
theorem num_hash_inf (B : Nat) (e : Int) (p : Nat) (t : FloatTy) (bits : Nat) {neg : Bool}
    (h : decode t bits = .inf neg) :
    numHashFeed (.fbig B 0 e p) = numHashFeed (.pfloat t bits) := by
  show floatHash B 0 e = primFloatHash t bits
  rw [floatHash_zero_signif, primFloatHash_inf t bits h]

-- ------------------------------------------------------------------ FixedMersenneInt<127,1> mirrored

/-- num-modular `FixedMersenne::<127,1>::reduce_single` (fold loop + conditional subtraction) is
    reduction modulo `2^127 - 1`, for every input -/
theorem mersenne_reduce_single (v : Nat) : Mersenne.reduceSingle v = v % M127 := reduceSingle_eq v

/-- `reduce_double` with its TWO unrolled folds is reduction modulo `2^127 - 1` on every product of
    two residues (`v < 2^254`): the carry after the second fold is 0 and no `u128` sum overflows
    (`reduceDouble_no_overflow`) -/
theorem mersenne_reduce_double {v : Nat} (hv : v < 2 ^ 254) : Mersenne.reduceDouble v = v % M127 :=
  reduceDouble_eq hv

/-- `Reducer::mul`, `Reducer::pow` (binary exponentiation with the `1`/`2` shortcuts),
    `Reducer::inv` (extended Euclid `u128::invm`) on residues -/
theorem mersenne_mul {a b : Nat} (ha : a < M127) (hb : b < M127) : Mersenne.mul a b = a * b % M127 :=
  mul_eq ha hb
theorem mersenne_pow {b : Nat} (hb : b < M127) (e : Nat) : Mersenne.pow b e = b ^ e % M127 :=
  pow_eq hb e
theorem mersenne_inv {a : Nat} (ha : a < M127) (h0 : a ≠ 0) :
    Mersenne.inv a = some (invMod a) ∧ a * invMod a % M127 = 1 :=
  ⟨inv_eq ha h0, invMod_spec (by rw [Nat.mod_eq_of_lt ha]; exact h0)⟩

/-- what the driver executes (`numHashFeedM`: every `FixedMersenneInt` operation mirrored, `none` =
    an `unwrap()` on a missing inverse) never panics and equals the arithmetic description … -/
theorem num_hash_mirrored {x : Num} (hx : x.HashOK) : numHashFeedM x = some (numHashFeed x) :=
  numHashFeedM_eq hx

/-- … hence the hash clause holds for the mirrored code: equal values feed the same `i128` -/
theorem num_hash_value_mirrored {x y : Num} (hx : x.HashOK) (hy : y.HashOK) {n1 n2 : Int}
    {d1 d2 : Nat} (vx : x.value = .fin n1 d1) (vy : y.value = .fin n2 d2) (h : n1 * d2 = n2 * d1) :
    numHashFeedM x = numHashFeedM y ∧ (numHashFeedM x).isSome := by
  rw [numHashFeedM_eq hx, numHashFeedM_eq hy, numHash_value hx hy vx vy h]
  exact ⟨rfl, rfl⟩

/-- the feed is the canonical hash of the exact value `n/d` (`hashQ`: `±(|n| mod M)·(d mod M)⁻¹`)
    whenever the stored denominator is a unit mod `M` … -/
theorem hash_is_function_of_value {x : Num} (hx : x.HashOKPre) {n : Int} {d : Nat}
    (vx : x.value = .fin n d) : numHashFeedPre x = hashQ n d ∧ ¬ M127 ∣ d :=
  numHashFeedPre_eq_hashQ hx vx

/-- … and the current code differs from that body only by first cancelling a common factor `M`
    (so the `M | den` corner — the INF/NEGINF constants — is reached only when `M` divides the
    denominator of the REDUCED fraction, for every representation of the value) -/
theorem rat_hash_eq_body {n : Int} {d : Nat} (h : ¬ (M127 ∣ d ∧ (M127 : Int) ∣ n ∧ n ≠ 0)) :
    ratHash n d = ratHashPre n d :=
  ratHash_eq_ratHashPre h

-- ================================================================== non-vacuity / concrete instances

/-- 2.5 as FBig base 10 (`25·10⁻¹`) equals RBig 5/2; NaN is incomparable; `-0.0 = 0`;
    FBig `+∞` equals f64 `+∞`; a huge exponent is decided without materialising it. -/
example : numPartialCmp Oracle.coarse (.fbig 10 25 (-1) 2) (.rbig 5 2) = some (some .eq) := by
  decide +kernel
example : numPartialCmp Oracle.coarse (.ubig 5) (.pfloat .f64 0x7ff8000000000000) = some none := by
  decide +kernel
example : numPartialCmp Oracle.coarse (.ibig 0) (.pfloat .f64 0x8000000000000000) = some (some .eq) := by
  decide +kernel
example : numPartialCmp Oracle.coarse (.fbig 2 0 1 0) (.pfloat .f32 0x7f800000) = some (some .eq) := by
  decide +kernel
example : numPartialCmp Oracle.coarse (.fbig 10 1 (10 ^ 15) 1) (.ubig 5) = some (some .gt) := by
  decide +kernel
example : (Num.fbig 10 25 (-1) 2).WF ∧ (Num.rbig 5 2).WF := by
  refine ⟨⟨by norm_num, fun h => absurd h (by norm_num)⟩, by norm_num [Num.WF]⟩
/-- the repaired inputs: 0 < 2⁻⁵, IBig 5 < +∞, |FBig −5| = |UBig 5|, Relaxed M/M hashes like 1 -/
example : numPartialCmp Oracle.coarse (.ubig 0) (.pfloat .f64 0x3fa0000000000000) = some (some .lt) := by
  decide +kernel
example : numPartialCmp Oracle.coarse (.ibig 5) (.pfloat .f64 0x7ff0000000000000) = some (some .lt) := by
  decide +kernel
example : absCmp Oracle.coarse (.fbig 2 (-5) 0 3) (.ubig 5) = some .eq := by decide +kernel
example : numHashFeed (.fbig 10 25 (-1) 2) = numHashFeed (.pfloat .f64 0x4004000000000000) :=
  num_hash_value (x := .fbig 10 25 (-1) 2) (y := .pfloat .f64 0x4004000000000000)
    ⟨by norm_num, by norm_num [M127]⟩
    (by norm_num [Num.HashOK, Num.HashOKPre, FloatTy.mantBits, FloatTy.expBits])
    (n1 := 25) (d1 := 10) (n2 := 5 * 2 ^ 50) (d2 := 2 ^ 51) (by rfl) (by rfl)
    (by norm_num)

-- ================================================================== non-vacuity of every hypothesis-carrying theorem

/-- `spec_*`: 5/2 < 8/3 as `fin` values -/
example : XVal.cmp (.fin 5 2) (.fin 8 3) = some .lt ∧ fracQ 5 2 < fracQ 8 3 :=
  ⟨by decide, (spec_lt (by norm_num) (by norm_num)).1 (by decide)⟩

/-- `enclosure_is_log2` / `filter_sound`: 5 is enclosed by (2, 3), 20 by (4, 5), hence 5 < 20 -/
example : Encl (5 : ℝ) (.fin 2, .fin 3) ∧ Encl (20 : ℝ) (.fin 4, .fin 5) := by
  constructor <;> (unfold Encl EB.le2 EB.ge2; constructor <;> norm_num)
example (h1 : Encl (5 : ℝ) (.fin 2, .fin 3)) (h2 : Encl (20 : ℝ) (.fin 4, .fin 5)) : (5 : ℝ) < 20 :=
  filter_sound h1 h2 (by decide)

/-- the pairwise theorems instantiated with the proved-sound bit-length oracle -/
example : some (floatReprCmpUbig Oracle.coarse false 10 25 (-1) 3)
    = XVal.cmp (Num.fbig 10 25 (-1) 2).value (Num.ubig 3).value :=
  float_cmp_ubig coarse_sound (by norm_num) 25 (-1) 3 2
example : some (floatReprCmpIbig Oracle.coarse false 16 (-255) 7 (-(2 ^ 36)))
    = XVal.cmp (Num.fbig 16 (-255) 7 2).value (Num.ibig (-(2 ^ 36))).value :=
  float_cmp_ibig coarse_sound (by norm_num) (-255) 7 (-(2 ^ 36)) 2
example : FWf 25 (-1) ∧ FWf 0 1 ∧ FWf 0 0 :=
  ⟨fun h => absurd h (by norm_num), fun _ => Or.inr (Or.inl rfl), fun _ => Or.inl rfl⟩
example : some (reprNumCmp Oracle.coarse 10 25 (-1) 2 5 (-1))
    = XVal.cmp (Num.fbig 10 25 (-1) 2).value (Num.fbig 2 5 (-1) 3).value :=
  float_cmp_float coarse_sound (by norm_num) (by norm_num) 25 (-1) 5 (-1) 2 3
    (fun h => absurd h (by norm_num)) (fun h => absurd h (by norm_num))
example : some (ratReprCmpUbig Oracle.coarse false 15 6 2) = XVal.cmp (.fin 15 6) (.fin 2 1) :=
  ratio_cmp_ubig coarse_sound 15 (by norm_num) 2
example : some (ratReprCmpFbig Oracle.coarse false 15 6 10 25 (-1)) = XVal.cmp (.fin 15 6) (Num.fbig 10 25 (-1) 2).value :=
  ratio_cmp_float coarse_sound 15 (by norm_num) (by norm_num) 25 (-1) 2
example : some (ratReprCmp false 15 6 5 2) = XVal.cmp (.fin 15 6) (.fin 5 2) :=
  ratio_cmp_ratio 15 (by norm_num) 5 (by norm_num)

/-- `num_ord_exact` on a non-reduced Relaxed against an FBig, and on the NaN case -/
example : (some .eq : Option Ordering) = XVal.cmp (Num.relaxed 15 6).value (Num.fbig 10 25 (-1) 2).value :=
  num_ord_exact coarse_sound (.relaxed 15 6) (.fbig 10 25 (-1) 2) (by norm_num [Num.WF])
    ⟨by norm_num, fun h => absurd h (by norm_num)⟩ (by decide +kernel)
example : (none : Option Ordering) = XVal.cmp (Num.ubig 7).value (Num.pfloat .f32 0x7fc00000).value :=
  num_ord_exact coarse_sound (.ubig 7) (.pfloat .f32 0x7fc00000) trivial trivial (by decide +kernel)
example : (true : Bool) = (XVal.cmp (Num.rbig 5 2).value (Num.relaxed 15 6).value == some .eq) :=
  num_eq_exact coarse_sound (.rbig 5 2) (.relaxed 15 6) (by norm_num [Num.WF]) (by norm_num [Num.WF])
    (by decide +kernel)

/-- `abs_ord_exact` / `float_abs_cmp_same_base` / `ord_exact`: precision hypotheses are satisfiable -/
example : PrecOK 10 (-1234) 4 ∧ PrecOK 10 99999 0 ∧ (Num.fbig 10 (-1234) (-2) 4).PrecOK :=
  ⟨fun _ => by norm_num [isizeMax], fun h => absurd rfl h, fun _ => by norm_num [isizeMax]⟩
example : some Ordering.gt = XVal.absCmp (Num.fbig 10 (-1234) (-2) 4).value (Num.ibig 12).value :=
  abs_ord_exact coarse_sound (.fbig 10 (-1234) (-2) 4) (.ibig 12)
    ⟨by norm_num, fun h => absurd h (by norm_num)⟩ trivial (fun _ => by norm_num [isizeMax]) trivial
    (by decide +kernel)
example : some (reprCmpSameBase Oracle.coarse true 10 (-1234) (-2) 99 0 (some (4, 2)))
    = XVal.absCmp (Num.fbig 10 (-1234) (-2) 4).value (Num.fbig 10 99 0 2).value :=
  float_abs_cmp_same_base coarse_sound (by norm_num) (-1234) (-2) 99 0 4 2 (fun _ => by norm_num [isizeMax])
    (fun _ => by norm_num [isizeMax])

/-- a precision above `isize::MAX` (`usize::MAX`, clamped by case 4 since /repo ee43486) meets `PrecOK`; the witness of the
    repaired finding: `FBig(1, precision 10).cmp(FBig(5, precision usize::MAX))` is `Less` -/
example : PrecOK 10 5 18446744073709551615 :=
  fun _ => by
    have h : min 18446744073709551615 isizeMax + 1 = 1 + (min 18446744073709551615 isizeMax) := Nat.add_comm _ _
    rw [h, Nat.pow_add]
    exact Nat.lt_of_lt_of_le (by norm_num) (Nat.le_mul_of_pos_right _ (Nat.pow_pos (by norm_num)))
example : some (reprCmpSameBase Oracle.coarse false 10 1 0 5 0 (some (10, 18446744073709551615))) = some Ordering.lt := by
  decide +kernel

/-- NumHash hypotheses: an FBig, a non-reduced Relaxed whose parts both carry the factor `M`, f32 -/
example : (Num.fbig 16 (-255) 7 2).HashOK ∧ (Num.relaxed (3 * M127) (6 * M127)).HashOK ∧
    (Num.pfloat .f32 0x3f000000).HashOK := by
  refine ⟨⟨by norm_num, by norm_num [M127]⟩, by norm_num [Num.HashOK, M127], ?_⟩
  norm_num [Num.HashOK, Num.HashOKPre, FloatTy.mantBits, FloatTy.expBits]
example : numHashFeed (.relaxed (3 * M127) (6 * M127)) = numHashFeed (.pfloat .f32 0x3f000000) :=
  num_hash_value (x := .relaxed (3 * M127) (6 * M127)) (y := .pfloat .f32 0x3f000000)
    (by norm_num [Num.HashOK, M127]) (by norm_num [Num.HashOK, Num.HashOKPre, FloatTy.mantBits, FloatTy.expBits])
    (n1 := 3 * M127) (d1 := 6 * M127) (n2 := 2 ^ 23) (d2 := 2 ^ 24) (by rfl) (by rfl)
    (by norm_num [M127])
example : ratHash 15 6 = ratHashPre 15 6 := rat_hash_eq_body (by norm_num [M127])

/-- Mersenne model: a 254-bit product is reduced by two folds; an inverse is found -/
example : Mersenne.reduceDouble ((M127 - 1) * (M127 - 1)) = 1 := by
  rw [mersenne_reduce_double (by norm_num [M127])]; decide +kernel
example : Mersenne.inv 3 = some (invMod 3) ∧ 3 * invMod 3 % M127 = 1 :=
  mersenne_inv (by norm_num [M127]) (by norm_num)
example : numHashFeedM (.relaxed (3 * M127) (6 * M127)) = numHashFeedM (.pfloat .f32 0x3f000000) :=
  (num_hash_value_mirrored (x := .relaxed (3 * M127) (6 * M127)) (y := .pfloat .f32 0x3f000000)
    (by norm_num [Num.HashOK, M127]) (by norm_num [Num.HashOK, Num.HashOKPre, FloatTy.mantBits, FloatTy.expBits])
    (n1 := 3 * M127) (d1 := 6 * M127) (n2 := 2 ^ 23) (d2 := 2 ^ 24) (by rfl) (by rfl)
    (by norm_num [M127])).1
example : decode .f64 0xfff0000000000000 = .inf true := by decide +kernel

-- ================================================================== AS-IS statements about the PRE-FIX code
-- (`Model/Cross/Pre.lean`, `numHashFeedPre`: /repo before the C14 fix commits; nothing below is
--  about the current code — they record why the fixes were needed)

/-- before 8a8c152: `UBig::ZERO.num_partial_cmp(&2^-5)` was `Greater` -/
theorem prefix_num_ord_zero :
    ubigNumOrdFloatPre .f64 0 (.fin (2 ^ 52) (-57)) = some .gt ∧
      XVal.cmp (.fin 0 1) (decodedValue (.fin (2 ^ 52) (-57))) = some .lt ∧
      defectA (.nat 0) (2 ^ 52) (-57) = true ∧ (Decoded.fin (2 ^ 52) (-57)).InRange .f64 := by
  refine ⟨by decide, by decide, by decide, ?_⟩
  show ((bitLen ((2 : Int) ^ 52).natAbs : Nat) : Int) + (-57) ≤ ((FloatTy.f64.maxExp : Nat) : Int)
  decide

/-- before d12bb0c: `IBig 5` against `+∞` was `Greater` -/
theorem prefix_num_ord_inf :
    ibigNumOrdFloatPre .f64 5 (.inf false) = some .gt ∧
      XVal.cmp (.fin 5 1) (decodedValue (.inf false)) = some .lt ∧ defectF (.int 5) false = true := by
  decide

/-- before 2670e13, with a sound oracle: `FBig(-5).abs_cmp(UBig 5) = Less`,
    `FBig(5).abs_cmp(IBig -5) = Greater` -/
theorem prefix_abs_ord_ubig :
    Oracle.noFilter.Sound ∧ floatReprCmpUbigPre Oracle.noFilter true 2 (-5) 0 5 = .lt ∧
      XVal.absCmp (Num.fbig 2 (-5) 0 3).value (Num.ubig 5).value = some .eq :=
  ⟨Oracle.noFilter_sound, by decide, by decide⟩
theorem prefix_abs_ord_ibig :
    Oracle.noFilter.Sound ∧ floatReprCmpIbigPre Oracle.noFilter true 2 5 0 (-5) = .gt ∧
      XVal.absCmp (Num.fbig 2 5 0 3).value (Num.ibig (-5)).value = some .eq :=
  ⟨Oracle.noFilter_sound, by decide, by decide⟩

/-- before 3c2d452 the `M | den` corner was NOT consistent: the reduced `RBig 1/1` and the
    non-reduced `Relaxed M/M` are equal numbers that fed 1 and 0 … -/
theorem prefix_num_hash_corner :
    numHashFeedPre (.rbig 1 1) ≠ numHashFeedPre (.relaxed (M127 : Int) M127) ∧
      (1 : Int) * (M127 : Nat) = (M127 : Int) * (1 : Nat) :=
  ⟨ratHashPre_corner_counterexample, ratHashPre_corner_same_value.2.2⟩

/-- … and that was the only inconsistency: outside rationals with BOTH stored parts divisible by `M`
    the old code already fed a function of the value -/
theorem prefix_num_hash_value_weak {x y : Num} (hx : x.HashOKWeak) (hy : y.HashOKWeak) {n1 n2 : Int}
    {d1 d2 : Nat} (vx : x.value = .fin n1 d1) (vy : y.value = .fin n2 d2) (h : n1 * d2 = n2 * d1) :
    numHashFeedPre x = numHashFeedPre y := by
  rw [← numHashFeed_eq_feed hx, ← numHashFeed_eq_feed hy]
  exact numHash_value hx.canon hy.canon vx vy h

end Dashu.Props.C14
