import Dashu.Props.GenFloatAdd
import Dashu.Model.Forms.Float
/-
  Tie A theorems for C03 / C15: the by-reference forms of the operators `FBig + FBig`, `FBig - FBig`
  (`add_val_ref`, `add_ref_ref` of float/src/add.rs, reached from `Add<&FBig> for FBig`, `Add<&FBig> for &FBig`,
  `Sub…`) AS REGENERATED on this run compute, at the precision `Context::max` of the two operands, the value that the
  hand-written model's `opAddSub` (`Model/Forms/Float.lean`) names: a zero operand returns the other one (sign
  applied) rounded to that precision (`context.repr_round(..).value()`, fix 164990d), otherwise the value of
  `ctxAddSub`; they panic exactly for an infinite operand.  The two forms are one text up to `a - b = -b + a`
  (`add_val_ref_any`, every kernel record), so one of them is read against the model.  Core Lean only.
-/
set_option linter.unusedSimpArgs false
namespace Dashu.Props.GenFloatForms
open Dashu Dashu.Gen Dashu.GluePrelude Dashu.Proofs.Gen Dashu.Model.Float Dashu.Props.GenFloatOps Dashu.Props.GenFloatAdd

theorem context_max_eq (p q : Nat) : Context_max ⟨(p : Int)⟩ ⟨(q : Int)⟩ = ⟨((Nat.max p q : Nat) : Int)⟩ := by
  unfold Context_max
  simp only [lt_int, gt_int, GluePrelude.FCtx.mk.injEq, Nat.max_def]
  by_cases h : q < p
  · have : (q : Int) < (p : Int) := by omega
    simp only [this, decide_true, if_true]; split <;> omega
  · have : ¬ (q : Int) < (p : Int) := by omega
    simp only [this, decide_false, if_false, Bool.false_eq_true]; split <;> omega

theorem value_toGA (r : Rounded Model.Float.FRepr) : Approx.value (toGA toG r) = toG r.1 := by
  obtain ⟨v, f⟩ := r
  cases f <;> rfl

theorem apply_eq (sg : Sign) (x : Int) : sg.apply x = x * rsI sg := by
  cases sg <;> simp [Sign.apply, rsI]

/-- **`add_ref_ref` (`&FBig ± &FBig`) as regenerated** -/
theorem add_ref_ref_is_model (B : Nat) (m : Mode) (c : Coarse) (dub : Int → Nat) (ls le : Int) (pl : Nat) (rs re : Int)
    (pr : Nat) (sg : Sign) :
    add_ref_ref (modelK B m c dub) ⟨⟨ls, le⟩, ⟨(pl : Int)⟩⟩ ⟨⟨rs, re⟩, ⟨(pr : Int)⟩⟩ sg =
      if (ls = 0 ∧ le ≠ 0) ∨ (rs = 0 ∧ re ≠ 0) then .error .OperateWithInf
      else .ok ⟨toG (Model.Forms.opAddSub B m c dub (Nat.max pl pr) ⟨ls, le⟩ ⟨rs, re⟩ (rsI sg)), ⟨((Nat.max pl pr : Nat) : Int)⟩⟩ := by
  unfold add_ref_ref Model.Forms.opAddSub ctxAddSub
  simp only [context_max_eq, assert_finite_operands, Repr_is_infinite, Repr_is_zero, Model.Float.FRepr.isZero, is_zero_int,
    eq_int, ne_int, cmp_int, int_mul_sign, sign_mul_int_eq, apply_eq, FBig_new, add_int, sub_int, repr_round_is_model,
    repr_round_ref_is_model, ne_eq, Bool.and_eq_true, Bool.or_eq_true, decide_eq_true_eq, Bool.not_eq_true',
    decide_eq_false_iff_not, beq_iff_eq, Int.mul_comm rs]
  by_cases hi : (ls = 0 ∧ ¬le = 0) ∨ (rs = 0 ∧ ¬re = 0)
  · simp only [hi, if_true]
  have ⟨hl, hr⟩ := not_or.mp hi
  simp only [hl, hr, or_self, if_false]
  by_cases zl : ls = 0 ∧ le = 0
  · -- `context.repr_round(±rhs).value()`; `±rhs` is finite as `rhs` is
    have hc : ¬ (rsI sg * rs = 0 ∧ ¬re = 0) := by
      rintro ⟨h0, h⟩
      rcases rsI_cases sg with e | e <;> rw [e] at h0 <;> omega
    simp only [zl, hc, and_self, if_true, if_false, value_toGA]
  by_cases zr : rs = 0 ∧ re = 0
  · simp only [zl, zr, hl, and_self, if_true, if_false, value_toGA]
  simp only [zl, zr, if_false]
  have h1 : ls ≠ 0 := by omega
  have h3 : rs ≠ 0 := by omega
  rcases Int.lt_trichotomy le re with h | h | h
  · simp only [Int.compare_eq_lt.mpr h, Int.ne_of_lt h, Int.lt_asymm h, gt_iff_lt, if_false,
      repr_add_small_large_is_model B m c dub _ ls le rs re sg (Int.le_of_lt h) h1 h3, value_toGA]
  · subst h
    cases sg <;>
      simp only [compare_self_int, if_true, modelK_repr_new, repr_round_is_model, new_not_inf, if_false, rsI, Int.one_mul,
        Int.neg_mul, Int.sub_eq_add_neg, Int.add_comm _ ls, value_toGA, toG]
  · simp only [Int.compare_eq_gt.mpr h, Int.ne_of_gt h, h, gt_iff_lt, if_false, if_true,
      repr_add_large_small_is_model B m c dub _ ls le rs re sg (Int.le_of_lt h) h1 h3, value_toGA]

/-- for EVERY kernel record `add_val_ref` and `add_ref_ref` are the same text, up to `a - b = -b + a` in the arm of equal
    exponents (and `repr_round` for `repr_round_ref`, which are one text) -/
theorem add_val_ref_any {E : Type} (k : FloatK E) (x y : GluePrelude.FBig) (sg : Sign) :
    add_val_ref k x y sg = add_ref_ref k x y sg := by
  unfold add_val_ref add_ref_ref
  cases sg <;>
    simp only [sign_mul_int, Sign.apply, add_int, sub_int, Int.one_mul, Int.neg_mul, Int.sub_eq_add_neg, Int.add_comm] <;> rfl

/-- **`add_val_ref` (`FBig ± &FBig`) as regenerated** -/
theorem add_val_ref_is_model (B : Nat) (m : Mode) (c : Coarse) (dub : Int → Nat) (ls le : Int) (pl : Nat) (rs re : Int)
    (pr : Nat) (sg : Sign) :
    add_val_ref (modelK B m c dub) ⟨⟨ls, le⟩, ⟨(pl : Int)⟩⟩ ⟨⟨rs, re⟩, ⟨(pr : Int)⟩⟩ sg =
      if (ls = 0 ∧ le ≠ 0) ∨ (rs = 0 ∧ re ≠ 0) then .error .OperateWithInf
      else .ok ⟨toG (Model.Forms.opAddSub B m c dub (Nat.max pl pr) ⟨ls, le⟩ ⟨rs, re⟩ (rsI sg)), ⟨((Nat.max pl pr : Nat) : Int)⟩⟩ := by
  rw [add_val_ref_any]
  exact add_ref_ref_is_model B m c dub ls le pl rs re pr sg

/-- C15 for these two forms: they return the same result (value, precision, panic) on all operands -/
theorem add_val_ref_eq_add_ref_ref (B : Nat) (m : Mode) (c : Coarse) (dub : Int → Nat) (ls le : Int) (pl : Nat) (rs re : Int)
    (pr : Nat) (sg : Sign) :
    add_val_ref (modelK B m c dub) ⟨⟨ls, le⟩, ⟨(pl : Int)⟩⟩ ⟨⟨rs, re⟩, ⟨(pr : Int)⟩⟩ sg =
      add_ref_ref (modelK B m c dub) ⟨⟨ls, le⟩, ⟨(pl : Int)⟩⟩ ⟨⟨rs, re⟩, ⟨(pr : Int)⟩⟩ sg :=
  add_val_ref_any _ _ _ _

end Dashu.Props.GenFloatForms
