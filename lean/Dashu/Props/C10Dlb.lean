import Dashu.Props.C10Libm
import Dashu.Proofs.Trans.Series
/-
  C10: the THIRD `f32` estimator of the float code, `Repr::digits_lb`, as a concrete function (`log2_bounds` = its
  model, every operation `rne32`, clamped outside the region of `digits_lb_sound_libm` like `dubLibm`) meets the oracle
  hypothesis `DlbSound` from (LIBM) alone; with `estimators_sound_libm` ALL THREE oracle hypotheses of the float theorems
  (`CoarseSound`, `DubSound`, `DlbSound`: C10, and the series of C11 / division of C03 which take them as hypotheses) hold for
  the concrete estimators, and the two digit estimates enclose the digit count of every significand.
  Link theorem (by import of C11's kernel `Proofs/Trans/Series.fSubUlp_le`): `FBig::sub_ulp` computed with THIS `digits_lb`
  is a power of the base not above `B^(exponent + digits − precision − 1)` — no oracle hypothesis left.
-/
namespace Dashu.Props.C10Dlb
open Dashu Dashu.Model.Float Dashu.Model.Trans Dashu.Props.C10F32 Dashu.Props.C10Libm

/-- `Repr::<B>::digits_lb` (0 for a zero significand; `log2_bounds(signif).0`, `LOG10_2`, `log2_bounds(B).1` = their models) for
    significands of at most `2³⁰` bits and `2²¹` digits; beyond, the exact digit count -/
noncomputable def dlbLibm (log2f : ℝ → ℝ) (B : Nat) : Int → Nat := fun v =>
  if v = 0 then 0
  else if Nat.log2 v.natAbs + 1 ≤ 2 ^ 30 ∧ digits B v.natAbs ≤ 2 ^ 21 then
    digitsLbReal B rne32 (log2LbModel log2f v.natAbs) log10_2_f32 (log2UbStd log2f B)
  else digitsI B v

/-- on the region the clamped estimate IS `digits_lb` of the source -/
theorem dlbLibm_eq (log2f : ℝ → ℝ) (B : Nat) (v : Int) (hv : v ≠ 0) (hbits : Nat.log2 v.natAbs + 1 ≤ 2 ^ 30)
    (hsmall : digits B v.natAbs ≤ 2 ^ 21) :
    dlbLibm log2f B v = digitsLbReal B rne32 (log2LbModel log2f v.natAbs) log10_2_f32 (log2UbStd log2f B) := by
  unfold dlbLibm; rw [if_neg hv, if_pos ⟨hbits, hsmall⟩]

/-- **the third oracle hypothesis, `DlbSound`, from (LIBM) alone**, every base of at most `2²⁴` bits -/
theorem dlb_sound_libm (log2f : ℝ → ℝ) (h : Log2fSound log2f) (B : Nat) (hB : 2 ≤ B) (hBw : Nat.log2 B + 1 ≤ 2 ^ 24) :
    DlbSound B (dlbLibm log2f B) := by
  intro v
  unfold dlbLibm
  split_ifs with hv hr
  · exact Nat.zero_le _
  · exact digits_lb_sound_libm log2f h B hB hBw v.natAbs (Int.natAbs_pos.mpr hv) hr.1 hr.2
  · exact le_refl _

/-- **all three oracle hypotheses of the float theorems from (LIBM) alone**, and the two digit estimates enclose the digit
    count of EVERY significand (`digits_lb ≤ digits ≤ digits_ub`, the doc contract of `Repr::digits_lb` / `digits_ub`) -/
theorem all_estimators_sound_libm (log2f : ℝ → ℝ) (h : Log2fSound log2f) (B : Nat) (hB : 2 ≤ B)
    (hBw : Nat.log2 B + 1 ≤ 2 ^ 24) :
    CoarseSound (coarseLibm log2f) ∧ DubSound B (dubLibm log2f B) ∧ DlbSound B (dlbLibm log2f B) ∧
    ∀ v : Int, dlbLibm log2f B v ≤ digitsI B v ∧ digitsI B v ≤ dubLibm log2f B v := by
  obtain ⟨hc, hd⟩ := estimators_sound_libm log2f h B hB hBw
  have hl := dlb_sound_libm log2f h B hB hBw
  exact ⟨hc, hd, hl, fun v => ⟨hl v, hd v⟩⟩

/-- the same for an evaluation context of the series code (`Model/Trans/Series.Env`: C11 / C03 theorems take exactly these
    three hypotheses about `E.c`, `E.est.dub`, `E.est.dlb`) whose estimators are the concrete ones -/
theorem env_oracles_sound_libm (log2f : ℝ → ℝ) (h : Log2fSound log2f) (E : Env) (hB : 2 ≤ E.B)
    (hBw : Nat.log2 E.B + 1 ≤ 2 ^ 24) (hc : E.c = coarseLibm log2f) (hdub : E.est.dub = dubLibm log2f E.B)
    (hdlb : E.est.dlb = dlbLibm log2f E.B) :
    CoarseSound E.c ∧ DubSound E.B E.est.dub ∧ DlbSound E.B E.est.dlb := by
  obtain ⟨h1, h2, h3, _⟩ := all_estimators_sound_libm log2f h E.B hB hBw
  rw [hc, hdub, hdlb]; exact ⟨h1, h2, h3⟩

/-- **link to C11 (`Proofs/Trans/Series.fSubUlp_le`)**: `FBig::sub_ulp` — the stop threshold of the exp / ln series — computed
    with the `digits_lb` of the source is `B^e` with `e ≤ exponent + digits − precision − 1` ("guaranteed to be smaller than
    ulp()"), from (LIBM) alone -/
theorem sub_ulp_below_ulp_libm (log2f : ℝ → ℝ) (h : Log2fSound log2f) (E : Env) (hB : 2 ≤ E.B)
    (hBw : Nat.log2 E.B + 1 ≤ 2 ^ 24) (hdlb : E.est.dlb = dlbLibm log2f E.B) (x : FBigM) :
    (fSubUlp E x).signif = 1 ∧
      (fSubUlp E x).exp ≤ x.repr.exp + (digitsI E.B x.repr.signif : Int) - (x.prec : Int) - 1 :=
  Dashu.Proofs.Trans.Series.fSubUlp_le E (by rw [hdlb]; exact dlb_sound_libm log2f h E.B hB hBw) x

/-- non-vacuity: (LIBM) satisfiable; base 10 meets the size hypotheses; the doc example of `digits_lb` (decimal 1001) lies in the
    region where `dlbLibm` is `digits_lb` of the source; a context with the three concrete estimators exists -/
example : Log2fSound (fun x => rne32 (Real.logb 2 x)) ∧
    (2 ≤ 10 ∧ Nat.log2 10 + 1 ≤ 2 ^ 24 ∧ (1001 : Int) ≠ 0 ∧ Nat.log2 (1001 : Int).natAbs + 1 ≤ 2 ^ 30 ∧
      digits 10 (1001 : Int).natAbs ≤ 2 ^ 21) ∧
    ∀ log2f : ℝ → ℝ, ∃ E : Env, 2 ≤ E.B ∧ Nat.log2 E.B + 1 ≤ 2 ^ 24 ∧ E.c = coarseLibm log2f ∧
      E.est.dub = dubLibm log2f E.B ∧ E.est.dlb = dlbLibm log2f E.B :=
  ⟨libm_hypothesis_satisfiable, by decide, fun log2f =>
    ⟨⟨10, .halfEven, coarseLibm log2f,
      { dub := dubLibm log2f 10, dlb := dlbLibm log2f 10, logQuot := fun _ => 0, powGuard := fun _ => 0,
        log2Floor := fun _ => 0, belowInvBase := fun _ => false, tooLarge := fun _ => false, intDigits := fun _ => 0,
        floorLog2 := fun _ => 0, powfArgDigits := fun _ _ => 0 }⟩,
      (by decide : 2 ≤ 10), (by decide : Nat.log2 10 + 1 ≤ 2 ^ 24), rfl, rfl, rfl⟩⟩

end Dashu.Props.C10Dlb
