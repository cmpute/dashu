import Dashu.Props.C05
import Dashu.Proofs.Int.FloatValue
/-
  C05, clause "`cmp` is the TOTAL ORDER of those values" for floats: the specification order `specFCmp` of
  `float_cmp` is the order of the rational values `signif · B^exp` (ℚ, `FRepr.val`) with the infinities at the two ends;
  hence the comparison the code runs (`repr_cmp_same_base` with both shortcuts) decides `<`, `=`, `>` of the values, and is
  transitive / antisymmetric / total on the invariant's domain.
-/
namespace Dashu.Props.C05
open Dashu.Model

/-- the digit hypothesis of `float_cmp` for one operand: unlimited precision (0) or `|signif| < B^(min p isize::MAX + 1)` -/
def FitsPrec (B : Nat) (r : FRepr) (p : Nat) : Prop := p ≠ 0 → r.signif.natAbs < B ^ (min p cmpIsizeMax + 1)

/-- **`specFCmp` is the order of the values**: on finite operands `Less / Equal / Greater` exactly when the rational
    values `signif · B^exp` are so ordered -/
theorem float_spec_is_value_order (B : Nat) (hB : 2 ≤ B) (a b : FRepr) (ha : a.isInfinite = false) (hb : b.isInfinite = false) :
    (specFCmp B a b = .lt ↔ a.val B < b.val B) ∧ (specFCmp B a b = .eq ↔ a.val B = b.val B) ∧
    (specFCmp B a b = .gt ↔ b.val B < a.val B) :=
  specFCmp_value B hB a b ha hb

/-- … and the infinities are at the two ends: `+inf` (significand 0, exponent > 0) is above every finite value and above
    `-inf` (exponent < 0), `-inf` below every finite value; two infinities of the same exponent compare `Equal` -/
theorem float_spec_infinities_at_ends (B : Nat) (a b : FRepr) (ha : a.isInfinite = true) :
    (b.isInfinite = false → 0 < a.exp → specFCmp B a b = .gt ∧ specFCmp B b a = .lt) ∧
    (b.isInfinite = false → a.exp < 0 → specFCmp B a b = .lt ∧ specFCmp B b a = .gt) ∧
    (b.isInfinite = true → b.exp < 0 → 0 < a.exp → specFCmp B a b = .gt ∧ specFCmp B b a = .lt) ∧
    (b.isInfinite = true → a.exp = b.exp → specFCmp B a b = .eq) := by
  have hne : a.exp ≠ 0 := by
    simp only [FRepr.isInfinite, Bool.and_eq_true, beq_iff_eq, bne_iff_ne, ne_eq] at ha; exact ha.2
  refine ⟨fun hb h => ?_, fun hb h => ?_, fun hb h1 h2 => ?_, fun hb h => ?_⟩
  · have h1 : a.exp ≥ 0 := by omega
    simp [specFCmp, ha, hb, h1]
  · have h1 : ¬ a.exp ≥ 0 := by omega
    simp [specFCmp, ha, hb, h1]
  · simp only [specFCmp, ha, hb, Bool.and_self, if_true]
    exact ⟨Int.compare_eq_gt.mpr (by omega), Int.compare_eq_lt.mpr (by omega)⟩
  · simp only [specFCmp, ha, hb, Bool.and_self, if_true]
    exact Int.compare_eq_eq.mpr h

/-- **one total order for all floats**: with `-inf = ⊥`, `+inf = ⊤` and the finite values in ℚ between them (`FRepr.xval`),
    `specFCmp` is `Less / Equal / Greater` exactly when the extended values are so ordered — for the infinities as the
    library builds them (`0·B^1`, `0·B^-1`: `InfCanon`) -/
theorem float_spec_is_extended_value_order (B : Nat) (hB : 2 ≤ B) (a b : FRepr) (ca : a.InfCanon) (cb : b.InfCanon) :
    (specFCmp B a b = .lt ↔ a.xval B < b.xval B) ∧ (specFCmp B a b = .eq ↔ a.xval B = b.xval B) ∧
    (specFCmp B a b = .gt ↔ b.xval B < a.xval B) :=
  specFCmp_xval B hB a b ca cb

/-- comparisons that answer `Greater` exactly when the keys of a linear order are so ordered are transitive -/
theorem not_gt_trans {α : Type} [LinearOrder α] {x y z : α} {cxy cyz cxz : Ordering}
    (hxy : cxy = .gt ↔ y < x) (hyz : cyz = .gt ↔ z < y) (hxz : cxz = .gt ↔ z < x)
    (h1 : cxy ≠ .gt) (h2 : cyz ≠ .gt) : cxz ≠ .gt := by
  rw [Ne, hxz, not_lt]
  exact le_trans (not_lt.mp (mt hxy.mpr h1)) (not_lt.mp (mt hyz.mpr h2))

/-- … and answer the swapped question with the swapped answer -/
theorem swap_of_decides {α : Type} [LinearOrder α] {x y : α} {c c' : Ordering}
    (h : (c = .lt ↔ x < y) ∧ (c = .eq ↔ x = y) ∧ (c = .gt ↔ y < x))
    (h' : (c' = .lt ↔ y < x) ∧ (c' = .eq ↔ y = x) ∧ (c' = .gt ↔ x < y)) : c' = c.swap := by
  obtain ⟨l1, e1, g1⟩ := h
  obtain ⟨l2, e2, g2⟩ := h'
  rcases lt_trichotomy x y with h | h | h
  · rw [l1.mpr h, g2.mpr h]; rfl
  · rw [e1.mpr h, e2.mpr h.symm]; rfl
  · rw [g1.mpr h, l2.mpr h]; rfl

/-- hence the specification order is transitive on ALL floats (finite or infinite) -/
theorem float_spec_trans (B : Nat) (hB : 2 ≤ B) (a b c : FRepr) (ca : a.InfCanon) (cb : b.InfCanon) (cc : c.InfCanon)
    (h1 : specFCmp B a b ≠ .gt) (h2 : specFCmp B b c ≠ .gt) : specFCmp B a c ≠ .gt := by
  exact not_gt_trans (specFCmp_xval B hB a b ca cb).2.2 (specFCmp_xval B hB b c cb cc).2.2
    (specFCmp_xval B hB a c ca cc).2.2 h1 h2

-- non-vacuity: -inf < -5·10^40 < 0 < +inf in this order, and +inf = +inf
example : (⟨0, -1⟩ : FRepr).InfCanon ∧ (⟨0, 1⟩ : FRepr).InfCanon ∧ (⟨-5, 40⟩ : FRepr).InfCanon ∧
    specFCmp 10 ⟨0, -1⟩ ⟨-5, 40⟩ = .lt ∧ specFCmp 10 ⟨-5, 40⟩ ⟨0, 0⟩ = .lt ∧ specFCmp 10 ⟨0, 0⟩ ⟨0, 1⟩ = .lt ∧
    specFCmp 10 ⟨0, 1⟩ ⟨0, 1⟩ = .eq := by
  refine ⟨fun _ => Or.inr rfl, fun _ => Or.inl rfl, fun h => by simp [FRepr.isInfinite] at h, by decide, by decide, by decide, by decide⟩

/-- **the comparison the code runs decides the order of the values** (finite operands of any precisions `pa`, `pb`, any
    sound digit estimator; `FitsPrec` is what every modelled producer guarantees — `float_history`) -/
theorem float_cmp_is_value_order (B : Nat) (hB : 2 ≤ B) (digitsUb : Int → Nat) (hub : ∀ s : Int, s.natAbs < B ^ digitsUb s)
    (a b : FRepr) (pa pb : Nat) (ha : a.isInfinite = false) (hb : b.isInfinite = false)
    (fa : FitsPrec B a pa) (fb : FitsPrec B b pb) :
    (reprCmpSameBase B digitsUb a b (some (pa, pb)) = .lt ↔ a.val B < b.val B) ∧
    (reprCmpSameBase B digitsUb a b (some (pa, pb)) = .eq ↔ a.val B = b.val B) ∧
    (reprCmpSameBase B digitsUb a b (some (pa, pb)) = .gt ↔ b.val B < a.val B) := by
  rw [float_cmp B hB digitsUb hub a b (some (pa, pb)) (by intro lp rp h; cases h; exact ⟨fa, fb⟩)]
  exact specFCmp_value B hB a b ha hb

/-- **`cmp` is the total order of the values, infinities included**: the comparison the code runs decides the order of the
    extended values (`-inf = ⊥ <` finite values in ℚ `< ⊤ = +inf`) for ALL floats — finite of any precisions under the digit
    invariant, or infinite -/
theorem float_cmp_is_extended_value_order (B : Nat) (hB : 2 ≤ B) (digitsUb : Int → Nat) (hub : ∀ s : Int, s.natAbs < B ^ digitsUb s)
    (a b : FRepr) (pa pb : Nat) (ca : a.InfCanon) (cb : b.InfCanon) (fa : FitsPrec B a pa) (fb : FitsPrec B b pb) :
    (reprCmpSameBase B digitsUb a b (some (pa, pb)) = .lt ↔ a.xval B < b.xval B) ∧
    (reprCmpSameBase B digitsUb a b (some (pa, pb)) = .eq ↔ a.xval B = b.xval B) ∧
    (reprCmpSameBase B digitsUb a b (some (pa, pb)) = .gt ↔ b.xval B < a.xval B) := by
  rw [float_cmp B hB digitsUb hub a b (some (pa, pb)) (by intro lp rp h; cases h; exact ⟨fa, fb⟩)]
  exact specFCmp_xval B hB a b ca cb

/-- **transitivity** of the code's comparison on the invariant's domain (three finite floats of any three precisions) -/
theorem float_cmp_trans (B : Nat) (hB : 2 ≤ B) (digitsUb : Int → Nat) (hub : ∀ s : Int, s.natAbs < B ^ digitsUb s)
    (a b c : FRepr) (pa pb pc : Nat) (ha : a.isInfinite = false) (hb : b.isInfinite = false) (hc : c.isInfinite = false)
    (fa : FitsPrec B a pa) (fb : FitsPrec B b pb) (fc : FitsPrec B c pc)
    (h1 : reprCmpSameBase B digitsUb a b (some (pa, pb)) ≠ .gt) (h2 : reprCmpSameBase B digitsUb b c (some (pb, pc)) ≠ .gt) :
    reprCmpSameBase B digitsUb a c (some (pa, pc)) ≠ .gt := by
  exact not_gt_trans (float_cmp_is_value_order B hB digitsUb hub a b pa pb ha hb fa fb).2.2
    (float_cmp_is_value_order B hB digitsUb hub b c pb pc hb hc fb fc).2.2
    (float_cmp_is_value_order B hB digitsUb hub a c pa pc ha hc fa fc).2.2 h1 h2

/-- **antisymmetry / swap**: comparing in the other order gives the swapped answer -/
theorem float_cmp_swap (B : Nat) (hB : 2 ≤ B) (digitsUb : Int → Nat) (hub : ∀ s : Int, s.natAbs < B ^ digitsUb s)
    (a b : FRepr) (pa pb : Nat) (ha : a.isInfinite = false) (hb : b.isInfinite = false)
    (fa : FitsPrec B a pa) (fb : FitsPrec B b pb) :
    reprCmpSameBase B digitsUb b a (some (pb, pa)) = (reprCmpSameBase B digitsUb a b (some (pa, pb))).swap :=
  swap_of_decides (float_cmp_is_value_order B hB digitsUb hub a b pa pb ha hb fa fb)
    (float_cmp_is_value_order B hB digitsUb hub b a pb pa hb ha fb fa)

/-- two good registers with at most `2^63` digits each (`FGood`: normalised, finite, `p + 1` digits — what every modelled
    producer returns): the code's comparison is the specification order, decides `<`, `=`, `>` of the values, `==` ⇔ `Equal` -/
theorem good_pair_order (B : Nat) (hB : 2 ≤ B) (digitsUb : Int → Nat) (hub : ∀ s : Int, s.natAbs < B ^ digitsUb s)
    (a b : FReg) (ga : FGood B a) (gb : FGood B b) (hma : FitsP1 B cmpIsizeMax a.r) (hmb : FitsP1 B cmpIsizeMax b.r) :
    let c := reprCmpSameBase B digitsUb (ofFloatRepr a.r) (ofFloatRepr b.r) (some (a.p, b.p))
    c = specFCmp B (ofFloatRepr a.r) (ofFloatRepr b.r) ∧
    (c = .lt ↔ (ofFloatRepr a.r).val B < (ofFloatRepr b.r).val B) ∧
    (c = .eq ↔ (ofFloatRepr a.r).val B = (ofFloatRepr b.r).val B) ∧
    (c = .gt ↔ (ofFloatRepr b.r).val B < (ofFloatRepr a.r).val B) ∧
    (fbigEq (ofFloatRepr a.r) (ofFloatRepr b.r) = true ↔ c = .eq) := by
  intro c
  have hc : c = specFCmp B (ofFloatRepr a.r) (ofFloatRepr b.r) :=
    float_cmp_of_results B hB digitsUb hub a.r b.r a.p b.p ga.2.2 gb.2.2 hma hmb
  obtain ⟨v1, v2, v3⟩ := specFCmp_value B hB _ _ (ffin_not_infinite ga.2.1) (ffin_not_infinite gb.2.1)
  rw [hc]
  exact ⟨rfl, v1, v2, v3, float_eq_iff_cmp_equal B hB _ _ ga.1 gb.1⟩

/-- **C05 for float histories, in terms of the values**: for any two registers ever produced by a finite program of float
    producers (`float_history`: constructors, `TryFrom<f32/f64>`, `with_precision`, the `Context` arithmetic, …) with precisions
    `≤ isize::MAX`, the comparison the code runs says `Less / Equal / Greater` exactly when the rational values
    `signif · B^exp` are so ordered, and `==` holds exactly when the values are equal. -/
theorem float_history_value_order (k : FCfg) (hB : 2 ≤ k.B) (hdub : Float.DubSound k.B k.dub) (hdlb : Float.DlbSound k.B k.dlb)
    (ops : List FOp) (hok : ∀ op ∈ ops, op.Ok) (env : List FReg) (henv : ∀ x ∈ env, FGood k.B x)
    (digitsUb : Int → Nat) (hub : ∀ s : Int, s.natAbs < k.B ^ digitsUb s)
    (a b : FReg) (ha : a ∈ frun k ops env) (hb : b ∈ frun k ops env)
    (hpa : a.p ≤ cmpIsizeMax) (hpb : b.p ≤ cmpIsizeMax) :
    let c := reprCmpSameBase k.B digitsUb (ofFloatRepr a.r) (ofFloatRepr b.r) (some (a.p, b.p))
    (c = .lt ↔ (ofFloatRepr a.r).val k.B < (ofFloatRepr b.r).val k.B) ∧
    (c = .eq ↔ (ofFloatRepr a.r).val k.B = (ofFloatRepr b.r).val k.B) ∧
    (c = .gt ↔ (ofFloatRepr b.r).val k.B < (ofFloatRepr a.r).val k.B) ∧
    (fbigEq (ofFloatRepr a.r) (ofFloatRepr b.r) = true ↔ (ofFloatRepr a.r).val k.B = (ofFloatRepr b.r).val k.B) := by
  have g := float_history k hB hdub hdlb ops hok env henv
  obtain ⟨_, lt, eq, gt, q⟩ := good_pair_order k.B hB digitsUb hub a b (g a ha) (g b hb)
    ((g a ha).2.2.mem_of_le hpa) ((g b hb).2.2.mem_of_le hpb)
  exact ⟨lt, eq, gt, q.trans eq⟩

-- non-vacuity: 1229·10^0 (precision 3, the spare digit) < 1·10^4 (precision 1) < 123·10^2 (precision 3) as values and for the code
example : FitsPrec 10 ⟨1229, 0⟩ 3 ∧ FitsPrec 10 ⟨1, 4⟩ 1 ∧ FitsPrec 10 ⟨123, 2⟩ 3 ∧
    reprCmpSameBase 10 (fun _ => 4) ⟨1229, 0⟩ ⟨1, 4⟩ (some (3, 1)) = .lt ∧
    reprCmpSameBase 10 (fun _ => 4) ⟨1, 4⟩ ⟨123, 2⟩ (some (1, 3)) = .lt ∧
    reprCmpSameBase 10 (fun _ => 4) ⟨1229, 0⟩ ⟨123, 2⟩ (some (3, 3)) = .lt := by
  refine ⟨fun _ => by decide, fun _ => by decide, fun _ => by decide, by decide, by decide, by decide⟩


-- ------------------------------------------------------------------ histories at ANY precision, order laws
/- `float_history_value_order` carries `a.p ≤ isize::MAX`, `b.p ≤ isize::MAX`.  What the repaired
   comparison (/repo ee43486: precisions clamped to isize::MAX) really needs is at most 2^63 digits (`FitsP1 B cmpIsizeMax`), at ANY
   precision (also ≥ 2^63, e.g. `with_precision(usize::MAX)`); the order laws are stated for the registers of a history. -/

/-- **C05 for float histories, in terms of the values, ANY precisions**: for any two registers ever produced by a finite
    program of float producers, of whatever precisions (also `≥ 2^63`), whose significands have at most `2^63` digits (every
    significand a 64-bit address space can hold), the comparison the code runs says `Less / Equal / Greater` exactly when the
    rational values `signif · B^exp` are so ordered, and `==` holds exactly when the values are equal.
    (`float_history_value_order` is the special case `a.p, b.p ≤ isize::MAX`, where the digit bound is free.) -/
theorem float_history_value_order_any_precision (k : FCfg) (hB : 2 ≤ k.B) (hdub : Float.DubSound k.B k.dub)
    (hdlb : Float.DlbSound k.B k.dlb)
    (ops : List FOp) (hok : ∀ op ∈ ops, op.Ok) (env : List FReg) (henv : ∀ x ∈ env, FGood k.B x)
    (digitsUb : Int → Nat) (hub : ∀ s : Int, s.natAbs < k.B ^ digitsUb s)
    (a b : FReg) (ha : a ∈ frun k ops env) (hb : b ∈ frun k ops env)
    (hma : FitsP1 k.B cmpIsizeMax a.r) (hmb : FitsP1 k.B cmpIsizeMax b.r) :
    let c := reprCmpSameBase k.B digitsUb (ofFloatRepr a.r) (ofFloatRepr b.r) (some (a.p, b.p))
    (c = .lt ↔ (ofFloatRepr a.r).val k.B < (ofFloatRepr b.r).val k.B) ∧
    (c = .eq ↔ (ofFloatRepr a.r).val k.B = (ofFloatRepr b.r).val k.B) ∧
    (c = .gt ↔ (ofFloatRepr b.r).val k.B < (ofFloatRepr a.r).val k.B) ∧
    (fbigEq (ofFloatRepr a.r) (ofFloatRepr b.r) = true ↔ (ofFloatRepr a.r).val k.B = (ofFloatRepr b.r).val k.B) := by
  have g := float_history k hB hdub hdlb ops hok env henv
  obtain ⟨_, lt, eq, gt, q⟩ := good_pair_order k.B hB digitsUb hub a b (g a ha) (g b hb) hma hmb
  exact ⟨lt, eq, gt, q.trans eq⟩

/-- **`cmp` is a total order on the registers of a float history**: transitive (`a ≤ b`, `b ≤ c` ⇒ `a ≤ c`, the three
    comparisons each run with the precisions of their own operands) and swap-symmetric (`b.cmp(a) = a.cmp(b).reverse()`),
    for any three registers of any precisions with at most `2^63` digits. -/
theorem float_history_cmp_total_order (k : FCfg) (hB : 2 ≤ k.B) (hdub : Float.DubSound k.B k.dub)
    (hdlb : Float.DlbSound k.B k.dlb)
    (ops : List FOp) (hok : ∀ op ∈ ops, op.Ok) (env : List FReg) (henv : ∀ x ∈ env, FGood k.B x)
    (digitsUb : Int → Nat) (hub : ∀ s : Int, s.natAbs < k.B ^ digitsUb s)
    (a b c : FReg) (ha : a ∈ frun k ops env) (hb : b ∈ frun k ops env) (hc : c ∈ frun k ops env)
    (hma : FitsP1 k.B cmpIsizeMax a.r) (hmb : FitsP1 k.B cmpIsizeMax b.r) (hmc : FitsP1 k.B cmpIsizeMax c.r) :
    (reprCmpSameBase k.B digitsUb (ofFloatRepr a.r) (ofFloatRepr b.r) (some (a.p, b.p)) ≠ .gt →
      reprCmpSameBase k.B digitsUb (ofFloatRepr b.r) (ofFloatRepr c.r) (some (b.p, c.p)) ≠ .gt →
      reprCmpSameBase k.B digitsUb (ofFloatRepr a.r) (ofFloatRepr c.r) (some (a.p, c.p)) ≠ .gt) ∧
    reprCmpSameBase k.B digitsUb (ofFloatRepr b.r) (ofFloatRepr a.r) (some (b.p, a.p))
      = (reprCmpSameBase k.B digitsUb (ofFloatRepr a.r) (ofFloatRepr b.r) (some (a.p, b.p))).swap := by
  have g := float_history k hB hdub hdlb ops hok env henv
  have fin : ∀ x ∈ frun k ops env, (ofFloatRepr x.r).isInfinite = false := fun x hx => ffin_not_infinite (g x hx).2.1
  have fit : ∀ x ∈ frun k ops env, FitsP1 k.B cmpIsizeMax x.r → FitsPrec k.B (ofFloatRepr x.r) x.p :=
    fun x hx hm _ => fits_min k.B _ _ ((g x hx).2.2.bound hB) (hm.bound hB)
  exact ⟨float_cmp_trans k.B hB digitsUb hub _ _ _ a.p b.p c.p (fin a ha) (fin b hb) (fin c hc)
      (fit a ha hma) (fit b hb hmb) (fit c hc hmc),
    float_cmp_swap k.B hB digitsUb hub _ _ a.p b.p (fin a ha) (fin b hb) (fit a ha hma) (fit b hb hmb)⟩

-- non-vacuity: a history with a register of precision usize::MAX = 2^64 − 1 (ABOVE the clamp: `float_history_value_order`
-- does not apply): 123·10^1 at precision 3, the same value `with_precision(usize::MAX)`, 1·10^4 at precision 1 — all three
-- have ≤ 2^63 digits, and the code's comparison orders them reg0 = reg1 < reg2
example :
    let k : FCfg := ⟨10, .halfEven, Float.coarseNone, fun s => Float.digitsI 10 s, fun s => Float.digitsI 10 s, Float.natSqrtRem⟩
    let prog : List FOp := [.fromParts 123 1, .withPrecision 0 (2 ^ 64 - 1), .fromParts 1 4]
    (∀ op ∈ prog, op.Ok) ∧
    (frun k prog []).map (fun x => (x.r.signif, x.r.exp, x.p)) = [(123, 1, 3), (123, 1, 2 ^ 64 - 1), (1, 4, 1)] ∧
    (∀ x ∈ frun k prog [], cmpIsizeMax < 2 ^ 64 - 1 ∧ x.r.digits 10 ≤ cmpIsizeMax + 1) ∧
    reprCmpSameBase 10 (fun s => Float.digitsI 10 s) ⟨123, 1⟩ ⟨123, 1⟩ (some (3, 2 ^ 64 - 1)) = .eq ∧
    reprCmpSameBase 10 (fun s => Float.digitsI 10 s) ⟨123, 1⟩ ⟨1, 4⟩ (some (2 ^ 64 - 1, 1)) = .lt := by
  refine ⟨?_, by decide +kernel, by decide +kernel, by decide +kernel, by decide +kernel⟩
  intro op hop
  simp only [List.mem_cons, List.mem_nil_iff, or_false] at hop
  rcases hop with rfl | rfl | rfl <;> simp [FOp.Ok]

end Dashu.Props.C05
