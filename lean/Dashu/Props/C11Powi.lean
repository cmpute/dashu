import Dashu.Proofs.Trans.Powi
import Dashu.Proofs.Trans.PowiNeg
import Dashu.Proofs.Trans.PowiUnlimited
/-
  C11, DESIGN §8 item 2 — `Context::powi` with a NON-NEGATIVE exponent `n ≥ 2` at a limited precision
  `p ≥ 1`: error bound from the C03 contracts of `sqr` / `mul` / `repr_round` (`Dashu/Proofs/Float`)
  through the mirrored binary-powering loop `Model/Trans/Powi.lean`
  (working precision `p + exp.bit_len + p.bit_len`, the source's heuristic guard digits).  After it: the same for a
  negative exponent (`powi_neg_*`, through the reciprocal), and exactness at unlimited precision (`powi_unlimited_exact`).

  PROVED, for every base `B ≥ 2`, every mode, every operand with at most `2·(working precision)` digits
  (every `FBig` qualifies) and every exponent `n ≥ 2`:
   * `powi_nonneg_error`: the working value `y` of the loop satisfies
        |y − baseⁿ| ≤ B^(2 − p − bit_len p) · |baseⁿ|
     (at most `2^(bit_len n)` roundings of relative size `B^(1−q)`, doubled by every later squaring), and the
     returned value is the correct mode-`m` rounding of `y` to `p` digits (C03 contract);
   * `powi_nonneg_half_lt_ulp`: in the two nearest modes, when `3·B^(2 − bit_len p) ≤ 1` (`p ≥ 8` in base 2,
     `p ≥ 4` in every other base), the result is LESS THAN ONE `ulp()` of itself from `baseⁿ`: here the guard
     digits of the source suffice.
  WHERE THEY DO NOT SUFFICE (exhibited, not repairable by more guard digits): in the four directed modes
  the working value can fall on the other side of a `p`-digit number than `baseⁿ`, and the rounding then moves
  a whole ulp away: `powi_directed_counterexample` is a result printed by the pinned commit
  (base 3, 5 digits, mode Away, `(163·3⁻⁷)⁵`), reproduced by the model (`powi_model_reproduces`) and exactly
  `1.0002…` ulp from the true value.  The same holds for every amount of guard digits: a working error
  of any size can straddle a representable number.
-/
namespace Dashu.Props.C11Powi
open Dashu.Model.Float Dashu.Model.Trans

/-- error of the working value and contract of the final rounding, for the exponent `n` itself (`n ≥ 1`; `powi` enters the
    loop for `n ≥ 2`) -/
theorem powi_nonneg_error (B : Nat) (hB : 2 ≤ B) (m : Mode) (c : Coarse) (hc : CoarseSound c) (p : Nat) (hp : 1 ≤ p)
    (base : FRepr) (hn : Normalized B base) (n : Nat) (hn1 : 1 ≤ n)
    (hbase : base.digits B ≤ 2 * powiWorkPrec p (lowBits n)) :
    |(powiNonneg false B m c p base (lowBits n)).1.toRat B - (base.toRat B) ^ n|
        ≤ bpowQ B (2 - (p : Int) - (bitLen p : Int)) * |(base.toRat B) ^ n| ∧
    Contract B m p ((powiNonneg false B m c p base (lowBits n)).1.toRat B)
      ((powiNonneg false B m c p base (lowBits n)).2.1.toRat B) (powiNonneg false B m c p base (lowBits n)).2.2 := by
  have h := Dashu.Model.Trans.powi_nonneg_error B hB m c hc p hp base hn (lowBits n) hbase
  rw [bitsVal_lowBits n hn1] at h
  exact h

/-- nearest modes: less than one ulp (dashu's `ulp()` of the result: `B^(exp + digits − p)`) -/
theorem powi_nonneg_half_lt_ulp (B : Nat) (hB : 2 ≤ B) (m : Mode) (hm : m.isHalf = true) (c : Coarse)
    (hc : CoarseSound c) (p : Nat) (hp : 1 ≤ p) (hθ : 3 * bpowQ B (2 - (bitLen p : Int)) ≤ 1)
    (base : FRepr) (hn : Normalized B base) (n : Nat) (hn1 : 1 ≤ n)
    (hbase : base.digits B ≤ 2 * powiWorkPrec p (lowBits n)) :
    let r := (powiNonneg false B m c p base (lowBits n)).2.1
    |r.toRat B - (base.toRat B) ^ n| < bpowQ B (r.exp + (r.digits B : Int) - (p : Int)) := by
  have h := Dashu.Model.Trans.powi_nonneg_half_lt_ulp B hB m hm c hc p hp hθ base hn (lowBits n) hbase
  rw [bitsVal_lowBits n hn1] at h
  exact h

/-- the working precision is the one of the source: `p + exp.bit_len() + p.bit_len()` -/
theorem workPrec_eq (p n : Nat) (hn : 2 ≤ n) : powiWorkPrec p (lowBits n) = p + bitLen n + bitLen p := by
  unfold powiWorkPrec
  have h := lowBits_length n
  have h2 : 1 ≤ bitLen n := bitLen_pos n (by omega)
  omega

/-! ### negative exponent `-n` (`n ≥ 1`): reversed context at `p + 2·bit_len p` digits, inner non-negative power,
    reciprocal, final rounding (`Model/Trans/PowiNeg.lean`) -/

/-- the value `inv` handed to the final rounding is within relative distance `8·B^(1 − p − 2·bit_len p)` of
    `base^(-n)`; the result is the correct mode-`m` rounding of `inv` (never a panic for a non-zero base) -/
theorem powi_neg_error (B : Nat) (hB : 2 ≤ B) (m : Mode) (c : Coarse) (hc : CoarseSound c) (p : Nat) (hp : 2 ≤ p)
    (base : FRepr) (hn : Normalized B base) (hb0 : base.signif ≠ 0) (n : Nat) (hn1 : 1 ≤ n)
    (hbase : base.digits B ≤ 2 * powiWorkPrec (powiNegPrec p) (lowBits n)) :
    ∃ pow inv out, powiNeg false B m c p base n = .ok (pow, inv, out) ∧
      |inv.toRat B - 1 / (base.toRat B) ^ n|
        ≤ 8 * bpowQ B (1 - (powiNegPrec p : Int)) * |1 / (base.toRat B) ^ n| ∧
      Contract B m p (inv.toRat B) (out.1.toRat B) out.2 :=
  Dashu.Model.Trans.powi_neg_error B hB m c hc p hp base hn hb0 n hn1 hbase

/-- nearest modes: less than one `ulp()` of the result from `base^(-n)` when `24·B^(1 − 2·bit_len p) ≤ 1`
    (`p ≥ 4` in base 2, `p ≥ 2` otherwise) -/
theorem powi_neg_half_lt_ulp (B : Nat) (hB : 2 ≤ B) (m : Mode) (hm : m.isHalf = true) (c : Coarse)
    (hc : CoarseSound c) (p : Nat) (hp : 2 ≤ p) (hθ : 24 * bpowQ B (1 - 2 * (bitLen p : Int)) ≤ 1)
    (base : FRepr) (hn : Normalized B base) (hb0 : base.signif ≠ 0) (n : Nat) (hn1 : 1 ≤ n)
    (hbase : base.digits B ≤ 2 * powiWorkPrec (powiNegPrec p) (lowBits n)) :
    ∃ pow inv out, powiNeg false B m c p base n = .ok (pow, inv, out) ∧
      |out.1.toRat B - 1 / (base.toRat B) ^ n| < bpowQ B (out.1.exp + (out.1.digits B : Int) - (p : Int)) := by
  have hB0 : 0 < B := by omega
  obtain ⟨pow, inv, out, h0, h1, h2⟩ := powi_neg_error B hB m c hc p hp base hn hb0 n hn1 hbase
  refine ⟨pow, inv, out, h0, ?_⟩
  have hκθ : 8 * bpowQ B (1 - (powiNegPrec p : Int)) * (B : ℚ) ^ p = 8 * bpowQ B (1 - 2 * (bitLen p : Int)) := by
    have : (B : ℚ) ^ p = bpowQ B (p : Int) := by rw [bpowQ_nat]; push_cast; rfl
    rw [this, mul_assoc, ← bpowQ_add B hB0]
    congr 2
    unfold powiNegPrec; push_cast; ring
  refine half_lt_ulp B hB m hm p (by omega) _ _ _ _ _ h2
    (mul_nonneg (by norm_num) (bpowQ_pos B hB0 _).le) h1 (by rw [hκθ]; linarith) _ ?_
  have := toRat_abs_lt B hB out.1
  have e : out.1.exp + (out.1.digits B : Int) - (p : Int) + (p : Int) = out.1.exp + (out.1.digits B : Int) := by ring
  rw [e]; exact this

example : 24 * bpowQ 2 (1 - 2 * (bitLen 4 : Int)) ≤ 1 := by decide +kernel
example : 24 * bpowQ 10 (1 - 2 * (bitLen 2 : Int)) ≤ 1 := by decide +kernel
-- (3/8)^(-3) = 512/27 = 18.96…; base 2, 5 bits, HalfEven: 19 = 10011b
example : (powiNeg false 2 .halfEven coarseNone 5 ⟨3, -3⟩ 3).map (fun r => r.2.2.1) = .ok ⟨19, 0⟩ := by
  decide +kernel

/-! non-vacuity: the side condition of the nearest-mode theorem holds from small precisions on -/
example : 3 * bpowQ 2 (2 - (bitLen 8 : Int)) ≤ 1 := by decide +kernel
example : 3 * bpowQ 10 (2 - (bitLen 4 : Int)) ≤ 1 := by decide +kernel
example : 3 * bpowQ 3 (2 - (bitLen 4 : Int)) ≤ 1 := by decide +kernel
example : lowBits 5 = [false, true] ∧ bitsVal (lowBits 5) 1 = 5 := by decide +kernel

theorem coarseNone_sound : CoarseSound coarseNone := Dashu.Model.Float.coarseNone_sound

/-- the hypotheses of the two nearest-mode theorems are met by concrete operands:
    `1.2345₁₀` to the 7th power at 8 digits, and to the power −7 -/
example :
    let r := (powiNonneg false 10 .halfEven coarseNone 8 ⟨12345, -4⟩ (lowBits 7)).2.1
    |r.toRat 10 - ((⟨12345, -4⟩ : FRepr).toRat 10) ^ 7| < bpowQ 10 (r.exp + (r.digits 10 : Int) - (8 : Nat)) :=
  powi_nonneg_half_lt_ulp 10 (by decide) .halfEven rfl coarseNone coarseNone_sound 8 (by decide)
    (by decide +kernel) ⟨12345, -4⟩ (by unfold Normalized; decide) 7 (by decide) (by decide +kernel)

example :
    ∃ pow inv out, powiNeg false 10 .halfAway coarseNone 8 ⟨12345, -4⟩ 7 = .ok (pow, inv, out) ∧
      |out.1.toRat 10 - 1 / ((⟨12345, -4⟩ : FRepr).toRat 10) ^ 7|
        < bpowQ 10 (out.1.exp + (out.1.digits 10 : Int) - (8 : Nat)) :=
  powi_neg_half_lt_ulp 10 (by decide) .halfAway rfl coarseNone coarseNone_sound 8 (by decide)
    (by decide +kernel) ⟨12345, -4⟩ (by unfold Normalized; decide) (by decide) 7 (by decide) (by decide +kernel)

/-- the model reproduces what the pinned commit printed for
    `FBig::<Away, 3>(163·3⁻⁷, precision 5).powi(5)`: `100·3⁻¹⁶`, `Inexact(AddOne)` -/
theorem powi_model_reproduces :
    (powiNonneg false 3 .away coarseNone 5 ⟨163, -7⟩ (lowBits 5)).2 = (⟨100, -16⟩, some .AddOne) := by
  decide +kernel

/-- … and that result (5 digits: `100 = 10201₃`, so `ulp = 3^(−16 + 5 − 5)`) is NOT within one ulp (`3⁻¹⁶`) of `(163·3⁻⁷)⁵`: directed modes, 1.0002 ulp -/
theorem powi_directed_counterexample :
    ¬ |(⟨100, -16⟩ : FRepr).toRat 3 - ((⟨163, -7⟩ : FRepr).toRat 3) ^ 5| < bpowQ 3 (-16 + 5 - 5) := by
  decide +kernel

/-! ### unlimited precision (`self.precision = 0`), non-negative exponent: the `else` arm `Context::<R>::new(0)` of
    `let work_context = if self.is_limited() {…}` runs the same loop at working precision 0 -/

/-- one step of the loop at precision 0 (`Context::new(0).sqr` / `.mul`) is the exact square / product, flagged
    Exact — with the pre-shrink of `mul.rs` (`fixed = false`, the code as it is: guarded by `p ≠ 0`) or without -/
theorem unlimited_step_exact (fixed : Bool) (B : Nat) (hB : 0 < B) (m : Mode) (c : Coarse) (a b : FRepr) :
    ((ctxSqr fixed B m c 0 a).1.toRat B = a.toRat B * a.toRat B ∧ (ctxSqr fixed B m c 0 a).2 = none) ∧
    ((ctxMul fixed B m c 0 a b).1.toRat B = a.toRat B * b.toRat B ∧ (ctxMul fixed B m c 0 a b).2 = none) :=
  ⟨ctxSqr_unlimited fixed B hB m c a, ctxMul_unlimited fixed B hB m c a b⟩

/-- `powi` with a non-negative exponent `n ≥ 1` at UNLIMITED precision answers exactly — the
    mirrored powering loop at working precision 0 returns `base^n` for every base `B ≥ 1`, mode, operand and exponent,
    and the closing `with_precision(0)` returns that value unchanged, flagged Exact.  No hypothesis on the operand. -/
theorem powi_unlimited_exact (fixed : Bool) (B : Nat) (hB : 0 < B) (m : Mode) (c : Coarse) (base : FRepr)
    (n : Nat) (hn : 1 ≤ n) :
    (powLoop fixed B m c 0 base (lowBits n) base).toRat B = (base.toRat B) ^ n ∧
    reprRound B m c 0 (powLoop fixed B m c 0 base (lowBits n) base)
      = (powLoop fixed B m c 0 base (lowBits n) base, none) := by
  refine ⟨?_, by simp [reprRound]⟩
  have h := powLoop_unlimited fixed B hB m c base (lowBits n) base 1 (by simp)
  rwa [bitsVal_lowBits n hn] at h

/-- the loop as run at precision 0: `(3·10⁻¹)^5 = 243·10⁻⁵` (mode Down, code as it is); `(−7·2³)^6` -/
example : powLoop false 10 .down coarseNone 0 ⟨3, -1⟩ (lowBits 5) ⟨3, -1⟩ = ⟨243, -5⟩ := by decide +kernel
example : powLoop false 2 .halfEven coarseNone 0 ⟨-7, 3⟩ (lowBits 6) ⟨-7, 3⟩ = ⟨117649, 18⟩ := by decide +kernel

/-- a base in `{0, 1, −1}`: `x^k = x^(unitExp k)` for every integer exponent with `|k| ≥ 4` (same sign, same parity) — the
    reduction the driver uses to decide `powi` of such a base for multi-word exponents -/
theorem unit_base_zpow_reduce (x : ℚ) (hx : x = 0 ∨ x = 1 ∨ x = -1) (k : ℤ) (hk : 4 ≤ k.natAbs) :
    x ^ k = x ^ (unitExp k) := by
  obtain ⟨hu0, hpar⟩ : unitExp k ≠ 0 ∧ unitExp k % 2 = k % 2 := by
    unfold unitExp
    split <;> omega
  rcases hx with rfl | rfl | rfl
  · rw [zero_zpow k (by omega), zero_zpow _ hu0]
  · rw [one_zpow, one_zpow]
  · rcases Int.emod_two_eq_zero_or_one k with h | h
    · rw [Even.neg_one_zpow (Int.even_iff.mpr h), Even.neg_one_zpow (Int.even_iff.mpr (hpar.trans h))]
    · rw [Odd.neg_one_zpow (Int.odd_iff.mpr h), Odd.neg_one_zpow (Int.odd_iff.mpr (hpar.trans h))]

end Dashu.Props.C11Powi
