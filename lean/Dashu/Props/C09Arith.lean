import Dashu.Props.C09
import Dashu.Props.C01
import Dashu.Proofs.Int.BitsArith
/-
  C09: link between the two's-complement bit layer (C09) and the arithmetic kernel of C01 — the identities that make
  "infinite two's complement" the SAME number system as the sign-magnitude arithmetic of `+`, `-`, unary `-`:
      -x = !x + 1        x - y = x + !y + 1        !x = (-x) - 1        !!x = x
      (x & y) + (x | y) = x + y          (x ^ y) + (x & y) + (x & y) = x + y   (carry-free sum + carries)
  stated about the EXECUTED models of both properties composed with each other (`ibigNot` of `Model/Int/Bits.lean` = `impl Not for IBig`,
  `ibigAdd` / `ibigSub` / `SRepr.negate` of `Model/Int/Ops.lean` = `impl_ibig_add`, `impl_ibig_sub`, `Neg for IBig`), for every word
  size `W ≥ 1`, every canonical operand, every ownership form of the additions.  The proofs compose the kernels
  `Props.C09.ibig_not`, `Props.C01.i_add_exact`, `i_sub_exact`, `i_neg_exact`, `of_int_exact`.  The canonical-form invariants of
  the two properties (`SCanon` of C09, `SRepr.WF` of C01) are one and the same proposition (`scanon_is_wf`), so a result of either layer is
  an admissible operand of the other.
-/
namespace Dashu.Props.C09Arith
open Dashu.Model

/-- C09's invariant of an `IBig` operand is C01's: results of one layer are admissible operands of the other -/
theorem scanon_is_wf (W : Nat) (a : SRepr) : SCanon W a ↔ a.WF W := Iff.rfl

/-- **`-x = !x + 1`**: C01's addition applied to C09's complement and the constant 1 is C01's negation (same value, canonical) -/
theorem neg_is_not_plus_one (W : Nat) (hW : 1 ≤ W) (a : SRepr) (form : Nat) (ha : SCanon W a) :
    (ibigAdd W (ibigNot W a) (.ofInt W 1) form).value W = a.negate.value W ∧
    (ibigAdd W (ibigNot W a) (.ofInt W 1) form).value W = -(a.value W) ∧
    (ibigAdd W (ibigNot W a) (.ofInt W 1) form).WF W := by
  have hn := C09.ibig_not W hW a ha
  have h1 := C01.of_int_exact W hW 1
  have hadd := C01.i_add_exact W hW _ _ form hn.2.2 h1.2
  have hneg := C01.i_neg_exact W a ha
  refine ⟨?_, ?_, hadd.2⟩
  · rw [hadd.1, hn.2.1, h1.1, hneg.1]; omega
  · rw [hadd.1, hn.2.1, h1.1]; omega

/-- **`x - y = x + !y + 1`**: subtraction is addition of the two's complement -/
theorem sub_is_add_not_plus_one (W : Nat) (hW : 1 ≤ W) (a b : SRepr) (f1 f2 f3 : Nat) (ha : SCanon W a) (hb : SCanon W b) :
    (ibigAdd W (ibigAdd W a (ibigNot W b) f1) (.ofInt W 1) f2).value W = (ibigSub W a b f3).value W ∧
    (ibigAdd W (ibigAdd W a (ibigNot W b) f1) (.ofInt W 1) f2).WF W := by
  have hn := C09.ibig_not W hW b hb
  have h1 := C01.of_int_exact W hW 1
  have hadd := C01.i_add_exact W hW a _ f1 ha hn.2.2
  have hadd2 := C01.i_add_exact W hW _ _ f2 hadd.2 h1.2
  have hsub := C01.i_sub_exact W hW a b f3 ha hb
  refine ⟨?_, hadd2.2⟩
  rw [hadd2.1, hadd.1, hn.2.1, h1.1, hsub.1]; omega

/-- **`!x = (-x) - 1`**: the complement as computed by C09's model is C01's subtraction of 1 from C01's negation -/
theorem not_is_neg_minus_one (W : Nat) (hW : 1 ≤ W) (a : SRepr) (form : Nat) (ha : SCanon W a) :
    (ibigNot W a).value W = (ibigSub W a.negate (.ofInt W 1) form).value W := by
  have hn := C09.ibig_not W hW a ha
  have h1 := C01.of_int_exact W hW 1
  have hneg := C01.i_neg_exact W a ha
  have hsub := C01.i_sub_exact W hW _ _ form hneg.2 h1.2
  rw [hn.2.1, hsub.1, hneg.1, h1.1]

/-- **`!!x = x`** and **`!(-x) = x - 1`** on the executed models -/
theorem not_not_and_not_neg (W : Nat) (hW : 1 ≤ W) (a : SRepr) (form : Nat) (ha : SCanon W a) :
    (ibigNot W (ibigNot W a)).value W = a.value W ∧
    (ibigNot W a.negate).value W = (ibigSub W a (.ofInt W 1) form).value W := by
  have hn := C09.ibig_not W hW a ha
  have hnn := C09.ibig_not W hW _ hn.2.2
  have h1 := C01.of_int_exact W hW 1
  have hneg := C01.i_neg_exact W a ha
  have hn' := C09.ibig_not W hW _ hneg.2
  have hsub := C01.i_sub_exact W hW a _ form ha h1.2
  refine ⟨?_, ?_⟩
  · rw [hnn.2.1, hn.2.1]; omega
  · rw [hn'.2.1, hneg.1, hsub.1, h1.1]; omega

/-- the bit reading of `-x`: bit `i` of C01's negation is the complement of bit `i` of `x - 1` (borrow form of two's-complement negation) -/
theorem neg_bits (W : Nat) (hW : 1 ≤ W) (a : SRepr) (form : Nat) (ha : SCanon W a) (i : Nat) :
    Int.testBit (a.negate.value W) i = !Int.testBit ((ibigSub W a (.ofInt W 1) form).value W) i := by
  have h1 := C01.of_int_exact W hW 1
  have hsub := C01.i_sub_exact W hW a _ form ha h1.2
  have hn := C09.ibig_not W hW _ hsub.2
  have hneg := C01.i_neg_exact W a ha
  rw [← hn.1 i, hn.2.1, hsub.1, h1.1, hneg.1]
  congr 1; omega

/-- **`(x & y) + (x | y) = x + y`**: C01's sum of C09's AND and OR is C01's sum of the operands — every sign combination, every length,
    every ownership form (also as a statement about the specification the driver compares with: all integers) -/
theorem and_plus_or_is_add (W : Nat) (hW : 1 ≤ W) (a b : SRepr) (f1 f2 : Nat) (ha : SCanon W a) (hb : SCanon W b) :
    (ibigAdd W (ibigAnd W a b) (ibigOr W a b) f1).value W = (ibigAdd W a b f2).value W ∧
    (ibigAdd W (ibigAnd W a b) (ibigOr W a b) f1).WF W ∧
    (∀ x y : Int, specAnd x y + specOr x y = x + y) := by
  have hand := C09.ibig_and W hW a b ha hb
  have hor := C09.ibig_or W hW a b ha hb
  have hs := C01.i_add_exact W hW _ _ f1 hand.2 hor.2
  refine ⟨?_, hs.2, specAnd_add_specOr⟩
  rw [hs.1, C09.ibig_and_value W hW a b ha hb, C09.ibig_or_value W hW a b ha hb, (C01.i_add_exact W hW a b f2 ha hb).1]
  exact specAnd_add_specOr _ _

/-- **`(x ^ y) + (x & y) + (x & y) = x + y`**: XOR is the sum without carries, AND the carries -/
theorem xor_plus_carries_is_add (W : Nat) (hW : 1 ≤ W) (a b : SRepr) (f1 f2 f3 : Nat) (ha : SCanon W a) (hb : SCanon W b) :
    (ibigAdd W (ibigAdd W (ibigXor W a b) (ibigAnd W a b) f1) (ibigAnd W a b) f2).value W = (ibigAdd W a b f3).value W ∧
    (ibigAdd W (ibigAdd W (ibigXor W a b) (ibigAnd W a b) f1) (ibigAnd W a b) f2).WF W ∧
    (∀ x y : Int, specXor x y + 2 * specAnd x y = x + y) := by
  have hand := C09.ibig_and W hW a b ha hb
  have hxor := C09.ibig_xor W hW a b ha hb
  have hs := C01.i_add_exact W hW _ _ f1 hxor.2 hand.2
  have hs2 := C01.i_add_exact W hW _ _ f2 hs.2 hand.2
  refine ⟨?_, hs2.2, specXor_add_two_specAnd⟩
  rw [hs2.1, hs.1, C09.ibig_and_value W hW a b ha hb, C09.ibig_xor_value W hW a b ha hb, (C01.i_add_exact W hW a b f3 ha hb).1]
  rw [← specXor_add_two_specAnd (a.value W) (b.value W), Int.two_mul, Int.add_assoc]

/-- exactly as the two drivers build their operands (`sOfInt` = `SRepr.ofInt`): for ALL integers -/
theorem neg_of_int (W : Nat) (hW : 1 ≤ W) (x y : Int) (f1 f2 : Nat) :
    sOfInt W x = SRepr.ofInt W x ∧
    (ibigAdd W (ibigNot W (sOfInt W x)) (.ofInt W 1) f1).value W = -x ∧
    (ibigAdd W (ibigAdd W (.ofInt W x) (ibigNot W (sOfInt W y)) f1) (.ofInt W 1) f2).value W = x - y := by
  have hx := C01.of_int_exact W hW x
  have hy := C01.of_int_exact W hW y
  refine ⟨rfl, ?_, ?_⟩
  · show (ibigAdd W (ibigNot W (.ofInt W x)) (.ofInt W 1) f1).value W = -x
    rw [(neg_is_not_plus_one W hW _ f1 hx.2).2.1, hx.1]
  · have h := sub_is_add_not_plus_one W hW _ _ f1 f2 0 hx.2 hy.2
    show (ibigAdd W (ibigAdd W (.ofInt W x) (ibigNot W (.ofInt W y)) f1) (.ofInt W 1) f2).value W = x - y
    rw [h.1, (C01.i_sub_exact W hW _ _ 0 hx.2 hy.2).1, hx.1, hy.1]

-- non-vacuity: the hypotheses hold and the identities are exercised across a word boundary (W = 64), at 0 (never "−0") and at −1
example : SCanon 64 (sOfInt 64 (2 ^ 64 - 1)) ∧ SCanon 64 (sOfInt 64 0) ∧ SCanon 64 (sOfInt 64 (-(2 ^ 128))) := by decide +kernel
example : (ibigAdd 64 (ibigNot 64 (sOfInt 64 (2 ^ 64 - 1))) (.ofInt 64 1) 0).value 64 = -(2 ^ 64 - 1) := by decide +kernel
example : (ibigAdd 64 (ibigNot 64 (sOfInt 64 (-(2 ^ 128)))) (.ofInt 64 1) 1).value 64 = 2 ^ 128 := by decide +kernel
example : ibigAdd 64 (ibigNot 64 (sOfInt 64 0)) (.ofInt 64 1) 0 = sOfInt 64 0 := by decide +kernel
example : (ibigAdd 64 (ibigAdd 64 (sOfInt 64 5) (ibigNot 64 (sOfInt 64 (2 ^ 64))) 0) (.ofInt 64 1) 2).value 64 = 5 - 2 ^ 64 := by decide +kernel
example : (ibigNot 64 (sOfInt 64 (-1))).value 64 = 0 ∧ (ibigNot 64 (ibigNot 64 (sOfInt 64 (-(2 ^ 64))))).value 64 = -(2 ^ 64) := by decide +kernel

example : (ibigAdd 64 (ibigAnd 64 (sOfInt 64 (-(2 ^ 64))) (sOfInt 64 (2 ^ 65 + 7))) (ibigOr 64 (sOfInt 64 (-(2 ^ 64))) (sOfInt 64 (2 ^ 65 + 7))) 0).value 64
    = -(2 ^ 64) + (2 ^ 65 + 7) ∧ (ibigAnd 64 (sOfInt 64 (-(2 ^ 64))) (sOfInt 64 (2 ^ 65 + 7))).value 64 = 2 ^ 65 ∧
      (ibigXor 64 (sOfInt 64 (-3)) (sOfInt 64 (2 ^ 64 + 5))).value 64 + 2 * (ibigAnd 64 (sOfInt 64 (-3)) (sOfInt 64 (2 ^ 64 + 5))).value 64 = 2 ^ 64 + 2 := by
  decide +kernel

end Dashu.Props.C09Arith
