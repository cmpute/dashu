import Dashu.Proofs.Text.Debug
/-
  C07 — `Debug` (`{:?}`, `{:+?}`, `{:#?}`) of `UBig` / `IBig`: the head and tail printed by `DoubleEnd` are
  the true leading and trailing decimal digits.  (A separate module because it composes kernels
  owned by other properties: C02 `rem_by_word` / `div_by_word_in_place` / `normalize` /
  `div_rem_highest_word`, C09 `shl_in_place`, C10/C12 `log_word_base`, through their proved specs.)
  The definitions are the ones `Dashu/Driver/TextDebug.lean` executes for the ops `u.dbg` / `i.dbg`.
-/
namespace Dashu.Props.C07Debug
open Dashu.Model Dashu.Model.Div Dashu.Model.Text

/-- **the heap arm of `DoubleEnd::fmt_non_power_two`, on words**: for every normalised word slice of a
    value `n ≥ 2^(2W)`, every even word size `≥ 8`: `rem_by_word` delivers `n % 10^dpw`;
    `log_word_base` delivers `exp` with `10^exp ≤ n < 10^(exp+1)`; `pow / 10^(dpw-1)` is exact
    (`debug_assert_zero!`), has more than one word (`debug_assert!(pow.len() > 1)`); after
    `normalize` / `shl_in_place` the dividend window is exactly one word longer than the divisor
    (`debug_assert!(lhs_lo_len >= n)`, and no quotient word is lost), the preconditions of
    `div_rem_highest_word` hold, and its single quotient word is `n / 10^(exp+1-dpw)` -/
theorem debug_head_tail_on_words (W est : Nat) (hW : 8 ≤ W) (hev : 2 ∣ W) (words : List Nat)
    (hw : IsWords W words) (hnm : Norm words) (hbig : 2 ^ (2 * W) ≤ val W words)
    (hest : 10 ^ est ≤ val W words) :
    ∃ exp, 10 ^ exp ≤ val W words ∧ val W words < 10 ^ (exp + 1) ∧ 2 * (radixInfo W 10).dpw ≤ exp ∧
      doubleEndLarge W est words = .ok (val W words / 10 ^ (exp + 1 - (radixInfo W 10).dpw),
        val W words % 10 ^ (radixInfo W 10).dpw, exp) :=
  doubleEndLarge_eq W est hW hev words hw hnm hbig hest

/-- **`{:?}` prints the specified text** (`debugSpec`): the mirrored `DoubleEnd::fmt` — inline word,
    inline double word (word-level three-part split), heap arm on words, `format_prepared` with the
    sign, `..` and the `(digits: D, bits: B)` suffix of `{:#?}` — never fails a check and yields
    `debugSpec`, for every integer, flag combination and even word size `≥ 8`.  `est` (the f32 first
    guess inside `log_word_base`) only has to pass that function's own `assert!` -/
theorem debug_text (W est : Nat) (hW : 8 ≤ W) (hev : 2 ∣ W) (alt plus : Bool) (z : Int)
    (hest : 2 ^ (2 * W) ≤ z.natAbs → 10 ^ est ≤ z.natAbs) :
    doubleEndFmt W est alt plus z = .ok (debugSpec W alt plus z) :=
  doubleEndFmt_eq W est hW hev alt plus z hest

/-- the first guess the driver uses (`est = 1`) always passes the `assert!` on heap values -/
theorem debug_text_est_one (W : Nat) (hW : 8 ≤ W) (hev : 2 ∣ W) (alt plus : Bool) (z : Int) :
    doubleEndFmt W 1 alt plus z = .ok (debugSpec W alt plus z) := by
  apply doubleEndFmt_eq W 1 hW hev
  intro h
  have : (2 : Nat) ^ 16 ≤ 2 ^ (2 * W) := Nat.pow_le_pow_right (by omega) (by omega)
  omega

/-- **head and tail are the true leading / trailing decimal digits**: for a heap value (`|z| ≥ 2^(2W)`)
    the plain `{:?}` text is the sign, the first `dpw` characters of the reference decimal text
    (`printSpec 10` = `Display`, theorem `C07.print_eq_reference`), `..`, and its last `dpw` characters,
    where `dpw = digits_per_word` is the largest `k` with `10^k < 2^W` (so `dpw = 19` for `W = 64`);
    head and tail never overlap (`2·dpw <` number of digits) -/
theorem debug_head_tail_true_digits (W : Nat) (hW : 8 ≤ W) (hev : 2 ∣ W) (z : Int)
    (hbig : 2 ^ (2 * W) ≤ z.natAbs) :
    let ds := printSpec 10 false z.natAbs
    let dpw := (radixInfo W 10).dpw
    debugSpec W false false z = (if z < 0 then [45] else []) ++ ds.take dpw ++ [46, 46] ++ ds.drop (ds.length - dpw) ∧
    10 ^ dpw < 2 ^ W ∧ 2 ^ W ≤ 10 ^ (dpw + 1) ∧ 2 * dpw < ds.length := by
  intro ds dpw
  have h10W : 10 < 2 ^ W := validRadix_lt_word (by decide) hW
  have ht := maxExpInWord_spec W 10 (by omega) h10W
  have hpow : (radixInfo W 10).rpw = 10 ^ dpw := ht.1
  have hlt : (radixInfo W 10).rpw < 2 ^ W := ht.2.1
  have hmax : 2 ^ W ≤ (radixInfo W 10).rpw * 10 := ht.2.2.2 hev
  refine ⟨?_, by rw [← hpow]; exact hlt, by rw [pow_succ, ← hpow]; exact hmax, ?_⟩
  · have hn : ¬ z.natAbs < 2 ^ (2 * W) := by omega
    simp only [debugSpec, hn, if_false, Bool.false_eq_true, List.append_nil, List.append_assoc, ds, dpw]
  · -- number of digits: `10^(2·dpw) = rpw² < 2^W · 2^W ≤ |z|`
    have hds : ds.length = (digits 10 z.natAbs).length := by simp [ds, printSpec]
    rw [hds]
    apply lt_digits_length (by omega)
    calc 10 ^ (2 * dpw) = (radixInfo W 10).rpw * (radixInfo W 10).rpw := by rw [hpow, ← pow_add]; congr 1; omega
      _ ≤ 2 ^ W * 2 ^ W := Nat.mul_le_mul hlt.le hlt.le
      _ = 2 ^ (2 * W) := by rw [← pow_add]; congr 1; omega
      _ ≤ z.natAbs := hbig

-- non-vacuity
example : (8 : Nat) ≤ 64 ∧ (2 : Nat) ∣ 64 ∧ (radixInfo 64 10).dpw = 19 := by decide
example := debug_head_tail_on_words 64 1 (by decide) (by decide) [5, 7, 9] (by decide) (by unfold Norm; simp)
  (by decide) (by decide)
example := debug_text 64 38 (by decide) (by decide) true true (-(10 ^ 38 + 7)) (fun _ => by decide)
example := debug_text_est_one 64 (by decide) (by decide) true false (10 ^ 1233 - 1)
example := debug_head_tail_true_digits 64 (by decide) (by decide) (-(2 ^ 128)) (by decide)
example := debug_head_tail_true_digits 32 (by decide) (by decide) (10 ^ 100 + 1) (by decide)

end Dashu.Props.C07Debug
