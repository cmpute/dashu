import Dashu.Gen.BitsSmall
import Dashu.Props.GenMath
import Dashu.Proofs.Gen.MachInt
/-
  C09, Tie A over the INLINE arms of the bit operations that take a user-supplied `usize`
  (`integer/src/bits.rs`, `integer/src/shift_ops.rs`).  The definitions of `Dashu.Gen.BitsSmall` are
  regenerated from the Rust text on every run, over checked machine integers with TRUNCATING casts.
  Each theorem: for EVERY argument `n` (any `usize`, nothing assumed about its size) no operation
  overflows and the result is the arm of the hand-written model (`Model/Int/Bits.lean`), whose
  two's-complement meaning is proved in `Props/C09.lean`.  Side conditions: `1 ≤ W` and `2·W < 2^32`
  (a double-word bit count fits `u32` — true for the 16/32/64-bit word configurations).
-/
namespace Dashu.Props.GenBitsSmall
open Dashu.Model Dashu.GluePrelude Dashu.Gen.MathHelpers Dashu.Gen.BitsSmall Dashu.Props.GenMath

/-- **`shr_dword(dword, rhs)`**: `dword >> rhs` when `rhs < DWORD_BITS`, otherwise 0 — for every `usize` count, in
    particular `rhs ≥ 2^32` (no narrowing of the count happens before the comparison) — the hand model's `shrDword`. -/
theorem gen_shr_dword (W U d n : Nat) :
    shr_dword W U d n = some ((shrDword W d n).value W) := by
  unfold shr_dword shrDword
  by_cases h : n < 2 * W
  · simp [h, MachInt.shr_ok h]
  · simp [h]

/-- **`are_dword_low_bits_nonzero(dword, n)`**: the clamp `n.min(DWORD_BITS)` happens BEFORE the cast to `u32`, so the
    mask count never leaves `ones_dword`'s domain and no count is truncated: the hand model's `areDwordLowBitsNonzero`
    (code as it is), i.e. `dword mod 2^n ≠ 0`. -/
theorem gen_are_dword_low_bits_nonzero (W U d n : Nat) (h32 : 2 * W < 2 ^ 32) (hd : d < 2 ^ (2 * W)) :
    are_dword_low_bits_nonzero W U d n = some (areDwordLowBitsNonzero W true d n) ∧
    (areDwordLowBitsNonzero W true d n = true ↔ d % 2 ^ n ≠ 0) := by
  have hm : (min n (2 * W) : Nat) ≤ 2 * W := Nat.min_le_right _ _
  refine ⟨?_, ?_⟩
  · simp only [are_dword_low_bits_nonzero, MachInt.cast_ok (Nat.lt_of_le_of_lt hm h32), gen_ones_dword W _ hm,
      bind, Option.bind, pure, areDwordLowBitsNonzero, if_true]
  · simp only [areDwordLowBitsNonzero, if_true, onesN_and, bne_iff_ne, ne_eq, mod_pow_min d n (2 * W) hd]

theorem and_two_pow_ne_zero (d n : Nat) : ((d &&& 2 ^ n) != 0) = d.testBit n := by
  rw [Nat.and_two_pow]
  cases d.testBit n <;> simp

/-- **`TypedReprRef::bit`, inline arm**: `n < DWORD_BITS && dword & 1 << n != 0` — the shift is evaluated only under the
    guard (so it never overflows), the guard compares the full `usize`: the hand model's `TRepr.bit`. -/
theorem gen_bit_small (W U d n : Nat) :
    bit_small W U d n = some ((TRepr.small d).bit W n) := by
  unfold bit_small
  by_cases h : n < 2 * W
  · simp only [h, decide_true, if_true, MachInt.one_shl h, bind, Option.bind, pure, and_two_pow_ne_zero, TRepr.bit,
      Bool.true_and]
  · simp [h, TRepr.bit]

/-- **`TypedRepr::clear_bit`, inline arm** -/
theorem gen_clear_bit_small (W U d n : Nat) :
    clear_bit_small W U d n = some (((TRepr.small d).clearBit W n).value W) := by
  unfold clear_bit_small
  by_cases h : n < 2 * W
  · simp only [h, decide_true, if_true, MachInt.one_shl h, MachInt.not, bind, Option.bind, pure, TRepr.clearBit,
      TRepr.value_small]
  · simp [h, TRepr.clearBit]

/-- **`TypedRepr::clear_high_bits`, inline arm**: under the guard `n < DWORD_BITS` the cast `n as u32` is lossless and the
    count is inside `ones_dword`'s domain; above it the value is returned unchanged. -/
theorem gen_clear_high_bits_small (W U d n : Nat) (h32 : 2 * W < 2 ^ 32) :
    clear_high_bits_small W U d n = some (((TRepr.small d).clearHighBits W n).value W) := by
  unfold clear_high_bits_small
  by_cases h : n < 2 * W
  · simp only [h, decide_true, if_true, MachInt.cast_ok (show n < 2 ^ 32 by omega), gen_ones_dword W n (by omega), bind,
      Option.bind, pure, TRepr.clearHighBits, TRepr.value_small]
  · simp [h, TRepr.clearHighBits]

/-- **`TypedRepr::split_bits`, inline arm** -/
theorem gen_split_bits_small (W U d n : Nat) (h32 : 2 * W < 2 ^ 32) :
    split_bits_small W U d n =
      some ((((TRepr.small d).splitBits W n).1.value W), (((TRepr.small d).splitBits W n).2.value W)) := by
  unfold split_bits_small
  by_cases h : n < 2 * W
  · simp only [h, decide_true, if_true, MachInt.cast_ok (show n < 2 ^ 32 by omega), gen_ones_dword W n (by omega),
      MachInt.shr_ok h, bind, Option.bind, pure, TRepr.splitBits, TRepr.value_small]
  · simp [h, TRepr.splitBits]

/-- **word index / bit offset of the heap arms.**  Every `let idx = n / WORD_BITS_USIZE`, `let shift_words = rhs / WORD_BITS_USIZE`,
    `let shift_bits = (rhs % WORD_BITS_USIZE) as u32`, `let n_top = …`, `let n_words = …` of `shift_ops.rs` / `bits.rs`, as
    regenerated, is `n / W` resp. `n % W` of the FULL `usize` argument (no operation overflows, the `as u32` cast comes after the
    reduction mod `W` and is lossless) — the quantities the hand model's heap arms use. -/
theorem gen_heap_indices (W U n : Nat) (hW : 1 ≤ W) (h32 : 2 * W < 2 ^ 32) :
    shl_one_spilled__idx W U n = some (n / W) ∧
    shl_dword_spilled__shift_words W U n = some (n / W) ∧ shl_dword_spilled__shift_bits W U n = some (n % W) ∧
    shl_large__shift_words W U n = some (n / W) ∧ shl_large__shift_bits W U n = some (n % W) ∧
    shl_large_ref__shift_words W U n = some (n / W) ∧ shl_large_ref__shift_bits W U n = some (n % W) ∧
    shr_large__shift_words W U n = some (n / W) ∧ shr_large__shift_bits W U n = some (n % W) ∧
    shr_large_ref__shift_words W U n = some (n / W) ∧ shr_large_ref__shift_bits W U n = some (n % W) ∧
    bit__idx W U n = some (n / W) ∧ clear_bit__idx W U n = some (n / W) ∧
    are_slice_low_bits_nonzero__n_words W U n = some (n / W) ∧ are_slice_low_bits_nonzero__n_top W U n = some (n % W) ∧
    with_bit_dword_spilled__idx W U n = some (n / W) ∧ with_bit_large__idx W U n = some (n / W) := by
  have hW0 : W ≠ 0 := by omega
  simp only [shl_one_spilled__idx, shl_dword_spilled__shift_words, shl_dword_spilled__shift_bits, shl_large__shift_words,
    shl_large__shift_bits, shl_large_ref__shift_words, shl_large_ref__shift_bits, shr_large__shift_words,
    shr_large__shift_bits, shr_large_ref__shift_words, shr_large_ref__shift_bits, bit__idx, clear_bit__idx,
    are_slice_low_bits_nonzero__n_words, are_slice_low_bits_nonzero__n_top, with_bit_dword_spilled__idx,
    with_bit_large__idx, MachInt.div_ok hW0, MachInt.rem_ok hW0, MachInt.cast_mod hW (show W ≤ 2 ^ 32 by omega), bind,
    Option.bind, pure, and_self]

/-- `let n_words = ceil_div(n, WORD_BITS_USIZE)` of `clear_high_bits_large`: for EVERY `usize` `n` (up to `usize::MAX`) no
    overflow, and it is the `ceilDiv n W` the hand model's `clearHighBitsLarge` uses -/
theorem gen_clear_high_bits_large_n_words (W U n : Nat) (hW : 1 ≤ W) (hn : n < 2 ^ U) :
    clear_high_bits_large__n_words W U n = some (ceilDiv n W) := by
  simp only [clear_high_bits_large__n_words, gen_ceil_div U n W hn (by omega), bind, Option.bind]

theorem reprOnes_inline (W n : Nat) (hn : n ≤ 2 * W) : reprOnes W true n = .small (onesN n) := by
  unfold reprOnes
  split
  · rfl
  · exact if_pos ((Nat.lt_or_eq_of_le hn).imp_right fun h => ⟨rfl, h⟩)

theorem reprOnes_heap (W n : Nat) (hn : 2 * W < n) :
    reprOnes W true n =
      .large (List.replicate (n / W) (2 ^ W - 1) ++ (if n % W > 0 then [onesN (n % W)] else [])) := by
  unfold reprOnes
  rw [if_neg (by omega), if_neg]
  rintro (h | ⟨_, h⟩) <;> omega

/-- **`Repr::ones(n)`** (mask construction, `integer/src/repr.rs`): the regenerated thresholds build the value INLINE exactly
    for `n ≤ DWORD_BITS` (the boundary `n = 2·W` included — the repaired comparison `<=` of fix 283f2ad; with `<` this theorem
    fails), the inline double word is `2^n − 1`, both `as _` casts are lossless under their guards, and this is the hand
    model's `reprOnes` (code as it is): the same inline/heap split and the same heap word counts `n / W`, `n % W`. -/
theorem gen_ones_inline (W U n : Nat) (hW : 1 ≤ W) (h32 : 2 * W < 2 ^ 32) :
    ones_inline W U n = some (if n ≤ 2 * W then (true, 2 ^ n - 1) else (false, 0)) ∧
    (n ≤ 2 * W → reprOnes W true n = .small (2 ^ n - 1)) ∧
    (2 * W < n → ∃ ws, reprOnes W true n = .large ws ∧
       ones__lo_words W U n = some (n / W) ∧ ones__hi_bits W U n = some (n % W) ∧
       ws = List.replicate (n / W) (2 ^ W - 1) ++ (if n % W > 0 then [onesN (n % W)] else [])) := by
  have hW0 : ¬ W = 0 := by omega
  refine ⟨?_, reprOnes_inline W n, fun hn => ⟨_, reprOnes_heap W n hn, ?_, ?_, rfl⟩⟩
  · unfold ones_inline
    by_cases h2 : n ≤ 2 * W
    · have hc : MachInt.cast 32 n = n := MachInt.cast_ok (by omega)
      by_cases h1 : n < W
      · simp only [h1, decide_true, if_true, hc, (gen_ones_word W n (Nat.le_of_lt h1)).1, bind, Option.bind, pure, h2,
          onesN]
      · simp only [h1, h2, decide_true, decide_false, if_true, if_false, hc, gen_ones_dword W n h2, bind, Option.bind,
          pure, onesN, Bool.false_eq_true]
    · have h1 : ¬ n < W := by omega
      simp only [h1, h2, decide_false, if_false, pure, Bool.false_eq_true]
  · simp only [ones__lo_words, MachInt.div_ok hW0]
  · simp only [ones__hi_bits, MachInt.rem_ok hW0]

-- non-vacuity: the counts at which a narrowing cast would go wrong (2^32, 2^32 + 1, usize::MAX) on 64-bit words
example : shr_dword 64 64 1 (2 ^ 32) = some 0 ∧ shr_dword 64 64 5 (2 ^ 32 + 1) = some 0 ∧ shr_dword 64 64 5 1 = some 2 ∧
    bit_small 64 64 1 (2 ^ 32) = some false ∧ bit_small 64 64 (2 ^ 100) 100 = some true ∧
    clear_high_bits_small 64 64 (2 ^ 100 + 7) (2 ^ 32 + 2) = some (2 ^ 100 + 7) ∧
    clear_high_bits_small 64 64 (2 ^ 100 + 7) 2 = some 3 ∧
    split_bits_small 64 64 (2 ^ 100 + 7) (2 ^ 64 - 1) = some (2 ^ 100 + 7, 0) ∧
    are_dword_low_bits_nonzero 64 64 (2 ^ 100) (2 ^ 32 + 5) = some true ∧
    clear_bit_small 64 64 7 (2 ^ 32 + 1) = some 7 ∧ clear_bit_small 64 64 7 1 = some 5 := by
  refine ⟨by decide +kernel, by decide +kernel, by decide +kernel, by decide +kernel, by decide +kernel, by decide +kernel, by decide +kernel, by decide +kernel, by decide +kernel, by decide +kernel,
    by decide +kernel⟩

end Dashu.Props.GenBitsSmall
