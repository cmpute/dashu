import Dashu.Gen.FormsGlue
import Dashu.Props.GenBits
import Dashu.Props.C09
/-
  C09, the clause "mixed UBig/IBig forms give the same value as converting both operands to IBig first" for `|` and `^`
  (`&` is `Props/C09.mixed_and`), over REGENERATED text end to end: the eight forwarding bodies
  `forward_ubig_ibig_binop_to_repr!` / `forward_ibig_ubig_binop_to_repr!` of integer/src/helper_macros.rs
  (`Dashu/Gen/FormsGlue.lean`: the `UBig` operand enters the core with `Sign::Positive` and its magnitude, the `IBig` operand
  with its sign and magnitude, in this order) composed with the regenerated sign tables `impl_ibig_bitor` /
  `impl_ibig_bitxor` of integer/src/bits.rs (`Dashu/Gen/Glue.lean`, `Props/GenBits`), equal the two's-complement OR / XOR of
  the two VALUES.  Second theorem: the same for the hand model the driver executes (`ibigOr W ⟨false, a⟩ b`, …).
-/
namespace Dashu.Props.GenBitsMixed
open Dashu Dashu.Gen Dashu.Model

/-- value domain for the regenerated forwarding bodies -/
inductive MV where
  | sgn (s : Sign) | mag (m : Int) | ubig (n : Nat) | ibig (z : Int) | ill

/-- `UBig::into_repr` / `UBig::repr` -/
def reprOf : MV → MV
  | .ubig n => .mag n | _ => .ill
/-- `IBig::into_sign_repr` / `as_sign_repr` -/
def signReprOf : MV → MV × MV
  | .ibig z => (.sgn (if z < 0 then .Negative else .Positive), .mag z.natAbs) | _ => (.ill, .ill)
/-- the `$impl!` core: a regenerated sign table on (sign, magnitude) pairs -/
def coreOf (f : Sign → Int → Sign → Int → Int) : MV → MV → MV → MV → Option Int
  | .sgn a, .mag m, .sgn b, .mag k => some (f a m b k) | _, _, _, _ => none

theorem apply_sign (z : Int) : (if z < 0 then Sign.Negative else Sign.Positive).apply (z.natAbs : Int) = z := by
  by_cases h : z < 0
  · simp only [h, if_true, Sign.apply]; omega
  · simp only [h, if_false, Sign.apply]; omega

/-- a sign table that meets its specification `g`, entered with a `UBig` as `(Positive, magnitude)` and the parts of an `IBig`,
    in either order -/
theorem core_of {f : Sign → Int → Sign → Int → Int} {g : Int → Int → Int}
    (hf : ∀ s0 s1 m0 m1, 0 ≤ m0 → 0 ≤ m1 → (s0 = .Negative → 0 < m0) → (s1 = .Negative → 0 < m1) →
      f s0 m0 s1 m1 = g (s0.apply m0) (s1.apply m1)) (n : Nat) (z : Int) :
    f .Positive n (if z < 0 then .Negative else .Positive) z.natAbs = g n z ∧
    f (if z < 0 then .Negative else .Positive) z.natAbs .Positive n = g z n := by
  have hz : (if z < 0 then Sign.Negative else Sign.Positive) = .Negative → (0 : Int) < z.natAbs := by
    intro h; by_cases hn : z < 0
    · omega
    · simp [hn] at h
  have hp : Sign.Positive = .Negative → (0 : Int) < n := fun h => nomatch h
  constructor
  · rw [hf _ _ _ _ (Int.natCast_nonneg n) (Int.natCast_nonneg _) hp hz, apply_sign]; rfl
  · rw [hf _ _ _ _ (Int.natCast_nonneg _) (Int.natCast_nonneg n) hz hp, apply_sign]; rfl

theorem core_or (n : Nat) (z : Int) :
    impl_ibig_bitor .Positive n (if z < 0 then .Negative else .Positive) z.natAbs = specOr n z ∧
    impl_ibig_bitor (if z < 0 then .Negative else .Positive) z.natAbs .Positive n = specOr z n :=
  core_of Props.GenBits.gen_ibig_bitor n z

theorem core_xor (n : Nat) (z : Int) :
    impl_ibig_bitxor .Positive n (if z < 0 then .Negative else .Positive) z.natAbs = specXor n z ∧
    impl_ibig_bitxor (if z < 0 then .Negative else .Positive) z.natAbs .Positive n = specXor z n :=
  core_of Props.GenBits.gen_ibig_bitxor n z

/-- **`UBig | IBig`, `IBig | UBig`, `UBig ^ IBig`, `IBig ^ UBig` (value/reference forms, 16 impls), regenerated forwarding
    bodies ∘ regenerated sign tables = OR / XOR of the two values** -/
theorem gen_mixed_or_xor (n : Nat) (z : Int) :
    let P := MV.sgn .Positive
    let O := coreOf impl_ibig_bitor
    let X := coreOf impl_ibig_bitxor
    (i_forward_ubig_ibig_binop_to_repr_r1_val_val P reprOf signReprOf O (.ubig n) (.ibig z) = some (specOr n z) ∧
     i_forward_ubig_ibig_binop_to_repr_r1_val_ref P reprOf signReprOf O (.ubig n) (.ibig z) = some (specOr n z) ∧
     i_forward_ubig_ibig_binop_to_repr_r1_ref_val P reprOf signReprOf O (.ubig n) (.ibig z) = some (specOr n z) ∧
     i_forward_ubig_ibig_binop_to_repr_r1_ref_ref P reprOf signReprOf O (.ubig n) (.ibig z) = some (specOr n z)) ∧
    (i_forward_ibig_ubig_binop_to_repr_r1_val_val signReprOf P reprOf O (.ibig z) (.ubig n) = some (specOr z n) ∧
     i_forward_ibig_ubig_binop_to_repr_r1_val_ref signReprOf P reprOf O (.ibig z) (.ubig n) = some (specOr z n) ∧
     i_forward_ibig_ubig_binop_to_repr_r1_ref_val signReprOf P reprOf O (.ibig z) (.ubig n) = some (specOr z n) ∧
     i_forward_ibig_ubig_binop_to_repr_r1_ref_ref signReprOf P reprOf O (.ibig z) (.ubig n) = some (specOr z n)) ∧
    (i_forward_ubig_ibig_binop_to_repr_r1_val_val P reprOf signReprOf X (.ubig n) (.ibig z) = some (specXor n z) ∧
     i_forward_ubig_ibig_binop_to_repr_r1_val_ref P reprOf signReprOf X (.ubig n) (.ibig z) = some (specXor n z) ∧
     i_forward_ubig_ibig_binop_to_repr_r1_ref_val P reprOf signReprOf X (.ubig n) (.ibig z) = some (specXor n z) ∧
     i_forward_ubig_ibig_binop_to_repr_r1_ref_ref P reprOf signReprOf X (.ubig n) (.ibig z) = some (specXor n z)) ∧
    (i_forward_ibig_ubig_binop_to_repr_r1_val_val signReprOf P reprOf X (.ibig z) (.ubig n) = some (specXor z n) ∧
     i_forward_ibig_ubig_binop_to_repr_r1_val_ref signReprOf P reprOf X (.ibig z) (.ubig n) = some (specXor z n) ∧
     i_forward_ibig_ubig_binop_to_repr_r1_ref_val signReprOf P reprOf X (.ibig z) (.ubig n) = some (specXor z n) ∧
     i_forward_ibig_ubig_binop_to_repr_r1_ref_ref signReprOf P reprOf X (.ibig z) (.ubig n) = some (specXor z n)) := by
  have ho := core_or n z
  have hx := core_xor n z
  simp only [i_forward_ubig_ibig_binop_to_repr_r1_val_val, i_forward_ubig_ibig_binop_to_repr_r1_val_ref,
    i_forward_ubig_ibig_binop_to_repr_r1_ref_val, i_forward_ubig_ibig_binop_to_repr_r1_ref_ref,
    i_forward_ibig_ubig_binop_to_repr_r1_val_val, i_forward_ibig_ubig_binop_to_repr_r1_val_ref,
    i_forward_ibig_ubig_binop_to_repr_r1_ref_val, i_forward_ibig_ubig_binop_to_repr_r1_ref_ref,
    reprOf, signReprOf, coreOf, ho.1, ho.2, hx.1, hx.2, and_self]

/-- a canonical `UBig` magnitude with `Sign::Positive` is a canonical `IBig` of the same value -/
theorem ubig_as_ibig (W : Nat) (a : TRepr) (ha : a.Canon W) :
    SCanon W ⟨false, a⟩ ∧ SRepr.value W ⟨false, a⟩ = (a.value W : Int) :=
  ⟨⟨ha, by intro h; cases h⟩, by simp [SRepr.value]⟩

/-- **the hand model the driver executes for `ui.or / iu.or / ui.xor / iu.xor`** (the IBig sign tables with the UBig operand
    entered as `(Positive, magnitude)`): value = OR / XOR of the two values, result canonical -/
theorem mixed_or_xor (W : Nat) (hW : 1 ≤ W) (a : TRepr) (b : SRepr) (ha : a.Canon W) (hb : SCanon W b) :
    ((ibigOr W ⟨false, a⟩ b).value W = specOr (a.value W) (b.value W) ∧ SCanon W (ibigOr W ⟨false, a⟩ b)) ∧
    ((ibigOr W b ⟨false, a⟩).value W = specOr (b.value W) (a.value W) ∧ SCanon W (ibigOr W b ⟨false, a⟩)) ∧
    ((ibigXor W ⟨false, a⟩ b).value W = specXor (a.value W) (b.value W) ∧ SCanon W (ibigXor W ⟨false, a⟩ b)) ∧
    ((ibigXor W b ⟨false, a⟩).value W = specXor (b.value W) (a.value W) ∧ SCanon W (ibigXor W b ⟨false, a⟩)) := by
  have ⟨hc, hv⟩ := ubig_as_ibig W a ha
  refine ⟨⟨?_, (Props.C09.ibig_or W hW _ _ hc hb).2⟩, ⟨?_, (Props.C09.ibig_or W hW _ _ hb hc).2⟩,
    ⟨?_, (Props.C09.ibig_xor W hW _ _ hc hb).2⟩, ⟨?_, (Props.C09.ibig_xor W hW _ _ hb hc).2⟩⟩
  · rw [Props.C09.ibig_or_value W hW _ _ hc hb, hv]
  · rw [Props.C09.ibig_or_value W hW _ _ hb hc, hv]
  · rw [Props.C09.ibig_xor_value W hW _ _ hc hb, hv]
  · rw [Props.C09.ibig_xor_value W hW _ _ hb hc, hv]

-- non-vacuity: a 3-word UBig with a negative 3-word IBig: 2^130 | −(2^130 + 2) = −2 = 2^130 ^ −(2^130 + 2); 2^130 ^ −5 = −(2^130 + 5)
example : (TRepr.large [0, 0, 4]).Canon 64 ∧ SCanon 64 ⟨true, .large [2, 0, 4]⟩ ∧
    (ibigOr 64 ⟨false, .large [0, 0, 4]⟩ ⟨true, .large [2, 0, 4]⟩).value 64 = -2 ∧
    (ibigXor 64 ⟨true, .large [2, 0, 4]⟩ ⟨false, .large [0, 0, 4]⟩).value 64 = -2 ∧
    (ibigXor 64 ⟨false, .large [0, 0, 4]⟩ ⟨true, .small 5⟩).value 64 = -(2 ^ 130 + 5) := by
  decide +kernel

end Dashu.Props.GenBitsMixed
