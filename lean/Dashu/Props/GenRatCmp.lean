import Dashu.Gen.RatCmp
import Dashu.Model.Cross.Ord
import Dashu.Model.Int.Cmp
import Dashu.Proofs.Cross.SameText
import Dashu.Proofs.Gen.Basic
/-
  Tie A theorems about `rational/src/cmp.rs` AS REGENERATED on this run (`Dashu/Gen/RatCmp.lean`): the
  regenerated `repr_eq`, `repr_cmp`, `repr_cmp_ubig`, `repr_cmp_ibig`, `with_float::repr_cmp_fbig` and the
  structural `RBig ==`, with the estimate oracle plugged in, ARE the hand-written models of C14
  (`Model/Cross/Ord.lean`) and C05 (`Model/Int/Cmp.lean`) — for all inputs.  Core Lean only.
-/
set_option linter.unusedSimpArgs false
namespace Dashu.Props.GenRatCmp
open Dashu Dashu.Gen Dashu.GluePrelude Dashu.Proofs.Gen

section cross
open Dashu.Model.Cross

/-- kernel record of the C14 hand model for the rational comparisons; `pw`/`tz` describe the base of a
    float operand (`B.is_power_of_two()`, `B.trailing_zeros()`) -/
def ratK (o : Oracle) (B : Nat) (pw : Bool) (tz : Nat) : RatK EB where
  e_lt := EB.lt
  e_gt := fun a b => EB.lt b a
  log2_bounds_int := fun i => o.nat i.natAbs
  log2_bounds_q := fun q => o.rat q.numerator q.denominator.toNat
  log2_bounds_repr := fun r => o.flt B r.significand r.exponent
  base := (B : Int)
  base_is_pow2 := pw
  base_tz := (tz : Int)

theorem bit_len_cast (x : Int) : bit_len x = (bitLen x.natAbs : Int) := by
  unfold bit_len bitLen
  by_cases h : x = 0
  · simp [h]
  · have : ¬ x.natAbs = 0 := by omega
    simp [h, this]

theorem bit_len_nat (d : Nat) : bit_len (d : Int) = (bitLen d : Int) := by
  rw [bit_len_cast]; simp

theorem abs_diff_gt_one (a b : Int) : decide (1 < abs_diff a b) = decide ((a - b).natAbs > 1) := by
  unfold abs_diff; congr 1; apply propext; simp only [Int.ofNat_eq_natCast]; omega

/-- **`repr_eq::<ABS>` as regenerated = `Model.Cross.ratReprEq`** -/
theorem repr_eq_is_cross_model (abs : Bool) (n1 : Int) (d1 : Nat) (n2 : Int) (d2 : Nat) :
    q_repr_eq abs ⟨n1, d1⟩ ⟨n2, d2⟩ = ratReprEq abs n1 d1 n2 d2 := by
  unfold q_repr_eq ratReprEq
  simp only [sign_int, is_zero_int, bit_len_cast, add_int, mul_int, lt_int, ne_def, Sign.ofInt, Int.natAbs_natCast,
    abs_diff_gt_one, abs_eq, Bool.beq_eq_decide_eq]
  -- with `ABS` the signs are not looked at
  cases abs
  · gcases h1 : n1 < 0 <;> gcases h2 : n2 < 0 <;> gcases h3 : n1 = 0
  · gcases h3 : n1 = 0

theorem natCast_eq_one (d : Nat) : ((d : Int) = 1) = (d = 1) := by apply propext; omega

/-- **`repr_cmp::<ABS>` as regenerated = `Model.Cross.ratReprCmp`** (including the dead second bit-size test) -/
theorem repr_cmp_is_cross_model (abs : Bool) (n1 : Int) (d1 : Nat) (n2 : Int) (d2 : Nat) :
    q_repr_cmp abs ⟨n1, d1⟩ ⟨n2, d2⟩ = ratReprCmp abs n1 d1 n2 d2 := by
  unfold q_repr_cmp ratReprCmp
  simp only [sign_int, is_zero_int, is_one, bit_len_cast, add_int, sub_int, mul_int, lt_int, Sign.ofInt,
    Int.natAbs_natCast, cmp_int, signMatch, absCmpInt, abs_cmp, natCast_eq_one]
  -- the sign pre-test (skipped with `ABS`), then the tests of the body in the order the code makes them, so that each
  -- case split closes one arm
  cases abs
  · gcases h1 : n1 < 0 <;> gcases h2 : n2 < 0 <;> gcases h3 : d1 = 1 ∧ d2 = 1 <;> gcases h5 : n1 = 0 <;> gcases h6 : n2 = 0 <;>
    gcases h7 : (bitLen n2.natAbs : Int) - (bitLen d2 : Int) + 1 < (bitLen n1.natAbs : Int) - (bitLen d1 : Int) <;>
    gcases h8 : (bitLen n2.natAbs : Int) - (bitLen d2 : Int) < (bitLen n1.natAbs : Int) - (bitLen d1 : Int) - 1
  · gcases h3 : d1 = 1 ∧ d2 = 1 <;> gcases h5 : n1 = 0 <;> gcases h6 : n2 = 0 <;>
    gcases h7 : (bitLen n2.natAbs : Int) - (bitLen d2 : Int) + 1 < (bitLen n1.natAbs : Int) - (bitLen d1 : Int) <;>
    gcases h8 : (bitLen n2.natAbs : Int) - (bitLen d2 : Int) < (bitLen n1.natAbs : Int) - (bitLen d1 : Int) - 1

/-- **`repr_cmp_ubig::<ABS>` (rational) as regenerated = `Model.Cross.ratReprCmpUbig`** -/
theorem repr_cmp_ubig_is_cross_model (o : Oracle) (abs : Bool) (n : Int) (d : Nat) (r : Nat) :
    q_repr_cmp_ubig (ratK o 2 true 1) abs ⟨n, d⟩ (r : Int) = ratReprCmpUbig o abs n d r := by
  unfold q_repr_cmp_ubig ratReprCmpUbig
  simp only [ratK, sign_int, eq_def, Sign.ofInt, Int.natAbs_natCast, Int.toNat_natCast, mul_int, absCmpInt, abs_cmp]
  cases abs <;> gcases h1 : n < 0
  all_goals gclose

/-- **`repr_cmp_ibig::<ABS>` (rational) as regenerated = `Model.Cross.ratReprCmpIbig`** -/
theorem repr_cmp_ibig_is_cross_model (o : Oracle) (abs : Bool) (n : Int) (d : Nat) (r : Int) :
    q_repr_cmp_ibig (ratK o 2 true 1) abs ⟨n, d⟩ r = ratReprCmpIbig o abs n d r := by
  unfold q_repr_cmp_ibig ratReprCmpIbig
  simp only [ratK, sign_int, eq_def, Sign.ofInt, Int.natAbs_natCast, Int.toNat_natCast, mul_int, absCmpInt, abs_cmp, signMatch,
    cmp_int]
  cases abs <;> gcases [sign_mul_ord, Sign.app] h1 : n < 0 <;> gcases [sign_mul_ord, Sign.app] h2 : r < 0

/-- a left shift by `k · tz` bits multiplies by `(2^tz)^k` (`k < 0` gives exponent `0` on both sides) -/
theorem shift_eq_pow (tz : Nat) (k : Int) : (2 : Int) ^ (k * (tz : Int)).toNat = ((2 ^ tz : Nat) : Int) ^ k.toNat := by
  by_cases hk : 0 ≤ k
  · obtain ⟨kn, rfl⟩ := Int.eq_ofNat_of_zero_le hk
    rw [← Int.natCast_mul, Int.toNat_natCast, Int.toNat_natCast, Int.natCast_pow, ← Int.pow_mul, Nat.mul_comm]
    rfl
  · have h1 : k.toNat = 0 := by omega
    have h2 : (k * (tz : Int)).toNat = 0 := by
      have : k * (tz : Int) ≤ 0 := Int.mul_nonpos_of_nonpos_of_nonneg (by omega) (by omega)
      omega
    rw [h1, h2]; rfl

/-- **`with_float::repr_cmp_fbig::<B, ABS>` as regenerated = `Model.Cross.ratReprCmpFbig`**: the two ways the
    code scales by `B^|e|` (a shift by `|e|·trailing_zeros(B)` bits when `B` is a power of two, a multiplication
    by `UBig::from_word(B).pow(|e|)` otherwise) are both the model's `· B^|e|`; `pw`/`tz` are what
    `B.is_power_of_two()` / `B.trailing_zeros()` return, assumed to mean `B = 2^tz` when `pw` holds. -/
theorem repr_cmp_fbig_is_cross_model (o : Oracle) (abs : Bool) (n : Int) (d : Nat) (B : Nat) (pw : Bool) (tz : Nat)
    (hpw : pw = true → B = 2 ^ tz) (s e : Int) :
    q_repr_cmp_fbig (ratK o B pw tz) abs ⟨n, d⟩ ⟨s, e⟩ = ratReprCmpFbig o abs n d B s e := by
  unfold q_repr_cmp_fbig ratReprCmpFbig
  simp only [ratK, Repr_is_infinite, fIsInf, is_zero_int, ne_int, lt_int, sign_int, Sign.ofInt, Int.toNat_natCast,
    mul_int, neg_int, absCmpInt, abs_cmp, signMatch, cmp_int, shl_, GluePrelude.pow]
  have hsh : ∀ k : Int, pw = true → (2 : Int) ^ (k * (tz : Int)).toNat = (B : Int) ^ k.toNat := fun k h => by
    rw [hpw h, shift_eq_pow]
  have hsh' : ∀ k : Int, pw = true → (2 : Int) ^ ((tz : Int) * k).toNat = (B : Int) ^ k.toNat := fun k h => by
    rw [Int.mul_comm, hsh k h]
  gcases hinf : s = 0 ∧ ¬ e = 0
  cases abs
  · gcases [sign_mul_ord, Sign.app] h3 : n < 0 <;> gcases [sign_mul_ord, Sign.app] h4 : s < 0 <;> gcases h6 : e < 0 <;>
      cases pw <;> first
        | simp only [hsh _ rfl, hsh' _ rfl, if_true]
        | simp only [Bool.false_eq_true, if_false]
  · gprune [sign_mul_ord, Sign.app]
    gcases h6 : e < 0 <;> cases pw <;> first
      | simp only [hsh _ rfl, hsh' _ rfl, if_true]
      | simp only [Bool.false_eq_true, if_false]
end cross

/-! ### against the C05 model (`Dashu.Model`, `Model/Int/Cmp.lean`) -/
section c05
open Dashu.Model

theorem bit_len_cast05 (x : Int) : bit_len x = (bitLenNat x.natAbs : Int) := bit_len_cast x

/-- **`repr_eq::<false>` (the `==` of `Relaxed`) as regenerated = `Model.reprEq`** -/
theorem repr_eq_is_c05_model (n1 : Int) (d1 : Nat) (n2 : Int) (d2 : Nat) :
    q_repr_eq false ⟨n1, d1⟩ ⟨n2, d2⟩ = reprEq ⟨n1, d1⟩ ⟨n2, d2⟩ := by
  rw [repr_eq_is_cross_model, Cross.ratReprEq_eq_reprEq]

/-- **`PartialEq for RBig` as regenerated = `Model.rbigEq`** (structural) -/
theorem rbig_eq_is_c05_model (n1 : Int) (d1 : Nat) (n2 : Int) (d2 : Nat) :
    RBig_eq ⟨n1, d1⟩ ⟨n2, d2⟩ = rbigEq ⟨n1, d1⟩ ⟨n2, d2⟩ := by
  unfold RBig_eq rbigEq
  simp only [eq_int]
  rw [Bool.eq_iff_iff]
  simp only [Bool.and_eq_true, decide_eq_true_eq, beq_iff_eq]
  omega

/-- **`repr_cmp::<false>` as regenerated = `Model.reprCmp`** -/
theorem repr_cmp_is_c05_model (n1 : Int) (d1 : Nat) (n2 : Int) (d2 : Nat) :
    q_repr_cmp false ⟨n1, d1⟩ ⟨n2, d2⟩ = reprCmp ⟨n1, d1⟩ ⟨n2, d2⟩ := by
  rw [repr_cmp_is_cross_model, Cross.ratReprCmp_eq_reprCmp]

end c05

end Dashu.Props.GenRatCmp
