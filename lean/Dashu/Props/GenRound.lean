import Dashu.Gen.Round
import Dashu.Model.Float.Round
import Mathlib.Tactic.Ring
import Mathlib.Tactic.Linarith
/-
  Tie A theorems for C10 / C03: the six `round_low_part` decision tables, AS REGENERATED from
  /repo/float/src/round.rs on this run, pick the neighbour that the definition of each rounding
  mode names.

  Setting: the exact value is `x = n + f/d` with `d > 0`, `0 < |f| < d` (the code returns `NoOp`
  before consulting the table when the low part is zero).  The table sees `n`, the sign of `f` and
  the comparison of `|f|/d` with 1/2, and returns an adjustment; the rounded integer is `n + adj`.
  The specifications are relational and scaled by `d` so that they are statements about integers:
  with `N = n·d + f` (so `x = N/d`):
    floor r   :⇔ r·d ≤ N < (r+1)·d          ceil r :⇔ (r−1)·d < N ≤ r·d
    toward zero = floor for N ≥ 0, ceil for N < 0;  away = the other one
    nearest r :⇔ |2N − 2rd| ≤ d, and on a tie (= d): r even (HalfEven) / |r·d| > |N| (HalfAway)
  The generated text is read once, in `roundLowPart_eq` (the six tables in closed form: a mode either leaves `n` or moves
  it one step towards the low part, `bump`); `Moves` says in arithmetic terms when a mode moves, and `step_spec` is the one
  arithmetic fact: moving exactly then gives the neighbour the mode names.  The six `*_correct` theorems are its instances.
-/
namespace Dashu.Props.GenRound
open Dashu Dashu.Gen Dashu.GluePrelude

def adj : Rounding → Int
  | .NoOp => 0 | .AddOne => 1 | .SubOne => -1

def lowSign (f : Int) : Sign := if f < 0 then .Negative else .Positive
/-- the `low_half_test` closure's value: |f|/d compared with 1/2 -/
def halfTest (f d : Int) : Ordering := compare (2 * |f|) d

def IsFloor (N d r : Int) : Prop := r * d ≤ N ∧ N < (r + 1) * d
def IsCeil (N d r : Int) : Prop := (r - 1) * d < N ∧ N ≤ r * d
def IsTowardZero (N d r : Int) : Prop := if 0 ≤ N then IsFloor N d r else IsCeil N d r
def IsAwayFromZero (N d r : Int) : Prop := if 0 ≤ N then IsCeil N d r else IsFloor N d r
def IsNearestEven (N d r : Int) : Prop :=
  |2 * N - 2 * (r * d)| ≤ d ∧ (|2 * N - 2 * (r * d)| = d → r % 2 = 0)
def IsNearestAway (N d r : Int) : Prop :=
  |2 * N - 2 * (r * d)| ≤ d ∧ (|2 * N - 2 * (r * d)| = d → |N| < |r * d|)

/-- the specifications determine the result: two integers satisfying `IsFloor` are equal (the
    other specs are built from floor/ceil/nearest in the same way) — the spec is not vacuous. -/
theorem isFloor_unique (N d r r' : Int) (hd : 0 < d) (h : IsFloor N d r) (h' : IsFloor N d r') : r = r' := by
  unfold IsFloor at *
  have h1 : r * d < (r' + 1) * d := by linarith
  have h2 : r' * d < (r + 1) * d := by linarith
  have := lt_of_mul_lt_mul_right h1 (le_of_lt hd)
  have := lt_of_mul_lt_mul_right h2 (le_of_lt hd)
  omega

theorem ge0 (n : Int) : ge_ n (0 : Int) = decide (0 ≤ n) := by
  unfold ge_; rw [Bool.eq_iff_iff, bne_iff_ne, decide_eq_true_eq]; exact Int.compare_ne_lt
theorem le0 (n : Int) : le_ n (0 : Int) = decide (n ≤ 0) := by
  unfold le_; rw [Bool.eq_iff_iff, bne_iff_ne, decide_eq_true_eq]; exact Int.compare_ne_gt

theorem bit0 (n : Int) : bit n (0) = decide (n % 2 = 1) := by
  unfold bit; simp

end Dashu.Props.GenRound

namespace Dashu.Model.Float
open Dashu Dashu.Gen Dashu.GluePrelude Dashu.Props.GenRound

/-- one step in the direction of the low part -/
def dirOf : Sign → Rounding
  | .Positive => .AddOne | .Negative => .SubOne

/-- does mode `m` move the integer part `n` one step towards a low part of sign `s` whose magnitude compares with `1/2`
    as `t`?  (`outward`: the step leads away from zero.) -/
def bump (m : Mode) (n : Int) (s : Sign) (t : Ordering) : Bool :=
  let outward : Bool := match s with | .Positive => decide (0 ≤ n) | .Negative => decide (n ≤ 0)
  match m with
  | .down => decide (s = .Negative)
  | .up => decide (s = .Positive)
  | .zero => match s with | .Positive => decide (n < 0) | .Negative => decide (0 < n)
  | .away => outward
  | .halfEven => decide (t = .gt) || (decide (t = .eq) && decide (n % 2 = 1))
  | .halfAway => decide (t = .gt) || (decide (t = .eq) && outward)

/-- **the six regenerated tables in closed form**: the one place where the generated text is read.  The `simp` set
    holds every operator the tables may be written with (`==`, `is_zero`, `sign`, `>= 0`, `<= 0`, the parity bit), so the
    proof does not depend on which of them, or which arm order, the text of this run uses. -/
theorem roundLowPart_eq (m : Mode) (n : Int) (s : Sign) (t : Ordering) :
    roundLowPart m n s t = if bump m n s t then dirOf s else .NoOp := by
  rcases lt_trichotomy n 0 with hn | hn | hn
  · have h1 : ¬ 0 ≤ n := by omega
    have h2 : n ≤ 0 := by omega
    have h3 : n ≠ 0 := by omega
    have h4 : ¬ 0 < n := by omega
    cases m <;> cases s <;> cases t <;>
      simp [roundLowPart, bump, dirOf, round_low_part_Zero, round_low_part_Away, round_low_part_Up,
        round_low_part_Down, round_low_part_HalfAway, round_low_part_HalfEven, is_zero, sign, HasSign.sign, eq_, ge0, le0, bit0, hn, h1, h2, h3, h4]
  · subst hn
    cases m <;> cases s <;> cases t <;>
      simp [roundLowPart, bump, dirOf, round_low_part_Zero, round_low_part_Away, round_low_part_Up,
        round_low_part_Down, round_low_part_HalfAway, round_low_part_HalfEven, is_zero, sign, HasSign.sign, eq_, ge0, le0, bit0]
  · have h1 : 0 ≤ n := by omega
    have h2 : ¬ n ≤ 0 := by omega
    have h3 : n ≠ 0 := by omega
    have h4 : ¬ n < 0 := by omega
    cases m <;> cases s <;> cases t <;>
      simp [roundLowPart, bump, dirOf, round_low_part_Zero, round_low_part_Away, round_low_part_Up,
        round_low_part_Down, round_low_part_HalfAway, round_low_part_HalfEven, is_zero, sign, HasSign.sign, eq_, ge0, le0, bit0, hn, h1, h2, h3, h4]

end Dashu.Model.Float

namespace Dashu.Model.Float
open Dashu Dashu.Props.GenRound

/-- `r` is the neighbour of `N / d` named by the mode -/
def ModeSpec (m : Mode) (N d r : Int) : Prop :=
  match m with
  | .zero => IsTowardZero N d r
  | .away => IsAwayFromZero N d r
  | .up => IsCeil N d r
  | .down => IsFloor N d r
  | .halfEven => IsNearestEven N d r
  | .halfAway => IsNearestAway N d r

end Dashu.Model.Float

namespace Dashu.Props.GenRound
open Dashu Dashu.Gen Dashu.GluePrelude Dashu.Model.Float

/-- when mode `m` moves the integer part `n` of `n + f/d` one step towards the low part, in arithmetic terms -/
def Moves (m : Mode) (n f d : Int) : Prop :=
  match m with
  | .down => f < 0
  | .up => 0 < f
  | .zero => (0 < f ∧ n < 0) ∨ (f < 0 ∧ 0 < n)
  | .away => (0 < f ∧ 0 ≤ n) ∨ (f < 0 ∧ n ≤ 0)
  | .halfEven => d < 2 * |f| ∨ (2 * |f| = d ∧ n % 2 = 1)
  | .halfAway => d < 2 * |f| ∨ (2 * |f| = d ∧ ((0 < f ∧ 0 ≤ n) ∨ (f < 0 ∧ n ≤ 0)))

theorem bump_iff (m : Mode) (n f d : Int) (hf0 : f ≠ 0) :
    bump m n (lowSign f) (halfTest f d) = true ↔ Moves m n f d := by
  have hs : lowSign f = (if f < 0 then Sign.Negative else Sign.Positive) := rfl
  have hgt : halfTest f d = .gt ↔ d < 2 * |f| := compare_gt_iff_gt
  have heq : halfTest f d = .eq ↔ 2 * |f| = d := compare_eq_iff_eq
  rcases lt_or_gt_of_ne hf0 with h | h
  · have h' : ¬ 0 < f := by omega
    rw [hs, if_pos h]
    cases m <;> simp [bump, Moves, hgt, heq, h, h']
  · have h' : ¬ f < 0 := by omega
    rw [hs, if_neg h']
    cases m <;> simp [bump, Moves, hgt, heq, h, h']

theorem abs_lt_abs_iff (N G : Int) : |N| < |G| ↔ (N < G ∨ N < -G) ∧ (-N < G ∨ -N < -G) := by
  rw [abs_lt, lt_abs, neg_lt, lt_abs]; exact and_comm

/-- **moving one step towards the low part exactly when the mode says so gives the neighbour the mode names**:
    `N = n·d + f` with `0 < |f| < d`, `q = n` or `n ± 1` (the sign of `f`) -/
theorem step_spec (m : Mode) (n f d : Int) (hd : 0 < d) (hf0 : f ≠ 0) (hf : |f| < d) (b : Bool)
    (hb : b = true ↔ Moves m n f d) (q : Int) (hq : q = n + adj (if b then dirOf (lowSign f) else .NoOp)) :
    ModeSpec m (n * d + f) d q := by
  -- `n·d` is an atom for `omega`: it has the sign of `n` and magnitude at least `d` unless `n = 0`
  have hp : 0 < n → d ≤ n * d := fun h => by nlinarith
  have hn : n < 0 → n * d ≤ -d := fun h => by nlinarith
  have hz : n = 0 → n * d = 0 := fun h => by rw [h, zero_mul]
  have hl := abs_lt.mp hf
  have habs : ∀ a : Int, (|a| ≤ d ↔ -d ≤ a ∧ a ≤ d) ∧ (|a| = d ↔ a = d ∨ a = -d) := fun a => ⟨abs_le, abs_eq hd.le⟩
  subst hq
  rcases lt_or_gt_of_ne hf0 with h | h
  case' inl => have hs : lowSign f = .Negative := if_pos h; have ha := abs_of_neg h
  case' inr => have hs : lowSign f = .Positive := if_neg h.le.not_gt; have ha := abs_of_pos h
  all_goals
    rw [hs]
    cases b <;> cases m <;>
      simp only [Bool.false_eq_true, false_iff, true_iff, Moves, ha] at hb <;>
      simp only [Bool.false_eq_true, if_false, if_true, dirOf, adj, ModeSpec, IsFloor, IsCeil, IsTowardZero,
        IsAwayFromZero, IsNearestEven, IsNearestAway, habs, abs_lt_abs_iff, add_mul, sub_mul, neg_mul, one_mul, add_zero] <;>
      (try split) <;> omega

section
variable (n f d : Int) (hd : 0 < d) (hf0 : f ≠ 0) (hf : |f| < d)
include hd hf0 hf

/-- **the six regenerated tables name the neighbour their mode is defined by** -/
theorem roundLowPart_correct (m : Mode) :
    ModeSpec m (n * d + f) d (n + adj (roundLowPart m n (lowSign f) (halfTest f d))) :=
  step_spec m n f d hd hf0 hf _ (bump_iff m n f d hf0) _
    (congrArg (n + adj ·) (roundLowPart_eq m n (lowSign f) (halfTest f d)))

/-- mode Down = floor -/
theorem down_correct :
    IsFloor (n * d + f) d (n + adj (round_low_part_Down n (lowSign f) (halfTest f d))) :=
  roundLowPart_correct n f d hd hf0 hf .down

/-- mode Up = ceiling -/
theorem up_correct :
    IsCeil (n * d + f) d (n + adj (round_low_part_Up n (lowSign f) (halfTest f d))) :=
  roundLowPart_correct n f d hd hf0 hf .up

/-- mode Zero = toward zero -/
theorem zero_correct :
    IsTowardZero (n * d + f) d (n + adj (round_low_part_Zero n (lowSign f) (halfTest f d))) :=
  roundLowPart_correct n f d hd hf0 hf .zero

/-- mode Away = away from zero -/
theorem away_correct :
    IsAwayFromZero (n * d + f) d (n + adj (round_low_part_Away n (lowSign f) (halfTest f d))) :=
  roundLowPart_correct n f d hd hf0 hf .away

/-- mode HalfEven = nearest, ties to even -/
theorem half_even_correct :
    IsNearestEven (n * d + f) d (n + adj (round_low_part_HalfEven n (lowSign f) (halfTest f d))) :=
  roundLowPart_correct n f d hd hf0 hf .halfEven

/-- mode HalfAway = nearest, ties away from zero -/
theorem half_away_correct :
    IsNearestAway (n * d + f) d (n + adj (round_low_part_HalfAway n (lowSign f) (halfTest f d))) :=
  roundLowPart_correct n f d hd hf0 hf .halfAway

end

-- non-vacuity on ties: 7/2 = 3 + 1/2 (n = 3, f = 1, d = 2) goes to 4 under HalfEven, −7/2 to −4 under HalfAway,
-- 5/2 stays at 2 under HalfEven
example : (3 : Int) + adj (round_low_part_HalfEven 3 (lowSign 1) (halfTest 1 2)) = 4 := by decide
example : (-3 : Int) + adj (round_low_part_HalfAway (-3) (lowSign (-1)) (halfTest (-1) 2)) = -4 := by decide
example : (2 : Int) + adj (round_low_part_HalfEven 2 (lowSign 1) (halfTest 1 2)) = 2 := by decide

end Dashu.Props.GenRound
