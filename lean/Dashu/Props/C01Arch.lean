import Dashu.Proofs.Int.Word
import Dashu.Props.C19Arch
/-
  C01 ↔ C19 link, for the arch intrinsics (`add_with_carry`, `sub_with_borrow`) that C01 takes at their
  documented contracts: the word-level loops of `Model/Int/Word.lean` write the carry step of
  `arch::add::add_with_carry` / `sub_with_borrow` as `s % 2^W`, `s / 2^W`.  C19 regenerates the bodies of those two
  routines from integer/src/arch/{generic,x86,x86_64}/add.rs on every run (`Gen/ArchAdd.lean`) and proves their carry
  arithmetic.  Here: the loops of add.rs `add_same_len_in_place` / `sub_same_len_in_place` /
  `sub_same_len_in_place_swap`, written over the REGENERATED routine (a `(Word, Word, bool) -> (Word, bool)` function,
  Boolean carry, exactly the Rust loop), compute what the model's `addSameLen` / `subSameLen` / `subSameLenSwap`
  compute — for the generic routine at every word size, and for the intrinsic routines at 64 / 32 bits.
-/
namespace Dashu.Props.C01Arch
open Dashu.Model Dashu.Model.Arch Dashu.Gen.ArchAdd Dashu.Props.C19

/-- add.rs `add_same_len_in_place` over a given `arch::add::add_with_carry`:
    `for (a, b) in words.iter_mut().zip(rhs.iter()) { let (sum, c) = add_with_carry(*a, *b, carry); *a = sum; carry = c; }` -/
def addSameLenVia (awc : Nat → Nat → Bool → Nat × Bool) : List Nat → List Nat → Bool → List Nat × Bool
  | a :: as, b :: bs, c =>
    let p := awc a b c
    let q := addSameLenVia awc as bs p.2
    (p.1 :: q.1, q.2)
  | as, _, c => (as, c)

/-- add.rs `sub_same_len_in_place` over a given `arch::add::sub_with_borrow` -/
def subSameLenVia (swb : Nat → Nat → Bool → Nat × Bool) : List Nat → List Nat → Bool → List Nat × Bool
  | a :: as, b :: bs, c =>
    let p := swb a b c
    let q := subSameLenVia swb as bs p.2
    (p.1 :: q.1, q.2)
  | as, _, c => (as, c)

/-- add.rs `sub_same_len_in_place_swap` (`*b = diff`) over a given `arch::add::sub_with_borrow` -/
def subSameLenSwapVia (swb : Nat → Nat → Bool → Nat × Bool) : List Nat → List Nat → Bool → List Nat × Bool
  | a :: as, b :: bs, c =>
    let p := swb a b c
    let q := subSameLenSwapVia swb as bs p.2
    (p.1 :: q.1, q.2)
  | _, bs, c => (bs, c)

/-- the contract of `add_with_carry` at word size `W` (what C19 proves of every regenerated routine) -/
def AddContract (W : Nat) (awc : Nat → Nat → Bool → Nat × Bool) : Prop :=
  ∀ a b c, a < 2 ^ W → b < 2 ^ W →
    awc a b c = ((a + b + cin c) % 2 ^ W, decide ((a + b + cin c) / 2 ^ W ≠ 0))

/-- the contract of `sub_with_borrow` at word size `W` -/
def SubContract (W : Nat) (swb : Nat → Nat → Bool → Nat × Bool) : Prop :=
  ∀ a b c, a < 2 ^ W → b < 2 ^ W →
    swb a b c = ((a + 2 ^ (W + 1) - (b + cin c)) % 2 ^ W, decide (a < b + cin c))

theorem cin_le (c : Bool) : cin c ≤ 1 := by cases c <;> decide

theorem add_carry_num (W a b : Nat) (c : Bool) (ha : a < 2 ^ W) (hb : b < 2 ^ W) :
    cin (decide ((a + b + cin c) / 2 ^ W ≠ 0)) = (a + b + cin c) / 2 ^ W := by
  have hc := cin_le c
  have hdiv : (a + b + cin c) / 2 ^ W < 2 := Nat.div_lt_of_lt_mul (by omega)
  generalize (a + b + cin c) / 2 ^ W = q at hdiv ⊢
  obtain rfl | rfl : q = 0 ∨ q = 1 := by omega
  · rfl
  · rfl

theorem sub_borrow_num (W a b : Nat) (c : Bool) (ha : a < 2 ^ W) (hb : b < 2 ^ W) :
    (a + 2 ^ (W + 1) - (b + cin c)) % 2 ^ W = (a + 2 ^ W - b - cin c) % 2 ^ W ∧
    cin (decide (a < b + cin c)) = 1 - (a + 2 ^ W - b - cin c) / 2 ^ W := by
  have hc := cin_le c
  generalize cin c = k at hc ⊢
  have hle : b + k ≤ a + 2 ^ W := by omega
  rw [Nat.pow_succ, Nat.mul_two, ← Nat.add_assoc a, Nat.sub_add_comm hle, Nat.add_mod_right, Nat.sub_sub]
  refine ⟨rfl, ?_⟩
  have hd := Nat.sub_add_cancel hle
  generalize a + 2 ^ W - (b + k) = d at hd ⊢
  by_cases h : a < b + k
  · rw [decide_eq_true h, Nat.div_eq_of_lt (by omega)]
    rfl
  · rw [decide_eq_false h, Nat.div_eq_of_lt_le (k := 1) (by omega) (by omega)]
    rfl

/-- a routine meeting the `add_with_carry` contract returns the digit and (as a number) the carry the model writes -/
theorem add_step {W : Nat} {awc : Nat → Nat → Bool → Nat × Bool} (h : AddContract W awc) (a b : Nat) (c : Bool)
    (ha : a < 2 ^ W) (hb : b < 2 ^ W) :
    (awc a b c).1 = (a + b + cin c) % 2 ^ W ∧ cin (awc a b c).2 = (a + b + cin c) / 2 ^ W := by
  rw [h a b c ha hb]
  exact ⟨rfl, add_carry_num W a b c ha hb⟩

/-- likewise the digit and the borrow of a routine meeting the `sub_with_borrow` contract -/
theorem sub_step {W : Nat} {swb : Nat → Nat → Bool → Nat × Bool} (h : SubContract W swb) (a b : Nat) (c : Bool)
    (ha : a < 2 ^ W) (hb : b < 2 ^ W) :
    (swb a b c).1 = (a + 2 ^ W - b - cin c) % 2 ^ W ∧
    cin (swb a b c).2 = 1 - (a + 2 ^ W - b - cin c) / 2 ^ W := by
  rw [h a b c ha hb]
  exact sub_borrow_num W a b c ha hb

/-- `add_same_len_in_place`: the Rust loop over ANY routine meeting the `add_with_carry` contract is the model's
    `addSameLen` (digits, and the Boolean carry-out is the numeric one) -/
theorem add_same_len_via (W : Nat) (awc : Nat → Nat → Bool → Nat × Bool) (h : AddContract W awc) :
    ∀ (as bs : List Nat) (c : Bool), IsWords W as → IsWords W bs →
      addSameLen W as bs (cin c) =
        ((addSameLenVia awc as bs c).1, cin (addSameLenVia awc as bs c).2)
  | [], [], _, _, _ => rfl
  | [], _ :: _, _, _, _ => rfl
  | _ :: _, [], _, _, _ => rfl
  | a :: as, b :: bs, c, hA, hB => by
    obtain ⟨e1, e2⟩ := add_step h a b c hA.head hB.head
    simp only [addSameLen, addSameLenVia, ← e1, ← e2,
      add_same_len_via W awc h as bs (awc a b c).2 hA.tail hB.tail]

/-- `sub_same_len_in_place` likewise -/
theorem sub_same_len_via (W : Nat) (swb : Nat → Nat → Bool → Nat × Bool) (h : SubContract W swb) :
    ∀ (as bs : List Nat) (c : Bool), IsWords W as → IsWords W bs →
      subSameLen W as bs (cin c) =
        ((subSameLenVia swb as bs c).1, cin (subSameLenVia swb as bs c).2)
  | [], [], _, _, _ => rfl
  | [], _ :: _, _, _, _ => rfl
  | _ :: _, [], _, _, _ => rfl
  | a :: as, b :: bs, c, hA, hB => by
    obtain ⟨e1, e2⟩ := sub_step h a b c hA.head hB.head
    simp only [subSameLen, subSameLenVia, ← e1, ← e2,
      sub_same_len_via W swb h as bs (swb a b c).2 hA.tail hB.tail]

/-- `sub_same_len_in_place_swap` likewise -/
theorem sub_same_len_swap_via (W : Nat) (swb : Nat → Nat → Bool → Nat × Bool) (h : SubContract W swb) :
    ∀ (as bs : List Nat) (c : Bool), IsWords W as → IsWords W bs →
      subSameLenSwap W as bs (cin c) =
        ((subSameLenSwapVia swb as bs c).1, cin (subSameLenSwapVia swb as bs c).2)
  | [], [], _, _, _ => rfl
  | [], _ :: _, _, _, _ => rfl
  | _ :: _, [], _, _, _ => rfl
  | a :: as, b :: bs, c, hA, hB => by
    obtain ⟨e1, e2⟩ := sub_step h a b c hA.head hB.head
    simp only [subSameLenSwap, subSameLenSwapVia, ← e1, ← e2,
      sub_same_len_swap_via W swb h as bs (swb a b c).2 hA.tail hB.tail]

/-- C19's theorems, as contracts: the regenerated generic routines meet them at EVERY word size, the regenerated
    intrinsic routines at 64 (x86_64) and 32 (x86) bits -/
theorem regenerated_routines_meet_contract :
    (∀ W, AddContract W (generic_add_with_carry W) ∧ SubContract W (generic_sub_with_borrow W)) ∧
    (AddContract 64 x86_64_add_with_carry ∧ SubContract 64 x86_64_sub_with_borrow) ∧
    (AddContract 32 x86_add_with_carry ∧ SubContract 32 x86_sub_with_borrow) := by
  have g : ∀ W, AddContract W (generic_add_with_carry W) ∧ SubContract W (generic_sub_with_borrow W) :=
    fun W => ⟨fun a b c ha hb => (generic_add_with_carry_spec W a b c ha hb).1, generic_sub_with_borrow_spec W⟩
  exact ⟨g,
    ⟨fun a b c ha hb => ((intrinsic_routines_eq_generic a b c).1 ha hb).1.trans ((g 64).1 a b c ha hb),
     fun a b c ha hb => ((intrinsic_routines_eq_generic a b c).1 ha hb).2.trans ((g 64).2 a b c ha hb)⟩,
    ⟨fun a b c ha hb => ((intrinsic_routines_eq_generic a b c).2 ha hb).1.trans ((g 32).1 a b c ha hb),
     fun a b c ha hb => ((intrinsic_routines_eq_generic a b c).2 ha hb).2.trans ((g 32).2 a b c ha hb)⟩⟩

/-- the three same-length loops of add.rs over ANY pair of routines meeting the contracts, started with
    `carry = false`, are the model's loops started with carry 0 -/
theorem word_loops_via (W : Nat) (awc swb : Nat → Nat → Bool → Nat × Bool) (ha : AddContract W awc)
    (hs : SubContract W swb) (as bs : List Nat) (hA : IsWords W as) (hB : IsWords W bs) :
    addSameLen W as bs 0 = ((addSameLenVia awc as bs false).1, cin (addSameLenVia awc as bs false).2) ∧
    subSameLen W as bs 0 = ((subSameLenVia swb as bs false).1, cin (subSameLenVia swb as bs false).2) ∧
    subSameLenSwap W as bs 0 = ((subSameLenSwapVia swb as bs false).1, cin (subSameLenSwapVia swb as bs false).2) :=
  ⟨add_same_len_via W awc ha as bs false hA hB, sub_same_len_via W swb hs as bs false hA hB,
   sub_same_len_swap_via W swb hs as bs false hA hB⟩

/-- LINK C01 ↔ C19 (Tie A below the word loops): `add_same_len_in_place` / `sub_same_len_in_place` /
    `sub_same_len_in_place_swap` of add.rs, run over the `add_with_carry` / `sub_with_borrow` bodies REGENERATED from
    arch/generic/add.rs (every word size) and from arch/x86_64/add.rs (the native build the correspondence runs; one
    `_addcarry_u64` / `_subborrow_u64` each), started with `carry = false`, are the model's
    `addSameLen W · · 0` / `subSameLen W · · 0` / `subSameLenSwap W · · 0` that every C01 theorem is about. -/
theorem word_loops_over_regenerated_arch (W : Nat) (as bs : List Nat) (hA : IsWords W as) (hB : IsWords W bs) :
    addSameLen W as bs 0 = ((addSameLenVia (generic_add_with_carry W) as bs false).1,
                            cin (addSameLenVia (generic_add_with_carry W) as bs false).2) ∧
    subSameLen W as bs 0 = ((subSameLenVia (generic_sub_with_borrow W) as bs false).1,
                            cin (subSameLenVia (generic_sub_with_borrow W) as bs false).2) ∧
    subSameLenSwap W as bs 0 = ((subSameLenSwapVia (generic_sub_with_borrow W) as bs false).1,
                                cin (subSameLenSwapVia (generic_sub_with_borrow W) as bs false).2) ∧
    (W = 64 →
      addSameLen W as bs 0 = ((addSameLenVia x86_64_add_with_carry as bs false).1,
                              cin (addSameLenVia x86_64_add_with_carry as bs false).2) ∧
      subSameLen W as bs 0 = ((subSameLenVia x86_64_sub_with_borrow as bs false).1,
                              cin (subSameLenVia x86_64_sub_with_borrow as bs false).2) ∧
      subSameLenSwap W as bs 0 = ((subSameLenSwapVia x86_64_sub_with_borrow as bs false).1,
                                  cin (subSameLenSwapVia x86_64_sub_with_borrow as bs false).2)) ∧
    (W = 32 →
      addSameLen W as bs 0 = ((addSameLenVia x86_add_with_carry as bs false).1,
                              cin (addSameLenVia x86_add_with_carry as bs false).2) ∧
      subSameLen W as bs 0 = ((subSameLenVia x86_sub_with_borrow as bs false).1,
                              cin (subSameLenVia x86_sub_with_borrow as bs false).2) ∧
      subSameLenSwap W as bs 0 = ((subSameLenSwapVia x86_sub_with_borrow as bs false).1,
                                  cin (subSameLenSwapVia x86_sub_with_borrow as bs false).2)) := by
  obtain ⟨hg, h64, h32⟩ := regenerated_routines_meet_contract
  obtain ⟨ga, gs, gw⟩ := word_loops_via W _ _ (hg W).1 (hg W).2 as bs hA hB
  refine ⟨ga, gs, gw, ?_, ?_⟩
  · rintro rfl
    exact word_loops_via 64 _ _ h64.1 h64.2 as bs hA hB
  · rintro rfl
    exact word_loops_via 32 _ _ h32.1 h32.2 as bs hA hB

/-- the single steps at all other call sites (`add_dword_in_place` / `sub_dword_in_place` second word,
    `add_mul_chunk` / `sub_mul_chunk` top word `c[i + n]`, Karatsuba / Toom-3 carry words): the regenerated routine
    returns exactly the expressions the model writes there — digit `s % 2^W`, carry `s / 2^W` with `s = a + b + carry`;
    digit `d % 2^W`, borrow `1 - d / 2^W` with `d = a + 2^W - b - borrow` — and the x86_64 / x86 intrinsic routines
    are that same function at their word size -/
theorem arch_step_is_model_step (W a b : Nat) (c : Bool) (ha : a < 2 ^ W) (hb : b < 2 ^ W) :
    (generic_add_with_carry W a b c).1 = (a + b + cin c) % 2 ^ W ∧
    cin (generic_add_with_carry W a b c).2 = (a + b + cin c) / 2 ^ W ∧
    (generic_sub_with_borrow W a b c).1 = (a + 2 ^ W - b - cin c) % 2 ^ W ∧
    cin (generic_sub_with_borrow W a b c).2 = 1 - (a + 2 ^ W - b - cin c) / 2 ^ W ∧
    (W = 64 → x86_64_add_with_carry a b c = generic_add_with_carry W a b c ∧
              x86_64_sub_with_borrow a b c = generic_sub_with_borrow W a b c) ∧
    (W = 32 → x86_add_with_carry a b c = generic_add_with_carry W a b c ∧
              x86_sub_with_borrow a b c = generic_sub_with_borrow W a b c) := by
  obtain ⟨hg, _, _⟩ := regenerated_routines_meet_contract
  obtain ⟨a1, a2⟩ := add_step (hg W).1 a b c ha hb
  obtain ⟨s1, s2⟩ := sub_step (hg W).2 a b c ha hb
  refine ⟨a1, a2, s1, s2, ?_, ?_⟩
  · rintro rfl
    exact (intrinsic_routines_eq_generic a b c).1 ha hb
  · rintro rfl
    exact (intrinsic_routines_eq_generic a b c).2 ha hb

/-- non-vacuity: word lists meeting the hypotheses on which the carry / borrow runs through every position and out
    of the top (the x86_64 routine at 64 bits) -/
example : IsWords 64 [2 ^ 64 - 1, 2 ^ 64 - 1, 2 ^ 64 - 1] ∧ IsWords 64 [1, 0, 0] ∧
    addSameLenVia x86_64_add_with_carry [2 ^ 64 - 1, 2 ^ 64 - 1, 2 ^ 64 - 1] [1, 0, 0] false = ([0, 0, 0], true) ∧
    addSameLen 64 [2 ^ 64 - 1, 2 ^ 64 - 1, 2 ^ 64 - 1] [1, 0, 0] 0 = ([0, 0, 0], 1) ∧
    subSameLenVia x86_64_sub_with_borrow [0, 0, 0] [1, 0, 0] false = ([2 ^ 64 - 1, 2 ^ 64 - 1, 2 ^ 64 - 1], true) ∧
    subSameLen 64 [0, 0, 0] [1, 0, 0] 0 = ([2 ^ 64 - 1, 2 ^ 64 - 1, 2 ^ 64 - 1], 1) ∧
    (2 ^ 64 - 1 < 2 ^ 64 ∧ x86_64_add_with_carry (2 ^ 64 - 1) (2 ^ 64 - 1) true = (2 ^ 64 - 1, true) ∧
      x86_64_sub_with_borrow 0 (2 ^ 64 - 1) true = (0, true)) := by decide

end Dashu.Props.C01Arch
