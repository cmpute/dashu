import Dashu.Proofs.Conv.Ratio
import Dashu.Proofs.Conv.FloatTo
import Dashu.Proofs.Conv.Fast
import Dashu.Proofs.Conv.TryTo
import Dashu.Proofs.Conv.Modes
import Dashu.Proofs.Float.FBigOps
import Dashu.Proofs.Conv.Base
import Dashu.Proofs.Conv.ModeFlag
import Dashu.Proofs.Conv.ToFloat
import Dashu.Proofs.Conv.ToFloatHalf
import Dashu.Proofs.Conv.RangeExit
import Dashu.Proofs.Conv.RangeExitModes
/-
  C06 — Conversions are lossless or refused; lossy ones are correctly rounded and say so.

  Property theorems only (helper lemmas live in `Dashu/Proofs/Conv`).  A float is its bit pattern.
  `ieeeRound F m e` is the specification: the bit pattern of round-to-nearest-even of `m·2^e` in
  format `F` (overflow to ±∞, gradual underflow) and the sign of `result − exact`.
  `encodeFixed`, `toF64 _ true`, `ubigTryFromFloat`, … model the code of the CURRENT tree (after the
  `fix:` commits made from proposed_fixes/c06-*.diff); `encodeAsIs`, `toF64SmallAsIs`,
  `ubigTryFromFloatAsIs`, `ratToFloatAsIs` model the pinned code before those commits and only
  appear in counterexample theorems, which record why the repairs were needed.
-/
namespace Dashu.Props.C06
open Dashu.Model Dashu.Model.Conv Dashu.Model.Float Dashu.Props.GenRound

/-! ### What the specification means -/

/-- the rounding used by the spec is a nearest integer … -/
theorem spec_rounding_is_nearest (num den : Nat) (hd : 0 < den) :
    2 * (rneDiv num den * den) ≤ 2 * num + den ∧ 2 * num ≤ 2 * (rneDiv num den * den) + den :=
  rneDiv_half num den hd

/-- … and an exact tie goes to the even neighbour -/
theorem spec_rounding_ties_to_even (num den : Nat) (h : 2 * (num % den) = den) :
    rneDiv num den % 2 = 0 := by
  unfold rneDiv
  simp only
  split_ifs <;> omega


/-- the bit patterns the spec produces mean what IEEE 754 says: `decode` of the fields
    (sign, exponent field `E`, mantissa field `M`) is `±M·2^qmin` for `E = 0`, `±(2^MB+M)·2^(qmin+E-1)`
    otherwise, and NaN / ±∞ (all-ones exponent) are refused -/
theorem decode_reads_fields_f32 (s E M : Nat) (hs : s < 2) (hE : E < 2 ^ 8) (hM : M < 2 ^ 23) :
    decode f32Dec (fields .binary32 s E M) =
      if E = 2 ^ 8 - 1 then (if M ≠ 0 then .error .nan else .error .infinite)
      else .ok ((if s > 0 then -1 else 1) * ((if E = 0 then M else 2 ^ 23 + M : Nat) : Int),
                if E = 0 then Ieee.binary32.qmin else Ieee.binary32.qmin + E - 1) :=
  decode_fields f32Dec .binary32 f32Dec_compat s E M hs hE hM

theorem decode_reads_fields_f64 (s E M : Nat) (hs : s < 2) (hE : E < 2 ^ 11) (hM : M < 2 ^ 52) :
    decode f64Dec (fields .binary64 s E M) =
      if E = 2 ^ 11 - 1 then (if M ≠ 0 then .error .nan else .error .infinite)
      else .ok ((if s > 0 then -1 else 1) * ((if E = 0 then M else 2 ^ 52 + M : Nat) : Int),
                if E = 0 then Ieee.binary64.qmin else Ieee.binary64.qmin + E - 1) :=
  decode_fields f64Dec .binary64 f64Dec_compat s E M hs hE hM

/-- the specification used for rationals and floats of any base (`ieeeRoundRat`) extends the one of
    `encode`: on `num / 2^j` it is `ieeeRound num (-j)` -/
theorem spec_rational_extends_dyadic (F : Ieee) (num : Int) (j : Nat) :
    ieeeRoundRat F .halfEven num (2 ^ j) = ieeeRound F num (-(j : Int)) :=
  ieeeRoundRat_dyadic F num j

/-! ### `encode` (base/src/bit.rs) — the centre of C06 -/

/-- **encode_correct**, `f32` (body of the current tree, fix commit 6967148): for EVERY `i32`
    mantissa and EVERY exponent the result is the IEEE round-to-nearest-even bit pattern of `m·2^e`
    (normal, subnormal, ±∞, ±0) with the true sign of the error; no panic. -/
theorem encode_correct_f32 (m e : Int) (hm : -2 ^ 31 ≤ m ∧ m < 2 ^ 31) :
    encodeFixed f32Fixed m e = .ok (ieeeRound .binary32 m e) :=
  encodeFixed_correct f32Fixed .binary32 f32Fixed_compatible m e (by
    show m.natAbs ≤ 2 ^ 31; omega)


/-- **encode_correct**, `f64`, every `i64` mantissa and every exponent. -/
theorem encode_correct_f64 (m e : Int) (hm : -2 ^ 63 ≤ m ∧ m < 2 ^ 63) :
    encodeFixed f64Fixed m e = .ok (ieeeRound .binary64 m e) :=
  encodeFixed_correct f64Fixed .binary64 f64Fixed_compatible m e (by
    show m.natAbs ≤ 2 ^ 63; omega)


/-- the same theorem for any format/constants pair satisfying the stated relations
    (so a future `f16`/`f128` block is covered by checking `Compatible` — a `decide`) -/
theorem encode_correct_generic (c : EncConsts) (F : Ieee) (hc : Compatible c F) (m e : Int)
    (hm : m.natAbs ≤ 2 ^ (c.N - 1)) : encodeFixed c m e = .ok (ieeeRound F m e) :=
  encodeFixed_correct c F hc m e hm

-- non-vacuity: the hypotheses hold for concrete non-trivial inputs (a tie in the subnormal band)
example : (-2 ^ 31 : Int) ≤ 3 ∧ (3 : Int) < 2 ^ 31 ∧
    encodeFixed f32Fixed 3 (-151) = .ok (1, .pos) := by decide +kernel

/-- **round trip** `encode (decode x) = Exact x` for every finite `f32` bit pattern (NaN/±∞ are
    refused by `decode`; `-0.0` returns as `+0.0` because `encode` documents `Exact(0)` for zero) -/
theorem encode_decode_roundtrip_f32 (s E M : Nat) (hs : s < 2) (hE : E < 2 ^ 8 - 1) (hM : M < 2 ^ 23) :
    ∃ m e, decode f32Dec (fields .binary32 s E M) = .ok (m, e) ∧
      encodeFixed f32Fixed m e = .ok (if E = 0 ∧ M = 0 then 0 else fields .binary32 s E M, .exact) :=
  encode_decode_roundtrip f32Fixed f32Dec .binary32 f32Fixed_compatible f32Dec_compat s E M hs hE hM

theorem encode_decode_roundtrip_f64 (s E M : Nat) (hs : s < 2) (hE : E < 2 ^ 11 - 1) (hM : M < 2 ^ 52) :
    ∃ m e, decode f64Dec (fields .binary64 s E M) = .ok (m, e) ∧
      encodeFixed f64Fixed m e = .ok (if E = 0 ∧ M = 0 then 0 else fields .binary64 s E M, .exact) :=
  encode_decode_roundtrip f64Fixed f64Dec .binary64 f64Fixed_compatible f64Dec_compat s E M hs hE hM

/-
  History of the repaired defect.  The full statement for the pinned code,
    theorem encode_correct_f32_pinned (m e) : encodeAsIs f32AsIs m e = .ok (ieeeRound .binary32 m e)
  is FALSE; the counterexamples below are kernel-checked (they are what `proposed_fixes/
  c06-encode-rounding.diff`, applied as commit 6967148, repaired).
-/

/-- the pinned `f32::encode` flagged an inexact result `Exact` (sticky mask `0x7f` skipped bit 7) -/
theorem encode_asis_f32_counterexample_flag :
    encodeAsIs f32AsIs (2 ^ 30 + 32) 0 = .ok (0x4e800000, .exact) ∧
    ieeeRound .binary32 (2 ^ 30 + 32) 0 = (0x4e800000, .neg) := by decide +kernel

/-- … and returned a WRONG VALUE when the skipped bit turned a non-tie into an apparent tie -/
theorem encode_asis_f32_counterexample_value :
    encodeAsIs f32AsIs (2 ^ 30 + 96) 0 = .ok (0x4e800000, .neg) ∧
    ieeeRound .binary32 (2 ^ 30 + 96) 0 = (0x4e800001, .pos) := by decide +kernel

theorem encode_asis_f64_counterexample_flag :
    encodeAsIs f64AsIs (2 ^ 62 + 256) 0 = .ok (0x43d0000000000000, .exact) ∧
    ieeeRound .binary64 (2 ^ 62 + 256) 0 = (0x43d0000000000000, .neg) := by decide +kernel

theorem encode_asis_f64_counterexample_value :
    encodeAsIs f64AsIs (2 ^ 62 + 768) 0 = .ok (0x43d0000000000000, .neg) ∧
    ieeeRound .binary64 (2 ^ 62 + 768) 0 = (0x43d0000000000001, .pos) := by decide +kernel

/-- subnormal branch: the mask `0xfffffff` skipped bit 28 of `shifted` -/
theorem encode_asis_f32_counterexample_subnormal :
    encodeAsIs f32AsIs 11 (-151) = .ok (2, .neg) ∧
    ieeeRound .binary32 11 (-151) = (3, .pos) := by decide +kernel

theorem encode_asis_f64_counterexample_subnormal :
    encodeAsIs f64AsIs 22 (-1077) = .ok (2, .neg) ∧
    ieeeRound .binary64 22 (-1077) = (3, .pos) := by decide +kernel

/-- the `f32` underflow test was one binade too coarse: `3·2^-151` must round to `2^-149` -/
theorem encode_asis_f32_counterexample_underflow :
    encodeAsIs f32AsIs 3 (-151) = .ok (0, .neg) ∧
    ieeeRound .binary32 3 (-151) = (1, .pos) := by decide +kernel

/-- exactly representable inputs that panicked (debug build): `-2^31·2^-180 = -2^-149` -/
theorem encode_asis_f32_counterexample_shift_panic :
    encodeAsIs f32AsIs (-2 ^ 31) (-180) = .error (.undocumented f32AsIs.siteShl) ∧
    ieeeRound .binary32 (-2 ^ 31) (-180) = (0x80000001, .exact) := by decide +kernel

theorem encode_asis_f64_counterexample_shift_panic :
    encodeAsIs f64AsIs (-2 ^ 63) (-1137) = .error (.undocumented f64AsIs.siteShl) ∧
    ieeeRound .binary64 (-2 ^ 63) (-1137) = (0x8000000000000001, .exact) := by decide +kernel

/-- `top_bit` overflowed `i16` for exponents close to `i16::MAX` -/
theorem encode_asis_counterexample_exponent_overflow :
    encodeAsIs f32AsIs 1 32767 = .error (.undocumented f32AsIs.siteAdd) ∧
    ieeeRound .binary32 1 32767 = (0x7f800000, .pos) ∧
    encodeAsIs f64AsIs 1 32767 = .error (.undocumented f64AsIs.siteAdd) ∧
    ieeeRound .binary64 1 32767 = (0x7ff0000000000000, .pos) := by decide +kernel

/-! ### integers → floats (integer/src/convert.rs) -/

/-- **sticky-bit lemma**: a magnitude with at least two bits below the precision may be replaced by
    (its top bits | "something non-zero was shifted out") — same rounded result, same error sign.
    This is what `to_f64_nontrivial` and the repaired `RBig::to_f64` rely on. -/
theorem sticky_bit_lemma (F : Ieee) (hF : F.Ok) (x s : Nat) (e : Int) (hx : x ≠ 0) (hs : 1 ≤ s)
    (hlen : F.prec + 2 + s ≤ bitLen x) :
    ieeeRoundMag F ((x / 2 ^ s) ||| (if x % 2 ^ s ≠ 0 then 1 else 0)) (e + s) = ieeeRoundMag F x e :=
  sticky_round F x s e hx hlen

/-- **`UBig::to_f64`** (current tree): correctly rounded with the true error sign, for every canonical
    magnitude — inline (`to_f64_small`) or heap of any length (`to_f64_nontrivial` → `encode`) —
    and every word size ≥ 32. -/
theorem ubig_to_f64_correct (W : Nat) (hW : 32 ≤ W) (r : TRepr) (hr : r.Canon W) :
    toF64 W true r = .ok (ieeeRound .binary64 (r.value W : Int) 0) := by
  cases r with
  | small d =>
    simp only [toF64, TRepr.value, if_true]
    rw [toF64Small_fixed_correct W d hr]
  | large ws =>
    simp only [toF64, TRepr.value, if_true]
    have hge := hr.large_ge
    have h64 : 2 ^ 64 ≤ val W ws := le_trans (pow_le_pow2 (by omega)) hge
    have := toFloatNontrivial_correct f64Fixed .binary64 f64Fixed_compatible 1024 63 (val W ws)
      (by decide) (by decide) (by decide) (by have := lt_bitLen_of_le h64; omega)
    exact this


/-- **`UBig::to_f32`**, 64-bit words (see `to_f32_small` note in the evidence for narrower words) -/
theorem ubig_to_f32_correct (W : Nat) (hW : 64 ≤ W) (r : TRepr) (hr : r.Canon W) :
    toF32 W true r = .ok (ieeeRound .binary32 (r.value W : Int) 0) := by
  cases r with
  | small d =>
    simp only [toF32, TRepr.value]
    rw [toF32Small_correct W d hW hr]
  | large ws =>
    simp only [toF32, TRepr.value, if_true]
    have hge := hr.large_ge
    have h32 : 2 ^ 32 ≤ val W ws := le_trans (pow_le_pow2 (by omega)) hge
    have := toFloatNontrivial_correct f32Fixed .binary32 f32Fixed_compatible 128 31 (val W ws)
      (by decide) (by decide) (by decide) (by have := lt_bitLen_of_le h32; omega)
    exact this


/-- `IBig::to_f32/to_f64` negate value and error sign of the magnitude's result -/
theorem ibig_to_float_sign (F : Ieee) (x : Nat) (e : Int) (hx : x ≠ 0) :
    ieeeRound F (-(x : Int)) e = signedApx F true (ieeeRound F (x : Int) e) :=
  ieeeRound_neg F x e hx

-- non-vacuity: a 3-word canonical value through the heap path
example : (TRepr.large [0, 1 <<< 10, 1]).Canon 64 ∧
    toF64 64 true (.large [0, 1 <<< 10, 1]) = .ok (0x47f0000000000000, .neg) := by decide +kernel

/-- the pinned `to_f64_small` reported `u128::MAX` as exactly `2^128` (repaired by commit e7f1714) -/
theorem to_f64_small_asis_counterexample :
    toF64SmallAsIs 64 (2 ^ 128 - 1) = (0x47f0000000000000, .exact) ∧
    ieeeRound .binary64 (2 ^ 128 - 1) 0 = (0x47f0000000000000, .pos) := by decide +kernel

/-- **`TryFrom<UBig> for f32`** (and `IBig`, which negates): whenever the bit-length rule
    (`bit_len ≤ 24`, or 25 bits and a power of two) lets a value through, the cast is exact.  The rule is
    conservative — `2^25` is refused although representable — which the property allows. -/
theorem ubig_try_to_f32_sound (x b : Nat) (h : ubigTryToFloat .binary32 x = .ok b) :
    ieeeRound .binary32 (x : Int) 0 = (b, .exact) :=
  ubigTryToFloat_sound .binary32 Ieee.binary32_ok (by decide) x b h

theorem ubig_try_to_f64_sound (x b : Nat) (h : ubigTryToFloat .binary64 x = .ok b) :
    ieeeRound .binary64 (x : Int) 0 = (b, .exact) :=
  ubigTryToFloat_sound .binary64 Ieee.binary64_ok (by decide) x b h

/-! ### floats → integers -/

/-- **`TryFrom<f32/f64> for UBig`** (current tree): NaN/±∞/negative ⇒ OutOfBounds, a fractional part ⇒
    LossOfPrecision, otherwise exactly the integer the float denotes -/
theorem ubig_try_from_float_exact_or_refused (d : DecConsts) (bits : Nat) :
    ((fun n : Nat => (n : Int)) <$> ubigTryFromFloat d bits) = intFromFloatSpec d false bits := by
  unfold ubigTryFromFloat intFromFloatSpec
  rcases decode d bits with c | ⟨man, exp⟩
  · rfl
  · simp only
    by_cases hneg : man < 0
    · simp [hneg]
    · have hm : (man.toNat : Int) = man := by omega
      simp only [hneg, if_false, Bool.not_false, true_and, decide_false, Bool.false_eq_true]
      by_cases he : exp ≥ 0
      · simp only [he, if_true, Nat.shiftLeft_eq]
        show Except.ok ((man.toNat * 2 ^ exp.toNat : Nat) : Int) = _
        push_cast; rw [hm]
      · simp only [he, if_false]
        generalize (-exp).toNat = k
        have hmod : (man.toNat % 2 ^ k ≠ 0) ↔ ¬ (man % 2 ^ k = 0) := by
          have h1 : ((man.toNat % 2 ^ k : Nat) : Int) = man % 2 ^ k := by
            push_cast; rw [hm]
          constructor
          · intro h hc; apply h; rw [hc] at h1; exact_mod_cast h1
          · intro h hc; apply h; rw [← h1, hc]; rfl
        by_cases hz : man % 2 ^ k = 0
        · have : ¬ (man.toNat % 2 ^ k ≠ 0) := fun h => hmod.mp h hz
          simp only [this, if_false, hz, if_true, Nat.shiftRight_eq_div_pow]
          show Except.ok ((man.toNat / 2 ^ k : Nat) : Int) = _
          push_cast; rw [hm]
        · have : man.toNat % 2 ^ k ≠ 0 := hmod.mpr hz
          rw [if_pos this, if_neg hz]
          rfl


theorem ibig_try_from_float_exact_or_refused (d : DecConsts) (bits : Nat) :
    ibigTryFromFloat d bits = intFromFloatSpec d true bits := by
  unfold ibigTryFromFloat intFromFloatSpec
  rcases decode d bits with c | ⟨man, exp⟩
  · rfl
  · simp only [Bool.not_true, Bool.false_eq_true, false_and, if_false]
    by_cases he : exp ≥ 0
    · simp [he]
    · simp only [he, if_false]
      generalize (-exp).toNat = k
      have hmod : (man.natAbs % 2 ^ k = 0) ↔ (man % 2 ^ k = 0) := by
        have h2 : (2 : Int) ^ k = ((2 ^ k : Nat) : Int) := by norm_cast
        rw [h2, ← Int.dvd_iff_emod_eq_zero, Int.natCast_dvd, Nat.dvd_iff_mod_eq_zero]
      by_cases hz : man % 2 ^ k = 0
      · have : ¬ (man.natAbs % 2 ^ k ≠ 0) := fun h => h (hmod.mpr hz)
        rw [if_neg this, if_pos hz]
      · have : man.natAbs % 2 ^ k ≠ 0 := fun h => hz (hmod.mp h)
        rw [if_pos this, if_neg hz]


/-- the pinned code converted `1.5f32` to `1` and `-1.5f32` to `-2` (repaired: fraction ⇒ refused) -/
theorem int_from_float_asis_counterexample :
    ubigTryFromFloatAsIs f32Dec 0x3fc00000 = .ok 1 ∧ intFromFloatSpec f32Dec false 0x3fc00000 = .error .lossOfPrecision ∧
    ibigTryFromFloatAsIs f32Dec 0xbfc00000 = .ok (-2) ∧ intFromFloatSpec f32Dec true 0xbfc00000 = .error .lossOfPrecision := by
  decide +kernel

/-! ### primitive integers ↔ big integers -/

/-- `try_to_unsigned::<T>` on a canonical magnitude succeeds iff the value fits the type, and
    returns it (word sizes that are a multiple of 8; `T` at most one word or a multiple of it) -/
theorem try_to_unsigned_in_range_iff (W bits : Nat) (hW : 8 ≤ W) (hW8 : W % 8 = 0) (hb8 : bits % 8 = 0)
    (hbits : bits ≤ W ∨ bits % W = 0) (r : TRepr) (hr : r.Canon W) :
    tryToUnsigned W bits r = if r.value W < 2 ^ bits then .ok (r.value W) else .error .outOfBounds :=
  tryToUnsigned_spec W bits hW hW8 hb8 hbits r hr

/-- `try_from_sign_magnitude` (every signed target): succeeds iff `±mag` is an `iN`, returns it -/
theorem try_from_sign_magnitude_in_range_iff (bits : Nat) (hb : 1 ≤ bits) (neg : Bool) (mag : Nat)
    (hm : mag < 2 ^ bits) :
    tryFromSignMagnitude bits neg mag =
      intoRangeSpec (-(2 ^ (bits - 1) : Int)) (2 ^ (bits - 1) - 1) (if neg then -(mag : Int) else mag) :=
  tryFromSignMagnitude_spec bits hb neg mag hm

/-- `to_sign_magnitude` of an `iN` (including `iN::MIN`) -/
theorem to_sign_magnitude_exact (bits : Nat) (hb : 1 ≤ bits) (x : Int)
    (hx : -(2 ^ (bits - 1) : Int) ≤ x ∧ x ≤ 2 ^ (bits - 1) - 1) :
    toSignMagnitude bits x = (decide (x < 0), x.natAbs) :=
  toSignMagnitude_spec bits hb x hx

/-- `From<uN> for UBig` keeps the value, and converting back returns it -/
theorem from_unsigned_roundtrip (W bits x : Nat) (hW : 1 ≤ W) (hx : x < 2 ^ bits) (hb : bits ≤ 2 * W) :
    (fromUnsigned W x).value W = x ∧ tryToUnsigned W bits (fromUnsigned W x) = .ok x :=
  ⟨(fromUnsigned_spec W x hW).1, unsigned_roundtrip W bits x hx hb⟩

-- non-vacuity: u128::MAX on 64-bit words, i8::MIN
example : tryToUnsigned 64 128 (fromUnsigned 64 (2 ^ 128 - 1)) = .ok (2 ^ 128 - 1) ∧
    tryFromSignMagnitude 8 true 128 = .ok (-128) ∧ tryFromSignMagnitude 8 false 128 = .error .outOfBounds := by
  decide +kernel

/-! ### rationals → floats (rational/src/convert.rs) -/

/-- **`RBig::to_f32`** (current tree, commit 1d8b6bc): for EVERY numerator and non-zero denominator the
    result is the IEEE round-to-nearest-even of the rational with the true error sign — quotient with
    two guard bits, sticky bit, a single rounding in `encode` (sticky lemma for non-dyadic quotients). -/
theorem rbig_to_f32_correct (num : Int) (den : Nat) (hden : den ≠ 0) :
    ratToFloatFixed rat32 (encodeFixed f32Fixed) num den = .ok (ieeeRoundRat .binary32 .halfEven num den) :=
  ratToFloatFixed_correct rat32 f32Fixed rat32_compat num den hden


/-- **`RBig::to_f64`** (current tree) -/
theorem rbig_to_f64_correct (num : Int) (den : Nat) (hden : den ≠ 0) :
    ratToFloatFixed rat64 (encodeFixed f64Fixed) num den = .ok (ieeeRoundRat .binary64 .halfEven num den) :=
  ratToFloatFixed_correct rat64 f64Fixed rat64_compat num den hden


/-- the pinned `RBig::to_f32` double-rounded: `100663301/4 = 25165825.25` went to `25165824`
    (repaired by commit 1d8b6bc: guard bits + sticky, then a single rounding in `encode`) -/
theorem rbig_to_f32_asis_counterexample :
    ratToFloatAsIs rat32 (encodeFixed f32Fixed) 100663301 4 = .ok (0x4bc00000, .neg) ∧
    ratToFloatFixed rat32 (encodeFixed f32Fixed) 100663301 4 = .ok (0x4bc00001, .pos) ∧
    ieeeRoundRat .binary32 .halfEven 100663301 4 = (0x4bc00001, .pos) := by decide +kernel

/-- … and `RBig::to_f64` sent `3/2^1076 = 1.5·2^-1075` to zero -/
theorem rbig_to_f64_asis_counterexample :
    ratToFloatAsIs rat64 (encodeFixed f64Fixed) 3 (2 ^ 1076) = .ok (0, .neg) ∧
    ratToFloatFixed rat64 (encodeFixed f64Fixed) 3 (2 ^ 1076) = .ok (1, .pos) ∧
    ieeeRoundRat .binary64 .halfEven 3 (2 ^ 1076) = (1, .pos) := by decide +kernel

/-! ## exactness-checked conversions between RBig, FBig, integers and primitive floats -/

/-- **`TryFrom<RBig> for IBig`** (rational in lowest terms): `Ok` exactly when the value is an integer,
    and then that integer; otherwise LossOfPrecision -/
theorem rbig_try_to_ibig_iff (num : Int) (den : Nat) (hden : den ≠ 0) (hco : Nat.Coprime num.natAbs den) :
    ratTryToIBig num den = if (den : Int) ∣ num then .ok (num / den) else .error .lossOfPrecision :=
  ratTryToIBig_spec num den hden hco

/-- **`TryFrom<RBig> for UBig`** (current tree, commit 9939d48) -/
theorem rbig_try_to_ubig_iff (num : Int) (den : Nat) (hden : den ≠ 0) (hco : Nat.Coprime num.natAbs den) :
    ratTryToUBig num den =
      if num < 0 then .error .outOfBounds
      else if (den : Int) ∣ num then .ok (num / den).toNat else .error .lossOfPrecision := by
  unfold ratTryToUBig
  by_cases hn : num < 0
  · simp [hn]
  · simp only [hn, if_false]
    by_cases h : den = 1
    · subst h; simp
    · have : ¬ ((den : Int) ∣ num) := fun hd => h ((coprime_int_iff num den hden hco).mp hd)
      rw [if_neg h, if_neg this]


/-- **`TryFrom<RBig> for uN/iN`**: an integer the type holds, or refused with the right kind -/
theorem rbig_try_to_prim_iff (lo hi : Int) (num : Int) (den : Nat) (hden : den ≠ 0)
    (hco : Nat.Coprime num.natAbs den) :
    ratTryToPrim lo hi num den =
      if (den : Int) ∣ num then intoRangeSpec lo hi (num / den) else .error .lossOfPrecision := by
  unfold ratTryToPrim
  rw [ratTryToIBig_spec num den hden hco]
  by_cases h : (den : Int) ∣ num
  · simp [h]
  · simp [h]


/-- **`RBig::to_int`**: truncation toward zero; `Exact` iff the value is an integer; the reported
    fraction is exactly the rest (`num = trunc·den + fract_num`, same denominator) -/
theorem rbig_to_int_truthful (num : Int) (den : Nat) (hden : 0 < den) :
    IsTowardZero num den (ratToInt num den).1 ∧
    ((ratToInt num den).2 = none ↔ (den : Int) ∣ num) ∧
    (∀ fn fd, (ratToInt num den).2 = some (fn, fd) → fd = den ∧ num = (ratToInt num den).1 * den + fn) := by
  have hq := qTrunc_spec num den hden
  have hdecomp := q_trunc_add_fract num den
  unfold qTrunc at hq
  unfold qTrunc qFractNum at hdecomp
  unfold ratToInt
  simp only
  by_cases h0 : Int.tmod num den = 0
  · simp only [h0, if_true]
    refine ⟨hq, ?_, ?_⟩
    · simp only [true_iff]
      exact Int.dvd_of_tmod_eq_zero h0
    · intro fn fd h; cases h
  · simp only [h0, if_false]
    refine ⟨hq, ?_, ?_⟩
    · constructor
      · intro h; cases h
      · intro h; exact absurd (Int.tmod_eq_zero_of_dvd h) h0
    · intro fn fd h
      simp only [Option.some.injEq, Prod.mk.injEq] at h
      obtain ⟨rfl, rfl⟩ := h
      exact ⟨rfl, hdecomp⟩


/-- **`RBig::try_from(f32/f64)`** is exact (`man·2^exp`), NaN/±∞ refused -/
theorem rbig_try_from_float_exact (d : DecConsts) (bits : Nat) (n : Int) (dn : Nat)
    (h : ratFromFloat d bits = .ok (n, dn)) :
    ∃ man exp, decode d bits = .ok (man, exp) ∧ 0 < dn ∧ (n : ℚ) / (dn : ℚ) = (man : ℚ) * bpowQ 2 exp := by
  unfold ratFromFloat at h
  rcases hdec : decode d bits with c | ⟨man, exp⟩
  · rw [hdec] at h; cases h
  · rw [hdec] at h
    simp only at h
    refine ⟨man, exp, rfl, ?_⟩
    by_cases h0 : man = 0
    · simp only [h0, if_true, Except.ok.injEq, Prod.mk.injEq] at h
      obtain ⟨rfl, rfl⟩ := h
      simp [h0]
    · simp only [h0, if_false] at h
      by_cases he : exp ≥ 0
      · simp only [he, if_true, Except.ok.injEq, Prod.mk.injEq] at h
        obtain ⟨rfl, rfl⟩ := h
        refine ⟨by decide, ?_⟩
        unfold bpowQ; simp [he]
      · simp only [he, if_false, Except.ok.injEq, Prod.mk.injEq] at h
        obtain ⟨rfl, rfl⟩ := h
        have hpos : 0 < 2 ^ (-exp).toNat := Nat.two_pow_pos _
        refine ⟨hpos, ?_⟩
        unfold bpowQ; simp [he]; ring


theorem rbig_try_from_float_refuses (d : DecConsts) (bits : Nat) (c : FpCategory)
    (h : decode d bits = .error c) : ratFromFloat d bits = .error .outOfBounds := by
  unfold ratFromFloat; rw [h]


/-- **`FBig::try_from(f32/f64)`**: exact value, normalised, precision = bit length of the mantissa -/
theorem fbig_try_from_float_exact (d : DecConsts) (bits : Nat) (r : FRepr) (p : Nat)
    (h : fbigFromFloat d bits = .ok (.finite r p)) :
    ∃ man exp, decode d bits = .ok (man, exp) ∧ r.toRat 2 = (man : ℚ) * bpowQ 2 exp ∧
      Normalized 2 r ∧ p = bitLen man.natAbs := by
  unfold fbigFromFloat at h
  rcases hdec : decode d bits with c | ⟨man, exp⟩
  · rw [hdec] at h; cases c <;> simp at h
  · rw [hdec] at h
    simp only [Except.ok.injEq, FBigFromFloat.finite.injEq] at h
    obtain ⟨rfl, rfl⟩ := h
    exact ⟨man, exp, rfl, FRepr.new_value 2 (by decide) man exp, FRepr.new_normalized 2 (by decide) man exp, rfl⟩


/-- **`TryFrom<FBig> for IBig`** (any base ≥ 2, normalised float): `Ok v` with the value `= v`, or
    LossOfPrecision and the value is no integer; infinities are out of bounds -/
theorem fbig_try_to_ibig_iff (B : Nat) (hB : 2 ≤ B) (r : FRepr) (hn : Normalized B r) :
    (FRepr.isInfinite r = true ∧ fbigTryToIBig B r = .error .outOfBounds) ∨
    (FRepr.isInfinite r = false ∧
      ((∃ v : Int, fbigTryToIBig B r = .ok v ∧ r.toRat B = (v : ℚ)) ∨
       (fbigTryToIBig B r = .error .lossOfPrecision ∧ ∀ v : Int, r.toRat B ≠ (v : ℚ)))) := by
  unfold fbigTryToIBig
  by_cases hi : FRepr.isInfinite r = true
  · left; simp [hi]
  · right
    have hi' : FRepr.isInfinite r = false := by simpa using hi
    refine ⟨hi', ?_⟩
    simp only [hi', Bool.false_eq_true, if_false]
    by_cases he : r.exp < 0
    · right
      simp only [he, if_true, true_and]
      have hs : r.signif ≠ 0 := by
        intro h0
        unfold FRepr.isInfinite at hi'
        simp [h0] at hi'
        omega
      exact not_int_of_neg_exp B hB r hn hs he
    · left
      simp only [he, if_false]
      exact ⟨_, rfl, toRat_nonneg_exp B r (by omega)⟩


/-- **`TryFrom<FBig> for UBig`**: succeeds only through the `IBig` conversion with a non-negative value -/
theorem fbig_try_to_ubig_sound (B : Nat) (r : FRepr) (v : Nat) (h : fbigTryToUBig B r = .ok v) :
    fbigTryToIBig B r = .ok (v : Int) := by
  unfold fbigTryToUBig at h
  rcases hh : fbigTryToIBig B r with e | w
  · rw [hh] at h; cases h
  · rw [hh] at h
    simp only at h
    by_cases hw : w < 0
    · simp [hw] at h
    · simp only [hw, if_false, Except.ok.injEq] at h
      congr 1; omega


/-- **`TryFrom<FBig> for uN / iN`** with any sound `log2_bounds` estimate: `Ok v` iff the value is the
    integer `v` and the type holds it -/
theorem fbig_try_to_prim_iff (B : Nat) (hB : 2 ≤ B) (unsigned : Bool) (lo hi : Int) (big : Bool) (r : FRepr)
    (hn : Normalized B r) (hlo : unsigned = true → lo = 0)
    (hbig : big = true → ∀ v : Int, r.toRat B = (v : ℚ) → ¬ (lo ≤ v ∧ v ≤ hi)) (v : Int) :
    fbigTryToPrim B unsigned lo hi big r = .ok v ↔
      (FRepr.isInfinite r = false ∧ r.toRat B = (v : ℚ) ∧ lo ≤ v ∧ v ≤ hi) := by
  unfold fbigTryToPrim
  by_cases hi' : FRepr.isInfinite r = true
  · simp [hi']
  have hinf : FRepr.isInfinite r = false := by simpa using hi'
  simp only [hinf, Bool.or_false, true_and]
  by_cases hneg : (unsigned && decide (r.signif < 0)) = true
  · simp only [hneg, if_true]
    constructor
    · intro h; cases h
    · rintro ⟨hv, hl, _⟩
      exfalso
      simp only [Bool.and_eq_true, decide_eq_true_eq] at hneg
      have hlo0 := hlo hneg.1
      -- a negative significand gives a negative value
      have : r.toRat B < 0 := by
        unfold FRepr.toRat
        have hp := bpowQ_pos B (by omega) r.exp
        have : (r.signif : ℚ) < 0 := by exact_mod_cast hneg.2
        exact mul_neg_of_neg_of_pos this hp
      rw [hv] at this
      have : v < 0 := by exact_mod_cast this
      omega
  · simp only [hneg, Bool.false_eq_true, if_false]
    by_cases hb : big = true
    · simp only [hb, if_true]
      constructor
      · intro h; cases h
      · rintro ⟨hv, hr⟩
        exact absurd hr (hbig hb v hv)
    · simp only [hb, Bool.false_eq_true, if_false]
      by_cases he : r.exp < 0
      · simp only [he, if_true]
        constructor
        · intro h; cases h
        · rintro ⟨hv, _⟩
          exfalso
          have hs : r.signif ≠ 0 := by
            intro h0
            unfold FRepr.isInfinite at hinf
            simp [h0] at hinf
            omega
          exact not_int_of_neg_exp B hB r hn hs he v hv
      · simp only [he, if_false]
        have hval := toRat_nonneg_exp B r (by omega)
        unfold intoRangeSpec
        constructor
        · intro h
          split at h
          · rename_i hr
            simp only [Except.ok.injEq] at h
            subst h
            exact ⟨hval, hr⟩
          · cases h
        · rintro ⟨hv, hr⟩
          have : r.signif * (B : Int) ^ r.exp.toNat = v := by
            rw [hval] at hv; exact_mod_cast hv
          rw [this, if_pos hr]


/-- **`TryFrom<FBig> for RBig`**: exact -/
theorem fbig_to_rbig_exact (B : Nat) (hB : 2 ≤ B) (r : FRepr) (n : Int) (d : Nat)
    (h : fbigToRat B r = .ok (n, d)) : 0 < d ∧ r.toRat B = (n : ℚ) / (d : ℚ) := by
  unfold fbigToRat at h
  by_cases hi : FRepr.isInfinite r = true
  · simp [hi] at h
  · simp only [hi, Bool.false_eq_true, if_false] at h
    by_cases he : r.exp ≥ 0
    · simp only [he, if_true, Except.ok.injEq, Prod.mk.injEq] at h
      obtain ⟨rfl, rfl⟩ := h
      refine ⟨by decide, ?_⟩
      rw [toRat_nonneg_exp B r he]; simp
    · simp only [he, if_false, Except.ok.injEq, Prod.mk.injEq] at h
      obtain ⟨rfl, rfl⟩ := h
      have hpos : 0 < B ^ (-r.exp).toNat := Nat.pow_pos (by omega)
      refine ⟨hpos, ?_⟩
      have h1 := toRat_neg_exp B hB r (by omega)
      unfold pointUnit at h1
      have hne : ((B ^ (-r.exp).toNat : Nat) : ℚ) ≠ 0 := by exact_mod_cast (Nat.ne_of_gt hpos)
      rw [eq_div_iff hne]
      exact_mod_cast h1


/-- **`TryFrom<RBig> for f32`** (current tree, commit 90f3ba2): a success is exact -/
theorem rbig_try_to_f32_sound (num : Int) (den : Nat) (bits : Nat)
    (h : ratTryToFloat f32Fixed (-149) 128 num den = .ok (.ok bits)) :
    ieeeRoundRat .binary32 .halfEven num den = (bits, .exact) :=
  ratTryToFloat_sound f32Fixed .binary32 f32Fixed_compatible (-149) 128 num den bits h

theorem rbig_try_to_f64_sound (num : Int) (den : Nat) (bits : Nat)
    (h : ratTryToFloat f64Fixed (-1074) 1024 num den = .ok (.ok bits)) :
    ieeeRoundRat .binary64 .halfEven num den = (bits, .exact) :=
  ratTryToFloat_sound f64Fixed .binary64 f64Fixed_compatible (-1074) 1024 num den bits h

/-- **`FBig::to_int`** (mode of the type, via `fToInt` of Model/Float/RoundOps.lean): the integer the mode names for
    `signif / B^(-exp)`, always flagged inexact when fractional digits exist; **`Repr::to_int`** truncates -/
theorem fbig_to_int_follows_mode (B : Nat) (hB : 2 ≤ B) (c : Coarse) (hc : CoarseSound c) (dub : Int → Nat)
    (hdub : DubSound B dub) (x : FBigM) (he : x.repr.exp < 0) (m : Float.Mode) :
    ModeSpec m x.repr.signif (pointUnit B x.repr) (fToInt B m c dub x).1 ∧ (fToInt B m c dub x).2 ≠ none :=
  fToInt_spec B hB c hc dub hdub x he m

theorem repr_to_int_truncates (B : Nat) (hB : 2 ≤ B) (dub : Int → Nat) (hdub : DubSound B dub) (r : FRepr)
    (he : r.exp < 0) :
    IsTowardZero r.signif (pointUnit B r) (reprToInt B dub r).1 ∧ (reprToInt B dub r).2 = some .NoOp :=
  reprToInt_spec B hB dub hdub r he

/-! ## `FBig/Repr::to_f32/to_f64`, base 2: normal form and exact failing regions -/

/-- **double rounding lemma**: rounding to nearest-even twice (`k1` bits, then `k2 ≥ 1` more) equals the
    single rounding exactly outside `DoubleRoundBad` (first rounding inexact, lands on a midpoint of the
    second grid, tie rule to the wrong side) -/
theorem double_rounding_lemma (a k1 k2 : Nat) (hk2 : 1 ≤ k2) :
    rneDiv (rneDiv a (2 ^ k1)) (2 ^ k2) = rneDiv a (2 ^ (k1 + k2)) ↔ ¬ DoubleRoundBad a k1 k2 :=
  double_rne a k1 k2 hk2

/-- the first rounding (`Context::repr_round_ref` in base 2, all six modes, through the regenerated
    `round_low_part` tables) as a rounding of the magnitude -/
theorem fbig_first_rounding (m : Float.Mode) (c : Coarse) (hc : CoarseSound c) (p : Nat) (hp : 1 ≤ p) (s e : Int)
    (hodd : s % 2 = 1) :
    reprRound 2 m c p ⟨s, e⟩ =
      if bitLen s.natAbs ≤ p then (⟨s, e⟩, none)
      else
        let k := bitLen s.natAbs - p
        let rm := roundMagMode (convMode m) (decide (s < 0)) s.natAbs (2 ^ k)
        (FRepr.new 2 ((if s < 0 then -1 else 1) * (rm.1 : Int)) (e + (k : Int)), some (adjOfUp rm.2 (decide (s < 0)))) :=
  reprRound_two m c hc p hp s e hodd

/-- **normal form of `FBig::<R,2>::to_f32` (every mode R), `FBig::to_f64`, `Repr::to_f32/to_f64`**: the bits are
    the IEEE round-to-nearest-even of the value FIRST rounded to 24/53 bits in the mode of the type -/
theorem fbig_to_f64_normal_form (m : Float.Mode) (c : Coarse) (hc : CoarseSound c) (s e : Int) (hodd : s % 2 = 1) :
    fbigToFloat into64 m c ⟨s, e⟩ =
      .ok ((if s < 0 then Ieee.binary64.signBit else 0) +
            (ieeeRoundMag .binary64 (firstRound 53 m (decide (s < 0)) s.natAbs e).1
              (firstRound 53 m (decide (s < 0)) s.natAbs e).2.1).1,
           andThenFlag (firstRound 53 m (decide (s < 0)) s.natAbs e).2.2
             (intoFlag into64 (decide (s < 0)) (reachedRepr .binary64 m s e).exp
               (ieeeRoundMag .binary64 (firstRound 53 m (decide (s < 0)) s.natAbs e).1
                 (firstRound 53 m (decide (s < 0)) s.natAbs e).2.1).2)) :=
  fbigToFloat_normal into64 into64_compat m c hc s e hodd

theorem fbig_to_f32_normal_form (m : Float.Mode) (c : Coarse) (hc : CoarseSound c) (s e : Int) (hodd : s % 2 = 1) :
    fbigToFloat into32 m c ⟨s, e⟩ =
      .ok ((if s < 0 then Ieee.binary32.signBit else 0) +
            (ieeeRoundMag .binary32 (firstRound 24 m (decide (s < 0)) s.natAbs e).1
              (firstRound 24 m (decide (s < 0)) s.natAbs e).2.1).1,
           andThenFlag (firstRound 24 m (decide (s < 0)) s.natAbs e).2.2
             (intoFlag into32 (decide (s < 0)) (reachedRepr .binary32 m s e).exp
               (ieeeRoundMag .binary32 (firstRound 24 m (decide (s < 0)) s.natAbs e).1
                 (firstRound 24 m (decide (s < 0)) s.natAbs e).2.1).2)) :=
  fbigToFloat_normal into32 into32_compat m c hc s e hodd

/-- **value**: `FBig::to_f64` (every FBig of base 2; the conversion always rounds half-even) returns the
    correctly rounded double EXACTLY outside `ToFloatBad` = {more than 53 bits ∧ subnormal result ∧
    `DoubleRoundBad`} — the closed form of the recorded finding "subnormal double rounding" -/
theorem fbig_to_f64_value_iff (c : Coarse) (hc : CoarseSound c) (s e : Int) (hodd : s % 2 = 1)
    (bits : Nat) (fl : Option Float.Rounding) (h : fbigToFloat into64 .halfEven c ⟨s, e⟩ = .ok (bits, fl)) :
    bits = (ieeeRound .binary64 s e).1 ↔ ¬ ToFloatBad .binary64 s.natAbs e :=
  fbigToFloat_value_iff into64 into64_compat c hc s e hodd bits fl h

/-- the same for `Repr::<2>::to_f32` and `FBig<HalfEven, 2>::to_f32` -/
theorem fbig_to_f32_value_iff (c : Coarse) (hc : CoarseSound c) (s e : Int) (hodd : s % 2 = 1)
    (bits : Nat) (fl : Option Float.Rounding) (h : fbigToFloat into32 .halfEven c ⟨s, e⟩ = .ok (bits, fl)) :
    bits = (ieeeRound .binary32 s e).1 ↔ ¬ ToFloatBad .binary32 s.natAbs e :=
  fbigToFloat_value_iff into32 into32_compat c hc s e hodd bits fl h

/-- **flag**: where the value is right, the returned `Rounding` tells the truth EXACTLY outside
    `ToFloatFlagBad` = {`encode` rounded the magnitude up ∧ no overflow exit} — the closed form of the
    recorded finding "flag replaced by NoOp" -/
theorem fbig_to_f64_flag_iff (c : Coarse) (hc : CoarseSound c) (s e : Int) (hodd : s % 2 = 1)
    (bits : Nat) (fl : Option Float.Rounding) (h : fbigToFloat into64 .halfEven c ⟨s, e⟩ = .ok (bits, fl))
    (hgood : ¬ ToFloatBad .binary64 s.natAbs e) :
    fl = adjOfMag (decide (s < 0)) (ieeeRoundMag .binary64 s.natAbs e).2 ↔ ¬ ToFloatFlagBad into64 .halfEven s e :=
  fbigToFloat_flag_iff into64 into64_compat c hc s e hodd bits fl h hgood

theorem fbig_to_f32_flag_iff (c : Coarse) (hc : CoarseSound c) (s e : Int) (hodd : s % 2 = 1)
    (bits : Nat) (fl : Option Float.Rounding) (h : fbigToFloat into32 .halfEven c ⟨s, e⟩ = .ok (bits, fl))
    (hgood : ¬ ToFloatBad .binary32 s.natAbs e) :
    fl = adjOfMag (decide (s < 0)) (ieeeRoundMag .binary32 s.natAbs e).2 ↔ ¬ ToFloatFlagBad into32 .halfEven s e :=
  fbigToFloat_flag_iff into32 into32_compat c hc s e hodd bits fl h hgood

/-- both regions are inhabited (kernel-checked): `(2^54+1)·2^-1129` converts to 0 instead of `2^-1074`;
    `3·2^1023` overflows inside `encode` and is reported `Inexact(∞, NoOp)` -/
theorem fbig_to_f64_bad_regions_inhabited :
    ToFloatBad .binary64 (2 ^ 54 + 1) (-1129) ∧
    fbigToFloat into64 .halfEven coarseNone ⟨2 ^ 54 + 1, -1129⟩ = .ok (0, some .NoOp) ∧
    ieeeRound .binary64 (2 ^ 54 + 1) (-1129) = (1, .pos) ∧
    ¬ ToFloatBad .binary64 3 1023 ∧ ToFloatFlagBad into64 .halfEven 3 1023 ∧
    fbigToFloat into64 .halfEven coarseNone ⟨3, 1023⟩ = .ok (0x7ff0000000000000, some .NoOp) := by
  decide +kernel

/-! ## `RBig::to_f32_fast / to_f64_fast`: the bounded error -/

/-- outside its two early exits `to_f64_fast` returns the correctly rounded (`encode_correct`) float of
    `±m'·2^x`, where `m'` is the rounded quotient of the numerator truncated to 106 and the denominator
    truncated to 53 bits (`to_f32_fast`: 48 and 24) -/
theorem rbig_to_f64_fast_normal_form (num : Int) (den : Nat) (hnum : num ≠ 0) (hden : den ≠ 0)
    (h1 : ¬ (fastExp 53 num.natAbs den ≥ 1024)) (h2 : ¬ (fastExp 53 num.natAbs den < -1074 - 53 - 1)) :
    ratToFloatFast rat64 (encodeFixed f64Fixed) num den =
      .ok (ieeeRound .binary64
        (if decide (num < 0) then -((rneDiv (fastNum 53 num.natAbs (decide (num < 0))) (fastDen 53 den) : Nat) : Int)
         else ((rneDiv (fastNum 53 num.natAbs (decide (num < 0))) (fastDen 53 den) : Nat) : Int))
        (fastExp 53 num.natAbs den)).1 :=
  ratToFloatFast_main rat64 f64Fixed rat64_compat num den hnum hden h1 h2

theorem rbig_to_f32_fast_normal_form (num : Int) (den : Nat) (hnum : num ≠ 0) (hden : den ≠ 0)
    (h1 : ¬ (fastExp 24 num.natAbs den ≥ 128)) (h2 : ¬ (fastExp 24 num.natAbs den < -149 - 25 - 0)) :
    ratToFloatFast rat32 (encodeFixed f32Fixed) num den =
      .ok (ieeeRound .binary32
        (if decide (num < 0) then -((rneDiv (fastNum 24 num.natAbs (decide (num < 0))) (fastDen 24 den) : Nat) : Int)
         else ((rneDiv (fastNum 24 num.natAbs (decide (num < 0))) (fastDen 24 den) : Nat) : Int))
        (fastExp 24 num.natAbs den)).1 :=
  ratToFloatFast_main rat32 f32Fixed rat32_compat num den hnum hden h1 h2

/-- **bounded error**: that rounded quotient is within 4.5 units in its own last place of the exact
    quotient `|num|/den` scaled to the same exponent (every precision `p ≥ 1`, every operand size).  With
    `p` or `p+1` bits in `m'` this is < 2.5 resp. 2.25 ulps of the result before the (correct) rounding in
    `encode`, i.e. the result is at most 3 units away from the correctly rounded float in the normal range —
    not "one bit" as the doc comment says. -/
theorem rbig_to_float_fast_quotient_bound (p a den : Nat) (neg : Bool) (hp : 1 ≤ p) (ha : a ≠ 0) (hd : den ≠ 0) :
    |((rneDiv (fastNum p a neg) (fastDen p den) : Nat) : ℚ) -
      ((a : ℚ) / (den : ℚ)) / (2 : ℚ) ^ (fastExp p a den)| < 9 / 2 := by
  obtain ⟨hu1, hu2, hN⟩ := fastNum_bounds p a neg ha
  obtain ⟨hw1, hw2, hDlo⟩ := fastDen_bounds p den hp hd
  have hDpos : 0 < fastDen p den := lt_of_lt_of_le (Nat.two_pow_pos _) hDlo
  have hhalf := rneDiv_half (fastNum p a neg) (fastDen p den) hDpos
  have hN4 : fastNum p a neg ≤ 4 * fastDen p den * fastDen p den := by
    have h1 : 2 ^ (p - 1) * 2 ^ (p - 1) ≤ fastDen p den * fastDen p den := Nat.mul_le_mul hDlo hDlo
    have h2 : 2 ^ (2 * p) = 4 * (2 ^ (p - 1) * 2 ^ (p - 1)) := by
      rw [← pow_add, show (4 : Nat) = 2 ^ 2 by rfl, ← pow_add]; congr 1; omega
    calc fastNum p a neg ≤ 2 ^ (2 * p) := hN
      _ = 4 * (2 ^ (p - 1) * 2 ^ (p - 1)) := h2
      _ ≤ 4 * (fastDen p den * fastDen p den) := Nat.mul_le_mul_left _ h1
      _ = 4 * fastDen p den * fastDen p den := by ring
  have hq := quotient_error (fastNum p a neg) (fastDen p den) (rneDiv (fastNum p a neg) (fastDen p den))
    ((a : ℚ) / (2 : ℚ) ^ ((bitLen a : Int) - 2 * p)) ((den : ℚ) / (2 : ℚ) ^ ((bitLen den : Int) - p))
    hDpos hN4 hu1 hu2 hw1 hw2 hhalf.1 hhalf.2
  have hdq : (den : ℚ) ≠ 0 := by exact_mod_cast hd
  have h2 : (2 : ℚ) ≠ 0 := by norm_num
  have heq : (a : ℚ) / (2 : ℚ) ^ ((bitLen a : Int) - 2 * p) / ((den : ℚ) / (2 : ℚ) ^ ((bitLen den : Int) - p)) =
      ((a : ℚ) / (den : ℚ)) / (2 : ℚ) ^ (fastExp p a den) := by
    unfold fastExp
    rw [zpow_sub₀ h2 ((bitLen a : Int) - 2 * p) ((bitLen den : Int) - p)]
    have hA : (2 : ℚ) ^ ((bitLen a : Int) - 2 * p) ≠ 0 := zpow_ne_zero _ h2
    have hBq : (2 : ℚ) ^ ((bitLen den : Int) - p) ≠ 0 := zpow_ne_zero _ h2
    generalize (2 : ℚ) ^ ((bitLen a : Int) - 2 * p) = A at hA
    generalize (2 : ℚ) ^ ((bitLen den : Int) - p) = Bq at hBq
    field_simp
  rw [heq] at hq
  exact hq


/-! ## completeness of `TryFrom<RBig> for f32/f64`, `TryFrom<FBig> for f32/f64`, signed round trip -/

/-- **`TryFrom<RBig> for f32`** (current tree): for a rational in lowest terms the conversion succeeds IFF the
    value is exactly representable, and then returns exactly that float (soundness + completeness) -/
theorem rbig_try_to_f32_iff (num : Int) (den : Nat) (hden : den ≠ 0) (hco : Nat.Coprime num.natAbs den) (bits : Nat) :
    ratTryToFloat f32Fixed (-149) 128 num den = .ok (.ok bits) ↔
      ieeeRoundRat .binary32 .halfEven num den = (bits, .exact) :=
  ratTryToFloat_iff f32Fixed .binary32 f32Fixed_compatible (by decide) (-149) 128 (by decide) (by decide)
    num den hden hco bits

theorem rbig_try_to_f64_iff (num : Int) (den : Nat) (hden : den ≠ 0) (hco : Nat.Coprime num.natAbs den) (bits : Nat) :
    ratTryToFloat f64Fixed (-1074) 1024 num den = .ok (.ok bits) ↔
      ieeeRoundRat .binary64 .halfEven num den = (bits, .exact) :=
  ratTryToFloat_iff f64Fixed .binary64 f64Fixed_compatible (by decide) (-1074) 1024 (by decide) (by decide)
    num den hden hco bits

/-- **`TryFrom<FBig<_,2>> for f64` / `TryFrom<Repr<2>> for f64`**: a success is exact -/
theorem fbig_try_to_f64_sound (c : Coarse) (hc : CoarseSound c) (s e : Int) (hodd : s % 2 = 1) (bits : Nat)
    (h : fbigTryToFloat into64 c ⟨s, e⟩ = .ok (.ok bits)) : ieeeRound .binary64 s e = (bits, .exact) :=
  fbigTryToFloat_sound into64 into64_compat c hc s e hodd bits h

theorem fbig_try_to_f32_sound (c : Coarse) (hc : CoarseSound c) (s e : Int) (hodd : s % 2 = 1) (bits : Nat)
    (h : fbigTryToFloat into32 c ⟨s, e⟩ = .ok (.ok bits)) : ieeeRound .binary32 s e = (bits, .exact) :=
  fbigTryToFloat_sound into32 into32_compat c hc s e hodd bits h

/-- **`From<iN> for IBig` then `TryFrom<IBig> for iN`** gives the value back (every width, incl. `MIN`) -/
theorem signed_primitive_roundtrip (W bits : Nat) (hb : 1 ≤ bits) (hbW : bits ≤ 2 * W) (x : Int)
    (hx : -(2 ^ (bits - 1) : Int) ≤ x ∧ x ≤ 2 ^ (bits - 1) - 1) :
    ibigTryToSigned W bits (fromSigned W bits x) = .ok x := by
  have hsm := toSignMagnitude_spec bits hb x hx
  unfold fromSigned
  rw [hsm]
  simp only
  have hp := two_pow_pred bits hb
  have hP : ((2 ^ (bits - 1) : Nat) : Int) = (2 : Int) ^ (bits - 1) := by push_cast; rfl
  have hmag : x.natAbs < 2 ^ bits := by
    have : ((x.natAbs : Nat) : Int) ≤ ((2 ^ (bits - 1) : Nat) : Int) := by rw [hP]; omega
    have : x.natAbs ≤ 2 ^ (bits - 1) := by exact_mod_cast this
    have := Nat.two_pow_pos (bits - 1)
    omega
  have hlt2 : x.natAbs < 2 ^ (2 * W) := lt_of_lt_of_le hmag (pow_le_pow2 hbW)
  unfold ibigTryToSigned Dashu.Model.withSign
  have hfu : fromUnsigned W x.natAbs = .small x.natAbs := by simp [fromUnsigned, hlt2]
  rw [hfu]
  by_cases hz : x.natAbs = 0
  · have hx0 : x = 0 := by omega
    subst hx0
    simp [TRepr.isZero, tryToUnsigned, tryFromSignMagnitude]
  · have hnz : (TRepr.small x.natAbs).isZero = false := by
      unfold TRepr.isZero
      split
      · rename_i heq; simp only [TRepr.small.injEq] at heq; omega
      · rfl
    simp only [hnz, Bool.false_eq_true, if_false, tryToUnsigned, hmag, if_true]
    rw [tryFromSignMagnitude_spec bits hb _ x.natAbs hmag]
    unfold intoRangeSpec
    by_cases hneg : x < 0
    · have hv : (if decide (x < 0) = true then -((x.natAbs : Nat) : Int) else ((x.natAbs : Nat) : Int)) = x := by
        simp only [hneg, decide_true, if_true]; omega
      rw [hv, if_pos hx]
    · have hv : (if decide (x < 0) = true then -((x.natAbs : Nat) : Int) else ((x.natAbs : Nat) : Int)) = x := by
        simp only [hneg, decide_false, Bool.false_eq_true, if_false]; omega
      rw [hv, if_pos hx]


/-- **`FBig::<R,2>::to_f32` for EVERY rounding mode `R`** (Zero, Away, Up, Down, HalfEven, HalfAway): the
    returned bits are those of ONE rounding of `s·2^e` in mode `R` — the driver's specification of
    `f.to_f32` — EXACTLY outside `ModeBad` = {subnormal result ∧ half-even re-rounding inside `encode` ≠ the
    mode-`R` rounding}.  In particular every normal-range and overflowing result is right in every mode; the
    closed form of the recorded finding "subnormal result rounded half-even whatever the mode". -/
theorem fbig_to_f32_value_iff_every_mode (m : Float.Mode) (c : Coarse) (hc : CoarseSound c) (s e : Int)
    (hodd : s % 2 = 1) (bits : Nat) (fl : Option Float.Rounding)
    (h : fbigToFloat into32 m c ⟨s, e⟩ = .ok (bits, fl)) :
    bits = (ieeeRoundRat .binary32 (convMode m) (floatAsRat 2 s e).1 (floatAsRat 2 s e).2).1 ↔
      ¬ ModeBad .binary32 (convMode m) (decide (s < 0)) s.natAbs e :=
  fbigToFloat_value_iff_modes into32 into32_compat m c hc s e hodd bits fl h

/-- the region is inhabited in directed modes even WITHOUT a first rounding (kernel-checked):
    `FBig<Up>` `2^-151` converts to `+0` although rounding up gives the least subnormal; `FBig<Zero>`
    `3·2^-151` converts to the least subnormal although truncation gives `+0` -/
theorem fbig_to_f32_mode_region_inhabited :
    ModeBad .binary32 (convMode .up) false 1 (-151) ∧
    fbigToFloat into32 .up coarseNone ⟨1, -151⟩ = .ok (0, some .NoOp) ∧
    ieeeRoundRat .binary32 (convMode .up) (floatAsRat 2 1 (-151)).1 (floatAsRat 2 1 (-151)).2 = (1, .pos) ∧
    ModeBad .binary32 (convMode .zero) false 3 (-151) ∧
    fbigToFloat into32 .zero coarseNone ⟨3, -151⟩ = .ok (1, some .NoOp) ∧
    ieeeRoundRat .binary32 (convMode .zero) (floatAsRat 2 3 (-151)).1 (floatAsRat 2 3 (-151)).2 = (0, .neg) := by
  decide +kernel

/-! ## Non-vacuity: every hypothesis-carrying theorem above is instantiated on a concrete non-trivial value -/

-- decode / round trip: the least subnormal with sign, the largest finite, a NaN
example : (1 : Nat) < 2 ∧ (0 : Nat) < 2 ^ 8 - 1 ∧ (1 : Nat) < 2 ^ 23 ∧
    decode f32Dec (fields .binary32 1 0 1) = .ok (-1, -149) ∧
    decode f32Dec (fields .binary32 0 255 5) = .error .nan ∧
    encodeFixed f32Fixed (-1) (-149) = .ok (fields .binary32 1 0 1, .exact) := by decide +kernel
-- sticky-bit lemma: a 61-bit value compressed by 3 bits for binary32
example : Ieee.binary32.Ok ∧ ((2 ^ 60 + 1 : Nat) ≠ 0 ∧ Ieee.binary32.prec + 2 + 3 ≤ bitLen (2 ^ 60 + 1) ∧
    ieeeRoundMag .binary32 (((2 ^ 60 + 1) / 2 ^ 3) ||| (if (2 ^ 60 + 1) % 2 ^ 3 ≠ 0 then 1 else 0)) (0 + 3) =
      ieeeRoundMag .binary32 (2 ^ 60 + 1) 0) := ⟨Ieee.binary32_ok, by decide +kernel⟩
-- TryFrom<UBig> for f32: 2^24 passes the bit-length rule and is exact
example : ubigTryToFloat .binary32 (2 ^ 24) = .ok 0x4b800000 ∧
    ieeeRound .binary32 (2 ^ 24) 0 = (0x4b800000, .exact) := by decide +kernel
-- RBig::to_f64 on 1/3 (non-dyadic) and TryFrom<RBig> for f32 on 7/2 (coprime, representable) and 1/3 (refused)
example : (3 : Nat) ≠ 0 ∧ ratToFloatFixed rat64 (encodeFixed f64Fixed) 1 3 = .ok (0x3fd5555555555555, .neg) := by
  decide +kernel
example : Nat.Coprime (7 : Int).natAbs 2 ∧ ratTryToFloat f32Fixed (-149) 128 7 2 = .ok (.ok 0x40600000) ∧
    Nat.Coprime (1 : Int).natAbs 3 ∧ ratTryToFloat f32Fixed (-149) 128 1 3 = .ok (.error .lossOfPrecision) ∧
    ratTryToIBig 7 2 = .error .lossOfPrecision ∧ ratTryToUBig (-4) 1 = .error .outOfBounds ∧
    ratToInt (-7) 2 = (-3, some (-1, 2)) := by decide +kernel
-- floats: 25·10^-1 is normalised, finite, not an integer; 25·10^1 converts to 250
example : Normalized 10 ⟨25, -1⟩ ∧ FRepr.isInfinite ⟨25, -1⟩ = false ∧
    fbigTryToIBig 10 ⟨25, -1⟩ = .error .lossOfPrecision ∧ fbigTryToIBig 10 ⟨25, 1⟩ = .ok 250 ∧
    fbigTryToPrim 10 true 0 255 false ⟨25, 1⟩ = .ok 250 ∧ fbigTryToPrim 10 true 0 255 false ⟨26, 1⟩ = .error .outOfBounds ∧
    fbigToRat 10 ⟨25, -1⟩ = .ok (25, 10) := by
  refine ⟨Or.inr (by decide), by decide, by decide, by decide, by decide, by decide, by decide⟩
-- float -> FBig / RBig: 1.5f32
example : fbigFromFloat f32Dec 0x3fc00000 = .ok (.finite ⟨3, -1⟩ 24) ∧ ratFromFloat f32Dec 0x3fc00000 = .ok (12582912, 8388608) := by
  decide +kernel
-- double rounding: 2^54+1 rounded to 53 bits (2 bits dropped) and then by 53 more is a bad case
example : (1 : Nat) ≤ 53 ∧ DoubleRoundBad (2 ^ 54 + 1) 2 53 := by decide +kernel
-- first rounding / normal form / value and flag theorems: odd significands, coarseNone is sound
example : CoarseSound coarseNone := by intro B f k o h; simp [coarseNone] at h
example : ((2 ^ 54 + 1 : Int) % 2 = 1) ∧ ((3 : Int) % 2 = 1) ∧ ((-(2 ^ 30) - 1 : Int) % 2 = 1) := by decide
example : fbigToFloat into32 .halfEven coarseNone ⟨3, -151⟩ = .ok (1, some .NoOp) ∧
    ¬ ToFloatBad .binary32 3 (-151) ∧ ToFloatFlagBad into32 .halfEven 3 (-151) ∧
    fbigTryToFloat into32 coarseNone ⟨3, -150⟩ = .ok (.error .lossOfPrecision) ∧
    fbigTryToFloat into32 coarseNone ⟨3, -149⟩ = .ok (.ok 3) := by decide +kernel
-- fast conversions: 22/7, outside the early exits
example : (22 : Int) ≠ 0 ∧ (7 : Nat) ≠ 0 ∧ ¬ (fastExp 53 22 7 ≥ 1024) ∧ ¬ (fastExp 53 22 7 < -1074 - 53 - 1) ∧
    ratToFloatFast rat64 (encodeFixed f64Fixed) 22 7 = .ok 0x4009249249249249 := by decide +kernel
-- primitives: i8::MIN through IBig and back; a canonical 3-word magnitude refused by u128
example : signed_primitive_roundtrip 64 8 (by decide) (by decide) (-128) (by decide) =
    signed_primitive_roundtrip 64 8 (by decide) (by decide) (-128) (by decide) := rfl
example : ibigTryToSigned 64 8 (fromSigned 64 8 (-128)) = .ok (-128) ∧
    (TRepr.large [1, 2, 3]).Canon 64 ∧ tryToUnsigned 64 128 (.large [1, 2, 3]) = .error .outOfBounds ∧
    toSignMagnitude 8 (-128) = (true, 128) := by decide +kernel

-- every-mode value theorem: hypotheses hold on a 25-bit odd significand in mode Down, normal range
example : ((2 ^ 24 + 1 : Int) % 2 = 1) ∧
    fbigToFloat into32 .down coarseNone ⟨2 ^ 24 + 1, 0⟩ = .ok (0x4b800000, some .NoOp) ∧
    ¬ ModeBad .binary32 (convMode .down) false (2 ^ 24 + 1) 0 := by decide +kernel

/-! ## refusal kind of `TryFrom<RBig> for f32/f64`; the flag of `FBig::<R,2>::to_f32` in every mode;
    `to_f32/to_f64` of floats whose base is not 2 (mirrored `convert_base` branches) -/

/-- **`TryFrom<RBig> for f32`, value AND refusal kind** (current tree): for every rational in lowest terms the
    mirrored conversion returns exactly `ratTryToFloatSpec` — `Ok` iff exactly representable; a non-dyadic value ⇒
    LossOfPrecision; magnitude `≥ 2^128` ⇒ OutOfBounds; below `2^-150` ⇒ LossOfPrecision; otherwise OutOfBounds
    exactly when the odd part fits `i32` and the value rounds to ±∞ — and never panics.  (This is the specification
    the driver prints for `r.tryto_f32`.) -/
theorem rbig_try_to_f32_kind (num : Int) (den : Nat) (hden : den ≠ 0) (hco : Nat.Coprime num.natAbs den) :
    ratTryToFloat f32Fixed (-149) 128 num den = .ok (ratTryToFloatSpec .binary32 32 num den) :=
  ratTryToFloat_kind f32Fixed .binary32 f32Fixed_compatible (by decide) (-149) 128 (by decide) (by decide)
    num den hden hco

theorem rbig_try_to_f64_kind (num : Int) (den : Nat) (hden : den ≠ 0) (hco : Nat.Coprime num.natAbs den) :
    ratTryToFloat f64Fixed (-1074) 1024 num den = .ok (ratTryToFloatSpec .binary64 64 num den) :=
  ratTryToFloat_kind f64Fixed .binary64 f64Fixed_compatible (by decide) (-1074) 1024 (by decide) (by decide)
    num den hden hco

/-- **an `OutOfBounds` refusal is truthful**: it is returned only for a value whose correctly rounded float is ±∞
    (and which is therefore not representable), never for a value inside the finite range -/
theorem rbig_try_to_f32_out_of_bounds_truthful (num : Int) (den : Nat) (hden : den ≠ 0)
    (hco : Nat.Coprime num.natAbs den) (h : ratTryToFloat f32Fixed (-149) 128 num den = .ok (.error .outOfBounds)) :
    (ieeeRoundRat .binary32 .halfEven num den).1 % Ieee.binary32.signBit = Ieee.binary32.infBits ∧
      (ieeeRoundRat .binary32 .halfEven num den).2 ≠ .exact :=
  ratTryToFloat_outOfBounds_truthful f32Fixed .binary32 f32Fixed_compatible (by decide) (-149) 128 (by decide)
    (by decide) num den hden hco h

theorem rbig_try_to_f64_out_of_bounds_truthful (num : Int) (den : Nat) (hden : den ≠ 0)
    (hco : Nat.Coprime num.natAbs den) (h : ratTryToFloat f64Fixed (-1074) 1024 num den = .ok (.error .outOfBounds)) :
    (ieeeRoundRat .binary64 .halfEven num den).1 % Ieee.binary64.signBit = Ieee.binary64.infBits ∧
      (ieeeRoundRat .binary64 .halfEven num den).2 ≠ .exact :=
  ratTryToFloat_outOfBounds_truthful f64Fixed .binary64 f64Fixed_compatible (by decide) (-1074) 1024 (by decide)
    (by decide) num den hden hco h

/-- **every dyadic value of magnitude `≥ 2^128` (`2^1024`) is refused with `OutOfBounds`** -/
theorem rbig_try_to_f32_large_dyadic (num : Int) (j : Nat) (hco : Nat.Coprime num.natAbs (2 ^ j)) (h0 : num ≠ 0)
    (ht : (128 : Int) < (bitLen num.natAbs : Int) - (j : Int)) :
    ratTryToFloat f32Fixed (-149) 128 num (2 ^ j) = .ok (.error .outOfBounds) :=
  ratTryToFloat_large_dyadic f32Fixed .binary32 f32Fixed_compatible (-149) 128 (by decide)
    num j h0 (by have : Ieee.binary32.emax + 1 = 128 := by decide
                 omega)

theorem rbig_try_to_f64_large_dyadic (num : Int) (j : Nat) (hco : Nat.Coprime num.natAbs (2 ^ j)) (h0 : num ≠ 0)
    (ht : (1024 : Int) < (bitLen num.natAbs : Int) - (j : Int)) :
    ratTryToFloat f64Fixed (-1074) 1024 num (2 ^ j) = .ok (.error .outOfBounds) :=
  ratTryToFloat_large_dyadic f64Fixed .binary64 f64Fixed_compatible (-1074) 1024 (by decide)
    num j h0 (by have : Ieee.binary64.emax + 1 = 1024 := by decide
                 omega)

-- non-vacuity: (2^31-1)·2^97 rounds to ∞ and its odd part fits i32 ⇒ OutOfBounds; (2^32-1)·2^96 also rounds to ∞ but
-- its odd part does not fit ⇒ LossOfPrecision; 2^130 ⇒ OutOfBounds; 1/3 and 2^-151 ⇒ LossOfPrecision
example : Nat.Coprime ((2 ^ 31 - 1) * 2 ^ 97 : Int).natAbs 1 ∧
    ratTryToFloat f32Fixed (-149) 128 ((2 ^ 31 - 1) * 2 ^ 97) 1 = .ok (.error .outOfBounds) ∧
    ratTryToFloat f32Fixed (-149) 128 ((2 ^ 32 - 1) * 2 ^ 96) 1 = .ok (.error .lossOfPrecision) ∧
    (ieeeRoundRat .binary32 .halfEven ((2 ^ 32 - 1) * 2 ^ 96) 1).1 = 0x7f800000 ∧
    ratTryToFloat f32Fixed (-149) 128 (-(2 ^ 130)) 1 = .ok (.error .outOfBounds) ∧
    ratTryToFloat f32Fixed (-149) 128 1 3 = .ok (.error .lossOfPrecision) ∧
    ratTryToFloat f32Fixed (-149) 128 1 (2 ^ 151) = .ok (.error .lossOfPrecision) ∧
    ratTryToFloatSpec .binary32 32 ((2 ^ 31 - 1) * 2 ^ 97) 1 = .error .outOfBounds := by decide +kernel

/-- **flag of `FBig::<R,2>::to_f32` for EVERY rounding mode `R`** (Zero, Away, Up, Down, HalfEven, HalfAway): where
    the value is the once-rounded one (outside `ModeBad`, `fbig_to_f32_value_iff_every_mode`), the returned
    `Rounding` is the truthful label of the error of that single rounding in mode `R` (`NoOp` = toward zero,
    `AddOne`/`SubOne` = above/below; the driver's specification of `f.to_f32`) EXACTLY outside `ToFloatFlagBad` =
    {the rounding inside `encode` increased the magnitude ∧ no overflow exit of `into_f32_internal`} — the closed form
    of the recorded finding "flag replaced by NoOp" for the directed modes and HalfAway. -/
theorem fbig_to_f32_flag_iff_every_mode (m : Float.Mode) (c : Coarse) (hc : CoarseSound c) (s e : Int)
    (hodd : s % 2 = 1) (bits : Nat) (fl : Option Float.Rounding)
    (h : fbigToFloat into32 m c ⟨s, e⟩ = .ok (bits, fl))
    (hgood : ¬ ModeBad .binary32 (convMode m) (decide (s < 0)) s.natAbs e) :
    fl = adjOfMag (decide (s < 0))
          ((ieeeRoundRat .binary32 (convMode m) (floatAsRat 2 s e).1 (floatAsRat 2 s e).2).2.flipIf (decide (s < 0))) ↔
      ¬ ToFloatFlagBad into32 m s e := by
  have hs0 : s ≠ 0 := by intro h0; subst h0; simp at hodd
  rw [ieeeRoundRat_float_snd .binary32 _ s e hs0]
  have hflip : ∀ (f : Flag) (b : Bool), (f.flipIf b).flipIf b = f := by
    intro f b; cases f <;> cases b <;> rfl
  rw [hflip]
  exact fbigToFloat_flag_iff_modes into32 into32_compat m c hc s e hodd bits fl h hgood

/-- the same closed form for the 53-bit instantiation with an arbitrary mode of the first rounding (the code only
    instantiates it with HalfEven: `FBig::to_f64` ignores the mode of the type) -/
theorem fbig_to_f64_flag_iff_every_mode (m : Float.Mode) (c : Coarse) (hc : CoarseSound c) (s e : Int)
    (hodd : s % 2 = 1) (bits : Nat) (fl : Option Float.Rounding)
    (h : fbigToFloat into64 m c ⟨s, e⟩ = .ok (bits, fl))
    (hgood : ¬ ModeBad .binary64 (convMode m) (decide (s < 0)) s.natAbs e) :
    fl = adjOfMag (decide (s < 0)) (ieeeRoundMagM .binary64 (convMode m) (decide (s < 0)) s.natAbs e).2 ↔
      ¬ ToFloatFlagBad into64 m s e :=
  fbigToFloat_flag_iff_modes into64 into64_compat m c hc s e hodd bits fl h hgood

/-- the true error sign of the single rounding in mode `R` is the composition of the first rounding's sign and the
    sign of the half-even rounding inside `encode`, outside `ModeBad` (every format, every mode) -/
theorem fbig_to_float_error_sign_composition (F : Ieee) (hF : F.Ok) (m : Float.Mode) (neg : Bool) (a : Nat) (e : Int)
    (ha : a ≠ 0) (hgood : ¬ ModeBad F (convMode m) neg a e) :
    (ieeeRoundMagM F (convMode m) neg a e).2 =
      composeFlag (firstFlag F.prec m neg a)
        (ieeeRoundMag F (firstRound F.prec m neg a e).1 (firstRound F.prec m neg a e).2.1).2 :=
  modes_flag F hF m neg a e ha hgood

-- non-vacuity and both sides of the iff (kernel-checked): `FBig<Up>` 3·2^127 overflows inside `encode` and is
-- reported `Inexact(∞, NoOp)` (ToFloatFlagBad, value right); `FBig<Down>` (2^24+1) gives `NoOp` truthfully;
-- `FBig<Away>` (2^24+1) gives `AddOne` truthfully
example : ((3 : Int) % 2 = 1) ∧ ¬ ModeBad .binary32 (convMode .up) false 3 127 ∧ ToFloatFlagBad into32 .up 3 127 ∧
    fbigToFloat into32 .up coarseNone ⟨3, 127⟩ = .ok (0x7f800000, some .NoOp) ∧
    ¬ ModeBad .binary32 (convMode .down) false (2 ^ 24 + 1) 0 ∧ ¬ ToFloatFlagBad into32 .down (2 ^ 24 + 1) 0 ∧
    fbigToFloat into32 .down coarseNone ⟨2 ^ 24 + 1, 0⟩ = .ok (0x4b800000, some .NoOp) ∧
    ¬ ModeBad .binary32 (convMode .away) false (2 ^ 24 + 1) 0 ∧ ¬ ToFloatFlagBad into32 .away (2 ^ 24 + 1) 0 ∧
    fbigToFloat into32 .away coarseNone ⟨2 ^ 24 + 1, 0⟩ = .ok (0x4b800001, some .AddOne) := by decide +kernel

/-- **normal form of `FBig::<R,B>::to_f32`, `Repr::<B>::to_f32` for a base `B ≠ 2`** on every branch of
    `convert_base::<B,2>` that does not go through `ln`/`exp` (B a power of two; |exponent| ≤ THRESHOLD_SMALL_EXP:
    multiplication, `repr_div`, long-dividend path): a returned float is the IEEE round-to-nearest-even of the value
    `v` that `convert_base` produced; `v` is the exact value `signif·B^exp` rounded to 24 significant bits under the
    mode of the type (rounding contract `convertBase_contract` of Proofs/Text/ConvDiv.lean) and has at most 24 bits; the flag
    is `convert_base`'s unless `into_f32_internal` reports its own. -/
theorem fbig_base_to_f32_normal_form (W B : Nat) (hB : 2 ≤ B) (m : Float.Mode) (r : FRepr) (bits : Nat)
    (fl : Option Float.Rounding) (h : fbigToFloatBase into32 intoSite32 W B m r = some (.ok (bits, fl))) :
    ∃ (v : FRepr) (f1 : Option Float.Rounding),
      Dashu.Model.Text.convertBase W B 2 m 24 r = .ok (v, f1) ∧
      Contract 2 m 24 (r.toRat B) (v.toRat 2) f1 ∧ bitLen v.signif.natAbs ≤ 24 ∧
      (v.signif ≠ 0 →
        bits = (if v.signif < 0 then Ieee.binary32.signBit else 0) + (ieeeRoundMag .binary32 v.signif.natAbs v.exp).1 ∧
        fl = andThenFlag f1 (intoFlag into32 (decide (v.signif < 0)) v.exp (ieeeRoundMag .binary32 v.signif.natAbs v.exp).2)) :=
  fbigToFloatBase_normal into32 into32_compat intoSite32 W B hB m r bits fl h

/-- the same for `FBig::<_,B>::to_f64` / `Repr::<B>::to_f64` (53 bits; the code always passes HalfEven) -/
theorem fbig_base_to_f64_normal_form (W B : Nat) (hB : 2 ≤ B) (m : Float.Mode) (r : FRepr) (bits : Nat)
    (fl : Option Float.Rounding) (h : fbigToFloatBase into64 intoSite64 W B m r = some (.ok (bits, fl))) :
    ∃ (v : FRepr) (f1 : Option Float.Rounding),
      Dashu.Model.Text.convertBase W B 2 m 53 r = .ok (v, f1) ∧
      Contract 2 m 53 (r.toRat B) (v.toRat 2) f1 ∧ bitLen v.signif.natAbs ≤ 53 ∧
      (v.signif ≠ 0 →
        bits = (if v.signif < 0 then Ieee.binary64.signBit else 0) + (ieeeRoundMag .binary64 v.signif.natAbs v.exp).1 ∧
        fl = andThenFlag f1 (intoFlag into64 (decide (v.signif < 0)) v.exp (ieeeRoundMag .binary64 v.signif.natAbs v.exp).2)) :=
  fbigToFloatBase_normal into64 into64_compat intoSite64 W B hB m r bits fl h

/-- **the panic region for a base `B ≠ 2`**: the conversion panics (debug build: `debug_assert!(bit_len <= 24|53)` in
    `into_fNN_internal`; a release build rounds a second time inside `encode`) EXACTLY when `convert_base` returns a
    significand of `prec + 1` bits (the extra quotient digit of `repr_div`) — closed form of the recorded finding
    "FBig/Repr::to_f32/to_f64 (non-binary base)" -/
theorem fbig_base_to_f64_panic_iff (W B : Nat) (hB : 2 ≤ B) (hne : B ≠ 2) (m : Float.Mode) (r : FRepr) :
    fbigToFloatBase into64 intoSite64 W B m r = some (.error (.undocumented intoSite64)) ↔
      ∃ (v : FRepr) (f1 : Option Float.Rounding), Dashu.Model.Text.convertBase W B 2 m 53 r = .ok (v, f1) ∧
        bitLen v.signif.natAbs = 54 :=
  fbigToFloatBase_panic_iff into64 into64_compat intoSite64 W B hB hne m r

theorem fbig_base_to_f32_panic_iff (W B : Nat) (hB : 2 ≤ B) (hne : B ≠ 2) (m : Float.Mode) (r : FRepr) :
    fbigToFloatBase into32 intoSite32 W B m r = some (.error (.undocumented intoSite32)) ↔
      ∃ (v : FRepr) (f1 : Option Float.Rounding), Dashu.Model.Text.convertBase W B 2 m 24 r = .ok (v, f1) ∧
        bitLen v.signif.natAbs = 25 :=
  fbigToFloatBase_panic_iff into32 into32_compat intoSite32 W B hB hne m r

-- non-vacuity (kernel-checked): the decimal 4899e-7 (the property text's example) reaches the panic region of to_f64
-- (54-bit quotient of repr_div); 18585e-7 and 1e30 convert to the correctly rounded double; 5e-324 goes through ln/exp
example : fbigToFloatBase into64 intoSite64 64 10 .halfEven ⟨4899, -7⟩ = some (.error (.undocumented intoSite64)) ∧
    fbigToFloatBase into64 intoSite64 64 10 .halfEven ⟨0x4899, -7⟩ = some (.ok (0x3f5e731d2e0e3044, some .NoOp)) ∧
    (ieeeRoundRat .binary64 .halfEven 0x4899 (10 ^ 7)).1 = 0x3f5e731d2e0e3044 ∧
    fbigToFloatBase into64 intoSite64 64 10 .halfEven ⟨1, 30⟩ = some (.ok (0x46293e5939a08cea, some .AddOne)) ∧
    fbigToFloatBase into32 intoSite32 64 10 .up ⟨4899, -7⟩ = some (.ok (0x3a006ca2, some .AddOne)) ∧
    fbigToFloatBase into32 intoSite32 64 10 .down ⟨3, -1⟩ = some (.error (.undocumented intoSite32)) ∧
    fbigToFloatBase into64 intoSite64 64 10 .halfEven ⟨5, -324⟩ = none := by decide +kernel

/-! ## Tie A — the literal constants of the hand-written conversion models are those of the source text -/

/-- the constants of `into32/into64` (`into_fNN_internal`: width, overflow and underflow exits; the working precision
    `to_f32/to_f64` pass to `Context::new`), of `rat32/rat64` (`Repr::to_f32/to_f64` of dashu-ratio: quotient width =
    precision + 2 guard bits, exits) and the literal bounds `[-149, 128]`, `[-1074, 1024]` of
    `impl_conversion_to_float!` used in the theorems above equal the definitions REGENERATED from
    float/src/convert.rs and rational/src/convert.rs on every run (`Dashu/Gen/ConvConsts.lean`); the panic sites
    `intoSite32/64` ARE the regenerated strings.  A change of any of these literals in /repo breaks this theorem. -/
theorem conv_constants_regenerated :
    into32.prec = Dashu.Gen.Conv.into_f32_prec ∧ into32.infExp = Dashu.Gen.Conv.into_f32_inf_exp ∧
    into32.zeroExp = Dashu.Gen.Conv.into_f32_zero_exp ∧ into32.prec = Dashu.Gen.Conv.to_f32_precision ∧
    into64.prec = Dashu.Gen.Conv.into_f64_prec ∧ into64.infExp = Dashu.Gen.Conv.into_f64_inf_exp ∧
    into64.zeroExp = Dashu.Gen.Conv.into_f64_zero_exp ∧ into64.prec = Dashu.Gen.Conv.to_f64_precision ∧
    rat32.prec + 2 = Dashu.Gen.Conv.rbig_to_f32_quotient_bits ∧ rat32.infShift = Dashu.Gen.Conv.rbig_to_f32_inf_shift ∧
    rat32.zeroShift - 3 = Dashu.Gen.Conv.rbig_to_f32_zero_shift ∧
    rat64.prec + 2 = Dashu.Gen.Conv.rbig_to_f64_quotient_bits ∧ rat64.infShift = Dashu.Gen.Conv.rbig_to_f64_inf_shift ∧
    rat64.zeroShift - 3 = Dashu.Gen.Conv.rbig_to_f64_zero_shift ∧
    (-149 : Int) = Dashu.Gen.Conv.rbig_try_to_f32_lb ∧ (128 : Int) = Dashu.Gen.Conv.rbig_try_to_f32_ub ∧
    (-1074 : Int) = Dashu.Gen.Conv.rbig_try_to_f64_lb ∧ (1024 : Int) = Dashu.Gen.Conv.rbig_try_to_f64_ub ∧
    intoSite32 = Dashu.Gen.Conv.into_f32_assert_site ∧ intoSite64 = Dashu.Gen.Conv.into_f64_assert_site := by
  decide +kernel

/-! ## `RBig::to_float` / `Relaxed::to_float` and `From<RBig | Relaxed> for FBig` MIRRORED
    (`Model/Conv/ToFloat.lean`, rational/src/third_party/dashu_float.rs; the driver's `.code` ops run exactly these
    definitions against the real code).  The exact value is `num / den`; "correctly rounded and says so" is the
    rounding contract of C03 (`Dashu.Model.Float.Contract`: error below one unit — half a unit for the nearest
    modes — of the last of `p` digits, side condition of the directed modes, flag `none` iff exact, `AddOne` /
    `SubOne` only above / below the exact value). -/

/-- Tie A: the digit sum, the no-shift test and the shift amount the mirrored quotient stage CALLS are the text
    regenerated from the source on every run (`Dashu/Gen/ConvToFloat.lean`; /repo 43925c0):
    `need_digits = precision.saturating_add(den_digits)`, `num_digits >= need_digits`, `need_digits - num_digits`;
    a change of any of the three expressions in /repo breaks this theorem and the proof of
    `rbig_to_float_quotient_stage`. -/
theorem rbig_to_float_decisions_regenerated (nd dd p : Nat) :
    Dashu.Gen.ConvToFloat.to_float_need_digits dd p = min (p + dd) (2 ^ 64 - 1) ∧
    Dashu.Gen.ConvToFloat.to_float_no_shift nd dd p = decide (nd ≥ min (p + dd) (2 ^ 64 - 1)) ∧
    Dashu.Gen.ConvToFloat.to_float_shift nd dd p = min (p + dd) (2 ^ 64 - 1) - nd := ⟨rfl, rfl, rfl⟩

/-- below the saturation point (`precision + den_digits ≤ usize::MAX`) the decisions are the plain ones -/
theorem rbig_to_float_decisions_unsaturated (nd dd p : Nat) (hov : p + dd < 2 ^ 64) :
    Dashu.Gen.ConvToFloat.to_float_no_shift nd dd p = decide (nd ≥ p + dd) ∧
    Dashu.Gen.ConvToFloat.to_float_shift nd dd p = (p + dd) - nd :=
  to_float_decisions_unsaturated nd dd p hov

/-- at and beyond the saturation point (the input class of the repaired defect: before 43925c0 the sum wrapped in a
    release build and a wrong number came back) the code takes the shift branch and asks for
    `usize::MAX − num_digits` further digits — far more than `precision`, so no digit of the quotient is missing; the
    allocation of that many digits is what fails (driver: `AllocTooMuch`, compared per case) -/
theorem rbig_to_float_saturated_shift (nd dd p : Nat) (hov : 2 ^ 64 ≤ p + dd + 1) (hnd : nd < 2 ^ 64 - 1) :
    Dashu.Gen.ConvToFloat.to_float_no_shift nd dd p = false ∧
    Dashu.Gen.ConvToFloat.to_float_shift nd dd p = 2 ^ 64 - 1 - nd := by
  have e : Dashu.Gen.ConvToFloat.to_float_need_digits dd p = 2 ^ 64 - 1 := by
    unfold Dashu.Gen.ConvToFloat.to_float_need_digits
    exact Nat.min_eq_right (by omega)
  unfold Dashu.Gen.ConvToFloat.to_float_no_shift Dashu.Gen.ConvToFloat.to_float_shift
  rw [e]
  exact ⟨by simp only [decide_eq_false_iff_not]; omega, rfl⟩

example : 2 ^ 64 ≤ (2 ^ 64 - 1) + 0 + 1 ∧ (1 : Nat) < 2 ^ 64 - 1 := by decide

/- The hypothesis `hov : p + ilogB B den < 2 ^ 64` of the theorems below is not there for a defect (the
   unchecked `usize` addition is repaired by 43925c0) — it stands for the Nat/usize gap only: at a saturated sum the
   model asks for `2^64 − 1 − num_digits` digits like the code, where the code cannot allocate and panics. -/

/-- `assert!(precision > 0)` -/
theorem rbig_to_float_precision_zero_panics (B : Nat) (m : Float.Mode) (c : Coarse) (num : Int) (den : Nat) :
    ratToFloat B m c num den 0 = .error (.undocumented Dashu.Gen.ConvToFloat.to_float_assert_site) := by
  simp [ratToFloat]

/-- zero converts to `Exact(0)` at every precision `≥ 1` -/
theorem rbig_to_float_zero (B : Nat) (m : Float.Mode) (c : Coarse) (den p : Nat) (hp : 1 ≤ p) :
    ratToFloat B m c 0 den p = .ok (⟨0, 0⟩, none) := by
  have : p ≠ 0 := by omega
  simp [ratToFloat, this]

/-- the quotient stage: `num·B^shift = q·den + r` with `|r| < den`, and the scaled quotient has at least `p`
    digits (so its integer rounding is never coarser than the requested precision) -/
theorem rbig_to_float_quotient_stage (B : Nat) (hB : 2 ≤ B) (num : Int) (den p : Nat) (hn : num ≠ 0) (hd : 0 < den)
    (hp : 1 ≤ p) (hov : p + ilogB B (den : Int) < 2 ^ 64) :
    num * ((B ^ (toFloatQuot B num den p).1 : Nat) : Int) =
        (toFloatQuot B num den p).2.1 * (den : Int) + (toFloatQuot B num den p).2.2 ∧
      |(toFloatQuot B num den p).2.2| < (den : Int) ∧
      den * B ^ (p - 1) ≤ num.natAbs * B ^ (toFloatQuot B num den p).1 :=
  toFloatQuot_spec B hB num den p hn hd hp hov

/-- **every mode: correct whenever the first-rounded quotient fits the precision** (no second rounding happens) -/
theorem rbig_to_float_correct_when_fits (B : Nat) (hB : 2 ≤ B) (m : Float.Mode) (c : Coarse) (num : Int) (den p : Nat)
    (hn : num ≠ 0) (hd : 0 < den) (hp : 1 ≤ p) (hov : p + ilogB B (den : Int) < 2 ^ 64)
    (hfit : (FRepr.new B (toFloatN1 B m num den p) 0).digits B ≤ p) :
    ∃ r, ratToFloat B m c num den p = .ok r ∧ Contract B m p ((num : ℚ) / (den : ℚ)) (r.1.toRat B) r.2 :=
  ratToFloat_contract_of_fits B hB m c num den p hn hd hp hov hfit

-- non-vacuity: 1000/6 at 4 decimal digits (the doc example, quotient 1666 r 4 -> 1667 fits), 22/7 at 5 bits
example : (FRepr.new 10 (toFloatN1 10 .halfEven 1000 6 4) 0).digits 10 ≤ 4 ∧
    (FRepr.new 2 (toFloatN1 2 .halfAway (-22) 7 5) 0).digits 2 ≤ 5 ∧
    ratToFloat 10 .halfEven coarseNone 1000 6 4 = .ok (⟨1667, -1⟩, some .AddOne) := by decide +kernel

/-- **the four directed modes: correctly rounded, truthfully flagged, for ALL inputs** — two roundings in the same
    directed mode are one (`Zero`, `Away`, `Up`, `Down`; every base, every stored representation, every precision) -/
theorem rbig_to_float_directed_correct (B : Nat) (hB : 2 ≤ B) (m : Float.Mode) (hm : Directed m) (c : Coarse)
    (hc : CoarseSound c) (num : Int) (den p : Nat) (hn : num ≠ 0) (hd : 0 < den) (hp : 1 ≤ p)
    (hov : p + ilogB B (den : Int) < 2 ^ 64) :
    ∃ r, ratToFloat B m c num den p = .ok r ∧ Contract B m p ((num : ℚ) / (den : ℚ)) (r.1.toRat B) r.2 :=
  ratToFloat_contract_core B hB m c hc num den p hn hd hp hov (fun _ => True) (fun _ _ _ => trivial)
    (fun N D n1 M n2 hD hM h1 h2 hs _ _ => directed_compose m hm N D n1 M n2 hD hM h1 h2 hs)


example : Directed .zero ∧ Directed .away ∧ Directed .up ∧ Directed .down := ⟨trivial, trivial, trivial, trivial⟩
-- a second rounding does happen here (6248/5 = 1249.6 -> 1250 -> 13e2 under Up), and is harmless
example : ratToFloat 10 .up coarseNone 6248 5 2 = .ok (⟨13, 2⟩, some .AddOne) ∧
    ¬ ((FRepr.new 10 (toFloatN1 10 .up 6248 5 2) 0).digits 10 ≤ 2) := by decide +kernel

/-- **the two nearest modes are NOT always correctly rounded** (the recorded finding "RBig/Relaxed::to_float: double
    rounding", kernel-checked on the mirrored code): `6248/5 = 1249.6` at 2 digits under HalfAway gives `13e2`
    (`1249.6 → 1250 → 13e2`) while the nearest 2-digit value is `12e2`; `149/100` at 1 digit under HalfEven gives `2`
    (`1.49 → 15e-1 → 2`) while the nearest is `1`. -/
theorem rbig_to_float_half_modes_counterexample :
    ratToFloat 10 .halfAway coarseNone 6248 5 2 = .ok (⟨13, 2⟩, some .AddOne) ∧
    IsNearestAway 6248 (5 * 100) 12 ∧ ¬ IsNearestAway 6248 (5 * 100) 13 ∧
    ratToFloat 10 .halfEven coarseNone 149 100 1 = .ok (⟨2, 0⟩, some .AddOne) ∧
    IsNearestEven 149 100 1 ∧ ¬ IsNearestEven 149 100 2 := by
  unfold IsNearestAway IsNearestEven
  decide +kernel

/-- **`From<RBig | Relaxed> for FBig<R, B>` is ONE rounding of the exact quotient** at precision
    `max(digits num, digits den, 1)` under `R` (never a panic; by C03's `repr_div` contract), and it is lossless
    exactly when the flag the code drops is `none` -/
theorem fbig_from_rbig_is_one_rounding (B : Nat) (hB : 2 ≤ B) (m : Float.Mode) (num : Int) (den : Nat) (hd : 0 < den) :
    ∃ v f, fbigFromRat B m num den =
        .ok (v, (if max (digitsI B num) 1 > max (digitsI B (den : Int)) 1 then max (digitsI B num) 1
                 else max (digitsI B (den : Int)) 1), f) ∧
      Contract B m (if max (digitsI B num) 1 > max (digitsI B (den : Int)) 1 then max (digitsI B num) 1
                 else max (digitsI B (den : Int)) 1) ((num : ℚ) / (den : ℚ)) (v.toRat B) f ∧
      (f = none ↔ v.toRat B = (num : ℚ) / (den : ℚ)) := by
  have hB0 : 0 < B := by omega
  have hdi : ((den : Nat) : Int) ≠ 0 := by exact_mod_cast (Nat.pos_iff_ne_zero.mp hd)
  have hsig : (FRepr.new B (den : Int) 0).signif ≠ 0 := by
    obtain ⟨z, h1, _⟩ := new_decomp B (den : Int) 0 hdi
    intro h; rw [h, zero_mul] at h1; exact hdi h1
  obtain ⟨p, hpdef⟩ : ∃ p : Nat, p = (if max (digitsI B num) 1 > max (digitsI B (den : Int)) 1 then max (digitsI B num) 1
                 else max (digitsI B (den : Int)) 1) := ⟨_, rfl⟩
  have hp : 1 ≤ p := by
    rw [hpdef]; split <;> omega
  obtain ⟨r, hr, hc⟩ := reprDiv_contract B hB m p hp (FRepr.new B num 0) (FRepr.new B (den : Int) 0) hsig
  rw [new_int_value B hB0, new_int_value B hB0] at hc
  refine ⟨r.1, r.2, ?_, ?_, ?_⟩
  · unfold fbigFromRat
    simp only [← hpdef, hr]
  · rw [← hpdef]; exact_mod_cast hc
  · have := hc.exact_iff
    exact_mod_cast this


/-- … and it IS lossy although its type promises a lossless `From` (the recorded finding "From<RBig> for FBig"):
    `1/4` becomes `0.2` in base 10 (representable: `0.25`), `1/3` is silently rounded in base 2 -/
theorem fbig_from_rbig_lossy_counterexample :
    fbigFromRat 10 .zero 1 4 = .ok (⟨2, -1⟩, 1, some .NoOp) ∧
    fbigFromRat 2 .zero 1 3 = .ok (⟨1, -2⟩, 2, some .NoOp) := by decide +kernel

/-- `From<UBig | IBig> for FBig<R, B>` (= `from_parts(n, 0)` = `Repr::new(n, 0)`, float/src/convert.rs) is lossless in
    every base: the float denotes exactly the integer (trailing zero digits only move into the exponent) -/
theorem fbig_from_ibig_exact (B : Nat) (hB : 0 < B) (n : Int) : (FRepr.new B n 0).toRat B = (n : ℚ) :=
  new_int_value B hB n

/-- Tie A: the body of `impl From<Repr> for FBig` that `fbigFromRat` mirrors is the body in the source on this run
    (regenerated whitespace-normalised text; `From<RBig>` / `From<Relaxed>` forward to it — checked by the extractor) -/
theorem fbig_from_rbig_source_shape : fromReprSource = Dashu.Gen.ConvToFloat.from_repr_body := rfl

/-- **every mode, hypothesis on the INPUT only**: when the scaled quotient `|num|·B^shift / den` is below `B^p` (it has
    exactly `p` digits — one of the two lengths the quotient stage can deliver; `shift` is the regenerated shift amount)
    the conversion is ONE correct rounding: the rounding contract of C03 holds for the exact `num / den` -/
theorem rbig_to_float_correct_when_quotient_short (B : Nat) (hB : 2 ≤ B) (m : Float.Mode) (c : Coarse) (num : Int)
    (den p : Nat) (hn : num ≠ 0) (hd : 0 < den) (hp : 1 ≤ p) (hov : p + ilogB B (den : Int) < 2 ^ 64)
    (hshort : num.natAbs * B ^ (toFloatQuot B num den p).1 < den * B ^ p) :
    ∃ r, ratToFloat B m c num den p = .ok r ∧ Contract B m p ((num : ℚ) / (den : ℚ)) (r.1.toRat B) r.2 :=
  ratToFloat_contract_of_fits B hB m c num den p hn hd hp hov (fits_of_short B hB m num den p hd hp hshort)

-- non-vacuity: 1000/6 at 4 digits (10000 < 6·10^4), -22/7 at 5 bits, 149/200 at 3 digits
example : (1000 : Int).natAbs * 10 ^ (toFloatQuot 10 1000 6 4).1 < 6 * 10 ^ 4 ∧
    (-22 : Int).natAbs * 2 ^ (toFloatQuot 2 (-22) 7 5).1 < 7 * 2 ^ 5 ∧
    (149 : Int).natAbs * 10 ^ (toFloatQuot 10 149 200 3).1 < 200 * 10 ^ 3 := by decide +kernel

/-- **every mode, hypothesis on the INPUT only**: when `den` divides the scaled numerator `num·B^shift` (the quotient
    stage leaves remainder 0 — every integer, every `num / B^k`, in base 2 every dyadic rational) the first rounding is
    exact and the conversion is ONE correct rounding, whatever the length of the quotient -/
theorem rbig_to_float_correct_when_quotient_exact (B : Nat) (hB : 2 ≤ B) (m : Float.Mode) (c : Coarse)
    (hc : CoarseSound c) (num : Int) (den p : Nat) (hn : num ≠ 0) (hd : 0 < den) (hp : 1 ≤ p)
    (hov : p + ilogB B (den : Int) < 2 ^ 64) (hex : (toFloatQuot B num den p).2.2 = 0) :
    ∃ r, ratToFloat B m c num den p = .ok r ∧ Contract B m p ((num : ℚ) / (den : ℚ)) (r.1.toRat B) r.2 := by
  -- the first rounding is exact, so the result is `repr_round` of the integer quotient, shifted back by `B^shift`
  have hB0 : 0 < B := by omega
  have hp0 : p ≠ 0 := by omega
  obtain ⟨hdec, _, _⟩ := toFloatQuot_spec B hB num den p hn hd hp hov
  unfold ratToFloat
  simp only [hp0, hn, if_false]
  refine ⟨_, rfl, ?_⟩
  generalize toFloatQuot B num den p = t at *
  have hff : toFloatFirst m den t.2.1 t.2.2 = (t.2.1, none) := by unfold toFloatFirst; simp [hex]
  rw [hff, Dashu.Model.Float.andThenFlag_none_left, fbigShr_value B hB0]
  have key := contract_shift B hB0 m p _ _ _ (-(t.1 : Int))
    (reprRound_contract B hB m c hc p hp (FRepr.new B t.2.1 0) (FRepr.new_normalized B hB t.2.1 0))
  -- the exact value: `num / den = q / B^shift`
  have hDq : ((den : Nat) : ℚ) ≠ 0 := by exact_mod_cast (Nat.pos_iff_ne_zero.mp hd)
  have hPq : (((B ^ t.1 : Nat) : Nat) : ℚ) ≠ 0 := by
    have : 0 < B ^ t.1 := Nat.pow_pos hB0
    exact_mod_cast (Nat.pos_iff_ne_zero.mp this)
  have hdecq : (num : ℚ) * ((B ^ t.1 : Nat) : ℚ) = (t.2.1 : ℚ) * (den : ℚ) := by
    rw [hex, add_zero] at hdec; exact_mod_cast hdec
  have hv : (t.2.1 : ℚ) * bpowQ B (-(t.1 : Int)) = (num : ℚ) / (den : ℚ) := by
    rw [bpowQ_neg_nat B hB0]
    field_simp
    linarith
  rwa [new_int_value B hB0, hv] at key


-- non-vacuity: 1000/8 = 125 at 2 digits (remainder 0, the 3-digit quotient IS rounded: tie to even 12e1)
example : (toFloatQuot 10 1000 8 2).2.2 = 0 ∧
    ratToFloat 10 .halfEven coarseNone 1000 8 2 = .ok (⟨12, 1⟩, some .NoOp) ∧
    (toFloatQuot 2 (-40) 8 3).2.2 = 0 := by decide +kernel

/-- **HalfEven / HalfAway in an EVEN base (2, 10, 16, …): correctly rounded unless the SECOND rounding is an exact tie.**
    For every rational, precision and sound coarse test: if the digits `convert_int` drops from the first-rounded quotient
    (after `Repr::new` stripped its zeros) are not exactly half a unit of the last kept digit, the two nearest roundings
    compose to one and the result meets the rounding contract of C03 for the exact `num / den`.  (With the theorems above
    the inputs on which the nearest modes can be wrong are confined to: non-zero remainder ∧ scaled quotient ≥ B^p ∧
    (the second rounding is an exact tie ∨ the base is odd) — the counterexamples of
    `rbig_to_float_half_modes_counterexample` are exact ties: 1250 → 13e2, 15 → 2.) -/
theorem rbig_to_float_nearest_correct_unless_second_tie (B : Nat) (hB : 2 ≤ B) (hBe : B % 2 = 0) (m : Float.Mode)
    (hm : Nearest m) (c : Coarse) (hc : CoarseSound c) (num : Int) (den p : Nat) (hn : num ≠ 0) (hd : 0 < den)
    (hp : 1 ≤ p) (hov : p + ilogB B (den : Int) < 2 ^ 64)
    (hnotie : ∀ k : Nat, k = (FRepr.new B (toFloatN1 B m num den p) 0).digits B - p →
        2 * |(splitDigits B (FRepr.new B (toFloatN1 B m num den p) 0).signif k).2| ≠ ((B ^ k : Nat) : Int)) :
    ∃ r, ratToFloat B m c num den p = .ok r ∧ Contract B m p ((num : ℚ) / (den : ℚ)) (r.1.toRat B) r.2 := by
  refine ratToFloat_contract_core B hB m c hc num den p hn hd hp hov (fun M => M % 2 = 0) ?_
    (fun N D n1 M n2 hD hM h1 h2 _ hQ hnt => nearest_compose m hm N D n1 M n2 hD hM h1 h2 hQ (hnt hnotie))
  intro k z hk
  have h2 : (2 : Int) ∣ ((B ^ k : Nat) : Int) := by
    have hb : 2 ∣ B := Nat.dvd_of_mod_eq_zero hBe
    have := dvd_pow hb (by omega : k ≠ 0)
    exact_mod_cast this
  exact Int.emod_eq_zero_of_dvd (Dvd.dvd.mul_right h2 _)

example : Nearest .halfEven ∧ Nearest .halfAway := ⟨trivial, trivial⟩
-- non-vacuity: 6247/5 = 1249.4 at 2 digits (HalfAway): first rounding 1249, dropped digits 49 ≠ 50, result 12e2; whereas the
-- recorded counterexample 6248/5 drops exactly 50 (the hypothesis fails there, as it must)
example : (2 * |(splitDigits 10 (FRepr.new 10 (toFloatN1 10 .halfAway 6247 5 2) 0).signif
      ((FRepr.new 10 (toFloatN1 10 .halfAway 6247 5 2) 0).digits 10 - 2)).2| ≠ ((10 ^ 2 : Nat) : Int)) ∧
    (FRepr.new 10 (toFloatN1 10 .halfAway 6247 5 2) 0).digits 10 - 2 = 2 ∧
    ratToFloat 10 .halfAway coarseNone 6247 5 2 = .ok (⟨12, 2⟩, some .NoOp) ∧
    2 * |(splitDigits 10 (FRepr.new 10 (toFloatN1 10 .halfAway 6248 5 2) 0).signif 1).2| = ((10 ^ 1 : Nat) : Int) := by
  decide +kernel

/-! ## the range test in front of `FBig/Repr::to_f32 / to_f64` (/repo 1349a4b, `Repr::exponent_out_of_range`)
    MIRRORED (`Model/Conv/Base.lean`: `exponentOutOfRange` CALLS the regenerated decision text, `rangeExit`,
    `fbigToFloatCode`, `fbigToFloatBaseCode`, `fbigTryToFloatCode` — what the driver's `.code` / `tryto` ops run). -/

/-- Tie A: the literal arguments of `exponent_out_of_range(…)` at the four call sites are the exits of
    `into_f32_internal` / `into_f64_internal` the model carries, and the decision text is the regenerated one -/
theorem fbig_to_float_range_test_regenerated :
    into32.infExp = Dashu.Gen.Conv.to_f32_range_max_exp ∧ into32.zeroExp = Dashu.Gen.Conv.to_f32_range_min_exp ∧
    into64.infExp = Dashu.Gen.Conv.to_f64_range_max_exp ∧ into64.zeroExp = Dashu.Gen.Conv.to_f64_range_min_exp ∧
    (∀ (r : FRepr) (a b : Int), exponentOutOfRange r a b =
      (if r.signif = 0 then none else if r.exp ≥ a then some true
       else if r.exp < 0 ∧ r.exp < b - (bitLen r.signif.natAbs : Int) then some false else none)) := by
  refine ⟨by decide, by decide, by decide, by decide, ?_⟩
  intro r a b
  unfold exponentOutOfRange Dashu.Gen.Conv.exponent_out_of_range
  by_cases h : r.signif = 0 <;> simp [h]

/-- **the range test is unobservable in base 2** — `FBig::<R,2>::to_f32` (every mode), `Repr::<2>::to_f32`: with the
    test in front, the conversion returns bit for bit (value AND flag) what the general path returns, for every
    normalised input; so every theorem above about `fbigToFloat into32` is a theorem about the code as it is. -/
theorem fbig_to_f32_range_exit_unobservable (m : Float.Mode) (c : Coarse) (hc : CoarseSound c) (s e : Int)
    (hodd : s % 2 = 1) : fbigToFloatCode into32 m c ⟨s, e⟩ = fbigToFloat into32 m c ⟨s, e⟩ :=
  fbigToFloatCode_eq into32 into32_compat (by decide) (by decide) m c hc s e hodd

/-- the same for `FBig::<_,2>::to_f64` / `Repr::<2>::to_f64` -/
theorem fbig_to_f64_range_exit_unobservable (m : Float.Mode) (c : Coarse) (hc : CoarseSound c) (s e : Int)
    (hodd : s % 2 = 1) : fbigToFloatCode into64 m c ⟨s, e⟩ = fbigToFloat into64 m c ⟨s, e⟩ :=
  fbigToFloatCode_eq into64 into64_compat (by decide) (by decide) m c hc s e hodd

/-- … and for `TryFrom<FBig<R,2>> / TryFrom<Repr<2>> for f32, f64` (they call `to_f32 / to_f64`); zero is never decided -/
theorem fbig_try_to_float_range_exit_unobservable (c : Coarse) (hc : CoarseSound c) (s e : Int) (hodd : s % 2 = 1) :
    fbigTryToFloatCode into32 c ⟨s, e⟩ = fbigTryToFloat into32 c ⟨s, e⟩ ∧
    fbigTryToFloatCode into64 c ⟨s, e⟩ = fbigTryToFloat into64 c ⟨s, e⟩ ∧
    (∀ (m : Float.Mode) (e0 : Int), fbigToFloatCode into32 m c ⟨0, e0⟩ = fbigToFloat into32 m c ⟨0, e0⟩ ∧
      fbigToFloatCode into64 m c ⟨0, e0⟩ = fbigToFloat into64 m c ⟨0, e0⟩) :=
  ⟨fbigTryToFloatCode_eq into32 into32_compat (by decide) (by decide) c hc s e hodd,
   fbigTryToFloatCode_eq into64 into64_compat (by decide) (by decide) c hc s e hodd,
   fun m e0 => ⟨fbigToFloatCode_zero into32 m c e0, fbigToFloatCode_zero into64 m c e0⟩⟩

/-- the test DOES decide (non-vacuity, and the inputs of the repaired defect): `(2^60−1)·2^(isize::MAX−7)` → `+∞` with
    `AddOne`; `−1·2^(isize::MIN)` → `−0` with `NoOp`; `3·2^127` is left to the general path — computed without any
    exponent arithmetic beyond two comparisons -/
theorem fbig_to_float_range_exit_decides :
    rangeExit into64 ⟨2 ^ 60 - 1, 2 ^ 63 - 1 - 7⟩ = some (0x7ff0000000000000, some .AddOne) ∧
    rangeExit into32 ⟨-1, -(2 ^ 63)⟩ = some (0x80000000, some .NoOp) ∧
    rangeExit into32 ⟨3, 127⟩ = none ∧ rangeExit into32 ⟨-3, 128⟩ = some (0xff800000, some .SubOne) ∧
    rangeExit into64 ⟨1, -1128⟩ = none ∧ rangeExit into64 ⟨1, -1129⟩ = some (0, some .NoOp) := by
  decide +kernel

/-- **the decided overflow is the REQUIRED result in every base** (`B ≥ 2`: 2, 3, 10, 16, …), every mode, both formats:
    when the range test answers `Some(true)` the code returns `±∞` with `AddOne` / `SubOne`, and the specification —
    ONE rounding of the exact rational value `s·B^e` — is `±∞` flagged above / below the exact value.  (This is also why
    the driver may evaluate the specification at a clamped exponent on the overflow side: it does not depend on `e`.) -/
theorem fbig_to_float_range_overflow_is_required (B : Nat) (hB : 2 ≤ B) (mode : Conv.Mode) (s e : Int) (hs : s ≠ 0) :
    (exponentOutOfRange ⟨s, e⟩ into32.infExp into32.zeroExp = some true →
      rangeExit into32 ⟨s, e⟩ = some (if s < 0 then (Ieee.binary32.signBit + Ieee.binary32.infBits, some .SubOne)
                                      else (Ieee.binary32.infBits, some .AddOne)) ∧
      ieeeRoundRat .binary32 mode (floatAsRat B s e).1 (floatAsRat B s e).2 =
        ((if s < 0 then Ieee.binary32.signBit else 0) + Ieee.binary32.infBits, Flag.pos.flipIf (decide (s < 0)))) ∧
    (exponentOutOfRange ⟨s, e⟩ into64.infExp into64.zeroExp = some true →
      rangeExit into64 ⟨s, e⟩ = some (if s < 0 then (Ieee.binary64.signBit + Ieee.binary64.infBits, some .SubOne)
                                      else (Ieee.binary64.infBits, some .AddOne)) ∧
      ieeeRoundRat .binary64 mode (floatAsRat B s e).1 (floatAsRat B s e).2 =
        ((if s < 0 then Ieee.binary64.signBit else 0) + Ieee.binary64.infBits, Flag.pos.flipIf (decide (s < 0)))) :=
  ⟨fun h => rangeExit_over_required into32 into32_compat B hB mode s e hs h,
   fun h => rangeExit_over_required into64 into64_compat B hB mode s e hs h⟩

-- non-vacuity: a decimal and a ternary float beyond the range are decided
example : exponentOutOfRange ⟨7, 128⟩ into32.infExp into32.zeroExp = some true ∧
    exponentOutOfRange ⟨-1, 2 ^ 63 - 1⟩ into64.infExp into64.zeroExp = some true := by decide +kernel

/-- **the decided underflow is the REQUIRED result in every base** for the modes `HalfEven` (every `to_f64`, `Repr::to_f32`,
    `FBig<HalfEven>::to_f32`), `HalfAway` and `Zero`: when the range test answers `Some(false)` the code returns `±0` with
    `NoOp`, and the specification — ONE rounding of the exact rational value `s·B^e` — is `±0`, flagged toward zero.
    (Driver's exponent clamp, underflow side: justified for these modes.) -/
theorem fbig_to_float_range_underflow_is_required (B : Nat) (hB : 2 ≤ B) (mode : Conv.Mode)
    (hm : mode = .halfEven ∨ mode = .halfAway ∨ mode = .zero) (s e : Int) (hs : s ≠ 0) :
    (exponentOutOfRange ⟨s, e⟩ into32.infExp into32.zeroExp = some false →
      rangeExit into32 ⟨s, e⟩ = some ((if s < 0 then Ieee.binary32.signBit else 0), some .NoOp) ∧
      ieeeRoundRat .binary32 mode (floatAsRat B s e).1 (floatAsRat B s e).2 =
        ((if s < 0 then Ieee.binary32.signBit else 0), Flag.neg.flipIf (decide (s < 0)))) ∧
    (exponentOutOfRange ⟨s, e⟩ into64.infExp into64.zeroExp = some false →
      rangeExit into64 ⟨s, e⟩ = some ((if s < 0 then Ieee.binary64.signBit else 0), some .NoOp) ∧
      ieeeRoundRat .binary64 mode (floatAsRat B s e).1 (floatAsRat B s e).2 =
        ((if s < 0 then Ieee.binary64.signBit else 0), Flag.neg.flipIf (decide (s < 0)))) :=
  ⟨fun h => rangeExit_under_required into32 into32_compat B hB mode hm s e hs h,
   fun h => rangeExit_under_required into64 into64_compat B hB mode hm s e hs h⟩

example : exponentOutOfRange ⟨7, -176 - 1⟩ into32.infExp into32.zeroExp = some false ∧
    exponentOutOfRange ⟨-1, -(2 ^ 63)⟩ into64.infExp into64.zeroExp = some false := by decide +kernel

/-- the modes left out above are left out for a reason (the recorded finding "directed modes not honoured below the normal
    range" — it is the behaviour of `into_f32_internal`'s own underflow exit, which the range test reproduces): `2^-200`
    under `Up` must become the least subnormal, flagged above; the code answers `+0`, `NoOp` -/
theorem fbig_to_float_range_underflow_directed_counterexample :
    rangeExit into32 ⟨1, -200⟩ = some (0, some .NoOp) ∧
    ieeeRoundRat .binary32 .up (floatAsRat 2 1 (-200)).1 (floatAsRat 2 1 (-200)).2 = (1, .pos) := by
  decide +kernel

/-- **the decided underflow in EVERY mode, every base** (`fbig_to_float_range_underflow_is_required`
    without its mode hypothesis): when the range test answers `Some(false)` the code returns `±0`
    with `NoOp`; the specification — ONE rounding of the exact rational value `s·B^e` — is `±0` flagged toward zero,
    EXCEPT when the mode rounds a magnitude of this sign up (`Away`; `Up` for `s > 0`; `Down` for `s < 0`), where it is
    the least subnormal `±2^qmin` (bits `sign + 1`) flagged away from zero — independent of `e`.  So the returned bits are
    the required ones IFF the mode is not one of those three cases (= the predicate of the recorded finding "directed
    modes not honoured below the normal range" on this arm), and the driver's exponent clamp on the underflow side is
    justified in every mode (the required result does not depend on `e`). -/
theorem fbig_to_float_range_underflow_every_mode (B : Nat) (hB : 2 ≤ B) (mode : Conv.Mode) (s e : Int) (hs : s ≠ 0) :
    (exponentOutOfRange ⟨s, e⟩ into32.infExp into32.zeroExp = some false →
      rangeExit into32 ⟨s, e⟩ = some ((if s < 0 then Ieee.binary32.signBit else 0), some .NoOp) ∧
      ieeeRoundRat .binary32 mode (floatAsRat B s e).1 (floatAsRat B s e).2 =
        (if mode = .away ∨ (mode = .up ∧ ¬ s < 0) ∨ (mode = .down ∧ s < 0)
         then ((if s < 0 then Ieee.binary32.signBit else 0) + 1, Flag.pos.flipIf (decide (s < 0)))
         else ((if s < 0 then Ieee.binary32.signBit else 0), Flag.neg.flipIf (decide (s < 0)))) ∧
      ((ieeeRoundRat .binary32 mode (floatAsRat B s e).1 (floatAsRat B s e).2).1 =
          (if s < 0 then Ieee.binary32.signBit else 0) ↔
        ¬ (mode = .away ∨ (mode = .up ∧ ¬ s < 0) ∨ (mode = .down ∧ s < 0)))) ∧
    (exponentOutOfRange ⟨s, e⟩ into64.infExp into64.zeroExp = some false →
      rangeExit into64 ⟨s, e⟩ = some ((if s < 0 then Ieee.binary64.signBit else 0), some .NoOp) ∧
      ieeeRoundRat .binary64 mode (floatAsRat B s e).1 (floatAsRat B s e).2 =
        (if mode = .away ∨ (mode = .up ∧ ¬ s < 0) ∨ (mode = .down ∧ s < 0)
         then ((if s < 0 then Ieee.binary64.signBit else 0) + 1, Flag.pos.flipIf (decide (s < 0)))
         else ((if s < 0 then Ieee.binary64.signBit else 0), Flag.neg.flipIf (decide (s < 0)))) ∧
      ((ieeeRoundRat .binary64 mode (floatAsRat B s e).1 (floatAsRat B s e).2).1 =
          (if s < 0 then Ieee.binary64.signBit else 0) ↔
        ¬ (mode = .away ∨ (mode = .up ∧ ¬ s < 0) ∨ (mode = .down ∧ s < 0)))) :=
  ⟨fun h => rangeExit_under_every_mode into32 into32_compat B hB mode s e hs h,
   fun h => rangeExit_under_every_mode into64 into64_compat B hB mode s e hs h⟩

-- non-vacuity: decided inputs in bases 10 and 3, both branches of the mode condition occur (Down on a negative value rounds
-- the magnitude up, Down on a positive one does not), and the kernel agrees with the closed form on a concrete input
example : exponentOutOfRange ⟨7, -176 - 1⟩ into32.infExp into32.zeroExp = some false ∧
    exponentOutOfRange ⟨-5, -(2 ^ 63)⟩ into64.infExp into64.zeroExp = some false ∧
    ieeeRoundRat .binary32 .down (floatAsRat 10 (-7) (-177)).1 (floatAsRat 10 (-7) (-177)).2 = (0x80000001, .neg) ∧
    ieeeRoundRat .binary32 .down (floatAsRat 10 7 (-177)).1 (floatAsRat 10 7 (-177)).2 = (0, .neg) ∧
    ieeeRoundRat .binary32 .away (floatAsRat 3 7 (-177)).1 (floatAsRat 3 7 (-177)).2 = (1, .pos) := by decide +kernel

end Dashu.Props.C06
