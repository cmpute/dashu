import Dashu.Props.C18KernelsCmp
/-
  C18 ↔ C01 / C05: the `loop { … }` of `RBig::farey_neighbors` with its mediant
  `&left.numerator + &right.numerator` (IBig + IBig), `&left.denominator + &right.denominator` (UBig + UBig) through C01's
  mirrored `ibigAdd` / `TRepr.add` and its tests `&next.denominator > limit` (Ord for UBig) through C05's mirrored
  comparison, on canonical representations: equal to the model's `fareyLoop` for every word size.  (`reduce` = C12's
  gcd: Props/C18Kernels.reduce_over_proved_gcd; `next > x.0` = `Repr::cmp`: Props/C18Link.cmpQ_is_regenerated_repr_cmp.)
-/
namespace Dashu.Props.C18KernelsFarey
open Dashu Dashu.Model Dashu.Model.Ratio Dashu.Model.Cross Dashu.Props.C18Kernels

/-- `UBig + UBig` through the mirrored kernel (`TRepr.add`), ownership form `form` -/
def uaddW (W form : Nat) (x y : Nat) : Nat := ((ofNat W x).add W (ofNat W y) form).value W
/-- `UBig > UBig` through the mirrored `Ord for UBig` -/
def ugtW (W : Nat) (x y : Nat) : Bool := ubigOrdW W x y == .gt

theorem uaddW_eq (W : Nat) (hW : 1 ≤ W) (form : Nat) (x y : Nat) : uaddW W form x y = x + y :=
  (Dashu.Props.C01.u_add_sub_of_nat W hW x y form false).1

theorem ugtW_eq (W : Nat) (hW : 1 ≤ W) (x y : Nat) : ugtW W x y = decide (x > y) := by
  unfold ugtW
  rw [Dashu.Props.C14Link.ubig_ord_mirrored W hW]
  rcases Nat.lt_trichotomy x y with h | h | h
  · have : compare x y = .lt := by simp [compare, compareOfLessAndEq, h]
    have h' : ¬ x > y := by omega
    simp [this, h']
  · subst h; simp [compare, compareOfLessAndEq]
  · have h1 : ¬ x < y := by omega
    have h2 : ¬ x = y := by omega
    have : compare x y = .gt := by simp [compare, compareOfLessAndEq, h1, h2]
    simp [this, h]

/-- the `loop { … }` of `RBig::farey_neighbors` (same text as `fareyLoop`), mediant additions and denominator tests through
    the word-level kernels at word size `W` -/
def fareyLoopW (W form : Nat) (x : Q) (limit : Nat) : Nat → Q → Q → Except PanicKind (Option (Q × Q))
  | 0, _, _ => .ok none
  | fuel + 1, left, right => do
    let next : Q := ⟨addW W form left.num right.num, uaddW W form left.den right.den⟩
    let nextR ← if ugtW W next.den limit = true then reduce next else pure next
    if ugtW W next.den limit = true ∧ ugtW W nextR.den limit = true then pure (some (left, right))
    else if cmpQ nextR x = .gt then fareyLoopW W form x limit fuel left nextR
    else fareyLoopW W form x limit fuel nextR right

/-- **the Farey walk over the proved kernels is the model's walk**: every word size ≥ 4, target, limit, fuel, bracket,
    ownership form; panics included -/
theorem farey_over_proved_kernels (W : Nat) (hW : 4 ≤ W) (form : Nat) (x : Q) (limit fuel : Nat) (l r : Q) :
    fareyLoopW W form x limit fuel l r = fareyLoop x limit fuel l r := by
  induction fuel generalizing l r with
  | zero => rfl
  | succ n ih =>
    simp only [fareyLoopW, fareyLoop, addW_eq W hW, uaddW_eq W (by omega), ugtW_eq W (by omega), decide_eq_true_eq, ih]

/-- non-vacuity: neighbours of 3/7 in the Farey sequence of order 4 at 64-bit words: 1/3 and 1/2 -/
example : fareyLoopW 64 0 ⟨3, 7⟩ 4 10 Q.zero Q.one = .ok (some (⟨1, 3⟩, ⟨1, 2⟩)) := by
  rw [farey_over_proved_kernels 64 (by decide)]; decide
example : uaddW 64 0 (2 ^ 64 - 1) 1 = 2 ^ 64 ∧ ugtW 64 (2 ^ 130 + 7) (2 ^ 130 + 5) = true := by
  rw [uaddW_eq 64 (by decide), ugtW_eq 64 (by decide)]; decide

end Dashu.Props.C18KernelsFarey
