import Dashu.Gen.Glue
import Dashu.Proofs.Int.Bits
/-
  Tie A theorems for C09: the sign tables of the IBig bit operators, AS REGENERATED from /repo's
  source on this run (`Dashu/Gen/Glue.lean`: `impl_ibig_bitand/_bitor/_bitxor` of
  integer/src/bits.rs), composed with the magnitude kernels of `GluePrelude` taken at their
  specification, equal the two's-complement specification `specAnd/specOr/specXor` of
  `Dashu/Model/Int/Bits.lean` (which `Props/C09.lean` characterises bit by bit).
  A changed arm, swapped operand, dropped `sub_one` or missing `!` in the Rust macros changes the
  generated text and these theorems stop checking.  The hand-written tables `ibigAnd/ibigOr/ibigXor`
  of the model are proved equal to the same specification in `Props/C09.lean`, so generated text,
  hand model and specification agree.
-/
namespace Dashu.Props.GenBits
open Dashu Dashu.Gen Dashu.GluePrelude Dashu.Model

theorem and_xor_eq_natAndNot (a b : Nat) : a &&& (a ^^^ b) = natAndNot a b := by
  apply Nat.eq_of_testBit_eq; intro i
  rw [Nat.testBit_and, Nat.testBit_xor, testBit_natAndNot]
  cases a.testBit i <;> cases b.testBit i <;> rfl

theorem toNat_pred (b : Nat) : ((b : Int) - 1).toNat = b - 1 := Int.toNat_sub b 1

/-- `IBig & IBig` as generated from the source -/
theorem gen_ibig_bitand (s0 s1 : Sign) (m0 m1 : Int) (h0 : 0 ≤ m0) (h1 : 0 ≤ m1)
    (hn0 : s0 = .Negative → 0 < m0) (hn1 : s1 = .Negative → 0 < m1) :
    impl_ibig_bitand s0 m0 s1 m1 = specAnd (s0.apply m0) (s1.apply m1) := by
  obtain ⟨a, rfl⟩ := Int.eq_ofNat_of_zero_le h0
  obtain ⟨b, rfl⟩ := Int.eq_ofNat_of_zero_le h1
  have ha : s0 = .Negative → a ≠ 0 := fun h => Nat.ne_of_gt (Int.natCast_pos.1 (hn0 h))
  have hb : s1 = .Negative → b ≠ 0 := fun h => Nat.ne_of_gt (Int.natCast_pos.1 (hn1 h))
  cases s0 <;> cases s1 <;>
    simp only [impl_ibig_bitand, mkIBig, bitand, and_not, into_typed, sub_one, bitor, not_,
      HasNot.not_, Sign.apply, Int.toNat_natCast, toNat_pred, Int.ofNat_eq_natCast]
  · rw [specAnd_pp]
  · rw [specAnd_pn a b (hb rfl), and_xor_eq_natAndNot]
  · rw [specAnd_np a b (ha rfl), and_xor_eq_natAndNot]
  · rw [specAnd_nn a b (ha rfl) (hb rfl)]
    rfl

/-- `IBig | IBig` as generated from the source -/
theorem gen_ibig_bitor (s0 s1 : Sign) (m0 m1 : Int) (h0 : 0 ≤ m0) (h1 : 0 ≤ m1)
    (hn0 : s0 = .Negative → 0 < m0) (hn1 : s1 = .Negative → 0 < m1) :
    impl_ibig_bitor s0 m0 s1 m1 = specOr (s0.apply m0) (s1.apply m1) := by
  obtain ⟨a, rfl⟩ := Int.eq_ofNat_of_zero_le h0
  obtain ⟨b, rfl⟩ := Int.eq_ofNat_of_zero_le h1
  have ha : s0 = .Negative → a ≠ 0 := fun h => Nat.ne_of_gt (Int.natCast_pos.1 (hn0 h))
  have hb : s1 = .Negative → b ≠ 0 := fun h => Nat.ne_of_gt (Int.natCast_pos.1 (hn1 h))
  cases s0 <;> cases s1 <;>
    simp only [impl_ibig_bitor, mkIBig, bitand, and_not, into_typed, sub_one, bitor, not_,
      HasNot.not_, Sign.apply, Int.toNat_natCast, toNat_pred, Int.ofNat_eq_natCast]
  · rw [specOr_pp]
  · rw [specOr_pn a b (hb rfl), and_xor_eq_natAndNot]
    rfl
  · rw [specOr_np a b (ha rfl), and_xor_eq_natAndNot]
    rfl
  · rw [specOr_nn a b (ha rfl) (hb rfl)]
    rfl

/-- `IBig ^ IBig` as generated from the source -/
theorem gen_ibig_bitxor (s0 s1 : Sign) (m0 m1 : Int) (h0 : 0 ≤ m0) (h1 : 0 ≤ m1)
    (hn0 : s0 = .Negative → 0 < m0) (hn1 : s1 = .Negative → 0 < m1) :
    impl_ibig_bitxor s0 m0 s1 m1 = specXor (s0.apply m0) (s1.apply m1) := by
  obtain ⟨a, rfl⟩ := Int.eq_ofNat_of_zero_le h0
  obtain ⟨b, rfl⟩ := Int.eq_ofNat_of_zero_le h1
  have ha : s0 = .Negative → a ≠ 0 := fun h => Nat.ne_of_gt (Int.natCast_pos.1 (hn0 h))
  have hb : s1 = .Negative → b ≠ 0 := fun h => Nat.ne_of_gt (Int.natCast_pos.1 (hn1 h))
  cases s0 <;> cases s1 <;>
    simp only [impl_ibig_bitxor, mkIBig, bitxor, into_typed, sub_one, not_,
      HasNot.not_, Sign.apply, Int.toNat_natCast, toNat_pred, Int.ofNat_eq_natCast]
  · rw [specXor_pp]
  · rw [specXor_pn a b (hb rfl)]
    rfl
  · rw [specXor_np a b (ha rfl)]
    rfl
  · rw [specXor_nn a b (ha rfl) (hb rfl)]

/-- consequently the generated tables satisfy the relational two's-complement statement -/
theorem gen_ibig_bitand_bits (s0 s1 : Sign) (m0 m1 : Int) (h0 : 0 ≤ m0) (h1 : 0 ≤ m1)
    (hn0 : s0 = .Negative → 0 < m0) (hn1 : s1 = .Negative → 0 < m1) (i : Nat) :
    Int.testBit (impl_ibig_bitand s0 m0 s1 m1) i
      = (Int.testBit (s0.apply m0) i && Int.testBit (s1.apply m1) i) := by
  rw [gen_ibig_bitand s0 s1 m0 m1 h0 h1 hn0 hn1, specAnd_eq_land, Int.testBit_land]

theorem gen_ibig_bitor_bits (s0 s1 : Sign) (m0 m1 : Int) (h0 : 0 ≤ m0) (h1 : 0 ≤ m1)
    (hn0 : s0 = .Negative → 0 < m0) (hn1 : s1 = .Negative → 0 < m1) (i : Nat) :
    Int.testBit (impl_ibig_bitor s0 m0 s1 m1) i
      = (Int.testBit (s0.apply m0) i || Int.testBit (s1.apply m1) i) := by
  rw [gen_ibig_bitor s0 s1 m0 m1 h0 h1 hn0 hn1, specOr_eq_lor, Int.testBit_lor]

theorem gen_ibig_bitxor_bits (s0 s1 : Sign) (m0 m1 : Int) (h0 : 0 ≤ m0) (h1 : 0 ≤ m1)
    (hn0 : s0 = .Negative → 0 < m0) (hn1 : s1 = .Negative → 0 < m1) (i : Nat) :
    Int.testBit (impl_ibig_bitxor s0 m0 s1 m1) i
      = (Int.testBit (s0.apply m0) i ^^ Int.testBit (s1.apply m1) i) := by
  rw [gen_ibig_bitxor s0 s1 m0 m1 h0 h1 hn0 hn1, specXor_eq_xor, Int.testBit_lxor]

end Dashu.Props.GenBits
