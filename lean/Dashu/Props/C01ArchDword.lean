import Dashu.Model.Int.Repr
import Dashu.Props.C01Arch
/-
  C01 ↔ C19 link, second layer.  `C01Arch` links the three same-length loops of add.rs as whole loops and
  every other call site of `arch::add::add_with_carry` / `sub_with_borrow` only as a single step.  Here the four
  remaining functions of add.rs that call those routines (directly or through the same-length loops) are written as
  the Rust functions over the REGENERATED routine and proved to be the model's definitions:
  `add_dword_in_place`, `sub_dword_in_place` (first word by `overflowing_add` / `overflowing_sub` — C19's
  `Model/Arch/Prelude` contract form —, second word by the routine with the Boolean carry of the first, then
  `carry && add_one_in_place(words_hi)`), `add_in_place`, `sub_in_place` (`split_at_mut(rhs.len())`, the same-length
  loop over the routine, then `carry && add_one_in_place(lhs_hi)`).
-/
namespace Dashu.Props.C01ArchDword
open Dashu.Model Dashu.Model.Arch Dashu.Gen.ArchAdd Dashu.Props.C19 Dashu.Props.C01Arch

/-- add.rs `add_dword_in_place` over a given `add_with_carry`:
    `let (b0, b1) = split_dword(rhs); let (s0, carry) = word_0.overflowing_add(b0);
     let (s1, carry) = add_with_carry(*word_1, b1, carry); carry && add_one_in_place(words_hi)`
    (the Boolean result of `add_one_in_place` is the model's 0/1 of `addOne`) -/
def addDwordInPlaceVia (W : Nat) (awc : Nat → Nat → Bool → Nat × Bool) (ws : List Nat) (d : Nat) : List Nat × Nat :=
  match ws with
  | w0 :: w1 :: hi =>
    let p0 := overflowing_add W w0 (d % 2 ^ W)
    let p1 := awc w1 (d / 2 ^ W) p0.2
    if p1.2 then
      let q := addOne W hi
      (p0.1 :: p1.1 :: q.1, q.2)
    else (p0.1 :: p1.1 :: hi, 0)
  | _ => (ws, 0)

/-- add.rs `sub_dword_in_place` over a given `sub_with_borrow` -/
def subDwordInPlaceVia (W : Nat) (swb : Nat → Nat → Bool → Nat × Bool) (ws : List Nat) (d : Nat) : List Nat × Nat :=
  match ws with
  | w0 :: w1 :: hi =>
    let p0 := overflowing_sub W w0 (d % 2 ^ W)
    let p1 := swb w1 (d / 2 ^ W) p0.2
    if p1.2 then
      let q := subOne W hi
      (p0.1 :: p1.1 :: q.1, q.2)
    else (p0.1 :: p1.1 :: hi, 0)
  | _ => (ws, 0)

/-- add.rs `add_in_place` over a given `add_with_carry`:
    `let (lhs_lo, lhs_hi) = lhs.split_at_mut(rhs.len()); let carry = add_same_len_in_place(lhs_lo, rhs);
     carry && add_one_in_place(lhs_hi)` -/
def addInPlaceVia (W : Nat) (awc : Nat → Nat → Bool → Nat × Bool) (lhs rhs : List Nat) : List Nat × Nat :=
  let p := addSameLenVia awc (lhs.take rhs.length) rhs false
  if p.2 then
    let q := addOne W (lhs.drop rhs.length)
    (p.1 ++ q.1, q.2)
  else (p.1 ++ lhs.drop rhs.length, 0)

/-- add.rs `sub_in_place` over a given `sub_with_borrow` -/
def subInPlaceVia (W : Nat) (swb : Nat → Nat → Bool → Nat × Bool) (lhs rhs : List Nat) : List Nat × Nat :=
  let p := subSameLenVia swb (lhs.take rhs.length) rhs false
  if p.2 then
    let q := subOne W (lhs.drop rhs.length)
    (p.1 ++ q.1, q.2)
  else (p.1 ++ lhs.drop rhs.length, 0)

theorem cin_eq_zero (b : Bool) : cin b = 0 ↔ b = false := by cases b <;> decide

theorem hi_lt (W d : Nat) (hd : d < 2 ^ (2 * W)) : d / 2 ^ W < 2 ^ W :=
  Nat.div_lt_of_lt_mul (by rwa [Nat.two_mul, Nat.pow_add] at hd)

theorem div_le_one (P a b k : Nat) (ha : a < P) : (a + P - b - k) / P ≤ 1 :=
  Nat.le_of_lt_succ (Nat.div_lt_of_lt_mul (by omega))

/-- `overflowing_add` is the `add_with_carry` step with carry-in `false` -/
theorem overflowing_add_carry (W a b : Nat) (ha : a < 2 ^ W) (hb : b < 2 ^ W) :
    cin (overflowing_add W a b).2 = (a + b) / 2 ^ W := by
  have e : 2 ^ W ≤ a + b ↔ (a + b) / 2 ^ W ≠ 0 :=
    (Nat.div_ne_zero_iff.trans (and_iff_right (pow_pos' W).ne')).symm
  rw [overflowing_add, decide_eq_decide.2 e]
  exact add_carry_num W a b false ha hb

/-- `overflowing_sub` is the `sub_with_borrow` step with borrow-in `false` -/
theorem overflowing_sub_borrow (W a b : Nat) (ha : a < 2 ^ W) (hb : b < 2 ^ W) :
    cin (overflowing_sub W a b).2 = 1 - (a + 2 ^ W - b) / 2 ^ W :=
  (sub_borrow_num W a b false ha hb).2

/-- the model's test "no borrow out" (`q = 1`, `q` the quotient `d / 2^W`) against the Boolean borrow -/
theorem borrow_clear {q : Nat} {b : Bool} (hq : q ≤ 1) (e : cin b = 1 - q) : q = 1 ↔ b = false := by
  rw [← cin_eq_zero, e]
  omega

/-- `add_dword_in_place` over ANY routine meeting the `add_with_carry` contract is the model's `addDwordInPlace` -/
theorem add_dword_in_place_via (W : Nat) (awc : Nat → Nat → Bool → Nat × Bool) (h : AddContract W awc)
    (ws : List Nat) (d : Nat) (hW : IsWords W ws) (hd : d < 2 ^ (2 * W)) :
    addDwordInPlace W ws d = addDwordInPlaceVia W awc ws d := by
  match ws, hW with
  | [], _ => rfl
  | [_], _ => rfl
  | w0 :: w1 :: hi, hW =>
    have e0 := overflowing_add_carry W w0 (d % 2 ^ W) hW.head (Nat.mod_lt _ (pow_pos' W))
    obtain ⟨e1, e2⟩ := add_step h w1 (d / 2 ^ W) (overflowing_add W w0 (d % 2 ^ W)).2 hW.tail.head (hi_lt W d hd)
    simp only [addDwordInPlace, addDwordInPlaceVia, ← e0, ← e1, ← e2, cin_eq_zero]
    cases (awc w1 (d / 2 ^ W) (overflowing_add W w0 (d % 2 ^ W)).2).2 <;> rfl

/-- `sub_dword_in_place` over ANY routine meeting the `sub_with_borrow` contract is the model's `subDwordInPlace` -/
theorem sub_dword_in_place_via (W : Nat) (swb : Nat → Nat → Bool → Nat × Bool) (h : SubContract W swb)
    (ws : List Nat) (d : Nat) (hW : IsWords W ws) (hd : d < 2 ^ (2 * W)) :
    subDwordInPlace W ws d = subDwordInPlaceVia W swb ws d := by
  match ws, hW with
  | [], _ => rfl
  | [_], _ => rfl
  | w0 :: w1 :: hi, hW =>
    have e0 := overflowing_sub_borrow W w0 (d % 2 ^ W) hW.head (Nat.mod_lt _ (pow_pos' W))
    obtain ⟨e1, e2⟩ := sub_step h w1 (d / 2 ^ W) (overflowing_sub W w0 (d % 2 ^ W)).2 hW.tail.head (hi_lt W d hd)
    have e3 := borrow_clear (div_le_one (2 ^ W) w1 _ _ hW.tail.head) e2
    simp only [subDwordInPlace, subDwordInPlaceVia, ← e0, ← e1, e3]
    cases (swb w1 (d / 2 ^ W) (overflowing_sub W w0 (d % 2 ^ W)).2).2 <;> rfl

/-- `add_in_place` over ANY routine meeting the contract is the model's `addInPlace` -/
theorem add_in_place_via (W : Nat) (awc : Nat → Nat → Bool → Nat × Bool) (h : AddContract W awc)
    (lhs rhs : List Nat) (hL : IsWords W lhs) (hR : IsWords W rhs) :
    addInPlace W lhs rhs = addInPlaceVia W awc lhs rhs := by
  have key : addSameLen W (lhs.take rhs.length) rhs 0 = _ :=
    add_same_len_via W awc h _ rhs false (hL.take _) hR
  simp only [addInPlace, addInPlaceVia, key, cin_eq_zero]
  cases (addSameLenVia awc (lhs.take rhs.length) rhs false).2 <;> rfl

/-- `sub_in_place` over ANY routine meeting the contract is the model's `subInPlace` -/
theorem sub_in_place_via (W : Nat) (swb : Nat → Nat → Bool → Nat × Bool) (h : SubContract W swb)
    (lhs rhs : List Nat) (hL : IsWords W lhs) (hR : IsWords W rhs) :
    subInPlace W lhs rhs = subInPlaceVia W swb lhs rhs := by
  have key : subSameLen W (lhs.take rhs.length) rhs 0 = _ :=
    sub_same_len_via W swb h _ rhs false (hL.take _) hR
  simp only [subInPlace, subInPlaceVia, key, cin_eq_zero]
  cases (subSameLenVia swb (lhs.take rhs.length) rhs false).2 <;> rfl

/-- the four functions over ANY pair of routines meeting the contracts -/
theorem add_rs_functions_via (W : Nat) (awc swb : Nat → Nat → Bool → Nat × Bool) (ha : AddContract W awc)
    (hs : SubContract W swb) (ws lhs rhs : List Nat) (d : Nat)
    (hW : IsWords W ws) (hd : d < 2 ^ (2 * W)) (hL : IsWords W lhs) (hR : IsWords W rhs) :
    addDwordInPlace W ws d = addDwordInPlaceVia W awc ws d ∧
    subDwordInPlace W ws d = subDwordInPlaceVia W swb ws d ∧
    addInPlace W lhs rhs = addInPlaceVia W awc lhs rhs ∧
    subInPlace W lhs rhs = subInPlaceVia W swb lhs rhs :=
  ⟨add_dword_in_place_via W awc ha ws d hW hd, sub_dword_in_place_via W swb hs ws d hW hd,
   add_in_place_via W awc ha lhs rhs hL hR, sub_in_place_via W swb hs lhs rhs hL hR⟩

/-- LINK C01 ↔ C19, second layer: `add_dword_in_place`, `sub_dword_in_place`, `add_in_place`, `sub_in_place` of add.rs,
    written as the Rust functions over the `add_with_carry` / `sub_with_borrow` bodies REGENERATED from
    arch/generic/add.rs (every word size), arch/x86_64/add.rs (W = 64, the build the correspondence runs) and
    arch/x86/add.rs (W = 32), ARE the model's `addDwordInPlace` / `subDwordInPlace` / `addInPlace` / `subInPlace`
    (words and returned carry / borrow) that `add_large_dword`, `sub_large_dword`, `add_large`, `sub_large`,
    `sub_in_place_with_sign` and the multiplication kernels of C01 are stated over. -/
theorem add_rs_functions_over_regenerated_arch (W : Nat) (ws lhs rhs : List Nat) (d : Nat)
    (hW : IsWords W ws) (hd : d < 2 ^ (2 * W)) (hL : IsWords W lhs) (hR : IsWords W rhs) :
    (addDwordInPlace W ws d = addDwordInPlaceVia W (generic_add_with_carry W) ws d ∧
     subDwordInPlace W ws d = subDwordInPlaceVia W (generic_sub_with_borrow W) ws d ∧
     addInPlace W lhs rhs = addInPlaceVia W (generic_add_with_carry W) lhs rhs ∧
     subInPlace W lhs rhs = subInPlaceVia W (generic_sub_with_borrow W) lhs rhs) ∧
    (W = 64 →
     addDwordInPlace W ws d = addDwordInPlaceVia W x86_64_add_with_carry ws d ∧
     subDwordInPlace W ws d = subDwordInPlaceVia W x86_64_sub_with_borrow ws d ∧
     addInPlace W lhs rhs = addInPlaceVia W x86_64_add_with_carry lhs rhs ∧
     subInPlace W lhs rhs = subInPlaceVia W x86_64_sub_with_borrow lhs rhs) ∧
    (W = 32 →
     addDwordInPlace W ws d = addDwordInPlaceVia W x86_add_with_carry ws d ∧
     subDwordInPlace W ws d = subDwordInPlaceVia W x86_sub_with_borrow ws d ∧
     addInPlace W lhs rhs = addInPlaceVia W x86_add_with_carry lhs rhs ∧
     subInPlace W lhs rhs = subInPlaceVia W x86_sub_with_borrow lhs rhs) := by
  obtain ⟨hg, h64, h32⟩ := regenerated_routines_meet_contract
  refine ⟨add_rs_functions_via W _ _ (hg W).1 (hg W).2 ws lhs rhs d hW hd hL hR, ?_, ?_⟩
  · rintro rfl
    exact add_rs_functions_via 64 _ _ h64.1 h64.2 ws lhs rhs d hW hd hL hR
  · rintro rfl
    exact add_rs_functions_via 32 _ _ h32.1 h32.2 ws lhs rhs d hW hd hL hR

/-- non-vacuity (x86_64 routine, 64 bits): a double word whose addition carries out of word 0, out of word 1 and
    through an all-ones word above; a double-word subtraction borrowing through both words and a zero word above;
    `add_in_place` / `sub_in_place` with a shorter rhs whose carry / borrow runs into `lhs_hi` -/
example : IsWords 64 [2 ^ 64 - 1, 2 ^ 64 - 1, 2 ^ 64 - 1, 5] ∧ 2 ^ 128 - 1 < 2 ^ (2 * 64) ∧
    addDwordInPlaceVia 64 x86_64_add_with_carry [2 ^ 64 - 1, 2 ^ 64 - 1, 2 ^ 64 - 1, 5] (2 ^ 128 - 1)
      = ([2 ^ 64 - 2, 2 ^ 64 - 1, 0, 6], 0) ∧
    addDwordInPlace 64 [2 ^ 64 - 1, 2 ^ 64 - 1, 2 ^ 64 - 1, 5] (2 ^ 128 - 1) = ([2 ^ 64 - 2, 2 ^ 64 - 1, 0, 6], 0) ∧
    IsWords 64 [0, 0, 0, 7] ∧
    subDwordInPlaceVia 64 x86_64_sub_with_borrow [0, 0, 0, 7] (2 ^ 128 - 1) = ([1, 0, 2 ^ 64 - 1, 6], 0) ∧
    subDwordInPlace 64 [0, 0, 0, 7] (2 ^ 128 - 1) = ([1, 0, 2 ^ 64 - 1, 6], 0) ∧
    subDwordInPlaceVia 64 x86_64_sub_with_borrow [0, 0] 1 = ([2 ^ 64 - 1, 2 ^ 64 - 1], 1) ∧
    IsWords 64 [1, 0] ∧
    addInPlaceVia 64 x86_64_add_with_carry [2 ^ 64 - 1, 2 ^ 64 - 1, 2 ^ 64 - 1, 5] [1, 0] = ([0, 0, 0, 6], 0) ∧
    addInPlace 64 [2 ^ 64 - 1, 2 ^ 64 - 1, 2 ^ 64 - 1, 5] [1, 0] = ([0, 0, 0, 6], 0) ∧
    subInPlaceVia 64 x86_64_sub_with_borrow [0, 0, 0, 7] [1, 0] = ([2 ^ 64 - 1, 2 ^ 64 - 1, 2 ^ 64 - 1, 6], 0) ∧
    subInPlace 64 [0, 0, 0, 7] [1, 0] = ([2 ^ 64 - 1, 2 ^ 64 - 1, 2 ^ 64 - 1, 6], 0) := by decide

end Dashu.Props.C01ArchDword
