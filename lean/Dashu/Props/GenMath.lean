import Dashu.Gen.MathHelpers
import Dashu.Proofs.Int.Bits
import Dashu.Proofs.Gen.MachInt
/-
  C09, Tie A over `integer/src/math.rs`.  The definitions of `Dashu.Gen.MathHelpers` are REGENERATED from
  the Rust text on every run (`vlib/extract.py`, `gen_math_helpers`), over checked machine-integer
  operations (`none` = the Rust operation overflows).  Each theorem says: on the stated domain no
  operation of the body overflows, the result is the specification, and it is the definition the
  hand-written bit model (`Dashu/Model/Int/Bits.lean`) uses in its place.
-/
namespace Dashu.Props.GenMath
open Dashu.Model Dashu.GluePrelude Dashu.Gen.MathHelpers

theorem bitLength_eq (x : Nat) : MachInt.bitLength x = bitLenNat x := rfl

/-- `math::bit_len(x) = BITS − leading_zeros(x)` never underflows and is the bit length:
    `0` for `0`, otherwise the `k` with `2^(k-1) ≤ x < 2^k`. -/
theorem gen_bit_len (bits x : Nat) (hx : x < 2 ^ bits) :
    bit_len bits x = some (bitLenNat x) ∧ x < 2 ^ bitLenNat x ∧ (x ≠ 0 → 2 ^ (bitLenNat x - 1) ≤ x) := by
  have hle := bitLenNat_le x bits hx
  refine ⟨?_, (bitLenNat_spec x).1, (bitLenNat_spec x).2⟩
  have hlz : MachInt.leading_zeros bits x = bits - bitLenNat x := rfl
  have h1 : MachInt.leading_zeros bits x ≤ bits := by rw [hlz]; exact Nat.sub_le _ _
  simp only [bit_len, MachInt.sub_ok h1]
  rw [hlz, Nat.sub_sub_self hle]

/-- `math::ceil_log2(x)`, `x ≠ 0`: no underflow in `x − 1`, and the result `k` is the least with `x ≤ 2^k`. -/
theorem gen_ceil_log2 (bits x : Nat) (hx : x < 2 ^ bits) (h0 : x ≠ 0) :
    ceil_log2 bits x = some (bitLenNat (x - 1)) ∧ x ≤ 2 ^ bitLenNat (x - 1) ∧
    (bitLenNat (x - 1) ≠ 0 → 2 ^ (bitLenNat (x - 1) - 1) < x) := by
  have hx1 : x - 1 < 2 ^ bits := Nat.lt_of_le_of_lt (Nat.sub_le x 1) hx
  have hs := bitLenNat_spec (x - 1)
  refine ⟨?_, Nat.le_of_pred_lt hs.1, fun hk => ?_⟩
  · have h1 : 1 ≤ x := Nat.pos_of_ne_zero h0
    simp only [ceil_log2, MachInt.sub_ok h1, bind, Option.bind, (gen_bit_len bits (x - 1) hx1).1]
  · have h1 : x - 1 ≠ 0 := fun h => hk (by rw [h]; rfl)
    exact Nat.lt_of_le_of_lt (hs.2 h1) (Nat.sub_one_lt h0)

theorem ceilDiv_pos_eq (a b : Nat) (ha : a ≠ 0) : ceilDiv a b = (a - 1) / b + 1 := by
  unfold ceilDiv; rw [if_neg ha]

/-- the hand model's `ceilDiv` is the ceiling of `a / b` -/
theorem ceilDiv_spec (a b : Nat) (hb : 0 < b) :
    ceilDiv a b = (a + b - 1) / b ∧ (∀ q, ceilDiv a b ≤ q ↔ a ≤ q * b) := by
  by_cases ha : a = 0
  · subst ha
    rw [show ceilDiv 0 b = 0 from if_pos rfl, Nat.zero_add, Nat.div_eq_of_lt (Nat.sub_lt hb Nat.one_pos)]
    exact ⟨rfl, fun q => ⟨fun _ => Nat.zero_le _, fun _ => Nat.zero_le _⟩⟩
  · rw [ceilDiv_pos_eq a b ha]
    refine ⟨?_, fun q => ?_⟩
    · rw [Nat.sub_add_comm (Nat.pos_of_ne_zero ha), Nat.add_div_right _ hb]
    · rw [Nat.add_one_le_iff, Nat.div_lt_iff_lt_mul hb, Nat.lt_iff_add_one_le,
        Nat.sub_add_cancel (Nat.pos_of_ne_zero ha)]

theorem ceilDiv_le_self (a b : Nat) (hb : 0 < b) : ceilDiv a b ≤ a := by
  rw [(ceilDiv_spec a b hb).2 a]
  exact Nat.le_mul_of_pos_right a hb

/-- **`math::ceil_div(a, b)`** (`b ≠ 0`): for EVERY `a` of the type — in particular `a` within `b − 1` of the type
    maximum — no operation of the body overflows, and the result is `⌈a / b⌉`, the value the hand model's
    `ceilDiv` computes.  (The "textbook" body `(a + (b − 1)) / b` does not satisfy this statement.) -/
theorem gen_ceil_div (bits a b : Nat) (ha : a < 2 ^ bits) (hb : 0 < b) :
    ceil_div bits a b = some (ceilDiv a b) := by
  by_cases h0 : a = 0
  · subst h0; simp [ceil_div, ceilDiv]
  · have hle := ceilDiv_le_self a b hb
    rw [ceilDiv_pos_eq a b h0] at hle ⊢
    have hbeq : (a == 0) = false := by simp [h0]
    -- no operation of the body overflows: each side condition is arithmetic, whatever the operand order of the text
    simp (disch := omega) only [ceil_div, hbeq, MachInt.sub_ok, MachInt.div_ok, MachInt.add_ok, bind, Option.bind, pure,
      Bool.false_eq_true, if_false]

/-- `math::ceil_div_usize`: the `const fn` twin, proved from its own regenerated text -/
theorem gen_ceil_div_usize (U a b : Nat) (ha : a < 2 ^ U) (hb : 0 < b) :
    ceil_div_usize U a b = some (ceilDiv a b) :=
  gen_ceil_div U a b ha hb

/-- `math::round_up(a, b)`: the least multiple of `b` that is `≥ a`, and it overflows exactly when that multiple
    does not fit the type (only the final multiplication can overflow). -/
theorem gen_round_up (bits a b : Nat) (ha : a < 2 ^ bits) (hb : 0 < b) :
    round_up bits a b = (if ceilDiv a b * b < 2 ^ bits then some (ceilDiv a b * b) else none) ∧
    a ≤ ceilDiv a b * b ∧ ceilDiv a b * b < a + b ∧ (∀ m, a ≤ m * b → ceilDiv a b * b ≤ m * b) := by
  have hs := ceilDiv_spec a b hb
  refine ⟨?_, (hs.2 _).1 (Nat.le_refl _), ?_, fun m hm => Nat.mul_le_mul_right b ((hs.2 m).2 hm)⟩
  · simp only [round_up, gen_ceil_div bits a b ha hb, MachInt.mul, bind, Option.bind, pure]
  · rw [hs.1]
    have := Nat.div_mul_le_self (a + b - 1) b
    omega

/-- `math::round_up_usize` (it sizes the `DigitWriter` buffer at compile time) -/
theorem gen_round_up_usize (U a b : Nat) (ha : a < 2 ^ U) (hb : 0 < b) :
    round_up_usize U a b = (if ceilDiv a b * b < 2 ^ U then some (ceilDiv a b * b) else none) :=
  (gen_round_up U a b ha hb).1

/-- all-ones shifted down: `(2^w − 1) >> (w − n) = 2^n − 1` -/
theorem maxVal_shr (w n : Nat) (hn : n ≤ w) : (2 ^ w - 1) / 2 ^ (w - n) = 2 ^ n - 1 := by
  have h := Nat.mul_sub_div 0 (2 ^ (w - n)) (2 ^ n) (Nat.mul_pos (Nat.two_pow_pos _) (Nat.two_pow_pos _))
  rwa [← Nat.pow_add, Nat.sub_add_cancel hn, Nat.zero_div] at h

/-- **`math::ones_word(n)`**, `n ≤ WORD_BITS`: neither `BIT_SIZE − n` nor the shift overflows (the `n == 0` arm is what
    keeps the shift amount below the width) and the result is `2^n − 1`: exactly bits `0..n−1` set.  It is the `onesN`
    of the hand model. -/
theorem gen_ones_word (W n : Nat) (hn : n ≤ W) :
    ones_word W n = some (onesN n) ∧ (∀ i, (onesN n).testBit i = decide (i < n)) := by
  refine ⟨?_, fun i => by unfold onesN; exact Nat.testBit_two_pow_sub_one n i⟩
  by_cases h0 : n = 0
  · subst h0; simp [ones_word, onesN]
  · have hbeq : (n == 0) = false := by simp [h0]
    simp only [ones_word, hbeq, MachInt.sub_ok hn, MachInt.shr_ok (show W - n < W by omega), MachInt.maxVal, bind,
      Option.bind, pure, Bool.false_eq_true, if_false, maxVal_shr W n hn, onesN]

/-- **`math::ones_dword(n)`**, `n ≤ DWORD_BITS` -/
theorem gen_ones_dword (W n : Nat) (hn : n ≤ 2 * W) :
    ones_dword W n = some (onesN n) :=
  (gen_ones_word (2 * W) n hn).1

/-- outside the domain the shift amount underflows: `ones_word(WORD_BITS + 1)` is an overflow (which is why the callers
    clamp or reduce the count first: `n.min(DWORD_BITS)`, `n % WORD_BITS`) -/
theorem gen_ones_word_out_of_domain (W n : Nat) (hn : W < n) : ones_word W n = none := by
  have hbeq : (n == 0) = false := by simp; omega
  have : ¬ n ≤ W := by omega
  simp [ones_word, hbeq, MachInt.sub, this]

/-- **`math::shl_dword(dw, s)`**, `s ≤ WORD_BITS`: no shift overflows and the three words are those of the hand model's
    `mathShlDword`, i.e. `n0 + 2^W·n1 + 2^(2W)·n2 = dw · 2^s` with every word in range. -/
theorem gen_shl_dword (W dw s : Nat) (hW : 1 ≤ W) (hd : dw < 2 ^ (2 * W)) (hs : s ≤ W) :
    shl_dword W dw s = some (mathShlDword W dw s) := by
  have hs2 : s < 2 * W := by omega
  have hpw : (2 : Nat) ^ (2 * W) = 2 ^ W * 2 ^ W := by rw [← Nat.pow_add]; congr 1; omega
  have h2s : (2 : Nat) ^ s ≤ 2 ^ W := Nat.pow_le_pow_right (by decide) hs
  have hlo : dw % 2 ^ W < 2 ^ W := Nat.mod_lt _ (Nat.two_pow_pos W)
  have hhi : dw / 2 ^ W < 2 ^ W := by
    apply Nat.div_lt_of_lt_mul; rw [← hpw]; exact hd
  have m1 : dw % 2 ^ W * 2 ^ s < 2 ^ (2 * W) := by
    rw [hpw]; exact Nat.mul_lt_mul_of_lt_of_le hlo h2s (Nat.two_pow_pos W)
  have m2 : dw / 2 ^ W * 2 ^ s < 2 ^ (2 * W) := by
    rw [hpw]; exact Nat.mul_lt_mul_of_lt_of_le hhi h2s (Nat.two_pow_pos W)
  simp only [shl_dword, MachInt.shl_ok hs2 m1, MachInt.shl_ok hs2 m2, MachInt.split_dword, bind, Option.bind, pure,
    mathShlDword]

/-- **`math::shr_word(w, s)`**, `s ≤ WORD_BITS`: `(w >> s, the s bits shifted out, left-aligned in a word)` — the step of
    `shift::shr_in_place_with_carry` as the hand model's `shrBits` performs it. -/
theorem gen_shr_word (W w s : Nat) (hW : 1 ≤ W) (hs : s ≤ W) :
    shr_word W w s = some (w / 2 ^ s, w % 2 ^ s * 2 ^ (W - s)) := by
  have hs2 : s < 2 * W := by omega
  -- the regenerated body is the division model's `shrWord`
  rw [← Div.shrWord_spec W w s hs]
  simp only [shr_word, MachInt.shr_ok hs2, MachInt.double_word, MachInt.split_dword, bind, Option.bind, pure,
    Div.shrWord, Nat.zero_add, Nat.mul_comm (2 ^ W) w]

/-- the word step of the hand model's `shrBits` (`shift::shr_in_place_with_carry`) IS the regenerated `shr_word` -/
theorem shrBits_step_is_shr_word (W s a : Nat) (as : List Nat) (hW : 1 ≤ W) (hs : s ≤ W) :
    ∃ nw nc, shr_word W a s = some (nw, nc) ∧
      shrBits W s (a :: as) = ((nw ||| (shrBits W s as).2) :: (shrBits W s as).1, nc) :=
  ⟨_, _, gen_shr_word W a s hW hs, rfl⟩

-- non-vacuity / the overflow the theorem excludes: at the type maximum the real body is fine, and the operations are
-- genuinely checked (an addition that leaves the type is `none`)
example : ceil_div 64 (2 ^ 64 - 1) 64 = some (2 ^ 58) ∧ ceil_div_usize 64 (2 ^ 64 - 63) 64 = some (2 ^ 58) ∧
    MachInt.add 64 (2 ^ 64 - 1) 63 = none ∧ ones_word 64 64 = some (2 ^ 64 - 1) ∧ ones_word 64 0 = some 0 ∧
    ones_dword 64 128 = some (2 ^ 128 - 1) ∧ bit_len 64 (2 ^ 63) = some 64 ∧ round_up 64 (2 ^ 64 - 1) 64 = none ∧
    round_up 64 65 64 = some 128 ∧ shr_word 64 (2 ^ 63 + 5) 3 = some (2 ^ 60, 5 * 2 ^ 61) ∧
    shl_dword 64 (2 ^ 128 - 1) 64 = some (0, 2 ^ 64 - 1, 2 ^ 64 - 1) := by
  refine ⟨by decide +kernel, by decide +kernel, by decide +kernel, by decide +kernel, by decide +kernel, by decide +kernel, by decide +kernel, by decide +kernel, by decide +kernel, by decide +kernel,
    by decide +kernel⟩

end Dashu.Props.GenMath
