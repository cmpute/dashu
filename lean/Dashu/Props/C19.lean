import Dashu.Proofs.Serde.Text
import Dashu.Props.C01
import Dashu.Proofs.Serde.WordSize
import Dashu.Proofs.Int.Bits
import Dashu.Proofs.Text.Grammar
import Dashu.Proofs.Macro.LeBytesBridge
import Dashu.Proofs.Serde.WithBase
import Dashu.Proofs.NT.Log2Table
import Dashu.Model.Serde.Log2Cfg
/-
  C19 — Results do not depend on word size, build features or serialization medium.

  Clause (1), word size: the refinement theorems of C01 hold for every word size `W ≥ 1`; the
  corollaries below say that two builds with different `W` compute the same mathematical value (and
  the same panic) from the same mathematical inputs.  Features and profile do not occur in any model
  definition; that the real builds agree is observed by the correspondence (8 configurations).

  Clause (3), serialization: the formats of `Model/Serde` contain no word size; `decode (encode x) = x`;
  every decoder maps an arbitrary stream to a canonical value or to an error.

  Clause (2), log2 bounds: the no_std table estimator brackets `log2` on every `u16` input above `0xff`
  (`Proofs/NT/Log2Table`, shared with C12: a fact about the table entries, which the kernel evaluates);
  the `f32` steps around it and the std estimator are replicated with Lean's compiled `Float32` and every
  pair of bounds is checked exactly by the driver.
-/
namespace Dashu.Props.C19
open Dashu.Model Dashu.Model.Serde

-- ====================================================================== (1) word size

/-- UBig `+`: any two word sizes, any call forms -/
theorem word_size_independent_u_add (W₁ W₂ : Nat) (h₁ : 1 ≤ W₁) (h₂ : 1 ≤ W₂) (x y f₁ f₂ : Nat) :
    ((ofNat W₁ x).add W₁ (ofNat W₁ y) f₁).value W₁ = ((ofNat W₂ x).add W₂ (ofNat W₂ y) f₂).value W₂ := by
  rw [(C01.u_add_sub_of_nat W₁ (by omega) x y f₁ false).1, (C01.u_add_sub_of_nat W₂ (by omega) x y f₂ false).1]

/-- UBig `-`: the same value, or the same `NegativeUBig` panic, in both builds -/
theorem word_size_independent_u_sub (W₁ W₂ : Nat) (h₁ : 1 ≤ W₁) (h₂ : 1 ≤ W₂) (x y : Nat) (rv₁ rv₂ : Bool) :
    (y ≤ x → ∃ r₁ r₂, (ofNat W₁ x).sub W₁ (ofNat W₁ y) rv₁ = .ok r₁ ∧ (ofNat W₂ x).sub W₂ (ofNat W₂ y) rv₂ = .ok r₂ ∧
      r₁.value W₁ = r₂.value W₂) ∧
    (x < y → (ofNat W₁ x).sub W₁ (ofNat W₁ y) rv₁ = .error .negativeUBig ∧
      (ofNat W₂ x).sub W₂ (ofNat W₂ y) rv₂ = .error .negativeUBig) := by
  have a := C01.u_add_sub_of_nat W₁ (by omega) x y 0 rv₁
  have b := C01.u_add_sub_of_nat W₂ (by omega) x y 0 rv₂
  constructor
  · intro h
    obtain ⟨r₁, e₁, v₁⟩ := a.2.1 h
    obtain ⟨r₂, e₂, v₂⟩ := b.2.1 h
    exact ⟨r₁, r₂, e₁, e₂, by rw [v₁, v₂]⟩
  · intro h; exact ⟨a.2.2 h, b.2.2 h⟩

/-- UBig `*` and squaring -/
theorem word_size_independent_u_mul (W₁ W₂ : Nat) (h₁ : 8 ≤ W₁) (h₂ : 8 ≤ W₂) (x y : Nat) :
    ((ofNat W₁ x).mul W₁ (ofNat W₁ y)).value W₁ = ((ofNat W₂ x).mul W₂ (ofNat W₂ y)).value W₂ ∧
    ((ofNat W₁ x).sqr W₁).value W₁ = ((ofNat W₂ x).sqr W₂).value W₂ := by
  have ox₁ := C01.of_nat_exact W₁ (by omega) x; have oy₁ := C01.of_nat_exact W₁ (by omega) y
  have ox₂ := C01.of_nat_exact W₂ (by omega) x; have oy₂ := C01.of_nat_exact W₂ (by omega) y
  constructor
  · rw [(C01.u_mul_exact W₁ (by omega) _ _ ox₁.2 oy₁.2).1, (C01.u_mul_exact W₂ (by omega) _ _ ox₂.2 oy₂.2).1,
      ox₁.1, oy₁.1, ox₂.1, oy₂.1]
  · rw [(C01.u_sqr_exact W₁ (by omega) _ ox₁.2).1, (C01.u_sqr_exact W₂ (by omega) _ ox₂.2).1, ox₁.1, ox₂.1]

/-- IBig `+`, `-`, `*` -/
theorem word_size_independent_i_ring (W₁ W₂ : Nat) (h₁ : 8 ≤ W₁) (h₂ : 8 ≤ W₂) (x y : Int) (f₁ f₂ : Nat) :
    (ibigAdd W₁ (.ofInt W₁ x) (.ofInt W₁ y) f₁).value W₁ = (ibigAdd W₂ (.ofInt W₂ x) (.ofInt W₂ y) f₂).value W₂ ∧
    (ibigSub W₁ (.ofInt W₁ x) (.ofInt W₁ y) f₁).value W₁ = (ibigSub W₂ (.ofInt W₂ x) (.ofInt W₂ y) f₂).value W₂ ∧
    (ibigMul W₁ (.ofInt W₁ x) (.ofInt W₁ y)).value W₁ = (ibigMul W₂ (.ofInt W₂ x) (.ofInt W₂ y)).value W₂ := by
  have a := C01.i_add_sub_of_int W₁ (by omega) x y f₁
  have b := C01.i_add_sub_of_int W₂ (by omega) x y f₂
  have ox₁ := C01.of_int_exact W₁ (by omega) x; have oy₁ := C01.of_int_exact W₁ (by omega) y
  have ox₂ := C01.of_int_exact W₂ (by omega) x; have oy₂ := C01.of_int_exact W₂ (by omega) y
  refine ⟨by rw [a.1, b.1], by rw [a.2, b.2], ?_⟩
  rw [(C01.i_mul_exact W₁ (by omega) _ _ ox₁.2 oy₁.2).1, (C01.i_mul_exact W₂ (by omega) _ _ ox₂.2 oy₂.2).1,
    ox₁.1, oy₁.1, ox₂.1, oy₂.1]

/-- UBig division: same quotient and remainder (= `x / y`, `x % y`), or the same `DivideByZero` panic (C02) -/
theorem word_size_independent_u_div_rem (W₁ W₂ : Nat) (h₁ : 8 ≤ W₁) (h₂ : 8 ≤ W₂) (x y : Nat) :
    (y = 0 → Div.divRemRepr W₁ (ofNat W₁ x) (ofNat W₁ y) = .error .divideByZero ∧
             Div.divRemRepr W₂ (ofNat W₂ x) (ofNat W₂ y) = .error .divideByZero) ∧
    (y ≠ 0 → ∃ q₁ r₁ q₂ r₂, Div.divRemRepr W₁ (ofNat W₁ x) (ofNat W₁ y) = .ok (q₁, r₁) ∧
        Div.divRemRepr W₂ (ofNat W₂ x) (ofNat W₂ y) = .ok (q₂, r₂) ∧
        q₁.value W₁ = q₂.value W₂ ∧ r₁.value W₁ = r₂.value W₂ ∧ q₁.value W₁ = x / y ∧ r₁.value W₁ = x % y) :=
  WordSize.word_size_independent_u_div_rem W₁ W₂ h₁ h₂ x y

/-- UBig `&`, `|`, `^`, `<<`, `>>` (C09) -/
theorem word_size_independent_u_bits (W₁ W₂ : Nat) (h₁ : 8 ≤ W₁) (h₂ : 8 ≤ W₂) (x y n : Nat) (byRef₁ byRef₂ : Bool) :
    ((ofNat W₁ x).bitand W₁ (ofNat W₁ y)).value W₁ = ((ofNat W₂ x).bitand W₂ (ofNat W₂ y)).value W₂ ∧
    ((ofNat W₁ x).bitor W₁ (ofNat W₁ y)).value W₁ = ((ofNat W₂ x).bitor W₂ (ofNat W₂ y)).value W₂ ∧
    ((ofNat W₁ x).bitxor W₁ (ofNat W₁ y)).value W₁ = ((ofNat W₂ x).bitxor W₂ (ofNat W₂ y)).value W₂ ∧
    ((ofNat W₁ x).shl W₁ n).value W₁ = ((ofNat W₂ x).shl W₂ n).value W₂ ∧
    ((ofNat W₁ x).shr W₁ n byRef₁).value W₁ = ((ofNat W₂ x).shr W₂ n byRef₂).value W₂ := by
  have v₁ := ofNat_value W₁ (by omega); have c₁ := ofNat_canon W₁ (by omega)
  have v₂ := ofNat_value W₂ (by omega); have c₂ := ofNat_canon W₂ (by omega)
  refine ⟨?_, ?_, ?_, ?_, ?_⟩
  · rw [(TRepr.bitand_spec W₁ _ _ (c₁ x) (c₁ y)).1, (TRepr.bitand_spec W₂ _ _ (c₂ x) (c₂ y)).1, v₁, v₁, v₂, v₂]
  · rw [(TRepr.bitor_spec W₁ _ _ (c₁ x) (c₁ y)).1, (TRepr.bitor_spec W₂ _ _ (c₂ x) (c₂ y)).1, v₁, v₁, v₂, v₂]
  · rw [(TRepr.bitxor_spec W₁ _ _ (c₁ x) (c₁ y)).1, (TRepr.bitxor_spec W₂ _ _ (c₂ x) (c₂ y)).1, v₁, v₁, v₂, v₂]
  · rw [(TRepr.shl_spec W₁ (by omega) _ n (c₁ x)).1, (TRepr.shl_spec W₂ (by omega) _ n (c₂ x)).1, v₁, v₂]
  · rw [(TRepr.shr_spec W₁ (by omega) _ n byRef₁ (c₁ x)).1, (TRepr.shr_spec W₂ (by omega) _ n byRef₂ (c₂ x)).1, v₁, v₂]

/-- text and bytes (C07): printing under every format trait, `from_str_radix`, `from_str_with_radix_default`,
    `to_le_bytes`, `from_le_bytes` are the same functions in any two word sizes (multiples of 8, ≥ 8) -/
theorem word_size_independent_text (W₁ W₂ : Nat) (h₁ : 8 ≤ W₁) (h₂ : 8 ≤ W₂) (d₁ : 8 ∣ W₁) (d₂ : 8 ∣ W₂) :
    (∀ (t : Text.FmtTrait) (f : Text.FmtSpec) (z : Int), Text.validRadix t.radix = true →
      Text.fmtModel W₁ t f z = Text.fmtModel W₂ t f z) ∧
    (∀ (signed : Bool) (s : List Nat) (r : Nat), Text.parseRadix W₁ signed s r = Text.parseRadix W₂ signed s r) ∧
    (∀ (signed : Bool) (s : List Nat) (dflt : Nat), Text.parseDefault W₁ signed s dflt = Text.parseDefault W₂ signed s dflt) ∧
    (∀ n : Nat, Text.toLeBytes W₁ n = Text.toLeBytes W₂ n) ∧
    (∀ bytes : List Nat, Text.fromLeBytes W₁ bytes = Text.fromLeBytes W₂ bytes) := by
  have p₁ : (36 : Nat) < 2 ^ W₁ := Text.validRadix_lt_word (by decide) h₁
  have p₂ : (36 : Nat) < 2 ^ W₂ := Text.validRadix_lt_word (by decide) h₂
  refine ⟨?_, ?_, ?_, ?_, ?_⟩
  · intro t f z hv
    rw [Text.fmtModel_eq_fmtSpec W₁ t f z hv (Text.validRadix_lt_word hv h₁),
      Text.fmtModel_eq_fmtSpec W₂ t f z hv (Text.validRadix_lt_word hv h₂)]
  · intro signed s r
    rw [Text.parseRadix_spec W₁ p₁, Text.parseRadix_spec W₂ p₂]
  · intro signed s dflt
    rw [Text.parseDefault_spec W₁ p₁, Text.parseDefault_spec W₂ p₂]
  · intro n
    rw [Text.toLeBytes_eq W₁ n d₁ h₁, Text.toLeBytes_eq W₂ n d₂ h₂]
  · intro bytes
    rw [Text.fromLeBytes_eq W₁ d₁ h₁ bytes, Text.fromLeBytes_eq W₂ d₂ h₂ bytes]

example : (8 : Nat) ≤ 64 ∧ (8 : Nat) ≤ 32 ∧ 8 ∣ 64 ∧ 8 ∣ 32 := by decide

/-- `FBig::with_base` (code since /repo fa3b7b8): the precision of the result is the documented maximum
    `max {q | NewB^q ≤ B^p}` in all three branches (`p·n` for `B = NewB^n`, `p / n` for `NewB = B^n`, the
    exact integer logarithm otherwise) — and therefore the same in every word size (before the fix it
    came from `f32` log2 bounds of word-size dependent tightness: base 8 → 16, precision 32 gave 24
    digits with 64-bit and 23 with 32-bit words) -/
theorem with_base_precision_word_size_independent (W₁ W₂ B NewB p : Nat) (hB : 1 ≤ B) (hN : 2 ≤ NewB) :
    (p * Text.ilogExact B NewB ≤ 2 ^ 64 - 1 →
      Text.withBasePrecision W₁ B NewB p = Text.withBasePrecisionSpec B NewB p) ∧
    Text.withBasePrecision W₁ B NewB p = Text.withBasePrecision W₂ B NewB p :=
  ⟨fun hp => Text.withBasePrecision_eq_spec W₁ B NewB p hB hN hp, Text.withBasePrecision_word_size W₁ W₂ B NewB p⟩

/-- the hypothesis `p·n ≤ usize::MAX` is met by every precision that fits in memory, e.g. base 16 → 2 (n = 4) -/
example : 1000 * Text.ilogExact 16 2 ≤ 2 ^ 64 - 1 := by decide

example : Text.withBasePrecision 32 8 16 32 = 24 ∧ Text.withBasePrecision 64 8 16 32 = 24 := by
  constructor <;> decide

/-- the two word sizes the builds use -/
example (x y : Int) :
    (ibigMul 64 (.ofInt 64 x) (.ofInt 64 y)).value 64 = (ibigMul 32 (.ofInt 32 x) (.ofInt 32 y)).value 32 :=
  (word_size_independent_i_ring 64 32 (by decide) (by decide) x y 0 0).2.2

-- ====================================================================== (3) serialization: bytes

/-- `UBig::from_le_bytes (to_le_bytes n) = n`; the byte string is a function of the value alone
    (`leBytes` has no word-size parameter), minimal (no most-significant zero byte) -/
theorem le_bytes_round_trip (n : Nat) :
    ofLeBytes (leBytes n) = n ∧ isBytes (leBytes n) ∧ (leBytes n).getLast? ≠ some 0 :=
  ⟨ofLeBytes_leBytes n, leBytes_isBytes n, leBytes_getLast_ne_zero n⟩

/-- the byte payload of `impl Serialize for UBig` **is** what `UBig::to_le_bytes` computes word by word
    (C07's word-level model) in every word size that is a multiple of 8, and `visit_bytes` is that word
    size's `from_le_bytes`: the wire format is identical across word sizes -/
theorem serde_bytes_word_size_independent (W : Nat) (h8 : 8 ∣ W) (hW : 8 ≤ W) (n : Nat) (bs : Bytes) :
    Text.toLeBytes W n = leBytes n ∧ Text.fromLeBytes W bs = ofLeBytes bs :=
  ⟨Macro.toLeBytes_eq_leBytes W h8 hW n, Macro.fromLeBytes_eq_ofLeBytes' W h8 hW bs⟩

/-- decoding accepts most-significant zero bytes and still yields the canonical number -/
theorem le_bytes_leading_zeros (bs : Bytes) : ofLeBytes (bs ++ [0]) = ofLeBytes bs := ofLeBytes_append_zero bs

-- ====================================================================== (3) binary medium

/-- UBig: decode ∘ encode = id, and exactly the encoding is consumed.  (Hypothesis: the byte
    length fits the `usize` length prefix — true of every value that fits in memory.) -/
theorem ubig_binary_round_trip (n : Nat) (rest : Bytes) (h : (leBytes n).length < 2 ^ 64) :
    decU (encU n ++ rest) = some (n, rest) := decU_encU n rest h

/-- IBig: the sign survives through the parity of the payload length -/
theorem ibig_binary_round_trip (z : Int) (rest : Bytes) (h : (ibigPayload z).length < 2 ^ 64) :
    decI (encI z ++ rest) = some (z, rest) := decI_encI z rest h

example : (ibigPayload (-256)).length < 2 ^ 64 ∧ encI (-256) = [3, 0, 1, 0] := by
  have h : leBytes 256 = [0, 1] := by simp [leBytes]
  constructor
  · simp [ibigPayload, h]
  · simp [encI, ibigPayload, h, pcBytes, varintEnc]

/-- an all-zero payload of odd length ("negative zero") decodes to the number 0 -/
theorem ibig_no_negative_zero (b : Bytes) (h : ofLeBytes b = 0) : ibigOfPayload b = 0 :=
  Dashu.Model.Serde.ibig_no_negative_zero b h

/-- RBig: a reduced fraction comes back unchanged -/
theorem rbig_binary_round_trip (q : QVal) (rest : Bytes) (hq : QReduced q)
    (h1 : (ibigPayload q.num).length < 2 ^ 64) (h2 : (leBytes q.den).length < 2 ^ 64) :
    decQ (encQ q ++ rest) = some (q, rest) := decQ_encQ q rest hq h1 h2

/-- Relaxed: a fraction without a common factor 2 comes back unchanged -/
theorem relaxed_binary_round_trip (q : QVal) (rest : Bytes) (hq : QRelaxed q)
    (h1 : (ibigPayload q.num).length < 2 ^ 64) (h2 : (leBytes q.den).length < 2 ^ 64) :
    decX (encQ q ++ rest) = some (q, rest) :=
  decRat_encQ qreduce2 q rest hq.1 (qreduce2_of_relaxed q hq) h1 h2

/-- a non-reduced pair on the wire (6/9: payloads `06 00` and `09`) decodes to the reduced 2/3 as `RBig`;
    a zero denominator is an error -/
example : decQ [2, 6, 0, 1, 9] = some (⟨2, 3⟩, []) ∧ decQ [2, 6, 0, 0] = none ∧ QReduced ⟨2, 3⟩ := by
  refine ⟨by decide, by decide, by decide, by decide⟩

example : QRelaxed ⟨-6, 9⟩ ∧ ¬ QReduced ⟨-6, 9⟩ := by
  constructor
  · refine ⟨by decide, by decide, by decide⟩
  · intro h; exact absurd h.2 (by decide)

/-- Repr<B>: a canonical representation (finite normalised, zero, or an infinity) comes back
    unchanged -/
theorem repr_binary_round_trip (B : Nat) (v : FVal) (rest : Bytes) (hv : FCanon B v)
    (h1 : (ibigPayload v.signif).length < 2 ^ 64) :
    decR B (encR v ++ rest) = some (v, rest) := by
  simp only [decR, encR, List.append_assoc, decI_encI _ _ h1, pcTakeI64_pcI64 _ _ hv.2.2,
    fread_of_canon B v.signif v.exp hv, Option.bind_eq_bind, Option.bind_some]
  rfl

/-- FBig<R,B>: representation and precision come back unchanged -/
theorem fbig_binary_round_trip (B : Nat) (v : FPVal) (rest : Bytes) (hv : FPCanon B v)
    (h1 : (ibigPayload v.signif).length < 2 ^ 64) (hp : v.prec < 2 ^ 64) :
    decF B (encF v ++ rest) = some (v, rest) := decF_encF B v rest hv h1 hp

example : FCanon 10 ⟨-1234, -2⟩ ∧ FCanon 10 ⟨0, 1⟩ ∧ ¬ FCanon 10 ⟨1230, 0⟩ := by
  refine ⟨⟨by decide, by decide, by decide⟩, ⟨by decide, by decide, by decide⟩, ?_⟩
  intro h; exact absurd (h.2.1 (by decide)) (by decide)

/-- arbitrary bytes → RBig: in lowest terms with a positive denominator, or an error -/
theorem rbig_binary_decode_canonical (s : Bytes) (q : QVal) (r : Bytes) (h : decQ s = some (q, r)) : QReduced q := by
  obtain ⟨n, d, hd, rfl⟩ := decRat_some qreduce h
  exact qreduce_reduced n d hd

/-- arbitrary bytes → Relaxed: positive denominator, no common factor 2, zero as 0/1, or an error -/
theorem relaxed_binary_decode_canonical (s : Bytes) (q : QVal) (r : Bytes) (h : decX s = some (q, r)) : QRelaxed q := by
  obtain ⟨n, d, hd, rfl⟩ := decRat_some qreduce2 h
  exact qreduce2_relaxed n d hd

/-- arbitrary bytes → Repr<B>: normalised (or zero / infinity) with an in-range exponent, or an error -/
theorem repr_binary_decode_canonical (B : Nat) (hB : 2 ≤ B) (s : Bytes) (v : FVal) (r : Bytes)
    (h : decR B s = some (v, r)) : FCanon B v := by
  simp only [decR, Option.bind_eq_bind, Option.bind_eq_some_iff, Prod.exists] at h
  obtain ⟨sig, r1, -, e, r2, -, w, h3, h⟩ := h
  cases h
  exact fread_canon B hB sig e v h3

/-- arbitrary bytes → FBig<R,B>: additionally `digits ≤ precision` unless unlimited, or an error -/
theorem fbig_binary_decode_canonical (B : Nat) (hB : 2 ≤ B) (s : Bytes) (v : FPVal) (r : Bytes)
    (h : decF B s = some (v, r)) : FPCanon B v := by
  simp only [decF, Option.bind_eq_bind, Option.bind_eq_some_iff, Prod.exists] at h
  obtain ⟨sig, r1, -, e, r2, -, p, r3, -, w, h4, h⟩ := h
  split at h
  next hc => cases h; exact ⟨fread_canon B hB sig e w h4, hc⟩
  · cases h

/-! The three places where the code *before* /repo 78fd274 / 9f519ab (`…AsIs` mirrors) broke the
    statements above (now `fixed:` lines in `known_findings.jsonl`): the checks in `decQ` / `decF` /
    `fread` are necessary. -/

/-- as-is: numerator 1 (bytes `01 01`… here `-1`), denominator empty ⇒ `-1/0` -/
theorem rbig_zero_denominator_counterexample : ∃ q r, decQAsIs [1, 1, 0] = some (q, r) ∧ ¬ QReduced q := by
  refine ⟨⟨-1, 0⟩, [], by decide, ?_⟩
  simp [QReduced]

/-- as-is: significand 12345, precision 2 is accepted -/
theorem fbig_precision_counterexample :
    ∃ v r, decFAsIs 10 [2, 0x39, 0x30, 0, 2] = some (v, r) ∧ ¬ FPCanon 10 v := by
  refine ⟨⟨12345, 0, 2⟩, [], ?_, fun h => ?_⟩
  · have h1 : decI [2, 0x39, 0x30, 0, 2] = some (12345, [0, 2]) := by decide
    have h2 : pcTakeI64 [0, 2] = some (0, [2]) := by decide
    have h3 : pcTakeU64 [2] = some (2, []) := by decide
    have h4 : fnew 10 12345 0 = some ⟨12345, 0⟩ :=
      fnew_of_canon 10 12345 0 (by unfold FCanon; decide) (by decide)
    simp only [decFAsIs, h1, h2, h3, h4, Option.bind_eq_bind, Option.bind_some]
    rfl
  · have := h.2
    dsimp only at this
    rw [ndigits_12345] at this
    omega

/-- as-is: `+inf` (stored and serialized as `(0, 1)`) is read back as the number zero -/
theorem repr_infinity_counterexample : encR ⟨0, 1⟩ = [0, 2] ∧ decRAsIs 2 [0, 2] = some (⟨0, 0⟩, []) :=
  ⟨encR_infinity, decRAsIs_infinity⟩

-- ====================================================================== (3) human-readable medium

/-- a text of plain characters survives JSON quoting -/
theorem json_string_round_trip (s : Bytes) (h : ∀ c ∈ s, plainChar c) : jsonUnquote (jsonQuote s) = some s :=
  jsonUnquote_jsonQuote s h

theorem ubig_text_round_trip (n : Nat) : unjsonU (jsonU n) = some n := by
  unfold unjsonU jsonU
  rw [jsonUnquote_jsonQuote _ (textI_plain _), Option.bind_some, parseU,
    parseDefault_textI false n (by omega)]
  rfl

theorem ibig_text_round_trip (z : Int) : unjsonI (jsonI z) = some z := by
  unfold unjsonI jsonI
  rw [jsonUnquote_jsonQuote _ (textI_plain _), Option.bind_some, parseI,
    parseDefault_textI true z (fun _ => rfl)]

/-- RBig / Relaxed: `Display` (`n` or `n/d`) → JSON string → parser + reduction is the identity -/
theorem rbig_text_round_trip (q : QVal) (hq : QReduced q) : unjsonQ (jsonQ q) = some q :=
  parseRat_jsonQ qreduce q hq.1 (qreduce_of_reduced q hq)

theorem relaxed_text_round_trip (q : QVal) (hq : QRelaxed q) : unjsonX (jsonQ q) = some q :=
  parseRat_jsonQ qreduce2 q hq.1 (qreduce2_of_relaxed q hq)

/-- Repr<B> (human-readable medium): `Display` → JSON string → `from_str_native` is the identity on every
    finite canonical representation, every base 2..36 (on top of C08's `display_parse_round_trip`;
    `Text.fmtRound` / `Text.fromStrNativeRaw` are the functions the driver runs) -/
theorem repr_text_round_trip (B : Nat) (hB : Text.validRadix B = true) (v : FVal) (hc : FCanon B v)
    (hfin : v.signif = 0 → v.exp = 0) : unjsonR B (jsonR B v) = some v := unjsonR_jsonR B hB v hc hfin

/-- FBig (human-readable medium): the representation comes back; the precision read back is the number
    of digits written (the text carries no precision — `TODO(next)` in float/src/third_party/serde.rs) -/
theorem fbig_text_round_trip (B : Nat) (hB : Text.validRadix B = true) (v : FVal) (hc : FCanon B v)
    (hfin : v.signif = 0 → v.exp = 0) : ∃ nd, unjsonF B (jsonR B v) = some ⟨v.signif, v.exp, nd⟩ :=
  unjsonF_jsonR B hB v hc hfin

example : Text.validRadix 10 = true ∧ FCanon 10 ⟨-1234, -2⟩ ∧ ((-1234 : Int) = 0 → (-2 : Int) = 0) := by
  refine ⟨by decide, ⟨by decide, by decide, by decide⟩, by decide⟩

/-- arbitrary text → RBig / Relaxed / Repr: canonical or an error -/
theorem rbig_text_decode_canonical (s : Bytes) (q : QVal) (h : unjsonQ s = some q) : QReduced q := by
  obtain ⟨n, d, hd, rfl⟩ := parseRat_some qreduce h
  exact qreduce_reduced n d hd

theorem relaxed_text_decode_canonical (s : Bytes) (q : QVal) (h : unjsonX s = some q) : QRelaxed q := by
  obtain ⟨n, d, hd, rfl⟩ := parseRat_some qreduce2 h
  exact qreduce2_relaxed n d hd

theorem repr_text_decode_canonical (B : Nat) (hB : 2 ≤ B) (s : Bytes) (v : FVal) (h : unjsonR B s = some v) :
    FCanon B v := by
  simp only [unjsonR, Option.map_eq_some_iff, Option.bind_eq_some_iff, Prod.exists] at h
  obtain ⟨w, nd, ⟨t, -, h1⟩, rfl⟩ := h
  exact parseF_canonical B hB t w nd h1

/-
  Infinities: `inf` / `-inf` are printed but not accepted by the parser (error; decided by the
  correspondence, `sd.rinf json`).
-/

-- ====================================================================== (2) log2 bounds, no_std build

/-- the table estimator of base/src/math/log.rs (`#[cfg(not(feature = "std"))]`): for every `u16`
    value above `0xff`, `log2_fp8(n)/256 ≤ log2 n ≤ ceil_log2_fp8(n)/256`, stated without logarithms.
    `log2Fp8` / `ceilLog2Fp8` are the functions `Model/Serde/Log2Cfg.lean` (the driver's no_std replica
    of `log2_bounds`) is built on; the correspondence op `lg.range` compares them with the real
    functions on all `u16` inputs in every no_std configuration. -/
theorem nostd_log2_table_sound (n : Nat) (h1 : 256 ≤ n) (h2 : n < 65536) :
    2 ^ Dashu.Model.NT.log2Fp8 n ≤ n ^ 256 ∧
    (n ≠ 2 ^ (Dashu.Model.NT.bitLen n - 1) → n ^ 256 ≤ 2 ^ Dashu.Model.NT.ceilLog2Fp8 n) :=
  Dashu.Model.NT.log2_fp8_sound n h1 h2

/-- the u8 path squares (or raises to the 4th power) before the lookup: the bound for the power is a
    bound for the value, e.g. `2^lb ≤ (x²)^256 = x^512` -/
theorem nostd_log2_u8_square (x : Nat) (h1 : 16 ≤ x) (h2 : x < 256) :
    2 ^ Dashu.Model.NT.log2Fp8 (x ^ 2) ≤ x ^ 512 := by
  have hlo : 256 ≤ x ^ 2 := by nlinarith
  have hhi : x ^ 2 < 65536 := by nlinarith
  have := (nostd_log2_table_sound (x ^ 2) hlo hhi).1
  rwa [← Nat.pow_mul] at this

end Dashu.Props.C19
