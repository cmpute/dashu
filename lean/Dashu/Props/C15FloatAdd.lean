import Dashu.Props.GenFloatForms
import Dashu.Proofs.Float.Digits
/-
  C15 — the four hand-written variants of float addition (`add_val_val`, `add_val_ref`, `add_ref_val`, `add_ref_ref` of
  float/src/add.rs, AS REGENERATED on this run into Gen/FloatAdd.lean) return the same result — value, precision, panic —
  for all operands.  `GenFloatForms` has the two reference-taking variants; here are the two CONSUMING ones, which are
  written differently: they multiply the sign into the right operand first and call the alignment routines with sign
  `Positive` (`add_ref_val` moreover with the operands exchanged, because the consumed right operand is the one whose
  buffer is reused).  Both relations are stated on the text, for every kernel record (`add_val_val_any`, `add_ref_val_any`
  over `GenFloatAdd.small_large_any`).  That they still compute `opAddSub` needs one fact about the model, `addLS_sign`: moving the sign
  from the parameter into the right significand does not change `reprAddLargeSmall` — true when the digit estimate
  `Repr::digits_ub` does not depend on the sign of the significand (hypothesis `hdub`; it is computed from the magnitude).
-/
namespace Dashu.Props.C15FloatAdd
open Dashu Dashu.Gen Dashu.GluePrelude Dashu.Proofs.Gen Dashu.Model.Float Dashu.Props.GenFloatOps Dashu.Props.GenFloatAdd
  Dashu.Props.GenFloatForms

theorem splitDigits_neg (B : Nat) (v : Int) (n : Nat) :
    splitDigits B (-v) n = (-(splitDigits B v n).1, -(splitDigits B v n).2) := by
  rw [splitDigits_eq, splitDigits_eq]
  unfold splitSpec
  simp [Int.neg_tdiv, Int.neg_tmod]

theorem sgn_neg (x : Int) : sgn (-x) = -sgn x := by
  have := sgn_rsI .Negative x
  simpa [rsI] using this

theorem addLS_sign (B : Nat) (m : Mode) (c : Coarse) (dub : Int → Nat) (hdub : ∀ x, dub (-x) = dub x) (p : Nat)
    (sg : Sign) (lhs : Model.Float.FRepr) (rs re : Int) :
    reprAddLargeSmall B m c dub p lhs ⟨rsI sg * rs, re⟩ 1 = reprAddLargeSmall B m c dub p lhs ⟨rs, re⟩ (rsI sg) := by
  cases sg
  · simp only [rsI, Int.one_mul]
  · unfold reprAddLargeSmall
    simp only [rsI, Int.neg_mul, Int.one_mul, splitDigits_neg, hdub, sgn_neg]

theorem mul_rsI_eq_zero (sg : Sign) (x : Int) : x * rsI sg = 0 ↔ x = 0 := by
  rcases rsI_cases sg with e | e <;> rw [e] <;> omega

theorem rsI_pos : rsI Sign.Positive = 1 := rfl

/-! ### the two consuming forms against the borrowing ones, for every kernel record -/

/-- `add_val_val` multiplies the sign into the right operand and then is `add_val_ref` at sign `Positive` -/
theorem add_val_val_any {E : Type} (k : FloatK E) (x y : GluePrelude.FBig) (sg : Sign) :
    add_val_val k x y sg =
      add_val_ref k x { y with repr := { y.repr with significand := int_mul_sign y.repr.significand sg } } .Positive := by
  unfold add_val_val add_val_ref
  simp only [assert_finite_operands, Repr_is_infinite, is_zero_int, int_mul_sign, apply_eq, mul_rsI_eq_zero, rsI_pos,
    Int.mul_one, add_int]
  rfl

/-- `add_ref_val` is `add_val_val` with the operands of the two alignment routines exchanged -/
theorem add_ref_val_any {E : Type} (k : FloatK E) (x y : GluePrelude.FBig) (sg : Sign) :
    add_ref_val k x y sg = add_val_val k x y sg := by
  unfold add_ref_val add_val_val
  simp only [small_large_any]
  rfl

/-- the model side of "the sign is multiplied into the right operand first": the one step that needs a property of the
    kernel, a digit estimate that does not look at the sign -/
theorem opAddSub_sign (B : Nat) (m : Mode) (c : Coarse) (dub : Int → Nat) (hdub : ∀ x, dub (-x) = dub x) (p : Nat)
    (lhs : Model.Float.FRepr) (rs re : Int) (sg : Sign) :
    Model.Forms.opAddSub B m c dub p lhs ⟨rs * rsI sg, re⟩ 1 = Model.Forms.opAddSub B m c dub p lhs ⟨rs, re⟩ (rsI sg) := by
  have hz : Model.Float.FRepr.isZero ⟨rs * rsI sg, re⟩ = Model.Float.FRepr.isZero ⟨rs, re⟩ := by
    unfold Model.Float.FRepr.isZero
    congr 1
    exact Bool.eq_iff_iff.mpr (by simp only [beq_iff_eq]; exact mul_rsI_eq_zero sg rs)
  unfold Model.Forms.opAddSub ctxAddSub
  rw [hz]
  by_cases hl : lhs.isZero = true
  · simp only [hl, if_true, Int.one_mul, Int.mul_comm rs]
  · simp only [hl, if_false, Bool.false_eq_true, Int.one_mul, Int.mul_comm rs, addLS_sign B m c dub hdub]

/-- **`add_val_val` (`FBig ± FBig`, both consumed) as regenerated** — same closed form as `add_val_ref_is_model`; the
    sign is multiplied into the right operand first, so the digit estimate must not depend on the sign (`hdub`) -/
theorem add_val_val_is_model (B : Nat) (m : Mode) (c : Coarse) (dub : Int → Nat) (hdub : ∀ x, dub (-x) = dub x)
    (ls le : Int) (pl : Nat) (rs re : Int) (pr : Nat) (sg : Sign) :
    add_val_val (modelK B m c dub) ⟨⟨ls, le⟩, ⟨(pl : Int)⟩⟩ ⟨⟨rs, re⟩, ⟨(pr : Int)⟩⟩ sg =
      if (ls = 0 ∧ le ≠ 0) ∨ (rs = 0 ∧ re ≠ 0) then .error .OperateWithInf
      else .ok ⟨toG (Model.Forms.opAddSub B m c dub (Nat.max pl pr) ⟨ls, le⟩ ⟨rs, re⟩ (rsI sg)), ⟨((Nat.max pl pr : Nat) : Int)⟩⟩ := by
  rw [add_val_val_any, add_val_ref_any]
  simp only [int_mul_sign, apply_eq, add_ref_ref_is_model, rsI_pos, opAddSub_sign B m c dub hdub, mul_rsI_eq_zero]

/-- **`add_ref_val` (`&FBig ± FBig`) as regenerated** — the consumed right operand is the buffer the sum is built in, so
    the two alignment routines are called with the operands exchanged -/
theorem add_ref_val_is_model (B : Nat) (m : Mode) (c : Coarse) (dub : Int → Nat) (hdub : ∀ x, dub (-x) = dub x)
    (ls le : Int) (pl : Nat) (rs re : Int) (pr : Nat) (sg : Sign) :
    add_ref_val (modelK B m c dub) ⟨⟨ls, le⟩, ⟨(pl : Int)⟩⟩ ⟨⟨rs, re⟩, ⟨(pr : Int)⟩⟩ sg =
      if (ls = 0 ∧ le ≠ 0) ∨ (rs = 0 ∧ re ≠ 0) then .error .OperateWithInf
      else .ok ⟨toG (Model.Forms.opAddSub B m c dub (Nat.max pl pr) ⟨ls, le⟩ ⟨rs, re⟩ (rsI sg)), ⟨((Nat.max pl pr : Nat) : Int)⟩⟩ := by
  rw [add_ref_val_any]
  exact add_val_val_is_model B m c dub hdub ls le pl rs re pr sg

/-- **C15 for `FBig + FBig` and `FBig − FBig`: the four hand-written variants agree** (value, precision, panic), for every
    base, rounding mode, coarse test and every digit estimate that does not depend on the sign of its argument -/
theorem float_add_forms_agree (B : Nat) (m : Mode) (c : Coarse) (dub : Int → Nat) (hdub : ∀ x, dub (-x) = dub x)
    (ls le : Int) (pl : Nat) (rs re : Int) (pr : Nat) (sg : Sign) :
    add_val_val (modelK B m c dub) ⟨⟨ls, le⟩, ⟨(pl : Int)⟩⟩ ⟨⟨rs, re⟩, ⟨(pr : Int)⟩⟩ sg =
      add_ref_ref (modelK B m c dub) ⟨⟨ls, le⟩, ⟨(pl : Int)⟩⟩ ⟨⟨rs, re⟩, ⟨(pr : Int)⟩⟩ sg ∧
    add_val_ref (modelK B m c dub) ⟨⟨ls, le⟩, ⟨(pl : Int)⟩⟩ ⟨⟨rs, re⟩, ⟨(pr : Int)⟩⟩ sg =
      add_ref_ref (modelK B m c dub) ⟨⟨ls, le⟩, ⟨(pl : Int)⟩⟩ ⟨⟨rs, re⟩, ⟨(pr : Int)⟩⟩ sg ∧
    add_ref_val (modelK B m c dub) ⟨⟨ls, le⟩, ⟨(pl : Int)⟩⟩ ⟨⟨rs, re⟩, ⟨(pr : Int)⟩⟩ sg =
      add_ref_ref (modelK B m c dub) ⟨⟨ls, le⟩, ⟨(pl : Int)⟩⟩ ⟨⟨rs, re⟩, ⟨(pr : Int)⟩⟩ sg := by
  rw [add_val_val_is_model B m c dub hdub, add_ref_val_is_model B m c dub hdub, add_val_ref_is_model, add_ref_ref_is_model]
  exact ⟨rfl, rfl, rfl⟩

/-- the hypothesis on the digit estimate holds for every estimate computed from the magnitude — `Repr::digits_ub` is
    (`log2_bounds` of the significand's magnitude; `Driver/Float.dubF32` starts with `let n := v.natAbs`) -/
theorem dub_of_magnitude (f : Nat → Nat) (x : Int) : (fun v : Int => f v.natAbs) (-x) = (fun v : Int => f v.natAbs) x := by
  simp only [Int.natAbs_neg]

example : add_val_val (modelK 10 .halfAway coarseNone (fun v => v.natAbs)) ⟨⟨123, 2⟩, ⟨(3 : Nat)⟩⟩ ⟨⟨45, -1⟩, ⟨(2 : Nat)⟩⟩ .Negative =
    add_ref_val (modelK 10 .halfAway coarseNone (fun v => v.natAbs)) ⟨⟨123, 2⟩, ⟨(3 : Nat)⟩⟩ ⟨⟨45, -1⟩, ⟨(2 : Nat)⟩⟩ .Negative := by
  have h := float_add_forms_agree 10 .halfAway coarseNone (fun v => v.natAbs) (dub_of_magnitude id) 123 2 3 45 (-1) 2 .Negative
  exact h.1.trans h.2.2.symm

end Dashu.Props.C15FloatAdd
