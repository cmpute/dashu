import Dashu.Gen.TransPrec
import Dashu.Proofs.Trans.Series
import Dashu.Props.C11Powi
/-
  C11 — Tie A for the working precisions: the definitions the mirror (`Model/Trans/{Series,Powi,PowiNeg}.lean`, executed by
  the driver of group `trans`) uses for guard digits, working precisions and the `sub_ulp` exponent are EQUAL to the
  definitions regenerated from the statements of `float/src/exp.rs`, `float/src/log.rs`, `float/src/fbig.rs` on every run
  (`lean/Dashu/Gen/TransPrec.lean`, written by `vlib/extract_transprec.py`).  Every proof is `rfl` (or, for `powi`, the
  length of the bit list, `C11Powi.workPrec_eq`): an edit of one of these formulas in /repo changes the generated text and this module no longer checks.
-/
namespace Dashu.Props.C11Gen
open Dashu.Model.Float Dashu.Model.Trans Dashu.Gen

/-- `series_guard_digits` of `exp_internal` -/
theorem seriesGuardDigits_gen (est : Est) (p : Nat) : seriesGuardDigits est p = TransPrec.exp_series_guard_digits est p := rfl

/-- `pow_guard_digits` of `exp_internal` -/
theorem powGuardDigits_gen (est : Est) (p : Nat) : powGuardDigits est p = TransPrec.exp_pow_guard_digits est p := rfl

/-- `n = 1usize << (self.precision.bit_len() / 2)` -/
theorem expN_gen (p : Nat) : expN p = TransPrec.exp_n p := rfl

/-- the two `work_precision` assignments of the unscaled `exp_m1` branch -/
theorem expWorkPrecNoScaling_gen (est : Est) (p : Nat) (neg : Bool) :
    expWorkPrecNoScaling est p neg =
      if neg then TransPrec.exp_work_precision_1 p (TransPrec.exp_series_guard_digits est p)
      else TransPrec.exp_work_precision_2 p (TransPrec.exp_series_guard_digits est p) := rfl

/-- `work_precision` of the scaled branch of `exp_internal` -/
theorem expWorkPrec_gen (est : Est) (p : Nat) (x : FRepr) :
    expWorkPrec est p x = TransPrec.exp_work_precision_3 p (TransPrec.exp_series_guard_digits est p)
      (TransPrec.exp_pow_guard_digits est p) (TransPrec.exp_n p) (est.intDigits x) := rfl

/-- precision of the powering context of `exp_m1` -/
theorem expm1PowPrec_gen (p : Nat) : expm1PowPrec p = TransPrec.exp_m1_powering_precision p := rfl

/-- working precision of `iacoth` -/
theorem iacothWorkPrec_gen (est : Est) (p : Nat) :
    iacothWorkPrec est p = TransPrec.iacoth_work_precision p (TransPrec.iacoth_guard_digits est p) := rfl

/-- first working precision of `ln_internal` -/
theorem lnWorkPrec_gen (est : Est) (p : Nat) (onePlus : Bool) :
    lnWorkPrec est p onePlus = TransPrec.ln_work_precision p (TransPrec.ln_guard_digits est p) onePlus := rfl

/-- `work_precision += self.precision` -/
theorem lnGrowPrec_gen (w0 p : Nat) : lnGrowPrec w0 p = TransPrec.ln_grow_precision w0 p := rfl

/-- `guard_digits` of `powf` -/
theorem powfGuardDigits_gen (est : Est) (p : Nat) (base exp : FRepr) :
    powfGuardDigits est p base exp = TransPrec.powf_guard_digits est p (est.powfArgDigits base exp) := rfl

/-- working precision of `powi` (non-negative exponent `n ≥ 2`): `self.precision + guard_digits` -/
theorem powiWorkPrec_gen (p n : Nat) (hn : 2 ≤ n) :
    powiWorkPrec p (lowBits n) = p + TransPrec.powi_guard_digits p n :=
  (Dashu.Props.C11Powi.workPrec_eq p n hn).trans (Nat.add_assoc p (bitLen n) (bitLen p))

/-- precision of the reversed context of `powi` with a negative exponent: `self.precision + guard_bits` -/
theorem powiNegPrec_gen (p : Nat) : powiNegPrec p = p + TransPrec.powi_neg_guard_bits p :=
  congrArg (p + ·) (Nat.mul_comm 2 (bitLen p))

/-- `FBig::sub_ulp`: significand 1, exponent as in the source -/
theorem fSubUlp_gen (E : Env) (x : FBigM) : fSubUlp E x = ⟨1, TransPrec.sub_ulp_exponent E.est x⟩ := rfl

end Dashu.Props.C11Gen
