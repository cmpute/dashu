import Dashu.Gen.ShiftHeap
import Dashu.Proofs.Gen.MachInt
import Dashu.Props.GenShift
/-
  C09, Tie A: the heap arms of `<<` / `>>` (`integer/src/shift_ops.rs`, `mod repr`) as REGENERATED text
  (`Dashu/Gen/ShiftHeap.lean`: every buffer statement, the calls of the regenerated loops `shl_in_place` / `shr_in_place` and
  of `math::shl_dword`, the sub-slice `&mut buffer[shift_words..]`, the capacity branch of `shl_large`, the early return of
  `shr_large`) are EQUAL to the arms of the hand model that the C09 driver executes (`shlDword`, `shlLarge`, `shrLarge`
  of `Model/Int/Bits.lean`), for every operand and every count whose word arithmetic fits `usize`.
-/
namespace Dashu.Props.GenShiftHeap
open Dashu.Model Dashu Dashu.GluePrelude Dashu.Gen.ShiftHeap

/-- **`shl_one_spilled`** = the `d = 1` spilled arm of the hand model's `shlDword` -/
theorem gen_shl_one_spilled (W U n : Nat) (hW : 1 ≤ W) (hU : n / W + 1 < 2 ^ U) :
    shl_one_spilled W U n = some (fromBuffer W (List.replicate (n / W) 0 ++ [2 ^ (n % W)])) := by
  have hW0 : W ≠ 0 := by omega
  simp only [shl_one_spilled, MachInt.div_ok hW0, MachInt.rem_ok hW0, MachInt.add_ok hU, MachInt.one_shl (Nat.mod_lt n hW),
    Buffer_allocate, push_zeros, push, List.nil_append, Option.pure_def, Option.bind_eq_bind, Option.bind_some]

/-- **`shl_dword_spilled`** = the general spilled arm of `shlDword` -/
theorem gen_shl_dword_spilled (W U d n : Nat) (hW : 1 ≤ W) (h32 : W ≤ 2 ^ 32) (hd : d < 2 ^ (2 * W))
    (hU : n / W + 3 < 2 ^ U) :
    shl_dword_spilled W U d n =
      some (fromBuffer W (List.replicate (n / W) 0 ++
        [(mathShlDword W d (n % W)).1, (mathShlDword W d (n % W)).2.1, (mathShlDword W d (n % W)).2.2])) := by
  have hW0 : W ≠ 0 := by omega
  have hm : n % W ≤ W := Nat.le_of_lt (Nat.mod_lt n (by omega))
  simp only [shl_dword_spilled, MachInt.div_ok hW0, MachInt.rem_ok hW0, MachInt.add_ok hU, MachInt.cast_mod hW h32,
    Props.GenMath.gen_shl_dword W d (n % W) hW hd hm, Buffer_allocate, push_zeros, push,
    List.nil_append, List.append_assoc, List.cons_append, Option.pure_def, Option.bind_eq_bind, Option.bind_some]

/-- the two spilled arms together: the regenerated text is the hand model's `shlDword` beyond the inline range -/
theorem gen_shl_dword_spilled_arms (W U d n : Nat) (hW : 1 ≤ W) (h32 : W ≤ 2 ^ 32) (hd : d < 2 ^ (2 * W))
    (hU : n / W + 3 < 2 ^ U) (hsp : ¬ n ≤ 2 * W - bitLenNat d) :
    (if d = 1 then shl_one_spilled W U n else shl_dword_spilled W U d n) = some (shlDword W d n) := by
  unfold shlDword
  rw [if_neg hsp]
  by_cases h1 : d = 1
  · rw [if_pos h1, if_pos h1]; exact gen_shl_one_spilled W U n hW (by omega)
  · rw [if_neg h1, if_neg h1]; exact gen_shl_dword_spilled W U d n hW h32 hd hU

theorem split_replicate (k : Nat) (ws : List Nat) :
    split_from (List.replicate k 0 ++ ws) k = some (List.replicate k 0, ws) := by
  simp [split_from, List.take_left', List.drop_left']

theorem shl_loop (W n : Nat) (ws : List Nat) (hW : 1 ≤ W) (hw : IsWords W ws) :
    Gen.ShiftLoops.shl_in_place W ws (n % W) = some (shlBits W ws (n % W) 0) := by
  rw [Props.C09Shift.shlBits_eq_shlInPlace W (n % W) ws hw]
  exact Props.GenShift.gen_shl_in_place W (n % W) ws (Nat.mod_lt n hW) hw

theorem shr_loop (W n : Nat) (ws : List Nat) (hW : 1 ≤ W) (hne : ws ≠ []) :
    Gen.ShiftLoops.shr_in_place W ws (n % W) = some (shrBits W (n % W) ws) := by
  have hm : n % W < W := Nat.mod_lt n hW
  rw [Props.C09Shift.shrBits_eq_shrInPlace W (n % W) hm]
  exact Props.GenShift.gen_shr_in_place W (n % W) ws hW (Nat.le_of_lt hm) hne

/-- **`shl_large_ref`** = `shlLarge` -/
theorem gen_shl_large_ref (W U n : Nat) (ws : List Nat) (hW : 1 ≤ W) (h32 : W ≤ 2 ^ 32) (hw : IsWords W ws)
    (hU : n / W + ws.length + 1 < 2 ^ U) :
    shl_large_ref W U ws n = some (shlLarge W ws n) := by
  have hW0 : W ≠ 0 := by omega
  have h1 : n / W + ws.length < 2 ^ U := by omega
  have hl := shl_loop W n ws hW hw
  simp only [shl_large_ref, shlLarge, MachInt.div_ok hW0, MachInt.rem_ok hW0, MachInt.add_ok h1, MachInt.add_ok hU,
    MachInt.cast_mod hW h32, Buffer_allocate, push_zeros, push_slice, push, split_replicate, hl,
    List.nil_append, List.append_assoc, Option.pure_def, Option.bind_eq_bind, Option.bind_some]

/-- **`shl_large`** = `shlLarge`, whatever the capacity of the buffer (both branches compute the same value) -/
theorem gen_shl_large (W U n cap : Nat) (ws : List Nat) (hW : 1 ≤ W) (h32 : W ≤ 2 ^ 32) (hw : IsWords W ws)
    (hU : n / W + ws.length + 1 < 2 ^ U) :
    shl_large W U ws n cap = some (shlLarge W ws n) := by
  have hW0 : W ≠ 0 := by omega
  have h1 : ws.length + n / W < 2 ^ U := by omega
  have h2 : ws.length + n / W + 1 < 2 ^ U := by omega
  have hl := shl_loop W n ws hW hw
  have href := gen_shl_large_ref W U n ws hW h32 hw hU
  unfold shl_large
  simp only [MachInt.div_ok hW0, MachInt.add_ok h1, MachInt.add_ok h2, bind, Option.bind, pure]
  split
  · simp [href]
  · simp [shlLarge, MachInt.rem_ok hW0, MachInt.cast_mod hW h32, hl, push, push_zeros_front]

/-- **`shr_large`** = `shrLarge` -/
theorem gen_shr_large (W U n : Nat) (ws : List Nat) (hW : 1 ≤ W) (h32 : W ≤ 2 ^ 32) :
    shr_large W U ws n = some (shrLarge W ws n) := by
  have hW0 : W ≠ 0 := by omega
  unfold shr_large shrLarge
  simp only [MachInt.div_ok hW0, bind, Option.bind, pure]
  by_cases hc : n / W ≥ ws.length
  · simp [hc]
  · have hne : ws.drop (n / W) ≠ [] := by
      intro h; rw [List.drop_eq_nil_iff] at h; omega
    have hl := shr_loop W n (ws.drop (n / W)) hW hne
    simp [hc, MachInt.rem_ok hW0, MachInt.cast_mod hW h32, erase_front, hl]

-- non-vacuity: `5 << 200` spills (arm shl_dword_spilled), a 3-word value `<< 70` through both branches of `shl_large`,
-- `>> 70` of a 4-word value; 64-bit words and usize
example : shl_dword_spilled 64 64 5 200 = some (shlDword 64 5 200) ∧ (shlDword 64 5 200).value 64 = 5 * 2 ^ 200 ∧
    shl_one_spilled 64 64 130 = some (shlDword 64 1 130) ∧
    shl_large 64 64 [2 ^ 64 - 1, 7, 2 ^ 63 + 9] 70 3 = some (shlLarge 64 [2 ^ 64 - 1, 7, 2 ^ 63 + 9] 70) ∧
    shl_large 64 64 [2 ^ 64 - 1, 7, 2 ^ 63 + 9] 70 100 = some (shlLarge 64 [2 ^ 64 - 1, 7, 2 ^ 63 + 9] 70) ∧
    (shlLarge 64 [2 ^ 64 - 1, 7, 2 ^ 63 + 9] 70).value 64 = (2 ^ 64 - 1 + 7 * 2 ^ 64 + (2 ^ 63 + 9) * 2 ^ 128) * 2 ^ 70 ∧
    shr_large 64 64 [1, 2, 3, 4] 70 = some (shrLarge 64 [1, 2, 3, 4] 70) ∧ shr_large 64 64 [1, 2, 3] 192 = some (.small 0) := by
  refine ⟨by decide +kernel, by decide +kernel, by decide +kernel, by decide +kernel, by decide +kernel, by decide +kernel, by decide +kernel, by decide +kernel⟩

/-- **`shr_large_ref`** (the sub-slice `&words[shift_words.min(len)..]`, the slice-pattern `match` with its one-word and
    two-word shortcuts, the copy + `shr_in_place` of the general arm) = the hand model's `shrLargeRef` -/
theorem gen_shr_large_ref (W U n : Nat) (ws : List Nat) (hW : 1 ≤ W) (h32 : W ≤ 2 ^ 32) :
    shr_large_ref W U ws n = some (shrLargeRef W ws n) := by
  have hW0 : W ≠ 0 := by omega
  have hm : n % W < W := Nat.mod_lt n (by omega)
  have hm2 : n % W < 2 * W := by omega
  have hmin : Min.min (n / W) ws.length ≤ ws.length := Nat.min_le_right _ _
  unfold shr_large_ref shrLargeRef
  simp only [MachInt.div_ok hW0, MachInt.rem_ok hW0, MachInt.cast_mod hW h32, split_from, hmin, if_true,
    bind, Option.bind, pure]
  generalize ws.drop (Min.min (n / W) ws.length) = l
  match l with
  | [] => rfl
  | [w] => simp [MachInt.shr_ok hm]
  | [lo, hi] => simp [MachInt.shr_ok hm2, MachInt.double_word]
  | a :: b :: c :: rest =>
    have hl := shr_loop W n (a :: b :: c :: rest) hW (List.cons_ne_nil _ _)
    simp [Buffer_allocate, push_slice, hl]

/-- both forms of `>>` on a heap value, regenerated, are the two branches of the hand model's `TRepr.shr` -/
theorem gen_shr_heap_forms (W U n : Nat) (ws : List Nat) (hW : 1 ≤ W) (h32 : W ≤ 2 ^ 32) (byRef : Bool) :
    (if byRef then shr_large_ref W U ws n else shr_large W U ws n) = some (TRepr.shr W (.large ws) n byRef) := by
  cases byRef
  · exact gen_shr_large W U n ws hW h32
  · exact gen_shr_large_ref W U n ws hW h32

example : shr_large_ref 64 64 [1, 2, 3, 4] 70 = some (shrLargeRef 64 [1, 2, 3, 4] 70) ∧
    shr_large_ref 64 64 [1, 2, 3, 4] 200 = some (.small 0) ∧ shr_large_ref 64 64 [1, 2, 3, 4] 129 = some (.small (1 + 2 ^ 65)) ∧
    shr_large_ref 64 64 [1, 2, 3] (2 ^ 64 - 1) = some (.small 0) := by
  refine ⟨by decide +kernel, by decide +kernel, by decide +kernel, by decide +kernel⟩

-- ---------------------------------------------------------------- `shl_dword` itself (inline test + arm selection)

/-- **`shift_ops::repr::shl_dword`** (the whole function: the inline test `rhs <= dword.leading_zeros() as usize`, the inline shift,
    the `dword == 1` test and the two spilled arms) as regenerated = the hand model's `shlDword`, for every non-zero double word and
    every count: inside the inline range the checked `dword << rhs` neither exceeds the shift width nor loses a bit -/
theorem gen_shl_dword_repr (W U d n : Nat) (hW : 1 ≤ W) (h32 : W ≤ 2 ^ 32) (hd0 : d ≠ 0) (hd : d < 2 ^ (2 * W))
    (hU : n / W + 3 < 2 ^ U) (h2W : 2 * W < 2 ^ U) :
    shl_dword_repr W U d n = some (shlDword W d n) := by
  have hbl : bitLenNat d ≤ 2 * W := bitLenNat_le d (2 * W) hd
  have hb1 : 1 ≤ bitLenNat d := by
    unfold bitLenNat; rw [if_neg hd0]; omega
  have hlz : MachInt.cast U (MachInt.leading_zeros (2 * W) d) = 2 * W - bitLenNat d := by
    unfold MachInt.cast MachInt.leading_zeros
    rw [Props.GenMath.bitLength_eq]
    exact Nat.mod_eq_of_lt (by omega)
  unfold shl_dword_repr
  rw [hlz]
  by_cases hsp : n ≤ 2 * W - bitLenNat d
  · have hn : n < 2 * W := by omega
    have hlt : d * 2 ^ n < 2 ^ (2 * W) := by
      have h1 := (bitLenNat_spec d).1
      calc d * 2 ^ n < 2 ^ bitLenNat d * 2 ^ n := Nat.mul_lt_mul_of_pos_right h1 (Nat.two_pow_pos n)
        _ = 2 ^ (bitLenNat d + n) := (Nat.pow_add 2 _ _).symm
        _ ≤ 2 ^ (2 * W) := Nat.pow_le_pow_right (by decide) (by omega)
    simp only [hsp, decide_true, if_true, MachInt.shl_ok hn hlt, bind, Option.bind, pure, shlDword]
  · simp only [hsp, decide_false, Bool.false_eq_true, if_false, bind_pure, beq_iff_eq]
    exact gen_shl_dword_spilled_arms W U d n hW h32 hd hU hsp

-- non-vacuity (64-bit words): the last inline count, the first spilled count, the `dword == 1` arm
example : shl_dword_repr 64 64 5 125 = some (.small (5 * 2 ^ 125)) ∧
    shl_dword_repr 64 64 5 126 = some (shlDword 64 5 126) ∧ shl_dword_repr 64 64 1 128 = some (.large [0, 0, 1]) ∧
    shl_dword_repr 64 64 1 127 = some (.small (2 ^ 127)) := by
  refine ⟨by decide +kernel, by decide +kernel, by decide +kernel, by decide +kernel⟩

end Dashu.Props.GenShiftHeap
