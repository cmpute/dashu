import Dashu.Proofs.Trans.Series
import Dashu.Proofs.Trans.SeriesBound
import Dashu.Proofs.Trans.SumStage
import Dashu.Proofs.Trans.IacothSum
import Dashu.Proofs.Trans.SumExp
import Dashu.Proofs.Trans.StopTest
import Dashu.Props.C11Powi
/-
  C11 — the MIRRORED numerical bodies of `float/src/exp.rs` / `float/src/log.rs`
  (`Model/Trans/Series.lean`: `expBody`, `lnBody`, `iacoth`, `ln2`, `ln10`, `lnBase`, `powfBody`, executed by the
  driver of group `trans` and compared digit for digit with the implementation).

  For all inputs and every estimate oracle meeting the soundness hypotheses each theorem names:
  * Structure.  The flag-tracking powering loop that `exp_internal` ends with has the VALUE of the loop of `Props/C11Powi`
    (so `powi_nonneg_error` — relative distance `B^(2-p-bit_len p)` from `base^n` — bounds the final stage `exp(r)^(B^n)`).
    The three series loops are `loop { … }` in the source and fuel-recursive in the model: a result obtained with some fuel
    is the result for every larger fuel (`*_fuel_irrelevant`).  The working-precision formulas the mirror evaluates are
    spelled out (`*_eq`): these are the texts `vlib/props/c11.py` `source_formulas` ties to the source.  `Exact` comes from
    the shortcuts only (`*_never_exact`, `*_exact_only_*`, `powfBody_exact_is_exact`).
  * The Maclaurin loop of `exp_internal` (scaled branch: reduced argument `0 < r ≤ B^(−u)` held at `w` digits, `ε = B^(1−w)`).
    An explicit step bound under the two-sided hypothesis `DlbTight` on `digits_lb` (`expLoop_step_bound`; the driver checks
    the hypotheses and the bound on every mirrored `exp` case).  The k-th term is `r^k / k!` up to `k` relative errors `ε`
    (`expStage_error`, `expTerms_error`); `sum += increase` of positive operands of ANY length keeps a sum `≥ 1`
    (`sum_add_keeps_one`) and is the exact sum up to two relative errors, also in the far-apart branch of
    `repr_add_large_small` (`sum_add_error`); hence a returned `(sum, k)` is `Σ_{j<k} r^j/j!` up to `K = 2(k−2)+2` errors
    (`expSum_error`, `expLoop_result_error`).  Against the REAL exponential: `|sum − exp r| ≤ 2Kε·exp r + 2·r^k/k!`
    (`expLoop_result_vs_exp`), and with the stop test composed in `|sum − exp r| ≤ 2Kε·exp r + 4·B^(−w)·sum`
    (`expLoop_stage_error`).  The zero-operand arms of `FBig ± FBig` as repaired by /repo 164990d: `fAddSub_zero_operand`,
    `fAddSub_zero_fits`.
  * The loop of `iacoth` (all terms positive): a step bound (`iacothLoop_step_bound`, theorem only) and the same error chain
    (`iacothTerms_error`, `iacothSum_error`, `iacothLoop_result_error`: a returned `(sum, k = 2j+3)` is
    `Σ_{l≤j} inv·inv2^l/(2l+1)` up to `2j+4` errors); the recursion being the same, the chain also holds for the atanh loop of
    `ln_internal` with a positive `z` (`lnLoop_result_error`).
  NOT proved (see `vlib/props/c11.py` FRONTIER): step bounds for the atanh loop of `ln_internal` and for the unscaled `exp_m1`
  branch (terms of either sign); the composition of the Maclaurin stage with the reduction `x = s·ln B + r` and the final
  powering.
-/
namespace Dashu.Props.C11Series
open Dashu.Model.Float Dashu.Model.Trans

/-- the powering stage of the mirrored `exp_internal` computes the value analysed in `Props/C11Powi` -/
theorem powLoopF_value (B : Nat) (m : Mode) (c : Coarse) (q : Nat) (base : FRepr) (bs : List Bool)
    (cur : Rounded FRepr) :
    (powLoopF B m c q base bs cur).1 = powLoop false B m c q base bs cur.1 :=
  Dashu.Proofs.Trans.Series.powLoopF_value B m c q base bs cur

theorem powiNonnegF_value (E : Env) (p : Nat) (base : FRepr) (n : Nat) :
    (powiNonnegF E p base n).1 = (powiNonneg false E.B E.m E.c p base (lowBits n)).2.1 :=
  Dashu.Proofs.Trans.Series.powiNonnegF_value E p base n

/-- Maclaurin loop of `exp_internal`: more fuel never changes a result -/
theorem expLoop_fuel_irrelevant (E : Env) (r : FBigM) (f g : Nat) (hfg : f ≤ g) (fa : Int) (pw sm : FBigM)
    (k : Nat) (res : FBigM × Nat) (h : expLoop E r f fa pw sm k = .ok (some res)) :
    expLoop E r g fa pw sm k = .ok (some res) :=
  (Dashu.Proofs.Trans.Series.expLoop_fuelled E r).mono f g (fa, pw, sm, k) res hfg h

/-- atanh loop of `ln_internal`: more fuel never changes a result -/
theorem lnLoop_fuel_irrelevant (E : Env) (w : Nat) (z2 : FBigM) (f g : Nat) (hfg : f ≤ g) (pw sm : FBigM)
    (k : Nat) (res : FBigM × Nat) (h : lnLoop E w z2 f pw sm k = .ok (some res)) :
    lnLoop E w z2 g pw sm k = .ok (some res) :=
  (Dashu.Proofs.Trans.Series.lnLoop_fuelled E w z2).mono f g (pw, sm, k) res hfg h

/-- loop of `iacoth`: more fuel never changes a result -/
theorem iacothLoop_fuel_irrelevant (E : Env) (w : Nat) (inv2 : FBigM) (f g : Nat) (hfg : f ≤ g) (pw sm : FBigM)
    (k : Nat) (res : FBigM × Nat) (h : iacothLoop E w inv2 f pw sm k = .ok (some res)) :
    iacothLoop E w inv2 g pw sm k = .ok (some res) :=
  (Dashu.Proofs.Trans.Series.iacothLoop_fuelled E w inv2).mono f g (pw, sm, k) res hfg h

/-- two runs of the Maclaurin loop that both end agree, whatever their fuels -/
theorem expLoop_deterministic (E : Env) (r : FBigM) (f g : Nat) (fa : Int) (pw sm : FBigM) (k : Nat)
    (r1 r2 : FBigM × Nat) (h1 : expLoop E r f fa pw sm k = .ok (some r1))
    (h2 : expLoop E r g fa pw sm k = .ok (some r2)) : r1 = r2 := by
  rcases Nat.le_total f g with hfg | hgf
  · exact Option.some.inj (Except.ok.inj ((expLoop_fuel_irrelevant E r f g hfg fa pw sm k r1 h1).symm.trans h2))
  · exact (Option.some.inj (Except.ok.inj ((expLoop_fuel_irrelevant E r g f hgf fa pw sm k r2 h2).symm.trans h1))).symm

/-- the reported index of the last Maclaurin term lies within the steps taken -/
theorem expLoop_steps (E : Env) (r : FBigM) (f : Nat) (fa : Int) (pw sm : FBigM) (k : Nat) (res : FBigM × Nat)
    (h : expLoop E r f fa pw sm k = .ok (some res)) : k ≤ res.2 ∧ res.2 < k + f := by
  -- after `n` passes the index is `k + n`
  obtain ⟨m, _, hm, hQ⟩ := (Dashu.Proofs.Trans.Series.expLoop_fuelled E r).returns
    (fun n a => a.2.2.2 = k + n) (fun n b => b.2 = k + n)
    (fun n ⟨fa, pw, sm, k'⟩ hI => ⟨fun b hb => (by
        obtain ⟨_, _, _, rfl⟩ := Dashu.Proofs.Trans.Series.expStep_inl hb; exact hI),
      fun a' ha => by obtain ⟨_, _, rfl⟩ := Dashu.Proofs.Trans.Series.expStep_inr ha; simp only at hI ⊢; omega⟩)
    f 0 (fa, pw, sm, k) res rfl h
  omega

/-! ### the working-precision formulas of the source, as evaluated by the mirror -/

/-- `exp_internal`, scaled branch:
    `work_precision = self.precision + series_guard_digits + pow_guard_digits.max(n + 2) + int_digits` with
    `series_guard_digits = (self.precision.log2_est() / B.log2_est()) as usize + 2`,
    `pow_guard_digits = (self.precision.bit_len() as f32 * B.log2_est() * 2.) as usize`,
    `n = 1usize << (self.precision.bit_len() / 2)` -/
theorem expWorkPrec_eq (est : Est) (p : Nat) (x : FRepr) :
    expWorkPrec est p x = p + (est.logQuot p + 2) + max (est.powGuard (bitLen p)) (2 ^ (bitLen p / 2) + 2) + est.intDigits x :=
  rfl

/-- `exp_internal`, unscaled `exp_m1` branch: `p + 2·series_guard_digits` for a negative argument, else
    `p + series_guard_digits` -/
theorem expWorkPrecNoScaling_eq (est : Est) (p : Nat) (neg : Bool) :
    expWorkPrecNoScaling est p neg = if neg then p + 2 * (est.logQuot p + 2) else p + (est.logQuot p + 2) :=
  rfl

/-- `ln_internal`: `work_precision = self.precision + guard_digits + one_plus as usize`,
    `guard_digits = (self.precision.log2_est() / B.log2_est()) as usize + 2` -/
theorem lnWorkPrec_eq (est : Est) (p : Nat) (onePlus : Bool) :
    lnWorkPrec est p onePlus = p + (est.logQuot p + 2) + (if onePlus then 1 else 0) := rfl

/-- `iacoth`: `Self::new(self.precision + guard_digits + 2)`,
    `guard_digits = (self.precision.log2_est() / B.log2_est()) as usize` -/
theorem iacothWorkPrec_eq (est : Est) (p : Nat) : iacothWorkPrec est p = p + est.logQuot p + 2 := rfl

/-- `powf`: `guard_digits = 10 + self.precision.log2_est() as usize + arg_digits` -/
theorem powfGuardDigits_eq (est : Est) (p : Nat) (base exp : FRepr) :
    powfGuardDigits est p base exp = 10 + est.log2Floor p + est.powfArgDigits base exp := rfl

/-- `powi` (the stage `exp(r)^(B^n)`): `guard_digits = exp.bit_len() + self.precision.bit_len()` -/
theorem powiWorkPrec_eq (p n : Nat) (hn : 2 ≤ n) :
    powiWorkPrec p (lowBits n) = p + bitLen n + bitLen p :=
  Dashu.Props.C11Powi.workPrec_eq p n hn

/-- the working precisions always exceed the target precision by at least two digits -/
theorem workPrec_gt (est : Est) (p : Nat) (x : FRepr) (b : Bool) :
    p + 2 ≤ expWorkPrec est p x ∧ p + 2 ≤ expWorkPrecNoScaling est p b ∧ p + 2 ≤ lnWorkPrec est p b
      ∧ p + 2 ≤ iacothWorkPrec est p := by
  refine ⟨?_, ?_, ?_, ?_⟩
  · rw [expWorkPrec_eq]
    omega
  · rw [expWorkPrecNoScaling_eq]
    split <;> omega
  · rw [lnWorkPrec_eq]
    omega
  · rw [iacothWorkPrec_eq]
    omega

/-! ### the exactness clause on the mirror: `Exact` comes from the shortcuts only -/

/-- the mirrored `exp_internal` behind its guards never reports `Exact` (`mark_inexact`; exp of a non-zero float is
    irrational) -/
theorem expBody_never_exact (fuel : Nat) (E : Env) (p : Nat) (x : FRepr) (minusOne : Bool) (v : FBigM)
    (fl : Option Rounding) (tr : Trace) (h : expBody fuel E p x minusOne = .ok ((v, fl), tr)) : fl ≠ none :=
  Dashu.Proofs.Trans.Series.expBody_flag fuel E p x minusOne v fl tr h

/-- the mirrored `ln_internal` behind its guards never reports `Exact` -/
theorem lnBody_never_exact (fuel : Nat) (E : Env) (p : Nat) (x : FRepr) (onePlus : Bool) (v : FBigM)
    (fl : Option Rounding) (tr : Trace) (h : lnBody fuel E p x onePlus = .ok ((v, fl), tr)) : fl ≠ none :=
  Dashu.Proofs.Trans.Series.lnBody_flag fuel E p x onePlus v fl tr h

/-- `Context::exp` / `exp_m1` (mirror with guards): flagged `Exact` only for `x = 0` -/
theorem expFull_exact_only_zero (fuel : Nat) (E : Env) (p : Nat) (x : FRepr) (minusOne : Bool) (v : FBigM) (tr : Trace)
    (h : expFull fuel E p x minusOne = .ok ((v, none), tr)) : x.isZero = true := by
  unfold expFull at h
  split at h
  · assumption
  · exact absurd rfl (Dashu.Proofs.Trans.Series.expBody_flag _ _ _ _ _ _ _ _ h)

/-- `Context::ln` / `ln_1p` (mirror with guards): flagged `Exact` only for `ln 1` and `ln_1p 0` -/
theorem lnFull_exact_only_shortcut (fuel : Nat) (E : Env) (p : Nat) (x : FRepr) (onePlus : Bool) (v : FBigM) (tr : Trace)
    (h : lnFull fuel E p x onePlus = .ok ((v, none), tr)) :
    ((onePlus && x.isZero) || (!onePlus && x.signif == 1 && x.exp == 0)) = true :=
  Dashu.Proofs.Trans.Series.lnFull_flag fuel E p x onePlus v tr h

/-- the results of the mirrored bodies carry the precision of the context -/
theorem body_prec (fuel : Nat) (E : Env) (p : Nat) (x y : FRepr) (b : Bool) (v : FBigM) (fl : Option Rounding) (tr : Trace) :
    (expBody fuel E p x b = .ok ((v, fl), tr) → v.prec = p) ∧ (lnBody fuel E p x b = .ok ((v, fl), tr) → v.prec = p)
      ∧ (powfBody fuel E p x y = .ok ((v, fl), tr) → v.prec = p) :=
  ⟨Dashu.Proofs.Trans.Series.expBody_prec fuel E p x b v fl tr, Dashu.Proofs.Trans.Series.lnBody_prec fuel E p x b v fl tr,
   Dashu.Proofs.Trans.Series.powfBody_prec fuel E p x y v fl tr⟩

/-- `FBig::sub_ulp` (the stop threshold of the three series) is a power of the base not above
    `B^(exponent + digits − precision − 1)`, for every sound `digits_lb` estimate ("guaranteed to be smaller than ulp()") -/
theorem subUlp_le (E : Env) (h : DlbSound E.B E.est.dlb) (x : FBigM) :
    (fSubUlp E x).signif = 1 ∧
      (fSubUlp E x).exp ≤ x.repr.exp + (digitsI E.B x.repr.signif : Int) - (x.prec : Int) - 1 :=
  Dashu.Proofs.Trans.Series.fSubUlp_le E h x

/-! ### Explicit step bound of the Maclaurin loop, `sum += increase`, error of the terms -/

open Dashu.Proofs.Trans.SeriesBound in
/-- **`sum += increase`**: `FBig + FBig` with a left operand of value `≥ 1` and a positive right operand of ANY length
    (the quotient `increase` may carry `p+1` digits — outside `Props/C03.add_sub_contract`) never returns less than `1` -/
theorem sum_add_keeps_one (E : Env) (hB : 2 ≤ E.B) (hc : CoarseSound E.c) (hdub : DubSound E.B E.est.dub) (x y : FBigM)
    (hp : 1 ≤ ctxMaxP x.prec y.prec) (hx : 1 ≤ x.repr.toRat E.B) (hy : 0 < y.repr.signif) :
    1 ≤ (fAddSub E x y 1).repr.toRat E.B :=
  fAddSub_keeps E hB hc hdub x y hp hx hy

open Dashu.Proofs.Trans.SeriesBound in
/-- **Step bound of the Maclaurin loop of `exp_internal`** from its entry state (`factorial = 1`, `pow = r`,
    `sum = 1 + r`, `k = 2`), reduced argument `0 < r ≤ B^(−u)` at the working precision `w ≥ 1`.
    Hypotheses on the estimate oracles: `digits_ub` sound, `round_fract`'s coarse test sound, and the TWO-SIDED quality of
    `digits_lb`: `digits(v) ≤ digits_lb(v) + cS` (`DlbTight`; the other side `DlbSound` is what makes `sub_ulp` smaller
    than an ulp).  Then with any fuel `≥ 1` such that `u·(fuel + 1) ≥ w + cS + 1` the loop returns a value — the fuel
    does not run out, no division fails — and the index `k` of the last term is `2` or satisfies
    `u·(k − 1) < w + cS + 1` (at most `(w + cS)/u + 1` terms beyond the first two). -/
theorem expLoop_step_bound (E : Env) (hB : 2 ≤ E.B) (hc : CoarseSound E.c) (hdub : DubSound E.B E.est.dub) (cS : Nat)
    (hd : DlbTight E.B E.est.dlb cS) (r : FBigM) (w u : Nat) (hw : 1 ≤ w) (hrp : r.prec = w)
    (hr0 : 0 < r.repr.signif) (hru : r.repr.toRat E.B ≤ bpowQ E.B (-(u : Int)))
    (fuel : Nat) (hf1 : 1 ≤ fuel) (hfuel : w + cS + 1 ≤ u * (fuel + 1)) :
    ∃ res, expLoop E r fuel 1 r (fAddSub E FBigM.one r 1) 2 = .ok (some res) ∧ 2 ≤ res.2 ∧
      (res.2 = 2 ∨ u * (res.2 - 1) < w + cS + 1) := by
  have hB0 : 0 < E.B := by omega
  have hrv : 0 ≤ val E.B r := (val_pos_of_signif E.B hB _ hr0).le
  have hone : val E.B FBigM.one = 1 := by
    simp only [val, FBigM.one, FRepr.toRat, bpowQ_zero]; norm_num
  have hs1 : 1 ≤ val E.B (fAddSub E FBigM.one r 1) :=
    fAddSub_keeps E hB hc hdub FBigM.one r (le_trans (by omega) (Dashu.Proofs.Trans.Series.ctxMaxP_ge_right _ _)) (by rw [hone]) hr0
  have hsp : (fAddSub E FBigM.one r 1).prec ≤ max w (digitsI E.B 1) := by
    simp only [fAddSub]
    exact Dashu.Proofs.Trans.Series.ctxMaxP_le _ _ _ (by simp [FBigM.one]) (by rw [hrp]; exact le_max_left _ _)
  -- before the pass with index `k = n + 2`: `pow ≤ B^(−u(k−1))`, `sum ≥ 1` at precision at most `max(w, digits factorial)`;
  -- a pass that goes on has `u·k < w + cS + 1`
  obtain ⟨res, m, hres, _, _, hk, hQ⟩ := (Dashu.Proofs.Trans.Series.expLoop_fuelled E r).terminates
    (fun n a => 1 ≤ a.1 ∧ a.2.1.prec = w ∧ 0 ≤ val E.B a.2.1 ∧ val E.B a.2.1 ≤ bpowQ E.B (-((u * (n + 1) : Nat) : Int)) ∧
      1 ≤ val E.B a.2.2.1 ∧ a.2.2.1.prec ≤ max w (digitsI E.B a.1) ∧ a.2.2.2 = n + 2 ∧
      (n = 0 ∨ u * (n + 1) < w + cS + 1))
    (fun n res => res.2 = n + 2 ∧ (n = 0 ∨ u * (n + 1) < w + cS + 1)) fuel
    (fun n a hI _ => by
      obtain ⟨fa, pw, sm, k⟩ := a
      obtain ⟨hfa, hpp, hp0, hpu, hs1, hsp, hk, hn⟩ := hI
      have hsp : sm.prec ≤ max w (digitsI E.B fa) := hsp
      have hk : k = n + 2 := hk
      subst hk
      dsimp only at hfa hpp hp0 hpu hs1
      have hmp : 1 ≤ ctxMaxP pw.prec r.prec := by rw [hpp, hrp, Dashu.Proofs.Trans.Series.ctxMaxP_self]; exact hw
      obtain ⟨hm0, hmu⟩ := fMul_bound E hB hc pw r hmp _ _ hp0 hpu hrv hru
      have hfk : 1 ≤ fa * ((n + 2 : Nat) : Int) :=
        one_le_mul_of_one_le_of_one_le hfa (by exact_mod_cast (by omega : 1 ≤ n + 2))
      obtain ⟨inc, hdiv, hincp, hinc0, hincu⟩ := fDiv_int_bound E hB (fMul E pw r) _ hfk _ hm0 hmu
      have hDD := digitsI_mul_ge E.B hB fa (n + 2) (by omega)
      have hDpos := (digitsI_spec E.B hB (fa * ((n + 2 : Nat) : Int)) (by omega)).1
      have hmprec : (fMul E pw r).prec = w := by simp only [fMul]; rw [hpp, hrp, Dashu.Proofs.Trans.Series.ctxMaxP_self]
      simp only [Dashu.Proofs.Trans.Series.expStep, hdiv]
      by_cases hstop : reprAbsCmp E.B inc.repr (fSubUlp E sm) ≠ .gt
      · rw [if_pos hstop]; exact ⟨rfl, hn⟩
      · rw [if_neg hstop]
        -- the stop test fails only for an increase above the unit of `sub_ulp`
        have hbig : ¬ val E.B inc ≤ bpowQ E.B (fSubUlp E sm).exp := fun h =>
          hstop (reprAbsCmp_pow_ne_gt E.B hB inc.repr (fSubUlp E sm).exp (signif_nonneg_of_val E.B hB inc.repr hinc0) h)
        have hnot : ¬ (w + cS + 1 ≤ u * (n + 2)) := by
          intro hge
          refine hbig (le_trans hincu (bpowQ_mono E.B hB _ _ ?_))
          have hthr := subUlp_ge E hB cS hd sm hs1
          have e : u * (n + 1) + u = u * (n + 2) := by ring
          rcases le_max_iff.mp hsp with h | h <;> omega
        have hsigpos : 0 < inc.repr.signif := by
          by_contra hc0
          have hz : inc.repr.signif = 0 := by have := signif_nonneg_of_val E.B hB inc.repr hinc0; omega
          apply hbig
          unfold val FRepr.toRat
          rw [hz, Int.cast_zero, zero_mul]
          exact (bpowQ_pos E.B hB0 _).le
        have hpinc : 1 ≤ ctxMaxP sm.prec inc.prec := by
          refine le_trans ?_ (Dashu.Proofs.Trans.Series.ctxMaxP_ge_right _ _)
          rw [hincp, hmprec]
          exact le_trans hw (Dashu.Proofs.Trans.Series.ctxMaxP_ge_left _ _)
        refine ⟨⟨hfk, hmprec, hm0, ?_, fAddSub_keeps E hB hc hdub sm inc hpinc hs1 hsigpos, ?_, rfl,
          Or.inr (by show u * (n + 2) < w + cS + 1; omega)⟩, ?_⟩
        · refine le_trans hmu (le_of_eq ?_); congr 1; push_cast; ring
        · simp only [fAddSub]
          apply Dashu.Proofs.Trans.Series.ctxMaxP_le
          · rcases le_max_iff.mp hsp with h | h
            · exact le_trans h (le_max_left _ _)
            · exact le_trans (le_trans h hDD) (le_max_right _ _)
          · rw [hincp, hmprec]
            apply Dashu.Proofs.Trans.Series.ctxMaxP_le
            · exact le_max_left _ _
            · rw [max_eq_left (by omega : 1 ≤ digitsI E.B (fa * ((n + 2 : Nat) : Int)))]
              exact le_max_right _ _
        · by_contra hc0
          have : u * (fuel + 1) ≤ u * (n + 2) := Nat.mul_le_mul_left u (by omega)
          omega)
    fuel 0 (1, r, _, 2) ⟨le_refl _, hrp, hrv, by simpa using hru, hs1, hsp, rfl, Or.inl rfl⟩ (by omega) (by omega)
  refine ⟨res, hres, by omega, ?_⟩
  rcases hQ with h | h
  · left; omega
  · right; rw [hk]; simpa using h

/-- the fuel `(w + cS)/u + 1` always meets the hypothesis of `expLoop_step_bound` -/
theorem expLoop_fuel_suffices (w cS u : Nat) (hu : 1 ≤ u) : w + cS + 1 ≤ u * ((w + cS) / u + 1 + 1) := by
  have h := Nat.div_add_mod (w + cS) u
  have hm := Nat.mod_lt (w + cS) (by omega : 0 < u)
  have : u * ((w + cS) / u + 1 + 1) = u * ((w + cS) / u) + 2 * u := by ring
  omega

/-- **error propagation through one stage of the Maclaurin loop** (`pow *= &r; increase = &pow / &factorial`) with
    `ε = B^(1−w)`: `j` accumulated relative errors in `pow` become `j + 1` in the new `pow` and `j + 2` in the term -/
theorem expStage_error (E : Env) (hB : 2 ≤ E.B) (hc : CoarseSound E.c) (r pw : FBigM) (w : Nat) (hw : 1 ≤ w)
    (hrp : r.prec = w) (hpp : pw.prec = w) (F : Int) (hF : 1 ≤ F) (j : Nat) (t : ℚ)
    (h : Approx (bpowQ E.B (1 - (w : Int))) j (pw.repr.toRat E.B) t) :
    Approx (bpowQ E.B (1 - (w : Int))) (j + 1) ((fMul E pw r).repr.toRat E.B) (t * r.repr.toRat E.B) ∧
    ∃ inc, fDiv E (fMul E pw r) (fOfInt E.B F) = .ok inc ∧
      Approx (bpowQ E.B (1 - (w : Int))) (j + 2) (inc.repr.toRat E.B) (t * r.repr.toRat E.B * (1 / (F : ℚ))) :=
  Dashu.Proofs.Trans.SeriesBound.expStage_error E hB hc r pw w hw hrp hpp F hF j t h

open Dashu.Proofs.Trans.SeriesBound in
/-- **the terms of the Maclaurin series as the loop computes them**: before the step with index `k = i + 2` the loop
    holds `factorial = (k−1)!` and `pow ≈ r^(k−1)` (`k − 2` relative errors `B^(1−w)`); the term `increase` it forms is
    `r^k / k!` up to `k` accumulated relative errors (`expState` = the `(factorial, pow)` the loop's recursion passes,
    `expLoop_state`) -/
theorem expTerms_error (E : Env) (hB : 2 ≤ E.B) (hc : CoarseSound E.c) (r : FBigM) (w : Nat) (hw : 1 ≤ w)
    (hrp : r.prec = w) (i : Nat) :
    (expState E r i).1 = ((i + 1).factorial : Int) ∧
    Approx (bpowQ E.B (1 - (w : Int))) i ((expState E r i).2.repr.toRat E.B) ((r.repr.toRat E.B) ^ (i + 1)) ∧
    ∃ inc, fDiv E (fMul E (expState E r i).2 r) (fOfInt E.B ((expState E r i).1 * ((i + 2 : Nat) : Int))) = .ok inc ∧
      Approx (bpowQ E.B (1 - (w : Int))) (i + 2) (inc.repr.toRat E.B)
        ((r.repr.toRat E.B) ^ (i + 2) / ((i + 2).factorial : ℚ)) := by
  obtain ⟨inc, hinc, hT, -⟩ := expInc_tracks E hB hc r w hw hrp i
  exact ⟨expState_fact E r i, (expState_tracks E hB hc r w hw hrp i).approx, inc, hinc, hT.approx⟩

open Dashu.Proofs.Trans.SeriesBound in
/-- the loop's recursive call passes `(factorial·k, pow·r)`: the next `expState` -/
theorem expLoop_state (E : Env) (r : FBigM) (fuel : Nat) (fa : Int) (pw sm : FBigM) (k : Nat) :
    expLoop E r (fuel + 1) fa pw sm k =
      match fDiv E (fMul E pw r) (fOfInt E.B (fa * (k : Int))) with
      | .error e => .error e
      | .ok increase =>
        if reprAbsCmp E.B increase.repr (fSubUlp E sm) ≠ .gt then .ok (some (sm, k))
        else expLoop E r fuel (fa * (k : Int)) (fMul E pw r) (fAddSub E sm increase 1) (k + 1) :=
  rfl

open Dashu.Proofs.Trans.SeriesBound in
/-- **Step bound of the loop of `Context::iacoth`** (`pow *= inv2; increase = pow / k; if increase < sum.sub_ulp() { return }
    sum += increase; k += 2`; all terms positive) for `0 ≤ inv2 ≤ B^(−u)` held at `w ≥ 1` digits, under the same oracle
    hypotheses as `expLoop_step_bound` (`DubSound`, `CoarseSound`, two-sided `DlbTight`): from a state `0 ≤ pow ≤ B^b`,
    `sum ≥ B^L`, both at precision `w`, the loop returns a value with any fuel `≥ 1` such that `u·fuel > b − L + cS + w`, and
    the last index is below `k + 2·fuel`.  (In `iacoth(n)`: `pow = sum = 1/n`, so `b − L = 1`; `inv2 = 1/n²`.)
    Theorem only: the driver does not evaluate it per case. -/
theorem iacothLoop_step_bound (E : Env) (hB : 2 ≤ E.B) (hc : CoarseSound E.c) (hdub : DubSound E.B E.est.dub) (cS : Nat)
    (hd : DlbTight E.B E.est.dlb cS) (inv2 : FBigM) (w u : Nat) (hw : 1 ≤ w) (hip : inv2.prec = w)
    (hi0 : 0 ≤ inv2.repr.toRat E.B) (hiu : inv2.repr.toRat E.B ≤ bpowQ E.B (-(u : Int))) (L : Int)
    (fuel : Nat) (pw sm : FBigM) (k : Nat) (b : Int)
    (hpp : pw.prec = w) (hp0 : 0 ≤ pw.repr.toRat E.B) (hpb : pw.repr.toRat E.B ≤ bpowQ E.B b)
    (hsL : bpowQ E.B L ≤ sm.repr.toRat E.B) (hsp : sm.prec = w) (hk : 1 ≤ k)
    (hf1 : 1 ≤ fuel) (hfuel : b - L + (cS : Int) + (w : Int) < (u : Int) * (fuel : Int)) :
    ∃ res, iacothLoop E w inv2 fuel pw sm k = .ok (some res) ∧ k ≤ res.2 ∧ res.2 < k + 2 * fuel := by
  have hB0 : 0 < E.B := by omega
  -- after `n` passes: `pow ≤ B^(b − u·n)`, `sum ≥ B^L`, the index is `k + 2n`; a pass that goes on has `u·(n+1) ≤ b − L + cS + w`
  obtain ⟨res, m, hres, _, hm, hQ⟩ := (Dashu.Proofs.Trans.Series.iacothLoop_fuelled E w inv2).terminates
    (fun n a => a.1.prec = w ∧ 0 ≤ val E.B a.1 ∧ val E.B a.1 ≤ bpowQ E.B (b - (u : Int) * (n : Int)) ∧
      bpowQ E.B L ≤ val E.B a.2.1 ∧ a.2.1.prec = w ∧ a.2.2 = k + 2 * n)
    (fun n res => res.2 = k + 2 * n) fuel
    (fun n a hI _ => by
      obtain ⟨pw, sm, k'⟩ := a
      obtain ⟨hpp, hp0, hpb, hsL, hsp, hk'⟩ := hI
      dsimp only at hpp hp0 hpb hsL hsp hk'
      have hmp : 1 ≤ ctxMaxP pw.prec inv2.prec := by rw [hpp, hip, Dashu.Proofs.Trans.Series.ctxMaxP_self]; exact hw
      obtain ⟨hm0, hmu⟩ := fMul_bound E hB hc pw inv2 hmp _ _ hp0 hpb hi0 hiu
      have hmprec : (fMul E pw inv2).prec = w := by simp only [fMul]; rw [hpp, hip, Dashu.Proofs.Trans.Series.ctxMaxP_self]
      obtain ⟨inc, hdiv, hincp, hinc0, hincu⟩ := fDiv_conv_bound E hB hc (fMul E pw inv2) w hw (k' : Int)
        (by exact_mod_cast (by omega : 1 ≤ k')) _ hm0 hmu
      have hincw : inc.prec = w := by rw [hincp, hmprec, Dashu.Proofs.Trans.Series.ctxMaxP_self]
      simp only [Dashu.Proofs.Trans.Series.atanhStep, hdiv]
      by_cases hstop : reprCmp E.B inc.repr (fSubUlp E sm) = .lt
      · simpa only [hstop, decide_true, if_true] using hk'
      · simp only [hstop, decide_false, Bool.false_eq_true, if_false]
        have hthr := subUlp_ge_pow E hB cS hd sm L hsL
        rw [hsp] at hthr
        have hthrv : (fSubUlp E sm).toRat E.B = bpowQ E.B (fSubUlp E sm).exp := by
          simp only [fSubUlp, FRepr.toRat]; norm_num
        -- the stop test fails only for an increase at or above the unit of `sub_ulp`
        have hbig : bpowQ E.B (fSubUlp E sm).exp ≤ val E.B inc := by
          rw [← hthrv, ← not_lt, ← reprCmp_lt_iff E.B hB]; exact hstop
        have hexp := bpowQ_le_bpowQ E.B hB _ _ (le_trans hbig hincu)
        have hsigpos : 0 < inc.repr.signif :=
          signif_pos_of_val E.B hB _ (lt_of_lt_of_le (bpowQ_pos E.B hB0 _) hbig)
        have hpinc : 1 ≤ ctxMaxP sm.prec inc.prec := by rw [hsp, hincw, Dashu.Proofs.Trans.Series.ctxMaxP_self]; exact hw
        refine ⟨⟨hmprec, hm0, ?_, fAddSub_keeps_pow E hB hc hdub sm inc hpinc L hsL hsigpos, ?_, by omega⟩, ?_⟩
        · refine le_trans hmu (le_of_eq ?_); congr 1; push_cast; ring
        · simp only [fAddSub]; rw [hsp, hincw, Dashu.Proofs.Trans.Series.ctxMaxP_self]
        · have e : (u : Int) * ((n + 1 : Nat) : Int) = (u : Int) * (n : Int) + (u : Int) := by push_cast; ring
          have : (u : Int) * ((n + 1 : Nat) : Int) < (u : Int) * (fuel : Int) := by omega
          exact_mod_cast lt_of_mul_lt_mul_left this (Int.natCast_nonneg u))
    fuel 0 (pw, sm, k) ⟨hpp, hp0, by simpa using hpb, hsL, hsp, rfl⟩ (by omega) (by omega)
  exact ⟨res, hres, by omega, by omega⟩

open Dashu.Proofs.Trans.SeriesBound in
/-- `sum += increase` keeps a sum `≥ B^L` at or above `B^L` (any `L`; `sum_add_keeps_one` is `L = 0`) -/
theorem sum_add_keeps_pow (E : Env) (hB : 2 ≤ E.B) (hc : CoarseSound E.c) (hdub : DubSound E.B E.est.dub) (x y : FBigM)
    (hp : 1 ≤ ctxMaxP x.prec y.prec) (L : Int) (hx : bpowQ E.B L ≤ x.repr.toRat E.B) (hy : 0 < y.repr.signif) :
    bpowQ E.B L ≤ (fAddSub E x y 1).repr.toRat E.B :=
  fAddSub_keeps_pow E hB hc hdub x y hp L hx hy

/-! non-vacuity: the loops do end on concrete inputs (base 10, mode HalfEven, a sound estimate oracle) -/

/-- an oracle built from exact digit counts (sound for `dub`/`dlb`; the driver uses the `f32` replica instead) -/
def exactEst (B : Nat) : Est where
  dub := digitsI B
  dlb := fun v => digitsI B v - 1
  logQuot := fun n => digits B n - 1
  powGuard := fun bl => 2 * bl * (B.log2 + 1)
  log2Floor := fun n => n.log2
  belowInvBase := fun x => decide (x.exp + (digitsI B x.signif : Int) < 0)
  tooLarge := fun _ => false
  intDigits := fun x => (x.exp + (digitsI B x.signif : Int)).toNat
  floorLog2 := fun x => (x.signif.natAbs.log2 : Int) + x.exp * (B.log2 : Int)
  powfArgDigits := fun _ _ => 2

def E10 : Env := ⟨10, .halfEven, coarseNone, exactEst 10⟩

/-- `iacoth(6)` at 5 digits ends (well within 40 steps) -/
example : (match iacoth 40 E10 5 6 with | .ok _ => true | .error _ => false) = true := by
  decide +kernel

/-- `ln 2` and `exp 1` at 4 digits run to completion through the mirrored bodies (and are flagged inexact) -/
example : (match lnBody 60 E10 4 ⟨2, 0⟩ false with | .ok r => r.1.2.isSome | .error _ => false) = true := by
  decide +kernel
example : (match expBody 60 E10 4 ⟨1, 0⟩ false with | .ok r => r.1.2.isSome | .error _ => false) = true := by
  decide +kernel
example : DlbSound 10 (exactEst 10).dlb := fun _ => Nat.sub_le _ _

/-! non-vacuity of `expLoop_step_bound` / `sum_add_keeps_one`: base 10, `r = 0.005` held at 6 digits (`u = 2`), the exact
    digit-count oracle with `digits_lb = digits − 1` (`cS = 1`), fuel 5 -/
theorem coarseNone_sound : CoarseSound coarseNone := Dashu.Props.C11Powi.coarseNone_sound
theorem exactEst_dub_sound (B : Nat) : DubSound B (exactEst B).dub := fun _ => Nat.le_refl _
theorem exactEst_dlb_tight (B : Nat) : Dashu.Proofs.Trans.SeriesBound.DlbTight B (exactEst B).dlb 1 := fun v => by
  simp only [exactEst]; omega

private theorem expLoop_r6 :
    ∃ res, expLoop E10 ⟨⟨5, -3⟩, 6⟩ 5 1 ⟨⟨5, -3⟩, 6⟩ (fAddSub E10 FBigM.one ⟨⟨5, -3⟩, 6⟩ 1) 2 = .ok (some res) ∧
      2 ≤ res.2 ∧ (res.2 = 2 ∨ 2 * (res.2 - 1) < 6 + 1 + 1) :=
  expLoop_step_bound E10 (by decide) coarseNone_sound (exactEst_dub_sound 10) 1 (exactEst_dlb_tight 10)
    ⟨⟨5, -3⟩, 6⟩ 6 2 (by decide) rfl (by decide)
    (by decide +kernel) 5 (by decide) (by decide)

example : ∃ res, expLoop E10 ⟨⟨5, -3⟩, 6⟩ 5 1 ⟨⟨5, -3⟩, 6⟩ (fAddSub E10 FBigM.one ⟨⟨5, -3⟩, 6⟩ 1) 2 = .ok (some res) ∧
    2 ≤ res.2 ∧ (res.2 = 2 ∨ 2 * (res.2 - 1) < 6 + 1 + 1) :=
  expLoop_r6

/-- … with `k ≤ 4`, so `K = 2(k−2)+2 ≤ 6` and, `ε` being `10^(−5)`, `2Kε ≤ 1.2e-4`, `kε ≤ 4e-5` -/
private theorem expLoop_r6_small :
    ∃ res, expLoop E10 ⟨⟨5, -3⟩, 6⟩ 5 1 ⟨⟨5, -3⟩, 6⟩ (fAddSub E10 FBigM.one ⟨⟨5, -3⟩, 6⟩ 1) 2 = .ok (some res) ∧
      2 * ((2 * (res.2 - 2) + 2 : ℕ) : ℚ) * bpowQ 10 (1 - ((6 : ℕ) : Int)) ≤ 1 ∧
      (res.2 : ℚ) * bpowQ 10 (1 - ((6 : ℕ) : Int)) ≤ 1 / 2 := by
  obtain ⟨res, h, _, hk⟩ := expLoop_r6
  obtain ⟨hk4, hK6⟩ : res.2 ≤ 4 ∧ 2 * (res.2 - 2) + 2 ≤ 6 := by omega
  have hK6 : ((2 * (res.2 - 2) + 2 : ℕ) : ℚ) ≤ 6 := by exact_mod_cast hK6
  have hk4 : ((res.2 : ℕ) : ℚ) ≤ 4 := by exact_mod_cast hk4
  rw [show bpowQ 10 (1 - ((6 : ℕ) : Int)) = 1 / 100000 by decide +kernel]
  exact ⟨res, h, by linarith only [hK6], by linarith only [hk4]⟩

example : 1 ≤ (fAddSub E10 ⟨⟨1005, -3⟩, 4⟩ ⟨⟨12345, -9⟩, 4⟩ 1).repr.toRat 10 :=
  sum_add_keeps_one E10 (by decide) coarseNone_sound (exactEst_dub_sound 10) _ _ (by decide)
    (by decide +kernel) (by decide)

/-- non-vacuity of `iacothLoop_step_bound`: base 10, `iacoth(6)` at `w = 6`: `inv = 0.166667`, `inv2 = 0.0277779 ≤ 10^-1`
    (`u = 1`), `pow = sum = inv ≤ 10^0` (`b = 0`), `sum ≥ 10^-1` (`L = -1`), `cS = 1`, fuel 9 (`1 + 1 + 6 < 9`) -/
private theorem iacothLoop_r6 :
    ∃ res, iacothLoop E10 6 ⟨⟨277779, -7⟩, 6⟩ 9 ⟨⟨166667, -6⟩, 6⟩ ⟨⟨166667, -6⟩, 6⟩ 3 = .ok (some res) ∧ 3 ≤ res.2 ∧
      res.2 < 3 + 2 * 9 :=
  iacothLoop_step_bound E10 (by decide) coarseNone_sound (exactEst_dub_sound 10) 1 (exactEst_dlb_tight 10)
    ⟨⟨277779, -7⟩, 6⟩ 6 1 (by decide) rfl (by decide +kernel) (by decide +kernel) (-1) 9 ⟨⟨166667, -6⟩, 6⟩ ⟨⟨166667, -6⟩, 6⟩ 3 0
    rfl (by decide +kernel) (by decide +kernel) (by decide +kernel) rfl (by decide) (by decide) (by decide)

example : ∃ res, iacothLoop E10 6 ⟨⟨277779, -7⟩, 6⟩ 9 ⟨⟨166667, -6⟩, 6⟩ ⟨⟨166667, -6⟩, 6⟩ 3 = .ok (some res) ∧ 3 ≤ res.2 ∧
    res.2 < 3 + 2 * 9 :=
  iacothLoop_r6

/-! ### Error of `sum += increase`, accumulated error of the partial sum, zero-operand arms of `FBig ± FBig` -/

open Dashu.Proofs.Trans.SumStage in
/-- **error of one `sum += increase`**: `FBig + FBig` of two positive operands of ANY length (the quotient `increase` may
    carry `P+1` digits) at the max context `P ≥ 1`, every mode, every sound `digits_ub`, is the exact sum up to two relative
    errors `B^(1−P)` (one in the aligned branches of `repr_add_large_small`, two in its far-apart branch where the small
    operand is replaced by a sticky unit before the rounding) -/
theorem sum_add_error (E : Env) (hB : 2 ≤ E.B) (hc : CoarseSound E.c) (hdub : DubSound E.B E.est.dub) (x y : FBigM)
    (hp : 1 ≤ ctxMaxP x.prec y.prec) (hx : 0 < x.repr.signif) (hy : 0 < y.repr.signif) :
    Approx (bpowQ E.B (1 - (ctxMaxP x.prec y.prec : Int))) 2 ((fAddSub E x y 1).repr.toRat E.B)
      (x.repr.toRat E.B + y.repr.toRat E.B) :=
  Dashu.Proofs.Trans.SeriesBound.fAddSub_pos_error E hB hc hdub x y hp hx hy

open Dashu.Proofs.Trans.SeriesBound Dashu.Proofs.Trans.SumStage in
/-- **accumulated error of the partial sum of the Maclaurin loop** (reduced argument `r > 0` held at `w ≥ 1` digits):
    the sum the loop holds before the step with index `k = i + 2` (`expSumState`: `1 + r`, then `sum += increase` with the
    terms of `expTerms_error`) is `≥ 1`, has a precision `≥ w`, and is `expPartial r i = Σ_{j ≤ i+1} r^j/j!` up to `2i + 2`
    accumulated relative errors `B^(1−w)` -/
theorem expSum_error (E : Env) (hB : 2 ≤ E.B) (hc : CoarseSound E.c) (hdub : DubSound E.B E.est.dub) (r : FBigM)
    (w : Nat) (hw : 1 ≤ w) (hrp : r.prec = w) (hr0 : 0 < r.repr.signif) (i : Nat) :
    1 ≤ (expSumState E r i).repr.toRat E.B ∧ w ≤ (expSumState E r i).prec ∧
      Approx (bpowQ E.B (1 - (w : Int))) (2 * i + 2) ((expSumState E r i).repr.toRat E.B)
        (expPartial (r.repr.toRat E.B) i) :=
  Dashu.Proofs.Trans.SumStage.expSum_error E hB hc hdub r w hw hrp hr0 i

open Dashu.Proofs.Trans.SeriesBound Dashu.Proofs.Trans.SumStage in
/-- the exact partial sums, spelled out: `expPartial r 0 = 1 + r`, `expPartial r (i+1) = expPartial r i + r^(i+2)/(i+2)!` -/
theorem expPartial_eq (r : ℚ) (i : Nat) :
    expPartial r 0 = 1 + r ∧ expPartial r (i + 1) = expPartial r i + r ^ (i + 2) / ((i + 2).factorial : ℚ) :=
  ⟨rfl, rfl⟩

open Dashu.Proofs.Trans.SeriesBound Dashu.Proofs.Trans.SumStage in
/-- whatever the Maclaurin loop returns from a state of its own trajectory is one of the `expSumState`s, with the matching
    index of the last term -/
theorem expLoop_result (E : Env) (r : FBigM) (fuel i : Nat) (res : FBigM × Nat)
    (h : expLoop E r fuel (expState E r i).1 (expState E r i).2 (expSumState E r i) (i + 2) = .ok (some res)) :
    ∃ j, i ≤ j ∧ res = (expSumState E r j, j + 2) :=
  Dashu.Proofs.Trans.SumStage.expLoop_result E r fuel i res h

open Dashu.Proofs.Trans.SumStage in
/-- **what the Maclaurin loop of `exp_internal` returns** from its entry state (`factorial = 1`, `pow = r`, `sum = 1 + r`,
    `k = 2`), with any fuel: `k ≥ 2`, `sum ≥ 1`, and `sum = Σ_{j<k} r^j/j!` up to `2(k−2) + 2` accumulated relative errors
    `B^(1−w)`.  (The truncation error of the series is what the stop test bounds; together with `expLoop_step_bound` —
    `k ≤ (w+cS)/u + 2` — the rounding part is at most `(2(w+cS)/u + 2)·B^(1−w)` relative, to first order.) -/
theorem expLoop_result_error (E : Env) (hB : 2 ≤ E.B) (hc : CoarseSound E.c) (hdub : DubSound E.B E.est.dub) (r : FBigM)
    (w : Nat) (hw : 1 ≤ w) (hrp : r.prec = w) (hr0 : 0 < r.repr.signif) (fuel : Nat) (res : FBigM × Nat)
    (h : expLoop E r fuel 1 r (fAddSub E FBigM.one r 1) 2 = .ok (some res)) :
    2 ≤ res.2 ∧ 1 ≤ res.1.repr.toRat E.B ∧
      Approx (bpowQ E.B (1 - (w : Int))) (2 * (res.2 - 2) + 2) (res.1.repr.toRat E.B)
        (expPartial (r.repr.toRat E.B) (res.2 - 2)) :=
  Dashu.Proofs.Trans.SumStage.expLoop_result_error E hB hc hdub r w hw hrp hr0 fuel res h

/-- `FBig ± FBig` with a zero operand (`add_val_val` &c. as repaired by /repo 164990d): the other operand ROUNDED to the
    max context (`context.repr_round(..).value()`), not returned as it is -/
theorem fAddSub_zero_operand (E : Env) (x y : FBigM) (rs : Int) :
    (x.repr.isZero = true →
      (fAddSub E x y rs).repr = (reprRound E.B E.m E.c (ctxMaxP x.prec y.prec) ⟨rs * y.repr.signif, y.repr.exp⟩).1) ∧
    (x.repr.isZero = false → y.repr.isZero = true →
      (fAddSub E x y rs).repr = (reprRound E.B E.m E.c (ctxMaxP x.prec y.prec) x.repr).1) := by
  constructor
  · intro hx; simp only [fAddSub, hx, if_true]
  · intro hx hy; simp only [fAddSub, hx, hy, Bool.false_eq_true, if_false, if_true]

/-- … and `x ± 0 = x` whenever `x` fits the max context (all the mirrored series ever hand to this arm) -/
theorem fAddSub_zero_fits (E : Env) (x y : FBigM) (rs : Int) (hx : x.repr.isZero = false) (hy : y.repr.isZero = true)
    (h : x.repr.digits E.B ≤ ctxMaxP x.prec y.prec) : (fAddSub E x y rs).repr = x.repr := by
  rw [(fAddSub_zero_operand E x y rs).2 hx hy, Dashu.Proofs.Trans.SumStage.reprRound_fits _ _ _ _ _ h]

/-- non-vacuity of `expLoop_result_error` (and of `sum_add_error` through it): base 10, `r = 0.005` at 6 digits, fuel 5 —
    the loop does return, and what it returns carries the stated error bound -/
example : ∃ res, expLoop E10 ⟨⟨5, -3⟩, 6⟩ 5 1 ⟨⟨5, -3⟩, 6⟩ (fAddSub E10 FBigM.one ⟨⟨5, -3⟩, 6⟩ 1) 2 = .ok (some res) ∧
    Approx (bpowQ 10 (1 - 6)) (2 * (res.2 - 2) + 2) (res.1.repr.toRat 10)
      (Dashu.Proofs.Trans.SumStage.expPartial ((⟨5, -3⟩ : FRepr).toRat 10) (res.2 - 2)) := by
  obtain ⟨res, h, _, _⟩ := expLoop_r6
  exact ⟨res, h, (expLoop_result_error E10 (by decide) coarseNone_sound (exactEst_dub_sound 10) ⟨⟨5, -3⟩, 6⟩ 6 (by decide) rfl
    (by decide) 5 res h).2.2⟩

/-- non-vacuity of the far-apart branch of `sum_add_error`: `1.005 + 1.2345e-12` at 4 digits -/
example : Approx (bpowQ 10 (1 - 4)) 2 ((fAddSub E10 ⟨⟨1005, -3⟩, 4⟩ ⟨⟨12345, -16⟩, 4⟩ 1).repr.toRat 10)
    ((⟨1005, -3⟩ : FRepr).toRat 10 + (⟨12345, -16⟩ : FRepr).toRat 10) :=
  sum_add_error E10 (by decide) coarseNone_sound (exactEst_dub_sound 10) ⟨⟨1005, -3⟩, 4⟩ ⟨⟨12345, -16⟩, 4⟩ (by decide)
    (by decide) (by decide)

/-! ### Terms and accumulated partial sum of the loop of `Context::iacoth` -/

open Dashu.Proofs.Trans.SeriesBound Dashu.Proofs.Trans.IacothSum in
/-- **the terms of `iacoth` as the loop computes them** (`pow *= &inv2; increase = &pow / k`, `k = 2i + 3`; `inv`, `inv2`
    positive, held at `w ≥ 2` digits): `pow` after `i` multiplications (`iaPow`) is `inv·inv2^i` up to `i` relative errors
    `B^(1−w)`; the term is positive, held at `w` digits and is `inv·inv2^(i+1)/(2i+3)` up to `i + 4` errors (one per
    multiplication, one for the quotient, two because the divisor `convert_int(k)` is itself rounded to `w` digits) -/
theorem iacothTerms_error (E : Env) (hB : 2 ≤ E.B) (hc : CoarseSound E.c) (inv inv2 : FBigM) (w : Nat) (hw2 : 2 ≤ w)
    (h1 : inv.prec = w) (h2 : inv2.prec = w) (hi : 0 < inv.repr.signif) (hi2 : 0 < inv2.repr.signif) (i : Nat) :
    Approx (bpowQ E.B (1 - (w : Int))) i ((iaPow E inv inv2 i).repr.toRat E.B)
      (inv.repr.toRat E.B * (inv2.repr.toRat E.B) ^ i) ∧
    ∃ inc, iaInc E w inv inv2 i = .ok inc ∧ inc.prec = w ∧ 0 < inc.repr.toRat E.B ∧
      Approx (bpowQ E.B (1 - (w : Int))) (i + 4) (inc.repr.toRat E.B)
        (inv.repr.toRat E.B * (inv2.repr.toRat E.B) ^ (i + 1) / ((2 * i + 3 : Nat) : ℚ)) :=
  ⟨(iaPow_error E hB hc inv inv2 w (by omega) h1 h2 hi hi2 i).2,
   iaInc_spec E hB hc inv inv2 w (by omega) h1 h2 hi hi2 hw2 i⟩

open Dashu.Proofs.Trans.IacothSum in
/-- the states and the exact partial sums, spelled out -/
theorem iacothStates_eq (E : Env) (w : Nat) (inv inv2 : FBigM) (v q : ℚ) (i : Nat) :
    iaPow E inv inv2 0 = inv ∧ iaPow E inv inv2 (i + 1) = fMul E (iaPow E inv inv2 i) inv2 ∧
    iaInc E w inv inv2 i = fDiv E (iaPow E inv inv2 (i + 1)) (fConvertInt E w ((2 * i + 3 : Nat) : Int)) ∧
    iaSum E w inv inv2 0 = inv ∧
    iaPartial v q 0 = v ∧ iaPartial v q (i + 1) = iaPartial v q i + v * q ^ (i + 1) / ((2 * i + 3 : Nat) : ℚ) :=
  ⟨rfl, rfl, rfl, rfl, rfl, rfl⟩

open Dashu.Proofs.Trans.IacothSum in
/-- **accumulated error of the partial sum of `iacoth`**: `sum` before the step `k = 2i + 3` (`iaSum`) is positive, held at `w`
    digits and is `iaPartial inv inv2 i = Σ_{j ≤ i} inv·inv2^j/(2j+1)` up to `2i + 4` accumulated relative errors `B^(1−w)` -/
theorem iacothSum_error (E : Env) (hB : 2 ≤ E.B) (hc : CoarseSound E.c) (hdub : DubSound E.B E.est.dub)
    (inv inv2 : FBigM) (w : Nat) (hw2 : 2 ≤ w) (h1 : inv.prec = w) (h2 : inv2.prec = w) (hi : 0 < inv.repr.signif)
    (hi2 : 0 < inv2.repr.signif) (i : Nat) :
    bpowQ E.B (inv.repr.exp + (digitsI E.B inv.repr.signif : Int) - 1) ≤ (iaSum E w inv inv2 i).repr.toRat E.B ∧
    (iaSum E w inv inv2 i).prec = w ∧
    Approx (bpowQ E.B (1 - (w : Int))) (2 * i + 4) ((iaSum E w inv inv2 i).repr.toRat E.B)
      (iaPartial (inv.repr.toRat E.B) (inv2.repr.toRat E.B) i) :=
  iaSum_error E hB hc inv inv2 w (by omega) h1 h2 hi hi2 hdub hw2 i

open Dashu.Proofs.Trans.IacothSum in
/-- whatever the loop of `iacoth` returns from a state of its own trajectory is one of the `iaSum`s, with the matching `k` -/
theorem iacothLoop_result (E : Env) (w : Nat) (inv inv2 : FBigM) (fuel i : Nat) (res : FBigM × Nat)
    (h : iacothLoop E w inv2 fuel (iaPow E inv inv2 i) (iaSum E w inv inv2 i) (2 * i + 3) = .ok (some res)) :
    ∃ j, i ≤ j ∧ res = (iaSum E w inv inv2 j, 2 * j + 3) :=
  Dashu.Proofs.Trans.IacothSum.atanh_result (Dashu.Proofs.Trans.Series.iacothLoop_fuelled E w inv2) inv fuel i res h

open Dashu.Proofs.Trans.IacothSum in
/-- **what the loop of `Context::iacoth` returns** from its entry state (`pow = sum = inv`, `k = 3`), with any fuel:
    `k = 2j + 3`, `sum > 0`, and `sum = Σ_{l ≤ j} inv·inv2^l/(2l+1)` up to `2j + 4` accumulated relative errors `B^(1−w)`
    (`w = p + guard_digits + 2 ≥ 2` in `iacoth`; with `iacothLoop_step_bound` the number of terms is explicit) -/
theorem iacothLoop_result_error (E : Env) (hB : 2 ≤ E.B) (hc : CoarseSound E.c) (hdub : DubSound E.B E.est.dub)
    (inv inv2 : FBigM) (w : Nat) (hw2 : 2 ≤ w) (h1 : inv.prec = w) (h2 : inv2.prec = w) (hi : 0 < inv.repr.signif)
    (hi2 : 0 < inv2.repr.signif) (fuel : Nat) (res : FBigM × Nat)
    (h : iacothLoop E w inv2 fuel inv inv 3 = .ok (some res)) :
    ∃ j, res.2 = 2 * j + 3 ∧ 0 < res.1.repr.toRat E.B ∧
      Approx (bpowQ E.B (1 - (w : Int))) (2 * j + 4) (res.1.repr.toRat E.B)
        (iaPartial (inv.repr.toRat E.B) (inv2.repr.toRat E.B) j) :=
  Dashu.Proofs.Trans.IacothSum.atanh_result_error (Dashu.Proofs.Trans.Series.iacothLoop_fuelled E w inv2) hB hc hdub inv hw2
    h1 h2 hi hi2 fuel res h

/-- non-vacuity of `iacothLoop_result_error`: base 10, `iacoth(6)` at `w = 6` (`inv = 0.166667`, `inv2 = 0.0277779`), fuel 9 -/
example : ∃ res, iacothLoop E10 6 ⟨⟨277779, -7⟩, 6⟩ 9 ⟨⟨166667, -6⟩, 6⟩ ⟨⟨166667, -6⟩, 6⟩ 3 = .ok (some res) ∧
    ∃ j, res.2 = 2 * j + 3 ∧ Approx (bpowQ 10 (1 - 6)) (2 * j + 4) (res.1.repr.toRat 10)
      (Dashu.Proofs.Trans.IacothSum.iaPartial ((⟨166667, -6⟩ : FRepr).toRat 10) ((⟨277779, -7⟩ : FRepr).toRat 10) j) := by
  obtain ⟨res, h, _, _⟩ := iacothLoop_r6
  obtain ⟨j, hj, _, hA⟩ := iacothLoop_result_error E10 (by decide) coarseNone_sound (exactEst_dub_sound 10)
    ⟨⟨166667, -6⟩, 6⟩ ⟨⟨277779, -7⟩, 6⟩ 6 (by decide) rfl rfl (by decide) (by decide) 9 res h
  exact ⟨res, h, j, hj, hA⟩

/-! ### The atanh loop of `ln_internal` (same recursion as the loop of `iacoth`, other stop test) -/

open Dashu.Proofs.Trans.IacothSum in
/-- whatever the atanh loop returns from a state of its own trajectory is one of the `iaSum`s (`inv := z`, `inv2 := z2`) -/
theorem lnLoop_result (E : Env) (w : Nat) (z z2 : FBigM) (fuel i : Nat) (res : FBigM × Nat)
    (h : lnLoop E w z2 fuel (iaPow E z z2 i) (iaSum E w z z2 i) (2 * i + 3) = .ok (some res)) :
    ∃ j, i ≤ j ∧ res = (iaSum E w z z2 j, 2 * j + 3) :=
  Dashu.Proofs.Trans.IacothSum.atanh_result (Dashu.Proofs.Trans.Series.lnLoop_fuelled E w z2) z fuel i res h

open Dashu.Proofs.Trans.IacothSum in
/-- **what the atanh loop of `ln_internal` returns** for a positive `z = (x−1)/(x+1)` (scaled `x > 1`), from its entry state
    (`pow = sum = z`, `k = 3`), any fuel: `k = 2j + 3`, `sum > 0` and `sum = Σ_{l ≤ j} z·z2^l/(2l+1)` up to `2j + 4`
    accumulated relative errors `B^(1−w)` (`w ≥ 2`; relative to the values `z`, `z2` the loop holds) -/
theorem lnLoop_result_error (E : Env) (hB : 2 ≤ E.B) (hc : CoarseSound E.c) (hdub : DubSound E.B E.est.dub)
    (z z2 : FBigM) (w : Nat) (hw2 : 2 ≤ w) (h1 : z.prec = w) (h2 : z2.prec = w) (hz : 0 < z.repr.signif)
    (hz2 : 0 < z2.repr.signif) (fuel : Nat) (res : FBigM × Nat)
    (h : lnLoop E w z2 fuel z z 3 = .ok (some res)) :
    ∃ j, res.2 = 2 * j + 3 ∧ 0 < res.1.repr.toRat E.B ∧
      Approx (bpowQ E.B (1 - (w : Int))) (2 * j + 4) (res.1.repr.toRat E.B)
        (iaPartial (z.repr.toRat E.B) (z2.repr.toRat E.B) j) :=
  Dashu.Proofs.Trans.IacothSum.atanh_result_error (Dashu.Proofs.Trans.Series.lnLoop_fuelled E w z2) hB hc hdub z hw2
    h1 h2 hz hz2 fuel res h

/-- non-vacuity of `lnLoop_result_error`: base 10, `z = 0.333333`, `z2 = 0.111111` at 6 digits, fuel 30: the loop returns -/
example : ∃ res, lnLoop E10 6 ⟨⟨111111, -6⟩, 6⟩ 30 ⟨⟨333333, -6⟩, 6⟩ ⟨⟨333333, -6⟩, 6⟩ 3 = .ok (some res) ∧
    ∃ j, res.2 = 2 * j + 3 ∧ Approx (bpowQ 10 (1 - 6)) (2 * j + 4) (res.1.repr.toRat 10)
      (Dashu.Proofs.Trans.IacothSum.iaPartial ((⟨333333, -6⟩ : FRepr).toRat 10) ((⟨111111, -6⟩ : FRepr).toRat 10) j) := by
  have hl : lnLoop E10 6 ⟨⟨111111, -6⟩, 6⟩ 30 ⟨⟨333333, -6⟩, 6⟩ ⟨⟨333333, -6⟩, 6⟩ 3
      = .ok (some (⟨⟨346574, -6⟩, 6⟩, 15)) := by decide +kernel
  obtain ⟨j, hj, _, hA⟩ := lnLoop_result_error E10 (by decide) coarseNone_sound (exactEst_dub_sound 10)
    ⟨⟨333333, -6⟩, 6⟩ ⟨⟨111111, -6⟩, 6⟩ 6 (by decide) rfl rfl (by decide) (by decide) 30 _ hl
  exact ⟨_, hl, j, hj, hA⟩

/-! ### The returned partial sum against `Real.exp` -/

open Dashu.Proofs.Trans.SumStage in
/-- the exact partial sums enclose `exp r` for a rational `0 ≤ r ≤ 1`: `Σ_{j<i+2} r^j/j! ≤ exp r ≤ Σ + 2·r^(i+2)/(i+2)!` -/
theorem expPartial_encloses_exp (r : ℚ) (hr : 0 ≤ r) (hr1 : r ≤ 1) (i : Nat) :
    ((expPartial r i : ℚ) : ℝ) ≤ Real.exp (r : ℝ) ∧
    Real.exp (r : ℝ) ≤ ((expPartial r i : ℚ) : ℝ) + ((2 * (r ^ (i + 2) / ((i + 2).factorial : ℚ)) : ℚ) : ℝ) :=
  ⟨Dashu.Proofs.Trans.SumExp.expPartial_le_exp r hr i, Dashu.Proofs.Trans.SumExp.exp_le_expPartial r hr hr1 i⟩

/-- **the sum the Maclaurin loop of `exp_internal` returns, against the real `exp r`** (reduced argument `0 < r ≤ 1` held at
    `w ≥ 1` digits; every mode; `DubSound`, `CoarseSound`): with `K = 2(k−2)+2`, `ε = B^(1−w)` and `2Kε ≤ 1`,
    `|sum − exp r| ≤ 2Kε·exp r + 2·r^k/k!` — accumulated rounding error of all `*`, `/`, `+` of the loop plus the truncation
    error of the series (Mathlib `Real.exp_bound'`).  With `expLoop_step_bound` (`k ≤ (w+cS)/u + 2`) `K` is explicit. -/
theorem expLoop_result_vs_exp (E : Env) (hB : 2 ≤ E.B) (hc : CoarseSound E.c) (hdub : DubSound E.B E.est.dub) (r : FBigM)
    (w : Nat) (hw : 1 ≤ w) (hrp : r.prec = w) (hr0 : 0 < r.repr.signif) (hr1 : r.repr.toRat E.B ≤ 1)
    (fuel : Nat) (res : FBigM × Nat) (h : expLoop E r fuel 1 r (fAddSub E FBigM.one r 1) 2 = .ok (some res))
    (hK : 2 * ((2 * (res.2 - 2) + 2 : ℕ) : ℚ) * bpowQ E.B (1 - (w : Int)) ≤ 1) :
    |((res.1.repr.toRat E.B : ℚ) : ℝ) - Real.exp ((r.repr.toRat E.B : ℚ) : ℝ)| ≤
      ((2 * ((2 * (res.2 - 2) + 2 : ℕ) : ℚ) * bpowQ E.B (1 - (w : Int)) : ℚ) : ℝ) * Real.exp ((r.repr.toRat E.B : ℚ) : ℝ)
        + ((2 * ((r.repr.toRat E.B) ^ res.2 / (res.2.factorial : ℚ)) : ℚ) : ℝ) :=
  Dashu.Proofs.Trans.SumExp.expLoop_result_vs_exp E hB hc hdub r w hw hrp hr0 hr1 fuel res h hK

/-- non-vacuity of `expLoop_result_vs_exp`: base 10, `r = 0.005` at 6 digits, fuel 5: the loop returns with `k ≤ 4`, so
    `K ≤ 6` and `2Kε ≤ 1.2e-4` -/
example : ∃ res, expLoop E10 ⟨⟨5, -3⟩, 6⟩ 5 1 ⟨⟨5, -3⟩, 6⟩ (fAddSub E10 FBigM.one ⟨⟨5, -3⟩, 6⟩ 1) 2 = .ok (some res) ∧
    |((res.1.repr.toRat 10 : ℚ) : ℝ) - Real.exp (((⟨5, -3⟩ : FRepr).toRat 10 : ℚ) : ℝ)| ≤
      ((2 * ((2 * (res.2 - 2) + 2 : ℕ) : ℚ) * bpowQ 10 (1 - ((6 : ℕ) : Int)) : ℚ) : ℝ) *
          Real.exp (((⟨5, -3⟩ : FRepr).toRat 10 : ℚ) : ℝ)
        + ((2 * (((⟨5, -3⟩ : FRepr).toRat 10) ^ res.2 / (res.2.factorial : ℚ)) : ℚ) : ℝ) := by
  obtain ⟨res, h, hK, _⟩ := expLoop_r6_small
  exact ⟨res, h, expLoop_result_vs_exp E10 (by decide) coarseNone_sound (exactEst_dub_sound 10) ⟨⟨5, -3⟩, 6⟩ 6 (by decide) rfl
    (by decide) (by decide +kernel) 5 res h hK⟩

/-! ### The stop test composed with rounding and truncation — one bound for the Maclaurin stage -/

/-- the stop test `|increase| <= sum.sub_ulp()` (`reprAbsCmp … ≠ .gt` against a threshold `1·B^e`) as an inequality of values -/
theorem stop_test_value (B : Nat) (hB : 2 ≤ B) (a : FRepr) (e : Int) (h0 : 0 < a.signif)
    (h : reprAbsCmp B a ⟨1, e⟩ ≠ .gt) : a.toRat B ≤ bpowQ B e :=
  Dashu.Proofs.Trans.StopTest.val_le_of_reprAbsCmp_ne_gt B hB a e h0 h

open Dashu.Proofs.Trans.SeriesBound Dashu.Proofs.Trans.SumStage in
/-- what the Maclaurin loop returns, WITH the stop test that made it return: the term `increase` of the last step did not
    exceed `sum.sub_ulp()` -/
theorem expLoop_stop (E : Env) (r : FBigM) (fuel i : Nat) (res : FBigM × Nat)
    (h : expLoop E r fuel (expState E r i).1 (expState E r i).2 (expSumState E r i) (i + 2) = .ok (some res)) :
    ∃ j inc, i ≤ j ∧ expInc E r j = .ok inc ∧
      reprAbsCmp E.B inc.repr (fSubUlp E (expSumState E r j)) ≠ .gt ∧ res = (expSumState E r j, j + 2) :=
  Dashu.Proofs.Trans.SumStage.expLoop_stop E r fuel i res h

/-- **one bound for the Maclaurin stage of `exp_internal`**: reduced argument `0 < r ≤ 1` held at `w ≥ 1` digits, sound
    `digits_lb` / `digits_ub` / coarse test; the returned `(sum, k)` with `K = 2(k−2)+2`, `ε = B^(1−w)`, `2Kε ≤ 1`, `kε ≤ 1/2`
    satisfies `|sum − exp r| ≤ 2Kε·exp r + 4·B^(−w)·sum` — every rounding of the loop, the truncation of the series and the
    stop test composed.  (Not composed with the reduction `x = s·ln B + r` and the final powering: FRONTIER of `vlib/props/c11.py`.) -/
theorem expLoop_stage_error (E : Env) (hB : 2 ≤ E.B) (hc : CoarseSound E.c) (hdub : DubSound E.B E.est.dub)
    (hdlb : DlbSound E.B E.est.dlb) (r : FBigM)
    (w : Nat) (hw : 1 ≤ w) (hrp : r.prec = w) (hr0 : 0 < r.repr.signif) (hr1 : r.repr.toRat E.B ≤ 1)
    (fuel : Nat) (res : FBigM × Nat) (h : expLoop E r fuel 1 r (fAddSub E FBigM.one r 1) 2 = .ok (some res))
    (hK : 2 * ((2 * (res.2 - 2) + 2 : ℕ) : ℚ) * bpowQ E.B (1 - (w : Int)) ≤ 1)
    (hk : (res.2 : ℚ) * bpowQ E.B (1 - (w : Int)) ≤ 1 / 2) :
    |((res.1.repr.toRat E.B : ℚ) : ℝ) - Real.exp ((r.repr.toRat E.B : ℚ) : ℝ)| ≤
      ((2 * ((2 * (res.2 - 2) + 2 : ℕ) : ℚ) * bpowQ E.B (1 - (w : Int)) : ℚ) : ℝ) * Real.exp ((r.repr.toRat E.B : ℚ) : ℝ)
        + ((4 * bpowQ E.B (-(w : Int)) * res.1.repr.toRat E.B : ℚ) : ℝ) :=
  Dashu.Proofs.Trans.StopTest.expLoop_stage_error E hB hc hdub hdlb r w hw hrp hr0 hr1 fuel res h hK hk

/-- non-vacuity of `expLoop_stage_error`: base 10, `r = 0.005` at 6 digits, fuel 5 (`k ≤ 4`) -/
example : ∃ res, expLoop E10 ⟨⟨5, -3⟩, 6⟩ 5 1 ⟨⟨5, -3⟩, 6⟩ (fAddSub E10 FBigM.one ⟨⟨5, -3⟩, 6⟩ 1) 2 = .ok (some res) ∧
    |((res.1.repr.toRat 10 : ℚ) : ℝ) - Real.exp (((⟨5, -3⟩ : FRepr).toRat 10 : ℚ) : ℝ)| ≤
      ((2 * ((2 * (res.2 - 2) + 2 : ℕ) : ℚ) * bpowQ 10 (1 - ((6 : ℕ) : Int)) : ℚ) : ℝ) *
          Real.exp (((⟨5, -3⟩ : FRepr).toRat 10 : ℚ) : ℝ)
        + ((4 * bpowQ 10 (-((6 : ℕ) : Int)) * res.1.repr.toRat 10 : ℚ) : ℝ) := by
  obtain ⟨res, h, hK, hkk⟩ := expLoop_r6_small
  exact ⟨res, h, expLoop_stage_error E10 (by decide) coarseNone_sound (exactEst_dub_sound 10) (fun _ => Nat.sub_le _ _)
    ⟨⟨5, -3⟩, 6⟩ 6 (by decide) rfl (by decide) (by decide +kernel) 5 res h hK hkk⟩

/-! ### The exactness clause for `powf` on the mirror -/

/-- **`Context::powf` (mirror behind its entry guards) flags `Exact` only for base `1`** — the flag chain
    `ln(base).and_then(mul).and_then(exp)` then `with_precision` ends `Exact` only if every link is `Exact`, and `ln_internal` is
    `Exact` only on its shortcut `ln 1 = 0` (`lnFull_exact_only_shortcut`); `1^y = 1` is an exact result.  (The exponents
    `0`, `1` and base `0` are entry guards: `powf_zero_exact`, `powf_one_round` in `Props/C11`.) -/
theorem powfBody_exact_only_base_one (fuel : Nat) (E : Env) (p : Nat) (base exp : FRepr) (v : FBigM) (tr : Trace)
    (h : powfBody fuel E p base exp = .ok ((v, none), tr)) : (base.signif == 1 && base.exp == 0) = true := by
  unfold powfBody at h
  simp only [bind, Except.bind, pure, Except.pure] at h
  split at h
  · simp at h
  · rename_i l hl
    split at h
    · simp at h
    · rename_i e' he
      simp only [Except.ok.injEq, Prod.mk.injEq] at h
      obtain ⟨⟨_, hfl⟩, _⟩ := h
      have h1 := (andThenFlag_eq_none _ _ hfl).1
      have h2 := (andThenFlag_eq_none _ _ h1).1
      have h3 := (andThenFlag_eq_none _ _ h2).1
      obtain ⟨⟨lv, lf⟩, ltr⟩ := l
      simp only at h3
      subst h3
      have := Dashu.Proofs.Trans.Series.lnFull_flag fuel E _ base false lv ltr hl
      simpa using this

/-- non-vacuity: `powf(1, 0.5)` at 4 digits does run through the mirrored body and IS flagged `Exact` (so the hypothesis
    of `powfBody_exact_only_base_one` is met by base 1), while `powf(2, 0.5)` is flagged inexact -/
example : (match powfBody 60 E10 4 ⟨1, 0⟩ ⟨5, -1⟩ with | .ok r => r.1.2.isNone | .error _ => false) = true := by
  decide +kernel
example : (match powfBody 60 E10 4 ⟨2, 0⟩ ⟨5, -1⟩ with | .ok r => r.1.2.isSome | .error _ => false) = true := by
  decide +kernel

/-- `powf(1, y)` through the mirrored body (`ln 1 = 0` exactly, `0·y = 0`, `exp 0 = 1`, `with_precision`): the result is `1`,
    flagged `Exact`, for every `y`, precision `p ≥ 1`, base, mode -/
theorem powfBody_base_one (fuel : Nat) (E : Env) (hB : 2 ≤ E.B) (p : Nat) (hp : 1 ≤ p) (exp : FRepr) :
    powfBody fuel E p ⟨1, 0⟩ exp = .ok ((⟨⟨1, 0⟩, p⟩, none), ⟨p + powfGuardDigits E.est p ⟨1, 0⟩ exp, 0⟩) := by
  have hp0 : p ≠ 0 := by omega
  have hd1 : digitsI E.B 1 = 1 := Dashu.Proofs.Trans.SeriesBound.digitsI_one E.B hB
  have hln : ∀ w, lnFull fuel E w ⟨1, 0⟩ false = .ok ((FBigM.zero, none), ⟨0, 0⟩) := by
    intro w; simp [lnFull, FRepr.isZero]
  unfold powfBody
  simp only [bind, Except.bind, pure, Except.pure, hln]
  have hz : ∀ w, (ctxMul false E.B E.m E.c w FBigM.zero.repr exp).1 = ⟨0, 0⟩ := by
    intro w
    simp [ctxMul, preShrink, FBigM.zero, FRepr.digits, digitsI_zero, FRepr.new, reprRound]
  have hz2 : ∀ w, (ctxMul false E.B E.m E.c w FBigM.zero.repr exp).2 = none := by
    intro w
    simp [ctxMul, preShrink, FBigM.zero, FRepr.digits, digitsI_zero, FRepr.new, reprRound]
  have hpp : 0 < p := by omega
  have hnl : ¬ (p < 1) := by omega
  simp [hz, hz2, expFull, FRepr.isZero, fWithPrecision, FBigM.one, reprRound, FRepr.digits, hd1, andThenFlag, hp0, hpp, hnl]

/-- **`powf`: Exact only if exact** (mirror behind the entry guards): a result flagged `Exact` has base `1` and IS `1 = 1^y` -/
theorem powfBody_exact_is_exact (fuel : Nat) (E : Env) (hB : 2 ≤ E.B) (p : Nat) (hp : 1 ≤ p) (base exp : FRepr)
    (v : FBigM) (tr : Trace) (h : powfBody fuel E p base exp = .ok ((v, none), tr)) :
    base = ⟨1, 0⟩ ∧ v = ⟨⟨1, 0⟩, p⟩ := by
  have hb := powfBody_exact_only_base_one fuel E p base exp v tr h
  have hbase : base = ⟨1, 0⟩ := by
    obtain ⟨s, e⟩ := base
    simp only [Bool.and_eq_true, beq_iff_eq] at hb
    obtain ⟨h1, h2⟩ := hb
    subst h1; subst h2; rfl
  subst hbase
  rw [powfBody_base_one fuel E hB p hp exp] at h
  simp only [Except.ok.injEq, Prod.mk.injEq] at h
  exact ⟨rfl, h.1.1.symm⟩

end Dashu.Props.C11Series
