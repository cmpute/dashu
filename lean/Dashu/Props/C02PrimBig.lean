import Dashu.Props.C02PrimLink
/-
  C02 ↔ C15 link, second part: the primitive-operand forms of integer/src/div_ops.rs whose result stays a
  big integer, and the assign forms.  Textually (helper_macros.rs / div_ops.rs):

      impl_binop_with_primitive!(impl Div<$t> for UBig|IBig, div)            // -> Big
          self.div(<Big>::from(rhs)).try_into().unwrap()                     // Big -> Big: the identity conversion
      impl_binop_assign_with_primitive!(impl DivAssign<$t> for UBig|IBig, div_assign)
          self.div_assign(<Big>::from(rhs))
      impl_binop_assign_with_primitive!(impl DivRemAssign<$t> for UBig|IBig, div_rem_assign, OutputRem = $t)
          self.div_rem_assign(<Big>::from(rhs)).try_into().unwrap()          // quotient left in `self`, remainder -> prim

  i.e. the BY-VALUE big-operand impl `Trait<Big> for Big` of the same trait on `Big::from(prim)` — an entry of the operator
  table REGENERATED from the macro-expanded crate (`Gen/DivPlumbing.table`), run along its route by `Entry.eval` (what
  `drive_div` executes; an assign entry forwards to the by-value `Div` / `DivRem` impl) — followed, for `DivRemAssign`, by
  C15's checked conversion `primForm lo hi` of the remainder.  `Big::from(prim)` is `SRepr.ofInt` of the value
  (`neg = false`, magnitude `ofNat` for an unsigned one).
-/
namespace Dashu.Props.C02PrimBig
open Dashu Dashu.Model Dashu.Model.Div Dashu.Model.DivPlumbing Dashu.Gen.DivPlumbing Dashu.Props.C02 Dashu.Props.C15

/-- `Big::from(prim)` is an admissible right operand of a `Trait<Big> for Big` entry: any primitive for `IBig`,
    a non-negative one for `UBig` -/
theorem ofInt_operandOk (W : Nat) (hW : 1 ≤ W) (t : Ty) (p : Int) (hp : t ≠ .IBig → 0 ≤ p) :
    OperandOk W t (SRepr.ofInt W p) := by
  refine ⟨SRepr.ofInt_wf W hW p, fun h => ?_⟩
  have := hp h
  simp only [SRepr.ofInt, decide_eq_false_iff_not]; omega

/-- **`Big op prim` with a big result, `DivAssign<prim>`, `RemAssign`-shaped forwarding** — every regenerated table entry
    `Trait<Big> for Big` (`e.rhs = e.lhs`, any ownership form), run along its route on `Big::from(p)`: the documented
    divide-by-zero panic for `p = 0`, otherwise well-formed results of the documented types denoting the truncating
    (`Div`, `DivAssign`, `DivRem`, `DivRemAssign`, `Rem`, `RemAssign`) resp. Euclidean quotient / remainder of `a` by `p`. -/
theorem big_prim_every_impl_exact (W : Nat) (hW4 : 4 ≤ W) (e : Entry) (he : e ∈ table) (hty : e.rhs = e.lhs)
    (a : SRepr) (p : Int) (ha : OperandOk W e.lhs a) (hp : e.lhs ≠ .IBig → 0 ≤ p) :
    Exact W (e.eval W table a (SRepr.ofInt W p)) p (specVals e.tr (a.value W) p) (specKinds e.tr e.lhs e.lhs) := by
  have hW : 1 ≤ W := by omega
  have h := plumbing_every_impl_exact W hW hW4 e he a (SRepr.ofInt W p) ha
    (ofInt_operandOk W hW e.rhs p (by rw [hty]; exact hp))
  rw [SRepr.ofInt_value W hW p, hty] at h
  exact h

/-- `DivRemAssign<prim> for Big` (`OutputRem = prim`): the table entry on `Big::from(p)`, the quotient left in `self`
    (first component), the remainder through `try_into().unwrap()` (`none` = the conversion panic) -/
def divRemAssignPrim (W : Nat) (lo hi : Int) (e : Entry) (a : SRepr) (p : Int) :
    Option (Except PanicKind (Val × Option Int)) :=
  match e.eval W table a (SRepr.ofInt W p) with
  | some (.ok [q, r]) => some (.ok (q, primForm lo hi (valInt W r)))
  | some (.error k) => some (.error k)
  | _ => none

/-- `DivRemAssign<prim>`, any primitive range: zero divisor = the documented panic, otherwise the quotient `tdiv a p`
    (well-formed, of the dividend's type) is left in `self` and the result is C15's `primForm` of `tmod a p` -/
theorem divrem_assign_prim_eq (W : Nat) (hW4 : 4 ≤ W) (lo hi : Int) (e : Entry) (he : e ∈ table)
    (htr : e.tr = .DivRemAssign) (hty : e.rhs = e.lhs) (a : SRepr) (p : Int) (ha : OperandOk W e.lhs a)
    (hp : e.lhs ≠ .IBig → 0 ≤ p) :
    (p = 0 → divRemAssignPrim W lo hi e a p = some (.error .divideByZero)) ∧
    (p ≠ 0 → ∃ q, divRemAssignPrim W lo hi e a p = some (.ok (q, primForm lo hi (Int.tmod (a.value W) p))) ∧
      valInt W q = Int.tdiv (a.value W) p ∧ valIsU q = (e.lhs == .UBig) ∧ valWF W q) := by
  have ⟨d0, d1⟩ := big_prim_every_impl_exact W hW4 e he hty a p ha hp
  rw [htr] at d1
  constructor
  · intro h0; simp only [divRemAssignPrim, d0 h0]
  · intro hne
    obtain ⟨vs, hev, hv, hk, hwf⟩ := d1 hne
    simp only [specVals, specKinds] at hv hk
    rcases vs with _ | ⟨q, _ | ⟨r, _ | ⟨s, t⟩⟩⟩ <;> simp only [List.map, reduceCtorEq, List.cons.injEq, and_false] at hv
    obtain ⟨hq, hr, -⟩ := hv
    simp only [List.map, List.cons.injEq, and_true] at hk
    have hk' : valIsU q = (e.lhs == .UBig) := by
      rw [hk.1]; cases e.lhs <;> rfl
    refine ⟨q, ?_, hq, hk', hwf q (List.mem_cons_self ..)⟩
    simp only [divRemAssignPrim, hev, hr]

/-- **`UBig.div_rem_assign(uN)`**: for every `0 < p ≤ uN::MAX` no conversion panic — the remainder `tmod a p` is
    returned and `self` becomes the quotient (a canonical `UBig`); `p = 0` is the documented panic -/
theorem ubig_divrem_assign_prim_exact (W : Nat) (hW4 : 4 ≤ W) (hi : Int) (e : Entry) (he : e ∈ table)
    (htr : e.tr = .DivRemAssign) (hl : e.lhs = .UBig) (hr : e.rhs = .UBig) (a : SRepr) (p : Int)
    (ha : OperandOk W .UBig a) (hp0 : 0 ≤ p) (hhi : p ≤ hi) :
    (p = 0 → divRemAssignPrim W 0 hi e a p = some (.error .divideByZero)) ∧
    (p ≠ 0 → ∃ q, divRemAssignPrim W 0 hi e a p = some (.ok (q, some (Int.tmod (a.value W) p))) ∧
      valInt W q = Int.tdiv (a.value W) p ∧ valIsU q = true ∧ valWF W q) := by
  have ⟨d0, d1⟩ := divrem_assign_prim_eq W hW4 0 hi e he htr (by rw [hl, hr]) a p (by rw [hl]; exact ha) (fun _ => hp0)
  refine ⟨d0, fun hne => ?_⟩
  obtain ⟨q, e1, e2, e3, e4⟩ := d1 hne
  have han : 0 ≤ a.value W := by
    rw [value_of_not_neg W a (ha.2 (by decide))]; exact Int.natCast_nonneg _
  rw [ubig_rem_unsigned_fits (a.value W) p hi han (by omega) hhi] at e1
  rw [hl] at e3
  exact ⟨q, e1, e2, e3, e4⟩

/-- **`IBig.div_rem_assign(iN)`**, `p ≠ 0` in the signed range `[-2^k, 2^k - 1]`: no conversion panic, the truncated
    remainder is returned and `self` becomes the truncated quotient (a well-formed `IBig`) -/
theorem ibig_divrem_assign_signed_prim_exact (W : Nat) (hW4 : 4 ≤ W) (k : Nat) (e : Entry) (he : e ∈ table)
    (htr : e.tr = .DivRemAssign) (hl : e.lhs = .IBig) (hr : e.rhs = .IBig) (a : SRepr) (p : Int)
    (ha : a.WF W) (hp0 : p ≠ 0) (hlo : -(2 ^ k : Int) ≤ p) (hhi : p ≤ 2 ^ k - 1) :
    ∃ q, divRemAssignPrim W (-(2 ^ k : Int)) (2 ^ k - 1) e a p = some (.ok (q, some (Int.tmod (a.value W) p))) ∧
      valInt W q = Int.tdiv (a.value W) p ∧ valIsU q = false ∧ valWF W q := by
  have ⟨_, d1⟩ := divrem_assign_prim_eq W hW4 (-(2 ^ k : Int)) (2 ^ k - 1) e he htr (by rw [hl, hr]) a p
    (by rw [hl]; exact ⟨ha, fun h => absurd rfl h⟩) (by rw [hl]; exact fun h => absurd rfl h)
  obtain ⟨q, e1, e2, e3, e4⟩ := d1 hp0
  rw [ibig_rem_signed_fits (a.value W) p k hp0 hlo hhi] at e1
  rw [hl] at e3
  exact ⟨q, e1, e2, e3, e4⟩

-- ------------------------------------------------------------------ non-vacuity (W = 64, heap dividends)

-- the regenerated table lists the by-value `Div` / `DivAssign` / `DivRemAssign` impls `Trait<Big> for Big` the macros call
example : table.any (fun e => e.tr == .Div && e.lhs == .UBig && e.rhs == .UBig && !e.lhsRef && !e.rhsRef) = true ∧
    table.any (fun e => e.tr == .DivAssign && e.lhs == .IBig && e.rhs == .IBig && !e.rhsRef) = true ∧
    table.any (fun e => e.tr == .DivRemAssign && e.lhs == .UBig && e.rhs == .UBig && !e.rhsRef) = true ∧
    table.any (fun e => e.tr == .DivRemAssign && e.lhs == .IBig && e.rhs == .IBig && !e.rhsRef) = true := by
  refine ⟨by decide +kernel, by decide +kernel, by decide +kernel, by decide +kernel⟩

-- `UBig.div_rem_assign(u8)` on a 3-word dividend, `IBig.div_rem_assign(i8::MIN)` on a negative 3-word dividend, `IBig /= 0u8`
example : OperandOk 64 .UBig ⟨false, .large [1, 2, 3]⟩ ∧ (0 : Int) ≤ 255 ∧ (255 : Int) ≤ 2 ^ 8 - 1 ∧
    divRemAssignPrim 64 0 (2 ^ 8 - 1) ⟨.DivRemAssign, .UBig, false, .UBig, false, .take, .pass, .take .DivRem, []⟩
      ⟨false, .large [1, 2, 3]⟩ 255 = some (.ok (.u (.small (361700864190383365 + 217020518514230019 * 2 ^ 64)), some 6)) ∧
    divRemAssignPrim 64 (-(2 ^ 7 : Int)) (2 ^ 7 - 1) ⟨.DivRemAssign, .IBig, false, .IBig, false, .take, .pass, .take .DivRem, []⟩
      ⟨true, .large [1, 2, 3]⟩ (-128) = some (.ok (.i ⟨false, .small (288230376151711744 + 432345564227567616 * 2 ^ 64)⟩, some (-1))) ∧
    Entry.eval 64 table ⟨.DivAssign, .IBig, false, .IBig, false, .take, .pass, .take .Div, []⟩ ⟨true, .large [1, 2, 3]⟩
      (SRepr.ofInt 64 0) = some (.error .divideByZero) := by
  refine ⟨⟨⟨by decide +kernel, by decide +kernel⟩, fun _ => rfl⟩, by decide +kernel, by decide +kernel, by decide +kernel, by decide +kernel, by decide +kernel⟩

end Dashu.Props.C02PrimBig
