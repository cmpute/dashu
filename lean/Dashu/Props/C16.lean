import Dashu.Proofs.Panic.Guards
import Dashu.Proofs.Panic.AllocGuards
import Dashu.Proofs.Panic.Loops2
import Dashu.Proofs.Panic.Farey
import Dashu.Proofs.Panic.LnLoop
import Dashu.Proofs.Panic.Utf8
import Dashu.Proofs.Panic.Guards5
import Dashu.Proofs.Panic.UlpSharp
import Dashu.Proofs.Panic.InvLink
/-
  C16 — operations terminate and panic only where the documentation says so.   PARTIAL.

  The model of this property is the documentation itself: `Dashu.Spec.Panics.verdict` (a transcription of the
  rustdoc, 158 operations).  The driver `drive_panic` prints `verdict` for every case line and the real call
  (debug and release builds, supervised worker) must end the same way.  What is PROVED here:

   (1) the transcription is total and can only name documented kinds;
   (2) for the operations whose entry guards are mirrored from the code (`Dashu.Model.Panic.guard*`), the guard
       fails with kind `k` IFF the documentation names `k` — for all arguments;
   (3) termination: `farey_neighbors` returns within `limit` iterations and needs `limit` of them on `1/(limit+1)`;
       the `ln` series loop terminates for positive input (the only input that reaches it since fix b0e87a3, by
       `fbig_ln_guard`) and provably never for negative input (as-is counterexample for the pre-fix code); the `exp` and
       `iacoth` series, the estimate-fixing loop of `ilog`, `remove` and the bit loop of `pow` return;
   (4) the float parser's byte-offset slicing only cuts at char boundaries of well-formed UTF-8;
   (5) the size reservations of `pow` / `from_chunks` are consistent with the documentation in the two directions that
       hold (S1, S2 below), with counterexamples for the converse; the bare assert of `to_float(0)`; the folds;
   (6) the `NonInvertible` guard of `Reduced ÷ Reduced` decides what C13's modelled `inv` does.

  /- FULL STATEMENT (not provable with the present models; kept for the record):
     theorem c16_full : ∀ (op : Op) (args : Args), Valid op args →
        (∃ fuel, run op args fuel = .ok v ∨ run op args fuel = .error k) ∧          -- terminates
        (run op args = .error k ↔ documented op args = some k)                        -- panics iff documented
     where `run` is an executable model of the WHOLE implementation of every public operation.  Such a model exists
     only for the entry guards (2) and the loops (3); all other operations are decided by the correspondence
     run against the transcription (evidence lists them as explored, not proved).  The statement is moreover
     FALSE for the current code: see `farey_needs_limit_steps` and the findings recorded for C16 in
     known_findings.jsonl (`ln_negative_never_terminates` was the second counterexample until fix b0e87a3). -/
-/
namespace Dashu.Props.C16
open Dashu.Spec.Panics Dashu.Model.Panic Dashu.Proofs.Panic

-- ------------------------------------------------------------------ (1) the transcription

/-- `documented` is total and every kind it returns is one of the 17 documented kinds -/
theorem documented_is_total (W : Nat) (op : Op) (args : List Arg) :
    documented W op args = none ∨ ∃ k ∈ Kind.all, documented W op args = some k := by
  cases h : documented W op args with
  | none => exact Or.inl rfl
  | some k => exact Or.inr ⟨k, kind_mem_all k, rfl⟩

/-- no documented kind is an `Undocumented(site)` of the integer model -/
theorem documented_never_undocumented (k : Kind) (site : String) :
    Kind.toPanicKind? k ≠ some (.undocumented site) := by
  cases k <;> simp [Kind.toPanicKind?]

/-- the kinds shared with the integer model print identically -/
theorem kind_names_agree (k : Kind) (p : Dashu.Model.PanicKind) (h : Kind.toPanicKind? k = some p) :
    k.name = p.name := by
  cases k <;> simp [Kind.toPanicKind?] at h <;> subst h <;> rfl

/-- the printed names are pairwise distinct (the differ compares names) -/
theorem kind_names_distinct (a b : Kind) (h : a.name = b.name) : a = b := kind_name_injective a b h

-- ------------------------------------------------------------------ (2) mirrored entry guards ⇔ documentation
-- The proofs have one shape (`Proofs/Panic/Guards`): `iff_documented` turns the iff, for all kinds at once, into ONE
-- equation `failKind guard = kindOf (verdict …)`; `dsimp only [verdict]` exposes the documentation's clause, the
-- `if_neg`s discharge its tests on the validity of the arguments (met by the hypotheses), and `failKind_*` / `kindOf_*`
-- compare guard and clause test by test.  `doc_form` normalises a clause to a chain of `if`s; `no_panic` closes
-- `documented … = none` for a clause that names no kind.

/-- `UBig - UBig`: the dispatch of `impl Sub for TypedRepr` panics with NegativeUBig iff the documentation says so -/
theorem ubig_sub_guard (W a b : Nat) (k : Kind) :
    guardUSub W a b = .error k ↔ documented W .uSub [.int a, .int b] = some k := by
  have hp := pow2W_pos W
  have hn : ¬ ((a:Int) < 0 ∨ (b:Int) < 0) := by omega
  -- all four Small/Large cases of the dispatch test `a < b`
  have hg : guardUSub W a b = if a < b then .error .negativeUBig else .ok () := by
    generalize hB : 2 ^ (2 * W) = B at hp
    unfold guardUSub isSmall
    rw [hB]
    by_cases ha : a < B <;> by_cases hb : b < B <;> by_cases h : a < b <;> simp [ha, hb, h] <;> omega
  refine iff_documented ?_ k
  dsimp only [verdict]
  rw [if_neg hn, hg]
  exact failKind_one _ _ _ (by rw [decide_eq_true_eq, Int.ofNat_lt])

/-- UBig division family (`/ % div_rem div_euclid rem_euclid div_rem_euclid is_multiple_of`) -/
theorem ubig_div_family_guard (W a b : Nat) (k : Kind) (op : Op)
    (hop : op ∈ [Op.uDiv, .uRem, .uDivRem, .uDivEuclid, .uRemEuclid, .uDivRemEuclid, .uIsMultipleOf]) :
    guardDivByZero W b = .error k ↔ documented W op [.int a, .int b] = some k := by
  have hd : documented W op [.int a, .int b] = documented W .uDiv [.int a, .int b] := by
    simp at hop; rcases hop with h | h | h | h | h | h | h <;> subst h <;> rfl
  have hn : ¬ ((a:Int) < 0 ∨ (b:Int) < 0) := by omega
  rw [hd]
  refine iff_documented ?_ k
  dsimp only [verdict]
  rw [if_neg hn, guardDivByZero_eq]
  exact failKind_divZero_nat b

/-- IBig division family -/
theorem ibig_div_family_guard (W : Nat) (a b : Int) (k : Kind) (op : Op)
    (hop : op ∈ [Op.iDiv, .iRem, .iDivRem, .iDivEuclid, .iRemEuclid, .iDivRemEuclid, .iIsMultipleOf]) :
    guardDivByZero W b.natAbs = .error k ↔ documented W op [.int a, .int b] = some k := by
  have hd : documented W op [.int a, .int b] = documented W .iDiv [.int a, .int b] := by
    simp at hop; rcases hop with h | h | h | h | h | h | h <;> subst h <;> rfl
  rw [hd]
  refine iff_documented ?_ k
  dsimp only [verdict]
  rw [guardDivByZero_eq]
  exact failKind_one _ _ _ (by rw [decide_eq_true_eq, Int.natAbs_eq_zero])

/-- `gcd` / `gcd_ext` of UBig -/
theorem ubig_gcd_guard (W a b : Nat) (k : Kind) (op : Op) (hop : op ∈ [Op.uGcd, .uGcdExt]) :
    guardGcd W a b = .error k ↔ documented W op [.int a, .int b] = some k := by
  have hd : documented W op [.int a, .int b] = documented W .uGcd [.int a, .int b] := by
    simp at hop; rcases hop with h | h <;> subst h <;> rfl
  have hn : ¬ ((a:Int) < 0 ∨ (b:Int) < 0) := by omega
  rw [hd]
  refine iff_documented ?_ k
  dsimp only [verdict]
  rw [if_neg hn, guardGcd_eq]
  exact failKind_one _ _ _ (by rw [decide_eq_true_eq, Int.natCast_eq_zero, Int.natCast_eq_zero])

/-- `gcd` / `gcd_ext` of IBig (on the magnitudes) -/
theorem ibig_gcd_guard (W : Nat) (a b : Int) (k : Kind) (op : Op) (hop : op ∈ [Op.iGcd, .iGcdExt]) :
    guardGcd W a.natAbs b.natAbs = .error k ↔ documented W op [.int a, .int b] = some k := by
  have hd : documented W op [.int a, .int b] = documented W .iGcd [.int a, .int b] := by
    simp at hop; rcases hop with h | h <;> subst h <;> rfl
  rw [hd]
  refine iff_documented ?_ k
  dsimp only [verdict]
  rw [guardGcd_eq]
  exact failKind_one _ _ _ (by rw [decide_eq_true_eq, Int.natAbs_eq_zero, Int.natAbs_eq_zero])

/-- `UBig::nth_root` -/
theorem ubig_nth_root_guard (W x n : Nat) (k : Kind) :
    guardUNthRoot n = .error k ↔ documented W .uNthRoot [.int x, .dec n] = some k := by
  have hn : ¬ ((x:Int) < 0 ∨ (n:Int) < 0) := by omega
  refine iff_documented ?_ k
  dsimp only [verdict]
  rw [if_neg hn]
  exact failKind_one _ _ _ (by rw [decide_eq_true_eq, Int.natCast_eq_zero])

/-- `IBig::nth_root`: zeroth root first, then an even root of a negative number -/
theorem ibig_nth_root_guard (W : Nat) (x : Int) (n : Nat) (k : Kind) :
    guardINthRoot x n = .error k ↔ documented W .iNthRoot [.int x, .dec n] = some k := by
  have hn : ¬ ((n:Int) < 0) := by omega
  refine iff_documented ?_ k
  dsimp only [verdict]
  rw [if_neg hn, kindOf_cons]
  simp only [decide_eq_true_eq, Int.natCast_eq_zero]
  refine failKind_ite _ _ _ fun _ => failKind_one _ _ _ ?_
  rw [decide_eq_true_iff]
  omega

/-- `SquareRoot for IBig` -/
theorem ibig_sqrt_guard (W : Nat) (x : Int) (k : Kind) :
    guardISqrt x = .error k ↔ documented W .iSqrt [.int x] = some k := by
  refine iff_documented ?_ k
  dsimp only [verdict]
  exact failKind_one _ _ _ decide_eq_true_iff.symm

/-- `UBig::ilog` -/
theorem ubig_ilog_guard (W x b : Nat) (k : Kind) (hW : 1 ≤ W) :
    guardIlog W x b = .error k ↔ documented W .uIlog [.int x, .int b] = some k := by
  have hn : ¬ ((x:Int) < 0 ∨ (b:Int) < 0) := by omega
  refine iff_documented ?_ k
  dsimp only [verdict]
  rw [if_neg hn, guardIlog_eq W x b hW]
  exact failKind_one _ _ _ (by rw [decide_eq_true_eq]; omega)

/-- `IBig::ilog` (logarithm of the magnitude) -/
theorem ibig_ilog_guard (W : Nat) (x : Int) (b : Nat) (k : Kind) (hW : 1 ≤ W) :
    guardIlog W x.natAbs b = .error k ↔ documented W .iIlog [.int x, .int b] = some k := by
  have hn : ¬ ((b:Int) < 0) := by omega
  refine iff_documented ?_ k
  dsimp only [verdict]
  rw [if_neg hn, guardIlog_eq W _ b hW]
  exact failKind_one _ _ _ (by rw [decide_eq_true_eq]; omega)

/-- `UBig::in_radix` / `IBig::in_radix` -/
theorem in_radix_guard (W : Nat) (x : Int) (r : Nat) (k : Kind) :
    guardInRadix r = .error k ↔ documented W .iInRadix [.int x, .dec r] = some k := by
  refine iff_documented ?_ k
  dsimp only [verdict]
  exact failKind_one _ _ _ (radix_test r)

/-- `ConstDivisor::new` -/
theorem const_divisor_new_guard (W n : Nat) (k : Kind) :
    guardCdNew W n = .error k ↔ documented W .cdNew [.int n] = some k := by
  have hn : ¬ ((n:Int) < 0) := by omega
  refine iff_documented ?_ k
  dsimp only [verdict]
  rw [if_neg hn, guardCdNew_eq]
  exact failKind_divZero_nat n

/-- `RBig::from_parts` / `Relaxed::from_parts` -/
theorem rbig_from_parts_guard (W : Nat) (n : Int) (d : Nat) (c : Char) (k : Kind) :
    guardQFromParts d = .error k ↔ documented W .qFromParts [.int n, .int d, .kind c] = some k := by
  have hn : ¬ ((d:Int) < 0) := by omega
  refine iff_documented ?_ k
  dsimp only [verdict]
  rw [if_neg hn]
  exact failKind_divZero_nat d

/-- `RBig::nearest` / `next_up` / `next_down`: the `limit.is_zero()` guard -/
theorem rbig_limit_guard (W : Nat) (n : Int) (d l : Nat) (c : Char) (k : Kind) (hd : 0 < d) (op : Op)
    (hop : op ∈ [Op.qNearest, .qNextUp, .qNextDown]) :
    guardQLimit l = .error k ↔ documented W op [.int n, .int d, .kind c, .int l] = some k := by
  have hd : documented W op [.int n, .int d, .kind c, .int l] = documented W .qNearest [.int n, .int d, .kind c, .int l] := by
    simp at hop; rcases hop with h | h | h <;> subst h <;> rfl
  have hn : ¬ ((d:Int) ≤ 0 ∨ (l:Int) < 0) := by omega
  rw [hd]
  refine iff_documented ?_ k
  dsimp only [verdict]
  rw [if_neg hn]
  exact failKind_divZero_nat l

/-- float `+` / `-` (operands canonical, exponents away from the `isize` limits) -/
theorem fbig_add_sub_guard (W : Nat) (a b : FArg) (k : Kind) (op : Op) (hop : op ∈ [Op.fAdd, .fSub])
    (hc : (a.canonical ∧ b.canonical ∧ sameKind a b)) (hm : (a.moderate ∧ b.moderate)) :
    guardFAdd a b = .error k ↔ documented W op [.flt a, .flt b] = some k := by
  have hd : documented W op [.flt a, .flt b] = documented W .fAdd [.flt a, .flt b] := by
    simp at hop; rcases hop with h | h <;> subst h <;> rfl
  rw [hd]
  refine iff_documented ?_ k
  dsimp only [verdict]
  rw [if_neg (by simpa using hc), if_neg (by simpa using hm)]
  exact failKind_one _ _ _ decide_eq_true_iff.symm

/-- float `/`: finite operands, then limited precision, then a non-zero divisor — in this order -/
theorem fbig_div_guard (W : Nat) (a b : FArg) (k : Kind)
    (hc : (a.canonical ∧ b.canonical ∧ sameKind a b)) (hm : (a.moderate ∧ b.moderate)) :
    guardFDiv W a b = .error k ↔ documented W .fDiv [.flt a, .flt b] = some k := by
  refine iff_documented ?_ k
  dsimp only [verdict]
  rw [if_neg (by simpa using hc), if_neg (by simpa using hm), kindOf_cons, kindOf_cons]
  simp only [decide_eq_true_eq]
  exact failKind_bind _ _ _ fun h1 => failKind_bind _ _ _ fun _ =>
    failKind_divByZero_signif W b (not_inf_of b fun h => h1 (Or.inr h))

/-- float `sqrt`: finite, limited precision, non-negative -/
theorem fbig_sqrt_guard (W : Nat) (a : FArg) (k : Kind) (hc : a.canonical) (hm : a.moderate) :
    guardFSqrt a = .error k ↔ documented W .fSqrt [.flt a] = some k := by
  refine iff_documented ?_ k
  dsimp only [verdict]
  rw [if_neg (by simpa using hc), if_neg (by simpa using hm), kindOf_cons, kindOf_cons]
  simp only [decide_eq_true_eq]
  exact failKind_bind _ _ _ fun h1 => failKind_bind _ _ _ fun _ =>
    failKind_one _ _ _ (isNeg_of_finite a (not_inf_of a h1)).symm

/- FULL STATEMENT (false for the current code, see the counterexample):  the same without `hp` -/
theorem fbig_ulp_guard_partial (W : Nat) (a : FArg) (k : Kind) (hc : a.canonical) (hm : a.moderate) (hp : a.prec ≤ 2 ^ 62) :
    guardFUlp a = .error k ↔ documented W .fUlp [.flt a] = some k := guardFUlp_iff W a k hc hm hp

/-- the hypothesis on the precision is needed: at precision 2^63 the ulp of 3·2^-5 is 2^(-3 − 2^63), below the exponent range
    (documented: ExponentOverflow); `FBig::ulp` checks nothing (`precision as isize`, unchecked subtraction) -/
theorem fbig_ulp_guard_counterexample :
    guardFUlp ⟨2, 3, -5, 2 ^ 63, 'Z'⟩ = .ok () ∧
    documented 64 .fUlp [.flt ⟨2, 3, -5, 2 ^ 63, 'Z'⟩] = some .exponentOverflow := by
  constructor <;> decide +kernel

example : (⟨2, 3, 0, 5, 'Z'⟩ : FArg).canonical = true ∧ (⟨2, 3, 0, 5, 'Z'⟩ : FArg).moderate = true := by decide +kernel

/- `fbig_ulp_guard_partial` with its hypothesis `prec ≤ 2^62` replaced by the WEAKEST possible one.  `ulpClauseSilent a` :=
   `prec = 0 ∨ a infinite ∨ isize::MIN ≤ exp + digits − prec` (the documented underflow clause does not apply); every precision
   up to usize::MAX is admitted.  FULL STATEMENT (false for the current code): the same without `hs`. -/
theorem fbig_ulp_guard_sharp_partial (W : Nat) (a : FArg) (k : Kind) (hc : a.canonical) (hm : a.moderate)
    (hs : ulpClauseSilent a) :
    guardFUlp a = .error k ↔ documented W .fUlp [.flt a] = some k := guardFUlp_iff_sharp W a k hc hm hs

/-- `hs` is necessary on EVERY input, not only at the witness of `fbig_ulp_guard_counterexample`: on canonical moderate operands
    the guard of `FBig::ulp` agrees with the documentation for all kinds iff the underflow clause is silent; outside, the code
    checks nothing where ExponentOverflow is documented (= the input class of finding float_precision_isize_cast, f.ulp) -/
theorem fbig_ulp_guard_exact_class (W : Nat) (a : FArg) (hc : a.canonical) (hm : a.moderate) :
    ((∀ k : Kind, guardFUlp a = .error k ↔ documented W .fUlp [.flt a] = some k) ↔ ulpClauseSilent a) ∧
    (¬ ulpClauseSilent a → guardFUlp a = .ok () ∧ documented W .fUlp [.flt a] = some .exponentOverflow) :=
  ⟨guardFUlp_iff_exactly W a hc hm, guardFUlp_not_silent W a hc hm⟩

/-- closed form: `fbig_ulp_guard_partial` with the bound 2^62 raised to 2^63 − 2^61 = 3·2^61 -/
theorem fbig_ulp_guard_prec_bound_partial (W : Nat) (a : FArg) (k : Kind) (hc : a.canonical) (hm : a.moderate)
    (hp : a.prec ≤ 3 * 2 ^ 61) :
    guardFUlp a = .error k ↔ documented W .fUlp [.flt a] = some k :=
  guardFUlp_iff_sharp W a k hc hm (ulpClauseSilent_of_prec_le a hm hp)

-- non-vacuity: precisions far above the bound 2^62 of `fbig_ulp_guard_partial` meet the hypotheses (isize::MAX with a finite operand; usize::MAX with an
-- infinity; 3·2^61 at the most negative moderate exponent); 2^63 + 2 is the last silent precision for 3·2^0, 2^63 + 3 is not
example : (⟨2, 3, 0, 2 ^ 63 - 1, 'Z'⟩ : FArg).canonical = true ∧ (⟨2, 3, 0, 2 ^ 63 - 1, 'Z'⟩ : FArg).moderate = true ∧
    ulpClauseSilent ⟨2, 3, 0, 2 ^ 63 - 1, 'Z'⟩ := by decide +kernel
example : (⟨2, 3, 0, 2 ^ 63 + 3, 'Z'⟩ : FArg).canonical = true ∧ (⟨2, 3, 0, 2 ^ 63 + 3, 'Z'⟩ : FArg).moderate = true ∧
    ulpClauseSilent ⟨2, 3, 0, 2 ^ 63 + 2, 'Z'⟩ ∧ ¬ ulpClauseSilent ⟨2, 3, 0, 2 ^ 63 + 3, 'Z'⟩ := by decide +kernel
example : (⟨10, 0, 1, 2 ^ 64 - 1, 'H'⟩ : FArg).canonical = true ∧ (⟨10, 0, 1, 2 ^ 64 - 1, 'H'⟩ : FArg).moderate = true ∧
    ulpClauseSilent ⟨10, 0, 1, 2 ^ 64 - 1, 'H'⟩ := by decide +kernel
example : (⟨2, 1, -(2 ^ 61), 3 * 2 ^ 61, 'Z'⟩ : FArg).canonical = true ∧
    (⟨2, 1, -(2 ^ 61), 3 * 2 ^ 61, 'Z'⟩ : FArg).moderate = true := by decide +kernel

-- guards that exist since the fix: commits c27ca7f, 65edb1e, 0ffa05d, d9f681e, b0e87a3 (full statements for the patched code)

/-- `UBig::is_multiple_of_const` (after c27ca7f) -/
theorem ubig_is_multiple_of_const_guard (W a d : Nat) (k : Kind) (hd : d < 2 ^ (2 * W)) :
    guardIsMultipleOfConst d = .error k ↔ documented W .uIsMultipleOfConst [.int a, .int d] = some k := by
  have hn : ¬ ((a:Int) < 0 ∨ (d:Int) < 0 ∨ (d:Int) ≥ 2 ^ (2 * W)) := by
    have := natCast_not_ge_pow d (2 * W) hd
    omega
  refine iff_documented ?_ k
  dsimp only [verdict]
  rw [if_neg hn]
  exact failKind_divZero_nat d

/-- `IBig::is_multiple_of_const` (after c27ca7f) -/
theorem ibig_is_multiple_of_const_guard (W : Nat) (a : Int) (d : Nat) (k : Kind) (hd : d < 2 ^ (2 * W)) :
    guardIsMultipleOfConst d = .error k ↔ documented W .iIsMultipleOfConst [.int a, .int d] = some k := by
  have hn : ¬ ((d:Int) < 0 ∨ (d:Int) ≥ 2 ^ (2 * W)) := by
    have := natCast_not_ge_pow d (2 * W) hd
    omega
  refine iff_documented ?_ k
  dsimp only [verdict]
  rw [if_neg hn]
  exact failKind_divZero_nat d

/-- `FBig::split_at_point` (after 65edb1e) -/
theorem fbig_split_at_point_guard (W : Nat) (a : FArg) (k : Kind) (hc : a.canonical) (hm : a.moderate) :
    guardFSplitAtPoint a = .error k ↔ documented W .fSplitAtPoint [.flt a] = some k := by
  refine iff_documented ?_ k
  dsimp only [verdict]
  rw [if_neg (by simpa using hc), if_neg (by simpa using hm)]
  doc_form
  exact failKind_test _ _

/-- float `div_euclid` / `rem_euclid` (after 0ffa05d): finite operands, then a non-zero divisor -/
theorem fbig_euclid_guard (W : Nat) (a b : FArg) (k : Kind) (op : Op) (hop : op ∈ [Op.fDivEuclid, .fRemEuclid])
    (hc : (a.canonical ∧ b.canonical ∧ sameKind a b)) (hm : (a.moderate ∧ b.moderate)) :
    guardFEuclid W a b = .error k ↔ documented W op [.flt a, .flt b] = some k := by
  have hd : documented W op [.flt a, .flt b] = documented W .fDivEuclid [.flt a, .flt b] := by
    simp at hop; rcases hop with h | h <;> subst h <;> rfl
  rw [hd]
  refine iff_documented ?_ k
  dsimp only [verdict]
  rw [if_neg (by simpa using hc), if_neg (by simpa using hm), kindOf_cons]
  simp only [decide_eq_true_eq]
  exact failKind_bind _ _ _ fun h1 => failKind_divByZero_signif W b (not_inf_of b fun h => h1 (Or.inr h))

/-- float `powf` (after d9f681e): finite operands, limited precision, the returning shortcuts, negative base -/
theorem fbig_powf_guard (W : Nat) (a b : FArg) (k : Kind)
    (hc : (a.canonical ∧ b.canonical ∧ sameKind a b)) (hm : (a.moderate ∧ b.moderate)) :
    guardFPowf a b = .error k ↔ documented W .fPowf [.flt a, .flt b] = some k := by
  refine iff_documented ?_ k
  dsimp only [verdict]
  rw [if_neg (by simpa using hc), if_neg (by simpa using hm)]
  doc_form
  refine failKind_bind _ _ _ fun h1 => failKind_bind _ _ _ fun _ => ?_
  simp only [isZero_of_finite b (not_inf_of b fun h => h1 (Or.inr h)),
    isNeg_of_finite a (not_inf_of a fun h => h1 (Or.inl h))]
  by_cases h3 : b.signif = 0
  · simp [h3, failKind]
  by_cases h4 : b.signif = 1 ∧ b.exp = 0
  · simp [h4, failKind]
  simp only [h3, h4, if_false, false_or]
  rw [ok_shortcut _ _ _ (by omega)]
  exact failKind_test _ _

/-- `ln`: finite, limited precision, and (since b0e87a3) `x > 0` — exactly the documented conditions -/
theorem fbig_ln_guard (W : Nat) (a : FArg) (k : Kind) (hc : a.canonical) (hm : a.moderate) :
    guardFLn a = .error k ↔ documented W .fLn [.flt a] = some k := by
  refine iff_documented ?_ k
  dsimp only [verdict]
  rw [if_neg (by simpa using hc), if_neg (by simpa using hm), kindOf_cons, kindOf_cons]
  simp only [decide_eq_true_eq]
  refine failKind_bind _ _ _ fun h1 => failKind_bind _ _ _ fun _ => ?_
  have ha := not_inf_of a h1
  rw [ok_shortcut _ _ _ (by omega)]
  exact failKind_one _ _ _ (by rw [decide_eq_true_iff, isZero_of_finite a ha, isNeg_of_finite a ha])

/-- `ln_1p`: finite, limited precision, and (since b0e87a3) `x > -1` -/
theorem fbig_ln_1p_guard (W : Nat) (a : FArg) (k : Kind) (hc : a.canonical) (hm : a.moderate) :
    guardFLn1p a = .error k ↔ documented W .fLn1p [.flt a] = some k := by
  refine iff_documented ?_ k
  dsimp only [verdict]
  rw [if_neg (by simpa using hc), if_neg (by simpa using hm), kindOf_cons, kindOf_cons]
  simp only [decide_eq_true_eq]
  refine failKind_bind _ _ _ fun h1 => failKind_bind _ _ _ fun _ => ?_
  rw [ok_shortcut _ _ _ (by omega)]
  refine failKind_one _ _ _ ?_
  rw [decide_eq_true_iff, isNeg_of_finite a (not_inf_of a h1)]
  -- leNegOne ↔ the documentation's integer formulation, for a negative significand
  refine and_congr_right fun hneg => ?_
  have hbase : 1 ≤ a.base := by rcases canonical_base a hc with h | h <;> omega
  unfold leNegOne
  by_cases he : a.exp ≥ 0
  · have hp : 1 ≤ a.base ^ a.exp.toNat := Nat.one_le_pow _ _ hbase
    simp only [he, if_true, decide_eq_true_eq, true_or, iff_true]
    have hp' : (1:Int) ≤ ((a.base ^ a.exp.toNat : Nat) : Int) := by exact_mod_cast hp
    nlinarith
  · simp only [he, if_false, decide_eq_true_eq, false_or]
    omega

example : guardFLn ⟨2, -3, 0, 14, 'Z'⟩ = .error .logInvalid := by decide
example : guardFLn1p ⟨10, -1, 0, 5, 'H'⟩ = .error .logInvalid := by decide
example : guardFLn1p ⟨10, -5, -1, 5, 'H'⟩ = .ok () := by decide
example : guardFEuclid 64 ⟨2, 0, 1, 0, 'Z'⟩ ⟨2, 3, 0, 0, 'Z'⟩ = .error .infinite := by decide

-- ---- further families (Dashu.Model.Panic.GuardsMore).  `_partial`: the code checks less than the
--      documentation promises (recorded findings); the hypothesis excludes exactly that region and the
--      `_counterexample` shows it is needed.

/-- `to_int / trunc / fract / ceil / floor / round`: Infinite and nothing else -/
theorem fbig_finite_only_guard (W : Nat) (a : FArg) (k : Kind) (op : Op)
    (hop : op ∈ [Op.fToInt, .fTrunc, .fFract, .fCeil, .fFloor, .fRound]) (hc : a.canonical) (hm : a.moderate) :
    guardFFiniteOnly a = .error k ↔ documented W op [.flt a] = some k := by
  -- the same guard and the same clause of the documentation as `split_at_point`
  have hd : documented W op [.flt a] = documented W .fSplitAtPoint [.flt a] := by
    simp at hop; rcases hop with h | h | h | h | h | h <;> subst h <;> rfl
  rw [hd]
  exact fbig_split_at_point_guard W a k hc hm

/- FULL: theorem fbig_mul_guard : guardFMul a b = .error k ↔ documented W .fMul [.flt a, .flt b] = some k
   is FALSE (`fbig_mul_guard_counterexample`): `lhs.exponent + rhs.exponent` is unchecked (finding float_exponent_unchecked). -/
/-- float `*`: as long as the exponent sum stays inside `isize` (hypothesis: the documentation does not promise an
    overflow panic), the only panic is Infinite -/
theorem fbig_mul_guard_partial (W : Nat) (a b : FArg) (k : Kind) (hc : (a.canonical ∧ b.canonical ∧ sameKind a b))
    (hexp : expApprox (a.exp + b.exp) = .returns) :
    guardFMul a b = .error k ↔ documented W .fMul [.flt a, .flt b] = some k := by
  refine iff_documented ?_ k
  dsimp only [verdict]
  rw [if_neg (by simpa using hc), hexp]
  doc_form
  exact failKind_test _ _

/-- the hypothesis is needed: `2^(2^62+2^42) · 2^(2^62+2^42)` — the code's guard passes, the documentation promises a panic -/
theorem fbig_mul_guard_counterexample :
    guardFMul ⟨2, 1, 2 ^ 62 + 2 ^ 42, 0, 'Z'⟩ ⟨2, 1, 2 ^ 62 + 2 ^ 42, 0, 'Z'⟩ = .ok () ∧
    documented 64 .fMul [.flt ⟨2, 1, 2 ^ 62 + 2 ^ 42, 0, 'Z'⟩, .flt ⟨2, 1, 2 ^ 62 + 2 ^ 42, 0, 'Z'⟩]
      = some .exponentOverflow := by
  constructor <;> decide

/-- `sqr` (`m = 2`) / `cubic` (`m = 3`) under the same kind of hypothesis -/
theorem fbig_sqr_guard_partial (W : Nat) (a : FArg) (k : Kind) (hc : a.canonical)
    (hexp : expApprox (2 * a.exp) = .returns) :
    guardFSqrCubic a = .error k ↔ documented W .fSqr [.flt a] = some k := by
  refine iff_documented ?_ k
  dsimp only [verdict]
  rw [if_neg (by simpa using hc), hexp]
  doc_form
  exact failKind_test _ _

theorem fbig_cubic_guard_partial (W : Nat) (a : FArg) (k : Kind) (hc : a.canonical)
    (hexp : expApprox (3 * a.exp) = .returns) :
    guardFSqrCubic a = .error k ↔ documented W .fCubic [.flt a] = some k := by
  refine iff_documented ?_ k
  dsimp only [verdict]
  rw [if_neg (by simpa using hc), hexp]
  doc_form
  exact failKind_test _ _

/-- float `%` -/
theorem fbig_rem_guard (W : Nat) (a b : FArg) (k : Kind)
    (hc : (a.canonical ∧ b.canonical ∧ sameKind a b)) (hm : (a.moderate ∧ b.moderate)) :
    guardFRem W a b = .error k ↔ documented W .fRem [.flt a, .flt b] = some k := by
  -- the same guard and the same clause of the documentation as `div_euclid`
  exact fbig_euclid_guard W a b k .fDivEuclid (List.mem_cons_self ..) hc hm

/-- float `inv` -/
theorem fbig_inv_guard (W : Nat) (a : FArg) (k : Kind) (hc : a.canonical) (hm : a.moderate) :
    guardFInv W a = .error k ↔ documented W .fInv [.flt a] = some k := by
  refine iff_documented ?_ k
  dsimp only [verdict]
  rw [if_neg (by simpa using hc), if_neg (by simpa using hm), kindOf_cons, kindOf_cons]
  simp only [decide_eq_true_eq]
  exact failKind_bind _ _ _ fun h1 => failKind_bind _ _ _ fun _ => failKind_divByZero_signif W a (not_inf_of a h1)

/-- `exp` / `exp_m1` for `|x| ≤ 2^61` (beyond, the overflow test `s.try_into()` decides; not mirrored) -/
theorem fbig_exp_guard_partial (W : Nat) (a : FArg) (k : Kind) (hc : a.canonical) (hm : a.moderate)
    (h66 : a.magAtLeastPow2 66 = false) (h61 : a.magAtMostPow2 61 = true) :
    (guardFExp a = .error k ↔ documented W .fExp [.flt a] = some k) ∧
    (guardFExp a = .error k ↔ documented W .fExpM1 [.flt a] = some k) := by
  refine ⟨iff_documented ?_ k, iff_documented ?_ k⟩ <;> dsimp only [verdict] <;>
    rw [if_neg (by simpa using hc), if_neg (by simpa using hm)] <;> exact failKind_guardFExp a _ h66 h61

/-- `powi`: Infinite; negative exponent at unlimited precision; `0^(-n)`; under the hypothesis that the result
    exponent of `(±B^k)^e` stays inside `isize` -/
theorem fbig_powi_guard_partial (W : Nat) (a : FArg) (e : Int) (k : Kind) (hc : a.canonical) (hm : a.moderate)
    (hexp : a.signif.natAbs = 1 → expApprox (a.exp * e) = .returns) :
    guardFPowi a e = .error k ↔ documented W .fPowi [.flt a, .int e] = some k := by
  have hm' : ¬ (¬ a.moderate = true ∧ a.signif.natAbs ≠ 1) := fun h => h.1 hm
  refine iff_documented ?_ k
  dsimp only [verdict]
  rw [if_neg (by simpa using hc), if_neg hm']
  -- once none of the entry guards applies the documentation names no kind
  have tail : kindOf (if a.isZero ∨ e = 0 then some Verdict.returns
      else if a.signif.natAbs = 1 then some (expApprox (a.exp * e))
      else if e.natAbs ≤ 2 ^ 10 ∧ a.exp.natAbs ≤ 2 ^ 30 then some .returns
      else some .unspecified) = none := by
    split
    · rfl
    · split
      · rename_i h4; rw [hexp h4]; rfl
      · doc_form
  rw [kindOf_ite, kindOf_panics, kindOf_ite, kindOf_panics, kindOf_ite, kindOf_panics, tail]
  refine failKind_bind _ _ _ fun h1 => ?_
  have hz := isZero_of_finite a (not_inf_of a h1)
  by_cases he : e < 0
  · simp only [he, true_and]
    refine failKind_bind _ _ _ fun _ => ?_
    simp only [← hz]
    exact failKind_test _ _
  · simp only [he, if_false, false_and]
    rfl

/- FULL (false, `fbig_shl_guard_counterexample`): `exponent + rhs` is unchecked. -/
/-- `<<` on floats, as long as the shifted exponent stays inside `isize` -/
theorem fbig_shl_guard_partial (W : Nat) (a : FArg) (n : Int) (k : Kind) (hc : a.canonical)
    (hn : isizeMin ≤ n ∧ n ≤ isizeMax) (hexp : expExact (a.exp + n) = .returns) :
    guardFShift a = .error k ↔ documented W .fShl [.flt a, .dec n] = some k := by
  have hn' : ¬ (¬ a.canonical = true ∨ n < isizeMin ∨ n > isizeMax) := by
    simp only [hc, not_true_eq_false, false_or]
    omega
  refine iff_documented ?_ k
  dsimp only [verdict]
  rw [if_neg hn', hexp]
  doc_form
  exact failKind_test _ _

theorem fbig_shr_guard_partial (W : Nat) (a : FArg) (n : Int) (k : Kind) (hc : a.canonical)
    (hn : isizeMin ≤ n ∧ n ≤ isizeMax) (hexp : expExact (a.exp - n) = .returns) :
    guardFShift a = .error k ↔ documented W .fShr [.flt a, .dec n] = some k := by
  have hn' : ¬ (¬ a.canonical = true ∨ n < isizeMin ∨ n > isizeMax) := by
    simp only [hc, not_true_eq_false, false_or]
    omega
  refine iff_documented ?_ k
  dsimp only [verdict]
  rw [if_neg hn', hexp]
  doc_form
  exact failKind_test _ _

/-- the hypothesis is needed: `1 << isize::MAX` applied to `2^30` -/
theorem fbig_shl_guard_counterexample :
    guardFShift ⟨2, 1, 30, 0, 'Z'⟩ = .ok () ∧
    documented 64 .fShl [.flt ⟨2, 1, 30, 0, 'Z'⟩, .dec (2 ^ 63 - 1)] = some .exponentOverflow := by
  constructor <;> decide

/-- `to_binary` (decimal or binary source): UnlimitedPrecision exactly when the documentation says so -/
theorem fbig_to_binary_guard (W : Nat) (a : FArg) (k : Kind) (hc : a.canonical) (he : a.exp.natAbs ≤ 2 ^ 20) :
    guardFConvertBase a 2 = .error k ↔ documented W .fToBinary [.flt a] = some k := by
  refine iff_documented ?_ k
  dsimp only [verdict]
  rw [if_neg (by simpa using hc)]
  refine failKind_guardFConvertBase a 2 he fun hb => ?_
  have hb10 : a.base = 10 := (canonical_base a hc).resolve_left hb
  rw [hb10, ten_pow_lt_two]

/- FULL (false, `fbig_to_decimal_guard_counterexample`): the target precision of a binary float with precision 1..3
   is 0 (finding to_decimal_small_precision). -/
/-- `to_decimal` of a binary float: the code derives the TARGET precision `⌊p·log10 2⌋`, which is 0 for `p ≤ 3`;
    outside that range (hypothesis) guard and documentation agree -/
theorem fbig_to_decimal_guard_partial (W : Nat) (a : FArg) (k : Kind) (hc : a.canonical) (he : a.exp.natAbs ≤ 2 ^ 20)
    (hp : a.base = 2 → (a.prec = 0 ∨ 4 ≤ a.prec)) :
    guardFConvertBase a 10 = .error k ↔ documented W .fToDecimal [.flt a] = some k := by
  refine iff_documented ?_ k
  dsimp only [verdict]
  rw [if_neg (by simpa using hc)]
  refine failKind_guardFConvertBase a 10 he fun hb => ?_
  have hb2 : a.base = 2 := (canonical_base a hc).resolve_right hb
  have := hp hb2
  rw [hb2, two_pow_lt_ten]
  omega

/-- the hypothesis is needed (the recorded finding): a binary float of precision 1 -/
theorem fbig_to_decimal_guard_counterexample :
    guardFConvertBase ⟨2, 1, 0, 1, 'Z'⟩ 10 = .error .unlimitedPrecision ∧
    documented 64 .fToDecimal [.flt ⟨2, 1, 0, 1, 'Z'⟩] = none := by
  constructor <;> decide

/-- `FBig::from_repr`: the debug assertion is the documented condition -/
theorem fbig_from_repr_guard (W : Nat) (dbg : Int) (a : FArg) (k : Kind) (hd : dbg = 0 ∨ dbg = 1)
    (hb : (a.base = 2 ∧ a.mode = 'Z') ∨ (a.base = 10 ∧ a.mode = 'H')) (hm : a.moderate) :
    guardFFromRepr (dbg = 1) a = .error k ↔ documented W .fFromRepr [.dec dbg, .flt a] = some k := by
  have h0 : ¬ (¬ (dbg = 0 ∨ dbg = 1) ∨ ¬ ((a.base = 2 ∧ a.mode = 'Z') ∨ (a.base = 10 ∧ a.mode = 'H'))) := by
    intro h; rcases h with h | h
    · exact h hd
    · exact h hb
  refine iff_documented ?_ k
  dsimp only [verdict]
  rw [if_neg h0, if_neg (by simpa using hm)]
  unfold guardFFromRepr
  refine failKind_one _ _ _ ?_
  simp only [decide_eq_true_eq]
  constructor
  · rintro ⟨h1, h2⟩
    refine ⟨h1, ?_, ?_, ?_⟩
    · intro h; exact h2 (Or.inl h)
    · intro h; exact h2 (Or.inr (Or.inl h))
    · by_cases h : a.normDigits ≤ a.prec
      · exact absurd (Or.inr (Or.inr h)) h2
      · omega
  · rintro ⟨h1, h2, h3, h4⟩
    refine ⟨h1, ?_⟩
    rintro (h | h | h)
    · exact h2 h
    · exact h3 h
    · omega

theorem rbig_from_parts_signed_guard (W : Nat) (n d : Int) (c : Char) (k : Kind) :
    guardQFromPartsSigned d = .error k ↔ documented W .qFromPartsSigned [.int n, .int d, .kind c] = some k := by
  exact iff_documented (failKind_divZero d) k

theorem rbig_inv_guard (W : Nat) (n : Int) (d : Nat) (c : Char) (k : Kind) (hd : 0 < d) :
    guardQInv n = .error k ↔ documented W .qInv [.int n, .int d, .kind c] = some k := by
  have hn : ¬ ((d:Int) ≤ 0) := by omega
  refine iff_documented ?_ k
  dsimp only [verdict]
  rw [if_neg hn]
  exact failKind_divZero n

/-- rational `/`, `%`, `div_euclid`: a zero divisor -/
theorem rbig_div_family_guard (W : Nat) (n n2 : Int) (d d2 : Nat) (c : Char) (k : Kind) (hd : 0 < d) (hd2 : 0 < d2)
    (op : Op) (hop : op ∈ [Op.qDiv, .qRem, .qDivEuclid]) :
    guardQDiv n2 = .error k ↔ documented W op [.int n, .int d, .kind c, .int n2, .int d2] = some k := by
  have hd : documented W op [.int n, .int d, .kind c, .int n2, .int d2] = documented W .qDiv [.int n, .int d, .kind c, .int n2, .int d2] := by
    simp at hop; rcases hop with h | h | h <;> subst h <;> rfl
  have hn : ¬ ((d:Int) ≤ 0 ∨ (d2:Int) ≤ 0) := by omega
  rw [hd]
  refine iff_documented ?_ k
  dsimp only [verdict]
  rw [if_neg hn]
  exact failKind_divZero n2

theorem rbig_div_int_guard (W : Nat) (n i : Int) (d : Nat) (c : Char) (k : Kind) (hd : 0 < d) :
    guardQDivInt i = .error k ↔ documented W .qDivInt [.int n, .int d, .kind c, .int i] = some k := by
  have hn : ¬ ((d:Int) ≤ 0) := by omega
  refine iff_documented ?_ k
  dsimp only [verdict]
  rw [if_neg hn]
  exact failKind_divZero i

theorem const_divisor_from_word_guard (W x : Nat) (k : Kind) (hx : x < 2 ^ W) :
    guardCdFromPrim x = .error k ↔ documented W .cdFromWord [.int x] = some k := by
  have hn : ¬ ((x:Int) < 0 ∨ (x:Int) ≥ 2 ^ W) := by
    have := natCast_not_ge_pow x W hx
    omega
  refine iff_documented ?_ k
  dsimp only [verdict]
  rw [if_neg hn]
  exact failKind_divZero_nat x

theorem const_divisor_from_dword_guard (W x : Nat) (k : Kind) (hx : x < 2 ^ (2 * W)) :
    guardCdFromPrim x = .error k ↔ documented W .cdFromDword [.int x] = some k := by
  have hn : ¬ ((x:Int) < 0 ∨ (x:Int) ≥ 2 ^ (2 * W)) := by
    have := natCast_not_ge_pow x (2 * W) hx
    omega
  refine iff_documented ?_ k
  dsimp only [verdict]
  rw [if_neg hn]
  exact failKind_divZero_nat x

/-- `x / &ConstDivisor::new(m)`, `ring.reduce(a).inv()`, `.pow(e)`: the constructor's zero test -/
theorem const_divisor_use_guard (W m : Nat) (x e : Int) (k : Kind) (he : 0 ≤ e) :
    (guardCdNew W m = .error k ↔ documented W .cdDivRem [.int x, .int m] = some k) ∧
    (guardCdNew W m = .error k ↔ documented W .mInv [.int m, .int x] = some k) ∧
    (guardCdNew W m = .error k ↔ documented W .mPow [.int m, .int x, .int e] = some k) := by
  have hn : ¬ ((m:Int) < 0) := by omega
  have hn3 : ¬ ((m:Int) < 0 ∨ e < 0) := by omega
  rw [guardCdNew_eq]
  refine ⟨iff_documented ?_ k, iff_documented ?_ k, iff_documented ?_ k⟩ <;> dsimp only [verdict]
  · rw [if_neg hn]; exact failKind_divZero_nat m
  · rw [if_neg hn]; exact failKind_divZero_nat m
  · rw [if_neg hn3]; exact failKind_divZero_nat m

/-- two `ConstDivisor` instances: DivideByZero from a constructor, else DifferentRings — never a value -/
theorem reduced_different_rings_guard (W : Nat) (f : String) (m1 m2 : Nat) (x y : Int) (k : Kind)
    (hf : f ∈ ["add", "sub", "mul", "div", "eq"]) :
    guardMDiff W m1 m2 = .error k ↔ documented W .mDiff [.fn f, .int m1, .int x, .int m2, .int y] = some k := by
  have hn : ¬ ((m1:Int) < 0 ∨ (m2:Int) < 0 ∨ ¬ (f ∈ ["add", "sub", "mul", "div", "eq"])) := by
    intro h; rcases h with h | h | h
    · omega
    · omega
    · exact h hf
  refine iff_documented ?_ k
  dsimp only [verdict]
  rw [if_neg hn, kindOf_cons, kindOf_cons]
  unfold guardMDiff
  rw [guardCdNew_eq, guardCdNew_eq]
  by_cases h1 : m1 = 0 <;> by_cases h2 : m2 = 0 <;> simp [h1, h2, bind, Except.bind, failKind]

theorem to_chunks_guard (W x kb : Nat) (k : Kind) :
    guardChunkBits kb = .error k ↔ documented W .uToChunks [.int x, .dec kb] = some k := by
  have hn : ¬ ((x:Int) < 0 ∨ (kb:Int) < 0) := by omega
  refine iff_documented ?_ k
  dsimp only [verdict]
  rw [if_neg hn]
  exact failKind_one _ _ _ (by rw [decide_eq_true_eq, Int.natCast_eq_zero])

theorem ubig_in_radix_guard (W x r : Nat) (k : Kind) :
    guardInRadix r = .error k ↔ documented W .uInRadix [.int x, .dec r] = some k := by
  have hn : ¬ ((x:Int) < 0) := by omega
  refine iff_documented ?_ k
  dsimp only [verdict]
  rw [if_neg hn]
  exact failKind_one _ _ _ (radix_test r)

-- allocation requests (64-bit words): AllocTooMuch fires iff the documentation says so
/-- `UBig::ones(n)` -/
theorem ones_alloc_guard (n : Nat) (hband : ¬ (n % 64 = 0 ∧ n / 64 = maxCapacity 64)) :
    guardRequest 64 (onesRequest 64 n) = .error .allocTooMuch ↔ documented 64 .uOnes [.dec n] = some .allocTooMuch := by
  have hn : ¬ ((n:Int) < 0) := by omega
  rw [documented_iff]
  dsimp only [verdict]
  rw [if_neg hn, Int.toNat_natCast, Option.some.injEq, alloc_atm]
  rw [maxCap64] at *
  rw [guardRequest_atm]
  unfold onesRequest
  split
  · rw [Option.getD_none]; omega
  · rw [Option.getD_some]; omega

/-- `UBig::set_bit(n)` on a value that exists (at most `MAX_CAPACITY` words) -/
theorem set_bit_alloc_guard (x n : Nat) (hx : (bitLen x + 63) / 64 ≤ maxCapacity 64) :
    guardRequest 64 (setBitRequest 64 x n) = .error .allocTooMuch ↔
      documented 64 .uSetBit [.int x, .dec n] = some .allocTooMuch := by
  have hn : ¬ ((x:Int) < 0 ∨ (n:Int) < 0) := by omega
  rw [documented_iff]
  dsimp only [verdict]
  rw [if_neg hn, Int.toNat_natCast, Int.natAbs_natCast, Option.some.injEq, alloc_atm]
  rw [maxCap64] at *
  rw [guardRequest_atm]
  unfold setBitRequest isSmall
  by_cases hs : x < 2 ^ (2 * 64)
  · have hL := bitLen_le x (2 * 64) hs
    simp only [hs, decide_true, if_true]
    split
    · rw [Option.getD_none]; omega
    · rw [Option.getD_some]; omega
  · simp only [hs, decide_false, Bool.false_eq_true, if_false]
    split
    · rw [Option.getD_none]; omega
    · rw [Option.getD_some]; omega

theorem shl_alloc_guard_partial (x n : Nat) (hx0 : x ≠ 0)
    (hband : (bitLen x + n + 63) / 64 + 2 ≤ maxCapacity 64 ∨ (bitLen x + n + 63) / 64 > maxCapacity 64) :
    guardRequest 64 (shlRequest 64 x n) = .error .allocTooMuch ↔
      documented 64 .uShl [.int x, .dec n] = some .allocTooMuch := Dashu.Proofs.Panic.shl_alloc_guard x n hx0 hband

/-- inside the band the code reports AllocTooMuch for a result that still has `≤ MAX_CAPACITY` words: `3 << (2^64-100)` -/
theorem shl_alloc_band_counterexample :
    guardRequest 64 (shlRequest 64 3 (2 ^ 64 - 100)) = .error .allocTooMuch ∧
    documented 64 .uShl [.int 3, .dec (2 ^ 64 - 100)] = some .outOfMemory := by
  constructor <;> decide

example : guardMDiff 64 7 7 = .error .differentRings := by decide
example : guardRequest 64 (shlRequest 64 1 (2 ^ 64 - 1)) = .error .allocTooMuch := by decide
example : expApprox ((5 : Int) + 7) = .returns := by decide

-- ---- the operations for which the documentation names NO panic (58 ops; the mirrored guard is `.ok ()`),
--      and the last guards that are pure predicates of the inputs

theorem parse_radix_never_panics (W : Nat) (s : List UInt8) (r : Int) (op : Op)
    (hop : op ∈ [Op.uFromStrRadix, .iFromStrRadix, .uFromStrDefault, .iFromStrDefault]) :
    documented W op [.str s, .dec r] = none := by
  simp at hop; rcases hop with h | h | h | h <;> subst h <;> no_panic

theorem parse_never_panics (W : Nat) (s : List UInt8) (op : Op)
    (hop : op ∈ [Op.uFromStrPrefix, .iFromStrPrefix, .uFromStr, .iFromStr]) :
    documented W op [.str s] = none := by
  simp at hop; rcases hop with h | h | h | h <;> subst h <;> no_panic

theorem unary_int_never_panics (W : Nat) (x : Int) (op : Op)
    (hop : op ∈ [Op.uFmt, .iFmt, .uSqrt, .uCbrt, .iCbrt, .uBitInfo, .iBitInfo, .uToPrims, .iToPrims, .uBytes,
                 .iBytes, .uTryFromI]) :
    documented W op [.int x] = none := by
  simp at hop
  rcases hop with h | h | h | h | h | h | h | h | h | h | h | h <;> subst h <;> no_panic

theorem int_index_never_panics (W : Nat) (x n : Int) (op : Op)
    (hop : op ∈ [Op.uShr, .iShr, .uClearBit, .uBit, .iBit, .uSplitBits, .uClearHighBits]) :
    documented W op [.int x, .dec n] = none := by
  simp at hop
  rcases hop with h | h | h | h | h | h | h <;> subst h <;> no_panic

theorem remove_never_panics (W : Nat) (x f : Int) : documented W .uRemove [.int x, .int f] = none := by no_panic

theorem from_ieee_never_panics (W : Nat) (b : Int) (op : Op)
    (hop : op ∈ [Op.uTryFromF64, .iTryFromF64, .uTryFromF32, .iTryFromF32, .qFromF64]) :
    documented W op [.dec b] = none := by
  simp at hop
  rcases hop with h | h | h | h | h <;> subst h <;> no_panic

theorem float_cmp_never_panics (W : Nat) (a b : FArg) : documented W .fCmp [.flt a, .flt b] = none := by no_panic

theorem float_conv_never_panics (W : Nat) (a : FArg) (op : Op)
    (hop : op ∈ [Op.fToF32, .fToF64, .fNegAbs, .fToIntTry, .fToRatio, .fFmt]) :
    documented W op [.flt a] = none := by
  simp at hop
  rcases hop with h | h | h | h | h | h <;> subst h <;> no_panic

theorem with_precision_never_panics (W : Nat) (a : FArg) (p : Int) :
    documented W .fWithPrecision [.flt a, .dec p] = none := by no_panic

theorem float_ctor_never_panics (W : Nat) (s : List UInt8) (i p b : Int) (z : FArg) :
    documented W .fParse [.str s, .flt z] = none ∧
    documented W .fFromInt [.int i, .dec p, .flt z] = none ∧
    documented W .fFromF64 [.dec b, .flt z] = none := by
  refine ⟨?_, ?_, ?_⟩ <;> no_panic

theorem ratio_parse_never_panics (W : Nat) (s : List UInt8) (r : Int) (c : Char) :
    documented W .qParse [.str s, .kind c] = none ∧
    documented W .qFromStrPrefix [.str s, .kind c] = none ∧
    documented W .qFromStrRadix [.str s, .dec r, .kind c] = none := by
  refine ⟨?_, ?_, ?_⟩ <;> no_panic

theorem ratio_unary_never_panics (W : Nat) (n d : Int) (c : Char) (op : Op)
    (hop : op ∈ [Op.qSqrCubic, .qRounding, .qToFloats, .qSign, .qFmt, .qToIntTry]) :
    documented W op [.int n, .int d, .kind c] = none := by
  simp at hop
  rcases hop with h | h | h | h | h | h <;> subst h <;> no_panic

theorem ratio_binary_never_panics (W : Nat) (n d n2 d2 : Int) (c : Char) (op : Op)
    (hop : op ∈ [Op.qAdd, .qSub, .qMul, .qCmp, .qSimplestIn]) :
    documented W op [.int n, .int d, .kind c, .int n2, .int d2] = none := by
  simp at hop
  rcases hop with h | h | h | h | h <;> subst h <;> no_panic

/-- `f.info` (`digits`, `precision`, `into_parts` …): Infinite for an infinity, nothing else -/
theorem fbig_info_guard (W : Nat) (a : FArg) (k : Kind) (hc : a.canonical) (hm : a.moderate) :
    guardFInfo a = .error k ↔ documented W .fInfo [.flt a] = some k := by
  refine iff_documented ?_ k
  dsimp only [verdict]
  rw [if_neg (by simpa using hc), if_neg (by simpa using hm)]
  doc_form
  exact failKind_test _ _

/-- `Reduced` operators in one ring (modulus ≠ 1; `inv()` at its specification: `Some` iff coprime) -/
theorem reduced_same_ring_guard (W : Nat) (f : String) (m : Nat) (x b : Int) (k : Kind)
    (hf : f ∈ ["add", "sub", "mul", "div", "eq"]) (hm : m ≠ 1) :
    guardMSame W f m b = .error k ↔ documented W .mSame [.fn f, .int m, .int x, .int b] = some k :=
  guardMSame_iff W f m x b k hf hm

/-- `from_chunks`: the zero-`chunk_bits` assertion (the allocation part is the recorded sizing finding) -/
theorem from_chunks_zero_guard (W : Nat) (cs : List Arg) (l : List Int) (hl : allInts cs = some l)
    (hpos : ¬ l.any (· < 0)) (k : Kind) :
    guardFromChunks 0 = .error k ↔ documented W .uFromChunks (.dec 0 :: cs) = some k := by
  refine iff_documented ?_ k
  dsimp only [verdict]
  rw [hl]
  have hn : ¬ ((0:Int) < 0 ∨ l.any (· < 0) = true) := by
    simp only [Int.lt_irrefl, false_or]
    exact hpos
  simp only [if_neg hn]
  rfl

/-- `IBig << n`: the same request as for the magnitude -/
theorem ishl_alloc_guard_partial (x : Int) (n : Nat) (hx0 : x ≠ 0)
    (hband : (bitLen x.natAbs + n + 63) / 64 + 2 ≤ maxCapacity 64 ∨ (bitLen x.natAbs + n + 63) / 64 > maxCapacity 64) :
    guardRequest 64 (shlRequest 64 x.natAbs n) = .error .allocTooMuch ↔
      documented 64 .iShl [.int x, .dec n] = some .allocTooMuch := by
  have hu := shl_alloc_guard x.natAbs n (by omega) hband
  rw [hu]
  rw [documented_iff, documented_iff]
  dsimp only [verdict]
  have h1 : ¬ (((x.natAbs:Nat):Int) < 0 ∨ (n:Int) < 0) := by omega
  have h2 : ¬ ((n:Int) < 0) := by omega
  have h3 : ¬ (((x.natAbs:Nat):Int) = 0) := by omega
  rw [if_neg h1, if_neg h2, if_neg h3, if_neg hx0, Int.natAbs_natCast]

/- FULL (false, `fbig_from_parts_guard_counterexample`): `Repr::new` adds the trailing-zero count to the exponent unchecked. -/
/-- `from_parts`: there is no guard; the documentation promises an overflow panic when the normalised exponent
    leaves `isize` — equivalence only where it does not (recorded finding float_exponent_unchecked) -/
theorem fbig_from_parts_guard_partial (W : Nat) (s e : Int) (z : FArg) (k : Kind) (hz : z.canonical)
    (he : isizeMin ≤ e ∧ e ≤ isizeMax)
    (hexp : s ≠ 0 → expExact (e + (FArg.trailingZeros z.base s.natAbs : Int)) = .returns) :
    guardFFromParts = .error k ↔ documented W .fFromParts [.int s, .dec e, .flt z] = some k := by
  have hn : ¬ (¬ z.canonical = true ∨ e < isizeMin ∨ e > isizeMax) := by
    simp only [hz, not_true_eq_false, false_or]
    omega
  refine iff_documented ?_ k
  dsimp only [verdict]
  rw [if_neg hn]
  unfold guardFFromParts
  by_cases h0 : s = 0
  · simp [h0, failKind, kindOf]
  · simp [h0, hexp h0, failKind, kindOf]

theorem fbig_from_parts_guard_counterexample :
    guardFFromParts = .ok () ∧
    documented 64 .fFromParts [.int 2, .dec (2 ^ 63 - 1), .flt ⟨2, 0, 0, 1, 'Z'⟩] = some .exponentOverflow := by
  constructor <;> decide

-- non-vacuity: every hypothesis of the guard theorems instantiated on a concrete non-trivial value
example : guardMSame 64 "div" 12 3 = .error .nonInvertible ∧ (12 : Nat) ≠ 1 := by decide
example : guardMSame 64 "div" ((2 ^ 64 + 13 : Nat)) 6 = .ok () := by decide
example : allInts [.int 1, .int 0, .int 255] = some [1, 0, 255] ∧ ¬ ([1, 0, 255] : List Int).any (· < 0) := by decide
example : guardFInfo ⟨10, 0, -1, 5, 'H'⟩ = .error .infinite ∧ (⟨10, 0, -1, 5, 'H'⟩ : FArg).canonical = true := by decide
example : expExact ((5 : Int) + (FArg.trailingZeros 10 3000 : Int)) = .returns := by decide
example : (bitLen (3 : Int).natAbs + 1000 + 63) / 64 + 2 ≤ maxCapacity 64 := by decide
example : expApprox (2 * (30 : Int)) = .returns ∧ expApprox (3 * (-400 : Int)) = .returns := by decide
example : (⟨2, 1, 40, 10, 'Z'⟩ : FArg).magAtLeastPow2 66 = false ∧ (⟨2, 1, 40, 10, 'Z'⟩ : FArg).magAtMostPow2 61 = true := by
  decide
example : (⟨2, 12345, -2, 14, 'Z'⟩ : FArg).signif.natAbs = 1 → expApprox ((-2 : Int) * 100) = .returns := by decide
example : isizeMin ≤ (1000 : Int) ∧ (1000 : Int) ≤ isizeMax ∧ expExact ((30 : Int) + 1000) = .returns := by decide
example : (⟨2, 1, 0, 4, 'Z'⟩ : FArg).base = 2 → ((⟨2, 1, 0, 4, 'Z'⟩ : FArg).prec = 0 ∨ 4 ≤ (⟨2, 1, 0, 4, 'Z'⟩ : FArg).prec) := by
  decide
example : (5 : Nat) < 2 ^ (2 * 64) ∧ (0 : Nat) < 2 ^ 64 := by decide
example : ¬ ((1000 : Nat) % 64 = 0 ∧ 1000 / 64 = maxCapacity 64) := by decide
example : (bitLen (2 ^ 200) + 63) / 64 ≤ maxCapacity 64 := by decide

-- non-vacuity of the float hypotheses: −∞ / 12345·2^-2 at precision 0 is a canonical, moderate pair and the
-- guard fails with Infinite; 3/0 at precision 5 fails with DivideByZero
example : guardFDiv 64 ⟨2, 0, -1, 0, 'Z'⟩ ⟨2, 12345, -2, 0, 'Z'⟩ = .error .infinite := by decide
example : guardFDiv 64 ⟨2, 3, 0, 5, 'Z'⟩ ⟨2, 0, 0, 5, 'Z'⟩ = .error .divideByZero := by decide
example : (⟨2, 12345, -2, 0, 'Z'⟩ : FArg).canonical = true ∧ (⟨2, 12345, -2, 0, 'Z'⟩ : FArg).moderate = true := by
  decide
example : guardUSub 64 (2 ^ 130) (2 ^ 130 + 1) = .error .negativeUBig := by decide
example : guardIlog 64 0 (2 ^ 64) = .error .logInvalid := by decide

-- ------------------------------------------------------------------ (3) termination

/-- `RBig::farey_neighbors(x, limit)`, `limit ≥ 1`: at most `limit` iterations -/
theorem farey_terminates (x : Fr) (limit : Nat) (hl : 1 ≤ limit) :
    ∃ fuel, fuel ≤ limit ∧ fareyNeighbors x limit fuel ≠ none := by
  refine ⟨(limit - 1) + 1, by omega, ?_⟩
  unfold fareyNeighbors
  apply fareyLoop_terminates x limit (limit - 1) _ _ (fareyStart_inv x)
  have : (fareyStart x).1.den + (fareyStart x).2.den = 2 := by
    unfold fareyStart; split <;> rfl
  omega

/-- … and not fewer on `1/(limit+1)`: the walk is LINEAR in `limit` (the finding: `next_up(2^64)` does not return
    in any reasonable time) -/
theorem farey_needs_limit_steps (L fuel : Nat) (h : fuel < L) :
    fareyNeighbors ⟨1, L + 1⟩ L fuel = none := by
  unfold fareyNeighbors fareyStart
  simp only [show ¬ ((1:Int) < 0) by decide, if_false]
  exact farey_walk_linear L fuel 0 (by omega)

example : fareyNeighbors ⟨1, 11⟩ 10 10 = some (⟨0, 1⟩, ⟨1, 10⟩) := by decide
example : fareyNeighbors ⟨1, 11⟩ 10 9 = none := by decide

/-- `ln` of a positive number: after scaling `1 ≤ x ≤ 2` the series loop stops; `N + 1` iterations suffice when
    `z ≤ 9^(N+1)·eps` — logarithmic in `1/eps` -/
theorem ln_positive_terminates (x eps : Rat) (h1 : 1 ≤ x) (h2 : x ≤ 2) (he : 0 < eps) (N : Nat)
    (hN : (x - 1) / (x + 1) ≤ 9 ^ (N + 1) * eps) : lnSeries x eps (N + 1) ≠ none := by
  unfold lnSeries
  have hx1 : 0 < x + 1 := by linarith
  have hz0 : 0 ≤ (x - 1) / (x + 1) := div_nonneg (by linarith) (by linarith)
  have hz3 : (x - 1) / (x + 1) ≤ 1 / 3 := by
    rw [div_le_div_iff₀ hx1 (by norm_num)]; linarith
  apply lnLoop_terminates _ eps (mul_nonneg hz0 hz0) _ he N _ _ 3 hz0 (by omega) hN
  calc (x - 1) / (x + 1) * ((x - 1) / (x + 1)) ≤ 1 / 3 * (1 / 3) := mul_le_mul hz3 hz3 hz0 (by norm_num)
    _ = 1 / 9 := by norm_num

/-- AS-IS COUNTEREXAMPLE for the code before fix b0e87a3 (kept: it shows the guard `fbig_ln_guard` is NECESSARY):
    the series loop entered with a negative number (scaled into `[-2, -1)` by the same scaling code) never satisfies
    its stopping test.  Since b0e87a3 `ln_internal` panics before the loop for `x ≤ 0` (`fbig_ln_guard`), so the loop
    is only entered under the hypothesis of `ln_positive_terminates`. -/
theorem ln_negative_never_terminates (x eps : Rat) (h1 : -2 ≤ x) (h2 : x < -1) (he : eps < 1) :
    ∀ fuel, lnSeries x eps fuel = none := lnSeries_diverges x eps h1 h2 he

-- ---- further loops (Dashu.Model.Panic.Loops2), each under the condition the code establishes

/-- `exp_internal`: the argument is reduced to `|r| ≤ 1/2` before the Maclaurin loop, which then stops after
    logarithmically many iterations in `1/eps` -/
theorem exp_series_terminates (r eps : Rat) (hr : |r| ≤ 1 / 2) (he : 0 < eps) (N : Nat)
    (hN : |r| ≤ 2 ^ (N + 1) * eps) : expSeries r eps (N + 1) ≠ none := by
  unfold expSeries
  exact expLoop_terminates r eps hr he N 1 r _ 2 (by norm_num) (by omega) (by simpa using hN)

/-- `iacoth(n)`, `n ≥ 2` (called with 6, 99, 26, 4801, 8749 for ln 2 and ln 10) -/
theorem iacoth_series_terminates (n : Nat) (hn : 2 ≤ n) (eps : Rat) (he : 0 < eps) (N : Nat)
    (hN : 1 / (n : Rat) < 4 ^ (N + 1) * eps) : iacothSeries n eps (N + 1) ≠ none := by
  unfold iacothSeries
  have hn' : (2 : Rat) ≤ (n : Rat) := by exact_mod_cast hn
  have hpos : (0 : Rat) < (n : Rat) := by linarith
  have hinv0 : (0 : Rat) ≤ 1 / (n : Rat) := by positivity
  have hinv : 1 / (n : Rat) ≤ 1 / 2 := by
    rw [div_le_div_iff₀ hpos (by norm_num)]; linarith
  apply iacothLoop_terminates _ eps (mul_nonneg hinv0 hinv0) _ he N _ _ 3 hinv0 (by omega) hN
  calc 1 / (n : Rat) * (1 / (n : Rat)) ≤ 1 / 2 * (1 / 2) := mul_le_mul hinv hinv hinv0 (by norm_num)
    _ = 1 / 4 := by norm_num

/-- the estimate-fixing loops of integer `log` return from every positive estimate (base ≥ 2) -/
theorem ilog_fix_returns (target base : Nat) (ovf : Option Nat) (hb : 2 ≤ base) (est estPow : Nat) (hp : 0 < estPow) :
    ∃ fuel, logFixLoop target base ovf fuel est estPow ≠ none := by
  refine ⟨target + 1, logFixLoop_terminates target base ovf hb target est estPow hp ?_⟩
  have h1 : target < base ^ target := Nat.lt_pow_self (by omega)
  calc target < base ^ target := h1
    _ ≤ estPow * base ^ target := Nat.le_mul_of_pos_left _ hp

/-- `UBig::remove`, first stage: at most `bit_len(self)` divisions -/
theorem remove_returns (q factor : Nat) (hq : 0 < q) (hf : 2 ≤ factor) :
    ∃ fuel, fuel ≤ Nat.log2 q + 1 ∧ removeUpLoop fuel q 1 [factor * factor] ≠ none := by
  refine ⟨Nat.log2 q + 1, Nat.le_refl _, ?_⟩
  apply removeUpLoop_terminates _ q 1 _ hq (Nat.lt_log2_self)
  intro p hp
  simp at hp
  subst hp
  exact two_le_sq factor hf

/-- the bit loop of integer `pow` and float `powi`: exactly `bit_len(exp) - 1` rounds -/
theorem pow_bit_loop_terminates (exp p : Nat) (acc : Nat × Nat) : powBitLoop exp (p + 1) p acc ≠ none :=
  powBitLoop_terminates exp p acc

example : expSeries (1 / 3) (1 / 1000) 9 ≠ none := exp_series_terminates (1 / 3) (1 / 1000) (by norm_num [abs_of_pos]) (by norm_num) 8 (by norm_num [abs_of_pos])
example : iacothSeries 6 (1 / 1000) 4 ≠ none := iacoth_series_terminates 6 (by decide) (1 / 1000) (by norm_num) 3 (by norm_num)
example : logFixLoop 1000 3 none 8 2 9 = some (6, 729) := by decide
example : removeUpLoop 5 (3 ^ 7 * 5) 1 [9] = some (15, 7, [6561, 81, 9]) := by decide
example : powBitLoop 13 3 2 (0, 0) = some (2, 2) := by decide

-- ------------------------------------------------------------------ (4) the float parser's slicing

/-- cutting a well-formed UTF-8 string right before / right after an ASCII byte is always at a char boundary -/
theorem ascii_cuts_safe (bs : List UInt8) (h : Utf8 bs) (p : Nat) (b : UInt8)
    (hb : bs[p]? = some b) (hlt : b.toNat < 128) : isCharBoundary bs p ∧ isCharBoundary bs (p + 1) :=
  ascii_cuts_are_boundaries bs h p b hb hlt

/-- all offsets `from_str_native` slices at (around the last scale marker, around the first `.`, after `0x`) -/
theorem float_parser_cuts_safe (bs : List UInt8) (h : Utf8 bs) : ∀ i ∈ parserCuts bs, isCharBoundary bs i := by
  intro i hi
  unfold parserCuts at hi
  simp only [List.mem_append] at hi
  rcases hi with (hi | hi) | hi
  · cases hd : findFrom isDot bs 0 with
    | none => simp [hd] at hi
    | some d =>
      obtain ⟨_, b, hb, hp⟩ := findFrom_spec isDot bs 0 d hd
      have hcut := ascii_cuts_are_boundaries bs h d b (by simpa using hb) (dot_ascii b hp)
      simp [hd] at hi
      rcases hi with rfl | rfl
      · exact hcut.1
      · exact hcut.2
  · cases hm : rfindFrom isMarker bs 0 none with
    | none => simp [hm] at hi
    | some m =>
      rcases rfindFrom_spec isMarker bs 0 none m hm with h0 | ⟨_, b, hb, hp⟩
      · simp at h0
      · have hcut := ascii_cuts_are_boundaries bs h m b (by simpa using hb) (marker_ascii b hp)
        simp [hm] at hi
        rcases hi with rfl | rfl
        · exact hcut.1
        · exact hcut.2
  · by_cases hx : bs[0]? = some 48 ∧ (bs[1]? = some 120 ∨ bs[1]? = some 88)
    · simp [hx] at hi
      subst hi
      rcases hx.2 with h1 | h1
      · exact (ascii_cuts_are_boundaries bs h 1 120 h1 (by decide)).2
      · exact (ascii_cuts_are_boundaries bs h 1 88 h1 (by decide)).2
    · simp [hx] at hi

-- "1é.5e3": the cuts are 3,4 (around '.') and 5,6 (around 'e'); offset 2 (inside é = C3 A9) is not among them
example : parserCuts [49, 0xC3, 0xA9, 46, 53, 101, 51] = [3, 4, 5, 6] := by decide

-- ------------------------------------------------------------------ (5) size reservations, bare assert, folds
-- The reservations of pow / from_chunks are UPPER BOUNDS of the result size.  What holds for all arguments is
--   (S1) documented AllocTooMuch → the reservation is refused with AllocTooMuch   (prompt panic of the right kind)
--   (S2) reservation refused     → the documentation does not say `returns`      (no result that fits is refused)
-- and the driver checks exactly these two implications per case (`sizeConsistent`).
/- FULL STATEMENT (false for the current code, see the counterexamples below):
     guardPow W x e = some (.error .allocTooMuch) ↔ documented W .uPow [.int x, .dec e] = some .allocTooMuch
   for every x: it fails in the band between the reservation and the result size for 1- and 2-word bases (the kinds
   differ: AllocTooMuch instead of OutOfMemory) and a base of ≥ 3 words has no reservation at all. -/

/-- `math::max_exp_in_word(base) = (k, base^k)`, `base^k ≤ Word::MAX`, `k ≥ 1` — for every word size -/
theorem max_exp_in_word_spec (W base : Nat) (hb : 2 ≤ base) (hW : base < 2 ^ W) :
    (maxExpInWord W base).2 = base ^ (maxExpInWord W base).1 ∧ (maxExpInWord W base).2 < 2 ^ W ∧
    1 ≤ (maxExpInWord W base).1 := maxExpInWord_spec W base hb hW

/-- (S1) `pow_word_base`: an odd one-word base `b ≥ 3`, `e > 2`.  If the documentation says AllocTooMuch (even the lower
    bound `(L−1)·e + 1` bits of the result needs more than MAX_CAPACITY words) the reservation `e / wexp + 1` is refused. -/
theorem pow_word_reservation_sound_partial (b e : Nat) (hb3 : 3 ≤ b) (hbW : b < 2 ^ 64) (hodd : b % 2 = 1) (he : 2 < e)
    (hdoc : documented 64 .uPow [.int b, .dec e] = some .allocTooMuch) :
    guardPowOdd 64 b e = .error .allocTooMuch := by
  have hc := (pow_odd_doc b e hb3 hodd he).1 hdoc
  have hL := bitLen_ge b 1 (by omega)
  have hspec := maxExpInWord_spec 64 b (by omega) hbW
  have hkw := maxExp_mul_lt 64 b (by omega) hbW
  have hreq := word_request_exceeds (bitLen b - 1) (maxExpInWord 64 b).1 e (by omega) hspec.2.2 hkw hc
  rw [guardPowOdd_atm b e hodd _ (typedPowRequest_word b e hb3 hbW he)]
  unfold powWordRequest
  exact ⟨_, if_neg hreq.1, hreq.2⟩

/-- (S2) a refused `pow_word_base` reservation never belongs to a call the documentation says returns -/
theorem pow_word_refused_not_returns (b e : Nat) (hb3 : 3 ≤ b) (hbW : b < 2 ^ 64) (hodd : b % 2 = 1) (he : 2 < e)
    (hg : guardPowOdd 64 b e = .error .allocTooMuch) : verdict 64 .uPow [.int b, .dec e] ≠ some .returns := by
  intro hr
  have hlo := (pow_odd_doc b e hb3 hodd he).2 hr
  rw [guardPowOdd_atm b e hodd _ (typedPowRequest_word b e hb3 hbW he)] at hg
  obtain ⟨n, hn, hgt⟩ := hg
  unfold powWordRequest at hn
  dsimp only at hn
  split at hn
  · cases hn
  · cases hn
    -- the request is at most `e + 1`, and `e ≤ (L−1)·e` is small
    have hdiv : e / (maxExpInWord 64 b).1 ≤ e := Nat.div_le_self _ _
    have hL := bitLen_ge b 1 (by omega)
    have hmul : 1 * e ≤ (bitLen b - 1) * e := Nat.mul_le_mul_right _ (by omega)
    omega

/-- (S1) `pow_dword_base`: an odd two-word base, `e > 2`: documented AllocTooMuch ⇒ the reservation `2·e` is refused -/
theorem pow_dword_reservation_sound_partial (b e : Nat) (hlo : 2 ^ 64 ≤ b) (hhi : b < 2 ^ 128) (hodd : b % 2 = 1)
    (he : 2 < e) (hdoc : documented 64 .uPow [.int b, .dec e] = some .allocTooMuch) :
    guardPowOdd 64 b e = .error .allocTooMuch := by
  have hc := (pow_odd_doc b e (by omega) hodd he).1 hdoc
  have hL : bitLen b ≤ 128 := bitLen_le b 128 hhi
  have hmul : (bitLen b - 1) * e ≤ 127 * e := Nat.mul_le_mul_right _ (by omega)
  rw [guardPowOdd_atm b e hodd _ (typedPowRequest_dword b e hlo hhi he)]
  exact ⟨_, rfl, by omega⟩

/-- (S2) for the double-word base -/
theorem pow_dword_refused_not_returns (b e : Nat) (hlo : 2 ^ 64 ≤ b) (hhi : b < 2 ^ 128) (hodd : b % 2 = 1)
    (he : 2 < e) (hg : guardPowOdd 64 b e = .error .allocTooMuch) :
    verdict 64 .uPow [.int b, .dec e] ≠ some .returns := by
  intro hr
  have hlo' := (pow_odd_doc b e (by omega) hodd he).2 hr
  rw [guardPowOdd_atm b e hodd _ (typedPowRequest_dword b e hlo hhi he)] at hg
  obtain ⟨n, hn, hgt⟩ := hg
  cases hn
  have hL := bitLen_ge b 64 hlo
  have hmul : 64 * e ≤ (bitLen b - 1) * e := Nat.mul_le_mul_right _ (by omega)
  omega

/-- the converse of (S1) FAILS for the double-word base (recorded finding pow_dword_estimate): `(2^64+1)^(2^57)` has
    2^57 words (out of memory, but addressable) and the reservation of `2·exp` words is refused as AllocTooMuch -/
theorem pow_dword_band_counterexample :
    guardPowOdd 64 (2 ^ 64 + 1) (2 ^ 57) = .error .allocTooMuch ∧
    documented 64 .uPow [.int (2 ^ 64 + 1), .dec (2 ^ 57)] = some .outOfMemory := by
  constructor <;> decide +kernel

/-- a base of ≥ 3 words has NO reservation (recorded finding pow_large_base_no_precheck): `(2^200+1)^(2^57)` cannot
    exist (documented AllocTooMuch) and the code starts squaring -/
theorem pow_large_no_reservation_counterexample :
    guardPowOdd 64 (2 ^ 200 + 1) (2 ^ 57) = .ok () ∧ guardPow 64 (2 ^ 200 + 1) (2 ^ 57) = none ∧
    documented 64 .uPow [.int (2 ^ 200 + 1), .dec (2 ^ 57)] = some .allocTooMuch := by
  refine ⟨?_, ?_, ?_⟩ <;> decide +kernel

/-- a power of two: full equivalence (the `1 << n` request is exact) -/
theorem pow_two_reservation_guard (x e : Nat) (hx : 1 < x) (hodd : x >>> tz2 x = 1) (he : 2 ≤ e) :
    guardPowTwoShift 64 (tz2 x) e = .error .allocTooMuch ↔
      documented 64 .uPow [.int x, .dec e] = some .allocTooMuch := by
  rw [documented_iff, verdict_uPow, Option.some.injEq]
  have hm : ¬ (x ≤ 1 ∨ e ≤ 1) := by omega
  unfold powVerdict
  simp only [hm, hodd, if_false, if_true]
  rw [alloc_atm, maxCap64]
  unfold guardPowTwoShift shlRequest isSmall
  have hu : usizeMax = 18446744073709551615 := by decide
  have hb1 : bitLen 1 = 1 := by decide
  rw [Nat.mul_comm (tz2 x) e, hu, hb1]
  generalize e * tz2 x = n
  by_cases h1 : n > 18446744073709551615
  · simp only [h1, if_true, true_iff]; omega
  · simp only [h1, if_false]
    have hs : (1:Nat) < 2 ^ (2 * 64) := by decide
    simp only [hs, decide_true, if_true]
    by_cases h2 : 1 + n ≤ 2 * 64
    · simp only [h2, if_true, guardRequest]
      constructor
      · intro h; cases h
      · intro h; omega
    · simp only [h2, if_false, guardRequest]
      rw [guardAllocWords_atm, maxCap64]
      omega

/-- (S1) `from_chunks`: when the unchecked size arithmetic stays inside `usize`, a result the documentation calls
    AllocTooMuch is refused by `Buffer::allocate(result_len)` -/
theorem from_chunks_reservation_sound_partial (k : Nat) (l : List Nat) (hk : k ≠ 0) (hl : l ≠ [])
    (hfit : ¬ (fromChunksLen 64 k l > usizeMax))
    (hdoc : documented 64 .uFromChunks (.dec k :: l.map (fun (c : Nat) => Arg.int (c : Int))) = some .allocTooMuch) :
    guardFromChunksSize 64 k l = some (.error .allocTooMuch) := by
  rw [documented_iff, verdict_uFromChunks 64 k l hk, Option.some.injEq, alloc_atm, maxCap64] at hdoc
  have := fromChunks_words_le k l hl
  unfold guardFromChunksSize
  simp only [hk, hl, hfit, if_false, Option.some.injEq]
  rw [guardAllocWords_atm, maxCap64]
  omega

/-- (S2) a refused `from_chunks` reservation (chunks of at most 2^32 words) is never a call documented to return -/
theorem from_chunks_refused_not_returns (k : Nat) (l : List Nat) (hk : k ≠ 0) (hl : l ≠ [])
    (hsmall : (l.map (wordLen 64)).foldl max 0 ≤ 2 ^ 32)
    (hg : guardFromChunksSize 64 k l = some (.error .allocTooMuch)) :
    verdict 64 .uFromChunks (.dec k :: l.map (fun (c : Nat) => Arg.int (c : Int))) ≠ some .returns := by
  rw [verdict_uFromChunks 64 k l hk]
  intro hr
  rw [Option.some.injEq] at hr
  have hlo := alloc_returns _ _ hr
  have hne : l.map (fun (c : Nat) => (c : Int)) ≠ [] := by simpa using hl
  have hge := (chunksBits_bounds k 0 (l.map (fun (c : Nat) => (c : Int))) 0 hne).1
  rw [List.length_map, Nat.zero_add] at hge
  unfold guardFromChunksSize at hg
  simp only [hk, hl, if_false] at hg
  split at hg
  · cases hg
  · rw [Option.some.injEq, guardAllocWords_atm, maxCap64] at hg
    unfold fromChunksLen at hg
    rw [Nat.mul_comm (l.length - 1) k] at hg
    have : memLoBits = 1073741824 := by decide
    generalize k * (l.length - 1) = X at *
    generalize (l.map (wordLen 64)).foldl max 0 = Y at *
    omega

/-- the converse of (S1) FAILS (recorded finding from_chunks_size_arithmetic): two chunks `[0, 1]` of 2^58 bits give a
    result of 2^58 + 1 bits = 2^52 words (out of memory, addressable) while `result_len` counts 2^58 + 2 WORDS -/
theorem from_chunks_overallocation_counterexample :
    guardFromChunksSize 64 (2 ^ 58) [0, 1] = some (.error .allocTooMuch) ∧
    documented 64 .uFromChunks [.dec (2 ^ 58), .int 0, .int 1] = some .outOfMemory := by
  constructor <;> decide +kernel

/-- and for `chunk_bits` near `usize::MAX` the arithmetic itself leaves `usize` (no guard value: debug builds panic
    with an arithmetic overflow, release builds wrap) although the documentation says AllocTooMuch -/
theorem from_chunks_arithmetic_unchecked_counterexample :
    guardFromChunksSize 64 (2 ^ 64 - 1) [1, 0, 255] = none ∧
    documented 64 .uFromChunks [.dec (2 ^ 64 - 1), .int 1, .int 0, .int 255] = some .allocTooMuch := by
  constructor <;> decide +kernel

/-- `Context::powi`: the working precisions `precision + guard_bits` / `precision + guard_digits` (mirrored in
    `fPowiPrecisionFits`, regenerated text: `C16Gen.powi_precision_is_generated`) stay inside `usize` for every exponent when the
    context precision is 192 + bit_len(exp) below `usize::MAX` … -/
theorem fbig_powi_precision_fits (p : Nat) (e : Int) (h : p + bitLen e.natAbs + 192 ≤ usizeMax) :
    fPowiPrecisionFits p e = true := by
  have hu : usizeMax = 2 ^ 64 - 1 := rfl
  have hp : bitLen p ≤ 64 := bitLen_le p 64 (by omega)
  have hr : fPowiRevPrecision p ≤ p + 128 := by unfold fPowiRevPrecision; omega
  have hrb : bitLen (fPowiRevPrecision p) ≤ 64 := bitLen_le _ 64 (by omega)
  unfold fPowiPrecisionFits
  by_cases h0 : p = 0
  · simp [h0]
  · by_cases hneg : e < 0
    · have h1 : fPowiRevPrecision p ≤ usizeMax := by omega
      have h2 : fPowiWorkPrecision (fPowiRevPrecision p) e.natAbs ≤ usizeMax := by
        unfold fPowiWorkPrecision; omega
      simp [h0, hneg, h1, h2]
    · have h2 : fPowiWorkPrecision p e.natAbs ≤ usizeMax := by unfold fPowiWorkPrecision; omega
      simp [h0, hneg, h2]

/-- … and NOT for every valid precision (finding float_precision_usize_overflow, the part fix 5768014 left): 3^5 at precision
    `usize::MAX` — no panic documented — needs `usize::MAX + 67`; the boundary for exponent 5 is `usize::MAX − 66 / − 67`
    (the corpus witnesses); a negative exponent already fails at `usize::MAX − 115` (line 127: + 128) -/
theorem fbig_powi_precision_counterexample :
    fPowiPrecisionFits usizeMax 5 = false ∧ fPowiPrecisionFits (usizeMax - 66) 5 = false ∧
    fPowiPrecisionFits (usizeMax - 67) 5 = true ∧ fPowiPrecisionFits (usizeMax - 115) (-5) = false ∧
    fPowiRevPrecision (usizeMax - 127) = usizeMax + 1 ∧      -- release: wraps to exactly 0 = "unlimited" ⇒ UnlimitedPrecision
    documented 64 .fPowi [.flt ⟨2, 3, 0, usizeMax, 'Z'⟩, .int 5] = none := by decide +kernel

example : fPowiPrecisionFits 100 (-(2 ^ 64 : Int)) = true := fbig_powi_precision_fits 100 _ (by decide +kernel)

/-- `RBig/Relaxed::to_float(0)`: the bare assert stops the call exactly where UnlimitedPrecision is documented -/
theorem rbig_to_float_assert_guard (W : Nat) (n d : Int) (c : Char) (p : Nat) (hd : 0 < d) :
    qToFloatAssertFails p = true ↔
      documented W .qToFloat [.int n, .int d, .kind c, .dec p] = some .unlimitedPrecision := by
  have hn : ¬ (d ≤ 0 ∨ (p:Int) < 0) := by omega
  rw [documented_iff]
  dsimp only [verdict]
  rw [if_neg hn]
  unfold qToFloatAssertFails
  by_cases hp : (p:Int) > 2 ^ 20
  · simp only [hp, if_true]
    constructor
    · intro h; simp at h; omega
    · intro h; cases h
  · simp only [hp, if_false, Option.some.injEq, firstOf_one]
    simp

/-- the same for the one-base op, for EVERY precision (`q.to_float_b`) -/
theorem rbig_to_float_b_assert_guard (W : Nat) (n d : Int) (c : Char) (p : Nat) (b : Int) (hd : 0 < d) (hb : b = 2 ∨ b = 10) :
    qToFloatAssertFails p = true ↔
      documented W .qToFloatB [.int n, .int d, .kind c, .dec p, .dec b] = some .unlimitedPrecision := by
  have hn : ¬ (d ≤ 0 ∨ (p:Int) < 0 ∨ ¬ (b = 2 ∨ b = 10)) := by omega
  rw [documented_iff]
  dsimp only [verdict]
  rw [if_neg hn]
  unfold qToFloatAssertFails
  by_cases hp : (p:Int) = 0
  · simp only [hp, if_true]; simp; omega
  · simp only [hp, if_false]
    have hp' : ¬ (p = 0) := by omega
    simp only [hp', decide_false, Bool.false_eq_true, false_iff]
    intro h
    split at h
    · cases h
    · split at h
      · cases h
      · rw [Option.some.injEq] at h
        unfold allocRange at h
        split at h
        · rename_i he
          unfold alloc at h
          split at h
          · cases h
          · split at h
            · cases h
            · split at h <;> cases h
        · cases h

/-- `Sum` for FBig: the fold stops with Infinite at the first infinite element IFF the documentation says so -/
theorem fbig_sum_guard (W : Nat) (l : List FArg) (k : Kind) (hok : fListOk l = true)
    (hsmall : l.all (fun a => a.isInf ∨ (a.exp.natAbs ≤ 2 ^ 20)) = true) :
    guardFFold l = .error k ↔ documented W .fSum (l.map Arg.flt) = some k := by
  refine iff_documented ?_ k
  -- `verdict` takes the operands off the list; a call without operands is not one (`hok`)
  cases l with
  | nil => cases hok
  | cons a r =>
    dsimp only [verdict]
    rw [allFlts_map]
    simp only [hok, hsmall, not_true_eq_false, if_false]
    rw [kindOf_cons, kindOf_nil]
    exact failKind_guardFFold _

/-- `Product` for FBig, short lists of small exponents (no exponent overflow possible) -/
theorem fbig_product_guard (W : Nat) (l : List FArg) (k : Kind) (hok : fListOk l = true)
    (hsmall : (l.length ≤ 2 ^ 10 ∧ l.all (fun a => a.isInf ∨ (a.exp.natAbs ≤ 2 ^ 40)) = true)) :
    guardFFold l = .error k ↔ documented W .fProduct (l.map Arg.flt) = some k := by
  refine iff_documented ?_ k
  cases l with
  | nil => cases hok
  | cons a r =>
    dsimp only [verdict]
    rw [allFlts_map]
    simp only [hok, hsmall, and_self, not_true_eq_false, if_false]
    rw [kindOf_cons, kindOf_nil]
    exact failKind_guardFFold _

/-- integer `Sum` / `Product` and the `Hash` impls: the documentation names no panic, for all argument lists -/
theorem int_fold_never_panics (W : Nat) (cs : List Arg) (op : Op)
    (hop : op ∈ [Op.uSum, .iSum, .uProduct, .iProduct]) : documented W op cs = none := by
  simp at hop
  rcases hop with h | h | h | h <;> subst h <;> rw [documented_eq] <;> dsimp only [verdict] <;>
    cases allInts cs <;> simp only [Option.map, kindOf_ite, kindOf_some_ite, kindOf_returns, kindOf_unspecified, kindOf_none, ite_self]

theorem hash_never_panics (W : Nat) (x n d : Int) (c : Char) :
    documented W .uHash [.int x] = none ∧ documented W .iHash [.int x] = none ∧
    documented W .qHash [.int n, .int d, .kind c] = none := by
  refine ⟨?_, ?_, ?_⟩ <;> no_panic

-- non-vacuity of the hypotheses
example : documented 64 .uPow [.int 3, .dec (2 ^ 64 - 1)] = some .allocTooMuch := by decide +kernel
example : guardPowOdd 64 3 (2 ^ 64 - 1) = .error .allocTooMuch := by decide +kernel
example : documented 64 .uPow [.int (2 ^ 64 + 1), .dec (2 ^ 63)] = some .allocTooMuch := by decide +kernel
example : (2 ^ 10) >>> tz2 (2 ^ 10) = 1 ∧ tz2 (2 ^ 10) = 10 := by decide
example : guardPowTwoShift 64 10 (2 ^ 62) = .error .allocTooMuch := by decide
example : maxExpInWord 64 3 = (40, 3 ^ 40) ∧ maxExpInWord 64 10 = (19, 10 ^ 19) ∧ maxExpInWord 64 (2 ^ 32 + 1) = (1, 2 ^ 32 + 1) := by
  decide +kernel
example : documented 64 .uFromChunks (.dec (2 ^ 64 - 64) :: [0, 1].map (fun (c : Nat) => Arg.int (c : Int))) = some .allocTooMuch ∧
    ¬ (fromChunksLen 64 (2 ^ 64 - 64) [0, 1] > usizeMax) := by decide +kernel
example : guardFFold [⟨2, 3, 0, 5, 'Z'⟩, ⟨2, 0, 1, 0, 'Z'⟩] = .error .infinite := by decide
example : fListOk [⟨2, 3, 0, 5, 'Z'⟩, ⟨2, 0, 1, 0, 'Z'⟩] = true := by decide +kernel

-- ------------------------------------------------------------------ `Reduced::inv`: the guard against C13's modelled `inv`

/-- LINK to C13 (by import of `Props/C13.inv_spec`, `div_spec`): the `NonInvertible` guard of `Reduced ÷ Reduced`, which this
    property took at the SPECIFICATION of `inv()` ("Some iff gcd(residue, modulus) = 1"), decides exactly what C13's MODELLED
    `inv` / `/` (mirrored extended-gcd kernels, single-, double- and multi-word rings) do — every word size `W ≥ 1`, every
    modulus the constructor accepts, every dividend `x` and divisor `b` of any sign and size. -/
theorem reduced_div_guard_is_c13s (W id m : Nat) (hW : 0 < W) (r : Dashu.Model.NT.Ring)
    (hr : Dashu.Model.NT.Ring.new W id m = .ok r) (x b : Int) :
    (guardMSame W "div" m b = .ok () ↔ ((Dashu.Model.NT.reduceInt W r b).inv).isSome) ∧
    (guardMSame W "div" m b = .error .nonInvertible ↔
        (Dashu.Model.NT.reduceInt W r x).div W (Dashu.Model.NT.reduceInt W r b) = .error .nonInvertible) ∧
    (guardMSame W "div" m b = .ok () ↔
        ∃ q, (Dashu.Model.NT.reduceInt W r x).div W (Dashu.Model.NT.reduceInt W r b) = .ok q) :=
  InvLink.inv_link W id m hW r hr x b

/-- the same link stated on the DOCUMENTATION (composition with `reduced_same_ring_guard`; modulus ≠ 1 as there): the rustdoc
    names `DivideByZero` iff C13's constructor refuses the modulus; on an accepted modulus it names `NonInvertible` iff the
    modelled `/` ends in `NonInvertible`, and names no panic iff the modelled `/` returns a value. -/
theorem reduced_div_documented_is_c13s (W id m : Nat) (hW : 0 < W) (hm1 : m ≠ 1) (x b : Int) :
    (documented W .mSame [.fn "div", .int m, .int x, .int b] = some .divideByZero ↔
        Dashu.Model.NT.Ring.new W id m = .error .divideByZero) ∧
    (∀ r, Dashu.Model.NT.Ring.new W id m = .ok r →
      (documented W .mSame [.fn "div", .int m, .int x, .int b] = some .nonInvertible ↔
          (Dashu.Model.NT.reduceInt W r x).div W (Dashu.Model.NT.reduceInt W r b) = .error .nonInvertible) ∧
      (documented W .mSame [.fn "div", .int m, .int x, .int b] = none ↔
          ∃ q, (Dashu.Model.NT.reduceInt W r x).div W (Dashu.Model.NT.reduceInt W r b) = .ok q)) :=
  InvLink.documented_div_link W id m hW hm1 x b

/-- non-vacuity: single-word ring 12, divisor 3 — documented NonInvertible ⇒ the modelled `/` panics NonInvertible -/
example : ∃ r, Dashu.Model.NT.Ring.new 64 0 12 = .ok r ∧
    (Dashu.Model.NT.reduceInt 64 r 5).div 64 (Dashu.Model.NT.reduceInt 64 r 3) = .error .nonInvertible :=
  ⟨_, rfl, ((reduced_div_documented_is_c13s 64 0 12 (by decide) (by decide) 5 3).2 _ rfl).1.1 (by decide +kernel)⟩
/-- non-vacuity: 3-word ring 2^190+7, divisor 3 coprime, negative dividend — nothing documented ⇒ the modelled `/` returns -/
example : ∃ r, Dashu.Model.NT.Ring.new 64 0 (2 ^ 190 + 7) = .ok r ∧ r.kind = .large ∧
    ∃ q, (Dashu.Model.NT.reduceInt 64 r (-5)).div 64 (Dashu.Model.NT.reduceInt 64 r 3) = .ok q :=
  ⟨_, rfl, rfl,
   ((reduced_div_documented_is_c13s 64 0 (2 ^ 190 + 7) (by decide) (by decide) (-5) 3).2 _ rfl).2.1 (by decide +kernel)⟩
/-- non-vacuity: modulus 0 — DivideByZero on both sides -/
example : Dashu.Model.NT.Ring.new 64 0 0 = .error .divideByZero ∧
    documented 64 .mSame [.fn "div", .int (0 : Nat), .int 5, .int 3] = some .divideByZero :=
  ⟨rfl, (reduced_div_documented_is_c13s 64 0 0 (by decide) (by decide) 5 3).1.2 rfl⟩

end Dashu.Props.C16
