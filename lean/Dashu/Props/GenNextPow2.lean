import Dashu.Gen.NextPow2
import Dashu.Proofs.Int.Bits
/-
  C09, Tie A over `next_power_of_two_large` and `TypedRepr::next_power_of_two` (`integer/src/bits.rs`, `mod repr`).
  `Dashu.Gen.NextPow2` is regenerated from the Rust text on every run (the iterator statements `buffer[..n - 1].iter_mut()
  .skip_while(|x| **x == 0)`, `iter.next()`, `for x in iter` recognised as a whole, every constant read from the source).
  Theorems: on every non-empty buffer nothing panics (the sub-slice bound, `last_mut().unwrap()`) and the result is the hand model's
  `nextPow2Large`; the whole method is `TRepr.nextPow2` — the definitions the driver executes for `u.nextpow2`, whose meaning (the
  least power of two ≥ the value, canonical) is `Props.C09.next_power_of_two`.
-/
namespace Dashu.Props.GenNextPow2
open Dashu.Model Dashu.GluePrelude Dashu.Gen.ShiftHeap Dashu.Gen.NextPow2

/-- what the iterator statements do to the low words: nothing is found (all words zero, carry 0) or the first non-zero word and
    everything after it is zeroed (carry 1) — in both cases the low words end up all zero -/
theorem skip_zero (l : List Nat) :
    ((skip_while_eq 0 l).2 = [] → l = List.replicate l.length 0 ∧ l.all (· == 0) = true) ∧
    (∀ x rest, (skip_while_eq 0 l).2 = x :: rest →
      (skip_while_eq 0 l).1 ++ 0 :: rest.map (fun _ => 0) = List.replicate l.length 0 ∧ l.all (· == 0) = false) := by
  induction l with
  | nil => simp [skip_while_eq]
  | cons y ys ih =>
    by_cases hy : y = 0
    · subst hy
      simp only [skip_while_eq, if_true]
      constructor
      · intro h
        obtain ⟨h1, h2⟩ := ih.1 h
        refine ⟨?_, by simp [h2]⟩
        show 0 :: ys = List.replicate (ys.length + 1) 0
        rw [List.replicate_succ, ← h1]
      · intro x rest h
        obtain ⟨h1, h2⟩ := ih.2 x rest h
        refine ⟨?_, by simp [h2]⟩
        show 0 :: ((skip_while_eq 0 ys).1 ++ 0 :: rest.map (fun _ => 0)) = List.replicate (ys.length + 1) 0
        rw [List.replicate_succ, h1]
    · simp only [skip_while_eq, if_neg hy]
      constructor
      · intro h; cases h
      · intro x rest h
        injection h with hx hr
        subst hx; subst hr
        refine ⟨?_, by simp [hy]⟩
        simp [List.replicate_succ, List.map_const']

/-- the last step on a buffer `z ++ [a]` with carry `c`: both sides branch on the same checked `a + c` and
    `checked_next_power_of_two` -/
theorem top_word (W : Nat) (z : List Nat) (a c : Nat) :
    (match (MachInt.add W a c).bind (checkedNextPow2 W) with
      | some p => some (fromBuffer W (set_last (z ++ [a]) p))
      | none => some (fromBuffer W (push (set_last (z ++ [a]) 0) 1))) =
    some (match (if a + c < 2 ^ W then checkedNextPow2 W (a + c) else none) with
      | some p => fromBuffer W (z ++ [p])
      | none => fromBuffer W (z ++ [0, 1])) := by
  have hb : (MachInt.add W a c).bind (checkedNextPow2 W) =
      if a + c < 2 ^ W then checkedNextPow2 W (a + c) else none := by
    unfold MachInt.add; split <;> rfl
  rw [hb]
  simp only [set_last, List.dropLast_concat, push, List.append_assoc, List.cons_append, List.nil_append]
  split <;> rfl

/-- **`next_power_of_two_large`** on every non-empty buffer = the hand model's `nextPow2Large` -/
theorem gen_next_power_of_two_large (W U : Nat) (ws : List Nat) (hne : ws ≠ []) :
    next_power_of_two_large W U ws = some (nextPow2Large W ws) := by
  obtain ⟨l, a, rfl⟩ : ∃ l a, ws = l ++ [a] := ⟨_, _, (List.dropLast_concat_getLast hne).symm⟩
  have hsub : MachInt.sub U (l ++ [a]).length 1 = some l.length := by
    simp only [MachInt.sub, List.length_append, List.length_singleton, Nat.le_add_left, if_true, Nat.add_sub_cancel]
  have hsplit : split_to (l ++ [a]) l.length = some (l, [a]) := by
    simp only [split_to, List.length_append, Nat.le_add_right, if_true, List.take_left', List.drop_left']
  have hz := skip_zero l
  unfold next_power_of_two_large nextPow2Large
  simp only [hsub, hsplit, bind, Option.bind, List.dropLast_concat, List.getLastD_concat, pure]
  cases hit : (skip_while_eq 0 l).2 with
  | nil =>
    obtain ⟨h1, h2⟩ := hz.1 hit
    simp only [h2, if_true, List.getLast?_concat]
    rw [h1, List.length_replicate]
    exact top_word W _ a 0
  | cons x rest =>
    obtain ⟨h1, h2⟩ := hz.2 x rest hit
    simp only [h2, h1, Bool.false_eq_true, if_false, List.getLast?_concat]
    exact top_word W _ a 1

/-- an empty buffer: `n - 1` underflows (and `last().unwrap()` would panic) — the regenerated text refuses -/
theorem gen_next_power_of_two_large_empty (W U : Nat) : next_power_of_two_large W U [] = none := rfl

/-- **`TypedRepr::next_power_of_two`** (the whole method) = the hand model's `TRepr.nextPow2` -/
theorem gen_next_power_of_two (W U : Nat) (x : TRepr) (hx : ∀ ws, x = .large ws → ws ≠ []) :
    next_power_of_two W U x = some (TRepr.nextPow2 W x) := by
  cases x with
  | small d =>
    simp only [next_power_of_two, TRepr.nextPow2]
    cases checkedNextPow2 (2 * W) d <;> simp [pure, Buffer_allocate, push_zeros, push, List.replicate]
  | large ws =>
    simp only [next_power_of_two, TRepr.nextPow2]
    exact gen_next_power_of_two_large W U ws (hx ws rfl)

-- non-vacuity (64-bit words): low words all zero (no carry), a non-zero low word after a zero one (carry, everything zeroed),
-- top word overflow with and without carry (a word is pushed), and the inline arm that spills
example : next_power_of_two_large 64 64 [0, 0, 5] = some (.large [0, 0, 8]) ∧
    next_power_of_two_large 64 64 [0, 7, 9, 4] = some (.large [0, 0, 0, 8]) ∧
    next_power_of_two_large 64 64 [1, 0, 2 ^ 64 - 1] = some (.large [0, 0, 0, 1]) ∧
    next_power_of_two_large 64 64 [0, 0, 2 ^ 63 + 1] = some (.large [0, 0, 0, 1]) ∧
    next_power_of_two_large 64 64 [0, 0, 2 ^ 63] = some (.large [0, 0, 2 ^ 63]) ∧
    next_power_of_two 64 64 (.small (2 ^ 127 + 1)) = some (.large [0, 0, 1]) ∧
    next_power_of_two 64 64 (.small 5) = some (.small 8) := by
  refine ⟨by decide +kernel, by decide +kernel, by decide +kernel, by decide +kernel, by decide +kernel, by decide +kernel, by decide +kernel⟩

end Dashu.Props.GenNextPow2
