import Dashu.Proofs.Text.ParseLink
/-
  C07 — link theorems: the multi-word arithmetic INSIDE the non-power-of-two parser — `mul_word_in_place_with_carry`
  in `parse_chunk`, `Repr::from_buffer`, `UBig * &UBig + UBig` in `parse_large_divide_conquer`, `UBig::from(range_per_word).pow(CHUNK_LEN)`
  and `prev * prev` in `parse_large` — replaced by C01's mirrored kernels (`mulWordInPlace`, `fromBuffer`, `TRepr.mul`, `TRepr.add`,
  `ubigPow`, `ofNat`) and proved, THROUGH C01's property theorems (imported from `Dashu.Props.C01`), to compute what the Nat-valued
  parser model of `Model/Text/Parse.lean` computes — the model all parser theorems of `Props/C07.lean` are about.  (A separate module
  because it imports another property's theorem file.)
-/
namespace Dashu.Props.C07ParseLink
open Dashu.Model Dashu.Model.Text

/-- **`parse_chunk` on the word buffer with C01's `mul_word_in_place_with_carry`**: for every word size, radix `2 ≤ r < 2^W` and byte
    string (no length bound), the word-level loop `carry = mul_word_in_place_with_carry(&mut buffer, range_per_word, parse_word(group));
    if carry != 0 { buffer.push(carry) }` fails exactly where the numeric model fails, with the same error, and otherwise leaves
    a list of words `< 2^W` whose value is the model's number; its length never exceeds `groups.len()`, the capacity asked from
    `Buffer::allocate` (the kernel's hypotheses `rhs < 2^W`, `carry_in < 2^W`, `IsWords buffer` of
    `Props/C01.mul_word_in_place_exact` are discharged at every iteration: `parse_word(group) < range_per_word < 2^W`) -/
theorem parse_chunk_on_mul_word_kernel (W r : Nat) (hr : 2 ≤ r) (hrW : r < 2 ^ W) (bytes : List Nat) :
    Except.map (val W) (parseChunkW W r bytes) = parseChunk W r bytes ∧
    ∀ ws, parseChunkW W r bytes = .ok ws →
      IsWords W ws ∧ ws.length ≤ (rchunksRev (radixInfo W r).dpw bytes).length :=
  parseChunkW_spec W r hr hrW bytes

/-- **the whole non-power-of-two parser on C01's `UBig` kernels**: `non_power_two::parse` with `parse_word(..).into()` = `ofNat`,
    `parse_chunk` ending in `Repr::from_buffer`, `parse_large` with the power tower `UBig::from(range_per_word).pow(CHUNK_LEN)`,
    `prev * prev` and the recursion `res_hi * radix_power + res_lo` on typed representations (`TRepr.mul`, `TRepr.add` in any
    ownership form, `ubigPow`) returns, for every `W ≥ 4`, radix and byte string, the same error as the numeric model or a
    CANONICAL representation (a valid `UBig`) of the model's number — by `Props/C01`: `of_nat_exact`, `from_buffer_exact`,
    `mul_word_in_place_exact`, `u_mul_exact`, `u_add_exact`, `u_pow_exact` -/
theorem parse_non_pow2_on_ubig_kernels (W r : Nat) (hW : 4 ≤ W) (hr : 2 ≤ r) (hrW : r < 2 ^ W) (form : Nat) (src : List Nat) :
    (Except.map (TRepr.value W) (parseNonPow2T W r form src) = parseNonPow2 W r src ∧
      ∀ t, parseNonPow2T W r form src = .ok t → t.Canon W) ∧
    (Except.map (TRepr.value W) (parseLargeT W r form src) = parseLarge W r src ∧
      ∀ t, parseLargeT W r form src = .ok t → t.Canon W) :=
  ⟨parseNonPow2T_spec W r hW hr hrW form src, parseLargeT_spec W r hW hr hrW form src⟩

-- non-vacuity: the hypotheses hold for the real word size and radix 10; the word loop is run on "1", "23", "45" with W = 8
-- (range_per_word = 100): 12345 = 0x3039, one carry pushed; an invalid digit is the model's error
example := parse_chunk_on_mul_word_kernel 64 10 (by decide) (by decide) [49, 50, 51, 52, 53]
example := parse_non_pow2_on_ubig_kernels 64 10 (by decide) (by decide) (by decide) 0 [49, 50, 51, 52, 53]
example : parseChunkLoopW 8 10 100 [[49], [50, 51], [52, 53]] [] = .ok [0x39, 0x30] := by decide
example : parseChunkLoopW 8 10 100 [[49], [50, 47], [52, 53]] [] = .error .invalidDigit := by decide

end Dashu.Props.C07ParseLink
