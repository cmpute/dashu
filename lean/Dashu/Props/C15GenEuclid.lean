import Dashu.Props.C15Values
import Dashu.Gen.FormsGlue
namespace Dashu.Props.C15GenEuclid
open Dashu Dashu.Model.Float Dashu.Model.Forms Dashu.Props.C15Values

/-! ### Tie A: the BY-VALUE bodies of `DivEuclid` / `RemEuclid` / `DivRemEuclid` for `FBig`, as regenerated from
    float/src/div.rs on this run (`Gen/FormsGlue.lean`: `f_DivEuclid_val_val`, `f_RemEuclid_val_val`,
    `f_DivRemEuclid_val_val`), evaluated in a value domain that interprets every callee by the model, ARE the mirrored
    definitions the driver executes.  A change of the source body — another exponent for the remainder, a dropped zero test, `max` for `min`,
    a different context — changes the regenerated text and breaks these statements. -/

/-- the values that occur in the three bodies -/
inductive Val where
  | fb (x : FBigM) | rp (r : FRepr) | int (i : Int) | ctx (p : Nat) | bool (b : Bool) | bad
  deriving DecidableEq

def iExp : Val → Val | .rp r => .int r.exp | _ => .bad
def iRepr : Val → Val | .fb x => .rp x.repr | _ => .bad
def iMin : Val → Val → Val | .int a, .int b => .int (min a b) | _, _ => .bad
def iCtx : Val → Val | .fb x => .ctx x.prec | _ => .bad
def iMax : Val → Val → Val | .ctx a, .ctx b => .ctx (ctxMax a b) | _, _ => .bad
def iAlign (B : Nat) : Val → Val → Val × Val
  | .fb x, .fb y => (.int (alignAsInt B x.repr y.repr).1, .int (alignAsInt B x.repr y.repr).2)
  | _, _ => (.bad, .bad)
/-- `IBig::div_euclid`, `rem_euclid`, `div_rem_euclid` at their contract (C02; non-zero divisor) -/
def iDivE : Val → Val → Val | .int a, .int b => .int (a / b) | _, _ => .bad
def iRemE : Val → Val → Val | .int a, .int b => .int (a % b) | _, _ => .bad
def iDivRemE : Val → Val → Val × Val | .int a, .int b => (.int (a / b), .int (a % b)) | _, _ => (.bad, .bad)
/-- `Context::convert_int(n)` (`.value()` and `.into()` are the identity on values) -/
def iConv (B : Nat) (m : Mode) (c : Coarse) : Val → Val → Val
  | .ctx p, .int r => .fb ⟨convertInt B m c p r, p⟩ | _, _ => .bad
def iNot : Val → Val | .bool b => .bool (!b) | _ => .bad
def iSignif : Val → Val | .rp r => .int r.signif | _ => .bad
/-- `IBig::is_zero` and `Repr::is_zero` -/
def iIsZero : Val → Val | .int i => .bool (i == 0) | .rp r => .bool r.isZero | _ => .bad
def iAdd : Val → Val → Val | .int a, .int b => .int (a + b) | _, _ => .bad
def iUpd : Val → Val → Val | .fb x, .int e => .fb ⟨⟨x.repr.signif, e⟩, x.prec⟩ | _, _ => .bad
def iIte : Val → Val → Val → Val | .bool true, a, _ => a | .bool false, _, b => b | _, _, _ => .bad

/-- for EVERY interpretation of the callees in which `div_rem_euclid` returns what `div_euclid` and `rem_euclid` return, the
    regenerated `DivRemEuclid` body is the pair of the `DivEuclid` and the `RemEuclid` body -/
theorem divRemEuclid_any {V : Type} (fe fr : V → V) (mn : V → V → V) (fc : V → V) (mx : V → V → V) (al : V → V → V × V)
    (dv rm : V → V → V) (into : V → V) (cv : V → V → V) (value nt sg iz : V → V) (add upd : V → V → V) (ite : V → V → V → V)
    (x y : V) :
    Gen.f_DivRemEuclid_val_val fe fr mn fc mx al (fun a b => (dv a b, rm a b)) into cv value nt sg iz add upd ite x y =
      (Gen.f_DivEuclid_val_val al dv x y, Gen.f_RemEuclid_val_val fe fr mn fc mx al rm into cv value nt sg iz add upd ite x y) :=
  rfl

theorem iDivRemE_eq : iDivRemE = fun a b => (iDivE a b, iRemE a b) := by
  funext a b
  cases a <;> cases b <;> rfl

theorem gen_DivEuclid_is_model (B : Nat) (x y : FBigM) (q : Int) (h : fDivEuclid B x y = .ok q) :
    Gen.f_DivEuclid_val_val (iAlign B) iDivE (.fb x) (.fb y) = .int q := by
  rcases euclid_ok B .halfAway coarseNone x y with ⟨_, he, _⟩ | ⟨_, he, _⟩ <;> rw [he] at h
  · cases h
  · simp [Gen.f_DivEuclid_val_val, iAlign, iDivE, Except.ok.inj h]

theorem gen_RemEuclid_is_model (B : Nat) (m : Mode) (c : Coarse) (x y r : FBigM) (h : fRemEuclid B m c x y = .ok r) :
    Gen.f_RemEuclid_val_val iExp iRepr iMin iCtx iMax (iAlign B) iRemE id (iConv B m c) id iNot iSignif iIsZero iAdd
      iUpd iIte (.fb x) (.fb y) = .fb r := by
  unfold fRemEuclid at h
  by_cases hd : (alignAsInt B x.repr y.repr).2 = 0
  · simp [hd] at h
  · simp only [hd, if_false, Except.ok.injEq] at h
    subst h
    unfold euclidRemTail
    by_cases hz : (convertInt B m c (ctxMax x.prec y.prec)
        ((alignAsInt B x.repr y.repr).1 % (alignAsInt B x.repr y.repr).2)).signif = 0
    · simp [Gen.f_RemEuclid_val_val, iExp, iRepr, iMin, iCtx, iMax, iAlign, iRemE, iConv, iNot, iSignif, iIsZero,
        iAdd, iUpd, iIte, hz]
    · have hb : ((convertInt B m c (ctxMax x.prec y.prec)
          ((alignAsInt B x.repr y.repr).1 % (alignAsInt B x.repr y.repr).2)).signif == 0) = false := by simpa using hz
      simp [Gen.f_RemEuclid_val_val, iExp, iRepr, iMin, iCtx, iMax, iAlign, iRemE, iConv, iNot, iSignif, iIsZero,
        iAdd, iUpd, iIte, hz, hb]

theorem gen_DivRemEuclid_is_model (B : Nat) (m : Mode) (c : Coarse) (x y r : FBigM) (q : Int)
    (h : fDivRemEuclid B m c x y = .ok (q, r)) :
    Gen.f_DivRemEuclid_val_val iExp iRepr iMin iCtx iMax (iAlign B) iDivRemE id (iConv B m c) id iNot iSignif iIsZero
      iAdd iUpd iIte (.fb x) (.fb y) = (.int q, .fb r) := by
  rcases euclid_ok B m c x y with ⟨_, _, _, he⟩ | ⟨_, hq, hr, he⟩ <;> rw [he] at h
  · cases h
  · obtain ⟨rfl, rfl⟩ := Prod.mk.inj (Except.ok.inj h)
    rw [iDivRemE_eq, divRemEuclid_any, gen_DivEuclid_is_model B x y _ hq, gen_RemEuclid_is_model B m c x y _ hr]

/-- hence the trait-method form on the REGENERATED bodies: `div_rem_euclid` returns the pair of what `div_euclid` and
    `rem_euclid` return -/
theorem gen_euclid_method_forms (B : Nat) (m : Mode) (c : Coarse) (x y r : FBigM) (q : Int)
    (h : fDivRemEuclid B m c x y = .ok (q, r)) :
    Gen.f_DivRemEuclid_val_val iExp iRepr iMin iCtx iMax (iAlign B) iDivRemE id (iConv B m c) id iNot iSignif iIsZero
      iAdd iUpd iIte (.fb x) (.fb y)
    = (Gen.f_DivEuclid_val_val (iAlign B) iDivE (.fb x) (.fb y),
       Gen.f_RemEuclid_val_val iExp iRepr iMin iCtx iMax (iAlign B) iRemE id (iConv B m c) id iNot iSignif iIsZero iAdd
         iUpd iIte (.fb x) (.fb y)) := by
  rw [iDivRemE_eq, divRemEuclid_any]

/-! ### the same tie for the other hand-written float operator bodies: shifts (float/src/shift.rs), the four `Mul` impls
    (float/src/mul.rs) and the `Div` / `Rem` macro `impl_div_or_rem_for_fbig` (float/src/div.rs) -/

def iSub : Val → Val → Val | .int a, .int b => .int (a - b) | _, _ => .bad
def iMul : Val → Val → Val | .int a, .int b => .int (a * b) | _, _ => .bad
/-- `Repr::new(significand, exponent)` and `FBig::new(repr, context)` (the translator has one name for both) -/
def iNew (B : Nat) : Val → Val → Val
  | .int s, .int e => .rp (FRepr.new B s e)
  | .rp r, .ctx p => .fb ⟨r, p⟩
  | _, _ => .bad
/-- `Context::repr_round(repr)` (`.value()` is the identity on values) -/
def iRound (B : Nat) (m : Mode) (c : Coarse) : Val → Val → Val
  | .ctx p, .rp r => .rp (reprRound B m c p r).1 | _, _ => .bad
/-- `Context::repr_div` below its guards (finite operands, limited precision, dividend length) -/
def iReprDiv (B : Nat) (m : Mode) : Val → Val → Val → Val
  | .ctx p, .rp l, .rp r => (match reprDiv B m p l r with | .ok v => .rp v.1 | .error _ => .bad)
  | _, _, _ => .bad
/-- `Context::repr_rem` -/
def iReprRem (B : Nat) (m : Mode) (c : Coarse) : Val → Val → Val → Val
  | .ctx p, .rp l, .rp r => (match reprRem B m c p l r with | .ok v => .rp v.1 | .error _ => .bad)
  | _, _, _ => .bad

/-- `x << n`, `x <<= n` (regenerated) = `fShl` wherever the exponent stays inside `isize`; the guard (`assert_finite`) is
    returned beside the value and not interpreted -/
theorem gen_Shl_is_model (g : Val → Val) (x y : FBigM) (n : Int) (h : fShl x n = .ok y) :
    (Gen.f_Shl_val_val iRepr g iNot iIsZero iAdd iExp iUpd iIte (.fb x) (.int n)).1 = .fb y ∧
    (Gen.f_ShlAssign_mut_val iRepr g iNot iIsZero iAdd iExp iUpd iIte (.fb x) (.int n)).1 = .fb y := by
  rw [fShl_ok h]
  cases hz : x.repr.isZero <;>
    simp [Gen.f_Shl_val_val, Gen.f_ShlAssign_mut_val, iRepr, iNot, iIsZero, iAdd, iExp, iUpd, iIte, hz]

theorem gen_Shr_is_model (g : Val → Val) (x y : FBigM) (n : Int) (h : fShr x n = .ok y) :
    (Gen.f_Shr_val_val iRepr g iNot iIsZero iSub iExp iUpd iIte (.fb x) (.int n)).1 = .fb y ∧
    (Gen.f_ShrAssign_mut_val iRepr g iNot iIsZero iSub iExp iUpd iIte (.fb x) (.int n)).1 = .fb y := by
  rw [fShl_ok (fShr_ok h), ← Int.sub_eq_add_neg]
  cases hz : x.repr.isZero <;>
    simp [Gen.f_Shr_val_val, Gen.f_ShrAssign_mut_val, iRepr, iNot, iIsZero, iSub, iExp, iUpd, iIte, hz]

/-- the four hand-written `Mul` impls (regenerated) = the model's operator product `opMul` at `Context::max` -/
theorem gen_Mul_is_model (B : Nat) (m : Mode) (c : Coarse) (g : Val → Val → Val) (x y : FBigM) :
    let r : Val := .fb ⟨(opMul B m c (ctxMax x.prec y.prec) x.repr y.repr).1, ctxMax x.prec y.prec⟩
    (Gen.f_Mul_val_val iRepr g iCtx iMax iMul iSignif iAdd iExp (iNew B) (iRound B m c) id (.fb x) (.fb y)).1 = r ∧
    (Gen.f_Mul_val_ref iRepr g iCtx iMax iMul iSignif iAdd iExp (iNew B) (iRound B m c) id (.fb x) (.fb y)).1 = r ∧
    (Gen.f_Mul_ref_val iRepr g iCtx iMax iMul iSignif iAdd iExp (iNew B) (iRound B m c) id (.fb x) (.fb y)).1 = r ∧
    (Gen.f_Mul_ref_ref iRepr g iCtx iMax iMul iSignif iAdd iExp (iNew B) (iRound B m c) id (.fb x) (.fb y)).1 = r := by
  simp [Gen.f_Mul_val_val, Gen.f_Mul_val_ref, Gen.f_Mul_ref_val, Gen.f_Mul_ref_ref, iRepr, iCtx, iMax, iMul, iSignif,
    iAdd, iExp, iNew, iRound, opMul]

/-- the `/` forms of `impl_div_or_rem_for_fbig` (regenerated, all four ownership forms) = the model's `opDiv` -/
theorem gen_Div_is_model (B : Nat) (m : Mode) (x y : FBigM) (r : FRepr)
    (h : opDiv B m (ctxMax x.prec y.prec) x.repr y.repr = .ok r) :
    Gen.f_impl_div_or_rem_for_fbig_val_val iCtx iMax iRepr (iReprDiv B m) id (iNew B) (.fb x) (.fb y)
      = .fb ⟨r, ctxMax x.prec y.prec⟩ ∧
    Gen.f_impl_div_or_rem_for_fbig_ref_val iCtx iMax iRepr (iReprDiv B m) id (iNew B) (.fb x) (.fb y)
      = .fb ⟨r, ctxMax x.prec y.prec⟩ ∧
    Gen.f_impl_div_or_rem_for_fbig_val_ref iCtx iMax iRepr (iReprDiv B m) id (iNew B) (.fb x) (.fb y)
      = .fb ⟨r, ctxMax x.prec y.prec⟩ ∧
    Gen.f_impl_div_or_rem_for_fbig_ref_ref iCtx iMax iRepr (iReprDiv B m) id (iNew B) (.fb x) (.fb y)
      = .fb ⟨r, ctxMax x.prec y.prec⟩ := by
  unfold opDiv at h
  split at h
  · exact absurd h (by simp)
  · split at h
    · exact absurd h (by simp)
    · cases hd : reprDiv B m (ctxMax x.prec y.prec) x.repr y.repr with
      | error e => rw [hd] at h; exact absurd h (by simp)
      | ok v =>
        rw [hd] at h
        simp only [Except.ok.injEq] at h
        subst h
        simp [Gen.f_impl_div_or_rem_for_fbig_val_val, Gen.f_impl_div_or_rem_for_fbig_ref_val,
          Gen.f_impl_div_or_rem_for_fbig_val_ref, Gen.f_impl_div_or_rem_for_fbig_ref_ref, iCtx, iMax, iRepr, iReprDiv,
          iNew, hd]

/-- the `%` forms of `impl_div_or_rem_for_fbig` (regenerated) = the model's `reprRem` at `Context::max` -/
theorem gen_Rem_is_model (B : Nat) (m : Mode) (c : Coarse) (x y : FBigM) (v : Rounded FRepr)
    (h : reprRem B m c (ctxMax x.prec y.prec) x.repr y.repr = .ok v) :
    Gen.f_impl_div_or_rem_for_fbig_val_val iCtx iMax iRepr (iReprRem B m c) id (iNew B) (.fb x) (.fb y)
      = .fb ⟨v.1, ctxMax x.prec y.prec⟩ ∧
    Gen.f_impl_div_or_rem_for_fbig_ref_ref iCtx iMax iRepr (iReprRem B m c) id (iNew B) (.fb x) (.fb y)
      = .fb ⟨v.1, ctxMax x.prec y.prec⟩ := by
  simp [Gen.f_impl_div_or_rem_for_fbig_val_val, Gen.f_impl_div_or_rem_for_fbig_ref_ref, iCtx, iMax, iRepr, iReprRem,
    iNew, h]

example : fShl ⟨⟨5, -3⟩, 10⟩ 7 = .ok ⟨⟨5, 4⟩, 10⟩ := by decide
example : opDiv 10 .halfAway 2 ⟨1, 0⟩ ⟨3, 0⟩ = .ok ⟨33, -2⟩ := by decide
example : reprRem 10 .halfAway coarseNone 2 ⟨7, 0⟩ ⟨2, 0⟩ = .ok (⟨-1, 0⟩, none) := by decide

/-! ### the primitive-operand macros of float/src/helper_macros.rs (`impl_binop_with_primitive_one_way`,
    `impl_binop_with_primitive`, `impl_binop_assign_with_primitive`, `impl_binop_assign_by_taking`), regenerated:
    every one of the 12 bodies is the float-float operation on `FBig::from(int)` — what the driver computes for the
    `FN` / `NF` groups (`Driver/FormsMore.fform`: `opBin fam x (fromInt n)` resp. `opBin fam (fromInt n) y`) -/

/-- `FBig::from(n)` for `UBig`, `IBig` and the twelve primitive integer types -/
def iFrom (B : Nat) : Val → Val | .int n => .fb (fromInt B n) | _ => .bad
/-- a float-float operation given as a function of the model -/
def iOp (op : FBigM → FBigM → Val) : Val → Val → Val | .fb a, .fb b => op a b | _, _ => .bad

theorem gen_primitive_forms_are_model (B : Nat) (op : FBigM → FBigM → Val) (x : FBigM) (n : Int) :
    -- FBig ∘ int, four ownership forms, and the two assign forms
    Gen.f_impl_binop_with_primitive_one_way_val_val (iFrom B) (iOp op) (.fb x) (.int n) = op x (fromInt B n) ∧
    Gen.f_impl_binop_with_primitive_one_way_ref_val (iFrom B) (iOp op) (.fb x) (.int n) = op x (fromInt B n) ∧
    Gen.f_impl_binop_with_primitive_one_way_val_ref (iFrom B) (iOp op) (.fb x) (.int n) = op x (fromInt B n) ∧
    Gen.f_impl_binop_with_primitive_one_way_ref_ref (iFrom B) (iOp op) (.fb x) (.int n) = op x (fromInt B n) ∧
    Gen.f_impl_binop_assign_with_primitive_mut_val (iFrom B) (iOp op) (.fb x) (.int n) = op x (fromInt B n) ∧
    Gen.f_impl_binop_assign_with_primitive_mut_ref (iFrom B) (iOp op) (.fb x) (.int n) = op x (fromInt B n) ∧
    -- int ∘ FBig, four ownership forms
    Gen.f_impl_binop_with_primitive_val_val (iFrom B) (iOp op) (.int n) (.fb x) = op (fromInt B n) x ∧
    Gen.f_impl_binop_with_primitive_ref_val (iFrom B) (iOp op) (.int n) (.fb x) = op (fromInt B n) x ∧
    Gen.f_impl_binop_with_primitive_val_ref (iFrom B) (iOp op) (.int n) (.fb x) = op (fromInt B n) x ∧
    Gen.f_impl_binop_with_primitive_ref_ref (iFrom B) (iOp op) (.int n) (.fb x) = op (fromInt B n) x :=
  ⟨rfl, rfl, rfl, rfl, rfl, rfl, rfl, rfl, rfl, rfl⟩

/-- `x op= y` by taking (`*self = mem::take(self).op(rhs)`): what `x op y` returns -/
theorem gen_assign_by_taking_is_model (op : FBigM → FBigM → Val) (x y : FBigM) :
    Gen.f_impl_binop_assign_by_taking_mut_val (iOp op) (.fb x) (.fb y) = op x y ∧
    Gen.f_impl_binop_assign_by_taking_mut_ref (iOp op) (.fb x) (.fb y) = op x y := ⟨rfl, rfl⟩

/-- precision of `FBig::from(n)`: the digit count of `n` as given (at least 1), value `n` -/
theorem fromInt_spec (B : Nat) (hB : 2 ≤ B) (n : Int) :
    (fromInt B n).prec = max (digitsI B n) 1 ∧ (fromInt B n).repr.toRat B = (n : ℚ) := by
  refine ⟨rfl, ?_⟩
  unfold fromInt fromParts
  exact new_int_value B hB n

end Dashu.Props.C15GenEuclid
