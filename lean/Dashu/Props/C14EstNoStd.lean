import Dashu.Props.C14
import Dashu.Proofs.Cross.EstNoStd
/-
  C14 — the enclosure hypothesis `Oracle.Sound` (the only assumption of every `Props/C14` theorem about the
  f32 estimators) PROVED for the no_std table path of the integer and rational estimators
  (`Model/Cross/EstNoStd.lean`: base/src/math/log.rs no_std impls, integer/src/log.rs
  `log2_bounds_large`, rational/src/repr.rs `log2_bounds`).

  * No assumption about libm: the table part is `log2_fp8_sound`, `log2_wide_sound`,
    `log2_u8_sound` of `Proofs/NT/Log2Table.lean` / `Log2Lift.lean` (all inputs), the literal for 3 is checked by `decide +kernel` on 13-Mbit powers.
  * The three binary32 operations are parameters; what is assumed about them is `F32.Ax` (IEEE-754 facts,
    listed there), satisfiable (`exact_arithmetic_meets_ax`).
  * What is NOT covered: the std path (libm `log2f`), and `Repr<B>::log2_bounds` of the float crate, whose
    bounds are computed in `f64` and cast to `f32` before the outward step: that needs a grid-level model
    of binary32/binary64 (double rounding), not the relative-error facts used here.
  Kept apart from `Props/C14.lean` because it imports the proofs of the integer logarithm (`Proofs/NT`).
-/
namespace Dashu.Props.C14EstNoStd
open Dashu.Model.Cross Dashu.Model.Cross.EstNoStd

/-- `u8` (table on `i^4` / `i^2`, literal for 3, exact powers of two) -/
theorem u8_encloses {F : F32} (hF : F.Ax) (i : Nat) (hi : i < 256) : Encl (i : ℝ) (u8NoStd F i) :=
  u8NoStd_sound hF i hi

/-- `u16 … u128`, `usize` (no_std): top-16-bit table estimate plus the shift, stepped outward — every `x` -/
theorem prim_encloses {F : F32} (hF : F.Ax) (x : Nat) : Encl (x : ℝ) (primNoStd F x) :=
  primNoStd_sound hF x

/-- integer/src/log.rs `log2_bounds_large`: every value of at least three words (`W ≥ 32`) -/
theorem large_encloses {F : F32} (hF : F.Ax) (W x : Nat) (hW : 32 ≤ W) (hx : 2 ^ (2 * W) ≤ x) :
    Encl (x : ℝ) (largeNoStd F W x) :=
  largeNoStd_sound hF W x hW hx

/-- `UBig::log2_bounds` / `IBig::log2_bounds` (no_std): the `nat` field of the enclosure hypothesis -/
theorem nat_encloses {F : F32} (hF : F.Ax) (W : Nat) (hW : 32 ≤ W) (x : Nat) :
    Encl (x : ℝ) (natNoStd F W x) :=
  natNoStd_sound hF W hW x

/-- rational `Repr::log2_bounds` (no_std): the `rat` field of the enclosure hypothesis -/
theorem rat_encloses {F : F32} (hF : F.Ax) (W : Nat) (hW : 32 ≤ W) (n : Int) (d : Nat) (hd : 0 < d) :
    Encl (ratMag n d) (ratNoStd F W n d) :=
  ratNoStd_sound hF W hW n d hd

/-- the hypothesis of every `Props/C14` theorem, with the integer and rational estimators discharged -/
theorem oracle_sound_of_float_part {F : F32} (hF : F.Ax) (W : Nat) (hW : 32 ≤ W)
    (flt : Nat → Int → Int → EB × EB) (dub : Nat → Int → Nat)
    (hflt : ∀ (B : Nat) (s e : Int), 2 ≤ B → Encl (fltMag B s e) (flt B s e))
    (hdub : ∀ (B : Nat) (s : Int), 2 ≤ B → s.natAbs < B ^ dub B s) :
    ({ nat := natNoStd F W, flt := flt, rat := ratNoStd F W, digitsUb := dub } : Oracle).Sound :=
  noStd_oracle_sound hF W hW flt dub hflt hdub

/-- `F32.Ax` is satisfiable (exact arithmetic) … -/
theorem exact_arithmetic_meets_ax : F32.exact.Ax := exact_ax

/-- … and the executable instance the driver runs as its third oracle is sound, hence every
    `Props/C14` theorem applies to the lines it prints -/
theorem table_oracle_sound (W : Nat) (hW : 32 ≤ W) : (noStdExactOracle W).Sound :=
  noStd_oracle_sound exact_ax W hW fltBounds digitsUbCoarse Oracle.coarse_sound.flt Oracle.coarse_sound.digits

/-- NumOrd with the table path deciding the filter = the order of the exact values -/
theorem num_ord_exact_table_path (W : Nat) (hW : 32 ≤ W) (x y : Num) (wx : x.WF) (wy : y.WF)
    {r : Option Ordering} (h : numPartialCmp (noStdExactOracle W) x y = some r) :
    r = XVal.cmp x.value y.value :=
  Dashu.Props.C14.num_ord_exact (table_oracle_sound W hW) x y wx wy h

/-- the multiplicative widening of `log2_bounds_large` is needed and sufficient only from 32-bit words on:
    with 16-bit words `2^32 + 2^16 − 1` (top double word `2^16`, an exact power of two) has
    `log₂ > 32·(1 + 2^-22)·(1 + 2^-24)^3` — the hypothesis `32 ≤ W` is not an artefact -/
example : (2 : ℚ) ^ 32 * (1 + 1 / 2 ^ 17) < 2 ^ 32 + 2 ^ 16 - 1 := by norm_num

/-- non-vacuity: a three-word value and its shape -/
example : (2 : Nat) ^ (2 * 64) ≤ 2 ^ 130 + 12345 ∧ wordLen 64 (2 ^ 130 + 12345) = 3 := by decide +kernel

end Dashu.Props.C14EstNoStd
