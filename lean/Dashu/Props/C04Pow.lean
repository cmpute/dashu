import Dashu.Props.C04
import Dashu.Props.C01Dispatch
import Dashu.Model.Ratio.PowGuard
import Dashu.Proofs.Ratio.PowGuard
import Dashu.Proofs.Ratio.PowSmall
/-
  C04: `RBig::pow` / `Relaxed::pow` WITH the allocation panics of the two integer powers under `Repr::pow`
  (`Model/Ratio/PowGuard.powChecked`, what the driver executes for `qp.pow`).
  (1) the value-level guard `upowPanics` IS C01's `powAllocPanics` (Props/C01Dispatch), hence by C01's
      `u_pow_guarded_iff` / `i_pow_guarded_iff` exactly the panic class of the mirrored integer kernels;
  (2) `powChecked` IS the composition, by value, of the mirrored and proved `ibigPowGuarded` (numerator, first) and
      `ubigPowGuarded` (denominator) for every word size ≥ 4 bits — results and panics;
  (3) outside the guard the result is `pow x n`: reduced and exactly `x ^ n` (RBig), same value and invariant (Relaxed);
  (4) a panic is never `DivideByZero` or anything else than the documented allocation panic, and on the
      `exp.checked_mul(shift)` branch the exact result has more than `2^64` bits (it cannot be stored).
  (5) (64-bit words, what the harness runs) the panic is raised ONLY when the exact result cannot be stored anyway: a
      component of the exact power has at least `2^62` bits.
  (6) histories: a guarded run (`runG`, what the driver executes for `qp.prog`) is the plain run, or the plain run of a prefix
      followed by the allocation panic of a `pow` step; the history theorems (invariants, values) carry over.
  (7) BELOW memory the guard is silent: if the exact power has fewer than `2^62` bits per component, `pow` returns —
      no panic alternative; the guarded history (`runG`, op `qp.prog`, the real code) IS the unguarded one (`run`, the older op
      `prog`); Relaxed = RBig for `pow` without the "whenever both return" hypothesis.
  (8) Relaxed = RBig over GUARDED histories (`runG`, the real code): whenever neither guarded run stops with the allocation
      panic (every word size), and below memory (64-bit words) without that hypothesis — values, stops, canonicalised stored pairs.
  Kept apart from Props/C04 because it imports C01's proof files.
-/
namespace Dashu.Props.C04Pow
open Dashu.Model Dashu.Model.Ratio Dashu.Props.C01Dispatch

/-- (1) the guard the rational driver evaluates is C01's value-level panic class of `UBig::pow` -/
theorem pow_guard_is_proved_class (W v n : Nat) : upowPanics W v n = powAllocPanics W v n := by
  unfold upowPanics powAllocPanics
  rw [upowK_eq]
  rfl

/-- (3a) below the guard: the stored pair is `pow x n` -/
theorem pow_checked_ok (W : Nat) (x : Q) (n : Nat)
    (h1 : upowPanics W x.num.natAbs n = false) (h2 : upowPanics W x.den n = false) :
    powChecked W x n = .ok (pow x n) := by
  simp [powChecked, h1, h2]

/-- (4a) the only panic is the documented allocation panic, exactly on the guard (numerator first) -/
theorem pow_checked_cases (W : Nat) (x : Q) (n : Nat) :
    (powChecked W x n = .ok (pow x n) ∧ upowPanics W x.num.natAbs n = false ∧ upowPanics W x.den n = false) ∨
    (powChecked W x n = .error .allocTooMuch ∧ (upowPanics W x.num.natAbs n = true ∨ upowPanics W x.den n = true)) := by
  unfold powChecked
  cases h1 : upowPanics W x.num.natAbs n <;> cases h2 : upowPanics W x.den n <;> simp

/-- (3b) **RBig::pow, complete**: for a reduced operand either the reduced pair of value exactly `x ^ n`, or the
    documented allocation panic — never another panic, never a wrong or unreduced value -/
theorem rbig_pow_checked_exact (W : Nat) (x : Q) (n : Nat) (hx : Reduced x) :
    (∃ r, powChecked W x n = .ok r ∧ Reduced r ∧ r.val = x.val ^ n) ∨ powChecked W x n = .error .allocTooMuch := by
  rcases pow_checked_cases W x n with h | h
  · exact .inl ⟨_, h.1, Dashu.Props.C04.rbig_pow_exact x n hx⟩
  · exact .inr h.1

/-- (2) **`Repr::pow` over the proved integer kernels**: `powChecked` is `IBig::pow` of the numerator, then `UBig::pow` of
    the denominator, both as mirrored word-level kernels with their allocation guards (C01: `ibigPowGuarded`,
    `ubigPowGuarded`), composed by value — the same panic in the same order, the same pair -/
theorem pow_checked_over_proved_kernels (W : Nat) (hW : 4 ≤ W) (x : Q) (n : Nat) :
    (powChecked W x n).toOption =
      (do let a ← ibigPowGuarded W (.ofInt W x.num) n
          let b ← ubigPowGuarded W (ofNat W x.den) n
          pure (⟨a.value W, b.value W⟩ : Q) : Except PanicKind Q).toOption ∧
    (powChecked W x n = .error .allocTooMuch ↔
      (ibigPowGuarded W (.ofInt W x.num) n = .error .allocTooMuch ∨
        ubigPowGuarded W (ofNat W x.den) n = .error .allocTooMuch)) := by
  have h1 : 1 ≤ W := by omega
  have wf := SRepr.ofInt_wf W h1 x.num
  have cn := ofNat_canon W h1 x.den
  obtain ⟨ip, io⟩ := i_pow_guarded_iff W hW (.ofInt W x.num) n wf
  obtain ⟨up, uo⟩ := u_pow_guarded_iff W hW (ofNat W x.den) n cn
  have hm : (SRepr.ofInt W x.num).mag.value W = x.num.natAbs := ofNat_value W h1 _
  rw [hm] at ip io
  rw [ofNat_value W h1] at up uo
  rw [← pow_guard_is_proved_class] at ip io up uo
  unfold powChecked
  cases hn : upowPanics W x.num.natAbs n
  · obtain ⟨ra, ea, va, _⟩ := io hn
    cases hd : upowPanics W x.den n
    · obtain ⟨rb, eb, vb, _⟩ := uo hd
      rw [ea, eb]
      simp only [Bool.false_eq_true, if_false, bind, Except.bind, pure, Except.pure]
      rw [va, vb, SRepr.ofInt_value W h1, pow_def]
      simp
    · rw [ea, up hd]
      simp [bind, Except.bind, Except.toOption]
  · rw [ip hn]
    simp [bind, Except.bind, Except.toOption]

/-- (4b) the `exp.checked_mul(shift)` branch: an even component with `n · tz ≥ 2^64` gives the allocation panic, and the
    exact power of that component has more than `2^64` bits -/
theorem pow_shift_overflow_panics (W : Nat) (x : Q) (n : Nat)
    (h : powShiftOverflows x.num.natAbs n = true ∨ powShiftOverflows x.den n = true) :
    powChecked W x n = .error .allocTooMuch ∧
      (2 ^ (2 ^ 64) ≤ x.num.natAbs ^ n ∨ 2 ^ (2 ^ 64) ≤ x.den ^ n) := by
  have key : ∀ v, powShiftOverflows v n = true → upowPanics W v n = true := by
    intro v hv
    rw [powShiftOverflows, Bool.and_eq_true] at hv
    rw [upowPanics, hv.1, hv.2, Bool.true_or, Bool.true_and, Bool.or_true]
  refine ⟨?_, h.imp (powShiftOverflows_huge _ _) (powShiftOverflows_huge _ _)⟩
  rw [powChecked]
  rcases h with h | h
  · rw [key _ h]; rfl
  · rw [key _ h]; cases upowPanics W x.num.natAbs n <;> rfl

/-- (5) **the allocation panic is never spurious** (64-bit words): whenever `pow` panics, the exact numerator or the exact
    denominator of `x ^ n` has at least `2^62` bits — the value the property asks for does not fit any memory.  Every
    branch of the guard: result buffer of `pow_word_base` (`exp / wexp + 1` words) / `pow_dword_base` (`2·exp` words),
    `exp.checked_mul(shift)`, `Buffer::allocate` of the final `<<` on an inline / heap power. -/
theorem pow_panics_only_beyond_memory (x : Q) (n : Nat) (k : PanicKind) (h : powChecked 64 x n = .error k) :
    k = .allocTooMuch ∧ (2 ^ (2 ^ 62) ≤ x.num.natAbs ^ n ∨ 2 ^ (2 ^ 62) ≤ x.den ^ n) := by
  rcases pow_checked_cases 64 x n with c | c
  · rw [c.1] at h; cases h
  · rw [c.1] at h
    cases h
    refine ⟨rfl, ?_⟩
    rcases c.2 with c | c
    · exact .inl (pow_panic_only_beyond_memory _ _ c)
    · exact .inr (pow_panic_only_beyond_memory _ _ c)

/-- **RBig::pow end to end (64-bit words)**: reduced and exactly `x ^ n`, or the documented allocation panic on a result
    with a component of at least `2^62` bits -/
theorem rbig_pow_exact_or_beyond_memory (x : Q) (n : Nat) (hx : Reduced x) :
    (∃ r, powChecked 64 x n = .ok r ∧ Reduced r ∧ r.val = x.val ^ n) ∨
    (powChecked 64 x n = .error .allocTooMuch ∧ (2 ^ (2 ^ 62) ≤ x.num.natAbs ^ n ∨ 2 ^ (2 ^ 62) ≤ x.den ^ n)) := by
  rcases rbig_pow_checked_exact 64 x n hx with h | h
  · exact .inl h
  · exact .inr ⟨h, (pow_panics_only_beyond_memory x n _ h).2⟩

/-- **Relaxed::pow, complete**: for an operand meeting the Relaxed invariant either a pair meeting it again whose value
    is exactly `x ^ n`, or the documented allocation panic -/
theorem relaxed_pow_checked_exact (W : Nat) (x : Q) (n : Nat) (hx : RelaxedInv x) :
    (∃ r, powChecked W x n = .ok r ∧ RelaxedInv r ∧ r.val = x.val ^ n) ∨ powChecked W x n = .error .allocTooMuch := by
  rcases pow_checked_cases W x n with h | h
  · exact .inl ⟨_, h.1, pow_spec .X x n hx⟩
  · exact .inr h.1

/-- **Relaxed = RBig for `pow`, panics included**: a Relaxed operand `x` and an RBig operand `y` denoting the same number —
    whenever both powers are returned they denote the same number, and `canonicalize` of the Relaxed result is the stored
    RBig pair.  (The two may differ in WHETHER they panic: the stored pairs differ by a common odd factor, e.g. `9/3` and
    `3/1`, so their result buffers reach `MAX_CAPACITY` at different exponents — by `pow_panics_only_beyond_memory` only
    where the exact result has at least `2^62` bits.) -/
theorem relaxed_pow_checked_equals_rbig (W : Nat) (x y r s : Q) (n : Nat) (hx : RelaxedInv x) (hy : Reduced y)
    (hv : x.val = y.val) (h1 : powChecked W x n = .ok r) (h2 : powChecked W y n = .ok s) :
    r.val = s.val ∧ Reduced s ∧ RelaxedInv r := by
  rcases pow_checked_cases W x n with c | c
  · rcases pow_checked_cases W y n with d | d
    · rw [c.1] at h1; rw [d.1] at h2
      cases h1; cases h2
      have a := pow_spec .X x n hx
      have b := Dashu.Props.C04.rbig_pow_exact y n hy
      exact ⟨by rw [a.2, b.2, hv], b.1, a.1⟩
    · rw [d.1] at h2; cases h2
  · rw [c.1] at h1; cases h1

-- the two representations of 3 differ in whether `pow(20·(2^58 − 1))` panics: 9^n asks `pow_word_base` for n/20 + 1 words, 3^n for n/40 + 1
example : upowPanics 64 9 (20 * (2 ^ 58 - 1)) = true ∧ upowPanics 64 3 (20 * (2 ^ 58 - 1)) = false ∧
    upowPanics 64 1 (20 * (2 ^ 58 - 1)) = false := by decide +kernel
example : RelaxedInv ⟨9, 3⟩ ∧ Reduced ⟨3, 1⟩ ∧ (⟨9, 3⟩ : Q).val = (⟨3, 1⟩ : Q).val := by decide +kernel

/-- the class is not empty: `(4/1).pow(2^63)` and `(1/4).pow(2^63)` panic; `(-1/1).pow(2^64 - 1)` does not -/
example : powShiftOverflows (4 : Int).natAbs (2 ^ 63) = true := powShiftOverflows_witness
example : powChecked 64 ⟨1, 4⟩ (2 ^ 63) = .error .allocTooMuch :=
  (pow_shift_overflow_panics 64 ⟨1, 4⟩ (2 ^ 63) (.inr powShiftOverflows_witness)).1


/-- a guarded step is the plain step, or the allocation panic of a `pow` step whose guard fires -/
theorem stepG_cases (W : Nat) (env : List Reg) (op : Op) :
    stepG W env op = step env op ∨
    (stepG W env op = .panic .allocTooMuch ∧
      ∃ i n a, op = .pow i n ∧ env[i]? = some a ∧ powChecked W a.q n = .error .allocTooMuch) := by
  cases op with
  | pow i n =>
    simp only [stepG, step]
    cases h : env[i]? with
    | none => left; rfl
    | some a =>
      rcases pow_checked_cases W a.q n with c | c
      · left; simp only [c.1, liftQ]
      · right; exact ⟨by simp only [c.1, liftQ], i, n, a, rfl, h, c.1⟩
  | _ => left; rfl

/-- **a guarded run is the plain run, or the plain run of a prefix followed by the allocation panic of a `pow` step** -/
theorem runG_cases (W : Nat) (ops : List Op) : ∀ env : List Reg,
    runG W ops env = run ops env ∨
    ∃ k i n a, k < ops.length ∧ ops[k]? = some (.pow i n) ∧
      run (ops.take k) env = ((runG W ops env).1, .done) ∧ (runG W ops env).2 = .panic .allocTooMuch ∧
      (runG W ops env).1[i]? = some a ∧ powChecked W a.q n = .error .allocTooMuch := by
  induction ops with
  | nil => exact fun env => .inl rfl
  | cons op ops ih =>
    intro env
    rcases stepG_cases W env op with h | ⟨h, i, n, a, hop, ha, hp⟩
    · rw [runG, run, h]
      cases hs : step env op with
      | ok r =>
        rcases ih (env ++ [r]) with e | ⟨k, i, n, a, hk, hget, hrun, rest⟩
        · exact .inl e
        · refine .inr ⟨k + 1, i, n, a, Nat.succ_lt_succ hk, hget, ?_, rest⟩
          rw [List.take_succ_cons, run, hs]
          exact hrun
      | panic k => exact .inl rfl
      | bad => exact .inl rfl
    · refine .inr ⟨0, i, n, a, Nat.zero_lt_succ _, congrArg some hop, ?_⟩
      rw [runG, h]
      exact ⟨rfl, rfl, ha, hp⟩

/-- **history theorem with the allocation panic of `pow`** ("every RBig ever produced", guarded runs): every register of
    every guarded run — also those produced before a panic — satisfies the invariant of its type -/
theorem history_invariant_guarded (W : Nat) (ops : List Op) (env : List Reg) (henv : ∀ r ∈ env, r.Inv) :
    ∀ r ∈ (runG W ops env).1, r.Inv := by
  rcases runG_cases W ops env with e | ⟨k, _, _, _, _, _, hrun, _⟩
  · rw [e]; exact Dashu.Props.C04.history_invariant ops env henv
  · have := Dashu.Props.C04.history_invariant (ops.take k) env henv
    rw [hrun] at this
    exact this

/-- **values of guarded runs**: a guarded run computes exactly the value-level interpretation of the executed steps and
    stops with `DivideByZero` exactly where the value-level program divides by zero — or with the allocation panic at a
    `pow` step, and then (64-bit words) a component of that step's exact result has at least `2^62` bits -/
theorem history_values_guarded (ops : List Op) (env : List Reg) (henv : ∀ r ∈ env, r.Inv) :
    match (runG 64 ops env).2 with
    | .done => Spec.run ops (env.map Reg.val) = ((runG 64 ops env).1.map Reg.val, true)
    | .panic k =>
      (k = .divideByZero ∧ Spec.run ops (env.map Reg.val) = ((runG 64 ops env).1.map Reg.val, false)) ∨
      (k = .allocTooMuch ∧ ∃ j i n a, ops[j]? = some (.pow i n) ∧ (runG 64 ops env).1[i]? = some a ∧
        Spec.run (ops.take j) (env.map Reg.val) = ((runG 64 ops env).1.map Reg.val, true) ∧
        (2 ^ (2 ^ 62) ≤ a.q.num.natAbs ^ n ∨ 2 ^ (2 ^ 62) ≤ a.q.den ^ n))
    | .bad => True := by
  rcases runG_cases 64 ops env with e | ⟨k, i, n, a, _, hget, hrun, hstop, ha, hp⟩
  · rw [e]
    have := Dashu.Props.C04.history_values ops env henv
    cases hs : (run ops env).2 with
    | done => rw [hs] at this; exact this
    | panic k => rw [hs] at this; exact .inl this
    | bad => trivial
  · rw [hstop]
    right
    refine ⟨rfl, k, i, n, a, hget, ha, ?_, (pow_panics_only_beyond_memory a.q n _ hp).2⟩
    have := Dashu.Props.C04.history_values (ops.take k) env henv
    rw [hrun] at this
    exact this

-- non-vacuity: below the guard (a non-trivial odd word base, a Relaxed pair with a common odd factor)
example : upowPanics 64 3 5 = false ∧ upowPanics 64 12 41 = false := by decide +kernel
example : powChecked 64 ⟨9, 3⟩ 2 = .ok ⟨81, 9⟩ ∧ powChecked 64 ⟨3, 1⟩ 2 = .ok ⟨9, 1⟩ ∧
    powChecked 64 ⟨-12, 5⟩ 3 = .ok ⟨-1728, 125⟩ := by decide +kernel
-- on the guard: the up-front result buffer of `pow_word_base` (3^(usize::MAX)), the final shift (2^(usize::MAX))
example : upowPanics 64 3 (2 ^ 64 - 1) = true ∧ upowPanics 64 2 (2 ^ 64 - 1) = true := by decide +kernel
-- a guarded program: ((-4/1)^2)⁻¹ = 1/16, then (1/16)^(2^62) panics (2^62 · 4 = 2^64); the registers produced before stay
example : (runG 64 [.pow 0 2, .un .inv 1, .pow 2 (2 ^ 62), .un .neg 0] [⟨.R, ⟨-4, 1⟩⟩]).1.map (·.q) = [⟨-4, 1⟩, ⟨16, 1⟩, ⟨1, 16⟩] ∧
    (match (runG 64 [.pow 0 2, .un .inv 1, .pow 2 (2 ^ 62), .un .neg 0] [⟨.R, ⟨-4, 1⟩⟩]).2 with
      | .panic k => k == .allocTooMuch | _ => false) = true := by decide +kernel


/-- `pow` below memory: no panic, the stored pair is `pow x n` -/
theorem pow_checked_ok_below_memory (x : Q) (n : Nat)
    (hn : x.num.natAbs ^ n < 2 ^ (2 ^ 62)) (hd : x.den ^ n < 2 ^ (2 ^ 62)) :
    powChecked 64 x n = .ok (pow x n) :=
  pow_checked_ok 64 x n (pow_guard_silent_below_memory _ _ hn) (pow_guard_silent_below_memory _ _ hd)

/-- a size criterion on the OPERAND: components of at most `a` bits and `a · n ≤ 2^62` — `pow` returns `pow x n` -/
theorem pow_checked_ok_of_bits (x : Q) (n a : Nat) (hnum : x.num.natAbs < 2 ^ a) (hden : x.den < 2 ^ a)
    (ha : a * n ≤ 2 ^ 62) : powChecked 64 x n = .ok (pow x n) :=
  pow_checked_ok_below_memory x n (pow_lt_of_bits _ _ _ hnum ha) (pow_lt_of_bits _ _ _ hden ha)

/-- **RBig::pow below memory, no panic alternative**: reduced and exactly `x ^ n` -/
theorem rbig_pow_exact_below_memory (x : Q) (n : Nat) (hx : Reduced x)
    (hn : x.num.natAbs ^ n < 2 ^ (2 ^ 62)) (hd : x.den ^ n < 2 ^ (2 ^ 62)) :
    ∃ r, powChecked 64 x n = .ok r ∧ Reduced r ∧ r.val = x.val ^ n :=
  ⟨_, pow_checked_ok_below_memory x n hn hd, Dashu.Props.C04.rbig_pow_exact x n hx⟩

/-- **guarded = unguarded histories below memory**: if every `pow` step of the program, applied to the register the PLAIN
    run (`run`, the op `prog`) has produced by then, has an exact result of fewer than `2^62` bits per component, the guarded run
    (`runG`, the op `qp.prog`, what the real code does) is the plain run — same registers, same stop -/
theorem runG_eq_run_below_memory (ops : List Op) (env : List Reg)
    (h : ∀ k i n a, ops[k]? = some (.pow i n) → (run (ops.take k) env).1[i]? = some a →
      a.q.num.natAbs ^ n < 2 ^ (2 ^ 62) ∧ a.q.den ^ n < 2 ^ (2 ^ 62)) :
    runG 64 ops env = run ops env := by
  rcases runG_cases 64 ops env with e | ⟨k, i, n, a, _, hget, hrun, _, ha, hp⟩
  · exact e
  · have hs := h k i n a hget (by rw [hrun]; exact ha)
    rw [pow_checked_ok_below_memory a.q n hs.1 hs.2] at hp
    cases hp

/-- **values of guarded histories below memory**: under the same hypothesis the guarded run (the real code) computes exactly the
    value-level interpretation of the program and only ever stops with `DivideByZero` — no allocation alternative -/
theorem history_values_guarded_below_memory (ops : List Op) (env : List Reg) (henv : ∀ r ∈ env, r.Inv)
    (h : ∀ k i n a, ops[k]? = some (.pow i n) → (run (ops.take k) env).1[i]? = some a →
      a.q.num.natAbs ^ n < 2 ^ (2 ^ 62) ∧ a.q.den ^ n < 2 ^ (2 ^ 62)) :
    match (runG 64 ops env).2 with
    | .done => Spec.run ops (env.map Reg.val) = ((runG 64 ops env).1.map Reg.val, true)
    | .panic k => k = .divideByZero ∧
        Spec.run ops (env.map Reg.val) = ((runG 64 ops env).1.map Reg.val, false)
    | .bad => True := by
  rw [runG_eq_run_below_memory ops env h]
  exact Dashu.Props.C04.history_values ops env henv

/-- **Relaxed = RBig for `pow` below memory, no "whenever both return" hypothesis**: a Relaxed operand `x` whose stored
    components have exact powers of fewer than `2^62` bits, and the RBig operand `y` denoting the same number — BOTH powers
    are returned, they denote the same number, and `canonicalize` of the Relaxed result is the stored RBig pair -/
theorem relaxed_pow_equals_rbig_below_memory (x y : Q) (n : Nat) (hx : RelaxedInv x) (hy : Reduced y)
    (hv : x.val = y.val) (hn : x.num.natAbs ^ n < 2 ^ (2 ^ 62)) (hd : x.den ^ n < 2 ^ (2 ^ 62)) :
    ∃ r s, powChecked 64 x n = .ok r ∧ powChecked 64 y n = .ok s ∧ r.val = s.val ∧ Reduced s ∧ RelaxedInv r ∧
      reduce r = .ok s := by
  obtain ⟨l1, l2⟩ := reduced_components_le hx.1 hy hv
  have e1 := pow_checked_ok_below_memory x n hn hd
  have e2 := pow_checked_ok_below_memory y n
    (Nat.lt_of_le_of_lt (Nat.pow_le_pow_left l1 n) hn) (Nat.lt_of_le_of_lt (Nat.pow_le_pow_left l2 n) hd)
  obtain ⟨a, b, c⟩ := relaxed_pow_checked_equals_rbig 64 x y _ _ n hx hy hv e1 e2
  exact ⟨_, _, e1, e2, a, b, c, reduce_eq_of_val_eq c.1 b a⟩

-- non-vacuity of (7)
example : powChecked 64 ⟨-12, 5⟩ 3 = .ok (pow ⟨-12, 5⟩ 3) :=
  pow_checked_ok_of_bits ⟨-12, 5⟩ 3 4 (by decide) (by decide) (by decide)

example : RelaxedInv ⟨9, 3⟩ ∧ Reduced ⟨3, 1⟩ ∧ (⟨9, 3⟩ : Q).val = (⟨3, 1⟩ : Q).val ∧
    (⟨9, 3⟩ : Q).num.natAbs ^ 20 < 2 ^ (2 ^ 62) ∧ (⟨9, 3⟩ : Q).den ^ 20 < 2 ^ (2 ^ 62) := by
  exact ⟨by decide, by decide, by decide +kernel, small_of_lt _ _ 64 (by decide) (by decide),
    small_of_lt _ _ 32 (by decide) (by decide)⟩

example : runG 64 [.pow 0 3, .un .inv 1, .pow 2 2] [⟨.R, ⟨-12, 5⟩⟩] = run [.pow 0 3, .un .inv 1, .pow 2 2] [⟨.R, ⟨-12, 5⟩⟩] := by
  apply runG_eq_run_below_memory
  intro k i n a hk ha
  match k with
  | 0 =>
    cases hk
    cases ha
    exact ⟨small_of_lt _ _ 11 (by decide) (by decide), small_of_lt _ _ 11 (by decide) (by decide)⟩
  | 1 => cases hk
  | 2 =>
    cases hk
    have e : (run (List.take 2 [Op.pow 0 3, .un .inv 1, .pow 2 2]) [⟨.R, ⟨-12, 5⟩⟩]).1 =
        [⟨.R, ⟨-12, 5⟩⟩, ⟨.R, ⟨-1728, 125⟩⟩, ⟨.R, ⟨-125, 1728⟩⟩] := by decide +kernel
    rw [e] at ha
    cases ha
    exact ⟨small_of_lt _ _ 30 (by decide) (by decide), small_of_lt _ _ 30 (by decide) (by decide)⟩
  | k + 3 => cases hk


/-- a guarded run that does not stop with the allocation panic of `pow` IS the plain run (every word size) -/
theorem runG_eq_run_of_no_alloc_panic (W : Nat) (ops : List Op) (env : List Reg)
    (h : ∀ k, (runG W ops env).2 = .panic k → k ≠ .allocTooMuch) : runG W ops env = run ops env := by
  rcases runG_cases W ops env with e | ⟨_, _, _, _, _, _, _, hstop, _, _⟩
  · exact e
  · exact absurd rfl (h _ hstop)

/-- **Relaxed = RBig over GUARDED histories** (`runG`, the op `qp.prog`, what the real code does; every word size): the same
    program on two register files denoting the same numbers, neither guarded run malformed, neither stopping with the allocation
    panic of `pow`: both stop at the same step in the same way (done, or `DivideByZero`) and every register ever produced denotes
    the same number in both -/
theorem history_relaxed_equals_rbig_guarded (W : Nat) (ops : List Op) (e1 e2 : List Reg) (h1 : ∀ r ∈ e1, r.Inv)
    (h2 : ∀ r ∈ e2, r.Inv) (hv : e1.map Reg.val = e2.map Reg.val)
    (nb1 : (runG W ops e1).2 ≠ .bad) (nb2 : (runG W ops e2).2 ≠ .bad)
    (na1 : ∀ k, (runG W ops e1).2 = .panic k → k ≠ .allocTooMuch)
    (na2 : ∀ k, (runG W ops e2).2 = .panic k → k ≠ .allocTooMuch) :
    (runG W ops e1).1.map Reg.val = (runG W ops e2).1.map Reg.val ∧
    (((runG W ops e1).2 = .done ∧ (runG W ops e2).2 = .done) ∨
     ((runG W ops e1).2 = .panic .divideByZero ∧ (runG W ops e2).2 = .panic .divideByZero)) := by
  rw [runG_eq_run_of_no_alloc_panic W ops e1 na1] at nb1 ⊢
  rw [runG_eq_run_of_no_alloc_panic W ops e2 na2] at nb2 ⊢
  exact Dashu.Props.C04.history_relaxed_equals_rbig ops e1 e2 h1 h2 hv nb1 nb2

/-- … and as stored pairs: `canonicalize` of register `i` of the first guarded run is the pair stored in register `i` of the
    second wherever that one is an `RBig` -/
theorem history_canonicalize_equals_rbig_guarded (W : Nat) (ops : List Op) (e1 e2 : List Reg) (h1 : ∀ r ∈ e1, r.Inv)
    (h2 : ∀ r ∈ e2, r.Inv) (hv : e1.map Reg.val = e2.map Reg.val)
    (nb1 : (runG W ops e1).2 ≠ .bad) (nb2 : (runG W ops e2).2 ≠ .bad)
    (na1 : ∀ k, (runG W ops e1).2 = .panic k → k ≠ .allocTooMuch)
    (na2 : ∀ k, (runG W ops e2).2 = .panic k → k ≠ .allocTooMuch)
    (i : Nat) (r1 r2 : Reg) (g1 : (runG W ops e1).1[i]? = some r1) (g2 : (runG W ops e2).1[i]? = some r2)
    (hk : r2.kind = .R) : reduce r1.q = .ok r2.q := by
  rw [runG_eq_run_of_no_alloc_panic W ops e1 na1] at nb1 g1
  rw [runG_eq_run_of_no_alloc_panic W ops e2 na2] at nb2 g2
  exact Dashu.Props.C04.history_canonicalize_equals_rbig ops e1 e2 h1 h2 hv nb1 nb2 i r1 r2 g1 g2 hk

/-- **Relaxed = RBig over guarded histories BELOW memory** (64-bit words): no hypothesis on how the guarded runs stop other than
    well-formedness — if every `pow` step of both plain runs has an exact result of fewer than `2^62` bits per component, the
    guarded runs never raise the allocation panic and agree in stop and in every value -/
theorem history_relaxed_equals_rbig_guarded_below_memory (ops : List Op) (e1 e2 : List Reg) (h1 : ∀ r ∈ e1, r.Inv)
    (h2 : ∀ r ∈ e2, r.Inv) (hv : e1.map Reg.val = e2.map Reg.val)
    (nb1 : (runG 64 ops e1).2 ≠ .bad) (nb2 : (runG 64 ops e2).2 ≠ .bad)
    (hb1 : ∀ k i n a, ops[k]? = some (.pow i n) → (run (ops.take k) e1).1[i]? = some a →
      a.q.num.natAbs ^ n < 2 ^ (2 ^ 62) ∧ a.q.den ^ n < 2 ^ (2 ^ 62))
    (hb2 : ∀ k i n a, ops[k]? = some (.pow i n) → (run (ops.take k) e2).1[i]? = some a →
      a.q.num.natAbs ^ n < 2 ^ (2 ^ 62) ∧ a.q.den ^ n < 2 ^ (2 ^ 62)) :
    (runG 64 ops e1).1.map Reg.val = (runG 64 ops e2).1.map Reg.val ∧
    (((runG 64 ops e1).2 = .done ∧ (runG 64 ops e2).2 = .done) ∨
     ((runG 64 ops e1).2 = .panic .divideByZero ∧ (runG 64 ops e2).2 = .panic .divideByZero)) := by
  rw [runG_eq_run_below_memory ops e1 hb1] at nb1 ⊢
  rw [runG_eq_run_below_memory ops e2 hb2] at nb2 ⊢
  exact Dashu.Props.C04.history_relaxed_equals_rbig ops e1 e2 h1 h2 hv nb1 nb2

-- non-vacuity: Relaxed 9/3 and RBig 3/1 through [pow 0 3, inv 1, sub 1 2 …]: every hypothesis of the guarded theorem holds
private def opsE : List Op := [.pow 0 3, .un .inv 1, .pow 2 2]
private def stopCode : Stop → Nat
  | .done => 0 | .panic .divideByZero => 1 | .panic .allocTooMuch => 2 | .panic _ => 3 | .bad => 4

example : (∀ r ∈ [(⟨.X, ⟨9, 3⟩⟩ : Reg)], r.Inv) ∧ (∀ r ∈ [(⟨.R, ⟨3, 1⟩⟩ : Reg)], r.Inv) ∧
    [(⟨.X, ⟨9, 3⟩⟩ : Reg)].map Reg.val = [(⟨.R, ⟨3, 1⟩⟩ : Reg)].map Reg.val ∧
    stopCode (runG 64 opsE [⟨.X, ⟨9, 3⟩⟩]).2 = 0 ∧ stopCode (runG 64 opsE [⟨.R, ⟨3, 1⟩⟩]).2 = 0 := by
  decide +kernel

private theorem stopCode_zero {s : Stop} (h : stopCode s = 0) :
    s ≠ .bad ∧ ∀ k, s = .panic k → k ≠ .allocTooMuch := by
  constructor
  · rintro rfl; cases h
  · rintro k rfl rfl; cases h

/-- … so the theorem applies: the guarded Relaxed run on 9/3 and the guarded RBig run on 3/1 agree in every value and both finish -/
example : (runG 64 opsE [⟨.X, ⟨9, 3⟩⟩]).1.map Reg.val = (runG 64 opsE [⟨.R, ⟨3, 1⟩⟩]).1.map Reg.val ∧
    (((runG 64 opsE [⟨.X, ⟨9, 3⟩⟩]).2 = .done ∧ (runG 64 opsE [⟨.R, ⟨3, 1⟩⟩]).2 = .done) ∨
     ((runG 64 opsE [⟨.X, ⟨9, 3⟩⟩]).2 = .panic .divideByZero ∧ (runG 64 opsE [⟨.R, ⟨3, 1⟩⟩]).2 = .panic .divideByZero)) := by
  have c1 : stopCode (runG 64 opsE [⟨.X, ⟨9, 3⟩⟩]).2 = 0 := by decide +kernel
  have c2 : stopCode (runG 64 opsE [⟨.R, ⟨3, 1⟩⟩]).2 = 0 := by decide +kernel
  refine history_relaxed_equals_rbig_guarded 64 opsE _ _ ?_ ?_ ?_ (stopCode_zero c1).1 (stopCode_zero c2).1
    (stopCode_zero c1).2 (stopCode_zero c2).2
  · decide +kernel
  · decide +kernel
  · decide +kernel

end Dashu.Props.C04Pow
